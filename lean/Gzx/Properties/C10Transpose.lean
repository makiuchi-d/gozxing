/-
  C10 — what the UPC/EAN mod-10 check does with the second classic keying error, the transposition of
  two adjacent digits.  The weights alternate 3,1 so swapping neighbours a,b moves the
  sum by 2·|a−b|: detected for every length and every position unless a and b differ by 5 (or are
  equal, when nothing changed) — and in the differ-by-5 case provably NOT detected (witness below).
-/
import Gzx.Proofs.CheckDigit
namespace Gzx.Properties.C10
open Gzx Gzx.CheckDigit

/-- Swapping two adjacent digits of the body changes the check digit — for every length and every
    position — unless the two digits are equal or differ by exactly 5. -/
theorem ean_detects_adjacent_transposition (pre post : List Nat) (a b : Nat) (ha : a < 10) (hb : b < 10)
    (hne : a ≠ b) (h5a : a + 5 ≠ b) (h5b : b + 5 ≠ a) :
    eanCheckDigit (pre ++ b :: a :: post) ≠ eanCheckDigit (pre ++ a :: b :: post) := by
  intro h
  have hm := goCheckOf_eq_mod h
  simp only [eanSum, eanSumAux_eq_dot] at hm
  have hl : (pre ++ b :: a :: post).length = (pre ++ a :: b :: post).length := by simp
  rw [hl] at hm
  -- neighbouring weights differ by 2: no unit modulo 10, but one modulo 5, where `a ≢ b` is what is assumed
  have hm5 : ∀ x y : Nat, x % 10 = y % 10 → x % 5 = y % 5 := by omega
  refine dot_detects_transposition (p := 5) _ pre post (altW 3 1 post.length) a b
    (if (post.length + 1) % 2 = 0 then 3 else 1) (if post.length % 2 = 0 then 3 else 1)
    (by simp [altW_length]) ?_ ?_ (by omega) (hm5 _ _ hm)
  · rw [altW_drop]
    have : (pre ++ a :: b :: post).length - pre.length = post.length + 2 := by simp
    rw [this]; rfl
  · by_cases hp : post.length % 2 = 0
    · have : ¬ (post.length + 1) % 2 = 0 := by omega
      simp [hp, this, Nat.Coprime]
    · have : (post.length + 1) % 2 = 0 := by omega
      simp [hp, this, Nat.Coprime]

/-- hence a valid number with two neighbouring body digits swapped is rejected -/
theorem ean_rejects_adjacent_transposition (pre post : List Nat) (a b c : Nat) (ha : a < 10) (hb : b < 10)
    (hne : a ≠ b) (h5a : a + 5 ≠ b) (h5b : b + 5 ≠ a)
    (hv : eanValid (pre ++ a :: b :: post ++ [c]) = true) :
    eanValid (pre ++ b :: a :: post ++ [c]) = false := by
  have e1 : pre ++ a :: b :: post ++ [c] = (pre ++ a :: b :: post) ++ [c] := by simp
  have e2 : pre ++ b :: a :: post ++ [c] = (pre ++ b :: a :: post) ++ [c] := by simp
  rw [e1, eanValid_concat] at hv
  rw [e2, eanValid_concat]
  have := ean_detects_adjacent_transposition pre post a b ha hb hne h5a h5b
  simp only [beq_iff_eq] at hv
  simp only [beq_eq_false_iff_ne, ne_eq]
  rw [← hv]; exact this

/-- the limit of the check: neighbours that differ by 5 can be swapped unnoticed (EAN-8 16000001 / 61000001) -/
theorem ean_transposition_differ_by_5_undetected :
    eanValid [1, 6, 0, 0, 0, 0, 0, 1] = true ∧ eanValid [6, 1, 0, 0, 0, 0, 0, 1] = true := by decide

example : eanValid [4, 0, 0, 6, 3, 8, 1, 3, 3, 3, 9, 3, 1] = true := by decide
example : eanValid [4, 0, 0, 6, 3, 8, 1, 3, 3, 3, 3, 9, 1] = false := by decide

end Gzx.Properties.C10
