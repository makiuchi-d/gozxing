/-
  C02 — Data Matrix, `dm_roundtrip` with ALL six encodation modes under the REAL look-ahead.
  Property theorems only; proofs in Gzx/Proofs/DMEdifactEOD, DMFullAux, DMFullRun, DMFullDispatch, DMFullRoundTrip.

  Hypotheses, all of them necessary or about the trusted link to float64:
    * `LaFloatLike la` — the look-ahead is exact arithmetic up to float rounding (C02 `laxr` correspondence);
    * `tableOK syms`   — capacities ascend along the symbol table and two different capacities differ by at least two
                         codewords (necessary: `dm_roundtrip_edifact_needs_symbol_gap`; a per-run obligation for the
                         library's table: `Obligations.C02Full.gen_symbols_tableOK`);
    * the message is a list of bytes.
  No hypothesis excludes EDIFACT (compare `LaNoEdifactOn` in Properties/C02.lean).
-/
import Gzx.Proofs.DMFullRoundTrip
import Gzx.Properties.C02Term
namespace Gzx.Properties.C02
open Gzx Gzx.DMHighLevel

/-- `dm_roundtrip` in full: every encoding `encodeHL` returns — ASCII, C40, Text, X12, EDIFACT and Base 256 in any
    combination, macro 05/06 header, padding, every shape / min / max hint — decodes to exactly the message. -/
theorem dm_roundtrip_real_lookahead (syms : List SymbolInfo) (htab : tableOK syms = true) (la : LookAhead)
    (hla : LaFloatLike la) (msg : List Nat) (cfg : Cfg) (cw : List Nat) (hb : ∀ x ∈ msg, x < 256)
    (h : encodeHL syms la msg cfg = .ok cw) : decodeText refTables cw = .ok msg :=
  roundtrip_full syms htab la hla msg cfg cw hb h

/-- termination and round trip together: `EncodeHighLevel` refuses with a WriterException or returns codewords (all
    bytes) that decode to exactly the message -/
theorem dm_encode_total_and_correct (syms : List SymbolInfo) (htab : tableOK syms = true) (la : LookAhead)
    (hla : LaFloatLike la) (msg : List Nat) (cfg : Cfg) (hb : ∀ x ∈ msg, x < 256) :
    encodeHL syms la msg cfg = .error .writer ∨
    ∃ cw, encodeHL syms la msg cfg = .ok cw ∧ (∀ x ∈ cw, x < 256) ∧ decodeText refTables cw = .ok msg := by
  rcases encodeHL_total syms la hla msg cfg hb with ⟨cw, h⟩ | h
  · exact Or.inr ⟨cw, h, encodeHL_bytes_all syms la msg cfg cw hb h, roundtrip_full syms htab la hla msg cfg cw hb h⟩
  · exact Or.inl h

/-- the whole symbol, WITHOUT oracle hypotheses: text → `encodeHL` → reference symbol of C08
    (ECC, interleaving, Annex-F placement, finder / clock framing; any of the 30 sizes whose capacity equals the
    number of codewords) → `Decoder.Decode` model (version by dimensions, data-region extraction, codeword reading,
    de-interleaving, Reed-Solomon decoding of every block, `decodeText`) returns exactly the text. -/
theorem dm_symbol_roundtrip (syms : List SymbolInfo) (htab : tableOK syms = true) (la : LookAhead)
    (hla : LaFloatLike la) (msg : List Nat) (cfg : Cfg) (cw : List Nat) (hb : ∀ x ∈ msg, x < 256)
    (h : encodeHL syms la msg cfg = .ok cw)
    (p : DMRef.Sym × Nat) (hp : p ∈ DMRef.table7.zipIdx) (hn : cw.length = p.1.nData) :
    DMDec.decodeMatrix refTables ⟨p.1.cols, p.1.rows, (DMRef.symbolBits p.1 cw).flatten.toArray⟩ = .ok msg := by
  have hcwb := encodeHL_bytes_all syms la msg cfg cw hb h
  have hrt := roundtrip_full syms htab la hla msg cfg cw hb h
  unfold DMDec.decodeMatrix
  have := DMProofs.decodeMatrixBytes_tolerates p hp cw hn hcwb (DMRef.codewords p.1 cw)
    (DMProofs.codewords_length p.1 cw hn) (DMProofs.codewords_bytes p.1 cw hcwb)
    (fun b _ => by rw [DMProofs.hamming_self]; omega)
  unfold DMRef.symbolBits
  rw [this]
  exact hrt

/-- the table of the examples satisfies the table condition … -/
example : tableOK termSyms = true := by decide
/-- … and so does the table of the other C02 examples; for the library's own table this is the per-run obligation
    `Obligations.C02Full.gen_symbols_tableOK` -/
example : tableOK exSyms = true := by decide

/-- non-vacuity: messages that DO go through EDIFACT under the exact look-ahead.  "@@@@@@@@12": two quadruples, the
    look-ahead leaves EDIFACT, the one-codeword unlatch 124 is written in mid-stream (the `mid` state: two more
    codewords follow — the digit pair and a pad codeword) -/
example : encodeHL termSyms laExact [64, 64, 64, 64, 64, 64, 64, 64, 49, 50] {} =
    .ok [240, 0, 0, 0, 0, 0, 0, 124, 142, 129, 251, 147] := by decide +kernel
example : decodeText refTables [240, 0, 0, 0, 0, 0, 0, 124, 142, 129, 251, 147] =
    .ok [64, 64, 64, 64, 64, 64, 64, 64, 49, 50] := by decide +kernel
/-- "@@@@@@@@@@": two quadruples, then two characters + unlatch in three codewords at the end of the message -/
example : encodeHL termSyms laExact [64, 64, 64, 64, 64, 64, 64, 64, 64, 64] {} =
    .ok [240, 0, 0, 0, 0, 0, 0, 0, 7, 192, 129, 147] := by decide +kernel
example : decodeText refTables [240, 0, 0, 0, 0, 0, 0, 0, 7, 192, 129, 147] =
    .ok [64, 64, 64, 64, 64, 64, 64, 64, 64, 64] := by decide +kernel
/-- the table condition is needed (the counterexample table of `dm_roundtrip_edifact_needs_symbol_gap` violates it) -/
example : tableOK [⟨false, 5, 7, 10, 10, 1⟩, ⟨false, 6, 7, 10, 10, 1⟩, ⟨false, 1558, 620, 22, 22, 36⟩] = false := by
  decide

end Gzx.Properties.C02
