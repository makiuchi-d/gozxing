/-
  C13 — Data Matrix: the symbol the high-level ENCODER settles on is the first fit.
  C13's theorems (`dm_lookup_first_fit`, `dm_order_is_capacity_order`, `dm_lookup_idempotent`, `dm_writer_symbol`) are
  about `SymbolInfo_Lookup` / `UpdateSymbolInfoByLength` in isolation (model `QRVersionChoice.lookupLoop`); the premise of
  `dm_writer_symbol` — "EncodeHighLevel settles on SymbolInfo_Lookup(k, …) and pads to that symbol's capacity" — is
  not among them.  Here it is a theorem about the whole run of the encoder model `DMHighLevel.encodeHL` (C02), for EVERY
  look-ahead oracle, every table and every hint configuration:
    * the two models of the lookup agree (`hl_lookup_is_lookupLoop`, `hl_update_is_updateSymbolInfoByLength`);
    * `dm_encoder_symbol_first_fit`: the stream `encodeHL` returns has exactly the capacity of a symbol `s` that
      `SymbolInfo_Lookup` returns for some codeword count `n ≤ |stream|` under the same hints, and the writer's second
      lookup on the padded length returns `s` again (so its ignored error never hides a nil symbol);
    * `dm_encoder_symbol_minimal`: in a table sorted by capacity `s` is a symbol of smallest capacity among all
      admissible symbols that hold those `n` codewords.
  Proofs: Gzx/Proofs/DMSymFF.lean (invariant `SymFF` through all six mode encoders and the dispatch loop).
-/
import Gzx.Proofs.DMSymFF
import Gzx.Properties.C13
namespace Gzx.Properties.C13
open Gzx Gzx.QRVersionChoice

/-- a row of C13's table as the high-level encoder model sees it -/
def toHL (s : SymbolInfo) : DMHighLevel.SymbolInfo :=
  ⟨s.rectangular, s.dataCapacity, s.errorCodewords, s.matrixWidth, s.matrixHeight, s.dataRegions⟩

def shapeNat : Shape → Nat
  | .none => 0
  | .square => 1
  | .rectangle => 2

def cfgOf (shape : Shape) (mn mx : Option (Nat × Nat)) : DMHighLevel.Cfg := ⟨shapeNat shape, mn, mx⟩

theorem hRegions_eq (s : SymbolInfo) : DMHighLevel.hRegions s.dataRegions = horizontalDataRegions s := by
  unfold DMHighLevel.hRegions horizontalDataRegions
  repeat' split
  all_goals first | rfl | omega | (simp_all; done)

theorem vRegions_eq (s : SymbolInfo) : DMHighLevel.vRegions s.dataRegions = verticalDataRegions s := by
  unfold DMHighLevel.vRegions verticalDataRegions
  repeat' split
  all_goals first | rfl | omega | (simp_all; done)

theorem toHL_width (s : SymbolInfo) : (toHL s).width = symbolWidth s := by
  unfold DMHighLevel.SymbolInfo.width symbolWidth toHL
  simp only [hRegions_eq]

theorem toHL_height (s : SymbolInfo) : (toHL s).height = symbolHeight s := by
  unfold DMHighLevel.SymbolInfo.height symbolHeight toHL
  simp only [vRegions_eq]

theorem toHL_admissible (shape : Shape) (mn mx : Option (Nat × Nat)) (s : SymbolInfo) :
    DMHighLevel.admissible (cfgOf shape mn mx) (toHL s) = admissible shape mn mx s := by
  unfold DMHighLevel.admissible admissible belowMin aboveMax cfgOf
  simp only [toHL_width, toHL_height]
  have hr : (toHL s).rect = s.rectangular := rfl
  rw [hr]
  cases shape <;> cases mn <;> cases mx <;> simp [shapeNat]

theorem hl_lookup_is_lookupLoop (T : List SymbolInfo) (n : Nat) (shape : Shape) (mn mx : Option (Nat × Nat)) :
    DMHighLevel.lookup (T.map toHL) (cfgOf shape mn mx) n = (lookupLoop n shape mn mx T).map toHL := by
  rw [dm_lookup_first_fit]
  unfold DMHighLevel.lookup
  rw [List.find?_map]
  have : ((fun s => DMHighLevel.admissible (cfgOf shape mn mx) s && decide (n ≤ s.cap)) ∘ toHL) =
      fun s => admissible shape mn mx s && decide (n ≤ s.dataCapacity) := by
    funext s
    simp only [Function.comp, toHL_admissible]
    rfl
  rw [this]

theorem hl_update_is_updateSymbolInfoByLength (T : List SymbolInfo) (cur : Option SymbolInfo) (len : Nat)
    (shape : Shape) (mn mx : Option (Nat × Nat)) (msg : List Nat) :
    (DMHighLevel.Ctx.update (T.map toHL) { msg := msg, cfg := cfgOf shape mn mx, sym := cur.map toHL } len).map (·.sym) =
      (updateSymbolInfoByLength T cur len shape mn mx).map (·.map toHL) := by
  unfold DMHighLevel.Ctx.update updateSymbolInfoByLength symbolLookup
  simp only
  rw [hl_lookup_is_lookupLoop]
  cases cur with
  | none =>
    simp only [Option.map_none]
    cases lookupLoop len shape mn mx T <;> rfl
  | some s =>
    simp only [Option.map_some]
    have : (toHL s).cap = s.dataCapacity := rfl
    rw [this]
    split
    · cases lookupLoop len shape mn mx T <;> rfl
    · rfl

/-- Whatever the look-ahead does, the padded stream of `EncodeHighLevel` has exactly the
    capacity of a first-fit symbol `s` (C13's `SymbolInfo_Lookup` loop for some codeword count `n`, same shape and
    size hints), and the writer's second lookup on `len(encoded)` returns `s` again -/
theorem dm_encoder_symbol_first_fit (T : List SymbolInfo) (la : DMHighLevel.LookAhead) (msg : List Nat)
    (shape : Shape) (mn mx : Option (Nat × Nat)) (cw : List Nat)
    (h : DMHighLevel.encodeHL (T.map toHL) la msg (cfgOf shape mn mx) = .ok cw) :
    ∃ s n, lookupLoop n shape mn mx T = some s ∧ n ≤ cw.length ∧ cw.length = s.dataCapacity ∧
      symbolLookup T cw.length shape mn mx true = .ok (some s) := by
  obtain ⟨s', n, hn, hlen, _, _, _⟩ := DMHighLevel.encodeHL_symbol (T.map toHL) la msg (cfgOf shape mn mx) cw h
  rw [hl_lookup_is_lookupLoop] at hn
  cases hl : lookupLoop n shape mn mx T with
  | none => rw [hl] at hn; cases hn
  | some s =>
    rw [hl] at hn
    simp only [Option.map_some, Option.some.injEq] at hn
    have hcap : cw.length = s.dataCapacity := by rw [hlen, ← hn]; rfl
    have hidem := dm_lookup_idempotent T n shape mn mx s hl
    have hle : n ≤ s.dataCapacity := by
      rw [dm_lookup_first_fit] at hl
      have := List.find?_some hl
      simp only [Bool.and_eq_true, decide_eq_true_eq] at this
      exact this.2
    refine ⟨s, n, hl, by omega, hcap, ?_⟩
    unfold symbolLookup
    rw [hcap, hidem]

/-- in a table sorted by capacity the encoder's symbol is one of smallest capacity among all admissible symbols that
    hold the `n` codewords it was looked up for -/
theorem dm_encoder_symbol_minimal (T : List SymbolInfo) (hs : sortedB T = true) (la : DMHighLevel.LookAhead)
    (msg : List Nat) (shape : Shape) (mn mx : Option (Nat × Nat)) (cw : List Nat)
    (h : DMHighLevel.encodeHL (T.map toHL) la msg (cfgOf shape mn mx) = .ok cw) :
    ∃ s n, s ∈ T ∧ admissible shape mn mx s = true ∧ n ≤ cw.length ∧ cw.length = s.dataCapacity ∧
      ∀ r ∈ T, admissible shape mn mx r = true → n ≤ r.dataCapacity → cw.length ≤ r.dataCapacity := by
  obtain ⟨s, n, hl, hn, hcap, _⟩ := dm_encoder_symbol_first_fit T la msg shape mn mx cw h
  obtain ⟨h1, h2, _, h4⟩ := dm_order_is_capacity_order T hs n shape mn mx s hl
  exact ⟨s, n, h1, h2, hn, hcap, fun r hr ha hc => by rw [hcap]; exact h4 r hr ha hc⟩

/-- non-vacuity: a three-row table, "ABCDEFGH" under the all-ASCII oracle needs 8 codewords: the 8-codeword row -/
example : DMHighLevel.encodeHL ([⟨false, 5, 7, 10, 10, 1, 5, 7⟩, ⟨false, 8, 10, 12, 12, 1, 8, 10⟩,
      ⟨false, 12, 12, 14, 14, 1, 12, 12⟩].map toHL) (fun _ _ _ => 0) [65, 66, 67, 68, 69, 70, 71, 72] (cfgOf .none none none)
    = .ok [66, 67, 68, 69, 70, 71, 72, 73] := by decide
example : lookupLoop 8 .none none none [⟨false, 5, 7, 10, 10, 1, 5, 7⟩, ⟨false, 8, 10, 12, 12, 1, 8, 10⟩,
      ⟨false, 12, 12, 14, 14, 1, 12, 12⟩] = some ⟨false, 8, 10, 12, 12, 1, 8, 10⟩ := by decide

end Gzx.Properties.C13
