/-
  C18 — read-only sharing of init-time tables: reads of shared locations commute.

  `Independent` does not restrict READS of shared locations (any goroutine may read any package-level table at any
  time), and the invariant of Proofs/Interference.lean says more than the theorems of Properties/C18.lean extract from
  it: a reachable state is a FUNCTION OF THE PROGRAM COUNTERS.  Consequences proved here:
    * `state_determined_by_pcs`      two reachable states with the same program counters are equal;
    * `schedules_with_equal_counts`  two schedules that give every goroutine the same number of turns end in the same
                                     state — complete or not (Properties/C18 states this for complete schedules only);
    * `adjacent_steps_commute`       swapping two neighbouring turns anywhere in a schedule changes nothing
                                     (the commutation that partial-order reduction / the race detector's
                                     happens-before reasoning rely on);
    * `shared_reads_commute`         from ANY state, without any premise: two goroutines whose next steps are reads
                                     (of the same shared location or not) commute.
-/
import Gzx.Properties.C18
namespace Gzx.Properties.C18Commute
open Gzx Gzx.Interference

theorem state_determined_by_pcs (prog : Gid → List Step) (Shared : Loc → Prop) (owner : Loc → Gid)
    (P0 : Gid → PStore) (G0 : GStore) (st1 st2 : State)
    (h1 : Inv prog Shared owner P0 G0 st1) (h2 : Inv prog Shared owner P0 G0 st2) (hpc : st1.pc = st2.pc) :
    st1 = st2 := by
  apply state_ext _ _ _ _ hpc
  · funext g
    rw [h1.priv g, h2.priv g, hpc]
  · funext loc
    by_cases hs : Shared loc
    · rw [h1.shared loc hs, h2.shared loc hs]
    · rw [h1.owned loc hs, h2.owned loc hs, hpc]

theorem schedules_with_equal_counts (prog : Gid → List Step) (Shared : Loc → Prop) (owner : Loc → Gid)
    (P0 : Gid → PStore) (G0 : GStore) (hI : Independent prog Shared owner) (s1 s2 : List Gid)
    (h : ∀ g, countG g s1 = countG g s2) :
    run prog s1 (init P0 G0) = run prog s2 (init P0 G0) := by
  have i1 := inv_run prog Shared owner P0 G0 hI s1 _ (inv_init prog Shared owner P0 G0)
  have i2 := inv_run prog Shared owner P0 G0 hI s2 _ (inv_init prog Shared owner P0 G0)
  apply state_determined_by_pcs prog Shared owner P0 G0 _ _ i1 i2
  funext g
  rw [pc_run prog s1 (init P0 G0) (fun _ => Nat.zero_le _) g, pc_run prog s2 (init P0 G0) (fun _ => Nat.zero_le _) g, h g]

theorem adjacent_steps_commute (prog : Gid → List Step) (Shared : Loc → Prop) (owner : Loc → Gid)
    (P0 : Gid → PStore) (G0 : GStore) (hI : Independent prog Shared owner) (a b : List Gid) (g1 g2 : Gid) :
    run prog (a ++ g1 :: g2 :: b) (init P0 G0) = run prog (a ++ g2 :: g1 :: b) (init P0 G0) := by
  apply schedules_with_equal_counts prog Shared owner P0 G0 hI
  intro g
  simp only [countG, List.filter_append, List.filter_cons, List.length_append]
  split <;> split <;> simp

theorem shared_reads_commute (prog : Gid → List Step) (st : State) (g1 g2 : Gid) (hne : g1 ≠ g2)
    (r1 l1 r2 l2 : Nat) (h1 : (prog g1)[st.pc g1]? = some (.read r1 l1))
    (h2 : (prog g2)[st.pc g2]? = some (.read r2 l2)) :
    stepOf prog (stepOf prog st g1) g2 = stepOf prog (stepOf prog st g2) g1 := by
  have hne' : g2 ≠ g1 := fun e => hne e.symm
  have e1 : stepOf prog st g1 = ⟨upd st.P g1 (upd (st.P g1) r1 (st.G l1)), st.G, upd st.pc g1 (st.pc g1 + 1)⟩ := by
    simp [stepOf, h1, exec]
  have e2 : stepOf prog st g2 = ⟨upd st.P g2 (upd (st.P g2) r2 (st.G l2)), st.G, upd st.pc g2 (st.pc g2 + 1)⟩ := by
    simp [stepOf, h2, exec]
  rw [e1, e2]
  simp only [stepOf, upd_other _ _ _ _ hne, upd_other _ _ _ _ hne', h1, h2, exec]
  apply state_ext
  · exact upd_comm _ _ _ _ _ hne
  · rfl
  · exact upd_comm _ _ _ _ _ hne

/-- non-vacuity: the demo system of Properties/C18 in two interleavings that are not complete -/
example : run C18.demoProg [0, 1, 1] (init (fun _ _ => 0) C18.demoG0) = run C18.demoProg [1, 0, 1] (init (fun _ _ => 0) C18.demoG0) :=
  schedules_with_equal_counts C18.demoProg C18.demoShared C18.demoOwner _ _ C18.demo_independent _ _ (by
    intro g
    simp only [countG, List.filter_cons, List.filter_nil]
    by_cases h0 : g = 0
    · subst h0; simp
    · by_cases h1 : g = 1
      · subst h1; simp
      · have a : (0 == g) = false := by simpa using fun e => h0 e.symm
        have b : (1 == g) = false := by simpa using fun e => h1 e.symm
        simp [a, b])

end Gzx.Properties.C18Commute
