/-
  C10 (wp oned128) — "Readers never return a symbol whose check characters do not verify … every single-character
  substitution in a Code 128 symbol is reported as an error rather than as a different text", on the Code 128 ROW DECODER
  as coded (Gzx/Model/OneDRow128.lean), exact interpretation, at every scale and quiet zone.
-/
import Gzx.Proofs.Row128Check
import Gzx.Properties.C10
namespace Gzx.Properties.C10Row128
open Gzx Gzx.OneD Gzx.Row128 Gzx.CheckDigit

/-- A drawn Code 128 symbol `start, data…, chk, STOP` (data and check values below 103, i.e. no start code / STOP inside)
    whose check character is NOT the mod-103 check of start and data is refused with ChecksumException by the row decoder
    — at every scale `s ≥ 1`, every quiet zone `lq, rq ≥ 0`, with and without ASSUME_GS1. -/
theorem code128_row_wrong_checksum_rejected (P : List (List Nat)) (hWF : wfRow128B P = true) (sc : Nat)
    (hsc : sc = 103 ∨ sc = 104 ∨ sc = 105) (data : List Nat) (chk : Nat) (hd : ∀ c ∈ data, c < 103) (hchk : chk < 103)
    (hbad : chk ≠ c128Check sc data) (lq s rq : Nat) (hs : 1 ≤ s) (gs1 : Bool) :
    Row128.decodeRow exactDom P (paddedRow lq s rq (appendPattern (fullRuns P (sc :: (data ++ [chk]) ++ [106])) true)) gs1
      = .error .checksum := by
  have hb : ∀ c ∈ data ++ [chk], c < 106 := by
    intro c hc
    simp only [List.mem_append, List.mem_singleton] at hc
    rcases hc with hc | rfl
    · have := hd c hc; omega
    · omega
  rw [decodeRow_symbol P hWF sc hsc (data ++ [chk]) hb lq s rq (by omega) gs1]
  obtain ⟨cs, hcs, hcs3⟩ := codeSetOf_start sc hsc
  have hCS : CS (st0 cs sc) := CS_st0 hcs3 sc
  obtain ⟨s', hrun, h1, h2, h3⟩ := symRun_data gs1 (data ++ [chk]) (st0 cs sc) (by
    intro c hc
    simp only [List.mem_append, List.mem_singleton] at hc
    rcases hc with hc | rfl
    · exact hd c hc
    · exact hchk) hCS
  have hfin : finish s' = .error .checksum := by
    unfold finish
    have ht : s'.total = sc + wsumFrom 1 data + (data.length + 1) * chk := by
      rw [h1]
      simp only [st0, Nat.zero_add]
      rw [wsumFrom_append]
      have : 1 + data.length = data.length + 1 := by omega
      rw [this]; omega
    have hm : s'.mult = data.length + 1 := by rw [h2]; simp [st0]
    have hl : s'.lastCode = chk := by rw [h3]; simp
    rw [ht, hm, hl, Nat.add_sub_cancel]
    have : (sc + wsumFrom 1 data) % 103 ≠ chk := fun e => hbad (by unfold c128Check; exact e.symm)
    rw [if_pos this]
  unfold readSyms
  rw [hcs]
  simp only [hrun, hfin]

/-- in particular a single substituted data character (weight below 103) is never read as text: the check character
    drawn for the original data no longer verifies (C10 `code128_detects_single_substitution`) -/
theorem code128_row_single_substitution_rejected (P : List (List Nat)) (hWF : wfRow128B P = true) (sc : Nat)
    (hsc : sc = 103 ∨ sc = 104 ∨ sc = 105) (data : List Nat) (i v' : Nat) (hd : ∀ c ∈ data, c < 103)
    (hi : i < data.length) (hw : i + 1 < 103) (hv' : v' < 103) (hne : v' ≠ data[i])
    (lq s rq : Nat) (hs : 1 ≤ s) (gs1 : Bool) :
    Row128.decodeRow exactDom P
        (paddedRow lq s rq (appendPattern (fullRuns P (sc :: (data.set i v' ++ [c128Check sc data]) ++ [106])) true)) gs1
      = .error .checksum := by
  apply code128_row_wrong_checksum_rejected P hWF sc hsc (data.set i v') (c128Check sc data) _ _ _ lq s rq hs gs1
  · intro c hc
    rcases List.mem_or_eq_of_mem_set hc with h | rfl
    · exact hd c h
    · exact hv'
  · unfold c128Check; exact Nat.lt_of_lt_of_le (Nat.mod_lt _ (by omega)) (by omega)
  · exact (Properties.C10.code128_detects_single_substitution sc data i v' hi hw (hd _ (List.getElem_mem hi)) hv' hne).symm

/-! ### non-vacuity -/
/-- start B, "AB" (33, 34): the right check character is 102; drawn with 101 instead it is refused -/
example : c128Check 104 [33, 34] = 102 := by decide
example : Row128.decodeRow exactDom refTables.code128
    (paddedRow 3 2 0 (appendPattern (fullRuns refTables.code128 [104, 33, 34, 101, 106]) true)) false = .error .checksum := by
  decide +kernel
example : (Row128.decodeRow exactDom refTables.code128
    (paddedRow 3 2 0 (appendPattern (fullRuns refTables.code128 [104, 33, 34, 102, 106]) true)) false).map (·.text)
    = .ok [65, 66] := by decide +kernel
/-- OBSERVATION on the model (mirrors the code, verified on the real reader): with ASSUME_GS1 a symbol whose check
    character happens to be 102 (= FNC1) is returned with a trailing GS (29) — the reader processes the check character as
    data before it knows it is the check character, and only strips it when it was "printable".  "AB" reads as "AB\x1d".
    The property quantifies over readers without hints, so this is recorded, not reported. -/
example : (Row128.decodeRow exactDom refTables.code128
    (paddedRow 3 2 0 (appendPattern (fullRuns refTables.code128 [104, 33, 34, 102, 106]) true)) true).map (·.text)
    = .ok [65, 66, 29] := by decide +kernel

end Gzx.Properties.C10Row128
