/-
  C06 — decoding is total, part "the readers' glue": hint type assertions and the
  error selection of `AztecReader.Decode`.  Models: Gzx/Model/ReaderGlue.lean, tied to /repo by the
  `c06rest glue*` correspondence commands (harness/zz_detrest_glue.go).
-/
import Gzx.Model.ReaderGlue
namespace Gzx.Properties.C06Glue
open Gzx Gzx.Glue

/-- the repaired UPC/EAN hint prologue is total for ANY hint value: absent, a callback, a typed-nil
    callback or a value of any other dynamic type (ignored) -/
theorem upcean_callback_total (hint : Option HintVal) : ∃ b, upceanCallback hint = .ok b := by
  cases hint with
  | none => exact ⟨false, rfl⟩
  | some v => exact ⟨_, rfl⟩

/-- the callback is invoked exactly when a non-nil `ResultPointCallback` was passed -/
theorem upcean_callback_invoked (hint : Option HintVal) :
    upceanCallback hint = .ok true ↔ hint = some (.callback false) := by
  cases hint with
  | none => simp [upceanCallback]
  | some v =>
    cases v with
    | callback isNil => cases isNil <;> simp [upceanCallback, assertCallbackOk]
    | other t => simp [upceanCallback, assertCallbackOk]

/-- on well-typed hints repair and original agree -/
theorem upcean_callback_agrees (isNil : Bool) :
    upceanCallback (some (.callback isNil)) = upceanCallbackOrig (some (.callback isNil)) ∧
    upceanCallback none = upceanCallbackOrig none := by
  cases isNil <;> exact ⟨rfl, rfl⟩

/-- the code as found: a hint of any other dynamic type is a panic (repaired by the `fix:` commit a853f90; the witness
    `NEED_RESULT_POINT_CALLBACK = true` is replayed on the real code by the hint-typing suite) -/
theorem upcean_callback_orig_panics (t : String) : ∃ why, upceanCallbackOrig (some (.other t)) = .error (.panic why) :=
  ⟨_, rfl⟩

example : ¬ ∃ b, upceanCallbackOrig (some (.other "bool")) = .ok b := by
  intro ⟨b, h⟩; cases h

/-- **`AztecReader.Decode` reports only the documented kinds**: for EVERY detector and decoder behaviour the
    outcome is a result, NotFoundException or FormatException — the `WrapReaderException` fall-back and the
    `decoderResult` dereference after a failed second attempt are unreachable -/
theorem aztec_read_kinds {D R : Type} (detect : Bool → Option D) (decode : D → Option R) :
    aztecRead detect decode ≠ .reader := by
  cases h0 : detect false with
  | none =>
    cases h1 : detect true with
    | none => simp [aztecRead, h0, h1]
    | some d1 => cases h2 : decode d1 <;> simp [aztecRead, h0, h1, h2]
  | some d0 =>
    cases h3 : decode d0 with
    | some r => simp [aztecRead, h0, h3]
    | none =>
      cases h1 : detect true with
      | none => simp [aztecRead, h0, h1, h3]
      | some d1 => cases h2 : decode d1 <;> simp [aztecRead, h0, h1, h2, h3]

/-- a result is what the decoder made of the first successful attempt -/
theorem aztec_read_result {D R : Type} (detect : Bool → Option D) (decode : D → Option R) (r : R)
    (h : aztecRead detect decode = .ok r) :
    (∃ d, detect false = some d ∧ decode d = some r) ∨ (∃ d, detect true = some d ∧ decode d = some r) := by
  cases h0 : detect false with
  | none =>
    cases h1 : detect true with
    | none => simp [aztecRead, h0, h1] at h
    | some d1 =>
      cases h2 : decode d1 with
      | none => simp [aztecRead, h0, h1, h2] at h
      | some r' =>
        simp [aztecRead, h0, h1, h2] at h
        exact Or.inr ⟨d1, rfl, by rw [h2, h]⟩
  | some d0 =>
    cases h3 : decode d0 with
    | some r' =>
      simp [aztecRead, h0, h3] at h
      exact Or.inl ⟨d0, rfl, by rw [h3, h]⟩
    | none =>
      cases h1 : detect true with
      | none => simp [aztecRead, h0, h1, h3] at h
      | some d1 =>
        cases h2 : decode d1 with
        | none => simp [aztecRead, h0, h1, h2, h3] at h
        | some r' =>
          simp [aztecRead, h0, h1, h2, h3] at h
          exact Or.inr ⟨d1, rfl, by rw [h2, h]⟩

-- non-vacuity: the four behaviours
example : aztecRead (fun _ => (none : Option Nat)) (fun d => some d) = .notFound := by decide
example : aztecRead (fun _ => some 1) (fun _ => (none : Option Nat)) = .format := by decide
example : aztecRead (fun m => if m then some 2 else none) (fun d => some d) = .ok 2 := by decide
example : aztecRead (fun m => if m then none else some 1) (fun _ => (none : Option Nat)) = .format := by decide

end Gzx.Properties.C06Glue
