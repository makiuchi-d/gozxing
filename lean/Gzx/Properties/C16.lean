/-
  C16 — BitMatrix and BitArray behave as plain 2-D / 1-D bit containers.
  Property theorems only; helper lemmas live in Gzx/Proofs/Bits*.lean.  The per-operation theorems `bitarray_*` /
  `bitmatrix_*` restate the lemmas `WArr.*_refines` / `WMat.*_refines` of those files under the names of the
  property list; proofs (here and elsewhere) use the lemmas.
  Model: Gzx/Model/Bits.lean (word layer tied to bit_array.go / bit_matrix.go / go_image_bit_matrix.go
  by the `c16 wm` / `c16 wa` correspondence suites; spec layer = the naive containers, compared with
  the real code by the oracle of the same suites).

  Shape of the statements (DESIGN §7 C16):
    representation invariant + arguments in range  ⟹
      the word-level operation does not panic, keeps the invariant, and its result abstracts to the
      result of the naive operation on the abstracted state (`RefinesA` / `RefinesM`);
    queries return what the naive query returns.
  Operations whose Go code has a *checked* error (SetRange, IsRange, AppendBits, Xor, SetRegion) are
  stated for all arguments: the word level returns the same `illegalArg` exactly when the naive
  model does.
-/
import Gzx.Proofs.BitsArrBulk
import Gzx.Proofs.BitsNext
import Gzx.Proofs.BitsRev
import Gzx.Proofs.BitsStr
import Gzx.Proofs.BitsMatCell
import Gzx.Proofs.BitsMatGrid
import Gzx.Proofs.BitsMatRow
import Gzx.Proofs.BitsMatStr
import Gzx.Proofs.BitsRot180
import Gzx.Proofs.BitsRot90
import Gzx.Proofs.BitsCorners
import Gzx.Proofs.BitsEncl
import Gzx.Proofs.BitsCtor
import Gzx.Proofs.BitsErr
namespace Gzx.Properties.C16
open Gzx Gzx.Bits

/-! ## Constructors -/

/-- `NewBitArray(n)`: invariant holds, `n` zero bits. -/
theorem newBitArray_refines (n : Nat) : InvA (WArr.new n) ∧ absA (WArr.new n) = List.replicate n false := by
  refine ⟨invA_zero (by omega), absA_eq_of _ _ (by simp [WArr.new]) fun i hi => ?_⟩
  rw [List.getElem?_replicate, if_pos (show i < n from hi)]
  exact congrArg some (bitAt_zeros _ _).symm

/-- `NewEmptyBitArray()`: invariant holds, no bits (one spare word). -/
theorem newEmptyBitArray_refines : InvA WArr.empty ∧ absA WArr.empty = [] :=
  ⟨invA_zero (by decide), rfl⟩

/-- `NewBitMatrix(w, h)`: same checked error as the naive constructor; otherwise the invariant
    holds and all cells are clear. -/
theorem newBitMatrix_refines (w h : Nat) :
    match SMat.new w h with
    | .ok s => RefinesM (WMat.new w h) s
    | .error e => WMat.new w h = .error e := by
  unfold SMat.new WMat.new
  by_cases hb : w < 1 ∨ h < 1
  · rw [if_pos hb, if_pos hb]
  · rw [if_neg hb, if_neg hb]
    obtain ⟨i0, a0⟩ := zero_mat (w := w) (h := h) (by omega) (by omega)
    refine ⟨_, rfl, i0, a0.trans ?_⟩
    simp [SMat.ofFn, List.map_const']

/-- `ParseBoolMapToBitMatrix(image)` for a non-empty rectangular image: same checked error (zero
    columns), otherwise the cells of the image. -/
theorem parseBoolMap_refines (r0 : List Bool) (rest : List (List Bool))
    (hrect : ∀ r ∈ r0 :: rest, r.length = r0.length) :
    match SMat.ofBoolMap (r0 :: rest) with
    | .ok s => RefinesM (WMat.ofBoolMap (r0 :: rest)) s
    | .error e => WMat.ofBoolMap (r0 :: rest) = .error e := WMat.ofBoolMap_refines r0 rest hrect

/-- `ParseBoolMapToBitMatrix` of the empty image is the checked error in both models. -/
theorem parseBoolMap_empty :
    SMat.ofBoolMap [] = .error .illegalArg ∧ WMat.ofBoolMap [] = .error .illegalArg := ⟨rfl, rfl⟩

/-- `ParseStringToBitMatrix(s, set, unset)` for every input: the same error as the naive parser
    (shared tokeniser), otherwise no panic, the invariant, and the same grid. -/
theorem parseString_refines (s set unset : List Nat) :
    match SMat.parse s set unset with
    | .ok g => RefinesM (WMat.parse s set unset) g
    | .error e => WMat.parse s set unset = .error e := WMat.parse_refines s set unset

/-! ## BitArray: operations -/

theorem bitarray_set (a : WArr) (i : Nat) (h : InvA a) (hi : i < a.size) :
    RefinesA (a.set i) (SArr.set (absA a) i) := WArr.set_refines a i h hi

theorem bitarray_flip (a : WArr) (i : Nat) (h : InvA a) (hi : i < a.size) :
    RefinesA (a.flip i) (SArr.flip (absA a) i) := WArr.flip_refines a i h hi

/-- `SetBulk(i, v)`, `i < size`, `v` a 32-bit value without bits beyond `size`. -/
theorem bitarray_setBulk (a : WArr) (i v : Nat) (h : InvA a) (hi : i < a.size) (hv : v < W32)
    (hpad : ∀ j, j < 32 → a.size ≤ i / 32 * 32 + j → v.testBit j = false) :
    RefinesA (a.setBulk i v) (SArr.setBulk (absA a) i v) := WArr.setBulk_refines a i v h hi hv hpad

/-- `SetRange(start, end)` for all arguments (checked error included). -/
theorem bitarray_setRange (a : WArr) (s e : Nat) (h : InvA a) :
    match SArr.setRange (absA a) s e with
    | .ok r => RefinesA (a.setRange s e) r
    | .error err => a.setRange s e = .error err := WArr.setRange_refines a s e h

theorem bitarray_clear (a : WArr) (h : InvA a) :
    InvA a.clear ∧ absA a.clear = SArr.clear (absA a) := WArr.clear_refines a h

/-- `AppendBit(b)` including the growth of the word slice. -/
theorem bitarray_appendBit (a : WArr) (b : Bool) (h : InvA a) :
    RefinesA (a.appendBit b) (SArr.appendBit (absA a) b) := WArr.appendBit_refines a b h

/-- `AppendBits(value, numBits)` for all arguments (checked error for `numBits > 32`). -/
theorem bitarray_appendBits (a : WArr) (value n : Nat) (h : InvA a) :
    match SArr.appendBits (absA a) value n with
    | .ok r => RefinesA (a.appendBits value n) r
    | .error err => a.appendBits value n = .error err := WArr.appendBits_refines a value n h

theorem bitarray_appendBitArray (a o : WArr) (h : InvA a) (ho : InvA o) :
    RefinesA (a.appendBitArray o) (SArr.appendBitArray (absA a) (absA o)) :=
  WArr.appendBitArray_refines a o h ho

/-- `Xor(other)` for all arguments (checked error for different sizes; arrays of equal size but
    different capacity — the D3 witness — are covered). -/
theorem bitarray_xor (a o : WArr) (h : InvA a) (ho : InvA o) :
    match SArr.xor (absA a) (absA o) with
    | .ok r => RefinesA (a.xor o) r
    | .error err => a.xor o = .error err := WArr.xor_refines a o h ho

/-- `Reverse()` for every size, in particular 0 (D3) and multiples of 32. -/
theorem bitarray_reverse (a : WArr) (h : InvA a) :
    RefinesA a.reverse (SArr.reverse (absA a)) := WArr.reverse_refines a h

/-! ## BitArray: queries -/

theorem bitarray_get (a : WArr) (i : Nat) (h : InvA a) (hi : i < a.size) :
    a.get i = .ok (SArr.get (absA a) i) := WArr.get_refines a i h hi

/-- `GetNextSet(from)` for every `from` (also `from ≥ size`). -/
theorem bitarray_getNextSet (a : WArr) (frm : Nat) (h : InvA a) :
    a.getNextSet frm = .ok (SArr.nextSet (absA a) frm) := WArr.getNextSet_refines a frm h

/-- `GetNextUnset(from)` for every `from`. -/
theorem bitarray_getNextUnset (a : WArr) (frm : Nat) (h : InvA a) :
    a.getNextUnset frm = .ok (SArr.nextUnset (absA a) frm) := WArr.getNextUnset_refines a frm h

/-- `IsRange(start, end, value)` for all arguments (checked error included). -/
theorem bitarray_isRange (a : WArr) (s e : Nat) (v : Bool) (h : InvA a) :
    a.isRange s e v = SArr.isRange (absA a) s e v := WArr.isRange_refines a s e v h

/-- `GetSize()` / `GetSizeInBytes()`. -/
theorem bitarray_sizes (a : WArr) :
    a.getSize = SArr.size (absA a) ∧ a.getSizeInBytes = SArr.sizeInBytes (absA a) := by
  simp [WArr.getSize, WArr.getSizeInBytes, SArr.size, SArr.sizeInBytes, absA_length]

/-- `String()`. -/
theorem bitarray_toString (a : WArr) (h : InvA a) : a.toStr = .ok (SArr.toStr (absA a)) :=
  WArr.toStr_refines a h

/-- `ToBytes(bitOffset, array, offset, numBytes)` with all bits and all bytes in range. -/
theorem bitarray_toBytes (a : WArr) (bitOffset : Nat) (array : List Nat) (offset numBytes : Nat)
    (h : InvA a) (hbits : bitOffset + 8 * numBytes ≤ a.size) (harr : offset + numBytes ≤ array.length) :
    a.toBytes bitOffset array offset numBytes =
      .ok (SArr.toBytes (absA a) bitOffset array offset numBytes) :=
  WArr.toBytes_refines a bitOffset array offset numBytes h hbits harr

/-! ## BitArray: arbitrary operation sequences -/

/-- the mutating operations of the BitArray API -/
inductive AOp where
  | set (i : Nat)
  | flip (i : Nat)
  | setBulk (i v : Nat)
  | setRange (s e : Nat)
  | clear
  | appendBit (b : Bool)
  | appendBits (value n : Nat)
  | appendBitArray (o : WArr)
  | xor (o : WArr)
  | reverse

/-- arguments in range, judged on the naive state (an operand array must be a valid array) -/
def AOp.inRange (s : SArr) : AOp → Prop
  | .set i => i < s.length
  | .flip i => i < s.length
  | .setBulk i v => i < s.length ∧ v < W32 ∧ ∀ j, j < 32 → s.length ≤ i / 32 * 32 + j → v.testBit j = false
  | .appendBitArray o => InvA o
  | .xor o => InvA o
  | _ => True

def AOp.stepW (a : WArr) : AOp → Res WArr
  | .set i => a.set i
  | .flip i => a.flip i
  | .setBulk i v => a.setBulk i v
  | .setRange s e => a.setRange s e
  | .clear => .ok a.clear
  | .appendBit b => a.appendBit b
  | .appendBits v n => a.appendBits v n
  | .appendBitArray o => a.appendBitArray o
  | .xor o => a.xor o
  | .reverse => a.reverse

def AOp.stepS (s : SArr) : AOp → Res SArr
  | .set i => .ok (SArr.set s i)
  | .flip i => .ok (SArr.flip s i)
  | .setBulk i v => .ok (SArr.setBulk s i v)
  | .setRange b e => SArr.setRange s b e
  | .clear => .ok (SArr.clear s)
  | .appendBit b => .ok (SArr.appendBit s b)
  | .appendBits v n => SArr.appendBits s v n
  | .appendBitArray o => .ok (SArr.appendBitArray s (absA o))
  | .xor o => SArr.xor s (absA o)
  | .reverse => .ok (SArr.reverse s)

/-- one step of a sequence: a checked error leaves the container unchanged (as in Go), a panic
    aborts -/
def keepOnError {σ : Type} (old : σ) : Res σ → Res σ
  | .ok s => .ok s
  | .error (.panic w) => .error (.panic w)
  | .error _ => .ok old

def runAW : WArr → List AOp → Res WArr
  | a, [] => .ok a
  | a, op :: ops =>
    match keepOnError a (op.stepW a) with
    | .ok a' => runAW a' ops
    | .error e => .error e

def runAS : SArr → List AOp → SArr
  | s, [] => s
  | s, op :: ops =>
    match op.stepS s with
    | .ok s' => runAS s' ops
    | .error _ => runAS s ops

/-- every operation of the sequence has its arguments in range at the moment it is executed -/
def validA : SArr → List AOp → Prop
  | _, [] => True
  | s, op :: ops => op.inRange s ∧ validA (match op.stepS s with | .ok s' => s' | .error _ => s) ops

theorem aop_step (a : WArr) (op : AOp) (h : InvA a) (hr : op.inRange (absA a)) :
    match op.stepS (absA a) with
    | .ok s' => RefinesA (op.stepW a) s'
    | .error e => op.stepW a = .error e ∧ e = .illegalArg := by
  cases op with
  | set i => exact WArr.set_refines a i h (by simpa [AOp.inRange, absA_length] using hr)
  | flip i => exact WArr.flip_refines a i h (by simpa [AOp.inRange, absA_length] using hr)
  | setBulk i v =>
    simp only [AOp.inRange, absA_length] at hr
    exact WArr.setBulk_refines a i v h hr.1 hr.2.1 hr.2.2
  | setRange s e =>
    have := WArr.setRange_refines a s e h
    simp only [AOp.stepS, AOp.stepW]
    cases hx : SArr.setRange (absA a) s e with
    | ok r => rw [hx] at this; exact this
    | error err => rw [hx] at this; exact ⟨this, SArr.setRange_error hx⟩
  | clear =>
    obtain ⟨c1, c2⟩ := WArr.clear_refines a h
    exact ⟨_, rfl, c1, c2⟩
  | appendBit b => exact WArr.appendBit_refines a b h
  | appendBits v n =>
    have := WArr.appendBits_refines a v n h
    simp only [AOp.stepS, AOp.stepW]
    cases hx : SArr.appendBits (absA a) v n with
    | ok r => rw [hx] at this; exact this
    | error err => rw [hx] at this; exact ⟨this, SArr.appendBits_error hx⟩
  | appendBitArray o => exact WArr.appendBitArray_refines a o h hr
  | xor o =>
    have := WArr.xor_refines a o h hr
    simp only [AOp.stepS, AOp.stepW]
    cases hx : SArr.xor (absA a) (absA o) with
    | ok r => rw [hx] at this; exact this
    | error err => rw [hx] at this; exact ⟨this, SArr.xor_error hx⟩
  | reverse => exact WArr.reverse_refines a h

/-- **BitArray refines the naive bit list**: after any sequence of in-range operations, started
    from a valid array, the word-level run does not panic, the invariant holds, the contents are
    those of the naive run, and every query answers as the naive query does. -/
theorem bitarray_refines_spec (ops : List AOp) : ∀ (a : WArr), InvA a → validA (absA a) ops →
    ∃ a', runAW a ops = .ok a' ∧ InvA a' ∧ absA a' = runAS (absA a) ops ∧
      (∀ i, i < a'.size → a'.get i = .ok (SArr.get (absA a') i)) ∧
      (∀ f, a'.getNextSet f = .ok (SArr.nextSet (absA a') f)) ∧
      (∀ f, a'.getNextUnset f = .ok (SArr.nextUnset (absA a') f)) ∧
      (∀ s e v, a'.isRange s e v = SArr.isRange (absA a') s e v) ∧
      a'.getSize = SArr.size (absA a') ∧ a'.getSizeInBytes = SArr.sizeInBytes (absA a') ∧
      a'.toStr = .ok (SArr.toStr (absA a')) ∧
      (∀ bo arr off n, bo + 8 * n ≤ a'.size → off + n ≤ arr.length →
        a'.toBytes bo arr off n = .ok (SArr.toBytes (absA a') bo arr off n)) := by
  induction ops with
  | nil =>
    intro a h _
    exact ⟨a, rfl, h, rfl, fun i hi => WArr.get_refines a i h hi,
      fun f => WArr.getNextSet_refines a f h, fun f => WArr.getNextUnset_refines a f h,
      fun s e v => WArr.isRange_refines a s e v h, (bitarray_sizes a).1, (bitarray_sizes a).2,
      WArr.toStr_refines a h, fun bo arr off n h1 h2 => WArr.toBytes_refines a bo arr off n h h1 h2⟩
  | cons op ops ih =>
    intro a h hv
    obtain ⟨hr, hrest⟩ := hv
    have hstep := aop_step a op h hr
    unfold runAW runAS
    cases hs : op.stepS (absA a) with
    | ok s' =>
      rw [hs] at hstep hrest
      obtain ⟨a1, e1, i1, b1⟩ := hstep
      rw [e1]
      simp only [keepOnError]
      rw [← b1] at hrest ⊢
      exact ih a1 i1 hrest
    | error e =>
      rw [hs] at hstep hrest
      obtain ⟨e1, e2⟩ := hstep
      rw [e1, e2]
      simp only [keepOnError]
      exact ih a h hrest

/-! ## BitMatrix: operations -/

theorem bitmatrix_set (m : WMat) (x y : Nat) (h : InvM m) (hx : x < m.width) (hy : y < m.height) :
    RefinesM (m.set x y) ((absM m).set x y) := WMat.set_refines m x y h hx hy

theorem bitmatrix_unset (m : WMat) (x y : Nat) (h : InvM m) (hx : x < m.width) (hy : y < m.height) :
    RefinesM (m.unset x y) ((absM m).unset x y) := WMat.unset_refines m x y h hx hy

theorem bitmatrix_flip (m : WMat) (x y : Nat) (h : InvM m) (hx : x < m.width) (hy : y < m.height) :
    RefinesM (m.flip x y) ((absM m).flip x y) := WMat.flip_refines m x y h hx hy

/-- `FlipAll()` (with the D2 repair: padding stays clear). -/
theorem bitmatrix_flipAll (m : WMat) (h : InvM m) :
    RefinesM m.flipAll (absM m).flipAll := WMat.flipAll_refines m h

theorem bitmatrix_clear (m : WMat) (h : InvM m) :
    InvM m.clear ∧ absM m.clear = (absM m).clear := WMat.clear_refines m h

/-- `Xor(mask)` for all masks (checked error for different dimensions). -/
theorem bitmatrix_xor (m mask : WMat) (h : InvM m) (hk : InvM mask) :
    match (absM m).xor (absM mask) with
    | .ok r => RefinesM (m.xor mask) r
    | .error err => m.xor mask = .error err := WMat.xor_refines m mask h hk

/-- `SetRegion(left, top, width, height)` for all non-negative arguments (checked errors included). -/
theorem bitmatrix_setRegion (m : WMat) (l t w ht : Nat) (h : InvM m) :
    match (absM m).setRegion l t w ht with
    | .ok r => RefinesM (m.setRegion l t w ht) r
    | .error err => m.setRegion l t w ht = .error err := WMat.setRegion_refines m l t w ht h

/-- `SetRow(y, row)`, `y < height`, `row` a valid array of exactly `width` bits. -/
theorem bitmatrix_setRow (m : WMat) (y : Nat) (row : WArr) (h : InvM m) (hy : y < m.height)
    (hrow : InvA row) (hsz : row.size = m.width) :
    RefinesM (m.setRow y row) ((absM m).setRow y (absA row)) := WMat.setRow_refines m y row h hy hrow hsz

/-- `Rotate180()` for every width, in particular multiples of 32 (D1). -/
theorem bitmatrix_rotate180 (m : WMat) (h : InvM m) :
    RefinesM m.rotate180 (absM m).rotate180 := WMat.rotate180_refines m h

/-- `Rotate90()` (counter-clockwise; dimensions swap, new row size). -/
theorem bitmatrix_rotate90 (m : WMat) (h : InvM m) :
    RefinesM m.rotate90 (absM m).rotate90 := WMat.rotate90_refines m h

/-! ## BitMatrix: queries -/

/-- `Get(x, y)` for all non-negative coordinates (outside the matrix: `false`). -/
theorem bitmatrix_get (m : WMat) (x y : Nat) (h : InvM m) :
    m.get x y = .ok ((absM m).get x y) := WMat.get_refines m x y h

/-- image view `At(x, y)`. -/
theorem bitmatrix_at (m : WMat) (x y : Nat) (h : InvM m) :
    m.atGray x y = .ok ((absM m).atGray x y) := by
  unfold WMat.atGray SMat.atGray
  rw [WMat.get_refines m x y h]; rfl

/-- `GetRow(y, row)`, `y < height`: the result is a valid array holding row `y` (a supplied array
    that is large enough is reused and keeps its size). -/
theorem bitmatrix_getRow (m : WMat) (y : Nat) (row : Option WArr) (h : InvM m) (hy : y < m.height)
    (hrow : ∀ r, row = some r → InvA r) :
    RefinesA (m.getRow y row) ((absM m).getRow y (row.map absA)) := WMat.getRow_refines m y row h hy hrow

/-- `ToStringWithLineSeparator(set, unset, sep)` (hence `ToString` and `String`). -/
theorem bitmatrix_toString (m : WMat) (h : InvM m) (set unset sep : List Nat) :
    m.toStr set unset sep = .ok ((absM m).toStr set unset sep) := WMat.toStr_refines m h set unset sep

/-- `GetEnclosingRectangle()`: `nil` for an all-clear matrix, otherwise the bounding box
    `[left, top, width, height]` of the set cells (needs the padding to be clear: D2). -/
theorem bitmatrix_enclosingRectangle (m : WMat) (h : InvM m) :
    m.getEnclosingRectangle = .ok (absM m).enclosingRectangle := WMat.encl_refines m h

/-- `GetTopLeftOnBit()`: the first set cell in row-major order (needs the padding to be clear). -/
theorem bitmatrix_topLeftOnBit (m : WMat) (h : InvM m) :
    m.getTopLeftOnBit = .ok (absM m).topLeftOnBit := WMat.topLeft_refines m h

/-- `GetBottomRightOnBit()`: the last set cell in row-major order. -/
theorem bitmatrix_bottomRightOnBit (m : WMat) (h : InvM m) :
    m.getBottomRightOnBit = .ok (absM m).bottomRightOnBit := WMat.bottomRight_refines m h

/-- `GetWidth()` / `GetHeight()` / `GetRowSize()` / `Bounds()`. -/
theorem bitmatrix_dims (m : WMat) (h : InvM m) :
    m.width = (absM m).width ∧ m.height = (absM m).height ∧ m.rowSize = ((absM m).width + 31) / 32 :=
  ⟨rfl, rfl, h.2.2.1⟩

/-! ## BitMatrix: arbitrary operation sequences -/

inductive MOp where
  | set (x y : Nat)
  | unset (x y : Nat)
  | flip (x y : Nat)
  | flipAll
  | clear
  | xor (mask : WMat)
  | setRegion (l t w h : Nat)
  | setRow (y : Nat) (row : WArr)
  | rotate180
  | rotate90

def MOp.inRange (s : SMat) : MOp → Prop
  | .set x y => x < s.width ∧ y < s.height
  | .unset x y => x < s.width ∧ y < s.height
  | .flip x y => x < s.width ∧ y < s.height
  | .xor mask => InvM mask
  | .setRow y row => y < s.height ∧ InvA row ∧ row.size = s.width
  | _ => True

def MOp.stepW (m : WMat) : MOp → Res WMat
  | .set x y => m.set x y
  | .unset x y => m.unset x y
  | .flip x y => m.flip x y
  | .flipAll => m.flipAll
  | .clear => .ok m.clear
  | .xor mask => m.xor mask
  | .setRegion l t w h => m.setRegion l t w h
  | .setRow y row => m.setRow y row
  | .rotate180 => m.rotate180
  | .rotate90 => m.rotate90

def MOp.stepS (s : SMat) : MOp → Res SMat
  | .set x y => .ok (s.set x y)
  | .unset x y => .ok (s.unset x y)
  | .flip x y => .ok (s.flip x y)
  | .flipAll => .ok s.flipAll
  | .clear => .ok s.clear
  | .xor mask => s.xor (absM mask)
  | .setRegion l t w h => s.setRegion l t w h
  | .setRow y row => .ok (s.setRow y (absA row))
  | .rotate180 => .ok s.rotate180
  | .rotate90 => .ok s.rotate90

def runMW : WMat → List MOp → Res WMat
  | m, [] => .ok m
  | m, op :: ops =>
    match keepOnError m (op.stepW m) with
    | .ok m' => runMW m' ops
    | .error e => .error e

def runMS : SMat → List MOp → SMat
  | s, [] => s
  | s, op :: ops =>
    match op.stepS s with
    | .ok s' => runMS s' ops
    | .error _ => runMS s ops

def validM : SMat → List MOp → Prop
  | _, [] => True
  | s, op :: ops => op.inRange s ∧ validM (match op.stepS s with | .ok s' => s' | .error _ => s) ops

theorem mop_step (m : WMat) (op : MOp) (h : InvM m) (hr : op.inRange (absM m)) :
    match op.stepS (absM m) with
    | .ok s' => RefinesM (op.stepW m) s'
    | .error e => op.stepW m = .error e ∧ e = .illegalArg := by
  cases op with
  | set x y => exact WMat.set_refines m x y h hr.1 hr.2
  | unset x y => exact WMat.unset_refines m x y h hr.1 hr.2
  | flip x y => exact WMat.flip_refines m x y h hr.1 hr.2
  | flipAll => exact WMat.flipAll_refines m h
  | clear =>
    obtain ⟨c1, c2⟩ := WMat.clear_refines m h
    exact ⟨_, rfl, c1, c2⟩
  | xor mask =>
    have := WMat.xor_refines m mask h hr
    simp only [MOp.stepS, MOp.stepW]
    cases hx : (absM m).xor (absM mask) with
    | ok r => rw [hx] at this; exact this
    | error err => rw [hx] at this; exact ⟨this, SMat.xor_error hx⟩
  | setRegion l t w ht =>
    have := WMat.setRegion_refines m l t w ht h
    simp only [MOp.stepS, MOp.stepW]
    cases hx : (absM m).setRegion l t w ht with
    | ok r => rw [hx] at this; exact this
    | error err => rw [hx] at this; exact ⟨this, SMat.setRegion_error hx⟩
  | setRow y row => exact WMat.setRow_refines m y row h hr.1 hr.2.1 hr.2.2
  | rotate180 => exact WMat.rotate180_refines m h
  | rotate90 => exact WMat.rotate90_refines m h

/-- **BitMatrix refines the naive grid**: after any sequence of in-range operations (all widths,
    all heights, rotations included) the word-level run does not panic, the invariant holds
    (so padding bits are clear), the cells are those of the naive run, and `Get`, the image view
    `At`, `GetRow`, `GetEnclosingRectangle`, `GetTopLeftOnBit`, `GetBottomRightOnBit` and `ToString` answer as
    the naive model does. -/
theorem bitmatrix_refines_spec (ops : List MOp) : ∀ (m : WMat), InvM m → validM (absM m) ops →
    ∃ m', runMW m ops = .ok m' ∧ InvM m' ∧ absM m' = runMS (absM m) ops ∧
      (∀ x y, m'.get x y = .ok ((absM m').get x y)) ∧
      (∀ x y, m'.atGray x y = .ok ((absM m').atGray x y)) ∧
      (∀ y row, y < m'.height → (∀ r, row = some r → InvA r) →
        RefinesA (m'.getRow y row) ((absM m').getRow y (row.map absA))) ∧
      m'.getEnclosingRectangle = .ok (absM m').enclosingRectangle ∧
      m'.getTopLeftOnBit = .ok (absM m').topLeftOnBit ∧
      m'.getBottomRightOnBit = .ok (absM m').bottomRightOnBit ∧
      (∀ set unset sep, m'.toStr set unset sep = .ok ((absM m').toStr set unset sep)) := by
  induction ops with
  | nil =>
    intro m h _
    exact ⟨m, rfl, h, rfl, fun x y => WMat.get_refines m x y h, fun x y => bitmatrix_at m x y h,
      fun y row hy hrow => WMat.getRow_refines m y row h hy hrow, WMat.encl_refines m h,
      WMat.topLeft_refines m h,
      WMat.bottomRight_refines m h, fun set unset sep => WMat.toStr_refines m h set unset sep⟩
  | cons op ops ih =>
    intro m h hv
    obtain ⟨hr, hrest⟩ := hv
    have hstep := mop_step m op h hr
    unfold runMW runMS
    cases hs : op.stepS (absM m) with
    | ok s' =>
      rw [hs] at hstep hrest
      obtain ⟨m1, e1, i1, b1⟩ := hstep
      rw [e1]
      simp only [keepOnError]
      rw [← b1] at hrest ⊢
      exact ih m1 i1 hrest
    | error e =>
      rw [hs] at hstep hrest
      obtain ⟨e1, e2⟩ := hstep
      rw [e1, e2]
      simp only [keepOnError]
      exact ih m h hrest

/-! ## Algebra of the naive model: Reverse, the rotations, Parse ∘ ToString (bit and cell operations: C16Algebra.lean) -/

theorem reverse_reverse (a : SArr) : SArr.reverse (SArr.reverse a) = a := List.reverse_reverse a

theorem rotate180_rotate180 (m : SMat) : m.rotate180.rotate180 = m := by
  obtain ⟨w, h, rows⟩ := m
  simp only [SMat.rotate180]
  congr 1
  rw [List.map_reverse, List.map_map, List.map_reverse, List.reverse_reverse]
  have : (List.reverse ∘ List.reverse : List Bool → List Bool) = id := by
    funext r; simp
  rw [this, List.map_id]

theorem rotate90_rotate90 (m : SMat) (hm : m.WF) : m.rotate90.rotate90 = m.rotate180 := by
  have h1 := SMat.rotate90_WF m hm
  rw [SMat.rotate90_eq _ h1, SMat.rotate180_eq _ hm]
  show SMat.ofFn m.width m.height (fun x y => m.rotate90.get (m.height - 1 - y) x) = _
  apply SMat.eq_ofFn_of _ (SMat.ofFn_WF _ _ _) _ _ _ rfl rfl
  intro x y hx hy
  have hx' : x < m.width := hx
  have hy' : y < m.height := hy
  rw [SMat.get_ofFn _ _ _ _ _ hx' hy']
  exact SMat.get_rotate90 m hm _ _ (by omega) hx'

theorem rotate90_four (m : SMat) (hm : m.WF) : m.rotate90.rotate90.rotate90.rotate90 = m := by
  have h2 : m.rotate90.rotate90.WF := SMat.rotate90_WF _ (SMat.rotate90_WF m hm)
  rw [rotate90_rotate90 _ h2, rotate90_rotate90 m hm, rotate180_rotate180]

/-- `ParseStringToBitMatrix(ToString(m), set, unset) = m` on the naive model, for every well-formed
    non-empty grid and token strings that differ in their first byte and do not start with a line
    break (e.g. the defaults `"X "` / `"  "`). -/
theorem parse_toString (m : SMat) (hm : m.WF) (hw : 1 ≤ m.width) (hh : 1 ≤ m.height)
    (set unset : List Nat) (g : GoodToks set unset) :
    SMat.parse (m.toStr set unset [10]) set unset = .ok m := parse_toStr m hm hw hh set unset g

/-! ## Non-vacuity: the hypotheses are satisfiable by interesting states -/

example : InvA (WArr.new 33) := (newBitArray_refines 33).1
example : ∃ m, WMat.new 33 2 = .ok m ∧ InvM m ∧ m.rowSize = 2 := by
  have := newBitMatrix_refines 33 2
  obtain ⟨m, h1, h2, _⟩ : RefinesM (WMat.new 33 2) ⟨33, 2, List.replicate 2 (List.replicate 33 false)⟩ := by
    simpa [SMat.new] using this
  refine ⟨m, h1, h2, ?_⟩
  simp [WMat.new] at h1
  rw [← h1]
example : validA (absA (WArr.new 64)) [.set 63, .reverse, .appendBit true, .flip 64, .reverse] := by
  simp [validA, AOp.inRange, AOp.stepS, absA_length, WArr.new, SArr.set, SArr.reverse,
    SArr.appendBit]
example : SMat.WF ⟨3, 2, [[true, false, true], [false, false, true]]⟩ := by decide
example : GoodToks [88, 32] [32, 32] :=
  ⟨88, 32, [32], [32], rfl, rfl, by decide, ⟨by decide, by decide⟩, ⟨by decide, by decide⟩⟩

end Gzx.Properties.C16
