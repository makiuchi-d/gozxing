/-
  C18 — independent readers and writers can run concurrently.

  PROVED (about the abstract machine of Model/Interference.lean, unbounded in the number of
  goroutines, program lengths and schedule length): if no step writes a shared (package-level)
  location and every other location is touched by its owner only, then under EVERY interleaving
  each goroutine computes exactly what it computes when run alone, the final state does not
  depend on the schedule (in particular equals the sequential one), shared state is unchanged,
  and there is no read-write or write-write conflict on any location (data-race freedom).

  NOT proved / cannot be exhibited by this model: that the Go code satisfies the premise.  That
  is established per run by the C18 scanner's effect summary (syntactic, unsound for flows it
  does not track) and validated dynamically by result comparison under real concurrency and the
  Go race detector — "partial".
-/
import Gzx.Proofs.Interference
namespace Gzx.Properties.C18
open Gzx Gzx.Interference

/-- clause "every call returns exactly what it returns when run alone": under every schedule,
    the private store (results) of every goroutine equals its solo execution up to the same
    number of steps -/
theorem noninterference (prog : Gid → List Step) (Shared : Loc → Prop) (owner : Loc → Gid)
    (P0 : Gid → PStore) (G0 : GStore) (hI : Independent prog Shared owner) (sched : List Gid) (g : Gid) :
    (run prog sched (init P0 G0)).P g
      = (alone (prog g) (P0 g) G0 ((run prog sched (init P0 G0)).pc g)).1 :=
  (inv_run prog Shared owner P0 G0 hI sched _ (inv_init prog Shared owner P0 G0)).priv g

/-- shared (package-level) state is never changed by any interleaving -/
theorem shared_unchanged (prog : Gid → List Step) (Shared : Loc → Prop) (owner : Loc → Gid)
    (P0 : Gid → PStore) (G0 : GStore) (hI : Independent prog Shared owner) (sched : List Gid)
    (loc : Loc) (h : Shared loc) : (run prog sched (init P0 G0)).G loc = G0 loc :=
  (inv_run prog Shared owner P0 G0 hI sched _ (inv_init prog Shared owner P0 G0)).shared loc h

/-- every goroutine has executed all its steps -/
def Complete (prog : Gid → List Step) (sched : List Gid) : Prop :=
  ∀ g, (prog g).length ≤ countG g sched

theorem pc_complete (prog : Gid → List Step) (P0 : Gid → PStore) (G0 : GStore) (sched : List Gid)
    (hc : Complete prog sched) (g : Gid) : (run prog sched (init P0 G0)).pc g = (prog g).length :=
  pc_foldl_complete (stepOf prog) _ (stepOf_pc prog) sched P0 G0 hc g

/-- clause "results schedule = results sequential": any two complete interleavings — e.g. an
    arbitrary one and the sequential one — end in the same private stores and the same global store -/
theorem results_schedule_independent (prog : Gid → List Step) (Shared : Loc → Prop) (owner : Loc → Gid)
    (P0 : Gid → PStore) (G0 : GStore) (hI : Independent prog Shared owner) (s1 s2 : List Gid)
    (h1 : Complete prog s1) (h2 : Complete prog s2) :
    (run prog s1 (init P0 G0)).P = (run prog s2 (init P0 G0)).P ∧
    (run prog s1 (init P0 G0)).G = (run prog s2 (init P0 G0)).G := by
  have i1 := inv_run prog Shared owner P0 G0 hI s1 _ (inv_init prog Shared owner P0 G0)
  have i2 := inv_run prog Shared owner P0 G0 hI s2 _ (inv_init prog Shared owner P0 G0)
  have pc1 := pc_complete prog P0 G0 s1 h1
  have pc2 := pc_complete prog P0 G0 s2 h2
  constructor
  · funext g
    rw [i1.priv g, i2.priv g, pc1 g, pc2 g]
  · funext loc
    by_cases hs : Shared loc
    · rw [i1.shared loc hs, i2.shared loc hs]
    · rw [i1.owned loc hs, i2.owned loc hs, pc1, pc2]

theorem sequential_count (prog : Gid → List Step) (g : Gid) (gs : List Gid) (hg : g ∈ gs) :
    (prog g).length ≤ countG g (sequential prog gs) := by
  induction gs with
  | nil => cases hg
  | cons x rest ih =>
    simp only [sequential, List.flatMap_cons, countG_append]
    rcases List.mem_cons.mp hg with e | hr
    · subst e
      rw [countG_replicate_self]
      omega
    · have := ih hr
      simp only [sequential] at this
      omega

/-- the sequential schedule (each listed goroutine runs to completion before the next starts) is complete -/
theorem sequential_complete (prog : Gid → List Step) (gs : List Gid)
    (h : ∀ g, g ∈ gs ∨ prog g = []) : Complete prog (sequential prog gs) := by
  intro g
  rcases h g with hg | he
  · exact sequential_count prog g gs hg
  · simp [he]

/-- the statement in the form of the property: an arbitrary complete interleaving gives the
    results of the sequential execution -/
theorem results_eq_sequential (prog : Gid → List Step) (Shared : Loc → Prop) (owner : Loc → Gid)
    (P0 : Gid → PStore) (G0 : GStore) (hI : Independent prog Shared owner) (sched gs : List Gid)
    (hc : Complete prog sched) (hgs : ∀ g, g ∈ gs ∨ prog g = []) :
    (run prog sched (init P0 G0)).P = (run prog (sequential prog gs) (init P0 G0)).P :=
  (results_schedule_independent prog Shared owner P0 G0 hI sched _ hc (sequential_complete prog gs hgs)).1

/-- corollary "no data race": two steps of different goroutines never conflict (same location,
    at least one a write) — on shared locations because nobody writes, elsewhere because of ownership -/
theorem no_conflict (prog : Gid → List Step) (Shared : Loc → Prop) (owner : Loc → Gid)
    (hI : Independent prog Shared owner) (g1 g2 : Gid) (hne : g1 ≠ g2) (s1 s2 : Step)
    (h1 : s1 ∈ prog g1) (h2 : s2 ∈ prog g2) (loc : Loc)
    (a1 : s1.accesses loc) (a2 : s2.accesses loc) : ¬ (s1.writes loc ∨ s2.writes loc) := by
  intro hw
  have hns : ¬ Shared loc := by
    rcases hw with w | w
    · exact hI.noSharedWrite g1 s1 h1 loc w
    · exact hI.noSharedWrite g2 s2 h2 loc w
  have o1 := hI.ownInstances g1 s1 h1 loc a1 hns
  have o2 := hI.ownInstances g2 s2 h2 loc a2 hns
  exact hne (o1.symm.trans o2)

/-! ### non-vacuity: a concrete two-goroutine system satisfying the premise, and one violating it -/

/-- goroutine 0 and 1 both read the shared table entry 0 and work on their own cell (10 / 11) -/
def demoProg : Gid → List Step
  | 0 => [.read 0 0, .write 10 (fun p => p 0 + 1), .read 1 10]
  | 1 => [.read 0 0, .write 11 (fun p => p 0 * 2), .read 1 11]
  | _ => []

def demoShared : Nat → Prop := fun l => l < 10
def demoOwner : Nat → Nat := fun l => if l = 11 then 1 else 0

theorem demo_independent : Independent demoProg demoShared demoOwner := by
  constructor
  · intro g s hs loc hw
    match g with
    | 0 =>
      simp only [demoProg, List.mem_cons, List.not_mem_nil, or_false] at hs
      rcases hs with rfl | rfl | rfl <;> simp only [Step.writes] at hw <;> (unfold demoShared; omega)
    | 1 =>
      simp only [demoProg, List.mem_cons, List.not_mem_nil, or_false] at hs
      rcases hs with rfl | rfl | rfl <;> simp only [Step.writes] at hw <;> (unfold demoShared; omega)
    | n + 2 => simp [demoProg] at hs
  · intro g s hs loc ha hn
    unfold demoShared at hn
    match g with
    | 0 =>
      simp only [demoProg, List.mem_cons, List.not_mem_nil, or_false] at hs
      rcases hs with rfl | rfl | rfl <;>
        simp only [Step.accesses, Step.reads, Step.writes, or_false, false_or] at ha <;>
        (simp only [demoOwner]; split <;> first | rfl | (exfalso; omega))
    | 1 =>
      simp only [demoProg, List.mem_cons, List.not_mem_nil, or_false] at hs
      rcases hs with rfl | rfl | rfl <;>
        simp only [Step.accesses, Step.reads, Step.writes, or_false, false_or] at ha <;>
        (simp only [demoOwner]; split <;> first | rfl | (exfalso; omega))
    | n + 2 => simp [demoProg] at hs

def demoG0 : GStore := fun l => if l = 0 then 7 else 0

example : (run demoProg [0, 1, 1, 0, 1, 0] (init (fun _ _ => 0) demoG0)).P 0 1 = 8 := by decide
example : (run demoProg [1, 1, 1, 0, 0, 0] (init (fun _ _ => 0) demoG0)).P 1 1 = 14 := by decide

/-- the premise is necessary: hoist the scratch cell into ONE shared location (both goroutines
    write location 5) and the result depends on the schedule -/
def racyProg : Gid → List Step
  | 0 => [.write 5 (fun _ => 1), .read 1 5]
  | 1 => [.write 5 (fun _ => 2), .read 1 5]
  | _ => []

theorem racy_depends_on_schedule :
    (run racyProg [0, 0, 1, 1] (init (fun _ _ => 0) (fun _ => 0))).P 0 1 ≠
    (run racyProg [0, 1, 0, 1] (init (fun _ _ => 0) (fun _ => 0))).P 0 1 := by decide

end Gzx.Properties.C18
