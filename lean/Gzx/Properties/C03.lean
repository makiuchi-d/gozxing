/-
  C03 — 1-D symbologies: a written barcode reads back as the same content and format.
  Property theorems, each with its proof (helper lemmas: Gzx/Proofs/OneD.lean, C128Loop.lean, OneDCodabar.lean,
  Upcean*.lean).
  Model: Gzx/Model/OneD.lean, tied to /repo/oned by the `c03` correspondence suite and, for the writers, by the
  regenerated Go of Obligations/K03w*.lean (equal for every input); pattern tables are
  parameters (`Tables`), the regenerated tables of /repo are shown equal to `refTables` and well-formed in
  Obligations/C03.lean.
-/
import Gzx.Proofs.OneD
import Gzx.Proofs.C128Loop
import Gzx.Proofs.UpceanWrite
import Gzx.Proofs.OneDCodabar
import Gzx.Properties.C10
namespace Gzx.Properties.C03
open Gzx Gzx.CheckDigit Gzx.OneD

/-! ### full-ASCII escaping (Code 39 extended mode, Code 93) -/

/-- Clause "Code 39 incl. full ASCII … reads back as exactly that content", escaping layer:
    `code39DecodeExtended ∘ code39TryToConvertToExtendedMode = id` on every ASCII string (0..127). -/
theorem ext39_inv (cs : List Nat) (h : ∀ c ∈ cs, c < 128) :
    ∃ e, code39Escape cs = .ok e ∧ code39Unescape e = .ok cs :=
  unescape_escape (escL := code39Escape) (unesc := code39Unescape) rfl (fun _ _ => rfl) rfl unescape39_escape1 cs h

/-- the same for Code 93: `code93DecodeExtended ∘ code93ConvertToExtended = id` on ASCII 0..127 -/
theorem ext93_inv (cs : List Nat) (h : ∀ c ∈ cs, c < 128) :
    ∃ e, code93Escape cs = .ok e ∧ code93Unescape e = .ok cs :=
  unescape_escape (escL := code93Escape) (unesc := code93Unescape) rfl (fun _ _ => rfl) rfl unescape93_escape1 cs h

/-- bytes ≥ 128 cannot be escaped: both writers refuse them (clause "characters outside the alphabet are rejected") -/
theorem ext_rejects_non_ascii (c : Nat) (hc : 128 ≤ c) :
    code39Escape1 c = .error .writer ∧ code93Escape1 c = .error .writer :=
  ⟨esc39_ge c hc, esc93_ge c hc⟩

/-! ### module level: the pattern tables are inverted exactly -/

/-- Clause "Code 128 … reads back", module layer: for every table of 106 six-element patterns and a seven-element
    STOP pattern with positive widths, pairwise distinct, the module pattern the writer draws for symbol
    characters `body ++ [STOP]` is split back into exactly these characters (run lengths in groups of six, table
    lookup), i.e. module-level reading = symbol-level reading of what was drawn. -/
theorem code128_ideal_decode_encode (T : Tables) (hT : WF128 T.code128 = true) (body : List Nat)
    (hb : ∀ c ∈ body, c < 106) :
    ∃ mods, code128Draw T (body ++ [106]) = .ok mods ∧
      code128Ideal T mods = code128ReadCodes (body ++ [106]) := by
  have hdraw := code128Draw_body_stop T hT body hb
  obtain ⟨hlen, hnd, h6, hstop'⟩ := wf128_rows hT
  generalize hP : T.code128 = P at *
  let W := body.map (fun c => P.getD c [])
  let stop := P.getD 106 []
  have hstop : stop.length = 7 ∧ ∀ w ∈ stop, 0 < w := hstop'
  have hW : ∀ p ∈ W, p.length = 6 ∧ ∀ w ∈ p, 0 < w := by
    intro p hp
    obtain ⟨c, hc, rfl⟩ := List.mem_map.mp hp
    exact h6 c (hb c hc)
  refine ⟨appendPattern (W.flatten ++ stop) true, hdraw, ?_⟩
  have hRpos : ∀ w ∈ W.flatten ++ stop, 0 < w := by
    intro w hw
    simp only [List.mem_append, List.mem_flatten] at hw
    rcases hw with ⟨p, hp, hwp⟩ | hw
    · exact (hW p hp).2 w hwp
    · exact hstop.2 w hw
  have hRne : W.flatten ++ stop ≠ [] := by
    intro e
    have := congrArg List.length e
    simp only [List.length_append, hstop.1, List.length_nil] at this; omega
  have hhead := appendPattern_head _ true hRne hRpos
  have hruns := runs_appendPattern _ true hRpos
  have hWlen : W.flatten.length = 6 * body.length := by
    have := flatten_length_const W 6 (fun p hp => (hW p hp).1)
    simpa [W] using this
  have htake : (W.flatten ++ stop).take ((W.flatten ++ stop).length - 7) = W.flatten := by
    have : (W.flatten ++ stop).length - 7 = W.flatten.length := by simp [hstop.1]
    rw [this, List.take_left']
    rfl
  have hdrop : (W.flatten ++ stop).drop ((W.flatten ++ stop).length - 7) = stop := by
    have : (W.flatten ++ stop).length - 7 = W.flatten.length := by simp [hstop.1]
    rw [this, List.drop_left']
    rfl
  have hdec : ((chunks 6 W.flatten.length W.flatten).filter (· ≠ [])).mapM (patLookup P) = .ok body := by
    have := chunks_decode 6 (by omega) (fun c => P.getD c []) (patLookup P) id body
      (fun c hc => (hW _ (List.mem_map_of_mem hc)).1)
      (fun c hc => by unfold patLookup; rw [patIndex?_getD P hnd c (by have := hb c hc; omega)]; rfl)
    rwa [List.map_id] at this
  have hstopIdx : patIndex? stop P = some 106 := patIndex?_getD P hnd 106 (by omega)
  unfold code128Ideal
  rw [hP]
  simp only [hhead, hruns, ne_eq, not_true_eq_false, if_false, bind, Except.bind]
  have h7' : ¬ (W.flatten ++ stop).length < 7 := by simp [hstop.1]
  simp only [h7', if_false, htake, hdrop, hWlen]
  have h6' : 6 * body.length % 6 = 0 := by omega
  simp only [h6', not_true_eq_false, if_false]
  rw [← hWlen, hdec]
  simp only [hstopIdx]

/-- Clause "ITF … reads back", module layer: for every table of ten distinct five-element patterns and positive
    guards, the module pattern drawn for a digit string of even length is split back into exactly these digits
    (guards recognised, ten runs per pair de-interleaved, table lookup) and then judged by the reader's length rule. -/
theorem itf_ideal_decode_encode (T : Tables) (hT : WFITF T = true) (allowed : List Nat) (ds : List Nat)
    (hd : ∀ d ∈ ds, d < 10) (heven : ds.length % 2 = 0) :
    ∃ mods, itfDraw T ds = .ok mods ∧ itfIdeal T allowed mods = itfReadDigits allowed ds := by
  have hdraw := itfDraw_runs T hT ds hd
  simp only [WFITF, Bool.and_eq_true, beq_iff_eq, decide_eq_true_eq, List.all_eq_true] at hT
  obtain ⟨⟨⟨⟨⟨⟨hlen, hpat⟩, hnd⟩, hsl⟩, hsp⟩, hel⟩, hep⟩ := hT
  generalize hW : T.itfWriter = W at *
  generalize hS : T.itfStart = start at *
  generalize hE : T.itfEnd = stop at *
  have hpatD : ∀ d, d < 10 → (W.getD d []).length = 5 ∧ ∀ w ∈ W.getD d [], 0 < w := by
    intro d hd10
    have hm : W.getD d [] ∈ W := by
      have : W.getD d [] = W[d]'(by omega) := by
        simp [List.getD_eq_getElem?_getD, List.getElem?_eq_getElem (show d < W.length by omega)]
      rw [this]; exact List.getElem_mem _
    have := hpat _ hm
    exact ⟨this.1, this.2⟩
  let enc : Nat × Nat → List Nat := fun p => interleave (W.getD p.1 []) (W.getD p.2 [])
  let pairsW := (itfPairs ds).map enc
  have hpairs : ∀ p ∈ itfPairs ds, p.1 < 10 ∧ p.2 < 10 := fun p hp =>
    ⟨hd _ (itfPairs_mem ds p hp).1, hd _ (itfPairs_mem ds p hp).2⟩
  have hpW : ∀ c ∈ pairsW, c.length = 10 ∧ ∀ w ∈ c, 0 < w := by
    intro c hc
    obtain ⟨p, hp, rfl⟩ := List.mem_map.mp hc
    have h1 := hpatD p.1 (hpairs p hp).1
    have h2 := hpatD p.2 (hpairs p hp).2
    refine ⟨by simp only [enc]; rw [interleave_length _ _ (by omega)]; omega, ?_⟩
    intro w hw
    rcases interleave_mem _ _ w hw with h | h
    · exact h1.2 w h
    · exact h2.2 w h
  refine ⟨appendPattern (start ++ pairsW.flatten ++ stop) true, hdraw, ?_⟩
  have hRpos : ∀ w ∈ start ++ pairsW.flatten ++ stop, 0 < w := by
    intro w hw
    simp only [List.mem_append, List.mem_flatten] at hw
    rcases hw with (hw | ⟨c, hc, hwc⟩) | hw
    · have := hsp w hw; simpa using this
    · exact (hpW c hc).2 w hwc
    · have := hep w hw; simpa using this
  have hRne : start ++ pairsW.flatten ++ stop ≠ [] := by
    intro e
    have := congrArg List.length e
    simp only [List.length_append, hsl, hel, List.length_nil] at this; omega
  have hhead := appendPattern_head _ true hRne hRpos
  have hruns := runs_appendPattern _ true hRpos
  have hflen : pairsW.flatten.length = 10 * pairsW.length := flatten_length_const pairsW 10 (fun c hc => (hpW c hc).1)
  have hRlen : (start ++ pairsW.flatten ++ stop).length = pairsW.flatten.length + 7 := by
    simp only [List.length_append, hsl, hel]; omega
  have htake4 : (start ++ pairsW.flatten ++ stop).take 4 = start := by
    rw [List.append_assoc, ← hsl, List.take_left']; rfl
  have hdrop3 : (start ++ pairsW.flatten ++ stop).drop ((start ++ pairsW.flatten ++ stop).length - 3) = stop := by
    have : (start ++ pairsW.flatten ++ stop).length - 3 = (start ++ pairsW.flatten).length := by
      simp only [List.length_append, hel]; omega
    rw [this, List.drop_left']; rfl
  have hbody : ((start ++ pairsW.flatten ++ stop).drop 4).take ((start ++ pairsW.flatten ++ stop).length - 7)
      = pairsW.flatten := by
    have h1 : (start ++ pairsW.flatten ++ stop).drop 4 = pairsW.flatten ++ stop := by
      rw [List.append_assoc, ← hsl, List.drop_left']; rfl
    rw [h1, hRlen, Nat.add_sub_cancel, List.take_left']; rfl
  have hdec : ((chunks 10 pairsW.flatten.length pairsW.flatten).filter (· ≠ [])).mapM (itfPairRead W)
      = .ok ((itfPairs ds).map (fun p => [p.1, p.2])) := by
    refine chunks_decode 10 (by omega) enc (itfPairRead W) (fun p => [p.1, p.2]) (itfPairs ds)
      (fun p hp => (hpW _ (List.mem_map_of_mem hp)).1) (fun p hp => ?_)
    have h1 := (hpairs p hp).1
    have h2 := (hpairs p hp).2
    have hl : (W.getD p.1 []).length = (W.getD p.2 []).length := by
      rw [(hpatD _ h1).1, (hpatD _ h2).1]
    simp only [itfPairRead, enc, deinterleave_interleave _ _ hl, patLookup, patIndex?_getD W hnd p.1 (by omega),
      patIndex?_getD W hnd p.2 (by omega), bind, Except.bind, pure, Except.pure]
  unfold itfIdeal
  rw [hW, hS, hE]
  simp only [hhead, hruns, ne_eq, not_true_eq_false, if_false, bind, Except.bind]
  have hc1 : ¬ ((start ++ pairsW.flatten ++ stop).length < 7 ∨ ¬ (start ++ pairsW.flatten ++ stop).take 4 = start ∨
      ¬ (start ++ pairsW.flatten ++ stop).drop ((start ++ pairsW.flatten ++ stop).length - 3) = stop) := by
    rw [htake4, hdrop3, hRlen]; simp
  simp only [hc1, if_false, hbody]
  have hc2 : pairsW.flatten.length % 10 = 0 := by rw [hflen]; omega
  simp only [hc2, not_true_eq_false, if_false, hdec, itfPairs_flatten ds heven]


/-! ### Code 128 code-set automaton -/

/-- all sequences of at most `n` character classes: digit pair "12", single digit "7", upper-case "A",
    lower-case "a", control character 0x01 — the classes `code128ChooseCode` distinguishes -/
def classSeqs : Nat → List (List Nat)
  | 0 => [[]]
  | n + 1 => [] :: (classSeqs n).flatMap (fun s => [[49, 50] ++ s, [55] ++ s, [65] ++ s, [97] ++ s, [1] ++ s])

/-- Clause "Code 128: ASCII 0-127 up to 80 chars incl. digit runs that trigger code set C and control characters
    that trigger code set A … read(write(c)) == c", symbol layer, FULL: whatever sequence of code sets the
    `chooseCode` look-ahead automaton selects for an ASCII content, the symbol characters the writer emits (start
    code, data, code-set switches, mod-103 check character, STOP) are decoded by the reader's state machine —
    including its treatment of the check character as data and its removal afterwards — to exactly the content. -/
theorem code128_codeset_inv (contents codes : List Nat) (hascii : ∀ c ∈ contents, c < 128)
    (h : code128Codes contents none = .ok codes) : code128ReadCodes codes = .ok contents :=
  code128_inv (Or.inl rfl) contents codes hascii h

theorem classSeqs_ascii (n : Nat) : ∀ s ∈ classSeqs n, s.all (· < 128) = true ∧ s.length ≤ 2 * n := by
  induction n with
  | zero => intro s hs; simp [classSeqs] at hs; subst hs; simp
  | succ n ih =>
    intro s hs
    simp only [classSeqs, List.mem_cons, List.mem_flatMap] at hs
    rcases hs with rfl | ⟨t, ht, hs⟩
    · simp
    · obtain ⟨h1, h2⟩ := ih t ht
      simp only [List.not_mem_nil, or_false] at hs
      rcases hs with rfl | rfl | rfl | rfl | rfl <;> exact ⟨by simp [h1], by simp; omega⟩

/-- non-vacuity / regression: the identity on all 780 non-empty sequences of at most four character classes (digit
    pair, digit, upper case, lower case, control) — every start-code choice and every A/B/C switch pattern of that
    depth.  The writer accepts each of them (`code128Codes_ok`), so this is `code128_codeset_inv` 780 times. -/
theorem code128_codeset_inv_depth4 :
    ((classSeqs 4).filter (· ≠ [])).all
      (fun s => (match code128Codes s none with | .ok cs => code128ReadCodes cs | .error e => .error e) == .ok s) = true := by
  rw [List.all_eq_true]
  intro s hs
  obtain ⟨hmem, hne⟩ := List.mem_filter.mp hs
  obtain ⟨hall, hlen⟩ := classSeqs_ascii 4 s hmem
  have hascii : ∀ c ∈ s, c < 128 := fun c hc => by simpa using List.all_eq_true.mp hall c hc
  have hpos : 1 ≤ s.length := by
    cases s with
    | nil => simp at hne
    | cons _ _ => simp
  obtain ⟨codes, hc⟩ := code128Codes_ok s hpos (by omega)
    (List.all_eq_true.mpr fun c hm => charOk_ascii c (hascii c hm))
  simp only [hc, code128_codeset_inv s codes hascii hc, beq_self_eq_true]

/-- forced code sets (FORCE_CODE_SET hint) on admissible contents — A: control + upper case, B: printable,
    C: digit pairs: evaluated instances (the general statement is `code128_forced_inv` below) -/
theorem code128_forced_inv_examples :
    (match code128Codes [1, 65, 48, 95, 0] (some 101) with | .ok cs => code128ReadCodes cs | .error e => .error e) = .ok [1, 65, 48, 95, 0] ∧
    (match code128Codes [97, 65, 48, 126, 33] (some 100) with | .ok cs => code128ReadCodes cs | .error e => .error e) = .ok [97, 65, 48, 126, 33] ∧
    (match code128Codes [49, 50, 51, 52, 48, 48] (some 99) with | .ok cs => code128ReadCodes cs | .error e => .error e) = .ok [49, 50, 51, 52, 48, 48] := by
  decide +kernel

/-! ### rejection of inadmissible contents -/

/-- ITF: odd length, more than 80 digits or a non-digit is a WriterException; everything else is accepted -/
theorem itf_writer_rejects (contents : List Nat) :
    itfSymbols contents =
      if contents.length % 2 ≠ 0 ∨ contents.length > 80 ∨ allDigits contents = false then .error .writer
      else .ok (digitVals contents) := by
  unfold itfSymbols
  by_cases h1 : contents.length % 2 ≠ 0
  · simp [h1, throw, throwThe, MonadExceptOf.throw, bind, Except.bind]
  · by_cases h2 : contents.length > 80
    · simp [h1, h2, throw, throwThe, MonadExceptOf.throw, bind, Except.bind]
    · cases allDigits contents <;>
        simp [h1, h2, throw, throwThe, MonadExceptOf.throw, bind, Except.bind, pure, Except.pure]

/-- Code 128: empty or longer than 80 characters, or a character the (forced) code set cannot hold, is a WriterException -/
theorem code128_writer_rejects (contents : List Nat) (forced : Option Nat)
    (h : contents.length < 1 ∨ contents.length > 80 ∨ contents.all (c128CharOk forced) = false) :
    code128Codes contents forced = .error .writer :=
  code128Codes_rejects contents forced h

/-- characters ≥ 128 that are not FNC escapes are never admissible -/
theorem code128_char_rejected (forced : Option Nat) (c : Nat) (hc : c > 127) (hf : c < 0xF1 ∨ c > 0xF4) :
    c128CharOk forced c = false := by
  unfold c128CharOk
  have h1 : ¬ (c = 0xF1 ∨ c = 0xF2 ∨ c = 0xF3 ∨ c = 0xF4) := by omega
  have h2 : ¬ c ≤ 127 := by omega
  simp [h1, h2]

/-- UPC/EAN: the module encoders fail exactly when the check-digit stage of C10 fails (wrong length, non-digit,
    wrong supplied check digit — theorems writer_rejects_wrong_check, writer_rejects_length_and_alphabet,
    upce_writer_rejects_wrong_check of Properties/C10) -/
theorem upcean_writer_rejects (T : Tables) (contents : List Nat) (e : Fault) :
    (stdWriterContents 13 contents = .error e → ean13Modules T contents = .error e) ∧
    (stdWriterContents 8 contents = .error e → ean8Modules T contents = .error e) ∧
    (stdWriterContents 13 (48 :: contents) = .error e → upcaModules T contents = .error e) ∧
    (upceWriterContents contents = .error e → upceModules T contents = .error e) := by
  refine ⟨?_, ?_, ?_, ?_⟩ <;> intro h
  · simp [ean13Modules, h, bind, Except.bind]
  · simp [ean8Modules, h, bind, Except.bind]
  · simp [upcaModules, ean13Modules, h, bind, Except.bind]
  · simp [upceModules, h, bind, Except.bind]

/-! ### writer ∘ reader -/

/-- Clause "ITF: even digit strings of the reader's accepted lengths … read(write(c)) == c": composition of the writer
    (validation, interleaving, drawing) with the module-level reader, for every accepted content. -/
theorem itf_read_write (T : Tables) (hT : WFITF T = true) (allowed : List Nat) (contents : List Nat)
    (hdig : allDigits contents = true) (heven : contents.length % 2 = 0) (hlen : contents.length ≤ 80)
    (hallowed : allowed.contains contents.length = true ∨ contents.length > allowed.foldl max 0) :
    ∃ mods, itfModules T contents = .ok mods ∧ itfIdeal T allowed mods = .ok contents := by
  have hsym : itfSymbols contents = .ok (digitVals contents) := by
    rw [itf_writer_rejects]
    have : ¬ (contents.length % 2 ≠ 0 ∨ contents.length > 80 ∨ allDigits contents = false) := by
      simp [heven, hdig]; omega
    rw [if_neg this]
  have hdl : (digitVals contents).length = contents.length := by simp [digitVals]
  obtain ⟨mods, hdraw, hideal⟩ := itf_ideal_decode_encode T hT allowed (digitVals contents)
    (digitVals_lt contents hdig) (by rw [hdl]; exact heven)
  refine ⟨mods, ?_, ?_⟩
  · simp only [itfModules, hsym, bind, Except.bind]
    exact hdraw
  · rw [hideal]
    unfold itfReadDigits
    simp only [hdl]
    have : (allowed.contains contents.length = true ∨ contents.length > allowed.foldl max 0) := hallowed
    rw [if_pos this, digitVals_roundtrip contents hdig]

/-- Clause "Code 39 incl. full-ASCII … reads back as exactly that content", symbol layer: whatever symbol characters
    the Code 39 writer chooses for a non-empty ASCII content (plain when every character is in the 43-character
    alphabet, full-ASCII escapes otherwise), the matching reader mode (plain / extended) returns the content. -/
theorem code39_read_write (T : Tables) (contents syms : List Nat) (hne : contents ≠ [])
    (hascii : ∀ c ∈ contents, c < 128) (h : code39Symbols T contents = .ok syms) :
    code39ReadSymbols T syms (!(contents.all (fun c => (indexOf? c T.code39Alphabet).isSome))) = .ok contents := by
  unfold code39Symbols at h
  simp only [bind, Except.bind, pure, Except.pure, throw, throwThe, MonadExceptOf.throw] at h
  split at h
  · cases h
  · by_cases hall : contents.all (fun c => (indexOf? c T.code39Alphabet).isSome) = true
    · simp only [hall, if_true] at h
      have hchars := mapM_alphaIndex_nth _ _ _ h
      unfold code39ReadSymbols
      simp only [hchars, bind, Except.bind, pure, Except.pure, hall, Bool.not_true]
      have : contents.isEmpty = false := by cases contents <;> simp_all
      simp [this]
    · have hall' : contents.all (fun c => (indexOf? c T.code39Alphabet).isSome) = false := by
        simpa using hall
      obtain ⟨e, he, hu⟩ := ext39_inv contents hascii
      simp only [hall', Bool.false_eq_true, if_false, he] at h
      split at h
      · cases h
      · have hchars := mapM_alphaIndex_nth _ _ _ h
        unfold code39ReadSymbols
        simp only [hchars, bind, Except.bind, pure, Except.pure, hall', Bool.not_false]
        have : e.isEmpty = false := by
          cases e with
          | nil => simp [code39Unescape] at hu; exact absurd hu hne
          | cons _ _ => rfl
        simp [this, hu]

/-- Clause "Code 93: ASCII 0-127 … reads back", symbol layer: the characters the Code 93 writer draws for an ASCII
    content (escapes, C and K) pass the reader's checksum test and unescape to the content. -/
theorem code93_read_write (T : Tables) (contents syms : List Nat)
    (hascii : ∀ c ∈ contents, c < 128) (h : code93Symbols T contents = .ok syms) :
    code93ReadSymbols T syms = .ok contents := by
  unfold code93Symbols at h
  obtain ⟨e, he, hu⟩ := ext93_inv contents hascii
  simp only [he, bind, Except.bind, pure, Except.pure, throw, throwThe, MonadExceptOf.throw] at h
  split at h
  · cases h
  · split at h
    · cases h
    · rename_i vals hvals
      cases h
      have hchars := mapM_alphaIndex_nth _ _ _ hvals
      unfold code93ReadSymbols
      have hl : ¬ (vals ++ [(c93Checks vals).1, (c93Checks vals).2]).length < 2 := by simp
      have htake : (vals ++ [(c93Checks vals).1, (c93Checks vals).2]).take
          ((vals ++ [(c93Checks vals).1, (c93Checks vals).2]).length - 2) = vals := by
        have : (vals ++ [(c93Checks vals).1, (c93Checks vals).2]).length - 2 = vals.length := by simp
        rw [this, List.take_left']; rfl
      simp only [hl, if_false, bind, Except.bind, throw, throwThe, MonadExceptOf.throw,
        Properties.C10.code93_writer_checks_accepted vals, htake, hchars, hu]

/-- Clause "Code 128 … read(write(c)) == c", writer to module pattern to reader: for every well-formed pattern table
    and every ASCII content the writer accepts (no forced code set), the module pattern it draws is read back, at
    module level (run lengths, table lookup, the reader's state machine and checksum test), as the content. -/
theorem code128_read_write (T : Tables) (hT : WF128 T.code128 = true) (contents : List Nat) (mods : List Bool)
    (hascii : ∀ c ∈ contents, c < 128) (h : code128Modules T contents none = .ok mods) :
    code128Ideal T mods = .ok contents := by
  unfold code128Modules at h
  simp only [bind, Except.bind] at h
  split at h
  · cases h
  · rename_i codes hcodes
    have hread := code128_codeset_inv contents codes hascii hcodes
    obtain ⟨body, rfl, hb⟩ := code128Codes_shape (Or.inl rfl) contents codes hcodes
    obtain ⟨mods', hdraw, hideal⟩ := code128_ideal_decode_encode T hT body hb
    rw [hdraw] at h
    cases h
    rw [hideal, hread]

/-- Clause "Code 128 … and each forced code set": with the FORCE_CODE_SET hint (A, B or C) every ASCII content the
    writer accepts for that set is emitted entirely in that set and decoded by the reader's state machine to
    exactly the content. -/
theorem code128_forced_inv (f : Nat) (hf : f = 99 ∨ f = 100 ∨ f = 101) (contents codes : List Nat)
    (hascii : ∀ c ∈ contents, c < 128) (h : code128Codes contents (some f) = .ok codes) :
    code128ReadCodes codes = .ok contents :=
  code128_inv (by rcases hf with rfl | rfl | rfl <;> simp [ForcedOK]) contents codes hascii h

/-! ### Codabar -/

/-- Clause "Codabar … reads back", module layer: for every table of twenty pairwise distinct 7-bit words, the module
    pattern drawn for the alphabet indices `idx` (start, data…, stop; 7 elements narrow = 1 / wide = 2 modules and a
    narrow gap between characters) is split back into exactly these indices and then judged by the reader's guard and
    length rules. -/
theorem codabar_ideal_decode_encode (T : Tables) (hT : WFCodabar T = true) (idx : List Nat)
    (hidx : ∀ i ∈ idx, i < 20) (hne : idx ≠ []) :
    codabarIdeal T (codabarDraw (idx.map (fun i => T.codabarEnc.getD i 0))) = codabarReadSymbols T idx := by
  obtain ⟨init, l, rfl⟩ : ∃ init l, idx = init ++ [l] :=
    ⟨idx.dropLast, idx.getLast hne, (List.dropLast_concat_getLast hne).symm⟩
  let E := fun i => T.codabarEnc.getD i 0
  have hruns : cbRuns ((init ++ [l]).map E) = ((init.map E).map (fun w => codabarWidths w ++ [1])).flatten ++ codabarWidths (E l) := by
    rw [List.map_append]; exact cbRuns_snoc _ _
  obtain ⟨xs, hxsdef⟩ : ∃ xs, xs = (init.map E).map (fun w => codabarWidths w ++ [1]) := ⟨_, rfl⟩
  rw [← hxsdef] at hruns
  have hxs : ∀ x ∈ xs, x.length = 8 := by
    intro x hx
    rw [hxsdef] at hx
    simp only [List.mem_map] at hx
    obtain ⟨w, _, rfl⟩ := hx
    simp [(codabarWidths_shape w).1]
  have hpos : ∀ w ∈ xs.flatten ++ codabarWidths (E l), 0 < w := by
    intro w hw
    simp only [List.mem_append, List.mem_flatten] at hw
    rcases hw with ⟨x, hx, hwx⟩ | hw
    · rw [hxsdef] at hx
      simp only [List.mem_map] at hx
      obtain ⟨v, _, rfl⟩ := hx
      simp only [List.mem_append, List.mem_singleton] at hwx
      rcases hwx with hwx | rfl
      · rcases (codabarWidths_shape v).2.1 w hwx with h | h <;> omega
      · omega
    · rcases (codabarWidths_shape (E l)).2.1 w hw with h | h <;> omega
  have hl7 := (codabarWidths_shape (E l)).1
  have hne' : xs.flatten ++ codabarWidths (E l) ≠ [] := by
    intro e
    have := congrArg List.length e
    simp [hl7] at this
  have hflen : xs.flatten.length = 8 * xs.length := flatten_length_const xs 8 hxs
  have hlenR : (xs.flatten ++ codabarWidths (E l)).length = 8 * xs.length + 7 := by
    simp only [List.length_append, hflen, hl7]
  have hchunks : chunks 8 (xs.flatten ++ codabarWidths (E l)).length (xs.flatten ++ codabarWidths (E l))
      = xs ++ [codabarWidths (E l)] :=
    chunks_flatten 8 xs _ hxs (by omega) (by omega) _ (by rw [hlenR]; omega)
  have hfilter : (xs ++ [codabarWidths (E l)]).filter (· ≠ []) = xs ++ [codabarWidths (E l)] := by
    rw [List.filter_eq_self]
    intro x hx
    simp only [List.mem_append, List.mem_singleton] at hx
    have : x.length ≠ 0 := by
      rcases hx with hx | rfl
      · rw [hxs x hx]; omega
      · rw [hl7]; omega
    have : x ≠ [] := by intro e; rw [e] at this; simp at this
    simpa using this
  have hmap : (xs ++ [codabarWidths (E l)]).mapM (cbChunk T) = .ok (init ++ [l]) := by
    have hzip : xs ++ [codabarWidths (E l)] =
        (init.map (fun i => codabarWidths (E i) ++ [1])) ++ [codabarWidths (E l)] := by
      rw [hxsdef]; simp [List.map_map, Function.comp_def]
    rw [hzip]
    have : ∀ (a : List Nat), (∀ i ∈ a, i < 20) →
        (a.map (fun i => codabarWidths (E i) ++ [1]) ++ [codabarWidths (E l)]).mapM (cbChunk T) = .ok (a ++ [l]) := by
      intro a
      induction a with
      | nil =>
        intro _
        have := cbChunk_ok T hT l (hidx l (by simp)) (codabarWidths (E l)) (Or.inr rfl)
        simp only [List.map_nil, List.nil_append, List.mapM_cons, List.mapM_nil, this, bind, Except.bind, pure, Except.pure]
      | cons i a ih =>
        intro ha
        have := cbChunk_ok T hT i (ha i (by simp)) (codabarWidths (E i) ++ [1]) (Or.inl rfl)
        simp only [List.map_cons, List.cons_append, List.mapM_cons, this, bind, Except.bind, pure, Except.pure,
          ih (fun k hk => ha k (by simp [hk]))]
    exact this init (fun i hi => hidx i (by simp [hi]))
  unfold cbChunk at hmap
  unfold codabarIdeal
  rw [codabarDraw_runs, hruns]
  have hhead := appendPattern_head _ true hne' hpos
  have hr := runs_appendPattern _ true hpos
  simp only [hhead, hr, ne_eq, not_true_eq_false, if_false, bind, Except.bind]
  have h87 : (8 * xs.length + 7) % 8 = 7 := by omega
  simp only [hlenR, h87, not_true_eq_false, if_false]
  rw [← hlenR, hchunks, hfilter, hmap]

/-- Clause "Codabar: digits and - $ : / . + between start/stop characters A-D (also written T N * E or in lower case;
    A…A is added when the content has no guards) … read(write(c)) == c without the guards": for every table of twenty
    pairwise distinct 7-bit words over the standard alphabet, every content the writer accepts (`codabarFull contents
    = ok full`, `full` = the characters drawn incl. guards) with at least two data characters (the reader refuses
    shorter symbols) is drawn as a module pattern that the module-level reader returns as exactly the data characters
    between the guards. -/
theorem codabar_read_write (T : Tables) (hT : WFCodabar T = true) (hA : T.codabarAlphabet = refTables.codabarAlphabet)
    (contents full : List Nat) (h : codabarFull contents = .ok full) (hlen : full.length > 3) :
    ∃ mods, codabarModules T contents = .ok mods ∧ codabarIdeal T mods = .ok ((full.drop 1).dropLast) := by
  obtain ⟨f, mid, l, rfl, hf, hl, hmid⟩ := codabarFull_spec contents full h
  have hT' := hT
  simp only [WFCodabar, Bool.and_eq_true, beq_iff_eq, List.all_eq_true, decide_eq_true_eq] at hT'
  obtain ⟨⟨hlen20, _⟩, _⟩ := hT'
  generalize hn : (f :: (mid ++ [l])).length = n at *
  let chars := codabarGuardMap (toUpperByte f) :: (mid ++ [codabarGuardMap (toUpperByte l)])
  have hchars := cbChars_eq f l mid hmid
  rw [hn] at hchars
  have hmem : ∀ c ∈ chars, c ∈ refTables.codabarAlphabet := by
    intro c hc
    simp only [chars, List.mem_cons, List.mem_append, List.mem_nil_iff, or_false] at hc
    rcases hc with rfl | hc | rfl
    · exact guard_mem _ hf
    · exact (mid_mem c (hmid c hc)).2
    · exact guard_mem _ hl
  have hmemi : ∀ i, i < n → cbChar n i ((f :: (mid ++ [l])).getD i 0) ∈ refTables.codabarAlphabet := by
    intro i hi
    apply hmem
    have : cbChar n i ((f :: (mid ++ [l])).getD i 0) ∈
        (List.range n).map (fun i => cbChar n i ((f :: (mid ++ [l])).getD i 0)) :=
      List.mem_map.mpr ⟨i, by simpa using hi, rfl⟩
    rw [hchars] at this
    exact this
  have hwords : codabarWords T (f :: (mid ++ [l])) =
      .ok ((chars.map (cbIdx T.codabarAlphabet)).map (fun i => T.codabarEnc.getD i 0)) := by
    have e : (chars.map (cbIdx T.codabarAlphabet)).map (fun i => T.codabarEnc.getD i 0)
        = (List.range n).map (fun i => T.codabarEnc.getD
            (cbIdx T.codabarAlphabet (cbChar n i ((f :: (mid ++ [l])).getD i 0))) 0) := by
      simp only [chars, ← hchars, List.map_map, Function.comp_def]
    rw [e]
    unfold codabarWords
    simp only [hn]
    apply mapM_ok
    intro i hi
    have hi' : i < n := by simpa using hi
    obtain ⟨k, hk, hk20, _⟩ := refA_mem _ (hmemi i hi')
    have hnth := nthN_getD' (f :: (mid ++ [l])) i (by rw [hn]; exact hi')
    simp only [hnth, bind, Except.bind, pure, Except.pure]
    have hch : (if i = 0 ∨ i + 1 = n then codabarGuardMap (toUpperByte ((f :: (mid ++ [l])).getD i 0))
        else toUpperByte ((f :: (mid ++ [l])).getD i 0)) = cbChar n i ((f :: (mid ++ [l])).getD i 0) := rfl
    rw [hch, hA, hk]
    simp only [cbIdx, hk, Option.getD_some]
    exact nthN_getD' _ _ (by omega)
  refine ⟨codabarDraw ((chars.map (cbIdx T.codabarAlphabet)).map (fun i => T.codabarEnc.getD i 0)),
    by simp only [codabarModules, h, hwords, bind, Except.bind, pure, Except.pure], ?_⟩
  have hidx : ∀ i ∈ chars.map (cbIdx T.codabarAlphabet), i < 20 := by
    intro i hi
    obtain ⟨c, hc, rfl⟩ := List.mem_map.mp hi
    obtain ⟨k, hk, hk20, _⟩ := refA_mem c (hmem c hc)
    simp only [cbIdx, hA, hk, Option.getD_some]; exact hk20
  rw [codabar_ideal_decode_encode T hT _ hidx (by simp [chars])]
  have hback : (chars.map (cbIdx T.codabarAlphabet)).mapM (nth T.codabarAlphabet) = .ok chars := by
    have := mapM_ok (nth T.codabarAlphabet) (fun k => T.codabarAlphabet.getD k 0) (chars.map (cbIdx T.codabarAlphabet)) (by
      intro k hk
      exact nthN_getD' _ _ (by
        rw [hA]; have := hidx k hk
        have h20 : refTables.codabarAlphabet.length = 20 := by decide
        omega))
    rw [this, List.map_map]
    congr 1
    conv => rhs; rw [← List.map_id chars]
    apply List.map_congr_left
    intro c hc
    obtain ⟨k, hk, hk20, hget⟩ := refA_mem c (hmem c hc)
    simp only [Function.comp, cbIdx, hA, hk, Option.getD_some, List.getD_eq_getElem?_getD, hget, id]
  unfold codabarReadSymbols
  simp only [hback, bind, Except.bind, pure, Except.pure]
  have hhead : chars.head? = some (codabarGuardMap (toUpperByte f)) := rfl
  have hlast : chars.getLast? = some (codabarGuardMap (toUpperByte l)) := by
    simp only [chars]; rw [← List.cons_append, List.getLast?_concat]
  have hcl : chars.length = n := by rw [← hn]; simp [chars]
  simp only [hhead, hlast]
  unfold cbGuardOk at hf hl
  have h3 : ¬ chars.length ≤ 3 := by omega
  simp only [hf, hl, Bool.not_true, Bool.false_eq_true, if_false, h3, throw, throwThe, MonadExceptOf.throw]
  simp [chars]

/-! ### the UPC/EAN row decoder returns only verified numbers -/

/-- Clause (C10) "Readers never return a symbol whose check characters do not verify", on the row-decoder model:
    whatever pixel row is given, any text `decodeRow` returns has passed `checkChecksum` — for EAN-13 / EAN-8 the
    mod-10 test, for UPC-E the mod-10 test of the expansion, for UPC-A the EAN-13 test of "0"+text.
    By inspection of the control flow: the checksum test is the last gate before the result. -/
theorem reader_result_verifies (T : Tables) (k : EanKind) (row : List Bool) (text : List Nat)
    (h : decodeRow T k row = .ok text) :
    readerAccept (if k = .upca then .ean13 else k) (if k = .upca then 48 :: text else text) = .ok () := by
  obtain ⟨sg, -, h⟩ := bind_ok h
  -- whichever middle decoder ran, the tail is the same
  have tail : ∀ (mid : Res (Nat × List Nat)),
      (mid >>= fun (x : Nat × List Nat) => (do
        let endRange ← notFoundOf (match k with
          | .upce => findGuardPattern row x.1 true T.upceMiddleEnd
          | _ => findGuardPattern row x.1 false T.startEnd)
        let e := endRange.2
        let quietEnd := e + (e - endRange.1)
        if quietEnd ≥ row.length then throw .notFound
        if !(isRangeWhite row e quietEnd) then throw .notFound
        match readerAccept (if k = .upca then .ean13 else k) x.2 with
        | .error err => throw err
        | .ok () =>
          if k = .upca then
            match x.2 with
            | 48 :: rest => pure rest
            | _ => throw .format
          else pure x.2 : Res (List Nat))) = .ok text →
      readerAccept (if k = .upca then .ean13 else k) (if k = .upca then 48 :: text else text) = .ok () := by
    intro mid hm
    obtain ⟨⟨e0, result⟩, -, hm⟩ := bind_ok hm
    obtain ⟨endRange, -, hm⟩ := bind_ok hm
    simp only [bind, Except.bind, pure, Except.pure, throw, throwThe, MonadExceptOf.throw] at hm
    split at hm
    · cases hm
    · split at hm
      · cases hm
      · split at hm
        · cases hm
        · rename_i hacc
          by_cases hk : k = .upca
          · simp only [hk, if_true] at hm hacc ⊢
            split at hm
            · cases hm; exact hacc
            · cases hm
          · simp only [hk, if_false] at hm hacc ⊢
            cases hm; exact hacc
  unfold decodeWithStart at h
  cases k <;> exact tail _ h

/-! ### the faithful row decoder reads what the UPC/EAN writers wrote -/

/-- Clause "EAN-13 / EAN-8 / UPC-A / UPC-E: read(write(c)) == c (with the check digit appended when the writer
    computed it), same format", FULL on the row-decoder model, at every scale:
    for every table `T` that is well-formed (`WFUpcEan`: ten L patterns of four positive widths summing to 7, the twenty
    L/G patterns pairwise distinct, guards non-empty with positive widths and alternating colours, the UPC-E reader's
    end pattern = the writer's, parity tables of pairwise distinct 6-bit words — discharged for the regenerated tables
    of /repo in Obligations/C03.lean), every symbology `k`, every content the writer accepts (`writerContents k contents
    = ok full`, `full` = the digit string incl. check digit), the writer draws a module pattern `mods`, and for every
    scale `s ≥ 1` (pixels per module) and quiet zones `lq ≥ s·|start guard|` on the left, `rq > s·|end guard|` on the
    right (start guard 3 modules; end guard 3 modules, 6 for UPC-E) the row decoder as coded — start-guard search with its
    quiet-zone test, best-match digit decoding over exact PatternMatchVariance with both thresholds, middle / end guard
    search, right quiet-zone test, parity decoding, checksum — returns exactly `full` (UPC-A: `full` without the "0"
    the writer prepended).  These quiet-zone conditions are exactly what the code tests (`start - (end-start) >= 0`
    and white; `quietEnd = end + (end-start) < size` and white), so they are necessary as well. -/
theorem upcean_read_write (T : Tables) (hT : WFUpcEan T = true) (k : EanKind) (contents full : List Nat)
    (hw : writerContents k contents = .ok full) :
    ∃ mods, upceanModules T k contents = .ok mods ∧
      ∀ (lq s rq : Nat), 1 ≤ s → lq ≥ s * OneD.sumL T.startEnd → rq > s * OneD.sumL (endGuardOf T k) →
        decodeRow T k (paddedRow lq s rq mods) = .ok (upceanCanonical k full) := by
  cases k with
  | ean13 => exact ean13_core T hT .ean13 (Or.inl rfl) contents full hw (by intro h; cases h)
  | ean8 => exact ean8_core T hT contents full hw
  | upca =>
    have hw' : stdWriterContents 13 (48 :: contents) = .ok full := hw
    obtain ⟨t, ht⟩ := stdWriterContents_prefix 13 _ full hw'
    exact ean13_core T hT .upca (Or.inr rfl) (48 :: contents) full hw' (by intro _; rw [ht]; rfl)
  | upce => exact upce_core T hT contents full hw

/-- the same through the writer's own rendering (`onedWriter_renderResult`, one pixel row): at EVERY requested width
    the rendered row is read back, provided the margin (in modules) is at least twice the start guard and more than
    twice the end guard — 7 for EAN-13 / EAN-8 / UPC-A (their default margin is 9), 13 for UPC-E (default 9: the
    known finding, see the counterexample below). -/
theorem upcean_read_write_rendered (T : Tables) (hT : WFUpcEan T = true) (k : EanKind) (contents full : List Nat)
    (hw : writerContents k contents = .ok full) (width margin : Nat)
    (hm1 : margin ≥ 2 * OneD.sumL T.startEnd) (hm2 : margin ≥ 2 * OneD.sumL (endGuardOf T k) + 1) :
    ∃ mods row, upceanModules T k contents = .ok mods ∧ renderRow mods width margin = .ok row ∧
      decodeRow T k row = .ok (upceanCanonical k full) := by
  obtain ⟨mods, hm, hread⟩ := upcean_read_write T hT k contents full hw
  refine ⟨mods, _, hm, renderRow_padded mods width margin (by omega), ?_⟩
  generalize hn : mods.length = n
  generalize hW : max width (n + margin) = W
  have hWge : n + margin ≤ W := by rw [← hW]; exact Nat.le_max_right _ _
  have hfw : 0 < n + margin := by omega
  generalize hmm : W / (n + margin) = m
  have hm1' : 1 ≤ m := by
    rw [← hmm]; exact (Nat.le_div_iff_mul_le hfw).mpr (by omega)
  have hle : m * (n + margin) ≤ W := by rw [← hmm]; exact Nat.div_mul_le_self _ _
  rw [Nat.mul_add] at hle
  have h1 : m * (2 * OneD.sumL T.startEnd) ≤ m * margin := Nat.mul_le_mul_left m hm1
  have h2 : m * (2 * OneD.sumL (endGuardOf T k) + 1) ≤ m * margin := Nat.mul_le_mul_left m hm2
  have e1 : m * (2 * OneD.sumL T.startEnd) = 2 * (m * OneD.sumL T.startEnd) := by rw [Nat.mul_left_comm]
  have e2 : m * (2 * OneD.sumL (endGuardOf T k) + 1) = 2 * (m * OneD.sumL (endGuardOf T k)) + m := by
    rw [Nat.mul_add, Nat.mul_left_comm, Nat.mul_one]
  rw [e1] at h1
  rw [e2] at h2
  have e3 : n * m = m * n := Nat.mul_comm _ _
  apply hread _ m _ hm1'
  · rw [e3]; omega
  · rw [e3]; omega

/-- the right quiet-zone hypothesis cannot be weakened: with `rq = s·|end guard|` the same row is refused
    (EAN-8 "12345670", scale 1, 3 white pixels on the right) -/
theorem upcean_right_quiet_zone_needed :
    (ean8Modules refTables (digitBytes [1, 2, 3, 4, 5, 6, 7])).bind
      (fun m => decodeRow refTables .ean8 (paddedRow 3 1 3 m)) = .error .notFound := by decide +kernel

/-! ### non-vacuity and evaluated end-to-end instances -/
example : WF128 refTables.code128 = true := wf128_ref
example : WFUpcEan refTables = true := wfUpcEan_ref
example : OneD.sumL refTables.startEnd = 3 ∧ OneD.sumL (endGuardOf refTables .ean13) = 3 ∧ OneD.sumL (endGuardOf refTables .upce) = 6 := by decide +kernel
example : writerContents .ean13 (digitBytes [4, 0, 0, 6, 3, 8, 1, 3, 3, 3, 9, 3]) = .ok (digitBytes [4, 0, 0, 6, 3, 8, 1, 3, 3, 3, 9, 3, 1]) := by decide +kernel
example : writerContents .upce (digitBytes [0, 1, 2, 3, 4, 5, 6]) = .ok (digitBytes [0, 1, 2, 3, 4, 5, 6, 5]) := by decide +kernel
/-- an instance of `upcean_read_write` run by the kernel: EAN-8 at 3 px/module, quiet zones 9 and 10 -/
example : (ean8Modules refTables (digitBytes [1, 2, 3, 4, 5, 6, 7])).bind
    (fun m => decodeRow refTables .ean8 (paddedRow 9 3 10 m)) = .ok (digitBytes [1, 2, 3, 4, 5, 6, 7, 0]) := by decide +kernel
example : WFITF refTables = true := by decide +kernel
example : WFCodabar refTables = true := by decide +kernel
example : codabarFull (bytesOf "12-34") = .ok (bytesOf "A12-34A") ∧ codabarFull (bytesOf "t12*") = .ok (bytesOf "t12*") := by decide +kernel
example : (codabarModules refTables (bytesOf "t12*")).bind (codabarIdeal refTables) = .ok (bytesOf "12") := by decide +kernel
example : code128Codes [65, 49, 50, 51, 52, 97] none = .ok [104, 33, 99, 12, 34, 100, 65, 58, 106] := by decide +kernel
example : code128ReadCodes [104, 33, 99, 12, 34, 100, 65, 58, 106] = .ok [65, 49, 50, 51, 52, 97] := by decide +kernel
example : code39Symbols refTables [65, 97] = .ok [10, 41, 10] := by decide +kernel
example : code39ReadSymbols refTables [10, 41, 10] true = .ok [65, 97] := by decide +kernel
example : (itfModules refTables (digitBytes [1, 2, 3, 4, 5, 6])).bind (itfIdeal refTables [6, 8, 10, 12, 14])
    = .ok (digitBytes [1, 2, 3, 4, 5, 6]) := by decide +kernel
/-- EAN-13 "4006381333931": writer → default rendering (margin 9) → row decoder model, inside the kernel -/
example : ((ean13Modules refTables (digitBytes [4, 0, 0, 6, 3, 8, 1, 3, 3, 3, 9, 3])).bind (fun m => renderRow m 0 9)).bind
    (decodeRow refTables .ean13) = .ok (digitBytes [4, 0, 0, 6, 3, 8, 1, 3, 3, 3, 9, 3, 1]) := by decide +kernel
/-- the same symbol at 2 px / module through the multi-format dispatch without hint: EAN_13 -/
example : ((ean13Modules refTables (digitBytes [4, 0, 0, 6, 3, 8, 1, 3, 3, 3, 9, 3])).bind (fun m => renderRow m 208 9)).bind
    (multiDecodeRow refTables []) = .ok (.ean13, digitBytes [4, 0, 0, 6, 3, 8, 1, 3, 3, 3, 9, 3, 1]) := by decide +kernel
/-- KNOWN FINDING on the model (mirrors the code): UPC-E "0000000" rendered with the default margin 9 is NOT read
    back — the right quiet zone (5 px) is narrower than the 6-module end guard the reader insists on … -/
example : ((upceModules refTables (digitBytes [0, 0, 0, 0, 0, 0, 0])).bind (fun m => renderRow m 0 9)).bind
    (decodeRow refTables .upce) = .error .notFound := by decide +kernel
/-- … while with margin 14 (7 px on the right) it is -/
example : ((upceModules refTables (digitBytes [0, 0, 0, 0, 0, 0, 0])).bind (fun m => renderRow m 0 14)).bind
    (decodeRow refTables .upce) = .ok (digitBytes [0, 0, 0, 0, 0, 0, 0, 0]) := by decide +kernel

end Gzx.Properties.C03
