/-
  C06 — decoding is total: any input gives a result or a typed error, never a crash.

  What is PROVED here (over the hand-written models, tied to /repo by the `c06` correspondence suite):
    * `BitSource.ReadBits` (the primitive under the QR and Data Matrix bit-stream parsers) never
      panics, rejects every bad argument with its checked error, returns a value below 2^numBits
      and advances by exactly numBits                                   (bitsource_total & co.)
    * QR `parseECIValue` never panics, yields a designator below 2^21 or FormatException
    * the repaired `code39DecodeExtended` is total: result or FormatException on EVERY string;
      the unrepaired one panics on a trailing escape (defect D15, proved) and agrees with the
      repair everywhere else; the Code 39 / Code 93 post-classification logic (check characters,
      empty symbol, extended decoding) never panics on strings over the symbology's alphabet.
    * the QR bit-stream parser (every mode) and the QR matrix decoder on every square matrix:
      a result, FormatException or ChecksumException                    (qr_parse_total, qr_decode_total)
    * the Data Matrix bit-stream parser on every codeword list and the Data Matrix matrix chain
      (BitMatrixParser, readCodewords, getDataBlocks) on every bit matrix (dm_parse_total, dm_decode_total)
    * the UPC/EAN guard-pattern search on every row                     (upcean_findGuardPattern_total_partial)
  Elsewhere: the Aztec decoder (Properties/C06Aztec.lean), the row decoders (C06Row39, C06Row128, C06RowUPC,
  C06RSS), the detectors for every interpretation of float64 (C06Det, C06DetAz, C06Multi), the pure-barcode
  paths (C06Pure, C06PureRead) and the reader glue (C06Glue).
-/
import Gzx.Proofs.BitSource
import Gzx.Proofs.OneDPost
import Gzx.Proofs.TotalQR
import Gzx.Proofs.TotalDM
import Gzx.Proofs.TotalQRFit
import Gzx.Proofs.TotalDMTable
import Gzx.Proofs.OneDRowExtGuard
namespace Gzx.Properties.C06
open Gzx Gzx.Det Gzx.BitSource Gzx.OneDPost

/-! ## BitSource -/

/-- clause "any numBits outside 1..32 or > available → checked error": IllegalArgumentException, never a panic -/
theorem readBits_checked (s : BitSource) (n : Int) (h : n < 1 ∨ n > 32 ∨ n > available s) :
    readBits s n = .error .illegalArg := by
  unfold readBits
  simp [h]

/-- clause "otherwise a value: result < 2^numBits, position advances exactly, buffer untouched,
    invariant kept" — for every buffer, every reachable offset pair, every numBits -/
theorem readBits_ok (s : BitSource) (hs : WF s) (n : Int) (h1 : 1 ≤ n) (h32 : n ≤ 32)
    (hav : n ≤ available s) :
    ∃ v s', readBits s n = .ok (v, s') ∧ v < 2 ^ n.toNat ∧
      position s' = position s + n.toNat ∧ WF s' ∧ s'.bytes = s.bytes := by
  obtain ⟨⟨v, s'⟩, h, hr⟩ := ((readBits_sat s hs n).faults fun _ he => absurd he.2 (by omega)).total
  exact ⟨v, s', h, hr⟩

/-- C06 for `BitSource.ReadBits`: never a panic, for any argument whatsoever -/
theorem bitsource_total (s : BitSource) (hs : WF s) (n : Int) :
    (∀ w, readBits s n ≠ .error (.panic w)) ∧
    ((∃ v s', readBits s n = .ok (v, s') ∧ v < 2 ^ n.toNat ∧ position s' = position s + n.toNat ∧ WF s')
      ∨ readBits s n = .error .illegalArg) := by
  have read := readBits_sat s hs n
  exact ⟨(read.no_crash fun _ he => by rw [he.1]; exact ⟨nofun, nofun⟩).1,
    read.cases.imp (fun ⟨⟨v, s'⟩, h, hv, hp, hw, _⟩ => ⟨v, s', h, hv, hp, hw⟩) fun ⟨_, h, he⟩ => he.1 ▸ h⟩

/-- a fresh source satisfies the invariant, so (with `readBits_ok`) every source the library can
    reach does -/
theorem new_WF (bytes : List Nat) : WF (BitSource.new bytes) := by
  simp [WF, BitSource.new]

theorem available_eq (s : BitSource) (hs : WF s) :
    available s = (8 * s.bytes.length : Int) - (position s : Int) := by
  simp only [available, position]
  omega

-- non-vacuity: concrete reads, aligned and straddling bytes
example : readBits (BitSource.new [0xA5, 0xFF, 0x01]) 3 = .ok (5, ⟨[0xA5, 0xFF, 0x01], 0, 3⟩) := by decide
example : readBits ⟨[0xA5, 0xFF, 0x01], 0, 3⟩ 13 = .ok (0x5FF, ⟨[0xA5, 0xFF, 0x01], 2, 0⟩) := by decide
example : readBits ⟨[0xA5, 0xFF, 0x01], 2, 0⟩ 9 = .error .illegalArg := by decide
example : readBits (BitSource.new []) 1 = .error .illegalArg := by decide

/-! ## QR parseECIValue

`Gzx.BitSource` is `common/bit_source.go` as written: a byte buffer with a cursor.  The parser model `Gzx.QRDec.parse` of the
section "QR DecodedBitStreamParser" below reads the same bits from a list (`QRDec.readBitsF`, `ECI.parseECIValue`); the cursor model returns exactly
the value and the rest the list model returns (`Obligations.K01e.readBits_refines`, Obligations/K01eStream.lean). -/

/-- `parseECIValue` is total: a designator below 2^21 (with the source still well-formed) or
    FormatException; never a panic — for any buffer and any reachable read position -/
theorem parseECIValue_total (s : BitSource) (hs : WF s) :
    (∃ v s', parseECIValue s = .ok (v, s') ∧ v < 2 ^ 21 ∧ WF s') ∨ parseECIValue s = .error .format :=
  (parseECIValue_sat s hs).cases.imp (fun ⟨⟨v, s'⟩, h, hv, hw⟩ => ⟨v, s', h, hv, hw⟩) fun ⟨_, h, he⟩ => he ▸ h

example : parseECIValue (BitSource.new [0x1A]) = .ok (26, ⟨[0x1A], 1, 0⟩) := by decide
example : parseECIValue (BitSource.new [0x83, 0x84]) = .ok (900, ⟨[0x83, 0x84], 2, 0⟩) := by decide
example : parseECIValue (BitSource.new [0xCF, 0x42, 0x3F]) = .ok (999999, ⟨[0xCF, 0x42, 0x3F], 3, 0⟩) := by decide
example : parseECIValue (BitSource.new [0xE0, 0, 0]) = .error .format := by decide
example : parseECIValue (BitSource.new [0x83]) = .error .format := by decide

/-! ## Code 39 extended decoding -/

/-- C06 for the repaired `code39DecodeExtended`: on EVERY input string (any bytes, any length,
    escape characters anywhere including last) the result is a string or FormatException -/
theorem code39_extended_total (s acc : List Nat) :
    (∃ r, c39Ext s acc = .ok r) ∨ c39Ext s acc = .error .format :=
  (c39Ext_sat s acc).ok_or

/-- defect D15 (unchanged tree): an escape character in last position is an index panic -/
theorem code39_extended_orig_panics :
    c39ExtOrig [43] [] = .error (.panic "index out of range: encoded[i+1]") := by decide

/-- the unrepaired function panics exactly when the repaired one reports the trailing escape;
    wherever the original returns at all, the repair returns the same -/
theorem code39_repair_conservative (s acc : List Nat) :
    (∀ w, c39ExtOrig s acc ≠ .error (.panic w)) → c39Ext s acc = c39ExtOrig s acc := by
  fun_induction c39ExtOrig s acc <;> intro h <;>
    first | exact absurd rfl (h _) | (unfold c39Ext; simp_all; done) | (simp_all [c39Ext]; done)

theorem code39_extended_plain (s acc : List Nat) (h : ∀ c ∈ s, c39IsEscape c = false) :
    c39Ext s acc = .ok (acc.reverse ++ s) := by
  induction s generalizing acc with
  | nil => simp [c39Ext]
  | cons c rest ih =>
    have hc : c39IsEscape c = false := h c (by simp)
    unfold c39Ext
    simp only [hc]
    rw [ih (c :: acc) (fun x hx => h x (by simp [hx]))]
    simp

example : c39Ext [43, 65, 66, 47, 90] [] = .ok [97, 66, 58] := by decide   -- "+AB/Z" -> "aB:"
example : c39Ext [65, 43] [] = .error .format := by decide                  -- "A+"
example : c39Ext [37, 48] [] = .error .format := by decide                  -- "%0"

/-! ## Code 39 / Code 93 : the whole post-classification step of DecodeRow -/

/-- Code 39 (repaired): whatever string over the 43-character alphabet the bar classifier produced
    between the asterisks — including the empty one — and whichever of the two flags is set, the
    outcome is a text, NotFound (empty), Checksum or Format; never a panic -/
theorem code39_post_total (ck ext : Bool) (s : List Nat) (h : ∀ c ∈ s, c ∈ c39Alphabet) :
    ∀ w, c39Post ck ext s ≠ .error (.panic w) :=
  ((c39Post_sat ck ext s h).no_crash readerFault_checked).1

/-- defect found by the C06 oracle (unchanged tree): with the check-digit flag, an empty symbol
    `**` indexes `result[-1]` -/
theorem code39_post_orig_panics_on_empty :
    c39PostOrig true false [] = .error (.panic "index out of range [-1]") := by decide

/-- the alphabet hypothesis is what the classifier guarantees; without it Go's `total % 43` can be
    negative and the model (like the code) indexes out of range -/
example : c39Post true false [1, 1] = .error (.panic "index out of range: negative") := by decide

example : c39Post true true [43, 65, 37] = .error .checksum := by decide
example : c39Post false true [43, 65] = .ok [97] := by decide
example : c39Post true false [] = .error .notFound := by decide

theorem code93_extended_total (s acc : List Nat) :
    (∃ r, c93Ext s acc = .ok r) ∨ c93Ext s acc = .error .format :=
  (c93Ext_sat s acc).ok_or

/-- Code 93: any string over the 47-symbol alphabet between the asterisks gives a text, NotFound
    (fewer than two characters), Checksum or Format; never a panic -/
theorem code93_post_total (s : List Nat) (h : ∀ c ∈ s, c ∈ c93Alphabet) :
    ∀ w, c93Post s ≠ .error (.panic w) :=
  ((c93Post_sat s h).no_crash readerFault_checked).1

example : c93Post [97] = .error .notFound := by decide

/-! ## QR DecodedBitStreamParser (model `Gzx.QRDec.parse`, tied to the code by the `c01 parse` and
     `c06 qrparse` correspondence lines) -/

section QRParse
open Gzx.QRDec Gzx.ECI Gzx.Proofs.TotalQR

/-- C06 for `DecodedBitStreamParser_Decode`, every mode (numeric, alphanumeric, byte, Kanji, Hanzi, ECI,
    FNC1, structured append, terminator, unknown mode nibbles), for EVERY byte string (truncated
    anywhere), every version number (also outside 1..40), every charset hint and every ECI registry:
    a parse result or FormatException — never a panic, never an exhausted loop budget. -/
theorem qr_parse_total (reg : Registry) (bytes : List Nat) (ver : Nat) (hint : Hint) :
    (∃ p, parse reg bytes ver hint = .ok p) ∨ parse reg bytes ver hint = .error .format :=
  (parse_sat reg bytes ver hint).ok_or

theorem qr_parse_no_panic (reg : Registry) (bytes : List Nat) (ver : Nat) (hint : Hint) :
    (∀ w, parse reg bytes ver hint ≠ .error (.panic w)) ∧ parse reg bytes ver hint ≠ .error .fuel :=
  (parse_sat reg bytes ver hint).never

-- non-vacuity: a numeric segment "01", a truncated byte segment, an unknown mode nibble, ECI 900
example : (parse [] [0x10, 0x08, 0x08] 1 .none).map (·.segs) = .ok [.raw [48, 49]] := by decide
example : parse [] [0x40, 0x31] 1 .none = .error .format := by decide
example : parse [] [0x60] 1 .none = .error .format := by decide
example : parse [] [0x78, 0x38, 0x40] 1 .none = .error .format := by decide

end QRParse

/-! ## QR Decoder.Decode on arbitrary matrices (model `Gzx.QRDec.decode`, tied to the code by the
     `c01 decode` / `c01 cw` and `c06 qrdecode` correspondence lines) -/

section QRDecode
open Gzx.QRDec Gzx.ECI Gzx.Proofs.TotalQR Gzx.Proofs.TotalQRDec Gzx.Proofs.TotalQRFit

/-- C06 for `qrcode/decoder.Decoder.Decode`: NewBitMatrixParser, ReadVersion, ReadFormatInformation,
    ReadCodewords, DataBlock_GetDataBlocks, correctErrors, DecodedBitStreamParser_Decode and the mirrored
    second attempt, on EVERY square matrix (any dimension ≥ 0, any cells), every charset hint:
    a result, FormatException or ChecksumException — never a panic, never an exhausted loop budget.
    Hypotheses (decidable facts about DATA; for the tables regenerated from /repo they are
    `Obligations.C06.versions_wf`, evaluated on every run, and `Obligations.C06.versions_fit`, which follows by
    argument from the conformance of the tables to the standard, Proofs/TotalQRFitRef.lean):
      * `wfVersions T.versions` — VERSIONS has 40 entries numbered 1..40 with consistent block lists;
      * `T.versions.all cwFitsB` — every version has room for ≤ totalCodewords codewords (+ < 8 bits)
        outside its function patterns (the decidable form of `TotalQRDec.CwFits`);
    and of the Reed-Solomon block decoder `rs` that it panics on NO word (`TotalQRDec.RSNoPanic rs`).  This last
    hypothesis is left open: C04's `rs_decode_total` gives it for the verified RS model only on non-empty words
    of field elements with `r + base ≤ size`, and that the blocks `getDataBlocks` cuts are such words is not
    proved here (the Aztec decoder does the corresponding step: `AztecTotal.rs_on_received_total`).
    The format / version BCH look-up tables, the mask table and the ECI registry may be ARBITRARY. -/
theorem qr_decode_total (T : Tables) (hT : wfVersions T.versions = true) (hfit : T.versions.all cwFitsB = true)
    (rs : List Nat → Nat → Res (List Nat)) (hrs : ∀ cw n w, rs cw n ≠ .error (.panic w))
    (hint : Hint) (m : Matrix) :
    (∃ d, decode T rs hint m = .ok d) ∨ decode T rs hint m = .error .format ∨
      decode T rs hint m = .error .checksum :=
  (decode_sat T hT (cwFits_of_check T hfit) rs hrs hint m).ok_or2

theorem qr_decode_no_panic (T : Tables) (hT : wfVersions T.versions = true) (hfit : T.versions.all cwFitsB = true)
    (rs : List Nat → Nat → Res (List Nat)) (hrs : ∀ cw n w, rs cw n ≠ .error (.panic w))
    (hint : Hint) (m : Matrix) :
    (∀ w, decode T rs hint m ≠ .error (.panic w)) ∧ decode T rs hint m ≠ .error .fuel :=
  (decode_sat T hT (cwFits_of_check T hfit) rs hrs hint m).no_crash (either_checked ⟨nofun, nofun⟩ ⟨nofun, nofun⟩)

/-- the table hypotheses are what keeps the decoder inside its slices: with a VERSIONS table of 39 entries
    a 177x177 matrix that announces version 40 indexes past the table (model and code alike) -/
example : getVersionForNumber [] 40 = .error (.panic "VERSIONS[versionNumber-1]") := by decide
/-- every matrix whose dimension is not 17+4k, k ≥ 1, is a FormatException whatever the tables are
    (0x0, 1x1, 20x20, 22x22 …) -/
example (T : Tables) (rs : List Nat → Nat → Res (List Nat)) (hint : Hint) (bit : Nat → Nat → Bool) :
    decode T rs hint ⟨22, bit⟩ = .error .format := by simp [decode, newParser, wrapF]
example (T : Tables) (rs : List Nat → Nat → Res (List Nat)) (hint : Hint) (bit : Nat → Nat → Bool) :
    decode T rs hint ⟨0, bit⟩ = .error .format := by simp [decode, newParser, wrapF]

end QRDecode

/-! ## Data Matrix DecodedBitStreamParser (model `Gzx.DMHighLevel.decodeText`, tied to the code by the
     `c02 dm-dec` and `c06 dmparse` correspondence lines) -/

section DMParse
open Gzx.DMHighLevel Gzx.Proofs.TotalDM

/-- C06 for `DecodedBitStreamParser_decode`: for EVERY codeword list (every byte value, streams truncated
    inside a C40/Text/X12 pair, an EDIFACT triple or a Base-256 header, Base-256 lengths pointing past
    the end, an upper shift in last position, the pair (0,0) whose third value is −1) and every
    character tables `T`: a text or FormatException — never a panic. -/
theorem dm_parse_total (T : Tables) (cw : List Nat) :
    (∃ t, decodeText T cw = .ok t) ∨ decodeText T cw = .error .format :=
  (decodeText_sat T cw).ok_or

/-- the same for text plus symbology modifier -/
theorem dm_parse_full_total (T : Tables) (cw : List Nat) :
    (∃ t, decodeFull T cw = .ok t) ∨ decodeFull T cw = .error .format :=
  (decodeFull_sat T cw).ok_or

theorem dm_parse_no_panic (T : Tables) (cw : List Nat) : ∀ w, decodeText T cw ≠ .error (.panic w) :=
  ((decodeText_sat T cw).never).1

/-- the boundary the proof had to argue about: a C40/Text value of −1 (pair (0,0)) reaches the decoder
    only in shift state 0 or 1, where it is not used as a table index; in shift state 2 or 3 it would be
    an index panic (model and code alike) -/
example : cValueCore refTables true (-1) ⟨2, false⟩ = .error (.panic "index out of range (negative)") := by decide
example : parseTwoBytes 0 0 = (0, 0, -1) := by decide
example : decodeText refTables [239, 0, 2, 0, 0, 66] = .ok [0, 33, 255, 65] := by decide
example : decodeText refTables [230, 0, 0] = .ok [0] := by decide
example : decodeText refTables [231, 100, 1, 2] = .error .format := by decide   -- Base-256 length past the end
example : decodeText refTables [235] = .ok [] := by decide                        -- upper shift in last position
example : decodeText refTables [240, 1, 2] = .ok [0, 1] := by decide              -- EDIFACT tail
example : decodeText refTables [238, 255, 255] = .error .format := by decide
example : decodeText refTables [66, 67] = .ok [65, 66] := by decide

end DMParse

/-! ## Data Matrix matrix chain: NewBitMatrixParser → readCodewords → DataBlocks_getDataBlocks
     (model `Gzx.DMDec`, tied to the code by the `c08` / `c05` / `c06 dmmatrix` correspondence lines) -/

section DMDecode
open Gzx.DMDec Gzx.Proofs.TotalDMDec

/-- C06 for the Data Matrix `BitMatrixParser` on EVERY bit matrix (any width and height, any cells): a matrix
    whose dimensions are not in the version table (odd, < 8, > 144, width/height mismatch, 10x12 …) is a
    FormatException; otherwise the version of those dimensions is found, its data regions are copied without
    leaving the symbol, `readCodewords` (corner cases, Utah shapes, both sweeps) never leaves the mapping
    matrix and returns exactly `totalCodewords` codewords, and `DataBlocks_getDataBlocks` de-interleaves
    them without leaving a block.  Never a panic.
    `tbl` is any version table whose entries satisfy the decidable facts `VersionOK` / `dbOK`
    (`dm_versions_ok`: the decoder's table does). -/
theorem dm_decode_total (tbl : List Version) (hT : ∀ v ∈ tbl, VersionOK v ∧ dbOK v = true)
    (g : BitGrid) (hg : g.bits.size = g.width * g.height) :
    newBitMatrixParser tbl g = .error .format ∨
    ∃ v m cws blocks, newBitMatrixParser tbl g = .ok (v, m) ∧ v ∈ tbl ∧
      v.symbolSizeRows = g.height ∧ v.symbolSizeColumns = g.width ∧
      readCodewords v m = .ok cws ∧ cws.length = v.totalCodewords ∧ getDataBlocks cws v = .ok blocks := by
  rcases (newBitMatrixParser_sat tbl (fun v hv => (hT v hv).1) g hg).cases with
    ⟨⟨v, m⟩, h, hm, hr, hc, hmw, hmh, hmc⟩ | ⟨e, h, rfl⟩
  · have hread := (hT v hm).1.read
    rw [← hmh, ← hmc] at hread
    obtain ⟨cws, hcw, hlen⟩ := (readCodewords_sat v m hmw hread).total
    obtain ⟨blocks, hb, _⟩ := (getDataBlocks_sat v (hT v hm).2 cws hlen).total
    exact Or.inr ⟨v, m, cws, blocks, h, hm, hr, hc, hcw, hlen, hb⟩
  · exact Or.inl h

/-- the decoder's own table (ISO/IEC 16022 Table 7 + DMRE; `Obligations.C08.gen_versions_eq` ties it to /repo)
    satisfies the hypotheses -/
theorem dm_versions_ok : ∀ v ∈ versions, VersionOK v ∧ dbOK v = true :=
  fun v hv => ⟨versions_ok v hv, List.all_eq_true.mp versions_db v hv⟩

/-- C06 for the Data Matrix matrix chain with the decoder's table, unconditionally -/
theorem dm_decode_total_versions (g : BitGrid) (hg : g.bits.size = g.width * g.height) :
    newBitMatrixParser versions g = .error .format ∨
    ∃ v m cws blocks, newBitMatrixParser versions g = .ok (v, m) ∧ v ∈ versions ∧
      readCodewords v m = .ok cws ∧ cws.length = v.totalCodewords ∧ getDataBlocks cws v = .ok blocks := by
  rcases dm_decode_total versions dm_versions_ok g hg with h | ⟨v, m, cws, blocks, h1, h2, _, _, h3, h4, h5⟩
  · exact Or.inl h
  · exact Or.inr ⟨v, m, cws, blocks, h1, h2, h3, h4, h5⟩

-- non-vacuity: a 10x10 matrix reaches the success path; 10x12 and 9x9 are FormatExceptions; the
-- representation invariant is needed (a BitGrid with too few cells indexes out of range)
example : (newBitMatrixParser versions ⟨10, 10, Array.replicate 100 true⟩).map (·.1.versionNumber) = .ok 1 := by
  decide +kernel
example : (newBitMatrixParser versions ⟨12, 10, Array.replicate 120 false⟩).map (·.1.versionNumber) =
    .error .format := by decide +kernel
example : (newBitMatrixParser versions ⟨9, 9, Array.replicate 81 false⟩).map (·.1.versionNumber) =
    .error .format := by decide +kernel
example : (newBitMatrixParser versions ⟨10, 10, #[]⟩).map (·.1.versionNumber) =
    .error (.panic "index out of range: bits") := by decide +kernel

end DMDecode

/-! ## UPC/EAN row decoder (model Gzx/Model/OneD.lean, tied to oned/upcean_reader.go by the `c03` suite): first layer -/

section OneDRows
open Gzx.OneD

/-- C06 for `upceanReader_findGuardPatternWithCounters` on EVERY row (any length ≥ 0, any pixels), from any
    offset, white-first or not, for every guard pattern of at least three runs: a range or
    NotFoundException — the counter shift `counters[2:]` and the variance computation never leave their
    slices.  This is the guard search alone, on the first-layer model; the whole `DecodeRow` of the UPC/EAN
    readers (quiet zone, digits, middle and end guards, check digit, add-ons) is `upcean_decodeRow_total`,
    Properties/C06RowUPC.lean. -/
theorem upcean_findGuardPattern_total_partial (row : List Bool) (rowOffset : Nat) (whiteFirst : Bool)
    (pattern : List Nat) (h3 : 3 ≤ pattern.length) :
    (∃ r, findGuardPattern row rowOffset whiteFirst pattern = .ok r) ∨
      findGuardPattern row rowOffset whiteFirst pattern = .error .notFound :=
  (Gzx.Proofs.OneDRowExtTotal.oneD_findGuardPattern_sat row rowOffset whiteFirst pattern h3).ok_or

/-- the guard patterns of the reference tables (start/end, middle, UPC-E end) have 3, 5 and 6 runs -/
example : 3 ≤ refTables.startEnd.length ∧ 3 ≤ refTables.middle.length ∧ 3 ≤ refTables.upceMiddleEnd.length := by decide
/-- the hypothesis is needed: a two-run pattern makes `counters[2:]` leave the slice -/
example : findGuardPattern [true, true, true, true, false, true, false] 0 false [1, 1] =
    .error (.panic "slice bounds out of range") := by decide
example : findGuardPattern [false, true, false, true, false] 0 false [1, 1, 1] = .ok (1, 4) := by decide
example : findGuardPattern [] 7 true [1, 1, 1] = .error .notFound := by decide

end OneDRows

end Gzx.Properties.C06
