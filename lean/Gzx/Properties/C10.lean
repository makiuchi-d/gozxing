/-
  C10 — check digits and checksums are computed, demanded and enforced.
  Property theorems (helper lemmas: Gzx/Proofs/CheckDigit.lean).
  Model: Gzx/Model/CheckDigit.lean, tied to /repo/oned by the `c10` correspondence suite and, for the writers' check-digit
  functions, by the regenerated Go of Obligations/K03w.lean (equal for every input);
  parity tables are theorem parameters, instantiated with the regenerated tables in Obligations/C10.lean.
-/
import Gzx.Proofs.CheckDigit
import Gzx.Ref.UPCEAN
namespace Gzx.Properties.C10
open Gzx Gzx.CheckDigit

/-! ### UPC/EAN mod 10 -/

/-- Clause "every single-digit substitution in a UPC/EAN symbol is reported as an error": in a valid
    EAN-13 / EAN-8 / UPC-A number (any length ≥ 1, check digit last) replacing the digit at ANY position
    (including the check digit) by a different digit makes the number invalid.  All lengths, all
    positions, all digits: the weights 1 and 3 are units modulo 10. -/
theorem ean_detects_single_substitution (ds : List Nat) (i d' : Nat) (hi : i < ds.length)
    (hd : ∀ d ∈ ds, d < 10) (hd' : d' < 10) (hne : d' ≠ ds[i]) (hv : eanValid ds = true) :
    eanValid (ds.set i d') = false := by
  have hne0 : ds ≠ [] := by intro h; simp [h] at hi
  obtain ⟨body, c, rfl⟩ : ∃ body c, ds = body ++ [c] :=
    ⟨ds.dropLast, ds.getLast hne0, (List.dropLast_concat_getLast hne0).symm⟩
  rw [eanValid_concat] at hv
  have hc : c < 10 := hd c (by simp)
  by_cases hib : i < body.length
  · rw [List.set_append_left _ _ hib, eanValid_concat]
    have hget : (body ++ [c])[i] = body[i] := List.getElem_append_left hib
    have hbi : body[i] < 10 := hd _ (by simp [List.getElem_mem])
    have := eanCheckDigit_set_ne body i d' hib hbi hd' (by rw [← hget]; exact hne)
    simp only [beq_iff_eq] at hv
    simp only [beq_eq_false_iff_ne, ne_eq]
    rw [← hv]; exact this
  · have hil : i = body.length := by simp at hi; omega
    subst hil
    rw [List.set_append_right _ _ (Nat.le_refl _)]
    simp only [Nat.sub_self, List.set_cons_zero, eanValid_concat]
    have hget : (body ++ [c])[body.length] = c := by simp
    rw [hget] at hne
    simp only [beq_iff_eq] at hv
    simp only [beq_eq_false_iff_ne, ne_eq, hv]
    omega

/-- The same at byte level, as the readers see it: if a digit string passes
    `checkStandardUPCEANChecksum`, no string that differs from it in exactly one digit does. -/
theorem checkStandard_detects_single_substitution (s : List Nat) (i b' : Nat) (hi : i < s.length)
    (hs : allDigits s = true) (hb' : isDigitByte b' = true) (hne : b' ≠ s[i])
    (hv : checkStandardB s = .ok true) : checkStandardB (s.set i b') = .ok false := by
  obtain ⟨ds, rfl, hd⟩ := allDigits_exists s hs
  simp only [isDigitByte, Bool.and_eq_true, decide_eq_true_eq] at hb'
  have hi' : i < ds.length := by simpa [digitBytes] using hi
  have hb'e : b' = (b' - 48) + 48 := by omega
  rw [hb'e, digitBytes_set]
  rw [checkStandardB_digitBytes ds hd] at hv
  have hset : ∀ d ∈ ds.set i (b' - 48), d < 10 := by
    intro d hm
    rcases List.mem_or_eq_of_mem_set hm with h | h
    · exact hd d h
    · omega
  rw [checkStandardB_digitBytes _ hset]
  congr 1
  apply ean_detects_single_substitution ds i (b' - 48) hi' hd (by omega) _ (by simpa using hv)
  intro e
  apply hne
  simp only [digitBytes, List.getElem_map]
  omega

/-! ### UPC-E ↔ UPC-A -/

/-- Clause "UPC-E to UPC-A expansion is the inverse of zero-suppression": for every UPC-A digit string
    (11 digits, or 12 with check digit) that zero suppression accepts, `convertUPCEtoUPCA` of the
    suppressed number is the original number.  Case analysis over the four rules, no enumeration. -/
theorem expand_suppress_inv (a e : List Nat) (ha : allDigits a = true) (h : suppress a = some e) :
    convertUPCEtoUPCA e = .ok a := by
  obtain ⟨n, m1, m2, m3, m4, m5, p5, rest, hlen, hc⟩ := suppress_cases a e h
  have ht := take1_of_len_le rest (by omega)
  rcases hc with ⟨h3, p3, p4, rfl, rfl⟩ | ⟨h3, p4, rfl, rfl⟩ | ⟨h4, rfl, rfl⟩ | ⟨h5, hp5, rfl, rfl⟩
  · -- rule digit 0, 1 or 2: it is the third manufacturer digit
    simp only [allDigits, List.all_cons, isDigitByte, Bool.and_eq_true, decide_eq_true_eq] at ha
    have : m3 = 48 ∨ m3 = 49 ∨ m3 = 50 := by omega
    simp [convertUPCEtoUPCA, this, ht]
  · simp [convertUPCEtoUPCA, ht]
  · simp [convertUPCEtoUPCA, ht]
  · have n1 : ¬ (p5 = 48 ∨ p5 = 49 ∨ p5 = 50) := by omega
    have n2 : ¬ p5 = 51 := by omega
    have n3 : ¬ p5 = 52 := by omega
    simp [convertUPCEtoUPCA, n1, n2, n3, ht]

/-- Converse direction: every canonical UPC-E digit string (7 or 8 digits) expands to a UPC-A number whose
    zero suppression is the string itself — all 2·10^6 canonical bodies, by case analysis.
    (`canonicalUPCE` excludes bodies like 121343 that the standard never produces: they expand to the
    same UPC-A number as the canonical 120341, see `expand_not_injective`.) -/
theorem suppress_expand_inv (e : List Nat) (hlen : e.length = 7 ∨ e.length = 8)
    (he : allDigits e = true) (hc : canonicalUPCE e = true) :
    ∃ a, convertUPCEtoUPCA e = .ok a ∧ suppress a = some e := by
  match e, hlen with
  | [n, a, b, c, d, x, l], _ | [n, a, b, c, d, x, l, _], _ =>
    simp only [allDigits, List.all_cons, List.all_nil, isDigitByte, Bool.and_eq_true, decide_eq_true_eq] at he
    simp only [canonicalUPCE] at hc
    simp only [convertUPCEtoUPCA]
    by_cases h012 : l = 48 ∨ l = 49 ∨ l = 50
    · have hl : l ≤ 50 := by omega
      simp [h012, suppress, hl]
    · by_cases h3 : l = 51
      · subst h3
        simp at hc
        have : ¬ c ≤ 50 := by omega
        simp [suppress, this]
      · by_cases h4 : l = 52
        · subst h4
          simp at hc
          simp [suppress, hc]
        · have hl : l ≥ 53 := by omega
          simp [h3, h4, hl] at hc
          simp [h012, h3, h4, suppress, hc, hl]
  | [], h | [_], h | [_, _], h | [_, _, _], h | [_, _, _, _], h | [_, _, _, _, _], h | [_, _, _, _, _, _], h => simp at h
  | _ :: _ :: _ :: _ :: _ :: _ :: _ :: _ :: _ :: _, h => simp at h

theorem suppress_canonical (a e : List Nat) (ha : allDigits a = true) (h : suppress a = some e) :
    canonicalUPCE e = true := by
  obtain ⟨n, m1, m2, m3, m4, m5, p5, rest, hlen, hc⟩ := suppress_cases a e h
  rcases hc with ⟨h3, p3, p4, rfl, rfl⟩ | ⟨h3, p4, rfl, rfl⟩ | ⟨h4, rfl, rfl⟩ | ⟨h5, hp5, rfl, rfl⟩
  · have n1 : ¬ m3 = 51 := by omega
    have n2 : ¬ m3 = 52 := by omega
    have n3 : ¬ m3 ≥ 53 := by omega
    simp [canonicalUPCE, n1, n2, n3]
  · simp [canonicalUPCE]; omega
  · simp [canonicalUPCE, h4]
  · have n1 : ¬ p5 = 51 := by omega
    have n2 : ¬ p5 = 52 := by omega
    simp [canonicalUPCE, n1, n2, hp5, h5]

/-- the expansion alone is not injective on arbitrary 6-digit bodies: "0121343" and "0120341" expand to
    the same UPC-A number; only the second is canonical -/
theorem expand_not_injective :
    convertUPCEtoUPCA [48, 49, 50, 49, 51, 52, 51] = convertUPCEtoUPCA [48, 49, 50, 48, 51, 52, 49] ∧
    canonicalUPCE [48, 49, 50, 49, 51, 52, 51] = false ∧ canonicalUPCE [48, 49, 50, 48, 51, 52, 49] = true := by
  decide

/-- the UPC-E reader's checksum test is the mod-10 test of the digit-level expansion -/
theorem upce_reader_accept_iff (ds : List Nat) (hlen : ds.length = 8) (hd : ∀ d ∈ ds, d < 10) :
    ∃ a, expandD ds = some a ∧
      readerAccept .upce (digitBytes ds) = (if eanValid a = true then .ok () else .error .checksum) := by
  obtain ⟨a, hea, hconv⟩ := convert_digitBytes ds (by omega)
  refine ⟨a, hea, ?_⟩
  have ha := expandD_lt ds a hd hea
  unfold readerAccept
  have hl : ¬ (digitBytes ds).length < 8 := by simp [digitBytes]; omega
  simp only [hl, if_false, hconv, checkStandardB_digitBytes a ha]
  cases eanValid a <;> simp

/-- Clause "for UPC-E [the check digit is computed] on the expanded UPC-A number": for a 7-digit UPC-E
    input with number system 0 or 1 the writer draws the input followed by the mod-10 check digit of
    its UPC-A expansion, and the UPC-E reader's checksum test (also on the expansion) accepts exactly that. -/
theorem upce_check_on_expansion (ds : List Nat) (hlen : ds.length = 7) (hd : ∀ d ∈ ds, d < 10)
    (hns : ds.head? = some 0 ∨ ds.head? = some 1) :
    ∃ a, ∃ c : Nat, expandD ds = some a ∧ c < 10 ∧ eanCheckDigit a = (c : Int) ∧
      upceWriterContents (digitBytes ds) = .ok (digitBytes (ds ++ [c])) ∧
      readerAccept .upce (digitBytes (ds ++ [c])) = .ok () := by
  obtain ⟨a, hea, hconv⟩ := convert_digitBytes ds (by omega)
  have ha := expandD_lt ds a hd hea
  match ds, hlen with
  | [n, a1, b, c1, d, e, l], _ =>
    have hal : a.length = 11 := by
      simp only [expandD] at hea
      cases hea
      simp only [List.take_nil, List.append_nil, List.length_cons]
      split
      · rfl
      · split
        · rfl
        · split <;> rfl
    have hs : eanSum a ≤ 1000 := by have := eanSum_le a ha; omega
    have hc : eanCheckDigit a = (((1000 - eanSum a) % 10 : Nat) : Int) := by
      unfold eanCheckDigit; exact goCheckOf_nonneg hs
    refine ⟨a, (1000 - eanSum a) % 10, hea, by omega, hc, ?_, ?_⟩
    · unfold upceWriterContents
      have hl7 : (digitBytes [n, a1, b, c1, d, e, l]).length = 7 := by simp [digitBytes]
      simp only [hl7, if_true, hconv, eanChecksumB_digitBytes a ha]
      rw [hc, itoaSmall_nat]
      have hd8 : ∀ x ∈ [n, a1, b, c1, d, e, l] ++ [(1000 - eanSum a) % 10], x < 10 := by
        intro x hm
        simp only [List.mem_append, List.mem_singleton] at hm
        rcases hm with hm | rfl
        · exact hd x hm
        · omega
      have hall := allDigits_digitBytes _ hd8
      rw [digitBytes_concat] at hall
      rw [Nat.add_comm 48 ((1000 - eanSum a) % 10)]
      simp only [hall, Bool.not_true, Bool.false_eq_true, if_false]
      rw [← digitBytes_concat]
      simp only [List.head?_cons, Option.some.injEq] at hns
      simp only [digitBytes, List.cons_append, List.map_cons]
      rcases hns with rfl | rfl <;> simp
    · have he8 := expandD_seven n a1 b c1 d e l a hea ((1000 - eanSum a) % 10)
      obtain ⟨a8, hea8, hconv8⟩ := convert_digitBytes ([n, a1, b, c1, d, e, l] ++ [(1000 - eanSum a) % 10]) (by simp)
      simp only [List.cons_append, List.nil_append] at hea8 hconv8 ⊢
      rw [he8] at hea8
      cases hea8
      unfold readerAccept
      have hl8 : ¬ (digitBytes [n, a1, b, c1, d, e, l, (1000 - eanSum a) % 10]).length < 8 := by simp [digitBytes]
      simp only [hl8, if_false, hconv8]
      have hd12 : ∀ x ∈ a ++ [(1000 - eanSum a) % 10], x < 10 := by
        intro x hm
        simp only [List.mem_append, List.mem_singleton] at hm
        rcases hm with hm | rfl
        · exact ha x hm
        · omega
      rw [checkStandardB_digitBytes _ hd12, eanValid_concat, hc]
      simp


/-- Clause "every single-digit substitution in a UPC/EAN symbol is reported as an error", UPC-E: if the
    expansion of an 8-digit UPC-E number passes the mod-10 test, then after replacing ONE digit — the number
    system, any of the first five body digits, the check digit, or the sixth body digit by a digit that
    selects the same zero-suppression rule — it no longer does.
    NOT claimed (and false, see `upce_rule_digit_substitution_can_stay_valid`): a change of the sixth body
    digit that switches the suppression rule rearranges several digits of the protected UPC-A number. -/
theorem upce_detects_substitution (ds : List Nat) (hlen : ds.length = 8) (hd : ∀ d ∈ ds, d < 10)
    (p x : Nat) (hp : p < 8) (hx : x < 10) (hne : ds[p]? ≠ some x)
    (hclass : p = 6 → ds[6]?.map ruleClass = some (ruleClass x))
    (a : List Nat) (hea : expandD ds = some a) (hv : eanValid a = true) :
    ∃ a', expandD (ds.set p x) = some a' ∧ eanValid a' = false := by
  obtain ⟨hq, hget, hset⟩ := expandD_set ds hlen p x hp hne hclass a hea
  refine ⟨_, hset, ean_detects_single_substitution a _ x hq (expandD_lt ds a hd hea) hx ?_ hv⟩
  intro e
  apply hne
  rw [← hget, List.getElem?_eq_getElem hq, e]

/-- 0 916871 0 and 0 916877 0 are both valid UPC-E numbers although they differ in one digit: the last body
    digit selects the expansion rule (property of the symbology, every conforming reader accepts both) -/
theorem upce_rule_digit_substitution_can_stay_valid :
    (expandD [0, 9, 1, 6, 8, 7, 1, 0]).map eanValid = some true ∧
    (expandD [0, 9, 1, 6, 8, 7, 7, 0]).map eanValid = some true := by decide +kernel

/-! ### parity tables (theorem parameters; instantiated with `Gen` in Obligations/C10.lean) -/

/-- Clause "EAN-13 first digit is carried by the parities": the writer's parity pattern of first digit `d`
    is decoded back to `d` by `determineFirstDigit`, and any pattern the reader accepts is the pattern
    of the digit it returns — for every table of ten distinct entries. -/
theorem ean13_parity_bijective (T : List Nat) (h : WFParity T = true) :
    (∀ d (_ : d < 10), ∃ hd' : d < T.length, determineFirstDigit T T[d] = .ok d) ∧
    (∀ lg d, determineFirstDigit T lg = .ok d → d < 10 ∧ T[d]? = some lg) :=
  ⟨fun d hd => scan10_getElem h d hd, fun _ _ hs => scan10_ok hs⟩

/-- Clause "UPC-E parity pattern encodes number system and check digit": the 20 patterns are decoded
    back to exactly the (number system, check digit) they were written for, and nothing else is
    accepted — for every 2×10 table with pairwise distinct entries. -/
theorem upce_parity_bijective (r0 r1 : List Nat) (h : WFParity2 [r0, r1] = true) :
    (∀ d (_ : d < 10), ∃ hd' : d < r0.length, determineNumSysAndCheckDigit [r0, r1] r0[d] = .ok (0, d)) ∧
    (∀ d (_ : d < 10), ∃ hd' : d < r1.length, determineNumSysAndCheckDigit [r0, r1] r1[d] = .ok (1, d)) ∧
    (∀ lg n d, determineNumSysAndCheckDigit [r0, r1] lg = .ok (n, d) →
       d < 10 ∧ ((n = 0 ∧ r0[d]? = some lg) ∨ (n = 1 ∧ r1[d]? = some lg))) := by
  simp only [WFParity2, Bool.and_eq_true, beq_iff_eq] at h
  obtain ⟨⟨hl0, hl1⟩, hdist⟩ := h
  have w0 : WFParity r0 = true := by simp [WFParity, hl0, distinct_append_left hdist]
  have w1 : WFParity r1 = true := by simp [WFParity, hl1, distinct_append_right hdist]
  refine ⟨?_, ?_, ?_⟩
  · intro d hd
    obtain ⟨hd', hs⟩ := scan10_getElem w0 d hd
    exact ⟨hd', by simp [determineNumSysAndCheckDigit, hs]⟩
  · intro d hd
    obtain ⟨hd', hs⟩ := scan10_getElem w1 d hd
    refine ⟨hd', ?_⟩
    have hnot : r1[d] ∉ r0 := by
      intro hm
      exact distinct_append_disjoint hdist _ hm (List.getElem_mem hd')
    have h0 : scan10 r0 r1[d] = .error .notFound := by
      unfold scan10
      rw [List.take_of_length_le (by omega)]
      cases hi : indexOf? r1[d] r0 with
      | some j => exact absurd (List.mem_of_getElem? (indexOf?_get hi)) hnot
      | none => simp [hl0]
    simp [determineNumSysAndCheckDigit, h0, hs]
  · intro lg n d hres
    unfold determineNumSysAndCheckDigit at hres
    simp only at hres
    split at hres
    · rename_i d' hs
      cases hres
      have := scan10_ok hs
      exact ⟨this.1, Or.inl ⟨rfl, this.2⟩⟩
    · split at hres
      · rename_i d' hs
        cases hres
        have := scan10_ok hs
        exact ⟨this.1, Or.inr ⟨rfl, this.2⟩⟩
      · cases hres
    · cases hres

/-! ### Code 128, modulo 103 -/

/-- Clause "every single-character substitution in a Code 128 symbol is reported as an error": replacing
    the data character at index `i` (weight `i+1`) by a different value changes the check character —
    provided the weight is below 103 (the symbol has at most 102 characters before the check character;
    103 is prime, weight and value difference are both in 1..102).  See `code128_weight_103_undetected`
    for why the bound cannot be dropped. -/
theorem code128_detects_single_substitution (start : Nat) (data : List Nat) (i v' : Nat)
    (hi : i < data.length) (hw : i + 1 < 103) (hv : data[i] < 103) (hv' : v' < 103) (hne : v' ≠ data[i]) :
    c128Check start (data.set i v') ≠ c128Check start data := by
  rw [c128Check_eq_dot, c128Check_eq_dot, List.length_set, ← List.set_cons_succ]
  have hv1 : i + 1 < (start :: data).length := by simp; omega
  have hw1 : i + 1 < (1 :: List.range' 1 data.length).length := by simp; omega
  refine dot_detects_substitution _ _ (i + 1) v' hv1 hw1 (unit_below_prime nd103 ?_ ?_) ?_
  · simp
  · simp; omega
  · rw [List.getElem_cons_succ, Nat.mod_eq_of_lt hv, Nat.mod_eq_of_lt hv']; exact fun e => hne e.symm

/-- substitution of the start character (weight 1): another start code gives another check character -/
theorem code128_detects_start_substitution (start start' : Nat) (data : List Nat)
    (hs : start < 103 + 103) (hs' : start' < 103 + 103) (hlo : 103 ≤ start) (hlo' : 103 ≤ start')
    (hne : start ≠ start') : c128Check start' data ≠ c128Check start data := by
  unfold c128Check
  omega

/-- the reader's running-sum arithmetic accepts `start, data…, chk` iff `chk` is the writer's check character -/
theorem code128_reader_accepts_iff (start : Nat) (data : List Nat) (chk : Nat) :
    c128ReaderAccept start (data ++ [chk]) = (c128Check start data == chk) := by
  simp only [c128ReaderAccept, List.getLast?_concat, wsumFrom_append, List.length_append,
    List.length_cons, List.length_nil, c128Check]
  have : start + (wsumFrom 1 data + (1 + data.length) * chk) - (data.length + 0 + 1) * chk
      = start + wsumFrom 1 data := by
    have : (data.length + 0 + 1) * chk = (1 + data.length) * chk := by congr 1; omega
    omega
  rw [this]

/-- hence: a symbol the reader accepts is no longer accepted after any single data-character substitution
    at a position of weight < 103, nor after a substitution of its check character -/
theorem code128_reader_rejects_substitution (start : Nat) (data : List Nat) (chk i v' : Nat)
    (hacc : c128ReaderAccept start (data ++ [chk]) = true)
    (hi : i < data.length) (hw : i + 1 < 103) (hv : data[i] < 103) (hv' : v' < 103) (hne : v' ≠ data[i]) :
    c128ReaderAccept start (data.set i v' ++ [chk]) = false := by
  rw [code128_reader_accepts_iff] at hacc ⊢
  simp only [beq_iff_eq] at hacc
  simp only [beq_eq_false_iff_ne, ne_eq]
  rw [← hacc]
  exact code128_detects_single_substitution start data i v' hi hw hv hv' hne

/-- the weight bound is necessary: the 103rd data character has weight 103 ≡ 0, any substitution there is
    invisible to the check character (inherent to ISO/IEC 15417, not to this library) -/
theorem code128_weight_103_undetected (start : Nat) (pre : List Nat) (hpre : pre.length = 102) (v v' : Nat) :
    c128Check start (pre ++ [v']) = c128Check start (pre ++ [v]) := by
  unfold c128Check
  rw [wsumFrom_append, wsumFrom_append, hpre]
  omega

/-! ### Code 93, modulo 47 -/

/-- replacing one character changes a Code 93 check character, for every weight cycle 1..maxW with
    `maxW < 47` (C: 20, K: 15): 47 is prime, weights and value differences are in 1..46 -/
theorem code93_check_changes (maxW : Nat) (hm : 1 ≤ maxW) (hm' : maxW < 47) (vals : List Nat) (i v' : Nat)
    (hi : i < vals.length) (hv : vals[i] < 47) (hv' : v' < 47) (hne : v' ≠ vals[i]) :
    c93Check maxW (vals.set i v') ≠ c93Check maxW vals := by
  unfold c93Check
  obtain ⟨j, hj, hrev, hget⟩ := reverse_set_exists vals i v' hi
  rw [hrev, c93SumRev_eq_dot, c93SumRev_eq_dot, List.length_set]
  have hjw : j < (c93Weights maxW 1 vals.reverse.length).length := by rw [c93Weights_length]; exact hj
  have hu := c93Weights_range hm _ 1 ⟨Nat.le_refl 1, hm⟩ _ (List.getElem_mem hjw)
  apply dot_detects_substitution _ _ j v' hj hjw (unit_below_prime nd47 (by omega) (by omega))
  rw [hget, Nat.mod_eq_of_lt hv, Nat.mod_eq_of_lt hv']; exact fun e => hne e.symm

/-- Clause "every single-character substitution in a Code 93 symbol is reported as an error": a symbol
    `data ++ [C, K]` accepted by `code93CheckChecksums` is rejected after replacing any ONE of its
    characters (a data character, C, or K) by a different value. -/
theorem code93_detects_single_substitution (data : List Nat) (c k : Nat) (i v' : Nat)
    (hacc : c93ReaderAccept (data ++ [c, k]) = .ok true)
    (hi : i < data.length + 2) (hvals : ∀ v ∈ data ++ [c, k], v < 47) (hv' : v' < 47)
    (hne : (data ++ [c, k])[i]? ≠ some v') :
    c93ReaderAccept ((data ++ [c, k]).set i v') = .ok false := by
  rw [c93ReaderAccept_concat] at hacc
  simp only [Except.ok.injEq, Bool.and_eq_true, beq_iff_eq] at hacc
  obtain ⟨hc, hk⟩ := hacc
  by_cases h1 : i < data.length
  · -- data character: C no longer matches
    rw [List.set_append_left _ _ h1, c93ReaderAccept_concat]
    have hget : (data ++ [c, k])[i]? = some data[i] := by
      rw [List.getElem?_append_left h1]; simp [h1]
    rw [hget] at hne
    have hdi : data[i] < 47 := hvals _ (by simp [List.getElem_mem])
    have := code93_check_changes 20 (by omega) (by omega) data i v' h1 hdi hv' (fun e => hne (by rw [e]))
    rw [hc] at this
    simp [this]
  · by_cases h2 : i = data.length
    · -- C itself
      subst h2
      rw [List.set_append_right _ _ (Nat.le_refl _)]
      simp only [Nat.sub_self, List.set_cons_zero, c93ReaderAccept_concat]
      have hget : (data ++ [c, k])[data.length]? = some c := by simp
      rw [hget] at hne
      have : ¬ c93Check 20 data = v' := by rw [hc]; intro e; exact hne (by rw [e])
      simp [this]
    · -- K
      have h3 : i = data.length + 1 := by omega
      subst h3
      rw [List.set_append_right _ _ (by omega)]
      have : data.length + 1 - data.length = 1 := by omega
      simp only [this, List.set_cons_succ, List.set_cons_zero, c93ReaderAccept_concat]
      have hget : (data ++ [c, k])[data.length + 1]? = some k := by simp
      rw [hget] at hne
      have : ¬ c93Check 15 (data ++ [c]) = v' := by rw [hk]; intro e; exact hne (by rw [e])
      simp [this]

theorem code93_writer_checks_accepted (data : List Nat) :
    c93ReaderAccept (data ++ [(c93Checks data).1, (c93Checks data).2]) = .ok true := by
  rw [c93ReaderAccept_concat]
  simp [c93Checks]

/-! ### EAN-2 / EAN-5 add-ons -/

/-- Clause "2-digit add-ons are accepted only with their parity-encoded check value": accepted iff the
    L/G parities of the two digits spell `value mod 4` -/
theorem ean2_accept_iff (a b : Nat) (ga gb : Bool) :
    ext2Accept [(a, ga), (b, gb)] = .ok () ↔ parityBits [ga, gb] = (10 * a + b) % 4 := by
  simp only [ext2Accept]
  by_cases hp : (10 * a + b) % 4 = parityBits [ga, gb]
  · simp [hp]
  · simp only [hp, if_false]
    constructor
    · intro h; cases h
    · intro h; exact absurd h.symm hp


/-- Clause "5-digit add-ons are accepted only with their parity-encoded check value": accepted iff the
    parity pattern is the table entry of the checksum `(3·(d0+d2+d4) + 9·(d1+d3)) mod 10` — for every
    table of ten distinct patterns. -/
theorem ean5_accept_iff (T : List Nat) (h : WFParity T = true) (sym : List (Nat × Bool)) (hl : sym.length = 5) :
    ext5Accept T sym = .ok () ↔ T[ext5Checksum (sym.map (·.1))]? = some (parityBits (sym.map (·.2))) := by
  unfold ext5Accept determineCheckDigit5
  simp only [hl, ne_eq, not_true_eq_false, if_false]
  have hlt : ext5Checksum (sym.map (·.1)) < 10 := by unfold ext5Checksum; omega
  constructor
  · intro hacc
    split at hacc
    · cases hacc
    · rename_i d hs
      split at hacc
      · rename_i hc; rw [hc]; exact (scan10_ok hs).2
      · cases hacc
  · intro hget
    obtain ⟨hd', hs⟩ := scan10_getElem h _ hlt
    have : T[ext5Checksum (sym.map (·.1))] = parityBits (sym.map (·.2)) := by
      rw [List.getElem?_eq_getElem hd'] at hget
      exact Option.some.inj hget
    rw [this] at hs
    simp [hs]


theorem ext5Checksum_formula (d0 d1 d2 d3 d4 : Nat) :
    ext5Checksum [d0, d1, d2, d3, d4] = (3 * (d0 + d2 + d4) + 9 * (d1 + d3)) % 10 := by
  simp [ext5Checksum, ext5SumAux]; omega


/-! ### writers: compute the check digit, refuse a wrong one -/

/-- Clause "writers compute the check digit by the standard formula": given `n−1` digits (n ≤ 38, in
    particular EAN-13: 13, EAN-8: 8, UPC-A: "0"+11), the EAN-13/EAN-8 encoder draws those digits
    followed by the mod-10 check digit, and the result is a valid number. -/
theorem writer_appends_check (n : Nat) (ds : List Nat) (hd : ∀ d ∈ ds, d < 10)
    (hn : ds.length + 1 = n) (hlen : ds.length ≤ 37) :
    ∃ c : Nat, c < 10 ∧ eanCheckDigit ds = (c : Int) ∧
      stdWriterContents n (digitBytes ds) = .ok (digitBytes (ds ++ [c])) ∧ eanValid (ds ++ [c]) = true := by
  have hs : eanSum ds ≤ 1000 := by have := eanSum_le ds hd; omega
  have hc : eanCheckDigit ds = (((1000 - eanSum ds) % 10 : Nat) : Int) := by
    unfold eanCheckDigit; exact goCheckOf_nonneg hs
  refine ⟨(1000 - eanSum ds) % 10, by omega, hc, ?_, ?_⟩
  · unfold stdWriterContents
    have hl : (digitBytes ds).length + 1 = n := by simpa [digitBytes] using hn
    simp only [hl, if_true, eanChecksumB_digitBytes ds hd]
    rw [hc, itoaSmall_nat]
    have hall : allDigits (digitBytes ds ++ [48 + (1000 - eanSum ds) % 10]) = true := by
      have := allDigits_digitBytes (ds ++ [(1000 - eanSum ds) % 10]) (by
        intro d hm
        simp only [List.mem_append, List.mem_singleton] at hm
        rcases hm with hm | rfl
        · exact hd d hm
        · omega)
      rw [digitBytes_concat] at this
      rw [Nat.add_comm 48]; exact this
    rw [if_pos hall, digitBytes_concat, Nat.add_comm 48]
  · rw [eanValid_concat, hc]
    simp


/-- Clause "writers refuse contents whose supplied check digit is wrong": given all `n` digits, the encoder
    accepts them unchanged iff the last one is the mod-10 check digit of the others, and fails with a
    WriterException otherwise. -/
theorem writer_rejects_wrong_check (n : Nat) (ds : List Nat) (c : Nat) (hd : ∀ d ∈ ds, d < 10) (hc : c < 10)
    (hn : ds.length + 1 = n) :
    stdWriterContents n (digitBytes (ds ++ [c])) =
      if eanCheckDigit ds = (c : Int) then .ok (digitBytes (ds ++ [c])) else .error .writer := by
  have hd' : ∀ d ∈ ds ++ [c], d < 10 := by
    intro d hm
    simp only [List.mem_append, List.mem_singleton] at hm
    rcases hm with hm | rfl
    · exact hd d hm
    · exact hc
  unfold stdWriterContents
  have hl : (digitBytes (ds ++ [c])).length = n := by simp [digitBytes]; omega
  have hl1 : ¬ (digitBytes (ds ++ [c])).length + 1 = n := by omega
  rw [if_neg hl1, if_pos hl, checkStandardB_digitBytes _ hd', eanValid_concat]
  by_cases he : eanCheckDigit ds = (c : Int)
  · have hb : (eanCheckDigit ds == (c : Int)) = true := by simp [he]
    rw [hb]; simp [he, allDigits_digitBytes _ hd']
  · have hb : (eanCheckDigit ds == (c : Int)) = false := by simp [he]
    rw [hb]; simp [he]

/-- every failure of the encoder head is a WriterException, and it never succeeds on a string that is not
    all digits or has the wrong length (clause "contents of the wrong length or alphabet are rejected") -/
theorem writer_rejects_length_and_alphabet (n : Nat) (s : List Nat) :
    (∀ e, stdWriterContents n s = .error e → e = .writer) ∧
    (∀ full, stdWriterContents n s = .ok full →
        allDigits s = true ∧ full.length = n ∧ (s.length = n ∨ s.length + 1 = n)) := by
  refine ⟨stdWriterContents_err n s, fun full h => ?_⟩
  obtain ⟨hlen, hfull⟩ := stdWriterContents_ok n s full h
  obtain ⟨t, rfl⟩ := stdWriterContents_prefix n s _ h
  simp only [allDigits, List.all_append, Bool.and_eq_true] at hfull
  refine ⟨hfull.1, hlen, ?_⟩
  -- with any other length the length switch answers with a WriterException
  by_cases h1 : s.length + 1 = n
  · exact Or.inr h1
  · by_cases h2 : s.length = n
    · exact Or.inl h2
    · simp [stdWriterContents, h1, h2] at h

set_option linter.unusedSimpArgs false in
/-- UPC-E, eight digits supplied: accepted unchanged iff the last digit is the check digit of the expansion
    (and the number system is 0 or 1), a WriterException otherwise. -/
theorem upce_writer_rejects_wrong_check (ds : List Nat) (hlen : ds.length = 8) (hd : ∀ d ∈ ds, d < 10) :
    ∃ a, expandD ds = some a ∧
      upceWriterContents (digitBytes ds) =
        (if eanValid a = true ∧ (ds.head? = some 0 ∨ ds.head? = some 1) then .ok (digitBytes ds)
         else .error .writer) := by
  obtain ⟨a, hea, hconv⟩ := convert_digitBytes ds (by omega)
  refine ⟨a, hea, ?_⟩
  have ha := expandD_lt ds a hd hea
  unfold upceWriterContents
  have h7 : ¬ (digitBytes ds).length = 7 := by simp [digitBytes]; omega
  have h8 : (digitBytes ds).length = 8 := by simp [digitBytes]; omega
  simp only [h7, if_false, h8, if_true, hconv, checkStandardB_digitBytes a ha]
  cases hv : eanValid a
  · simp
  · simp only [allDigits_digitBytes ds hd, Bool.not_true, Bool.false_eq_true, if_false, true_and]
    match ds, hlen with
    | [n, _, _, _, _, _, _, _], _ =>
      have hn := hd n (by simp)
      have hall := allDigits_digitBytes _ hd
      simp only [digitBytes, List.map_cons, List.map_nil] at hall
      simp only [digitBytes, List.map_cons, List.head?_cons, Option.some.injEq]
      by_cases h01 : n = 0 ∨ n = 1
      · have : n + 48 = 48 ∨ n + 48 = 49 := by omega
        simp [h01, this, hall]
      · have : ¬ (n + 48 = 48 ∨ n + 48 = 49) := by omega
        simp [h01, this, hall]

/-! ### non-vacuity: concrete instances meeting the hypotheses -/
example : eanValid [4, 0, 0, 6, 3, 8, 1, 3, 3, 3, 9, 3, 1] = true := by decide +kernel
example : eanValid ([4, 0, 0, 6, 3, 8, 1, 3, 3, 3, 9, 3, 1].set 5 7) = false := by decide +kernel
example : checkStandardB (digitBytes [9, 6, 3, 8, 5, 0, 7, 4]) = .ok true := by decide +kernel
example : suppress (digitBytes [0, 1, 2, 1, 0, 0, 0, 0, 0, 3, 4]) = some (digitBytes [0, 1, 2, 0, 3, 4, 1]) := by decide +kernel
example : convertUPCEtoUPCA (digitBytes [0, 1, 2, 0, 3, 4, 1]) = .ok (digitBytes [0, 1, 2, 1, 0, 0, 0, 0, 0, 3, 4]) := by decide +kernel
example : canonicalUPCE (digitBytes [0, 1, 2, 3, 4, 5, 6]) = true := by decide +kernel
example : WFParity Ref.UPCEAN.ean13FirstDigit = true ∧ WFParity Ref.UPCEAN.ean5CheckDigit = true ∧
    WFParity2 Ref.UPCEAN.upceParity = true := by decide +kernel
example : determineNumSysAndCheckDigit Ref.UPCEAN.upceParity 0x19 = .ok (1, 5) := by decide +kernel
example : c128Check 104 [33, 34] = 102 ∧ c128ReaderAccept 104 [33, 34, 102] = true := by decide +kernel
example : c128ReaderAccept 104 [33, 35, 102] = false := by decide +kernel
example : c93Checks [12, 24, 13, 14] = (c93Check 20 [12, 24, 13, 14], c93Check 15 [12, 24, 13, 14, c93Check 20 [12, 24, 13, 14]]) := rfl
example : c93ReaderAccept [1, 2, 3, 10, 26] = .ok true := by decide +kernel
example : c93ReaderAccept [1, 2, 4, 10, 26] = .ok false := by decide +kernel
example : ext2Accept [(1, false), (2, false)] = .ok () ∧ ext2Accept [(1, false), (3, false)] = .error .checksum := by decide +kernel
example : ext5Accept Ref.UPCEAN.ean5CheckDigit [(1, true), (2, false), (3, true), (4, false), (5, false)] = .ok () := by decide +kernel
example : ext5Accept Ref.UPCEAN.ean5CheckDigit [(1, true), (2, true), (3, false), (4, false), (5, false)] = .error .checksum := by decide +kernel
example : stdWriterContents 13 (digitBytes [4, 0, 0, 6, 3, 8, 1, 3, 3, 3, 9, 3]) = .ok (digitBytes [4, 0, 0, 6, 3, 8, 1, 3, 3, 3, 9, 3, 1]) := by decide +kernel
example : stdWriterContents 13 (digitBytes [4, 0, 0, 6, 3, 8, 1, 3, 3, 3, 9, 3, 2]) = .error .writer := by decide +kernel
/-- UPC-E "1460081" is drawn with check digit 0, the check digit of its UPC-A expansion -/
example : upceWriterContents (digitBytes [1, 4, 6, 0, 0, 8, 1]) = .ok (digitBytes [1, 4, 6, 0, 0, 8, 1, 0]) := by decide +kernel

end Gzx.Properties.C10
