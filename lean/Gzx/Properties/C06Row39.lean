/-
  C06 (work package oned39) — decoding is total, for the three row decoders whose pixel-level code is inside
  the model (Gzx/Model/OneDRow39.lean, tied to oned/code39_reader.go, code93_reader.go, codabar_reader.go by the
  `row39` correspondence lines of harness/zz_oned39_rows.go):

    code39_decodeRow_total, code93_decodeRow_total, codabar_decodeRow_total —
      for EVERY row (any length ≥ 0, any pixels), every reader configuration / hint, the model of `DecodeRow`
      returns a result or one of the documented errors; it never reaches a panic value, i.e. every index and slice
      expression of findAsteriskPattern / toNarrowWidePattern / toPattern / patternToChar / setCounters /
      findStartPattern / validatePattern / checkChecksums / DecodeRow stays in range.
  The table hypotheses (`WF39`, `WF93`, `WFCbRead`: the alphabet string has a character for every encoding entry,
  entry 47 exists, 43 resp. 47 alphabet characters for the check characters) are decidable facts about DATA,
  discharged on every run for the tables regenerated from /repo by Obligations/C06Row39.lean; each is necessary
  (examples below).  Helper lemmas: Gzx/Proofs/Row39Total.lean.
-/
import Gzx.Proofs.Row39Total
namespace Gzx.Properties.C06Row39
open Gzx Gzx.OneD Gzx.Row39 Gzx.Det

def Typed {α : Type} (r : Res α) : Prop :=
  (∃ a, r = .ok a) ∨ r = .error .notFound ∨ r = .error .checksum ∨ r = .error .format

/-! ## Code 39 -/

/-- C06 for `code39Reader.DecodeRow`: on EVERY row, for both flags (check digit, extended mode) and every
    well-formed table set, NO PANIC — `counters[counterPosition]`, `counters[2:2+counterPosition-1]`,
    `code39AlphabetString[i]`, `result[max]`, `code39AlphabetString[total%43]` (total ≥ 0 because every decoded
    character is an alphabet character), `encoded[i+1]` (repaired, D15) never leave their slices. -/
theorem code39_decodeRow_no_panic (T : Tables) (hT : WF39 T = true) (ck ext : Bool) (row : List Bool) :
    ∀ w, c39DecodeRow T ck ext row ≠ .error (.panic w) := by
  have h := c39DecodeRow_sat (E := fun e => ReaderFault e ∨ e = .fuel) (Or.inl (Or.inl rfl))
    (Or.inl (Or.inr (Or.inl rfl))) (Or.inl (Or.inr (Or.inr rfl))) T hT ck ext row
    (fun cs _ => c39Pattern_sat (Or.inr rfl) cs)
  intro w hw
  rw [hw] at h
  rcases h with (h | h | h) | h <;> cases h

/-- C06 for `code39Reader.DecodeRow`, in full for every row a Go program can hold: for every row of at most
    2^31-1 pixels the outcome is a result, NotFound, Checksum or Format — in particular the classifier's
    `for { … if !(wideCounters > 3) break }` loop and the character loop END (no `.fuel`).
    The length bound is needed only for the literal `math.MaxInt32` in `code39ToNarrowWidePattern`: with four runs
    longer than that the Go loop does not terminate (`code39_classifier_needs_bound`). -/
theorem code39_decodeRow_total (T : Tables) (hT : WF39 T = true) (ck ext : Bool) (row : List Bool)
    (hlen : row.length ≤ 2147483647) : Typed (c39DecodeRow T ck ext row) := by
  refine (c39DecodeRow_sat (E := ReaderFault) (Or.inl rfl) (Or.inr (Or.inl rfl)) (Or.inr (Or.inr rfl)) T hT ck ext row
    ?_).typed
  intro cs hb
  obtain ⟨p, hp⟩ := c39Pattern_ok cs (fun c hc => Nat.le_trans (hb c hc) hlen)
  rw [hp]; trivial

/-- the classifier alone, on any counters below 2^31: a pattern or -1 -/
theorem code39_classifier_total (cs : List Nat) (hb : ∀ c ∈ cs, c ≤ 2147483647) : ∃ p, c39Pattern cs = .ok p :=
  c39Pattern_ok cs hb

/-- four counters above `math.MaxInt32`: `minCounter` stays at MaxInt32 for ever, `wideCounters` stays 4 -/
theorem code39_classifier_needs_bound :
    c39Pattern [2147483648, 2147483649, 2147483650, 2147483651, 1, 1, 1, 1, 1] = .error .fuel := by decide +kernel

-- non-vacuity: "*A*" drawn by the writer model, one pixel per module, 2 white pixels either side; the same row
-- cut inside the stop character; the empty symbol "**"; check digit demanded and wrong
example : (code39Modules refTables [65]).map (fun m => c39DecodeRow refTables false false ([false, false] ++ m ++ [false, false])) =
    .ok (.ok ⟨[65], 16, 68⟩) := by decide +kernel
example : (code39Modules refTables [65]).map (fun m => c39DecodeRow refTables false false (([false, false] ++ m).take 35)) =
    .ok (.error .notFound) := by decide +kernel
example : (code39Modules refTables []).map (fun m => c39DecodeRow refTables false false m) =
    .ok (.error .notFound) := by decide +kernel
example : (code39Modules refTables [65]).map (fun m => c39DecodeRow refTables true false ([false, false] ++ m ++ [false, false])) =
    .ok (.error .checksum) := by decide +kernel
example : WF39 refTables = true := by decide
/-- the table hypothesis is needed: with a 42-character alphabet the symbol "*%*" indexes past the string -/
example : c39Char { refTables with code39Alphabet := refTables.code39Alphabet.take 42 } 0x02A =
    .error (.panic "index out of range") := by decide

/-! ## Code 93 -/

/-- C06 for `code93Reader.DecodeRow`: on EVERY row and every well-formed table set the outcome is a result,
    NotFound, Checksum or Format; never a panic (`theCounters[…]`, `code93Alphabet[i]`, `row.Get(nextStart)` with
    `nextStart < end`, `result[checkPosition]`, `code93Alphabet[total%47]`), and both loops end. -/
theorem code93_decodeRow_total (T : Tables) (hT : WF93 T = true) (row : List Bool) : Typed (c93DecodeRow T row) :=
  (c93DecodeRow_sat (E := ReaderFault) (Or.inl rfl) (Or.inr (Or.inl rfl)) (Or.inr (Or.inr rfl)) T hT row).typed

theorem code93_decodeRow_no_panic (T : Tables) (hT : WF93 T = true) (row : List Bool) :
    (∀ w, c93DecodeRow T row ≠ .error (.panic w)) ∧ c93DecodeRow T row ≠ .error .fuel :=
  (c93DecodeRow_sat (E := ReaderFault) (Or.inl rfl) (Or.inr (Or.inl rfl)) (Or.inr (Or.inr rfl)) T hT row).no_crash
    readerFault_checked

-- non-vacuity: "*A<C><K>*|" (A, check characters '4' 'Y' … computed by the writer model), a cut row
example : (code93Modules refTables [65]).map (fun m => c93DecodeRow refTables (false :: m ++ [false])) =
    .ok (.ok ⟨[65], 11, 83⟩) := by decide +kernel
example : (code93Modules refTables [65]).map (fun m => c93DecodeRow refTables (m.take 40)) =
    .ok (.error .notFound) := by decide +kernel
example : WF93 refTables = true := by decide
/-- the table hypothesis is needed: `code93AsteriskEncoding = code93CharacterEncodings[47]` -/
example : c93DecodeRow { refTables with code93Enc := refTables.code93Enc.take 47 } [true] =
    .error (.panic "index out of range") := by decide

/-! ## Codabar -/

/-- C06 for `codabarReader.DecodeRow`: on EVERY row, with or without RETURN_CODABAR_START_END, for every table set
    whose alphabet covers the encodings: a result or NotFound; never a panic — `counters[j]` in
    `toNarrowWidePattern` (guarded by `end >= counterLength`), `counters[i-1]`, `counters[nextStart-1]`,
    `counters[nextStart-8 … nextStart-2]`, `counters[pos+j]` and `CHARACTER_ENCODINGS[decodeRowResult[i]]` in
    `validatePattern`, `ALPHABET[…]`, `decodeRowResult[0]`, `decodeRowResult[len-1]`, the two running sums —
    and the character loop ends. -/
theorem codabar_decodeRow_total (T : Tables) (hT : WFCbRead T = true) (retSE : Bool) (row : List Bool) :
    (∃ h, cbDecodeRow T retSE row = .ok h) ∨ cbDecodeRow T retSE row = .error .notFound := by
  exact (cbDecodeRow_sat (E := Only .notFound) rfl T hT retSE row).ok_or

theorem codabar_decodeRow_no_panic (T : Tables) (hT : WFCbRead T = true) (retSE : Bool) (row : List Bool) :
    (∀ w, cbDecodeRow T retSE row ≠ .error (.panic w)) ∧ cbDecodeRow T retSE row ≠ .error .fuel := by
  exact (cbDecodeRow_sat (E := OnlyNotFound) rfl T hT retSE row).never

-- non-vacuity: "A12B" written by the writer model, one white pixel either side; both hint settings; the bare
-- module row (no white pixel in front: the first bar is not counted) is NotFound
example : (codabarModules refTables [65, 49, 50, 66]).map (fun m => cbDecodeRow refTables false (false :: m ++ [false])) =
    .ok (.ok ⟨[49, 50], 2, 84⟩) := by decide +kernel
example : (codabarModules refTables [65, 49, 50, 66]).map (fun m => cbDecodeRow refTables true (false :: m ++ [false])) =
    .ok (.ok ⟨[65, 49, 50, 66], 2, 84⟩) := by decide +kernel
example : (codabarModules refTables [65, 49, 50, 66]).map (fun m => cbDecodeRow refTables false m) =
    .ok (.error .notFound) := by decide +kernel
example : WFCbRead refTables = true := by decide
/-- the table hypothesis is needed: an encoding without alphabet character -/
example : cbIsStartEnd { refTables with codabarAlphabet := refTables.codabarAlphabet.take 19 } 19 =
    .error (.panic "index out of range") := by decide

end Gzx.Properties.C06Row39
