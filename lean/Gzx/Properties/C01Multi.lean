/-
  C01 (work package c01multi) — the QR round trip for MULTI-SEGMENT symbols: any sequence of numeric / alphanumeric /
  byte / Kanji / Hanzi segments, ECI designators between them, FNC1 first/second position, structured append.
  Property theorems only.  Reference stream: Gzx/Ref/QRMulti.lean (ISO/IEC 18004, GB/T 18284); decoder model:
  Gzx/Model/QRDecoder.lean; proofs: Gzx/Proofs/QRMulti.lean, QRMultiFit.lean; composition with the matrix / RS layers:
  `QRComp.decode_ref_items` (Proofs/QRCompTop.lean).  The stream layer is tied to the Go parser and the whole chain to `Decoder.Decode`
  by the `c01multi` correspondence lines (harness/zz_c01multi_*.go).
-/
import Gzx.Properties.C01
namespace Gzx.Properties.C01Multi
open Gzx Gzx.QRDec Gzx.QRPack Gzx.ECI Gzx.QRComp Gzx.QRMulti
open Gzx.Properties.C01 (refSymbol)

/-! ## Hanzi (mode 1101, GB 2312 subset) -/

/-- the parser on a Hanzi segment packed as GB/T 18284 prescribes (mode 1101, subset 0001, count of
    the Kanji width, 13 bits per character: row offset 0xA1 / 0xA6, × 0x60, + cell offset) appends exactly the GB 2312
    byte pairs and leaves what follows, for every version and every count the indicator can hold. -/
theorem hanzi_segment_inv (reg : Registry) (ver : Nat) (hint : Hint) (fuel : Nat) (st : PSt)
    (ps : List (Nat × Nat)) (hp : ∀ p ∈ ps, hanziPairOK p) (hlen : ps.length < 2 ^ countWidth 3 ver)
    (rest : List Bool) :
    parseLoop reg ver hint (fuel + 1) st
        (natToBits 4 0xD ++ (natToBits 4 1 ++ (natToBits (countWidth 3 ver) ps.length ++ packHanzi ps)) ++ rest) =
      parseLoop reg ver hint fuel
        { st with segs := st.segs ++ [.text (.named "GB18030") (ps.flatMap (fun p => [p.1, p.2]))] } rest :=
  QRMulti.hanzi_segment_inv reg ver hint fuel st ps hp hlen rest

/-- non-vacuity: the first and last characters of both row ranges (0xA1A1, 0xAAFE, 0xB0A1, 0xFAFE) in version 1 -/
example : (∀ p ∈ [(0xA1, 0xA1), (0xAA, 0xFE), (0xB0, 0xA1), (0xFA, 0xFE)], hanziPairOK p) ∧
    parseStream [] (Item.bits 1 (.hanzi [(0xA1, 0xA1), (0xAA, 0xFE), (0xB0, 0xA1), (0xFA, 0xFE)]) ++
      List.replicate 4 false) 1 .none =
    .ok ⟨[.text (.named "GB18030") [0xA1, 0xA1, 0xAA, 0xFE, 0xB0, 0xA1, 0xFA, 0xFE]], [], -1, -1, 1⟩ := by decide

/-! ## the bit-stream parser on whole multi-segment streams -/

/-- every item list in ANY order (segments, ECI designators, FNC1 indicators, structured-append headers), followed by
    the terminator (full, or shortened at capacity) and any padding: the parser returns the meaning `run` of the list —
    the decoder's state between two segments (ECI in effect, FNC1 in effect) is what `run` threads through. -/
theorem parse_items_stream (reg : Registry) (ver : Nat) (hint : Hint) (g : List Nat → Charset) (items : List Item)
    (hok : ∀ it ∈ items, it.Content reg ∧ it.CountOK ver)
    (hg : ∀ bs ∈ guessed false items, guessCharset reg bs hint = .ok (g bs))
    (tail : List Bool) (ht : Terminated tail) :
    parseStream reg (bitsOf ver items ++ tail) ver hint = .ok (toParsed (run reg g {} items)) :=
  parseStream_items reg ver hint g items hok hg tail ht

/-! ## the composed round trip -/

/-- for every version 1..40, level, mask 0..7 and EVERY list of items in any order whose
    contents are encodable (`Item.Content`: digits, Table-5 values, bytes, Shift_JIS / GB 2312 pairs of the modes'
    ranges, registered ECI numbers < 900, 8-bit structured-append fields) and whose bit stream fits the data capacity of
    (version, level): `Decoder.Decode` (model) on the reference symbol succeeds on the first attempt and returns the
    meaning of the list — segments, byte segments, structured-append sequence/parity, symbology modifier —, the level,
    the version and exactly the written data codewords.  `g` names the charsets `guessCharset` picks for the byte
    segments that no ECI governs (hypothesis `hg`: only those are constrained; with the hint absent it always holds
    for `g := the guess`). -/
theorem qr_roundtrip_items (T : Tables) (hT : TablesConform T) (hint : Hint) (v : Nat) (h1 : 1 ≤ v) (h40 : v ≤ 40)
    (ec : QRRef.EC) (mask : Nat) (hm : mask < 8) (items : List Item) (g : List Nat → Charset)
    (hc : ∀ it ∈ items, it.Content T.eci)
    (hg : ∀ bs ∈ guessed false items, guessCharset T.eci bs hint = .ok (g bs))
    (hfit : (bitsOf v items).length ≤ 8 * QRRef.dataCodewords v ec) :
    decode T rsQR hint (refSymbol v ec mask (bitsOf v items)) =
      .ok ⟨toParsed (run T.eci g {} items), toDecEC ec, v,
        QRRef.terminate (QRRef.dataCodewords v ec) (bitsOf v items), false⟩ :=
  decode_ref_items T hT hint v h1 h40 ec mask hm items g hc hg hfit

/-- the same for a symbol in the standard's layout: optional structured-append header,
    optional FNC1 indicator (first or second position), then any sequence of numeric / alphanumeric / byte / Kanji /
    Hanzi segments with ECI designators between them.  The decoder returns, explicitly (`Symbol.expected`):
      * the contents of the segments in order — digits as ASCII, Table-5 characters (with `%%`→`%`, `%`→GS when an
        FNC1 indicator heads the symbol), bytes labelled with the charset of the LAST ECI designator before them (the
        guess `g` when there is none), Shift_JIS / GB 2312 pairs;
      * the byte-mode segments; the structured-append sequence indicator and parity (−1, −1 without header);
      * the symbology modifier 1..6 from (FNC1 position, an ECI designator is present);
      * the level, the version and the written data codewords. -/
theorem qr_roundtrip_segments (T : Tables) (hT : TablesConform T) (hint : Hint) (v : Nat) (h1 : 1 ≤ v) (h40 : v ≤ 40)
    (ec : QRRef.EC) (mask : Nat) (hm : mask < 8) (s : Symbol) (g : List Nat → Charset)
    (hsa : ∀ qp, s.sa = some qp → qp.1 < 256 ∧ qp.2 < 256)
    (hb : ∀ it ∈ s.body, it.isBody = true ∧ it.Content T.eci)
    (hg : ∀ bs ∈ guessed false s.body, guessCharset T.eci bs hint = .ok (g bs))
    (hfit : (bitsOf v s.items).length ≤ 8 * QRRef.dataCodewords v ec) :
    decode T rsQR hint (refSymbol v ec mask (bitsOf v s.items)) =
      .ok ⟨s.expected T.eci g, toDecEC ec, v,
        QRRef.terminate (QRRef.dataCodewords v ec) (bitsOf v s.items), false⟩ := by
  rw [← run_symbol T.eci g s hb]
  apply qr_roundtrip_items T hT hint v h1 h40 ec mask hm s.items g ?_ (by rw [guessed_symbol]; exact hg) hfit
  intro it hit
  unfold Symbol.items Symbol.header at hit
  rcases List.mem_append.mp hit with h | h
  · rcases List.mem_append.mp h with h | h
    · cases hs : s.sa with
      | none => rw [hs] at h; cases h
      | some qp =>
        rw [hs] at h
        obtain ⟨q, p⟩ := qp
        rcases List.mem_singleton.mp h with rfl
        exact hsa (q, p) hs
    · cases hf : s.fnc1 <;> rw [hf] at h
      · cases h
      · rcases List.mem_singleton.mp h with rfl; trivial
      · rcases List.mem_singleton.mp h with rfl; trivial
  · exact (hb it h).2

/-! ### what the LIBRARY encoder emits with the GS1_FORMAT hint: [ECI header] FNC1(first position) one segment -/

/-- the item list of a GS1 symbol of the library encoder (`Encoder_encode`: appendECI, then the FNC1 mode header, then
    the segment) -/
def gs1Items (eci : Option Nat) (seg : Item) : List Item :=
  (match eci with | some val => [.eci val] | none => []) ++ [.fnc1First, seg]

/-- the reference encoder of C07 (`QRRef.headerBits eci true m`, which the c07 oracle compares with the library's
    matrices) writes exactly the stream of `gs1Items` -/
theorem gs1_payload (v : Nat) (eci : Option Nat) :
    (∀ ds, QRRef.payloadBits v (QRRef.headerBits eci true .numeric) .numeric ds.length (QRRef.packNumeric ds) =
      bitsOf v (gs1Items eci (.numeric ds))) ∧
    (∀ cs, QRRef.payloadBits v (QRRef.headerBits eci true .alnum) .alnum cs.length (QRRef.packAlnum cs) =
      bitsOf v (gs1Items eci (.alnum cs))) ∧
    (∀ bs, QRRef.payloadBits v (QRRef.headerBits eci true .byte) .byte bs.length (QRRef.bitsOfBytes bs) =
      bitsOf v (gs1Items eci (.byte bs))) ∧
    (∀ ps, QRRef.payloadBits v (QRRef.headerBits eci true .kanji) .kanji ps.length (QRPack.packKanji ps) =
      bitsOf v (gs1Items eci (.kanji ps))) := by
  have hg : ∀ seg, hdrItems eci true ++ [seg] = gs1Items eci seg := by intro seg; cases eci <;> rfl
  simpa only [hg] using payload_items v eci true

/-- **corollary for the library's GS1 symbols** (GS1_FORMAT hint, optional character-set ECI, one segment of any of
    the four modes): the decoder returns the one segment's contents and the symbology modifier 3 (4 with ECI).  Note
    what `contents` says for alphanumeric mode: FNC1 is in effect, so `%` comes back as GS (0x1D) and `%%` as `%` —
    the decoder applies 7.4.8.2, the library encoder does not escape; digits, bytes and Kanji come back unchanged. -/
theorem qr_roundtrip_gs1 (T : Tables) (hT : TablesConform T) (hint : Hint) (v : Nat) (h1 : 1 ≤ v) (h40 : v ≤ 40)
    (ec : QRRef.EC) (mask : Nat) (hm : mask < 8) (eci : Option Nat) (seg : Item) (g : List Nat → Charset)
    (he : ∀ val, eci = some val → val < 900 ∧ (lookupValue T.eci val).isSome)
    (hs : seg.isBody = true ∧ seg.Content T.eci)
    (hg : eci = none → ∀ bs, seg = .byte bs → guessCharset T.eci bs hint = .ok (g bs))
    (hfit : (bitsOf v (gs1Items eci seg)).length ≤ 8 * QRRef.dataCodewords v ec) :
    decode T rsQR hint (refSymbol v ec mask (bitsOf v (gs1Items eci seg))) =
      .ok ⟨⟨contents T.eci g true (eci.bind (lookupValue T.eci)) [seg], byteSegsOf [seg], -1, -1,
            if eci.isSome || hasECI [seg] then 4 else 3⟩,
        toDecEC ec, v, QRRef.terminate (QRRef.dataCodewords v ec) (bitsOf v (gs1Items eci seg)), false⟩ := by
  have hmain := qr_roundtrip_items T hT hint v h1 h40 ec mask hm (gs1Items eci seg) g ?_ ?_ hfit
  · rw [hmain]
    congr 2
    cases eci with
    | none =>
      have hr : run T.eci g {} (gs1Items none seg) = run T.eci g { fnc1First := true, fnc1 := true } [seg] := rfl
      obtain ⟨i1, i2, i3, i4, i5, i6, i7⟩ := run_body T.eci g [seg]
        { fnc1First := true, fnc1 := true } (by intro it hit; rcases List.mem_singleton.mp hit with rfl; exact hs)
      rw [hr]
      simp only [toParsed, symbologyModifier, i1, i2, i3, i4, i5, i6, i7, List.nil_append, Option.isSome_none,
        Bool.false_or, Option.bind_none, if_true]
    | some val =>
      have hr : run T.eci g {} (gs1Items (some val) seg) =
          run T.eci g { eci := lookupValue T.eci val, fnc1First := true, fnc1 := true } [seg] := rfl
      obtain ⟨i1, i2, i3, i4, i5, i6, i7⟩ := run_body T.eci g [seg]
        { eci := lookupValue T.eci val, fnc1First := true, fnc1 := true }
        (by intro it hit; rcases List.mem_singleton.mp hit with rfl; exact hs)
      rw [hr]
      simp only [toParsed, symbologyModifier, i1, i2, i3, i4, i5, i6, i7, List.nil_append, (he val rfl).2,
        Bool.true_or, Option.bind_some, Option.isSome_some, if_true]
  · intro it hit
    unfold gs1Items at hit
    rcases List.mem_append.mp hit with h | h
    · cases eci with
      | none => cases h
      | some val => rcases List.mem_singleton.mp h with rfl; exact he val rfl
    · rcases List.mem_cons.mp h with rfl | h
      · trivial
      · rcases List.mem_singleton.mp h with rfl; exact hs.2
  · intro bs hbs
    cases eci with
    | none =>
      cases seg <;> simp [gs1Items, guessed] at hbs
      subst hbs
      exact hg rfl _ rfl
    | some val =>
      cases seg <;> simp [gs1Items, guessed] at hbs

/-- GS1 alphanumeric data escaped as 7.4.8.2 prescribes (`%` doubled, separator GS written as a single `%`:
    `QRMulti.gs1Escape`) comes back unchanged through the parser's FNC1 rule — for data in which no separator is directly
    followed by a separator or by `%` (`gs1Clean`); there the standard's escape itself is ambiguous (next example).
    Together with `qr_roundtrip_segments` (FNC1 header + alphanumeric segment of the escaped characters): GS1 element
    strings round-trip. -/
theorem gs1_escape_inv (xs : List Nat) (h : gs1Clean xs = true) : fnc1Massage (gs1Escape xs) = xs :=
  fnc1Massage_gs1Escape xs h

/-- `GS %` and `% GS` have the same escape `%%%`; `GS GS` escapes to `%%`, which reads as one `%` -/
example : gs1Escape [0x1D, 37] = gs1Escape [37, 0x1D] ∧ fnc1Massage (gs1Escape [0x1D, 0x1D]) = [37] ∧
    gs1Clean [65, 0x1D, 66, 37, 37, 0x1D] = true ∧
    fnc1Massage (gs1Escape [65, 0x1D, 66, 37, 37, 0x1D]) = [65, 0x1D, 66, 37, 37, 0x1D] := by decide

/-! ### non-vacuity -/

/-- a mixed symbol: structured append (2nd of 3, parity 0x5A), FNC1 first position, "0123" numeric, "A%%B%" alphanumeric,
    a guessed byte segment, ECI 9 (ISO-8859-7 in the library's registry), a designated byte segment, Kanji 0x935F,
    Hanzi 0xB0A1 — fits version 2-M; the parser returns what `Symbol.expected` says -/
def demo : Symbol :=
  { sa := some (0x12, 0x5A), fnc1 := .first,
    body := [.numeric [0, 1, 2, 3], .alnum [10, 38, 38, 11, 38], .byte [0x61, 0x62], .eci 9, .byte [0xE1, 0xE2],
             .kanji [(0x93, 0x5F)], .hanzi [(0xB0, 0xA1)]] }

def demoReg : Registry := [⟨[9], "ISO8859_7", "ISO8859_7", ["ISO-8859-7"], "ISO-8859-7"⟩]

example : (bitsOf 2 demo.items).length = 215 ∧ 215 ≤ 8 * QRRef.dataCodewords 2 .M ∧
    (∀ it ∈ demo.body, it.isBody = true) ∧
    parseStream demoReg (bitsOf 2 demo.items ++ List.replicate 4 false) 2 .none =
      .ok (demo.expected demoReg (fun _ => .latin1)) ∧
    demo.expected demoReg (fun _ => .latin1) =
      ⟨[.raw [48, 49, 50, 51], .raw [65, 37, 66, 0x1D], .text .latin1 [0x61, 0x62], .text (.named "ISO8859_7") [0xE1, 0xE2],
        .text .sjis [0x93, 0x5F], .text (.named "GB18030") [0xB0, 0xA1]],
       [[0x61, 0x62], [0xE1, 0xE2]], 0x12, 0x5A, 4⟩ := by decide +kernel

instance (p : Nat × Nat) : Decidable (kanjiPairOK p) := by unfold kanjiPairOK; infer_instance

instance (reg : Registry) (it : Item) : Decidable (it.Content reg) := by
  cases it <;> unfold Item.Content <;> infer_instance

/-- … and every hypothesis of `qr_roundtrip_segments` holds for it (tables of the standard with a one-entry ECI registry,
    version 2-M, mask 5): an instance of the theorem -/
example : decode ⟨refFmt, QRRef.formatMask, refVdi, refVersions, demoReg⟩ rsQR .none
      (refSymbol 2 .M 5 (bitsOf 2 demo.items)) =
    .ok ⟨demo.expected demoReg (fun _ => .latin1), .M, 2,
      QRRef.terminate (QRRef.dataCodewords 2 .M) (bitsOf 2 demo.items), false⟩ :=
  qr_roundtrip_segments ⟨refFmt, QRRef.formatMask, refVdi, refVersions, demoReg⟩ ⟨rfl, rfl, rfl⟩ .none 2 (by decide) (by decide)
    .M 5 (by decide) demo (fun _ => .latin1) (by decide) (by decide) (by decide +kernel) (by decide +kernel)

/-- the library's registry need not be consulted for a symbol without ECI: any `Tables`, hint absent — the hypothesis
    `hg` of `qr_roundtrip_segments` is then satisfied by the guess itself -/
example (reg : Registry) (bs : List Nat) : ∃ cs, guessCharset reg bs .none = .ok cs := by
  simp only [guessCharset]
  split <;> exact ⟨_, rfl⟩

/-- **observation (outside C01, whose quantifier is the library's own writer): FNC1 in second position.**  ISO/IEC 18004
    7.4.8.3 puts an 8-bit application indicator after mode 1001; the library (like ZXing) does not consume it, the next
    four bits are taken for a mode indicator.  With application indicator 0x25 (`37` → "00100101") before a numeric
    segment "01" the parser reads mode 0010 (alphanumeric) and fails; a stream WITHOUT the indicator (`Item.fnc1Second`
    as modelled) parses.  Structured reading of such symbols is therefore limited to what `Item.fnc1Second` writes. -/
example : parseStream [] (natToBits 4 9 ++ natToBits 8 0x25 ++ Item.bits 1 (.numeric [0, 1]) ++ List.replicate 4 false)
      1 .none = .error .format ∧
    parseStream [] (bitsOf 1 [.fnc1Second, .numeric [0, 1]] ++ List.replicate 4 false) 1 .none =
      .ok ⟨[.raw [48, 49]], [], -1, -1, 5⟩ := by decide

end Gzx.Properties.C01Multi
