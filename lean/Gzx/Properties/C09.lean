/-
  C09 — located symbols are never misread; orientation and mirroring are handled.

  The guarantee itself ("the text is the content or the call fails") depends on floating-point
  detectors and on Reed-Solomon / check-digit rejection of mis-sampled grids; it is checked by
  the exploration oracle on the real code (harness/c09.go), NOT proved.  PROVED here is the
  decision logic around the detectors, over models tied to the code by correspondence:
    * pose algebra: sampling block centres of an upscaled image returns the image; padding is
      undone by cropping; four quarter turns are the identity; rot180 is "reverse the rows and
      reverse each row" (the reversed-row retry of the 1-D readers looks at exactly the rows of
      the upside-down image); transposition is an involution;
    * OneDReader.doDecode / Decode: the scan only looks at rows inside the image, starts at the
      middle, terminates; a symbol readable only on the reversed row is returned with
      ORIENTATION 180 and x-mirrored points; with TRY_HARDER a sideways symbol is returned with
      orientation (270 + o) mod 360 and remapped points; without TRY_HARDER no rotation happens;
      checksum/format failures never trigger the rotation retry;
    * QR Decoder.Decode: if the first pass fails with Format/Checksum and the mirrored pass
      succeeds the result is flagged mirrored; a matrix and its transpose decode to the same
      text with opposite flags; the error of a double failure is the first pass's; it never
      returns neither result nor error.
-/
import Gzx.Model.Poses
import Gzx.Model.OneDScan
import Gzx.Model.QRMirror
namespace Gzx.Properties.C09
open Gzx

/-! ## pose algebra -/
section Poses
open Gzx.Poses

theorem scale_sample_inv (k : Nat) (hk : 0 < k) (m : Img) :
    (sampleCentres k m.w m.h (scale k m)).Equiv m := by
  refine ⟨rfl, rfl, ?_⟩
  intro x y _ _
  simp only [sampleCentres, scale]
  have hx : (x * k + k / 2) / k = x := by
    rw [Nat.mul_comm x k, Nat.mul_add_div hk, Nat.div_eq_of_lt (Nat.div_lt_self hk (by decide))]; omega
  have hy : (y * k + k / 2) / k = y := by
    rw [Nat.mul_comm y k, Nat.mul_add_div hk, Nat.div_eq_of_lt (Nat.div_lt_self hk (by decide))]; omega
  rw [hx, hy]

/-- every pixel of a block shows its module (not only the centre) -/
theorem scale_block (k : Nat) (hk : 0 < k) (m : Img) (x y dx dy : Nat) (hdx : dx < k) (hdy : dy < k) :
    (scale k m).px (x * k + dx) (y * k + dy) = m.px x y := by
  simp only [scale]
  have hx : (x * k + dx) / k = x := by
    rw [Nat.mul_comm x k, Nat.mul_add_div hk, Nat.div_eq_of_lt hdx]; omega
  have hy : (y * k + dy) / k = y := by
    rw [Nat.mul_comm y k, Nat.mul_add_div hk, Nat.div_eq_of_lt hdy]; omega
  rw [hx, hy]

/-- padding adds white pixels only and keeps the symbol at offset (p, p) -/
theorem pad_inside (p : Nat) (m : Img) (x y : Nat) (hx : x < m.w) (hy : y < m.h) :
    (pad p m).px (x + p) (y + p) = m.px x y := by
  simp only [pad]
  have : p ≤ x + p ∧ x + p < p + m.w ∧ p ≤ y + p ∧ y + p < p + m.h := by omega
  simp only [this, and_self, if_true]
  congr 1 <;> omega

theorem pad_outside (p : Nat) (m : Img) (x y : Nat) (h : x < p ∨ y < p ∨ p + m.w ≤ x ∨ p + m.h ≤ y) :
    (pad p m).px x y = false := by
  simp only [pad]
  have : ¬ (p ≤ x ∧ x < p + m.w ∧ p ≤ y ∧ y < p + m.h) := by omega
  simp only [this, if_false]

theorem rot90_four (m : Img) : (rot90 (rot90 (rot90 (rot90 m)))).Equiv m := by
  refine ⟨rfl, rfl, ?_⟩
  intro x y hx hy
  simp only [rot90] at hx hy ⊢
  congr 1 <;> omega

/-- a clockwise and a counter-clockwise quarter turn cancel (the TRY_HARDER retry turns a
    clockwise-rotated symbol back upright) -/
theorem rotCCW_rot90 (m : Img) : (rotCCW (rot90 m)).Equiv m := by
  refine ⟨rfl, rfl, ?_⟩
  intro x y hx hy
  simp only [rot90, rotCCW] at hx hy ⊢
  first | rfl | (congr 1 <;> omega)

theorem rot90_twice (m : Img) : (rot90 (rot90 m)).Equiv (rot180 m) := by
  refine ⟨rfl, rfl, ?_⟩
  intro x y hx hy
  simp only [rot90, rot180] at hx hy ⊢

/-- a symbol turned counter-clockwise from clockwise-270 (= CCW once more) is upside down:
    CCW of rot90³ is rot180 — the 90-degree retry then needs the reversed-row retry, giving 270+180 -/
theorem rotCCW_rot270 (m : Img) : (rotCCW (rot90 (rot90 (rot90 m)))).Equiv (rot180 m) := by
  refine ⟨rfl, rfl, ?_⟩
  intro x y hx hy
  simp only [rot90, rotCCW, rot180] at hx hy ⊢
  congr 1 <;> omega

theorem transpose_involutive (m : Img) : (transpose (transpose m)).Equiv m :=
  ⟨rfl, rfl, fun _ _ _ _ => rfl⟩

theorem reverse_range_map {α : Type} (n : Nat) (f : Nat → α) :
    ((List.range n).map f).reverse = (List.range n).map (fun i => f (n - 1 - i)) := by
  apply List.ext_getElem
  · simp
  · intro i h1 h2
    simp only [List.length_reverse, List.length_map, List.length_range] at h1
    simp only [List.getElem_reverse, List.getElem_map, List.getElem_range, List.length_map, List.length_range]

/-- The rows of the upside-down image are the rows in
    reverse order, each reversed — row y of rot180 is the reversed row h-1-y, which is what
    `row.Reverse()` in doDecode produces from the upright image's row -/
theorem rot180_eq_reverse_rows_reverse_each (m : Img) :
    rows (rot180 m) = ((rows m).map List.reverse).reverse := by
  simp only [rows, rot180, List.map_map]
  rw [reverse_range_map]
  apply List.map_congr_left
  intro y _
  simp only [Function.comp]
  rw [reverse_range_map]

theorem row_rot180 (m : Img) (y : Nat) : row (rot180 m) y = (row m (m.h - 1 - y)).reverse := by
  simp only [row, rot180]
  rw [reverse_range_map]

end Poses

/-! ## OneDReader scan logic -/
section OneD
open Gzx.OneDScan

theorem rowStep_pos (height : Nat) (th : Bool) : 1 ≤ rowStepOf height th := by
  unfold rowStepOf; exact Nat.le_max_left _ _

/-- "the scan visits only rows in range": every row number handed to GetBlackRow / DecodeRow is < height -/
theorem visit_in_range (height : Nat) (th : Bool) : ∀ r ∈ visitOrder height th, r < height := by
  unfold visitOrder
  generalize height / 2 = middle
  generalize rowStepOf height th = step
  generalize maxLinesOf height th = fuel
  suffices h : ∀ fuel x, ∀ r ∈ visitOrder.go height middle step fuel x, r < height from h fuel 0
  intro fuel
  induction fuel with
  | zero => intro x r hr; simp [visitOrder.go] at hr
  | succ f ih =>
    intro x r hr
    simp only [visitOrder.go] at hr
    split at hr
    · cases hr
    · rename_i hin
      rcases List.mem_cons.mp hr with e | hr'
      · subst e; omega
      · exact ih (x + 1) r hr'

theorem rowAt_zero (middle step : Nat) : rowAt middle step 0 = (middle : Int) := by simp [rowAt]

/-- the scan starts at the middle row (when the image has a row at all) -/
theorem visit_first_is_middle (height : Nat) (th : Bool) (hh : 0 < height) :
    (visitOrder height th).head? = some (height / 2) := by
  unfold visitOrder
  have hml : maxLinesOf height th = (maxLinesOf height th - 1) + 1 := by
    unfold maxLinesOf; split <;> omega
  rw [hml]
  simp only [visitOrder.go, rowAt_zero]
  have hin : ¬ (((height / 2 : Nat) : Int) < 0 ∨ ((height / 2 : Nat) : Int) ≥ (height : Int)) := by omega
  simp only [hin, if_false, List.head?_cons, Int.toNat_natCast]

/-- termination / cost: at most `maxLines` rows are examined (two DecodeRow calls each) -/
theorem visit_length_le (height : Nat) (th : Bool) : (visitOrder height th).length ≤ maxLinesOf height th := by
  unfold visitOrder
  generalize height / 2 = middle
  generalize rowStepOf height th = step
  generalize maxLinesOf height th = fuel
  suffices h : ∀ fuel x, (visitOrder.go height middle step fuel x).length ≤ fuel from h fuel 0
  intro fuel
  induction fuel with
  | zero => intro x; simp [visitOrder.go]
  | succ f ih =>
    intro x
    simp only [visitOrder.go]
    split
    · simp
    · simp only [List.length_cons]; have := ih (x + 1); omega

/-- the verdict of the first row of `rows` on which `GetBlackRow` succeeds and `scanRow` does not say `next` -/
def firstDecisive (width : Nat) (black : Nat → Bool) (dec : Nat → Bool → Res Hit) : List Nat → Res Hit
  | [] => .error .notFound
  | r :: rs =>
    if !black r then firstDecisive width black dec rs
    else match scanRow width dec r with
      | .found h => .ok h
      | .abort e => .error e
      | .next => firstDecisive width black dec rs

theorem scanLoop_eq_visit (width height : Nat) (black : Nat → Bool) (dec : Nat → Bool → Res Hit) (middle step : Nat) :
    ∀ fuel x, scanLoop width height black dec middle step fuel x =
      firstDecisive width black dec (visitOrder.go height middle step fuel x) := by
  intro fuel
  induction fuel with
  | zero => intro x; rfl
  | succ n ih =>
    intro x
    unfold scanLoop visitOrder.go
    simp only []
    by_cases hin : rowAt middle step x < 0 ∨ rowAt middle step x ≥ (height : Int)
    · rw [if_pos hin, if_pos hin]; rfl
    · rw [if_neg hin, if_neg hin]
      simp only [firstDecisive, ih]
      rfl

/-- the scan looks at the rows of `visitOrder`, in that order, and returns the first decisive verdict: this is what
    makes the `visit_*` theorems above statements about `doDecode` -/
theorem doDecode_eq_visit (width height : Nat) (th : Bool) (black : Nat → Bool) (dec : Nat → Bool → Res Hit) :
    doDecode width height th black dec = firstDecisive width black dec (visitOrder height th) :=
  scanLoop_eq_visit width height black dec _ _ _ 0

theorem doDecode_middle (width height : Nat) (th : Bool) (black : Nat → Bool) (dec : Nat → Bool → Res Hit)
    (hh : 0 < height) (hb : black (height / 2) = true) :
    ∃ rest, doDecode width height th black dec =
      match scanRow width dec (height / 2) with
      | .found h => .ok h
      | .abort e => .error e
      | .next => firstDecisive width black dec rest := by
  rw [doDecode_eq_visit]
  have hfirst := visit_first_is_middle height th hh
  cases hv : visitOrder height th with
  | nil => rw [hv] at hfirst; cases hfirst
  | cons r rs =>
    rw [hv] at hfirst
    cases hfirst
    exact ⟨rs, by simp only [firstDecisive, hb, Bool.not_true, Bool.false_eq_true, if_false]⟩

theorem firstDecisive_notFound (width : Nat) (black : Nat → Bool) (dec : Nat → Bool → Res Hit) (rows : List Nat)
    (h : ∀ y ∈ rows, black y = false ∨ scanRow width dec y = .next) :
    firstDecisive width black dec rows = .error .notFound := by
  induction rows with
  | nil => rfl
  | cons r rs ih =>
    have ih' := ih (fun y hy => h y (by simp [hy]))
    rcases h r (by simp) with hb | hn
    · simp only [firstDecisive, hb, Bool.not_false, if_true, ih']
    · simp only [firstDecisive, hn, ih']; split <;> rfl

/-- clause "upside-down 1-D is read with orientation 180": if on the middle row the decoder fails
    (with a reader exception) on the row as it is and succeeds on the reversed row, the result is
    that hit with ORIENTATION 180 and its two points mirrored horizontally -/
theorem reversed_middle_row_gives_180 (width height : Nat) (th : Bool) (black : Nat → Bool)
    (dec : Nat → Bool → Res Hit) (hh : 0 < height) (hb : black (height / 2) = true)
    (e : Fault) (he : isReaderException e = true)
    (h0 : dec (height / 2) false = .error e) (hit : Hit) (h1 : dec (height / 2) true = .ok hit) :
    doDecode width height th black dec =
      .ok { hit with orientation := some 180, points := flipPoints width hit.points } := by
  obtain ⟨rest, h⟩ := doDecode_middle width height th black dec hh hb
  rw [h]
  simp only [scanRow, h0, he, h1, Bool.not_true, Bool.false_eq_true, if_false]

/-- a symbol readable upright on the middle row is returned as it is (no orientation added) -/
theorem upright_middle_row (width height : Nat) (th : Bool) (black : Nat → Bool)
    (dec : Nat → Bool → Res Hit) (hh : 0 < height) (hb : black (height / 2) = true)
    (hit : Hit) (h0 : dec (height / 2) false = .ok hit) :
    doDecode width height th black dec = .ok hit := by
  obtain ⟨rest, h⟩ := doDecode_middle width height th black dec hh hb
  rw [h]
  simp only [scanRow, h0]

/-- clause "a sideways one is read when asked to try harder": upright scan finds nothing, the
    scan of the image turned counter-clockwise finds `hit` ⇒ orientation (270 + o) mod 360
    (270 if the rotated scan needed no reversal) and points (x, y) ↦ (width − y − 1, x) -/
theorem tryharder_rotation (width height : Nat) (black black' : Nat → Bool)
    (dec dec' : Nat → Bool → Res Hit)
    (hup : doDecode width height true black dec = .error .notFound)
    (hit : Hit) (hrot : doDecode height width true black' dec' = .ok hit) :
    decode width height true true black dec black' dec' =
      .ok { hit with
            orientation := some (rotOrientation hit.orientation),
            points := rotatePoints width hit.points } := by
  unfold decode
  simp [hup, hrot]

/-- an upside-down symbol found by the rotated scan reports 270 + 180 = 90 degrees -/
theorem tryharder_rotation_reversed (width height : Nat) (black black' : Nat → Bool)
    (dec dec' : Nat → Bool → Res Hit)
    (hup : doDecode width height true black dec = .error .notFound)
    (hit : Hit) (ho : hit.orientation = some 180)
    (hrot : doDecode height width true black' dec' = .ok hit) :
    ∃ r, decode width height true true black dec black' dec' = .ok r ∧ r.orientation = some 90 := by
  rw [tryharder_rotation width height black black' dec dec' hup hit hrot]
  exact ⟨_, rfl, by simp [ho, rotOrientation]⟩

/-- without TRY_HARDER (or without rotation support) the image is never rotated -/
theorem no_rotation_without_tryharder (width height : Nat) (rot : Bool) (black black' : Nat → Bool)
    (dec dec' : Nat → Bool → Res Hit) :
    decode width height false rot black dec black' dec' = doDecode width height false black dec := by
  unfold decode
  cases h : doDecode width height false black dec with
  | ok r => rfl
  | error e =>
    by_cases hn : e = .notFound
    · simp [hn]
    · simp [hn]

/-- only NotFound triggers the rotation retry: a checksum or format failure of the upright scan is final -/
theorem no_rotation_after_checksum (width height : Nat) (th rot : Bool) (black black' : Nat → Bool)
    (dec dec' : Nat → Bool → Res Hit) (e : Fault) (hne : e ≠ .notFound)
    (hup : doDecode width height th black dec = .error e) :
    decode width height th rot black dec black' dec' = .error e := by
  unfold decode
  simp [hup, hne]

-- non-vacuity: a 40-row image whose middle row (20) only decodes reversed
example :
    doDecode 100 40 false (fun _ => true)
      (fun r rev => if r = 20 ∧ rev then .ok ⟨7, none, [(10, 20), (60, 20)]⟩ else .error .notFound)
    = .ok ⟨7, some 180, [(89, 20), (39, 20)]⟩ := by decide

example : visitOrder 5 false = [2, 1, 3, 0, 4] := by decide
example : visitOrder 100 false = [50, 47, 53, 44, 56, 41, 59, 38, 62, 35, 65, 32, 68, 29, 71] := by decide

end OneD

/-! ## QR mirrored retry -/
section QR
open Gzx.QRMirror
variable {M T : Type}

/-- first attempt fails, the mirrored header reads and the mirrored matrix
    decodes ⇒ the text is returned and flagged mirrored -/
theorem qr_mirror_retry (mirror : M → M) (inner : M → Res T) (header : M → Res Unit) (m : M)
    (e : Fault) (h1 : inner m = .error e) (hh : header (mirror m) = .ok ()) (t : T)
    (h2 : inner (mirror m) = .ok t) :
    decode mirror inner header m = .ok (some ⟨t, true⟩) := by
  simp [decode, secondPass, h1, hh, h2]

/-- a symbol that decodes directly is never flagged -/
theorem qr_direct_not_flagged (mirror : M → M) (inner : M → Res T) (header : M → Res Unit) (m : M)
    (t : T) (h1 : inner m = .ok t) : decode mirror inner header m = .ok (some ⟨t, false⟩) := by
  simp [decode, h1]

/-- clause "a mirrored QR Code is read and flagged as mirrored": if `m` decodes directly to `t`
    and its mirror image does not decode directly, the mirror image decodes to the same `t`,
    flagged (mirror is an involution; the header of a decodable matrix reads) -/
theorem qr_mirrored_symbol_read_and_flagged (mirror : M → M) (hinv : ∀ m, mirror (mirror m) = m)
    (inner : M → Res T) (header : M → Res Unit) (hhdr : ∀ m t, inner m = .ok t → header m = .ok ())
    (m : M) (t : T) (h1 : inner m = .ok t) (e : Fault) (h2 : inner (mirror m) = .error e) :
    decode mirror inner header (mirror m) = .ok (some ⟨t, true⟩) := by
  simp [decode, secondPass, h2, hinv, hhdr m t h1, h1]

/-- error taxonomy of a double failure: Format/Checksum of the second pass is replaced by the
    FIRST pass's error; any other second error is passed on -/
theorem qr_double_failure_error (mirror : M → M) (inner : M → Res T) (header : M → Res Unit) (m : M)
    (e1 : Fault) (h1 : inner m = .error e1) (hfc : isFormatOrChecksum e1 = true)
    (e2 : Fault) (h2 : secondPass mirror inner header m = .error e2)
    (hfc2 : isFormatOrChecksum e2 = true) :
    decode mirror inner header m = .error e1 := by
  simp [decode, h1, h2, hfc, hfc2]

/-- C06 aspect: `Decode` never returns neither result nor error, because every error of the
    single-pass decoder is a Format or Checksum exception -/
theorem qr_decode_never_neither (mirror : M → M) (inner : M → Res T) (header : M → Res Unit)
    (hinner : ∀ m e, inner m = .error e → isFormatOrChecksum e = true) (m : M) :
    decode mirror inner header m ≠ .ok none := by
  unfold decode
  cases h1 : inner m with
  | ok t => simp
  | error e1 =>
    have hf := hinner m e1 h1
    simp only
    split
    · simp
    · rename_i e2 _
      by_cases hc : isFormatOrChecksum e2 = true
      · simp [hc, hf]
      · simp [hc]

/-- decoding a matrix and decoding its mirror image are tied together: direct/direct, direct/
    mirrored with the same text, mirrored/direct with the same text, or error/error — nothing else.
    (This relation is what the `qrpair` correspondence op checks on the real decoder.) -/
theorem qr_pair_consistent [DecidableEq T] (mirror : M → M) (hinv : ∀ m, mirror (mirror m) = m)
    (inner : M → Res T) (header : M → Res Unit) (hhdr : ∀ m t, inner m = .ok t → header m = .ok ())
    (hinner : ∀ m e, inner m = .error e → isFormatOrChecksum e = true) (m : M) :
    pairConsistent (decode mirror inner header m) (decode mirror inner header (mirror m)) = true := by
  cases h1 : inner m with
  | ok t =>
    cases h2 : inner (mirror m) with
    | ok t' => simp [decode, h1, h2, pairConsistent]
    | error e2 => simp [decode, secondPass, h1, h2, hinv, hhdr m t h1, pairConsistent]
  | error e1 =>
    have f1 := hinner m e1 h1
    cases h2 : inner (mirror m) with
    | ok t' => simp [decode, secondPass, h1, h2, hhdr (mirror m) t' h2, pairConsistent]
    | error e2 =>
      have f2 := hinner (mirror m) e2 h2
      -- both second passes fail: header error or the inner error
      cases hh1 : header (mirror m) with
      | error eh1 =>
        cases hh2 : header m with
        | error eh2 =>
          by_cases c1 : isFormatOrChecksum eh1 = true <;> by_cases c2 : isFormatOrChecksum eh2 = true <;>
            simp [decode, secondPass, h1, h2, hinv, hh1, hh2, f1, f2, c1, c2, pairConsistent]
        | ok u =>
          by_cases c1 : isFormatOrChecksum eh1 = true <;>
            simp [decode, secondPass, h1, h2, hinv, hh1, hh2, f1, f2, c1, pairConsistent]
      | ok u =>
        cases hh2 : header m with
        | error eh2 =>
          by_cases c2 : isFormatOrChecksum eh2 = true <;>
            simp [decode, secondPass, h1, h2, hinv, hh1, hh2, f1, f2, c2, pairConsistent]
        | ok u2 => simp [decode, secondPass, h1, h2, hinv, hh1, hh2, f1, f2, pairConsistent]

/-- the nil-interface path exists in the state machine: with a first error that is not
    Format/Checksum the code would return neither (unreachable in the library, see above) -/
example : decode (M := Nat) (T := Nat) (fun m => 1 - m) (fun m => if m = 0 then .error .notFound else .error .format)
    (fun _ => .ok ()) 0 = .ok none := by decide

example : decode (M := Nat) (T := Nat) (fun m => 1 - m) (fun m => if m = 1 then .ok 42 else .error .checksum)
    (fun _ => .ok ()) 0 = .ok (some ⟨42, true⟩) := by decide

end QR

end Gzx.Properties.C09
