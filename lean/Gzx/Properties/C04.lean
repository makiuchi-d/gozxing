/-
  C04 — Reed-Solomon codec and GF(2^m) arithmetic exact up to the design distance.
  Property theorems only; helper lemmas live in Gzx/Proofs/{GF2,GF,GFParams,Poly,PolyOps,RS,MinDist,Total,Corrects}.lean
  and what these import (the map of the correction proof is the docstring of section (d)).
  Models: Gzx/Model/GF.lean, Gzx/Model/RS.lean (tied to common/reedsolomon/*.go by the `c04`
  correspondence suite); reference arithmetic: Gzx/Ref/GF.lean (`clmul`, `pmod`).
  Every theorem is parametric in the field `F` with the decidable hypothesis `FieldOK F`
  (`F` is what `NewGenericGF` builds, size a power of two, prim of that degree with constant term 1,
  x of multiplicative order size-1); `Obligations/C04.lean` discharges it for the parameters
  regenerated from /repo on every run.
-/
import Gzx.Proofs.GFParams
import Gzx.Proofs.RS
import Gzx.Proofs.MinDist
import Gzx.Proofs.Total
import Gzx.Proofs.Corrects
namespace Gzx.Properties.C04
open Gzx Gzx.GF Gzx.RS Gzx.Ref.GF Gzx.Proofs.GF Gzx.Proofs.Poly Gzx.Proofs.RS Gzx.Proofs.MinDist Gzx.Proofs.Total Gzx.Proofs.Corrects

/-! ## (a) field arithmetic = polynomial arithmetic modulo the primitive polynomial -/

/-- Clause "multiplication agrees with polynomial arithmetic modulo the field's primitive
    polynomial for all elements": the table-driven `Multiply` is the carry-less product reduced
    modulo `prim`, for every field satisfying `FieldOK` (so GF(4096) like GF(16)) and all elements. -/
theorem gf_mul_eq_clmul_mod (F : GF) (h : FieldOK F) (a b : Nat) (ha : a < F.size) (hb : b < F.size) :
    F.mul a b = .ok (pmod F.prim (clmul a b)) := by
  have := mk'_mul h.2 F.base a b ha hb
  rw [← h.1] at this
  exact this

/-- Clause "inverse": `Inverse(a)` succeeds for every non-zero element and `a * Inverse(a) = 1`
    (both by the table-driven `Multiply` and by the reference product). -/
theorem gf_inv (F : GF) (h : FieldOK F) (a : Nat) (h0 : a ≠ 0) (ha : a < F.size) :
    ∃ v, F.inv a = .ok v ∧ v < F.size ∧ F.mul a v = .ok 1 ∧ pmod F.prim (clmul a v) = 1 := by
  obtain ⟨v, h1, h2, _, h4⟩ := mk'_inv h.2 F.base a h0 ha
  rw [← h.1] at h1
  refine ⟨v, h1, h2, ?_, h4⟩
  rw [gf_mul_eq_clmul_mod F h a v ha h2]
  exact congrArg _ h4

/-- `Inverse(0)` and `Log(0)` are Go's checked `IllegalArgumentException`, not a panic -/
theorem gf_inv_log_zero (F : GF) : F.inv 0 = .error .illegalArg ∧ F.logOf 0 = .error .illegalArg :=
  ⟨rfl, rfl⟩

/-- Clause "exp(log a) == a" for every non-zero element; the logarithm is `< size-1`. -/
theorem gf_exp_log (F : GF) (h : FieldOK F) (a : Nat) (h0 : a ≠ 0) (ha : a < F.size) :
    ∃ l, F.logOf a = .ok l ∧ l < F.size - 1 ∧ F.expAt l = .ok a := by
  have := mk'_log h.2 F.base a h0 ha
  rw [← h.1] at this
  exact this

/-- `log(exp i) == i` for every exponent below the group order; `exp i` is a non-zero element. -/
theorem gf_log_exp (F : GF) (h : FieldOK F) (i : Nat) (hi : i < F.size - 1) :
    ∃ v, F.expAt i = .ok v ∧ v ≠ 0 ∧ v < F.size ∧ F.logOf v = .ok i := by
  have := mk'_exp h.2 F.base i hi
  rw [← h.1] at this
  exact this

/-- Clause "exponent": `Exp(i)` is `x^i` reduced modulo `prim` (long division), for every table index. -/
theorem gf_exp_eq_pow_mod (F : GF) (h : FieldOK F) (i : Nat) (hi : i < F.size) :
    F.expAt i = .ok (pmod F.prim (2 ^ i)) := by
  have := exp_get h.2 F.base i hi
  rw [← h.1, pw_eq_pmod h.2] at this
  exact this

/-- outside the table `Exp` is a Go index panic (the model never hides it) -/
theorem gf_exp_out_of_range (F : GF) (h : FieldOK F) (i : Nat) (hi : ¬ i < F.size) :
    ∃ w, F.expAt i = .error (.panic w) := by
  have := exp_get_oob (prim := F.prim) (size := F.size) F.base i hi
  rw [← h.1] at this
  exact this

/-! non-vacuity: the hypotheses hold for the library's fields (all six: `Obligations/C04.lean`) -/
example : FieldOK qrCode256 := fieldOK_mk' paramsOK_11D_256
example : FieldOK aztecData12 := fieldOK_mk' paramsOK_1069_4096
example : qrCode256.mul 0x53 0xCA = .ok (pmod 0x11D (clmul 0x53 0xCA)) :=
  gf_mul_eq_clmul_mod _ (fieldOK_mk' paramsOK_11D_256) _ _ (by decide) (by decide)
example : pmod 0x11D (clmul 2 128) = 29 := by decide
/-- a reducible "primitive" polynomial is rejected: x^8+1 -/
example : ¬ ParamsOK 0x101 256 := by decide +kernel
/-- an irreducible but non-primitive polynomial (x^8+x^4+x^3+x+1, AES) is rejected: x has order 51 -/
example : ¬ ParamsOK 0x11B 256 := by decide +kernel


/-! ## (b), (c) Reed-Solomon encoder, clean path of the decoder

Notation of the statements, all over the *reference* arithmetic (`gmul prim a b = pmod prim (clmul a b)`):
`evalH prim a w` is the Horner value at `a` of the polynomial whose coefficients are the word `w`
(first symbol = highest power), `alpha F j = pmod prim (2^j)` is `x^j mod prim`.
The `i`-th syndrome of a word is `evalH F.prim (alpha F (i + F.base)) w`.
Hypothesis `r + F.base ≤ F.size` is implied by the property's `k + r ≤ |F| - 1`, `k ≥ 1`
for the generator bases 0 and 1 the library uses (`shape_ok`). -/

/-- `α^j = x^j mod prim` -/
def alpha (F : GF) (j : Nat) : Nat := pmod F.prim (2 ^ j)

/-- all symbols of the word are field elements (`Proofs.Poly.InR F.size w` by `rfl`: the lemmas `InR.*` apply as they are) -/
def InField (F : GF) (w : List Nat) : Prop := ∀ x, x ∈ w → x < F.size

/-- the word has zero syndromes `S_0 … S_{r-1}` (reference arithmetic) -/
def ZeroSyndromes (F : GF) (w : List Nat) (r : Nat) : Prop :=
  ∀ i, i < r → evalH F.prim (alpha F (i + F.base)) w = 0

theorem alpha_eq_pw (F : GF) (h : FieldOK F) (j : Nat) : alpha F j = pw F.prim F.size j :=
  (pw_eq_pmod h.2 j).symm

/-- the property's shape condition implies the hypothesis used below -/
theorem shape_ok (F : GF) (k r : Nat) (hk : 1 ≤ k) (hn : k + r ≤ F.size - 1) (hb : F.base ≤ 1) :
    r + F.base ≤ F.size := by omega

/-- Clause "encoding leaves the data symbols unchanged and appends parity": for every data length
    `k ≥ 1`, every parity count `r ≥ 1` the field supports and whatever is in the `r` tail slots,
    `Encode` succeeds (no error, no panic, no fuel exhaustion), returns the data symbols unchanged
    followed by exactly `r` parity symbols, all of them field elements. -/
theorem rs_encode_systematic (F : GF) (h : FieldOK F) (data tail : List Nat) (r : Nat)
    (hk : data ≠ []) (hr : 0 < r) (htl : tail.length = r) (hd : InField F data) (hb : r + F.base ≤ F.size) :
    ∃ par, encodeArr F (data ++ tail) r = .ok (data ++ par) ∧ par.length = r ∧ InField F par := by
  obtain ⟨par, h1, h2, h3, _⟩ := encodeArr_spec h data tail r hk hr htl hd hb
  exact ⟨par, h1, h2, h3⟩

/-- the same for the API the other models import: `encode` returns the `r` parity symbols and
    `encodeWord = data ++ encode` -/
theorem rs_encode_api (F : GF) (h : FieldOK F) (data : List Nat) (r : Nat)
    (hk : data ≠ []) (hr : 0 < r) (hd : InField F data) (hb : r + F.base ≤ F.size) :
    ∃ par, encode F data r = .ok par ∧ encodeWord F data r = .ok (data ++ par) ∧ par.length = r ∧
      InField F par := by
  obtain ⟨par, h1, h2, h3, _⟩ := encodeArr_spec h data (List.replicate r 0) r hk hr (by simp) hd hb
  refine ⟨par, ?_, h1, h2, h3⟩
  unfold encode encodeWord
  rw [h1]
  simp [bind, Except.bind]

/-- Clause "… such that the whole word has zero syndromes": every `α^(i+base)`, `i < r`, is a root
    of the encoded word. -/
theorem rs_encode_zero_syndromes (F : GF) (h : FieldOK F) (data : List Nat) (r : Nat)
    (hk : data ≠ []) (hr : 0 < r) (hd : InField F data) (hb : r + F.base ≤ F.size) :
    ∃ w, encodeWord F data r = .ok w ∧ w.length = data.length + r ∧ InField F w ∧ ZeroSyndromes F w r := by
  obtain ⟨par, h1, h2, h3, h4⟩ := encodeArr_spec h data (List.replicate r 0) r hk hr (by simp) hd hb
  refine ⟨data ++ par, h1, by simp [h2], InR.append hd h3, ?_⟩
  intro i hi
  rw [alpha_eq_pw F h]
  exact h4 i hi

/-- the model decoder computes exactly these syndromes (so `ZeroSyndromes` is what `Decode` tests) -/
theorem rs_syndromes_eq (F : GF) (h : FieldOK F) (w : List Nat) (hw : InField F w) (r : Nat)
    (hb : r + F.base ≤ F.size) :
    syndromes F (normalize w) r 0 =
      .ok ((List.range' 0 r).map (fun i => evalH F.prim (alpha F (i + F.base)) w)) := by
  rw [syndromes_spec h _ (normalize_ne_nil w) (InR_normalize (size_pos h) w hw) r 0 (by omega)]
  congr 1
  apply List.map_congr_left
  intro i _
  rw [evalH_normalize h.2, alpha_eq_pw F h]

/-- Clause "an uncorrupted word passes through unchanged": a word with zero syndromes is returned as is. -/
theorem rs_decode_clean (F : GF) (h : FieldOK F) (w : List Nat) (r : Nat) (hne : w ≠ []) (hw : InField F w)
    (hb : r + F.base ≤ F.size) (hz : ZeroSyndromes F w r) :
    decode F w r = .ok w := by
  unfold decode
  rw [decodeD_clean h w hne hw r hb (fun i hi => by rw [← alpha_eq_pw F h]; exact hz i hi)]

/-- hence: decoding an encoded word returns it unchanged -/
theorem rs_decode_encode (F : GF) (h : FieldOK F) (data : List Nat) (r : Nat)
    (hk : data ≠ []) (hr : 0 < r) (hd : InField F data) (hb : r + F.base ≤ F.size) :
    ∃ w, encodeWord F data r = .ok w ∧ decode F w r = .ok w := by
  obtain ⟨w, h1, h2, h3, h4⟩ := rs_encode_zero_syndromes F h data r hk hr hd hb
  refine ⟨w, h1, rs_decode_clean F h w r ?_ h3 hb h4⟩
  intro hw
  rw [hw] at h2
  have := List.length_pos_iff.2 hk
  simp at h2; omega

/-! non-vacuity -/
example : encodeWord aztecParam [5, 10, 3] 4 = .ok [5, 10, 3, 9, 6, 2, 14] := by decide +kernel
example : decode aztecParam [5, 10, 3, 9, 6, 2, 14] 4 = .ok [5, 10, 3, 9, 6, 2, 14] := by decide +kernel
/-- two corrupted symbols of this GF(16) word with 4 parity symbols are restored (instance of `rs_corrects`) -/
example : decode aztecParam [5, 11, 3, 9, 6, 2, 1] 4 = .ok [5, 10, 3, 9, 6, 2, 14] := by decide +kernel
example : InField aztecParam [1, 2, 3] ∧ 5 + aztecParam.base ≤ aztecParam.size := by
  refine ⟨?_, by decide⟩
  intro x hx; simp at hx; rcases hx with rfl | rfl | rfl <;> decide


/-- `Decode` is total on in-range input: for every non-empty word over the field and every parity count the
    field supports it returns a word of the same length over the field, or a `ReedSolomonException`
    (`.checksum`) — never a Go panic, never fuel exhaustion of the two Euclid loops (they terminate). -/
theorem rs_decode_total (F : GF) (h : FieldOK F) (w : List Nat) (r : Nat) (hne : w ≠ []) (hw : InField F w)
    (hb : r + F.base ≤ F.size) :
    (∃ w', decode F w r = .ok w' ∧ InField F w' ∧ w'.length = w.length) ∨ decode F w r = .error .checksum := by
  unfold decode
  rcases decodeD_total h w hne hw r hb with ⟨w', h1, h2, h3⟩ | ⟨e, h1, h2⟩
  · left; rw [h1]; exact ⟨w', rfl, h2, h3⟩
  · right; rw [h1]; exact congrArg _ h2

/-! ## (d) error correction up to the design distance

`rs_corrects` below is the clause "decoding any such word after corruption of at most floor(parity/2) symbol
positions restores it exactly", proved in full for the model decoder: every field with `FieldOK`, generator
base 0 or 1, every code word length `n ≤ size-1`, every parity count `r` the field supports, every error word of
weight `≤ ⌊r/2⌋`.  The way through Gzx/Proofs, file by file:
* `RS`: `decodeD_eq` unfolds `Decode` once: the syndrome list `syndList`, and if one is non-zero the four stages on
  `x^r` and the syndrome polynomial.
* `MinDist`, `Corrects`: the syndromes of `c + e` are the power sums `S_m = Σ Y_l X_l^m` (`psum`) of the error
  pattern `errPairs` (`syndrome_psum`, from `evalH_eq_psum` on the `pairs` of a word); `vandermonde` (distinct
  locators, as many vanishing power sums as terms ⇒ all values vanish) is also what `rs_min_distance` rests on.
* `Conv`, `Coef`: coefficient sequences, their convolution product, the model's polynomial operations
  coefficient-wise.  `Euclid`: one pass of the model's Euclidean loop (`euclidLoop_step`, over the division
  `divLoop_spec` of `RS`) and the invariant `euclidLoop_inv`: `t·S ≡ r (mod x^R)` and `deg t + deg rLast = R`.
* `KeyEq`: in power-sum form `(t·S)_m = Σ_l Y_l t(X_l⁻¹) X_l^m` for `m ≥ deg t` (`conv_psum`), so by `vandermonde` on
  a window of indices `t` vanishes at every inverse locator (`roots_of_key`), and the previous remainder cannot be
  short (`prev_remainder_long`).  `Locator`: the true locator Λ and evaluator Ω as lists, `key_lambda`: `Λ·S ≡ Ω`.
* `Roots`, `Sugiyama`: by the root bound `zero_of_roots` the returned `t` has degree exactly the number of errors
  and `t = c·Λ`, hence `r = c·Ω`; `euclid_output`: `runEuclideanAlgorithm` returns (Λ, Ω) coefficient by coefficient.
* `Chien`: `findErrorLocations_ok`, the loop finds exactly the locators.  `Forney`: `magLoop_ok`, Forney's formula
  (with the generator-base correction) gives the error values.  `Corrects`: `applyPure_restores`, the correction
  loop restores `c`; `decodeD_corrects` puts the stages together.

Beside it: `rs_syndromes_linear`, `rs_min_distance`, `rs_unique_nearest` (minimum distance r+1: the restored word
is the only code word within ⌊r/2⌋ of the received word) and `rs_corrects_single` (the one-error case:
`decodeD_corrects` for an error word of weight ≤ 1). -/

/-- syndromes are linear: the value of `c + e` at any field element is the xor of the values -/
theorem rs_syndromes_linear (F : GF) (h : FieldOK F) (c e : List Nat) (hlen : c.length = e.length)
    (hc : InField F c) (he : InField F e) (a : Nat) :
    evalH F.prim a (List.zipWith (· ^^^ ·) c e) = evalH F.prim a c ^^^ evalH F.prim a e := by
  have := evalFrom_xor h.2 a c e 0 0 hlen (size_pos h) (size_pos h) hc he
  rw [Nat.xor_zero] at this
  exact this

/-- minimum distance `r + 1`: two code words (zero syndromes `S_0 … S_{r-1}`) of the same length
    `n ≤ size - 1` that differ in at most `r` positions are equal -/
theorem rs_min_distance (F : GF) (h : FieldOK F) (c1 c2 : List Nat) (r : Nat)
    (hlen : c1.length = c2.length) (hn : c1.length ≤ F.size - 1) (h1 : InField F c1) (h2 : InField F c2)
    (hz1 : ZeroSyndromes F c1 r) (hz2 : ZeroSyndromes F c2 r)
    (hd : weight (List.zipWith (· ^^^ ·) c1 c2) ≤ r) : c1 = c2 := by
  apply zipWith_xor_all_zero c1 c2 hlen
  apply min_distance h.2 F.base r _ (InR_zipWith_xor h.2 c1 c2 h1 h2) (by simp [← hlen]; exact hn) hd
  intro i hi
  rw [← alpha_eq_pw F h, rs_syndromes_linear F h c1 c2 hlen h1 h2, hz1 i hi, hz2 i hi]
  rfl

/-- unique nearest code word: if a received word `v` is within `t` positions of the code word `c`
    and of the code word `c'`, and `2t ≤ r`, then `c = c'`.  So `encode(d)` is the only code word a
    decoder may return for `encode(d) + e`, `|E| ≤ ⌊r/2⌋`. -/
theorem rs_unique_nearest (F : GF) (h : FieldOK F) (c c' v : List Nat) (r t : Nat)
    (hl1 : c.length = v.length) (hl2 : v.length = c'.length) (hn : c.length ≤ F.size - 1)
    (h1 : InField F c) (h2 : InField F c') (hz1 : ZeroSyndromes F c r) (hz2 : ZeroSyndromes F c' r)
    (hd1 : weight (List.zipWith (· ^^^ ·) c v) ≤ t) (hd2 : weight (List.zipWith (· ^^^ ·) v c') ≤ t)
    (ht : 2 * t ≤ r) : c = c' := by
  apply rs_min_distance F h c c' r (by omega) hn h1 h2 hz1 hz2
  have := weight_triangle c v c' hl1 hl2
  omega

/-- the parity symbols are uniquely determined by the zero-syndrome condition: any `r` symbols `par'` that make
    `data ++ par'` a zero-syndrome word (length ≤ size-1) are the symbols `Encode` appends.  So the clause
    "appends parity such that the whole word has zero syndromes" fixes the encoder's output completely. -/
theorem rs_encode_unique (F : GF) (h : FieldOK F) (data par' : List Nat) (r : Nat)
    (hk : data ≠ []) (hr : 0 < r) (hd : InField F data) (hp : InField F par') (hpl : par'.length = r)
    (hn : data.length + r ≤ F.size - 1) (hb : r + F.base ≤ F.size)
    (hz : ZeroSyndromes F (data ++ par') r) :
    encode F data r = .ok par' := by
  obtain ⟨par, h1, h2, h3, h4⟩ := rs_encode_api F h data r hk hr hd hb
  obtain ⟨w, hw1, _, _, hw4⟩ := rs_encode_zero_syndromes F h data r hk hr hd hb
  rw [h2] at hw1
  have hw : w = data ++ par := (Except.ok.inj hw1).symm
  rw [hw] at hw4
  have heq : data ++ par = data ++ par' := by
    apply rs_min_distance F h (data ++ par) (data ++ par') r (by simp [h3, hpl]) (by simp [h3]; omega)
      (InR.append hd h4) (InR.append hd hp) hw4 hz
    -- the two words agree on the data part
    have hzip : List.zipWith (· ^^^ ·) (data ++ par) (data ++ par') =
        List.zipWith (· ^^^ ·) data data ++ List.zipWith (· ^^^ ·) par par' :=
      List.zipWith_append (by rfl)
    rw [hzip, weight_append, weight_zipWith_self, Nat.zero_add]
    have := weight_le_length (List.zipWith (· ^^^ ·) par par')
    rw [List.length_zipWith, h3, hpl, Nat.min_self] at this
    exact this
  rw [h1, List.append_cancel_left heq]

/-- one corrupted symbol — any position, any non-zero error magnitude — is restored exactly, for every
    code word length `n ≤ size - 1` and every parity count `r ≥ 2` (so `⌊r/2⌋ ≥ 1`), generator base 0 or 1 -/
theorem rs_corrects_single (F : GF) (h : FieldOK F) (hb : F.base ≤ 1) (c : List Nat) (r j e : Nat)
    (hr : 2 ≤ r) (hrb : r + F.base ≤ F.size) (hn : c.length ≤ F.size - 1) (hc : InField F c)
    (hz : ZeroSyndromes F c r) (hj : j < c.length) (he0 : e ≠ 0) (he : e < F.size) :
    decode F (c.set j (c[j] ^^^ e)) r = .ok c := by
  unfold decode
  rw [decodeD_single h hb c r j e hr hrb hn hc (fun i hi => by rw [← alpha_eq_pw F h]; exact hz i hi) hj he]

/-- hence `decode (encode d + e) = encode d` for a single-symbol error `e` -/
theorem rs_decode_encode_single (F : GF) (h : FieldOK F) (hb : F.base ≤ 1) (data : List Nat) (r j e : Nat)
    (hk : data ≠ []) (hr : 2 ≤ r) (hd : InField F data) (hn : data.length + r ≤ F.size - 1)
    (hj : j < data.length + r) (he0 : e ≠ 0) (he : e < F.size) :
    ∃ w, ∃ hw : w.length = data.length + r, encodeWord F data r = .ok w ∧
      decode F (w.set j (w[j]'(by omega) ^^^ e)) r = .ok w := by
  have hrb : r + F.base ≤ F.size := by omega
  obtain ⟨w, h1, h2, h3, h4⟩ := rs_encode_zero_syndromes F h data r hk (by omega) hd hrb
  exact ⟨w, h2, h1, rs_corrects_single F h hb w r j e hr hrb (by omega) h3 h4 (by omega) he0 he⟩

/-! non-vacuity: the hypotheses of the theorems of this section are satisfiable — a concrete GF(16) code word
    (7 symbols, 4 parity symbols), its weight-2 neighbour, and instances with corrupted symbols -/
example : ZeroSyndromes aztecParam [5, 10, 3, 9, 6, 2, 14] 4 := by unfold ZeroSyndromes; decide +kernel
example : InField aztecParam [5, 10, 3, 9, 6, 2, 14] ∧ [5, 10, 3, 9, 6, 2, 14].length ≤ aztecParam.size - 1 ∧
    4 + aztecParam.base ≤ aztecParam.size ∧ aztecParam.base ≤ 1 := by unfold InField; decide +kernel
example : weight (List.zipWith (· ^^^ ·) [5, 10, 3, 9, 6, 2, 14] [5, 11, 3, 9, 6, 2, 1]) = 2 := by decide
/-- the minimum distance is attained: a second code word at distance exactly r + 1 = 5 -/
example : ZeroSyndromes aztecParam [5, 10, 2, 4, 10, 10, 9] 4 ∧
    weight (List.zipWith (· ^^^ ·) [5, 10, 3, 9, 6, 2, 14] [5, 10, 2, 4, 10, 10, 9]) = 5 := by
  unfold ZeroSyndromes; decide +kernel
example : decode aztecParam ([5, 10, 3, 9, 6, 2, 14].set 2 (3 ^^^ 7)) 4 = .ok [5, 10, 3, 9, 6, 2, 14] := by
  decide +kernel

/-- **Clause "decoding any such word after corruption of at most floor(parity/2) symbol positions restores it
    exactly".**  `c` is any code word (zero syndromes `S_0 … S_{r-1}`) of length `n ≤ size-1`, `e` any error word
    of the same length with at most `⌊r/2⌋` non-zero symbols; `Decode(c + e, r)` returns `c`. -/
theorem rs_corrects (F : GF) (h : FieldOK F) (hb : F.base ≤ 1) (c e : List Nat) (r : Nat)
    (hlen : e.length = c.length) (hn : c.length ≤ F.size - 1) (hc : InField F c) (he : InField F e)
    (hz : ZeroSyndromes F c r) (hne : c ≠ []) (hrb : r + F.base ≤ F.size) (hwt : 2 * weight e ≤ r) :
    decode F (List.zipWith (· ^^^ ·) c e) r = .ok c := by
  unfold decode
  rw [decodeD_corrects h hb c e r hlen hn hc he (fun i hi => by rw [← alpha_eq_pw F h]; exact hz i hi) hne hrb hwt]

/-- hence `decode (encode d + e) = encode d` for every data word `d` (`k ≥ 1` symbols), every parity count `r ≥ 1`
    with `k + r ≤ size - 1`, and every error word `e` with at most `⌊r/2⌋` non-zero symbols -/
theorem rs_decode_encode_corrupted (F : GF) (h : FieldOK F) (hb : F.base ≤ 1) (data e : List Nat) (r : Nat)
    (hk : data ≠ []) (hr : 0 < r) (hd : InField F data) (hn : data.length + r ≤ F.size - 1)
    (hel : e.length = data.length + r) (he : InField F e) (hwt : 2 * weight e ≤ r) :
    ∃ w, encodeWord F data r = .ok w ∧ decode F (List.zipWith (· ^^^ ·) w e) r = .ok w := by
  have hrb : r + F.base ≤ F.size := by omega
  obtain ⟨w, h1, h2, h3, h4⟩ := rs_encode_zero_syndromes F h data r hk hr hd hrb
  refine ⟨w, h1, rs_corrects F h hb w e r (by omega) (by omega) h3 he h4 ?_ hrb hwt⟩
  intro hw
  rw [hw] at h2
  have := List.length_pos_iff.2 hk
  simp at h2; omega

def hamming (a b : List Nat) : Nat := weight (List.zipWith (· ^^^ ·) a b)

/-- received-word form: any word `v` that differs from the code word `c` in at most `⌊r/2⌋` positions
    decodes to `c` -/
theorem rs_corrects_received (F : GF) (h : FieldOK F) (hb : F.base ≤ 1) (c v : List Nat) (r : Nat)
    (hlen : v.length = c.length) (hn : c.length ≤ F.size - 1) (hc : InField F c) (hv : InField F v)
    (hz : ZeroSyndromes F c r) (hne : c ≠ []) (hrb : r + F.base ≤ F.size) (hd : 2 * hamming c v ≤ r) :
    decode F v r = .ok c := by
  have := rs_corrects F h hb c (List.zipWith (· ^^^ ·) c v) r (by simp [hlen]) hn hc
    (InR_zipWith_xor h.2 c v hc hv) hz hne hrb hd
  rw [zipWith_xor_cancel c v hlen] at this
  exact this

/-! non-vacuity of `rs_corrects`: a GF(16) code word with r = 4 and an error word of weight 2 -/
example : 2 * weight [0, 1, 0, 0, 0, 0, 15] ≤ 4 ∧ ZeroSyndromes aztecParam [5, 10, 3, 9, 6, 2, 14] 4 := by
  unfold ZeroSyndromes; decide +kernel

end Gzx.Properties.C04
