/-
  C06 — decoding is total, part "the Aztec detector, later stages": panic-freedom
  and termination of getColor, isWhiteOrBlackRectangle, getBullsEyeCorners, sampleLine, extractParameters
  and of `Detect` up to the `sampler.SampleGrid` call (C19) — for EVERY image and EVERY interpretation
  `FOps` of float64, in the style of Properties/C06Det.lean (which has the first stage, getMatrixCenter /
  getFirstDifferent).  Model: Gzx/Model/DetAztec2.lean (proofs: Gzx/Proofs/DetAztec.lean), tied to /repo by the `c06rest az*`
  correspondence commands (harness/zz_detrest_az.go).  `image.Get` is `Img.rdGo`, the bounds-checked Get
  of this tree: the detector deliberately probes points up to a few pixels outside the image.
-/
import Gzx.Properties.C06Det
namespace Gzx.Properties.C06DetAz
open Gzx Gzx.Det
open Gzx.Properties.C06Det (toyOps squareImg)

/-- `getColor(p1, p2)` for ANY two points (inside or outside the image, also `p1 = p2`): one of 0, 1, -1;
    the loop runs `int(math.Floor(d))` rounds whatever that number is (a counted loop), no fault -/
theorem az_getColor_total {F : Type} (o : FOps F) (img : Img) (p1 p2 : AZ.IPt) :
    Sat NoFault AZ.IsColor (AZ.getColor o img.rdGo p1 p2) :=
  AZ.getColor_sat o (rdGo_ok img) p1 p2

/-- `isWhiteOrBlackRectangle` for ANY four points: a boolean, no fault -/
theorem az_isWhiteOrBlackRectangle_total {F : Type} (o : FOps F) (img : Img) (p1 p2 p3 p4 : AZ.IPt) :
    Sat NoFault (fun _ => True) (AZ.isWhiteOrBlackRectangle o img.rdGo img.w img.h p1 p2 p3 p4) :=
  AZ.isWhiteOrBlackRectangle_sat o (rdGo_ok img) img.w img.h p1 p2 p3 p4

/-- **`getBullsEyeCorners` is total** from ANY centre: the ring loop runs at most 8 rounds of four
    `getFirstDifferent` walks; the outcome is NotFoundException or a bull's eye with
    `nbCenterLayers = 5` (compact) or `7` (full) — so `2*nbCenterLayers - 3`, the divisor in `expandSquare`,
    is 7 or 11 and the side length `2*nbCenterLayers` handed to `sampleLine` is 10 or 14 -/
theorem az_bullsEye_total {F : Type} (o : FOps F) (img : Img) (pCenter : AZ.IPt) :
    Sat OnlyNotFound AZ.GoodBullsEye (AZ.getBullsEyeCorners o img.rdGo img.w img.h pCenter) :=
  AZ.getBullsEyeCorners_sat o img pCenter

/-- `sampleLine(p1, p2, size)` for ANY float points and ANY size (also ≤ 0): no fault — every shift
    `1 << (size - i - 1)` has a non-negative count because the loop runs `i < size` -/
theorem az_sampleLine_total {F : Type} (o : FOps F) (img : Img) (p1 p2 : FPt F) (size : Int) :
    Sat NoFault (fun _ => True) (AZ.sampleLine o img.rdGo p1 p2 size) :=
  AZ.sampleLine_sat o (rdGo_ok img) p1 p2 size

/-- **`extractParameters` is total** for ANY four corner points, any `nbCenterLayers ≥ 1` (the shift
    `side >> (length - 2)` of `getRotation` needs `length = 2*nbCenterLayers ≥ 2`; `getBullsEyeCorners` gives 5
    or 7), either `compact`, ANY expected-corner-bits table and ANY Reed-Solomon decoder (its failure — of
    whatever kind — is answered with NotFoundException): NotFound or `shift ∈ 0..3`, `nbLayers ≥ 1`,
    `nbDataBlocks ≥ 1` -/
theorem az_extractParameters_total {F : Type} (o : FOps F) (img : Img) (expected : List Nat)
    (rs : AztecDecoder.RSDecoder) (c : AZ.Quad F) (nbCenterLayers : Int) (hnb : 1 ≤ nbCenterLayers) (compact : Bool) :
    Sat OnlyNotFound AZ.GoodParams (AZ.extractParameters o img.rdGo img.w img.h expected rs c nbCenterLayers compact) :=
  AZ.extractParameters_sat o (rdGo_ok img) img.w img.h expected rs c nbCenterLayers hnb compact

-- non-vacuity of `hnb`, and the necessity of it: with `nbCenterLayers = 0` the model panics as Go would
example : AZ.extractParameters toyOps squareImg.rdGo 12 12 [] (fun _ ws _ => .ok ws) ⟨⟨6, 6⟩, ⟨6, 6⟩, ⟨6, 6⟩, ⟨6, 6⟩⟩ 5 true
    = .error .notFound := by decide
example : AZ.extractParameters toyOps squareImg.rdGo 12 12 [] (fun _ ws _ => .ok ws) ⟨⟨6, 6⟩, ⟨6, 6⟩, ⟨6, 6⟩, ⟨6, 6⟩⟩ 0 true
    = .error (.panic "negative shift amount in getRotation") := by decide

/-- `getDimension()`: at least 15 for `nbLayers ≥ 1`, so `SampleGrid` gets positive dimensions -/
theorem az_dimension_ge (compact : Bool) (nbLayers : Int) (h : 1 ≤ nbLayers) : 15 ≤ AZ.getDimension compact nbLayers :=
  AZ.getDimension_ge compact nbLayers h

example : AZ.getDimension true 1 = 15 ∧ AZ.getDimension false 1 = 19 ∧ AZ.getDimension false 32 = 151 := by decide

/-- **`Detect(isMirror)` up to the sampling call is total**: matrix centre (C06Det), bull's eye,
    optional mirror swap, parameters, the four `bullsEyeCorners[(shift+i)%4]` accesses (always `0..3`),
    dimension and the matrix corner points — NotFoundException or a located symbol with dimension ≥ 15,
    `shift ∈ 0..3`, `nbLayers ≥ 1`, `nbDataBlocks ≥ 1`; never a panic, every loop bounded. -/
theorem az_detect_total {F : Type} (o : FOps F) (img : Img) (expected : List Nat) (rs : AztecDecoder.RSDecoder)
    (isMirror : Bool) :
    Sat OnlyNotFound AZ.GoodLocated (AZ.detect o img.rdGo img.w img.h expected rs isMirror) :=
  AZ.detect_sat o img expected rs isMirror

theorem az_detect_never_panics {F : Type} (o : FOps F) (img : Img) (expected : List Nat) (rs : AztecDecoder.RSDecoder)
    (isMirror : Bool) :
    (∀ why, AZ.detect o img.rdGo img.w img.h expected rs isMirror ≠ .error (.panic why)) ∧
    AZ.detect o img.rdGo img.w img.h expected rs isMirror ≠ .error .fuel :=
  (az_detect_total o img expected rs isMirror).never

/-! ### non-vacuity: concrete runs of the pieces (toy floats) -/

-- a black square: the segment along its top edge is black, a segment across white and black is neither
example : AZ.getColor toyOps squareImg.rdGo (4, 4) (7, 4) = .ok 1 := by decide
example : AZ.getColor toyOps squareImg.rdGo (0, 0) (3, 0) = .ok (-1) := by decide
example : AZ.getColor toyOps squareImg.rdGo (5, 5) (5, 5) = .ok 0 := by decide
example : AZ.sampleLine toyOps squareImg.rdGo ⟨2, 5⟩ ⟨10, 5⟩ 8 = .ok 0b00111100 := by decide +kernel
end Gzx.Properties.C06DetAz
