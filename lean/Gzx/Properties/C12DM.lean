/-
  C12 — Encoding is total, Data Matrix writer: front end + the WHOLE encoder core, unconditionally.
  Model: `WriterFrontend.encodeDM` (argument checks, hint extraction, rendering) over `DMWriterCore.core`
  (EncodeHighLevel → SymbolInfo_Lookup → ErrorCorrection_EncodeECC200 → DefaultPlacement → encodeLowLevel; the symbol
  and factor tables are the standard's, tied to the library's by per-run obligations).
  Hypotheses: the look-ahead is exact arithmetic up to float rounding (`LaFloatLike`, the `laxr` correspondence of
  C02) and the ISO-8859-1 conversion `prep` returns bytes.  No hypothesis on contents, format, size or hints.
  Compare `encode_total_DM_ascii_base256_partial` in Properties/C12.lean (oracle restricted to ASCII / Base 256, back
  end a hypothesis).  The theorems here are declared in the namespace of that file, `Gzx.Properties.C12`.
-/
import Gzx.Proofs.DMWriterCore
import Gzx.Properties.C12
namespace Gzx.Properties.C12
open Gzx Gzx.Render Gzx.WriterFrontend Gzx.DMHighLevel

/-- ISO-8859-1 conversion of contents given as code points: the bytes, or `none` for a character above U+00FF -/
def latin1 (c : List Nat) : Option (List Nat) := if c.all (· < 256) then some c else none

theorem latin1_bytes (c msg : List Nat) (h : latin1 c = some msg) : ∀ x ∈ msg, x < 256 := by
  unfold latin1 at h
  split at h
  · rename_i hall
    cases h
    intro x hx
    have := List.all_eq_true.mp hall x hx
    simpa using this
  · cases h

/-- C12 "terminates without panicking and returns either a matrix or an error" for `DataMatrixWriter.Encode`, the
    whole writer: for ANY contents, format value, width, height and hints the model returns an image or a
    WriterException — no panic anywhere (type assertions of the hints, nil symbol after the ignored second lookup,
    nil codewords after the ignored ECC200 error, placement, division by the symbol size in the renderer), and the
    mode loop of `EncodeHighLevel` does not run out of its fuel. -/
theorem encode_total_DM_real (la : LookAhead) (hla : LaFloatLike la) (prep : List Nat → Option (List Nat))
    (hprep : ∀ c msg, prep c = some msg → ∀ x ∈ msg, x < 256) :
    ∀ content fmt w h hints,
      encodeDM ⟨DMWriterCore.core la prep⟩ content fmt w h hints = .error .writer ∨
      ∃ img, encodeDM ⟨DMWriterCore.core la prep⟩ content fmt w h hints = .ok img := by
  intro content fmt w h hints
  have hc := DMWriterCore.core_total la hla prep hprep
  unfold encodeDM
  split
  · left; rfl
  · split
    · left; rfl
    · split
      · left; rfl
      · split
        · rename_i f hf
          left
          simp only [DMWriterCore.core] at hf
          split at hf
          · cases hf; rfl
          · rename_i msg hp
            rcases DMWriterCore.rowsOf_total la hla msg _ (hprep content msg hp) with h1 | ⟨_, _, _, _, _, _, h1⟩
            · rw [h1] at hf; cases hf; rfl
            · rw [h1] at hf; cases hf
        · rename_i code hcode
          obtain ⟨h1, h2⟩ := hc.nonEmpty _ _ _ _ _ hcode
          rw [Gzx.Properties.C14.renderDM_eq code.mw code.mh code.m w h h1 h2]
          exact Or.inr ⟨_, rfl⟩

/-- the same in the vocabulary of the other C12 theorems -/
theorem encode_noPanic_DM_real (la : LookAhead) (hla : LaFloatLike la) (prep : List Nat → Option (List Nat))
    (hprep : ∀ c msg, prep c = some msg → ∀ x ∈ msg, x < 256) :
    ∀ content fmt w h hints, NoPanic (encodeDM ⟨DMWriterCore.core la prep⟩ content fmt w h hints) :=
  encode_total_DM _ (DMWriterCore.core_total la hla prep hprep)

/-- C12 "a returned matrix is never smaller than the symbol it depicts", whole writer: the image is at least as
    large as the symbol, the symbol is the reference symbol (`DMRef.symbolBits`, C08) of a row `s` of the standard's
    table for the high-level codewords `cw`, and `s` is the FIRST FIT for `cw` (C13): the row `SymbolInfo_Lookup`
    returns for `len(cw)`, whose capacity is exactly `len(cw)`. -/
theorem encode_dims_DM_real (la : LookAhead) (hla : LaFloatLike la) (prep : List Nat → Option (List Nat))
    (hprep : ∀ c msg, prep c = some msg → ∀ x ∈ msg, x < 256) :
    ∀ content fmt w h hints img, encodeDM ⟨DMWriterCore.core la prep⟩ content fmt w h hints = .ok img →
      ∃ msg s cw, prep content = some msg ∧ s ∈ DMRef.table7 ∧
        encodeHL DMWriterCore.hlSyms la msg (DMWriterCore.cfgOf (dmShape hints) (dimOf (hints .minSize)) (dimOf (hints .maxSize)))
          = .ok cw ∧
        cw.length = s.nData ∧
        DMWriterCore.lookupRow (DMWriterCore.cfgOf (dmShape hints) (dimOf (hints .minSize)) (dimOf (hints .maxSize))) cw.length
          = some s ∧
        (s.cols : Int) ≤ img.w ∧ (s.rows : Int) ≤ img.h := by
  intro content fmt w h hints img hok
  obtain ⟨md, hmd, hw, hh⟩ := encode_dims_DM _ (DMWriterCore.core_total la hla prep hprep) content fmt w h hints img hok
  simp only [DMWriterCore.core] at hmd
  split at hmd
  · cases hmd
  · rename_i msg hp
    rcases DMWriterCore.rowsOf_total la hla msg _ (hprep content msg hp) with h1 | ⟨s, cw, hs, he, hn, hl, h1⟩
    · rw [h1] at hmd; cases hmd
    · rw [h1] at hmd
      simp only [Except.map, Except.ok.injEq] at hmd
      subst hmd
      obtain ⟨e1, e2, _, _⟩ := DMWriterCore.modulesOf_symbolBits s hs cw
      rw [e1] at hw; rw [e2] at hh
      exact ⟨msg, s, cw, hp, hs, he, hn, hl, hw, hh⟩

/-- non-vacuity: both hypotheses are satisfiable (exact look-ahead, Latin-1 conversion) … -/
example : LaFloatLike laExact := fun _ _ _ => ⟨noBump, rfl⟩
example : ∀ c msg, latin1 c = some msg → ∀ x ∈ msg, x < 256 := latin1_bytes
/-- … the success path is reached: "A" is rendered as the 10x10 symbol, also when a 4x4 image was asked for … -/
example : (encodeDM ⟨DMWriterCore.core laExact latin1⟩ [65] fmtDATA_MATRIX 4 4 (fun _ => none)).map (fun i => (i.w, i.h))
    = .ok (10, 10) := by decide +kernel
/-- … and the error paths: empty contents, a character outside Latin-1, a size hint nothing fits -/
example : (encodeDM ⟨DMWriterCore.core laExact latin1⟩ [] fmtDATA_MATRIX 0 0 (fun _ => none)).map (fun i => (i.w, i.h))
    = .error .writer := by decide +kernel
example : (encodeDM ⟨DMWriterCore.core laExact latin1⟩ [65, 8364] fmtDATA_MATRIX 0 0 (fun _ => none)).map (fun i => (i.w, i.h))
    = .error .writer := by decide +kernel
example : (encodeDM ⟨DMWriterCore.core laExact latin1⟩ [65, 66, 67, 68, 69, 70, 71] fmtDATA_MATRIX 0 0
    (fun k => if k = .maxSize then some (.other "dim" [10, 10]) else none)).map (fun i => (i.w, i.h))
    = .error .writer := by decide +kernel

end Gzx.Properties.C12
