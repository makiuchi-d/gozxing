/-
  C18 — LINK theorems: non-interference for every program whose steps are drawn from the summarised
  functions of the library.

  Parametric in the summary `S` and the reviewed lists `A`; `Obligations/C18.lean` instantiates `S` with the
  module regenerated from the Go working tree on every run and discharges `Covered S A` in the kernel, so a new
  package-level write in the Go code breaks the NAMED obligation `Obligations.C18.shared_writes_allowed` (a
  new escape `escapes_allowed`, a lazily written field of a shared object `shared_type_writes_allowed`).

  The three hypotheses on the program are bundled in `DrawnFrom`: the scanner's summary is sound for it (trusted),
  it does not run the reviewed exceptions (assumed: the documented setter), each goroutine touches only instances
  it owns (the property's premise).
-/
import Gzx.Model.EffectLink
import Gzx.Properties.C18
namespace Gzx.Properties.C18Link
open Gzx Gzx.Interference Gzx.EffectLink

theorem accounted_mono (S A : Summary) (hc : Covered S A) (t : TStep) (v : Nat)
    (h : Accounted S t v) : Accounted A t v := by
  unfold Accounted at h ⊢
  cases hp : t.path with
  | direct => rw [hp] at h; exact hc.writes _ h
  | viaStored f => rw [hp] at h; exact hc.escapes _ h
  | viaParam tf => rw [hp] at h; exact hc.typeWrites _ h

/-- premise (1) of `Independent` from the summary: no step of a program drawn from the summarised functions
    (minus the reviewed exceptions) writes a package-level location -/
theorem no_shared_write_of_summary (S A : Summary) (hc : Covered S A) (prog : Gid → List TStep)
    (hsound : ∀ g t, t ∈ prog g → SoundFor S t) (hexcl : ∀ g t, t ∈ prog g → Excluded A t) :
    ∀ g s, s ∈ erase prog g → ∀ loc, s.writes loc → ¬ S.Shared loc := by
  intro g s hs loc hw hsh
  obtain ⟨t, ht, rfl⟩ := List.mem_map.mp hs
  have hlt : loc < S.vars.length := hsh
  have hv : S.vars[loc]? = some S.vars[loc] := List.getElem?_eq_getElem hlt
  exact hexcl g t ht _ (accounted_mono S A hc t _ (hsound g t ht loc _ hw hv))

/-- `prog` is DRAWN FROM THE SUMMARISED FUNCTIONS: the scanner's summary `S` is sound for every step (trusted), no
    step runs one of the reviewed exceptions `A` (assumed of the program), and each goroutine touches only
    instances it owns (the property's premise) -/
structure DrawnFrom (S A : Summary) (prog : Gid → List TStep) (owner : Loc → Gid) : Prop where
  sound : ∀ g t, t ∈ prog g → SoundFor S t
  excluded : ∀ g t, t ∈ prog g → Excluded A t
  own : ∀ g s, s ∈ erase prog g → ∀ loc, s.accesses loc → ¬ S.Shared loc → owner loc = g

/-- the premise of the non-interference theorems, for programs drawn from the summarised functions -/
theorem independent_of_summary (S A : Summary) (hc : Covered S A) (prog : Gid → List TStep) (owner : Loc → Gid)
    (hd : DrawnFrom S A prog owner) :
    Independent (erase prog) S.Shared owner :=
  ⟨no_shared_write_of_summary S A hc prog hd.sound hd.excluded, hd.own⟩

/-- LINK, clause "every call returns exactly what it returns when run alone" -/
theorem summarised_noninterference (S A : Summary) (hc : Covered S A) (prog : Gid → List TStep) (owner : Loc → Gid)
    (hd : DrawnFrom S A prog owner)
    (P0 : Gid → PStore) (G0 : GStore) (sched : List Gid) (g : Gid) :
    (run (erase prog) sched (init P0 G0)).P g
      = (alone (erase prog g) (P0 g) G0 ((run (erase prog) sched (init P0 G0)).pc g)).1 :=
  C18.noninterference _ _ owner P0 G0 (independent_of_summary S A hc prog owner hd) sched g

/-- LINK: the package-level variables keep their init-time values under every interleaving -/
theorem summarised_shared_unchanged (S A : Summary) (hc : Covered S A) (prog : Gid → List TStep) (owner : Loc → Gid)
    (hd : DrawnFrom S A prog owner)
    (P0 : Gid → PStore) (G0 : GStore) (sched : List Gid) (loc : Loc) (h : loc < S.vars.length) :
    (run (erase prog) sched (init P0 G0)).G loc = G0 loc :=
  C18.shared_unchanged _ _ owner P0 G0 (independent_of_summary S A hc prog owner hd) sched loc h

/-- LINK, clause "results equal the sequential results" -/
theorem summarised_results_eq_sequential (S A : Summary) (hc : Covered S A) (prog : Gid → List TStep) (owner : Loc → Gid)
    (hd : DrawnFrom S A prog owner)
    (P0 : Gid → PStore) (G0 : GStore) (sched gs : List Gid)
    (hcomp : C18.Complete (erase prog) sched) (hgs : ∀ g, g ∈ gs ∨ erase prog g = []) :
    (run (erase prog) sched (init P0 G0)).P = (run (erase prog) (sequential (erase prog) gs) (init P0 G0)).P :=
  C18.results_eq_sequential _ _ owner P0 G0 (independent_of_summary S A hc prog owner hd) sched gs hcomp hgs

/-- LINK, clause "no data race" -/
theorem summarised_no_conflict (S A : Summary) (hc : Covered S A) (prog : Gid → List TStep) (owner : Loc → Gid)
    (hd : DrawnFrom S A prog owner)
    (g1 g2 : Gid) (hne : g1 ≠ g2) (s1 s2 : Step) (h1 : s1 ∈ erase prog g1) (h2 : s2 ∈ erase prog g2) (loc : Loc)
    (a1 : s1.accesses loc) (a2 : s2.accesses loc) : ¬ (s1.writes loc ∨ s2.writes loc) :=
  C18.no_conflict _ _ owner (independent_of_summary S A hc prog owner hd) g1 g2 hne s1 s2 h1 h2 loc a1 a2

/-! ### non-vacuity: a summary of the shape of the library's (one reviewed setter), a program drawn from two
    other functions that satisfies all hypotheses, and the necessity of `Excluded` -/

/-- variables 100 (the sampler) and 101 (a table); function 7 is the reviewed setter of variable 100 -/
def demoS : Summary := ⟨[100, 101], [(7, 100)], [], []⟩
def demoA : Summary := ⟨[], [(7, 100)], [], []⟩

theorem demo_covered : Covered demoS demoA := ⟨fun _ h => h, fun _ h => h, fun _ h => h⟩

/-- goroutine 0 runs function 1, goroutine 1 function 2: both read the table (location 1) and the sampler
    (location 0) and write their own instance cell (10 / 11) -/
def demoProg : Gid → List TStep
  | 0 => [⟨1, .direct, .read 0 1⟩, ⟨1, .direct, .read 1 0⟩, ⟨1, .viaParam 55, .write 10 (fun p => p 0 + p 1)⟩]
  | 1 => [⟨2, .direct, .read 0 1⟩, ⟨2, .viaParam 55, .write 11 (fun p => p 0 * 2)⟩]
  | _ => []

def demoOwner : Loc → Gid := fun l => if l = 11 then 1 else 0

theorem demo_sound : ∀ g t, t ∈ demoProg g → SoundFor demoS t := by
  intro g t ht loc v hw hv
  have hlt : loc < 2 := by
    rcases Nat.lt_or_ge loc 2 with h | h
    · exact h
    · rw [List.getElem?_eq_none (by simpa [demoS] using h)] at hv; cases hv
  match g with
  | 0 =>
    simp only [demoProg, List.mem_cons, List.not_mem_nil, or_false] at ht
    rcases ht with rfl | rfl | rfl <;> simp only [Step.writes] at hw <;> omega
  | 1 =>
    simp only [demoProg, List.mem_cons, List.not_mem_nil, or_false] at ht
    rcases ht with rfl | rfl <;> simp only [Step.writes] at hw <;> omega
  | n + 2 => simp [demoProg] at ht

theorem demo_excluded : ∀ g t, t ∈ demoProg g → Excluded demoA t := by
  intro g t ht v
  match g with
  | 0 =>
    simp only [demoProg, List.mem_cons, List.not_mem_nil, or_false] at ht
    rcases ht with rfl | rfl | rfl <;> simp [Accounted, demoA]
  | 1 =>
    simp only [demoProg, List.mem_cons, List.not_mem_nil, or_false] at ht
    rcases ht with rfl | rfl <;> simp [Accounted, demoA]
  | n + 2 => simp [demoProg] at ht

theorem demo_own : ∀ g s, s ∈ erase demoProg g → ∀ loc, s.accesses loc → ¬ demoS.Shared loc → demoOwner loc = g := by
  intro g s hs loc ha hn
  have hn' : ¬ loc < 2 := hn
  match g with
  | 0 =>
    simp only [erase, demoProg, List.map_cons, List.map_nil, List.mem_cons, List.not_mem_nil, or_false] at hs
    rcases hs with rfl | rfl | rfl <;>
      simp only [Step.accesses, Step.reads, Step.writes, or_false, false_or] at ha <;>
      (simp only [demoOwner]; split <;> first | rfl | omega | (subst ha; simp_all))
  | 1 =>
    simp only [erase, demoProg, List.map_cons, List.map_nil, List.mem_cons, List.not_mem_nil, or_false] at hs
    rcases hs with rfl | rfl <;>
      simp only [Step.accesses, Step.reads, Step.writes, or_false, false_or] at ha <;>
      (simp only [demoOwner]; split <;> first | rfl | omega | (subst ha; simp_all))
  | n + 2 => simp [erase, demoProg] at hs

/-- all hypotheses of the link theorems hold of the demo system -/
example : Independent (erase demoProg) demoS.Shared demoOwner :=
  independent_of_summary demoS demoA demo_covered demoProg demoOwner ⟨demo_sound, demo_excluded, demo_own⟩

/-- `Excluded` is necessary: two goroutines that both run the reviewed setter (function 7 writing variable
    100 = location 0) satisfy `SoundFor` and `Covered`, and their result depends on the schedule -/
def setterProg : Gid → List TStep
  | 0 => [⟨7, .direct, .write 0 (fun _ => 1)⟩, ⟨1, .direct, .read 1 0⟩]
  | 1 => [⟨7, .direct, .write 0 (fun _ => 2)⟩, ⟨2, .direct, .read 1 0⟩]
  | _ => []

theorem setter_sound : ∀ g t, t ∈ setterProg g → SoundFor demoS t := by
  intro g t ht loc v hw hv
  match g with
  | 0 =>
    simp only [setterProg, List.mem_cons, List.not_mem_nil, or_false] at ht
    rcases ht with rfl | rfl <;> simp only [Step.writes] at hw
    subst hw
    simp only [demoS, List.getElem?_cons_zero, Option.some.injEq] at hv
    subst hv
    simp [Accounted, demoS]
  | 1 =>
    simp only [setterProg, List.mem_cons, List.not_mem_nil, or_false] at ht
    rcases ht with rfl | rfl <;> simp only [Step.writes] at hw
    subst hw
    simp only [demoS, List.getElem?_cons_zero, Option.some.injEq] at hv
    subst hv
    simp [Accounted, demoS]
  | n + 2 => simp [setterProg] at ht

theorem setter_depends_on_schedule :
    (run (erase setterProg) [0, 0, 1, 1] (init (fun _ _ => 0) (fun _ => 0))).P 0 1 ≠
    (run (erase setterProg) [0, 1, 0, 1] (init (fun _ _ => 0) (fun _ => 0))).P 0 1 := by decide

end Gzx.Properties.C18Link
