/-
  C03 (wp oned128) — "Code 128 … the image rendered with default settings or any larger width, height or margin is read by
  the matching reader as exactly that content", on the ROW DECODER AS CODED (Gzx/Model/OneDRow128.lean: start-pattern search
  with its quiet-zone test, best-match decodeCode over exact PatternMatchVariance with both thresholds, the code-set /
  checksum loop, stop pattern and trailing quiet-zone test), exact interpretation of the float arithmetic.

  Table hypothesis `wfRow128B` (107 rows; six positive widths, STOP seven; pairwise distinct also when cut to the six
  counted elements; every cut row sums to 11 modules) is decidable and discharged for the table regenerated from /repo in
  Obligations/C03Row128.lean.  It implies "every pattern row is the unique best match of its own exact multiples, with
  margin": an exact multiple scores 0 < 1/4, every other row a positive value or +Inf (`bestLoopD_table`).

  The second half of the file (section ITF) is the same clause for `itfReader.DecodeRow` (Gzx/Model/OneDRowITF.lean), under
  the table hypothesis `wfRowITFB`.
-/
import Gzx.Proofs.Row128Bridge
import Gzx.Proofs.C128Loop
import Gzx.Proofs.RowITFAsm
import Gzx.Properties.C03
namespace Gzx.Properties.C03Row128
open Gzx Gzx.OneD Gzx.Row128

/-- Row level = symbol level, FULL: for every well-formed table, every start code, every sequence `body` of symbol
    characters below STOP, every scale `s ≥ 1`, EVERY left and right quiet zone `lq, rq ≥ 0` (the reader's quiet-zone
    tests are clipped to the row: `max(0, …)`, `min(size, …)`) and both values of the ASSUME_GS1 hint, `DecodeRow` on the
    drawn row returns exactly what the symbol-level reader (`readSyms`: the `for !done` state machine, checksum test,
    empty-result test, check-character removal) returns on `start :: body ++ [STOP]`, with rawBytes = those symbol
    characters and result points = middle of the start pattern / middle of the six counted stop elements. -/
theorem code128_row_reads_symbols (P : List (List Nat)) (hWF : wfRow128B P = true) (sc : Nat)
    (hsc : sc = 103 ∨ sc = 104 ∨ sc = 105) (body : List Nat) (hb : ∀ c ∈ body, c < 106) (lq s rq : Nat) (hs : 1 ≤ s)
    (gs1 : Bool) :
    Row128.decodeRow exactDom P (paddedRow lq s rq (appendPattern (fullRuns P (sc :: body ++ [106])) true)) gs1 =
      match readSyms gs1 sc (body ++ [106]) with
      | .error e => .error e
      | .ok (t, m) => .ok { text := t, raw := sc :: body ++ [106], left2 := 2 * lq + s * 11,
                            right2 := 2 * (lq + s * 11 * (body.length + 1)) + s * 11, symMod := m } :=
  decodeRow_symbol P hWF sc hsc body hb lq s rq (by omega) gs1

/-- row level from symbol level: whatever symbol characters `codes` the writer chose (shape: values below STOP, then
    STOP) and drew as `mods`, if the symbol-level reader returns `contents` for them then so does the row decoder on the
    rendered row, at every scale and quiet zone -/
theorem code128_row_of_symbols (T : Tables) (hT : wfRow128B T.code128 = true) (contents codes : List Nat)
    (mods : List Bool) (hread : code128ReadCodes codes = .ok contents)
    (hshape : ∃ body, codes = body ++ [106] ∧ ∀ c ∈ body, c < 106) (hdraw : code128Draw T codes = .ok mods)
    (lq s rq : Nat) (hs : 1 ≤ s) :
    ∃ out, Row128.decodeRow exactDom T.code128 (paddedRow lq s rq mods) false = .ok out ∧
      out.text = contents ∧ out.raw = codes ∧
      out.left2 = 2 * lq + s * 11 ∧ out.right2 = 2 * (lq + s * 11 * (out.raw.length - 1)) + s * 11 := by
  have hWF128 : WF128 T.code128 = true := by
    simp only [wfRow128B, Bool.and_eq_true] at hT
    exact hT.1.1
  obtain ⟨body', rfl, hb'⟩ := hshape
  -- the first symbol character is a start code (else `code128ReadCodes` fails)
  obtain ⟨sc, body, rfl, hsc⟩ : ∃ sc body, body' = sc :: body ∧ (sc = 103 ∨ sc = 104 ∨ sc = 105) := by
    cases body' with
    | nil => simp [code128ReadCodes] at hread
    | cons sc body =>
      refine ⟨sc, body, rfl, ?_⟩
      simp only [List.cons_append, code128ReadCodes] at hread
      split at hread
      · cases hread
      · omega
  have hb : ∀ c ∈ body, c < 106 := fun c hc => hb' c (by simp [hc])
  rw [code128Draw_runs T hWF128 (sc :: body) hb'] at hdraw
  cases hdraw
  have hrow := decodeRow_symbol T.code128 hT sc hsc body hb lq s rq (by omega) false
  rw [List.cons_append] at hread
  have htext := readSyms_text sc hsc (body ++ [106])
  rw [hread] at htext
  cases hrs : readSyms false sc (body ++ [106]) with
  | error e => rw [hrs] at htext; cases htext
  | ok r =>
    obtain ⟨t, m⟩ := r
    rw [hrs] at htext hrow
    simp only [Except.ok.injEq] at htext
    subst htext
    refine ⟨_, hrow, rfl, rfl, rfl, ?_⟩
    have hl : (sc :: body ++ [106]).length - 1 = body.length + 1 := by simp
    simp only [hl]

/-- Clause "Code 128: ASCII 0-127 up to 80 chars incl. digit runs that trigger code set C and control characters that
    trigger code set A … read(write(c)) == c", FULL on the row-decoder model at every scale and every quiet zone:
    for every ASCII content the writer accepts (no forced code set) and the module pattern `mods` it draws, the row
    `lq` white ++ `mods` at `s` px/module ++ `rq` white is read back as exactly `contents`; rawBytes are the symbol
    characters the writer chose (start code … check character, STOP). -/
theorem code128_row_read_write (T : Tables) (hT : wfRow128B T.code128 = true) (contents : List Nat) (mods : List Bool)
    (hascii : ∀ c ∈ contents, c < 128) (h : code128Modules T contents none = .ok mods)
    (lq s rq : Nat) (hs : 1 ≤ s) :
    ∃ out, Row128.decodeRow exactDom T.code128 (paddedRow lq s rq mods) false = .ok out ∧
      out.text = contents ∧ code128Codes contents none = .ok out.raw ∧
      out.left2 = 2 * lq + s * 11 ∧ out.right2 = 2 * (lq + s * 11 * (out.raw.length - 1)) + s * 11 := by
  unfold code128Modules at h
  simp only [bind, Except.bind] at h
  split at h
  · cases h
  · rename_i codes hcodes
    obtain ⟨out, h1, h2, h3, h4, h5⟩ := code128_row_of_symbols T hT contents codes mods
      (Properties.C03.code128_codeset_inv contents codes hascii hcodes) (code128Codes_shape (Or.inl rfl) contents codes hcodes) h
      lq s rq hs
    exact ⟨out, h1, h2, by rw [h3]; exact hcodes, h4, h5⟩

/-- Clause "Code 128 … and each forced code set": the same with the FORCE_CODE_SET hint A, B or C -/
theorem code128_row_read_write_forced (T : Tables) (hT : wfRow128B T.code128 = true) (f : Nat)
    (hf : f = 99 ∨ f = 100 ∨ f = 101) (contents : List Nat) (mods : List Bool)
    (hascii : ∀ c ∈ contents, c < 128) (h : code128Modules T contents (some f) = .ok mods)
    (lq s rq : Nat) (hs : 1 ≤ s) :
    ∃ out, Row128.decodeRow exactDom T.code128 (paddedRow lq s rq mods) false = .ok out ∧
      out.text = contents ∧ code128Codes contents (some f) = .ok out.raw := by
  unfold code128Modules at h
  simp only [bind, Except.bind] at h
  split at h
  · cases h
  · rename_i codes hcodes
    obtain ⟨out, h1, h2, h3, _⟩ := code128_row_of_symbols T hT contents codes mods
      (Properties.C03.code128_forced_inv f hf contents codes hascii hcodes)
      (code128Codes_shape (by rcases hf with rfl | rfl | rfl <;> simp [ForcedOK]) contents codes hcodes) h lq s rq hs
    exact ⟨out, h1, h2, by rw [h3]; exact hcodes⟩

/-- `onedWriter_renderResult` on a non-empty module row: some quiet zones around the modules at some scale `s ≥ 1` -/
theorem renderRow_some_padded (mods : List Bool) (width margin : Nat) (h : 0 < mods.length) :
    ∃ lq s rq, 1 ≤ s ∧ renderRow mods width margin = .ok (paddedRow lq s rq mods) :=
  ⟨_, _, _, (Nat.le_div_iff_mul_le (by omega : 0 < mods.length + margin)).mpr
      (by rw [Nat.one_mul]; exact Nat.le_max_right _ _), renderRow_padded mods width margin (by omega)⟩

/-- the same through the writer's own rendering (`onedWriter_renderResult`, one pixel row): at EVERY requested width and
    EVERY margin ≥ 0 (the default is 10) the rendered row is read back -/
theorem code128_row_read_write_rendered (T : Tables) (hT : wfRow128B T.code128 = true) (contents : List Nat)
    (mods : List Bool) (hascii : ∀ c ∈ contents, c < 128) (h : code128Modules T contents none = .ok mods)
    (width margin : Nat) :
    ∃ row out, renderRow mods width margin = .ok row ∧ Row128.decodeRow exactDom T.code128 row false = .ok out ∧
      out.text = contents := by
  -- an empty row is not read, so the symbol has modules
  have hlen : 0 < mods.length := by
    obtain ⟨out, hout, _⟩ := code128_row_read_write T hT contents mods hascii h 0 1 0 (by omega)
    cases hm : mods with
    | nil =>
      rw [hm] at hout
      have : Row128.decodeRow exactDom T.code128 (paddedRow 0 1 0 []) false = .error .notFound := by
        simp [paddedRow, scaleRow, Row128.decodeRow, findStartPattern, getNextSet, startLoop]
      rw [this] at hout; cases hout
    | cons b bs => simp
  obtain ⟨lq, s, rq, hs, hrow⟩ := renderRow_some_padded mods width margin hlen
  obtain ⟨out, hout, htext, _⟩ := code128_row_read_write T hT contents mods hascii h lq s rq hs
  exact ⟨_, out, hrow, hout, htext⟩

/-! ### ITF -/

/-- Clause "ITF: even digit strings of the reader's accepted lengths 6,8,..,14 and >14 up to 80 … read(write(c)) == c",
    FULL on the row-decoder model (Gzx/Model/OneDRowITF.lean: decodeStart with skipWhiteSpace / findGuardPattern /
    narrowLineWidth / validateQuietZone, decodeEnd on the REVERSED row trying the 2x end pattern first, decodeMiddle with
    RecordPattern of ten runs, the split into bars and spaces, decodeDigit best match over the twenty reader patterns with
    the equal-variance rule, the length rule), exact interpretation, at every scale `s ≥ 1` and EVERY quiet zone
    `lq, rq ≥ 0` (validateQuietZone only demands the pixels that exist), for every ALLOWED_LENGTHS value admitting the
    length: the row is read back as exactly `contents`, result points = end of the start pattern / start of the end
    pattern.  Table hypothesis `wfRowITFB` (decidable; per-run obligation): reader start = writer start; reader rows
    10..19 = the writer's patterns; the twenty reader rows pairwise non-proportional, five positive widths; the writer's
    end pattern reversed scores below 0.38 against the reader's first (2x) reversed end pattern. -/
theorem itf_row_read_write (Tw : Tables) (Tr : RowITF.ItfT) (hWF : RowITF.wfRowITFB Tw Tr = true) (contents : List Nat)
    (hdig : CheckDigit.allDigits contents = true) (heven : contents.length % 2 = 0) (hlen : contents.length ≤ 80)
    (allowed : Option (List Int)) (hok : RowITF.lengthOK (allowed.getD Tr.defaultAllowed) contents.length = true)
    (lq s rq : Nat) (hs : 1 ≤ s) :
    ∃ mods, itfModules Tw contents = .ok mods ∧
      RowITF.decodeRow exactDom Tr (paddedRow lq s rq mods) allowed =
        .ok { text := contents, p0 := lq + s * OneD.sumL Tw.itfStart,
              p1 := (paddedRow lq s rq mods).length - (rq + s * OneD.sumL Tw.itfEnd) } := by
  have hsym : itfSymbols contents = .ok (digitVals contents) := by
    rw [Properties.C03.itf_writer_rejects]
    have : ¬ (contents.length % 2 ≠ 0 ∨ contents.length > 80 ∨ CheckDigit.allDigits contents = false) := by
      simp [heven, hdig]; omega
    rw [if_neg this]
  have hdl : (digitVals contents).length = contents.length := by simp [digitVals]
  obtain ⟨mods, hdraw, hdec⟩ := RowITF.itf_row_core Tw Tr hWF (digitVals contents) (digitVals_lt contents hdig)
    (by rw [hdl]; exact heven) allowed (by rw [hdl]; exact hok) lq s rq (by omega)
  refine ⟨mods, ?_, ?_⟩
  · simp only [itfModules, hsym, bind, Except.bind]
    exact hdraw
  · rw [hdec]
    have : (digitVals contents).map (48 + ·) = contents := by
      have h1 := digitVals_roundtrip contents hdig
      have h2 : (digitVals contents).map (48 + ·) = (digitVals contents).map (· + 48) := by
        apply List.map_congr_left; intro a _; omega
      rw [h2, h1]
    rw [this]

/-- the reader's default list admits every even length from 6 on -/
theorem itf_default_lengths (n : Nat) (h6 : 6 ≤ n) (heven : n % 2 = 0) : RowITF.lengthOK [6, 8, 10, 12, 14] n = true := by
  by_cases h14 : n ≤ 14
  · have : n = 6 ∨ n = 8 ∨ n = 10 ∨ n = 12 ∨ n = 14 := by omega
    rcases this with rfl | rfl | rfl | rfl | rfl <;> decide
  · have h1 : ¬ ((n : Int) = 6) := by omega
    have h2 : ¬ ((n : Int) = 8) := by omega
    have h3 : ¬ ((n : Int) = 10) := by omega
    have h4 : ¬ ((n : Int) = 12) := by omega
    have h5 : ¬ ((n : Int) = 14) := by omega
    simp [RowITF.lengthOK, RowITF.lengthLoop, h1, h2, h3, h4, h5]
    omega

/-- through the writer's own rendering: at EVERY requested width and EVERY margin ≥ 0 the rendered row of an accepted
    content of 6..80 digits is read back (no hint) -/
theorem itf_row_read_write_rendered (Tw : Tables) (Tr : RowITF.ItfT) (hWF : RowITF.wfRowITFB Tw Tr = true)
    (hdef : Tr.defaultAllowed = [6, 8, 10, 12, 14]) (contents : List Nat)
    (hdig : CheckDigit.allDigits contents = true) (heven : contents.length % 2 = 0) (h6 : 6 ≤ contents.length)
    (hlen : contents.length ≤ 80) (width margin : Nat) :
    ∃ mods row out, itfModules Tw contents = .ok mods ∧ renderRow mods width margin = .ok row ∧
      RowITF.decodeRow exactDom Tr row none = .ok out ∧ out.text = contents := by
  have hok : RowITF.lengthOK ((none : Option (List Int)).getD Tr.defaultAllowed) contents.length = true := by
    simp only [Option.getD_none, hdef]; exact itf_default_lengths _ h6 heven
  obtain ⟨mods, hm, hout⟩ := itf_row_read_write Tw Tr hWF contents hdig heven hlen none hok 0 1 0 (by omega)
  -- an empty row is not read, so the symbol has modules
  have hmlen : 0 < mods.length := by
    cases hmods : mods with
    | nil =>
      rw [hmods] at hout
      have : RowITF.decodeRow exactDom Tr (paddedRow 0 1 0 []) none = .error .notFound := by
        simp [paddedRow, scaleRow, RowITF.decodeRow, RowITF.decodeStart, RowITF.skipWhiteSpace, getNextSet, wrapNF]
      rw [this] at hout; cases hout
    | cons b bs => simp
  obtain ⟨lq, s, rq, hs, hrow⟩ := renderRow_some_padded mods width margin hmlen
  obtain ⟨mods', hm', hdec⟩ := itf_row_read_write Tw Tr hWF contents hdig heven hlen none hok lq s rq hs
  rw [hm] at hm'
  cases hm'
  exact ⟨mods, _, _, hm, hrow, hdec, rfl⟩

/-! ### non-vacuity and evaluated instances -/
example : RowITF.wfRowITFB refTables RowITF.refItfT = true := RowITF.wfRowITFB_ref
/-- "123456" at 3 px/module with no quiet zone at all -/
example : (itfModules refTables (CheckDigit.digitBytes [1, 2, 3, 4, 5, 6])).bind
    (fun m => (RowITF.decodeRow exactDom RowITF.refItfT (paddedRow 0 3 0 m) none).map (·.text))
    = .ok (CheckDigit.digitBytes [1, 2, 3, 4, 5, 6]) := by decide +kernel

example : wfRow128B refTables.code128 = true := wfRow128B_ref
/-- "A1234a" (code sets B, C, B) at 2 px/module, no left quiet zone at all, 1 white pixel on the right -/
example : (code128Modules refTables [65, 49, 50, 51, 52, 97] none).bind
    (fun m => (Row128.decodeRow exactDom refTables.code128 (paddedRow 0 2 1 m) false).map (fun o => (o.text, o.raw)))
    = .ok ([65, 49, 50, 51, 52, 97], [104, 33, 99, 12, 34, 100, 65, 58, 106]) := by decide +kernel

end Gzx.Properties.C03Row128
