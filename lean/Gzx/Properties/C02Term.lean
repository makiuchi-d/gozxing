/-
  C02 — Data Matrix, `dm_terminates` / totality of `EncodeHighLevel` under the REAL look-ahead.
  Property theorems only; the proofs are in Gzx/Proofs/DMTerm{C40,XE,LA,Dispatch}.lean.
  Model: Gzx/Model/DMHighLevel.lean (`encodeHL`, tied to datamatrix/encoder/*.go by the `c02` suites dm-hl, dm-la).

  `LaFloatLike la`: every decision of `la` is the decision of the exact look-ahead `laExactR ρ` (integer arithmetic
  in units of 1/12) under SOME float rounding `ρ` — what `HighLevelEncoder_lookAheadTest` is by the `laxr`
  correspondence (specs/C02.json, trusted base).  Nothing else is assumed: the symbol table, the hints and the
  message are arbitrary (the message a list of bytes).
-/
import Gzx.Proofs.DMTermDispatch
import Gzx.Properties.C02
namespace Gzx.Properties.C02
open Gzx Gzx.DMHighLevel

/-! ## every mode encoder is total (any look-ahead oracle, any symbol table) -/

/-- a whole call of the C40 (`text = false`) or Text encoder — buffering, look-ahead exit, the end-of-message
    backtracking loop and every branch of `c40HandleEOD` — returns a context or a WriterException: no panic
    (index, slice, nil symbol, position below zero), never out of fuel.  Every oracle, every table. -/
theorem dm_c40_total (text : Bool) (syms : List SymbolInfo) (la : LookAhead) (c : Ctx)
    (hle : c.pos ≤ c.total) (hm : c.hasMore = true) (hnew : c.newEnc = none) :
    Clean (c40Encode syms la text c) :=
  (c40Encode_sat hle hm hnew).ok_or

/-- the same for the X12 encoder incl. `x12HandleEOD` (rewind of an incomplete triplet) -/
theorem dm_x12_total (syms : List SymbolInfo) (la : LookAhead) (c : Ctx) (hle : c.pos ≤ c.total)
    (hnew : c.newEnc = none) : Clean (x12Encode syms la c) :=
  (x12Encode_sat hle hnew).ok_or

/-- the same for the EDIFACT encoder incl. every branch of `edifactHandleEOD` (symbol re-selection, rewind) -/
theorem dm_edifact_total (syms : List SymbolInfo) (la : LookAhead) (c : Ctx) (hle : c.pos ≤ c.total)
    (hnew : c.newEnc = none) : Clean (edifactEncode syms la c) :=
  (edifactEncode_sat hle).ok_or

example : Clean (c40Encode exSyms (fun _ _ m => m) false { msg := [65, 66, 67, 68], cfg := {} }) := by
  apply dm_c40_total <;> decide
/-- the error branch is real: nothing fits a table whose only symbol holds 4 codewords … -/
example : (c40Encode [⟨false, 4, 5, 8, 8, 1⟩] (fun _ _ m => m) false
    { msg := [65, 66, 67, 68, 69, 70, 71, 72, 73], cfg := {} }).map (·.cw) = .error .writer := by decide
/-- … and X12 / EDIFACT reject characters they cannot encode (an oracle may send them there; the real one does not) -/
example : (x12Encode exSyms (fun _ _ m => m) { msg := [65, 66, 97], cfg := {} }).map (·.cw) = .error .writer := by
  decide
example : (edifactEncode exSyms (fun _ _ m => m) { msg := [65, 66, 97, 65], cfg := {} }).map (·.cw) = .error .writer := by
  decide

/-! ## the progress of one dispatch iteration -/

/-- C40 / Text: a successful call keeps message and hints, signals ASCII, never moves backwards — and if it has
    NOT advanced, it has taken every character up to the end of the message and backtracked all of them: every
    proper prefix of the rest of the message has `1 (mod 3)` values and the whole rest not `0 (mod 3)`
    (`NoConsume`: the value counts are (1 or 4), 3, …, 3, (1, 3 or 4)).  Every oracle, every table. -/
theorem dm_c40_progress (text : Bool) (syms : List SymbolInfo) (la : LookAhead) (c c' : Ctx)
    (hle : c.pos ≤ c.total) (hm : c.hasMore = true) (hnew : c.newEnc = none)
    (h : c40Encode syms la text c = .ok c') :
    c'.msg = c.msg ∧ c'.skipAtEnd = c.skipAtEnd ∧ c'.cfg = c.cfg ∧ c'.newEnc = some ASCII ∧
    c.pos ≤ c'.pos ∧ c'.pos ≤ c'.total ∧ (c'.pos = c.pos → NoConsume text c) :=
  (c40Encode_sat hle hm hnew).of_ok h

/-- X12: the same; a call that has not advanced found at most two characters left -/
theorem dm_x12_progress (syms : List SymbolInfo) (la : LookAhead) (c c' : Ctx)
    (hle : c.pos ≤ c.total) (hnew : c.newEnc = none) (h : x12Encode syms la c = .ok c') :
    c'.msg = c.msg ∧ c'.skipAtEnd = c.skipAtEnd ∧ c'.cfg = c.cfg ∧ c'.newEnc = some ASCII ∧
    c.pos ≤ c'.pos ∧ c'.pos ≤ c'.total ∧ (c'.pos = c.pos → c.remaining ≤ 2) :=
  (x12Encode_sat hle hnew).of_ok h

/-- EDIFACT: the same; a call that has not advanced found at most two characters left (and rewound them) -/
theorem dm_edifact_progress (syms : List SymbolInfo) (la : LookAhead) (c c' : Ctx)
    (hle : c.pos ≤ c.total) (hnew : c.newEnc = none) (h : edifactEncode syms la c = .ok c') :
    c'.msg = c.msg ∧ c'.skipAtEnd = c.skipAtEnd ∧ c'.cfg = c.cfg ∧ c'.newEnc = some ASCII ∧
    c.pos ≤ c'.pos ∧ c'.pos ≤ c'.total ∧ (c'.pos = c.pos → c.remaining ≤ 2) :=
  (edifactEncode_sat hle).of_ok h

/-- the C40 call that consumes nothing is real (oracle latching C40 for "é": four values, all backtracked) -/
example : (c40Encode exSyms (fun _ _ m => m) false { msg := [233], cfg := {}, cw := [230] }).map (·.pos) = .ok 0 := by
  decide

/-! ## what the real look-ahead guarantees -/

/-- the look-ahead never proposes C40 (Text) from ASCII at a position from which the C40 (Text) encoder would
    backtrack everything: on such a run the ASCII count never exceeds the C40, Text, X12 and EDIFACT counts, so
    steps R and K answer ASCII or Base 256 — for every float rounding, with or without macro trailer -/
theorem la_never_proposes_backtracked_c40 (la : LookAhead) (hla : LaFloatLike la) (text : Bool) (c : Ctx)
    (hb : ∀ x ∈ c.msg, x < 256) (ht : TotOK c.msg c.total) (hm : c.hasMore = true) (hN : NoConsume text c) :
    la c.msg c.pos ASCII ≠ (if text then TEXT else C40) :=
  fun h => la_consumes_c40 hla hb ht hm h hN

/-- the look-ahead never proposes X12 or EDIFACT from ASCII when at most two characters are left -/
theorem la_never_proposes_short_x12_edifact (la : LookAhead) (hla : LaFloatLike la) (c : Ctx)
    (ht : TotOK c.msg c.total) (hm : c.hasMore = true) (hr : c.remaining ≤ 2) :
    la c.msg c.pos ASCII ≠ X12 ∧ la c.msg c.pos ASCII ≠ EDIFACT :=
  ⟨fun h => la_consumes_x12_edi hla ht hm (Or.inl h) hr, fun h => la_consumes_x12_edi hla ht hm (Or.inr h) hr⟩

/-- non-vacuity: "A" + four times "Á" + "B" is such a run (value counts 1, 3, 3, 3, 3, 1); the exact look-ahead
    answers Base 256 there -/
example : laExact [65, 193, 193, 193, 193, 66] 0 ASCII = BASE256 := by decide +kernel

/-! ## `dm_terminates` -/

/-- for EVERY message of bytes, every symbol table, every hint configuration and every
    look-ahead that is exact arithmetic up to float rounding (`LaFloatLike`, e.g. `laExact` and every `laExactR ρ`),
    `encodeHL` neither runs out of its fuel `4·|msg| + 8` (the dispatch loop of `EncodeHighLevel` terminates:
    `2·remaining + [mode = ASCII]` decreases with every iteration) nor panics: it returns codewords or a
    WriterException.  (False for an arbitrary oracle: `dm_terminates_fails_for_some_oracle`.) -/
theorem dm_terminates (syms : List SymbolInfo) (la : LookAhead) (hla : LaFloatLike la) (msg : List Nat) (cfg : Cfg)
    (hb : ∀ x ∈ msg, x < 256) :
    encodeHL syms la msg cfg ≠ .error .fuel ∧ (∀ s, encodeHL syms la msg cfg ≠ .error (.panic s)) ∧
    (encodeHL syms la msg cfg = .error .writer ∨ ∃ cw, encodeHL syms la msg cfg = .ok cw) := by
  have h := encodeHL_total syms la hla msg cfg hb
  exact ⟨h.ne_fuel, h.ne_panic, by rcases h with ⟨cw, e⟩ | e; exact Or.inr ⟨cw, e⟩; exact Or.inl e⟩

/-- the exact look-ahead itself -/
theorem dm_terminates_exact (syms : List SymbolInfo) (ρ : Bump) (msg : List Nat) (cfg : Cfg)
    (hb : ∀ x ∈ msg, x < 256) : Clean (encodeHL syms (laExactR ρ) msg cfg) :=
  encodeHL_total syms (laExactR ρ) (fun _ _ _ => ⟨ρ, rfl⟩) msg cfg hb

/-- table used by the examples -/
def termSyms : List SymbolInfo := [⟨false, 3, 5, 8, 8, 1⟩, ⟨false, 5, 7, 10, 10, 1⟩, ⟨false, 8, 10, 12, 12, 1⟩,
  ⟨false, 12, 12, 14, 14, 1⟩, ⟨false, 1558, 620, 22, 22, 36⟩]

/-- non-vacuity — the message on which the always-C40 oracle loops is encoded by the exact look-ahead … -/
example : encodeHL termSyms laExact [233] {} = .ok [235, 106, 129] := by decide +kernel
/-- … and messages that go through EDIFACT, X12, Text and (macro 05) C40 under the exact look-ahead -/
example : encodeHL termSyms laExact [64, 64, 64, 64, 64, 64, 64, 64, 64] {} = .ok [240, 0, 0, 0, 0, 0, 0, 65] := by
  decide +kernel
example : encodeHL termSyms laExact [42, 42, 42, 42, 42, 42, 42, 42, 42, 42] {} = .ok [238, 6, 106, 6, 106, 6, 106, 43] := by
  decide +kernel
example : encodeHL termSyms laExact [97, 98, 99, 100, 101, 102, 103] {} = .ok [239, 89, 233, 109, 36, 254, 104, 129] := by
  decide +kernel
example : encodeHL termSyms laExact [91, 41, 62, 30, 48, 53, 29, 65, 66, 67, 68, 69, 70, 71, 72, 30, 4] {} =
    .ok [236, 230, 89, 233, 109, 36, 128, 73] := by decide +kernel
/-- the WriterException branch: nothing fits -/
example : encodeHL [⟨false, 3, 5, 8, 8, 1⟩] laExact [65, 66, 67, 68, 69, 70, 71, 72] {} = .error .writer := by
  decide +kernel

end Gzx.Properties.C02
