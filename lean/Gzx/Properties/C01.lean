/-
  C01 — QR Code: what is written is what is read.  Property theorems only (decoder-side layer
  inverses and the composed round-trip statement).
  Decoder model: Gzx/Model/QRDecoder.lean (mirrors qrcode/decoder/*, tied by the `c01` suites).
  Reference packing: Gzx/Ref/QRPack.lean (written from ISO/IEC 18004).
  The composition: `qr_roundtrip_bits` and the per-mode theorems, for the reference symbol of C07 (`Gzx.QRRef`) and the
  Reed-Solomon model of C04, without layer hypotheses.  `qr_roundtrip_partial` is the skeleton they are assembled on
  (`QRComp.decode_layers`: what each layer reads is a NAMED hypothesis); it and `qr_roundtrip_numeric_partial` are
  the statements that hold of ANY matrix and Reed-Solomon decoder for which the layer facts are given.
  The segment and stream statements are the one-item instances of `QRMulti.parseLoop_item` / `parseStream_items`
  (Proofs/QRMulti.lean), the per-mode round trips those of `QRComp.decode_ref_items` (Proofs/QRCompTop.lean); symbols
  of several segments: Properties/C01Multi.lean.
-/
import Gzx.Proofs.QRSegments
import Gzx.Proofs.QRInterleave
import Gzx.Proofs.QRTolerance
import Gzx.Proofs.QRMatrixRead
import Gzx.Proofs.QRCompBlocks
import Gzx.Proofs.QRCompStream
import Gzx.Proofs.QRCompTop
import Gzx.Properties.C15
namespace Gzx.Properties.C01
open Gzx Gzx.QRDec Gzx.QRPack Gzx.ECI Gzx.QRComp Gzx.QRMulti

/-! ## character-count widths: the three version classes 1-9 | 10-26 | 27-40 -/

/-- the widths at the class boundaries 9|10 and 26|27 -/
example : (countWidth 0 9, countWidth 0 10, countWidth 0 26, countWidth 0 27) = (10, 12, 12, 14) := by decide
example : (countWidth 2 9, countWidth 2 10, countWidth 3 26, countWidth 3 27) = (8, 16, 10, 12) := by decide

/-! ## segment inverses: parse ∘ pack = id, for all lengths and all three count-width classes -/

/-- one round of the parser on a numeric segment packed as in ISO 18004 7.4.3
    appends exactly the digits (as ASCII) and leaves the rest of the stream, for every version, every
    number of digits that the count field can hold, and whatever follows. -/
theorem bits_numeric_inv (reg : Registry) (ver : Nat) (hint : Hint) (fuel : Nat) (st : PSt)
    (ds : List Nat) (hd : ∀ d ∈ ds, d < 10) (hlen : ds.length < 2 ^ countWidth 0 ver) (rest : List Bool) :
    parseLoop reg ver hint (fuel + 1) st (segment 1 (countWidth 0 ver) ds.length (packNumeric ds) ++ rest) =
      parseLoop reg ver hint fuel { st with segs := st.segs ++ [.raw (ds.map (48 + ·))] } rest :=
  parseLoop_item reg ver hint (fun _ => .sjis) fuel st (.numeric ds) hd hlen (fun _ h => nomatch h) rest

/-- ISO 18004 7.4.4; no FNC1 in effect -/
theorem bits_alnum_inv (reg : Registry) (ver : Nat) (hint : Hint) (fuel : Nat) (st : PSt) (hf : st.fnc1 = false)
    (cs : List Nat) (hc : ∀ c ∈ cs, c < 45) (hlen : cs.length < 2 ^ countWidth 1 ver) (rest : List Bool) :
    parseLoop reg ver hint (fuel + 1) st (segment 2 (countWidth 1 ver) cs.length (packAlnum cs) ++ rest) =
      parseLoop reg ver hint fuel { st with segs := st.segs ++ [.raw (cs.map alnumCharOf)] } rest := by
  have h := parseLoop_item reg ver hint (fun _ => .sjis) fuel st (.alnum cs) hc hlen (fun _ h => nomatch h) rest
  simp only [step] at h
  rw [if_neg (by rw [hf]; exact Bool.false_ne_true)] at h
  exact h

/-- the alphanumeric alphabet is read back injectively: 45 distinct characters -/
theorem alnum_alphabet_injective : (List.range 45).map alnumCharOf = alnumChars ∧ alnumChars.Nodup := by
  decide

/-- `bits_byte_inv` (7.4.5): the bytes come back unchanged together with the charset that decodes
    them — the current ECI entry if there is one … -/
theorem bits_byte_inv_eci (reg : Registry) (ver : Nat) (hint : Hint) (fuel : Nat) (st : PSt) (e : Entry)
    (he : st.eci = some e)
    (bs : List Nat) (hb : ∀ b ∈ bs, b < 256) (hlen : bs.length < 2 ^ countWidth 2 ver) (rest : List Bool) :
    parseLoop reg ver hint (fuel + 1) st (segment 4 (countWidth 2 ver) bs.length (packBytes bs) ++ rest) =
      parseLoop reg ver hint fuel
        { st with segs := st.segs ++ [.text (.named e.name) bs], byteSegs := st.byteSegs ++ [bs] } rest := by
  have h := parseLoop_item reg ver hint (fun _ => .sjis) fuel st (.byte bs) hb hlen
    (fun _ _ hn => by rw [he] at hn; cases hn) rest
  have hcs : charsetOf (fun _ => Charset.sjis) st.eci bs = .named e.name := by rw [he]; rfl
  simp only [step, hcs] at h
  exact h

/-- … and otherwise the hinted or guessed charset (`guessCharset`; for UTF-8 payloads see `C15.guess_utf8`) -/
theorem bits_byte_inv_guess (reg : Registry) (ver : Nat) (hint : Hint) (fuel : Nat) (st : PSt)
    (he : st.eci = none) (bs : List Nat) (hb : ∀ b ∈ bs, b < 256) (hlen : bs.length < 2 ^ countWidth 2 ver)
    (cs : Charset) (hcs : guessCharset reg bs hint = .ok cs) (rest : List Bool) :
    parseLoop reg ver hint (fuel + 1) st (segment 4 (countWidth 2 ver) bs.length (packBytes bs) ++ rest) =
      parseLoop reg ver hint fuel
        { st with segs := st.segs ++ [.text cs bs], byteSegs := st.byteSegs ++ [bs] } rest := by
  have h := parseLoop_item reg ver hint (fun _ => cs) fuel st (.byte bs) hb hlen
    (fun _ hbs _ => by injection hbs with hbs; rw [← hbs]; exact hcs) rest
  have hcs' : charsetOf (fun _ => cs) st.eci bs = cs := by rw [he]; rfl
  simp only [step, hcs'] at h
  exact h

/-- 7.4.6: the Shift_JIS byte pairs of the two Kanji ranges come back unchanged -/
theorem bits_kanji_inv (reg : Registry) (ver : Nat) (hint : Hint) (fuel : Nat) (st : PSt)
    (ps : List (Nat × Nat)) (hp : ∀ p ∈ ps, kanjiPairOK p) (hlen : ps.length < 2 ^ countWidth 3 ver)
    (rest : List Bool) :
    parseLoop reg ver hint (fuel + 1) st (segment 8 (countWidth 3 ver) ps.length (packKanji ps) ++ rest) =
      parseLoop reg ver hint fuel
        { st with segs := st.segs ++ [.text .sjis (ps.flatMap (fun p => [p.1, p.2]))] } rest :=
  parseLoop_item reg ver hint (fun _ => .sjis) fuel st (.kanji ps) hp hlen (fun _ h => nomatch h) rest

/-! ## terminator and padding -/

/-- the parser stops exactly at the payload end — on the 4-bit terminator whatever
    follows it (bit padding to the byte boundary and any number of pad bytes 0xEC/0x11), and on a
    shortened terminator of 0..3 bits when the payload fills the symbol to within 3 bits. -/
theorem terminate_parse (reg : Registry) (ver : Nat) (hint : Hint) (fuel : Nat) (st : PSt) :
    (∀ pad : List Bool, parseLoop reg ver hint (fuel + 1) st (List.replicate 4 false ++ pad) = .ok st) ∧
    (∀ tail : List Bool, tail.length < 4 → parseLoop reg ver hint (fuel + 1) st tail = .ok st) :=
  ⟨fun pad => parseLoop_terminated reg ver hint fuel st _ (.inl ⟨pad, rfl⟩),
   fun tail ht => parseLoop_terminated reg ver hint fuel st tail (.inr ht)⟩

/-! ## data masks -/

/-- unmasking twice with the same pattern restores every module (what `BitMatrixParser.Remask` does) -/
theorem mask_involutive (k : Nat) (m : Matrix) (x y : Nat) : (unmask k (unmask k m)).bit x y = m.bit x y := by
  simp only [unmask]
  cases m.bit x y <;> cases maskBit k y x <;> rfl

theorem unmask_dim (k : Nat) (m : Matrix) : (unmask k m).dim = m.dim := rfl

theorem mirror_involutive (m : Matrix) (x y : Nat) : (mirrorMatrix (mirrorMatrix m)).bit x y = m.bit x y := rfl

/-! ## format and version information: read-back -/

/-- read-back of both copies on the exact-match path — if the modules of both
    format areas hold the 15-bit word `w` of lookup entry `(w, d)` (what the encoder embeds: QRRef),
    `ReadFormatInformation` returns and caches the level and mask of `d`. -/
theorem format_info_inv (T : Tables) (hT : MinDist 7 (T.fmt.map (·.1))) (p : Parser) (hc : p.fmt = none)
    (w d : Nat) (hw : (w, d) ∈ T.fmt) (hlt : w < 2 ^ 15) (f : EC × Nat) (hf : formatInfoOf d = .ok f)
    (c₁ : formatCoords1.map (cellOf p.m p.mirror) = natToBits 15 w)
    (c₂ : (formatCoords2 p.m.dim).map (cellOf p.m p.mirror) = natToBits 15 w) :
    readFormatInformation T p = .ok (f, { p with fmt := some f }) := by
  have h := decodeFormat_near T.fmt T.fmtMask hT w d hw 0 0 (by decide) (by decide)
  simp only [Nat.xor_zero] at h
  rw [readFormat_reads T p hc w w hlt hlt c₁ c₂, h, hf]
  rfl

/-- versions 1..6 are read off the dimension … -/
theorem version_info_inv_small (T : Tables) (p : Parser) (hc : p.ver = none) (hsmall : (p.m.dim - 17) / 4 ≤ 6)
    (v : VersionInfo) (hv : getVersionForNumber T.versions ((p.m.dim - 17) / 4) = .ok v) :
    readVersion T p = .ok (v, p) :=
  readVersion_small T p hc hsmall v hv

/-- … for versions ≥ 7 the first copy (top right) holding the 18-bit word of version `i+7` yields
    that version (dimension check included). -/
theorem version_info_inv (T : Tables) (hT : MinDist 8 T.vdi) (p : Parser) (hc : p.ver = none)
    (hbig : ¬ (p.m.dim - 17) / 4 ≤ 6) (i w : Nat) (hw : T.vdi[i]? = some w) (hlt : w < 2 ^ 18)
    (v : VersionInfo) (hv : getVersionForNumber T.versions (i + 7) = .ok v) (hd : v.dimension = p.m.dim)
    (c₁ : (versionCoords1 p.m.dim).map (cellOf p.m p.mirror) = natToBits 18 w) :
    readVersion T p = .ok (v, { p with ver := some v }) := by
  have h := versionCopyOK_near T hT i w hw 0 (by decide) v hv p.m.dim hd
  simp only [Nat.xor_zero] at h
  exact readVersion_reads_first T p hc hbig w hlt c₁ v h

/-! ## whole bit streams: one segment, terminator, padding -/

/-- numeric symbol contents: the data codewords' bit string `segment ++ terminator ++ padding` parses
    to exactly the digits (one raw ASCII segment, no byte segments, symbology modifier 1) -/
theorem parse_numeric_stream (reg : Registry) (ver : Nat) (hint : Hint)
    (ds : List Nat) (hd : ∀ d ∈ ds, d < 10) (hlen : ds.length < 2 ^ countWidth 0 ver)
    (tail : List Bool) (ht : Terminated tail) :
    parseStream reg (segment 1 (countWidth 0 ver) ds.length (packNumeric ds) ++ tail) ver hint =
      .ok ⟨[.raw (ds.map (48 + ·))], [], -1, -1, 1⟩ :=
  parseStream_item reg ver hint (fun _ => .sjis) (.numeric ds) hd hlen (fun _ h => nomatch h) tail ht

theorem parse_alnum_stream (reg : Registry) (ver : Nat) (hint : Hint)
    (cs : List Nat) (hc : ∀ c ∈ cs, c < 45) (hlen : cs.length < 2 ^ countWidth 1 ver)
    (tail : List Bool) (ht : Terminated tail) :
    parseStream reg (segment 2 (countWidth 1 ver) cs.length (packAlnum cs) ++ tail) ver hint =
      .ok ⟨[.raw (cs.map alnumCharOf)], [], -1, -1, 1⟩ :=
  parseStream_item reg ver hint (fun _ => .sjis) (.alnum cs) hc hlen (fun _ h => nomatch h) tail ht

/-- byte-mode contents without ECI: the bytes come back with the charset `guessCharset` picks (UTF-8
    for UTF-8 payloads with a multi-byte character: `C15.guess_utf8`) -/
theorem parse_byte_stream (reg : Registry) (ver : Nat) (hint : Hint)
    (bs : List Nat) (hb : ∀ b ∈ bs, b < 256) (hlen : bs.length < 2 ^ countWidth 2 ver)
    (cs : Charset) (hcs : guessCharset reg bs hint = .ok cs)
    (tail : List Bool) (ht : Terminated tail) :
    parseStream reg (segment 4 (countWidth 2 ver) bs.length (packBytes bs) ++ tail) ver hint =
      .ok ⟨[.text cs bs], [bs], -1, -1, 1⟩ :=
  parseStream_item reg ver hint (fun _ => cs) (.byte bs) hb hlen
    (fun _ h => by injection h with h; rw [← h]; exact hcs) tail ht

theorem parse_kanji_stream (reg : Registry) (ver : Nat) (hint : Hint)
    (ps : List (Nat × Nat)) (hp : ∀ p ∈ ps, kanjiPairOK p) (hlen : ps.length < 2 ^ countWidth 3 ver)
    (tail : List Bool) (ht : Terminated tail) :
    parseStream reg (segment 8 (countWidth 3 ver) ps.length (packKanji ps) ++ tail) ver hint =
      .ok ⟨[.text .sjis (ps.flatMap (fun p => [p.1, p.2]))], [], -1, -1, 1⟩ :=
  parseStream_item reg ver hint (fun _ => .sjis) (.kanji ps) hp hlen (fun _ h => nomatch h) tail ht

/-- non-vacuity: ISO 18004 Annex I example "01234567", version 1 -/
example : parseStream [] (segment 1 (countWidth 0 1) 8 (packNumeric [0, 1, 2, 3, 4, 5, 6, 7]) ++
    (List.replicate 4 false ++ natToBits 8 0xEC)) 1 .none =
    .ok ⟨[.raw [48, 49, 50, 51, 52, 53, 54, 55]], [], -1, -1, 1⟩ := by decide

/-- `QRDec.interleave_deinterleave` (Proofs/QRInterleave.lean), as a layer of C01 -/
theorem interleave_deinterleave {d e : Nat} {short long : List (List Nat × List Nat)}
    (w : ShortLong d e short long) (v : VersionInfo) (ec : EC) (eb : ECBlocks)
    (heb : v.ecBlocks[ec.index]? = some eb) (hec : eb.ecPerBlock = e)
    (hshape : blockShapes eb = (short ++ long).map (fun b => (b.1.length, e + b.1.length)))
    (htot : v.totalCodewords = (QRDec.interleave (short ++ long)).length) :
    getDataBlocks (QRDec.interleave (short ++ long)) v ec =
      .ok ((short ++ long).map (fun b => (b.1.length, b.1 ++ b.2))) :=
  QRDec.interleave_deinterleave w v ec eb heb hec hshape htot

/-! ## the composed round trip -/

/-- composition skeleton of `Decoder.Decode`: when every layer reads back what
    was written, the first decoding attempt succeeds (the mirrored retry is not entered) and the
    result carries the parsed content, the error-correction level of the format information and the
    version.
    Each hypothesis below is one layer, named after the theorem that discharges it:
      * `h_version`  — version_info_inv  (encoder writes both copies / dimension class: QRRef, C07)
      * `h_format`   — format_info_inv   (encoder writes both copies: QRRef, C07)
      * `h_place`    — `C07.ref_place_read_inv` (zig-zag placement and masking: QRRef, C07)
      * `h_deint`    — interleave_deinterleave (above, given the block structure)
      * `h_rs`       — `C04.rs_decode_encode` (Reed-Solomon on undamaged blocks) through `correctBlocks_map`
      * `h_parse`    — bits_*_inv + terminate_parse (above: `parse_*_stream`)
    `QRComp.decode_damaged` supplies all six, for the reference symbol (`qr_roundtrip_bits` below) and for damaged ones. -/
theorem qr_roundtrip_partial (T : Tables) (rs : List Nat → Nat → Res (List Nat)) (hint : Hint) (m : Matrix)
    (hdim : ¬ (m.dim < 21 ∨ m.dim % 4 ≠ 1))
    (v : VersionInfo) (p1 : Parser) (h_version : readVersion T { m := m } = .ok (v, p1))
    (fi : EC × Nat) (p2 : Parser) (h_format : readFormatInformation T p1 = .ok (fi, p2))
    (raw : List Nat) (p3 : Parser) (h_place : readCodewords T p2 = (.ok raw, p3))
    (blocks : List (Nat × List Nat)) (h_deint : getDataBlocks raw v fi.1 = .ok blocks)
    (data : List Nat) (h_rs : correctBlocks rs blocks = .ok data)
    (parsed : Parsed) (h_parse : parse T.eci data v.num hint = .ok parsed) :
    decode T rs hint m = .ok ⟨parsed, fi.1, v.num, data, false⟩ :=
  decode_layers T rs hint m hdim v p1 h_version fi p2 h_format raw p3 h_place blocks h_deint data h_rs parsed h_parse

/-- the same with the proved layers plugged in, for numeric contents: given the matrix-level reads
    (hypotheses of C07), Reed-Solomon on the undamaged blocks (hypothesis of C04) and the encoder's
    terminated bit stream being the standard's packing (hypothesis `h_stream`, QRRef), decoding returns
    the digits and the level. -/
theorem qr_roundtrip_numeric_partial (T : Tables) (rs : List Nat → Nat → Res (List Nat)) (hint : Hint) (m : Matrix)
    (hdim : ¬ (m.dim < 21 ∨ m.dim % 4 ≠ 1))
    (v : VersionInfo) (p1 : Parser) (h_version : readVersion T { m := m } = .ok (v, p1))
    (fi : EC × Nat) (p2 : Parser) (h_format : readFormatInformation T p1 = .ok (fi, p2))
    {d e : Nat} {short long : List (List Nat × List Nat)} (w : ShortLong d e short long)
    (p3 : Parser) (h_place : readCodewords T p2 = (.ok (QRDec.interleave (short ++ long)), p3))
    (eb : ECBlocks) (heb : v.ecBlocks[fi.1.index]? = some eb) (hec : eb.ecPerBlock = e)
    (hshape : blockShapes eb = (short ++ long).map (fun b => (b.1.length, e + b.1.length)))
    (htot : v.totalCodewords = (QRDec.interleave (short ++ long)).length)
    (h_rs : ∀ b ∈ short ++ long, rs (b.1 ++ b.2) e = .ok (b.1 ++ b.2))
    (ds : List Nat) (hd : ∀ x ∈ ds, x < 10) (hlen : ds.length < 2 ^ countWidth 0 v.num)
    (tail : List Bool) (ht : Terminated tail)
    (h_stream : bytesToBits ((short ++ long).flatMap (·.1)) =
      segment 1 (countWidth 0 v.num) ds.length (packNumeric ds) ++ tail) :
    decode T rs hint m =
      .ok ⟨⟨[.raw (ds.map (48 + ·))], [], -1, -1, 1⟩, fi.1, v.num, (short ++ long).flatMap (·.1), false⟩ := by
  obtain ⟨h1, h2⟩ := deinterleave_correct rs w rfl v fi.1 eb heb hec hshape htot
    (fun p hp => by rw [← zip_self_mem hp]; exact h_rs p.1 (List.of_mem_zip hp).1)
  refine decode_layers T rs hint m hdim v p1 h_version fi p2 h_format _ p3 h_place _ h1 _ h2 _ ?_
  unfold parse
  rw [h_stream]
  exact parse_numeric_stream T.eci v.num hint ds hd hlen tail ht

/-! ## the composed round trip, in full: reference encoder (ISO/IEC 18004, `Gzx.QRRef`) → decoder model

No layer hypotheses.  The Reed-Solomon decoder is the C04 model `Gzx.RS.decode` over `Gzx.GF.qrCode256`
(`QRComp.rsQR`), the tables are any tables conforming to the standard (`QRComp.TablesConform T`, decidable,
discharged for the tables regenerated from /repo by `Obligations.C01.tables_conform`), the symbol is the
reference symbol of C07 (`QRRef.refMatrix`, which the `c07` oracle compares with the library's matrices). -/

/-- the reference symbol for a payload bit string (mode indicator, count, data — before termination):
    terminator + padding, block split + RS parity + interleaving, placement + masking + function patterns -/
def refSymbol (v : Nat) (ec : QRRef.EC) (mask : Nat) (bits : List Bool) : Matrix :=
  matrixOf (QRRef.refMatrix v ec mask
    (QRRef.finalCodewords v ec (QRRef.terminate (QRRef.dataCodewords v ec) bits)))

/-- the composition for an arbitrary payload: for every version 1..40, level, mask 0..7
    and every payload that fits the data capacity, `Decoder.Decode` on the reference symbol succeeds on the
    first attempt (not mirrored) and returns whatever the bit-stream parser makes of the payload followed by
    a terminated tail, the level, the version and exactly the data codewords that were written. -/
theorem qr_roundtrip_bits (T : Tables) (hT : TablesConform T) (hint : Hint) (v : Nat) (h1 : 1 ≤ v) (h40 : v ≤ 40)
    (ec : QRRef.EC) (mask : Nat) (hm : mask < 8) (bits : List Bool)
    (hfit : bits.length ≤ 8 * QRRef.dataCodewords v ec) (parsed : Parsed)
    (hparse : ∀ tail, Terminated tail → parseStream T.eci (bits ++ tail) v hint = .ok parsed) :
    decode T rsQR hint (refSymbol v ec mask bits) =
      .ok ⟨parsed, toDecEC ec, v, QRRef.terminate (QRRef.dataCodewords v ec) bits, false⟩ := by
  unfold refSymbol
  rw [finalCodewords_eq_interleave]
  exact decode_received T hT hint v h1 h40 ec mask hm bits hfit parsed hparse _
    (received_refBlocks v ec _ (terminate_lt _ _))

/-- **`qr_roundtrip`, numeric mode** (7.4.3): every string of digits that fits (version, level) comes back as
    its ASCII bytes, with the level and version, for every version 1..40, level and mask. -/
theorem qr_roundtrip_numeric (T : Tables) (hT : TablesConform T) (hint : Hint) (v : Nat) (h1 : 1 ≤ v) (h40 : v ≤ 40)
    (ec : QRRef.EC) (mask : Nat) (hm : mask < 8) (ds : List Nat) (hd : ∀ d ∈ ds, d < 10)
    (hfit : QRRef.fitsBits v ec .numeric (QRRef.headerBits none false .numeric).length
      (QRRef.packNumeric ds).length = true) :
    decode T rsQR hint (refSymbol v ec mask
        (QRRef.payloadBits v (QRRef.headerBits none false .numeric) .numeric ds.length (QRRef.packNumeric ds))) =
      .ok ⟨⟨[.raw (ds.map (48 + ·))], [], -1, -1, 1⟩, toDecEC ec, v,
        QRRef.dataCodewordsOf v ec (QRRef.headerBits none false .numeric) .numeric ds.length (QRRef.packNumeric ds),
        false⟩ := by
  have hp := (payload_items v none false).1 ds
  unfold QRRef.dataCodewordsOf
  rw [hp]
  exact decode_ref_items T hT hint v h1 h40 ec mask hm _ (fun _ => .sjis)
    (fun it hit => by rcases List.mem_singleton.mp hit with rfl; exact hd) (fun _ h => nomatch h) (fits_items hp hfit)

/-- **`qr_roundtrip`, alphanumeric mode** (7.4.4): character values 0..44 come back as the characters of Table 5 -/
theorem qr_roundtrip_alnum (T : Tables) (hT : TablesConform T) (hint : Hint) (v : Nat) (h1 : 1 ≤ v) (h40 : v ≤ 40)
    (ec : QRRef.EC) (mask : Nat) (hm : mask < 8) (cs : List Nat) (hc : ∀ c ∈ cs, c < 45)
    (hfit : QRRef.fitsBits v ec .alnum (QRRef.headerBits none false .alnum).length
      (QRRef.packAlnum cs).length = true) :
    decode T rsQR hint (refSymbol v ec mask
        (QRRef.payloadBits v (QRRef.headerBits none false .alnum) .alnum cs.length (QRRef.packAlnum cs))) =
      .ok ⟨⟨[.raw (cs.map alnumCharOf)], [], -1, -1, 1⟩, toDecEC ec, v,
        QRRef.dataCodewordsOf v ec (QRRef.headerBits none false .alnum) .alnum cs.length (QRRef.packAlnum cs),
        false⟩ := by
  have hp := (payload_items v none false).2.1 cs
  unfold QRRef.dataCodewordsOf
  rw [hp]
  exact decode_ref_items T hT hint v h1 h40 ec mask hm _ (fun _ => .sjis)
    (fun it hit => by rcases List.mem_singleton.mp hit with rfl; exact hc) (fun _ h => nomatch h) (fits_items hp hfit)

/-- **`qr_roundtrip`, byte mode without ECI header** (7.4.5): the bytes come back unchanged, labelled with the
    character set `guessCharset` picks for them (hint honoured, UTF-8 detected: C15) -/
theorem qr_roundtrip_byte (T : Tables) (hT : TablesConform T) (hint : Hint) (v : Nat) (h1 : 1 ≤ v) (h40 : v ≤ 40)
    (ec : QRRef.EC) (mask : Nat) (hm : mask < 8) (bs : List Nat) (hb : ∀ b ∈ bs, b < 256)
    (charset : Charset) (hcs : guessCharset T.eci bs hint = .ok charset)
    (hfit : QRRef.fitsBits v ec .byte (QRRef.headerBits none false .byte).length
      (QRRef.bitsOfBytes bs).length = true) :
    decode T rsQR hint (refSymbol v ec mask
        (QRRef.payloadBits v (QRRef.headerBits none false .byte) .byte bs.length (QRRef.bitsOfBytes bs))) =
      .ok ⟨⟨[.text charset bs], [bs], -1, -1, 1⟩, toDecEC ec, v,
        QRRef.dataCodewordsOf v ec (QRRef.headerBits none false .byte) .byte bs.length (QRRef.bitsOfBytes bs),
        false⟩ := by
  have hp := (payload_items v none false).2.2.1 bs
  unfold QRRef.dataCodewordsOf
  rw [hp]
  exact decode_ref_items T hT hint v h1 h40 ec mask hm _ (fun _ => charset)
    (fun it hit => by rcases List.mem_singleton.mp hit with rfl; exact hb)
    (fun b hb' => by rcases List.mem_singleton.mp hb' with rfl; exact hcs) (fits_items hp hfit)

/-- **`qr_roundtrip`, Kanji mode** (7.4.6): Shift_JIS double-byte characters of the two Kanji ranges come back as
    their byte pairs, labelled Shift_JIS -/
theorem qr_roundtrip_kanji (T : Tables) (hT : TablesConform T) (hint : Hint) (v : Nat) (h1 : 1 ≤ v) (h40 : v ≤ 40)
    (ec : QRRef.EC) (mask : Nat) (hm : mask < 8) (ps : List (Nat × Nat)) (hp : ∀ p ∈ ps, kanjiPairOK p)
    (hfit : QRRef.fitsBits v ec .kanji (QRRef.headerBits none false .kanji).length
      (QRPack.packKanji ps).length = true) :
    QRRef.encodeData .kanji (ps.flatMap (fun p => [p.1, p.2])) = some (ps.length, QRPack.packKanji ps) ∧
    decode T rsQR hint (refSymbol v ec mask
        (QRRef.payloadBits v (QRRef.headerBits none false .kanji) .kanji ps.length (QRPack.packKanji ps))) =
      .ok ⟨⟨[.text .sjis (ps.flatMap (fun p => [p.1, p.2]))], [], -1, -1, 1⟩, toDecEC ec, v,
        QRRef.dataCodewordsOf v ec (QRRef.headerBits none false .kanji) .kanji ps.length (QRPack.packKanji ps),
        false⟩ := by
  have hpl := (payload_items v none false).2.2.2 ps
  constructor
  · unfold QRRef.encodeData
    simp only [QRComp.packKanji_eq ps hp, Option.map_some]
    rw [flatMap_pair_length]; simp
  · unfold QRRef.dataCodewordsOf
    rw [hpl]
    exact decode_ref_items T hT hint v h1 h40 ec mask hm _ (fun _ => .sjis)
      (fun it hit => by rcases List.mem_singleton.mp hit with rfl; exact hp) (fun _ h => nomatch h)
      (fits_items hpl hfit)

/-! ### byte mode with an ECI header -/

/-- ECI header (7.4.2) + byte segment + terminated tail: the bytes come back labelled with the registered
    character set of the ECI assignment number, whatever `guessCharset` would have said -/
theorem parse_byte_eci_stream (reg : Registry) (ver : Nat) (hint : Hint) (val : Nat) (hval : val < 900)
    (e : Entry) (hl : lookupValue reg val = some e)
    (bs : List Nat) (hb : ∀ b ∈ bs, b < 256) (hlen : bs.length < 2 ^ countWidth 2 ver)
    (tail : List Bool) (ht : Terminated tail) :
    parseStream reg (natToBits 4 7 ++ (QRRef.eciDesignator val ++
      (segment 4 (countWidth 2 ver) bs.length (packBytes bs) ++ tail))) ver hint =
      .ok ⟨[.text (.named e.name) bs], [bs], -1, -1, 2⟩ := by
  have h := parseStream_items reg ver hint (fun _ => .sjis) [.eci val, .byte bs] (by
    intro it hit
    rcases List.mem_cons.mp hit with rfl | hit
    · exact ⟨⟨hval, by rw [hl]; rfl⟩, trivial⟩
    · rcases List.mem_singleton.mp hit with rfl; exact ⟨hb, hlen⟩) (fun _ h => nomatch h) tail ht
  simp only [bitsOf, Item.bits, List.append_assoc, List.append_nil] at h
  rw [eciDesignator_eq_eciBits, h]
  simp only [run, step, hl, toParsed, symbologyModifier]
  rfl

/-- **`qr_roundtrip`, byte mode with ECI header**: for every ECI assignment number `val` the decoder's registry
    knows (entry `e`), the symbol announcing `val` returns the bytes labelled with `e`'s character set
    (symbology modifier 2) -/
theorem qr_roundtrip_byte_eci (T : Tables) (hT : TablesConform T) (hint : Hint) (v : Nat) (h1 : 1 ≤ v) (h40 : v ≤ 40)
    (ec : QRRef.EC) (mask : Nat) (hm : mask < 8) (val : Nat) (hval : val < 900) (e : Entry)
    (hl : lookupValue T.eci val = some e) (bs : List Nat) (hb : ∀ b ∈ bs, b < 256)
    (hfit : QRRef.fitsBits v ec .byte (QRRef.headerBits (some val) false .byte).length
      (QRRef.bitsOfBytes bs).length = true) :
    decode T rsQR hint (refSymbol v ec mask
        (QRRef.payloadBits v (QRRef.headerBits (some val) false .byte) .byte bs.length (QRRef.bitsOfBytes bs))) =
      .ok ⟨⟨[.text (.named e.name) bs], [bs], -1, -1, 2⟩, toDecEC ec, v,
        QRRef.dataCodewordsOf v ec (QRRef.headerBits (some val) false .byte) .byte bs.length (QRRef.bitsOfBytes bs),
        false⟩ := by
  have hp := (payload_items v (some val) false).2.2.1 bs
  unfold QRRef.dataCodewordsOf
  rw [hp]
  refine (decode_ref_items T hT hint v h1 h40 ec mask hm _ (fun _ => .sjis) (by
    intro it hit
    rcases List.mem_cons.mp hit with rfl | hit
    · exact ⟨hval, by rw [hl]; rfl⟩
    · rcases List.mem_singleton.mp hit with rfl; exact hb) (by simp [hdrItems, guessed]) (fits_items hp hfit)).trans ?_
  simp only [hdrItems, List.cons_append, List.nil_append, run, step, hl, toParsed, symbologyModifier]
  rfl

/-! ### non-vacuity of the composed theorems -/

/-- the table hypothesis is satisfiable: the standard's tables as a `Tables` value
    (and the regenerated tables: `Obligations.C01.tables_conform`) -/
example : TablesConform refTables := refTables_conform

/-- ISO/IEC 18004 Annex I: "01234567", version 1-M — the data codewords of the reference construction are those
    of the standard's worked example … -/
example : QRRef.dataCodewordsOf 1 .M (QRRef.headerBits none false .numeric) .numeric 8
    (QRRef.packNumeric [0, 1, 2, 3, 4, 5, 6, 7]) =
    [0x10, 0x20, 0x0C, 0x56, 0x61, 0x80, 0xEC, 0x11, 0xEC, 0x11, 0xEC, 0x11, 0xEC, 0x11, 0xEC, 0x11] := by decide

/-- … and the symbol (mask 011) decodes to the digits: a concrete instance of every hypothesis of
    `qr_roundtrip_numeric` (evaluated by the kernel end to end in Proofs/QRCompExamples.lean) -/
example : decode refTables rsQR .none (refSymbol 1 .M 3
      (QRRef.payloadBits 1 (QRRef.headerBits none false .numeric) .numeric 8 (QRRef.packNumeric [0, 1, 2, 3, 4, 5, 6, 7]))) =
    .ok ⟨⟨[.raw ([0, 1, 2, 3, 4, 5, 6, 7].map (48 + ·))], [], -1, -1, 1⟩, .M, 1,
      QRRef.dataCodewordsOf 1 .M (QRRef.headerBits none false .numeric) .numeric 8
        (QRRef.packNumeric [0, 1, 2, 3, 4, 5, 6, 7]), false⟩ :=
  qr_roundtrip_numeric refTables refTables_conform .none 1 (by decide) (by decide) .M 3 (by decide)
    [0, 1, 2, 3, 4, 5, 6, 7] (by decide) (by decide)

/-- a version 7 symbol (45x45, carries both copies of the version information; 2 + 4 blocks at level Q),
    alphanumeric "HR:", mask 101 -/
example : decode refTables rsQR .none (refSymbol 7 .Q 5
      (QRRef.payloadBits 7 (QRRef.headerBits none false .alnum) .alnum 3 (QRRef.packAlnum [17, 27, 44]))) =
    .ok ⟨⟨[.raw ([17, 27, 44].map alnumCharOf)], [], -1, -1, 1⟩, .Q, 7,
      QRRef.dataCodewordsOf 7 .Q (QRRef.headerBits none false .alnum) .alnum 3 (QRRef.packAlnum [17, 27, 44]), false⟩ :=
  qr_roundtrip_alnum refTables refTables_conform .none 7 (by decide) (by decide) .Q 5 (by decide)
    [17, 27, 44] (by decide) (by decide)

example : ([17, 27, 44].map alnumCharOf, QRRef.blockGroups 7 .Q, QRRef.versionWord 7) =
    ([72, 82, 58], [(2, 14), (4, 15)], 0x07C94) := by decide

/-- version 40-L, byte mode, 2953 bytes (the published capacity): fits, hence round-trips -/
example : QRRef.fitsBits 40 .L .byte (QRRef.headerBits none false .byte).length (8 * 2953) = true ∧
    QRRef.fitsBits 40 .L .byte (QRRef.headerBits none false .byte).length (8 * 2954) = false := by decide

end Gzx.Properties.C01
