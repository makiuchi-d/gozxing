/-
  C10 — the optional Code 39 mod-43 check character, at value level.
  `code39_row_result_verifies` (C03Row39) shows the reader enforces `last = alphabet[Σ index mod 43]`;
  here: what that check buys.  43 is larger than every character value, and the weights are all 1, so
  EVERY single-character substitution (data or check position) is detected, for every length — and,
  because the sum is unweighted, NO reordering of the data characters is (stated as a theorem so that
  nobody reads more into the check than it gives).
-/
import Gzx.Proofs.CheckDigit
import Gzx.Proofs.OneDPost
namespace Gzx.Properties.C10
open Gzx Gzx.CheckDigit

theorem code39_check_changes (vals : List Nat) (i v' : Nat) (hi : i < vals.length)
    (hv : vals[i] < 43) (hv' : v' < 43) (hne : v' ≠ vals[i]) :
    c39Check (vals.set i v') ≠ c39Check vals := by
  unfold c39Check
  rw [sumL_eq_dot, sumL_eq_dot, List.length_set]
  apply dot_detects_substitution _ _ i v' hi (by simpa using hi) (by simp [Nat.Coprime])
  rw [Nat.mod_eq_of_lt hv, Nat.mod_eq_of_lt hv']; exact fun e => hne e.symm

/-- a message `data ++ [check]` is accepted when the check value equals the sum mod 43 -/
def c39Valid (data : List Nat) (chk : Nat) : Bool := c39Check data == chk

/-- every single substitution in an accepted Code 39 message with check character is rejected:
    in the data part … -/
theorem code39_detects_data_substitution (data : List Nat) (chk i v' : Nat) (hi : i < data.length)
    (hv : data[i] < 43) (hv' : v' < 43) (hne : v' ≠ data[i]) (hok : c39Valid data chk = true) :
    c39Valid (data.set i v') chk = false := by
  unfold c39Valid at *
  have := code39_check_changes data i v' hi hv hv' hne
  simp only [beq_iff_eq] at hok
  simp only [beq_eq_false_iff_ne, ne_eq]
  omega

/-- … and in the check position -/
theorem code39_detects_check_substitution (data : List Nat) (chk chk' : Nat) (hne : chk' ≠ chk)
    (hok : c39Valid data chk = true) : c39Valid data chk' = false := by
  unfold c39Valid at *
  simp only [beq_iff_eq] at hok
  simp only [beq_eq_false_iff_ne, ne_eq]
  omega

theorem sumL_perm {a b : List Nat} (h : a.Perm b) : sumL a = sumL b := by
  induction h with
  | nil => rfl
  | cons x _ ih => simp only [sumL, List.foldr_cons] at ih ⊢; omega
  | swap x y l => simp only [sumL, List.foldr_cons]; omega
  | trans _ _ ih1 ih2 => omega

/-- the limit of the check: the sum is unweighted, so any reordering of the data characters
    (in particular every transposition) keeps the same check character -/
theorem code39_reordering_undetected (a b : List Nat) (chk : Nat) (h : a.Perm b) :
    c39Valid a chk = c39Valid b chk := by
  unfold c39Valid c39Check
  rw [sumL_perm h]


/-- character → value as the reader computes it (`strings.Index(alphabet, c)`), as a natural number -/
def c39Val (A : List Nat) (c : Nat) : Nat := (OneDPost.indexOf A c).toNat

theorem foldl_idx_eq (A s : List Nat) (h : ∀ c ∈ s, c ∈ A) (t : Nat) :
    s.foldl (fun t c => t + OneDPost.indexOf A c) (t : Int) = ((t + sumL (s.map (c39Val A)) : Nat) : Int) := by
  induction s generalizing t with
  | nil => simp [sumL]
  | cons c rest ih =>
    simp only [List.foldl_cons, List.map_cons]
    have hn := OneDPost.indexOf_nonneg A c (h c (by simp))
    have : (t : Int) + OneDPost.indexOf A c = ((t + c39Val A c : Nat) : Int) := by
      unfold c39Val; omega
    rw [this, ih (fun x hx => h x (by simp [hx]))]
    simp only [sumL, List.foldr_cons]
    congr 1; omega

/-- link to the tied row model: the index the reader looks up, `Σ index mod 43` in Go's truncated `%`,
    is the value-level `c39Check` of the character values — for every string over the alphabet -/
theorem reader_check_index_eq (A s : List Nat) (h : ∀ c ∈ s, c ∈ A) :
    Int.tmod (OneDPost.sumIdx A s) 43 = ((c39Check (s.map (c39Val A)) : Nat) : Int) := by
  unfold OneDPost.sumIdx c39Check
  have := foldl_idx_eq A s h 0
  simp only [Int.natCast_zero] at this
  rw [show (0:Int) = ((0:Nat):Int) from rfl] at *
  rw [this]
  simp only [Nat.zero_add]
  rw [Int.tmod_eq_emod_of_nonneg (by omega)]
  omega


/-- the value of an alphabet character is below the alphabet size (43 for Code 39), so the
    hypotheses `< 43` of the detection theorems hold for everything the reader can have decoded -/
theorem c39Val_lt (A : List Nat) (c : Nat) (h : c ∈ A) : c39Val A c < A.length := by
  have := OneDPost.indexFrom_lt A c 0 h
  have hn := OneDPost.indexOf_nonneg A c h
  unfold c39Val OneDPost.indexOf at *
  omega

-- "AB" + check: A=10, B=11 → 21 = 'L'
example : c39Valid [10, 11] 21 = true := by decide
example : c39Valid [10, 12] 21 = false := by decide
example : c39Valid [11, 10] 21 = true := by decide

end Gzx.Properties.C10
