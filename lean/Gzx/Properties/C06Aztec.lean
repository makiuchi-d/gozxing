/-
  C06 (decoding is total) — the Aztec decoder model of property C11 on ARBITRARY input.
  Property theorems only; helper lemmas in Gzx/Proofs/AztecTotal.lean.

  Model: Gzx/Model/AztecDecoder.lean + AztecExtract.lean (aztec/decoder/decoder.go as coded, tied to /repo by
  the `c11` correspondence suite: Decode on reference, damaged and random matrices, HighLevelDecode on
  arbitrary bit vectors) with the Reed-Solomon decoder of property C04 plugged in (Gzx/Model/AztecRS.lean:
  `rsModel`, `decodeFull`).  In the model every Go operation that can panic is a `.error (.panic _)` value
  (§5.1): `matrix.Get` out of range, the division `100*…/numCodewords`, `readCode` past the end of the
  corrected bits, every table / slice index of the Reed-Solomon decoder.  The theorems say that none of these
  is reachable and that the loop of `getEncodedData` terminates within its fuel.
-/
import Gzx.Proofs.AztecTotal
namespace Gzx.Properties.C06Aztec
open Gzx Gzx.Det Gzx.AztecDecoder Gzx.AztecTotal

/-- `extractBits`: for EVERY layer count (not only 1..32), compact or full-range, and every module matrix
    with at least `matrixSize` rows of at least `matrixSize` modules, every read coordinate (through the
    alignment map) is inside the matrix: the extraction succeeds. -/
theorem aztec_extractBits_total (m : Matrix) (layers : Nat) (compact : Bool)
    (hm : WellSized m (matrixSize layers compact)) :
    ∃ raw, extractBits m layers compact = .ok raw :=
  (extractBits_sat (E := NoFault) m layers compact hm).total.imp fun _ h => h.1

theorem aztec_extractBits_length (m : Matrix) (layers : Nat) (compact : Bool) (raw : List Bool)
    (hl : layers ≤ 32) (h : extractBits m layers compact = .ok raw) :
    raw.length = totalBitsInLayer layers compact := by
  rw [AztecFull.readAll_length m _ raw h]
  exact AztecFull.readPositions_length layers compact

/-- `correctBits` with the library's Reed-Solomon decoder, on EVERY bit stream, layer count and data-word
    count: corrected bits or FormatException.  In particular the integer division by `numCodewords` is never
    executed with zero (the Reed-Solomon decoder rejects the empty word first). -/
theorem aztec_correctBits_total (raw : List Bool) (layers nData : Nat) :
    (∃ c, correctBits rsModel raw layers nData = .ok c) ∨
      correctBits rsModel raw layers nData = .error .format :=
  (correctBits_sat raw layers nData).ok_or

/-- `correctBits` turns every failure of the Reed-Solomon call into a FormatException, so the previous theorem
    alone would not notice a panic INSIDE the Reed-Solomon decoder.  There is none: for every layer count up to
    32 and the stream `extractBits` delivers, the C04 decoder on the words `correctBits` cuts returns a word
    list or a ReedSolomonException (C04 `rs_decode_total`: the words are field elements, their number fits the
    field chosen by layer count, the Euclid loops terminate). -/
theorem aztec_rs_call_total (m : Matrix) (layers : Nat) (compact : Bool) (raw : List Bool) (nData : Nat)
    (hl : 1 ≤ layers ∧ layers ≤ 32) (h : extractBits m layers compact = .ok raw) :
    (∃ ws, rsModel (codewordSize layers) (receivedWords layers raw)
        (raw.length / codewordSize layers - nData) = .ok ws) ∨
      rsModel (codewordSize layers) (receivedWords layers raw)
        (raw.length / codewordSize layers - nData) = .error .checksum := by
  have hlen := aztec_extractBits_length m layers compact raw hl.2 h
  apply rs_on_received_total raw layers nData
  · rw [hlen]
    have : ∀ (c : Bool) (L : Nat), L ≤ 32 → 1 ≤ L → 0 < totalBitsInLayer L c / codewordSize L := by
      intro c; cases c <;> decide
    exact this compact layers hl.2 hl.1
  · rw [hlen]; exact AztecFull.capacity_le compact layers hl.2

/-- `getEncodedData` / `HighLevelDecode` on EVERY bit string, for every content of the five code tables and
    every ECI registry: decoded segments or FormatException.  No panic (`readCode` is never called past the end;
    table indices are checked) and the loop terminates: every iteration consumes at least four bits, so the
    fuel `len + 1` of the model is never exhausted.  (After the repairs `fix: aztec getEncodedData capacity`
    and `fix: aztec unregistered ECI`, which the model mirrors.) -/
theorem aztec_hld_total (T : Tables) (reg : Nat → Bool) (bits : List Bool) :
    (∃ segs, getEncodedData T reg bits = .ok segs) ∨ getEncodedData T reg bits = .error .format :=
  (getEncodedData_sat T reg bits).ok_or

/-- **`Decoder.Decode` is total**: for every module matrix at least as large as the symbol that the detector
    result announces, every compact flag, every layer count, every data-block count, every table content and
    ECI registry, the decoder model (with the C04 Reed-Solomon decoder) returns a result or a FormatException —
    exactly one of the two, never a panic, never fuel exhaustion. -/
theorem aztec_decode_total (T : Tables) (reg : Nat → Bool) (m : Matrix) (compact : Bool)
    (nbDatablocks nbLayers : Nat) (hm : WellSized m (matrixSize nbLayers compact)) :
    (∃ d, decodeFull T reg m compact nbDatablocks nbLayers = .ok d) ∨
      decodeFull T reg m compact nbDatablocks nbLayers = .error .format :=
  (decode_sat T reg m compact nbDatablocks nbLayers hm).ok_or

theorem aztec_decode_no_panic (T : Tables) (reg : Nat → Bool) (m : Matrix) (compact : Bool)
    (nbDatablocks nbLayers : Nat) (hm : WellSized m (matrixSize nbLayers compact)) :
    (∀ why, decodeFull T reg m compact nbDatablocks nbLayers ≠ .error (.panic why)) ∧
      decodeFull T reg m compact nbDatablocks nbLayers ≠ .error .fuel :=
  (decode_sat T reg m compact nbDatablocks nbLayers hm).never

/-- without the size condition the only possible panic is `matrix.Get` out of range in `extractBits`:
    whatever the matrix, the result is a value, a FormatException, or that panic -/
theorem aztec_decode_any_matrix (T : Tables) (reg : Nat → Bool) (m : Matrix) (compact : Bool)
    (nbDatablocks nbLayers : Nat) :
    (∃ d, decodeFull T reg m compact nbDatablocks nbLayers = .ok d) ∨
      decodeFull T reg m compact nbDatablocks nbLayers = .error .format ∨
      (∃ e, extractBits m nbLayers compact = .error e ∧
        decodeFull T reg m compact nbDatablocks nbLayers = .error e) := by
  unfold decodeFull decode
  cases hraw : extractBits m nbLayers compact with
  | error e => exact Or.inr (Or.inr ⟨e, rfl, rfl⟩)
  | ok raw => exact (decode_tail_sat T reg raw nbDatablocks nbLayers).ok_or.imp_right Or.inl

/-! ### non-vacuity -/

/-- a 15x15 matrix is well sized for a compact 1-layer symbol; the all-light one decodes to a FormatException
    (all-zero codewords), a checked error -/
example : WellSized (List.replicate 15 (List.replicate 15 false)) (matrixSize 1 true) := by
  refine ⟨by decide, ?_⟩
  intro row hrow
  rw [(List.mem_replicate.1 hrow).2]
  decide

/-- a too small matrix is the one way to the `matrix.Get` panic of the model -/
example : extractBits [[true]] 1 true = .error (.panic "matrix.Get: x out of range") := by decide

/-- HighLevelDecode of the empty and of a one-bit message (D10 before its repair) -/
example : getEncodedData AztecLink.refTables (fun _ => false) [] = .ok [] := by decide
example : getEncodedData AztecLink.refTables (fun _ => false) [true] = .ok [] := by decide
/-- FLG(1) with an unregistered ECI digit (D11 before its repair): FormatException -/
example : getEncodedData AztecLink.refTables (fun _ => false)
    [false, false, false, false, false, false, false, false, false, false, false, false, true,
     true, false, true, false] = .error .format := by decide

end Gzx.Properties.C06Aztec
