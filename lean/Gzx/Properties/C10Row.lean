/-
  C10 — check digits on the WHOLE row-decoder model (Gzx/Model/OneDRowExt.lean): whatever pixel row,
  row number and hint map is given, a result of `DecodeRow` of any of the five UPC/EAN readers carries a number that
  has passed the mod-10 test of its format, and the add-on reader accepts an add-on iff its parity word matches
  (the symbol-level acceptance predicates of Properties/C10.lean: `ean2_accept_iff`, `ean5_accept_iff`).
  For every interpretation of the variance arithmetic.
-/
import Gzx.Proofs.OneDRowExtTotal
import Gzx.Proofs.OneD
namespace Gzx.Properties.C10Row
open Gzx Gzx.CheckDigit Gzx.OneDRowExt Gzx.Proofs.OneDRowExtTotal
open Gzx.OneD (Tables refTables notFoundOf lgWord lAndG)

/-- the mod-10 statement behind `readerAccept`: EAN-13 / EAN-8 on the text, UPC-A on "0" + text, UPC-E on the
    UPC-A expansion -/
def Verifies : EanKind → List Nat → Prop
  | .ean13, s => checkStandardB s = .ok true
  | .ean8, s => checkStandardB s = .ok true
  | .upca, s => checkStandardB (48 :: s) = .ok true
  | .upce, s => ∃ a, convertUPCEtoUPCA s = .ok a ∧ checkStandardB a = .ok true

theorem acc_core (r : Res Bool)
    (h : (match r with
          | .ok true => (.ok () : Res Unit)
          | .ok false => .error .checksum
          | .error (.panic w) => .error (.panic w)
          | .error _ => .error .checksum) = .ok ()) : r = .ok true := by
  cases r with
  | ok b => cases b <;> simp at h ⊢
  | error e => cases e <;> simp at h

theorem verifies_of_accept {k : EanKind} {s : List Nat} (h : Accepted k s) : Verifies k s := by
  unfold Accepted readerAccept at h
  cases k with
  | ean13 =>
    simp only [reduceCtorEq, if_false] at h
    split at h
    · cases h
    · exact acc_core _ h
  | ean8 =>
    simp only [reduceCtorEq, if_false] at h
    split at h
    · cases h
    · exact acc_core _ h
  | upca =>
    simp only [if_true] at h
    split at h
    · cases h
    · exact acc_core _ h
  | upce =>
    simp only [reduceCtorEq, if_false] at h
    split at h
    · cases h
    · have := acc_core _ h
      cases hv : convertUPCEtoUPCA s with
      | error e => rw [hv] at this; cases this
      | ok a => rw [hv] at this; exact ⟨a, hv, this⟩

/-- **C10 on the whole row model, single-format readers**: any result of `DecodeRow` — whatever the row, the row
    number, the hints, the add-on that follows — carries a number that verifies: "readers never return a symbol whose
    check characters do not verify".  (The check is the last gate before the result is built; add-on, country and
    ALLOWED_EAN_EXTENSIONS handling cannot let an unverified number through.)  It holds on any tables: `wf` is not
    used (`decodeRow_resultOK` at `Calls.any`). -/
theorem reader_result_verifies_row {V : Type} (O : VarOps V) (T : Tables) (X : ExtTables) (wf : wfRow T X = true)
    (k : EanKind) (rn : Int) (row : List Bool) (h : Hints) (res : RowResult)
    (hr : (decodeRow O T X k rn row h).2 = .ok res) : res.format = k ∧ Verifies k res.text := by
  have ⟨hfmt, _, hacc⟩ := (decodeRow_resultOK O (Calls.any O T X) k rn row h).of_ok hr
  exact ⟨hfmt, verifies_of_accept (hfmt ▸ hacc)⟩

/-- **… and the multi-format reader**, for every sub-reader list: the returned text verifies as the format it is
    returned as (an EAN-13 "0…" re-labelled UPC-A verifies as UPC-A).  `wf` is not used here either. -/
theorem multi_result_verifies_row {V : Type} (O : VarOps V) (T : Tables) (X : ExtTables) (wf : wfRow T X = true)
    (readers : List EanKind) (rn : Int) (row : List Bool) (h : Hints) (res : RowResult)
    (hr : (multiDecodeRow O T X readers rn row h).2 = .ok res) : Verifies res.format res.text :=
  verifies_of_accept ((multiDecodeRow_resultOK O (Calls.any O T X) readers rn row h).of_ok hr).2

/-! ## add-ons: accepted iff the parity matches -/

/-- the (digit, number set G?) pairs of decoded pattern indices 0..19 -/
def symOf (ms : List Nat) : List (Nat × Bool) := ms.map (fun m => (m % 10, decide (m ≥ 10)))

theorem lgWord2 (a b : Nat) : lgWord 2 [a, b] = parityBits [decide (a ≥ 10), decide (b ≥ 10)] :=
  OneD.lgWord_eq_parityBits [a, b]

theorem lgWord5 (a b c d e : Nat) :
    lgWord 5 [a, b, c, d, e] =
      parityBits [decide (a ≥ 10), decide (b ≥ 10), decide (c ≥ 10), decide (d ≥ 10), decide (e ≥ 10)] :=
  OneD.lgWord_eq_parityBits [a, b, c, d, e]

/-- **Two-digit add-on, row level**: once two digits were decoded after the add-on guard, `decodeMiddle` of the
    two-digit support succeeds iff the symbol-level acceptance predicate of C10 holds — i.e. (`ean2_accept_iff`) iff
    the parity word equals `value mod 4`; otherwise it is a ChecksumException. -/
theorem ext2_row_accept_iff {V : Type} (O : VarOps V) (T : Tables) (row : List Bool) (s : Nat) (a b off : Nat)
    (hd : notFoundOf (extDigitsLoop O T row 2 s []) = .ok ([a, b], off)) :
    (ext2Accept (symOf [a, b]) = .ok () → ext2DecodeMiddle O T row s = .ok (off, [48 + a % 10, 48 + b % 10])) ∧
    (ext2Accept (symOf [a, b]) ≠ .ok () → ext2DecodeMiddle O T row s = .error .checksum) := by
  unfold ext2DecodeMiddle
  rw [hd]
  simp only [List.length_cons, List.length_nil, ne_eq, not_true_eq_false, if_false, List.map_cons, List.map_nil]
  have hv : atoi? [48 + a % 10, 48 + b % 10] = some (10 * (a % 10) + b % 10) := by
    have := digits_of_mod10 [a, b]
    simp only [List.map_cons, List.map_nil] at this
    simp [atoi?, this, List.foldl]
  rw [hv, lgWord2]
  simp only [symOf, List.map_cons, List.map_nil, ext2Accept]
  by_cases hp : (10 * (a % 10) + b % 10) % 4 = parityBits [decide (a ≥ 10), decide (b ≥ 10)]
  · simp [hp]
  · simp [hp]

/-- **Five-digit add-on, row level**: once five digits were decoded, `decodeMiddle` of the five-digit support succeeds
    iff the symbol-level acceptance predicate `ext5Accept` holds — i.e. (`ean5_accept_iff`) iff the parity word is the
    table entry of the add-on checksum. -/
theorem ext5_row_accept_iff {V : Type} (O : VarOps V) (T : Tables) (X : ExtTables) (row : List Bool) (s : Nat)
    (a b c d e off : Nat)
    (hd : notFoundOf (extDigitsLoop O T row 5 s []) = .ok ([a, b, c, d, e], off)) :
    (∃ r, ext5DecodeMiddle O T X row s = .ok r) ↔ ext5Accept X.ean5Check (symOf [a, b, c, d, e]) = .ok () := by
  unfold ext5DecodeMiddle ext5Accept
  rw [hd]
  simp only [List.length_cons, List.length_nil, ne_eq, not_true_eq_false, if_false, symOf, List.map_cons, List.map_nil]
  rw [lgWord5]
  cases hc : determineCheckDigit5 X.ean5Check
      (parityBits [decide (a ≥ 10), decide (b ≥ 10), decide (c ≥ 10), decide (d ≥ 10), decide (e ≥ 10)]) with
  | error err => simp
  | ok dg =>
    simp only []
    by_cases hk : ext5Checksum [a % 10, b % 10, c % 10, d % 10, e % 10] = dg
    · simp [hk]
    · simp [hk]

/-! ### non-vacuity -/

/-- EAN-8 "96385074" + two-digit add-on "34" (34 mod 4 = 2: parities G L) after a gap of 9 modules -/
def ean8AddOnRow : List Bool := parseBits
  ("000000010100010110101111011110101101110101010011101110010100010010111001010000000" ++ "00" ++
   "1011" ++ "0100001" ++ "01" ++ "0100011" ++ "0000000")

example : ((decodeRow VarOps.exact refTables refExt .ean8 0 ean8AddOnRow {}).2.toOption.map
    (fun r => (r.text, r.md.find? (·.1 = .upcEanExtension)))) =
    some (OneD.bytesOf "96385074", some (.upcEanExtension, .str (OneD.bytesOf "34"))) := by decide +kernel

/-- the same row with ALLOWED_EAN_EXTENSIONS = [5]: refused -/
example : ((decodeRow VarOps.exact refTables refExt .ean8 0 ean8AddOnRow { allowedExt := some [5] }).2.toOption.map (·.text)) =
    none := by rw [ean8AddOnRow, ean8_addOn2_refused_when_5_required]; rfl

example : Verifies .ean8 (OneD.bytesOf "96385074") := by show checkStandardB _ = .ok true; decide
example : ¬ Verifies .ean8 (OneD.bytesOf "96385075") := by show ¬ checkStandardB _ = .ok true; decide

end Gzx.Properties.C10Row
