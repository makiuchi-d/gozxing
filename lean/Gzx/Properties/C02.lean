/-
  C02 — Data Matrix: what is written is what is read (codeword level).
  Property theorems only; helper lemmas live in Gzx/Proofs/DM*.lean.
  Model: Gzx/Model/DMHighLevel.lean (decoder `decLoop`/`decodeText`, encoder `encodeHL`), tied to
  datamatrix/decoder/decoded_bit_stream_parser.go and datamatrix/encoder/*.go by the `c02` correspondence
  suites (dm-dec, dm-hl, dm-la) and by Obligations/C02.lean (character tables, randomisation kernels).

  The look-ahead (`HighLevelEncoder_lookAheadTest`, float arithmetic) is an arbitrary oracle
  `la : message → position → current mode → mode` in the encoder theorems; `laExactR ρ` is its exact integer model
  with the float rounding `ρ` explicit (every theorem about it holds for every `ρ`).
-/
import Gzx.Proofs.DMTotalAB
import Gzx.Proofs.DMMidstream
import Gzx.Proofs.DMRoundTripGen
import Gzx.Properties.C08
import Gzx.Model.RS
import Gzx.Proofs.DMCompose
import Gzx.Proofs.DMLookAhead
import Gzx.Proofs.DMEdifactCall
import Gzx.Proofs.DMBytesAll
namespace Gzx.Properties.C02
open Gzx Gzx.DMHighLevel

/-! ## codec lemmas: encoder arithmetic and decoder arithmetic are inverse (all inputs) -/

/-- ASCII digit pairs: the codeword `130 + 10·d1 + d2` written for two digits decodes to exactly those two
    digit characters. -/
theorem ascii_digit_pair_inv (d1 d2 : Nat) (h1 : isDigit d1 = true) (h2 : isDigit d2 = true) :
    130 ≤ (d1 - 48) * 10 + (d2 - 48) + 130 ∧ (d1 - 48) * 10 + (d2 - 48) + 130 ≤ 229 ∧
    digitPair ((d1 - 48) * 10 + (d2 - 48) + 130 - 130) = [d1, d2] := by
  simp only [isDigit, Bool.and_eq_true, decide_eq_true_eq] at h1 h2
  have h := digitPair_digits (d1 - 48) (d2 - 48) (by omega) (by omega)
  have e1 : 48 + (d1 - 48) = d1 := by omega
  have e2 : 48 + (d2 - 48) = d2 := by omega
  rw [e1, e2] at h
  refine ⟨by omega, by omega, ?_⟩
  have : (d1 - 48) * 10 + (d2 - 48) + 130 - 130 = (d1 - 48) * 10 + (d2 - 48) := by omega
  rw [this, h]

example : digitPair (137 - 130) = [48, 55] := by decide    -- "07"

/-- C40 / Text / X12 packing: `parseTwoBytes ∘ c40EncodeToCodewords = id` on every triple of values < 40
    (both codewords are bytes). -/
theorem c40_pack_inv (c1 c2 c3 : Nat) (h1 : c1 < 40) (h2 : c2 < 40) (h3 : c3 < 40) :
    ∃ b1 b2, packTriplet c1 c2 c3 = [b1, b2] ∧ b1 < 256 ∧ b2 < 256 ∧
      parseTwoBytes b1 b2 = ((c1 : Int), (c2 : Int), (c3 : Int)) :=
  ⟨_, _, rfl, by omega, by omega, parseTwoBytes_pack c1 c2 c3 h1 h2 h3⟩

example : packTriplet 39 39 39 = [250, 0] ∧ parseTwoBytes 250 0 = (39, 39, 39) := by decide

/-- C40: for every byte value `c` the values `c40EncodeChar` produces (basic set, shift 1/2/3, upper shift
    for 128..255) are all < 40, and the decoder's value automaton started in its initial state emits exactly
    `c` and is back in the initial state (tables = ISO 16022 Annex C; tied to the code by
    `Obligations.C02.gen_tables_are_reference`). -/
theorem c40_char_inv (c : Nat) (hc : c < 256) : charRoundTrips refTables false c = true :=
  c40_chars_roundtrip ⟨c, hc⟩

/-- Text: the same for `textEncodeChar` and the Text tables. -/
theorem text_char_inv (c : Nat) (hc : c < 256) : charRoundTrips refTables true c = true :=
  text_chars_roundtrip ⟨c, hc⟩

example : cEncodeChar false 233 = [1, 30, 2, 9] := by decide   -- 'é' in C40: shift 2, upper shift, shift 3, 'i'
example : cEncodeChar true 233 = [1, 30, 22] := by decide      -- 'é' in Text: shift 2, upper shift, 'i'

/-- X12: the encoder accepts exactly the X12-native characters, maps them to values < 40, and the decoder's
    value table maps those back; every other byte is rejected by the encoder. -/
theorem x12_char_inv (c : Nat) (hc : c < 256) : x12RoundTrips c = true :=
  x12_chars_roundtrip ⟨c, hc⟩

/-- EDIFACT characters: the encoder accepts exactly 0x20..0x5E, the 6-bit value is never the unlatch value
    31, and the decoder's `value | 0x40 if bit 5 clear` restores the character. -/
theorem edifact_char_inv (c : Nat) (hc : c < 256) : edifactRoundTrips c = true := by
  unfold edifactRoundTrips
  by_cases h : isNativeEDIFACT c = true
  · obtain ⟨h1, h2, h3, h4, _⟩ := ediVal_facts c h
    simp [h1, h, h2, h3, h4]
  · have he : edifactEncodeChar c = .error .writer := by
      unfold edifactEncodeChar
      simp only [isNativeEDIFACT, Bool.and_eq_true, decide_eq_true_eq] at h
      rw [if_neg (by omega), if_neg (by omega)]
    simp [he, h]

/-- EDIFACT packing: four 6-bit values ↦ three bytes ↦ the same four values. -/
theorem edifact_pack_inv (c1 c2 c3 c4 : Nat) (h1 : c1 < 64) (h2 : c2 < 64) (h3 : c3 < 64) (h4 : c4 < 64) :
    ∃ b1 b2 b3, edifactWord c1 c2 c3 c4 = [b1, b2, b3] ∧ b1 < 256 ∧ b2 < 256 ∧ b3 < 256 ∧
      edifactUnpack b1 b2 b3 = [c1, c2, c3, c4] :=
  edifactUnpack_word c1 c2 c3 c4 h1 h2 h3 h4

/-- Base 256: the 255-state randomisation is undone by the decoder for every byte at every position. -/
theorem base256_randomize_inv (b p : Nat) (hb : b < 256) :
    rand255 b p < 256 ∧ unrand255 (rand255 b p) p = b :=
  ⟨rand255_lt b p hb, unrand255_rand255 b p hb⟩

/-- Pad codewords: the 253-state pad value is never 129 (so only the first pad codeword is 129) and is a
    byte in 1..254. -/
theorem pad253_range (p : Nat) : 1 ≤ rand253 p ∧ rand253 p ≤ 254 ∧ rand253 p ≠ 129 :=
  rand253_range p

/-- Whatever follows the first pad codeword is ignored by the decoder. -/
theorem decoder_stops_at_pad (T : Tables) (a : Acc) (up : Bool) (off : Nat) (rest : List Nat) :
    decLoop T (129 :: rest) 0 up off a = .ok a := by
  simp [decLoop]

/-! ## the segment invariant, ASCII encodation (every look-ahead oracle) -/

/-- `dm_encoder_invariant` (ASCII steps): if the decoder run on the codewords written so far yields exactly
    the characters consumed so far and is in ASCII state — whatever codewords follow — then after a data step
    of the ASCII encoder (digit pair / ASCII character / upper shift + character) the same holds again, the
    position has advanced, and message, hints and symbol are untouched.  `la` is arbitrary. -/
theorem dm_encoder_invariant_ascii (T : Tables) (la : LookAhead) (c c' : Ctx) (a : Acc)
    (hbytes : ∀ x ∈ c.msg, x < 256) (hI : Inv T c a)
    (h : asciiEncode la c = .ok c') (hno : c'.newEnc = none) :
    ∃ a', Inv T c' a' ∧ a'.trailer = a.trailer ∧ c.pos < c'.pos := by
  obtain ⟨a', hI', ht, _, hpos, _⟩ := ascii_step_inv hbytes hI h hno
  exact ⟨a', hI', ht, by rcases hpos with h1 | ⟨h2, _⟩ <;> omega⟩

/-- the invariant holds initially, also with a macro 05 / 06 header (codeword 236 / 237, seven characters
    consumed, trailer pending) -/
theorem dm_encoder_invariant_init (T : Tables) (msg : List Nat) (cfg : Cfg) :
    ∃ a, Inv T (initCtx msg cfg) a :=
  let ⟨a, h, _⟩ := initCtx_inv T msg cfg
  ⟨a, h⟩

/-- the decoder reads back the length field the encoder writes — one byte for 1..249
    data bytes, two bytes (`len/250+249`, `len%250`) for 250..1555, and 0 = "to the end of the symbol" — and
    un-randomises exactly the data bytes, at every offset, whatever follows an explicit-length segment. -/
theorem base256_length_inv (data suf : List Nat) (off : Nat) (a : Acc) (hd : ∀ x ∈ data, x < 256) :
    (1 ≤ data.length → data.length ≤ 249 →
      b256Seg (rand255All (data.length :: data) (off + 1) ++ suf) off a
        = .ok (a.push256All data, 1 + data.length)) ∧
    (250 ≤ data.length → data.length ≤ 1555 →
      b256Seg (rand255All ((data.length / 250 + 249) :: (data.length % 250) :: data) (off + 1) ++ suf) off a
        = .ok (a.push256All data, 2 + data.length)) ∧
    b256Seg (rand255All (0 :: data) (off + 1)) off a = .ok (a.push256All data, 1 + data.length) :=
  ⟨b256Seg_len1 data suf off a hd, b256Seg_len2 data suf off a hd, b256Seg_toEnd data off a hd⟩

/-- `dm_encoder_invariant` (Base 256): a whole call of the Base-256 encoder, started right after the latch
    231, consumes at least one character and either re-establishes the invariant (explicit length field) or
    ends the message with the symbol exactly full and the whole stream decoding to the message consumed
    (length 0).  `la` and the symbol table are arbitrary. -/
theorem dm_encoder_invariant_base256 (T : Tables) (syms : List SymbolInfo) (la : LookAhead) (c c' : Ctx) (a : Acc)
    (hbytes : ∀ x ∈ c.msg, x < 256) (hL : Latched256 T c a) (hle : c.pos ≤ c.total) (hmore : c.hasMore = true)
    (hnew : c.newEnc = none) (h : b256Encode syms la c = .ok c') :
    ∃ a', a'.trailer = a.trailer ∧ c.pos < c'.pos ∧
      (Inv T c' a' ∨ (c'.hasMore = false ∧ Exact T c' a')) := by
  obtain ⟨a', ht, _, _, _, hp, _, _, hres⟩ := b256_step_inv hbytes hL hle hmore hnew h
  exact ⟨a', ht, hp, hres⟩

/-- C40 segment (`text = false`) or Text segment (`text = true`): if the decoder is in ASCII state after `cw`, then after
    `cw ++ [latch] ++ triplets ++ [254]`, where the triplets pack the values of whole characters `chars`
    (any bytes; the value count a multiple of three), it has appended exactly `chars` and is in ASCII state
    again — whatever codewords follow, including none (the "one byte left" rule lets a final 254 through). -/
theorem c40_segment_inv (text : Bool) (cw : List Nat) (a : Acc) (h : DecodesTo refTables cw a)
    (chars : List Nat) (hb : ∀ c ∈ chars, c < 256) (k : Nat) (hl : (cVals text chars).length = 3 * k) :
    DecodesTo refTables (cw ++ [if text then 239 else 230] ++ (writeTriplets (cVals text chars)).1 ++ [254])
      (a.pushAll chars).endSeg :=
  decodesTo_c40 text h chars hb k hl

/-- the same for an X12 segment (latch 238) of complete triplets of X12 values. -/
theorem x12_segment_inv (T : Tables) (cw : List Nat) (a : Acc) (h : DecodesTo T cw a) (hp : a.pend = 0)
    (k : Nat) (vals chars : List Nat) (hl : vals.length = 3 * k) (hv : ∀ v ∈ vals, v < 40)
    (hc : x12Chars vals = .ok chars) (hch : ∀ c ∈ chars, c < 128) :
    DecodesTo T (cw ++ [238] ++ (writeTriplets vals).1 ++ [254]) (a.pushAll chars) :=
  decodesTo_x12 h hp k vals chars hl hv hc hch

example : (writeTriplets (cVals false [65, 66, 67])).1 = [89, 233] := by decide      -- "ABC" in C40
example : decodeText refTables [230, 89, 233, 254, 66] = .ok [65, 66, 67, 65] := by decide

/-- `dm_encoder_invariant` (C40 / Text, leaving in mid-stream): when the C40 or Text encoder stops with
    complete triplets buffered and characters still to come, `c40HandleEOD` writes the triplets and the unlatch
    and the invariant holds again, at the same position.  (The end-of-message branches of `c40HandleEOD` and
    the backtracking: `dm_encoder_invariant_c40`.) -/
theorem dm_encoder_invariant_c40_midstream (syms : List SymbolInfo) (text : Bool) (c c' : Ctx) (a : Acc)
    (chars buf : List Nat) (hB : Buffered text c a chars buf) (hb : ∀ x ∈ chars, x < 256)
    (k : Nat) (h3 : buf.length = 3 * k) (hmore : c.hasMore = true)
    (h : c40HandleEOD syms c buf = .ok c') :
    Inv refTables c' (a.pushAll chars).endSeg ∧ c'.pos = c.pos :=
  let ⟨hI, hp, _, _⟩ := c40HandleEOD_midstream hB hb k h3 hmore h
  ⟨hI, hp⟩

/-- `dm_encoder_invariant` (X12, whole call): for every look-ahead oracle that satisfies the end-of-message
    condition `LaX12Safe` (it does not keep or enter X12 for a final triplet that is followed by exactly one
    extended character), a whole call of the X12 encoder started right after the latch 238 — triplets written
    as they complete, look-ahead exit, rewind of the incomplete triplet and `x12HandleEOD` — either fails, or
    ends with the invariant (unlatch written), or in a tail state: the symbol is exactly used up, or has one
    codeword left for the one remaining character, which takes one ASCII codeword. -/
theorem dm_encoder_invariant_x12 (T : Tables) (syms : List SymbolInfo) (la : LookAhead) (c c' : Ctx) (a : Acc)
    (hL : LatchedM T X12 238 la c a) (hle : c.pos ≤ c.total) (hnew : c.newEnc = none)
    (hsafe : LaX12Safe la c) (h : x12Encode syms la c = .ok c') :
    ∃ a', a'.trailer = a.trailer ∧ c.pos ≤ c'.pos ∧ c'.newEnc = some ASCII ∧
      (Inv T c' a' ∨ ∃ k, k ≤ 1 ∧ Tail T c' a' k) := by
  obtain ⟨a', h1, _, _, _, h5, _, h7, h8⟩ := x12_step_post hL hle hnew hsafe h
  exact ⟨a', h1, h5, h7, h8⟩

/-- `dm_encoder_invariant` (C40 / Text, whole call): for EVERY look-ahead oracle, a whole call of the C40 or
    Text encoder started right after the latch — buffering, look-ahead exit, the (repaired) end-of-message
    backtracking and all branches of `c40HandleEOD` (two values left: shift-1 pad; one value left and one
    codeword free: last character to ASCII; complete triplets; with or without unlatch) — either fails, or
    ends with the invariant, or in a tail state (symbol exactly used up / one codeword left for the last
    character, which is not an extended one). -/
theorem dm_encoder_invariant_c40 (text : Bool) (syms : List SymbolInfo) (la : LookAhead) (c c' : Ctx) (a : Acc)
    (hbytes : ∀ x ∈ c.msg, x < 256)
    (hL : LatchedM refTables (if text then TEXT else C40) (if text then 239 else 230) la c a)
    (hle : c.pos ≤ c.total) (hm : c.hasMore = true) (hnew : c.newEnc = none)
    (h : c40Encode syms la text c = .ok c') :
    ∃ a', a'.trailer = a.trailer ∧ c.pos ≤ c'.pos ∧ c'.newEnc = some ASCII ∧
      (Inv refTables c' a' ∨ ∃ k, k ≤ 1 ∧ Tail refTables c' a' k) := by
  obtain ⟨a', h1, _, _, _, h5, _, h7, h8⟩ := c40_step_post hbytes hL hle hm hnew h
  exact ⟨a', h1, h5, h7, h8⟩

/-- if the decoder is in ASCII state after `cw0`, then after `cw0 ++ [240] ++ quadruples` of
    EDIFACT-native characters `chars` (any multiple of four)
      * followed by at most two codewords it has appended `chars` and reads those codewords in ASCII (the "two or
        fewer bytes left" rule — what the encoder relies on when it omits the unlatch);
      * followed by the one-codeword unlatch 124 it is back in ASCII provided AT LEAST TWO more codewords follow;
      * followed by three characters + unlatch (one full group) it is back in ASCII whatever follows. -/
theorem edifact_segment_inv (T : Tables) (cw0 : List Nat) (a : Acc) (h : DecodesTo T cw0 a) (hp : a.pend = 0)
    (k : Nat) (chars : List Nat) (hl : chars.length = 4 * k) (hn : ∀ c ∈ chars, isNativeEDIFACT c = true) :
    DecK T (cw0 ++ [240] ++ (writeQuads (chars.map ediVal)).1) (a.pushAll chars) 2 ∧
    DecFrom T 2 (cw0 ++ [240] ++ (writeQuads (chars.map ediVal)).1 ++ edifactPack [31]) (a.pushAll chars) ∧
    (∀ c1 c2 c3, isNativeEDIFACT c1 = true → isNativeEDIFACT c2 = true → isNativeEDIFACT c3 = true →
      DecFrom T 0 (cw0 ++ [240] ++ (writeQuads (chars.map ediVal)).1 ++
        edifactPack [ediVal c1, ediVal c2, ediVal c3, 31]) ((a.pushAll chars).pushAll [c1, c2, c3])) := by
  refine ⟨edifact_segment_open h hp k chars hl hn, decFrom_iff.2 ?_, fun c1 c2 c3 h1 h2 h3 => decFrom_iff.2 ?_⟩
  · have := decOn_edifact h hp k chars hl hn (edifactPack [31]) [] (by simp)
      (fun s => 2 ≤ s.length ∧ ∀ x ∈ s, x < 256) (fun suf hs b n => by
        match suf, hs with
        | x :: y :: rest, ⟨_, hb⟩ => exact edifactSeg_unlatch1 x y (hb x (by simp)) (hb y (by simp)) rest b n)
    simpa [Acc.pushAll] using this
  · exact decOn_edifact h hp k chars hl hn (edifactPack [ediVal c1, ediVal c2, ediVal c3, 31]) [c1, c2, c3]
      (by intro c hc; simp at hc; rcases hc with rfl | rfl | rfl
          · exact (ediVal_facts _ h1).2.2.2.2
          · exact (ediVal_facts _ h2).2.2.2.2
          · exact (ediVal_facts _ h3).2.2.2.2) _ (fun suf _ b n => by
        have := edifactSeg_unlatch4 c1 c2 c3 h1 h2 h3 suf b n
        simpa [edifactPack, Acc.pushAll, edifactWord] using this)

example : (writeQuads ([65, 66, 67, 68].map ediVal)).1 = [4, 32, 196] ∧ edifactPack [31] = [124] := by decide
example : decodeText refTables [240, 4, 32, 196, 124, 142, 129, 56] = .ok [65, 66, 67, 68, 49, 50] := by decide
/-- with only ONE codeword behind it the unlatch 124 is read as the ASCII character '{' -/
example : decodeText refTables [240, 4, 32, 196, 124, 142] = .ok [65, 66, 67, 68, 123, 49, 50] := by decide

/-- `dm_encoder_invariant` (EDIFACT, whole call — `EdifactEncoder.encode` with `edifactHandleEOD` as of /repo commit
    7bca761): for EVERY look-ahead oracle and every symbol table, a call started right after the latch 240 either
    fails or ends in ASCII mode with exactly the characters consumed so far decoded (`a'`), in one of five states
    (`EdiPost`):
      closed   unlatch inside full codewords (two or three buffered characters + 31): invariant, whatever follows;
      tail     NO unlatch, the symbol has `k ≤ 2` codewords left and the rest of the message needs at most `k`
               codewords in ASCII (the condition the repair made exact: extended characters count twice);
      rewound  end of message, one or two characters buffered, fewer than three codewords left: nothing written for
               them, position rewound, symbol forgotten — they are re-encoded in ASCII and the symbol the encoder
               had picked for them leaves at most two codewords behind the last quadruple;
      endpad   end of message, unlatch written in `3 - j` codewords (`j ≤ 2`) and the symbol has at least `j` more;
      mid      the look-ahead left EDIFACT in mid-stream and the one-codeword unlatch 124 was written: it is read as
               unlatch iff at least two more codewords follow in the FINAL symbol.
    Only `mid` (and, through symbol re-selection, `rewound`) refers to what happens later; this is why the composed
    round trip with EDIFACT (Properties/C02Full.lean) needs a condition on the symbol table (see
    `dm_roundtrip_edifact_needs_symbol_gap`). -/
theorem dm_encoder_invariant_edifact (T : Tables) (syms : List SymbolInfo) (la : LookAhead) (c c' : Ctx) (a : Acc)
    (hL : LatchedM T EDIFACT 240 la c a) (hle : c.pos ≤ c.total) (hnew : c.newEnc = none)
    (h : edifactEncode syms la c = .ok c') :
    ∃ a', a'.trailer = a.trailer ∧ c.pos ≤ c'.pos ∧ c'.pos ≤ c'.total ∧ c'.newEnc = some ASCII ∧
      a'.rev.reverse = c'.msg.take c'.pos ∧ a'.pend = 0 ∧ EdiPost T syms c c' a' := by
  obtain ⟨a', h1, _, _, _, h5, h6, h7, h8, h9, h10⟩ := edifact_step_post hL hle h
  exact ⟨a', h1, h5, h6, h7, h8, h9, h10⟩

/-- in a tail state the ASCII encoder (oracle staying in ASCII) uses up the free codewords: the tail shrinks -/
theorem dm_encoder_invariant_tail (T : Tables) (la : LookAhead) (c c' : Ctx) (a : Acc) (k : Nat)
    (hbytes : ∀ x ∈ c.msg, x < 256) (hT : Tail T c a k) (hm : c.hasMore = true) (hle : c.pos ≤ c.total)
    (htr : TrailerOK c) (hla : la c.msg c.pos ASCII = ASCII) (h : asciiEncode la c = .ok c') :
    ∃ a' k', Tail T c' a' k' ∧ k' < k ∧ c.pos < c'.pos := by
  obtain ⟨a', k', h1, h2, _, _, h5, _, _⟩ := ascii_step_tail hbytes hT hm htr hla h
  exact ⟨a', k', h1, h2, h5⟩

/-! ## round trip -/

/-
  Full statement (FALSE for an arbitrary oracle — see `dm_roundtrip_needs_x12_tail` — and, with EDIFACT, FALSE for
  some symbol tables — see `dm_roundtrip_edifact_needs_symbol_gap`):

    theorem dm_roundtrip (syms) (la : LookAhead) (msg) (cfg) (cw) (hb : ∀ x ∈ msg, x < 256) :
        encodeHL syms la msg cfg = .ok cw → decodeText refTables cw = .ok msg

  For the real look-ahead (`LaFloatLike la`) and every symbol table with `tableOK syms` it is
  `dm_roundtrip_real_lookahead` in Properties/C02Full.lean (all six modes).  In this file:
    * `dm_roundtrip_five_modes_partial` / `…_on_partial`: every encoding that uses ASCII, C40, Text, X12 and Base-256
      encodation in any combination, every symbol table, every hint configuration, for every look-ahead ORACLE with
        `LaNoEdifactOn la msg`  along this message it never proposes EDIFACT from ASCII,
        `LaTailAscii`           with one character left it stays in ASCII,
        `LaX12Tail`             it neither keeps nor enters X12 for a last triplet followed by one extended character.
    * `la_tail_ascii`, `la_x12_tail`: the last two are THEOREMS for the real look-ahead — exact arithmetic in units
      of 1/12 under EVERY float rounding (`laExactR ρ`; the harness ties `HighLevelEncoder_lookAheadTest` to it
      decision by decision) — hence `dm_roundtrip_real_lookahead_partial` (only `LaNoEdifactOn` left) and
      `dm_roundtrip_no_edifact_window` (no oracle hypothesis at all for messages without four consecutive
      EDIFACT-native characters).
    * `dm_encoder_invariant_edifact`: the EDIFACT encoder as a whole call incl. every branch of `edifactHandleEOD`,
      for every oracle and table: five end states.
  What the COMPOSITION of the EDIFACT end states with the rest of the run needs beyond these (C02Full):
    - `mid` (one-codeword unlatch 124 written in mid-stream) is decoded as unlatch only if at least two codewords
      follow in the FINAL symbol: a table condition — consecutive admissible capacities differ by at least 2
      (`dm_roundtrip_edifact_needs_symbol_gap` shows it is necessary; ISO/IEC 16022 satisfies it) — and an argument
      about symbol re-selection (`ResetSymbolInfo` in the C40 backtracking / EDIFACT rewind).
    - `tail` / `rewound` leave up to TWO characters to the ASCII encoder: `LaTailAscii` must cover two remaining
      characters (`dm_roundtrip_edifact_needs_tail2`, `la_tail2_ascii`), and `rewound` needs ascending capacities.
-/

/-- `dm_roundtrip`, five encoders (ASCII, C40, Text, X12, Base 256): for every symbol table, every hint
    configuration, every message of bytes and every look-ahead oracle with the three stated properties, the
    codewords `encodeHL` returns (padding included) decode to exactly the message. -/
theorem dm_roundtrip_five_modes_partial (syms : List SymbolInfo) (la : LookAhead) (msg : List Nat) (cfg : Cfg)
    (cw : List Nat) (hNoE : LaNoEdifact la)
    (hTA : LaTailAscii la msg (initCtx msg cfg).total) (hXT : LaX12Tail la msg (initCtx msg cfg).total)
    (hb : ∀ x ∈ msg, x < 256) (h : encodeHL syms la msg cfg = .ok cw) :
    decodeText refTables cw = .ok msg :=
  roundtrip_gen syms la msg cfg cw hNoE hTA hXT hb h

/-- the same with the EDIFACT condition for THIS message only: along the message the oracle never proposes
    EDIFACT from ASCII (`LaNoEdifactOn`); strictly weaker than `LaNoEdifact` -/
theorem dm_roundtrip_five_modes_on_partial (syms : List SymbolInfo) (la : LookAhead) (msg : List Nat) (cfg : Cfg)
    (cw : List Nat) (hNoE : LaNoEdifactOn la msg)
    (hTA : LaTailAscii la msg (initCtx msg cfg).total) (hXT : LaX12Tail la msg (initCtx msg cfg).total)
    (hb : ∀ x ∈ msg, x < 256) (h : encodeHL syms la msg cfg = .ok cw) :
    decodeText refTables cw = .ok msg :=
  roundtrip_gen_on syms la msg cfg cw hNoE hTA hXT hb h

/-! ### the real look-ahead: exact arithmetic up to float rounding

  `laExactR ρ` (Model/DMHighLevel.lean Part 5) is `HighLevelEncoder_lookAheadTest` computed with exact counts in
  units of 1/12, where `ρ` says at which steps the float64 sum of thirds of the C40 / Text / X12 count came out
  above an integer (so that `math.Ceil` is one higher).  `LaFloatLike la`: every decision of `la` is the decision
  of `laExactR ρ` for some `ρ`.  The harness establishes this for the real function decision by decision (suite
  dm-la, op `laxr`: it recomputes the float64 sums next to the exact ones, checks that they differ only in that
  way, and compares the real decision with `laExactR` under the observed `ρ`); plain exact arithmetic
  (`laExact = laExactR noBump`) decides differently in ≈ 0.16 % of the sampled calls. -/

/-- `LaTailAscii` is a THEOREM for the exact look-ahead under every float rounding: with one character left
    (followed by the macro trailer RS EOT, if the message is a macro 05/06 message) it answers ASCII from ASCII -/
theorem la_tail_ascii (ρ : Bump) (msg : List Nat) (cfg : Cfg) :
    LaTailAscii (laExactR ρ) msg (initCtx msg cfg).total :=
  laExactR_tail_ascii ρ msg _ (totOK_initCtx msg cfg)

/-- `LaX12Tail` is a THEOREM for the exact look-ahead under every float rounding: for three characters followed by
    one extended character at the end of the message (plus macro trailer) it answers X12 neither from X12 nor from
    ASCII — wherever steps R / K look, the ASCII count is strictly below the X12 count -/
theorem la_x12_tail (ρ : Bump) (msg : List Nat) (cfg : Cfg) :
    LaX12Tail (laExactR ρ) msg (initCtx msg cfg).total :=
  laExactR_x12_tail ρ msg _ (totOK_initCtx msg cfg)

/-- the condition an EDIFACT segment without unlatch needs (`dm_roundtrip_edifact_needs_tail2`) also holds for the
    exact look-ahead under every float rounding: with two non-extended characters left (plus macro trailer) it
    answers ASCII from ASCII -/
theorem la_tail2_ascii (ρ : Bump) (msg : List Nat) (cfg : Cfg) :
    LaTail2Ascii (laExactR ρ) msg (initCtx msg cfg).total :=
  laExactR_tail2_ascii ρ msg _ (totOK_initCtx msg cfg)

/-- `dm_roundtrip` for every look-ahead that is exact arithmetic up to float rounding (`LaFloatLike`, in particular
    `laExact` and every `laExactR ρ`): the two end-of-message conditions are discharged; what remains is
    `LaNoEdifactOn la msg` — along this message the look-ahead never proposes EDIFACT from ASCII (e.g. the message
    has no four consecutive EDIFACT-native characters: `la_no_edifact_of_no_quad`). -/
theorem dm_roundtrip_real_lookahead_partial (syms : List SymbolInfo) (la : LookAhead) (hla : LaFloatLike la)
    (msg : List Nat) (cfg : Cfg) (cw : List Nat) (hNoE : LaNoEdifactOn la msg)
    (hb : ∀ x ∈ msg, x < 256) (h : encodeHL syms la msg cfg = .ok cw) :
    decodeText refTables cw = .ok msg := by
  obtain ⟨hTA, hXT⟩ := floatLike_tail_conditions la hla msg _ (totOK_initCtx msg cfg)
  exact roundtrip_gen_on syms la msg cfg cw hNoE hTA hXT hb h

/-- a sufficient condition for `LaNoEdifactOn`: if every window of four consecutive characters of the message
    contains a character EDIFACT cannot encode, the exact look-ahead never proposes EDIFACT (its whole-group guard
    answers ASCII when four characters follow; with at most three EDIFACT-native characters left before the end
    the ASCII count is minimal), whatever the float rounding -/
theorem la_no_edifact_of_no_quad (la : LookAhead) (hla : LaFloatLike la) (msg : List Nat)
    (H : ∀ p, p + 4 ≤ msg.length → ((msg.drop p).take 4).all isNativeEDIFACT = false) :
    LaNoEdifactOn la msg := by
  intro p
  obtain ⟨ρ, hρ⟩ := hla msg p ASCII
  rw [hρ]
  exact laExactR_no_edifact ρ msg H p

/-- `dm_roundtrip` WITHOUT any oracle hypothesis for messages that have no four consecutive EDIFACT-native
    characters (0x20..0x5E), every symbol table and hint configuration: for every look-ahead that is exact
    arithmetic up to float rounding, what `encodeHL` returns decodes to exactly the message. -/
theorem dm_roundtrip_no_edifact_window (syms : List SymbolInfo) (la : LookAhead) (hla : LaFloatLike la)
    (msg : List Nat) (cfg : Cfg) (cw : List Nat)
    (H : ∀ p, p + 4 ≤ msg.length → ((msg.drop p).take 4).all isNativeEDIFACT = false)
    (hb : ∀ x ∈ msg, x < 256) (h : encodeHL syms la msg cfg = .ok cw) :
    decodeText refTables cw = .ok msg :=
  dm_roundtrip_real_lookahead_partial syms la hla msg cfg cw (la_no_edifact_of_no_quad la hla msg H) hb h

example : LaFloatLike laExact := fun _ _ _ => ⟨noBump, rfl⟩
example (ρ : Bump) : LaFloatLike (laExactR ρ) := fun _ _ _ => ⟨ρ, rfl⟩
/-- table used by the examples: symbols of 4, 8 and 1558 data codewords -/
def exSyms : List SymbolInfo := [⟨false, 4, 5, 8, 8, 1⟩, ⟨false, 8, 7, 10, 10, 1⟩, ⟨false, 1558, 620, 22, 22, 36⟩]

/-- non-vacuity for the exact look-ahead: "abcdefghi" is latched to Text at once (three triplets, unlatch fills the
    8-codeword symbol), "ABCDEFGHIJ" to C40 (three triplets, last character in ASCII without unlatch: tail state) -/
example : encodeHL exSyms laExact [97, 98, 99, 100, 101, 102, 103, 104, 105] {} =
    .ok [239, 89, 233, 109, 36, 128, 95, 254] := by decide +kernel
example : encodeHL exSyms laExact [65, 66, 67, 68, 69, 70, 71, 72, 73, 74] {} =
    .ok [230, 89, 233, 109, 36, 128, 95, 75] := by decide +kernel
example : decodeText refTables [230, 89, 233, 109, 36, 128, 95, 75] = .ok [65, 66, 67, 68, 69, 70, 71, 72, 73, 74] := by
  decide +kernel
/-- non-vacuity: an oracle that latches C40 at the start ("ABCDEFG": two triplets, unlatch, 'G' in ASCII) -/
example : encodeHL exSyms (fun _ pos mode => if mode = ASCII then (if pos = 0 then C40 else ASCII) else mode)
    [65, 66, 67, 68, 69, 70, 71] {} = .ok [230, 89, 233, 109, 36, 254, 72, 129] := by decide
example : decodeText refTables [230, 89, 233, 109, 36, 254, 72, 129] = .ok [65, 66, 67, 68, 69, 70, 71] := by decide
/-- ... and one that latches X12: two triplets fill all but two codewords, unlatch, rest in ASCII -/
example : encodeHL exSyms (fun _ pos mode => if mode = ASCII then (if pos = 0 then X12 else ASCII) else mode)
    [65, 42, 67, 13, 69, 70, 71, 72] {} = .ok [238, 87, 185, 2, 228, 254, 72, 73] := by decide
example : decodeText refTables [238, 87, 185, 2, 228, 254, 72, 73] = .ok [65, 42, 67, 13, 69, 70, 71, 72] := by decide

/-- the X12 end-of-message condition is necessary: this oracle enters X12 for "***" followed by 'é' and leaves
    it right before 'é' with one codeword free; `x12HandleEOD` writes no unlatch, 'é' takes two codewords, the
    symbol grows and the decoder reads on in X12 — the codewords decode to other text. -/
theorem dm_roundtrip_needs_x12_tail :
    ∃ (la : LookAhead) (cw : List Nat), encodeHL exSyms la [42, 42, 42, 233] {} = .ok cw ∧
      decodeText refTables cw ≠ .ok [42, 42, 42, 233] :=
  ⟨fun _ pos mode => if mode = ASCII then (if pos = 0 then X12 else ASCII)
      else if mode = X12 then (if pos = 3 then ASCII else X12) else ASCII,
   [238, 6, 106, 235, 106, 129, 161, 56], by decide, by decide⟩

/-- an oracle that enters EDIFACT at the start and leaves it after the first quadruple -/
def laEdifactOnce : LookAhead := fun _ pos mode =>
  if mode = ASCII then (if pos = 0 then EDIFACT else ASCII)
  else if mode = EDIFACT then (if pos = 4 then ASCII else EDIFACT) else mode

/-- WITH EDIFACT THE ROUND TRIP IS FALSE FOR SOME SYMBOL TABLES: two admissible symbols whose capacities differ by
    one (5 and 6 codewords; ISO/IEC 16022 has no such pair).  "ABCD12": one quadruple, the oracle leaves EDIFACT, one
    codeword is free but "12" is counted as two → unlatch 124 written → the digit pair makes the symbol grow to 6
    codewords, exactly ONE behind the unlatch → the decoder reads 124 as '{'.  So any theorem that admits EDIFACT
    needs a hypothesis on the symbol table (consecutive capacities differ by at least 2, and — for `rewound` —
    capacities ascend) in addition to oracle conditions. -/
theorem dm_roundtrip_edifact_needs_symbol_gap :
    ∃ (syms : List SymbolInfo) (cw : List Nat), encodeHL syms laEdifactOnce [65, 66, 67, 68, 49, 50] {} = .ok cw ∧
      decodeText refTables cw ≠ .ok [65, 66, 67, 68, 49, 50] :=
  ⟨[⟨false, 5, 7, 10, 10, 1⟩, ⟨false, 6, 7, 10, 10, 1⟩, ⟨false, 1558, 620, 22, 22, 36⟩],
   [240, 4, 32, 196, 124, 142], by decide, by decide⟩

/-- the same message and oracle with capacities 5, 8 (as in ISO/IEC 16022): two codewords follow, it decodes -/
example : encodeHL [⟨false, 5, 7, 10, 10, 1⟩, ⟨false, 8, 10, 12, 12, 1⟩] laEdifactOnce [65, 66, 67, 68, 49, 50] {} =
    .ok [240, 4, 32, 196, 124, 142, 129, 56] := by decide

/-- after an EDIFACT segment that ends WITHOUT unlatch, up to TWO characters are left to the ASCII encoder: an
    oracle that latches C40 there (allowed by `LaTailAscii`, which only speaks about ONE remaining character) breaks
    the round trip — "ABCDab" in a 6-codeword symbol.  With EDIFACT, `LaTailAscii` has to cover two remaining
    characters. -/
theorem dm_roundtrip_edifact_needs_tail2 :
    ∃ (la : LookAhead) (cw : List Nat), LaTailAscii la [65, 66, 67, 68, 97, 98] 6 ∧
      encodeHL [⟨false, 6, 7, 10, 10, 1⟩, ⟨false, 12, 12, 14, 14, 1⟩] la [65, 66, 67, 68, 97, 98] {} = .ok cw ∧
      decodeText refTables cw ≠ .ok [65, 66, 67, 68, 97, 98] :=
  ⟨fun _ pos mode => if mode = ASCII then (if pos = 0 then EDIFACT else if pos = 4 then C40 else ASCII)
      else if mode = EDIFACT then (if pos = 4 then ASCII else EDIFACT) else mode,
   [240, 4, 32, 196, 230, 12, 169, 254, 99, 129, 251, 147],
   by intro p hp; have : p = 5 := by omega
      subst this; decide,
   by decide, by decide⟩

/-- `dm_roundtrip`, ASCII + Base-256 part. -/
theorem dm_roundtrip_ascii_base256_partial (T : Tables) (syms : List SymbolInfo) (la : LookAhead)
    (hla : LaAB la) (msg : List Nat) (cfg : Cfg) (cw : List Nat)
    (hb : ∀ x ∈ msg, x < 256) (h : encodeHL syms la msg cfg = .ok cw) :
    decodeText T cw = .ok msg :=
  roundtrip_ab T syms la hla msg cfg cw hb h

/-- the ASCII-only special case: a look-ahead oracle that never leaves ASCII -/
theorem dm_roundtrip_ascii_partial (T : Tables) (syms : List SymbolInfo) (la : LookAhead)
    (hla : ∀ m p, la m p ASCII = ASCII) (msg : List Nat) (cfg : Cfg) (cw : List Nat)
    (hb : ∀ x ∈ msg, x < 256) (h : encodeHL syms la msg cfg = .ok cw) :
    decodeText T cw = .ok msg :=
  roundtrip_ascii T syms la hla msg cfg cw hb h

/-! ## whole symbol: composition with the low-level models of C08 -/

/-- text → `encodeHL` → reference symbol of C08 (reference ECC, interleaving,
    Annex-F placement, finder/clock framing; any of the 30 ECC-200 sizes whose capacity equals the number of
    codewords, 144x144 with its 8+2 unequal blocks included) → `Decoder.Decode` model: version by dimensions,
    data-region extraction, codeword reading, de-interleaving, Reed-Solomon decoding of every block (C04 model
    decoder over GF(256)/0x12D), de-interlacing copy, `decodeText` — returns exactly the text.
    The Reed-Solomon step is a THEOREM: every reference block `data_b ++ ecc_b` has zero syndromes
    (C08 `blocks_are_rs_codewords` / `eccBlock_zero_syndromes`), so C04's `rs_decode_clean` returns it unchanged.
    `_partial` only because of the hypotheses on the look-ahead ORACLE inherited from
    `dm_roundtrip_five_modes_partial`: `LaNoEdifact`, `LaTailAscii`, `LaX12Tail`. -/
theorem dm_symbol_roundtrip_partial (syms : List SymbolInfo) (la : LookAhead) (msg : List Nat) (cfg : Cfg)
    (cw : List Nat) (hNoE : LaNoEdifact la)
    (hTA : LaTailAscii la msg (initCtx msg cfg).total) (hXT : LaX12Tail la msg (initCtx msg cfg).total)
    (hb : ∀ x ∈ msg, x < 256) (h : encodeHL syms la msg cfg = .ok cw)
    (p : DMRef.Sym × Nat) (hp : p ∈ DMRef.table7.zipIdx) (hn : cw.length = p.1.nData) :
    (∃ v grid raw blocks,
      DMDec.newBitMatrixParser DMDec.versions ⟨p.1.cols, p.1.rows, (DMRef.symbolBits p.1 cw).flatten.toArray⟩
        = .ok (v, grid) ∧
      DMDec.readCodewords v grid = .ok raw ∧
      DMDec.getDataBlocks raw v = .ok blocks ∧
      (∀ nb ∈ blocks, RS.decode GF.dataMatrix256 nb.2 p.1.blkErr = .ok nb.2) ∧
      DMDec.resultBytes blocks = .ok cw ∧
      decodeText refTables cw = .ok msg) ∧
    DMDec.decodeMatrix refTables ⟨p.1.cols, p.1.rows, (DMRef.symbolBits p.1 cw).flatten.toArray⟩ = .ok msg := by
  have hcwb := encodeHL_bytes_all syms la msg cfg cw hb h
  have hrt := roundtrip_gen syms la msg cfg cw hNoE hTA hXT hb h
  have hs := Gzx.Properties.C08.zipIdx_mem_table7 p hp
  have hchain := Gzx.Properties.C08.decoder_inverts_reference_symbol p hp cw hn hcwb
  simp only at hchain
  obtain ⟨h1, h2, h3, h4⟩ := hchain
  constructor
  · refine ⟨_, _, _, _, h1, h2, h3, ?_, h4, hrt⟩
    intro nb hnb
    simp only [List.mem_map] at hnb
    obtain ⟨b, hbm, rfl⟩ := hnb
    exact DMProofs.block_clean p.1 hs cw hn hcwb b (List.mem_range.1 hbm)
  · unfold DMDec.decodeMatrix
    have := DMProofs.decodeMatrixBytes_tolerates p hp cw hn hcwb (DMRef.codewords p.1 cw)
      (DMProofs.codewords_length p.1 cw hn) (DMProofs.codewords_bytes p.1 cw hcwb)
      (fun b _ => by rw [DMProofs.hamming_self]; omega)
    unfold DMRef.symbolBits
    rw [this]
    exact hrt

/-- the Reed-Solomon step in isolation, for every row of Table 7, every byte vector of the symbol's capacity
    and every block: C04's decoder model returns the reference block unchanged -/
theorem dm_reference_blocks_decode_clean (s : DMRef.Sym) (hs : s ∈ DMRef.table7) (d : List Nat)
    (hd : d.length = s.nData) (hb : ∀ x ∈ d, x < 256) (b : Nat) (hbB : b < s.blocks) :
    RS.decode GF.dataMatrix256 (DMRef.blockData s d b ++ DMRef.blockEcc s d b) s.blkErr
      = .ok (DMRef.blockData s d b ++ DMRef.blockEcc s d b) :=
  DMProofs.block_clean s hs d hd hb b hbB

/-- non-vacuity: for "A12" = [66, 142, 129] in the 10x10 symbol the reference block is
    [66, 142, 129, 170, 115, 225, 118, 63] and the Reed-Solomon decoder model returns it unchanged -/
example : RS.decode GF.dataMatrix256 [66, 142, 129, 170, 115, 225, 118, 63] 5
    = .ok [66, 142, 129, 170, 115, 225, 118, 63] := by decide +kernel
example : DMRef.blockData (DMRef.table7.getD 0 default) [66, 142, 129] 0 ++
    DMRef.blockEcc (DMRef.table7.getD 0 default) [66, 142, 129] 0 = [66, 142, 129, 170, 115, 225, 118, 63] := by
  decide +kernel
/-- the oracle hypotheses are satisfiable together with the symbol hypotheses: the all-ASCII oracle, "A12",
    the one-row table {10x10: 3 data codewords} -/
example : LaNoEdifact (fun _ _ _ => ASCII) ∧ LaTailAscii (fun _ _ _ => ASCII) [65, 49, 50] 3 ∧
    LaX12Tail (fun _ _ _ => ASCII) [65, 49, 50] 3 :=
by
  refine ⟨?_, ?_, ?_⟩
  · intro m p; show (ASCII : Nat) ≠ EDIFACT; decide
  · intro p _; rfl
  · intro p ch _ _ _; exact ⟨by show (ASCII : Nat) ≠ X12; decide, by show (ASCII : Nat) ≠ X12; decide⟩

/-! ## termination -/

/-
  Full statement (FALSE for an arbitrary oracle, see `dm_terminates_fails_for_some_oracle`; for the real look-ahead
  it is `dm_terminates` in Properties/C02Term.lean; on the real code termination is in addition watchdog-backed, plus
  an exhaustive sweep of all strings of length ≤ 5 / ≤ 6 over one representative per character class — harness
  `dm-term`, 433 160 strings in the quick tier, no hang):

    theorem dm_terminates (syms) (ρ) (msg) (cfg) : encodeHL syms (laExactR ρ) msg cfg ≠ .error .fuel

  Progress per encoder call:
    ASCII data step            position strictly increases            (`dm_encoder_invariant_ascii`)
    ASCII latch                position unchanged, mode switches once (`ascii_latch_gen`)
    Base 256                   position strictly increases            (`dm_encoder_invariant_base256`)
    X12                        position never decreases; +3 per complete triplet, +0 if fewer than three
                               characters could be taken              (`dm_encoder_invariant_x12`)
    C40 / Text                 position never decreases; +0 if the end-of-message backtracking removes every
                               character it had taken                 (`dm_encoder_invariant_c40`)
    EDIFACT                    position never decreases; +4 per quadruple, +0 if at most two characters were
                               buffered at the end of the message and rewound (`dm_encoder_invariant_edifact`)
  Hence the ONLY loop that has to be excluded is: ASCII latch to m ∈ {C40, Text, X12, EDIFACT} at position p, the
  call of encoder m consumes nothing, back in ASCII at p the look-ahead answers m again.  C02Term excludes it:
    X12,     consume nothing only if at most two characters remain (`x12Encode_sat`, `edifactEncode_sat`); with one
    EDIFACT  or two characters left `laExactR` proposes neither, whatever the characters are (`laExactR_two_left`, from
             the evaluation `shortTail_checked` over all pairs of character classes).
    C40/Text consumes nothing only if EVERY character up to the end of the message is backtracked, i.e. the value
             counts are (1 or 4), 3, 3, …, 3 [, 1, 3 or 4]; the characters with three values are extended ones, each
             costs the ASCII count 2 and the C40/Text count 8/3, so `laExactR` never prefers C40/Text there (with four
             or more such characters step R answers Base 256, with fewer step K answers ASCII or Base 256).
-/

/-- an oracle that always answers "C40" from ASCII: for the message "é" the C40 encoder takes 'é' (four
    values), backtracks it, writes latch + unlatch, and the dispatch loop never advances: out of fuel. -/
theorem dm_terminates_fails_for_some_oracle :
    ∃ la : LookAhead, encodeHL exSyms la [233] {} = .error .fuel :=
  ⟨fun _ _ mode => if mode = ASCII then C40 else mode, by decide⟩


/-- `dm_terminates`, ASCII + Base-256 part: for every oracle proposing only these two modes the dispatch loop
    finishes within its fuel `4·|msg| + 8` and nothing panics: the result is a codeword list or a
    WriterException (no admissible symbol is large enough / a Base-256 run longer than 1555). -/
theorem dm_terminates_ascii_base256_partial (syms : List SymbolInfo) (la : LookAhead) (hla : LaAB la)
    (msg : List Nat) (cfg : Cfg) :
    encodeHL syms la msg cfg = .error .writer ∨ ∃ cw, encodeHL syms la msg cfg = .ok cw :=
  encode_total_ab syms la hla msg cfg

/-- non-vacuity of the error branch: nothing fits a table whose only symbol holds 3 codewords -/
example : encodeHL [⟨false, 3, 5, 8, 8, 1⟩] (fun _ _ _ => ASCII) [65, 66, 67, 68] {} = .error .writer := by decide

/-- non-vacuity: with the one-row table {10x10: 3 data codewords} "A12" encodes to [66, 142, 129] -/
example : encodeHL [⟨false, 3, 5, 8, 8, 1⟩] (fun _ _ _ => ASCII) [65, 49, 50] {} = .ok [66, 142, 129] := by
  decide
example : decodeText refTables [66, 142, 129] = .ok [65, 49, 50] := by decide
/-- a macro-05 message: header and trailer are represented by the single codeword 236 -/
example : encodeHL [⟨false, 5, 7, 10, 10, 1⟩] (fun _ _ _ => ASCII) [91, 41, 62, 30, 48, 53, 29, 65, 30, 4] {}
    = .ok [236, 66, 129, 220, 115] := by decide
example : decodeText refTables [236, 66, 129, 220, 115] = .ok [91, 41, 62, 30, 48, 53, 29, 65, 30, 4] := by decide
/-- an oracle that sends everything to Base 256: "\x80\x81\x82" fills a 5-codeword symbol exactly
    (latch, length 0, three data bytes; the input of defect D5, DESIGN.md §8) and decodes -/
example : LaAB (fun _ _ _ => BASE256) := fun _ _ _ => Or.inr rfl
example : encodeHL [⟨false, 5, 7, 10, 10, 1⟩] (fun _ _ _ => BASE256) [128, 129, 130] {}
    = .ok [231, 44, 65, 216, 110] := by decide
example : decodeText refTables [231, 44, 65, 216, 110] = .ok [128, 129, 130] := by decide

end Gzx.Properties.C02
