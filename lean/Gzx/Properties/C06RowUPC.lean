/-
  C06 — decoding is total: the WHOLE `DecodeRow` of the five UPC/EAN row readers.

  Model: Gzx/Model/OneDRowExt.lean — `upceanReader.DecodeRow` / `decodeRowWithStartRange` of the EAN-13, EAN-8, UPC-E
  readers, the UPC-A reader (`maybeReturnResult`), `multiFormatUPCEANReader.DecodeRow`, with the add-on reader
  (`UPCEANExtensionSupport` incl. the 2- and 5-digit supports, price and issue-number parsing), country lookup,
  ALLOWED_EAN_EXTENSIONS, result points, result-point callbacks.  Tied to /repo/oned by suite `rowsrest-upc-*`
  (driver `c06rows upc`), the tables by Obligations/C06Rows.lean.

  The theorems hold for EVERY row (any length ≥ 0, any pixels), every row number, every well-typed hint map, every
  interpretation `VarOps` of `PatternMatchVariance` and of `<` on its results (so they do not depend on float64
  rounding), and every table set satisfying the decidable shape condition `wfRow` (per-run obligation).
-/
import Gzx.Proofs.OneDRowExtMeta
namespace Gzx.Properties.C06RowUPC
open Gzx Gzx.CheckDigit Gzx.Det Gzx.OneDRowExt Gzx.Proofs.OneDRowExtTotal
open Gzx.OneD (Tables refTables notFoundOf)

/-- the outcome C06 demands of a row decoder: a result, or one of the three documented reader exceptions
    (in particular never `.panic`, never out of fuel) -/
def Total {α : Type} (r : Res α) : Prop :=
  (∃ a, r = .ok a) ∨ r = .error .notFound ∨ r = .error .checksum ∨ r = .error .format

theorem total_no_panic {α : Type} {r : Res α} (h : Total r) : (∀ w, r ≠ .error (.panic w)) ∧ r ≠ .error .fuel := by
  rcases h with ⟨a, rfl⟩ | rfl | rfl | rfl <;> exact ⟨fun _ h' => (by cases h'), fun h' => (by cases h')⟩

/-- **C06, UPC/EAN single-format readers.**  `DecodeRow` of the EAN-13, EAN-8, UPC-A and UPC-E reader on every row,
    every row number and every hint map returns a result or NotFound / Checksum / Format — it never panics (no index,
    slice, conversion or division fault anywhere in start-guard search, digit decoding, middle / end guard, quiet-zone
    test, check digit, add-on reader, price parsing, country lookup, UPC-A conversion) and the start-guard loop
    terminates within its fuel.  A result has the reader's own format and at least 8 (UPC-A: 7) characters. -/
theorem upcean_decodeRow_total {V : Type} (O : VarOps V) (T : Tables) (X : ExtTables) (wf : wfRow T X = true)
    (k : EanKind) (rn : Int) (row : List Bool) (h : Hints) :
    Total (decodeRow O T X k rn row h).2 ∧
    (∀ res, (decodeRow O T X k rn row h).2 = .ok res → res.format = k ∧ minLen k ≤ res.text.length) := by
  have hs := decodeRow_resultOK O (Calls.of_wf O (wfRow_sound wf)) k rn row h
  exact ⟨hs.typed, fun res hr => let ⟨hfmt, hlen, _⟩ := hs.of_ok hr; ⟨hfmt, hfmt ▸ hlen⟩⟩

/-- **C06, multi-format UPC/EAN reader**, for every list of sub-readers the constructor can build (any
    POSSIBLE_FORMATS, duplicates and foreign formats included): a result or NotFound / Checksum / Format. -/
theorem upcean_multi_decodeRow_total {V : Type} (O : VarOps V) (T : Tables) (X : ExtTables) (wf : wfRow T X = true)
    (possibleFormats : List (Option EanKind)) (rn : Int) (row : List Bool) (h : Hints) :
    Total (multiDecodeRow O T X (multiReaders possibleFormats) rn row h).2 :=
  (multiDecodeRow_resultOK O (Calls.of_wf O (wfRow_sound wf)) (multiReaders possibleFormats) rn row h).typed

/-- the components, each on every row from every offset: guard search, add-on reader -/
theorem upcean_findGuardPattern_total {V : Type} (O : VarOps V) (row : List Bool) (off : Nat) (whiteFirst : Bool)
    (pattern : List Nat) (h3 : 3 ≤ pattern.length) :
    (∃ s e, findGuardPattern O row off whiteFirst pattern = .ok (s, e) ∧ off < e ∧ e < row.length) ∨
      findGuardPattern O row off whiteFirst pattern = .error .notFound :=
  (findGuardPattern_sat O row off whiteFirst pattern h3).cases.imp (fun ⟨r, hr, hp⟩ => ⟨r.1, r.2, hr, hp⟩)
    fun ⟨_, hr, he⟩ => he ▸ hr

theorem upcean_extension_decodeRow_total {V : Type} (O : VarOps V) (T : Tables) (X : ExtTables) (wf : wfRow T X = true)
    (rn : Int) (row : List Bool) (off : Nat) : Total (extDecodeRow O T X rn row off) :=
  (extDecodeRow_sat O T X (wfRow_sound wf) rn row off).typed

/-- `parseExtension5String` / `parseExtensionString` never leave their string: no panic on ANY raw string of five bytes -/
theorem upcean_parseExtension5_total (raw : List Nat) : ∃ m, parseExtension5 raw = .ok m := parseExtension5_ok raw

/-- **ALLOWED_EAN_EXTENSIONS is respected**, on the observable result: with the hint `l` (a `[]int`), whatever any of the
    four single-format readers returns reports an add-on (`UPC_EAN_EXTENSION` metadata) whose length is in `l`, no add-on
    counting as length 0 — for every row; the country / symbology metadata written afterwards and the UPC-A conversion
    cannot disturb it. -/
theorem upcean_allowed_extensions_respected {V : Type} (O : VarOps V) (T : Tables) (X : ExtTables) (k : EanKind) (rn : Int)
    (row : List Bool) (h : Hints) (l : List Int) (hl : h.allowedExt = some l) (res : RowResult)
    (hr : (decodeRow O T X k rn row h).2 = .ok res) : ((extLen res : Nat) : Int) ∈ l :=
  (decodeRow_allowed O T X k rn row h l hl).of_ok hr

/-- … and by the multi-format reader, for every sub-reader list -/
theorem upcean_multi_allowed_extensions_respected {V : Type} (O : VarOps V) (T : Tables) (X : ExtTables)
    (readers : List EanKind) (rn : Int) (row : List Bool) (h : Hints) (l : List Int) (hl : h.allowedExt = some l)
    (res : RowResult) (hr : (multiDecodeRow O T X readers rn row h).2 = .ok res) : ((extLen res : Nat) : Int) ∈ l :=
  (multiDecodeRow_allowed O T X readers rn row h l hl).of_ok hr

/-! ### non-vacuity: the reference tables satisfy the hypothesis; the hypothesis is needed; concrete rows -/

example : wfRow refTables refExt = true := wfRow_ref

/-- a two-run add-on guard makes the counter shift leave its slice: the shape hypothesis cannot be dropped -/
example : findGuardPattern VarOps.exact [true, true, true, true, false, true, false] 0 false [1, 1] =
    .error (.panic "slice bounds out of range") := by decide +kernel

/-- EAN-8 "96385074" at one pixel per module with quiet zones, read by the exact-arithmetic instance -/
def ean8Row : List Bool := parseBits
  "000000010100010110101111011110101101110101010011101110010100010010111001010000000"

example : ((decodeRow VarOps.exact refTables refExt .ean8 7 ean8Row {}).2.toOption.map (·.text)) =
    some (OneD.bytesOf "96385074") := by decide +kernel

example : ((decodeRow VarOps.exact refTables refExt .ean13 7 ean8Row {}).2.toOption.map (·.text)) = none := by decide +kernel

/-- EAN-8 "96385074" followed by the two-digit add-on "34": with ALLOWED_EAN_EXTENSIONS = [2] a result whose reported
    add-on has length 2; with [5] refused (instances of `upcean_allowed_extensions_respected`) -/
def ean8AddOnRow : List Bool := parseBits
  ("000000010100010110101111011110101101110101010011101110010100010010111001010000000" ++ "00" ++
   "1011" ++ "0100001" ++ "01" ++ "0100011" ++ "0000000")

example : ((decodeRow VarOps.exact refTables refExt .ean8 0 ean8AddOnRow { allowedExt := some [2] }).2.toOption.map extLen) =
    some 2 := by decide +kernel
example : ((decodeRow VarOps.exact refTables refExt .ean8 0 ean8AddOnRow { allowedExt := some [5] }).2.toOption.map extLen) =
    none := by rw [ean8AddOnRow, ean8_addOn2_refused_when_5_required]; rfl

/-- price strings: the currency switch and the three special codes -/
example : parseExtension5String (OneD.bytesOf "51299") = .ok (OneD.bytesOf "$12.99") := by decide +kernel
example : parseExtension5String (OneD.bytesOf "99991") = .ok (OneD.bytesOf "0.00") := by decide +kernel
example : parseExtension5String (OneD.bytesOf "90000") = .ok [] := by decide +kernel
example : parseExtension5String (OneD.bytesOf "01205") = .ok ([0xC2, 0xA3] ++ OneD.bytesOf "12.05") := by decide +kernel
example : lookupCountry refCountries (OneD.bytesOf "4006381333931") = OneD.bytesOf "DE" := by decide +kernel

end Gzx.Properties.C06RowUPC
