/-
  C03 — the round trip through the WHOLE `DecodeRow`.

  `upcean_read_write` (Properties/C03.lean) is about the text-only row decoder of Model/OneD.lean.  Here it is lifted
  to the whole-row model (Model/OneDRowExt.lean: add-on reader, metadata, result points, callbacks, hints): the exact-
  fraction instance of the whole-row model returns the same text as the text-only decoder on EVERY row
  (`decodeRow_text_refines`), hence every accepted content, drawn at any scale with the quiet zones the reader insists
  on, comes back from the full `DecodeRow` with the canonical text AND the reader's format, whatever row number and
  result-point-callback hint (`upcean_read_write_full`).
-/
import Gzx.Proofs.OneDRowExtExact
import Gzx.Properties.C03
import Gzx.Properties.C06RowUPC
namespace Gzx.Properties.C03RowFull
open Gzx Gzx.CheckDigit Gzx.OneDRowExt Gzx.Proofs.OneDRowExtTotal Gzx.Proofs.OneDRowExtExact
open Gzx.OneD (Tables refTables notFoundOf)

/-- **Refinement** (every row, every reader kind): without ALLOWED_EAN_EXTENSIONS the text of the whole-row model,
    run with exact fractions, is the result of `OneD.decodeRow`; errors are the same errors. -/
theorem decodeRow_text_refines (T : Tables) (X : ExtTables) (wf : wfRow T X = true) (k : EanKind) (rn : Int)
    (row : List Bool) (h : Hints) (hext : h.allowedExt = none) :
    (decodeRow VarOps.exact T X k rn row h).2.map (·.text) = OneD.decodeRow T k row := by
  unfold decodeRow OneD.decodeRow
  rw [findStartGuardPattern_exact]
  cases notFoundOf (OneD.findStartGuardPattern T row) with
  | error e => rfl
  | ok sg =>
    simp only [bind, Except.bind]
    exact readerWithStart_text_exact T X (wfRow_sound wf) k rn row h hext sg

/-- **C03 through the whole `DecodeRow`**: for every table set satisfying the round-trip conditions (`WFUpcEan`, per-run
    obligation of C03) and the shape condition (`wfRow`), every content the writer of kind `k` accepts
    (`writerContents k contents = ok full`), every scale `s ≥ 1`, left quiet zone `≥ s·|start guard|` and right quiet
    zone `> s·|end guard|`, every row number and callback hint: the full `DecodeRow` returns a result whose text is the
    canonical content (check digit appended; UPC-A without the "0" the writer prepended) and whose format is `k`. -/
theorem upcean_read_write_full (T : Tables) (X : ExtTables) (hT : OneD.WFUpcEan T = true) (wf : wfRow T X = true)
    (k : EanKind) (contents full : List Nat) (hw : writerContents k contents = .ok full) :
    ∃ mods, OneD.upceanModules T k contents = .ok mods ∧
      ∀ (lq s rq : Nat) (rn : Int) (cb canUPCA : Bool), 1 ≤ s → lq ≥ s * OneD.sumL T.startEnd →
        rq > s * OneD.sumL (OneD.endGuardOf T k) →
        ∃ res, (decodeRow VarOps.exact T X k rn (OneD.paddedRow lq s rq mods) { cb := cb, canUPCA := canUPCA }).2 = .ok res ∧
          res.text = OneD.upceanCanonical k full ∧ res.format = k := by
  obtain ⟨mods, hm, hrd⟩ := Gzx.Properties.C03.upcean_read_write T hT k contents full hw
  refine ⟨mods, hm, fun lq s rq rn cb canUPCA hs hl hr => ?_⟩
  have hro := hrd lq s rq hs hl hr
  have href := decodeRow_text_refines T X wf k rn (OneD.paddedRow lq s rq mods) { cb := cb, canUPCA := canUPCA } rfl
  rw [hro] at href
  cases hres : (decodeRow VarOps.exact T X k rn (OneD.paddedRow lq s rq mods) { cb := cb, canUPCA := canUPCA }).2 with
  | error e => rw [hres] at href; cases href
  | ok res =>
    rw [hres] at href
    refine ⟨res, rfl, by injection href, ?_⟩
    have := (Gzx.Properties.C06RowUPC.upcean_decodeRow_total VarOps.exact T X wf k rn (OneD.paddedRow lq s rq mods)
      { cb := cb, canUPCA := canUPCA }).2 res hres
    exact this.1

/-! ### non-vacuity -/
example : OneD.WFUpcEan refTables = true := OneD.wfUpcEan_ref
example : wfRow refTables refExt = true := wfRow_ref
example : writerContents .upca (digitBytes [0, 1, 2, 3, 4, 5, 6, 7, 8, 9, 0]) =
    .ok (digitBytes [0, 0, 1, 2, 3, 4, 5, 6, 7, 8, 9, 0, 5]) := by decide +kernel
/-- the refinement is about a hint map WITHOUT ALLOWED_EAN_EXTENSIONS: with the hint the whole-row model refuses what
    the text-only decoder accepts (EAN-8 "96385074" without add-on, ALLOWED_EAN_EXTENSIONS = [2]) -/
example : ((decodeRow VarOps.exact refTables refExt .ean8 7 Gzx.Properties.C06RowUPC.ean8Row { allowedExt := some [2] }).2.toOption.map (·.text)) = none ∧
    OneD.decodeRow refTables .ean8 Gzx.Properties.C06RowUPC.ean8Row = .ok (OneD.bytesOf "96385074") := by decide +kernel

end Gzx.Properties.C03RowFull
