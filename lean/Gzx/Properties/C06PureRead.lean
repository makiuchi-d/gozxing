/-
  C06 — the pure-barcode READ path end to end: `extractPureBits` composed with the
  matrix decoders whose totality Properties/C06.lean proves:

    QRCodeReader.Decode(PURE_BARCODE)     = QR extractPureBits  → Decoder.Decode            (qr_decode_total)
    DataMatrixReader.Decode(PURE_BARCODE) = DM extractPureBits  → BitMatrixParser / readCodewords /
                                                                   getDataBlocks            (dm_decode_total)

  For EVERY image (and for QR every float interpretation) the composition answers a result or
  NotFound / Format / Checksum — never a panic, never out of fuel.  The matrix read off is handed over in
  the decoder models' own representation (`toQR`, `toGrid`).
-/
import Gzx.Properties.C06
import Gzx.Properties.C06Pure
import Gzx.Proofs.ListGrid
namespace Gzx.Properties.C06PureRead
open Gzx Gzx.Det Gzx.Det.Pure
open Gzx.Properties.C06Pure (DecodeFault decodeFault_checked pure_decode_total qr_pure_total dm_pure_total)

def toQR (b : Bits) : QRDec.Matrix :=
  ⟨b.w.toNat, fun x y => ((b.rows[y]?).bind (·[x]?)).getD false⟩

/-- **QR `Decode` with PURE_BARCODE is total** (up to the construction of the `Result`): for every image,
    every float interpretation, every hint, arbitrary format / version look-up tables and ECI registry,
    given the two decidable facts about VERSIONS of `C06.qr_decode_total` (`Obligations.C06.versions_wf`,
    `versions_fit`) and a Reed-Solomon decoder that panics on no word (left open as there) -/
theorem qr_pure_read_total {F : Type} (o : FOps F) (img : Img)
    (T : QRDec.Tables) (hT : QRDec.wfVersions T.versions = true)
    (hfit : T.versions.all Proofs.TotalQRFit.cwFitsB = true)
    (rs : List Nat → Nat → Res (List Nat)) (hrs : ∀ cw n w, rs cw n ≠ .error (.panic w)) (hint : ECI.Hint) :
    Sat DecodeFault (fun _ => True)
      (pureDecode (QR.extractPureBits o img.rdGo img) (fun b => QRDec.decode T rs hint (toQR b))) := by
  exact pure_decode_total _ _ (fun _ => True) (sat_true_of (qr_pure_total o img)) fun b _ =>
    (Proofs.TotalQRDec.decode_sat T hT (Proofs.TotalQRFit.cwFits_of_check T hfit) rs hrs hint (toQR b)).faults
      fun _ => Or.inr

theorem qr_pure_read_never_panics {F : Type} (o : FOps F) (img : Img)
    (T : QRDec.Tables) (hT : QRDec.wfVersions T.versions = true)
    (hfit : T.versions.all Proofs.TotalQRFit.cwFitsB = true)
    (rs : List Nat → Nat → Res (List Nat)) (hrs : ∀ cw n w, rs cw n ≠ .error (.panic w)) (hint : ECI.Hint) :
    ∀ why, pureDecode (QR.extractPureBits o img.rdGo img) (fun b => QRDec.decode T rs hint (toQR b)) ≠ .error (.panic why) :=
  ((qr_pure_read_total o img T hT hfit rs hrs hint).no_crash decodeFault_checked).1

-- non-vacuity of the hypotheses: `hT` / `hfit` are `Obligations.C06.versions_wf` / `versions_fit` about the table
-- regenerated from /repo; `hrs` holds e.g. of a decoder that always fails
example : ∀ (cw : List Nat) (n : Nat) (w : String), (fun _ _ => (.error .checksum : Res (List Nat))) cw n ≠ .error (.panic w) := by
  intro _ _ _ h; cases h

/-- the matrix read off as the Data Matrix decoder model's grid (row-major cell array) -/
def toGrid (b : Bits) : DMDec.BitGrid := ⟨b.w.toNat, b.h.toNat, b.rows.flatten.toArray⟩

/-- a well-formed read-off satisfies the representation invariant `dm_decode_total` needs -/
theorem toGrid_size (b : Bits) (hb : b.WF) : (toGrid b).bits.size = (toGrid b).width * (toGrid b).height := by
  obtain ⟨_, _, hl, hr⟩ := hb
  simp only [toGrid, List.size_toArray]
  rw [flatten_length_const b.rows b.w.toNat hr, hl]

def dmChain (g : DMDec.BitGrid) : Res (List (Nat × List Nat)) := do
  let (v, m) ← DMDec.newBitMatrixParser DMDec.versions g
  let cws ← DMDec.readCodewords v m
  DMDec.getDataBlocks cws v

/-- **Data Matrix `Decode` with PURE_BARCODE is total up to the data blocks**: for every image the read-off
    followed by `NewBitMatrixParser`, `readCodewords` and `DataBlocks_getDataBlocks` answers the blocks,
    NotFound (nothing to read off) or Format (dimensions no version has) — never a panic -/
theorem dm_pure_read_total (img : Img) :
    Sat DecodeFault (fun _ => True)
      (pureDecode (DM.extractPureBits img.rdGo img) (fun b => dmChain (toGrid b))) := by
  refine pure_decode_total _ _ Bits.WF (dm_pure_total img) fun b hb => ?_
  unfold dmChain
  refine Sat.bind ((Proofs.TotalDMDec.newBitMatrixParser_sat DMDec.versions (fun v hv => (C06.dm_versions_ok v hv).1)
    (toGrid b) (toGrid_size b hb)).faults fun _ h => Or.inr (Or.inl h)) fun ⟨v, m⟩ ⟨hm, _, _, hmw, hmh, hmc⟩ => ?_
  have hread := (C06.dm_versions_ok v hm).1.read
  rw [← hmh, ← hmc] at hread
  exact Sat.bind (Proofs.TotalDMDec.readCodewords_sat v m hmw hread).lift fun cws hlen =>
    (Proofs.TotalDMDec.getDataBlocks_sat v (C06.dm_versions_ok v hm).2 cws hlen).lift

end Gzx.Properties.C06PureRead
