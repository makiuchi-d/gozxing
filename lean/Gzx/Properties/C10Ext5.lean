/-
  C10 — the EAN-5 add-on check value under digit errors.
  `ean5_accept_iff` says a 5-digit add-on is accepted iff its parity pattern is the table entry of
  `ext5Checksum`; here: the weights 3 and 9 are units modulo 10, so replacing any ONE digit changes the
  check value — hence, for a table of ten distinct patterns, an accepted add-on whose digit is misread
  while the parity pattern is kept is refused.  Any length, any position.
-/
import Gzx.Properties.C10
namespace Gzx.Properties.C10
open Gzx Gzx.CheckDigit

theorem ext5_check_changes (ds : List Nat) (i d' : Nat) (hi : i < ds.length)
    (hd : ds[i] < 10) (hd' : d' < 10) (hne : d' ≠ ds[i]) :
    ext5Checksum (ds.set i d') ≠ ext5Checksum ds := by
  simp only [ext5Checksum, ext5SumAux_eq_dot, List.length_set]
  have hw : i < (altW 3 9 ds.length).length := by rw [altW_length]; exact hi
  refine dot_detects_substitution (p := 10) _ ds i d' hi hw ?_ (by omega)
  rcases altW_mem _ _ _ _ (List.getElem_mem hw) with e | e <;> rw [e] <;> decide

theorem parity_index_unique {T : List Nat} (h : WFParity T = true) (a b p : Nat) (ha : a < 10) (hb : b < 10)
    (h1 : T[a]? = some p) (h2 : T[b]? = some p) : a = b := by
  obtain ⟨ha', sa⟩ := scan10_getElem h a ha
  obtain ⟨hb', sb⟩ := scan10_getElem h b hb
  rw [List.getElem?_eq_getElem ha'] at h1
  rw [List.getElem?_eq_getElem hb'] at h2
  have e1 : T[a] = p := Option.some.inj h1
  have e2 : T[b] = p := Option.some.inj h2
  rw [e1] at sa; rw [e2] at sb
  rw [sa] at sb
  exact Except.ok.inj sb

/-- Clause "5-digit add-ons are accepted only with their parity-encoded check value", under faults:
    an accepted add-on with any ONE digit replaced (parity pattern as printed) is refused -/
theorem ean5_rejects_single_substitution (T : List Nat) (h : WFParity T = true) (sym : List (Nat × Bool))
    (hl : sym.length = 5) (i d' : Nat) (hi : i < sym.length) (hd : (sym[i]).1 < 10) (hd' : d' < 10)
    (hne : d' ≠ (sym[i]).1) (hacc : ext5Accept T sym = .ok ()) :
    ext5Accept T (sym.set i (d', (sym[i]).2)) ≠ .ok () := by
  intro hacc'
  rw [ean5_accept_iff T h sym hl] at hacc
  rw [ean5_accept_iff T h _ (by simpa using hl)] at hacc'
  have hm1 : (sym.set i (d', (sym[i]).2)).map (·.1) = (sym.map (·.1)).set i d' := by
    rw [List.map_set]
  have hm2 : (sym.set i (d', (sym[i]).2)).map (·.2) = sym.map (·.2) := by
    rw [List.map_set]
    apply List.ext_getElem (by simp)
    intro n h1 h2
    simp only [List.getElem_set, List.getElem_map]
    split
    · subst_vars; rfl
    · rfl
  rw [hm1, hm2] at hacc'
  have hi' : i < (sym.map (·.1)).length := by simpa using hi
  have hget : (sym.map (·.1))[i] = (sym[i]).1 := by simp
  have hch := ext5_check_changes (sym.map (·.1)) i d' hi' (by rw [hget]; exact hd) hd' (by rw [hget]; exact hne)
  apply hch
  exact parity_index_unique h _ _ _ (by unfold ext5Checksum; omega) (by unfold ext5Checksum; omega) hacc' hacc

example : ext5Checksum [5, 1, 2, 3, 4] ≠ ext5Checksum [5, 1, 7, 3, 4] := by decide

end Gzx.Properties.C10
