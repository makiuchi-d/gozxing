/-
  RSSUtils against the standard.  Not a totality statement: it stands beside C06RSS because it is about the same reader,
  and says that the value function the reader's totality is proved for is the standard's.  The model of the library's
  `RSSUtils_getRSSvalue`
  (Gzx/Model/RSS14.lean, tied to the Go function on its whole reachable domain by suite `rowsrest-rss-utils`) is the
  INVERSE of the standard's `getRSSwidths` (Gzx/Ref/RSS14.lean, ISO/IEC 24724 Annex B) on all eighteen element subsets of
  RSS-14 (value → widths → value is the identity for every data character the symbology has), with widths that obey the
  sum / widest-element / narrow-element rules of the characteristic tables.  Finite statements, evaluated by the kernel.
-/
import Gzx.Model.RSS14
import Gzx.Ref.RSS14
namespace Gzx.Properties.C06RSSRef
open Gzx

/-- (modules, widest element, a 1-module element required, number of tuples).  `narrow` is what the library passes as
    `noNarrow`: with `noNarrow = true` `getRSSvalue` leaves out the tuples without a 1-module element. -/
structure Subset where
  n : Nat
  widest : Nat
  narrow : Bool
  count : Nat

/-- the eighteen subsets: odd and even elements of the five outside and four inside groups -/
def subsets : List Subset :=
  (Ref.RSS14.outsideGroups.zip [161, 80, 31, 10, 1]).flatMap (fun (g, oddCount) =>
    [⟨g.oddModules, g.oddWidest, false, oddCount⟩, ⟨g.evenModules, g.evenWidest, true, g.t⟩]) ++
  (Ref.RSS14.insideGroups.zip [84, 35, 10, 1]).flatMap (fun (g, evenCount) =>
    [⟨g.oddModules, g.oddWidest, true, g.t⟩, ⟨g.evenModules, g.evenWidest, false, evenCount⟩])

def tuples (s : Subset) : List (List Int) :=
  let r := (List.range s.widest).map (fun i => ((i + 1 : Nat) : Int))
  (r.flatMap fun a => r.flatMap fun b => r.flatMap fun c => r.map fun d => [a, b, c, d]).filter
    (fun t => decide (t.foldl (· + ·) 0 = (s.n : Int)) && (!s.narrow || t.any (· = 1)))

def validTuple (s : Subset) (t : List Int) : Bool :=
  decide (t.length = 4) && t.all (fun w => decide (1 ≤ w ∧ w ≤ (s.widest : Int))) &&
  decide (t.foldl (· + ·) 0 = (s.n : Int)) && (!s.narrow || t.any (· = 1))

def inverseOn (s : Subset) : Bool :=
  (List.range s.count).all fun v =>
    let w := Ref.RSS14.getRSSwidths v s.n 4 s.widest s.narrow
    validTuple s w && decide (RSS14.getRSSvalue w s.widest s.narrow = .ok (v : Int))

/-- **value ∘ widths = id** on every subset, with valid widths (outside characters: ten subsets) -/
theorem rss_value_inverts_reference_widths_outside : (subsets.take 10).all inverseOn = true := by decide +kernel

/-- … and the eight subsets of the inside characters -/
theorem rss_value_inverts_reference_widths_inside : (subsets.drop 10).all inverseOn = true := by decide +kernel

example : subsets.length = 18 := by decide

/-- the number of width tuples that satisfy the sum / widest / narrow rules of each subset: exactly the table's count,
    except for the odd elements of the two widest inside groups, where the tables use 48 of 52 and 81 of 100 tuples
    (so `getRSSwidths` is an injection into the valid tuples, a bijection for sixteen of the eighteen subsets) -/
theorem rss_subset_sizes_outside :
    (subsets.take 10).map (fun s => ((tuples s).length, s.count)) =
      [(161, 161), (1, 1), (80, 80), (10, 10), (31, 31), (34, 34), (10, 10), (70, 70), (1, 1), (126, 126)] := by
  decide +kernel

theorem rss_subset_sizes_inside :
    (subsets.drop 10).map (fun s => ((tuples s).length, s.count)) =
      [(4, 4), (84, 84), (20, 20), (35, 35), (52, 48), (10, 10), (100, 81), (1, 1)] := by decide +kernel

/-- the group sums are the running totals of (odd tuples) x (even tuples): 2841 outside and 1597 inside characters -/
theorem rss_group_sums :
    (Ref.RSS14.outsideGroups.zip [161, 80, 31, 10, 1]).foldl (fun acc p => acc + p.1.t * p.2) 0 = 2841 ∧
    (Ref.RSS14.insideGroups.zip [84, 35, 10, 1]).foldl (fun acc p => acc + p.1.t * p.2) 0 = 1597 ∧
    Ref.RSS14.outsideGroups.map (·.gsum) = [0, 161, 961, 2015, 2715] ∧
    Ref.RSS14.insideGroups.map (·.gsum) = [0, 336, 1036, 1516] ∧
    (2841 * 1597 = 4537077) := by decide

/-- the checksum weights are the powers of 3 modulo 79 the reader's `9^i` / `3·9^i` / `·4` / `·16` arithmetic produces -/
example : Ref.RSS14.checksumWeights.take 12 = [1, 3, 9, 27, 2, 6, 18, 54, 4, 12, 36, 29] := by decide

end Gzx.Properties.C06RSSRef
