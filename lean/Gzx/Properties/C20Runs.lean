/-
  C20 — structural contract of the recorded counters.
  The runs specification itself is characterised: every run is at least one pixel wide, the runs
  partition the row (their lengths add up to the row length), and expanding the runs with
  alternating colours gives the row back — so `runs` loses nothing but is not an arbitrary function,
  and `recordPattern_eq_runs` pins RecordPattern to the one sensible meaning of "run lengths".
  Consequences for every successful RecordPattern: exactly `n` counters, all positive, covering at
  most the pixels between `start` and the end of the row.
-/
import Gzx.Properties.C20
namespace Gzx.Properties.C20
open Gzx Gzx.RunLength

theorem runsAux_pos (bs : List Bool) (cur : Bool) (cnt : Nat) (hc : 0 < cnt) :
    ∀ r ∈ runsAux bs cur cnt, 0 < r := by
  induction bs generalizing cur cnt with
  | nil => intro r hr; simp [runsAux] at hr; omega
  | cons b bs ih =>
    intro r hr
    unfold runsAux at hr
    split at hr
    · exact ih cur (cnt + 1) (by omega) r hr
    · rcases List.mem_cons.mp hr with h | h
      · omega
      · exact ih b 1 (by omega) r h

theorem runs_pos (row : List Bool) : ∀ r ∈ runs row, 0 < r := by
  cases row with
  | nil => intro r hr; simp [runs] at hr
  | cons b bs => simpa [runs] using runsAux_pos bs b 1 (by omega)

theorem runsAux_sum (bs : List Bool) (cur : Bool) (cnt : Nat) :
    sumL (runsAux bs cur cnt) = cnt + bs.length := by
  induction bs generalizing cur cnt with
  | nil => simp [runsAux, sumL]
  | cons b bs ih =>
    unfold runsAux
    split
    · rw [ih]; simp; omega
    · simp only [sumL, List.foldr_cons] at ih ⊢
      rw [ih]; simp; omega

theorem runs_sum (row : List Bool) : sumL (runs row) = row.length := by
  cases row with
  | nil => simp [runs, sumL]
  | cons b bs => simp [runs, runsAux_sum]; omega

/-- paint run lengths with alternating colours, starting with `c` -/
def paint : Bool → List Nat → List Bool
  | _, [] => []
  | c, r :: rs => List.replicate r c ++ paint (!c) rs

theorem paint_runsAux (bs : List Bool) (cur : Bool) (cnt : Nat) :
    paint cur (runsAux bs cur cnt) = List.replicate cnt cur ++ bs := by
  induction bs generalizing cur cnt with
  | nil => simp [runsAux, paint]
  | cons b bs ih =>
    unfold runsAux
    split
    · rename_i h
      rw [ih, h, List.replicate_succ', List.append_assoc]; simp
    · rename_i h
      have hb : b = !cur := by cases b <;> cases cur <;> simp_all
      simp only [paint]
      rw [← hb, ih]; simp

/-- nothing is lost: painting the runs of a row, starting with the colour of its first pixel,
    gives the row back — for every row -/
theorem paint_runs (b : Bool) (bs : List Bool) : paint b (runs (b :: bs)) = b :: bs := by
  simp [runs, paint_runsAux]

theorem sumL_take_le (xs : List Nat) (n : Nat) : sumL (xs.take n) ≤ sumL xs := by
  induction xs generalizing n with
  | nil => simp
  | cons x xs ih =>
    cases n with
    | zero => simp [sumL]
    | succ n =>
      have := ih n
      simp only [sumL, List.take_succ_cons, List.foldr_cons] at this ⊢
      omega

/-- a successful RecordPattern delivers exactly `n` counters, each at least 1, that together cover
    no more than the pixels from `start` to the end of the row — for every row, start and `n ≥ 1` -/
theorem recordPattern_contract (row : List Bool) (start n : Nat) (hn : 0 < n) (cs : List Nat)
    (h : recordPattern row start n = .ok cs) :
    cs.length = n ∧ (∀ c ∈ cs, 0 < c) ∧ sumL cs ≤ row.length - start := by
  rw [recordPattern_eq_runs row start n hn] at h
  simp only at h
  split at h
  · rename_i hge
    cases h
    refine ⟨by simp; omega, ?_, ?_⟩
    · intro c hc
      exact runs_pos _ c (List.mem_of_mem_take hc)
    · have := sumL_take_le (runs (row.drop start)) n
      rw [runs_sum] at this
      simpa using this
  · cases h

/-- and it fails (NotFound) exactly when fewer than `n` runs remain -/
theorem recordPattern_notFound_iff (row : List Bool) (start n : Nat) (hn : 0 < n) :
    recordPattern row start n = .error .notFound ↔ (runs (row.drop start)).length < n := by
  rw [recordPattern_eq_runs row start n hn]
  simp only
  split <;> simp <;> omega

example : runs [true, true, false, true] = [2, 1, 1] := by decide
example : paint true [2, 1, 1] = [true, true, false, true] := by decide
example : ∃ cs, recordPattern [false, true, true, false, false, false, true] 1 2 = .ok cs ∧
    cs = [2, 3] := ⟨_, by decide, rfl⟩

end Gzx.Properties.C20
