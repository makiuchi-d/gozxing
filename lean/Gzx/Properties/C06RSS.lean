/-
  C06 — decoding is total: the RSS-14 row reader (oned/rss), the one reader whose instance state
  (`possibleLeftPairs` / `possibleRightPairs`) persists between rows.

  Model: Gzx/Model/RSS14.lean — `rss14Reader.DecodeRow` with `decodePair`, `findFinderPattern`, `parseFoundFinderPattern`,
  `decodeDataCharacter` (RecordPattern / RecordPatternInReverse with their error results ignored, as coded),
  `adjustOddEvenCounts`, `RSSReader_increment/decrement`, `RSSUtils_getRSSvalue`, `combins`, `addOrTally`,
  `checkChecksum`, `constructResult`, `Reset`; the pair history is an explicit `State` threaded through a sequence of
  calls (`run`).  Tied to /repo/oned/rss by suite `rowsrest-rss-*` (driver `c06rows rss`), tables by
  Obligations/C06Rows.lean.

  The theorems hold for EVERY row (any length ≥ 0), every row sequence, every history (no invariant on the state is
  needed), every interpretation `FOps` of float64 (so NaN from an all-zero counter set, the rounding of
  `value + 0.5`, the order of the rounding errors do not matter) and every table set of the right shape (`wfRSS`).
-/
import Gzx.Proofs.RSS14History
namespace Gzx.Properties.C06RSS
open Gzx Gzx.Det Gzx.RSS14 Gzx.Proofs.RSS14Total

/-- decidable shape condition on the RSS-14 tables (per-run obligation `gen_rss_tables_wf`) -/
abbrev wfRSS (T : Tables) : Bool := Gzx.Proofs.RSS14Total.wfRSS T

/-- **C06, RSS-14 `DecodeRow`.**  For every pair history the instance may hold, every row, row number and
    result-point-callback hint: a result or NotFoundException — never a panic (every `row.Get` of the finder search,
    of the backwards walk to element 1 and of the two RecordPattern scans stays inside `[0, size)`; no index of the
    counter arrays, of the rounding-error arrays, of the group tables or of the result buffer leaves its slice; no
    division by zero in `combins`), never out of fuel. -/
theorem rss14_decodeRow_total {F : Type} (o : FOps F) (T : Tables) (wf : wfRSS T = true) (st : State) (rn : Int)
    (row : List Bool) (cb : Bool) :
    (∃ res, (decodeRow o T st rn row cb).2.2 = .ok res) ∨ (decodeRow o T st rn row cb).2.2 = .error .notFound :=
  (decodeRow_total o T (wfRSS_sound wf) st rn row cb).ok_or

/-- **C06, RSS-14, every row SEQUENCE.**  Every outcome of every sequence of `DecodeRow` / `Reset` calls on one reader
    instance, started from any history, is a result or NotFoundException. -/
theorem rss14_run_total {F : Type} (o : FOps F) (T : Tables) (wf : wfRSS T = true) (st : State) (ops : List Op) :
    ∀ out ∈ (run o T st ops).1, (∃ res, out.2 = .ok res) ∨ out.2 = .error .notFound :=
  fun out h => (run_total o T (wfRSS_sound wf) ops st out h).ok_or

/-- `decodePair` alone (one half of a row): a pair or nil, never a fault -/
theorem rss14_decodePair_total {F : Type} (o : FOps F) (T : Tables) (wf : wfRSS T = true) (row : List Bool)
    (right : Bool) (rn : Int) (cb : Bool) : ∃ p, (decodePair o T row right rn cb).2 = .ok p :=
  (decodePair_sat o T (wfRSS_sound wf) row right rn cb).total.imp fun _ h => h.1

theorem rss14_findFinderPattern_total {F : Type} (o : FOps F) (row : List Bool) (right : Bool) :
    (∃ s e cs, findFinderPattern o row right = .ok ((s, e), cs) ∧ s ≤ e ∧ e < row.length) ∨
      findFinderPattern o row right = .error .notFound :=
  (findFinderPattern_sat o row right).cases.imp (fun ⟨r, hr, hp⟩ => ⟨r.1.1, r.1.2, r.2, hr, hp⟩)
    fun ⟨_, hr, he⟩ => he ▸ hr

/-- `RSSUtils_getRSSvalue` and `combins` on ANY arguments (zero, negative, too wide widths included) return a value -/
theorem rss_getRSSvalue_total (widths : List Int) (maxWidth : Int) (noNarrow : Bool) :
    ∃ v, getRSSvalue widths maxWidth noNarrow = .ok v :=
  (getRSSvalue_sat widths maxWidth noNarrow).total.imp fun _ h => h.1

theorem rss_combins_total (n r : Int) : ∃ v, combins n r = .ok v :=
  (combins_sat n r).total.imp fun _ h => h.1

/-- `constructResult` for any two pairs: the 13-character buffer the check-digit loop reads always exists -/
theorem rss14_constructResult_total (l r : Pair) : ∃ res, constructResult l r = .ok res :=
  (constructResult_sat l r).total.imp fun _ h => h.1

/-- `Reset` forgets the history: what follows does not depend on what came before -/
theorem rss14_reset_forgets {F : Type} (o : FOps F) (T : Tables) (st st' : State) (ops : List Op) :
    run o T st (.reset :: ops) = run o T st' (.reset :: ops) := rfl

/-- **History: three sightings.**  A reader with an empty history (fresh, or after `Reset`) answers NotFoundException
    to its first TWO `DecodeRow` calls whatever the rows are — a pair is reported only when it has been tallied three
    times (`count > 1`, the count starting at 0).  (That the third call can succeed is what suite `rowsrest-rss-seq`
    observes on synthetic symbols.) -/
theorem rss14_fresh_reader_two_rows_not_found {F : Type} (o : FOps F) (T : Tables) (wf : wfRSS T = true)
    (rn1 rn2 : Int) (row1 row2 : List Bool) (cb1 cb2 : Bool) :
    (decodeRow o T State.empty rn1 row1 cb1).2.2 = .error .notFound ∧
    (decodeRow o T (decodeRow o T State.empty rn1 row1 cb1).1 rn2 row2 cb2).2.2 = .error .notFound := by
  have hw := wfRSS_sound wf
  refine ⟨(decodeRow_notFound_of_counts o T hw State.empty rn1 row1 cb1 (fun p hp => by simp [State.empty] at hp)).1, ?_⟩
  exact (decodeRow_notFound_of_counts o T hw _ rn2 row2 cb2 (decodeRow_empty_counts o T hw rn1 row1 cb1)).1

/-- the same inside any call sequence: the two calls after a `Reset` are NotFound -/
theorem rss14_after_reset_two_rows_not_found {F : Type} (o : FOps F) (T : Tables) (wf : wfRSS T = true) (st : State)
    (rn1 rn2 : Int) (row1 row2 : List Bool) (cb1 cb2 : Bool) (ops : List Op) :
    ∃ t1 t2 rest, (run o T st (.reset :: .row rn1 row1 cb1 :: .row rn2 row2 cb2 :: ops)).1 =
      (t1, .error .notFound) :: (t2, .error .notFound) :: rest := by
  have h := rss14_fresh_reader_two_rows_not_found o T wf rn1 rn2 row1 row2 cb1 cb2
  simp only [run]
  rw [h.1, h.2]
  exact ⟨_, _, _, rfl⟩

/-- **History invariant**: pairs are remembered by value — if the remembered left (right) values are pairwise distinct
    before a call they are after it, and a call adds at most one pair to each list (so the lists grow at most
    linearly in the number of rows since the last `Reset`). -/
theorem rss14_history_invariant {F : Type} (o : FOps F) (T : Tables) (wf : wfRSS T = true) (st : State) (rn : Int)
    (row : List Bool) (cb : Bool)
    (hl : (st.left.map (·.value)).Nodup) (hr : (st.right.map (·.value)).Nodup) :
    let st' := (decodeRow o T st rn row cb).1
    (st'.left.map (·.value)).Nodup ∧ (st'.right.map (·.value)).Nodup ∧
      st'.left.length ≤ st.left.length + 1 ∧ st'.right.length ≤ st.right.length + 1 := by
  have hw := wfRSS_sound wf
  obtain ⟨lp, hlp, -⟩ := (decodePair_sat o T hw row false rn cb).total
  obtain ⟨rp, hrp, -⟩ := (decodePair_sat o T hw row.reverse true rn cb).total
  simp only [decodeRow, hlp, hrp]
  have h1 := addOrTally_nodup hl lp
  have h2 := addOrTally_nodup hr rp
  exact ⟨h1.1, h2.1, h1.2, h2.2⟩

/-! ### non-vacuity -/

example : wfRSS refTables = true := by decide
/-- combinations as the standard's listing computes them -/
example : combins 10 3 = .ok 120 ∧ combins 5 0 = .ok 1 ∧ combins 4 2 = .ok 6 := by decide
example : getRSSvalue [2, 1, 3, 2] 6 false = .ok 17 := by decide
/-- the shape hypothesis is needed: with a three-run finder pattern the variance computation indexes past it -/
example : parseFinderValue FOps.float [1, 2, 3, 4] [[3, 8, 2]] 0 = .error (.panic "pattern[i] out of range") := by
  simp [parseFinderValue]

end Gzx.Properties.C06RSS
