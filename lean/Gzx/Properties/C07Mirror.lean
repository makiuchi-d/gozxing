/-
  C07 / work package `qrenc` — THE ENCODER'S OWN LOOPS ARE THE REFERENCE CONSTRUCTION.

  `Gzx.QREnc` (Model/QREncMatrix.lean, Model/QREncMirror.lean) mirrors qrcode/encoder/*.go line by line: bit arrays as
  lists, the ByteMatrix with -1 = empty, panics as values, the zig-zag loop of `embedDataBits` with its `x == 6`
  skip and direction flips, `terminateBits`' three loops, the block loop and the two interleaving double loops of
  `interleaveWithECBytes`, `calculateBCHCode`/`findMSBSet`, the four penalty loops, `chooseMaskPattern`,
  `chooseVersion`/`recommendVersion`.  The theorems below prove, stage by stage and composed, that this model
  computes exactly the reference construction `Gzx.QRRef` (Ref/QR.lean, written from ISO/IEC 18004) — so C07's
  conformance theorems and C01's round-trip theorems, which are about the reference, are about a model that is tied
  to the Go code layer by layer (suite `c07m`).

  Parameters: `K : Kernels` are the two kernels the translator regenerates on every run; every theorem holds for
  every `K` with `KernelsOK K` (`Obligations/QREnc.lean` proves it for the regenerated ones, `refKernels_ok` for
  the hand mirror the driver runs).

  `FuncOK v` is the decidable statement "the coded function-pattern loops, run with position tags for the format /
  version bits, leave exactly the standard's function modules".  No theorem below takes it as a hypothesis, and
  `mirror_buildMatrix_eq_refMatrix` does not go through it (Proofs/QREncStage.lean runs the same loops with the real
  bits); it is a statement of its own (`mirror_funcOK_all`: it holds for every version 1..40), which the compiled
  driver also evaluates on every run (`c07m funcok`).  Both rest on the same argument: the embed loops are run
  under the invariant "the matrix holds the standard's value on the cells drawn so far and is empty elsewhere"
  (Proofs/QREncDrawn.lean, QREncFuncLoops.lean), the standard's function modules are shown to be the union of the
  rectangles the loops draw (Proofs/QREncFuncRef.lean), and the only fact taken from the version table is that each
  row of Table E.1 is well formed (`centresOK_all`).
-/
import Gzx.Proofs.QREncVersion
import Gzx.Proofs.QREncKernels
import Gzx.Proofs.QREncFuncAll40
import Gzx.Proofs.QREncFront
namespace Gzx.Properties.C07Mirror
open Gzx Gzx.QRRef Gzx.QREnc

/-! ### terminateBits -/

/-- For every payload that fits `d` data codewords, the three loops of
    `terminateBits` (up to four terminator bits, zero bits to the byte boundary, alternating 0xEC / 0x11) produce
    exactly the reference data codewords `QRRef.terminate d bits`, as bits. -/
theorem mirror_terminate_eq_ref (d : Nat) (bits : List Bool) (h : bits.length ≤ 8 * d) :
    terminateBits (d : Int) bits = .ok (bitsOfBytes (terminate d bits)) := terminateBits_eq d bits h

/-- … and a payload beyond the capacity is refused (never truncated) -/
theorem mirror_terminate_refuses (d : Int) (bits : List Bool) (h : (bits.length : Int) > d * 8) :
    terminateBits d bits = .error .writer := terminateBits_refuses d bits h

example : terminateBits 2 [true, false, true] = .ok (bitsOfBytes [0xA0, 0xEC]) := by decide

/-! ### interleaveWithECBytes -/

/-- For every version 1..40, level and full set of data codewords, the block loop
    (block sizes from the regenerated kernel, `ToBytes`, Reed-Solomon parity through C04's encoder model) and
    the two interleaving double loops produce exactly `QRRef.finalCodewords` — the standard's block split, RS
    parity and codeword interleaving. -/
theorem mirror_interleave_eq_ref {K : Kernels} (hK : KernelsOK K) (v : Nat) (h1 : 1 ≤ v) (h40 : v ≤ 40) (ec : EC)
    (data : List Nat) (hlen : data.length = dataCodewords v ec) (hb : ∀ b ∈ data, b < 256) :
    interleaveWithECBytes K (bitsOfBytes data) (totalCodewords v : Nat) (dataCodewords v ec : Nat) (numBlocks v ec : Nat) =
      .ok (bitsOfBytes (finalCodewords v ec data)) := interleave_eq_ref hK v h1 h40 ec data hlen hb

example : ∃ data : List Nat, data.length = dataCodewords 5 .Q ∧ ∀ b ∈ data, b < 256 :=
  ⟨List.replicate (dataCodewords 5 .Q) 17, by simp, by intro b hb; rw [List.eq_of_mem_replicate hb]; decide⟩

/-! ### embedDataBits: the zig-zag loop -/

/-- For EVERY version number `v` (not only 1..40) the
    coded traversal — start at the lower right cell, two cells per row, `x == 6` skipped, direction reversed at the
    top and bottom — visits exactly the modules of the standard's placement order `zigzagAll`, in that order; and
    the loop with any cell action is the fold of that action over this order. -/
theorem mirror_embedDataBits_eq_ref_placement (v : Nat) :
    visitOrder (dimension v) (dimension v) = some (refOrder (dimension v)) ∧
    ∀ {σ : Type} (step : Int → Int → σ → Res σ) (s : σ),
      zigzagLoop step (dimension v) (dimension v) s = stepAll step (refOrder (dimension v)) s :=
  ⟨orderOK_all v, fun step s => zigzagLoop_eq step _ _ s _ (orderOK_all v)⟩

/-! ### BCH codes -/

/-- The shift-and-xor division of `calculateBCHCode` (with `findMSBSet`) yields the BCH(15,5)
    check bits for all 32 type-info values and the BCH(18,6) check bits for all six-bit values; the 15 type-info
    bits and the 18 version-info bits are the reference words, most significant bit first. -/
theorem mirror_bch_eq_ref :
    (∀ d ∈ List.range 32, calculateBCHCode d typeInfoPoly = .ok (bch15 d)) ∧
    (∀ v ∈ List.range 64, calculateBCHCode v versionInfoPoly = .ok (bch18 v)) ∧
    (∀ ec ∈ EC.all, ∀ k ∈ List.range 8, makeTypeInfoBits ec ((k : Nat) : Int) = .ok (toBitsBE 15 (formatWord ec k))) ∧
    (∀ v ∈ List.range 34, makeVersionInfoBits (v + 7) = .ok (toBitsBE 18 (versionWord (v + 7)))) :=
  ⟨bch15_all, bch18_all, typeInfoBits_all, versionInfoBits_all⟩

/-! ### MatrixUtil_buildMatrix -/

/-- (wp `enc2`) For EVERY version 1..40 the coded function-pattern loops — embedBasicPatterns
    (finder patterns, separators with their emptiness checks, dark module, alignment patterns with the
    centre-is-empty test, timing patterns), the embedTypeInfo loop and the maybeEmbedVersionInfo double loop —
    started on the cleared matrix, run without error and leave at every module exactly what the standard puts there
    (format / version bit positions as tags), and -1 on exactly the data modules. -/
theorem mirror_funcOK_all (v : Nat) (h1 : 1 ≤ v) (h40 : v ≤ 40) : FuncOK v := funcOK_all v h1 h40

/-- For every version 1..40, level, mask and codeword stream that fits the data
    modules, `MatrixUtil_buildMatrix` on ANY matrix of the right size (whatever it held: `clearMatrix` first)
    returns the reference matrix — every module. -/
theorem mirror_buildMatrix_eq_refMatrix {K : Kernels} (hK : KernelsOK K) (v : Nat) (h1 : 1 ≤ v) (h40 : v ≤ 40)
    (ec : EC) (mask : Nat) (hk : mask < 8) (cw : List Nat) (hlen : (bitsOfBytes cw).length ≤ (zigzag v).length)
    (m0 : ByteMatrix) (hm0 : WFM (dimension v) m0) :
    buildMatrix K (bitsOfBytes cw) ec v (mask : Int) m0 = .ok (refByteMatrix v ec mask cw) :=
  buildMatrix_eq_ref hK v h1 h40 ec mask hk cw hlen m0 hm0

/-- the ByteMatrix of the theorems above read as modules (1 = dark) IS the reference matrix -/
theorem refByteMatrix_modules (v : Nat) (ec : EC) (mask : Nat) (cw : List Nat) :
    (refByteMatrix v ec mask cw).bytes.map (fun r => r.map (· == 1)) = refMatrix v ec mask cw :=
  QREnc.refByteMatrix_modules v ec mask cw

example : WFM (dimension 1) (emptyMatrix (dimension 1)) := ⟨rfl, rfl, by simp [emptyMatrix], by
  intro r hr; simp only [emptyMatrix] at hr; rw [List.eq_of_mem_replicate hr]; simp⟩

/-! ### penalties and mask choice -/

/-- On every square 0/1 matrix (non-empty for rule 4) the four index loops of
    mask_util.go — run scanner with `prevBit = -1`, 2x2 comparison with short-circuit, the 1011101 test with
    `isWhiteHorizontal/Vertical` and their clamps counted for rows and columns in one pass, dark-module ratio
    with truncating division — compute the reference penalties N1..N4 of Table 11, and their sum. -/
theorem mirror_penalty_eq_ref {n : Nat} {rows : List (List Bool)} (hs : Square n rows) (hn : 0 < n) :
    applyMaskPenaltyRule1 (ofRows rows n) = .ok ((penalty1 rows : Nat) : Int) ∧
    applyMaskPenaltyRule2 (ofRows rows n) = .ok ((penalty2 rows : Nat) : Int) ∧
    applyMaskPenaltyRule3 (ofRows rows n) = .ok ((penalty3 rows : Nat) : Int) ∧
    applyMaskPenaltyRule4 (ofRows rows n) = .ok ((penalty4 rows : Nat) : Int) ∧
    calculateMaskPenalty (ofRows rows n) = .ok ((penalty rows : Nat) : Int) :=
  ⟨rule1_eq hs, rule2_eq hs, rule3_eq hs, rule4_eq hs hn, calculateMaskPenalty_eq hs hn⟩

example : Square 2 [[true, false], [false, true]] := ⟨rfl, by decide⟩

/-- For every version 1..40 `chooseMaskPattern` builds all eight matrices without error
    and returns the reference's choice — the lowest penalty, the lowest pattern reference on a tie; the
    `math.MaxInt32` start value is never met (penalty ≤ 85·n² + 100). -/
theorem mirror_chooseMask_eq_ref {K : Kernels} (hK : KernelsOK K) (v : Nat) (h1 : 1 ≤ v) (h40 : v ≤ 40)
    (ec : EC) (cw : List Nat) (hlen : (bitsOfBytes cw).length ≤ (zigzag v).length)
    (m0 : ByteMatrix) (hm0 : WFM (dimension v) m0) :
    ∃ pens m, chooseMaskPattern K (bitsOfBytes cw) ec v m0 = .ok (((chooseMask v ec cw : Nat) : Int), pens, m) ∧
      WFM (dimension v) m :=
  chooseMaskPattern_eq hK v h1 h40 ec cw hlen m0 hm0

/-! ### version choice -/

/-- (links C13's `recommend_is_min` to the reference encoder) The two-pass
    `recommendVersion` over the `chooseVersion` loop returns the table row of the SMALLEST version whose capacity
    holds header + count indicator + data bits by the reference's `fitsBits`, and "Data too big" exactly when
    `QRRef.minVersion` finds none. -/
theorem mirror_chooseVersion_eq_min (ec : EC) (m : Mode) (hdr data : Nat) :
    QRVersionChoice.recommendVersion tables ec m hdr data =
      match minVersion ec m hdr data with
      | some v => .ok (versionInfo v)
      | none => .error .writer := recommendVersion_eq_min ec m hdr data

/-! ### data segments -/

/-- The index loops of `appendNumericBytes` (3/2/1 digits in 10/7/4 bits),
    `appendAlphanumericBytes` (pairs in 11 bits, a single in 6, through `getAlphanumericCode` and the 96-entry
    table) and `append8BitBytes` produce the reference packings; `appendLengthInfo` writes the count in the version's
    count width. -/
theorem mirror_segments_eq_ref :
    (∀ (content : List Nat) (bits : List Bool), (∀ c ∈ content, isDigit c) →
      appendNumericBytes content bits = .ok (bits ++ packNumeric (content.map (· - 48)))) ∧
    (∀ (content codes : List Nat) (bits : List Bool), content.mapM alnumCode = some codes →
      appendAlphanumericBytes content bits = .ok (bits ++ packAlnum codes)) ∧
    (∀ (bs : List Nat) (bits : List Bool), append8BitBytes (some bs) bits = .ok (bits ++ bitsOfBytes bs)) ∧
    (∀ (v : Nat) (m : Mode) (count : Nat) (bits : List Bool), 1 ≤ v → v ≤ 40 → count < 2 ^ countBits m v →
      appendLengthInfo (count : Int) (versionInfo v) m bits = .ok (bits ++ toBitsBE (countBits m v) count)) :=
  ⟨fun c b h => appendNumericBytes_eq c h b, fun c k b h => appendAlphanumericBytes_eq c k h b,
   fun bs b => append8BitBytes_eq bs b, fun v m c b _ _ h => appendLengthInfo_eq v m c h b⟩

example : ∀ c ∈ [48, 49, 57], isDigit c := by intro c hc; unfold isDigit; simp at hc; omega

/-! ### composition -/

/-- For every version 1..40, everything `Encoder_encode` does once mode, header, data
    bits and version are fixed — terminateBits, interleaveWithECBytes, NewByteMatrix, the QR_MASK_PATTERN hint (int /
    string / other, valid or not) or chooseMaskPattern, the final MatrixUtil_buildMatrix — yields the reference symbol
    of the payload, `refMatrix` of `finalCodewords` of `terminate`, with the hinted mask or the reference's own choice. -/
theorem mirror_encodeBack_eq_ref {K : Kernels} (hK : KernelsOK K) (v : Nat) (h1 : 1 ≤ v) (h40 : v ≤ 40)
    (maskHint : Option HintVal) (f : FrontResult) (hv : f.version = versionInfo v)
    (hfit : f.headerAndDataBits.length ≤ 8 * dataCodewords v f.ec) :
    ∃ t, encodeBack K maskHint f = .ok t ∧ t.mode = f.mode ∧ t.version = v ∧ t.headerAndDataBits = f.headerAndDataBits ∧
      t.maskPattern = ((finalMask maskHint v f.ec f.headerAndDataBits : Nat) : Int) ∧
      t.terminated = bitsOfBytes (terminate (dataCodewords v f.ec) f.headerAndDataBits) ∧
      t.finalBits = bitsOfBytes (refCodewords v f.ec f.headerAndDataBits) ∧
      t.matrix = refByteMatrix v f.ec (finalMask maskHint v f.ec f.headerAndDataBits) (refCodewords v f.ec f.headerAndDataBits) :=
  encodeBack_eq_ref hK v h1 h40 maskHint f hv hfit

/-- (wp `enc2`) `appendKanjiBytes` = the reference's `packKanji` for EVERY Shift_JIS byte
    string (bytes below 256), error returns included: no encoder result, an odd byte count or a pair outside
    0x8140..0x9FFC / 0xE040..0xEBBF is the WriterException "Invalid byte sequence" exactly when `packKanji` has no
    value; otherwise the 13-bit values of the reference are appended. -/
theorem mirror_kanji_eq_packKanji (sjis : Option (List Nat)) (hb : ∀ bytes, sjis = some bytes → ∀ b ∈ bytes, b < 256)
    (bits : List Bool) :
    appendKanjiBytes sjis bits =
      match sjis.bind packKanji with
      | some d => .ok (bits ++ d)
      | none => .error .writer := appendKanjiBytes_eq sjis hb bits

example : appendKanjiBytes (some [0x93, 0x5F]) [] = .ok (toBitsBE 13 0xD9F) := by decide
example : appendKanjiBytes (some [0x93]) [] = .error .writer ∧ appendKanjiBytes (some [0x80, 0x40]) [] = .error .writer := by decide

/-- (wp `enc2`) For every content and CHARACTER_SET hint value `chooseMode` returns — never
    an error, never a panic — the mode of the reference mode analysis: Kanji iff the hint is Shift_JIS and
    `isOnlyDoubleByteKanji` (encoder result of even length whose bytes at even positions are lead bytes
    0x81..0x9F / 0xE0..0xEB), else numeric iff the content is non-empty and all digits, else alphanumeric iff it is
    non-empty and all characters are in the 45-character table (so: not all digits), else byte. -/
theorem mirror_chooseMode_eq_ref (content : List Nat) (isSJIS : Bool) (sjis : Option (List Nat)) :
    chooseMode content isSJIS sjis = .ok (refMode content isSJIS sjis) ∧
    isOnlyDoubleByteKanji sjis = .ok (onlyDoubleByteKanji sjis) ∧
    refMode content isSJIS sjis =
      (if isSJIS && onlyDoubleByteKanji sjis then Mode.kanji
       else if !content.isEmpty && content.all isDigitB then Mode.numeric
       else if !content.isEmpty && content.all inTable then Mode.alnum
       else Mode.byte) :=
  ⟨chooseMode_eq content isSJIS sjis, isOnlyDoubleByteKanji_eq sjis, rfl⟩

example : refMode [49, 50] false none = .numeric ∧ refMode [49, 65] false none = .alnum ∧
    refMode [49, 97] false none = .byte ∧ refMode [] false none = .byte ∧
    refMode [0x93, 0x5F] true (some [0x93, 0x5F]) = .kanji := by decide

/-- (wp `enc2`) The whole `Encoder_encode` mirror — level check, character set, `chooseMode`,
    header segments, the data-bit loop of the mode, QR_VERSION hint or `recommendVersion`, character count,
    `terminateBits`, blocks, mask, matrix — returns a symbol of a version 1..40 or a WriterException: never a panic
    (index, nil version, make), never out of fuel, for EVERY content, level value and hint values of any type. -/
theorem mirror_encode_total {K : Kernels} (hK : KernelsOK K) (inp : EncInput) :
    (∃ t, encode K inp = .ok t ∧ 1 ≤ t.version ∧ t.version ≤ 40) ∨ encode K inp = .error .writer :=
  encode_total hK inp

/-- The whole `Encoder_encode` mirror = the reference construction, with NO hypothesis
    about mode or data segment: for every content, valid level, known CHARACTER_SET and GS1_FORMAT / QR_VERSION /
    QR_MASK_PATTERN hints of any dynamic type, with `modeOf inp` the reference mode analysis and `refSegment` the
    reference's data encodation of the mode's byte representation: where the reference has no segment (byte-mode
    encoder failure, a Shift_JIS pair outside the Kanji ranges) the call is a WriterException; otherwise it settles
    on the reference's version (`versionChoice`: the requested version iff it is in 1..40 and fits, else
    `minVersion`), writes the reference payload (header segments, character count, data) and returns the reference
    symbol with the hinted or the reference's own mask — and a WriterException exactly when no version is admissible.
    Codec parameters (outside the model): the Shift_JIS encoder yields bytes (< 256) and, in Kanji mode, one rune
    per byte pair; the registry's ECI value is below 128 (the code writes it in eight bits). -/
theorem mirror_encode_eq_ref {K : Kernels} (hK : KernelsOK K)
    (inp : EncInput) (ec : EC) (hec : ecOfInt inp.ecLevel = some ec)
    (hcs : ∀ cs, inp.charset = some cs → cs.known = true)
    (hsj : ∀ bs, inp.sjis = some bs → ∀ b ∈ bs, b < 256)
    (hrc : ∀ bs, inp.sjis = some bs → modeOf inp = .kanji → inp.runeCount = bs.length / 2)
    (he : ∀ e, eciOf inp (modeOf inp) = some e → e < 128) :
    match refSegment inp (modeOf inp) with
    | none => encode K inp = .error .writer
    | some (count, data) =>
      match versionChoice inp ec (modeOf inp) (headerBits (eciOf inp (modeOf inp)) (gs1OfHint inp.gs1) (modeOf inp)).length data.length with
      | some v =>
        ∃ t, encode K inp = .ok t ∧ t.mode = modeOf inp ∧ t.version = v ∧
          t.headerAndDataBits = payloadBits v (headerBits (eciOf inp (modeOf inp)) (gs1OfHint inp.gs1) (modeOf inp)) (modeOf inp) count data ∧
          t.maskPattern = ((finalMask inp.mask v ec t.headerAndDataBits : Nat) : Int) ∧
          t.finalBits = bitsOfBytes (refCodewords v ec t.headerAndDataBits) ∧
          t.matrix = refByteMatrix v ec (finalMask inp.mask v ec t.headerAndDataBits) (refCodewords v ec t.headerAndDataBits)
      | none => encode K inp = .error .writer :=
  encode_eq_ref_full hK inp ec hec hcs hsj hrc he

/-- The sharpest form: the mirror of `Encoder_encode` IS the reference encoder
    `QRRef.refEncode` (written from ISO/IEC 18004) applied to the mode of the reference mode analysis, the mode's byte
    representation of the content (`modeBytes`: the content, the bytes of the encoding in force, the Shift_JIS bytes)
    and the configuration the hints amount to (`refConfig`): a WriterException exactly when the reference refuses
    (no encoder result, not encodable in the mode, version out of range or too small, nothing fits), otherwise the
    same mode, version, mask pattern, final codeword sequence and matrix — every module.  Same codec parameters. -/
theorem mirror_encode_eq_refEncode {K : Kernels} (hK : KernelsOK K)
    (inp : EncInput) (ec : EC) (hec : ecOfInt inp.ecLevel = some ec)
    (hcs : ∀ cs, inp.charset = some cs → cs.known = true)
    (hsj : ∀ bs, inp.sjis = some bs → ∀ b ∈ bs, b < 256)
    (hrc : ∀ bs, inp.sjis = some bs → modeOf inp = .kanji → inp.runeCount = bs.length / 2)
    (he : ∀ e, eciOf inp (modeOf inp) = some e → e < 128) :
    match (modeBytes inp (modeOf inp)).bind (fun bytes => refEncode (modeOf inp) bytes (refConfig inp ec (modeOf inp))) with
    | none => encode K inp = .error .writer
    | some s =>
      ∃ t, encode K inp = .ok t ∧ t.mode = s.mode ∧ t.version = s.version ∧ t.maskPattern = ((s.mask : Nat) : Int) ∧
        t.finalBits = bitsOfBytes s.codewords ∧ t.matrix = refByteMatrix s.version ec s.mask s.codewords ∧
        t.matrix.bytes.map (fun r => r.map (· == 1)) = s.matrix :=
  encode_eq_refEncode hK inp ec hec hcs hsj hrc he

/-- the same for a mode and segment given explicitly (any `Segment`, e.g. one of `mirror_segment_kinds`) -/
theorem mirror_encode_eq_ref_segment {K : Kernels} (hK : KernelsOK K)
    (inp : EncInput) (ec : EC) (hec : ecOfInt inp.ecLevel = some ec)
    (hcs : ∀ cs, inp.charset = some cs → cs.known = true) (m : Mode)
    (hmode : chooseMode inp.content (match inp.charset with | some cs => cs.isSJIS | none => false) inp.sjis = .ok m)
    (bytes : List Nat) (count : Nat) (data : List Bool) (seg : Segment inp m bytes count data)
    (he : ∀ e, eciOf inp m = some e → e < 128) :
    match versionChoice inp ec m (headerBits (eciOf inp m) (gs1OfHint inp.gs1) m).length data.length with
    | some v =>
      ∃ t, encode K inp = .ok t ∧ t.mode = m ∧ t.version = v ∧
        t.headerAndDataBits = payloadBits v (headerBits (eciOf inp m) (gs1OfHint inp.gs1) m) m count data ∧
        t.maskPattern = ((finalMask inp.mask v ec t.headerAndDataBits : Nat) : Int) ∧
        t.finalBits = bitsOfBytes (refCodewords v ec t.headerAndDataBits) ∧
        t.matrix = refByteMatrix v ec (finalMask inp.mask v ec t.headerAndDataBits) (refCodewords v ec t.headerAndDataBits)
    | none => encode K inp = .error .writer :=
  encode_eq_ref hK inp ec hec hcs m hmode bytes count data seg he

/-- non-vacuity of `mirror_encode_eq_ref`: a Kanji-mode input satisfying the codec parameters -/
example : ∃ inp : EncInput, ecOfInt inp.ecLevel = some .M ∧ modeOf inp = .kanji ∧
    (∀ bs, inp.sjis = some bs → ∀ b ∈ bs, b < 256) ∧
    (∀ bs, inp.sjis = some bs → modeOf inp = .kanji → inp.runeCount = bs.length / 2) ∧
    (∀ e, eciOf inp (modeOf inp) = some e → e < 128) :=
  ⟨{ content := [0xE7, 0x82, 0xB9], runeCount := 1, ecLevel := 0, charset := some ⟨true, true, some 20⟩,
     encoded := some [0x93, 0x5F], sjis := some [0x93, 0x5F] }, rfl, by decide, by
      intro bs h b hb; cases h; simp at hb; omega, by intro bs h _; cases h; rfl, by
      intro e h; simp [eciOf] at h; omega⟩

/-- the three proved segment kinds -/
theorem mirror_segment_kinds (inp : EncInput) :
    (∀ bs, inp.encoded = some bs → Segment inp .byte bs bs.length (bitsOfBytes bs)) ∧
    ((∀ c ∈ inp.content, isDigit c) →
      Segment inp .numeric inp.content inp.content.length (packNumeric (inp.content.map (· - 48)))) ∧
    (∀ codes, inp.content.mapM alnumCode = some codes →
      Segment inp .alnum inp.content inp.content.length (packAlnum codes)) :=
  ⟨fun bs h => segment_byte inp bs h, fun h => segment_numeric inp h, fun codes h => segment_alnum inp codes h⟩

example : ∃ inp : EncInput, ecOfInt inp.ecLevel = some .L ∧ inp.encoded = some [72, 105] :=
  ⟨{ content := [72, 105], runeCount := 2, ecLevel := 1, encoded := some [72, 105] }, rfl, rfl⟩

/-! ### the kernels -/

/-- the hand mirrors of the two regenerated kernels (what the driver runs) satisfy the kernel hypothesis -/
theorem mirror_kernels_ok : KernelsOK refKernels := refKernels_ok

example : (5 : Nat) ≤ 8 * dataCodewords 1 .L := by decide

end Gzx.Properties.C07Mirror
