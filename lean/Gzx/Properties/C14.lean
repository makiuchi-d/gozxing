/-
  C14 — Rendering geometry: size, integer scaling, centring and quiet zone.
  The property theorems, with the closed forms `render*_eq` and the small-request facts `qrScale_small`, `dmScale_small`
  the image paths call; helper lemmas live in Gzx/Proofs/Render.lean.
  Model: Gzx/Model/Render.lean (renderQR / renderDM / render1D, tied to qrcode_writer.go renderResult,
  datamatrix_writer.go convertByteMatrixToBitMatrix and one_dimensional_code_writer.go
  onedWriter_renderResult by the `c14` correspondence suite).

  Notation of the property: n = module count on an axis, Q = quiet modules on that axis in total
  (QR: 2·margin; Data Matrix: 0; 1-D: margin, shared between the two sides), out = max(req, n+Q),
  s = ⌊out/(n+Q)⌋ (2-D: min over both axes), pad = ⌊(out − n·s)/2⌋.
  `/` below is Lean's floor division on `Int`; all operands are non-negative under the hypotheses.
-/
import Gzx.Proofs.Render
namespace Gzx.Properties.C14
open Gzx Gzx.Render

/-! ## the quantities of the property statement: `outSize`, `axisScale`, `padOf` are defined in
    Gzx/Proofs/Render.lean next to the arithmetic lemmas about them:
    outSize req n Q = max req (n+Q);  axisScale req n Q = outSize req n Q / (n+Q);  padOf out n s = (out − n·s)/2 -/

/-- QR module size: min over both axes, Q = 2q -/
def qrScale (mw mh : Nat) (q reqW reqH : Int) : Int :=
  min (axisScale reqW mw (2 * q)) (axisScale reqH mh (2 * q))

/-! ## QR -/

section QR
variable (mw mh : Nat) (m : Nat → Nat → Bool) (q reqW reqH : Int)

/-- The model's result in closed form: for a non-negative margin and a non-empty symbol the
    renderer succeeds with the image `max(req, n+2q)` per axis and one `s x s` block per dark module
    at `(padX + i·s, padY + j·s)`. -/
theorem renderQR_eq (hq : 0 ≤ q) (hw : 1 ≤ mw) (hh : 1 ≤ mh) :
    renderQR mw mh m q reqW reqH =
      .ok ⟨outSize reqW mw (2 * q), outSize reqH mh (2 * q),
           rowLoop m mw (padOf (outSize reqW mw (2 * q)) mw (qrScale mw mh q reqW reqH))
             (qrScale mw mh q reqW reqH) (qrScale mw mh q reqW reqH) (qrScale mw mh q reqW reqH) mh 0
             (padOf (outSize reqH mh (2 * q)) mh (qrScale mw mh q reqW reqH))⟩ := by
  obtain ⟨ax1, ax2, -⟩ := axis_facts reqW mw (2 * q) hw (by omega)
  obtain ⟨ay1, ay2, -⟩ := axis_facts reqH mh (2 * q) hh (by omega)
  have hs1 : 1 ≤ qrScale mw mh q reqW reqH := by unfold qrScale; omega
  obtain ⟨-, px2, px3⟩ := pad_facts (outSize reqW mw (2 * q)) mw (2 * q) _ _ (by omega) hs1
    (by unfold qrScale; omega) ax2
  obtain ⟨-, py2, py3⟩ := pad_facts (outSize reqH mh (2 * q)) mh (2 * q) _ _ (by omega) hs1
    (by unfold qrScale; omega) ay2
  have oW : (if (mw : Int) + 2 * q < reqW then reqW else (mw : Int) + 2 * q) = outSize reqW mw (2 * q) := by
    unfold outSize; split <;> omega
  have oH : (if (mh : Int) + 2 * q < reqH then reqH else (mh : Int) + 2 * q) = outSize reqH mh (2 * q) := by
    unfold outSize; split <;> omega
  have hmin : (if axisScale reqW mw (2 * q) > axisScale reqH mh (2 * q) then axisScale reqH mh (2 * q)
      else axisScale reqW mw (2 * q)) = qrScale mw mh q reqW reqH := by
    unfold qrScale; split <;> omega
  have gW := le_outSize reqW mw (2 * q)
  have gH := le_outSize reqH mh (2 * q)
  unfold renderQR
  simp only [Int.mul_comm q 2, oW, oH, goDiv_outSize _ _ _ hw (show 0 ≤ 2 * q by omega),
    goDiv_outSize _ _ _ hh (show 0 ≤ 2 * q by omega), bind, Except.bind, hmin,
    tdiv_two_padOf (outSize reqW mw (2 * q)) mw (qrScale mw mh q reqW reqH) (by omega),
    tdiv_two_padOf (outSize reqH mh (2 * q)) mh (qrScale mw mh q reqW reqH) (by omega)]
  rw [if_neg (by omega)]

/-- clause "the returned image measures max(requested, symbol + quiet zone) on each axis" -/
theorem renderQR_dims (hq : 0 ≤ q) (hw : 1 ≤ mw) (hh : 1 ≤ mh) :
    ∃ img, renderQR mw mh m q reqW reqH = .ok img ∧
      img.w = max reqW ((mw : Int) + 2 * q) ∧ img.h = max reqH ((mh : Int) + 2 * q) :=
  ⟨_, renderQR_eq mw mh m q reqW reqH hq hw hh, rfl, rfl⟩

/-- clause "largest integer module size that fits … centred with the leftover split evenly …
    leaving at least the configured quiet zone (the margin in modules on every side)":
    with s = qrScale and pad = padOf: s ≥ 1; s·(n+2q) fits on both axes and (s+1)·(n+2q) does not fit on
    at least one; the left/top pad is the right/bottom pad or one pixel less; every side keeps ≥ q·s. -/
theorem renderQR_quiet (hq : 0 ≤ q) (hw : 1 ≤ mw) (hh : 1 ≤ mh) :
    let W := outSize reqW mw (2 * q); let H := outSize reqH mh (2 * q)
    let s := qrScale mw mh q reqW reqH
    let padX := padOf W mw s; let padY := padOf H mh s
    1 ≤ s ∧ s * ((mw : Int) + 2 * q) ≤ W ∧ s * ((mh : Int) + 2 * q) ≤ H ∧
    (W < (s + 1) * ((mw : Int) + 2 * q) ∨ H < (s + 1) * ((mh : Int) + 2 * q)) ∧
    q * s ≤ padX ∧ q * s ≤ W - (padX + (mw : Int) * s) ∧
    q * s ≤ padY ∧ q * s ≤ H - (padY + (mh : Int) * s) ∧
    padX ≤ W - (padX + (mw : Int) * s) ∧ W - (padX + (mw : Int) * s) ≤ padX + 1 ∧
    padY ≤ H - (padY + (mh : Int) * s) ∧ H - (padY + (mh : Int) * s) ≤ padY + 1 := by
  intro W H s padX padY
  obtain ⟨ax1, ax2, ax3⟩ := axis_facts reqW mw (2 * q) hw (by omega)
  obtain ⟨ay1, ay2, ay3⟩ := axis_facts reqH mh (2 * q) hh (by omega)
  have hs : 1 ≤ s ∧ s ≤ axisScale reqW mw (2 * q) ∧ s ≤ axisScale reqH mh (2 * q) ∧
      (s = axisScale reqW mw (2 * q) ∨ s = axisScale reqH mh (2 * q)) := by
    show 1 ≤ qrScale mw mh q reqW reqH ∧ qrScale mw mh q reqW reqH ≤ _ ∧ qrScale mw mh q reqW reqH ≤ _ ∧
      (qrScale mw mh q reqW reqH = _ ∨ qrScale mw mh q reqW reqH = _)
    unfold qrScale; omega
  obtain ⟨hs1, hsx, hsy, hmax⟩ := hs
  obtain ⟨-, -, px3⟩ := pad_facts W mw (2 * q) s _ (by omega) hs1 hsx ax2
  obtain ⟨-, -, py3⟩ := pad_facts H mh (2 * q) s _ (by omega) hs1 hsy ay2
  rw [Int.mul_assoc] at px3 py3
  obtain ⟨x1, x2, x3, x4⟩ := pad_split W mw s (q * s) px3
  obtain ⟨y1, y2, y3, y4⟩ := pad_split H mh s (q * s) py3
  have fx : s * ((mw : Int) + 2 * q) = (mw : Int) * s + 2 * (q * s) := by
    rw [Int.mul_add, Int.mul_comm s mw, Int.mul_comm s (2 * q), Int.mul_assoc]
  have fy : s * ((mh : Int) + 2 * q) = (mh : Int) * s + 2 * (q * s) := by
    rw [Int.mul_add, Int.mul_comm s mh, Int.mul_comm s (2 * q), Int.mul_assoc]
  refine ⟨hs1, fx ▸ px3, fy ▸ py3, ?_, x1, x2, y1, y2, x3, x4, y3, y4⟩
  rcases hmax with h | h
  · left; rw [h]; exact ax3
  · right; rw [h]; exact ay3

/-- clause "every module as a uniform block of that size … and everything else is white":
    pixel(x,y) is black iff (x,y) lies in the symbol area and module(⌊(x−padX)/s⌋, ⌊(y−padY)/s⌋) is dark. -/
theorem renderQR_pixel (hq : 0 ≤ q) (hw : 1 ≤ mw) (hh : 1 ≤ mh) :
    ∃ img, renderQR mw mh m q reqW reqH = .ok img ∧
      let s := qrScale mw mh q reqW reqH
      let padX := padOf img.w mw s; let padY := padOf img.h mh s
      ∀ x y : Int, img.px x y = true ↔
        (padX ≤ x ∧ x < padX + (mw : Int) * s ∧ padY ≤ y ∧ y < padY + (mh : Int) * s ∧
          m ((x - padX) / s).toNat ((y - padY) / s).toNat = true) := by
  refine ⟨_, renderQR_eq mw mh m q reqW reqH hq hw hh, ?_⟩
  intro s padX padY x y
  obtain ⟨hs1, -, -, -, qx1, qx2, qy1, qy2, -⟩ := renderQR_quiet mw mh q reqW reqH hq hw hh
  have : 0 ≤ q * qrScale mw mh q reqW reqH := Int.mul_nonneg hq (by omega)
  exact grid_px mw mh m _ _ _ _ _ hs1 (by omega) (by omega) (by omega) (by omega) x y

/-- clause "sampling the centre of each module block gives back exactly the module matrix" -/
theorem renderQR_sample_centres_recover (hq : 0 ≤ q) (hw : 1 ≤ mw) (hh : 1 ≤ mh) :
    ∃ img, renderQR mw mh m q reqW reqH = .ok img ∧
      let s := qrScale mw mh q reqW reqH
      let padX := padOf img.w mw s; let padY := padOf img.h mh s
      ∀ i j : Nat, i < mw → j < mh →
        img.px (padX + (i : Int) * s + s / 2) (padY + (j : Int) * s + s / 2) = m i j := by
  obtain ⟨img, himg, hpx⟩ := renderQR_pixel mw mh m q reqW reqH hq hw hh
  refine ⟨img, himg, ?_⟩
  obtain ⟨hs1, -⟩ := renderQR_quiet mw mh q reqW reqH hq hw hh
  dsimp only at hpx hs1 ⊢
  generalize qrScale mw mh q reqW reqH = s at hpx hs1 ⊢
  generalize padOf img.w mw s = padX at hpx ⊢
  generalize padOf img.h mh s = padY at hpx ⊢
  exact centres_of_pixel mw mh m img s padX padY hs1 hpx

end QR

theorem qrScale_small (n : Nat) (hn : 20 ≤ n) (q reqW reqH : Int) (hq : 0 ≤ q)
    (hsmall : outSize reqW n (2 * q) < 40 ∨ outSize reqH n (2 * q) < 40) : qrScale n n q reqW reqH = 1 := by
  obtain ⟨hs1, fw, fh, -⟩ := renderQR_quiet n n q reqW reqH hq (by omega) (by omega)
  generalize qrScale n n q reqW reqH = s at hs1 fw fh
  by_cases h2 : 2 ≤ s
  · have e : 2 * ((n : Int) + 2 * q) ≤ s * ((n : Int) + 2 * q) := Int.mul_le_mul_of_nonneg_right h2 (by omega)
    omega
  · omega

/-! ## Data Matrix -/

section DM
variable (mw mh : Nat) (m : Nat → Nat → Bool) (reqW reqH : Int)

/-- "the symbol fits in both directions" -/
def dmFits (mw mh : Nat) (reqW reqH : Int) : Bool := decide ((mw : Int) ≤ reqW) && decide ((mh : Int) ≤ reqH)
/-- requested size when the symbol fits in both directions, the bare symbol's size otherwise -/
def dmOut (mw mh : Nat) (reqW reqH : Int) (req : Int) (n : Nat) : Int :=
  if dmFits mw mh reqW reqH then req else (n : Int)
/-- Data Matrix module size: min over both axes, no quiet zone -/
def dmScale (mw mh : Nat) (reqW reqH : Int) : Int := min (axisScale reqW mw 0) (axisScale reqH mh 0)

theorem dmScale_small (hw : 1 ≤ mw) (hh : 1 ≤ mh) (h : dmFits mw mh reqW reqH = false) :
    dmScale mw mh reqW reqH = 1 := by
  obtain ⟨ax1, -, -⟩ := axis_facts reqW mw 0 hw (by omega)
  obtain ⟨ay1, -, -⟩ := axis_facts reqH mh 0 hh (by omega)
  -- a request below the symbol size gives the symbol size, hence scale 1
  have one : ∀ (req : Int) (n : Nat), 1 ≤ n → req < n → axisScale req n 0 = 1 := by
    intro req n hn hlt
    unfold axisScale outSize
    rw [show max req ((n : Int) + 0) = (n : Int) + 0 by omega, Int.ediv_self (by omega)]
  simp only [dmFits, Bool.and_eq_false_iff, decide_eq_false_iff_not] at h
  unfold dmScale
  rcases h with h | h
  · have := one reqW mw hw (by omega); omega
  · have := one reqH mh hh (by omega); omega

/-- closed form of the model's result (both branches) -/
theorem renderDM_eq (hw : 1 ≤ mw) (hh : 1 ≤ mh) :
    renderDM mw mh m reqW reqH =
      .ok ⟨dmOut mw mh reqW reqH reqW mw, dmOut mw mh reqW reqH reqH mh,
           rowLoop m mw (padOf (dmOut mw mh reqW reqH reqW mw) mw (dmScale mw mh reqW reqH))
             (dmScale mw mh reqW reqH) (dmScale mw mh reqW reqH) (dmScale mw mh reqW reqH) mh 0
             (padOf (dmOut mw mh reqW reqH reqH mh) mh (dmScale mw mh reqW reqH))⟩ := by
  have oW : (if reqW < (mw : Int) then (mw : Int) else reqW) = outSize reqW mw 0 := by
    unfold outSize; split <;> omega
  have oH : (if reqH < (mh : Int) then (mh : Int) else reqH) = outSize reqH mh 0 := by
    unfold outSize; split <;> omega
  have dW := goDiv_outSize reqW mw 0 hw (Int.le_refl 0)
  have dH := goDiv_outSize reqH mh 0 hh (Int.le_refl 0)
  rw [Int.add_zero] at dW dH
  have hmin : (if axisScale reqH mh 0 < axisScale reqW mw 0 then axisScale reqH mh 0
      else axisScale reqW mw 0) = dmScale mw mh reqW reqH := by
    unfold dmScale; split <;> omega
  unfold renderDM
  simp only [oW, oH, dW, dH, bind, Except.bind, hmin]
  cases hf : dmFits mw mh reqW reqH with
  | true =>
    have hf' := hf
    simp only [dmFits, Bool.and_eq_true, decide_eq_true_eq] at hf'
    have sm : (decide (reqH < (mh : Int)) || decide (reqW < (mw : Int))) = false := by
      simp only [Bool.or_eq_false_iff, decide_eq_false_iff_not]; omega
    obtain ⟨ax1, ax2, -⟩ := axis_facts reqW mw 0 hw (by omega)
    obtain ⟨ay1, ay2, -⟩ := axis_facts reqH mh 0 hh (by omega)
    have hs1 : 1 ≤ dmScale mw mh reqW reqH := by unfold dmScale; omega
    have eW : outSize reqW mw 0 = reqW := by unfold outSize; omega
    have eH : outSize reqH mh 0 = reqH := by unfold outSize; omega
    obtain ⟨-, -, px3⟩ := pad_facts (outSize reqW mw 0) mw 0 _ _ (by omega) hs1 (by unfold dmScale; omega) ax2
    obtain ⟨-, -, py3⟩ := pad_facts (outSize reqH mh 0) mh 0 _ _ (by omega) hs1 (by unfold dmScale; omega) ay2
    rw [eW] at px3; rw [eH] at py3
    simp only [sm, dmOut, hf, if_true, eW, eH, Bool.false_eq_true, if_false,
      tdiv_two_padOf reqW mw (dmScale mw mh reqW reqH) (by omega),
      tdiv_two_padOf reqH mh (dmScale mw mh reqW reqH) (by omega)]
    rw [if_neg (by omega)]
  | false =>
    have hf' := hf
    simp only [dmFits, Bool.and_eq_false_iff, decide_eq_false_iff_not] at hf'
    have sm : (decide (reqH < (mh : Int)) || decide (reqW < (mw : Int))) = true := by
      simp only [Bool.or_eq_true, decide_eq_true_eq]; omega
    simp only [sm, dmOut, hf, if_true, Bool.false_eq_true, if_false, dmScale_small mw mh reqW reqH hw hh hf,
      padOf, Int.mul_one, Int.sub_self, Int.zero_ediv]
    rw [if_neg (by omega)]

/-- clause "for Data Matrix it has the requested size when the symbol fits in both directions and the
    bare symbol's size otherwise" -/
theorem renderDM_dims (hw : 1 ≤ mw) (hh : 1 ≤ mh) :
    ∃ img, renderDM mw mh m reqW reqH = .ok img ∧
      (((mw : Int) ≤ reqW ∧ (mh : Int) ≤ reqH) → img.w = reqW ∧ img.h = reqH) ∧
      (¬ ((mw : Int) ≤ reqW ∧ (mh : Int) ≤ reqH) → img.w = (mw : Int) ∧ img.h = (mh : Int)) := by
  refine ⟨_, renderDM_eq mw mh m reqW reqH hw hh, ?_, ?_⟩
  · intro h
    have : dmFits mw mh reqW reqH = true := by simp [dmFits, h]
    simp [dmOut, this]
  · intro h
    have : dmFits mw mh reqW reqH = false := by
      simp only [dmFits, Bool.and_eq_false_iff, decide_eq_false_iff_not]; omega
    simp [dmOut, this]

/-- scale, fit, maximality and centring for Data Matrix (quiet zone is zero modules):
    s ≥ 1, the s-scaled symbol fits, s is the largest such size when the request fits, the symbol is
    centred with the leftover split evenly (pads ≥ 0). -/
theorem renderDM_quiet (hw : 1 ≤ mw) (hh : 1 ≤ mh) :
    let W := dmOut mw mh reqW reqH reqW mw; let H := dmOut mw mh reqW reqH reqH mh
    let s := dmScale mw mh reqW reqH
    let padX := padOf W mw s; let padY := padOf H mh s
    1 ≤ s ∧ s * (mw : Int) ≤ W ∧ s * (mh : Int) ≤ H ∧
    (W < (s + 1) * (mw : Int) ∨ H < (s + 1) * (mh : Int)) ∧
    0 ≤ padX ∧ 0 ≤ padY ∧
    padX ≤ W - (padX + (mw : Int) * s) ∧ W - (padX + (mw : Int) * s) ≤ padX + 1 ∧
    padY ≤ H - (padY + (mh : Int) * s) ∧ H - (padY + (mh : Int) * s) ≤ padY + 1 := by
  cases hf : dmFits mw mh reqW reqH with
  | true =>
    -- the request fits: the QR geometry with an empty quiet zone
    have hf' := hf
    simp only [dmFits, Bool.and_eq_true, decide_eq_true_eq] at hf'
    have eW : dmOut mw mh reqW reqH reqW mw = outSize reqW mw 0 := by unfold dmOut outSize; rw [hf]; simp; omega
    have eH : dmOut mw mh reqW reqH reqH mh = outSize reqH mh 0 := by unfold dmOut outSize; rw [hf]; simp; omega
    have es : dmScale mw mh reqW reqH = qrScale mw mh 0 reqW reqH := rfl
    have h := renderQR_quiet mw mh 0 reqW reqH (Int.le_refl 0) hw hh
    simp only [Int.mul_zero, Int.add_zero, Int.zero_mul] at h
    obtain ⟨a1, a2, a3, a4, a5, -, a7, -, a9, a10, a11, a12⟩ := h
    simp only [eW, eH, es]
    exact ⟨a1, a2, a3, a4, a5, a7, a9, a10, a11, a12⟩
  | false =>
    simp only [dmScale_small mw mh reqW reqH hw hh hf, dmOut, hf, padOf, Bool.false_eq_true, if_false]
    omega

/-- pixel formula for Data Matrix, both branches -/
theorem renderDM_pixel (hw : 1 ≤ mw) (hh : 1 ≤ mh) :
    ∃ img, renderDM mw mh m reqW reqH = .ok img ∧
      let s := dmScale mw mh reqW reqH
      let padX := padOf img.w mw s; let padY := padOf img.h mh s
      ∀ x y : Int, img.px x y = true ↔
        (padX ≤ x ∧ x < padX + (mw : Int) * s ∧ padY ≤ y ∧ y < padY + (mh : Int) * s ∧
          m ((x - padX) / s).toNat ((y - padY) / s).toNat = true) := by
  refine ⟨_, renderDM_eq mw mh m reqW reqH hw hh, ?_⟩
  intro s padX padY x y
  obtain ⟨hs1, f1, f2, -, p1, p2, c1, c2, c3, c4⟩ := renderDM_quiet mw mh reqW reqH hw hh
  exact grid_px mw mh m _ _ _ _ _ hs1 p1 p2 (by omega) (by omega) x y

/-- too small a request yields the bare symbol: pixel (x,y) = module (x,y) -/
theorem renderDM_bare (hw : 1 ≤ mw) (hh : 1 ≤ mh) (hsmall : ¬ ((mw : Int) ≤ reqW ∧ (mh : Int) ≤ reqH)) :
    ∃ img, renderDM mw mh m reqW reqH = .ok img ∧ img.w = (mw : Int) ∧ img.h = (mh : Int) ∧
      ∀ i j : Nat, i < mw → j < mh → img.px (i : Int) (j : Int) = m i j := by
  obtain ⟨img, himg, hpx⟩ := renderDM_pixel mw mh m reqW reqH hw hh
  obtain ⟨img', himg', -, hd⟩ := renderDM_dims mw mh m reqW reqH hw hh
  have : img' = img := by rw [himg] at himg'; cases himg'; rfl
  subst this
  obtain ⟨dw, dh⟩ := hd hsmall
  refine ⟨img', himg, dw, dh, ?_⟩
  have hf : dmFits mw mh reqW reqH = false := by
    simp only [dmFits, Bool.and_eq_false_iff, decide_eq_false_iff_not]; omega
  have s1 := dmScale_small mw mh reqW reqH hw hh hf
  dsimp only at hpx
  rw [s1, dw, dh] at hpx
  have z1 : padOf (mw : Int) mw 1 = 0 := by unfold padOf; omega
  have z2 : padOf (mh : Int) mh 1 = 0 := by unfold padOf; omega
  rw [z1, z2] at hpx
  intro i j hi hj
  have h := hpx (i : Int) (j : Int)
  simp only [Int.sub_zero, Int.ediv_one, Int.toNat_natCast, Int.mul_one, Int.zero_add] at h
  exact Bool.eq_iff_iff.mpr (h.trans ⟨fun h => h.2.2.2.2, fun hm => ⟨by omega, by omega, by omega, by omega, hm⟩⟩)

/-- centre sampling recovers the module matrix (both branches) -/
theorem renderDM_sample_centres_recover (hw : 1 ≤ mw) (hh : 1 ≤ mh) :
    ∃ img, renderDM mw mh m reqW reqH = .ok img ∧
      let s := dmScale mw mh reqW reqH
      let padX := padOf img.w mw s; let padY := padOf img.h mh s
      ∀ i j : Nat, i < mw → j < mh →
        img.px (padX + (i : Int) * s + s / 2) (padY + (j : Int) * s + s / 2) = m i j := by
  obtain ⟨img, himg, hpx⟩ := renderDM_pixel mw mh m reqW reqH hw hh
  refine ⟨img, himg, ?_⟩
  obtain ⟨hs1, -⟩ := renderDM_quiet mw mh reqW reqH hw hh
  dsimp only at hpx hs1 ⊢
  generalize dmScale mw mh reqW reqH = s at hpx hs1 ⊢
  generalize padOf img.w mw s = padX at hpx ⊢
  generalize padOf img.h mh s = padY at hpx ⊢
  exact centres_of_pixel mw mh m img s padX padY hs1 hpx

end DM

/-! ## 1-D -/

section OneD
variable (code : List Bool) (reqW reqH margin : Int)

/-- closed form of the model's result: width max(req, n+margin), height max(req, 1), one full-height bar
    of width s = ⌊out/(n+margin)⌋ per dark module, starting at ⌊(out − n·s)/2⌋ -/
theorem render1D_eq (hm : 0 ≤ margin) (hn : 1 ≤ code.length) :
    render1D code reqW reqH margin =
      .ok ⟨outSize reqW code.length margin, max 1 reqH,
           barLoop (axisScale reqW code.length margin) (max 1 reqH) (axisScale reqW code.length margin) code
             (padOf (outSize reqW code.length margin) code.length (axisScale reqW code.length margin))⟩ := by
  obtain ⟨ax1, ax2, -⟩ := axis_facts reqW code.length margin hn hm
  obtain ⟨-, px2, px3⟩ := pad_facts (outSize reqW code.length margin) code.length margin _ _ hm ax1
    (Int.le_refl _) ax2
  have oW : (if reqW ≥ (code.length : Int) + margin then reqW else (code.length : Int) + margin) =
      outSize reqW code.length margin := by unfold outSize; split <;> omega
  have oH : (if (1 : Int) ≥ reqH then 1 else reqH) = max 1 reqH := by split <;> omega
  have gW := le_outSize reqW code.length margin
  unfold render1D
  simp only [oW, oH, goDiv_outSize _ _ _ hn hm, bind, Except.bind,
    tdiv_two_padOf (outSize reqW code.length margin) code.length (axisScale reqW code.length margin) (by omega)]
  rw [if_neg (by omega)]

/-- clause "for … 1-D writers the returned image measures max(requested, symbol + quiet zone)" (height: ≥ 1) -/
theorem render1D_dims (hm : 0 ≤ margin) (hn : 1 ≤ code.length) :
    ∃ img, render1D code reqW reqH margin = .ok img ∧
      img.w = max reqW ((code.length : Int) + margin) ∧ img.h = max 1 reqH :=
  ⟨_, render1D_eq code reqW reqH margin hm hn, rfl, rfl⟩

/-- clause "largest integer module size that fits, … centred with the leftover split evenly, … leaving
    at least the configured quiet zone (1-D: the margin in modules shared between the two sides)" -/
theorem render1D_quiet (hm : 0 ≤ margin) (hn : 1 ≤ code.length) :
    let W := outSize reqW code.length margin
    let s := axisScale reqW code.length margin
    let left := padOf W code.length s
    let right := W - (left + (code.length : Int) * s)
    1 ≤ s ∧ s * ((code.length : Int) + margin) ≤ W ∧ W < (s + 1) * ((code.length : Int) + margin) ∧
    0 ≤ left ∧ margin * s ≤ left + right ∧ left ≤ right ∧ right ≤ left + 1 := by
  intro W s left right
  obtain ⟨ax1, ax2, ax3⟩ := axis_facts reqW code.length margin hn hm
  obtain ⟨px1, px2, px3⟩ := pad_facts W code.length margin s _ hm ax1 (Int.le_refl _) ax2
  have hL : left = (W - (code.length : Int) * s) / 2 := rfl
  have hR : right = W - (left + (code.length : Int) * s) := rfl
  exact ⟨ax1, ax2, ax3, by omega, by omega, by omega, by omega⟩

/-- clause "every module as … a full-height bar … and everything else is white" -/
theorem render1D_pixel (hm : 0 ≤ margin) (hn : 1 ≤ code.length) :
    ∃ img, render1D code reqW reqH margin = .ok img ∧
      let s := axisScale reqW code.length margin
      let left := padOf img.w code.length s
      ∀ x y : Int, img.px x y = true ↔
        (left ≤ x ∧ x < left + (code.length : Int) * s ∧ 0 ≤ y ∧ y < img.h ∧
          code[((x - left) / s).toNat]? = some true) := by
  refine ⟨_, render1D_eq code reqW reqH margin hm hn, ?_⟩
  intro s left x y
  obtain ⟨hs1, -, -, l0, -, lr, -⟩ := render1D_quiet code reqW margin hm hn
  exact bars_px code _ _ _ _ hs1 l0 (by omega) (by omega) x y

/-- clause "sampling the centre of each module block gives back exactly the module matrix" (any row) -/
theorem render1D_sample_centres_recover (hm : 0 ≤ margin) (hn : 1 ≤ code.length) :
    ∃ img, render1D code reqW reqH margin = .ok img ∧
      let s := axisScale reqW code.length margin
      let left := padOf img.w code.length s
      ∀ (i : Nat) (y : Int), i < code.length → 0 ≤ y → y < img.h →
        some (img.px (left + (i : Int) * s + s / 2) y) = code[i]? := by
  obtain ⟨img, himg, hpx⟩ := render1D_pixel code reqW reqH margin hm hn
  refine ⟨img, himg, ?_⟩
  obtain ⟨hs1, -⟩ := render1D_quiet code reqW margin hm hn
  dsimp only at hpx hs1 ⊢
  generalize axisScale reqW code.length margin = s at hpx hs1 ⊢
  generalize padOf img.w code.length s = left at hpx ⊢
  intro i y hi hy0 hyH
  obtain ⟨ni, ei⟩ := block_bounds s i code.length (by omega) hi
  have h := hpx (left + (i : Int) * s + s / 2) y
  rw [block_index_add s left (s / 2) i (by omega) ⟨by omega, by omega⟩] at h
  rw [List.getElem?_eq_getElem hi] at h ⊢
  simp only [Option.some.injEq] at h ⊢
  exact Bool.eq_iff_iff.mpr (h.trans ⟨fun h => h.2.2.2.2, fun hc => ⟨by omega, by omega, hy0, hyH, hc⟩⟩)

end OneD

/-! ## non-vacuity: concrete instances (evaluated by the kernel) -/

/-- a 3x3 "symbol" with a dark diagonal -/
def diag3 : Nat → Nat → Bool := fun i j => i == j

/-- QR-style: n = 3, q = 1 (so n+2q = 5), request 12x17 → 12x17 image, s = min(2,3) = 2, pads 3 and 5 -/
example : (renderQR 3 3 diag3 1 12 17).map (fun img => (img.w, img.h, img.rows.map showBits)) =
    .ok (12, 17, ["000000000000", "000000000000", "000000000000", "000000000000", "000000000000",
                  "000110000000", "000110000000", "000001100000", "000001100000", "000000011000",
                  "000000011000", "000000000000", "000000000000", "000000000000", "000000000000",
                  "000000000000", "000000000000"]) := by decide
example : qrScale 3 3 1 12 17 = 2 ∧ padOf 12 3 2 = 3 ∧ padOf 17 3 2 = 5 := by decide
/-- Data Matrix: fits (7x4 → s = 1, pads 2 and 0) and too small (2x9 → bare 3x3 symbol) -/
example : (renderDM 3 3 diag3 7 4).map (fun img => (img.w, img.h, img.rows.map showBits)) =
    .ok (7, 4, ["0010000", "0001000", "0000100", "0000000"]) := by decide
example : (renderDM 3 3 diag3 2 9).map (fun img => (img.w, img.h, img.rows.map showBits)) =
    .ok (3, 3, ["100", "010", "001"]) := by decide
/-- 1-D: code 101, margin 2 (n+margin = 5), request 11x2 → s = 2, left pad ⌊(11−6)/2⌋ = 2, right pad 3 -/
example : (render1D [true, false, true] 11 2 2).map (fun img => (img.w, img.h, img.rows.map showBits)) =
    .ok (11, 2, ["00110011000", "00110011000"]) := by decide
/-- the hypotheses are needed: margin = −len(code) divides by zero (D13), a negative QR margin can
    yield an image smaller than the symbol -/
example : render1D [true, false, true] 0 0 (-3) = .error (.panic "integer divide by zero") := by decide
example : (renderQR 3 3 diag3 (-1) 0 0).map (fun img => (img.w, img.h)) = .ok (1, 1) := by decide

end Gzx.Properties.C14
