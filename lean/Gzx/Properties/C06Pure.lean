/-
  C06 — decoding is total, part "the pure-barcode path of the image-level readers":
  `QRCodeReader.extractPureBits` / `moduleSize` (qrcode/qrcode_reader.go) and the Data Matrix
  `extractPureBits` / `moduleSize` (datamatrix/datamatrix_reader.go) on EVERY bit matrix.

  Models: Gzx/Model/PureBits.lean, tied to /repo by the `c06rest` correspondence commands
  (harness/zz_detrest_pure.go).  As in Properties/C06Det: `image.Get` is a `Reader`;
    * `Img.rdGo`     — the bounds-checked `BitMatrix.Get` of this tree (answers false outside);
    * `Img.rdStrict` — an unguarded `Get`: reading outside `[0,w) × [0,h)` is a panic.
  `…_total` theorems are about `rdGo` (the code as it is) and hold for every interpretation `FOps` of
  float64; `…_in_bounds` theorems are about `rdStrict`: no read leaves the image, i.e. the algorithm
  does not rely on the guard inside `Get`.  In both, the dropped error of `bits, _ := NewBitMatrix(…)`,
  every `bits.Set(x, y)` and every integer division are panics of the model unless proved safe.
-/
import Gzx.Proofs.PureBits
import Gzx.Properties.C06Det
namespace Gzx.Properties.C06Pure
open Gzx Gzx.Det Gzx.Det.Pure
open Gzx.Properties.C06Det (toyOps)

/-! ## GetTopLeftOnBit / GetBottomRightOnBit -/

/-- the corner scans return a SET cell INSIDE the image (or nil): `leftTopBlack[0..1]`,
    `rightBottomBlack[0..1]` are coordinates with `0 ≤ x < width`, `0 ≤ y < height` -/
theorem pure_corners_inside (img : Img) :
    (∀ p, topLeft img = some p → img.inside p.1 p.2 ∧ img.pix p.1 p.2 = true) ∧
    (∀ p, bottomRight img = some p → img.inside p.1 p.2 ∧ img.pix p.1 p.2 = true) :=
  ⟨fun p h => topLeft_spec img p h, fun p h => bottomRight_spec img p h⟩

/-! ## Data Matrix -/

/-- **Data Matrix `extractPureBits` reads only inside the image and never panics — for every image**
    (any width / height, also 0 or negative; all-black, 1xN, a single pixel in a corner, the last set
    cell left of / above the first one …), with an UNGUARDED `Get`: the outcome is NotFoundException or a
    well-formed matrix (`1 ≤ w`, `1 ≤ h`, exactly `h` rows of `w` cells).  Covered on the way: the
    module-size walk stops before `x == width`; `moduleSize ≠ 0` at both divisions; `NewBitMatrix` gets
    positive dimensions (its dropped error cannot occur); every sampled pixel
    `(left + nudge + x*ms, top + nudge + y*ms)` lies in `[left, right] × [top, bottom]`; every
    `bits.Set(x, y)` is inside the new matrix. -/
theorem dm_pure_in_bounds (img : Img) :
    Sat OnlyNotFound Bits.WF (DM.extractPureBits img.rdStrict img) :=
  DM.extractPureBits_sat img (rdStrict_ok img)

/-- the same for the code as it is (bounds-checked `Get`) -/
theorem dm_pure_total (img : Img) :
    Sat OnlyNotFound Bits.WF (DM.extractPureBits img.rdGo img) :=
  DM.extractPureBits_sat img (fun x y _ => rdGo_ok img x y trivial)

/-- the statement of C06 spelled out: never a panic, never out of fuel, result xor NotFound -/
theorem dm_pure_never_panics (img : Img) :
    (∀ why, DM.extractPureBits img.rdGo img ≠ .error (.panic why)) ∧
    DM.extractPureBits img.rdGo img ≠ .error .fuel ∧
    ((∃ b, DM.extractPureBits img.rdGo img = .ok b ∧ b.WF) ∨ DM.extractPureBits img.rdGo img = .error .notFound) := by
  have h := dm_pure_total img
  exact h.spelled_out

/-- Data Matrix `moduleSize` from ANY start (also outside the image): a module size `≠ 0` or NotFound -/
theorem dm_module_size_total (img : Img) (left top : Int) :
    Sat OnlyNotFound (fun ms => ms ≠ 0) (DM.moduleSize img.rdGo img.w left top) := by
  unfold DM.moduleSize
  refine Sat.then (walk_up_total (rdGo_ok img) _ _ _ _ _ _) ?_
  intro r
  simp only []
  split
  · exact rfl
  · split
    · exact rfl
    · rename_i h; exact Sat.ok h

/-! ### non-vacuity: images on which a matrix is read off / nothing is found -/

/-- 6x6: a 2x2-pixel-per-module rendering of the 2x2 module pattern `10 / 01`, one pixel of quiet zone -/
def dmToy : Img :=
  { w := 6, h := 6, pix := fun x y => decide ((1 ≤ x ∧ x ≤ 2 ∧ 1 ≤ y ∧ y ≤ 2) ∨ (3 ≤ x ∧ x ≤ 4 ∧ 3 ≤ y ∧ y ≤ 4)) }

def allBlack3 : Img := { w := 3, h := 3, pix := fun _ _ => true }
/-- the last set cell lies LEFT of the first one -/
def backwards : Img := { w := 3, h := 2, pix := fun x y => decide ((x = 2 ∧ y = 0) ∨ (x = 0 ∧ y = 1)) }
def onePixel : Img := { w := 1, h := 1, pix := fun _ _ => true }

example : DM.extractPureBits dmToy.rdStrict dmToy = .ok { w := 2, h := 2, rows := [[true, false], [false, true]] } := by decide
example : DM.extractPureBits allBlack3.rdStrict allBlack3 = .error .notFound := by decide
-- negative width: NotFound (no panic)
example : DM.extractPureBits backwards.rdStrict backwards = .error .notFound := by decide

/-! ## QR -/

/-- **QR `extractPureBits` is total — for every image and EVERY interpretation of float64**: no panic
    (the float module size, `MathUtils_Round`, the nudge and the un-nudge corrections may come out as
    anything — `matrixWidth ≤ 0` is rejected before `NewBitMatrix`, whose error is dropped; the loops run
    `x < matrixWidth`, `y < matrixHeight`, so every `bits.Set` is inside), the diagonal walk of
    `moduleSize` ends within `width - left` steps; the outcome is NotFoundException or a well-formed
    SQUARE matrix. -/
theorem qr_pure_total {F : Type} (o : FOps F) (img : Img) :
    Sat OnlyNotFound (fun b => b.WF ∧ b.w = b.h) (QR.extractPureBits o img.rdGo img) :=
  QR.extractPureBits_total o (rdGo_ok img) img

theorem qr_pure_never_panics {F : Type} (o : FOps F) (img : Img) :
    (∀ why, QR.extractPureBits o img.rdGo img ≠ .error (.panic why)) ∧
    QR.extractPureBits o img.rdGo img ≠ .error .fuel ∧
    ((∃ b, QR.extractPureBits o img.rdGo img = .ok b ∧ b.WF ∧ b.w = b.h) ∨
      QR.extractPureBits o img.rdGo img = .error .notFound) := by
  have h := qr_pure_total o img
  exact h.spelled_out

/-- QR `moduleSize` from ANY start (also outside the image): a float or NotFound -/
theorem qr_module_size_total {F : Type} (o : FOps F) (img : Img) (left top : Int) :
    Sat OnlyNotFound (fun _ => True) (QR.moduleSize o img.rdGo img.w img.h left top) :=
  QR.moduleSize_total o (rdGo_ok img) img.w img.h left top

/-- **QR `extractPureBits` reads only inside the image**, with an UNGUARDED `Get`, for every image up to
    `N x N` and every float interpretation that is `PureFloat o N` (half-module nudge not negative; sample
    offsets `int(float64(a)*moduleSize)` non-negative and monotone over the indices used — true of IEEE
    binary64 for `N ≤ 2^31`; the correspondence command `qrpurestrict` checks it on every tested image).
    The module size is `float64(k)/7.0` with `k ≥ 1` because the walk starts on a set cell; the
    "nudged too far" corrections are exactly what keeps `left + offs(matrixWidth-1) ≤ right`. -/
theorem qr_pure_in_bounds {F : Type} (o : FOps F) (img : Img) (N : Int) (hN : img.w ≤ N ∧ img.h ≤ N)
    (hf : QR.PureFloat o N) :
    Sat OnlyNotFound (fun b => b.WF ∧ b.w = b.h) (QR.extractPureBits o img.rdStrict img) := by
  refine QR.extractPureBits_in_bounds o img N hN hf ?_
  intro x y ⟨h1, h2, h3, h4⟩
  have : img.outside x y = false := by
    simp only [Img.outside, Bool.or_eq_false_iff, decide_eq_false_iff_not]
    omega
  simp [Img.rdStrict, this]

/-- non-vacuity of `PureFloat`: the integer toy interpretation satisfies it for every `N` -/
theorem toy_pureFloat (N : Int) : QR.PureFloat toyOps N := by
  constructor
  · intro k hk _
    show 0 ≤ Int.tdiv (Int.tdiv k 7) 2
    exact Int.tdiv_nonneg (Int.tdiv_nonneg (by omega) (by decide)) (by decide)
  · intro k n a b hk _ _ _ ha hab _
    show 0 ≤ a * Int.tdiv k 7 ∧ a * Int.tdiv k 7 ≤ b * Int.tdiv k 7
    have h7 : 0 ≤ Int.tdiv k 7 := Int.tdiv_nonneg (by omega) (by decide)
    exact ⟨Int.mul_nonneg ha h7, Int.mul_le_mul_of_nonneg_right hab h7⟩

/-- 9x9: one 7x7 "module size 1" block pattern with a one-pixel quiet zone; under the toy floats the
    module size is 7/7 = 1 and a 7x7 matrix is read off -/
def qrToy : Img :=
  { w := 9, h := 9, pix := fun x y =>
      decide (1 ≤ x ∧ x ≤ 7 ∧ 1 ≤ y ∧ y ≤ 7 ∧ ¬ (2 ≤ x ∧ x ≤ 6 ∧ 2 ≤ y ∧ y ≤ 6 ∧ ¬ (3 ≤ x ∧ x ≤ 5 ∧ 3 ≤ y ∧ y ≤ 5))) }

example : (QR.extractPureBits toyOps qrToy.rdStrict qrToy).toOption.map (fun b => (b.w, b.h)) = some (7, 7) := by decide
example : QR.extractPureBits toyOps onePixel.rdStrict onePixel = .error .notFound := by decide
/-- the float hypothesis of `qr_pure_in_bounds` cannot be dropped: under an interpretation whose `int(…)` is not
    monotone (3 ↦ 50) the sampling loop reads `(1 + 50, …)` outside the 9x9 image — a panic with an unguarded
    `Get`, while the code as it is (guarded `Get`) still answers (`qr_pure_total`) -/
def badOps : FOps Int := { toyOps with toInt := fun a => if a = 3 then 50 else a }

def outcome {α : Type} : Res α → String
  | .ok _ => "ok"
  | .error e => e.tag

example : outcome (QR.extractPureBits badOps qrToy.rdStrict qrToy) = "PANIC" := by decide +kernel
example : outcome (QR.extractPureBits badOps qrToy.rdGo qrToy) = "ok" := by decide +kernel
example : ¬ QR.PureFloat badOps 9 := by
  intro h
  have := (h.sample_mono 7 8 3 4 (by decide) (by decide) (by decide) (by decide) (by decide) (by decide) (by decide)).2
  exact absurd this (by decide)

-- the hypotheses of `qr_pure_in_bounds` are satisfiable together: the toy floats on the 9x9 image
example : Sat OnlyNotFound (fun b => b.WF ∧ b.w = b.h) (QR.extractPureBits toyOps qrToy.rdStrict qrToy) :=
  qr_pure_in_bounds toyOps qrToy 9 ⟨by decide, by decide⟩ (toy_pureFloat 9)

/-! ## the readers' glue -/

/-- what a matrix decoder may answer (`ReaderFault` of Proofs/Sat.lean, the disjuncts in another order) -/
def DecodeFault : Fault → Prop := fun e => e = .notFound ∨ e = .format ∨ e = .checksum

theorem decodeFault_checked : ∀ e, DecodeFault e → Checked e := fun e h =>
  readerFault_checked e (h.elim Or.inl fun h => h.elim (fun h => Or.inr (Or.inr h)) fun h => Or.inr (Or.inl h))

/-- **`Decode` with PURE_BARCODE is total** whenever the matrix decoder is total on well-formed
    matrices (`qr_decode_total`, `dm_decode_total` of Properties/C06): the composition
    `extractPureBits → decoder.Decode` answers a result or NotFound / Format / Checksum, never a panic. -/
theorem pure_decode_total {α : Type} (extract : Res Bits) (decode : Bits → Res α) (P : Bits → Prop)
    (hx : Sat OnlyNotFound P extract) (hd : ∀ b, P b → Sat DecodeFault (fun _ => True) (decode b)) :
    Sat DecodeFault (fun _ => True) (pureDecode extract decode) := by
  unfold pureDecode
  exact Sat.bind (hx.faults fun _ => Or.inl) hd

theorem pure_decode_never_panics {α : Type} (extract : Res Bits) (decode : Bits → Res α) (P : Bits → Prop)
    (hx : Sat OnlyNotFound P extract) (hd : ∀ b, P b → Sat DecodeFault (fun _ => True) (decode b)) :
    ∀ why, pureDecode extract decode ≠ .error (.panic why) :=
  ((pure_decode_total extract decode P hx hd).no_crash decodeFault_checked).1

-- non-vacuity: the Data Matrix extraction with a decoder that answers FormatException on everything
example : Sat DecodeFault (fun _ => True) (pureDecode (DM.extractPureBits dmToy.rdGo dmToy) (fun _ => (.error .format : Res Unit))) :=
  pure_decode_total _ _ Bits.WF (dm_pure_total dmToy) (fun _ _ => Or.inr (Or.inl rfl))
example : pureDecode (DM.extractPureBits dmToy.rdGo dmToy) (fun _ => (.error .format : Res Unit)) = .error .format := by decide

end Gzx.Properties.C06Pure
