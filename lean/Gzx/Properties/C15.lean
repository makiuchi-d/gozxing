/-
  C15 — character sets and ECI.
  Model: Gzx/Model/ECI.lean + the ECI branch of Gzx/Model/QRDecoder.lean (tied to
  common/character_set_eci.go, common/string_utils.go, qrcode/decoder/decoded_bit_stream_parser.go,
  qrcode/encoder/encoder.go by the `c15` correspondence suites).  Text codecs are parameters: a
  charset is a name here; "the text returns" is the codec assumption dec(enc t) = t, outside Lean.
-/
import Gzx.Proofs.ECILemmas
import Gzx.Proofs.GuessLemmas
import Gzx.Proofs.QRSegments
import Gzx.Proofs.QRMulti
namespace Gzx.Properties.C15
open Gzx Gzx.QRDec Gzx.ECI Gzx.QRPack

/-! ## registry -/

theorem lookup_of_consistent (reg : Registry) (h : consistent reg = true) (e : Entry) (he : e ∈ reg)
    (v : Nat) (hv : v ∈ e.values) : v < 900 ∧ lookupValue reg v = some e := by
  unfold consistent at h
  have h' := List.all_eq_true.mp h e he
  simp only [Bool.and_eq_true, List.all_eq_true, decide_eq_true_eq, beq_iff_eq] at h'
  exact h'.1.2 v hv

/-- Clause "the ECI registry is consistent — every registered value, name and alias resolves to the same
    entry and back", for every registry that passes the decidable check `consistent` (per-run
    obligation `Obligations.C15.registry_consistent` for the regenerated registry): each value of
    each entry resolves to that entry through `GetCharacterSetECIByValue`, each of its names, aliases
    and its IANA name through `GetCharacterSetECIByName`, and the primary value (the one the encoder
    writes) is below 128, so the 8-bit ECI form of `appendECI` is lossless. -/
theorem registry_consistent (reg : Registry) (h : consistent reg = true) (e : Entry) (he : e ∈ reg) :
    (∀ v ∈ e.values, byValue reg (Int.ofNat v) = .ok (some e)) ∧
    (∀ n ∈ e.allNames, byName reg n = some e) ∧
    (∃ v, e.value = .ok v ∧ v < 128 ∧ v ∈ e.values) ∧ e.iana ≠ "" := by
  have h' := List.all_eq_true.mp (by unfold consistent at h; exact h) e he
  simp only [Bool.and_eq_true, List.all_eq_true, decide_eq_true_eq, beq_iff_eq] at h'
  obtain ⟨⟨h1, _⟩, h3⟩ := h'
  refine ⟨?_, h3, ?_, ?_⟩
  · intro v hv
    have ⟨hlt, hl⟩ := lookup_of_consistent reg h e he v hv
    unfold byValue
    have : ¬ ((Int.ofNat v) < 0 ∨ (Int.ofNat v) ≥ 900) := by
      simp only [Int.ofNat_eq_natCast]; omega
    simp only [this, if_false]
    rw [show (Int.ofNat v).toNat = v from rfl, hl]
  · cases hvs : e.values with
    | nil => rw [hvs] at h1; simp at h1
    | cons v vs =>
      rw [hvs] at h1
      simp only [Bool.and_eq_true, decide_eq_true_eq] at h1
      exact ⟨v, by simp [Entry.value, hvs], h1.1, by simp⟩
  · cases hvs : e.values with
    | nil => rw [hvs] at h1; simp at h1
    | cons v vs =>
      rw [hvs] at h1
      simp only [Bool.and_eq_true, bne_iff_ne, ne_eq] at h1
      exact h1.2

/-- "and back": a successful lookup by value returns a registered entry that lists the value — an
    unregistered number never yields an entry by accident -/
theorem byValue_sound (reg : Registry) (v : Int) (e : Entry) (h : byValue reg v = .ok (some e)) :
    e ∈ reg ∧ 0 ≤ v ∧ v < 900 ∧ v.toNat ∈ e.values := by
  unfold byValue at h
  split at h
  · cases h
  · rename_i hr
    have hf : lookupValue reg v.toNat = some e := by
      simpa using h
    unfold lookupValue at hf
    have hm := List.mem_of_find?_eq_some hf
    have hp := List.find?_some hf
    refine ⟨List.mem_reverse.mp hm, by omega, by omega, ?_⟩
    simpa using hp

/-- values (and names) of different entries are disjoint: two registered entries sharing a value or a
    name are the same entry -/
theorem values_disjoint (reg : Registry) (h : consistent reg = true) (e f : Entry) (he : e ∈ reg) (hf : f ∈ reg)
    (v : Nat) (hve : v ∈ e.values) (hvf : v ∈ f.values) : e = f := by
  have a := (registry_consistent reg h e he).1 v hve
  have b := (registry_consistent reg h f hf).1 v hvf
  rw [a] at b
  exact Option.some.inj (Except.ok.inj b)

theorem names_disjoint (reg : Registry) (h : consistent reg = true) (e f : Entry) (he : e ∈ reg) (hf : f ∈ reg)
    (n : String) (hne : n ∈ e.allNames) (hnf : n ∈ f.allNames) : e = f := by
  have a := (registry_consistent reg h e he).2.1 n hne
  have b := (registry_consistent reg h f hf).2.1 n hnf
  rw [a] at b
  exact Option.some.inj b

/-- the structural reading of "pairwise disjoint" (`disjointPairs`) follows from consistency when no entry
    is listed twice: entries sharing a value or a name are the same entry -/
theorem disjointPairs_of_consistent (reg : Registry) (h : consistent reg = true) (hn : reg.Nodup) :
    disjointPairs reg = true := by
  suffices ∀ l : Registry, (∀ e ∈ l, e ∈ reg) → l.Nodup → disjointPairs l = true from this reg (fun _ he => he) hn
  intro l
  induction l with
  | nil => intro _ _; rfl
  | cons e rest ih =>
    intro hsub hnd
    rw [List.nodup_cons] at hnd
    have he := hsub e List.mem_cons_self
    unfold disjointPairs
    simp only [Bool.and_eq_true, List.all_eq_true, Bool.not_eq_true']
    refine ⟨fun f hf => ?_, ih (fun g hg => hsub g (List.mem_cons_of_mem _ hg)) hnd.2⟩
    have hf' := hsub f (List.mem_cons_of_mem _ hf)
    have hne : e ≠ f := fun heq => hnd.1 (heq ▸ hf)
    constructor
    · intro v hv
      cases hc : f.values.contains v with
      | false => rfl
      | true => exact absurd (values_disjoint reg h e f he hf' v hv (by simpa using hc)) hne
    · intro n hn'
      cases hc : f.allNames.contains n with
      | false => rfl
      | true => exact absurd (names_disjoint reg h e f he hf' n hn' (by simpa using hc)) hne

/-- `GetCharacterSetECIByValue` range rule: outside 0..899 is a FormatException -/
theorem byValue_range (reg : Registry) (v : Int) (h : v < 0 ∨ v ≥ 900) : byValue reg v = .error .format := by
  unfold byValue; simp [h]

/-! ## ECI designators -/

/-- Clause "forall ECI numbers 0..999999": every designator in each form the standard allows for it
    (1 byte below 128, 2 bytes below 16384, 3 bytes up to 999999 — indeed below 2^21) parses to
    exactly that number, whatever follows. -/
theorem eci_parse_total (form v : Nat) (rest : List Bool)
    (h : (form = 1 ∧ v < 128) ∨ (form = 2 ∧ v < 16384) ∨ (form = 3 ∧ v ≤ 999999)) :
    parseECIValue (encodeECIValue form v ++ rest) = .ok (v, rest) := by
  rcases h with ⟨rfl, hv⟩ | ⟨rfl, hv⟩ | ⟨rfl, hv⟩
  · exact parseECI_form1 v hv rest
  · exact parseECI_form2 v hv rest
  · exact parseECI_form3 v (by omega) rest

/-- one round of the segment loop on an ECI header: the designator is parsed and looked up; a
    registered number switches the current character set, anything else (≥ 900, or unregistered) is a
    FormatException — never a panic, never another entry -/
theorem parseLoop_eci (reg : Registry) (ver : Nat) (hint : Hint) (fuel : Nat) (st : PSt)
    (form v : Nat) (rest : List Bool)
    (h : (form = 1 ∧ v < 128) ∨ (form = 2 ∧ v < 16384) ∨ (form = 3 ∧ v ≤ 999999)) :
    parseLoop reg ver hint (fuel + 1) st (natToBits 4 7 ++ (encodeECIValue form v ++ rest)) =
      match lookupValue reg v with
      | some e => if v < 900 then parseLoop reg ver hint fuel { st with eci := some e } rest else .error .format
      | none => .error .format :=
  QRMulti.parseLoop_eci reg ver hint fuel st _ v rest (eci_parse_total form v rest h)

/-- Clause "an unregistered or out-of-range ECI number in a symbol is a format error" -/
theorem eci_unregistered_is_format_error (reg : Registry) (ver : Nat) (hint : Hint) (fuel : Nat) (st : PSt)
    (form v : Nat) (rest : List Bool)
    (h : (form = 1 ∧ v < 128) ∨ (form = 2 ∧ v < 16384) ∨ (form = 3 ∧ v ≤ 999999))
    (hu : v ≥ 900 ∨ lookupValue reg v = none) :
    parseLoop reg ver hint (fuel + 1) st (natToBits 4 7 ++ (encodeECIValue form v ++ rest)) = .error .format := by
  rw [parseLoop_eci reg ver hint fuel st form v rest h]
  rcases hu with h9 | hn
  · have : ¬ v < 900 := by omega
    cases lookupValue reg v <;> simp [this]
  · rw [hn]

/-- Clause "a QR Code … carries the registered ECI designator and decodes … whatever the decoder would
    otherwise have guessed" (header logic): for an entry `e` of a consistent registry, the header that
    `appendECI` writes is read back by the parser as exactly `e`, which then overrides guess and hint
    for the following byte segment. -/
theorem eci_header_inv (reg : Registry) (hc : consistent reg = true) (e : Entry) (he : e ∈ reg)
    (ver : Nat) (hint : Hint) (fuel : Nat) (st : PSt) (rest : List Bool) :
    ∃ hdr, appendECI e = .ok hdr ∧
      parseLoop reg ver hint (fuel + 1) st (hdr ++ rest) =
        parseLoop reg ver hint fuel { st with eci := some e } rest := by
  obtain ⟨_, _, ⟨v, hv, hlt, hmem⟩, _⟩ := registry_consistent reg hc e he
  refine ⟨natToBits 4 7 ++ natToBits 8 v, by simp [appendECI, hv, bind, Except.bind], ?_⟩
  have hl : lookupValue reg v = some e := (lookup_of_consistent reg hc e he v hmem).2
  have h := parseLoop_eci reg ver hint fuel st 1 v rest (Or.inl ⟨rfl, hlt⟩)
  simp only [encodeECIValue, if_true] at h
  rw [List.append_assoc, h, hl]
  simp [show v < 900 by omega]

/-- Clause "with a character-set hint naming any supported encoding, a QR Code … carries the registered
    ECI designator" (encoder side, `Encoder_encode`): the hint may be the name, any alias or the IANA
    name of an entry `e`; in byte mode the header written is `appendECI e` — the primary value of the
    same entry, although the code finds it again through the IANA name of the charset object. -/
theorem enc_header_carries_designator (reg : Registry) (hc : consistent reg = true) (e : Entry) (he : e ∈ reg)
    (n : String) (hn : n ∈ e.allNames) (isStr : Bool) :
    encCharset reg (some ⟨n, isStr⟩) = .ok (some e) ∧
    encEciHeader reg (some ⟨n, isStr⟩) .byte = appendECI e := by
  obtain ⟨_, hnames, _, hi⟩ := registry_consistent reg hc e he
  have h1 : byName reg n = some e := hnames n hn
  have h2 : byName reg e.iana = some e := hnames e.iana (by simp [Entry.allNames])
  constructor
  · simp [encCharset, h1]
  · simp [encEciHeader, encCharset, h1, bind, Except.bind, hi, byCharset, h2]

/-- an unknown charset name is refused (WriterException) -/
theorem enc_unknown_hint_refused (reg : Registry) (n : String) (h : byName reg n = none) :
    encCharset reg (some ⟨n, true⟩) = .error .writer := by
  simp [encCharset, h]

/-- … and with a current ECI entry the byte segment is decoded with that entry's charset, not with the
    guess and not with the decode-side hint -/
theorem eci_overrides_guess (reg : Registry) (count : Nat) (bits : List Bool) (e : Entry) (hint : Hint)
    (cs : Charset) (bytes : List Nat) (rest : List Bool)
    (h : decodeByte reg count bits (some e) hint = .ok (cs, bytes, rest)) : cs = .named e.name := by
  unfold decodeByte at h
  split at h
  · cases h
  · simp only [bind, Except.bind] at h
    split at h
    · cases h
    · simp only [Except.ok.injEq, Prod.mk.injEq] at h
      exact h.1.symm

/-! ## guessCharset -/

theorem first_byte_lt (chars : List (List Nat)) (h : ∀ c ∈ chars, wfChar c = true) (b : Nat) (rest : List Nat)
    (hb : chars.flatten = b :: rest) : b < 0xF8 := by
  induction chars with
  | nil => simp at hb
  | cons c cs ih =>
    have hc := h c (by simp)
    match c, hc with
    | [a], hc => simp only [wfChar, decide_eq_true_eq] at hc; simp at hb; omega
    | [l, _], hc =>
      simp only [wfChar, Bool.and_eq_true, decide_eq_true_eq] at hc; simp at hb; omega
    | [l, _, _], hc =>
      simp only [wfChar, Bool.and_eq_true, decide_eq_true_eq] at hc; simp at hb; omega
    | [l, _, _, _], hc =>
      simp only [wfChar, Bool.and_eq_true, decide_eq_true_eq] at hc; simp at hb; omega

/-- Clause "without a hint, UTF-8 text decodes as itself" — what `guessCharset` guarantees: a byte
    string made of structurally well-formed UTF-8 characters (every valid UTF-8 string is one) that
    contains at least one multi-byte character is guessed as UTF-8, for every registry and whatever
    the Shift_JIS / ISO-8859-1 statistics of the same bytes say. -/
theorem guess_utf8 (reg : Registry) (chars : List (List Nat)) (h : ∀ c ∈ chars, wfChar c = true)
    (hm : 0 < multiCount chars) : guessCharset reg chars.flatten .none = .ok .utf8 := by
  have hu : Good ((chars.flatten.foldl guessStep {}).u) (0 + multiCount chars) := by
    rw [foldl_guessStep_u]
    exact chars_step chars h {} 0 ⟨rfl, rfl, rfl⟩
  obtain ⟨hcan, hleft, hn⟩ := hu
  have hdec : guessDecide chars.flatten (chars.flatten.foldl guessStep {}) = .utf8 := by
    unfold guessDecide
    have : (chars.flatten.foldl guessStep {}).u.two + (chars.flatten.foldl guessStep {}).u.three +
        (chars.flatten.foldl guessStep {}).u.four > 0 := by omega
    simp [hcan, hleft, this]
  unfold guessCharset
  simp only
  split
  · rename_i x hx
    have := first_byte_lt chars h _ _ hx
    omega
  · rename_i x hx
    have := first_byte_lt chars h _ _ hx
    omega
  · rw [hdec]

/-- … and a 7-bit (ASCII-only) byte string is guessed as ISO-8859-1 (as Shift_JIS when it is empty):
    not UTF-8, but both decode 7-bit bytes to the same characters as UTF-8 does (codec assumption,
    validated by the `c15` single-byte sweeps), so the text still returns. -/
theorem guess_ascii (reg : Registry) (bytes : List Nat) (h : ∀ b ∈ bytes, b < 0x80) :
    guessCharset reg bytes .none = .ok (if bytes = [] then .sjis else .latin1) := by
  have hdec : guessDecide bytes (bytes.foldl guessStep {}) = (if bytes = [] then .sjis else .latin1) := by
    rw [foldl_guessStep_ascii bytes h]
    unfold guessDecide
    have hb : hasUtf8Bom bytes = false := by
      unfold hasUtf8Bom
      split
      · have := h 0xEF (by simp); omega
      · rfl
    simp only [hb]
    cases bytes with
    | nil => simp
    | cons b bs => simp
  unfold guessCharset
  simp only
  split
  · have := h 0xFE (by simp); omega
  · have := h 0xFF (by simp); omega
  · rw [hdec]

/-- what is NOT guaranteed, by counterexample: bytes that are not UTF-8 but happen to scan as UTF-8 are
    taken for UTF-8 (e.g. Latin-1 "Ã©" = C3 A9), and a UTF-8 byte-order mark alone decides for UTF-8 -/
example : guessCharset [] [0xC3, 0xA9] .none = .ok .utf8 := by decide
example : guessCharset [] [0xE9, 0x41] .none = .ok .latin1 := by decide
example : guessCharset [] [0xB1, 0xB2] .none = .ok .sjis := by decide

/-- non-vacuity of `guess_utf8`: "é" followed by "A" -/
example : (∀ c ∈ [[0xC3, 0xA9], [0x41]], wfChar c = true) ∧ 0 < multiCount [[0xC3, 0xA9], [0x41]] := by decide

/-- Clause "decode-side CHARACTER_SET hints are honoured for undesignated byte segments": with a hint
    naming a registered charset the guess is that entry, whatever the bytes are -/
theorem hint_honoured (reg : Registry) (bytes : List Nat) (n : String) (iana : Nat) (e : Entry)
    (h : byName reg n = some e) : guessCharset reg bytes (.name n iana) = .ok (.named e.name) := by
  simp [guessCharset, h]

theorem hint_object_honoured (reg : Registry) (bytes : List Nat) (id : String) :
    guessCharset reg bytes (.object id) = .ok (.object id) := rfl

/-! ## header + payload -/

/-- Round trip up to the codec: with a CHARACTER_SET hint naming entry `e` by any of its names, the
    encoder's header followed by a byte segment carrying the bytes `bs` (the charset's encoding of the
    text) and a terminator parses to exactly one text segment `(charset of e, bs)` — whatever
    `guessCharset` would have said about `bs` and whatever decode-side hint is given.  With the codec
    assumption dec_e (enc_e t) = t the text returns.  (`-1, -1`: no structured append, sequence and parity
    unset; `2`: the symbology modifier for "ECI present, no FNC1".) -/
theorem eci_roundtrip (reg : Registry) (hc : consistent reg = true) (e : Entry) (he : e ∈ reg)
    (n : String) (hn : n ∈ e.allNames) (isStr : Bool) (ver : Nat) (hint : Hint)
    (bs : List Nat) (hb : ∀ b ∈ bs, b < 256) (hlen : bs.length < 2 ^ countWidth 2 ver)
    (tail : List Bool) (ht : Terminated tail) :
    ∃ hdr, encEciHeader reg (some ⟨n, isStr⟩) .byte = .ok hdr ∧
      parseStream reg (hdr ++ (segment 4 (countWidth 2 ver) bs.length (packBytes bs) ++ tail)) ver hint =
        .ok ⟨[.text (.named e.name) bs], [bs], -1, -1, 2⟩ := by
  obtain ⟨_, _, ⟨v, hv, hlt, hmem⟩, _⟩ := registry_consistent reg hc e he
  have hl : lookupValue reg v = some e := (lookup_of_consistent reg hc e he v hmem).2
  refine ⟨natToBits 4 7 ++ natToBits 8 v, ?_, ?_⟩
  · rw [(enc_header_carries_designator reg hc e he n hn isStr).2]
    simp [appendECI, hv, bind, Except.bind]
  · have h := QRMulti.parseStream_items reg ver hint (fun _ => .sjis) [.eci v, .byte bs] (by
      intro it hit
      rcases List.mem_cons.mp hit with rfl | hit
      · exact ⟨⟨by omega, by rw [hl]; rfl⟩, trivial⟩
      · rcases List.mem_singleton.mp hit with rfl; exact ⟨hb, hlen⟩) (fun _ h => nomatch h) tail ht
    simp only [QRMulti.bitsOf, QRMulti.Item.bits, QRMulti.eciBits, if_pos hlt, List.append_assoc,
      List.append_nil] at h
    rw [List.append_assoc, h]
    simp only [QRMulti.run, QRMulti.step, hl, QRMulti.toParsed, symbologyModifier]
    rfl

end Gzx.Properties.C15
