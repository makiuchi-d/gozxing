/-
  C19 — grid sampling is bounded: decision logic of GridSampler_checkAndNudgePoints and
  DefaultGridSampler.SampleGridWithTransform.  Property theorems only (core Lean); helper lemmas in
  Gzx/Proofs/GridSampler.lean; the algebra of the perspective transform is in GzxM/Perspective.lean.

  Model: Gzx/Model/GridSampler.lean, Gzx/Model/Perspective.lean (tied to common/*.go by the `c19`
  correspondence suite).  Coordinates are exact rationals; `trunc` is Go's `int(float64)`.
  Everything is stated on pixel indices `trunc x`: index -1 / n is "one pixel outside".
  Image sizes are ≥ 1 (NewBitMatrix refuses anything else).

  Honest limit (recorded as known finding `nudge-trunc-grey`): because `int()` truncates toward zero,
  index -1 stands for the coordinates (-2,-1], so on the left/top side a point up to (just under) two
  pixels outside is still pulled back, whereas on the right/bottom side the tolerance is one pixel.
  See `trunc_grey_zone` below.
-/
import Gzx.Proofs.GridSampler
namespace Gzx.Properties.C19
open Gzx Gzx.Perspective Gzx.GridSampler

/-! ## checkAndNudgePoints -/

/-- "pulled back onto the edge … on all four sides alike" (structure): whenever the check succeeds,
    the FIRST and the LAST point of the row have both been replaced by `clampPt` of themselves —
    one and the same function for both passes and both ends — and every other point is either
    untouched or replaced by that same `clampPt` (and then it was at most one pixel index outside). -/
theorem nudge_symmetric (w h : Int) (hw : 1 ≤ w) (hh : 1 ≤ h) (ps ps' : List Pt)
    (hok : checkAndNudge w h ps = .ok ps') :
    ps'.head? = ps.head?.map (clampPt w h) ∧ ps'.getLast? = ps.getLast?.map (clampPt w h) ∧
    All2 (Moved w h) ps ps' := by
  obtain ⟨e1, e2⟩ := checkAndNudge_ends hw hh hok
  have hall := checkAndNudge_moved hw hh hok
  refine ⟨?_, ?_, hall⟩
  · cases hp : ps.head? with
    | none =>
      have : ps = [] := by simpa using hp
      subst this
      cases hall; rfl
    | some p => simpa using (e1 p hp).2
  · cases hq : ps.getLast? with
    | none =>
      have : ps = [] := by simpa using hq
      subst this
      cases hall; rfl
    | some q => simpa using (e2 q hq).2

/-- what `clampPt` is, on pixel indices: index -1 becomes 0, index n becomes n-1, an index inside the
    image is not touched — the same for x (n = w) and y (n = h). -/
theorem clamp_edges (n : Int) (hn : 1 ≤ n) (x : Rat) :
    (trunc x = -1 → trunc (clampCoord n x) = 0) ∧
    (trunc x = n → trunc (clampCoord n x) = n - 1) ∧
    (0 ≤ trunc x → trunc x < n → clampCoord n x = x) := by
  refine ⟨?_, ?_, ?_⟩
  · intro h; rw [clampCoord_low h, trunc_zero]
  · intro h
    have h1 : trunc x ≠ -1 := by omega
    rw [clampCoord_high h1 h, trunc_intCast]
  · intro h0 h1; exact clampCoord_inside h0 h1

/-- the four edges of one end point, on pixel indices -/
def PulledOnto (w h : Int) (p p' : Pt) : Prop :=
  (trunc p.1 = -1 → trunc p'.1 = 0) ∧ (trunc p.1 = w → trunc p'.1 = w - 1) ∧
  (trunc p.2 = -1 → trunc p'.2 = 0) ∧ (trunc p.2 = h → trunc p'.2 = h - 1) ∧
  (0 ≤ trunc p.1 → trunc p.1 < w → p'.1 = p.1) ∧ (0 ≤ trunc p.2 → trunc p.2 < h → p'.2 = p.2)

theorem pulledOnto_clamp (w h : Int) (hw : 1 ≤ w) (hh : 1 ≤ h) (p : Pt) : PulledOnto w h p (clampPt w h p) := by
  obtain ⟨a1, a2, a3⟩ := clamp_edges w hw p.1
  obtain ⟨b1, b2, b3⟩ := clamp_edges h hh p.2
  exact ⟨a1, a2, b1, b2, a3, b3⟩

/-- "x = -1, x = w, y = -1, y = h are pulled to 0 / w-1 / 0 / h-1 in BOTH passes alike": the first point
    of the row (handled by the loop from the start) and the last point (handled by the loop from the
    end) satisfy the very same four-edge statement; both end up inside the image. -/
theorem nudge_four_edges_both_ends (w h : Int) (hw : 1 ≤ w) (hh : 1 ≤ h) (ps ps' : List Pt)
    (hok : checkAndNudge w h ps = .ok ps') :
    (∀ p, ps.head? = some p → ∃ p', ps'.head? = some p' ∧ PulledOnto w h p p' ∧ inImage w h p') ∧
    (∀ q, ps.getLast? = some q → ∃ q', ps'.getLast? = some q' ∧ PulledOnto w h q q' ∧ inImage w h q') := by
  obtain ⟨e1, e2⟩ := checkAndNudge_ends hw hh hok
  constructor
  · intro p hp
    exact ⟨_, (e1 p hp).2, pulledOnto_clamp w h hw hh p, inImage_clampPt hw hh (e1 p hp).1⟩
  · intro q hq
    exact ⟨_, (e2 q hq).2, pulledOnto_clamp w h hw hh q, inImage_clampPt hw hh (e2 q hq).1⟩

/-- "anything farther is a not-found error": if the first or the last point of the row has a pixel
    index below -1 or above w (resp. h), the result is NotFound. -/
theorem nudge_rejects_beyond (w h : Int) (hw : 1 ≤ w) (hh : 1 ≤ h) (ps : List Pt) (p : Pt)
    (hend : ps.head? = some p ∨ ps.getLast? = some p)
    (hfar : trunc p.1 < -1 ∨ trunc p.1 > w ∨ trunc p.2 < -1 ∨ trunc p.2 > h) :
    checkAndNudge w h ps = .error .notFound := by
  cases hres : checkAndNudge w h ps with
  | error e => rw [checkAndNudge_error hres]
  | ok ps' =>
    exfalso
    obtain ⟨e1, e2⟩ := checkAndNudge_ends hw hh hres
    have hb : beyond w h p = false := by
      rcases hend with hp | hp
      · exact (e1 p hp).1
      · exact (e2 p hp).1
    have := not_beyond_iff.mp hb
    omega

/-- …and nothing else is: a row in which every point is at most one pixel index outside is accepted. -/
theorem nudge_accepts_within (w h : Int) (hw : 1 ≤ w) (hh : 1 ≤ h) (ps : List Pt)
    (hall : ∀ p ∈ ps, -1 ≤ trunc p.1 ∧ trunc p.1 ≤ w ∧ -1 ≤ trunc p.2 ∧ trunc p.2 ≤ h) :
    ∃ ps', checkAndNudge w h ps = .ok ps' := by
  obtain ⟨ps1, h1, a1⟩ := nudgePass_within hw hh ps (fun p hp => not_beyond_iff.mpr (hall p hp))
  obtain ⟨ps2, h2, _⟩ := nudgePass_within hw hh ps1.reverse (fun p hp => a1 p (by simpa using hp))
  exact ⟨ps2.reverse, checkAndNudge_ok_iff.mpr ⟨ps1, ps2, h1, h2, rfl⟩⟩

/-- the check never panics: its only failure is NotFound -/
theorem nudge_total (w h : Int) (ps : List Pt) (e : Fault) (herr : checkAndNudge w h ps = .error e) :
    e = .notFound := checkAndNudge_error herr

/-- points inside the image are left alone: if the first and the last point are inside, nothing at
    all is modified (in particular when every point is inside). -/
theorem nudge_idempotent_inside (w h : Int) (ps : List Pt)
    (hfirst : ∀ p, ps.head? = some p → inImage w h p) (hlast : ∀ p, ps.getLast? = some p → inImage w h p) :
    checkAndNudge w h ps = .ok ps := by
  cases ps with
  | nil => simp [checkAndNudge, nudgePass, nudgePassG]
  | cons p rest =>
    have h1 : nudgePass w h (p :: rest) = .ok (p :: rest) := nudgePass_inside_head (hfirst p rfl)
    cases hr : (p :: rest).reverse with
    | nil => simp at hr
    | cons q r =>
      have hq : (p :: rest).getLast? = some q := by
        rw [← List.head?_reverse, hr]; rfl
      have h2 : nudgePass w h (q :: r) = .ok (q :: r) := nudgePass_inside_head (hlast q hq)
      apply checkAndNudge_ok_iff.mpr
      refine ⟨p :: rest, q :: r, h1, by rw [hr]; exact h2, ?_⟩
      rw [← hr, List.reverse_reverse]

theorem nudge_idempotent_all_inside (w h : Int) (ps : List Pt) (hall : ∀ p ∈ ps, inImage w h p) :
    checkAndNudge w h ps = .ok ps :=
  nudge_idempotent_inside w h ps (fun p hp => hall p (List.mem_of_mem_head? hp))
    (fun p hp => hall p (List.mem_of_getLast? hp))

/-- The exported function on an even-length interleaved slice is `checkAndNudge` on the points. -/
theorem checkAndNudgePoints_even (w h : Int) (ps : List Pt) :
    checkAndNudgePoints w h (fromPairs ps) =
      (match checkAndNudge w h ps with
       | .ok ps' => .ok (fromPairs ps')
       | .error e => .error e) := by
  have tp : ∀ l : List Pt, toPairs (fromPairs l) = (l, []) := by
    intro l
    induction l with
    | nil => rfl
    | cons a l ih => simp [fromPairs, toPairs, ih]
  have ev : ∀ l : List Pt, (fromPairs l).length % 2 = 0 := by
    intro l
    induction l with
    | nil => rfl
    | cons a l ih => simp only [fromPairs, List.length_cons]; omega
  unfold checkAndNudgePoints passFwd checkAndNudge
  rw [tp]
  cases h1 : nudgePass w h ps with
  | error e => rfl
  | ok ps1 =>
    simp only [List.append_nil]
    unfold passBwd
    rw [if_pos (ev ps1)]
    unfold passBwdEven
    rw [tp]
    cases h2 : nudgePass w h ps1.reverse with
    | error e => rfl
    | ok ps2 => simp

/-- D8, the tree before the repair: the loop from the start sent `y == height` to `height`, the loop
    from the end to `height - 1`; first point (5,10) of a 10x10 image stays at row 10 (outside). -/
example : checkAndNudgeD8 10 10 [(5, 10), (5, 5)] = .ok [(5, 10), (5, 5)] := by decide
/-- …after the repair it is pulled onto row 9 like every other edge. -/
example : checkAndNudge 10 10 [(5, 10), (5, 5)] = .ok [(5, 9), (5, 5)] := by decide
/-- all four edges, both ends (the repository's own unit-test row) -/
example : checkAndNudge 10 10 [(-1, -1), (10, 10), (0, 0), (-1, -1), (10, 10)]
    = .ok [(0, 0), (9, 9), (0, 0), (0, 0), (9, 9)] := by decide
/-- non-vacuity of `nudge_rejects_beyond` / `nudge_accepts_within` -/
example : checkAndNudge 10 10 [(5, 5), (11, 0)] = .error .notFound := by decide
example : checkAndNudge 10 10 [(5, 5), (-2, 0)] = .error .notFound := by decide

/-- Truncation toward zero: the coordinate -3/2 is one and a half pixels left of the image, its pixel
    index `int(-1.5)` is -1, so it is accepted and pulled onto column 0 (known finding
    `nudge-trunc-grey`; on the right/bottom side 10 + 1 = 11 is already rejected, see above).
    On coordinates: NotFound is guaranteed for x ≤ -2 and x ≥ n + 1 only. -/
theorem trunc_grey_zone :
    trunc (-3/2 : Rat) = -1 ∧ checkAndNudge 10 10 [((-3/2 : Rat), 0)] = .ok [(0, 0)] := by decide +kernel

/-! ## SampleGridWithTransform -/

/-- "no pixel outside the image is ever read": the result — bits, NotFound, or whatever failure a
    pixel access may raise — is the same for any two images that agree on `[0,w) × [0,h)`.
    Since `get` lives in `Except` and evaluation is left-to-right, this includes reads made before a
    later NotFound: an access outside the image could be made to fail and would change the result. -/
theorem sample_reads_in_bounds (img img' : Image) (hw : img'.w = img.w) (hh : img'.h = img.h)
    (hagree : ∀ x y, 0 ≤ x → x < img.w → 0 ≤ y → y < img.h → img'.get x y = img.get x y)
    (dimX dimY : Int) (t : PT Rat) :
    sampleGridWithTransform img' dimX dimY t = sampleGridWithTransform img dimX dimY t := by
  have hr : readPoint img' = readPoint img := by
    funext p
    simp only [readPoint, readPointG, hw, hh, Bool.true_and]
    split
    · rfl
    · next hc =>
      simp only [Bool.or_eq_true, decide_eq_true_eq, not_or, Int.not_le, Int.not_lt] at hc
      exact hagree _ _ (by omega) (by omega) (by omega) (by omega)
  have hrow : sampleRow img' t = sampleRow img t := by
    funext dx y
    simp only [sampleRow, hw, hh, hr]
  simp only [sampleGridWithTransform, hrow]

/-- in particular an image whose accessor panics outside `[0,w) × [0,h)` (Java's behaviour) never
    makes the sampler panic: the only failure is NotFound. -/
theorem sample_total (img : Image)
    (hget : ∀ x y, 0 ≤ x → x < img.w → 0 ≤ y → y < img.h → ∃ b, img.get x y = .ok b)
    (dimX dimY : Int) (t : PT Rat) (e : Fault)
    (herr : sampleGridWithTransform img dimX dimY t = .error e) : e = .notFound := by
  unfold sampleGridWithTransform at herr
  split at herr
  · cases herr; rfl
  · obtain ⟨y, _, hy⟩ := mapRes_error herr
    unfold sampleRow at hy
    split at hy
    · cases hy; rfl
    · split at hy
      · next e' hc => cases hy; exact checkAndNudge_error hc
      · obtain ⟨p, _, hp⟩ := mapRes_error hy
        simp only [readPoint, readPointG, Bool.true_and] at hp
        split at hp
        · cases hp; rfl
        · next hc =>
          simp only [Bool.or_eq_true, decide_eq_true_eq, not_or, Int.not_le, Int.not_lt] at hc
          obtain ⟨b, hb⟩ := hget (trunc p.1) (trunc p.2) (by omega) (by omega) (by omega) (by omega)
          rw [hb] at hp; cases hp

/-- "returns, for each cell, the image pixel under the transformed cell centre": if sampling succeeds,
    the result has `dimY` rows of `dimX` bits and bit (i, j) is the pixel whose indices are the
    truncated coordinates of `clampPt (T (i + 1/2, j + 1/2))`; those indices are inside the image;
    and `clampPt` is the identity whenever the transformed centre itself is inside (`clampPt_of_inImage`),
    where truncation equals floor (`trunc_eq_floor_of_nonneg`). -/
theorem sample_is_pixel_under_centre (img : Image) (hw : 1 ≤ img.w) (hh : 1 ≤ img.h)
    (dimX dimY : Int) (t : PT Rat) (bits : List (List Bool))
    (hok : sampleGridWithTransform img dimX dimY t = .ok bits) :
    bits.length = dimY.toNat ∧
    ∀ (j : Nat) (hj : j < bits.length), bits[j].length = dimX.toNat ∧
      ∀ (i : Nat) (hi : i < bits[j].length),
        ∃ c : Pt, t.apply? ((i : Int) + 1/2 : Rat) ((j : Int) + 1/2 : Rat) = some c ∧
          inImage img.w img.h (clampPt img.w img.h c) ∧
          img.get (trunc (clampPt img.w img.h c).1) (trunc (clampPt img.w img.h c).2) = .ok bits[j][i] := by
  unfold sampleGridWithTransform at hok
  split at hok
  · cases hok
  · have hrows := mapRes_ok hok
    have hlen : (List.range dimY.toNat).length = bits.length := hrows.length_eq
    refine ⟨by simpa using hlen.symm, ?_⟩
    intro j hj
    have hj' : j < (List.range dimY.toNat).length := by omega
    have hrow := hrows.get j hj' hj
    simp only [List.getElem_range] at hrow
    unfold sampleRow at hrow
    split at hrow
    · cases hrow
    · next pts htr =>
      split at hrow
      · cases hrow
      · next pts' hcn =>
        have a1 := transformRow_some htr
        have a2 := checkAndNudge_moved hw hh hcn
        have a3 := mapRes_ok hrow
        have l1 : (rowCentres dimX.toNat j).length = pts.length := a1.length_eq
        have l2 : pts.length = pts'.length := a2.length_eq
        have l3 : pts'.length = bits[j].length := a3.length_eq
        have l0 : (rowCentres dimX.toNat j).length = dimX.toNat := by simp [rowCentres]
        refine ⟨by omega, ?_⟩
        intro i hi
        have b1 := a1.get i (by omega) (by omega)
        have b2 := a2.get i (by omega) (by omega)
        have b3 := a3.get i (by omega) hi
        have hc : (rowCentres dimX.toNat j)[i]'(by omega) = (((i : Int) : Rat) + 1/2, ((j : Int) : Rat) + 1/2) := by
          simp [rowCentres]
        rw [hc] at b1
        refine ⟨pts[i]'(by omega), b1, ?_⟩
        -- the point actually read is inside the image, hence equals the clamp of the transformed centre
        simp only [readPoint, readPointG, Bool.true_and] at b3
        split at b3
        · cases b3
        · next hcond =>
          simp only [Bool.or_eq_true, decide_eq_true_eq, not_or, Int.not_le, Int.not_lt] at hcond
          have hin : inImage img.w img.h (pts'[i]'(by omega)) := ⟨by omega, by omega, by omega, by omega⟩
          have heq : pts'[i]'(by omega) = clampPt img.w img.h (pts[i]'(by omega)) := by
            rcases b2 with h | ⟨_, h⟩
            · rw [h] at hin ⊢; exact (clampPt_of_inImage hin).symm
            · exact h
          rw [← heq]
          exact ⟨hin, b3⟩

/-- non-vacuity: a 2x2 grid over a 4x4 image, scale 2 (cell centres land on pixels (1,1),(3,1),(1,3),(3,3)) -/
example :
    sampleGridWithTransform
      (Image.ofRows 4 4 [[false, false, false, false], [false, true, false, false],
                         [false, false, false, false], [false, true, false, true]])
      2 2 (quadrilateralToQuadrilateral 0 0 2 0 2 2 0 2 0 0 4 0 4 4 0 4)
    = .ok [[true, false], [true, true]] := by decide +kernel

end Gzx.Properties.C19
