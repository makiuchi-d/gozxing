/-
  C10 — Code 93: transposition of two adjacent characters.
  Neighbouring weights differ by 1, or by maxW−1 where the weight cycle wraps (20→1 for C, 15→1 for K);
  both are units modulo the prime 47, so swapping two different neighbours always changes a check
  character — every length, every position, every weight cycle 2 ≤ maxW < 47.
-/
import Gzx.Properties.C10
namespace Gzx.Properties.C10
open Gzx Gzx.CheckDigit

theorem code93_check_changes_on_transposition (maxW : Nat) (hm : 2 ≤ maxW) (hm' : maxW < 47)
    (pre post : List Nat) (a b : Nat) (ha : a < 47) (hb : b < 47) (hne : a ≠ b) :
    c93Check maxW (pre ++ b :: a :: post) ≠ c93Check maxW (pre ++ a :: b :: post) := by
  unfold c93Check
  have r1 : (pre ++ a :: b :: post).reverse = post.reverse ++ b :: a :: pre.reverse := by simp
  have r2 : (pre ++ b :: a :: post).reverse = post.reverse ++ a :: b :: pre.reverse := by simp
  rw [r1, r2, c93SumRev_eq_dot, c93SumRev_eq_dot]
  have hl : ∀ x y : Nat, (post.reverse ++ x :: y :: pre.reverse).length = post.reverse.length + (pre.length + 2) := by
    intro x y; simp
  rw [hl, hl]
  obtain ⟨u, hu, hd⟩ := c93Weights_drop (show 1 ≤ maxW by omega) post.reverse.length 1
    (post.reverse.length + (pre.length + 2)) ⟨Nat.le_refl 1, by omega⟩
  rw [Nat.add_sub_cancel_left] at hd
  refine dot_detects_transposition (p := 47) _ post.reverse pre.reverse
    (c93Weights maxW (c93Next maxW (c93Next maxW u)) pre.length) b a u (c93Next maxW u)
    (by simp [c93Weights_length]) (by rw [hd]; rfl) ?_ (by omega)
  unfold c93Next
  split
  · have : u = maxW := by omega
    subst this
    have e : u - 1 + (1 - u) = u - 1 := by omega
    rw [e]
    exact unit_below_prime nd47 (by omega) (by omega)
  · have e : u - (u + 1) + (u + 1 - u) = 1 := by omega
    rw [e]; simp [Nat.Coprime]

/-- hence a symbol `data ++ [C, K]` the reader accepts is rejected after swapping two different
    neighbouring data characters -/
theorem code93_reader_rejects_adjacent_transposition (pre post : List Nat) (a b c k : Nat)
    (ha : a < 47) (hb : b < 47) (hne : a ≠ b)
    (hacc : c93ReaderAccept ((pre ++ a :: b :: post) ++ [c, k]) = .ok true) :
    c93ReaderAccept ((pre ++ b :: a :: post) ++ [c, k]) = .ok false := by
  rw [c93ReaderAccept_concat] at hacc ⊢
  simp only [Except.ok.injEq, Bool.and_eq_true, beq_iff_eq] at hacc
  have := code93_check_changes_on_transposition 20 (by omega) (by omega) pre post a b ha hb hne
  rw [hacc.1] at this
  simp [this]

example : c93Check 20 [10, 11, 12] ≠ c93Check 20 [11, 10, 12] := by decide

end Gzx.Properties.C10
