/-
  C12 — the Code 128 writer is total over its MODEL, without a hypothesis about the inner
  encoder: `Properties/C12.lean` proves `encode_total_Code128` for every inner encoder that is total
  (`OneDCoreTotal inner`); here the inner encoder is the model of the rest of `code128Encoder.encodeWithHints`
  (`Gzx.OneD.code128Modules`: per-character checks, the `for position < length` loop with `code128ChooseCode`,
  check character, STOP, `onedWriter_appendPattern`) and it is PROVED total — for every content (any code points,
  any length), every FORCE_CODE_SET value and every pattern table of the right shape (`WF128`; the reference table
  and, by `Obligations/C03`, the table regenerated from /repo have it):
    * no pattern index is negative or beyond the table (code set B never sees a control character, code set C
      only digit pairs, code set A nothing above 95: `chooseCode_facts`, `c128CharOk`),
    * the loop terminates: a code-set switch does not consume input, but `chooseCode` is idempotent in the old code
      set (`chooseCode_idem`), so the next iteration consumes at least one character.
  The model is tied to oned/code128_writer.go by suite `c03` (writer layer: every class sequence, forced sets;
  symbol characters for malformed / forced contents, the `chooseCode` automaton alone).
-/
import Gzx.Properties.C12
import Gzx.Proofs.C128Total
namespace Gzx.Properties.C12C128
open Gzx Gzx.OneD Gzx.WriterFrontend Gzx.Render

/-- the forced code set the checked hint stands for ("A" / "B" / "C"; everything else was refused before) -/
def forcedOfHints (hints : Hints) : Option Nat :=
  match hints .forceCodeSet with
  | some (.str s) => if s = [65] then some 101 else if s = [66] then some 100 else if s = [67] then some 99 else none
  | _ => none

/-- the rest of `encodeWithHints` after the hint switch: `runes` = `[]rune(contentsStr)` (UTF-8 decoding is outside the model) -/
def code128Inner (T : Tables) (runes : List Nat → List Nat) (content : List Nat) (hints : Hints) : Res (List Bool) :=
  code128Modules T (runes content) (forcedOfHints hints)

theorem forcedOfHints_ok (hints : Hints) : ForcedOK (forcedOfHints hints) := by
  unfold forcedOfHints ForcedOK
  split
  · repeat' split
    all_goals simp
  · simp

/-- the model of the Code 128 encoder answers with a non-empty module pattern or a
    WriterException — for EVERY content and every forced code set (none, A, B, C); never a panic, never out of fuel. -/
theorem code128_model_total (T : Tables) (hT : WF128 T.code128 = true) (contents : List Nat) (forced : Option Nat)
    (hf : ForcedOK forced) :
    code128Modules T contents forced = .error .writer ∨
      ∃ code, code128Modules T contents forced = .ok code ∧ 1 ≤ code.length := by
  cases hc : code128Codes contents forced with
  | error e =>
    rcases code128Codes_total hf contents with ⟨codes, h, -⟩ | h <;> rw [h] at hc <;> cases hc
    exact .inl (by simp only [code128Modules, h, bind, Except.bind])
  | ok codes =>
    obtain ⟨body, rfl, hb⟩ := code128Codes_shape hf contents _ hc
    refine .inr ⟨_, by simp only [code128Modules, hc, bind, Except.bind]; exact code128Draw_body_stop T hT body hb, ?_⟩
    -- STOP alone is drawn with at least one module
    obtain ⟨-, -, -, hl7, hpos⟩ := wf128_rows hT
    rw [appendPattern_append, List.length_append]
    cases hp : T.code128.getD 106 [] with
    | nil => rw [hp] at hl7; simp at hl7
    | cons w ws =>
      have := appendPattern_length_pos w ws (if (List.map (fun c => T.code128.getD c []) body).flatten.length % 2 = 0
        then true else !true) (hpos w (by rw [hp]; exact List.mem_cons_self))
      omega

example : ForcedOK (some 99) := Or.inr (Or.inl rfl)
example : WF128 refTables.code128 = true := wf128_ref

theorem code128Inner_total (T : Tables) (hT : WF128 T.code128 = true) (runes : List Nat → List Nat) :
    OneDCoreTotal (code128Inner T runes) := by
  constructor
  · intro c hints w hw
    unfold code128Inner at hw
    rcases code128_model_total T hT (runes c) _ (forcedOfHints_ok hints) with h | ⟨code, h, -⟩ <;>
      rw [h] at hw <;> cases hw
  · intro c hints code hok
    unfold code128Inner at hok
    rcases code128_model_total T hT (runes c) _ (forcedOfHints_ok hints) with h | ⟨code', h, hl⟩
    · rw [h] at hok; cases hok
    · rw [h] at hok; cases hok; exact hl

/-- C12 "terminates without panicking" for the Code 128 writer, UNCONDITIONAL over the
    model: for every content, format, size and hint map (FORCE_CODE_SET and MARGIN of any dynamic type),
    `OneDimensionalCodeWriter.Encode` over `code128Encoder.encodeWithHints` returns an image or a checked error. -/
theorem encode_total_CODE128 (T : Tables) (hT : WF128 T.code128 = true) (rc : List Nat → Nat) (runes : List Nat → List Nat) :
    ∀ content fmt w h hints,
      NoPanic (encode1D (code128Writer rc (code128Inner T runes)) content fmt w h hints) :=
  Gzx.Properties.C12.encode_total_Code128 rc (code128Inner T runes) (code128Inner_total T hT runes)

/-- the dimension clause, unconditional over the model -/
theorem encode_dims_CODE128 (T : Tables) (hT : WF128 T.code128 = true) (rc : List Nat → Nat) (runes : List Nat → List Nat) :
    ∀ content fmt w h hints img,
      encode1D (code128Writer rc (code128Inner T runes)) content fmt w h hints = .ok img →
      ∃ code, code128Core rc (code128Inner T runes) content hints = .ok code ∧
        (code.length : Int) ≤ img.w ∧ max w 1 ≤ img.w ∧ max h 1 ≤ img.h :=
  Gzx.Properties.C12.encode_dims_Code128 rc (code128Inner T runes) (code128Inner_total T hT runes)

theorem encode_total_CODE128_ref (rc : List Nat → Nat) (runes : List Nat → List Nat) :
    ∀ content fmt w h hints,
      NoPanic (encode1D (code128Writer rc (code128Inner refTables runes)) content fmt w h hints) :=
  encode_total_CODE128 refTables wf128_ref rc runes

/-- the look-ahead automaton: range, admissibility of the character at hand, idempotence -/
theorem chooseCode_characterised (c : Nat) (rest : List Nat) (old : Nat) :
    (chooseCode (c :: rest) old = 99 ∨ chooseCode (c :: rest) old = 100 ∨ chooseCode (c :: rest) old = 101) ∧
    (chooseCode (c :: rest) old = 101 → c < 96 ∨ c = 0xF1 ∨ c = 0xF2 ∨ c = 0xF3 ∨ c = 0xF4) ∧
    (chooseCode (c :: rest) old = 100 → 32 ≤ c) ∧
    (chooseCode (c :: rest) old = 99 → c = 0xF1 ∨ (isDigitCp c = true ∧ ∃ c2 r2, rest = c2 :: r2 ∧ isDigitCp c2 = true)) ∧
    chooseCode (c :: rest) (chooseCode (c :: rest) old) = chooseCode (c :: rest) old :=
  ⟨(chooseCode_facts c rest old).1, (chooseCode_facts c rest old).2.1, (chooseCode_facts c rest old).2.2.1,
   (chooseCode_facts c rest old).2.2.2, chooseCode_idem _ old⟩

/-- the repaired case: forced code set C, a digit followed by FNC1 — an error, not an index beyond the table -/
example : code128Codes [49, 0xF1] (some 99) = .error .writer := by decide

end Gzx.Properties.C12C128
