/-
  C02 — Data Matrix, `dm_fits_encodes`: the part with a closed form.
  Full statement (NOT proved; on the real code it is the `fits` clause of the C02 oracle):

    dm_fits_encodes : if the encoder's own un-hinted encoding of the message has at most as many codewords as the
                      largest symbol the hints admit, `encodeHL` with the hints returns codewords.

  Missing for it: the encoding depends on the hints (the end-of-data rules of C40/Text, X12, EDIFACT and Base 256 look
  at the free space of the current symbol), so "same length with and without hints" is itself a whole-run invariant;
  and a closed form of the un-hinted length exists only where the look-ahead's choice is known.  Proved here:
    * `dm_fits_encodes_ascii_partial`: for a message without macro envelope on which the look-ahead keeps ASCII
      encodation, `encodeHL` returns the ASCII encodation `asciiCws msg` (digit pairs, upper shift) padded to the first
      admissible symbol that holds it, and a WriterException exactly when there is none — every table, every hint;
    * `dm_fits_encodes_digits`: for ALL-DIGIT messages this applies to every float-like look-ahead (the real one):
      the message is encoded iff an admissible symbol holds `⌈n/2⌉` codewords (the "digit-body rule" of the oracle).
-/
import Gzx.Proofs.DMFits
import Gzx.Properties.C02Term
namespace Gzx.Properties.C02
open Gzx Gzx.DMHighLevel

theorem dm_fits_encodes_ascii_partial (syms : List SymbolInfo) (la : LookAhead) (msg : List Nat) (cfg : Cfg)
    (hplain : initCtx msg cfg = { msg := msg, cfg := cfg })
    (hla : ∀ p, p < msg.length → ¬ digitRun (msg.drop p) ≥ 2 → la msg p ASCII = ASCII) :
    (∀ s, lookup syms cfg (asciiCws msg).length = some s →
      encodeHL syms la msg cfg = .ok (asciiCws msg ++ padding (asciiCws msg).length s.cap)) ∧
    (lookup syms cfg (asciiCws msg).length = none → encodeHL syms la msg cfg = .error .writer) ∧
    ((∃ s ∈ syms, admissible cfg s = true ∧ (asciiCws msg).length ≤ s.cap) → ∃ cw, encodeHL syms la msg cfg = .ok cw) := by
  have h := encodeHL_ascii syms la msg cfg hplain hla
  refine ⟨fun s hs => by rw [h, hs], fun hn => by rw [h, hn], ?_⟩
  rintro ⟨s, hmem, hadm, hcap⟩
  cases hl : lookup syms cfg (asciiCws msg).length with
  | some s' => exact ⟨_, by rw [h, hl]⟩
  | none =>
    exfalso
    unfold lookup at hl
    have := List.find?_eq_none.mp hl s hmem
    simp [hadm, hcap] at this

/-- all-digit messages, the real look-ahead: encoded iff an admissible symbol holds `⌈n/2⌉` codewords -/
theorem dm_fits_encodes_digits (syms : List SymbolInfo) (la : LookAhead) (hla : LaFloatLike la) (msg : List Nat)
    (cfg : Cfg) (hne : msg ≠ []) (hd : ∀ x ∈ msg, isDigit x = true) :
    ((∃ s ∈ syms, admissible cfg s = true ∧ (msg.length + 1) / 2 ≤ s.cap) → ∃ cw, encodeHL syms la msg cfg = .ok cw) ∧
    ((∀ s ∈ syms, admissible cfg s = true → ¬ (msg.length + 1) / 2 ≤ s.cap) → encodeHL syms la msg cfg = .error .writer) := by
  obtain ⟨d, r, hm⟩ : ∃ d r, msg = d :: r := by
    cases msg with
    | nil => exact absurd rfl hne
    | cons d r => exact ⟨d, r, rfl⟩
  have hplain := initCtx_plain_of_digit msg cfg d r hm (hd d (by rw [hm]; simp))
  have hlen := asciiCws_digits_length msg.length msg (Nat.le_refl _) hd
  obtain ⟨_, h2, h3⟩ := dm_fits_encodes_ascii_partial syms la msg cfg hplain (digits_la hla msg hd)
  rw [hlen] at h2 h3
  refine ⟨h3, fun hall => h2 ?_⟩
  unfold lookup
  rw [List.find?_eq_none]
  intro s hs
  have := hall s hs
  cases hadm : admissible cfg s with
  | false => simp
  | true => simp [this hadm]

/-- non-vacuity: "12345" needs three codewords: the 3-codeword symbol of `termSyms` takes it; a table whose only symbol
    holds 2 codewords refuses it -/
example : encodeHL termSyms laExact [49, 50, 51, 52, 53] {} = .ok [142, 164, 54] := by decide +kernel
example : encodeHL [⟨false, 2, 5, 8, 8, 1⟩] laExact [49, 50, 51, 52, 53] {} = .error .writer := by decide +kernel
example : asciiCws [49, 50, 51, 52, 53] = [142, 164, 54] := by decide
example : asciiCws [65, 233, 49, 50] = [66, 235, 106, 142] := by decide

end Gzx.Properties.C02
