/-
  C16 — algebra of the naive container model: the laws of the bit and cell operations (Xor, Flip, FlipAll, Get after
  Set); the laws of the whole-container rearrangements (Reverse, the rotations, Parse ∘ ToString) are at the end of
  C16.lean.  The word-level implementation refines this model (`bitarray_refines_spec`, `bitmatrix_refines_spec`), so each law holds for the real
  containers after any operation history.  `bitmatrix_xor_xor` is the law QR/DM masking relies on (masking twice
  with the same mask is the identity).
-/
import Gzx.Properties.C16
namespace Gzx.Properties.C16
open Gzx Gzx.Bits

theorem zipXor_cancel : ∀ (a o : List Bool), a.length = o.length →
    List.zipWith (fun x y => x ^^ y) (List.zipWith (fun x y => x ^^ y) a o) o = a
  | [], [], _ => rfl
  | x :: a, y :: o, h => by
    simp only [List.zipWith_cons_cons, List.cons.injEq]
    exact ⟨by cases x <;> cases y <;> rfl, zipXor_cancel a o (by simpa using h)⟩
  | [], _ :: _, h => by simp at h
  | _ :: _, [], h => by simp at h

/-- BitArray.Xor with the same operand twice restores the array (equal sizes; otherwise Xor is refused) -/
theorem bitarray_xor_xor (a o : SArr) (h : a.length = o.length) :
    (SArr.xor a o).bind (fun r => SArr.xor r o) = .ok a := by
  have h1 : ¬ a.length ≠ o.length := by omega
  simp only [SArr.xor, h1, if_false, Except.bind]
  have h2 : ¬ (List.zipWith (fun x y => x ^^ y) a o).length ≠ o.length := by simp [h]
  simp only [h2, if_false, zipXor_cancel a o h]

theorem bitarray_xor_self (a : SArr) : SArr.xor a a = .ok (SArr.clear a) := by
  simp only [SArr.xor, ne_eq, not_true_eq_false, if_false, SArr.clear]
  congr 1
  induction a with
  | nil => rfl
  | cons x xs ih => simp only [List.zipWith_cons_cons, List.length_cons, List.replicate_succ, ih]; simp

/-- Flip is an involution at every index (also out of range, where the model leaves the list alone) -/
theorem bitarray_flip_flip (a : SArr) (i : Nat) : (a.flip i).flip i = a := by
  simp only [SArr.flip]
  induction a generalizing i with
  | nil => simp
  | cons x xs ih =>
    cases i with
    | zero => simp
    | succ i => simp [ih]

theorem bitarray_get_set (a : SArr) (i j : Nat) (hi : i < a.length) :
    (a.set i).get j = if j = i then true else a.get j := by
  simp only [SArr.get, SArr.set]
  split
  · subst_vars; simp [hi]
  · rename_i hne
    rw [List.getElem?_set_ne (by omega)]

theorem zipRows_cancel : ∀ (r s : List (List Bool)), r.length = s.length →
    (∀ p ∈ List.zip r s, p.1.length = p.2.length) →
    List.zipWith (fun r s => List.zipWith (fun x y => x ^^ y) r s)
      (List.zipWith (fun r s => List.zipWith (fun x y => x ^^ y) r s) r s) s = r
  | [], [], _, _ => rfl
  | x :: r, y :: s, h, hp => by
    simp only [List.zipWith_cons_cons, List.cons.injEq]
    refine ⟨zipXor_cancel x y (hp (x, y) (by simp)), zipRows_cancel r s (by simpa using h) ?_⟩
    intro p hp'
    exact hp p (by simp [hp'])
  | [], _ :: _, h, _ => by simp at h
  | _ :: _, [], h, _ => by simp at h

/-- BitMatrix.Xor with the same mask twice restores the matrix — for all well-formed matrices of equal
    dimensions (any others are refused by Xor): masking is undone by masking -/
theorem bitmatrix_xor_xor (m mask : SMat) (hm : m.WF) (hk : mask.WF)
    (hw : m.width = mask.width) (hh : m.height = mask.height) :
    (m.xor mask).bind (fun r => r.xor mask) = .ok m := by
  have h1 : ¬ (m.width ≠ mask.width ∨ m.height ≠ mask.height) := by omega
  simp only [SMat.xor, h1, if_false, Except.bind]
  obtain ⟨w, h, rows⟩ := m
  obtain ⟨w', h', rows'⟩ := mask
  simp only at hw hh h1 ⊢
  congr 2
  apply zipRows_cancel rows rows' (by rw [hm.1, hk.1]; exact hh)
  intro p hp
  have h1 := hm.2 p.1 (List.of_mem_zip hp).1
  have h2 := hk.2 p.2 (List.of_mem_zip hp).2
  simp only at h1 h2
  omega

theorem bitmatrix_flipAll_flipAll (m : SMat) : m.flipAll.flipAll = m := by
  obtain ⟨w, h, rows⟩ := m
  simp only [SMat.flipAll, List.map_map]
  congr 1
  have : ((fun r : List Bool => r.map (fun b => !b)) ∘ (fun r : List Bool => r.map (fun b => !b))) = id := by
    funext r
    simp only [Function.comp, List.map_map, id]
    have : ((fun b : Bool => !b) ∘ (fun b : Bool => !b)) = id := by funext b; simp
    rw [this, List.map_id]
  rw [this, List.map_id]

/-- Flip on a matrix cell is an involution (every x, y — out of range the model leaves the grid alone) -/
theorem bitmatrix_flip_flip (m : SMat) (x y : Nat) : (m.flip x y).flip x y = m := by
  obtain ⟨w, h, rows⟩ := m
  simp only [SMat.flip]
  congr 1
  induction rows generalizing y with
  | nil => simp
  | cons r rs ih =>
    cases y with
    | zero =>
      simp only [List.modify_zero_cons, List.cons.injEq, and_true]
      exact bitarray_flip_flip r x
    | succ y => simp only [List.modify_succ_cons, List.cons.injEq, true_and]; exact ih y

theorem bitmatrix_get_set (m : SMat) (hm : m.WF) (x y x' y' : Nat) (hx : x < m.width) (hy : y < m.height) :
    (m.set x y).get x' y' = if x' = x ∧ y' = y then true else m.get x' y' := by
  rw [SMat.set_eq m hm x y hx]
  by_cases hin : x' < m.width ∧ y' < m.height
  · rw [SMat.get_ofFn _ _ _ _ _ hin.1 hin.2]
  · -- outside the grid both sides read false
    have hout : m.get x' y' = (SMat.ofFn m.width m.height (fun x y => m.get x y)).get x' y' :=
      congrArg (fun s => s.get x' y') (SMat.eq_ofFn m hm)
    rw [SMat.get_ofFn_out _ _ _ _ _ hin, if_neg (fun (e : x' = x ∧ y' = y) => hin ⟨e.1 ▸ hx, e.2 ▸ hy⟩), hout,
      SMat.get_ofFn_out _ _ _ _ _ hin]

example : (SArr.xor [true, false, true] [true, true, false]).bind (fun r => SArr.xor r [true, true, false])
    = .ok [true, false, true] := by decide

end Gzx.Properties.C16
