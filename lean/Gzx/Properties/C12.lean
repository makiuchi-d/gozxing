/-
  C12 — Encoding is total: any content, size and hints give a symbol or an error.
  Property theorems for the writer FRONT ENDS (Gzx/Model/WriterFrontend.lean + Gzx/Model/Render.lean),
  parametric in a total encoder core (hypotheses `CoreTotal…`).  The section "concrete encoder cores" instantiates them with the
  cores that Gzx/Proofs/WriterCores.lean proves total (the 1-D module encoders of C03, the reference QR encoder
  of C07; Data Matrix here only as the oracle-parametric instance over the ASCII / Base 256 part of the C02 model);
  Code 128 is in Properties/C12C128.lean, the whole Data Matrix writer in Properties/C12DM.lean (which declares into
  this namespace: `Gzx.Properties.C12.encode_total_DM_real` is there, not here), QR over the
  Go-mirroring encoder model in Properties/C12QR.lean.  The whole real writers are explored by the `c12` oracle under a watchdog.

  A model result is an `Except`, so "either a matrix or an error, never neither/both" holds by
  construction of the model; on the real code it is checked by the oracle.
-/
import Gzx.Proofs.WriterCores
import Gzx.Properties.C14
namespace Gzx.Properties.C12
open Gzx Gzx.Render Gzx.WriterFrontend Gzx.Properties.C14

/-- the assertion is real: the pre-repair call `NewWriterException(encodingHint)` with an `int` hint (D14) -/
example : newWriterException [.int 5] = .panic "interface conversion: interface {} is not string" := by decide

/-! ## hint parsing never panics, and margins that pass are non-negative -/

theorem qrEcl_noPanic (hints : Hints) : NoPanic (qrEcl hints) := by
  unfold qrEcl
  split
  · exact noPanic_ok _
  · exact noPanic_ok _
  · split
    · exact noPanic_ok _
    · exact noPanic_lit _
  · exact noPanic_lit _

theorem qrQuiet_noPanic (hints : Hints) : NoPanic (qrQuiet hints) := by
  unfold qrQuiet
  split
  · exact noPanic_ok _
  · split
    · exact noPanic_lit _
    · exact noPanic_ok _
  · split
    · split
      · exact noPanic_lit _
      · exact noPanic_ok _
    · exact noPanic_lit _
  · exact noPanic_lit _

theorem qrQuiet_nonneg (hints : Hints) (q : Int) (h : qrQuiet hints = .ok q) : 0 ≤ q := by
  unfold qrQuiet at h
  split at h
  · cases h; omega
  · split at h
    · cases h
    · cases h; omega
  · split at h
    · split at h
      · cases h
      · cases h; omega
    · cases h
  · cases h

theorem onedMargin_noPanic (d : Int) (hints : Hints) : NoPanic (onedMargin d hints) := by
  unfold onedMargin
  split
  · rename_i f hf
    split at hf
    · cases hf
    · cases hf
    · split at hf
      · cases hf
      · cases hf; intro w h; cases h
    · cases hf; exact noPanic_lit _
  · split
    · exact noPanic_lit _
    · exact noPanic_ok _

theorem onedMargin_nonneg (d : Int) (hints : Hints) (m : Int) (h : onedMargin d hints = .ok m) : 0 ≤ m := by
  unfold onedMargin at h
  split at h
  · cases h
  · split at h
    · cases h
    · cases h; omega

/-! ## QR -/

theorem encoderEncode_noPanic (env : QREnv) (hc : QRCoreTotal env) (c : List Nat) (e : Int) (h : Hints) :
    NoPanic (encoderEncode env c e h) := by
  unfold encoderEncode
  split
  · exact noPanic_lit _
  · split
    · split
      · exact hc.noPanic _ _ _
      · exact noPanic_lit _
    · exact hc.noPanic _ _ _

theorem encoderEncode_ok (env : QREnv) (c : List Nat) (e : Int) (h : Hints) (md : Modules)
    (hok : encoderEncode env c e h = .ok md) : env.core c e h = .ok md := by
  unfold encoderEncode at hok
  split at hok
  · cases hok
  · split at hok
    · split at hok
      · exact hok
      · cases hok
    · exact hok

/-- C12 clause "terminates without panicking" for `QRCodeWriter.Encode`: for every content, format value,
    width, height (negative included) and every hint map, of whatever dynamic types -/
theorem encode_total_QR (env : QREnv) (hc : QRCoreTotal env) :
    ∀ content fmt w h hints, NoPanic (encodeQR env content fmt w h hints) := by
  intro content fmt w h hints
  unfold encodeQR
  split
  · exact noPanic_lit _
  · split
    · exact noPanic_lit _
    · split
      · exact noPanic_lit _
      · split
        · rename_i f hf; exact (qrEcl_noPanic hints).of_error hf
        · split
          · rename_i f hf; exact (qrQuiet_noPanic hints).of_error hf
          · rename_i quiet hq
            split
            · rename_i f hf; exact (encoderEncode_noPanic env hc _ _ _).of_error hf
            · rename_i code hcode
              obtain ⟨h1, h2⟩ := hc.nonEmpty _ _ _ _ (encoderEncode_ok env _ _ _ _ hcode)
              rw [renderQR_eq code.mw code.mh code.m quiet w h (qrQuiet_nonneg hints quiet hq) h1 h2]
              exact noPanic_ok _

/-- C12 clause "a returned matrix is never smaller than the symbol it depicts, and for QR … never smaller
    than the requested width and height" (and never smaller than 1x1) -/
theorem encode_dims_QR (env : QREnv) (hc : QRCoreTotal env) :
    ∀ content fmt w h hints img, encodeQR env content fmt w h hints = .ok img →
      ∃ ecl md, env.core content ecl hints = .ok md ∧
        (md.mw : Int) ≤ img.w ∧ (md.mh : Int) ≤ img.h ∧ max w 1 ≤ img.w ∧ max h 1 ≤ img.h := by
  intro content fmt w h hints img hok
  unfold encodeQR at hok
  split at hok; · cases hok
  split at hok; · cases hok
  split at hok; · cases hok
  split at hok; · cases hok
  rename_i ecl _
  split at hok; · cases hok
  rename_i quiet hq
  split at hok; · cases hok
  rename_i code hcode
  have hcore := encoderEncode_ok env _ _ _ _ hcode
  obtain ⟨h1, h2⟩ := hc.nonEmpty _ _ _ _ hcore
  have hq0 := qrQuiet_nonneg hints quiet hq
  rw [renderQR_eq code.mw code.mh code.m quiet w h hq0 h1 h2] at hok
  cases hok
  refine ⟨ecl, code, hcore, ?_, ?_, ?_, ?_⟩ <;> simp only [outSize] <;> omega

/-! ## Data Matrix -/

/-- C12 "terminates without panicking" for `DataMatrixWriter.Encode` (front end; the termination of
    `EncodeHighLevel`'s mode loop is inside the core hypothesis and watchdog-backed on the real code) -/
theorem encode_total_DM (env : DMEnv) (hc : DMCoreTotal env) :
    ∀ content fmt w h hints, NoPanic (encodeDM env content fmt w h hints) := by
  intro content fmt w h hints
  unfold encodeDM
  split
  · exact noPanic_lit _
  · split
    · exact noPanic_lit _
    · split
      · exact noPanic_lit _
      · split
        · rename_i f hf; exact (hc.noPanic _ _ _ _).of_error hf
        · rename_i code hcode
          obtain ⟨h1, h2⟩ := hc.nonEmpty _ _ _ _ _ hcode
          rw [renderDM_eq code.mw code.mh code.m w h h1 h2]
          exact noPanic_ok _

/-- C12 "a returned matrix is never smaller than the symbol it depicts" for Data Matrix -/
theorem encode_dims_DM (env : DMEnv) (hc : DMCoreTotal env) :
    ∀ content fmt w h hints img, encodeDM env content fmt w h hints = .ok img →
      ∃ md, env.core content (dmShape hints) (dimOf (hints .minSize)) (dimOf (hints .maxSize)) = .ok md ∧
        (md.mw : Int) ≤ img.w ∧ (md.mh : Int) ≤ img.h := by
  intro content fmt w h hints img hok
  unfold encodeDM at hok
  split at hok; · cases hok
  split at hok; · cases hok
  split at hok; · cases hok
  split at hok; · cases hok
  rename_i code hcode
  obtain ⟨h1, h2⟩ := hc.nonEmpty _ _ _ _ _ hcode
  obtain ⟨img', himg, hfit, hsmall⟩ := renderDM_dims code.mw code.mh code.m w h h1 h2
  rw [himg] at hok; cases hok
  refine ⟨code, hcode, ?_, ?_⟩
  · by_cases hf : (code.mw : Int) ≤ w ∧ (code.mh : Int) ≤ h
    · rw [(hfit hf).1]; exact hf.1
    · rw [(hsmall hf).1]; exact Int.le_refl _
  · by_cases hf : (code.mw : Int) ≤ w ∧ (code.mh : Int) ≤ h
    · rw [(hfit hf).2]; exact hf.2
    · rw [(hsmall hf).2]; exact Int.le_refl _

/-! ## 1-D -/

/-- C12 "terminates without panicking" for `OneDimensionalCodeWriter.Encode` with any encoder whose
    `encodeWithHints` is total (Code 39, Code 93, Codabar, ITF, EAN-13, EAN-8, UPC-E; Code 128 below) -/
theorem encode_total_1D (cfg : OneDCfg) (hc : OneDCoreTotal cfg.core) :
    ∀ content fmt w h hints, NoPanic (encode1D cfg content fmt w h hints) := by
  intro content fmt w h hints
  unfold encode1D
  split
  · exact noPanic_lit _
  · split
    · exact noPanic_lit _
    · split
      · exact noPanic_lit _
      · split
        · rename_i f hf; exact (onedMargin_noPanic _ hints).of_error hf
        · rename_i margin hm
          split
          · rename_i f hf; exact (hc.noPanic _ _).of_error hf
          · rename_i code hcode
            rw [render1D_eq code w h margin (onedMargin_nonneg _ hints margin hm) (hc.nonEmpty _ _ _ hcode)]
            exact noPanic_ok _

/-- C12 dimension clause for the 1-D writers: never narrower than the code, never smaller than the request,
    never smaller than 1x1 -/
theorem encode_dims_1D (cfg : OneDCfg)
    (hne : ∀ c h code, cfg.core c h = .ok code → 1 ≤ code.length) :
    ∀ content fmt w h hints img, encode1D cfg content fmt w h hints = .ok img →
      ∃ code, cfg.core content hints = .ok code ∧
        (code.length : Int) ≤ img.w ∧ max w 1 ≤ img.w ∧ max h 1 ≤ img.h := by
  intro content fmt w h hints img hok
  unfold encode1D at hok
  split at hok; · cases hok
  split at hok; · cases hok
  split at hok; · cases hok
  split at hok; · cases hok
  rename_i margin hm
  split at hok; · cases hok
  rename_i code hcode
  have hm0 := onedMargin_nonneg _ hints margin hm
  have hl := hne _ _ _ hcode
  rw [render1D_eq code w h margin hm0 hl] at hok
  cases hok
  refine ⟨code, hcode, ?_, ?_, ?_⟩ <;> simp only [outSize] <;> omega

/-- Code 128's `encodeWithHints` head is total for every FORCE_CODE_SET value of whatever type
    (since the repair of the unchecked `codeSetHint.(string)`) -/
theorem code128Core_total (rc : List Nat → Nat) (inner : List Nat → Hints → Res (List Bool))
    (hi : OneDCoreTotal inner) : OneDCoreTotal (code128Core rc inner) := by
  constructor
  · intro c hints
    unfold code128Core
    dsimp only
    split
    · exact noPanic_lit _
    · split
      · exact hi.noPanic _ _
      · split
        · exact hi.noPanic _ _
        · exact noPanic_lit _
      · exact noPanic_lit _
  · intro c hints code hok
    unfold code128Core at hok
    dsimp only at hok
    split at hok
    · cases hok
    · split at hok
      · exact hi.nonEmpty _ _ _ hok
      · split at hok
        · exact hi.nonEmpty _ _ _ hok
        · cases hok
      · cases hok

/-- a non-string FORCE_CODE_SET is an error (a panic before the repair) -/
example : code128Core (fun c => c.length) (fun _ _ => .ok [true]) [49]
    (fun k => if k = .forceCodeSet then some (.int 1) else none) = .error .writer := by decide

/-- C12 "terminates without panicking" for the Code 128 writer, for every hint map -/
theorem encode_total_Code128 (rc : List Nat → Nat) (inner : List Nat → Hints → Res (List Bool))
    (hi : OneDCoreTotal inner) :
    ∀ content fmt w h hints, NoPanic (encode1D (code128Writer rc inner) content fmt w h hints) :=
  encode_total_1D (code128Writer rc inner) (code128Core_total rc inner hi)

/-- C12 dimension clause for the Code 128 writer -/
theorem encode_dims_Code128 (rc : List Nat → Nat) (inner : List Nat → Hints → Res (List Bool))
    (hi : OneDCoreTotal inner) :
    ∀ content fmt w h hints img, encode1D (code128Writer rc inner) content fmt w h hints = .ok img →
      ∃ code, code128Core rc inner content hints = .ok code ∧
        (code.length : Int) ≤ img.w ∧ max w 1 ≤ img.w ∧ max h 1 ≤ img.h :=
  encode_dims_1D (code128Writer rc inner) (code128Core_total rc inner hi).nonEmpty

/-- the seven 1-D writers built directly on `OneDimensionalCodeWriter` / `NewUPCEANWriter`:
    Code 39, Code 93, Codabar, ITF, EAN-13, EAN-8, UPC-E -/
theorem encode_total_plain1D (core : List Nat → Hints → Res (List Bool)) (hc : OneDCoreTotal core)
    (cfg : OneDCfg) (hcfg : cfg ∈ [code39Writer core, code93Writer core, codabarWriter core, itfWriter core,
      ean13Writer core, ean8Writer core, upcEWriter core]) :
    ∀ content fmt w h hints, NoPanic (encode1D cfg content fmt w h hints) := by
  have hcore : cfg.core = core := by
    simp only [List.mem_cons, List.not_mem_nil, or_false] at hcfg
    rcases hcfg with h | h | h | h | h | h | h <;> rw [h] <;> rfl
  exact encode_total_1D cfg (by rw [hcore]; exact hc)

/-- C12 "terminates without panicking" for the UPC-A writer (format check, then EAN-13 on "0"+contents) -/
theorem encode_total_UPCA (ean13 : OneDCfg) (hc : OneDCoreTotal ean13.core) :
    ∀ content fmt w h hints, NoPanic (encodeUPCA ean13 content fmt w h hints) := by
  intro content fmt w h hints
  unfold encodeUPCA
  split
  · exact noPanic_lit _
  · exact encode_total_1D ean13 hc _ _ _ _ _

theorem encode_dims_UPCA (ean13 : OneDCfg) (hc : OneDCoreTotal ean13.core) :
    ∀ content fmt w h hints img, encodeUPCA ean13 content fmt w h hints = .ok img →
      ∃ code, ean13.core (48 :: content) hints = .ok code ∧
        (code.length : Int) ≤ img.w ∧ max w 1 ≤ img.w ∧ max h 1 ≤ img.h := by
  intro content fmt w h hints img hok
  unfold encodeUPCA at hok
  split at hok
  · cases hok
  · exact encode_dims_1D ean13 hc.nonEmpty _ _ _ _ _ _ hok

/-! ## concrete encoder cores: theorems without a core hypothesis

The 1-D module encoders of Gzx/Model/OneD.lean (C03; tied to oned/*_writer.go by the `c03` suite), over any
tables `T` satisfying the decidable well-formedness predicates of Gzx/Proofs/WriterCores.lean (the reference
tables do: `wfUpc_ref`, `wfItfW_ref`, `wf39_ref`, `wf93_ref`, `wfCodabar_ref`), are total, so for these eight
writers the front-end theorems hold unconditionally.  Code 128 stays parametric here (its model is proved total in
Properties/C12C128.lean).  QR: unconditional over the reference encoder `QRRef.refEncode` of C07.  Data Matrix:
here the oracle-parametric instance only — the high-level encoder under an ASCII / Base-256 look-ahead oracle, the
back end (ECC200, placement, module matrix) a parameter; the whole writer is `encode_total_DM_real` in
Properties/C12DM.lean. -/

open Gzx.OneD in
/-- EAN-13 writer (`NewEAN13Writer`): never panics, for every content, format, size and hint map -/
theorem encode_total_EAN13_concrete (T : Tables) (hT : WFUpc T = true) :
    ∀ content fmt w h hints,
      NoPanic (encode1D (ean13Writer (fun c _ => ean13Modules T c)) content fmt w h hints) :=
  encode_total_1D _ (ean13_core_total T hT)

open Gzx.OneD in
theorem encode_total_EAN8_concrete (T : Tables) (hT : WFUpc T = true) :
    ∀ content fmt w h hints,
      NoPanic (encode1D (ean8Writer (fun c _ => ean8Modules T c)) content fmt w h hints) :=
  encode_total_1D _ (ean8_core_total T hT)

open Gzx.OneD in
theorem encode_total_UPCE_concrete (T : Tables) (hT : WFUpc T = true) :
    ∀ content fmt w h hints,
      NoPanic (encode1D (upcEWriter (fun c _ => upceModules T c)) content fmt w h hints) :=
  encode_total_1D _ (upce_core_total T hT)

open Gzx.OneD in
/-- UPC-A writer (`NewUPCAWriter`): format check, then the EAN-13 writer on "0" + contents -/
theorem encode_total_UPCA_concrete (T : Tables) (hT : WFUpc T = true) :
    ∀ content fmt w h hints,
      NoPanic (upcAWriter (fun c _ => ean13Modules T c) content fmt w h hints) :=
  encode_total_UPCA _ (ean13_core_total T hT)

open Gzx.OneD in
theorem encode_total_ITF_concrete (T : Tables) (hT : WFItfW T = true) :
    ∀ content fmt w h hints,
      NoPanic (encode1D (itfWriter (fun c _ => itfModules T c)) content fmt w h hints) :=
  encode_total_1D _ (itf_core_total T hT)

open Gzx.OneD in
theorem encode_total_Code39_concrete (T : Tables) (hT : WF39 T = true) :
    ∀ content fmt w h hints,
      NoPanic (encode1D (code39Writer (fun c _ => code39Modules T c)) content fmt w h hints) :=
  encode_total_1D _ (code39_core_total T hT)

open Gzx.OneD in
theorem encode_total_Code93_concrete (T : Tables) (hT : WF93 T = true) :
    ∀ content fmt w h hints,
      NoPanic (encode1D (code93Writer (fun c _ => code93Modules T c)) content fmt w h hints) :=
  encode_total_1D _ (code93_core_total T hT)

open Gzx.OneD in
theorem encode_total_Codabar_concrete (T : Tables) (hT : WFCodabar T = true) :
    ∀ content fmt w h hints,
      NoPanic (encode1D (codabarWriter (fun c _ => codabarModules T c)) content fmt w h hints) :=
  encode_total_1D _ (codabar_core_total T hT)

open Gzx.OneD in
/-- dimension clause, unconditional, for the seven `encode1D` writers above: any `cfg` whose core is one of
    the proved-total module encoders -/
theorem encode_dims_concrete (T : Tables) (hU : WFUpc T = true) (hI : WFItfW T = true) (h39 : WF39 T = true)
    (h93 : WF93 T = true) (hC : WFCodabar T = true) (cfg : OneDCfg)
    (hcfg : cfg ∈ [ean13Writer (fun c _ => ean13Modules T c), ean8Writer (fun c _ => ean8Modules T c),
      upcEWriter (fun c _ => upceModules T c), itfWriter (fun c _ => itfModules T c),
      code39Writer (fun c _ => code39Modules T c), code93Writer (fun c _ => code93Modules T c),
      codabarWriter (fun c _ => codabarModules T c)]) :
    ∀ content fmt w h hints img, encode1D cfg content fmt w h hints = .ok img →
      ∃ code, cfg.core content hints = .ok code ∧
        (code.length : Int) ≤ img.w ∧ max w 1 ≤ img.w ∧ max h 1 ≤ img.h := by
  apply encode_dims_1D
  simp only [List.mem_cons, List.not_mem_nil, or_false] at hcfg
  rcases hcfg with h | h | h | h | h | h | h <;> rw [h]
  · exact (ean13_core_total T hU).nonEmpty
  · exact (ean8_core_total T hU).nonEmpty
  · exact (upce_core_total T hU).nonEmpty
  · exact (itf_core_total T hI).nonEmpty
  · exact (code39_core_total T h39).nonEmpty
  · exact (code93_core_total T h93).nonEmpty
  · exact (codabar_core_total T hC).nonEmpty

open Gzx.OneD in
theorem encode_dims_UPCA_concrete (T : Tables) (hT : WFUpc T = true) :
    ∀ content fmt w h hints img, upcAWriter (fun c _ => ean13Modules T c) content fmt w h hints = .ok img →
      ∃ code, ean13Modules T (48 :: content) = .ok code ∧
        (code.length : Int) ≤ img.w ∧ max w 1 ≤ img.w ∧ max h 1 ≤ img.h :=
  encode_dims_UPCA _ (ean13_core_total T hT)

/-- the well-formedness hypotheses hold for the reference tables (which C03's per-run obligations compare with
    the tables of /repo): the eight theorems above apply to them as they stand -/
example : ∀ content fmt w h hints,
    NoPanic (upcAWriter (fun c _ => Gzx.OneD.ean13Modules Gzx.OneD.refTables c) content fmt w h hints) :=
  encode_total_UPCA_concrete _ wfUpc_ref
example : Gzx.OneD.code39Modules Gzx.OneD.refTables [65] =
    .ok (Gzx.OneD.appendPattern [1,2,1,1,2,1,2,1,1] true ++ [false] ++
         (Gzx.OneD.appendPattern [2,1,1,1,1,2,1,1,2] true ++ [false]) ++
         Gzx.OneD.appendPattern [1,2,1,1,2,1,2,1,1] true) := by decide

/-- QR writer over the reference encoder of C07, any pre-processing `prep`, any charset registry: never panics -/
theorem encode_total_QR_concrete
    (prep : List Nat → Int → Hints → Option (QRRef.Mode × List Nat × QRRef.Config))
    (knownCharset : HintVal → Bool) :
    ∀ content fmt w h hints, NoPanic (encodeQR ⟨knownCharset, qrRefCore prep⟩ content fmt w h hints) :=
  encode_total_QR _ (qrRefCore_total prep knownCharset)

theorem encode_dims_QR_concrete
    (prep : List Nat → Int → Hints → Option (QRRef.Mode × List Nat × QRRef.Config))
    (knownCharset : HintVal → Bool) :
    ∀ content fmt w h hints img, encodeQR ⟨knownCharset, qrRefCore prep⟩ content fmt w h hints = .ok img →
      ∃ ecl md, qrRefCore prep content ecl hints = .ok md ∧
        (md.mw : Int) ≤ img.w ∧ (md.mh : Int) ≤ img.h ∧ max w 1 ≤ img.w ∧ max h 1 ≤ img.h :=
  encode_dims_QR _ (qrRefCore_total prep knownCharset)

/-- Data Matrix writer, the oracle-parametric instance: high-level encoder = the C02 model under a look-ahead oracle
    that proposes only ASCII and Base 256; the back end `post` (symbol lookup, ECC200, placement, module matrix) is a
    parameter.  The full statement — the look-ahead of the real code and the modelled back end — is
    `encode_total_DM_real` in Properties/C12DM.lean. -/
theorem encode_total_DM_ascii_base256_partial (syms : List DMHighLevel.SymbolInfo) (la : DMHighLevel.LookAhead)
    (hla : DMHighLevel.LaAB la) (prep : List Nat → Option (List Nat))
    (post : List Nat → Int → Option (Int × Int) → Option (Int × Int) → Res Modules)
    (hpost : ∀ cw s mn mx, NoPanic (post cw s mn mx))
    (hne : ∀ cw s mn mx md, post cw s mn mx = .ok md → 1 ≤ md.mw ∧ 1 ≤ md.mh) :
    ∀ content fmt w h hints, NoPanic (encodeDM ⟨dmHLCore syms la prep post⟩ content fmt w h hints) :=
  encode_total_DM _ (dmHLCore_total syms la hla prep post hpost hne)

/-! ## non-vacuity -/

def demoQR : QREnv := ⟨fun _ => false, fun _ _ _ => .ok ⟨3, 3, diag3⟩⟩
def noHints : Hints := fun _ => none
def marginHint (v : HintVal) : Hints := fun k => if k = .margin then some v else none

/-- the hypotheses are satisfiable and the success path is reached: a 3x3 core, default margin 4, request 0x0 -/
example : QRCoreTotal demoQR :=
  ⟨fun _ _ _ w h => (by cases h), fun _ _ _ md h => (by cases h; exact ⟨by decide, by decide⟩)⟩
example : (encodeQR demoQR [65] fmtQR_CODE 0 0 noHints).map (fun i => (i.w, i.h)) = .ok (11, 11) := by decide
example : (encodeQR demoQR [65] fmtQR_CODE 40 0 (marginHint (.str [49]))).map (fun i => (i.w, i.h)) = .ok (40, 5) := by decide
/-- error paths: empty contents, wrong format, negative size, negative margin (int and numeric string), odd types -/
example : encodeQR demoQR [] fmtQR_CODE 0 0 noHints = .error .writer := by decide
example : encodeQR demoQR [65] fmtEAN_8 0 0 noHints = .error .writer := by decide
example : encodeQR demoQR [65] fmtQR_CODE (-1) 0 noHints = .error .writer := by decide
example : encodeQR demoQR [65] fmtQR_CODE 0 0 (marginHint (.int (-1))) = .error .writer := by decide
example : encodeQR demoQR [65] fmtQR_CODE 0 0 (marginHint (.str [45, 50])) = .error .writer := by decide
example : encodeQR demoQR [65] fmtQR_CODE 0 0 (marginHint (.other "float" [])) = .error .writer := by decide
/-- unknown CHARACTER_SET of type int: an error after the D14 repair -/
example : encodeQR demoQR [65] fmtQR_CODE 0 0 (fun k => if k = .characterSet then some (.int 5) else none) =
    .error .writer := by decide
/-- 1-D: MARGIN = −len(code) is rejected before the division (D13 repair); "abc" gives the non-WriterException error -/
def demo1D : OneDCfg := ⟨[fmtEAN_8], 9, fun _ _ => .ok [true, false, true]⟩
example : encode1D demo1D [49] fmtEAN_8 0 0 (marginHint (.int (-3))) = .error .writer := by decide
example : encode1D demo1D [49] fmtEAN_8 0 0 (marginHint (.str [97, 98, 99])) = .error .illegalArg := by decide
example : (encode1D demo1D [49] fmtEAN_8 0 0 noHints).map (fun i => (i.w, i.h)) = .ok (12, 1) := by decide
example : atoi [45, 54, 55] = some (-67) ∧ atoi [43] = none ∧ atoi [] = none ∧ atoi [49, 95, 48] = none := by decide

end Gzx.Properties.C12
