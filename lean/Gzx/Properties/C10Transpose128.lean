/-
  C10 — Code 128: transposition of two adjacent data characters.
  The weights grow by one per position, so swapping neighbours a,b moves the weighted sum by exactly
  |a−b| < 103: ALWAYS detected — every length, every position, no weight bound (unlike substitutions,
  cf. `code128_weight_103_undetected`).
-/
import Gzx.Properties.C10
namespace Gzx.Properties.C10
open Gzx Gzx.CheckDigit

theorem code128_detects_adjacent_transposition (start : Nat) (pre post : List Nat) (a b : Nat)
    (ha : a < 103) (hb : b < 103) (hne : a ≠ b) :
    c128Check start (pre ++ b :: a :: post) ≠ c128Check start (pre ++ a :: b :: post) := by
  rw [c128Check_eq_dot, c128Check_eq_dot]
  have hl : ∀ x y : Nat, (pre ++ x :: y :: post).length = pre.length + (post.length + 2) := by intro x y; simp
  rw [hl, hl, ← List.cons_append, ← List.cons_append]
  refine dot_detects_transposition _ (start :: pre) post (List.range' (1 + pre.length + 1 + 1) post.length) a b
    (1 + pre.length) (1 + pre.length + 1) (by simp) (by simp [List.range'_succ]) ?_ (by omega)
  have e : 1 + pre.length - (1 + pre.length + 1) + (1 + pre.length + 1 - (1 + pre.length)) = 1 := by omega
  rw [e]; exact Nat.coprime_one_left _

/-- hence the reader rejects an accepted symbol after any such swap -/
theorem code128_reader_rejects_adjacent_transposition (start : Nat) (pre post : List Nat) (a b chk : Nat)
    (ha : a < 103) (hb : b < 103) (hne : a ≠ b)
    (hacc : c128ReaderAccept start ((pre ++ a :: b :: post) ++ [chk]) = true) :
    c128ReaderAccept start ((pre ++ b :: a :: post) ++ [chk]) = false := by
  rw [code128_reader_accepts_iff] at hacc ⊢
  simp only [beq_iff_eq] at hacc
  simp only [beq_eq_false_iff_ne, ne_eq]
  rw [← hacc]
  exact code128_detects_adjacent_transposition start pre post a b ha hb hne

example : c128ReaderAccept 104 ([33, 34] ++ [c128Check 104 [33, 34]]) = true := by decide
example : c128ReaderAccept 104 ([34, 33] ++ [c128Check 104 [33, 34]]) = false := by decide

end Gzx.Properties.C10
