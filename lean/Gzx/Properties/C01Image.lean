/-
  C01 — QR, clause "… or the rendered image read in pure-barcode mode, returns exactly that text".
  The property theorems, and what they need of the reference symbol: its finder facts (`refModule_finder`), and that
  a rendering below 40 pixels has a white sampled pixel (`qr_render_big_or_white`, over the evaluated `allSmallOK`).
  The image-level proofs are in Gzx/Proofs/Image2D.lean (corner scans, read-off), Gzx/Proofs/Image2DQR.lean (diagonal
  walk of moduleSize, float path), Gzx/Proofs/Image2DBin.lean (binarisers, C17) and Gzx/Proofs/Image2DGlobal.lean (the
  global fallback; `read_shows` / `read_refused`).

    text → encoder (reference symbol qr_roundtrip_bits / mirror of Encoder_encode mirror_symbol_roundtrip)
         → renderResult(code, width, height, quietZone)                                  C14 renderQR_*
         → BitMatrix as image.Image → NewLuminanceSourceFromImage → HybridBinarizer.GetBlackMatrix     C17
         → QRCodeReader.Decode(PURE_BARCODE): extractPureBits (float64 moduleSize) → Decoder.Decode

  float64 is a parameter (`FOps`); what is needed of it is `QRFloatExact o s n` for the pitch `s` the renderer chose
  and the symbol dimension `n` (three equations, Proofs/Image2DQR.lean), which holds of every interpretation that is
  exact on integers (`ExactOps`; IEEE binary64 is, below 2^53 — correspondence `img2d qrfloat`).
  Image-size conditions imposed by the binarisers: from 40x40 pixels the local method is used — exact on a pure
  black/white picture; below 40 pixels on an axis the global histogram method is used — exact iff one of the pixels it
  samples is white (Proofs/Image2DGlobal.lean), NotFound otherwise (handed through unchanged by the QR reader).  For a
  REFERENCE symbol neither is a condition of the theorems: every rendering below 40 pixels has pitch 1 and a sampled
  pixel in the padding or on a light function module (`qr_render_big_or_white`, 1 300 bounded cases decided in the
  kernel); for an arbitrary module matrix with the finder facts the conditions stay (`qr_image_path_eq_matrix_path`).
-/
import Gzx.Proofs.Image2DQR
import Gzx.Proofs.Image2DBin
import Gzx.Proofs.Image2DGlobal
import Gzx.Properties.C14
import Gzx.Properties.C01Mirror
import Gzx.Properties.C01Multi
import Gzx.Properties.C05
import Gzx.Properties.C06PureRead
namespace Gzx.Properties.C01Image
open Gzx Gzx.Det Gzx.Det.Pure Gzx.Render Gzx.Image2D Gzx.ImagePath
open Gzx.Properties.C14 (qrScale qrScale_small renderQR_quiet renderQR_eq)
open Gzx.Properties.C06PureRead (toQR)
open Gzx.Properties.C06Det (toyOps)

/-! ## `extractPureBits` on a rendered symbol is the module matrix -/

/-- the QR rendering of `m` shows `m` (C14): pitch `qrScale`, pads ≥ margin·pitch -/
theorem renderQR_shows (mw mh : Nat) (m : Nat → Nat → Bool) (q reqW reqH : Int) (hq : 0 ≤ q) (hw : 1 ≤ mw) (hh : 1 ≤ mh) :
    ∃ img, renderQR mw mh m q reqW reqH = .ok img ∧
      img.w = outSize reqW mw (2 * q) ∧ img.h = outSize reqH mh (2 * q) ∧
      Shows (bitImage img) mw mh m (qrScale mw mh q reqW reqH) (padOf img.w mw (qrScale mw mh q reqW reqH))
        (padOf img.h mh (qrScale mw mh q reqW reqH)) := by
  obtain ⟨hs1, -, -, -, qx1, qx2, qy1, qy2, -⟩ := renderQR_quiet mw mh q reqW reqH hq hw hh
  have hqs : 0 ≤ q * qrScale mw mh q reqW reqH := Int.mul_nonneg hq (by omega)
  exact ⟨_, renderQR_eq mw mh m q reqW reqH hq hw hh, rfl, rfl,
    grid_shows mw mh m _ _ _ _ _ hs1 (by omega) (by omega) (by omega) (by omega)⟩

/-- for the C14 rendering (`renderResult`: any requested width and height, any
    margin ≥ 0, hence any pitch s ≥ 1, any quiet zone and leftover padding) of ANY `n x n` module matrix with the QR
    finder structure the code uses (`QRFinderFacts`: diagonal of the top-left finder and separator, a dark module in
    the last row right of column 0), `QRCodeReader.extractPureBits` returns exactly the module matrix — for every
    interpretation of float64 that is accurate at this pitch and dimension (`QRFloatExact`), with the guarded and with
    an unguarded `Get`. -/
theorem qr_extractPureBits_rendered {F : Type} (o : FOps F) (n : Nat) (m : Nat → Nat → Bool) (q reqW reqH : Int)
    (hq : 0 ≤ q) (hm : QRFinderFacts n m) (ho : QRFloatExact o (qrScale n n q reqW reqH) n) :
    ∃ img, renderQR n n m q reqW reqH = .ok img ∧
      QR.extractPureBits o (bitImage img).rdGo (bitImage img) = .ok { w := n, h := n, rows := matrixRows n n m } ∧
      QR.extractPureBits o (bitImage img).rdStrict (bitImage img) = .ok { w := n, h := n, rows := matrixRows n n m } := by
  have hn := hm.size
  obtain ⟨img, himg, _, _, hs⟩ := renderQR_shows n n m q reqW reqH hq (by omega) (by omega)
  exact ⟨img, himg, qr_extract_shows o hs (reads_rdGo _) hm ho, qr_extract_shows o hs (reads_rdStrict _) hm ho⟩

/-- the accuracy hypothesis is dischargeable: every interpretation exact on integers has it at every pitch and
    dimension — e.g. the integer toy interpretation -/
theorem toy_exact : ExactOps toyOps := by
  refine ⟨?_, ?_, ?_, ?_, ?_⟩
  · intro a b hb; exact Int.mul_tdiv_cancel a (by omega)
  · intro a b; rfl
  · intro a; rfl
  · intro a ha
    show (if decide (a < 0) = true then a - Int.tdiv 1 2 else a + Int.tdiv 1 2) = a
    have : ¬ a < 0 := by omega
    simp [this]
  · intro a ha
    exact Int.tdiv_eq_ediv_of_nonneg ha

theorem qr_extractPureBits_rendered_exact {F : Type} (o : FOps F) (he : ExactOps o) (n : Nat) (m : Nat → Nat → Bool)
    (q reqW reqH : Int) (hq : 0 ≤ q) (hm : QRFinderFacts n m) :
    ∃ img, renderQR n n m q reqW reqH = .ok img ∧
      QR.extractPureBits o (bitImage img).rdGo (bitImage img) = .ok { w := n, h := n, rows := matrixRows n n m } := by
  have hn := hm.size
  obtain ⟨hs1, -⟩ := renderQR_quiet n n q reqW reqH hq (by omega) (by omega)
  obtain ⟨img, h1, h2, _⟩ := qr_extractPureBits_rendered o n m q reqW reqH hq hm (he.qrFloatExact _ n hs1 (by omega))
  exact ⟨img, h1, h2⟩

/-! ## the composed image round trip -/

/-- module (column `i`, row `j`) of the reference symbol (C07) -/
def refModule (v : Nat) (ec : QRRef.EC) (mask : Nat) (cw : List Nat) : Nat → Nat → Bool :=
  fun i j => QRRef.moduleAt v ec mask cw i j

theorem refModule_rows (v : Nat) (ec : QRRef.EC) (mask : Nat) (cw : List Nat) :
    matrixRows (QRRef.dimension v) (QRRef.dimension v) (refModule v ec mask cw) = QRRef.refMatrix v ec mask cw := by
  rw [QRRef.refMatrix_eq_spec]; rfl

theorem regionOf_topLeft (v x y : Nat) (hx : x < 7) (hy : y < 7) : QRRef.regionOf v x y = .finder := by
  unfold QRRef.regionOf
  simp [hx, hy]

theorem regionOf_bottomLeft (v x y : Nat) (hx : x < 7) (hy : y + 7 ≥ QRRef.dimension v) : QRRef.regionOf v x y = .finder := by
  unfold QRRef.regionOf
  simp [hx, hy]

theorem regionOf_77 (v : Nat) : QRRef.regionOf v 7 7 = .separator := by
  unfold QRRef.regionOf QRRef.dimension
  have : ¬ (7 + 7 ≥ 17 + 4 * v) := by omega
  simp [this]

theorem refModule_finder (v : Nat) (ec : QRRef.EC) (mask : Nat) (cw : List Nat) :
    QRFinderFacts (QRRef.dimension v) (refModule v ec mask cw) := by
  refine ⟨by unfold QRRef.dimension; omega, ?_, ⟨6, by omega, by unfold QRRef.dimension; omega, ?_⟩⟩
  · intro i hi
    by_cases h7 : i = 7
    · subst h7
      simp [refModule, QRRef.moduleAt, QRRef.isFunction, QRRef.functionModule, regionOf_77, finderDiag]
    · have hr := regionOf_topLeft v i i (by omega) (by omega)
      have : i = 0 ∨ i = 1 ∨ i = 2 ∨ i = 3 ∨ i = 4 ∨ i = 5 ∨ i = 6 := by omega
      simp only [refModule, QRRef.moduleAt, QRRef.isFunction, QRRef.functionModule, hr]
      rcases this with rfl | rfl | rfl | rfl | rfl | rfl | rfl <;> simp [QRRef.finderDark, finderDiag]
  · have hr := regionOf_bottomLeft v 6 (QRRef.dimension v - 1) (by omega) (by unfold QRRef.dimension; omega)
    simp only [refModule, QRRef.moduleAt, QRRef.isFunction, QRRef.functionModule, hr]
    have hd : QRRef.dimension v - 1 + 7 - QRRef.dimension v = 6 := by unfold QRRef.dimension; omega
    have hl : ¬ (QRRef.dimension v - 1 < 7) := by unfold QRRef.dimension; omega
    simp [QRRef.finderDark, hd, hl]

/-! ### every rendered QR symbol below 40 pixels has a white pixel among the sampled ones -/

/-- a module that is light in EVERY symbol of version `v` (whatever level, mask and codewords): light ring of a
    finder, separator, light timing module, light ring of an alignment pattern -/
def fixedWhite (v i j : Nat) : Bool :=
  match QRRef.regionOf v i j with
  | .finder => !QRRef.finderDark v i j
  | .separator => true
  | .timing => (i + j) % 2 != 0
  | .alignment => !QRRef.alignmentDark v i j
  | _ => false

theorem fixedWhite_moduleAt (v : Nat) (ec : QRRef.EC) (mask : Nat) (cw : List Nat) (i j : Nat)
    (h : fixedWhite v i j = true) : QRRef.moduleAt v ec mask cw i j = false := by
  unfold fixedWhite at h
  unfold QRRef.moduleAt QRRef.isFunction QRRef.functionModule
  cases hr : QRRef.regionOf v i j <;> rw [hr] at h <;> simp_all

/-- the picture `W x H` of a version-`v` symbol at pitch 1, centred: one of the pixels the global method samples lies
    outside the symbol or on a module that is light in every symbol -/
def smallOK (v W H : Nat) : Bool :=
  let n := QRRef.dimension v
  let padX := (W - n) / 2
  let padY := (H - n) / 2
  (List.range 4).any fun k' =>
    let y := H * (k' + 1) / 5
    (List.range (W * 4 / 5 - W / 5)).any fun dx =>
      let x := W / 5 + dx
      decide (x < padX) || decide (x ≥ padX + n) || decide (y < padY) || decide (y ≥ padY + n) ||
        fixedWhite v (x - padX) (y - padY)

/-- the bounded cases: an axis below 40 pixels, and on neither axis does the first sampled line fall into the padding -/
def smallCase (v W H : Nat) : Bool :=
  let n := QRRef.dimension v
  decide (n ≤ W) && decide (n ≤ H) && (decide (W < 40) || decide (H < 40)) &&
  !decide (W / 5 < (W - n) / 2) && !decide (H / 5 < (H - n) / 2)

/-- versions 1..5 and both axes below 71 pixels cover `smallCase`: an axis below 40 pixels holds at most 39 = 17 + 4·5
    modules, and a first sampled line that is not in the padding (`H/5 ≥ (H − n)/2`) bounds the other axis by about
    `5n/3 ≤ 65` -/
def allSmallOK : Bool :=
  [1, 2, 3, 4, 5].all fun v => (List.range 71).all fun W => (List.range 71).all fun H =>
    !smallCase v W H || smallOK v W H

/-- all 1 300-odd bounded cases (versions 1..5, both axes up to 70 pixels), decided by the kernel -/
theorem allSmallOK_true : allSmallOK = true := by decide +kernel

/-- **every rendering of a reference symbol is at least 40x40 pixels or has a white pixel among those the global
    histogram method samples** — whatever the level, mask, codewords, margin ≥ 0 and requested size: below 40 pixels
    the pitch is 1; then either the first sampled row / column lies in the padding, or the picture is one of the
    bounded cases above, in which a light function module (finder ring, separator, timing, alignment ring) is sampled. -/
theorem qr_render_big_or_white (v : Nat) (h1 : 1 ≤ v) (ec : QRRef.EC) (mask : Nat) (cw : List Nat)
    (q reqW reqH : Int) (hq : 0 ≤ q) :
    ∀ img, renderQR (QRRef.dimension v) (QRRef.dimension v) (refModule v ec mask cw) q reqW reqH = .ok img →
      (40 ≤ img.w ∧ 40 ≤ img.h) ∨ WhiteSample img := by
  intro img0 himg0
  have hn : QRRef.dimension v = 17 + 4 * v := rfl
  obtain ⟨img, himg, ew, eh, hS⟩ := renderQR_shows (QRRef.dimension v) (QRRef.dimension v) (refModule v ec mask cw)
    q reqW reqH hq (by omega) (by omega)
  obtain rfl : img = img0 := by rw [himg] at himg0; exact Except.ok.inj himg0
  by_cases hbig : 40 ≤ img.w ∧ 40 ≤ img.h
  · exact Or.inl hbig
  right
  rw [qrScale_small _ (by omega) q reqW reqH hq (by omega)] at hS
  have gw := le_outSize reqW (QRRef.dimension v) (2 * q)
  have gh := le_outSize reqH (QRRef.dimension v) (2 * q)
  generalize hWn : img.w.toNat = Wn at *
  generalize hHn : img.h.toNat = Hn at *
  have eW : img.w = (Wn : Int) := by omega
  have eH : img.h = (Hn : Int) := by omega
  simp only [padOf, Int.mul_one, eW, eH] at hS
  -- a sampled pixel (k, x) outside the symbol or on a module that is light in every symbol
  have light : ∀ k x : Nat, k ∈ [1, 2, 3, 4] → Wn / 5 ≤ x → x < Wn * 4 / 5 →
      (x < (Wn - QRRef.dimension v) / 2 ∨ x ≥ (Wn - QRRef.dimension v) / 2 + QRRef.dimension v ∨
        Hn * k / 5 < (Hn - QRRef.dimension v) / 2 ∨ Hn * k / 5 ≥ (Hn - QRRef.dimension v) / 2 + QRRef.dimension v ∨
        fixedWhite v (x - (Wn - QRRef.dimension v) / 2) (Hn * k / 5 - (Hn - QRRef.dimension v) / 2) = true) →
      WhiteSample img := by
    intro k x hk hx1 hx2 hc
    refine whiteSample_of_shows hS k x hk (hWn ▸ hx1) (hWn ▸ hx2) (by omega) ?_
    rw [hHn]
    rintro ⟨p1, p2, p3, p4, p5⟩
    simp only [Int.ediv_one] at p5
    rcases hc with c | c | c | c | c
    · omega
    · omega
    · omega
    · omega
    · rw [show ((x : Int) - ((Wn : Int) - (QRRef.dimension v : Int)) / 2).toNat = x - (Wn - QRRef.dimension v) / 2 by omega,
        show (((Hn * k / 5 : Nat) : Int) - ((Hn : Int) - (QRRef.dimension v : Int)) / 2).toNat =
          Hn * k / 5 - (Hn - QRRef.dimension v) / 2 by omega] at p5
      exact absurd p5 (by rw [show refModule v ec mask cw _ _ = false from fixedWhite_moduleAt v ec mask cw _ _ c]; simp)
  by_cases hA : Wn / 5 < (Wn - QRRef.dimension v) / 2
  · exact light 1 (Wn / 5) (by simp) (Nat.le_refl _) (by omega) (Or.inl hA)
  by_cases hB : Hn / 5 < (Hn - QRRef.dimension v) / 2
  · exact light 1 (Wn / 5) (by simp) (Nat.le_refl _) (by omega) (Or.inr (Or.inr (Or.inl (by omega))))
  -- the bounded cases
  have hall := allSmallOK_true
  unfold allSmallOK at hall
  have h3' := List.all_eq_true.mp (List.all_eq_true.mp (List.all_eq_true.mp hall v
    (by simp only [List.mem_cons, List.mem_nil_iff, or_false]; omega)) Wn (List.mem_range.mpr (by omega)))
    Hn (List.mem_range.mpr (by omega))
  have hcase : smallCase v Wn Hn = true := by
    unfold smallCase
    simp only [Bool.and_eq_true, Bool.or_eq_true, decide_eq_true_eq, Bool.not_eq_true', decide_eq_false_iff_not]
    exact ⟨⟨⟨⟨by omega, by omega⟩, by omega⟩, hA⟩, hB⟩
  rw [hcase] at h3'
  simp only [Bool.not_true, Bool.false_or] at h3'
  unfold smallOK at h3'
  simp only [List.any_eq_true, List.mem_range, Bool.or_eq_true, decide_eq_true_eq] at h3'
  obtain ⟨k', hk', dx, hdx, hc⟩ := h3'
  exact light (k' + 1) (Wn / 5 + dx) (by simp only [List.mem_cons, List.mem_nil_iff, or_false]; omega)
    (by omega) (by omega) (by simpa only [or_assoc] using hc)

theorem toQR_ref (v : Nat) (ec : QRRef.EC) (mask : Nat) (cw : List Nat) :
    toQR { w := QRRef.dimension v, h := QRRef.dimension v,
           rows := matrixRows (QRRef.dimension v) (QRRef.dimension v) (refModule v ec mask cw) } =
      QRComp.matrixOf (QRRef.refMatrix v ec mask cw) := by
  rw [refModule_rows]
  unfold toQR QRComp.matrixOf
  simp only [Int.toNat_natCast]
  congr 1
  · rw [QRComp.refMatrix_length]; rfl
  · funext x y
    unfold QRRef.matrixAt
    simp only [List.getD_eq_getElem?_getD]
    cases (QRRef.refMatrix v ec mask cw)[y]? <;> simp

/-- the model of `QRCodeReader.Decode(bitmap, {PURE_BARCODE, …})` after the renderer, with the C01 matrix decoder -/
def qrImageDecode {F : Type} (o : FOps F) (T : QRDec.Tables) (hint : ECI.Hint) (v : Nat) (ec : QRRef.EC) (mask : Nat)
    (cw : List Nat) (q reqW reqH : Int) : Except ReadFault QRDec.Decoded :=
  qrImagePath o (QRRef.dimension v) (QRRef.dimension v) (refModule v ec mask cw) q reqW reqH
    (fun b => QRDec.decode T QRComp.rsQR hint (toQR b))

/-- **the pure-barcode image path IS the matrix path** — for ANY `n x n` module matrix with the finder facts (a
    symbol of any encoder, also a damaged one), any margin ≥ 0 and requested size, any matrix decoder `decode`:
    rendering it, handing the BitMatrix over as an image, binarising and reading it with PURE_BARCODE gives exactly
    what `decode` gives on the module matrix itself (result or fault) — whenever the image is at least 40x40 pixels
    or one of the pixels the global method samples is white; in every case that, or the binariser's NotFound. -/
theorem qr_image_path_eq_matrix_path {F α : Type} (o : FOps F) (n : Nat) (m : Nat → Nat → Bool) (q reqW reqH : Int)
    (hq : 0 ≤ q) (hm : QRFinderFacts n m) (ho : QRFloatExact o (qrScale n n q reqW reqH) n) (decode : Bits → Res α) :
    ∃ img, renderQR n n m q reqW reqH = .ok img ∧
      img.w = outSize reqW n (2 * q) ∧ img.h = outSize reqH n (2 * q) ∧
      (40 ≤ img.w ∧ 40 ≤ img.h ∨ WhiteSample img →
        qrImagePath o n n m q reqW reqH decode = liftRes (decode { w := n, h := n, rows := matrixRows n n m })) ∧
      (qrImagePath o n n m q reqW reqH decode = liftRes (decode { w := n, h := n, rows := matrixRows n n m }) ∨
        qrImagePath o n n m q reqW reqH decode = .error (.other .notFound)) := by
  have hn := hm.size
  obtain ⟨img, himg, ew, eh, hS⟩ := renderQR_shows n n m q reqW reqH hq (by omega) (by omega)
  obtain ⟨a, b⟩ := read_shows hS (by omega) (by omega) .other (fun bm => QR.extractPureBits o bm.rdGo bm) _
    (fun bm h => qr_extract_shows o h (reads_rdGo _) hm ho) decode
  simp only [qrImagePath, himg, qrRead_eq]
  exact ⟨img, rfl, ew, eh, a, b⟩

/-- … and the condition is exact: below 40 pixels on an axis and with NO white pixel among the sampled ones the image is
    refused (the binariser's NotFound, handed through) — whatever the module matrix -/
theorem qr_image_path_refused {F α : Type} (o : FOps F) (mw mh : Nat) (m : Nat → Nat → Bool) (q reqW reqH : Int)
    (hq : 0 ≤ q) (hw : 1 ≤ mw) (hh : 1 ≤ mh) (decode : Bits → Res α) :
    ∀ img, renderQR mw mh m q reqW reqH = .ok img → (img.w < 40 ∨ img.h < 40) → ¬ WhiteSample img →
      qrImagePath o mw mh m q reqW reqH decode = .error (.other .notFound) := by
  intro img himg hsmall hno
  obtain ⟨img', himg', -, -, hS⟩ := renderQR_shows mw mh m q reqW reqH hq hw hh
  rw [himg] at himg'; cases himg'
  obtain ⟨hW, hH⟩ := hS.dims_pos hw hh
  simp only [qrImagePath, himg, qrRead_eq]
  exact read_refused img hW hH _ _ decode hsmall hno

/-- whatever a matrix-level theorem says about `Decoder.Decode` on the symbol that carries the final codeword
    sequence `cw` (function patterns, format / version information and placement of the reference; the codewords may
    be damaged) holds of the image path of that symbol -/
theorem qr_image_of_matrix_result_cw {F : Type} (o : FOps F) (T : QRDec.Tables) (hint : ECI.Hint)
    (v : Nat) (ec : QRRef.EC) (mask : Nat) (cw : List Nat) (want : QRDec.Decoded)
    (hsym : QRDec.decode T QRComp.rsQR hint (QRComp.matrixOf (QRRef.refMatrix v ec mask cw)) = .ok want)
    (q reqW reqH : Int) (hq : 0 ≤ q)
    (ho : QRFloatExact o (qrScale (QRRef.dimension v) (QRRef.dimension v) q reqW reqH) (QRRef.dimension v)) :
    let n := QRRef.dimension v
    (40 ≤ outSize reqW n (2 * q) → 40 ≤ outSize reqH n (2 * q) →
      qrImageDecode o T hint v ec mask cw q reqW reqH = .ok want) ∧
    ((∀ img, renderQR n n (refModule v ec mask cw) q reqW reqH = .ok img → WhiteSample img) →
      qrImageDecode o T hint v ec mask cw q reqW reqH = .ok want) ∧
    (qrImageDecode o T hint v ec mask cw q reqW reqH = .ok want ∨
      qrImageDecode o T hint v ec mask cw q reqW reqH = .error (.other .notFound)) := by
  intro n
  obtain ⟨img, himg, ew, eh, hbig, hany⟩ := qr_image_path_eq_matrix_path o n (refModule v ec mask cw) q reqW reqH hq
    (refModule_finder v ec mask cw) ho (fun b => QRDec.decode T QRComp.rsQR hint (toQR b))
  have hdec : QRDec.decode T QRComp.rsQR hint
      (toQR { w := n, h := n, rows := matrixRows n n (refModule v ec mask cw) }) = .ok want := by
    rw [show (toQR { w := n, h := n, rows := matrixRows n n (refModule v ec mask cw) }) =
      QRComp.matrixOf (QRRef.refMatrix v ec mask cw) from toQR_ref v ec mask cw]
    exact hsym
  simp only [hdec, liftRes] at hbig hany
  refine ⟨?_, ?_, hany⟩
  · intro a b
    exact hbig (Or.inl ⟨by rw [ew]; exact a, by rw [eh]; exact b⟩)
  · intro hwhite
    exact hbig (Or.inr (hwhite img himg))

/-- … and, for every version `v ≥ 1`, WITHOUT any condition on the image size: every rendering is at least 40x40 pixels or
    has a white pixel among the sampled ones (`qr_render_big_or_white`) -/
theorem qr_image_of_matrix_result_full {F : Type} (o : FOps F) (T : QRDec.Tables) (hint : ECI.Hint)
    (v : Nat) (h1 : 1 ≤ v) (ec : QRRef.EC) (mask : Nat) (cw : List Nat) (want : QRDec.Decoded)
    (hsym : QRDec.decode T QRComp.rsQR hint (QRComp.matrixOf (QRRef.refMatrix v ec mask cw)) = .ok want)
    (q reqW reqH : Int) (hq : 0 ≤ q)
    (ho : QRFloatExact o (qrScale (QRRef.dimension v) (QRRef.dimension v) q reqW reqH) (QRRef.dimension v)) :
    qrImageDecode o T hint v ec mask cw q reqW reqH = .ok want := by
  obtain ⟨hbig, hwhite, -⟩ := qr_image_of_matrix_result_cw o T hint v ec mask cw want hsym q reqW reqH hq ho
  obtain ⟨img, himg, ew, eh, -⟩ := renderQR_shows (QRRef.dimension v) (QRRef.dimension v) (refModule v ec mask cw)
    q reqW reqH hq (by unfold QRRef.dimension; omega) (by unfold QRRef.dimension; omega)
  rcases qr_render_big_or_white v h1 ec mask cw q reqW reqH hq img himg with ⟨b1, b2⟩ | hw
  · exact hbig (by rw [← ew]; exact b1) (by rw [← eh]; exact b2)
  · refine hwhite ?_
    intro img' himg'
    rw [himg] at himg'
    cases himg'
    exact hw

/-- … in particular of the reference symbol of a payload (`qr_roundtrip_bits`, `qr_roundtrip_items`,
    `qr_roundtrip_segments`) -/
theorem qr_image_of_matrix_result {F : Type} (o : FOps F) (T : QRDec.Tables) (hint : ECI.Hint)
    (v : Nat) (h1 : 1 ≤ v) (ec : QRRef.EC) (mask : Nat) (bits : List Bool) (want : QRDec.Decoded)
    (hsym : QRDec.decode T QRComp.rsQR hint (C01.refSymbol v ec mask bits) = .ok want)
    (q reqW reqH : Int) (hq : 0 ≤ q)
    (ho : QRFloatExact o (qrScale (QRRef.dimension v) (QRRef.dimension v) q reqW reqH) (QRRef.dimension v)) :
    qrImageDecode o T hint v ec mask
      (QRRef.finalCodewords v ec (QRRef.terminate (QRRef.dataCodewords v ec) bits)) q reqW reqH = .ok want := by
  unfold C01.refSymbol at hsym
  exact qr_image_of_matrix_result_full o T hint v h1 ec mask _ want hsym q reqW reqH hq ho

/-- **the image of a DAMAGED symbol** (C05 at image level): the codeword modules carry the interleaving of received
    blocks in which at most ⌊ecPerBlock/2⌋ codewords of every Reed-Solomon block differ from what was written
    (`QRComp.Received`); its rendering at ANY size and margin ≥ 0, read in pure-barcode mode, gives exactly what the
    undamaged symbol gives.  Function patterns are those of the reference: damage to the finder diagonal is outside
    this statement. -/
theorem qr_image_tolerates_block_errors {F : Type} (o : FOps F) (T : QRDec.Tables) (hT : QRComp.TablesConform T)
    (hint : ECI.Hint) (v : Nat) (h1 : 1 ≤ v) (h40 : v ≤ 40) (ec : QRRef.EC) (mask : Nat) (hm : mask < 8)
    (bits : List Bool) (hfit : bits.length ≤ 8 * QRRef.dataCodewords v ec) (parsed : QRDec.Parsed)
    (hparse : ∀ tail, QRDec.Terminated tail → QRDec.parseStream T.eci (bits ++ tail) v hint = .ok parsed)
    (recv : List (List Nat × List Nat))
    (hrecv : QRComp.Received v ec (QRRef.terminate (QRRef.dataCodewords v ec) bits) recv)
    (q reqW reqH : Int) (hq : 0 ≤ q)
    (ho : QRFloatExact o (qrScale (QRRef.dimension v) (QRRef.dimension v) q reqW reqH) (QRRef.dimension v)) :
    qrImageDecode o T hint v ec mask (QRDec.interleave recv) q reqW reqH =
      .ok ⟨parsed, QRComp.toDecEC ec, v, QRRef.terminate (QRRef.dataCodewords v ec) bits, false⟩ :=
  qr_image_of_matrix_result_full o T hint v h1 ec mask _ _
    (C05.qr_tolerates_block_errors T hT hint v h1 h40 ec mask hm bits hfit parsed hparse recv hrecv) q reqW reqH hq ho

/-- payload bits (mode, count, data of ANY segment list that fits version `v` at level
    `ec`) → reference symbol (terminator, padding, RS parity, interleaving, placement, mask 0..7, function patterns) →
    `renderResult` with ANY requested width and height and ANY margin ≥ 0 → image → luminances → `HybridBinarizer` →
    `QRCodeReader.Decode(PURE_BARCODE)` (extractPureBits with float64 `o` → `Decoder.Decode` model with the C04
    Reed-Solomon decoder):
    returns what the bit-stream parser makes of the payload, the level, the version, the data codewords (first attempt,
    not mirrored) — FOR EVERY IMAGE SIZE: at 40x40 pixels and above by the local binariser, below by the global
    histogram method, which is exact because a pixel of the padding or of a light function module is among its samples
    (`qr_render_big_or_white`).
    Hypotheses beyond `qr_roundtrip_bits`: margin ≥ 0; float64 accurate at the pitch the renderer chose
    (`QRFloatExact`, implied by `ExactOps o`). -/
theorem qr_image_pure_roundtrip {F : Type} (o : FOps F) (T : QRDec.Tables) (hT : QRComp.TablesConform T) (hint : ECI.Hint)
    (v : Nat) (h1 : 1 ≤ v) (h40 : v ≤ 40) (ec : QRRef.EC) (mask : Nat) (hm : mask < 8) (bits : List Bool)
    (hfit : bits.length ≤ 8 * QRRef.dataCodewords v ec) (parsed : QRDec.Parsed)
    (hparse : ∀ tail, QRDec.Terminated tail → QRDec.parseStream T.eci (bits ++ tail) v hint = .ok parsed)
    (q reqW reqH : Int) (hq : 0 ≤ q)
    (ho : QRFloatExact o (qrScale (QRRef.dimension v) (QRRef.dimension v) q reqW reqH) (QRRef.dimension v)) :
    qrImageDecode o T hint v ec mask
      (QRRef.finalCodewords v ec (QRRef.terminate (QRRef.dataCodewords v ec) bits)) q reqW reqH =
      .ok ⟨parsed, QRComp.toDecEC ec, v, QRRef.terminate (QRRef.dataCodewords v ec) bits, false⟩ :=
  qr_image_of_matrix_result o T hint v h1 ec mask bits _
    (C01.qr_roundtrip_bits T hT hint v h1 h40 ec mask hm bits hfit parsed hparse) q reqW reqH hq ho

/-- content level: EVERY list of items in any order (numeric / alphanumeric /
    byte / Kanji / Hanzi segments, ECI designators, FNC1 indicators, structured-append headers; C01Multi
    `qr_roundtrip_items`) that fits (version, level), written as the reference symbol and rendered at any size and
    margin ≥ 0, is read back from the IMAGE in pure-barcode mode as the meaning of the list, the level, the version and
    the written data codewords -/
theorem qr_image_pure_roundtrip_items {F : Type} (o : FOps F) (T : QRDec.Tables) (hT : QRComp.TablesConform T)
    (hint : ECI.Hint) (v : Nat) (h1 : 1 ≤ v) (h40 : v ≤ 40) (ec : QRRef.EC) (mask : Nat) (hm : mask < 8)
    (items : List QRMulti.Item) (g : List Nat → ECI.Charset)
    (hc : ∀ it ∈ items, it.Content T.eci)
    (hg : ∀ bs ∈ QRMulti.guessed false items, ECI.guessCharset T.eci bs hint = .ok (g bs))
    (hfit : (QRMulti.bitsOf v items).length ≤ 8 * QRRef.dataCodewords v ec)
    (q reqW reqH : Int) (hq : 0 ≤ q)
    (ho : QRFloatExact o (qrScale (QRRef.dimension v) (QRRef.dimension v) q reqW reqH) (QRRef.dimension v)) :
    qrImageDecode o T hint v ec mask
      (QRRef.finalCodewords v ec (QRRef.terminate (QRRef.dataCodewords v ec) (QRMulti.bitsOf v items))) q reqW reqH =
      .ok ⟨QRMulti.toParsed (QRMulti.run T.eci g {} items), QRComp.toDecEC ec, v,
        QRRef.terminate (QRRef.dataCodewords v ec) (QRMulti.bitsOf v items), false⟩ :=
  qr_image_of_matrix_result o T hint v h1 ec mask (QRMulti.bitsOf v items) _
    (C01Multi.qr_roundtrip_items T hT hint v h1 h40 ec mask hm items g hc hg hfit) q reqW reqH hq ho

/-- the same for the symbol the MIRROR of the Go encoder builds (`Encoder_encode`'s back half: terminateBits,
    interleaveWithECBytes, chooseMaskPattern / forced mask, MatrixUtil_buildMatrix): it is the reference symbol
    (`backHalf_eq_ref`), so its rendered image reads back the same way.  `FuncOK v` — the coded function-pattern
    loops draw the standard's function modules — holds for every version 1..40 (`QREnc.funcOK_all`). -/
theorem qr_image_pure_roundtrip_mirror {F : Type} (o : FOps F) {K : QREnc.Kernels} (hK : QREnc.KernelsOK K)
    (T : QRDec.Tables) (hT : QRComp.TablesConform T) (hint : ECI.Hint)
    (v : Nat) (h1 : 1 ≤ v) (h40 : v ≤ 40) (hfn : QREnc.FuncOK v) (ec : QRRef.EC)
    (forced : Option Nat) (hforced : ∀ k, forced = some k → k < 8) (payload : List Bool)
    (hfit : payload.length ≤ 8 * QRRef.dataCodewords v ec) (parsed : QRDec.Parsed)
    (hparse : ∀ tail, QRDec.Terminated tail → QRDec.parseStream T.eci (payload ++ tail) v hint = .ok parsed)
    (q reqW reqH : Int) (hq : 0 ≤ q) (ho : ExactOps o) :
    ∃ (k : Nat) (M : QREnc.ByteMatrix), k < 8 ∧ QREnc.backHalf K v ec forced payload = .ok ((k : Int), M) ∧
      M.bytes.map (fun r => r.map (· == 1)) =
        matrixRows (QRRef.dimension v) (QRRef.dimension v) (refModule v ec k (QREnc.refCodewords v ec payload)) ∧
      qrImageDecode o T hint v ec k (QREnc.refCodewords v ec payload) q reqW reqH =
        .ok ⟨parsed, QRComp.toDecEC ec, v, QRRef.terminate (QRRef.dataCodewords v ec) payload, false⟩ := by
  have hbh := QREnc.backHalf_eq_ref hK v h1 h40 ec forced hforced payload hfit
  have hmask : forced.getD (QRRef.chooseMask v ec (QREnc.refCodewords v ec payload)) < 8 := by
    cases hfo : forced with
    | some k => simpa using hforced k hfo
    | none => exact QREnc.chooseMask_lt v ec _
  obtain ⟨hs1, -⟩ := renderQR_quiet (QRRef.dimension v) (QRRef.dimension v) q reqW reqH hq
    (by unfold QRRef.dimension; omega) (by unfold QRRef.dimension; omega)
  refine ⟨_, _, hmask, hbh, ?_, ?_⟩
  · rw [C07Mirror.refByteMatrix_modules, refModule_rows]
  · exact qr_image_pure_roundtrip o T hT hint v h1 h40 ec _ hmask payload hfit parsed hparse q reqW reqH hq
      (ho.qrFloatExact _ _ hs1 (by omega))

/-! ## non-vacuity -/

/-- a 9x9 "symbol": the finder pattern, its separator and a dark bottom row -/
def toy : Nat → Nat → Bool := fun i j =>
  (decide (i < 7 ∧ j < 7) && !(decide (1 ≤ i ∧ i ≤ 5 ∧ 1 ≤ j ∧ j ≤ 5) && !decide (2 ≤ i ∧ i ≤ 4 ∧ 2 ≤ j ∧ j ≤ 4))) || (j == 8 && i != 8)

theorem toy_finder : QRFinderFacts 9 toy := by
  refine ⟨by decide, ?_, ⟨7, by decide, by decide, by decide⟩⟩
  intro i hi
  have : i = 0 ∨ i = 1 ∨ i = 2 ∨ i = 3 ∨ i = 4 ∨ i = 5 ∨ i = 6 ∨ i = 7 := by omega
  rcases this with rfl | rfl | rfl | rfl | rfl | rfl | rfl | rfl <;> decide

example : QRFinderFacts 9 toy := toy_finder

/-- margin 1, request 36x40: pitch 3, pads 4 and 6; the bottom-right module is light (the "special case" branch) -/
example : (renderQR 9 9 toy 1 36 40).toOption.map
      (fun img => (QR.extractPureBits toyOps (bitImage img).rdStrict (bitImage img)).toOption.map (fun b => (b.w, b.h, b.rows == matrixRows 9 9 toy))) =
    some (some (9, 9, true)) := by
  obtain ⟨img, himg, -, hx⟩ := qr_extractPureBits_rendered toyOps 9 toy 1 36 40 (by decide) toy_finder
    (toy_exact.qrFloatExact _ 9 (renderQR_quiet 9 9 1 36 40 (by decide) (by decide) (by decide)).1 (by decide))
  simp [himg, hx, Except.toOption]

/-- the float hypothesis is needed: an interpretation whose division is off by one module reads another matrix -/
def badOps : FOps Int := { toyOps with div := fun a b => Int.tdiv a b + 1 }
example : (renderQR 9 9 toy 1 36 40).toOption.map
      (fun img => (QR.extractPureBits badOps (bitImage img).rdGo (bitImage img)).toOption.map (fun b => (b.w, b.h))) ≠
    some (some (9, 9)) := by decide +kernel

end Gzx.Properties.C01Image
