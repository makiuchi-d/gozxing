/-
  C06 — decoding is total, part "the multi QR reader":
    multi/qrcode/detector   MultiFinderPatternFinder.FindMulti / selectMultipleBestPatterns, MultiDetector.DetectMulti
    multi/qrcode            processStructuredAppend
  Models: Gzx/Model/DetMulti.lean, Gzx/Model/MultiSA.lean, tied to /repo by the `c06rest m*` / `c06rest sa`
  correspondence commands (harness/zz_detrest_multi.go).  `sort.Slice` is a parameter of the models: the
  theorems hold for EVERY function that returns a permutation of its argument (Go's sort is not stable;
  the harness checks on every run that the observed result is a descending permutation).
-/
import Gzx.Proofs.DetMulti
import Gzx.Proofs.MultiSA
import Gzx.Properties.C06Det
namespace Gzx.Properties.C06Multi
open Gzx Gzx.Det
open Gzx.Properties.C06Det (toyOps squareImg)

def IsPermSort {α : Type} (sort : List α → List α) : Prop := ∀ l, (sort l).Perm l

theorem IsPermSort.length {α : Type} {sort : List α → List α} (h : IsPermSort sort) (l : List α) :
    (sort l).length = l.length := (h l).length_eq

/-- the row scan of `FindMulti` is total for every image (any width / height, also 0 or negative), with
    or without TRY_HARDER, every float interpretation: `stateCount[currentState]` always has
    `0 ≤ currentState ≤ 4`, the row loop ends within `maxI` rounds (`iSkip ≥ 3`) -/
theorem multi_scan_total {F : Type} (o : FOps F) (img : Img) (tryHarder : Bool) :
    Sat NoFault (fun _ => True) (Multi.findMultiScan o img.rdGo img.h img.w tryHarder) :=
  Multi.findMultiScan_sat o (rdGo_ok img) img.h img.w tryHarder

/-- **`selectMultipleBestPatterns` never indexes outside `possibleCenters`**, for ANY list of centres
    (any length, any coordinates and module sizes — zero, infinite, NaN), any permutation-returning
    sort and every float interpretation: the three nested loops `i1 < size-2`, `i2 < size-1`, `i3 < size`
    with their `break`s stay inside the (sorted) slice although `size` was read before sorting;
    the outcome is NotFoundException or a non-empty list of triples -/
theorem multi_select_total {F : Type} (o : FOps F) (sort : List (QR.FP F) → List (QR.FP F)) (hsort : IsPermSort sort)
    (centers : List (QR.FP F)) :
    Sat OnlyNotFound (fun ts => 0 < ts.length) (Multi.selectMultipleBestPatterns o sort centers) :=
  Multi.selectMultipleBestPatterns_sat o sort hsort.length centers

theorem multi_find_total {F : Type} (o : FOps F) (sort : List (QR.FP F) → List (QR.FP F)) (hsort : IsPermSort sort)
    (img : Img) (tryHarder : Bool) :
    Sat OnlyNotFound (fun ts => 0 < ts.length) (Multi.findMulti o sort img.rdGo img.h img.w tryHarder) := by
  unfold Multi.findMulti
  refine Sat.then (Sat.mono (multi_scan_total o img tryHarder) (fun _ h => h.elim) (fun _ h => h)) ?_
  intro centers
  exact Multi.selectAndOrder_sat o sort hsort.length centers

/-- **`DetectMulti` up to the sampling calls is total**: scan, selection, `ProcessFinderPatternInfo` for
    every triple (NotFound / Format of one triple is skipped) — NotFoundException or a list of located
    symbols, each with a dimension 21..177 that is 1 mod 4 (what `SampleGrid`, C19, is then given) -/
theorem multi_detect_total {F : Type} (o : FOps F) (sort : List (QR.FP F) → List (QR.FP F)) (hsort : IsPermSort sort)
    (img : Img) (tryHarder : Bool) :
    Sat OnlyNotFound (fun ls => ∀ l ∈ ls, Int.tmod l.dimension 4 = 1 ∧ 21 ≤ l.dimension ∧ l.dimension ≤ 177)
      (Multi.detectMulti o sort img.rdGo img.w img.h tryHarder) :=
  Multi.detectMulti_sat o sort hsort.length (rdGo_ok img) img.w img.h tryHarder

theorem multi_detect_never_panics {F : Type} (o : FOps F) (sort : List (QR.FP F) → List (QR.FP F)) (hsort : IsPermSort sort)
    (img : Img) (tryHarder : Bool) :
    (∀ why, Multi.detectMulti o sort img.rdGo img.w img.h tryHarder ≠ .error (.panic why)) ∧
    Multi.detectMulti o sort img.rdGo img.w img.h tryHarder ≠ .error .fuel :=
  (multi_detect_total o sort hsort img tryHarder).never

/-- non-vacuity of `IsPermSort`: the insertion sort the driver runs (what `sort.Slice` does below 12
    elements) returns a permutation, for every float interpretation; so does the identity -/
theorem insertion_sort_is_perm {F : Type} (o : FOps F) : IsPermSort (Multi.sortBySizeDesc o) :=
  fun l => Multi.sortBySizeDesc_perm o l

example : IsPermSort (id : List (QR.FP Int) → List (QR.FP Int)) := fun _ => List.Perm.refl _

/-- a result as "ok" or the tag of its fault, for the examples -/
def outcome {α : Type} : Res α → String
  | .ok _ => "ok"
  | .error e => e.tag

-- the permutation hypothesis is needed: with a "sort" that drops an element the loops do index beyond
-- the slice (four centres, `size = 4` read before sorting)
example : outcome (Multi.selectMultipleBestPatterns toyOps (fun l => l.drop 1)
    [⟨0, 0, 1, 1⟩, ⟨10, 0, 1, 1⟩, ⟨0, 10, 1, 1⟩, ⟨10, 10, 1, 1⟩]) = "PANIC" := by decide +kernel

-- three centres are taken as they are; with four the loops run (the toy floats have 0.1 = 0, so every triple is
-- rejected by `vABBC >= 0.1` and the answer is NotFound — without any index fault)
example : (Multi.selectMultipleBestPatterns toyOps id
    [⟨0, 0, 1, 1⟩, ⟨14, 0, 1, 1⟩, ⟨0, 14, 1, 1⟩]).toOption.map List.length = some 1 := by decide +kernel
example : outcome (Multi.selectMultipleBestPatterns toyOps id
    [⟨0, 0, 1, 1⟩, ⟨14, 0, 1, 1⟩, ⟨0, 14, 1, 1⟩, ⟨14, 14, 1, 1⟩]) = "notfound" := by decide +kernel
example : outcome (Multi.selectMultipleBestPatterns toyOps id [⟨0, 0, 1, 1⟩, ⟨14, 0, 1, 1⟩]) = "notfound" := by decide +kernel

/-! ## processStructuredAppend -/

/-- **`processStructuredAppend` never panics, for ANY list of results with ANY metadata and ANY sort
    function** (not even a permutation is needed: lengths are taken after sorting), and it computes exactly:
    the results without STRUCTURED_APPEND_SEQUENCE unchanged and in order, followed by ONE result whose
    text / raw bytes / byte segments are the concatenations over the sorted structured-append results, with
    no result points, and BYTE_SEGMENTS metadata only if some segment byte exists.  The two-pass
    buffer filling (`make` with summed lengths, `copy(dst[index:], src)`) never slices beyond a buffer. -/
theorem sa_process_total (sort : List MultiSA.Result → List MultiSA.Result) (results : List MultiSA.Result) :
    MultiSA.process sort results =
      .ok (if results.any MultiSA.Result.hasSA
           then results.filter (fun r => !r.hasSA) ++ [MultiSA.merged (sort (results.filter MultiSA.Result.hasSA))]
           else results) :=
  MultiSA.process_eq sort results

theorem sa_process_never_panics (sort : List MultiSA.Result → List MultiSA.Result) (results : List MultiSA.Result) :
    ∀ why, MultiSA.process sort results ≠ .error (.panic why) := by
  intro why h
  rw [sa_process_total] at h
  cases h

/-- `DecodeMultiple` after `DetectMulti` (decode every located symbol, skip the undecodable ones, merge the
    structured-append parts) never panics, for every list of decoder outcomes and every sort -/
theorem multi_decode_total (sort : List MultiSA.Result → List MultiSA.Result) (drs : List (Option MultiSA.DecRes × Nat)) :
    ∃ out, MultiSA.decodeMultiple sort drs = .ok out := by
  unfold MultiSA.decodeMultiple
  simp only []
  split
  · rw [sa_process_total]; exact ⟨_, rfl⟩
  · exact ⟨_, rfl⟩

example : MultiSA.decodeMultiple MultiSA.sortBySeq
    [(some ⟨[66], [2], none, true, some (1, 7)⟩, 3), (none, 4), (some ⟨[65], [1], some [[9]], true, some (0, 7)⟩, 4)]
    = .ok [⟨[65, 66], [1, 2], 0, [(2, .segs [[9]])]⟩] := by decide

-- three parts arriving as 2, 0, 1 with a plain result in between; a wrongly typed sequence value counts as 0
example : MultiSA.process MultiSA.sortBySeq
    [⟨[67], [3], 4, [(9, .int 2)]⟩, ⟨[88], [9], 3, []⟩, ⟨[65], [1], 4, [(2, .segs [[7], []]), (9, .other "string")]⟩,
     ⟨[66], [2], 4, [(9, .int 1)]⟩]
    = .ok [⟨[88], [9], 3, []⟩, ⟨[65, 66, 67], [1, 2, 3], 0, [(2, .segs [[7]])]⟩] := by decide

end Gzx.Properties.C06Multi
