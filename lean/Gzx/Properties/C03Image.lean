/-
  C03 / C09 — the WHOLE image path of the 1-D symbologies as theorems about ONE composed model
  (Gzx/Model/Image1D.lean): writer front end → module pattern → `onedWriter_renderResult` → BitMatrix as image.Image →
  luminance source → `NewBinaryBitmap(HybridBinarizer | GlobalHistogramBinarizer)` → `OneDReader.Decode` → `DecodeRow`.

  Binariser facts used (Gzx/Proofs/Image1DBin.lean, on top of C17): `OneDReader` only ever calls `GetBlackRow`, which both
  binarisers answer with the row method of GlobalHistogramBinarizer; every pixel row of a rendered symbol is bilevel
  (0 / 255) and has a white pixel, so the 32-bucket histogram has no populated bucket other than 0 and 31, the
  contrast test passes, the black-point estimate lies in [8, 240] (strictly between the peaks), and the -1 4 -1 filter
  reproduces every interior pixel; the two border pixels are never set — hence the margin condition `≥ 2` modules
  (then at least one white pixel on either side), on top of the reader's own quiet-zone demand.
  Height: every requested height ≥ 0 works (the renderer draws at least one row; the scan starts on row ⌊h/2⌋).
-/
import Gzx.Proofs.Image1DPath
import Gzx.Properties.C03Row128
import Gzx.Properties.C03Row39
import Gzx.Properties.C03RowFull
import Gzx.Proofs.Image1DWhite
namespace Gzx.Properties.C03Image
open Gzx Gzx.OneD Gzx.Image1D Gzx.Image1DPath Gzx.WriterFrontend

/-! ## Code 128 -/

theorem code128_length (T : Tables) (contents : List Nat) (forced : Option Nat) (mods : List Bool)
    (h : code128Modules T contents forced = .ok mods) : ¬ (contents.length < 1 ∨ contents.length > 80) := by
  intro hc
  unfold code128Modules code128Codes at h
  simp only [bind, Except.bind, throw, throwThe, MonadExceptOf.throw, if_pos hc] at h
  cases h

theorem code128_readable (E : Env) (hT : Row128.wfRow128B E.T.code128 = true) (contents : List Nat)
    (mods : List Bool) (hascii : ∀ c ∈ contents, c < 128) (h : code128Modules E.T contents none = .ok mods)
    (width height : Nat) (margin : Option Nat) (hm : 2 ≤ margin.getD 10) (ext39 : Bool) :
    Readable E .code128 ext39 contents width height margin none contents mods (margin.getD 10) := by
  have hlen := code128_length E.T contents _ mods h
  have hne : contents ≠ [] := by intro e; subst e; simp at hlen
  have hcore : (code128Writer List.length (fun c h => code128Modules E.T c (forcedOf h))).core contents
      (hintsOf (margin.map Int.ofNat) none) = .ok mods := by
    simp only [code128Writer, plainWriter, code128Core, hlen, if_false, hintsOf, Option.map_none, forcedOf]
    exact h
  refine Readable.of_read hm (fun h => by cases h)
    (encode1D_render _ 10 rfl contents hne _ rfl width height margin none mods hcore) ?_
  intro lq s rq _ hs _ _ _
  obtain ⟨o, ho, ht, _⟩ := C03Row128.code128_row_read_write E.T hT contents mods hascii h lq s rq hs
  exact ⟨(.code128, contents), by simp only [scanSym, rowRead, ho, Except.map, ht], rfl⟩

/-- C03 for Code 128 through the whole image path: every ASCII content the
    (un-hinted) writer accepts, every requested width and height ≥ 0, every margin ≥ 2 modules (hint absent = the
    default 10), either binariser, TRY_HARDER or not: `Code128Reader.Decode` on the bitmap of the written image
    returns the content and format CODE_128, found upright on the first scanned row ⌊h/2⌋, no ORIENTATION. -/
theorem oned_image_read_write_code128 (E : Env) (hT : Row128.wfRow128B E.T.code128 = true) (contents : List Nat)
    (mods : List Bool) (hascii : ∀ c ∈ contents, c < 128) (h : code128Modules E.T contents none = .ok mods)
    (width height : Nat) (margin : Option Nat) (hm : 2 ≤ margin.getD 10) (binz : Binz) (ext39 th : Bool) :
    imagePath E .code128 contents width height (margin.map Int.ofNat) none .upright binz ext39 th =
      .ok ⟨.code128, contents, max 1 height / 2, false, false, none⟩ :=
  upright_of_readable (code128_readable E hT contents mods hascii h width height margin hm ext39) binz th

/-- the same under each FORCE_CODE_SET hint ("A" = 101, "B" = 100, "C" = 99) -/
theorem code128_forced_readable (E : Env) (hT : Row128.wfRow128B E.T.code128 = true) (f : Nat)
    (hf : f = 99 ∨ f = 100 ∨ f = 101) (contents : List Nat)
    (mods : List Bool) (hascii : ∀ c ∈ contents, c < 128) (h : code128Modules E.T contents (some f) = .ok mods)
    (width height : Nat) (margin : Option Nat) (hm : 2 ≤ margin.getD 10) (ext39 : Bool) :
    Readable E .code128 ext39 contents width height margin (some f) contents mods (margin.getD 10) := by
  have hlen := code128_length E.T contents _ mods h
  have hne : contents ≠ [] := by intro e; subst e; simp at hlen
  have hcore : (code128Writer List.length (fun c h => code128Modules E.T c (forcedOf h))).core contents
      (hintsOf (margin.map Int.ofNat) (some f)) = .ok mods := by
    rcases hf with rfl | rfl | rfl <;>
      (simp [code128Writer, plainWriter, code128Core, hintsOf, forcedOf, h]; exact ⟨hne, by omega⟩)
  refine Readable.of_read hm (fun h => by cases h)
    (encode1D_render _ 10 rfl contents hne _ rfl width height margin (some f) mods hcore) ?_
  intro lq s rq _ hs _ _ _
  obtain ⟨o, ho, ht, _⟩ := C03Row128.code128_row_read_write_forced E.T hT f hf contents mods hascii h lq s rq hs
  exact ⟨(.code128, contents), by simp only [scanSym, rowRead, ho, Except.map, ht], rfl⟩

/-- "and each forced code set": the same through the whole image path -/
theorem oned_image_read_write_code128_forced (E : Env) (hT : Row128.wfRow128B E.T.code128 = true) (f : Nat)
    (hf : f = 99 ∨ f = 100 ∨ f = 101) (contents : List Nat)
    (mods : List Bool) (hascii : ∀ c ∈ contents, c < 128) (h : code128Modules E.T contents (some f) = .ok mods)
    (width height : Nat) (margin : Option Nat) (hm : 2 ≤ margin.getD 10) (binz : Binz) (ext39 th : Bool) :
    imagePath E .code128 contents width height (margin.map Int.ofNat) (some f) .upright binz ext39 th =
      .ok ⟨.code128, contents, max 1 height / 2, false, false, none⟩ :=
  upright_of_readable (code128_forced_readable E hT f hf contents mods hascii h width height margin hm ext39) binz th

/-! ## Code 93 -/

theorem code93_readable (E : Env) (hT : Row39.WF93Row E.T = true) (contents : List Nat)
    (mods : List Bool) (hne : contents ≠ []) (hascii : ∀ c ∈ contents, c < 128) (h : code93Modules E.T contents = .ok mods)
    (width height : Nat) (margin : Option Nat) (hm : 2 ≤ margin.getD 10) (ext39 : Bool) :
    Readable E .code93 ext39 contents width height margin none contents mods (margin.getD 10) :=
  Readable.of_read hm (fun _ => hT)
    (encode1D_render _ 10 rfl contents hne _ rfl width height margin none mods h)
    (fun lq s rq _ hs _ _ _ => ⟨(.code93, contents), by
      simp only [scanSym, rowRead, C03Row39.code93_row_read_write E.T hT contents mods hascii h lq s rq (by omega),
        Except.map], rfl⟩)

/-- every non-empty ASCII content the Code 93 writer accepts, every width / height
    ≥ 0, margin ≥ 2, either binariser, TRY_HARDER or not: content and CODE_93 from the first scanned row, no orientation. -/
theorem oned_image_read_write_code93 (E : Env) (hT : Row39.WF93Row E.T = true) (contents : List Nat)
    (mods : List Bool) (hne : contents ≠ []) (hascii : ∀ c ∈ contents, c < 128) (h : code93Modules E.T contents = .ok mods)
    (width height : Nat) (margin : Option Nat) (hm : 2 ≤ margin.getD 10) (binz : Binz) (ext39 th : Bool) :
    imagePath E .code93 contents width height (margin.map Int.ofNat) none .upright binz ext39 th =
      .ok ⟨.code93, contents, max 1 height / 2, false, false, none⟩ :=
  upright_of_readable (code93_readable E hT contents mods hne hascii h width height margin hm ext39) binz th

/-! ## Code 39 -/

/-- the reader mode that matches what the Code 39 writer did: full-ASCII iff some character is outside the alphabet -/
def ext39Of (T : Tables) (contents : List Nat) : Bool :=
  !(contents.all (fun c => (CheckDigit.indexOf? c T.code39Alphabet).isSome))

theorem code39_readable (E : Env) (hT : Row39.WF39Row E.T = true) (contents : List Nat)
    (mods : List Bool) (hne : contents ≠ []) (hascii : ∀ c ∈ contents, c < 128) (h : code39Modules E.T contents = .ok mods)
    (width height : Nat) (hw31 : width ≤ 2147483647) (margin : Option Nat) (hm : 2 ≤ margin.getD 10) :
    Readable E .code39 (ext39Of E.T contents) contents width height margin none contents mods (margin.getD 10) :=
  Readable.of_read hm (fun h => by cases h)
    (encode1D_render _ 10 rfl contents hne _ rfl width height margin none mods h)
    (fun lq s rq _ hs _ _ hsw => ⟨(.code39, contents), by
      simp only [scanSym, rowRead, ext39Of,
        C03Row39.code39_row_read_write E.T hT contents mods hne hascii h lq s rq (by omega) (by omega), Except.map], rfl⟩)

/-- every non-empty ASCII content the Code 39 writer accepts (plain when all its
    characters are alphabet characters, full-ASCII escapes otherwise), read by the Code 39 reader in the matching
    mode (`extendedMode` iff the writer had to escape), every width ≤ 2^31-1 (the classifier's `math.MaxInt32`) and
    height ≥ 0, margin ≥ 2, either binariser, TRY_HARDER or not. -/
theorem oned_image_read_write_code39 (E : Env) (hT : Row39.WF39Row E.T = true) (contents : List Nat)
    (mods : List Bool) (hne : contents ≠ []) (hascii : ∀ c ∈ contents, c < 128) (h : code39Modules E.T contents = .ok mods)
    (width height : Nat) (hw31 : width ≤ 2147483647) (margin : Option Nat) (hm : 2 ≤ margin.getD 10) (binz : Binz) (th : Bool) :
    imagePath E .code39 contents width height (margin.map Int.ofNat) none .upright binz (ext39Of E.T contents) th =
      .ok ⟨.code39, contents, max 1 height / 2, false, false, none⟩ :=
  upright_of_readable (code39_readable E hT contents mods hne hascii h width height hw31 margin hm) binz th

/-! ## Codabar -/

theorem codabar_readable (E : Env) (hT : Row39.WFCbRow E.T = true) (contents full : List Nat)
    (hne : contents ≠ []) (h : codabarFull contents = .ok full) (hlen : full.length > 3)
    (width height : Nat) (hw31 : width ≤ 2147483647) (margin : Option Nat) (hm : 2 ≤ margin.getD 10) (ext39 : Bool) :
    ∃ mods, codabarModules E.T contents = .ok mods ∧
      Readable E .codabar ext39 contents width height margin none ((full.drop 1).dropLast) mods (margin.getD 10) := by
  obtain ⟨mods, hmods, _⟩ := C03Row39.codabar_row_read_write E.T hT contents full h hlen 1 1 1 (by omega) (by omega)
    (by omega) (by omega)
  refine ⟨mods, hmods, Readable.of_read hm (fun h => by cases h)
    (encode1D_render _ 10 rfl contents hne _ rfl width height margin none mods hmods) ?_⟩
  intro lq s rq _ hs hmarg hlq hsw
  have h2s : 2 * s ≤ margin.getD 10 * s := Nat.mul_le_mul_right s hm
  obtain ⟨mods', hmods', hd⟩ := C03Row39.codabar_row_read_write E.T hT contents full h hlen lq s rq (by omega) (by omega)
    (by omega) (by omega)
  rw [hmods] at hmods'; cases hmods'
  exact ⟨(.codabar, (full.drop 1).dropLast), by simp only [scanSym, rowRead, hd, Except.map], rfl⟩

/-- every content the Codabar writer accepts with at least two data characters
    (fewer: the reader's MIN_CHARACTER_LENGTH refuses, `codabar_row_short_refused`), every start/stop pair: the data
    characters between the guards come back, format CODABAR. -/
theorem oned_image_read_write_codabar (E : Env) (hT : Row39.WFCbRow E.T = true) (contents full : List Nat)
    (hne : contents ≠ []) (h : codabarFull contents = .ok full) (hlen : full.length > 3)
    (width height : Nat) (hw31 : width ≤ 2147483647) (margin : Option Nat) (hm : 2 ≤ margin.getD 10)
    (binz : Binz) (ext39 th : Bool) :
    imagePath E .codabar contents width height (margin.map Int.ofNat) none .upright binz ext39 th =
      .ok ⟨.codabar, (full.drop 1).dropLast, max 1 height / 2, false, false, none⟩ := by
  obtain ⟨mods, _, hR⟩ := codabar_readable E hT contents full hne h hlen width height hw31 margin hm ext39
  exact upright_of_readable hR binz th

/-! ## ITF -/

theorem itf_readable (E : Env) (hWF : RowITF.wfRowITFB E.T E.I = true)
    (hdef : E.I.defaultAllowed = [6, 8, 10, 12, 14]) (contents : List Nat)
    (hdig : CheckDigit.allDigits contents = true) (heven : contents.length % 2 = 0) (h6 : 6 ≤ contents.length)
    (hlen : contents.length ≤ 80) (width height : Nat) (margin : Option Nat) (hm : 2 ≤ margin.getD 10) (ext39 : Bool) :
    ∃ mods, itfModules E.T contents = .ok mods ∧
      Readable E .itf ext39 contents width height margin none contents mods (margin.getD 10) := by
  have hok : RowITF.lengthOK ((none : Option (List Int)).getD E.I.defaultAllowed) contents.length = true := by
    simp only [Option.getD_none, hdef]; exact C03Row128.itf_default_lengths _ h6 heven
  obtain ⟨mods, hmods, _⟩ := C03Row128.itf_row_read_write E.T E.I hWF contents hdig heven hlen none hok 1 1 1 (by omega)
  have hne : contents ≠ [] := by intro e; subst e; simp at h6
  refine ⟨mods, hmods, Readable.of_read hm (fun h => by cases h)
    (encode1D_render _ 10 rfl contents hne _ rfl width height margin none mods hmods) ?_⟩
  intro lq s rq _ hs _ _ _
  obtain ⟨mods', hmods', hd⟩ := C03Row128.itf_row_read_write E.T E.I hWF contents hdig heven hlen none hok lq s rq hs
  rw [hmods] at hmods'; cases hmods'
  exact ⟨(.itf, contents), by simp only [scanSym, rowRead, hd, Except.map], rfl⟩

/-- every even digit string of 6..80 digits (the lengths the un-hinted reader admits). -/
theorem oned_image_read_write_itf (E : Env) (hWF : RowITF.wfRowITFB E.T E.I = true)
    (hdef : E.I.defaultAllowed = [6, 8, 10, 12, 14]) (contents : List Nat)
    (hdig : CheckDigit.allDigits contents = true) (heven : contents.length % 2 = 0) (h6 : 6 ≤ contents.length)
    (hlen : contents.length ≤ 80) (width height : Nat) (margin : Option Nat) (hm : 2 ≤ margin.getD 10)
    (binz : Binz) (ext39 th : Bool) :
    imagePath E .itf contents width height (margin.map Int.ofNat) none .upright binz ext39 th =
      .ok ⟨.itf, contents, max 1 height / 2, false, false, none⟩ := by
  obtain ⟨mods, _, hR⟩ := itf_readable E hWF hdef contents hdig heven h6 hlen width height margin hm ext39
  exact upright_of_readable hR binz th

/-! ## EAN-13, EAN-8, UPC-A, UPC-E -/

theorem upc_nonempty (k : CheckDigit.EanKind) (contents full : List Nat)
    (hw : CheckDigit.writerContents k contents = .ok full) : contents ≠ [] := by
  intro e; subst e
  cases k <;> simp [CheckDigit.writerContents, CheckDigit.stdWriterContents, CheckDigit.upceWriterContents] at hw

/-- the UPC/EAN row decoder (any UPC-A hint flag) on the renderer's geometry: the quiet-zone conditions of the row
    theorem follow from the margin bounds (`margin ≥ 2·|start guard|`, `margin ≥ 2·|end guard| + 1`, in modules) at
    every width -/
theorem upc_rows (E : Env) (hT : OneD.WFUpcEan E.T = true) (wf : Gzx.Proofs.OneDRowExtTotal.wfRow E.T E.X = true)
    (k : CheckDigit.EanKind) (contents full : List Nat) (hw : CheckDigit.writerContents k contents = .ok full)
    (margin : Nat) (hm1 : margin ≥ 2 * OneD.sumL E.T.startEnd) (hm2 : margin ≥ 2 * OneD.sumL (endGuardOf E.T k) + 1) :
    ∃ mods, upceanModules E.T k contents = .ok mods ∧
      ∀ (canUPCA : Bool) (lq s rq : Nat) (rn : Int), 1 ≤ s → margin * s ≤ lq + rq → lq = (lq + rq) / 2 →
        ∃ res, (OneDRowExt.decodeRow OneDRowExt.VarOps.exact E.T E.X k rn (paddedRow lq s rq mods)
            { canUPCA := canUPCA }).2 = .ok res ∧ res.text = upceanCanonical k full ∧ res.format = k := by
  obtain ⟨mods, hmods, hrd⟩ := C03RowFull.upcean_read_write_full E.T E.X hT wf k contents full hw
  refine ⟨mods, hmods, ?_⟩
  intro canUPCA lq s rq rn hs hmarg hlq
  have a1 : 2 * OneD.sumL E.T.startEnd * s ≤ margin * s := Nat.mul_le_mul_right s hm1
  have a2 : (2 * OneD.sumL (endGuardOf E.T k) + 1) * s ≤ margin * s := Nat.mul_le_mul_right s hm2
  rw [Nat.mul_assoc] at a1
  rw [Nat.add_mul, Nat.mul_assoc, Nat.one_mul] at a2
  have c1 : s * OneD.sumL E.T.startEnd = OneD.sumL E.T.startEnd * s := Nat.mul_comm _ _
  have c2 : s * OneD.sumL (endGuardOf E.T k) = OneD.sumL (endGuardOf E.T k) * s := Nat.mul_comm _ _
  exact hrd lq s rq rn false canUPCA hs (by omega) (by omega)

/-- EAN-13, EAN-8 and UPC-E at once: writer and reader of the same kind -/
theorem upcean_readable (E : Env) (hT : OneD.WFUpcEan E.T = true) (wf : Gzx.Proofs.OneDRowExtTotal.wfRow E.T E.X = true)
    (k : CheckDigit.EanKind) (hk : k ≠ .upca) (contents full : List Nat)
    (hw : CheckDigit.writerContents k contents = .ok full)
    (width height : Nat) (margin : Option Nat) (hm : 2 ≤ margin.getD 9)
    (hm1 : margin.getD 9 ≥ 2 * OneD.sumL E.T.startEnd)
    (hm2 : margin.getD 9 ≥ 2 * OneD.sumL (endGuardOf E.T k) + 1) (ext39 : Bool) :
    ∃ mods, upceanModules E.T k contents = .ok mods ∧
      Readable E (Sym.ofEan k) ext39 contents width height margin none full mods (margin.getD 9) := by
  obtain ⟨mods, hmods, hrd⟩ := upc_rows E hT wf k contents full hw (margin.getD 9) hm1 hm2
  refine ⟨mods, hmods, Readable.of_read hm (fun h => by cases k <;> cases h) ?_ ?_⟩
  · cases k
    case upca => exact absurd rfl hk
    all_goals
      exact encode1D_render _ 9 rfl contents (upc_nonempty _ _ _ hw) _ rfl width height margin none mods hmods
  · intro lq s rq rn hs hmarg hlq _
    obtain ⟨r, hr, ht, hf⟩ := hrd false lq s rq rn hs hmarg hlq
    have hr' : upcRow E k rn (paddedRow lq s rq mods) = .ok r := hr
    cases k
    case upca => exact absurd rfl hk
    all_goals
      exact ⟨(_, full), by simp only [scanSym, Sym.ofEan, rowRead, hr', Except.map, ht, hf, upceanCanonical], rfl⟩

theorem ean13_readable (E : Env) (hT : OneD.WFUpcEan E.T = true) (wf : Gzx.Proofs.OneDRowExtTotal.wfRow E.T E.X = true)
    (contents full : List Nat) (hw : CheckDigit.writerContents .ean13 contents = .ok full)
    (width height : Nat) (margin : Option Nat) (hm : 2 ≤ margin.getD 9)
    (hm2 : margin.getD 9 ≥ 2 * OneD.sumL E.T.startEnd + 1) (ext39 : Bool) :
    ∃ mods, ean13Modules E.T contents = .ok mods ∧
      Readable E .ean13 ext39 contents width height margin none full mods (margin.getD 9) :=
  upcean_readable E hT wf .ean13 (by decide) contents full hw width height margin hm (by omega) hm2 ext39

/-- every 12- or 13-digit content the EAN-13 writer accepts, every width / height
    ≥ 0, every margin ≥ 2·|guard| + 1 modules (= 7 for the standard guards; the default 9 qualifies), either
    binariser, TRY_HARDER or not: the 13 digits (check digit appended) and EAN_13, first scanned row, no orientation. -/
theorem oned_image_read_write_ean13 (E : Env) (hT : OneD.WFUpcEan E.T = true) (wf : Gzx.Proofs.OneDRowExtTotal.wfRow E.T E.X = true)
    (contents full : List Nat) (hw : CheckDigit.writerContents .ean13 contents = .ok full)
    (width height : Nat) (margin : Option Nat) (hm : 2 ≤ margin.getD 9)
    (hm2 : margin.getD 9 ≥ 2 * OneD.sumL E.T.startEnd + 1) (binz : Binz) (ext39 th : Bool) :
    imagePath E .ean13 contents width height (margin.map Int.ofNat) none .upright binz ext39 th =
      .ok ⟨.ean13, full, max 1 height / 2, false, false, none⟩ := by
  obtain ⟨mods, _, hR⟩ := ean13_readable E hT wf contents full hw width height margin hm hm2 ext39
  exact upright_of_readable hR binz th

theorem ean8_readable (E : Env) (hT : OneD.WFUpcEan E.T = true) (wf : Gzx.Proofs.OneDRowExtTotal.wfRow E.T E.X = true)
    (contents full : List Nat) (hw : CheckDigit.writerContents .ean8 contents = .ok full)
    (width height : Nat) (margin : Option Nat) (hm : 2 ≤ margin.getD 9)
    (hm2 : margin.getD 9 ≥ 2 * OneD.sumL E.T.startEnd + 1) (ext39 : Bool) :
    ∃ mods, ean8Modules E.T contents = .ok mods ∧
      Readable E .ean8 ext39 contents width height margin none full mods (margin.getD 9) :=
  upcean_readable E hT wf .ean8 (by decide) contents full hw width height margin hm (by omega) hm2 ext39

/-- 7 or 8 digits; margin ≥ 7 for the standard guards. -/
theorem oned_image_read_write_ean8 (E : Env) (hT : OneD.WFUpcEan E.T = true) (wf : Gzx.Proofs.OneDRowExtTotal.wfRow E.T E.X = true)
    (contents full : List Nat) (hw : CheckDigit.writerContents .ean8 contents = .ok full)
    (width height : Nat) (margin : Option Nat) (hm : 2 ≤ margin.getD 9)
    (hm2 : margin.getD 9 ≥ 2 * OneD.sumL E.T.startEnd + 1) (binz : Binz) (ext39 th : Bool) :
    imagePath E .ean8 contents width height (margin.map Int.ofNat) none .upright binz ext39 th =
      .ok ⟨.ean8, full, max 1 height / 2, false, false, none⟩ := by
  obtain ⟨mods, _, hR⟩ := ean8_readable E hT wf contents full hw width height margin hm hm2 ext39
  exact upright_of_readable hR binz th

theorem upce_readable (E : Env) (hT : OneD.WFUpcEan E.T = true) (wf : Gzx.Proofs.OneDRowExtTotal.wfRow E.T E.X = true)
    (contents full : List Nat) (hw : CheckDigit.writerContents .upce contents = .ok full)
    (width height : Nat) (margin : Option Nat) (hm : 2 ≤ margin.getD 9)
    (hm1 : margin.getD 9 ≥ 2 * OneD.sumL E.T.startEnd)
    (hm2 : margin.getD 9 ≥ 2 * OneD.sumL E.T.upceMiddleEnd + 1) (ext39 : Bool) :
    ∃ mods, upceModules E.T contents = .ok mods ∧
      Readable E .upce ext39 contents width height margin none full mods (margin.getD 9) :=
  upcean_readable E hT wf .upce (by decide) contents full hw width height margin hm hm1 hm2 ext39

/-- UPC-E: the reader's end guard is 6 modules wide, so the margin must be at least
    2·6 + 1 = 13 modules: the writer's DEFAULT margin (9) does not qualify — the known finding is this boundary
    (`upce_default_margin_not_read` below). -/
theorem oned_image_read_write_upce (E : Env) (hT : OneD.WFUpcEan E.T = true) (wf : Gzx.Proofs.OneDRowExtTotal.wfRow E.T E.X = true)
    (contents full : List Nat) (hw : CheckDigit.writerContents .upce contents = .ok full)
    (width height : Nat) (margin : Option Nat) (hm : 2 ≤ margin.getD 9)
    (hm1 : margin.getD 9 ≥ 2 * OneD.sumL E.T.startEnd)
    (hm2 : margin.getD 9 ≥ 2 * OneD.sumL E.T.upceMiddleEnd + 1) (binz : Binz) (ext39 th : Bool) :
    imagePath E .upce contents width height (margin.map Int.ofNat) none .upright binz ext39 th =
      .ok ⟨.upce, full, max 1 height / 2, false, false, none⟩ := by
  obtain ⟨mods, _, hR⟩ := upce_readable E hT wf contents full hw width height margin hm hm1 hm2 ext39
  exact upright_of_readable hR binz th

theorem upca_readable (E : Env) (hT : OneD.WFUpcEan E.T = true) (wf : Gzx.Proofs.OneDRowExtTotal.wfRow E.T E.X = true)
    (contents full : List Nat) (hw : CheckDigit.writerContents .upca contents = .ok full)
    (width height : Nat) (margin : Option Nat) (hm : 2 ≤ margin.getD 9)
    (hm2 : margin.getD 9 ≥ 2 * OneD.sumL E.T.startEnd + 1) (ext39 : Bool) :
    ∃ mods, upcaModules E.T contents = .ok mods ∧
      Readable E .upca ext39 contents width height margin none (full.drop 1) mods (margin.getD 9) := by
  have hw13 : CheckDigit.writerContents .ean13 (48 :: contents) = .ok full := hw
  obtain ⟨mods, hmods, hrd⟩ := upc_rows E hT wf .ean13 (48 :: contents) full hw13 (margin.getD 9) (by omega) hm2
  obtain ⟨t, hfull⟩ := CheckDigit.stdWriterContents_prefix 13 _ full hw13
  refine ⟨mods, hmods, Readable.of_read hm (fun h => by cases h) ?_ ?_⟩
  · unfold writeImage
    simp only [Sym.fmt, upcAWriter, encodeUPCA, ne_eq, not_true_eq_false, if_false]
    exact encode1D_render _ 9 rfl (48 :: contents) (by simp) _ rfl width height margin none mods hmods
  · intro lq s rq rn hs hmarg hlq _
    obtain ⟨r, hr, ht, hf⟩ := hrd false lq s rq rn hs hmarg hlq
    have hr' : upcRow E .ean13 rn (paddedRow lq s rq mods) = .ok r := hr
    refine ⟨(.ean13, full), by simp only [scanSym, rowRead, hr', Except.map, ht, hf, Sym.ofEan, upceanCanonical], ?_⟩
    simp only [finishRead, OneDRowExt.maybeReturnResult, hfull, List.cons_append, if_true, Except.map, Sym.ofEan,
      List.drop_succ_cons, List.drop_zero]

/-- UPC-A: the writer draws the EAN-13 symbol of "0" + contents, `upcAReader.Decode`
    scans with the EAN-13 reader and strips the "0" (`maybeReturnResult`): the 12 digits and UPC_A come back. -/
theorem oned_image_read_write_upca (E : Env) (hT : OneD.WFUpcEan E.T = true) (wf : Gzx.Proofs.OneDRowExtTotal.wfRow E.T E.X = true)
    (contents full : List Nat) (hw : CheckDigit.writerContents .upca contents = .ok full)
    (width height : Nat) (margin : Option Nat) (hm : 2 ≤ margin.getD 9)
    (hm2 : margin.getD 9 ≥ 2 * OneD.sumL E.T.startEnd + 1) (binz : Binz) (ext39 th : Bool) :
    imagePath E .upca contents width height (margin.map Int.ofNat) none .upright binz ext39 th =
      .ok ⟨.upca, full.drop 1, max 1 height / 2, false, false, none⟩ := by
  obtain ⟨mods, _, hR⟩ := upca_readable E hT wf contents full hw width height margin hm hm2 ext39
  exact upright_of_readable hR binz th

/-! ## boundaries and non-vacuity, on the reference tables (= the regenerated ones, Obligations)

The refusals are evaluated by the kernel; the accepted instances are the theorems above applied to the reference
tables, whose table hypotheses are evaluated once each (`wfRow128B_ref` and its like). -/

/-- the reference tables meet the UPC/EAN table hypotheses (evaluated once for the instances below) -/
theorem upcean_ref : OneD.WFUpcEan refEnv.T = true ∧ Gzx.Proofs.OneDRowExtTotal.wfRow refEnv.T refEnv.X = true := by
  decide +kernel

/-- **UPC-E default margin: the known finding as a proved boundary.**  Written with default settings ("0123456", margin
    hint absent = 9 < 13) the image is NOT read back by the UPC-E reader (either binariser) … -/
theorem upce_default_margin_not_read :
    imagePath refEnv .upce (bytesOf "0123456") 0 1 none none .upright .hybrid false false = .error .notFound ∧
    imagePath refEnv .upce (bytesOf "0123456") 0 1 none none .upright .global false true = .error .notFound ∧
    imagePath refEnv .upce (bytesOf "0123456") 0 1 (some 12) none .upright .hybrid false false = .error .notFound := by
  decide +kernel

/-- … and with margin 13, the bound of `oned_image_read_write_upce`, it is -/
example : imagePath refEnv .upce (bytesOf "0123456") 0 1 (some 13) none .upright .hybrid false false =
    .ok ⟨.upce, bytesOf "01234565", 0, false, false, none⟩ :=
  oned_image_read_write_upce refEnv upcean_ref.1 upcean_ref.2 _ _ (by decide) 0 1 (some 13)
    (by decide) (by decide) (by decide) .hybrid false false

/-- **the binariser's border pixels: margin 2 is needed.**  With margin 1 at the natural width the left padding is 0, the
    first bar starts on pixel 0, `GetBlackRow` never sets pixel 0 — the symbol is not read; with margin 2 it is. -/
theorem margin_two_needed :
    imagePath refEnv .code128 [65, 49, 50, 51, 52, 97] 0 1 (some 1) none .upright .hybrid false false = .error .notFound ∧
    imagePath refEnv .code128 [65, 49, 50, 51, 52, 97] 0 1 (some 2) none .upright .hybrid false false =
      .ok ⟨.code128, [65, 49, 50, 51, 52, 97], 0, false, false, none⟩ := by
  obtain ⟨mods, h⟩ := exists_ok_of_isOk (r := code128Modules refEnv.T [65, 49, 50, 51, 52, 97] none) (by decide +kernel)
  exact ⟨by decide +kernel, oned_image_read_write_code128 refEnv Row128.wfRow128B_ref _ mods (by decide) h 0 1 (some 2)
    (by decide) .hybrid false false⟩

/-- the table hypotheses hold for the reference tables -/
example : Row128.wfRow128B refEnv.T.code128 = true ∧ RowITF.wfRowITFB refEnv.T refEnv.I = true ∧
    refEnv.I.defaultAllowed = [6, 8, 10, 12, 14] := ⟨Row128.wfRow128B_ref, RowITF.wfRowITFB_ref, rfl⟩
example : Row39.WF93Row refEnv.T = true ∧ Row39.WF39Row refEnv.T = true ∧ Row39.WFCbRow refEnv.T = true :=
  ⟨Row39.WF93Row_ref, Row39.WF39Row_ref, Row39.WFCbRow_ref⟩
example : OneD.WFUpcEan refEnv.T = true ∧ Gzx.Proofs.OneDRowExtTotal.wfRow refEnv.T refEnv.X = true :=
  upcean_ref
/-- margin bounds: 7 (EAN-13 / EAN-8 / UPC-A), 13 (UPC-E) for the reference guards; the default 9 meets the first only -/
example : 2 * OneD.sumL refEnv.T.startEnd + 1 = 7 ∧ 2 * OneD.sumL refEnv.T.upceMiddleEnd + 1 = 13 := by decide
example : imagePath refEnv .code128 [49, 50, 51, 52] 0 1 none (some 100) .upright .global false false =
    .ok ⟨.code128, [49, 50, 51, 52], 0, false, false, none⟩ := by
  obtain ⟨mods, h⟩ := exists_ok_of_isOk (r := code128Modules refEnv.T [49, 50, 51, 52] (some 100)) (by decide +kernel)
  exact oned_image_read_write_code128_forced refEnv Row128.wfRow128B_ref 100 (by decide) _ mods (by decide) h 0 1 none
    (by decide) .global false false
/-- content hypotheses are satisfiable, and the theorems' conclusions on concrete instances -/
example : code128Modules refEnv.T [65, 49, 50, 51, 52, 97] none ≠ .error .writer := by decide +kernel
example : CheckDigit.writerContents .ean13 (bytesOf "590123412345") = .ok (bytesOf "5901234123457") := by decide
example : imagePath refEnv .ean13 (bytesOf "590123412345") 0 7 none none .upright .global false false =
    .ok ⟨.ean13, bytesOf "5901234123457", 3, false, false, none⟩ :=
  oned_image_read_write_ean13 refEnv upcean_ref.1 upcean_ref.2 _ _ (by decide) 0 7 none
    (by decide) (by decide) .global false false
example : imagePath refEnv .upca (bytesOf "01234567890") 200 2 (some 7) none .upright .hybrid false true =
    .ok ⟨.upca, bytesOf "012345678905", 1, false, false, none⟩ :=
  oned_image_read_write_upca refEnv upcean_ref.1 upcean_ref.2 _ (bytesOf "0012345678905")
    (by decide) 200 2 (some 7) (by decide) (by decide) .hybrid false true
example : imagePath refEnv .ean8 (bytesOf "9638507") 0 0 none none .upright .hybrid false false =
    .ok ⟨.ean8, bytesOf "96385074", 0, false, false, none⟩ :=
  oned_image_read_write_ean8 refEnv upcean_ref.1 upcean_ref.2 _ _ (by decide) 0 0 none
    (by decide) (by decide) .hybrid false false
example : imagePath refEnv .code39 (bytesOf "a") 0 3 (some 2) none .upright .global (ext39Of refEnv.T (bytesOf "a")) false =
    .ok ⟨.code39, bytesOf "a", 1, false, false, none⟩ := by
  obtain ⟨mods, h⟩ := exists_ok_of_isOk (r := code39Modules refEnv.T (bytesOf "a")) (by decide +kernel)
  exact oned_image_read_write_code39 refEnv Row39.WF39Row_ref _ mods (by decide) (by decide) h 0 3 (by decide) (some 2)
    (by decide) .global false
example : imagePath refEnv .code93 (bytesOf "a~") 100 1 none none .upright .hybrid false false =
    .ok ⟨.code93, bytesOf "a~", 0, false, false, none⟩ := by
  obtain ⟨mods, h⟩ := exists_ok_of_isOk (r := code93Modules refEnv.T (bytesOf "a~")) (by decide +kernel)
  exact oned_image_read_write_code93 refEnv Row39.WF93Row_ref _ mods (by decide) (by decide) h 100 1 none (by decide)
    .hybrid false false
example : imagePath refEnv .itf (bytesOf "123456") 0 4 (some 2) none .upright .hybrid false true =
    .ok ⟨.itf, bytesOf "123456", 2, false, false, none⟩ :=
  oned_image_read_write_itf refEnv RowITF.wfRowITFB_ref rfl _ (by decide) (by decide) (by decide) (by decide) 0 4
    (some 2) (by decide) .hybrid false true
example : codabarFull (bytesOf "B1-$D") = .ok (bytesOf "B1-$D") := by decide
example : imagePath refEnv .codabar (bytesOf "B1-$D") 0 1 none none .upright .hybrid false false =
    .ok ⟨.codabar, bytesOf "1-$", 0, false, false, none⟩ :=
  oned_image_read_write_codabar refEnv Row39.WFCbRow_ref _ (bytesOf "B1-$D") (by decide) (by decide) (by decide) 0 1
    (by decide) none (by decide) .hybrid false false

end Gzx.Properties.C03Image
