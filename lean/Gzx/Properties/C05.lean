/-
  C05 — damaged QR / Data Matrix symbols decode exactly, up to the promised capacity.
  Property theorems only.  Model: Gzx/Model/QRDecoder.lean (tied to qrcode/decoder by the `c01`/`c05`
  correspondence suites); helper lemmas: Gzx/Proofs/QRHamming.lean, QRTolerance.lean, QRInterleave.lean; composition
  with the matrix and Reed-Solomon layers: Gzx/Proofs/QRCompTop.lean.  Format, version and codeword damage all at
  once: Properties/C05Comb.lean; Data Matrix: Properties/C05DM.lean.
-/
import Gzx.Proofs.QRTolerance
import Gzx.Proofs.QRInterleave
import Gzx.Proofs.QRMatrixRead
import Gzx.Proofs.QRCompTop
import Gzx.Properties.C01
namespace Gzx.Properties.C05
open Gzx Gzx.QRDec

/-- Clause "up to three flipped bits in each copy of the format information are tolerated", on the
    exact control flow of `doDecodeFormatInformation` / `FormatInformation_DecodeFormatInformation`
    (early exit on an exact match of either copy, best of both copies, threshold 3; the second attempt
    with the mask removed is never needed): for EVERY lookup table whose words pairwise differ in at
    least 7 bits (BCH(15,5); `Obligations.C05.format_lookup_min_distance` checks it for the regenerated
    table), every entry `(w, d)` of it and all error patterns `e₁ e₂` of weight ≤ 3, the two damaged
    copies decode to the data bits `d` of `w`. -/
theorem format_tolerates_3 (T : List (Nat × Nat)) (mask : Nat) (hT : MinDist 7 (T.map (·.1)))
    (w d : Nat) (hw : (w, d) ∈ T) (e₁ e₂ : Nat) (h₁ : popCount 64 e₁ ≤ 3) (h₂ : popCount 64 e₂ ≤ 3) :
    decodeFormatData T mask (w ^^^ e₁) (w ^^^ e₂) = some d :=
  decodeFormatData_near T mask hT w d hw e₁ e₂ h₁ h₂

/-- the same at the level of `FormatInformation_DecodeFormatInformation`'s result: level and mask of `d` -/
theorem format_tolerates_3_info (T : List (Nat × Nat)) (mask : Nat) (hT : MinDist 7 (T.map (·.1)))
    (w d : Nat) (hw : (w, d) ∈ T) (e₁ e₂ : Nat) (h₁ : popCount 64 e₁ ≤ 3) (h₂ : popCount 64 e₂ ≤ 3) :
    decodeFormat T mask (w ^^^ e₁) (w ^^^ e₂) = (do let fi ← formatInfoOf d; pure (some fi)) :=
  decodeFormat_near T mask hT w d hw e₁ e₂ h₁ h₂

/-- non-vacuity: the first four words of the standard's table are 7 apart; word 0x5125 (data 1 = level M,
    mask 1) with bits 0,4,9 flipped in one copy and bits 14,13,2 in the other still decodes to (M, 1) -/
example : MinDist 7 ([(0x5412, 0), (0x5125, 1), (0x5E7C, 2), (0x5B4B, 3)].map (·.1)) := by decide
example : decodeFormat [(0x5412, 0), (0x5125, 1), (0x5E7C, 2), (0x5B4B, 3)] 0x5412
    (0x5125 ^^^ 0x211) (0x5125 ^^^ 0x6004) = .ok (some (.M, 1)) := by decide
/-- and four flipped bits in both copies are beyond the promise: here the result is a different format -/
example : decodeFormat [(0x5412, 0), (0x5125, 1), (0x5E7C, 2), (0x5B4B, 3)] 0x5412
    (0x5125 ^^^ 0x137) (0x5125 ^^^ 0x137) ≠ .ok (some (.M, 1)) := by decide

/-- Clause "up to three flipped bits in each copy of the version information are tolerated":
    `Version_decodeVersionInformation` on a damaged copy of the `i`-th word (version `i+7`) of any table
    with pairwise distance ≥ 8 returns what `Version_GetVersionForNumber(i+7)` returns. -/
theorem version_decode_tolerates_3 (T : Tables) (hT : MinDist 8 T.vdi) (i w : Nat) (hw : T.vdi[i]? = some w)
    (e : Nat) (he : popCount 64 e ≤ 3) :
    decodeVersionInformation T (w ^^^ e) = getVersionForNumber T.versions (i + 7) :=
  decodeVersion_near T hT i w hw e he

/-- … and at the level of one copy inside `ReadVersion` (decode + dimension check): a copy with ≤ 3
    flipped bits yields the version whose dimension the symbol has -/
theorem version_tolerates_3 (T : Tables) (hT : MinDist 8 T.vdi) (i w : Nat) (hw : T.vdi[i]? = some w)
    (e : Nat) (he : popCount 64 e ≤ 3) (v : VersionInfo)
    (hv : getVersionForNumber T.versions (i + 7) = .ok v) (dim : Nat) (hd : v.dimension = dim) :
    versionCopyOK T dim (w ^^^ e) = some v :=
  versionCopyOK_near T hT i w hw e he v hv dim hd

/-- `ReadVersion` control flow (two copies): when the first copy has ≤ 3 flipped bits the version is
    returned (and cached) without consulting the second copy; when the first copy is unusable and
    the second has ≤ 3 flipped bits, the second decides. -/
theorem readVersion_first_copy (T : Tables) (p : Parser) (hc : p.ver = none) (hbig : ¬ (p.m.dim - 17) / 4 ≤ 6)
    (b1 : Nat) (h1 : copyBits p.m p.mirror (versionCoords1 p.m.dim) 0 = .ok b1)
    (v : VersionInfo) (hv : versionCopyOK T p.m.dim b1 = some v) :
    readVersion T p = .ok (v, { p with ver := some v }) := by
  unfold readVersion
  simp only [hc, hbig, if_false]
  rw [h1]
  simp [bind, Except.bind, hv]

theorem readVersion_second_copy (T : Tables) (p : Parser) (hc : p.ver = none) (hbig : ¬ (p.m.dim - 17) / 4 ≤ 6)
    (b1 b2 : Nat) (h1 : copyBits p.m p.mirror (versionCoords1 p.m.dim) 0 = .ok b1)
    (hbad : versionCopyOK T p.m.dim b1 = none)
    (h2 : copyBits p.m p.mirror (versionCoords2 p.m.dim) 0 = .ok b2)
    (v : VersionInfo) (hv : versionCopyOK T p.m.dim b2 = some v) :
    readVersion T p = .ok (v, { p with ver := some v }) := by
  unfold readVersion
  simp only [hc, hbig, if_false]
  rw [h1]
  simp [bind, Except.bind, hbad, h2, hv]

/-! ## the same on whole symbols (matrix level) -/

/-- Clause "up to three flipped bits in each copy of the format information", at the level of
    `BitMatrixParser.ReadFormatInformation`: if the modules of the two format areas hold the word `w`
    of a lookup entry with at most three flipped bits each, the parser returns (and caches) the
    level and mask of that entry. -/
theorem format_tolerates_3_symbol (T : Tables) (hT : MinDist 7 (T.fmt.map (·.1))) (p : Parser) (hc : p.fmt = none)
    (w d : Nat) (hw : (w, d) ∈ T.fmt) (hlt : w < 2 ^ 15) (f : EC × Nat) (hf : formatInfoOf d = .ok f)
    (e₁ e₂ : Nat) (b₁ : e₁ < 2 ^ 15) (b₂ : e₂ < 2 ^ 15) (h₁ : popCount 64 e₁ ≤ 3) (h₂ : popCount 64 e₂ ≤ 3)
    (c₁ : formatCoords1.map (cellOf p.m p.mirror) = natToBits 15 (w ^^^ e₁))
    (c₂ : (formatCoords2 p.m.dim).map (cellOf p.m p.mirror) = natToBits 15 (w ^^^ e₂)) :
    readFormatInformation T p = .ok (f, { p with fmt := some f }) := by
  rw [readFormat_reads T p hc (w ^^^ e₁) (w ^^^ e₂) (Nat.xor_lt_two_pow hlt b₁) (Nat.xor_lt_two_pow hlt b₂) c₁ c₂,
    decodeFormat_near T.fmt T.fmtMask hT w d hw e₁ e₂ h₁ h₂, hf]
  rfl

/-- Clause "… and in each copy of the version information", at the level of `ReadVersion` (symbols of
    version ≥ 7): the first copy with at most three flipped bits decides; the second is not consulted. -/
theorem version_tolerates_3_symbol (T : Tables) (hT : MinDist 8 T.vdi) (p : Parser) (hc : p.ver = none)
    (hbig : ¬ (p.m.dim - 17) / 4 ≤ 6) (i w : Nat) (hw : T.vdi[i]? = some w) (hlt : w < 2 ^ 18)
    (e : Nat) (be : e < 2 ^ 18) (he : popCount 64 e ≤ 3) (v : VersionInfo)
    (hv : getVersionForNumber T.versions (i + 7) = .ok v) (hd : v.dimension = p.m.dim)
    (c₁ : (versionCoords1 p.m.dim).map (cellOf p.m p.mirror) = natToBits 18 (w ^^^ e)) :
    readVersion T p = .ok (v, { p with ver := some v }) :=
  readVersion_reads_first T p hc hbig (w ^^^ e) (Nat.xor_lt_two_pow hlt be) c₁ v
    (versionCopyOK_near T hT i w hw e he v hv p.m.dim hd)

/-! ## corrupted codewords -/

/-- Lifting lemma: `DataBlock_GetDataBlocks` inverts the interleaving of
    ISO 18004 7.6 for every short/long block structure (re-exported from Proofs/QRInterleave.lean;
    `Obligations.C05.versions_wf` checks that all 160 entries of the regenerated VERSIONS table have
    such a structure). -/
theorem interleave_deinterleave {d e : Nat} {short long : List (List Nat × List Nat)}
    (w : ShortLong d e short long) (v : VersionInfo) (ec : EC) (eb : ECBlocks)
    (heb : v.ecBlocks[ec.index]? = some eb) (hec : eb.ecPerBlock = e)
    (hshape : blockShapes eb = (short ++ long).map (fun b => (b.1.length, e + b.1.length)))
    (htot : v.totalCodewords = (QRDec.interleave (short ++ long)).length) :
    getDataBlocks (QRDec.interleave (short ++ long)) v ec =
      .ok ((short ++ long).map (fun b => (b.1.length, b.1 ++ b.2))) :=
  QRDec.interleave_deinterleave w v ec eb heb hec hshape htot

/-- Clause "up to floor(ec/2) corrupted codewords of every Reed-Solomon block … still decodes to exactly
    the original", the block layer alone: the lifting through de-interleaving and per-block correction, with
    Reed-Solomon correction as the NAMED hypothesis `hrs` (it is C04's `rs_corrects` for blocks within
    `e / 2` errors, and C04's `rs_decode_encode` for undamaged blocks) and codeword faults given
    per block (stream positions and block positions correspond through the permutation
    `interleave`, which `interleave_deinterleave` inverts): the corrupted blocks `short' ++ long'` have
    the shape of the written blocks `short ++ long`; then de-interleaving the corrupted stream and
    correcting block by block yields exactly the written data codewords — the input of the
    bit-stream parser, so the decoded text is the original.  `qr_tolerates_block_errors` below is the
    statement on whole symbols, with the matrix layer (C07) and `rs_corrects` (C04) supplied. -/
theorem qr_tolerates_block_errors_partial (rs : List Nat → Nat → Res (List Nat))
    {d e : Nat} {short long short' long' : List (List Nat × List Nat)}
    (w : ShortLong d e short long) (w' : ShortLong d e short' long')
    (hn1 : short'.length = short.length) (hn2 : long'.length = long.length)
    (v : VersionInfo) (ec : EC) (eb : ECBlocks)
    (heb : v.ecBlocks[ec.index]? = some eb) (hec : eb.ecPerBlock = e)
    (hshape : blockShapes eb = (short ++ long).map (fun b => (b.1.length, e + b.1.length)))
    (htot : v.totalCodewords = (QRDec.interleave (short' ++ long')).length)
    (hrs : ∀ p ∈ (short ++ long).zip (short' ++ long'), rs (p.2.1 ++ p.2.2) e = .ok (p.1.1 ++ p.1.2)) :
    (do let blocks ← getDataBlocks (QRDec.interleave (short' ++ long')) v ec
        correctBlocks rs blocks) = .ok ((short ++ long).flatMap (·.1)) := by
  have hsh : shape (short' ++ long') = shape (short ++ long) := by
    rw [w.shape_eq, w'.shape_eq, hn1, hn2]
  obtain ⟨h1, h2⟩ := deinterleave_correct rs w hsh v ec eb heb hec hshape
    (by rw [← interleave_length_shape w hsh]; exact htot) hrs
  rw [h1]; exact h2

/-! ### `qr_tolerates_block_errors`, in full (no Reed-Solomon or placement hypothesis)

The written symbol is the reference symbol of C07 for a payload `bits` (any single- or multi-segment payload
that fits): data codewords `QRRef.terminate …`, blocks `QRComp.refBlocks` (Table 9 split + RS parity), final
sequence = `QRDec.interleave` of the blocks (`QRComp.finalCodewords_eq_interleave`).  A damaged symbol is the
reference symbol whose codeword modules carry the interleaving of RECEIVED blocks: same block shapes, byte
values, and in every block at most `⌊ecPerBlock/2⌋` codewords (data or error-correction) differ from what was
written (`QRComp.Received`; positions of the interleaved stream and of the blocks correspond through the
standard's interleaving 7.6, which is a bijection for a fixed block structure).  The RS decoder is C04's model
`Gzx.RS.decode` over `qrCode256` (`QRComp.rsQR`); its correction capability is C04's `rs_corrects`. -/

/-- **Clause "up to floor(ec/2) corrupted codewords of every Reed-Solomon block still decode to exactly the
    original"** — for every version 1..40, level, mask 0..7, every payload that fits and every such received
    block list: `Decoder.Decode` succeeds on the first attempt and returns exactly what the undamaged symbol
    returns (`Properties.C01.qr_roundtrip_bits`): the parsed content, level, version and the ORIGINAL data
    codewords.  Tables: any tables conforming to the standard (`Obligations.C01.tables_conform` for the
    regenerated ones). -/
theorem qr_tolerates_block_errors (T : Tables) (hT : QRComp.TablesConform T) (hint : ECI.Hint)
    (v : Nat) (h1 : 1 ≤ v) (h40 : v ≤ 40) (ec : QRRef.EC) (mask : Nat) (hm : mask < 8) (bits : List Bool)
    (hfit : bits.length ≤ 8 * QRRef.dataCodewords v ec) (parsed : Parsed)
    (hparse : ∀ tail, Terminated tail → parseStream T.eci (bits ++ tail) v hint = .ok parsed)
    (recv : List (List Nat × List Nat))
    (hrecv : QRComp.Received v ec (QRRef.terminate (QRRef.dataCodewords v ec) bits) recv) :
    decode T QRComp.rsQR hint (QRComp.matrixOf (QRRef.refMatrix v ec mask (QRDec.interleave recv))) =
      .ok ⟨parsed, QRComp.toDecEC ec, v, QRRef.terminate (QRRef.dataCodewords v ec) bits, false⟩ :=
  QRComp.decode_received T hT hint v h1 h40 ec mask hm bits hfit parsed hparse recv hrecv

/-- the undamaged blocks are a (trivial) instance of `Received`: the hypothesis is satisfiable for every symbol,
    and `qr_tolerates_block_errors` contains the clean round trip -/
theorem received_refl (v : Nat) (ec : QRRef.EC) (data : List Nat) (hb : ∀ d ∈ data, d < 256) :
    QRComp.Received v ec data (QRComp.refBlocks v ec data) :=
  QRComp.received_refBlocks v ec data hb

/-- non-vacuity: for the version 1-M symbol of ISO 18004 Annex I the undamaged block satisfies `Received`; a block
    with five of its 26 codewords replaced (the full capacity ⌊10/2⌋) is `QRComp.Examples.recv8_received`, and
    `QRComp.Examples.damaged_annexI_decodes` is the resulting instance of `qr_tolerates_block_errors`
    (Proofs/QRCompExamples.lean) -/
example : QRComp.Received 1 .M [0x10, 0x20, 0x0C, 0x56, 0x61, 0x80, 0xEC, 0x11, 0xEC, 0x11, 0xEC, 0x11, 0xEC, 0x11, 0xEC, 0x11]
    (QRComp.refBlocks 1 .M [0x10, 0x20, 0x0C, 0x56, 0x61, 0x80, 0xEC, 0x11, 0xEC, 0x11, 0xEC, 0x11, 0xEC, 0x11, 0xEC, 0x11]) :=
  received_refl 1 .M _ (by decide)

/-- numeric contents, as an instance: the digits come back from every symbol damaged within the promise -/
theorem qr_tolerates_block_errors_numeric (T : Tables) (hT : QRComp.TablesConform T) (hint : ECI.Hint)
    (v : Nat) (h1 : 1 ≤ v) (h40 : v ≤ 40) (ec : QRRef.EC) (mask : Nat) (hm : mask < 8)
    (ds : List Nat) (hd : ∀ d ∈ ds, d < 10)
    (hfit : QRRef.fitsBits v ec .numeric (QRRef.headerBits none false .numeric).length
      (QRRef.packNumeric ds).length = true)
    (recv : List (List Nat × List Nat))
    (hrecv : QRComp.Received v ec
      (QRRef.dataCodewordsOf v ec (QRRef.headerBits none false .numeric) .numeric ds.length (QRRef.packNumeric ds))
      recv) :
    (decode T QRComp.rsQR hint (QRComp.matrixOf (QRRef.refMatrix v ec mask (QRDec.interleave recv)))).map (·.parsed) =
      .ok ⟨[.raw (ds.map (48 + ·))], [], -1, -1, 1⟩ := by
  have hp := (QRMulti.payload_items v none false).1 ds
  unfold QRRef.dataCodewordsOf at hrecv
  rw [hp] at hrecv
  rw [QRComp.decode_damaged_items T hT hint v h1 h40 ec mask hm _ (fun _ => .sjis)
    (fun it hit => by rcases List.mem_singleton.mp hit with rfl; exact hd) (fun _ h => by cases h)
    (QRMulti.fits_items hp hfit) recv hrecv _ (QRComp.damaged_sym v h1 h40 ec mask _)]
  rfl

/-- Data Matrix twin of the block-by-block step: `QRDec.correctBlocks_map` does not depend on the symbology;
    only the de-interleaving permutation differs (codeword k of the stream belongs to block
    k mod n; for 144x144 the error codewords are rotated by 8 blocks).  The Data Matrix clause itself,
    on the Data Matrix decoder model, is `C05DM.dm_tolerates_block_errors` (Properties/C05DM.lean); on the real code
    the `c05` suite enumerates faults over all 30 sizes. -/
theorem dm_block_correction_step (rs : List Nat → Nat → Res (List Nat)) (orig dmg : List (List Nat × List Nat))
    (hlen : orig.length = dmg.length)
    (h : ∀ p ∈ orig.zip dmg, p.2.1.length = p.1.1.length ∧
        rs (p.2.1 ++ p.2.2) ((p.2.1 ++ p.2.2).length - p.2.1.length) = .ok (p.1.1 ++ p.1.2)) :
    correctBlocks rs (dmg.map (fun b' => (b'.1.length, b'.1 ++ b'.2))) = .ok (orig.flatMap (·.1)) :=
  correctBlocks_map rs orig dmg hlen h

/-- non-vacuity of the block-structure hypothesis, in small: two short blocks and a long one (the kind of
    structure version 5-Q has: 2 blocks of 15 + 2 blocks of 16 data codewords, 18 error-correction codewords each) -/
example : ShortLong 1 1 [([1], [9]), ([2], [8])] [([3, 4], [7])] :=
  ⟨by decide, by decide, by decide⟩
example : QRDec.interleave [([1], [9]), ([2], [8]), ([3, 4], [7])] = [1, 2, 3, 4, 9, 8, 7] := by decide

end Gzx.Properties.C05
