/-
  C08 (work package dmmirror) — what can be said about the DMRE rows 31..48 of the decoder's version table without a
  reliable copy of ISO/IEC 21471: the table rows stay a transcription of version.go (`DMDec.dmreVersions`, tied to the
  regenerated table by `Obligations.C08.gen_versions_eq`), but every row is cross-checked against the GEOMETRY of its own
  symbol size, which is independent of the codeword counts: the data regions tile the symbol (each region framed by a
  finder/clock border of one module on every side), and the mapping matrix holds exactly `totalCodewords` codewords
  (8 modules each, at most 7 modules left over).  This fixes data + error codewords of every DMRE row; the split between
  the two is NOT cross-checked (no independent source), and no claim of conformance to ISO/IEC 21471 is made.
-/
import Gzx.Model.DMDecoder
namespace Gzx.C08Mirror
open Gzx

def geometryOK (v : DMDec.Version) : Bool :=
  let nr := v.symbolSizeRows / v.dataRegionSizeRows
  let nc := v.symbolSizeColumns / v.dataRegionSizeColumns
  decide (0 < v.dataRegionSizeRows) && decide (0 < v.dataRegionSizeColumns) &&
  (nr * (v.dataRegionSizeRows + 2) == v.symbolSizeRows) && (nc * (v.dataRegionSizeColumns + 2) == v.symbolSizeColumns) &&
  ((nr * v.dataRegionSizeRows) * (nc * v.dataRegionSizeColumns) / 8 == v.totalCodewords)

theorem dmre_geometry : DMDec.dmreVersions.all geometryOK = true := by decide +kernel

/-- the same check accepts all 30 rows of ISO/IEC 16022 (which ARE tied to the standard's table): the check is the
    right one -/
theorem iso_geometry : DMDec.isoVersions.all geometryOK = true := by decide +kernel

/-- the check is not vacuous: one data codeword more in 8x48 is rejected -/
example : geometryOK ⟨31, 8, 48, 6, 22, 15, [⟨1, 19⟩]⟩ = false := by decide +kernel

end Gzx.C08Mirror
