/-
  C09 — poses of the written 1-D image on the composed image-path model (Gzx/Model/Image1D.lean):
  "A 1D barcode turned upside down is read with its content and a 180-degree orientation, a sideways one is read when
  asked to try harder".

  * SIDEWAYS — full, all nine symbologies (`oned_sideways_tryharder_reads_<sym>`): the written image turned by 90°
    (clockwise) and read with TRY_HARDER gives the content with ORIENTATION 270.  Facts used: every pixel row of the turned
    picture has one colour — `GetBlackRow` answers NotFound on a black row (single histogram peak: contrast test) and
    NotFound or an all-white row on a white one; every `DecodeRow` refuses an all-white row with NotFound; so the upright
    scan of all rows finds nothing; `RotateCounterClockwise` of the turned picture's bitmap IS the bitmap of the written
    image; the rotated scan finds the symbol on its middle row.
  * UPSIDE DOWN — `oned_upside_down_outcome`: complete characterisation for all nine: the result is decided by what the
    reader's `DecodeRow` makes of the REVERSED rendered row (first attempt on the middle row).  The row read-back theorems
    do not talk about reversed symbols; what holds in general is the trichotomy.  `oned_upside_down_reads_partial`: when
    that first attempt is refused with a reader exception, the content comes back with ORIENTATION 180.
    FULL for Code 39 (`oned_upside_down_reads_code39`): the reversed symbol is refused by `code39FindAsteriskPattern` —
    the first window is the reversed asterisk, whose narrow/wide word differs from the asterisk's (table condition
    `revStar39`, per-run obligation), every later window fails the quiet-zone test (≤ 2 modules of white in front of a
    window ≥ 9 modules wide).
    That the first attempt IS refused is NOT a property of the pattern tables alone for Code 128 and Code 93: reversed
    DATA can contain a window that passes the start test (Code 128: e.g. the reversed pair (98, 73) at 2 px/module passes
    `code128FindStartPattern`'s variance and quiet-zone test; Code 93: a reversed first data character 1, 2, 3, 7, L, M
    or N followed by the reversed start character contains the asterisk pattern, and Code 93 has no quiet-zone test);
    the refusal then comes from the checksum / missing stop further on.  Evaluated instances below.
-/
import Gzx.Properties.C03Image
import Gzx.Proofs.Image1DSide
import Gzx.Proofs.Image1DWhite
import Gzx.Proofs.Image1DRev39
namespace Gzx.Properties.C09Image
open Gzx Gzx.OneD Gzx.Image1D Gzx.Image1DPath Gzx.Image1DScan Gzx.Image1DWhite Gzx.Properties.C03Image

/-! ## upside down -/

/-- All nine symbologies (via `Readable` — the `<sym>_readable` lemmas of Properties/C03Image.lean): for the written
    image turned by 180°, either binariser, TRY_HARDER or not, `Decode` returns
    * what `DecodeRow` reads on the reversed rendered row, upright and without orientation, if it reads anything;
    * the written content with ORIENTATION 180 from the reversed middle row if `DecodeRow` refuses with a reader exception;
    * that failure otherwise. -/
theorem oned_upside_down_outcome {E : Env} {sym : Sym} {ext39 : Bool} {contents : List Nat} {width height : Nat}
    {margin forced : Option Nat} {canonical : List Nat} {mods : List Bool} {m : Nat}
    (hR : Readable E sym ext39 contents width height margin forced canonical mods m) (binz : Binz) (th : Bool) :
    ∃ lq s rq, OneD.renderRow mods width m = .ok (paddedRow lq s rq mods) ∧
      imagePath E sym contents width height (margin.map Int.ofNat) forced .upsideDown binz ext39 th =
        match rowRead E ext39 (scanSym sym) ((max 1 height / 2 : Nat) : Int) (paddedRow lq s rq mods).reverse with
        | .ok t =>
          (match finishRead sym t with
           | .error e => .error e
           | .ok r => .ok ⟨r.1, r.2, max 1 height / 2, false, false, none⟩)
        | .error e =>
          if OneDScan.isReaderException e then .ok ⟨sym, canonical, max 1 height / 2, true, false, some 180⟩
          else .error e := by
  obtain ⟨lq, s, rq, hrow, _, himg⟩ := upside_down_geometry hR binz th
  exact ⟨lq, s, rq, hrow, himg⟩

/-- Upside down, read with ORIENTATION 180 — under the hypothesis the full statement lacks: that `DecodeRow` refuses the
    reversed rendered row (`hrefuse`); see the file header for why this is not a table property for Code 128 / Code 93. -/
theorem oned_upside_down_reads_partial {E : Env} {sym : Sym} {ext39 : Bool} {contents : List Nat} {width height : Nat}
    {margin forced : Option Nat} {canonical : List Nat} {mods : List Bool} {m : Nat}
    (hR : Readable E sym ext39 contents width height margin forced canonical mods m)
    (hrefuse : ∀ (lq s rq : Nat) (rn : Int), 1 ≤ s → m * s ≤ lq + rq → lq = (lq + rq) / 2 → s ≤ max 1 width →
      ∃ e, OneDScan.isReaderException e = true ∧
        rowRead E ext39 (scanSym sym) rn (paddedRow lq s rq mods).reverse = .error e)
    (binz : Binz) (th : Bool) :
    imagePath E sym contents width height (margin.map Int.ofNat) forced .upsideDown binz ext39 th =
      .ok ⟨sym, canonical, max 1 height / 2, true, false, some 180⟩ := by
  obtain ⟨lq, s, rq, _, g, himg⟩ := upside_down_geometry hR binz th
  obtain ⟨e, he, hfail⟩ := hrefuse lq s rq _ g.scale g.quiet g.centred g.le_width
  rw [himg, hfail]
  simp only [he, if_true]

/-- instances of the partial theorem, `hrefuse` spelled out on the symbology's own row decoder -/
theorem oned_upside_down_reads_code128_partial (E : Env) (hT : Row128.wfRow128B E.T.code128 = true) (contents : List Nat)
    (mods : List Bool) (hascii : ∀ c ∈ contents, c < 128) (h : code128Modules E.T contents none = .ok mods)
    (width height : Nat) (margin : Option Nat) (hm : 2 ≤ margin.getD 10)
    (hrefuse : ∀ (lq s rq : Nat), 1 ≤ s → ∃ e, OneDScan.isReaderException e = true ∧
      Row128.decodeRow Row128.exactDom E.T.code128 (paddedRow lq s rq mods).reverse false = .error e)
    (binz : Binz) (ext39 th : Bool) :
    imagePath E .code128 contents width height (margin.map Int.ofNat) none .upsideDown binz ext39 th =
      .ok ⟨.code128, contents, max 1 height / 2, true, false, some 180⟩ :=
  oned_upside_down_reads_partial (code128_readable E hT contents mods hascii h width height margin hm ext39)
    (fun lq s rq _ hs _ _ _ => by
      obtain ⟨e, he, hf⟩ := hrefuse lq s rq hs
      exact ⟨e, he, by simp only [scanSym, rowRead, hf, Except.map]⟩) binz th

theorem oned_upside_down_reads_code93_partial (E : Env) (hT : Row39.WF93Row E.T = true) (contents : List Nat)
    (mods : List Bool) (hne : contents ≠ []) (hascii : ∀ c ∈ contents, c < 128) (h : code93Modules E.T contents = .ok mods)
    (width height : Nat) (margin : Option Nat) (hm : 2 ≤ margin.getD 10)
    (hrefuse : ∀ (lq s rq : Nat), 1 ≤ s → ∃ e, OneDScan.isReaderException e = true ∧
      Row39.c93DecodeRow E.T (paddedRow lq s rq mods).reverse = .error e)
    (binz : Binz) (ext39 th : Bool) :
    imagePath E .code93 contents width height (margin.map Int.ofNat) none .upsideDown binz ext39 th =
      .ok ⟨.code93, contents, max 1 height / 2, true, false, some 180⟩ :=
  oned_upside_down_reads_partial (code93_readable E hT contents mods hne hascii h width height margin hm ext39)
    (fun lq s rq _ hs _ _ _ => by
      obtain ⟨e, he, hf⟩ := hrefuse lq s rq hs
      exact ⟨e, he, by simp only [scanSym, rowRead, hf, Except.map]⟩) binz th

theorem oned_upside_down_reads_code39_partial (E : Env) (hT : Row39.WF39Row E.T = true) (contents : List Nat)
    (mods : List Bool) (hne : contents ≠ []) (hascii : ∀ c ∈ contents, c < 128) (h : code39Modules E.T contents = .ok mods)
    (width height : Nat) (hw31 : width ≤ 2147483647) (margin : Option Nat) (hm : 2 ≤ margin.getD 10)
    (hrefuse : ∀ (lq s rq : Nat), 1 ≤ s → ∃ e, OneDScan.isReaderException e = true ∧
      Row39.c39DecodeRow E.T false (ext39Of E.T contents) (paddedRow lq s rq mods).reverse = .error e)
    (binz : Binz) (th : Bool) :
    imagePath E .code39 contents width height (margin.map Int.ofNat) none .upsideDown binz (ext39Of E.T contents) th =
      .ok ⟨.code39, contents, max 1 height / 2, true, false, some 180⟩ :=
  oned_upside_down_reads_partial (code39_readable E hT contents mods hne hascii h width height hw31 margin hm)
    (fun lq s rq _ hs _ _ _ => by
      obtain ⟨e, he, hf⟩ := hrefuse lq s rq hs
      exact ⟨e, he, by simp only [scanSym, rowRead, hf, Except.map]⟩) binz th

/-- FULL: every non-empty ASCII content the Code 39 writer accepts, every width
    ≤ 2^30-1 (twice the scale must fit the classifier's `math.MaxInt32`), every height ≥ 0, margin ≥ 2, either binariser,
    TRY_HARDER or not: the written image turned by 180° is read as the same content with ORIENTATION 180, from the
    reversed middle row.  Table conditions: `WF39Row` and `revStar39` (asterisk ≠ its mirror image). -/
theorem oned_upside_down_reads_code39 (E : Env) (hT : Row39.WF39Row E.T = true)
    (hrev : Image1DRev39.revStar39 E.T = true) (contents : List Nat)
    (mods : List Bool) (hne : contents ≠ []) (hascii : ∀ c ∈ contents, c < 128) (h : code39Modules E.T contents = .ok mods)
    (width height : Nat) (hw30 : width ≤ 1073741823) (margin : Option Nat) (hm : 2 ≤ margin.getD 10)
    (binz : Binz) (th : Bool) :
    imagePath E .code39 contents width height (margin.map Int.ofNat) none .upsideDown binz (ext39Of E.T contents) th =
      .ok ⟨.code39, contents, max 1 height / 2, true, false, some 180⟩ := by
  have f := Row39.wf39Facts E.T hT
  have hR := code39_readable E hT contents mods hne hascii h width height (by omega) margin hm
  -- the module pattern is the run list of a symbol
  have hmods : ∃ syms, mods = appendPattern (Row39.symbol39 E.T syms) true := by
    have h' := h
    unfold code39Modules at h'
    simp only [bind, Except.bind] at h'
    split at h'
    · cases h'
    · rename_i syms hsy
      have hlt : ∀ i ∈ syms, i < 43 := by
        intro i hi
        have := C03Row39.code39Symbols_lt E.T contents syms hsy i hi
        rw [f.alphaLen] at this
        exact this
      rw [Row39.code39Draw_runs E.T f syms hlt] at h'
      cases h'
      exact ⟨syms, rfl⟩
  obtain ⟨syms, rfl⟩ := hmods
  exact oned_upside_down_reads_partial hR
    (fun lq s rq _ hs _ _ hsw =>
      ⟨.notFound, rfl, by
        simp only [scanSym, rowRead,
          Image1DRev39.c39_reversed_refused E.T hT hrev syms lq s rq hs (by omega) false (ext39Of E.T contents), Except.map]⟩)
    binz th

/-! ## sideways -/

/-- sideways (turned by 90° clockwise) with TRY_HARDER, for every symbology that is `Readable`: the upright scan finds
    nothing, the rotated scan reads the content on its middle row, ORIENTATION 270 -/
theorem oned_sideways_tryharder_reads {E : Env} {sym : Sym} {ext39 : Bool} {contents : List Nat} {width height : Nat}
    {margin forced : Option Nat} {canonical : List Nat} {mods : List Bool} {m : Nat}
    (hR : Readable E sym ext39 contents width height margin forced canonical mods m)
    (h93 : Row39.WF93Row E.T = true) (binz : Binz) :
    imagePath E sym contents width height (margin.map Int.ofNat) forced .sideways binz ext39 true =
      .ok ⟨sym, canonical, max 1 height / 2, false, true, some 270⟩ := by
  obtain ⟨img, lq, s, rq, himg, _, hpic, g, hc⟩ := written_pic mods (List.length_pos_of_mem hR.bar) width height m hR.margin_ge
  obtain ⟨t, hres, hP⟩ := hR.read lq s rq ((max 1 height / 2 : Nat) : Int) g.scale g.quiet g.centred g.le_width
  have hdec := Image1DSide.decodeImage_sideways (rowRead E ext39 (scanSym sym)) binz (paddedRow lq s rq mods)
    (max 1 height) (by omega) hc (fun N rn => ⟨.notFound, rfl, rowRead_white E ext39 _ (fun _ => h93) rn N⟩) t hres
  unfold imagePath
  rw [hR.write, himg]
  simp only [Pic.pose]
  rw [readImage_generic, hpic, hdec]
  simp only [hP]

theorem oned_sideways_tryharder_reads_code128 (E : Env) (hT : Row128.wfRow128B E.T.code128 = true)
    (h93 : Row39.WF93Row E.T = true) (contents : List Nat)
    (mods : List Bool) (hascii : ∀ c ∈ contents, c < 128) (h : code128Modules E.T contents none = .ok mods)
    (width height : Nat) (margin : Option Nat) (hm : 2 ≤ margin.getD 10) (binz : Binz) (ext39 : Bool) :
    imagePath E .code128 contents width height (margin.map Int.ofNat) none .sideways binz ext39 true =
      .ok ⟨.code128, contents, max 1 height / 2, false, true, some 270⟩ :=
  oned_sideways_tryharder_reads (code128_readable E hT contents mods hascii h width height margin hm ext39) h93 binz

theorem oned_sideways_tryharder_reads_code93 (E : Env) (hT : Row39.WF93Row E.T = true) (contents : List Nat)
    (mods : List Bool) (hne : contents ≠ []) (hascii : ∀ c ∈ contents, c < 128) (h : code93Modules E.T contents = .ok mods)
    (width height : Nat) (margin : Option Nat) (hm : 2 ≤ margin.getD 10) (binz : Binz) (ext39 : Bool) :
    imagePath E .code93 contents width height (margin.map Int.ofNat) none .sideways binz ext39 true =
      .ok ⟨.code93, contents, max 1 height / 2, false, true, some 270⟩ :=
  oned_sideways_tryharder_reads (code93_readable E hT contents mods hne hascii h width height margin hm ext39) hT binz

theorem oned_sideways_tryharder_reads_code39 (E : Env) (hT : Row39.WF39Row E.T = true) (h93 : Row39.WF93Row E.T = true)
    (contents : List Nat) (mods : List Bool) (hne : contents ≠ []) (hascii : ∀ c ∈ contents, c < 128)
    (h : code39Modules E.T contents = .ok mods) (width height : Nat) (hw31 : width ≤ 2147483647)
    (margin : Option Nat) (hm : 2 ≤ margin.getD 10) (binz : Binz) :
    imagePath E .code39 contents width height (margin.map Int.ofNat) none .sideways binz (ext39Of E.T contents) true =
      .ok ⟨.code39, contents, max 1 height / 2, false, true, some 270⟩ :=
  oned_sideways_tryharder_reads (code39_readable E hT contents mods hne hascii h width height hw31 margin hm) h93 binz

theorem oned_sideways_tryharder_reads_codabar (E : Env) (hT : Row39.WFCbRow E.T = true) (h93 : Row39.WF93Row E.T = true)
    (contents full : List Nat) (hne : contents ≠ []) (h : codabarFull contents = .ok full) (hlen : full.length > 3)
    (width height : Nat) (hw31 : width ≤ 2147483647) (margin : Option Nat) (hm : 2 ≤ margin.getD 10)
    (binz : Binz) (ext39 : Bool) :
    imagePath E .codabar contents width height (margin.map Int.ofNat) none .sideways binz ext39 true =
      .ok ⟨.codabar, (full.drop 1).dropLast, max 1 height / 2, false, true, some 270⟩ := by
  obtain ⟨mods, _, hR⟩ := codabar_readable E hT contents full hne h hlen width height hw31 margin hm ext39
  exact oned_sideways_tryharder_reads hR h93 binz

theorem oned_sideways_tryharder_reads_itf (E : Env) (hWF : RowITF.wfRowITFB E.T E.I = true) (h93 : Row39.WF93Row E.T = true)
    (hdef : E.I.defaultAllowed = [6, 8, 10, 12, 14]) (contents : List Nat)
    (hdig : CheckDigit.allDigits contents = true) (heven : contents.length % 2 = 0) (h6 : 6 ≤ contents.length)
    (hlen : contents.length ≤ 80) (width height : Nat) (margin : Option Nat) (hm : 2 ≤ margin.getD 10)
    (binz : Binz) (ext39 : Bool) :
    imagePath E .itf contents width height (margin.map Int.ofNat) none .sideways binz ext39 true =
      .ok ⟨.itf, contents, max 1 height / 2, false, true, some 270⟩ := by
  obtain ⟨mods, _, hR⟩ := itf_readable E hWF hdef contents hdig heven h6 hlen width height margin hm ext39
  exact oned_sideways_tryharder_reads hR h93 binz

theorem oned_sideways_tryharder_reads_ean13 (E : Env) (hT : OneD.WFUpcEan E.T = true)
    (wf : Gzx.Proofs.OneDRowExtTotal.wfRow E.T E.X = true) (h93 : Row39.WF93Row E.T = true)
    (contents full : List Nat) (hw : CheckDigit.writerContents .ean13 contents = .ok full)
    (width height : Nat) (margin : Option Nat) (hm : 2 ≤ margin.getD 9)
    (hm2 : margin.getD 9 ≥ 2 * OneD.sumL E.T.startEnd + 1) (binz : Binz) (ext39 : Bool) :
    imagePath E .ean13 contents width height (margin.map Int.ofNat) none .sideways binz ext39 true =
      .ok ⟨.ean13, full, max 1 height / 2, false, true, some 270⟩ := by
  obtain ⟨mods, _, hR⟩ := ean13_readable E hT wf contents full hw width height margin hm hm2 ext39
  exact oned_sideways_tryharder_reads hR h93 binz

theorem oned_sideways_tryharder_reads_ean8 (E : Env) (hT : OneD.WFUpcEan E.T = true)
    (wf : Gzx.Proofs.OneDRowExtTotal.wfRow E.T E.X = true) (h93 : Row39.WF93Row E.T = true)
    (contents full : List Nat) (hw : CheckDigit.writerContents .ean8 contents = .ok full)
    (width height : Nat) (margin : Option Nat) (hm : 2 ≤ margin.getD 9)
    (hm2 : margin.getD 9 ≥ 2 * OneD.sumL E.T.startEnd + 1) (binz : Binz) (ext39 : Bool) :
    imagePath E .ean8 contents width height (margin.map Int.ofNat) none .sideways binz ext39 true =
      .ok ⟨.ean8, full, max 1 height / 2, false, true, some 270⟩ := by
  obtain ⟨mods, _, hR⟩ := ean8_readable E hT wf contents full hw width height margin hm hm2 ext39
  exact oned_sideways_tryharder_reads hR h93 binz

theorem oned_sideways_tryharder_reads_upca (E : Env) (hT : OneD.WFUpcEan E.T = true)
    (wf : Gzx.Proofs.OneDRowExtTotal.wfRow E.T E.X = true) (h93 : Row39.WF93Row E.T = true)
    (contents full : List Nat) (hw : CheckDigit.writerContents .upca contents = .ok full)
    (width height : Nat) (margin : Option Nat) (hm : 2 ≤ margin.getD 9)
    (hm2 : margin.getD 9 ≥ 2 * OneD.sumL E.T.startEnd + 1) (binz : Binz) (ext39 : Bool) :
    imagePath E .upca contents width height (margin.map Int.ofNat) none .sideways binz ext39 true =
      .ok ⟨.upca, full.drop 1, max 1 height / 2, false, true, some 270⟩ := by
  obtain ⟨mods, _, hR⟩ := upca_readable E hT wf contents full hw width height margin hm hm2 ext39
  exact oned_sideways_tryharder_reads hR h93 binz

theorem oned_sideways_tryharder_reads_upce (E : Env) (hT : OneD.WFUpcEan E.T = true)
    (wf : Gzx.Proofs.OneDRowExtTotal.wfRow E.T E.X = true) (h93 : Row39.WF93Row E.T = true)
    (contents full : List Nat) (hw : CheckDigit.writerContents .upce contents = .ok full)
    (width height : Nat) (margin : Option Nat) (hm : 2 ≤ margin.getD 9)
    (hm1 : margin.getD 9 ≥ 2 * OneD.sumL E.T.startEnd)
    (hm2 : margin.getD 9 ≥ 2 * OneD.sumL E.T.upceMiddleEnd + 1) (binz : Binz) (ext39 : Bool) :
    imagePath E .upce contents width height (margin.map Int.ofNat) none .sideways binz ext39 true =
      .ok ⟨.upce, full, max 1 height / 2, false, true, some 270⟩ := by
  obtain ⟨mods, _, hR⟩ := upce_readable E hT wf contents full hw width height margin hm hm1 hm2 ext39
  exact oned_sideways_tryharder_reads hR h93 binz

/-! ## evaluated instances (kernel): non-vacuity of `hrefuse`, and the poses on concrete symbols -/

/-- the Code 128 row decoder refuses the reversed "A1234a" symbol at 1 and 2 px/module -/
example : (code128Modules refEnv.T [65, 49, 50, 51, 52, 97] none).map (fun mods =>
    ((Row128.decodeRow Row128.exactDom refEnv.T.code128 (paddedRow 5 1 5 mods).reverse false).toOption.isNone,
     (Row128.decodeRow Row128.exactDom refEnv.T.code128 (paddedRow 10 2 10 mods).reverse false).toOption.isNone)) =
    .ok (true, true) := by decide +kernel
example : imagePath refEnv .code128 [65, 49, 50, 51, 52, 97] 0 2 none none .upsideDown .hybrid false false =
    .ok ⟨.code128, [65, 49, 50, 51, 52, 97], 1, true, false, some 180⟩ := by decide +kernel
example : Image1DRev39.revStar39 refEnv.T = true := by decide
example : imagePath refEnv .code39 (bytesOf "A1") 0 3 none none .upsideDown .global false true =
    .ok ⟨.code39, bytesOf "A1", 1, true, false, some 180⟩ := by decide +kernel
example : imagePath refEnv .code93 (bytesOf "1a") 0 1 none none .upsideDown .hybrid false false =
    .ok ⟨.code93, bytesOf "1a", 0, true, false, some 180⟩ := by decide +kernel
/-- sideways: read with TRY_HARDER (ORIENTATION 270), not found without -/
example : imagePath refEnv .code39 (bytesOf "A") 0 2 (some 2) none .sideways .hybrid false true =
    .ok ⟨.code39, bytesOf "A", 1, false, true, some 270⟩ := by decide +kernel
example : imagePath refEnv .code39 (bytesOf "A") 0 2 (some 2) none .sideways .hybrid false false = .error .notFound := by
  decide +kernel
example : imagePath refEnv .ean8 (bytesOf "9638507") 0 1 none none .sideways .global false true =
    .ok ⟨.ean8, bytesOf "96385074", 0, false, true, some 270⟩ := by decide +kernel

end Gzx.Properties.C09Image
