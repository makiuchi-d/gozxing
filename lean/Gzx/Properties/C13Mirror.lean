/-
  C13 / work package `qrenc` — the version the mirror of `Encoder_encode` settles on is the smallest adequate one
  BY THE REFERENCE'S capacity rule: `recommendVersion` (C13's model of the two-pass loop, run by the mirror encoder
  `Gzx.QREnc.encode`) = `QRRef.minVersion`, the `find?` of the first version whose data capacity holds the payload.
-/
import Gzx.Proofs.QREncVersion
namespace Gzx.Properties.C13Mirror
open Gzx Gzx.QRRef Gzx.QREnc

/-- automatic version = the smallest version that fits (reference rule), refusal iff none of 1..40 fits -/
theorem mirror_recommend_eq_minVersion (ec : EC) (m : Mode) (hdr data : Nat) :
    QRVersionChoice.recommendVersion tables ec m hdr data =
      match minVersion ec m hdr data with
      | some v => .ok (versionInfo v)
      | none => .error .writer := recommendVersion_eq_min ec m hdr data

/-- what the reference calls "fits" is what C13's theorems call "fits" on the standard's tables -/
theorem mirror_fits_eq (v : Nat) (h1 : 1 ≤ v) (h40 : v ≤ 40) (ec : EC) (m : Mode) (hdr data : Nat) :
    Gzx.Properties.C13.fits QRVersionChoice.refTables ec m hdr data v = fitsBits v ec m hdr data :=
  fits_eq_fitsBits v h1 h40 ec m hdr data

theorem mirror_minVersion_fits {ec : EC} {m : Mode} {hdr data v : Nat} (h : minVersion ec m hdr data = some v) :
    1 ≤ v ∧ v ≤ 40 ∧ fitsBits v ec m hdr data = true := minVersion_range h

example : minVersion .L .byte 4 (8 * 17) = some 1 := by decide

end Gzx.Properties.C13Mirror
