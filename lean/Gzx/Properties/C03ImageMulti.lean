/-
  C03 — "… and where applicable by the multi-format UPC/EAN reader": the image path with
  `NewMultiFormatUPCEANReader(hints).Decode(bitmap, hints)` (model `imagePathMulti`, Gzx/Model/Image1D.lean; the
  `DecodeRow` loop over the sub-readers is `OneDRowExt.multiDecodeRow`).
  * POSSIBLE_FORMATS = [the symbol's own format]: content and format as with the matching reader — all four kinds;
  * no POSSIBLE_FORMATS: an EAN-13 symbol is EAN_13; a UPC-A symbol is reported as EAN_13 "0" + content (the first
    sub-reader is the EAN-13 reader and UPC_A was not asked for — the rule the library's own tests pin down).
  (EAN-8 / UPC-E without a hint need "the EAN-13 sub-reader refuses the symbol", which the row theorems do not state.)
-/
import Gzx.Properties.C03Image
import Gzx.Properties.C03Multi
namespace Gzx.Properties.C03ImageMulti
open Gzx Gzx.OneD Gzx.Image1D Gzx.Image1DPath Gzx.Image1DScan Gzx.CheckDigit Gzx.OneDRowExt Gzx.Properties.C03Image

/-- the first sub-reader's success is the multi-format reader's result (an EAN-13 result is left alone unless UPC_A
    was asked for) -/
theorem multi_first {V : Type} (O : VarOps V) (T : OneD.Tables) (X : ExtTables) (k : EanKind) (post : List EanKind)
    (rn : Int) (row : List Bool) (h : Hints) (res : RowResult)
    (hk : (OneDRowExt.decodeRow O T X k rn row h).2 = .ok res) (hne : res.text ≠ [])
    (hcan : res.format = .ean13 → h.canUPCA = false) :
    (OneDRowExt.multiDecodeRow O T X (k :: post) rn row h).2 = .ok res := by
  unfold OneDRowExt.decodeRow at hk
  unfold OneDRowExt.multiDecodeRow
  cases hsg : OneD.notFoundOf (findStartGuardPattern O T row) with
  | error e => rw [hsg] at hk; cases hk
  | ok sg =>
    rw [hsg] at hk
    simp only [] at hk ⊢
    rw [C03Multi.multiLoopA_ok_head (fun k => readerWithStart O T X k rn row h sg) h.canUPCA k post res [] hk]
    simp only [C03Multi.present]
    by_cases hf : res.format = .ean13
    · rw [if_pos hf, hcan hf]
      cases ht : res.text with
      | nil => exact absurd ht hne
      | cons c rest => simp
    · rw [if_neg hf]

/-- rendering → bitmap → scan with the multi-format reader, when its first sub-reader (`k`) reads back every padded
    row with the renderer's geometry -/
theorem multi_upright {E : Env} {sym : Sym} {ext39 : Bool} {contents : List Nat} {width height : Nat}
    {margin forced : Option Nat} {canonical : List Nat} {mods : List Bool} {m : Nat}
    (hR : Readable E sym ext39 contents width height margin forced canonical mods m)
    (formats : List (Option EanKind)) (k : EanKind) (post : List EanKind) (hfirst : multiReaders formats = k :: post)
    (text : List Nat) (hne : text ≠ []) (hcan : k = .ean13 → formats.contains (some .upca) = false)
    (hread : ∀ (lq s rq : Nat) (rn : Int), 1 ≤ s → m * s ≤ lq + rq → lq = (lq + rq) / 2 →
      ∃ res, (OneDRowExt.decodeRow VarOps.exact E.T E.X k rn (paddedRow lq s rq mods)
          { canUPCA := formats.contains (some .upca) }).2 = .ok res ∧ res.text = text ∧ res.format = k)
    (binz : Binz) (th : Bool) :
    imagePathMulti E sym contents width height (margin.map Int.ofNat) forced .upright binz formats th =
      .ok ⟨Sym.ofEan k, text, max 1 height / 2, false, false, none⟩ := by
  obtain ⟨img, lq, s, rq, himg, _, hpic, g, hc⟩ := written_pic mods (List.length_pos_of_mem hR.bar) width height m hR.margin_ge
  obtain ⟨res, hres, ht, hfm⟩ := hread lq s rq ((max 1 height / 2 : Nat) : Int) g.scale g.quiet g.centred
  have hrow : multiRow E formats ((max 1 height / 2 : Nat) : Int) (paddedRow lq s rq mods) = .ok (Sym.ofEan k, text) := by
    unfold multiRow
    rw [hfirst, multi_first VarOps.exact E.T E.X k post _ _ _ res hres (by rw [ht]; exact hne)
      (fun h => hcan (hfm.symm.trans h))]
    simp only [Except.map, hfm, ht]
  unfold imagePathMulti
  rw [hR.write, himg]
  simp only [Pic.pose, readImageMulti]
  rw [hpic, decodeImage_uniform _ binz _ hc _ (by omega) th (.ok ((Sym.ofEan k, text), false)) (by rw [hrow]; rfl)]
  rfl

theorem full_ne_nil (k : EanKind) (contents full : List Nat) (hw : writerContents k contents = .ok full) : full ≠ [] := by
  intro e; subst e
  cases k
  · obtain ⟨fd, h1, h2, _⟩ := CheckDigit.stdWriterContents_valid 13 _ _ hw
    cases fd <;> simp [digitBytes] at h1 h2
  · obtain ⟨fd, h1, h2, _⟩ := CheckDigit.stdWriterContents_valid 8 _ _ hw
    cases fd <;> simp [digitBytes] at h1 h2
  · obtain ⟨fd, h1, h2, _⟩ := CheckDigit.stdWriterContents_valid 13 _ _ hw
    cases fd <;> simp [digitBytes] at h1 h2
  · obtain ⟨fd, h1, h2, _⟩ := OneD.upce_full _ _ hw
    cases fd <;> simp [digitBytes] at h1 h2

/-- **EAN-13 / EAN-8 / UPC-E through the multi-format reader with POSSIBLE_FORMATS = [own format]** (also: EAN-13 with
    no hint at all, `formats = []`) -/
theorem oned_image_read_write_multi_ean13 (E : Env) (hT : OneD.WFUpcEan E.T = true)
    (wf : Gzx.Proofs.OneDRowExtTotal.wfRow E.T E.X = true)
    (contents full : List Nat) (hw : writerContents .ean13 contents = .ok full)
    (width height : Nat) (margin : Option Nat) (hm : 2 ≤ margin.getD 9)
    (hm2 : margin.getD 9 ≥ 2 * OneD.sumL E.T.startEnd + 1) (formats : List (Option EanKind))
    (hf : formats = [some .ean13] ∨ formats = []) (binz : Binz) (th : Bool) :
    imagePathMulti E .ean13 contents width height (margin.map Int.ofNat) none .upright binz formats th =
      .ok ⟨.ean13, full, max 1 height / 2, false, false, none⟩ := by
  obtain ⟨mods, hmods, hR⟩ := ean13_readable E hT wf contents full hw width height margin hm hm2 false
  obtain ⟨mods', hmods', hrows⟩ := upc_rows E hT wf .ean13 contents full hw (margin.getD 9) (by omega) hm2
  cases hmods.symm.trans hmods'
  rcases hf with rfl | rfl
  · exact multi_upright hR _ .ean13 [] rfl full (full_ne_nil _ _ _ hw) (fun _ => rfl) (hrows false) binz th
  · exact multi_upright hR _ .ean13 [.ean8, .upce] rfl full (full_ne_nil _ _ _ hw) (fun _ => rfl) (hrows false) binz th

theorem oned_image_read_write_multi_ean8 (E : Env) (hT : OneD.WFUpcEan E.T = true)
    (wf : Gzx.Proofs.OneDRowExtTotal.wfRow E.T E.X = true)
    (contents full : List Nat) (hw : writerContents .ean8 contents = .ok full)
    (width height : Nat) (margin : Option Nat) (hm : 2 ≤ margin.getD 9)
    (hm2 : margin.getD 9 ≥ 2 * OneD.sumL E.T.startEnd + 1) (binz : Binz) (th : Bool) :
    imagePathMulti E .ean8 contents width height (margin.map Int.ofNat) none .upright binz [some .ean8] th =
      .ok ⟨.ean8, full, max 1 height / 2, false, false, none⟩ := by
  obtain ⟨mods, hmods, hR⟩ := ean8_readable E hT wf contents full hw width height margin hm hm2 false
  obtain ⟨mods', hmods', hrows⟩ := upc_rows E hT wf .ean8 contents full hw (margin.getD 9) (by omega) hm2
  cases hmods.symm.trans hmods'
  exact multi_upright hR _ .ean8 [] rfl full (full_ne_nil _ _ _ hw) (fun h => by cases h) (hrows false) binz th

theorem oned_image_read_write_multi_upce (E : Env) (hT : OneD.WFUpcEan E.T = true)
    (wf : Gzx.Proofs.OneDRowExtTotal.wfRow E.T E.X = true)
    (contents full : List Nat) (hw : writerContents .upce contents = .ok full)
    (width height : Nat) (margin : Option Nat) (hm : 2 ≤ margin.getD 9)
    (hm1 : margin.getD 9 ≥ 2 * OneD.sumL E.T.startEnd)
    (hm2 : margin.getD 9 ≥ 2 * OneD.sumL E.T.upceMiddleEnd + 1) (binz : Binz) (th : Bool) :
    imagePathMulti E .upce contents width height (margin.map Int.ofNat) none .upright binz [some .upce] th =
      .ok ⟨.upce, full, max 1 height / 2, false, false, none⟩ := by
  obtain ⟨mods, hmods, hR⟩ := upce_readable E hT wf contents full hw width height margin hm hm1 hm2 false
  obtain ⟨mods', hmods', hrows⟩ := upc_rows E hT wf .upce contents full hw (margin.getD 9) hm1 hm2
  cases hmods.symm.trans hmods'
  exact multi_upright hR _ .upce [] rfl full (full_ne_nil _ _ _ hw) (fun h => by cases h) (hrows false) binz th

/-- **UPC-A through the multi-format reader**: with POSSIBLE_FORMATS = [UPC_A] the 12 digits as UPC_A; with no hint the
    symbol is reported as EAN_13 "0" + the 12 digits (the first sub-reader is the EAN-13 reader, UPC_A was not asked for). -/
theorem oned_image_read_write_multi_upca (E : Env) (hT : OneD.WFUpcEan E.T = true)
    (wf : Gzx.Proofs.OneDRowExtTotal.wfRow E.T E.X = true)
    (contents full : List Nat) (hw : writerContents .upca contents = .ok full)
    (width height : Nat) (margin : Option Nat) (hm : 2 ≤ margin.getD 9)
    (hm2 : margin.getD 9 ≥ 2 * OneD.sumL E.T.startEnd + 1) (binz : Binz) (th : Bool) :
    imagePathMulti E .upca contents width height (margin.map Int.ofNat) none .upright binz [some .upca] th =
      .ok ⟨.upca, full.drop 1, max 1 height / 2, false, false, none⟩ ∧
    imagePathMulti E .upca contents width height (margin.map Int.ofNat) none .upright binz [] th =
      .ok ⟨.ean13, full, max 1 height / 2, false, false, none⟩ := by
  obtain ⟨mods, hmods, hR⟩ := upca_readable E hT wf contents full hw width height margin hm hm2 false
  have hw13 : writerContents .ean13 (48 :: contents) = .ok full := hw
  constructor
  · obtain ⟨mods', hmods', hrows⟩ := upc_rows E hT wf .upca contents full hw (margin.getD 9) (by omega) hm2
    cases hmods.symm.trans hmods'
    have hne : full.drop 1 ≠ [] := by
      obtain ⟨fd, h1, h2, _⟩ := CheckDigit.stdWriterContents_valid 13 _ _ hw13
      intro hd
      have := congrArg List.length hd
      simp [h1, digitBytes] at this
      omega
    exact multi_upright hR _ .upca [] rfl (full.drop 1) hne (fun h => by cases h) (hrows true) binz th
  · obtain ⟨mods', hmods', hrows⟩ := upc_rows E hT wf .ean13 (48 :: contents) full hw13 (margin.getD 9) (by omega) hm2
    cases hmods.symm.trans hmods'
    exact multi_upright hR _ .ean13 [.ean8, .upce] rfl full (full_ne_nil .ean13 _ _ hw13) (fun _ => rfl) (hrows false)
      binz th

/-! ### evaluated instances -/
example : imagePathMulti refEnv .upca (bytesOf "01234567890") 0 1 none none .upright .hybrid [] false =
    .ok ⟨.ean13, bytesOf "0012345678905", 0, false, false, none⟩ := by decide +kernel
example : imagePathMulti refEnv .upca (bytesOf "01234567890") 0 1 none none .upright .global [some .upca] false =
    .ok ⟨.upca, bytesOf "012345678905", 0, false, false, none⟩ := by decide +kernel
example : imagePathMulti refEnv .ean8 (bytesOf "9638507") 0 1 none none .upright .hybrid [] false =
    .ok ⟨.ean8, bytesOf "96385074", 0, false, false, none⟩ := by decide +kernel

end Gzx.Properties.C03ImageMulti
