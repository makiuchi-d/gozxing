/-
  C17 — luminance views are consistent and bilevel images binarise exactly.
  The property theorems (among them `Bilevel`, `blackRow_bilevel` and the `*_bilevel_exact*` family, on which the image
  paths of C01/C02/C03 rest); helper lemmas live in Gzx/Proofs/{ExceptList,Binarizer,Luminance}.lean.
  Models: Gzx/Model/Luminance.lean, Gzx/Model/Binarizer.lean (tied to the root package of gozxing by the
  `c17` correspondence suites; the models mirror the code after the D12 repair of Crop).
-/
import Gzx.Proofs.Binarizer
import Gzx.Proofs.Luminance
namespace Gzx.Properties.C17
open Gzx Gzx.Binarizer Gzx.Luminance

/-! ## luminance views

`View.abs v` (Gzx/Proofs/Luminance.lean) is the naive `w x h` array a view denotes: row `y` is read straight
from the data at `(y+top)*dataW + left`, inverted if the view is wrapped.  `View.WF v`: the view rectangle
lies inside `dataW x dataH`, the data has at least that many bytes, all bytes ≤ 255.  The reference
operations on naive arrays (`Img.crop` = sub-array, `Img.invert` = 255 - v, `Img.rotCCW` = index
transform) are in Gzx/Ref/Luminance.lean. -/

/-- the constructors produce well-formed views: `NewRGBLuminanceSource` / `NewLuminanceSourceFromImage`
    (luminance array of exactly `w*h` bytes) -/
theorem ofLuminances_wf (k : Kind) (w h : Nat) (lum : List Nat) (hl : lum.length = w * h)
    (hb : ∀ p ∈ lum, p ≤ 255) : (ofLuminances k w h lum).WF :=
  ⟨by simp [ofLuminances, hl], by simp [ofLuminances], by simp [ofLuminances], hb⟩

/-- `NewPlanarYUVLuminanceSource` without mirroring: an error for a rectangle with negative origin or
    reaching outside `dataW x dataH`, else a well-formed view -/
theorem newYUV_wf (data : List Nat) (dataW dataH : Nat) (left top : Int) (w h : Nat)
    (hl : dataW * dataH ≤ data.length) (hb : ∀ p ∈ data, p ≤ 255) :
    (newYUV data dataW dataH left top w h false = .error (.fault .illegalArg) ∧
      (left < 0 ∨ top < 0 ∨ left + w > dataW ∨ top + h > dataH)) ∨
    ∃ v, newYUV data dataW dataH left top w h false = .ok v ∧ v.WF ∧ v.kind = .yuv ∧ v.w = w ∧ v.h = h := by
  by_cases hc : left < 0 ∨ top < 0 ∨ left + w > dataW ∨ top + h > dataH
  · left
    exact ⟨by rw [newYUV, if_pos hc]; rfl, hc⟩
  · right
    simp only [not_or, Int.not_lt, gt_iff_lt] at hc
    obtain ⟨h0, h1, h2, h3⟩ := hc
    exact ⟨_, newYUV_ok data dataW dataH left top w h h0 h1 h2 h3,
      ⟨hl, toNat_add_le h0 h2, toNat_add_le h1 h3, hb⟩, rfl, rfl, rfl⟩

/-- **A row fetched singly equals the same row of the full matrix equals the naive array**
    (property clause 1), for every well-formed view — whichever of the three GetMatrix copy strategies
    applies and whether or not the view is inverted; with a caller buffer the row is followed by the
    untouched tail of a longer buffer (a too-short buffer is ignored). -/
theorem getRow_eq_matrix_row (v : View) (hv : v.WF) (y : Nat) (hy : y < v.h) (buf : Option (List Nat)) :
    ∃ m row, getMatrix v = .ok m ∧ v.abs.rows[y]? = some row ∧
      (m.drop (y * v.w)).take v.w = row ∧
      getRow v (y : Int) buf = .ok (row ++ bufTail v.w buf) := by
  obtain ⟨m, hm, hflat⟩ := getMatrix_ok v hv
  obtain ⟨hlen, hrl⟩ := abs_WF v hv
  rw [abs_h] at hlen
  rw [abs_w] at hrl
  have hy' : y < v.abs.rows.length := by rw [hlen]; exact hy
  refine ⟨m, v.abs.rows[y], hm, List.getElem?_eq_getElem hy', ?_, ?_⟩
  · -- row `y` lies within the first `w*h` bytes of the matrix
    have hin : v.w ≤ v.w * v.h - y * v.w := by
      have := Nat.mul_le_mul_right v.w hy
      rw [Nat.succ_mul] at this
      rw [Nat.mul_comm v.w v.h]
      exact Nat.le_sub_of_add_le' this
    rw [← flatten_row v.abs.rows v.w hrl y hy', ← hflat, List.drop_take, List.take_take, Nat.min_eq_left hin]
  · rw [getRow_ok v hv y hy buf, List.getD_eq_getElem?_getD, List.getElem?_eq_getElem hy']
    rfl

/-- **a row outside the view is reported as an error — never a crash, never pixels** -/
theorem getRow_outside_error (v : View) (y : Int) (hy : y < 0 ∨ y ≥ v.h) (buf : Option (List Nat)) :
    getRow v y buf = .error (.fault .illegalArg) :=
  getRow_outside v y hy buf

/-! ### operations against the naive array -/

/-- the reference semantics of one view operation on a naive array; `none` = invalid crop rectangle
    (negative origin or reaching outside the image) -/
def specOp (m : Img) : Op → Option Img
  | .crop l t w h => if m.ValidCrop l t w h then some (m.crop l.toNat t.toNat w h) else none
  | .invert => some m.invert
  | .rotate => some m.rotCCW

def specOps (m : Img) : List Op → Option Img
  | [] => some m
  | op :: ops => (specOp m op).bind (fun m' => specOps m' ops)

/-- which operations a source kind implements: everything crops and inverts, only Go-image sources rotate -/
def supported (k : Kind) : Op → Bool
  | .rotate => k == .img
  | _ => true

/-- **one operation** (property clauses 2-4): on a well-formed view every operation either
    * is an invalid crop and returns IllegalArgumentException,
    * is a rotation of a source that does not rotate (RGB ints, YUV) and returns the "unsupported" error,
    * or succeeds with a well-formed view of the same kind that denotes exactly the reference result
      (cropped pixel = original pixel at the offset position; inversion = 255 - v; rotation = index transform).
    It never panics and never yields other pixels. -/
theorem view_op_refines (v : View) (hv : v.WF) (op : Op) :
    match specOp v.abs op with
    | none => applyOp v op = .error (.fault .illegalArg)
    | some m =>
      if supported v.kind op then
        ∃ v', applyOp v op = .ok v' ∧ v'.WF ∧ v'.kind = v.kind ∧ v'.abs = m
      else applyOp v op = .error .unsupported := by
  cases op with
  | crop l t w h =>
    simp only [specOp]
    by_cases hval : v.abs.ValidCrop l t w h
    · simp only [hval, if_true, supported]
      obtain ⟨v', h1, h2, h3, _, h5⟩ := crop_valid v hv l t w h hval
      exact ⟨v', h1, h2, h3, h5⟩
    · simp only [hval, if_false]
      exact crop_invalid v l t w h hval
  | invert =>
    simp only [specOp, supported, if_true, applyOp]
    exact ⟨invert v, rfl, invert_wf v hv, rfl, abs_invert v hv⟩
  | rotate =>
    simp only [specOp, supported, applyOp]
    by_cases hk : v.kind = .img
    · simp only [hk, beq_self_eq_true, if_true]
      obtain ⟨v', h1, h2, h3, _, h5⟩ := rotate_ok v hv hk
      exact ⟨v', h1, h2, h3, h5⟩
    · simp only [beq_eq_false_iff_ne.mpr hk, Bool.false_eq_true, if_false]
      exact rotate_unsupported v hk

/-- a crop rectangle with a negative width or height is an IllegalArgumentException, otherwise `cropI` is
    `crop` (so everything above applies to Go's `int` arguments) -/
theorem cropI_spec (v : View) (l t w h : Int) :
    cropI v l t w h = if w < 0 ∨ h < 0 then .error (.fault .illegalArg) else crop v l t w.toNat h.toNat := by
  unfold cropI; split <;> rfl

/-- any sequence of operations on a well-formed view, each outcome with what it says about the reference sequence on the
    naive array: it runs through and denotes the reference result; or it stops at the first invalid crop, which the
    reference meets as well; or it stops at a rotation, and then the source is not a Go-image source -/
theorem view_refines (v : View) (hv : v.WF) (ops : List Op) :
    (∃ v', applyOps v ops = .ok v' ∧ v'.WF ∧ v'.kind = v.kind ∧ specOps v.abs ops = some v'.abs) ∨
    (applyOps v ops = .error (.fault .illegalArg) ∧ specOps v.abs ops = none) ∨
    (applyOps v ops = .error .unsupported ∧ v.kind ≠ .img) := by
  induction ops generalizing v with
  | nil => exact .inl ⟨v, rfl, hv, rfl, rfl⟩
  | cons op ops ih =>
    have hstep := view_op_refines v hv op
    rw [applyOps, specOps]
    cases hs : specOp v.abs op with
    | none =>
      rw [hs] at hstep
      rw [hstep]
      exact .inr (.inl ⟨rfl, rfl⟩)
    | some m =>
      rw [hs] at hstep
      simp only at hstep
      split at hstep
      · obtain ⟨v', h1, h2, h3, rfl⟩ := hstep
        rw [h1]
        rcases ih v' h2 with ⟨v'', g1, g2, g3, g4⟩ | g | ⟨g, gk⟩
        · exact .inl ⟨v'', g1, g2, g3.trans h3, g4⟩
        · exact .inr (.inl g)
        · exact .inr (.inr ⟨g, h3 ▸ gk⟩)
      · rename_i hsup
        rw [hstep]
        refine .inr (.inr ⟨rfl, fun hk => hsup ?_⟩)
        rw [hk]; cases op <;> rfl

/-- any sequence of operations on a well-formed view: either it runs through
    and the resulting view is well-formed and denotes the reference result of the same sequence on the
    naive array (so, by `getRow_eq_matrix_row`, GetRow y = row y of GetMatrix = naive array), or it stops at
    the first invalid crop with IllegalArgumentException / at a rotation of a non-rotating source with the
    "unsupported" error.  Never `.panic`. -/
theorem view_refines_array (v : View) (hv : v.WF) (ops : List Op) :
    (∃ v', applyOps v ops = .ok v' ∧ v'.WF ∧ v'.kind = v.kind ∧ specOps v.abs ops = some v'.abs) ∨
    applyOps v ops = .error (.fault .illegalArg) ∨ applyOps v ops = .error .unsupported :=
  (view_refines v hv ops).imp id (Or.imp And.left And.left)

/-- for Go-image sources (which implement every operation) the sequence fails **iff** the reference
    sequence meets an invalid crop -/
theorem view_refines_array_img (v : View) (hv : v.WF) (hk : v.kind = .img) (ops : List Op) :
    (∃ v', applyOps v ops = .ok v' ∧ v'.WF ∧ specOps v.abs ops = some v'.abs) ∨
    (applyOps v ops = .error (.fault .illegalArg) ∧ specOps v.abs ops = none) := by
  rcases view_refines v hv ops with ⟨v', a, b, -, d⟩ | g | ⟨-, g⟩
  · exact .inl ⟨v', a, b, d⟩
  · exact .inr g
  · exact absurd hk g

/-- crop ∘ crop composes by adding offsets (the D12 scenario): a second crop is judged against the
    *current* view, and the pixels are those of the original at the summed offset -/
theorem crop_crop (m : Img) (l1 t1 w1 h1 l2 t2 w2 h2 : Nat) (hw : l2 + w2 ≤ w1) (hh : t2 + h2 ≤ h1) :
    ((m.crop l1 t1 w1 h1).crop l2 t2 w2 h2) = m.crop (l1 + l2) (t1 + t2) w2 h2 := by
  simp only [Img.crop]
  rw [← List.map_drop, ← List.map_take, sub_row _ _ _ _ _ hh, List.map_map]
  congr 2
  funext r
  exact sub_row r l1 w1 l2 w2 hw

/-- double inversion returns the original object (model), and on the naive
    array `255 - (255 - v) = v` for byte values -/
theorem invert_involutive (v : View) : invert (invert v) = v := by
  cases v; simp [invert]

theorem invert_involutive_spec (m : Img) (hb : ∀ r ∈ m.rows, ∀ p ∈ r, p ≤ 255) : m.invert.invert = m := by
  obtain ⟨w, h, rows⟩ := m
  simp only [Img.invert, Img.mk.injEq, true_and]
  exact invert_invert_rows rows hb

theorem invert_px (m : Img) (hm : m.WF) (x y : Nat) (hx : x < m.w) (hy : y < m.h) :
    m.invert.px x y = 255 - m.px x y := by
  have hy' : y < m.rows.length := hm.1 ▸ hy
  have hx' : x < m.rows[y].length := hm.2 _ (List.getElem_mem hy') ▸ hx
  simp only [Img.px, Img.invert, List.getD_eq_getElem?_getD, List.getElem?_map, List.getElem?_eq_getElem hy',
    List.getElem?_eq_getElem hx', Option.map_some, Option.getD_some]

theorem crop_px (m : Img) (hm : m.WF) (l t w h x y : Nat) (hw : l + w ≤ m.w) (hh : t + h ≤ m.h)
    (hx : x < w) (hy : y < h) : (m.crop l t w h).px x y = m.px (l + x) (t + y) := by
  have hy' : t + y < m.rows.length := by rw [hm.1]; omega
  simp only [Img.px, Img.crop, List.getD, List.getElem?_map, List.getElem?_take, hy, if_true,
    List.getElem?_drop, List.getElem?_eq_getElem hy', Option.map_some, Option.getD_some, hx]

theorem rot4_id_spec (m : Img) (hm : m.WF) : m.rotCCW.rotCCW.rotCCW.rotCCW = m := Img.rot4 m hm

/-- four `RotateCounterClockwise` calls on a Go-image source succeed and the result denotes the same array
    (the data array itself is a fresh copy, as in Go) -/
theorem rot4_id (v : View) (hv : v.WF) (hk : v.kind = .img) :
    ∃ v', applyOps v [.rotate, .rotate, .rotate, .rotate] = .ok v' ∧ v'.WF ∧ v'.abs = v.abs := by
  rcases view_refines_array_img v hv hk [.rotate, .rotate, .rotate, .rotate] with ⟨v', a, b, c⟩ | ⟨-, c⟩
  · refine ⟨v', a, b, ?_⟩
    simp only [specOps, specOp, Option.bind_some, Option.some.injEq] at c
    rw [← c]; exact Img.rot4 _ (abs_WF v hv)
  · simp [specOps, specOp] at c

theorem rot_px (m : Img) (hm : m.WF) (x y : Nat) (hx : x < m.h) (hy : y < m.w) :
    m.rotCCW.px x y = m.px (m.w - 1 - y) x := Img.px_rot m hm x y hx hy

/-! ### non-vacuity and witnesses -/

/-- a 4x3 Go-image source over the bytes 0..11 -/
def exView : View := ofLuminances .img 4 3 [0, 1, 2, 3, 4, 5, 6, 7, 8, 9, 10, 11]

example : exView.WF := ofLuminances_wf .img 4 3 _ (by decide) (by decide)

/-- crop(1,1,3,2) ; invert ; rotate ; crop(0,1,2,2) on the model = the same on the naive array -/
example : (applyOps exView [.crop 1 1 3 2, .invert, .rotate, .crop 0 1 2 2]).toOption.map View.abs =
    specOps exView.abs [.crop 1 1 3 2, .invert, .rotate, .crop 0 1 2 2] := by decide

example : (applyOps exView [.crop 1 1 3 2, .invert, .rotate, .crop 0 1 2 2]).toOption.map (fun v => v.abs.rows) =
    some [[249, 245], [250, 246]] := by decide

/-- crop of a crop that leaves the current view is refused (it stays inside the 4x3 data: the
    unrepaired code accepted it) -/
example : applyOps exView [.crop 1 0 2 2, .crop 1 0 2 2] = .error (.fault .illegalArg) := by decide

example : applyOps exView [.crop (-1) 0 2 2] = .error (.fault .illegalArg) := by decide

/-- **D12 witness** (unchanged tree): the original bounds test of `RGBLuminanceSource.Crop`,
    `left+width > dataWidth || top+height > dataHeight` with the *view-relative* `left`/`top`, accepts
    `Crop(3,3,5,5)` on the 5x5 view at offset (5,5) of 10x10 data although the rectangle ends at column
    13 > 10; its last row would start at byte `12*10+8 = 128 > 100` (index panic, reproduced on the real
    code by the harness: corpus/C17).  It also accepts any negative origin. -/
example : ¬ (3 + 5 > 10 ∨ 3 + 5 > 10) ∧ (5 + 3) + 5 > 10 ∧ ((3 + 5 + 4) * 10 + (5 + 3) > 10 * 10) := by decide
example : ¬ ((-1 : Int) + 3 > 10 ∨ (0 : Int) + 3 > 10) := by decide

/-! ### colour → luminance -/

/-- RGB ints: a grey pixel `0xVVVVVV` — without alpha bits, with alpha `0xff`, or as a negative Go int
    (sign bits above the colour) — has luminance `V` -/
theorem lumOfRGBInt_grey : ∀ v : Fin 256,
    lumOfRGBInt ((v.val : Int) * 65793) = v.val ∧
    lumOfRGBInt ((v.val : Int) * 65793 + 4278190080) = v.val ∧
    lumOfRGBInt ((v.val : Int) * 65793 - 16777216) = v.val := by decide +kernel

theorem lumOfRGBInt_byte (p : Int) : lumOfRGBInt p < 256 := Nat.mod_lt _ (by decide)

/-- Go images: an opaque grey `(v·257, v·257, v·257, 0xffff)` has luminance `v`; a fully transparent pixel
    is white (white background) -/
theorem lumOfRGBA16_grey : ∀ v : Fin 256,
    lumOfRGBA16 (v.val * 257) (v.val * 257) (v.val * 257) 65535 = v.val := by decide +kernel

theorem lumOfRGBA16_transparent (r g b : Nat) (hr : r ≤ 65535) (hg : g ≤ 65535) (hb : b ≤ 65535) :
    lumOfRGBA16 r g b 0 = 255 := by
  -- with `a = 0` the colour term `lum * a` vanishes and a closed expression is left
  unfold lumOfRGBA16
  simp only [Nat.mul_zero, Nat.zero_add]

theorem lumOfRGBA16_byte (r g b a : Nat) : lumOfRGBA16 r g b a < 256 := Nat.mod_lt _ (by decide)

/-! ## binarisers -/

/-- a luminance array containing only pure black (0) and pure white (255) -/
def Bilevel (lum : Array Nat) : Prop := ∀ (i p : Nat), lum[i]? = some p → p = 0 ∨ p = 255

/-- **Local (hybrid) method, any grey image of at least 40x40 pixels**: `HybridBinarizer.GetBlackMatrix`
    never panics (all block, neighbour and 5x5-window indices are in range, also for sizes that are not
    multiples of 8), only sets bits inside the matrix, never sets a pixel of value 255 and sets every
    pixel of value 0.  Key invariant: every 8x8 block black point is ≤ 254. -/
theorem hybrid_zero_black_255_white (lum : Array Nat) (w h : Nat) (hw : 40 ≤ w) (hh : 40 ≤ h)
    (hsz : lum.size = w * h) :
    ∃ sets, hybridSets lum w h = .ok sets ∧
      (∀ X Y, (X, Y) ∈ sets → X < w ∧ Y < h ∧ ∃ p, lum[Y * w + X]? = some p ∧ p % 256 ≠ 255) ∧
      (∀ X Y p, X < w → Y < h → lum[Y * w + X]? = some p → p % 256 = 0 → (X, Y) ∈ sets) := by
  obtain ⟨sets, hs, h1, h2⟩ := hybridSets_local lum w h hsz hw hh
  refine ⟨sets, hs, ?_, h2⟩
  intro X Y hXY
  obtain ⟨a, b, p, hp, hle⟩ := h1 X Y hXY
  exact ⟨a, b, p, hp, by omega⟩

/-- property clause "an image containing only pure black and pure white is
    binarised to exactly its black pixels" for the local method (`w ≥ 40`, `h ≥ 40`):
    the set bits of the black matrix are exactly the pixels of luminance 0, for every image size
    (incl. sizes that are not multiples of 8, where the last block is clamped to `w-8` / `h-8`). -/
theorem hybrid_bilevel_exact (lum : Array Nat) (w h : Nat) (hw : 40 ≤ w) (hh : 40 ≤ h)
    (hsz : lum.size = w * h) (hbi : Bilevel lum) :
    ∃ sets, hybridSets lum w h = .ok sets ∧
      (∀ X Y, (X, Y) ∈ sets → X < w ∧ Y < h) ∧
      (∀ X Y, X < w → Y < h → ((X, Y) ∈ sets ↔ lum[Y * w + X]? = some 0)) := by
  obtain ⟨sets, hs, h1, h2⟩ := hybrid_zero_black_255_white lum w h hw hh hsz
  refine ⟨sets, hs, fun X Y hXY => ⟨(h1 X Y hXY).1, (h1 X Y hXY).2.1⟩, ?_⟩
  intro X Y hX hY
  constructor
  · intro hXY
    obtain ⟨_, _, p, hp, hne⟩ := h1 X Y hXY
    rcases hbi _ p hp with rfl | rfl
    · exact hp
    · simp at hne
  · intro hp
    exact h2 X Y 0 hX hY hp (by simp)

/-- the same as a statement about the rendered `w x h` bit picture (`render` replays the `BitMatrix.Set`
    calls): **blackMatrix = { p = 0 }** -/
theorem hybrid_bilevel_exact_matrix (lum : Array Nat) (w h : Nat) (hw : 40 ≤ w) (hh : 40 ≤ h)
    (hsz : lum.size = w * h) (hbi : Bilevel lum) :
    ∃ sets, hybridSets lum w h = .ok sets ∧
      ∀ X Y, X < w → Y < h →
        (render w h sets)[Y * w + X]? = some (decide (lum[Y * w + X]? = some 0)) := by
  obtain ⟨sets, hs, _, hiff⟩ := hybrid_bilevel_exact lum w h hw hh hsz hbi
  refine ⟨sets, hs, ?_⟩
  intro X Y hX hY
  rw [render_spec w h sets X Y hX hY]
  congr 1
  exact decide_eq_decide.mpr (hiff X Y hX hY)

/-- non-vacuity: a 40x41 picture with both colours satisfies the hypotheses -/
example : let lum : Array Nat := Array.ofFn (n := 40 * 41) (fun i => if i.val % 3 = 0 then 0 else 255)
    lum.size = 40 * 41 ∧ Bilevel lum := by
  refine ⟨by simp, ?_⟩
  intro i p hp
  simp only [Array.getElem?_ofFn] at hp
  split at hp
  · cases hp; split <;> simp
  · cases hp

/-- **Global method, any grey image**: `GlobalHistogramBinarizer.GetBlackMatrix` never panics on a
    non-empty `w x h` image; it either answers NotFound (too little contrast between the two histogram
    peaks of the sampled pixels) or thresholds every pixel against one black point in `[8, 240]`. -/
theorem global_threshold_or_notfound (lum : Array Nat) (w h : Nat) (hw : 1 ≤ w) (hh : 1 ≤ h)
    (hsz : lum.size = w * h) :
    globalSets lum w h = .error .notFound ∨
    ∃ sets bp, globalSets lum w h = .ok sets ∧ 8 ≤ bp ∧ bp ≤ 240 ∧
      ∀ X Y, (X, Y) ∈ sets ↔ (X < w ∧ Y < h ∧ ∃ p, lum[Y * w + X]? = some p ∧ p % 256 < bp) := by
  obtain ⟨ps, hps, -⟩ := samples_spec lum w h hsz hh
  rcases globalSets_spec lum w h hsz hw hh ps hps with ⟨-, hnf⟩ | ⟨sets, bp, -, hs⟩
  · exact Or.inl hnf
  · exact Or.inr ⟨sets, bp, hs⟩

/-- the same clause for the global histogram method (used by
    `GlobalHistogramBinarizer` and by `HybridBinarizer` below 40 pixels): a pure black/white image is
    binarised to exactly its black pixels, or rejected with NotFound. -/
theorem global_bilevel_exact_or_notfound (lum : Array Nat) (w h : Nat) (hw : 1 ≤ w) (hh : 1 ≤ h)
    (hsz : lum.size = w * h) (hbi : Bilevel lum) :
    globalSets lum w h = .error .notFound ∨
    ∃ sets, globalSets lum w h = .ok sets ∧
      (∀ X Y, (X, Y) ∈ sets → X < w ∧ Y < h) ∧
      (∀ X Y, X < w → Y < h → ((X, Y) ∈ sets ↔ lum[Y * w + X]? = some 0)) := by
  rcases global_threshold_or_notfound lum w h hw hh hsz with hnf | ⟨sets, bp, hs, b1, b2, hmem⟩
  · left; exact hnf
  · right
    refine ⟨sets, hs, fun X Y hXY => ⟨((hmem X Y).mp hXY).1, ((hmem X Y).mp hXY).2.1⟩, ?_⟩
    intro X Y hX hY
    rw [hmem X Y]
    constructor
    · rintro ⟨_, _, p, hp, hlt⟩
      rcases hbi _ p hp with rfl | rfl
      · exact hp
      · simp at hlt; omega
    · intro hp
      exact ⟨hX, hY, 0, hp, by simp; omega⟩

theorem hybrid_small_is_global (lum : Array Nat) (w h : Nat) (hs : w < 40 ∨ h < 40) :
    hybridSets lum w h = globalSets lum w h := by
  unfold hybridSets MINIMUM_DIMENSION
  have : ¬ (w ≥ 40 ∧ h ≥ 40) := by omega
  simp [this]

/-- both binarisers, every non-empty size: exact or NotFound (the statement of the property) -/
theorem hybrid_bilevel_exact_or_notfound (lum : Array Nat) (w h : Nat) (hw : 1 ≤ w) (hh : 1 ≤ h)
    (hsz : lum.size = w * h) (hbi : Bilevel lum) :
    hybridSets lum w h = .error .notFound ∨
    ∃ sets, hybridSets lum w h = .ok sets ∧
      (∀ X Y, (X, Y) ∈ sets → X < w ∧ Y < h) ∧
      (∀ X Y, X < w → Y < h → ((X, Y) ∈ sets ↔ lum[Y * w + X]? = some 0)) := by
  by_cases hbig : 40 ≤ w ∧ 40 ≤ h
  · right; exact hybrid_bilevel_exact lum w h hbig.1 hbig.2 hsz hbi
  · rw [hybrid_small_is_global lum w h (by omega)]
    exact global_bilevel_exact_or_notfound lum w h hw hh hsz hbi

/-- the black point estimate, when there is one, lies in `[8, 240]` for a 32-bucket histogram (it is `8·v` for a valley
    `v` strictly between the two peaks: `Binarizer.estimateBlackPoint_cases`); the only failure is NotFound (never a
    panic) -/
theorem estimateBlackPoint_range (buckets : List Nat) (hl : buckets.length = 32) :
    estimateBlackPoint buckets = .error .notFound ∨
    ∃ bp, estimateBlackPoint buckets = .ok bp ∧ 8 ≤ bp ∧ bp ≤ 240 := by
  cases h : estimateBlackPoint buckets with
  | error e => exact Or.inl (by rw [estimateBlackPoint_error buckets e h])
  | ok bp =>
    obtain ⟨b1, b2⟩ := estimateBlackPoint_bounds buckets bp (by omega) h
    exact Or.inr ⟨bp, rfl, b1, by omega⟩

/-- **Black rows of a pure black/white row** (`GetBlackRow`, the `-1 4 -1` sharpening filter): NotFound, or
    a row of the same width in which pixel `i` is black iff its luminance is 0 and — for rows of at least
    3 pixels — it is not one of the two border pixels (which the filter never sets). -/
theorem blackRow_bilevel (row : List Nat) (hbi : ∀ p ∈ row, p = 0 ∨ p = 255) :
    blackRow row = .error .notFound ∨
    ∃ bits, blackRow row = .ok bits ∧ bits.length = row.length ∧
      ∀ i (hi : i < row.length), bits[i]? =
        some (decide (row[i] = 0 ∧ (row.length < 3 ∨ (0 < i ∧ i + 1 < row.length)))) := by
  cases h : blackRow row with
  | error e => left; rw [blackRow_error row e h]
  | ok bits =>
    right
    obtain ⟨bp, b1, b2, rfl⟩ := blackRow_ok row bits h
    have hmod : row.map (· % 256) = row :=
      (List.map_congr_left fun p hp => by rcases hbi p hp with rfl | rfl <;> rfl).trans (List.map_id row)
    refine ⟨_, rfl, ?_⟩
    split
    · -- width < 3: plain threshold
      rename_i hlt
      refine ⟨List.length_map _, fun i hi => ?_⟩
      rw [List.getElem?_map, List.getElem?_eq_getElem hi]
      rcases hbi row[i] (List.getElem_mem hi) with hp | hp <;> simp [hp, hlt] <;> omega
    · rename_i hge
      rw [hmod, sharpen_bilevel bp b1 b2 row hbi]
      refine ⟨by simp; omega, fun i hi => ?_⟩
      cases i with
      | zero => simp [hge]
      | succ j =>
        simp only [List.cons_append, List.getElem?_cons_succ, List.getElem?_append, List.length_map,
          List.length_dropLast, List.length_tail, List.getElem?_map, List.getElem?_dropLast, List.getElem?_tail]
        by_cases hj : j < row.length - 1 - 1
        · simp [hj, List.getElem?_eq_getElem hi, hge]; omega
        · have : j - (row.length - 1 - 1) = 0 := by omega
          simp [hj, this, hge]; omega

end Gzx.Properties.C17
