/-
  C05 (work package c01multi) — COMBINED damage of a QR Code symbol: up to three flipped bits in each copy of the format
  information AND in the version information AND up to ⌊ec/2⌋ wrong codewords in every Reed-Solomon block, all at once.
  Property theorems only; proofs in Proofs/QRMultiComb.lean (what `BitMatrixParser` reads from a damaged matrix),
  Proofs/QRCompTop.lean (the composition, `decode_damaged`) and Proofs/QRMultiFlip.lean (damage as a set of flipped
  modules).  Multi-segment payloads: Properties/C01Multi.lean.
-/
import Gzx.Proofs.QRMultiFlip
import Gzx.Properties.C01Multi
import Gzx.Proofs.QRCompExamples
namespace Gzx.Properties.C05Comb
open Gzx Gzx.QRDec Gzx.ECI Gzx.QRComp
open Gzx.Properties.C01 (refSymbol)

/-- For every version 1..40, level, mask 0..7 and every payload `bits` that fits
    (single- or multi-segment; `parsed` is what the clean stream parses to):
      * the codeword modules carry the interleaving of RECEIVED blocks — in every Reed-Solomon block at most
        ⌊ecPerBlock/2⌋ codewords (data or error correction) differ from what was written (`Received`), and
      * additionally any set `F` of FUNCTION-PATTERN modules is flipped, of which at most three lie in the first copy of
        the format information, at most three in the second copy, and (version ≥ 7) at most three in AT LEAST ONE of the
        two copies of the version information — the other copy of the version information and all finder, timing,
        alignment and dark modules may be flipped at will —,
    then `Decoder.Decode` (model) succeeds on the first attempt and returns exactly what the clean symbol returns: the
    parsed content, the level, the version and the ORIGINAL data codewords.
    (The property's "≤ 3 in each copy of the version information" is a special case of `hv`: `ReadVersion` accepts a
    copy only if it decodes to a version of the symbol's dimension, so an unreadable or misleading first copy cannot
    override a good second one — `QRComp.versionCopyOK_ref`.) -/
theorem qr_tolerates_combined_damage (T : Tables) (hT : TablesConform T) (hint : Hint)
    (v : Nat) (h1 : 1 ≤ v) (h40 : v ≤ 40) (ec : QRRef.EC) (mask : Nat) (hm : mask < 8) (bits : List Bool)
    (hfit : bits.length ≤ 8 * QRRef.dataCodewords v ec) (parsed : Parsed)
    (hparse : ∀ tail, Terminated tail → parseStream T.eci (bits ++ tail) v hint = .ok parsed)
    (recv : List (List Nat × List Nat))
    (hrecv : Received v ec (QRRef.terminate (QRRef.dataCodewords v ec) bits) recv)
    (F : List (Nat × Nat)) (hF : ∀ c ∈ F, QRRef.isFunction v c.1 c.2 = true)
    (hf1 : formatCoords1.countP (F.contains ·) ≤ 3)
    (hf2 : (formatCoords2 (17 + 4 * v)).countP (F.contains ·) ≤ 3)
    (hv : 7 ≤ v → (versionCoords1 (17 + 4 * v)).countP (F.contains ·) ≤ 3 ∨
      (versionCoords2 (17 + 4 * v)).countP (F.contains ·) ≤ 3) :
    decode T rsQR hint (flipCells (matrixOf (QRRef.refMatrix v ec mask (QRDec.interleave recv))) F) =
      .ok ⟨parsed, toDecEC ec, v, QRRef.terminate (QRRef.dataCodewords v ec) bits, false⟩ :=
  decode_damaged T hT hint v h1 h40 ec mask hm bits hfit parsed hparse recv hrecv _
    (damaged_of_flips v h1 h40 ec mask _ F hF hf1 hf2 hv)

/-- "⇒ same result as the clean symbol", literally -/
theorem qr_combined_damage_same_as_clean (T : Tables) (hT : TablesConform T) (hint : Hint)
    (v : Nat) (h1 : 1 ≤ v) (h40 : v ≤ 40) (ec : QRRef.EC) (mask : Nat) (hm : mask < 8) (bits : List Bool)
    (hfit : bits.length ≤ 8 * QRRef.dataCodewords v ec) (parsed : Parsed)
    (hparse : ∀ tail, Terminated tail → parseStream T.eci (bits ++ tail) v hint = .ok parsed)
    (recv : List (List Nat × List Nat))
    (hrecv : Received v ec (QRRef.terminate (QRRef.dataCodewords v ec) bits) recv)
    (F : List (Nat × Nat)) (hF : ∀ c ∈ F, QRRef.isFunction v c.1 c.2 = true)
    (hf1 : formatCoords1.countP (F.contains ·) ≤ 3)
    (hf2 : (formatCoords2 (17 + 4 * v)).countP (F.contains ·) ≤ 3)
    (hv : 7 ≤ v → (versionCoords1 (17 + 4 * v)).countP (F.contains ·) ≤ 3 ∨
      (versionCoords2 (17 + 4 * v)).countP (F.contains ·) ≤ 3) :
    decode T rsQR hint (flipCells (matrixOf (QRRef.refMatrix v ec mask (QRDec.interleave recv))) F) =
      decode T rsQR hint (refSymbol v ec mask bits) := by
  rw [qr_tolerates_combined_damage T hT hint v h1 h40 ec mask hm bits hfit parsed hparse recv hrecv F hF hf1 hf2 hv,
    Gzx.Properties.C01.qr_roundtrip_bits T hT hint v h1 h40 ec mask hm bits hfit parsed hparse]

/-- the general form: ANY matrix of the symbol's dimension that agrees with the reference symbol on the data cells and
    reads, in the two format areas and (version ≥ 7) one of the two version areas, words within three bits of the written
    ones (`QRComp.Damaged`) — whatever its other modules hold -/
theorem qr_tolerates_combined_damage_matrix (T : Tables) (hT : TablesConform T) (hint : Hint)
    (v : Nat) (h1 : 1 ≤ v) (h40 : v ≤ 40) (ec : QRRef.EC) (mask : Nat) (hm : mask < 8) (bits : List Bool)
    (hfit : bits.length ≤ 8 * QRRef.dataCodewords v ec) (parsed : Parsed)
    (hparse : ∀ tail, Terminated tail → parseStream T.eci (bits ++ tail) v hint = .ok parsed)
    (recv : List (List Nat × List Nat))
    (hrecv : Received v ec (QRRef.terminate (QRRef.dataCodewords v ec) bits) recv)
    (m : Matrix) (hD : Damaged v ec mask (QRDec.interleave recv) m) :
    decode T rsQR hint m = .ok ⟨parsed, toDecEC ec, v, QRRef.terminate (QRRef.dataCodewords v ec) bits, false⟩ :=
  decode_damaged T hT hint v h1 h40 ec mask hm bits hfit parsed hparse recv hrecv m hD

/-- **multi-segment symbols under combined damage**: every item list that round-trips (`C01Multi.qr_roundtrip_items`)
    also survives combined damage — the decoder returns the meaning of the list -/
theorem qr_segments_tolerate_combined_damage (T : Tables) (hT : TablesConform T) (hint : Hint)
    (v : Nat) (h1 : 1 ≤ v) (h40 : v ≤ 40) (ec : QRRef.EC) (mask : Nat) (hm : mask < 8)
    (items : List QRMulti.Item) (g : List Nat → Charset)
    (hc : ∀ it ∈ items, it.Content T.eci)
    (hg : ∀ bs ∈ QRMulti.guessed false items, guessCharset T.eci bs hint = .ok (g bs))
    (hfit : (QRMulti.bitsOf v items).length ≤ 8 * QRRef.dataCodewords v ec)
    (recv : List (List Nat × List Nat))
    (hrecv : Received v ec (QRRef.terminate (QRRef.dataCodewords v ec) (QRMulti.bitsOf v items)) recv)
    (F : List (Nat × Nat)) (hF : ∀ c ∈ F, QRRef.isFunction v c.1 c.2 = true)
    (hf1 : formatCoords1.countP (F.contains ·) ≤ 3)
    (hf2 : (formatCoords2 (17 + 4 * v)).countP (F.contains ·) ≤ 3)
    (hv : 7 ≤ v → (versionCoords1 (17 + 4 * v)).countP (F.contains ·) ≤ 3 ∨
      (versionCoords2 (17 + 4 * v)).countP (F.contains ·) ≤ 3) :
    decode T rsQR hint (flipCells (matrixOf (QRRef.refMatrix v ec mask (QRDec.interleave recv))) F) =
      .ok ⟨QRMulti.toParsed (QRMulti.run T.eci g {} items), toDecEC ec, v,
        QRRef.terminate (QRRef.dataCodewords v ec) (QRMulti.bitsOf v items), false⟩ :=
  decode_damaged_items T hT hint v h1 h40 ec mask hm items g hc hg hfit recv hrecv _
    (damaged_of_flips v h1 h40 ec mask _ F hF hf1 hf2 hv)

/-! ### non-vacuity -/

open Gzx.QRComp.Examples in
/-- version 1-M, ISO 18004 Annex I ("01234567"): FIVE of the 26 codewords replaced (`recv8`, the full capacity
    ⌊10/2⌋), three flipped modules in EACH copy of the format information, and a finder-pattern module, the dark module
    and a timing module flipped on top — all hypotheses hold (decided by the kernel) … -/
def flips1 : List (Nat × Nat) :=
  [(0, 8), (4, 8), (8, 0),  (8, 20), (8, 16), (19, 8),  (3, 3), (8, 13), (10, 6)]

example : (∀ c ∈ flips1, QRRef.isFunction 1 c.1 c.2 = true) ∧
    formatCoords1.countP (flips1.contains ·) = 3 ∧ (formatCoords2 (17 + 4 * 1)).countP (flips1.contains ·) = 3 := by
  decide

open Gzx.QRComp.Examples in
/-- … hence the damaged symbol decodes to the digits and the original data codewords -/
theorem damaged_annexI_combined :
    decode refTables rsQR .none
        (flipCells (matrixOf (QRRef.refMatrix 1 .M 3 (QRDec.interleave recv8))) flips1) =
      .ok ⟨⟨[.raw ([0, 1, 2, 3, 4, 5, 6, 7].map (48 + ·))], [], -1, -1, 1⟩, .M, 1, data8, false⟩ :=
  qr_tolerates_combined_damage refTables refTables_conform .none 1 (by decide) (by decide) .M 3
    (by decide) bits8 (by decide) _ (bits8_parse _)
    recv8 recv8_received flips1 (by decide) (by decide) (by decide) (by intro h; omega)

/-- version 7 (carries version information): three flips in each format copy, three in the first-read copy of the version
    information (the top-right block, 3 wide by 6 tall, as the decoder's `versionCoords1` enumerates it) and SIX in the
    other copy (bottom left) -/
def flips7 : List (Nat × Nat) :=
  [(1, 8), (2, 8), (8, 7),  (8, 44), (8, 40), (38, 8),
   (36, 5), (35, 2), (34, 0),
   (5, 36), (4, 36), (3, 35), (2, 35), (1, 34), (0, 34)]

example : (∀ c ∈ flips7, QRRef.isFunction 7 c.1 c.2 = true) ∧
    formatCoords1.countP (flips7.contains ·) = 3 ∧ (formatCoords2 (17 + 4 * 7)).countP (flips7.contains ·) = 3 ∧
    (versionCoords1 (17 + 4 * 7)).countP (flips7.contains ·) = 3 ∧
    (versionCoords2 (17 + 4 * 7)).countP (flips7.contains ·) = 6 := by
  decide

/-- a flip set that ruins the first-read copy of the version information (seven flips) and leaves the other within two -/
def flips7b : List (Nat × Nat) :=
  [(1, 8), (8, 7),  (8, 44), (38, 8), (40, 8),
   (36, 5), (35, 5), (34, 5), (36, 4), (35, 2), (34, 0), (36, 0),
   (5, 36), (0, 34)]

example : (∀ c ∈ flips7b, QRRef.isFunction 7 c.1 c.2 = true) ∧
    (versionCoords1 (17 + 4 * 7)).countP (flips7b.contains ·) = 7 ∧
    (versionCoords2 (17 + 4 * 7)).countP (flips7b.contains ·) = 2 := by
  decide

/-- version 7-Q, alphanumeric "HR:", undamaged codewords (`C05.received_refl`), with `flips7` resp. `flips7b` applied:
    instances of the theorem on a symbol that carries version information -/
theorem damaged_v7_combined (F : List (Nat × Nat)) (hF : F = flips7 ∨ F = flips7b) :
    (decode refTables rsQR .none
        (flipCells (matrixOf (QRRef.refMatrix 7 .Q 5 (QRDec.interleave (refBlocks 7 .Q
          (QRRef.terminate (QRRef.dataCodewords 7 .Q)
            (QRRef.payloadBits 7 (QRRef.headerBits none false .alnum) .alnum 3 (QRRef.packAlnum [17, 27, 44]))))))) F)).map
      (fun d => (d.parsed, d.ec, d.version)) =
      .ok (⟨[.raw [72, 82, 58]], [], -1, -1, 1⟩, .Q, 7) := by
  rw [qr_tolerates_combined_damage refTables refTables_conform .none 7 (by decide) (by decide) .Q 5 (by decide)
    (QRRef.payloadBits 7 (QRRef.headerBits none false .alnum) .alnum 3 (QRRef.packAlnum [17, 27, 44])) (by decide)
    ⟨[.raw ([17, 27, 44].map alnumCharOf)], [], -1, -1, 1⟩ (fun tail ht => by
      show parseStream _ (QRRef.payloadBits 7 (QRRef.headerBits none false .alnum) .alnum
        [17, 27, 44].length (QRRef.packAlnum [17, 27, 44]) ++ tail) 7 .none = _
      rw [(QRMulti.payload_items 7 none false).2.1]
      exact QRMulti.parseStream_item _ 7 .none (fun _ => .sjis) (.alnum [17, 27, 44])
        (by decide : ∀ c ∈ [17, 27, 44], c < 45) (by decide : 3 < 2 ^ QRPack.countWidth 1 7)
        (fun _ h => nomatch h) tail ht)
    _ (Gzx.Properties.C05.received_refl 7 .Q _ (terminate_lt _ _)) F
    (by rcases hF with rfl | rfl <;> decide) (by rcases hF with rfl | rfl <;> decide)
    (by rcases hF with rfl | rfl <;> decide)
    (by intro _; rcases hF with rfl | rfl
        · left; decide
        · right; decide)]
  rfl

/-- beyond the promise: FOUR flipped bits in both format copies of a symbol are not covered — here the format
    information is read as a different (level, mask) -/
example : decodeFormat refFmt QRRef.formatMask
    (QRRef.formatWord .M 3 ^^^ 0x137) (QRRef.formatWord .M 3 ^^^ 0x137) ≠ .ok (some (.M, 3)) := by decide +kernel

end Gzx.Properties.C05Comb
