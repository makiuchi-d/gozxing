/-
  C06 — decoding is total, part "the locating code (detectors)": panic-freedom and termination of the
  detector models for EVERY image and EVERY interpretation of the float64 operations.

  Models: Gzx/Model/Det*.lean, tied to /repo by the `c06det` correspondence commands
  (harness/zz_c06_det.go).  `image.Get` is a `Reader`:
    * `Img.rdGo`     — the bounds-checked `BitMatrix.Get` of this tree (answers false outside);
    * `Img.rdStrict` — an unguarded `Get`: reading outside `[0,w) × [0,h)` is a panic.
  Theorems named `…_total` are about `rdGo` (the code as it is): no panic, no fuel exhaustion
  (= the loops terminate within the stated bound), result or NotFoundException.  Theorems named
  `…_in_bounds` are about `rdStrict`: the stated part of the algorithm never reads outside the image,
  i.e. it does not rely on the guard inside `Get`.
  Every theorem quantifies over an arbitrary `F` and `o : FOps F` (float64 and its operations as an
  arbitrary interpretation), so nothing depends on rounding, NaN or ±Inf.
-/
import Gzx.Proofs.DetWhiteRect
import Gzx.Proofs.DetQRDetector
import Gzx.Proofs.DetDM
import Gzx.Proofs.DetAztec
namespace Gzx.Properties.C06Det
open Gzx Gzx.Det

/-! ## common/detector WhiteRectangleDetector -/

/-- `NewWhiteRectangleDetector`: a detector or NotFoundException, for any image size (also 0 or
    negative), any `initSize`, any centre; it is a detector exactly when the initial box lies in the image -/
theorem wrd_new_total (w h initSize x y : Int) :
    (∃ d, WRD.new w h initSize x y = .ok d ∧ 0 ≤ d.upInit ∧ 0 ≤ d.leftInit ∧ d.downInit < h ∧ d.rightInit < w) ∨
    WRD.new w h initSize x y = .error .notFound :=
  (WRD.new_sat w h initSize x y).spelled_out.2.2

/-- the four points `Detect` returns: black pixels of the image moved by one pixel, hence within one
    pixel of the image -/
def NearImage (img : Img) (pts : List (Int × Int)) : Prop :=
  pts.length = 4 ∧ ∀ p ∈ pts, -1 ≤ p.1 ∧ p.1 ≤ img.w ∧ -1 ≤ p.2 ∧ p.2 ≤ img.h

/-- **`Detect` is total** (clause "never panics, returns in bounded time, result xor NotFound" for the
    WhiteRectangleDetector): for every image, every detector state (also one the constructor would have
    refused), every interpretation of the float operations — no panic, the outer loop ends within
    `detectFuel` rounds (each expansion loop within the distance of its border to the image edge), and the
    outcome is four points within one pixel of the image or NotFoundException. -/
theorem wrd_detect_total {F : Type} (o : FOps F) (img : Img) (d : WRD.WR) :
    Sat OnlyNotFound (NearImage img) (WRD.detect o img.rdGo img.w img.h d) :=
  WRD.detect_sat o img d

/-- constructor + `Detect` as the Data Matrix and Aztec detectors call it -/
theorem wrd_total {F : Type} (o : FOps F) (img : Img) (initSize x y : Int) :
    Sat OnlyNotFound (NearImage img) (WRD.newAndDetect o img.rdGo img.w img.h initSize x y) :=
  WRD.newAndDetect_sat o img initSize x y

/-- the statement of C06 spelled out: never a panic, never out of fuel -/
theorem wrd_never_panics {F : Type} (o : FOps F) (img : Img) (initSize x y : Int) :
    (∀ why, WRD.newAndDetect o img.rdGo img.w img.h initSize x y ≠ .error (.panic why)) ∧
    WRD.newAndDetect o img.rdGo img.w img.h initSize x y ≠ .error .fuel ∧
    ((∃ pts, WRD.newAndDetect o img.rdGo img.w img.h initSize x y = .ok pts ∧ NearImage img pts) ∨
      WRD.newAndDetect o img.rdGo img.w img.h initSize x y = .error .notFound) := by
  have h := wrd_total o img initSize x y
  exact h.spelled_out

/-- **the expansion phase reads only inside the image**: with an UNGUARDED `Get`, from any detector the
    constructor accepts with `initSize ≥ 0` (the callers pass 10 and 15), the whole
    `for aBlackPointFoundOnBorder` loop — every `containsBlackPoint` — runs without a fault, and the box it
    ends with lies inside the image. -/
theorem wrd_expand_in_bounds (img : Img) (initSize x y : Int) (hsz : 0 ≤ initSize) (d : WRD.WR)
    (hd : WRD.new img.w img.h initSize x y = .ok d) :
    Sat NoFault (fun r => ∀ s, r = some s →
        0 ≤ s.left ∧ s.left ≤ s.right ∧ s.right < img.w ∧ 0 ≤ s.up ∧ s.up ≤ s.down ∧ s.down < img.h)
      (WRD.detectLoop img.rdStrict img.w img.h (WRD.detectFuel img.w img.h (WRD.initSt d)) (WRD.initSt d)) := by
  have hhalf : 0 ≤ Int.tdiv initSize 2 := Int.tdiv_nonneg hsz (by decide)
  unfold WRD.new at hd
  simp only [] at hd
  by_cases hc : y - Int.tdiv initSize 2 < 0 ∨ x - Int.tdiv initSize 2 < 0 ∨ y + Int.tdiv initSize 2 ≥ img.h ∨ x + Int.tdiv initSize 2 ≥ img.w
  · simp [hc] at hd
  · simp only [hc, if_false, Except.ok.injEq] at hd
    have e1 : d.leftInit = x - Int.tdiv initSize 2 := by rw [← hd]
    have e2 : d.rightInit = x + Int.tdiv initSize 2 := by rw [← hd]
    have e3 : d.upInit = y - Int.tdiv initSize 2 := by rw [← hd]
    have e4 : d.downInit = y + Int.tdiv initSize 2 := by rw [← hd]
    have hbox : WRD.Box (WRD.initSt d) := ⟨by simp only [WRD.initSt]; omega, by simp only [WRD.initSt]; omega,
      by simp only [WRD.initSt]; omega, by simp only [WRD.initSt]; omega⟩
    have hlim : WRD.InLimits img.w img.h (WRD.initSt d) := ⟨by simp only [WRD.initSt]; omega, by simp only [WRD.initSt]; omega,
      by simp only [WRD.initSt]; omega, by simp only [WRD.initSt]; omega⟩
    refine Sat.mono (WRD.detectLoop_sat (rdStrict_ok img) img.w img.h _ _
      (Or.inr ⟨hbox, hlim, fun x y h => h⟩) (by unfold WRD.detectFuel WRD.measure; omega)) (fun _ h => h) ?_
    intro r hr s hs
    obtain ⟨⟨l1, l2, l3, l4⟩, hb⟩ := hr s hs
    obtain ⟨b1, b2, b3, b4⟩ := hb hbox
    exact ⟨b1, b2, l1, b3, b4, l2⟩

/-! ### non-vacuity: a concrete image on which `Detect` finds its four points, and one where it does not.
    (`toyOps` is an integer interpretation of the float operations — any interpretation will do.) -/

def toyOps : FOps Int where
  ofInt := id
  toInt := id
  add := (· + ·)
  sub := (· - ·)
  mul := (· * ·)
  div := Int.tdiv
  abs := fun a => Int.ofNat a.natAbs
  sqrt := fun a => Int.ofNat (((List.range (a.toNat + 1)).filter (fun k => k * k ≤ a.toNat)).length - 1)
  floor := id
  lt := fun a b => decide (a < b)
  le := fun a b => decide (a ≤ b)
  eq := fun a b => decide (a = b)
  isNaN := fun _ => false
  nan := 0
  maxFloat := 1000000

/-- 12x12, a black 4x4 square at (4..7, 4..7) -/
def squareImg : Img := { w := 12, h := 12, pix := fun x y => decide (4 ≤ x ∧ x ≤ 7 ∧ 4 ≤ y ∧ y ≤ 7) }

example : WRD.newAndDetect toyOps squareImg.rdGo 12 12 2 6 6 = .ok [(5, 5), (5, 6), (6, 5), (6, 6)] := by decide
example : WRD.newAndDetect toyOps squareImg.rdGo 12 12 10 6 6 = .error .notFound := by decide
example : ∃ d, WRD.new 12 12 2 6 6 = .ok d := ⟨_, rfl⟩

/-! ## qrcode/detector -/

/-- the row scan of `FinderPatternFinder.Find` is total: for every image (any width/height, also 0 or
    negative), with or without TRY_HARDER, and every interpretation of the float operations — no panic
    (`stateCount[currentState]` always has `0 ≤ currentState ≤ 4`), and the `for i` loop ends within
    `maxI + 1` rows because the row index grows by at least one per round (`iSkip ≥ 1`; the mid-row skip
    `i += rowSkip - stateCount[2] - iSkip` is taken only when `rowSkip > stateCount[2]`). -/
theorem qr_scan_total {F : Type} (o : FOps F) (img : Img) (tryHarder : Bool) :
    Sat NoFault (fun _ => True) (QR.findScan o img.rdGo img.h img.w tryHarder) :=
  QR.findScan_sat o (rdGo_ok img) img.h img.w tryHarder

/-- `FinderPatternFinder.Find` is total: three patterns or NotFoundException.  The only property of
    float64 used: `math.MaxFloat64 == math.MaxFloat64` (so that `bestPatterns` is non-nil whenever
    `distortion` has been lowered). -/
theorem qr_find_total {F : Type} (o : FOps F) (hmax : QR.MaxEqSelf o) (img : Img) (tryHarder : Bool) :
    Sat OnlyNotFound (fun _ => True) (QR.find o img.rdGo img.h img.w tryHarder) :=
  QR.find_sat o hmax (rdGo_ok img) img.h img.w tryHarder

theorem qr_find_never_panics {F : Type} (o : FOps F) (hmax : QR.MaxEqSelf o) (img : Img) (tryHarder : Bool) :
    (∀ why, QR.find o img.rdGo img.h img.w tryHarder ≠ .error (.panic why)) ∧
    QR.find o img.rdGo img.h img.w tryHarder ≠ .error .fuel :=
  (qr_find_total o hmax img tryHarder).never

/-- `CrossCheckVertical` / `CrossCheckHorizontal` for ANY start, fixed coordinate, `maxCount`, total (also
    outside the image): a float, never a fault -/
theorem qr_crosscheck_total {F : Type} (o : FOps F) (img : Img) (vertical : Bool) (maxP start q maxCount total : Int) :
    Sat NoFault (fun _ => True) (QR.crossCheck o img.rdGo vertical maxP start q maxCount total) :=
  QR.crossCheck_sat o (rdGo_ok img) vertical maxP start q maxCount total

theorem qr_crosscheck_diagonal_total {F : Type} (o : FOps F) (img : Img) (centerI centerJ : Int) :
    Sat NoFault (fun _ => True) (QR.crossCheckDiagonal o img.rdGo img.h img.w centerI centerJ) :=
  QR.crossCheckDiagonal_sat o (rdGo_ok img) img.h img.w centerI centerJ

/-- `calculateModuleSize` (the Bresenham walks of `sizeOfBlackWhiteBlackRun`, both ways, with the float
    clamps) is total for any three points: each walk takes `max(|dx|,|dy|) + 1` steps -/
theorem qr_module_size_total {F : Type} (o : FOps F) (img : Img) (tl tr bl : QR.FP F) :
    Sat NoFault (fun _ => True) (QR.calculateModuleSize o img.rdGo img.w img.h tl tr bl) :=
  QR.calculateModuleSize_sat o (rdGo_ok img) img.w img.h tl tr bl

/-- `computeDimension`: the `dimension % 4` switch — NotFoundException (case 3) or a dimension that is 1 mod 4
    (case 0: +1, case 2: -1); the escape `d < 7` is the negative `(a + b) / 2 + 7` of `int(NaN)`-like float
    results, where Go's `%` is negative and the switch changes nothing -/
theorem qr_compute_dimension {F : Type} (o : FOps F) (tl tr bl : QR.FP F) (ms : F) :
    Sat OnlyNotFound (fun d => Int.tmod d 4 = 1 ∨ d < 7) (QR.computeDimension o tl tr bl ms) :=
  QR.adjustDimension_sat _ _

/-- `findAlignmentInRegion` (clamps + `AlignmentPatternFinder.Find`): a pattern or NotFoundException;
    `stateCount[currentState]` of the alignment scan always has `0 ≤ currentState ≤ 2` -/
theorem qr_alignment_total {F : Type} (o : FOps F) (img : Img) (ms : F) (estX estY : Int) (factor : F) :
    Sat OnlyNotFound (fun _ => True) (QR.findAlignmentInRegion o img.rdGo img.w img.h ms estX estY factor) :=
  QR.findAlignmentInRegion_sat o (rdGo_ok img) img.w img.h ms estX estY factor

/-- **`Detector.Detect` up to the sampling call is total**: finder patterns, module size, dimension,
    provisional version, alignment search — the outcome is NotFoundException, FormatException (a
    dimension no version has) or a located symbol whose dimension is 21..177 and 1 mod 4, so the
    subsequent `SampleGridWithTransform(image, dimension, dimension, …)` (C19) gets positive dimensions. -/
theorem qr_detect_total {F : Type} (o : FOps F) (hmax : QR.MaxEqSelf o) (img : Img) (tryHarder : Bool) :
    Sat (Either .notFound .format) (fun r => Int.tmod r.2.dimension 4 = 1 ∧ 21 ≤ r.2.dimension ∧ r.2.dimension ≤ 177)
      (QR.detect o img.rdGo img.w img.h tryHarder) :=
  QR.detect_sat o hmax (rdGo_ok img) img.w img.h tryHarder

theorem qr_detect_never_panics {F : Type} (o : FOps F) (hmax : QR.MaxEqSelf o) (img : Img) (tryHarder : Bool) :
    (∀ why, QR.detect o img.rdGo img.w img.h tryHarder ≠ .error (.panic why)) ∧
    QR.detect o img.rdGo img.w img.h tryHarder ≠ .error .fuel := by
  exact (qr_detect_total o hmax img tryHarder).no_crash (either_checked ⟨nofun, nofun⟩ ⟨nofun, nofun⟩)

-- non-vacuity of the hypothesis: the toy interpretation satisfies it (IEEE binary64 does as well:
-- MaxFloat64 is not a NaN)
example : QR.MaxEqSelf toyOps := by unfold QR.MaxEqSelf; decide

/-! ## datamatrix/detector -/

/-- `transitionsBetween` for ANY two float points (the detector passes points up to two pixels outside
    the image): a count ≥ 0, no fault; the walk takes `max(|Δx|,|Δy|)` steps.  Hence every divisor
    `float64(tr+1)`, `float64(div+1)` in `shiftPoint` / `correctTopRight` is at least 1. -/
theorem dm_transitions_total {F : Type} (o : FOps F) (img : Img) (p q : FPt F) :
    Sat NoFault (fun r => 0 ≤ r) (DM.transitionsBetween o img.rdGo img.h p q) :=
  DM.transitionsBetween_sat o (rdGo_ok img) img.h p q

/-- **Data Matrix `Detect` up to the sampling call is total**: WhiteRectangleDetector, `detectSolid1/2`
    (`cornerPoints[0..3]` exist: the rectangle detector returns exactly four points),
    `correctTopRight` (nil → NotFoundException), `shiftToModuleCenter`, dimension logic — the outcome is
    NotFoundException or four points with EVEN dimensions ≥ 2 for `sampleGrid` (C19). -/
theorem dm_detect_total {F : Type} (o : FOps F) (img : Img) :
    Sat OnlyNotFound DM.GoodDims (DM.detect o img.rdGo img.w img.h) := by
  unfold DM.detect WRD.newFromImage
  exact Sat.then (WRD.new_sat img.w img.h 10 _ _) fun d => Sat.bind (WRD.detect_sat o img d) fun pts hpts =>
    DM.locate_sat o (rdGo_ok img) img.w img.h _ (by rw [List.length_map]; exact hpts.1)

theorem dm_detect_never_panics {F : Type} (o : FOps F) (img : Img) :
    (∀ why, DM.detect o img.rdGo img.w img.h ≠ .error (.panic why)) ∧
    DM.detect o img.rdGo img.w img.h ≠ .error .fuel :=
  (dm_detect_total o img).never

/-! ## aztec/detector (first stage) -/

/-- the model's extra guard `k < stepBound …` in `gfdWalk` never cuts a walk short: for a direction ±1 a
    valid coordinate after `k` steps implies `k < stepBound` -/
theorem az_gfd_guard_redundant (n c d k : Int) (hd : d = 1 ∨ d = -1) (h0 : 0 ≤ c + k * d) (h1 : c + k * d < n) :
    k < AZ.stepBound n c d := by
  unfold AZ.stepBound
  rcases hd with rfl | rfl
  · simp only [if_true]; omega
  · simp only [show ¬ ((-1 : Int) = 1) by decide, if_false, if_true]; omega

/-- `getFirstDifferent` from ANY start point (inside or outside the image), any colour, any direction:
    a point, no fault; each of its three loops ends within the distance to the image edge -/
theorem az_getFirstDifferent_total (img : Img) (init : Int × Int) (color : Bool) (dx dy : Int) :
    Sat NoFault (fun _ => True) (AZ.getFirstDifferent img.rdGo img.w img.h init color dx dy) :=
  AZ.getFirstDifferent_sat img init color dx dy

/-- **`getMatrixCenter` is total**: both WhiteRectangleDetector runs (any NotFound — constructor or
    `Detect` — falls back to four `getFirstDifferent` walks from `(cx±7, cy±7)`, which may start outside
    a small image), the `cornerPoints[0..3]` accesses (always four points) and the float averaging. -/
theorem az_matrix_center_total {F : Type} (o : FOps F) (img : Img) :
    Sat NoFault (fun _ => True) (AZ.getMatrixCenter o img.rdGo img.w img.h) :=
  AZ.getMatrixCenter_sat o img

end Gzx.Properties.C06Det
