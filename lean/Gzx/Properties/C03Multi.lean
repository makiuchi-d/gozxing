/-
  C03 — the multi-format UPC/EAN reader: which sub-reader's result is returned, and as which format.

  Model: `OneDRowExt.multiLoopA` / `multiDecodeRow` / `multiReaders` (Gzx/Model/OneDRowExt.lean) — the loop of
  `multiFormatUPCEANReader.DecodeRow` over ABSTRACT sub-readers (`sub k` = what `decodeRowWithStartRange` of the
  sub-reader of kind `k` returns, together with the result-point callbacks it made) and the constructor's reading of
  POSSIBLE_FORMATS.  The theorems below are general (every row, every sub-reader behaviour); evaluated
  instances on two rendered rows are at the end of the file.  Tied to the code by suites `rowsrest-upc-row` (C06) and
  `rowsrest-multi` (C03).
-/
import Gzx.Proofs.OneDRowExtTotal
namespace Gzx.Properties.C03Multi
open Gzx Gzx.CheckDigit Gzx.OneDRowExt Gzx.Proofs.OneDRowExtTotal
open Gzx.OneD (Tables refTables isReaderErr)

/-- the UPC-A presentation of an EAN-13 result whose text is `c :: rest` -/
def asUPCA (res : RowResult) (rest : List Nat) : RowResult := { res with text := rest, format := .upca }

/-- what the loop does with the result of the first sub-reader that succeeds -/
def present (canUPCA : Bool) (res : RowResult) : Res RowResult :=
  if res.format = .ean13 then
    match res.text with
    | [] => .error (.panic "index out of range [0]")
    | c :: rest => if c = 48 ∧ canUPCA then .ok (asUPCA res rest) else .ok res
  else .ok res

theorem multiLoopA_ok_head (sub : EanKind → Trace × Res RowResult) (canUPCA : Bool) (k : EanKind)
    (post : List EanKind) (res : RowResult) (t : Trace) (hk : (sub k).2 = .ok res) :
    multiLoopA sub canUPCA (k :: post) t = (t ++ (sub k).1, present canUPCA res) := by
  unfold multiLoopA
  simp only [hk, present]
  by_cases hf : res.format = .ean13
  · simp only [hf, if_true]
    cases ht : res.text with
    | nil => rfl
    | cons c rest =>
      simp only []
      split <;> rfl
  · simp only [hf, if_false]

/-- **Dispatch, general form.**  If every sub-reader before `k` fails with a ReaderException and the sub-reader `k`
    returns `res`, the multi-format reader returns exactly `res` — the first success, later sub-readers are not
    consulted — except that an EAN-13 result starting with '0' is re-labelled UPC-A (leading '0' dropped, points and
    metadata kept) when POSSIBLE_FORMATS of the call contains UPC_A.  The callbacks are those of the consulted
    sub-readers, in order. -/
theorem multi_returns_first_success (sub : EanKind → Trace × Res RowResult) (canUPCA : Bool)
    (pre : List EanKind) (k : EanKind) (post : List EanKind) (res : RowResult) (t : Trace)
    (hpre : ∀ j ∈ pre, ∃ e, (sub j).2 = .error e ∧ isReaderErr e = true) (hk : (sub k).2 = .ok res) :
    multiLoopA sub canUPCA (pre ++ k :: post) t =
      (t ++ (pre.map (fun j => (sub j).1)).flatten ++ (sub k).1, present canUPCA res) := by
  induction pre generalizing t with
  | nil =>
    simp only [List.nil_append, List.map_nil, List.flatten_nil, List.append_nil]
    exact multiLoopA_ok_head sub canUPCA k post res t hk
  | cons j pre ih =>
    obtain ⟨e, he, hre⟩ := hpre j (by simp)
    simp only [List.cons_append]
    unfold multiLoopA
    simp only [he, hre, if_true]
    rw [ih (t ++ (sub j).1) (fun i hi => hpre i (by simp [hi]))]
    simp [List.append_assoc]

/-- all sub-readers fail with ReaderExceptions: NotFoundException -/
theorem multi_all_fail (sub : EanKind → Trace × Res RowResult) (canUPCA : Bool) (ks : List EanKind) (t : Trace)
    (h : ∀ j ∈ ks, ∃ e, (sub j).2 = .error e ∧ isReaderErr e = true) :
    (multiLoopA sub canUPCA ks t).2 = .error .notFound := by
  induction ks generalizing t with
  | nil => rfl
  | cons j ks ih =>
    obtain ⟨e, he, hre⟩ := h j (by simp)
    unfold multiLoopA
    simp only [he, hre, if_true]
    exact ih _ (fun i hi => h i (by simp [hi]))

/-- the constructor: without any UPC/EAN entry in POSSIBLE_FORMATS the sub-readers are EAN-13, EAN-8, UPC-E in
    that order; otherwise exactly the UPC/EAN entries, in order, duplicates kept -/
theorem multiReaders_default (fs : List (Option EanKind)) (h : ∀ f ∈ fs, f = none) :
    multiReaders fs = [.ean13, .ean8, .upce] := by
  unfold multiReaders
  have : fs.filterMap id = [] := by
    rw [List.filterMap_eq_nil_iff]
    intro f hf; rw [h f hf]; rfl
  simp [this]

theorem multiReaders_listed (fs : List (Option EanKind)) (k : EanKind) (h : some k ∈ fs) :
    multiReaders fs = fs.filterMap id := by
  unfold multiReaders
  have : fs.filterMap id ≠ [] := by
    intro hn
    rw [List.filterMap_eq_nil_iff] at hn
    have := hn (some k) h
    simp at this
  simp [this]

/-! ## a symbol the EAN-13 sub-reader accepts: which format comes back -/

section Ean13Symbol
variable (sub : EanKind → Trace × Res RowResult) (res : RowResult) (c : Nat) (rest : List Nat)
variable (h13 : (sub .ean13).2 = .ok res) (hfmt : res.format = .ean13) (htext : res.text = c :: rest)
-- the UPC-A sub-reader is `maybeReturnResult` of the EAN-13 sub-reader (upca_reader.go)
variable (hA : (sub .upca).2 = maybeReturnResult (sub .ean13).2)

include h13 hfmt htext hA in
/-- **UPC-A / EAN-13 rule, general form.**  For any non-empty list of EAN-13 / UPC-A sub-readers (any order,
    duplicates allowed) and a symbol the EAN-13 reader accepts as `c :: rest`:
    * `c = '0'` (a UPC-A symbol): returned as UPC_A without the leading '0' iff UPC_A is in the call's
      POSSIBLE_FORMATS or the first sub-reader is the UPC-A reader, otherwise as EAN_13 with all 13 digits;
    * `c ≠ '0'`: returned as EAN_13 if an EAN-13 sub-reader is in the list, otherwise NotFoundException. -/
theorem multi_ean13_symbol (canUPCA : Bool) (rs : List EanKind) (hrs : ∀ k ∈ rs, k = .ean13 ∨ k = .upca)
    (hne : rs ≠ []) (t : Trace) :
    (multiLoopA sub canUPCA rs t).2 =
      if c = 48 then
        (if canUPCA ∨ rs.head? = some .upca then .ok (asUPCA res rest) else .ok res)
      else
        (if EanKind.ean13 ∈ rs then .ok res else .error .notFound) := by
  induction rs generalizing t with
  | nil => exact absurd rfl hne
  | cons k ks ih =>
    unfold multiLoopA
    rcases hrs k (by simp) with rfl | rfl
    · -- EAN-13 sub-reader first
      simp only [h13, hfmt, htext, if_true]
      by_cases hc : c = 48
      · simp only [hc, true_and, if_true]
        cases canUPCA <;> simp [asUPCA]
      · simp [hc]
    · -- UPC-A sub-reader first
      simp only [hA, h13, maybeReturnResult, htext]
      by_cases hc : c = 48
      · simp [hc, asUPCA]
      · simp only [hc, if_false]
        simp only [isReaderErr, if_true]
        cases ks with
        | nil => simp [multiLoopA]
        | cons k2 ks2 =>
          rw [ih (fun k hk => hrs k (by simp [hk])) (by simp)]
          simp [hc]

end Ean13Symbol

/-! ## the concrete reader -/

/-- the sub-readers of the concrete model satisfy the hypothesis `hA` of `multi_ean13_symbol` -/
theorem readerWithStart_upca {V : Type} (O : VarOps V) (T : Tables) (X : ExtTables) (rn : Int) (row : List Bool)
    (h : Hints) (sg : Nat × Nat) :
    (readerWithStart O T X .upca rn row h sg).2 = maybeReturnResult (readerWithStart O T X .ean13 rn row h sg).2 := rfl

/-- **No POSSIBLE_FORMATS** (or none of the four UPC/EAN formats in it): a symbol the EAN-13 reader accepts is
    returned as EAN_13 with all its digits — also a UPC-A symbol ("0" + 12 digits), as the library's tests pin down —
    as long as the call's POSSIBLE_FORMATS does not name UPC_A either.  (`wf` is not used: what is needed of `res`, its
    format and length, holds on any tables, `decodeWithStart_ok`.) -/
theorem multi_default_ean13 {V : Type} (O : VarOps V) (T : Tables) (X : ExtTables) (wf : wfRow T X = true) (rn : Int)
    (row : List Bool) (h : Hints) (hcan : h.canUPCA = false) (sg : Nat × Nat) (res : RowResult)
    (hsg : OneD.notFoundOf (findStartGuardPattern O T row) = .ok sg)
    (h13 : (decodeWithStart O T X .ean13 rn row h sg).2 = .ok res)
    (fs : List (Option EanKind)) (hfs : ∀ f ∈ fs, f = none) :
    (multiDecodeRow O T X (multiReaders fs) rn row h).2 = .ok res := by
  obtain ⟨hfmt, h8⟩ := decodeWithStart_ok O T X .ean13 rn row h sg res h13
  unfold multiDecodeRow
  rw [hsg, multiReaders_default fs hfs]
  simp only []
  have := multi_returns_first_success (fun k => readerWithStart O T X k rn row h sg) h.canUPCA [] .ean13 [.ean8, .upce] res []
    (by simp) h13
  simp only [List.nil_append] at this
  rw [this]
  simp only [present, hfmt, hcan, if_true]
  cases ht : res.text with
  | nil => rw [ht] at h8; simp at h8
  | cons c rest => simp

/-- **POSSIBLE_FORMATS = EAN-13 and/or UPC-A entries** (constructor and call see the same list `fs`, non-empty, any
    order): a symbol the EAN-13 reader accepts as `c :: rest` comes back
    * as UPC_A `rest` when `c = '0'` and UPC_A is listed,
    * as EAN_13 `c :: rest` when `c = '0'` and UPC_A is not listed, or `c ≠ '0'` and EAN_13 is listed,
    * as NotFoundException when `c ≠ '0'` and only UPC_A is listed. -/
theorem multi_hinted_ean13_upca {V : Type} (O : VarOps V) (T : Tables) (X : ExtTables) (rn : Int)
    (row : List Bool) (h : Hints) (sg : Nat × Nat) (res : RowResult) (c : Nat) (rest : List Nat)
    (hsg : OneD.notFoundOf (findStartGuardPattern O T row) = .ok sg)
    (h13 : (decodeWithStart O T X .ean13 rn row h sg).2 = .ok res) (hfmt : res.format = .ean13)
    (htext : res.text = c :: rest)
    (rs : List EanKind) (hrs : ∀ k ∈ rs, k = .ean13 ∨ k = .upca) (hne : rs ≠ [])
    (hcan : h.canUPCA = decide (EanKind.upca ∈ rs)) :
    (multiDecodeRow O T X rs rn row h).2 =
      if c = 48 then (if EanKind.upca ∈ rs then .ok (asUPCA res rest) else .ok res)
      else (if EanKind.ean13 ∈ rs then .ok res else .error .notFound) := by
  unfold multiDecodeRow
  rw [hsg]
  simp only []
  rw [multi_ean13_symbol (fun k => readerWithStart O T X k rn row h sg) res c rest h13 hfmt htext
    (readerWithStart_upca O T X rn row h sg) h.canUPCA rs hrs hne []]
  by_cases hc : c = 48
  · simp only [hc, if_true]
    by_cases hu : EanKind.upca ∈ rs
    · simp [hcan, hu]
    · have hh : rs.head? ≠ some .upca := by
        intro hh
        cases rs with
        | nil => simp at hh
        | cons a as => simp at hh; subst hh; simp at hu
      simp [hcan, hu, hh]
  · simp [hc]

/-! ### non-vacuity: the three cases on rows drawn by the writer model (exact-arithmetic instance, run by the kernel) -/

/-- UPC-A "01234567890" + check digit 5, one pixel per module, quiet zones 5 and 5 -/
def upcaRow : List Bool :=
  match OneD.upcaModules refTables (OneD.bytesOf "01234567890") with
  | .ok m => OneD.paddedRow 5 1 5 m
  | .error _ => []

def ean13Row : List Bool :=
  match OneD.ean13Modules refTables (OneD.bytesOf "400638133393") with
  | .ok m => OneD.paddedRow 5 1 5 m
  | .error _ => []

def outcome (r : Trace × Res RowResult) : Option (EanKind × List Nat) := r.2.toOption.map (fun x => (x.format, x.text))

/-- no POSSIBLE_FORMATS: EAN_13 with the leading '0' -/
example : outcome (multiDecodeRow VarOps.exact refTables refExt (multiReaders []) 0 upcaRow {}) =
    some (.ean13, OneD.bytesOf "0012345678905") := by decide +kernel
/-- POSSIBLE_FORMATS = [UPC_A]: UPC_A, twelve digits -/
example : outcome (multiDecodeRow VarOps.exact refTables refExt (multiReaders [some .upca]) 0 upcaRow { canUPCA := true }) =
    some (.upca, OneD.bytesOf "012345678905") := by decide +kernel
/-- POSSIBLE_FORMATS = [EAN_13, UPC_A]: the EAN-13 sub-reader succeeds first and its result is re-labelled -/
example : outcome (multiDecodeRow VarOps.exact refTables refExt (multiReaders [some .ean13, none, some .upca]) 0 upcaRow
    { canUPCA := true }) = some (.upca, OneD.bytesOf "012345678905") := by decide +kernel
/-- an EAN-13 symbol not starting with '0' under POSSIBLE_FORMATS = [UPC_A]: not found … -/
example : outcome (multiDecodeRow VarOps.exact refTables refExt (multiReaders [some .upca]) 0 ean13Row { canUPCA := true }) =
    none := by decide +kernel
/-- … and with EAN_13 listed after UPC_A: EAN_13 -/
example : outcome (multiDecodeRow VarOps.exact refTables refExt (multiReaders [some .upca, some .ean13]) 0 ean13Row
    { canUPCA := true }) = some (.ean13, OneD.bytesOf "4006381333931") := by decide +kernel
example : multiReaders [none, some .ean8, some .ean8, none, some .upca] = [.ean8, .ean8, .upca] := by decide

end Gzx.Properties.C03Multi
