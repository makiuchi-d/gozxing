/-
  C06 (wp oned128) — "Decoding is total … arbitrary pixel rows fed to each 1D row decoder, any hints: the call returns
  with a result or a typed error, never a panic" for the Code 128 and ITF ROW DECODERS as coded
  (models: Gzx/Model/OneDRow128.lean, OneDRowITF.lean; tied to oned/code128_reader.go and oned/itf_reader.go by the
  `row128` correspondence suites of harness/zz_oned128_*.go).

  Every theorem holds for EVERY interpretation `D` of the float64 variance arithmetic that does not panic on patterns at
  least as long as the counters — in particular the exact rationals (`exactDom`) and IEEE binary64 (`floatDom`).
  Table hypotheses are decidable shape facts (`Table128`, `TableITF`), discharged for the tables regenerated from /repo
  in Obligations/C06Row128.lean.
-/
import Gzx.Proofs.Row128Total
import Gzx.Proofs.RowITFTotal
namespace Gzx.Properties.C06Row128
open Gzx Gzx.Row128 Gzx.Det

/-- Clause "forall rows fed to each 1D row decoder, forall hint maps: result xor NotFound/Checksum/Format, never a panic",
    Code 128: `code128Reader.DecodeRow` on EVERY pixel row (any length, incl. 0) with or without the ASSUME_GS1 hint
    returns a result or a NotFound / Checksum / Format error.  In particular none of the slice operations of the Go text
    can fail: `counters[counterPosition]`, `code128CODE_PATTERNS[startCode]`, `pattern[i]` inside PatternMatchVariance,
    `counters[2:2+counterPosition-1]`, and `result[:resultLength-2]` (a printable last character in code set C always
    contributed two digits — invariant `J`); the `for !done` loop ends because every decoded code consumes ≥ 6 pixels. -/
theorem code128_decodeRow_total (D : VarDom) (hD : D.PmvOk) (P : List (List Nat)) (hP : Table128 P)
    (row : List Bool) (gs1 : Bool) : Typed (Row128.decodeRow D P row gs1) :=
  (decodeRow_sat D hD P hP row gs1).typed

/-- the same, spelled as the model's never producing the two pseudo-results a Go panic / a non-terminating loop map to -/
theorem code128_decodeRow_no_panic (D : VarDom) (hD : D.PmvOk) (P : List (List Nat)) (hP : Table128 P)
    (row : List Bool) (gs1 : Bool) :
    (∀ w, decodeRow D P row gs1 ≠ .error (.panic w)) ∧ decodeRow D P row gs1 ≠ .error .fuel :=
  (decodeRow_sat D hD P hP row gs1).no_crash readerFault_checked

/-- Clause "forall rows fed to each 1D row decoder, forall hint maps …", ITF: `itfReader.DecodeRow` on EVERY pixel row
    (any length, incl. 0) and EVERY value of the ALLOWED_LENGTHS hint (absent, empty, any list of ints incl. negative ones)
    returns a result or a NotFound / Format error — never a panic: `counters[counterPosition]`, the counter shift
    `counters[2:2+counterPosition-1]`, `row.Get(i)` in validateQuietZone (on the row and on the REVERSED row),
    `itfReader_END_PATTERN_REVERSED[0]`/`[1]`, the ten-counter split of decodeMiddle, `pattern[i]` inside
    PatternMatchVariance all stay in range, and the `for payloadStart < payloadEnd` loop ends (≥ 10 pixels per pair). -/
theorem itf_decodeRow_total (D : VarDom) (hD : D.PmvOk) (T : RowITF.ItfT) (hT : RowITF.TableITF T)
    (row : List Bool) (allowed : Option (List Int)) : Typed (RowITF.decodeRow D T row allowed) :=
  ((RowITF.decodeRow_sat D hD T hT row allowed).faults fun _ h => h.elim Or.inl fun h => Or.inr (Or.inr h)).typed

theorem itf_decodeRow_no_panic (D : VarDom) (hD : D.PmvOk) (T : RowITF.ItfT) (hT : RowITF.TableITF T)
    (row : List Bool) (allowed : Option (List Int)) :
    (∀ w, RowITF.decodeRow D T row allowed ≠ .error (.panic w)) ∧ RowITF.decodeRow D T row allowed ≠ .error .fuel :=
  (RowITF.decodeRow_sat D hD T hT row allowed).no_crash (either_checked ⟨nofun, nofun⟩ ⟨nofun, nofun⟩)

/-- the errors of the ITF reader are NotFound or Format only (it has no checksum) -/
theorem itf_decodeRow_never_checksum (D : VarDom) (hD : D.PmvOk) (T : RowITF.ItfT) (hT : RowITF.TableITF T)
    (row : List Bool) (allowed : Option (List Int)) : RowITF.decodeRow D T row allowed ≠ .error .checksum := by
  intro h
  have := RowITF.decodeRow_sat D hD T hT row allowed
  rw [h] at this
  rcases this with h | h <;> cases h

/-! ### non-vacuity -/
example : RowITF.TableITF RowITF.refItfT := RowITF.tableITF_of_B _ (by decide)
example : exactDom.PmvOk := exactDom_pmvOk
example : floatDom.PmvOk := floatDom_pmvOk
example : Table128 OneD.refTables.code128 := table128_of_B _ (by decide +kernel)

end Gzx.Properties.C06Row128
