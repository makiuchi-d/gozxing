/-
  C13 — smallest adequate symbol; size hints and capacity limits honoured.
  Property theorems over the model `Gzx.QRVersionChoice` (lean/Gzx/Model/QRVersionChoice.lean,
  tied to qrcode/encoder/encoder.go and datamatrix/encoder/symbol_info.go by the `c13`
  correspondence suite), parametric in the library's tables.  The decidable table hypotheses
  (`wfB`, `monoB`, `guardB`, `sortedB`, …) are discharged for the regenerated tables in
  Gzx/Obligations/C13.lean and, below, for the tables the standard prescribes.
-/
import Gzx.Proofs.QRVersionChoice
import Gzx.Proofs.FirstFit
namespace Gzx.Properties.C13
open Gzx Gzx.QRRef Gzx.QRVersionChoice

/-! ## QR Code: the recommended version is the smallest that fits -/

/-- payload bits of a single-segment message in version `v`: header, count indicator, data -/
def bitsNeeded (T : QRTables) (m : Mode) (hdr data v : Nat) : Nat := hdr + cbOf T m v + data

/-- the payload fits version `v` at level `ec`: ⌈bits/8⌉ ≤ data codewords -/
def fits (T : QRTables) (ec : EC) (m : Mode) (hdr data v : Nat) : Bool :=
  fitsBytes (dataBytes T v ec) (bitsNeeded T m hdr data v)

/-- the smallest version 1..40 the payload fits, judged with that version's own count width -/
def minFit (T : QRTables) (ec : EC) (m : Mode) (hdr data : Nat) : Option Nat :=
  ((List.range 40).map (· + 1)).find? (fits T ec m hdr data)

/-- For well-formed tables whose capacities strictly increase with the version
    and whose count widths grow by at most 8 bits over the three version classes, the two-pass
    `recommendVersion` (provisional version from the version-1 count width, then one correction)
    returns exactly the smallest fitting version, and "Data too big" exactly when none fits.
    The author's doubt in the source ("I am still not sure this works in 100% of cases") is
    settled: it does, for every header and data length. -/
theorem recommend_is_min (T : QRTables) (hwf : wfB T = true) (hmono : monoB T = true)
    (ec : EC) (m : Mode) (hdr data : Nat) :
    recommendVersion T ec m hdr data =
      match minFit T ec m hdr data with
      | some v => .ok (rowOf T v)
      | none => .error .writer := by
  unfold recommendVersion
  have h1 : getVersionForNumber T 1 = .ok (rowOf T 1) := getVersion_ok hwf (v := 1) (by omega) (by omega)
  rw [h1]
  simp only [bind, Except.bind, pure, Except.pure]
  rw [calculateBitsNeeded_ok hwf m hdr data (v := 1) (by omega) (by omega)]
  simp only
  rw [chooseVersion_eq hwf]
  have htp := two_pass (fun v => dataBytes T v ec) (fun v => hdr + cbOf T m v + data)
    (mono_D hmono ec)
    (fun u v hu huv hv => by have := (mono_w hmono m).1 u v hu huv hv; omega)
    (by have := (mono_w hmono m).2; omega)
  have hmin : minFit T ec m hdr data = firstFrom (fun v => fitsBytes (dataBytes T v ec) (hdr + cbOf T m v + data)) 40 1 := by
    unfold minFit; rw [firstFrom_eq_find]; rfl
  rw [hmin, ← htp]
  cases hp : firstFrom (fun v => fitsBytes (dataBytes T v ec) (hdr + cbOf T m 1 + data)) 40 1 with
  | none => rfl
  | some p =>
    simp only
    have hp' := firstFrom_some.mp hp
    rw [calculateBitsNeeded_ok hwf m hdr data (v := p) hp'.1 (by omega)]
    simp only
    rw [chooseVersion_eq hwf]
    rfl

/-- the recommendation fails ("Data too big") exactly when the payload fits no version -/
theorem recommend_refuses_iff (T : QRTables) (hwf : wfB T = true) (hmono : monoB T = true)
    (ec : EC) (m : Mode) (hdr data : Nat) :
    recommendVersion T ec m hdr data = .error .writer ↔
      ∀ v, 1 ≤ v → v ≤ 40 → fits T ec m hdr data v = false := by
  rw [recommend_is_min T hwf hmono]
  have hmin : minFit T ec m hdr data = firstFrom (fits T ec m hdr data) 40 1 := by
    unfold minFit; rw [firstFrom_eq_find]
  rw [hmin]
  cases h : firstFrom (fits T ec m hdr data) 40 1 with
  | none =>
    simp only [true_iff]
    intro v h1 h40
    exact firstFrom_none.mp h v h1 (by omega)
  | some v =>
    have := firstFrom_some.mp h
    simp only [reduceCtorEq, false_iff]
    intro hall
    have h1 := this.2.2.1
    have h2 := hall v this.1 (by omega)
    rw [h1] at h2
    cases h2

/-- the recommended version fits, no smaller version does, and its row carries its number -/
theorem recommend_min_spec (T : QRTables) (hwf : wfB T = true) (hmono : monoB T = true)
    (ec : EC) (m : Mode) (hdr data : Nat) (r : VersionInfo)
    (h : recommendVersion T ec m hdr data = .ok r) :
    1 ≤ r.number ∧ r.number ≤ 40 ∧ r = rowOf T r.number ∧ fits T ec m hdr data r.number = true ∧
      ∀ u, 1 ≤ u → u < r.number → fits T ec m hdr data u = false := by
  rw [recommend_is_min T hwf hmono] at h
  have hmin : minFit T ec m hdr data = firstFrom (fits T ec m hdr data) 40 1 := by
    unfold minFit; rw [firstFrom_eq_find]
  rw [hmin] at h
  cases hf : firstFrom (fits T ec m hdr data) 40 1 with
  | none => rw [hf] at h; cases h
  | some v =>
    rw [hf] at h
    simp only [Except.ok.injEq] at h
    have hs := firstFrom_some.mp hf
    have hnum := (wf_row hwf hs.1 (by omega : v ≤ 40)).2.1
    subst h
    rw [hnum]
    exact ⟨hs.1, by omega, rfl, hs.2.2.1, hs.2.2.2⟩

/-- the recommendation never panics (no table access out of range) -/
theorem recommend_total (T : QRTables) (hwf : wfB T = true) (hmono : monoB T = true)
    (ec : EC) (m : Mode) (hdr data : Nat) (w : String) :
    recommendVersion T ec m hdr data ≠ .error (.panic w) := by
  rw [recommend_is_min T hwf hmono]
  split <;> simp

/-! ## the two guards after the version decision never fire -/

theorem dataBitsLen_mono (m : Mode) {a b : Nat} (h : a ≤ b) : dataBitsLen m a ≤ dataBitsLen m b := by
  cases m <;> simp only [dataBitsLen]
  · repeat' split
    all_goals omega
  · omega
  · omega
  · omega

/-- per (mode, version, level): the shortest content whose length no longer fits the character
    count indicator (`2^width` characters) does not fit the version, even with the shortest header
    (the 4-bit mode indicator) -/
def guardB (T : QRTables) : Bool :=
  Mode.all.all (fun m => (List.range 40).all (fun i => EC.all.all (fun ec =>
    decide (dataBytes T (i + 1) ec * 8 < ((4 + cbOf T m (i + 1) + dataBitsLen m (2 ^ cbOf T m (i + 1)) : Nat) : Int)))))

/-- Whatever fits a version has a character count that fits that
    version's count indicator — `appendLengthInfo`'s "is bigger than" error is unreachable after
    the version decision -/
theorem length_guard_never_fires (T : QRTables) (hg : guardB T = true)
    (ec : EC) (m : Mode) (hdr n v : Nat) (h1 : 1 ≤ v) (h40 : v ≤ 40) (hh : 4 ≤ hdr)
    (hfit : fits T ec m hdr (dataBitsLen m n) v = true) :
    n < 2 ^ cbOf T m v := by
  unfold guardB at hg
  rw [List.all_eq_true] at hg
  have := hg m (mem_Mode_all m)
  rw [List.all_eq_true] at this
  have := this (v - 1) (List.mem_range.mpr (by omega))
  rw [List.all_eq_true] at this
  have := this ec (mem_EC_all ec)
  have e1 : v - 1 + 1 = v := by omega
  rw [e1] at this
  simp only [decide_eq_true_eq] at this
  unfold fits fitsBytes bitsNeeded at hfit
  have hfit' := of_decide_eq_true hfit
  apply Classical.byContradiction
  intro hn
  have hmono := dataBitsLen_mono m (Nat.le_of_not_lt hn)
  omega

/-- the version decision of `Encoder_encode` without a QR_VERSION hint is `recommendVersion`: the
    length guard and `terminateBits`' capacity guard add no failure -/
theorem encode_version_auto (T : QRTables) (hwf : wfB T = true) (hmono : monoB T = true) (hg : guardB T = true)
    (ec : EC) (m : Mode) (hdr n : Nat) (hh : 4 ≤ hdr) :
    encodeVersion T ec m hdr (dataBitsLen m n) n none = recommendVersion T ec m hdr (dataBitsLen m n) := by
  unfold encodeVersion
  simp only [bind, Except.bind, pure, Except.pure]
  cases hr : recommendVersion T ec m hdr (dataBitsLen m n) with
  | error e => rfl
  | ok r =>
    simp only
    obtain ⟨h1, h40, hrow, hfit, _⟩ := recommend_min_spec T hwf hmono ec m hdr _ r hr
    rw [hrow, characterCountBits_ok hwf m h1 h40]
    simp only
    have hlt := length_guard_never_fires T hg ec m hdr n r.number h1 h40 hh hfit
    have hnl : ¬ n ≥ 2 ^ cbOf T m r.number := by omega
    simp only [hnl, if_false]
    rw [numDataBytes_ok hwf h1 h40]
    simp only
    unfold fits fitsBytes bitsNeeded at hfit
    have hfit' := of_decide_eq_true hfit
    have hcap : ¬ (((hdr + cbOf T m r.number + dataBitsLen m n : Nat) : Int) > dataBytes T r.number ec * 8) := by omega
    simp only [hcap, if_false]

/-- With a QR_VERSION hint the requested version is used exactly when it is
    one of 1..40 and the payload fits it; otherwise the request is refused (a WriterException) — never
    silently replaced by another version -/
theorem forced_version_exact (T : QRTables) (hwf : wfB T = true) (hg : guardB T = true)
    (ec : EC) (m : Mode) (hdr n : Nat) (hh : 4 ≤ hdr) (hint : HintVal) :
    encodeVersion T ec m hdr (dataBitsLen m n) n (some hint) =
      (if 1 ≤ hintInt hint ∧ hintInt hint ≤ 40 ∧ fits T ec m hdr (dataBitsLen m n) (hintInt hint).toNat = true
       then .ok (rowOf T (hintInt hint).toNat) else .error .writer) := by
  unfold encodeVersion
  simp only [bind, Except.bind, pure, Except.pure]
  by_cases hr : 1 ≤ hintInt hint ∧ hintInt hint ≤ 40
  · obtain ⟨v, hv⟩ : ∃ v : Nat, hintInt hint = (v : Int) := ⟨(hintInt hint).toNat, by omega⟩
    rw [hv] at hr ⊢
    have h1 : 1 ≤ v := by omega
    have h40 : v ≤ 40 := by omega
    rw [getVersion_ok hwf h1 h40]
    simp only [Int.toNat_natCast]
    rw [calculateBitsNeeded_ok hwf m hdr _ h1 h40]
    simp only
    rw [willFit_ok hwf h1 h40]
    simp only
    cases hfit : fitsBytes (dataBytes T v ec) (hdr + cbOf T m v + dataBitsLen m n)
    · have : fits T ec m hdr (dataBitsLen m n) v = false := hfit
      simp [this]
    · have hfit' : fits T ec m hdr (dataBitsLen m n) v = true := hfit
      simp only [Bool.not_true, Bool.false_eq_true, if_false]
      rw [characterCountBits_ok hwf m h1 h40]
      simp only
      have hlt := length_guard_never_fires T hg ec m hdr n v h1 h40 hh hfit'
      have hnl : ¬ n ≥ 2 ^ cbOf T m v := by omega
      simp only [hnl, if_false]
      rw [numDataBytes_ok hwf h1 h40]
      simp only
      unfold fitsBytes at hfit
      have hfit'' := of_decide_eq_true hfit
      have hcap : ¬ (((hdr + cbOf T m v + dataBitsLen m n : Nat) : Int) > dataBytes T v ec * 8) := by omega
      simp only [hcap, if_false]
      have : (1 : Int) ≤ (v : Int) ∧ (v : Int) ≤ 40 := by omega
      simp [this, hfit']
  · have hno : ¬ (1 ≤ hintInt hint ∧ hintInt hint ≤ 40 ∧ fits T ec m hdr (dataBitsLen m n) (hintInt hint).toNat = true) :=
      fun h => hr ⟨h.1, h.2.1⟩
    simp only [hno, if_false]
    unfold getVersionForNumber
    have : hintInt hint < 1 ∨ hintInt hint > 40 := by omega
    simp only [this, if_true]

/-! ## capacities -/

/-- number of characters of mode `m` whose data bits fit into `B` bits -/
def charsInBits (m : Mode) (B : Nat) : Nat :=
  match m with
  | .numeric => 3 * (B / 10) + (if B % 10 ≥ 7 then 2 else if B % 10 ≥ 4 then 1 else 0)
  | .alnum => 2 * (B / 11) + (if B % 11 ≥ 6 then 1 else 0)
  | .byte => B / 8
  | .kanji => B / 13

theorem charsInBits_spec (m : Mode) (n B : Nat) : dataBitsLen m n ≤ B ↔ n ≤ charsInBits m B := by
  cases m <;> simp only [dataBitsLen, charsInBits]
  · repeat' split
    all_goals omega
  · split <;> omega
  · omega
  · omega

/-- capacity in characters of a (version, level, mode) for a plain single-segment symbol
    (4-bit mode indicator, count indicator, data) -/
def capacity (T : QRTables) (ec : EC) (m : Mode) (v : Nat) : Nat :=
  charsInBits m ((dataBytes T v ec * 8).toNat - 4 - cbOf T m v)

/-- `capacity` is exact: `n` characters fit iff `n ≤ capacity` (whenever the header fits at all) -/
theorem capacity_spec (T : QRTables) (ec : EC) (m : Mode) (v n : Nat)
    (hroom : ((4 + cbOf T m v : Nat) : Int) ≤ dataBytes T v ec * 8) :
    fits T ec m 4 (dataBitsLen m n) v = true ↔ n ≤ capacity T ec m v := by
  unfold capacity
  rw [← charsInBits_spec]
  unfold fits fitsBytes bitsNeeded
  rw [decide_eq_true_eq]
  omega

/-! ## Data Matrix: first fit in table order = smallest admissible symbol -/

/-- `SymbolInfo_Lookup`'s loop returns the first row, in table order, that
    passes the shape / minimum / maximum filters and holds the codewords -/
theorem dm_lookup_first_fit (T : List SymbolInfo) (n : Nat) (shape : Shape) (minSize maxSize : Option (Nat × Nat)) :
    lookupLoop n shape minSize maxSize T =
      T.find? (fun s => admissible shape minSize maxSize s && decide (n ≤ s.dataCapacity)) := by
  induction T with
  | nil => rfl
  | cons s rest ih =>
    unfold lookupLoop
    rw [List.find?_cons, ← ih]
    unfold admissible
    cases shape <;> cases hr : s.rectangular <;> cases hb : belowMin minSize s <;> cases ha : aboveMax maxSize s <;>
      by_cases hn : n ≤ s.dataCapacity <;> simp [hn]

/-- capacities never decrease along the table -/
def sortedB (T : List SymbolInfo) : Bool :=
  match T with
  | [] => true
  | s :: rest => rest.all (fun r => decide (s.dataCapacity ≤ r.dataCapacity)) && sortedB rest

/-- In a table sorted by capacity the row found is one of smallest
    capacity among ALL admissible rows that hold the codewords -/
theorem dm_order_is_capacity_order (T : List SymbolInfo) (hs : sortedB T = true) (n : Nat) (shape : Shape)
    (minSize maxSize : Option (Nat × Nat)) (s : SymbolInfo)
    (h : lookupLoop n shape minSize maxSize T = some s) :
    s ∈ T ∧ admissible shape minSize maxSize s = true ∧ n ≤ s.dataCapacity ∧
      ∀ r ∈ T, admissible shape minSize maxSize r = true → n ≤ r.dataCapacity → s.dataCapacity ≤ r.dataCapacity := by
  rw [dm_lookup_first_fit] at h
  induction T with
  | nil => cases h
  | cons a rest ih =>
    unfold sortedB at hs
    rw [Bool.and_eq_true, List.all_eq_true] at hs
    rw [List.find?_cons] at h
    cases hp : (admissible shape minSize maxSize a && decide (n ≤ a.dataCapacity)) with
    | true =>
      rw [hp] at h
      simp only [Option.some.injEq] at h
      subst h
      rw [Bool.and_eq_true, decide_eq_true_eq] at hp
      refine ⟨List.mem_cons_self, hp.1, hp.2, ?_⟩
      intro r hr _ _
      rcases List.mem_cons.mp hr with rfl | hr'
      · exact Nat.le_refl _
      · simpa using hs.1 r hr'
    | false =>
      rw [hp] at h
      obtain ⟨h1, h2, h3, h4⟩ := ih hs.2 h
      refine ⟨List.mem_cons_of_mem _ h1, h2, h3, ?_⟩
      intro r hr hadm hcap
      rcases List.mem_cons.mp hr with rfl | hr'
      · rw [hadm, Bool.true_and, decide_eq_false_iff_not] at hp
        exact absurd hcap hp
      · exact h4 r hr' hadm hcap

/-- refusal: `SymbolInfo_Lookup(…, fail=true)` errs exactly when no admissible row holds the codewords -/
theorem dm_lookup_refuses_iff (T : List SymbolInfo) (n : Nat) (shape : Shape) (minSize maxSize : Option (Nat × Nat)) :
    symbolLookup T n shape minSize maxSize true = .error .writer ↔
      ∀ r ∈ T, admissible shape minSize maxSize r = true → ¬ n ≤ r.dataCapacity := by
  unfold symbolLookup
  rw [dm_lookup_first_fit]
  cases h : T.find? (fun s => admissible shape minSize maxSize s && decide (n ≤ s.dataCapacity)) with
  | none =>
    simp only [if_true, true_iff]
    intro r hr hadm hcap
    have := List.find?_eq_none.mp h r hr
    simp [hadm, hcap] at this
  | some s =>
    simp only [reduceCtorEq, false_iff]
    intro hall
    have hmem := List.mem_of_find?_eq_some h
    have hp := List.find?_some h
    rw [Bool.and_eq_true, decide_eq_true_eq] at hp
    exact hall s hmem hp.1 hp.2

/-- looking the capacity of the found symbol up again (same filters) finds the same symbol: earlier
    admissible rows were too small for `n`, hence too small for the capacity -/
theorem dm_lookup_idempotent (T : List SymbolInfo) (n : Nat) (shape : Shape) (minSize maxSize : Option (Nat × Nat))
    (s : SymbolInfo) (h : lookupLoop n shape minSize maxSize T = some s) :
    lookupLoop s.dataCapacity shape minSize maxSize T = some s := by
  rw [dm_lookup_first_fit] at h ⊢
  exact find?_firstFit_idem _ _ h

/-- The symbol the Data Matrix WRITER renders (second lookup on the padded
    codewords, with the same shape and size constraints) is the first admissible symbol for the
    message's codeword count, in table order; the writer refuses exactly when none is admissible,
    and its ignored second-lookup error can never hide a nil symbol -/
theorem dm_writer_symbol (T : List SymbolInfo) (k : Nat) (shape : Shape) (minSize maxSize : Option (Nat × Nat)) :
    writerSymbol T k shape minSize maxSize =
      match lookupLoop k shape minSize maxSize T with
      | some s => .ok s
      | none => .error .writer := by
  unfold writerSymbol symbolLookup
  cases h : lookupLoop k shape minSize maxSize T with
  | none => rfl
  | some s =>
    simp only [bind, Except.bind, pure, Except.pure]
    rw [dm_lookup_idempotent T k shape minSize maxSize s h]

/-- beyond a bound on the capacities of the table nothing is found (for the regenerated table the bound is 1558:
    `Gzx.Obligations.C13.gen_dm_max_1558`) -/
theorem dm_max (T : List SymbolInfo) (cap : Nat) (hmax : T.all (fun s => decide (s.dataCapacity ≤ cap)) = true)
    (n : Nat) (hn : cap < n) (shape : Shape) (minSize maxSize : Option (Nat × Nat)) :
    lookupLoop n shape minSize maxSize T = none := by
  rw [dm_lookup_first_fit, List.find?_eq_none]
  intro s hs
  rw [List.all_eq_true] at hmax
  have := hmax s hs
  simp only [decide_eq_true_eq] at this
  have : ¬ n ≤ s.dataCapacity := by omega
  simp [this]

/-- `UpdateSymbolInfoByLength`: afterwards the context's symbol holds `len` codewords; it is the
    previous symbol if that was large enough, otherwise the first fit -/
theorem update_symbol_info_spec (T : List SymbolInfo) (cur : Option SymbolInfo) (len : Nat) (shape : Shape)
    (minSize maxSize : Option (Nat × Nat)) (r : Option SymbolInfo)
    (h : updateSymbolInfoByLength T cur len shape minSize maxSize = .ok r) :
    ∃ s, r = some s ∧ len ≤ s.dataCapacity ∧
      ((cur = some s) ∨ lookupLoop len shape minSize maxSize T = some s) := by
  unfold updateSymbolInfoByLength at h
  have key : ∀ r, symbolLookup T len shape minSize maxSize true = .ok r →
      ∃ s, r = some s ∧ len ≤ s.dataCapacity ∧ lookupLoop len shape minSize maxSize T = some s := by
    intro r hr
    unfold symbolLookup at hr
    cases hl : lookupLoop len shape minSize maxSize T with
    | none => rw [hl] at hr; simp at hr
    | some s =>
      rw [hl] at hr
      simp only [Except.ok.injEq] at hr
      refine ⟨s, hr.symm, ?_, rfl⟩
      rw [dm_lookup_first_fit] at hl
      have hp := List.find?_some hl
      rw [Bool.and_eq_true, decide_eq_true_eq] at hp
      exact hp.2
  cases cur with
  | none =>
    obtain ⟨s, h1, h2, h3⟩ := key r h
    exact ⟨s, h1, h2, Or.inr h3⟩
  | some c =>
    simp only at h
    by_cases hc : len > c.dataCapacity
    · simp only [hc, if_true] at h
      obtain ⟨s, h1, h2, h3⟩ := key r h
      exact ⟨s, h1, h2, Or.inr h3⟩
    · simp only [hc, if_false, Except.ok.injEq] at h
      exact ⟨c, h.symm, by omega, Or.inl rfl⟩

/-! ## the tables the standard prescribes satisfy every hypothesis; published capacities -/

theorem ref_wf : wfB refTables = true := by decide +kernel
theorem ref_mono : monoB refTables = true := by decide +kernel
theorem ref_guard : guardB refTables = true := by decide +kernel

/-- what the standard's tables give (for the regenerated ones: `Gzx.Obligations.C13.qr_capacity_figures`):
    numeric / alphanumeric / byte / Kanji capacities
    of version 40 at L, M, Q, H, of version 1 at L and H, of 10-M and 27-Q, as published in ISO/IEC 18004 Table 7 -/
theorem ref_capacity_figures :
    Mode.all.map (capacity refTables .L · 40) = [7089, 4296, 2953, 1817] ∧
    Mode.all.map (capacity refTables .M · 40) = [5596, 3391, 2331, 1435] ∧
    Mode.all.map (capacity refTables .Q · 40) = [3993, 2420, 1663, 1024] ∧
    Mode.all.map (capacity refTables .H · 40) = [3057, 1852, 1273, 784] ∧
    Mode.all.map (capacity refTables .L · 1) = [41, 25, 17, 10] ∧
    Mode.all.map (capacity refTables .H · 1) = [17, 10, 7, 4] ∧
    Mode.all.map (capacity refTables .M · 10) = [513, 311, 213, 131] ∧
    Mode.all.map (capacity refTables .Q · 27) = [1933, 1172, 805, 496] := by
  decide +kernel

/-! ## non-vacuity -/

example : recommendVersion refTables .L .numeric 4 (dataBitsLen .numeric 7089) = .ok (rowOf refTables 40) := by
  rw [recommend_is_min refTables ref_wf ref_mono]; decide +kernel
example : recommendVersion refTables .L .numeric 4 (dataBitsLen .numeric 7090) = .error .writer := by
  rw [recommend_is_min refTables ref_wf ref_mono]; decide +kernel
example : minFit refTables .M .alnum 4 (dataBitsLen .alnum 11) = some 1 := by decide +kernel

end Gzx.Properties.C13
