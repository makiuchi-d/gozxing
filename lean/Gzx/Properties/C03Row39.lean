/-
  C03 (work package oned39) — Code 39, Code 93 and Codabar: what the writer draws is read back by the ROW DECODER
  AS CODED (model Gzx/Model/OneDRow39.lean of oned/code39_reader.go, code93_reader.go, codabar_reader.go), at every
  integer scale, for quiet zones down to what the reader demands.  Same pattern as `upcean_read_write`
  (Properties/C03.lean): rows are `paddedRow lq s rq (modules content)` = `lq` white pixels, every module `s`
  pixels wide, `rq` white pixels.  Table hypotheses are decidable and discharged per run for the regenerated
  tables (Obligations/C03Row39.lean).
  The last section holds the C10 clause "accepted reads verify" for the Code 93 and Code 39 row decoders (the Code 128
  one is Properties/C10Row128.lean).
-/
import Gzx.Proofs.Row39Code93
import Gzx.Proofs.Row39Code39
import Gzx.Proofs.Row39Codabar
import Gzx.Properties.C03
namespace Gzx.Properties.C03Row39
open Gzx Gzx.OneD Gzx.Row39

/-! ## Code 93 -/

/-- Clause "Code 93: ASCII 0-127 … the image rendered … is read by the matching reader as exactly that content",
    on the pixel-level row decoder: for EVERY table set satisfying the decidable `WF93Row`, every ASCII content the
    writer model accepts, every scale `s ≥ 1` and ANY left and right quiet zone (also none: the reader asks for no
    white before the start character and for the termination bar, not white, after the stop character),
    `findAsteriskPattern`, the character loop (`RecordPattern`, `code93ToPattern` with its rounding,
    `patternToChar`), the termination-bar test, `checkChecksums` and `decodeExtended` return exactly the content,
    with result points at the middle of the start character and of the stop character. -/
theorem code93_row_read_write (T : Tables) (hT : WF93Row T = true) (contents : List Nat) (mods : List Bool)
    (hascii : ∀ c ∈ contents, c < 128) (h : code93Modules T contents = .ok mods) (lq s rq : Nat) (hs : 0 < s) :
    c93DecodeRow T (paddedRow lq s rq mods) =
      .ok ⟨contents, 2 * lq + 9 * s, 2 * (lq + s * (mods.length - 10)) + 9 * s⟩ := by
  have f := wf93Facts T hT
  obtain ⟨e, he, hu⟩ := Properties.C03.ext93_inv contents hascii
  unfold code93Modules code93Symbols at h
  simp only [he, bind, Except.bind, pure, Except.pure, throw, throwThe, MonadExceptOf.throw] at h
  split at h
  · cases h
  · rename_i syms hsy
    split at hsy
    · cases hsy
    · split at hsy
      · cases hsy
      · rename_i vals hvals
        cases hsy
        obtain ⟨hlt, hmap⟩ := mapM_alphaIndex_spec T.code93Alphabet e vals hvals
        have hmap' : vals.map (alpha93 T) = e := hmap
        have hno := escape93_no_star contents e he
        have hv47 : ∀ i ∈ vals, i < 47 := by
          intro i hi
          have h48 := hlt i hi
          rw [f.alphaLen] at h48
          by_cases h47 : i = 47
          · exfalso
            apply hno
            rw [← hmap']
            have : alpha93 T 47 ∈ vals.map (alpha93 T) := List.mem_map.mpr ⟨47, by rw [← h47]; exact hi, rfl⟩
            rw [alpha93_star T f] at this
            exact this
          · omega
        have hsyms : ∀ i ∈ vals ++ [(CheckDigit.c93Checks vals).1, (CheckDigit.c93Checks vals).2], i < 47 := by
          intro i hi
          rcases List.mem_append.mp hi with x | x
          · exact hv47 i x
          · have h1 : (CheckDigit.c93Checks vals).1 < 47 := c93Check_lt _ _
            have h2 : (CheckDigit.c93Checks vals).2 < 47 := c93Check_lt _ _
            simp at x; omega
        rw [code93Draw_runs T f _ (fun i hi => by have := hsyms i hi; omega)] at h
        cases h
        have hfacts := runs93_facts T f 1 (by omega) _ (fun i hi => by have := hsyms i hi; omega)
        rw [← runs93u_scale] at hfacts
        have hw47 := f.word 47 (by omega)
        have hodd : (symbol93 T (vals ++ [(CheckDigit.c93Checks vals).1, (CheckDigit.c93Checks vals).2])).length % 2 = 1 := by
          have := hfacts.1
          simp only [symbol93, List.length_append, hw47.1, List.length_map] at this ⊢
          simp; omega
        have hpos : ∀ w ∈ symbol93 T (vals ++ [(CheckDigit.c93Checks vals).1, (CheckDigit.c93Checks vals).2]), 0 < w := by
          intro w hw
          simp only [symbol93, List.mem_append, List.mem_cons, List.not_mem_nil, or_false] at hw
          rcases hw with x | x | x | x
          · exact hw47.2.1 w x
          · have := hfacts.2.2 (1 * w) (List.mem_map.mpr ⟨w, x, rfl⟩); omega
          · exact hw47.2.1 w x
          · omega
        obtain ⟨hrow, hoff, hlen⟩ := paddedRow_rowAt _ lq s rq hs hodd hpos
        rw [c93DecodeRow_core T f s hs _ hsyms _ lq rq hrow hoff,
          c93Finish_written T f vals (fun i hi => by have := hv47 i hi; omega) contents (by rw [hmap']; exact hu)]
        simp only []
        -- the right point, in terms of the module count: 9·(n+2)+1 modules, stop character starts at 9·(n+1)
        have hml : (appendPattern (symbol93 T (vals ++ [(CheckDigit.c93Checks vals).1, (CheckDigit.c93Checks vals).2])) true).length
            = 9 * ((vals ++ [(CheckDigit.c93Checks vals).1, (CheckDigit.c93Checks vals).2]).length + 2) + 1 := by
          rw [length_appendPattern]
          have h9 := r93_sum T f 47 (by omega)
          have hs1 := (runs93_facts T f 1 (by omega) _ (fun i hi => by have := hsyms i hi; omega)).2.1
          rw [← runs93u_scale, sumL_scale] at hs1
          simp only [symbol93, sumL_append, h9, sumL_cons, sumL_nil]
          omega
        rw [hml]
        generalize (vals ++ [(CheckDigit.c93Checks vals).1, (CheckDigit.c93Checks vals).2]).length = n
        have e1 : 9 * (n + 2) + 1 - 10 = 9 * n + 9 := by omega
        have e2 : s * (9 * n + 9) = 9 * s + 9 * s * n := by
          rw [Nat.mul_add, Nat.mul_comm s 9, ← Nat.mul_assoc, Nat.mul_comm s 9]; omega
        rw [e1, e2, Nat.add_assoc]

/-- non-vacuity and tie to the writer model: "A" and the full-ASCII content "a~" at scales 1 and 3 -/
example : (code93Modules refTables [65]).map (fun m => c93DecodeRow refTables (paddedRow 0 1 0 m)) =
    .ok (.ok ⟨[65], 9, 81⟩) := by decide +kernel
example : (code93Modules refTables [97, 126]).map (fun m => c93DecodeRow refTables (paddedRow 2 3 1 m)) =
    .ok (.ok ⟨[97, 126], 31, 409⟩) := by decide +kernel

/-! ## Code 39 -/

theorem code39Symbols_lt (T : Tables) (contents syms : List Nat) (h : code39Symbols T contents = .ok syms) :
    ∀ i ∈ syms, i < T.code39Alphabet.length := by
  unfold code39Symbols at h
  simp only [bind, Except.bind, pure, Except.pure, throw, throwThe, MonadExceptOf.throw] at h
  split at h
  · cases h
  · by_cases hall : contents.all (fun c => (CheckDigit.indexOf? c T.code39Alphabet).isSome) = true
    · simp only [hall, if_true] at h
      exact (mapM_alphaIndex_spec T.code39Alphabet contents syms h).1
    · have hall' : contents.all (fun c => (CheckDigit.indexOf? c T.code39Alphabet).isSome) = false := by
        simpa using hall
      simp only [hall', Bool.false_eq_true, if_false] at h
      cases he : code39Escape contents with
      | error e => rw [he] at h; cases h
      | ok e =>
        rw [he] at h
        simp only [] at h
        split at h
        · cases h
        · exact (mapM_alphaIndex_spec T.code39Alphabet e syms h).1

/-- Clause "Code 39 incl. full-ASCII … is read by the matching reader as exactly that content", on the pixel-level
    row decoder: for EVERY table set satisfying the decidable `WF39Row`, every non-empty ASCII content the writer
    model accepts (plain when all characters are alphabet characters, full-ASCII escapes otherwise, read with the
    matching reader mode, no check digit), every scale `1 ≤ s ≤ 2^31-1` and ANY left and right quiet zone of white
    pixels (also none: the reader's 50 % white tests look at most to the row's ends),
    `code39FindAsteriskPattern` with its white test, the character loop (`RecordPattern`,
    `code39ToNarrowWidePattern`, `patternToChar`), the trailing white test and `decodeExtended` return exactly the
    content, with result points at the middle of the start and of the stop character.
    (`s ≤ 2^31-1`: the literal `math.MaxInt32` in the classifier; cf. `code39_classifier_needs_bound`.) -/
theorem code39_row_read_write (T : Tables) (hT : WF39Row T = true) (contents : List Nat) (mods : List Bool)
    (hne : contents ≠ []) (hascii : ∀ c ∈ contents, c < 128) (h : code39Modules T contents = .ok mods)
    (lq s rq : Nat) (hs : 0 < s) (hs31 : s ≤ 2147483647) :
    c39DecodeRow T false (!(contents.all (fun c => (CheckDigit.indexOf? c T.code39Alphabet).isSome)))
        (paddedRow lq s rq mods) =
      .ok ⟨contents, 2 * lq + 12 * s, 2 * (lq + s * (mods.length - 12)) + 12 * s⟩ := by
  have f := wf39Facts T hT
  unfold code39Modules at h
  simp only [bind, Except.bind] at h
  split at h
  · cases h
  · rename_i syms hsy
    have hread := Properties.C03.code39_read_write T contents syms hne hascii hsy
    have hlt : ∀ i ∈ syms, i < 43 := by
      intro i hi
      have := code39Symbols_lt T contents syms hsy i hi
      rw [f.alphaLen] at this
      exact this
    rw [code39Draw_runs T f syms hlt] at h
    cases h
    have hstar := f.star
    have hodd : (symbol39 T syms).length % 2 = 1 := by rw [symbol39_length]; omega
    have hpos : ∀ w ∈ symbol39 T syms, 0 < w := by
      intro w hw
      rcases symbol39_mem T syms w hw with h | h <;> omega
    obtain ⟨hrow, hoff, hlen⟩ := paddedRow_rowAt _ lq s rq hs hodd hpos
    rw [c39DecodeRow_core T f s hs hs31 syms hlt false _ _ lq rq hrow hoff (paddedRow_white lq s rq _),
      c39Finish_symbols T f syms hlt _ contents hread]
    simp only []
    -- the right point in terms of the module count: 13·(n+1) + 12 modules, the stop character starts at 13·(n+1)
    have hml : (appendPattern (symbol39 T syms) true).length = 13 * (syms.length + 1) + 12 := by
      -- read off the scaled run list at one pixel per module
      have h1 := congrArg sumL (symbol39_scaled T 1 syms)
      obtain ⟨_, h12, _⟩ := word39_facts 1 T.code39Asterisk (by omega) (by omega) f.star
      simp only [sumL_scale, sumL_append, sumL_cons, star39, h12,
        (runs39_shape T f 1 (by omega) (by omega) syms hlt).2] at h1
      rw [length_appendPattern]
      omega
    rw [hml]
    generalize syms.length = n
    have e1 : 13 * (n + 1) + 12 - 12 = 13 * n + 13 := by omega
    have e2 : s * (13 * n + 13) = 13 * s + 13 * s * n := by
      rw [Nat.mul_add, Nat.mul_comm s 13, ← Nat.mul_assoc, Nat.mul_comm s 13]; omega
    rw [e1, e2, Nat.add_assoc]

/-- non-vacuity and tie to the writer model: "A" (plain) and "a" (full ASCII "+A", extended reader) -/
example : (code39Modules refTables [65]).map (fun m => c39DecodeRow refTables false false (paddedRow 0 1 0 m)) =
    .ok (.ok ⟨[65], 12, 64⟩) := by decide +kernel
example : (code39Modules refTables [97]).map (fun m => c39DecodeRow refTables false true (paddedRow 3 2 5 m)) =
    .ok (.ok ⟨[97], 30, 186⟩) := by decide +kernel

/-! ## Codabar -/

/-- `codabarReader.DecodeRow` on what the writer draws for a content with guards `g`, `l` around the data characters
    `mid`: the data characters (or, with RETURN_CODABAR_START_END, the upper-cased A-D guards around them), unless
    there are fewer than two of them -/
theorem codabar_row_of_full (T : Tables) (hT : WFCbRow T = true) (contents : List Nat) (g l : Nat) (mid : List Nat)
    (h : codabarFull contents = .ok (g :: (mid ++ [l]))) (retSE : Bool)
    (lq s rq : Nat) (hs : 0 < s) (hs31 : s ≤ 2147483647) (hlq : 0 < lq) (hrq : 0 < rq) :
    ∃ mods, codabarModules T contents = .ok mods ∧
      cbDecodeRow T retSE (paddedRow lq s rq mods) =
        if mid.length ≤ 1 then .error .notFound
        else .ok ⟨if retSE then codabarGuardMap (toUpperByte g) :: (mid ++ [codabarGuardMap (toUpperByte l)]) else mid,
                  2 * lq, 2 * (lq + s * mods.length)⟩ := by
  have f := cbFacts T hT
  obtain ⟨g', mid', l', he, hg, hl, hmid⟩ := codabarFull_spec contents _ h
  obtain ⟨rfl, e2⟩ := List.cons.inj he
  obtain ⟨rfl, e3⟩ := List.append_inj' e2 rfl
  obtain rfl : l = l' := by simpa using e3
  exact ⟨_, codabarModules_chars T f contents g l mid h hg hl hmid,
    cbDecodeRow_core T f s hs hs31 (codabarGuardMap (toUpperByte g)) (codabarGuardMap (toUpperByte l)) mid
      (guard_mem _ hg) (guard_mem _ hl) hg hl
      (fun c hc => ⟨(mid_mem c (hmid c hc)).2, midOk_not_startEnd c (hmid c hc)⟩) retSE lq rq hlq hrq⟩

/-- Clause "Codabar: ≥ 2 data characters with every start/stop pair … is read by the matching reader as exactly that
    content", on the pixel-level row decoder: for EVERY table set satisfying the decidable `WFCbRow` (twenty distinct
    7-bit words, none with four wide bars or three wide spaces, over the standard alphabet), every content the writer
    model accepts (`codabarFull contents = ok full`: guards A-D / T N * E / lower case as supplied, or A…A added) with
    at least two data characters, every scale `1 ≤ s ≤ 2^31-1` and at least ONE white pixel on either side
    (`setCounters` starts at the first white pixel; `toNarrowWidePattern` needs a counter after the last bar),
    `setCounters`, `findStartPattern`, the character loop (`toNarrowWidePattern` with its per-parity thresholds),
    the trailing-white test, `validatePattern` (thresholds by exact arithmetic: all stripes are exact multiples),
    the start/stop and length rules return exactly the data characters between the guards, with result points at
    the left edge of the start character and the right edge of the stop character.
    The reader refuses symbols with fewer than two data characters (`codabar_row_short_refused`). -/
theorem codabar_row_read_write (T : Tables) (hT : WFCbRow T = true) (contents full : List Nat)
    (h : codabarFull contents = .ok full) (hlen : full.length > 3)
    (lq s rq : Nat) (hs : 0 < s) (hs31 : s ≤ 2147483647) (hlq : 0 < lq) (hrq : 0 < rq) :
    ∃ mods, codabarModules T contents = .ok mods ∧
      cbDecodeRow T false (paddedRow lq s rq mods) =
        .ok ⟨(full.drop 1).dropLast, 2 * lq, 2 * (lq + s * mods.length)⟩ := by
  obtain ⟨g, mid, l, rfl, _⟩ := codabarFull_spec contents full h
  obtain ⟨mods, hm, hdec⟩ := codabar_row_of_full T hT contents g l mid h false lq s rq hs hs31 hlq hrq
  refine ⟨mods, hm, ?_⟩
  rw [hdec, if_neg (by simp at hlen; omega)]
  simp

/-- with the hint RETURN_CODABAR_START_END the text includes the (upper-cased, A-D) guards -/
theorem codabar_row_read_write_with_guards (T : Tables) (hT : WFCbRow T = true) (contents : List Nat)
    (g l : Nat) (mid : List Nat) (h : codabarFull contents = .ok (g :: (mid ++ [l]))) (hlen : mid.length > 1)
    (lq s rq : Nat) (hs : 0 < s) (hs31 : s ≤ 2147483647) (hlq : 0 < lq) (hrq : 0 < rq) :
    ∃ mods, codabarModules T contents = .ok mods ∧
      cbDecodeRow T true (paddedRow lq s rq mods) =
        .ok ⟨codabarGuardMap (toUpperByte g) :: (mid ++ [codabarGuardMap (toUpperByte l)]), 2 * lq,
             2 * (lq + s * mods.length)⟩ := by
  obtain ⟨mods, hm, hdec⟩ := codabar_row_of_full T hT contents g l mid h true lq s rq hs hs31 hlq hrq
  exact ⟨mods, hm, by rw [hdec, if_neg (by omega)]; rfl⟩

/-- fewer than two data characters: written, but refused by the reader's `MIN_CHARACTER_LENGTH` rule — also at row level -/
theorem codabar_row_short_refused (T : Tables) (hT : WFCbRow T = true) (contents : List Nat)
    (g l : Nat) (mid : List Nat) (h : codabarFull contents = .ok (g :: (mid ++ [l]))) (hlen : mid.length ≤ 1)
    (retSE : Bool) (lq s rq : Nat) (hs : 0 < s) (hs31 : s ≤ 2147483647) (hlq : 0 < lq) (hrq : 0 < rq) :
    ∃ mods, codabarModules T contents = .ok mods ∧ cbDecodeRow T retSE (paddedRow lq s rq mods) = .error .notFound := by
  obtain ⟨mods, hm, hdec⟩ := codabar_row_of_full T hT contents g l mid h retSE lq s rq hs hs31 hlq hrq
  exact ⟨mods, hm, by rw [hdec, if_pos hlen]⟩

/-- non-vacuity and tie to the writer model: "12" (guards A…A added), "B1-$D" at scale 3, and a one-character symbol -/
example : (codabarModules refTables [49, 50]).map (fun m => (m.length, cbDecodeRow refTables false (paddedRow 1 1 1 m))) =
    .ok (41, .ok ⟨[49, 50], 2, 84⟩) := by decide +kernel
example : (codabarModules refTables [66, 49, 45, 36, 68]).map (fun m => (m.length, cbDecodeRow refTables false (paddedRow 2 3 1 m))) =
    .ok (51, .ok ⟨[49, 45, 36], 4, 310⟩) := by decide +kernel
example : (codabarModules refTables [49]).map (fun m => cbDecodeRow refTables false (paddedRow 2 3 1 m)) =
    .ok (.error .notFound) := by decide +kernel
/-- the white pixel in front is needed: without it the first bar is not counted -/
example : (codabarModules refTables [49, 50]).map (fun m => cbDecodeRow refTables false (paddedRow 0 1 1 m)) =
    .ok (.error .notFound) := by decide +kernel

/-- non-vacuity of the three table hypotheses: the reference tables (= the regenerated ones, Obligations) satisfy them -/
example : WF93Row refTables = true ∧ WF39Row refTables = true ∧ WFCbRow refTables = true :=
  ⟨WF93Row_ref, WF39Row_ref, WFCbRow_ref⟩

/-! ## accepted reads verify (C10 clause, row level) -/

/-- Clause (C10) "Readers never return a symbol whose check characters do not verify", on the Code 93 row-decoder
    model: whatever pixel row is given, a result is returned only for a character string `s` (data, C, K) that passed
    both `checkOneChecksum` tests; the text is the unescaped data part.  By inspection of the control flow. -/
theorem code93_row_result_verifies (T : Tables) (row : List Bool) (h : Hit) (hr : c93DecodeRow T row = .ok h) :
    ∃ s, 2 ≤ s.length ∧ c93CheckOne T.code93Alphabet s (s.length - 2) 20 = .ok () ∧
      c93CheckOne T.code93Alphabet s (s.length - 1) 15 = .ok () ∧
      OneDPost.c93Ext (s.take (s.length - 2)) [] = .ok h.text := by
  unfold c93DecodeRow at hr
  split at hr
  · cases hr
  · split at hr
    · cases hr
    · simp only [] at hr
      split at hr
      · cases hr
      · rename_i result lastStart lastSize next _
        split at hr
        · cases hr
        · cases hr
        · split at hr
          · cases hr
          · rename_i text hfin
            cases hr
            refine ⟨result, ?_⟩
            unfold c93Finish at hfin
            split at hfin
            · cases hfin
            · rename_i hlen
              split at hfin
              · cases hfin
              · rename_i h1
                split at hfin
                · cases hfin
                · rename_i h2
                  exact ⟨by omega, h1, h2, hfin⟩

/-- the same for Code 39 with `usingCheckDigit`: when a result is returned, some non-empty character string `s` passed
    the test "last character = `alphabet[Σ index mod 43]` of the characters before it".  In the proof `s` is the string
    the character loop read; the statement does not say so (it relates `s` neither to `row` nor to `h.text`). -/
theorem code39_row_result_verifies (T : Tables) (ext : Bool) (row : List Bool) (h : Hit)
    (hr : c39DecodeRow T true ext row = .ok h) :
    ∃ s last want, s ≠ [] ∧ nth s (s.length - 1) = .ok last ∧
      OneDPost.alphaAt T.code39Alphabet (Int.tmod (OneDPost.sumIdx T.code39Alphabet (s.take (s.length - 1))) 43) = .ok want ∧
      last = want := by
  unfold c39DecodeRow at hr
  split at hr
  · cases hr
  · simp only [] at hr
    split at hr
    · cases hr
    · rename_i result lastStart lastSize next _
      split at hr
      · cases hr
      · split at hr
        · cases hr
        · rename_i text hfin
          unfold c39Finish at hfin
          split at hfin
          · cases hfin
          · rename_i hlen
            simp only [if_true] at hfin
            split at hfin
            · cases hfin
            · rename_i s' hs'
              split at hs'
              · cases hs'
              · cases hs'
              · rename_i last want hl hw
                split at hs'
                · cases hs'
                · rename_i heq
                  exact ⟨result, last, want, by intro e; apply hlen; rw [e]; rfl, hl, hw, by simpa using heq⟩

end Gzx.Properties.C03Row39
