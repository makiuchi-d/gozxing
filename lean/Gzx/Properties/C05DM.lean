/-
  C05 — Data Matrix half: damaged symbols decode exactly (block-error tolerance), FULL.
  Property theorems only; helper lemmas in Gzx/Proofs/DMCompose.lean (block view of a codeword stream, the glue
  of decoder.go) on top of C08 (reference symbol, low-level decoder chain, "reference blocks are RS code words")
  and C04 (`rs_corrects_received`, proved in full).

  Fault model: the damaged symbol is the symbol that CARRIES an arbitrary byte stream `raw` of the symbol's total
  codeword count (`DMRef.symbolOfCodewords`: Annex-F placement of `raw` + finder/clock framing) — i.e. any set
  of codewords of the reference symbol replaced by arbitrary bytes, the function patterns intact.  Block `b` of a
  stream consists of the codewords at positions `p ≡ b (mod B)` in stream order (`DMProofs.blockOfStream`, the
  standard's interleaving rule; for 144x144 this gives the 8 blocks of 156 and 2 of 155 data codewords with the
  error codewords starting in block 9), and "at most t codewords of block b replaced" is
  `hamming (block b of reference stream) (block b of raw) ≤ t`.
-/
import Gzx.Proofs.DMCompose
import Gzx.Proofs.DMRoundTripGen
import Gzx.Proofs.DMBytesAll
namespace Gzx.Properties.C05DM
open Gzx Gzx.DMRef Gzx.DMProofs Gzx.DMHighLevel Gzx.Properties.C04

/-- the block view is what the decoder computes: for each of the 30 sizes (144x144 = version 24 with its special
    branch included) and EVERY codeword stream of the symbol's length, DataBlocks_getDataBlocks returns, per
    block `b`, its data count and the codewords at the stream positions `≡ b (mod B)` in stream order -/
theorem dm_deinterleave_is_block_view : ∀ p ∈ table7.zipIdx, ∀ raw : List Nat, raw.length = p.1.total →
    DMDec.getDataBlocks raw (DMDec.ofSym (p.2 + 1) p.1) =
      .ok ((List.range p.1.blocks).map (fun b => (p.1.dataLen b, blockOfStream p.1 raw b))) := by
  intro p hp raw hl
  exact getDataBlocks_stream (p.2 + 1) p.1 (Gzx.Properties.C08.ecc_interleave_index_facts p hp) raw hl

/-- block `b` of the reference codeword sequence is `data_b ++ ecc_b` — a code word of C04's Reed-Solomon code
    (zero syndromes at 2^1 … 2^blkErr), non-empty, of length ≤ 255 -/
theorem dm_reference_block_view : ∀ p ∈ table7.zipIdx, ∀ d : List Nat, d.length = p.1.nData →
    (∀ x ∈ d, x < 256) → ∀ b, b < p.1.blocks →
    blockOfStream p.1 (codewords p.1 d) b = blockData p.1 d b ++ blockEcc p.1 d b ∧
    ZeroSyndromes GF.dataMatrix256 (blockOfStream p.1 (codewords p.1 d) b) p.1.blkErr := by
  intro p hp d hd hb b hbB
  have hs := Gzx.Properties.C08.zipIdx_mem_table7 p hp
  have R := RowOK.of_mem hs
  have e : _ = blockData p.1 d b ++ blockEcc p.1 d b := blockOfStream_blockOf p.1 R.hB R.hBn R.hE d hd b hbB
  refine ⟨e, ?_⟩
  rw [e]
  exact (block_is_codeword p.1 hs d hd hb b hbB).2.2.2.2.1

/-- one damaged block: any byte word of the block's length within ⌊blkErr/2⌋ positions of the reference block is
    restored by the Reed-Solomon decoder model (C04 `rs_corrects_received`) -/
theorem dm_block_corrected : ∀ s ∈ table7, ∀ d : List Nat, d.length = s.nData → (∀ x ∈ d, x < 256) →
    ∀ b, b < s.blocks → ∀ v : List Nat, v.length = s.dataLen b + s.blkErr → (∀ x ∈ v, x < 256) →
    2 * hamming (blockData s d b ++ blockEcc s d b) v ≤ s.blkErr →
    RS.decode GF.dataMatrix256 v s.blkErr = .ok (blockData s d b ++ blockEcc s d b) :=
  fun s hs d hd hb b hbB v hvl hvb hdist => block_corrected s hs d hd hb b hbB v hvl hvb hdist

/-- **Clause "up to floor(ec/2) corrupted codewords of every Reed-Solomon block … still decodes to exactly the
    original", Data Matrix, codeword level — FULL.**  For each of the 30 ECC-200 sizes, every data codeword
    vector `d` (bytes) of the symbol's capacity and EVERY byte stream `raw` of the symbol's total length that
    differs from the reference codeword sequence of `d` in at most ⌊blkErr/2⌋ positions of every interleaved
    block: the decoder chain (version by dimensions, data-region extraction, codeword reading, de-interleaving,
    Reed-Solomon correction of each block with C04's decoder model, de-interlacing copy) applied to the symbol
    carrying `raw` reads `raw`, splits it into the damaged blocks, corrects every block to the reference block
    and returns exactly `d`. -/
theorem dm_tolerates_block_errors_codewords : ∀ p ∈ table7.zipIdx, ∀ d : List Nat, d.length = p.1.nData →
    (∀ x ∈ d, x < 256) → ∀ raw : List Nat, raw.length = p.1.total → (∀ x ∈ raw, x < 256) →
    (∀ b, b < p.1.blocks →
      2 * hamming (blockOfStream p.1 (codewords p.1 d) b) (blockOfStream p.1 raw b) ≤ p.1.blkErr) →
    (∃ v grid blocks,
      DMDec.newBitMatrixParser DMDec.versions ⟨p.1.cols, p.1.rows, (symbolOfCodewords p.1 raw).flatten.toArray⟩
        = .ok (v, grid) ∧
      DMDec.readCodewords v grid = .ok raw ∧
      DMDec.getDataBlocks raw v = .ok blocks ∧
      (∀ b, b < p.1.blocks → ∃ nb, blocks[b]? = some nb ∧
        RS.decode GF.dataMatrix256 nb.2 (nb.2.length - nb.1) = .ok (blockData p.1 d b ++ blockEcc p.1 d b)) ∧
      DMDec.decodeCodewordBlocks blocks = .ok d) ∧
    DMDec.decodeMatrixBytes ⟨p.1.cols, p.1.rows, (symbolOfCodewords p.1 raw).flatten.toArray⟩ = .ok d := by
  intro p hp d hd hb raw hl hrb hdist
  have hs := Gzx.Properties.C08.zipIdx_mem_table7 p hp
  have R := RowOK.of_mem hs
  obtain ⟨h1, h2, h3⟩ := chain_of_stream p hp raw hl hrb
  have hdist' : ∀ b, b < p.1.blocks →
      2 * hamming (blockData p.1 d b ++ blockEcc p.1 d b) (blockOfStream p.1 raw b) ≤ p.1.blkErr := by
    intro b hbB
    rw [← show _ = blockData p.1 d b ++ blockEcc p.1 d b from blockOfStream_blockOf p.1 R.hB R.hBn R.hE d hd b hbB]
    exact hdist b hbB
  refine ⟨⟨_, _, _, h1, h2, h3, ?_, ?_⟩, decodeMatrixBytes_tolerates p hp d hd hb raw hl hrb hdist⟩
  · intro b hbB
    refine ⟨(p.1.dataLen b, blockOfStream p.1 raw b), ?_, ?_⟩
    · rw [List.getElem?_map, List.getElem?_range hbB]; rfl
    · have hlen := blockOfStream_length p.1 R.hB R.hE raw hbB
      simp only
      have hr : (blockOfStream p.1 raw b).length - p.1.dataLen b = p.1.blkErr := by rw [hlen]; omega
      rw [hr]
      exact block_corrected p.1 hs d hd hb b hbB _ hlen (blockOfStream_bytes p.1 raw b hrb) (hdist' b hbB)
  · exact decodeCodewordBlocks_corrects p hp d hd hb (blockOfStream p.1 raw)
      (fun b hbB => blockOfStream_length p.1 R.hB R.hE raw hbB)
      (fun b _ => blockOfStream_bytes p.1 raw b hrb) hdist'

/-! ## faults given as a list of (stream position, new byte) -/

/-- **The same clause with the faults given explicitly** as a list of (stream position, replacement byte): if at
    most ⌊blkErr/2⌋ of the listed positions fall into each interleaved block, the decoder chain applied to the
    symbol carrying the damaged stream returns exactly `d`. -/
theorem dm_tolerates_block_errors_faults : ∀ p ∈ table7.zipIdx, ∀ d : List Nat, d.length = p.1.nData →
    (∀ x ∈ d, x < 256) → ∀ fs : List (Nat × Nat), (∀ f ∈ fs, f.2 < 256) →
    (∀ b, b < p.1.blocks → 2 * faultsInBlock p.1 fs b ≤ p.1.blkErr) →
    DMDec.decodeMatrixBytes
      ⟨p.1.cols, p.1.rows, (symbolOfCodewords p.1 (applyFaults (codewords p.1 d) fs)).flatten.toArray⟩ = .ok d := by
  intro p hp d hd hb fs hfb hcount
  have hs := Gzx.Properties.C08.zipIdx_mem_table7 p hp
  have R := RowOK.of_mem hs
  apply decodeMatrixBytes_tolerates p hp d hd hb
  · rw [applyFaults_length]; exact codewords_length p.1 d hd
  · exact applyFaults_bytes _ _ (codewords_bytes p.1 d hb) hfb
  · intro b hbB
    have := hamming_applyFaults_le p.1 R.hB R.hE b hbB fs (codewords p.1 d)
    have := hcount b hbB
    omega

/-- **Text level**: a message encoded by `encodeHL` (oracle conditions of C02's
    round trip), placed in the symbol whose capacity equals the codeword count, then damaged in at most
    ⌊blkErr/2⌋ codewords of every interleaved block, is decoded by `Decoder.Decode` (model) to exactly the
    message.  The Reed-Solomon and low-level parts carry no hypothesis; the hypotheses on the look-ahead oracle
    are those of `C02.dm_roundtrip_five_modes_partial`. -/
theorem dm_tolerates_block_errors (syms : List SymbolInfo) (la : LookAhead) (msg : List Nat) (cfg : Cfg)
    (cw : List Nat) (hNoE : LaNoEdifact la)
    (hTA : LaTailAscii la msg (initCtx msg cfg).total) (hXT : LaX12Tail la msg (initCtx msg cfg).total)
    (hb : ∀ x ∈ msg, x < 256) (h : encodeHL syms la msg cfg = .ok cw)
    (p : Sym × Nat) (hp : p ∈ table7.zipIdx) (hn : cw.length = p.1.nData)
    (raw : List Nat) (hl : raw.length = p.1.total) (hrb : ∀ x ∈ raw, x < 256)
    (hdist : ∀ b, b < p.1.blocks →
      2 * hamming (blockOfStream p.1 (codewords p.1 cw) b) (blockOfStream p.1 raw b) ≤ p.1.blkErr) :
    DMDec.decodeMatrix refTables ⟨p.1.cols, p.1.rows, (symbolOfCodewords p.1 raw).flatten.toArray⟩ = .ok msg := by
  have hcwb := encodeHL_bytes_all syms la msg cfg cw hb h
  unfold DMDec.decodeMatrix
  rw [decodeMatrixBytes_tolerates p hp cw hn hcwb raw hl hrb hdist]
  exact roundtrip_gen syms la msg cfg cw hNoE hTA hXT hb h

/-! ## non-vacuity -/

/-- "A12" in 10x10: reference stream, two damaged codewords (⌊5/2⌋ = 2), and the model decoder restores them -/
example : codewords (table7.getD 0 default) [66, 142, 129] = [66, 142, 129, 170, 115, 225, 118, 63] := by
  decide +kernel
example : hamming (blockOfStream (table7.getD 0 default) [66, 142, 129, 170, 115, 225, 118, 63] 0)
    (blockOfStream (table7.getD 0 default) [66, 0, 129, 170, 255, 225, 118, 63] 0) = 2 := by decide +kernel
example : RS.decode GF.dataMatrix256 [66, 0, 129, 170, 255, 225, 118, 63] 5
    = .ok [66, 142, 129, 170, 115, 225, 118, 63] := by decide +kernel
example : applyFaults [66, 142, 129, 170, 115, 225, 118, 63] [(1, 0), (4, 255)]
    = [66, 0, 129, 170, 255, 225, 118, 63] := by decide
/-- 144x144: block 8 (the ninth) owns stream positions 8, 18, … and the FIRST error codeword (position 1558) -/
example : (blockPositions (table7.getD 23 default) 8).take 2 = [8, 18] ∧
    (blockPositions (table7.getD 23 default) 8)[155]? = some 1558 ∧
    (blockPositions (table7.getD 23 default) 8).length = 155 + 62 := by decide +kernel

end Gzx.Properties.C05DM
