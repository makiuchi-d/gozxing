/-
  C20 — 1-D run-length primitives obey their contract at every scale.
  The property's theorems, with the three arithmetic facts about the deviation sums they need (`devs_scale`,
  `devs_multiple`, `sumL_zero_of_all_zero`); the lemmas about `runs` and the variance are in Gzx/Proofs/RunLength.lean.
  The row readers' proofs build on `recordPattern_eq_runs`, `pmv_formula` and `devs_multiple` (Proofs/RunBoundary.lean).
  Model: Gzx/Model/RunLength.lean (tied to oned/oned_reader.go by the `c20` correspondence suite).
-/
import Gzx.Proofs.RunLength
namespace Gzx.Properties.C20
open Gzx Gzx.RunLength

/-- RecordPattern returns exactly the first `n` maximal same-colour run lengths from `start`
    (the last one possibly cut by the end of the row), or NotFound when the row ends first —
    for every row, every start offset and every counter count `n ≥ 1`. -/
theorem recordPattern_eq_runs (row : List Bool) (start n : Nat) (hn : 0 < n) :
    recordPattern row start n =
      (let rs := runs (row.drop start)
       if rs.length ≥ n then .ok (rs.take n) else .error .notFound) := by
  unfold recordPattern
  have hn' : ¬ n = 0 := by omega
  simp only [hn', if_false]
  cases hd : row.drop start with
  | nil => simp [runs]; omega
  | cons b bs =>
    simp only [runs]
    rw [rpLoop_spec n bs b [] 1 (by simpa using hn)]
    simp only [List.length_nil, Nat.zero_add, List.nil_append]
    by_cases h1 : (runsAux bs b 1).length > n
    · have : (runsAux bs b 1).length ≥ n := by omega
      simp [h1, this]
    · simp only [h1, if_false]
      by_cases h2 : (runsAux bs b 1).length = n
      · have : (runsAux bs b 1).take n = runsAux bs b 1 := List.take_of_length_le (by omega)
        simp [h2, this]
      · have : ¬ (runsAux bs b 1).length ≥ n := by omega
        simp [h2, this]

/-- never a panic for n ≥ 1 -/
theorem recordPattern_total (row : List Bool) (start n : Nat) (hn : 0 < n) :
    ∀ w, recordPattern row start n ≠ .error (.panic w) := by
  intro w
  rw [recordPattern_eq_runs row start n hn]
  simp only
  split <;> simp

/-- reverse recording is forward recording from the position found by walking back -/
theorem recordPatternInReverse_is_forward (row : List Bool) (start n : Nat) (hs : start < row.length)
    (cs : List Nat) (h : recordPatternInReverse row start n = .ok cs) :
    ∃ s, s ≤ start ∧ recordPattern row (s + 1) n = .ok cs := by
  unfold recordPatternInReverse at h
  have : ¬ start ≥ row.length := by omega
  simp only [this, if_false] at h
  generalize hrs : revScan (getBit row) (start + 1) start (getBit row start) (Int.ofNat n) = r at h
  obtain ⟨s, left⟩ := r
  simp only at h
  split at h
  · cases h
  · refine ⟨s, ?_, h⟩
    -- revScan never increases `start`
    have key : ∀ fuel st last l, (revScan (getBit row) fuel st last l).1 ≤ st := by
      intro fuel
      induction fuel with
      | zero => intro st last l; simp [revScan]
      | succ f ih =>
        intro st last l
        unfold revScan
        split
        · dsimp only
          split
          · exact Nat.le_trans (ih _ _ _) (Nat.sub_le _ _)
          · exact Nat.le_trans (ih _ _ _) (Nat.sub_le _ _)
        · exact Nat.le_refl _
    have := key (start + 1) start (getBit row start) (Int.ofNat n)
    rw [hrs] at this
    exact this

/-! ### PatternMatchVariance -/

/-- fewer pixels than pattern modules ⇒ +Inf -/
theorem pmv_inf_underresolved (c p : List Nat) (a b : Nat) (hl : c.length ≤ p.length)
    (h : sumL c < sumL (p.take c.length)) :
    patternMatchVariance c p a b = .ok none := by
  unfold patternMatchVariance
  have : ¬ p.length < c.length := by omega
  simp [this, h]

/-- some run deviates by more than the allowed individual variance ⇒ +Inf -/
theorem pmv_inf_individual (c p : List Nat) (a b : Nat) (hl : c.length ≤ p.length)
    (d : Nat) (hd : d ∈ devs (sumL c) (sumL (p.take c.length)) c (p.take c.length))
    (hbig : b * d > a * sumL c) :
    patternMatchVariance c p a b = .ok none := by
  unfold patternMatchVariance
  have h0 : ¬ p.length < c.length := by omega
  simp only [h0, if_false]
  split
  · rfl
  · have : (devs (sumL c) (sumL (p.take c.length)) c (p.take c.length)).any
        (fun d => decide (b * d > a * sumL c)) = true := by
      rw [List.any_eq_true]; exact ⟨d, hd, by simpa using hbig⟩
    simp [this]

/-- otherwise the score is Σ|c_i − p_i·T/P| / T, i.e. the fraction (Σ|c_i·P − p_i·T|) / (P·T) -/
theorem pmv_formula (c p : List Nat) (a b : Nat) (hl : c.length ≤ p.length)
    (hres : sumL (p.take c.length) ≤ sumL c)
    (hall : ∀ d ∈ devs (sumL c) (sumL (p.take c.length)) c (p.take c.length), b * d ≤ a * sumL c) :
    patternMatchVariance c p a b =
      .ok (some (sumL (devs (sumL c) (sumL (p.take c.length)) c (p.take c.length)),
                 sumL (p.take c.length) * sumL c)) := by
  unfold patternMatchVariance
  have h0 : ¬ p.length < c.length := by omega
  have h1 : ¬ sumL c < sumL (p.take c.length) := by omega
  simp only [h0, h1, if_false]
  have : (devs (sumL c) (sumL (p.take c.length)) c (p.take c.length)).any
      (fun d => decide (b * d > a * sumL c)) = false := by
    rw [List.any_eq_false]
    intro d hd
    have := hall d hd
    simp; omega
  simp [this]

theorem devs_scale (k T P : Nat) (c p : List Nat) :
    devs (k * T) P (c.map (k * ·)) p = (devs T P c p).map (k * ·) := by
  induction c generalizing p with
  | nil => simp [devs]
  | cons x xs ih =>
    cases p with
    | nil => simp [devs]
    | cons y ys =>
      simp only [devs, List.map_cons, ih]
      congr 1
      have e1 : k * x * P = k * (x * P) := Nat.mul_assoc _ _ _
      have e2 : y * (k * T) = k * (y * T) := by
        rw [← Nat.mul_assoc, Nat.mul_comm y k, Nat.mul_assoc]
      rw [e1, e2, absDiff_mul]

theorem devs_multiple (k P : Nat) (p : List Nat) :
    ∀ d ∈ devs (k * P) P (p.map (k * ·)) p, d = 0 := by
  induction p with
  | nil => simp [devs]
  | cons y ys ih =>
    intro d hd
    simp only [List.map_cons, devs, List.mem_cons] at hd
    cases hd with
    | inl h =>
      rw [h]
      have : k * y * P = y * (k * P) := by
        rw [Nat.mul_comm k y, Nat.mul_assoc]
      rw [this, absDiff_self]
    | inr h => exact ih d h

theorem sumL_zero_of_all_zero (xs : List Nat) (h : ∀ d ∈ xs, d = 0) : sumL xs = 0 := by
  induction xs with
  | nil => simp [sumL]
  | cons x xs ih =>
    have hx : x = 0 := h x (by simp)
    have := ih (fun d hd => h d (by simp [hd]))
    simp only [sumL, List.foldr_cons] at this ⊢
    omega

/-- an exact integer multiple `k ≥ 1` of the pattern scores zero, whatever the variance limit -/
theorem pmv_zero_on_multiple (p : List Nat) (k a b : Nat) (hk : 0 < k) :
    ∃ den, patternMatchVariance (p.map (k * ·)) p a b = .ok (some (0, den)) := by
  have hlen : (p.map (k * ·)).length = p.length := by simp
  have htake : p.take (p.map (k * ·)).length = p := by simp
  have hT : sumL (p.map (k * ·)) = k * sumL p := sumL_map_mul k p
  refine ⟨sumL p * (k * sumL p), ?_⟩
  have hz := devs_multiple k (sumL p) p
  have := pmv_formula (p.map (k * ·)) p a b (by simp)
    (by rw [htake, hT]; exact Nat.le_mul_of_pos_left _ hk)
    (by
      rw [htake, hT]
      intro d hd
      rw [hz d hd]; simp)
  rw [this, htake, hT, sumL_zero_of_all_zero _ hz]

/-- scaling every observed run by `k > 0` does not change the score (as a rational number:
    `num' · den = num · den'`), nor whether it is +Inf — provided the unscaled observation is not
    under-resolved (that case is +Inf by `pmv_inf_underresolved`, and scaling can lift it out). -/
theorem pmv_scale_invariant (c p : List Nat) (k a b : Nat) (hk : 0 < k) (hl : c.length ≤ p.length)
    (hres : sumL (p.take c.length) ≤ sumL c) :
    match patternMatchVariance c p a b, patternMatchVariance (c.map (k * ·)) p a b with
    | .ok none, .ok none => True
    | .ok (some (n, d)), .ok (some (n', d')) => n' * d = n * d'
    | _, _ => False := by
  have hlen : (c.map (k * ·)).length = c.length := by simp
  have hT : sumL (c.map (k * ·)) = k * sumL c := sumL_map_mul k c
  have hres' : sumL (p.take (c.map (k * ·)).length) ≤ sumL (c.map (k * ·)) := by
    rw [hlen, hT]
    exact Nat.le_trans hres (Nat.le_mul_of_pos_left _ hk)
  by_cases hall : ∀ d ∈ devs (sumL c) (sumL (p.take c.length)) c (p.take c.length), b * d ≤ a * sumL c
  · rw [pmv_formula c p a b hl hres hall]
    have hall' : ∀ d ∈ devs (sumL (c.map (k * ·))) (sumL (p.take (c.map (k * ·)).length))
        (c.map (k * ·)) (p.take (c.map (k * ·)).length), b * d ≤ a * sumL (c.map (k * ·)) := by
      rw [hlen, hT, devs_scale]
      intro d hd
      rw [List.mem_map] at hd
      obtain ⟨d0, hd0, rfl⟩ := hd
      have := hall d0 hd0
      calc b * (k * d0) = k * (b * d0) := by rw [← Nat.mul_assoc, Nat.mul_comm b k, Nat.mul_assoc]
        _ ≤ k * (a * sumL c) := Nat.mul_le_mul_left k this
        _ = a * (k * sumL c) := by rw [← Nat.mul_assoc, Nat.mul_comm k a, Nat.mul_assoc]
    rw [pmv_formula (c.map (k * ·)) p a b (by simpa using hl) hres' hall']
    simp only
    rw [hlen, hT, devs_scale, sumL_map_mul]
    generalize sumL (devs (sumL c) (sumL (p.take c.length)) c (p.take c.length)) = N
    generalize sumL (p.take c.length) = P
    generalize sumL c = T
    calc k * N * (P * T) = N * (k * (P * T)) := by rw [Nat.mul_comm k N, Nat.mul_assoc]
      _ = N * (P * (k * T)) := by rw [Nat.mul_left_comm k P T]
  · have hex : ∃ d ∈ devs (sumL c) (sumL (p.take c.length)) c (p.take c.length), b * d > a * sumL c := by
      apply Classical.byContradiction
      intro hne
      apply hall
      intro d hd
      apply Classical.byContradiction
      intro hgt
      exact hne ⟨d, hd, by omega⟩
    obtain ⟨d, hd, hbig⟩ := hex
    rw [pmv_inf_individual c p a b hl d hd hbig]
    have hd' : k * d ∈ devs (sumL (c.map (k * ·))) (sumL (p.take (c.map (k * ·)).length))
        (c.map (k * ·)) (p.take (c.map (k * ·)).length) := by
      rw [hlen, hT, devs_scale]
      exact List.mem_map_of_mem hd
    have hbig' : b * (k * d) > a * sumL (c.map (k * ·)) := by
      rw [hT]
      calc a * (k * sumL c) = k * (a * sumL c) := by rw [Nat.mul_left_comm]
        _ < k * (b * d) := Nat.mul_lt_mul_of_pos_left hbig hk
        _ = b * (k * d) := by rw [Nat.mul_left_comm]
    rw [pmv_inf_individual (c.map (k * ·)) p a b (by simpa using hl) (k * d) hd' hbig']
    trivial

/-- the score never panics when the pattern is at least as long as the counters -/
theorem pmv_total (c p : List Nat) (a b : Nat) (hl : c.length ≤ p.length) :
    ∃ r, patternMatchVariance c p a b = .ok r := by
  unfold patternMatchVariance
  have : ¬ p.length < c.length := by omega
  simp only [this, if_false]
  split
  · exact ⟨_, rfl⟩
  · split <;> exact ⟨_, rfl⟩

/-! ### non-vacuity: concrete instances meeting the hypotheses -/
example : recordPattern [false, false, true, true, true, false] 1 3 = .ok [1, 3, 1] := by decide
example : recordPattern [false, false, true] 0 3 = .error .notFound := by decide
example : patternMatchVariance [2, 2, 2] [1, 1, 1] 7 10 = .ok (some (0, 18)) := by decide
example : patternMatchVariance [1, 1, 1] [2, 2, 2] 7 10 = .ok none := by decide   -- D7 witness
example : patternMatchVariance [2, 3, 2] [1, 1, 1] 7 10 = .ok (some (4, 21)) := by decide
example : patternMatchVariance [1, 5, 1] [1, 1, 1] 7 10 = .ok none := by decide

end Gzx.Properties.C20
