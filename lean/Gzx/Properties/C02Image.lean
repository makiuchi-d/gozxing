/-
  C02 — Data Matrix, clause "… or the rendered image read in pure-barcode mode, returns exactly that text".
  The property theorems, and what they need of the reference symbol: the finder facts of its frame (`DMFinderFacts`,
  `symModule_finder` over the evaluated `frameOK`).  The image-level proofs are in Gzx/Proofs/Image2D.lean (geometry of
  the read-off), Gzx/Proofs/Image2DBin.lean (image → luminance → binariser, from C17) and Gzx/Proofs/Image2DGlobal.lean
  (the global fallback; `read_shows` / `read_refused`).

  The chain, every link a model tied to /repo by its own correspondence suite, composed in Gzx/Model/ImagePath2D.lean
  and tied as a whole by the `img2d dm` commands (harness/zz_imgpath2d_dm.go):

    text → EncodeHighLevel → reference symbol (C08)                       dm_symbol_roundtrip (C02Full)
         → convertByteMatrixToBitMatrix(matrix, width, height)            C14 renderDM_* (both size branches)
         → BitMatrix as image.Image → NewLuminanceSourceFromImage → HybridBinarizer.GetBlackMatrix   C17
         → DataMatrixReader.Decode(PURE_BARCODE): extractPureBits (integer moduleSize) → Decoder.Decode

  Image-size conditions imposed by the binarisers: from 40x40 pixels up the local method is used and the result is
  unconditional; below 40 pixels in either dimension the global histogram method may answer NotFound (which the Data
  Matrix reader wraps into a ReaderException) — then, and only then, the image is not read; it is never misread.
-/
import Gzx.Proofs.Image2D
import Gzx.Proofs.Image2DBin
import Gzx.Proofs.Image2DGlobal
import Gzx.Properties.C14
import Gzx.Properties.C02Full
import Gzx.Properties.C06PureRead
namespace Gzx.Properties.C02Image
open Gzx Gzx.Det Gzx.Det.Pure Gzx.Render Gzx.Image2D Gzx.ImagePath
open Gzx.Properties.C14 (dmScale dmOut renderDM_quiet renderDM_eq)
open Gzx.Properties.C06PureRead (toGrid)

/-! ## `extractPureBits` on a rendered symbol is the module matrix -/

/-- What the code uses of the symbol (datamatrix_reader.go): module (0,0) dark — `GetTopLeftOnBit` finds the
    symbol's corner; module (1,0) light — the run `moduleSize` measures along the top row ends after one module
    (the alternating track); module (mw-1, mh-1) dark — `GetBottomRightOnBit` finds the opposite corner (the solid
    bottom row of the "L"); at least two columns. -/
structure DMFinderFacts (mw mh : Nat) (m : Nat → Nat → Bool) : Prop where
  cols : 2 ≤ mw
  rows : 1 ≤ mh
  topLeft : m 0 0 = true
  track : m 1 0 = false
  bottomRight : m (mw - 1) (mh - 1) = true

/-- the Data Matrix rendering of `m` shows `m` (C14, both size branches) -/
theorem renderDM_shows (mw mh : Nat) (m : Nat → Nat → Bool) (reqW reqH : Int) (hw : 1 ≤ mw) (hh : 1 ≤ mh) :
    ∃ img, renderDM mw mh m reqW reqH = .ok img ∧
      img.w = dmOut mw mh reqW reqH reqW mw ∧ img.h = dmOut mw mh reqW reqH reqH mh ∧
      Shows (bitImage img) mw mh m (dmScale mw mh reqW reqH) (padOf img.w mw (dmScale mw mh reqW reqH))
        (padOf img.h mh (dmScale mw mh reqW reqH)) := by
  obtain ⟨hs1, f1, f2, -, p1, p2, c1, c2, c3, c4⟩ := renderDM_quiet mw mh reqW reqH hw hh
  exact ⟨_, renderDM_eq mw mh m reqW reqH hw hh, rfl, rfl,
    grid_shows mw mh m _ _ _ _ _ hs1 p1 p2 (by omega) (by omega)⟩

/-- for the C14 rendering (`convertByteMatrixToBitMatrix`, any requested width and
    height: scaled and centred when the symbol fits, the bare symbol otherwise) of ANY module matrix with the three
    finder facts the code uses, `extractPureBits` returns exactly the module matrix: dimensions `mw x mh`, cell
    `(i, j)` = module `(i, j)`.  Holds for the code as it is (`rdGo`) and with an unguarded `Get` (`rdStrict`). -/
theorem dm_extractPureBits_rendered (mw mh : Nat) (m : Nat → Nat → Bool) (reqW reqH : Int)
    (hm : DMFinderFacts mw mh m) :
    ∃ img, renderDM mw mh m reqW reqH = .ok img ∧
      DM.extractPureBits (bitImage img).rdGo (bitImage img) = .ok { w := mw, h := mh, rows := matrixRows mw mh m } ∧
      DM.extractPureBits (bitImage img).rdStrict (bitImage img) = .ok { w := mw, h := mh, rows := matrixRows mw mh m } := by
  obtain ⟨img, himg, _, _, hs⟩ := renderDM_shows mw mh m reqW reqH (by have := hm.cols; omega) hm.rows
  exact ⟨img, himg,
    dm_extract_shows hs (reads_rdGo _) hm.cols hm.rows hm.topLeft hm.track hm.bottomRight,
    dm_extract_shows hs (reads_rdStrict _) hm.cols hm.rows hm.topLeft hm.track hm.bottomRight⟩

/-- **the pure-barcode image path IS the matrix path** — for ANY module matrix with the three finder facts (a symbol
    of any encoder, also a damaged one), any requested size (both renderer branches), any matrix decoder `decode`:
    rendering, handing the BitMatrix over as an image, binarising and reading with PURE_BARCODE gives exactly what
    `decode` gives on the module matrix itself (result or fault) whenever the image is at least 40x40 pixels or one of
    the pixels the global method samples is white; in every case that, or the binariser's NotFound wrapped as
    ReaderException. -/
theorem dm_image_path_eq_matrix_path {α : Type} (mw mh : Nat) (m : Nat → Nat → Bool) (reqW reqH : Int)
    (hm : DMFinderFacts mw mh m) (decode : Bits → Res α) :
    ∃ img, renderDM mw mh m reqW reqH = .ok img ∧
      img.w = dmOut mw mh reqW reqH reqW mw ∧ img.h = dmOut mw mh reqW reqH reqH mh ∧
      (40 ≤ img.w ∧ 40 ≤ img.h ∨ WhiteSample img →
        dmImagePath mw mh m reqW reqH decode = liftRes (decode { w := mw, h := mh, rows := matrixRows mw mh m })) ∧
      (dmImagePath mw mh m reqW reqH decode = liftRes (decode { w := mw, h := mh, rows := matrixRows mw mh m }) ∨
        dmImagePath mw mh m reqW reqH decode = .error (.reader .notFound)) := by
  have hw1 : 1 ≤ mw := by have := hm.cols; omega
  obtain ⟨img, himg, ew, eh, hS⟩ := renderDM_shows mw mh m reqW reqH hw1 hm.rows
  obtain ⟨a, b⟩ := read_shows hS hw1 hm.rows .reader (fun bm => DM.extractPureBits bm.rdGo bm) _
    (fun bm h => dm_extract_shows h (reads_rdGo _) hm.cols hm.rows hm.topLeft hm.track hm.bottomRight) decode
  simp only [dmImagePath, himg, dmRead_eq]
  exact ⟨img, rfl, ew, eh, a, b⟩

/-- … and the condition is exact: below 40 pixels on an axis and with NO white pixel among the sampled ones the image is
    refused — the binariser's NotFound wrapped as ReaderException — whatever the symbol -/
theorem dm_image_path_refused {α : Type} (mw mh : Nat) (m : Nat → Nat → Bool) (reqW reqH : Int)
    (hw : 1 ≤ mw) (hh : 1 ≤ mh) (decode : Bits → Res α) :
    ∀ img, renderDM mw mh m reqW reqH = .ok img → (img.w < 40 ∨ img.h < 40) → ¬ WhiteSample img →
      dmImagePath mw mh m reqW reqH decode = .error (.reader .notFound) := by
  intro img himg hsmall hno
  obtain ⟨img', himg', -, -, hS⟩ := renderDM_shows mw mh m reqW reqH hw hh
  rw [himg] at himg'; cases himg'
  obtain ⟨hW, hH⟩ := hS.dims_pos hw hh
  simp only [dmImagePath, himg, dmRead_eq]
  exact read_refused img hW hH _ _ decode hsmall hno

/-! ## the composed image round trip -/

/-- module (column `i`, row `j`) of the symbol (C08 framing and placement) that carries the full codeword sequence
    `full` (data + error codewords, possibly damaged) -/
def symModule (s : DMRef.Sym) (full : List Nat) : Nat → Nat → Bool := fun i j =>
  DMRef.symbolModule s (DMRef.mappingBits s.mapRows s.mapCols full) j i

/-- … of the reference symbol for the data codewords `d` -/
def refModule (s : DMRef.Sym) (d : List Nat) : Nat → Nat → Bool := symModule s (DMRef.codewords s d)

theorem symModule_rows (s : DMRef.Sym) (full : List Nat) :
    matrixRows s.cols s.rows (symModule s full) = DMRef.symbolOfCodewords s full := rfl

theorem refModule_rows (s : DMRef.Sym) (d : List Nat) :
    matrixRows s.cols s.rows (refModule s d) = DMRef.symbolBits s d := rfl

/-- the framing facts of Table 7 that make the symbol's corners what the reader expects -/
def frameOK (s : DMRef.Sym) : Bool :=
  decide (2 ≤ s.cols) && decide (1 ≤ s.rows) && decide ((s.rows - 1) % (s.regRows + 2) = s.regRows + 1) &&
  decide (1 < s.regCols + 2)

theorem table7_frameOK : DMRef.table7.all frameOK = true := by decide

theorem symModule_finder (s : DMRef.Sym) (hs : s ∈ DMRef.table7) (full : List Nat) :
    DMFinderFacts s.cols s.rows (symModule s full) := by
  have h := List.all_eq_true.1 table7_frameOK s hs
  simp only [frameOK, Bool.and_eq_true, decide_eq_true_eq] at h
  obtain ⟨⟨⟨h1, h2⟩, h3⟩, h4⟩ := h
  refine ⟨h1, h2, ?_, ?_, ?_⟩
  · simp [symModule, DMRef.symbolModule]
  · have : 1 % (s.regCols + 2) = 1 := Nat.mod_eq_of_lt h4
    simp [symModule, DMRef.symbolModule, this]
  · simp only [symModule, DMRef.symbolModule, h3, if_true]
    split <;> rfl

theorem refModule_finder (s : DMRef.Sym) (hs : s ∈ DMRef.table7) (d : List Nat) :
    DMFinderFacts s.cols s.rows (refModule s d) := symModule_finder s hs _

/-- the model of `DataMatrixReader.Decode(bitmap, {PURE_BARCODE})` after the renderer, with the C02 matrix decoder,
    for the symbol carrying the codeword sequence `full` -/
def dmImageDecodeCw (s : DMRef.Sym) (full : List Nat) (reqW reqH : Int) : Except ReadFault (List Nat) :=
  dmImagePath s.cols s.rows (symModule s full) reqW reqH
    (fun b => DMDec.decodeMatrix DMHighLevel.refTables (toGrid b))

/-- … for the reference symbol of the data codewords `d` -/
def dmImageDecode (s : DMRef.Sym) (d : List Nat) (reqW reqH : Int) : Except ReadFault (List Nat) :=
  dmImageDecodeCw s (DMRef.codewords s d) reqW reqH

/-- whatever a matrix-level theorem says about `Decoder.Decode` on the symbol that carries `full` — the clean round
    trip, the error-tolerance theorems of C05 — holds of the image path of that symbol -/
theorem dm_image_of_matrix_result (s : DMRef.Sym) (hs : s ∈ DMRef.table7) (full : List Nat) (want : List Nat)
    (hsym : DMDec.decodeMatrix DMHighLevel.refTables
      ⟨s.cols, s.rows, (DMRef.symbolOfCodewords s full).flatten.toArray⟩ = .ok want) (reqW reqH : Int) :
    (40 ≤ dmOut s.cols s.rows reqW reqH reqW s.cols → 40 ≤ dmOut s.cols s.rows reqW reqH reqH s.rows →
      dmImageDecodeCw s full reqW reqH = .ok want) ∧
    ((∀ img, renderDM s.cols s.rows (symModule s full) reqW reqH = .ok img → WhiteSample img) →
      dmImageDecodeCw s full reqW reqH = .ok want) ∧
    (dmImageDecodeCw s full reqW reqH = .ok want ∨ dmImageDecodeCw s full reqW reqH = .error (.reader .notFound)) := by
  obtain ⟨img, himg, ew, eh, hbig, hany⟩ := dm_image_path_eq_matrix_path s.cols s.rows (symModule s full) reqW reqH
    (symModule_finder s hs full) (fun b => DMDec.decodeMatrix DMHighLevel.refTables (toGrid b))
  have hdec : DMDec.decodeMatrix DMHighLevel.refTables
      (toGrid { w := s.cols, h := s.rows, rows := matrixRows s.cols s.rows (symModule s full) }) = .ok want := by
    simp only [toGrid, Int.toNat_natCast, symModule_rows]
    exact hsym
  simp only [hdec, liftRes] at hbig hany
  refine ⟨?_, ?_, hany⟩
  · intro a b
    exact hbig (Or.inl ⟨by rw [ew]; exact a, by rw [eh]; exact b⟩)
  · intro hwhite
    exact hbig (Or.inr (hwhite img himg))

/-- text → `EncodeHighLevel` (every mode, hint configuration, macro header, the real
    look-ahead up to float rounding) → reference symbol of any of the 30 sizes → `convertByteMatrixToBitMatrix` with
    ANY requested width and height (both branches: scaled and centred / bare symbol) → image → luminances →
    `HybridBinarizer` → `DataMatrixReader.Decode(PURE_BARCODE)` (extractPureBits → `Decoder.Decode` model):
      * returns exactly the text whenever the image is at least 40x40 pixels (local binariser), and for smaller images
        (global histogram fallback) whenever one of the sampled pixels of the rendering is white (`WhiteSample`: what
        the global method needs — and all it needs — on a pure black/white picture);
      * in every case returns exactly the text or fails with the wrapped NotFoundException of the binariser
        (ReaderException) — no other outcome, in particular never another text.
    Image size: `dmOut … reqW cols x dmOut … reqH rows` = the request when the symbol fits in both directions, the
    bare symbol otherwise. -/
theorem dm_image_pure_roundtrip (syms : List DMHighLevel.SymbolInfo) (htab : DMHighLevel.tableOK syms = true)
    (la : DMHighLevel.LookAhead) (hla : DMHighLevel.LaFloatLike la) (msg : List Nat) (cfg : DMHighLevel.Cfg)
    (cw : List Nat) (hb : ∀ x ∈ msg, x < 256) (h : DMHighLevel.encodeHL syms la msg cfg = .ok cw)
    (p : DMRef.Sym × Nat) (hp : p ∈ DMRef.table7.zipIdx) (hn : cw.length = p.1.nData) (reqW reqH : Int) :
    (40 ≤ dmOut p.1.cols p.1.rows reqW reqH reqW p.1.cols → 40 ≤ dmOut p.1.cols p.1.rows reqW reqH reqH p.1.rows →
      dmImageDecode p.1 cw reqW reqH = .ok msg) ∧
    ((∀ img, renderDM p.1.cols p.1.rows (refModule p.1 cw) reqW reqH = .ok img → WhiteSample img) →
      dmImageDecode p.1 cw reqW reqH = .ok msg) ∧
    (dmImageDecode p.1 cw reqW reqH = .ok msg ∨ dmImageDecode p.1 cw reqW reqH = .error (.reader .notFound)) :=
  dm_image_of_matrix_result p.1 (C08.zipIdx_mem_table7 p hp) (DMRef.codewords p.1 cw) msg
    (C02.dm_symbol_roundtrip syms htab la hla msg cfg cw hb h p hp hn) reqW reqH

/-- **the image of a DAMAGED symbol** (C05 at image level): the symbol carries a codeword sequence `raw` (bytes, the
    symbol's total length) that differs from the written one in at most ⌊blkErr/2⌋ codewords of every interleaved
    Reed-Solomon block; its rendering at any requested size, read in pure-barcode mode, still gives exactly the text
    (40x40 pixels up, or a white sample), and in every case the text or the binariser's wrapped NotFound.  The finder
    / clock modules are part of the framing, not of `raw`: module damage inside the finder is outside this statement. -/
theorem dm_image_tolerates_block_errors (syms : List DMHighLevel.SymbolInfo) (htab : DMHighLevel.tableOK syms = true)
    (la : DMHighLevel.LookAhead) (hla : DMHighLevel.LaFloatLike la) (msg : List Nat) (cfg : DMHighLevel.Cfg)
    (cw : List Nat) (hb : ∀ x ∈ msg, x < 256) (h : DMHighLevel.encodeHL syms la msg cfg = .ok cw)
    (p : DMRef.Sym × Nat) (hp : p ∈ DMRef.table7.zipIdx) (hn : cw.length = p.1.nData)
    (raw : List Nat) (hl : raw.length = p.1.total) (hrb : ∀ x ∈ raw, x < 256)
    (hdist : ∀ b, b < p.1.blocks →
      2 * Properties.C04.hamming (DMProofs.blockOfStream p.1 (DMRef.codewords p.1 cw) b) (DMProofs.blockOfStream p.1 raw b) ≤ p.1.blkErr)
    (reqW reqH : Int) :
    (40 ≤ dmOut p.1.cols p.1.rows reqW reqH reqW p.1.cols → 40 ≤ dmOut p.1.cols p.1.rows reqW reqH reqH p.1.rows →
      dmImageDecodeCw p.1 raw reqW reqH = .ok msg) ∧
    ((∀ img, renderDM p.1.cols p.1.rows (symModule p.1 raw) reqW reqH = .ok img → WhiteSample img) →
      dmImageDecodeCw p.1 raw reqW reqH = .ok msg) ∧
    (dmImageDecodeCw p.1 raw reqW reqH = .ok msg ∨ dmImageDecodeCw p.1 raw reqW reqH = .error (.reader .notFound)) := by
  have hcwb := DMHighLevel.encodeHL_bytes_all syms la msg cfg cw hb h
  have hrt := C02.dm_roundtrip_real_lookahead syms htab la hla msg cfg cw hb h
  refine dm_image_of_matrix_result p.1 (C08.zipIdx_mem_table7 p hp) raw msg ?_ reqW reqH
  unfold DMDec.decodeMatrix
  rw [DMProofs.decodeMatrixBytes_tolerates p hp cw hn hcwb raw hl hrb hdist]
  exact hrt

/-! ## non-vacuity -/

/-- a 4x3 "symbol" with the three finder facts -/
def toy : Nat → Nat → Bool := fun i j => (i == 0) || (j == 2) || (i == 2 && j == 0)

example : DMFinderFacts 4 3 toy := ⟨by decide, by decide, by decide, by decide, by decide⟩

/-- fits: 13x8 request → scale 2, pads 2 and 1 … -/
example : (renderDM 4 3 toy 13 8).toOption.map (fun img => DM.extractPureBits (bitImage img).rdGo (bitImage img)) =
    some (.ok { w := 4, h := 3, rows := [[true, false, true, false], [true, false, false, false], [true, true, true, true]] }) := by
  decide +kernel
/-- … too small a request: the bare symbol -/
example : (renderDM 4 3 toy 2 9).toOption.map (fun img => DM.extractPureBits (bitImage img).rdStrict (bitImage img)) =
    some (.ok { w := 4, h := 3, rows := [[true, false, true, false], [true, false, false, false], [true, true, true, true]] }) := by
  decide +kernel
/-- the track fact is needed: with module (1,0) dark the measured module size is 2s and a 2x1 matrix is read -/
example : (renderDM 4 3 (fun i j => toy i j || (i == 1 && j == 0)) 0 0).toOption.map
      (fun img => (DM.extractPureBits (bitImage img).rdGo (bitImage img)).toOption.map (fun b => (b.w, b.h))) =
    some (some (1, 1)) := by decide +kernel

/-- the white-sample condition holds of the 4x3 toy at 13x8 (rows 1, 3, 4, 6; columns 2..9) … -/
example : (renderDM 4 3 toy 13 8).toOption.map (fun img => img.px 4 1) = some false := by decide
/-- … and is needed: a picture whose sampled pixels are all black is refused by the global method (NotFound) -/
example : Binarizer.hybridSets (lumOfRows (List.replicate 5 (List.replicate 5 true))) 5 5 = .error .notFound := by decide +kernel

/-! ## the size condition cannot be dropped for Data Matrix: a REAL symbol whose small renderings are not read

    "z\x1ax" (bytes 7A 1A 78) is encoded as the codewords 123 27 121 in the 10x10 symbol.  In that symbol the 24 modules
    of rows 2, 4, 6, 8 x columns 2..7 are all dark — exactly the pixels the global histogram method samples in the
    bare 10x10 rendering and in the 20x20 and 30x30 renderings (pitch 2 and 3) — so the histogram has a single peak and
    `GetBlackMatrix` answers NotFound, which `DataMatrixReader.Decode` wraps into a ReaderException.  From 40x40 pixels
    (local method) the same symbol reads.  Found by exhaustive search over the 2^24 data-codeword triples of the 10x10
    symbol (two solutions: this one and "`;57"); replayed on the real code by the `img2d-dm` witnesses
    (known finding `img2d-dm-image-roundtrip:global:ERR:reader`).  Unlike QR (`C01Image.qr_render_big_or_white`), a
    Data Matrix symbol has no quiet zone and no light function module among the sampled pixels. -/

/-- the 10x10 symbol of Table 7 -/
def sym10 : DMRef.Sym := ⟨10, 10, 8, 8, 1, 3, 5, 3, 5, 1⟩

theorem witness_encoded :
    DMHighLevel.encodeHL C02.termSyms DMHighLevel.laExact [122, 26, 120] {} = .ok [123, 27, 121] := by decide +kernel

/-- bare symbol, pitch 2, pitch 3: not read (the binariser's NotFound, wrapped) -/
theorem dm_image_small_counterexample :
    dmImageDecode sym10 [123, 27, 121] 0 0 = .error (.reader .notFound) ∧
    dmImageDecode sym10 [123, 27, 121] 20 20 = .error (.reader .notFound) ∧
    dmImageDecode sym10 [123, 27, 121] 30 30 = .error (.reader .notFound) := by
  -- by `dm_image_path_refused`: only the sampled pixels of each rendering are evaluated, all of them black
  have refused : ∀ W : Int, (dmOut 10 10 W W W 10 < 40) →
      ¬ WhiteSample ⟨dmOut 10 10 W W W 10, dmOut 10 10 W W W 10,
        rowLoop (symModule sym10 (DMRef.codewords sym10 [123, 27, 121])) 10
          (padOf (dmOut 10 10 W W W 10) 10 (dmScale 10 10 W W)) (dmScale 10 10 W W) (dmScale 10 10 W W)
          (dmScale 10 10 W W) 10 0 (padOf (dmOut 10 10 W W W 10) 10 (dmScale 10 10 W W))⟩ →
      dmImageDecode sym10 [123, 27, 121] W W = .error (.reader .notFound) := fun W hs hno =>
    dm_image_path_refused 10 10 _ W W (by decide) (by decide) _ _ (renderDM_eq 10 10 _ W W (by decide) (by decide))
      (Or.inl hs) hno
  exact ⟨refused 0 (by decide) (not_whiteSample_of _ (by decide +kernel)),
    refused 20 (by decide) (not_whiteSample_of _ (by decide +kernel)),
    refused 30 (by decide) (not_whiteSample_of _ (by decide +kernel))⟩

/-- … while at 40x40 pixels it is read: the instance of `dm_image_pure_roundtrip` -/
theorem dm_image_witness_40 : dmImageDecode sym10 [123, 27, 121] 40 40 = .ok [122, 26, 120] :=
  (dm_image_pure_roundtrip C02.termSyms (by decide) DMHighLevel.laExact (fun _ _ _ => ⟨DMHighLevel.noBump, rfl⟩)
    [122, 26, 120] {} [123, 27, 121] (by decide) witness_encoded (sym10, 0) (by decide) (by decide) 40 40).1
    (by decide) (by decide)

end Gzx.Properties.C02Image
