/-
  C18 — first-use initialisation: WHEN IT IS SAFE.

  PROVED about the machine of Model/LazyInit.lean (any number of goroutines, any schedule), from an initial store in
  which every group whose flag is set has its cells filled (`Consistent L G0`; a cold start is one,
  `demo_cold_consistent`): under `LazySafe`
    (1) lazy state is shared state, written by `once` steps only — atomically, if the group's flag is unset, all cells of
        the group get values that do not depend on the caller — and by no plain write, guarded or not;
    (2) FIRST-USE DISCIPLINE: in program order every read of a lazy cell is preceded by `once` of its group;
        the flags themselves are never read by plain steps;
    (3) the rest as before: init-only shared state is never written, other locations are touched by their owner only;
  every goroutine computes exactly what it computes alone (`lazy_noninterference`), init-only shared state keeps its
  value (`lazy_init_only_unchanged`), every lazy cell whose group some goroutine has passed holds its value
  (`lazy_initialised`).  The base MACHINE is the special case without `once` and guards: a run of an embedded program is
  the run of the base machine (`base_machine_embeds`).  The base THEOREMS are not obtained that way (`LazySafe` asks for
  flag locations that no program reads, which a base system need not leave free); Proofs/LazyInit.lean repeats the
  argument of Proofs/Interference.lean with two more clauses in the invariant.

  Two of the clauses of `LazySafe` are shown to be NEEDED (counterexamples by evaluation):
    * no plain write to lazy state: the unsynchronised form `if !ready { ready = true; fill() }` with plain guarded
      writes — the seeded lazily built GenericGF tables — lets a second goroutine read a cell that is not filled yet
      (`unsynchronised_lazy_init_interferes`; it is the flag set BEFORE the fill that shows on this sequentially
      consistent machine);
    * reading a lazy cell without passing `once` first sees whatever another goroutine left (`first_use_discipline_needed`).

  NOT shown: that Go code using sync.Once maps to `once` steps (sync.Once is trusted to be atomic and to publish the
  writes of the initialiser), nor that the initialiser is caller-independent — that is the review the allow-lists
  corpus/C18/allowed-sync-uses.txt / allowed-shared-type-writes.txt ask for; today both are empty
  (`Obligations.C18.no_first_use_initialisation`).
-/
import Gzx.Proofs.LazyInit
namespace Gzx.Properties.C18Lazy
open Gzx Gzx.Interference Gzx.LazyInit

/-- first-use initialisation under `LazySafe` does not interfere: under every schedule the private store of every
    goroutine equals its solo execution up to the same number of steps -/
theorem lazy_noninterference (L : Lazy) (prog : Gid → List LStep) (Shared : Loc → Prop) (owner : Loc → Gid)
    (P0 : Gid → PStore) (G0 : GStore) (hS : LazySafe L prog Shared owner) (hc : Consistent L G0)
    (sched : List Gid) (g : Gid) :
    (lrun L prog sched (init P0 G0)).P g
      = (lalone L (prog g) (P0 g) G0 ((lrun L prog sched (init P0 G0)).pc g)).1 :=
  (linv_run L prog Shared owner P0 G0 hS hc sched _ (linv_init L prog Shared owner P0 G0 hc)).priv g

/-- shared state that is not lazy is never changed -/
theorem lazy_init_only_unchanged (L : Lazy) (prog : Gid → List LStep) (Shared : Loc → Prop) (owner : Loc → Gid)
    (P0 : Gid → PStore) (G0 : GStore) (hS : LazySafe L prog Shared owner) (hc : Consistent L G0)
    (sched : List Gid) (loc : Loc) (h : Shared loc) (hl : ¬ L.IsLazy loc) :
    (lrun L prog sched (init P0 G0)).G loc = G0 loc :=
  (linv_run L prog Shared owner P0 G0 hS hc sched _ (linv_init L prog Shared owner P0 G0 hc)).shared loc h hl

/-- once ANY goroutine has passed `once k`, every cell of group `k` holds its value — whoever reads it, whenever -/
theorem lazy_initialised (L : Lazy) (prog : Gid → List LStep) (Shared : Loc → Prop) (owner : Loc → Gid)
    (P0 : Gid → PStore) (G0 : GStore) (hS : LazySafe L prog Shared owner) (hc : Consistent L G0)
    (sched : List Gid) (g : Gid) (k j : Nat) (hj : j < (lrun L prog sched (init P0 G0)).pc g)
    (hjs : (prog g)[j]? = some (.once k)) (loc : Loc) (v : Val) (hcell : L.cell loc = some (k, v)) :
    (lrun L prog sched (init P0 G0)).G loc = v := by
  have inv := linv_run L prog Shared owner P0 G0 hS hc sched _ (linv_init L prog Shared owner P0 G0 hc)
  exact inv.cons loc k v hcell (inv.passed g k j hj hjs)

/-- every goroutine has executed all its steps -/
def LComplete (prog : Gid → List LStep) (sched : List Gid) : Prop :=
  ∀ g, (prog g).length ≤ countG g sched

/-- with first-use initialisation too, any two complete interleavings — e.g. an arbitrary one and the sequential one —
    give every goroutine the same results -/
theorem lazy_results_schedule_independent (L : Lazy) (prog : Gid → List LStep) (Shared : Loc → Prop) (owner : Loc → Gid)
    (P0 : Gid → PStore) (G0 : GStore) (hS : LazySafe L prog Shared owner) (hc : Consistent L G0)
    (s1 s2 : List Gid) (h1 : LComplete prog s1) (h2 : LComplete prog s2) :
    (lrun L prog s1 (init P0 G0)).P = (lrun L prog s2 (init P0 G0)).P := by
  have pc : ∀ s, LComplete prog s → ∀ g, (lrun L prog s (init P0 G0)).pc g = (prog g).length := fun s h g =>
    pc_foldl_complete (lstepOf L prog) _ (lstepOf_pc L prog) s P0 G0 h g
  funext g
  rw [lazy_noninterference L prog Shared owner P0 G0 hS hc s1 g, lazy_noninterference L prog Shared owner P0 G0 hS hc s2 g,
    pc s1 h1 g, pc s2 h2 g]

/-- the base machine is the special case: no guards, no `once` -/
theorem base_machine_embeds (L : Lazy) (prog : Gid → List Step) (sched : List Gid) (st : State) :
    lrun L (embed prog) sched st = run prog sched st := lrun_embed L prog sched st

/-! ### non-vacuity: two goroutines that both do `once 0` and then use the table -/

/-- group 0: flag at location 0, one cell at location 1 holding 5 after first use -/
def demoL : Lazy := ⟨fun k => 2 * k, fun loc => if loc = 1 then some (0, 5) else none⟩

/-- shared: the even locations (flags) and location 1 (the table cell); instances live at odd locations ≥ 3 -/
def demoShared : Loc → Prop := fun l => l % 2 = 0 ∨ l = 1
def demoOwner : Loc → Gid := fun l => if l = 13 then 1 else 0

def demoProg : Gid → List LStep
  | 0 => [.once 0, .read 1 1, .write (fun _ => true) 11 (fun p => p 1 + 1)]
  | 1 => [.once 0, .read 1 1, .write (fun _ => true) 13 (fun p => p 1 * 2)]
  | _ => []

theorem demo_safe : LazySafe demoL demoProg demoShared demoOwner := by
  refine ⟨?_, ?_, ?_, ?_, ?_, ?_, ?_⟩
  · intro k k' h
    have h' : 2 * k = 2 * k' := h
    omega
  · intro k
    show (if 2 * k = 1 then some ((0 : Nat), (5 : Val)) else none) = none
    split
    · omega
    · rfl
  · intro loc h
    rcases h with ⟨k, rfl⟩ | h
    · left
      show (2 * k) % 2 = 0
      omega
    · right
      simp only [demoL] at h
      split at h
      · assumption
      · cases h
  · intro g s hs loc hw
    match g with
    | 0 =>
      simp only [demoProg, List.mem_cons, List.not_mem_nil, or_false] at hs
      rcases hs with rfl | rfl | rfl <;> simp only [LStep.writes] at hw
      subst hw; simp [demoShared]
    | 1 =>
      simp only [demoProg, List.mem_cons, List.not_mem_nil, or_false] at hs
      rcases hs with rfl | rfl | rfl <;> simp only [LStep.writes] at hw
      subst hw; simp [demoShared]
    | n + 2 => simp [demoProg] at hs
  · intro g s hs loc ha hn
    match g with
    | 0 =>
      simp only [demoProg, List.mem_cons, List.not_mem_nil, or_false] at hs
      rcases hs with rfl | rfl | rfl <;>
        simp only [LStep.accesses, LStep.reads, LStep.writes, or_false, false_or, or_self] at ha
      · subst ha; simp [demoShared] at hn
      · subst ha; simp [demoOwner]
    | 1 =>
      simp only [demoProg, List.mem_cons, List.not_mem_nil, or_false] at hs
      rcases hs with rfl | rfl | rfl <;>
        simp only [LStep.accesses, LStep.reads, LStep.writes, or_false, false_or, or_self] at ha
      · subst ha; simp [demoShared] at hn
      · subst ha; simp [demoOwner]
    | n + 2 => simp [demoProg] at hs
  · intro g s hs k hr
    match g with
    | 0 =>
      simp only [demoProg, List.mem_cons, List.not_mem_nil, or_false] at hs
      rcases hs with rfl | rfl | rfl <;> simp only [LStep.reads] at hr
      have hr' : 1 = 2 * k := hr
      omega
    | 1 =>
      simp only [demoProg, List.mem_cons, List.not_mem_nil, or_false] at hs
      rcases hs with rfl | rfl | rfl <;> simp only [LStep.reads] at hr
      have hr' : 1 = 2 * k := hr
      omega
    | n + 2 => simp [demoProg] at hs
  · intro g i r loc k v hi hcell
    have hk : k = 0 := by
      simp only [demoL] at hcell
      split at hcell
      · cases hcell; rfl
      · cases hcell
    subst hk
    match g with
    | 0 =>
      match i with
      | 0 => simp [demoProg] at hi
      | 1 => exact ⟨0, by omega, rfl⟩
      | 2 => simp [demoProg] at hi
      | n + 3 => simp [demoProg] at hi
    | 1 =>
      match i with
      | 0 => simp [demoProg] at hi
      | 1 => exact ⟨0, by omega, rfl⟩
      | 2 => simp [demoProg] at hi
      | n + 3 => simp [demoProg] at hi
    | n + 2 => simp [demoProg] at hi

theorem demo_cold_consistent : Consistent demoL (fun _ => 0) := fun _ _ _ _ h => absurd rfl h

/-- the demo system satisfies the hypotheses of `lazy_results_schedule_independent` for these two complete schedules -/
example : (lrun demoL demoProg [0, 1, 1, 0, 1, 0] (init (fun _ _ => 0) (fun _ => 0))).P =
    (lrun demoL demoProg [0, 0, 0, 1, 1, 1] (init (fun _ _ => 0) (fun _ => 0))).P :=
  lazy_results_schedule_independent demoL demoProg demoShared demoOwner _ _ demo_safe demo_cold_consistent _ _
    (by intro g; match g with
      | 0 => decide
      | 1 => decide
      | n + 2 => simp [demoProg])
    (by intro g; match g with
      | 0 => decide
      | 1 => decide
      | n + 2 => simp [demoProg])

/-- whatever the interleaving, both goroutines see the initialised table -/
example : (lrun demoL demoProg [0, 1, 1, 0, 1, 0] (init (fun _ _ => 0) (fun _ => 0))).P 0 1 = 5 := by decide
example : (lrun demoL demoProg [1, 0, 0, 1, 0, 1] (init (fun _ _ => 0) (fun _ => 0))).G 13 = 10 := by decide

/-! ### the clauses are needed -/

/-- the UNSYNCHRONISED lazy initialisation (the seeded GenericGF change): location 0 = "table allocated", location 1 =
    a table entry.  Each goroutine: r0 := G[0]; if r0 = 0 then G[0] := 1; if r0 = 0 then G[1] := 5; r1 := G[1].
    Alone, each reads 5.  Interleaved, goroutine 1 can find the table allocated but not yet filled and reads 0. -/
def unsyncProg : Gid → List LStep
  | 0 => [.read 0 0, .write (fun p => p 0 == 0) 0 (fun _ => 1), .write (fun p => p 0 == 0) 1 (fun _ => 5), .read 1 1]
  | 1 => [.read 0 0, .write (fun p => p 0 == 0) 0 (fun _ => 1), .write (fun p => p 0 == 0) 1 (fun _ => 5), .read 1 1]
  | _ => []

theorem unsynchronised_lazy_init_interferes :
    (lalone demoL (unsyncProg 1) (fun _ => 0) (fun _ => 0) 4).1 1 = 5 ∧
    (lrun demoL unsyncProg [0, 0, 1, 1, 1, 1, 0, 0] (init (fun _ _ => 0) (fun _ => 0))).P 1 1 = 0 := by decide

/-- with `once 0` in place of the hand-written check (`demoProg`), goroutine 1 reads 5 in the corresponding
    interleaving — and in every other one, by `lazy_noninterference` with `demo_safe` -/
example : (lrun demoL demoProg [0, 1, 1, 0] (init (fun _ _ => 0) (fun _ => 0))).P 1 1 = 5 := by decide

/-- FIRST-USE DISCIPLINE is needed: goroutine 1 reads the table cell without `once`: alone it reads the
    uninitialised 0, after goroutine 0's `once` it reads 5 -/
def noDisciplineProg : Gid → List LStep
  | 0 => [.once 0, .read 1 1]
  | 1 => [.read 1 1]
  | _ => []

theorem first_use_discipline_needed :
    (lrun demoL noDisciplineProg [1, 0, 0] (init (fun _ _ => 0) (fun _ => 0))).P 1 1 ≠
    (lrun demoL noDisciplineProg [0, 1, 0] (init (fun _ _ => 0) (fun _ => 0))).P 1 1 := by decide

end Gzx.Properties.C18Lazy
