/-
  Reference Aztec Code symbol LAYOUT, written from ISO/IEC 24778 (part of the reference encoder
  Gzx.Ref.Aztec; a separate file so that the layout proof only depends on it).

  Per-cell description of the symbol: bull's eye, orientation marks, mode message ring, reference
  grid of full-range symbols, 2-module-wide data layers spiralling counter-clockwise from the
  top-left corner of the outermost layer.
-/
namespace Gzx.Ref.Aztec

/-! ## §7 layout -/

/-- codeword size by layer count -/
def wordSize (layers : Nat) : Nat :=
  if layers ≤ 2 then 6 else if layers ≤ 8 then 8 else if layers ≤ 22 then 10 else 12

/-- data-region capacity in bits -/
def totalBits (compact : Bool) (layers : Nat) : Nat :=
  ((if compact then 88 else 112) + 16 * layers) * layers

/-- half-width of the symbol without reference-grid lines, measured from the centre:
    compact: 5 (core) + 2 per layer; full: 7 (core) + 2 per layer -/
def halfBase (compact : Bool) (layers : Nat) : Nat := (if compact then 5 else 7) + 2 * layers

/-- side length in modules: compact 11+4L; full 15+4L plus the reference-grid lines that fall
    inside (one every 16 modules from the centre on each side) -/
def symbolSize (compact : Bool) (layers : Nat) : Nat :=
  let h := halfBase compact layers
  if compact then 2 * h + 1 else 2 * (h + (h - 1) / 15) + 1

/-- what a module of the symbol is -/
inductive Cell where
  | dark | light
  | mode (i : Nat)     -- bit i of the mode message
  | data (i : Nat)     -- bit i of the data stream (leading pad bits + codewords, MSB first)
  deriving DecidableEq, Repr, Inhabited

def absDiff (a b : Nat) : Nat := if a ≥ b then a - b else b - a

/-- position along a mode-message side, counted in the direction of increasing coordinate:
    compact -3..3 -> 0..6; full -5..-1, 1..5 -> 0..9 (0 is a reference-grid module) -/
def along (compact : Bool) (neg : Bool) (a : Nat) : Nat :=
  if compact then (if neg then 3 - a else 3 + a) else (if neg then 5 - a else 4 + a)

/-- the module at column `x`, row `y` (0,0 = top-left) -/
def cellAt (compact : Bool) (layers x y : Nat) : Cell :=
  let size := symbolSize compact layers
  let c := size / 2
  let ax := absDiff x c
  let ay := absDiff y c
  let R := if compact then 5 else 7
  let r := max ax ay
  -- reference grid of full-range symbols: rows/columns at multiples of 16 from the centre,
  -- alternating with the centre module dark
  if !compact && (ax % 16 == 0 || ay % 16 == 0) then
    (if (ax + ay) % 2 == 0 then .dark else .light)
  else if r < R then
    -- bull's eye: concentric square rings, dark at even distance
    (if r % 2 == 0 then .dark else .light)
  else if r == R then
    -- the ring around the bull's eye: orientation marks at the corners, mode message between
    let xneg := x < c
    let yneg := y < c
    if ax ≥ R - 1 && ay ≥ R - 1 then
      -- orientation: top-left 3 dark, top-right 2 dark, bottom-right 1 dark, bottom-left none
      if xneg && yneg then .dark
      else if !xneg && yneg then (if ax == R then .dark else .light)
      else if !xneg && !yneg then (if ax == R && ay == R - 1 then .dark else .light)
      else .light
    else
      let S := if compact then 7 else 10
      -- clockwise from the top-left: top row left->right, right column top->bottom,
      -- bottom row right->left, left column bottom->top
      if ay == R && yneg then .mode (along compact xneg ax)
      else if ax == R && !xneg then .mode (S + along compact yneg ay)
      else if ay == R && !yneg then .mode (2 * S + (S - 1 - along compact xneg ax))
      else .mode (3 * S + (S - 1 - along compact yneg ay))
  else
    -- data layers.  Coordinates with the reference-grid lines removed ("base" coordinates 0..B-1)
    let H := halfBase compact layers
    let B := if compact then 2 * H + 1 else 2 * H
    let bx := if compact then x else (if x > c then H + (ax - ax / 16) - 1 else H - (ax - ax / 16))
    let by' := if compact then y else (if y > c then H + (ay - ay / 16) - 1 else H - (ay - ay / 16))
    -- layer index counted from the outside, two modules per layer
    let i := (min (min bx by') (min (B - 1 - bx) (B - 1 - by'))) / 2
    let low := 2 * i
    let high := B - 1 - 2 * i
    let rowSize := high - low - 1           -- dominoes per side
    let off := 8 * i * (B - 2 * i)          -- bits in the layers further out
    -- pinwheel: left side downwards, bottom side rightwards, right side upwards, top side leftwards;
    -- within a domino the outer module comes first
    if bx ≤ low + 1 && by' ≤ high - 2 then .data (off + 2 * (by' - low) + (bx - low))
    else if by' ≥ high - 1 && bx ≤ high - 2 then .data (off + 2 * rowSize + 2 * (bx - low) + (high - by'))
    else if bx ≥ high - 1 && by' ≥ low + 2 then .data (off + 4 * rowSize + 2 * (high - by') + (high - bx))
    else .data (off + 6 * rowSize + 2 * (high - bx) + (by' - low))

def cellValue (stream mode : Array Bool) : Cell → Bool
  | .dark => true
  | .light => false
  | .mode i => mode[i]?.getD false
  | .data i => stream[i]?.getD false

/-- the symbol as rows of modules (true = dark) -/
def layout (compact : Bool) (layers : Nat) (stream mode : List Bool) : List (List Bool) :=
  let size := symbolSize compact layers
  let sa := stream.toArray
  let ma := mode.toArray
  (List.range size).map (fun y => (List.range size).map (fun x =>
    cellValue sa ma (cellAt compact layers x y)))

end Gzx.Ref.Aztec
