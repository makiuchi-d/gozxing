/-
  The terms of the multi-segment round trip (`Properties.C01Multi`), beside the reference stream (Ref/QRMulti.lean) and
  its meaning `run` (Ref/QRMultiSem.lean).  What is asked of the items: their contents are encodable in their modes
  (`Item.Content`, with the GB 2312 pairs of Hanzi mode), their counts fit the count fields (`Item.CountOK`), and which
  byte segments have their charset guessed (`guessed`).  What the decoder must report for a symbol in the standard's
  layout (structured-append header, FNC1 indicator, then data segments with ECI designators between them), written out
  field by field (`Symbol.expected`): the closed form of `run` over `Symbol.items`; `QRMulti.run_symbol`
  (Proofs/QRMultiFit.lean) proves the two equal.  Declarations only.
-/
import Gzx.Ref.QRMultiSem
namespace Gzx.QRMulti
open Gzx Gzx.QRDec Gzx.QRPack Gzx.ECI

/-- a GB 2312 double-byte character that Hanzi mode can carry (rows 0xA1..0xAA and 0xB0..0xFA, cells 0xA1..0xFE) -/
def hanziPairOK (p : Nat × Nat) : Prop :=
  ((0xA1 ≤ p.1 ∧ p.1 ≤ 0xAA) ∨ (0xB0 ≤ p.1 ∧ p.1 ≤ 0xFA)) ∧ 0xA1 ≤ p.2 ∧ p.2 ≤ 0xFE

instance (p : Nat × Nat) : Decidable (hanziPairOK p) := by unfold hanziPairOK; infer_instance

/-- the contents of an item are encodable in its mode (no bound on the count) -/
def Item.Content (reg : Registry) : Item → Prop
  | .numeric ds => ∀ d ∈ ds, d < 10
  | .alnum cs => ∀ c ∈ cs, c < 45
  | .byte bs => ∀ b ∈ bs, b < 256
  | .kanji ps => ∀ p ∈ ps, kanjiPairOK p
  | .hanzi ps => ∀ p ∈ ps, hanziPairOK p
  | .eci val => val < 900 ∧ (lookupValue reg val).isSome
  | .sa q p => q < 256 ∧ p < 256
  | .fnc1First => True
  | .fnc1Second => True

/-- the number of characters fits the character count indicator of version `v` -/
def Item.CountOK (v : Nat) : Item → Prop
  | .numeric ds => ds.length < 2 ^ countWidth 0 v
  | .alnum cs => cs.length < 2 ^ countWidth 1 v
  | .byte bs => bs.length < 2 ^ countWidth 2 v
  | .kanji ps => ps.length < 2 ^ countWidth 3 v
  | .hanzi ps => ps.length < 2 ^ countWidth 3 v
  | _ => True

/-- the byte segments whose charset is guessed (no ECI in effect when they are reached) -/
def guessed : Bool → List Item → List (List Nat)
  | _, [] => []
  | _, .eci _ :: r => guessed true r
  | b, .byte bs :: r => (if b then [] else [bs]) ++ guessed b r
  | b, _ :: r => guessed b r

/-- the decoded segments of a body (data segments and ECI designators): `fnc1` = an FNC1 indicator heads the symbol,
    `e` = the ECI in effect -/
def contents (reg : Registry) (g : List Nat → Charset) (fnc1 : Bool) : Option Entry → List Item → List Seg
  | _, [] => []
  | _, .eci val :: r => contents reg g fnc1 (lookupValue reg val) r
  | e, .numeric ds :: r => .raw (ds.map (48 + ·)) :: contents reg g fnc1 e r
  | e, .alnum cs :: r =>
    .raw (if fnc1 then fnc1Massage (cs.map alnumCharOf) else cs.map alnumCharOf) :: contents reg g fnc1 e r
  | e, .byte bs :: r => .text (charsetOf g e bs) bs :: contents reg g fnc1 e r
  | e, .kanji ps :: r => .text .sjis (ps.flatMap (fun p => [p.1, p.2])) :: contents reg g fnc1 e r
  | e, .hanzi ps :: r => .text (.named "GB18030") (ps.flatMap (fun p => [p.1, p.2])) :: contents reg g fnc1 e r
  | e, _ :: r => contents reg g fnc1 e r

/-- the byte-mode segments (result metadata BYTE_SEGMENTS) -/
def byteSegsOf : List Item → List (List Nat)
  | [] => []
  | .byte bs :: r => bs :: byteSegsOf r
  | _ :: r => byteSegsOf r

def hasECI : List Item → Bool
  | [] => false
  | .eci _ :: _ => true
  | _ :: r => hasECI r

/-- symbology modifier of `]Q`: 1 plain, 2 ECI, 3/4 FNC1 first position (without/with ECI), 5/6 FNC1 second position -/
def modifier (eci : Bool) : Fnc1 → Nat
  | .none => if eci then 2 else 1
  | .first => if eci then 4 else 3
  | .second => if eci then 6 else 5

/-- what the decoder must report for a symbol -/
def Symbol.expected (reg : Registry) (g : List Nat → Charset) (s : Symbol) : Parsed :=
  ⟨contents reg g (s.fnc1 != .none) none s.body, byteSegsOf s.body,
   (match s.sa with | some (q, _) => (q : Int) | none => -1),
   (match s.sa with | some (_, p) => (p : Int) | none => -1),
   modifier (hasECI s.body) s.fnc1⟩

end Gzx.QRMulti
