/-
  Meaning of a multi-segment item list (work package c01multi): what the decoder must report, as a fold over the items —
  independent of the bit-level parser.  Kept apart from the proofs so that the driver can print it (`c01multi expect`).
-/
import Gzx.Ref.QRMulti
import Gzx.Model.QRDecoder
import Gzx.Ref.QRPackTerms
namespace Gzx.QRMulti
open Gzx Gzx.QRDec Gzx.QRPack Gzx.ECI

/-- the character set a byte segment is decoded with: the ECI in effect, otherwise the guess `g` -/
def charsetOf (g : List Nat → Charset) (e : Option Entry) (bs : List Nat) : Charset :=
  match e with
  | some e => .named e.name
  | none => g bs

/-- what one item does to the parser's visible state (segments so far, byte segments, structured-append fields,
    ECI in effect, FNC1 flags); `g` = the charset picked for an un-designated byte segment -/
def step (reg : Registry) (g : List Nat → Charset) (st : PSt) : Item → PSt
  | .numeric ds => { st with segs := st.segs ++ [.raw (ds.map (48 + ·))] }
  | .alnum cs =>
    { st with segs := st.segs ++ [.raw (if st.fnc1 then fnc1Massage (cs.map alnumCharOf) else cs.map alnumCharOf)] }
  | .byte bs => { st with segs := st.segs ++ [.text (charsetOf g st.eci bs) bs], byteSegs := st.byteSegs ++ [bs] }
  | .kanji ps => { st with segs := st.segs ++ [.text .sjis (ps.flatMap (fun p => [p.1, p.2]))] }
  | .hanzi ps => { st with segs := st.segs ++ [.text (.named "GB18030") (ps.flatMap (fun p => [p.1, p.2]))] }
  | .eci val => { st with eci := lookupValue reg val }
  | .fnc1First => { st with fnc1First := true, fnc1 := true }
  | .fnc1Second => { st with fnc1Second := true, fnc1 := true }
  | .sa q p => { st with saSeq := q, saPar := p }

def run (reg : Registry) (g : List Nat → Charset) : PSt → List Item → PSt
  | st, [] => st
  | st, it :: rest => run reg g (step reg g st it) rest

/-- the result record of `DecodedBitStreamParser_Decode` for a final state -/
def toParsed (st : PSt) : Parsed := ⟨st.segs, st.byteSegs, st.saSeq, st.saPar, symbologyModifier st⟩

end Gzx.QRMulti
