/-
  Terms in which the statements about QR data segments are written, beside the packing of Ref/QRPack.lean: the character
  an alphanumeric value stands for, the Shift_JIS pairs that Kanji mode can carry, and the tails on which the bit-stream
  parser has to stop.  Declarations only.
-/
import Gzx.Model.QRDecoder
import Gzx.Ref.QRPack
namespace Gzx.QRDec
open Gzx Gzx.QRPack

/-- the character of an alphanumeric value (`ALPHANUMERIC_CHARS[v]`) -/
def alnumCharOf (v : Nat) : Nat := alnumChars.getD v 0

/-- a Shift_JIS double-byte character that Kanji mode can carry -/
def kanjiPairOK (p : Nat × Nat) : Prop :=
  ((0x81 ≤ p.1 ∧ p.1 ≤ 0x9F) ∨ (0xE0 ≤ p.1 ∧ p.1 ≤ 0xEB)) ∧ 0x40 ≤ p.2 ∧ p.2 ≤ 0xFC ∧
  (p.1 = 0xEB → p.2 ≤ 0xBF)        -- 0x8140..0x9FFC and 0xE040..0xEBBF

/-- a payload followed by the full terminator and arbitrary padding, or by a shortened terminator -/
def Terminated (tail : List Bool) : Prop := (∃ pad, tail = List.replicate 4 false ++ pad) ∨ tail.length < 4

end Gzx.QRDec
