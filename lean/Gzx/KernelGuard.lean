/-
  `when_kernel C in <command>`: elaborate the command only when the constant `C` exists, so that an
  obligation file still builds when a kernel left the translatable subset (the translator then emits
  NO definition, records `untranslatable` in gen-manifest.json and sets `Gen.<Module>.has_<f> := false`).
  `bin/check` reports a theorem guarded this way as skipped (note in the evidence), not as broken.
  Imported by obligation files only (needs `import Lean`; the driver never links it).

  Which guards a declaration needs: one for every `Gen.*` function constant its own text spells out.  The
  translator emits the loop bodies `<f>_bodyN` and a table `tbl_*` only together with a translated function
  that uses them (the selector constants `fsel_*` with the dispatching function), and it drops a caller together
  with an untranslatable callee; so the guard of `<f>` also covers its loop bodies, the tables only it reads, its
  Go callees' constants and the theorems about them that a proof calls by name.  A theorem about a guarded
  helper definition carries that definition's guards.  Where that does not hold the guards are stacked, one per line, and the command exists iff all the
  constants do: a table with several readers, one Go function regenerated in two modules, a definition that
  wires in kernels of another package.  Struct types are emitted independently of every function.
  Some obligation files test a kernel on a vector in an `example` that stands under no guard; if that kernel
  leaves the subset the file does not build, and the check reports its theorems as broken, not as skipped.
  A trap: the guard cannot tell a dropped kernel from a `Gen` module the file does not import, and skips
  silently in both cases (an info message in the build log); import the module of every constant you guard by.
-/
import Lean
namespace Gzx.GoM

open Lean Elab Command in
/-- `when_kernel C in cmd`: elaborate `cmd` only if the constant `C` exists (the translator emits no
    definition for a function that left its subset and records `untranslatable`; `bin/check` then
    reports the guarded theorem as skipped, not as broken). -/
elab "when_kernel " c:ident " in " cmd:command : command => do
  let env ← getEnv
  let n := c.getId
  let ns ← getCurrNamespace
  let opens := (← getOpenDecls)
  let cands : List Name := [n, ns ++ n, `Gzx ++ n] ++ opens.filterMap (fun
    | OpenDecl.simple o _ => some (o ++ n)
    | _ => none)
  if cands.any env.contains then elabCommand cmd
  else logInfo m!"kernel {n} absent (untranslatable): guarded command skipped"

end Gzx.GoM
