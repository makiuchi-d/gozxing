/-
  The loops of the translator's monadic target (`GoM.loop`, `GoM.whileLoop`; `for … range` is in Proofs/GoMV.lean) against a
  model, without a word of generated text.

  How a kernel theorem of `Obligations/K*.lean` goes: unfold the generated definition once; rewrite every checked operation by
  its lemma from Proofs/GoM.lean (side condition `e = ↑n`: which model index the Go expression `e` is; `omega` after `gonorm`);
  turn every loop into the model's iteration by one of the rules below, whose hypothesis about ONE round is proved by
  unfolding the generated body once; compare with the model.  A prime marks a rule whose start state `hs`, trip count `hn`
  and start index `hi` are side conditions, so that it rewrites generated code as it stands.

  Which rule.  `R` embeds a model state into the Go state; "all" = the body may continue, break, return or panic.

    header                         body on `R t` is …                  rule                      the loop is then …
    -----------------------------  ----------------------------------  ------------------------  -------------------------------
    any start, any stride (`ix`)   `(g (a+j) l[j] t).map R`, all,      loop_foldIdx              `(foldIdx g a l t).map R`
                                   states under an invariant
    i := a; i < a+len l; i++       the same                            loop_up_list_inv' / _list'   the same
    i := a; i < a+k; i++           `(g i t).map R`, all                loop_up_range_inv' / _range' `(foldIdx … (range' a k) t).map R`
    i := a; i < a+k; i++           `ofRes ((f t i).map R)`             loop_up_fold'             `ofRes ((foldlM f t (range' a k)).map R)`
    i := m-1; i >= 0; i--          the same                            loop_down_fold'           … over `(range m).reverse`
    i := a; i < a+k; i++           `g s[i] st` for a slice `s`, all    loop_up1'                 `foldC g ((s.drop a).take k) st`
    i := m-1; i >= 0; i--          the same                            loop_down1'               `foldC g (s.take m).reverse st`
    i := m-1; i >= 0; i -= 2       the same                            loop_down2'               `foldC2 g (s.take m).reverse st`
    any (`ix`), `R k`, `Inv k`     `ofRes ((f t k).map (R (k+1)))`     loop_sim                  `ofRes ((foldlM f t …).map (R (j+n)))`
      depend on the round k                                              (K17Hyb.loop_up_fold_aux: a value `aux k` carried beside the state)
    any (`ix`)                     `G k ↦ G (k+1)` below `len`, then   loop_steps                `G n`, or the panic if `len < n`
                                   panic
    any (`ix`)                     reads `rd k`: `R vs ↦ R (vs++[v])`  loop_reads                `R` of `mapME rd` over the rounds
    for cond (fuel)                `(f t).map R`, all, invariant       whileLoop_map_inv(')      `(whileLoop f n t).map R`
    for i := a; i < lim; i += d    model step `f t j`, written as a    whileLoop_stride          `foldlM f` over the rounds, then brk
                                   `for cond` loop

  No lock-step model (the RELATIONAL rules): `loop_rule` (`Q n i s c`: `c` is a right outcome of `n` rounds from `i`, `s`),
  `loop_inv` (an invariant over the rounds done; every early exit satisfies a condition `E`), `loop_inv_next` (the body never
  leaves; downwards, `for k := k0; k > 0; k--` with the invariant indexed by the next index: `loop_inv_down` in
  Proofs/DMTie.lean), `loop_rel0` / `loop_rel_len` (two loops in lock step); `whileLoop_ind` (induction on a measure below the fuel, the
  rest of the run abstracted), `whileLoop_inv` (a counter, then the condition fails).  A loop outside these shapes is done
  by plain induction with `loop_succ` / `whileLoop_succ`; a rule for a shape that one kernel has stays with that kernel
  (`K19.loop_pairs`, `K19.loop_zip`: a slice rewritten in place two elements at a time, two slices in lock step).

  Applying a rule whose body and start state are to be found by unification (`loop_steps`, `loop_reads`, `loop_sim`): use
  `refine (loop_steps … body n ?_ ?_).trans ?_`, or inside `rw` leave the one-round hypothesis as a named hole `?h`.  Given
  `fun _ _ => rfl` directly, `rfl` assigns the body in folded form and the rewrite then does not find it.
-/
import Gzx.GoMTie
import Gzx.Model.ExceptList
namespace Gzx.GoM

variable {σ ρ τ α : Type}

/-! ### control values -/

/-- a model step (`Res`) as the outcome of a loop body -/
def ofRes : Res σ → Ctl σ ρ
  | .ok s => .next s
  | .error f => .panic f

/-- a control value over model states, seen through the embedding `R` of the state -/
def Ctl.map (R : τ → σ) : Ctl τ ρ → Ctl σ ρ
  | .next t => .next (R t)
  | .brk t => .brk (R t)
  | .ret r => .ret r
  | .panic f => .panic f

@[simp] theorem Ctl.map_next (R : τ → σ) (t : τ) : (Ctl.next t : Ctl τ ρ).map R = .next (R t) := rfl
@[simp] theorem Ctl.map_brk (R : τ → σ) (t : τ) : (Ctl.brk t : Ctl τ ρ).map R = .brk (R t) := rfl
@[simp] theorem Ctl.map_ret (R : τ → σ) (r : ρ) : (Ctl.ret r : Ctl τ ρ).map R = .ret r := rfl
@[simp] theorem Ctl.map_panic (R : τ → σ) (f : Fault) : (Ctl.panic f : Ctl τ ρ).map R = .panic f := rfl

theorem Ctl.map_thenC {σ' : Type} (R : τ → σ') (c : Ctl τ ρ) (k : σ' → Ctl σ ρ) :
    (c.map R).thenC k = c.thenC (fun t => k (R t)) := by
  cases c <;> rfl

theorem Ctl.map_id (c : Ctl σ ρ) : c.map id = c := by cases c <;> rfl

theorem Ctl.map_ofRes (R : τ → σ) (r : Res τ) : (ofRes r : Ctl τ ρ).map R = ofRes (r.map R) := by
  cases r <;> rfl

@[simp] theorem ofRes_ok (s : σ) : (ofRes (.ok s) : Ctl σ ρ) = .next s := rfl
@[simp] theorem ofRes_error (f : Fault) : (ofRes (.error f : Res σ) : Ctl σ ρ) = .panic f := rfl

theorem ofRes_thenR (r : Res σ) (k : σ → Res ρ) :
    (ofRes r : Ctl σ ρ).thenR k = match r with | .ok s => k s | .error e => .error e := by
  cases r <;> rfl

theorem ofRes_thenC {σ' : Type} (r : Res σ') (k : σ' → Ctl σ ρ) :
    (ofRes r : Ctl σ' ρ).thenC k = match r with | .ok s => k s | .error e => .panic e := by
  cases r <;> rfl

theorem ofRes_thenC_next (r : Res σ) : (ofRes r : Ctl σ ρ).thenC (fun st => Ctl.next st) = ofRes r := by
  cases r <;> rfl

@[simp] theorem next_thenR (s : σ) (k : σ → Res ρ) : (Ctl.next s : Ctl σ ρ).thenR k = k s := rfl
@[simp] theorem next_thenC {σ' : Type} (s : σ') (k : σ' → Ctl σ ρ) : (Ctl.next s : Ctl σ' ρ).thenC k = k s := rfl
@[simp] theorem brk_thenR (s : σ) (k : σ → Res ρ) : (Ctl.brk s : Ctl σ ρ).thenR k = k s := rfl
@[simp] theorem ret_thenR (r : ρ) (k : σ → Res ρ) : (Ctl.ret r : Ctl σ ρ).thenR k = .ok r := rfl
@[simp] theorem panic_thenR (f : Fault) (k : σ → Res ρ) : (Ctl.panic f : Ctl σ ρ).thenR k = .error f := rfl
@[simp] theorem panic_thenC {σ' : Type} (f : Fault) (k : σ' → Ctl σ ρ) : (Ctl.panic f : Ctl σ' ρ).thenC k = .panic f := rfl
@[simp] theorem ret_thenC {σ' : Type} (r : ρ) (k : σ' → Ctl σ ρ) : (Ctl.ret r : Ctl σ' ρ).thenC k = .ret r := rfl
@[simp] theorem brk_thenC {σ' : Type} (s : σ') (k : σ' → Ctl σ ρ) : (Ctl.brk s : Ctl σ' ρ).thenC k = k s := rfl
@[simp] theorem tryR_ok {α : Type} (a : α) (k : α → Res ρ) : tryR (.ok a) k = k a := rfl
@[simp] theorem tryR_error {α : Type} (f : Fault) (k : α → Res ρ) : tryR (.error f) k = .error f := rfl
@[simp] theorem tryC_ok {α : Type} (a : α) (k : α → Ctl σ ρ) : tryC (.ok a) k = k a := rfl
@[simp] theorem tryC_error {α : Type} (f : Fault) (k : α → Ctl σ ρ) : tryC (.error f) k = .panic f := rfl

/-! ### one round -/

theorem loop_zero (body : Int → σ → Ctl σ ρ) (d i : Int) (st : σ) : loop body d 0 i st = .next st := rfl

theorem loop_succ (body : Int → σ → Ctl σ ρ) (d : Int) (n : Nat) (i : Int) (st : σ) :
    loop body d (n + 1) i st =
      match body i st with
      | .next st' => loop body d n (i + d) st'
      | .brk st' => .brk st'
      | .ret r => .ret r
      | .panic f => .panic f := rfl

theorem whileLoop_succ (body : σ → Ctl σ ρ) (n : Nat) (st : σ) :
    whileLoop body (n + 1) st =
      match body st with
      | .next st' => whileLoop body n st'
      | .brk st' => .brk st'
      | .ret r => .ret r
      | .panic f => .panic f := rfl

/-! ### trip counts (`k = 1, 2`; `tripUp a b k` is `tripDown b a k`) -/

theorem tripDown_one (a b : Int) : tripDown a b 1 = (a - b).toNat := by
  unfold tripDown; simp

theorem tripUp_one (a b : Int) : tripUp a b 1 = (b - a).toNat := by
  unfold tripUp; simp

theorem tripDown_two (a b : Int) : tripDown a b 2 = ((a - b + 1) / 2).toNat := by
  unfold tripDown
  by_cases h : 0 ≤ a - b + 1
  · rw [Int.tdiv_eq_ediv_of_nonneg (by omega)]; rfl
  · have h1 : (a - b + (2 - 1)).tdiv 2 ≤ 0 := by
      have e : a - b + (2 - 1) = -(b - a - 1) := by omega
      rw [e, Int.neg_tdiv]
      have := Int.tdiv_nonneg (a := b - a - 1) (b := 2) (by omega) (by decide)
      omega
    have h2 : (a - b + 1) / 2 ≤ 0 := by omega
    omega

/-- trip count of `for i := m-1; i >= 0; i -= 2` -/
theorem tripDown_two_pred (a : Int) (m : Nat) (h : a = (m : Int) - 1) : tripDown a (-1) 2 = (m + 1) / 2 := by
  subst h; rw [tripDown_two]; omega

theorem tripUp_two (a b : Int) : tripUp a b 2 = ((b - a + 1) / 2).toNat := by
  have := tripDown_two b a
  unfold tripUp tripDown at *
  exact this

/-! ### the model's iterations -/

/-- list-driven iteration with early exit: round `i` consumes the next element -/
def foldIdx (g : Nat → α → τ → Ctl τ ρ) : Nat → List α → τ → Ctl τ ρ
  | _, [], t => .next t
  | i, x :: xs, t =>
    match g i x t with
    | .next t' => foldIdx g (i + 1) xs t'
    | .brk t' => .brk t'
    | .ret r => .ret r
    | .panic f => .panic f

/-- per-element fold with early exit -/
def foldC (g : Int → σ → Ctl σ ρ) : List Int → σ → Ctl σ ρ
  | [], st => .next st
  | v :: vs, st =>
    match g v st with
    | .next st' => foldC g vs st'
    | .brk s => .brk s
    | .ret r => .ret r
    | .panic f => .panic f

/-- the same, visiting elements 0, 2, 4, … -/
def foldC2 (g : Int → σ → Ctl σ ρ) : List Int → σ → Ctl σ ρ
  | [], st => .next st
  | [v], st =>
    match g v st with
    | .next st' => .next st'
    | .brk s => .brk s
    | .ret r => .ret r
    | .panic f => .panic f
  | v :: _ :: vs, st =>
    match g v st with
    | .next st' => foldC2 g vs st'
    | .brk s => .brk s
    | .ret r => .ret r
    | .panic f => .panic f

theorem foldIdx_foldC (g : Int → σ → Ctl σ ρ) : ∀ (l : List Int) (i : Nat) (st : σ),
    foldIdx (fun _ v st => g v st) i l st = foldC g l st
  | [], _, _ => rfl
  | v :: vs, i, st => by
    simp only [foldIdx, foldC]
    cases g v st with
    | next st' => exact foldIdx_foldC g vs (i + 1) st'
    | brk _ => rfl
    | ret _ => rfl
    | panic _ => rfl

theorem foldIdx_ofRes (f : τ → α → Res τ) : ∀ (l : List α) (i : Nat) (t : τ),
    foldIdx (ρ := ρ) (fun _ x t => ofRes (f t x)) i l t = ofRes (l.foldlM f t)
  | [], _, _ => rfl
  | x :: xs, i, t => by
    simp only [foldIdx, List.foldlM, bind, Except.bind]
    cases f t x with
    | error e => rfl
    | ok t' => exact foldIdx_ofRes f xs (i + 1) t'

theorem foldlM_error {α : Type} (P : Fault → Prop) (f : τ → α → Res τ)
    (hf : ∀ t a e, f t a = .error e → P e) :
    ∀ (l : List α) (t : τ) (e : Fault), l.foldlM f t = .error e → P e := by
  intro l
  induction l with
  | nil => intro t e h; simp [List.foldlM, pure, Except.pure] at h
  | cons a l ih =>
    intro t e h
    simp only [List.foldlM, bind, Except.bind] at h
    cases hfa : f t a with
    | error e' => rw [hfa] at h; injection h with h; subst h; exact hf t a _ hfa
    | ok t' => rw [hfa] at h; exact ih t' e h

/-! ### homomorphism rules -/

/-- a counted loop of `l.length` rounds whose loop variable in round `k` is `ix k` (any start, any stride, up or down), and
    whose body on related states is the model step `g (a + j) l[j]`, for states under an invariant the steps preserve -/
theorem loop_foldIdx (R : τ → σ) (Inv : τ → Prop) (g : Nat → α → τ → Ctl τ ρ) (d : Int) (ix : Nat → Int)
    (hix : ∀ k, ix (k + 1) = ix k + d) (body : Int → σ → Ctl σ ρ) :
    ∀ (l : List α) (a : Nat) (t : τ), Inv t →
      (∀ j (hj : j < l.length) t, Inv t → body (ix (a + j)) (R t) = (g (a + j) l[j] t).map R) →
      (∀ j (hj : j < l.length) t t', Inv t → g (a + j) l[j] t = .next t' → Inv t') →
      loop body d l.length (ix a) (R t) = (foldIdx g a l t).map R := by
  intro l
  induction l with
  | nil => intro a t _ _ _; rfl
  | cons x xs ih =>
    intro a t ht hb hinv
    have h0 := hb 0 (Nat.zero_lt_succ _) t ht
    have hi0 := hinv 0 (Nat.zero_lt_succ _) t
    simp only [Nat.add_zero, List.getElem_cons_zero] at h0 hi0
    rw [List.length_cons, loop_succ, h0]
    simp only [foldIdx]
    cases hg : g a x t with
    | next t' =>
      simp only [Ctl.map_next]
      rw [← hix]
      refine ih (a + 1) t' (hi0 t' ht hg) (fun j hj t ht => ?_) (fun j hj t t' ht hs => ?_)
      · have := hb (j + 1) (Nat.succ_lt_succ hj) t ht
        simp only [List.getElem_cons_succ] at this
        rw [show a + 1 + j = a + (j + 1) by omega]
        exact this
      · have := hinv (j + 1) (Nat.succ_lt_succ hj) t t' ht
        simp only [List.getElem_cons_succ] at this
        rw [show a + 1 + j = a + (j + 1) by omega] at hs
        exact this hs
    | brk t' => rfl
    | ret r => rfl
    | panic f => rfl

/-- `for i := a; i < a + len(l); i++`, round `j` working on `l[j]` -/
theorem loop_up_list_inv' (R : τ → σ) (Inv : τ → Prop) (g : Nat → α → τ → Ctl τ ρ) (l : List α) (a : Nat) (t : τ)
    {body : Int → σ → Ctl σ ρ} {n : Nat} {i0 : Int} {s : σ}
    (hs : s = R t) (hn : n = l.length) (hi : i0 = (a : Int)) (ht : Inv t)
    (hinv : ∀ j (hj : j < l.length) t t', Inv t → g (a + j) l[j] t = .next t' → Inv t')
    (hb : ∀ j (hj : j < l.length) t, Inv t → body ((a + j : Nat) : Int) (R t) = (g (a + j) l[j] t).map R) :
    loop body 1 n i0 s = (foldIdx g a l t).map R := by
  subst hs hn hi
  exact loop_foldIdx R Inv g 1 (fun k => (k : Int)) (fun _ => Int.natCast_succ _) body l a t ht hb hinv

theorem loop_up_list' (R : τ → σ) (g : Nat → α → τ → Ctl τ ρ) (l : List α) (a : Nat) (t : τ)
    {body : Int → σ → Ctl σ ρ} {n : Nat} {i0 : Int} {s : σ}
    (hs : s = R t) (hn : n = l.length) (hi : i0 = (a : Int))
    (hb : ∀ j (hj : j < l.length) t, body ((a + j : Nat) : Int) (R t) = (g (a + j) l[j] t).map R) :
    loop body 1 n i0 s = (foldIdx g a l t).map R :=
  loop_up_list_inv' R (fun _ => True) g l a t hs hn hi trivial (fun _ _ _ _ _ _ => trivial) (fun j hj t _ => hb j hj t)

/-- `for i := a; i < a + k; i++`, the step depending on the index only -/
theorem loop_up_range_inv' (R : τ → σ) (Inv : τ → Prop) (g : Nat → τ → Ctl τ ρ) (a k : Nat) (t : τ)
    {body : Int → σ → Ctl σ ρ} {n : Nat} {i0 : Int} {s : σ}
    (hs : s = R t) (hn : n = k) (hi : i0 = (a : Int)) (ht : Inv t)
    (hinv : ∀ i t t', Inv t → g i t = .next t' → Inv t')
    (hb : ∀ i, a ≤ i → i < a + k → ∀ t, Inv t → body (i : Int) (R t) = (g i t).map R) :
    loop body 1 n i0 s = (foldIdx (fun _ i t => g i t) a (List.range' a k) t).map R := by
  refine loop_up_list_inv' R Inv (fun _ i t => g i t) (List.range' a k) a t hs (by rw [hn, List.length_range']) hi ht
    (fun j hj t t' ht hs => hinv _ t t' ht hs) (fun j hj t ht => ?_)
  rw [List.length_range'] at hj
  rw [List.getElem_range', Nat.one_mul]
  exact hb (a + j) (Nat.le_add_right a j) (Nat.add_lt_add_left hj a) t ht

theorem loop_up_range' (R : τ → σ) (g : Nat → τ → Ctl τ ρ) (a k : Nat) (t : τ)
    {body : Int → σ → Ctl σ ρ} {n : Nat} {i0 : Int} {s : σ}
    (hs : s = R t) (hn : n = k) (hi : i0 = (a : Int))
    (hb : ∀ i, a ≤ i → i < a + k → ∀ t, body (i : Int) (R t) = (g i t).map R) :
    loop body 1 n i0 s = (foldIdx (fun _ i t => g i t) a (List.range' a k) t).map R :=
  loop_up_range_inv' R (fun _ => True) g a k t hs hn hi trivial (fun _ _ _ _ _ => trivial) (fun i h1 h2 t _ => hb i h1 h2 t)

/-- a `for cond` loop whose body on related states is the model's step: the same loop on the model, same fuel -/
theorem whileLoop_map_inv (R : τ → σ) (Inv : τ → Prop) (body : σ → Ctl σ ρ) (f : τ → Ctl τ ρ)
    (hb : ∀ t, Inv t → body (R t) = (f t).map R) (hinv : ∀ t t', Inv t → f t = .next t' → Inv t') :
    ∀ (n : Nat) (t : τ), Inv t → whileLoop body n (R t) = (whileLoop f n t).map R := by
  intro n
  induction n with
  | zero => intro t _; rfl
  | succ n ih =>
    intro t ht
    rw [whileLoop_succ, whileLoop_succ, hb t ht]
    cases hf : f t with
    | next t' => exact ih t' (hinv t t' ht hf)
    | brk t' => rfl
    | ret r => rfl
    | panic f => rfl

theorem whileLoop_map_inv' (R : τ → σ) (Inv : τ → Prop) (f : τ → Ctl τ ρ) (t : τ) {body : σ → Ctl σ ρ} {s : σ} {n : Nat}
    (hs : s = R t) (ht : Inv t) (hinv : ∀ t t', Inv t → f t = .next t' → Inv t')
    (hb : ∀ t, Inv t → body (R t) = (f t).map R) :
    whileLoop body n s = (whileLoop f n t).map R := by
  subst hs; exact whileLoop_map_inv R Inv body f hb hinv n t ht

/-- `for i := a; i < lim; i += d { step }` written as a `for cond` loop (non-constant stride `d ≥ 1`): `n` iterations -/
theorem whileLoop_stride (R : τ → σ) (f : τ → Nat → Res τ) (a d lim : Nat) (body : σ × Int → Ctl (σ × Int) ρ)
    (hin : ∀ j t, a + j * d < lim → body (R t, ((a + j * d : Nat) : Int)) =
      match f t j with
      | .ok t' => .next (R t', ((a + (j + 1) * d : Nat) : Int))
      | .error e => .panic e)
    (hout : ∀ j t, ¬ a + j * d < lim → body (R t, ((a + j * d : Nat) : Int)) = .brk (R t, ((a + j * d : Nat) : Int))) :
    ∀ (n j : Nat) (t : τ) (fuel : Nat), n < fuel → (∀ i, j ≤ i → i < j + n → a + i * d < lim) → ¬ (a + (j + n) * d < lim) →
      whileLoop body fuel (R t, ((a + j * d : Nat) : Int)) =
        match (List.range' j n).foldlM f t with
        | .ok t' => .brk (R t', ((a + (j + n) * d : Nat) : Int))
        | .error e => .panic e := by
  intro n
  induction n with
  | zero =>
    intro j t fuel hf _ hend
    obtain ⟨fuel, rfl⟩ : ∃ k, fuel = k + 1 := ⟨fuel - 1, by omega⟩
    rw [whileLoop_succ, hout j t (by simpa using hend)]
    simp [pure, Except.pure]
  | succ n ih =>
    intro j t fuel hf hlt hend
    obtain ⟨fuel, rfl⟩ : ∃ k, fuel = k + 1 := ⟨fuel - 1, by omega⟩
    rw [whileLoop_succ, hin j t (hlt j (Nat.le_refl j) (by omega))]
    simp only [List.range', List.foldlM, bind, Except.bind]
    cases hfj : f t j with
    | error e => rfl
    | ok t' =>
      simp only []
      have e : j + (n + 1) = (j + 1) + n := by omega
      rw [e]
      exact ih (j + 1) t' fuel (by omega) (fun i h1 h2 => hlt i (by omega) (by omega)) (by rw [← e]; exact hend)

/-- the abstraction `R k` of the state and the invariant `Inv k` may depend on the round `k`; `ix k` is the loop variable in
    round `k`; the steps continue or panic -/
theorem loop_sim (R : Nat → τ → σ) (Inv : Nat → τ → Prop) (f : τ → Nat → Res τ) (d : Int) (ix : Nat → Int)
    (hix : ∀ k, ix (k + 1) = ix k + d) (body : Int → σ → Ctl σ ρ) :
    ∀ (n j : Nat) (t : τ), Inv j t →
      (∀ k t, j ≤ k → k < j + n → Inv k t →
        body (ix k) (R k t) = ofRes ((f t k).map (R (k + 1))) ∧ ∀ t', f t k = .ok t' → Inv (k + 1) t') →
      loop body d n (ix j) (R j t) = ofRes (((List.range' j n).foldlM f t).map (R (j + n))) := by
  intro n
  induction n with
  | zero => intro j t _ _; rfl
  | succ n ih =>
    intro j t hI hb
    obtain ⟨h1, h2⟩ := hb j t (Nat.le_refl j) (by omega) hI
    rw [loop_succ, h1, List.range'_succ, List.foldlM_cons]
    cases hf : f t j with
    | error e => rfl
    | ok t' =>
      rw [← hix, show j + (n + 1) = (j + 1) + n by omega]
      exact ih (j + 1) t' (h2 t' hf) (fun k t hk1 hk2 => hb k t (by omega) (by omega))

/-- a loop that works through a prefix: `G k` is the state after `k` rounds in closed form; the rounds below `len` go through,
    round `len`, if the loop gets there, panics -/
theorem loop_steps (G : Nat → σ) (len : Nat) (e : Fault) (d : Int) (ix : Nat → Int) (hix : ∀ k, ix (k + 1) = ix k + d)
    (body : Int → σ → Ctl σ ρ) (N : Nat)
    (hstep : ∀ k, k < len → k < N → body (ix k) (G k) = .next (G (k + 1)))
    (hfail : len < N → body (ix len) (G len) = .panic e) :
    loop body d N (ix 0) (G 0) = if len < N then .panic e else .next (G N) := by
  have h : ∀ n j, j + n = N → j ≤ len → loop body d n (ix j) (G j) = if len < N then .panic e else .next (G N) := by
    intro n
    induction n with
    | zero =>
      intro j hj hl
      rw [if_neg (by omega), loop_zero, show j = N by omega]
    | succ n ih =>
      intro j hj hl
      rw [loop_succ]
      by_cases hlt : j < len
      · rw [hstep j hlt (by omega), ← hix]
        exact ih (j + 1) (by omega) hlt
      · obtain rfl : j = len := by omega
        rw [hfail (by omega), if_pos (by omega)]
  exact h N 0 (Nat.zero_add N) (Nat.zero_le len)

/-- one round of a loop that reads: append the value, or the panic `e` the Go code raises -/
def readAcc (rd : Nat → Res α) (e : Fault) (vs : List α) (k : Nat) : Res (List α) :=
  match rd k with
  | .ok v => .ok (vs ++ [v])
  | .error _ => .error e

theorem foldlM_reads (rd : Nat → Res α) (e : Fault) : ∀ (l : List Nat) (vs0 : List α),
    l.foldlM (readAcc rd e) vs0 =
      match mapME rd l with
      | .ok vs => .ok (vs0 ++ vs)
      | .error _ => .error e := by
  intro l
  induction l with
  | nil => intro vs0; simp [mapME, pure, Except.pure]
  | cons k l ih =>
    intro vs0
    simp only [List.foldlM_cons, mapME, readAcc]
    cases rd k with
    | error _ => rfl
    | ok v =>
      simp only [bind, Except.bind]
      rw [ih]
      cases mapME rd l <;> simp

theorem mapME_append_single {ε α β : Type} (f : α → Except ε β) : ∀ (l : List α) (a : α),
    mapME f (l ++ [a]) =
      match mapME f l with
      | .error e => .error e
      | .ok bs => match f a with
        | .error e => .error e
        | .ok b => .ok (bs ++ [b])
  | [], a => by simp only [List.nil_append, mapME]; cases f a <;> rfl
  | x :: l, a => by
    simp only [List.cons_append, mapME]
    cases f x with
    | error e => rfl
    | ok b =>
      simp only []
      rw [mapME_append_single f l a]
      cases mapME f l with
      | error e => rfl
      | ok bs => cases f a <;> rfl

/-- a loop that reads: the state is a function `R` of the values read so far, round `k` reads `rd k` (the model's read)
    and goes from `R vs` to `R (vs ++ [v])`, or panics where the model's read fails.  The loop is then `mapME rd` over the
    rounds — the shape in which the models write their scans.  The body is only asked about lists `vs` that ARE the reads of
    the rounds before `k` (so `vs.length = k - j`, and every element is a result of `rd`). -/
theorem loop_reads (R : List α → σ) (rd : Nat → Res α) (e : Fault) (d : Int) (ix : Nat → Int) (hix : ∀ k, ix (k + 1) = ix k + d)
    (body : Int → σ → Ctl σ ρ) (n j : Nat)
    (hb : ∀ k vs, j ≤ k → k < j + n → mapME rd (List.range' j (k - j)) = .ok vs → body (ix k) (R vs) =
      match rd k with
      | .ok v => .next (R (vs ++ [v]))
      | .error _ => .panic e) :
    loop body d n (ix j) (R []) =
      match mapME rd (List.range' j n) with
      | .ok vs => .next (R vs)
      | .error _ => .panic e := by
  rw [loop_sim (fun _ => R) (fun k vs => mapME rd (List.range' j (k - j)) = .ok vs) (readAcc rd e) d ix hix body n j []
    (by rw [Nat.sub_self]; rfl)
    (fun k vs h1 h2 hI => ⟨by rw [hb k vs h1 h2 hI, readAcc]; cases rd k <;> rfl, fun t' ht => by
      unfold readAcc at ht
      cases hr : rd k with
      | error _ => rw [hr] at ht; cases ht
      | ok v =>
        rw [hr] at ht
        cases ht
        rw [show k + 1 - j = (k - j) + 1 by omega, List.range'_1_concat, mapME_append_single, hI, show j + (k - j) = k by omega, hr]⟩),
    foldlM_reads]
  cases mapME rd (List.range' j n) <;> rfl

/-! ### instances: loops whose steps continue or panic, as monadic folds over the index range -/

/-- `for i := a; i < a+k; i++` whose body is a model step `f` on related states -/
theorem loop_up_fold' (R : τ → σ) (f : τ → Nat → Res τ) (a k : Nat)
    {body : Int → σ → Ctl σ ρ} {n : Nat} {i0 : Int} {s : σ} (t : τ)
    (hs : s = R t) (hn : n = k) (hi : i0 = (a : Int))
    (hb : ∀ i, a ≤ i → i < a + k → ∀ t, body (i : Int) (R t) = ofRes ((f t i).map R)) :
    loop body 1 n i0 s = ofRes (((List.range' a k).foldlM f t).map R) := by
  rw [loop_up_range' R (fun i t => ofRes (f t i)) a k t hs hn hi (fun i h1 h2 t => by rw [hb i h1 h2 t, Ctl.map_ofRes]),
    foldIdx_ofRes, Ctl.map_ofRes]

/-- `for i := m-1; i >= 0; i--`: indices m-1, …, 0 -/
theorem loop_down_fold' (R : τ → σ) (f : τ → Nat → Res τ) (m : Nat)
    {body : Int → σ → Ctl σ ρ} {n : Nat} {i0 : Int} {s : σ} (t : τ)
    (hs : s = R t) (hn : n = m) (hi : i0 = (m : Int) - 1)
    (hb : ∀ i, i < m → ∀ t, body (i : Int) (R t) = ofRes ((f t i).map R)) :
    loop body (-1) n i0 s = ofRes (((List.range m).reverse.foldlM f t).map R) := by
  subst hs hn hi
  have h := loop_foldIdx R (fun _ => True) (fun _ i t => ofRes (f t i)) (-1) (fun k => (n : Int) - 1 - (k : Int))
    (fun k => by omega) body (List.range n).reverse 0 t trivial
    (fun j hj t _ => by
      rw [List.length_reverse, List.length_range] at hj
      rw [List.getElem_reverse, List.getElem_range, List.length_range, Ctl.map_ofRes, ← hb (n - 1 - j) (by omega) t]
      congr 1; omega)
    (fun _ _ _ _ _ _ => trivial)
  rw [List.length_reverse, List.length_range] at h
  rw [show (n : Int) - 1 = (n : Int) - 1 - ((0 : Nat) : Int) by omega, h, foldIdx_ofRes, Ctl.map_ofRes]

/-! ### instances: loops that read a slice element by element -/

/-- `for i := a; i < a + k; i++` over `k` elements of `s` starting at `a` -/
theorem loop_up1' (s : List Int) (g : Int → σ → Ctl σ ρ) (a k : Nat) (ha : a + k ≤ s.length)
    {body : Int → σ → Ctl σ ρ} {n : Nat} {i0 : Int} {st : σ}
    (hb : ∀ (i : Nat) (h : i < s.length) st, body (i : Int) st = g s[i] st)
    (hn : n = k) (hi : i0 = (a : Int)) :
    loop body 1 n i0 st = foldC g ((s.drop a).take k) st := by
  have hl : ((s.drop a).take k).length = k := by rw [List.length_take, List.length_drop]; omega
  rw [loop_up_list' id (fun _ v st => g v st) ((s.drop a).take k) a st (s := st) rfl (hn.trans hl.symm) hi (fun j hj st => by
    rw [hl] at hj
    rw [Ctl.map_id, List.getElem_take, List.getElem_drop]
    exact hb (a + j) (by omega) st), foldIdx_foldC, Ctl.map_id]

/-- `for i := m-1; i >= 0; i--` over the first `m` elements of `s`, last first -/
theorem loop_down1' (s : List Int) (g : Int → σ → Ctl σ ρ) (m : Nat) (hm : m ≤ s.length)
    {body : Int → σ → Ctl σ ρ} {n : Nat} {i0 : Int} {st : σ}
    (hb : ∀ (i : Nat) (h : i < s.length) st, body (i : Int) st = g s[i] st)
    (hn : n = m) (hi : i0 = (m : Int) - 1) :
    loop body (-1) n i0 st = foldC g (s.take m).reverse st := by
  subst hn hi
  have hl : (s.take n).reverse.length = n := by rw [List.length_reverse, List.length_take]; omega
  have h := loop_foldIdx id (fun _ => True) (fun _ v st => g v st) (-1) (fun k => (n : Int) - 1 - (k : Int))
    (fun k => by omega) body (s.take n).reverse 0 st trivial
    (fun j hj st _ => by
      rw [hl] at hj
      have e : (n : Int) - 1 - ((0 + j : Nat) : Int) = ((n - 1 - j : Nat) : Int) := by omega
      rw [Ctl.map_id, e, List.getElem_reverse, List.getElem_take]
      simp only [List.length_take, Nat.min_eq_left hm]
      exact hb (n - 1 - j) (by omega) st)
    (fun _ _ _ _ _ _ => trivial)
  rw [hl, Ctl.map_id, foldIdx_foldC] at h
  rw [← h]
  congr 1
  omega

theorem take_pred_reverse {α} (s : List α) : (s.take (s.length - 1)).reverse = s.reverse.tail := by
  rw [List.tail_reverse, List.dropLast_eq_take]

/-- `for i := m-1; i >= 0; i -= 2` over the first `m` elements of `s`: elements m-1, m-3, ….  Not an instance of
    `loop_foldIdx`: `foldC2` steps over two elements of the list per round, `foldIdx` over one; hence an induction of its own,
    two rounds of the list at a time -/
theorem loop_down2' (s : List Int) (g : Int → σ → Ctl σ ρ) (m : Nat) (hm : m ≤ s.length)
    {body : Int → σ → Ctl σ ρ} {n : Nat} {i0 : Int} {st : σ}
    (hb : ∀ (i : Nat) (h : i < s.length) st, body (i : Int) st = g s[i] st)
    (hn : n = (m + 1) / 2) (hi : i0 = (m : Int) - 1) :
    loop body (-2) n i0 st = foldC2 g (s.take m).reverse st := by
  subst hn hi
  induction m using Nat.strongRecOn generalizing st with
  | _ m ih =>
    match m, ih, hm with
    | 0, _, _ => simp [loop, foldC2]
    | 1, _, hm =>
      have hlt : 0 < s.length := by omega
      have e : (s.take 1).reverse = [s[0]] := by
        cases s with
        | nil => simp at hlt
        | cons a t => simp
      rw [e]
      show loop body (-2) 1 (((1 : Nat) : Int) - 1) st = _
      have e0 : (((1 : Nat) : Int) - 1) = ((0 : Nat) : Int) := by omega
      rw [e0]
      simp only [loop, foldC2]
      rw [hb 0 hlt st]
      cases g s[0] st <;> rfl
    | m + 2, ih, hm =>
      have h1 : m + 1 < s.length := by omega
      have h0 : m < s.length := by omega
      have e : (s.take (m + 2)).reverse = s[m + 1] :: s[m] :: (s.take m).reverse := by
        rw [List.take_succ_eq_append_getElem h1, List.take_succ_eq_append_getElem h0]
        simp
      have en : (m + 2 + 1) / 2 = (m + 1) / 2 + 1 := by omega
      have ei : ((m + 2 : Nat) : Int) - 1 = ((m + 1 : Nat) : Int) := by omega
      rw [e, en, ei]
      simp only [loop, foldC2]
      rw [hb (m + 1) h1 st]
      have e2 : ((m + 1 : Nat) : Int) + -2 = (m : Int) - 1 := by omega
      cases hg : g s[m + 1] st with
      | next st' => simp only [e2]; exact ih m (by omega) (by omega)
      | brk s' => rfl
      | ret r => rfl
      | panic f => rfl

/-! ### relational rules -/

/-- `Q n i s c`: `c` is a right outcome of `n` rounds from index `i` and state `s` -/
theorem loop_rule {body : Int → σ → Ctl σ ρ} {d : Int} (Q : Nat → Int → σ → Ctl σ ρ → Prop)
    (zero : ∀ i s, Q 0 i s (.next s))
    (step : ∀ n i s, match body i s with
      | .next s' => ∀ c, Q n (i + d) s' c → Q (n + 1) i s c
      | c => Q (n + 1) i s c) :
    ∀ n i s, Q n i s (loop body d n i s) := by
  intro n
  induction n with
  | zero => exact zero
  | succ n ih =>
    intro i s
    have h := step n i s
    rw [loop_succ]
    cases hb : body i s with
    | next s' => rw [hb] at h; exact h _ (ih (i + d) s')
    | brk s' => rw [hb] at h; exact h
    | ret r => rw [hb] at h; exact h
    | panic f => rw [hb] at h; exact h

/-- an invariant indexed by the rounds done; every early exit satisfies `E` -/
theorem loop_inv (body : Int → σ → Ctl σ ρ) (d : Int) (I : Nat → σ → Prop) (E : Ctl σ ρ → Prop) (N : Nat) (i0 : Int)
    (step : ∀ k s, k < N → I k s → match body (i0 + k * d) s with | .next s' => I (k + 1) s' | c => E c) :
    ∀ (n k : Nat) (s : σ), k + n = N → I k s →
      match loop body d n (i0 + k * d) s with | .next s' => I N s' | c => E c := by
  intro n k s hk hI
  refine loop_rule (body := body) (d := d)
    (fun n i s c => ∀ k : Nat, k + n = N → i = i0 + k * d → I k s → match c with | .next s' => I N s' | c => E c)
    (fun i s k hk _ hI => by
      obtain rfl : k = N := by omega
      exact hI) ?_ n _ s k hk rfl hI
  intro n i s
  cases hb : body i s with
  | next s' =>
    intro c hc k hk hi hI
    have h := step k s (by omega) hI
    rw [← hi, hb] at h
    exact hc (k + 1) (by omega) (by rw [hi, Int.natCast_add, Int.add_mul]; omega) h
  | brk s' => intro k hk hi hI; have h := step k s (by omega) hI; rw [← hi, hb] at h; exact h
  | ret r => intro k hk hi hI; have h := step k s (by omega) hI; rw [← hi, hb] at h; exact h
  | panic f => intro k hk hi hI; have h := step k s (by omega) hI; rw [← hi, hb] at h; exact h

/-- `for i := a; i < a + N; i++` whose body never leaves the loop; stated for the last `n` rounds, `k` being done -/
theorem loop_inv_next (body : Int → σ → Ctl σ ρ) (I : Nat → σ → Prop) (N a : Nat)
    (step : ∀ k s, k < N → I k s → ∃ s', body ((a + k : Nat) : Int) s = .next s' ∧ I (k + 1) s') :
    ∀ (n k : Nat) (s : σ), k + n = N → I k s → ∃ s', loop body 1 n ((a + k : Nat) : Int) s = .next s' ∧ I N s' := by
  intro n k s hk hI
  have h := loop_inv body 1 I (fun _ => False) N (a : Int) (fun j s hj hI => by
    obtain ⟨s', e, h⟩ := step j s hj hI
    rw [show (a : Int) + (j : Int) * 1 = ((a + j : Nat) : Int) by omega, e]; exact h) n k s hk hI
  rw [show (a : Int) + (k : Int) * 1 = ((a + k : Nat) : Int) by omega] at h
  cases hl : loop body 1 n ((a + k : Nat) : Int) s <;> rw [hl] at h
  · exact ⟨_, rfl, h⟩
  all_goals exact h.elim

/-- lock step of two counted loops from 0 with step 1; the bodies are only asked about the indices the loop visits
    (not an instance of `K01e.loop_rel`, whose `P i → P (i + d)` would have to hold at the bound as well) -/
theorem loop_rel0 {σ1 σ2 ρ1 ρ2 : Type} (R : σ1 → σ2 → Prop) (b1 : Int → σ1 → Ctl σ1 ρ1) (b2 : Int → σ2 → Ctl σ2 ρ2) (n : Nat)
    (hstep : ∀ k : Nat, k < n → ∀ s1 s2, R s1 s2 → ∃ s1' s2', b1 (k : Int) s1 = .next s1' ∧ b2 (k : Int) s2 = .next s2' ∧ R s1' s2') :
    ∀ (j k : Nat) (s1 : σ1) (s2 : σ2), k + j = n → R s1 s2 →
      ∃ s1' s2', loop b1 1 j (k : Int) s1 = .next s1' ∧ loop b2 1 j (k : Int) s2 = .next s2' ∧ R s1' s2' := by
  intro j
  induction j with
  | zero => intro k s1 s2 _ h; exact ⟨s1, s2, rfl, rfl, h⟩
  | succ j ih =>
    intro k s1 s2 hk h
    obtain ⟨s1', s2', e1, e2, h'⟩ := hstep k (by omega) s1 s2 h
    obtain ⟨t1, t2, f1, f2, h''⟩ := ih (k + 1) s1' s2' (by omega) h'
    exact ⟨t1, t2, by rw [loop_succ, e1]; exact f1, by rw [loop_succ, e2]; exact f2, h''⟩

/-- lock step of two loops `for k := 0; k < len(xs); k++` -/
theorem loop_rel_len {σ1 σ2 ρ1 ρ2 : Type} (R : σ1 → σ2 → Prop) (b1 : Int → σ1 → Ctl σ1 ρ1) (b2 : Int → σ2 → Ctl σ2 ρ2) (xs : List Int)
    (hstep : ∀ k : Nat, k < xs.length → ∀ s1 s2, R s1 s2 → ∃ s1' s2', b1 (k : Int) s1 = .next s1' ∧ b2 (k : Int) s2 = .next s2' ∧ R s1' s2')
    (s1 : σ1) (s2 : σ2) (h : R s1 s2) :
    ∃ s1' s2', loop b1 1 (tripUp 0 (len xs) 1) 0 s1 = .next s1' ∧ loop b2 1 (tripUp 0 (len xs) 1) 0 s2 = .next s2' ∧ R s1' s2' := by
  have ht : tripUp 0 (len xs) 1 = xs.length := by rw [tripUp_one]; simp [len]
  rw [ht]
  exact loop_rel0 R b1 b2 xs.length hstep xs.length 0 s1 s2 (by omega) h

/-- induction on a measure `m` below the fuel, unrolled once: `W` stands for the rest of the run, so that neither the fuel
    nor `whileLoop_succ` shows in a proof that uses the rule -/
theorem whileLoop_ind {body : σ → Ctl σ ρ} (Q : Nat → σ → Ctl σ ρ → Prop)
    (step : ∀ m s (W : σ → Ctl σ ρ), (∀ m' s', m' < m → Q m' s' (W s')) →
      Q m s (match body s with | .next s' => W s' | .brk s' => .brk s' | .ret r => .ret r | .panic f => .panic f)) :
    ∀ fuel m s, m < fuel → Q m s (whileLoop body fuel s) := by
  intro fuel
  induction fuel with
  | zero => intro m s h; omega
  | succ fuel ih =>
    intro m s hf
    rw [whileLoop_succ]
    exact step m s _ (fun m' s' h => ih m' s' (by omega))

/-- a `for cond` loop with a counter: `n - k` more rounds keep the invariant, then the condition fails -/
theorem whileLoop_inv (body : σ → Ctl σ ρ) (I : Nat → σ → Prop) (n : Nat)
    (hstep : ∀ k st, k < n → I k st → ∃ st', body st = .next st' ∧ I (k + 1) st')
    (hend : ∀ st, I n st → body st = .brk st) :
    ∀ (j k : Nat) (st : σ) (fuel : Nat), k + j = n → j < fuel → I k st →
      ∃ st', whileLoop body fuel st = .brk st' ∧ I n st' := by
  intro j k st fuel hk hf hI
  refine whileLoop_ind (body := body) (fun j st c => ∀ k, k + j = n → I k st → ∃ st', c = .brk st' ∧ I n st')
    (fun j st W ih k hk hI => ?_) fuel j st hf k hk hI
  by_cases hkn : k < n
  · obtain ⟨st', hb, hI'⟩ := hstep k st hkn hI
    rw [hb]; exact ih (j - 1) st' (by omega) (k + 1) (by omega) hI'
  · obtain rfl : k = n := by omega
    rw [hend st hI]; exact ⟨st, rfl, hI⟩

end Gzx.GoM
