/-
  C10 helper lemmas on the check-digit model (Gzx/Model/CheckDigit.lean).  Every check sum of the model is `dot ws vs`
  (Σ wᵢ·vᵢ) against its weight list (`altW` for UPC/EAN and EAN-5, `range'` for Code 128, `c93Weights`, all ones for
  Code 39), so that one substituted value or two swapped neighbours are detected by one lemma each
  (`dot_detects_substitution`, `dot_detects_transposition`) whenever the weight, resp. the difference of the two
  weights, is a unit modulo the modulus.  Then: digit strings at byte and digit level, parity tables and words, the
  check-digit stage of the UPC/EAN writers (UPC-E in two steps), the UPC-E expansion at digit level.
-/
import Gzx.Model.CheckDigit
namespace Gzx.CheckDigit

/-! ## weighted sums modulo `p` -/

/-- the one arithmetic fact behind every detection theorem of C10: if two sums differ by `w·(a − b)` with `w` a unit
    modulo `p` and `a ≢ b`, they differ modulo `p`.  Substitution: `w` the weight of the position; adjacent
    transposition: `w` the difference of the two weights. -/
theorem shift_detected {p w : Nat} (hw : Nat.Coprime w p) {X Y a b : Nat} (h : X + w * a = Y + w * b)
    (hne : a % p ≠ b % p) : X % p ≠ Y % p := by
  have key : ∀ {X Y a b : Nat}, a ≤ b → X + w * a = Y + w * b → X % p = Y % p → a % p = b % p := by
    intro X Y a b hab h hm
    have e : X - Y = w * (b - a) := by rw [Nat.mul_sub]; omega
    have hz : (w * (b - a)) % p = 0 := e ▸ Nat.sub_mod_eq_zero_of_mod_eq hm
    have hd : p ∣ b - a := hw.symm.dvd_of_dvd_mul_left (Nat.dvd_of_mod_eq_zero hz)
    have : b = a + (b - a) := by omega
    rw [this, Nat.add_mod, Nat.mod_eq_zero_of_dvd hd, Nat.add_zero, Nat.mod_mod]
  intro hm
  rcases Nat.le_total a b with hab | hab
  · exact hne (key hab h hm)
  · exact hne (key hab h.symm hm.symm).symm

/-- Σ wᵢ·vᵢ -/
def dot : List Nat → List Nat → Nat
  | w :: ws, v :: vs => w * v + dot ws vs
  | _, _ => 0

theorem dot_set (ws vs : List Nat) (i v' : Nat) (hv : i < vs.length) (hw : i < ws.length) :
    dot ws (vs.set i v') + ws[i] * vs[i] = dot ws vs + ws[i] * v' := by
  induction ws generalizing vs i with
  | nil => simp at hw
  | cons w ws ih =>
    cases vs with
    | nil => simp at hv
    | cons v vs =>
      cases i with
      | zero => simp [dot]; omega
      | succ i =>
        have := ih vs i (by simpa using hv) (by simpa using hw)
        simp only [List.set_cons_succ, dot, List.getElem_cons_succ]; omega

theorem dot_append (ws pre vs : List Nat) (h : pre.length ≤ ws.length) :
    dot ws (pre ++ vs) = dot ws pre + dot (ws.drop pre.length) vs := by
  induction pre generalizing ws with
  | nil => cases ws <;> simp [dot]
  | cons x xs ih =>
    cases ws with
    | nil => simp at h
    | cons w ws => simp only [List.cons_append, dot, List.length_cons, List.drop_succ_cons,
        ih ws (by simpa using h)]; omega

/-- the two sums of an adjacent transposition, both orders of the two weights -/
theorem dot_swap (wa wb : Nat) (ws post : List Nat) (a b : Nat) :
    dot (wa :: wb :: ws) (a :: b :: post) + (wa - wb) * b + (wb - wa) * a =
      dot (wa :: wb :: ws) (b :: a :: post) + (wa - wb) * a + (wb - wa) * b := by
  simp only [dot]
  rcases Nat.le_total wa wb with h | h
  · obtain ⟨d, rfl⟩ := Nat.exists_eq_add_of_le h
    simp [Nat.add_mul]; omega
  · obtain ⟨d, rfl⟩ := Nat.exists_eq_add_of_le h
    simp [Nat.add_mul]; omega

theorem dot_detects_substitution {p : Nat} (ws vs : List Nat) (i v' : Nat) (hv : i < vs.length) (hw : i < ws.length)
    (hc : Nat.Coprime ws[i] p) (hne : vs[i] % p ≠ v' % p) : dot ws (vs.set i v') % p ≠ dot ws vs % p :=
  shift_detected hc (dot_set ws vs i v' hv hw) hne

/-- adjacent transposition, every weighted checksum: detected when the difference of the two weights is a unit mod `p` -/
theorem dot_detects_transposition {p : Nat} (ws pre post rest : List Nat) (a b wa wb : Nat)
    (hpre : pre.length ≤ ws.length) (hws : ws.drop pre.length = wa :: wb :: rest)
    (hc : Nat.Coprime ((wa - wb) + (wb - wa)) p) (hne : a % p ≠ b % p) :
    dot ws (pre ++ b :: a :: post) % p ≠ dot ws (pre ++ a :: b :: post) % p := by
  rw [dot_append _ _ _ hpre, dot_append _ _ _ hpre, hws]
  have := dot_swap wa wb rest post a b
  rcases Nat.le_total wa wb with h | h
  · have e : wa - wb = 0 := by omega
    rw [e, Nat.zero_add] at hc
    rw [e] at this
    exact shift_detected hc (a := b) (b := a) (by omega) (fun e => hne e.symm)
  · have e : wb - wa = 0 := by omega
    rw [e, Nat.add_zero] at hc
    rw [e] at this
    exact shift_detected hc (a := a) (b := b) (by omega) hne

/-- `p` has no divisor in 2..p-1 -/
def noDivisor (p : Nat) : Bool := (List.range p).all fun d => d ≤ 1 || p % d != 0
theorem nd103 : noDivisor 103 = true := by decide +kernel
theorem nd47 : noDivisor 47 = true := by decide +kernel

/-- below a prime every non-zero weight is a unit: `gcd w p` divides `p` and is at most `w < p` -/
theorem unit_below_prime {p : Nat} (h : noDivisor p = true) {w : Nat} (h0 : w ≠ 0) (hw : w < p) : Nat.Coprime w p := by
  have hg1 : Nat.gcd w p ∣ w := Nat.gcd_dvd_left w p
  have hg2 : Nat.gcd w p ∣ p := Nat.gcd_dvd_right w p
  have hle : Nat.gcd w p ≤ w := Nat.le_of_dvd (by omega) hg1
  have := List.all_eq_true.mp h (Nat.gcd w p) (List.mem_range.mpr (by omega))
  simp only [Bool.or_eq_true, decide_eq_true_eq, bne_iff_ne, ne_eq] at this
  rcases this with h1 | h1
  · have : Nat.gcd w p ≠ 0 := by
      intro e; rw [e] at hg1; have := Nat.eq_zero_of_zero_dvd hg1; omega
    show Nat.gcd w p = 1
    omega
  · exact absurd (Nat.mod_eq_zero_of_dvd hg2) h1

/-- weights alternating from the RIGHT: the last position has weight `x`, the one before `y`, … -/
def altW (x y : Nat) : Nat → List Nat
  | 0 => []
  | n + 1 => (if n % 2 = 0 then x else y) :: altW x y n

theorem altW_length (x y n : Nat) : (altW x y n).length = n := by
  induction n with
  | zero => rfl
  | succ n ih => simp [altW, ih]

theorem altW_mem (x y n w : Nat) (h : w ∈ altW x y n) : w = x ∨ w = y := by
  induction n with
  | zero => simp [altW] at h
  | succ n ih =>
    simp only [altW, List.mem_cons] at h
    rcases h with rfl | h
    · split <;> simp
    · exact ih h

theorem altW_drop (x y n k : Nat) : (altW x y n).drop k = altW x y (n - k) := by
  induction n generalizing k with
  | zero => simp [altW]
  | succ n ih =>
    cases k with
    | zero => simp
    | succ k => simp [altW, ih]

/-- a right-to-left weighted sum whose weights alternate `a, b, a, …`, written with a flag for the next weight
    (`eanSumAux`: 3, 1; `ext5SumAux`: 3, 9), is `dot` against `altW a b` -/
theorem altSum_eq_dot (a b : Nat) (aux : List Nat → Nat × Bool) (h0 : aux [] = (0, true))
    (hc : ∀ d ds, aux (d :: ds) = ((aux ds).1 + (if (aux ds).2 then a else b) * d, !(aux ds).2)) (ds : List Nat) :
    aux ds = (dot (altW a b ds.length) ds, decide (ds.length % 2 = 0)) := by
  induction ds with
  | nil => rw [h0]; rfl
  | cons d ds ih =>
    rw [hc, ih, List.length_cons, altW, dot]
    by_cases h : ds.length % 2 = 0
    · have : ¬ (ds.length + 1) % 2 = 0 := by omega
      simp only [h, this, decide_true, decide_false, if_true, Bool.not_true, Nat.add_comm]
    · have : (ds.length + 1) % 2 = 0 := by omega
      simp only [h, this, decide_true, decide_false, Bool.false_eq_true, if_false, Bool.not_false, Nat.add_comm]

/-! ## UPC/EAN mod 10 -/

theorem eanSumAux_eq_dot (ds : List Nat) : eanSumAux ds = (dot (altW 3 1 ds.length) ds, decide (ds.length % 2 = 0)) :=
  altSum_eq_dot 3 1 eanSumAux rfl (fun _ _ => rfl) ds

theorem ext5SumAux_eq_dot (ds : List Nat) : ext5SumAux ds = (dot (altW 3 9 ds.length) ds, decide (ds.length % 2 = 0)) :=
  altSum_eq_dot 3 9 ext5SumAux rfl (fun _ _ => rfl) ds

theorem goCheckOf_eq_mod {a b : Nat} (h : goCheckOf a = goCheckOf b) : a % 10 = b % 10 := by
  unfold goCheckOf at h
  split at h <;> split at h <;> omega

/-- a single changed digit changes the check digit: weights 1 and 3 are units modulo 10 -/
theorem eanCheckDigit_set_ne (ds : List Nat) (i d' : Nat) (hi : i < ds.length)
    (hd : ds[i] < 10) (hd' : d' < 10) (hne : d' ≠ ds[i]) :
    eanCheckDigit (ds.set i d') ≠ eanCheckDigit ds := by
  intro h
  have hm := goCheckOf_eq_mod h
  simp only [eanSum, eanSumAux_eq_dot, List.length_set] at hm
  have hw : i < (altW 3 1 ds.length).length := by rw [altW_length]; exact hi
  refine dot_detects_substitution (p := 10) _ ds i d' hi hw ?_ (by omega) hm
  rcases altW_mem _ _ _ _ (List.getElem_mem hw) with e | e <;> rw [e] <;> decide

theorem eanValid_concat (body : List Nat) (c : Nat) :
    eanValid (body ++ [c]) = (eanCheckDigit body == ((c : Nat) : Int)) := by
  simp [eanValid]

theorem goCheckOf_range (s : Nat) : -9 ≤ goCheckOf s ∧ goCheckOf s ≤ 9 := by
  unfold goCheckOf; split <;> omega

/-- every digit weighs at most 3 · 9 = 27: up to 37 digits keep the sum below 1000, i.e. Go's `(1000 - sum) % 10` in its
    non-negative branch (`goCheckOf_nonneg`); hence the bounds `≤ 37` / `n ≤ 38` in Properties/C10 -/
theorem eanSum_le (ds : List Nat) (hd : ∀ d ∈ ds, d < 10) : eanSum ds ≤ 27 * ds.length := by
  unfold eanSum
  induction ds with
  | nil => simp [eanSumAux]
  | cons x xs ih =>
    have hx : x < 10 := hd x (by simp)
    have := ih (fun d h => hd d (by simp [h]))
    simp only [eanSumAux, List.length_cons]
    split <;> omega

theorem goCheckOf_nonneg {s : Nat} (h : s ≤ 1000) : goCheckOf s = (((1000 - s) % 10 : Nat) : Int) := by
  simp [goCheckOf, h]

/-! ## digits? -/

theorem digits?_digitBytes (ds : List Nat) (hd : ∀ d ∈ ds, d < 10) : digits? (digitBytes ds) = some ds := by
  induction ds with
  | nil => simp [digitBytes, digits?]
  | cons x xs ih =>
    have hx : x < 10 := hd x (by simp)
    have := ih (fun d h => hd d (by simp [h]))
    simp only [digitBytes, List.map_cons] at this ⊢
    simp only [digits?, isDigitByte, this]
    have h1 : (decide (48 ≤ x + 48) && decide (x + 48 ≤ 57)) = true := by simp; omega
    rw [if_pos h1]; simp

theorem digits?_some_iff (bs : List Nat) : (∃ ds, digits? bs = some ds) ↔ allDigits bs = true := by
  induction bs with
  | nil => simp [digits?, allDigits]
  | cons b bs ih =>
    simp only [digits?, allDigits, List.all_cons] at ih ⊢
    by_cases hb : isDigitByte b = true
    · simp only [hb, if_true, Bool.true_and]
      rw [← ih]
      constructor
      · rintro ⟨ds, h⟩
        cases h' : digits? bs with
        | none => simp [h'] at h
        | some t => exact ⟨t, rfl⟩
      · rintro ⟨ds, h⟩
        exact ⟨(b - 48) :: ds, by simp [h]⟩
    · simp [hb]

theorem digits?_length {bs ds : List Nat} (h : digits? bs = some ds) : ds.length = bs.length := by
  induction bs generalizing ds with
  | nil => simp [digits?] at h; simp [h]
  | cons b bs ih =>
    simp only [digits?] at h
    split at h
    · cases h' : digits? bs with
      | none => simp [h'] at h
      | some t =>
        simp [h'] at h
        subst h
        simp [ih h']
    · cases h

theorem digits?_lt {bs ds : List Nat} (h : digits? bs = some ds) : ∀ d ∈ ds, d < 10 := by
  induction bs generalizing ds with
  | nil => simp [digits?] at h; simp [h]
  | cons b bs ih =>
    simp only [digits?] at h
    split at h
    · rename_i hb
      cases h' : digits? bs with
      | none => simp [h'] at h
      | some t =>
        simp [h'] at h
        subst h
        intro d hd
        simp only [List.mem_cons] at hd
        rcases hd with rfl | hd
        · simp [isDigitByte] at hb; omega
        · exact ih h' d hd
    · cases h

/-! ## parity tables -/

theorem indexOf?_lt {x : Nat} {T : List Nat} {i : Nat} (h : indexOf? x T = some i) : i < T.length := by
  induction T generalizing i with
  | nil => simp [indexOf?] at h
  | cons y ys ih =>
    simp only [indexOf?] at h
    split at h
    · cases h; simp
    · cases h' : indexOf? x ys with
      | none => simp [h'] at h
      | some j => simp [h'] at h; subst h; have := ih h'; simp; omega

theorem indexOf?_get {x : Nat} {T : List Nat} {i : Nat} (h : indexOf? x T = some i) : T[i]? = some x := by
  induction T generalizing i with
  | nil => simp [indexOf?] at h
  | cons y ys ih =>
    simp only [indexOf?] at h
    split at h
    · rename_i hy; cases h; simp [hy]
    · cases h' : indexOf? x ys with
      | none => simp [h'] at h
      | some j => simp [h'] at h; subst h; simpa using ih h'

theorem indexOf?_none {x : Nat} {T : List Nat} (h : indexOf? x T = none) : x ∉ T := by
  induction T with
  | nil => simp
  | cons y ys ih =>
    simp only [indexOf?] at h
    split at h
    · cases h
    · rename_i hy
      cases h' : indexOf? x ys with
      | none => simp [List.mem_cons]; exact ⟨fun e => hy e.symm, ih h'⟩
      | some j => simp [h'] at h

theorem indexOf?_getElem {T : List Nat} (hT : distinct T = true) (i : Nat) (hi : i < T.length) :
    indexOf? T[i] T = some i := by
  induction T generalizing i with
  | nil => simp at hi
  | cons y ys ih =>
    simp only [distinct, Bool.and_eq_true, Bool.not_eq_true', List.contains_eq_mem,
      decide_eq_false_iff_not] at hT
    cases i with
    | zero => simp [indexOf?]
    | succ j =>
      have hj : j < ys.length := by simpa using hi
      simp only [List.getElem_cons_succ, indexOf?]
      have hne : ¬ y = ys[j] := by
        intro e; apply hT.1; rw [e]; exact List.getElem_mem hj
      simp [hne, ih hT.2 j hj]

def WFParity (T : List Nat) : Bool := T.length == 10 && distinct T

def WFParity2 (T : List (List Nat)) : Bool :=
  match T with
  | [r0, r1] => r0.length == 10 && r1.length == 10 && distinct (r0 ++ r1)
  | _ => false

theorem scan10_getElem {T : List Nat} (h : WFParity T = true) (d : Nat) (hd : d < 10) :
    ∃ hd' : d < T.length, scan10 T T[d] = .ok d := by
  simp only [WFParity, Bool.and_eq_true, beq_iff_eq] at h
  have hd' : d < T.length := by omega
  refine ⟨hd', ?_⟩
  unfold scan10
  rw [List.take_of_length_le (by omega), indexOf?_getElem h.2 d hd']

theorem scan10_ok {T : List Nat} {lg d : Nat} (h : scan10 T lg = .ok d) : d < 10 ∧ T[d]? = some lg := by
  unfold scan10 at h
  split at h
  · rename_i d' hd
    cases h
    have h1 := indexOf?_lt hd
    have h2 := indexOf?_get hd
    simp only [List.length_take] at h1
    refine ⟨by omega, ?_⟩
    rw [List.getElem?_take] at h2
    split at h2
    · exact h2
    · cases h2
  · split at h <;> cases h

theorem distinct_append_left {a b : List Nat} (h : distinct (a ++ b) = true) : distinct a = true := by
  induction a with
  | nil => rfl
  | cons x xs ih =>
    simp only [List.cons_append, distinct, Bool.and_eq_true, Bool.not_eq_true', List.contains_eq_mem,
      decide_eq_false_iff_not, List.mem_append, not_or] at h ⊢
    exact ⟨h.1.1, ih h.2⟩

theorem distinct_append_right {a b : List Nat} (h : distinct (a ++ b) = true) : distinct b = true := by
  induction a with
  | nil => exact h
  | cons x xs ih =>
    simp only [List.cons_append, distinct, Bool.and_eq_true] at h
    exact ih h.2

theorem distinct_append_disjoint {a b : List Nat} (h : distinct (a ++ b) = true) : ∀ x ∈ a, x ∉ b := by
  induction a with
  | nil => simp
  | cons y ys ih =>
    simp only [List.cons_append, distinct, Bool.and_eq_true, Bool.not_eq_true', List.contains_eq_mem,
      decide_eq_false_iff_not, List.mem_append, not_or] at h
    intro x hx
    simp only [List.mem_cons] at hx
    rcases hx with rfl | hx
    · exact h.1.2
    · exact ih h.2 x hx

/-! ## Code 128 -/

theorem wsumFrom_eq_dot (w : Nat) (l : List Nat) : wsumFrom w l = dot (List.range' w l.length) l := by
  induction l generalizing w with
  | nil => simp [wsumFrom, dot]
  | cons x xs ih => simp [wsumFrom, dot, List.range'_succ, ih]

/-- the start code takes part with weight 1 -/
theorem c128Check_eq_dot (start : Nat) (data : List Nat) :
    c128Check start data = dot (1 :: List.range' 1 data.length) (start :: data) % 103 := by
  rw [c128Check, wsumFrom_eq_dot, dot, Nat.one_mul]

theorem wsumFrom_append (w : Nat) (l : List Nat) (c : Nat) :
    wsumFrom w (l ++ [c]) = wsumFrom w l + (w + l.length) * c := by
  induction l generalizing w with
  | nil => simp [wsumFrom]
  | cons x xs ih =>
    simp only [List.cons_append, wsumFrom, ih, List.length_cons]
    have e : w + 1 + xs.length = w + (xs.length + 1) := by omega
    rw [e]; omega

/-! ## Code 93 -/

theorem c93Next_range {maxW w : Nat} (hm : 1 ≤ maxW) (hw : 1 ≤ w ∧ w ≤ maxW) :
    1 ≤ c93Next maxW w ∧ c93Next maxW w ≤ maxW := by
  unfold c93Next; split <;> omega

/-- the weight cycle `w, next w, …` of `c93SumRev` -/
def c93Weights (maxW : Nat) : Nat → Nat → List Nat
  | _, 0 => []
  | w, n + 1 => w :: c93Weights maxW (c93Next maxW w) n

theorem c93SumRev_eq_dot (maxW w : Nat) (l : List Nat) : c93SumRev maxW w l = dot (c93Weights maxW w l.length) l := by
  induction l generalizing w with
  | nil => simp [c93SumRev, c93Weights, dot]
  | cons x xs ih => simp [c93SumRev, c93Weights, dot, ih, Nat.mul_comm]

theorem c93Weights_range {maxW : Nat} (hm : 1 ≤ maxW) : ∀ (n w : Nat), 1 ≤ w ∧ w ≤ maxW →
    ∀ u ∈ c93Weights maxW w n, 1 ≤ u ∧ u ≤ maxW
  | 0, _, _, u, hu => by simp [c93Weights] at hu
  | n + 1, w, hw, u, hu => by
    simp only [c93Weights, List.mem_cons] at hu
    rcases hu with rfl | hu
    · exact hw
    · exact c93Weights_range hm n _ (c93Next_range hm hw) u hu

theorem c93Weights_length (maxW w n : Nat) : (c93Weights maxW w n).length = n := by
  induction n generalizing w with
  | zero => rfl
  | succ n ih => simp [c93Weights, ih]

theorem c93Weights_drop {maxW : Nat} (hm : 1 ≤ maxW) : ∀ (k w n : Nat), 1 ≤ w ∧ w ≤ maxW →
    ∃ u, (1 ≤ u ∧ u ≤ maxW) ∧ (c93Weights maxW w n).drop k = c93Weights maxW u (n - k)
  | 0, w, n, hw => ⟨w, hw, by simp⟩
  | k + 1, w, 0, hw => ⟨w, hw, by simp [c93Weights]⟩
  | k + 1, w, n + 1, hw => by
    obtain ⟨u, hu, hd⟩ := c93Weights_drop hm k (c93Next maxW w) n (c93Next_range hm hw)
    exact ⟨u, hu, by simp [c93Weights, hd]⟩

theorem reverse_set_exists {α} (l : List α) (i : Nat) (a : α) (hi : i < l.length) :
    ∃ j, ∃ hj : j < l.reverse.length, (l.set i a).reverse = l.reverse.set j a ∧ l.reverse[j] = l[i] := by
  induction l generalizing i with
  | nil => simp at hi
  | cons x xs ih =>
    cases i with
    | zero =>
      refine ⟨xs.length, by simp, ?_, ?_⟩
      · simp only [List.set_cons_zero, List.reverse_cons]
        rw [List.set_append_right _ _ (by simp)]
        simp
      · simp
    | succ k =>
      have hk : k < xs.length := by simpa using hi
      obtain ⟨j, hj, h1, h2⟩ := ih k hk
      have hj' : j < xs.reverse.length := hj
      refine ⟨j, by simp at hj ⊢; omega, ?_, ?_⟩
      · simp only [List.set_cons_succ, List.reverse_cons, h1]
        rw [List.set_append_left _ _ hj']
      · simp only [List.reverse_cons, List.getElem_cons_succ]
        rw [List.getElem_append_left hj']
        exact h2

theorem c93ReaderAccept_concat (data : List Nat) (c k : Nat) :
    c93ReaderAccept (data ++ [c, k]) = .ok (c93Check 20 data == c && c93Check 15 (data ++ [c]) == k) := by
  unfold c93ReaderAccept
  have h1 : (data ++ [c, k]).length = data.length + 2 := by simp
  rw [h1]
  have e1 : (data ++ [c, k]).drop (data.length + 2 - 2) = [c, k] := by simp
  have e2 : (data ++ [c, k]).take (data.length + 2 - 2) = data := by simp
  have e3 : (data ++ [c, k]).take (data.length + 2 - 1) = data ++ [c] := by
    have : data.length + 2 - 1 = data.length + 1 := by omega
    rw [this, List.take_append, List.take_of_length_le (by omega)]
    simp
  rw [e1, e2, e3]
  simp

/-! ## Code 39 mod 43: all weights 1 -/

theorem sumL_eq_dot (l : List Nat) : sumL l = dot (List.replicate l.length 1) l := by
  induction l with
  | nil => rfl
  | cons x xs ih => simp only [sumL, List.foldr_cons] at ih ⊢; simp [List.replicate_succ, dot, ih]

/-! ## byte level ↔ digit level -/

theorem allDigits_exists (s : List Nat) (hs : allDigits s = true) :
    ∃ ds, s = digitBytes ds ∧ ∀ d ∈ ds, d < 10 := by
  induction s with
  | nil => exact ⟨[], rfl, by simp⟩
  | cons b bs ih =>
    simp only [allDigits, List.all_cons, Bool.and_eq_true] at hs
    obtain ⟨ds, rfl, hd⟩ := ih hs.2
    have hb := hs.1
    simp only [isDigitByte, Bool.and_eq_true, decide_eq_true_eq] at hb
    refine ⟨(b - 48) :: ds, ?_, ?_⟩
    · simp only [digitBytes, List.map_cons]; congr 1; omega
    · intro d hm
      simp only [List.mem_cons] at hm
      rcases hm with rfl | hm
      · omega
      · exact hd d hm

theorem allDigits_digitBytes (ds : List Nat) (hd : ∀ d ∈ ds, d < 10) : allDigits (digitBytes ds) = true := by
  simp only [allDigits, digitBytes, List.all_map, List.all_eq_true]
  intro d hm
  have := hd d hm
  simp [isDigitByte]; omega

theorem eanChecksumB_digitBytes (ds : List Nat) (hd : ∀ d ∈ ds, d < 10) :
    eanChecksumB (digitBytes ds) = .ok (eanCheckDigit ds) := by
  simp [eanChecksumB, digits?_digitBytes ds hd]

theorem digitBytes_concat (ds : List Nat) (c : Nat) : digitBytes (ds ++ [c]) = digitBytes ds ++ [c + 48] := by
  simp [digitBytes]

theorem checkStandardB_digitBytes (ds : List Nat) (hd : ∀ d ∈ ds, d < 10) :
    checkStandardB (digitBytes ds) = .ok (eanValid ds) := by
  by_cases hne : ds = []
  · subst hne; simp [checkStandardB, digitBytes, eanValid]
  · obtain ⟨body, c, rfl⟩ : ∃ body c, ds = body ++ [c] :=
      ⟨ds.dropLast, ds.getLast hne, (List.dropLast_concat_getLast hne).symm⟩
    have hc : c < 10 := hd c (by simp)
    have hb : ∀ d ∈ body, d < 10 := fun d h => hd d (by simp [h])
    rw [digitBytes_concat, eanValid_concat]
    simp only [checkStandardB, List.getLast?_concat, List.dropLast_concat, eanChecksumB_digitBytes body hb]
    have : byteMinus0 (c + 48) = c := by unfold byteMinus0; omega
    rw [this]

theorem digitBytes_set (ds : List Nat) (i d : Nat) : (digitBytes ds).set i (d + 48) = digitBytes (ds.set i d) := by
  simp [digitBytes, List.map_set]

/-! ## the writers' check-digit stage -/

theorem itoaSmall_nat (n : Nat) : itoaSmall (n : Int) = [48 + n] := by
  unfold itoaSmall
  have : ¬ (n : Int) < 0 := by omega
  rw [if_neg this]
  simp

/-- an appended check digit that passes the digit test is a single character (a negative one starts with '-') -/
theorem full_of_digits (s : List Nat) (c : Int) (hd : allDigits (s ++ itoaSmall c) = true) :
    (s ++ itoaSmall c).length = s.length + 1 := by
  unfold itoaSmall at hd ⊢
  split at hd
  · simp [allDigits, isDigitByte] at hd
  · rename_i h; simp [h]

theorem stdWriterContents_ok (n : Nat) (s full : List Nat) (h : stdWriterContents n s = .ok full) :
    full.length = n ∧ allDigits full = true := by
  unfold stdWriterContents at h
  by_cases h1 : s.length + 1 = n
  · simp only [h1, if_true] at h
    cases hc : eanChecksumB s with
    | error e => rw [hc] at h; cases h
    | ok c =>
      rw [hc] at h
      by_cases hd : allDigits (s ++ itoaSmall c) = true
      · simp only [hd, if_true] at h
        injection h with h; subst h
        exact ⟨by rw [full_of_digits s c hd]; exact h1, hd⟩
      · simp only [hd] at h; cases h
  · simp only [h1, if_false] at h
    by_cases h2 : s.length = n
    · simp only [h2, if_true] at h
      cases hc : checkStandardB s with
      | error e => rw [hc] at h; cases h
      | ok ok =>
        rw [hc] at h
        cases ok with
        | false => cases h
        | true =>
          by_cases hd : allDigits s = true
          · simp only [hd, if_true] at h
            injection h with h; subst h
            exact ⟨h2, hd⟩
          · simp only [hd] at h; cases h
    · simp only [h2, if_false] at h; cases h

/-- `t` is the computed check digit, or nothing -/
theorem stdWriterContents_prefix (n : Nat) (s full : List Nat) (h : stdWriterContents n s = .ok full) :
    ∃ t, full = s ++ t := by
  unfold stdWriterContents at h
  split at h
  · split at h
    · cases h
    · simp only at h
      split at h
      · cases h; exact ⟨_, rfl⟩
      · cases h
  · split at h
    · split at h
      · cases h
      · cases h
      · split at h
        · cases h; exact ⟨[], by simp⟩
        · cases h
    · cases h

theorem stdWriterContents_err (n : Nat) (s : List Nat) (e : Fault) (h : stdWriterContents n s = .error e) : e = .writer := by
  unfold stdWriterContents at h
  split at h
  · split at h
    · injection h with h; exact h.symm
    · dsimp only at h
      split at h
      · cases h
      · injection h with h; exact h.symm
  · split at h
    · split at h
      · injection h with h; exact h.symm
      · injection h with h; exact h.symm
      · split at h
        · cases h
        · injection h with h; exact h.symm
    · injection h with h; exact h.symm

theorem stdWriterContents_valid (n : Nat) (s full : List Nat) (h : stdWriterContents n s = .ok full) :
    ∃ fd, full = digitBytes fd ∧ fd.length = n ∧ (∀ d ∈ fd, d < 10) ∧ eanValid fd = true := by
  obtain ⟨hlen, hall⟩ := stdWriterContents_ok n s full h
  obtain ⟨fd, rfl, hfd⟩ := allDigits_exists full hall
  refine ⟨fd, rfl, by simpa [digitBytes] using hlen, hfd, ?_⟩
  -- in both branches the string returned passes `checkStandardB`
  have hchk : checkStandardB (digitBytes fd) = .ok true := by
    unfold stdWriterContents at h
    by_cases h1 : s.length + 1 = n
    · rw [if_pos h1] at h
      cases hc : eanChecksumB s with
      | error e => rw [hc] at h; cases h
      | ok c =>
        rw [hc] at h
        dsimp only at h
        split at h
        · rename_i hd
          injection h with h
          -- a check digit that passes the digit test is one non-negative digit
          by_cases hneg : c < 0
          · simp [itoaSmall, hneg, allDigits, isDigitByte] at hd
          · simp only [itoaSmall, hneg, if_false] at h hd
            rw [← h]
            simp only [checkStandardB, List.getLast?_concat, List.dropLast_concat, hc]
            simp only [allDigits, List.all_append, List.all_cons, List.all_nil, Bool.and_true, Bool.and_eq_true,
              isDigitByte, decide_eq_true_eq] at hd
            have e1 : byteMinus0 (48 + c.toNat) = c.toNat := by unfold byteMinus0; omega
            have e2 : ((c.toNat : Nat) : Int) = c := by omega
            rw [e1, e2]
            simp
        · cases h
    · rw [if_neg h1] at h
      split at h
      · split at h
        · cases h
        · cases h
        · rename_i hc
          split at h
          · injection h with h; rw [← h]; exact hc
          · cases h
      · cases h
  rw [checkStandardB_digitBytes fd hfd] at hchk
  exact Except.ok.inj hchk

/-! ## the UPC-E writer's check-digit stage, in two steps -/

theorem conv_ok (u : List Nat) (h : 7 ≤ u.length) : ∃ a, convertUPCEtoUPCA u = .ok a := by
  match u, h with
  | n :: a :: b :: c :: d :: e :: l :: rest, _ => exact ⟨_, rfl⟩

theorem conv_lt256 (u a : List Nat) (h : convertUPCEtoUPCA u = .ok a) (hu : ∀ b ∈ u, b < 256) :
    ∀ b ∈ a, b < 256 := by
  match u, h with
  | n :: a1 :: b1 :: c :: d :: e :: l :: rest, h =>
    simp only [convertUPCEtoUPCA] at h
    injection h with h
    subst h
    have hr : ∀ b ∈ rest.take 1, b < 256 := fun b hb => hu b (by
      have := List.mem_of_mem_take hb
      simp [this])
    intro b hb
    simp only [List.mem_cons, List.mem_append, List.cons_append] at hb
    have hn := hu n (by simp)
    have h1 := hu a1 (by simp)
    have h2 := hu b1 (by simp)
    have h3 := hu c (by simp)
    have h4 := hu d (by simp)
    have h5 := hu e (by simp)
    have h6 := hu l (by simp)
    split at hb <;> (try split at hb) <;> (try split at hb) <;>
      simp only [List.mem_cons, List.mem_nil_iff, or_false] at hb <;>
      (rcases hb with hb | hb
       · omega
       · first
         | (rcases hb with hb | hb
            · repeat (first | omega | (rcases hb with hb | hb)) 
            · exact hr b hb)
         | omega)

/-- last stage of `upceWriterContents`: digit test and number-system test -/
def firstOk (full : List Nat) : Res (List Nat) :=
  if !allDigits full then .error .writer
  else match full with
    | f :: _ => if f = 48 ∨ f = 49 then .ok full else .error .writer
    | [] => .error (.panic "index out of range")

theorem firstOk_digits (full : List Nat) (hd : allDigits full = true) (h0 : 0 < full.length) :
    firstOk full = if full[0] = 48 ∨ full[0] = 49 then .ok full else .error .writer := by
  unfold firstOk
  match full, h0 with
  | f :: r, _ => simp [hd]

theorem firstOk_nondigits (full : List Nat) (hd : ¬ allDigits full = true) : firstOk full = .error .writer := by
  unfold firstOk; simp [hd]

/-- the part of `upceWriterContents` before the digit and number-system tests -/
def upceChecked (contents : List Nat) : Res (List Nat) :=
  if contents.length = 7 then
    match convertUPCEtoUPCA contents with
    | .error e => .error e
    | .ok a =>
      match eanChecksumB a with
      | .error _ => .error .writer
      | .ok c => .ok (contents ++ itoaSmall c)
  else if contents.length = 8 then
    match convertUPCEtoUPCA contents with
    | .error e => .error e
    | .ok a =>
      match checkStandardB a with
      | .error _ => .error .writer
      | .ok false => .error .writer
      | .ok true => .ok contents
  else .error .writer

theorem upceWriterContents_eq (s : List Nat) :
    upceWriterContents s = match upceChecked s with
      | .error e => .error e
      | .ok full => firstOk full := rfl

theorem upceChecked_ok (s full : List Nat) (h : upceChecked s = .ok full) (hd : allDigits full = true) : full.length = 8 := by
  unfold upceChecked at h
  split at h
  · rename_i h7
    split at h
    · cases h
    · split at h
      · cases h
      · rename_i c hc
        injection h with h; subst h
        rw [full_of_digits s c hd]
        omega
  · split at h
    · rename_i h8
      split at h
      · cases h
      · split at h
        · cases h
        · cases h
        · injection h with h; subst h; exact h8
    · cases h

theorem upceChecked_err (s : List Nat) (e : Fault) (h : upceChecked s = .error e) : e = .writer := by
  unfold upceChecked at h
  by_cases h7 : s.length = 7
  · obtain ⟨a, ha⟩ := conv_ok s (by omega)
    rw [if_pos h7, ha] at h
    dsimp only at h
    split at h
    · injection h with h; exact h.symm
    · cases h
  · rw [if_neg h7] at h
    by_cases h8 : s.length = 8
    · obtain ⟨a, ha⟩ := conv_ok s (by omega)
      rw [if_pos h8, ha] at h
      dsimp only at h
      split at h
      · injection h with h; exact h.symm
      · injection h with h; exact h.symm
      · cases h
    · rw [if_neg h8] at h
      injection h with h; exact h.symm

theorem upceChecked_prefix (s full : List Nat) (h : upceChecked s = .ok full) :
    (s.length = 7 ∨ s.length = 8) ∧ ∃ t, full = s ++ t := by
  unfold upceChecked at h
  split at h
  · rename_i h7
    split at h
    · cases h
    · split at h
      · cases h
      · cases h; exact ⟨Or.inl h7, _, rfl⟩
  · split at h
    · rename_i h8
      split at h
      · cases h
      · split at h
        · cases h
        · cases h
        · cases h; exact ⟨Or.inr h8, [], by simp⟩
    · cases h

/-! ## the UPC-E → UPC-A expansion at digit level -/

theorem take1_of_len_le {α} (l : List α) (h : ¬ l.length > 1) : l.take 1 = l := by
  match l with
  | [] => rfl
  | [_] => rfl
  | _ :: _ :: _ => simp at h

/-- digit-level UPC-E → UPC-A expansion (GS1 General Specifications): number system, six digits, optional check digit -/
def expandD : List Nat → Option (List Nat)
  | n :: a :: b :: c :: d :: e :: l :: rest =>
    some (n :: (if l ≤ 2 then [a, b, l, 0, 0, 0, 0, c, d, e]
                else if l = 3 then [a, b, c, 0, 0, 0, 0, 0, d, e]
                else if l = 4 then [a, b, c, d, 0, 0, 0, 0, 0, e]
                else [a, b, c, d, e, 0, 0, 0, 0, l]) ++ rest.take 1)
  | _ => none

theorem convert_digitBytes (ds : List Nat) (hl : 7 ≤ ds.length) :
    ∃ a, expandD ds = some a ∧ convertUPCEtoUPCA (digitBytes ds) = .ok (digitBytes a) := by
  match ds, hl with
  | n :: a :: b :: c :: d :: e :: l :: rest, _ =>
    refine ⟨_, rfl, ?_⟩
    simp only [digitBytes, List.map_cons, convertUPCEtoUPCA]
    by_cases h2 : l ≤ 2
    · have : l = 0 ∨ l = 1 ∨ l = 2 := by omega
      simp [this, h2, List.map_take]
    · have n1 : ¬ (l = 0 ∨ l = 1 ∨ l = 2) := by omega
      by_cases h3 : l = 3
      · subst h3; simp [List.map_take]
      · by_cases h4 : l = 4
        · subst h4; simp [List.map_take]
        · simp [n1, h2, h3, h4, List.map_take]

theorem expandD_lt (ds a : List Nat) (hd : ∀ d ∈ ds, d < 10) (h : expandD ds = some a) : ∀ d ∈ a, d < 10 := by
  unfold expandD at h
  split at h
  · rename_i n a' b c d e l rest
    cases h
    intro x hx
    have hr : ∀ y ∈ rest.take 1, y < 10 := fun y hy => hd y (by
      have := List.mem_of_mem_take hy
      simp [this])
    simp only [List.cons_append, List.mem_cons, List.mem_append] at hx
    have hn := hd n (by simp)
    have ha := hd a' (by simp)
    have hb := hd b (by simp)
    have hc := hd c (by simp)
    have hdd := hd d (by simp)
    have he := hd e (by simp)
    have hl := hd l (by simp)
    rcases hx with rfl | hx
    · exact hn
    · rcases hx with hx | hx
      · split at hx
        · simp at hx; omega
        · split at hx
          · simp at hx; omega
          · split at hx <;> (simp at hx; omega)
      · exact hr x hx
  · cases h

/-- which zero-suppression rule the last body digit of a UPC-E number selects -/
def ruleClass (l : Nat) : Nat := if l ≤ 2 then 0 else if l = 3 then 1 else if l = 4 then 2 else 3

theorem ruleClass_eq {x l : Nat} (h : ruleClass l = ruleClass x) :
    (l ≤ 2 → x ≤ 2) ∧ (l = 3 → x = 3) ∧ (l = 4 → x = 4) ∧ (5 ≤ l → 5 ≤ x) := by
  unfold ruleClass at h
  split at h <;> split at h <;> (try split at h) <;> (try split at h) <;> (try split at h) <;> (try split at h) <;> omega

theorem expandD_seven (n a b c d e l : Nat) (x : List Nat)
    (h : expandD [n, a, b, c, d, e, l] = some x) (k : Nat) :
    expandD [n, a, b, c, d, e, l, k] = some (x ++ [k]) := by
  simp only [expandD] at h ⊢
  cases h
  simp

/-- where position `p` of an 8-digit UPC-E number stands in its 12-digit expansion under zero-suppression rule `cls`
    (`ruleClass` of the sixth body digit).  Under rules 1 and 2 the sixth body digit (p = 6) only selects the rule and
    is not copied: no entry is needed there, 0 stands in. -/
def expandPos (cls p : Nat) : Nat :=
  (if cls = 0 then [0, 1, 2, 8, 9, 10, 3, 11] else if cls = 1 then [0, 1, 2, 3, 9, 10, 0, 11]
   else if cls = 2 then [0, 1, 2, 3, 4, 10, 0, 11] else [0, 1, 2, 3, 4, 5, 10, 11]).getD p 0

-- one `simp` set serves the seven positions of a rule; no position uses all of it
set_option linter.unusedSimpArgs false in
/-- replacing one digit of a UPC-E number without changing the rule replaces one digit of the expansion -/
theorem expandD_set (ds : List Nat) (hlen : ds.length = 8) (p x : Nat) (hp : p < 8) (hne : ds[p]? ≠ some x)
    (hclass : p = 6 → ds[6]?.map ruleClass = some (ruleClass x)) (a : List Nat) (hea : expandD ds = some a) :
    expandPos (ruleClass (ds.getD 6 0)) p < a.length ∧ a[expandPos (ruleClass (ds.getD 6 0)) p]? = ds[p]? ∧
      expandD (ds.set p x) = some (a.set (expandPos (ruleClass (ds.getD 6 0)) p) x) := by
  match ds, hlen with
  | [n, a1, b, c, d, e, l, k], _ =>
    have hcl : p = 6 → (l ≤ 2 → x ≤ 2) ∧ (l = 3 → x = 3) ∧ (l = 4 → x = 4) ∧ (5 ≤ l → 5 ≤ x) := by
      intro h6; have := hclass h6; simp at this; exact ruleClass_eq this
    simp only [expandD, List.take_succ_cons, List.take_zero, List.cons_append, List.nil_append] at hea
    by_cases h6 : p = 6
    · -- the rule digit: copied under rules 0 and 3; under rules 1 and 2 the same rule means the same digit
      subst h6
      obtain ⟨c0, c1, c2, c3⟩ := hcl rfl
      have hlx : l ≠ x := by intro e; apply hne; simp [e]
      by_cases h2 : l ≤ 2
      · have hx2 := c0 h2
        simp only [h2, if_true] at hea
        cases hea
        simp [expandD, expandPos, ruleClass, h2, hx2]
      · by_cases h3 : l = 3
        · exact absurd (h3.trans (c1 h3).symm) hlx
        · by_cases h4 : l = 4
          · exact absurd (h4.trans (c2 h4).symm) hlx
          · have hx5 := c3 (by omega)
            have n2 : ¬ x ≤ 2 := by omega
            have n3 : ¬ x = 3 := by omega
            have n4 : ¬ x = 4 := by omega
            simp only [h2, h3, h4, if_false] at hea
            cases hea
            simp [expandD, expandPos, ruleClass, h2, h3, h4, n2, n3, n4]
    · have hp7 : p = 0 ∨ p = 1 ∨ p = 2 ∨ p = 3 ∨ p = 4 ∨ p = 5 ∨ p = 7 := by omega
      by_cases h2 : l ≤ 2
      · simp only [h2, if_true] at hea
        cases hea
        rcases hp7 with rfl | rfl | rfl | rfl | rfl | rfl | rfl <;> simp [expandD, expandPos, ruleClass, h2]
      · by_cases h3 : l = 3
        · simp only [h2, h3, if_true, if_false] at hea
          cases hea
          rcases hp7 with rfl | rfl | rfl | rfl | rfl | rfl | rfl <;> simp [expandD, expandPos, ruleClass, h2, h3]
        · by_cases h4 : l = 4
          · simp only [h2, h3, h4, if_true, if_false] at hea
            cases hea
            rcases hp7 with rfl | rfl | rfl | rfl | rfl | rfl | rfl <;> simp [expandD, expandPos, ruleClass, h2, h3, h4]
          · simp only [h2, h3, h4, if_false] at hea
            cases hea
            rcases hp7 with rfl | rfl | rfl | rfl | rfl | rfl | rfl <;> simp [expandD, expandPos, ruleClass, h2, h3, h4]

/-- what zero suppression does, rule by rule: `e` is number system, the body the rule picks, the rule digit, and
    the optional check digit; the UPC-A number has the zeros the rule presupposes -/
theorem suppress_cases (a e : List Nat) (h : suppress a = some e) :
    ∃ n m1 m2 m3 m4 m5 p5 rest, rest.length ≤ 1 ∧
      ((m3 ≤ 50 ∧ ∃ p3 p4, a = n :: m1 :: m2 :: m3 :: 48 :: 48 :: 48 :: 48 :: p3 :: p4 :: p5 :: rest ∧
          e = [n, m1, m2, p3, p4, p5, m3] ++ rest) ∨
       (¬ m3 ≤ 50 ∧ ∃ p4, a = n :: m1 :: m2 :: m3 :: 48 :: 48 :: 48 :: 48 :: 48 :: p4 :: p5 :: rest ∧
          e = [n, m1, m2, m3, p4, p5, 51] ++ rest) ∨
       (m4 ≠ 48 ∧ a = n :: m1 :: m2 :: m3 :: m4 :: 48 :: 48 :: 48 :: 48 :: 48 :: p5 :: rest ∧
          e = [n, m1, m2, m3, m4, p5, 52] ++ rest) ∨
       (m5 ≠ 48 ∧ p5 ≥ 53 ∧ a = n :: m1 :: m2 :: m3 :: m4 :: m5 :: 48 :: 48 :: 48 :: 48 :: p5 :: rest ∧
          e = [n, m1, m2, m3, m4, m5, p5] ++ rest)) := by
  unfold suppress at h
  split at h
  · rename_i n m1 m2 m3 m4 m5 p1 p2 p3 p4 p5 rest
    refine ⟨n, m1, m2, m3, m4, m5, p5, rest, ?_⟩
    split at h
    · cases h
    · rename_i hlen
      refine ⟨by omega, ?_⟩
      split at h
      · rename_i hc
        cases h
        obtain ⟨h3, rfl, rfl, rfl, rfl⟩ := hc
        exact .inl ⟨h3, p3, p4, rfl, rfl⟩
      · rename_i hc1
        split at h
        · rename_i hc
          cases h
          obtain ⟨rfl, rfl, rfl, rfl, rfl⟩ := hc
          exact .inr (.inl ⟨by simpa using hc1, p4, rfl, rfl⟩)
        · rename_i hc2
          split at h
          · rename_i hc
            cases h
            obtain ⟨rfl, rfl, rfl, rfl, rfl⟩ := hc
            exact .inr (.inr (.inl ⟨by simpa using hc2, rfl, rfl⟩))
          · rename_i hc3
            split at h
            · rename_i hc
              cases h
              obtain ⟨rfl, rfl, rfl, rfl, h5⟩ := hc
              exact .inr (.inr (.inr ⟨by simpa using hc3, h5, rfl, rfl⟩))
            · cases h
  · cases h

/-! ## parity words -/

theorem parityFlags_succ (n p : Nat) :
    parityFlags (n + 1) p = decide ((p / 2 ^ n) % 2 = 1) :: parityFlags n p := by
  simp only [parityFlags, List.range_succ_eq_map, List.map_cons, List.map_map, Nat.add_sub_cancel, Nat.sub_zero]
  congr 1
  apply List.map_congr_left
  intro x _
  simp only [Function.comp, Nat.succ_eq_add_one]
  rw [show n - (x + 1) = n - 1 - x by omega]

theorem parityFlags_length (n p : Nat) : (parityFlags n p).length = n := by simp [parityFlags]

theorem parityBits_parityFlags (n p : Nat) : parityBits (parityFlags n p) = p % 2 ^ n := by
  induction n with
  | zero => simp [parityFlags, parityBits, Nat.mod_one]
  | succ n ih =>
    rw [parityFlags_succ, parityBits, ih, parityFlags_length, Nat.mod_pow_succ]
    rcases Nat.mod_two_eq_zero_or_one (p / 2 ^ n) with h | h <;> simp [h] <;> omega

end Gzx.CheckDigit
