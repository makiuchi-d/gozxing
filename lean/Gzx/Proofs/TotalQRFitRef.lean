/-
  C06 — the version table of ISO/IEC 18004 passes the check `cwFitsB` of Proofs/TotalQRFit.lean, by argument:
  the free cells that `ReadCodewords` visits outside the function pattern of `buildFunctionPattern` are the
  reference's placement order `QRRef.zigzag v` (Proofs/QRCompCells.lean), whose length is `dataCount v`
  (Proofs/QRZigzag.lean) = `rawDataModules v` (Properties/C07.lean), and `totalCodewords v` is that number over 8.
  So a table that conforms to the standard (`QRComp.TablesConform`) needs no count of its own.
-/
import Gzx.Proofs.TotalQRFit
import Gzx.Proofs.QRCompRead
namespace Gzx.Proofs.TotalQRFit
open Gzx Gzx.QRDec Gzx.Proofs.TotalQRDec

theorem freeCount_eq_length (fp : Matrix) : ∀ cells : List (Nat × Nat),
    freeCount fp cells = (cells.filter (fun c => !fp.getB c.1 c.2)).length
  | [] => rfl
  | c :: cs => by
    rw [freeCount, freeCount_eq_length fp cs, List.filter_cons]
    cases fp.getB c.1 c.2 <;> simp <;> omega

/-- the decoder's count of free cells is the reference's count of data modules -/
theorem pairsFree_ref (v : Nat) (h1 : 1 ≤ v) (h40 : v ≤ 40) :
    pairsFree (QRComp.allRegs v) (17 + 4 * v) (colPairs (17 + 4 * v) (17 + 4 * v - 1) true) =
      QRRef.dataCount v := by
  have h := freeCount_pairs ⟨17 + 4 * v, fun x y => (QRComp.allRegs v).any (·.has x y)⟩ (QRComp.allRegs v)
    (fun _ _ => rfl) (colPairs (17 + 4 * v) (17 + 4 * v - 1) true)
  rw [← QRRef.zigzag_length, ← QRComp.data_cells_eq v h1 h40, ← freeCount_eq_length, ← h]
  rfl

theorem functionRegions_ref (v : Nat) (h1 : 1 ≤ v) (h40 : v ≤ 40) :
    functionRegions (QRComp.refVersion v) = some (QRComp.allRegs v) := by
  unfold functionRegions QRComp.refVersion
  simp only [(QRComp.fpOK_of v h1 h40).1]
  rfl

theorem cwFitsB_ref (v : Nat) (h1 : 1 ≤ v) (h40 : v ≤ 40) : cwFitsB (QRComp.refVersion v) = true := by
  unfold cwFitsB
  rw [functionRegions_ref v h1 h40]
  simp only [decide_eq_true_eq]
  rw [QRComp.refVersion_total v h1 h40]
  show pairsFree (QRComp.allRegs v) (17 + 4 * v) (colPairs (17 + 4 * v) (17 + 4 * v - 1) true) / 8 ≤ _
  rw [pairsFree_ref v h1 h40, Gzx.Properties.C07.dataCount_all v h1 h40]
  exact Nat.le_refl _

theorem cwFits_of_conform (T : Tables) (hT : QRComp.TablesConform T) : T.versions.all cwFitsB = true := by
  rw [hT.2.2, QRComp.refVersions, List.all_map, List.all_eq_true]
  intro i hi
  have := List.mem_range.mp hi
  exact cwFitsB_ref (i + 1) (by omega) (by omega)

end Gzx.Proofs.TotalQRFit
