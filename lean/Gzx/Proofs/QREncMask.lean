/-
  wp `qrenc` — `calculateMaskPenalty` and `chooseMaskPattern` of the mirror model = the reference penalty and
  mask choice (lowest penalty, lowest pattern reference on a tie; the `math.MaxInt32` start value is never reached).
-/
import Gzx.Proofs.QREncPenalty3
import Gzx.Proofs.QREncBuild
import Gzx.Proofs.QREncOrder
namespace Gzx.QREnc
open Gzx Gzx.QRRef

theorem calculateMaskPenalty_eq {n : Nat} {rows : List (List Bool)} (hs : Square n rows) (hn : 0 < n) :
    calculateMaskPenalty (ofRows rows n) = .ok ((penalty rows : Nat) : Int) := by
  unfold calculateMaskPenalty
  rw [rule1_eq hs, rule2_eq hs, rule3_eq hs, rule4_eq hs hn]
  simp only [bind, Except.bind, pure, Except.pure, Except.ok.injEq]
  unfold penalty
  omega

/-! ### bounds: the penalty of a symbol is far below `math.MaxInt32` -/

theorem runPenalty_le : ∀ (r : List Bool) (prev : Option Bool) (run : Nat), runPenalty r prev run ≤ r.length + run := by
  intro r
  induction r with
  | nil => intro prev run; unfold runPenalty; split <;> simp <;> omega
  | cons b bs ih =>
    intro prev run
    unfold runPenalty
    split
    · have := ih prev (run + 1); simp only [List.length_cons]; omega
    · have := ih (some b) 1
      simp only [List.length_cons]
      split <;> omega

theorem sumL_le (l : List Nat) (b : Nat) (h : ∀ x ∈ l, x ≤ b) : sumL l ≤ l.length * b := by
  induction l with
  | nil => simp [sumL]
  | cons x xs ih =>
    rw [sumL_cons, List.length_cons, Nat.succ_mul]
    have := ih (fun y hy => h y (List.mem_cons_of_mem _ hy))
    have := h x List.mem_cons_self
    omega

theorem blocks2_le : ∀ (r0 r1 : List Bool), blocks2 r0 r1 ≤ r0.length := by
  intro r0
  induction r0 with
  | nil => intro r1; simp [blocks2]
  | cons a r0' ih =>
    intro r1
    cases r0' with
    | nil => simp [blocks2]
    | cons b r0'' =>
      cases r1 with
      | nil => simp [blocks2]
      | cons c r1' =>
        cases r1' with
        | nil => simp [blocks2]
        | cons d r1'' =>
          have hb2 : blocks2 (a :: b :: r0'') (c :: d :: r1'') =
              (if a = b ∧ a = c ∧ a = d then 1 else 0) + blocks2 (b :: r0'') (d :: r1'') := rfl
          rw [hb2]
          have := ih (d :: r1'')
          simp only [List.length_cons] at this ⊢
          split <;> omega

theorem rowPairs_le (n : Nat) : ∀ (rows : List (List Bool)), (∀ r ∈ rows, r.length = n) → rowPairs rows ≤ rows.length * n := by
  intro rows
  induction rows with
  | nil => intro _; simp [rowPairs]
  | cons r0 rs ih =>
    intro h
    cases rs with
    | nil => simp [rowPairs]
    | cons r1 rs' =>
      have hrp : rowPairs (r0 :: r1 :: rs') = blocks2 r0 r1 + rowPairs (r1 :: rs') := rfl
      rw [hrp]
      have h1 := blocks2_le r0 r1
      have h2 := ih (fun r hr => h r (List.mem_cons_of_mem _ hr))
      have h3 := h r0 List.mem_cons_self
      rw [List.length_cons (a := r0), Nat.succ_mul]
      omega

theorem sumR_le (n : Nat) (f : Nat → Nat) (b : Nat) (h : ∀ k, k < n → f k ≤ b) : sumR n f ≤ n * b := by
  induction n with
  | zero => simp [sumR, sumL]
  | succ n ih =>
    rw [sumR_succ, Nat.succ_mul]
    have := ih (fun k hk => h k (by omega))
    have := h n (by omega)
    omega

theorem finderLike_le (l : List Bool) : finderLike [] l ≤ l.length := by
  rw [finderLike_sumR]
  have := sumR_le l.length (fun i => if n3At l i then 1 else 0) 1 (by intro k _; split <;> omega)
  omega

theorem sumL_map_le {α} (l : List α) (f g : α → Nat) (h : ∀ a ∈ l, f a ≤ g a) : sumL (l.map f) ≤ sumL (l.map g) := by
  induction l with
  | nil => simp [sumL]
  | cons a as ih =>
    rw [List.map_cons, List.map_cons, sumL_cons, sumL_cons]
    have := ih (fun b hb => h b (List.mem_cons_of_mem _ hb))
    have := h a List.mem_cons_self
    omega

theorem penalty4_le (rows : List (List Bool)) : penalty4 rows ≤ 100 := by
  unfold penalty4
  simp only
  have hdark : sumL (rows.map (fun r => r.count true)) ≤ sumL (rows.map List.length) :=
    sumL_map_le rows _ _ (fun r _ => List.count_le_length)
  generalize sumL (rows.map List.length) = total at hdark
  generalize sumL (rows.map (fun r => r.count true)) = dark at hdark
  by_cases ht : total = 0
  · subst ht; simp
  · have hle : ∀ dev, dev ≤ total → 10 * (dev * 10 / total) ≤ 100 := by
      intro dev hdev
      have : dev * 10 / total ≤ 10 := by
        apply Nat.div_le_of_le_mul
        rw [Nat.mul_comm total 10, Nat.mul_comm dev 10]
        exact Nat.mul_le_mul_left 10 hdev
      omega
    split
    · exact hle _ (by omega)
    · exact hle _ (by omega)

theorem penalty_le {n : Nat} {rows : List (List Bool)} (hs : Square n rows) : penalty rows ≤ 85 * (n * n) + 100 := by
  unfold penalty
  have h1 : penalty1 rows ≤ 2 * (n * n) := by
    unfold penalty1
    rw [hs.len, transpose_eq]
    have ha : sumL (rows.map (fun r => runPenalty r none 0)) ≤ rows.length * n := by
      have hh := sumL_le (rows.map (fun r => runPenalty r none 0)) n ?_
      · simpa using hh
      intro x hx
      obtain ⟨r, hr, rfl⟩ := List.mem_map.mp hx
      have := runPenalty_le r none 0
      rw [hs.cols r hr] at this
      omega
    have hb : sumL (((List.range n).map (column rows)).map (fun r => runPenalty r none 0)) ≤ n * n := by
      have := sumL_le (((List.range n).map (column rows)).map (fun r => runPenalty r none 0)) n (by
        intro x hx
        simp only [List.map_map, List.mem_map, List.mem_range, Function.comp] at hx
        obtain ⟨i, _, rfl⟩ := hx
        have := runPenalty_le (column rows i) none 0
        rw [column_length hs] at this
        omega)
      simpa using this
    rw [hs.len] at ha
    omega
  have h2 : penalty2 rows ≤ 3 * (n * n) := by
    unfold penalty2
    have := rowPairs_le n rows hs.cols
    rw [hs.len] at this
    omega
  have h3 : penalty3 rows ≤ 80 * (n * n) := by
    unfold penalty3
    rw [hs.len, transpose_eq]
    have ha : sumL (rows.map (finderLike [])) ≤ rows.length * n := by
      have hh := sumL_le (rows.map (finderLike [])) n ?_
      · simpa using hh
      intro x hx
      obtain ⟨r, hr, rfl⟩ := List.mem_map.mp hx
      have := finderLike_le r
      rw [hs.cols r hr] at this
      exact this
    have hb : sumL (((List.range n).map (column rows)).map (finderLike [])) ≤ n * n := by
      have := sumL_le (((List.range n).map (column rows)).map (finderLike [])) n (by
        intro x hx
        simp only [List.map_map, List.mem_map, List.mem_range, Function.comp] at hx
        obtain ⟨i, _, rfl⟩ := hx
        have := finderLike_le (column rows i)
        rw [column_length hs] at this
        exact this)
      simpa using this
    rw [hs.len] at ha
    omega
  have h4 := penalty4_le rows
  omega


/-! ### chooseMaskPattern -/

/-- (minPenalty, bestMaskPattern) of the Go loop over penalties `pen k` -/
def goStep (pen : Nat → Nat) (st : Int × Int) (k : Nat) : Int × Int :=
  if ((pen k : Nat) : Int) < st.1 then (((pen k : Nat) : Int), (k : Int)) else st

/-- (best pattern, its penalty + 1) of the reference -/
def refStep (pen : Nat → Nat) (best : Nat × Nat) (k : Nat) : Nat × Nat :=
  if best.2 = 0 ∨ pen k + 1 < best.2 then (k, pen k + 1) else best

theorem choose_agree (pen : Nat → Nat) : ∀ (l : List Nat) (st : Int × Int) (rs : Nat × Nat),
    (st.1 = ((rs.2 : Nat) : Int) - 1 ∧ st.2 = ((rs.1 : Nat) : Int) ∧ 1 ≤ rs.2) →
    ((l.foldl (goStep pen) st).1 = (((l.foldl (refStep pen) rs).2 : Nat) : Int) - 1 ∧
     (l.foldl (goStep pen) st).2 = (((l.foldl (refStep pen) rs).1 : Nat) : Int) ∧ 1 ≤ (l.foldl (refStep pen) rs).2) := by
  intro l
  induction l with
  | nil => intro st rs h; exact h
  | cons k ks ih =>
    intro st rs h
    rw [List.foldl_cons, List.foldl_cons]
    apply ih
    obtain ⟨h1, h2, h3⟩ := h
    unfold goStep refStep
    by_cases hlt : ((pen k : Nat) : Int) < st.1
    · have hr : rs.2 = 0 ∨ pen k + 1 < rs.2 := by right; omega
      rw [if_pos hlt, if_pos hr]
      refine ⟨?_, ?_, ?_⟩
      · show ((pen k : Nat) : Int) = ((pen k + 1 : Nat) : Int) - 1
        omega
      · rfl
      · show 1 ≤ pen k + 1
        omega
    · have hge : st.1 ≤ ((pen k : Nat) : Int) := by omega
      rw [h1] at hge
      have hr : ¬ (rs.2 = 0 ∨ pen k + 1 < rs.2) := by omega
      rw [if_neg hlt, if_neg hr]
      exact ⟨h1, h2, h3⟩

theorem choose_first (pen : Nat → Nat) (h0 : pen 0 < 2147483647) (l : List Nat) :
    ((0 :: l).foldl (goStep pen) (2147483647, -1)).2 = ((((0 :: l).foldl (refStep pen) (0, 0)).1 : Nat) : Int) := by
  rw [List.foldl_cons, List.foldl_cons]
  have hs : goStep pen (2147483647, -1) 0 = (((pen 0 : Nat) : Int), ((0 : Nat) : Int)) := by
    unfold goStep
    have : ((pen 0 : Nat) : Int) < (2147483647 : Int) := by omega
    simp [this]
  have hr : refStep pen (0, 0) 0 = (0, pen 0 + 1) := by unfold refStep; simp
  rw [hs, hr]
  exact (choose_agree pen l _ _ ⟨by simp, by simp, by simp⟩).2.1

/-- the penalties the reference compares -/
def refPenalty (v : Nat) (ec : EC) (cw : List Nat) (k : Nat) : Nat := penalty (refMatrix v ec k cw)

theorem chooseMask_eq_fold (v : Nat) (ec : EC) (cw : List Nat) :
    chooseMask v ec cw = ((List.range 8).foldl (refStep (refPenalty v ec cw)) (0, 0)).1 := rfl

theorem chooseMask_lt (v : Nat) (ec : EC) (cw : List Nat) : chooseMask v ec cw < 8 := by
  rw [chooseMask_eq_fold]
  have : ∀ (l : List Nat) (b : Nat × Nat), b.1 < 8 → (∀ k ∈ l, k < 8) →
      (l.foldl (refStep (refPenalty v ec cw)) b).1 < 8 := by
    intro l
    induction l with
    | nil => intro b hb _; exact hb
    | cons k ks ih =>
      intro b hb hl
      rw [List.foldl_cons]
      apply ih
      · unfold refStep; split
        · exact hl k List.mem_cons_self
        · exact hb
      · intro k' hk'; exact hl k' (List.mem_cons_of_mem _ hk')
  exact this _ _ (by decide) (fun k hk => List.mem_range.mp hk)

theorem square_refMatrix (v : Nat) (ec : EC) (k : Nat) (cw : List Nat) : Square (dimension v) (refMatrix v ec k cw) := by
  refine ⟨?_, ?_⟩
  · simp [refMatrix_eq_spec, specMatrix]
  · intro r hr
    simp only [refMatrix_eq_spec, specMatrix, List.mem_map, List.mem_range] at hr
    obtain ⟨y, _, rfl⟩ := hr
    simp

theorem refPenalty_lt (v : Nat) (h40 : v ≤ 40) (ec : EC) (cw : List Nat) (k : Nat) : refPenalty v ec cw k < 2147483647 := by
  have := penalty_le (square_refMatrix v ec k cw)
  unfold refPenalty
  have hd : dimension v ≤ 177 := by unfold dimension; omega
  have : dimension v * dimension v ≤ 177 * 177 := Nat.mul_le_mul hd hd
  omega

/-- one iteration of the loop of `chooseMaskPattern` -/
def maskStep (v : Nat) (ec : EC) (cw : List Nat) (st : Int × Int × List Int × ByteMatrix) (k : Nat) :
    Int × Int × List Int × ByteMatrix :=
  if ((refPenalty v ec cw k : Nat) : Int) < st.1
  then (((refPenalty v ec cw k : Nat) : Int), (k : Int), st.2.2.1 ++ [((refPenalty v ec cw k : Nat) : Int)], refByteMatrix v ec k cw)
  else (st.1, st.2.1, st.2.2.1 ++ [((refPenalty v ec cw k : Nat) : Int)], refByteMatrix v ec k cw)

theorem maskStep_go (v : Nat) (ec : EC) (cw : List Nat) : ∀ (l : List Nat) (st : Int × Int × List Int × ByteMatrix),
    ((l.foldl (maskStep v ec cw) st).1, (l.foldl (maskStep v ec cw) st).2.1) =
      l.foldl (goStep (refPenalty v ec cw)) (st.1, st.2.1) := by
  intro l
  induction l with
  | nil => intro st; rfl
  | cons k ks ih =>
    intro st
    rw [List.foldl_cons, List.foldl_cons, ih]
    congr 1
    unfold maskStep goStep
    split <;> rfl

theorem maskStep_wfm (v : Nat) (ec : EC) (cw : List Nat) : ∀ (l : List Nat) (st : Int × Int × List Int × ByteMatrix),
    WFM (dimension v) st.2.2.2 → WFM (dimension v) (l.foldl (maskStep v ec cw) st).2.2.2 := by
  intro l
  induction l with
  | nil => intro st h; exact h
  | cons k ks ih =>
    intro st _
    rw [List.foldl_cons]
    apply ih
    unfold maskStep
    split <;> exact refByteMatrix_wfm v ec k cw

theorem chooseMaskPattern_eq {K : Kernels} (hK : KernelsOK K) (v : Nat) (h1 : 1 ≤ v) (h40 : v ≤ 40)
    (ec : EC) (cw : List Nat) (hlen : (bitsOfBytes cw).length ≤ (zigzag v).length)
    (m0 : ByteMatrix) (hm0 : WFM (dimension v) m0) :
    ∃ pens m, chooseMaskPattern K (bitsOfBytes cw) ec v m0 = .ok (((chooseMask v ec cw : Nat) : Int), pens, m) ∧
      WFM (dimension v) m := by
  unfold chooseMaskPattern
  simp only [bind, Except.bind]
  unfold forRange
  have h8 : ((8 : Int) - 0).toNat = 8 := by omega
  rw [h8, foldlM_ok_inv (fun (st : Int × Int × List Int × ByteMatrix) => WFM (dimension v) st.2.2.2) _
    (maskStep v ec cw) (List.range 8) (2147483647, -1, [], m0) hm0]
  · simp only [pure, Except.pure]
    have hgo := maskStep_go v ec cw (List.range 8) (2147483647, -1, [], m0)
    have hwfm : WFM (dimension v) (List.foldl (maskStep v ec cw) (2147483647, -1, [], m0) (List.range 8)).2.2.2 :=
      maskStep_wfm v ec cw (List.range 8) _ hm0
    generalize List.foldl (maskStep v ec cw) (2147483647, -1, [], m0) (List.range 8) = F at hgo hwfm
    obtain ⟨a, b, c, d⟩ := F
    refine ⟨c, d, ?_, hwfm⟩
    have h2 := congrArg Prod.snd hgo
    simp only at h2
    rw [h2, chooseMask_eq_fold]
    have hr : List.range 8 = 0 :: [1, 2, 3, 4, 5, 6, 7] := rfl
    rw [hr]
    rw [choose_first (refPenalty v ec cw) (refPenalty_lt v h40 ec cw 0) _]
  · intro st k hk hwf
    have hk8 : k < 8 := List.mem_range.mp hk
    obtain ⟨minP, best, pens, m⟩ := st
    have hk0 : (0 : Int) + ((k : Nat) : Int) = ((k : Nat) : Int) := by omega
    simp only [hk0]
    rw [buildMatrix_eq_ref hK v h1 h40 ec k hk8 cw hlen m hwf]
    simp only [pure, Except.pure]
    have hcalc : calculateMaskPenalty (refByteMatrix v ec k cw) = .ok ((refPenalty v ec cw k : Nat) : Int) :=
      calculateMaskPenalty_eq (square_refMatrix v ec k cw) (by unfold dimension; omega)
    rw [hcalc]
    simp only
    constructor
    · unfold maskStep
      split <;> rfl
    · unfold maskStep
      split <;> exact refByteMatrix_wfm v ec k cw

end Gzx.QREnc
