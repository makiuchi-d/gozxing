/-
  C02 / C13 — the symbol the high-level encoder settles on is a FIRST FIT.
  `SymFF syms c`: the context's symbol, if any, is what `SymbolInfo_Lookup` (first admissible row, in table order,
  that holds `n` codewords) returns for some `n`; `SymB syms c` adds that `n ≤ c.count + 1`: the count looked up for
  is (almost) reached.  `SymB` holds between the calls of the mode encoders: inside the C40 / Text encoder the symbol
  is looked up for buffered triplets that may still be backtracked (`ResetSymbolInfo` forgets it then), and the
  EDIFACT end-of-data handling looks one codeword ahead.
  Every operation of the six mode encoders touches the symbol only through `UpdateSymbolInfoByLength` (keeps it or
  looks up afresh) and `ResetSymbolInfo`: `StepB syms β c c'`, with the bound `β` on the count looked up for;
  `SymStep` is `StepB` with the bound forgotten.  A whole call of a mode encoder is `StepB` for `β` = its final
  codeword count + 1 (`*_stepB`), which keeps `SymB` (`SymB.step`) and a fortiori `SymFF` (`SymStep.ff`) along the
  run of `EncodeHighLevel`, for every look-ahead oracle and every table.  `LoopB` and `KF` (Proofs/DMTermXE.lean) are
  the forms the C40 / Text loop and the EDIFACT end-of-data prelude need on the way.
  Consequence (`encodeHL_symbol`): the padded codeword stream has exactly the capacity of a first-fit symbol `s`, and
  looking its length up again (what `DataMatrixWriter.Encode` does) returns that same `s`.
  With a table sorted by capacity `SymB` makes the symbol a lower bound for every later one (`lookup_min`, used in
  Proofs/DMFullRoundTrip.lean).
-/
import Gzx.Proofs.DMTermXE
import Gzx.Proofs.DMHandlers
import Gzx.Proofs.FirstFit
namespace Gzx.DMHighLevel

/-- first fit: the symbol of the context, if any, is what `SymbolInfo_Lookup` returns for some codeword count -/
def SymFF (syms : List SymbolInfo) (c : Ctx) : Prop := ∀ s, c.sym = some s → ∃ n, lookup syms c.cfg n = some s

/-- how one operation may change the symbol: not at all, forget it, or look it up afresh -/
def SymStep (syms : List SymbolInfo) (c c' : Ctx) : Prop :=
  c'.cfg = c.cfg ∧ (c'.sym = c.sym ∨ c'.sym = none ∨ ∃ n s, lookup syms c.cfg n = some s ∧ c'.sym = some s)

theorem SymStep.refl (syms : List SymbolInfo) (c : Ctx) : SymStep syms c c := ⟨rfl, Or.inl rfl⟩

theorem SymStep.of_eq {syms : List SymbolInfo} {c c' : Ctx} (h1 : c'.cfg = c.cfg) (h2 : c'.sym = c.sym) :
    SymStep syms c c' := ⟨h1, Or.inl h2⟩

theorem SymStep.of_none {syms : List SymbolInfo} {c c' : Ctx} (h1 : c'.cfg = c.cfg) (h2 : c'.sym = none) :
    SymStep syms c c' := ⟨h1, Or.inr (Or.inl h2)⟩

theorem SymStep.trans {syms : List SymbolInfo} {a b c : Ctx} (h1 : SymStep syms a b) (h2 : SymStep syms b c) :
    SymStep syms a c := by
  obtain ⟨e1, k1⟩ := h1
  obtain ⟨e2, k2⟩ := h2
  refine ⟨by rw [e2, e1], ?_⟩
  rcases k2 with k2 | k2 | ⟨n, s, hl, hs⟩
  · rw [k2]; exact k1
  · exact Or.inr (Or.inl k2)
  · exact Or.inr (Or.inr ⟨n, s, by rw [← e1]; exact hl, hs⟩)

theorem SymStep.ff {syms : List SymbolInfo} {c c' : Ctx} (h : SymStep syms c c') (hc : SymFF syms c) : SymFF syms c' := by
  obtain ⟨e, k⟩ := h
  intro s hs
  rcases k with k | k | ⟨n, s', hl, hs'⟩
  · rw [k] at hs; rw [e]; exact hc s hs
  · rw [k] at hs; cases hs
  · rw [hs'] at hs; cases hs; rw [e]; exact ⟨n, hl⟩

/-- `SymStep` with a bound: the symbol is kept, forgotten (`ResetSymbolInfo`), or looked up afresh
    (`UpdateSymbolInfoByLength`) for at most `β` codewords -/
def StepB (syms : List SymbolInfo) (β : Nat) (c c' : Ctx) : Prop :=
  c'.cfg = c.cfg ∧ (c'.sym = c.sym ∨ c'.sym = none ∨ ∃ n s, n ≤ β ∧ lookup syms c.cfg n = some s ∧ c'.sym = some s)

theorem StepB.refl (syms : List SymbolInfo) (β : Nat) (c : Ctx) : StepB syms β c c := ⟨rfl, Or.inl rfl⟩

theorem StepB.of_eq {syms : List SymbolInfo} {β : Nat} {c c' : Ctx} (h1 : c'.cfg = c.cfg) (h2 : c'.sym = c.sym) :
    StepB syms β c c' := ⟨h1, Or.inl h2⟩
theorem StepB.of_none {syms : List SymbolInfo} {β : Nat} {c c' : Ctx} (h1 : c'.cfg = c.cfg) (h2 : c'.sym = none) :
    StepB syms β c c' := ⟨h1, Or.inr (Or.inl h2)⟩

theorem StepB.mono {syms : List SymbolInfo} {β β' : Nat} {c c' : Ctx} (h : StepB syms β c c') (hb : β ≤ β') :
    StepB syms β' c c' := by
  obtain ⟨e, k⟩ := h
  refine ⟨e, ?_⟩
  rcases k with k | k | ⟨n, s, hn, hl, hs⟩
  · exact Or.inl k
  · exact Or.inr (Or.inl k)
  · exact Or.inr (Or.inr ⟨n, s, by omega, hl, hs⟩)

theorem StepB.trans {syms : List SymbolInfo} {β1 β2 : Nat} {a b c : Ctx} (h1 : StepB syms β1 a b)
    (h2 : StepB syms β2 b c) : StepB syms (max β1 β2) a c := by
  obtain ⟨e1, k1⟩ := h1
  obtain ⟨e2, k2⟩ := h2
  refine ⟨by rw [e2, e1], ?_⟩
  rcases k2 with k2 | k2 | ⟨n, s, hn, hl, hs⟩
  · rw [k2]
    rcases k1 with k1 | k1 | ⟨n, s, hn, hl, hs⟩
    · exact Or.inl k1
    · exact Or.inr (Or.inl k1)
    · exact Or.inr (Or.inr ⟨n, s, by omega, hl, hs⟩)
  · exact Or.inr (Or.inl k2)
  · exact Or.inr (Or.inr ⟨n, s, by omega, by rw [← e1]; exact hl, hs⟩)

/-- `SymFF` with a bound: the symbol was looked up for a codeword count that is (almost) reached -/
def SymB (syms : List SymbolInfo) (c : Ctx) : Prop :=
  ∀ s, c.sym = some s → ∃ n, n ≤ c.count + 1 ∧ lookup syms c.cfg n = some s

theorem SymB.ff {syms : List SymbolInfo} {c : Ctx} (h : SymB syms c) : SymFF syms c :=
  fun s hs => let ⟨n, _, hl⟩ := h s hs; ⟨n, hl⟩

theorem SymB.step {syms : List SymbolInfo} {β : Nat} {c c' : Ctx} (hc : SymB syms c) (h : StepB syms β c c')
    (hcnt : c.count ≤ c'.count) (hb : β ≤ c'.count + 1) : SymB syms c' := by
  obtain ⟨e, k⟩ := h
  intro s hs
  rcases k with k | k | ⟨n, s', hn, hl, hs'⟩
  · rw [k] at hs
    obtain ⟨n, hn, hl⟩ := hc s hs
    exact ⟨n, by omega, by rw [e]; exact hl⟩
  · rw [k] at hs; cases hs
  · rw [hs'] at hs; cases hs
    exact ⟨n, by omega, by rw [e]; exact hl⟩

theorem update_stepB {syms : List SymbolInfo} {c c' : Ctx} {n : Nat} (h : c.update syms n = .ok c') :
    StepB syms n c c' := by
  rcases update_cases h with ⟨rfl, _⟩ | ⟨s, hl, rfl, _⟩
  · exact StepB.refl _ _ _
  · exact ⟨rfl, Or.inr (Or.inr ⟨n, s, Nat.le_refl _, hl, rfl⟩)⟩

theorem c40Available_stepB {syms : List SymbolInfo} {c c2 : Ctx} {buf : List Nat} {av : Nat}
    (h : c40Available syms c buf = .ok (c2, av)) : StepB syms (c.count + buf.length / 3 * 2) c c2 :=
  update_stepB (c40Available_update h)

theorem StepB.symStep {syms : List SymbolInfo} {β : Nat} {c c' : Ctx} (h : StepB syms β c c') : SymStep syms c c' := by
  obtain ⟨e, k⟩ := h
  rcases k with k | k | ⟨n, s, _, hl, hs⟩
  · exact ⟨e, .inl k⟩
  · exact ⟨e, .inr (.inl k)⟩
  · exact ⟨e, .inr (.inr ⟨n, s, hl, hs⟩)⟩

theorem update_symStep {syms : List SymbolInfo} {c c' : Ctx} {n : Nat} (h : c.update syms n = .ok c') :
    SymStep syms c c' := (update_stepB h).symStep

theorem back_symStep {syms : List SymbolInfo} {c c' : Ctx} {k : Nat} (h : c.back k = .ok c') : SymStep syms c c' := by
  obtain ⟨_, rfl⟩ := back_spec h
  exact SymStep.refl _ _

theorem backtrackOne_symStep {syms : List SymbolInfo} {text : Bool} {c c' : Ctx} {buf buf' : List Nat} {ls l' : Nat}
    (h : backtrackOne text c buf ls = .ok (c', buf', l')) : SymStep syms c c' := by
  rw [backtrackOne_ctx h]
  exact SymStep.of_none rfl rfl

theorem c40Available_sym_cases {syms : List SymbolInfo} {c c2 : Ctx} {buf : List Nat} {av : Nat}
    (h : c40Available syms c buf = .ok (c2, av)) :
    c2.cfg = c.cfg ∧ c2.cw = c.cw ∧
      (c2.sym = c.sym ∨ ∃ s, lookup syms c.cfg (c.count + buf.length / 3 * 2) = some s ∧ c2.sym = some s) :=
  update_sym_cases (c40Available_update h)

/-- loop form: the symbol is the entry symbol and the buffer has not shrunk, or it was looked up for the complete
    triplets of the CURRENT buffer -/
def LoopB (syms : List SymbolInfo) (c : Ctx) (buf : List Nat) (c' : Ctx) (buf' : List Nat) : Prop :=
  c'.cfg = c.cfg ∧ c'.cw = c.cw ∧
  ((c'.sym = c.sym ∧ buf.length ≤ buf'.length) ∨
   ∃ n s, n ≤ c.count + buf'.length / 3 * 2 ∧ lookup syms c.cfg n = some s ∧ c'.sym = some s)

/-- after `ResetSymbolInfo` the symbol is a fresh lookup for the complete triplets of the buffer -/
theorem c40Available_fresh {syms : List SymbolInfo} {c c2 : Ctx} {buf : List Nat} {av : Nat}
    (h : c40Available syms c buf = .ok (c2, av)) (hn : c.sym = none) :
    ∃ s, lookup syms c.cfg (c.count + buf.length / 3 * 2) = some s ∧ c2.sym = some s := by
  rcases (c40Available_sym_cases h).2.2 with k | k
  · obtain ⟨_, _, _, _, _, _, s, hs, _⟩ := c40Available_spec h
    rw [k, hn] at hs; cases hs
  · exact k

theorem backtrackLoop_loopB {syms : List SymbolInfo} {text : Bool} :
    ∀ (fuel : Nat) (c : Ctx) (buf : List Nat) (ls av : Nat) (c' : Ctx) (buf' : List Nat),
      backtrackLoop syms text fuel c buf ls av = .ok (c', buf') →
      c'.cfg = c.cfg ∧ c'.cw = c.cw ∧
      ((c'.sym = c.sym ∧ buf' = buf) ∨
       ∃ n s, n ≤ c.count + buf'.length / 3 * 2 ∧ lookup syms c.cfg n = some s ∧ c'.sym = some s) := by
  intro fuel c buf ls av c' buf' h
  rw [backtrackLoop_eq] at h
  refine loopOf_inv
    (fun s : BS => s.1.cfg = c.cfg ∧ s.1.cw = c.cw ∧ ((s.1.sym = c.sym ∧ s.2.1 = buf) ∨
      ∃ n s', n ≤ c.count + s.2.1.length / 3 * 2 ∧ lookup syms c.cfg n = some s' ∧ s.1.sym = some s'))
    (fun r : LS => r.1.cfg = c.cfg ∧ r.1.cw = c.cw ∧ ((r.1.sym = c.sym ∧ r.2 = buf) ∨
      ∃ n s', n ≤ c.count + r.2.length / 3 * 2 ∧ lookup syms c.cfg n = some s' ∧ r.1.sym = some s'))
    (fun _ _ _ hz => by cases hz) (fun _ hI _ => hI) (fun s r _ _ hd => ?_) (fun s s' hI _ hs => ?_) fuel _ (c', buf')
    ⟨rfl, rfl, .inl ⟨rfl, rfl⟩⟩ h
  · unfold btIter at hd
    obtain ⟨_, _, hd⟩ := bind_ok hd
    obtain ⟨_, _, hd⟩ := bind_ok hd
    cases hd
  · -- one character back: the symbol is forgotten and looked up afresh for the shorter buffer
    unfold btIter at hs
    obtain ⟨⟨c1, buf1, l1⟩, h1, hs⟩ := bind_ok hs
    obtain ⟨⟨c2, av2⟩, h2, hs⟩ := bind_ok hs
    cases hs
    obtain ⟨e, hcw, _⟩ := hI
    have hc1 := backtrackOne_ctx h1
    obtain ⟨e2, hcw2, _⟩ := c40Available_sym_cases h2
    obtain ⟨s', hl, hs'⟩ := c40Available_fresh h2 (by rw [hc1])
    have e1 : c1.cfg = c.cfg := by rw [hc1]; exact e
    have hcnt1 : c1.count = c.count := by rw [hc1]; simp [Ctx.count, hcw]
    exact ⟨e2.trans e1, by rw [hcw2, hc1]; exact hcw, .inr ⟨c1.count + buf1.length / 3 * 2, s', Nat.le_of_eq (by rw [hcnt1]), by rw [← e1]; exact hl, hs'⟩⟩

/-- the loop form extended by one more lookup for a buffer that has not shrunk -/
theorem LoopB.step {syms : List SymbolInfo} {c c1 c2 : Ctx} {buf buf1 buf2 : List Nat} (h : LoopB syms c buf c1 buf1)
    (e2 : c2.cfg = c1.cfg) (hcw2 : c2.cw = c1.cw)
    (k2 : c2.sym = c1.sym ∨ ∃ s, lookup syms c1.cfg (c1.count + buf2.length / 3 * 2) = some s ∧ c2.sym = some s)
    (hb : buf1.length ≤ buf2.length) : LoopB syms c buf c2 buf2 := by
  obtain ⟨e1, hcw1, k1⟩ := h
  have hcnt1 : c1.count = c.count := by simp [Ctx.count, hcw1]
  refine ⟨e2.trans e1, hcw2.trans hcw1, ?_⟩
  rcases k2 with k | ⟨s, hl, hs⟩
  · rcases k1 with ⟨ks, kb⟩ | ⟨n, s, hn, hl, hs⟩
    · exact .inl ⟨k.trans ks, by omega⟩
    · exact .inr ⟨n, s, by omega, hl, by rw [k]; exact hs⟩
  · exact .inr ⟨c1.count + buf2.length / 3 * 2, s, Nat.le_of_eq (by rw [hcnt1]), by rw [← e1]; exact hl, hs⟩

theorem c40End_loopB {syms : List SymbolInfo} {text : Bool} {c c2 c' : Ctx} {buf buf2 buf' : List Nat} {sz av : Nat}
    (h2 : LoopB syms c buf c2 buf2) (h : c40End syms text c2 buf2 sz av = .ok (c', buf')) : LoopB syms c buf c' buf' := by
  have hcnt2 : c2.count = c.count := by simp [Ctx.count, h2.2.1]
  -- the backtracking loop started at `d` with `dbuf`, the symbol of `d` being as the loop form wants it for `dbuf`
  have close : ∀ (d : Ctx) (dbuf : List Nat) (ls a : Nat), LoopB syms c buf d dbuf →
      backtrackLoop syms text (dbuf.length + 1) d dbuf ls a = .ok (c', buf') → LoopB syms c buf c' buf' := by
    intro d dbuf ls a hd hb
    obtain ⟨e', hcw', k'⟩ := backtrackLoop_loopB _ _ _ _ _ _ _ hb
    have hcntd : d.count = c.count := by simp [Ctx.count, hd.2.1]
    rcases k' with ⟨ks, kb⟩ | ⟨n, s, hn, hl, hs⟩
    · rw [kb]; exact ⟨e'.trans hd.1, hcw'.trans hd.2.1, by rw [ks]; exact hd.2.2⟩
    · exact ⟨e'.trans hd.1, hcw'.trans hd.2.1, .inr ⟨n, s, by rw [hcntd] at hn; exact hn, by rw [← hd.1]; exact hl, hs⟩⟩
  unfold c40End at h
  split at h
  · obtain ⟨⟨c3, buf3, l3⟩, h3, h⟩ := bind_ok h
    obtain ⟨⟨c4, av4⟩, h4, h⟩ := bind_ok h
    have hc3 := backtrackOne_ctx h3
    obtain ⟨e4, hcw4, _⟩ := c40Available_sym_cases h4
    obtain ⟨s, hl, hs⟩ := c40Available_fresh h4 (by rw [hc3])
    have e3 : c3.cfg = c.cfg := by rw [hc3]; exact h2.1
    have hcw3 : c3.cw = c.cw := by rw [hc3]; exact h2.2.1
    have hcnt3 : c3.count = c.count := by simp [Ctx.count, hcw3]
    exact close c4 buf3 l3 av4 ⟨e4.trans e3, hcw4.trans hcw3, .inr ⟨c3.count + buf3.length / 3 * 2, s, Nat.le_of_eq (by rw [hcnt3]), by rw [← e3]; exact hl, hs⟩⟩ h
  · exact close c2 buf2 sz av h2 h

theorem c40Loop_loopB {syms : List SymbolInfo} {la : LookAhead} {text : Bool} :
    ∀ (fuel : Nat) (c : Ctx) (buf : List Nat) (c' : Ctx) (buf' : List Nat),
      c40Loop syms la text fuel c buf = .ok (c', buf') → LoopB syms c buf c' buf' := by
  intro fuel c buf c' buf' h
  rw [c40Loop_eq] at h
  -- one iteration: the next character is buffered and the symbol looked up for the longer buffer
  have iter : ∀ (s : LS) (o : Iter LS LS), LoopB syms c buf s.1 s.2 → c40Iter syms la text s = .ok o →
      match o with
      | .done r => LoopB syms c buf r.1 r.2
      | .more s' => LoopB syms c buf s'.1 s'.2 := by
    intro s o hI ho
    unfold c40Iter at ho
    obtain ⟨ch, _, ho⟩ := bind_ok ho
    obtain ⟨⟨c2, av⟩, h2, ho⟩ := bind_ok ho
    obtain ⟨e2, hcw2, k2⟩ := c40Available_sym_cases h2
    have L2 : LoopB syms c buf c2 (s.2 ++ cEncodeChar text ch) := hI.step e2 hcw2 k2 (by simp)
    simp only at ho
    by_cases hnm : (!c2.hasMore) = true
    · rw [if_pos hnm] at ho
      cases hx : c40End syms text c2 (s.2 ++ cEncodeChar text ch) (cEncodeChar text ch).length av with
      | error e => rw [hx] at ho; cases ho
      | ok r => rw [hx] at ho; cases ho; exact c40End_loopB L2 hx
    · rw [if_neg hnm] at ho
      rcases ite_eq_cases ho with ⟨_, ho⟩ | ho <;> cases ho <;> exact L2
  exact loopOf_inv (fun s => LoopB syms c buf s.1 s.2) (fun r => LoopB syms c buf r.1 r.2)
    (fun s r hI hz => by rw [(zCheck_ok hz).2]; exact hI) (fun _ hI _ => hI)
    (fun s r hI _ hd => iter s (.done r) hI hd) (fun s s' hI _ hs => iter s (.more s') hI hs) fuel (c, buf) (c', buf')
    ⟨rfl, rfl, .inl ⟨rfl, Nat.le_refl _⟩⟩ h

theorem LoopB.stepB {syms : List SymbolInfo} {c c' : Ctx} {buf buf' : List Nat} (h : LoopB syms c buf c' buf') :
    StepB syms (c.count + buf'.length / 3 * 2) c c' := by
  obtain ⟨e, _, k⟩ := h
  rcases k with ⟨k, _⟩ | ⟨n, s, hn, hl, hs⟩
  · exact ⟨e, .inl k⟩
  · exact ⟨e, .inr (.inr ⟨n, s, hn, hl, hs⟩)⟩

theorem KF.stepB {syms : List SymbolInfo} {β : Nat} {c c' : Ctx} (h : KF syms β c c') : StepB syms β c c' := by
  obtain ⟨e, _, k⟩ := h
  rcases k with k | ⟨n, s, hn, hl, hs⟩
  · exact ⟨e, .inl k⟩
  · exact ⟨e, .inr (.inr ⟨n, s, hn, hl, hs⟩)⟩

/-! ## a whole call of a mode encoder -/

/-- what follows leaves hints and symbol alone -/
theorem StepB.congr {syms : List SymbolInfo} {β : Nat} {c c2 c' : Ctx} (h : StepB syms β c c2) (h1 : c'.cfg = c2.cfg)
    (h2 : c'.sym = c2.sym) : StepB syms β c c' :=
  ⟨h1.trans h.1, by rw [h2]; exact h.2⟩

/-- what came before left hints and symbol alone -/
theorem StepB.pre {syms : List SymbolInfo} {β : Nat} {c c1 c' : Ctx} (h : StepB syms β c1 c') (h1 : c1.cfg = c.cfg)
    (h2 : c1.sym = c.sym) : StepB syms β c c' :=
  ⟨h.1.trans h1, by rw [← h2, ← h1]; exact h.2⟩

theorem writeTriplets_fst_len (l : List Nat) : l.length / 3 * 2 = (writeTriplets l).1.length := by
  obtain ⟨k, h1, h2, _, _, _, h6⟩ := writeTriplets_split l
  rw [h6]; omega

/-- `c40HandleEOD` writes at least the complete triplets the symbol was looked up for -/
theorem c40Eod_length {more : Bool} {buf : List Nat} {av : Nat} {x : List Nat} {k : Nat}
    (h : c40Eod more buf av = some (x, k)) : buf.length / 3 * 2 ≤ x.length := by
  obtain ⟨u, _, hc⟩ := c40Eod_cases h
  have hl1 := writeTriplets_fst_len buf
  have hl2 := writeTriplets_fst_len (buf ++ [0])
  simp only [List.length_append, List.length_cons, List.length_nil] at hl2
  rcases hc with ⟨_, rfl, _⟩ | ⟨_, _, rfl, _⟩ | ⟨_, rfl, _⟩ <;> simp only [List.length_append] <;> omega

theorem c40Encode_stepB {syms : List SymbolInfo} {la : LookAhead} {text : Bool} {c c' : Ctx}
    (h : c40Encode syms la text c = .ok c') : StepB syms (c'.count + 1) c c' ∧ c.count ≤ c'.count := by
  unfold c40Encode at h
  obtain ⟨⟨c1, buf1⟩, hl, h⟩ := bind_ok h
  have L := c40Loop_loopB _ _ _ _ _ hl
  obtain ⟨c2, av, x, k, hav, hd, _, rfl⟩ := c40HandleEOD_ok_iff.1 h
  have hcw2 : c2.cw = c1.cw := (c40Available_sym_cases hav).2.1
  have hc1 : c1.count = c.count := by simp [Ctx.count, L.2.1]
  have hlen := c40Eod_length hd
  have hcnt : c.count + buf1.length / 3 * 2 ≤ (c2.leave x k).count := by
    simp only [Ctx.leave, Ctx.count, List.length_append, hcw2, L.2.1]; omega
  exact ⟨((L.stepB.trans (c40Available_stepB hav)).congr rfl rfl).mono (by rw [hc1]; omega), by omega⟩

theorem x12Encode_stepB {syms : List SymbolInfo} {la : LookAhead} {c c' : Ctx} (hle : c.pos ≤ c.total)
    (h : x12Encode syms la c = .ok c') : StepB syms (c'.count + 1) c c' ∧ c.count ≤ c'.count := by
  unfold x12Encode at h
  obtain ⟨⟨c1, buf1⟩, hl, h⟩ := bind_ok h
  obtain ⟨vals, _, hcw1, _, hsf, _⟩ := (x12Loop_sat la c.remaining c [] [] [] (by simp) hle rfl (Nat.le_refl _)).of_ok hl
  simp only at hcw1 hsf
  obtain ⟨c2, s, h2, _, _, rfl⟩ := x12HandleEOD_ok_iff.1 h
  obtain ⟨_, g2, _, g4, _, g6, _⟩ := x12Out_facts c2 s buf1.length
  have hcw2 := (update_spec h2).1
  have h1c : c.count ≤ c1.count := by simp [Ctx.count, hcw1]
  have hcc : c1.count ≤ (x12Out c2 s buf1.length).count := by
    rcases g6 with e | e <;> simp [Ctx.count, e, hcw2]
  exact ⟨(((update_stepB h2).congr g2 g4).pre hsf.cfg hsf.sym).mono (by omega), by omega⟩

theorem b256Encode_stepB {syms : List SymbolInfo} {la : LookAhead} {c c' : Ctx} (hle : c.pos ≤ c.total)
    (h : b256Encode syms la c = .ok c') : StepB syms (c'.count + 1) c c' ∧ c.count ≤ c'.count := by
  obtain ⟨c1, data, c2, s, hdr, hl, hu, _, hh, rfl⟩ := b256Encode_ok_iff.1 h
  obtain ⟨hcw1, hsf, _⟩ := (b256Loop_sat la c.remaining c [] hle (Nat.le_refl _)).of_ok hl
  simp only at hcw1 hsf
  have hcw2 := (update_spec hu).1
  have hhl := (b256Header_length hh).1
  have hc1 : c1.count = c.count := by simp [Ctx.count, hcw1]
  have hcnt : c1.count + data.length + 1 ≤ (c2.writeAll (rand255All (hdr ++ data) (c2.count + 1))).count := by
    simp only [Ctx.writeAll, Ctx.count, List.length_append, rand255All_length, hcw2]; omega
  exact ⟨(((update_stepB hu).congr rfl rfl).pre hsf.cfg hsf.sym).mono (by omega), by omega⟩

theorem edifactEncode_stepB {syms : List SymbolInfo} {la : LookAhead} {c c' : Ctx} (hle : c.pos ≤ c.total)
    (h : edifactEncode syms la c = .ok c') : StepB syms (c'.count + 1) c c' ∧ c.count ≤ c'.count := by
  unfold edifactEncode at h
  obtain ⟨⟨c1, buf1⟩, hl, h⟩ := bind_ok h
  obtain ⟨chars, _, _, hcw1, _, hsf, _, hle1, _⟩ := (edifactLoop_sat la c.remaining c [] (by simp) hle (Nat.le_refl _)).of_ok hl
  simp only at hcw1 hsf hle1
  have h1c : c.count ≤ c1.count := by simp [Ctx.count, hcw1]
  have hpl := edifactPack_length (buf1 ++ [31]) (by simp)
  suffices StepB syms (c'.count + 1) c1 c' ∧ c1.count ≤ c'.count from ⟨this.1.pre hsf.cfg hsf.sym, by omega⟩
  have early : ∀ c2 b, ediEarly syms c1 (buf1 ++ [31]).length = .ok (c2, b) → KF syms (c1.count + 1) c1 c2 :=
    fun c2 b he => ((ediEarly_sat (syms := syms) (buf1 ++ [31]).length hle1).of_ok he).2
  have step : ∀ c2 c3 b, ediStep syms c2 (buf1 ++ [31]) = .ok (c3, b) →
      KF syms (c2.count + max ((buf1 ++ [31]).length - 1) (edifactPack (buf1 ++ [31])).length) c2 c3 :=
    fun c2 c3 b hs => ((ediStep_sat (syms := syms) (c := c2) (buf1 ++ [31])).of_ok hs).2.1
  cases edifactHandleEOD_ok_iff.1 h with
  | empty h0 => simp at h0
  | noUnlatch c2 _ he =>
    have k2 := early c2 true he
    have hc : (c2.signal ASCII).count = c1.count := by simp [Ctx.signal, Ctx.count, k2.2.1]
    exact ⟨(k2.stepB.congr rfl rfl).mono (by omega), by omega⟩
  | ascii c2 c3 _ he _ hs _ =>
    have k2 := early c2 false he
    have k3 := step c2 c3 _ hs
    exact ⟨StepB.of_none (k3.1.trans k2.1) rfl, by simp [Ctx.signal, Ctx.count, k3.2.1, k2.2.1]⟩
  | pack c2 c3 _ he h4 hs =>
    have k2 := early c2 false he
    have k3 := step c2 c3 _ hs
    have hc2 : c2.count = c1.count := by simp [Ctx.count, k2.2.1]
    have hc : ((c3.writeAll (edifactPack (buf1 ++ [31]))).signal ASCII).count =
        c1.count + (edifactPack (buf1 ++ [31])).length := by
      simp [Ctx.signal, Ctx.writeAll, Ctx.count, k3.2.1, k2.2.1]
    simp only [List.length_append, List.length_cons, List.length_nil] at hpl h4
    exact ⟨((k2.stepB.trans k3.stepB).congr rfl rfl).mono
      (by simp only [List.length_append, List.length_cons, List.length_nil]; omega), by omega⟩

theorem asciiEncode_stepB {syms : List SymbolInfo} {la : LookAhead} {c c' : Ctx}
    (h : asciiEncode la c = .ok c') : StepB syms (c'.count + 1) c c' ∧ c.count ≤ c'.count := by
  obtain ⟨x, p, s, ho, rfl⟩ := asciiEncode_ok_iff.1 h
  exact ⟨StepB.of_eq rfl rfl, by simp [Ctx.count]⟩

theorem encodeMode_stepB {syms : List SymbolInfo} {la : LookAhead} {mode : Nat} {c c' : Ctx} (hle : c.pos ≤ c.total)
    (h : encodeMode syms la mode c = .ok c') : StepB syms (c'.count + 1) c c' ∧ c.count ≤ c'.count := by
  rcases encodeMode_ok h with ⟨_, h⟩ | ⟨_, h⟩ | ⟨_, h⟩ | ⟨_, h⟩ | ⟨_, h⟩ | ⟨_, h⟩
  · exact asciiEncode_stepB h
  · exact c40Encode_stepB h
  · exact c40Encode_stepB h
  · exact x12Encode_stepB hle h
  · exact edifactEncode_stepB hle h
  · exact b256Encode_stepB hle h

theorem encodeMode_symB {syms : List SymbolInfo} {la : LookAhead} {mode : Nat} {c c' : Ctx} (hc : SymB syms c)
    (hle : c.pos ≤ c.total) (h : encodeMode syms la mode c = .ok c') : SymB syms c' ∧ c.count ≤ c'.count :=
  let ⟨hs, hcnt⟩ := encodeMode_stepB hle h
  ⟨hc.step hs hcnt (Nat.le_refl _), hcnt⟩

theorem asciiEncode_symStep {syms : List SymbolInfo} {la : LookAhead} {c c' : Ctx}
    (h : asciiEncode la c = .ok c') : SymStep syms c c' := (asciiEncode_stepB h).1.symStep

theorem encodeMode_symStep {syms : List SymbolInfo} {la : LookAhead} {mode : Nat} {c c' : Ctx} (hle : c.pos ≤ c.total)
    (h : encodeMode syms la mode c = .ok c') : SymStep syms c c' := (encodeMode_stepB hle h).1.symStep

theorem dispatch_symStep {syms : List SymbolInfo} {la : LookAhead} (fuel mode : Nat) (c c' : Ctx) (m' : Nat)
    (hnew : c.newEnc = none) (h : dispatch syms la fuel mode c = .ok (c', m')) : SymStep syms c c' :=
  dispatch_inv (SymStep syms c)
    (fun _ d _ hI _ hm he =>
      (hI.trans (encodeMode_symStep (Nat.le_of_lt ((hasMore_iff d).mp hm)) he)).trans (SymStep.of_eq rfl rfl))
    fuel mode c c' m' (SymStep.refl syms c) hnew h

/-- looking the capacity of a first fit up again finds the same symbol: earlier admissible rows were too small for
    `n`, hence too small for the capacity -/
theorem lookup_idem {syms : List SymbolInfo} {cfg : Cfg} {n : Nat} {s : SymbolInfo}
    (h : lookup syms cfg n = some s) : lookup syms cfg s.cap = some s ∧ n ≤ s.cap ∧ s ∈ syms ∧ admissible cfg s = true := by
  unfold lookup at h ⊢
  have hs := List.find?_some h
  simp only [Bool.and_eq_true, decide_eq_true_eq] at hs
  exact ⟨find?_firstFit_idem _ _ h, hs.2, List.mem_of_find?_eq_some h, hs.1⟩

theorem padFrom_length : ∀ (k p : Nat), (padFrom k p).length = k := by
  intro k
  induction k with
  | zero => intro p; rfl
  | succ m ih => intro p; simp [padFrom, ih]

theorem padding_length (len cap : Nat) (h : len ≤ cap) : len + (padding len cap).length = cap := by
  unfold padding
  split
  · simp only [List.length_cons, padFrom_length]; omega
  · simp only [List.length_nil]; omega

theorem initCtx_sym (msg : List Nat) (cfg : Cfg) : (initCtx msg cfg).sym = none ∧ (initCtx msg cfg).cfg = cfg := by
  unfold initCtx
  simp only
  split
  · exact ⟨rfl, rfl⟩
  · split <;> exact ⟨rfl, rfl⟩

/-- the symbol `EncodeHighLevel` pads for: a first fit `s` (what `SymbolInfo_Lookup` returns for some codeword count
    `n`, under the same hints), the stream has exactly `s.cap` codewords, and `SymbolInfo_Lookup(len(encoded))` — the
    writer's second lookup — returns `s` again.  Every look-ahead oracle, every table, every hint configuration. -/
theorem encodeHL_symbol (syms : List SymbolInfo) (la : LookAhead) (msg : List Nat) (cfg : Cfg) (cw : List Nat)
    (h : encodeHL syms la msg cfg = .ok cw) :
    ∃ s n, lookup syms cfg n = some s ∧ cw.length = s.cap ∧ lookup syms cfg cw.length = some s ∧
      s ∈ syms ∧ admissible cfg s = true := by
  unfold encodeHL at h
  obtain ⟨r, hd, h⟩ := bind_ok h
  obtain ⟨c1, mode⟩ := r
  obtain ⟨c2, hu, h⟩ := bind_ok h
  obtain ⟨cap, hc, h⟩ := bind_ok h
  obtain ⟨hs0, hcfg0⟩ := initCtx_sym msg cfg
  have hff0 : SymFF syms (initCtx msg cfg) := by intro s hs; rw [hs0] at hs; cases hs
  obtain ⟨_, _, hn0, _⟩ := initCtx_inv refTables msg cfg
  have st := (dispatch_symStep _ _ _ _ _ hn0 hd).trans (update_symStep hu)
  have hff2 : SymFF syms c2 := st.ff hff0
  have hcfg2 : c2.cfg = cfg := by rw [st.1, hcfg0]
  obtain ⟨ucw, _, _, _, _, _, s, hs, hcap, _⟩ := update_spec hu
  have hcapv : cap = s.cap := by
    unfold Ctx.capacity at hc; rw [hs] at hc; cases hc; rfl
  obtain ⟨n, hn⟩ := hff2 s hs
  rw [hcfg2] at hn
  obtain ⟨hidem, _, hmem, hadm⟩ := lookup_idem hn
  have hlen : cw.length = s.cap := by
    simp only [Except.ok.injEq] at h
    subst h
    have hcnt : c2.count = c1.count := by simp [Ctx.count, ucw]
    split
    · rename_i hc3
      simp only [List.length_append, Ctx.write, Ctx.count, List.length_cons, List.length_nil, Nat.zero_add]
      have := padding_length (c2.cw.length + 1) cap (by simp only [Ctx.count] at hcnt hc3; omega)
      simp only [Ctx.count] at hcnt
      omega
    · simp only [List.length_append, Ctx.count]
      have := padding_length c2.count cap (by rw [hcnt, hcapv]; exact hcap)
      simp only [Ctx.count] at this
      omega
  exact ⟨s, n, hn, hlen, by rw [hlen]; exact hidem, hmem, hadm⟩

end Gzx.DMHighLevel
