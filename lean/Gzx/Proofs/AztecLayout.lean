/-
  C11 layout: the decoder's read positions (`readPositions`: layer by layer, four sides of dominoes,
  through `alignmentMap`) are, in the reference layout `cellAt`, exactly the cells `data 0, data 1, ...`
  (`layoutOK`, which holds for every layer count), so reading back a laid-out symbol returns the bit stream.

  The argument runs in base coordinates (reference-grid lines removed), where both sides are plain
  arithmetic: `alignmentMap` is a right inverse of the reference's grid removal, so `cellAt` at a read
  position is `dataIndex` of the base coordinates, and on the four sides of layer `i` `dataIndex` counts
  on from `8 i (B - 2 i)`, the number of positions read in the layers further out.
-/
import Gzx.Ref.AztecLayout
import Gzx.Proofs.AztecExtract
namespace Gzx.AztecLayout
open Gzx Gzx.AztecDecoder Gzx.Ref.Aztec

/-- single pass over the read positions: in range, and the n-th position is reference cell `data n` -/
def checkFrom (compact : Bool) (layers size : Nat) : List (Nat × Nat) → Nat → Bool
  | [], _ => true
  | p :: ps, n =>
    (Nat.blt p.1 size && Nat.blt p.2 size &&
      (match cellAt compact layers p.1 p.2 with
       | .data m => Nat.beq m n
       | _ => false))
    && checkFrom compact layers size ps (n + 1)

/-- the decoder reads exactly the data cells of the reference layout, each once, in stream order.  Written as a
    program (`checkFrom`) so that the statement is one decidable fact per size, which evaluation can also confirm for
    a given size; `readAll_layout` is where it is read as facts about the single positions -/
def layoutOK (compact : Bool) (layers : Nat) : Bool :=
  let ps := readPositions layers compact
  Nat.beq ps.length (totalBits compact layers) &&
    checkFrom compact layers (symbolSize compact layers) ps 0

/-! ## The data region in base coordinates -/

/-- the stream index `cellAt` gives the data cell at base coordinates `(bx, by')` of a `B × B` square
    (coordinates with the reference-grid lines removed): the last branch of `cellAt` -/
def dataIndex (B bx by' : Nat) : Nat :=
  let i := (min (min bx by') (min (B - 1 - bx) (B - 1 - by'))) / 2
  let low := 2 * i
  let high := B - 1 - 2 * i
  let rowSize := high - low - 1
  let off := 8 * i * (B - 2 * i)
  if bx ≤ low + 1 ∧ by' ≤ high - 2 then off + 2 * (by' - low) + (bx - low)
  else if by' ≥ high - 1 ∧ bx ≤ high - 2 then off + 2 * rowSize + 2 * (bx - low) + (high - by')
  else if bx ≥ high - 1 ∧ by' ≥ low + 2 then off + 4 * rowSize + 2 * (high - by') + (high - bx)
  else off + 6 * rowSize + 2 * (high - bx) + (by' - low)

/- The four sides of layer `i`, in the coordinates `layerPositions` reads them: domino `j < B - 4i - 2`
   along the side, module `k < 2` across it. -/

theorem dataIndex_left (B i j k : Nat) (hj : 4 * i + 3 + j ≤ B) (hk : k < 2) :
    dataIndex B (i * 2 + k) (i * 2 + j) = 8 * i * (B - 2 * i) + 2 * j + k := by
  have hi : min (min (i * 2 + k) (i * 2 + j)) (min (B - 1 - (i * 2 + k)) (B - 1 - (i * 2 + j))) / 2 = i := by
    omega
  simp only [dataIndex, hi]
  generalize 8 * i * (B - 2 * i) = off
  rw [if_pos (by omega)]; omega

theorem dataIndex_bottom (B i j k : Nat) (hj : 4 * i + 3 + j ≤ B) (hk : k < 2) :
    dataIndex B (i * 2 + j) (B - 1 - i * 2 - k) =
      8 * i * (B - 2 * i) + 2 * (B - 4 * i - 2) + 2 * j + k := by
  have hi : min (min (i * 2 + j) (B - 1 - i * 2 - k))
      (min (B - 1 - (i * 2 + j)) (B - 1 - (B - 1 - i * 2 - k))) / 2 = i := by
    omega
  simp only [dataIndex, hi]
  generalize 8 * i * (B - 2 * i) = off
  rw [if_neg (by omega), if_pos (by omega)]; omega

theorem dataIndex_right (B i j k : Nat) (hj : 4 * i + 3 + j ≤ B) (hk : k < 2) :
    dataIndex B (B - 1 - i * 2 - k) (B - 1 - i * 2 - j) =
      8 * i * (B - 2 * i) + 4 * (B - 4 * i - 2) + 2 * j + k := by
  have hi : min (min (B - 1 - i * 2 - k) (B - 1 - i * 2 - j))
      (min (B - 1 - (B - 1 - i * 2 - k)) (B - 1 - (B - 1 - i * 2 - j))) / 2 = i := by
    omega
  simp only [dataIndex, hi]
  generalize 8 * i * (B - 2 * i) = off
  rw [if_neg (by omega), if_neg (by omega), if_pos (by omega)]; omega

theorem dataIndex_top (B i j k : Nat) (hj : 4 * i + 3 + j ≤ B) (hk : k < 2) :
    dataIndex B (B - 1 - i * 2 - j) (i * 2 + k) =
      8 * i * (B - 2 * i) + 6 * (B - 4 * i - 2) + 2 * j + k := by
  have hi : min (min (B - 1 - i * 2 - j) (i * 2 + k))
      (min (B - 1 - (B - 1 - i * 2 - j)) (B - 1 - (i * 2 + k))) / 2 = i := by
    omega
  simp only [dataIndex, hi]
  generalize 8 * i * (B - 2 * i) = off
  rw [if_neg (by omega), if_neg (by omega), if_neg (by omega)]; omega

/-! ## From module coordinates to base coordinates -/

/-- distance of module coordinate `x` from the centre line, as `cellAt` measures it -/
def centreDist (compact : Bool) (layers x : Nat) : Nat := absDiff x (symbolSize compact layers / 2)

/-- the base coordinate `cellAt` computes from module coordinate `x` -/
def baseCoord (compact : Bool) (layers x : Nat) : Nat :=
  if compact then x
  else if x > symbolSize compact layers / 2 then
    halfBase compact layers + (centreDist compact layers x - centreDist compact layers x / 16) - 1
  else halfBase compact layers - (centreDist compact layers x - centreDist compact layers x / 16)

theorem absDiff_of_le {x c : Nat} (h : x ≤ c) : absDiff x c = c - x := by
  unfold absDiff; split <;> omega

theorem absDiff_of_ge {x c : Nat} (h : c ≤ x) : absDiff x c = x - c := if_pos h

theorem matrixSize_eq (layers : Nat) (compact : Bool) :
    matrixSize layers compact = symbolSize compact layers := by
  cases compact <;>
    simp only [matrixSize, symbolSize, baseMatrixSize, halfBase, Bool.false_eq_true, if_false, if_true] <;>
    omega

theorem baseMatrixSize_ge (layers : Nat) (compact : Bool) : 4 * layers + 11 ≤ baseMatrixSize layers compact := by
  unfold baseMatrixSize; split <;> omega

/-- `cellAt` away from the reference grid and outside the mode-message ring -/
theorem cellAt_eq_data (compact : Bool) (layers x y : Nat)
    (hgrid : compact = false → centreDist compact layers x % 16 ≠ 0 ∧ centreDist compact layers y % 16 ≠ 0)
    (hfar : (if compact then 5 else 7) < max (centreDist compact layers x) (centreDist compact layers y)) :
    cellAt compact layers x y = .data (dataIndex (baseMatrixSize layers compact)
      (baseCoord compact layers x) (baseCoord compact layers y)) := by
  have h1 := Nat.lt_asymm hfar
  have h2 := beq_false_of_ne (Nat.ne_of_gt hfar)
  have h3 : (!compact && (centreDist compact layers x % 16 == 0 || centreDist compact layers y % 16 == 0)) = false := by
    cases compact
    · simp [hgrid rfl]
    · rfl
  have hB : (if compact then 2 * halfBase compact layers + 1 else 2 * halfBase compact layers) =
      baseMatrixSize layers compact := by
    cases compact <;> simp only [halfBase, baseMatrixSize, Bool.false_eq_true, if_false, if_true] <;> omega
  simp only [centreDist, baseCoord] at *
  simp only [cellAt, h1, h2, h3, hB, if_false, Bool.false_eq_true]
  simp only [dataIndex, apply_ite Cell.data, Bool.and_eq_true, decide_eq_true_eq]

/-- `alignmentMap` undoes `baseCoord`: base coordinate `idx` is read at a module inside the symbol and
    off the reference grid, and the `2 * layers` outermost coordinates on either side lie outside the
    mode-message ring -/
theorem alignmentMap_spec (compact : Bool) (layers idx : Nat) (h : idx < baseMatrixSize layers compact) :
    alignmentMap layers compact idx < symbolSize compact layers ∧
    (compact = false → centreDist compact layers (alignmentMap layers compact idx) % 16 ≠ 0) ∧
    baseCoord compact layers (alignmentMap layers compact idx) = idx ∧
    (idx < 2 * layers ∨ baseMatrixSize layers compact - 2 * layers ≤ idx →
      (if compact then 5 else 7) < centreDist compact layers (alignmentMap layers compact idx)) := by
  cases compact
  · -- `i` base steps from the centre are `a = i + i / 15 + 1` modules; with `i = 15 q + s` that is
    -- `a = 16 q + s + 1`, no multiple of 16, and `a - a / 16 = i + 1`: all within reach of `omega`
    -- once the distance from the centre `c` is `a` without a case distinction
    have hs : symbolSize false layers = 2 * (7 + 2 * layers + (7 + 2 * layers - 1) / 15) + 1 := rfl
    simp only [alignmentMap, matrixSize_eq, centreDist, baseCoord, halfBase, baseMatrixSize, hs,
      Bool.false_eq_true, if_false, forall_const] at h ⊢
    generalize hc : 7 + 2 * layers + (7 + 2 * layers - 1) / 15 = c
    rw [show (2 * c + 1) / 2 = c by omega, show (layers * 4 + 14) / 2 = 7 + 2 * layers by omega]
    by_cases hlt : idx < 7 + 2 * layers
    · simp only [if_pos hlt]
      generalize hi : 7 + 2 * layers - 1 - idx = i
      have hle : c - (i + i / 15) - 1 ≤ c := by omega
      rw [absDiff_of_le hle, if_neg (Nat.not_lt.2 hle)]
      omega
    · simp only [if_neg hlt]
      generalize hi : idx - (7 + 2 * layers) = i
      have hlt' : c < c + (i + i / 15) + 1 := by omega
      rw [absDiff_of_ge (Nat.le_of_lt hlt'), if_pos hlt']
      omega
  · simp only [alignmentMap, centreDist, baseCoord, baseMatrixSize, symbolSize, halfBase, if_true] at h ⊢
    refine ⟨by omega, nofun, trivial, fun hf => ?_⟩
    unfold absDiff
    split <;> omega

/-- what the decoder reads for base coordinates `(ix, iy)` in one of the `layers` outer layers: a module of
    the symbol, and the reference's data cell `dataIndex B ix iy` -/
theorem cellAt_alignmentMap (compact : Bool) (layers ix iy n : Nat)
    (hx : ix < baseMatrixSize layers compact) (hy : iy < baseMatrixSize layers compact)
    (hl : ix < 2 * layers ∨ baseMatrixSize layers compact - 2 * layers ≤ ix ∨
      iy < 2 * layers ∨ baseMatrixSize layers compact - 2 * layers ≤ iy) (hn : dataIndex (baseMatrixSize layers compact) ix iy = n) :
    alignmentMap layers compact ix < symbolSize compact layers ∧
    alignmentMap layers compact iy < symbolSize compact layers ∧
    cellAt compact layers (alignmentMap layers compact ix) (alignmentMap layers compact iy) = .data n := by
  obtain ⟨sx, gx, bx, fx⟩ := alignmentMap_spec compact layers ix hx
  obtain ⟨sy, gy, by', fy⟩ := alignmentMap_spec compact layers iy hy
  refine ⟨sx, sy, ?_⟩
  rw [cellAt_eq_data compact layers _ _ (fun hc => ⟨gx hc, gy hc⟩) (by omega), bx, by', hn]

/-! ## The read order -/

theorem checkFrom_append (compact : Bool) (layers size : Nat) (ps qs : List (Nat × Nat)) (n : Nat) :
    checkFrom compact layers size (ps ++ qs) n =
      (checkFrom compact layers size ps n && checkFrom compact layers size qs (n + ps.length)) := by
  induction ps generalizing n with
  | nil => simp [checkFrom]
  | cons p ps ih => simp only [List.cons_append, checkFrom, ih, List.length_cons, Bool.and_assoc,
      Nat.add_assoc, Nat.add_comm 1]

/-- the domino order of one side: `j` along the side, `k` across the layer -/
theorem checkFrom_dominoes (compact : Bool) (layers size : Nat) (f : Nat × Nat → Nat × Nat) (r n : Nat)
    (h : ∀ j < r, ∀ k < 2, (f (j, k)).1 < size ∧ (f (j, k)).2 < size ∧
      cellAt compact layers (f (j, k)).1 (f (j, k)).2 = .data (n + 2 * j + k)) :
    checkFrom compact layers size (((List.range r).flatMap fun j => [(j, 0), (j, 1)]).map f) n = true := by
  induction r with
  | zero => rfl
  | succ r ih =>
    obtain ⟨x0, y0, c0⟩ := h r (Nat.lt_succ_self r) 0 (by decide)
    obtain ⟨x1, y1, c1⟩ := h r (Nat.lt_succ_self r) 1 (by decide)
    rw [List.range_succ, List.flatMap_append, List.map_append, checkFrom_append,
      ih fun j hj => h j (Nat.lt_succ_of_lt hj), List.length_map, jk_length]
    simp [checkFrom, x0, y0, c0, x1, y1, c1]

/-- layer `i`: its `8 (B - 4 i - 2)` read positions are the data cells from index `8 i (B - 2 i)` on -/
theorem checkFrom_layer (compact : Bool) (layers i : Nat) (hi : i < layers) :
    (layerPositions layers compact i).length = 8 * (baseMatrixSize layers compact - 4 * i - 2) ∧
    checkFrom compact layers (symbolSize compact layers) (layerPositions layers compact i)
      (8 * i * (baseMatrixSize layers compact - 2 * i)) = true := by
  have hr : (layers - i) * 4 + (if compact then 9 else 12) = baseMatrixSize layers compact - 4 * i - 2 := by
    unfold baseMatrixSize; split <;> omega
  have hB := baseMatrixSize_ge layers compact
  have side := cellAt_alignmentMap compact layers
  simp only [layerPositions, hr, List.length_append, List.length_map, jk_length, checkFrom_append,
    Bool.and_eq_true]
  generalize baseMatrixSize layers compact = B at *
  refine ⟨by omega, ⟨⟨?_, ?_⟩, ?_⟩, ?_⟩ <;> refine checkFrom_dominoes _ _ _ _ _ _ fun j hj k hk => ?_
  · exact side _ _ _ (by omega) (by omega) (by omega) ((dataIndex_left B i j k (by omega) hk).trans (by omega))
  · exact side _ _ _ (by omega) (by omega) (by omega) ((dataIndex_bottom B i j k (by omega) hk).trans (by omega))
  · exact side _ _ _ (by omega) (by omega) (by omega) ((dataIndex_right B i j k (by omega) hk).trans (by omega))
  · exact side _ _ _ (by omega) (by omega) (by omega) ((dataIndex_top B i j k (by omega) hk).trans (by omega))

theorem layerOffset_succ (m u : Nat) (h : 2 * m ≤ u) : 8 * (m + 1) * u = 8 * m * (u + 2) + 8 * (u - 2 * m) := by
  grind

/-- the first `m` layers fill the stream up to index `8 m (B - 2 m)` -/
theorem checkFrom_layers (compact : Bool) (layers m : Nat) (hm : m ≤ layers) :
    ((List.range m).flatMap (layerPositions layers compact)).length =
      8 * m * (baseMatrixSize layers compact - 2 * m) ∧
    checkFrom compact layers (symbolSize compact layers)
      ((List.range m).flatMap (layerPositions layers compact)) 0 = true := by
  induction m with
  | zero => simp [checkFrom]
  | succ m ih =>
    obtain ⟨hlen, hchk⟩ := ih (Nat.le_of_succ_le hm)
    obtain ⟨llen, lchk⟩ := checkFrom_layer compact layers m hm
    have hB := baseMatrixSize_ge layers compact
    rw [List.range_succ, List.flatMap_append, List.length_append, checkFrom_append, hchk, hlen, Nat.zero_add,
      List.flatMap_singleton, llen, lchk]
    refine ⟨?_, rfl⟩
    obtain ⟨u, hu⟩ : ∃ u, baseMatrixSize layers compact = 2 * (m + 1) + u := ⟨_, (Nat.add_sub_cancel' (by omega)).symm⟩
    rw [hu, show 2 * (m + 1) + u - 2 * m = u + 2 by omega, show 2 * (m + 1) + u - 4 * m - 2 = u - 2 * m by omega,
      Nat.add_sub_cancel_left, layerOffset_succ m u (by omega)]

theorem layoutOK_eq_true (compact : Bool) (layers : Nat) : layoutOK compact layers = true := by
  obtain ⟨hlen, hchk⟩ := checkFrom_layers compact layers layers (Nat.le_refl _)
  have htot : totalBits compact layers = 8 * layers * (baseMatrixSize layers compact - 2 * layers) := by
    cases compact
    · simp only [totalBits, baseMatrixSize, Bool.false_eq_true, if_false, show layers * 4 + 14 - 2 * layers = 2 * layers + 14 by omega]
      grind
    · simp only [totalBits, baseMatrixSize, if_true, show layers * 4 + 11 - 2 * layers = 2 * layers + 11 by omega]
      grind
  simp only [layoutOK, readPositions, hlen, htot, hchk, Nat.beq_refl, Bool.and_self]

theorem getBit_layout (compact : Bool) (layers : Nat) (stream mode : List Bool) (x y : Nat)
    (hx : x < symbolSize compact layers) (hy : y < symbolSize compact layers) :
    getBit (layout compact layers stream mode) x y =
      .ok (cellValue stream.toArray mode.toArray (cellAt compact layers x y)) := by
  simp [getBit, layout, hx, hy]

theorem cellValue_data (stream mode : List Bool) (n : Nat) :
    cellValue stream.toArray mode.toArray (.data n) = stream[n]?.getD false := by
  simp [cellValue]

theorem readAll_layout (compact : Bool) (layers : Nat) (stream mode : List Bool) :
    ∀ (ps : List (Nat × Nat)) (n : Nat),
      checkFrom compact layers (symbolSize compact layers) ps n = true →
      readAll (layout compact layers stream mode) ps =
        .ok ((List.range' n ps.length).map (fun i => stream[i]?.getD false)) := by
  intro ps
  induction ps with
  | nil => intro n _; simp [readAll]
  | cons p ps ih =>
    intro n h
    simp only [checkFrom, Bool.and_eq_true, Nat.blt_eq] at h
    obtain ⟨⟨⟨hx, hy⟩, hc⟩, hrest⟩ := h
    have hcell : cellAt compact layers p.1 p.2 = .data n := by
      split at hc
      · rename_i m hm
        have : m = n := Nat.eq_of_beq_eq_true hc
        rw [hm, this]
      · cases hc
    simp only [readAll, getBit_layout compact layers stream mode p.1 p.2 hx hy, hcell,
      cellValue_data, ih (n + 1) hrest, List.length_cons, List.range'_succ, List.map_cons]

theorem range'_map_getD (l : List Bool) :
    (List.range' 0 l.length).map (fun i => l[i]?.getD false) = l := by
  apply List.ext_getElem
  · simp
  · intro i h1 h2
    simp at h1
    simp [h1]

theorem extract_layout (compact : Bool) (layers : Nat) (stream mode : List Bool)
    (hlen : stream.length = totalBits compact layers) :
    extractBits (layout compact layers stream mode) layers compact = .ok stream := by
  have hok := layoutOK_eq_true compact layers
  simp only [layoutOK, Bool.and_eq_true] at hok
  obtain ⟨hl, hc⟩ := hok
  have hl' : (readPositions layers compact).length = stream.length := by
    rw [hlen]; exact Nat.eq_of_beq_eq_true hl
  unfold extractBits
  rw [readAll_layout compact layers stream mode _ 0 hc, hl', range'_map_getD]

end Gzx.AztecLayout
