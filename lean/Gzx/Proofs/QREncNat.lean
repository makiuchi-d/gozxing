/-
  wp `qrenc` — naturality of the type-info / version-info embedding loops in the cell values: running the loops with
  values `vals.map σ` on the matrix `mapM σ m` gives the `σ`-image of running them with `vals` on `m`
  (`embedTypeInfoVals_natural`, `embedVersionInfoVals_natural`), from the same fact for `Get`, `Set` and `forRange`.
  (The function-stage theorems, Proofs/QREncStage.lean, run the loops with the real bits and do not need it.)
-/
import Gzx.Model.QREncMatrix
namespace Gzx.QREnc
open Gzx

def mapM (σ : Int → Int) (m : ByteMatrix) : ByteMatrix := { m with bytes := m.bytes.map (fun r => r.map σ) }

theorem idx_map {α β} (f : α → β) (l : List α) (i : Int) : idx (l.map f) i = (idx l i).map f := by
  unfold idx panicIdx
  by_cases h : i < 0
  · simp [h, Except.map]
  · simp only [h, if_false, List.getElem?_map]
    cases l[i.toNat]? <;> simp [Except.map]

theorem get_mapM (σ : Int → Int) (m : ByteMatrix) (x y : Int) : (mapM σ m).get x y = (m.get x y).map σ := by
  unfold ByteMatrix.get mapM
  simp only [idx_map, bind, Except.bind]
  cases idx m.bytes y with
  | error e => simp [Except.map]
  | ok row => simp only [Except.map, idx_map]

theorem set_mapM (σ : Int → Int) (m : ByteMatrix) (x y v : Int) :
    (mapM σ m).set x y (σ v) = (m.set x y v).map (mapM σ) := by
  unfold ByteMatrix.set mapM
  simp only [idx_map, bind, Except.bind]
  cases idx m.bytes y with
  | error e => simp [Except.map]
  | ok row =>
    simp only [Except.map, idx_map]
    cases idx row x with
    | error e => simp
    | ok c => simp [pure, Except.pure, List.map_set]

theorem foldlM_natural {σ τ ι} (φ : σ → τ) (body : σ → ι → Res σ) (body' : τ → ι → Res τ)
    (h : ∀ s k, body' (φ s) k = (body s k).map φ) :
    ∀ (l : List ι) (s : σ), l.foldlM body' (φ s) = (l.foldlM body s).map φ := by
  intro l
  induction l with
  | nil => intro s; simp [Except.map, pure, Except.pure]
  | cons k ks ih =>
    intro s
    simp only [List.foldlM_cons, bind, Except.bind]
    rw [h]
    cases body s k with
    | error e => simp [Except.map]
    | ok s' => simp only [Except.map]; rw [ih]; rfl

theorem forRange_natural {σ τ} (φ : σ → τ) (lo hi : Int) (body : Int → σ → Res σ) (body' : Int → τ → Res τ)
    (h : ∀ i s, body' i (φ s) = (body i s).map φ) (s : σ) :
    forRange lo hi body' (φ s) = (forRange lo hi body s).map φ := by
  unfold forRange
  exact foldlM_natural φ _ _ (fun s k => h _ s) _ s

theorem embedTypeInfoVals_natural (σ : Int → Int) (vals : List Int) (m : ByteMatrix) :
    embedTypeInfoVals (vals.map σ) (mapM σ m) = (embedTypeInfoVals vals m).map (mapM σ) := by
  unfold embedTypeInfoVals
  simp only [List.length_map]
  apply forRange_natural
  intro i s
  simp only [idx_map, bind, Except.bind]
  cases idx vals (↑vals.length - 1 - i) with
  | error e => simp [Except.map]
  | ok bit =>
    simp only [Except.map]
    cases idx typeInfoCoordinates i with
    | error e => simp
    | ok coordinates =>
      simp only
      cases idx coordinates 0 with
      | error e => simp
      | ok x1 =>
        simp only
        cases idx coordinates 1 with
        | error e => simp
        | ok y1 =>
          simp only
          rw [set_mapM]
          cases s.set x1 y1 bit with
          | error e => simp [Except.map]
          | ok s1 =>
            simp only [Except.map]
            have hw : (mapM σ s1).width = s1.width := rfl
            have hh : (mapM σ s1).height = s1.height := rfl
            rw [hw, hh]
            split
            · rw [set_mapM]; rfl
            · rw [set_mapM]
              cases s1.set 8 (s1.height - 7 + (i - 8)) bit with
              | error e => simp [Except.map]
              | ok s2 => simp only [Except.map]; rw [set_mapM]; rfl

theorem embedVersionInfoVals_natural (σ : Int → Int) (vals : List Int) (m : ByteMatrix) :
    embedVersionInfoVals (vals.map σ) (mapM σ m) = (embedVersionInfoVals vals m).map (mapM σ) := by
  unfold embedVersionInfoVals
  have key := forRange_natural (fun (st : ByteMatrix × Int) => (mapM σ st.1, st.2)) 0 6
    (fun i (st : ByteMatrix × Int) =>
      forRange 0 3 (fun j (st : ByteMatrix × Int) => do
        let (m, bitIndex) := st
        let bit ← idx vals bitIndex
        let m ← m.set i (m.height - 11 + j) bit
        let m ← m.set (m.height - 11 + j) i bit
        pure (m, bitIndex - 1)) st)
    (fun i (st : ByteMatrix × Int) =>
      forRange 0 3 (fun j (st : ByteMatrix × Int) => do
        let (m, bitIndex) := st
        let bit ← idx (vals.map σ) bitIndex
        let m ← m.set i (m.height - 11 + j) bit
        let m ← m.set (m.height - 11 + j) i bit
        pure (m, bitIndex - 1)) st)
    (by
      intro i st
      apply forRange_natural (fun (st : ByteMatrix × Int) => (mapM σ st.1, st.2))
      intro j st
      obtain ⟨s, bitIndex⟩ := st
      simp only [idx_map, bind, Except.bind]
      cases idx vals bitIndex with
      | error e => simp [Except.map]
      | ok bit =>
        simp only [Except.map]
        have hh : (mapM σ s).height = s.height := rfl
        rw [hh, set_mapM]
        cases s.set i (s.height - 11 + j) bit with
        | error e => simp [Except.map]
        | ok s1 =>
          simp only [Except.map]
          have hh1 : (mapM σ s1).height = s1.height := rfl
          rw [hh1, set_mapM]
          cases s1.set (s1.height - 11 + j) i bit with
          | error e => simp [Except.map]
          | ok s2 => simp [Except.map, pure, Except.pure])
    (m, 6 * 3 - 1)
  simp only [bind, Except.bind] at key ⊢
  rw [key]
  generalize forRange 0 6 _ _ = X
  cases X with
  | error e => simp [Except.map]
  | ok r => simp [Except.map, pure, Except.pure]

end Gzx.QREnc
