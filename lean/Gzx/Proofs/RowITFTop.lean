/-
  Helper lemmas for the ITF row read-back theorem: decodeStart / decodeEnd (reversed row) / decodeMiddle on a drawn
  symbol.
-/
import Gzx.Proofs.RowITFRead
namespace Gzx.RowITF
open Gzx Gzx.OneD Gzx.Row128

/-! ## quiet zone on a white prefix -/

theorem quietLoop_white (lq : Nat) (X : List Bool) :
    ∀ (i q : Nat), i ≤ lq → q ≤ i → quietLoop (List.replicate lq false ++ X) i q = .ok 0
  | 0, q, _, hq => by
    have : q = 0 := by omega
    subst this; rfl
  | i + 1, q, hi, hq => by
    unfold quietLoop
    by_cases h0 : q = 0
    · subst h0; simp
    · rw [if_neg h0]
      have hn : nth (List.replicate lq false ++ X) i = .ok false := by
        rw [nth_ok _ i (by simp; omega)]
        congr 1
        rw [List.getElem_append_left (by simp; omega)]
        simp
      rw [hn]
      simp only [Bool.false_eq_true, if_false]
      exact quietLoop_white lq X i (q - 1) (by omega) (by omega)

theorem validateQuietZone_white {row : List Bool} {lq : Nat} (hw : row.take lq = List.replicate lq false) (nlw : Nat) :
    validateQuietZone row nlw lq = .ok () := by
  rw [white_prefix hw]
  unfold validateQuietZone
  simp only []
  rw [quietLoop_white lq _ lq _ (Nat.le_refl _) (by split <;> simp at * <;> omega)]
  simp

/-! ## decodeStart on a row that shows `s`·start and more runs from its first bar -/

theorem decodeStart_at (T : ItfT) (h3 : 3 ≤ T.start.length) (row : List Bool) (lq s : Nat) (hs : 0 < s)
    (w : Nat) (rest : List Nat) (h : RowAt row lq (T.start.map (s * ·) ++ w :: rest) true)
    (hw : row.take lq = List.replicate lq false) :
    decodeStart exactDom T row = .ok ((lq, lq + s * sumL T.start), (lq + s * sumL T.start - lq) / 4) := by
  obtain ⟨g0, g', hg⟩ := List.exists_cons_of_ne_nil (List.ne_nil_of_length_pos (by omega) : T.start ≠ [])
  have hspos : ∀ x ∈ T.start, 0 < x := fun x hx => by
    have := h.pos (s * x) (by simp only [List.mem_append, List.mem_map]; exact Or.inl ⟨x, hx, rfl⟩)
    exact Nat.pos_of_mul_pos_left this
  have hskip : skipWhiteSpace row = .ok lq := by
    unfold skipWhiteSpace
    simp only []
    rw [getNextSet_of_white (by rw [hg] at h; exact h) hw, if_neg (by have := h.lt (by simp); omega)]
  have hsum : 0 < sumL T.start := sumL_pos _ (by rw [hg]; simp) hspos
  have hguard := findGuard_first T.start T.start s w rest h3 rfl _ (pmv_multiple T.start s 1 2 hs)
    (by
      change fracLtO (some (0, _)) (some (19, 50)) = true
      simp only [fracLtO, Nat.zero_mul, decide_eq_true_eq]
      exact Nat.mul_pos (by omega) (Nat.mul_pos hsum (Nat.mul_pos hs hsum)))
    h
  unfold decodeStart
  rw [hskip]
  simp only [wrapNF, hguard]
  rw [validateQuietZone_white hw]

/-! ## the reversed row -/

theorem appendPattern_reverse (W : List Nat) (c : Bool) :
    (appendPattern W c).reverse = appendPattern W.reverse (if W.length % 2 = 1 then c else !c) := by
  induction W generalizing c with
  | nil => simp [appendPattern]
  | cons w ws ih =>
    simp only [appendPattern, List.reverse_append, List.reverse_replicate, List.reverse_cons, ih, List.length_cons]
    rw [appendPattern_append]
    by_cases h : ws.length % 2 = 1
    · have h1 : ¬ (ws.length + 1) % 2 = 1 := by omega
      have h2 : ¬ ws.reverse.length % 2 = 0 := by simp; omega
      simp [h, h1, appendPattern]
    · have h1 : (ws.length + 1) % 2 = 1 := by omega
      have h2 : ws.reverse.length % 2 = 0 := by simp; omega
      simp [h, h1, appendPattern]

theorem scaleRow_reverse (s : Nat) (l : List Bool) : (scaleRow s l).reverse = scaleRow s l.reverse := by
  induction l with
  | nil => rfl
  | cons b bs ih =>
    have e1 : scaleRow s (b :: bs) = List.replicate s b ++ scaleRow s bs := by simp [scaleRow]
    have e2 : scaleRow s (bs.reverse ++ [b]) = scaleRow s bs.reverse ++ List.replicate s b := by
      rw [scaleRow_append]; simp [scaleRow]
    rw [e1, List.reverse_append, List.reverse_replicate, ih, List.reverse_cons, e2]

theorem paddedRow_reverse (lq s rq : Nat) (W : List Nat) (hodd : W.length % 2 = 1) :
    (paddedRow lq s rq (appendPattern W true)).reverse = paddedRow rq s lq (appendPattern W.reverse true) := by
  unfold paddedRow
  simp only [List.reverse_append, List.reverse_replicate, scaleRow_reverse, appendPattern_reverse, hodd, if_true,
    List.append_assoc]

/-- the reversed rendered row, seen from the end of its (now left) quiet zone -/
theorem paddedRow_reverse_rowAt (R : List Nat) (lq s rq : Nat) (hs : 0 < s) (hodd : R.length % 2 = 1)
    (hpos : ∀ w ∈ R, 0 < w) :
    RowAt (paddedRow lq s rq (appendPattern R true)).reverse rq (R.reverse.map (s * ·) ++ tailQ lq) true ∧
    (paddedRow lq s rq (appendPattern R true)).reverse.take rq = List.replicate rq false := by
  rw [paddedRow_reverse lq s rq R hodd]
  exact ⟨(paddedRow_rowAt R.reverse rq s lq hs (by simpa using hodd) (fun w hw => hpos w (by simpa using hw))).1,
    paddedRow_take rq s lq _⟩

/-! ## decodeEnd: the end pattern, seen from the right -/

theorem decodeEnd_at (T : ItfT) (e0 : List Nat) (h0 : 0 < T.endRev.length) (he0 : T.endRev[0] = e0)
    (g : List Nat) (h3 : 3 ≤ e0.length) (hlen : g.length = e0.length) (hsum : 0 < sumL e0)
    (hbelow : pmvBelow g e0 = true) (row : List Bool) (rq s : Nat) (hs : 0 < s) (w : Nat) (rest : List Nat)
    (h : RowAt row.reverse rq (g.map (s * ·) ++ w :: rest) true)
    (hw : row.reverse.take rq = List.replicate rq false) (nlw : Nat) :
    decodeEnd exactDom T row nlw = .ok (row.length - (rq + s * sumL g), row.length - rq) := by
  obtain ⟨g0, g', hgg⟩ := List.exists_cons_of_ne_nil (List.ne_nil_of_length_pos (by omega) : g ≠ [])
  have hskip : skipWhiteSpace row.reverse = .ok rq := by
    unfold skipWhiteSpace
    simp only []
    rw [getNextSet_of_white (by rw [hgg] at h; exact h) hw, if_neg (by have := h.lt (by simp); omega)]
  obtain ⟨v, hv, hlt⟩ := pmvBelow_scale g e0 s hs hlen hsum hbelow
  have hguard := findGuard_first e0 g s w rest h3 hlen v hv hlt h
  have hend : endGuard exactDom T row.reverse rq e0 = .ok (rq, rq + s * sumL g) := by
    unfold endGuard; rw [hguard]
  unfold decodeEnd
  simp only []
  rw [hskip]
  simp only [wrapNF, nth_ok T.endRev 0 h0, he0, hend]
  rw [validateQuietZone_white hw]
  simp only [List.length_reverse]

/-! ## decodeMiddle on drawn digit pairs -/

/-- the ten run widths of each digit pair (bars from the first digit's pattern, spaces from the second's), scaled -/
def pairRuns (Ww : List (List Nat)) (s : Nat) (pairs : List (Nat × Nat)) : List Nat :=
  (pairs.map (fun p => (interleave (Ww.getD p.1 []) (Ww.getD p.2 [])).map (s * ·))).flatten

theorem pairRuns_cons (Ww : List (List Nat)) (s : Nat) (p : Nat × Nat) (ps : List (Nat × Nat)) :
    pairRuns Ww s (p :: ps) = (interleave (Ww.getD p.1 []) (Ww.getD p.2 [])).map (s * ·) ++ pairRuns Ww s ps := rfl

theorem splitPair_interleave (a b : List Nat) (s : Nat) (ha : a.length = 5) (hb : b.length = 5) :
    splitPair ((interleave a b).map (s * ·)) = .ok (a.map (s * ·), b.map (s * ·)) := by
  match a, ha, b, hb with
  | [a0, a1, a2, a3, a4], _, [b0, b1, b2, b3, b4], _ => rfl

theorem sumL_interleave (a b : List Nat) (h : a.length = b.length) : sumL (interleave a b) = sumL a + sumL b := by
  induction a generalizing b with
  | nil => cases b <;> simp [interleave, sumL] at *
  | cons x xs ih =>
    cases b with
    | nil => simp at h
    | cons y ys =>
      simp only [List.length_cons, Nat.add_right_cancel_iff] at h
      simp only [interleave, sumL_cons, ih ys h]; omega

/-- link between the writer's ten patterns and rows 10..19 of the reader's table, shapes -/
structure PairTables (T : ItfT) (Ww : List (List Nat)) : Prop where
  digits : digitTableB T.patterns = true
  len20 : T.patterns.length = 20
  link : ∀ (d : Nat) (hd : d < 10), T.patterns[10 + d]'(by omega) = Ww.getD d []

theorem PairTables.shape {T Ww} (h : PairTables T Ww) (d : Nat) (hd : d < 10) :
    (Ww.getD d []).length = 5 ∧ ∀ w ∈ Ww.getD d [], 0 < w := by
  have := h.digits
  simp only [digitTableB, Bool.and_eq_true, List.all_eq_true, beq_iff_eq, decide_eq_true_eq] at this
  have hm := this.1 _ (List.getElem_mem (show 10 + d < T.patterns.length by rw [h.len20]; omega))
  rw [h.link d hd] at hm
  exact hm

theorem middleLoop_at (T : ItfT) (Ww : List (List Nat)) (hT : PairTables T Ww) (s : Nat) (hs : 0 < s) (row : List Bool) :
    ∀ (pairs : List (Nat × Nat)) (off : Nat) (acc : List Nat) (tail : List Nat) (fuel : Nat),
    (∀ p ∈ pairs, p.1 < 10 ∧ p.2 < 10) → pairs.length + 1 ≤ fuel →
    RowAt row off (pairRuns Ww s pairs ++ tail) true →
    middleLoop exactDom T row (off + sumL (pairRuns Ww s pairs)) fuel off acc =
      .ok (acc.reverse ++ (pairs.map (fun p => [48 + p.1, 48 + p.2])).flatten) := by
  intro pairs
  induction pairs with
  | nil =>
    intro off acc tail fuel _ hfuel _
    obtain ⟨f, rfl⟩ : ∃ f, fuel = f + 1 := ⟨fuel - 1, by simp at hfuel; omega⟩
    simp [middleLoop, pairRuns, sumL]
  | cons p ps ih =>
    intro off acc tail fuel hp hfuel hrow
    obtain ⟨f, rfl⟩ : ∃ f, fuel = f + 1 := ⟨fuel - 1, by simp at hfuel; omega⟩
    have hp1 := hp p (by simp)
    obtain ⟨ha5, hapos⟩ := hT.shape p.1 hp1.1
    obtain ⟨hb5, hbpos⟩ := hT.shape p.2 hp1.2
    generalize hA : Ww.getD p.1 [] = A at *
    generalize hB : Ww.getD p.2 [] = B at *
    rw [pairRuns_cons, hA, hB, List.append_assoc] at hrow
    have hil : (interleave A B).length = 10 := by rw [interleave_length A B (by omega)]; omega
    have hilpos : ∀ x ∈ interleave A B, 0 < x := by
      intro x hx
      rcases interleave_mem A B x hx with h | h
      · exact hapos x h
      · exact hbpos x h
    have hrec := recordPattern_at ((interleave A B).map (s * ·)) _ 10 (by omega) (by rw [List.length_map, hil]) hrow
    have hsumP : sumL ((interleave A B).map (s * ·)) = s * (sumL A + sumL B) := by
      rw [sumL_scale, sumL_interleave A B (by omega)]
    have hsumpos : 0 < s * (sumL A + sumL B) := by
      have : 0 < sumL A := sumL_pos A (by intro e; rw [e] at ha5; simp at ha5) hapos
      exact Nat.mul_pos hs (by omega)
    have hd1 : decodeDigit exactDom T (A.map (s * ·)) = .ok p.1 := by
      have := decodeDigit_at T hT.digits (10 + p.1) (by rw [hT.len20]; omega) s hs
      rw [hT.link p.1 hp1.1, hA] at this
      rw [this]; congr 1; omega
    have hd2 : decodeDigit exactDom T (B.map (s * ·)) = .ok p.2 := by
      have := decodeDigit_at T hT.digits (10 + p.2) (by rw [hT.len20]; omega) s hs
      rw [hT.link p.2 hp1.2, hB] at this
      rw [this]; congr 1; omega
    have hadv := hrow.advance_even _ _ (by rw [List.length_map, hil])
    rw [hsumP] at hadv
    have hend : off + sumL (pairRuns Ww s (p :: ps)) = off + s * (sumL A + sumL B) + sumL (pairRuns Ww s ps) := by
      rw [pairRuns_cons, hA, hB, sumL_append, hsumP]; omega
    rw [hend]
    unfold middleLoop
    rw [if_pos (by omega), hrec]
    simp only [wrapNF, splitPair_interleave A B s ha5 hb5, hd1, hd2, hsumP]
    rw [ih (off + s * (sumL A + sumL B)) _ tail f (fun q hq => hp q (by simp [hq])) (by simp at hfuel ⊢; omega) hadv]
    simp [List.reverse_cons, List.append_assoc]

end Gzx.RowITF
