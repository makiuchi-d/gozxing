/-
  C11: the greedy text -> script encoder of the reference (Ref.Aztec.greedy) always produces a
  script the code tables accept, without FLG(n), whose data bytes are the text.
  `Carries m ops m' t` says this of a piece of script (accepted from mode `m`, no FLG(n), ends in `m'`, data bytes
  `t`); pieces compose (`Carries.append`), and each branch of the greedy encoder emits one piece followed by the
  greedy script of the remaining text (`greedy_carries`); `greedy_script` is what the C11 theorems take from it.
-/
import Gzx.Proofs.AztecCompose
namespace Gzx.AztecGreedy
open Gzx Gzx.AztecDecoder Gzx.Ref.Aztec Gzx.AztecHL Gzx.AztecCompose

theorem scriptItems_append (a b : List Op) : ∀ m,
    scriptItems m (a ++ b) = scriptItems m a ++ scriptItems (finalMode m a) b := by
  induction a with
  | nil => intro m; rfl
  | cons op a ih => intro m; simp [scriptItems, finalMode, ih]

theorem encodeScript_append (a b : List Op) : ∀ m (x y : List Bool),
    encodeScript m a = some x → encodeScript (finalMode m a) b = some y →
    encodeScript m (a ++ b) = some (x ++ y) := by
  induction a with
  | nil =>
    intro m x y h1 h2
    simp only [encodeScript] at h1
    injection h1 with h1
    subst h1
    simpa [finalMode] using h2
  | cons op a ih =>
    intro m x y h1 h2
    simp only [encodeScript] at h1
    cases he : encodeOp m op with
    | none => rw [he] at h1; cases h1
    | some p =>
      obtain ⟨bb, m'⟩ := p
      rw [he] at h1
      simp only at h1
      cases hs : encodeScript m' a with
      | none => rw [hs] at h1; cases h1
      | some xs =>
        rw [hs] at h1
        simp only [Option.map_some] at h1
        injection h1 with h1
        subst h1
        have hm := encodeOp_mode m m' op bb he
        subst hm
        simp only [finalMode] at h2
        have := ih (opMode m op) xs y hs h2
        simp only [List.cons_append, encodeScript, he, this, Option.map_some, List.append_assoc]

/-- from mode `m` the tables accept the script, it holds no FLG(n), leaves the encoder in `m'` and its data bytes
    are `t` -/
def Carries (m : Mode) (ops : List Op) (m' : Mode) (t : List Nat) : Prop :=
  (encodeScript m ops).isSome = true ∧ finalMode m ops = m' ∧ itemsBytes (scriptItems m ops) = t ∧
    PlainScript ops

theorem Carries.nil (m : Mode) : Carries m [] m [] := ⟨rfl, rfl, rfl, fun _ h => nomatch h⟩

theorem finalMode_append (a b : List Op) : ∀ m, finalMode m (a ++ b) = finalMode (finalMode m a) b := by
  induction a with
  | nil => intro m; rfl
  | cons op a ih => intro m; exact ih _

theorem Carries.append {m m' m'' : Mode} {a b : List Op} {s t : List Nat}
    (ha : Carries m a m' s) (hb : Carries m' b m'' t) : Carries m (a ++ b) m'' (s ++ t) := by
  obtain ⟨a1, rfl, rfl, a4⟩ := ha
  obtain ⟨b1, rfl, rfl, b4⟩ := hb
  obtain ⟨x, hx⟩ := Option.isSome_iff_exists.mp a1
  obtain ⟨y, hy⟩ := Option.isSome_iff_exists.mp b1
  refine ⟨by rw [encodeScript_append a b m x y hx hy]; rfl, finalMode_append a b m, ?_, ?_⟩
  · rw [scriptItems_append]; simp [itemsBytes]
  · intro op hop
    rcases List.mem_append.mp hop with h | h
    · exact a4 op h
    · exact b4 op h

theorem Carries.op {m m' : Mode} {op : Op} {b : List Bool} (h : encodeOp m op = some (b, m'))
    (hp : isPlain op = true) : Carries m [op] m' (itemsBytes (opItems m op)) := by
  refine ⟨by simp [encodeScript, h], (encodeOp_mode m m' op b h).symm ▸ rfl, by simp [scriptItems], ?_⟩
  intro o ho
  rw [List.mem_singleton.mp ho]; exact hp

instance (m m' : Mode) (ops : List Op) (t : List Nat) : Decidable (Carries m ops m' t) := by
  unfold Carries; infer_instance

theorem carries_latchPath (m t : Mode) (hm : m ≠ .punct) (ht : t ≠ .punct) (hne : m ≠ t) :
    Carries m ((latchPath m t).map .latch) t [] := by
  cases m <;> cases t <;> first | exact absurd rfl hm | exact absurd rfl ht | exact absurd rfl hne | decide

theorem homeMode_ne_punct (b : Nat) (t : Mode) (h : homeMode? b = some t) : t ≠ .punct := by
  unfold homeMode? at h
  have := List.mem_of_find?_eq_some h
  intro ht
  subst ht
  simp at this

theorem binRun_length_le : ∀ (cap : Nat) (l : List Nat), (binRun cap l).length ≤ cap := by
  intro cap
  induction cap with
  | zero => intro l; simp [binRun]
  | succ cap ih =>
    intro l
    cases l with
    | nil => simp [binRun]
    | cons b bs =>
      simp only [binRun]
      split
      · simp
      · simp only [List.length_cons]; have := ih bs; omega

theorem binRun_prefix : ∀ (cap : Nat) (l : List Nat),
    l = binRun cap l ++ l.drop (binRun cap l).length := by
  intro cap
  induction cap with
  | zero => intro l; simp [binRun]
  | succ cap ih =>
    intro l
    cases l with
    | nil => simp [binRun]
    | cons b bs =>
      simp only [binRun]
      split
      · simp
      · simp only [List.length_cons, List.drop_succ_cons, List.cons_append]
        rw [← ih bs]

theorem binRun_subset (cap : Nat) (l : List Nat) : ∀ x ∈ binRun cap l, x ∈ l := by
  intro x hx
  have := binRun_prefix cap l
  rw [this]
  exact List.mem_append_left _ hx

theorem bshift_code (m : Mode) (hm : m ≠ .punct) (hd : m ≠ .digit) :
    ∃ s, findCode (tableOf m) Entry.bshift = some s := by
  cases m <;> first | exact absurd rfl hm | exact absurd rfl hd | exact ⟨31, by decide⟩

theorem pshift_code (m : Mode) (hm : m ≠ .punct) :
    ∃ s, findCode (tableOf m) (Entry.shift .punct) = some s := by
  cases m <;> first | exact absurd rfl hm | exact ⟨0, by decide⟩

/-- encoding a binary run from a mode that has B/S -/
theorem bin_ok (m : Mode) (hm : m ≠ .punct) (hd : m ≠ .digit) (run : List Nat)
    (hall : ∀ x ∈ run, x < 256) (h1 : 1 ≤ run.length) (h2 : run.length ≤ 2078) :
    ∃ b, encodeOp m (.bin run) = some (b, m) := by
  obtain ⟨s, hs⟩ := bshift_code m hm hd
  have hall' : run.all (· < 256) = true := by
    simp only [List.all_eq_true, decide_eq_true_eq]; exact hall
  simp only [encodeOp, hs, hall']
  by_cases h31 : run.length ≤ 31
  · exact ⟨toBits (width m) s ++ toBits 5 run.length ++ bytesBits run, by simp [h1, h31]⟩
  · have h32 : 32 ≤ run.length := by omega
    have hn : ¬ (1 ≤ run.length ∧ run.length ≤ 31) := by omega
    exact ⟨toBits (width m) s ++ toBits 5 0 ++ toBits 11 (run.length - 31) ++ bytesBits run,
      by simp [hn, h32, h2]⟩

theorem carries_ch (m : Mode) (c : Nat) (bs : List Nat) (hc : (tableOf m)[c]? = some (.lit bs)) :
    Carries m [.ch c] m bs := by
  have := Carries.op (m := m) (op := .ch c) (b := toBits (width m) c) (m' := m) (by simp [encodeOp, hc]) rfl
  simpa [opItems, hc, itemsBytes] using this

theorem carries_sh_punct (m : Mode) (hm : m ≠ .punct) (c : Nat) (bs : List Nat)
    (hc : (tableOf .punct)[c]? = some (.lit bs)) : Carries m [.sh .punct c] m bs := by
  obtain ⟨ps, hps⟩ := pshift_code m hm
  have := Carries.op (m := m) (op := .sh .punct c) (m' := m)
    (b := toBits (width m) ps ++ toBits (width .punct) c) (by simp [encodeOp, hps, hc]) rfl
  simpa [opItems, hc, itemsBytes] using this

theorem carries_bin (m : Mode) (hm : m ≠ .punct) (hd : m ≠ .digit) (run : List Nat)
    (hall : ∀ x ∈ run, x < 256) (h1 : 1 ≤ run.length) (h2 : run.length ≤ 2078) : Carries m [.bin run] m run := by
  obtain ⟨b, hb⟩ := bin_ok m hm hd run hall h1 h2
  simpa [opItems, itemsBytes] using Carries.op hb rfl

/-- every branch of `greedyAux` is a piece that `Carries` its bytes, followed by the greedy script of the
    remaining text -/
theorem greedy_carries : ∀ (fuel : Nat) (m : Mode) (text : List Nat),
    m ≠ .punct → text.length < fuel → (∀ b ∈ text, b < 256) →
    ∃ m', Carries m (greedyAux fuel m text) m' text := by
  intro fuel
  induction fuel with
  | zero => intro m text _ h; omega
  | succ fuel ih =>
    intro m text hm hlen hbytes
    cases text with
    | nil => exact ⟨m, Carries.nil m⟩
    | cons b rest =>
      have hrestlen : rest.length < fuel := by simp at hlen; omega
      have hrestb : ∀ x ∈ rest, x < 256 := fun x hx => hbytes x (by simp [hx])
      -- `piece ++ greedy rest'` carries `bs ++ rest'`
      have glue : ∀ {piece : List Op} {mt : Mode} {bs tail : List Nat}, Carries m piece mt bs → mt ≠ .punct →
          tail.length < fuel → (∀ x ∈ tail, x < 256) →
          ∃ m', Carries m (piece ++ greedyAux fuel mt tail) m' (bs ++ tail) := by
        intro piece mt bs tail hp hmt hl hb
        obtain ⟨m', h⟩ := ih mt tail hmt hl hb
        exact ⟨m', hp.append h⟩
      unfold greedyAux
      split
      · -- 1. two-byte punctuation code
        rename_i c rest2 hpair
        cases rest with
        | nil => simp at hpair
        | cons b2 r2 =>
          simp only at hpair
          cases hl : litCode? .punct [b, b2] with
          | none => rw [hl] at hpair; simp at hpair
          | some c' =>
            rw [hl] at hpair
            simp only [Option.map_some, Option.some.injEq, Prod.mk.injEq] at hpair
            obtain ⟨rfl, rfl⟩ := hpair
            exact glue (carries_sh_punct m hm c' [b, b2] (findCode_spec _ _ _ hl)) hm
              (by simp at hrestlen; omega) (fun x hx => hrestb x (by simp [hx]))
      · cases hcur : litCode? m [b] with
        | some c =>
          -- 2. the current table
          exact glue (carries_ch m c [b] (findCode_spec _ _ _ hcur)) hm hrestlen hrestb
        | none =>
          simp only
          cases hp : litCode? .punct [b] with
          | some c =>
            -- 3. single punctuation by P/S
            exact glue (carries_sh_punct m hm c [b] (findCode_spec _ _ _ hp)) hm hrestlen hrestb
          | none =>
            simp only
            cases hh : homeMode? b with
            | some t =>
              -- 4. latch to the home table
              simp only
              have ht := homeMode_ne_punct b t hh
              cases hlt : litCode? t [b] with
              | none =>
                unfold homeMode? at hh
                have := List.find?_some hh
                simp [hlt] at this
              | some c =>
                simp only
                have hne : m ≠ t := by
                  intro h; subst h; rw [hcur] at hlt; cases hlt
                have := glue ((carries_latchPath m t hm ht hne).append
                  (carries_ch t c [b] (findCode_spec _ _ _ hlt))) ht hrestlen hrestb
                simpa using this
            | none =>
              -- 5. binary shift
              simp only
              have hrl := binRun_length_le 2077 rest
              have hrun256 : ∀ x ∈ b :: binRun 2077 rest, x < 256 := by
                intro x hx
                rcases List.mem_cons.mp hx with h | h
                · subst h; exact hbytes _ (by simp)
                · exact hrestb x (binRun_subset 2077 rest x h)
              have hdroplen : (rest.drop ((b :: binRun 2077 rest).length - 1)).length < fuel := by
                simp; omega
              have hdropb : ∀ x ∈ rest.drop ((b :: binRun 2077 rest).length - 1), x < 256 :=
                fun x hx => hrestb x (List.mem_of_mem_drop hx)
              have htext := (binRun_prefix 2077 rest).symm
              by_cases hdg : m = .digit
              · subst hdg
                have hl : Carries .digit [.latch .upper] .upper [] :=
                  Carries.op (b := toBits 4 14) (by decide) rfl
                have := glue (hl.append (carries_bin .upper (by decide) (by decide) _ hrun256 (by simp)
                  (by simp; omega))) (by decide) hdroplen hdropb
                simpa [htext] using this
              · have := glue (carries_bin m hm hdg _ hrun256 (by simp) (by simp; omega)) hm hdroplen hdropb
                simpa [hdg, htext] using this

/-- the greedy script of a text is accepted by the tables, registry-independent, and renders to the text -/
theorem greedy_script (reg : Nat → Bool) (text : List Nat) (hb : ∀ b ∈ text, b < 256) :
    (encodeScript .upper (greedy text)).isSome = true ∧ scriptOK reg (greedy text) ∧
    renderDefault (segments ((scriptItems .upper (greedy text)).map toEvent)) =
      some (latin1ToUtf8 text) := by
  obtain ⟨_, h1, _, h2, h3⟩ := greedy_carries (text.length + 1) .upper text (by decide) (by omega) hb
  exact ⟨h1, plain_scriptOK reg _ h3, (plain_render _ h3).trans (congrArg _ (congrArg _ h2))⟩

end Gzx.AztecGreedy
