/-
  C02: every codeword the (non-EDIFACT) encoders write is a byte.
-/
import Gzx.Proofs.DMC40
import Gzx.Proofs.DMHandlers
namespace Gzx.DMHighLevel

def Bytes (l : List Nat) : Prop := ∀ x ∈ l, x < 256

theorem Bytes.append {a b : List Nat} (ha : Bytes a) (hb : Bytes b) : Bytes (a ++ b) := by
  intro x hx; simp only [List.mem_append] at hx; rcases hx with h | h; exact ha x h; exact hb x h

theorem Bytes.single {x : Nat} (h : x < 256) : Bytes [x] := by
  intro y hy; simp only [List.mem_singleton] at hy; omega

theorem writeTriplets_bytes : ∀ (n : Nat) (l : List Nat), l.length ≤ n → Bytes (writeTriplets l).1 := by
  intro n
  induction n using Nat.strongRecOn with
  | _ n ih =>
    intro l hl
    match l, hl with
    | [], _ => intro x hx; simp [writeTriplets] at hx
    | [_], _ => intro x hx; simp [writeTriplets] at hx
    | [_, _], _ => intro x hx; simp [writeTriplets] at hx
    | a :: b :: c :: r, hl =>
      rw [writeTriplets_cons3]
      apply Bytes.append
      · intro x hx
        simp only [packTriplet, List.mem_cons, List.mem_nil_iff, or_false] at hx
        rcases hx with h | h <;> omega
      · exact ih (n - 3) (by simp at hl; omega) r (by simp at hl; omega)

theorem rand255All_bytes (xs : List Nat) (p : Nat) (h : Bytes xs) : Bytes (rand255All xs p) := by
  induction xs generalizing p with
  | nil => intro x hx; simp [rand255All] at hx
  | cons y ys ih =>
    intro x hx
    simp only [rand255All, List.mem_cons] at hx
    rcases hx with rfl | hx
    · exact rand255_lt y p (h y (by simp))
    · exact ih (p + 1) (fun z hz => h z (by simp [hz])) x hx

theorem ascii_bytes {la : LookAhead} {c c' : Ctx} (hb : Bytes c.msg) (hc : Bytes c.cw)
    (h : asciiEncode la c = .ok c') : Bytes c'.cw := by
  obtain ⟨x, p, s, ho, rfl⟩ := asciiEncode_ok_iff.1 h
  refine hc.append ?_
  cases ho with
  | pair d1 d2 _ _ _ hd1 hd2 =>
    simp only [isDigit, Bool.and_eq_true, decide_eq_true_eq] at hd1 hd2
    exact Bytes.single (by omega)
  | latch ch m code _ _ _ hm =>
    exact Bytes.single ((by decide : ∀ mc ∈ latchCodes, mc.2 < 256) _ hm)
  | upper ch _ hch _ hx =>
    have := hb ch (List.mem_of_getElem? hch)
    exact (Bytes.single (by decide)).append (Bytes.single (by omega))
  | plain ch _ hch _ hx =>
    simp only [isExtended, Bool.and_eq_true, decide_eq_true_eq, not_and] at hx
    have := hb ch (List.mem_of_getElem? hch)
    exact Bytes.single (by omega)

theorem b256Header_bytes {pad : Prop} [Decidable pad] {n : Nat} {hdr : List Nat} (h : b256Header pad n = .ok hdr) :
    Bytes hdr := by
  unfold b256Header at h
  repeat' split at h
  all_goals cases h
  all_goals intro x hx; simp only [List.mem_cons, List.mem_nil_iff, or_false] at hx; omega

theorem b256_bytes {syms : List SymbolInfo} {la : LookAhead} {c c' : Ctx} (hb : Bytes c.msg) (hc : Bytes c.cw)
    (hle : c.pos ≤ c.total) (h : b256Encode syms la c = .ok c') : Bytes c'.cw := by
  obtain ⟨c1, data, c2, s, hdr, hl, hu, _, hh, rfl⟩ := b256Encode_ok_iff.1 h
  obtain ⟨hcw1, _, _, _, hdata, _, _⟩ := (b256Loop_sat la c.remaining c [] hle (Nat.le_refl _)).of_ok hl
  simp only at hcw1 hdata
  simp only [List.nil_append] at hdata
  have hdb : Bytes data := by
    intro x hx; rw [hdata] at hx
    exact hb x (List.mem_of_mem_drop (List.mem_of_mem_take hx))
  obtain ⟨ucw, _⟩ := update_spec hu
  have hc2 : Bytes c2.cw := by rw [ucw, hcw1]; exact hc
  exact hc2.append (rand255All_bytes _ _ ((b256Header_bytes hh).append hdb))

theorem x12_bytes {syms : List SymbolInfo} {la : LookAhead} {c c' : Ctx} (hc : Bytes c.cw)
    (hle : c.pos ≤ c.total) (h : x12Encode syms la c = .ok c') : Bytes c'.cw := by
  unfold x12Encode at h
  obtain ⟨⟨c1, buf1⟩, hl, h⟩ := bind_ok h
  obtain ⟨vals, _, i2, _⟩ := (x12Loop_sat la c.remaining c [] [] [] (by simp) hle rfl (Nat.le_refl _)).of_ok hl
  simp only at i2
  simp only [List.nil_append] at i2
  have h1 : Bytes c1.cw := by rw [i2]; exact hc.append (writeTriplets_bytes _ _ (Nat.le_refl _))
  obtain ⟨c2, s, hu, _, _, rfl⟩ := x12HandleEOD_ok_iff.1 h
  obtain ⟨ucw, _⟩ := update_spec hu
  have h2 : Bytes c2.cw := by rw [ucw]; exact h1
  obtain ⟨_, _, _, _, _, hcw, _⟩ := x12Out_facts c2 s buf1.length
  rcases hcw with e | e <;> rw [e]
  · exact h2
  · exact h2.append (Bytes.single (by decide))

theorem c40_bytes {text : Bool} {syms : List SymbolInfo} {la : LookAhead} {c c' : Ctx} (hc : Bytes c.cw)
    (hle : c.pos ≤ c.total) (hm : c.hasMore = true) (hnew : c.newEnc = none)
    (h : c40Encode syms la text c = .ok c') : Bytes c'.cw := by
  have hB0 : CBuf text c c [] := ⟨rfl, rfl, rfl, rfl, Nat.le_refl _, hle, by simp [charsOf, cVals]⟩
  unfold c40Encode at h
  obtain ⟨⟨c1, buf1⟩, hl, h⟩ := bind_ok h
  obtain ⟨⟨hB1, _⟩, _⟩ :=
    (c40Loop_sat (syms := syms) (la := la) c.remaining c [] hB0 hm hnew (Nat.le_refl _)).of_ok hl
  simp only at hB1
  obtain ⟨c2, av, x, k, hav, hx, _, rfl⟩ := c40HandleEOD_ok_iff.1 h
  obtain ⟨a1, _⟩ := c40Available_spec hav
  have h2 : Bytes c2.cw := by rw [a1, hB1.cw]; exact hc
  have hu : ∀ u : List Nat, u = [] ∨ u = [254] → Bytes u := by
    rintro u (rfl | rfl)
    · exact fun _ h => by cases h
    · exact Bytes.single (by decide)
  obtain ⟨u, hu', hcases⟩ := c40Eod_cases hx
  rcases hcases with ⟨_, rfl, _⟩ | ⟨_, _, rfl, _⟩ | ⟨_, rfl, _⟩ <;>
    exact h2.append ((writeTriplets_bytes _ _ (Nat.le_refl _)).append (hu u hu'))

end Gzx.DMHighLevel
