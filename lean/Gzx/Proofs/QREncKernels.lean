/-
  wp `qrenc` — the hand mirrors of the two regenerated kernels (`refKernels`, what the driver runs) satisfy
  `KernelsOK`: block sizes = the standard's short/long split, mask bit = the standard's mask condition.
-/
import Gzx.Proofs.QREncData
import Gzx.Proofs.QRKernels
namespace Gzx.QREnc
open Gzx Gzx.QRRef Gzx.QRKernels

theorem refBlockSizes_formula (D e n b : Nat) (hn : 0 < n) (hb : b < n) :
    refBlockSizes ((D + e * n : Nat) : Int) (D : Int) (n : Int) (b : Int) =
      (((if b < n - D % n then D / n else D / n + 1 : Nat) : Int), (e : Int), false) := by
  unfold refBlockSizes
  have h1 : Int.tmod ((D + e * n : Nat) : Int) (n : Int) = ((D % n : Nat) : Int) := by
    rw [tmod_natCast, Nat.add_mul_mod_self_right]
  have h2 : Int.tdiv ((D + e * n : Nat) : Int) (n : Int) = ((D / n : Nat) : Int) + (e : Int) := by
    rw [tdiv_natCast, Nat.add_mul_div_right _ _ hn, Int.natCast_add]
  have h3 : Int.tdiv (D : Int) (n : Int) = ((D / n : Nat) : Int) := tdiv_natCast D n
  have hD : ((D + e * n : Nat) : Int) = (n : Int) * ((D / n : Nat) : Int) + ((D % n : Nat) : Int) + (e : Int) * (n : Int) := by
    have := Nat.div_add_mod D n
    rw [← Int.natCast_mul, ← Int.natCast_mul, ← Int.natCast_add, ← Int.natCast_add, this]
  have hr : D % n < n := Nat.mod_lt _ hn
  simp only [h1, h2, h3]
  have c0 : ¬ ((b : Int) ≥ (n : Int)) := by omega
  rw [if_neg c0]
  have c1 : ¬ (((D / n : Nat) : Int) + (e : Int) - ((D / n : Nat) : Int) ≠ ((D / n : Nat) : Int) + (e : Int) + 1 - (((D / n : Nat) : Int) + 1)) := by
    omega
  rw [if_neg c1]
  have c2 : ¬ ((n : Int) ≠ (n : Int) - ((D % n : Nat) : Int) + ((D % n : Nat) : Int)) := by omega
  rw [if_neg c2]
  have c3 : ¬ (((D + e * n : Nat) : Int) ≠
      (((D / n : Nat) : Int) + (((D / n : Nat) : Int) + (e : Int) - ((D / n : Nat) : Int))) * ((n : Int) - ((D % n : Nat) : Int)) +
      (((D / n : Nat) : Int) + 1 + (((D / n : Nat) : Int) + (e : Int) + 1 - (((D / n : Nat) : Int) + 1))) * ((D % n : Nat) : Int)) := by
    rw [hD, ring1]
    simp
  rw [if_neg c3]
  by_cases hlt : b < n - D % n
  · have : (b : Int) < (n : Int) - ((D % n : Nat) : Int) := by omega
    rw [if_pos this, if_pos hlt]
    clear c3 hD c1 c2
    simp only [Prod.mk.injEq, and_true]
    refine ⟨trivial, ?_⟩
    generalize ((D / n : Nat) : Int) = q
    omega
  · have : ¬ (b : Int) < (n : Int) - ((D % n : Nat) : Int) := by omega
    rw [if_neg this, if_neg hlt]
    clear c3 hD c1 c2
    simp only [Prod.mk.injEq, and_true, Int.natCast_add, Int.cast_ofNat_Int]
    refine ⟨trivial, ?_⟩
    generalize ((D / n : Nat) : Int) = q
    omega

theorem emod2_natCast (a : Nat) : ((a : Int) % 2 == 0) = (a % 2 == 0) := by
  rw [Bool.eq_iff_iff]; simp only [beq_iff_eq]; omega

theorem refMaskBit_formula (k x y : Nat) (hk : k < 8) :
    refMaskBit (k : Int) (x : Int) (y : Int) = (maskBit k x y, false) := by
  have hk' : k = 0 ∨ k = 1 ∨ k = 2 ∨ k = 3 ∨ k = 4 ∨ k = 5 ∨ k = 6 ∨ k = 7 := by omega
  rcases hk' with h | h | h | h | h | h | h | h <;> subst h <;>
    simp (decide := true) only [refMaskBit, maskBit, if_true, if_false, ← Int.natCast_add, ← Int.natCast_mul,
      tmod_natCast_3, tdiv_natCast_2, tdiv_natCast_3, emod2_natCast,
      Prod.mk.injEq, and_true] <;>
    (rw [Bool.eq_iff_iff]; simp only [beq_iff_eq]; generalize y * x = t; generalize y + x = s; omega)

theorem refKernels_ok : KernelsOK refKernels :=
  ⟨fun D e n b hn hb => refBlockSizes_formula D e n b hn hb, fun k x y hk => refMaskBit_formula k x y hk⟩

end Gzx.QREnc
