/-
  wp `qrenc` — the function-pattern stage of `MatrixUtil_buildMatrix` run with POSITION TAGS in place of the
  type-info / version-info bits: definitions for the statement `FuncOK v`, proved in `Proofs/QREncFunc*.lean`
  ("the coded embed loops, started on the cleared matrix, leave exactly this at every module").
-/
import Gzx.Model.QREncMatrix
namespace Gzx.QREnc
open Gzx Gzx.QRRef

/-- the matrix after `clearMatrix` -/
def emptyMatrix (n : Nat) : ByteMatrix := ⟨List.replicate n (List.replicate n (-1)), n, n⟩

/-- value written for type-info bit `i` (0 = least significant): `100 + i`; the list is most significant first -/
def tags15 : List Int := (List.range 15).map (fun p => ((100 + (14 - p) : Nat) : Int))
/-- value written for version-info bit `i`: `200 + i` -/
def tags18 : List Int := (List.range 18).map (fun p => ((200 + (17 - p) : Nat) : Int))

/-- embedBasicPatterns, embedTypeInfo, maybeEmbedVersionInfo with tags as bit values -/
def functionTags (v : Nat) : Res ByteMatrix := do
  let m ← embedBasicPatterns v (emptyMatrix (dimension v))
  let m ← embedTypeInfoVals tags15 m
  if v < 7 then pure m else embedVersionInfoVals tags18 m

/-- what the standard puts at module (x, y), with the format / version bits as tags; -1 = data module -/
def tagCell (v x y : Nat) : Int :=
  let n := dimension v
  match regionOf v x y with
  | .finder => b2i (finderDark v x y)
  | .separator => 0
  | .timing => b2i ((x + y) % 2 == 0)
  | .alignment => b2i (alignmentDark v x y)
  | .dark => 1
  | .format =>
    match (List.range 15).find? (fun i => formatPos1 i == (x, y) || formatPos2 n i == (x, y)) with
    | some i => ((100 + i : Nat) : Int)
    | none => 0      -- (never happens; the reference draws such a module light)
  | .version =>
    match (List.range 18).find? (fun i => versionPos1 n i == (x, y) || versionPos2 n i == (x, y)) with
    | some i => ((200 + i : Nat) : Int)
    | none => 0      -- (never happens; the reference draws such a module light)
  | .data => -1

def tagRows (v : Nat) : List (List Int) :=
  (List.range (dimension v)).map (fun y => (List.range (dimension v)).map (fun x => tagCell v x y))

/-- the per-version statement -/
def FuncOK (v : Nat) : Prop := functionTags v = .ok ⟨tagRows v, dimension v, dimension v⟩

instance (v : Nat) : Decidable (FuncOK v) := by unfold FuncOK; exact inferInstance

end Gzx.QREnc
