/-
  C16 helper lemmas: BitMatrix GetRow / SetRow.
-/
import Gzx.Proofs.BitsMat
import Gzx.Proofs.BitsArr
namespace Gzx.Bits
open Gzx

/-- the copy loop of `GetRow` -/
theorem getRow_loop (ws : List Nat) (off : Nat) (n : Nat) : ∀ (r0 : WArr),
    n ≤ r0.words.length → off + n ≤ ws.length →
    ∃ ws', (List.range n).foldlM (fun (r : WArr) x => do
        let w ← wordAt ws (off + x)
        r.setBulk (x * 32) w) r0 = .ok ⟨ws', r0.size⟩ ∧
      ws'.length = r0.words.length ∧
      ∀ k, ws'[k]? = if k < n then ws[off + k]? else r0.words[k]? := by
  induction n with
  | zero =>
    intro r0 _ _
    refine ⟨r0.words, rfl, rfl, ?_⟩
    intro k; rw [if_neg (by omega)]
  | succ n ih =>
    intro r0 h1 h2
    obtain ⟨ws1, g1, g2, g3⟩ := ih r0 (by omega) (by omega)
    rw [List.range_succ, List.foldlM_append, g1]
    simp only [bind, Except.bind, List.foldlM_cons, List.foldlM_nil, pure, Except.pure]
    rw [wordAt_ok _ _ (by omega : off + n < ws.length)]
    unfold WArr.setBulk
    simp only [bind, Except.bind, pure, Except.pure]
    have e : n * 32 / 32 = n := by omega
    rw [e, setWord_ok _ _ _ (by omega)]
    refine ⟨_, rfl, by simpa using g2, ?_⟩
    intro k
    rw [List.getElem?_set, g3 k]
    by_cases c : n = k
    · subst c
      rw [if_pos rfl, if_pos (by omega), if_pos (by omega), List.getElem?_eq_getElem (by omega)]
    · rw [if_neg c]
      by_cases c2 : k < n
      · rw [if_pos c2, if_pos (by omega)]
      · rw [if_neg c2, if_neg (by omega)]

namespace WMat

/-- `GetRow` once the target array `r0` is fixed: all-zero, at least `width` bits -/
theorem getRow_core (m : WMat) (y : Nat) (r0 : WArr) (h : InvM m) (hy : y < m.height)
    (hi0 : InvA r0) (hz0 : ∀ g, bitAt r0.words g = false) (hsz0 : m.width ≤ r0.size) :
    RefinesA ((List.range m.rowSize).foldlM (fun (r : WArr) x => do
        let w ← wordAt m.words (y * m.rowSize + x)
        r.setBulk (x * 32) w) r0)
      ((List.range m.width).map (fun x => mbit m x y) ++ List.replicate (r0.size - m.width) false) := by
  have hwl := h.width_le
  have hlen := h.len
  have hwu := h.lt_width
  have hcap : m.rowSize ≤ r0.words.length := by have := hi0.1; omega
  have hoff := h.row_end hy
  obtain ⟨ws', g1, g2, g3⟩ := getRow_loop m.words (y * m.rowSize) m.rowSize r0 hcap hoff
  rw [g1]
  have hbit : ∀ g, bitAt ws' g = if g < m.width then mbit m g y else false := by
    intro g
    unfold bitAt
    rw [g3]
    by_cases c : g / 32 < m.rowSize
    · rw [if_pos c, ← mbit_word]
      by_cases c2 : g < m.width
      · rw [if_pos c2]
      · rw [if_neg c2]; exact h.pad g y (by omega) (by omega)
    · rw [if_neg c, if_neg (by omega)]
      exact hz0 g
  refine ⟨_, rfl, ⟨?_, ?_, ?_⟩, ?_⟩
  · show r0.size ≤ ws'.length * 32; rw [g2]; exact hi0.1
  · intro w hw
    have hw' : w ∈ ws' := hw
    obtain ⟨k, hk, rfl⟩ := List.getElem_of_mem hw'
    have := g3 k
    rw [List.getElem?_eq_getElem hk] at this
    split at this
    · exact h.words_lt _ (List.mem_of_getElem? this.symm)
    · exact hi0.words_lt _ (List.mem_of_getElem? this.symm)
  · intro g hg
    have hg' : r0.size ≤ g := hg
    show bitAt ws' g = false
    rw [hbit, if_neg (by omega)]
  · apply absA_eq_of
    · simp; omega
    · intro g hg
      have hg' : g < r0.size := hg
      show _ = some (bitAt ws' g)
      rw [hbit, List.getElem?_append]
      simp only [List.length_map, List.length_range]
      by_cases c : g < m.width
      · rw [if_pos c, if_pos c, List.getElem?_map, List.getElem?_range c]; rfl
      · rw [if_neg c, if_neg c, List.getElem?_replicate, if_pos (by omega)]

/-- `GetRow(y, row)`: in range means `y < height`; a supplied row must be a valid array -/
theorem getRow_refines (m : WMat) (y : Nat) (row : Option WArr) (h : InvM m) (hy : y < m.height)
    (hrow : ∀ r, row = some r → InvA r) :
    RefinesA (m.getRow y row) ((absM m).getRow y (row.map absA)) := by
  have hrowy : (absM m).rows[y]?.getD [] = (List.range m.width).map (fun x => mbit m x y) := by
    simp only [absM]
    rw [List.getElem?_map, List.getElem?_range hy]; rfl
  have na := invA_zero (k := m.width) (n := m.width) (by omega)
  -- a missing or too small row is replaced by a fresh one
  have hfresh := getRow_core m y (WArr.new m.width) h hy na (bitAt_zeros _) (Nat.le_refl _)
  rw [show (WArr.new m.width).size = m.width from rfl] at hfresh
  unfold WMat.getRow SMat.getRow
  cases row with
  | none =>
    simp only [Option.map_none]
    rw [hrowy]
    simpa using hfresh
  | some r =>
    have hinv := hrow r rfl
    simp only [Option.map_some]
    rw [hrowy, absA_length]
    by_cases c : r.size < m.width
    · rw [if_pos c, if_pos (by simpa [absM] using c)]
      simpa using hfresh
    · rw [if_neg c, if_neg (by simpa [absM] using c)]
      have hc := WArr.clear_refines r hinv
      have := getRow_core m y r.clear h hy hc.1 (bitAt_map_zero r.words) (by simp [WArr.clear]; omega)
      simpa [WArr.clear, absM] using this

/-- `SetRow(y, row)`: in range means `y < height` and `row` is an array of exactly `width` bits -/
theorem setRow_refines (m : WMat) (y : Nat) (row : WArr) (h : InvM m) (hy : y < m.height)
    (hrow : InvA row) (hsz : row.size = m.width) :
    RefinesM (m.setRow y row) ((absM m).setRow y (absA row)) := by
  have hwl := h.width_le
  have hlen := h.len
  have hwu := h.lt_width
  have hoff := h.row_end hy
  have hcap : m.rowSize ≤ row.words.length := by have := hrow.1; omega
  unfold WMat.setRow
  simp only
  rw [if_neg (by omega)]
  refine ⟨_, rfl, ?_⟩
  generalize hws : m.words.take (y * m.rowSize) ++
      copyInto ((m.words.drop (y * m.rowSize)).take m.rowSize) row.words ++
      m.words.drop (y * m.rowSize + m.rowSize) = ws'
  have hcopy : copyInto ((m.words.drop (y * m.rowSize)).take m.rowSize) row.words =
      row.words.take m.rowSize := by
    unfold copyInto
    have e : ((m.words.drop (y * m.rowSize)).take m.rowSize).length = m.rowSize := by
      rw [List.length_take, List.length_drop]; omega
    rw [e, List.drop_eq_nil_of_le (by omega)]; simp
  have hget : ∀ k, ws'[k]? = if y * m.rowSize ≤ k ∧ k < y * m.rowSize + m.rowSize
      then row.words[k - y * m.rowSize]? else m.words[k]? := by
    intro k
    rw [← hws, hcopy, List.append_assoc, List.getElem?_append, List.length_take]
    have emin : min (y * m.rowSize) m.words.length = y * m.rowSize := by omega
    rw [emin]
    by_cases c1 : k < y * m.rowSize
    · rw [if_pos c1, if_neg (by omega), List.getElem?_take, if_pos c1]
    · rw [if_neg c1, List.getElem?_append, List.length_take]
      have emin2 : min m.rowSize row.words.length = m.rowSize := by omega
      rw [emin2]
      by_cases c2 : k - y * m.rowSize < m.rowSize
      · rw [if_pos c2, if_pos (by omega), List.getElem?_take, if_pos c2]
      · rw [if_neg c2, if_neg (by omega), List.getElem?_drop]
        congr 1; omega
  have hl : ws'.length = m.words.length := by
    rw [← hws, hcopy]; simp; omega
  have hspec : (absM m).setRow y (absA row) = SMat.ofFn m.width m.height
      (fun x y' => if y' = y then bitAt row.words x else mbit m x y') := by
    apply SMat.eq_ofFn_of _ _ _ _ _ rfl rfl
    · intro x y' hx hy'
      have hx' : x < m.width := hx
      have hy'' : y' < m.height := hy'
      unfold SMat.setRow SMat.get
      simp only
      rw [List.getElem?_set]
      by_cases c : y = y'
      · subst c
        have : y < (absM m).rows.length := by simp [absM]; exact hy''
        rw [if_pos rfl, if_pos this]
        simp only [Option.getD_some]
        rw [List.getElem?_take, if_pos (show x < (absM m).width from hx'), absA_getElem?,
          if_pos (by omega)]
        simp
      · rw [if_neg c, if_neg (fun e => c e.symm)]
        exact absM_get m x y' hx' hy''
    · constructor
      · simp [SMat.setRow, absM]
      · intro r hr
        simp only [SMat.setRow] at hr
        rcases List.mem_or_eq_of_mem_set hr with h1 | h1
        · exact (absM_WF m).2 r h1
        · rw [h1]
          show (List.take (absM m).width (absA row)).length = m.width
          rw [List.length_take, absA_length, hsz]; simp [absM]
  rw [hspec]
  apply cellwise m h ws' _ hl
  · intro w hw
    obtain ⟨k, hk, rfl⟩ := List.getElem_of_mem hw
    have := hget k
    rw [List.getElem?_eq_getElem hk] at this
    split at this
    · exact hrow.words_lt _ (List.mem_of_getElem? this.symm)
    · exact h.words_lt _ (List.mem_of_getElem? this.symm)
  · intro x y' hx hy'
    rw [bitAt_cell, hget]
    by_cases c : y' = y
    · subst c
      rw [if_pos (by omega), show y' * m.rowSize + x / 32 - y' * m.rowSize = x / 32 by omega]
      by_cases c2 : x < m.width
      · rw [if_pos c2, if_pos rfl]; rfl
      · rw [if_neg c2]
        exact hrow.pad x (by omega)
    · have hne : ¬ (y * m.rowSize ≤ y' * m.rowSize + x / 32 ∧
          y' * m.rowSize + x / 32 < y * m.rowSize + m.rowSize) := by
        intro hh
        rcases Nat.lt_or_gt_of_ne c with c' | c'
        · have : (y' + 1) * m.rowSize ≤ y * m.rowSize := Nat.mul_le_mul_right _ c'
          rw [Nat.add_mul, Nat.one_mul] at this; omega
        · have : (y + 1) * m.rowSize ≤ y' * m.rowSize := Nat.mul_le_mul_right _ c'
          rw [Nat.add_mul, Nat.one_mul] at this; omega
      rw [if_neg hne, if_neg c, ← mbit_word]
      by_cases c2 : x < m.width
      · rw [if_pos c2]
      · rw [if_neg c2]; exact h.pad x y' (by omega) hx

end WMat

end Gzx.Bits
