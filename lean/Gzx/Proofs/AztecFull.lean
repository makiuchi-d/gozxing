/-
  C11 composition with the Reed-Solomon decoder of C04 plugged in (`rsModel`): shape of a reference symbol,
  capacity of every size against the field size, `correctBits` on an arbitrary received stream, and the decoder
  model on any matrix whose extracted codewords differ from the reference codeword sequence in at most
  ⌊check words / 2⌋ positions.
-/
import Gzx.Proofs.AztecCompose
import Gzx.Proofs.AztecLayout
import Gzx.Proofs.AztecRS
namespace Gzx.AztecFull
open Gzx Gzx.AztecDecoder Gzx.Ref.Aztec Gzx.AztecLink Gzx.AztecStuff Gzx.AztecHL Gzx.AztecCompose Gzx.AztecRS
open Gzx.Properties.C04 (hamming)

/-! ### sizes against fields -/

theorem wordOK_wordSize (layers : Nat) : WordOK (wordSize layers) := by
  unfold wordSize WordOK
  split
  · simp
  · split
    · simp
    · split <;> simp

/-- every size (layer count 1..32, compact or not) holds at most `2^w - 1` codewords of its size `w`:
    the codeword sequence of a symbol fits one Reed-Solomon block over its field -/
theorem capacity_le (compact : Bool) : ∀ (layers : Nat), layers ≤ 32 →
    totalBits compact layers / wordSize layers ≤ 2 ^ wordSize layers - 1 := by
  cases compact <;> decide

theorem capacity_pos (compact : Bool) : ∀ (layers : Nat), layers ≤ 32 → 1 ≤ layers →
    0 < totalBits compact layers / wordSize layers := by
  cases compact <;> decide

/-! ### extracted stream -/

theorem readAll_length (m : Matrix) : ∀ (ps : List (Nat × Nat)) (bs : List Bool),
    readAll m ps = .ok bs → bs.length = ps.length
  | [], bs, h => by
    simp only [readAll] at h
    cases h; rfl
  | p :: ps, bs, h => by
    simp only [readAll] at h
    split at h
    · cases h
    · split at h
      · cases h
      · rename_i bs' hbs
        cases h
        simp [readAll_length m ps bs' hbs]

theorem readPositions_length (layers : Nat) (compact : Bool) :
    (readPositions layers compact).length = totalBits compact layers := by
  have h := AztecLayout.layoutOK_eq_true compact layers
  simp only [AztecLayout.layoutOK, Bool.and_eq_true] at h
  exact Nat.eq_of_beq_eq_true h.1

theorem extractBits_length (m : Matrix) (layers : Nat) (compact : Bool) (raw : List Bool)
    (h : extractBits m layers compact = .ok raw) : raw.length = totalBits compact layers := by
  rw [readAll_length m _ raw h, readPositions_length]

theorem chunkWords_length (w : Nat) : ∀ (n : Nat) (bs : List Bool), (chunkWords w n bs).length = n
  | 0, _ => rfl
  | n + 1, bs => by simp [chunkWords, chunkWords_length w n]

theorem chunkWords_lt (w : Nat) : ∀ (n : Nat) (bs : List Bool), ∀ x ∈ chunkWords w n bs, x < 2 ^ w
  | 0, _, x, h => by simp [chunkWords] at h
  | n + 1, bs, x, h => by
    simp only [chunkWords, List.mem_cons] at h
    rcases h with rfl | h
    · rw [readCode_eq_fromBits]
      exact fromBits_lt_of_length_le _ (List.length_take_le w bs)
    · exact chunkWords_lt w n _ x h

theorem receivedWords_stream (layers : Nat) (pad : List Bool) (v : List Nat)
    (hpad : pad.length < wordSize layers) (hv : ∀ x ∈ v, x < 2 ^ wordSize layers) :
    receivedWords layers (pad ++ v.flatMap (toBits (wordSize layers))) = v := by
  have hb := wordSize_bounds layers
  unfold receivedWords
  simp only [codewordSize_eq]
  generalize wordSize layers = b at *
  have hlen : (pad ++ v.flatMap (toBits b)).length = pad.length + v.length * b := by
    rw [List.length_append, length_flatMap_toBits]
  have hdiv : (pad.length + v.length * b) / b = v.length := by
    rw [Nat.add_comm, Nat.mul_comm, Nat.mul_add_div (by omega), Nat.div_eq_of_lt hpad]; omega
  have hmod : (pad.length + v.length * b) % b = pad.length := by
    rw [Nat.add_mul_mod_self_right, Nat.mod_eq_of_lt hpad]
  rw [hlen, hdiv, hmod, List.drop_left' rfl]
  exact chunkWords_flatMap b v hv

/-! ### shape of a reference symbol -/

theorem stuffWords_ne_nil (b : Nat) (bits : List Bool) : stuffWords b bits ≠ [] := by
  unfold stuffWords
  cases bits with
  | nil => simp
  | cons x xs =>
    simp only [List.isEmpty_cons, Bool.false_eq_true, if_false, List.length_cons,
      stuffAux_cons b _ (x :: xs) (List.cons_ne_nil x xs)]
    split
    · simp
    · split <;> simp

/-- what `encodeOps … = .ok sym` says about `sym` -/
theorem encodeOps_shape (compact : Bool) (layers : Nat) (ops : List Op) (minCheck : Nat) (sym : Symbol)
    (henc : encodeOps compact layers ops minCheck = .ok sym) :
    ∃ hl, encodeScript .upper ops = some hl ∧
      (1 ≤ layers ∧ layers ≤ (if compact then 4 else 32)) ∧
      sym.dataWords = (stuffWords (wordSize layers) hl).map fromBits ∧
      sym.checkWords = rsParity (wordSize layers)
        (totalBits compact layers / wordSize layers - sym.dataWords.length) sym.dataWords ∧
      sym.dataWords.length + minCheck ≤ totalBits compact layers / wordSize layers ∧
      sym.stream = List.replicate (totalBits compact layers % wordSize layers) false ++
        (sym.dataWords ++ sym.checkWords).flatMap (toBits (wordSize layers)) ∧
      sym.modeMsg = modeMessage compact layers sym.dataWords.length ∧
      sym.matrix = layout compact layers sym.stream sym.modeMsg := by
  unfold encodeOps at henc
  cases hs : encodeScript .upper ops with
  | none => rw [hs] at henc; cases henc
  | some hl =>
    rw [hs] at henc
    unfold encodeBits at henc
    cases hlay : badLayers compact layers with
    | true => simp only [hlay, if_true] at henc; cases henc
    | false =>
      simp only [hlay, Bool.false_eq_true, if_false] at henc
      cases hfit : tooLong compact (totalBits compact layers / wordSize layers)
          ((stuffWords (wordSize layers) hl).map fromBits).length minCheck with
      | true => simp only [hfit, if_true] at henc; cases henc
      | false =>
        simp only [hfit, Bool.false_eq_true, if_false] at henc
        cases hint : badShape (wordSize layers) (totalBits compact layers / wordSize layers -
            ((stuffWords (wordSize layers) hl).map fromBits).length)
            (rsParity (wordSize layers) (totalBits compact layers / wordSize layers -
              ((stuffWords (wordSize layers) hl).map fromBits).length)
              ((stuffWords (wordSize layers) hl).map fromBits)) with
        | true => simp only [hint, if_true] at henc; cases henc
        | false =>
          simp only [hint, Bool.false_eq_true, if_false] at henc
          injection henc with henc
          subst henc
          refine ⟨hl, rfl, ?_, rfl, rfl, ?_, rfl, rfl, rfl⟩
          · unfold badLayers at hlay
            cases compact <;> simp at hlay ⊢ <;> omega
          · unfold tooLong at hfit
            simp at hfit
            simp
            omega

theorem ref_codewords (compact : Bool) (layers : Nat) (ops : List Op) (minCheck : Nat) (sym : Symbol)
    (henc : encodeOps compact layers ops minCheck = .ok sym) :
    (∀ x ∈ sym.dataWords ++ sym.checkWords, x < 2 ^ wordSize layers) ∧
    (sym.dataWords ++ sym.checkWords).length = totalBits compact layers / wordSize layers ∧
    sym.dataWords ≠ [] := by
  obtain ⟨hl, hs, hvalid, hdw, hcw, hfit, _, _, _⟩ := encodeOps_shape compact layers ops minCheck sym henc
  have hb := wordSize_bounds layers
  have hdlt : ∀ x ∈ sym.dataWords, x < 2 ^ wordSize layers := by
    rw [hdw]; exact stuffWords_values_lt (wordSize layers) (by omega) hl
  refine ⟨?_, ?_, ?_⟩
  · have h := (rsParity_codeword (wordSize layers) (wordOK_wordSize layers)
      (totalBits compact layers / wordSize layers - sym.dataWords.length) sym.dataWords hdlt).1
    rw [← hcw] at h
    intro x hx
    have := h x hx
    rwa [gfOf_size _ (wordOK_wordSize layers)] at this
  · rw [List.length_append, hcw, rsParity_length]; omega
  · rw [hdw]
    intro h
    exact stuffWords_ne_nil (wordSize layers) hl (List.map_eq_nil_iff.1 h)

/-! ### correctBits on an arbitrary stream -/

theorem correctBits_of_rs (rs : RSDecoder) (raw : List Bool) (layers nData : Nat) (cw : List Nat)
    (bits : List Bool)
    (hN : nData ≤ raw.length / codewordSize layers) (hpos : 0 < raw.length / codewordSize layers)
    (hrs : rs (codewordSize layers) (receivedWords layers raw)
      (raw.length / codewordSize layers - nData) = .ok cw)
    (hun : unstuff (codewordSize layers) (cw.take nData) = .ok bits) :
    correctBits rs raw layers nData =
      .ok ⟨bits, 100 * (raw.length / codewordSize layers - nData) / (raw.length / codewordSize layers)⟩ := by
  unfold correctBits
  unfold receivedWords at hrs
  simp only at hrs
  have h1 : ¬ (raw.length / codewordSize layers < nData) := by omega
  have h2 : ¬ (raw.length / codewordSize layers = 0) := by omega
  simp only [h1, if_false, hrs, hun, h2]
  rfl

/-- the decoder model on any matrix from which it extracts a stream, with any Reed-Solomon decoder `rs` that
    turns the stream's codewords into the reference codeword sequence -/
theorem decode_of_rs (reg : Nat → Bool) (rs : RSDecoder) (compact : Bool) (layers : Nat) (ops : List Op)
    (minCheck : Nat) (sym : Symbol) (henc : encodeOps compact layers ops minCheck = .ok sym)
    (hok : scriptOK reg ops)
    (m' : Matrix) (raw : List Bool) (hext : extractBits m' layers compact = .ok raw)
    (hrs : rs (wordSize layers) (receivedWords layers raw) sym.checkWords.length =
      .ok (sym.dataWords ++ sym.checkWords)) :
    ∃ d, decode refTables reg rs m' compact sym.dataWords.length layers = .ok d ∧
      d.segs = segments ((scriptItems .upper ops).map toEvent) := by
  obtain ⟨hl, hs, hvalid, hdw, hcw, hfit, _, _, _⟩ := encodeOps_shape compact layers ops minCheck sym henc
  have hl32 : layers ≤ 32 := by
    cases compact <;> simp at hvalid <;> omega
  have hrawlen := extractBits_length m' layers compact raw hext
  have hpos := capacity_pos compact layers hl32 hvalid.1
  have hb := wordSize_bounds layers
  have hcwl : sym.checkWords.length =
      totalBits compact layers / wordSize layers - sym.dataWords.length := by
    rw [hcw]; exact rsParity_length _ _ _
  obtain ⟨k, hk, hun⟩ := stuffWords_unstuff (wordSize layers) (by omega) hl
  rw [← hdw] at hun
  have hcb := correctBits_of_rs rs raw layers sym.dataWords.length _ (hl ++ List.replicate k true)
    (by rw [codewordSize_eq, hrawlen]; omega) (by rw [codewordSize_eq, hrawlen]; exact hpos)
    (by rw [codewordSize_eq, hrawlen, ← hcwl]; exact hrs)
    (by rw [List.take_left' rfl, codewordSize_eq]; exact hun)
  have hhl := hld_script reg ops hl hs hok k (by omega)
  refine ⟨⟨segments ((scriptItems .upper ops).map toEvent), toByteArray (hl ++ List.replicate k true),
    (hl ++ List.replicate k true).length,
    100 * (raw.length / codewordSize layers - sym.dataWords.length) / (raw.length / codewordSize layers)⟩,
    ?_, rfl⟩
  unfold decode
  rw [hext]
  simp only [bind, Except.bind]
  rw [hcb]
  simp only [hhl]
  rfl

/-- **the decoder model with the C04 Reed-Solomon decoder, on any matrix whose extracted codewords are within
    ⌊check words / 2⌋ of the reference codeword sequence** -/
theorem decode_received (reg : Nat → Bool) (compact : Bool) (layers : Nat) (ops : List Op) (minCheck : Nat)
    (sym : Symbol) (henc : encodeOps compact layers ops minCheck = .ok sym) (hok : scriptOK reg ops)
    (m' : Matrix) (raw : List Bool) (hext : extractBits m' layers compact = .ok raw)
    (hdam : 2 * hamming (sym.dataWords ++ sym.checkWords) (receivedWords layers raw) ≤
      sym.checkWords.length) :
    ∃ d, decode refTables reg rsModel m' compact sym.dataWords.length layers = .ok d ∧
      d.segs = segments ((scriptItems .upper ops).map toEvent) := by
  refine decode_of_rs reg rsModel compact layers ops minCheck sym henc hok m' raw hext ?_
  obtain ⟨_, _, hvalid, _, hcw, hfit, _, _, _⟩ := encodeOps_shape compact layers ops minCheck sym henc
  obtain ⟨hlt, _, hne⟩ := ref_codewords compact layers ops minCheck sym henc
  have hl32 : layers ≤ 32 := by
    cases compact <;> simp at hvalid <;> omega
  have hrawlen := extractBits_length m' layers compact raw hext
  have hcap := capacity_le compact layers hl32
  have hdlt : ∀ x ∈ sym.dataWords, x < 2 ^ wordSize layers := fun x hx => hlt x (List.mem_append_left _ hx)
  have hrecl : (receivedWords layers raw).length = totalBits compact layers / wordSize layers := by
    unfold receivedWords
    simp only [chunkWords_length, codewordSize_eq, hrawlen]
  have hreclt : ∀ x ∈ receivedWords layers raw, x < 2 ^ wordSize layers := by
    unfold receivedWords
    simp only [codewordSize_eq]
    exact chunkWords_lt _ _ _
  rw [hcw, rsParity_length] at hdam ⊢
  exact rsModel_corrects (wordSize layers) (wordOK_wordSize layers)
    (totalBits compact layers / wordSize layers - sym.dataWords.length) sym.dataWords
    (receivedWords layers raw) hne hdlt (by omega) (by rw [hrecl]; omega) hreclt hdam

end Gzx.AztecFull
