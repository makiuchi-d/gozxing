/-
  wp `qrenc` — penalty rule 3: the per-position test of `MaskUtil_applyMaskPenaltyRule3` (index comparisons with
  `isWhiteHorizontal/Vertical` and their clamps) is the reference's `n3Here`, and the interleaved row/column count
  is the reference's sum over rows plus sum over columns.
-/
import Gzx.Proofs.QREncPenalty
namespace Gzx.QREnc
open Gzx Gzx.QRRef

/-! ### the position test on a line of Booleans -/

def patAt (l : List Bool) (i : Nat) : Bool :=
  decide (i + 6 < l.length) && l.getD i false && !l.getD (i + 1) false && l.getD (i + 2) false &&
    l.getD (i + 3) false && l.getD (i + 4) false && !l.getD (i + 5) false && l.getD (i + 6) false

/-- cells `a ≤ j < a + k` of the line are light -/
def whiteR (l : List Bool) (a k : Nat) : Bool := (List.range' a k).all (fun j => !(l.getD j false))

def n3At (l : List Bool) (i : Nat) : Bool :=
  patAt l i && (whiteR l (i - 4) (i - (i - 4)) || whiteR l (i + 7) (min (i + 11) l.length - (i + 7)))

theorem finderAt_eq (m : List Bool) : finderAt m =
    (decide (6 < m.length) && m.getD 0 false && !m.getD 1 false && m.getD 2 false && m.getD 3 false &&
      m.getD 4 false && !m.getD 5 false && m.getD 6 false) := by
  rcases m with _ | ⟨a, _ | ⟨b, _ | ⟨c, _ | ⟨d, _ | ⟨e, _ | ⟨f, _ | ⟨g, t⟩⟩⟩⟩⟩⟩⟩ <;> simp [finderAt] <;>
    (try (cases a <;> simp)) <;> (try (cases b <;> simp)) <;> (try (cases c <;> simp)) <;>
    (try (cases d <;> simp)) <;> (try (cases e <;> simp)) <;> (try (cases f <;> simp)) <;>
    (try (cases g <;> simp))

theorem getD_drop (l : List Bool) (i k : Nat) : (l.drop i).getD k false = l.getD (i + k) false := by
  simp [List.getD_eq_getElem?_getD, List.getElem?_drop]

theorem patAt_eq (l : List Bool) (i : Nat) : finderAt (l.drop i) = patAt l i := by
  rw [finderAt_eq]
  unfold patAt
  simp only [getD_drop, List.length_drop, Nat.add_zero]
  congr 8
  apply propext
  omega

theorem slice_eq (l : List Bool) (a k : Nat) :
    (l.drop a).take k = (List.range' a (min k (l.length - a))).map (fun j => l.getD j false) := by
  apply List.ext_getElem
  · simp
  · intro j h1 h2
    simp only [List.length_take, List.length_drop] at h1
    simp [List.getD_eq_getElem?_getD, List.getElem?_eq_getElem (by omega : a + j < l.length)]

theorem allLight_slice (l : List Bool) (a k : Nat) :
    allLight ((l.drop a).take k) = whiteR l a (min k (l.length - a)) := by
  unfold allLight whiteR
  rw [slice_eq, List.all_map]
  rfl

theorem n3Here_eq (l : List Bool) (i : Nat) (hi : i < l.length) :
    n3Here ((l.take i).reverse ++ []) (l.drop i) = n3At l i := by
  unfold n3Here n3At
  rw [patAt_eq, List.append_nil]
  congr 2
  · -- four modules before
    rw [List.take_reverse]
    unfold allLight
    rw [List.all_reverse]
    have hlen : (l.take i).length = i := by rw [List.length_take]; omega
    rw [hlen, List.drop_take]
    have := allLight_slice l (i - 4) (i - (i - 4))
    unfold allLight at this
    rw [this]
    congr 1
    omega
  · -- four modules after
    rw [List.drop_drop, allLight_slice]
    congr 1
    omega

/-! ### sums -/

def sumR (n : Nat) (f : Nat → Nat) : Nat := sumL ((List.range n).map f)

theorem sumR_succ (n : Nat) (f : Nat → Nat) : sumR (n + 1) f = sumR n f + f n := by
  unfold sumR sumL
  rw [List.range_succ, List.map_append, List.foldl_append]
  rfl

theorem sumR_add (n : Nat) (f g : Nat → Nat) : sumR n (fun k => f k + g k) = sumR n f + sumR n g := by
  induction n with
  | zero => rfl
  | succ n ih => rw [sumR_succ, sumR_succ, sumR_succ, ih]; omega

theorem sumR_congr (n : Nat) (f g : Nat → Nat) (h : ∀ k, k < n → f k = g k) : sumR n f = sumR n g := by
  induction n with
  | zero => rfl
  | succ n ih => rw [sumR_succ, sumR_succ, ih (fun k hk => h k (by omega)), h n (by omega)]

theorem sumR_swap (m n : Nat) (a : Nat → Nat → Nat) :
    sumR m (fun y => sumR n (fun x => a y x)) = sumR n (fun x => sumR m (fun y => a y x)) := by
  induction m with
  | zero =>
    have : ∀ n, sumR n (fun _ => 0) = 0 := by
      intro n; induction n with
      | zero => rfl
      | succ n ih => rw [sumR_succ, ih]
    show sumR 0 _ = _
    simp only [sumR, List.range_zero, List.map_nil, sumL, List.foldl_nil]
    exact (this n).symm
  | succ m ih =>
    rw [sumR_succ, ih, ← sumR_add]
    apply sumR_congr
    intro x _
    rw [sumR_succ]

theorem foldl_sumR (n : Nat) (f : Nat → Nat) (a : Int) :
    (List.range n).foldl (fun (acc : Int) k => acc + ((f k : Nat) : Int)) a = a + ((sumR n f : Nat) : Int) :=
  foldl_score f (List.range n) a

theorem filter_length_sumR (n : Nat) (p : Nat → Bool) :
    ((List.range n).filter p).length = sumR n (fun i => if p i then 1 else 0) := by
  induction n with
  | zero => rfl
  | succ n ih =>
    rw [List.range_succ, List.filter_append, List.length_append, ih, sumR_succ]
    cases h : p n <;> simp [h]

theorem finderLike_sumR (l : List Bool) :
    finderLike [] l = sumR l.length (fun i => if n3At l i then 1 else 0) := by
  rw [penalty_n3_line l [], filter_length_sumR]
  apply sumR_congr
  intro i hi
  rw [n3Here_eq l i hi]


/-! ### the coded tests -/

/-- where every test succeeds the early exits do not matter -/
theorem allSeq_and {c : Unit → Res Bool} {cs : List (Unit → Res Bool)} {b B : Bool} (h : c () = .ok b)
    (hcs : allSeq cs = .ok B) : allSeq (c :: cs) = .ok (b && B) := by
  rw [allSeq]
  simp only [bind, Except.bind, h, hcs, pure, Except.pure]
  cases b <;> rfl

/-- the loop of `isWhiteHorizontal` / `isWhiteVertical` over cells `a ≤ j < a + k` of a line, for any way of reading
    a cell -/
theorem whiteLoop_eq (l : List Bool) (a k : Nat) (body : Int → Bool → Res Bool)
    (hbody : ∀ j, j < k → ∀ w, body ((a : Int) + ((j : Nat) : Int)) w = .ok (w && !(l.getD (a + j) false))) :
    forRange (a : Int) ((a + k : Nat) : Int) body true = .ok (whiteR l a k) := by
  have hfold : ∀ (k : Nat) (w : Bool), (List.range k).foldl (fun w j => w && !(l.getD (a + j) false)) w =
      (w && (List.range k).all (fun j => !(l.getD (a + j) false))) := by
    intro k
    induction k with
    | zero => simp
    | succ k ih => intro w; rw [List.range_succ, List.foldl_append, ih, List.all_append]; simp [Bool.and_assoc]
  unfold forRange whiteR
  rw [show (((a + k : Nat) : Int) - (a : Int)).toNat = k by omega,
    foldlM_ok _ (fun w j => w && !(l.getD (a + j) false)) _ _ (fun w j hj => hbody j (List.mem_range.mp hj) w),
    hfold, List.range'_eq_map_range, List.all_map]
  rfl

/-- `isWhiteHorizontal` on a line of cells, with the clamps resolved -/
theorem isWhiteHorizontal_eq (r : List Bool) (a k : Nat) (hak : a + k ≤ r.length) (f t : Int)
    (hf : (if f < 0 then 0 else f) = (a : Int))
    (ht : (if t > ((r.map b2i).length : Int) then ((r.map b2i).length : Int) else t) = ((a + k : Nat) : Int)) :
    isWhiteHorizontal (r.map b2i) f t = .ok (whiteR r a k) := by
  unfold isWhiteHorizontal
  simp only [bind, Except.bind]
  rw [hf, ht]
  apply whiteLoop_eq
  intro j hj w
  rw [show (a : Int) + ((j : Nat) : Int) = ((a + j : Nat) : Int) by omega, idx_cell r (a + j) (by omega)]
  cases w <;> cases r.getD (a + j) false <;> rfl

theorem isWhiteVertical_eq {n : Nat} {rows : List (List Bool)} (hs : Square n rows) (col : Nat) (hc : col < n)
    (a k : Nat) (hak : a + k ≤ n) (f t : Int)
    (hf : (if f < 0 then 0 else f) = (a : Int))
    (ht : (if t > (n : Int) then (n : Int) else t) = ((a + k : Nat) : Int)) :
    isWhiteVertical (ofRows rows n).bytes (col : Int) f t = .ok (whiteR (column rows col) a k) := by
  unfold isWhiteVertical
  simp only [bind, Except.bind]
  rw [show (((ofRows rows n).bytes.length : Nat) : Int) = (n : Int) by simp [ofRows, hs.len], hf, ht]
  apply whiteLoop_eq
  intro j hj w
  have h := idx_column hs col (a + j) hc (by omega)
  simp only [bind, Except.bind] at h
  rw [show (a : Int) + ((j : Nat) : Int) = ((a + j : Nat) : Int) by omega]
  cases w
  · rfl
  · simp only [Bool.not_true, Bool.false_eq_true, if_false]
    split at h
    · cases h
    · rw [h]; cases (column rows col).getD (a + j) false <;> rfl

/-- The shape shared by `rule3Horizontal` and `rule3Vertical`: a length guard `g`, seven cell tests `t k want` and
    the test `w` for four light modules on either side, evaluated left to right on the line `l` at position `i`.
    Past the guard every test succeeds, so the early exits do not matter and the result is the conjunction. -/
theorem allSeq_n3At (l : List Bool) (i : Nat) (g : Unit → Res Bool) (t : Nat → Int → Unit → Res Bool)
    (w : Unit → Res Bool) (hg : g () = .ok (decide (i + 6 < l.length)))
    (ht : i + 6 < l.length → ∀ (k : Nat) (want : Int), k ≤ 6 →
      t k want () = .ok (decide (b2i (l.getD (i + k) false) = want)))
    (hw : i + 6 < l.length →
      w () = .ok (whiteR l (i - 4) (i - (i - 4)) || whiteR l (i + 7) (min (i + 11) l.length - (i + 7)))) :
    allSeq [g, t 0 1, t 1 0, t 2 1, t 3 1, t 4 1, t 5 0, t 6 1, w] = .ok (n3At l i) := by
  by_cases h6 : i + 6 < l.length
  · rw [allSeq_and hg <| allSeq_and (ht h6 0 1 (by omega)) <| allSeq_and (ht h6 1 0 (by omega)) <|
      allSeq_and (ht h6 2 1 (by omega)) <| allSeq_and (ht h6 3 1 (by omega)) <| allSeq_and (ht h6 4 1 (by omega)) <|
      allSeq_and (ht h6 5 0 (by omega)) <| allSeq_and (ht h6 6 1 (by omega)) <| allSeq_and (hw h6) rfl]
    simp [n3At, patAt, b2i_eq_one, b2i_eq_zero, Bool.and_assoc]
  · rw [allSeq]
    simp [hg, h6, n3At, patAt, bind, Except.bind, pure, Except.pure]

theorem rule3Horizontal_eq (r : List Bool) (x : Nat) (hx : x < r.length) :
    rule3Horizontal (r.map b2i) (r.length : Int) (x : Int) = .ok (n3At r x) := by
  unfold rule3Horizontal
  refine allSeq_n3At r x _ (fun k want _ => do pure ((← idx (r.map b2i) ((x : Int) + (k : Nat))) = want)) _ ?_ ?_ ?_
  · simp [pure, Except.pure]; omega
  · intro h6 k want hk
    rw [show (x : Int) + ((k : Nat) : Int) = ((x + k : Nat) : Int) by omega, idx_cell r (x + k) (by omega)]
    rfl
  · intro h6
    rw [isWhiteHorizontal_eq r (x - 4) (x - (x - 4)) (by omega) ((x : Int) - 4) (x : Int)
        (by split <;> omega) (by simp only [List.length_map]; split <;> omega),
      isWhiteHorizontal_eq r (x + 7) (min (x + 11) r.length - (x + 7)) (by omega) ((x : Int) + 7) ((x : Int) + 11)
        (by split <;> omega) (by simp only [List.length_map]; split <;> omega)]
    cases whiteR r (x - 4) (x - (x - 4)) <;> rfl

theorem rule3Vertical_eq {n : Nat} {rows : List (List Bool)} (hs : Square n rows) (x y : Nat) (hx : x < n) (hy : y < n) :
    rule3Vertical (ofRows rows n).bytes (n : Int) (x : Int) (y : Int) = .ok (n3At (column rows x) y) := by
  have hcl := column_length hs x
  unfold rule3Vertical
  refine allSeq_n3At (column rows x) y _
    (fun k want _ => do pure ((← idx (← idx (ofRows rows n).bytes ((y : Int) + (k : Nat))) (x : Int)) = want)) _ ?_ ?_ ?_
  · simp [pure, Except.pure, hcl]; omega
  · intro h6 k want hk
    have h := idx_column hs x (y + k) hx (by omega)
    simp only [bind, Except.bind] at h ⊢
    rw [show (y : Int) + ((k : Nat) : Int) = ((y + k : Nat) : Int) by omega]
    split at h
    · cases h
    · rw [h]; rfl
  · intro h6
    rw [hcl] at h6 ⊢
    rw [isWhiteVertical_eq hs x hx (y - 4) (y - (y - 4)) (by omega) ((y : Int) - 4) (y : Int)
        (by split <;> omega) (by split <;> omega),
      isWhiteVertical_eq hs x hx (y + 7) (min (y + 11) n - (y + 7)) (by omega) ((y : Int) + 7) ((y : Int) + 11)
        (by split <;> omega) (by split <;> omega)]
    cases whiteR (column rows x) (y - 4) (y - (y - 4)) <;> rfl

theorem rule3_eq {n : Nat} {rows : List (List Bool)} (hs : Square n rows) :
    applyMaskPenaltyRule3 (ofRows rows n) = .ok ((penalty3 rows : Nat) : Int) := by
  unfold applyMaskPenaltyRule3
  have hw : (ofRows rows n).width = (n : Int) := rfl
  have hh : (ofRows rows n).height = (n : Int) := rfl
  simp only [hw, hh, bind, Except.bind]
  rw [forRange_ok n _ (fun acc y => acc + ((sumR n (fun x =>
      (if n3At (rows.getD y []) x then 1 else 0) + (if n3At (column rows x) y then 1 else 0)) : Nat) : Int))]
  · rw [foldl_sumR]
    simp only [pure, Except.pure, Except.ok.injEq, Int.zero_add]
    unfold penalty3
    rw [hs.len, transpose_eq, List.map_map]
    have hrows : sumL (rows.map (finderLike [])) = sumR n (fun y => sumR n (fun x => if n3At (rows.getD y []) x then 1 else 0)) := by
      unfold sumR
      congr 1
      apply List.ext_getElem
      · simp [hs.len]
      · intro y h1 h2
        have hy : y < n := by simpa [hs.len] using h1
        have hy' : y < rows.length := by rw [hs.len]; exact hy
        simp only [List.getElem_map, List.getElem_range]
        have hrl := getD_row_len hs y hy
        have hg : rows.getD y [] = rows[y] := by simp [List.getD_eq_getElem?_getD, List.getElem?_eq_getElem hy']
        rw [finderLike_sumR, ← hg, hrl]
        rfl
    have hcols : sumL ((List.range n).map ((finderLike []) ∘ column rows)) =
        sumR n (fun x => sumR n (fun y => if n3At (column rows x) y then 1 else 0)) := by
      unfold sumR
      congr 1
      apply List.map_congr_left
      intro x _
      simp only [Function.comp]
      rw [finderLike_sumR, column_length hs]
      rfl
    rw [hrows, hcols, ← sumR_swap n n (fun y x => if n3At (column rows x) y then 1 else 0), ← sumR_add]
    have : sumR n (fun y => sumR n (fun x => (if n3At (rows.getD y []) x then 1 else 0) + (if n3At (column rows x) y then 1 else 0))) =
        sumR n (fun k => sumR n (fun x => if n3At (rows.getD k []) x then 1 else 0) + sumR n (fun x => if n3At (column rows x) k then 1 else 0)) := by
      apply sumR_congr
      intro y _
      rw [sumR_add]
    rw [this]
    simp [Int.natCast_mul]; omega
  · intro acc y hy
    rw [forRange_ok n _ (fun a x => a + (((if n3At (rows.getD y []) x then 1 else 0) + (if n3At (column rows x) y then 1 else 0) : Nat) : Int))]
    · rw [foldl_sumR]
    · intro a x hx
      rw [idx_rows hs y hy]
      simp only
      have hrl := getD_row_len hs y hy
      have := rule3Horizontal_eq (rows.getD y []) x (by rw [hrl]; exact hx)
      rw [hrl] at this
      rw [this]
      simp only
      rw [rule3Vertical_eq hs x y hx hy]
      simp only [pure, Except.pure, Except.ok.injEq]
      cases n3At (rows.getD y []) x <;> cases n3At (column rows x) y <;> simp <;> omega

end Gzx.QREnc
