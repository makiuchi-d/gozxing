/-
  C01 composition, matrix layer: the cells the decoder model reads (`zigzagCells` minus the function
  pattern of `Version.buildFunctionPattern`) are, in order, the placement order `QRRef.zigzag v` of the
  reference construction.
  General part (all naturals, `omega`): corner / timing / version-information regions versus the
  reference's `regionOf`; the cells of one column pair versus `QRRef.columnPair`;
  the column-pair walk of `colPairs` versus `QRRef.pairColumn` (every odd dimension from 7).
  Per version 1..40 (cheap kernel evaluation, no per-cell work): the alignment regions the decoder
  derives from the centre list are those of the reference, and all regions are valid `SetRegion` calls.
-/
import Gzx.Ref.QR
import Gzx.Proofs.QRMatrixRead
import Gzx.Proofs.QRZigzag
namespace Gzx.QRComp
open Gzx Gzx.QRDec

/-- alignment regions by centre VALUES (outer: row centre, inner: column centre), as the reference
    excludes the three finder corners -/
def refAlignRegs (v : Nat) : List Region :=
  let cs := QRRef.alignCentres v
  let last := 4 * v + 10
  cs.flatMap (fun ct => cs.filterMap (fun cl =>
    if (ct = 6 ∧ (cl = 6 ∨ cl = last)) ∨ (ct = last ∧ cl = 6) then none else some ⟨cl - 2, ct - 2, 5, 5⟩))

/-- all `SetRegion` calls of `buildFunctionPattern` for version `v` -/
def allRegs (v : Nat) : List Region :=
  [⟨0, 0, 9, 9⟩, ⟨17 + 4 * v - 8, 0, 8, 9⟩, ⟨0, 17 + 4 * v - 8, 9, 8⟩] ++ refAlignRegs v ++
    [⟨6, 9, 1, 17 + 4 * v - 17⟩, ⟨9, 6, 17 + 4 * v - 17, 1⟩] ++
    (if v > 6 then [⟨17 + 4 * v - 11, 0, 3, 6⟩, ⟨0, 17 + 4 * v - 11, 6, 3⟩] else [])

/-- what is evaluated per version: the alignment regions the decoder derives from the centre list are the
    reference's, every region is a valid `SetRegion` call, and no centre is closer than 2 to the border -/
def fpOK (v : Nat) : Bool :=
  alignmentRegions (QRRef.alignCentres v) == some (refAlignRegs v) &&
  (allRegs v).all (Region.valid (17 + 4 * v)) &&
  (QRRef.alignCentres v).all (fun c => decide (2 ≤ c))

theorem fpOK_all : ∀ v ∈ List.range 40, fpOK (v + 1) = true := by decide +kernel

theorem fpOK_of (v : Nat) (h1 : 1 ≤ v) (h40 : v ≤ 40) :
    alignmentRegions (QRRef.alignCentres v) = some (refAlignRegs v) ∧
    (allRegs v).all (Region.valid (17 + 4 * v)) = true ∧
    (∀ c ∈ QRRef.alignCentres v, 2 ≤ c) := by
  have h := fpOK_all (v - 1) (List.mem_range.mpr (by omega))
  rw [show v - 1 + 1 = v by omega] at h
  simpa only [fpOK, Bool.and_eq_true, beq_iff_eq, List.all_eq_true, decide_eq_true_eq, and_assoc] using h

/-! ### alignment patterns -/

theorem excl_iff (cx cy last : Nat) :
    (!((cx == 6 && cy == 6) || (cx == 6 && cy == last) || (cx == last && cy == 6))) = true ↔
      ¬ ((cy = 6 ∧ (cx = 6 ∨ cx = last)) ∨ (cy = last ∧ cx = 6)) := by
  simp only [Bool.not_eq_true', ← Bool.not_eq_true, Bool.or_eq_true, Bool.and_eq_true, beq_iff_eq]
  omega

theorem refAlign_any (v x y : Nat) (hc : ∀ c ∈ QRRef.alignCentres v, 2 ≤ c) :
    (refAlignRegs v).any (·.has x y) = QRRef.inAlignment v x y := by
  rw [Bool.eq_iff_iff]
  unfold refAlignRegs QRRef.inAlignment
  simp only [List.any_eq_true, List.mem_flatMap, List.mem_filterMap, Bool.and_eq_true, QRRef.near,
    decide_eq_true_eq, excl_iff]
  constructor
  · rintro ⟨r, ⟨ct, hct, cl, hcl, hr⟩, hhas⟩
    split at hr
    · cases hr
    · rename_i hex
      have hr := Option.some.inj hr
      subst hr
      simp only [Region.has, Bool.and_eq_true, decide_eq_true_eq] at hhas
      have h2 := hc cl hcl
      have h3 := hc ct hct
      exact ⟨cl, hcl, ⟨by omega, by omega⟩, ct, hct, ⟨by omega, by omega⟩, hex⟩
  · rintro ⟨cx, hcx, ⟨hx1, hx2⟩, cy, hcy, ⟨hy1, hy2⟩, hex⟩
    have h2 := hc cx hcx
    have h3 := hc cy hcy
    refine ⟨⟨cx - 2, cy - 2, 5, 5⟩, ⟨cy, hcy, cx, hcx, ?_⟩, ?_⟩
    · rw [if_neg hex]
    · simp only [Region.has, Bool.and_eq_true, decide_eq_true_eq]
      omega

/-! ### the other function patterns -/

/-- every branch of `regionOf` but the last names a function pattern, so "not `.data`" is the disjunction of the
    branch conditions -/
theorem ite_ne_data (c : Bool) (r e : QRRef.Region) (h : (r != .data) = true) :
    ((if c = true then r else e) != .data) = (c || (e != .data)) := by
  cases c
  · rfl
  · exact h

/-- finder patterns with separators, format information, dark module and timing lines: the reference's tests on a
    cell against the decoder's rectangles.  (`omega` needs ten times longer for the same equivalence with its two
    sides exchanged.) -/
theorem corner_timing (n x y : Nat) (hn : 21 ≤ n) (hx : x < n) (hy : y < n) :
    ((x < 7 && y < 7) || (x + 7 ≥ n && y < 7) || (x < 7 && y + 7 ≥ n) ||
      ((x < 8 && y < 8) || (x + 8 ≥ n && y < 8) || (x < 8 && y + 8 ≥ n)) ||
      (x == 8 && y + 8 == n) ||
      ((x ≤ 8 && y ≤ 8 && (x == 8 || y == 8) && x != 6 && y != 6) || (y == 8 && x + 8 ≥ n) || (x == 8 && y + 8 ≥ n)) ||
      (x == 6 || y == 6)) =
    (([⟨0, 0, 9, 9⟩, ⟨n - 8, 0, 8, 9⟩, ⟨0, n - 8, 9, 8⟩] : List Region).any (·.has x y) ||
      ([⟨6, 9, 1, n - 17⟩, ⟨9, 6, n - 17, 1⟩] : List Region).any (·.has x y)) := by
  rw [Bool.eq_iff_iff]
  simp only [List.any_cons, List.any_nil, Region.has, Bool.or_eq_true, Bool.and_eq_true, decide_eq_true_eq,
    beq_iff_eq, bne_iff_ne, ne_eq, Bool.or_false]
  omega

/-- the two version-information blocks -/
theorem version_rects (v n x y : Nat) (hn : 11 ≤ n) :
    (v ≥ 7 && ((x < 6 && y + 11 ≥ n && y + 9 ≤ n) || (y < 6 && x + 11 ≥ n && x + 9 ≤ n))) =
      (if v > 6 then [(⟨n - 11, 0, 3, 6⟩ : Region), ⟨0, n - 11, 6, 3⟩] else []).any (·.has x y) := by
  by_cases h : v > 6
  · rw [if_pos h, Bool.eq_iff_iff]
    simp only [List.any_cons, List.any_nil, Region.has, Bool.or_eq_true, Bool.and_eq_true, decide_eq_true_eq,
      Bool.or_false]
    omega
  · rw [if_neg h, decide_eq_false (by omega)]
    rfl

/-- The three groups of function patterns (corners with timing lines, version information, alignment) are
    compared separately and put together by reordering a disjunction: taken in one piece, the rectangles of one
    group multiply the case distinctions of the others. -/
theorem isFunction_eq_regs (v x y : Nat) (h1 : 1 ≤ v) (hx : x < 17 + 4 * v) (hy : y < 17 + 4 * v)
    (hc : ∀ c ∈ QRRef.alignCentres v, 2 ≤ c) :
    QRRef.isFunction v x y = (allRegs v).any (·.has x y) := by
  unfold QRRef.isFunction QRRef.regionOf QRRef.dimension allRegs
  simp only []
  repeat rw [ite_ne_data _ _ _ rfl]
  rw [List.any_append, List.any_append, List.any_append, refAlign_any v x y hc,
    Bool.or_right_comm _ (QRRef.inAlignment v x y), ← corner_timing _ x y (by omega) hx hy,
    ← version_rects v _ x y (by omega)]
  generalize QRRef.inAlignment v x y = A
  ac_rfl

theorem buildFunctionPattern_ref (vi : VersionInfo) (v : Nat) (h1 : 1 ≤ v) (h40 : v ≤ 40) (hn : vi.num = v)
    (hcs : vi.centers = QRRef.alignCentres v) :
    buildFunctionPattern vi = .ok { dim := 17 + 4 * v, bit := fun x y => (allRegs v).any (·.has x y) } := by
  obtain ⟨ha, hval, _⟩ := fpOK_of v h1 h40
  unfold buildFunctionPattern VersionInfo.dimension
  simp only [hn, hcs, ha]
  unfold allRegs at hval
  rw [hval]
  rfl

/-! ### the cell order -/

theorem reverse_range (n : Nat) : (List.range n).reverse = (List.range n).map (fun c => n - 1 - c) := by
  apply List.ext_getElem
  · simp
  · intro i h1 h2
    simp at h1
    simp [List.getElem_reverse]

theorem cells_column (n xr : Nat) (up : Bool) :
    (List.range n).flatMap (fun count =>
      let i := if up then n - 1 - count else count
      [(xr, i), (xr - 1, i)]) = QRRef.columnPair n xr up := by
  unfold QRRef.columnPair
  cases up
  · simp
  · simp only [if_true, reverse_range, List.flatMap_map]

/-- the column argument of `colPairs` at its `t`-th step: down by two from `n - 1`, and past the timing
    column (`6 ↦ 5`) through the odd columns 3, 1 -/
def walkCol (n t : Nat) : Nat := if n - 1 - 2 * t ≥ 6 then n - 1 - 2 * t else n - 2 - 2 * t

theorem colPairs_from (n : Nat) (hn : n % 2 = 1) : ∀ s t fuel up, 2 * (t + s) = n - 1 → s ≤ fuel →
    colPairs fuel (walkCol n t) up =
      (List.range s).map (fun i => (QRRef.pairColumn n (t + i), if i % 2 = 0 then up else !up))
  | 0, t, fuel, up, ht, _ => by
    have : walkCol n t = 0 := by unfold walkCol; split <;> omega
    rw [this]
    cases fuel <;> rfl
  | s + 1, t, fuel + 1, up, ht, hf => by
    have hpos : walkCol n t > 0 := by unfold walkCol; split <;> omega
    have hcol : (if walkCol n t = 6 then 5 else walkCol n t) = QRRef.pairColumn n t := by
      unfold walkCol QRRef.pairColumn; (repeat' split) <;> omega
    have hnext : QRRef.pairColumn n t - 2 = walkCol n (t + 1) := by
      unfold walkCol QRRef.pairColumn; (repeat' split) <;> omega
    rw [colPairs, if_pos hpos]
    simp only [hcol, hnext]
    rw [colPairs_from n hn s (t + 1) fuel (!up) (by omega) (by omega), List.range_succ_eq_map, List.map_cons,
      List.map_map]
    refine List.cons_eq_cons.mpr ⟨rfl, List.map_congr_left fun i _ => ?_⟩
    show (QRRef.pairColumn n (t + 1 + i), _) = (QRRef.pairColumn n (t + (i + 1)), _)
    rw [show t + 1 + i = t + (i + 1) by omega]
    congr 1
    rcases Nat.mod_two_eq_zero_or_one i with h | h <;> cases up <;> simp [h, Nat.add_mod]

theorem colPairs_eq (n : Nat) (hn : n % 2 = 1) (h7 : 7 ≤ n) :
    colPairs n (n - 1) true = (List.range ((n - 1) / 2)).map (fun k => (QRRef.pairColumn n k, k % 2 == 0)) := by
  have h := colPairs_from n hn ((n - 1) / 2) 0 n true (by omega) (Nat.le_trans (Nat.div_le_self _ _) (Nat.sub_le _ _))
  have h0 : walkCol n 0 = n - 1 := by unfold walkCol; split <;> omega
  rw [h0] at h
  rw [h]
  refine List.map_congr_left fun k _ => ?_
  rw [Nat.zero_add]
  congr 1

theorem zigzagCells_eq (n : Nat) (hn : n % 2 = 1) (h7 : 7 ≤ n) : zigzagCells n = QRRef.zigzagAll n := by
  unfold zigzagCells QRRef.zigzagAll
  rw [colPairs_eq n hn h7, List.flatMap_map]
  congr 1
  funext k
  exact cells_column _ _ _

/-- the data cells in the order `ReadCodewords` visits them -/
theorem data_cells_eq (v : Nat) (h1 : 1 ≤ v) (h40 : v ≤ 40) :
    (zigzagCells (17 + 4 * v)).filter
      (fun c => !(Matrix.getB { dim := 17 + 4 * v, bit := fun x y => (allRegs v).any (·.has x y) } c.1 c.2)) =
    QRRef.zigzag v := by
  obtain ⟨_, _, hc⟩ := fpOK_of v h1 h40
  rw [zigzagCells_eq (17 + 4 * v) (by omega) (by omega)]
  unfold QRRef.zigzag QRRef.dimension
  apply List.filter_congr
  intro c hcm
  obtain ⟨x, y⟩ := c
  have hm := (QRRef.mem_zigzagAll (n := 17 + 4 * v) (by omega) (by omega)).mp hcm
  simp only [Matrix.getB, hm.1, hm.2.1, and_self, if_true]
  rw [isFunction_eq_regs v x y h1 hm.1 hm.2.1 hc]

/-! ### the decoder's `QRDec.readDataBits` (not the reference's `QRRef.readDataBits` of Proofs/QRReadback.lean) -/

theorem readDataBits_eq (fp m : Matrix) : ∀ (cells : List (Nat × Nat)) (acc : List Bool),
    readDataBits fp m cells acc =
      .ok (acc.reverse ++ (cells.filter (fun c => !fp.getB c.1 c.2)).map (fun c => m.getB c.1 c.2)) := by
  intro cells
  induction cells with
  | nil => intro acc; simp [readDataBits]
  | cons c cs ih =>
    intro acc
    unfold readDataBits
    simp only [Matrix.get_eq, bind, Except.bind]
    cases hf : fp.getB c.1 c.2
    · simp only [Bool.false_eq_true, if_false]
      rw [ih]
      simp [hf]
    · simp only [if_true]
      rw [ih]
      simp [hf]

end Gzx.QRComp
