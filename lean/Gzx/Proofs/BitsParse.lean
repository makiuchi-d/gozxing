/-
  C16 helper lemmas on the tokeniser of ParseStringToBitMatrix (shared by both models): the shape of what it returns,
  and Parse ∘ ToString = id on the naive model.
-/
import Gzx.Model.Bits
import Gzx.Proofs.ListGrid
namespace Gzx.Bits
open Gzx

/-! ## shape of what the tokeniser returns -/

/-- invariant of the tokeniser state: completed rows all have `rowLength` cells -/
def PInv (st : ParseSt) : Prop :=
  st.bitsRev.length = st.bitsPos ∧ st.rowStartPos ≤ st.bitsPos ∧
  match st.rowLength with
  | none => st.rowStartPos = 0 ∧ st.nRows = 0
  | some rl => 1 ≤ rl ∧ st.rowStartPos = st.nRows * rl

theorem parseEndRow_inv (st st' : ParseSt) (h : PInv st) (he : parseEndRow st = .ok st') :
    PInv st' ∧ st'.rowStartPos = st'.bitsPos ∧ st'.bitsRev = st.bitsRev := by
  obtain ⟨h1, h2, h3⟩ := h
  unfold parseEndRow at he
  by_cases c : st.bitsPos > st.rowStartPos
  · rw [if_pos c] at he
    cases hrl : st.rowLength with
    | none =>
      rw [hrl] at he h3
      simp only [Except.ok.injEq] at he
      subst he
      refine ⟨⟨h1, Nat.le_refl _, ?_⟩, rfl, rfl⟩
      simp only
      obtain ⟨a, b⟩ := h3
      refine ⟨by omega, ?_⟩
      rw [b, a]; simp
    | some rl =>
      rw [hrl] at he h3
      simp only at he
      by_cases c2 : st.bitsPos - st.rowStartPos ≠ rl
      · rw [if_pos c2] at he; cases he
      · rw [if_neg c2] at he
        simp only [Except.ok.injEq] at he
        subst he
        refine ⟨⟨h1, Nat.le_refl _, ?_⟩, rfl, rfl⟩
        simp only
        obtain ⟨a, b⟩ := h3
        refine ⟨a, ?_⟩
        rw [Nat.add_mul, Nat.one_mul, ← b]; omega
  · rw [if_neg c] at he
    simp only [Except.ok.injEq] at he
    subst he
    exact ⟨⟨h1, h2, h3⟩, by omega, rfl⟩

theorem parseLoop_inv (set unset : List Nat) (total : Nat) : ∀ (fuel : Nat) (s : List Nat)
    (st st' : ParseSt), PInv st → parseLoop set unset total fuel s st = .ok st' → PInv st' := by
  intro fuel
  induction fuel with
  | zero => intro s st st' _ he; simp [parseLoop] at he
  | succ fuel ih =>
    intro s st st' h he
    cases s with
    | nil =>
      simp only [parseLoop, Except.ok.injEq] at he
      rw [← he]; exact h
    | cons c rest =>
      unfold parseLoop at he
      by_cases c1 : c = 10 ∨ c = 13
      · rw [if_pos c1] at he
        cases hend : parseEndRow st with
        | error e => rw [hend] at he; cases he
        | ok st1 =>
          rw [hend] at he
          exact ih rest st1 st' (parseEndRow_inv st st1 h hend).1 he
      · rw [if_neg c1] at he
        have hcell : ∀ b, PInv { st with bitsRev := b :: st.bitsRev, bitsPos := st.bitsPos + 1 } := by
          intro b
          obtain ⟨h1, h2, h3⟩ := h
          exact ⟨by simp [h1], by simp; omega, h3⟩
        by_cases c2 : set.isPrefixOf (c :: rest) = true
        · rw [if_pos c2] at he
          by_cases c3 : st.bitsPos ≥ total
          · rw [if_pos c3] at he; cases he
          · rw [if_neg c3] at he
            exact ih _ _ st' (hcell true) he
        · rw [if_neg c2] at he
          by_cases c4 : unset.isPrefixOf (c :: rest) = true
          · rw [if_pos c4] at he
            by_cases c3 : st.bitsPos ≥ total
            · rw [if_pos c3] at he; cases he
            · rw [if_neg c3] at he
              exact ih _ _ st' (hcell false) he
          · rw [if_neg c4] at he; cases he

/-- what `parseGrid` returns: at least one row and one column, exactly `nRows * rowLength` cells -/
theorem parseGrid_shape (s set unset : List Nat) (rl n : Nat) (bits : List Bool)
    (h : parseGrid s set unset = .ok (rl, n, bits)) : 1 ≤ rl ∧ 1 ≤ n ∧ bits.length = n * rl := by
  unfold parseGrid at h
  by_cases c : s.isEmpty = true
  · rw [if_pos c] at h; cases h
  · rw [if_neg c] at h
    cases hl : parseLoop set unset s.length (2 * s.length + 2) s ⟨[], 0, 0, none, 0⟩ with
    | error e => rw [hl] at h; cases h
    | ok st =>
      rw [hl] at h
      simp only at h
      have hinv0 : PInv ⟨[], 0, 0, none, 0⟩ := ⟨rfl, Nat.le_refl _, rfl, rfl⟩
      have hinv := parseLoop_inv set unset s.length _ s _ st hinv0 hl
      cases hend : parseEndRow st with
      | error e => rw [hend] at h; cases h
      | ok st' =>
        rw [hend] at h
        simp only at h
        obtain ⟨⟨i1, i2, i3⟩, i4, i5⟩ := parseEndRow_inv st st' hinv hend
        cases hrl : st'.rowLength with
        | none => rw [hrl] at h; cases h
        | some rl' =>
          rw [hrl] at h i3
          simp only at h
          by_cases c2 : rl' < 1 ∨ st'.nRows < 1
          · rw [if_pos c2] at h; cases h
          · rw [if_neg c2] at h
            simp only [Except.ok.injEq, Prod.mk.injEq] at h
            obtain ⟨e1, e2, e3⟩ := h
            subst e1 e2 e3
            refine ⟨by omega, by omega, ?_⟩
            rw [List.length_reverse, i1, ← i4, i3.2]

/-! ## Parse ∘ ToString -/

/-- the text of one cell -/
def tok (set unset : List Nat) (b : Bool) : List Nat := if b then set else unset

/-- token strings that can be told apart by their first byte and are not line breaks -/
def GoodToks (set unset : List Nat) : Prop :=
  ∃ c d set' unset', set = c :: set' ∧ unset = d :: unset' ∧ c ≠ d ∧
    (c ≠ 10 ∧ c ≠ 13) ∧ (d ≠ 10 ∧ d ≠ 13)

theorem isPrefixOf_self_append (p rest : List Nat) : p.isPrefixOf (p ++ rest) = true := by
  induction p with
  | nil => simp [List.isPrefixOf]
  | cons a p ih => simp [ih]

theorem parseLoop_cell (set unset : List Nat) (g : GoodToks set unset) (total fuel : Nat)
    (b : Bool) (rest : List Nat) (st : ParseSt) (hcap : st.bitsPos < total) :
    parseLoop set unset total (fuel + 1) (tok set unset b ++ rest) st =
      parseLoop set unset total fuel rest
        { st with bitsRev := b :: st.bitsRev, bitsPos := st.bitsPos + 1 } := by
  obtain ⟨c, d, set', unset', hset, hunset, hcd, hc, hd⟩ := g
  cases b with
  | true =>
    have ht : tok set unset true ++ rest = c :: (set' ++ rest) := by simp [tok, hset]
    rw [ht]
    conv => lhs; unfold parseLoop
    rw [if_neg (by omega)]
    have hp : set.isPrefixOf (c :: (set' ++ rest)) = true := by
      rw [← ht]; exact isPrefixOf_self_append set rest
    rw [if_pos hp, if_neg (by omega)]
    have hd' : (c :: (set' ++ rest)).drop set.length = rest := by
      rw [← ht]; simp [tok]
    rw [hd']
  | false =>
    have ht : tok set unset false ++ rest = d :: (unset' ++ rest) := by simp [tok, hunset]
    rw [ht]
    conv => lhs; unfold parseLoop
    rw [if_neg (by omega)]
    have hp1 : set.isPrefixOf (d :: (unset' ++ rest)) = false := by
      rw [hset]; simp [List.isPrefixOf, hcd]
    have hp2 : unset.isPrefixOf (d :: (unset' ++ rest)) = true := by
      rw [← ht]; exact isPrefixOf_self_append unset rest
    rw [if_neg (by simp [hp1]), if_pos hp2, if_neg (by omega)]
    have hd' : (d :: (unset' ++ rest)).drop unset.length = rest := by
      rw [← ht]; simp [tok]
    rw [hd']

theorem tok_length_pos (set unset : List Nat) (g : GoodToks set unset) (b : Bool) :
    1 ≤ (tok set unset b).length := by
  obtain ⟨c, d, set', unset', hset, hunset, _, _, _⟩ := g
  cases b <;> simp [tok, hset, hunset]

theorem flatMap_tok_length (set unset : List Nat) (g : GoodToks set unset) (r : List Bool) :
    r.length ≤ (r.flatMap (tok set unset)).length := by
  induction r with
  | nil => simp
  | cons b r ih =>
    have := tok_length_pos set unset g b
    simp only [List.flatMap_cons, List.length_append, List.length_cons]; omega

theorem parseLoop_row (set unset : List Nat) (g : GoodToks set unset) (total : Nat) (r : List Bool) :
    ∀ (fuel : Nat) (rest : List Nat) (st : ParseSt),
    fuel ≥ (r.flatMap (tok set unset) ++ rest).length + 1 →
    st.bitsPos + (r.flatMap (tok set unset) ++ rest).length ≤ total →
    ∃ fuel', fuel' ≥ rest.length + 1 ∧
      parseLoop set unset total fuel (r.flatMap (tok set unset) ++ rest) st =
        parseLoop set unset total fuel' rest
          { st with bitsRev := r.reverse ++ st.bitsRev, bitsPos := st.bitsPos + r.length } := by
  induction r with
  | nil =>
    intro fuel rest st hf _
    exact ⟨fuel, by simpa using hf, by simp⟩
  | cons b r ih =>
    intro fuel rest st hf hcap
    have hpos := tok_length_pos set unset g b
    simp only [List.flatMap_cons, List.append_assoc, List.length_append] at hf hcap ⊢
    cases fuel with
    | zero => omega
    | succ fuel =>
      rw [parseLoop_cell set unset g total fuel b _ st (by omega)]
      obtain ⟨fuel', h1, h2⟩ := ih fuel rest
        { st with bitsRev := b :: st.bitsRev, bitsPos := st.bitsPos + 1 }
        (by simp only [List.length_append]; omega) (by simp only [List.length_append]; omega)
      refine ⟨fuel', h1, ?_⟩
      rw [h2]
      congr 1
      simp only [List.reverse_cons, List.append_assoc, List.singleton_append, List.length_cons]
      congr 1; omega

/-- text of a row: its cells and a line feed -/
def rowText (set unset : List Nat) (r : List Bool) : List Nat := r.flatMap (tok set unset) ++ [10]

theorem toStr_eq (m : SMat) (set unset : List Nat) :
    m.toStr set unset [10] = m.rows.flatMap (rowText set unset) := rfl

theorem parseLoop_rows (set unset : List Nat) (g : GoodToks set unset) (total w : Nat) (hw : 1 ≤ w)
    (rs : List (List Bool)) : (∀ r ∈ rs, r.length = w) →
    ∀ (fuel : Nat) (st : ParseSt),
    fuel ≥ (rs.flatMap (rowText set unset)).length + 1 →
    st.bitsPos + (rs.flatMap (rowText set unset)).length ≤ total →
    st.rowStartPos = st.bitsPos → (st.rowLength = none ∨ st.rowLength = some w) →
    ∃ st', parseLoop set unset total fuel (rs.flatMap (rowText set unset)) st = .ok st' ∧
      st'.bitsRev = rs.flatten.reverse ++ st.bitsRev ∧
      st'.bitsPos = st.bitsPos + rs.flatten.length ∧
      st'.rowStartPos = st'.bitsPos ∧
      st'.rowLength = (if rs = [] then st.rowLength else some w) ∧
      st'.nRows = st.nRows + rs.length := by
  induction rs with
  | nil =>
    intro _ fuel st hf _ _ _
    cases fuel with
    | zero => simp at hf
    | succ fuel =>
      refine ⟨st, ?_, by simp, by simp, by assumption, by simp, by simp⟩
      simp [parseLoop]
  | cons r rs ih =>
    intro hlen fuel st hf hcap hstart hrl
    have hrw : r.length = w := hlen r (by simp)
    simp only [List.flatMap_cons, rowText, List.append_assoc, List.length_append] at hf hcap ⊢
    obtain ⟨fuel1, h1, h2⟩ := parseLoop_row set unset g total r fuel
      ([10] ++ rs.flatMap (rowText set unset)) st
      (by simp only [List.length_append]; omega) (by simp only [List.length_append]; omega)
    rw [h2]
    -- the line feed
    simp only [List.length_append, List.length_cons, List.length_nil] at h1
    cases fuel1 with
    | zero => omega
    | succ fuel1 =>
      simp only [List.singleton_append]
      unfold parseLoop
      rw [if_pos (Or.inl rfl)]
      obtain ⟨st1, hst1'⟩ : ∃ st1 : ParseSt, st1 =
          { st with bitsRev := r.reverse ++ st.bitsRev, bitsPos := st.bitsPos + r.length } := ⟨_, rfl⟩
      have hst1 := hst1'.symm
      rw [hst1]
      have hb1 : st1.bitsPos = st.bitsPos + w := by rw [← hst1, hrw]
      have hs1 : st1.rowStartPos = st.bitsPos := by rw [← hst1]; exact hstart
      have hl1 : st1.rowLength = st.rowLength := by rw [← hst1]
      have hn1 : st1.nRows = st.nRows := by rw [← hst1]
      have hr1 : st1.bitsRev = r.reverse ++ st.bitsRev := by rw [← hst1]
      have hend : ∃ st2, parseEndRow st1 = .ok st2 ∧ st2.bitsRev = st1.bitsRev ∧
          st2.bitsPos = st1.bitsPos ∧ st2.rowStartPos = st1.bitsPos ∧ st2.rowLength = some w ∧
          st2.nRows = st1.nRows + 1 := by
        unfold parseEndRow
        rw [if_pos (by omega)]
        rcases hrl with hn | hs
        · rw [hl1, hn]
          refine ⟨_, rfl, rfl, rfl, rfl, ?_, rfl⟩
          simp only; congr 1; omega
        · rw [hl1, hs]
          simp only
          rw [if_neg (by omega)]
          exact ⟨_, rfl, rfl, rfl, rfl, hs ▸ rfl, rfl⟩
      obtain ⟨st2, e1, e2, e3, e4, e5, e6⟩ := hend
      rw [e1]
      simp only
      obtain ⟨st', k1, k2, k3, k4, k5, k6⟩ := ih (fun r' hr' => hlen r' (by simp [hr'])) fuel1 st2
        (by omega) (by
          have := flatMap_tok_length set unset g r
          rw [e3, hb1]
          simp only [List.length_cons, List.length_nil] at hcap
          omega)
        (by rw [e4, e3]) (Or.inr e5)
      refine ⟨st', k1, ?_, ?_, k4, ?_, ?_⟩
      · rw [k2, e2, hr1]; simp
      · rw [k3, e3, hb1]; simp [hrw]; omega
      · rw [k5]; split <;> simp [e5]
      · rw [k6, e6, hn1]; simp; omega

theorem chunks_flatten (w : Nat) (rows : List (List Bool)) (hl : ∀ r ∈ rows, r.length = w) :
    (List.range rows.length).map (fun y => (rows.flatten.drop (y * w)).take w) = rows := by
  induction rows with
  | nil => rfl
  | cons r rows ih =>
    have hr : r.length = w := hl r (by simp)
    have ih' := ih (fun r' hr' => hl r' (by simp [hr']))
    rw [List.length_cons, List.range_succ_eq_map, List.map_cons, List.map_map]
    congr 1
    · simp [hr]
    · conv => rhs; rw [← ih']
      apply List.map_congr_left
      intro y _
      simp only [Function.comp, List.flatten_cons, Nat.succ_eq_add_one]
      have e : (y + 1) * w = r.length + y * w := by rw [Nat.add_mul, Nat.one_mul, hr]; omega
      rw [e, ← List.drop_drop, List.drop_left]

theorem flatten_length (w : Nat) (rows : List (List Bool)) (hl : ∀ r ∈ rows, r.length = w) :
    rows.flatten.length = rows.length * w := by
  rw [flatten_length_const rows w hl, Nat.mul_comm]

/-- `ParseStringToBitMatrix(ToString(m)) = m` on the naive model -/
theorem parse_toStr (m : SMat) (hm : m.WF) (hw : 1 ≤ m.width) (hh : 1 ≤ m.height)
    (set unset : List Nat) (g : GoodToks set unset) :
    SMat.parse (m.toStr set unset [10]) set unset = .ok m := by
  obtain ⟨mw, mh, rows⟩ := m
  obtain ⟨hrl, hrw⟩ := hm
  simp only at hrl hrw hw hh
  have hne : rows ≠ [] := by intro e; rw [e] at hrl; simp at hrl; omega
  unfold SMat.parse parseGrid
  rw [toStr_eq]
  simp only
  generalize hs : rows.flatMap (rowText set unset) = s
  have hsne : s.isEmpty = false := by
    cases rows with
    | nil => exact absurd rfl hne
    | cons r rs =>
      rw [← hs]
      simp [rowText]
  rw [hsne]
  simp only [Bool.false_eq_true, if_false]
  obtain ⟨st', k1, k2, k3, k4, k5, k6⟩ := parseLoop_rows set unset g s.length mw hw rows hrw
    (2 * s.length + 2) ⟨[], 0, 0, none, 0⟩ (by rw [hs]; omega) (by rw [hs]; simp) rfl (Or.inl rfl)
  rw [hs] at k1
  rw [k1]
  simp only
  have hend : parseEndRow st' = .ok st' := by
    unfold parseEndRow; rw [if_neg (by omega)]
  rw [hend]
  simp only
  rw [k5, if_neg hne]
  simp only
  have hn : st'.nRows = mh := by rw [k6]; simp [hrl]
  rw [if_neg (by omega)]
  simp only [Except.ok.injEq, SMat.mk.injEq]
  refine ⟨trivial, hn, ?_⟩
  rw [k2, hn, ← hrl]
  simp only [List.append_nil, List.reverse_reverse]
  exact chunks_flatten mw rows hrw

end Gzx.Bits
