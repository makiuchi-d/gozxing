/-
  C16 helper lemmas: refinement of the BitArray operations that touch one word (Get / Set / Flip / SetBulk /
  Clear / AppendBit).  `pointwise` turns a bit-by-bit description of new words for the same size into invariant +
  abstraction.
-/
import Gzx.Proofs.Bits
namespace Gzx.Bits
open Gzx

/-! ## the naive updates as index-wise maps -/

theorem modify_eq_mapIdx (s : List Bool) (i : Nat) (c : Bool → Bool) :
    s.modify i c = s.mapIdx (fun g b => if g = i then c b else b) := by
  apply List.ext_getElem?
  intro g
  rw [List.getElem?_modify, List.getElem?_mapIdx]
  cases s[g]? with
  | none => rfl
  | some b => by_cases e : i = g <;> simp [e, eq_comm]

theorem set_eq_mapIdx (s : List Bool) (i : Nat) (v : Bool) :
    s.set i v = s.mapIdx (fun g b => if g = i then v else b) := by
  rw [← modify_eq_mapIdx s i (fun _ => v)]
  apply List.ext_getElem?
  intro g
  rw [List.getElem?_modify, List.getElem?_set]
  by_cases e : i = g
  · subst e
    by_cases hl : i < s.length <;> simp [hl]
  · cases s[g]? <;> simp [e]

theorem invA_zero {k n : Nat} (h : n ≤ (k + 31) / 32 * 32) : InvA ⟨makeArray k, n⟩ :=
  ⟨by simpa [makeArray] using h, fun w hw => by rw [(List.mem_replicate.mp hw).2]; decide,
    fun _ _ => bitAt_zeros _ _⟩

namespace WArr

/-- `Get` reads the stream bit whenever the word exists (also beyond `size`) -/
theorem get_eq_bitAt (a : WArr) (i : Nat) (hk : i / 32 < a.words.length) :
    a.get i = .ok (bitAt a.words i) := by
  unfold WArr.get
  rw [wordAt_ok _ _ hk]
  simp only [bind, Except.bind, pure, Except.pure]
  rw [Nat.one_shiftLeft, and_two_pow_ne_zero, bitAt_getElem _ _ hk]

theorem get_refines (a : WArr) (i : Nat) (h : InvA a) (hi : i < a.size) :
    a.get i = .ok (SArr.get (absA a) i) := by
  rw [get_eq_bitAt a i (h.idx hi), SArr.get, absA_getD h]

theorem pointwise {a : WArr} (h : InvA a) {ws' : List Nat} (hl : ws'.length = a.words.length)
    (hlt : ∀ w ∈ ws', w < W32) (F : Nat → Bool → Bool) (hF : ∀ g, a.size ≤ g → F g false = false)
    (hb : ∀ g, bitAt ws' g = F g (bitAt a.words g)) :
    InvA ⟨ws', a.size⟩ ∧ absA ⟨ws', a.size⟩ = (absA a).mapIdx F := by
  refine ⟨⟨by rw [hl]; exact h.1, hlt, fun g hg => ?_⟩,
    absA_eq_of _ _ (by rw [List.length_mapIdx, absA_length]) fun g hg => ?_⟩
  · rw [hb, h.pad g hg]; exact hF g hg
  · rw [List.getElem?_mapIdx, absA_getElem?, if_pos hg, hb]; rfl

/-- common part of Set / Flip: the word update rewrites bit `i` of the array by `c` -/
theorem bitUpdate {a : WArr} (h : InvA a) {i : Nat} (hi : i < a.size) {f : Nat → Nat} {c : Bool → Bool}
    (hop : BitOp (i % 32) f c) :
    ∃ ws', updWord a.words (i / 32) f = .ok ws' ∧ InvA ⟨ws', a.size⟩ ∧
      absA ⟨ws', a.size⟩ = (absA a).mapIdx (fun g b => if g = i then c b else b) := by
  have hk := h.idx hi
  refine ⟨_, updWord_ok _ _ _ hk, pointwise h (List.length_set ..)
    (words_lt_set h.words_lt (hop.lt (h.words_lt _ (List.getElem_mem hk)))) _
    (fun g hg => if_neg (by omega)) fun g => ?_⟩
  rw [hop.bitAt_set (Nat.mod_lt _ (by decide)) hk, Nat.div_add_mod']

theorem set_refines (a : WArr) (i : Nat) (h : InvA a) (hi : i < a.size) :
    RefinesA (a.set i) (SArr.set (absA a) i) := by
  obtain ⟨ws', h1, h2, h3⟩ := bitUpdate h hi (bitOp_or (Nat.mod_lt _ (by decide)))
  unfold WArr.set
  rw [h1]
  exact ⟨_, rfl, h2, by rw [h3, SArr.set, set_eq_mapIdx]⟩

theorem flip_refines (a : WArr) (i : Nat) (h : InvA a) (hi : i < a.size) :
    RefinesA (a.flip i) (SArr.flip (absA a) i) := by
  obtain ⟨ws', h1, h2, h3⟩ := bitUpdate h hi (bitOp_xor (Nat.mod_lt _ (by decide)))
  unfold WArr.flip
  rw [h1]
  exact ⟨_, rfl, h2, by rw [h3, SArr.flip, modify_eq_mapIdx]⟩

theorem clear_refines (a : WArr) (h : InvA a) :
    InvA a.clear ∧ absA a.clear = SArr.clear (absA a) := by
  have := pointwise h (List.length_map ..)
    (fun w hw => by obtain ⟨_, _, rfl⟩ := List.mem_map.mp hw; decide) (fun _ _ => false)
    (fun _ _ => rfl) (bitAt_map_zero a.words)
  refine ⟨this.1, this.2.trans (List.ext_getElem? fun g => ?_)⟩
  rw [List.getElem?_mapIdx, SArr.clear, List.getElem?_replicate]
  split
  · rw [List.getElem?_eq_getElem (by assumption)]; rfl
  · rw [List.getElem?_eq_none (by omega)]; rfl

/-- `SetBulk(i, v)`: in range means `i < size`, `v` is a 32-bit value without bits beyond `size` -/
theorem setBulk_refines (a : WArr) (i v : Nat) (h : InvA a) (hi : i < a.size) (hv : v < W32)
    (hpad : ∀ j, j < 32 → a.size ≤ i / 32 * 32 + j → v.testBit j = false) :
    RefinesA (a.setBulk i v) (SArr.setBulk (absA a) i v) := by
  have hk := h.idx hi
  unfold WArr.setBulk
  rw [setWord_ok _ _ _ hk]
  exact ⟨_, rfl, pointwise h (List.length_set ..) (words_lt_set h.words_lt hv) _
    (fun g hg => by
      split
      · exact hpad _ (Nat.mod_lt _ (by decide)) (by omega)
      · rfl)
    (fun g => bitAt_set _ _ _ _ hk)⟩

theorem ensureCapacity_words (a : WArr) (n : Nat) :
    ∃ k, (ensureCapacity a n).words = a.words ++ List.replicate k 0 ∧
      n ≤ (a.words.length + k) * 32 := by
  unfold ensureCapacity
  by_cases hgt : n > a.words.length * 32
  · rw [if_pos hgt]
    refine ⟨(n + 31) / 32 - a.words.length, ?_, by omega⟩
    simp only [copyInto, makeArray, List.length_replicate, List.drop_replicate]
    rw [List.take_of_length_le (by omega)]
  · rw [if_neg hgt]; exact ⟨0, by simp, by omega⟩

theorem ensureCapacity_size (a : WArr) (n : Nat) : (ensureCapacity a n).size = a.size := by
  unfold ensureCapacity; split <;> rfl

theorem ensureCapacity_inv (a : WArr) (n : Nat) (h : InvA a) :
    InvA (ensureCapacity a n) ∧ n ≤ (ensureCapacity a n).words.length * 32 ∧
    (∀ g, bitAt (ensureCapacity a n).words g = bitAt a.words g) := by
  obtain ⟨k, hw, hn⟩ := ensureCapacity_words a n
  have hb : ∀ g, bitAt (ensureCapacity a n).words g = bitAt a.words g := by
    intro g; rw [hw, bitAt_append_zeros]
  refine ⟨⟨?_, ?_, ?_⟩, ?_, hb⟩
  · rw [ensureCapacity_size, hw]; have := h.1; simp; omega
  · intro w hmem
    rw [hw] at hmem
    rcases List.mem_append.mp hmem with h1 | h1
    · exact h.words_lt w h1
    · rw [(List.mem_replicate.mp h1).2]; decide
  · intro g hg; rw [hb]; rw [ensureCapacity_size] at hg; exact h.pad g hg
  · rw [hw]; simpa using hn

theorem ensureCapacity_of_le (a : WArr) (n : Nat) (h : n ≤ a.words.length * 32) : ensureCapacity a n = a := by
  unfold ensureCapacity; rw [if_neg (by omega)]

theorem absA_ensureCapacity (a : WArr) (n : Nat) (h : InvA a) : absA (ensureCapacity a n) = absA a := by
  have hsz := ensureCapacity_size a n
  apply absA_eq_of
  · rw [absA_length, hsz]
  · intro i hi
    rw [hsz] at hi
    rw [absA_getElem?, if_pos hi, (ensureCapacity_inv a n h).2.2]

theorem appendBit_words_length {a a' : WArr} {bit : Bool} (h : a.appendBit bit = .ok a') :
    a'.words.length = (ensureCapacity a (a.size + 1)).words.length := by
  unfold WArr.appendBit at h
  cases bit with
  | false =>
    simp only [Bool.false_eq_true, if_false] at h
    injection h with h; rw [← h]
  | true =>
    simp only [if_true] at h
    split at h
    · rename_i ws heq
      injection h with h; rw [← h]; exact updWord_length heq
    · cases h

theorem appendBit_refines (a : WArr) (bit : Bool) (h : InvA a) :
    RefinesA (a.appendBit bit) (SArr.appendBit (absA a) bit) := by
  obtain ⟨h1, hcap, hb1⟩ := ensureCapacity_inv a (a.size + 1) h
  have hsz := ensureCapacity_size a (a.size + 1)
  unfold WArr.appendBit
  generalize ensureCapacity a (a.size + 1) = a1 at *
  have hk : a1.size / 32 < a1.words.length := by omega
  have hb : a1.size % 32 < 32 := Nat.mod_lt _ (by decide)
  -- whichever branch is taken, the new words hold `bit` at position `size` and the old bits elsewhere
  have hspec : ∀ (ws : List Nat), (∀ g, bitAt ws g = if g = a1.size then bit else bitAt a1.words g) →
      ws.length = a1.words.length → (∀ w ∈ ws, w < W32) →
      InvA ⟨ws, a1.size + 1⟩ ∧ absA ⟨ws, a1.size + 1⟩ = SArr.appendBit (absA a) bit := by
    intro ws hws hlen hlt
    refine ⟨⟨by show a1.size + 1 ≤ ws.length * 32; omega, hlt, fun g hg => ?_⟩,
      absA_eq_of _ _ (by simp [SArr.appendBit, absA_length]; omega) fun g hg => ?_⟩
    · have hg' : a1.size + 1 ≤ g := hg
      rw [hws, if_neg (by omega), h1.pad g (by omega)]
    · have hg' : g < a1.size + 1 := hg
      show _ = some (bitAt ws g)
      rw [hws, SArr.appendBit, List.getElem?_append, absA_length, absA_getElem?]
      by_cases e : g < a.size
      · rw [if_pos e, if_pos e, if_neg (by omega), hb1]
      · rw [if_neg e, if_pos (by omega), show g - a.size = 0 by omega]; rfl
  cases bit with
  | true =>
    simp only [if_true]
    rw [updWord_ok _ _ _ hk]
    refine ⟨_, rfl, hspec _ (fun g => ?_) (List.length_set ..)
      (words_lt_set h1.words_lt ((bitOp_or hb).lt (h1.words_lt _ (List.getElem_mem hk))))⟩
    rw [(bitOp_or hb).bitAt_set hb hk, Nat.div_add_mod']
  | false =>
    simp only [Bool.false_eq_true, if_false]
    refine ⟨_, rfl, hspec _ (fun g => ?_) rfl h1.words_lt⟩
    split
    · rename_i e; rw [e]; exact h1.pad _ (Nat.le_refl _)
    · rfl

end WArr

end Gzx.Bits
