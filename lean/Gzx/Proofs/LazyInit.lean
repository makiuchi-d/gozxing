/-
  Non-interference of the machine with first-use initialisation (Model/LazyInit.lean) under `LazySafe`.
  Invariant: as in Proofs/Interference.lean (private stores and owned cells are functions of the program counters,
  init-only shared state is unchanged) plus: initialised groups hold their values, and the flag of group `k` is set
  once some goroutine has passed a `once k`.
-/
import Gzx.Model.LazyInit
import Gzx.Proofs.Interference
namespace Gzx.LazyInit
open Gzx.Interference

/-! ### initGroup -/

/-- the layout of the lazy state is well formed: groups have distinct flags, and a flag is not a cell
    (the first two clauses of `LazySafe`, which is all the lemmas on `initGroup` need) -/
structure WF (L : Lazy) : Prop where
  flagInj : ∀ k k', L.flagOf k = L.flagOf k' → k = k'
  flagNotCell : ∀ k, L.cell (L.flagOf k) = none

theorem initGroup_flag_self (L : Lazy) (k : Nat) (G : GStore) : initGroup L k G (L.flagOf k) ≠ 0 := by
  unfold initGroup
  split
  · simp
  · assumption

theorem initGroup_nonlazy (L : Lazy) (k : Nat) (G : GStore) (loc : Loc) (h : ¬ L.IsLazy loc) :
    initGroup L k G loc = G loc := by
  unfold initGroup
  split
  · have h1 : loc ≠ L.flagOf k := fun e => h (Or.inl ⟨k, e⟩)
    have h2 : L.cell loc = none := by
      cases hc : L.cell loc with
      | none => rfl
      | some x => exact absurd (Or.inr (by simp [hc])) h
    simp [h1, h2]
  · rfl

theorem initGroup_flag_other (L : Lazy) (hw : WF L) (k k' : Nat) (G : GStore) (hne : k' ≠ k) :
    initGroup L k G (L.flagOf k') = G (L.flagOf k') := by
  unfold initGroup
  split
  · have h1 : L.flagOf k' ≠ L.flagOf k := fun e => hne (hw.flagInj _ _ e)
    simp [h1, hw.flagNotCell k']
  · rfl

theorem initGroup_flag_mono (L : Lazy) (hw : WF L) (k k' : Nat) (G : GStore) (h : G (L.flagOf k') ≠ 0) :
    initGroup L k G (L.flagOf k') ≠ 0 := by
  by_cases e : k' = k
  · subst e; exact initGroup_flag_self L k' G
  · rw [initGroup_flag_other L hw k k' G e]; exact h

theorem initGroup_consistent (L : Lazy) (hw : WF L) (k : Nat) (G : GStore) (hc : Consistent L G) :
    Consistent L (initGroup L k G) := by
  intro loc k' v hcell hflag
  by_cases e : k' = k
  · subst e
    by_cases h0 : G (L.flagOf k') = 0
    · have hne : loc ≠ L.flagOf k' := by
        intro e'; rw [e', hw.flagNotCell k'] at hcell; cases hcell
      simp [initGroup, h0, hne, hcell]
    · have : initGroup L k' G = G := by simp [initGroup, h0]
      rw [this]; exact hc loc k' v hcell h0
  · rw [initGroup_flag_other L hw k k' G e] at hflag
    have := hc loc k' v hcell hflag
    unfold initGroup
    split
    · have hne : loc ≠ L.flagOf k := by
        intro e'; rw [e', hw.flagNotCell k] at hcell; cases hcell
      simp [hne, hcell, e, this]
    · exact this

/-! ### one step on the global store -/

def NoLazyWrite (L : Lazy) (s : LStep) : Prop := ∀ loc, s.writes loc → ¬ L.IsLazy loc

theorem lexec_frame (L : Lazy) (s : LStep) (st : PStore × GStore) (loc : Loc)
    (h : ¬ s.writes loc) (hl : ¬ L.IsLazy loc) : (lexec L s st).2 loc = st.2 loc := by
  obtain ⟨p, G⟩ := st
  cases s with
  | read r l => rfl
  | write gd l e =>
    have : loc ≠ l := fun e' => h (by simp [LStep.writes, e'])
    simp only [lexec]
    split
    · simp [upd, this]
    · rfl
  | localStep f => rfl
  | once k => exact initGroup_nonlazy L k G loc hl

theorem lexec_frame_lazy (L : Lazy) (s : LStep) (p : PStore) (G : GStore) (hs : NoLazyWrite L s)
    (loc : Loc) (hl : L.IsLazy loc) (hno : ∀ k, s ≠ .once k) : (lexec L s (p, G)).2 loc = G loc := by
  cases s with
  | read r l => rfl
  | write gd l e =>
    have : loc ≠ l := fun e' => hs loc (by simp [LStep.writes, e']) hl
    simp only [lexec]
    split
    · simp [upd, this]
    · rfl
  | localStep f => rfl
  | once k => exact absurd rfl (hno k)

theorem lexec_consistent (L : Lazy) (hw : WF L) (s : LStep) (p : PStore) (G : GStore) (hs : NoLazyWrite L s)
    (hc : Consistent L G) : Consistent L (lexec L s (p, G)).2 := by
  cases s with
  | once k => exact initGroup_consistent L hw k G hc
  | read r l => exact hc
  | localStep f => exact hc
  | write gd l e =>
    intro loc k v hcell hflag
    have e1 := lexec_frame_lazy L (.write gd l e) p G hs loc (Or.inr (by simp [hcell])) (fun k => by simp)
    have e2 := lexec_frame_lazy L (.write gd l e) p G hs (L.flagOf k) (Or.inl ⟨k, rfl⟩) (fun k => by simp)
    rw [e1]; rw [e2] at hflag; exact hc loc k v hcell hflag

theorem lexec_flag_mono (L : Lazy) (hw : WF L) (s : LStep) (p : PStore) (G : GStore) (hs : NoLazyWrite L s)
    (k : Nat) (h : G (L.flagOf k) ≠ 0) : (lexec L s (p, G)).2 (L.flagOf k) ≠ 0 := by
  cases s with
  | once k' => exact initGroup_flag_mono L hw k' k G h
  | read r l => exact h
  | localStep f => exact h
  | write gd l e =>
    rw [lexec_frame_lazy L (.write gd l e) p G hs (L.flagOf k) (Or.inl ⟨k, rfl⟩) (fun k => by simp)]; exact h

theorem lexec_loc_congr (L : Lazy) (s : LStep) (p : PStore) (G G' : GStore) (loc : Loc)
    (hl : ¬ L.IsLazy loc) (h : G loc = G' loc) : (lexec L s (p, G)).2 loc = (lexec L s (p, G')).2 loc := by
  cases s with
  | read r l => exact h
  | localStep f => exact h
  | once k => simp only [lexec]; rw [initGroup_nonlazy L k G loc hl, initGroup_nonlazy L k G' loc hl]; exact h
  | write gd l e =>
    simp only [lexec]
    split
    · by_cases e' : loc = l
      · subst e'; simp [upd]
      · simp [upd, e', h]
    · exact h

/-! ### solo runs -/

theorem lalone_succ (L : Lazy) (prog : List LStep) (p0 : PStore) (G0 : GStore) (k : Nat) (s : LStep)
    (h : prog[k]? = some s) : lalone L prog p0 G0 (k + 1) = lexec L s (lalone L prog p0 G0 k) := by
  unfold lalone
  rw [List.take_add_one, h]
  simp [List.foldl_append]

theorem lalone_stop (L : Lazy) (prog : List LStep) (p0 : PStore) (G0 : GStore) (k : Nat)
    (h : prog[k]? = none) : lalone L prog p0 G0 (k + 1) = lalone L prog p0 G0 k := by
  have hlen : prog.length ≤ k := by
    rcases Nat.lt_or_ge k prog.length with hlt | hge
    · rw [List.getElem?_eq_getElem hlt] at h; cases h
    · exact hge
  unfold lalone
  rw [List.take_of_length_le (by omega), List.take_of_length_le hlen]

theorem lalone_frame (L : Lazy) (prog : List LStep) (p0 : PStore) (G0 : GStore) (loc : Loc)
    (h : ∀ s, s ∈ prog → ¬ s.writes loc) (hl : ¬ L.IsLazy loc) (k : Nat) :
    (lalone L prog p0 G0 k).2 loc = G0 loc :=
  foldl_take_inv _ (fun st => st.2 loc = G0 loc) prog (p0, G0) k rfl
    fun st s hs hst => by rw [lexec_frame L s st loc (h s hs) hl]; exact hst

theorem lalone_consistent (L : Lazy) (hw : WF L) (prog : List LStep) (p0 : PStore) (G0 : GStore)
    (h : ∀ s, s ∈ prog → NoLazyWrite L s) (hc : Consistent L G0) (k : Nat) :
    Consistent L (lalone L prog p0 G0 k).2 :=
  foldl_take_inv _ (fun st => Consistent L st.2) prog (p0, G0) k hc
    fun ⟨p, G⟩ s hs hst => lexec_consistent L hw s p G (h s hs) hst

theorem lalone_passed (L : Lazy) (hw : WF L) (prog : List LStep) (p0 : PStore) (G0 : GStore)
    (h : ∀ s, s ∈ prog → NoLazyWrite L s) (k j n : Nat) (hj : j < n) (hs : prog[j]? = some (.once k)) :
    (lalone L prog p0 G0 n).2 (L.flagOf k) ≠ 0 := by
  induction n with
  | zero => omega
  | succ n ih =>
    by_cases e : j = n
    · subst e
      rw [lalone_succ L prog p0 G0 j _ hs]
      generalize lalone L prog p0 G0 j = A
      obtain ⟨p, G⟩ := A
      exact initGroup_flag_self L k G
    · have ih' := ih (by omega)
      cases hk : prog[n]? with
      | none => rw [lalone_stop L prog p0 G0 n hk]; exact ih'
      | some s =>
        rw [lalone_succ L prog p0 G0 n s hk]
        generalize lalone L prog p0 G0 n = A at ih' ⊢
        obtain ⟨p, G⟩ := A
        exact lexec_flag_mono L hw s p G (h s (List.mem_of_getElem? hk)) k ih'

/-! ### the invariant -/

/-- `Interference.Inv` with two more clauses: `cons` (the store is `Consistent`: initialised groups hold their
    values) and `passed` (the flag of a group is set once some goroutine is past a `once` of it) -/
structure LInv (L : Lazy) (prog : Gid → List LStep) (Shared : Loc → Prop) (owner : Loc → Gid)
    (P0 : Gid → PStore) (G0 : GStore) (st : State) : Prop where
  priv : ∀ g, st.P g = (lalone L (prog g) (P0 g) G0 (st.pc g)).1
  shared : ∀ loc, Shared loc → ¬ L.IsLazy loc → st.G loc = G0 loc
  owned : ∀ loc, ¬ Shared loc →
    st.G loc = (lalone L (prog (owner loc)) (P0 (owner loc)) G0 (st.pc (owner loc))).2 loc
  cons : Consistent L st.G
  passed : ∀ g k j, j < st.pc g → (prog g)[j]? = some (.once k) → st.G (L.flagOf k) ≠ 0

theorem linv_init (L : Lazy) (prog : Gid → List LStep) (Shared : Loc → Prop) (owner : Loc → Gid)
    (P0 : Gid → PStore) (G0 : GStore) (hc : Consistent L G0) : LInv L prog Shared owner P0 G0 (init P0 G0) :=
  ⟨fun _ => by simp [init, lalone], fun _ _ _ => rfl, fun _ _ => by simp [init, lalone], hc,
   fun _ _ j hj _ => by simp [init] at hj⟩

theorem LazySafe.wf {L : Lazy} {prog : Gid → List LStep} {Shared : Loc → Prop} {owner : Loc → Gid}
    (h : LazySafe L prog Shared owner) : WF L := ⟨h.flagInj, h.flagNotCell⟩

theorem LazySafe.noLazyWrite {L : Lazy} {prog : Gid → List LStep} {Shared : Loc → Prop} {owner : Loc → Gid}
    (h : LazySafe L prog Shared owner) (g : Gid) (s : LStep) (hs : s ∈ prog g) : NoLazyWrite L s :=
  fun loc hw hl => h.noSharedWrite g s hs loc hw (h.lazyShared loc hl)

/-- The argument of `Interference.inv_step` once more: `priv`, `shared`, `owned` are kept as there (with `lexec_frame`
    off the lazy locations); new is what a READ of a lazy cell sees — by the first-use discipline the reader has passed
    `once` of the group, so by `passed` and `cons` the cell holds its value in the interleaved store as in the solo
    run — and that `cons`, `passed` are kept by every step. -/
theorem linv_step (L : Lazy) (prog : Gid → List LStep) (Shared : Loc → Prop) (owner : Loc → Gid)
    (P0 : Gid → PStore) (G0 : GStore) (hS : LazySafe L prog Shared owner) (hc0 : Consistent L G0)
    (st : State) (hinv : LInv L prog Shared owner P0 G0 st) (g : Gid) :
    LInv L prog Shared owner P0 G0 (lstepOf L prog st g) := by
  unfold lstepOf
  cases hs : (prog g)[st.pc g]? with
  | none => exact hinv
  | some s =>
    have hw := hS.wf
    have hmem : s ∈ prog g := List.mem_of_getElem? hs
    have hnl : NoLazyWrite L s := hS.noLazyWrite g s hmem
    have hsucc := lalone_succ L (prog g) (P0 g) G0 (st.pc g) s hs
    have hp := hinv.priv g
    have hprogNL : ∀ s', s' ∈ prog g → NoLazyWrite L s' := fun s' hs' => hS.noLazyWrite g s' hs'
    have hAcons := lalone_consistent L hw (prog g) (P0 g) G0 hprogNL hc0 (st.pc g)
    have hApassed := fun k j (hj : j < st.pc g) (hjs : (prog g)[j]? = some (.once k)) =>
      lalone_passed L hw (prog g) (P0 g) G0 hprogNL k j (st.pc g) hj hjs
    -- what a READ of g sees equals what it sees when running alone
    have hview : ∀ r loc, s = .read r loc → st.G loc = (lalone L (prog g) (P0 g) G0 (st.pc g)).2 loc := by
      intro r loc es
      subst es
      by_cases hsh : Shared loc
      · by_cases hlz : L.IsLazy loc
        · rcases hlz with ⟨k, ek⟩ | hcell
          · exact absurd (by simp [LStep.reads, ek]) (hS.noFlagRead g _ hmem k)
          · cases hcl : L.cell loc with
            | none => simp [hcl] at hcell
            | some kv =>
              obtain ⟨k, v⟩ := kv
              obtain ⟨j, hj, hjs⟩ := hS.firstUse g (st.pc g) r loc k v hs hcl
              rw [hinv.cons loc k v hcl (hinv.passed g k j hj hjs), hAcons loc k v hcl (hApassed k j hj hjs)]
        · rw [hinv.shared loc hsh hlz]
          exact (lalone_frame L (prog g) (P0 g) G0 loc
            (fun s' hs' hw' => hS.noSharedWrite g s' hs' loc hw' hsh) hlz (st.pc g)).symm
      · have ho := hS.ownInstances g _ hmem loc (Or.inl rfl) hsh
        have := hinv.owned loc hsh
        rw [ho] at this; exact this
    generalize hA : lalone L (prog g) (P0 g) G0 (st.pc g) = A at hsucc hp hview
    obtain ⟨a1, a2⟩ := A
    simp only at hp hview
    dsimp only
    refine ⟨?_, ?_, ?_, ?_, ?_⟩
    · -- private stores
      intro g'
      by_cases e : g' = g
      · subst e
        simp only [upd_same]
        rw [hsucc, hp]
        cases s with
        | read r l => simp only [lexec]; rw [hview r l rfl]
        | write gd l e => rfl
        | localStep f => rfl
        | once k => rfl
      · simp only [upd_other _ _ _ _ e]
        exact hinv.priv g'
    · -- init-only shared state
      intro loc hsh hlz
      dsimp only
      rw [lexec_frame L s _ loc (fun hw' => hS.noSharedWrite g s hmem loc hw' hsh) hlz]
      exact hinv.shared loc hsh hlz
    · -- owned cells
      intro loc hsh
      have hlz : ¬ L.IsLazy loc := fun h => hsh (hS.lazyShared loc h)
      dsimp only
      by_cases e : owner loc = g
      · simp only [e, upd_same]
        rw [hsucc]
        have hold := hinv.owned loc hsh
        rw [e, hA] at hold
        simp only at hold
        rw [hp]
        exact lexec_loc_congr L s a1 st.G a2 loc hlz hold
      · simp only [upd_other _ _ _ _ e]
        have hnw : ¬ s.writes loc := fun hw' => e (hS.ownInstances g s hmem loc (Or.inr hw') hsh)
        rw [lexec_frame L s _ loc hnw hlz]
        exact hinv.owned loc hsh
    · exact lexec_consistent L hw s (st.P g) st.G hnl hinv.cons
    · -- flags of passed `once` steps are set
      intro g' k j hj hjs
      dsimp only at hj ⊢
      by_cases e : g' = g
      · subst e
        simp only [upd_same] at hj
        by_cases ej : j = st.pc g'
        · subst ej
          rw [hs] at hjs
          cases hjs
          exact initGroup_flag_self L k st.G
        · exact lexec_flag_mono L hw s (st.P g') st.G hnl k (hinv.passed g' k j (by omega) hjs)
      · simp only [upd_other _ _ _ _ e] at hj
        exact lexec_flag_mono L hw s (st.P g) st.G hnl k (hinv.passed g' k j hj hjs)

theorem linv_run (L : Lazy) (prog : Gid → List LStep) (Shared : Loc → Prop) (owner : Loc → Gid)
    (P0 : Gid → PStore) (G0 : GStore) (hS : LazySafe L prog Shared owner) (hc0 : Consistent L G0)
    (sched : List Gid) (st : State) (hinv : LInv L prog Shared owner P0 G0 st) :
    LInv L prog Shared owner P0 G0 (lrun L prog sched st) := by
  induction sched generalizing st with
  | nil => exact hinv
  | cons g rest ih =>
    simp only [lrun, List.foldl_cons]
    exact ih _ (linv_step L prog Shared owner P0 G0 hS hc0 st hinv g)

/-! ### the base machine is the lazy machine without `once` and guards -/

theorem lexec_embed (L : Lazy) (s : Step) (st : PStore × GStore) : lexec L (embedStep s) st = exec s st := by
  obtain ⟨p, G⟩ := st
  cases s <;> simp [embedStep, lexec, exec]

theorem lstepOf_embed (L : Lazy) (prog : Gid → List Step) (st : State) (g : Gid) :
    lstepOf L (embed prog) st g = stepOf prog st g := by
  unfold lstepOf stepOf embed
  rw [List.getElem?_map]
  cases (prog g)[st.pc g]? with
  | none => rfl
  | some s => simp only [Option.map_some, lexec_embed]

theorem lrun_embed (L : Lazy) (prog : Gid → List Step) (sched : List Gid) (st : State) :
    lrun L (embed prog) sched st = run prog sched st := by
  induction sched generalizing st with
  | nil => rfl
  | cons g rest ih =>
    simp only [lrun, run, List.foldl_cons]
    rw [lstepOf_embed]
    exact ih _

/-! ### program counters after a schedule -/

theorem lstepOf_pc (L : Lazy) (prog : Gid → List LStep) (st : State) (g : Gid) :
    (lstepOf L prog st g).pc = if st.pc g < (prog g).length then upd st.pc g (st.pc g + 1) else st.pc := by
  unfold lstepOf
  by_cases hlt : st.pc g < (prog g).length
  · rw [List.getElem?_eq_getElem hlt, if_pos hlt]
  · rw [List.getElem?_eq_none (Nat.le_of_not_lt hlt), if_neg hlt]

end Gzx.LazyInit
