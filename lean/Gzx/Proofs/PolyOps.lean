/-
  Specifications of the GenericGFPoly operations of Model/RS.lean under `FieldOK F`:
  success on well-formed operands, well-formedness of the result, Horner-evaluation semantics.
  Helper lemmas for Properties/C04.lean.
-/
import Gzx.Proofs.Poly
namespace Gzx.Proofs.Poly
open Gzx Gzx.GF Gzx.RS Gzx.Ref.GF Gzx.Proofs.GF

/-- normal form of `NewGenericGFPoly`: `[0]` or a list with non-zero head -/
def Norm (p : List Nat) : Prop := p = [0] ∨ ∃ c r, p = c :: r ∧ c ≠ 0

/-- well-formed polynomial over the field of size `size` -/
def WF (size : Nat) (p : List Nat) : Prop := InR size p ∧ Norm p

theorem Norm.ne_nil {p : List Nat} (h : Norm p) : p ≠ [] := by
  rcases h with rfl | ⟨c, r, rfl, _⟩ <;> simp

theorem norm_normalize (cs : List Nat) : Norm (normalize cs) :=
  normalize_induction (P := fun _ r => Norm r) (Or.inl rfl) (fun _ _ ih => ih)
    (fun c cs h => Or.inr ⟨c, cs, rfl, h⟩) cs

theorem wf_normalize {size : Nat} (hs : 0 < size) (cs : List Nat) (h : InR size cs) : WF size (normalize cs) :=
  ⟨InR_normalize hs cs h, norm_normalize cs⟩

theorem wf_zero {size : Nat} (hs : 0 < size) : WF size [0] := ⟨InR.cons hs InR.nil, Or.inl rfl⟩

theorem isZero_iff {p : List Nat} (h : Norm p) : isZero p = true ↔ p = [0] := by
  rcases h with rfl | ⟨c, r, rfl, hc⟩
  · simp [isZero]
  · simp [isZero, hc]

theorem isZero_false {c : Nat} {r : List Nat} (hc : c ≠ 0) : isZero (c :: r) = false := by
  simp [isZero, hc]

theorem getCoefficient_lead (c : Nat) (r : List Nat) : getCoefficient (c :: r) (degree (c :: r)) = .ok c := by
  simp [getCoefficient, degree]

theorem getCoefficient_zero (p : List Nat) (hp : p ≠ []) : ∃ v, getCoefficient p 0 = .ok v ∧ v ∈ p := by
  unfold getCoefficient
  have hl : 0 < p.length := List.length_pos_iff.2 hp
  have : ¬ 0 + 1 > p.length := by omega
  rw [if_neg this]
  have e : p.length - 1 - 0 = p.length - 1 := by omega
  rw [e, ← List.getLast?_eq_getElem?, List.getLast?_eq_some_getLast hp]
  exact ⟨_, rfl, List.getLast_mem hp⟩

section F
variable {F : GF} (hF : FieldOK F)
include hF

theorem size_pos : 0 < F.size := zero_lt_size hF.2

/-! ### EvaluateAt -/

theorem evalLoop_ok (a : Nat) (ha : a < F.size) : ∀ (cs : List Nat) (r : Nat), r < F.size → InR F.size cs →
    evalLoop F a cs r = .ok (evalFrom F.prim a r cs)
  | [], _, _, _ => rfl
  | c :: cs, r, hr, hc => by
    unfold evalLoop
    rw [F_mul hF a r ha hr]
    simp only [bind, Except.bind]
    rw [evalLoop_ok a ha cs _ (xor_lt_size hF.2 _ _ (gmul_lt hF.2 _ _) hc.head) hc.tail]
    rfl

theorem evalFrom_at_zero : ∀ (cs : List Nat) (acc : Nat), acc < F.size → InR F.size cs →
    evalFrom F.prim 0 acc cs = cs.getLast?.getD acc
  | [], _, _, _ => rfl
  | c :: cs, acc, hacc, hc => by
    rw [evalFrom_cons, gmul_zero_left hF.2 acc hacc, Nat.zero_xor, evalFrom_at_zero cs c hc.head hc.tail]
    cases cs with
    | nil => rfl
    | cons d ds =>
      cases h : (d :: ds).getLast? with
      | none => simp at h
      | some v => simp [List.getLast?_cons_cons, h]

theorem evalFrom_at_one : ∀ (cs : List Nat) (acc : Nat), acc < F.size → InR F.size cs →
    evalFrom F.prim 1 acc cs = cs.foldl (· ^^^ ·) acc
  | [], _, _, _ => rfl
  | c :: cs, acc, hacc, hc => by
    rw [evalFrom_cons, gmul_one_left hF.2 acc hacc, List.foldl_cons]
    exact evalFrom_at_one cs _ (xor_lt_size hF.2 _ _ hacc hc.head) hc.tail

/-- `EvaluateAt` (with both shortcuts) is Horner evaluation -/
theorem evaluateAt_ok (p : List Nat) (hp : p ≠ []) (hr : InR F.size p) (a : Nat) (ha : a < F.size) :
    evaluateAt F p a = .ok (evalH F.prim a p) := by
  unfold evaluateAt
  by_cases h0 : a = 0
  · subst h0
    rw [if_pos rfl]
    unfold evalH
    rw [evalFrom_at_zero hF p 0 (size_pos hF) hr]
    unfold getCoefficient
    have hl : 0 < p.length := List.length_pos_iff.2 hp
    have : ¬ 0 + 1 > p.length := by omega
    rw [if_neg this]
    have e : p.length - 1 - 0 = p.length - 1 := by omega
    rw [e, ← List.getLast?_eq_getElem?]
    cases hg : p.getLast? with
    | none => rw [List.getLast?_eq_none_iff] at hg; exact absurd hg hp
    | some v => rfl
  · rw [if_neg h0]
    by_cases h1 : a = 1
    · subst h1
      rw [if_pos rfl]
      unfold evalH
      rw [evalFrom_at_one hF p 0 (size_pos hF) hr]
    · rw [if_neg h1]
      cases p with
      | nil => exact absurd rfl hp
      | cons c0 cs =>
        simp only
        rw [evalLoop_ok hF a ha cs c0 hr.head hr.tail, evalH_cons_eq_evalFrom hF.2]

/-! ### AddOrSubtract -/

omit hF in
theorem isZero_eq_false {p : List Nat} (h : Norm p) (h0 : p ≠ [0]) : isZero p = false :=
  Bool.eq_false_iff.2 (mt (isZero_iff h).1 h0)

/-- the longer operand `l` with the shorter `s` xor-ed into its low-order end: what `AddOrSubtract`
    hands to `NewGenericGFPoly` -/
def xorLow (s l : List Nat) : List Nat :=
  l.take (l.length - s.length) ++ List.zipWith (· ^^^ ·) s (l.drop (l.length - s.length))

omit hF in
theorem xorLow_length (s l : List Nat) (h : s.length ≤ l.length) : (xorLow s l).length = l.length := by
  unfold xorLow
  rw [List.length_append, List.length_take, List.length_zipWith, List.length_drop]
  omega

omit hF in
theorem xorLow_cons (s : List Nat) (c : Nat) (l : List Nat) (h : s.length ≤ l.length) :
    xorLow s (c :: l) = c :: xorLow s l := by
  unfold xorLow
  rw [List.length_cons, Nat.succ_sub h, List.take_succ_cons, List.drop_succ_cons, List.cons_append]

theorem xorLow_inR (s l : List Nat) (hs : InR F.size s) (hl : InR F.size l) : InR F.size (xorLow s l) :=
  InR.append hl.take (InR_zipWith_xor hF.2 _ _ hs hl.drop)

theorem evalH_xorLow (a : Nat) (s l : List Nat) (hs : InR F.size s) (hl : InR F.size l)
    (hlen : s.length ≤ l.length) :
    evalH F.prim a (xorLow s l) = evalH F.prim a s ^^^ evalH F.prim a l := by
  unfold evalH xorLow
  rw [evalFrom_append]
  have hx := evalFrom_lt hF.2 a (l.take (l.length - s.length)) 0 (size_pos hF) hl.take
  have := evalFrom_xor hF.2 a s (l.drop (l.length - s.length)) 0 _ (by simp; omega) (size_pos hF) hx hs hl.drop
  rw [Nat.zero_xor] at this
  rw [this, ← evalFrom_append, List.take_append_drop]

omit hF in
theorem addOrSubtract_zero_right {p : List Nat} (hp : Norm p) (hp0 : p ≠ [0]) :
    addOrSubtract p [0] = .ok p := by
  unfold addOrSubtract
  rw [isZero_eq_false hp hp0]
  rfl

omit hF in
theorem addOrSubtract_of_lt {p q : List Nat} (hp : Norm p) (hq : Norm q) (hp0 : p ≠ [0]) (hq0 : q ≠ [0])
    (h : q.length < p.length) : addOrSubtract p q = .ok (normalize (xorLow q p)) := by
  unfold addOrSubtract
  rw [isZero_eq_false hp hp0, isZero_eq_false hq hq0]
  simp only [Bool.false_eq_true, if_false, gt_iff_lt, h, if_true]
  exact mkPoly_ok (xorLow q p) (List.ne_nil_of_length_pos (by rw [xorLow_length q p (by omega)]; omega))

omit hF in
theorem addOrSubtract_of_le {p q : List Nat} (hp : Norm p) (hq : Norm q) (hp0 : p ≠ [0]) (hq0 : q ≠ [0])
    (h : p.length ≤ q.length) : addOrSubtract p q = .ok (normalize (xorLow p q)) := by
  have hql : 0 < q.length := List.length_pos_iff.2 hq.ne_nil
  unfold addOrSubtract
  rw [isZero_eq_false hp hp0, isZero_eq_false hq hq0]
  simp only [Bool.false_eq_true, if_false, gt_iff_lt, Nat.not_lt.2 h]
  exact mkPoly_ok (xorLow p q) (List.ne_nil_of_length_pos (by rw [xorLow_length p q h]; exact hql))

theorem addOrSubtract_spec (p q : List Nat) (hp : WF F.size p) (hq : WF F.size q) :
    ∃ r, addOrSubtract p q = .ok r ∧ WF F.size r ∧ r.length ≤ max p.length q.length ∧
      ∀ a, a < F.size → evalH F.prim a r = evalH F.prim a p ^^^ evalH F.prim a q := by
  by_cases hp0 : p = [0]
  · subst hp0
    exact ⟨q, rfl, hq, by omega, fun a _ => by rw [evalH_zero_poly hF.2, Nat.zero_xor]⟩
  by_cases hq0 : q = [0]
  · subst hq0
    exact ⟨p, addOrSubtract_zero_right hp.2 hp0, hp, by omega,
      fun a _ => by rw [evalH_zero_poly hF.2, Nat.xor_zero]⟩
  have hql : 0 < q.length := List.length_pos_iff.2 hq.2.ne_nil
  by_cases hlen : q.length < p.length
  · refine ⟨_, addOrSubtract_of_lt hp.2 hq.2 hp0 hq0 hlen,
      wf_normalize (size_pos hF) _ (xorLow_inR hF q p hq.1 hp.1), ?_, fun a _ => ?_⟩
    · have := normalize_length_le' (xorLow q p)
      rw [xorLow_length q p (by omega)] at this
      omega
    · rw [evalH_normalize hF.2, evalH_xorLow hF a q p hq.1 hp.1 (by omega), Nat.xor_comm]
  · refine ⟨_, addOrSubtract_of_le hp.2 hq.2 hp0 hq0 (by omega),
      wf_normalize (size_pos hF) _ (xorLow_inR hF p q hp.1 hq.1), ?_, fun a _ => ?_⟩
    · have := normalize_length_le' (xorLow p q)
      rw [xorLow_length p q (by omega)] at this
      omega
    · rw [evalH_normalize hF.2, evalH_xorLow hF a p q hp.1 hq.1 (by omega)]

omit hF in
theorem addOrSubtract_cancel (c : Nat) (ps qs : List Nat) (hc : c ≠ 0) (hl : ps.length = qs.length) :
    addOrSubtract (c :: ps) (c :: qs) = .ok (normalize (List.zipWith (· ^^^ ·) ps qs)) := by
  unfold addOrSubtract
  rw [isZero_false hc, isZero_false hc]
  simp only [Bool.false_eq_true, if_false, List.length_cons, hl, Nat.lt_irrefl, gt_iff_lt, Nat.sub_self,
    List.take_zero, List.drop_zero, List.nil_append, List.zipWith_cons_cons, Nat.xor_self]
  rw [mkPoly_ok _ (by simp), normalize_zero_cons]

omit hF in
/-- a longer first operand keeps its length under `AddOrSubtract`: its head survives, so nothing is stripped -/
theorem addOrSubtract_len_gt (p q r : List Nat) (hp : Norm p) (hq : Norm q) (hlen : q.length < p.length)
    (h : addOrSubtract p q = .ok r) : r.length = p.length := by
  have hql := List.length_pos_iff.2 hq.ne_nil
  have hp0 : p ≠ [0] := fun h0 => by subst h0; simp only [List.length_cons, List.length_nil] at hlen; omega
  by_cases hq0 : q = [0]
  · subst hq0
    rw [addOrSubtract_zero_right hp hp0] at h
    cases h; rfl
  · rw [addOrSubtract_of_lt hp hq hp0 hq0 hlen] at h
    cases h
    obtain ⟨ph, pt, rfl, hph⟩ := hp.resolve_left hp0
    have hle : q.length ≤ pt.length := Nat.le_of_lt_succ hlen
    rw [xorLow_cons q ph pt hle, normalize_of_head_ne_zero _ _ hph, List.length_cons, xorLow_length q pt hle,
      List.length_cons]

omit hF in
/-- adding a non-empty polynomial never fails: the list handed to `NewGenericGFPoly` has the length of the longer operand -/
theorem addOrSubtract_ok_right (q m : List Nat) (hm : m ≠ []) : ∃ r, addOrSubtract q m = .ok r := by
  have hml := List.length_pos_iff.2 hm
  unfold addOrSubtract
  split
  · exact ⟨_, rfl⟩
  split
  · exact ⟨_, rfl⟩
  by_cases h : q.length > m.length
  · simp only [h, if_true]
    exact ⟨_, mkPoly_ok _ (List.ne_nil_of_length_pos (by simp; omega))⟩
  · simp only [h, if_false]
    exact ⟨_, mkPoly_ok _ (List.ne_nil_of_length_pos (by simp; omega))⟩

/-! ### scaling, monomials -/

theorem scale_mapM (cs : List Nat) (hc : InR F.size cs) (s : Nat) (hs : s < F.size) :
    cs.mapM (fun c => F.mul c s) = .ok (cs.map (gmul F.prim s)) := by
  rw [mapM_ok (fun c => F.mul c s) (fun c => gmul F.prim c s) cs
    (fun x hx => F_mul hF x s (hc x hx) hs)]
  congr 1
  apply List.map_congr_left
  intro x hx
  exact gmul_comm hF.2 x s (hc x hx) hs

theorem scale_mapM' (cs : List Nat) (hc : InR F.size cs) (s : Nat) (hs : s < F.size) :
    cs.mapM (fun c => F.mul s c) = .ok (cs.map (gmul F.prim s)) :=
  mapM_ok (fun c => F.mul s c) (gmul F.prim s) cs (fun x hx => F_mul hF s x hs (hc x hx))

theorem multiplyByMonomial_eq (p : List Nat) (hp : WF F.size p) (d c : Nat) (hc : c < F.size) (h0 : c ≠ 0) :
    multiplyByMonomial F p d c = .ok (normalize (p.map (gmul F.prim c) ++ List.replicate d 0)) := by
  unfold multiplyByMonomial
  rw [if_neg h0, scale_mapM hF p hp.1 c hc]
  exact mkPoly_ok _ (by simp [hp.2.ne_nil])

/-- `MultiplyByMonomial(d, c)`: value `a^d · c · p(a)`; for `c·lead ≠ 0` the shape is explicit -/
theorem multiplyByMonomial_spec (p : List Nat) (hp : WF F.size p) (d c : Nat) (hc : c < F.size) :
    ∃ r, multiplyByMonomial F p d c = .ok r ∧ WF F.size r ∧
      (∀ a, a < F.size → evalH F.prim a r = gmul F.prim (gpow F.prim a d) (gmul F.prim c (evalH F.prim a p))) ∧
      (∀ h t, p = h :: t → gmul F.prim c h ≠ 0 →
        r = gmul F.prim c h :: (t.map (gmul F.prim c) ++ List.replicate d 0)) := by
  by_cases h0 : c = 0
  · subst h0
    refine ⟨[0], rfl, wf_zero (size_pos hF), fun a _ => ?_, fun h t hpe hne => ?_⟩
    · rw [evalH_zero_poly hF.2, gmul_zero_left hF.2 _ (evalH_lt hF.2 a p hp.1), gmul_zero_right hF.2]
    · rw [hpe] at hp
      exact absurd (gmul_zero_left hF.2 h hp.1.head) hne
  · have hin : InR F.size (p.map (gmul F.prim c)) := InR_map_gmul hF.2 c p
    have hz : InR F.size (List.replicate d 0) := InR.replicate (size_pos hF)
    refine ⟨_, multiplyByMonomial_eq hF p hp d c hc h0, wf_normalize (size_pos hF) _ (hin.append hz),
      fun a ha => ?_, fun h t hpe hne => ?_⟩
    · rw [evalH_normalize hF.2, evalH_append hF.2 a ha _ _ hin hz, evalH_replicate_zero hF.2, Nat.xor_zero,
        List.length_replicate, evalH_scale hF.2 a c ha hc p hp.1]
    · subst hpe
      rw [List.map_cons, List.cons_append, normalize_of_head_ne_zero _ _ hne]

omit hF in
theorem buildMonomial_eq (d : Nat) {c : Nat} (h0 : c ≠ 0) :
    buildMonomial d c = .ok (c :: List.replicate d 0) := by
  unfold buildMonomial
  rw [if_neg h0, mkPoly_ok _ (by simp), normalize_of_head_ne_zero _ _ h0]

omit hF in
theorem buildMonomial_ne_nil (d c : Nat) : ∃ m, buildMonomial d c = .ok m ∧ m ≠ [] := by
  unfold buildMonomial
  split
  · exact ⟨[0], rfl, by simp⟩
  · exact ⟨_, mkPoly_ok _ (by simp), normalize_ne_nil _⟩

theorem multiplyBy_eq (p : List Nat) (hp : WF F.size p) (s : Nat) (hs : s < F.size) (h0 : s ≠ 0) (h1 : s ≠ 1) :
    multiplyBy F p s = .ok (normalize (p.map (gmul F.prim s))) := by
  unfold multiplyBy
  rw [if_neg h0, if_neg h1, scale_mapM hF p hp.1 s hs]
  exact mkPoly_ok _ (by simp [hp.2.ne_nil])

/-- `MultiplyBy(scalar)` -/
theorem multiplyBy_spec (p : List Nat) (hp : WF F.size p) (s : Nat) (hs : s < F.size) :
    ∃ r, multiplyBy F p s = .ok r ∧ WF F.size r ∧
      ∀ a, a < F.size → evalH F.prim a r = gmul F.prim s (evalH F.prim a p) := by
  by_cases h0 : s = 0
  · subst h0
    exact ⟨[0], rfl, wf_zero (size_pos hF),
      fun a _ => by rw [evalH_zero_poly hF.2, gmul_zero_left hF.2 _ (evalH_lt hF.2 a p hp.1)]⟩
  by_cases h1 : s = 1
  · subst h1
    exact ⟨p, rfl, hp, fun a _ => by rw [gmul_one_left hF.2 _ (evalH_lt hF.2 a p hp.1)]⟩
  exact ⟨_, multiplyBy_eq hF p hp s hs h0 h1, wf_normalize (size_pos hF) _ (InR_map_gmul hF.2 s p),
    fun a ha => by rw [evalH_normalize hF.2, evalH_scale hF.2 a s ha hs p hp.1]⟩

/-! ### Multiply -/

omit hF in
theorem addInto_eq : ∀ (row acc : List Nat), row.length ≤ acc.length →
    addInto row acc = List.zipWith (· ^^^ ·) (row ++ List.replicate (acc.length - row.length) 0) acc
  | [], acc, _ => by
    simp only [addInto, List.length_nil, Nat.sub_zero, List.nil_append]
    exact (zipWith_zeros_left acc).symm
  | r :: rs, [], h => by simp at h
  | r :: rs, x :: xs, h => by
    simp only [addInto, List.length_cons, Nat.add_sub_add_right, List.cons_append, List.zipWith_cons_cons]
    rw [addInto_eq rs xs (by simpa using h)]

/-- the coefficient list the double loop of `Multiply` builds: the row `a0·b`, padded to the full length,
    xor-ed into the shifted product of the remaining rows -/
def mulRows (prim : Nat) : List Nat → List Nat → List Nat
  | [], b => List.replicate (b.length - 1) 0
  | a0 :: as, b =>
    List.zipWith (· ^^^ ·) (b.map (gmul prim a0) ++ List.replicate as.length 0) (0 :: mulRows prim as b)

omit hF in
theorem mulRows_length (prim : Nat) (b : List Nat) (hb : b ≠ []) : ∀ (as : List Nat),
    (mulRows prim as b).length = as.length + b.length - 1
  | [] => by simp [mulRows]
  | a0 :: as => by
    have := List.length_pos_iff.2 hb
    simp only [mulRows, List.length_zipWith, List.length_append, List.length_map, List.length_replicate,
      List.length_cons, mulRows_length prim b hb as]
    omega

theorem mulRaw_eq (b : List Nat) (hb : InR F.size b) (hbne : b ≠ []) : ∀ (as : List Nat), InR F.size as →
    mulRaw F as b = .ok (mulRows F.prim as b)
  | [], _ => rfl
  | a0 :: as, has => by
    have hbl := List.length_pos_iff.2 hbne
    have hlen := mulRows_length F.prim b hbne as
    unfold mulRaw
    rw [scale_mapM' hF b hb a0 has.head, mulRaw_eq b hb hbne as has.tail]
    simp only [bind, Except.bind]
    rw [addInto_eq _ _ (by simp [hlen]; omega)]
    have hk : (0 :: mulRows F.prim as b).length - (List.map (gmul F.prim a0) b).length = as.length := by
      simp [hlen]; omega
    rw [hk]
    rfl

theorem mulRows_inR (b : List Nat) : ∀ (as : List Nat), InR F.size (mulRows F.prim as b)
  | [] => InR.replicate (size_pos hF)
  | a0 :: as =>
    InR_zipWith_xor hF.2 _ _ (InR.append (InR_map_gmul hF.2 a0 b) (InR.replicate (size_pos hF)))
      (InR.cons (size_pos hF) (mulRows_inR b as))

theorem evalH_mulRows (b : List Nat) (hb : InR F.size b) (hbne : b ≠ []) (a : Nat) (ha : a < F.size) :
    ∀ (as : List Nat), InR F.size as →
      evalH F.prim a (mulRows F.prim as b) = gmul F.prim (evalH F.prim a as) (evalH F.prim a b)
  | [], _ => by
    rw [mulRows, evalH_replicate_zero hF.2]
    exact (gmul_zero_left hF.2 _ (evalH_lt hF.2 a b hb)).symm
  | a0 :: as, has => by
    have hbl := List.length_pos_iff.2 hbne
    have hrow : InR F.size (b.map (gmul F.prim a0) ++ List.replicate as.length 0) :=
      InR.append (InR_map_gmul hF.2 a0 b) (InR.replicate (size_pos hF))
    have hx := evalFrom_xor hF.2 a _ (0 :: mulRows F.prim as b) 0 0
      (by simp [mulRows_length F.prim b hbne as]; omega) (size_pos hF) (size_pos hF) hrow
      (InR.cons (size_pos hF) (mulRows_inR hF b as))
    rw [Nat.xor_zero] at hx
    show evalFrom F.prim a 0 (List.zipWith _ _ _) = _
    rw [hx]
    show evalH F.prim a _ ^^^ evalH F.prim a (0 :: mulRows F.prim as b) = _
    rw [evalH_zero_cons hF.2, evalH_mulRows b hb hbne a ha as has.tail,
      evalH_append hF.2 a ha _ _ (InR_map_gmul hF.2 a0 b) (InR.replicate (size_pos hF)),
      evalH_replicate_zero hF.2, Nat.xor_zero, List.length_replicate, evalH_scale hF.2 a a0 ha has.head b hb]
    -- value of a0 :: as
    have hv := evalH_cons hF.2 a ha a0 as has.head has.tail
    have hb' := evalH_lt hF.2 a b hb
    rw [hv, gmul_xor_left hF.2 _ _ _ (gmul_lt hF.2 _ _) (evalH_lt hF.2 a as has.tail) hb',
      gmul_assoc hF.2 _ _ _ (gpow_lt hF.2 a as.length) has.head hb']

theorem multiply_eq (p q : List Nat) (hp : WF F.size p) (hq : WF F.size q) (hp0 : p ≠ [0]) (hq0 : q ≠ [0]) :
    multiply F p q = .ok (normalize (mulRows F.prim p q)) := by
  have hpl : 0 < p.length := List.length_pos_iff.2 hp.2.ne_nil
  have hql : 0 < q.length := List.length_pos_iff.2 hq.2.ne_nil
  unfold multiply
  rw [isZero_eq_false hp.2 hp0, isZero_eq_false hq.2 hq0, mulRaw_eq hF q hq.1 hq.2.ne_nil p hp.1]
  exact mkPoly_ok _ (List.ne_nil_of_length_pos (by rw [mulRows_length _ q hq.2.ne_nil]; omega))

omit hF in
theorem multiply_zero (p q : List Nat) (h : p = [0] ∨ q = [0]) : multiply F p q = .ok [0] := by
  unfold multiply
  rcases h with rfl | rfl
  · rfl
  · rw [if_pos (by simp [isZero])]

/-- `Multiply`: value is the product of the values; the product of two non-zero polynomials has the full length and
    the product of the leading coefficients as its own -/
theorem multiply_spec (p q : List Nat) (hp : WF F.size p) (hq : WF F.size q) :
    ∃ r, multiply F p q = .ok r ∧ WF F.size r ∧
      (∀ a, a < F.size → evalH F.prim a r = gmul F.prim (evalH F.prim a p) (evalH F.prim a q)) ∧
      (∀ ph pt qh qt, p = ph :: pt → q = qh :: qt → ph ≠ 0 → qh ≠ 0 →
        r.length = p.length + q.length - 1 ∧ r.head? = some (gmul F.prim ph qh)) := by
  by_cases hz : p = [0] ∨ q = [0]
  · refine ⟨[0], multiply_zero p q hz, wf_zero (size_pos hF), fun a _ => ?_, ?_⟩
    · rw [evalH_zero_poly hF.2]
      rcases hz with rfl | rfl
      · rw [evalH_zero_poly hF.2, gmul_zero_left hF.2 _ (evalH_lt hF.2 a q hq.1)]
      · rw [evalH_zero_poly hF.2, gmul_zero_right hF.2]
    · rintro ph pt qh qt rfl rfl hph hqh
      rcases hz with h | h
      · exact absurd (List.cons.inj h).1 hph
      · exact absurd (List.cons.inj h).1 hqh
  · rw [not_or] at hz
    refine ⟨_, multiply_eq hF p q hp hq hz.1 hz.2, wf_normalize (size_pos hF) _ (mulRows_inR hF q p),
      fun a ha => ?_, ?_⟩
    · rw [evalH_normalize hF.2, evalH_mulRows hF q hq.1 hq.2.ne_nil a ha p hp.1]
    · rintro ph pt qh qt rfl rfl hph hqh
      have hlen := mulRows_length F.prim (qh :: qt) (by simp) (ph :: pt)
      have hhead : (mulRows F.prim (ph :: pt) (qh :: qt)).head? = some (gmul F.prim ph qh) := by simp [mulRows]
      cases hr : mulRows F.prim (ph :: pt) (qh :: qt) with
      | nil => simp [hr] at hhead
      | cons c cs =>
        rw [hr] at hhead hlen
        obtain rfl : c = gmul F.prim ph qh := by simpa using hhead
        rw [normalize_of_head_ne_zero _ _ (gmul_ne_zero hF.2 _ _ hp.1.head hq.1.head hph hqh)]
        exact ⟨hlen, rfl⟩

end F
end Gzx.Proofs.Poly
