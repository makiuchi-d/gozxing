/-
  C08: `Gzx.DMProofs.sizeCheck` per size.  The kernel runs the Annex F placement program once over the mapping matrix of
  the size (`placeCheck`); the decoder's half of `sizeCheck` follows from `read_eq_place` (Proofs/DMReadOrder.lean).
  Heavy for the kernel (about 2 ms per module of the matrix); split over several files so that lake checks them side by side.
  `maxRecDepth`: the kernel's recursion grows with the run; from 64x64 modules on the default depth is too small.
-/
import Gzx.Proofs.DMReadOrder
namespace Gzx.DMProofs

set_option maxRecDepth 10000000 in
/-- symbol 120x120: mapping matrix 108x108, 1458 codewords -/
theorem check_120x120 : sizeCheck 108 108 1458 = true :=
  sizeCheck_of_placeCheck (by decide +kernel)

set_option maxRecDepth 10000000 in
/-- symbol 64x64: mapping matrix 56x56, 392 codewords -/
theorem check_64x64 : sizeCheck 56 56 392 = true :=
  sizeCheck_of_placeCheck (by decide +kernel)

end Gzx.DMProofs
