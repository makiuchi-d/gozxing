/-
  C01 composition, bit-stream layer: the data codewords the reference construction produces
  (`QRRef.terminate`: terminator, bit padding, pad codewords) read as a bit string are the payload followed
  by a tail on which the bit-stream parser stops (`Terminated`); the reference packings of `Gzx.QRRef`
  are the packings `Gzx.QRPack` of the decoder-side segment inverses.
-/
import Gzx.Proofs.QRCompRead
import Gzx.Proofs.QRSegments
import Gzx.Ref.QRPack
namespace Gzx.QRComp
open Gzx Gzx.QRDec

theorem ofBitsBE_eq (bs : List Bool) : QRRef.ofBitsBE bs = natOfBits bs := rfl

theorem bytesToBits_bytesOfBits : ∀ (k : Nat) (bs : List Bool), bs.length = 8 * k →
    bytesToBits (QRRef.bytesOfBits k bs) = bs := by
  intro k
  induction k with
  | zero => intro bs h; simp at h; subst h; rfl
  | succ k ih =>
    intro bs h
    cases bs with
    | nil => simp at h
    | cons b bs =>
      unfold QRRef.bytesOfBits
      unfold bytesToBits
      rw [List.flatMap_cons]
      have ht : ((b :: bs).take 8).length = 8 := by rw [List.length_take, h]; omega
      have := natToBits_natOfBits ((b :: bs).take 8)
      rw [ht] at this
      rw [ofBitsBE_eq, this]
      have ih' := ih ((b :: bs).drop 8) (by rw [List.length_drop, h]; omega)
      unfold bytesToBits at ih'
      rw [ih', List.take_append_drop]

theorem bytesOfBits_lt : ∀ (k : Nat) (bs : List Bool), ∀ x ∈ QRRef.bytesOfBits k bs, x < 256 := by
  intro k
  induction k with
  | zero => intro bs x hx; simp [QRRef.bytesOfBits] at hx
  | succ k ih =>
    intro bs x hx
    cases bs with
    | nil => simp [QRRef.bytesOfBits] at hx
    | cons b bs =>
      unfold QRRef.bytesOfBits at hx
      rcases List.mem_cons.mp hx with rfl | hx
      · have := natOfBits_lt ((b :: bs).take 8)
        have hl : ((b :: bs).take 8).length ≤ 8 := by rw [List.length_take]; omega
        rw [ofBitsBE_eq]
        exact Nat.lt_of_lt_of_le this (Nat.pow_le_pow_right (by omega) hl)
      · exact ih _ x hx

theorem padBytes_lt : ∀ (n : Nat), ∀ x ∈ QRRef.padBytes n, x < 256
  | 0, x, hx => by simp [QRRef.padBytes] at hx
  | 1, x, hx => by simp [QRRef.padBytes] at hx; omega
  | n + 2, x, hx => by
    unfold QRRef.padBytes at hx
    rcases List.mem_cons.mp hx with rfl | hx
    · decide
    · rcases List.mem_cons.mp hx with rfl | hx
      · decide
      · exact padBytes_lt n x hx

theorem bytesToBits_append (a b : List Nat) : bytesToBits (a ++ b) = bytesToBits a ++ bytesToBits b := by
  unfold bytesToBits; rw [List.flatMap_append]

theorem terminate_lt (d : Nat) (bits : List Bool) : ∀ x ∈ QRRef.terminate d bits, x < 256 := by
  intro x hx
  unfold QRRef.terminate at hx
  simp only at hx
  rcases List.mem_append.mp hx with h | h
  · exact bytesOfBits_lt _ _ x h
  · exact padBytes_lt _ x h

theorem terminate_stream (d : Nat) (bits : List Bool) (h : bits.length ≤ 8 * d) :
    ∃ tail, bytesToBits (QRRef.terminate d bits) = bits ++ tail ∧ Terminated tail := by
  unfold QRRef.terminate
  simp only
  generalize hb1 : bits ++ List.replicate (min 4 (8 * d - bits.length)) false = b1
  have hl1 : b1.length = bits.length + min 4 (8 * d - bits.length) := by
    rw [← hb1, List.length_append, List.length_replicate]
  generalize hb2 : b1 ++ List.replicate ((8 - b1.length % 8) % 8) false = b2
  have hl2 : b2.length = b1.length + (8 - b1.length % 8) % 8 := by
    rw [← hb2, List.length_append, List.length_replicate]
  have h8 : b2.length = 8 * (b2.length / 8) := by omega
  refine ⟨List.replicate (min 4 (8 * d - bits.length)) false ++
    (List.replicate ((8 - b1.length % 8) % 8) false ++
      bytesToBits (QRRef.padBytes (d - (QRRef.bytesOfBits (b2.length / 8) b2).length))), ?_, ?_⟩
  · rw [bytesToBits_append, bytesToBits_bytesOfBits _ _ h8, ← hb2, ← hb1]
    simp only [List.append_assoc]
  · by_cases h4 : 4 ≤ 8 * d - bits.length
    · left
      rw [Nat.min_eq_left h4]
      exact ⟨_, rfl⟩
    · right
      have ht : min 4 (8 * d - bits.length) = 8 * d - bits.length := Nat.min_eq_right (by omega)
      have hp : (8 - b1.length % 8) % 8 = 0 := by omega
      have hbl : (QRRef.bytesOfBits (b2.length / 8) b2).length = d := by
        rw [QRRef.bytesOfBits_length _ _ h8]; omega
      rw [hp, hbl, Nat.sub_self]
      simp [QRRef.padBytes, bytesToBits]
      omega

/-! ### the reference packings are the packings of the segment inverses -/

theorem packNumeric_eq : ∀ ds : List Nat, QRRef.packNumeric ds = QRPack.packNumeric ds
  | a :: b :: c :: rest => by
    unfold QRRef.packNumeric QRPack.packNumeric
    rw [toBitsBE_eq_natToBits, packNumeric_eq rest]
  | [a, b] => by unfold QRRef.packNumeric QRPack.packNumeric; rw [toBitsBE_eq_natToBits]
  | [a] => by unfold QRRef.packNumeric QRPack.packNumeric; rw [toBitsBE_eq_natToBits]
  | [] => rfl

theorem packAlnum_eq : ∀ cs : List Nat, QRRef.packAlnum cs = QRPack.packAlnum cs
  | a :: b :: rest => by
    unfold QRRef.packAlnum QRPack.packAlnum
    rw [toBitsBE_eq_natToBits, packAlnum_eq rest]
  | [a] => by unfold QRRef.packAlnum QRPack.packAlnum; rw [toBitsBE_eq_natToBits]
  | [] => rfl

theorem bitsOfBytes_eq (bs : List Nat) : QRRef.bitsOfBytes bs = QRPack.packBytes bs := by
  unfold QRRef.bitsOfBytes QRPack.packBytes
  congr 1
  funext b
  exact toBitsBE_eq_natToBits 8 b

theorem kanjiCode_eq (p : Nat × Nat) (h : kanjiPairOK p) :
    QRRef.kanjiCode p.1 p.2 = some (QRPack.kanjiValue p.1 p.2) := by
  obtain ⟨h1, h2, h3, h4⟩ := h
  unfold QRRef.kanjiCode QRPack.kanjiValue
  simp only
  rcases h1 with ⟨a, b⟩ | ⟨a, b⟩
  · have c1 : 0x8140 ≤ p.1 * 256 + p.2 ∧ p.1 * 256 + p.2 ≤ 0x9FFC := by omega
    rw [if_pos c1, if_pos (show p.1 ≤ 0x9F from b)]
    have e1 : (p.1 * 256 + p.2 - 0x8140) / 256 = p.1 - 0x81 := by omega
    have e2 : (p.1 * 256 + p.2 - 0x8140) % 256 = p.2 - 0x40 := by omega
    rw [e1, e2]
  · have c1 : ¬ (0x8140 ≤ p.1 * 256 + p.2 ∧ p.1 * 256 + p.2 ≤ 0x9FFC) := by omega
    have c2 : 0xE040 ≤ p.1 * 256 + p.2 ∧ p.1 * 256 + p.2 ≤ 0xEBBF := by omega
    rw [if_neg c1, if_pos c2, if_neg (show ¬ p.1 ≤ 0x9F by omega)]
    have e1 : (p.1 * 256 + p.2 - 0xC140) / 256 = p.1 - 0xC1 := by omega
    have e2 : (p.1 * 256 + p.2 - 0xC140) % 256 = p.2 - 0x40 := by omega
    rw [e1, e2]

theorem packKanji_eq : ∀ ps : List (Nat × Nat), (∀ p ∈ ps, kanjiPairOK p) →
    QRRef.packKanji (ps.flatMap (fun p => [p.1, p.2])) = some (QRPack.packKanji ps)
  | [], _ => rfl
  | p :: ps, h => by
    rw [List.flatMap_cons]
    show QRRef.packKanji (p.1 :: p.2 :: ps.flatMap (fun p => [p.1, p.2])) = _
    unfold QRRef.packKanji
    rw [kanjiCode_eq p (h p List.mem_cons_self), packKanji_eq ps (fun q hq => h q (List.mem_cons_of_mem _ hq))]
    simp only [bind, Option.bind, pure]
    obtain ⟨l, t⟩ := p
    simp only [QRPack.packKanji, toBitsBE_eq_natToBits]

theorem countBits_eq (v : Nat) :
    QRRef.countBits .numeric v = QRPack.countWidth 0 v ∧ QRRef.countBits .alnum v = QRPack.countWidth 1 v ∧
    QRRef.countBits .byte v = QRPack.countWidth 2 v ∧ QRRef.countBits .kanji v = QRPack.countWidth 3 v := by
  unfold QRRef.countBits QRPack.countWidth
  by_cases h9 : v ≤ 9 <;> by_cases h26 : v ≤ 26 <;> simp [h9, h26] <;> omega

/-! ### a content that fits the symbol also fits its character count indicator -/

theorem packNumeric_length : ∀ ds : List Nat,
    (QRRef.packNumeric ds).length =
      10 * (ds.length / 3) + (if ds.length % 3 = 0 then 0 else if ds.length % 3 = 1 then 4 else 7)
  | a :: b :: c :: rest => by
    unfold QRRef.packNumeric
    rw [List.length_append, QRRef.toBitsBE_length, packNumeric_length rest]
    simp only [List.length_cons]
    have e1 : (rest.length + 1 + 1 + 1) / 3 = rest.length / 3 + 1 := by omega
    have e2 : (rest.length + 1 + 1 + 1) % 3 = rest.length % 3 := by omega
    simp only [e1, e2]; omega
  | [a, b] => by unfold QRRef.packNumeric; rw [QRRef.toBitsBE_length]; simp
  | [a] => by unfold QRRef.packNumeric; rw [QRRef.toBitsBE_length]; simp
  | [] => rfl

theorem packAlnum_length : ∀ cs : List Nat,
    (QRRef.packAlnum cs).length = 11 * (cs.length / 2) + 6 * (cs.length % 2)
  | a :: b :: rest => by
    unfold QRRef.packAlnum
    rw [List.length_append, QRRef.toBitsBE_length, packAlnum_length rest]
    simp only [List.length_cons]
    have e1 : (rest.length + 1 + 1) / 2 = rest.length / 2 + 1 := by omega
    have e2 : (rest.length + 1 + 1) % 2 = rest.length % 2 := by omega
    rw [e1, e2]; omega
  | [a] => by unfold QRRef.packAlnum; rw [QRRef.toBitsBE_length]; simp
  | [] => rfl

theorem packKanji_length : ∀ ps : List (Nat × Nat), (QRPack.packKanji ps).length = 13 * ps.length
  | [] => rfl
  | (l, t) :: ps => by
    unfold QRPack.packKanji
    rw [List.length_append, natToBits_length, packKanji_length ps, List.length_cons]; omega

/-- for every (version, level) the data capacity bounds the number of characters of each mode below the
    range of that version's character count indicator (Table 3 is wide enough for Table 7) -/
def capOK (v : Nat) (ec : QRRef.EC) : Bool :=
  let dc := QRRef.dataCodewords v ec
  decide (3 * (8 * dc / 10) + 2 < 2 ^ QRRef.countBits .numeric v) &&
  decide (2 * (8 * dc / 11) + 1 < 2 ^ QRRef.countBits .alnum v) &&
  decide (dc < 2 ^ QRRef.countBits .byte v) &&
  decide (8 * dc / 13 < 2 ^ QRRef.countBits .kanji v)

theorem capOK_all : ∀ v ∈ List.range 40, ∀ ec ∈ QRRef.EC.all, capOK (v + 1) ec = true := by decide +kernel

theorem cap_facts (v : Nat) (h1 : 1 ≤ v) (h40 : v ≤ 40) (ec : QRRef.EC) :
    3 * (8 * QRRef.dataCodewords v ec / 10) + 2 < 2 ^ QRRef.countBits .numeric v ∧
    2 * (8 * QRRef.dataCodewords v ec / 11) + 1 < 2 ^ QRRef.countBits .alnum v ∧
    QRRef.dataCodewords v ec < 2 ^ QRRef.countBits .byte v ∧
    8 * QRRef.dataCodewords v ec / 13 < 2 ^ QRRef.countBits .kanji v := by
  have h := capOK_all (v - 1) (List.mem_range.mpr (by omega)) ec (by cases ec <;> decide)
  rw [show v - 1 + 1 = v by omega] at h
  unfold capOK at h
  simpa only [Bool.and_eq_true, decide_eq_true_eq, and_assoc] using h

end Gzx.QRComp
