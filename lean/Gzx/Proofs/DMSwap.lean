/-
  C02 — a context with another codeword list (`Ctx.swap`): the whole-message round trip (DMFullRun, DMFullDispatch) keeps
  its decoder invariant on a "virtual" codeword list of the same length as the real one, which decodes like the real
  one wherever the symbol can end (needed behind the one-codeword EDIFACT unlatch, which the decoder recognises only
  when two more codewords follow).  The symbol capacity and what the rest of the message needs in ASCII do not depend on
  the codewords.
-/
import Gzx.Proofs.DMHighLevel
namespace Gzx.DMHighLevel

def Ctx.swap (c : Ctx) (V : List Nat) : Ctx := { c with cw := V }

theorem capacity_swap (c : Ctx) (V : List Nat) : (c.swap V).capacity = c.capacity := rfl

theorem restNeed_swap (c : Ctx) (V : List Nat) : edifactRestNeed (c.swap V) = edifactRestNeed c := rfl

end Gzx.DMHighLevel
