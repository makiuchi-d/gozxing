/-
  C02: a whole call of the X12 encoder (triplets written as they complete, `x12HandleEOD`: rewind of the
  incomplete triplet, unlatch unless the symbol is exactly used up): `x12_call_reads` (no prefix), `x12_step_post`.
-/
import Gzx.Proofs.DMGeneral
import Gzx.Proofs.DMTriplets
import Gzx.Proofs.DMHandlers
namespace Gzx.DMHighLevel
open Gzx.Det (Sat Only)

/-! ## characters and values -/

/-- the X12 values of a list of characters, if all are X12-native -/
def x12ValsOf : List Nat → Option (List Nat)
  | [] => some []
  | c :: cs =>
    match x12EncodeChar c, x12ValsOf cs with
    | .ok v, some vs => some (v :: vs)
    | _, _ => none

theorem x12EncodeChar_ok {c v : Nat} (h : x12EncodeChar c = .ok v) :
    c < 128 ∧ v < 40 ∧ x12Value (v : Int) = .ok c := by
  have hc : c < 128 := by
    unfold x12EncodeChar at h
    iterate 6
      rcases ite_eq_cases h with ⟨hp, _⟩ | h
      · omega
    cases h
  have hr := x12_chars_roundtrip ⟨c, by omega⟩
  simp only [x12RoundTrips, h, Bool.and_eq_true, decide_eq_true_eq, beq_iff_eq] at hr
  exact ⟨hc, hr.1.2, hr.2⟩

theorem x12ValsOf_spec : ∀ (chars vals : List Nat), x12ValsOf chars = some vals →
    vals.length = chars.length ∧ (∀ v ∈ vals, v < 40) ∧ (∀ c ∈ chars, c < 128) ∧ x12Chars vals = .ok chars := by
  intro chars
  induction chars with
  | nil => intro vals h; cases h; simp [x12Chars]
  | cons c cs ih =>
    intro vals h
    simp only [x12ValsOf] at h
    cases he : x12EncodeChar c with
    | error e => rw [he] at h; simp at h
    | ok v =>
      cases hr : x12ValsOf cs with
      | none => rw [he, hr] at h; simp at h
      | some vs =>
        rw [he, hr] at h
        simp only [Option.some.injEq] at h
        subst h
        obtain ⟨h1, h2, h3⟩ := x12EncodeChar_ok he
        obtain ⟨i1, i2, i3, i4⟩ := ih vs hr
        refine ⟨by simp [i1], ?_, ?_, ?_⟩
        · intro x hx; simp only [List.mem_cons] at hx; rcases hx with rfl | hx; exact h2; exact i2 x hx
        · intro x hx; simp only [List.mem_cons] at hx; rcases hx with rfl | hx; exact h1; exact i3 x hx
        · simp [x12Chars, h3, i4]

theorem x12ValsOf_append_one (chars vals : List Nat) (c v : Nat) (h : x12ValsOf chars = some vals)
    (hc : x12EncodeChar c = .ok v) : x12ValsOf (chars ++ [c]) = some (vals ++ [v]) := by
  induction chars generalizing vals with
  | nil => cases h; simp [x12ValsOf, hc]
  | cons x xs ih =>
    simp only [x12ValsOf] at h
    cases he : x12EncodeChar x with
    | error e => rw [he] at h; simp at h
    | ok w =>
      cases hr : x12ValsOf xs with
      | none => rw [he, hr] at h; simp at h
      | some ws =>
        rw [he, hr] at h
        simp only [Option.some.injEq] at h
        subst h
        simp [x12ValsOf, he, ih ws hr]

theorem x12ValsOf_take (chars vals : List Nat) (n : Nat) (h : x12ValsOf chars = some vals) :
    x12ValsOf (chars.take n) = some (vals.take n) := by
  induction chars generalizing vals n with
  | nil => cases h; simp [x12ValsOf]
  | cons x xs ih =>
    simp only [x12ValsOf] at h
    cases he : x12EncodeChar x with
    | error e => rw [he] at h; simp at h
    | ok w =>
      cases hr : x12ValsOf xs with
      | none => rw [he, hr] at h; simp at h
      | some ws =>
        rw [he, hr] at h
        simp only [Option.some.injEq] at h
        subst h
        cases n with
        | zero => simp [x12ValsOf]
        | succ m => simp [x12ValsOf, he, ih ws m hr]

/-! ## the loop -/

theorem x12EncodeChar_error {ch : Nat} {e : Fault} (h : x12EncodeChar ch = .error e) : e = .writer := by
  unfold x12EncodeChar at h
  repeat' split at h
  all_goals cases h
  rfl

/-- the X12 loop: a WriterException (a character outside the X12 set), or the values of the characters it has
    consumed, written as complete triplets and buffered, and how it ended -/
theorem x12Loop_sat (la : LookAhead) :
    ∀ (fuel : Nat) (c : Ctx) (buf : List Nat) (chars0 vals0 : List Nat),
      buf.length < 3 → c.pos ≤ c.total → x12ValsOf chars0 = some vals0 → c.remaining ≤ fuel →
      Sat (Only .writer) (fun r =>
        ∃ vals, x12ValsOf (chars0 ++ (c.msg.drop c.pos).take (r.1.pos - c.pos)) = some (vals0 ++ vals) ∧
          r.1.cw = c.cw ++ (writeTriplets (buf ++ vals)).1 ∧ r.2 = (writeTriplets (buf ++ vals)).2 ∧
          SameFrame c r.1 ∧ c.pos ≤ r.1.pos ∧ r.1.pos ≤ r.1.total ∧ vals.length = r.1.pos - c.pos ∧
          ((r.1.newEnc = c.newEnc ∧ r.1.hasMore = false) ∨
           (r.1.newEnc = some ASCII ∧ r.2 = [] ∧ la c.msg r.1.pos X12 ≠ X12 ∧ c.pos < r.1.pos)) ∧
          (∀ q, c.pos < q → q < r.1.pos → (buf.length + (q - c.pos)) % 3 = 0 → la c.msg q X12 = X12))
        (x12Loop la fuel c buf) := by
  intro fuel
  induction fuel with
  | zero =>
    intro c buf chars0 vals0 hb hle hv hr
    have hm : c.hasMore = false := by
      simp only [Ctx.remaining] at hr
      rw [hasMore_false_iff]; omega
    simp only [x12Loop, hm, Bool.false_eq_true, if_false]
    exact ⟨[], by simpa using hv, by simp [writeTriplets_short buf hb], by simp [writeTriplets_short buf hb],
      ⟨rfl, rfl, rfl, rfl⟩, Nat.le_refl _, hle, by simp, Or.inl ⟨rfl, hm⟩, fun q h1 (h2 : q < c.pos) => by omega⟩
  | succ n ih =>
    intro c buf chars0 vals0 hb hle hv hr
    simp only [x12Loop]
    by_cases hm : c.hasMore = true
    · simp only [hm, Bool.not_true, Bool.false_eq_true, if_false]
      have hlt : c.pos < c.total := (hasMore_iff c).mp hm
      obtain ⟨ch, hc, hget⟩ := hasMore_cur hm
      have hdrop := drop_eq_cons_of_getElem? hget
      rw [hc]
      simp only [bind, Except.bind]
      cases he : x12EncodeChar ch with
      | error e => exact x12EncodeChar_error he
      | ok v =>
        simp only
        have hv1 := x12ValsOf_append_one chars0 vals0 ch v hv he
        have hle' : ({ c with pos := c.pos + 1 } : Ctx).pos ≤ ({ c with pos := c.pos + 1 } : Ctx).total := by
          simp only [Ctx.total] at hlt ⊢; omega
        have hr' : ∀ cc : Ctx, cc.msg = c.msg → cc.skipAtEnd = c.skipAtEnd → cc.pos = c.pos + 1 → cc.remaining ≤ n := by
          intro cc e1 e2 e3
          simp only [Ctx.remaining, Ctx.total, e1, e2, e3] at hr ⊢
          simp only [Ctx.total] at hlt
          omega
        -- shape of the characters consumed from here on
        have hchars : ∀ p1, c.pos + 1 ≤ p1 →
            chars0 ++ (c.msg.drop c.pos).take (p1 - c.pos)
              = (chars0 ++ [ch]) ++ (c.msg.drop (c.pos + 1)).take (p1 - (c.pos + 1)) := by
          intro p1 hp
          rw [hdrop]
          have : p1 - c.pos = (p1 - (c.pos + 1)) + 1 := by omega
          rw [this, List.take_succ_cons]; simp
        by_cases h3 : (buf ++ [v]).length % 3 = 0
        · -- a triplet is complete
          have hl3 : buf.length = 2 := by simp only [List.length_append, List.length_cons, List.length_nil] at h3; omega
          obtain ⟨x, y, hxy⟩ : ∃ x y, buf = [x, y] := by
            match buf, hl3 with
            | [x, y], _ => exact ⟨x, y, rfl⟩
          subst hxy
          simp only [List.cons_append, List.nil_append, List.length_cons, List.length_nil, Nat.reduceAdd,
            Nat.mod_self, if_true]
          refine Sat.ite (fun hla => ?_) (fun hla => ?_)
          · -- look-ahead leaves X12
            refine ⟨[v], ?_, ?_, ?_, ⟨rfl, rfl, rfl, rfl⟩, by simp [Ctx.signal, Ctx.writeAll],
              by simp only [Ctx.signal, Ctx.writeAll, Ctx.total] at hlt ⊢; omega, by simp [Ctx.signal, Ctx.writeAll],
              Or.inr ⟨rfl, rfl, by simpa [Ctx.signal, Ctx.writeAll] using hla, by simp [Ctx.signal, Ctx.writeAll]⟩,
              fun q h1 h2 => by simp only [Ctx.signal, Ctx.writeAll] at h2; omega⟩
            · have := hchars (c.pos + 1) (Nat.le_refl _)
              simp only [Ctx.signal, Ctx.writeAll]
              rw [this]; simpa using hv1
            · simp [Ctx.signal, Ctx.writeAll, writeTriplets]
            · simp [writeTriplets]
          · simp only [ne_eq, Decidable.not_not] at hla
            refine (ih (({ c with pos := c.pos + 1 } : Ctx).writeAll (packTriplet x y v)) [] (chars0 ++ [ch])
                (vals0 ++ [v]) (by simp) (by simp only [Ctx.writeAll, Ctx.total] at hlt ⊢; omega) hv1
                (hr' _ rfl rfl rfl)).post fun r ⟨vals, i1, i2, i3, i4, i5, i6, i7, i8, i9⟩ => ?_
            simp only [Ctx.writeAll] at i1 i2 i5 i7 i8 i9
            refine ⟨v :: vals, ?_, ?_, ?_, ⟨i4.msg, i4.cfg, i4.skip, i4.sym⟩, by omega, i6, by simp; omega, ?_, ?_⟩
            · rw [hchars r.1.pos i5]; simpa using i1
            · rw [i2]; simp [writeTriplets_cons3, List.append_assoc]
            · rw [i3]; simp [writeTriplets_cons3]
            · rcases i8 with ⟨e1, e2⟩ | ⟨e1, e2, e3, e4⟩
              · exact Or.inl ⟨e1, e2⟩
              · exact Or.inr ⟨e1, e2, e3, by omega⟩
            · intro q h1 h2 hq
              by_cases hq1 : q = c.pos + 1
              · subst hq1; exact hla
              · apply i9 q (by omega) h2
                simp only [List.length_nil] at hq ⊢
                omega
        · -- triplet not complete yet
          have hl3 : buf.length < 2 := by
            simp only [List.length_append, List.length_cons, List.length_nil] at h3; omega
          simp only [h3, if_false]
          refine (ih ({ c with pos := c.pos + 1 } : Ctx) (buf ++ [v]) (chars0 ++ [ch])
              (vals0 ++ [v]) (by simp; omega) hle' hv1 (hr' _ rfl rfl rfl)).post
            fun r ⟨vals, i1, i2, i3, i4, i5, i6, i7, i8, i9⟩ => ?_
          simp only at i1 i2 i5 i7 i8 i9
          refine ⟨v :: vals, ?_, ?_, ?_, ⟨i4.msg, i4.cfg, i4.skip, i4.sym⟩, by omega, i6, by simp; omega, ?_, ?_⟩
          · rw [hchars r.1.pos i5]; simpa using i1
          · rw [i2]; simp [List.append_assoc]
          · rw [i3]; simp [List.append_assoc]
          · rcases i8 with ⟨e1, e2⟩ | ⟨e1, e2, e3, e4⟩
            · exact Or.inl ⟨e1, e2⟩
            · exact Or.inr ⟨e1, e2, e3, by omega⟩
          · intro q h1 h2 hq
            by_cases hq1 : q = c.pos + 1
            · subst hq1
              simp only [List.length_append, List.length_cons, List.length_nil] at h3
              omega
            · apply i9 q (by omega) h2
              simp only [List.length_append, List.length_cons, List.length_nil]
              omega
    · simp only [Bool.not_eq_true] at hm
      simp only [hm, Bool.not_false, if_true]
      exact ⟨[], by simpa using hv, by simp [writeTriplets_short buf hb], by simp [writeTriplets_short buf hb],
        ⟨rfl, rfl, rfl, rfl⟩, Nat.le_refl _, hle, by simp, Or.inl ⟨rfl, hm⟩, fun q h1 (h2 : q < c.pos) => by omega⟩

/-- the oracle does not stay in (or enter) X12 for a last triplet that is followed by one extended character -/
def LaX12Safe (la : LookAhead) (c : Ctx) : Prop :=
  ∀ p ch, p + 4 = c.total → c.msg[p + 3]? = some ch → isExtended ch = true →
    la c.msg p X12 ≠ X12 ∧ la c.msg p ASCII ≠ X12

theorem take_take_drop (l : List Nat) (p n m : Nat) (h : m ≤ n) :
    ((l.drop p).take n).take m = (l.drop p).take m := by
  rw [List.take_take]; congr 1; omega

theorem x12Out_cw (c2 : Ctx) (s : SymbolInfo) (n : Nat) :
    (x12Out c2 s n).cw = c2.cw ++
      (if ({ c2 with pos := c2.pos - n } : Ctx).remaining > 1 ∨ s.cap - c2.count > 1 ∨
          ({ c2 with pos := c2.pos - n } : Ctx).remaining ≠ s.cap - c2.count then [254] else []) := by
  unfold x12Out
  simp only
  split <;> split <;> simp [Ctx.write, Ctx.signal]

/-- A whole call of the X12 encoder, entered behind the latch 238: the codewords it appends are read back as the
    characters it has consumed (those of the complete triplets; an incomplete one is stepped back over), whatever
    follows if the unlatch was written, else for the one codeword at most that the symbol still has.  Nothing is said
    about what precedes the latch. -/
theorem x12_call_reads {T : Tables} {syms : List SymbolInfo} {la : LookAhead} {c c' : Ctx}
    (hlaL : la c.msg c.pos ASCII = X12) (hle : c.pos ≤ c.total)
    (hnew : c.newEnc = none) (hsafe : LaX12Safe la c) (h : x12Encode syms la c = .ok c') :
    ∃ ws chars, CallFrame c c' ws chars ∧ c'.newEnc = some ASCII ∧ ∀ off, CallOut T off 238 c' ws chars 1 := by
  unfold x12Encode at h
  cases hl : x12Loop la c.remaining c [] with
  | error e => rw [hl] at h; simp [bind, Except.bind] at h
  | ok r =>
    obtain ⟨c1, buf1⟩ := r
    rw [hl] at h
    simp only [bind, Except.bind] at h
    obtain ⟨vals, i1, i2, i3, i4, i5, i6, i7, i8, i9⟩ :=
      (x12Loop_sat la c.remaining c [] [] [] (by simp) hle rfl (Nat.le_refl _)).of_ok hl
    simp only [List.nil_append] at i1 i2 i3 i4 i5 i6 i7 i8 i9
    obtain ⟨k, s1, s2, s3, s4, s5, s6⟩ := writeTriplets_split vals
    -- the characters of the complete triplets
    have hv3 := x12ValsOf_take _ _ (3 * k) i1
    obtain ⟨t1, t2, t3, t4⟩ := x12ValsOf_spec _ _ hv3
    have hlen3 : (vals.take (3 * k)).length = 3 * k := by rw [List.length_take]; omega
    have hchars3 : ((c.msg.drop c.pos).take (c1.pos - c.pos)).take (3 * k) = (c.msg.drop c.pos).take (3 * k) :=
      take_take_drop _ _ _ _ (by omega)
    rw [hchars3] at t1 t3 t4 hv3
    have hb1 : buf1.length = vals.length - 3 * k := by rw [i3, s3, List.length_drop]
    obtain ⟨c2, s, hu, hs, hkb, hc'⟩ := x12HandleEOD_ok_iff.1 h
    obtain ⟨ucw, umsg, upos, ucfg, uskip, unew, s', hs', hcap, _⟩ := update_spec hu
    obtain rfl : s = s' := by rw [hs] at hs'; exact Option.some.inj hs'
    have hcount : c2.count = c1.count := by simp [Ctx.count, ucw]
    obtain ⟨f1, f4, f5, f6, f3, _, fn⟩ := x12Out_facts c2 s buf1.length
    have fcw := x12Out_cw c2 s buf1.length
    rw [← hc'] at f1 f3 f4 f5 f6 fn fcw
    have hrem3 : ({ c2 with pos := c2.pos - buf1.length } : Ctx).remaining = c'.remaining := by
      simp [Ctx.remaining, Ctx.total, f1, f3, f5]
    rw [hrem3, hcount] at fcw
    have hpos3 : c'.pos = c.pos + 3 * k := by rw [f3, upos]; omega
    have hmsg3 : c'.msg = c.msg := by rw [f1, umsg, i4.msg]
    have hskip3 : c'.skipAtEnd = c.skipAtEnd := by rw [f5, uskip, i4.skip]
    have hcfg3 : c'.cfg = c.cfg := by rw [f4, ucfg, i4.cfg]
    have hnew3 : c'.newEnc = some ASCII := by
      rw [fn, unew]
      rcases i8 with ⟨e1, _⟩ | ⟨e1, _⟩
      · rw [e1, hnew]; rfl
      · rw [e1]; rfl
    have htot3 : c'.total = c.total := by simp [Ctx.total, hmsg3, hskip3]
    have hle3 : c'.pos ≤ c'.total := by
      rw [htot3, hpos3]
      have : c1.total = c.total := by simp [Ctx.total, i4.msg, i4.skip]
      omega
    have htake3 : c.msg.take c'.pos = c.msg.take c.pos ++ (c.msg.drop c.pos).take (3 * k) := by
      rw [hpos3, take_add_drop_take]
    by_cases hcond : c'.remaining > 1 ∨ s.cap - c1.count > 1 ∨ c'.remaining ≠ s.cap - c1.count
    · -- unlatch written
      rw [if_pos hcond] at fcw
      exact ⟨(writeTriplets (vals.take (3 * k))).1 ++ [254], (c.msg.drop c.pos).take (3 * k),
        ⟨by rw [fcw, ucw, i2, s4, List.append_assoc], hmsg3, hcfg3, hskip3, htake3, by omega, hle3⟩, hnew3,
        fun off => Or.inl (SegReads.of_pushAll (reads_x12_closed T off k _ _ hlen3 t2 t4))⟩
    · -- no unlatch: the symbol is used up except for `k'` codewords = remaining characters
      rw [if_neg hcond, List.append_nil] at fcw
      simp only [not_or, Nat.not_lt, ne_eq, Decidable.not_not] at hcond
      obtain ⟨hr1, ha1, hra⟩ := hcond
      have hgoal : asciiNeed c'.rest ≤ c'.remaining := by
        by_cases hr0 : c'.remaining = 0
        · simp [Ctx.rest, hr0, asciiNeed]
        · have hr1' : c'.remaining = 1 := by omega
          have hlt3 : c'.pos < c.msg.length := by
            simp only [Ctx.remaining, Ctx.total, hmsg3, hskip3] at hr1'; omega
          obtain ⟨lc, hget⟩ : ∃ lc, c.msg[c'.pos]? = some lc := ⟨_, List.getElem?_eq_getElem hlt3⟩
          have hdrop3 := drop_eq_cons_of_getElem? hget
          have hrest1 : c'.rest = [lc] := by
            unfold Ctx.rest; rw [hr1', hmsg3, hdrop3]; rfl
          rw [hrest1, hr1']
          simp only [asciiNeed]
          by_cases hext : isExtended lc = true
          · exfalso
            -- not an X12-native character, so it was not rewound: the look-ahead left X12 right here
            by_cases hb0 : buf1.length = 0
            · rcases i8 with ⟨_, e2⟩ | ⟨_, _, e3, e4⟩
              · -- the loop ran to the end: nothing remains
                have : c1.remaining = 0 := by
                  have := (hasMore_false_iff c1).mp e2
                  simp only [Ctx.remaining]; omega
                have hc31 : c'.remaining = c1.remaining := by
                  simp only [Ctx.remaining, Ctx.total, hmsg3, hskip3, i4.msg, i4.skip, hpos3]
                  omega
                omega
              · have hk1 : 1 ≤ k := by omega
                have hp3 : c'.pos = c1.pos := by omega
                have hpt : (c'.pos - 3) + 4 = c.total := by
                  simp only [Ctx.remaining, htot3] at hr1'; omega
                have hg : c.msg[c'.pos - 3 + 3]? = some lc := by
                  have : c'.pos - 3 + 3 = c'.pos := by omega
                  rw [this]; exact hget
                obtain ⟨n1, n2⟩ := hsafe (c'.pos - 3) _ hpt hg hext
                by_cases hq : c'.pos - 3 = c.pos
                · rw [hq] at n2; exact n2 hlaL
                · exact n1 (i9 (c'.pos - 3) (by omega) (by omega) (by simp; omega))
            · -- a rewound character is X12-native
              have hmem : lc ∈ (c.msg.drop c.pos).take (c1.pos - c.pos) := by
                rw [List.mem_iff_getElem?]
                refine ⟨3 * k, ?_⟩
                rw [List.getElem?_take_of_lt (by omega), List.getElem?_drop, ← hpos3]
                exact hget
              obtain ⟨_, _, hall, _⟩ := x12ValsOf_spec _ _ i1
              have := hall _ hmem
              simp only [isExtended, Bool.and_eq_true, decide_eq_true_eq] at hext
              omega
          · simp [hext]
      have hcnt : c'.count = c1.count := by simp [Ctx.count, fcw, ucw]
      exact ⟨(writeTriplets (vals.take (3 * k))).1, (c.msg.drop c.pos).take (3 * k),
        ⟨by rw [fcw, ucw, i2, s4], hmsg3, hcfg3, hskip3, htake3, by omega, hle3⟩, hnew3,
        fun off => Or.inr ⟨c'.remaining, hr1,
          (SegReads.of_pushAll (reads_x12_open T off k _ _ hlen3 t2 t4)).mono (fun _ hs => by omega),
          ⟨s, by rw [f6]; exact hs, by rw [hcnt]; omega⟩, hgoal⟩⟩

/-- `dm_encoder_invariant`, X12: a whole call of the X12 encoder, started right after the latch 238, ends with
    the invariant (unlatch written) or in a tail state (symbol exactly used up / one codeword left for the
    one remaining character). -/
theorem x12_step_post {T : Tables} {syms : List SymbolInfo} {la : LookAhead} {c c' : Ctx} {a : Acc}
    (hL : LatchedM T X12 238 la c a) (hle : c.pos ≤ c.total)
    (hnew : c.newEnc = none) (hsafe : LaX12Safe la c) (h : x12Encode syms la c = .ok c') :
    ∃ a', a'.trailer = a.trailer ∧ c'.msg = c.msg ∧ c'.cfg = c.cfg ∧ c'.skipAtEnd = c.skipAtEnd ∧
      c.pos ≤ c'.pos ∧ c'.pos ≤ c'.total ∧ c'.newEnc = some ASCII ∧
      (Inv T c' a' ∨ ∃ k, k ≤ 1 ∧ Tail T c' a' k) := by
  have hlaL : la c.msg c.pos ASCII = X12 := by obtain ⟨_, _, _, _, _, e⟩ := hL; exact e
  obtain ⟨ws, chars, hF, hn, hout⟩ := x12_call_reads (T := T) hlaL hle hnew hsafe h
  exact step_post_of_reads hL hF hn hout

end Gzx.DMHighLevel
