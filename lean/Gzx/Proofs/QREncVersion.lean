/-
  wp `qrenc` — version choice of the mirror (`chooseVersion` loop, two-pass `recommendVersion`; the model of
  C13, `Gzx.QRVersionChoice`, instantiated with the reference tables) = the smallest version that fits by the
  reference's `fitsBits` (`QRRef.minVersion`): links C13's `recommend_is_min` to the reference encoder.
-/
import Gzx.Model.QREncMirror
import Gzx.Properties.C13
namespace Gzx.QREnc
open Gzx Gzx.QRRef Gzx.QRVersionChoice

def rowFacts (v : Nat) (ec : EC) : Bool :=
  decide (rowOf refTables v = versionInfo v) &&
  decide (dataBytes refTables v ec = ((dataCodewords v ec : Nat) : Int)) &&
  Mode.all.all (fun m => cbOf refTables m v == countBits m v)

theorem rowFacts_all : ∀ v ∈ List.range 40, ∀ ec ∈ EC.all, rowFacts (v + 1) ec = true := by decide +kernel

theorem row_facts (v : Nat) (h1 : 1 ≤ v) (h40 : v ≤ 40) (ec : EC) (m : Mode) :
    rowOf refTables v = versionInfo v ∧ dataBytes refTables v ec = ((dataCodewords v ec : Nat) : Int) ∧
      cbOf refTables m v = countBits m v := by
  have h := rowFacts_all (v - 1) (List.mem_range.mpr (by omega)) ec (mem_EC_all ec)
  rw [show v - 1 + 1 = v by omega] at h
  unfold rowFacts at h
  simp only [Bool.and_eq_true, decide_eq_true_eq, List.all_eq_true, beq_iff_eq] at h
  exact ⟨h.1.1, h.1.2, h.2 m (mem_Mode_all m)⟩

theorem fits_eq_fitsBits (v : Nat) (h1 : 1 ≤ v) (h40 : v ≤ 40) (ec : EC) (m : Mode) (hdr data : Nat) :
    Gzx.Properties.C13.fits refTables ec m hdr data v = fitsBits v ec m hdr data := by
  obtain ⟨_, hd, hc⟩ := row_facts v h1 h40 ec m
  unfold Gzx.Properties.C13.fits Gzx.Properties.C13.bitsNeeded fitsBytes fitsBits
  rw [hd, hc]
  rw [Bool.eq_iff_iff]
  simp only [decide_eq_true_eq]
  omega

theorem find?_congr' {α} {p q : α → Bool} : ∀ (l : List α), (∀ a ∈ l, p a = q a) → l.find? p = l.find? q
  | [], _ => rfl
  | a :: l, h => by
    rw [List.find?_cons, List.find?_cons, h a List.mem_cons_self,
      find?_congr' l (fun x hx => h x (List.mem_cons_of_mem _ hx))]

theorem minFit_eq_minVersion (ec : EC) (m : Mode) (hdr data : Nat) :
    Gzx.Properties.C13.minFit refTables ec m hdr data = minVersion ec m hdr data := by
  unfold Gzx.Properties.C13.minFit minVersion
  apply find?_congr'
  intro v hv
  simp only [List.mem_map, List.mem_range] at hv
  obtain ⟨i, hi, rfl⟩ := hv
  exact fits_eq_fitsBits (i + 1) (by omega) (by omega) ec m hdr data

theorem recommendVersion_eq_min (ec : EC) (m : Mode) (hdr data : Nat) :
    recommendVersion tables ec m hdr data =
      match minVersion ec m hdr data with
      | some v => .ok (versionInfo v)
      | none => .error .writer := by
  have h := Gzx.Properties.C13.recommend_is_min refTables Gzx.Properties.C13.ref_wf Gzx.Properties.C13.ref_mono ec m hdr data
  rw [minFit_eq_minVersion] at h
  show recommendVersion refTables ec m hdr data = _
  rw [h]
  cases hm : minVersion ec m hdr data with
  | none => rfl
  | some v =>
    simp only
    have hv := List.find?_some hm
    have hmem := List.mem_of_find?_eq_some hm
    simp only [List.mem_map, List.mem_range] at hmem
    obtain ⟨i, hi, rfl⟩ := hmem
    rw [(row_facts (i + 1) (by omega) (by omega) ec m).1]

theorem minVersion_range {ec : EC} {m : Mode} {hdr data v : Nat} (h : minVersion ec m hdr data = some v) :
    1 ≤ v ∧ v ≤ 40 ∧ fitsBits v ec m hdr data = true := by
  have hv := List.find?_some h
  have hmem := List.mem_of_find?_eq_some h
  simp only [List.mem_map, List.mem_range] at hmem
  obtain ⟨i, hi, rfl⟩ := hmem
  exact ⟨by omega, by omega, hv⟩

end Gzx.QREnc
