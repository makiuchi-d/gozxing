/-
  The glue lemmas of the composed image path:
  * the luminance source built from a picture hands `GetBlackRow` row `y` of the picture (as 0 / 255);
  * a picture whose rows are all one rendered row (white border pixels): every black row IS that row, and the
    BitMatrix the renderer returns is such a picture;
  * `decodeImage` (OneDReader.Decode) returns what `DecodeRow` makes of the middle row and of its reverse, whenever
    those two answers decide (`verdict`): upright (no orientation), from the reversed row (ORIENTATION 180), or a
    failure that is not a reader exception.
-/
import Gzx.Model.Image1D
import Gzx.Proofs.Image1DBin
import Gzx.Proofs.Image1DRender
import Gzx.Properties.C09
import Gzx.Proofs.ListGrid
namespace Gzx.Image1DScan
open Gzx Gzx.Image1D Gzx.Image1DBin Gzx.Luminance Gzx.OneD

theorem lumOfPixel_eq (b : Bool) : lumOfPixel b = ImagePath.grayAt b := by cases b <;> decide

/-- a picture is well-formed: `h` rows of `w` pixels -/
structure Pic.WF (p : Pic) : Prop where
  nrows : p.rows.length = p.h
  width : ∀ r ∈ p.rows, r.length = p.w

theorem ofPic_wf (binz : Binz) (p : Pic) (hp : Pic.WF p) : (Bitmap.ofPic binz p).src.WF := by
  unfold Bitmap.ofPic
  apply Properties.C17.ofLuminances_wf
  · rw [List.length_map, flatten_length_const p.rows p.w hp.width, hp.nrows]
  · intro q hq
    obtain ⟨b, _, rfl⟩ := List.mem_map.mp hq
    cases b <;> decide

theorem getBlackRow_ofPic (binz : Binz) (p : Pic) (hp : Pic.WF p) (y : Nat) (hy : y < p.h) (r : List Bool)
    (hr : p.rows[y]? = some r) :
    (Bitmap.ofPic binz p).getBlackRow y = Binarizer.blackRow (r.map ImagePath.grayAt) := by
  have hwf := ofPic_wf binz p hp
  have hh : (Bitmap.ofPic binz p).src.h = p.h := rfl
  unfold Bitmap.getBlackRow Luminance.getRow
  rw [baseGetRow_ok _ hwf y (by rw [hh]; exact hy) none]
  have hinv : (Bitmap.ofPic binz p).src.inv = false := rfl
  simp only [bind, Except.bind, hinv, Bool.false_eq_true, if_false, bufTail, List.append_nil]
  congr 1
  -- row y of the flat array
  have hrows : ∀ r' ∈ p.rows.map (List.map lumOfPixel), r'.length = p.w := by
    intro r' hr'
    obtain ⟨r'', hr'', rfl⟩ := List.mem_map.mp hr'
    simp [hp.width r'' hr'']
  have hun := unflatten (p.rows.map (List.map lumOfPixel)) p.w hrows
  have hy' : y < (p.rows.map (List.map lumOfPixel)).length := by simp [hp.nrows, hy]
  have := congrArg (fun l => l[y]?) hun
  simp only [List.getElem?_map, List.getElem?_range hy', Option.map_some, hr] at this
  simp only [View.baseRow, Bitmap.ofPic, ofLuminances, Nat.add_zero, List.map_flatten]
  have e := Option.some.inj this
  rw [e]
  apply List.map_congr_left
  intro b _
  exact lumOfPixel_eq b

/-- `h` copies of one row -/
def uniform (row : List Bool) (h : Nat) : Pic := ⟨row.length, h, List.replicate h row⟩

theorem uniform_wf (row : List Bool) (h : Nat) : Pic.WF (uniform row h) :=
  ⟨by simp [uniform], by intro r hr; simp only [uniform] at hr ⊢; rw [(List.mem_replicate.mp hr).2]⟩

theorem getBlackRow_uniform (binz : Binz) (row : List Bool) (h y : Nat) (hy : y < h) (hw : WhiteEnds row) :
    (Bitmap.ofPic binz (uniform row h)).getBlackRow y = .ok row := by
  rw [getBlackRow_ofPic binz _ (uniform_wf row h) y hy row (by simp [uniform, hy])]
  exact Image1DBin.blackRow_bits row hw

theorem paddedRow_whiteEnds (lq s rq : Nat) (mods : List Bool) (hl : 1 ≤ lq) (hr : 1 ≤ rq) :
    WhiteEnds (paddedRow lq s rq mods) := by
  unfold paddedRow
  constructor
  · obtain ⟨k, rfl⟩ : ∃ k, lq = k + 1 := ⟨lq - 1, by omega⟩
    simp [List.replicate_succ]
  · obtain ⟨k, rfl⟩ : ∃ k, rq = k + 1 := ⟨rq - 1, by omega⟩
    rw [List.replicate_succ', ← List.append_assoc]
    simp

/-- the written picture; margin ≥ 2: at least one white pixel on either side -/
theorem written_pic (mods : List Bool) (hne : 1 ≤ mods.length) (width height m : Nat) (hm : 2 ≤ m) :
    ∃ img lq s rq, Render.render1D mods (width : Int) (height : Int) (m : Int) = .ok img ∧
      renderRow mods width m = .ok (paddedRow lq s rq mods) ∧
      Pic.ofImage img = uniform (paddedRow lq s rq mods) (max 1 height) ∧
      Image1DRender.Geom m width lq s rq ∧ WhiteEnds (paddedRow lq s rq mods) := by
  obtain ⟨img, lq, s, rq, himg, hrow, g, hw, hh, hrows⟩ :=
    Image1DRender.render1D_rows mods hne width height m
  have h2s : 2 * s ≤ m * s := Nat.mul_le_mul_right s hm
  have hs := g.scale
  have hq := g.quiet
  have hc := g.centred
  refine ⟨img, lq, s, rq, himg, hrow, ?_, g, paddedRow_whiteEnds lq s rq mods (by omega) (by omega)⟩
  unfold Pic.ofImage uniform
  rw [hw, hh, Image1DRender.length_paddedRow]
  simp only [Int.toNat_natCast, Pic.mk.injEq, true_and]
  unfold Render.Image.rows
  rw [hh, Int.toNat_natCast]
  apply List.ext_getElem?
  intro i
  by_cases hi : i < max 1 height
  · rw [List.getElem?_map, List.getElem?_range hi, List.getElem?_replicate, if_pos hi]
    simp only [Option.map_some]
    rw [hrows (i : Int) (by omega) (by rw [hh]; omega)]
  · rw [List.getElem?_eq_none (by simpa using hi), List.getElem?_eq_none (by simpa using hi)]

/-! ## the scan -/

theorem blackOf_ok (b : Bitmap) (rn : Nat) (bits : List Bool) (h : b.getBlackRow rn = .ok bits) : blackOf b rn = true := by
  simp [blackOf, h]

/-- what `doDecode` makes of one row given `DecodeRow`'s answers on the row and on its reverse (`none`: next row) -/
def verdict {R : Type} (fwd bwd : Res R) : Option (Res (R × Bool)) :=
  match fwd with
  | .ok r => some (.ok (r, false))
  | .error e =>
    if !OneDScan.isReaderException e then some (.error e)
    else match bwd with
      | .ok r => some (.ok (r, true))
      | .error e' => if !OneDScan.isReaderException e' then some (.error e') else none

def foundAt {R : Type} (row : Nat) (p : R × Bool) : Found R :=
  ⟨p.1, row, p.2, false, if p.2 then some 180 else none⟩

/-- a hit of the upright scan is fetched from the upright bitmap -/
theorem decodeImage_of_hit {R : Type} (rd : Int → List Bool → Res R) (b : Bitmap) (th : Bool) (hit : OneDScan.Hit)
    (hs : OneDScan.doDecode b.src.w b.src.h th (blackOf b) (decOf rd b) = .ok hit) (hr : isRotated hit = false) :
    decodeImage rd b th = fetch rd b b hit := by
  have hf : ∀ b', fetch rd b b' hit = fetch rd b b hit := fun b' => by simp only [fetch, hr, Bool.false_eq_true, if_false]
  unfold decodeImage
  cases b.rotate with
  | error e => simp only [hs]
  | ok b' => simp only [OneDScan.decode, hs, hf]

/-- a failure of the upright scan other than NotFound is final -/
theorem decodeImage_of_abort {R : Type} (rd : Int → List Bool → Res R) (b : Bitmap) (th : Bool) (e : Fault)
    (hs : OneDScan.doDecode b.src.w b.src.h th (blackOf b) (decOf rd b) = .error e)
    (he : OneDScan.isReaderException e = false) : decodeImage rd b th = .error e := by
  have hne : e ≠ .notFound := by intro h; subst h; cases he
  unfold decodeImage
  cases b.rotate with
  | error e' => simp only [hs]
  | ok b' => simp only [OneDScan.decode, hs, hne, ne_eq, not_false_eq_true, if_true]

/-- **the middle row decides**, whenever `DecodeRow`'s answers on it and on its reverse do -/
theorem decodeImage_verdict {R : Type} (rd : Int → List Bool → Res R) (b : Bitmap) (th : Bool)
    (hh : 0 < b.src.h) (bits : List Bool) (hbits : b.getBlackRow (b.src.h / 2) = .ok bits) (v : Res (R × Bool))
    (hv : verdict (rd ((b.src.h / 2 : Nat) : Int) bits) (rd ((b.src.h / 2 : Nat) : Int) bits.reverse) = some v) :
    decodeImage rd b th = v.map (foundAt (b.src.h / 2)) := by
  have hatt : ∀ rev, attempt rd b (b.src.h / 2) rev = rd ((b.src.h / 2 : Nat) : Int) (if rev then bits.reverse else bits) :=
    fun rev => by simp only [attempt, hbits]
  have hkey : ∀ rev, attemptKey (b.src.h / 2) rev / 2 = b.src.h / 2 ∧ (attemptKey (b.src.h / 2) rev % 2 == 1) = rev := by
    intro rev; cases rev <;> simp [attemptKey] <;> omega
  obtain ⟨rest, hscan⟩ := Properties.C09.doDecode_middle b.src.w b.src.h th (blackOf b) (decOf rd b) hh (blackOf_ok b _ bits hbits)
  simp only [OneDScan.scanRow, decOf, hatt, Bool.false_eq_true, if_false, if_true] at hscan
  unfold verdict at hv
  cases h0 : rd ((b.src.h / 2 : Nat) : Int) bits with
  | ok r =>
    simp only [h0] at hv hscan; cases hv
    rw [decodeImage_of_hit rd b th _ hscan rfl]
    simp only [fetch, isRotated, hkey, hatt, Bool.false_eq_true, if_false, h0]; rfl
  | error e =>
    simp only [h0] at hv hscan
    cases he : OneDScan.isReaderException e with
    | false =>
      simp only [he, Bool.not_false, if_true] at hv hscan; cases hv
      exact decodeImage_of_abort rd b th e hscan he
    | true =>
      simp only [he, Bool.not_true, Bool.false_eq_true, if_false] at hv hscan
      cases h1 : rd ((b.src.h / 2 : Nat) : Int) bits.reverse with
      | ok r =>
        simp only [h1] at hv hscan; cases hv
        rw [decodeImage_of_hit rd b th _ hscan rfl]
        simp only [fetch, isRotated, hkey, hatt, Bool.false_eq_true, if_false, if_true, h1]; rfl
      | error e' =>
        simp only [h1] at hv hscan
        cases he' : OneDScan.isReaderException e' with
        | true => simp [he'] at hv
        | false =>
          simp only [he', Bool.not_false, if_true] at hv hscan; cases hv
          exact decodeImage_of_abort rd b th e' hscan he'

/-- the same on a picture of identical rows with white border pixels -/
theorem decodeImage_uniform {R : Type} (rd : Int → List Bool → Res R) (binz : Binz) (row : List Bool) (hw : WhiteEnds row)
    (H : Nat) (hH : 0 < H) (th : Bool) (v : Res (R × Bool))
    (hv : verdict (rd ((H / 2 : Nat) : Int) row) (rd ((H / 2 : Nat) : Int) row.reverse) = some v) :
    decodeImage rd (Bitmap.ofPic binz (uniform row H)) th = v.map (foundAt (H / 2)) :=
  decodeImage_verdict rd (Bitmap.ofPic binz (uniform row H)) th hH row
    (getBlackRow_uniform binz row H (H / 2) (by omega) hw) v hv

/-! ## `readImage` is the scan over `rowRead` -/

def Found.map {R S : Type} (g : R → S) (f : Found R) : Found S := ⟨g f.res, f.row, f.reversed, f.rotated, f.orientation⟩

theorem attempt_map {R S : Type} (g : R → S) (rd : Int → List Bool → Res R) (b : Bitmap) (rn : Nat) (rev : Bool) :
    attempt (fun rn row => (rd rn row).map g) b rn rev = (attempt rd b rn rev).map g := by
  unfold attempt
  cases b.getBlackRow rn <;> rfl

theorem decOf_map {R S : Type} (g : R → S) (rd : Int → List Bool → Res R) (b : Bitmap) :
    decOf (fun rn row => (rd rn row).map g) b = decOf rd b := by
  funext rn rev
  unfold decOf
  rw [attempt_map]
  cases attempt rd b rn rev <;> rfl

theorem fetch_map {R S : Type} (g : R → S) (rd : Int → List Bool → Res R) (b b' : Bitmap) (h : OneDScan.Hit) :
    fetch (fun rn row => (rd rn row).map g) b b' h = (fetch rd b b' h).map (Found.map g) := by
  unfold fetch
  simp only [attempt_map]
  cases attempt rd (if isRotated h = true then b' else b) (h.text / 2) (h.text % 2 == 1) <;> rfl

theorem decodeImage_map {R S : Type} (g : R → S) (rd : Int → List Bool → Res R) (b : Bitmap) (th : Bool) :
    decodeImage (fun rn row => (rd rn row).map g) b th = (decodeImage rd b th).map (Found.map g) := by
  unfold decodeImage
  simp only [decOf_map, fetch_map]
  cases b.rotate with
  | error e =>
    simp only []
    cases OneDScan.doDecode b.src.w b.src.h th (blackOf b) (decOf rd b) with
    | ok hit => rfl
    | error e' =>
      cases e' <;> simp only [] <;> try rfl
      split <;> rfl
  | ok b' =>
    simp only []
    cases OneDScan.decode b.src.w b.src.h th (isRotateSupported b.src) (blackOf b) (decOf rd b) (blackOf b') (decOf rd b') <;> rfl

theorem readImage_generic (E : Env) (sym : Sym) (ext39 : Bool) (b : Bitmap) (th : Bool) :
    readImage E sym ext39 b th =
      match decodeImage (rowRead E ext39 (scanSym sym)) b th with
      | .error e => .error e
      | .ok f =>
        match finishRead sym f.res with
        | .error e => .error e
        | .ok r => .ok ⟨r.1, r.2, f.row, f.reversed, f.rotated, f.orientation⟩ := by
  cases sym
  case upca =>
    simp only [readImage, scanSym]
    rw [show rowRead E ext39 .ean13 = fun rn row => (upcRow E .ean13 rn row).map (fun r => (Sym.ofEan r.format, r.text)) from rfl,
      decodeImage_map]
    cases decodeImage (upcRow E .ean13) b th with
    | error e => rfl
    | ok f =>
      simp only [Except.map, Found.map, finishRead, OneDRowExt.maybeReturnResult]
      cases f.res.text with
      | nil => rfl
      | cons c rest =>
        by_cases hc : c = 48 <;> simp [hc, readOfUpc, Sym.ofEan]
  all_goals
    simp only [readImage, scanSym]
    unfold rowRead
    simp only [decodeImage_map]
    cases decodeImage _ b th <;> rfl

end Gzx.Image1DScan
