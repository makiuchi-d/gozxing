/-
  Totality lemmas for the multi QR detector model (Gzx/Model/DetMulti.lean).
-/
import Gzx.Model.DetMulti
import Gzx.Proofs.DetQRDetector
namespace Gzx.Det.Multi
open Gzx Gzx.Det Gzx.Det.QR

theorem idx_sat {α : Type} {E : Fault → Prop} (l : List α) (i : Int) (h0 : 0 ≤ i) (h1 : i < l.length) :
    Sat E (fun _ => True) (idx l i) := by
  unfold idx
  have : ¬ i < 0 := by omega
  simp only [this, if_false]
  have h2 : i.toNat < l.length := by omega
  rw [List.getElem?_eq_getElem h2]
  exact Sat.ok trivial

/-! ## the scan -/

def MInv {F : Type} (s : MScan F) : Prop := s.sc.NonNeg ∧ 0 ≤ s.cur ∧ s.cur ≤ 4

theorem mPixelStep_sat {F : Type} (o : FOps F) {rd : Reader} (hrd : Total rd) (maxI maxJ i : Int) (s : MScan F) (j : Int)
    (hs : MInv s) : Sat NoFault MInv (mPixelStep o rd maxI maxJ i s j) := by
  obtain ⟨hnn, hc0, hc4⟩ := hs
  unfold mPixelStep
  refine Sat.then (hrd.sat trivial) fun b => Sat.ite (fun _ => ?_) fun _ => Sat.ite (fun heven =>
    Sat.ite (fun h4 => Sat.ite (fun _ => ?_) fun _ => ?_) fun h4 => ?_) fun hodd => ?_
  · exact Sat.bind (SC5.inc_sat s.sc _ (by split <;> omega) (by split <;> omega) hnn) fun sc hsc =>
      Sat.ok ⟨hsc, by simp only []; split <;> omega, by simp only []; split <;> omega⟩
  · exact Sat.then (handlePossibleCenter_sat o hrd maxI maxJ s.fs s.sc i j) fun ⟨confirmed, fs⟩ =>
      Sat.ite (fun _ => Sat.ok ⟨SC5.zero_nonneg, by simp only []; omega, by simp only []; omega⟩)
        fun _ => Sat.ok ⟨SC5.shift2_nonneg _ hnn, by simp only []; omega, by simp only []; omega⟩
  · exact Sat.ok ⟨SC5.shift2_nonneg _ hnn, by simp only []; omega, by simp only []; omega⟩
  · exact Sat.bind (SC5.inc_sat s.sc _ (by omega) (by omega) hnn) fun sc hsc =>
      Sat.ok ⟨hsc, by simp only []; omega, by simp only []; omega⟩
  · exact Sat.bind (SC5.inc_sat s.sc _ hc0 hc4 hnn) fun sc hsc => Sat.ok ⟨hsc, hc0, hc4⟩

theorem mRowLoop_sat {F : Type} (o : FOps F) {rd : Reader} (hrd : Total rd) (maxI maxJ i : Int) :
    ∀ (n : Nat) (j : Int) (s : MScan F), MInv s → Sat NoFault MInv (mRowLoop o rd maxI maxJ i n j s)
  | 0, _, _, hs => Sat.ok hs
  | n + 1, j, s, hs => by
    unfold mRowLoop
    exact Sat.bind (mPixelStep_sat o hrd maxI maxJ i s j hs) (mRowLoop_sat o hrd maxI maxJ i n (j + 1))

attribute [local irreducible] handlePossibleCenter in
theorem mScanRow_sat {F : Type} (o : FOps F) {rd : Reader} (hrd : Total rd) (maxI maxJ i : Int) (fs : FS F) :
    Sat NoFault (fun _ => True) (mScanRow o rd maxI maxJ i fs) := by
  unfold mScanRow
  exact Sat.then (mRowLoop_sat o hrd maxI maxJ i _ 0 _ ⟨SC5.zero_nonneg, by simp only []; omega, by simp only []; omega⟩)
    fun s => Sat.ite (fun _ => Sat.then (handlePossibleCenter_sat o hrd maxI maxJ _ _ _ _) fun p => Sat.ok trivial)
      fun _ => Sat.ok trivial

attribute [local irreducible] mScanRow in
theorem mRowsLoop_sat {F : Type} (o : FOps F) {rd : Reader} (hrd : Total rd) (maxI maxJ iSkip : Int) (hsk : 1 ≤ iSkip) :
    ∀ (n : Nat) (i : Int) (fs : FS F), (maxI - i).toNat < n →
      Sat NoFault (fun _ => True) (mRowsLoop o rd maxI maxJ iSkip n i fs)
  | 0, _, _, h => absurd h (Nat.not_lt_zero _)
  | n + 1, i, fs, h => by
    unfold mRowsLoop
    exact Sat.ite (fun hi => Sat.then (mScanRow_sat o hrd maxI maxJ i fs) fun fs' =>
      mRowsLoop_sat o hrd maxI maxJ iSkip hsk n (i + iSkip) fs' (by omega)) fun _ => Sat.ok trivial

/-- the scan of `FindMulti` is total: `stateCount[currentState]` always has `0 ≤ currentState ≤ 4`; the
    row loop ends within `maxI` rounds because `iSkip ≥ 3` -/
theorem findMultiScan_sat {F : Type} (o : FOps F) {rd : Reader} (hrd : Total rd) (maxI maxJ : Int) (tryHarder : Bool) :
    Sat NoFault (fun _ => True) (findMultiScan o rd maxI maxJ tryHarder) := by
  unfold findMultiScan
  simp only []
  have hsk : 3 ≤ rowStep maxI tryHarder := by
    unfold rowStep
    simp only []
    split <;> omega
  exact Sat.then (mRowsLoop_sat o hrd maxI maxJ _ (by omega) _ _ _ (by omega)) fun fs => Sat.ok trivial

/-! ## the selection loops -/

theorem loop3_sat {F : Type} (o : FOps F) (cs : List (FP F)) (p1 p2 : FP F) :
    ∀ (n : Nat) (i3 : Int) (acc : List (Triple F)), (n ≠ 0 → 0 ≤ i3 ∧ i3 + n ≤ cs.length) →
      Sat NoFault (fun _ => True) (loop3 o cs p1 p2 n i3 acc)
  | 0, _, _, _ => Sat.ok trivial
  | n + 1, i3, acc, h => by
    have h' := h (by omega)
    have next := fun acc' => loop3_sat o cs p1 p2 n (i3 + 1) acc' (fun _ => ⟨by omega, by omega⟩)
    unfold loop3
    refine Sat.then (idx_sat cs i3 h'.1 (by omega)) fun p3 => Sat.ite (fun _ => Sat.ok trivial) fun _ => ?_
    cases tripleOK o p1 p2 p3 with
    | some t => exact next _
    | none => exact next _

attribute [local irreducible] loop3 in
theorem loop2_sat {F : Type} (o : FOps F) (cs : List (FP F)) (size : Int) (hsize : size = cs.length) (p1 : FP F) :
    ∀ (n : Nat) (i2 : Int) (acc : List (Triple F)), (n ≠ 0 → 0 ≤ i2 ∧ i2 + n ≤ size - 1) →
      Sat NoFault (fun _ => True) (loop2 o cs size p1 n i2 acc)
  | 0, _, _, _ => Sat.ok trivial
  | n + 1, i2, acc, h => by
    have h' := h (by omega)
    unfold loop2
    exact Sat.then (idx_sat cs i2 h'.1 (by omega)) fun p2 => Sat.ite (fun _ => Sat.ok trivial) fun _ =>
      Sat.then (loop3_sat o cs p1 p2 _ (i2 + 1) acc (fun _ => ⟨by omega, by omega⟩)) fun acc' =>
        loop2_sat o cs size hsize p1 n (i2 + 1) acc' (fun _ => ⟨by omega, by omega⟩)

attribute [local irreducible] loop2 in
theorem loop1_sat {F : Type} (o : FOps F) (cs : List (FP F)) (size : Int) (hsize : size = cs.length) :
    ∀ (n : Nat) (i1 : Int) (acc : List (Triple F)), (n ≠ 0 → 0 ≤ i1 ∧ i1 + n ≤ size - 2) →
      Sat NoFault (fun _ => True) (loop1 o cs size n i1 acc)
  | 0, _, _, _ => Sat.ok trivial
  | n + 1, i1, acc, h => by
    have h' := h (by omega)
    unfold loop1
    exact Sat.then (idx_sat cs i1 h'.1 (by omega)) fun p1 =>
      Sat.then (loop2_sat o cs size hsize p1 _ (i1 + 1) acc (fun _ => ⟨by omega, by omega⟩)) fun acc' =>
        loop1_sat o cs size hsize n (i1 + 1) acc' (fun _ => ⟨by omega, by omega⟩)

attribute [local irreducible] loop1 in
/-- `selectMultipleBestPatterns` for ANY list of centres and ANY `sort` that keeps the length (a
    permutation does): every `possibleCenters[i]` access is in range; NotFound or at least one triple -/
theorem selectMultipleBestPatterns_sat {F : Type} (o : FOps F) (sort : List (FP F) → List (FP F))
    (hsort : ∀ l, (sort l).length = l.length) (centers : List (FP F)) :
    Sat OnlyNotFound (fun ts => 0 < ts.length) (selectMultipleBestPatterns o sort centers) := by
  unfold selectMultipleBestPatterns
  refine Sat.ite (fun _ => rfl) fun h3 => Sat.ite (fun he => ?_) fun he => ?_
  · exact Sat.then (idx_sat centers 0 (by omega) (by omega)) fun a =>
      Sat.then (idx_sat centers 1 (by omega) (by omega)) fun b =>
        Sat.then (idx_sat centers 2 (by omega) (by omega)) fun c => Sat.ok (Nat.zero_lt_one)
  · exact Sat.then (Sat.lift (loop1_sat o (sort centers) centers.length (by rw [hsort]) _ 0 []
      (fun _ => ⟨by omega, by omega⟩))) fun results => Sat.ite (fun hpos => Sat.ok hpos) fun _ => rfl

attribute [local irreducible] selectMultipleBestPatterns in
theorem selectAndOrder_sat {F : Type} (o : FOps F) (sort : List (FP F) → List (FP F))
    (hsort : ∀ l, (sort l).length = l.length) (centers : List (FP F)) :
    Sat OnlyNotFound (fun ts => 0 < ts.length) (selectAndOrder o sort centers) := by
  unfold selectAndOrder
  exact Sat.bind (selectMultipleBestPatterns_sat o sort hsort centers) fun ts hts =>
    Sat.ok (by simpa using hts)

/-! ## DetectMulti -/

attribute [local irreducible] locate in
theorem detectMultiLoop_sat {F : Type} (o : FOps F) {rd : Reader} (hrd : Total rd) (w h : Int) :
    ∀ (ts : List (Triple F)), Sat NoFault
      (fun ls => ∀ l ∈ ls, Int.tmod l.dimension 4 = 1 ∧ 21 ≤ l.dimension ∧ l.dimension ≤ 177)
      (detectMultiLoop o rd w h ts)
  | [] => Sat.ok (by simp)
  | (bl, tl, tr) :: ts => by
    have ih := detectMultiLoop_sat o hrd w h ts
    unfold detectMultiLoop
    rcases (locate_sat o hrd w h tl tr bl).cases with ⟨l, hr, hl⟩ | ⟨e, hr, rfl | rfl⟩ <;> rw [hr]
    · exact Sat.bind ih fun ls hls => Sat.ok (List.forall_mem_cons.mpr ⟨hl, hls⟩)
    · exact ih
    · exact ih

attribute [local irreducible] selectAndOrder detectMultiLoop in
theorem detectMultiFrom_sat {F : Type} (o : FOps F) (sort : List (FP F) → List (FP F))
    (hsort : ∀ l, (sort l).length = l.length) {rd : Reader} (hrd : Total rd) (w h : Int) (centers : List (FP F)) :
    Sat OnlyNotFound (fun ls => ∀ l ∈ ls, Int.tmod l.dimension 4 = 1 ∧ 21 ≤ l.dimension ∧ l.dimension ≤ 177)
      (detectMultiFrom o sort rd w h centers) := by
  unfold detectMultiFrom
  rcases (selectAndOrder_sat o sort hsort centers).cases with ⟨infos, hr, _⟩ | ⟨e, hr, rfl⟩ <;> rw [hr]
  · exact Sat.ite (fun _ => rfl) fun _ => Sat.lift (detectMultiLoop_sat o hrd w h infos)
  · exact rfl

attribute [local irreducible] findMultiScan detectMultiFrom in
theorem detectMulti_sat {F : Type} (o : FOps F) (sort : List (FP F) → List (FP F))
    (hsort : ∀ l, (sort l).length = l.length) {rd : Reader} (hrd : Total rd) (w h : Int) (tryHarder : Bool) :
    Sat OnlyNotFound (fun ls => ∀ l ∈ ls, Int.tmod l.dimension 4 = 1 ∧ 21 ≤ l.dimension ∧ l.dimension ≤ 177)
      (detectMulti o sort rd w h tryHarder) := by
  unfold detectMulti
  exact Sat.then (Sat.lift (findMultiScan_sat o hrd h w tryHarder)) fun centers =>
    detectMultiFrom_sat o sort hsort hrd w h centers

/-! ## the executable sort is a permutation -/

theorem insBySize_perm {F : Type} (o : FOps F) (x : FP F) : ∀ l : List (FP F), (insBySize o x l).Perm (x :: l) := by
  intro l
  induction l with
  | nil => exact List.Perm.refl _
  | cons y ys ih =>
    unfold insBySize
    split
    · exact (List.Perm.cons y ih).trans (List.Perm.swap x y ys)
    · exact List.Perm.refl _

theorem sortBySizeDesc_perm {F : Type} (o : FOps F) (l : List (FP F)) : (sortBySizeDesc o l).Perm l := by
  unfold sortBySizeDesc
  refine (List.reverse_perm _).trans ?_
  suffices h : ∀ (l acc : List (FP F)), (l.foldl (fun acc x => insBySize o x acc) acc).Perm (acc ++ l) by
    simpa using h l []
  intro l
  induction l with
  | nil => intro acc; simp
  | cons x xs ih =>
    intro acc
    simp only [List.foldl_cons]
    refine (ih _).trans ?_
    refine (List.Perm.append_right xs (insBySize_perm o x acc)).trans ?_
    simp only [List.cons_append]
    exact (List.perm_middle).symm

end Gzx.Det.Multi
