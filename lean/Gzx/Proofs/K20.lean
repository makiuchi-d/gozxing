/-
  Lemmas for `Obligations/K20.lean`: loops of regenerated kernels on
  plain `[]int` / `[]byte` slices (no word model in between), and the link from the word-level mirror
  `Model/K20RunLength.lean` to the hand-written `Model/RunLength.lean`.
-/
import Gzx.GoMExt
import Gzx.Proofs.GoMTie
import Gzx.Model.K20RunLength
import Gzx.Model.RunLength
namespace Gzx.GoM
open Gzx

/-- `for i := range xs { xs[i] = v }` -/
theorem foldlM_setIdx_prefix (v : Int) (s : List Int) :
    ∀ n, n ≤ s.length →
      (List.range' 0 n).foldlM (fun (t : List Int) (i : Nat) => setIdx t (i : Int) v) s = .ok (List.replicate n v ++ s.drop n) := by
  intro n h
  rw [foldlM_set_prefix (fun _ => v) _ (fun l i hi => setIdx_of_lt l _ v i rfl hi) s n h, List.map_const', List.length_take,
    Nat.min_eq_left h]

theorem foldlM_setIdx_all (v : Int) (s : List Int) :
    (List.range' 0 s.length).foldlM (fun (t : List Int) (i : Nat) => setIdx t (i : Int) v) s = .ok (s.map (fun _ => v)) := by
  rw [foldlM_setIdx_prefix v s s.length (Nat.le_refl _)]
  simp
  apply List.ext_getElem <;> simp

end Gzx.GoM

namespace Gzx.K20
open Gzx Gzx.GoM

/-! ### the word-level mirror of `RecordPattern` on a well-formed row is `Model/RunLength.lean` -/

/-- the caller's `counters` slice holding the model's counters so far: the rest is still zero -/
def pad (n : Nat) (cs : List Nat) : List Int := cs.map Int.ofNat ++ List.replicate (n - cs.length) 0

theorem pad_full (n : Nat) (cs : List Nat) (h : cs.length = n) : pad n cs = cs.map Int.ofNat := by
  simp [pad, h]

theorem pad_idx (n : Nat) (done : List Nat) (cnt : Nat) :
    idx (pad n (done ++ [cnt])) (done.length : Nat) = .ok (cnt : Int) := by
  rw [idx_ofNat _ _ (by simp [pad])]
  simp [pad]

theorem pad_set (n : Nat) (done : List Nat) (cnt v : Nat) :
    setIdx (pad n (done ++ [cnt])) (done.length : Nat) (v : Int) = .ok (pad n (done ++ [v])) := by
  rw [setIdx_of_lt _ _ _ _ rfl (by simp [pad])]
  congr 1
  simp only [pad, List.map_append, List.map_cons, List.map_nil, List.length_append, List.length_cons, List.length_nil,
    List.append_assoc]
  rw [List.set_append_right _ _ (by simp)]
  simp

theorem pad_push (n : Nat) (done : List Nat) (cnt : Nat) (h : done.length + 2 ≤ n) :
    setIdx (pad n (done ++ [cnt])) ((done.length : Nat) + 1 : Int) 1 = .ok (pad n (done ++ [cnt] ++ [1])) := by
  have e : ((done.length : Nat) + 1 : Int) = ((done.length + 1 : Nat) : Int) := by omega
  rw [e, setIdx_of_lt _ _ _ _ rfl (by simp [pad]; omega)]
  congr 1
  simp only [pad, List.map_append, List.map_cons, List.map_nil, List.length_append, List.length_cons, List.length_nil,
    List.append_assoc]
  rw [List.set_append_right _ _ (by simp), List.set_append_right _ _ (by simp)]
  have e2 : n - (done.length + (0 + 1)) = (n - (done.length + (0 + 1 + (0 + 1)))) + 1 := by omega
  rw [e2, List.replicate_succ]
  simp

/-- the pixel loop of the mirror follows `rpLoop` -/
theorem rpScan_rpLoop (get : Nat → Res Bool) (n : Nat) :
    ∀ (bs : List Bool) (i : Nat) (done : List Nat) (cnt : Nat) (cur : Bool), done.length + 1 ≤ n →
      (∀ j (h : j < bs.length), get (i + j) = .ok bs[j]) →
      let r := RunLength.rpLoop n bs cur done cnt
      (∃ i' w', rpScan get (n : Int) bs.length i (pad n (done ++ [cnt])) (!cur) (done.length : Nat) =
          .ok (pad n r.1, i', w', if r.2 then (n : Int) else ((r.1.length - 1 : Nat) : Int)) ∧
          (r.2 = false → i' = i + bs.length)) ∧
        r.1.length ≤ n ∧ 0 < r.1.length ∧ (r.2 = true → r.1.length = n) := by
  intro bs
  induction bs with
  | nil =>
    intro i done cnt cur hd _
    simp only [RunLength.rpLoop, rpScan, List.length_nil]
    refine ⟨⟨i, !cur, ?_, fun _ => rfl⟩, by simp; omega, by simp, by simp⟩
    simp
  | cons b bs ih =>
    intro i done cnt cur hd hget
    have hg0 : get i = .ok b := hget 0 (by simp)
    have hget' : ∀ j (h : j < bs.length), get (i + 1 + j) = .ok bs[j] := by
      intro j h
      have := hget (j + 1) (by simp; omega)
      simpa [Nat.add_assoc, Nat.add_comm 1 j] using this
    simp only [RunLength.rpLoop, List.length_cons, rpScan, hg0]
    by_cases hb : b = cur
    · subst hb
      have hne : (b != !b) = true := by cases b <;> rfl
      simp only [hne, if_true, pad_idx]
      rw [show ((cnt : Int) + 1) = ((cnt + 1 : Nat) : Int) by omega, pad_set]
      have := ih (i + 1) done (cnt + 1) b hd hget'
      simp only [] at this
      obtain ⟨⟨i', w', h1, h2⟩, h3⟩ := this
      exact ⟨⟨i', w', h1, fun h => by rw [h2 h]; omega⟩, h3⟩
    · have hne : (b != !cur) = false := bne_eq_false_iff_eq.mpr (Bool.eq_not_of_ne hb)
      simp only [hne, if_neg hb]
      by_cases hn : done.length + 1 = n
      · have hn' : (((done.length : Nat) : Int) + 1 == (n : Int)) = true := by simp; omega
        simp only [hn, if_true, hn']
        refine ⟨⟨i, !cur, ?_, by simp⟩, by simp; omega, by simp, by simp; omega⟩
        simp; omega
      · have hn' : (((done.length : Nat) : Int) + 1 == (n : Int)) = false := by simp; omega
        simp only [hn, if_false, hn']
        rw [pad_push n done cnt (by omega)]
        have hcur : (!(!cur)) = !b := by rw [Bool.not_not, Bool.not_eq.mpr hb]
        have := ih (i + 1) (done ++ [cnt]) 1 b (by simp; omega) hget'
        simp only [List.length_append, List.length_cons, List.length_nil] at this
        obtain ⟨⟨i', w', h1, h2⟩, h3⟩ := this
        refine ⟨⟨i', w', ?_, fun h => by rw [h2 h]; omega⟩, h3⟩
        rw [hcur, show ((done.length : Nat) : Int) + 1 = ((done.length + (0 + 1) : Nat) : Int) by omega]
        exact h1

/-- when the word-level mirror and the hand-written model say the same -/
def Agrees : Res (Bool × List Int) → Res (List Nat) → Prop
  | .ok (false, cs), .ok r => cs = r.map Int.ofNat
  | .ok (true, _), .error .notFound => True
  | .error (.panic _), .error (.panic _) => True
  | _, _ => False

/-- **RecordPattern**: on a row whose pixels the getter returns (a well-formed `BitArray`), the regenerated control flow
    (mirror `K20.recordPattern`) and the hand-written model `RunLength.recordPattern` agree: same counters on success,
    NotFound together, panic (empty `counters` on a non-empty tail) together — for every row, start and `counters`. -/
theorem recordPattern_agrees (get : Nat → Res Bool) (row : List Bool) (start : Nat) (cs : List Int)
    (hget : ∀ j (h : j < row.length), get j = .ok row[j]) :
    Agrees (recordPattern get row.length start cs) (RunLength.recordPattern row start cs.length) := by
  unfold recordPattern RunLength.recordPattern
  by_cases hs : start ≥ row.length
  · have hd : row.drop start = [] := List.drop_eq_nil_of_le hs
    by_cases hn : cs.length = 0
    · simp [hs, hn, Agrees]
    · simp [hs, hn, hd, Agrees]
  · have hlt : start < row.length := by omega
    have hg : get start = .ok row[start] := hget start hlt
    have hd : row.drop start = row[start] :: row.drop (start + 1) := by
      rw [List.drop_eq_getElem_cons hlt]
    by_cases hn : cs.length = 0
    · have hcs : cs = [] := List.length_eq_zero_iff.mp hn
      obtain ⟨k, hk⟩ : ∃ k, row.length - start = k + 1 := ⟨row.length - start - 1, by omega⟩
      subst hcs
      simp [hs, hg, hk, rpScan, idx, oob, Agrees]
    · simp only [hs, if_false, hg, hn, hd]
      -- the Go loop counts the first pixel itself (`counters[0]` starts at 0): start `rpLoop` one pixel earlier
      have hfirst : RunLength.rpLoop cs.length (row.drop (start + 1)) row[start] [] 1 =
          RunLength.rpLoop cs.length (row.drop start) row[start] [] 0 := by
        rw [hd]; simp only [RunLength.rpLoop, if_true]
      have hz : List.map (fun _ => (0 : Int)) cs = pad cs.length ([] ++ [0]) := by
        obtain ⟨m, hm⟩ : ∃ m, cs.length = m + 1 := ⟨cs.length - 1, by omega⟩
        rw [List.map_const', hm]; rfl
      have hlen : (row.drop start).length = row.length - start := List.length_drop
      have := rpScan_rpLoop get cs.length (row.drop start) start [] 0 row[start] (by simp; omega)
        (by intro j h; rw [hget (start + j) (by rw [hlen] at h; omega)]; simp)
      rw [hlen, ← hz, ← hfirst] at this
      obtain ⟨⟨i', w', h3, h4⟩, h5, h6, h7⟩ := this
      rw [show (([] : List Nat).length : Int) = 0 from rfl] at h3
      rw [h3]
      generalize RunLength.rpLoop cs.length (row.drop (start + 1)) row[start] [] 1 = r at *
      obtain ⟨rc, broke⟩ := r
      cases broke with
      | true =>
        have hfull : rc.length = cs.length := h7 rfl
        simp only [if_true, beq_self_eq_true, Bool.true_or, Bool.not_true]
        simp [Agrees, pad_full _ _ hfull]
      | false =>
        have hi : i' = row.length := by rw [h4 rfl]; omega
        subst hi
        simp only [] at h5 h6 ⊢
        by_cases hl : rc.length = cs.length
        · have c : ¬ (¬ ((cs.length - 1 : Nat) : Int) = ((cs.length : Nat) : Int) ∧
              ¬ ((cs.length - 1 : Nat) : Int) = ((cs.length : Nat) : Int) - 1) := by omega
          simp [hl, Agrees, pad_full _ _ hl, c]
        · have c : (¬ ((rc.length - 1 : Nat) : Int) = ((cs.length : Nat) : Int) ∧
              ¬ ((rc.length - 1 : Nat) : Int) = ((cs.length : Nat) : Int) - 1) := by omega
          simp [hl, Agrees, c]

end Gzx.K20

