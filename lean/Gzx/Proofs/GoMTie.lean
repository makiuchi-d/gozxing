/-
  The word slice of the bit containers: a `[]uint32` of the regenerated BitMatrix / BitArray methods (`Gzx.Gen.K16b` and the
  kernels that call them) is `words ws` for the word list `ws` of the model `Model/Bits.lean`.  One checked read, write or
  read-modify-write of the slice is the model's `wordAt` / `setWord` / `updWord` (`idx_words`, `setIdx_words`, and in
  continuation form, as they stand in generated code, `idxC` / `idxR`, `setC` / `setR`, `updC` / `updR`); their side goals
  (index expression = model index, value expression = model value) are closed by `omega` after `gonorm`, so `x>>5` for
  `x/32` or `x&31` for `x%32` in the Go source keeps the proofs.  Further: the operators on `uint32` values (`^x`, `-x`,
  `1 << k`, the range masks, the bit test `a & (1 << k)`), the specified `math/bits` functions, faults of the word primitives,
  loops that rewrite every word, and what a regenerated method must return for a result of the word model (`expW`, `expEW`).
-/
import Gzx.GoMTie
import Gzx.Proofs.GoM
import Gzx.Model.Bits
import Gzx.Proofs.Bits
namespace Gzx.GoM
open Gzx Gzx.Bits Gzx.GoVal

/-- Go `[]uint32` contents of a model word list (`nats`, named for the element type) -/
abbrev words (ws : List Nat) : List Int := ws.map Int.ofNat

variable {σ ρ τ : Type}

/-! ### bit operators on values of `uint32` words -/

/-- `^x` on uint32 -/
theorem not32_natCast (a : Nat) (h : a < W32) : wrap 32 (inot (a : Int)) = ((not32 a : Nat) : Int) := by
  have hx : a ^^^ 4294967295 = 4294967295 - a := by
    have h2 := or_eq_xor_add_and a 4294967295
    have h3 : a ||| 4294967295 = 4294967295 := by
      apply Nat.eq_of_testBit_eq; intro i
      have e : (4294967295 : Nat) = 2 ^ 32 - 1 := by decide
      rw [Nat.testBit_or, e, Nat.testBit_two_pow_sub_one]
      by_cases hi : i < 32
      · simp [hi]
      · have h32 : (2 : Nat) ^ 32 ≤ 2 ^ i := Nat.pow_le_pow_right (by decide) (by omega)
        have hlt : a < 2 ^ i := Nat.lt_of_lt_of_le h h32
        have : a.testBit i = false := Nat.testBit_lt_two_pow hlt
        simp [hi, this]
    have h4 : a &&& 4294967295 = a := by
      have e : (4294967295 : Nat) = 2 ^ 32 - 1 := by decide
      rw [e, Nat.and_two_pow_sub_one_eq_mod]; exact Nat.mod_eq_of_lt h
    omega
  unfold wrap inot not32
  rw [hx]
  unfold W32 at h
  omega

/-- `-x` on uint32 -/
theorem neg32_natCast (v : Nat) : wrap 32 (-(v : Int)) = ((neg32 v : Nat) : Int) := by
  unfold wrap neg32 W32
  omega

/-- `1 << k` for a bit position of a word -/
theorem bit_natCast (e : Int) (k : Nat) (hk : e = k) (h32 : k < 32) :
    wrap 32 (ishl 1 e) = ((1 <<< k : Nat) : Int) := by
  subst hk
  have e1 : (1 : Int) = ((1 : Nat) : Int) := rfl
  rw [e1, ishl_natCast, wrap_natCast]
  congr 1
  apply Nat.mod_eq_of_lt
  rw [Nat.one_shiftLeft]
  exact Nat.pow_lt_pow_right (by decide) h32

theorem one_shl_lt (k : Nat) (h : k < 32) : 1 <<< k < W32 := by
  rw [Nat.one_shiftLeft]; exact Nat.pow_lt_pow_right (by decide) h

/-- the Go bit test `a & (1 << k)` on a non-negative `a`: zero exactly when binary digit `k` of `a` is 0 -/
theorem iand_one_shl_eq_zero (a k : Nat) :
    (iand (a : Int) (ishl 1 (k : Int)) == 0) = !decide ((a / 2 ^ k) % 2 = 1) := by
  rw [ishl_one, iand_natCast, Nat.one_shiftLeft, ← Nat.testBit_eq_decide_div_mod_eq, ← Bits.and_two_pow_ne_zero a k]
  generalize a &&& 2 ^ k = n
  cases n <;> simp [bne] <;> omega

/-- the range mask of `SetRange` (`int` arithmetic, then `uint32(mask)`) -/
theorem rangeMask_cast (fb lb : Nat) (h1 : fb ≤ lb + 1) (eF eL : Int) (hF : eF = fb) (hL : eL = lb) :
    wrap 32 (ishl 2 eL - ishl 1 eF) = (((2 <<< lb - 1 <<< fb) % W32 : Nat) : Int) := by
  subst hF hL
  have e2 : (2 : Int) = ((2 : Nat) : Int) := rfl
  have e1 : (1 : Int) = ((1 : Nat) : Int) := rfl
  rw [e2, e1, ishl_natCast, ishl_natCast]
  have hle : 1 <<< fb ≤ 2 <<< lb := by
    rw [Nat.one_shiftLeft, Nat.shiftLeft_eq, ← Nat.pow_succ']
    exact Nat.pow_le_pow_right (by decide) h1
  rw [← Int.natCast_sub hle, wrap_natCast]
  rfl

/-- the same computed in `uint32` (as in `IsRange`) -/
theorem rangeMask_cast32 (fb lb : Nat) (h1 : fb ≤ lb + 1) (eF eL : Int) (hF : eF = fb) (hL : eL = lb) :
    wrap 32 (wrap 32 (ishl 2 eL) - wrap 32 (ishl 1 eF)) = (((2 <<< lb - 1 <<< fb) % W32 : Nat) : Int) := by
  rw [← rangeMask_cast fb lb h1 eF eL hF hL]
  unfold wrap
  exact (Int.sub_emod _ _ _).symm

/-! ### checked reads / writes of the word slice -/

theorem idx_words (ws : List Nat) (e : Int) (n : Nat) (h : e = n) :
    idx (words ws) e = (wordAt ws n).map Int.ofNat := by
  subst h
  rw [idx_bytes]; unfold wordAt
  cases ws[n]? <;> rfl

theorem setIdx_words (ws : List Nat) (e v : Int) (n u : Nat) (h : e = n) (hv : v = u) :
    setIdx (words ws) e v = (setWord ws n u).map words := by
  subst h hv
  unfold setIdx setWord
  have h0 : ¬ ((n : Int) < 0) := by omega
  simp only [h0, if_false, Int.toNat_natCast, nats_length]
  by_cases hl : n < ws.length
  · simp [hl, Except.map, words, List.map_set]
  · simp [hl, Except.map, oob]

/-- the write-back of a read-modify-write: the word `w` read at `n` is replaced by `f w` -/
theorem setIdx_upd (ws : List Nat) (n : Nat) (f : Nat → Nat) {e' : Int} {g : Int → Int}
    (he' : e' = n) (hg : ∀ w : Nat, g (w : Int) = ((f w : Nat) : Int)) (w : Nat) (hw : ws[n]? = some w) :
    setIdx (words ws) e' (g (Int.ofNat w)) = .ok (words (ws.set n (f w))) := by
  rw [show Int.ofNat w = (w : Int) from rfl, setIdx_words ws e' (g w) n (f w) he' (hg w)]
  simp [setWord, (List.getElem?_eq_some_iff.mp hw).1, Except.map]

/-- `b.bits[e] op= …` inside a loop body: read, combine, write back -/
theorem updC (ws : List Nat) (n : Nat) (f : Nat → Nat) {e e' : Int} {g : Int → Int} (k : List Int → Ctl σ ρ)
    (he : e = n) (he' : e' = n) (hg : ∀ w : Nat, g (w : Int) = ((f w : Nat) : Int)) :
    tryC (idx (words ws) e) (fun t => tryC (setIdx (words ws) e' (g t)) k) =
      match updWord ws n f with
      | .ok ws' => k (words ws')
      | .error er => .panic er := by
  rw [idx_words ws e n he]
  unfold wordAt updWord
  cases hw : ws[n]? with
  | none => rfl
  | some w => simp only [Except.map, tryC_ok, setIdx_upd ws n f he' hg w hw]

/-- the same at function level -/
theorem updR (ws : List Nat) (n : Nat) (f : Nat → Nat) {e e' : Int} {g : Int → Int} (k : List Int → Res ρ)
    (he : e = n) (he' : e' = n) (hg : ∀ w : Nat, g (w : Int) = ((f w : Nat) : Int)) :
    tryR (idx (words ws) e) (fun t => tryR (setIdx (words ws) e' (g t)) k) =
      match updWord ws n f with
      | .ok ws' => k (words ws')
      | .error er => .error er := by
  rw [idx_words ws e n he]
  unfold wordAt updWord
  cases hw : ws[n]? with
  | none => rfl
  | some w => simp only [Except.map, tryR_ok, setIdx_upd ws n f he' hg w hw]

/-- a checked read inside a loop body -/
theorem idxC (ws : List Nat) (n : Nat) {e : Int} (k : Int → Ctl σ ρ) (he : e = n) :
    tryC (idx (words ws) e) k =
      match wordAt ws n with
      | .ok w => k (w : Int)
      | .error er => .panic er := by
  rw [idx_words ws e n he]; cases wordAt ws n <;> rfl

theorem idxR (ws : List Nat) (n : Nat) {e : Int} (k : Int → Res ρ) (he : e = n) :
    tryR (idx (words ws) e) k =
      match wordAt ws n with
      | .ok w => k (w : Int)
      | .error er => .error er := by
  rw [idx_words ws e n he]; cases wordAt ws n <;> rfl

/-- a checked write inside a loop body -/
theorem setC (ws : List Nat) (n u : Nat) {e v : Int} (k : List Int → Ctl σ ρ) (he : e = n) (hv : v = u) :
    tryC (setIdx (words ws) e v) k =
      match setWord ws n u with
      | .ok ws' => k (words ws')
      | .error er => .panic er := by
  rw [setIdx_words ws e v n u he hv]; cases setWord ws n u <;> rfl

theorem setR (ws : List Nat) (n u : Nat) {e v : Int} (k : List Int → Res ρ) (he : e = n) (hv : v = u) :
    tryR (setIdx (words ws) e v) k =
      match setWord ws n u with
      | .ok ws' => k (words ws')
      | .error er => .error er := by
  rw [setIdx_words ws e v n u he hv]; cases setWord ws n u <;> rfl

/-! ### faults of the word primitives are panics (never the checked `illegalArg`) -/

/-- a fault that is not Go's checked error -/
def NotArg (e : Fault) : Prop := e ≠ .illegalArg

theorem updWord_error {ws : List Nat} {i : Nat} {f : Nat → Nat} {e : Fault} (h : updWord ws i f = .error e) : NotArg e := by
  unfold updWord at h
  cases hw : ws[i]? <;> rw [hw] at h <;> cases h
  intro h'; cases h'

theorem wordAt_error {ws : List Nat} {i : Nat} {e : Fault} (h : wordAt ws i = .error e) : NotArg e := by
  unfold wordAt at h
  cases hw : ws[i]? <;> rw [hw] at h <;> cases h
  intro h'; cases h'

theorem setWord_error {ws : List Nat} {i v : Nat} {e : Fault} (h : setWord ws i v = .error e) : NotArg e := by
  unfold setWord at h
  split at h <;> cases h
  intro h'; cases h'

/-! ### loops that rewrite every word -/

/-- a loop whose step `i` replaces element `i` by `g` of it, for `i = 0 … n-1` -/
theorem foldlM_set_prefix {α : Type} (g : α → α) (step : List α → Nat → Res (List α))
    (hstep : ∀ (l : List α) (i : Nat) (h : i < l.length), step l i = .ok (l.set i (g l[i]))) (l : List α) :
    ∀ n, n ≤ l.length → (List.range' 0 n).foldlM step l = .ok ((l.take n).map g ++ l.drop n) := by
  intro n
  induction n with
  | zero => intro _; rfl
  | succ n ih =>
    intro h
    have hlen : ((l.take n).map g).length = n := by
      rw [List.length_map, List.length_take, Nat.min_eq_left (Nat.le_of_succ_le h)]
    rw [List.range'_1_concat, List.foldlM_append, ih (Nat.le_of_succ_le h), List.drop_eq_getElem_cons h,
      List.take_succ_eq_append_getElem h]
    simp only [bind, Except.bind, List.foldlM, Nat.zero_add, pure, Except.pure]
    rw [hstep _ n (by rw [List.length_append, hlen, List.length_cons]; omega),
      List.set_append_right _ _ (Nat.le_of_eq hlen), List.getElem_append_right (Nat.le_of_eq hlen)]
    simp only [hlen, Nat.sub_self, List.set_cons_zero, List.getElem_cons_zero, List.map_append, List.map_cons, List.map_nil,
      List.append_assoc, List.cons_append, List.nil_append]

theorem foldlM_updWord_prefix (g : Nat → Nat) (ws : List Nat) :
    ∀ n, n ≤ ws.length →
      (List.range' 0 n).foldlM (fun ws i => updWord ws i g) ws = .ok ((ws.take n).map g ++ ws.drop n) :=
  foldlM_set_prefix g _ (fun l i h => by unfold updWord; rw [List.getElem?_eq_getElem h]) ws

theorem foldlM_updWord_all (g : Nat → Nat) (ws : List Nat) :
    (List.range' 0 ws.length).foldlM (fun ws i => updWord ws i g) ws = .ok (ws.map g) := by
  rw [foldlM_updWord_prefix g ws ws.length (Nat.le_refl _)]; simp

/-- `ws[i] = v` as a read-modify-write that ignores what it read (same index check) -/
theorem setWord_eq_updWord (ws : List Nat) (i v : Nat) : setWord ws i v = updWord ws i (fun _ => v) := by
  unfold setWord updWord
  by_cases h : i < ws.length
  · simp [h]
  · simp [h]

theorem copyL_words (d s : List Nat) : copyL (words d) (words s) = words (copyInto d s) := by
  simp [copyL, copyInto, words, List.map_take, List.map_drop]

/-! ### the specified `math/bits` functions are the model's -/

theorem revBits_eq (n w : Nat) : GoM.revBits n w = Bits.revBits n w := by
  induction n generalizing w with
  | zero => rfl
  | succ n ih => simp [GoM.revBits, Bits.revBits, ih]

theorem rev32_natCast (w : Nat) : GoM.rev32 (w : Int) = ((Bits.rev32 w : Nat) : Int) := by
  simp [GoM.rev32, Bits.rev32, revBits_eq]

theorem ctz_eq (n w : Nat) : GoM.ctz n w = Bits.ctz n w := by
  induction n generalizing w with
  | zero => rfl
  | succ n ih => simp [GoM.ctz, Bits.ctz, ih]

theorem tz32_natCast (w : Nat) : GoM.tz32 (w : Int) = ((Bits.tz32 w : Nat) : Int) := by
  simp [GoM.tz32, Bits.tz32, ctz_eq]


/-! ### what a regenerated method must return for a result of the word model -/

/-- a void method -/
def expW (r : Res WMat) : Res (List Int) := r.map (fun m' => words m'.words)

/-- … a method with an `error` result: `illegalArg` is the Go error (state unchanged), other faults are panics -/
def expEW (orig : List Nat) : Res WMat → Res (Bool × List Int)
  | .ok m' => .ok (false, words m'.words)
  | .error .illegalArg => .ok (true, words orig)
  | .error e => .error e

theorem expEW_error (o : List Nat) {e : Fault} (h : NotArg e) : expEW o (.error e) = .error e := by
  cases e <;> first | rfl | exact absurd rfl h

end Gzx.GoM
