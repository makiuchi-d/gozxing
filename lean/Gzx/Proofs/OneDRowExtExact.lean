/-
  The whole-row model instantiated with exact fractions (`VarOps.exact`) refines the UPC/EAN row decoder
  of Model/OneD.lean (the one C03's `upcean_read_write` is about): same guard search, same digits, same text.
-/
import Gzx.Proofs.OneDRowExtTotal
namespace Gzx.Proofs.OneDRowExtExact
open Gzx Gzx.CheckDigit Gzx.OneDRowExt Gzx.Proofs.OneDRowExtTotal
open Gzx.OneD (Tables)

theorem findStartLoop_exact (T : Tables) (row : List Bool) : ∀ (fuel next : Nat),
    findStartLoop exactOps T row fuel next = OneD.findStartLoop T row fuel next
  | 0, _ => rfl
  | fuel + 1, next => by
    unfold findStartLoop OneD.findStartLoop
    rw [findGuardPattern_exact]
    cases OneD.findGuardPattern row next false T.startEnd with
    | error e => rfl
    | ok r =>
      obtain ⟨s, n⟩ := r
      simp only []
      split
      · rfl
      · exact findStartLoop_exact T row fuel n

theorem findStartGuardPattern_exact (T : Tables) (row : List Bool) :
    findStartGuardPattern exactOps T row = OneD.findStartGuardPattern T row := findStartLoop_exact T row _ _

theorem bestLoop_exact (counters : List Nat) : ∀ (ps : List (List Nat)) (i : Nat) (best : Nat × Nat) (bm : Option Nat),
    bestLoop exactOps counters ps i (some best) bm = OneD.bestLoop counters ps i best bm
  | [], _, _, _ => rfl
  | p :: ps, i, best, bm => by
    unfold bestLoop OneD.bestLoop
    rcases pmv_cases counters p with ⟨hlt, hp⟩ | ⟨hlt, v, hp⟩
    · rw [if_pos hlt, hp]
    · rw [if_neg hlt, hp]
      have hv : exactOps.pmv counters p = v := by show exactPmv counters p = v; unfold exactPmv; rw [hp]
      simp only [hv]
      cases v with
      | none =>
        simp only []
        have : exactOps.lt none (some best) = false := rfl
        rw [this]
        simp only [Bool.false_eq_true, if_false]
        exact bestLoop_exact counters ps _ _ _
      | some v' =>
        simp only []
        have : exactOps.lt (some v') (some best) = OneD.fracLt v' best := rfl
        rw [this]
        split
        · exact bestLoop_exact counters ps _ _ _
        · exact bestLoop_exact counters ps _ _ _

theorem decodeDigit_exact (row : List Bool) (off : Nat) (ps : List (List Nat)) :
    decodeDigit exactOps row off ps = OneD.decodeDigit row off ps := by
  unfold decodeDigit OneD.decodeDigit
  cases RunLength.recordPattern row off 4 with
  | error e => rfl
  | ok counters =>
    simp only []
    have : bestLoop exactOps counters ps 0 exactOps.maxAvg none = OneD.bestLoop counters ps 0 (12, 25) none :=
      bestLoop_exact counters ps 0 (12, 25) none
    rw [this]
    cases OneD.bestLoop counters ps 0 (12, 25) none with
    | error e => rfl
    | ok r => cases r <;> rfl

theorem digitsLoop_exact (row : List Bool) (ps : List (List Nat)) : ∀ (n off : Nat) (acc : List Nat),
    digitsLoop exactOps row ps n off acc = OneD.digitsLoop row ps n off acc
  | 0, _, _ => rfl
  | n + 1, off, acc => by
    unfold digitsLoop OneD.digitsLoop
    rw [decodeDigit_exact]
    split
    · cases OneD.decodeDigit row off ps with
      | error e => rfl
      | ok r => obtain ⟨m, w⟩ := r; exact digitsLoop_exact row ps n _ _
    · rfl

theorem decodeMiddle_exact (T : Tables) (k : EanKind) (row : List Bool) (s : Nat) :
    decodeMiddle exactOps T k row s =
      (match k with
       | .ean13 | .upca => OneD.ean13DecodeMiddle T row s
       | .ean8 => OneD.ean8DecodeMiddle T row s
       | .upce => OneD.upceDecodeMiddle T row s) := by
  cases k <;>
    simp only [decodeMiddle, ean13DecodeMiddle, ean8DecodeMiddle, upceDecodeMiddle, OneD.ean13DecodeMiddle,
      OneD.ean8DecodeMiddle, OneD.upceDecodeMiddle, digitsLoop_exact, findGuardPattern_exact]

theorem decodeEnd_exact (T : Tables) (k : EanKind) (row : List Bool) (s : Nat) :
    decodeEnd exactOps T k row s =
      (match k with
       | .upce => OneD.findGuardPattern row s true T.upceMiddleEnd
       | _ => OneD.findGuardPattern row s false T.startEnd) := by
  cases k <;> simp only [decodeEnd, findGuardPattern_exact]


/-! ## the text -/

open Gzx.Det
open Gzx.OneD (isRangeWhite notFoundOf)

/-- the stages of `decodeRowWithStartRange` that decide the text: middle, end guard, quiet zone, check digit -/
def textStages (row : List Bool) (k : EanKind) (mid : Res (Nat × List Nat)) (endG : Nat → Res (Nat × Nat)) :
    Res (List Nat) :=
  match mid with
  | .error e => .error e
  | .ok (endStart, result) =>
    match notFoundOf (endG endStart) with
    | .error e => .error e
    | .ok er =>
      if er.2 + (er.2 - er.1) ≥ row.length then .error .notFound
      else if !(isRangeWhite row er.2 (er.2 + (er.2 - er.1))) then .error .notFound
      else match readerAccept k result with
        | .error e => .error e
        | .ok () => .ok result

/-- `maybeReturnResult` on texts -/
def upcaText : Res (List Nat) → Res (List Nat)
  | .error e => .error e
  | .ok t =>
    match t with
    | 48 :: rest => .ok rest
    | _ => .error .format

/-- the text part of `finishRow` without an ALLOWED_EAN_EXTENSIONS hint: quiet zone, then the check digit — the add-on
    reader, country lookup and symbology identifier only add metadata and points (for ANY variance interpretation) -/
theorem finishRow_text {V : Type} (O : VarOps V) (T : Tables) (X : ExtTables) (wf : WFRow T X) (k : EanKind) (rn : Int)
    (row : List Bool) (h : Hints) (hext : h.allowedExt = none) (sg er : Nat × Nat) (result : List Nat) :
    (finishRow O T X k rn row h sg er result).map (·.text) =
      (if er.2 + (er.2 - er.1) ≥ row.length then .error .notFound
       else if !(isRangeWhite row er.2 (er.2 + (er.2 - er.1))) then .error .notFound
       else match readerAccept k result with
         | .error e => .error e
         | .ok () => .ok result) := by
  unfold finishRow
  simp only []
  split
  · rfl
  · split
    · rfl
    · cases har : readerAccept k result with
      | error e => rfl
      | ok u =>
        simp only []
        have hx := extDecodeRow_sat O T X wf rn row er.2
        cases hxr : extDecodeRow O T X rn row er.2 with
        | ok x => simp [hext, Except.map]
        | error e =>
          rw [hxr] at hx
          rcases hx with hx | hx | hx <;> subst hx <;> simp [hext, Except.map]

/-- text of `decodeWithStart` (kinds EAN-13, EAN-8, UPC-E) stage by stage -/
theorem decodeWithStart_text {V : Type} (O : VarOps V) (T : Tables) (X : ExtTables) (wf : WFRow T X) (k : EanKind)
    (rn : Int) (row : List Bool) (h : Hints) (hext : h.allowedExt = none) (sg : Nat × Nat) :
    (decodeWithStart O T X k rn row h sg).2.map (·.text) =
      textStages row k (decodeMiddle O T k row sg.2) (decodeEnd O T k row) := by
  unfold decodeWithStart textStages
  simp only []
  cases decodeMiddle O T k row sg.2 with
  | error e => rfl
  | ok r =>
    obtain ⟨endStart, result⟩ := r
    simp only []
    cases notFoundOf (decodeEnd O T k row endStart) with
    | error e => rfl
    | ok er => exact finishRow_text O T X wf k rn row h hext sg er result

/-- `maybeReturnResult` strips the '0' of the text and nothing else, on results whose text is not empty (there it
    panics where `upcaText` says Format) -/
theorem maybeReturnResult_text {r : Res RowResult} (hr : ∀ res, r = .ok res → res.text ≠ []) :
    (maybeReturnResult r).map (·.text) = upcaText (r.map (·.text)) := by
  cases r with
  | error e => rfl
  | ok res =>
    have hne := hr res rfl
    simp only [maybeReturnResult, Except.map]
    cases hres : res.text with
    | nil => exact absurd hres hne
    | cons c rest =>
      simp only []
      by_cases hc : c = 48
      · subst hc; rfl
      · simp only [hc, if_false, upcaText]
        split
        · rename_i heq; injection heq with h1 _; exact absurd h1 hc
        · rfl

/-- `OneD.decodeWithStart` is the same stages over the exact-fraction searches, with the UPC-A presentation on top -/
theorem oneD_decodeWithStart_stages (T : Tables) (k : EanKind) (row : List Bool) (sg : Nat × Nat) :
    OneD.decodeWithStart T k row sg =
      (if k = .upca then upcaText else id)
        (textStages row (if k = .upca then .ean13 else k) (decodeMiddle exactOps T k row sg.2) (decodeEnd exactOps T k row)) := by
  rw [decodeMiddle_exact, funext (decodeEnd_exact T k row)]
  cases k <;>
    simp only [OneD.decodeWithStart, textStages, bind, Except.bind, pure, Except.pure, throw, throwThe,
      MonadExceptOf.throw, reduceCtorEq, if_false, if_true, id]
  -- both sides branch on the same five outcomes; `split` names the left one, `simp only` follows it on the right
  all_goals
    split
    next h1 => simp only [h1]; try rfl
    next h1 =>
      simp only [h1]
      split
      next h2 => simp only [h2]; try rfl
      next h2 =>
        simp only [h2]
        split
        · rfl
        · split
          · rfl
          · split
            next h3 => simp only [h3]; try rfl
            next h3 => simp only [h3]; try rfl

/-- **Refinement**: without an ALLOWED_EAN_EXTENSIONS hint the text the whole-row model returns (exact-fraction
    instance) is what the row decoder of Model/OneD.lean returns — for every reader kind, row, row number, callback
    hint.  (The add-on reader, the metadata and the result points ride along; they never change the text.) -/
theorem readerWithStart_text_exact (T : Tables) (X : ExtTables) (wf : WFRow T X) (k : EanKind) (rn : Int)
    (row : List Bool) (h : Hints) (hext : h.allowedExt = none) (sg : Nat × Nat) :
    (readerWithStart exactOps T X k rn row h sg).2.map (·.text) = OneD.decodeWithStart T k row sg := by
  rw [oneD_decodeWithStart_stages]
  unfold readerWithStart
  cases k with
  | upca =>
    rw [maybeReturnResult_text fun res hr h0 => by
      have := (decodeWithStart_ok exactOps T X .ean13 rn row h sg res hr).2
      rw [h0] at this; simp at this]
    rw [decodeWithStart_text exactOps T X wf .ean13 rn row h hext sg]; rfl
  | ean13 => exact decodeWithStart_text exactOps T X wf .ean13 rn row h hext sg
  | ean8 => exact decodeWithStart_text exactOps T X wf .ean8 rn row h hext sg
  | upce => exact decodeWithStart_text exactOps T X wf .upce rn row h hext sg

end Gzx.Proofs.OneDRowExtExact
