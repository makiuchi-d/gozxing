/-
  wp `qrenc` — the standard's side of the function-pattern stage, loop-free: what `QRRef.regionOf` and `tagCell`
  have on each rectangle the embed loops of matrix_util.go draw (finder corners, separators, dark module, alignment
  patterns, timing lines, the two copies of the format and of the version information), and that a module in none
  of these rectangles is a data module.  `regionOf` is used through `QRRef.regionOf_eq` (its tests as propositions),
  the format / version positions through `formatPos_spec`, `versionPos_spec` (Proofs/QRInfoPos.lean).
  `CentresOK` is what the alignment stage needs of a row of Table E.1: the centres are five apart (patterns do not
  touch, a centre lies in no other pattern) and each is 6, `n - 7` or clear of the finder, format and version areas.
-/
import Gzx.Proofs.QREncFuncDefs
import Gzx.Proofs.QRInfoPos
namespace Gzx.QREnc
open Gzx Gzx.QRRef

theorem dimension_eq (v : Nat) : dimension v = 17 + 4 * v := rfl

theorem ite_ne {α} {c : Prop} [Decidable c] {x y d : α} (h : (if c then x else y) = d) (hx : x ≠ d) : ¬ c ∧ y = d := by
  by_cases hc : c
  · rw [if_pos hc] at h; exact absurd h hx
  · rw [if_neg hc] at h; exact ⟨hc, h⟩

/-! ### the sets of cells the loops draw -/

/-- the three 8×8 corners: finder patterns and separators -/
abbrev corners (n : Nat) : Nat → Nat → Prop := fun a b => (a < 8 ∧ b < 8) ∨ (a + 8 ≥ n ∧ b < 8) ∨ (a < 8 ∧ b + 8 ≥ n)

abbrev darkW (n : Nat) : Nat → Nat → Prop := fun a b => a = 8 ∧ b + 8 = n

/-- a pair of alignment centres other than the three at which a finder pattern stands (the test inside `inAlignment`) -/
def offFinder (v cx cy : Nat) : Prop :=
  (!((cx == 6 && cy == 6) || (cx == 6 && cy == 4 * v + 10) || (cx == 4 * v + 10 && cy == 6))) = true

theorem offFinder_iff {v cx cy : Nat} :
    offFinder v cx cy ↔ ¬ (cx = 6 ∧ cy = 6) ∧ ¬ (cx = 6 ∧ cy = 4 * v + 10) ∧ ¬ (cx = 4 * v + 10 ∧ cy = 6) := by
  simp only [offFinder, Bool.not_eq_true', Bool.or_eq_false_iff, Bool.and_eq_false_imp, beq_iff_eq, beq_eq_false_iff_ne,
    ne_eq, not_and, and_assoc]

/-- the alignment patterns of row `cy` with centres `xs` … -/
def alignRow (v cy : Nat) (xs : List Nat) (a b : Nat) : Prop :=
  ∃ cx ∈ xs, near cx a 2 = true ∧ near cy b 2 = true ∧ offFinder v cx cy

/-- … and all of them, in the order in which `maybeEmbedPositionAdjustmentPatterns` goes through the centres -/
def alignW (v a b : Nat) : Prop := ∃ cy ∈ alignCentres v, alignRow v cy (alignCentres v) a b

theorem inAlignment_iff (v a b : Nat) : inAlignment v a b = true ↔ alignW v a b := by
  unfold inAlignment alignW alignRow offFinder
  simp only [List.any_eq_true, Bool.and_eq_true]
  exact ⟨fun ⟨cx, hcx, hnx, cy, hcy, hny, h⟩ => ⟨cy, hcy, cx, hcx, hnx, hny, h⟩,
    fun ⟨cy, hcy, cx, hcx, hnx, hny, h⟩ => ⟨cx, hcx, hnx, cy, hcy, hny, h⟩⟩

theorem inAlignment_false {v a b : Nat} (h : ¬ alignW v a b) : inAlignment v a b = false :=
  Bool.eq_false_iff.mpr (fun hin => h ((inAlignment_iff v a b).mp hin))

abbrev timingW (n : Nat) : Nat → Nat → Prop := fun a b => (b = 6 ∧ 8 ≤ a ∧ a + 8 < n) ∨ (a = 6 ∧ 8 ≤ b ∧ b + 8 < n)

def formatW (n a b : Nat) : Prop :=
  ∃ i, i < 15 ∧ ((a = (formatPos1 i).1 ∧ b = (formatPos1 i).2) ∨ (a = (formatPos2 n i).1 ∧ b = (formatPos2 n i).2))

def versionW (n a b : Nat) : Prop :=
  ∃ i, i < 18 ∧ ((a = (versionPos1 n i).1 ∧ b = (versionPos1 n i).2) ∨ (a = (versionPos2 n i).1 ∧ b = (versionPos2 n i).2))

/-- finder patterns, separators, dark module, alignment patterns: what is drawn before the timing lines -/
abbrev patternW (v : Nat) : Nat → Nat → Prop :=
  fun a b => (corners (dimension v) a b ∨ darkW (dimension v) a b) ∨ alignW v a b

/-- what `embedBasicPatterns` draws … -/
abbrev basicW (v : Nat) : Nat → Nat → Prop := fun a b => patternW v a b ∨ timingW (dimension v) a b

/-- … and with `embedTypeInfo` and `maybeEmbedVersionInfo` -/
abbrev drawnW (v : Nat) : Nat → Nat → Prop :=
  fun a b => (basicW v a b ∨ formatW (dimension v) a b) ∨ (7 ≤ v ∧ versionW (dimension v) a b)

/-! ### a function module is never the empty marker; a data module lies in none of the patterns -/

theorem not_pattern_of_data (v a b : Nat) (h : regionOf v a b = .data) : ¬ patternW v a b := by
  rw [regionOf_eq] at h
  obtain ⟨_, h⟩ := ite_ne h (by decide)
  obtain ⟨c2, h⟩ := ite_ne h (by decide)
  obtain ⟨c3, h⟩ := ite_ne h (by decide)
  obtain ⟨_, h⟩ := ite_ne h (by decide)
  obtain ⟨_, h⟩ := ite_ne h (by decide)
  obtain ⟨c6, _⟩ := ite_ne h (by decide)
  -- `corners` is the separator test, `darkW` the dark-module test, word for word
  rintro ((hc | hd) | hal)
  · exact c2 hc
  · exact c3 hd
  · exact c6 ((inAlignment_iff v a b).mpr hal)

theorem tagCell_not_empty (v a b : Nat) (h : regionOf v a b ≠ .data) : isEmpty (tagCell v a b) = false := by
  have hb : ∀ x : Bool, isEmpty (b2i x) = false := by decide
  have hn : ∀ k : Nat, isEmpty ((k : Nat) : Int) = false := by
    intro k; unfold isEmpty; simp
  unfold tagCell
  cases hr : regionOf v a b <;> simp only
  · exact hb _
  · rfl
  · exact hb _
  · exact hb _
  · rfl
  · split
    · exact hn _
    · rfl
  · split
    · exact hn _
    · rfl
  · exact absurd hr h

theorem tagCell_not_empty_of_pattern (v a b : Nat) (h : patternW v a b) : isEmpty (tagCell v a b) = false :=
  tagCell_not_empty v a b (fun hr => not_pattern_of_data v a b hr h)

/-! ### finder patterns, separators, dark module -/

/-- in each corner the finder pattern is that of version 1 at the origin, which is the Go table `pdp` -/
theorem tagCell_finder (v ox oy i j : Nat) (hi : i < 7) (hj : j < 7)
    (hox : ox = 0 ∨ ox + 7 = dimension v) (hoy : oy = 0 ∨ oy + 7 = dimension v) (hne : ox = 0 ∨ oy = 0) :
    tagCell v (ox + i) (oy + j) = b2i (finderDark 1 i j) := by
  have hn := dimension_eq v
  have hr : regionOf v (ox + i) (oy + j) = .finder := by rw [regionOf_eq, if_pos]; omega
  have dx : (if ox + i < 7 then ox + i else ox + i + 7 - dimension v) = i := by split <;> omega
  have dy : (if oy + j < 7 then oy + j else oy + j + 7 - dimension v) = j := by split <;> omega
  unfold tagCell
  rw [hr]
  unfold finderDark
  simp only [dx, dy, hi, hj, if_true]

theorem tagCell_separator (v a b : Nat)
    (h : (a = 7 ∧ b < 8) ∨ (a < 8 ∧ b = 7) ∨ (a + 8 = dimension v ∧ b < 8) ∨ (a + 8 ≥ dimension v ∧ b = 7) ∨
      (a = 7 ∧ b + 8 ≥ dimension v) ∨ (a < 8 ∧ b + 8 = dimension v)) : tagCell v a b = 0 := by
  have hn := dimension_eq v
  have hr : regionOf v a b = .separator := by rw [regionOf_eq, if_neg, if_pos] <;> omega
  unfold tagCell
  rw [hr]

theorem tagCell_dark (v a b : Nat) (h : darkW (dimension v) a b) : tagCell v a b = 1 := by
  have hn := dimension_eq v
  have hr : regionOf v a b = .dark := by rw [regionOf_eq, if_neg, if_neg, if_pos] <;> omega
  unfold tagCell
  rw [hr]

/-! ### alignment patterns -/

def CentresOK (n : Nat) (cs : List Nat) : Prop :=
  cs.Pairwise (fun a b => a + 5 ≤ b) ∧ ∀ c ∈ cs, c = 6 ∨ c + 7 = n ∨ (11 ≤ c ∧ c + 14 ≤ n)

instance (n : Nat) (cs : List Nat) : Decidable (CentresOK n cs) := by unfold CentresOK; exact inferInstance

/-- the forty rows of Table E.1: the one fact about the version table that is evaluated -/
theorem centresOK_all : ∀ v ∈ List.range' 1 40, CentresOK (dimension v) (alignCentres v) := by decide +kernel

theorem centres_sep {cs : List Nat} (hp : cs.Pairwise (fun a b => a + 5 ≤ b)) {c c' : Nat} (hc : c ∈ cs) (hc' : c' ∈ cs)
    (hn : c' ≤ c + 4 ∧ c ≤ c' + 4) : c' = c := by
  induction cs with
  | nil => cases hc
  | cons a l ih =>
    rw [List.pairwise_cons] at hp
    rcases List.mem_cons.mp hc with e1 | h1 <;> rcases List.mem_cons.mp hc' with e2 | h2
    · rw [e1, e2]
    · have := hp.1 _ h2; omega
    · have := hp.1 _ h1; omega
    · exact ih hp.2 h1 h2

theorem centres_fresh {cs pre post : List Nat} {a : Nat} (hp : cs.Pairwise (fun a b => a + 5 ≤ b))
    (hl : cs = pre ++ a :: post) : a ∉ pre := by
  intro h
  rw [hl, List.pairwise_append] at hp
  have := hp.2.2 a h a (List.mem_cons_self ..)
  omega

theorem filter_unique {cs : List Nat} (hp : cs.Pairwise (fun a b => a + 5 ≤ b)) {c : Nat} (hc : c ∈ cs) (p : Nat → Bool)
    (hpc : p c = true) (huniq : ∀ c' ∈ cs, p c' = true → c' = c) : cs.filter p = [c] := by
  induction cs with
  | nil => cases hc
  | cons x l ih =>
    rw [List.pairwise_cons] at hp
    by_cases hx : x = c
    · subst hx
      rw [List.filter_cons_of_pos hpc, List.filter_eq_nil_iff.mpr]
      intro c' hc' hpc'
      have := huniq c' (List.mem_cons_of_mem _ hc') (by simpa using hpc')
      have := hp.1 c' hc'
      omega
    · have hpx : ¬ p x = true := fun h => hx (huniq x (List.mem_cons_self ..) h)
      rw [List.filter_cons_of_neg hpx]
      exact ih hp.2 ((List.mem_cons.mp hc).resolve_left (fun h => hx h.symm))
        (fun c' hc' => huniq c' (List.mem_cons_of_mem _ hc'))

/-- distance of offset `i` of a 5-wide pattern from its centre -/
def off2 (i : Nat) : Nat := if i ≥ 2 then i - 2 else 2 - i

/-- the Go table `pap` (cut out of version 2 around the centre (18, 18)) by ring distance -/
theorem pap_cells : ∀ j, j < 5 → ∀ i, i < 5 → alignmentDark 2 (16 + i) (16 + j) = (max (off2 i) (off2 j) != 1) := by
  decide

/-- the list of distances inside `alignmentDark`, at offset `i` of the pattern around `c`: only `c` is near -/
theorem dist_centre {cs : List Nat} (hp : cs.Pairwise (fun a b => a + 5 ≤ b)) {c : Nat} (hc : c ∈ cs) (h2 : 2 ≤ c)
    (i : Nat) (hi : i < 5) :
    (cs.filter (fun c' => near c' (c - 2 + i) 2)).map (fun c' => if c - 2 + i ≥ c' then c - 2 + i - c' else c' - (c - 2 + i))
      = [off2 i] := by
  rw [filter_unique hp hc _ (by simp [near]; omega) (fun c' hc' hn => centres_sep hp hc hc' (by
    simp only [near, Bool.and_eq_true, decide_eq_true_eq] at hn
    omega))]
  simp only [List.map_cons, List.map_nil, off2]
  congr 1
  split <;> split <;> omega

/-- Where a drawn alignment pattern can lie: one coordinate is clear of the finder, format and version bands
    (`9 ≤ t ≤ n - 12`) and the other anywhere a pattern reaches (`4 ≤ t ≤ n - 5`), or both are in the band of the last
    centre `n - 7`. -/
abbrev alignZone (n a b : Nat) : Prop :=
  (9 ≤ a ∧ a + 12 ≤ n ∧ 4 ≤ b ∧ b + 5 ≤ n) ∨ (9 ≤ b ∧ b + 12 ≤ n ∧ 4 ≤ a ∧ a + 5 ≤ n) ∨
    (a + 9 ≥ n ∧ a + 5 ≤ n ∧ b + 9 ≥ n ∧ b + 5 ≤ n)

/-- a centre is 6, `n - 7` or in the middle band; `offFinder` leaves the pairs (6, middle), (middle, any), (any, middle)
    and (`n - 7`, `n - 7`) -/
theorem alignZone_of_centres {n v cx cy a b : Nat} (hn : n = 17 + 4 * v) (hv : 1 ≤ v)
    (hx3 : cx = 6 ∨ cx + 7 = n ∨ (11 ≤ cx ∧ cx + 14 ≤ n)) (hy3 : cy = 6 ∨ cy + 7 = n ∨ (11 ≤ cy ∧ cy + 14 ≤ n))
    (hnc : offFinder v cx cy) (ha : cx ≤ a + 2 ∧ a ≤ cx + 2) (hb : cy ≤ b + 2 ∧ b ≤ cy + 2) : alignZone n a b := by
  rw [offFinder_iff] at hnc
  rcases hx3 with hx | hx | hx
  · rcases hy3 with hy | hy | hy
    · exact absurd ⟨hx, hy⟩ hnc.1
    · exact absurd ⟨hx, by omega⟩ hnc.2.1
    · exact Or.inr (Or.inl (by omega))
  · rcases hy3 with hy | hy | hy
    · exact absurd ⟨by omega, hy⟩ hnc.2.2
    · exact Or.inr (Or.inr (by omega))
    · exact Or.inr (Or.inl (by omega))
  · exact Or.inl (by omega)

/-- in that zone none of the five tests of `regionOf` before the alignment test holds -/
theorem regionOf_alignZone (v a b : Nat) (hv : 1 ≤ v) (hz : alignZone (dimension v) a b)
    (hin : inAlignment v a b = true) : regionOf v a b = .alignment := by
  have hn := dimension_eq v
  rcases hz with h | h | h <;> rw [regionOf_eq, if_neg, if_neg, if_neg, if_neg, if_neg, if_pos hin] <;> omega

theorem regionOf_alignment (v cx cy a b : Nat) (hv : 1 ≤ v) (hcs : CentresOK (dimension v) (alignCentres v))
    (hcx : cx ∈ alignCentres v) (hcy : cy ∈ alignCentres v) (hnc : offFinder v cx cy)
    (ha : cx ≤ a + 2 ∧ a ≤ cx + 2) (hb : cy ≤ b + 2 ∧ b ≤ cy + 2) : regionOf v a b = .alignment :=
  regionOf_alignZone v a b hv (alignZone_of_centres (dimension_eq v) hv (hcs.2 cx hcx) (hcs.2 cy hcy) hnc ha hb)
    ((inAlignment_iff v _ _).mpr ⟨cy, hcy, cx, hcx, by simp [near]; omega, by simp [near]; omega, hnc⟩)

/-- the 5×5 block around such a pair: row `j` of `pap` -/
theorem tagCell_alignment (v cx cy : Nat) (hv : 1 ≤ v) (hcs : CentresOK (dimension v) (alignCentres v))
    (hcx : cx ∈ alignCentres v) (hcy : cy ∈ alignCentres v)
    (hnc : offFinder v cx cy)
    (j : Nat) (hj : j < 5) :
    ∃ row, pap[j]? = some row ∧ ∀ i, i < 5 → row[i]? = some (tagCell v (cx - 2 + i) (cy - 2 + j)) := by
  have hn := dimension_eq v
  have hx3 := hcs.2 cx hcx
  have hy3 := hcs.2 cy hcy
  refine ⟨(List.range 5).map (fun x => b2i (alignmentDark 2 (16 + x) (16 + j))), by simp [pap, hj], fun i hi => ?_⟩
  have hdark : alignmentDark v (cx - 2 + i) (cy - 2 + j) = (max (off2 i) (off2 j) != 1) := by
    unfold alignmentDark
    simp only [dist_centre hcs.1 hcx (by omega) i hi, dist_centre hcs.1 hcy (by omega) j hj]
  unfold tagCell
  rw [regionOf_alignment v cx cy _ _ hv hcs hcx hcy hnc (by omega) (by omega)]
  simp only [hdark, pap_cells j hj i hi, List.getElem?_map, List.getElem?_range hi, Option.map_some]

/-! ### timing lines -/

/-- Go's `(i + 1) % 2` is the standard's "dark on even coordinates" -/
theorem timing_bit (i : Nat) :
    Int.tmod ((i : Int) + 1) 2 = b2i ((i + 6) % 2 == 0) ∧ Int.tmod ((i : Int) + 1) 2 = b2i ((6 + i) % 2 == 0) := by
  rw [Int.tmod_eq_emod_of_nonneg (by omega)]
  rcases Nat.mod_two_eq_zero_or_one i with h | h
  · have h1 : (i + 6) % 2 = 0 := by omega
    have h2 : (6 + i) % 2 = 0 := by omega
    simp [h1, h2, b2i]; omega
  · have h1 : (i + 6) % 2 = 1 := by omega
    have h2 : (6 + i) % 2 = 1 := by omega
    simp [h1, h2, b2i]; omega

theorem regionOf_timing (v x y : Nat) (hal : ¬ alignW v x y) (h : timingW (dimension v) x y) :
    regionOf v x y = .timing := by
  have hn := dimension_eq v
  rw [regionOf_eq, if_neg, if_neg, if_neg, if_neg, if_neg, if_neg (by rw [inAlignment_false hal]; decide), if_pos] <;> omega

/-- the value `embedTimingPatterns` writes at `(i, 6)` and `(6, i)` is not the empty marker, and is the standard's
    wherever no alignment pattern lies -/
theorem tagCell_timing (v i : Nat) (h8 : 8 ≤ i) (hi : i + 8 < dimension v) :
    isEmpty (Int.tmod (i + 1) 2) = false ∧
    (¬ alignW v i 6 → Int.tmod (i + 1) 2 = tagCell v i 6) ∧ (¬ alignW v 6 i → Int.tmod (i + 1) 2 = tagCell v 6 i) := by
  refine ⟨?_, fun h => ?_, fun h => ?_⟩
  · rw [(timing_bit i).1]; cases (i + 6) % 2 == 0 <;> rfl
  · unfold tagCell
    rw [regionOf_timing v i 6 h (Or.inl ⟨rfl, h8, hi⟩)]
    exact (timing_bit i).1
  · unfold tagCell
    rw [regionOf_timing v 6 i h (Or.inr ⟨rfl, h8, hi⟩)]
    exact (timing_bit i).2

/-! ### format and version information: bit `i` of the word sits at position `i` of either copy, and nowhere else -/

theorem formatPos1_le (i : Nat) : (formatPos1 i).1 ≤ 8 ∧ (formatPos1 i).2 ≤ 8 := by
  unfold formatPos1
  (repeat' split) <;> dsimp only <;> omega

theorem tagCell_format (v i : Nat) (hv : 1 ≤ v) (hi : i < 15) :
    tagCell v (formatPos1 i).1 (formatPos1 i).2 = ((100 + i : Nat) : Int) ∧
    tagCell v (formatPos2 (dimension v) i).1 (formatPos2 (dimension v) i).2 = ((100 + i : Nat) : Int) := by
  obtain ⟨r1, f1⟩ := formatPos_spec v i hv hi _ (Or.inl rfl)
  obtain ⟨r2, f2⟩ := formatPos_spec v i hv hi _ (Or.inr rfl)
  unfold tagCell
  rw [r1, r2]
  simp only [f1, f2, and_self]

theorem tagCell_version (v i : Nat) (hv : 7 ≤ v) (hi : i < 18) :
    tagCell v (versionPos1 (dimension v) i).1 (versionPos1 (dimension v) i).2 = ((200 + i : Nat) : Int) ∧
    tagCell v (versionPos2 (dimension v) i).1 (versionPos2 (dimension v) i).2 = ((200 + i : Nat) : Int) := by
  obtain ⟨r1, f1⟩ := versionPos_spec v i hv hi _ (Or.inl rfl)
  obtain ⟨r2, f2⟩ := versionPos_spec v i hv hi _ (Or.inr rfl)
  unfold tagCell
  rw [r1, r2]
  simp only [f1, f2, and_self]

/-! ### nothing else is a function module -/

/-- a cell that passes the standard's format test is position `i` of one of the two copies -/
theorem formatW_of_test (n a b : Nat) (hn : 21 ≤ n) (ha : a < n) (hb : b < n) (hd : ¬ (a = 8 ∧ b + 8 = n))
    (h : (a ≤ 8 ∧ b ≤ 8 ∧ (a = 8 ∨ b = 8) ∧ a ≠ 6 ∧ b ≠ 6) ∨ (b = 8 ∧ a + 8 ≥ n) ∨ (a = 8 ∧ b + 8 ≥ n)) :
    formatW n a b := by
  rcases h with ⟨h1, h2, h3, h4, h5⟩ | ⟨rfl, h⟩ | ⟨rfl, h⟩
  · by_cases h8 : a = 8
    · by_cases hb5 : b ≤ 5
      · exact ⟨b, by omega, Or.inl (by unfold formatPos1; rw [if_pos hb5]; exact ⟨h8, rfl⟩)⟩
      · by_cases hb7 : b = 7
        · exact ⟨6, by omega, Or.inl (by unfold formatPos1; rw [if_neg (by omega), if_pos rfl]; exact ⟨h8, hb7⟩)⟩
        · exact ⟨7, by omega, Or.inl (by
            unfold formatPos1; rw [if_neg (by omega), if_neg (by omega), if_pos rfl]; exact ⟨h8, by omega⟩)⟩
    · by_cases h7 : a = 7
      · exact ⟨8, by omega, Or.inl (by
          unfold formatPos1
          rw [if_neg (by omega), if_neg (by omega), if_neg (by omega), if_pos rfl]; exact ⟨h7, by omega⟩)⟩
      · exact ⟨14 - a, by omega, Or.inl (by
          unfold formatPos1
          rw [if_neg (by omega), if_neg (by omega), if_neg (by omega), if_neg (by omega)]
          exact ⟨by dsimp only; omega, by omega⟩)⟩
  · exact ⟨n - 1 - a, by omega, Or.inr (by unfold formatPos2; rw [if_pos (by omega)]; exact ⟨by dsimp only; omega, rfl⟩)⟩
  · exact ⟨b + 15 - n, by omega, Or.inr (by unfold formatPos2; rw [if_neg (by omega)]; exact ⟨rfl, by dsimp only; omega⟩)⟩

theorem versionW_of_test (n a b : Nat) (hn : 21 ≤ n)
    (h : (a < 6 ∧ b + 11 ≥ n ∧ b + 9 ≤ n) ∨ (b < 6 ∧ a + 11 ≥ n ∧ a + 9 ≤ n)) : versionW n a b := by
  rcases h with ⟨h1, h2, h3⟩ | ⟨h1, h2, h3⟩
  · exact ⟨3 * a + (b + 11 - n), by omega, Or.inl (by unfold versionPos1; dsimp only; omega)⟩
  · exact ⟨3 * b + (a + 11 - n), by omega, Or.inr (by unfold versionPos2; dsimp only; omega)⟩

theorem region_data_of_not_drawn (v a b : Nat) (hv : 1 ≤ v) (ha : a < dimension v) (hb : b < dimension v)
    (h : ¬ drawnW v a b) : regionOf v a b = .data := by
  have hn := dimension_eq v
  simp only [not_or] at h
  obtain ⟨⟨⟨⟨⟨hc, hd⟩, hal⟩, htm⟩, hf⟩, hvs⟩ := h
  rw [regionOf_eq, if_neg, if_neg, if_neg, if_neg, if_neg, if_neg, if_neg]
  · omega
  · rw [inAlignment_false hal]; decide
  · exact fun ⟨h7, ht⟩ => hvs ⟨h7, versionW_of_test _ a b (by omega) ht⟩
  · exact fun ht => hf (formatW_of_test _ a b (by omega) ha hb (by omega) ht)
  · omega
  · omega
  · omega

theorem regionOf_basic (v a b : Nat) (hv : 1 ≤ v) (hcs : CentresOK (dimension v) (alignCentres v)) (h : basicW v a b) :
    regionOf v a b ≠ .format ∧ regionOf v a b ≠ .version := by
  have hn := dimension_eq v
  have hal : alignW v a b → regionOf v a b = .alignment := by
    rintro ⟨cy, hcy, cx, hcx, hx, hy, hnc⟩
    simp only [near, Bool.and_eq_true, decide_eq_true_eq] at hx hy
    exact regionOf_alignment v cx cy a b hv hcs hcx hcy hnc hx hy
  have key : regionOf v a b = .finder ∨ regionOf v a b = .separator ∨ regionOf v a b = .dark ∨
      regionOf v a b = .alignment ∨ regionOf v a b = .timing := by
    rcases h with ((h | h) | h) | h
    · by_cases hf : (a < 7 ∧ b < 7) ∨ (a + 7 ≥ dimension v ∧ b < 7) ∨ (a < 7 ∧ b + 7 ≥ dimension v)
      · left; rw [regionOf_eq, if_pos hf]
      · right; left; rw [regionOf_eq, if_neg hf, if_pos]; omega
    · right; right; left; rw [regionOf_eq, if_neg, if_neg, if_pos] <;> omega
    · exact Or.inr (Or.inr (Or.inr (Or.inl (hal h))))
    · by_cases ha : alignW v a b
      · exact Or.inr (Or.inr (Or.inr (Or.inl (hal ha))))
      · exact Or.inr (Or.inr (Or.inr (Or.inr (regionOf_timing v a b ha h))))
  rcases key with h | h | h | h | h <;> rw [h] <;> exact ⟨by decide, by decide⟩

end Gzx.QREnc
