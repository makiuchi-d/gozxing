/-
  C02: bounded-suffix decoder facts (`DecK`) and the "tail" state: a non-ASCII segment was ended WITHOUT an
  unlatch because the symbol has only `k ≤ 2` codewords left, which the decoder reads in ASCII; the shape all whole
  calls of the C40, Text, X12 and EDIFACT encoders share (`CallOut`, `step_post_of_reads`); the end of
  `EncodeHighLevel` (`roundtrip_finish`).
-/
import Gzx.Proofs.DMAsciiRoundTrip
import Gzx.Proofs.DMBase256
namespace Gzx.DMHighLevel

/-- like `DecodesTo`, but only for at most `k` further codewords -/
def DecK (T : Tables) (cw : List Nat) (a : Acc) (k : Nat) : Prop :=
  ∀ suf, suf.length ≤ k → decLoop T (cw ++ suf) 0 false 0 {} = decLoop T suf 0 false cw.length a

theorem DecodesTo.decK {T : Tables} {cw : List Nat} {a : Acc} (h : DecodesTo T cw a) (k : Nat) : DecK T cw a k :=
  fun suf _ => h suf

theorem DecK.mono {T : Tables} {cw : List Nat} {a : Acc} {k k' : Nat} (h : DecK T cw a k) (hk : k' ≤ k) :
    DecK T cw a k' := fun suf hs => h suf (by omega)

theorem decK_iff {T : Tables} {cw : List Nat} {a : Acc} {k : Nat} :
    DecK T cw a k ↔ DecOn T (fun s => s.length ≤ k) cw a := Iff.rfl

theorem asciiNeed_ge_length (l : List Nat) : l.length ≤ asciiNeed l := by
  induction l with
  | nil => simp [asciiNeed]
  | cons c cs ih => simp only [asciiNeed, List.length_cons]; split <;> omega

def Ctx.rest (c : Ctx) : List Nat := (c.msg.drop c.pos).take c.remaining

/-- A segment was closed without unlatch: the symbol has exactly `k` codewords left, the rest of the message
    fits there in ASCII encodation, and the decoder reads up to `k` further codewords in ASCII. -/
structure Tail (T : Tables) (c : Ctx) (a : Acc) (k : Nat) : Prop where
  dec : DecK T c.cw a k
  text : a.rev.reverse = c.msg.take c.pos
  pend : a.pend = 0
  full : ∃ s, c.sym = some s ∧ s.cap = c.count + k
  need : asciiNeed c.rest ≤ k

theorem Exact.tail {T : Tables} {c : Ctx} {a : Acc} (h : Exact T c a) (hm : c.hasMore = false) :
    Tail T c a 0 := by
  refine ⟨?_, h.text, h.pend, ?_, ?_⟩
  · intro suf hs
    have : suf = [] := List.eq_nil_of_length_eq_zero (by omega)
    subst this
    simp only [List.append_nil, decLoop]
    exact h.dec
  · obtain ⟨s, hs, hc⟩ := h.full
    exact ⟨s, hs, by omega⟩
  · have : c.remaining = 0 := by
      have := (hasMore_false_iff c).mp hm
      simp only [Ctx.remaining]; omega
    simp [Ctx.rest, this, asciiNeed]

/-- state right after the ASCII encoder has written the latch `latch` to mode `m` -/
def LatchedM (T : Tables) (m latch : Nat) (la : LookAhead) (c : Ctx) (a : Acc) : Prop :=
  ∃ cw0, c.cw = cw0 ++ [latch] ∧ DecodesTo T cw0 a ∧ a.rev.reverse = c.msg.take c.pos ∧ a.pend = 0 ∧
    la c.msg c.pos ASCII = m

/-- how a whole call of the C40, Text, X12 or EDIFACT encoder ends: the segment behind the latch `b` is closed (read back whatever follows), or left open with
    exactly `k ≤ kmax` codewords free in the symbol, in which the rest of the message fits in ASCII encodation -/
def CallOut (T : Tables) (off b : Nat) (c' : Ctx) (ws chars : List Nat) (kmax : Nat) : Prop :=
  SegReads T (fun _ => True) off b ws chars ∨
  ∃ k, k ≤ kmax ∧ SegReads T (fun s => s.length ≤ k) off b ws chars ∧
    (∃ s, c'.sym = some s ∧ s.cap = c'.count + k) ∧ asciiNeed c'.rest ≤ k

/-- a call entered right behind the latch, on a prefix that decodes whatever follows -/
theorem step_post_of_reads {T : Tables} {la : LookAhead} {m b kmax : Nat} {c c' : Ctx} {a : Acc} {ws chars : List Nat}
    (hL : LatchedM T m b la c a) (hF : CallFrame c c' ws chars) (hnew : c'.newEnc = some ASCII)
    (hout : ∀ off, CallOut T off b c' ws chars kmax) :
    ∃ a', a'.trailer = a.trailer ∧ c'.msg = c.msg ∧ c'.cfg = c.cfg ∧ c'.skipAtEnd = c.skipAtEnd ∧
      c.pos ≤ c'.pos ∧ c'.pos ≤ c'.total ∧ c'.newEnc = some ASCII ∧
      (Inv T c' a' ∨ ∃ k, k ≤ kmax ∧ Tail T c' a' k) := by
  obtain ⟨cw0, hcw, hdec, htext, hpend, _⟩ := hL
  rcases hout cw0.length with hr | ⟨k, hk, hr, hfull, hneed⟩
  · obtain ⟨a', hd, h1, h2, h3⟩ := hF.behind hcw hdec htext hpend hr
    exact ⟨a', h1, hF.msg, hF.cfg, hF.skip, hF.lo, hF.hi, hnew, Or.inl ⟨decodesTo_iff.2 hd, h2, h3⟩⟩
  · obtain ⟨a', hd, h1, h2, h3⟩ := hF.behind hcw hdec htext hpend hr
    exact ⟨a', h1, hF.msg, hF.cfg, hF.skip, hF.lo, hF.hi, hnew, Or.inr ⟨k, hk, hd, h2, h3, hfull, hneed⟩⟩

theorem asciiNeed_append (xs ys : List Nat) : asciiNeed (xs ++ ys) = asciiNeed xs + asciiNeed ys := by
  induction xs with
  | nil => simp [asciiNeed]
  | cons x xs ih => simp only [List.cons_append, asciiNeed, ih]; omega

/-- `Tail` without a current symbol -/
structure TailG (T : Tables) (c : Ctx) (a : Acc) (k : Nat) : Prop where
  dec : DecK T c.cw a k
  text : a.rev.reverse = c.msg.take c.pos
  pend : a.pend = 0
  need : asciiNeed c.rest ≤ k

/-- one ASCII step in an open-segment state (the oracle has to stay in ASCII there): it writes `x`, at most `k`
    codewords, and what is left of the message still fits behind them -/
theorem ascii_step_tailG {T : Tables} {la : LookAhead} {c c' : Ctx} {a : Acc} {k : Nat}
    (hbytes : ∀ x ∈ c.msg, x < 256) (hT : TailG T c a k) (hm : c.hasMore = true)
    (htr : TrailerOK c) (hla : la c.msg c.pos ASCII = ASCII) (h : asciiEncode la c = .ok c') :
    ∃ a' x, c'.cw = c.cw ++ x ∧ 1 ≤ x.length ∧ x.length ≤ k ∧ TailG T c' a' (k - x.length) ∧ a'.trailer = a.trailer ∧
      SameFrame c c' ∧ c.pos < c'.pos ∧ c'.pos ≤ c'.total ∧ c'.newEnc = c.newEnc := by
  have hlt : c.pos < c.total := (hasMore_iff c).mp hm
  obtain ⟨x, p, so, ho, rfl⟩ := asciiEncode_ok_iff.1 h
  cases so with
  | some m =>
    cases ho with
    | latch ch m code hn hch hl hmem => exact absurd (hla.symm.trans hl).symm (latchCodes_ne_ascii hmem)
  | none =>
    obtain ⟨a', hI', htra, _, hx1, hxn, hpos, _⟩ := asciiOut_invOn hbytes ⟨decK_iff.1 hT.dec, hT.text, hT.pend⟩ ho
    have hpt : p ≤ c.total :=
      (ascii_step_le (c' := ({ c with cw := c.cw ++ x, pos := p } : Ctx)) htr hlt ⟨rfl, rfl, rfl, rfl⟩ hpos).1
    have hp : c.pos < p := by rcases hpos with e | ⟨e, _⟩ <;> omega
    -- the rest of the message is what this step has consumed followed by the new rest
    have hrest : c.rest = (c.msg.drop c.pos).take (p - c.pos) ++ (c.msg.drop p).take (c.total - p) := by
      simp only [Ctx.rest, Ctx.remaining, Ctx.total] at hpt ⊢
      rw [show c.msg.length - c.skipAtEnd - c.pos = (p - c.pos) + (c.msg.length - c.skipAtEnd - p) by omega,
        List.take_add, List.drop_drop, show c.pos + (p - c.pos) = p by omega]
    have hneed := hT.need
    rw [hrest, asciiNeed_append] at hneed
    refine ⟨a', x, rfl, hx1, by omega, ⟨?_, hI'.text, hI'.pend, ?_⟩, htra, ⟨rfl, rfl, rfl, rfl⟩, hp, hpt, rfl⟩
    · exact hI'.dec.mono (fun suf (hs : suf.length ≤ k - x.length) => by
        show (x ++ suf).length ≤ k; rw [List.length_append]; omega)
    · show asciiNeed ((c.msg.drop p).take (c.total - p)) ≤ k - x.length
      omega

/-- the same with a current symbol that has exactly `k` codewords free -/
theorem ascii_step_tail {T : Tables} {la : LookAhead} {c c' : Ctx} {a : Acc} {k : Nat}
    (hbytes : ∀ x ∈ c.msg, x < 256) (hT : Tail T c a k) (hm : c.hasMore = true)
    (htr : TrailerOK c) (hla : la c.msg c.pos ASCII = ASCII) (h : asciiEncode la c = .ok c') :
    ∃ a' k', Tail T c' a' k' ∧ k' < k ∧ a'.trailer = a.trailer ∧ SameFrame c c' ∧ c.pos < c'.pos ∧
      c'.pos ≤ c'.total ∧ c'.newEnc = c.newEnc := by
  obtain ⟨a', x, hx, h1, h2, hT', r1, hsf, r3, r4, r5⟩ :=
    ascii_step_tailG hbytes ⟨hT.dec, hT.text, hT.pend, hT.need⟩ hm htr hla h
  obtain ⟨s, hs, hcap⟩ := hT.full
  refine ⟨a', k - x.length, ⟨hT'.dec, hT'.text, hT'.pend, ⟨s, by rw [hsf.sym]; exact hs, ?_⟩, hT'.need⟩, by omega, r1, hsf,
    r3, r4, r5⟩
  simp only [Ctx.count, hx, List.length_append] at hcap ⊢
  omega

/-! ## conditions on the look-ahead oracle under which the round trip is proved -/

def LaNoEdifact (la : LookAhead) : Prop := ∀ m p, la m p ASCII ≠ EDIFACT

def LaNoEdifactOn (la : LookAhead) (msg : List Nat) : Prop := ∀ p, la msg p ASCII ≠ EDIFACT

theorem LaNoEdifact.on {la : LookAhead} (h : LaNoEdifact la) (msg : List Nat) : LaNoEdifactOn la msg :=
  fun p => h msg p

def LaTailAscii (la : LookAhead) (msg : List Nat) (tot : Nat) : Prop :=
  ∀ p, p + 1 = tot → la msg p ASCII = ASCII

/-- the oracle neither stays in nor enters X12 for a last triplet that is followed by one extended character -/
def LaX12Tail (la : LookAhead) (msg : List Nat) (tot : Nat) : Prop :=
  ∀ p ch, p + 4 = tot → msg[p + 3]? = some ch → isExtended ch = true →
    la msg p X12 ≠ X12 ∧ la msg p ASCII ≠ X12

/-- The end of `EncodeHighLevel`: if the dispatch loop, started on the initial context, can only end in ASCII or
    Base-256 encodation at the end of the message with the invariant or an open-segment state (the symbol has exactly
    `k` codewords left), then the codewords with their padding decode to the message. -/
theorem roundtrip_finish {T : Tables} {syms : List SymbolInfo} {la : LookAhead} {msg : List Nat} {cfg : Cfg}
    {cw : List Nat} (h : encodeHL syms la msg cfg = .ok cw)
    (H : ∀ a0 c1 mode, Inv T (initCtx msg cfg) a0 → (initCtx msg cfg).newEnc = none → TrailerOK (initCtx msg cfg) →
      (initCtx msg cfg).pos ≤ (initCtx msg cfg).total → (initCtx msg cfg).msg = msg →
      dispatch syms la (dispatchFuel msg) ASCII (initCtx msg cfg) = .ok (c1, mode) →
      (mode = ASCII ∨ mode = BASE256) ∧ ∃ a1, (Inv T c1 a1 ∨ ∃ k, Tail T c1 a1 k) ∧ a1.trailer = a0.trailer ∧
        c1.msg = (initCtx msg cfg).msg ∧ c1.skipAtEnd = (initCtx msg cfg).skipAtEnd ∧ c1.pos = c1.total) :
    decodeText T cw = .ok msg := by
  obtain ⟨a0, hI0, hn0, htr0, hle0, hmsg0, htrail⟩ := initCtx_inv T msg cfg
  unfold encodeHL at h
  obtain ⟨⟨c1, mode⟩, hd, h⟩ := bind_ok h
  obtain ⟨c2, hu, h⟩ := bind_ok h
  obtain ⟨cap, hc, h⟩ := bind_ok h
  obtain ⟨hmode, a1, hres, htr1, hmsg1, hskip1, hend⟩ := H a0 c1 mode hI0 hn0 htr0 hle0 hmsg0 hd
  have hm1 : c1.msg = msg := by rw [hmsg1, hmsg0]
  have htext : ∀ a : Acc, a.rev.reverse = c1.msg.take c1.pos → a.trailer = a0.trailer → a.text = msg :=
    fun a => final_text htr0 hmsg0 htrail hm1 hskip1 hend
  have hnolatch : ¬ (c1.count < cap ∧ mode ≠ ASCII ∧ mode ≠ BASE256 ∧ mode ≠ EDIFACT) := by
    rcases hmode with rfl | rfl <;> simp
  simp only [hnolatch, if_false, Except.ok.injEq] at h
  subst h
  obtain ⟨ucw, _, _, _, _, _, s, hs, hcap, hwhich⟩ := update_spec hu
  unfold decodeText
  rcases hres with hI | ⟨k, hT⟩
  · rw [ucw, hI.dec, decLoop_padding T a1 _ _ (padding_shape _ _)]
    simp only [Except.map]
    rw [htext a1 hI.text htr1]
  · -- exactly `k` pad codewords follow
    obtain ⟨s0, hs0, hfull⟩ := hT.full
    have hsame : s = s0 := by
      rcases hwhich with h1 | h1 | ⟨s1, h1, hgt⟩
      · rw [hs0] at h1; exact (Option.some.inj h1).symm
      · rw [hs0] at h1; cases h1
      · rw [hs0] at h1; cases h1; omega
    have hcapv : cap = c2.count + k := by
      unfold Ctx.capacity at hc; rw [hs] at hc; cases hc
      rw [hsame, hfull]; simp [Ctx.count, ucw]
    have hplen : (padding c2.count cap).length ≤ k := by
      unfold padding
      split
      · have hpf : ∀ n p, (padFrom n p).length = n := by
          intro n; induction n with
          | zero => intro p; rfl
          | succ m ihm => intro p; simp [padFrom, ihm]
        simp only [List.length_cons, hpf]; omega
      · simp
    rw [ucw, hT.dec _ hplen, decLoop_padding T a1 _ _ (padding_shape _ _)]
    simp only [Except.map]
    rw [htext a1 hT.text htr1]

end Gzx.DMHighLevel
