/-
  C01/C05 — concrete symbols (non-vacuity of the composed theorems, and one end-to-end kernel evaluation of
  the decoder model with the C04 Reed-Solomon decoder on a reference symbol).  Listed in specs/C01.json and
  specs/C05.json so that it is built and audited with the property modules.
-/
import Gzx.Properties.C05
namespace Gzx.QRComp.Examples
open Gzx Gzx.QRDec Gzx.QRComp Gzx.QRMulti Gzx.Properties.C01

/-- payload of ISO/IEC 18004 Annex I: numeric "01234567" in a version 1 symbol -/
def bits8 : List Bool :=
  QRRef.payloadBits 1 (QRRef.headerBits none false .numeric) .numeric 8 (QRRef.packNumeric [0, 1, 2, 3, 4, 5, 6, 7])

def data8 : List Nat := QRRef.terminate (QRRef.dataCodewords 1 .M) bits8

theorem bits8_parse (reg : ECI.Registry) (tail : List Bool) (ht : Terminated tail) :
    parseStream reg (bits8 ++ tail) 1 .none =
      .ok ⟨[.raw ([0, 1, 2, 3, 4, 5, 6, 7].map (48 + ·))], [], -1, -1, 1⟩ := by
  show parseStream _ (QRRef.payloadBits 1 (QRRef.headerBits none false .numeric) .numeric
    [0, 1, 2, 3, 4, 5, 6, 7].length (QRRef.packNumeric [0, 1, 2, 3, 4, 5, 6, 7]) ++ tail) 1 .none = _
  rw [(payload_items 1 none false).1]
  exact parseStream_item reg 1 .none (fun _ => .sjis) (.numeric [0, 1, 2, 3, 4, 5, 6, 7])
    (by decide : ∀ d ∈ [0, 1, 2, 3, 4, 5, 6, 7], d < 10) (by decide : 8 < 2 ^ QRPack.countWidth 0 1)
    (fun _ h => nomatch h) tail ht

/-- the single block of 1-M with its ten error-correction codewords — the standard's worked example -/
theorem annexI_block : refBlocks 1 .M data8 =
    [([0x10, 0x20, 0x0C, 0x56, 0x61, 0x80, 0xEC, 0x11, 0xEC, 0x11, 0xEC, 0x11, 0xEC, 0x11, 0xEC, 0x11],
      [0xA5, 0x24, 0xD4, 0xC1, 0xED, 0x36, 0xC7, 0x87, 0x2C, 0x55])] := by decide +kernel

/-- the block with FIVE of its 26 codewords replaced (3 data, 2 error correction): the promised capacity
    ⌊10/2⌋ of level M in version 1 -/
def recv8 : List (List Nat × List Nat) :=
  [([0xFF, 0x20, 0x0C, 0x00, 0x61, 0x80, 0xEC, 0x11, 0xEC, 0x11, 0xEC, 0x11, 0xEC, 0x11, 0xEC, 0x55],
    [0xA5, 0xAA, 0xD4, 0xC1, 0xED, 0x36, 0xC7, 0x87, 0x2C, 0x01])]

/-- the hypothesis `Received` of `qr_tolerates_block_errors` -/
theorem recv8_received : Received 1 .M data8 recv8 := ⟨by decide +kernel, by decide +kernel, by decide +kernel⟩

theorem recv8_differs : Gzx.Properties.C04.hamming
    ([0x10, 0x20, 0x0C, 0x56, 0x61, 0x80, 0xEC, 0x11, 0xEC, 0x11, 0xEC, 0x11, 0xEC, 0x11, 0xEC, 0x11] ++
      [0xA5, 0x24, 0xD4, 0xC1, 0xED, 0x36, 0xC7, 0x87, 0x2C, 0x55])
    ((recv8.map (fun b => b.1 ++ b.2)).flatMap id) = 5 := by decide +kernel

/-- hence the damaged symbol decodes to the digits (instance of `Properties.C05.qr_tolerates_block_errors`) -/
theorem damaged_annexI_decodes :
    decode refTables rsQR .none (matrixOf (QRRef.refMatrix 1 .M 3 (QRDec.interleave recv8))) =
      .ok ⟨⟨[.raw ([0, 1, 2, 3, 4, 5, 6, 7].map (48 + ·))], [], -1, -1, 1⟩, .M, 1, data8, false⟩ :=
  Gzx.Properties.C05.qr_tolerates_block_errors refTables refTables_conform .none 1 (by decide) (by decide) .M 3
    (by decide) bits8 (by decide) _ (bits8_parse _)
    recv8 recv8_received

/-- END-TO-END KERNEL EVALUATION (no theorem about the decoder used): the executable decoder model —
    `BitMatrixParser`, function pattern, zig-zag read-out, unmasking, de-interleaving, the C04 Reed-Solomon decoder,
    the bit-stream parser — run on the 21x21 reference symbol of Annex I returns the digits. -/
theorem annexI_evaluates :
    (decode refTables rsQR .none (refSymbol 1 .M 3 bits8)).map (·.parsed) =
      .ok ⟨[.raw [48, 49, 50, 51, 52, 53, 54, 55]], [], -1, -1, 1⟩ := by
  unfold refSymbol
  -- the symbol is evaluated module by module: `refMatrix` assembles it through an array, which the kernel
  -- evaluates several times more slowly than everything the decoder does with it
  rw [QRRef.refMatrix_eq_spec]
  decide +kernel

end Gzx.QRComp.Examples
