/-
  C03 — helper lemmas for `upcean_read_write`: the start guard with its left quiet zone, a guard at a run boundary;
  the widths of a digit sequence; well-formedness of the UPC/EAN tables.
-/
import Gzx.Proofs.UpceanDigit
import Gzx.Proofs.CheckDigit
namespace Gzx.OneD
open Gzx Gzx.CheckDigit

/-- the start guard is found where the left quiet zone ends, provided the quiet zone is at least as wide -/
theorem startGuard_at (T : Tables) {row : List Bool} (lq s : Nat) (tail : List Nat)
    (hg : T.startEnd ≠ []) (hgpos : ∀ x ∈ T.startEnd, 0 < x) (hs : 0 < s) (htail : tail ≠ [])
    (hlq : s * sumL T.startEnd ≤ lq)
    (h : RowAt row 0 (lq :: (T.startEnd.map (s * ·) ++ tail)) false) :
    findStartGuardPattern T row = .ok (lq, lq + s * sumL T.startEnd) := by
  obtain ⟨w, rest, rfl⟩ : ∃ w rest, tail = w :: rest := by
    cases tail with
    | nil => exact absurd rfl htail
    | cons a b => exact ⟨a, b, rfl⟩
  obtain ⟨g0, g', hgg⟩ : ∃ g0 g', T.startEnd = g0 :: g' := by
    cases hc : T.startEnd with
    | nil => exact absurd hc hg
    | cons a b => exact ⟨a, b, rfl⟩
  have h1 : RowAt row lq (T.startEnd.map (s * ·) ++ w :: rest) true := by
    have := h.advance_odd [lq] _ (by simp)
    simpa [sumL_cons, sumL_nil] using this
  have hfind := findGuard_at T.startEnd s w rest true hg hgpos hs h1
  have hskip : getNextSet row 0 = getNextSet row lq := by
    have e1 : getNextSet row 0 = 0 + lq := by
      have h' := h
      rw [hgg] at h'
      simp only [List.map_cons, List.cons_append] at h'
      exact getNextSet_skip h'
    have e2 : getNextSet row lq = lq := by
      have h' := h1
      rw [hgg] at h'
      simp only [List.map_cons, List.cons_append] at h'
      exact getNextSet_at h'
    rw [e1, e2]; omega
  have hfind0 : findGuardPattern row 0 false T.startEnd = .ok (lq, lq + s * sumL T.startEnd) := by
    rw [← hfind]
    simp only [findGuardPattern, Bool.false_eq_true, if_false, Bool.not_true, hskip]
  have hrow : row = List.replicate lq false ++ appendPattern (T.startEnd.map (s * ·) ++ w :: rest) true := by
    have := h.drop
    simpa [appendPattern] using this
  have hwhite : isRangeWhite row (lq - s * sumL T.startEnd) lq = true := by
    rw [hrow]; exact isRangeWhite_prefix _ _ _ _ (by omega) (by omega)
  simp only [findStartGuardPattern, findStartLoop, hfind0]
  have e : lq + s * sumL T.startEnd - lq = s * sumL T.startEnd := by omega
  simp only [e, hwhite, hlq, and_self, if_true]

/-- a guard at a run boundary, and the position after it -/
theorem guard_at {row off} (p : List Nat) (s : Nat) (tail : List Nat) (col : Bool)
    (hp : p ≠ []) (hppos : ∀ x ∈ p, 0 < x) (hs : 0 < s) (htail : tail ≠ [])
    (h : RowAt row off (p.map (s * ·) ++ tail) col) :
    findGuardPattern row off (!col) p = .ok (off, off + s * sumL p) ∧
    RowAt row (off + s * sumL p) tail (if p.length % 2 = 0 then col else !col) := by
  obtain ⟨w, rest, rfl⟩ : ∃ w rest, tail = w :: rest := by
    cases tail with
    | nil => exact absurd rfl htail
    | cons a b => exact ⟨a, b, rfl⟩
  refine ⟨findGuard_at p s w rest col hp hppos hs h, ?_⟩
  have := h.advance _ _
  simpa [sumL_scale] using this

/-! ## digit widths -/

/-- the rows looked up by in-range indices have an even number of runs (four), so drawing them keeps the colour -/
theorem DigitTable.rows_even {P : List (List Nat)} {M : Nat} (hP : DigitTable P M) (idx : List Nat)
    (hidx : ∀ i ∈ idx, i < P.length) : ∀ p ∈ idx.map (fun i => P.getD i []), p.length % 2 = 0 := by
  intro p hp
  obtain ⟨i, hi, rfl⟩ := List.mem_map.mp hp
  have hi' := hidx i hi
  rw [getD_eq_getElem _ _ _ hi', (hP.shape _ (List.getElem_mem hi')).1]

theorem digitWidths_shape {P : List (List Nat)} {M : Nat} (hP : DigitTable P M) (idx : List Nat)
    (hidx : ∀ i ∈ idx, i < P.length) :
    (digitWidths P idx).length = 4 * idx.length ∧ ∀ w ∈ digitWidths P idx, 0 < w := by
  induction idx with
  | nil => simp [digitWidths]
  | cons i idx ih =>
    have hi := hidx i (by simp)
    have hq := hP.shape P[i] (List.getElem_mem hi)
    obtain ⟨h1, h2⟩ := ih (fun k hk => hidx k (by simp [hk]))
    have e : digitWidths P (i :: idx) = P[i] ++ digitWidths P idx := by
      simp [digitWidths, List.getElem?_eq_getElem hi]
    rw [e]
    refine ⟨by simp [hq.1, h1]; omega, ?_⟩
    intro w hw
    simp only [List.mem_append] at hw
    rcases hw with hw | hw
    · exact hq.2.2 w hw
    · exact h2 w hw

/-! ## table well-formedness -/

/-- what `upcean_read_write` needs of the UPC/EAN tables (decidable; discharged for the regenerated tables of
    /repo in Obligations/C03.lean): ten L patterns of four positive widths summing to 7, L and G (= reversed L)
    patterns pairwise distinct; guards non-empty with positive widths and the run-count parities that make bars and
    spaces alternate across the symbol; the UPC-E reader's end pattern is the writer's; parity tables of
    pairwise distinct 6-bit words. -/
def WFUpcEan (T : Tables) : Bool :=
  T.lPatterns.length == 10 &&
  T.lPatterns.all (fun p => p.length == 4 && sumL p == 7 && p.all (0 < ·)) &&
  decide (lAndG T.lPatterns).Nodup &&
  T.startEnd.length % 2 == 1 && T.startEnd.all (0 < ·) &&
  T.middle.length % 2 == 1 && T.middle.all (0 < ·) &&
  T.upceEnd.length % 2 == 0 && T.upceEnd.length != 0 && T.upceEnd.all (0 < ·) &&
  T.upceMiddleEnd == T.upceEnd &&
  WFParity T.firstDigit && T.firstDigit.all (· < 64) &&
  WFParity2 T.upceParity && T.upceParity.all (fun r => r.all (· < 64))

theorem wfUpcEan_ref : WFUpcEan refTables = true := by decide +kernel

structure WFFacts (T : Tables) : Prop where
  len : T.lPatterns.length = 10
  tabL : DigitTable T.lPatterns 7
  tabLG : DigitTable (lAndG T.lPatterns) 7
  gOdd : T.startEnd.length % 2 = 1
  gPos : ∀ x ∈ T.startEnd, 0 < x
  mOdd : T.middle.length % 2 = 1
  mPos : ∀ x ∈ T.middle, 0 < x
  eEven : T.upceEnd.length % 2 = 0
  eNe : T.upceEnd ≠ []
  ePos : ∀ x ∈ T.upceEnd, 0 < x
  eEq : T.upceMiddleEnd = T.upceEnd
  fd : WFParity T.firstDigit = true
  fd64 : ∀ x ∈ T.firstDigit, x < 64
  up : WFParity2 T.upceParity = true
  up64 : ∀ r ∈ T.upceParity, ∀ x ∈ r, x < 64

theorem wfFacts (T : Tables) (h : WFUpcEan T = true) : WFFacts T := by
  simp only [WFUpcEan, Bool.and_eq_true, beq_iff_eq, decide_eq_true_eq, List.all_eq_true, bne_iff_ne, ne_eq] at h
  obtain ⟨⟨⟨⟨⟨⟨⟨⟨⟨⟨⟨⟨⟨⟨hlen, hshape⟩, hnd⟩, hgo⟩, hgp⟩, hmo⟩, hmp⟩, hee⟩, hen⟩, hep⟩, heq⟩, hfd⟩, hfd64⟩, hup⟩, hup64⟩ := h
  have shapeL : ∀ q ∈ T.lPatterns, q.length = 4 ∧ sumL q = 7 ∧ ∀ w ∈ q, 0 < w := by
    intro q hq
    have := hshape q hq
    exact ⟨this.1.1, this.1.2, fun w hw => this.2 w hw⟩
  refine ⟨hlen, ⟨?_, shapeL⟩, ⟨hnd, ?_⟩, hgo, hgp, hmo, hmp, hee, ?_, hep, heq, hfd, hfd64, hup, hup64⟩
  · have : (lAndG T.lPatterns).Nodup := hnd
    unfold lAndG at this
    exact (List.nodup_append.mp this).1
  · intro q hq
    simp only [lAndG, List.mem_append, List.mem_map] at hq
    rcases hq with hq | ⟨p, hp, rfl⟩
    · exact shapeL q hq
    · have := shapeL p hp
      exact ⟨by simp [this.1], by rw [sumL_reverse]; exact this.2.1, fun w hw => this.2.2 w (by simpa using hw)⟩
  · intro e
    rw [e] at hen
    simp at hen

end Gzx.OneD
