/-
  C08: the decoder's extractDataRegion undoes the reference finder/clock framing — its coordinate map against
  `symbolCell` (`extractCoords_spec`, region arithmetic for every row with whole regions), and with a glance at each
  row of Table 7 (`rowOKDec`) the decoder's front half on a symbol built by `DMRef.symbolOfMapping`
  (`parser_of_symbolGrid`).
-/
import Gzx.Ref.DM
import Gzx.Model.DMDecoder
import Gzx.Proofs.ExceptList
import Gzx.Proofs.ListGrid
namespace Gzx.DMProofs
open Gzx Gzx.DMRef

/-- Module `1+i` of data region `a` along one axis (regions of `R` data modules framed by one
    finder/clock module on either side) is no frame module, and shows data coordinate `a*R+i`. -/
theorem region_coord (R a i : Nat) (hi : i < R) :
    (a * (R + 2) + 1 + i) % (R + 2) = 1 + i ∧ (a * (R + 2) + 1 + i) / (R + 2) = a := by
  rw [Nat.add_assoc]
  exact mul_add_mod_div (by omega)

/-- the symbol module that `extractDataRegion` reads for cell `(wx, wy)` of the mapping matrix shows
    exactly that cell -/
theorem symbolCell_extract (s : Sym) (wy wx : Nat) (hR : 0 < s.regRows) (hC : 0 < s.regCols) :
    symbolCell s (wy / s.regRows * (s.regRows + 2) + 1 + wy % s.regRows)
        (wx / s.regCols * (s.regCols + 2) + 1 + wx % s.regCols) = some (wy * s.mapCols + wx) := by
  obtain ⟨hr1, hr2⟩ := region_coord s.regRows (wy / s.regRows) (wy % s.regRows) (Nat.mod_lt _ hR)
  obtain ⟨hc1, hc2⟩ := region_coord s.regCols (wx / s.regCols) (wx % s.regCols) (Nat.mod_lt _ hC)
  have hi := Nat.mod_lt wy hR
  have hj := Nat.mod_lt wx hC
  unfold symbolCell
  simp only [hr1, hr2, hc1, hc2]
  rw [if_neg (by omega), Nat.add_sub_cancel_left, Nat.add_sub_cancel_left, Nat.div_add_mod' wy, Nat.div_add_mod' wx]

/-- for a row with whole regions whose region counts the decoder recovers (symbol size over DATA region size, Go's
    integer division) -/
theorem extractCoords_spec (k : Nat) (s : Sym) (hR : 0 < s.regRows) (hC : 0 < s.regCols)
    (hvr : s.rows / s.regRows = s.vRegions) (hhr : s.cols / s.regCols = s.hRegions)
    (hrows : s.rows = s.vRegions * (s.regRows + 2)) (hcols : s.cols = s.hRegions * (s.regCols + 2)) :
    ∃ coords, DMDec.extractCoords (DMDec.ofSym k s) = .ok (s.mapCols, s.mapRows, coords) ∧
      (∀ xy ∈ coords, xy.1 < s.cols ∧ xy.2 < s.rows) ∧
      coords.map (fun xy => symbolCell s xy.2 xy.1) = (List.range (s.mapRows * s.mapCols)).map some := by
  unfold DMDec.extractCoords
  have e1 : (DMDec.ofSym k s).dataRegionSizeRows = s.regRows := rfl
  have e2 : (DMDec.ofSym k s).dataRegionSizeColumns = s.regCols := rfl
  have e3 : (DMDec.ofSym k s).symbolSizeRows = s.rows := rfl
  have e4 : (DMDec.ofSym k s).symbolSizeColumns = s.cols := rfl
  simp only [e1, e2, e3, e4, hvr, hhr, show ¬ (s.regRows = 0 ∨ s.regCols = 0) by omega, if_false]
  refine ⟨_, rfl, ?_, ?_⟩
  · intro xy hxy
    obtain ⟨wy, hwy, hxy⟩ := List.mem_flatMap.1 hxy
    obtain ⟨wx, hwx, rfl⟩ := List.mem_map.1 hxy
    rw [List.mem_range] at hwy hwx
    have hi := Nat.mod_lt wy hR
    have hj := Nat.mod_lt wx hC
    constructor
    · show wx / s.regCols * (s.regCols + 2) + 1 + wx % s.regCols < s.cols
      rw [hcols, Nat.add_assoc]
      exact mul_add_lt ((Nat.div_lt_iff_lt_mul hC).2 hwx) (by omega)
    · show wy / s.regRows * (s.regRows + 2) + 1 + wy % s.regRows < s.rows
      rw [hrows, Nat.add_assoc]
      exact mul_add_lt ((Nat.div_lt_iff_lt_mul hR).2 hwy) (by omega)
  · simp only [List.map_flatMap, List.map_map, Function.comp_def, symbolCell_extract s _ _ hR hC]
    exact flatMap_range_rows some s.mapCols s.mapRows

/-- what the decoder's front half needs of a row of Table 7: found by its dimensions as version `k`, dimensions
    the parser accepts, whole regions, and region counts the decoder recovers -/
def rowOKDec (k : Nat) (s : Sym) : Bool :=
  decide (DMDec.getVersionForDimensions DMDec.versions s.rows s.cols = .ok (DMDec.ofSym k s)) &&
  decide (8 ≤ s.rows) && decide (s.rows ≤ 144) && decide (s.rows % 2 = 0) &&
  decide (0 < s.regRows) && decide (0 < s.regCols) &&
  decide (s.rows / s.regRows = s.vRegions) && decide (s.cols / s.regCols = s.hRegions) &&
  decide (s.rows = s.vRegions * (s.regRows + 2)) && decide (s.cols = s.hRegions * (s.regCols + 2))

theorem rowOKDec_table : ∀ p ∈ table7.zipIdx, rowOKDec (p.2 + 1) p.1 = true := by decide +kernel

theorem symbolModule_of_cell (s : Sym) (m : Array Bool) (r c i : Nat) (h : symbolCell s r c = some i) :
    symbolModule s m r c = m.getD i false := by
  unfold symbolCell at h
  unfold symbolModule
  simp only at h ⊢
  split at h
  · cases h
  · rename_i hn
    simp only [not_or] at hn
    obtain ⟨h1, h2, h3, h4⟩ := hn
    simp only [h1, h2, h3, h4, if_false]
    simp only [Option.some.injEq] at h
    rw [h]

/-- the reference symbol as the decoder sees it -/
def symbolGrid (s : Sym) (m : Array Bool) : DMDec.BitGrid :=
  ⟨s.cols, s.rows, (symbolOfMapping s m).flatten.toArray⟩

theorem symbolGrid_get (s : Sym) (m : Array Bool) (x y : Nat) (hx : x < s.cols) (hy : y < s.rows) :
    (symbolGrid s m).get x y = .ok (symbolModule s m y x) := by
  unfold DMDec.BitGrid.get symbolGrid
  simp only [hx, hy, and_self, if_true, List.getElem?_toArray]
  unfold symbolOfMapping
  rw [flatten_getElem?_uniform s.cols _ y x (by
    intro l hl
    obtain ⟨r, _, rfl⟩ := List.mem_map.1 hl
    simp) hx]
  simp [List.getElem?_map, List.getElem?_range hy, List.getElem?_range hx]

/-- the decoder front half (dimension check, version by dimensions, extractDataRegion) applied to the reference
    symbol of a mapping matrix `m` returns the row's version and `m` itself -/
theorem parser_of_symbolGrid (k : Nat) (s : Sym) (hc : rowOKDec k s = true) (m : Array Bool)
    (hm : m.size = s.mapRows * s.mapCols) :
    DMDec.newBitMatrixParser DMDec.versions (symbolGrid s m) =
      .ok (DMDec.ofSym k s, ⟨s.mapCols, s.mapRows, m⟩) := by
  unfold rowOKDec at hc
  simp only [Bool.and_eq_true, decide_eq_true_eq] at hc
  obtain ⟨⟨⟨⟨⟨⟨⟨⟨⟨hv, h8⟩, h144⟩, heven⟩, hR⟩, hC⟩, hvr⟩, hhr⟩, hrows'⟩, hcols'⟩ := hc
  obtain ⟨coords, hco, hin, hcells⟩ := extractCoords_spec k s hR hC hvr hhr hrows' hcols'
  unfold DMDec.newBitMatrixParser
  have hh : (symbolGrid s m).height = s.rows := rfl
  have hw : (symbolGrid s m).width = s.cols := rfl
  have hdim : ¬ (s.rows < 8 ∨ s.rows > 144 ∨ s.rows % 2 ≠ 0) := by omega
  simp only [hh, hw]
  simp only [hdim, if_false, hv]
  unfold DMDec.extractDataRegion
  have hrows : (DMDec.ofSym k s).symbolSizeRows = s.rows := rfl
  simp only [hh, hrows, ne_eq, not_true_eq_false, if_false]
  simp only [hco]
  have hget : ∀ xy ∈ coords, (symbolGrid s m).get xy.1 xy.2 =
      .ok (((symbolCell s xy.2 xy.1).map (fun i => m.getD i false)).getD false) := by
    intro xy hxy
    obtain ⟨hx, hy⟩ := hin xy hxy
    rw [symbolGrid_get s m xy.1 xy.2 hx hy]
    have hsome : ∃ i, symbolCell s xy.2 xy.1 = some i := by
      have hmem : symbolCell s xy.2 xy.1 ∈ coords.map (fun xy => symbolCell s xy.2 xy.1) :=
        List.mem_map.2 ⟨xy, hxy, rfl⟩
      rw [hcells] at hmem
      obtain ⟨i, _, hi⟩ := List.mem_map.1 hmem
      exact ⟨i, hi.symm⟩
    obtain ⟨i, hi⟩ := hsome
    rw [symbolModule_of_cell s m _ _ i hi, hi]
    rfl
  rw [mapM_ok _ _ _ hget]
  simp only
  have hbits : coords.map (fun xy => ((symbolCell s xy.2 xy.1).map (fun i => m.getD i false)).getD false) =
      m.toList := by
    have h1 : coords.map (fun xy => ((symbolCell s xy.2 xy.1).map (fun i => m.getD i false)).getD false) =
        (coords.map (fun xy => symbolCell s xy.2 xy.1)).map
          (fun o => (o.map (fun i => m.getD i false)).getD false) := by
      rw [List.map_map]; rfl
    rw [h1, hcells, List.map_map]
    apply List.ext_getElem
    · simp [hm]
    · intro i h1 h2
      simp only [List.getElem_map, List.getElem_range, Function.comp_apply, Option.map_some,
        Option.getD_some]
      have hi : i < m.size := by simpa using h2
      simp [Array.getD, hi]
  rw [hbits]

end Gzx.DMProofs
