/-
  C02 — termination and totality of `EncodeHighLevel`, after DMTermC40: the X12 and EDIFACT encoders.
    * `x12Encode_sat`: a whole call of the X12 encoder returns a value or a WriterException, for EVERY look-ahead
      oracle and table; on success it signals ASCII, never moves backwards, and if it has consumed nothing then
      at most two characters were left.
    * `edifactEncode_sat`: the same for the EDIFACT encoder incl. every branch of `edifactHandleEOD`; its two
      symbol re-selections (`ediEarly_sat`, `ediStep_sat`) are walked once, for cleanliness, for what they leave
      unchanged and for what they do to the symbol (`KF`: kept, or looked up afresh for a bounded count).
    * the Base-256 encoder (`b256Encode_sat`).
-/
import Gzx.Proofs.DMTermC40
import Gzx.Proofs.DMEdifactEOD
import Gzx.Proofs.DMHandlers
namespace Gzx.DMHighLevel
open Gzx.Det (Sat Only)

/-- what `UpdateSymbolInfoByLength` leaves alone: everything but the symbol and the codewords is the same (position
    and pending encodation included; `SameFrame`, Proofs/DMInvariant.lean, is the other way round: the symbol is
    kept, position and pending encodation are free) -/
structure Frame (c c' : Ctx) : Prop where
  msg : c'.msg = c.msg
  pos : c'.pos = c.pos
  skip : c'.skipAtEnd = c.skipAtEnd
  cfg : c'.cfg = c.cfg
  newEnc : c'.newEnc = c.newEnc

theorem Frame.refl (c : Ctx) : Frame c c := ⟨rfl, rfl, rfl, rfl, rfl⟩
theorem Frame.trans {a b c : Ctx} (h1 : Frame a b) (h2 : Frame b c) : Frame a c :=
  ⟨by rw [h2.msg, h1.msg], by rw [h2.pos, h1.pos], by rw [h2.skip, h1.skip], by rw [h2.cfg, h1.cfg],
   by rw [h2.newEnc, h1.newEnc]⟩
theorem Frame.total {c c' : Ctx} (h : Frame c c') : c'.total = c.total := by simp [Ctx.total, h.msg, h.skip]
theorem Frame.hasMore {c c' : Ctx} (h : Frame c c') : c'.hasMore = c.hasMore := by
  simp [Ctx.hasMore, h.total, h.pos]
theorem Frame.remaining {c c' : Ctx} (h : Frame c c') : c'.remaining = c.remaining := by
  simp [Ctx.remaining, h.total, h.pos]

theorem update_frame {syms : List SymbolInfo} {c c' : Ctx} {n : Nat} (h : c.update syms n = .ok c') : Frame c c' := by
  obtain ⟨_, a2, a3, a4, a5, a6, _⟩ := update_spec h
  exact ⟨a2, a3, a5, a4, a6⟩

/-- what `UpdateSymbolInfoByLength`, once or repeatedly, does to a context as far as the symbol invariant cares: hints
    and codewords are untouched, the symbol is kept or looked up afresh for at most `β` codewords.  (The EDIFACT
    end-of-data prelude is two such updates; `StepB`, Proofs/DMSymFF.lean, is the same with `ResetSymbolInfo`
    allowed and the codewords free.) -/
def KF (syms : List SymbolInfo) (β : Nat) (c c' : Ctx) : Prop :=
  c'.cfg = c.cfg ∧ c'.cw = c.cw ∧ (c'.sym = c.sym ∨ ∃ n s, n ≤ β ∧ lookup syms c.cfg n = some s ∧ c'.sym = some s)

theorem KF.refl (syms : List SymbolInfo) (β : Nat) (c : Ctx) : KF syms β c c := ⟨rfl, rfl, Or.inl rfl⟩

theorem KF.of_update {syms : List SymbolInfo} {c c' : Ctx} {n β : Nat} (h : c.update syms n = .ok c') (hn : n ≤ β) :
    KF syms β c c' := by
  obtain ⟨e, hcw, k⟩ := update_sym_cases h
  refine ⟨e, hcw, ?_⟩
  rcases k with k | ⟨s, hl, hs⟩
  · exact Or.inl k
  · exact Or.inr ⟨n, s, hn, hl, hs⟩

theorem KF.trans {syms : List SymbolInfo} {β : Nat} {a b c : Ctx} (h1 : KF syms β a b) (h2 : KF syms β b c) :
    KF syms β a c := by
  obtain ⟨e1, w1, k1⟩ := h1
  obtain ⟨e2, w2, k2⟩ := h2
  refine ⟨by rw [e2, e1], by rw [w2, w1], ?_⟩
  rcases k2 with k | ⟨n, s, hn, hl, hs⟩
  · rw [k]; exact k1
  · exact Or.inr ⟨n, s, hn, by rw [← e1]; exact hl, hs⟩

theorem KF.mono {syms : List SymbolInfo} {β β' : Nat} {c c' : Ctx} (h : KF syms β c c') (hb : β ≤ β') : KF syms β' c c' := by
  obtain ⟨e, w, k⟩ := h
  refine ⟨e, w, ?_⟩
  rcases k with k | ⟨n, s, hn, hl, hs⟩
  · exact Or.inl k
  · exact Or.inr ⟨n, s, by omega, hl, hs⟩

theorem edifactPack_length (buf : List Nat) (h1 : 1 ≤ buf.length) :
    (edifactPack buf).length = min buf.length 3 := by
  match buf, h1 with
  | [_], _ => rfl
  | [_, _], _ => rfl
  | [_, _, _], _ => rfl
  | _ :: _ :: _ :: _ :: r, _ => simp [edifactPack, edifactWord]

theorem update_sat (syms : List SymbolInfo) (c : Ctx) (n : Nat) :
    Sat (Only .writer) (fun c' => Frame c c' ∧ KF syms n c c' ∧ ∃ s, c'.sym = some s ∧ c'.capacity = .ok s.cap)
      (c.update syms n) := by
  cases h : c.update syms n with
  | ok c' => exact ⟨update_frame h, KF.of_update h (Nat.le_refl _), capacity_of_update h⟩
  | error e => exact update_error h

/-! ## X12 -/

theorem writeTriplets_snd_length (l : List Nat) :
    ∃ k, (writeTriplets l).2.length + 3 * k = l.length ∧ (writeTriplets l).2.length < 3 := by
  obtain ⟨k, h1, h2, h3, _⟩ := writeTriplets_split l
  refine ⟨k, ?_, ?_⟩ <;> rw [h3, List.length_drop] <;> omega

theorem x12Encode_sat {syms : List SymbolInfo} {la : LookAhead} {c : Ctx}
    (hle : c.pos ≤ c.total) (hnew : c.newEnc = none) :
    Sat (Only .writer) (fun c' => c'.msg = c.msg ∧ c'.skipAtEnd = c.skipAtEnd ∧ c'.cfg = c.cfg ∧
        c'.newEnc = some ASCII ∧ c.pos ≤ c'.pos ∧ c'.pos ≤ c'.total ∧ (c'.pos = c.pos → c.remaining ≤ 2))
      (x12Encode syms la c) := by
  unfold x12Encode
  refine Sat.bind (x12Loop_sat la c.remaining c [] [] [] (by simp) hle rfl (Nat.le_refl _))
    fun ⟨c1, buf1⟩ ⟨vals, _, _, hbuf1, hsf, hp1, hp1t, hvlen, hexit, _⟩ => ?_
  simp only [List.nil_append] at hbuf1 hsf hp1 hp1t hvlen hexit ⊢
  obtain ⟨k, hk1, hk2⟩ := writeTriplets_snd_length vals
  rw [← hbuf1] at hk1 hk2
  rcases (update_sat syms c1 c1.count).cases with ⟨c2, h2, hf, _, s, hs, _⟩ | ⟨e, h2, rfl⟩
  · rw [x12HandleEOD_ok_iff.2 ⟨c2, s, h2, hs, by rw [hf.pos]; omega, rfl⟩]
    obtain ⟨g1, g2, g3, _, g5, _, g7⟩ := x12Out_facts c2 s buf1.length
    -- the incomplete triplet is rewound: whole triplets are consumed
    have hpos : (x12Out c2 s buf1.length).pos = c.pos + 3 * k := by rw [g5, hf.pos]; omega
    have htot : (x12Out c2 s buf1.length).total = c1.total := by
      unfold Ctx.total; rw [g1, g3, hf.msg, hf.skip]
    refine ⟨by rw [g1, hf.msg, hsf.msg], by rw [g3, hf.skip, hsf.skip], by rw [g2, hf.cfg, hsf.cfg], ?_,
      by rw [hpos]; omega, by rw [htot, hpos]; omega, fun hsame => ?_⟩
    · rw [g7, hf.newEnc]
      rcases hexit with ⟨e, _⟩ | ⟨e, _⟩
      · rw [e, hnew]; rfl
      · rw [e]; rfl
    · rw [hpos] at hsame
      have hk0 : k = 0 := by omega
      rcases hexit with ⟨_, hm1⟩ | ⟨_, hb, _, hlt⟩
      · have := (hasMore_false_iff c1).mp hm1
        have ht : c1.total = c.total := by simp [Ctx.total, hsf.msg, hsf.skip]
        simp only [Ctx.remaining]
        omega
      · rw [hb] at hk1; simp at hk1; omega
  · rw [x12HandleEOD_update_error h2]
    exact Sat.error rfl

/-! ## EDIFACT -/

theorem edifactRestNeed_ok {c : Ctx} (hle : c.pos ≤ c.total) : ∃ r, edifactRestNeed c = .ok r := by
  unfold edifactRestNeed
  simp only
  split
  · split
    · exact ⟨_, rfl⟩
    · rename_i h1 h2
      exfalso; apply h2
      simp only [Ctx.remaining, Ctx.total] at h1 hle ⊢
      omega
  · exact ⟨_, rfl⟩

theorem ediEarly_sat {syms : List SymbolInfo} {c : Ctx} (count : Nat) (hle : c.pos ≤ c.total) :
    Sat (Only .writer) (fun r => Frame c r.1 ∧ KF syms (c.count + 1) c r.1) (ediEarly syms c count) := by
  unfold ediEarly
  refine Sat.ite (fun _ => ?_) (fun _ => ⟨Frame.refl _, KF.refl _ _ _⟩)
  refine Sat.bind (update_sat syms c c.count) fun c1 ⟨hf1, k1, s, _, hcap⟩ => ?_
  obtain ⟨r, hr⟩ := edifactRestNeed_ok (c := c1) (by rw [hf1.total, hf1.pos]; exact hle)
  have hc1 : c1.count = c.count := by simp [Ctx.count, k1.2.1]
  rw [hcap, hr]
  show Sat _ _ (ite _ _ _ >>= _)
  refine Sat.bind (P := fun v : Ctx × Nat => Frame c v.1 ∧ KF syms (c.count + 1) c v.1)
    (Sat.ite (fun _ => ?_) (fun _ => ⟨hf1, k1.mono (by omega)⟩)) fun ⟨_, _⟩ hv => hv
  refine Sat.bind (update_sat syms c1 _) fun c4 ⟨hf4, k4, s4, _, hcap4⟩ => ?_
  rw [hcap4]
  exact ⟨hf1.trans hf4, (k1.mono (by omega)).trans (k4.mono (by omega))⟩

theorem ediStep_sat {syms : List SymbolInfo} {c : Ctx} (buf : List Nat) :
    Sat (Only .writer)
      (fun r => Frame c r.1 ∧ KF syms (c.count + max (buf.length - 1) (edifactPack buf).length) c r.1 ∧
        (r.2 = true → c.hasMore = false ∧ buf.length - 1 ≤ 2))
      (ediStep syms c buf) := by
  unfold ediStep
  have hria : (!c.hasMore && decide (buf.length - 1 ≤ 2)) = true → c.hasMore = false ∧ buf.length - 1 ≤ 2 := by
    intro hb
    simp only [Bool.and_eq_true, Bool.not_eq_true', decide_eq_true_eq] at hb
    exact hb
  refine Sat.ite (fun _ => ?_) (fun _ => ⟨Frame.refl _, KF.refl _ _ _, hria⟩)
  refine Sat.bind (update_sat syms c _) fun c1 ⟨hf1, k1, s, _, hcap⟩ => ?_
  have hc1 : c1.count = c.count := by simp [Ctx.count, k1.2.1]
  rw [hcap]
  show Sat _ _ (ite _ _ _)
  refine Sat.ite (fun _ => ?_) (fun _ => ⟨hf1, k1.mono (by omega), hria⟩)
  exact Sat.bind (update_sat syms c1 _) fun c3 ⟨hf3, k3, _⟩ =>
    ⟨hf1.trans hf3, (k1.mono (by omega)).trans (k3.mono (by omega)), fun hb => by cases hb⟩

/-- edifactHandleEOD: a WriterException, or ASCII is signalled and the position is kept or — only at the end of the
    message, with at most two characters buffered — rewound by the buffered characters -/
theorem edifactHandleEOD_sat {syms : List SymbolInfo} {c : Ctx} {buf : List Nat}
    (hle : c.pos ≤ c.total) (hbp : buf.length - 1 ≤ c.pos) :
    Sat (Only .writer) (fun c' => c'.msg = c.msg ∧ c'.skipAtEnd = c.skipAtEnd ∧ c'.cfg = c.cfg ∧
        c'.newEnc = some ASCII ∧
        (c'.pos = c.pos ∨ (c.hasMore = false ∧ buf.length - 1 ≤ 2 ∧ c'.pos + (buf.length - 1) = c.pos)))
      (edifactHandleEOD syms c buf) := by
  rw [edifactHandleEOD_eq]
  refine Sat.ite (fun _ => ⟨rfl, rfl, rfl, rfl, .inl rfl⟩) (fun _ => ?_)
  refine Sat.bind (ediEarly_sat buf.length hle) fun ⟨c1, nu⟩ ⟨hf1, _⟩ => ?_
  show Sat _ _ (ite _ _ _)
  refine Sat.ite (fun _ => ⟨hf1.msg, hf1.skip, hf1.cfg, rfl, .inl hf1.pos⟩) (fun _ => ?_)
  refine Sat.ite (fun _ => Sat.error rfl) (fun _ => ?_)
  refine Sat.bind (ediStep_sat buf) fun ⟨c2, ria⟩ ⟨hf2, _, hria⟩ => ?_
  have hf := hf1.trans hf2
  show Sat _ _ (ite _ _ _)
  refine Sat.ite (fun hr => ?_) (fun _ => ⟨hf.msg, hf.skip, hf.cfg, rfl, .inl hf.pos⟩)
  have hk : buf.length - 1 ≤ ({ c2 with sym := none } : Ctx).pos := by rw [show _ = c.pos from hf.pos]; exact hbp
  simp only [Ctx.back, if_pos hk]
  obtain ⟨hnm, hr2⟩ := hria hr
  refine ⟨hf.msg, hf.skip, hf.cfg, rfl, .inr ⟨by rw [← hf1.hasMore]; exact hnm, hr2, ?_⟩⟩
  show c2.pos - (buf.length - 1) + (buf.length - 1) = c.pos
  have hp : c2.pos = c.pos := hf.pos
  omega

theorem writeQuads_snd_length (l : List Nat) :
    ∃ k, (writeQuads l).2.length + 4 * k = l.length ∧ (writeQuads l).2.length < 4 := by
  obtain ⟨k, h1, h2, _, h4⟩ := writeQuads_split l
  refine ⟨k, ?_, ?_⟩ <;> rw [h4, List.length_drop] <;> omega

theorem edifactEncode_sat {syms : List SymbolInfo} {la : LookAhead} {c : Ctx} (hle : c.pos ≤ c.total) :
    Sat (Only .writer) (fun c' => c'.msg = c.msg ∧ c'.skipAtEnd = c.skipAtEnd ∧ c'.cfg = c.cfg ∧
        c'.newEnc = some ASCII ∧ c.pos ≤ c'.pos ∧ c'.pos ≤ c'.total ∧ (c'.pos = c.pos → c.remaining ≤ 2))
      (edifactEncode syms la c) := by
  unfold edifactEncode
  refine Sat.bind (edifactLoop_sat la c.remaining c [] (by simp) hle (Nat.le_refl _))
    fun ⟨c1, buf1⟩ ⟨chars, _, _, _, hbuf1, hsf, hp1, hp1t, hclen, hexit⟩ => ?_
  simp only [List.nil_append] at hbuf1 hsf hp1 hp1t hclen hexit ⊢
  obtain ⟨k, hk1, hk2⟩ := writeQuads_snd_length (chars.map ediVal)
  rw [← hbuf1, List.length_map] at hk1
  rw [← hbuf1] at hk2
  have hbl : (buf1 ++ [31]).length - 1 = buf1.length := by simp
  refine (edifactHandleEOD_sat (syms := syms) (c := c1) (buf := buf1 ++ [31]) hp1t (by rw [hbl]; omega)).post
    fun c' ⟨q1, q2, q3, q4, q5⟩ => ?_
  rw [hbl] at q5
  have htot : c'.total = c1.total := by simp [Ctx.total, q1, q2]
  have htot1 : c1.total = c.total := by simp [Ctx.total, hsf.msg, hsf.skip]
  refine ⟨by rw [q1, hsf.msg], by rw [q2, hsf.skip], by rw [q3, hsf.cfg], q4, ?_, ?_, ?_⟩
  · rcases q5 with e | ⟨_, _, e⟩ <;> omega
  · rw [htot]; rcases q5 with e | ⟨_, _, e⟩ <;> omega
  · intro hsame
    simp only [Ctx.remaining]
    rcases hexit with ⟨_, hm1⟩ | ⟨_, hb, hlt, _⟩
    · have := (hasMore_false_iff c1).mp hm1
      rcases q5 with e | ⟨_, e2, e⟩ <;> omega
    · rw [hb] at hk1 q5
      simp only [List.length_nil] at hk1 q5
      rcases q5 with e | ⟨_, _, e⟩ <;> omega

/-! ## Base 256 -/

/-- one Base-256 encoder call: a WriterException (no symbol fits, run too long), or the run has consumed at least one
    character and stays in Base 256 only if it reached the end of the message -/
theorem b256Encode_sat {syms : List SymbolInfo} {la : LookAhead} {c : Ctx} (hmore : c.hasMore = true)
    (hle : c.pos ≤ c.total) (hnew : c.newEnc = none) :
    Sat (Only .writer) (fun c' => c'.msg = c.msg ∧ c'.skipAtEnd = c.skipAtEnd ∧ c.pos < c'.pos ∧ c'.pos ≤ c'.total ∧
        (c'.newEnc = none ∨ c'.newEnc = some ASCII))
      (b256Encode syms la c) := by
  obtain ⟨⟨c1, data⟩, hl, _, hsf1, _, hpt1, _, hne1, hprog⟩ := (b256Loop_sat la c.remaining c [] hle (Nat.le_refl _)).total
  simp only at hsf1 hpt1 hne1 hprog
  unfold b256Encode
  rw [hl]
  show Sat _ _ (c1.update syms _ >>= _)
  refine Sat.bind (update_sat syms c1 _) fun c2 ⟨hf2, _, s, _, hcap⟩ => ?_
  rw [hcap]
  show Sat _ _ (b256Header (c2.hasMore = true ∨ s.cap - (c1.count + data.length + 1) > 0) data.length >>= _)
  have hh : Sat (Only .writer) (fun _ => True)
      (b256Header (c2.hasMore = true ∨ s.cap - (c1.count + data.length + 1) > 0) data.length) := by
    unfold b256Header
    repeat' refine Sat.ite (fun _ => ?_) (fun _ => ?_)
    all_goals first | exact trivial | exact Sat.error rfl
  refine Sat.bind hh fun hdr _ => ?_
  refine ⟨hf2.msg.trans hsf1.msg, hf2.skip.trans hsf1.skip, by show c.pos < c2.pos; rw [hf2.pos]; exact hprog hmore,
    by show c2.pos ≤ c2.total; rw [hf2.pos, hf2.total]; exact hpt1, ?_⟩
  show c2.newEnc = none ∨ c2.newEnc = some ASCII
  rw [hf2.newEnc]
  rcases hne1 with ⟨h1, _⟩ | h1
  · exact .inl (h1.trans hnew)
  · exact .inr h1

end Gzx.DMHighLevel
