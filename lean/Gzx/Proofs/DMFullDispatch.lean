/-
  C02 — the induction over the dispatch loop (all six modes), for every look-ahead that is exact arithmetic up to float
  rounding: `dispatch_full`.  `Pre` is what holds before an iteration (real context `c`, virtual codewords `V`,
  accumulator `a` of the decoder on `V`, `j` codewords owed), `RunGoal` what holds when the loop has ended; one lemma per
  state of `FSt` carries an iteration over (`iter_ascii`, `iter_tail`, `iter_simple`, `iter_b256`, `iter_edifact`).
-/
import Gzx.Proofs.DMFullRun
namespace Gzx.DMHighLevel

/-- the loop, entered at `c` with macro trailer `trl` in the accumulator, has ended at `c'` in mode `mode'`: the message is
    used up, some virtual list `V'` is in one of the final states `Fin`, the real codewords decode like it on byte
    continuations of at least `j'` codewords, and `Debt` still knows why that many will follow -/
def RunGoal (syms : List SymbolInfo) (c : Ctx) (trl : List Nat) (c' : Ctx) (mode' : Nat) : Prop :=
  (mode' = ASCII ∨ mode' = BASE256) ∧ Bytes c'.cw ∧ ∃ V' a' j', V'.length = c'.cw.length ∧
    Fin syms (c'.swap V') a' ∧ a'.trailer = trl ∧ c'.msg = c.msg ∧ c'.skipAtEnd = c.skipAtEnd ∧ c'.cfg = c.cfg ∧
    c'.pos = c'.total ∧ SymFF syms c' ∧ Sim refTables j' c'.cw V' ∧ Debt syms mode' c' V' trl j'

theorem RunGoal.congr {syms : List SymbolInfo} {c c1 c' : Ctx} {trl : List Nat} {m' : Nat}
    (h : RunGoal syms c1 trl c' m') (e1 : c1.msg = c.msg) (e2 : c1.skipAtEnd = c.skipAtEnd) (e3 : c1.cfg = c.cfg) :
    RunGoal syms c trl c' m' := by
  obtain ⟨r1, r2, V', a', j', q1, q2, q3, q4, q5, q6, q7, q8, q9, q10⟩ := h
  exact ⟨r1, r2, V', a', j', q1, q2, q3, by rw [q4, e1], by rw [q5, e2], by rw [q6, e3], q7, q8, q9, q10⟩

theorem run_base {syms : List SymbolInfo} {la : LookAhead} {mode : Nat} {c : Ctx} {V : List Nat} {a : Acc} {j : Nat}
    (hcb : Bytes c.cw) (hV : V.length = c.cw.length) (hS : FSt syms la mode (c.swap V) a)
    (hm : c.hasMore = false) (hle : c.pos ≤ c.total) (hff : SymFF syms c) (hsim : Sim refTables j c.cw V)
    (hdebt : Debt syms mode c V a.trailer j) : RunGoal syms c a.trailer c mode := by
  have hend : c.pos = c.total := by
    have := (hasMore_false_iff c).mp hm; omega
  have hmv : (c.swap V).hasMore = c.hasMore := rfl
  cases hS with
  | ascii hI => exact ⟨Or.inl rfl, hcb, V, a, j, hV, Fin.inv hI, rfl, rfl, rfl, rfl, hend, hff, hsim, hdebt⟩
  | tail k hk hT hC hmode =>
    exact ⟨by rcases hmode with e | ⟨e, _⟩ <;> simp [e], hcb, V, a, j, hV, Fin.tail k hk hT hC, rfl, rfl, rfl, rfl, hend,
      hff, hsim, hdebt⟩
  | latched _ _ hm' _ => rw [hmv, hm] at hm'; cases hm'
  | done256 hI _ => exact ⟨Or.inr rfl, hcb, V, a, j, hV, Fin.inv hI, rfl, rfl, rfl, rfl, hend, hff, hsim, hdebt⟩
  | endpad jj hd ht _ hs =>
    exact ⟨Or.inl rfl, hcb, V, a, j, hV, Fin.endpad jj hd ht hs, rfl, rfl, rfl, rfl, hend, hff, hsim, hdebt⟩

/-- before an iteration in mode `mode`: bytes only, `V` as long as the real codewords and in state `FSt` with accumulator
    `a`, no mode change pending, the macro trailer (if any) intact behind `c.total`, the current symbol found by a look-up
    of at most `c.count + 1` codewords (`SymB`), `Sim` and `Debt` for the `j` codewords owed -/
structure Pre (syms : List SymbolInfo) (la : LookAhead) (mode : Nat) (c : Ctx) (V : List Nat) (a : Acc) (j : Nat) :
    Prop where
  hb : Bytes c.msg
  hcb : Bytes c.cw
  hV : V.length = c.cw.length
  st : FSt syms la mode (c.swap V) a
  hnew : c.newEnc = none
  htr : TrailerOK c
  hle : c.pos ≤ c.total
  htot : TotOK c.msg c.total
  hsb : SymB syms c
  hsim : Sim refTables j c.cw V
  hdebt : Debt syms mode c V a.trailer j

/-- the induction hypothesis: the statement of `dispatch_full` for fuel `n` -/
def IHyp (syms : List SymbolInfo) (la : LookAhead) (n : Nat) (c' : Ctx) (m' : Nat) : Prop :=
  ∀ (mode : Nat) (c : Ctx) (V : List Nat) (a : Acc) (j : Nat), Pre syms la mode c V a j →
    dispatch syms la n mode c = .ok (c', m') → RunGoal syms c a.trailer c' m'

/-- common facts about one encoder call that appends the codewords `x` -/
theorem call_facts {syms : List SymbolInfo} {la : LookAhead} {mode : Nat} {c c1 : Ctx} {V x : List Nat} {a : Acc} {j : Nat}
    (P : Pre syms la mode c V a j) (hm : c.hasMore = true) (h1 : encodeMode syms la mode c = .ok c1)
    (hx : c1.cw = c.cw ++ x) :
    Bytes x ∧ Bytes c1.cw ∧ (V ++ x).length = c1.cw.length ∧ SymB syms c1 ∧
      Sim refTables (j - x.length) c1.cw (V ++ x) ∧ c1.msg = c.msg := by
  have hB := encodeMode_bytes P.hb P.hcb hm P.hnew h1
  have hxb : Bytes x := fun y hy => hB y (by rw [hx]; exact List.mem_append_right _ hy)
  refine ⟨hxb, hB, by rw [hx]; simp [P.hV], (encodeMode_symB P.hsb P.hle h1).1, ?_, encodeMode_msg hm P.hnew h1⟩
  rw [hx]; exact P.hsim.append hxb

/-- the ASCII encoder does not look at the codewords: its step on the virtual context -/
theorem ascii_virtual {la : LookAhead} {c c1 : Ctx} (V : List Nat) (h1 : asciiEncode la c = .ok c1) :
    ∃ x, c1.cw = c.cw ++ x ∧ asciiEncode la (c.swap V) = .ok (c1.swap (V ++ x)) := by
  obtain ⟨x, p, s, ho, rfl⟩ := asciiEncode_ok_iff.1 h1
  exact ⟨x, rfl, asciiEncode_ok_iff.2 ⟨x, p, s, ho, rfl⟩⟩

theorem iter_ascii {syms : List SymbolInfo} {la : LookAhead} {n : Nat} {c c' : Ctx} {V : List Nat} {a : Acc} {j m' : Nat}
    (IH : IHyp syms la n c' m') (P : Pre syms la ASCII c V a j) (hI : Inv refTables (c.swap V) a)
    (hm : c.hasMore = true)
    (h : (do
        let c1 ← encodeMode syms la ASCII c
        match c1.newEnc with
        | some m => dispatch syms la n m { c1 with newEnc := none }
        | none => dispatch syms la n ASCII c1) = .ok (c', m')) : RunGoal syms c a.trailer c' m' := by
  obtain ⟨c1, h1, h⟩ := bind_ok h
  obtain ⟨x, hx, hv⟩ := ascii_virtual V (by rw [← encodeMode_ascii syms]; exact h1)
  obtain ⟨hxb, hB1, hlen, hsb1, hsim1, hmsg1⟩ := call_facts P hm h1 hx
  rw [encodeMode_ascii] at h1
  have hm' : c.pos < c.total := (hasMore_iff c).mp hm
  obtain ⟨_, hcfg1, _, hskip1⟩ := asciiEncode_keeps h1
  have hxl : 1 ≤ x.length := by
    have := asciiEncode_writes h1
    simp only [Ctx.count, hx, List.length_append] at this; omega
  have htot1 : c1.total = c.total := by simp [Ctx.total, hmsg1, hskip1]
  have htr1 : TrailerOK c1 := by unfold TrailerOK; rw [hmsg1, hskip1]; exact P.htr
  cases hn1 : c1.newEnc with
  | none =>
    rw [hn1] at h
    simp only at h
    have hn1v : (c1.swap (V ++ x)).newEnc = none := hn1
    obtain ⟨a1, hI1, htr1a, hsf, hpos, hlt⟩ := ascii_step_inv (c := c.swap V) P.hb hI hv hn1v
    have hle1 : c1.pos ≤ c1.total := (ascii_step_le (c := c.swap V) P.htr hm' hsf hpos).1
    have P1 : Pre syms la ASCII c1 (V ++ x) a1 (j - x.length) :=
      ⟨by rw [hmsg1]; exact P.hb, hB1, hlen, FSt.ascii hI1, hn1, htr1, hle1, by rw [hmsg1, htot1]; exact P.htot,
        hsb1, hsim1, by rw [htr1a]; exact P.hdebt.step hmsg1 hskip1 hcfg1 (fun _ => hxl)⟩
    have := IH ASCII c1 (V ++ x) a1 (j - x.length) P1 h
    rw [htr1a] at this
    exact this.congr hmsg1 hskip1 hcfg1
  | some m =>
    rw [hn1] at h
    simp only at h
    have hn1v : (c1.swap (V ++ x)).newEnc ≠ none := by show c1.newEnc ≠ none; rw [hn1]; simp
    obtain ⟨mm, code, hlam, hc1, hcases⟩ := ascii_latch_gen (c := c.swap V) hv hn1v P.hnew
    have hmm : m = mm := by
      have : (c1.swap (V ++ x)).newEnc = some mm := by rw [hc1]; rfl
      have h2 : (c1.swap (V ++ x)).newEnc = some m := hn1
      rw [h2] at this; exact Option.some.inj this
    subst hmm
    have hpos1 : c1.pos = c.pos := by
      have : (c1.swap (V ++ x)).pos = (c.swap V).pos := by rw [hc1]; rfl
      exact this
    have hL : LatchedM refTables m code la (({ c1 with newEnc := none } : Ctx).swap (V ++ x)) a := by
      have e : (({ c1 with newEnc := none } : Ctx).swap (V ++ x)) =
          ({ (c1.swap (V ++ x)) with newEnc := none } : Ctx) := rfl
      rw [e, hc1]
      exact ⟨V, rfl, hI.dec, hI.text, hI.pend, hlam⟩
    have hne : ¬ m = ASCII := by rcases hcases with ⟨e, _⟩ | ⟨e, _⟩ | ⟨e, _⟩ | ⟨e, _⟩ | ⟨e, _⟩ <;> rw [e] <;> decide
    have hmore1 : (({ c1 with newEnc := none } : Ctx).swap (V ++ x)).hasMore = true := by
      have : (({ c1 with newEnc := none } : Ctx).swap (V ++ x)).hasMore = c.hasMore := by
        unfold Ctx.hasMore Ctx.total
        show decide (c1.pos < c1.msg.length - c1.skipAtEnd) = _
        rw [hmsg1, hskip1, hpos1]
      rw [this]; exact hm
    have P1 : Pre syms la m ({ c1 with newEnc := none } : Ctx) (V ++ x) a (j - x.length) :=
      ⟨by show Bytes c1.msg; rw [hmsg1]; exact P.hb, hB1, hlen,
        FSt.latched code hL hmore1 hcases,
        rfl, htr1, by show c1.pos ≤ c1.total; rw [htot1, hpos1]; exact P.hle,
        by show TotOK c1.msg c1.total; rw [hmsg1, htot1]; exact P.htot, hsb1, hsim1,
        P.hdebt.step (c' := ({ c1 with newEnc := none } : Ctx)) hmsg1 hskip1 hcfg1 (fun _ => hxl)⟩
    have := IH m _ (V ++ x) a (j - x.length) P1 h
    exact this.congr (c1 := ({ c1 with newEnc := none } : Ctx)) hmsg1 hskip1 hcfg1

theorem iter_tail {syms : List SymbolInfo} {la : LookAhead} (hla : LaFloatLike la) {n : Nat} {c c' : Ctx} {V : List Nat}
    {a : Acc} {j m' k : Nat}
    (IH : IHyp syms la n c' m') (P : Pre syms la ASCII c V a j) (hk : k ≤ 2) (hT : TailG refTables (c.swap V) a k)
    (hC : CapFact syms (c.swap V) k) (hm : c.hasMore = true)
    (h : (do
        let c1 ← encodeMode syms la ASCII c
        match c1.newEnc with
        | some m => dispatch syms la n m { c1 with newEnc := none }
        | none => dispatch syms la n ASCII c1) = .ok (c', m')) : RunGoal syms c a.trailer c' m' := by
  obtain ⟨c1, h1, h⟩ := bind_ok h
  obtain ⟨x, hx, hv⟩ := ascii_virtual V (by rw [← encodeMode_ascii syms]; exact h1)
  obtain ⟨hxb, hB1, hlen, hsb1, hsim1, hmsg1⟩ := call_facts P hm h1 hx
  rw [encodeMode_ascii] at h1
  obtain ⟨_, hcfg1, _, hskip1⟩ := asciiEncode_keeps h1
  have hxl : 1 ≤ x.length := by
    have := asciiEncode_writes h1
    simp only [Ctx.count, hx, List.length_append] at this; omega
  have htot1 : c1.total = c.total := by simp [Ctx.total, hmsg1, hskip1]
  have htr1 : TrailerOK c1 := by unfold TrailerOK; rw [hmsg1, hskip1]; exact P.htr
  have hneed2 : asciiNeed c.rest ≤ 2 := by
    have h0 : asciiNeed (c.swap V).rest ≤ k := hT.need
    have h1 : (c.swap V).rest = c.rest := rfl
    rw [h1] at h0; omega
  have hlaA : la c.msg c.pos ASCII = ASCII := tail_la_ascii hla P.htot hm hneed2
  obtain ⟨a1, x', hx', hx1, hxk, hT1, htr1a, hsf, hpos, hpt, hnew1⟩ :=
    ascii_step_tailG (c := c.swap V) P.hb hT hm P.htr hlaA hv
  obtain rfl : x = x' := List.append_cancel_left (show V ++ x = V ++ x' from hx')
  have hC1 := hC.ascii_step hsf hx' hxk
  have hn1 : c1.newEnc = none := by
    have : (c1.swap (V ++ x)).newEnc = (c.swap V).newEnc := hnew1
    exact this.trans P.hnew
  rw [hn1] at h
  simp only at h
  have P1 : Pre syms la ASCII c1 (V ++ x) a1 (j - x.length) :=
    ⟨by rw [hmsg1]; exact P.hb, hB1, hlen, FSt.tail (k - x.length) (by omega) hT1 hC1 (Or.inl rfl), hn1, htr1, hpt,
      by rw [hmsg1, htot1]; exact P.htot, hsb1, hsim1,
      by rw [htr1a]; exact P.hdebt.step hmsg1 hskip1 hcfg1 (fun _ => hxl)⟩
  have := IH ASCII c1 (V ++ x) a1 (j - x.length) P1 h
  rw [htr1a] at this
  exact this.congr hmsg1 hskip1 hcfg1

/-- back to ASCII encodation after a whole call of another encoder -/
theorem cont_ascii {syms : List SymbolInfo} {la : LookAhead} {n mode : Nat} {c c1 c' : Ctx} {V V1 : List Nat}
    {a a1 : Acc} {j j1 m' : Nat} (IH : IHyp syms la n c' m') (P : Pre syms la mode c V a j)
    (hmsg1 : c1.msg = c.msg) (hskip1 : c1.skipAtEnd = c.skipAtEnd) (hcfg1 : c1.cfg = c.cfg)
    (hpt : c1.pos ≤ c1.total) (hB1 : Bytes c1.cw) (hlen : V1.length = c1.cw.length) (hn : c1.newEnc = some ASCII)
    (htra : a1.trailer = a.trailer)
    (hS : FSt syms la ASCII (({ c1 with newEnc := none } : Ctx).swap V1) a1)
    (hsb1 : SymB syms c1) (hsim1 : Sim refTables j1 c1.cw V1)
    (hdebt1 : Debt syms ASCII ({ c1 with newEnc := none } : Ctx) V1 a.trailer j1)
    (h : (match c1.newEnc with
        | some m => dispatch syms la n m { c1 with newEnc := none }
        | none => dispatch syms la n mode c1) = .ok (c', m')) : RunGoal syms c a.trailer c' m' := by
  rw [hn] at h
  simp only at h
  have htot1 : c1.total = c.total := by simp [Ctx.total, hmsg1, hskip1]
  have P1 : Pre syms la ASCII ({ c1 with newEnc := none } : Ctx) V1 a1 j1 :=
    ⟨by show Bytes c1.msg; rw [hmsg1]; exact P.hb, hB1, hlen, hS, rfl,
      by show TrailerOK ({ c1 with newEnc := none } : Ctx); unfold TrailerOK; show _ ∨ _; rw [hmsg1, hskip1]; exact P.htr,
      hpt, by show TotOK c1.msg c1.total; rw [hmsg1, htot1]; exact P.htot, hsb1, hsim1, by rw [htra]; exact hdebt1⟩
  have := IH ASCII _ V1 a1 j1 P1 h
  rw [htra] at this
  exact this.congr (c1 := ({ c1 with newEnc := none } : Ctx)) hmsg1 hskip1 hcfg1

/-- the result of a whole call as a state: invariant or open segment -/
theorem state_of_post {syms : List SymbolInfo} {la : LookAhead} {c1 : Ctx} {V1 : List Nat} {a1 : Acc}
    (hff1 : SymFF syms c1)
    (hres : Inv refTables (c1.swap V1) a1 ∨ ∃ k, k ≤ 2 ∧ Tail refTables (c1.swap V1) a1 k) :
    FSt syms la ASCII (({ c1 with newEnc := none } : Ctx).swap V1) a1 := by
  rcases hres with hI | ⟨k, hk, hT⟩
  · exact FSt.ascii ⟨hI.dec, hI.text, hI.pend⟩
  · refine FSt.tail k hk ⟨hT.dec, hT.text, hT.pend, hT.need⟩ ?_ (Or.inl rfl)
    exact capFact_of_full (c := ({ c1 with newEnc := none } : Ctx).swap V1) hff1 hT.full

/-- one iteration for C40 / Text / X12: the whole call on the real context, read behind the virtual prefix -/
theorem iter_simple {syms : List SymbolInfo} {la : LookAhead} {n mode b : Nat} {c c' : Ctx} {V : List Nat} {a : Acc}
    {j m' : Nat} (IH : IHyp syms la n c' m') (P : Pre syms la mode c V a j) (hne : ¬ mode = ASCII)
    (hm : c.hasMore = true) (hL : LatchedM refTables mode b la (c.swap V) a)
    (post : ∀ c1, encodeMode syms la mode c = .ok c1 →
      ∃ ws chars, CallFrame c c1 ws chars ∧ c1.newEnc = some ASCII ∧ ∀ off, CallOut refTables off b c1 ws chars 1)
    (h : (do
        let c1 ← encodeMode syms la mode c
        match c1.newEnc with
        | some m => dispatch syms la n m { c1 with newEnc := none }
        | none => dispatch syms la n mode c1) = .ok (c', m')) : RunGoal syms c a.trailer c' m' := by
  obtain ⟨c1, h1, h⟩ := bind_ok h
  obtain ⟨ws, chars, hF, hn, hout⟩ := post c1 h1
  obtain ⟨hxb, hB1, hlen, hsb1, hsim1, hmsg1⟩ := call_facts P hm h1 hF.cw
  have hFv : CallFrame (c.swap V) (c1.swap (V ++ ws)) ws chars := ⟨rfl, hF.msg, hF.cfg, hF.skip, hF.take, hF.lo, hF.hi⟩
  obtain ⟨a1, htra, _, hcfg1, hskip1, _, hpt, _, hres⟩ :=
    step_post_of_reads (c' := c1.swap (V ++ ws)) hL hFv hn (fun off => (hout off).swap hlen)
  have hres' : Inv refTables (c1.swap (V ++ ws)) a1 ∨ ∃ k, k ≤ 2 ∧ Tail refTables (c1.swap (V ++ ws)) a1 k := by
    rcases hres with hI | ⟨k, hk, hT⟩
    · exact Or.inl hI
    · exact Or.inr ⟨k, by omega, hT⟩
  exact cont_ascii IH P hmsg1 hskip1 hcfg1 hpt hB1 hlen hn htra (state_of_post hsb1.ff hres') hsb1 hsim1
    (P.hdebt.step (c' := ({ c1 with newEnc := none } : Ctx)) hmsg1 hskip1 hcfg1 (fun e => absurd e hne)) h

theorem iter_b256 {syms : List SymbolInfo} {la : LookAhead} {n : Nat} {c c' : Ctx} {V : List Nat} {a : Acc}
    {j m' : Nat} (IH : IHyp syms la n c' m') (P : Pre syms la BASE256 c V a j)
    (hL : LatchedM refTables BASE256 231 la (c.swap V) a) (hm : c.hasMore = true)
    (h : (do
        let c1 ← encodeMode syms la BASE256 c
        match c1.newEnc with
        | some m => dispatch syms la n m { c1 with newEnc := none }
        | none => dispatch syms la n BASE256 c1) = .ok (c', m')) : RunGoal syms c a.trailer c' m' := by
  obtain ⟨c1, h1, h⟩ := bind_ok h
  obtain ⟨cw0, hcw, hdec, htext, hpend, _⟩ := hL
  have hcw' : V = cw0 ++ [231] := hcw
  obtain ⟨ws, chars, hF, _, hnew1, hout⟩ :=
    b256_call_reads (T := refTables) (off := cw0.length)
      (by show c.cw.length = _; rw [← P.hV, hcw']; simp) P.hb P.hle hm P.hnew (by rw [← encodeMode_b256 syms]; exact h1)
  obtain ⟨hxb, hB1, hlen, hsb1, hsim1, hmsg1⟩ := call_facts P hm h1 hF.cw
  have hcfg1 := hF.cfg
  have hskip1 := hF.skip
  have hpt1 := hF.hi
  have hFv : CallFrame (c.swap V) (c1.swap (V ++ ws)) ws chars := ⟨rfl, hF.msg, hF.cfg, hF.skip, hF.take, hF.lo, hF.hi⟩
  obtain ⟨a1, htra, hres1⟩ := b256_post_of_reads (c' := c1.swap (V ++ ws)) hcw hdec htext hpend hFv (by
    rcases hout with hr | ⟨hf, hr, s, hs, hcap⟩
    · exact Or.inl hr
    · exact Or.inr ⟨hf, hr, s, hs, by show s.cap = (V ++ ws).length; rw [hlen]; exact hcap⟩)
  have hres' : Inv refTables (c1.swap (V ++ ws)) a1 ∨ ∃ k, k ≤ 2 ∧ Tail refTables (c1.swap (V ++ ws)) a1 k := by
    rcases hres1 with hI | ⟨hf, hE⟩
    · exact Or.inl hI
    · exact Or.inr ⟨0, by omega, hE.tail hf⟩
  have hdebt1 : ∀ md, Debt syms md c1 (V ++ ws) a.trailer (j - ws.length) := fun md =>
    P.hdebt.step hmsg1 hskip1 hcfg1 (fun e => absurd e (by decide))
  rcases hnew1 with ⟨hn, hf⟩ | hn
  · rw [hn] at h
    simp only at h
    have htot1 : c1.total = c.total := by simp [Ctx.total, hmsg1, hskip1]
    have hS1 : FSt syms la BASE256 (c1.swap (V ++ ws)) a1 := by
      rcases hres' with hI | ⟨k, hk, hT⟩
      · exact FSt.done256 hI hf
      · exact FSt.tail k hk ⟨hT.dec, hT.text, hT.pend, hT.need⟩
          (capFact_of_full (c := c1.swap (V ++ ws)) hsb1.ff hT.full) (Or.inr ⟨rfl, hf⟩)
    have P1 : Pre syms la BASE256 c1 (V ++ ws) a1 (j - ws.length) :=
      ⟨by rw [hmsg1]; exact P.hb, hB1, hlen, hS1, hn, by unfold TrailerOK; rw [hmsg1, hskip1]; exact P.htr, hpt1,
        by rw [hmsg1, htot1]; exact P.htot, hsb1, hsim1, by rw [htra]; exact hdebt1 _⟩
    have := IH BASE256 c1 (V ++ ws) a1 (j - ws.length) P1 h
    rw [htra] at this
    exact this.congr hmsg1 hskip1 hcfg1
  · exact cont_ascii IH P hmsg1 hskip1 hcfg1 hpt1 hB1 hlen hn htra (state_of_post hsb1.ff hres') hsb1 hsim1
      (P.hdebt.step (c' := ({ c1 with newEnc := none } : Ctx)) hmsg1 hskip1 hcfg1 (fun e => absurd e (by decide))) h

theorem tail_of_rewound {syms : List SymbolInfo} {c : Ctx} {a : Acc} {s : SymbolInfo}
    (hd : DecK refTables c.cw a 2) (htext : a.rev.reverse = c.msg.take c.pos) (hpend : a.pend = 0)
    (hnone : c.sym = none) (hnat : ∀ x ∈ c.rest, isNativeEDIFACT x = true) (hmem : s ∈ syms)
    (hadm : admissible c.cfg s = true) (h1 : c.count + c.remaining ≤ s.cap) (h2 : s.cap ≤ c.count + 2) :
    ∃ k, k ≤ 2 ∧ TailG refTables c a k ∧ CapFact syms c k := by
  refine ⟨s.cap - c.count, by omega, ⟨hd.mono (by omega), htext, hpend, ?_⟩, ⟨s, hmem, hadm, by omega, Or.inr hnone⟩⟩
  rw [asciiNeed_native _ hnat]
  have : c.rest.length ≤ c.remaining := by
    unfold Ctx.rest; rw [List.length_take]; omega
  omega

theorem iter_edifact {syms : List SymbolInfo} {la : LookAhead} {n : Nat} {c c' : Ctx} {V : List Nat} {a : Acc}
    {j m' : Nat} (IH : IHyp syms la n c' m') (P : Pre syms la EDIFACT c V a j)
    (hL : LatchedM refTables EDIFACT 240 la (c.swap V) a) (hm : c.hasMore = true)
    (h : (do
        let c1 ← encodeMode syms la EDIFACT c
        match c1.newEnc with
        | some m => dispatch syms la n m { c1 with newEnc := none }
        | none => dispatch syms la n EDIFACT c1) = .ok (c', m')) : RunGoal syms c a.trailer c' m' := by
  obtain ⟨c1, h1, h⟩ := bind_ok h
  have h1e : edifactEncode syms la c = .ok c1 := by rw [← encodeMode_edifact syms]; exact h1
  obtain ⟨cw0, hcw, hdec, htext, hpend, _⟩ := hL
  have hV0 : V = cw0 ++ [240] := hcw
  obtain ⟨_, hskip1, hcfg1, hn, _, hpt, _⟩ := (edifactEncode_sat (syms := syms) (la := la) P.hle).of_ok h1e
  have hj2 : j ≤ 2 := by
    rcases P.hdebt with e | ⟨_, y, _, _, _, _, _, e, _⟩ <;> omega
  obtain ⟨ws, chars, hF, _, hout⟩ := edifact_call_reads (T := refTables) P.hle h1e
  obtain ⟨hxb, hB1, hlen, hsb1, hsim1, hmsg1⟩ := call_facts P hm h1 hF.cw
  -- what is written behind the latch, read behind the virtual prefix
  have hFv : CallFrame (c.swap V) (c1.swap (V ++ ws)) ws chars := ⟨rfl, hF.msg, hF.cfg, hF.skip, hF.take, hF.lo, hF.hi⟩
  have key : ∀ {K : List Nat → Prop}, SegReads refTables K cw0.length 240 ws chars →
      ∃ a1, DecOn refTables K (V ++ ws) a1 ∧ a1.trailer = a.trailer ∧ a1.rev.reverse = c1.msg.take c1.pos ∧
        a1.pend = 0 :=
    fun hr => hFv.behind hcw hdec htext hpend hr
  have hdebt1 : Debt syms ASCII ({ c1 with newEnc := none } : Ctx) (V ++ ws) a.trailer (j - ws.length) :=
    P.hdebt.step (c' := ({ c1 with newEnc := none } : Ctx)) hmsg1 hskip1 hcfg1 (fun e => absurd e (by decide))
  cases hout cw0.length with
  | closed hr hm1 =>
    obtain ⟨a1, hd, htra, htx, hpd⟩ := key hr
    exact cont_ascii IH P hmsg1 hskip1 hcfg1 hpt hB1 hlen hn htra
      (FSt.endpad (c := ({ c1 with newEnc := none } : Ctx).swap (V ++ ws)) 0 ((decodesTo_iff.2 hd).decFrom 0) htx hm1
        (Or.inl rfl)) hsb1 hsim1 hdebt1 h
  | tail k hk hr hfull hneed =>
    obtain ⟨a1, hd, htra, htx, hpd⟩ := key hr
    obtain ⟨s, hs, hc⟩ := hfull
    have hT : Tail refTables (c1.swap (V ++ ws)) a1 k :=
      ⟨hd, htx, hpd, ⟨s, hs, by show s.cap = (V ++ ws).length + k; rw [hlen]; exact hc⟩, hneed⟩
    exact cont_ascii IH P hmsg1 hskip1 hcfg1 hpt hB1 hlen hn htra
      (state_of_post hsb1.ff (Or.inr ⟨k, hk, hT⟩)) hsb1 hsim1 hdebt1 h
  | rewound hr hnone hr2 hnat hs =>
    -- the symbol that `UpdateSymbolInfoByLength` picks for the characters stepped back over
    obtain ⟨a1, hd, htra, htx, hpd⟩ := key hr
    obtain ⟨c2, s, hu, hs2, hcap2⟩ := hs
    have hffx : SymFF syms ({ c1 with sym := c.sym } : Ctx) := by
      intro s' hs'
      obtain ⟨m, hm'⟩ := P.hsb.ff s' hs'
      exact ⟨m, by show lookup syms c1.cfg m = some s'; rw [hcfg1]; exact hm'⟩
    obtain ⟨s', hs', hge, hmem, hadm⟩ := update_sym_adm hffx hu
    obtain rfl : s' = s := by rw [hs2] at hs'; exact (Option.some.inj hs').symm
    obtain ⟨k, hk, hT, hC⟩ := tail_of_rewound (c := ({ c1 with newEnc := none } : Ctx).swap (V ++ ws)) hd htx hpd
      hnone hnat hmem hadm (by show (V ++ ws).length + _ ≤ _; rw [hlen]; exact hge)
      (by show _ ≤ (V ++ ws).length + 2; rw [hlen]; exact hcap2)
    exact cont_ascii IH P hmsg1 hskip1 hcfg1 hpt hB1 hlen hn htra
      (FSt.tail (c := ({ c1 with newEnc := none } : Ctx).swap (V ++ ws)) k hk ⟨hT.dec, hT.text, hT.pend, hT.need⟩ hC
        (Or.inl rfl)) hsb1 hsim1 hdebt1 h
  | endpad jj hjj hr hf hs =>
    obtain ⟨a1, hd, htra, htx, hpd⟩ := key hr
    obtain ⟨s, hs1, hs2⟩ := hs
    exact cont_ascii IH P hmsg1 hskip1 hcfg1 hpt hB1 hlen hn htra
      (FSt.endpad (c := ({ c1 with newEnc := none } : Ctx).swap (V ++ ws)) jj (decFrom_iff.2 hd) htx hf
        (Or.inr ⟨s, hs1, by show (V ++ ws).length + jj ≤ _; rw [hlen]; exact hs2⟩)) hsb1 hsim1 hdebt1 h
  | mid kq _ hm1 _ hQl hkq hQn hws hfacts =>
    -- the real codewords decode if two more bytes follow; a virtual list of the same length decodes always
    have htk := hF.take
    obtain ⟨hr2, ws', f', hlen', hr', hf'⟩ := edi_mid_reads refTables cw0.length kq chars hQl hkq hQn
    rw [← hws] at hr2 hlen'
    have hDF : DecFrom refTables 2 (V ++ ws) (a.pushAll chars).endSeg := by
      have := (decodesTo_iff.1 hdec).append hr2 (Q := fun s => 2 ≤ s.length ∧ ∀ x ∈ s, x < 256)
        (fun _ hs => ⟨hs, trivial⟩)
      exact decFrom_iff.2 (by rw [hV0]; simpa using this)
    have hLdec : DecodesTo refTables (cw0 ++ 240 :: ws') (a.pushAll chars).endSeg := by
      have := hdec.append hr'
      rw [hf' a hpend] at this; exact this
    have hLlen : (cw0 ++ 240 :: ws').length = (V ++ ws).length := by
      rw [hV0]; simp only [List.length_append, List.length_cons, List.length_nil, hlen']; omega
    have htext1 : (a.pushAll chars).endSeg.rev.reverse = c1.msg.take c1.pos := by
      rw [Acc.endSeg_rev, pushAll_rev, hmsg1, htk]; exact congrArg (· ++ chars) htext
    have htra : (a.pushAll chars).endSeg.trailer = a.trailer := by rw [Acc.endSeg_trailer, pushAll_trailer]
    have hLc : (cw0 ++ 240 :: ws').length = c1.cw.length := by rw [hLlen, hlen]
    have hsimL : Sim refTables 2 c1.cw (cw0 ++ 240 :: ws') := by
      have := hsim1.swap hDF hLdec hLlen
      have e : max (j - ws.length) 2 = 2 := by omega
      rw [e] at this; exact this
    obtain ⟨s, hs, hcapge, hcase⟩ := hfacts
    obtain ⟨n0, hn0, hl0⟩ := hsb1 s hs
    obtain ⟨_, _, hmem, hadm⟩ := lookup_idem hl0
    have hcnt1 : c1.count = (cw0 ++ 240 :: ws').length := by simp only [Ctx.count]; rw [hLc]
    have hmid : Debt syms ASCII ({ c1 with newEnc := none } : Ctx) (cw0 ++ 240 :: ws') a.trailer 2 := by
      right
      exact ⟨_, [], _, c1.pos, s, n0, by simp, by simp, hLdec, htext1, htra, (hasMore_iff c1).mp hm1, hmem,
        hadm, hl0, by rw [← hcnt1]; exact hn0,
        MidFacts.congr (c := c1) ⟨s, hs, hcapge, hcase⟩ hs.symm hcnt1.symm rfl rfl rfl, fun _ => ⟨rfl, hm1⟩⟩
    exact cont_ascii IH P hmsg1 hskip1 hcfg1 hpt hB1 hLc hn htra
      (FSt.ascii (c := ({ c1 with newEnc := none } : Ctx).swap (cw0 ++ 240 :: ws')) ⟨hLdec, htext1, rfl⟩)
      hsb1 hsimL hmid h

theorem dispatch_full {syms : List SymbolInfo} {la : LookAhead} (hla : LaFloatLike la) :
    ∀ (fuel : Nat) (c' : Ctx) (m' : Nat), IHyp syms la fuel c' m' := by
  intro fuel
  induction fuel with
  | zero =>
    intro c' m' mode c V a j P h
    simp only [dispatch] at h
    split at h
    · cases h
    · rename_i hm
      simp only [Except.ok.injEq, Prod.mk.injEq] at h
      obtain ⟨rfl, rfl⟩ := h
      exact run_base P.hcb P.hV P.st (by simpa using hm) P.hle P.hsb.ff P.hsim P.hdebt
  | succ n ih =>
    intro c' m' mode c V a j P h
    simp only [dispatch] at h
    split at h
    · rename_i hm
      simp only [Except.ok.injEq, Prod.mk.injEq] at h
      obtain ⟨rfl, rfl⟩ := h
      exact run_base P.hcb P.hV P.st (by simpa using hm) P.hle P.hsb.ff P.hsim P.hdebt
    · rename_i hm
      simp only [Bool.not_eq_true', Bool.not_eq_false] at hm
      have IH := ih c' m'
      have hmv : (c.swap V).hasMore = c.hasMore := rfl
      have hX12T : LaX12Tail la c.msg c.total := (floatLike_tail_conditions la hla c.msg c.total P.htot).2
      cases hst : P.st with
      | ascii hI => exact iter_ascii IH P hI hm h
      | tail k hk hT hC hmode =>
        have hmA : mode = ASCII := by
          rcases hmode with e | ⟨_, e⟩
          · exact e
          · rw [hmv, hm] at e; cases e
        subst hmA
        exact iter_tail hla IH P hk hT hC hm h
      | done256 _ hf => rw [hmv, hm] at hf; cases hf
      | endpad _ _ _ hf _ => rw [hmv, hm] at hf; cases hf
      | latched code hL _ hcases =>
        rcases hcases with ⟨rfl, rfl⟩ | ⟨rfl, rfl⟩ | ⟨rfl, rfl⟩ | ⟨rfl, rfl⟩ | ⟨rfl, rfl⟩
        · exact iter_b256 IH P hL hm h
        · -- C40
          refine iter_simple IH P (by decide) hm hL (fun c1 h1 => ?_) h
          rw [encodeMode_c40] at h1
          exact c40_call_reads (text := false) P.hb P.hle hm P.hnew h1
        · -- X12
          refine iter_simple IH P (by decide) hm hL (fun c1 h1 => ?_) h
          rw [encodeMode_x12] at h1
          obtain ⟨_, _, _, _, _, hlaL⟩ := hL
          exact x12_call_reads hlaL P.hle P.hnew (fun p ch e1 e2 e3 => hX12T p ch e1 e2 e3) h1
        · -- Text
          refine iter_simple IH P (by decide) hm hL (fun c1 h1 => ?_) h
          rw [encodeMode_text] at h1
          exact c40_call_reads (text := true) P.hb P.hle hm P.hnew h1
        · exact iter_edifact IH P hL hm h

end Gzx.DMHighLevel
