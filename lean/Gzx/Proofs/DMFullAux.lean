/-
  C02 — auxiliaries of the whole-message round trip WITH EDIFACT:
    * `tableOK`: the condition on the symbol table (capacities ascend; different capacities differ by at least 2);
      `lookup_min`: in such a table the first fit is a smallest admissible symbol;
    * `update_sym_adm`: what `UpdateSymbolInfoByLength` picks is an admissible member of the table;
    * `Sim`: the real codeword prefix decodes like a virtual one on every byte continuation of at least `j` codewords
      (`Sim.append`: both extended by the same bytes; `Sim.mono`: for longer continuations all the more; `Sim.swap`:
      the virtual one replaced by another that decodes alike);
    * `CapFact`: the symbol fact of a segment left open with `k ≤ 2` codewords to go, with or without a current symbol;
    * `edi_mid_reads`: the two readings of the one-codeword EDIFACT unlatch;
    * what ONE further codeword can make the decoder append (`decLoop_single`).
-/
import Gzx.Proofs.DMSymFF
import Gzx.Proofs.DMEdifactCall
import Gzx.Proofs.DMLookAhead
import Gzx.Proofs.DMBytesCw
namespace Gzx.DMHighLevel

/-! ## the table condition -/

def sortedCap : List SymbolInfo → Bool
  | [] => true
  | s :: rest => rest.all (fun r => decide (s.cap ≤ r.cap)) && sortedCap rest

def gapCap (syms : List SymbolInfo) : Bool :=
  syms.all (fun s => syms.all (fun r => decide (s.cap < r.cap → s.cap + 2 ≤ r.cap)))

def tableOK (syms : List SymbolInfo) : Bool := sortedCap syms && gapCap syms

theorem lookup_min {syms : List SymbolInfo} {cfg : Cfg} {n : Nat} {s : SymbolInfo} (hs : sortedCap syms = true)
    (h : lookup syms cfg n = some s) :
    ∀ r ∈ syms, admissible cfg r = true → n ≤ r.cap → s.cap ≤ r.cap := by
  unfold lookup at h
  induction syms with
  | nil => cases h
  | cons a rest ih =>
    unfold sortedCap at hs
    rw [Bool.and_eq_true, List.all_eq_true] at hs
    rw [List.find?_cons] at h
    cases hp : (admissible cfg a && decide (n ≤ a.cap)) with
    | true =>
      rw [hp] at h
      simp only [Option.some.injEq] at h
      subst h
      intro r hr _ _
      rcases List.mem_cons.mp hr with rfl | hr'
      · exact Nat.le_refl _
      · simpa using hs.1 r hr'
    | false =>
      rw [hp] at h
      intro r hr hadm hcap
      rcases List.mem_cons.mp hr with rfl | hr'
      · rw [hadm, Bool.true_and, decide_eq_false_iff_not] at hp
        exact absurd hcap hp
      · exact ih hs.2 h r hr' hadm hcap

theorem gap_of {syms : List SymbolInfo} (hg : gapCap syms = true) {s r : SymbolInfo} (hs : s ∈ syms) (hr : r ∈ syms)
    (h : s.cap < r.cap) : s.cap + 2 ≤ r.cap := by
  unfold gapCap at hg
  rw [List.all_eq_true] at hg
  have := hg s hs
  rw [List.all_eq_true] at this
  have := this r hr
  simp only [decide_eq_true_eq] at this
  exact this h

/-! ## `UpdateSymbolInfoByLength` -/

theorem update_sym_adm {syms : List SymbolInfo} {c c' : Ctx} {n : Nat} (hff : SymFF syms c)
    (h : c.update syms n = .ok c') :
    ∃ s, c'.sym = some s ∧ n ≤ s.cap ∧ s ∈ syms ∧ admissible c.cfg s = true := by
  have hff' := (update_symStep h).ff hff
  obtain ⟨_, _, _, hcfg, _, _, s, hs, hcap, _⟩ := update_spec h
  obtain ⟨m, hm⟩ := hff' s hs
  rw [hcfg] at hm
  obtain ⟨_, _, hmem, hadm⟩ := lookup_idem hm
  exact ⟨s, hs, hcap, hmem, hadm⟩

/-! ## real and virtual prefix -/

def Sim (T : Tables) (j : Nat) (P V : List Nat) : Prop :=
  P.length = V.length ∧
  ∀ S, Bytes S → j ≤ S.length → decLoop T (P ++ S) 0 false 0 {} = decLoop T (V ++ S) 0 false 0 {}

theorem Sim.refl (T : Tables) (P : List Nat) : Sim T 0 P P := ⟨rfl, fun _ _ _ => rfl⟩

theorem Sim.append {T : Tables} {j : Nat} {P V x : List Nat} (h : Sim T j P V) (hx : Bytes x) :
    Sim T (j - x.length) (P ++ x) (V ++ x) := by
  refine ⟨by simp [h.1], ?_⟩
  intro S hS hj
  rw [List.append_assoc, List.append_assoc]
  exact h.2 (x ++ S) (hx.append hS) (by simp; omega)

theorem Sim.mono {T : Tables} {j j' : Nat} {P V : List Nat} (h : Sim T j P V) (hj : j ≤ j') : Sim T j' P V :=
  ⟨h.1, fun S hS hl => h.2 S hS (by omega)⟩

/-- behind the one-codeword EDIFACT unlatch the virtual prefix is replaced by one that decodes for EVERY continuation -/
theorem Sim.swap {T : Tables} {j : Nat} {P V L : List Nat} {a : Acc} (h : Sim T j P V) (hV : DecFrom T 2 V a)
    (hL : DecodesTo T L a) (hlen : L.length = V.length) : Sim T (max j 2) P L := by
  refine ⟨by rw [h.1, hlen], ?_⟩
  intro S hS hj
  rw [h.2 S hS (by omega), hV S (by omega) hS, hL S, hlen]

/-! ## open segments -/

/-- an admissible symbol of the table with exactly `k` codewords behind the current ones; it is the current symbol, or
    the symbol has been forgotten -/
def CapFact (syms : List SymbolInfo) (c : Ctx) (k : Nat) : Prop :=
  ∃ s, s ∈ syms ∧ admissible c.cfg s = true ∧ s.cap = c.count + k ∧ (c.sym = some s ∨ c.sym = none)

theorem asciiEncode_keeps {la : LookAhead} {c c' : Ctx} (h : asciiEncode la c = .ok c') :
    c'.sym = c.sym ∧ c'.cfg = c.cfg ∧ c'.msg = c.msg ∧ c'.skipAtEnd = c.skipAtEnd := by
  obtain ⟨x, p, s, ho, rfl⟩ := asciiEncode_ok_iff.1 h
  exact ⟨rfl, rfl, rfl, rfl⟩

theorem CapFact.ascii_step {syms : List SymbolInfo} {c c' : Ctx} {k : Nat} {x : List Nat} (hC : CapFact syms c k)
    (hsf : SameFrame c c') (hx : c'.cw = c.cw ++ x) (hxk : x.length ≤ k) : CapFact syms c' (k - x.length) := by
  obtain ⟨s, hmem, hadm, hcap, hsym⟩ := hC
  refine ⟨s, hmem, by rw [hsf.cfg]; exact hadm, ?_, by rw [hsf.sym]; exact hsym⟩
  simp only [Ctx.count, hx, List.length_append] at hcap ⊢
  omega

/-! ## behind the one-codeword EDIFACT unlatch -/

/-- The unlatch 124 behind the quadruples of `Q` is read as such only if two more bytes follow.  The same characters
    are also written, in as many codewords, by a segment that is read back WHATEVER follows: the last quadruple as
    "three characters + unlatch" in one group, its fourth character in ASCII. -/
theorem edi_mid_reads (T : Tables) (off kq : Nat) (Q : List Nat) (hl : Q.length = 4 * kq) (hk : 1 ≤ kq)
    (hn : ∀ c ∈ Q, isNativeEDIFACT c = true) :
    Reads T (fun s => 2 ≤ s.length ∧ ∀ x ∈ s, x < 256) off (240 :: ((writeQuads (Q.map ediVal)).1 ++ [124]))
      (fun a => (a.pushAll Q).endSeg) ∧
    ∃ ws' f', ws'.length = ((writeQuads (Q.map ediVal)).1 ++ [124]).length ∧
      Reads T (fun _ => True) off (240 :: ws') f' ∧ ∀ a : Acc, a.pend = 0 → f' a = (a.pushAll Q).endSeg := by
  constructor
  · have := reads_edifact T off kq Q hl hn (edifactPack [31]) [] (fun s => 2 ≤ s.length ∧ ∀ x ∈ s, x < 256)
      (fun suf hs b n => by
        match suf, hs with
        | x :: y :: rest, ⟨_, hb⟩ => exact edifactSeg_unlatch1 x y (hb x (by simp)) (hb y (by simp)) rest b n)
    rw [show edifactPack [31] = [124] by decide] at this
    simpa [Acc.pushAll] using this
  obtain ⟨Q', hQ'⟩ : ∃ x, x = Q.take (4 * (kq - 1)) := ⟨_, rfl⟩
  obtain ⟨R, hR⟩ : ∃ x, x = Q.drop (4 * (kq - 1)) := ⟨_, rfl⟩
  have hQl : Q'.length = 4 * (kq - 1) := by rw [hQ', List.length_take]; omega
  have hRl : R.length = 4 := by rw [hR, List.length_drop]; omega
  have hsplit : Q = Q' ++ R := by rw [hQ', hR]; exact (List.take_append_drop _ _).symm
  match R, hRl, hsplit with
  | [c1, c2, c3, c4], _, hsplit =>
    have hn' : ∀ c ∈ Q', isNativeEDIFACT c = true := fun c hc => hn c (by rw [hsplit]; exact List.mem_append_left _ hc)
    have g1 : isNativeEDIFACT c1 = true := hn c1 (by rw [hsplit]; simp)
    have g2 : isNativeEDIFACT c2 = true := hn c2 (by rw [hsplit]; simp)
    have g3 : isNativeEDIFACT c3 = true := hn c3 (by rw [hsplit]; simp)
    have g4 : isNativeEDIFACT c4 = true := hn c4 (by rw [hsplit]; simp)
    have hc4 : c4 < 128 := (ediVal_facts c4 g4).2.2.2.2
    have hr3 := reads_edifact T off (kq - 1) Q' hQl hn' (edifactPack [ediVal c1, ediVal c2, ediVal c3, 31]) [c1, c2, c3]
      (fun _ => True) (fun suf _ b n => by
        have := edifactSeg_unlatch4 c1 c2 c3 g1 g2 g3 suf b n
        simpa [edifactPack, Acc.pushAll, edifactWord] using this)
    refine ⟨((writeQuads (Q'.map ediVal)).1 ++ edifactPack [ediVal c1, ediVal c2, ediVal c3, 31]) ++ [c4 + 1],
      fun a => ((((a.pushAll Q').pushAll [c1, c2, c3]).endSeg).push c4).endSeg, ?_, fun suf a _ => ?_, fun a hp => ?_⟩
    · have q1 := (writeQuads_fst_length kq (Q.map ediVal) (by simpa using hl)).1
      have q2 := (writeQuads_fst_length (kq - 1) (Q'.map ediVal) (by simpa using hQl)).1
      have q3 : (edifactPack [ediVal c1, ediVal c2, ediVal c3, 31]).length = 3 := by simp [edifactPack, edifactWord]
      simp only [List.length_append, List.length_cons, List.length_nil, q1, q2, q3]
      omega
    · have e : ∀ w : List Nat, 240 :: (w ++ [c4 + 1]) ++ suf = (240 :: w) ++ ([c4 + 1] ++ suf) := by intro w; simp
      rw [e, hr3 _ a trivial, reads_ascii T _ (c4 + 1) (by omega) (by omega) suf _ trivial]
      simp only [Nat.add_sub_cancel, List.length_cons, List.length_append, List.length_nil]
      exact congrArg (decLoop T suf 0 false · _) (by omega)
    · have h128 : ∀ c ∈ [c1, c2, c3], c < 128 := by
        intro c hc; simp at hc; rcases hc with rfl | rfl | rfl
        · exact (ediVal_facts _ g1).2.2.2.2
        · exact (ediVal_facts _ g2).2.2.2.2
        · exact (ediVal_facts _ g3).2.2.2.2
      have p3 : ((a.pushAll Q').pushAll [c1, c2, c3]).pend = 0 := by
        rw [pushAll_pend_lt _ _ h128, pushAll_pend_lt Q' _ (fun c hc => (ediVal_facts c (hn' c hc)).2.2.2.2), hp]
      have p4 : (((a.pushAll Q').pushAll [c1, c2, c3]).push c4).pend = 0 := by rw [Acc.push_pend_lt _ _ hc4, p3]
      have pQ : (a.pushAll Q).pend = 0 := by
        rw [pushAll_pend_lt Q _ (fun c hc => (ediVal_facts c (hn c hc)).2.2.2.2), hp]
      simp only
      rw [Acc.endSeg_of_pend _ p3, Acc.endSeg_of_pend _ p4, Acc.endSeg_of_pend _ pQ, hsplit, pushAll_append]
      simp [Acc.pushAll]

/-! ## what one codeword can decode to -/

/-- one codeword read in ASCII state, with the macro trailer unchanged, appends at most two characters, none of them
    extended -/
theorem decLoop_single (T : Tables) (x off : Nat) (a a' : Acc)
    (h : decLoop T [x] 0 false off a = .ok a') (htr : a'.trailer = a.trailer) :
    ∃ l, a'.rev.reverse = a.rev.reverse ++ l ∧ l.length ≤ 2 ∧ ∀ c ∈ l, c < 128 := by
  unfold decLoop at h
  by_cases h0 : x = 0
  · simp [h0] at h
  · simp only [h0, if_false] at h
    by_cases h1 : x ≤ 128
    · simp only [h1, if_true, decLoop, Except.ok.injEq, Bool.false_eq_true, if_false] at h
      subst h
      exact ⟨[x - 1], by simp [Acc.endSeg, Acc.push], by simp, by intro c hc; simp at hc; omega⟩
    · simp only [h1, if_false] at h
      by_cases h2 : x = 129
      · simp only [h2, if_true, Except.ok.injEq] at h
        subst h
        exact ⟨[], by simp, by simp, by simp⟩
      · simp only [h2, if_false] at h
        by_cases h3 : x ≤ 229
        · simp only [h3, if_true, decLoop, Except.ok.injEq] at h
          subst h
          have hv : x - 130 < 100 := by omega
          have hdp : digitPair (x - 130) = [48 + (x - 130) / 10, 48 + (x - 130) % 10] := by
            have := digitPair_digits ((x - 130) / 10) ((x - 130) % 10) (by omega) (by omega)
            have e : (x - 130) / 10 * 10 + (x - 130) % 10 = x - 130 := by omega
            rw [e] at this; exact this
          refine ⟨[48 + (x - 130) / 10, 48 + (x - 130) % 10], ?_, by simp, ?_⟩
          · rw [hdp]; exact pushAll_rev _ _
          · intro c hc; simp at hc; omega
        · simp only [h3, if_false] at h
          by_cases h4 : x = 230
          · simp only [h4, if_true, cSeg, decLoop, Except.ok.injEq] at h
            subst h
            exact ⟨[], by simp [Acc.endSeg], by simp, by simp⟩
          · simp only [h4, if_false] at h
            by_cases h5 : x = 231
            · simp only [h5, if_true, List.isEmpty_nil, Except.ok.injEq] at h
              subst h
              exact ⟨[], by simp, by simp, by simp⟩
            · simp only [h5, if_false] at h
              by_cases h6 : x = 232
              · simp only [h6, if_true, decLoop, Except.ok.injEq] at h
                subst h
                exact ⟨[29], by simp [Acc.fnc, Acc.push], by simp, by simp⟩
              · simp only [h6, if_false] at h
                by_cases h7 : x = 233 ∨ x = 234
                · simp only [h7, if_true, decLoop, Except.ok.injEq] at h
                  subst h
                  exact ⟨[], by simp, by simp, by simp⟩
                · simp only [h7, if_false] at h
                  by_cases h8 : x = 235
                  · simp only [h8, if_true, decLoop, Except.ok.injEq] at h
                    subst h
                    exact ⟨[], by simp, by simp, by simp⟩
                  · simp only [h8, if_false] at h
                    by_cases h9 : x = 236
                    · simp only [h9, if_true, decLoop, Except.ok.injEq] at h
                      subst h
                      exfalso
                      have := congrArg List.length htr
                      simp [macroTrailer] at this
                      omega
                    · simp only [h9, if_false] at h
                      by_cases h10 : x = 237
                      · simp only [h10, if_true, decLoop, Except.ok.injEq] at h
                        subst h
                        exfalso
                        have := congrArg List.length htr
                        simp [macroTrailer] at this
                        omega
                      · simp only [h10, if_false] at h
                        by_cases h11 : x = 238
                        · simp only [h11, if_true, x12Seg, decLoop, Except.ok.injEq] at h
                          subst h
                          exact ⟨[], by simp [Acc.endSeg], by simp, by simp⟩
                        · simp only [h11, if_false] at h
                          by_cases h12 : x = 239
                          · simp only [h12, if_true, cSeg, decLoop, Except.ok.injEq] at h
                            subst h
                            exact ⟨[], by simp [Acc.endSeg], by simp, by simp⟩
                          · simp only [h12, if_false] at h
                            by_cases h13 : x = 240
                            · simp only [h13, if_true, edifactSeg, decLoop, Except.ok.injEq] at h
                              subst h
                              exact ⟨[], by simp [Acc.endSeg], by simp, by simp⟩
                            · simp only [h13, if_false] at h
                              by_cases h14 : x = 241
                              · simp only [h14, if_true, List.isEmpty_nil, decLoop, Except.ok.injEq] at h
                                subst h
                                exact ⟨[], by simp, by simp, by simp⟩
                              · simp only [h14, if_false, List.isEmpty_nil, Bool.not_true, Bool.false_eq_true, or_false] at h
                                by_cases h15 : x ≠ 254
                                · simp [h15] at h
                                · simp only [h15, if_false, decLoop, Except.ok.injEq] at h
                                  subst h
                                  exact ⟨[], by simp, by simp, by simp⟩

theorem asciiEncode_writes {la : LookAhead} {c c' : Ctx} (h : asciiEncode la c = .ok c') :
    c.count + 1 ≤ c'.count := by
  obtain ⟨x, p, s, ho, rfl⟩ := asciiEncode_ok_iff.1 h
  cases ho <;> simp [Ctx.count]

end Gzx.DMHighLevel
