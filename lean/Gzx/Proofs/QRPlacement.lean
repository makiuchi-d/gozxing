/-
  Encoder-side placement lemmas of the reference construction (for the C01 composition):
  every data module of `moduleAt` carries exactly the bit of the codeword stream that the
  placement order assigns to it, XORed with the mask; function modules are untouched by data.
-/
import Gzx.Proofs.QRZigzag
namespace Gzx.QRRef

theorem lookup_zipWith_nodup {α β γ : Type} [BEq α] [LawfulBEq α] (f : α → β → γ) :
    ∀ (ks : List α) (vs : List β), ks.Nodup → ∀ (i : Nat) (hi : i < ks.length) (hv : i < vs.length),
      (List.zipWith (fun k v => (k, f k v)) ks vs).lookup ks[i] = some (f ks[i] vs[i]) := by
  intro ks
  induction ks with
  | nil => intro vs _ i hi; simp at hi
  | cons k ks ih =>
    intro vs hnd i hi hv
    cases vs with
    | nil => simp at hv
    | cons v vs =>
      rw [List.nodup_cons] at hnd
      cases i with
      | zero => simp
      | succ i =>
        simp only [List.zipWith_cons_cons, List.getElem_cons_succ]
        have hne : (ks[i]'(by simpa using hi) == k) = false := by
          apply beq_false_of_ne
          intro h
          exact hnd.1 (h ▸ List.getElem_mem _)
        rw [List.lookup_cons, hne]
        exact ih vs hnd.2 i (by simpa using hi) (by simpa using hv)

/-- the bit stream laid along the placement order: codeword bits then zero remainder bits -/
def streamBits (v : Nat) (codewords : List Nat) : List Bool :=
  bitsOfBytes codewords ++ List.replicate ((zigzag v).length - (bitsOfBytes codewords).length) false

theorem streamBits_length (v : Nat) (cw : List Nat) (h : (bitsOfBytes cw).length ≤ (zigzag v).length) :
    (streamBits v cw).length = (zigzag v).length := by
  unfold streamBits
  rw [List.length_append, List.length_replicate]
  omega

theorem placedData_eq (v mask : Nat) (cw : List Nat) :
    placedData v mask cw =
      List.zipWith (fun c b => (c, b != maskBit mask c.1 c.2)) (zigzag v) (streamBits v cw) := rfl

/-- the `i`-th module of the placement order shows stream bit `i` XOR the mask there -/
theorem moduleAt_data (v : Nat) (ec : EC) (mask : Nat) (cw : List Nat)
    (hlen : (bitsOfBytes cw).length ≤ (zigzag v).length) (i : Nat) (hi : i < (zigzag v).length) :
    moduleAt v ec mask cw ((zigzag v)[i]).1 ((zigzag v)[i]).2 =
      ((streamBits v cw)[i]'(by rw [streamBits_length v cw hlen]; exact hi)
        != maskBit mask ((zigzag v)[i]).1 ((zigzag v)[i]).2) := by
  have hmem : (zigzag v)[i] ∈ zigzag v := List.getElem_mem hi
  have hf : isFunction v ((zigzag v)[i]).1 ((zigzag v)[i]).2 = false :=
    ((mem_zigzag v _ _).mp hmem).2.2
  unfold moduleAt
  rw [hf]
  simp only [Bool.false_eq_true, if_false]
  rw [placedData_eq]
  have hv : i < (streamBits v cw).length := by rw [streamBits_length v cw hlen]; exact hi
  have := lookup_zipWith_nodup (fun (c : Nat × Nat) (b : Bool) => (b != maskBit mask c.1 c.2))
    (zigzag v) (streamBits v cw) (nodup_zigzag v) i hi hv
  rw [this]
  rfl

/-- function modules do not depend on the data -/
theorem moduleAt_function (v : Nat) (ec : EC) (mask : Nat) (cw : List Nat) (x y : Nat)
    (h : isFunction v x y = true) : moduleAt v ec mask cw x y = functionModule v ec mask x y := by
  unfold moduleAt; rw [h]; simp

end Gzx.QRRef
