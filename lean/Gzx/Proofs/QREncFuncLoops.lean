/-
  wp `qrenc` — the function-pattern loops of matrix_util.go run under `Drawn` (Proofs/QREncDrawn.lean): each embed
  function takes `Drawn W` to `Drawn (W ∪ its cells)`, given what the standard has on those cells
  (Proofs/QREncFuncRef.lean).  `embedBasicPatterns` on the cleared matrix draws `basicW` (`basic_drawn`); the type-info
  and version-info loops are generic in the values they write (`functionStage_drawn`), so the stage is obtained both
  with the position tags (`funcOK_of_centres`: `FuncOK v` for every version whose row of Table E.1 satisfies
  `CentresOK`) and with the real format / version bits (Proofs/QREncStage.lean).
-/
import Gzx.Proofs.QREncDrawn
import Gzx.Proofs.QREncFuncRef
namespace Gzx.QREnc
open Gzx Gzx.QRRef

variable {v : Nat} {T : Nat → Nat → Int} {W : Nat → Nat → Prop} {m : ByteMatrix}

/-! ### finder patterns and separators -/

theorem pdp_row (j : Nat) (hj : j < 7) :
    pdp[j]? = some ((List.range 7).map (fun x => b2i (finderDark 1 x j))) := by
  simp [pdp, hj]

/-- `embedPositionDetectionPattern` at one of the three corners -/
theorem Drawn.pdp (hd : Drawn (dimension v) (tagCell v) W m) (ox oy : Nat) (xsI ysI : Int)
    (hxs : xsI = ox) (hys : ysI = oy)
    (hox : ox = 0 ∨ ox + 7 = dimension v) (hoy : oy = 0 ∨ oy + 7 = dimension v) (hne : ox = 0 ∨ oy = 0) :
    ∃ m', embedPositionDetectionPattern xsI ysI m = .ok m' ∧
      Drawn (dimension v) (tagCell v) (fun a b => W a b ∨ rect ox oy 7 7 a b) m' := by
  have hn := dimension_eq v
  refine hd.block QREnc.pdp 7 7 ox oy xsI ysI hxs hys (by omega) (by omega) (fun j hj => ⟨_, pdp_row j hj, fun i hi => ?_⟩)
  rw [tagCell_finder v ox oy i j hi hj hox hoy hne]
  simp [hi]

/-- a separator is checked to be empty and drawn light (target 0), cell by cell -/
theorem Drawn.hsep (hd : Drawn (dimension v) T W m) (xs ys : Nat) (xsI ysI : Int)
    (hxs : xsI = xs) (hys : ysI = ys) (hx : xs + 8 ≤ dimension v) (hy : ys < dimension v)
    (hfree : ∀ k, k < 8 → ¬ W (xs + k) ys) (hT : ∀ k, k < 8 → T (xs + k) ys = 0) :
    ∃ m', embedHorizontalSeparationPattern xsI ysI m = .ok m' ∧
      Drawn (dimension v) T (fun a b => W a b ∨ rect xs ys 8 1 a b) m' := by
  refine hd.loop 0 8 _ (fun k a b => a = xs + k ∧ b = ys) (fun k m hk hdk => ?_)
    (fun a b _ _ => or_congr_right (exists_lt_add.trans (by omega)))
  refine hdk.sepCell (a := xs + k) (b := ys) (by omega) (by omega) (by omega) hy ?_ (hT k hk)
  rintro (hw | ⟨j, hj, e, _⟩)
  · exact hfree k hk hw
  · omega

theorem Drawn.vsep (hd : Drawn (dimension v) T W m) (xs ys : Nat) (xsI ysI : Int)
    (hxs : xsI = xs) (hys : ysI = ys) (hx : xs < dimension v) (hy : ys + 7 ≤ dimension v)
    (hfree : ∀ k, k < 7 → ¬ W xs (ys + k)) (hT : ∀ k, k < 7 → T xs (ys + k) = 0) :
    ∃ m', embedVerticalSeparationPattern xsI ysI m = .ok m' ∧
      Drawn (dimension v) T (fun a b => W a b ∨ rect xs ys 1 7 a b) m' := by
  refine hd.loop 0 7 _ (fun k a b => a = xs ∧ b = ys + k) (fun k m hk hdk => ?_)
    (fun a b _ _ => or_congr_right (exists_lt_add'.trans (by omega)))
  refine hdk.sepCell (a := xs) (b := ys + k) (by omega) (by omega) hx (by omega) ?_ (hT k hk)
  rintro (hw | ⟨j, hj, _, e⟩)
  · exact hfree k hk hw
  · omega

/-- nine sets in the order the loops draw them (three finder patterns, three separator rows, three separator columns),
    regrouped by corner -/
theorem or9_by_corner {r1 r2 r3 h1 h2 h3 v1 v2 v3 : Prop} :
    ((((((((r1 ∨ r2) ∨ r3) ∨ h1) ∨ h2) ∨ h3) ∨ v1) ∨ v2) ∨ v3) ↔ ((r1 ∨ h1 ∨ v1) ∨ (r2 ∨ h2 ∨ v2) ∨ (r3 ∨ h3 ∨ v3)) := by
  simp only [or_left_comm, or_comm]

/-- each 8×8 corner is its finder pattern, the separator row next to it and the separator column next to it -/
theorem corner_split (n a b : Nat) (hn : 16 ≤ n) (ha : a < n) (hb : b < n) :
    ((rect 0 0 7 7 a b ∨ rect 0 7 8 1 a b ∨ rect 7 0 1 7 a b) ↔ (a < 8 ∧ b < 8)) ∧
    ((rect (n - 7) 0 7 7 a b ∨ rect (n - 8) 7 8 1 a b ∨ rect (n - 8) 0 1 7 a b) ↔ (a + 8 ≥ n ∧ b < 8)) ∧
    ((rect 0 (n - 7) 7 7 a b ∨ rect 0 (n - 8) 8 1 a b ∨ rect 7 (n - 7) 1 7 a b) ↔ (a < 8 ∧ b + 8 ≥ n)) :=
  ⟨by omega, by omega, by omega⟩

/-- `embedPositionDetectionPatternsAndSeparators`: three finder patterns, then six separators, each of whose cells is
    outside what was drawn before it -/
theorem Drawn.pdps (hd : Drawn (dimension v) (tagCell v) (fun _ _ => False) m) :
    ∃ m', embedPositionDetectionPatternsAndSeparators m = .ok m' ∧
      Drawn (dimension v) (tagCell v) (corners (dimension v)) m' := by
  have hn := dimension_eq v
  have sep := fun a b h => tagCell_separator v a b h
  unfold embedPositionDetectionPatternsAndSeparators
  refine seq_ok ((hd.pdp 0 0 0 0 rfl rfl (Or.inl rfl) (Or.inl rfl) (Or.inl rfl)).imp
    fun _ h => ⟨h.1, h.2.congr fun _ _ _ _ => Iff.of_eq (false_or _)⟩) fun m1 d => ?_
  refine seq_ok (d.pdp (dimension v - 7) 0 _ 0 (by have := d.wf.w; omega) rfl
    (Or.inr (by omega)) (Or.inl rfl) (Or.inr rfl)) fun m2 d => ?_
  refine seq_ok (d.pdp 0 (dimension v - 7) 0 _ rfl (by have := d.wf.w; omega)
    (Or.inl rfl) (Or.inr (by omega)) (Or.inl rfl)) fun m3 d => ?_
  refine seq_ok (d.hsep 0 7 0 _ rfl rfl (by omega) (by omega)
    (fun k hk h => by omega) (fun k hk => sep _ _ (by omega))) fun m4 d => ?_
  refine seq_ok (d.hsep (dimension v - 8) 7 _ _ (by have := d.wf.w; omega) rfl (by omega) (by omega)
    (fun k hk h => by omega) (fun k hk => sep _ _ (by omega))) fun m5 d => ?_
  refine seq_ok (d.hsep 0 (dimension v - 8) 0 _ rfl (by have := d.wf.w; omega) (by omega) (by omega)
    (fun k hk h => by omega) (fun k hk => sep _ _ (by omega))) fun m6 d => ?_
  refine seq_ok (d.vsep 7 0 _ 0 rfl rfl (by omega) (by omega)
    (fun k hk h => by omega) (fun k hk => sep _ _ (by omega))) fun m7 d => ?_
  refine seq_ok (d.vsep (dimension v - 8) 0 _ 0 (by have := d.wf.h; omega) rfl (by omega) (by omega)
    (fun k hk h => by omega) (fun k hk => sep _ _ (by omega))) fun m8 d => ?_
  obtain ⟨m9, e, d⟩ := d.vsep 7 (dimension v - 7) 7 (m8.height - 7) rfl (by have := d.wf.h; omega) (by omega) (by omega)
    (fun k hk h => by omega) (fun k hk => sep _ _ (by omega))
  refine ⟨m9, e, d.congr (fun a b ha hb => ?_)⟩
  obtain ⟨c1, c2, c3⟩ := corner_split (dimension v) a b (by omega) ha hb
  exact or9_by_corner.trans (or_congr c1 (or_congr c2 c3))

/-! ### dark module -/

theorem Drawn.dark (hd : Drawn (dimension v) (tagCell v) (corners (dimension v)) m) :
    ∃ m', embedDarkDotAtLeftBottomCorner m = .ok m' ∧
      Drawn (dimension v) (tagCell v) (fun a b => corners (dimension v) a b ∨ darkW (dimension v) a b) m' := by
  have hn := dimension_eq v
  have hh := hd.wf.h
  unfold embedDarkDotAtLeftBottomCorner
  rw [hd.get_off (x := 8) (y := m.height - 8) (a := 8) (b := dimension v - 8) (by omega) (by omega) (by omega)
    (by omega) (by omega), ok_bind]
  exact (hd.set (a := 8) (b := dimension v - 8) (by omega) (by omega) (by omega) (by omega)
    (tagCell_dark v _ _ (by omega)).symm).imp
    fun _ h => ⟨h.1, h.2.congr fun _ _ _ _ => by omega⟩

/-! ### alignment patterns -/

theorem alignTable_row (v : Nat) (h1 : 1 ≤ v) (h40 : v ≤ 40) :
    alignTable[v - 1]? = some ((alignCentres v).map Int.ofNat ++ List.replicate (7 - (alignCentres v).length) (-1)) := by
  simp [alignTable, show v - 1 < 40 by omega, show v - 1 + 1 = v by omega]

/-- a loop over a row of the Go table skips the -1 entries that pad it to seven -/
theorem foldlM_pad {σ} (g : Int → σ → Res σ) (cs : List Nat) (k : Nat) (s : σ) :
    (cs.map Int.ofNat ++ List.replicate k (-1)).foldlM (fun m y => if y ≥ 0 then g y m else pure m) s
      = cs.foldlM (fun m (c : Nat) => g ((c : Nat) : Int) m) s := by
  have hrep : ∀ (k : Nat) (t : σ),
      (List.replicate k (-1 : Int)).foldlM (fun m y => if y ≥ 0 then g y m else pure m) t = .ok t := by
    intro k
    induction k with
    | zero => intro t; rfl
    | succ k ih => intro t; rw [List.replicate_succ, List.foldlM_cons, if_neg (by decide)]; exact ih t
  rw [List.foldlM_append, List.foldlM_map]
  have hx' : cs.foldlM (fun m c => if Int.ofNat c ≥ 0 then g (Int.ofNat c) m else pure m) s =
      cs.foldlM (fun m (c : Nat) => g ((c : Nat) : Int) m) s := by
    congr 1
  rw [hx']
  cases cs.foldlM (fun m (c : Nat) => g ((c : Nat) : Int) m) s with
  | error e => rfl
  | ok t => exact hrep k t

/-- `maybeEmbedPositionAdjustmentPatterns`: Go draws the pattern around a pair of centres when the centre cell is still
    empty; under `CentresOK` that is so exactly when the pair is not one of the three the standard leaves out -/
theorem Drawn.paps (hv : 1 ≤ v) (h40 : v ≤ 40) (hcs : CentresOK (dimension v) (alignCentres v))
    (hd : Drawn (dimension v) (tagCell v) (fun a b => corners (dimension v) a b ∨ darkW (dimension v) a b) m) :
    ∃ m', maybeEmbedPositionAdjustmentPatterns v m = .ok m' ∧ Drawn (dimension v) (tagCell v) (patternW v) m' := by
  have hn := dimension_eq v
  unfold maybeEmbedPositionAdjustmentPatterns
  by_cases h2 : (v : Int) < 2
  · rw [if_pos h2]
    refine ⟨m, rfl, hd.congr (fun a b _ _ => ⟨Or.inl, fun h => h.resolve_right ?_⟩)⟩
    have : alignCentres v = [] := by unfold alignCentres; rw [if_pos (by omega)]
    rintro ⟨cy, hcy, _⟩; rw [this] at hcy; cases hcy
  · rw [if_neg h2]
    dsimp only
    rw [idx_some (x := (v : Int) - 1) (i := v - 1) (by omega) (alignTable_row v hv h40), ok_bind]
    simp only [foldlM_pad]
    refine hd.fold (alignCentres v) _ (fun cy => alignRow v cy (alignCentres v)) ?_ (fun a b _ _ => Iff.rfl)
    intro ys cy ys' m hl d
    have hcy : cy ∈ alignCentres v := by rw [hl]; simp
    refine d.fold (alignCentres v) _ (fun cx a b => alignRow v cy [cx] a b) ?_
      (fun a b _ _ => by unfold alignRow; simp only [List.mem_singleton, exists_eq_left])
    intro xs cx xs' m hl' d
    have hcx : cx ∈ alignCentres v := by rw [hl']; simp
    have hx3 := hcs.2 cx hcx
    have hy3 := hcs.2 cy hcy
    by_cases hnc : offFinder v cx cy
    · -- the centre is outside the corners, and inside no pattern drawn so far because that one has another centre
      have hfree : ¬ (((corners (dimension v) cx cy ∨ darkW (dimension v) cx cy) ∨
          ∃ c' ∈ ys, alignRow v c' (alignCentres v) cx cy) ∨ ∃ c' ∈ xs, alignRow v cy [c'] cx cy) := by
        rintro ((h | ⟨c', hc', cx', hcx', _, hnear, _⟩) | ⟨c', hc', cx', hcx', hnear, _⟩)
        · rw [offFinder_iff] at hnc
          omega
        · simp only [near, Bool.and_eq_true, decide_eq_true_eq] at hnear
          have := centres_sep hcs.1 hcy (by rw [hl]; exact List.mem_append_left _ hc') (by omega)
          exact centres_fresh hcs.1 hl (this ▸ hc')
        · rw [List.mem_singleton.mp hcx'] at hnear
          simp only [near, Bool.and_eq_true, decide_eq_true_eq] at hnear
          have := centres_sep hcs.1 hcx (by rw [hl']; exact List.mem_append_left _ hc') (by omega)
          exact centres_fresh hcs.1 hl' (this ▸ hc')
      rw [d.get_off rfl rfl (by omega) (by omega) hfree, ok_bind]
      obtain ⟨m', e, d'⟩ := d.block pap 5 5 (cx - 2) (cy - 2) ((cx : Int) - 2) ((cy : Int) - 2) (by omega) (by omega)
        (by omega) (by omega) (tagCell_alignment v cx cy hv hcs hcx hcy hnc)
      refine ⟨m', e, d'.congr (fun a b _ _ => or_congr_right ?_)⟩
      unfold alignRow
      simp only [List.mem_singleton, exists_eq_left, hnc, and_true, near, Bool.and_eq_true, decide_eq_true_eq]
      omega
    · -- one of the three finder corners: the cell is taken, nothing is drawn
      have hin : corners (dimension v) cx cy := by
        rw [offFinder_iff] at hnc
        omega
      rw [d.get_on rfl rfl (by omega) (by omega) (Or.inl (Or.inl (Or.inl hin))), ok_bind,
        if_neg (by rw [tagCell_not_empty_of_pattern v cx cy (Or.inl (Or.inl hin))]; decide)]
      refine ⟨m, rfl, d.congr (fun a b _ _ => ⟨Or.inl, fun h => h.resolve_right ?_⟩)⟩
      rintro ⟨cx', hcx', _, _, h⟩
      rw [List.mem_singleton.mp hcx'] at h
      exact hnc h

/-! ### timing patterns -/

/-- `embedTimingPatterns` writes where nothing is drawn yet; what is drawn (alignment patterns on the lines) already
    holds the target -/
theorem Drawn.timing (hd : Drawn (dimension v) T W m) (hne : ∀ a b, W a b → isEmpty (T a b) = false)
    (hT : ∀ i, 8 ≤ i → i + 8 < dimension v →
      isEmpty (Int.tmod (i + 1) 2) = false ∧
      (¬ W i 6 → Int.tmod (i + 1) 2 = T i 6) ∧ (¬ W 6 i → Int.tmod (i + 1) 2 = T 6 i)) :
    ∃ m', embedTimingPatterns m = .ok m' ∧ Drawn (dimension v) T (fun a b => W a b ∨ timingW (dimension v) a b) m' := by
  unfold embedTimingPatterns
  have hn := dimension_eq v
  rw [show m.width - 8 = (8 : Int) + ((dimension v - 16 : Nat) : Int) by have := hd.wf.w; omega]
  refine hd.loop 8 (dimension v - 16) _ (fun k a b => (a = 8 + k ∧ b = 6) ∨ (a = 6 ∧ b = 8 + k)) ?_
    (fun a b _ _ => or_congr_right ⟨fun ⟨k, hk, h⟩ => by omega, fun h => ⟨a + b - 6 - 8, by omega, by omega⟩⟩)
  intro k m hk d
  obtain ⟨hb, h1, h2⟩ := hT (8 + k) (by omega) (by omega)
  have hval : ((8 : Int) + (k : Nat) + 1).tmod 2 = (((8 + k : Nat) : Int) + 1).tmod 2 := by
    rw [show (8 : Int) + (k : Nat) = ((8 + k : Nat) : Int) by omega]
  have hne' : ∀ a b, upto W (fun k a b => (a = 8 + k ∧ b = 6) ∨ (a = 6 ∧ b = 8 + k)) k a b →
      isEmpty (T a b) = false := by
    rintro a b (hw | ⟨j, hj, (⟨rfl, rfl⟩ | ⟨rfl, rfl⟩)⟩)
    · exact hne a b hw
    · by_cases hw : W (8 + j) 6
      · exact hne _ _ hw
      · rw [← (hT (8 + j) (by omega) (by omega)).2.1 hw]; exact (hT (8 + j) (by omega) (by omega)).1
    · by_cases hw : W 6 (8 + j)
      · exact hne _ _ hw
      · rw [← (hT (8 + j) (by omega) (by omega)).2.2 hw]; exact (hT (8 + j) (by omega) (by omega)).1
  refine d.setIfEmpty_then hne' (a := 8 + k) (b := 6) (by omega) rfl (by omega) (by omega)
    (fun hw => hval.trans (h1 (fun h => hw (Or.inl h)))) _ _ (fun m' d' => ?_)
  refine (d'.setIfEmpty ?_ (a := 6) (b := 8 + k) rfl (by omega) (by omega) (by omega)
    (fun hw => hval.trans (h2 (fun h => hw (Or.inl (Or.inl h)))))).imp
    (fun m'' h => ⟨h.1, h.2.congr (fun a b _ _ => or_assoc)⟩)
  rintro a b (h | ⟨rfl, rfl⟩)
  · exact hne' a b h
  · by_cases hw : W (8 + k) 6
    · exact hne _ _ hw
    · rw [← h1 hw]; exact hb

theorem basic_drawn (v : Nat) (h1 : 1 ≤ v) (h40 : v ≤ 40) (hcs : CentresOK (dimension v) (alignCentres v)) :
    ∃ B, embedBasicPatterns v (emptyMatrix (dimension v)) = .ok B ∧ Drawn (dimension v) (tagCell v) (basicW v) B := by
  unfold embedBasicPatterns
  exact seq_ok (drawn_empty (dimension v) (tagCell v)).pdps fun m d =>
    seq_ok d.dark fun m d => seq_ok (Drawn.paps h1 h40 hcs d) fun m d =>
      d.timing (tagCell_not_empty_of_pattern v) (fun i h8 hi =>
        ⟨(tagCell_timing v i h8 hi).1, fun h => (tagCell_timing v i h8 hi).2.1 (fun ha => h (Or.inr ha)),
          fun h => (tagCell_timing v i h8 hi).2.2 (fun ha => h (Or.inr ha))⟩)

/-! ### type information and version information, for any values written -/

/-- `vals` (bit `k - 1` first, as `BitArray.Get` reads them) holds the target's value at position `i` of both copies
    of an information word of `k` bits -/
def ValsAt (T : Nat → Nat → Int) (pos1 pos2 : Nat → Nat × Nat) (k : Nat) (vals : List Int) : Prop :=
  ∀ i, i < k → ∃ bit, vals[k - 1 - i]? = some bit ∧ bit = T (pos1 i).1 (pos1 i).2 ∧ bit = T (pos2 i).1 (pos2 i).2

theorem valsAt_range {T : Nat → Nat → Int} {pos1 pos2 : Nat → Nat × Nat} {k : Nat} (f : Nat → Int)
    (h : ∀ i, i < k → f i = T (pos1 i).1 (pos1 i).2 ∧ f i = T (pos2 i).1 (pos2 i).2) :
    ValsAt T pos1 pos2 k ((List.range k).map (fun p => f (k - 1 - p))) := by
  intro i hi
  refine ⟨f i, ?_, h i hi⟩
  simp [show k - 1 - i < k by omega, show k - 1 - (k - 1 - i) = i by omega]

theorem typeInfoCoordinates_row (i : Nat) (hi : i < 15) :
    typeInfoCoordinates[i]? = some [((formatPos1 i).1 : Int), ((formatPos1 i).2 : Int)] := by
  simp [typeInfoCoordinates, hi]

/-- the loop of `embedTypeInfo` -/
theorem Drawn.typeInfoVals (hd : Drawn (dimension v) T W m) (vals : List Int) (hlen : vals.length = 15)
    (hT : ValsAt T formatPos1 (formatPos2 (dimension v)) 15 vals) :
    ∃ m', embedTypeInfoVals vals m = .ok m' ∧ Drawn (dimension v) T (fun a b => W a b ∨ formatW (dimension v) a b) m' := by
  have hn := dimension_eq v
  unfold embedTypeInfoVals
  simp only [hlen]
  refine hd.loop 0 15 _ (fun i a b => (a = (formatPos1 i).1 ∧ b = (formatPos1 i).2) ∨
    (a = (formatPos2 (dimension v) i).1 ∧ b = (formatPos2 (dimension v) i).2)) ?_ (fun a b _ _ => Iff.rfl)
  intro i m hi d
  obtain ⟨bit, hbit, h1, h2⟩ := hT i hi
  obtain ⟨hx1, hy1⟩ := formatPos1_le i
  rw [idx_some (i := 14 - i) (by omega) hbit, ok_bind, idx_some (i := i) (by omega) (typeInfoCoordinates_row i hi), ok_bind]
  show ∃ m', (m.set ((formatPos1 i).1 : Int) ((formatPos1 i).2 : Int) bit >>= _) = .ok m' ∧ _
  refine seq_ok (d.set rfl rfl (by omega) (by omega) h1) (fun m1 d1 => ?_)
  by_cases h8 : ((0 : Int) + (i : Nat)) < 8
  · rw [if_pos h8]
    obtain ⟨e1, e2⟩ : (formatPos2 (dimension v) i).1 = dimension v - 1 - i ∧ (formatPos2 (dimension v) i).2 = 8 := by
      unfold formatPos2; rw [if_pos (by omega)]; exact ⟨rfl, rfl⟩
    have hw := d1.wf.w
    exact (d1.set (a := (formatPos2 (dimension v) i).1) (b := (formatPos2 (dimension v) i).2)
      (by omega) (by omega) (by omega) (by omega) h2).imp fun _ h => ⟨h.1, h.2.congr (fun a b _ _ => or_assoc)⟩
  · -- Go calls `SetBool(x2, y2, bit)` twice here
    rw [if_neg h8]
    obtain ⟨e1, e2⟩ : (formatPos2 (dimension v) i).1 = 8 ∧ (formatPos2 (dimension v) i).2 = dimension v - 15 + i := by
      unfold formatPos2; rw [if_neg (by omega)]; exact ⟨rfl, rfl⟩
    have hh := d1.wf.h
    refine seq_ok (d1.set (a := (formatPos2 (dimension v) i).1) (b := (formatPos2 (dimension v) i).2)
      (by omega) (by omega) (by omega) (by omega) h2) (fun m2 d2 => ?_)
    exact (d2.set_drawn (by omega) (by omega) (by omega) (by omega) h2 (Or.inr ⟨rfl, rfl⟩)).imp
      fun _ h => ⟨h.1, h.2.congr (fun a b _ _ => or_assoc)⟩

/-- the double loop of `maybeEmbedVersionInfo`: the state is the matrix and the bit index, which counts down from 17 -/
theorem Drawn.versionInfoVals (hd : Drawn (dimension v) T W m) (vals : List Int)
    (hT : ValsAt T (versionPos1 (dimension v)) (versionPos2 (dimension v)) 18 vals) :
    ∃ m', embedVersionInfoVals vals m = .ok m' ∧ Drawn (dimension v) T (fun a b => W a b ∨ versionW (dimension v) a b) m' := by
  have hn := dimension_eq v
  let S : Nat → Nat → Nat → Prop := fun t a b =>
    (a = (versionPos1 (dimension v) t).1 ∧ b = (versionPos1 (dimension v) t).2) ∨
    (a = (versionPos2 (dimension v) t).1 ∧ b = (versionPos2 (dimension v) t).2)
  unfold embedVersionInfoVals
  refine seq_ok (P := fun r => Drawn (dimension v) T (upto W S (3 * 6)) r.1 ∧ r.2 = 17 - ((3 * 6 : Nat) : Int)) ?_
    (fun r hr => ⟨r.1, rfl, hr.1.congr (fun a b _ _ => by unfold upto versionW; exact Iff.rfl)⟩)
  refine forRange_total (fun i (st : ByteMatrix × Int) =>
      Drawn (dimension v) T (upto W S (3 * i)) st.1 ∧ st.2 = 17 - ((3 * i : Nat) : Int)) _ 0 6 _ _
    ⟨hd.congr (fun a b _ _ => upto_zero), by omega⟩ ?_
    (fun _ h => h)
  intro i st hi hst
  refine forRange_total (fun j (st : ByteMatrix × Int) =>
      Drawn (dimension v) T (upto W S (3 * i + j)) st.1 ∧ st.2 = 17 - ((3 * i + j : Nat) : Int)) _ 0 3 _ st hst ?_
    (fun s h => ⟨h.1, by rw [h.2]; omega⟩)
  rintro j ⟨m, bitIndex⟩ hj ⟨d, hb⟩
  simp only at d hb
  obtain ⟨bit, hbit, h1, h2⟩ := hT (3 * i + j) (by omega)
  obtain ⟨p1, p2, q1, q2⟩ : (versionPos1 (dimension v) (3 * i + j)).1 = i ∧
      (versionPos1 (dimension v) (3 * i + j)).2 = dimension v - 11 + j ∧
      (versionPos2 (dimension v) (3 * i + j)).1 = dimension v - 11 + j ∧ (versionPos2 (dimension v) (3 * i + j)).2 = i := by
    unfold versionPos1 versionPos2
    rw [show (3 * i + j) / 3 = i by omega, show (3 * i + j) % 3 = j by omega]
    exact ⟨rfl, rfl, rfl, rfl⟩
  show ∃ s', (idx vals bitIndex >>= _) = .ok s' ∧ _
  rw [idx_some (i := 17 - (3 * i + j)) (by omega) hbit, ok_bind]
  have hh := d.wf.h
  refine seq_ok (d.set (a := (versionPos1 (dimension v) (3 * i + j)).1) (b := (versionPos1 (dimension v) (3 * i + j)).2)
    (by omega) (by omega) (by omega) (by omega) h1) (fun m1 d1 => ?_)
  have hh1 := d1.wf.h
  refine seq_ok (d1.set (a := (versionPos2 (dimension v) (3 * i + j)).1) (b := (versionPos2 (dimension v) (3 * i + j)).2)
    (by omega) (by omega) (by omega) (by omega) h2)
    (fun m2 d2 => ⟨_, rfl, d2.congr (fun a b _ _ => or_assoc.trans upto_succ.symm), by simp only; omega⟩)

/-! ### the whole stage -/

/-- `embedBasicPatterns`, the type-info loop and (from version 7) the version-info loop on the cleared matrix, for a
    target that is the standard's on the basic patterns and values that are the target's at their positions -/
theorem functionStage_drawn (v : Nat) (h1 : 1 ≤ v) (h40 : v ≤ 40) (hcs : CentresOK (dimension v) (alignCentres v))
    (T : Nat → Nat → Int) (hbasic : ∀ a b, basicW v a b → tagCell v a b = T a b)
    (vals15 vals18 : List Int) (hlen : vals15.length = 15)
    (h15 : ValsAt T formatPos1 (formatPos2 (dimension v)) 15 vals15)
    (h18 : 7 ≤ v → ValsAt T (versionPos1 (dimension v)) (versionPos2 (dimension v)) 18 vals18) :
    ∃ m', (do
      let m ← embedBasicPatterns v (emptyMatrix (dimension v))
      let m ← embedTypeInfoVals vals15 m
      if v < 7 then pure m else embedVersionInfoVals vals18 m) = .ok m' ∧ Drawn (dimension v) T (drawnW v) m' := by
  refine seq_ok (basic_drawn v h1 h40 hcs) fun B d => ?_
  refine seq_ok ((d.retarget hbasic).typeInfoVals vals15 hlen h15) fun m d => ?_
  by_cases h7 : v < 7
  · rw [if_pos h7]
    exact ⟨m, rfl, d.congr (fun a b _ _ => ⟨Or.inl, fun h => h.resolve_right (fun h' => by omega)⟩)⟩
  · rw [if_neg h7]
    exact (d.versionInfoVals vals18 (h18 (by omega))).imp fun _ h => ⟨h.1, h.2.congr (fun a b _ _ =>
      or_congr_right ⟨fun h' => ⟨by omega, h'⟩, fun h' => h'.2⟩)⟩

/-- the function-pattern stage draws the standard's function modules, for every version whose row of Table E.1
    satisfies `CentresOK` -/
theorem funcOK_of_centres (v : Nat) (h1 : 1 ≤ v) (h40 : v ≤ 40) (hcs : CentresOK (dimension v) (alignCentres v)) :
    FuncOK v := by
  obtain ⟨m', e, d⟩ := functionStage_drawn v h1 h40 hcs (tagCell v) (fun _ _ _ => rfl) tags15 tags18 (by simp [tags15])
    (valsAt_range (fun i => ((100 + i : Nat) : Int))
      (fun i hi => ⟨(tagCell_format v i h1 hi).1.symm, (tagCell_format v i h1 hi).2.symm⟩))
    (fun h7 => valsAt_range (fun i => ((200 + i : Nat) : Int))
      (fun i hi => ⟨(tagCell_version v i h7 hi).1.symm, (tagCell_version v i h7 hi).2.symm⟩))
  unfold FuncOK functionTags
  rw [e, d.eq_table (fun x y hx hy hw => by unfold tagCell; rw [region_data_of_not_drawn v x y h1 hx hy hw])]
  rfl

end Gzx.QREnc
