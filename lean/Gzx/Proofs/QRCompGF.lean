/-
  C01/C05 ↔ C04: the Reed-Solomon parity of the QR reference construction (`QRRef.rsParity`, a shift register over
  the shift-and-add product modulo 0x11D) IS the encoding of C04's model of common/reedsolomon over
  `Gzx.GF.qrCode256` (0x11D, 256, generator base 0).
  Route: `data ++ rsParity data n` is bytes and vanishes at `2^0 … 2^(n-1)` (`QRRef.rsParity_roots`,
  Proofs/QRCodewords.lean), i.e. it has zero syndromes; `rs_encode_unique`, `rs_corrects_received`.
  Also here: the error-correction lengths per block of ISO 18004 Table 9 (`ecLens`, `ecPerBlock_mem`), which the
  statements about reference blocks in Proofs/QRCompBlocks.lean and Proofs/QREncInterleave.lean range over.
-/
import Gzx.Ref.QR
import Gzx.Proofs.QRCodewords
import Gzx.Properties.C04
namespace Gzx.QRComp
open Gzx Gzx.QRRef Gzx.GF Gzx.Ref.GF Gzx.Proofs.GF Gzx.Proofs.GF2 Gzx.Proofs.Poly

theorem qrFieldOK : FieldOK qrCode256 := fieldOK_mk' paramsOK_11D_256

/-! ### error-correction lengths of ISO 18004 Table 9 -/

/-- EC codewords per block occurring in ISO 18004 Table 9 -/
def ecLens : List Nat := [7, 10, 13, 15, 16, 17, 18, 20, 22, 24, 26, 28, 30]

theorem ecLens_pos {n : Nat} (hn : n ∈ ecLens) : 0 < n :=
  (by decide : ∀ m ∈ ecLens, 0 < m) n hn

theorem ecPerBlock_mem : ∀ v ∈ List.range 40, ∀ ec ∈ EC.all, ecPerBlock (v + 1) ec ∈ ecLens := by
  decide +kernel

theorem rsParity_zero_syndromes (n : Nat) (data : List Nat) (hd : InR 256 data) :
    Gzx.Properties.C04.ZeroSyndromes qrCode256 (data ++ rsParity data n) n := by
  intro i hi
  rw [Gzx.Properties.C04.alpha_eq_pw qrCode256 qrFieldOK]
  exact (rsParity_roots n data hd).2 i hi

/-- the reference parity of a QR block is what the model of the library's Reed-Solomon encoder computes over
    `qrCode256` -/
theorem rsParity_eq_rs_encode (n : Nat) (hn0 : 0 < n) (data : List Nat) (hne : data ≠ [])
    (hd : InR 256 data) (hlen : data.length + n ≤ 255) :
    Gzx.RS.encode qrCode256 data n = .ok (rsParity data n) :=
  Gzx.Properties.C04.rs_encode_unique qrCode256 qrFieldOK data (rsParity data n) n hne hn0
    hd (rsParity_lt data n hd) (rsParity_length data n) hlen (by show n + 0 ≤ 256; omega)
    (rsParity_zero_syndromes n data hd)

/-- the model of `ReedSolomonDecoder.Decode` that C04's theorems are about, over the QR field -/
def rsQR : List Nat → Nat → Res (List Nat) := Gzx.RS.decode qrCode256

/-- C04's `rs_corrects_received` on a reference block (`hn` is not used: `hlen` bounds `n`) -/
theorem rsQR_corrects (n : Nat) (hn : n ∈ ecLens) (data : List Nat) (hne : data ≠ []) (hd : InR 256 data)
    (hlen : data.length + n ≤ 255) (recv : List Nat) (hrl : recv.length = data.length + n)
    (hrb : InR 256 recv)
    (herr : 2 * Gzx.Properties.C04.hamming (data ++ rsParity data n) recv ≤ n) :
    rsQR recv n = .ok (data ++ rsParity data n) := by
  exact Gzx.Properties.C04.rs_corrects_received qrCode256 qrFieldOK (by decide) _ recv n
    (by simp [hrl, rsParity_length]) (by simp [rsParity_length]; exact hlen)
    (InR.append hd (rsParity_lt data n hd)) hrb (rsParity_zero_syndromes n data hd) (by simp [hne])
    (by show n + 0 ≤ 256; omega) herr

end Gzx.QRComp
