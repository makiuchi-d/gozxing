/-
  C01 / C05 (work package c01multi) — what the decoder model's `BitMatrixParser` reads (version, format information,
  codewords) from a matrix that
    * holds, in the data cells (the reference placement order `QRRef.zigzag v` = the cells `ReadCodewords` visits),
      the modules of the reference symbol carrying a codeword stream,
    * holds the format word with ≤ 3 flipped bits in EACH copy,
    * holds (version ≥ 7) the version word with ≤ 3 flipped bits in AT LEAST ONE of the two copies
      (the other copy may hold anything),
    * and anything at all elsewhere (finder, timing, alignment patterns, dark module are never read).
  Composition of `decodeFormat_near` / `versionCopyOK_near` (Proofs/QRTolerance.lean) and the function-pattern/data-cell
  partition (`data_cells_eq`, all versions).  The reference symbol `QRRef.refMatrix v ec mask cw` itself is the case
  without damage (`damaged_sym`).
-/
import Gzx.Proofs.QRCompRead
namespace Gzx.QRComp
open Gzx Gzx.QRDec Gzx.ECI

/-- whatever a copy of the version information holds: if `ReadVersion` accepts it (it decodes to a version of the
    symbol's dimension), the version is the right one -/
theorem versionCopyOK_ref (T : Tables) (hT : TablesConform T) (v : Nat) (b : Nat) (v' : VersionInfo)
    (h : versionCopyOK T (17 + 4 * v) b = some v') : v' = refVersion v := by
  unfold versionCopyOK at h
  cases hd : decodeVersionInformation T b with
  | error e => rw [hd] at h; cases h
  | ok w =>
    rw [hd] at h
    simp only at h
    split at h
    · rename_i hdim
      have hw : w = v' := Option.some.inj h
      subst hw
      obtain ⟨n, hn⟩ : ∃ n, getVersionForNumber T.versions n = .ok w := by
        unfold decodeVersionInformation at hd
        split at hd
        · exact ⟨_, hd⟩
        · split at hd
          · exact ⟨_, hd⟩
          · cases hd
      by_cases hr : 1 ≤ n ∧ n ≤ 40
      · rw [getVersion_ref T hT n hr.1 hr.2] at hn
        have hw : refVersion n = w := Except.ok.inj hn
        subst hw
        have : n = v := by
          unfold VersionInfo.dimension refVersion at hdim
          simp only at hdim
          omega
        rw [this]
      · unfold getVersionForNumber at hn
        have : n < 1 ∨ n > 40 := by omega
        simp only [this, if_true] at hn
        cases hn
    · cases h

/-- a matrix that is the reference symbol `(v, ec, mask, cw)` up to tolerable damage of the format / version
    information and arbitrary damage of the other function patterns -/
structure Damaged (v : Nat) (ec : QRRef.EC) (mask : Nat) (cw : List Nat) (m : Matrix) : Prop where
  dim : m.dim = 17 + 4 * v
  data : ∀ c ∈ QRRef.zigzag v, m.bit c.1 c.2 = QRRef.moduleAt v ec mask cw c.1 c.2
  fmt1 : ∃ e, e < 2 ^ 15 ∧ popCount 64 e ≤ 3 ∧
    formatCoords1.map (cellOf m false) = natToBits 15 (QRRef.formatWord ec mask ^^^ e)
  fmt2 : ∃ e, e < 2 ^ 15 ∧ popCount 64 e ≤ 3 ∧
    (formatCoords2 (17 + 4 * v)).map (cellOf m false) = natToBits 15 (QRRef.formatWord ec mask ^^^ e)
  ver : 7 ≤ v →
    (∃ e, e < 2 ^ 18 ∧ popCount 64 e ≤ 3 ∧
      (versionCoords1 (17 + 4 * v)).map (cellOf m false) = natToBits 18 (QRRef.versionWord v ^^^ e)) ∨
    (∃ e, e < 2 ^ 18 ∧ popCount 64 e ≤ 3 ∧
      (versionCoords2 (17 + 4 * v)).map (cellOf m false) = natToBits 18 (QRRef.versionWord v ^^^ e))

section reads
variable (v : Nat) (h1 : 1 ≤ v) (h40 : v ≤ 40) (ec : QRRef.EC) (mask : Nat) (cw : List Nat) (m : Matrix)
  (T : Tables) (hT : TablesConform T) (hD : Damaged v ec mask cw m)

/-- parser state after `ReadVersion` -/
def dparser1 : Parser := if v ≤ 6 then { m := m } else { m := m, ver := some (refVersion v) }

/-- parser state after `ReadFormatInformation` -/
def dparser2 : Parser := { dparser1 v m with fmt := some (toDecEC ec, mask) }

theorem dparser1_m : (dparser1 v m).m = m := by unfold dparser1; split <;> rfl
theorem dparser1_fmt : (dparser1 v m).fmt = none := by unfold dparser1; split <;> rfl
theorem dparser1_mirror : (dparser1 v m).mirror = false := by unfold dparser1; split <;> rfl

include h1 h40 hT hD

/-- `ReadVersion` on the damaged symbol: a copy within three bits of the written word decides — the first one if it
    is, otherwise whatever the first copy holds is either rejected (not a version word of this dimension within three
    bits) or yields the same version, and the second copy decides -/
theorem readVersion_damaged : readVersion T { m := m } = .ok (refVersion v, dparser1 v m) := by
  have hdim := hD.dim
  have hprov : (17 + 4 * v - 17) / 4 = v := by omega
  by_cases hs : v ≤ 6
  · have := readVersion_small T { m := m } rfl (by simp only [hdim, hprov]; exact hs) (refVersion v)
      (by simp only [hdim, hprov]; exact getVersion_ref T hT v h1 h40)
    rw [this]; unfold dparser1; rw [if_pos hs]
  · have h7 : 7 ≤ v := by omega
    have hw : T.vdi[v - 7]? = some (QRRef.versionWord v) := by
      rw [hT.2.1]; unfold refVdi
      rw [List.getElem?_map, List.getElem?_range (by omega)]
      simp only [Option.map_some]
      rw [show v - 7 + 7 = v by omega]
    have hlt : QRRef.versionWord v < 2 ^ 18 := by
      have := versionWord_lt (v - 7) (List.mem_range.mpr (by omega))
      rwa [show v - 7 + 7 = v by omega] at this
    have hgv : getVersionForNumber T.versions (v - 7 + 7) = .ok (refVersion v) := by
      rw [show v - 7 + 7 = v by omega]; exact getVersion_ref T hT v h1 h40
    have hnear : ∀ e, popCount 64 e ≤ 3 → versionCopyOK T (17 + 4 * v) (QRRef.versionWord v ^^^ e) = some (refVersion v) :=
      fun e hpe => versionCopyOK_near T (by rw [hT.2.1]; exact refVdi_minDist) (v - 7) (QRRef.versionWord v) hw e
        hpe (refVersion v) hgv (17 + 4 * v) rfl
    rcases hD.ver h7 with ⟨e, he, hpe, hcells⟩ | ⟨e, he, hpe, hcells⟩
    · have := readVersion_reads_first T { m := m } rfl (by simp only [hdim, hprov]; exact hs)
        (QRRef.versionWord v ^^^ e) (Nat.xor_lt_two_pow hlt he) (by simp only [hdim]; exact hcells)
        (refVersion v) (by simp only [hdim]; exact hnear e hpe)
      rw [this]; unfold dparser1; rw [if_neg hs]
    · have hbig : ¬ (17 + 4 * v - 17) / 4 ≤ 6 := by rw [hprov]; exact hs
      unfold readVersion dparser1
      simp only [hdim, hbig, hs, if_false, copyBits_read, bind, Except.bind]
      cases h1c : versionCopyOK T (17 + 4 * v) (natOfBits ((versionCoords1 (17 + 4 * v)).map (cellOf m false))) with
      | some v' =>
        have := versionCopyOK_ref T hT v _ v' h1c
        subst this
        rfl
      | none =>
        simp only [hcells, natOfBits_natToBits 18 _ (Nat.xor_lt_two_pow hlt he), hnear e hpe]

omit h1 h40 in
/-- `ReadFormatInformation` on the damaged symbol: both copies within three bits of the written word -/
theorem readFormat_damaged (hm : mask < 8) :
    readFormatInformation T (dparser1 v m) = .ok ((toDecEC ec, mask), dparser2 v ec mask m) := by
  have hdim := hD.dim
  obtain ⟨e₁, b₁, p₁, c₁⟩ := hD.fmt1
  obtain ⟨e₂, b₂, p₂, c₂⟩ := hD.fmt2
  obtain ⟨hd32, hfi⟩ := formatData_facts ec mask (List.mem_range.mpr hm)
  have hlt : QRRef.formatWord ec mask < 2 ^ 15 := formatWord_lt _ (List.mem_range.mpr hd32)
  have hmem : (QRRef.formatWord ec mask, (ec.bits <<< 3) ||| mask) ∈ T.fmt := by
    rw [hT.1]; unfold refFmt
    exact List.mem_map.mpr ⟨_, List.mem_range.mpr hd32, rfl⟩
  have hdec := decodeFormat_near T.fmt T.fmtMask (by rw [hT.1]; exact refFmt_minDist) _ _ hmem e₁ e₂ p₁ p₂
  rw [readFormat_reads T (dparser1 v m) (dparser1_fmt v m) _ _ (Nat.xor_lt_two_pow hlt b₁) (Nat.xor_lt_two_pow hlt b₂)
    (by rw [dparser1_m, dparser1_mirror]; exact c₁)
    (by rw [dparser1_m, dparser1_mirror, hdim]; exact c₂), hdec, hfi]
  rfl

/-- `ReadCodewords` on the damaged symbol returns the codeword sequence the data cells carry -/
theorem readCodewords_damaged (hl : cw.length = QRRef.totalCodewords v) (hb : ∀ b ∈ cw, b < 256) :
    (readCodewords T (dparser2 v ec mask m)).1 = .ok cw := by
  have hdim := hD.dim
  have hprov : (17 + 4 * v - 17) / 4 = v := by omega
  have hfmt : readFormatInformation T (dparser2 v ec mask m) = .ok ((toDecEC ec, mask), dparser2 v ec mask m) := rfl
  have hpm : (dparser2 v ec mask m).m = m := dparser1_m v m
  have hver : readVersion T (dparser2 v ec mask m) = .ok (refVersion v, dparser2 v ec mask m) := by
    by_cases hs : v ≤ 6
    · have hp : (dparser2 v ec mask m).ver = none := by
        unfold dparser2 dparser1; rw [if_pos hs]
      exact readVersion_small T _ hp (by rw [hpm, hdim, hprov]; exact hs) (refVersion v)
        (by rw [hpm, hdim, hprov]; exact getVersion_ref T hT v h1 h40)
    · unfold dparser2 dparser1 readVersion
      rw [if_neg hs]
  unfold readCodewords
  rw [hfmt]
  simp only [hver]
  have hfp := buildFunctionPattern_ref (refVersion v) v h1 h40 rfl rfl
  simp only [hfp, wrapF, bind, Except.bind, hpm, unmask, hdim, readDataBits_eq, List.reverse_nil, List.nil_append,
    data_cells_eq v h1 h40]
  have hbits : (QRRef.zigzag v).map (fun c =>
      Matrix.getB { dim := 17 + 4 * v, bit := fun x y => m.bit x y != QRDec.maskBit mask y x } c.1 c.2) =
      QRRef.readDataBits v mask (QRRef.moduleAt v ec mask cw) := by
    unfold QRRef.readDataBits
    apply List.map_congr_left
    intro c hc
    have hd := hD.data c hc
    obtain ⟨x, y⟩ := c
    have hm := (QRRef.mem_zigzag v x y).mp hc
    unfold QRRef.dimension at hm
    simp only [Matrix.getB, hm.1, hm.2.1, and_self, if_true]
    rw [hd, maskBit_eq]
  rw [hbits]
  have hc := Gzx.Properties.C07.std_zigzag_count v h1 h40
  have hrem : QRRef.remainderBits v < 8 := by unfold QRRef.remainderBits; omega
  have hlen8 : (QRRef.bitsOfBytes cw).length ≤ (QRRef.zigzag v).length := by
    rw [QRRef.bitsOfBytes_length, hl, hc]; omega
  rw [QRRef.readDataBits_moduleAt v ec mask cw hlen8]
  have hsl : (QRRef.streamBits v cw).length = 8 * QRRef.totalCodewords v + QRRef.remainderBits v := by
    rw [QRRef.streamBits_length v cw hlen8, hc]
  have hdiv : (QRRef.streamBits v cw).length / 8 = QRRef.totalCodewords v := by rw [hsl]; omega
  rw [refVersion_total v h1 h40, hdiv]
  simp only [Nat.lt_irrefl, if_false, ne_eq, not_true_eq_false]
  unfold QRRef.streamBits
  rw [← hl, bitsToBytes_bitsOfBytes cw _ hb]

end reads

/-- the reference symbol itself is the case without damage: error word 0 in every copy -/
theorem damaged_sym (v : Nat) (h1 : 1 ≤ v) (h40 : v ≤ 40) (ec : QRRef.EC) (mask : Nat) (cw : List Nat) :
    Damaged v ec mask cw (sym v ec mask cw) where
  dim := matrixOf_dim v ec mask cw
  data := fun c hc => by
    have hm := (QRRef.mem_zigzag v c.1 c.2).mp hc
    unfold QRRef.dimension at hm
    exact matrixOf_bit v ec mask cw c.1 c.2 hm.1 hm.2.1
  fmt1 := ⟨0, by decide, by decide, by rw [Nat.xor_zero]; exact (format_area1 v h1 h40 ec mask cw).reads⟩
  fmt2 := ⟨0, by decide, by decide, by rw [Nat.xor_zero]; exact (format_area2 v h1 h40 ec mask cw).reads⟩
  ver := fun h7 => .inl ⟨0, by decide, by decide, by rw [Nat.xor_zero]; exact (version_area1 v h1 h40 ec mask cw h7).reads⟩

end Gzx.QRComp
