/-
  `upceanReader_findGuardPatternWithCounters` in both UPC/EAN models is the counter-window loop of Proofs/RowWindow.lean
  (`guardLoop_eq_gen` for the whole-row model with any variance arithmetic; `guardLoop_exact`: its exact-fraction
  instance is the loop of Model/OneD.lean).  Hence on EVERY row, from every offset, for every guard pattern of at least
  three runs: a range that ends right of the offset and inside the row, or NotFound — `counters[pos]++`,
  `counters[pos+1] = 1` and the shift `counters[2:]` stay inside the slice, and the variance is always asked about as
  many counters as the pattern has entries.
-/
import Gzx.Model.OneDRowExt
import Gzx.Proofs.RowWindow
import Gzx.Proofs.Sat

namespace Gzx.Proofs.OneDRowExtTotal
open Gzx Gzx.Det Gzx.OneDRowExt
open Gzx.OneD (getNextSet getNextUnset incrAt sumL incrAt_length)

section
variable {V : Type} (O : VarOps V)

/-- what the guard search does with a full window -/
def guardCheck (pattern : List Nat) (ps x : Nat) (cs : List Nat) : Res (Option (Nat × Nat)) :=
  .ok (if O.lt (O.pmv cs pattern) O.maxAvg then some (ps, x) else none)

/-- The models write `counters[pos]++` and `counters[pos+1] = 1` with `incrAt` / `List.set`, which do nothing out of
    range, where `genLoop` checks both indices: `cs.length = pattern.length` and `pos < pattern.length` meet the two
    checks.  With as many counters as pattern entries the `pattern[i]` test of the variance call is dead; the bound on
    the pattern keeps the two loops' (differently worded) panics for a window of one counter out of the way. -/
theorem guardLoop_eq_gen (pattern : List Nat) (h3 : 3 ≤ pattern.length) :
    ∀ (bs : List Bool) (x : Nat) (cs : List Nat) (pos ps : Nat) (w : Bool),
      cs.length = pattern.length → pos < pattern.length →
      guardLoop O pattern bs x cs pos ps w = Row128.genLoop pattern.length (guardCheck O pattern) bs x cs pos ps w
  | [], _, _, _, _, _, _, _ => rfl
  | b :: bs, x, cs, pos, ps, w, hl, hp => by
    unfold guardLoop Row128.genLoop
    by_cases hb : (b != w) = true
    · rw [if_pos hb, if_pos hb]
      simp only [Row128.incrChk, hl, hp, if_true]
      exact guardLoop_eq_gen pattern h3 bs _ _ _ _ _ (by rw [incrAt_length]; exact hl) hp
    · rw [if_neg hb, if_neg hb]
      by_cases hlast : pos + 1 = pattern.length
      · rw [if_pos hlast, if_pos hlast, if_neg (by omega)]
        simp only [guardCheck]
        by_cases hlt : O.lt (O.pmv cs pattern) O.maxAvg = true
        · rw [if_pos hlt, if_pos hlt]
        · rw [if_neg hlt, if_neg hlt]
          match cs, hl with
          | c0 :: c1 :: tl, hl =>
            simp only []
            split
            · rfl
            · exact guardLoop_eq_gen pattern h3 bs _ _ _ _ _ (by simp at hl ⊢; omega) (by omega)
          | [_], hl => simp at hl; omega
          | [], hl => simp at hl; omega
      · rw [if_neg hlast, if_neg hlast, if_pos (by omega)]
        exact guardLoop_eq_gen pattern h3 bs _ _ _ _ _ (by rw [List.length_set]; exact hl) (by omega)

theorem findGuardPattern_sat (row : List Bool) (rowOffset : Nat) (whiteFirst : Bool) (pattern : List Nat)
    (h3 : 3 ≤ pattern.length) :
    Sat OnlyNotFound (fun r => rowOffset < r.2 ∧ r.2 < row.length) (findGuardPattern O row rowOffset whiteFirst pattern) := by
  unfold findGuardPattern
  simp only []
  generalize hoff : (if whiteFirst = true then getNextUnset row rowOffset else getNextSet row rowOffset) = off0
  have hge : min rowOffset row.length ≤ off0 := by
    rw [← hoff]; split
    · exact OneD.getNextUnset_ge_min row rowOffset
    · exact OneD.getNextSet_ge_min row rowOffset
  rw [guardLoop_eq_gen O pattern h3 _ _ _ _ _ _ (by simp) (by omega)]
  -- a window is complete two pixels right of the search's start at the earliest; an offset at or beyond the end of the
  -- row leaves no pixel to look at
  refine (Row128.genLoop_sat (E := OnlyNotFound)
    (Q := fun r => min off0 row.length + (pattern.length - 1) ≤ r.2 ∧ r.2 < row.length) rfl pattern.length row.length
    (min off0 row.length + (pattern.length - 1)) h3 (guardCheck O pattern) ?_ _ _ _ _ _ _ (by simp) (by omega)
    (by simp only [List.length_drop]; omega) (by rw [Row128.sumL_replicate_zero]; omega) (by omega)).post
    fun r hr => by omega
  intro ps x cs _ _ hlo hN
  show Sat OnlyNotFound _ (.ok _)
  intro r hr
  split at hr
  · cases hr; exact ⟨hlo, hN⟩
  · cases hr
end

/-! ## the exact-fraction instance is the loop of Model/OneD.lean -/

/-- exact fractions, `none` = +Inf: the interpretation under which the whole-row model is Model/OneD.lean's reader -/
abbrev exactOps := VarOps.exact

theorem pmv_cases (cs pattern : List Nat) :
    (pattern.length < cs.length ∧
      RunLength.patternMatchVariance cs pattern 7 10 = .error (.panic "pattern[i] out of range")) ∨
    (¬ pattern.length < cs.length ∧ ∃ v, RunLength.patternMatchVariance cs pattern 7 10 = .ok v) := by
  unfold RunLength.patternMatchVariance
  by_cases h : pattern.length < cs.length
  · exact Or.inl ⟨h, by rw [if_pos h]⟩
  · refine Or.inr ⟨h, ?_⟩
    rw [if_neg h]
    simp only []
    split
    · exact ⟨_, rfl⟩
    · split <;> exact ⟨_, rfl⟩

theorem exactLt_avg (v : Option (Nat × Nat)) : exactLt v (some (12, 25)) = OneD.belowAvg v := by
  cases v with
  | none => rfl
  | some p =>
    obtain ⟨n, d⟩ := p
    simp only [exactLt, OneD.fracLt, OneD.belowAvg]
    rw [Nat.mul_comm n 25]

theorem guardLoop_exact (pattern : List Nat) :
    ∀ (bs : List Bool) (x : Nat) (cs : List Nat) (pos ps : Nat) (w : Bool),
      guardLoop exactOps pattern bs x cs pos ps w = OneD.guardLoop pattern bs x cs pos ps w
  | [], _, _, _, _, _ => rfl
  | b :: bs, x, cs, pos, ps, w => by
    unfold guardLoop OneD.guardLoop
    by_cases hb : (b != w) = true
    · rw [if_pos hb, if_pos hb]; exact guardLoop_exact pattern bs _ _ _ _ _
    · rw [if_neg hb, if_neg hb]
      by_cases hl : pos + 1 = pattern.length
      · rw [if_pos hl, if_pos hl]
        rcases pmv_cases cs pattern with ⟨hlt, hp⟩ | ⟨hlt, v, hp⟩
        · rw [if_pos hlt, hp]
        · rw [if_neg hlt, hp]
          simp only []
          have : exactOps.lt (exactOps.pmv cs pattern) exactOps.maxAvg = OneD.belowAvg v := by
            show exactLt (exactPmv cs pattern) (some (12, 25)) = _
            rw [exactLt_avg]; unfold exactPmv; rw [hp]
          rw [this]
          by_cases hv : OneD.belowAvg v = true
          · rw [if_pos hv, if_pos hv]
          · rw [if_neg hv, if_neg hv]
            match cs with
            | c0 :: c1 :: tl =>
              simp only []
              split
              · rfl
              · exact guardLoop_exact pattern bs _ _ _ _ _
            | [_] => rfl
            | [] => rfl
      · rw [if_neg hl, if_neg hl]; exact guardLoop_exact pattern bs _ _ _ _ _

theorem findGuardPattern_exact (row : List Bool) (off : Nat) (wf : Bool) (p : List Nat) :
    findGuardPattern exactOps row off wf p = OneD.findGuardPattern row off wf p := by
  unfold findGuardPattern OneD.findGuardPattern
  exact guardLoop_exact p _ _ _ _ _ _
theorem oneD_findGuardPattern_sat (row : List Bool) (rowOffset : Nat) (whiteFirst : Bool) (pattern : List Nat)
    (h3 : 3 ≤ pattern.length) :
    Sat OnlyNotFound (fun r => rowOffset < r.2 ∧ r.2 < row.length)
      (OneD.findGuardPattern row rowOffset whiteFirst pattern) := by
  rw [← findGuardPattern_exact]
  exact findGuardPattern_sat exactOps row rowOffset whiteFirst pattern h3

end Gzx.Proofs.OneDRowExtTotal
