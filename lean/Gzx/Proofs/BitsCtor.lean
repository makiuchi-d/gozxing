/-
  C16 helper lemmas: the word-level constructors ParseBoolMapToBitMatrix / ParseStringToBitMatrix build what the
  naive constructors build.
-/
import Gzx.Proofs.BitsMatGrid
import Gzx.Proofs.BitsParse
namespace Gzx.Bits
open Gzx

namespace WMat

theorem foldlM_set_eq (cells : List (Nat × Nat)) : ∀ (m0 : WMat),
    cells.foldlM (fun (m : WMat) p => m.set p.1 p.2) m0 =
      (cells.foldlM (fun ws p => updWord ws (p.2 * m0.rowSize + p.1 / 32) (fun w => w ||| 1 <<< (p.1 % 32)))
        m0.words).map (fun ws => { m0 with words := ws }) := by
  induction cells with
  | nil => intro m0; rfl
  | cons p cells ih =>
    intro m0
    rw [List.foldlM_cons, List.foldlM_cons]
    unfold WMat.set
    simp only [bind, Except.bind, pure, Except.pure]
    cases updWord m0.words (p.2 * m0.rowSize + p.1 / 32) (fun w => w ||| 1 <<< (p.1 % 32)) with
    | error e => rfl
    | ok ws => exact ih { m0 with words := ws }

theorem foldlM_set_cells (cells : List (Nat × Nat)) (m0 : WMat) (h0 : InvM m0)
    (hin : ∀ p ∈ cells, p.1 < m0.width ∧ p.2 < m0.height) :
    ∃ m', cells.foldlM (fun (m : WMat) p => m.set p.1 p.2) m0 = .ok m' ∧ InvM m' ∧
      absM m' = SMat.ofFn m0.width m0.height (fun x y => mbit m0 x y || decide ((x, y) ∈ cells)) := by
  obtain ⟨ws', g1, g2, g3⟩ := setCells h0 cells hin
  exact ⟨_, by rw [foldlM_set_eq, g1]; rfl, g2, g3⟩

/-- `ParseBoolMapToBitMatrix` on a non-empty rectangular image -/
theorem ofBoolMap_refines (r0 : List Bool) (rest : List (List Bool))
    (hrect0 : ∀ r ∈ r0 :: rest, r.length = r0.length) :
    match SMat.ofBoolMap (r0 :: rest) with
    | .ok s => RefinesM (WMat.ofBoolMap (r0 :: rest)) s
    | .error e => WMat.ofBoolMap (r0 :: rest) = .error e := by
  unfold SMat.ofBoolMap WMat.ofBoolMap
  simp only
  generalize hw : r0.length = w at hrect0 ⊢
  generalize himg : r0 :: rest = image at hrect0 ⊢
  have hrect : ∀ r ∈ image, r.length = w := hrect0
  by_cases hbad : w < 1 ∨ image.length < 1
  · rw [if_pos hbad]
    simp only
    unfold WMat.new
    rw [if_pos hbad]
  · rw [if_neg hbad]
    simp only
    obtain ⟨m0, n1, n2, n3, n4, n5⟩ := newMat_props w image.length (by omega) (by omega)
    rw [n1]
    simp only
    -- flatten, resolve the reads, filter, map to cells
    rw [foldlM_nested (fun (m : WMat) (a : List Bool × Nat) j => ofBoolMapCell m a.1 a.2 j)]
    generalize hps : (image.zipIdx.flatMap (fun a => (List.range w).map (fun b => (a, b)))) = ps
    have hmem : ∀ p, p ∈ ps ↔ image[p.1.2]? = some p.1.1 ∧ p.2 < w := by
      intro p
      rw [← hps, mem_flatMap_pairs, List.mem_zipIdx_iff_getElem?, List.mem_range]
    have hstep : ps.foldlM (fun (m : WMat) (p : (List Bool × Nat) × Nat) =>
          ofBoolMapCell m p.1.1 p.1.2 p.2) m0 =
        ((ps.filter (fun p => p.1.1[p.2]?.getD false)).map (fun p => (p.2, p.1.2))).foldlM
          (fun (m : WMat) c => m.set c.1 c.2) m0 := by
      rw [List.foldlM_map, ← foldlM_filter]
      apply foldlM_congr_mem
      intro p hp m
      have hp' := (hmem p).mp hp
      have hlen : p.1.1.length = w := hrect _ (List.mem_of_getElem? hp'.1)
      unfold ofBoolMapCell
      rw [List.getElem?_eq_getElem (by omega)]
      cases p.1.1[p.2] <;> rfl
    rw [hstep]
    generalize hcells : ((ps.filter (fun p => p.1.1[p.2]?.getD false)).map (fun p => (p.2, p.1.2))) = cells
    have hcmem : ∀ x y, (x, y) ∈ cells ↔ x < w ∧ ∃ r, image[y]? = some r ∧ r[x]? = some true := by
      intro x y
      rw [← hcells, List.mem_map]
      constructor
      · rintro ⟨p, hp, he⟩
        rw [List.mem_filter] at hp
        have hp' := (hmem p).mp hp.1
        have e1 : p.2 = x := congrArg Prod.fst he
        have e2 : p.1.2 = y := congrArg Prod.snd he
        have hlen : p.1.1.length = w := hrect _ (List.mem_of_getElem? hp'.1)
        have hx : x < w := by rw [← e1]; exact hp'.2
        refine ⟨hx, p.1.1, by rw [← e2]; exact hp'.1, ?_⟩
        have hb := hp.2
        rw [e1] at hb
        have hxl : x < p.1.1.length := by omega
        rw [List.getElem?_eq_getElem hxl] at hb ⊢
        simpa using hb
      · rintro ⟨hx, r, h1, h2⟩
        refine ⟨((r, y), x), List.mem_filter.mpr ⟨(hmem _).mpr ⟨h1, hx⟩, ?_⟩, rfl⟩
        simp [h2]
    obtain ⟨m', g1, g2, g3⟩ := foldlM_set_cells cells m0 n2 (by
      intro p hp
      obtain ⟨hx, r, h1, _⟩ := (hcmem p.1 p.2).mp hp
      rw [n3, n4]
      refine ⟨hx, ?_⟩
      false_or_by_contra
      rw [List.getElem?_eq_none (by omega)] at h1; cases h1)
    rw [g1]
    refine ⟨m', rfl, g2, g3.trans (SMat.eq_ofFn_of _ ⟨?_, ?_⟩ _ _ _ n3.symm n4.symm ?_).symm⟩
    · simp
    · intro r hr
      simp only [List.mem_map] at hr
      obtain ⟨r0, h0, rfl⟩ := hr
      rw [List.length_take, hrect r0 h0]; simp
    · intro x y hx hy
      rw [n3] at hx
      rw [n4] at hy
      rw [n5, Bool.false_or]
      unfold SMat.get
      simp only
      rw [List.getElem?_map, List.getElem?_eq_getElem hy]
      simp only [Option.map_some, Option.getD_some]
      have hlen : image[y].length = w := hrect _ (List.getElem_mem hy)
      rw [List.getElem?_take, if_pos hx, List.getElem?_eq_getElem (by omega)]
      simp only [Option.getD_some]
      rw [Bool.eq_iff_iff]
      simp only [decide_eq_true_eq]
      rw [hcmem]
      constructor
      · intro hb
        exact ⟨hx, image[y], List.getElem?_eq_getElem hy, by
          rw [List.getElem?_eq_getElem (by omega), hb]⟩
      · rintro ⟨_, r, h1, h2⟩
        rw [List.getElem?_eq_getElem hy] at h1
        simp only [Option.some.injEq] at h1
        subst h1
        rw [List.getElem?_eq_getElem (by omega)] at h2
        simpa using h2

/-- `ParseStringToBitMatrix` -/
theorem parse_refines (s set unset : List Nat) :
    match SMat.parse s set unset with
    | .ok g => RefinesM (WMat.parse s set unset) g
    | .error e => WMat.parse s set unset = .error e := by
  unfold SMat.parse WMat.parse
  cases hg : parseGrid s set unset with
  | error e => rfl
  | ok r =>
    obtain ⟨rl, n, bits⟩ := r
    simp only
    obtain ⟨h1, h2, h3⟩ := parseGrid_shape s set unset rl n bits hg
    obtain ⟨m0, n1, n2, n3, n4, n5⟩ := newMat_props rl n h1 h2
    rw [n1]
    simp only
    -- conditional sets = sets over the filtered positions
    have hstep : bits.zipIdx.foldlM (fun (m : WMat) (p : Bool × Nat) =>
          if p.1 then m.set (p.2 % rl) (p.2 / rl) else pure m) m0 =
        ((bits.zipIdx.filter (fun p => p.1)).map (fun p => (p.2 % rl, p.2 / rl))).foldlM
          (fun (m : WMat) c => m.set c.1 c.2) m0 := by
      rw [List.foldlM_map, ← foldlM_filter]
    rw [hstep]
    generalize hcells : ((bits.zipIdx.filter (fun p => p.1)).map (fun p => (p.2 % rl, p.2 / rl))) = cells
    have hcmem : ∀ x y, (x, y) ∈ cells ↔ ∃ i, bits[i]? = some true ∧ x = i % rl ∧ y = i / rl := by
      intro x y
      rw [← hcells, List.mem_map]
      constructor
      · rintro ⟨p, hp, he⟩
        rw [List.mem_filter] at hp
        have := List.mem_zipIdx_iff_getElem?.mp hp.1
        refine ⟨p.2, ?_, (congrArg Prod.fst he).symm, (congrArg Prod.snd he).symm⟩
        rw [this]; congr 1; exact hp.2
      · rintro ⟨i, hi, rfl, rfl⟩
        exact ⟨(true, i), List.mem_filter.mpr ⟨List.mem_zipIdx_iff_getElem?.mpr hi, rfl⟩, rfl⟩
    obtain ⟨m', g1, g2, g3⟩ := foldlM_set_cells cells m0 n2 (by
      intro p hp
      obtain ⟨i, hi, e1, e2⟩ := (hcmem p.1 p.2).mp hp
      have hil : i < bits.length := by
        false_or_by_contra
        rw [List.getElem?_eq_none (by omega)] at hi; cases hi
      rw [n3, n4, e1, e2]
      refine ⟨Nat.mod_lt _ (by omega), ?_⟩
      rw [h3, Nat.mul_comm] at hil
      exact Nat.div_lt_of_lt_mul hil)
    rw [g1]
    refine ⟨m', rfl, g2, g3.trans (SMat.eq_ofFn_of _ ⟨?_, ?_⟩ _ _ _ n3.symm n4.symm ?_).symm⟩
    · simp
    · intro r hr
      simp only [List.mem_map, List.mem_range] at hr
      obtain ⟨y, hy, rfl⟩ := hr
      rw [List.length_take, List.length_drop, h3]
      have : (y + 1) * rl ≤ n * rl := Nat.mul_le_mul_right _ hy
      rw [Nat.add_mul, Nat.one_mul] at this
      simp only; omega
    · intro x y hx hy
      rw [n3] at hx
      rw [n4] at hy
      rw [n5, Bool.false_or]
      unfold SMat.get
      simp only
      rw [List.getElem?_map, List.getElem?_range hy]
      simp only [Option.map_some, Option.getD_some]
      rw [List.getElem?_take, if_pos hx, List.getElem?_drop]
      have hidx : y * rl + x < bits.length := by
        rw [h3]
        have : (y + 1) * rl ≤ n * rl := Nat.mul_le_mul_right _ hy
        rw [Nat.add_mul, Nat.one_mul] at this
        omega
      rw [List.getElem?_eq_getElem hidx]
      simp only [Option.getD_some]
      rw [Bool.eq_iff_iff]
      simp only [decide_eq_true_eq]
      rw [hcmem]
      constructor
      · intro hb
        refine ⟨y * rl + x, by rw [List.getElem?_eq_getElem hidx, hb], ?_, ?_⟩
        · rw [Nat.mul_comm, Nat.mul_add_mod, Nat.mod_eq_of_lt hx]
        · rw [Nat.mul_comm, Nat.mul_add_div (by omega), Nat.div_eq_of_lt hx]; rfl
      · rintro ⟨i, hi, e1, e2⟩
        have : y * rl + x = i := by
          rw [e1, e2]; exact Nat.div_add_mod' i rl
        rw [← this, List.getElem?_eq_getElem hidx] at hi
        simpa using hi

end WMat

end Gzx.Bits
