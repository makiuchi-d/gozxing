/-
  Read-back lemmas of the reference symbol (encoder half of C01's `place_read_inv`,
  `format_info_inv`, `version_info_inv`), stated over the functional specification `moduleAt`:
  reading the data modules in placement order and unmasking returns the codeword stream; a format
  or version module whose lookup resolves to index `i` shows bit `i` of the BCH word (`moduleAt_format`,
  `moduleAt_version`).  That the prescribed positions are such modules is Proofs/QRInfoPos.lean; the two are
  put together in Properties/C07.lean.
-/
import Gzx.Proofs.QRPlacement
namespace Gzx.QRRef

/-- what a reader gets from a symbol `M` (x = column, y = row): the data modules in placement
    order with the mask removed -/
def readDataBits (v mask : Nat) (M : Nat → Nat → Bool) : List Bool :=
  (zigzag v).map (fun c => M c.1 c.2 != maskBit mask c.1 c.2)

theorem bne_bne_cancel (a m : Bool) : ((a != m) != m) = a := by cases a <;> cases m <;> rfl

/-- reading the reference symbol returns the stream that was placed: codeword bits (msb first)
    followed by zero remainder bits -/
theorem readDataBits_moduleAt (v : Nat) (ec : EC) (mask : Nat) (cw : List Nat)
    (hlen : (bitsOfBytes cw).length ≤ (zigzag v).length) :
    readDataBits v mask (moduleAt v ec mask cw) = streamBits v cw := by
  unfold readDataBits
  apply List.ext_getElem
  · rw [List.length_map, streamBits_length v cw hlen]
  · intro i h1 h2
    rw [List.length_map] at h1
    rw [List.getElem_map, moduleAt_data v ec mask cw hlen i h1, bne_bne_cancel]

theorem toBitsBE_length (w x : Nat) : (toBitsBE w x).length = w := by
  unfold toBitsBE; rw [List.length_map, List.length_range]

theorem byte_roundtrip : ∀ b ∈ List.range 256, ofBitsBE (toBitsBE 8 b) = b := by decide +kernel

theorem bitsOfBytes_cons (b : Nat) (bs : List Nat) : bitsOfBytes (b :: bs) = toBitsBE 8 b ++ bitsOfBytes bs := by
  unfold bitsOfBytes; rw [List.flatMap_cons]

theorem bitsOfBytes_length (bs : List Nat) : (bitsOfBytes bs).length = 8 * bs.length := by
  induction bs with
  | nil => rfl
  | cons b bs ih => rw [bitsOfBytes_cons, List.length_append, toBitsBE_length, ih, List.length_cons]; omega

/-- grouping the bits of byte values back into bytes is the identity (whatever follows).  The decoder model's
    `QRDec.bitsToBytes` is another function (it drops an incomplete tail) and has its own lemma,
    `QRComp.bitsToBytes_bitsOfBytes`. -/
theorem bytesOfBits_bitsOfBytes (bs : List Nat) (rest : List Bool) (h : ∀ b ∈ bs, b < 256) :
    bytesOfBits bs.length (bitsOfBytes bs ++ rest) = bs := by
  induction bs with
  | nil => rfl
  | cons b bs ih =>
    rw [bitsOfBytes_cons, List.length_cons, List.append_assoc]
    have hl := toBitsBE_length 8 b
    cases hb : toBitsBE 8 b ++ (bitsOfBytes bs ++ rest) with
    | nil =>
      have := congrArg List.length hb
      rw [List.length_append, hl] at this
      simp at this
    | cons x xs =>
      unfold bytesOfBits
      rw [← hb, List.take_left' hl, List.drop_left' hl, ih (fun c hc => h c (List.mem_cons_of_mem _ hc)),
        byte_roundtrip b (List.mem_range.mpr (h b List.mem_cons_self))]

/-- the data bits read back, grouped into bytes, are the codewords; the rest are zero remainder bits -/
theorem read_codewords (v : Nat) (ec : EC) (mask : Nat) (cw : List Nat)
    (hlen : 8 * cw.length ≤ (zigzag v).length) (hb : ∀ b ∈ cw, b < 256) :
    bytesOfBits cw.length (readDataBits v mask (moduleAt v ec mask cw)) = cw ∧
    (readDataBits v mask (moduleAt v ec mask cw)).drop (8 * cw.length) =
      List.replicate ((zigzag v).length - 8 * cw.length) false := by
  have hl : (bitsOfBytes cw).length ≤ (zigzag v).length := by rw [bitsOfBytes_length]; exact hlen
  rw [readDataBits_moduleAt v ec mask cw hl]
  unfold streamBits
  constructor
  · exact bytesOfBits_bitsOfBytes cw _ hb
  · rw [← bitsOfBytes_length, List.drop_left]

/-! ### format and version information -/

theorem moduleAt_format (v : Nat) (ec : EC) (mask : Nat) (cw : List Nat) (x y i : Nat)
    (hr : regionOf v x y = .format)
    (hf : (List.range 15).find? (fun j => formatPos1 j == (x, y) || formatPos2 (dimension v) j == (x, y)) = some i) :
    moduleAt v ec mask cw x y = (formatWord ec mask).testBit i := by
  have hfun : isFunction v x y = true := by unfold isFunction; rw [hr]; rfl
  rw [moduleAt_function v ec mask cw x y hfun]
  unfold functionModule
  rw [hr]
  simp only
  unfold formatBitAt
  rw [hf]

theorem moduleAt_version (v : Nat) (ec : EC) (mask : Nat) (cw : List Nat) (x y i : Nat)
    (hr : regionOf v x y = .version)
    (hf : (List.range 18).find? (fun j => versionPos1 (dimension v) j == (x, y) || versionPos2 (dimension v) j == (x, y)) = some i) :
    moduleAt v ec mask cw x y = (versionWord v).testBit i := by
  have hfun : isFunction v x y = true := by unfold isFunction; rw [hr]; rfl
  rw [moduleAt_function v ec mask cw x y hfun]
  unfold functionModule
  rw [hr]
  simp only
  unfold versionBitAt
  rw [hf]

/-! ### matrices as lists of rows -/

/-- module (x, y) of a matrix given as rows; light outside -/
def matrixAt (m : List (List Bool)) (x y : Nat) : Bool := (m.getD y []).getD x false

theorem specMatrix_at (v : Nat) (ec : EC) (mask : Nat) (cw : List Nat) (x y : Nat)
    (hx : x < dimension v) (hy : y < dimension v) :
    matrixAt (specMatrix v ec mask cw) x y = moduleAt v ec mask cw x y := by
  unfold matrixAt specMatrix
  simp only [List.getD_eq_getElem?_getD, List.getElem?_map, List.getElem?_range hy, List.getElem?_range hx,
    Option.map_some, Option.getD_some]

end Gzx.QRRef
