/-
  C16 helper lemmas: bit-stream reversal and realignment (BitArray.Reverse; the `shiftLoop` facts also serve
  BitMatrix.Rotate180).
-/
import Gzx.Proofs.Bits
namespace Gzx.Bits
open Gzx

theorem bitAt_shiftLoop (lo : Nat) (h0 : 0 < lo) (h32 : lo < 32) (rest : List Nat) :
    ∀ (w0 : Nat), w0 < W32 → (∀ w ∈ rest, w < W32) →
    ∀ g, bitAt (WArr.shiftLoop lo rest (w0 >>> lo)) g = bitAt (w0 :: rest) (g + lo) := by
  induction rest with
  | nil =>
    intro w0 hw0 _ g
    unfold WArr.shiftLoop
    rw [bitAt_cons, bitAt_cons]
    by_cases hg : g < 32
    · rw [if_pos hg, Nat.testBit_shiftRight]
      by_cases hgl : g + lo < 32
      · rw [if_pos hgl, Nat.add_comm]
      · rw [if_neg hgl, testBit_ge32 hw0 (by omega)]
        unfold bitAt; simp
    · rw [if_neg hg, if_neg (by omega)]
      unfold bitAt; simp
  | cons next rest ih =>
    intro w0 hw0 hr g
    have hnext : next < W32 := hr next (by simp)
    unfold WArr.shiftLoop
    rw [bitAt_cons]
    by_cases hg : g < 32
    · rw [if_pos hg, Nat.testBit_or, Nat.testBit_shiftRight, testBit_shl32, bitAt_cons]
      by_cases hgl : g + lo < 32
      · rw [if_pos hgl, Nat.add_comm]
        have : ¬ 32 - lo ≤ g := by omega
        simp [this]
      · rw [if_neg hgl, bitAt_cons, if_pos (by omega), testBit_ge32 hw0 (by omega)]
        have : 32 - lo ≤ g := by omega
        have e : g - (32 - lo) = g + lo - 32 := by omega
        simp [this, hg, e]
    · rw [if_neg hg, ih next hnext (fun w hw => hr w (by simp [hw])) (g - 32)]
      rw [bitAt_cons (x := w0), if_neg (by omega)]
      congr 1; omega

theorem shiftLoop_length (lo : Nat) (rest : List Nat) : ∀ cur,
    (WArr.shiftLoop lo rest cur).length = rest.length + 1 := by
  induction rest with
  | nil => intro cur; simp [WArr.shiftLoop]
  | cons x xs ih => intro cur; simp [WArr.shiftLoop, ih]

theorem shiftLoop_lt (lo : Nat) (rest : List Nat) : ∀ cur, cur < W32 → (∀ w ∈ rest, w < W32) →
    ∀ w ∈ WArr.shiftLoop lo rest cur, w < W32 := by
  induction rest with
  | nil =>
    intro cur hc _ w hw
    unfold WArr.shiftLoop at hw
    rw [List.mem_singleton.mp hw]; exact hc
  | cons x xs ih =>
    intro cur hc hr w hw
    unfold WArr.shiftLoop at hw
    rcases List.mem_cons.mp hw with h1 | hw
    · rw [h1]; exact or_lt_W32 hc (shl32_lt _ _)
    · exact ih _ (shr_lt_W32 (hr x (by simp)) _) (fun w hw => hr w (by simp [hw])) w hw

theorem bitAt_reverse_rev32 (ws : List Nat) (g : Nat) (hg : g < ws.length * 32) :
    bitAt ((ws.map rev32).reverse) g = bitAt ws (ws.length * 32 - 1 - g) := by
  have hk : g / 32 < ws.length := by omega
  have hk2 : ws.length - 1 - g / 32 < ws.length := by omega
  have e1 : (ws.length * 32 - 1 - g) / 32 = ws.length - 1 - g / 32 := by omega
  have e2 : (ws.length * 32 - 1 - g) % 32 = 31 - g % 32 := by omega
  have hj : g % 32 < 32 := Nat.mod_lt _ (by decide)
  rw [bitAt_getElem _ _ (by simpa using hk), bitAt_getElem _ _ (by omega)]
  rw [List.getElem_reverse, List.getElem_map, testBit_rev32, decide_eq_true hj, Bool.true_and]
  simp only [List.length_map, e1, e2]

/-- the first loop of `Reverse`: `newBits[c-i] = Reverse32(bits[i])` for `i` in a range -/
theorem foldlM_rev_fill (R : Nat → Nat) (ws : List Nat) (c n : Nat) : ∀ (nb : List Nat) (s : Nat),
    s + n ≤ c + 1 → s + n ≤ ws.length → c < nb.length →
    ∃ nb', (List.range' s n).foldlM (fun nb i => do
        let w ← wordAt ws i
        setWord nb (c - i) (R w)) nb = .ok nb' ∧ nb'.length = nb.length ∧
      ∀ k, nb'[k]? = if k + s ≤ c ∧ c < k + s + n then some (R (ws[c - k]?.getD 0)) else nb[k]? := by
  induction n with
  | zero =>
    intro nb s _ _ _
    refine ⟨nb, by simp [pure, Except.pure], rfl, ?_⟩
    intro k; rw [if_neg (by omega)]
  | succ n ih =>
    intro nb s h1 h2 h3
    have hs : s < ws.length := by omega
    rw [List.range'_succ, List.foldlM_cons, wordAt_ok _ _ hs]
    simp only [bind, Except.bind]
    rw [setWord_ok _ _ _ (by omega)]
    obtain ⟨nb', g1, g2, g3⟩ := ih (nb.set (c - s) (R ws[s])) (s + 1) (by omega) (by omega)
      (by simpa using h3)
    refine ⟨nb', by simpa [bind, Except.bind] using g1, by simpa using g2, ?_⟩
    intro k
    rw [g3 k, List.getElem?_set]
    by_cases e : c - s = k
    · have c1 : ¬ (k + (s + 1) ≤ c ∧ c < k + (s + 1) + n) := by omega
      have c2 : k + s ≤ c ∧ c < k + s + (n + 1) := by omega
      have e3 : c - k = s := by omega
      rw [if_neg c1, if_pos c2, if_pos e, if_pos (by omega), e3, List.getElem?_eq_getElem hs,
        Option.getD_some]
    · rw [if_neg e]
      by_cases c1 : k + (s + 1) ≤ c ∧ c < k + (s + 1) + n
      · rw [if_pos c1, if_pos (by omega)]
      · rw [if_neg c1, if_neg (by omega)]

/-- the first loop of `Reverse` as a list -/
theorem rev_fill_eq (ws : List Nat) (lw : Nat) (hl : lw + 1 ≤ ws.length) :
    (List.range' 0 (lw + 1)).foldlM (fun nb i => do
        let w ← wordAt ws i
        setWord nb (lw - i) (rev32 w)) (List.replicate ws.length 0) =
      .ok (((ws.take (lw + 1)).map rev32).reverse ++ List.replicate (ws.length - (lw + 1)) 0) := by
  obtain ⟨nb, g1, _, g3⟩ := foldlM_rev_fill rev32 ws lw (lw + 1) (List.replicate ws.length 0) 0
    (by omega) (by omega) (by simp; omega)
  rw [g1]
  congr 1
  apply List.ext_getElem?
  intro k
  have hlen : ((ws.take (lw + 1)).map rev32).length = lw + 1 := by simp; omega
  rw [g3, List.getElem?_append, List.length_reverse, hlen, List.getElem?_replicate, List.getElem?_replicate]
  by_cases c : k < lw + 1
  · rw [if_pos (by omega), if_pos c, List.getElem?_reverse (by rw [hlen]; exact c), hlen, List.getElem?_map,
      List.getElem?_take, if_pos (by omega), show lw + 1 - 1 - k = lw - k by omega,
      List.getElem?_eq_getElem (by omega)]
    rfl
  · rw [if_neg (by omega), if_neg c]
    by_cases c2 : k < ws.length
    · rw [if_pos c2, if_pos (by omega)]
    · rw [if_neg c2, if_neg (by omega)]

namespace WArr

theorem reverse_refines (a : WArr) (h : InvA a) :
    RefinesA a.reverse (SArr.reverse (absA a)) := by
  unfold WArr.reverse SArr.reverse
  by_cases h0 : a.size = 0
  · rw [if_pos h0]
    refine ⟨a, rfl, h, ?_⟩
    have : absA a = [] := by
      apply List.eq_nil_of_length_eq_zero; rw [absA_length]; exact h0
    rw [this]; rfl
  · rw [if_neg h0]
    have hlen := h.1
    simp only
    -- from here on only the two bounds on the index `lw` of the last word are used, not the division
    generalize hc : (a.size - 1) / 32 = lw
    have hLsz : a.size ≤ (lw + 1) * 32 := by omega
    have hLsz2 : (lw + 1) * 32 < a.size + 32 := by omega
    clear hc
    generalize hL : lw + 1 = L at hLsz hLsz2 ⊢
    have hLlen : L ≤ a.words.length := by omega
    have hfill := rev_fill_eq a.words lw (by omega)
    rw [hL] at hfill
    rw [List.range_eq_range', hfill]
    simp only
    -- `X`: the words that hold bits, backwards; its stream is theirs backwards
    generalize hX : ((a.words.take L).map rev32).reverse = X
    have hXlen : X.length = L := by rw [← hX]; simp; omega
    have hXlt : ∀ w ∈ X, w < W32 := by
      rw [← hX]
      intro w hw
      obtain ⟨v, _, rfl⟩ := List.mem_map.mp (List.mem_reverse.mp hw)
      exact rev32_lt _
    have hXbit : ∀ g, bitAt X g = if g < L * 32 then bitAt a.words (L * 32 - 1 - g) else false := by
      intro g
      rw [← hX]
      have hl : (a.words.take L).length = L := by rw [List.length_take]; omega
      by_cases c : g < L * 32
      · rw [if_pos c, bitAt_reverse_rev32 _ _ (by rw [hl]; exact c), hl, bitAt_take, if_pos (by omega)]
      · rw [if_neg c]; exact bitAt_of_ge _ _ (by simp; omega)
    have hZlt : ∀ w ∈ List.replicate (a.words.length - L) 0, w < W32 := fun w hw => by
      rw [(List.mem_replicate.mp hw).2]; decide
    -- the naive side
    have hspec : ∀ (ws' : List Nat), ws'.length = a.words.length → (∀ w ∈ ws', w < W32) →
        (∀ g, bitAt ws' g = if g < a.size then bitAt a.words (a.size - 1 - g) else false) →
        InvA ⟨ws', a.size⟩ ∧ absA ⟨ws', a.size⟩ = List.reverse (absA a) := by
      intro ws' hl hlt hb
      have := arr_of_bits (by omega) hlt _ hb
      exact ⟨this.1, this.2.trans (reverse_range_map _ _).symm⟩
    by_cases hfull : a.size ≠ L * 32
    · rw [if_pos hfull, List.take_left' hXlen, List.drop_left' hXlen]
      have hlo0 : 0 < L * 32 - a.size := by omega
      have hlo32 : L * 32 - a.size < 32 := by omega
      cases hXc : X with
      | nil => rw [hXc] at hXlen; simp at hXlen; omega
      | cons w0 rest =>
        simp only
        have hw0 : w0 < W32 := hXlt w0 (by rw [hXc]; simp)
        have hrest : ∀ w ∈ rest, w < W32 := fun w hw => hXlt w (by rw [hXc]; simp [hw])
        have hrl : rest.length + 1 = L := by rw [hXc] at hXlen; simpa using hXlen
        refine ⟨_, rfl, hspec _ ?_ ?_ ?_⟩
        · rw [List.length_append, shiftLoop_length, List.length_replicate]; omega
        · intro w hw
          rcases List.mem_append.mp hw with h1 | h1
          · exact shiftLoop_lt _ _ _ (shr_lt_W32 hw0 _) hrest w h1
          · exact hZlt w h1
        · intro g
          rw [bitAt_append, shiftLoop_length, hrl]
          by_cases c : g < L * 32
          · rw [if_pos c, bitAt_shiftLoop _ hlo0 hlo32 rest w0 hw0 hrest, ← hXc, hXbit]
            by_cases c2 : g < a.size
            · rw [if_pos (by omega), if_pos c2]
              congr 1; omega
            · rw [if_neg (by omega), if_neg c2]
          · rw [if_neg c, bitAt_zeros, if_neg (by omega)]
    · rw [if_neg hfull]
      have hfull' : a.size = L * 32 := by omega
      refine ⟨_, rfl, hspec _ (by rw [List.length_append, hXlen, List.length_replicate]; omega)
        (fun w hw => (List.mem_append.mp hw).elim (hXlt w) (hZlt w)) fun g => ?_⟩
      rw [bitAt_append, hXlen, hfull']
      by_cases c : g < L * 32
      · rw [if_pos c, if_pos c, hXbit, if_pos c]
      · rw [if_neg c, if_neg c, bitAt_zeros]

end WArr

end Gzx.Bits
