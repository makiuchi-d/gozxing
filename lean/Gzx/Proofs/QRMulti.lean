/-
  C01 (work package c01multi) — the bit-stream parser on MULTI-SEGMENT streams.
  `QRMulti.bitsOf v items` is the reference stream (Ref/QRMulti.lean, from ISO/IEC 18004 and GB/T 18284);
  `run` (Ref/QRMultiSem.lean) is the meaning of an item list (decoder-independent fold over the parser's visible
  state: segments so far, byte segments, structured-append fields, the ECI in effect, FNC1 in effect).
  `parseLoop_item` is one round of the segment loop on one item, from the parse∘pack facts of the modes
  (Proofs/QRSegments.lean, Proofs/ECILemmas.lean); `parseLoop_items` is the induction over the item list, the invariant
  being the parser state between two segments.  The single-segment statements of Properties/C01.lean are its instances.
-/
import Gzx.Ref.QRMultiExpected
import Gzx.Proofs.QRSegments
import Gzx.Proofs.ECILemmas
namespace Gzx.QRMulti
open Gzx Gzx.QRDec Gzx.QRPack Gzx.ECI

/-! ### Hanzi: GB 2312 pairs come back -/

theorem hanziValue_lt (p : Nat × Nat) (h : hanziPairOK p) : hanziValue p.1 p.2 < 2 ^ 13 := by
  obtain ⟨h1, h2, h3⟩ := h
  unfold hanziValue
  dsimp only
  split <;> omega

theorem hanziBytes_value (p : Nat × Nat) (h : hanziPairOK p) : hanziBytes (hanziValue p.1 p.2) = [p.1, p.2] := by
  obtain ⟨h1, h2, h3⟩ := h
  unfold hanziBytes hanziValue
  dsimp only
  rcases h1 with ⟨a, b⟩ | ⟨a, b⟩
  · have hb : p.1 ≤ 0xAA := b
    simp only [hb, if_true]
    have e1 : ((p.1 - 0xA1) * 0x60 + (p.2 - 0xA1)) / 0x60 = p.1 - 0xA1 := by omega
    have e2 : ((p.1 - 0xA1) * 0x60 + (p.2 - 0xA1)) % 0x60 = p.2 - 0xA1 := by omega
    rw [e1, e2]
    have hlt : (p.1 - 0xA1) * 256 + (p.2 - 0xA1) < 0xA00 := by omega
    simp only [hlt, if_true]
    have : (p.1 - 0xA1) * 256 + (p.2 - 0xA1) + 0xA1A1 = p.1 * 256 + p.2 := by omega
    rw [this]
    simp; omega
  · have hb : ¬ p.1 ≤ 0xAA := by omega
    simp only [hb, if_false]
    have e1 : ((p.1 - 0xA6) * 0x60 + (p.2 - 0xA1)) / 0x60 = p.1 - 0xA6 := by omega
    have e2 : ((p.1 - 0xA6) * 0x60 + (p.2 - 0xA1)) % 0x60 = p.2 - 0xA1 := by omega
    rw [e1, e2]
    have hlt : ¬ (p.1 - 0xA6) * 256 + (p.2 - 0xA1) < 0xA00 := by omega
    simp only [hlt, if_false]
    have : (p.1 - 0xA6) * 256 + (p.2 - 0xA1) + 0xA6A1 = p.1 * 256 + p.2 := by omega
    rw [this]
    simp; omega

theorem packHanzi_eq (ps : List (Nat × Nat)) :
    packHanzi ps = (ps.map (fun p => hanziValue p.1 p.2)).flatMap (natToBits 13) := by
  induction ps with
  | nil => rfl
  | cons p ps ih => obtain ⟨l, t⟩ := p; simp [packHanzi, ih]

theorem packHanzi_length : ∀ ps : List (Nat × Nat), (packHanzi ps).length = 13 * ps.length
  | [] => rfl
  | (l, t) :: ps => by
    unfold packHanzi
    rw [List.length_append, natToBits_length, packHanzi_length ps, List.length_cons]; omega

theorem decode13_packHanzi (ps : List (Nat × Nat)) (h : ∀ p ∈ ps, hanziPairOK p) (rest : List Bool) :
    decode13 hanziBytes ps.length (packHanzi ps ++ rest) = .ok (ps.flatMap (fun p => [p.1, p.2]), rest) := by
  rw [packHanzi_eq]
  exact decode13_pack (fun p => hanziValue p.1 p.2) hanziBytes ps (fun p hp => hanziValue_lt p (h p hp))
    (fun p hp => hanziBytes_value p (h p hp)) rest

theorem countBits_hanzi (ver : Nat) : countBits .hanzi ver = .ok (countWidth 3 ver) := countBits_eq _ _ _ rfl

/-! ### ECI designator -/

/-- the reference designator (7.4.2.2) is read back as its assignment number -/
theorem parseECI_eciBits (val : Nat) (h : val ≤ 999999) (rest : List Bool) :
    parseECIValue (eciBits val ++ rest) = .ok (val, rest) := by
  unfold eciBits
  by_cases h1 : val < 128
  · rw [if_pos h1]; exact parseECI_form1 val h1 rest
  · rw [if_neg h1]
    by_cases h2 : val < 16384
    · rw [if_pos h2]; exact parseECI_form2 val h2 rest
    · rw [if_neg h2]; exact parseECI_form3 val (by omega) rest

/-- one round of the segment loop on an ECI header whose designator bits `d` parse to `v`: a registered number
    below 900 switches the current character set, anything else is a FormatException -/
theorem parseLoop_eci (reg : Registry) (ver : Nat) (hint : Hint) (fuel : Nat) (st : PSt)
    (d : List Bool) (v : Nat) (rest : List Bool) (hd : parseECIValue (d ++ rest) = .ok (v, rest)) :
    parseLoop reg ver hint (fuel + 1) st (natToBits 4 7 ++ (d ++ rest)) =
      match lookupValue reg v with
      | some e => if v < 900 then parseLoop reg ver hint fuel { st with eci := some e } rest else .error .format
      | none => .error .format := by
  conv => lhs; unfold parseLoop
  rw [if_neg (mode_bits_length _ _), readBitsF_mode 7 _ (by decide)]
  simp only [bind, Except.bind, modeForBits, wrapF]
  rw [hd]
  simp only [byValue]
  by_cases h9 : v < 900
  · have : ¬ ((v : Int) < 0 ∨ (v : Int) ≥ 900) := by omega
    simp only [this, if_false, Int.toNat_natCast, h9, if_true]
    cases lookupValue reg v <;> rfl
  · have : ((v : Int) < 0 ∨ (v : Int) ≥ 900) := by omega
    simp only [this, if_true, h9, if_false]
    cases lookupValue reg v <;> rfl

theorem eciBits_length_pos (val : Nat) : 8 ≤ (eciBits val).length := by
  unfold eciBits
  split
  · simp
  · split <;> simp

/-! ### the segment loop on item lists (`Item.Content`, `Item.CountOK`, `guessed`: Ref/QRMultiExpected.lean) -/

/-- one round of the segment loop on one item: mode indicator, then (counted modes) the character count, then the
    parse∘pack fact of the mode -/
theorem parseLoop_item (reg : Registry) (ver : Nat) (hint : Hint) (g : List Nat → Charset) (fuel : Nat) (st : PSt)
    (it : Item) (hc : it.Content reg) (hn : it.CountOK ver)
    (hg : ∀ bs, it = .byte bs → st.eci = none → guessCharset reg bs hint = .ok (g bs)) (rest : List Bool) :
    parseLoop reg ver hint (fuel + 1) st (it.bits ver ++ rest) = parseLoop reg ver hint fuel (step reg g st it) rest := by
  cases it with
  | numeric ds =>
    have ⟨c1, c32⟩ := countWidth_range 0 ver
    conv => lhs; unfold parseLoop
    simp only [Item.bits, segment, List.append_assoc]
    rw [if_neg (mode_bits_length _ _), readBitsF_mode 1 _ (by decide)]
    simp only [bind, Except.bind, modeForBits, wrapF, countBits_numeric]
    rw [readBitsF_natToBits_lt _ _ _ c1 c32 hn]
    simp only [decodeNumeric_pack ds hc rest [], List.nil_append, step]
  | alnum cs =>
    have ⟨c1, c32⟩ := countWidth_range 1 ver
    conv => lhs; unfold parseLoop
    simp only [Item.bits, segment, List.append_assoc]
    rw [if_neg (mode_bits_length _ _), readBitsF_mode 2 _ (by decide)]
    simp only [bind, Except.bind, modeForBits, wrapF, countBits_alnum]
    rw [readBitsF_natToBits_lt _ _ _ c1 c32 hn]
    simp only [decodeAlnum, bind, Except.bind, decodeAlnumRaw_pack cs hc rest [], List.nil_append, step]
  | byte bs =>
    have ⟨c1, c32⟩ := countWidth_range 2 ver
    conv => lhs; unfold parseLoop
    simp only [Item.bits, segment, List.append_assoc]
    rw [if_neg (mode_bits_length _ _), readBitsF_mode 4 _ (by decide)]
    simp only [bind, Except.bind, modeForBits, wrapF, countBits_byte]
    rw [readBitsF_natToBits_lt _ _ _ c1 c32 hn]
    have hfit : ¬ 8 * bs.length > (List.flatMap (natToBits 8) bs ++ rest).length := by
      simp only [List.length_append, flatMap_natToBits_length]; omega
    simp only [decodeByte, packBytes, hfit, if_false, bind, Except.bind,
      readGroups_pack 8 (by omega) (by omega) bs hc rest [], List.nil_append, step, charsetOf]
    -- the charset: the ECI in effect, otherwise the guess
    cases he : st.eci with
    | some e => rfl
    | none => simp only [hg bs rfl he]
  | kanji ps =>
    have ⟨c1, c32⟩ := countWidth_range 3 ver
    conv => lhs; unfold parseLoop
    simp only [Item.bits, segment, List.append_assoc]
    rw [if_neg (mode_bits_length _ _), readBitsF_mode 8 _ (by decide)]
    simp only [bind, Except.bind, modeForBits, wrapF, countBits_kanji]
    rw [readBitsF_natToBits_lt _ _ _ c1 c32 hn]
    simp only [decode13_packKanji ps hc rest, step]
  | hanzi ps =>
    have ⟨c1, c32⟩ := countWidth_range 3 ver
    conv => lhs; unfold parseLoop
    simp only [Item.bits, List.append_assoc]
    rw [if_neg (mode_bits_length _ _), readBitsF_mode 0xD _ (by decide)]
    simp only [bind, Except.bind, modeForBits, wrapF]
    -- the subset indicator 0001 (GB 2312)
    rw [readBitsF_natToBits_lt 4 1 _ (by omega) (by omega) (by decide)]
    simp only [countBits_hanzi]
    rw [readBitsF_natToBits_lt _ _ _ c1 c32 hn]
    simp only [decode13_packHanzi ps hc rest, if_true, step]
  | eci val =>
    obtain ⟨e, he⟩ := Option.isSome_iff_exists.mp hc.2
    simp only [Item.bits, List.append_assoc]
    rw [parseLoop_eci reg ver hint fuel st _ val rest (parseECI_eciBits val (by have := hc.1; omega) rest), he]
    simp only [hc.1, if_true, step, he]
  | fnc1First =>
    conv => lhs; unfold parseLoop
    simp only [Item.bits]
    rw [if_neg (mode_bits_length _ _), readBitsF_mode 5 _ (by decide)]
    simp only [bind, Except.bind, modeForBits, wrapF, step]
  | fnc1Second =>
    conv => lhs; unfold parseLoop
    simp only [Item.bits]
    rw [if_neg (mode_bits_length _ _), readBitsF_mode 9 _ (by decide)]
    simp only [bind, Except.bind, modeForBits, wrapF, step]
  | sa q p =>
    conv => lhs; unfold parseLoop
    simp only [Item.bits, List.append_assoc]
    rw [if_neg (mode_bits_length _ _), readBitsF_mode 3 _ (by decide)]
    simp only [bind, Except.bind, modeForBits, wrapF]
    rw [readBitsF_natToBits_lt 8 q _ (by omega) (by omega) (by have := hc.1; omega)]
    simp only []
    rw [readBitsF_natToBits_lt 8 p _ (by omega) (by omega) (by have := hc.2; omega)]
    simp only [step]

/-- one round of the parser on a Hanzi segment packed as in GB/T 18284 (mode 1101, subset 0001,
    count, 13 bits per character) appends exactly the GB 2312 byte pairs, labelled with the GB 2312 decoder of the
    library (registry name GB18030), and leaves the rest of the stream — for every version and count -/
theorem hanzi_segment_inv (reg : Registry) (ver : Nat) (hint : Hint) (fuel : Nat) (st : PSt)
    (ps : List (Nat × Nat)) (hp : ∀ p ∈ ps, hanziPairOK p) (hlen : ps.length < 2 ^ countWidth 3 ver)
    (rest : List Bool) :
    parseLoop reg ver hint (fuel + 1) st (Item.bits ver (.hanzi ps) ++ rest) =
      parseLoop reg ver hint fuel
        { st with segs := st.segs ++ [.text (.named "GB18030") (ps.flatMap (fun p => [p.1, p.2]))] } rest :=
  parseLoop_item reg ver hint (fun _ => .sjis) fuel st (.hanzi ps) hp hlen (fun _ h => nomatch h) rest

theorem step_eci_isSome (reg : Registry) (g : List Nat → Charset) (st : PSt) (it : Item) (hc : it.Content reg) :
    guessed (step reg g st it).eci.isSome = guessed (match it with | .eci _ => true | _ => st.eci.isSome) := by
  cases it <;> simp only [step]
  · rw [hc.2]

/-- **the segment loop over a whole item list** (induction; the parser state between segments is the invariant) -/
theorem parseLoop_items (reg : Registry) (ver : Nat) (hint : Hint) (g : List Nat → Charset) :
    ∀ (items : List Item) (fuel : Nat) (st : PSt) (rest : List Bool),
      (∀ it ∈ items, it.Content reg ∧ it.CountOK ver) →
      (∀ bs ∈ guessed st.eci.isSome items, guessCharset reg bs hint = .ok (g bs)) →
      parseLoop reg ver hint (fuel + items.length) st (bitsOf ver items ++ rest) =
        parseLoop reg ver hint fuel (run reg g st items) rest
  | [], fuel, st, rest, _, _ => rfl
  | it :: items, fuel, st, rest, hok, hg => by
    have ⟨hc, hn⟩ := hok it List.mem_cons_self
    rw [List.length_cons, ← Nat.add_assoc, bitsOf, List.append_assoc,
      parseLoop_item reg ver hint g (fuel + items.length) st it hc hn ?_ (bitsOf ver items ++ rest)]
    · unfold run
      apply parseLoop_items reg ver hint g items fuel _ rest (fun i hi => hok i (List.mem_cons_of_mem _ hi))
      rw [step_eci_isSome reg g st it hc]
      intro bs hbs
      apply hg bs
      cases it <;> simp only [guessed] at hbs ⊢ <;> first | exact hbs | (exact List.mem_append_right _ hbs)
    · intro bs hit he
      subst hit
      apply hg bs
      simp [guessed, he]

theorem Item.bits_length_pos (v : Nat) (it : Item) : 1 ≤ (it.bits v).length := by
  cases it <;> simp [Item.bits, segment] <;> omega

theorem bitsOf_length_ge (v : Nat) : ∀ items : List Item, items.length ≤ (bitsOf v items).length
  | [] => Nat.le_refl _
  | it :: items => by
    have := bitsOf_length_ge v items
    have := Item.bits_length_pos v it
    simp only [bitsOf, List.length_cons, List.length_append]
    omega

theorem bitsOf_append (v : Nat) (a b : List Item) : bitsOf v (a ++ b) = bitsOf v a ++ bitsOf v b := by
  induction a with
  | nil => rfl
  | cons x a ih => simp [bitsOf, ih]

theorem mem_bits_length_le (v : Nat) : ∀ (items : List Item) (it : Item), it ∈ items →
    (it.bits v).length ≤ (bitsOf v items).length
  | x :: items, it, h => by
    simp only [bitsOf, List.length_append]
    rcases List.mem_cons.mp h with rfl | h
    · omega
    · have := mem_bits_length_le v items it h; omega

/-- **whole streams**: items, terminator (full or shortened), padding — the parser returns the meaning of the list -/
theorem parseStream_items (reg : Registry) (ver : Nat) (hint : Hint) (g : List Nat → Charset) (items : List Item)
    (hok : ∀ it ∈ items, it.Content reg ∧ it.CountOK ver)
    (hg : ∀ bs ∈ guessed false items, guessCharset reg bs hint = .ok (g bs))
    (tail : List Bool) (ht : Terminated tail) :
    parseStream reg (bitsOf ver items ++ tail) ver hint = .ok (toParsed (run reg g {} items)) := by
  unfold parseStream
  obtain ⟨f, hf⟩ : ∃ f, (bitsOf ver items ++ tail).length + 1 = (f + 1) + items.length := by
    have := bitsOf_length_ge ver items
    refine ⟨(bitsOf ver items ++ tail).length - items.length, ?_⟩
    rw [List.length_append]; omega
  rw [hf, parseLoop_items reg ver hint g items (f + 1) {} tail hok hg, parseLoop_terminated reg ver hint f _ tail ht]
  rfl

theorem parseStream_item (reg : Registry) (ver : Nat) (hint : Hint) (g : List Nat → Charset) (it : Item)
    (hc : it.Content reg) (hn : it.CountOK ver)
    (hg : ∀ bs, it = .byte bs → guessCharset reg bs hint = .ok (g bs)) (tail : List Bool) (ht : Terminated tail) :
    parseStream reg (it.bits ver ++ tail) ver hint = .ok (toParsed (step reg g {} it)) := by
  have h := parseStream_items reg ver hint g [it]
    (fun i hi => by rcases List.mem_singleton.mp hi with rfl; exact ⟨hc, hn⟩)
    (fun bs hbs => by
      cases it with
      | byte b => rcases List.mem_singleton.mp hbs with rfl; exact hg _ rfl
      | _ => cases hbs) tail ht
  simp only [bitsOf, List.append_nil] at h
  exact h

/-! ### GS1 escaping of alphanumeric data (7.4.8.2) is undone by the parser's FNC1 rule -/

theorem massage_pp (r : List Nat) : fnc1Massage (37 :: 37 :: r) = 37 :: fnc1Massage r := by
  simp [fnc1Massage]

theorem massage_p_nil : fnc1Massage [37] = [0x1D] := by decide

theorem massage_p (y : Nat) (r : List Nat) (hy : y ≠ 37) : fnc1Massage (37 :: y :: r) = 0x1D :: fnc1Massage (y :: r) := by
  rw [fnc1Massage]
  intro rest h
  exact hy (by simpa using (List.cons.inj h).1)

theorem massage_other (c : Nat) (r : List Nat) (hc : c ≠ 37) : fnc1Massage (c :: r) = c :: fnc1Massage r := by
  rw [fnc1Massage]
  · intros; exact hc ‹c = 37›
  · intros; exact hc ‹c = 37›

theorem fnc1Massage_gs1Escape : ∀ (xs : List Nat), gs1Clean xs = true → fnc1Massage (gs1Escape xs) = xs
  | [], _ => rfl
  | [x], _ => by
    unfold gs1Escape
    by_cases hg : x = 0x1D
    · subst hg; decide
    · by_cases hp : x = 37
      · subst hp; decide
      · simp only [hg, hp, if_false, gs1Escape, List.append_nil]
        rw [massage_other x [] hp]; rfl
  | x :: y :: rest, h => by
    have hcl : gs1Clean (y :: rest) = true := by
      unfold gs1Clean at h; simp only [Bool.and_eq_true] at h; exact h.2
    have ih := fnc1Massage_gs1Escape (y :: rest) hcl
    have hxy : ¬ (x = 0x1D ∧ (y = 0x1D ∨ y = 37)) := by
      unfold gs1Clean at h
      simp only [Bool.and_eq_true, Bool.not_eq_true', Bool.and_eq_false_iff, Bool.or_eq_false_iff, beq_eq_false_iff_ne,
        ne_eq] at h
      intro ⟨a, b⟩
      rcases h.1 with h1 | ⟨h2, h3⟩
      · exact h1 a
      · rcases b with b | b
        · exact h2 b
        · exact h3 b
    rw [gs1Escape]
    by_cases hg : x = 0x1D
    · subst hg
      have hy1 : y ≠ 0x1D := fun e => hxy ⟨rfl, Or.inl e⟩
      have hy2 : y ≠ 37 := fun e => hxy ⟨rfl, Or.inr e⟩
      simp only [if_true, List.cons_append, List.nil_append]
      have hstart : gs1Escape (y :: rest) = y :: gs1Escape rest := by
        rw [gs1Escape]; simp [hy1, hy2]
      rw [hstart, massage_p y _ hy2, ← hstart, ih]
    · by_cases hp : x = 37
      · subst hp
        simp only [hg, if_false, if_true, List.cons_append, List.nil_append]
        rw [massage_pp, ih]
      · simp only [hg, hp, if_false, List.cons_append, List.nil_append]
        rw [massage_other x _ hp, ih]

end Gzx.QRMulti
