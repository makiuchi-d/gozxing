/-
  C08: `Gzx.DMProofs.sizeCheck` per size.  The kernel runs the Annex F placement program once over the mapping matrix of
  the size (`placeCheck`); the decoder's half of `sizeCheck` follows from `read_eq_place` (Proofs/DMReadOrder.lean).
  Heavy for the kernel (about 2 ms per module of the matrix); split over several files so that lake checks them side by side.
  `maxRecDepth`: the kernel's recursion grows with the run; from 64x64 modules on the default depth is too small.
-/
import Gzx.Proofs.DMReadOrder
namespace Gzx.DMProofs

set_option maxRecDepth 10000000 in
/-- symbol 132x132: mapping matrix 120x120, 1800 codewords -/
theorem check_132x132 : sizeCheck 120 120 1800 = true :=
  sizeCheck_of_placeCheck (by decide +kernel)

end Gzx.DMProofs
