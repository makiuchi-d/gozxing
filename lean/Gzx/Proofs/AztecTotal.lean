/-
  Panic-freedom of the Aztec decoder model on ARBITRARY input (feeds property C06):
  `extractBits` on every matrix at least as large as the symbol (every layer count), `correctBits` with the C04
  Reed-Solomon decoder on every bit stream, `getEncodedData` on every bit string (its loop terminates: every
  iteration consumes at least four bits), and their composition `Decoder.Decode`.
-/
import Gzx.Proofs.AztecFull
import Gzx.Proofs.Total
import Gzx.Proofs.Sat
namespace Gzx.AztecTotal
open Gzx Gzx.Det Gzx.AztecDecoder Gzx.AztecRS Gzx.AztecHL

/-! ### extractBits -/

theorem alignmentMap_lt (layers : Nat) (compact : Bool) (idx : Nat)
    (h : idx < baseMatrixSize layers compact) :
    alignmentMap layers compact idx < matrixSize layers compact := by
  rw [AztecLayout.matrixSize_eq]
  exact (AztecLayout.alignmentMap_spec compact layers idx h).1

theorem mem_jk (rowSize : Nat) (p : Nat × Nat)
    (h : p ∈ (List.range rowSize).flatMap (fun j => [(j, 0), (j, 1)])) : p.1 < rowSize ∧ p.2 ≤ 1 := by
  simp only [List.mem_flatMap, List.mem_range, List.mem_cons, List.not_mem_nil, or_false] at h
  obtain ⟨j, hj, rfl | rfl⟩ := h <;> exact ⟨hj, by omega⟩

theorem layerPositions_lt (layers : Nat) (compact : Bool) (i : Nat) (hi : i < layers) :
    ∀ p ∈ layerPositions layers compact i,
      p.1 < matrixSize layers compact ∧ p.2 < matrixSize layers compact := by
  intro p hp
  simp only [layerPositions, List.mem_append, List.mem_map] at hp
  have hb : baseMatrixSize layers compact = layers * 4 + (if compact then 11 else 14) := rfl
  have key : ∀ q : Nat × Nat, q ∈ (List.range ((layers - i) * 4 + (if compact then 9 else 12))).flatMap
      (fun j => [(j, 0), (j, 1)]) →
      i * 2 + q.2 < baseMatrixSize layers compact ∧ i * 2 + q.1 < baseMatrixSize layers compact ∧
      baseMatrixSize layers compact - 1 - i * 2 - q.2 < baseMatrixSize layers compact ∧
      baseMatrixSize layers compact - 1 - i * 2 - q.1 < baseMatrixSize layers compact := by
    intro q hq
    obtain ⟨h1, h2⟩ := mem_jk _ q hq
    rw [hb]
    cases compact <;> simp at h1 ⊢ <;> omega
  rcases hp with ((⟨q, hq, rfl⟩ | ⟨q, hq, rfl⟩) | ⟨q, hq, rfl⟩) | ⟨q, hq, rfl⟩ <;>
    obtain ⟨k1, k2, k3, k4⟩ := key q hq <;>
    exact ⟨alignmentMap_lt _ _ _ (by assumption), alignmentMap_lt _ _ _ (by assumption)⟩

theorem readPositions_lt (layers : Nat) (compact : Bool) :
    ∀ p ∈ readPositions layers compact,
      p.1 < matrixSize layers compact ∧ p.2 < matrixSize layers compact := by
  intro p hp
  simp only [readPositions, List.mem_flatMap, List.mem_range] at hp
  obtain ⟨i, hi, hp⟩ := hp
  exact layerPositions_lt layers compact i hi p hp

def WellSized (m : Matrix) (n : Nat) : Prop := n ≤ m.length ∧ ∀ row ∈ m, n ≤ row.length

theorem getBit_sat {E : Fault → Prop} (m : Matrix) (n x y : Nat) (hm : WellSized m n) (hx : x < n) (hy : y < n) :
    Sat E (fun _ => True) (getBit m x y) := by
  unfold getBit
  have hy' : y < m.length := Nat.lt_of_lt_of_le hy hm.1
  rw [List.getElem?_eq_getElem hy']
  have hx' : x < m[y].length := Nat.lt_of_lt_of_le hx (hm.2 m[y] (List.getElem_mem hy'))
  simp only [List.getElem?_eq_getElem hx']
  trivial

theorem readAll_sat {E : Fault → Prop} (m : Matrix) (n : Nat) (hm : WellSized m n) : ∀ (ps : List (Nat × Nat)),
    (∀ p ∈ ps, p.1 < n ∧ p.2 < n) → Sat E (fun _ => True) (readAll m ps)
  | [], _ => Sat.ok trivial
  | p :: ps, h => by
    have hp := h p List.mem_cons_self
    have first := getBit_sat (E := E) m n p.1 p.2 hm hp.1 hp.2
    have rest := readAll_sat (E := E) m n hm ps fun q hq => h q (List.mem_cons_of_mem _ hq)
    unfold readAll
    exact Sat.step _ first (fun _ he => he) fun b _ => Sat.step _ rest (fun _ he => he) fun bs _ => trivial

theorem extractBits_sat {E : Fault → Prop} (m : Matrix) (layers : Nat) (compact : Bool)
    (hm : WellSized m (matrixSize layers compact)) : Sat E (fun _ => True) (extractBits m layers compact) :=
  readAll_sat m _ hm _ (readPositions_lt layers compact)

/-! ### correctBits -/

theorem unstuff_sat (w : Nat) : ∀ (ds : List Nat), Sat (Only .format) (fun _ => True) (unstuff w ds)
  | [] => Sat.ok trivial
  | d :: ds => by
    unfold unstuff
    exact Sat.ite (fun _ => Sat.error rfl) fun _ => Sat.then (unstuff_sat w ds) fun rest =>
      Sat.ite (fun _ => Sat.pure trivial) fun _ => Sat.pure trivial

theorem rsModel_nil (w r : Nat) : rsModel w [] r = .error .checksum := rfl

/-- `correctBits` with the C04 Reed-Solomon decoder never panics (in particular the division
    `100 * … / numCodewords` is never reached with zero code words: the Reed-Solomon decoder rejects the empty
    word first): corrected bits or FormatException, for every stream, layer count and data-word count -/
theorem correctBits_sat (raw : List Bool) (layers nData : Nat) :
    Sat (Only .format) (fun _ => True) (correctBits rsModel raw layers nData) := by
  unfold correctBits
  simp only
  refine Sat.ite (fun _ => Sat.error rfl) fun _ => ?_
  split
  · exact Sat.error rfl
  · rename_i corrected hrs
    refine Sat.then (unstuff_sat (codewordSize layers) (corrected.take nData)) fun bits =>
      Sat.ite (fun h0 => ?_) fun _ => Sat.pure trivial
    rw [h0] at hrs
    simp only [chunkWords, rsModel_nil] at hrs
    cases hrs

/-! ### getEncodedData -/

theorem loop_sat (T : Tables) (reg : Nat → Bool) : ∀ (fuel : Nat) (c : Ctl) (bits : List Bool),
    bits.length < fuel → Sat (Only .format) (fun _ => True) (loop T reg fuel c bits)
  | 0, _, _, h => by omega
  | fuel + 1, c, bits, h => by
    unfold loop
    refine Sat.ite (fun _ => Sat.ok trivial) fun _ => ?_
    rcases step_total T reg c bits with ⟨c', rest, ev, hs, hlt⟩ | hs | hs <;> rw [hs]
    · exact Sat.map (loop_sat T reg fuel c' rest (by omega))
    · exact Sat.ok trivial
    · exact Sat.error rfl

/-- `getEncodedData` / `HighLevelDecode` on EVERY bit string and every table set: segments or FormatException
    (no panic, and the loop's fuel `len + 1` is never exhausted) -/
theorem getEncodedData_sat (T : Tables) (reg : Nat → Bool) (bits : List Bool) :
    Sat (Only .format) (fun _ => True) (getEncodedData T reg bits) :=
  Sat.map (loop_sat T reg (bits.length + 1) Ctl.init bits (Nat.lt_succ_self _))

/-! ### the Reed-Solomon call inside correctBits -/

/-- on the words `correctBits` cuts from a stream, the C04 decoder returns a word list or a
    `ReedSolomonException` (`.checksum`) — never a panic, never fuel exhaustion — as soon as the number of code
    words fits the field (which it does for every layer count up to 32: `AztecFull.capacity_le`).  So when
    `correctBits` maps a failure of this call to FormatException it hides no panic. -/
theorem rs_on_received_total (raw : List Bool) (layers nData : Nat)
    (hpos : 0 < raw.length / codewordSize layers)
    (hN : raw.length / codewordSize layers ≤ 2 ^ codewordSize layers - 1) :
    (∃ ws, rsModel (codewordSize layers) (receivedWords layers raw)
        (raw.length / codewordSize layers - nData) = .ok ws) ∨
      rsModel (codewordSize layers) (receivedWords layers raw)
        (raw.length / codewordSize layers - nData) = .error .checksum := by
  have hW : WordOK (codewordSize layers) := AztecFull.wordOK_wordSize layers
  have hlen : (receivedWords layers raw).length = raw.length / codewordSize layers := by
    unfold receivedWords; simp only [AztecFull.chunkWords_length]
  have hne : receivedWords layers raw ≠ [] := by
    intro h; rw [h] at hlen; simp at hlen; omega
  have hin : Gzx.Properties.C04.InField (gfOf (codewordSize layers)) (receivedWords layers raw) := by
    intro x hx
    rw [gfOf_size _ hW]
    unfold receivedWords at hx
    exact AztecFull.chunkWords_lt _ _ _ x hx
  unfold rsModel
  rcases Gzx.Properties.C04.rs_decode_total (gfOf (codewordSize layers)) (gfOf_ok _ hW)
    (receivedWords layers raw) (raw.length / codewordSize layers - nData) hne hin
    (by rw [gfOf_size _ hW, gfOf_base _ hW]; omega) with ⟨w', h1, _, _⟩ | h1
  · exact Or.inl ⟨w', h1⟩
  · exact Or.inr h1

/-! ### Decode -/

/-- everything after `extractBits` -/
theorem decode_tail_sat (T : Tables) (reg : Nat → Bool) (raw : List Bool) (nData layers : Nat) :
    Sat (Only .format) (fun _ => True) (do
      let c ← correctBits rsModel raw layers nData
      let segs ← getEncodedData T reg c.bits
      (pure ⟨segs, toByteArray c.bits, c.bits.length, c.ecLevel⟩ : Res Decoded)) :=
  Sat.then (correctBits_sat raw layers nData) fun c => Sat.then (getEncodedData_sat T reg c.bits) fun _ => Sat.pure trivial

theorem decode_sat (T : Tables) (reg : Nat → Bool) (m : Matrix) (compact : Bool) (nData layers : Nat)
    (hm : WellSized m (matrixSize layers compact)) :
    Sat (Only .format) (fun _ => True) (decode T reg rsModel m compact nData layers) :=
  Sat.then (extractBits_sat m layers compact hm) fun raw => decode_tail_sat T reg raw nData layers

end Gzx.AztecTotal
