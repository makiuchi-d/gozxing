/-
  Lemmas for the pure-barcode models (Gzx/Model/PureBits.lean): corner scans, the read-off loops, the
  module-size walks.
-/
import Gzx.Model.PureBits
import Gzx.Proofs.DetWalk
import Gzx.Proofs.ExceptList
namespace Gzx.Det.Pure
open Gzx Gzx.Det

/-! ## arithmetic -/

theorem tdiv_pos_spec (a b : Int) (hb : 0 < b) (h : 0 < Int.tdiv a b) : 0 < a ∧ Int.tdiv a b * b ≤ a := by
  by_cases ha : 0 ≤ a
  · rw [Int.tdiv_eq_ediv_of_nonneg ha] at h ⊢
    have := Int.ediv_mul_le a (b := b) (by omega)
    refine ⟨?_, this⟩
    by_cases h0 : a = 0
    · subst h0; simp at h
    · omega
  · exfalso
    have h1 : a = -(-a) := by omega
    rw [h1, Int.neg_tdiv] at h
    have := Int.tdiv_nonneg (a := -a) (b := b) (by omega) (by omega)
    omega

/-! ## GetTopLeftOnBit / GetBottomRightOnBit -/

theorem rowFirst_spec (p : Int → Bool) : ∀ (n : Nat) (x r : Int), rowFirst p n x = some r →
    x ≤ r ∧ r < x + n ∧ p r = true
  | 0, _, _, h => by simp [rowFirst] at h
  | n + 1, x, r, h => by
    unfold rowFirst at h
    split at h
    · cases h; exact ⟨Int.le_refl _, by omega, ‹_›⟩
    · have := rowFirst_spec p n (x + 1) r h
      exact ⟨by omega, by omega, this.2.2⟩

theorem rowLast_spec (p : Int → Bool) : ∀ (n : Nat) (x r : Int), rowLast p n x = some r →
    r ≤ x ∧ x - n < r ∧ p r = true
  | 0, _, _, h => by simp [rowLast] at h
  | n + 1, x, r, h => by
    unfold rowLast at h
    split at h
    · cases h; exact ⟨Int.le_refl _, by omega, ‹_›⟩
    · have := rowLast_spec p n (x - 1) r h
      exact ⟨by omega, by omega, this.2.2⟩

/-- a cell the corner scans can return: inside the image and set -/
def BlackInside (img : Img) (p : Int × Int) : Prop := img.inside p.1 p.2 ∧ img.pix p.1 p.2 = true

theorem topLeftFrom_spec (img : Img) : ∀ (n : Nat) (y : Int) (p : Int × Int), 0 ≤ y → y + n ≤ img.h →
    topLeftFrom img n y = some p → BlackInside img p
  | 0, _, _, _, _, h => by simp [topLeftFrom] at h
  | n + 1, y, p, hy, hn, h => by
    unfold topLeftFrom at h
    split at h
    · rename_i x hr
      cases h
      have := rowFirst_spec _ _ _ _ hr
      exact ⟨⟨by omega, by omega, by omega, by omega⟩, this.2.2⟩
    · exact topLeftFrom_spec img n (y + 1) p (by omega) (by omega) h

theorem topLeft_spec (img : Img) (p : Int × Int) (h : topLeft img = some p) : BlackInside img p := by
  unfold topLeft at h
  by_cases hh : 0 ≤ img.h
  · exact topLeftFrom_spec img _ 0 p (Int.le_refl _) (by omega) h
  · have : img.h.toNat = 0 := by omega
    rw [this] at h; simp [topLeftFrom] at h

theorem bottomRightFrom_spec (img : Img) : ∀ (n : Nat) (y : Int) (p : Int × Int), y < img.h → (n : Int) ≤ y + 1 →
    bottomRightFrom img n y = some p → BlackInside img p
  | 0, _, _, _, _, h => by simp [bottomRightFrom] at h
  | n + 1, y, p, hy, hn, h => by
    unfold bottomRightFrom at h
    split at h
    · rename_i x hr
      cases h
      have := rowLast_spec _ _ _ _ hr
      exact ⟨⟨by omega, by omega, by omega, by omega⟩, this.2.2⟩
    · exact bottomRightFrom_spec img n (y - 1) p (by omega) (by omega) h

theorem bottomRight_spec (img : Img) (p : Int × Int) (h : bottomRight img = some p) : BlackInside img p := by
  unfold bottomRight at h
  by_cases hh : 0 ≤ img.h
  · exact bottomRightFrom_spec img _ (img.h - 1) p (by omega) (by omega) h
  · have : img.h.toNat = 0 := by omega
    rw [this] at h; simp [bottomRightFrom] at h

/-! ## the read-off loops -/

/-- what `extractPureBits` hands to the decoder: a matrix with positive dimensions whose `rows` are
    exactly `h` rows of `w` cells -/
def Bits.WF (b : Bits) : Prop :=
  1 ≤ b.w ∧ 1 ≤ b.h ∧ b.rows.length = b.h.toNat ∧ ∀ row ∈ b.rows, row.length = b.w.toNat

theorem setBit_ok (w h x y : Int) (hx : 0 ≤ x ∧ x < w) (hy : 0 ≤ y ∧ y < h) : setBit (some (w, h)) x y = .ok () := by
  simp only [setBit]
  rw [if_neg (by omega)]

theorem newBitMatrix_pos (w h : Int) (hw : 1 ≤ w) (hh : 1 ≤ h) : newBitMatrix w h = some (w, h) := by
  unfold newBitMatrix
  rw [if_neg (by omega)]

/-! Inside the allocated matrix `bits.Set` cannot fault, so the read-off loops are the reader mapped over the sample
    points; what the loops return, and that they do not fault, are then facts about `mapME`. -/

theorem sampleRow_mapME {rd : Reader} (w h : Int) (xAt : Int → Int) (yPix y : Int) (hy : 0 ≤ y ∧ y < h) :
    ∀ (n : Nat) (x : Int), 0 ≤ x → x + n ≤ w →
      sampleRow rd (some (w, h)) xAt yPix y n x = mapME (fun i : Nat => rd (xAt (x + i)) yPix) (List.range n)
  | 0, _, _, _ => rfl
  | n + 1, x, hx, hn => by
    rw [sampleRow, sampleRow_mapME w h xAt yPix y hy n (x + 1) (by omega) (by omega), List.range_succ_eq_map,
      mapME, mapME_map, Int.natCast_zero, Int.add_zero]
    simp only [Nat.succ_eq_add_one, Int.natCast_add, Int.natCast_one, Int.add_assoc, Int.add_comm 1]
    cases rd (xAt x) yPix with
    | error e => rfl
    | ok b =>
      cases b with
      | true =>
        simp only [setBit_ok w h x y ⟨hx, by omega⟩ hy, bind, Except.bind, if_true]
        cases mapME (fun i : Nat => rd (xAt (x + (↑i + 1))) yPix) (List.range n) <;> rfl
      | false =>
        simp only [bind, Except.bind, Bool.false_eq_true, if_false]
        cases mapME (fun i : Nat => rd (xAt (x + (↑i + 1))) yPix) (List.range n) <;> rfl

theorem sampleRows_mapME {rd : Reader} (w h : Int) (xAt yAt : Int → Int) (hw : 0 ≤ w) :
    ∀ (n : Nat) (y : Int), 0 ≤ y → y + n ≤ h →
      sampleRows rd (some (w, h)) w xAt yAt n y =
        mapME (fun j : Nat => mapME (fun i : Nat => rd (xAt i) (yAt (y + j))) (List.range w.toNat)) (List.range n)
  | 0, _, _, _ => rfl
  | n + 1, y, hy, hn => by
    rw [sampleRows, sampleRow_mapME w h xAt (yAt y) y ⟨hy, by omega⟩ w.toNat 0 (Int.le_refl _) (by omega),
      sampleRows_mapME w h xAt yAt hw n (y + 1) (by omega) (by omega), List.range_succ_eq_map, mapME, mapME_map,
      Int.natCast_zero, Int.add_zero]
    simp only [Nat.succ_eq_add_one, Int.natCast_add, Int.natCast_one, Int.add_assoc, Int.add_comm 1, Int.zero_add]
    cases mapME (fun i : Nat => rd (xAt i) (yAt y)) (List.range w.toNat) with
    | error e => rfl
    | ok row =>
      simp only [bind, Except.bind]
      cases mapME (fun j : Nat => mapME (fun i : Nat => rd (xAt ↑i) (yAt (y + (↑j + 1)))) (List.range w.toNat))
        (List.range n) <;> rfl

theorem readOff_mapME {rd : Reader} (mw mh : Int) (xAt yAt : Int → Int) (hw : 1 ≤ mw) (hh : 1 ≤ mh) :
    readOff rd mw mh xAt yAt =
      (mapME (fun j : Nat => mapME (fun i : Nat => rd (xAt i) (yAt j)) (List.range mw.toNat)) (List.range mh.toNat)).map
        fun rows => { w := mw, h := mh, rows := rows } := by
  unfold readOff
  simp only [newBitMatrix_pos mw mh hw hh,
    sampleRows_mapME mw mh xAt yAt (by omega) mh.toNat 0 (Int.le_refl _) (by omega), Int.zero_add]
  cases mapME (fun j : Nat => mapME (fun i : Nat => rd (xAt i) (yAt j)) (List.range mw.toNat)) (List.range mh.toNat) <;> rfl

/-- the read-off of a `mw x mh` matrix (both ≥ 1) whose sampled cells the reader answers: a well-formed
    matrix; `NewBitMatrix` does not fail, every `Set` is inside -/
theorem readOff_sat {rd : Reader} {E : Fault → Prop} (mw mh : Int) (xAt yAt : Int → Int) (hw : 1 ≤ mw) (hh : 1 ≤ mh)
    (hrd : ∀ x y, 0 ≤ x → x < mw → 0 ≤ y → y < mh → Sat E (fun _ => True) (rd (xAt x) (yAt y))) :
    Sat E (fun b => b.WF ∧ b.w = mw ∧ b.h = mh) (readOff rd mw mh xAt yAt) := by
  have hrows := Sat.mapME (E := E) (P := fun row : List Bool => row.length = mw.toNat)
    (f := fun j : Nat => mapME (fun i : Nat => rd (xAt i) (yAt j)) (List.range mw.toNat)) (l := List.range mh.toNat)
    fun j hj => Sat.mono (Sat.mapME fun i hi =>
        hrd i j (by omega) (by have := List.mem_range.mp hi; omega) (by omega) (by have := List.mem_range.mp hj; omega))
      (fun _ h => h) fun row h => by rw [h.1, List.length_range]
  rw [readOff_mapME mw mh xAt yAt hw hh]
  cases hm : mapME (fun j : Nat => mapME (fun i : Nat => rd (xAt i) (yAt j)) (List.range mw.toNat))
      (List.range mh.toNat) with
  | error e => rw [hm] at hrows; exact hrows
  | ok rows =>
    rw [hm] at hrows
    exact ⟨⟨hw, hh, by rw [hrows.1, List.length_range], hrows.2⟩, rfl, rfl⟩

/-! ## Data Matrix -/
namespace DM

/-- `moduleSize` from a cell inside the image, reader answering inside the image: the walk along the
    row stays inside; the result is `1 ≤ ms ≤ width - left - 1`, or NotFound -/
theorem moduleSize_sat {rd : Reader} (img : Img) (hrd : RdOK rd img.inside) (left top : Int)
    (hin : img.inside left top) :
    Sat OnlyNotFound (fun ms => 1 ≤ ms ∧ left + ms < img.w) (moduleSize rd img.w left top) := by
  obtain ⟨h1, h2, h3, h4⟩ := hin
  unfold moduleSize
  refine Sat.bind (walk_up_sat (E := OnlyNotFound) (fun x => (x, top)) true (fun _ => true) img.w left 0
    (fun p hp1 hp2 => hrd.sat ⟨by omega, hp2, h3, h4⟩)) ?_
  intro r ⟨hr1, hr2, _⟩
  have := hr2 (by omega)
  simp only []
  by_cases hx : r.1 = img.w
  · simp only [hx, if_true]; exact rfl
  · simp only [hx, if_false]
    by_cases hm : r.1 - left = 0
    · simp only [hm, if_true]; exact rfl
    · simp only [hm, if_false]
      exact Sat.ok ⟨by omega, by omega⟩

/-- one axis of the sampling grid: `s .. r` inside `0 .. W-1`, module size `ms ≥ 1`; sample `x` of the
    `(r - s + 1) / ms` samples, taken half a module in, lies inside -/
theorem axis_inside {W s r ms x : Int} (hs : 0 ≤ s) (hr : r < W) (hms : 1 ≤ ms)
    (hq : 0 < Int.tdiv (r - s + 1) ms) (hx0 : 0 ≤ x) (hx1 : x < Int.tdiv (r - s + 1) ms) :
    0 ≤ s + Int.tdiv ms 2 + x * ms ∧ s + Int.tdiv ms 2 + x * ms < W := by
  have hw := tdiv_pos_spec (r - s + 1) ms (by omega) hq
  have hn0 : 0 ≤ Int.tdiv ms 2 := Int.tdiv_nonneg (by omega) (by decide)
  have hn1 : Int.tdiv ms 2 + 1 ≤ ms := by
    rw [Int.tdiv_eq_ediv_of_nonneg (by omega)]; omega
  have e1 : x * ms ≤ (Int.tdiv (r - s + 1) ms - 1) * ms := Int.mul_le_mul_of_nonneg_right (by omega) (by omega)
  have e3 : 0 ≤ x * ms := Int.mul_nonneg hx0 (by omega)
  rw [Int.sub_mul] at e1
  omega

theorem extractPureBits_sat {rd : Reader} (img : Img) (hrd : RdOK rd img.inside) :
    Sat OnlyNotFound Bits.WF (extractPureBits rd img) := by
  unfold extractPureBits
  cases hlt : topLeft img with
  | none => exact rfl
  | some lt =>
    cases hrb : bottomRight img with
    | none => exact rfl
    | some rb =>
      simp only []
      obtain ⟨⟨l1, l2, l3, l4⟩, _⟩ := topLeft_spec img lt hlt
      obtain ⟨⟨r1, r2, r3, r4⟩, _⟩ := bottomRight_spec img rb hrb
      refine Sat.bind (moduleSize_sat img hrd lt.1 lt.2 ⟨l1, l2, l3, l4⟩) ?_
      intro ms ⟨hms1, hms2⟩
      have hne : ms ≠ 0 := by omega
      have hdims : dims lt rb ms = .ok (lt.2, rb.2, lt.1, rb.1, Int.tdiv (rb.1 - lt.1 + 1) ms, Int.tdiv (rb.2 - lt.2 + 1) ms) := by
        simp [dims, goDiv, hne, bind, Except.bind, pure, Except.pure]
      rw [hdims]
      show Sat OnlyNotFound Bits.WF
        (if Int.tdiv (rb.1 - lt.1 + 1) ms ≤ 0 ∨ Int.tdiv (rb.2 - lt.2 + 1) ms ≤ 0 then .error .notFound
         else _)
      by_cases hd : Int.tdiv (rb.1 - lt.1 + 1) ms ≤ 0 ∨ Int.tdiv (rb.2 - lt.2 + 1) ms ≤ 0
      · simp only [hd, if_true]; exact rfl
      · simp only [hd, if_false, nudged]
        refine Sat.mono (readOff_sat _ _ _ _ (by omega) (by omega) ?_) (fun _ h => h) (fun _ h => h.1)
        intro x y hx0 hx1 hy0 hy1
        have ax := axis_inside l1 r2 hms1 (by omega) hx0 hx1
        have ay := axis_inside l3 r4 hms1 (by omega) hy0 hy1
        exact hrd.sat ⟨ax.1, ax.2, ay.1, ay.2⟩

end DM

/-! ## QR -/
namespace QR

theorem msLoop_sat {rd : Reader} {E : Fault → Prop} (width height left top : Int)
    (hrd : ∀ k, 0 ≤ k → left + k < width → top + k < height → Sat E (fun _ => True) (rd (left + k) (top + k))) :
    ∀ (n : Nat) (k : Int) (inBlack : Bool) (tr : Int), 0 ≤ k → (width - left - k).toNat < n →
      Sat E (fun r => k ≤ r ∧ (left + k ≤ width → left + r ≤ width) ∧ (top + k ≤ height → top + r ≤ height))
        (msLoop rd width height left top n k inBlack tr) := by
  intro n
  induction n with
  | zero => intro k _ _ _ h; exact absurd h (Nat.not_lt_zero _)
  | succ n ih =>
    intro k inBlack tr hk hn
    unfold msLoop
    by_cases hc : left + k < width ∧ top + k < height
    · simp only [hc, and_self, if_true]
      refine Sat.then (hrd k hk hc.1 hc.2) ?_
      intro b
      have step : ∀ ib t, Sat E (fun r => k ≤ r ∧ (left + k ≤ width → left + r ≤ width) ∧ (top + k ≤ height → top + r ≤ height))
          (msLoop rd width height left top n (k + 1) ib t) := by
        intro ib t
        refine Sat.mono (ih (k + 1) ib t (by omega) (by omega)) (fun _ h => h) ?_
        intro r ⟨h1, h2, h3⟩
        exact ⟨by omega, fun _ => h2 (by omega), fun _ => h3 (by omega)⟩
      by_cases hb : (inBlack != b) = true
      · simp only [hb, if_true]
        by_cases h5 : tr + 1 = 5
        · simp only [h5, if_true]
          exact Sat.ok ⟨Int.le_refl _, fun h => h, fun h => h⟩
        · simp only [h5, if_false]
          exact step _ _
      · simp only [hb]
        exact step _ _
    · simp only [hc, if_false]
      exact Sat.ok ⟨Int.le_refl _, fun h => h, fun h => h⟩

/-- `moduleSize` from a start with `left < width ∧ top < height`: NotFound or `float64(k)/7.0` where the
    walk ended `k ≥ 0` cells down the diagonal, still inside `x < width ∧ y < height`; the walk reads
    only cells `(left + k, top + k)` with `left + k < width ∧ top + k < height` -/
theorem moduleSize_sat {F : Type} (o : FOps F) {rd : Reader} (width height left top : Int)
    (hin : left < width ∧ top < height)
    (hrd : ∀ k, 0 ≤ k → left + k < width → top + k < height → Sat OnlyNotFound (fun _ => True) (rd (left + k) (top + k))) :
    Sat OnlyNotFound (fun r => r.1 = o.div (o.ofInt r.2) (o.ofInt 7) ∧ 0 ≤ r.2 ∧ left + r.2 < width ∧ top + r.2 < height)
      (moduleSize o rd width height left top) := by
  unfold moduleSize
  refine Sat.bind (msLoop_sat width height left top hrd _ 0 true 0 (Int.le_refl _) (by omega)) ?_
  intro k ⟨hk, hk1, hk2⟩
  simp only []
  by_cases hx : left + k = width ∨ top + k = height
  · simp only [hx, if_true]; exact rfl
  · simp only [hx, if_false]
    have h1 := hk1 (by omega)
    have h2 := hk2 (by omega)
    exact Sat.ok ⟨by simp, by omega, by omega, by omega⟩

/-- `moduleSize` from ANY start (also outside the image) with a total reader: a float or NotFound -/
theorem moduleSize_total {F : Type} (o : FOps F) {rd : Reader} (hrd : Total rd) (width height left top : Int) :
    Sat OnlyNotFound (fun _ => True) (moduleSize o rd width height left top) := by
  unfold moduleSize
  refine Sat.then (msLoop_sat width height left top (fun _ _ _ _ => hrd.sat trivial) _ 0 true 0
    (Int.le_refl _) (by omega)) ?_
  intro k
  simp only []
  split
  · exact rfl
  · exact Sat.ok trivial

theorem unNudge_sat (start tooFar nudge : Int) :
    Sat OnlyNotFound (fun r => (tooFar ≤ 0 ∧ r = start) ∨ (0 < tooFar ∧ tooFar ≤ nudge ∧ r = start - tooFar))
      (unNudge start tooFar nudge) := by
  unfold unNudge
  by_cases h1 : tooFar > 0
  · rw [if_pos h1]
    by_cases h2 : tooFar > nudge
    · rw [if_pos h2]; exact rfl
    · rw [if_neg h2]; exact Sat.ok (Or.inr ⟨h1, by omega, rfl⟩)
  · rw [if_neg h1]; exact Sat.ok (Or.inl ⟨by omega, rfl⟩)

theorem extractPureBits_total {F : Type} (o : FOps F) {rd : Reader} (hrd : Total rd) (img : Img) :
    Sat OnlyNotFound (fun b => b.WF ∧ b.w = b.h) (extractPureBits o rd img) := by
  unfold extractPureBits
  cases hlt : topLeft img with
  | none => exact rfl
  | some lt =>
    cases hrb : bottomRight img with
    | none => exact rfl
    | some rb =>
      simp only []
      refine Sat.then (moduleSize_total o hrd img.w img.h lt.1 lt.2) ?_
      intro msk
      obtain ⟨ms, k⟩ := msk
      simp only []
      split
      · exact rfl
      · refine Sat.then (P := fun _ => True) (Q := fun (b : Bits) => b.WF ∧ b.w = b.h) (E := OnlyNotFound) (x := (if rb.2 - lt.2 ≠ rb.1 - lt.1 then
            (if lt.1 + (rb.2 - lt.2) ≥ img.w then (.error .notFound : Res Int) else .ok (lt.1 + (rb.2 - lt.2))) else .ok rb.1)) ?_ ?_
        · split
          · split
            · exact rfl
            · exact Sat.ok trivial
          · exact Sat.ok trivial
        · intro right
          split
          · exact rfl
          · split
            · exact rfl
            · rename_i hpos heq
              refine Sat.then (unNudge_sat _ _ _) ?_
              intro left
              refine Sat.then (unNudge_sat _ _ _) ?_
              intro top
              have heq' : o.round (o.div (o.ofInt (rb.2 - lt.2 + 1)) ms) = o.round (o.div (o.ofInt (right - lt.1 + 1)) ms) := by
                simpa using heq
              refine Sat.mono (readOff_sat _ _ _ _ (by omega) (by omega) (fun _ _ _ _ _ _ => hrd.sat trivial)) (fun _ h => h) ?_
              intro b ⟨h1, h2, h3⟩
              exact ⟨h1, by rw [h2, h3, heq']⟩

/-- the float module size for an integer numerator `k`: `float64(k) / 7.0` -/
def msOf {F : Type} (o : FOps F) (k : Int) : F := o.div (o.ofInt k) (o.ofInt 7)

/-- `int(float64(a) * moduleSize)`: the pixel offset of sample `a` -/
def offs {F : Type} (o : FOps F) (k a : Int) : Int := o.toInt (o.mul (o.ofInt a) (msOf o k))

/-- What the in-bounds theorem needs of float64, for images up to `N x N`: the half-module nudge is not
    negative, and the sample offsets `int(float64(a) * moduleSize)` are non-negative and monotone in `a`
    over the index range `0 .. matrixWidth - 1` that the loops use.  IEEE binary64 with Go's conversion
    satisfies this for every `N ≤ 2^31`: all products are below `2^63`, correctly rounded multiplication
    by a positive constant and truncation are monotone.  (An interpretation in which, say, `int` of a
    large product wraps negative does not — and there the sampling loop does read outside the image.) -/
structure PureFloat {F : Type} (o : FOps F) (N : Int) : Prop where
  nudge_nonneg : ∀ k, 1 ≤ k → k ≤ N → 0 ≤ o.toInt (o.div (msOf o k) (o.ofInt 2))
  sample_mono : ∀ k n a b, 1 ≤ k → k ≤ N → 1 ≤ n → n ≤ N → 0 ≤ a → a ≤ b →
    b < o.round (o.div (o.ofInt n) (msOf o k)) → 0 ≤ offs o k a ∧ offs o k a ≤ offs o k b

theorem msLoop_first {rd : Reader} (width height left top : Int) (n : Nat) (hin : left < width ∧ top < height)
    (hstart : rd left top = .ok true) :
    msLoop rd width height left top (n + 1) 0 true 0 = msLoop rd width height left top n 1 true 0 := by
  rw [msLoop]
  simp only [Int.add_zero, hin, and_self, if_true, hstart]
  rfl

/-- `moduleSize` from a BLACK start cell inside the image: the numerator is at least 1 -/
theorem moduleSize_black {F : Type} (o : FOps F) {rd : Reader} (width height left top : Int)
    (hin : left < width ∧ top < height) (hstart : rd left top = .ok true)
    (hrd : ∀ k, 0 ≤ k → left + k < width → top + k < height → Sat OnlyNotFound (fun _ => True) (rd (left + k) (top + k))) :
    Sat OnlyNotFound (fun r => r.1 = msOf o r.2 ∧ 1 ≤ r.2 ∧ left + r.2 < width ∧ top + r.2 < height)
      (moduleSize o rd width height left top) := by
  unfold moduleSize
  have hfuel : (width - left).toNat + 1 = ((width - left).toNat - 1 + 1) + 1 := by omega
  rw [hfuel, msLoop_first width height left top _ hin hstart]
  refine Sat.bind (msLoop_sat width height left top hrd _ 1 true 0 (by omega) (by omega)) ?_
  intro k ⟨hk, hk1, hk2⟩
  simp only []
  by_cases hx : left + k = width ∨ top + k = height
  · simp only [hx, if_true]; exact rfl
  · simp only [hx, if_false]
    have h1 := hk1 (by omega)
    have h2 := hk2 (by omega)
    exact Sat.ok ⟨by simp [msOf], by omega, by omega, by omega⟩

/-- one axis of the sampling grid: start `s` inside, far end `r` inside, the half-module nudge taken back
    by `unNudge` where the last sample would pass `r`; then every sample offset up to the last lands inside -/
theorem axis_inside {W s r nudge offMax off tooFar left : Int} (hs : 0 ≤ s) (hr : r < W) (hn : 0 ≤ nudge)
    (h0 : 0 ≤ off) (hm : off ≤ offMax) (htf : tooFar = s + nudge + offMax - r)
    (hl : (tooFar ≤ 0 ∧ left = s + nudge) ∨ (0 < tooFar ∧ tooFar ≤ nudge ∧ left = s + nudge - tooFar)) :
    0 ≤ left + off ∧ left + off < W := by omega

/-- **no read of `QRCodeReader.extractPureBits` leaves the image**, for a float64 that is `PureFloat`:
    `rd` only has to answer inside the image (e.g. an unguarded `Get`) -/
theorem extractPureBits_in_bounds {F : Type} (o : FOps F) (img : Img) (N : Int) (hN : img.w ≤ N ∧ img.h ≤ N)
    (hf : PureFloat o N) {rd : Reader} (hrd : ∀ x y, img.inside x y → rd x y = .ok (img.pix x y)) :
    Sat OnlyNotFound (fun b => b.WF ∧ b.w = b.h) (extractPureBits o rd img) := by
  have hsat : ∀ x y, img.inside x y → Sat OnlyNotFound (fun _ => True) (rd x y) := by
    intro x y h; rw [hrd x y h]; exact Sat.ok trivial
  unfold extractPureBits
  cases hlt : topLeft img with
  | none => exact rfl
  | some lt =>
    cases hrb : bottomRight img with
    | none => exact rfl
    | some rb =>
      simp only []
      obtain ⟨⟨l1, l2, l3, l4⟩, lpix⟩ := topLeft_spec img lt hlt
      obtain ⟨⟨r1, r2, r3, r4⟩, _⟩ := bottomRight_spec img rb hrb
      refine Sat.bind (moduleSize_black o img.w img.h lt.1 lt.2 ⟨l2, l4⟩ (by rw [hrd _ _ ⟨l1, l2, l3, l4⟩, lpix])
        (fun k hk h1 h2 => hsat _ _ ⟨by omega, h1, by omega, h2⟩)) ?_
      intro msk ⟨hms, hk1, hk2, hk3⟩
      obtain ⟨ms, k⟩ := msk
      simp only [] at hms hk1 hk2 hk3
      subst hms
      simp only []
      split
      · exact rfl
      · rename_i hsane
        refine Sat.bind (P := fun r => lt.1 < r ∧ r < img.w) (Q := fun (b : Bits) => b.WF ∧ b.w = b.h) (E := OnlyNotFound)
          (x := (if rb.2 - lt.2 ≠ rb.1 - lt.1 then
            (if lt.1 + (rb.2 - lt.2) ≥ img.w then (.error .notFound : Res Int) else .ok (lt.1 + (rb.2 - lt.2))) else .ok rb.1)) ?_ ?_
        · split
          · split
            · exact rfl
            · exact Sat.ok ⟨by omega, by omega⟩
          · exact Sat.ok ⟨by omega, by omega⟩
        · intro right ⟨hr1, hr2⟩
          split
          · exact rfl
          · split
            · exact rfl
            · rename_i hpos heq
              have hkN : k ≤ N := by omega
              have hnudge := hf.nudge_nonneg k hk1 hkN
              refine Sat.bind (unNudge_sat _ _ _) ?_
              intro left hleft
              refine Sat.bind (unNudge_sat _ _ _) ?_
              intro top htop
              have heq' : o.round (o.div (o.ofInt (rb.2 - lt.2 + 1)) (msOf o k)) = o.round (o.div (o.ofInt (right - lt.1 + 1)) (msOf o k)) := by
                simpa using heq
              refine Sat.mono (readOff_sat _ _ _ _ (by omega) (by omega) ?_) (fun _ h => h) ?_
              · intro x y hx0 hx1 hy0 hy1
                have mx := hf.sample_mono k (right - lt.1 + 1) x (o.round (o.div (o.ofInt (right - lt.1 + 1)) (msOf o k)) - 1)
                  hk1 hkN (by omega) (by omega) hx0 (by omega) (by omega)
                have my := hf.sample_mono k (rb.2 - lt.2 + 1) y (o.round (o.div (o.ofInt (rb.2 - lt.2 + 1)) (msOf o k)) - 1)
                  hk1 hkN (by omega) (by omega) hy0 (by omega) (by omega)
                have ax := axis_inside l1 hr2 hnudge mx.1 mx.2 rfl hleft
                have ay := axis_inside l3 r4 hnudge my.1 my.2 rfl htop
                exact hsat _ _ ⟨ax.1, ax.2, ay.1, ay.2⟩
              · intro b ⟨h1, h2, h3⟩
                exact ⟨h1, by rw [h2, h3, heq']⟩

end QR

end Gzx.Det.Pure
