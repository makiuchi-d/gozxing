/-
  C05 (work package c01multi) — one END-TO-END KERNEL EVALUATION of the executable decoder model on a symbol with combined
  damage (kept in a module of its own because of the time the kernel needs for it).  Listed in specs/C05.d/c01multi.json so
  that it is built and audited with the property modules.
-/
import Gzx.Properties.C05Comb
namespace Gzx.QRComp.MultiExamples
open Gzx Gzx.QRDec Gzx.QRComp Gzx.QRComp.Examples Gzx.Properties.C05Comb

/-- the Annex I block with one wrong data codeword -/
def recv1 : List (List Nat × List Nat) :=
  [([0x10, 0x20, 0x0C, 0x56, 0x61, 0x80, 0xEC, 0x11, 0xEC, 0x11, 0xEC, 0x11, 0xEC, 0x11, 0xEC, 0x55],
    [0xA5, 0x24, 0xD4, 0xC1, 0xED, 0x36, 0xC7, 0x87, 0x2C, 0x55])]

/-- no theorem about the decoder used (the symbol is evaluated module by module, as in `annexI_evaluates`):
    `BitMatrixParser` (format information read from two copies with three flipped modules each, nearest
    BCH word), function pattern, zig-zag read-out, unmasking, de-interleaving, the C04 Reed-Solomon decoder correcting one
    codeword, the bit-stream parser — on the 21x21 Annex I symbol with `flips1` applied — return the digits -/
theorem damaged_annexI_combined_evaluates :
    (decode refTables rsQR .none
        (flipCells (matrixOf (QRRef.refMatrix 1 .M 3 (QRDec.interleave recv1))) flips1)).map (·.parsed) =
      .ok ⟨[.raw [48, 49, 50, 51, 52, 53, 54, 55]], [], -1, -1, 1⟩ := by
  rw [QRRef.refMatrix_eq_spec]
  decide +kernel

end Gzx.QRComp.MultiExamples
