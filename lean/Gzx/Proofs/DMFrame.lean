/-
  C08: the encoder model's encodeLowLevel (row loop of datamatrix_writer.go: top clock row, left solid / right
  alternating modules around each run of region columns, bottom solid row) against the reference framing
  (`DMRef.symbolModule`: per-module definition).  Both only arrange the mapping-matrix cells and two constants, so
  they are compared on LABELS (0 = light, 1 = dark, 2+i = cell i; `frame_labels`), and the result is transferred to
  every mapping matrix by naturality.  The row loop and the loop over the rows insert their frame elements in the
  same way (`framed_range`); the clock tracks agree because every region size of Table 7 is even (`frameOKEnc`).
-/
import Gzx.Ref.DM
import Gzx.Model.DMEncoder
import Gzx.Proofs.ListGrid
namespace Gzx.DMProofs
open Gzx Gzx.DMRef

/-- `DMEnc.lowLevelRows` over an arbitrary module type -/
def lowLevelRowsG {α : Type} (s : DMEnc.SymbolInfo) (cell : Nat → Nat → α) (dark light : α) (y : Nat) :
    List (List α) :=
  let top : List (List α) :=
    if y % s.matrixHeight = 0 then [(List.range s.symbolWidth).map (fun x => if x % 2 == 0 then dark else light)]
    else []
  let body : List α := (List.range s.symbolDataWidth).flatMap (fun x =>
    (if x % s.matrixWidth = 0 then [dark] else []) ++ [cell x y] ++
    (if x % s.matrixWidth = s.matrixWidth - 1 then [if y % 2 == 0 then dark else light] else []))
  let bottom : List (List α) :=
    if y % s.matrixHeight = s.matrixHeight - 1 then [List.replicate s.symbolWidth dark] else []
  top ++ [body] ++ bottom

theorem lowLevelRows_eq_G (s : DMEnc.SymbolInfo) (getBit : Nat → Nat → Bool) (y : Nat) :
    DMEnc.lowLevelRows s getBit y = lowLevelRowsG s getBit true false y := by
  unfold DMEnc.lowLevelRows lowLevelRowsG
  have hb : ∀ b : Bool, (if b = true then true else false) = b := by intro b; cases b <;> rfl
  simp only [hb]

theorem lowLevelRowsG_map {α β : Type} (f : α → β) (s : DMEnc.SymbolInfo) (cell : Nat → Nat → α)
    (dark light : α) (y : Nat) :
    (lowLevelRowsG s cell dark light y).map (List.map f) =
      lowLevelRowsG s (fun x y => f (cell x y)) (f dark) (f light) y := by
  unfold lowLevelRowsG
  simp only [List.map_append, List.map_cons, List.map_nil, List.map_flatMap, apply_ite (List.map (List.map f)),
    apply_ite (List.map f), apply_ite f, List.map_map, List.map_replicate, Function.comp_def]

/-- label of symbol module (r, c): 0 light, 1 dark, 2 + i = cell i of the mapping matrix -/
def symbolLabel (s : Sym) (r c : Nat) : Nat :=
  let rr := r % (s.regRows + 2)
  let cc := c % (s.regCols + 2)
  if cc = 0 then 1
  else if rr = s.regRows + 1 then 1
  else if rr = 0 then (if cc % 2 == 0 then 1 else 0)
  else if cc = s.regCols + 1 then (if rr % 2 == 1 then 1 else 0)
  else 2 + ((r / (s.regRows + 2) * s.regRows + (rr - 1)) * s.mapCols + (c / (s.regCols + 2) * s.regCols + (cc - 1)))

def labelVal (m : Array Bool) (l : Nat) : Bool :=
  if l = 0 then false else if l = 1 then true else m.getD (l - 2) false

theorem symbolModule_eq_label (s : Sym) (m : Array Bool) (r c : Nat) :
    symbolModule s m r c = labelVal m (symbolLabel s r c) := by
  unfold symbolModule symbolLabel labelVal
  simp only
  split
  · simp
  · split
    · simp
    · split
      · split <;> simp_all
      · split
        · split <;> simp_all
        · have h : ∀ i : Nat, ¬ (2 + i = 0) ∧ ¬ (2 + i = 1) ∧ 2 + i - 2 = i := by intro i; omega
          simp [h]

theorem framed_region {α : Type} (pre post : α) (h : Nat → α) : ∀ R, 0 < R →
    (List.range R).flatMap (fun i =>
      (if i = 0 then [pre] else []) ++ [h i] ++ (if i = R - 1 then [post] else [])) =
    pre :: (List.range R).map h ++ [post]
  | 1, _ => rfl
  | k + 2, _ => by
    rw [List.range_succ, List.range_succ_eq_map, List.flatMap_append, List.flatMap_cons, List.flatMap_map,
      flatMap_congr (g := fun i => [h (i + 1)]) (fun i hi => by
        rw [if_neg (Nat.succ_ne_zero i), if_neg (by have := List.mem_range.1 hi; omega)]; rfl)]
    rw [List.flatMap_singleton, if_pos rfl, if_neg (Nat.succ_ne_zero k), if_neg (by omega),
      if_pos (by omega), ← List.map_eq_flatMap]
    simp only [List.map_cons, List.map_append, List.map_map, List.map_nil, List.append_nil, List.cons_append,
      List.nil_append, List.append_assoc]
    rfl

/-- `n` regions of `R` elements, each framed by `pre` and `post`: the flatMap that builds them element by
    element, against the position-wise description -/
theorem framed_range {α : Type} (pre post : α) (mid : Nat → α) (R : Nat) (hR : 0 < R) : ∀ n,
    (List.range (n * R)).flatMap (fun x =>
      (if x % R = 0 then [pre] else []) ++ [mid x] ++ (if x % R = R - 1 then [post] else [])) =
    (List.range (n * (R + 2))).map (fun t =>
      if t % (R + 2) = 0 then pre else if t % (R + 2) = R + 1 then post
      else mid (t / (R + 2) * R + (t % (R + 2) - 1)))
  | 0 => by simp
  | n + 1 => by
    rw [Nat.succ_mul, Nat.succ_mul, List.range_add, List.range_add, List.flatMap_append, List.map_append,
      framed_range pre post mid R hR n, List.flatMap_map, List.map_map,
      flatMap_congr (g := fun i => (if i = 0 then [pre] else []) ++ [mid (n * R + i)] ++
          (if i = R - 1 then [post] else [])) (fun i hi => by
        simp only [(mul_add_mod_div (List.mem_range.1 hi)).1]),
      framed_region pre post _ R hR, List.range_succ, List.range_succ_eq_map]
    congr 1
    simp only [List.map_append, List.map_cons, List.map_map, List.map_nil, Function.comp_def]
    obtain ⟨m0, d0⟩ := mul_add_mod_div (n := n) (k := R + 2) (t := 0) (by omega)
    obtain ⟨m1, d1⟩ := mul_add_mod_div (n := n) (k := R + 2) (t := R + 1) (by omega)
    rw [m0, m1, if_pos rfl, if_neg (Nat.succ_ne_zero R), if_pos rfl]
    congr 2
    refine List.map_congr_left fun i hi => ?_
    obtain ⟨mi, di⟩ := mul_add_mod_div (n := n) (k := R + 2) (t := i.succ) (by have := List.mem_range.1 hi; omega)
    rw [mi, di, if_neg (Nat.succ_ne_zero i), if_neg (by have := List.mem_range.1 hi; omega)]
    rfl

/-- the rows `lowLevelRowsG` builds, module by module: each region of `matrixHeight × matrixWidth` cells
    between its clock row and solid row, solid column and clock column -/
theorem flatMap_lowLevelRowsG {α : Type} (s : DMEnc.SymbolInfo) (cell : Nat → Nat → α) (dark light : α)
    (hH : 0 < s.matrixHeight) (hW : 0 < s.matrixWidth) :
    (List.range s.symbolDataHeight).flatMap (lowLevelRowsG s cell dark light) =
    (List.range (s.verticalDataRegions * (s.matrixHeight + 2))).map (fun r =>
      if r % (s.matrixHeight + 2) = 0 then
        (List.range s.symbolWidth).map (fun x => if x % 2 == 0 then dark else light)
      else if r % (s.matrixHeight + 2) = s.matrixHeight + 1 then List.replicate s.symbolWidth dark
      else (List.range (s.horizontalDataRegions * (s.matrixWidth + 2))).map (fun c =>
        if c % (s.matrixWidth + 2) = 0 then dark
        else if c % (s.matrixWidth + 2) = s.matrixWidth + 1 then
          (if (r / (s.matrixHeight + 2) * s.matrixHeight + (r % (s.matrixHeight + 2) - 1)) % 2 == 0 then dark
           else light)
        else cell (c / (s.matrixWidth + 2) * s.matrixWidth + (c % (s.matrixWidth + 2) - 1))
          (r / (s.matrixHeight + 2) * s.matrixHeight + (r % (s.matrixHeight + 2) - 1)))) := by
  have hrow : lowLevelRowsG s cell dark light = fun y => _ := funext fun y => by
    simp only [lowLevelRowsG, DMEnc.SymbolInfo.symbolDataWidth]
    rw [framed_range _ _ _ _ hW]
  rw [hrow, DMEnc.SymbolInfo.symbolDataHeight, framed_range _ _ _ _ hH]

/-- what the framing needs of a row of Table 7: whole regions of even size, as many as the library's
    region-count switch says -/
def frameOKEnc (s : Sym) : Bool :=
  decide (0 < s.regRows) && decide (0 < s.regCols) && decide (s.regRows % 2 = 0) && decide (s.regCols % 2 = 0) &&
  decide (s.rows = DMEnc.vRegionsOf s.regions * (s.regRows + 2)) &&
  decide (s.cols = DMEnc.hRegionsOf s.regions * (s.regCols + 2))

theorem frameOKEnc_table : ∀ s ∈ table7, frameOKEnc s = true := by decide

theorem frame_labels (s : Sym) (hR : 0 < s.regRows) (hC : 0 < s.regCols) (hRe : s.regRows % 2 = 0)
    (hCe : s.regCols % 2 = 0) (hrows : s.rows = DMEnc.vRegionsOf s.regions * (s.regRows + 2))
    (hcols : s.cols = DMEnc.hRegionsOf s.regions * (s.regCols + 2)) :
    (List.range (DMEnc.ofSym s).symbolDataHeight).flatMap
        (lowLevelRowsG (DMEnc.ofSym s) (fun x y => 2 + (y * (DMEnc.ofSym s).symbolDataWidth + x)) 1 0) =
      (List.range s.rows).map (fun r => (List.range s.cols).map (symbolLabel s r)) := by
  have e1 : (DMEnc.ofSym s).matrixHeight = s.regRows := rfl
  have e2 : (DMEnc.ofSym s).matrixWidth = s.regCols := rfl
  have e3 : (DMEnc.ofSym s).verticalDataRegions = DMEnc.vRegionsOf s.regions := rfl
  have e4 : (DMEnc.ofSym s).horizontalDataRegions = DMEnc.hRegionsOf s.regions := rfl
  have e5 : (DMEnc.ofSym s).symbolWidth = DMEnc.hRegionsOf s.regions * s.regCols + DMEnc.hRegionsOf s.regions * 2 := rfl
  have e6 : (DMEnc.ofSym s).symbolDataWidth = DMEnc.hRegionsOf s.regions * s.regCols := rfl
  have hmc : s.mapCols = DMEnc.hRegionsOf s.regions * s.regCols := by
    unfold Sym.mapCols Sym.hRegions
    rw [hcols, Nat.mul_div_cancel _ (by omega)]
  rw [flatMap_lowLevelRowsG _ _ _ _ hR hC]
  simp only [e1, e2, e3, e4, e5, e6, ← hrows, ← Nat.mul_add, ← hcols]
  refine List.map_congr_left fun r _ => ?_
  unfold symbolLabel
  simp only [hmc]
  generalize r % (s.regRows + 2) = rr
  generalize r / (s.regRows + 2) = a
  by_cases h0 : rr = 0
  · rw [if_pos h0]
    refine List.map_congr_left fun c _ => ?_
    -- top clock row: the encoder alternates along the symbol column, the reference inside the region
    have hp := Nat.mod_mod_of_dvd c (show 2 ∣ s.regCols + 2 by omega)
    simp only [h0, beq_iff_eq, hp, show ¬ (0 = s.regRows + 1) by omega, if_false, if_true]
    by_cases hc0 : c % (s.regCols + 2) = 0
    · rw [if_pos hc0, if_pos (by omega)]
    · rw [if_neg hc0]
  rw [if_neg h0]
  by_cases h1 : rr = s.regRows + 1
  · rw [if_pos h1, show List.replicate s.cols 1 = (List.range s.cols).map (fun _ => 1) by
      rw [List.map_const', List.length_range]]
    refine List.map_congr_left fun c _ => ?_
    simp only [h1, if_true, ite_self]
  · rw [if_neg h1]
    refine List.map_congr_left fun c _ => ?_
    -- right clock column: the encoder alternates along the data row `a * regRows + (rr - 1)`, the reference along `rr`
    have hd : 2 ∣ a * s.regRows := Nat.dvd_mul_left_of_dvd (by omega) a
    have hpar : ((a * s.regRows + (rr - 1)) % 2 = 0) = (rr % 2 = 1) := propext (by omega)
    simp only [h0, h1, if_false, beq_iff_eq, hpar]

/-- the modelled encodeLowLevel (0x0 request) of the mapping matrix `m` is the reference symbol of `m` -/
theorem encodeLowLevel_eq_reference (s : Sym) (hc : frameOKEnc s = true) (m : Array Bool) :
    DMEnc.encodeLowLevel (DMEnc.ofSym s)
        (fun x y => m.getD (y * (DMEnc.ofSym s).symbolDataWidth + x) false) =
      .ok (symbolOfMapping s m) := by
  unfold frameOKEnc at hc
  simp only [Bool.and_eq_true, decide_eq_true_eq] at hc
  obtain ⟨⟨⟨⟨⟨h1, h2⟩, hRe⟩, hCe⟩, hrows'⟩, hcols'⟩ := hc
  have h3 := frame_labels s h1 h2 hRe hCe hrows' hcols'
  change 0 < (DMEnc.ofSym s).matrixHeight at h1
  change 0 < (DMEnc.ofSym s).matrixWidth at h2
  unfold DMEnc.encodeLowLevel
  have hnz : ¬ ((DMEnc.ofSym s).symbolDataHeight > 0 ∧ ((DMEnc.ofSym s).matrixHeight = 0 ∨
      ((DMEnc.ofSym s).symbolDataWidth > 0 ∧ (DMEnc.ofSym s).matrixWidth = 0))) := by omega
  rw [if_neg hnz]
  congr 1
  have hrows : ∀ y, DMEnc.lowLevelRows (DMEnc.ofSym s)
        (fun x y => m.getD (y * (DMEnc.ofSym s).symbolDataWidth + x) false) y =
      (lowLevelRowsG (DMEnc.ofSym s) (fun x y => 2 + (y * (DMEnc.ofSym s).symbolDataWidth + x)) 1 0 y).map
        (List.map (labelVal m)) := by
    intro y
    rw [lowLevelRows_eq_G, lowLevelRowsG_map]
    have hv : ∀ i : Nat, labelVal m (2 + i) = m.getD i false := by
      intro i
      unfold labelVal
      have : ¬ (2 + i = 0) ∧ ¬ (2 + i = 1) ∧ 2 + i - 2 = i := by omega
      simp [this]
    simp only [hv]
    rfl
  have hfun : DMEnc.lowLevelRows (DMEnc.ofSym s)
        (fun x y => m.getD (y * (DMEnc.ofSym s).symbolDataWidth + x) false) =
      fun y => (lowLevelRowsG (DMEnc.ofSym s) (fun x y => 2 + (y * (DMEnc.ofSym s).symbolDataWidth + x)) 1 0 y).map
        (List.map (labelVal m)) := funext hrows
  rw [hfun, ← List.map_flatMap, h3]
  unfold symbolOfMapping
  simp only [List.map_map, Function.comp_def, symbolModule_eq_label]

end Gzx.DMProofs
