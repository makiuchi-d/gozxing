/-
  Facts about the read order of `Decoder.extractBits` (Model/AztecExtract.lean): the alignment map at the two
  indices one iteration of the Go loop writes, the domino enumeration, the positions of a layer.  Users: the
  obligations on the regenerated Go function (Obligations/K11bExtract.lean); the layout proof takes `jk_length`.
-/
import Gzx.Model.AztecExtract
namespace Gzx.AztecDecoder

/-- Go's `origCenter` and `center` of a full-range symbol -/
theorem centres_full (L : Nat) :
    baseMatrixSize L false / 2 = 2 * L + 7 ∧ matrixSize L false / 2 = 2 * L + 7 + (2 * L + 6) / 15 := by
  simp only [matrixSize, baseMatrixSize, Bool.false_eq_true, if_false]
  omega

/-- the two entries of the full-range alignment map that iteration `i` of the Go loop writes
    (`alignmentMap[origCenter-i-1]`, `alignmentMap[origCenter+i]`), as the integers it computes -/
theorem alignmentMap_pair (L i : Nat) (hi : i < baseMatrixSize L false / 2) :
    ((alignmentMap L false (baseMatrixSize L false / 2 - i - 1) : Nat) : Int) =
      ((matrixSize L false / 2 : Nat) : Int) - ((i : Int) + ((i / 15 : Nat) : Int)) - 1 ∧
    ((alignmentMap L false (baseMatrixSize L false / 2 + i) : Nat) : Int) =
      ((matrixSize L false / 2 : Nat) : Int) + ((i : Int) + ((i / 15 : Nat) : Int)) + 1 := by
  obtain ⟨h1, h2⟩ := centres_full L
  -- `i ≤ 2L+6`, so `i + i/15 + 1` does not exceed the centre `2L+7 + (2L+6)/15`
  have hq : i / 15 ≤ (2 * L + 6) / 15 := Nat.div_le_div_right (by omega)
  simp only [alignmentMap, Bool.false_eq_true, if_false, h1, h2] at hi ⊢
  have e1 : 2 * L + 7 - 1 - (2 * L + 7 - i - 1) = i := by omega
  have e2 : 2 * L + 7 + i - (2 * L + 7) = i := by omega
  rw [if_pos (by omega), if_neg (by omega), e1, e2]
  generalize (2 * L + 6) / 15 = q at *
  generalize i / 15 = r at *
  omega

/-- the dominoes of a side, two modules each -/
theorem jk_length : ∀ r : Nat, ((List.range r).flatMap (fun j => [(j, 0), (j, 1)])).length = 2 * r
  | 0 => rfl
  | r + 1 => by
    rw [List.range_succ, List.flatMap_append, List.length_append, jk_length r]
    simp; omega

theorem layerPositions_length (L : Nat) (c : Bool) (i : Nat) :
    (layerPositions L c i).length = 8 * ((L - i) * 4 + (if c then 9 else 12)) := by
  simp only [layerPositions, List.length_append, List.length_map, jk_length]
  omega

end Gzx.AztecDecoder
