/-
  GF(2)[x] on `Nat` bit vectors: long division `pmod` is xor-linear, multiplication by x commutes with
  it, and the carry-less product followed by `pmod` is the shift-and-add ("peasant") product.
  Helper lemmas for Properties/C04.lean.
-/
import Gzx.Ref.GF
namespace Gzx.Proofs.GF2
open Gzx.Ref.GF

/-- `p` is a polynomial of degree exactly `d` -/
def DegIs (p d : Nat) : Prop := 2 ^ d ≤ p ∧ p < 2 ^ (d + 1)

theorem lt_two_pow_of_bits {x n : Nat} (h : ∀ i, i ≥ n → x.testBit i = false) : x < 2 ^ n :=
  Nat.lt_pow_two_of_testBit x h

theorem testBit_false_of_lt {x n i : Nat} (h : x < 2 ^ n) (hi : n ≤ i) : x.testBit i = false :=
  Nat.testBit_lt_two_pow (Nat.lt_of_lt_of_le h (Nat.pow_le_pow_right (by omega) hi))

theorem lt_two_pow_of_log2_lt {y n : Nat} (h : y.log2 < n) : y < 2 ^ n :=
  Nat.lt_of_lt_of_le Nat.lt_log2_self (Nat.pow_le_pow_right (by omega) h)

theorem two_mul_xor (a b : Nat) : 2 * a ^^^ 2 * b = 2 * (a ^^^ b) := by
  have h := @Nat.shiftLeft_xor_distrib 1 a b
  simp only [Nat.shiftLeft_eq, Nat.pow_one] at h
  rw [Nat.mul_comm 2 a, Nat.mul_comm 2 b, Nat.mul_comm 2, h]

theorem testBit_two_mul_succ (y n : Nat) : (2 * y).testBit (n + 1) = y.testBit n := by
  rw [Nat.testBit_succ]; congr 1; omega

/-- one step of the long division -/
def st (p d k y : Nat) : Nat := if y.testBit (d + k) then y ^^^ (p <<< k) else y

theorem pmodAux_succ (p d k y : Nat) : pmodAux p d (k + 1) y = pmodAux p d k (st p d k y) := rfl

theorem shift_top {p d : Nat} (h : DegIs p d) (k : Nat) : (p <<< k).testBit (d + k) = true := by
  rw [Nat.testBit_shiftLeft]
  have : d + k - k = d := by omega
  simp [this, Nat.testBit_of_two_pow_le_and_two_pow_add_one_gt h.1 h.2]

theorem shift_lt {p d : Nat} (h : DegIs p d) (k : Nat) : p <<< k < 2 ^ (d + k + 1) := by
  rw [Nat.shiftLeft_eq]
  have : 2 ^ (d + k + 1) = 2 ^ (d + 1) * 2 ^ k := by
    rw [← Nat.pow_add]; congr 1; omega
  rw [this]
  exact Nat.mul_lt_mul_of_lt_of_le h.2 (Nat.le_refl _) (Nat.two_pow_pos k)

theorem st_lt {p d : Nat} (h : DegIs p d) (k y : Nat) (hy : y < 2 ^ (d + k + 1)) :
    st p d k y < 2 ^ (d + k) := by
  apply lt_two_pow_of_bits
  intro i hi
  unfold st
  by_cases hid : i = d + k
  · subst hid
    cases hb : y.testBit (d + k) with
    | true => simp [Nat.testBit_xor, hb, shift_top h k]
    | false => simp [hb]
  · have h1 : y.testBit i = false := testBit_false_of_lt hy (by omega)
    have h2 : (p <<< k).testBit i = false := testBit_false_of_lt (shift_lt h k) (by omega)
    split <;> simp [Nat.testBit_xor, h1, h2]

theorem st_xor (p d k y z : Nat) : st p d k (y ^^^ z) = st p d k y ^^^ st p d k z := by
  unfold st
  rw [Nat.testBit_xor]
  cases y.testBit (d + k) <;> cases z.testBit (d + k) <;> simp
  · ac_rfl
  · ac_rfl
  · apply Nat.eq_of_testBit_eq; intro i
    simp only [Nat.testBit_xor]
    cases y.testBit i <;> cases z.testBit i <;> cases (p <<< k).testBit i <;> rfl

theorem st_of_lt (p d k y : Nat) (hy : y < 2 ^ (d + k)) : st p d k y = y := by
  unfold st
  rw [Nat.testBit_lt_two_pow hy]; rfl

theorem pmodAux_lt {p d : Nat} (h : DegIs p d) : ∀ (k y : Nat), y < 2 ^ (d + k) → pmodAux p d k y < 2 ^ d
  | 0, y, hy => by simpa [pmodAux] using hy
  | k + 1, y, hy => by
    rw [pmodAux_succ]
    exact pmodAux_lt h k _ (st_lt h k y (by simpa [Nat.add_assoc] using hy))

theorem pmodAux_xor {p d : Nat} (h : DegIs p d) : ∀ (k y z : Nat), y < 2 ^ (d + k) → z < 2 ^ (d + k) →
    pmodAux p d k (y ^^^ z) = pmodAux p d k y ^^^ pmodAux p d k z
  | 0, y, z, _, _ => rfl
  | k + 1, y, z, hy, hz => by
    rw [pmodAux_succ, pmodAux_succ, pmodAux_succ, st_xor]
    exact pmodAux_xor h k _ _ (st_lt h k y (by simpa [Nat.add_assoc] using hy))
      (st_lt h k z (by simpa [Nat.add_assoc] using hz))

theorem pmodAux_fuel (p d : Nat) : ∀ (j k y : Nat), y < 2 ^ (d + k) → pmodAux p d (k + j) y = pmodAux p d k y
  | 0, _, _, _ => rfl
  | j + 1, k, y, hy => by
    have : k + (j + 1) = (k + j) + 1 := by omega
    rw [this, pmodAux_succ, st_of_lt]
    · exact pmodAux_fuel p d j k y hy
    · exact Nat.lt_of_lt_of_le hy (Nat.pow_le_pow_right (by omega) (by omega))

theorem DegIs.log2 {p d : Nat} (h : DegIs p d) : p.log2 = d := by
  have hp : p ≠ 0 := by have := h.1; have := Nat.two_pow_pos d; omega
  have h1 : p.log2 < d + 1 := (Nat.log2_lt hp).2 h.2
  have h2 : ¬ p.log2 < d := by
    intro hlt
    have := (Nat.log2_lt hp).1 hlt
    have := h.1; omega
  omega

theorem pmod_eq {p d : Nat} (h : DegIs p d) (K y : Nat) (hy : y < 2 ^ (d + K)) :
    pmod p y = pmodAux p d K y := by
  unfold pmod
  rw [h.log2]
  have hy0 : y < 2 ^ (d + (y.log2 + 1 - d)) := lt_two_pow_of_log2_lt (by omega)
  by_cases hk : y.log2 + 1 - d ≤ K
  · obtain ⟨j, hj⟩ := Nat.exists_eq_add_of_le hk
    rw [hj, pmodAux_fuel p d j _ y hy0]
  · have hk' : K ≤ y.log2 + 1 - d := by omega
    obtain ⟨j, hj⟩ := Nat.exists_eq_add_of_le hk'
    rw [hj, pmodAux_fuel p d j _ y hy]

theorem pmod_of_lt {p d : Nat} (h : DegIs p d) (y : Nat) (hy : y < 2 ^ d) : pmod p y = y := by
  rw [pmod_eq h 0 y (by simpa using hy)]; rfl

theorem pmod_lt {p d : Nat} (h : DegIs p d) (y : Nat) : pmod p y < 2 ^ d := by
  have hy : y < 2 ^ (d + (y.log2 + 1)) := lt_two_pow_of_log2_lt (by omega)
  rw [pmod_eq h _ y hy]
  exact pmodAux_lt h _ _ hy

theorem pmod_xor {p d : Nat} (h : DegIs p d) (y z : Nat) : pmod p (y ^^^ z) = pmod p y ^^^ pmod p z := by
  -- common fuel
  let K := y.log2 + 1 + (z.log2 + 1)
  have hy : y < 2 ^ (d + K) := lt_two_pow_of_log2_lt (by omega)
  have hz : z < 2 ^ (d + K) := lt_two_pow_of_log2_lt (by omega)
  rw [pmod_eq h K _ (Nat.xor_lt_two_pow hy hz), pmod_eq h K y hy, pmod_eq h K z hz]
  exact pmodAux_xor h K y z hy hz

/-- multiplication by x modulo p on reduced elements -/
def xt (p d r : Nat) : Nat := if (2 * r).testBit d then 2 * r ^^^ p else 2 * r

/-- it is the last step of the long division of `x·r` -/
theorem xt_eq_st (p d r : Nat) : xt p d r = st p d 0 (2 * r) := by unfold st xt; simp

theorem degIs_two_mul {p d : Nat} (h : DegIs p d) : DegIs (2 * p) (d + 1) := by
  unfold DegIs at *
  have h1 : 2 ^ (d + 1) = 2 ^ d * 2 := Nat.pow_succ _ _
  have h2 : 2 ^ (d + 1 + 1) = 2 ^ (d + 1) * 2 := Nat.pow_succ _ _
  omega

theorem st_shift (p d k y : Nat) : st p d (k + 1) y = st (2 * p) (d + 1) k y := by
  unfold st
  have h1 : d + (k + 1) = d + 1 + k := by omega
  have h2 : p <<< (k + 1) = (2 * p) <<< k := by
    rw [Nat.shiftLeft_eq, Nat.shiftLeft_eq, Nat.pow_succ]
    rw [Nat.mul_comm 2 p, Nat.mul_assoc, Nat.mul_comm 2]
  rw [h1, h2]

/-- the top `k` division steps are a division by `x·p` -/
theorem pmodAux_split (p d : Nat) : ∀ (k y : Nat),
    pmodAux p d (k + 1) y = pmodAux p d 1 (pmodAux (2 * p) (d + 1) k y)
  | 0, _ => rfl
  | k + 1, y => by
    rw [pmodAux_succ, st_shift, pmodAux_split p d k]
    rfl

theorem st_two_mul (p d k y : Nat) : st (2 * p) (d + 1) k (2 * y) = 2 * st p d k y := by
  unfold st
  have h1 : d + 1 + k = (d + k) + 1 := by omega
  rw [h1, testBit_two_mul_succ]
  have h2 : (2 * p) <<< k = 2 * (p <<< k) := by
    rw [Nat.shiftLeft_eq, Nat.shiftLeft_eq, Nat.mul_assoc]
  split
  · rw [h2, two_mul_xor]
  · rfl

theorem pmodAux_two_mul (p d : Nat) : ∀ (k y : Nat),
    pmodAux (2 * p) (d + 1) k (2 * y) = 2 * pmodAux p d k y
  | 0, _ => rfl
  | k + 1, y => by
    rw [pmodAux_succ, pmodAux_succ, st_two_mul, pmodAux_two_mul p d k]

theorem pmod_two_mul {p d : Nat} (h : DegIs p d) (y : Nat) : pmod p (2 * y) = xt p d (pmod p y) := by
  let K := y.log2 + 1
  have hy : y < 2 ^ (d + K) := lt_two_pow_of_log2_lt (by omega)
  have hy2 : 2 * y < 2 ^ (d + (K + 1)) := by
    have : d + (K + 1) = (d + K) + 1 := by omega
    rw [this, Nat.pow_succ]; omega
  rw [pmod_eq h (K + 1) _ hy2, pmod_eq h K y hy, pmodAux_split, pmodAux_two_mul, xt_eq_st]
  rfl

/-- doubling with reduction, as the encoders write it, is `xt` -/
theorem double_reduce_eq_xt (p d a : Nat) (ha : a < 2 ^ d) :
    (if 2 * a ≥ 2 ^ d then 2 * a ^^^ p else 2 * a) = xt p d a := by
  unfold xt
  by_cases hb : (2 * a).testBit d = true
  · rw [if_pos (Nat.ge_two_pow_of_testBit hb), if_pos hb]
  · have hlt : 2 * a < 2 ^ d := by
      apply lt_two_pow_of_bits
      intro i hi
      rcases Nat.eq_or_lt_of_le hi with rfl | hid
      · simpa using hb
      · exact testBit_false_of_lt (n := d + 1) (by rw [Nat.pow_succ]; omega) hid
    rw [if_neg (by omega), if_neg hb]

theorem xt_lt {p d : Nat} (h : DegIs p d) (r : Nat) (hr : r < 2 ^ d) : xt p d r < 2 ^ d := by
  rw [xt_eq_st]
  exact st_lt h 0 (2 * r) (by rw [Nat.add_zero, Nat.pow_succ]; omega)

theorem xt_xor (p d a b : Nat) : xt p d (a ^^^ b) = xt p d a ^^^ xt p d b := by
  rw [xt_eq_st, xt_eq_st, xt_eq_st, ← two_mul_xor, st_xor]

theorem xt_zero (p d : Nat) : xt p d 0 = 0 := by unfold xt; simp


/-! ## carry-less product followed by reduction = shift-and-add product -/

/-- shift-and-add ("peasant") product modulo p over the bits of `a` (lowest first, Horner from the top) -/
def peasant (p d : Nat) : Nat → Nat → Nat → Nat
  | 0, _, _ => 0
  | k + 1, a, b => (if a % 2 = 1 then b else 0) ^^^ xt p d (peasant p d k (a / 2) b)

theorem clmulAux_lt (m : Nat) : ∀ (k a b : Nat), b < 2 ^ m → clmulAux k a b < 2 ^ (m + k)
  | 0, _, _, _ => by simp [clmulAux]; exact Nat.two_pow_pos m
  | k + 1, a, b, hb => by
    unfold clmulAux
    have ih := clmulAux_lt m k (a / 2) b hb
    have e : 2 ^ (m + (k + 1)) = 2 ^ (m + k) * 2 := Nat.pow_succ _ _
    apply Nat.xor_lt_two_pow
    · have : b < 2 ^ (m + (k + 1)) :=
        Nat.lt_of_lt_of_le hb (Nat.pow_le_pow_right (by omega) (by omega))
      split
      · exact this
      · exact Nat.two_pow_pos _
    · omega

theorem peasant_lt {p d : Nat} (h : DegIs p d) : ∀ (k a b : Nat), b < 2 ^ d → peasant p d k a b < 2 ^ d
  | 0, _, _, _ => by simp [peasant]; exact Nat.two_pow_pos d
  | k + 1, a, b, hb => by
    unfold peasant
    apply Nat.xor_lt_two_pow
    · split
      · exact hb
      · exact Nat.two_pow_pos _
    · exact xt_lt h _ (peasant_lt h k (a / 2) b hb)

theorem pmod_clmulAux {p d : Nat} (h : DegIs p d) : ∀ (k a b : Nat), b < 2 ^ d →
    pmod p (clmulAux k a b) = peasant p d k a b
  | 0, _, _, _ => by
    simp only [clmulAux, peasant]
    exact pmod_of_lt h 0 (Nat.two_pow_pos d)
  | k + 1, a, b, hb => by
    unfold clmulAux peasant
    rw [pmod_xor h, pmod_two_mul h, pmod_clmulAux h k (a / 2) b hb]
    congr 1
    split
    · exact pmod_of_lt h b hb
    · exact pmod_of_lt h 0 (Nat.two_pow_pos d)

theorem peasant_xor (p d : Nat) : ∀ (k a b c : Nat),
    peasant p d k a (b ^^^ c) = peasant p d k a b ^^^ peasant p d k a c
  | 0, _, _, _ => by simp [peasant]
  | k + 1, a, b, c => by
    unfold peasant
    rw [peasant_xor p d k, xt_xor]
    split
    · ac_rfl
    · simp

theorem peasant_xt (p d : Nat) : ∀ (k a b : Nat),
    peasant p d k a (xt p d b) = xt p d (peasant p d k a b)
  | 0, _, _ => by simp [peasant, xt_zero]
  | k + 1, a, b => by
    unfold peasant
    rw [peasant_xt p d k, xt_xor]
    split
    · rfl
    · rw [xt_zero]

theorem peasant_zero_right (p d : Nat) : ∀ (k a : Nat), peasant p d k a 0 = 0
  | 0, _ => rfl
  | k + 1, a => by
    unfold peasant
    rw [peasant_zero_right p d k, xt_zero]; simp

theorem peasant_zero_left (p d : Nat) : ∀ (k b : Nat), peasant p d k 0 b = 0
  | 0, _ => rfl
  | k + 1, b => by
    unfold peasant
    simp [peasant_zero_left p d k, xt_zero]

def iter (f : Nat → Nat) : Nat → Nat → Nat
  | 0, x => x
  | n + 1, x => iter f n (f x)

theorem iter_succ' (f : Nat → Nat) : ∀ (n x : Nat), iter f (n + 1) x = f (iter f n x)
  | 0, _ => rfl
  | n + 1, x => by
    show iter f (n + 1) (f x) = f (iter f n (f x))
    exact iter_succ' f n (f x)

theorem iter_add (f : Nat → Nat) : ∀ (m n x : Nat), iter f (m + n) x = iter f n (iter f m x)
  | 0, n, x => by simp [iter]
  | m + 1, n, x => by
    have : m + 1 + n = (m + n) + 1 := by omega
    rw [this]
    show iter f (m + n) (f x) = iter f n (iter f m (f x))
    exact iter_add f m n (f x)

theorem peasant_iter (p d k a : Nat) : ∀ (j b : Nat),
    peasant p d k a (iter (xt p d) j b) = iter (xt p d) j (peasant p d k a b)
  | 0, _ => rfl
  | j + 1, b => by
    rw [iter_succ', iter_succ', peasant_xt, peasant_iter p d k a j b]

theorem bit_decomp (a : Nat) : (if a % 2 = 1 then 1 else 0) ^^^ 2 * (a / 2) = a := by
  apply Nat.eq_of_testBit_eq; intro i
  cases i with
  | zero =>
    rw [Nat.testBit_xor, Nat.testBit_zero, Nat.testBit_zero, Nat.testBit_zero]
    have h2 : 2 * (a / 2) % 2 = 0 := by omega
    by_cases h : a % 2 = 1 <;> simp [h, h2]
  | succ i =>
    rw [Nat.testBit_succ, Nat.testBit_succ, Nat.xor_div_two]
    have h1 : (if a % 2 = 1 then 1 else 0) / 2 = 0 := by split <;> rfl
    have h2 : 2 * (a / 2) / 2 = a / 2 := by omega
    rw [h1, h2, Nat.zero_xor]

theorem peasant_one {p d : Nat} : ∀ (k a : Nat), k ≤ d → a < 2 ^ k → peasant p d k a 1 = a
  | 0, a, _, ha => by simp at ha; simp [peasant, ha]
  | k + 1, a, hk, ha => by
    unfold peasant
    have ha2 : a / 2 < 2 ^ k := by
      have : 2 ^ (k + 1) = 2 ^ k * 2 := Nat.pow_succ _ _
      omega
    rw [peasant_one k (a / 2) (by omega) ha2]
    have hx : xt p d (a / 2) = 2 * (a / 2) := by
      unfold xt
      have : (2 * (a / 2)).testBit d = false := by
        apply testBit_false_of_lt (n := k + 1) _ hk
        have : 2 * (a / 2) ≤ a := by omega
        omega
      simp [this]
    rw [hx]
    exact bit_decomp a

/-- the bit-flip form of `+1` in `findErrorMagnitudes` is `xor 1` -/
theorem termPlus1_eq (t : Nat) : (if t &&& 1 = 0 then t ||| 1 else t - 1) = t ^^^ 1 := by
  rw [Nat.and_one_is_mod]
  apply Nat.eq_of_testBit_eq
  intro i
  cases i with
  | zero =>
    by_cases h : t % 2 = 0
    · rw [if_pos h]
      simp [Nat.testBit_zero, Nat.or_mod_two_eq_one, Nat.xor_mod_two_eq_one, h]
    · rw [if_neg h]
      have h1 : t % 2 = 1 := by omega
      have h2 : (t - 1) % 2 = 0 := by omega
      simp [Nat.testBit_zero, Nat.xor_mod_two_eq_one, h1, h2]
  | succ i =>
    rw [Nat.testBit_succ, Nat.testBit_succ, Nat.xor_div_two]
    have e1 : (1 : Nat) / 2 = 0 := rfl
    rw [e1, Nat.xor_zero]
    by_cases h : t % 2 = 0
    · rw [if_pos h, Nat.or_div_two, e1, Nat.or_zero]
    · rw [if_neg h]
      have : (t - 1) / 2 = t / 2 := by omega
      rw [this]

end Gzx.Proofs.GF2
