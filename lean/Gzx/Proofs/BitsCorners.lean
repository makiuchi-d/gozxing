/-
  C16 helper lemmas: GetTopLeftOnBit / GetBottomRightOnBit — first / last set cell of the naive grid in row-major
  order, the same cell found on the words, and the refinement.
-/
import Gzx.Proofs.BitsMat
namespace Gzx.Bits
open Gzx

/-! ## first / last set cell of a list of rows -/

/-- cell `x` of row `k` (false outside) -/
def cellOf (rs : List (List Bool)) (k x : Nat) : Bool := (rs[k]?.getD [])[x]?.getD false

theorem cellOf_cons_zero (r : List Bool) (rs : List (List Bool)) (x : Nat) :
    cellOf (r :: rs) 0 x = r[x]?.getD false := rfl

theorem cellOf_cons_succ (r : List Bool) (rs : List (List Bool)) (k x : Nat) :
    cellOf (r :: rs) (k + 1) x = cellOf rs k x := by
  unfold cellOf; rw [List.getElem?_cons_succ]

theorem firstOn_spec (rs : List (List Bool)) : ∀ (y0 : Nat),
    match SMat.firstOn rs y0 with
    | none => ∀ k x, cellOf rs k x = false
    | some p => ∃ x k, p = [x, y0 + k] ∧ cellOf rs k x = true ∧
        ∀ x' k', (k' < k ∨ (k' = k ∧ x' < x)) → cellOf rs k' x' = false := by
  induction rs with
  | nil =>
    intro y0
    simp only [SMat.firstOn]
    intro k x; simp [cellOf]
  | cons r rs ih =>
    intro y0
    unfold SMat.firstOn
    simp only
    by_cases hx : r.findIdx (fun b => b) < r.length
    · rw [if_pos hx]
      refine ⟨r.findIdx (fun b => b), 0, rfl, ?_, ?_⟩
      · rw [cellOf_cons_zero, List.getElem?_eq_getElem (l := r) hx]
        exact List.findIdx_getElem (w := hx)
      · intro x' k' hb
        rcases hb with hb | ⟨rfl, hb⟩
        · omega
        · have hb' : x' < r.length := by omega
          rw [cellOf_cons_zero, List.getElem?_eq_getElem (l := r) hb']
          exact List.not_of_lt_findIdx hb
    · rw [if_neg hx]
      have hall : ∀ x : Nat, r[x]?.getD false = false := by
        intro x
        have he : r.findIdx (fun b => b) = r.length := by
          have := List.findIdx_le_length (p := fun b => b) (xs := r); omega
        rw [List.findIdx_eq_length] at he
        by_cases c : x < r.length
        · rw [List.getElem?_eq_getElem c]; exact he _ (List.getElem_mem c)
        · rw [List.getElem?_eq_none (by omega)]; rfl
      have := ih (y0 + 1)
      split
      · rename_i heq
        rw [heq] at this
        intro k x
        cases k with
        | zero => rw [cellOf_cons_zero]; exact hall x
        | succ k => rw [cellOf_cons_succ]; exact this k x
      · rename_i p heq
        rw [heq] at this
        obtain ⟨x, k, e1, e2, e3⟩ := this
        refine ⟨x, k + 1, by rw [e1]; congr 2; omega, by rw [cellOf_cons_succ]; exact e2, ?_⟩
        intro x' k' hb
        cases k' with
        | zero => rw [cellOf_cons_zero]; exact hall x'
        | succ k' =>
          rw [cellOf_cons_succ]
          exact e3 x' k' (by omega)

theorem lastOn_spec (rs : List (List Bool)) : ∀ (y0 : Nat),
    match SMat.lastOn rs y0 with
    | none => ∀ k x, cellOf rs k x = false
    | some p => ∃ x k, p = [x, y0 + k] ∧ cellOf rs k x = true ∧
        ∀ x' k', (k < k' ∨ (k' = k ∧ x < x')) → cellOf rs k' x' = false := by
  induction rs with
  | nil =>
    intro y0
    simp only [SMat.lastOn]
    intro k x; simp [cellOf]
  | cons r rs ih =>
    intro y0
    unfold SMat.lastOn
    have := ih (y0 + 1)
    cases hl : SMat.lastOn rs (y0 + 1) with
    | some p =>
      rw [hl] at this
      simp only
      obtain ⟨x, k, e1, e2, e3⟩ := this
      refine ⟨x, k + 1, by rw [e1]; congr 2; omega, by rw [cellOf_cons_succ]; exact e2, ?_⟩
      intro x' k' hb
      cases k' with
      | zero => omega
      | succ k' =>
        rw [cellOf_cons_succ]
        exact e3 x' k' (by omega)
    | none =>
      rw [hl] at this
      simp only
      by_cases hx : r.reverse.findIdx (fun b => b) < r.length
      · rw [if_pos hx]
        have hx' : r.reverse.findIdx (fun b => b) < r.reverse.length := by simpa using hx
        refine ⟨r.length - 1 - r.reverse.findIdx (fun b => b), 0, rfl, ?_, ?_⟩
        · have hxl : r.length - 1 - r.reverse.findIdx (fun b => b) < r.length := by omega
          rw [cellOf_cons_zero, List.getElem?_eq_getElem (l := r) hxl]
          have := List.findIdx_getElem (w := hx')
          rw [List.getElem_reverse] at this
          exact this
        · intro x' k' hb
          rcases hb with hb | ⟨rfl, hb⟩
          · cases k' with
            | zero => omega
            | succ k' => rw [cellOf_cons_succ]; exact this k' x'
          · rw [cellOf_cons_zero]
            by_cases c : x' < r.length
            · rw [List.getElem?_eq_getElem c]
              have hlt : r.length - 1 - x' < r.reverse.findIdx (fun b => b) := by omega
              have := List.not_of_lt_findIdx hlt
              rw [List.getElem_reverse] at this
              have e : r.length - 1 - (r.length - 1 - x') = x' := by omega
              simp only [e] at this
              exact this
            · rw [List.getElem?_eq_none (by omega)]; rfl
      · rw [if_neg hx]
        have hall : ∀ x : Nat, r[x]?.getD false = false := by
          intro x
          have he : r.reverse.findIdx (fun b => b) = r.reverse.length := by
            have := List.findIdx_le_length (p := fun b => b) (xs := r.reverse)
            simp at this ⊢; omega
          rw [List.findIdx_eq_length] at he
          by_cases c : x < r.length
          · rw [List.getElem?_eq_getElem c]
            exact he _ (List.mem_reverse.mpr (List.getElem_mem c))
          · rw [List.getElem?_eq_none (by omega)]; rfl
        intro k x
        cases k with
        | zero => rw [cellOf_cons_zero]; exact hall x
        | succ k => rw [cellOf_cons_succ]; exact this k x

/-! ## the extremal cell and the refinement -/

/-- `(x, y)` is the cell of `c` that `before` puts ahead of every other -/
def IsExt (before : Nat → Nat → Nat → Nat → Prop) (c : Nat → Nat → Prop) (x y : Nat) : Prop :=
  c x y ∧ ∀ x' y', before x' y' x y → ¬ c x' y'

/-- first cell in row-major order -/
abbrev IsFirst := IsExt (fun x' y' x y => y' < y ∨ (y' = y ∧ x' < x))

/-- last cell in row-major order -/
abbrev IsLast := IsExt (fun x' y' x y => y < y' ∨ (y' = y ∧ x < x'))

theorem isExt_unique {before : Nat → Nat → Nat → Nat → Prop}
    (htri : ∀ x y x' y', before x' y' x y ∨ before x y x' y' ∨ (x = x' ∧ y = y'))
    {c : Nat → Nat → Prop} {x y x' y' : Nat}
    (h1 : IsExt before c x y) (h2 : IsExt before c x' y') : x = x' ∧ y = y' := by
  rcases htri x y x' y' with b | b | b
  · exact absurd h2.1 (h1.2 x' y' b)
  · exact absurd h1.1 (h2.2 x y b)
  · exact b

theorem isExt_absM {before : Nat → Nat → Nat → Nat → Prop} {m : WMat} {x y : Nat} (hx : x < m.width)
    (hy : y < m.height) (hc : mbit m x y = true)
    (hb : ∀ x' y', x' < m.width → y' < m.height → before x' y' x y → mbit m x' y' = false) :
    IsExt before (fun x y => (absM m).get x y = true) x y := by
  refine ⟨(absM_get_true m x y).mpr ⟨hx, hy, hc⟩, fun x' y' hbf hg => ?_⟩
  obtain ⟨a, b, c⟩ := (absM_get_true m x' y').mp hg
  rw [hb x' y' a b hbf] at c; cases c

/-- a word-side and a naive-side answer with the same extremal property are the same answer -/
theorem ext_refines {before : Nat → Nat → Nat → Nat → Prop}
    (htri : ∀ x y x' y', before x' y' x y ∨ before x y x' y' ∨ (x = x' ∧ y = y'))
    {c : Nat → Nat → Prop} {r : Res (Option (List Nat))} {s : Option (List Nat)}
    (hw : (r = .ok none ∧ ∀ x y, ¬ c x y) ∨ (∃ x y, r = .ok (some [x, y]) ∧ IsExt before c x y))
    (hs : match s with
      | none => ∀ x y, ¬ c x y
      | some p => ∃ x y, p = [x, y] ∧ IsExt before c x y) :
    r = .ok s := by
  rcases hw with ⟨e1, e2⟩ | ⟨x, y, e1, e2⟩
  · rw [e1]
    cases s with
    | none => rfl
    | some p =>
      obtain ⟨x, y, _, hf⟩ := hs
      exact absurd hf.1 (e2 x y)
  · rw [e1]
    cases s with
    | none => exact absurd e2.1 (hs x y)
    | some p =>
      obtain ⟨x', y', rfl, hf⟩ := hs
      obtain ⟨rfl, rfl⟩ := isExt_unique htri e2 hf
      rfl

/-- naive side of `GetTopLeftOnBit` -/
theorem SMat.topLeft_spec (m : SMat) :
    match m.topLeftOnBit with
    | none => ∀ x y, ¬ m.get x y = true
    | some p => ∃ x y, p = [x, y] ∧ IsFirst (fun x y => m.get x y = true) x y := by
  -- `cellOf m.rows y x` is `m.get x y` by definition
  have hs := firstOn_spec m.rows 0
  unfold SMat.topLeftOnBit
  split at hs
  · exact fun x y hg => absurd ((hs y x).symm.trans hg) (by decide)
  · obtain ⟨x, k, e1, e2, e3⟩ := hs
    exact ⟨x, k, by simpa using e1, e2, fun x' y' hb hg => absurd ((e3 x' y' hb).symm.trans hg) (by decide)⟩

/-- naive side of `GetBottomRightOnBit` -/
theorem SMat.bottomRight_spec (m : SMat) :
    match m.bottomRightOnBit with
    | none => ∀ x y, ¬ m.get x y = true
    | some p => ∃ x y, p = [x, y] ∧ IsLast (fun x y => m.get x y = true) x y := by
  have hs := lastOn_spec m.rows 0
  unfold SMat.bottomRightOnBit
  split at hs
  · exact fun x y hg => absurd ((hs y x).symm.trans hg) (by decide)
  · obtain ⟨x, k, e1, e2, e3⟩ := hs
    exact ⟨x, k, by simpa using e1, e2, fun x' y' hb hg => absurd ((e3 x' y' hb).symm.trans hg) (by decide)⟩

theorem findIdx_nonzero_spec (ws : List Nat) :
    (∀ k : Nat, k < ws.findIdx (fun w => w != 0) → ws[k]?.getD 0 = 0) ∧
    (ws.findIdx (fun w => w != 0) < ws.length → ws[ws.findIdx (fun w => w != 0)]?.getD 0 ≠ 0) ∧
    ws.findIdx (fun w => w != 0) ≤ ws.length := by
  induction ws with
  | nil => simp
  | cons a ws ih =>
    rw [List.findIdx_cons]
    by_cases ha : a = 0
    · have hb : (a != 0) = false := by simp [ha]
      rw [hb]
      simp only [cond_false]
      obtain ⟨i1, i2, i3⟩ := ih
      refine ⟨?_, ?_, by simp; omega⟩
      · intro k hk
        cases k with
        | zero => simp [ha]
        | succ k => rw [List.getElem?_cons_succ]; exact i1 k (by omega)
      · intro hlt
        rw [List.getElem?_cons_succ]
        exact i2 (by simpa using hlt)
    · have hb : (a != 0) = true := by simp [ha]
      rw [hb]
      simp only [cond_true]
      refine ⟨by intro k hk; omega, ?_, by simp⟩
      intro _
      simpa using ha

namespace WMat

/-- bit `b` of word `off` is the cell `(off % rowSize * 32 + b, off / rowSize)`; a set bit lies inside the grid -/
theorem cell_of_word (m : WMat) (h : InvM m) {off w b : Nat} (hw : m.words[off]? = some w) (hb : b < 32)
    (hset : w.testBit b = true) :
    off % m.rowSize * 32 + b < m.width ∧ off / m.rowSize < m.height ∧
      mbit m (off % m.rowSize * 32 + b) (off / m.rowSize) = true := by
  have hrs := h.rs_pos
  have hlt : off < m.words.length := (List.getElem?_eq_some_iff.mp hw).1
  have hy : off / m.rowSize < m.height := by
    rw [h.len] at hlt; exact Nat.div_lt_of_lt_mul hlt
  have hbit : mbit m (off % m.rowSize * 32 + b) (off / m.rowSize) = true := by
    rw [mbit_word, div32_add hb, mod32_add hb, Nat.div_add_mod' off m.rowSize, hw]; exact hset
  refine ⟨?_, hy, hbit⟩
  false_or_by_contra
  rename_i hge
  have hc : off % m.rowSize < m.rowSize := Nat.mod_lt _ hrs
  rw [h.pad _ _ (by omega) (by omega)] at hbit; cases hbit

/-- word side of `GetTopLeftOnBit` -/
theorem topLeft_word (m : WMat) (h : InvM m) :
    (m.getTopLeftOnBit = .ok none ∧ ∀ x y, ¬ (absM m).get x y = true) ∨
    (∃ x y, m.getTopLeftOnBit = .ok (some [x, y]) ∧ IsFirst (fun x y => (absM m).get x y = true) x y) := by
  have hrs := h.rs_pos
  have hlen := h.len
  have hwl := h.width_le
  unfold WMat.getTopLeftOnBit
  simp only
  obtain ⟨f1, f2, f3⟩ := findIdx_nonzero_spec m.words
  generalize m.words.findIdx (fun w => w != 0) = off at f1 f2 f3 ⊢
  by_cases hlt : off < m.words.length
  · right
    obtain ⟨w0, hw0⟩ : ∃ w0, m.words[off]? = some w0 := ⟨_, List.getElem?_eq_getElem hlt⟩
    rw [hw0]
    simp only
    rw [if_neg (by omega)]
    have hne : w0 ≠ 0 := by
      have := f2 hlt
      rw [hw0] at this
      simpa using this
    have hzero : ∀ k, k < off → m.words[k]?.getD 0 = 0 := f1
    have hw32 := h.words_lt _ (List.mem_of_getElem? hw0)
    obtain ⟨b1, b2, b3⟩ := lowBit_spec _ hne hw32
    have hc : off % m.rowSize < m.rowSize := Nat.mod_lt _ hrs
    have hdm := Nat.div_add_mod' off m.rowSize
    obtain ⟨hxw, hy, hbit⟩ := cell_of_word m h hw0 b1 b2
    refine ⟨_, _, rfl, isExt_absM hxw hy hbit ?_⟩
    · intro x' y' hx' hy' hb
      rw [mbit_word]
      rcases hb with hb | ⟨rfl, hb⟩
      · have : (y' + 1) * m.rowSize ≤ off / m.rowSize * m.rowSize := Nat.mul_le_mul_right _ hb
        rw [Nat.add_mul, Nat.one_mul] at this
        rw [hzero _ (by omega)]; exact Nat.zero_testBit _
      · by_cases c : x' / 32 < off % m.rowSize
        · rw [hzero _ (by omega)]; exact Nat.zero_testBit _
        · have e : off / m.rowSize * m.rowSize + x' / 32 = off := by omega
          rw [e, hw0]
          exact b3 _ (by omega)
  · left
    rw [List.getElem?_eq_none (by omega)]
    refine ⟨rfl, fun x y hg => ?_⟩
    obtain ⟨hx, hy, hc⟩ := (absM_get_true m x y).mp hg
    have hk := h.idx hx hy
    rw [mbit_word, f1 _ (by omega), Nat.zero_testBit] at hc; cases hc

theorem topLeft_refines (m : WMat) (h : InvM m) :
    m.getTopLeftOnBit = .ok (absM m).topLeftOnBit :=
  ext_refines (fun x y x' y' => by omega) (topLeft_word m h) (SMat.topLeft_spec (absM m))

theorem lastNonzero_spec (ws : List Nat) : ∀ (i0 : Nat),
    match lastNonzero ws i0 with
    | none => ∀ k : Nat, ws[k]?.getD 0 = 0
    | some (i, w) => ∃ k : Nat, i = i0 + k ∧ ws[k]? = some w ∧ w ≠ 0 ∧
        ∀ k' : Nat, k < k' → ws[k']?.getD 0 = 0 := by
  induction ws with
  | nil => intro i0; simp [lastNonzero]
  | cons a ws ih =>
    intro i0
    unfold lastNonzero
    have := ih (i0 + 1)
    cases hl : lastNonzero ws (i0 + 1) with
    | some r =>
      obtain ⟨i, w⟩ := r
      rw [hl] at this
      simp only
      obtain ⟨k, e1, e2, e3, e4⟩ := this
      refine ⟨k + 1, by omega, by rw [List.getElem?_cons_succ]; exact e2, e3, ?_⟩
      intro k' hk'
      cases k' with
      | zero => omega
      | succ k' => rw [List.getElem?_cons_succ]; exact e4 k' (by omega)
    | none =>
      rw [hl] at this
      simp only
      by_cases ha : a != 0
      · rw [if_pos ha]
        refine ⟨0, rfl, rfl, by simpa using ha, ?_⟩
        intro k' hk'
        cases k' with
        | zero => omega
        | succ k' => rw [List.getElem?_cons_succ]; exact this k'
      · rw [if_neg ha]
        intro k
        cases k with
        | zero => simp at ha; simp [ha]
        | succ k => rw [List.getElem?_cons_succ]; exact this k

/-- word side of `GetBottomRightOnBit` -/
theorem bottomRight_word (m : WMat) (h : InvM m) :
    (m.getBottomRightOnBit = .ok none ∧ ∀ x y, ¬ (absM m).get x y = true) ∨
    (∃ x y, m.getBottomRightOnBit = .ok (some [x, y]) ∧ IsLast (fun x y => (absM m).get x y = true) x y) := by
  have hrs := h.rs_pos
  have hlen := h.len
  have hwl := h.width_le
  unfold WMat.getBottomRightOnBit
  have hs := lastNonzero_spec m.words 0
  cases hl : lastNonzero m.words 0 with
  | none =>
    left
    rw [hl] at hs
    refine ⟨rfl, fun x y hg => ?_⟩
    have hc := ((absM_get_true m x y).mp hg).2.2
    rw [mbit_word, hs, Nat.zero_testBit] at hc; cases hc
  | some r =>
    right
    obtain ⟨off, w⟩ := r
    rw [hl] at hs
    simp only
    rw [if_neg (by omega)]
    obtain ⟨k, e1, e2, hne, hzero⟩ := hs
    have hoff : off = k := by omega
    subst hoff
    have hlt : off < m.words.length := by
      false_or_by_contra
      rw [List.getElem?_eq_none (by omega)] at e2; cases e2
    have hw32 := h.words_lt _ (List.mem_of_getElem? e2)
    obtain ⟨b1, b2, b3⟩ := highBit_spec _ hne hw32
    have hc : off % m.rowSize < m.rowSize := Nat.mod_lt _ hrs
    have hdm := Nat.div_add_mod' off m.rowSize
    obtain ⟨hxw, hy, hbit⟩ := cell_of_word m h e2 b1 b2
    refine ⟨_, _, rfl, isExt_absM hxw hy hbit ?_⟩
    · intro x' y' hx' hy' hb
      rw [mbit_word]
      rcases hb with hb | ⟨rfl, hb⟩
      · have : (off / m.rowSize + 1) * m.rowSize ≤ y' * m.rowSize := Nat.mul_le_mul_right _ hb
        rw [Nat.add_mul, Nat.one_mul] at this
        rw [hzero _ (by omega)]; exact Nat.zero_testBit _
      · by_cases c : off % m.rowSize < x' / 32
        · rw [hzero _ (by omega)]; exact Nat.zero_testBit _
        · have e : off / m.rowSize * m.rowSize + x' / 32 = off := by omega
          rw [e, e2]
          exact b3 _ (by omega)

theorem bottomRight_refines (m : WMat) (h : InvM m) :
    m.getBottomRightOnBit = .ok (absM m).bottomRightOnBit :=
  ext_refines (fun x y x' y' => by omega) (bottomRight_word m h) (SMat.bottomRight_spec (absM m))

end WMat

end Gzx.Bits
