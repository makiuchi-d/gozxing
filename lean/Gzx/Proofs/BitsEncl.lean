/-
  C16 helper lemmas: GetEnclosingRectangle.  The scan keeps, of the columns and of the rows that hold a set cell among
  those looked at so far, the least and the greatest (`Bounds`); the naive `minL` / `maxL` folds keep the same.
-/
import Gzx.Proofs.BitsMat
import Gzx.Proofs.BitsLeast
namespace Gzx.Bits
open Gzx

/-- `e` holds the least and greatest column and the least and greatest row in which `c` has a cell; with no cell it is the
    start state `⟨w, h, -1, -1⟩` of the Go scan -/
structure Bounds (c : Nat → Nat → Prop) (w h : Nat) (e : WMat.Encl) : Prop where
  left : IsLo (fun x => ∃ y, c x y) w e.left
  right : IsHi (fun x => ∃ y, c x y) e.right
  top : IsLo (fun y => ∃ x, c x y) h e.top
  bottom : IsHi (fun y => ∃ x, c x y) e.bottom

theorem Bounds.congr {c c' : Nat → Nat → Prop} {w h : Nat} {e : WMat.Encl} (hb : Bounds c w h e)
    (hcc : ∀ x y, c x y ↔ c' x y) : Bounds c' w h e :=
  ⟨hb.left.congr fun x => exists_congr fun y => hcc x y, hb.right.congr fun x => exists_congr fun y => hcc x y,
    hb.top.congr fun y => exists_congr fun x => hcc x y, hb.bottom.congr fun y => exists_congr fun x => hcc x y⟩

theorem Bounds.unique {c : Nat → Nat → Prop} {w h : Nat} {e e' : WMat.Encl} (hb : Bounds c w h e)
    (hb' : Bounds c w h e') : e = e' := by
  obtain ⟨l, t, r, b⟩ := e
  obtain ⟨l', t', r', b'⟩ := e'
  have e1 : l = l' := hb.left.unique hb'.left
  have e2 : t = t' := hb.top.unique hb'.top
  have e3 : r = r' := hb.right.unique hb'.right
  have e4 : b = b' := hb.bottom.unique hb'.bottom
  rw [e1, e2, e3, e4]

/-- one word of the scan: the set cells of word `x32` of row `y0` are taken in -/
theorem enclStep_bounds (m : WMat) (h : InvM m) (P : Nat → Nat → Prop) (e : WMat.Encl)
    (hb : Bounds (fun x y => P x y ∧ mbit m x y = true) m.width m.height e)
    (y0 x32 : Nat) (hy0 : y0 < m.height) (hx32 : x32 < m.rowSize) :
    Bounds (fun x y => (P x y ∨ (y = y0 ∧ x / 32 = x32)) ∧ mbit m x y = true) m.width m.height
      (WMat.enclStep y0 x32 (m.words[y0 * m.rowSize + x32]?.getD 0) e) := by
  have hkidx : y0 * m.rowSize + x32 < m.words.length := by rw [h.len]; exact row_idx_lt hx32 hy0
  rw [List.getElem?_eq_getElem hkidx]
  simp only [Option.getD_some]
  generalize hw : m.words[y0 * m.rowSize + x32] = w
  have hw32 : w < W32 := by rw [← hw]; exact h.words_lt _ (List.getElem_mem hkidx)
  have hcell : ∀ x, x / 32 = x32 → mbit m x y0 = w.testBit (x % 32) := by
    intro x hx
    rw [mbit_word, hx, List.getElem?_eq_getElem hkidx, hw]; rfl
  -- columns and rows with a set cell: those so far, and those of this word
  have ex : ∀ x, (∃ y, (P x y ∨ (y = y0 ∧ x / 32 = x32)) ∧ mbit m x y = true) ↔
      ((∃ y, P x y ∧ mbit m x y = true) ∨ (x / 32 = x32 ∧ w.testBit (x % 32) = true)) := by
    intro x
    constructor
    · rintro ⟨y, hp | ⟨rfl, hx⟩, hc⟩
      · exact Or.inl ⟨y, hp, hc⟩
      · exact Or.inr ⟨hx, by rw [← hcell x hx]; exact hc⟩
    · rintro (⟨y, hp, hc⟩ | ⟨hx, hc⟩)
      · exact ⟨y, Or.inl hp, hc⟩
      · exact ⟨y0, Or.inr ⟨rfl, hx⟩, by rw [hcell x hx]; exact hc⟩
  have ey : ∀ y, (∃ x, (P x y ∨ (y = y0 ∧ x / 32 = x32)) ∧ mbit m x y = true) ↔
      ((∃ x, P x y ∧ mbit m x y = true) ∨ (y = y0 ∧ w ≠ 0)) := by
    intro y
    constructor
    · rintro ⟨x, hp | ⟨rfl, hx⟩, hc⟩
      · exact Or.inl ⟨x, hp, hc⟩
      · refine Or.inr ⟨rfl, fun h0 => ?_⟩
        rw [hcell x hx, h0, Nat.zero_testBit] at hc; cases hc
    · rintro (⟨x, hp, hc⟩ | ⟨rfl, hne⟩)
      · exact ⟨x, Or.inl hp, hc⟩
      · obtain ⟨l1, l2, _⟩ := lowBit_spec w hne hw32
        exact ⟨x32 * 32 + lowBit w, Or.inr ⟨rfl, div32_add l1⟩, by rw [hcell _ (div32_add l1), mod32_add l1]; exact l2⟩
  unfold WMat.enclStep
  by_cases hz : w ≠ 0
  · rw [if_pos hz]
    obtain ⟨l1, l2, l3⟩ := lowBit_spec w hz hw32
    obtain ⟨h1, h2, h3⟩ := highBit_spec w hz hw32
    have hbetween : ∀ v, v / 32 = x32 ∧ w.testBit (v % 32) = true →
        x32 * 32 + lowBit w ≤ v ∧ v ≤ x32 * 32 + highBit w := by
      intro v ⟨hv1, hv2⟩
      have a1 : ¬ v % 32 < lowBit w := fun hh => by rw [l3 _ hh] at hv2; cases hv2
      have a2 : ¬ highBit w < v % 32 := fun hh => by rw [h3 _ hh] at hv2; cases hv2
      omega
    -- the lowest cell of the word is inside the matrix: the padding is clear
    have hlw : x32 * 32 + lowBit w < m.width := by
      false_or_by_contra
      have := h.pad (x32 * 32 + lowBit w) y0 (by omega) (by omega)
      rw [hcell _ (div32_add l1), mod32_add l1, l2] at this; cases this
    have hlo := hb.left.le_top
    refine ⟨?_, ?_, (hb.top.step (T := fun y => y = y0 ∧ w ≠ 0) ⟨rfl, hz⟩ (fun v hv => by omega) hy0).congr
        fun y => (ey y).symm,
      (hb.bottom.step (T := fun y => y = y0 ∧ w ≠ 0) ⟨rfl, hz⟩ (fun v hv => by omega)).congr fun y => (ey y).symm⟩
    · -- `x32*32 < left` only skips a comparison that could not succeed
      have := (hb.left.step (T := fun x => x / 32 = x32 ∧ w.testBit (x % 32) = true)
        ⟨div32_add l1, by rw [mod32_add l1]; exact l2⟩ (fun v hv => (hbetween v hv).1) hlw).congr fun x => (ex x).symm
      have eL : (if x32 * 32 < e.left then (if x32 * 32 + lowBit w < e.left then x32 * 32 + lowBit w else e.left)
          else e.left) = if x32 * 32 + lowBit w < e.left then x32 * 32 + lowBit w else e.left := by
        split <;> split <;> omega
      show IsLo _ m.width (if x32 * 32 < e.left then
        (if x32 * 32 + lowBit w < e.left then x32 * 32 + lowBit w else e.left) else e.left)
      rw [eL]; exact this
    · have := (hb.right.step (T := fun x => x / 32 = x32 ∧ w.testBit (x % 32) = true)
        ⟨div32_add h1, by rw [mod32_add h1]; exact h2⟩ (fun v hv => (hbetween v hv).2)).congr fun x => (ex x).symm
      have eR : (if ((x32 * 32 + 31 : Nat) : Int) > e.right then
          (if ((x32 * 32 + highBit w : Nat) : Int) > e.right then ((x32 * 32 + highBit w : Nat) : Int) else e.right)
          else e.right) =
          if ((x32 * 32 + highBit w : Nat) : Int) > e.right then ((x32 * 32 + highBit w : Nat) : Int) else e.right := by
        split <;> split <;> omega
      show IsHi _ (if ((x32 * 32 + 31 : Nat) : Int) > e.right then
        (if ((x32 * 32 + highBit w : Nat) : Int) > e.right then ((x32 * 32 + highBit w : Nat) : Int) else e.right)
        else e.right)
      rw [eR]; exact this
  · rw [if_neg hz]
    have hw0 : w = 0 := by omega
    refine ⟨hb.left.congr fun x => ?_, hb.right.congr fun x => ?_, hb.top.congr fun y => ?_,
      hb.bottom.congr fun y => ?_⟩
    · rw [ex, hw0]; simp
    · rw [ex, hw0]; simp
    · rw [ey]; simp [hw0]
    · rw [ey]; simp [hw0]

theorem encl_foldl (m : WMat) (h : InvM m) (ps : List (Nat × Nat)) : ∀ (P : Nat → Nat → Prop)
    (e : WMat.Encl), Bounds (fun x y => P x y ∧ mbit m x y = true) m.width m.height e →
    (∀ p ∈ ps, p.1 < m.height ∧ p.2 < m.rowSize) →
    Bounds (fun x y => (P x y ∨ ∃ p ∈ ps, y = p.1 ∧ x / 32 = p.2) ∧ mbit m x y = true) m.width m.height
      (ps.foldl (fun e p => WMat.enclStep p.1 p.2 (m.words[p.1 * m.rowSize + p.2]?.getD 0) e) e) := by
  induction ps with
  | nil =>
    intro P e hb _
    exact hb.congr (by intro x y; simp)
  | cons p ps ih =>
    intro P e hb hin
    have hp := hin p (by simp)
    have h2 := ih _ _ (enclStep_bounds m h P e hb p.1 p.2 hp.1 hp.2) (fun q hq => hin q (by simp [hq]))
    rw [List.foldl_cons]
    refine h2.congr fun x y => and_congr_left fun _ => ?_
    simp only [List.mem_cons]
    constructor
    · rintro ((a | a) | ⟨q, hq, a⟩)
      · exact Or.inl a
      · exact Or.inr ⟨p, Or.inl rfl, a⟩
      · exact Or.inr ⟨q, Or.inr hq, a⟩
    · rintro (a | ⟨q, hq | hq, a⟩)
      · exact Or.inl (Or.inl a)
      · rw [hq] at a; exact Or.inl (Or.inr a)
      · exact Or.inr ⟨q, hq, a⟩

namespace WMat

/-- word side of `GetEnclosingRectangle`: the final state of the scan bounds the set cells of the grid -/
theorem encl_word (m : WMat) (h : InvM m) :
    ∃ e : Encl, Bounds (fun x y => (absM m).get x y = true) m.width m.height e ∧
      m.getEnclosingRectangle =
        if e.right < (e.left : Int) ∨ e.bottom < (e.top : Int) then .ok none
        else .ok (some [e.left, e.top, (e.right - e.left + 1).toNat, (e.bottom - e.top + 1).toNat]) := by
  have hwl := h.width_le
  unfold WMat.getEnclosingRectangle
  rw [foldlM_nested (fun (e : Encl) y x32 => do
      let theBits ← wordAt m.words (y * m.rowSize + x32)
      pure (enclStep y x32 theBits e))]
  generalize hps : ((List.range m.height).flatMap
    (fun a => (List.range m.rowSize).map (fun b => (a, b)))) = ps
  have hmem : ∀ p, p ∈ ps ↔ p.1 < m.height ∧ p.2 < m.rowSize := by
    intro p
    rw [← hps, mem_flatMap_pairs, List.mem_range, List.mem_range]
  rw [foldlM_pure ps _
    (fun e p => enclStep p.1 p.2 (m.words[p.1 * m.rowSize + p.2]?.getD 0) e) (by
      intro p hp e
      have hp' := (hmem p).mp hp
      have hk : p.1 * m.rowSize + p.2 < m.words.length := by
        rw [h.len]; exact row_idx_lt hp'.2 hp'.1
      rw [wordAt_ok _ _ hk, List.getElem?_eq_getElem hk]
      rfl)]
  have h0 : Bounds (fun x y => False ∧ mbit m x y = true) m.width m.height ⟨m.width, m.height, -1, -1⟩ :=
    ⟨(IsLo.init _).congr (by simp), IsHi.init.congr (by simp), (IsLo.init _).congr (by simp),
      IsHi.init.congr (by simp)⟩
  refine ⟨_, (encl_foldl m h ps _ _ h0 (fun p hp => (hmem p).mp hp)).congr fun x y => ?_, rfl⟩
  -- every word has been looked at, and the padding is clear
  rw [absM_get_true]
  constructor
  · rintro ⟨hf | ⟨p, hp, rfl, hx32⟩, hc⟩
    · exact hf.elim
    · have hp' := (hmem p).mp hp
      refine ⟨?_, hp'.1, hc⟩
      false_or_by_contra
      rw [h.pad x p.1 (by omega) (by omega)] at hc; cases hc
  · rintro ⟨hx, hy, hc⟩
    exact ⟨Or.inr ⟨(y, x / 32), (hmem _).mpr ⟨hy, by omega⟩, rfl, rfl⟩, hc⟩

end WMat

namespace SMat

theorem mem_onCells (m : SMat) (x y : Nat) : (x, y) ∈ m.onCells ↔ m.get x y = true := by
  unfold SMat.onCells SMat.get
  rw [List.mem_flatMap]
  constructor
  · rintro ⟨⟨r, y'⟩, h1, h2⟩
    have hr := List.mem_zipIdx_iff_getElem?.mp h1
    simp only at hr h2
    rw [List.mem_filterMap] at h2
    obtain ⟨⟨b, x'⟩, h3, h4⟩ := h2
    have hb := List.mem_zipIdx_iff_getElem?.mp h3
    simp only at hb h4
    cases b with
    | false => simp at h4
    | true =>
      simp only [if_true, Option.some.injEq, Prod.mk.injEq] at h4
      obtain ⟨rfl, rfl⟩ := h4
      rw [hr]; simp [hb]
  · intro hg
    cases hr : m.rows[y]? with
    | none => rw [hr] at hg; simp at hg
    | some r =>
      rw [hr] at hg
      simp only [Option.getD_some] at hg
      cases hb : r[x]? with
      | none => rw [hb] at hg; simp at hg
      | some b =>
        rw [hb] at hg
        simp only [Option.getD_some] at hg
        subst hg
        refine ⟨(r, y), List.mem_zipIdx_iff_getElem?.mpr hr, ?_⟩
        simp only
        rw [List.mem_filterMap]
        exact ⟨(true, x), List.mem_zipIdx_iff_getElem?.mpr hb, by simp⟩

/-- `minL` is the scan for a least member: one `IsLo.step` per element -/
theorem isLo_minL (xs : List Nat) : ∀ (S : Nat → Prop) (top d : Nat), IsLo S top d → (∀ x ∈ xs, x < top) →
    IsLo (fun v => S v ∨ v ∈ xs) top (minL xs d) := by
  induction xs with
  | nil => intro S top d h _; exact h.congr (by simp)
  | cons a xs ih =>
    intro S top d h hin
    unfold minL
    refine (ih _ top _ (h.step (T := fun v => v = a) rfl (fun v hv => Nat.le_of_eq hv.symm) (hin a (by simp)))
      (fun x hx => hin x (by simp [hx]))).congr fun v => ?_
    rw [List.mem_cons, or_assoc]

theorem isHi_maxL (xs : List Nat) : ∀ (S : Nat → Prop) (d : Nat), IsHi S (d : Int) →
    IsHi (fun v => S v ∨ v ∈ xs) (maxL xs d : Nat) := by
  induction xs with
  | nil => intro S d h; exact h.congr (by simp)
  | cons a xs ih =>
    intro S d h
    unfold maxL
    have e : (if (a : Int) > (d : Int) then (a : Int) else (d : Int)) = ((if a > d then a else d : Nat) : Int) := by
      split <;> split <;> omega
    have hs := h.step (T := fun v => v = a) rfl (fun v hv => Nat.le_of_eq hv)
    rw [e] at hs
    refine (ih _ _ hs).congr fun v => ?_
    rw [List.mem_cons, or_assoc]

theorem encl_spec (m : SMat) (w h : Nat) (hin : ∀ x y, m.get x y = true → x < w ∧ y < h) :
    match m.enclosingRectangle with
    | none => ∀ x y, m.get x y = false
    | some p => ∃ l t r b : Nat, p = [l, t, r - l + 1, b - t + 1] ∧
        Bounds (fun x y => m.get x y = true) w h ⟨l, t, r, b⟩ := by
  unfold SMat.enclosingRectangle
  cases hcs : m.onCells with
  | nil =>
    simp only
    intro x y
    cases hg : m.get x y with
    | false => rfl
    | true =>
      have := (mem_onCells m x y).mpr hg
      rw [hcs] at this; cases this
  | cons c cs =>
    obtain ⟨x0, y0⟩ := c
    simp only
    have hmem : ∀ x y, m.get x y = true ↔ ((x, y) = (x0, y0) ∨ (x, y) ∈ cs) := by
      intro x y
      rw [← mem_onCells, hcs, List.mem_cons]
    have h0 := hin x0 y0 ((hmem x0 y0).mpr (Or.inl rfl))
    have hcs1 : ∀ x ∈ cs.map (·.1), x < w := by
      intro x hx
      obtain ⟨p, hp, rfl⟩ := List.mem_map.mp hx
      exact (hin p.1 p.2 ((hmem p.1 p.2).mpr (Or.inr hp))).1
    have hcs2 : ∀ y ∈ cs.map (·.2), y < h := by
      intro y hy
      obtain ⟨p, hp, rfl⟩ := List.mem_map.mp hy
      exact (hin p.1 p.2 ((hmem p.1 p.2).mpr (Or.inr hp))).2
    -- the columns and the rows of the listed cells are those that hold a set cell
    have hcol : ∀ x, (x = x0 ∨ x ∈ cs.map (·.1)) ↔ ∃ y, m.get x y = true := by
      intro x
      constructor
      · rintro (rfl | hx)
        · exact ⟨y0, (hmem x y0).mpr (Or.inl rfl)⟩
        · obtain ⟨p, hp, rfl⟩ := List.mem_map.mp hx
          exact ⟨p.2, (hmem p.1 p.2).mpr (Or.inr hp)⟩
      · rintro ⟨y, hg⟩
        rcases (hmem x y).mp hg with e | e
        · exact Or.inl (congrArg Prod.fst e)
        · exact Or.inr (List.mem_map.mpr ⟨(x, y), e, rfl⟩)
    have hrow : ∀ y, (y = y0 ∨ y ∈ cs.map (·.2)) ↔ ∃ x, m.get x y = true := by
      intro y
      constructor
      · rintro (rfl | hy)
        · exact ⟨x0, (hmem x0 y).mpr (Or.inl rfl)⟩
        · obtain ⟨p, hp, rfl⟩ := List.mem_map.mp hy
          exact ⟨p.1, (hmem p.1 p.2).mpr (Or.inr hp)⟩
      · rintro ⟨x, hg⟩
        rcases (hmem x y).mp hg with e | e
        · exact Or.inl (congrArg Prod.snd e)
        · exact Or.inr (List.mem_map.mpr ⟨(x, y), e, rfl⟩)
    exact ⟨_, _, _, _, rfl, (isLo_minL _ _ w x0 (IsLo.single h0.1) hcs1).congr hcol,
      (isHi_maxL _ _ x0 (IsHi.single x0)).congr hcol, (isLo_minL _ _ h y0 (IsLo.single h0.2) hcs2).congr hrow,
      (isHi_maxL _ _ y0 (IsHi.single y0)).congr hrow⟩

end SMat

namespace WMat

/-- `GetEnclosingRectangle()`: both sides hold the bounds of the same set of cells -/
theorem encl_refines (m : WMat) (h : InvM m) :
    m.getEnclosingRectangle = .ok (absM m).enclosingRectangle := by
  obtain ⟨e, hb, he⟩ := encl_word m h
  have hs := SMat.encl_spec (absM m) m.width m.height fun x y hg =>
    ⟨((absM_get_true m x y).mp hg).1, ((absM_get_true m x y).mp hg).2.1⟩
  rw [he]
  split at hs
  · rename_i heq
    -- no set cell: `right` is still `-1`
    have : ¬ 0 ≤ e.right := fun c => by
      obtain ⟨y, hy⟩ := hb.right.mem c
      rw [hs] at hy; cases hy
    rw [heq, if_pos (Or.inl (by omega))]
  · rename_i p heq
    obtain ⟨l, t, r, b, rfl, hb'⟩ := hs
    have := hb.unique hb'
    subst this
    -- a greatest column and a greatest row exist, so `l ≤ r` and `t ≤ b`
    obtain ⟨y, hy⟩ := hb'.right.mem (Int.natCast_nonneg r)
    obtain ⟨x, hx⟩ := hb'.bottom.mem (Int.natCast_nonneg b)
    have hlr : l ≤ r := by have := hb'.left.le _ ⟨y, hy⟩; simpa using this
    have htb : t ≤ b := by have := hb'.top.le _ ⟨x, hx⟩; simpa using this
    have e3 : ((r : Int) - (l : Int) + 1).toNat = r - l + 1 := by omega
    have e4 : ((b : Int) - (t : Int) + 1).toNat = b - t + 1 := by omega
    rw [heq]
    show (if (r : Int) < (l : Int) ∨ (b : Int) < (t : Int) then _ else _) = _
    rw [if_neg (by omega), e3, e4]

end WMat

end Gzx.Bits
