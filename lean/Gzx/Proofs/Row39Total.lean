/-
  Helper lemmas for Properties/C06Row39.lean: every index expression of the Code 39 / Code 93 /
  Codabar row-decoder models (Gzx/Model/OneDRow39.lean) stays in range, on EVERY row.
  `Sat E P r` (Gzx.Det, rules in Proofs/Sat.lean): `r` is a value satisfying `P` or an error allowed by `E`.
-/
import Gzx.Model.OneDRow39
import Gzx.Model.DetCore
import Gzx.Proofs.OneDPost
import Gzx.Proofs.CheckDigit
import Gzx.Proofs.OneD
import Gzx.Proofs.Row128Total
namespace Gzx.Row39
open Gzx Gzx.OneD Gzx.Det
open Gzx.Row128 (genLoop genLoop_sat incrChk)
open Gzx.CheckDigit (indexOf? indexOf?_lt indexOf?_get indexOf?_none)

abbrev Any {α : Type} : α → Prop := fun _ => True

theorem sat_ok {α : Type} {E : Fault → Prop} {P : α → Prop} {a : α} (h : P a) : Sat E P (.ok a : Res α) := h
theorem sat_err {α : Type} {E : Fault → Prop} {P : α → Prop} {e : Fault} (h : E e) : Sat E P (.error e : Res α) := h

/-! ## the shared start-pattern search -/

/-- what the Code 39 / Code 93 search does when its window is full -/
def checkStar (accept : List Nat → Nat → Nat → Res Bool) (ps i : Nat) (cs : List Nat) : Res (Option (Nat × Nat)) :=
  match accept cs ps i with
  | .error e => .error e
  | .ok true => .ok (some (ps, i))
  | .ok false => .ok none

/-- `starLoop` is the window loop wherever it does not panic: the two differ in the texts of their panics and in
    `genLoop`'s slice-bound test, which a window of three or more counters passes -/
theorem starLoop_eq_gen (accept : List Nat → Nat → Nat → Res Bool) :
    ∀ (bs : List Bool) (x : Nat) (cs : List Nat) (pos ps : Nat) (w : Bool), 3 ≤ cs.length → pos < cs.length →
      starLoop accept bs x cs pos ps w = genLoop cs.length (checkStar accept) bs x cs pos ps w
  | [], _, _, _, _, _, _, _ => rfl
  | b :: bs, x, cs, pos, ps, w, h3, hp => by
    unfold starLoop genLoop
    by_cases hb : (b != w) = true
    · rw [if_pos hb, if_pos hb, if_pos hp]
      simp only [incrChk, hp, if_true]
      have := starLoop_eq_gen accept bs (x + 1) (incrAt cs pos) pos ps w
        (by rw [incrAt_length]; exact h3) (by rw [incrAt_length]; exact hp)
      rw [incrAt_length] at this
      exact this
    · rw [if_neg hb, if_neg hb]
      by_cases hlast : pos + 1 = cs.length
      · rw [if_pos hlast, if_pos hlast]
        obtain ⟨c0, c1, tl, rfl⟩ : ∃ c0 c1 tl, cs = c0 :: c1 :: tl := by
          match cs, h3 with
          | c0 :: c1 :: tl, _ => exact ⟨c0, c1, tl, rfl⟩
        cases ha : accept (c0 :: c1 :: tl) ps x with
        | error e => simp only [checkStar, ha]
        | ok t =>
          cases t with
          | true => simp only [checkStar, ha]
          | false =>
            simp only [checkStar, ha]
            rw [if_neg (by simp only [List.length_cons] at hlast h3; omega)]
            have := starLoop_eq_gen accept bs (x + 1) (tl ++ [1, 0]) (pos - 1) (ps + c0 + c1) (!w)
              (by simp only [List.length_cons, List.length_append, List.length_nil] at h3 ⊢; omega) (by simp only [List.length_cons, List.length_append, List.length_nil] at hlast h3 ⊢; omega)
            rw [this]
            simp
      · rw [if_neg hlast, if_neg hlast]
        rw [if_pos (by omega), if_pos (by omega)]
        have := starLoop_eq_gen accept bs (x + 1) (cs.set (pos + 1) 1) (pos + 1) ps (!w)
          (by rw [List.length_set]; exact h3) (by rw [List.length_set]; omega)
        rw [List.length_set] at this
        exact this

/-- the search loop never leaves its counter slice; `accept` is only ever asked about counters that are at most
    `N` = the row length (each counter counts pixels of the row) -/
theorem starLoop_sat {E : Fault → Prop} (hnf : E .notFound) (N : Nat)
    (accept : List Nat → Nat → Nat → Res Bool)
    (hacc : ∀ cs ps x, (∀ c ∈ cs, c ≤ N) → Sat E Any (accept cs ps x))
    (bs : List Bool) (x : Nat) (cs : List Nat) (pos ps : Nat) (w : Bool)
    (h3 : 3 ≤ cs.length) (hp : pos < cs.length) (hN : x + bs.length = N) (hs : ps + sumL cs ≤ x) :
    Sat E Any (starLoop accept bs x cs pos ps w) := by
  rw [starLoop_eq_gen accept bs x cs pos ps w h3 hp]
  refine genLoop_sat hnf _ N 0 h3 _ ?_ bs x cs pos ps w rfl hp hN hs (by omega)
  intro ps x cs' _ hs _ hx
  unfold checkStar
  refine Sat.step _ (hacc cs' ps x (fun c hc => by have := Row128.mem_le_sumL cs' c hc; omega)) (fun _ h => h)
    (fun t _ => ?_)
  cases t <;> intro r _ <;> trivial

/-! ## Code 39 -/

theorem c39PatternLoop_sat {E : Fault → Prop} (hf : E .fuel) (cs : List Nat) :
    ∀ (fuel m : Nat), Sat E Any (c39PatternLoop cs fuel m)
  | 0, _ => by unfold c39PatternLoop; exact hf
  | fuel + 1, m => by
    unfold c39PatternLoop
    simp only []
    split
    · split <;> trivial
    · split
      · exact c39PatternLoop_sat hf cs fuel _
      · trivial

theorem c39Pattern_sat {E : Fault → Prop} (hf : E .fuel) (cs : List Nat) : Sat E Any (c39Pattern cs) :=
  c39PatternLoop_sat hf cs _ _

theorem c39Accept_sat' {E : Fault → Prop} (T : Tables) (row : List Bool) (cs : List Nat) (ps i : Nat)
    (h : Sat E Any (c39Pattern cs)) : Sat E Any (c39Accept T row cs ps i) := by
  unfold c39Accept
  refine Sat.step _ h (fun _ he => he) (fun p _ => ?_)
  simp only []
  split <;> trivial

theorem c39Accept_sat {E : Fault → Prop} (hf : E .fuel) (T : Tables) (row : List Bool) (cs : List Nat) (ps i : Nat) :
    Sat E Any (c39Accept T row cs ps i) :=
  c39Accept_sat' T row cs ps i (c39Pattern_sat hf cs)

theorem c39FindAsterisk_sat {E : Fault → Prop} (hnf : E .notFound) (T : Tables) (row : List Bool)
    (hpat : ∀ cs, (∀ c ∈ cs, c ≤ row.length) → Sat E Any (c39Pattern cs)) :
    Sat E Any (c39FindAsterisk T row) := by
  unfold c39FindAsterisk
  have hoff := Row128.getNextSet_le row 0
  exact starLoop_sat hnf row.length _ (fun cs ps x hb => c39Accept_sat' T row cs ps x (hpat cs hb)) _ _ _ _ _ _
    (by simp) (by simp) (by rw [List.length_drop]; omega) (by rw [Row128.sumL_replicate_zero]; omega)

/-- table facts the Code 39 reader relies on: an alphabet entry for every encoding, 43 entries for the check character -/
def WF39 (T : Tables) : Bool :=
  decide (T.code39Enc.length ≤ T.code39Alphabet.length) && decide (43 ≤ T.code39Alphabet.length)

theorem WF39_iff (T : Tables) :
    WF39 T = true ↔ T.code39Enc.length ≤ T.code39Alphabet.length ∧ 43 ≤ T.code39Alphabet.length := by
  simp only [WF39, Bool.and_eq_true, decide_eq_true_eq]

theorem c39Char_sat {E : Fault → Prop} (hnf : E .notFound) (T : Tables) (hT : WF39 T = true) (p : Nat) :
    Sat E (fun ch => ch = 42 ∨ ch ∈ T.code39Alphabet) (c39Char T p) := by
  unfold c39Char
  rw [WF39_iff] at hT
  cases hi : indexOf? p T.code39Enc with
  | some i =>
    simp only []
    have hlt := indexOf?_lt hi
    rw [nth_ok _ i (by omega)]
    exact Or.inr (List.getElem_mem _)
  | none =>
    simp only []
    split
    · exact Or.inl rfl
    · exact hnf

theorem wrapNotFound_sat {α : Type} {E : Fault → Prop} (hnf : E .notFound) (hf : E .fuel) (r : Res α)
    (hr : ∀ w, r ≠ .error (.panic w)) : Sat E Any (wrapNotFound r) := by
  cases r with
  | ok a => trivial
  | error e =>
    cases e with
    | panic w => exact absurd rfl (hr w)
    | fuel => exact hf
    | notFound => exact hnf
    | checksum => exact hnf
    | format => exact hnf
    | illegalArg => exact hnf
    | writer => exact hnf

theorem wrapNotFound_eq {α : Type} (r : Res α) : wrapNotFound r = Row128.wrapNF r := by
  cases r with
  | ok a => rfl
  | error e => cases e <;> rfl

theorem wrapNotFound_ok {α : Type} {r : Res α} {a : α} (h : wrapNotFound r = .ok a) : r = .ok a := by
  cases r with
  | ok b => simpa [wrapNotFound] using h
  | error e => cases e <;> simp [wrapNotFound] at h

/-! ## run lengths, RecordPattern, GetNextSet: bounds -/

theorem runs_sum (l : List Bool) : RunLength.sumL (RunLength.runs l) = l.length := Properties.C20.runs_sum l

theorem runs_pos (l : List Bool) : ∀ r ∈ RunLength.runs l, 0 < r := Properties.C20.runs_pos l

/-- `WrapNotFoundException(RecordPattern(…))`: the counters with their bounds, or NotFound -/
theorem wrapRecord_sat {E : Fault → Prop} (hnf : E .notFound) (row : List Bool) (start n : Nat) (hn : 0 < n) :
    Sat E (fun cs => cs.length = n ∧ 1 ≤ sumL cs ∧ start + sumL cs ≤ row.length ∧ (∀ c ∈ cs, 0 < c) ∧
        (∀ c ∈ cs, c ≤ row.length)) (wrapNotFound (RunLength.recordPattern row start n)) := by
  rw [wrapNotFound_eq]
  refine (Row128.wrapRecord_sat row start n hn).mono (fun e he => he ▸ hnf) ?_
  intro cs ⟨hl, hn', hin, hpos⟩
  exact ⟨hl, by omega, hin, hpos, fun c hc => by have := Row128.mem_le_sumL cs c hc; omega⟩

/-! ## the character loop of Code 39 and Code 93 -/

/-- `for { RecordPattern(row, nextStart, counters[:n]); ch := classify(counters); nextStart = GetNextSet(…); if ch == '*' break }`:
    `c39Loop` and `c93Loop` are this loop at `n = 9` resp. `6` -/
def charLoop (n : Nat) (classify : List Nat → Res Nat) (row : List Bool) :
    Nat → Nat → List Nat → Res (List Nat × Nat × Nat × Nat)
  | 0, _, _ => .error .fuel
  | fuel + 1, nextStart, acc =>
    match wrapNotFound (RunLength.recordPattern row nextStart n) with
    | .error e => .error e
    | .ok cs =>
      match classify cs with
      | .error e => .error e
      | .ok ch =>
        let next := getNextSet row (nextStart + sumL cs)
        if ch = 42 then .ok (acc.reverse, nextStart, sumL cs, next)
        else charLoop n classify row fuel next (ch :: acc)

def classify39 (T : Tables) (cs : List Nat) : Res Nat :=
  match c39Pattern cs with
  | .error e => .error e
  | .ok none => .error .notFound
  | .ok (some p) => c39Char T p

def classify93 (T : Tables) (cs : List Nat) : Res Nat :=
  match c93Pattern cs with
  | none => .error .notFound
  | some p => c93Char T p

theorem c39Loop_eq (T : Tables) (row : List Bool) : ∀ (fuel ns : Nat) (acc : List Nat),
    c39Loop T row fuel ns acc = charLoop 9 (classify39 T) row fuel ns acc
  | 0, _, _ => rfl
  | fuel + 1, ns, acc => by
    unfold c39Loop charLoop classify39
    cases wrapNotFound (RunLength.recordPattern row ns 9) with
    | error e => rfl
    | ok cs =>
      simp only []
      cases c39Pattern cs with
      | error e => rfl
      | ok o =>
        cases o with
        | none => rfl
        | some p =>
          simp only []
          cases c39Char T p with
          | error e => rfl
          | ok ch =>
            simp only []
            split
            · rfl
            · exact c39Loop_eq T row fuel _ _

theorem c93Loop_eq (T : Tables) (row : List Bool) : ∀ (fuel ns : Nat) (acc : List Nat),
    c93Loop T row fuel ns acc = charLoop 6 (classify93 T) row fuel ns acc
  | 0, _, _ => rfl
  | fuel + 1, ns, acc => by
    unfold c93Loop charLoop classify93
    cases wrapNotFound (RunLength.recordPattern row ns 6) with
    | error e => rfl
    | ok cs =>
      simp only []
      cases c93Pattern cs with
      | none => rfl
      | some p =>
        simp only []
        cases c93Char T p with
        | error e => rfl
        | ok ch =>
          simp only []
          split
          · rfl
          · exact c93Loop_eq T row fuel _ _

/-- the loop stays inside the row, ends within `row.length + 1` rounds (each consumes a pixel), and collects only
    what `classify` yields; `classify` is only asked about `n` counters bounded by the row length -/
theorem charLoop_sat {E : Fault → Prop} (hnf : E .notFound) (n : Nat) (hn : 0 < n) (classify : List Nat → Res Nat)
    (A : Nat → Prop) (row : List Bool)
    (hcl : ∀ cs, cs.length = n → (∀ c ∈ cs, c ≤ row.length) → Sat E (fun ch => ch = 42 ∨ A ch) (classify cs))
    (fuel nextStart : Nat) (acc : List Nat) : nextStart ≤ row.length → row.length + 1 ≤ nextStart + fuel →
      (∀ c ∈ acc, A c) →
      Sat E (fun r => (∀ c ∈ r.1, A c) ∧ r.2.2.2 ≤ row.length) (charLoop n classify row fuel nextStart acc) := by
  fun_induction charLoop n classify row fuel nextStart acc with
  | case1 => intros; omega
  | case2 fuel nextStart acc e he =>
    intros; have := wrapRecord_sat (E := E) hnf row nextStart n hn; rw [he] at this; exact this
  | case3 fuel nextStart acc cs hcs e he =>
    intros
    have hw := wrapRecord_sat (E := E) hnf row nextStart n hn
    rw [hcs] at hw
    have := hcl cs hw.1 hw.2.2.2.2; rw [he] at this; exact this
  | case4 fuel nextStart acc cs hcs hch next =>
    intro _ _ hacc
    exact ⟨fun c hcm => hacc c (by simpa using hcm), Row128.getNextSet_le row _⟩
  | case5 fuel nextStart acc cs hcs ch hch next h42 ih =>
    intro hle hfuel hacc
    have hw := wrapRecord_sat (E := E) hnf row nextStart n hn
    rw [hcs] at hw
    have hge := Row128.getNextSet_ge row (nextStart + sumL cs) hw.2.2.1
    have hc := hcl cs hw.1 hw.2.2.2.2
    rw [hch] at hc
    refine ih (Row128.getNextSet_le row _) (by have := hw.2.1; omega) ?_
    intro c hcm
    rcases List.mem_cons.mp hcm with h1 | h1
    · subst h1; exact hc.resolve_left h42
    · exact hacc c h1

theorem c39Ext_sat {E : Fault → Prop} (hfm : E .format) (s acc : List Nat) : Sat E Any (OneDPost.c39Ext s acc) := by
  fun_induction OneDPost.c39Ext s acc <;> first | trivial | exact hfm | assumption

theorem c39Finish_sat {E : Fault → Prop} (hnf : E .notFound) (hck : E .checksum) (hfm : E .format)
    (A : List Nat) (hA : 43 ≤ A.length) (ck ext : Bool) (s : List Nat) (hs : ∀ c ∈ s, c ∈ A) :
    Sat E Any (c39Finish A ck ext s) := by
  unfold c39Finish
  by_cases h0 : s.length = 0
  · rw [if_pos h0]; exact hnf
  · rw [if_neg h0]
    have hext : ∀ s' : List Nat, Sat E Any (if s'.length = 0 then (.error .notFound : Res (List Nat))
        else if ext = true then OneDPost.c39Ext s' [] else .ok s') := by
      intro s'
      split
      · exact hnf
      · split
        · exact c39Ext_sat hfm s' []
        · trivial
    cases ck with
    | false => simp only [Bool.false_eq_true, if_false]; exact hext s
    | true =>
      simp only [if_true]
      rw [nth_ok s (s.length - 1) (by omega)]
      have htot : 0 ≤ OneDPost.sumIdx A (s.take (s.length - 1)) :=
        OneDPost.sumIdx_nonneg _ _ (fun c hc => hs c (List.mem_of_mem_take hc))
      obtain ⟨want, hw⟩ := OneDPost.alphaAt_tmod_ok A 43 hA (by omega) _ htot
      have hw' : OneDPost.alphaAt A (Int.tmod (OneDPost.sumIdx A (s.take (s.length - 1))) 43) = .ok want := hw
      rw [hw']
      simp only []
      by_cases hne : s[s.length - 1] ≠ want
      · rw [if_pos hne]; exact hck
      · rw [if_neg hne]; exact hext _

/-- Code 39 `DecodeRow`: allowed errors `E` ⊇ {NotFound, Checksum, Format} ∪ whatever the classifier may report
    on counters bounded by the row length -/
theorem c39DecodeRow_sat {E : Fault → Prop} (hnf : E .notFound) (hck : E .checksum) (hfm : E .format)
    (T : Tables) (hT : WF39 T = true) (ck ext : Bool) (row : List Bool)
    (hpat : ∀ cs, (∀ c ∈ cs, c ≤ row.length) → Sat E Any (c39Pattern cs)) :
    Sat E Any (c39DecodeRow T ck ext row) := by
  unfold c39DecodeRow
  refine Sat.step _ (c39FindAsterisk_sat hnf T row hpat) (fun _ h => h) (fun se _ => ?_)
  obtain ⟨startLeft, startRight⟩ := se
  simp only []
  rw [c39Loop_eq]
  refine Sat.step _ (charLoop_sat hnf 9 (by omega) (classify39 T) (· ∈ T.code39Alphabet) row ?_ (row.length + 1)
    (getNextSet row startRight) [] (Row128.getNextSet_le _ _) (by omega) (by simp)) (fun _ h => h) (fun r hl => ?_)
  · intro cs _ hb
    unfold classify39
    refine Sat.step _ (hpat cs hb) (fun _ h => h) (fun o _ => ?_)
    cases o with
    | none => exact hnf
    | some p => exact c39Char_sat (E := E) hnf T hT p
  obtain ⟨result, lastStart, lastSize, next⟩ := r
  simp only []
  split
  · exact hnf
  · exact Sat.step _ (c39Finish_sat hnf hck hfm T.code39Alphabet ((WF39_iff T).1 hT).2 ck ext result hl.1)
      (fun _ h => h) (fun _ _ => trivial)

/-! ## Code 93 -/

/-- table facts the Code 93 reader relies on: entry 47 (the asterisk) exists, an alphabet entry for every
    encoding, 47 entries for the check characters -/
def WF93 (T : Tables) : Bool :=
  decide (48 ≤ T.code93Enc.length) && decide (T.code93Enc.length ≤ T.code93Alphabet.length) &&
    decide (47 ≤ T.code93Alphabet.length)

theorem WF93_iff (T : Tables) :
    WF93 T = true ↔ (48 ≤ T.code93Enc.length ∧ T.code93Enc.length ≤ T.code93Alphabet.length) ∧
      47 ≤ T.code93Alphabet.length := by
  simp only [WF93, Bool.and_eq_true, decide_eq_true_eq]

theorem c93FindAsterisk_sat {E : Fault → Prop} (hnf : E .notFound) (star : Nat) (row : List Bool) :
    Sat E Any (c93FindAsterisk star row) := by
  unfold c93FindAsterisk
  have hoff := Row128.getNextSet_le row 0
  exact starLoop_sat hnf row.length _ (fun cs ps x _ => by unfold c93Accept; trivial) _ _ _ _ _ _
    (by simp) (by simp) (by rw [List.length_drop]; omega) (by rw [Row128.sumL_replicate_zero]; omega)

theorem c93Char_sat {E : Fault → Prop} (hnf : E .notFound) (T : Tables) (hT : WF93 T = true) (p : Nat) :
    Sat E (fun ch => ch ∈ T.code93Alphabet) (c93Char T p) := by
  unfold c93Char
  rw [WF93_iff] at hT
  cases hi : indexOf? p T.code93Enc with
  | some i =>
    simp only []
    have hlt := indexOf?_lt hi
    rw [nth_ok _ i (by omega)]
    exact List.getElem_mem _
  | none => exact hnf


theorem c93Weighted_nonneg (A : List Nat) (wm : Nat) (s : List Nat) (h : ∀ c ∈ s, c ∈ A) (w : Nat) (t : Int)
    (ht : 0 ≤ t) : 0 ≤ c93Weighted A wm s w t := by
  induction s generalizing w t with
  | nil => simpa [c93Weighted] using ht
  | cons c rest ih =>
    simp only [c93Weighted]
    apply ih (fun x hx => h x (by simp [hx]))
    have h1 := OneDPost.indexOf_nonneg A c (h c (by simp))
    have h2 : 0 ≤ (w : Int) * OneDPost.indexOf A c := Int.mul_nonneg (by omega) h1
    omega

theorem c93CheckOne_sat {E : Fault → Prop} (hck : E .checksum) (A : List Nat) (hA : 47 ≤ A.length)
    (s : List Nat) (hs : ∀ c ∈ s, c ∈ A) (pos wm : Nat) (hp : pos < s.length) :
    Sat E Any (c93CheckOne A s pos wm) := by
  unfold c93CheckOne
  rw [nth_ok s pos hp]
  have htot : 0 ≤ c93Weighted A wm (s.take pos).reverse 1 0 :=
    c93Weighted_nonneg A wm _ (fun c hc => hs c (List.mem_of_mem_take (List.mem_reverse.mp hc))) 1 0 (by omega)
  obtain ⟨want, hw⟩ := OneDPost.alphaAt_tmod_ok A 47 hA (by omega) _ htot
  have hw' : OneDPost.alphaAt A (Int.tmod (c93Weighted A wm (s.take pos).reverse 1 0) 47) = .ok want := hw
  simp only []
  rw [hw']
  simp only []
  split
  · exact hck
  · trivial

theorem c93Ext_sat {E : Fault → Prop} (hfm : E .format) (s acc : List Nat) : Sat E Any (OneDPost.c93Ext s acc) := by
  fun_induction OneDPost.c93Ext s acc <;> first | trivial | exact hfm | assumption

theorem c93Finish_sat {E : Fault → Prop} (hnf : E .notFound) (hck : E .checksum) (hfm : E .format)
    (A : List Nat) (hA : 47 ≤ A.length) (s : List Nat) (hs : ∀ c ∈ s, c ∈ A) :
    Sat E Any (c93Finish A s) := by
  unfold c93Finish
  split
  · exact hnf
  · refine Sat.step _ (c93CheckOne_sat hck A hA s hs (s.length - 2) 20 (by omega)) (fun _ h => h) (fun _ _ => ?_)
    refine Sat.step _ (c93CheckOne_sat hck A hA s hs (s.length - 1) 15 (by omega)) (fun _ h => h) (fun _ _ => ?_)
    exact c93Ext_sat hfm _ _

theorem c93DecodeRow_sat {E : Fault → Prop} (hnf : E .notFound) (hck : E .checksum) (hfm : E .format)
    (T : Tables) (hT : WF93 T = true) (row : List Bool) : Sat E Any (c93DecodeRow T row) := by
  unfold c93DecodeRow
  have hT' := (WF93_iff T).1 hT
  rw [nth_ok T.code93Enc 47 (by omega)]
  simp only []
  refine Sat.step _ (c93FindAsterisk_sat (E := E) hnf T.code93Enc[47] row) (fun _ h => h) (fun se _ => ?_)
  obtain ⟨startLeft, startRight⟩ := se
  simp only []
  rw [c93Loop_eq]
  refine Sat.step _ (charLoop_sat hnf 6 (by omega) (classify93 T) (· ∈ T.code93Alphabet) row ?_ (row.length + 1)
    (getNextSet row startRight) [] (Row128.getNextSet_le _ _) (by omega) (by simp)) (fun _ h => h) (fun r hl => ?_)
  · intro cs _ _
    unfold classify93
    cases c93Pattern cs with
    | none => exact hnf
    | some p => exact (c93Char_sat (E := E) hnf T hT p).post fun _ h => Or.inr h
  obtain ⟨result, lastStart, lastSize, next⟩ := r
  obtain ⟨hres, hnext⟩ := hl
  simp only [] at hnext ⊢
  by_cases hend : next = row.length
  · rw [if_pos hend]; exact hnf
  · rw [if_neg hend, rowGet, nth_ok row next (by omega)]
    simp only [Except.map]
    cases !row[next]'(by omega) with
    | true => exact hnf
    | false =>
      exact Sat.step _ (c93Finish_sat hnf hck hfm T.code93Alphabet hT'.2 result hres) (fun _ h => h)
        (fun _ _ => trivial)

/-! ## Codabar -/

/-- table fact the Codabar reader relies on: an alphabet character for every encoding -/
def WFCbRead (T : Tables) : Bool := decide (T.codabarEnc.length ≤ T.codabarAlphabet.length)

theorem WFCbRead_iff (T : Tables) : WFCbRead T = true ↔ T.codabarEnc.length ≤ T.codabarAlphabet.length := by
  simp only [WFCbRead, decide_eq_true_eq]

theorem len7 {α : Type} (l : List α) (h : l.length = 7) : ∃ a b c d e f g, l = [a, b, c, d, e, f, g] := by
  match l, h with
  | [a, b, c, d, e, f, g], _ => exact ⟨a, b, c, d, e, f, g, rfl⟩

theorem cbToNarrowWide_sat {E : Fault → Prop} (T : Tables) (cs : List Nat) (position : Nat) :
    Sat E (fun o => ∀ off, o = some off → off < T.codabarEnc.length ∧ position + 7 < cs.length)
      (cbToNarrowWide T cs position) := by
  unfold cbToNarrowWide
  by_cases hg : position + 7 ≥ cs.length
  · rw [if_pos hg]; intro off h; cases h
  · rw [if_neg hg]
    have hl : ((cs.drop position).take 7).length = 7 := by
      rw [List.length_take, List.length_drop]; omega
    obtain ⟨a, b, c, d, e, f, g, hw⟩ := len7 _ hl
    rw [hw]
    simp only []
    intro off h
    exact ⟨indexOf?_lt h, by omega⟩

theorem cbIsStartEnd_sat {E : Fault → Prop} (T : Tables) (hT : WFCbRead T = true) (off : Nat)
    (h : off < T.codabarEnc.length) : Sat E Any (cbIsStartEnd T off) := by
  unfold cbIsStartEnd
  rw [WFCbRead_iff] at hT
  rw [nth_ok _ off (by omega)]
  trivial

theorem sumRange_ok (cs : List Nat) (a b : Nat) (h : b ≤ cs.length) : ∃ v, sumRange cs a b = .ok v := by
  unfold sumRange
  rw [if_neg (by omega)]
  exact ⟨_, rfl⟩

theorem nthI_ok (cs : List Nat) (i : Int) (h0 : 0 ≤ i) (h1 : i.toNat < cs.length) : ∃ v, nthI cs i = .ok v := by
  unfold nthI
  rw [if_neg (by omega), nth_ok cs i.toNat h1]
  exact ⟨_, rfl⟩

theorem cbFindStartLoop_sat {E : Fault → Prop} (hnf : E .notFound) (T : Tables) (hT : WFCbRead T = true)
    (cs : List Nat) :
    ∀ (ps : List Nat), (∀ i ∈ ps, 1 ≤ i) →
      Sat E (fun start => 1 ≤ start ∧ start + 7 < cs.length) (cbFindStartLoop T cs ps)
  | [], _ => by unfold cbFindStartLoop; exact hnf
  | i :: rest, hps => by
    unfold cbFindStartLoop
    have hi : 1 ≤ i := hps i (by simp)
    have hrest := cbFindStartLoop_sat hnf T hT cs rest (fun j hj => hps j (by simp [hj]))
    refine Sat.step _ (cbToNarrowWide_sat (E := E) T cs i) (fun _ h => h) (fun o hnw => ?_)
    cases o with
    | none => exact hrest
    | some off =>
      obtain ⟨hoff, hlen⟩ := hnw off rfl
      simp only []
      refine Sat.step _ (cbIsStartEnd_sat (E := E) T hT off hoff) (fun _ h => h) (fun t _ => ?_)
      cases t with
      | false => exact hrest
      | true =>
        simp only []
        obtain ⟨v, hv⟩ := sumRange_ok cs i (i + 7) (by omega)
        rw [hv]
        simp only []
        split
        · exact ⟨by omega, by omega⟩
        · obtain ⟨bf, hbf⟩ := nthI_ok cs ((i : Int) - 1) (by omega) (by omega)
          rw [hbf]
          simp only []
          split
          · exact ⟨hi, hlen⟩
          · exact hrest

theorem cbFindStart_sat {E : Fault → Prop} (hnf : E .notFound) (T : Tables) (hT : WFCbRead T = true)
    (cs : List Nat) : Sat E (fun start => 1 ≤ start ∧ start + 7 < cs.length) (cbFindStart T cs) := by
  unfold cbFindStart
  apply cbFindStartLoop_sat hnf T hT cs
  intro i hi
  obtain ⟨k, _, rfl⟩ := List.mem_map.mp hi
  omega

theorem cbCharLoop_sat {E : Fault → Prop} (hnf : E .notFound) (T : Tables) (hT : WFCbRead T = true)
    (cs : List Nat) (start : Nat) :
    ∀ (fuel nextStart : Nat) (acc : List Nat), nextStart ≤ cs.length → cs.length + 1 ≤ nextStart + fuel →
      nextStart = start + 8 * acc.length → (∀ r ∈ acc, r < T.codabarEnc.length) →
      (acc ≠ [] ∨ nextStart < cs.length) →
      Sat E (fun r => r.1 ≠ [] ∧ r.2 = start + 8 * r.1.length ∧ r.2 ≤ cs.length ∧
          ∀ x ∈ r.1, x < T.codabarEnc.length) (cbCharLoop T cs fuel nextStart acc)
  | 0, _, _, hle, hfuel, _, _, _ => by omega
  | fuel + 1, nextStart, acc, hle, hfuel, hpos, hacc, hne => by
    unfold cbCharLoop
    by_cases hlt : nextStart < cs.length
    · rw [if_pos hlt]
      refine Sat.step _ (cbToNarrowWide_sat (E := E) T cs nextStart) (fun _ h => h) (fun o hnw => ?_)
      cases o with
      | none => exact hnf
      | some off =>
        obtain ⟨hoff, hlen⟩ := hnw off rfl
        simp only []
        have hmod : off % 256 < T.codabarEnc.length := Nat.lt_of_le_of_lt (Nat.mod_le _ _) hoff
        have hacc' : ∀ r ∈ (off % 256) :: acc, r < T.codabarEnc.length := by
          intro r hr
          rcases List.mem_cons.mp hr with h1 | h1
          · omega
          · exact hacc r h1
        have hrec := cbCharLoop_sat hnf T hT cs start fuel (nextStart + 8) ((off % 256) :: acc)
          (by omega) (by omega) (by simp; omega) hacc' (Or.inl (by simp))
        split
        · refine Sat.step _ (cbIsStartEnd_sat (E := E) T hT off hoff) (fun _ h => h) (fun t _ => ?_)
          cases t with
          | true =>
            refine ⟨by simp, by simp; omega, by simp only []; omega, ?_⟩
            intro x hx
            exact hacc' x (by simp at hx ⊢; rcases hx with h | h; exact Or.inr h; exact Or.inl h)
          | false => exact hrec
        · exact hrec
    · rw [if_neg hlt]
      have hne' : acc ≠ [] := by
        rcases hne with h | h
        · exact h
        · exact absurd h hlt
      refine ⟨by simpa using hne', by simp; omega, hle, ?_⟩
      intro x hx
      exact hacc x (by simpa using hx)

theorem cbStripes_sat {E : Fault → Prop} (T : Tables) (cs : List Nat) :
    ∀ (rs : List Nat) (pos : Nat), (∀ r ∈ rs, r < T.codabarEnc.length) → pos + 8 * rs.length ≤ cs.length + 1 →
      Sat E Any (cbStripes T cs rs pos)
  | [], _, _, _ => by unfold cbStripes; trivial
  | r :: rs, pos, hr, hpos => by
    unfold cbStripes
    rw [nth_ok _ r (hr r (by simp))]
    simp only []
    rw [if_neg (by simp at hpos; omega)]
    exact Sat.step _ (cbStripes_sat (E := E) T cs rs (pos + 8) (fun x hx => hr x (by simp [hx])) (by simp at hpos; omega))
      (fun _ h => h) (fun _ _ => trivial)

theorem cbValidate_sat {E : Fault → Prop} (hnf : E .notFound) (T : Tables) (cs : List Nat) (rs : List Nat)
    (start : Nat) (hr : ∀ r ∈ rs, r < T.codabarEnc.length) (hpos : start + 8 * rs.length ≤ cs.length + 1) :
    Sat E Any (cbValidate T cs rs start) := by
  unfold cbValidate
  refine Sat.step _ (cbStripes_sat (E := E) T cs rs start hr hpos) (fun _ h => h) (fun ss _ => ?_)
  simp only []
  split
  · exact hnf
  · trivial

theorem mapM_nth_ok (A : List Nat) : ∀ (rs : List Nat), (∀ r ∈ rs, r < A.length) →
    ∃ chars, rs.mapM (nth A) = .ok chars ∧ chars.length = rs.length
  | [], _ => ⟨[], rfl, rfl⟩
  | r :: rs, h => by
    obtain ⟨chars, hc, hl⟩ := mapM_nth_ok A rs (fun x hx => h x (by simp [hx]))
    refine ⟨A[r]'(h r (by simp)) :: chars, ?_, by simp [hl]⟩
    rw [List.mapM_cons, nth_ok A r (h r (by simp)), hc]
    rfl

theorem cbScan_sat {E : Fault → Prop} (hnf : E .notFound) (T : Tables) (hT : WFCbRead T = true) (row : List Bool) :
    Sat E (fun s => 1 ≤ s.start ∧ s.res ≠ [] ∧ s.nextStart = s.start + 8 * s.res.length ∧
        s.nextStart ≤ s.counters.length ∧ ∀ x ∈ s.res, x < T.codabarEnc.length) (cbScan T row) := by
  unfold cbScan
  have hsc : Sat E Any (cbSetCounters row) := by
    unfold cbSetCounters
    simp only []
    split
    · exact hnf
    · trivial
  refine Sat.step _ hsc (fun _ h => h) (fun cs _ => ?_)
  simp only []
  refine Sat.step _ (cbFindStart_sat (E := E) hnf T hT cs) (fun _ h => h) (fun start hfs => ?_)
  simp only []
  refine Sat.step _ (cbCharLoop_sat (E := E) hnf T hT cs start (cs.length + 1) start [] (by omega) (by omega) (by simp)
    (by simp) (Or.inr (by omega))) (fun _ h => h) (fun r hl => ?_)
  obtain ⟨res, nextStart⟩ := r
  obtain ⟨a, b, c, d⟩ := hl
  exact ⟨hfs.1, a, b, c, d⟩

theorem cbDecodeRow_sat {E : Fault → Prop} (hnf : E .notFound) (T : Tables) (hT : WFCbRead T = true)
    (retSE : Bool) (row : List Bool) : Sat E Any (cbDecodeRow T retSE row) := by
  unfold cbDecodeRow
  refine Sat.step _ (cbScan_sat (E := E) hnf T hT row) (fun _ h => h) (fun sc hsc => ?_)
  obtain ⟨cs, start, res, nextStart⟩ := sc
  obtain ⟨h1, hne, hns, hle, hres⟩ := hsc
  simp only [] at h1 hne hns hle hres ⊢
  have hlen : 1 ≤ res.length := List.length_pos_iff.mpr hne
  obtain ⟨tr, htr⟩ := nthI_ok cs ((nextStart : Int) - 1) (by omega) (by omega)
  rw [htr]
  simp only []
  rw [if_neg (by omega)]
  obtain ⟨ls, hls⟩ := sumRange_ok cs (nextStart - 8) (nextStart - 1) (by omega)
  rw [hls]
  simp only []
  split
  · exact hnf
  · refine Sat.step _ (cbValidate_sat (E := E) hnf T cs res start hres (by omega)) (fun _ h => h) (fun _ _ => ?_)
    simp only []
    have hT' := (WFCbRead_iff T).1 hT
    obtain ⟨chars, hch, hcl⟩ := mapM_nth_ok T.codabarAlphabet res (fun r hr => by have := hres r hr; omega)
    rw [hch]
    simp only []
    rw [nth_ok chars 0 (by omega)]
    simp only []
    split
    · exact hnf
    · obtain ⟨ec, hec⟩ := nthI_ok chars ((chars.length : Int) - 1) (by omega) (by omega)
      rw [hec]
      simp only []
      split
      · exact hnf
      · split
        · exact hnf
        · obtain ⟨l, hl⟩ := sumRange_ok cs 0 start (by omega)
          obtain ⟨m, hm⟩ := sumRange_ok cs start (nextStart - 1) (by omega)
          rw [hl, hm]
          trivial

/-! ## Code 39: the classifier's loop ends (counters below 2^31) -/

theorem c39Scan_count (m : Nat) : ∀ (cs : List Nat) (p w t : Nat),
    (c39Scan m cs (p, w, t)).2.1 = w + cs.countP (fun c => decide (c > m))
  | [], p, w, t => by simp [c39Scan]
  | c :: cs, p, w, t => by
    unfold c39Scan
    split
    · rename_i h; rw [c39Scan_count m cs]; simp [h]; omega
    · rename_i h; rw [c39Scan_count m cs]; simp [h]

/-- number of "wide" counters for a threshold -/
def wideCount (cs : List Nat) (m : Nat) : Nat := cs.countP (fun c => decide (c > m))

theorem c39Scan_wide (cs : List Nat) (m : Nat) : (c39Scan m cs (0, 0, 0)).2.1 = wideCount cs m := by
  rw [c39Scan_count]; simp [wideCount]

theorem foldl_minAbove (m : Nat) : ∀ (cs : List Nat) (init : Nat),
    let M := cs.foldl (fun a c => if c < a ∧ c > m then c else a) init
    M ≤ init ∧ (∀ c ∈ cs, c > m → M ≤ c) ∧ (M = init ∨ (M ∈ cs ∧ M > m))
  | [], init => by simp
  | c :: cs, init => by
    simp only [List.foldl_cons]
    have ih := foldl_minAbove m cs (if c < init ∧ c > m then c else init)
    simp only [] at ih ⊢
    obtain ⟨h1, h2, h3⟩ := ih
    by_cases hc : c < init ∧ c > m
    · rw [if_pos hc] at h1 h2 h3 ⊢
      refine ⟨by omega, ?_, ?_⟩
      · intro d hd hdm
        rcases List.mem_cons.mp hd with e | e
        · subst e; exact h1
        · exact h2 d e hdm
      · rcases h3 with e | ⟨e1, e2⟩
        · right; rw [e]; exact ⟨by simp, hc.2⟩
        · right; exact ⟨by simp [e1], e2⟩
    · rw [if_neg hc] at h1 h2 h3 ⊢
      refine ⟨h1, ?_, ?_⟩
      · intro d hd hdm
        rcases List.mem_cons.mp hd with e | e
        · subst e; omega
        · exact h2 d e hdm
      · rcases h3 with e | ⟨e1, e2⟩
        · left; exact e
        · right; exact ⟨by simp [e1], e2⟩

theorem countP_lt_of (l : List Nat) (p q : Nat → Bool) (himp : ∀ x, p x = true → q x = true)
    (x : Nat) (hx : x ∈ l) (hq : q x = true) (hp : p x = false) : l.countP p < l.countP q := by
  induction l with
  | nil => cases hx
  | cons a as ih =>
    simp only [List.countP_cons]
    rcases List.mem_cons.mp hx with e | e
    · subst e
      have hle : as.countP p ≤ as.countP q := List.countP_mono_left (fun y _ => himp y)
      simp [hq, hp]; omega
    · have := ih e
      by_cases hpa : p a = true
      · simp [hpa, himp a hpa]; omega
      · simp [hpa]; split <;> omega

/-- one more round of the outer loop strictly reduces the number of wide counters -/
theorem wideCount_decreases (cs : List Nat) (hb : ∀ c ∈ cs, c ≤ 2147483647) (m : Nat) (hw : 0 < wideCount cs m) :
    wideCount cs (c39MinAbove cs m) < wideCount cs m := by
  obtain ⟨h1, h2, h3⟩ := foldl_minAbove m cs 2147483647
  unfold c39MinAbove
  rcases h3 with e | ⟨e1, e2⟩
  · rw [e]
    have : wideCount cs 2147483647 = 0 := by
      unfold wideCount
      rw [List.countP_eq_zero]
      intro c hc; have := hb c hc; simp; omega
    omega
  · unfold wideCount
    apply countP_lt_of cs _ _ _ _ e1
    · simp only [decide_eq_true_eq]; exact e2
    · simp only [decide_eq_false_iff_not]; omega
    · intro x hx; simp only [decide_eq_true_eq] at hx ⊢; omega

theorem c39PatternLoop_ok (cs : List Nat) (hb : ∀ c ∈ cs, c ≤ 2147483647) :
    ∀ (fuel m : Nat), wideCount cs (c39MinAbove cs m) < fuel → ∃ p, c39PatternLoop cs fuel m = .ok p
  | 0, _, h => by omega
  | fuel + 1, m, h => by
    unfold c39PatternLoop
    simp only []
    rw [c39Scan_wide]
    split
    · split <;> exact ⟨_, rfl⟩
    · split
      · rename_i h3
        apply c39PatternLoop_ok cs hb fuel
        have := wideCount_decreases cs hb (c39MinAbove cs m) (by omega)
        omega
      · exact ⟨_, rfl⟩

/-- `code39ToNarrowWidePattern` returns (a pattern or -1) whenever no counter exceeds `math.MaxInt32` -/
theorem c39Pattern_ok (cs : List Nat) (hb : ∀ c ∈ cs, c ≤ 2147483647) : ∃ p, c39Pattern cs = .ok p := by
  unfold c39Pattern
  apply c39PatternLoop_ok cs hb
  have : wideCount cs (c39MinAbove cs 0) ≤ cs.length := List.countP_le_length
  omega

end Gzx.Row39
