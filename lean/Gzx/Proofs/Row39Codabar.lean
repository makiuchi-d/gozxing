/-
  Codabar: the row decoder model reads back what the writer model draws, at every scale.
  Helper lemmas for Properties/C03Row39.lean.
-/
import Gzx.Proofs.Row39Read
import Gzx.Proofs.OneDCodabar
namespace Gzx.Row39
open Gzx Gzx.OneD
open Gzx.CheckDigit (indexOf? indexOf?_lt indexOf?_get indexOf?_none indexOf?_getElem distinct)

/-! ## setCounters = run lengths from the first white pixel -/

theorem cbCountLoop_runs : ∀ (bs : List Bool) (w : Bool) (count : Nat) (acc : List Nat),
    cbCountLoop bs w count acc = acc.reverse ++ RunLength.runsAux bs (!w) count
  | [], w, count, acc => by simp [cbCountLoop, RunLength.runsAux]
  | b :: bs, w, count, acc => by
    unfold cbCountLoop RunLength.runsAux
    by_cases h : (b != w) = true
    · have hb : b = !w := by cases b <;> cases w <;> simp_all
      rw [if_pos h, if_pos hb, cbCountLoop_runs bs w (count + 1) acc]
    · have hb : ¬ b = !w := by cases b <;> cases w <;> simp_all
      have hbw : b = w := by cases b <;> cases w <;> simp_all
      rw [if_neg h, if_neg hb, cbCountLoop_runs bs (!w) 1 (count :: acc)]
      simp [hbw]

/-- a row that starts with a white pixel: the counters are its runs -/
theorem cbSetCounters_runs (R : List Nat) (hne : R ≠ []) (hpos : ∀ w ∈ R, 0 < w) :
    cbSetCounters (appendPattern R false) = .ok R := by
  obtain ⟨r0, R', rfl⟩ := List.exists_cons_of_ne_nil hne
  have hr0 := hpos r0 (by simp)
  obtain ⟨k, rfl⟩ : ∃ k, r0 = k + 1 := ⟨r0 - 1, by omega⟩
  have hruns := runs_appendPattern ((k + 1) :: R') false hpos
  unfold cbSetCounters
  have hrow : appendPattern ((k + 1) :: R') false = false :: (List.replicate k false ++ appendPattern R' true) := by
    simp [appendPattern, List.replicate_succ]
  rw [hrow] at hruns ⊢
  simp only [getNextUnset, Bool.not_false, if_true, List.length_cons, List.drop_zero]
  rw [if_neg (by omega), cbCountLoop_runs]
  simp only [List.reverse_nil, List.nil_append, Bool.not_true]
  simp only [RunLength.runs] at hruns
  simp only [RunLength.runsAux, if_true]
  rw [hruns]

/-! ## toNarrowWidePattern on two-valued stripes -/

theorem cbMinMax_spec : ∀ (l : List Nat) (mn mx : Nat),
    (cbMinMax l (mn, mx)).1 ≤ mn ∧ (∀ c ∈ l, (cbMinMax l (mn, mx)).1 ≤ c) ∧
    ((cbMinMax l (mn, mx)).1 = mn ∨ (cbMinMax l (mn, mx)).1 ∈ l) ∧
    mx ≤ (cbMinMax l (mn, mx)).2 ∧ (∀ c ∈ l, c ≤ (cbMinMax l (mn, mx)).2) ∧
    ((cbMinMax l (mn, mx)).2 = mx ∨ (cbMinMax l (mn, mx)).2 ∈ l)
  | [], mn, mx => by simp [cbMinMax]
  | c :: cs, mn, mx => by
    simp only [cbMinMax]
    generalize hmn : (if c < mn then c else mn) = mn'
    generalize hmx : (if c > mx then c else mx) = mx'
    have a1 : mn' ≤ mn ∧ mn' ≤ c ∧ (mn' = mn ∨ mn' = c) := by subst hmn; split <;> omega
    have a2 : mx ≤ mx' ∧ c ≤ mx' ∧ (mx' = mx ∨ mx' = c) := by subst hmx; split <;> omega
    obtain ⟨h1, h2, h3, h4, h5, h6⟩ := cbMinMax_spec cs mn' mx'
    refine ⟨by omega, ?_, ?_, by omega, ?_, ?_⟩
    · intro d hd
      rcases List.mem_cons.mp hd with e | e
      · subst e; omega
      · exact h2 d e
    · rcases h3 with e | e
      · rcases a1.2.2 with e' | e'
        · left; omega
        · right; rw [e, e']; simp
      · right; simp [e]
    · intro d hd
      rcases List.mem_cons.mp hd with e | e
      · subst e; omega
      · exact h5 d e
    · rcases h6 with e | e
      · rcases a2.2.2 with e' | e'
        · left; omega
        · right; rw [e, e']; simp
      · right; simp [e]

/-- stripes of one kind (bars or spaces), widths `s` or `2s`, at least one narrow: a stripe is above the
    threshold `(min+max)/2` iff it is wide -/
theorem cbThreshold (s : Nat) (hs : 0 < s) (hs31 : s ≤ 2147483647) (bits : List Bool) (hn : false ∈ bits) :
    let l := nw s (2 * s) bits
    let mm := cbMinMax l (2147483647, 0)
    ∀ b ∈ bits, (decide ((if b then 2 * s else s) > (mm.1 + mm.2) / 2)) = b := by
  intro l mm b hb
  obtain ⟨h1, h2, h3, h4, h5, h6⟩ := cbMinMax_spec l 2147483647 0
  have hmem : s ∈ l := List.mem_map.mpr ⟨false, hn, by simp⟩
  have hl : ∀ c ∈ l, c = s ∨ c = 2 * s := mem_nw s (2 * s) bits
  have hmin : mm.1 = s := by
    have hle := h2 s hmem
    rcases h3 with e | e
    · show (cbMinMax l (2147483647, 0)).1 = s; omega
    · rcases hl _ e with e' | e'
      · exact e'
      · show (cbMinMax l (2147483647, 0)).1 = s; omega
  have hmax : mm.2 = s ∨ mm.2 = 2 * s := by
    rcases h6 with e | e
    · have := h5 s hmem
      show (cbMinMax l (2147483647, 0)).2 = s ∨ _; omega
    · exact hl _ e
  cases b with
  | false =>
    simp only [Bool.false_eq_true, if_false, decide_eq_false_iff_not]
    rw [hmin]; rcases hmax with e | e <;> rw [e] <;> omega
  | true =>
    simp only [if_true, decide_eq_true_eq]
    have h2s : 2 * s ∈ l := List.mem_map.mpr ⟨true, hb, by simp⟩
    have := h5 _ h2s
    have hm2 : mm.2 = 2 * s := by
      rcases hmax with e | e
      · have : (cbMinMax l (2147483647, 0)).2 = s := e
        omega
      · exact e
    rw [hmin, hm2]; omega

/-- value of a 7-bit word from its bits, most significant first -/
def bits7Val (b0 b1 b2 b3 b4 b5 b6 : Bool) : Nat :=
  (if b0 then 64 else 0) + (if b1 then 32 else 0) + (if b2 then 16 else 0) + (if b3 then 8 else 0) +
    (if b4 then 4 else 0) + (if b5 then 2 else 0) + (if b6 then 1 else 0)

theorem bits7_all : (List.range 128).all (fun w =>
    match bitsMSB 7 w with
    | [b0, b1, b2, b3, b4, b5, b6] => bits7Val b0 b1 b2 b3 b4 b5 b6 == w
    | _ => false) = true := by decide

/-- a word the reader can classify: 7 bits, not all four bars wide, not all three spaces wide -/
def cbWordOk (w : Nat) : Bool :=
  decide (w < 128) &&
  (match bitsMSB 7 w with
   | [b0, b1, b2, b3, b4, b5, b6] => !(b0 && b2 && b4 && b6) && !(b1 && b3 && b5)
   | _ => false)

theorem cbWord_bits (w : Nat) (hw : cbWordOk w = true) :
    ∃ b0 b1 b2 b3 b4 b5 b6, bitsMSB 7 w = [b0, b1, b2, b3, b4, b5, b6] ∧
      false ∈ [b0, b2, b4, b6] ∧ false ∈ [b1, b3, b5] ∧ bits7Val b0 b1 b2 b3 b4 b5 b6 = w := by
  simp only [cbWordOk, Bool.and_eq_true, decide_eq_true_eq] at hw
  obtain ⟨hlt, hm⟩ := hw
  have hv := List.all_eq_true.mp bits7_all w (by simpa using hlt)
  obtain ⟨b0, b1, b2, b3, b4, b5, b6, hb⟩ := len7 (bitsMSB 7 w) (by simp [bitsMSB])
  rw [hb] at hm hv
  simp only [beq_iff_eq] at hv
  refine ⟨b0, b1, b2, b3, b4, b5, b6, hb, ?_, ?_, hv⟩
  · cases b0 <;> cases b2 <;> cases b4 <;> cases b6 <;> simp_all
  · cases b1 <;> cases b3 <;> cases b5 <;> simp_all

theorem codabarWidths_scaled (s w : Nat) :
    (codabarWidths w).map (s * ·) = nw s (2 * s) (bitsMSB 7 w) := by
  unfold codabarWidths nw
  rw [List.map_map]
  apply List.map_congr_left
  intro b _
  cases b <;> simp <;> omega

/-- `toNarrowWidePattern(position)` on the seven stripes of a drawn character -/
theorem cbNW_at (T : Tables) (s : Nat) (hs : 0 < s) (hs31 : s ≤ 2147483647) (w : Nat) (hw : cbWordOk w = true)
    (cs : List Nat) (p : Nat) (hp : p + 7 < cs.length)
    (hwin : (cs.drop p).take 7 = (codabarWidths w).map (s * ·)) :
    cbToNarrowWide T cs p = .ok (indexOf? w T.codabarEnc) := by
  obtain ⟨b0, b1, b2, b3, b4, b5, b6, hb, hbar, hspace, hv⟩ := cbWord_bits w hw
  unfold cbToNarrowWide
  rw [if_neg (by omega), hwin, codabarWidths_scaled, hb]
  simp only [nw, List.map_cons, List.map_nil]
  have hB := cbThreshold s hs hs31 [b0, b2, b4, b6] hbar
  have hS := cbThreshold s hs hs31 [b1, b3, b5] hspace
  simp only [nw, List.map_cons, List.map_nil] at hB hS
  have e0 := hB b0 (by simp)
  have e2 := hB b2 (by simp)
  have e4 := hB b4 (by simp)
  have e6 := hB b6 (by simp)
  have e1 := hS b1 (by simp)
  have e3 := hS b3 (by simp)
  have e5 := hS b5 (by simp)
  have hbit : ∀ (c th k : Nat) (b : Bool), decide (c > th) = b → (if c > th then k else 0) = (if b then k else 0) := by
    intro c th k b h
    cases b with
    | true => simp only [decide_eq_true_eq] at h; simp [h]
    | false => simp only [decide_eq_false_iff_not] at h; simp [h]
  rw [hbit _ _ 64 b0 e0, hbit _ _ 32 b1 e1, hbit _ _ 16 b2 e2, hbit _ _ 8 b3 e3, hbit _ _ 4 b4 e4,
    hbit _ _ 2 b5 e5, hbit _ _ 1 b6 e6]
  have : (if b0 = true then 64 else 0) + (if b1 = true then 32 else 0) + (if b2 = true then 16 else 0) +
      (if b3 = true then 8 else 0) + (if b4 = true then 4 else 0) + (if b5 = true then 2 else 0) +
      (if b6 = true then 1 else 0) = w := hv
  rw [this]

/-! ## validatePattern accepts exact multiples -/

/-- a stripe whose width is what its wide/narrow flag says, at `s` pixels per module -/
def StripeOk (s : Nat) (st : Stripe) : Prop := st.size = if st.wide then 2 * s else s

theorem cbCat_ok (s : Nat) (sp wd : Bool) : ∀ (ss : List Stripe), (∀ st ∈ ss, StripeOk s st) →
    (cbCat ss sp wd).1 = (if wd then 2 * s else s) * (cbCat ss sp wd).2
  | [], _ => by simp [cbCat, sumL_nil]
  | st :: ss, h => by
    have ih := cbCat_ok s sp wd ss (fun x hx => h x (by simp [hx]))
    have hst := h st (by simp)
    unfold cbCat at ih ⊢
    simp only [] at ih ⊢
    simp only [List.filter_cons]
    split
    · rename_i hc
      simp only [decide_eq_true_eq] at hc
      simp only [List.map_cons, sumL_cons, List.length_cons]
      rw [ih, Nat.mul_succ]
      unfold StripeOk at hst
      rw [hst, hc.2]; omega
    · exact ih

theorem cbStripeBad_ok (s : Nat) (ss : List Stripe) (hall : ∀ st ∈ ss, StripeOk s st) (st : Stripe)
    (hst : StripeOk s st) : cbStripeBad (cbCat ss st.space false) (cbCat ss st.space true) st = false := by
  have hn := cbCat_ok s st.space false ss hall
  have hw := cbCat_ok s st.space true ss hall
  simp only [Bool.false_eq_true, if_false, if_true] at hn hw
  unfold cbStripeBad
  rw [hn, hw]
  generalize (cbCat ss st.space false).2 = kn
  generalize (cbCat ss st.space true).2 = kw
  unfold StripeOk at hst
  have hX1 : s * kn * kw = s * (kn * kw) := Nat.mul_assoc _ _ _
  have hX2 : 2 * s * kw * kn = 2 * (s * (kn * kw)) := by
    rw [Nat.mul_assoc 2 s kw, Nat.mul_assoc 2 (s * kw) kn, Nat.mul_assoc s kw kn, Nat.mul_comm kw kn]
  cases hwd : st.wide with
  | true =>
    rw [hwd] at hst
    simp only [if_true] at hst
    simp only [if_true, hst, Bool.or_eq_false_iff, decide_eq_false_iff_not]
    have hY : 2 * (2 * s) * (kn * kw) = 4 * (s * (kn * kw)) := by
      rw [← Nat.mul_assoc 2 2 s, Nat.mul_assoc (2 * 2) s (kn * kw)]
    have hZ : 2 * (2 * s) * kw = 4 * (s * kw) := by
      rw [← Nat.mul_assoc 2 2 s, Nat.mul_assoc (2 * 2) s kw]
    have hZ2 : 4 * (2 * s * kw) = 8 * (s * kw) := by
      rw [Nat.mul_assoc 2 s kw, ← Nat.mul_assoc 4 2 (s * kw)]
    rw [hX1, hX2, hY, hZ, hZ2]
    constructor <;> omega
  | false =>
    rw [hwd] at hst
    simp only [Bool.false_eq_true, if_false] at hst
    simp only [Bool.false_eq_true, if_false, hst, decide_eq_false_iff_not]
    have hY : 2 * s * (kn * kw) = 2 * (s * (kn * kw)) := Nat.mul_assoc _ _ _
    rw [hX1, hX2, hY]
    omega

/-! ## the drawn symbol as counters -/

theorem drop_split {α : Type} (cs : List α) (pos : Nat) (A B : List α) (h : cs.drop pos = A ++ B) :
    (cs.drop pos).take A.length = A ∧ cs.drop (pos + A.length) = B ∧ pos + A.length + B.length = cs.length ∨
      (pos > cs.length ∧ A = [] ∧ B = []) := by
  by_cases hp : pos ≤ cs.length
  · left
    refine ⟨by rw [h, List.take_left' rfl], ?_, ?_⟩
    · rw [← List.drop_drop, h, List.drop_left' rfl]
    · have := congrArg List.length h
      rw [List.length_drop, List.length_append] at this
      omega
  · right
    have : cs.drop pos = [] := List.drop_eq_nil_of_le (by omega)
    rw [this] at h
    have := List.append_eq_nil_iff.mp h.symm
    exact ⟨by omega, this.1, this.2⟩

/-- table facts for the row-level Codabar theorem: twenty distinct classifiable 7-bit words over the standard alphabet -/
def WFCbRow (T : Tables) : Bool :=
  WFCodabar T && T.codabarEnc.all cbWordOk && decide (T.codabarAlphabet = refTables.codabarAlphabet)

/-- the encoding word drawn for an alphabet character -/
def cbWord (T : Tables) (c : Nat) : Nat := T.codabarEnc.getD (cbIdx T.codabarAlphabet c) 0

structure CbFacts (T : Tables) : Prop where
  wf : WFCodabar T = true
  hA : T.codabarAlphabet = refTables.codabarAlphabet
  encLen : T.codabarEnc.length = 20
  char : ∀ c ∈ refTables.codabarAlphabet, cbIdx T.codabarAlphabet c < 20 ∧
    nth T.codabarAlphabet (cbIdx T.codabarAlphabet c) = .ok c ∧ cbWordOk (cbWord T c) = true ∧
    indexOf? (cbWord T c) T.codabarEnc = some (cbIdx T.codabarAlphabet c)

theorem cbFacts (T : Tables) (h : WFCbRow T = true) : CbFacts T := by
  simp only [WFCbRow, Bool.and_eq_true, decide_eq_true_eq, List.all_eq_true] at h
  obtain ⟨⟨hwf, hall⟩, hA⟩ := h
  have hwf' := hwf
  simp only [WFCodabar, Bool.and_eq_true, beq_iff_eq, List.all_eq_true, decide_eq_true_eq] at hwf'
  obtain ⟨⟨hlen, hdist⟩, _⟩ := hwf'
  refine ⟨hwf, hA, hlen, ?_⟩
  intro c hc
  obtain ⟨k, hk, hk20, hget⟩ := refA_mem c hc
  have hidx : cbIdx T.codabarAlphabet c = k := by simp [cbIdx, hA, hk]
  have hw : cbWord T c = T.codabarEnc[k]'(by omega) := by
    unfold cbWord; rw [hidx, getD_eq_getElem _ _ _ (by omega)]
  refine ⟨by omega, ?_, ?_, ?_⟩
  · rw [hidx, hA]
    unfold nth; rw [hget]
  · rw [hw]; exact hall _ (List.getElem_mem _)
  · rw [hw, hidx]; exact indexOf?_getElem hdist k (by omega)

theorem cbRuns_cons_window (w : Nat) (ws : List Nat) :
    ∃ more, cbRuns (w :: ws) = codabarWidths w ++ more ∧
      (ws = [] → more = []) ∧ (ws ≠ [] → more = 1 :: cbRuns ws) := by
  cases ws with
  | nil => exact ⟨[], by simp [cbRuns], fun _ => rfl, fun h => absurd rfl h⟩
  | cons a b => exact ⟨1 :: cbRuns (a :: b), by simp [cbRuns], fun h => absurd h (List.cons_ne_nil _ _), fun _ => rfl⟩

theorem widths7 {s : Nat} (w : Nat) : ((codabarWidths w).map (fun x => s * x)).length = 7 := by
  simp [(codabarWidths_shape w).1]

/-- position `pos` of the counters shows the characters `c :: rest` (then `tl`): the window of the first one -/
theorem cb_window (T : Tables) (s : Nat) (cs : List Nat) (pos : Nat) (c : Nat) (rest : List Nat) (tl : List Nat)
    (h : cs.drop pos = (cbRuns ((c :: rest).map (cbWord T))).map (s * ·) ++ tl) :
    (cs.drop pos).take 7 = (codabarWidths (cbWord T c)).map (s * ·) ∧ pos + 7 + tl.length ≤ cs.length ∧
    (rest ≠ [] → cs.drop (pos + 8) = (cbRuns (rest.map (cbWord T))).map (s * ·) ++ tl) ∧
    (rest = [] → cs.drop (pos + 7) = tl ∧ pos + 7 + tl.length = cs.length) := by
  obtain ⟨more, hm, hm1, hm2⟩ := cbRuns_cons_window (cbWord T c) (rest.map (cbWord T))
  simp only [List.map_cons] at h
  rw [hm, List.map_append, List.append_assoc] at h
  have h7 : ((codabarWidths (cbWord T c)).map (s * ·)).length = 7 := widths7 _
  rcases drop_split cs pos _ _ h with ⟨a, b, c'⟩ | ⟨_, a, _⟩
  · rw [h7] at a b c'
    refine ⟨a, ?_, ?_, ?_⟩
    · simp only [List.length_append] at c'; omega
    · intro hne
      have hne' : rest.map (cbWord T) ≠ [] := by simpa using hne
      rw [hm2 hne'] at b
      simp only [List.map_cons, List.cons_append] at b
      have : cs.drop (pos + 8) = (cs.drop (pos + 7)).drop 1 := by rw [List.drop_drop]
      rw [this, b]; rfl
    · intro he
      have he' : rest.map (cbWord T) = [] := by simp [he]
      rw [hm1 he'] at b c'
      simp only [List.map_nil, List.nil_append] at b c'
      exact ⟨b, c'⟩
  · rw [a] at h7; simp at h7

/-! ## validatePattern on the drawn symbol -/

theorem zip_map_self {α β : Type} (f : α → β) : ∀ (l : List α), (l.map f).zip l = l.map (fun b => (f b, b))
  | [] => rfl
  | a :: l => by simp [zip_map_self f l]

theorem char_stripes_ok (s w : Nat) :
    ∀ st ∈ (((nw s (2 * s) (bitsMSB 7 w)).zip (bitsMSB 7 w)).zipIdx.map
        (fun p => Stripe.mk p.1.1 (decide (p.2 % 2 = 1)) p.1.2)), StripeOk s st := by
  intro st hst
  obtain ⟨p, hp, rfl⟩ := List.mem_map.mp hst
  have hp1 : p.1 ∈ (nw s (2 * s) (bitsMSB 7 w)).zip (bitsMSB 7 w) := by
    obtain ⟨⟨a, b⟩, i⟩ := p
    exact (List.mem_zipIdx hp).2.2 ▸ List.getElem_mem _
  unfold nw at hp1
  rw [zip_map_self] at hp1
  obtain ⟨b, _, hb⟩ := List.mem_map.mp hp1
  unfold StripeOk
  rw [← hb]

theorem cbStripes_at (T : Tables) (f : CbFacts T) (s : Nat) (cs : List Nat) (tl : List Nat) :
    ∀ (chars : List Nat) (pos : Nat), (∀ c ∈ chars, c ∈ refTables.codabarAlphabet) → chars ≠ [] →
      cs.drop pos = (cbRuns (chars.map (cbWord T))).map (s * ·) ++ tl →
      ∃ ss, cbStripes T cs (chars.map (cbIdx T.codabarAlphabet)) pos = .ok ss ∧ ∀ st ∈ ss, StripeOk s st
  | [], _, _, hne, _ => absurd rfl hne
  | c :: rest, pos, hmem, _, hdrop => by
    obtain ⟨hwin, hlen, hnext, _⟩ := cb_window T s cs pos c rest tl hdrop
    obtain ⟨hidx, _, _, _⟩ := f.char c (hmem c (by simp))
    simp only [List.map_cons]
    unfold cbStripes
    rw [nth_ok _ _ (by rw [f.encLen]; exact hidx)]
    simp only []
    rw [if_neg (by omega), hwin, codabarWidths_scaled]
    have hword : T.codabarEnc[cbIdx T.codabarAlphabet c]'(by rw [f.encLen]; exact hidx) = cbWord T c := by
      unfold cbWord; rw [getD_eq_getElem _ _ _ (by rw [f.encLen]; exact hidx)]
    rw [hword]
    by_cases hr : rest = []
    · subst hr
      simp only [List.map_nil, cbStripes, List.append_nil]
      exact ⟨_, rfl, char_stripes_ok s _⟩
    · obtain ⟨ss, hss, hok⟩ := cbStripes_at T f s cs tl rest (pos + 8) (fun x hx => hmem x (by simp [hx])) hr (hnext hr)
      rw [hss]
      refine ⟨_, rfl, ?_⟩
      intro st hst
      rcases List.mem_append.mp hst with h | h
      · exact char_stripes_ok s _ st h
      · exact hok st h

theorem cbValidate_at (T : Tables) (f : CbFacts T) (s : Nat) (cs : List Nat) (tl : List Nat)
    (chars : List Nat) (pos : Nat) (hmem : ∀ c ∈ chars, c ∈ refTables.codabarAlphabet) (hne : chars ≠ [])
    (hdrop : cs.drop pos = (cbRuns (chars.map (cbWord T))).map (s * ·) ++ tl) :
    cbValidate T cs (chars.map (cbIdx T.codabarAlphabet)) pos = .ok () := by
  obtain ⟨ss, hss, hok⟩ := cbStripes_at T f s cs tl chars pos hmem hne hdrop
  unfold cbValidate
  rw [hss]
  simp only []
  have : ss.any (fun st => cbStripeBad (cbCat ss st.space false) (cbCat ss st.space true) st) = false := by
    rw [List.any_eq_false]
    intro st hst
    rw [cbStripeBad_ok s ss hok st (hok st hst)]
    simp
  rw [this]
  rfl

/-! ## the character loop and the start search on the drawn symbol -/

theorem cbIsStartEnd_at (T : Tables) (f : CbFacts T) (c : Nat) (hc : c ∈ refTables.codabarAlphabet) :
    cbIsStartEnd T (cbIdx T.codabarAlphabet c) = .ok (cbStartEnd.contains c) := by
  unfold cbIsStartEnd
  rw [(f.char c hc).2.1]

/-- classification of the first of the characters shown at `pos` -/
theorem cbNW_char (T : Tables) (f : CbFacts T) (s : Nat) (hs : 0 < s) (hs31 : s ≤ 2147483647) (cs : List Nat)
    (pos c : Nat) (rest tl : List Nat) (hc : c ∈ refTables.codabarAlphabet) (htl : tl ≠ [])
    (h : cs.drop pos = (cbRuns ((c :: rest).map (cbWord T))).map (s * ·) ++ tl) :
    cbToNarrowWide T cs pos = .ok (some (cbIdx T.codabarAlphabet c)) ∧ pos + 7 < cs.length := by
  obtain ⟨hwin, hlen, _, _⟩ := cb_window T s cs pos c rest tl h
  have htl' : 0 < tl.length := List.length_pos_iff.mpr htl
  obtain ⟨_, _, hok, hidx⟩ := f.char c hc
  refine ⟨?_, by omega⟩
  rw [cbNW_at T s hs hs31 (cbWord T c) hok cs pos (by omega) hwin, hidx]

theorem cbCharLoop_at (T : Tables) (f : CbFacts T) (s : Nat) (hs : 0 < s) (hs31 : s ≤ 2147483647) (cs : List Nat)
    (rq l : Nat) (hl : l ∈ refTables.codabarAlphabet) (hlse : cbStartEnd.contains l = true) :
    ∀ (mid : List Nat) (fuel nextStart : Nat) (acc : List Nat), acc ≠ [] →
      (∀ c ∈ mid, c ∈ refTables.codabarAlphabet ∧ cbStartEnd.contains c = false) → mid.length < fuel →
      cs.drop nextStart = (cbRuns ((mid ++ [l]).map (cbWord T))).map (s * ·) ++ [rq] →
      cbCharLoop T cs fuel nextStart acc =
        .ok (acc.reverse ++ (mid ++ [l]).map (cbIdx T.codabarAlphabet), nextStart + 8 * (mid.length + 1)) := by
  intro mid
  induction mid with
  | nil =>
    intro fuel nextStart acc hacc _ hfuel h
    obtain ⟨fuel', rfl⟩ : ∃ k, fuel = k + 1 := ⟨fuel - 1, by simp at hfuel; omega⟩
    simp only [List.nil_append] at h
    obtain ⟨hnw, hlt⟩ := cbNW_char T f s hs hs31 cs nextStart l [] [rq] hl (by simp) h
    have h20 := (f.char l hl).1
    have hmod : cbIdx T.codabarAlphabet l % 256 = cbIdx T.codabarAlphabet l := Nat.mod_eq_of_lt (by omega)
    have hlen : (cbIdx T.codabarAlphabet l :: acc).length > 1 := by
      have : 0 < acc.length := List.length_pos_iff.mpr hacc
      simp; omega
    unfold cbCharLoop
    rw [if_pos (by omega), hnw]
    simp only [hmod, hlen, if_true, cbIsStartEnd_at T f l hl, hlse]
    simp
  | cons c mid ih =>
    intro fuel nextStart acc hacc hmid hfuel h
    obtain ⟨fuel', rfl⟩ : ∃ k, fuel = k + 1 := ⟨fuel - 1, by simp at hfuel; omega⟩
    obtain ⟨hc, hcse⟩ := hmid c (by simp)
    simp only [List.cons_append] at h
    obtain ⟨hnw, hlt⟩ := cbNW_char T f s hs hs31 cs nextStart c (mid ++ [l]) [rq] hc (by simp) h
    obtain ⟨_, _, hnext, _⟩ := cb_window T s cs nextStart c (mid ++ [l]) [rq] h
    have h20 := (f.char c hc).1
    have hmod : cbIdx T.codabarAlphabet c % 256 = cbIdx T.codabarAlphabet c := Nat.mod_eq_of_lt (by omega)
    have hlen : (cbIdx T.codabarAlphabet c :: acc).length > 1 := by
      have : 0 < acc.length := List.length_pos_iff.mpr hacc
      simp; omega
    unfold cbCharLoop
    rw [if_pos (by omega), hnw]
    simp only [hmod, hlen, if_true, cbIsStartEnd_at T f c hc, hcse]
    rw [ih fuel' (nextStart + 8) (cbIdx T.codabarAlphabet c :: acc) (by simp)
      (fun x hx => hmid x (by simp [hx])) (by simp at hfuel; omega) (hnext (by simp))]
    simp only [List.reverse_cons, List.append_assoc, List.map_cons, List.cons_append,
      List.length_cons]
    congr 2
    omega

/-! ## DecodeRow on the drawn symbol -/

theorem cbRuns_length : ∀ (ws : List Nat), ws ≠ [] → (cbRuns ws).length + 1 = 8 * ws.length
  | [], h => absurd rfl h
  | [w], _ => by simp [cbRuns, (codabarWidths_shape w).1]
  | w :: w2 :: ws, _ => by
    have ih := cbRuns_length (w2 :: ws) (by simp)
    simp only [cbRuns, List.length_append, (codabarWidths_shape w).1, List.length_cons, List.length_nil] at ih ⊢
    omega

theorem cbRuns_pos : ∀ (ws : List Nat), ∀ x ∈ cbRuns ws, 0 < x
  | [], x, h => by simp [cbRuns] at h
  | [w], x, h => by
    simp only [cbRuns] at h
    rcases (codabarWidths_shape w).2.1 x h with e | e <;> omega
  | w :: w2 :: ws, x, h => by
    simp only [cbRuns, List.mem_append, List.mem_cons, List.not_mem_nil, or_false] at h
    rcases h with (h | h) | h
    · rcases (codabarWidths_shape w).2.1 x h with e | e <;> omega
    · omega
    · exact cbRuns_pos (w2 :: ws) x h

theorem mapM_nth_chars (T : Tables) (f : CbFacts T) : ∀ (chars : List Nat), (∀ c ∈ chars, c ∈ refTables.codabarAlphabet) →
    (chars.map (cbIdx T.codabarAlphabet)).mapM (nth T.codabarAlphabet) = .ok chars
  | [], _ => rfl
  | c :: cs, h => by
    simp only [List.map_cons, List.mapM_cons, (f.char c (h c (by simp))).2.1,
      mapM_nth_chars T f cs (fun x hx => h x (by simp [hx])), bind, Except.bind, pure, Except.pure]

/-- `codabarReader.DecodeRow` on a rendered Codabar symbol `a mid… b` (start/stop `a`, `b` ∈ A-D, data characters
    `mid`) between at least one white pixel on either side -/
theorem cbDecodeRow_core (T : Tables) (f : CbFacts T) (s : Nat) (hs : 0 < s) (hs31 : s ≤ 2147483647)
    (a b : Nat) (mid : List Nat) (ha : a ∈ refTables.codabarAlphabet) (hb : b ∈ refTables.codabarAlphabet)
    (hase : cbStartEnd.contains a = true) (hbse : cbStartEnd.contains b = true)
    (hmid : ∀ c ∈ mid, c ∈ refTables.codabarAlphabet ∧ cbStartEnd.contains c = false)
    (retSE : Bool) (lq rq : Nat) (hlq : 0 < lq) (hrq : 0 < rq) :
    let mods := codabarDraw ((a :: (mid ++ [b])).map (cbWord T))
    cbDecodeRow T retSE (paddedRow lq s rq mods) =
      if mid.length ≤ 1 then .error .notFound
      else .ok ⟨if retSE then a :: (mid ++ [b]) else mid, 2 * lq, 2 * (lq + s * mods.length)⟩ := by
  intro mods
  let chars := a :: (mid ++ [b])
  let R := cbRuns (chars.map (cbWord T))
  have hcharsne : chars.map (cbWord T) ≠ [] := by simp [chars]
  have hRlen := cbRuns_length _ hcharsne
  have hRpos := cbRuns_pos (chars.map (cbWord T))
  have hmods : mods = appendPattern R true := codabarDraw_runs _
  have hn : (chars.map (cbWord T)).length = mid.length + 2 := by simp [chars]
  have hR8 : R.length + 1 = 8 * (mid.length + 2) := by rw [← hn]; exact hRlen
  have hodd : R.length % 2 = 1 := by omega
  have hrowEq : paddedRow lq s rq mods = appendPattern (lq :: (R.map (s * ·) ++ [rq])) false := by
    rw [hmods]; exact paddedRow_runs R lq s rq hodd
  -- counters
  let cs := lq :: (R.map (s * ·) ++ [rq])
  have hcs : cbSetCounters (paddedRow lq s rq mods) = .ok cs := by
    rw [hrowEq]
    apply cbSetCounters_runs _ (by simp)
    intro w hw
    simp only [List.mem_cons, List.mem_append, List.not_mem_nil, or_false] at hw
    rcases hw with rfl | hw | rfl
    · exact hlq
    · exact scale_pos s hs R hRpos w hw
    · exact hrq
  have hcslen : cs.length = 8 * (mid.length + 2) + 1 := by simp [cs]; omega
  have hdrop1 : cs.drop 1 = (cbRuns ((a :: (mid ++ [b])).map (cbWord T))).map (s * ·) ++ [rq] := rfl
  -- findStartPattern
  obtain ⟨hnwa, hlta⟩ := cbNW_char T f s hs hs31 cs 1 a (mid ++ [b]) [rq] ha (by simp) hdrop1
  have hfs : cbFindStart T cs = .ok 1 := by
    unfold cbFindStart
    obtain ⟨k, hk⟩ : ∃ k, cs.length / 2 = k + 1 := ⟨cs.length / 2 - 1, by omega⟩
    rw [hk, List.range_succ_eq_map]
    simp only [List.map_cons, Nat.mul_zero, Nat.zero_add]
    unfold cbFindStartLoop
    rw [hnwa]
    simp only [cbIsStartEnd_at T f a ha, hase]
    obtain ⟨v, hv⟩ := sumRange_ok cs 1 (1 + 7) (by omega)
    rw [hv]
    simp
  -- the character loop
  have hloop : cbCharLoop T cs (cs.length + 1) 1 [] =
      .ok (chars.map (cbIdx T.codabarAlphabet), 1 + 8 * (mid.length + 2)) := by
    have h20 := (f.char a ha).1
    have hmod : cbIdx T.codabarAlphabet a % 256 = cbIdx T.codabarAlphabet a := Nat.mod_eq_of_lt (by omega)
    obtain ⟨_, _, hnext, _⟩ := cb_window T s cs 1 a (mid ++ [b]) [rq] hdrop1
    unfold cbCharLoop
    rw [if_pos (by omega), hnwa]
    simp only [hmod, List.length_cons, List.length_nil, Nat.zero_add, gt_iff_lt, Nat.lt_irrefl, if_false]
    rw [cbCharLoop_at T f s hs hs31 cs rq b hb hbse mid cs.length (1 + 8) [cbIdx T.codabarAlphabet a] (by simp) hmid
      (by omega) (hnext (by simp))]
    simp only [chars, List.reverse_cons, List.reverse_nil, List.nil_append, List.singleton_append, List.map_cons]
    congr 2
    omega
  have hscan : cbScan T (paddedRow lq s rq mods) = .ok ⟨cs, 1, chars.map (cbIdx T.codabarAlphabet), 1 + 8 * (mid.length + 2)⟩ := by
    unfold cbScan
    rw [hcs]
    simp only [hfs, hloop]
  -- the rest of DecodeRow
  have hall : ∀ c ∈ chars, c ∈ refTables.codabarAlphabet := by
    intro c hc
    simp only [chars, List.mem_cons, List.mem_append, List.not_mem_nil, or_false] at hc
    rcases hc with rfl | hc | rfl
    · exact ha
    · exact (hmid c hc).1
    · exact hb
  have hval := cbValidate_at T f s cs [rq] chars 1 hall (by simp [chars]) hdrop1
  have hchars := mapM_nth_chars T f chars hall
  unfold cbDecodeRow
  rw [hscan]
  simp only []
  obtain ⟨tr, htr⟩ := nthI_ok cs (((1 + 8 * (mid.length + 2) : Nat) : Int) - 1) (by omega) (by omega)
  rw [htr]
  simp only []
  rw [if_neg (by omega)]
  obtain ⟨ls, hls⟩ := sumRange_ok cs (1 + 8 * (mid.length + 2) - 8) (1 + 8 * (mid.length + 2) - 1) (by omega)
  rw [hls]
  simp only []
  rw [if_neg (by omega), hval]
  simp only [hchars]
  have hc0 : nth chars 0 = .ok a := rfl
  rw [hc0]
  simp only [hase, Bool.not_true, Bool.false_eq_true, if_false]
  have hclen : chars.length = mid.length + 2 := by simp [chars]
  have hlast : nthI chars ((chars.length : Int) - 1) = .ok b := by
    unfold nthI
    rw [if_neg (by omega)]
    have : ((chars.length : Int) - 1).toNat = mid.length + 1 := by omega
    rw [this, nth_ok chars (mid.length + 1) (by omega)]
    simp [chars]
  rw [hlast]
  simp only [hbse, Bool.not_true, Bool.false_eq_true, if_false, hclen]
  by_cases hm : mid.length ≤ 1
  · rw [if_pos (by omega), if_pos hm]
  · rw [if_neg (by omega), if_neg hm]
    have hl : sumRange cs 0 1 = .ok lq := by
      unfold sumRange
      rw [if_neg (by omega)]
      simp [cs, sumL_cons, sumL_nil]
    have hm2 : sumRange cs 1 (1 + 8 * (mid.length + 2) - 1) = .ok (s * mods.length) := by
      unfold sumRange
      rw [if_neg (by omega)]
      have hRl : (R.map (s * ·)).length = 1 + 8 * (mid.length + 2) - 1 - 1 := by simp; omega
      have : (cs.drop 1).take (1 + 8 * (mid.length + 2) - 1 - 1) = R.map (s * ·) := by
        show (R.map (s * ·) ++ [rq]).take _ = _
        rw [← hRl, List.take_left' rfl]
      rw [this, sumL_scale, hmods, length_appendPattern]
    rw [hl, hm2]
    simp only []
    have htext : (if retSE = true then chars else (chars.drop 1).take (mid.length + 2 - 2)) =
        (if retSE = true then a :: (mid ++ [b]) else mid) := by
      cases retSE with
      | true => rfl
      | false =>
        simp only [Bool.false_eq_true, if_false, chars, List.drop_succ_cons, List.drop_zero]
        have : mid.length + 2 - 2 = mid.length := by omega
        rw [this, List.take_left' rfl]
    rw [htext]

/-! ## what the writer draws for a content -/

/-- the Codabar writer model draws the words of the guard-mapped characters
    (the writer half of `Properties.C03.codabar_read_write`, Properties/C03.lean) -/
theorem codabarModules_chars (T : Tables) (f : CbFacts T) (contents : List Nat) (g l : Nat) (mid : List Nat)
    (h : codabarFull contents = .ok (g :: (mid ++ [l]))) (hg : cbGuardOk g = true) (hl : cbGuardOk l = true)
    (hmid : ∀ c ∈ mid, cbMidOk c = true) :
    codabarModules T contents =
      .ok (codabarDraw ((codabarGuardMap (toUpperByte g) :: (mid ++ [codabarGuardMap (toUpperByte l)])).map (cbWord T))) := by
  have hA := f.hA
  generalize hn : (g :: (mid ++ [l])).length = n at *
  let chars := codabarGuardMap (toUpperByte g) :: (mid ++ [codabarGuardMap (toUpperByte l)])
  have hchars := cbChars_eq g l mid hmid
  rw [hn] at hchars
  have hmem : ∀ c ∈ chars, c ∈ refTables.codabarAlphabet := by
    intro c hc
    simp only [chars, List.mem_cons, List.mem_append, List.mem_nil_iff, or_false] at hc
    rcases hc with rfl | hc | rfl
    · exact guard_mem _ hg
    · exact (mid_mem c (hmid c hc)).2
    · exact guard_mem _ hl
  have hmemi : ∀ i, i < n → cbChar n i ((g :: (mid ++ [l])).getD i 0) ∈ refTables.codabarAlphabet := by
    intro i hi
    apply hmem
    have : cbChar n i ((g :: (mid ++ [l])).getD i 0) ∈
        (List.range n).map (fun i => cbChar n i ((g :: (mid ++ [l])).getD i 0)) :=
      List.mem_map.mpr ⟨i, by simpa using hi, rfl⟩
    rw [hchars] at this
    exact this
  have hwords : codabarWords T (g :: (mid ++ [l])) = .ok (chars.map (cbWord T)) := by
    have e : chars.map (cbWord T)
        = (List.range n).map (fun i => T.codabarEnc.getD
            (cbIdx T.codabarAlphabet (cbChar n i ((g :: (mid ++ [l])).getD i 0))) 0) := by
      simp only [chars, ← hchars, List.map_map, Function.comp_def, cbWord]
    rw [e]
    unfold codabarWords
    simp only [hn]
    apply mapM_ok
    intro i hi
    have hi' : i < n := by simpa using hi
    obtain ⟨k, hk, hk20, _⟩ := refA_mem _ (hmemi i hi')
    have hnth := nthN_getD' (g :: (mid ++ [l])) i (by rw [hn]; exact hi')
    simp only [hnth, bind, Except.bind, pure, Except.pure]
    have hch : (if i = 0 ∨ i + 1 = n then codabarGuardMap (toUpperByte ((g :: (mid ++ [l])).getD i 0))
        else toUpperByte ((g :: (mid ++ [l])).getD i 0)) = cbChar n i ((g :: (mid ++ [l])).getD i 0) := rfl
    rw [hch, hA, hk]
    simp only [cbIdx, hk, Option.getD_some]
    exact nthN_getD' _ _ (by rw [f.encLen]; omega)
  simp only [codabarModules, h, hwords, bind, Except.bind, pure, Except.pure, chars]

theorem midOk_not_startEnd (c : Nat) (h : cbMidOk c = true) : cbStartEnd.contains c = false := by
  simp only [cbMidOk, decide_eq_true_eq] at h
  simp only [cbStartEnd, List.contains_eq_mem, List.mem_cons, List.not_mem_nil, or_false, decide_eq_false_iff_not]
  omega

theorem WFCbRow_ref : WFCbRow refTables = true := by decide +kernel

end Gzx.Row39
