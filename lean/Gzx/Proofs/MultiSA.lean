/-
  `processStructuredAppend` (Gzx/Model/MultiSA.lean): the two-pass buffer filling equals plain
  concatenation; no `copy(dst[index:], …)` ever slices beyond its buffer.  (The second half of the model,
  `decodeMultiple`, needs only `process_eq`: Properties/C06Multi.lean, `multi_decode_total`.)
-/
import Gzx.Model.MultiSA
namespace Gzx.MultiSA
open Gzx

theorem copyAt_spec (pre src : List Nat) (k : Nat) (h : src.length ≤ k) :
    copyAt (pre ++ List.replicate k 0) pre.length src = .ok ((pre ++ src) ++ List.replicate (k - src.length) 0) := by
  unfold copyAt
  have h1 : ¬ (pre.length > (pre ++ List.replicate k 0).length) := by simp
  simp only [h1, if_false]
  have h2 : min src.length ((pre ++ List.replicate k 0).length - pre.length) = src.length := by
    simp only [List.length_append, List.length_replicate]; omega
  rw [h2]
  congr 1
  rw [List.take_left', List.take_of_length_le (Nat.le_refl _)]
  · rw [List.drop_append]
    have : List.drop (pre.length + src.length) pre = [] := List.drop_of_length_le (by omega)
    rw [this, List.nil_append, List.drop_replicate]
    congr 2
    omega
  · rfl

theorem copyRaw_spec : ∀ (rs : List Result) (pre : List Nat) (k : Nat), (rs.map (·.raw.length)).sum = k →
    copyRaw rs (pre ++ List.replicate k 0) pre.length = .ok (pre ++ (rs.map (·.raw)).flatten) := by
  intro rs
  induction rs with
  | nil =>
    intro pre k hk
    simp only [List.map_nil, List.sum_nil] at hk
    subst hk
    simp [copyRaw]
  | cons r rs ih =>
    intro pre k hk
    simp only [List.map_cons, List.sum_cons] at hk
    unfold copyRaw
    rw [copyAt_spec pre r.raw k (by omega)]
    simp only [bind, Except.bind]
    have := ih (pre ++ r.raw) (k - r.raw.length) (by omega)
    rw [List.length_append] at this
    rw [this]
    simp

theorem copySegList_spec : ∀ (ss : List (List Nat)) (pre : List Nat) (k : Nat), (ss.map List.length).sum ≤ k →
    copySegList ss (pre ++ List.replicate k 0) pre.length =
      .ok ((pre ++ ss.flatten) ++ List.replicate (k - (ss.map List.length).sum) 0, (pre ++ ss.flatten).length) := by
  intro ss
  induction ss with
  | nil => intro pre k _; simp [copySegList]
  | cons s ss ih =>
    intro pre k hk
    simp only [List.map_cons, List.sum_cons] at hk
    unfold copySegList
    rw [copyAt_spec pre s k (by omega)]
    simp only [bind, Except.bind]
    have := ih (pre ++ s) (k - s.length) (by omega)
    rw [List.length_append] at this
    rw [this]
    simp only [List.map_cons, List.sum_cons, List.flatten_cons, List.append_assoc, List.length_append]
    have e : k - s.length - (ss.map List.length).sum = k - (s.length + (ss.map List.length).sum) := by omega
    rw [e]

theorem copySegs_spec : ∀ (rs : List Result) (pre : List Nat) (k : Nat),
    (rs.map (fun r => (r.segs.map List.length).sum)).sum = k →
    copySegs rs (pre ++ List.replicate k 0) pre.length = .ok (pre ++ (rs.map (fun r => r.segs.flatten)).flatten) := by
  intro rs
  induction rs with
  | nil =>
    intro pre k hk
    simp only [List.map_nil, List.sum_nil] at hk
    subst hk
    simp [copySegs]
  | cons r rs ih =>
    intro pre k hk
    simp only [List.map_cons, List.sum_cons] at hk
    unfold copySegs
    rw [copySegList_spec r.segs pre k (by omega)]
    simp only [bind, Except.bind]
    have := ih (pre ++ r.segs.flatten) (k - (r.segs.map List.length).sum) (by omega)
    rw [this]
    simp


/-- the merged result `processStructuredAppend` builds from the (sorted) structured-append results -/
def merged (sa : List Result) : Result :=
  { text := (sa.map (·.text)).flatten, raw := (sa.map (·.raw)).flatten, npoints := 0,
    md := if (sa.map (fun r => (r.segs.map List.length).sum)).sum > 0
          then [(kByteSegments, .segs [(sa.map (fun r => r.segs.flatten)).flatten])] else [] }

/-- `processStructuredAppend` in closed form, for EVERY `sort` function and EVERY result list -/
theorem process_eq (sort : List Result → List Result) (results : List Result) :
    process sort results =
      .ok (if results.any Result.hasSA
           then results.filter (fun r => !r.hasSA) ++ [merged (sort (results.filter Result.hasSA))]
           else results) := by
  unfold process
  cases h : results.any Result.hasSA with
  | false => simp
  | true =>
    simp only [Bool.not_true, Bool.false_eq_true, if_false, if_true]
    have h1 := copyRaw_spec (sort (results.filter Result.hasSA)) [] _ rfl
    have h2 := copySegs_spec (sort (results.filter Result.hasSA)) [] _ rfl
    simp only [List.nil_append, List.length_nil] at h1 h2
    rw [h1]
    simp only [bind, Except.bind]
    rw [h2]
    simp only [pure, Except.pure, merged]

end Gzx.MultiSA
