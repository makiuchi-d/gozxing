/-
  C17, the binarisers of Model/Binarizer.lean (global_histogram_binarizer.go, hybrid_binarizer.go): neither method
  panics on a `w x h` luminance array; the local method sets every pixel of value 0 and none of value 255 (every
  block black point is ≤ 254); `estimateBlackPoint` through its two peak searches (`IsPeak`), and on pure black/white
  samples: an estimate iff a sample is white (`estimateBlackPoint_bilevel`); the global method thresholds at one
  black point in [8, 240] or answers NotFound; `render` replays the `Set` calls (`render_spec`).
-/
import Gzx.Model.Binarizer
import Gzx.Proofs.ExceptList
import Gzx.Proofs.ListGrid

namespace Gzx.Binarizer
open Gzx

/-! ## index arithmetic and pixel reads -/

theorem idx_lt (w h x y : Nat) (hx : x < w) (hy : y < h) : y * w + x < w * h :=
  Nat.mul_comm w h ▸ mul_add_lt hy hx

theorem rd_ok_iff (lum : Array Nat) (i p : Nat) : rd lum i = .ok p ↔ lum[i]? = some p := by
  unfold rd
  split <;> simp_all

theorem px_some (lum : Array Nat) (w h x y : Nat) (hsz : lum.size = w * h) (hx : x < w) (hy : y < h) :
    ∃ p, lum[y * w + x]? = some p :=
  ⟨_, Array.getElem?_eq_getElem (hsz ▸ idx_lt w h x y hx hy)⟩

theorem mem_drop_range (a b x : Nat) : x ∈ (List.range b).drop a ↔ a ≤ x ∧ x < b := by
  rw [List.range_eq_range', List.drop_range', List.mem_range'_1]
  omega

/-! ## scanRect -/

theorem keepSet_eq_some (c : Nat × Nat × Bool) (X Y : Nat) : keepSet c = some (X, Y) ↔ c = (X, Y, true) := by
  obtain ⟨x, y, b⟩ := c
  cases b <;> simp [keepSet]

theorem mem_filterMap_keepSet (L : List (Nat × Nat × Bool)) (X Y : Nat) :
    (X, Y) ∈ L.filterMap keepSet ↔ (X, Y, true) ∈ L := by
  simp only [List.mem_filterMap, keepSet_eq_some, exists_eq_right]

theorem scanRect_spec (lum : Array Nat) (w h x0 y0 nx ny : Nat) (test : Nat → Bool)
    (hsz : lum.size = w * h) (hx : x0 + nx ≤ w) (hy : y0 + ny ≤ h) :
    ∃ sets, scanRect lum w x0 y0 nx ny test = .ok sets ∧
      ∀ X Y, (X, Y) ∈ sets ↔
        (x0 ≤ X ∧ X < x0 + nx ∧ y0 ≤ Y ∧ Y < y0 + ny ∧
          ∃ p, lum[Y * w + X]? = some p ∧ test (p % 256) = true) := by
  -- the pure image of the two traversals
  let cell : Nat → Nat → Nat × Nat × Bool := fun yy xx =>
    (x0 + xx, y0 + yy, test ((lum[(y0 + yy) * w + (x0 + xx)]?).getD 0 % 256))
  have hcell : ∀ yy ∈ List.range ny, ∀ xx ∈ List.range nx,
      scanCell lum w x0 y0 test yy xx = .ok (cell yy xx) := by
    intro yy hyy xx hxx
    obtain ⟨p, hp⟩ := px_some lum w h (x0 + xx) (y0 + yy) hsz (by have := List.mem_range.mp hxx; omega)
      (by have := List.mem_range.mp hyy; omega)
    simp only [scanCell, cell, Nat.add_assoc, (rd_ok_iff lum _ p).mpr hp, hp, Option.getD_some]
  have hres : scanRect lum w x0 y0 nx ny test =
      .ok ((((List.range ny).map fun yy => (List.range nx).map (cell yy)).flatten).filterMap keepSet) := by
    unfold scanRect scanCells
    rw [mapME_eq_map _ _ _ fun yy hyy => mapME_eq_map _ (cell yy) _ (hcell yy hyy)]
  refine ⟨_, hres, fun X Y => ?_⟩
  rw [mem_filterMap_keepSet]
  simp only [List.mem_flatten, List.mem_map, List.mem_range]
  constructor
  · rintro ⟨_, ⟨yy, hyy, rfl⟩, hm⟩
    obtain ⟨xx, hxx, e⟩ := List.mem_map.mp hm
    have hxx := List.mem_range.mp hxx
    obtain ⟨p, hp⟩ := px_some lum w h (x0 + xx) (y0 + yy) hsz (by omega) (by omega)
    simp only [cell, hp, Option.getD_some, Prod.mk.injEq] at e
    obtain ⟨rfl, rfl, ht⟩ := e
    exact ⟨by omega, by omega, by omega, by omega, p, hp, ht⟩
  · rintro ⟨h1, h2, h3, h4, p, hp, ht⟩
    refine ⟨_, ⟨Y - y0, by omega, rfl⟩, List.mem_map.mpr ⟨X - x0, List.mem_range.mpr (by omega), ?_⟩⟩
    simp only [cell]
    rw [show y0 + (Y - y0) = Y by omega, show x0 + (X - x0) = X by omega, hp, Option.getD_some, ht]

/-! ## block scan invariant -/

/-- after `n` pixels: the sum is at most `255·n` minus the slack of the smallest pixel seen -/
def ScanInv (s : Scan) (n : Nat) : Prop :=
  s.sum + (255 - s.mn) ≤ 255 * n ∧ s.mn ≤ 255 ∧ s.mx ≤ 255

theorem scanPixel_inv (s : Scan) (n p : Nat) (hp : p ≤ 255) (h : ScanInv s n) :
    ScanInv (scanPixel s p) (n + 1) := by
  obtain ⟨h1, h2, h3⟩ := h
  simp only [ScanInv, scanPixel]
  refine ⟨?_, ?_, ?_⟩ <;> omega

/-- a fold each of whose steps advances a counted invariant by `c` -/
theorem foldl_counted {σ α : Type} (P : σ → Nat → Prop) (f : σ → α → σ) (c : Nat) :
    ∀ (l : List α) (s : σ) (n : Nat), (∀ s n, ∀ a ∈ l, P s n → P (f s a) (n + c)) → P s n →
      P (l.foldl f s) (n + c * l.length)
  | [], _, _, _, h => h
  | a :: l, s, n, step, h => by
    have := foldl_counted P f c l (f s a) (n + c) (fun s n b hb => step s n b (List.mem_cons_of_mem _ hb))
      (step s n a List.mem_cons_self h)
    rwa [List.foldl_cons, List.length_cons, Nat.mul_succ, Nat.add_comm (c * l.length), ← Nat.add_assoc]

theorem foldl_add_le (ps : List Nat) (a B : Nat) (hps : ∀ p ∈ ps, p ≤ B) :
    ps.foldl (· + ·) a ≤ a + B * ps.length := by
  induction ps generalizing a with
  | nil => simp
  | cons p ps ih =>
    simp only [List.foldl_cons, List.length_cons]
    have := ih (a + p) (fun q hq => hps q (by simp [hq]))
    have hp := hps p (by simp)
    rw [Nat.mul_succ]; omega

theorem scanRow_inv (s : Scan) (n : Nat) (ps : List Nat) (hps : ∀ p ∈ ps, p ≤ 255)
    (h : ScanInv s n) : ScanInv (scanRow s ps) (n + ps.length) := by
  unfold scanRow
  split
  · obtain ⟨h1, h2, h3⟩ := h
    have := foldl_add_le ps s.sum 255 hps
    simp only [ScanInv]
    refine ⟨?_, h2, h3⟩
    rw [Nat.mul_add]; omega
  · have := foldl_counted ScanInv scanPixel 1 ps s n (fun s n p hp => scanPixel_inv s n p (hps p hp)) h
    simpa [ScanInv] using this

theorem blockBlackPoint_le (s : Scan) (nb : Option (Nat × Nat × Nat)) (h : ScanInv s 64)
    (hnb : ∀ a b c, nb = some (a, b, c) → a ≤ 254 ∧ b ≤ 254 ∧ c ≤ 254) :
    blockBlackPoint s nb ≤ 254 := by
  obtain ⟨h1, h2, h3⟩ := h
  unfold blockBlackPoint MIN_DYNAMIC_RANGE
  split
  · match nb, hnb with
    | none, _ => simp only; omega
    | some (a, b, c), hnb =>
      obtain ⟨ha, hb, hc⟩ := hnb a b c rfl
      simp only
      split <;> omega
  · omega

theorem blockRow_ok (lum : Array Nat) (w h xo yo yy : Nat) (hsz : lum.size = w * h)
    (hx : xo + 8 ≤ w) (hy : yo + yy < h) :
    ∃ ps, blockRow lum w xo yo yy = .ok ps ∧ ps.length = 8 ∧ ∀ p ∈ ps, p ≤ 255 := by
  have hex : ∀ xx ∈ List.range 8, ∃ b, blockPixel lum w xo yo yy xx = .ok b := by
    intro xx hxx
    obtain ⟨p, hp⟩ := px_some lum w h (xo + xx) (yo + yy) hsz (by have := List.mem_range.mp hxx; omega) hy
    exact ⟨p % 256, by simp only [blockPixel, Nat.add_assoc, (rd_ok_iff lum _ p).mpr hp]⟩
  obtain ⟨ps, hps⟩ := mapME_exists _ _ hex
  refine ⟨ps, hps, by simpa using mapME_length _ _ _ hps, fun p hp => ?_⟩
  obtain ⟨xx, _, hf⟩ := mapME_mem_right _ _ _ hps p hp
  unfold blockPixel at hf
  split at hf
  · cases hf
  · cases hf; omega

theorem scanBlock_ok (lum : Array Nat) (w h xo yo : Nat) (hsz : lum.size = w * h)
    (hx : xo + 8 ≤ w) (hy : yo + 8 ≤ h) :
    ∃ s, scanBlock lum w xo yo = .ok s ∧ ScanInv s 64 := by
  have hrow : ∀ yy ∈ List.range 8,
      ∃ ps, blockRow lum w xo yo yy = .ok ps ∧ ps.length = 8 ∧ ∀ p ∈ ps, p ≤ 255 :=
    fun yy hyy => blockRow_ok lum w h xo yo yy hsz hx (by have := List.mem_range.mp hyy; omega)
  obtain ⟨rows, hrows⟩ := mapME_exists _ _ fun yy hyy => (hrow yy hyy).imp fun _ h => h.1
  refine ⟨rows.foldl scanRow scanInit, by simp only [scanBlock, hrows], ?_⟩
  have hlen : rows.length = 8 := by simpa using mapME_length _ _ _ hrows
  have := foldl_counted ScanInv scanRow 8 rows scanInit 0
    (fun s n r hr hs => by
      obtain ⟨yy, hyy, hf⟩ := mapME_mem_right _ _ _ hrows r hr
      obtain ⟨ps, h1, h2, h3⟩ := hrow yy hyy
      rw [h1] at hf; cases hf
      exact h2 ▸ scanRow_inv s n r h3 hs)
    (by simp [ScanInv, scanInit])
  rwa [hlen] at this

theorem blockOffset_le (i dim : Nat) (hd : 8 ≤ dim) : blockOffset i dim + 8 ≤ dim := by
  unfold blockOffset; split <;> omega

/-! ## black points: every entry is ≤ 254 -/

def GoodRow (subW : Nat) (r : List Nat) : Prop := r.length = subW ∧ ∀ v ∈ r, v ≤ 254

theorem neighbours_ok (pr acc : List Nat) (subW k : Nat) (hpr : GoodRow subW pr)
    (hk : k < subW) (hacc : acc.length = k) (haccv : ∀ v ∈ acc, v ≤ 254) :
    ∃ nb, neighbours pr acc k = .ok nb ∧
      ∀ a b c, nb = some (a, b, c) → a ≤ 254 ∧ b ≤ 254 ∧ c ≤ 254 := by
  unfold neighbours
  split
  · exact ⟨none, rfl, by simp⟩
  · obtain ⟨hl, hv⟩ := hpr
    have h1 : k < pr.length := by omega
    have h2 : k - 1 < acc.length := by omega
    have h3 : k - 1 < pr.length := by omega
    rw [List.getElem?_eq_getElem h1, List.getElem?_eq_getElem h2, List.getElem?_eq_getElem h3]
    refine ⟨_, rfl, ?_⟩
    intro a b c habc
    cases habc
    exact ⟨hv _ (List.getElem_mem h1), haccv _ (List.getElem_mem h2), hv _ (List.getElem_mem h3)⟩

theorem bpRow_ok (lum : Array Nat) (w h y subW : Nat) (hsz : lum.size = w * h)
    (hw : 8 ≤ w) (hh : 8 ≤ h) (prev : Option (List Nat))
    (hprev : ∀ pr, prev = some pr → GoodRow subW pr)
    (n k : Nat) (acc : List Nat) (hacc : acc.length = k) (haccv : ∀ v ∈ acc, v ≤ 254)
    (hk : k + n = subW) :
    ∃ row, bpRow lum w h y prev (List.range' k n) acc = .ok row ∧ GoodRow subW row := by
  induction n generalizing k acc with
  | zero => exact ⟨acc, by simp [bpRow], by omega, haccv⟩
  | succ n ih =>
    rw [List.range'_succ]
    unfold bpRow
    obtain ⟨s, hs, hinv⟩ := scanBlock_ok lum w h (blockOffset k w) (blockOffset y h) hsz
      (blockOffset_le k w hw) (blockOffset_le y h hh)
    rw [hs]
    have hnb : ∃ nb, neighboursOf prev acc k = .ok nb ∧
          ∀ a b c, nb = some (a, b, c) → a ≤ 254 ∧ b ≤ 254 ∧ c ≤ 254 := by
      match prev, hprev with
      | none, _ => exact ⟨none, rfl, by simp⟩
      | some pr, hprev => exact neighbours_ok pr acc subW k (hprev pr rfl) (by omega) hacc haccv
    obtain ⟨nb, hnb1, hnb2⟩ := hnb
    simp only [hnb1]
    exact ih (k + 1) (acc ++ [blockBlackPoint s nb]) (by simp [hacc])
      (List.forall_mem_append.mpr ⟨haccv, List.forall_mem_singleton.mpr (blockBlackPoint_le s nb hinv hnb2)⟩)
      (by omega)

theorem bpRows_ok (lum : Array Nat) (w h subW : Nat) (hsz : lum.size = w * h)
    (hw : 8 ≤ w) (hh : 8 ≤ h) (n k : Nat) (prev : Option (List Nat))
    (hprev : ∀ pr, prev = some pr → GoodRow subW pr)
    (acc : List (List Nat)) (hacc : acc.length = k) (haccv : ∀ r ∈ acc, GoodRow subW r) :
    ∃ bps, bpRows lum w h subW (List.range' k n) prev acc = .ok bps ∧ bps.length = k + n ∧
      ∀ r ∈ bps, GoodRow subW r := by
  induction n generalizing k prev acc with
  | zero => exact ⟨acc, by simp [bpRows], by simpa using hacc, haccv⟩
  | succ n ih =>
    rw [List.range'_succ]
    unfold bpRows
    have hr := bpRow_ok lum w h k subW hsz hw hh prev hprev subW 0 [] rfl (by simp) (by omega)
    rw [← List.range_eq_range'] at hr
    obtain ⟨row, hrow, hgood⟩ := hr
    rw [hrow]
    obtain ⟨bps, h1, h2, h3⟩ := ih (k + 1) (some row) (by intro pr hpr; cases hpr; exact hgood) (acc ++ [row])
      (by simp [hacc]) (List.forall_mem_append.mpr ⟨haccv, List.forall_mem_singleton.mpr hgood⟩)
    exact ⟨bps, h1, by omega, h3⟩

theorem calculateBlackPoints_ok (lum : Array Nat) (w h : Nat) (hsz : lum.size = w * h)
    (hw : 8 ≤ w) (hh : 8 ≤ h) :
    ∃ bps, calculateBlackPoints lum w h = .ok bps ∧ bps.length = subDim h ∧
      ∀ r ∈ bps, GoodRow (subDim w) r := by
  unfold calculateBlackPoints
  rw [List.range_eq_range']
  simpa using bpRows_ok lum w h (subDim w) hsz hw hh (subDim h) 0 none (by simp) [] rfl (by simp)

/-! ## thresholds -/

theorem cap_bounds (v hi : Nat) (h : 2 ≤ hi) : 2 ≤ cap v 2 hi ∧ cap v 2 hi ≤ hi := by
  unfold cap; split
  · omega
  · split <;> omega

theorem sum5_ok (row : List Nat) (subW left : Nat) (hrow : GoodRow subW row)
    (h2 : 2 ≤ left) (h3 : left + 3 ≤ subW) : ∃ s, sum5 row left = .ok s ∧ s ≤ 1270 := by
  obtain ⟨hl, hv⟩ := hrow
  unfold sum5
  have i0 : left - 2 < row.length := by omega
  have i1 : left - 1 < row.length := by omega
  have i2 : left < row.length := by omega
  have i3 : left + 1 < row.length := by omega
  have i4 : left + 2 < row.length := by omega
  rw [if_neg (Nat.not_lt.mpr h2), List.getElem?_eq_getElem i0, List.getElem?_eq_getElem i1,
    List.getElem?_eq_getElem i2, List.getElem?_eq_getElem i3, List.getElem?_eq_getElem i4]
  refine ⟨_, rfl, ?_⟩
  have b0 := hv _ (List.getElem_mem i0)
  have b1 := hv _ (List.getElem_mem i1)
  have b2 := hv _ (List.getElem_mem i2)
  have b3 := hv _ (List.getElem_mem i3)
  have b4 := hv _ (List.getElem_mem i4)
  omega

theorem blockThreshold_ok (bps : List (List Nat)) (subW subH x y : Nat)
    (hW : 5 ≤ subW) (hH : 5 ≤ subH) (hlen : bps.length = subH)
    (hgood : ∀ r ∈ bps, GoodRow subW r) :
    ∃ thr, blockThreshold bps subW subH x y = .ok thr ∧ thr ≤ 254 := by
  unfold blockThreshold
  obtain ⟨t2, t3⟩ := cap_bounds y (subH - 3) (by omega)
  obtain ⟨l2, l3⟩ := cap_bounds x (subW - 3) (by omega)
  simp only [if_neg (Nat.not_lt.mpr t2)]
  have hex : ∀ r ∈ [cap y 2 (subH - 3) - 2, cap y 2 (subH - 3) - 1, cap y 2 (subH - 3),
      cap y 2 (subH - 3) + 1, cap y 2 (subH - 3) + 2],
      ∃ s, rowSum5 bps (cap x 2 (subW - 3)) r = .ok s ∧ s ≤ 1270 := by
    intro r hr
    have hr' : r < bps.length := by
      simp only [List.mem_cons, List.mem_nil_iff, or_false] at hr
      omega
    unfold rowSum5
    rw [List.getElem?_eq_getElem hr']
    exact sum5_ok bps[r] subW _ (hgood _ (List.getElem_mem hr')) l2 (by omega)
  obtain ⟨sums, hsums⟩ := mapME_exists _ _ (fun r hr => (hex r hr).imp (fun _ h => h.1))
  rw [hsums]
  refine ⟨_, rfl, ?_⟩
  have hl : sums.length = 5 := by simpa using mapME_length _ _ _ hsums
  have hb : ∀ s ∈ sums, s ≤ 1270 := by
    intro s hs
    obtain ⟨r, hr, hf⟩ := mapME_mem_right _ _ _ hsums s hs
    obtain ⟨s', hs', hle⟩ := hex r hr
    rw [hs'] at hf; cases hf; exact hle
  have := foldl_add_le sums 0 1270 hb
  rw [hl] at this
  omega

/-! ## coverage of the image by the (clamped) blocks -/

theorem subDim_ge (n : Nat) (hn : 40 ≤ n) : 5 ≤ subDim n := by
  unfold subDim; split <;> omega

theorem block_covers (X dim : Nat) (hX : X < dim) (hd : 8 ≤ dim) :
    X / 8 < subDim dim ∧ blockOffset (X / 8) dim ≤ X ∧ X < blockOffset (X / 8) dim + 8 := by
  unfold subDim blockOffset
  refine ⟨?_, ?_, ?_⟩ <;> split <;> omega

/-! ## the local method: no panic, 0 is black, 255 is white -/

theorem hybridBlock_spec (lum : Array Nat) (w h : Nat) (bps : List (List Nat)) (x y : Nat)
    (hsz : lum.size = w * h) (hw : 40 ≤ w) (hh : 40 ≤ h)
    (hlen : bps.length = subDim h) (hgood : ∀ r ∈ bps, GoodRow (subDim w) r) :
    ∃ sets thr, hybridBlock lum w h bps x y = .ok sets ∧ thr ≤ 254 ∧
      ∀ X Y, (X, Y) ∈ sets ↔
        (blockOffset x w ≤ X ∧ X < blockOffset x w + 8 ∧ blockOffset y h ≤ Y ∧ Y < blockOffset y h + 8 ∧
          ∃ p, lum[Y * w + X]? = some p ∧ p % 256 ≤ thr) := by
  obtain ⟨thr, hthr, hle⟩ := blockThreshold_ok bps (subDim w) (subDim h) x y
    (subDim_ge w hw) (subDim_ge h hh) hlen hgood
  obtain ⟨sets, hsets, hmem⟩ := scanRect_spec lum w h (blockOffset x w) (blockOffset y h) 8 8
    (fun p => decide (p ≤ thr)) hsz (blockOffset_le x w (by omega)) (blockOffset_le y h (by omega))
  refine ⟨sets, thr, by simp only [hybridBlock, hthr, thresholdBlock, hsets], hle, ?_⟩
  intro X Y
  rw [hmem X Y]
  simp

theorem hybridBlocks_spec (lum : Array Nat) (w h : Nat) (bps : List (List Nat))
    (hsz : lum.size = w * h) (hw : 40 ≤ w) (hh : 40 ≤ h)
    (hlen : bps.length = subDim h) (hgood : ∀ r ∈ bps, GoodRow (subDim w) r) :
    ∃ sets, hybridBlocks lum w h bps = .ok sets ∧
      (∀ X Y, (X, Y) ∈ sets → X < w ∧ Y < h ∧ ∃ p, lum[Y * w + X]? = some p ∧ p % 256 ≤ 254) ∧
      (∀ X Y p, X < w → Y < h → lum[Y * w + X]? = some p → p % 256 = 0 → (X, Y) ∈ sets) := by
  have hblk := fun x y => hybridBlock_spec lum w h bps x y hsz hw hh hlen hgood
  -- every block and hence every row of blocks is computed
  have hrow : ∀ y, ∃ bl, mapME (fun x => hybridBlock lum w h bps x y) (List.range (subDim w)) = .ok bl :=
    fun y => mapME_exists _ _ fun x _ => by obtain ⟨s, _, hs, _⟩ := hblk x y; exact ⟨s, hs⟩
  obtain ⟨perRow, hper⟩ := mapME_exists (hybridRow lum w h bps) (List.range (subDim h)) fun y _ => by
    obtain ⟨bl, hbl⟩ := hrow y
    exact ⟨bl.flatten, by simp only [hybridRow, hbl]⟩
  -- a `Set` call is a `Set` call of the block of some `(x, y)`
  have hmem : ∀ q, q ∈ perRow.flatten ↔ ∃ y ∈ List.range (subDim h), ∃ x ∈ List.range (subDim w),
      ∃ s, hybridBlock lum w h bps x y = .ok s ∧ q ∈ s := by
    intro q
    rw [mem_flatten_mapME _ _ _ hper]
    refine exists_congr fun y => and_congr_right fun _ => ?_
    obtain ⟨bl, hbl⟩ := hrow y
    simp only [hybridRow, hbl, Except.ok.injEq, exists_eq_left', mem_flatten_mapME _ _ _ hbl]
  refine ⟨perRow.flatten, by simp only [hybridBlocks, hper], ?_, ?_⟩
  · intro X Y hXY
    obtain ⟨y, _, x, _, s, hs, hq⟩ := (hmem _).mp hXY
    obtain ⟨sets, thr, hs', hthr, hm⟩ := hblk x y
    rw [hs'] at hs; cases hs
    obtain ⟨h1, h2, h3, h4, p, hp, hpt⟩ := (hm X Y).mp hq
    have bx := blockOffset_le x w (by omega)
    have by' := blockOffset_le y h (by omega)
    exact ⟨by omega, by omega, p, hp, by omega⟩
  · intro X Y p hX hY hp h0
    obtain ⟨cx1, cx2, cx3⟩ := block_covers X w hX (by omega)
    obtain ⟨cy1, cy2, cy3⟩ := block_covers Y h hY (by omega)
    obtain ⟨sets, thr, hs, hthr, hm⟩ := hblk (X / 8) (Y / 8)
    exact (hmem _).mpr ⟨_, List.mem_range.mpr cy1, _, List.mem_range.mpr cx1, sets, hs,
      (hm X Y).mpr ⟨cx2, cx3, cy2, cy3, p, hp, by omega⟩⟩

theorem hybridSets_local (lum : Array Nat) (w h : Nat)
    (hsz : lum.size = w * h) (hw : 40 ≤ w) (hh : 40 ≤ h) :
    ∃ sets, hybridSets lum w h = .ok sets ∧
      (∀ X Y, (X, Y) ∈ sets → X < w ∧ Y < h ∧ ∃ p, lum[Y * w + X]? = some p ∧ p % 256 ≤ 254) ∧
      (∀ X Y p, X < w → Y < h → lum[Y * w + X]? = some p → p % 256 = 0 → (X, Y) ∈ sets) := by
  obtain ⟨bps, hbps, hlen, hgood⟩ := calculateBlackPoints_ok lum w h hsz (by omega) (by omega)
  obtain ⟨sets, hs, h1, h2⟩ := hybridBlocks_spec lum w h bps hsz hw hh hlen hgood
  refine ⟨sets, ?_, h1, h2⟩
  unfold hybridSets MINIMUM_DIMENSION
  rw [if_pos ⟨hw, hh⟩]
  simp only [hbps, hs]

/-! ## `estimateBlackPoint`: two peak searches, a contrast test, a valley search -/

theorem mem_indexed (bs : List Nat) (x c : Nat) : (x, c) ∈ indexed bs ↔ bs[x]? = some c := by
  simp only [indexed, List.mem_iff_getElem?, List.getElem?_zip_eq_some]
  constructor
  · rintro ⟨i, h1, h2⟩
    obtain ⟨_, e⟩ := List.getElem?_eq_some_iff.mp h1
    rw [List.getElem_range] at e
    exact e ▸ h2
  · intro h
    exact ⟨x, List.getElem?_range (List.getElem?_eq_some_iff.mp h).1, h⟩

theorem argmaxStrict_spec (cands : List (Nat × Int)) : ∀ best : Nat × Int,
    (argmaxStrict best cands = best ∨
      (argmaxStrict best cands ∈ cands ∧ best.2 < (argmaxStrict best cands).2)) ∧
    ∀ c ∈ cands, c.2 ≤ (argmaxStrict best cands).2 := by
  induction cands with
  | nil => intro best; exact ⟨Or.inl rfl, by simp⟩
  | cons c cs ih =>
    intro best
    obtain ⟨x, s⟩ := c
    unfold argmaxStrict
    rw [List.forall_mem_cons]
    simp only [List.mem_cons]
    split
    · rename_i hgt
      obtain ⟨h | ⟨h1, h2⟩, hd⟩ := ih (x, s)
      · rw [h]; exact ⟨Or.inr ⟨Or.inl rfl, hgt⟩, Int.le_refl _, by rw [← h]; exact hd⟩
      · simp only at h2
        exact ⟨Or.inr ⟨Or.inr h1, by omega⟩, by omega, hd⟩
    · rename_i hle
      obtain ⟨h | ⟨h1, h2⟩, hd⟩ := ih best
      · rw [h]; exact ⟨Or.inl rfl, by omega, by rw [← h]; exact hd⟩
      · exact ⟨Or.inr ⟨Or.inr h1, h2⟩, by omega, hd⟩

/-- `r` is what a peak search of `estimateBlackPoint` (`argmaxStrict` from `(0, 0)` over the buckets scored by
    `f`) can return: the start value or a bucket with a positive score, and no bucket scores higher -/
def IsPeak (bs : List Nat) (f : Nat → Nat → Nat) (r : Nat × Int) : Prop :=
  (r = (0, 0) ∨ ∃ c, bs[r.1]? = some c ∧ r.2 = f r.1 c ∧ 0 < f r.1 c) ∧
  ∀ x c, bs[x]? = some c → (f x c : Int) ≤ r.2

theorem isPeak_argmax (bs : List Nat) (f : Nat → Nat → Nat) :
    IsPeak bs f (argmaxStrict (0, 0) ((indexed bs).map fun (x, c) => (x, ((f x c : Nat) : Int)))) := by
  obtain ⟨h, hd⟩ := argmaxStrict_spec ((indexed bs).map fun (x, c) => (x, ((f x c : Nat) : Int))) (0, 0)
  refine ⟨h.imp id ?_, fun x c hc => hd _ (List.mem_map.mpr ⟨(x, c), (mem_indexed bs x c).mpr hc, rfl⟩)⟩
  rintro ⟨hm, hpos⟩
  obtain ⟨⟨x, c⟩, hxc, e⟩ := List.mem_map.mp hm
  rw [← e] at hpos ⊢
  exact ⟨c, (mem_indexed bs x c).mp hxc, rfl, by simpa using hpos⟩

theorem IsPeak.lt_length {bs : List Nat} {f : Nat → Nat → Nat} {r : Nat × Int} (h : IsPeak bs f r) :
    r.1 = 0 ∨ r.1 < bs.length := by
  rcases h.1 with rfl | ⟨c, hc, -⟩
  · exact Or.inl rfl
  · exact Or.inr (List.getElem?_eq_some_iff.mp hc).1

/-- `estimateBlackPoint` in terms of its two peaks: NotFound when they are closer than a sixteenth of the
    histogram, else `8·v` for a valley `v` between them (`v` is the bucket left of the right peak when no
    candidate scores above the initial −1) -/
theorem estimateBlackPoint_cases (bs : List Nat) :
    ∃ first second : Nat × Int,
      IsPeak bs (fun _ c => c) first ∧ IsPeak bs (fun x c => c * sqDist x first.1) second ∧
      if max first.1 second.1 - min first.1 second.1 ≤ bs.length / 16 then
        estimateBlackPoint bs = .error .notFound
      else ∃ v, estimateBlackPoint bs = .ok (v * 8) ∧
        (v = max first.1 second.1 - 1 ∨ min first.1 second.1 < v) ∧ v < max first.1 second.1 := by
  refine ⟨_, _, isPeak_argmax bs (fun _ c => c), isPeak_argmax bs (fun x c => c * sqDist x _), ?_⟩
  unfold estimateBlackPoint
  simp only
  split
  · rfl
  · rename_i hc
    refine ⟨_, rfl, ?_⟩
    rcases (argmaxStrict_spec _ _).1 with e | ⟨e, -⟩
    · rw [e]; exact ⟨Or.inl rfl, by omega⟩
    · obtain ⟨⟨x, c⟩, hm, he⟩ := List.mem_map.mp e
      have := (List.mem_filter.mp (List.mem_reverse.mp hm)).2
      simp only [decide_eq_true_eq] at this
      rw [← he]
      exact ⟨Or.inr this.1, this.2⟩

theorem estimateBlackPoint_error (bs : List Nat) (e : Fault) (h : estimateBlackPoint bs = .error e) :
    e = .notFound := by
  obtain ⟨_, _, -, -, hc⟩ := estimateBlackPoint_cases bs
  split at hc
  · rw [hc] at h; cases h; rfl
  · obtain ⟨v, hv, -⟩ := hc; rw [hv] at h; cases h

/-- a successful result lies strictly between two bucket indices -/
theorem estimateBlackPoint_bounds (buckets : List Nat) (bp : Nat) (hlen : 16 ≤ buckets.length)
    (h : estimateBlackPoint buckets = .ok bp) :
    8 ≤ bp ∧ bp + 16 ≤ 8 * buckets.length := by
  obtain ⟨first, second, hf, hs, hc⟩ := estimateBlackPoint_cases buckets
  have := hf.lt_length
  have := hs.lt_length
  split at hc
  · rw [hc] at h; cases h
  · obtain ⟨v, hv, h1, h2⟩ := hc
    rw [hv] at h; cases h
    omega

theorem histogram_length (ps : List Nat) : (histogram ps).length = 32 := by simp [histogram, LUMINANCE_BUCKETS]

theorem blackPoint_range (ps : List Nat) (bp : Nat) (h : estimateBlackPoint (histogram ps) = .ok bp) :
    8 ≤ bp ∧ bp ≤ 240 := by
  have := estimateBlackPoint_bounds _ bp (by rw [histogram_length]; omega) h
  rw [histogram_length] at this
  omega

/-! ## `estimateBlackPoint` on a histogram with at most two non-empty buckets -/

/-- a histogram with two possible peaks only: every bucket strictly between 0 and 31 is empty, bucket 31 is not -/
structure TwoPeaks (buckets : List Nat) : Prop where
  len : buckets.length = 32
  mid : ∀ x c, buckets[x]? = some c → 0 < c → x = 0 ∨ x = 31
  white : ∃ nw, buckets[31]? = some nw ∧ 0 < nw

theorem sqDist_pos (x p : Nat) (h : x ≠ p) : 0 < sqDist x p := by
  unfold sqDist
  split <;> exact Nat.mul_pos (by omega) (by omega)

theorem sqDist_self (x : Nat) : sqDist x x = 0 := by simp [sqDist]

theorem IsPeak.second {bs : List Nat} {p : Nat} {r : Nat × Int} (h : IsPeak bs (fun x c => c * sqDist x p) r) :
    r = (0, 0) ∨ ∃ c, bs[r.1]? = some c ∧ 0 < c ∧ r.1 ≠ p := by
  refine h.1.imp id ?_
  rintro ⟨c, hc, -, hpos⟩
  refine ⟨c, hc, Nat.pos_of_mul_pos_right hpos, ?_⟩
  rintro rfl
  simp only [sqDist_self] at hpos
  omega

/-- the contrast test of `estimateBlackPoint` passes on such a histogram: a black point is returned -/
theorem estimateBlackPoint_twoPeaks (buckets : List Nat) (h : TwoPeaks buckets) :
    ∃ bp, estimateBlackPoint buckets = .ok bp := by
  obtain ⟨nw, hnw, hpos⟩ := h.white
  obtain ⟨first, second, hf, hs, hc⟩ := estimateBlackPoint_cases buckets
  -- each peak is bucket 0 (possibly as the start value) or bucket 31, and they differ
  have hf' : first.1 = 0 ∨ first.1 = 31 := by
    rcases hf.1 with rfl | ⟨c, hc, -, hp⟩
    · exact Or.inl rfl
    · exact h.mid _ c hc hp
  have hs' : (second.1 = 0 ∨ second.1 = 31) ∧ second.1 ≠ first.1 := by
    rcases hs.second with rfl | ⟨c, hc, hp, hne⟩
    · -- the start value survives the second search only if bucket 31 scores 0, i.e. is the first peak
      refine ⟨Or.inl rfl, fun e => ?_⟩
      have := hs.2 31 nw hnw
      rw [← e] at this
      have := Nat.mul_pos hpos (sqDist_pos 31 0 (by decide))
      simp only at *
      omega
    · exact ⟨h.mid _ c hc hp, hne⟩
  rw [h.len, if_neg (by omega)] at hc
  obtain ⟨v, hv, -⟩ := hc
  exact ⟨_, hv⟩

/-- a histogram whose only non-empty bucket (if any) is bucket 0: both peaks are bucket 0, the contrast test fails -/
theorem estimateBlackPoint_onePeak (buckets : List Nat) (hlen : buckets.length = 32)
    (h : ∀ x c, buckets[x]? = some c → 0 < c → x = 0) :
    estimateBlackPoint buckets = .error .notFound := by
  obtain ⟨first, second, hf, hs, hc⟩ := estimateBlackPoint_cases buckets
  have hf' : first.1 = 0 := by
    rcases hf.1 with rfl | ⟨c, hc, -, hp⟩
    · rfl
    · exact h _ c hc hp
  have hs' : second.1 = 0 := by
    rcases hs.second with rfl | ⟨c, hc, hp, -⟩
    · rfl
    · exact h _ c hc hp
  rwa [if_pos (by omega)] at hc

/-! ## the histogram of bilevel samples -/

theorem histogram_get (ps : List Nat) (x : Nat) (hx : x < 32) :
    (histogram ps)[x]? = some (ps.countP (fun p => bucketOf p == x)) := by
  unfold histogram LUMINANCE_BUCKETS
  rw [List.getElem?_map, List.getElem?_range hx]
  rfl

theorem histogram_pos (ps : List Nat) (x c : Nat) (hc : (histogram ps)[x]? = some c) (hpos : 0 < c) :
    ∃ p ∈ ps, bucketOf p = x := by
  rw [histogram_get ps x (histogram_length ps ▸ (List.getElem?_eq_some_iff.mp hc).1)] at hc
  cases hc
  obtain ⟨p, hp, hb⟩ := List.countP_pos_iff.mp hpos
  exact ⟨p, hp, by simpa using hb⟩

theorem histogram_twoPeaks (ps : List Nat) (hbi : ∀ p ∈ ps, p = 0 ∨ p = 255) (hw : 255 ∈ ps) :
    TwoPeaks (histogram ps) := by
  refine ⟨histogram_length ps, fun x c hc hpos => ?_, _, histogram_get ps 31 (by decide),
    List.countP_pos_iff.mpr ⟨255, hw, by simp [bucketOf]⟩⟩
  obtain ⟨p, hp, rfl⟩ := histogram_pos ps x c hc hpos
  rcases hbi p hp with rfl | rfl
  · exact Or.inl rfl
  · exact Or.inr rfl

theorem histogram_onePeak (ps : List Nat) (hb : ∀ p ∈ ps, p = 0) :
    ∀ x c, (histogram ps)[x]? = some c → 0 < c → x = 0 := by
  intro x c hc hpos
  obtain ⟨p, hp, rfl⟩ := histogram_pos ps x c hc hpos
  rw [hb p hp]
  rfl

theorem estimateBlackPoint_bilevel (ps : List Nat) (hbi : ∀ p ∈ ps, p = 0 ∨ p = 255) :
    (255 ∈ ps → ∃ bp, estimateBlackPoint (histogram ps) = .ok bp) ∧
    (255 ∉ ps → estimateBlackPoint (histogram ps) = .error .notFound) :=
  ⟨fun h => estimateBlackPoint_twoPeaks _ (histogram_twoPeaks ps hbi h),
   fun h => estimateBlackPoint_onePeak _ (histogram_length ps)
     (histogram_onePeak ps fun p hp => (hbi p hp).resolve_right fun e => h (e ▸ hp))⟩

/-! ## the global method -/

/-- the rows the global method samples lie inside the image -/
theorem sampleLine_lt (h k : Nat) (hh : 1 ≤ h) (hk : k ∈ [1, 2, 3, 4]) : h * k / 5 < h := by
  have : h * k ≤ h * 4 := Nat.mul_le_mul_left h (by
    simp only [List.mem_cons, List.mem_nil_iff, or_false] at hk; omega)
  omega

theorem samples_spec (lum : Array Nat) (w h : Nat) (hsz : lum.size = w * h) (hh : 1 ≤ h) :
    ∃ ps, samples lum w h = .ok ps ∧ ∀ p, p ∈ ps ↔
      ∃ k x, k ∈ [1, 2, 3, 4] ∧ w / 5 ≤ x ∧ x < w * 4 / 5 ∧ lum[(h * k / 5) * w + x]? = some p := by
  have hrow : ∀ k ∈ [1, 2, 3, 4], ∃ row, sampleRowAt lum w h k = .ok row := by
    intro k hk
    refine mapME_exists _ _ fun x hx => ?_
    have hx2 := ((mem_drop_range _ _ _).mp hx).2
    obtain ⟨p, hp⟩ := px_some lum w h x (h * k / 5) hsz (by omega) (sampleLine_lt h k hh hk)
    exact ⟨p, (rd_ok_iff lum _ p).mpr hp⟩
  obtain ⟨rows, hrows⟩ := mapME_exists _ _ hrow
  refine ⟨rows.flatten, by simp only [samples, hrows], fun p => ?_⟩
  rw [mem_flatten_mapME _ _ _ hrows]
  constructor
  · rintro ⟨k, hk, row, hkr, hp⟩
    obtain ⟨x, hx, hxp⟩ := (mem_mapME_iff _ _ _ hkr p).mp hp
    obtain ⟨h1, h2⟩ := (mem_drop_range _ _ _).mp hx
    exact ⟨k, x, hk, h1, h2, (rd_ok_iff lum _ p).mp hxp⟩
  · rintro ⟨k, x, hk, h1, h2, hl⟩
    obtain ⟨row, hkr⟩ := hrow k hk
    exact ⟨k, hk, row, hkr, (mem_mapME_iff _ _ _ hkr p).mpr
      ⟨x, (mem_drop_range _ _ _).mpr ⟨h1, h2⟩, (rd_ok_iff lum _ p).mpr hl⟩⟩

/-- `GlobalHistogramBinarizer.GetBlackMatrix` never panics; with `ps` the sampled pixels it answers NotFound
    when their histogram has no black point, and else sets exactly the pixels below that black point, which
    lies in `[8, 240]` -/
theorem globalSets_spec (lum : Array Nat) (w h : Nat) (hsz : lum.size = w * h) (hw : 1 ≤ w) (hh : 1 ≤ h)
    (ps : List Nat) (hps : samples lum w h = .ok ps) :
    (estimateBlackPoint (histogram ps) = .error .notFound ∧ globalSets lum w h = .error .notFound) ∨
    ∃ sets bp, estimateBlackPoint (histogram ps) = .ok bp ∧ globalSets lum w h = .ok sets ∧ 8 ≤ bp ∧ bp ≤ 240 ∧
      ∀ X Y, (X, Y) ∈ sets ↔ (X < w ∧ Y < h ∧ ∃ p, lum[Y * w + X]? = some p ∧ p % 256 < bp) := by
  unfold globalSets
  simp only [if_neg (show ¬ (w < 1 ∨ h < 1) by omega), hps]
  cases hbp : estimateBlackPoint (histogram ps) with
  | error e => cases estimateBlackPoint_error _ e hbp; exact Or.inl ⟨rfl, rfl⟩
  | ok bp =>
    obtain ⟨b1, b2⟩ := blackPoint_range ps bp hbp
    obtain ⟨sets, hsets, hmem⟩ := scanRect_spec lum w h 0 0 w h (fun p => decide (p < bp)) hsz
      (by omega) (by omega)
    refine Or.inr ⟨sets, bp, rfl, hsets, b1, b2, fun X Y => ?_⟩
    rw [hmem X Y]
    simp

/-! ## black rows -/

theorem sharpen_length (bp : Nat) : ∀ row : List Nat, (sharpen bp row).length = row.length - 2
  | [] => by simp [sharpen]
  | [_] => by simp [sharpen]
  | [_, _] => by simp [sharpen]
  | l :: c :: r :: rest => by
    have := sharpen_length bp (c :: r :: rest)
    simp only [sharpen, List.length_cons] at this ⊢
    omega

theorem sharpen_get (bp : Nat) : ∀ (row : List Nat) (i : Nat) (h : i + 2 < row.length),
    (sharpen bp row)[i]? =
      some (decide (Int.tdiv ((row[i + 1] : Int) * 4 - (row[i] : Int) - (row[i + 2] : Int)) 2 < bp))
  | [], i, h => by simp at h
  | [_], i, h => by simp at h
  | [_, _], i, h => by simp only [List.length_cons, List.length_nil] at h; omega
  | l :: c :: r :: rest, 0, h => by simp [sharpen]
  | l :: c :: r :: rest, i + 1, h => by
    have := sharpen_get bp (c :: r :: rest) i (by simp only [List.length_cons] at h ⊢; omega)
    simp only [sharpen, List.getElem?_cons_succ, List.getElem_cons_succ]
    exact this

theorem sharpen_bilevel_decision (bp : Nat) (h1 : 8 ≤ bp) (h2 : bp ≤ 240) (a b c : Nat)
    (ha : a = 0 ∨ a = 255) (hb : b = 0 ∨ b = 255) (hc : c = 0 ∨ c = 255) :
    decide (Int.tdiv ((c : Int) * 4 - a - b) 2 < bp) = decide (c = 0) := by
  rcases ha with rfl | rfl <;> rcases hb with rfl | rfl <;> rcases hc with rfl | rfl <;> simp <;> omega

theorem blackRow_error (row : List Nat) (e : Fault) (h : blackRow row = .error e) : e = .notFound := by
  unfold blackRow at h
  split at h
  · rename_i e' he
    cases h
    exact estimateBlackPoint_error _ _ he
  · split at h <;> cases h

theorem blackRow_ok (row : List Nat) (bits : List Bool) (h : blackRow row = .ok bits) :
    ∃ bp, 8 ≤ bp ∧ bp ≤ 240 ∧
      bits = if row.length < 3 then row.map (fun p => decide (p % 256 < bp))
        else false :: sharpen bp (row.map (· % 256)) ++ [false] := by
  unfold blackRow at h
  split at h
  · cases h
  · rename_i bp hbp
    obtain ⟨b1, b2⟩ := blackPoint_range row bp hbp
    refine ⟨bp, b1, b2, ?_⟩
    split at h
    · cases h; exact (if_pos ‹_›).symm
    · cases h; exact (if_neg ‹_›).symm

/-- on a black-and-white row the -1 4 -1 filter keeps the interior pixels as they are -/
theorem sharpen_bilevel (bp : Nat) (h1 : 8 ≤ bp) (h2 : bp ≤ 240) :
    ∀ row : List Nat, (∀ p ∈ row, p = 0 ∨ p = 255) →
      sharpen bp row = row.tail.dropLast.map (fun c => decide (c = 0))
  | [], _ => rfl
  | [_], _ => rfl
  | [_, _], _ => rfl
  | l :: c :: r :: rest, hbi => by
    have ih := sharpen_bilevel bp h1 h2 (c :: r :: rest) (fun p hp => hbi p (List.mem_cons_of_mem _ hp))
    rw [sharpen, ih, sharpen_bilevel_decision bp h1 h2 l r c (hbi l (by simp)) (hbi r (by simp)) (hbi c (by simp))]
    rfl

/-! ## rendering: the bit picture has bit (X, Y) set iff `Set(X, Y)` was called -/

theorem render_fold (w h : Nat) (X Y : Nat) (hX : X < w) (hY : Y < h) (sets : List (Nat × Nat)) :
    ∀ (a : Array Bool), a.size = w * h →
      (sets.foldl (fun a (p : Nat × Nat) => if p.1 < w then a.setIfInBounds (p.2 * w + p.1) true else a) a)[Y * w + X]? =
        some ((a[Y * w + X]?).getD false || decide ((X, Y) ∈ sets)) := by
  have hi : Y * w + X < w * h := idx_lt w h X Y hX hY
  induction sets with
  | nil => intro a ha; simp [ha, hi]
  | cons p rest ih =>
    intro a ha
    obtain ⟨x, y⟩ := p
    simp only [List.foldl_cons]
    by_cases hx : x < w
    · simp only [hx, if_true]
      rw [ih _ (by simp [ha])]
      congr 1
      rw [Array.getElem?_setIfInBounds]
      by_cases he : y * w + x = Y * w + X
      · obtain ⟨rfl, rfl⟩ := idx_inj hx hX he
        simp [ha, hi]
      · have hne : (X, Y) ≠ (x, y) := by
          intro hc; cases hc; exact he rfl
        simp [he, hne]
    · have hne : (X, Y) ≠ (x, y) := by
        intro hc; cases hc; exact hx hX
      simp only [hx, if_false]
      rw [ih a ha]
      simp [hne]

theorem render_spec (w h : Nat) (sets : List (Nat × Nat)) (X Y : Nat) (hX : X < w) (hY : Y < h) :
    (render w h sets)[Y * w + X]? = some (decide ((X, Y) ∈ sets)) := by
  unfold render
  rw [render_fold w h X Y hX hY sets _ (by simp)]
  have hi : Y * w + X < w * h := idx_lt w h X Y hX hY
  simp [hi]

end Gzx.Binarizer
