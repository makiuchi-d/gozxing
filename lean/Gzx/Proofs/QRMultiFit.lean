/-
  C01 (work package c01multi): a multi-segment stream that fits the data capacity of (version, level) also fits every
  character count indicator (Table 3 is wide enough for Table 7); the payload of the single-segment reference encoder
  (`QRRef.payloadBits`, C07) is the stream of an item list (`payload_items`); and for a symbol in the standard's layout
  (structured-append header, FNC1 indicator, segments and ECI designators) the meaning `run` of its items is what
  `Symbol.expected` (Ref/QRMultiExpected.lean) writes out field by field (`run_symbol`).
-/
import Gzx.Proofs.QRMulti
import Gzx.Proofs.QRCompStream
namespace Gzx.QRMulti
open Gzx Gzx.QRDec Gzx.QRPack Gzx.ECI Gzx.QRComp

theorem segment_length (m cb count : Nat) (data : List Bool) : (segment m cb count data).length = 4 + cb + data.length := by
  simp [segment]; omega

/-- an item whose bits fit the data capacity has a count below the range of its character count indicator -/
theorem countOK_of_fit (v : Nat) (h1 : 1 ≤ v) (h40 : v ≤ 40) (ec : QRRef.EC) (it : Item)
    (hfit : (it.bits v).length ≤ 8 * QRRef.dataCodewords v ec) : it.CountOK v := by
  obtain ⟨k0, k1, k2, k3⟩ := countBits_eq v
  obtain ⟨c0, c1, c2, c3⟩ := cap_facts v h1 h40 ec
  rw [k0] at c0; rw [k1] at c1; rw [k2] at c2; rw [k3] at c3
  cases it with
  | numeric ds =>
    simp only [Item.bits, segment_length, ← packNumeric_eq, packNumeric_length] at hfit
    show ds.length < 2 ^ countWidth 0 v
    generalize 2 ^ countWidth 0 v = P at c0 ⊢
    split at hfit
    · omega
    · split at hfit <;> omega
  | alnum cs =>
    simp only [Item.bits, segment_length, ← packAlnum_eq, packAlnum_length] at hfit
    show cs.length < 2 ^ countWidth 1 v
    generalize 2 ^ countWidth 1 v = P at c1 ⊢
    omega
  | byte bs =>
    simp only [Item.bits, segment_length, packBytes, flatMap_natToBits_length] at hfit
    show bs.length < 2 ^ countWidth 2 v
    generalize 2 ^ countWidth 2 v = P at c2 ⊢
    omega
  | kanji ps =>
    simp only [Item.bits, segment_length, packKanji_length] at hfit
    show ps.length < 2 ^ countWidth 3 v
    generalize 2 ^ countWidth 3 v = P at c3 ⊢
    omega
  | hanzi ps =>
    simp only [Item.bits, List.length_append, natToBits_length, packHanzi_length] at hfit
    show ps.length < 2 ^ countWidth 3 v
    generalize 2 ^ countWidth 3 v = P at c3 ⊢
    omega
  | eci val => trivial
  | fnc1First => trivial
  | fnc1Second => trivial
  | sa q p => trivial

theorem countOK_of_fit_all (v : Nat) (h1 : 1 ≤ v) (h40 : v ≤ 40) (ec : QRRef.EC) (items : List Item)
    (hfit : (bitsOf v items).length ≤ 8 * QRRef.dataCodewords v ec) : ∀ it ∈ items, it.CountOK v := by
  intro it hit
  exact countOK_of_fit v h1 h40 ec it (Nat.le_trans (mem_bits_length_le v items it hit) hfit)

/-! ### the single-segment reference encoder writes an item list -/

/-- what `QRRef.headerBits eci gs1 m` puts before the segment: ECI designator, FNC1 in first position -/
def hdrItems (eci : Option Nat) (gs1 : Bool) : List Item :=
  (match eci with | some val => [.eci val] | none => []) ++ (if gs1 then [.fnc1First] else [])

theorem eciDesignator_eq_eciBits (val : Nat) : QRRef.eciDesignator val = eciBits val := by
  unfold QRRef.eciDesignator eciBits
  simp only [toBitsBE_eq_natToBits]

theorem payloadBits_length (v : Nat) (hdr : List Bool) (m : QRRef.Mode) (count : Nat) (data : List Bool) :
    (QRRef.payloadBits v hdr m count data).length = hdr.length + QRRef.countBits m v + data.length := by
  unfold QRRef.payloadBits
  simp [QRRef.toBitsBE_length]
  omega

/-- the two reference packings (Ref/QR.lean for C07, Ref/QRPack.lean for the decoder side) meet here -/
theorem payload_items (v : Nat) (eci : Option Nat) (gs1 : Bool) :
    (∀ ds, QRRef.payloadBits v (QRRef.headerBits eci gs1 .numeric) .numeric ds.length (QRRef.packNumeric ds) =
      bitsOf v (hdrItems eci gs1 ++ [.numeric ds])) ∧
    (∀ cs, QRRef.payloadBits v (QRRef.headerBits eci gs1 .alnum) .alnum cs.length (QRRef.packAlnum cs) =
      bitsOf v (hdrItems eci gs1 ++ [.alnum cs])) ∧
    (∀ bs, QRRef.payloadBits v (QRRef.headerBits eci gs1 .byte) .byte bs.length (QRRef.bitsOfBytes bs) =
      bitsOf v (hdrItems eci gs1 ++ [.byte bs])) ∧
    (∀ ps, QRRef.payloadBits v (QRRef.headerBits eci gs1 .kanji) .kanji ps.length (QRPack.packKanji ps) =
      bitsOf v (hdrItems eci gs1 ++ [.kanji ps])) := by
  obtain ⟨k0, k1, k2, k3⟩ := countBits_eq v
  refine ⟨?_, ?_, ?_, ?_⟩ <;> intro xs <;> cases eci <;> cases gs1 <;>
    simp only [QRRef.payloadBits, QRRef.headerBits, hdrItems, bitsOf, Item.bits, segment, if_true, if_false,
      Bool.false_eq_true, toBitsBE_eq_natToBits, eciDesignator_eq_eciBits, k0, k1, k2, k3, packNumeric_eq, packAlnum_eq, bitsOfBytes_eq,
      QRRef.Mode.indicator, List.append_assoc, List.nil_append, List.append_nil, List.cons_append]

/-- a payload that `QRRef.fitsBits` admits, seen as an item list, fits the data codewords -/
theorem fits_items {v : Nat} {ec : QRRef.EC} {hdr : List Bool} {m : QRRef.Mode} {count : Nat} {data : List Bool}
    {items : List Item} (hp : QRRef.payloadBits v hdr m count data = bitsOf v items)
    (hfit : QRRef.fitsBits v ec m hdr.length data.length = true) :
    (bitsOf v items).length ≤ 8 * QRRef.dataCodewords v ec := by
  rw [← hp, payloadBits_length]
  exact of_decide_eq_true hfit

/-! ### the meaning of a symbol in the standard's layout is what `Symbol.expected` (Ref/QRMultiExpected.lean) says -/

theorem run_body (reg : Registry) (g : List Nat → Charset) :
    ∀ (body : List Item) (st : PSt), (∀ it ∈ body, it.isBody = true ∧ it.Content reg) →
      (run reg g st body).segs = st.segs ++ contents reg g st.fnc1 st.eci body ∧
      (run reg g st body).byteSegs = st.byteSegs ++ byteSegsOf body ∧
      (run reg g st body).saSeq = st.saSeq ∧ (run reg g st body).saPar = st.saPar ∧
      (run reg g st body).fnc1First = st.fnc1First ∧ (run reg g st body).fnc1Second = st.fnc1Second ∧
      (run reg g st body).eci.isSome = (st.eci.isSome || hasECI body)
  | [], st, _ => by simp [run, contents, byteSegsOf, hasECI]
  | it :: body, st, h => by
    have ⟨hb, hc⟩ := h it List.mem_cons_self
    have ih := run_body reg g body (step reg g st it) (fun i hi => h i (List.mem_cons_of_mem _ hi))
    unfold run
    obtain ⟨i1, i2, i3, i4, i5, i6, i7⟩ := ih
    rw [i1, i2, i3, i4, i5, i6, i7]
    cases it <;> simp only [Item.isBody, Bool.false_eq_true] at hb <;>
      simp [step, contents, byteSegsOf, hasECI, List.append_assoc]
    · -- eci: the lookup succeeded
      rw [hc.2]; simp

theorem run_symbol (reg : Registry) (g : List Nat → Charset) (s : Symbol)
    (hb : ∀ it ∈ s.body, it.isBody = true ∧ it.Content reg) :
    toParsed (run reg g {} s.items) = s.expected reg g := by
  obtain ⟨sa, fnc1, body⟩ := s
  have key : ∀ st : PSt, st.eci = none → st.segs = [] → st.byteSegs = [] →
      toParsed (run reg g st body) =
        ⟨contents reg g st.fnc1 none body, byteSegsOf body, st.saSeq, st.saPar,
          (if hasECI body then (if st.fnc1First then 4 else if st.fnc1Second then 6 else 2)
           else (if st.fnc1First then 3 else if st.fnc1Second then 5 else 1))⟩ := by
    intro st he hs hbs
    obtain ⟨i1, i2, i3, i4, i5, i6, i7⟩ := run_body reg g body st hb
    simp only [toParsed, symbologyModifier, i1, i2, i3, i4, i5, i6, i7, he, hs, hbs, List.nil_append,
      Option.isSome_none, Bool.false_or]
  cases sa with
  | none =>
    cases fnc1 <;>
      simp only [Symbol.items, Symbol.header, List.nil_append, List.cons_append, run, step] <;>
      rw [key _ rfl rfl rfl] <;>
      (simp only [Symbol.expected, modifier]; cases hasECI body <;> rfl)
  | some qp =>
    obtain ⟨q, p⟩ := qp
    cases fnc1 <;>
      simp only [Symbol.items, Symbol.header, List.nil_append, List.cons_append, run, step] <;>
      rw [key _ rfl rfl rfl] <;>
      (simp only [Symbol.expected, modifier]; cases hasECI body <;> rfl)

/-- in the standard's layout the first guessed byte segments are those of the body before the first ECI -/
theorem guessed_symbol (s : Symbol) : guessed false s.items = guessed false s.body := by
  obtain ⟨sa, fnc1, body⟩ := s
  cases sa <;> cases fnc1 <;> rfl

end Gzx.QRMulti
