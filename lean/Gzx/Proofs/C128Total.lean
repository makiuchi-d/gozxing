/-
  The Code 128 encoder model (`code128Codes` of Model/OneD.lean) is TOTAL: for every content (any code points, any
  length) and every forced code set the writer can pass (none, A, B, C) the result is a list of symbol characters
  below 107 or a WriterException — never a panic (negative / too large pattern index) and never out of fuel.
  The loop itself: Proofs/C128Loop.lean.
-/
import Gzx.Proofs.C128Loop
namespace Gzx.OneD
open Gzx Gzx.CheckDigit

/-- `2 ≤ codes.length`: at least check character and STOP -/
theorem code128Codes_total {forced : Option Nat} (hf : ForcedOK forced) (contents : List Nat) :
    (∃ codes, code128Codes contents forced = .ok codes ∧ 2 ≤ codes.length ∧ ∀ k ∈ codes, k < 107) ∨
    code128Codes contents forced = .error .writer := by
  by_cases hl : contents.length < 1 ∨ contents.length > 80
  · right
    exact code128Codes_rejects contents forced (by rcases hl with h | h; exact Or.inl h; exact Or.inr (Or.inl h))
  · by_cases hok : contents.all (c128CharOk forced) = true
    · unfold code128Codes
      rcases c128Loop_total hf contents hok with ⟨out, ho, hlt⟩ | he
      · left
        refine ⟨out.map (·.1) ++ [c128WriterSum out 0 1, 106], ?_, ?_, ?_⟩
        · simp only [hl, if_false, hok, Bool.not_true, Bool.false_eq_true, ho, bind, Except.bind, pure, Except.pure]
        · simp
        · intro k hk
          simp only [List.mem_append, List.mem_map, List.mem_cons, List.not_mem_nil, or_false] at hk
          rcases hk with ⟨e, he, rfl⟩ | rfl | rfl
          · exact Nat.lt_succ_of_lt (hlt e he)
          · have := c128WriterSum_lt out 0 1; omega
          · decide
      · right
        simp only [hl, if_false, hok, Bool.not_true, Bool.false_eq_true, he, bind, Except.bind]
    · right
      exact code128Codes_rejects contents forced (Or.inr (Or.inr (by simpa using hok)))

end Gzx.OneD
