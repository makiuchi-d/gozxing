/-
  Systematic Reed-Solomon encoding as a shift register, over any field of C04 (`ParamsOK prim size`): the generator
  `x^n + g` is monic, the register holds the remainder so far, and the data read so far followed by the register
  vanishes at every root of the generator (`lfsrStep_root`).  Hence `data ++ lfsr mul g data` is over the field and
  vanishes at those roots for every product `mul` that is `gmul` on the field (`lfsr_codeword`); a generator built
  as a product of factors `x + r` has the `r` as roots (`mulLinear_monic`).  The reference encoders of Aztec
  (Proofs/AztecRS.lean), QR (Proofs/QRCodewords.lean) and Data Matrix (Proofs/DMRS.lean, where the register is
  written as long division) are instances.
-/
import Gzx.Proofs.Poly
namespace Gzx.Proofs.Poly
open Gzx Gzx.GF Gzx.Ref.GF Gzx.Proofs.GF

/-- one step of systematic encoding by a monic generator `x^n + g` (coefficients highest power first): feed the
    data word `d` into the `n`-word register -/
def lfsrStep (mul : Nat → Nat → Nat) (g reg : List Nat) (d : Nat) : List Nat :=
  List.zipWith (· ^^^ ·) (reg.drop 1 ++ [0]) (g.map (mul (d ^^^ reg.headD 0)))

/-- the check words: the register after all data words -/
def lfsr (mul : Nat → Nat → Nat) (g data : List Nat) : List Nat :=
  data.foldl (lfsrStep mul g) (List.replicate g.length 0)

theorem lfsrStep_length (mul : Nat → Nat → Nat) (g reg : List Nat) (d : Nat) (h : reg.length = g.length) :
    (lfsrStep mul g reg d).length = g.length := by
  simp only [lfsrStep, List.length_zipWith, List.length_append, List.length_drop, List.length_map,
    List.length_cons, List.length_nil, h]
  omega

theorem foldl_lfsrStep_length (mul : Nat → Nat → Nat) (g : List Nat) : ∀ (data reg : List Nat),
    reg.length = g.length → (data.foldl (lfsrStep mul g) reg).length = g.length
  | [], _, h => h
  | d :: ds, reg, h => foldl_lfsrStep_length mul g ds _ (lfsrStep_length mul g reg d h)

theorem lfsr_length (mul : Nat → Nat → Nat) (g data : List Nat) : (lfsr mul g data).length = g.length :=
  foldl_lfsrStep_length mul g data _ (by simp)

section field
variable {prim size : Nat} (ok : ParamsOK prim size)
include ok

theorem headD_lt {reg : List Nat} (h : InR size reg) : reg.headD 0 < size := by
  cases reg with
  | nil => exact zero_lt_size ok
  | cons r _ => exact h.head

theorem lfsrStep_InR (g reg : List Nat) (d : Nat) (hreg : InR size reg) :
    InR size (lfsrStep (gmul prim) g reg d) :=
  InR_zipWith_xor ok _ _ (InR.append hreg.drop (InR.cons (zero_lt_size ok) InR.nil)) (InR_map_gmul ok _ g)

theorem foldl_lfsrStep_congr (mul : Nat → Nat → Nat)
    (hmul : ∀ a b, a < size → b < size → mul a b = gmul prim a b) (g : List Nat) (hg : InR size g) :
    ∀ (data reg : List Nat), InR size data → InR size reg →
      data.foldl (lfsrStep mul g) reg = data.foldl (lfsrStep (gmul prim) g) reg ∧
      InR size (data.foldl (lfsrStep (gmul prim) g) reg)
  | [], _, _, hreg => ⟨rfl, hreg⟩
  | d :: ds, reg, hd, hreg => by
    have hfb := xor_lt_size ok _ _ hd.head (headD_lt ok hreg)
    have e : lfsrStep mul g reg d = lfsrStep (gmul prim) g reg d := by
      unfold lfsrStep
      rw [List.map_congr_left fun c hc => hmul _ c hfb (hg c hc)]
    rw [List.foldl_cons, List.foldl_cons, e]
    exact foldl_lfsrStep_congr mul hmul g hg ds _ hd.tail (lfsrStep_InR ok g reg d hreg)

/-- one step keeps "the data read so far, followed by the register, vanishes at `ρ`" at every root `ρ` of the
    generator -/
theorem lfsrStep_root (ρ : Nat) (hρ : ρ < size) (g : List Nat) (hg : InR size g)
    (hroot : evalH prim ρ (1 :: g) = 0) (acc : Nat) (reg : List Nat) (hreg : InR size reg)
    (hlen : reg.length = g.length) (d : Nat) (hd : d < size) (hinv : evalFrom prim ρ acc reg = 0) :
    evalFrom prim ρ (gmul prim ρ acc ^^^ d) (lfsrStep (gmul prim) g reg d) = 0 := by
  have h1g : evalFrom prim ρ 1 g = 0 := by
    rw [← hroot]; unfold evalH
    rw [evalFrom_cons, gmul_zero_right ok, Nat.zero_xor]
  cases reg with
  | nil =>
    -- a generator of degree 0 is the constant 1 and has no root
    have : g = [] := List.eq_nil_of_length_eq_zero hlen.symm
    subst this
    exact absurd (show (1 : Nat) = 0 from h1g) (by decide)
  | cons h t =>
    have hh : h < size := hreg.head
    have hfb : d ^^^ h < size := xor_lt_size ok _ _ hd hh
    rw [evalFrom_cons] at hinv
    have hX : gmul prim ρ acc ^^^ h < size := xor_lt_size ok _ _ (gmul_lt ok _ _) hh
    have hsplit : gmul prim ρ acc ^^^ d = (gmul prim ρ acc ^^^ h) ^^^ (d ^^^ h) := by
      rw [Nat.xor_assoc, ← Nat.xor_assoc h d h, Nat.xor_comm h d, Nat.xor_assoc d h h, Nat.xor_self,
        Nat.xor_zero]
    show evalFrom prim ρ _ (List.zipWith (· ^^^ ·) (t ++ [0]) (g.map (gmul prim (d ^^^ h)))) = 0
    rw [hsplit, evalFrom_xor ok ρ (t ++ [0]) _ _ _ (by simp at hlen ⊢; omega) hX hfb
      (InR.append hreg.tail (InR.cons (zero_lt_size ok) InR.nil)) (InR_map_gmul ok _ g),
      evalFrom_append, hinv, evalFrom_cons, evalFrom_nil, gmul_zero_right ok]
    have hs := evalFrom_scale ok ρ (d ^^^ h) hρ hfb g 1 (one_lt_size ok) hg
    rw [gmul_one_right ok _ hfb] at hs
    rw [hs, h1g, gmul_zero_right ok]
    rfl

theorem foldl_lfsrStep_root (ρ : Nat) (hρ : ρ < size) (g : List Nat) (hg : InR size g)
    (hroot : evalH prim ρ (1 :: g) = 0) : ∀ (data reg : List Nat) (acc : Nat), InR size data → InR size reg →
    reg.length = g.length → evalFrom prim ρ acc reg = 0 →
    evalFrom prim ρ (evalFrom prim ρ acc data) (data.foldl (lfsrStep (gmul prim) g) reg) = 0
  | [], _, _, _, _, _, h => h
  | d :: ds, reg, acc, hd, hreg, hlen, hinv => by
    rw [List.foldl_cons, evalFrom_cons]
    exact foldl_lfsrStep_root ρ hρ g hg hroot ds _ _ hd.tail (lfsrStep_InR ok g reg d hreg)
      (lfsrStep_length _ g reg d hlen) (lfsrStep_root ok ρ hρ g hg hroot acc reg hreg hlen d hd.head hinv)

theorem lfsr_codeword (mul : Nat → Nat → Nat) (hmul : ∀ a b, a < size → b < size → mul a b = gmul prim a b)
    (g : List Nat) (hg : InR size g) (data : List Nat) (hd : InR size data) :
    InR size (lfsr mul g data) ∧
    ∀ ρ, ρ < size → evalH prim ρ (1 :: g) = 0 → evalH prim ρ (data ++ lfsr mul g data) = 0 := by
  have h0 : InR size (List.replicate g.length 0) := InR.replicate (zero_lt_size ok)
  obtain ⟨e, hin⟩ := foldl_lfsrStep_congr ok mul hmul g hg data _ hd h0
  unfold lfsr
  rw [e]
  refine ⟨hin, fun ρ hρ hroot => ?_⟩
  unfold evalH
  rw [evalFrom_append]
  refine foldl_lfsrStep_root ok ρ hρ g hg hroot data _ 0 hd h0 (by simp) ?_
  rw [evalFrom_zeros ok ρ hρ _ 0 (zero_lt_size ok), gmul_zero_right ok]

/-- multiplying a monic polynomial over the field by `x + r` keeps it monic and over the field, adds the root `r`
    and keeps the roots it had -/
theorem mulLinear_monic (r : Nat) (hr : r < size) (gl : List Nat) (hgl : InR size gl) :
    ∃ gl', List.zipWith (· ^^^ ·) ((1 :: gl) ++ [0]) (0 :: (1 :: gl).map (gmul prim r)) = 1 :: gl' ∧
      gl'.length = gl.length + 1 ∧ InR size gl' ∧
      ∀ ρ, ρ < size → ρ = r ∨ evalH prim ρ (1 :: gl) = 0 → evalH prim ρ (1 :: gl') = 0 := by
  have hG : InR size (1 :: gl) := InR.cons (one_lt_size ok) hgl
  have hin := InR_zipWith_xor ok _ _ (InR.append hG (InR.cons (zero_lt_size ok) InR.nil))
    (InR.cons (zero_lt_size ok) (InR_map_gmul ok r (1 :: gl)))
  refine ⟨List.zipWith (· ^^^ ·) (gl ++ [0]) ((1 :: gl).map (gmul prim r)), rfl, by simp, hin.tail, ?_⟩
  intro ρ hρ h
  show evalH prim ρ (List.zipWith (· ^^^ ·) ((1 :: gl) ++ [0]) (0 :: (1 :: gl).map (gmul prim r))) = 0
  rw [evalH_mulLinear ok ρ r hρ hr _ hG]
  rcases h with rfl | h
  · exact Nat.xor_self _
  · rw [h, gmul_zero_right ok, gmul_zero_right ok]; rfl

end field
end Gzx.Proofs.Poly
