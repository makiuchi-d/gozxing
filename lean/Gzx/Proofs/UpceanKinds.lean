/-
  C03 — `upcean_read_write`, row level: the faithful row decoder on the rendered run widths of a two-half
  symbol (EAN-13 / EAN-8) and of a UPC-E symbol, for table-row indices instead of contents.
-/
import Gzx.Proofs.UpceanRead
namespace Gzx.OneD
open Gzx Gzx.CheckDigit

theorem ne_nil_of_odd (l : List Nat) (h : l.length % 2 = 1) : l ≠ [] := by
  intro e; rw [e] at h; simp at h

theorem map_ne_nil (l : List Nat) (f : Nat → Nat) (h : l ≠ []) : l.map f ≠ [] := by
  simpa using h

/-- a rendered symbol `start guard ++ W` between quiet zones: the start guard is found where the left quiet zone ends,
    and from there on the row is the runs `s·W` followed by the right quiet zone -/
theorem symbol_frame (T : Tables) (hT : WFFacts T) (W : List Nat) (hW : W.length % 2 = 0)
    (hWpos : ∀ w ∈ W, 0 < w) (lq s rq : Nat) (hs : 0 < s) (hlq : s * sumL T.startEnd ≤ lq) (hrq : 0 < rq)
    (row : List Bool) (hrow : row = paddedRow lq s rq (appendPattern (T.startEnd ++ W) true)) :
    findStartGuardPattern T row = .ok (lq, lq + s * sumL T.startEnd) ∧
    RowAt row (lq + s * sumL T.startEnd) (W.map (s * ·) ++ [rq]) false := by
  have hgne := ne_nil_of_odd _ hT.gOdd
  have hG : 0 < sumL T.startEnd := sumL_pos _ hgne hT.gPos
  have hodd : (T.startEnd ++ W).length % 2 = 1 := by
    have := hT.gOdd; simp only [List.length_append]; omega
  rw [paddedRow_runs _ lq s rq hodd, List.map_append, List.append_assoc] at hrow
  have hpos : ∀ w ∈ lq :: (T.startEnd.map (s * ·) ++ (W.map (s * ·) ++ [rq])), 0 < w := by
    intro w hw
    simp only [List.mem_cons, List.mem_append, List.not_mem_nil, or_false] at hw
    rcases hw with rfl | hw | hw | rfl
    · have := Nat.mul_pos hs hG; omega
    · exact scale_pos s hs _ hT.gPos w hw
    · exact scale_pos s hs _ hWpos w hw
    · exact hrq
  have h0 := rowAt_zero _ false hpos
  rw [← hrow] at h0
  refine ⟨startGuard_at T lq s _ hgne hT.gPos hs (by simp) hlq h0, ?_⟩
  have h1 := h0.advance_odd [lq] _ (by simp)
  simp only [sumL_cons, sumL_nil, Nat.zero_add, Nat.add_zero, Bool.not_false] at h1
  have h2 := h1.advance_odd _ _ (by simpa using hT.gOdd)
  rw [sumL_scale] at h2
  simpa using h2

/-- what the reader's primitives return on a rendered two-half symbol (start guard, left digits drawn from table `PL`,
    middle guard, right digits drawn from the L table, end guard) -/
theorem twoHalf_facts (T : Tables) (hT : WFFacts T) (PL : List (List Nat)) (hPL : DigitTable PL 7) (il ir : List Nat)
    (hilt : ∀ i ∈ il, i < PL.length) (hirt : ∀ i ∈ ir, i < T.lPatterns.length)
    (lq s rq : Nat) (hs : 0 < s) (hlq : s * sumL T.startEnd ≤ lq) (hrq : s * sumL T.startEnd < rq)
    (row : List Bool)
    (hrow : row = paddedRow lq s rq (appendPattern
      (T.startEnd ++ digitWidths PL il ++ T.middle ++ digitWidths T.lPatterns ir ++ T.startEnd) true))
    -- the pixel after the start guard, the left digits, the middle guard, the right digits, the end guard
    (b1 b2 b3 b4 b5 : Nat) (h1 : b1 = lq + s * sumL T.startEnd) (h2 : b2 = b1 + s * 7 * il.length)
    (h3 : b3 = b2 + s * sumL T.middle) (h4 : b4 = b3 + s * 7 * ir.length) (h5 : b5 = b4 + s * sumL T.startEnd) :
    findStartGuardPattern T row = .ok (lq, b1) ∧
    digitsLoop row PL il.length b1 [] = .ok (il, b2) ∧
    findGuardPattern row b2 true T.middle = .ok (b2, b3) ∧
    digitsLoop row T.lPatterns ir.length b3 [] = .ok (ir, b4) ∧
    findGuardPattern row b4 false T.startEnd = .ok (b4, b5) ∧
    ¬ (b5 + s * sumL T.startEnd ≥ row.length) ∧
    isRangeWhite row b5 (b5 + s * sumL T.startEnd) = true := by
  subst h1 h2 h3 h4 h5
  have hmne := ne_nil_of_odd _ hT.mOdd
  obtain ⟨hl1, hp1⟩ := digitWidths_shape hPL il hilt
  obtain ⟨hl2, hp2⟩ := digitWidths_shape hT.tabL ir hirt
  simp only [List.append_assoc] at hrow
  obtain ⟨F1, h2⟩ := symbol_frame T hT (digitWidths PL il ++ (T.middle ++ (digitWidths T.lPatterns ir ++ T.startEnd)))
    (by have := hT.gOdd; have := hT.mOdd; simp only [List.length_append, hl1, hl2]; omega)
    (by
      intro w hw
      simp only [List.mem_append] at hw
      rcases hw with hw | hw | hw | hw
      · exact hp1 w hw
      · exact hT.mPos w hw
      · exact hp2 w hw
      · exact hT.gPos w hw)
    lq s rq hs hlq (by omega) row hrow
  simp only [List.map_append, List.append_assoc] at h2
  obtain ⟨F2, h3⟩ := digitsLoop_at hPL s hs il _ _ false [] hilt (by simp [hmne]) h2
  obtain ⟨F3, h4⟩ := guard_at T.middle s _ false hmne hT.mPos hs (by simp) h3
  have hmo : ¬ T.middle.length % 2 = 0 := by have := hT.mOdd; omega
  simp only [hmo, if_false, Bool.not_false] at h4 F3
  obtain ⟨F4, h5⟩ := digitsLoop_at hT.tabL s hs ir _ _ true [] hirt (by simp) h4
  obtain ⟨F5, h6⟩ := guard_at T.startEnd s [rq] true (ne_nil_of_odd _ hT.gOdd) hT.gPos hs (by simp) h5
  have hgo : ¬ T.startEnd.length % 2 = 0 := by have := hT.gOdd; omega
  simp only [hgo, if_false, Bool.not_true] at h6 F5
  obtain ⟨F6, F7⟩ := quiet_at h6 (s * sumL T.startEnd) hrq
  exact ⟨F1, by simpa using F2, F3, by simpa using F4, F5, F6, F7⟩

/-- the same for a UPC-E symbol: start guard, six digits from the L/G table, the six-module end pattern -/
theorem upce_facts (T : Tables) (hT : WFFacts T) (il : List Nat)
    (hilt : ∀ i ∈ il, i < (lAndG T.lPatterns).length)
    (lq s rq : Nat) (hs : 0 < s) (hlq : s * sumL T.startEnd ≤ lq) (hrq : s * sumL T.upceEnd < rq)
    (row : List Bool)
    (hrow : row = paddedRow lq s rq (appendPattern
      (T.startEnd ++ digitWidths (lAndG T.lPatterns) il ++ T.upceEnd) true))
    -- the pixel after the start guard, the six digits, the end pattern
    (b1 b2 b3 : Nat) (h1 : b1 = lq + s * sumL T.startEnd) (h2 : b2 = b1 + s * 7 * il.length)
    (h3 : b3 = b2 + s * sumL T.upceEnd) :
    findStartGuardPattern T row = .ok (lq, b1) ∧
    digitsLoop row (lAndG T.lPatterns) il.length b1 [] = .ok (il, b2) ∧
    findGuardPattern row b2 true T.upceMiddleEnd = .ok (b2, b3) ∧
    ¬ (b3 + s * sumL T.upceEnd ≥ row.length) ∧
    isRangeWhite row b3 (b3 + s * sumL T.upceEnd) = true := by
  subst h1 h2 h3
  obtain ⟨hl1, hp1⟩ := digitWidths_shape hT.tabLG il hilt
  rw [List.append_assoc] at hrow
  obtain ⟨F1, h2⟩ := symbol_frame T hT (digitWidths (lAndG T.lPatterns) il ++ T.upceEnd)
    (by have := hT.eEven; simp only [List.length_append, hl1]; omega)
    (by intro w hw; rcases List.mem_append.mp hw with hw | hw; exact hp1 w hw; exact hT.ePos w hw)
    lq s rq hs hlq (by omega) row hrow
  rw [List.map_append, List.append_assoc] at h2
  obtain ⟨F2, h3⟩ := digitsLoop_at hT.tabLG s hs il _ _ false [] hilt (by simp) h2
  obtain ⟨F3, h4⟩ := guard_at T.upceEnd s [rq] false hT.eNe hT.ePos hs (by simp) h3
  simp only [hT.eEven, if_true, Bool.not_false] at h4 F3
  obtain ⟨F6, F7⟩ := quiet_at h4 (s * sumL T.upceEnd) hrq
  rw [hT.eEq]
  exact ⟨F1, by simpa using F2, F3, F6, F7⟩

end Gzx.OneD
