/-
  wp `qrenc` — `interleaveWithECBytes` of the mirror model (block loop with the regenerated block-size kernel,
  `ToBytes`, `generateECBytes` through the C04 Reed-Solomon encoder model, the two interleaving double loops)
  computes the reference codeword sequence `QRRef.finalCodewords`.
-/
import Gzx.Model.QREncMirror
import Gzx.Proofs.QREncBits
import Gzx.Proofs.QREncInv
import Gzx.Proofs.QREncData
import Gzx.Proofs.QRCompBlocks
import Gzx.Properties.C07
namespace Gzx.QREnc
open Gzx Gzx.QRRef

/-! ### ToBytes on a whole-byte bit string -/

theorem toBitsBE_getElem? (b j : Nat) (hj : j < 8) : (toBitsBE 8 b)[j]? = some (b.testBit (7 - j)) := by
  unfold toBitsBE
  rw [List.getElem?_map, List.getElem?_range hj]
  rfl

theorem bitsOfBytes_getElem? : ∀ (data : List Nat) (k j : Nat) (hk : k < data.length), j < 8 →
    (bitsOfBytes data)[8 * k + j]? = some (data[k].testBit (7 - j)) := by
  intro data
  induction data with
  | nil => intro k j hk; simp at hk
  | cons b bs ih =>
    intro k j hk hj
    rw [bitsOfBytes_cons]
    cases k with
    | zero =>
      rw [List.getElem?_append_left (by rw [toBitsBE_length]; omega)]
      simpa using toBitsBE_getElem? b j hj
    | succ k =>
      rw [List.getElem?_append_right (by rw [toBitsBE_length]; omega), toBitsBE_length]
      have : 8 * (k + 1) + j - 8 = 8 * k + j := by omega
      rw [this, ih k j (by simpa using hk) hj]
      simp

/-- the byte assembled by the inner loop of `ToBytes` from the bits of `b` -/
def byteOf (b : Nat) : Nat :=
  (List.range 8).foldl (fun acc j => if b.testBit (7 - j) then acc ||| (1 <<< (7 - j)) else acc) 0

theorem byteOf_eq : ∀ b ∈ List.range 256, byteOf b = b := by decide +kernel

theorem toByte_eq (data : List Nat) (k : Nat) (hk : k < data.length) (hb : data[k] < 256) :
    toByte (bitsOfBytes data).toArray (8 * (k : Int)) = .ok data[k] := by
  unfold toByte
  rw [foldlM_ok _ (fun acc j => if data[k].testBit (7 - j) then acc ||| (1 <<< (7 - j)) else acc)]
  · have := byteOf_eq data[k] (List.mem_range.mpr hb)
    unfold byteOf at this
    rw [this]
  · intro s j hj
    have hj8 : j < 8 := List.mem_range.mp hj
    unfold getBitCap
    have hnn : ¬ (8 * (k : Int) + ((j : Nat) : Int) < 0) := by omega
    have hidx : (8 * (k : Int) + ((j : Nat) : Int)).toNat = 8 * k + j := by omega
    simp only [bind, Except.bind, hnn, if_false, hidx, List.getElem?_toArray,
      bitsOfBytes_getElem? data k j hk hj8, pure, Except.pure]

theorem toBytes_eq (data : List Nat) (hd : ∀ b ∈ data, b < 256) (off len : Nat) (h : off + len ≤ data.length) :
    toBytes (bitsOfBytes data) (8 * (off : Int)) (len : Int) = .ok ((data.drop off).take len) := by
  unfold toBytes
  have hnn : ¬ ((len : Int) < 0) := by omega
  rw [if_neg hnn]
  simp only [Int.toNat_natCast]
  rw [mapM_ok _ (fun i => data.getD (off + i) 0)]
  · congr 1
    apply List.ext_getElem
    · simp; omega
    · intro i h1 h2
      simp only [List.length_map, List.length_range] at h1
      simp [List.getD_eq_getElem?_getD, List.getElem?_eq_getElem (by omega : off + i < data.length)]
  · intro i hi
    have hi' : i < len := List.mem_range.mp hi
    have hlt : off + i < data.length := by omega
    have : 8 * (off : Int) + 8 * ((i : Nat) : Int) = 8 * ((off + i : Nat) : Int) := by omega
    rw [this, toByte_eq data (off + i) hlt (hd _ (List.getElem_mem hlt))]
    simp [List.getD_eq_getElem?_getD, List.getElem?_eq_getElem hlt]

/-! ### generateECBytes = reference parity -/

theorem generateECBytes_eq (block : List Nat) (e : Nat) (he : e ∈ QRComp.ecLens) (hne : block ≠ [])
    (hb : ∀ b ∈ block, b < 256) (hlen : block.length + e ≤ 255) :
    generateECBytes block (e : Int) = .ok (rsParity block e) := by
  have he0 := QRComp.ecLens_pos he
  have hrs := QRComp.rsParity_eq_rs_encode e he0 block hne (by
    intro x hx; exact hb x hx) hlen
  unfold RS.encode RS.encodeWord at hrs
  obtain ⟨w, hw, hdrop⟩ := bind_ok hrs
  simp only [Except.ok.injEq] at hdrop
  have hwl : w.length = block.length + e := by
    have := congrArg List.length hdrop
    rw [List.length_drop, rsParity_length] at this
    omega
  unfold generateECBytes
  have h1 : ¬ ((block.length : Int) + (e : Int) < 0) := by omega
  have h2 : ¬ ((e : Int) < 0) := by omega
  have h3 : ¬ ((e : Int) ≤ 0) := by omega
  simp only [h1, h2, h3, if_false, Int.toNat_natCast]
  have hmod : block.map (· % 256) = block := by
    rw [List.map_congr_left (g := id)]
    · simp
    · intro b hbm; exact Nat.mod_eq_of_lt (hb b hbm)
  rw [hmod, hw]
  simp only
  rw [mapM_ok _ (fun i => (rsParity block e).getD i 0)]
  · congr 1
    apply List.ext_getElem
    · simp [rsParity_length]
    · intro i h1 h2
      simp [List.getD_eq_getElem?_getD, List.getElem?_eq_getElem h2]
  · intro i hi
    have hi' : i < e := List.mem_range.mp hi
    have hlt : block.length + i < w.length := by omega
    have : (block.length : Int) + ((i : Nat) : Int) = ((block.length + i : Nat) : Int) := by omega
    rw [this, idx_nat w _ hlt]
    simp only [bind, Except.bind, pure, Except.pure]
    have hget : w[block.length + i] = (rsParity block e)[i]'(by rw [rsParity_length]; exact hi') := by
      have h := congrArg (fun l => l[i]?) hdrop
      simp only [List.getElem?_drop] at h
      rw [List.getElem?_eq_getElem hlt, List.getElem?_eq_getElem (by rw [rsParity_length]; exact hi')] at h
      exact Option.some.inj h
    rw [hget]
    have hlt256 := rsParity_lt block e (by intro x hx; exact hb x hx) _ (List.getElem_mem (by rw [rsParity_length]; exact hi' : i < (rsParity block e).length))
    rw [Nat.mod_eq_of_lt hlt256]
    simp [List.getD_eq_getElem?_getD, List.getElem?_eq_getElem (by rw [rsParity_length]; exact hi' : i < (rsParity block e).length)]


/-! ### the block loop -/

def lsum (l : List Nat) : Nat := l.foldl (· + ·) 0
def lmax (l : List Nat) : Nat := l.foldl max 0

theorem lsum_append (a : List Nat) (x : Nat) : lsum (a ++ [x]) = lsum a + x := by
  unfold lsum; rw [List.foldl_append]; rfl

theorem lmax_append (a : List Nat) (x : Nat) : lmax (a ++ [x]) = max (lmax a) x := by
  unfold lmax; rw [List.foldl_append]; rfl

theorem lsum_cons (x : Nat) (a : List Nat) : lsum (x :: a) = x + lsum a := by
  unfold lsum
  rw [List.foldl_cons, QRRef.foldl_add_eq]
  omega

theorem splitBlocks_append : ∀ (a : List Nat) (x : Nat) (data : List Nat),
    splitBlocks (a ++ [x]) data = splitBlocks a data ++ [(data.drop (lsum a)).take x] := by
  intro a
  induction a with
  | nil => intro x data; simp [splitBlocks, lsum]
  | cons y ys ih =>
    intro x data
    rw [List.cons_append]
    unfold splitBlocks
    rw [ih x (data.drop y), lsum_cons, List.drop_drop]
    rfl

theorem take_succ_getElem {α} (l : List α) (j : Nat) (hj : j < l.length) : l.take (j + 1) = l.take j ++ [l[j]] := by
  rw [List.take_add_one, List.getElem?_eq_getElem hj]; rfl

theorem lsum_take_le (l : List Nat) (j : Nat) (hj : j < l.length) : lsum (l.take j) + l[j] ≤ lsum l := by
  have h1 : lsum (l.take (j + 1)) = lsum (l.take j) + l[j] := by rw [take_succ_getElem l j hj, lsum_append]
  have h2 : ∀ (a b : List Nat), lsum a ≤ lsum (a ++ b) := by
    intro a b
    induction b using QRComp.rev_ind with
    | h0 => simp
    | hs xs x ih => rw [← List.append_assoc, lsum_append]; omega
  have := h2 (l.take (j + 1)) (l.drop (j + 1))
  rw [List.take_append_drop] at this
  omega

/-- state of the block loop after `j` blocks -/
def blockStateAt (lens : List Nat) (e : Nat) (data : List Nat) (j : Nat) : BlockState :=
  { dataBytesOffset := lsum (lens.take j)
    maxNumDataBytes := lmax (lens.take j)
    maxNumEcBytes := if j = 0 then 0 else e
    blocks := (splitBlocks (lens.take j) data).map (fun b => (b, rsParity b e)) }

theorem blockLoop {K : Kernels} (lens : List Nat) (e : Nat) (he : e ∈ QRComp.ecLens) (data : List Nat)
    (hd : ∀ b ∈ data, b < 256) (hsum : data.length = lsum lens)
    (hpos : ∀ x ∈ lens, 0 < x ∧ x + e ≤ 255) (t : Int)
    (hK : ∀ (i : Nat) (hi : i < lens.length),
      K.blockSizes t (data.length : Int) (lens.length : Int) (i : Int) = ((lens[i] : Int), (e : Int), false)) :
    ∀ j, j ≤ lens.length →
      (List.range j).foldlM (fun (st : BlockState) (k : Nat) =>
        blockStep K (bitsOfBytes data) t (data.length : Int) (lens.length : Int) (0 + (k : Int)) st) {} =
        .ok (blockStateAt lens e data j) := by
  intro j
  induction j with
  | zero => intro _; simp [blockStateAt, lsum, lmax, splitBlocks, pure, Except.pure]
  | succ j ih =>
    intro hj
    have hjl : j < lens.length := by omega
    rw [List.range_succ, List.foldlM_append, ih (by omega)]
    simp only [bind, Except.bind, List.foldlM_cons, List.foldlM_nil, pure, Except.pure]
    unfold blockStep
    have h0 : (0 : Int) + (j : Int) = (j : Int) := by omega
    rw [h0, hK j hjl]
    simp only [bind, Except.bind, pure, Except.pure]
    simp only [Bool.false_eq_true, if_false]
    have hoff : (blockStateAt lens e data j).dataBytesOffset = ((lsum (lens.take j) : Nat) : Int) := rfl
    have hle := lsum_take_le lens j hjl
    rw [hoff, toBytes_eq data hd (lsum (lens.take j)) lens[j] (by rw [hsum]; exact hle)]
    simp only
    have hblk : ((data.drop (lsum (lens.take j))).take lens[j]).length = lens[j] := by
      rw [List.length_take, List.length_drop]; omega
    have hp := hpos lens[j] (List.getElem_mem hjl)
    rw [generateECBytes_eq _ e he (by
        intro hnil
        have := congrArg List.length hnil
        rw [hblk] at this
        simp at this; omega)
      (fun b hb => hd b (List.mem_of_mem_drop (List.mem_of_mem_take hb))) (by rw [hblk]; exact hp.2)]
    simp only [Except.ok.injEq]
    unfold blockStateAt
    rw [take_succ_getElem lens j hjl, lsum_append, lmax_append, splitBlocks_append, List.map_append]
    simp only [List.map_cons, List.map_nil, rsParity_length, BlockState.mk.injEq, Nat.add_eq_zero_iff, Nat.succ_ne_self, and_false, if_false]
    refine ⟨by omega, ?_, ?_⟩
    · by_cases h : lmax (lens.take j) < lens[j]
      · have : ((lmax (lens.take j) : Nat) : Int) < ((lens[j] : Nat) : Int) := by omega
        rw [if_pos this, Nat.max_eq_right (by omega)]
      · have : ¬ ((lmax (lens.take j) : Nat) : Int) < ((lens[j] : Nat) : Int) := by omega
        rw [if_neg this, Nat.max_eq_left (by omega)]
    · have he0 := QRComp.ecLens_pos he
      by_cases hj0 : j = 0
      · simp only [hj0, if_true]
        have : (0 : Int) < (e : Int) := by omega
        rw [if_pos this]
        exact ⟨rfl, trivial⟩
      · simp only [hj0, if_false]
        have : ¬ ((e : Int) < (e : Int)) := by omega
        rw [if_neg this]
        exact ⟨rfl, trivial⟩


/-! ### the interleaving double loops -/

theorem interleaveInner (sel : List Nat × List Nat → List Nat) (i : Nat) :
    ∀ (blocks : List (List Nat × List Nat)) (res : Bits),
      interleaveRow sel i blocks res = res ++ bitsOfBytes (blocks.filterMap (fun b => (sel b)[i]?)) := by
  intro blocks
  unfold interleaveRow
  induction blocks with
  | nil => intro res; simp [bitsOfBytes]
  | cons b bs ih =>
    intro res
    rw [List.foldl_cons, List.filterMap_cons]
    cases hb : (sel b)[i]? with
    | none => simp only; exact ih res
    | some x =>
      simp only
      rw [ih, appendBitsIgn_byte, bitsOfBytes_cons, List.append_assoc]

theorem interleaveBytes_eq (sel : List Nat × List Nat → List Nat) (blocks : List (List Nat × List Nat)) :
    ∀ (n : Nat) (res : Bits), interleaveBytes sel (n : Int) blocks res =
      res ++ bitsOfBytes ((List.range n).flatMap (fun i => blocks.filterMap (fun b => (sel b)[i]?))) := by
  intro n
  unfold interleaveBytes
  simp only [Int.toNat_natCast]
  induction n with
  | zero => intro res; simp [bitsOfBytes]
  | succ n ih =>
    intro res
    rw [List.range_succ, List.foldl_append, ih res, List.flatMap_append, bitsOfBytes_append]
    simp only [List.foldl_cons, List.foldl_nil, List.flatMap_cons, List.flatMap_nil, List.append_nil]
    rw [interleaveInner sel n blocks, List.append_assoc]

/-! ### the standard's block table, as the block loop needs it -/

def kernOK (v : Nat) (ec : EC) : Bool :=
  let lens := blockDataLengths v ec
  let n := numBlocks v ec
  let D := dataCodewords v ec
  let e := ecPerBlock v ec
  lens.length == n && decide (0 < n) && totalCodewords v == D + e * n && lsum lens == D &&
    lens == (List.range n).map (fun i => if i < n - D % n then D / n else D / n + 1) &&
    lens.all (fun x => decide (0 < x) && decide (x + e ≤ 255)) && decide (e ∈ QRComp.ecLens)

theorem kernOK_all : ∀ v ∈ List.range 40, ∀ ec ∈ EC.all, kernOK (v + 1) ec = true := by decide +kernel

theorem maxLen_eq_lmax (bs : List (List Nat)) : maxLen bs = lmax (bs.map List.length) := by
  unfold maxLen lmax
  rw [List.foldl_map]

theorem lmax_replicate_ge (l : List Nat) (e : Nat) (h : ∀ x ∈ l, x = e) (hne : l ≠ []) : lmax l = e := by
  unfold lmax
  have : ∀ (l : List Nat) (a : Nat), (∀ x ∈ l, x = e) → l.foldl max a = if l = [] then a else max a e := by
    intro l
    induction l with
    | nil => intro a _; simp
    | cons x xs ih =>
      intro a h
      rw [List.foldl_cons, ih _ (fun y hy => h y (List.mem_cons_of_mem _ hy)), h x List.mem_cons_self]
      by_cases hx : xs = []
      · simp [hx]
      · simp only [hx, if_false, List.cons_ne_nil, Nat.max_assoc, Nat.max_self]
  rw [this l 0 h, if_neg hne]
  omega

theorem interleave_eq_ref {K : Kernels} (hK : KernelsOK K) (v : Nat) (h1 : 1 ≤ v) (h40 : v ≤ 40) (ec : EC)
    (data : List Nat) (hlen : data.length = dataCodewords v ec) (hb : ∀ b ∈ data, b < 256) :
    interleaveWithECBytes K (bitsOfBytes data) (totalCodewords v : Nat) (dataCodewords v ec : Nat) (numBlocks v ec : Nat) =
      .ok (bitsOfBytes (finalCodewords v ec data)) := by
  have hk := kernOK_all (v - 1) (List.mem_range.mpr (by omega)) ec (by cases ec <;> simp [EC.all])
  rw [show v - 1 + 1 = v by omega] at hk
  unfold kernOK at hk
  simp only [Bool.and_eq_true, beq_iff_eq, decide_eq_true_eq, List.all_eq_true] at hk
  obtain ⟨⟨⟨⟨⟨⟨hl, hn⟩, htot⟩, hsum⟩, hform⟩, hpos⟩, hecl⟩ := hk
  generalize hlens : blockDataLengths v ec = lens at *
  have hKi : ∀ (i : Nat) (hi : i < lens.length),
      K.blockSizes ((totalCodewords v : Nat) : Int) (data.length : Int) (lens.length : Int) (i : Int) =
        ((lens[i] : Int), (ecPerBlock v ec : Int), false) := by
    intro i hi
    rw [hl, hlen, htot, hK.block (dataCodewords v ec) (ecPerBlock v ec) (numBlocks v ec) i hn (by omega)]
    have : lens[i] = (if i < numBlocks v ec - dataCodewords v ec % numBlocks v ec then dataCodewords v ec / numBlocks v ec
        else dataCodewords v ec / numBlocks v ec + 1) := by
      have := congrArg (fun l => l[i]?) hform
      simp only [List.getElem?_eq_getElem hi, List.getElem?_map, List.getElem?_range (by omega : i < numBlocks v ec),
        Option.map_some] at this
      exact Option.some.inj this
    rw [this]
  have hloop := blockLoop (K := K) lens (ecPerBlock v ec) hecl data hb (by rw [hlen, hsum])
    (fun x hx => hpos x hx) ((totalCodewords v : Nat) : Int) hKi lens.length (Nat.le_refl _)
  unfold interleaveWithECBytes interleaveBlocks
  have hsz : sizeInBytes (bitsOfBytes data) = ((dataCodewords v ec : Nat) : Int) := by
    unfold sizeInBytes
    rw [bitsOfBytes_length, hlen]
    congr 1; omega
  simp only [bind, Except.bind, hsz, ne_eq, not_true_eq_false, if_false]
  unfold forRange
  have hcnt : (((numBlocks v ec : Nat) : Int) - 0).toNat = numBlocks v ec := by omega
  rw [hcnt, ← hl, ← hlen, hloop]
  simp only [blockStateAt, List.take_length]
  have hoff : ¬ (((data.length : Nat) : Int) ≠ ((lsum lens : Nat) : Int)) := by rw [hlen, hsum]; simp
  rw [if_neg hoff]
  simp only [pure, Except.pure]
  have hne : lens.length ≠ 0 := by omega
  rw [if_neg hne, interleaveBytes_eq, interleaveBytes_eq, List.nil_append, ← bitsOfBytes_append]
  have hsplit := splitBlocks_lengths lens data (by rw [hlen, ← hsum]; rfl)
  have hcw : (List.range (lmax lens)).flatMap (fun i =>
        ((splitBlocks lens data).map (fun b => (b, rsParity b (ecPerBlock v ec)))).filterMap (fun b => b.1[i]?)) ++
      (List.range (ecPerBlock v ec)).flatMap (fun i =>
        ((splitBlocks lens data).map (fun b => (b, rsParity b (ecPerBlock v ec)))).filterMap (fun b => b.2[i]?)) =
      finalCodewords v ec data := by
    unfold finalCodewords
    simp only [hlens]
    rw [QRComp.roundRobin_eq, QRComp.roundRobin_eq, maxLen_eq_lmax, maxLen_eq_lmax, hsplit]
    have hecs : lmax ((List.map (fun b => rsParity b (ecPerBlock v ec)) (splitBlocks lens data)).map List.length) = ecPerBlock v ec := by
      apply lmax_replicate_ge
      · intro x hx
        simp only [List.map_map, List.mem_map, Function.comp] at hx
        obtain ⟨b, _, rfl⟩ := hx
        exact rsParity_length _ _
      · intro hnil
        have := congrArg List.length hnil
        simp only [List.length_map, List.length_nil] at this
        have h2 := congrArg List.length hsplit
        simp only [List.length_map] at h2
        omega
    rw [hecs]
    simp only [List.filterMap_map, Function.comp_def]
  rw [hcw]
  have hfl := Gzx.Properties.C07.final_codewords_length v h1 h40 ec data hlen
  have hsz2 : sizeInBytes (bitsOfBytes (finalCodewords v ec data)) = ((totalCodewords v : Nat) : Int) := by
    unfold sizeInBytes
    rw [bitsOfBytes_length, hfl]
    congr 1; omega
  rw [hsz2]
  simp

end Gzx.QREnc
