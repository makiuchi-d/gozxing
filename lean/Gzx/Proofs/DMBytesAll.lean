/-
  C02 / C12 / wp dmenc — every codeword `EncodeHighLevel` writes is a byte, for EVERY look-ahead oracle.
  Here: the EDIFACT encoder, the dispatch loop, the padding; the other encoders are in DMBytesCw.
-/
import Gzx.Proofs.DMSymFF
import Gzx.Proofs.DMBytesCw
import Gzx.Proofs.DMTermDispatch
namespace Gzx.DMHighLevel

theorem edifactWord_bytes (a b c d : Nat) : Bytes (edifactWord a b c d) := by
  intro x hx
  simp only [edifactWord, List.mem_cons, List.mem_nil_iff, or_false] at hx
  rcases hx with rfl | rfl | rfl <;> omega

theorem writeQuads_bytes : ∀ (n : Nat) (l : List Nat), l.length ≤ n → Bytes (writeQuads l).1 := by
  intro n
  induction n using Nat.strongRecOn with
  | _ n ih =>
    intro l hl
    match l, hl with
    | [], _ => intro x hx; simp [writeQuads] at hx
    | [_], _ => intro x hx; simp [writeQuads] at hx
    | [_, _], _ => intro x hx; simp [writeQuads] at hx
    | [_, _, _], _ => intro x hx; simp [writeQuads] at hx
    | a :: b :: c :: d :: r, hl =>
      rw [writeQuads_cons4]
      exact (edifactWord_bytes a b c d).append (ih (n - 4) (by simp at hl; omega) r (by simp at hl; omega))

theorem edifactPack_bytes (l : List Nat) : Bytes (edifactPack l) := by
  have ht : ∀ (a b c d k : Nat), Bytes ((edifactWord a b c d).take k) :=
    fun a b c d k x hx => edifactWord_bytes a b c d x (List.mem_of_mem_take hx)
  match l with
  | [] => intro x hx; simp [edifactPack] at hx
  | [a] => exact ht a 0 0 0 1
  | [a, b] => exact ht a b 0 0 2
  | [a, b, c] => exact edifactWord_bytes a b c 0
  | a :: b :: c :: d :: _ => exact edifactWord_bytes a b c d

theorem edifact_bytes {syms : List SymbolInfo} {la : LookAhead} {c c' : Ctx} (hc : Bytes c.cw)
    (hle : c.pos ≤ c.total) (h : edifactEncode syms la c = .ok c') : Bytes c'.cw := by
  unfold edifactEncode at h
  obtain ⟨r, hl, h⟩ := bind_ok h
  obtain ⟨c1, buf1⟩ := r
  obtain ⟨chars, _, _, hcw1, _, _, _, hp1t, _⟩ := (edifactLoop_sat la c.remaining c [] (by simp) hle (Nat.le_refl _)).of_ok hl
  simp only at hcw1 hp1t
  have h1 : Bytes c1.cw := by rw [hcw1]; exact hc.append (writeQuads_bytes _ _ (Nat.le_refl _))
  have hE := edifactHandleEOD_ok_iff.1 h
  have early : ∀ c2 nu, ediEarly syms c1 (buf1 ++ [31]).length = .ok (c2, nu) → Bytes c2.cw := fun c2 nu he => by
    have e : c2.cw = c1.cw := ((ediEarly_sat (syms := syms) (buf1 ++ [31]).length hp1t).of_ok he).2.2.1
    rw [e]; exact h1
  have step : ∀ c2 c3 ria, Bytes c2.cw → ediStep syms c2 (buf1 ++ [31]) = .ok (c3, ria) → Bytes c3.cw :=
    fun c2 c3 ria h2 hs => by
      have e : c3.cw = c2.cw := ((ediStep_sat (syms := syms) (c := c2) (buf1 ++ [31])).of_ok hs).2.1.2.1
      rw [e]; exact h2
  cases hE with
  | empty _ => exact h1
  | noUnlatch c2 _ he => exact early c2 _ he
  | ascii c2 c3 _ he _ hs _ => exact step c2 c3 _ (early c2 _ he) hs
  | pack c2 c3 _ he _ hs => exact (step c2 c3 _ (early c2 _ he) hs).append (edifactPack_bytes _)

theorem encodeMode_bytes {syms : List SymbolInfo} {la : LookAhead} {mode : Nat} {c c' : Ctx} (hb : Bytes c.msg)
    (hc : Bytes c.cw) (hm : c.hasMore = true) (hnew : c.newEnc = none)
    (h : encodeMode syms la mode c = .ok c') : Bytes c'.cw := by
  have hle : c.pos ≤ c.total := Nat.le_of_lt ((hasMore_iff c).mp hm)
  unfold encodeMode at h
  repeat' split at h
  · exact ascii_bytes hb hc h
  · exact c40_bytes hc hle hm hnew h
  · exact c40_bytes hc hle hm hnew h
  · exact x12_bytes hc hle h
  · exact edifact_bytes hc hle h
  · exact b256_bytes hb hc hle h
  · cases h

theorem encodeMode_msg {syms : List SymbolInfo} {la : LookAhead} {mode : Nat} {c c' : Ctx}
    (hm : c.hasMore = true) (hnew : c.newEnc = none)
    (h : encodeMode syms la mode c = .ok c') : c'.msg = c.msg := by
  have hle : c.pos ≤ c.total := Nat.le_of_lt ((hasMore_iff c).mp hm)
  unfold encodeMode at h
  repeat' split at h
  · exact ((asciiEncode_sat hm).of_ok h).1
  · exact ((c40Encode_sat hle hm hnew).of_ok h).1
  · exact ((c40Encode_sat hle hm hnew).of_ok h).1
  · exact ((x12Encode_sat hle hnew).of_ok h).1
  · exact ((edifactEncode_sat hle).of_ok h).1
  · exact ((b256Encode_sat hm hle hnew).of_ok h).1
  · cases h

theorem dispatch_bytes {syms : List SymbolInfo} {la : LookAhead} (fuel mode : Nat) (c c' : Ctx) (m' : Nat)
    (hb : Bytes c.msg) (hc : Bytes c.cw) (hnew : c.newEnc = none)
    (h : dispatch syms la fuel mode c = .ok (c', m')) : Bytes c'.cw :=
  (dispatch_inv (fun c => Bytes c.msg ∧ Bytes c.cw)
    (fun _ c c1 hI hn hm h1 =>
      ⟨by show Bytes c1.msg; rw [encodeMode_msg hm hn h1]; exact hI.1,
        show Bytes c1.cw from encodeMode_bytes hI.1 hI.2 hm hn h1⟩)
    fuel mode c c' m' ⟨hb, hc⟩ hnew h).2

theorem padFrom_bytes : ∀ (n p : Nat), Bytes (padFrom n p) := by
  intro n
  induction n with
  | zero => intro p x hx; simp [padFrom] at hx
  | succ m ihm =>
    intro p x hx
    simp only [padFrom, List.mem_cons] at hx
    rcases hx with rfl | hx
    · have := rand253_range p; omega
    · exact ihm _ x hx

theorem padding_bytes (len cap : Nat) : Bytes (padding len cap) := by
  unfold padding
  split
  · intro x hx
    simp only [List.mem_cons] at hx
    rcases hx with rfl | hx
    · decide
    · exact padFrom_bytes _ _ x hx
  · intro x hx; simp at hx

theorem encodeHL_bytes_all (syms : List SymbolInfo) (la : LookAhead) (msg : List Nat) (cfg : Cfg) (cw : List Nat)
    (hb : ∀ x ∈ msg, x < 256) (h : encodeHL syms la msg cfg = .ok cw) : Bytes cw := by
  obtain ⟨a0, _, hn0, _, _, hmsg0, _⟩ := initCtx_inv refTables msg cfg
  unfold encodeHL at h
  obtain ⟨r, hd, h⟩ := bind_ok h
  obtain ⟨c1, mode⟩ := r
  obtain ⟨c2, hu, h⟩ := bind_ok h
  obtain ⟨cap, _, h⟩ := bind_ok h
  have hB1 := dispatch_bytes _ _ _ _ _ (by rw [hmsg0]; exact hb) (initCtx_bytes msg cfg) hn0 hd
  obtain ⟨ucw, _⟩ := update_spec hu
  simp only [Except.ok.injEq] at h
  subst h
  have h2 : Bytes c2.cw := by rw [ucw]; exact hB1
  apply Bytes.append _ (padding_bytes _ _)
  split
  · exact h2.append (Bytes.single (by decide))
  · exact h2

end Gzx.DMHighLevel
