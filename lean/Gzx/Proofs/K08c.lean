/-
  What Obligations/K08c.lean needs beside the equations for the parts of the reference placement program (Proofs/DM.lean):
  "a good final state has only good predecessors" (from the walk over the program's shape there), and the picture `paint`
  that the Go code's `bits` array holds after the assignments of a state.  Nothing here mentions a generated definition.
-/
import Gzx.Proofs.DM
import Gzx.Proofs.GoM
import Gzx.Proofs.Bits
namespace Gzx.K08c
open Gzx Gzx.GoM Gzx.DMRef
open Gzx.DMProofs (stepRel_ext)

theorem setIdx_nat (s : List Int) (i : Nat) (v : Int) (h : i < s.length) : setIdx s (i : Int) v = .ok (s.set i v) :=
  setIdx_of_lt s _ v i rfl h

/-! ### a good final state has only good predecessors -/

/-- nothing went wrong so far and the codeword vector (`L` codewords) is long enough for the assignments made -/
def Good (L : Nat) (st : PState) : Prop := st.bad = false ∧ st.seq.length ≤ 8 * L

variable {L nrow ncol : Nat}

/-- the flag stays up and the sequence never shrinks (`DMProofs.Ext`), so `Good` passes from a later state to an earlier
    one; with the walk `DMProofs.stepRel_ext` over the program's shape this gives every lemma of this section -/
theorem Good.of_ext {a b : PState} (hb : Good L b) (h : DMProofs.Ext a b) : Good L a :=
  ⟨Bool.eq_false_iff.2 fun ha => Bool.eq_false_iff.1 hb.1 (h.bad ha), Nat.le_trans h.len hb.2⟩

theorem not_good_bad {st : PState} : ¬ Good L { st with bad := true } := fun h => by
  have := h.1; simp at this

theorem good_moduleList (l : List (Int × Int)) (st : PState) (h : Good L (moduleList nrow ncol st l)) : Good L st :=
  h.of_ext ((stepRel_ext nrow ncol).moduleList l st)

theorem good_tryUtah {st : PState} {row col : Int} (h : Good L (tryUtah nrow ncol st row col)) :
    Good L st ∧ (occupied nrow ncol st row col).2 = false := by
  refine ⟨h.of_ext ((stepRel_ext nrow ncol).tryUtah st row col), Bool.eq_false_iff.2 fun hb => ?_⟩
  -- a probe outside the matrix raises the flag before anything else happens
  rw [tryUtah_eq] at h
  simp only [hb, if_true] at h
  refine not_good_bad (st := st) (h.of_ext ?_)
  split
  · exact (stepRel_ext nrow ncol).refl _
  · exact (stepRel_ext nrow ncol).moduleList _ _

theorem good_sweepUp (f : Nat) (st : PState) (r c : Int) (h : Good L (sweepUp nrow ncol f st r c).1) : Good L st :=
  h.of_ext ((stepRel_ext nrow ncol).sweepUp f st r c)

theorem good_sweepDown (f : Nat) (st : PState) (r c : Int) (h : Good L (sweepDown nrow ncol f st r c).1) : Good L st :=
  h.of_ext ((stepRel_ext nrow ncol).sweepDown f st r c)

theorem good_ite_moduleList {st : PState} {l : List (Int × Int)} {p : Prop} [Decidable p]
    (h : Good L (if p then moduleList nrow ncol st l else st)) : Good L st :=
  h.of_ext ((stepRel_ext nrow ncol).ite p ((stepRel_ext nrow ncol).moduleList l st))

/-- the four corner tests one after the other -/
def corner1Of (nrow ncol : Nat) (st : PState) (row col : Int) : PState :=
  if row = nrow ∧ col = 0 then moduleList nrow ncol st (corner1Cells nrow ncol) else st
def corner2Of (nrow ncol : Nat) (st : PState) (row col : Int) : PState :=
  if row = (nrow : Int) - 2 ∧ col = 0 ∧ ncol % 4 ≠ 0 then moduleList nrow ncol st (corner2Cells nrow ncol) else st
def corner3Of (nrow ncol : Nat) (st : PState) (row col : Int) : PState :=
  if row = (nrow : Int) - 2 ∧ col = 0 ∧ ncol % 8 = 4 then moduleList nrow ncol st (corner3Cells nrow ncol) else st
def corner4Of (nrow ncol : Nat) (st : PState) (row col : Int) : PState :=
  if row = (nrow : Int) + 4 ∧ col = 2 ∧ ncol % 8 = 0 then moduleList nrow ncol st (corner4Cells nrow ncol) else st

theorem corners_eq (nrow ncol : Nat) (st : PState) (row col : Int) :
    corners nrow ncol st row col =
      corner4Of nrow ncol (corner3Of nrow ncol (corner2Of nrow ncol (corner1Of nrow ncol st row col) row col) row col) row col := rfl

theorem good_roundOf {st : PState} {row col : Int} (h : Good L (roundOf nrow ncol st row col).1) :
    Good L (sweepUp nrow ncol (nrow + ncol) (corners nrow ncol st row col) row col).1 :=
  good_sweepDown _ _ _ _ h

theorem good_placeLoop : ∀ (f : Nat) (st : PState) (row col : Int), Good L (placeLoop nrow ncol f st row col) →
    Good L (roundOf nrow ncol st row col).1
  | 0, _, _, _, h => absurd h not_good_bad
  | f + 1, st, row, col, h => by
    rw [placeLoop_succ] at h
    split at h
    · exact h.of_ext ((stepRel_ext nrow ncol).placeLoop f _ _ _)
    · exact h

/-! ### the picture the Go array holds -/

/-- what `module` stores for assignment number `k` (bit `k % 8`, most significant first, of codeword `k / 8`) -/
def bitVal (cw : List Nat) (k : Nat) : Int := if (cw.getD (k / 8) 0 &&& (1 <<< (7 - k % 8))) != 0 then 1 else 0

theorem bitVal_nonneg (cw : List Nat) (k : Nat) : 0 ≤ bitVal cw k := by
  unfold bitVal; split <;> decide

/-- the array after the assignments `cells` (numbered from `k`) -/
def paint (cw : List Nat) : List Nat → Nat → List Int → List Int
  | [], _, B => B
  | c :: cs, k, B => paint cw cs (k + 1) (B.set c (bitVal cw k))

theorem paint_snoc (cw : List Nat) : ∀ (cs : List Nat) (k : Nat) (B : List Int) (c : Nat),
    paint cw (cs ++ [c]) k B = (paint cw cs k B).set c (bitVal cw (k + cs.length))
  | [], k, B, c => by simp [paint]
  | x :: cs, k, B, c => by
    simp only [List.cons_append, paint, List.length_cons]
    rw [paint_snoc cw cs (k + 1) _ c]
    congr 2; omega

theorem paint_length (cw : List Nat) : ∀ (cs : List Nat) (k : Nat) (B : List Int), (paint cw cs k B).length = B.length
  | [], _, _ => rfl
  | c :: cs, k, B => by simp [paint, paint_length cw cs]

/-- the Go array `B` and the reference state `st` describe the same moment of the placement -/
structure Inv (nrow ncol : Nat) (cw : List Nat) (B : List Int) (st : PState) : Prop where
  len : B.length = nrow * ncol
  occ : ∀ c, c < nrow * ncol → st.occ.testBit c = decide (B.getD c (-1) ≥ 0)
  val : B = paint cw st.seq.reverse 0 (List.replicate (nrow * ncol) (-1))

theorem inv_init (nrow ncol : Nat) (cw : List Nat) : Inv nrow ncol cw (List.replicate (nrow * ncol) (-1)) {} := by
  refine ⟨by simp, ?_, rfl⟩
  intro c hc
  simp [List.getD_eq_getElem?_getD, hc]

theorem inv_assign {cw : List Nat} {B : List Int} {st : PState} (h : Inv nrow ncol cw B st) (c : Nat) (hc : c < nrow * ncol) :
    Inv nrow ncol cw (B.set c (bitVal cw st.seq.length))
      { st with occ := st.occ ||| (1 <<< c), seq := c :: st.seq, dup := st.dup || st.occ.testBit c } := by
  refine ⟨by simp [h.len], ?_, ?_⟩
  · intro x hx
    rw [Nat.testBit_or, DMProofs.testBit_one_shiftLeft, h.occ x hx]
    simp only [List.getD_eq_getElem?_getD, List.getElem?_set]
    by_cases hxc : c = x
    · subst hxc
      have hl : c < B.length := by rw [h.len]; exact hc
      have := bitVal_nonneg cw st.seq.length
      simp [hl, this]
    · simp [hxc]
  · show B.set c _ = paint cw (c :: st.seq).reverse 0 _
    rw [List.reverse_cons, paint_snoc, ← h.val]
    simp

theorem paint_nonneg (cw : List Nat) : ∀ (cells : List Nat) (k : Nat) (B : List Int) (c : Nat), c < B.length →
    ((paint cw cells k B).getD c (-1) ≥ 0 ↔ c ∈ cells ∨ B.getD c (-1) ≥ 0)
  | [], _, _, _, _ => by simp [paint]
  | x :: cs, k, B, c, hc => by
    rw [paint, paint_nonneg cw cs (k + 1) _ c (by simpa using hc), List.mem_cons]
    simp only [List.getD_eq_getElem?_getD, List.getElem?_set]
    by_cases hx : x = c
    · subst hx; have := bitVal_nonneg cw k; simp [hc, this]
    · have : ¬ c = x := fun h => hx h.symm
      simp [hx, this]

/-- the picture of the final reference state satisfies the invariant: `occ` is the set of the cells of `seq` whatever the
    program does (`DMProofs.placeState_occ`), and `paint` leaves exactly those cells non-negative -/
theorem inv_placeState (nrow ncol : Nat) (cw : List Nat) :
    Inv nrow ncol cw (paint cw (placeSeq nrow ncol) 0 (List.replicate (nrow * ncol) (-1))) (placeState nrow ncol) := by
  refine ⟨by simp [paint_length], fun c hc => ?_, rfl⟩
  have hp := paint_nonneg cw (placeSeq nrow ncol) 0 (List.replicate (nrow * ncol) (-1)) c (by simpa using hc)
  rw [Bool.eq_iff_iff, decide_eq_true_eq, hp]
  simp only [placeSeq, List.mem_reverse, List.getD_eq_getElem?_getD, List.getElem?_replicate, hc, if_true, Option.getD_some]
  exact (DMProofs.placeState_occ nrow ncol c).trans (by simp)

/-! ### the picture read through `GetBit` is the reference mapping matrix -/

theorem mask_ne_zero (v j : Nat) : ((v &&& (1 <<< j)) != 0) = (v / 2 ^ j % 2 == 1) := by
  rw [Nat.one_shiftLeft, Bits.and_two_pow_ne_zero, Nat.testBit_eq_decide_div_mod_eq]
  by_cases h : v / 2 ^ j % 2 = 1 <;> simp [h]

theorem bitsOf_getElem? (v k : Nat) (hk : k < 8) : (bitsOf v)[k]? = some (v / 2 ^ (7 - k) % 2 == 1) := by
  have : k = 0 ∨ k = 1 ∨ k = 2 ∨ k = 3 ∨ k = 4 ∨ k = 5 ∨ k = 6 ∨ k = 7 := by omega
  rcases this with rfl | rfl | rfl | rfl | rfl | rfl | rfl | rfl <;> simp [bitsOf]

theorem allBits_getElem? : ∀ (cw : List Nat) (k : Nat), k < 8 * cw.length → (allBits cw)[k]? = some (bitVal cw k == 1)
  | [], k, h => by simp at h
  | v :: vs, k, h => by
    have hb : ∀ x : Int, ((if x = 0 then (0 : Int) else 1) == 1) = !(decide (x = 0)) := by
      intro x; by_cases hx : x = 0 <;> simp [hx]
    unfold allBits bitVal
    by_cases hk : k < 8
    · rw [List.getElem?_append_left (by simp [bitsOf]; exact hk), bitsOf_getElem? v k hk]
      have e1 : k / 8 = 0 := by omega
      have e2 : k % 8 = k := by omega
      rw [e1, e2]
      simp only [List.getD_cons_zero]
      rw [mask_ne_zero]
      cases (v / 2 ^ (7 - k) % 2 == 1) <;> simp
    · rw [List.getElem?_append_right (by simp [bitsOf]; omega)]
      have hlen : (bitsOf v).length = 8 := by simp [bitsOf]
      rw [hlen, allBits_getElem? vs (k - 8) (by simp at h; omega)]
      unfold bitVal
      have e1 : k / 8 = (k - 8) / 8 + 1 := by omega
      have e2 : k % 8 = (k - 8) % 8 := by omega
      rw [e1, e2, List.getD_cons_succ]

/-- `B` holds -1 for an untouched cell and the codeword bit (0 / 1) for an assigned one; read through `· == 1` (what `GetBit`
    does) the picture of the assignments `cells`, numbered from `k`, is `scatter` of the rest `(allBits cw).drop k` of the bit
    string over the same cells -/
theorem paint_scatter (cw : List Nat) : ∀ (cells : List Nat) (k : Nat) (B : List Int) (g : Array Bool),
    B.length = g.size → k + cells.length ≤ 8 * cw.length → (∀ c, (B.getD c (-1) == 1) = g.getD c false) →
    ∀ c, ((paint cw cells k B).getD c (-1) == 1) = (scatter cells ((allBits cw).drop k) g).getD c false := by
  intro cells
  induction cells with
  | nil => intro k B g _ _ h c; simpa [paint, scatter] using h c
  | cons c0 cs ih =>
    intro k B g hlen hk h c
    simp only [List.length_cons] at hk
    have hkl : k < (allBits cw).length := by rw [DMProofs.allBits_length]; omega
    have hd : (allBits cw).drop k = (bitVal cw k == 1) :: (allBits cw).drop (k + 1) := by
      have hg := allBits_getElem? cw k (by omega)
      rw [List.getElem?_eq_getElem hkl] at hg
      injection hg with hg
      rw [← hg]
      exact (List.getElem_cons_drop hkl).symm
    rw [hd]
    simp only [paint, scatter]
    apply ih (k + 1) _ _ (by simp [hlen]) (by omega)
    intro x
    simp only [List.getD_eq_getElem?_getD, List.getElem?_set, Array.getD_eq_getD_getElem?, Array.getElem?_setIfInBounds]
    have hx := h x
    simp only [List.getD_eq_getElem?_getD, Array.getD_eq_getD_getElem?] at hx
    by_cases hc : c0 = x
    · subst hc
      by_cases hl : c0 < B.length
      · have hl' : c0 < g.size := by omega
        simp [hl, hl']
      · have hl' : ¬ c0 < g.size := by omega
        simp [hl, hl']
    · simp only [hc, if_false]
      exact hx

end Gzx.K08c
