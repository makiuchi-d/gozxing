/-
  What the global histogram fallback (images below 40 pixels on an axis) needs to be exact
  on a pure black/white picture: ONE WHITE PIXEL AMONG THE SAMPLED ONES (rows `h·k/5`, k = 1..4, columns
  `w/5 .. 4w/5 − 1`).  Then there is a black point estimate (`estimateBlackPoint_bilevel`, Proofs/Binarizer.lean) and
  `global_bilevel_exact_or_notfound` (C17) leaves only the exact alternative.
  (All sampled pixels black ⇒ no estimate ⇒ NotFound: the condition is also necessary.)

  On top of that, the one statement of the pure-barcode image path (`read_shows`, `read_refused`): a rendered BitMatrix
  that `Shows` a module matrix (`grid_shows`: every writer's grid picture does) keeps showing it through image →
  luminance → binariser (`Shows.of_same`), so a reader (`readVia`: `dmRead`, `qrRead`) whose extractor is exact on such
  pictures answers what the matrix decoder answers.
-/
import Gzx.Proofs.Image2DBin
import Gzx.Proofs.Image2D
namespace Gzx.Binarizer
open Gzx

/-! ## the global method on a bilevel image -/

theorem global_bilevel_exact_of_white_sample (lum : Array Nat) (w h : Nat) (hw : 1 ≤ w) (hh : 1 ≤ h)
    (hsz : lum.size = w * h) (hbi : Properties.C17.Bilevel lum)
    (hwhite : ∃ k x, k ∈ [1, 2, 3, 4] ∧ w / 5 ≤ x ∧ x < w * 4 / 5 ∧ lum[(h * k / 5) * w + x]? = some 255) :
    ∃ sets, globalSets lum w h = .ok sets ∧
      (∀ X Y, (X, Y) ∈ sets → X < w ∧ Y < h) ∧
      (∀ X Y, X < w → Y < h → ((X, Y) ∈ sets ↔ lum[Y * w + X]? = some 0)) := by
  obtain ⟨ps, hps, hmem⟩ := samples_spec lum w h hsz hh
  have hbi' : ∀ p ∈ ps, p = 0 ∨ p = 255 := fun p hp => by
    obtain ⟨_, _, -, -, -, hi⟩ := (hmem p).mp hp
    exact hbi _ p hi
  obtain ⟨bp, hbp⟩ := (estimateBlackPoint_bilevel ps hbi').1 ((hmem 255).mpr hwhite)
  rcases Properties.C17.global_bilevel_exact_or_notfound lum w h hw hh hsz hbi with hnf | hex
  · rcases globalSets_spec lum w h hsz hw hh ps hps with ⟨he, -⟩ | ⟨_, _, -, hs, -⟩
    · rw [hbp] at he; cases he
    · rw [hnf] at hs; cases hs
  · exact hex

/-- the converse (also when nothing is sampled, `w ≤ 1`) -/
theorem global_bilevel_notfound_of_no_white_sample (lum : Array Nat) (w h : Nat) (hw : 1 ≤ w) (hh : 1 ≤ h)
    (hsz : lum.size = w * h) (hbi : Properties.C17.Bilevel lum)
    (hno : ¬ ∃ k x, k ∈ [1, 2, 3, 4] ∧ w / 5 ≤ x ∧ x < w * 4 / 5 ∧ lum[(h * k / 5) * w + x]? = some 255) :
    globalSets lum w h = .error .notFound := by
  obtain ⟨ps, hps, hmem⟩ := samples_spec lum w h hsz hh
  have hbi' : ∀ p ∈ ps, p = 0 ∨ p = 255 := fun p hp => by
    obtain ⟨_, _, -, -, -, hi⟩ := (hmem p).mp hp
    exact hbi _ p hi
  rcases globalSets_spec lum w h hsz hw hh ps hps with ⟨-, hnf⟩ | ⟨_, _, he, -⟩
  · exact hnf
  · rw [(estimateBlackPoint_bilevel ps hbi').2 fun h255 => hno ((hmem 255).mp h255)] at he
    cases he

end Gzx.Binarizer

namespace Gzx.ImagePath
open Gzx Gzx.Det Gzx.Det.Pure Gzx.Binarizer

/-- a rendered BitMatrix with a white pixel among those the global method samples -/
def WhiteSample (img : Render.Image) : Prop :=
  ∃ k x : Nat, k ∈ [1, 2, 3, 4] ∧ img.w.toNat / 5 ≤ x ∧ x < img.w.toNat * 4 / 5 ∧
    img.px (x : Int) ((img.h.toNat * k / 5 : Nat) : Int) = false

/-- a form of "no white sample" that evaluation can decide for a concrete picture -/
theorem not_whiteSample_of (img : Render.Image)
    (h : ∀ k ∈ [1, 2, 3, 4], ∀ x, x < img.w.toNat * 4 / 5 → img.w.toNat / 5 ≤ x →
      img.px x ↑(img.h.toNat * k / 5) = true) : ¬ WhiteSample img := by
  rintro ⟨k, x, hk, h1, h2, hp⟩
  rw [h k hk x h2 h1] at hp
  cases hp

theorem whiteSample_iff (img : Render.Image) (hh : 1 ≤ img.h) :
    WhiteSample img ↔ ∃ k x, k ∈ [1, 2, 3, 4] ∧ img.w.toNat / 5 ≤ x ∧ x < img.w.toNat * 4 / 5 ∧
      (lumOfRows img.rows)[(img.h.toNat * k / 5) * img.w.toNat + x]? = some 255 := by
  refine exists_congr fun k => exists_congr fun x => and_congr_right fun hk => and_congr_right fun _ =>
    and_congr_right fun hx => ?_
  rw [lumOfImage_get img x _ (by omega) (sampleLine_lt _ k (by omega) hk)]
  cases img.px x ↑(img.h.toNat * k / 5) <;> simp [grayAt]

theorem blackMatrix_white (img : Render.Image) (hw : 1 ≤ img.w) (hh : 1 ≤ img.h) (hwhite : WhiteSample img) :
    ∃ bm, blackMatrix img = .ok bm ∧ SameAsImage bm img := by
  by_cases hbig : 40 ≤ img.w ∧ 40 ≤ img.h
  · exact blackMatrix_local img hbig.1 hbig.2
  · refine blackMatrix_of_exact img (by omega) (by omega) ?_
    rw [Properties.C17.hybrid_small_is_global _ _ _ (by omega)]
    exact global_bilevel_exact_of_white_sample _ _ _ (by omega) (by omega) (lumOfImage_size img)
      (lumOfRows_bilevel _) ((whiteSample_iff img hh).mp hwhite)

theorem blackMatrix_no_white (img : Render.Image) (hw : 1 ≤ img.w) (hh : 1 ≤ img.h)
    (hsmall : img.w < 40 ∨ img.h < 40) (hno : ¬ WhiteSample img) : blackMatrix img = .error .notFound := by
  rw [blackMatrix_eq, Properties.C17.hybrid_small_is_global _ _ _ (by omega),
    global_bilevel_notfound_of_no_white_sample _ _ _ (by omega) (by omega) (lumOfImage_size img)
      (lumOfRows_bilevel _) (fun h => hno ((whiteSample_iff img hh).mpr h))]
  rfl

/-! ## the picture the readers see still shows the module matrix -/

theorem _root_.Gzx.Image2D.Shows.of_same {img : Render.Image} {bm : Img} {mw mh : Nat} {m : Nat → Nat → Bool}
    {s padX padY : Int} (h : Image2D.Shows (bitImage img) mw mh m s padX padY) (hs : SameAsImage bm img) :
    Image2D.Shows bm mw mh m s padX padY :=
  { s_pos := h.s_pos, padX_nonneg := h.padX_nonneg, padY_nonneg := h.padY_nonneg,
    fitX := hs.1 ▸ h.fitX, fitY := hs.2.1 ▸ h.fitY,
    pix := fun x y hin => by
      rw [hs.2.2 x y hin]
      exact h.pix x y ⟨hin.1, show x < img.w from hs.1 ▸ hin.2.1, hin.2.2.1, show y < img.h from hs.2.1 ▸ hin.2.2.2⟩ }

/-- the grid picture `rowLoop` draws, when it fits, shows the matrix (C14's `grid_px`) -/
theorem grid_shows (mw mh : Nat) (m : Nat → Nat → Bool) (W H left top s : Int)
    (hs : 1 ≤ s) (hl : 0 ≤ left) (ht : 0 ≤ top)
    (hr : left + (mw : Int) * s ≤ W) (hb : top + (mh : Int) * s ≤ H) :
    Image2D.Shows (bitImage ⟨W, H, Render.rowLoop m mw left s s s mh 0 top⟩) mw mh m s left top :=
  { s_pos := hs, padX_nonneg := hl, padY_nonneg := ht, fitX := hr, fitY := hb,
    pix := fun x y _ => Render.grid_px mw mh m W H left top s hs hl ht hr hb x y }

/-- on a picture that shows `m`: a sampled pixel outside the symbol or on a light module is a white sample -/
theorem whiteSample_of_shows {img : Render.Image} {mw mh : Nat} {m : Nat → Nat → Bool} {s padX padY : Int}
    (hS : Image2D.Shows (bitImage img) mw mh m s padX padY) (k x : Nat) (hk : k ∈ [1, 2, 3, 4])
    (h1 : img.w.toNat / 5 ≤ x) (h2 : x < img.w.toNat * 4 / 5) (hH : 1 ≤ img.h)
    (hlight : ¬ (padX ≤ (x : Int) ∧ (x : Int) < padX + (mw : Int) * s ∧
      padY ≤ ((img.h.toNat * k / 5 : Nat) : Int) ∧ ((img.h.toNat * k / 5 : Nat) : Int) < padY + (mh : Int) * s ∧
      m (((x : Int) - padX) / s).toNat ((((img.h.toNat * k / 5 : Nat) : Int) - padY) / s).toNat = true)) :
    WhiteSample img := by
  refine ⟨k, x, hk, h1, h2, Bool.eq_false_iff.mpr fun hp => hlight ?_⟩
  have hy := sampleLine_lt img.h.toNat k (by omega) hk
  exact (hS.pix _ _ ⟨by omega, by show (x : Int) < img.w; omega, by omega, by show _ < img.h; omega⟩).1 hp

/-! ## the readers on the bitmap of a rendered BitMatrix -/

/-- `Reader.Decode(bitmap, {PURE_BARCODE})` of either 2-D reader (`dmRead_eq`, `qrRead_eq`): `wrap` is how the
    binariser's fault surfaces, `extract` the reader's `extractPureBits` -/
def readVia {α : Type} (wrap : Fault → ReadFault) (extract : Img → Res Bits) (black : Res Img)
    (decode : Bits → Res α) : Except ReadFault α :=
  match black with
  | .error e => .error (wrap e)
  | .ok bm => liftRes (extract bm >>= decode)

theorem dmRead_eq {α : Type} (black : Res Img) (decode : Bits → Res α) :
    dmRead black decode = readVia .reader (fun bm => DM.extractPureBits bm.rdGo bm) black decode := by
  unfold dmRead readVia
  cases black with
  | error e => rfl
  | ok bm =>
    simp only [bind, Except.bind]
    cases DM.extractPureBits bm.rdGo bm with
    | error e => rfl
    | ok b => simp only []; cases decode b <;> rfl

theorem qrRead_eq {F α : Type} (o : FOps F) (black : Res Img) (decode : Bits → Res α) :
    qrRead o black decode = readVia .other (fun bm => QR.extractPureBits o bm.rdGo bm) black decode := by
  unfold qrRead readVia
  cases black with
  | error e => rfl
  | ok bm =>
    simp only [bind, Except.bind]
    cases QR.extractPureBits o bm.rdGo bm with
    | error e => rfl
    | ok b => simp only []; cases decode b <;> rfl

/-- **the pure-barcode image path is the matrix path**: for a rendered BitMatrix that shows `m` (whatever writer,
    pitch and pads) and an extractor that reads `B` off every picture showing `m`, the reader answers what the matrix
    decoder answers on `B` from 40x40 pixels up or with a white sample; in every case that or the binariser's NotFound -/
theorem read_shows {α : Type} {img : Render.Image} {mw mh : Nat} {m : Nat → Nat → Bool} {s padX padY : Int}
    (hS : Image2D.Shows (bitImage img) mw mh m s padX padY) (hw : 1 ≤ mw) (hh : 1 ≤ mh)
    (wrap : Fault → ReadFault) (extract : Img → Res Bits) (B : Bits)
    (hex : ∀ bm, Image2D.Shows bm mw mh m s padX padY → extract bm = .ok B) (decode : Bits → Res α) :
    (40 ≤ img.w ∧ 40 ≤ img.h ∨ WhiteSample img →
      readVia wrap extract (blackMatrix img) decode = liftRes (decode B)) ∧
    (readVia wrap extract (blackMatrix img) decode = liftRes (decode B) ∨
      readVia wrap extract (blackMatrix img) decode = .error (wrap .notFound)) := by
  obtain ⟨hW, hH⟩ := hS.dims_pos hw hh
  have good : ∀ bm, blackMatrix img = .ok bm → SameAsImage bm img →
      readVia wrap extract (blackMatrix img) decode = liftRes (decode B) := fun bm hb hs => by
    rw [hb]; simp only [readVia, hex bm (hS.of_same hs)]; rfl
  refine ⟨?_, ?_⟩
  · rintro (⟨a, b⟩ | hwh)
    · obtain ⟨bm, hb, hs⟩ := blackMatrix_local img a b; exact good bm hb hs
    · obtain ⟨bm, hb, hs⟩ := blackMatrix_white img hW hH hwh; exact good bm hb hs
  · rcases blackMatrix_any img hW hH with hnf | ⟨bm, hb, hs⟩
    · right; rw [hnf]; rfl
    · left; exact good bm hb hs

/-- … and the condition is exact, whatever the picture shows -/
theorem read_refused {α : Type} (img : Render.Image) (hW : 1 ≤ img.w) (hH : 1 ≤ img.h)
    (wrap : Fault → ReadFault) (extract : Img → Res Bits) (decode : Bits → Res α)
    (hsmall : img.w < 40 ∨ img.h < 40) (hno : ¬ WhiteSample img) :
    readVia wrap extract (blackMatrix img) decode = .error (wrap .notFound) := by
  rw [blackMatrix_no_white img hW hH hsmall hno]; rfl

end Gzx.ImagePath
