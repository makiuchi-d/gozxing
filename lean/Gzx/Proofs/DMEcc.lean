/-
  Helper lemmas for C08, error-correction side: the LFSR loop of createECCBlock is schoolbook long division
  (generic in the multiplication and in the factor list).
-/
import Gzx.Ref.DM
import Gzx.Model.DMEncoder
namespace Gzx.DMProofs
open Gzx Gzx.DMRef

theorem enc_xorZip_eq : ∀ (a b : List Nat), DMEnc.xorZip a b = DMRef.xorZip a b
  | [], _ => by simp [DMEnc.xorZip, DMRef.xorZip]
  | _ :: _, [] => by simp [DMEnc.xorZip, DMRef.xorZip]
  | x :: xs, y :: ys => by simp [DMEnc.xorZip, DMRef.xorZip, enc_xorZip_eq xs ys]

theorem xorZip_eq_zipWith : ∀ (a b : List Nat), xorZip a b = List.zipWith (· ^^^ ·) a b
  | [], _ => by simp [xorZip]
  | _ :: _, [] => by simp [xorZip]
  | x :: xs, y :: ys => by simp [xorZip, xorZip_eq_zipWith xs ys]

theorem xorZip_length (a b : List Nat) : (xorZip a b).length = min a.length b.length := by
  rw [xorZip_eq_zipWith, List.length_zipWith]

theorem xorZip_append (a b c d : List Nat) (h : a.length = b.length) :
    xorZip (a ++ c) (b ++ d) = xorZip a b ++ xorZip c d := by
  simp only [xorZip_eq_zipWith, List.zipWith_append h]

theorem xorZip_reverse (a b : List Nat) (h : a.length = b.length) :
    (xorZip a b).reverse = xorZip a.reverse b.reverse := by
  simp only [xorZip_eq_zipWith, List.reverse_zipWith h]

theorem xorPrefix_length : ∀ (a b : List Nat), (xorPrefix a b).length = a.length
  | [], [] => by simp [xorPrefix]
  | [], _ :: _ => by simp [xorPrefix]
  | _ :: _, [] => by simp [xorPrefix]
  | x :: xs, y :: ys => by simp [xorPrefix, xorPrefix_length xs ys]

theorem xorPrefix_zeros : ∀ (n : Nat) (H : List Nat), H.length = n → xorPrefix (List.replicate n 0) H = H
  | 0, [], _ => by simp [xorPrefix]
  | 0, _ :: _, h => by simp at h
  | n + 1, [], h => by simp at h
  | n + 1, x :: xs, h => by
    simp only [List.replicate_succ, xorPrefix, Nat.zero_xor, List.cons.injEq, true_and]
    exact xorPrefix_zeros n xs (by simpa using h)

theorem xorPrefix_by_zeros : ∀ (A : List Nat) (n : Nat), xorPrefix A (List.replicate n 0) = A
  | [], 0 => by simp [xorPrefix]
  | [], _ + 1 => by simp [List.replicate_succ, xorPrefix]
  | _ :: _, 0 => by simp [xorPrefix]
  | a :: A, n + 1 => by simp [List.replicate_succ, xorPrefix, xorPrefix_by_zeros A n]

/-- xor-ing `H'` and then `G` into a prefix = xor-ing the combined register `(H' ++ [0]) xor G` -/
theorem xorPrefix_xorPrefix : ∀ (A H G : List Nat), G.length = H.length + 1 → G.length ≤ A.length →
    xorPrefix (xorPrefix A H) G = xorPrefix A (xorZip (H ++ [0]) G)
  | [], _, G, h1, h2 => by
    cases G with
    | nil => simp at h1
    | cons g G => simp at h2
  | a :: A, [], G, h1, _ => by
    match G, h1 with
    | [g], _ => simp [xorPrefix, xorZip]
  | a :: A, h :: H, G, h1, h2 => by
    cases G with
    | nil => simp at h1
    | cons g G =>
      simp only [xorPrefix, List.cons_append, xorZip, List.cons.injEq]
      refine ⟨Nat.xor_assoc _ _ _, ?_⟩
      exact xorPrefix_xorPrefix A H G (by simpa using h1) (by simpa using h2)

/-- the register update of the LFSR on the register stored HIGH order first -/
def stepHigh (mul : Nat → Nat → Nat) (gs : List Nat) (H : List Nat) (d : Nat) : List Nat :=
  xorZip (H.tail ++ [0]) (gs.map (mul (H.headD 0 ^^^ d)))

theorem stepHigh_length (mul : Nat → Nat → Nat) (gs H : List Nat) (d : Nat) (h : H.length = gs.length)
    (hpos : 0 < gs.length) : (stepHigh mul gs H d).length = gs.length := by
  unfold stepHigh
  rw [xorZip_length]
  simp only [List.length_append, List.length_tail, List.length_cons, List.length_nil, List.length_map]
  omega

/-- long division of `data ++ zeros`, with register `H` already xor-ed into the front, runs the LFSR -/
theorem polyRem_eq_fold (mul : Nat → Nat → Nat) (gs : List Nat) (hpos : 0 < gs.length) :
    ∀ (ds H : List Nat), H.length = gs.length →
      polyRem mul gs ds.length (xorPrefix (ds ++ List.replicate gs.length 0) H) =
        ds.foldl (stepHigh mul gs) H := by
  intro ds
  induction ds with
  | nil =>
    intro H hH
    simp only [List.length_nil, polyRem, List.nil_append, List.foldl_nil]
    exact xorPrefix_zeros _ _ hH
  | cons d ds ih =>
    intro H hH
    cases H with
    | nil => simp at hH; omega
    | cons h H' =>
      simp only [List.length_cons, List.cons_append, xorPrefix, polyRem, List.foldl_cons]
      have hH' : H'.length + 1 = gs.length := by simpa using hH
      rw [xorPrefix_xorPrefix _ _ _ (by simp; omega) (by simp)]
      have hstep : xorZip (H' ++ [0]) (gs.map (mul (d ^^^ h))) = stepHigh mul gs (h :: H') d := by
        unfold stepHigh
        simp [Nat.xor_comm]
      rw [hstep]
      exact ih _ (stepHigh_length mul gs _ d hH hpos)

theorem eccStep_reverse (mul : Nat → Nat → Nat) (poly ecc : List Nat) (d : Nat)
    (h : ecc.length = poly.length) (hpos : 0 < poly.length) :
    (DMEnc.eccStep mul poly ecc d).reverse = stepHigh mul poly.reverse ecc.reverse d := by
  unfold DMEnc.eccStep stepHigh
  simp only
  rw [enc_xorZip_eq, xorZip_reverse _ _ (by
    simp only [List.length_cons, List.length_dropLast, List.length_map]; omega)]
  have h1 : (0 :: ecc.dropLast).reverse = ecc.reverse.tail ++ [0] := by
    rw [List.reverse_cons, List.tail_reverse]
  have h2 : ecc.getLastD 0 = ecc.reverse.headD 0 := by
    rw [List.getLastD_eq_getLast?, List.headD_eq_head?_getD, List.head?_reverse]
  rw [h1, h2, List.map_reverse]

theorem eccStep_length (mul : Nat → Nat → Nat) (poly ecc : List Nat) (d : Nat)
    (h : ecc.length = poly.length) (hpos : 0 < poly.length) :
    (DMEnc.eccStep mul poly ecc d).length = poly.length := by
  unfold DMEnc.eccStep
  simp only
  rw [enc_xorZip_eq, xorZip_length]
  simp only [List.length_cons, List.length_dropLast, List.length_map]
  omega

theorem lfsr_fold_reverse (mul : Nat → Nat → Nat) (poly : List Nat) (hpos : 0 < poly.length) :
    ∀ (ds ecc : List Nat), ecc.length = poly.length →
      (ds.foldl (DMEnc.eccStep mul poly) ecc).reverse = ds.foldl (stepHigh mul poly.reverse) ecc.reverse := by
  intro ds
  induction ds with
  | nil => intro ecc _; rfl
  | cons d ds ih =>
    intro ecc h
    simp only [List.foldl_cons]
    rw [ih _ (eccStep_length mul poly ecc d h hpos), eccStep_reverse mul poly ecc d h hpos]

/-- The LFSR loop of `createECCBlock` (register stored low order first, reversed at the end) computes the
    remainder of `data(x)·x^n` modulo the monic polynomial whose non-leading coefficients are `poly`
    (low order first) — for every multiplication `mul` and every factor list `poly` of length `n ≥ 1`. -/
theorem lfsr_eq_polyRem (mul : Nat → Nat → Nat) (poly : List Nat) (hpos : 0 < poly.length) (ds : List Nat) :
    (DMEnc.lfsr mul poly poly.length ds).reverse =
      polyRem mul poly.reverse ds.length (ds ++ List.replicate poly.length 0) := by
  unfold DMEnc.lfsr
  rw [lfsr_fold_reverse mul poly hpos ds _ (by simp), List.reverse_replicate]
  have h := polyRem_eq_fold mul poly.reverse (by simpa using hpos) ds (List.replicate poly.length 0) (by simp)
  rw [List.length_reverse] at h
  rw [← h, xorPrefix_by_zeros]

theorem polyRem_length (mul : Nat → Nat → Nat) (gs : List Nat) : ∀ (k : Nat) (xs : List Nat), k ≤ xs.length →
    (polyRem mul gs k xs).length = xs.length - k := by
  intro k
  induction k with
  | zero => intro xs _; simp [polyRem]
  | succ k ih =>
    intro xs h
    cases xs with
    | nil => simp at h
    | cons c xs =>
      simp only [polyRem]
      rw [ih _ (by rw [xorPrefix_length]; simpa using h), xorPrefix_length]
      simp

theorem eccBlock_length (n : Nat) (data : List Nat) : (eccBlock n data).length = n := by
  unfold eccBlock
  rw [polyRem_length _ _ _ _ (by simp)]
  simp

end Gzx.DMProofs
