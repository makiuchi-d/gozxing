/-
  C11 bit-level lemmas: toBits/fromBits/readCode/wordBits (bridged to the QR decoder's `natToBits`/`natOfBits`,
  whose lemmas Proofs/QRBitsLemmas.lean holds), and bit stuffing (reference) vs un-stuffing (decoder model).
-/
import Gzx.Ref.Aztec
import Gzx.Model.AztecDecoder
import Gzx.Proofs.QRBitsLemmas
namespace Gzx.AztecStuff
open Gzx Gzx.AztecDecoder Gzx.Ref.Aztec

/-! ### fromBits / toBits / readCode -/

theorem toBits_eq_natToBits : ∀ (w n : Nat), toBits w n = QRDec.natToBits w n
  | 0, _ => rfl
  | w + 1, n => by rw [toBits, QRDec.natToBits, toBits_eq_natToBits w]

theorem fromBits_eq_natOfBits (bs : List Bool) : fromBits bs = QRDec.natOfBits bs := by
  unfold fromBits QRDec.natOfBits
  congr 1; funext acc b; cases b <;> rfl

theorem readCode_eq_fromBits (bs : List Bool) : readCode bs = fromBits bs := rfl

theorem fromBits_append_single (bs : List Bool) (x : Bool) :
    fromBits (bs ++ [x]) = 2 * fromBits bs + (if x then 1 else 0) := by
  simp [fromBits, List.foldl_append]

theorem foldl_shift (bs : List Bool) (a : Nat) :
    bs.foldl (fun acc b => 2 * acc + (if b then 1 else 0)) a =
      a * 2 ^ bs.length + bs.foldl (fun acc b => 2 * acc + (if b then 1 else 0)) 0 := by
  induction bs generalizing a with
  | nil => simp
  | cons b bs ih =>
    simp only [List.foldl_cons, List.length_cons]
    rw [ih (2 * a + _), ih (2 * 0 + _)]
    rw [Nat.pow_succ]
    cases b <;> simp <;> grind

theorem fromBits_append (xs ys : List Bool) :
    fromBits (xs ++ ys) = fromBits xs * 2 ^ ys.length + fromBits ys := by
  unfold fromBits
  rw [List.foldl_append, foldl_shift]

theorem fromBits_lt (bs : List Bool) : fromBits bs < 2 ^ bs.length := by
  rw [fromBits_eq_natOfBits]; exact QRComp.natOfBits_lt bs

theorem fromBits_lt_of_length_le {w : Nat} (bs : List Bool) (h : bs.length ≤ w) : fromBits bs < 2 ^ w :=
  Nat.lt_of_lt_of_le (fromBits_lt bs) (Nat.pow_le_pow_right (by omega) h)

theorem fromBits_append_div (xs ys : List Bool) :
    fromBits (xs ++ ys) / 2 ^ ys.length = fromBits xs := by
  rw [fromBits_append, Nat.mul_comm, Nat.mul_add_div (Nat.two_pow_pos _),
    Nat.div_eq_of_lt (fromBits_lt ys), Nat.add_zero]

theorem fromBits_append_mod (xs ys : List Bool) :
    fromBits (xs ++ ys) % 2 ^ ys.length = fromBits ys := by
  rw [fromBits_append, Nat.mul_comm, Nat.mul_add_mod, Nat.mod_eq_of_lt (fromBits_lt ys)]

theorem fromBits_chunks (n : Nat) (qs : List (List Bool)) (h : ∀ q ∈ qs, q.length = n) :
    (qs.map fromBits).foldl (fun pd v => (pd <<< n) + v) 0 = fromBits qs.flatten := by
  induction qs using QRComp.rev_ind with
  | h0 => rfl
  | hs qs q ih =>
    rw [List.map_append, List.foldl_append, ih (fun x hx => h x (by simp [hx])), List.flatten_append,
      fromBits_append]
    simp [h q (by simp), Nat.shiftLeft_eq]

theorem length_toBits (w n : Nat) : (toBits w n).length = w := by
  rw [toBits_eq_natToBits]; exact QRDec.natToBits_length w n

theorem fromBits_toBits (w n : Nat) : fromBits (toBits w n) = n % 2 ^ w := by
  rw [fromBits_eq_natOfBits, toBits_eq_natToBits, QRDec.natOfBits_natToBits_mod]

theorem fromBits_toBits_of_lt (w n : Nat) (h : n < 2 ^ w) : fromBits (toBits w n) = n := by
  rw [fromBits_toBits, Nat.mod_eq_of_lt h]

theorem wordBits_eq_toBits (w n : Nat) : wordBits w n = toBits w n := by
  induction w generalizing n with
  | zero => rfl
  | succ w ih => simp [wordBits, toBits, ih]

theorem toBits_fromBits (bs : List Bool) : toBits bs.length (fromBits bs) = bs := by
  rw [fromBits_eq_natOfBits, toBits_eq_natToBits]; exact QRComp.natToBits_natOfBits bs

theorem fromBits_replicate_true (n : Nat) : fromBits (List.replicate n true) = 2 ^ n - 1 := by
  induction n with
  | zero => simp [fromBits]
  | succ n ih =>
    rw [List.replicate_succ', fromBits_append_single, ih, Nat.pow_succ]
    have : 0 < 2 ^ n := Nat.two_pow_pos n
    simp; omega

theorem fromBits_replicate_false (n : Nat) : fromBits (List.replicate n false) = 0 := by
  induction n with
  | zero => simp [fromBits]
  | succ n ih => rw [List.replicate_succ', fromBits_append_single, ih]; simp

theorem all_true_eq_replicate (bs : List Bool) (h : bs.all (· == true) = true) :
    bs = List.replicate bs.length true := by
  induction bs with
  | nil => rfl
  | cons b bs ih =>
    simp only [List.all_cons, Bool.and_eq_true, beq_iff_eq] at h
    rw [List.length_cons, List.replicate_succ, ← ih h.2, h.1]

theorem all_false_eq_replicate (bs : List Bool) (h : bs.all (· == false) = true) :
    bs = List.replicate bs.length false := by
  induction bs with
  | nil => rfl
  | cons b bs ih =>
    simp only [List.all_cons, Bool.and_eq_true, beq_iff_eq] at h
    rw [List.length_cons, List.replicate_succ, ← ih h.2, h.1]

theorem fromBits_lt_of_not_all_true (bs : List Bool) (h : bs.all (· == true) = false) :
    fromBits bs + 2 ≤ 2 ^ bs.length := by
  induction bs using QRComp.rev_ind with
  | h0 => simp at h
  | hs bs x ih =>
    rw [fromBits_append_single, List.length_append, List.length_singleton, Nat.pow_succ]
    have hlt := fromBits_lt bs
    cases x with
    | false => simp; omega
    | true =>
      have : bs.all (· == true) = false := by
        simpa [List.all_append] using h
      have := ih this
      simp; omega

theorem fromBits_pos_of_not_all_false (bs : List Bool) (h : bs.all (· == false) = false) :
    1 ≤ fromBits bs := by
  induction bs using QRComp.rev_ind with
  | h0 => simp at h
  | hs bs x ih =>
    rw [fromBits_append_single]
    cases x with
    | true => simp
    | false =>
      have : bs.all (· == false) = false := by
        simpa [List.all_append] using h
      have := ih this
      simp; omega

/-- the stuffed all-ones codeword `1…10` -/
theorem fromBits_ones_zero (b : Nat) (hb : 2 ≤ b) :
    fromBits (List.replicate (b - 1) true ++ [false]) = 2 ^ b - 2 := by
  have hpow : 2 ^ b = 2 * 2 ^ (b - 1) := by
    rw [show b = b - 1 + 1 by omega, Nat.pow_succ, show b - 1 + 1 - 1 = b - 1 by omega]; omega
  have hp := Nat.two_pow_pos (b - 1)
  rw [fromBits_append_single, fromBits_replicate_true, hpow]
  simp; omega

/-! ### un-stuffing one codeword -/

theorem unstuff_ones (b : Nat) (hb : 2 ≤ b) (ds : List Nat) (r : List Bool)
    (h : unstuff b ds = .ok r) :
    unstuff b ((2 ^ b - 2) :: ds) = .ok (List.replicate (b - 1) true ++ r) := by
  have hp : 4 ≤ 2 ^ b := by
    calc 4 = 2 ^ 2 := rfl
      _ ≤ 2 ^ b := Nat.pow_le_pow_right (by decide) hb
  have h1 : ¬ (2 ^ b - 2 = 0 ∨ 2 ^ b - 2 = 2 ^ b - 1) := by omega
  have h2 : (2 ^ b - 2 = 1 ∨ 2 ^ b - 2 = 2 ^ b - 1 - 1) := by omega
  have h3 : decide (2 ^ b - 2 > 1) = true := by simp; omega
  simp only [unstuff, h1, if_false, h, h2, if_true, h3]
  rfl

theorem unstuff_zeros (b : Nat) (hb : 2 ≤ b) (ds : List Nat) (r : List Bool)
    (h : unstuff b ds = .ok r) :
    unstuff b (1 :: ds) = .ok (List.replicate (b - 1) false ++ r) := by
  have hp : 4 ≤ 2 ^ b := by
    calc 4 = 2 ^ 2 := rfl
      _ ≤ 2 ^ b := Nat.pow_le_pow_right (by decide) hb
  have h1 : ¬ ((1 : Nat) = 0 ∨ 1 = 2 ^ b - 1) := by omega
  simp only [unstuff, h1, if_false, h, true_or, if_true]
  rfl

theorem unstuff_plain (b d : Nat) (ds : List Nat) (r : List Bool)
    (hd1 : 2 ≤ d) (hd2 : d + 3 ≤ 2 ^ b) (h : unstuff b ds = .ok r) :
    unstuff b (d :: ds) = .ok (toBits b d ++ r) := by
  have h1 : ¬ (d = 0 ∨ d = 2 ^ b - 1) := by omega
  have h2 : ¬ (d = 1 ∨ d = 2 ^ b - 1 - 1) := by omega
  simp only [unstuff, h1, if_false, h, h2, wordBits_eq_toBits]
  rfl

/-! ### stuffing then un-stuffing

`stuffAux` takes the next `n` bits (`n = b-1`, or `b` for an ordinary codeword) padded with ones to
length `n`; what it takes and what it leaves make up the message followed by that padding. -/

/-- the next `n` bits of the message, padded with ones where it ends -/
def padTake (n : Nat) (bits : List Bool) : List Bool :=
  bits.take n ++ List.replicate (n - (bits.take n).length) true

theorem length_padTake (n : Nat) (bits : List Bool) : (padTake n bits).length = n := by
  simp [padTake]; omega

/-- one codeword of a non-empty message: the next `b - 1` bits, then the stuffed bit if they are all equal, the
    next message bit (or a pad one) otherwise -/
theorem stuffAux_cons (b fuel : Nat) (bits : List Bool) (hne : bits ≠ []) :
    stuffAux b (fuel + 1) bits =
      if (padTake (b - 1) bits).all (· == true) then
        (padTake (b - 1) bits ++ [false]) :: stuffAux b fuel (bits.drop (b - 1))
      else if (padTake (b - 1) bits).all (· == false) then
        (padTake (b - 1) bits ++ [true]) :: stuffAux b fuel (bits.drop (b - 1))
      else (padTake (b - 1) bits ++ [((bits.drop (b - 1)).head?).getD true]) :: stuffAux b fuel (bits.drop b) := by
  cases bits with
  | nil => exact absurd rfl hne
  | cons x xs => rfl

theorem take_pad_drop (n : Nat) (bits : List Bool) :
    padTake n bits ++ bits.drop n = bits ++ List.replicate (n - bits.length) true := by
  unfold padTake
  by_cases h : n ≤ bits.length
  · rw [List.length_take, Nat.min_eq_left h, Nat.sub_self, Nat.sub_eq_zero_of_le h]
    simp
  · have h' : bits.length ≤ n := by omega
    rw [List.take_of_length_le h', List.drop_eq_nil_of_le h']
    simp

/-- an ordinary codeword: the padded `n` bits and the next bit (or a pad one) are the padded `n+1` bits -/
theorem take_pad_succ (n : Nat) (bits : List Bool) :
    padTake n bits ++ [((bits.drop n).head?).getD true] = padTake (n + 1) bits := by
  unfold padTake
  by_cases h : n < bits.length
  · have h1 : min n bits.length = n := Nat.min_eq_left (by omega)
    have e : bits.take (n + 1) = bits.take n ++ [bits[n]] := by
      rw [List.take_add_one, List.getElem?_eq_getElem h]; rfl
    rw [e, List.drop_eq_getElem_cons h, List.head?_cons, Option.getD_some, List.length_append,
      List.length_take, h1, List.length_singleton, Nat.sub_self, Nat.sub_self, List.replicate_zero,
      List.append_nil, List.append_nil]
  · have h' : bits.length ≤ n := by omega
    rw [List.take_of_length_le h', List.take_of_length_le (by omega), List.drop_eq_nil_of_le h',
      Nat.succ_sub h', List.replicate_succ']
    simp

/-- after a codeword of `n ≤ b` message bits: the decoded rest (the remaining bits and `k'` pad ones,
    none if nothing remained) completes the message followed by fewer than `b` pad ones -/
theorem take_pad_rest (b n : Nat) (hn : n ≤ b) (bits : List Bool) (hpos : 0 < bits.length) (k' : Nat)
    (hk' : k' < b) (h0 : bits.drop n = [] → k' = 0) :
    ∃ k, k < b ∧ padTake n bits ++ (bits.drop n ++ List.replicate k' true) = bits ++ List.replicate k true := by
  refine ⟨(n - bits.length) + k', ?_, ?_⟩
  · by_cases hf : n ≤ bits.length
    · omega
    · have := h0 (List.drop_eq_nil_of_le (by omega)); omega
  · rw [← List.append_assoc, take_pad_drop, List.append_assoc, List.replicate_append_replicate]

theorem stuff_unstuff_aux (b : Nat) (hb : 2 ≤ b) :
    ∀ (fuel : Nat) (bits : List Bool), bits.length < fuel →
      ∃ k, k < b ∧ (bits = [] → k = 0) ∧
        unstuff b ((stuffAux b fuel bits).map fromBits) = .ok (bits ++ List.replicate k true) := by
  intro fuel
  induction fuel with
  | zero => intro bits h; omega
  | succ fuel ih =>
    intro bits hlen
    cases hbits : bits with
    | nil => exact ⟨0, by omega, fun _ => rfl, by simp [stuffAux, unstuff]⟩
    | cons x xs =>
      rw [← hbits]
      have hpos : 0 < bits.length := by rw [hbits]; simp
      have hne : bits ≠ [] := by rw [hbits]; simp
      rw [stuffAux_cons b fuel bits hne]
      have hb1 : b - 1 + 1 = b := by omega
      have hsucc := take_pad_succ (b - 1) bits
      rw [hb1] at hsucc
      have hplen := length_padTake (b - 1) bits
      have hrest := take_pad_rest b (b - 1) (by omega) bits hpos
      have hrest' := take_pad_rest b b (Nat.le_refl b) bits hpos
      generalize padTake (b - 1) bits = P at hsucc hplen hrest ⊢
      have hpow : 2 ^ b = 2 * 2 ^ (b - 1) := by
        rw [← hb1, Nat.pow_succ, hb1]; omega
      have hp2 : 2 ≤ 2 ^ (b - 1) := by
        calc 2 = 2 ^ 1 := rfl
          _ ≤ 2 ^ (b - 1) := Nat.pow_le_pow_right (by decide) (by omega)
      by_cases hall1 : P.all (· == true) = true
      · -- stuffed 1...10
        rw [if_pos hall1]
        obtain ⟨k', hk', h0, hrec⟩ := ih (bits.drop (b - 1)) (by simp; omega)
        have hpad := all_true_eq_replicate _ hall1
        rw [hplen] at hpad
        have hval : fromBits (P ++ [false]) = 2 ^ b - 2 := by rw [hpad]; exact fromBits_ones_zero b hb
        obtain ⟨k, hk, e⟩ := hrest k' hk' h0
        refine ⟨k, hk, fun h => absurd h hne, ?_⟩
        simp only [List.map_cons, hval]
        rw [unstuff_ones b hb _ _ hrec, ← hpad, ← e]
      · rw [if_neg hall1]
        have hall1' : P.all (· == true) = false := by simpa using hall1
        by_cases hall0 : P.all (· == false) = true
        · -- stuffed 0...01
          rw [if_pos hall0]
          obtain ⟨k', hk', h0, hrec⟩ := ih (bits.drop (b - 1)) (by simp; omega)
          have hpad := all_false_eq_replicate _ hall0
          rw [hplen] at hpad
          have hval : fromBits (P ++ [true]) = 1 := by
            rw [fromBits_append_single, hpad, fromBits_replicate_false]
            simp
          obtain ⟨k, hk, e⟩ := hrest k' hk' h0
          refine ⟨k, hk, fun h => absurd h hne, ?_⟩
          simp only [List.map_cons, hval]
          rw [unstuff_zeros b hb _ _ hrec, ← hpad, ← e]
        · -- an ordinary codeword: b-1 mixed bits and the next bit (or a pad 1)
          rw [if_neg hall0]
          have hall0' : P.all (· == false) = false := by simpa using hall0
          generalize ((bits.drop (b - 1)).head?).getD true = nxt at hsucc ⊢
          obtain ⟨k', hk', h0, hrec⟩ := ih (bits.drop b) (by simp; omega)
          have hlo := fromBits_pos_of_not_all_false _ hall0'
          have hhi := fromBits_lt_of_not_all_true _ hall1'
          rw [hplen] at hhi
          have hval := fromBits_append_single P nxt
          have hd1 : 2 ≤ fromBits (P ++ [nxt]) := by rw [hval]; omega
          have hd2 : fromBits (P ++ [nxt]) + 3 ≤ 2 ^ b := by
            rw [hval, hpow]; cases nxt <;> simp <;> omega
          have htb := toBits_fromBits (P ++ [nxt])
          rw [List.length_append, hplen, List.length_singleton, hb1] at htb
          obtain ⟨k, hk, e⟩ := hrest' k' hk' h0
          refine ⟨k, hk, fun h => absurd h hne, ?_⟩
          simp only [List.map_cons]
          rw [unstuff_plain b _ _ _ hd1 hd2 hrec, htb, hsucc, ← e]

end Gzx.AztecStuff
