/-
  Every pixel row of the BitMatrix `onedWriter_renderResult` returns (C14 model `Render.render1D`:
  the list of `SetRegion` calls) IS the one-row model `OneD.renderRow` the row-level read-back theorems talk about:
  `lq` white pixels, every module `s` pixels wide, `rq` white pixels.
-/
import Gzx.Properties.C14
import Gzx.Proofs.UpceanWrite
namespace Gzx.Image1DRender
open Gzx Gzx.Render Gzx.OneD

theorem getElem?_scaleRow (s : Nat) (hs : 0 < s) (code : List Bool) (i : Nat) :
    (scaleRow s code)[i]? = if i < code.length * s then code[i / s]? else none := by
  induction code generalizing i with
  | nil => simp [scaleRow]
  | cons b bs ih =>
    have e : scaleRow s (b :: bs) = List.replicate s b ++ scaleRow s bs := by simp [scaleRow]
    rw [e]
    by_cases hi : i < s
    · rw [List.getElem?_append_left (by simpa using hi)]
      have h0 : i / s = 0 := Nat.div_eq_of_lt hi
      have hlt : i < (b :: bs).length * s := by
        simp only [List.length_cons, Nat.add_mul, Nat.one_mul]; omega
      rw [if_pos hlt, h0]
      simp [hi]
    · rw [List.getElem?_append_right (by simpa using Nat.le_of_not_lt hi)]
      simp only [List.length_replicate]
      rw [ih (i - s)]
      have hd : i / s = (i - s) / s + 1 := by
        have : i = (i - s) + s := by omega
        conv => lhs; rw [this]
        rw [Nat.add_div_right _ hs]
      simp only [List.length_cons, Nat.add_mul, Nat.one_mul]
      by_cases hlt : i - s < bs.length * s
      · rw [if_pos hlt, if_pos (by omega), hd]; simp
      · rw [if_neg hlt, if_neg (by omega)]

theorem length_scaleRow (s : Nat) (code : List Bool) : (scaleRow s code).length = code.length * s := by
  induction code with
  | nil => simp [scaleRow]
  | cons b bs ih =>
    have e : scaleRow s (b :: bs) = List.replicate s b ++ scaleRow s bs := by simp [scaleRow]
    rw [e, List.length_append, ih]; simp [Nat.add_mul]; omega

theorem length_paddedRow (lq s rq : Nat) (code : List Bool) :
    (paddedRow lq s rq code).length = lq + code.length * s + rq := by
  simp [paddedRow, length_scaleRow]; omega

theorem getElem?_paddedRow (lq s rq : Nat) (hs : 0 < s) (code : List Bool) (x : Nat) :
    (paddedRow lq s rq code)[x]? =
      if x < lq then some false
      else if x < lq + code.length * s then code[(x - lq) / s]?
      else if x < lq + code.length * s + rq then some false else none := by
  unfold paddedRow
  by_cases h1 : x < lq
  · rw [List.append_assoc, List.getElem?_append_left (by simpa using h1), if_pos h1]
    simp [h1]
  · rw [if_neg h1]
    by_cases h2 : x < lq + code.length * s
    · rw [if_pos h2, List.getElem?_append_left (by simp [length_scaleRow]; omega),
        List.getElem?_append_right (by simp; omega)]
      simp only [List.length_replicate]
      rw [getElem?_scaleRow s hs, if_pos (by omega)]
    · rw [if_neg h2, List.getElem?_append_right (by simp [length_scaleRow]; omega)]
      simp only [List.length_append, List.length_replicate, length_scaleRow, List.getElem?_replicate]
      by_cases h3 : x < lq + code.length * s + rq
      · rw [if_pos h3, if_pos (by omega)]
      · rw [if_neg h3, if_neg (by omega)]

theorem bars_row (code : List Bool) (W H lq s : Nat) (hs : 1 ≤ s) (hH : 1 ≤ H) (hr : lq + code.length * s ≤ W)
    (y : Int) (hy0 : 0 ≤ y) (hyH : y < H) :
    Image.row ⟨(W : Int), (H : Int), barLoop (s : Int) (H : Int) (s : Int) code (lq : Int)⟩ y =
      paddedRow lq s (W - lq - code.length * s) code := by
  have hr' : (lq : Int) + (code.length : Int) * (s : Int) ≤ (W : Int) := by
    have : ((lq + code.length * s : Nat) : Int) ≤ (W : Int) := by exact_mod_cast hr
    simpa using this
  apply List.ext_getElem?
  intro x
  rw [row_getElem? _ y hy0 hyH x, getElem?_paddedRow lq s _ (by omega) code x]
  simp only [Int.toNat_natCast]
  by_cases hxW : x < W
  · rw [if_pos hxW]
    have hpx := bars_px code (W : Int) (H : Int) (lq : Int) (s : Int) (by omega) (by omega) (by omega) hr' (x : Int) y
    by_cases h1 : x < lq
    · rw [if_pos h1]
      congr 1
      cases hp : Image.px ⟨(W : Int), (H : Int), barLoop (s : Int) (H : Int) (s : Int) code (lq : Int)⟩ (x : Int) y with
      | false => rfl
      | true => have := (hpx.1 hp).1; omega
    · rw [if_neg h1]
      by_cases h2 : x < lq + code.length * s
      · rw [if_pos h2]
        have hidx : (((x : Int) - (lq : Int)) / (s : Int)).toNat = (x - lq) / s := by
          have : ((x : Int) - (lq : Int)) = ((x - lq : Nat) : Int) := by omega
          rw [this, ← Int.natCast_ediv, Int.toNat_natCast]
        rw [hidx] at hpx
        have hlt : (x - lq) / s < code.length := by
          rw [Nat.div_lt_iff_lt_mul (by omega)]; omega
        rw [List.getElem?_eq_getElem hlt] at hpx ⊢
        congr 1
        have h2' : (x : Int) < (lq : Int) + (code.length : Int) * (s : Int) := by
          have : ((x : Nat) : Int) < ((lq + code.length * s : Nat) : Int) := by exact_mod_cast h2
          simpa using this
        cases hc : code[(x - lq) / s] with
        | true =>
          rw [hc] at hpx
          exact hpx.2 ⟨by omega, h2', hy0, hyH, rfl⟩
        | false =>
          rw [hc] at hpx
          cases hp : Image.px ⟨(W : Int), (H : Int), barLoop (s : Int) (H : Int) (s : Int) code (lq : Int)⟩ (x : Int) y with
          | false => rfl
          | true => have := (hpx.1 hp).2.2.2.2; cases this
      · rw [if_neg h2, if_pos (by omega)]
        congr 1
        cases hp : Image.px ⟨(W : Int), (H : Int), barLoop (s : Int) (H : Int) (s : Int) code (lq : Int)⟩ (x : Int) y with
        | false => rfl
        | true =>
          have := (hpx.1 hp).2.1
          have h2' : ((lq + code.length * s : Nat) : Int) ≤ (x : Int) := by exact_mod_cast Nat.le_of_not_lt h2
          simp only [Int.natCast_add, Int.natCast_mul] at h2'
          omega
  · rw [if_neg hxW, if_neg (by omega), if_neg (by omega), if_neg (by omega)]

/-- the geometry `onedWriter_renderResult` guarantees for its pixel row: scale `s ≥ 1`, the margin (in modules, at
    that scale) shared between the two sides, left = ⌊(left+right)/2⌋ -/
structure Geom (margin width lq s rq : Nat) : Prop where
  scale : 1 ≤ s
  quiet : margin * s ≤ lq + rq
  centred : lq = (lq + rq) / 2
  le_width : s ≤ max 1 width

/-- requested width/height/margin are naturals: the writer front end refuses negative ones -/
theorem render1D_rows (code : List Bool) (hn : 1 ≤ code.length) (width height margin : Nat) :
    ∃ img lq s rq, render1D code (width : Int) (height : Int) (margin : Int) = .ok img ∧
      renderRow code width margin = .ok (paddedRow lq s rq code) ∧ Geom margin width lq s rq ∧
      img.w = ((lq + code.length * s + rq : Nat) : Int) ∧ img.h = ((max 1 height : Nat) : Int) ∧
      ∀ y : Int, 0 ≤ y → y < img.h → img.row y = paddedRow lq s rq code := by
  have hm : (0 : Int) ≤ (margin : Int) := by omega
  have heq := Properties.C14.render1D_eq code (width : Int) (height : Int) (margin : Int) hm hn
  generalize hW : max width (code.length + margin) = W
  generalize hS : W / (code.length + margin) = s
  have hWge : code.length + margin ≤ W := by rw [← hW]; exact Nat.le_max_right _ _
  have hfw : 0 < code.length + margin := by omega
  have hs1 : 1 ≤ s := by rw [← hS]; exact (Nat.le_div_iff_mul_le hfw).mpr (by omega)
  have hle : s * (code.length + margin) ≤ W := by rw [← hS]; exact Nat.div_mul_le_self _ _
  rw [Nat.mul_add] at hle
  have e1 : code.length * s = s * code.length := Nat.mul_comm _ _
  have e2 : margin * s = s * margin := Nat.mul_comm _ _
  have hsW : s ≤ max 1 width := by
    by_cases hc : width ≤ code.length + margin
    · have : W = code.length + margin := by rw [← hW]; omega
      rw [← hS, this, Nat.div_self hfw]; omega
    · have : W = width := by rw [← hW]; omega
      have h1 : s * 1 ≤ s * (code.length + margin) := Nat.mul_le_mul_left s hfw
      rw [Nat.mul_add] at h1; omega
  have eW : outSize (width : Int) code.length (margin : Int) = (W : Int) := by
    unfold outSize; rw [← hW]; omega
  have eS : axisScale (width : Int) code.length (margin : Int) = (s : Int) := by
    unfold axisScale; rw [eW, ← hS]
    have : ((code.length : Int) + (margin : Int)) = ((code.length + margin : Nat) : Int) := by omega
    rw [this, ← Int.natCast_ediv]
  have eP : padOf (W : Int) code.length (s : Int) = (((W - code.length * s) / 2 : Nat) : Int) := by
    unfold padOf
    have : (W : Int) - (code.length : Int) * (s : Int) = ((W - code.length * s : Nat) : Int) := by
      rw [Int.natCast_sub (by omega)]; simp
    rw [this]; omega
  have eH : max (1 : Int) (height : Int) = ((max 1 height : Nat) : Int) := by omega
  rw [eW, eS, eP, eH] at heq
  refine ⟨_, (W - code.length * s) / 2, s, W - (W - code.length * s) / 2 - code.length * s, heq, ?_,
    ⟨hs1, by omega, by omega, hsW⟩, ?_, rfl, ?_⟩
  · rw [renderRow_padded code width margin (by omega), hW, hS]
  · show (W : Int) = _
    congr 1; omega
  · intro y hy0 hyH
    simp only at hyH
    exact bars_row code W (max 1 height) ((W - code.length * s) / 2) s hs1 (by omega) (by omega) y hy0 hyH

end Gzx.Image1DRender
