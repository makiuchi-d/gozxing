/-
  The Data Matrix detector model (Gzx/Model/DetDM.lean) up to the sampling call is total: `transitionsBetween` ends
  within the Bresenham step count `max(|dx|,|dy|)` with a non-negative count, the corner corrections only call it, and
  the dimensions computed from the counts are even and at least 2.
-/
import Gzx.Proofs.DetWalk
import Gzx.Model.DetDM
namespace Gzx.Det.DM
open Gzx Gzx.Det

theorem transLoop_sat {rd : Reader} (hrd : Total rd) (steep : Bool) (toY dx dy xstep ystep : Int) :
    ∀ (n : Nat) (x y err : Int) (inBlack : Bool) (tr : Int), 0 ≤ tr →
      Sat NoFault (fun r => 0 ≤ r) (transLoop rd steep toY dx dy xstep ystep n x y err inBlack tr)
  | 0, _, _, _, _, _, h => Sat.ok h
  | n + 1, x, y, err, inBlack, tr, h => by
    unfold transLoop
    refine Sat.then (hrd.sat trivial) fun b => ?_
    have h' : 0 ≤ (if (b != inBlack) = true then tr + 1 else tr) := by split <;> omega
    have next := fun x y err => transLoop_sat hrd steep toY dx dy xstep ystep n x y err b _ h'
    exact Sat.ite (fun _ => Sat.ite (fun _ => Sat.ok h') fun _ => next _ _ _) fun _ => next _ _ _

/-- for any two points (inside or outside the image, any float values) -/
theorem transitionsBetween_sat {F : Type} (o : FOps F) {rd : Reader} (hrd : Total rd) (h : Int) (p q : FPt F) :
    Sat NoFault (fun r => 0 ≤ r) (transitionsBetween o rd h p q) := by
  unfold transitionsBetween
  simp only []
  split <;>
  · refine Sat.then (hrd.sat trivial) ?_
    intro b
    exact transLoop_sat hrd _ _ _ _ _ _ _ _ _ _ _ _ (Int.le_refl 0)

theorem transitionsBetween_true {F : Type} (o : FOps F) {rd : Reader} (hrd : Total rd) (h : Int) (p q : FPt F) :
    Sat NoFault (fun _ => True) (transitionsBetween o rd h p q) :=
  sat_true_of (transitionsBetween_sat o hrd h p q)

/-! The four straight-line functions that only call `transitionsBetween`.  From here on the callee is irreducible,
so that `sat_steps` leaves each call as a goal instead of looking for a bind inside it. -/

attribute [local irreducible] transitionsBetween

theorem detectSolid1_sat {F : Type} (o : FOps F) {rd : Reader} (hrd : Total rd) (h : Int) (cp : List (FPt F))
    (hlen : cp.length = 4) :
    Sat NoFault (fun _ => True) (detectSolid1 o rd h cp) := by
  unfold detectSolid1
  match cp, hlen with
  | [p0, p1, p2, p3], _ =>
    simp only []
    sat_steps
    all_goals exact transitionsBetween_true o hrd _ _ _

theorem detectSolid2_sat {F : Type} (o : FOps F) {rd : Reader} (hrd : Total rd) (h : Int) (p : Quad F) :
    Sat NoFault (fun _ => True) (detectSolid2 o rd h p) := by
  unfold detectSolid2
  simp only []
  sat_steps
  all_goals exact transitionsBetween_true o hrd _ _ _

theorem correctTopRight_sat {F : Type} (o : FOps F) {rd : Reader} (hrd : Total rd) (w h : Int) (p : Quad F) :
    Sat NoFault (fun _ => True) (correctTopRight o rd w h p) := by
  unfold correctTopRight
  simp only []
  sat_steps
  all_goals exact transitionsBetween_true o hrd _ _ _

theorem shiftToModuleCenter_sat {F : Type} (o : FOps F) {rd : Reader} (hrd : Total rd) (h : Int) (p : Quad F) :
    Sat NoFault (fun _ => True) (shiftToModuleCenter o rd h p) := by
  unfold shiftToModuleCenter
  simp only []
  sat_steps
  all_goals exact transitionsBetween_true o hrd _ _ _

/-- dimensions handed to `sampleGrid`: even and at least 2 -/
def GoodDims {F : Type} (l : Located F) : Prop :=
  2 ≤ l.dimensionTop ∧ 2 ≤ l.dimensionRight ∧ l.dimensionTop % 2 = 0 ∧ l.dimensionRight % 2 = 0

attribute [local irreducible] detectSolid1 detectSolid2 correctTopRight shiftToModuleCenter in
theorem locate_sat {F : Type} (o : FOps F) {rd : Reader} (hrd : Total rd) (w h : Int) (cp : List (FPt F))
    (hlen : cp.length = 4) :
    Sat OnlyNotFound GoodDims (locate o rd w h cp) := by
  unfold locate
  refine Sat.then (Sat.lift (detectSolid1_sat o hrd h cp hlen)) ?_
  intro p1
  refine Sat.then (Sat.lift (detectSolid2_sat o hrd h p1)) ?_
  intro p2
  refine Sat.then (Sat.lift (correctTopRight_sat o hrd w h p2)) ?_
  intro d
  cases d with
  | none => exact rfl
  | some d =>
    refine Sat.then (Sat.lift (shiftToModuleCenter_sat o hrd h _)) ?_
    intro p3
    refine Sat.bind (Sat.lift (transitionsBetween_sat o hrd h _ _)) ?_
    intro t1 ht1
    refine Sat.bind (Sat.lift (transitionsBetween_sat o hrd h _ _)) ?_
    intro t2 ht2
    simp only []
    -- a transition count plus one, rounded up to the next even number
    have even : ∀ t : Int, 0 ≤ t → ∀ A, A = (if (t + 1) % 2 = 1 then t + 1 + 1 else t + 1) → 2 ≤ A ∧ A % 2 = 0 :=
      fun t ht A hA => by rw [hA]; split <;> omega
    generalize hA : (if (t1 + 1) % 2 = 1 then _ else _) = A
    generalize hB : (if (t2 + 1) % 2 = 1 then _ else _) = B
    have e1 := even t1 ht1 A hA.symm
    have e2 := even t2 ht2 B hB.symm
    by_cases hc : 4 * A < 6 * B ∧ 4 * B < 6 * A
    · rw [if_pos hc]
      refine Sat.ok ?_
      by_cases hm : A > B
      · simp only [GoodDims, hm, if_true]; exact ⟨e1.1, e1.1, e1.2, e1.2⟩
      · simp only [GoodDims, hm, if_false]; exact ⟨e2.1, e2.1, e2.2, e2.2⟩
    · rw [if_neg hc]
      exact Sat.ok ⟨e1.1, e2.1, e1.2, e2.2⟩

end Gzx.Det.DM
