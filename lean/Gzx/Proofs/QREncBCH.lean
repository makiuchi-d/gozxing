/-
  wp `qrenc` — the coded BCH division (`calculateBCHCode` with `findMSBSet`) and the type / version
  information bit vectors equal the reference BCH(15,5) / BCH(18,6) words (finite domains, kernel evaluation).
-/
import Gzx.Model.QREncMatrix
namespace Gzx.QREnc
open Gzx Gzx.QRRef

theorem bch15_all : ∀ d ∈ List.range 32, calculateBCHCode d typeInfoPoly = .ok (bch15 d) := by decide +kernel

theorem bch18_all : ∀ v ∈ List.range 64, calculateBCHCode v versionInfoPoly = .ok (bch18 v) := by decide +kernel

theorem typeInfoBits_all : ∀ ec ∈ EC.all, ∀ k ∈ List.range 8,
    makeTypeInfoBits ec ((k : Nat) : Int) = .ok (toBitsBE 15 (formatWord ec k)) := by decide +kernel

theorem versionInfoBits_all : ∀ v ∈ List.range 34,
    makeVersionInfoBits (v + 7) = .ok (toBitsBE 18 (versionWord (v + 7))) := by decide +kernel

theorem typeInfoBits_invalid (ec : EC) (k : Int) (h : k < 0 ∨ 8 ≤ k) : makeTypeInfoBits ec k = .error .writer := by
  unfold makeTypeInfoBits isValidMaskPattern
  have : (decide (k ≥ 0) && decide (k < 8)) = false := by
    rcases h with h | h
    · have : ¬ k ≥ 0 := by omega
      simp [this]
    · have : ¬ k < 8 := by omega
      simp [this]
  simp [this, bind, Except.bind]

theorem findMSBSet_examples : findMSBSet 0 = 0 ∧ findMSBSet 1 = 1 ∧ findMSBSet 255 = 8 ∧ findMSBSet 0x1f25 = 13 := by
  decide

end Gzx.QREnc
