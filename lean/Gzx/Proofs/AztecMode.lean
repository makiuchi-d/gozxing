/-
  C11 mode message lemmas: the integer tail of the detector (getRotation, parameterData) applied to
  an ideal sampling of the reference core ring recovers the orientation and the mode message bits,
  for every mode message and all four rotations.  A side of the ring is read as the number
  `fromBits (marks ++ message bits ++ [mark])`, so shifting and masking it are division and
  remainder by powers of two (`fromBits_append_div`, `fromBits_append_mod`).
  Also here: the 4-bit words `getCorrectedParameterData` cuts (`paramWords`).
-/
import Gzx.Proofs.AztecStuff
import Gzx.Proofs.AztecLink
namespace Gzx.AztecMode
open Gzx Gzx.AztecDecoder Gzx.Ref.Aztec Gzx.AztecLink Gzx.AztecStuff

/-! ### the detector's per-side extractions -/

/-- the three orientation bits of a side `XX......X` -/
def tOf (len side : Nat) : Nat := ((side >>> (len - 2)) <<< 1) + (side &&& 1)

def msgOf (compact : Bool) (side : Nat) : Nat :=
  if compact then (side >>> 1) &&& 0x7F
  else ((side >>> 2) &&& (0x1f <<< 5)) + ((side >>> 1) &&& 0x1F)

/-- `getRotation` on the orientation bits: the body of the model's `getRotation` after its per-side extraction
    (`getRotation_eq`, by `rfl`) -/
def rotOfT (expected : List Nat) (ts : List Nat) : Res Nat :=
  let cornerBits := ts.foldl (fun cb t => (cb <<< 3) + t) 0
  let cornerBits := ((cornerBits &&& 1) <<< 11) + (cornerBits >>> 1)
  let popcount (n : Nat) : Nat := ((List.range 16).filter (fun i => n.testBit i)).length
  match (List.range 4).find? (fun shift =>
      match expected[shift]? with
      | some e => popcount ((cornerBits ^^^ e) % 65536) ≤ 2
      | none => false) with
  | some s => .ok s
  | none => .error .notFound

theorem getRotation_eq (E sides : List Nat) (len : Nat) :
    getRotation E sides len = rotOfT E (sides.map (tOf len)) := by
  simp only [getRotation, rotOfT, List.foldl_map, tOf]
  rfl

theorem parameterData_eq (compact : Bool) (sides : List Nat) (shift : Nat) :
    parameterData compact sides shift =
      (List.range 4).foldl (fun pd i =>
        (pd <<< (if compact then 7 else 10)) + msgOf compact (sides.getD ((shift + i) % 4) 0)) 0 := by
  cases compact <;> rfl

theorem and_shiftLeft (x m k : Nat) : x &&& (m <<< k) = ((x >>> k) &&& m) <<< k := by
  apply Nat.eq_of_testBit_eq
  intro i
  simp only [Nat.testBit_and, Nat.testBit_shiftLeft, Nat.testBit_shiftRight]
  by_cases h : k ≤ i
  · simp [h, Nat.add_sub_cancel' h]
  · simp [h]

/-- a side `o ++ body ++ [z]` of `n` modules: the detector's three orientation bits are `o ++ [z]` -/
theorem tOf_side (o body : List Bool) (z : Bool) (n : Nat) (hn : n = body.length + 3) :
    tOf n (fromBits (o ++ (body ++ [z]))) = fromBits (o ++ [z]) := by
  have h1 : n - 2 = (body ++ [z]).length := by simp [hn]
  have h2 := fromBits_append_mod (o ++ body) [z]
  rw [List.append_assoc] at h2
  rw [tOf, h1, Nat.shiftRight_eq_div_pow, fromBits_append_div, Nat.and_one_is_mod, Nat.shiftLeft_eq,
    fromBits_append o [z]]
  exact congrArg _ h2

/-- compact side `o1 o2 m0..m6 z`: the detector extracts the 7 message bits -/
theorem msgOf_compact (o m : List Bool) (z : Bool) (hm : m.length = 7) :
    msgOf true (fromBits (o ++ (m ++ [z]))) = fromBits m := by
  have h1 := fromBits_append_div (o ++ m) [z]
  have h2 := fromBits_append_mod o m
  rw [List.append_assoc] at h1
  rw [hm] at h2
  simp only [msgOf, if_true, Nat.shiftRight_eq_div_pow]
  rw [Nat.and_two_pow_sub_one_eq_mod _ 7]
  exact h1 ▸ h2

/-- full-range side `o1 o2 a0..a4 g b0..b4 z` (g = reference grid module): the detector extracts the
    10 message bits `a ++ b` -/
theorem msgOf_full (o a b : List Bool) (g z : Bool) (ha : a.length = 5) (hb : b.length = 5) :
    msgOf false (fromBits (o ++ ((a ++ g :: b) ++ [z]))) = fromBits (a ++ b) := by
  have h1 := fromBits_append_div (o ++ (a ++ g :: b)) [z]
  have h2 := fromBits_append_mod (o ++ (a ++ [g])) b
  have h3 := fromBits_append_div (o ++ a) (g :: (b ++ [z]))
  have h4 := fromBits_append_mod o a
  simp only [List.append_assoc, List.cons_append, List.nil_append, List.length_cons, List.length_append,
    List.length_nil, ha, hb] at h1 h2 h3 h4
  have and31 (n : Nat) : n &&& 0x1F = n % 2 ^ 5 := Nat.and_two_pow_sub_one_eq_mod n 5
  simp only [msgOf, Bool.false_eq_true, if_false, and_shiftLeft, List.append_assoc, List.cons_append,
    and31, Nat.shiftRight_eq_div_pow, Nat.div_div_eq_div_mul, ← Nat.pow_add]
  rw [h3, h4, h1, h2, fromBits_append, hb, Nat.shiftLeft_eq]

theorem exists_map_range (l : List Bool) (n : Nat) (h : l.length = n) :
    ∃ f : Nat → Bool, l = (List.range n).map f :=
  ⟨fun i => l.getD i false, by
    subst h
    apply List.ext_getElem
    · simp
    · intro i h1 _
      simp [List.getElem?_eq_getElem h1]⟩

/-- the ring of a compact symbol, clockwise from the top-left corner: per side two orientation marks,
    7 mode message bits, one orientation mark -/
theorem sides_compact (f : Nat → Bool) :
    uprightSides true ((List.range 28).map f) =
      [fromBits ([true, true] ++ ((List.range' 0 7).map f ++ [false])),
       fromBits ([true, true] ++ ((List.range' 7 7).map f ++ [true])),
       fromBits ([false, false] ++ ((List.range' 14 7).map f ++ [false])),
       fromBits ([false, false] ++ ((List.range' 21 7).map f ++ [true]))] := by
  rfl

/-- the ring of a full-range symbol: per side 5 + 5 mode message bits around the (light) reference
    grid module -/
theorem sides_full (f : Nat → Bool) :
    uprightSides false ((List.range 40).map f) =
      [fromBits ([true, true] ++ (((List.range' 0 5).map f ++ false :: (List.range' 5 5).map f) ++ [false])),
       fromBits ([true, true] ++ (((List.range' 10 5).map f ++ false :: (List.range' 15 5).map f) ++ [true])),
       fromBits ([false, false] ++ (((List.range' 20 5).map f ++ false :: (List.range' 25 5).map f) ++ [false])),
       fromBits ([false, false] ++ (((List.range' 30 5).map f ++ false :: (List.range' 35 5).map f) ++ [true]))] := by
  rfl

/-- what the detector needs of the four upright sides: their orientation bits are the standard's
    marks (110, 111, 000, 001 clockwise from the top-left corner) and their message bits,
    concatenated, are the mode message -/
theorem rotation_params_of_sides (compact : Bool) (mm : List Bool) (len u0 u1 u2 u3 : Nat)
    (hup : uprightSides compact mm = [u0, u1, u2, u3])
    (ht0 : tOf len u0 = 6) (ht1 : tOf len u1 = 7) (ht2 : tOf len u2 = 0) (ht3 : tOf len u3 = 1)
    (hm : [msgOf compact u0, msgOf compact u1, msgOf compact u2, msgOf compact u3].foldl
        (fun pd v => (pd <<< (if compact then 7 else 10)) + v) 0 = fromBits mm)
    (s : Nat) (hs : s < 4) :
    getRotation refExpectedCornerBits (sidesAt compact mm s) len = .ok s ∧
    parameterData compact (sidesAt compact mm s) s = fromBits mm := by
  have hcases : s = 0 ∨ s = 1 ∨ s = 2 ∨ s = 3 := by omega
  rw [getRotation_eq, parameterData_eq, sidesAt, hup, ← hm]
  rcases hcases with rfl | rfl | rfl | rfl
  all_goals
    simp only [List.range, List.range.loop, List.map, List.foldl, List.getD_cons_zero,
      List.getD_cons_succ, Nat.reduceAdd, Nat.reduceSub, Nat.reduceMod, Nat.zero_add, ht0, ht1, ht2, ht3,
      and_true]
    -- the marks 6, 7, 0, 1 rotated by `s`, packed as `getRotation` packs them, are within two bits of
    -- `refExpectedCornerBits[s]` and of no earlier entry
    decide

/-- orientation and the 28 / 40 mode message bits are recovered from the reference core, for every
    mode message and each of the four rotations -/
theorem rotation_params (compact : Bool) (mm : List Bool)
    (h : mm.length = if compact then 28 else 40) (s : Nat) (hs : s < 4) :
    getRotation refExpectedCornerBits (sidesAt compact mm s) (if compact then 10 else 14) = .ok s ∧
    parameterData compact (sidesAt compact mm s) s = fromBits mm := by
  -- the ring is read off `mm` by evaluation (`sides_full`, `sides_compact`), which needs `mm` as an explicit list
  cases compact
  · obtain ⟨f, rfl⟩ := exists_map_range mm 40 h
    refine rotation_params_of_sides false _ 14 _ _ _ _ (sides_full f) (tOf_side _ _ _ _ rfl)
      (tOf_side _ _ _ _ rfl) (tOf_side _ _ _ _ rfl) (tOf_side _ _ _ _ rfl) ?_ s hs
    rw [msgOf_full _ _ _ _ _ rfl rfl, msgOf_full _ _ _ _ _ rfl rfl, msgOf_full _ _ _ _ _ rfl rfl,
      msgOf_full _ _ _ _ _ rfl rfl]
    exact fromBits_chunks 10 [_, _, _, _] (by simp)
  · obtain ⟨f, rfl⟩ := exists_map_range mm 28 h
    refine rotation_params_of_sides true _ 10 _ _ _ _ (sides_compact f) (tOf_side _ _ _ _ rfl)
      (tOf_side _ _ _ _ rfl) (tOf_side _ _ _ _ rfl) (tOf_side _ _ _ _ rfl) ?_ s hs
    rw [msgOf_compact _ _ _ rfl, msgOf_compact _ _ _ rfl, msgOf_compact _ _ _ rfl,
      msgOf_compact _ _ _ rfl]
    exact fromBits_chunks 7 [_, _, _, _] (by simp)

/-! ### the mode message fields -/

/-- the 4-bit words `getCorrectedParameterData` cuts the parameter word into: the list the model's
    `correctedParameters` builds (`correctedParameters_eq`), i.e. `digits16 (7 | 10) pd` (`paramWords_eq`) -/
def paramWords (compact : Bool) (pd : Nat) : List Nat :=
  let n := if compact then 7 else 10
  (List.range n).map (fun i => (pd >>> (4 * (n - 1 - i))) &&& 0xF)

theorem correctedParameters_eq (rs : RSDecoder) (compact : Bool) (pd : Nat) :
    correctedParameters rs compact pd =
      (match rs 4 (paramWords compact pd) (if compact then 5 else 6) with
       | .error _ => .error .notFound
       | .ok ws =>
         let r := (ws.take (if compact then 2 else 4)).foldl (fun r w => (r <<< 4) + w) 0
         if compact then .ok ((r >>> 6) + 1, (r &&& 0x3F) + 1)
         else .ok ((r >>> 11) + 1, (r &&& 0x7FF) + 1)) := by
  cases compact <;> rfl

theorem and15 (n : Nat) : n &&& 0xF = n % 16 := Nat.and_two_pow_sub_one_eq_mod n 4

/-- `n` 4-bit words of `pd`, most significant first -/
def digits16 (n pd : Nat) : List Nat := (List.range n).map (fun i => (pd >>> (4 * (n - 1 - i))) &&& 0xF)

theorem paramWords_eq (compact : Bool) (pd : Nat) :
    paramWords compact pd = digits16 (if compact then 7 else 10) pd := rfl

theorem digits16_lt (n pd : Nat) : ∀ x ∈ digits16 n pd, x < 2 ^ 4 := by
  intro x hx
  unfold digits16 at hx
  obtain ⟨i, _, rfl⟩ := List.mem_map.1 hx
  rw [and15]
  omega

end Gzx.AztecMode
