/-
  Helper lemmas for C14: what the rendering loops emit, and the pixel formula of a regular grid of
  `s x s` blocks.  Core Lean only (Nat/Int division lemmas + omega).
-/
import Gzx.Model.Render
namespace Gzx.Render

/-! ## the loops emit exactly one call per dark module -/

/-- the output position after one more step of a loop -/
theorem shift (ox step : Int) (j : Nat) : ox + step + (j : Int) * step = ox + ((j + 1 : Nat) : Int) * step := by
  rw [Int.natCast_add, Int.add_mul]; simp; omega

theorem mem_colLoop (get : Nat → Bool) (top cw ch step : Int) (r : Rect) :
    ∀ (k ix : Nat) (ox : Int), r ∈ colLoop get top cw ch step k ix ox ↔
      ∃ j : Nat, j < k ∧ get (ix + j) = true ∧ r = ⟨ox + (j : Int) * step, top, cw, ch⟩
  | 0, _, _ => by simp [colLoop]
  | k + 1, ix, ox => by
    simp only [colLoop, List.mem_append, mem_colLoop get top cw ch step r k, Nat.exists_lt_succ_left, shift,
      Nat.add_assoc, Nat.add_comm 1]
    cases get ix <;> simp

theorem mem_rowLoop (get : Nat → Nat → Bool) (mw : Nat) (left cw ch step : Int) (r : Rect) :
    ∀ (k iy : Nat) (oy : Int), r ∈ rowLoop get mw left cw ch step k iy oy ↔
      ∃ j : Nat, j < k ∧ ∃ i : Nat, i < mw ∧ get i (iy + j) = true ∧
        r = ⟨left + (i : Int) * step, oy + (j : Int) * step, cw, ch⟩
  | 0, _, _ => by simp [rowLoop]
  | k + 1, iy, oy => by
    simp only [rowLoop, List.mem_append, mem_rowLoop get mw left cw ch step r k, mem_colLoop,
      Nat.exists_lt_succ_left, shift, Nat.add_assoc, Nat.add_comm 1]
    simp

theorem mem_barLoop (cw ch step : Int) (r : Rect) :
    ∀ (code : List Bool) (ox : Int), r ∈ barLoop cw ch step code ox ↔
      ∃ j : Nat, code[j]? = some true ∧ r = ⟨ox + (j : Int) * step, 0, cw, ch⟩
  | [], _ => by simp [barLoop]
  | b :: bs, ox => by
    simp only [barLoop, List.mem_append, mem_barLoop cw ch step r bs, shift]
    constructor
    · rintro (h | ⟨j, hg, hr⟩)
      · cases b <;> simp at h
        exact ⟨0, by simp, by simp [h]⟩
      · exact ⟨j + 1, by simpa using hg, hr⟩
    · rintro ⟨_ | j, hg, hr⟩
      · left; simp at hg hr; simp [hg, hr]
      · exact Or.inr ⟨j, by simpa using hg, hr⟩

/-! ## blocks along one axis: block `i` of size `s` covers the offsets `i·s ≤ d < i·s + s` -/

theorem block_index (s d : Int) (i : Nat) (hs : 0 < s) (hd : 0 ≤ d) :
    ((i : Int) * s ≤ d ∧ d < (i : Int) * s + s) ↔ (d / s).toNat = i := by
  have hq : 0 ≤ d / s := Int.ediv_nonneg hd (Int.le_of_lt hs)
  constructor
  · rintro ⟨h1, h2⟩
    have a : (i : Int) ≤ d / s := (Int.le_ediv_iff_mul_le hs).2 h1
    have b : d / s < (i : Int) + 1 := (Int.ediv_lt_iff_lt_mul hs).2 (by rw [Int.add_mul]; omega)
    omega
  · intro h
    have hi : (i : Int) = d / s := by omega
    rw [hi]
    have a := Int.ediv_mul_le d (Int.ne_of_gt hs)
    have b := Int.lt_ediv_add_one_mul_self d hs
    rw [Int.add_mul] at b
    omega

theorem block_lt (s d : Int) (n : Nat) (hs : 0 < s) :
    d < (n : Int) * s ↔ d / s < (n : Int) := (Int.ediv_lt_iff_lt_mul hs).symm

/-- block `i < n` starts at a non-negative offset and ends within `n` blocks -/
theorem block_bounds (s : Int) (i n : Nat) (hs : 0 ≤ s) (hi : i < n) :
    0 ≤ (i : Int) * s ∧ (i : Int) * s + s ≤ (n : Int) * s := by
  have e : ((i : Int) + 1) * s ≤ (n : Int) * s := Int.mul_le_mul_of_nonneg_right (by omega) hs
  rw [Int.add_mul, Int.one_mul] at e
  exact ⟨Int.mul_nonneg (by omega) hs, e⟩

theorem block_range (s k : Int) (a b : Nat) (hs : 0 < s) (h1 : (a : Int) * s ≤ k) (h2 : k < (b : Int) * s) :
    a ≤ (k / s).toNat ∧ (k / s).toNat < b := by
  have c1 : (a : Int) ≤ k / s := (Int.le_ediv_iff_mul_le hs).2 h1
  have c2 : k / s < (b : Int) := (block_lt s k b hs).1 h2
  omega

theorem block_of (s d : Int) (n : Nat) (hs : 0 < s) (hd : 0 ≤ d) (hn : d < (n : Int) * s) :
    (d / s).toNat < n ∧ ((d / s).toNat : Int) * s ≤ d ∧ d < ((d / s).toNat : Int) * s + s :=
  ⟨(block_range s d 0 n hs (by omega) hn).2, (block_index s d _ hs hd).2 rfl⟩

/-- pixel `d` of block `i` (counted from `pad`) has block index `i` -/
theorem block_index_add (s pad d : Int) (i : Nat) (hs : 0 < s) (hd : 0 ≤ d ∧ d < s) :
    ((pad + (i : Int) * s + d - pad) / s).toNat = i := by
  have := Int.mul_nonneg (Int.natCast_nonneg i) (Int.le_of_lt hs)
  exact (block_index s _ i hs (by omega)).1 ⟨by omega, by omega⟩

/-- a pixel that obeys the pixel formula of a grid and lies at `(dx, dy)` in block `(i, j)` has the colour of
    module `(i, j)` -/
theorem block_px {mw mh : Nat} {m : Nat → Nat → Bool} {s padX padY : Int} {p : Bool} (hs : 1 ≤ s)
    {i j : Nat} (hi : i < mw) (hj : j < mh) {dx dy : Int} (hdx : 0 ≤ dx ∧ dx < s) (hdy : 0 ≤ dy ∧ dy < s)
    (hp : p = true ↔
      (padX ≤ padX + (i : Int) * s + dx ∧ padX + (i : Int) * s + dx < padX + (mw : Int) * s ∧
        padY ≤ padY + (j : Int) * s + dy ∧ padY + (j : Int) * s + dy < padY + (mh : Int) * s ∧
        m ((padX + (i : Int) * s + dx - padX) / s).toNat ((padY + (j : Int) * s + dy - padY) / s).toNat = true)) :
    p = m i j := by
  obtain ⟨ni, ei⟩ := block_bounds s i mw (by omega) hi
  obtain ⟨nj, ej⟩ := block_bounds s j mh (by omega) hj
  rw [block_index_add s padX dx i (by omega) hdx, block_index_add s padY dy j (by omega) hdy] at hp
  exact Bool.eq_iff_iff.mpr (hp.trans ⟨fun h => h.2.2.2.2, fun h => ⟨by omega, by omega, by omega, by omega, h⟩⟩)

/-! ## pixel formula of a regular grid -/

/-- A grid of `s x s` blocks drawn by `rowLoop` at `(left, top)` that fits into the `W x H` matrix:
    a pixel is black iff it lies in the symbol area and its block's module is dark. -/
theorem grid_px (mw mh : Nat) (m : Nat → Nat → Bool) (W H left top s : Int)
    (hs : 1 ≤ s) (hl : 0 ≤ left) (ht : 0 ≤ top)
    (hr : left + (mw : Int) * s ≤ W) (hb : top + (mh : Int) * s ≤ H) (x y : Int) :
    (Image.px ⟨W, H, rowLoop m mw left s s s mh 0 top⟩ x y = true) ↔
      (left ≤ x ∧ x < left + (mw : Int) * s ∧ top ≤ y ∧ y < top + (mh : Int) * s ∧
        m ((x - left) / s).toNat ((y - top) / s).toNat = true) := by
  have hs0 : 0 < s := by omega
  unfold Image.px
  simp only [Bool.and_eq_true, decide_eq_true_eq, List.any_eq_true, mem_rowLoop, Rect.accepted, Rect.covers,
    Bool.not_eq_true', Bool.or_eq_false_iff, decide_eq_false_iff_not]
  constructor
  · rintro ⟨-, r, ⟨j, hj, i, hi, hg, rfl⟩, -, hc⟩
    dsimp only at hc
    obtain ⟨ni, ei⟩ := block_bounds s i mw (by omega) hi
    obtain ⟨nj, ej⟩ := block_bounds s j mh (by omega) hj
    rw [(block_index s (x - left) i hs0 (by omega)).1 ⟨by omega, by omega⟩,
      (block_index s (y - top) j hs0 (by omega)).1 ⟨by omega, by omega⟩]
    exact ⟨by omega, by omega, by omega, by omega, by simpa using hg⟩
  · rintro ⟨h1, h2, h3, h4, hm⟩
    obtain ⟨li, bi1, bi2⟩ := block_of s (x - left) mw hs0 (by omega) (by omega)
    obtain ⟨lj, bj1, bj2⟩ := block_of s (y - top) mh hs0 (by omega) (by omega)
    obtain ⟨ni, ei⟩ := block_bounds s _ mw (by omega) li
    obtain ⟨nj, ej⟩ := block_bounds s _ mh (by omega) lj
    refine ⟨⟨⟨⟨by omega, by omega⟩, by omega⟩, by omega⟩, _, ⟨_, lj, _, li, by simpa using hm, rfl⟩, ?_⟩
    dsimp only
    omega

/-- 1-D: bars of width `s` and full height drawn by `barLoop` at `left` that fit into the matrix -/
theorem bars_px (code : List Bool) (W H left s : Int)
    (hs : 1 ≤ s) (hl : 0 ≤ left) (hH : 1 ≤ H)
    (hr : left + (code.length : Int) * s ≤ W) (x y : Int) :
    (Image.px ⟨W, H, barLoop s H s code left⟩ x y = true) ↔
      (left ≤ x ∧ x < left + (code.length : Int) * s ∧ 0 ≤ y ∧ y < H ∧
        code[((x - left) / s).toNat]? = some true) := by
  have hs0 : 0 < s := by omega
  unfold Image.px
  simp only [Bool.and_eq_true, decide_eq_true_eq, List.any_eq_true, mem_barLoop, Rect.accepted, Rect.covers,
    Bool.not_eq_true', Bool.or_eq_false_iff, decide_eq_false_iff_not]
  constructor
  · rintro ⟨⟨-, hy0⟩, r, ⟨i, hg, rfl⟩, -, hc⟩
    dsimp only at hc
    obtain ⟨ni, ei⟩ := block_bounds s i code.length (by omega) (List.getElem?_eq_some_iff.mp hg).1
    rw [(block_index s (x - left) i hs0 (by omega)).1 ⟨by omega, by omega⟩]
    exact ⟨by omega, by omega, by omega, by omega, hg⟩
  · rintro ⟨h1, h2, h3, h4, hm⟩
    obtain ⟨li, bi1, bi2⟩ := block_of s (x - left) code.length hs0 (by omega) (by omega)
    obtain ⟨ni, ei⟩ := block_bounds s _ code.length (by omega) li
    refine ⟨⟨⟨⟨by omega, by omega⟩, by omega⟩, by omega⟩, _, ⟨_, hm, rfl⟩, ?_⟩
    dsimp only
    omega

/-! ## the band-wise row evaluation used by the driver is `px` -/

theorem row_getElem? (img : Image) (y : Int) (hy0 : 0 ≤ y) (hyH : y < img.h) (x : Nat) :
    (img.row y)[x]? = if x < img.w.toNat then some (img.px (x : Int) y) else none := by
  unfold Image.row Image.px
  simp only [List.getElem?_map]
  by_cases hx : x < img.w.toNat
  · rw [List.getElem?_range hx]
    simp only [hx, if_true, Option.map_some, Option.some.injEq]
    have h1 : (0 : Int) ≤ (x : Int) := by omega
    have h2 : (x : Int) < img.w := by omega
    simp only [h1, h2, hy0, hyH, decide_true, Bool.true_and, List.any_filter, Rect.covers]
    congr 1
    funext r
    cases r.accepted img.w img.h <;> cases decide (r.t ≤ y) <;> cases decide (y < r.t + r.h) <;> simp
  · simp only [hx, if_false]
    rw [List.getElem?_eq_none (by simpa using hx)]
    rfl

/-! ## the quantities of the property statement -/

def outSize (req : Int) (n : Nat) (Q : Int) : Int := max req ((n : Int) + Q)
def axisScale (req : Int) (n : Nat) (Q : Int) : Int := outSize req n Q / ((n : Int) + Q)
def padOf (out : Int) (n : Nat) (s : Int) : Int := (out - (n : Int) * s) / 2

/-! ## arithmetic facts shared by the three renderers -/

theorem axis_facts (req : Int) (n : Nat) (Q : Int) (hn : 1 ≤ n) (hQ : 0 ≤ Q) :
    1 ≤ axisScale req n Q ∧ axisScale req n Q * ((n : Int) + Q) ≤ outSize req n Q ∧
    outSize req n Q < (axisScale req n Q + 1) * ((n : Int) + Q) := by
  have hA : 0 < (n : Int) + Q := by omega
  have hge : (n : Int) + Q ≤ outSize req n Q := by unfold outSize; omega
  refine ⟨?_, Int.ediv_mul_le _ (by omega), Int.lt_ediv_add_one_mul_self _ hA⟩
  unfold axisScale
  exact (Int.le_ediv_iff_mul_le hA).2 (by omega)

/-- a scale `s` between 1 and the axis scale leaves at least `Q·s` white pixels, split evenly -/
theorem pad_facts (out : Int) (n : Nat) (Q s a : Int) (hQ : 0 ≤ Q)
    (h1 : 1 ≤ s) (hsa : s ≤ a) (ha : a * ((n : Int) + Q) ≤ out) :
    0 ≤ (n : Int) * s ∧ 0 ≤ Q * s ∧ (n : Int) * s + Q * s ≤ out := by
  have h0 : 0 ≤ (n : Int) + Q := by omega
  have e : s * ((n : Int) + Q) ≤ a * ((n : Int) + Q) := Int.mul_le_mul_of_nonneg_right hsa h0
  rw [Int.mul_add, Int.mul_comm s n, Int.mul_comm s Q] at e
  exact ⟨Int.mul_nonneg (by omega) (by omega), Int.mul_nonneg hQ (by omega), by omega⟩

theorem le_outSize (req : Int) (n : Nat) (Q : Int) : (n : Int) + Q ≤ outSize req n Q := by
  unfold outSize; omega

theorem goDiv_outSize (req : Int) (n : Nat) (Q : Int) (hn : 1 ≤ n) (hQ : 0 ≤ Q) :
    goDiv (outSize req n Q) ((n : Int) + Q) = .ok (axisScale req n Q) := by
  have := le_outSize req n Q
  unfold goDiv axisScale
  rw [if_neg (by omega), Int.tdiv_eq_ediv_of_nonneg (by omega)]

theorem tdiv_two_padOf (out : Int) (n : Nat) (s : Int) (h : (n : Int) * s ≤ out) :
    (out - (n : Int) * s).tdiv 2 = padOf out n s := Int.tdiv_eq_ediv_of_nonneg (by omega)

/-- centring: the leftover `out − ns` is split evenly, the odd pixel going to the far side; when `2m` fits
    beside the symbol each side keeps `m` -/
theorem pad_split (out : Int) (n : Nat) (s m : Int) (h : (n : Int) * s + 2 * m ≤ out) :
    m ≤ padOf out n s ∧ m ≤ out - (padOf out n s + (n : Int) * s) ∧
    padOf out n s ≤ out - (padOf out n s + (n : Int) * s) ∧
    out - (padOf out n s + (n : Int) * s) ≤ padOf out n s + 1 := by
  unfold padOf; omega

/-- centre sampling follows from the pixel formula (shared by QR and Data Matrix) -/
theorem centres_of_pixel (mw mh : Nat) (m : Nat → Nat → Bool) (img : Image) (s padX padY : Int)
    (hs1 : 1 ≤ s)
    (hpx : ∀ x y : Int, img.px x y = true ↔
        (padX ≤ x ∧ x < padX + (mw : Int) * s ∧ padY ≤ y ∧ y < padY + (mh : Int) * s ∧
          m ((x - padX) / s).toNat ((y - padY) / s).toNat = true)) :
    ∀ i j : Nat, i < mw → j < mh →
      img.px (padX + (i : Int) * s + s / 2) (padY + (j : Int) * s + s / 2) = m i j := by
  intro i j hi hj
  exact block_px hs1 hi hj ⟨by omega, by omega⟩ ⟨by omega, by omega⟩ (hpx _ _)

end Gzx.Render
