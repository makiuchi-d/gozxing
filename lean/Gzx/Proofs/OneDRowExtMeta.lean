/-
  What the metadata of a whole-row result says: lookups after `PutMetadata` / `PutAllMetadata`, and the
  ALLOWED_EAN_EXTENSIONS rule on the observable result.
-/
import Gzx.Proofs.OneDRowExtTotal
namespace Gzx.Proofs.OneDRowExtTotal
open Gzx Gzx.CheckDigit Gzx.Det Gzx.OneDRowExt
open Gzx.OneD (Tables notFoundOf)

/-- `metadata[k]` -/
def mget : Meta → MetaKey → Option MetaVal
  | [], _ => none
  | p :: ps, k => if p.1 = k then some p.2 else mget ps k

theorem mget_map_put (k : MetaKey) (v : MetaVal) (k' : MetaKey) : ∀ (m : Meta),
    mget (m.map (fun p => if p.1 = k then (k, v) else p)) k' =
      if k' = k then (mget m k).map (fun _ => v) else mget m k'
  | [] => by simp [mget]
  | p :: ps => by
    have ih := mget_map_put k v k' ps
    by_cases hpk : p.1 = k <;> by_cases hk : k' = k
    · subst hk; simp [mget, hpk]
    · have h1 : ¬ k = k' := fun h => hk h.symm
      simp [mget, hpk, hk, h1, ih]
    · subst hk; simp [mget, hpk, ih]
    · simp [mget, hpk, hk, ih]

theorem mget_isSome_of_any (k : MetaKey) : ∀ (m : Meta), m.any (·.1 = k) = true → ∃ x, mget m k = some x
  | [], h => by simp at h
  | p :: ps, h => by
    by_cases hp : p.1 = k
    · exact ⟨p.2, by simp [mget, hp]⟩
    · have : ps.any (·.1 = k) = true := by
        simp only [List.any_cons, Bool.or_eq_true, decide_eq_true_eq] at h
        rcases h with h | h
        · exact absurd h hp
        · simpa using h
      obtain ⟨x, hx⟩ := mget_isSome_of_any k ps this
      exact ⟨x, by simp [mget, hp, hx]⟩

theorem mget_none_of_not_any (k : MetaKey) : ∀ (m : Meta), ¬ m.any (·.1 = k) = true → mget m k = none
  | [], _ => rfl
  | p :: ps, h => by
    simp only [List.any_cons, Bool.or_eq_true, decide_eq_true_eq, not_or] at h
    have := mget_none_of_not_any k ps (by simpa using h.2)
    simp [mget, h.1, this]

theorem mget_append_single (k : MetaKey) (v : MetaVal) (k' : MetaKey) : ∀ (m : Meta),
    mget (m ++ [(k, v)]) k' = match mget m k' with
      | some x => some x
      | none => if k = k' then some v else none
  | [] => by simp [mget]
  | p :: ps => by
    have ih := mget_append_single k v k' ps
    by_cases hp : p.1 = k'
    · simp [mget, hp]
    · simp [mget, hp, ih]

theorem mget_put (m : Meta) (k : MetaKey) (v : MetaVal) (k' : MetaKey) :
    mget (m.put k v) k' = if k' = k then some v else mget m k' := by
  unfold Meta.put
  by_cases ha : m.any (·.1 = k) = true
  · rw [if_pos ha, mget_map_put]
    by_cases hk : k' = k
    · obtain ⟨x, hx⟩ := mget_isSome_of_any k m ha
      simp [hk, hx]
    · simp [hk]
  · rw [if_neg ha, mget_append_single]
    have hn := mget_none_of_not_any k m ha
    by_cases hk : k' = k
    · subst hk; simp [hn]
    · have : ¬ k = k' := fun h => hk h.symm
      simp only [hk, if_false, this]
      cases mget m k' <;> rfl

theorem mget_put_other (m : Meta) (k : MetaKey) (v : MetaVal) (k' : MetaKey) (h : k' ≠ k) :
    mget (m.put k v) k' = mget m k' := by rw [mget_put]; simp [h]

theorem mget_putAll_other (k : MetaKey) : ∀ (n m : Meta), (∀ p ∈ n, p.1 ≠ k) → mget (m.putAll n) k = mget m k
  | [], m, _ => rfl
  | p :: ps, m, h => by
    unfold Meta.putAll
    simp only [List.foldl_cons]
    have := mget_putAll_other k ps (m.put p.1 p.2) (fun q hq => h q (by simp [hq]))
    unfold Meta.putAll at this
    rw [this, mget_put]
    have hp : k ≠ p.1 := fun e => h p (by simp) e.symm
    simp [hp]

/-- the add-on text a result reports (`ResultMetadataType_UPC_EAN_EXTENSION`), if any -/
def extText (res : RowResult) : Option (List Nat) :=
  match mget res.md .upcEanExtension with
  | some (.str t) => some t
  | _ => none

/-- length of the reported add-on, 0 without one: what ALLOWED_EAN_EXTENSIONS is compared with -/
def extLen (res : RowResult) : Nat := match extText res with | some t => t.length | none => 0

theorem parseExtension5_keys (raw : List Nat) (m : Meta) (h : parseExtension5 raw = .ok m) :
    ∀ p ∈ m, p.1 ≠ .upcEanExtension := by
  unfold parseExtension5 at h
  split at h
  · cases h; simp
  · split at h
    · cases h
    · cases h; simp
    · cases h; intro p hp; simp at hp; subst hp; simp

theorem parseExtension2_keys (raw : List Nat) : ∀ p ∈ parseExtension2 raw, p.1 ≠ .upcEanExtension := by
  unfold parseExtension2
  split
  · simp
  · split
    · simp
    · intro p hp; simp at hp; subst hp; simp

section
variable {V : Type} (O : VarOps V)

theorem extDecodeRow_keys (T : Tables) (X : ExtTables) (rn : Int) (row : List Bool) (off : Nat) (x : ExtResult)
    (h : extDecodeRow O T X rn row off = .ok x) : ∀ p ∈ x.md, p.1 ≠ .upcEanExtension := by
  unfold extDecodeRow at h
  split at h
  · cases h
  · rename_i sr _
    have h2 : ∀ y, ext2DecodeRow O T rn row sr = .ok y → ∀ p ∈ y.md, p.1 ≠ .upcEanExtension := by
      intro y hy
      unfold ext2DecodeRow at hy
      split at hy
      · cases hy
      · cases hy; exact parseExtension2_keys _
    split at h
    · rename_i r h5
      cases h
      unfold ext5DecodeRow at h5
      split at h5
      · cases h5
      · split at h5
        · cases h5
        · rename_i m hm
          cases h5
          exact parseExtension5_keys _ m hm
    · split at h
      · exact h2 x h
      · cases h

/-- the metadata `finishRow` adds after the add-on: country (EAN-13 / UPC-A) and symbology identifier -/
def finalMd (X : ExtTables) (k : EanKind) (result : List Nat) (md : Meta) : Meta :=
  (if k = .ean13 ∨ k = .upca then
     (if lookupCountry X.countries result ≠ [] then md.put .possibleCountry (.str (lookupCountry X.countries result)) else md)
   else md).put .symbologyIdentifier (.str [93, 69, if k = .ean8 then 52 else 48])

theorem mget_finalMd (X : ExtTables) (k : EanKind) (result : List Nat) (md : Meta) :
    mget (finalMd X k result md) .upcEanExtension = mget md .upcEanExtension := by
  unfold finalMd
  rw [mget_put_other _ _ _ _ (by decide)]
  split
  · split
    · rw [mget_put_other _ _ _ _ (by decide)]
    · rfl
  · rfl

/-- the ALLOWED_EAN_EXTENSIONS test passed -/
theorem allowed_mem {l : List Int} {n : Nat} (h : ¬ (!(l.any fun len => decide ((n : Int) = len))) = true) :
    (n : Int) ∈ l := by
  simp only [Bool.not_eq_true', Bool.not_eq_false, List.any_eq_true, decide_eq_true_eq] at h
  obtain ⟨len, hmem, heq⟩ := h
  exact heq ▸ hmem

/-- **ALLOWED_EAN_EXTENSIONS on the observable result**: with the hint `l`, a result of `finishRow` reports an add-on
    whose length is in `l` (no add-on counting as length 0) -/
theorem finishRow_allowed (T : Tables) (X : ExtTables) (k : EanKind) (rn : Int) (row : List Bool) (h : Hints)
    (l : List Int) (hl : h.allowedExt = some l) (sg er : Nat × Nat) (result : List Nat) (res : RowResult)
    (hr : finishRow O T X k rn row h sg er result = .ok res) : ((extLen res : Nat) : Int) ∈ l := by
  unfold finishRow at hr
  simp only [hl] at hr
  split at hr
  · cases hr
  · split at hr
    · cases hr
    · split at hr
      · cases hr
      · split at hr
        · cases hr
        · -- the length that was tested is the length the metadata report
          cases hx : extDecodeRow O T X rn row er.2 with
          | ok x =>
            have hkeys := extDecodeRow_keys O T X rn row er.2 x hx
            simp only [hx] at hr
            split at hr
            · cases hr
            · rename_i hall
              cases hr
              have hlen : extLen ⟨result, k, [⟨(sg.2 + sg.1 : Nat), rn⟩, ⟨(er.2 + er.1 : Nat), rn⟩] ++ x.points,
                  finalMd X k result ((Meta.put [] .upcEanExtension (.str x.text)).putAll x.md)⟩ = x.text.length := by
                unfold extLen extText
                simp only [mget_finalMd, mget_putAll_other _ _ _ hkeys, mget_put, if_true]
              show ((extLen ⟨result, k, _, finalMd X k result _⟩ : Nat) : Int) ∈ l
              rw [hlen]; exact allowed_mem hall
          | error e =>
            simp only [hx] at hr
            split at hr
            · cases hr
            · rename_i hall
              cases hr
              have hzero : extLen ⟨result, k, [⟨(sg.2 + sg.1 : Nat), rn⟩, ⟨(er.2 + er.1 : Nat), rn⟩],
                  finalMd X k result []⟩ = 0 := by
                unfold extLen extText
                simp only [mget_finalMd, mget]
              show ((extLen ⟨result, k, _, finalMd X k result _⟩ : Nat) : Int) ∈ l
              rw [hzero]; exact allowed_mem hall

/-- the add-on is reported in the metadata, which the UPC-A presentation does not touch -/
theorem allowed_upcaOK (l : List Int) : UpcaOK AnyFault (fun res => ((extLen res : Nat) : Int) ∈ l) :=
  ⟨fun _ _ h _ _ => h, fun _ _ _ _ => trivial⟩

theorem decodeRow_allowed (T : Tables) (X : ExtTables) (k : EanKind) (rn : Int) (row : List Bool) (h : Hints)
    (l : List Int) (hl : h.allowedExt = some l) :
    Sat AnyFault (fun res => ((extLen res : Nat) : Int) ∈ l) (decodeRow O T X k rn row h).2 :=
  (decodeRow_rule O (Calls.any O T X) (allowed_upcaOK l) rn row h
    (fun k _ sg er result => Sat.partial_iff.mpr (finishRow_allowed O T X k rn row h l hl sg er result)) k).post
    fun _ hr => hr.2

theorem multiDecodeRow_allowed (T : Tables) (X : ExtTables) (readers : List EanKind) (rn : Int) (row : List Bool)
    (h : Hints) (l : List Int) (hl : h.allowedExt = some l) :
    Sat AnyFault (fun res => ((extLen res : Nat) : Int) ∈ l) (multiDecodeRow O T X readers rn row h).2 :=
  multiDecodeRow_rule O (Calls.any O T X) (allowed_upcaOK l) readers rn row h
    fun k _ sg er result => Sat.partial_iff.mpr (finishRow_allowed O T X k rn row h l hl sg er result)

end
end Gzx.Proofs.OneDRowExtTotal
