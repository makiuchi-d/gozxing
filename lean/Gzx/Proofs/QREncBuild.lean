/-
  wp `qrenc` — `MatrixUtil_buildMatrix` of the mirror model = the reference matrix, from the function-pattern stage
  (`functionStage_eq`) and the visit order of `embedDataBits` (`orderOK_all`).
-/
import Gzx.Proofs.QREncStage
import Gzx.Proofs.QREncData
import Gzx.Proofs.QREncOrder
import Gzx.Proofs.QRMatrix
namespace Gzx.QREnc
open Gzx Gzx.QRRef

/-- the reference symbol as a ByteMatrix (dark = 1, light = 0) -/
def refByteMatrix (v : Nat) (ec : EC) (mask : Nat) (cw : List Nat) : ByteMatrix :=
  ⟨(refMatrix v ec mask cw).map (fun r => r.map b2i), dimension v, dimension v⟩

theorem refByteMatrix_modules (v : Nat) (ec : EC) (mask : Nat) (cw : List Nat) :
    (refByteMatrix v ec mask cw).bytes.map (fun r => r.map (· == 1)) = refMatrix v ec mask cw := by
  unfold refByteMatrix
  simp only [List.map_map]
  rw [List.map_congr_left (g := id)]
  · simp
  · intro r _
    simp only [Function.comp, id]
    rw [List.map_map, List.map_congr_left (g := id)]
    · simp
    · intro b _; cases b <;> rfl

theorem refByteMatrix_wfm (v : Nat) (ec : EC) (mask : Nat) (cw : List Nat) :
    WFM (dimension v) (refByteMatrix v ec mask cw) := by
  refine ⟨rfl, rfl, ?_, ?_⟩
  · simp [refByteMatrix, refMatrix_eq_spec, specMatrix]
  · intro r hr
    simp only [refByteMatrix, refMatrix_eq_spec, specMatrix, List.map_map, List.mem_map, List.mem_range] at hr
    obtain ⟨y, _, rfl⟩ := hr
    simp

theorem refByteMatrix_cell (v : Nat) (ec : EC) (mask : Nat) (cw : List Nat) (x y : Nat)
    (hx : x < dimension v) (hy : y < dimension v) :
    cell (refByteMatrix v ec mask cw) x y = b2i (moduleAt v ec mask cw x y) := by
  unfold cell refByteMatrix
  rw [refMatrix_eq_spec]
  unfold specMatrix
  simp [List.getD_eq_getElem?_getD, hx, hy]

theorem b2i_ne_neg1 (b : Bool) : b2i b ≠ -1 := by cases b <;> simp [b2i]

/-- the empty modules of the function-stage matrix along the visit order are the standard's data modules -/
theorem empties_funcMatrix (v : Nat) (ec : EC) (mask : Nat) :
    empties (funcMatrix v ec mask) (zigzagAll (dimension v)) = zigzag v := by
  unfold empties zigzag
  apply List.filter_congr
  intro c hc
  have hr := (mem_zigzagAll (odd_dimension v) (dimension_ge v)).mp (by rw [Prod.eta]; exact hc : (c.1, c.2) ∈ _)
  rw [funcMatrix_cell v ec mask c.1 c.2 hr.1 hr.2.1]
  unfold funcCell
  cases hfn : isFunction v c.1 c.2
  · simp
  · have := b2i_ne_neg1 (functionModule v ec mask c.1 c.2)
    simp [this]

theorem streamBits_getElem (v : Nat) (cw : List Nat) (i : Nat) (hi : i < (streamBits v cw).length) :
    (streamBits v cw)[i] = (bitsOfBytes cw).getD i false := by
  have h2 : (streamBits v cw)[i]? = some ((bitsOfBytes cw).getD i false) := by
    unfold streamBits at hi ⊢
    rw [List.getElem?_append]
    by_cases h : i < (bitsOfBytes cw).length
    · simp [h, List.getD_eq_getElem?_getD]
    · rw [List.length_append, List.length_replicate] at hi
      simp only [h, if_false, List.getD_eq_getElem?_getD, List.getElem?_eq_none (by omega : (bitsOfBytes cw).length ≤ i),
        Option.getD_none, List.getElem?_replicate]
      rw [if_pos (by omega)]
  rw [List.getElem?_eq_getElem hi] at h2
  exact Option.some.inj h2

theorem buildMatrix_eq_ref {K : Kernels} (hK : KernelsOK K) (v : Nat) (h1 : 1 ≤ v) (h40 : v ≤ 40)
    (ec : EC) (mask : Nat) (hk : mask < 8) (cw : List Nat)
    (hlen : (bitsOfBytes cw).length ≤ (zigzag v).length) (m0 : ByteMatrix) (hm0 : WFM (dimension v) m0) :
    buildMatrix K (bitsOfBytes cw) ec v (mask : Int) m0 = .ok (refByteMatrix v ec mask cw) := by
  have hstage := functionStage_eq v h1 h40 ec mask hk
  have ho := orderOK_all v
  unfold functionStage at hstage
  unfold buildMatrix
  rw [clear_wfm hm0]
  simp only [bind, Except.bind] at hstage ⊢
  -- peel the three function-pattern steps
  cases hb : embedBasicPatterns (v : Int) (emptyMatrix (dimension v)) with
  | error e => rw [hb] at hstage; simp at hstage
  | ok B =>
    rw [hb] at hstage
    simp only at hstage ⊢
    cases ht : embedTypeInfo ec (mask : Int) B with
    | error e => rw [ht] at hstage; simp at hstage
    | ok T =>
      rw [ht] at hstage
      simp only at hstage ⊢
      rw [hstage]
      simp only
      -- data bits
      have hF := funcMatrix_wfm v ec mask
      change (embedDataBits K (bitsOfBytes cw) (mask : Int) (funcMatrix v ec mask)) = _
      unfold embedDataBits
      rw [hF.w, hF.h]
      unfold OrderOK at ho
      rw [zigzagLoop_eq _ _ _ _ _ ho]
      unfold refOrder
      have hrange : ∀ c ∈ zigzagAll (dimension v), c.1 < dimension v ∧ c.2 < dimension v := by
        intro c hc
        have := (mem_zigzagAll (odd_dimension v) (dimension_ge v)).mp (by rw [Prod.eta]; exact hc : (c.1, c.2) ∈ _)
        exact ⟨this.1, this.2.1⟩
      rw [stepAll_nat hK (bitsOfBytes cw) mask hk (zigzagAll (dimension v)) (funcMatrix v ec mask, 0) hF hrange]
      obtain ⟨hw, hkk, hcells, hother⟩ := placeFold (bitsOfBytes cw) mask (zigzagAll (dimension v))
        (funcMatrix v ec mask) 0 hF (nodup_zigzagAll (odd_dimension v)) hrange (Nat.zero_le _)
      rw [empties_funcMatrix] at hkk hcells hother
      simp only [bind, Except.bind]
      have hfin : ¬ ((List.foldl (placeStep (bitsOfBytes cw) mask) (funcMatrix v ec mask, 0) (zigzagAll (dimension v))).2 ≠
          (bitsOfBytes cw).length) := by
        rw [hkk]; omega
      rw [if_neg hfin]
      simp only [pure, Except.pure, Except.ok.injEq]
      apply wfm_ext hw (refByteMatrix_wfm v ec mask cw)
      intro x y hx hy
      rw [refByteMatrix_cell v ec mask cw x y hx hy]
      cases hfn : isFunction v x y
      · -- data module
        have hmem : (x, y) ∈ zigzag v := (mem_zigzag v x y).mpr ⟨hx, hy, hfn⟩
        obtain ⟨i, hi, hget⟩ := List.mem_iff_getElem.mp hmem
        have hc := hcells i hi
        rw [hget] at hc
        simp only [Nat.zero_add] at hc
        rw [hc]
        have hd := moduleAt_data v ec mask cw hlen i hi
        rw [hget] at hd
        simp only at hd
        rw [hd, streamBits_getElem]
      · -- function module
        have hnot : (x, y) ∉ zigzag v := by
          intro h
          have := ((mem_zigzag v x y).mp h).2.2
          rw [hfn] at this; cases this
        rw [hother x y hnot, funcMatrix_cell v ec mask x y hx hy, funcCell, hfn, moduleAt_function v ec mask cw x y hfn]
        simp

end Gzx.QREnc
