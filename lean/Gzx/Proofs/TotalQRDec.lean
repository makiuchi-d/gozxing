/-
  C06 — totality of the QR matrix decoder model (`Gzx.QRDec.decode`: NewBitMatrixParser, ReadVersion,
  ReadFormatInformation, ReadCodewords, DataBlock_GetDataBlocks, correctErrors, the bit-stream parser
  and the mirrored second attempt) on ARBITRARY matrices.  Helper lemmas for Properties/C06.lean.
-/
import Gzx.Proofs.TotalQR
import Gzx.Proofs.QRMatrixRead
import Gzx.Proofs.QRTablesWF
import Gzx.Proofs.ListGrid
namespace Gzx.Proofs.TotalQRDec
open Gzx Gzx.Det Gzx.QRDec Gzx.ECI Gzx.Proofs.TotalQR

/-! ## the version table -/

/-- a version entry is well formed: four block lists (one per EC level), each of the shape `wfBlocks` accepts and
    summing to the version's codeword count -/
structure VWF (v : VersionInfo) : Prop where
  len : v.ecBlocks.length = 4
  blocks : ∀ b ∈ v.ecBlocks, wfBlocks b = true ∧ b.total = v.totalCodewords

theorem wfFrom_get : ∀ (vs : List VersionInfo) (i k : Nat) (v : VersionInfo),
    wfVersionsFrom vs i = true → vs[k]? = some v → wfVersion v (i + k) = true
  | [], _, _, _, _, h => by simp at h
  | a :: vs, i, 0, v, hw, h => by
    simp only [wfVersionsFrom, Bool.and_eq_true] at hw
    simp at h
    rw [← h]; exact hw.1
  | a :: vs, i, k + 1, v, hw, h => by
    simp only [wfVersionsFrom, Bool.and_eq_true] at hw
    simp at h
    have := wfFrom_get vs (i + 1) k v hw.2 h
    rw [show i + (k + 1) = i + 1 + k by omega]; exact this

theorem vwf_of_wfVersion (v : VersionInfo) (i : Nat) (h : wfVersion v i = true) : VWF v ∧ v.num = i + 1 := by
  simp only [wfVersion, Bool.and_eq_true, beq_iff_eq, List.all_eq_true] at h
  obtain ⟨⟨⟨hn, hl⟩, hb⟩, ht⟩ := h
  exact ⟨⟨hl, fun b hb' => ⟨hb b hb', ht b hb'⟩⟩, hn⟩

theorem vwf_of_mem (vs : List VersionInfo) (h : wfVersions vs = true) (v : VersionInfo) (hv : v ∈ vs) : VWF v := by
  simp only [wfVersions, Bool.and_eq_true, beq_iff_eq] at h
  obtain ⟨k, hk⟩ := List.getElem?_of_mem hv
  have := wfFrom_get vs 0 k v h.2 hk
  exact (vwf_of_wfVersion v _ this).1

/-- `Version_GetVersionForNumber` on a well-formed table: IllegalArgument outside 1..40 and only there, otherwise
    the entry with that number -/
theorem getVersionForNumber_sat (vs : List VersionInfo) (h : wfVersions vs = true) (n : Nat) :
    Sat (fun e => e = .illegalArg ∧ (n < 1 ∨ n > 40)) (fun v => v ∈ vs ∧ v.num = n) (getVersionForNumber vs n) := by
  unfold getVersionForNumber
  refine Sat.ite (fun hn => Sat.error ⟨rfl, hn⟩) fun hn => ?_
  simp only [wfVersions, Bool.and_eq_true, beq_iff_eq] at h
  have hlt : n - 1 < vs.length := by omega
  rw [List.getElem?_eq_getElem hlt]
  refine Sat.ok ⟨List.getElem_mem hlt, ?_⟩
  have := (vwf_of_wfVersion _ _ (wfFrom_get vs 0 (n - 1) _ h.2 (List.getElem?_eq_getElem hlt))).2
  omega

theorem decodeVersionInformation_sat (T : Tables) (h : wfVersions T.versions = true) (bits : Nat) :
    Sat Checked (· ∈ T.versions) (decodeVersionInformation T bits) := by
  have gv : ∀ n, Sat Checked (· ∈ T.versions) (getVersionForNumber T.versions n) := fun n =>
    (getVersionForNumber_sat T.versions h n).mono (fun _ he => by rw [he.1]; exact ⟨nofun, nofun⟩) fun _ hv => hv.1
  unfold decodeVersionInformation
  split
  · exact gv _
  · exact Sat.ite (fun _ => gv _) fun _ => Sat.error ⟨nofun, nofun⟩

theorem versionCopyOK_mem (T : Tables) (h : wfVersions T.versions = true) (dim bits : Nat) (v : VersionInfo)
    (hv : versionCopyOK T dim bits = some v) : v ∈ T.versions ∧ v.dimension = dim := by
  unfold versionCopyOK at hv
  rcases (decodeVersionInformation_sat T h bits).cases with ⟨v', hd, hm⟩ | ⟨e, hd, _⟩
  · rw [hd] at hv
    simp only at hv
    split at hv
    · cases hv; exact ⟨hm, by assumption⟩
    · cases hv
  · rw [hd] at hv; cases hv

/-! ## the parser state -/

/-- what `NewBitMatrixParser` establishes and every parser operation keeps: the dimension is
    17 + 4k with k ≥ 1, and a cached version comes from the table and has the matrix' dimension -/
structure PInv (T : Tables) (p : Parser) : Prop where
  dim21 : 21 ≤ p.m.dim
  dim4 : p.m.dim % 4 = 1
  ver : ∀ v, p.ver = some v → v ∈ T.versions ∧ v.dimension = p.m.dim

theorem PInv.of_eq (T : Tables) {p p' : Parser} (hp : PInv T p) (hm : p'.m.dim = p.m.dim) (hv : p'.ver = p.ver) :
    PInv T p' :=
  ⟨by rw [hm]; exact hp.dim21, by rw [hm]; exact hp.dim4, fun v h => by rw [hm]; exact hp.ver v (by rw [← hv]; exact h)⟩

theorem newParser_sat (T : Tables) (m : Matrix) : Sat (Only .format) (PInv T) (newParser m) := by
  unfold newParser
  exact Sat.ite (fun _ => Sat.error rfl) fun h =>
    Sat.ok ⟨by simp only []; omega, by simp only []; omega, fun v hv => by cases hv⟩

theorem copyBits_sat {E : Fault → Prop} (m : Matrix) (mirror : Bool) (cells : List (Nat × Nat)) (acc : Nat) :
    Sat E (fun _ => True) (copyBits m mirror cells acc) := by
  rw [copyBits_eq]; trivial

/-- `ReadVersion`: a version of the table with the matrix' dimension, cached in a parser on the same matrix -/
theorem readVersion_sat (T : Tables) (hT : wfVersions T.versions = true) (p : Parser) (hp : PInv T p) :
    Sat (Only .format) (fun r => r.1 ∈ T.versions ∧ r.1.dimension = p.m.dim ∧ r.2.m = p.m ∧ PInv T r.2)
      (readVersion T p) := by
  unfold readVersion
  cases hver : p.ver with
  | some v =>
    obtain ⟨h1, h2⟩ := hp.ver v hver
    exact Sat.ok ⟨h1, h2, rfl, hp⟩
  | none =>
    simp only []
    have h21 := hp.dim21
    have h4 := hp.dim4
    have copy : ∀ bits v, versionCopyOK T p.m.dim bits = some v →
        Sat (Only .format) (fun r => r.1 ∈ T.versions ∧ r.1.dimension = p.m.dim ∧ r.2.m = p.m ∧ PInv T r.2)
          (.ok (v, { p with ver := some v })) := fun bits v h1 => by
      obtain ⟨hm, hd⟩ := versionCopyOK_mem T hT _ _ v h1
      exact Sat.ok ⟨hm, hd, rfl, ⟨h21, h4, fun v' hv' => by cases hv'; exact ⟨hm, hd⟩⟩⟩
    refine Sat.ite (fun hs => ?_) fun hs => Sat.then (copyBits_sat _ _ _ _) fun b1 => ?_
    · -- a dimension of 21..41 gives a version number 1..6
      refine Sat.bind ((getVersionForNumber_sat T.versions hT _).faults fun e he => ?_) fun v hv => Sat.ok ⟨hv.1, ?_, rfl, hp⟩
      · exact absurd he.2 (by omega)
      · show 17 + 4 * v.num = p.m.dim
        have := hv.2
        omega
    · cases h1 : versionCopyOK T p.m.dim b1 with
      | some v => exact copy _ v h1
      | none =>
        refine Sat.then (copyBits_sat _ _ _ _) fun b2 => ?_
        cases h2 : versionCopyOK T p.m.dim b2 with
        | some v => exact copy _ v h2
        | none => exact Sat.error rfl

theorem ecForBits_sat {E : Fault → Prop} (n : Nat) (h : n < 4) : Sat E (fun _ => True) (ecForBits n) := by
  have : n = 0 ∨ n = 1 ∨ n = 2 ∨ n = 3 := by omega
  rcases this with h | h | h | h <;> subst h <;> exact Sat.ok trivial

theorem decodeFormat_sat {E : Fault → Prop} (T : List (Nat × Nat)) (mask m1 m2 : Nat) :
    Sat E (fun _ => True) (decodeFormat T mask m1 m2) := by
  unfold decodeFormat
  split
  · rename_i d _
    unfold formatInfoOf
    exact Sat.then (Sat.then (ecForBits_sat _ (Nat.and_lt_two_pow _ (by decide : 3 < 2 ^ 2))) fun _ =>
      Sat.ok (P := fun _ => True) trivial) fun _ => Sat.ok trivial
  · exact Sat.ok trivial

/-- `ReadFormatInformation`: cached in a parser on the same matrix with the same cached version -/
theorem readFormat_sat (T : Tables) (p : Parser) :
    Sat (Only .format) (fun r => r.2.m = p.m ∧ r.2.ver = p.ver) (readFormatInformation T p) := by
  unfold readFormatInformation
  cases hf : p.fmt with
  | some f => exact Sat.ok ⟨rfl, rfl⟩
  | none =>
    refine Sat.then (copyBits_sat _ _ _ _) fun b1 => Sat.then (copyBits_sat _ _ _ _) fun b2 =>
      Sat.then (decodeFormat_sat _ _ _ _) fun o => ?_
    cases o with
    | none => exact Sat.error rfl
    | some f => exact Sat.ok ⟨rfl, rfl⟩

/-! ## codeword reading -/

/-- number of cells of `cells` that are not function-pattern modules (each yields one data bit) -/
def freeCount (fp : Matrix) : List (Nat × Nat) → Nat
  | [] => 0
  | xy :: rest => (if fp.getB xy.1 xy.2 then 0 else 1) + freeCount fp rest

theorem readDataBits_sat {E : Fault → Prop} (fp m : Matrix) : ∀ (cells : List (Nat × Nat)) (acc : List Bool),
    Sat E (fun bits => bits.length = acc.length + freeCount fp cells) (readDataBits fp m cells acc)
  | [], acc => Sat.ok (by simp [freeCount])
  | xy :: rest, acc => by
    unfold readDataBits
    rw [Matrix.get_eq]
    refine Sat.bind (Sat.ok rfl) fun f (hf : fp.getB xy.1 xy.2 = f) => Sat.ite (fun h => ?_) fun h => ?_
    · exact (readDataBits_sat fp m rest acc).post fun bits hl => by rw [hl]; simp [freeCount, hf, h]
    · rw [Matrix.get_eq]
      exact Sat.then (Sat.ok (P := fun _ => True) trivial) fun b =>
        (readDataBits_sat fp m rest (b :: acc)).post fun bits hl => by rw [hl]; simp [freeCount, hf, h]; omega

/-- the per-version obligation on the table: the symbol has room for at most `totalCodewords`
    codewords (plus up to 7 remainder bits) outside its function patterns -/
def CwFits (T : Tables) : Prop :=
  ∀ v ∈ T.versions, ∀ fp, buildFunctionPattern v = .ok fp →
    freeCount fp (zigzagCells v.dimension) / 8 ≤ v.totalCodewords

theorem buildFunctionPattern_sat (v : VersionInfo) : Sat (Only .illegalArg) (fun _ => True) (buildFunctionPattern v) := by
  unfold buildFunctionPattern
  simp only []
  split
  · exact Sat.error rfl
  · repeat' split
    all_goals first | exact Sat.ok trivial | exact Sat.error rfl

theorem readCodewords_sat (T : Tables) (hT : wfVersions T.versions = true) (hfit : CwFits T)
    (p : Parser) (hp : PInv T p) :
    PInv T (readCodewords T p).2 ∧ Sat Checked (fun _ => True) (readCodewords T p).1 := by
  have fmt : Checked .format := ⟨nofun, nofun⟩
  unfold readCodewords
  refine Sat.step _ (readFormat_sat T p) (fun e he => ⟨hp, by cases he; exact fmt⟩) fun ⟨fi, p1⟩ ⟨hm1, hv1⟩ => ?_
  have hp1 : PInv T p1 := hp.of_eq T (by rw [hm1]) hv1
  simp only []
  refine Sat.step _ (readVersion_sat T hT p1 hp1) (fun e he => ⟨hp1, by cases he; exact fmt⟩)
    fun ⟨v, p2⟩ ⟨hmem, hdim, hm2, hp2⟩ => ?_
  simp only [] at hdim hm2 hp2 ⊢
  refine ⟨hp2.of_eq T rfl rfl, ?_⟩
  refine Sat.bind_eq ((wrapF_sat (buildFunctionPattern_sat v) (only_checked ⟨nofun, nofun⟩)).faults
    fun _ he => he ▸ fmt) fun fp hfp _ => ?_
  -- the function pattern was built, so `CwFits` bounds the number of data bits read
  have hfp : buildFunctionPattern v = .ok fp := by
    cases hb : buildFunctionPattern v with
    | ok fp' => rw [hb] at hfp; exact hfp
    | error e => rw [hb] at hfp; cases e <;> cases hfp
  have hd : (unmask fi.2 p2.m).dim = v.dimension := by
    show p2.m.dim = _
    rw [hm2, hdim]
  refine Sat.bind (readDataBits_sat fp (unmask fi.2 p2.m) (zigzagCells (unmask fi.2 p2.m).dim) []) fun bits hl => ?_
  have := hfit v hmem fp hfp
  rw [hd] at hl
  simp only [List.length_nil, Nat.zero_add] at hl
  exact Sat.ite (fun h => by rw [hl] at h; omega) fun _ => Sat.ite (fun _ => Sat.error fmt) fun _ => Sat.ok trivial

/-! ## DataBlock_GetDataBlocks -/

theorem rawAt_sat {E : Fault → Prop} (raw : List Nat) (i : Nat) (h : i < raw.length) :
    Sat E (fun _ => True) (rawAt raw i) := by
  unfold rawAt
  rw [List.getElem?_eq_getElem h]; trivial

/-- the three filling loops stay inside `rawCodewords` when it holds `(sd + ne)·n + (n − L)` codewords -/
theorem blockCodewords_sat {E : Fault → Prop} (raw : List Nat) (n L sd ne j : Nat) (hj : j < n)
    (hlen : (sd + ne) * n + (n - L) ≤ raw.length) : Sat E (fun _ => True) (blockCodewords raw n L sd ne j) := by
  have hexp : (sd + ne) * n = sd * n + ne * n := Nat.add_mul _ _ _
  unfold blockCodewords
  refine Sat.then (Sat.mapM fun i hi => rawAt_sat raw _ ?_) fun data => ?_
  · have := mul_add_lt (List.mem_range.mp hi) hj; omega
  have tail : ∀ extra, Sat E (fun _ => True) (do
      let ecs ← (List.range ne).mapM (fun k => rawAt raw (sd * n + (n - L) + k * n + j))
      pure (data ++ extra ++ ecs)) := fun extra =>
    Sat.then (Sat.mapM fun k hk => rawAt_sat raw _ (by
      have := mul_add_lt (List.mem_range.mp hk) hj; omega)) fun _ => Sat.ok trivial
  exact Sat.ite (fun hL => Sat.then (Sat.then (rawAt_sat raw _ (by omega)) fun _ => Sat.pure (P := fun _ => True) trivial)
    fun _ => tail _) fun _ => tail _

theorem takeWhile_ne_len (s c1 : Nat) : ∀ c2 : Nat,
    ((List.replicate c2 (s + 1) ++ List.replicate c1 s).takeWhile (· ≠ s)).length ≤ c2
  | 0 => by
    cases c1 with
    | zero => simp
    | succ c => simp [List.replicate_succ]
  | c2 + 1 => by
    rw [List.replicate_succ, List.cons_append, List.takeWhile_cons]
    split
    · simp only [List.length_cons]
      have := takeWhile_ne_len s c1 c2
      omega
    · simp

/-- the block list of a well-formed entry: `c1 ≥ 1` short blocks followed by `c2 ≥ 0` blocks that are
    one data codeword longer -/
theorem shapes_of_wf (eb : ECBlocks) (h : wfBlocks eb = true) :
    ∃ c1 c2 d, 1 ≤ c1 ∧
      blockShapes eb = List.replicate c1 (d, eb.ecPerBlock + d) ++ List.replicate c2 (d + 1, eb.ecPerBlock + (d + 1)) ∧
      eb.total = c1 * (d + eb.ecPerBlock) + c2 * (d + 1 + eb.ecPerBlock) := by
  unfold wfBlocks at h
  split at h
  · rename_i c d hg
    refine ⟨c, 0, d, by simpa using h, ?_, ?_⟩
    · simp [blockShapes, hg]
    · simp [ECBlocks.total, hg]
  · rename_i c1 d1 c2 d2 hg
    simp only [Bool.and_eq_true, decide_eq_true_eq, beq_iff_eq] at h
    obtain ⟨⟨h1, _⟩, hd⟩ := h
    subst hd
    refine ⟨c1, c2, d1, h1, ?_, ?_⟩
    · simp [blockShapes, hg]
    · simp [ECBlocks.total, hg]
  · cases h

theorem getDataBlocks_sat (v : VersionInfo) (hv : VWF v) (raw : List Nat) (ec : EC) :
    Sat (Only .illegalArg) (fun _ => True) (getDataBlocks raw v ec) := by
  unfold getDataBlocks
  refine Sat.ite (fun _ => Sat.error rfl) fun hl => ?_
  · have hl' : raw.length = v.totalCodewords := by omega
    have hidx : ec.index < v.ecBlocks.length := by rw [hv.len]; cases ec <;> decide
    rw [List.getElem?_eq_getElem hidx]
    simp only []
    obtain ⟨hwf, htot⟩ := hv.blocks _ (List.getElem_mem hidx)
    generalize v.ecBlocks[ec.index] = eb at hwf htot
    obtain ⟨c1, c2, d, hc1, hshape, htotal⟩ := shapes_of_wf eb hwf
    rw [hshape]
    obtain ⟨c, rfl⟩ : ∃ c, c1 = c + 1 := ⟨c1 - 1, by omega⟩
    rw [List.replicate_succ, List.cons_append]
    simp only []
    refine sat_true_of (Sat.mapM (P := fun _ => True) fun sj hsj => ?_)
    obtain ⟨⟨sh, j⟩, rfl⟩ : ∃ q : (Nat × Nat) × Nat, sj = q := ⟨sj, rfl⟩
    have hj := (List.mem_zipIdx hsj).2.1
    simp only [Nat.zero_add, List.length_cons, List.length_append, List.length_replicate] at hj
    have hlens : (((d, eb.ecPerBlock + d) :: (List.replicate c (d, eb.ecPerBlock + d) ++
        List.replicate c2 (d + 1, eb.ecPerBlock + (d + 1)))).map (·.2)) =
        List.replicate (c + 1) (eb.ecPerBlock + d) ++ List.replicate c2 (eb.ecPerBlock + d + 1) := by
      simp [List.replicate_succ, Nat.add_assoc]
    -- `getDataBlocks` recomputes the data count `d` and the ec count from the shape `(d, ec + d)` of block 0; with
    -- that, the bound `blockCodewords_sat` asks for is `(d + ec)·(c1 + c2) + (number of longer blocks) ≤ raw.length`,
    -- which is the table's total because at most the last `c2` blocks are longer (`takeWhile_ne_len`)
    have hbound : ((eb.ecPerBlock + d - eb.ecPerBlock) + (eb.ecPerBlock + d - (eb.ecPerBlock + d - eb.ecPerBlock))) *
        (c + 1 + c2) + ((c + 1 + c2) - longerStart (eb.ecPerBlock + d)
          (List.replicate (c + 1) (eb.ecPerBlock + d) ++ List.replicate c2 (eb.ecPerBlock + d + 1))) ≤ raw.length := by
      have e1 : eb.ecPerBlock + d - eb.ecPerBlock = d := by omega
      have e2 : eb.ecPerBlock + d - d = eb.ecPerBlock := by omega
      rw [e1, e2]
      unfold longerStart
      rw [List.reverse_append, List.reverse_replicate, List.reverse_replicate]
      have ht := takeWhile_ne_len (eb.ecPerBlock + d) (c + 1) c2
      simp only [List.length_append, List.length_replicate]
      rw [hl', ← htot, htotal]
      have harith : (d + eb.ecPerBlock) * (c + 1 + c2) + c2 =
          (c + 1) * (d + eb.ecPerBlock) + c2 * (d + 1 + eb.ecPerBlock) := by grind
      omega
    simp only [List.length_cons, List.length_append, List.length_replicate, hlens]
    have hj' : j < c + 1 + c2 := by omega
    have hn : c + c2 + 1 = c + 1 + c2 := by omega
    rw [hn]
    exact Sat.then (blockCodewords_sat raw (c + 1 + c2) _ _ _ j hj' hbound) fun cw => Sat.pure trivial

/-! ## error correction, one decoding attempt, the mirrored retry -/

/-- what is assumed of the Reed-Solomon block decoder: it never panics -/
def RSNoPanic (rs : List Nat → Nat → Res (List Nat)) : Prop := ∀ cw n w, rs cw n ≠ .error (.panic w)

/-- `correctErrors` on every block, given that the Reed-Solomon decoder never panics: its other failures are
    reported as ChecksumException -/
theorem correctBlocks_sat (rs : List Nat → Nat → Res (List Nat)) (hrs : RSNoPanic rs) :
    ∀ blocks : List (Nat × List Nat), Sat (Only .checksum) (fun _ => True) (correctBlocks rs blocks)
  | [] => Sat.ok trivial
  | (nd, cw) :: rest => by
    have tail : ∀ fixed : List Nat, Sat (Only .checksum) (fun _ => True) (do
        let tail ← correctBlocks rs rest
        .ok (fixed.take nd ++ tail)) := fun _ => Sat.then (correctBlocks_sat rs hrs rest) fun _ => Sat.ok trivial
    unfold correctBlocks
    cases hr : rs cw (cw.length - nd) with
    | ok w => exact tail w
    | error e => cases e <;> first | exact Sat.error rfl | exact absurd hr (hrs _ _ _)

theorem decodeOnce_sat (T : Tables) (hT : wfVersions T.versions = true) (hfit : CwFits T)
    (rs : List Nat → Nat → Res (List Nat)) (hrs : RSNoPanic rs) (hint : Hint) (p : Parser) (hp : PInv T p) :
    PInv T (decodeOnce T rs hint p).2 ∧ Sat (Either .format .checksum) (fun _ => True) (decodeOnce T rs hint p).1 := by
  have fmt : ∀ {α : Type} {e : Fault}, Checked e → Sat (Either .format .checksum) (fun _ => True) (wrapF (.error e : Res α)) :=
    fun he => (wrapF_sat (E := Checked) (P := fun _ => True) (Sat.error he) fun _ h => h).faults fun _ => Or.inl
  have checked : ∀ {e : Fault}, Only .format e → Checked e := fun he => he ▸ ⟨nofun, nofun⟩
  unfold decodeOnce
  refine Sat.step _ (readVersion_sat T hT p hp) (fun e he => ⟨hp, fmt (checked he)⟩) fun ⟨v, p1⟩ ⟨hmem, _, _, hp1⟩ => ?_
  simp only [] at hmem hp1 ⊢
  refine Sat.step _ (readFormat_sat T p1) (fun e he => ⟨hp1, fmt (checked he)⟩) fun ⟨fi, p2⟩ ⟨hm2, hv2⟩ => ?_
  simp only []
  obtain ⟨hp3, hcw⟩ := readCodewords_sat T hT hfit p2 (hp1.of_eq T (by rw [hm2]) hv2)
  generalize readCodewords T p2 = r at hp3 hcw ⊢
  obtain ⟨r3, p3⟩ := r
  simp only [] at hp3 hcw ⊢
  refine Sat.step _ hcw (fun e he => ⟨hp3, fmt he⟩) fun cws _ => ⟨hp3, ?_⟩
  exact Sat.then ((wrapF_sat (getDataBlocks_sat v (vwf_of_mem _ hT v hmem) cws fi.1)
      (only_checked ⟨nofun, nofun⟩)).faults fun _ => Or.inl) fun blocks =>
    Sat.then ((correctBlocks_sat rs hrs blocks).faults fun _ => Or.inr) fun data =>
      Sat.then ((parse_sat T.eci data v.num hint).faults fun _ => Or.inl) fun parsed => Sat.ok trivial

theorem remask_dim (p : Parser) : (remask p).m.dim = p.m.dim := by unfold remask; split <;> rfl

/-- `Decoder.Decode` on an arbitrary matrix: a result, FormatException or ChecksumException -/
theorem decode_sat (T : Tables) (hT : wfVersions T.versions = true) (hfit : CwFits T)
    (rs : List Nat → Nat → Res (List Nat)) (hrs : RSNoPanic rs) (hint : Hint) (m : Matrix) :
    Sat (Either .format .checksum) (fun _ => True) (decode T rs hint m) := by
  unfold decode
  refine Sat.step _ (newParser_sat T m) (fun e he => by cases he; exact Or.inl rfl) fun p hp => ?_
  obtain ⟨hp1, h1⟩ := decodeOnce_sat T hT hfit rs hrs hint p hp
  dsimp only
  generalize decodeOnce T rs hint p = r at hp1 h1 ⊢
  obtain ⟨r1, p1⟩ := r
  dsimp only at hp1 h1
  -- the second attempt, on the mirrored matrix with an empty cache
  have second : Sat (Either .format .checksum) (fun _ => True) (do
      let (_, p) ← readVersion T (setMirror (remask p1) true)
      let (_, p) ← readFormatInformation T p
      let p := { p with m := mirrorMatrix p.m }
      let d ← (decodeOnce T rs hint p).1
      (.ok { d with mirrored := true } : Res Decoded)) :=
    Sat.bind ((readVersion_sat T hT _ ⟨by show (remask p1).m.dim ≥ 21; rw [remask_dim]; exact hp1.dim21,
        by show (remask p1).m.dim % 4 = 1; rw [remask_dim]; exact hp1.dim4, fun v hv => by cases hv⟩).faults
      fun _ => Or.inl) fun ⟨_, q1⟩ ⟨_, _, _, hq1⟩ =>
      Sat.bind ((readFormat_sat T q1).faults fun _ => Or.inl) fun ⟨_, q2⟩ ⟨hm, hv⟩ =>
        Sat.then (decodeOnce_sat T hT hfit rs hrs hint { q2 with m := mirrorMatrix q2.m }
          (hq1.of_eq T (show q2.m.dim = _ by rw [hm]) hv)).2 fun _ => Sat.ok trivial
  -- a first attempt that fails with e1 ∈ {format, checksum} answers e1, or what the second attempt answers
  refine Sat.step _ h1 (fun e1 he1 => ?_) fun d _ => trivial
  rcases he1 with rfl | rfl <;> dsimp only <;>
    exact Sat.step _ second (fun e2 he2 => by rcases he2 with rfl | rfl <;> first | exact Or.inl rfl | exact Or.inr rfl)
      fun d _ => trivial

end Gzx.Proofs.TotalQRDec
