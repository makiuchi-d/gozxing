/-
  The number of data modules of every version 1..40 equals the figure derived from the
  function-pattern geometry.  Evaluating `dataCount` as defined tests every cell against every pair
  of alignment centres.  Here the function modules are the union of the rectangle list
  `QRComp.allRegs v` (the `SetRegion` calls of the decoder's `buildFunctionPattern`, proved equal to
  `isFunction` cell by cell in Proofs/QRCompCells.lean); the rectangles are drawn into ONE number
  holding the whole grid (cell (x, y) in bit `n*y + x`), and the kernel only counts its bits.
-/
import Gzx.Proofs.QRCompCells
import Gzx.Proofs.BitCount
namespace Gzx.QRRef
open Gzx.BitCount

theorem cntRow_add_oneBits (p : Nat → Nat → Bool) (y m : Nat) :
    ∀ k, (∀ x < k, m.testBit x = p x y) → cntRow p y k + oneBits m k = k
  | 0, _ => rfl
  | k + 1, h => by
    have ih := cntRow_add_oneBits p y m k (fun x hx => h x (Nat.lt_succ_of_lt hx))
    rw [cntRow, oneBits, shiftRight_mod_two, h k (Nat.lt_succ_self k)]
    cases p k y <;> simp <;> omega

/-- a grid of `n` columns held in one number: data cells in rows `0 … k-1` against the set bits -/
theorem cntGrid_add_oneBits (p : Nat → Nat → Bool) (m n : Nat) :
    ∀ k, (∀ x y, x < n → y < k → m.testBit (n * y + x) = p x y) → cntGrid p n k + oneBits m (n * k) = n * k
  | 0, _ => rfl
  | k + 1, h => by
    have ih := cntGrid_add_oneBits p m n k (fun x y hx hy => h x y hx (Nat.lt_succ_of_lt hy))
    have hrow := cntRow_add_oneBits p k (m >>> (n * k)) n
      (fun x hx => by rw [Nat.testBit_shiftRight, h x k hx (Nat.lt_succ_self k)])
    rw [cntGrid, Nat.mul_succ, oneBits_add]
    omega

/-- the row pattern `pat` (below `2^n`) in rows `0 … k-1` -/
def rowsMask (n pat : Nat) : Nat → Nat
  | 0 => 0
  | k + 1 => pat ||| (rowsMask n pat k <<< n)

theorem testBit_rowsMask (n pat x : Nat) (hx : x < n) (hp : pat < 2 ^ n) :
    ∀ k y, (rowsMask n pat k).testBit (n * y + x) = (decide (y < k) && pat.testBit x)
  | 0, _ => by simp [rowsMask]
  | k + 1, 0 => by
    rw [rowsMask, Nat.testBit_or, Nat.testBit_shiftLeft]
    simp [show ¬ n ≤ x by omega]
  | k + 1, y + 1 => by
    have hhigh : pat.testBit (n * (y + 1) + x) = false :=
      Nat.testBit_lt_two_pow (Nat.lt_of_lt_of_le hp (Nat.pow_le_pow_right (by decide) (by rw [Nat.mul_succ]; omega)))
    rw [rowsMask, Nat.testBit_or, hhigh, Nat.testBit_shiftLeft,
      show n * (y + 1) + x - n = n * y + x by rw [Nat.mul_succ]; omega, testBit_rowsMask n pat x hx hp k y]
    simp [show n ≤ n * (y + 1) + x by rw [Nat.mul_succ]; omega]

/-- the rectangles drawn into a grid of `n` columns: cell `(x, y)` is bit `n*y + x` -/
def gridMask (n : Nat) : List QRDec.Region → Nat
  | [] => 0
  | r :: rs => (rowsMask n ((2 ^ r.width - 1) <<< r.left) r.height <<< (n * r.top)) ||| gridMask n rs

theorem testBit_gridMask (n x y : Nat) (hx : x < n) :
    ∀ regs : List QRDec.Region, (∀ r ∈ regs, r.left + r.width ≤ n) →
      (gridMask n regs).testBit (n * y + x) = regs.any (·.has x y)
  | [], _ => by simp [gridMask]
  | r :: rs, h => by
    have hr := h r List.mem_cons_self
    have hp : (2 ^ r.width - 1) <<< r.left < 2 ^ n := by
      rw [Nat.shiftLeft_eq]
      calc (2 ^ r.width - 1) * 2 ^ r.left < 2 ^ r.width * 2 ^ r.left :=
            Nat.mul_lt_mul_of_pos_right (Nat.sub_lt (Nat.two_pow_pos _) (by decide)) (Nat.two_pow_pos _)
        _ = 2 ^ (r.width + r.left) := (Nat.pow_add _ _ _).symm
        _ ≤ 2 ^ n := Nat.pow_le_pow_right (by decide) (by omega)
    rw [gridMask, Nat.testBit_or, testBit_gridMask n x y hx rs (fun q hq => h q (List.mem_cons_of_mem _ hq)),
      List.any_cons, Nat.testBit_shiftLeft]
    congr 1
    unfold QRDec.Region.has
    by_cases hy : r.top ≤ y
    · obtain ⟨d, rfl⟩ := Nat.exists_eq_add_of_le hy
      rw [show n * (r.top + d) + x - n * r.top = n * d + x by rw [Nat.mul_add]; omega,
        testBit_rowsMask n _ x hx hp, Nat.testBit_shiftLeft, Nat.testBit_two_pow_sub_one, Bool.eq_iff_iff]
      simp only [Bool.and_eq_true, decide_eq_true_eq, ge_iff_le]
      have : n * r.top ≤ n * (r.top + d) + x := by rw [Nat.mul_add]; omega
      omega
    · have : ¬ n * r.top ≤ n * y + x := by
        have := Nat.mul_le_mul_left n (show y + 1 ≤ r.top by omega)
        rw [Nat.mul_succ] at this
        omega
      simp [this, hy]

/-- data modules of an `n × n` grid whose function modules are the union of `regs`.  Words of 32 bits: the
    function modules are sparse, `oneBitsBy` spends one step on a zero word and `w + 1` on any other, and
    the kernel is quickest here with `w = 32` (narrower words: more steps over the empty grid; wider: dearer
    non-zero words). -/
def gridFree (regs : List QRDec.Region) (n : Nat) : Nat :=
  n * n - oneBitsBy 32 (gridMask n regs % 2 ^ (n * n)) ((n * n + 31) / 32)

theorem dataCount_eq_gridFree (v : Nat) (h1 : 1 ≤ v) (h40 : v ≤ 40) :
    dataCount v = gridFree (QRComp.allRegs v) (17 + 4 * v) := by
  obtain ⟨_, hval, hc⟩ := QRComp.fpOK_of v h1 h40
  have h := cntGrid_add_oneBits (fun x y => isFunction v x y) (gridMask (17 + 4 * v) (QRComp.allRegs v))
    (17 + 4 * v) (17 + 4 * v) (fun x y hx hy => by
      rw [testBit_gridMask _ x y hx _ (fun r hr => by
        have := List.all_eq_true.mp hval r hr
        simp only [QRDec.Region.valid, Bool.and_eq_true, decide_eq_true_eq] at this
        omega), QRComp.isFunction_eq_regs v x y h1 hx hy hc])
  unfold gridFree dataCount dimension
  rw [← oneBits_eq_by 32 _ _ _ (by omega)]
  omega

theorem gridFree_table :
    ∀ v ∈ List.range' 1 40, gridFree (QRComp.allRegs v) (17 + 4 * v) = rawDataModules v := by
  decide +kernel

end Gzx.QRRef
