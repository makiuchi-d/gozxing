/-
  The ITF DecodeRow model on the row the ITF writer draws (assembly of Proofs/RowITFRead, RowITFTop).
-/
import Gzx.Proofs.RowITFTop
namespace Gzx.RowITF
open Gzx Gzx.OneD Gzx.Row128

/-- reader tables fit the writer tables: same start pattern; the reader's rows 10..19 are the writer's ten patterns;
    twenty reader rows of five positive widths, pairwise non-proportional; the reader's first reversed end pattern has
    the writer's end pattern (reversed) below the variance threshold — all decidable -/
def wfRowITFB (Tw : Tables) (Tr : ItfT) : Bool :=
  WFITF Tw && (Tr.start == Tw.itfStart) && digitTableB Tr.patterns && (Tr.patterns.length == 20) &&
  (List.range 10).all (fun d => Tr.patterns.getD (10 + d) [] == Tw.itfWriter.getD d []) &&
  (match Tr.endRev with
   | e0 :: _ => (e0.length == Tw.itfEnd.length) && decide (0 < sumL e0) && pmvBelow Tw.itfEnd.reverse e0
   | [] => false)

theorem pairRuns_eq (Ww : List (List Nat)) (s : Nat) (pairs : List (Nat × Nat)) :
    pairRuns Ww s pairs = ((pairs.map (fun p => interleave (Ww.getD p.1 []) (Ww.getD p.2 []))).flatten).map (s * ·) := by
  induction pairs with
  | nil => rfl
  | cons p ps ih => rw [pairRuns_cons, ih]; simp

theorem pairRuns_pos {T : ItfT} {Ww : List (List Nat)} (hT : PairTables T Ww) (s : Nat) (hs : 0 < s)
    (pairs : List (Nat × Nat)) (hp : ∀ p ∈ pairs, p.1 < 10 ∧ p.2 < 10) : ∀ x ∈ pairRuns Ww s pairs, 0 < x := by
  induction pairs with
  | nil => intro x hx; simp [pairRuns] at hx
  | cons p ps ih =>
    intro x hx
    rw [pairRuns_cons, List.mem_append] at hx
    rcases hx with hx | hx
    · obtain ⟨y, hy, rfl⟩ := List.mem_map.mp hx
      have h1 := hp p (by simp)
      rcases interleave_mem _ _ y hy with h | h
      · exact Nat.mul_pos hs ((hT.shape p.1 h1.1).2 y h)
      · exact Nat.mul_pos hs ((hT.shape p.2 h1.2).2 y h)
    · exact ih (fun q hq => hp q (by simp [hq])) x hx

theorem pairRuns_length {T : ItfT} {Ww : List (List Nat)} (hT : PairTables T Ww) (s : Nat)
    (pairs : List (Nat × Nat)) (hp : ∀ p ∈ pairs, p.1 < 10 ∧ p.2 < 10) : (pairRuns Ww s pairs).length = 10 * pairs.length := by
  induction pairs with
  | nil => rfl
  | cons p ps ih =>
    have h1 := hp p (by simp)
    rw [pairRuns_cons, List.length_append, List.length_map,
      interleave_length _ _ (by rw [(hT.shape p.1 h1.1).1, (hT.shape p.2 h1.2).1]), (hT.shape p.1 h1.1).1,
      ih (fun q hq => hp q (by simp [hq])), List.length_cons]
    omega

theorem wfRowITF_facts (Tw : Tables) (Tr : ItfT) (h : wfRowITFB Tw Tr = true) :
    WFITF Tw = true ∧ Tr.start = Tw.itfStart ∧ PairTables Tr Tw.itfWriter ∧
    ∃ (h0 : 0 < Tr.endRev.length), Tr.endRev[0].length = Tw.itfEnd.length ∧ 0 < sumL Tr.endRev[0] ∧
      pmvBelow Tw.itfEnd.reverse Tr.endRev[0] = true := by
  simp only [wfRowITFB, Bool.and_eq_true, beq_iff_eq, List.all_eq_true, List.mem_range] at h
  obtain ⟨⟨⟨⟨⟨hwf, hst⟩, hdig⟩, h20⟩, hlink⟩, hend⟩ := h
  refine ⟨hwf, hst, ⟨hdig, h20, ?_⟩, ?_⟩
  · intro d hd
    have := hlink d hd
    rw [getD_eq_getElem _ _ _ (by omega)] at this
    exact this
  · cases he : Tr.endRev with
    | nil => rw [he] at hend; simp at hend
    | cons e0 es =>
      rw [he] at hend
      simp only [Bool.and_eq_true, beq_iff_eq, decide_eq_true_eq] at hend
      exact ⟨by simp, by simpa using hend.1.1, by simpa using hend.1.2, by simpa using hend.2⟩

/-- the ITF DecodeRow model on the row the ITF writer draws, every quiet zone ≥ 0, every scale ≥ 1, every
    ALLOWED_LENGTHS value that admits the length -/
theorem itf_row_core (Tw : Tables) (Tr : ItfT) (hWF : wfRowITFB Tw Tr = true) (ds : List Nat)
    (hd : ∀ d ∈ ds, d < 10) (heven : ds.length % 2 = 0) (allowed : Option (List Int))
    (hok : lengthOK (allowed.getD Tr.defaultAllowed) ds.length = true)
    (lq s rq : Nat) (hs : 0 < s) :
    ∃ mods, itfDraw Tw ds = .ok mods ∧
      decodeRow exactDom Tr (paddedRow lq s rq mods) allowed =
        .ok { text := ds.map (48 + ·), p0 := lq + s * sumL Tw.itfStart,
              p1 := (paddedRow lq s rq mods).length - (rq + s * sumL Tw.itfEnd) } := by
  obtain ⟨hwf, hst, hPT, h0, he0len, he0sum, he0below⟩ := wfRowITF_facts Tw Tr hWF
  refine ⟨_, itfDraw_runs Tw hwf ds hd, ?_⟩
  have hwf' := hwf
  simp only [WFITF, Bool.and_eq_true, beq_iff_eq, decide_eq_true_eq, List.all_eq_true] at hwf'
  obtain ⟨⟨⟨⟨⟨⟨_, _⟩, _⟩, hsl⟩, hsp⟩, hel⟩, hep⟩ := hwf'
  have hspos : ∀ x ∈ Tw.itfStart, 0 < x := fun x hx => by simpa using hsp x hx
  have hepos : ∀ x ∈ Tw.itfEnd, 0 < x := fun x hx => by simpa using hep x hx
  have hpairs : ∀ p ∈ itfPairs ds, p.1 < 10 ∧ p.2 < 10 := fun p hp =>
    ⟨hd _ (itfPairs_mem ds p hp).1, hd _ (itfPairs_mem ds p hp).2⟩
  generalize hS : Tw.itfStart = S at *
  generalize hE : Tw.itfEnd = E at *
  generalize hPW : ((itfPairs ds).map (fun p => interleave (Tw.itfWriter.getD p.1 []) (Tw.itfWriter.getD p.2 []))).flatten = PW
  have hPR : pairRuns Tw.itfWriter s (itfPairs ds) = PW.map (s * ·) := by rw [pairRuns_eq, hPW]
  have hPRpos := pairRuns_pos hPT s hs (itfPairs ds) hpairs
  have hPRlen := pairRuns_length hPT s (itfPairs ds) hpairs
  rw [hPR] at hPRpos hPRlen
  have hoddW : (S ++ PW ++ E).length % 2 = 1 := by
    have : PW.length = 10 * (itfPairs ds).length := by simpa using hPRlen
    simp only [List.length_append, hsl, hel, this]; omega
  have hRpos : ∀ x ∈ S ++ PW ++ E, 0 < x := by
    intro x hx
    simp only [List.mem_append] at hx
    rcases hx with (hx | hx) | hx
    · exact hspos x hx
    · have := hPRpos (s * x) (List.mem_map_of_mem hx); exact Nat.pos_of_mul_pos_left this
    · exact hepos x hx
  -- the row from its first bar on, and the reversed row from its first bar on
  generalize hrowdef : paddedRow lq s rq (appendPattern (S ++ PW ++ E) true) = row
  obtain ⟨hat0, _, _⟩ := paddedRow_rowAt (S ++ PW ++ E) lq s rq hs hoddW hRpos
  obtain ⟨hrat, hrw⟩ := paddedRow_reverse_rowAt (S ++ PW ++ E) lq s rq hs hoddW hRpos
  have hlw := paddedRow_take lq s rq (appendPattern (S ++ PW ++ E) true)
  rw [hrowdef] at hat0 hrat hrw hlw
  simp only [List.map_append, List.reverse_append, List.append_assoc] at hat0 hrat
  obtain ⟨w, rest, hwr⟩ : ∃ w rest, PW.map (s * ·) ++ (E.map (s * ·) ++ tailQ rq) = w :: rest :=
    List.exists_cons_of_length_pos (by simp [hel]; omega)
  obtain ⟨w2, rest2, hwr2⟩ : ∃ w rest, PW.reverse.map (s * ·) ++ (S.reverse.map (s * ·) ++ tailQ lq) = w :: rest :=
    List.exists_cons_of_length_pos (by simp [hsl]; omega)
  have hstart := decodeStart_at Tr (by rw [hst, hsl]; omega) row lq s hs w rest (by rw [hst, ← hwr]; exact hat0) hlw
  rw [hst] at hstart
  have hend := decodeEnd_at Tr Tr.endRev[0] h0 rfl E.reverse (by have := he0len; simp only [hel] at this; omega)
    (by simpa using he0len.symm) he0sum he0below row rq s hs w2 rest2 (by rw [← hwr2]; exact hrat) hrw
  -- the row seen from the end of the start pattern
  have hat1 := hat0.advance_even _ _ (by simp [hsl])
  rw [sumL_scale] at hat1
  have hrowlen := hat0.length
  simp only [sumL_append, sumL_scale] at hrowlen
  have hpend : row.length - (rq + s * sumL E.reverse) = lq + s * sumL S + sumL (PW.map (s * ·)) := by
    have : sumL (tailQ rq) = rq := by unfold tailQ; split <;> simp [sumL, *]
    rw [sumL_reverse, sumL_scale]
    omega
  have hmid := middleLoop_at Tr Tw.itfWriter hPT s hs row (itfPairs ds) (lq + s * sumL S) [] (E.map (s * ·) ++ tailQ rq)
    (row.length + 1) hpairs (by
      have : (itfPairs ds).length ≤ PW.length := by
        have : PW.length = 10 * (itfPairs ds).length := by simpa using hPRlen
        omega
      have h2 : PW.length ≤ sumL (PW.map (s * ·)) := by
        simpa using length_le_sumL (PW.map (s * ·)) hPRpos
      omega)
    (by rw [hPR]; exact hat1)
  rw [hPR] at hmid
  have htext : ((itfPairs ds).map (fun p => [48 + p.1, 48 + p.2])).flatten = ds.map (48 + ·) := by
    have hgen : ∀ (ps : List (Nat × Nat)), (ps.map (fun p => [48 + p.1, 48 + p.2])).flatten =
        ((ps.map (fun p => [p.1, p.2])).flatten).map (48 + ·) := by
      intro ps
      induction ps with
      | nil => rfl
      | cons p ps ih => simp [ih]
    rw [hgen, itfPairs_flatten ds heven]
  simp only [List.reverse_nil, List.nil_append] at hmid
  rw [htext] at hmid
  unfold decodeRow
  rw [hstart]
  simp only []
  rw [hend]
  simp only []
  rw [hpend, hmid]
  simp only [List.length_map, hok, Bool.not_true, Bool.false_eq_true, if_false]
  congr 2
  rw [sumL_reverse] at hpend
  omega

/-- the reference tables of reader and writer fit (evaluated here once for the instances in Properties) -/
theorem wfRowITFB_ref : wfRowITFB refTables refItfT = true := by decide +kernel

end Gzx.RowITF
