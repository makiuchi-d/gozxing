/-
  C16 helper lemmas: the single-cell operations of BitMatrix (Get / Set / Unset / Flip), naive side and refinement.
-/
import Gzx.Proofs.BitsMat
namespace Gzx.Bits
open Gzx

namespace SMat

theorem get_rows_modify (w h : Nat) (rows : List (List Bool)) (y : Nat)
    (f : List Bool → List Bool) (x' y' : Nat) :
    (SMat.mk w h (rows.modify y f)).get x' y' =
      if y = y' then (match rows[y']? with
        | some r => (f r)[x']?.getD false
        | none => false)
      else (SMat.mk w h rows).get x' y' := by
  unfold SMat.get
  simp only
  rw [List.getElem?_modify]
  by_cases e : y = y'
  · rw [if_pos e]
    cases rows[y']? <;> simp [e]
  · rw [if_neg e]
    cases rows[y']? <;> simp [e]

theorem WF_rows_modify (m : SMat) (hm : m.WF) (y : Nat) (f : List Bool → List Bool)
    (hf : ∀ r, (f r).length = r.length) : (SMat.mk m.width m.height (m.rows.modify y f)).WF := by
  constructor
  · simpa using hm.1
  · intro r hr
    simp only at hr
    obtain ⟨i, hi, rfl⟩ := List.getElem_of_mem hr
    rw [List.getElem_modify]
    have hi' : i < m.rows.length := by simpa using hi
    have := hm.2 _ (List.getElem_mem hi')
    split
    · rw [hf]; exact this
    · exact this

theorem modifyCell_eq (m : SMat) (hm : m.WF) (x y : Nat) (hx : x < m.width)
    (c : Bool → Bool) (f : List Bool → List Bool) (hf : ∀ r, (f r).length = r.length)
    (hfc : ∀ r x', (f r)[x']?.getD false = if x' = x ∧ x < r.length then c (r[x']?.getD false) else r[x']?.getD false) :
    SMat.mk m.width m.height (m.rows.modify y f) =
      ofFn m.width m.height (fun x' y' => if x' = x ∧ y' = y then c (m.get x' y') else m.get x' y') := by
  apply eq_ofFn_of _ (WF_rows_modify m hm y f hf) _ _ _ rfl rfl
  intro x' y' hx' hy'
  rw [get_rows_modify]
  have hyl : y' < m.rows.length := by rw [hm.1]; exact hy'
  rw [List.getElem?_eq_getElem hyl]
  simp only
  have hrl : m.rows[y'].length = m.width := hm.2 _ (List.getElem_mem hyl)
  have hg : m.get x' y' = (m.rows[y'])[x']?.getD false := get_eq m x' y' hyl
  by_cases e : y = y'
  · rw [if_pos e, hfc, hrl]
    by_cases e2 : x' = x
    · subst e2; simp [hx, e, hg]
    · simp [e2, hg]
  · rw [if_neg e]
    have : ¬ (x' = x ∧ y' = y) := fun hh => e hh.2.symm
    rw [if_neg this]

/-- `Set` and `Unset` -/
theorem setCell_eq (m : SMat) (hm : m.WF) (x y : Nat) (hx : x < m.width) (v : Bool) :
    SMat.mk m.width m.height (m.rows.modify y (fun r => r.set x v)) =
      ofFn m.width m.height (fun x' y' => if x' = x ∧ y' = y then v else m.get x' y') := by
  rw [modifyCell_eq m hm x y hx (fun _ => v) (fun r => r.set x v) (by simp)]
  intro r x'
  rw [List.getElem?_set]
  by_cases e : x = x'
  · subst e
    by_cases hl : x < r.length
    · simp [hl]
    · simp [hl]
  · have : ¬ x' = x := fun h => e h.symm
    simp [e, this]

theorem set_eq (m : SMat) (hm : m.WF) (x y : Nat) (hx : x < m.width) :
    m.set x y = ofFn m.width m.height (fun x' y' => if x' = x ∧ y' = y then true else m.get x' y') :=
  setCell_eq m hm x y hx true

theorem unset_eq (m : SMat) (hm : m.WF) (x y : Nat) (hx : x < m.width) :
    m.unset x y = ofFn m.width m.height (fun x' y' => if x' = x ∧ y' = y then false else m.get x' y') :=
  setCell_eq m hm x y hx false

theorem flip_eq (m : SMat) (hm : m.WF) (x y : Nat) (hx : x < m.width) :
    m.flip x y = ofFn m.width m.height (fun x' y' => if x' = x ∧ y' = y then !m.get x' y' else m.get x' y') := by
  unfold SMat.flip
  rw [modifyCell_eq m hm x y hx (fun b => !b) (fun r => r.modify x (fun b => !b)) (by simp)]
  intro r x'
  rw [List.getElem?_modify]
  by_cases e : x = x'
  · subst e
    by_cases hl : x < r.length
    · simp [hl]
    · simp [hl]
  · have : ¬ x' = x := fun h => e h.symm
    cases r[x']? <;> simp [e, this]

end SMat

namespace WMat

theorem get_refines (m : WMat) (x y : Nat) (h : InvM m) :
    m.get x y = .ok ((absM m).get x y) := by
  unfold WMat.get
  by_cases hout : x ≥ m.width ∨ y ≥ m.height
  · rw [if_pos hout]
    congr 1
    -- outside the grid the naive model answers false
    rw [absM_eq_ofFn, SMat.get_ofFn_out _ _ _ _ _ (by omega)]
  · rw [if_neg hout]
    have hx : x < m.width := by omega
    have hy : y < m.height := by omega
    have hk := h.idx hx hy
    simp only
    rw [wordAt_ok _ _ hk]
    simp only [bind, Except.bind, pure, Except.pure]
    rw [shr_and_one_ne_zero, absM_get m x y hx hy, mbit_word, List.getElem?_eq_getElem hk]
    rfl

/-- common part of Set / Unset / Flip: the word update rewrites cell `(x, y)` by `c` -/
theorem cellUpdate (m : WMat) (h : InvM m) (x y : Nat) (hx : x < m.width) (hy : y < m.height)
    {f : Nat → Nat} {c : Bool → Bool} (hop : BitOp (x % 32) f c) :
    ∃ ws', updWord m.words (y * m.rowSize + x / 32) f = .ok ws' ∧
      InvM { m with words := ws' } ∧
      absM { m with words := ws' } = SMat.ofFn m.width m.height
        (fun x' y' => if x' = x ∧ y' = y then c ((absM m).get x' y') else (absM m).get x' y') := by
  have hk := h.idx hx hy
  have hwl := h.width_le
  refine ⟨_, updWord_ok _ _ _ hk, cellwise m h _ _ (List.length_set ..)
    (words_lt_set h.words_lt (hop.lt (h.words_lt _ (List.getElem_mem hk)))) fun x' y' hx' hy' => ?_⟩
  rw [hop.bitAt_set (Nat.mod_lt _ (by decide)) hk,
    show (y * m.rowSize + x / 32) * 32 + x % 32 = (y * m.rowSize) * 32 + x by omega]
  have hinj := cell_inj (rs := m.rowSize) (x := x) (y := y) (x' := x') (y' := y') (by omega) hx'
  by_cases hin : x' < m.width
  · rw [if_pos hin, absM_get m x' y' hin hy', mbit_eq]
    by_cases e : x' = x ∧ y' = y
    · rw [if_pos (hinj.mpr e), if_pos e]
    · rw [if_neg (fun hh => e (hinj.mp hh)), if_neg e]
  · rw [if_neg hin, if_neg (fun hh => by have := (hinj.mp hh).1; omega)]
    exact h.pad x' y' (by omega) hx'

theorem set_refines (m : WMat) (x y : Nat) (h : InvM m) (hx : x < m.width) (hy : y < m.height) :
    RefinesM (m.set x y) ((absM m).set x y) := by
  obtain ⟨ws', h1, h2, h3⟩ := cellUpdate m h x y hx hy (bitOp_or (Nat.mod_lt _ (by decide)))
  unfold WMat.set
  dsimp only
  rw [h1]
  exact ⟨_, rfl, h2, by rw [h3, SMat.set_eq _ (absM_WF m) x y hx]; rfl⟩

theorem unset_refines (m : WMat) (x y : Nat) (h : InvM m) (hx : x < m.width) (hy : y < m.height) :
    RefinesM (m.unset x y) ((absM m).unset x y) := by
  obtain ⟨ws', h1, h2, h3⟩ := cellUpdate m h x y hx hy (bitOp_andnot _)
  unfold WMat.unset
  dsimp only
  rw [h1]
  exact ⟨_, rfl, h2, by rw [h3, SMat.unset_eq _ (absM_WF m) x y hx]; rfl⟩

theorem flip_refines (m : WMat) (x y : Nat) (h : InvM m) (hx : x < m.width) (hy : y < m.height) :
    RefinesM (m.flip x y) ((absM m).flip x y) := by
  obtain ⟨ws', h1, h2, h3⟩ := cellUpdate m h x y hx hy (bitOp_xor (Nat.mod_lt _ (by decide)))
  unfold WMat.flip
  dsimp only
  rw [h1]
  exact ⟨_, rfl, h2, by rw [h3, SMat.flip_eq _ (absM_WF m) x y hx]; rfl⟩

end WMat

end Gzx.Bits
