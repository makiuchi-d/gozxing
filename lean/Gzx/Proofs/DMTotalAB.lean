/-
  C02: a look-ahead oracle that proposes only ASCII and Base 256 never proposes a mode whose encoder could stall, so
  `encodeHL` terminates within its fuel and never panics (`encodeHL_total_of`): the result is a codeword list or a
  WriterException (no symbol fits / Base-256 run too long).
-/
import Gzx.Proofs.DMRoundTripAB
import Gzx.Proofs.DMTermDispatch
namespace Gzx.DMHighLevel

theorem LaAB.progress {la : LookAhead} (hla : LaAB la) (msg : List Nat) (tot : Nat) : LaProgress la msg tot where
  c40 text c _ _ _ h := by
    rcases hla c.msg c.pos ASCII with e | e <;> rw [e] at h <;> cases text <;> cases h
  xe c _ _ _ h := by
    rcases hla c.msg c.pos ASCII with e | e <;> rw [e] at h <;> rcases h with h | h <;> cases h

theorem encode_total_ab (syms : List SymbolInfo) (la : LookAhead) (hla : LaAB la) (msg : List Nat) (cfg : Cfg) :
    encodeHL syms la msg cfg = .error .writer ∨ ∃ cw, encodeHL syms la msg cfg = .ok cw :=
  (encodeHL_total_of syms la msg cfg (hla.progress msg _)).symm

end Gzx.DMHighLevel
