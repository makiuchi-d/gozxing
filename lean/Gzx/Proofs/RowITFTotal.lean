/-
  Helper lemmas for Properties/C06Row128.lean: the ITF row decoder model (Gzx/Model/OneDRowITF.lean) never
  panics and never runs out of fuel, for every interpretation of the variance arithmetic that does not panic on patterns
  at least as long as the counters.
-/
import Gzx.Proofs.Row128Total
import Gzx.Model.OneDRowITF
namespace Gzx.RowITF
open Gzx Gzx.OneD Gzx.Row128 Gzx.Det

/-- table facts: guard patterns of at least three runs (the counter shift `counters[2:…]`), two end patterns, digit
    patterns of at least five widths -/
def TableITF (T : ItfT) : Prop :=
  3 ≤ T.start.length ∧ 2 ≤ T.endRev.length ∧ (∀ p ∈ T.endRev, 3 ≤ p.length) ∧ ∀ p ∈ T.patterns, 5 ≤ p.length

def tableITFB (T : ItfT) : Bool :=
  decide (3 ≤ T.start.length) && decide (2 ≤ T.endRev.length) && T.endRev.all (fun p => decide (3 ≤ p.length)) &&
  T.patterns.all (fun p => decide (5 ≤ p.length))

theorem tableITF_of_B (T : ItfT) (h : tableITFB T = true) : TableITF T := by
  simp only [tableITFB, Bool.and_eq_true, decide_eq_true_eq, List.all_eq_true] at h
  exact ⟨h.1.1.1, h.1.1.2, h.1.2, h.2⟩

/-! ## findGuardPattern is the window loop -/

/-- what `itfReader_findGuardPattern` does when its counters are full -/
def checkITF (D : VarDom) (pattern : List Nat) (ps i : Nat) (cs : List Nat) : Res (Option (Nat × Nat)) :=
  match D.pmv cs pattern 1 2 with
  | .error e => .error e
  | .ok v => .ok (if D.lt v (D.frac 19 50) then some (ps, i) else none)

theorem guardLoop_eq_gen (D : VarDom) (pattern : List Nat) :
    ∀ (bs : List Bool) (x : Nat) (cs : List Nat) (pos ps : Nat) (isWhite : Bool),
      guardLoop D pattern bs x cs pos ps isWhite = genLoop pattern.length (checkITF D pattern) bs x cs pos ps isWhite
  | [], _, _, _, _, _ => rfl
  | b :: bs, x, cs, pos, ps, isWhite => by
    unfold guardLoop genLoop
    by_cases hb : (b != isWhite) = true
    · rw [if_pos hb, if_pos hb]
      cases incrChk cs pos with
      | error e => rfl
      | ok cs' => exact guardLoop_eq_gen D pattern bs _ _ _ _ _
    · rw [if_neg hb, if_neg hb]
      by_cases hlast : pos + 1 = pattern.length
      · rw [if_pos hlast, if_pos hlast]
        unfold checkITF
        cases D.pmv cs pattern 1 2 with
        | error e => rfl
        | ok v =>
          simp only []
          by_cases hlt : D.lt v (D.frac 19 50) = true
          · simp only [hlt, if_true]
          · simp only [hlt, Bool.false_eq_true, if_false]
            match cs with
            | c0 :: c1 :: tl =>
              simp only []
              split
              · rfl
              · exact guardLoop_eq_gen D pattern bs _ _ _ _ _
            | [_] => rfl
            | [] => rfl
      · rw [if_neg hlast, if_neg hlast]
        split
        · exact guardLoop_eq_gen D pattern bs _ _ _ _ _
        · rfl

/-- a guard pattern is reported as a range `ps ≤ x < row.length` -/
theorem findGuardPattern_sat (D : VarDom) (hD : D.PmvOk) (row : List Bool) (off : Nat) (pattern : List Nat)
    (h3 : 3 ≤ pattern.length) (hoff : off ≤ row.length) :
    Sat OnlyNotFound (fun r => r.1 ≤ r.2 ∧ r.2 < row.length) (findGuardPattern D row off pattern) := by
  unfold findGuardPattern
  rw [guardLoop_eq_gen]
  refine genLoop_sat (E := OnlyNotFound) rfl _ row.length 0 h3 _ ?_ _ _ _ _ _ _ (by simp) (by omega)
    (by rw [List.length_drop]; omega) (by rw [sumL_replicate_zero]; omega) (by omega)
  intro ps x cs hl hs _ hx
  obtain ⟨v, hv⟩ := hD cs pattern 1 2 (by omega)
  unfold checkITF
  rw [hv]
  intro r hr
  split at hr <;> cases hr
  exact ⟨by omega, hx⟩

/-! ## quiet zone -/

theorem quietLoop_sat (row : List Bool) : ∀ (i1 q : Nat), i1 ≤ row.length → Sat NoFault (fun _ => True) (quietLoop row i1 q)
  | 0, q, _ => trivial
  | i + 1, q, h => by
    unfold quietLoop
    split
    · trivial
    · rw [nth_ok row i (by omega)]
      simp only []
      split
      · trivial
      · exact quietLoop_sat row i (q - 1) (by omega)

theorem validateQuietZone_sat (row : List Bool) (nlw sp : Nat) (h : sp ≤ row.length) :
    Sat OnlyNotFound (fun _ => True) (validateQuietZone row nlw sp) := by
  unfold validateQuietZone
  simp only []
  refine Sat.step _ (quietLoop_sat row sp _ h).lift (fun _ h => h) (fun q _ => ?_)
  simp only []
  split
  · rfl
  · trivial

theorem skipWhiteSpace_sat (row : List Bool) : Sat OnlyNotFound (fun e => e ≤ row.length) (skipWhiteSpace row) := by
  unfold skipWhiteSpace
  simp only []
  split
  · rfl
  · exact getNextSet_le row 0

/-! ## decodeStart / decodeEnd -/

theorem decodeStart_sat (D : VarDom) (hD : D.PmvOk) (T : ItfT) (hT : TableITF T) (row : List Bool) :
    Sat OnlyNotFound (fun r => r.1.2 < row.length) (decodeStart D T row) := by
  unfold decodeStart
  refine Sat.step _ (wrapNF_sat (skipWhiteSpace_sat row)) (fun _ h => h) (fun e he => ?_)
  simp only []
  refine Sat.step _ (wrapNF_sat (findGuardPattern_sat D hD row e T.start hT.1 he)) (fun _ h => h) (fun sp hsp => ?_)
  simp only []
  refine Sat.step _ (wrapNF_sat (validateQuietZone_sat row ((sp.2 - sp.1) / 4) sp.1 (by omega))) (fun _ h => h)
    (fun _ _ => ?_)
  exact hsp.2

/-- NotFound for the first reversed end pattern means: try the second -/
theorem endGuard_sat (D : VarDom) (hD : D.PmvOk) (T : ItfT) (hT : TableITF T) (rr : List Bool) (e : Nat)
    (he : e ≤ rr.length) (p0 : List Nat) (hp0 : 3 ≤ p0.length) :
    Sat OnlyNotFound (fun r => r.1 ≤ r.2 ∧ r.2 < rr.length) (endGuard D T rr e p0) := by
  unfold endGuard
  obtain ⟨hs, he2, hep, _⟩ := hT
  refine Sat.step _ (findGuardPattern_sat D hD rr e p0 hp0 he) (fun f hf => ?_) (fun r hr => hr)
  rw [show f = Fault.notFound from hf]
  simp only [isNotFound, if_true]
  rw [nth_ok T.endRev 1 (by omega)]
  exact findGuardPattern_sat D hD rr e T.endRev[1] (hep _ (List.getElem_mem _)) he

theorem decodeEnd_sat (D : VarDom) (hD : D.PmvOk) (T : ItfT) (hT : TableITF T) (row : List Bool) (nlw : Nat) :
    Sat OnlyNotFound (fun _ => True) (decodeEnd D T row nlw) := by
  unfold decodeEnd
  simp only []
  refine Sat.step _ (wrapNF_sat (skipWhiteSpace_sat row.reverse)) (fun _ h => h) (fun e he => ?_)
  simp only []
  have h0 : 0 < T.endRev.length := by have := hT.2.1; omega
  rw [nth_ok T.endRev 0 h0]
  simp only []
  refine Sat.step _ (wrapNF_sat (endGuard_sat D hD T hT row.reverse e he T.endRev[0] (hT.2.2.1 _ (List.getElem_mem _))))
    (fun _ h => h) (fun ep hep => ?_)
  simp only []
  exact Sat.step _ (wrapNF_sat (validateQuietZone_sat row.reverse nlw ep.1 (by omega))) (fun _ h => h)
    (fun _ _ => trivial)

/-! ## decodeDigit / decodeMiddle -/

theorem bestLoopTie_sat (D : VarDom) (hD : D.PmvOk) (counters : List Nat) :
    ∀ (ps : List (List Nat)) (i : Nat) (best : D.V) (bm : Option Nat),
      (∀ p ∈ ps, counters.length ≤ p.length) → Sat NoFault (fun _ => True) (bestLoopTie D counters ps i best bm) := by
  intro ps
  induction ps with
  | nil => intro i best bm _; trivial
  | cons p ps ih =>
    intro i best bm h
    obtain ⟨v, hv⟩ := hD counters p 1 2 (h p (by simp))
    simp only [bestLoopTie, hv]
    have hrest : ∀ q ∈ ps, counters.length ≤ q.length := fun q hq => h q (by simp [hq])
    split
    · exact ih _ _ _ hrest
    · split
      · exact ih _ _ _ hrest
      · exact ih _ _ _ hrest

theorem decodeDigit_sat (D : VarDom) (hD : D.PmvOk) (T : ItfT) (hT : TableITF T) (cs : List Nat) (h5 : cs.length = 5) :
    Sat OnlyNotFound (fun _ => True) (decodeDigit D T cs) := by
  unfold decodeDigit
  refine Sat.step _ (bestLoopTie_sat D hD cs T.patterns 0 (D.frac 19 50) none (by rw [h5]; exact hT.2.2.2)).lift
    (fun _ h => h) (fun r _ => ?_)
  cases r with
  | none => rfl
  | some m => trivial

theorem splitPair_ok (pair : List Nat) (h : pair.length = 10) :
    ∃ b w, splitPair pair = .ok (b, w) ∧ b.length = 5 ∧ w.length = 5 := by
  match pair, h with
  | [a0, a1, a2, a3, a4, a5, a6, a7, a8, a9], _ => exact ⟨[a0, a2, a4, a6, a8], [a1, a3, a5, a7, a9], rfl, rfl, rfl⟩

/-- every pair consumes at least ten pixels, so `row.length + 1` rounds suffice -/
theorem middleLoop_sat (D : VarDom) (hD : D.PmvOk) (T : ItfT) (hT : TableITF T) (row : List Bool) (payloadEnd : Nat) :
    ∀ (fuel start : Nat) (acc : List Nat), start ≤ row.length → row.length < start + fuel →
      Sat OnlyNotFound (fun _ => True) (middleLoop D T row payloadEnd fuel start acc)
  | 0, _, _, h1, h2 => by omega
  | fuel + 1, start, acc, h1, h2 => by
    unfold middleLoop
    split
    · refine Sat.step _ (wrapRecord_sat row start 10 (by omega)) (fun _ h => h) (fun pair hf => ?_)
      simp only []
      obtain ⟨bl, wh, hsp, hb5, hw5⟩ := splitPair_ok pair hf.1
      rw [hsp]
      simp only []
      refine Sat.step _ (wrapNF_sat (decodeDigit_sat D hD T hT bl hb5)) (fun _ h => h) (fun d1 _ => ?_)
      simp only []
      refine Sat.step _ (wrapNF_sat (decodeDigit_sat D hD T hT wh hw5)) (fun _ h => h) (fun d2 _ => ?_)
      simp only []
      exact middleLoop_sat D hD T hT row payloadEnd fuel _ _ (by omega) (by omega)
    · trivial

/-! ## DecodeRow -/

/-- NotFound or Format only: the ITF reader has no checksum -/
theorem decodeRow_sat (D : VarDom) (hD : D.PmvOk) (T : ItfT) (hT : TableITF T) (row : List Bool)
    (allowed : Option (List Int)) : Sat (Either .notFound .format) (fun _ => True) (decodeRow D T row allowed) := by
  unfold decodeRow
  refine Sat.step _ (decodeStart_sat D hD T hT row) (fun _ h => Or.inl h) (fun r hlt => ?_)
  obtain ⟨sp, nlw⟩ := r
  simp only []
  refine Sat.step _ (decodeEnd_sat D hD T hT row nlw) (fun _ h => Or.inl h) (fun er _ => ?_)
  simp only []
  refine Sat.step _ (middleLoop_sat D hD T hT row er.1 (row.length + 1) sp.2 [] (by simp only [] at hlt; omega) (by omega))
    (fun _ h => Or.inl h) (fun res _ => ?_)
  simp only []
  split
  · exact Or.inr rfl
  · trivial

end Gzx.RowITF
