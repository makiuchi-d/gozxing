/-
  C02: the ASCII encoder under a look-ahead that never leaves ASCII, the macro trailer, and the initial context
  (macro 05/06 header); the round trip for such look-aheads is in DMRoundTripAB.
-/
import Gzx.Proofs.DMInvariant
namespace Gzx.DMHighLevel

/-- the macro trailer, if skipped, really is at the end of the message -/
def TrailerOK (c : Ctx) : Prop :=
  c.skipAtEnd = 0 ∨ (c.skipAtEnd = 2 ∧ 2 ≤ c.msg.length ∧ c.msg.drop (c.msg.length - 2) = macroTrailer)

/-- an ASCII data step stays before the (skipped) macro trailer: a digit pair cannot reach into `RS EOT` -/
theorem ascii_step_le {c c' : Ctx} (htr : TrailerOK c) (hm : c.pos < c.total) (hsf : SameFrame c c')
    (hpos : c'.pos = c.pos + 1 ∨ (c'.pos = c.pos + 2 ∧ c.pos + 2 ≤ c.msg.length ∧
      ∃ d, c.msg[c.pos + 1]? = some d ∧ isDigit d = true)) : c'.pos ≤ c'.total ∧ TrailerOK c' := by
  have htot : c'.total = c.total := by simp [Ctx.total, hsf.msg, hsf.skip]
  refine ⟨?_, by unfold TrailerOK; rw [hsf.msg, hsf.skip]; exact htr⟩
  rw [htot]
  rcases hpos with h1 | ⟨h2, hlen, d, hd, hdig⟩
  · omega
  · rcases htr with h0 | ⟨hs2, hl2, hdrop⟩
    · simp only [Ctx.total, h0] at hm ⊢; omega
    · simp only [Ctx.total, hs2] at hm ⊢
      by_cases hx : c.pos + 1 = c.msg.length - 2
      · exfalso
        obtain ⟨g, _, _, _⟩ := drop_cons_facts (l := c.msg) (pos := c.msg.length - 2) (x := 30) (r := [4]) hdrop
        rw [hx, g] at hd
        cases hd
        simp [isDigit] at hdig
      · omega

theorem asciiEncode_newEnc {la : LookAhead} (hla : ∀ m p, la m p ASCII = ASCII) {c c' : Ctx}
    (h : asciiEncode la c = .ok c') : c'.newEnc = c.newEnc := by
  obtain ⟨x, p, s, ho, rfl⟩ := asciiEncode_ok_iff.1 h
  cases ho
  case latch ch m code _ _ hl hm => exact absurd ((hla _ _).symm.trans hl).symm (latchCodes_ne_ascii hm)
  all_goals rfl

theorem initCtx_inv (T : Tables) (msg : List Nat) (cfg : Cfg) :
    ∃ a, Inv T (initCtx msg cfg) a ∧ (initCtx msg cfg).newEnc = none ∧ TrailerOK (initCtx msg cfg) ∧
      (initCtx msg cfg).pos ≤ (initCtx msg cfg).total ∧ (initCtx msg cfg).msg = msg ∧
      ((initCtx msg cfg).skipAtEnd = 0 ∧ a.trailer = [] ∨
       (initCtx msg cfg).skipAtEnd = 2 ∧ a.trailer = macroTrailer) := by
  have hsuf : ∀ m : List Nat, hasSuffix m macroTrailer = true →
      2 ≤ m.length ∧ m.drop (m.length - 2) = macroTrailer := by
    intro m h
    simp only [hasSuffix, macroTrailer, List.length_cons, List.length_nil, Bool.and_eq_true,
      beq_iff_eq] at h
    have h1 := of_decide_eq_true h.1
    have h2 := h.2
    simp only [Nat.zero_add] at h1 h2
    exact ⟨h1, h2⟩
  have hpre : ∀ (n : Nat) (m : List Nat), (macroHeader n).isPrefixOf m = true → hasSuffix m macroTrailer = true →
      m.take 7 = macroHeader n ∧ 9 ≤ m.length := by
    intro n m h hs
    obtain ⟨t, ht⟩ := List.isPrefixOf_iff_prefix.mp h
    obtain ⟨h2, hd⟩ := hsuf m hs
    have hlen : (macroHeader n).length = 7 := rfl
    refine ⟨by rw [← ht, List.take_left' hlen], ?_⟩
    -- the header ends with GS (29), the trailer starts with RS (30): they cannot overlap
    subst ht
    simp only [List.length_append, hlen] at h2 hd ⊢
    match t, hd with
    | [], hd => simp [macroHeader, macroTrailer] at hd
    | [x], hd => simp [macroHeader, macroTrailer] at hd
    | x :: y :: r, _ => simp; omega
  unfold initCtx
  simp only
  split
  · rename_i h
    simp only [Bool.and_eq_true] at h
    obtain ⟨htake, hlen⟩ := hpre 5 msg h.1 h.2
    obtain ⟨h2, hd⟩ := hsuf msg h.2
    refine ⟨{ ({} : Acc).pushAll (macroHeader 5) with trailer := macroTrailer }, ⟨?_, ?_, rfl⟩, rfl,
      Or.inr ⟨rfl, h2, hd⟩, ?_, rfl, Or.inr ⟨rfl, rfl⟩⟩
    · exact decodesTo_macro T 5 (Or.inl rfl)
    · simp only [Ctx.write]; rw [htake]; rfl
    · simp only [Ctx.total, Ctx.write]; omega
  · split
    · rename_i _ h
      simp only [Bool.and_eq_true] at h
      obtain ⟨htake, hlen⟩ := hpre 6 msg h.1 h.2
      obtain ⟨h2, hd⟩ := hsuf msg h.2
      refine ⟨{ ({} : Acc).pushAll (macroHeader 6) with trailer := macroTrailer }, ⟨?_, ?_, rfl⟩, rfl,
        Or.inr ⟨rfl, h2, hd⟩, ?_, rfl, Or.inr ⟨rfl, rfl⟩⟩
      · exact decodesTo_macro T 6 (Or.inr rfl)
      · simp only [Ctx.write]; rw [htake]; rfl
      · simp only [Ctx.total, Ctx.write]; omega
    · refine ⟨{}, ⟨decodesTo_nil T, by simp, rfl⟩, rfl, Or.inl rfl, by simp [Ctx.total], rfl, Or.inl ⟨rfl, rfl⟩⟩

theorem initCtx_bytes (msg : List Nat) (cfg : Cfg) : ∀ x ∈ (initCtx msg cfg).cw, x < 256 := by
  unfold initCtx
  simp only
  split
  · intro x hx; simp [Ctx.write] at hx; omega
  · split
    · intro x hx; simp [Ctx.write] at hx; omega
    · intro x hx; simp at hx

/-- at the end of the message the accumulator, with the macro trailer of the initial context, stands for the message -/
theorem final_text {msg : List Nat} {cfg : Cfg} {a0 a : Acc} {c1 : Ctx} (htr0 : TrailerOK (initCtx msg cfg))
    (hmsg0 : (initCtx msg cfg).msg = msg)
    (htrail : (initCtx msg cfg).skipAtEnd = 0 ∧ a0.trailer = [] ∨
      (initCtx msg cfg).skipAtEnd = 2 ∧ a0.trailer = macroTrailer)
    (hm1 : c1.msg = msg) (hskip1 : c1.skipAtEnd = (initCtx msg cfg).skipAtEnd) (hend : c1.pos = c1.total)
    (ht : a.rev.reverse = c1.msg.take c1.pos) (htl : a.trailer = a0.trailer) : a.text = msg := by
  simp only [Acc.text, ht, htl, hend, hm1, Ctx.total, hskip1]
  rcases htrail with ⟨hs, ht0⟩ | ⟨hs, ht0⟩
  · rw [hs, ht0]; simp
  · rw [hs, ht0]
    rcases htr0 with h0 | ⟨_, h2, hdrop⟩
    · rw [hs] at h0; cases h0
    · rw [hmsg0] at hdrop h2
      rw [← hdrop, List.take_append_drop]

end Gzx.DMHighLevel
