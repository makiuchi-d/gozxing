/-
  wp `enc2` — `chooseMode` of the mirror model characterised: for EVERY content and CHARACTER_SET hint value it
  returns (never an error, never a panic) the mode of the reference mode analysis `refMode`:
  Kanji iff the hint is Shift_JIS and `isOnlyDoubleByteKanji`, else numeric iff the content is non-empty and all
  digits, else alphanumeric iff it is non-empty and every character is in the 45-character table, else byte.
-/
import Gzx.Proofs.QREncSegments
namespace Gzx.QREnc
open Gzx Gzx.QRRef

/-- lead byte of a double-byte Shift_JIS character in the ranges QR Kanji mode covers -/
def leadOK (b : Nat) : Bool := (0x81 ≤ b && b ≤ 0x9F) || (0xE0 ≤ b && b ≤ 0xEB)

/-- `isOnlyDoubleByteKanji` as a predicate: the Shift_JIS encoder succeeded, the byte count is even and every byte at
    an even position is such a lead byte -/
def onlyDoubleByteKanji (sjis : Option (List Nat)) : Bool :=
  match sjis with
  | none => false
  | some bytes => bytes.length % 2 == 0 && (List.range (bytes.length / 2)).all (fun k => leadOK (bytes.getD (2 * k) 0))

def inTable (c : Nat) : Bool := (alnumCode c).isSome
def isDigitB (c : Nat) : Bool := 48 ≤ c && c ≤ 57

def refMode (content : List Nat) (isSJIS : Bool) (sjis : Option (List Nat)) : Mode :=
  if isSJIS && onlyDoubleByteKanji sjis then .kanji
  else if !content.isEmpty && content.all isDigitB then .numeric
  else if !content.isEmpty && content.all inTable then .alnum
  else .byte

theorem isOnlyDoubleByteKanji_eq (sjis : Option (List Nat)) :
    isOnlyDoubleByteKanji sjis = .ok (onlyDoubleByteKanji sjis) := by
  cases sjis with
  | none => rfl
  | some bytes =>
    unfold isOnlyDoubleByteKanji onlyDoubleByteKanji
    simp only
    by_cases he : bytes.length % 2 = 0
    · have h1 : ¬ (bytes.length % 2 ≠ 0) := by omega
      rw [if_neg h1]
      have key : ∀ k, 2 * k ≤ bytes.length →
          (List.range k).foldlM (fun (ok : Bool) k =>
            if !ok then pure false
            else do
              let byte1 ← idx bytes ((2 * k : Nat) : Int)
              pure (!((byte1 < 0x81 ∨ byte1 > 0x9F) ∧ (byte1 < 0xE0 ∨ byte1 > 0xEB)))) true =
            (.ok ((List.range k).all (fun k => leadOK (bytes.getD (2 * k) 0))) : Res Bool) := by
        intro k
        induction k with
        | zero => intro _; rfl
        | succ k ih =>
          intro hk
          rw [List.range_succ, List.foldlM_append, ih (by omega)]
          simp only [bind, Except.bind, List.foldlM_cons, List.foldlM_nil, List.all_append, List.all_cons, List.all_nil,
            Bool.and_true]
          cases hall : (List.range k).all (fun k => leadOK (bytes.getD (2 * k) 0))
          · simp [pure, Except.pure]
          · simp only [Bool.not_true, Bool.false_eq_true, if_false, Bool.true_and]
            rw [idx_nat bytes (2 * k) (by omega)]
            simp only [pure, Except.pure]
            have : bytes.getD (2 * k) 0 = bytes[2 * k]'(by omega) := by
              simp [List.getD_eq_getElem?_getD, List.getElem?_eq_getElem (by omega : 2 * k < bytes.length)]
            rw [this]
            generalize bytes[2 * k]'(by omega) = b
            congr 1
            unfold leadOK
            by_cases h : ((b < 0x81 ∨ b > 0x9F) ∧ (b < 0xE0 ∨ b > 0xEB))
            · simp only [h]
              simp; omega
            · simp only [h, decide_false, Bool.not_false]
              simp; omega
      rw [key (bytes.length / 2) (by omega)]
      simp [he]
    · rw [if_pos he]
      simp [he]

/-- one step of the scan loop of `chooseMode` -/
def scanStep (st : Option (Bool × Bool)) (c : Nat) : Res (Option (Bool × Bool)) :=
  match st with
  | none => pure none
  | some (hasNumeric, hasAlphanumeric) =>
    if c ≥ 48 ∧ c ≤ 57 then pure (some (true, hasAlphanumeric))
    else do
      let code ← getAlphanumericCode c
      if code ≠ -1 then pure (some (hasNumeric, true)) else pure none

theorem scanContent_def (content : List Nat) : scanContent content = content.foldlM scanStep (some (false, false)) := rfl

/-- the step without the error monad -/
def scanPure (st : Option (Bool × Bool)) (c : Nat) : Option (Bool × Bool) :=
  match st with
  | none => none
  | some (n, a) => if isDigitB c then some (true, a) else if inTable c then some (n, true) else none

theorem scanStep_eq (st : Option (Bool × Bool)) (c : Nat) : scanStep st c = .ok (scanPure st c) := by
  cases st with
  | none => rfl
  | some p =>
    obtain ⟨n, a⟩ := p
    unfold scanStep scanPure
    simp only
    by_cases hd : c ≥ 48 ∧ c ≤ 57
    · have hdb : isDigitB c = true := by simp [isDigitB]; omega
      rw [if_pos hd, hdb]; rfl
    · have hdb : isDigitB c = false := by simp [isDigitB]; omega
      rw [if_neg hd, getAlphanumericCode_eq, hdb]
      simp only [bind, Except.bind, Bool.false_eq_true, if_false]
      cases hc : alnumCode c with
      | none => simp [inTable, hc, pure, Except.pure]
      | some k =>
        have hk : ((k : Int) ≠ -1) := by omega
        simp [inTable, hc, hk, pure, Except.pure]

theorem scanPure_none (l : List Nat) : l.foldl scanPure none = none := by
  induction l with
  | nil => rfl
  | cons c cs ih => exact ih

theorem scanPure_fold : ∀ (l : List Nat) (n a : Bool),
    l.foldl scanPure (some (n, a)) =
      if l.all inTable then some (n || l.any isDigitB, a || l.any (fun c => !isDigitB c)) else none := by
  intro l
  induction l with
  | nil => intro n a; simp
  | cons c cs ih =>
    intro n a
    simp only [List.foldl_cons, List.all_cons, List.any_cons]
    have hstep : scanPure (some (n, a)) c =
        (if isDigitB c then some (true, a) else if inTable c then some (n, true) else none) := rfl
    rw [hstep]
    cases hd : isDigitB c
    · by_cases hin : inTable c = true
      · simp only [Bool.false_eq_true, if_false, if_true, hin, ih, Bool.true_and, Bool.false_or, Bool.not_false, Bool.true_or,
          Bool.or_true]
      · simp [hin, scanPure_none]
    · have hin : inTable c = true := by
        unfold inTable alnumCode
        have : 48 ≤ c ∧ c ≤ 57 := by simpa [isDigitB] using hd
        simp [this]
      simp only [if_true, ih, hin, Bool.true_and, Bool.true_or, Bool.or_true, Bool.not_true, Bool.false_or]

theorem scanContent_eq (content : List Nat) :
    scanContent content =
      .ok (if content.all inTable then some (content.any isDigitB, content.any (fun c => !isDigitB c)) else none) := by
  rw [scanContent_def, foldlM_ok scanStep scanPure _ _ (fun s i _ => scanStep_eq s i), scanPure_fold]
  simp

theorem all_digit_iff (content : List Nat) : content.all isDigitB = !content.any (fun c => !isDigitB c) := by
  induction content with
  | nil => rfl
  | cons c cs ih => simp only [List.all_cons, List.any_cons, ih]; cases isDigitB c <;> simp

theorem digit_inTable (content : List Nat) (h : content.all isDigitB = true) : content.all inTable = true := by
  rw [List.all_eq_true] at h ⊢
  intro c hc
  have := h c hc
  unfold inTable alnumCode
  simp only [isDigitB, Bool.and_eq_true, decide_eq_true_eq] at this
  simp [this]

/-- the mode the scan loop and the three tests after it yield -/
theorem scanMode_eq (content : List Nat) :
    (do
      match ← scanContent content with
      | none => pure Mode.byte
      | some (hasNumeric, hasAlphanumeric) =>
        if hasAlphanumeric then pure Mode.alnum
        else if hasNumeric then pure Mode.numeric
        else pure Mode.byte : Res Mode) =
      .ok (if !content.isEmpty && content.all isDigitB then Mode.numeric
        else if !content.isEmpty && content.all inTable then Mode.alnum else Mode.byte) := by
  rw [scanContent_eq]
  simp only [bind, Except.bind, pure, Except.pure]
  by_cases hall : content.all inTable = true
  · rw [if_pos hall]
    simp only [hall, Bool.and_true]
    by_cases hnd : content.any (fun c => !isDigitB c) = true
    · have hd : content.all isDigitB = false := by rw [all_digit_iff, hnd]; rfl
      have hne : content.isEmpty = false := by cases content <;> simp at hnd ⊢
      simp [hnd, hd, hne]
    · have hnd' : content.any (fun c => !isDigitB c) = false := by simpa using hnd
      have hd : content.all isDigitB = true := by rw [all_digit_iff, hnd']; rfl
      simp only [hnd', Bool.false_eq_true, if_false, hd, Bool.and_true]
      cases content with
      | nil => simp
      | cons c cs =>
        have : isDigitB c = true := by simp only [List.all_cons, Bool.and_eq_true] at hd; exact hd.1
        simp [this]
  · have hall' : content.all inTable = false := by simpa using hall
    have hd : content.all isDigitB = false := by
      cases h : content.all isDigitB
      · rfl
      · exact absurd (digit_inTable content h) hall
    simp [hall', hd]

theorem chooseMode_eq (content : List Nat) (isSJIS : Bool) (sjis : Option (List Nat)) :
    chooseMode content isSJIS sjis = .ok (refMode content isSJIS sjis) := by
  unfold chooseMode refMode
  cases isSJIS
  · simp only [Bool.false_eq_true, if_false, Bool.false_and]
    exact scanMode_eq content
  · simp only [if_true, Bool.true_and]
    rw [isOnlyDoubleByteKanji_eq]
    cases hk : onlyDoubleByteKanji sjis
    · simp only [Bool.false_eq_true, if_false]
      exact scanMode_eq content
    · rfl

end Gzx.QREnc
