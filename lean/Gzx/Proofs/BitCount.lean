/-
  Counting set bits by arithmetic.  Kernel evaluation pays per step of a recursion, and a step that
  only shifts, takes `% 2` and adds costs a fraction of one that tests a bit and branches; a sweep
  over a bit mask therefore counts with `oneBits`, and over a sparse mask with `oneBitsBy`, which
  spends one step on a zero word (Proofs/QRCount.lean).
-/
namespace Gzx.BitCount

/-- set bits among bits `0 … k-1` -/
def oneBits (m : Nat) : Nat → Nat
  | 0 => 0
  | x + 1 => (m >>> x) % 2 + oneBits m x

theorem shiftRight_mod_two (m x : Nat) : (m >>> x) % 2 = if m.testBit x then 1 else 0 := by
  rw [Nat.testBit_eq_decide_div_mod_eq, Nat.shiftRight_eq_div_pow]
  have := Nat.mod_two_eq_zero_or_one (m / 2 ^ x)
  split <;> simp_all

theorem oneBits_zero : ∀ k, oneBits 0 k = 0
  | 0 => rfl
  | k + 1 => by rw [oneBits, oneBits_zero k, Nat.zero_shiftRight]

theorem oneBits_add (m a : Nat) : ∀ b, oneBits m (a + b) = oneBits m a + oneBits (m >>> a) b
  | 0 => rfl
  | b + 1 => by
    rw [← Nat.add_assoc, oneBits, oneBits, oneBits_add m a b, ← Nat.shiftRight_add]
    omega

theorem oneBits_congr {m m' : Nat} : ∀ k, (∀ i < k, m.testBit i = m'.testBit i) → oneBits m k = oneBits m' k
  | 0, _ => rfl
  | k + 1, h => by
    rw [oneBits, oneBits, shiftRight_mod_two, shiftRight_mod_two, h k (Nat.lt_succ_self k),
      oneBits_congr k (fun i hi => h i (Nat.lt_succ_of_lt hi))]

/-- set bits among bits `0 … w*c-1`, one `w`-bit word at a time; a zero word costs one step -/
def oneBitsBy (w m : Nat) : Nat → Nat
  | 0 => 0
  | c + 1 =>
    (match (m >>> (w * c)) % 2 ^ w with
     | 0 => 0
     | x + 1 => oneBits (x + 1) w) + oneBitsBy w m c

theorem oneBitsBy_eq (w m : Nat) : ∀ c, oneBitsBy w m c = oneBits m (w * c)
  | 0 => rfl
  | c + 1 => by
    have hword : (match (m >>> (w * c)) % 2 ^ w with | 0 => 0 | x + 1 => oneBits (x + 1) w) =
        oneBits (m >>> (w * c)) w := by
      rw [← oneBits_congr (m := (m >>> (w * c)) % 2 ^ w) w (fun i hi => by
        rw [Nat.testBit_mod_two_pow]; simp [hi])]
      cases (m >>> (w * c)) % 2 ^ w with
      | zero => exact (oneBits_zero w).symm
      | succ x => rfl
    rw [oneBitsBy, hword, oneBitsBy_eq w m c, Nat.mul_succ, oneBits_add, Nat.add_comm]

/-- the set bits below bit `n`, counted word by word on the truncated number -/
theorem oneBits_eq_by (w x n c : Nat) (h : n ≤ w * c) : oneBits x n = oneBitsBy w (x % 2 ^ n) c := by
  obtain ⟨j, hj⟩ := Nat.exists_eq_add_of_le h
  rw [oneBitsBy_eq, hj, oneBits_add, Nat.shiftRight_eq_div_pow,
    Nat.div_eq_of_lt (Nat.mod_lt _ (Nat.two_pow_pos n)), oneBits_zero, Nat.add_zero]
  exact oneBits_congr n (fun i hi => by rw [Nat.testBit_mod_two_pow]; simp [hi])

end Gzx.BitCount
