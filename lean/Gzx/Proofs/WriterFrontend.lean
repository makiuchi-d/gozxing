/-
  C12 helper definitions: "does not panic" (`NoPanic`, with the lemmas that carry it through `bind` and `mapM`), totality
  of an encoder core, and the two facts on `List.mapM` (all succeed / where an error comes from) by which
  Gzx/Proofs/WriterCores.lean proves the concrete encoder cores total.
-/
import Gzx.Model.WriterFrontend
import Gzx.Proofs.ExceptList
namespace Gzx.WriterFrontend
open Gzx Gzx.Render

/-- "does not panic": a value, one of the library's checked errors, or `.fuel` (which this predicate does not exclude) -/
def NoPanic {α : Type} (r : Res α) : Prop := ∀ why, r ≠ .error (.panic why)

theorem noPanic_ok {α : Type} (a : α) : NoPanic (.ok a : Res α) := by intro w h; cases h

/-- `NewWriterException("literal", args…)` never trips the `args[0].(string)` assertion -/
theorem newWriterException_lit (args : List HintVal) : ∀ why, newWriterException (lit :: args) ≠ .panic why := by
  intro why h; simp [newWriterException, lit] at h

theorem noPanic_lit {α : Type} (args : List HintVal) : NoPanic (.error (newWriterException (lit :: args)) : Res α) := by
  intro why h
  injection h with h
  exact newWriterException_lit args why h

/-- the QR encoder core (rest of `Encoder_encode`) is total and yields a non-empty matrix -/
structure QRCoreTotal (env : QREnv) : Prop where
  noPanic : ∀ c e h, NoPanic (env.core c e h)
  nonEmpty : ∀ c e h md, env.core c e h = .ok md → 1 ≤ md.mw ∧ 1 ≤ md.mh

structure DMCoreTotal (env : DMEnv) : Prop where
  noPanic : ∀ c s mn mx, NoPanic (env.core c s mn mx)
  nonEmpty : ∀ c s mn mx md, env.core c s mn mx = .ok md → 1 ≤ md.mw ∧ 1 ≤ md.mh

structure OneDCoreTotal (core : List Nat → Hints → Res (List Bool)) : Prop where
  noPanic : ∀ c h, NoPanic (core c h)
  nonEmpty : ∀ c h code, core c h = .ok code → 1 ≤ code.length


/-! ## Except toolbox -/

theorem NoPanic.bind {α β : Type} {x : Res α} {f : α → Res β} (hx : NoPanic x)
    (hf : ∀ a, x = .ok a → NoPanic (f a)) : NoPanic (x >>= f) := by
  cases x with
  | error e =>
    intro w h
    have h' : (Except.error e : Res β) = .error (.panic w) := h
    injection h' with h'
    exact hx w (by rw [h'])
  | ok a => exact hf a rfl

/-- passing on the error of a callee that does not panic does not panic -/
theorem NoPanic.of_error {α β : Type} {x : Res α} (hx : NoPanic x) {f : Fault} (hf : x = .error f) :
    NoPanic (.error f : Res β) := by
  intro why hw
  injection hw with hw
  subst hw
  exact hx why hf

theorem noPanic_error {α : Type} (f : Fault) (hf : ∀ w, f ≠ .panic w) : NoPanic (.error f : Res α) := by
  intro w h; injection h with h; exact hf w h

theorem noPanic_writer {α : Type} : NoPanic (.error .writer : Res α) := by
  intro w h; cases h

theorem noPanic_mapM {α β : Type} (f : α → Res β) (l : List α) (h : ∀ x ∈ l, NoPanic (f x)) :
    NoPanic (l.mapM f) := by
  induction l with
  | nil => simp only [List.mapM_nil]; intro w h; cases h
  | cons a l ih =>
    simp only [List.mapM_cons]
    apply NoPanic.bind (h a (by simp))
    intro b _
    apply NoPanic.bind (ih (fun x hx => h x (by simp [hx])))
    intro bs _ w hw
    cases hw

theorem mapM_exists_ok {α β : Type} (f : α → Res β) (l : List α) (h : ∀ x ∈ l, ∃ y, f x = .ok y) :
    ∃ ys, l.mapM f = .ok ys ∧ ys.length = l.length ∧ ∀ y ∈ ys, ∃ x ∈ l, f x = .ok y := by
  induction l with
  | nil => exact ⟨[], rfl, rfl, by simp⟩
  | cons a l ih =>
    obtain ⟨b, hb⟩ := h a (by simp)
    obtain ⟨bs, hbs, hlen, hmem⟩ := ih (fun x hx => h x (by simp [hx]))
    refine ⟨b :: bs, ?_, by simp [hlen], ?_⟩
    · simp only [List.mapM_cons, hb, hbs, bind, Except.bind, pure, Except.pure]
    · intro y hy
      simp only [List.mem_cons] at hy
      rcases hy with rfl | hy
      · exact ⟨a, by simp, hb⟩
      · obtain ⟨x, hx, hfx⟩ := hmem y hy
        exact ⟨x, by simp [hx], hfx⟩

theorem mapM_error_elem {α β : Type} (f : α → Res β) (l : List α) (e : Fault) (h : l.mapM f = .error e) :
    ∃ x ∈ l, f x = .error e := by
  induction l with
  | nil => simp only [List.mapM_nil, pure, Except.pure] at h; cases h
  | cons a l ih =>
    simp only [List.mapM_cons, bind, Except.bind] at h
    split at h
    · rename_i e' he; cases h; exact ⟨a, by simp, he⟩
    · split at h
      · rename_i e' he; cases h
        obtain ⟨x, hx, hfx⟩ := ih he
        exact ⟨x, by simp [hx], hfx⟩
      · simp only [pure, Except.pure] at h; cases h

end Gzx.WriterFrontend
