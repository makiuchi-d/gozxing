/-
  C16 helper lemmas: GetNextSet / GetNextUnset.  The word scan and `findIdx` on the naive list both return the least
  position at or after `from` of the same set (`IsLo`), `size` if there is none.
-/
import Gzx.Proofs.Bits
import Gzx.Proofs.BitsLeast
namespace Gzx.Bits
open Gzx

theorem isLo_findIdx (p : Bool → Bool) (a : List Bool) (frm : Nat) (hf : frm ≤ a.length) :
    IsLo (fun g => frm ≤ g ∧ g < a.length ∧ p (a[g]?.getD false) = true) a.length
      (frm + (a.drop frm).findIdx p) := by
  have hle : (a.drop frm).findIdx p ≤ (a.drop frm).length := List.findIdx_le_length
  have hget : ∀ j (hj : j < (a.drop frm).length), (a.drop frm)[j] = a[frm + j]?.getD false := by
    intro j hj
    rw [List.length_drop] at hj
    rw [List.getElem_drop, List.getElem?_eq_getElem (by omega)]; rfl
  rw [List.length_drop] at hle
  refine IsLo.of_before (by omega) (fun g hg ⟨g1, g2, g3⟩ => ?_) fun hlt => ?_
  · have hj : g - frm < (a.drop frm).findIdx p := by omega
    have := List.not_of_lt_findIdx hj
    rw [hget, show frm + (g - frm) = g by omega] at this
    rw [this] at g3; cases g3
  · have hj : (a.drop frm).findIdx p < (a.drop frm).length := by rw [List.length_drop]; omega
    have := List.findIdx_getElem (w := hj)
    rw [hget] at this
    exact ⟨by omega, hlt, this⟩

namespace WArr

/-- what the word scan finds, read on the bit stream of `cur :: rest` (complemented when `inv`):
    either the stream is empty, or word `o - off` is the first non-zero one -/
theorem scanNonzero_spec (inv : Bool) (rest : List Nat) : ∀ (cur off : Nat),
    match scanNonzero inv cur rest off with
    | none => ∀ g, bitAt (cur :: rest.map (fun w => if inv then not32 w else w)) g = false
    | some (o, w) => off ≤ o ∧ w ≠ 0 ∧
        (cur :: rest.map (fun w => if inv then not32 w else w))[o - off]? = some w ∧
        ∀ g, g < (o - off) * 32 → bitAt (cur :: rest.map (fun w => if inv then not32 w else w)) g = false := by
  induction rest with
  | nil =>
    intro cur off
    unfold scanNonzero
    by_cases hc : cur ≠ 0
    · rw [if_pos hc]
      exact ⟨Nat.le_refl _, hc, by simp, fun g hg => by omega⟩
    · rw [if_neg hc, Decidable.not_not.mp hc]
      intro g
      rw [bitAt_cons]; split
      · exact Nat.zero_testBit _
      · exact bitAt_of_ge [] _ (Nat.zero_le _)
  | cons w r ih =>
    intro cur off
    unfold scanNonzero
    by_cases hc : cur ≠ 0
    · rw [if_pos hc]
      exact ⟨Nat.le_refl _, hc, by simp, fun g hg => by omega⟩
    · rw [if_neg hc, Decidable.not_not.mp hc]
      have := ih (if inv then not32 w else w) (off + 1)
      simp only [List.map_cons]
      split
      · rename_i heq
        rw [heq] at this
        intro g
        rw [bitAt_cons]; split
        · exact Nat.zero_testBit _
        · exact this _
      · rename_i o w' heq
        rw [heq] at this
        obtain ⟨t1, t2, t3, t4⟩ := this
        refine ⟨by omega, t2, ?_, fun g hg => ?_⟩
        · rw [show o - off = (o - (off + 1)) + 1 by omega, List.getElem?_cons_succ]; exact t3
        · rw [bitAt_cons]; split
          · exact Nat.zero_testBit _
          · exact t4 _ (by omega)

/-- `if inv then not32 w else w`: the word as the scan sees it, complemented when unset bits are looked for -/
theorem testBit_eff (inv : Bool) (w j : Nat) (hj : j < 32) :
    (if inv then not32 w else w).testBit j = (w.testBit j ^^ inv) := by
  cases inv
  · simp
  · simp [testBit_not32, hj]

theorem eff_lt (inv : Bool) (w : Nat) (h : w < W32) : (if inv then not32 w else w) < W32 := by
  cases inv
  · simpa using h
  · simpa using not32_lt h

/-- the stream that `nextGeneric` scans is the array's stream from word `frm / 32` on, complemented when
    `inv`, with the bits below `frm` masked off -/
theorem bitAt_scanned (inv : Bool) (ws : List Nat) (frm : Nat) (hk0 : frm / 32 < ws.length) (j : Nat)
    (hj : frm / 32 * 32 + j < ws.length * 32) :
    bitAt (((if inv then not32 ws[frm / 32] else ws[frm / 32]) &&& neg32 (2 ^ (frm % 32))) ::
        (ws.drop (frm / 32 + 1)).map (fun w => if inv then not32 w else w)) j =
      ((bitAt ws (frm / 32 * 32 + j) ^^ inv) && decide (frm % 32 ≤ j)) := by
  have hb : frm % 32 < 32 := Nat.mod_lt _ (by decide)
  rw [bitAt_cons]
  by_cases hj32 : j < 32
  · rw [if_pos hj32, Nat.testBit_and, testBit_eff inv _ _ hj32, testBit_neg32_two_pow _ _ hb,
      bitAt_eq_testBit _ _ _ hj32, List.getElem?_eq_getElem hk0, decide_eq_true hj32, Bool.and_true]
    rfl
  · have hk : (frm / 32 * 32 + j) / 32 < ws.length := by omega
    have e1 : frm / 32 + 1 + (j - 32) / 32 = (frm / 32 * 32 + j) / 32 := by omega
    have e2 : (j - 32) % 32 = (frm / 32 * 32 + j) % 32 := by omega
    rw [if_neg hj32, decide_eq_true (by omega : frm % 32 ≤ j), Bool.and_true, bitAt_getElem _ _ hk]
    unfold bitAt
    rw [List.getElem?_map, List.getElem?_drop, e1, e2, List.getElem?_eq_getElem hk]
    exact testBit_eff inv _ _ (Nat.mod_lt _ (by decide))

theorem nextGeneric_char (inv : Bool) (a : WArr) (frm : Nat) (h : InvA a) (hf : frm < a.size) :
    ∃ r, nextGeneric inv a frm = .ok r ∧
      IsLo (fun g => frm ≤ g ∧ g < a.size ∧ (bitAt a.words g ^^ inv) = true) a.size r := by
  have hlen := h.1
  have hk0 : frm / 32 < a.words.length := by omega
  unfold nextGeneric
  rw [if_neg (by omega), List.getElem?_eq_getElem hk0]
  simp only [Nat.one_shiftLeft]
  have hscan := scanNonzero_spec inv (a.words.drop (frm / 32 + 1))
    ((if inv then not32 a.words[frm / 32] else a.words[frm / 32]) &&& neg32 (2 ^ (frm % 32))) (frm / 32)
  have hL := bitAt_scanned inv a.words frm hk0
  -- `L` is the list that is scanned: the masked first word and the following words, complemented when `inv`
  generalize hLdef : ((if inv then not32 a.words[frm / 32] else a.words[frm / 32]) &&& neg32 (2 ^ (frm % 32))) ::
      (a.words.drop (frm / 32 + 1)).map (fun w => if inv then not32 w else w) = L at hscan hL
  have hLlt : ∀ x ∈ L, x < W32 := by
    rw [← hLdef]
    intro x hx
    rcases List.mem_cons.mp hx with rfl | hx
    · exact and_lt_W32 (eff_lt inv _ (h.words_lt _ (List.getElem_mem hk0)))
    · obtain ⟨v, hv, rfl⟩ := List.mem_map.mp hx
      exact eff_lt inv _ (h.words_lt v (List.mem_of_mem_drop hv))
  have hLlen : L.length = a.words.length - frm / 32 := by
    rw [← hLdef]
    simp only [List.length_cons, List.length_map, List.length_drop]; omega
  have hclear : ∀ g, frm ≤ g → g < a.words.length * 32 → bitAt L (g - frm / 32 * 32) = false →
      (bitAt a.words g ^^ inv) = false := by
    intro g hg hgl hz
    rw [hL _ (by omega), show frm / 32 * 32 + (g - frm / 32 * 32) = g by omega,
      decide_eq_true (by omega : frm % 32 ≤ g - frm / 32 * 32), Bool.and_true] at hz
    exact hz
  split at hscan
  · -- nothing found
    rename_i heq
    rw [heq]
    exact ⟨a.size, rfl, IsLo.of_before (Nat.le_refl _)
      (fun g _ ⟨g1, g2, g3⟩ => by rw [hclear g g1 (by omega) (hscan _)] at g3; cases g3)
      fun hh => absurd hh (Nat.lt_irrefl _)⟩
  · rename_i o w heq
    rw [heq]
    obtain ⟨s1, s2, s3, s4⟩ := hscan
    simp only
    have hol : o - frm / 32 < L.length := (List.getElem?_eq_some_iff.mp s3).1
    have hwlt : w < W32 := hLlt w (List.mem_of_getElem? s3)
    obtain ⟨t1, t2⟩ := tz32_spec w s2 hwlt
    have t3 := tz32_lt w s2 hwlt
    -- in `L` the bit found is set and all bits before it are clear
    have hset : bitAt L ((o - frm / 32) * 32 + tz32 w) = true := by
      rw [bitAt_eq_testBit _ _ _ t3, s3]; exact t1
    have hbeforeL : ∀ j, j < (o - frm / 32) * 32 + tz32 w → bitAt L j = false := by
      intro j hj
      by_cases e : j < (o - frm / 32) * 32
      · exact s4 j e
      · rw [show j = (o - frm / 32) * 32 + j % 32 by omega, bitAt_eq_testBit _ _ _ (by omega), s3]
        exact t2 _ (by omega)
    have epos : frm / 32 * 32 + ((o - frm / 32) * 32 + tz32 w) = o * 32 + tz32 w := by
      rw [← Nat.add_assoc, ← Nat.add_mul]; congr 2; omega
    rw [hL _ (by omega), epos] at hset
    simp only [Bool.and_eq_true, decide_eq_true_eq] at hset
    have hbefore : ∀ g, frm ≤ g → g < o * 32 + tz32 w → (bitAt a.words g ^^ inv) = false :=
      fun g g1 g2 => hclear g g1 (by omega) (hbeforeL _ (by omega))
    by_cases hgt : o * 32 + tz32 w > a.size
    · rw [if_pos hgt]
      exact ⟨a.size, rfl, IsLo.of_before (Nat.le_refl _)
        (fun g _ ⟨g1, g2, g3⟩ => by rw [hbefore g g1 (by omega)] at g3; cases g3)
        fun hh => absurd hh (Nat.lt_irrefl _)⟩
    · rw [if_neg hgt]
      exact ⟨_, rfl, IsLo.of_before (by omega)
        (fun g g0 ⟨g1, _, g3⟩ => by rw [hbefore g g1 g0] at g3; cases g3)
        fun hh => ⟨by omega, hh, hset.1⟩⟩

/-- both scans at once: `inv` complements what is looked for -/
theorem nextGeneric_refines (inv : Bool) (a : WArr) (frm : Nat) (h : InvA a) :
    nextGeneric inv a frm = .ok (if frm ≥ (absA a).length then (absA a).length
      else frm + ((absA a).drop frm).findIdx (fun b => b ^^ inv)) := by
  rw [absA_length]
  by_cases hf : frm ≥ a.size
  · unfold nextGeneric; rw [if_pos hf, if_pos hf]
  · rw [if_neg hf]
    obtain ⟨r, h1, h2⟩ := nextGeneric_char inv a frm h (by omega)
    have hs := isLo_findIdx (fun b => b ^^ inv) (absA a) frm (by rw [absA_length]; omega)
    rw [absA_length] at hs
    rw [h1, h2.unique (hs.congr fun g => by rw [absA_getD h])]

theorem getNextSet_refines (a : WArr) (frm : Nat) (h : InvA a) :
    a.getNextSet frm = .ok (SArr.nextSet (absA a) frm) := by
  unfold getNextSet SArr.nextSet
  rw [nextGeneric_refines false a frm h]
  simp only [Bool.xor_false]

theorem getNextUnset_refines (a : WArr) (frm : Nat) (h : InvA a) :
    a.getNextUnset frm = .ok (SArr.nextUnset (absA a) frm) := by
  unfold getNextUnset SArr.nextUnset
  rw [nextGeneric_refines true a frm h]
  simp only [Bool.xor_true]

end WArr
end Gzx.Bits
