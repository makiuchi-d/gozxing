/-
  C02 / C05 (Data Matrix): composition of the low-level decoder chain of C08 with Reed-Solomon decoding (C04).
  Every reference block is a code word of C04's code (`block_is_codeword`), so the decoder's block loop restores the
  data from blocks damaged within ⌊blkErr/2⌋ positions (`decodeCodewordBlocks_corrects`); the chain on the symbol
  that carries ANY byte stream (`chain_of_stream`) then gives the block-error tolerance of `Decoder.Decode` up to the
  byte stream (`decodeMatrixBytes_tolerates`).  Last part: faults given as a list of (position, byte)
  (`applyFaults`, `faultsInBlock`, `hamming_applyFaults_le`).
-/
import Gzx.Properties.C08
import Gzx.Properties.C04
import Gzx.Model.DMDecodeChain

namespace Gzx.DMProofs
open Gzx Gzx.GF Gzx.DMRef Gzx.Properties.C04 Gzx.Proofs.MinDist

theorem blockOfStream_bytes (s : Sym) (raw : List Nat) (b : Nat) (h : ∀ x ∈ raw, x < 256) :
    ∀ x ∈ blockOfStream s raw b, x < 256 := by
  intro x hx
  unfold blockOfStream at hx
  obtain ⟨p, _, rfl⟩ := List.mem_map.1 hx
  rw [List.getD_eq_getElem?_getD]
  cases hp : raw[p]? with
  | none => simp
  | some v => exact h v (List.mem_of_getElem? hp)

/-! ## Reed-Solomon on one block -/

theorem dmField_facts : dataMatrix256.size = 256 ∧ dataMatrix256.base = 1 := by
  decide +kernel

theorem block_is_codeword (s : Sym) (hs : s ∈ table7) (d : List Nat) (hd : d.length = s.nData)
    (hb : ∀ x ∈ d, x < 256) (b : Nat) (hbB : b < s.blocks) :
    let c := blockData s d b ++ blockEcc s d b
    c ≠ [] ∧ c.length = s.dataLen b + s.blkErr ∧ c.length ≤ dataMatrix256.size - 1 ∧ InField dataMatrix256 c ∧
      ZeroSyndromes dataMatrix256 c s.blkErr ∧ s.blkErr + dataMatrix256.base ≤ dataMatrix256.size := by
  obtain ⟨-, hB, hBn, hfit⟩ := Gzx.Properties.C08.block_shapes_fit s hs
  obtain ⟨h1, h2⟩ := hfit b hbB
  obtain ⟨fs, fb⟩ := dmField_facts
  have hl : (blockData s d b).length = s.dataLen b := blockData_length s hB d hd b (by omega)
  have hle : (blockEcc s d b).length = s.blkErr := eccBlock_length _ _
  have hdb := blockData_bytes s d b hb
  have heb : allBytes (blockEcc s d b) := eccBlock_bytes _ _ hdb
  simp only
  refine ⟨?_, by simp [hl, hle], by simp [hl, hle, fs]; omega, ?_, ?_, by rw [fs, fb]; omega⟩
  · intro hnil
    have := congrArg List.length hnil
    simp [hl] at this
    omega
  · intro x hx
    rw [fs]
    rcases List.mem_append.1 hx with h | h
    · exact hdb x h
    · exact heb x h
  · exact eccBlock_zero_syndromes s.blkErr (blockData s d b) hdb

theorem block_clean (s : Sym) (hs : s ∈ table7) (d : List Nat) (hd : d.length = s.nData)
    (hb : ∀ x ∈ d, x < 256) (b : Nat) (hbB : b < s.blocks) :
    RS.decode GF.dataMatrix256 (blockData s d b ++ blockEcc s d b) s.blkErr =
      .ok (blockData s d b ++ blockEcc s d b) := by
  obtain ⟨h1, _, _, h4, h5, h6⟩ := block_is_codeword s hs d hd hb b hbB
  exact rs_decode_clean _ dmFieldOK _ _ h1 h4 h6 h5

theorem block_corrected (s : Sym) (hs : s ∈ table7) (d : List Nat) (hd : d.length = s.nData)
    (hb : ∀ x ∈ d, x < 256) (b : Nat) (hbB : b < s.blocks) (v : List Nat)
    (hvl : v.length = s.dataLen b + s.blkErr) (hvb : ∀ x ∈ v, x < 256)
    (hdist : 2 * hamming (blockData s d b ++ blockEcc s d b) v ≤ s.blkErr) :
    RS.decode GF.dataMatrix256 v s.blkErr = .ok (blockData s d b ++ blockEcc s d b) := by
  obtain ⟨h1, h2, h3, h4, h5, h6⟩ := block_is_codeword s hs d hd hb b hbB
  obtain ⟨fs, fb⟩ := dmField_facts
  exact rs_corrects_received _ dmFieldOK (by rw [fb]; omega) _ v _ (by rw [hvl, h2]) h3 h4
    (by intro x hx; rw [fs]; exact hvb x hx) h5 h1 h6 hdist

/-! ## the block loop of Decode -/

theorem decodeCodewordBlocks_corrects (p : Sym × Nat) (hp : p ∈ table7.zipIdx) (d : List Nat)
    (hd : d.length = p.1.nData) (hb : ∀ x ∈ d, x < 256) (v : Nat → List Nat)
    (hvl : ∀ b, b < p.1.blocks → (v b).length = p.1.dataLen b + p.1.blkErr)
    (hvb : ∀ b, b < p.1.blocks → ∀ x ∈ v b, x < 256)
    (hdist : ∀ b, b < p.1.blocks → 2 * hamming (blockData p.1 d b ++ blockEcc p.1 d b) (v b) ≤ p.1.blkErr) :
    DMDec.decodeCodewordBlocks ((List.range p.1.blocks).map (fun b => (p.1.dataLen b, v b))) = .ok d := by
  have hs := Gzx.Properties.C08.zipIdx_mem_table7 p hp
  have R := RowOK.of_mem hs
  unfold DMDec.decodeCodewordBlocks
  have hmap : ((List.range p.1.blocks).map (fun b => (p.1.dataLen b, v b))).mapM DMDec.correctErrors =
      .ok ((List.range p.1.blocks).map (fun b =>
        (p.1.dataLen b, blockData p.1 d b ++ (v b).drop (p.1.dataLen b)))) := by
    rw [List.mapM_map]
    have := mapM_ok (fun b => DMDec.correctErrors (p.1.dataLen b, v b))
      (fun b => (p.1.dataLen b, blockData p.1 d b ++ (v b).drop (p.1.dataLen b))) (List.range p.1.blocks) (by
        intro b hbm
        have hbB := List.mem_range.1 hbm
        unfold DMDec.correctErrors
        simp only
        have hr : (v b).length - p.1.dataLen b = p.1.blkErr := by rw [hvl b hbB]; omega
        rw [hr, block_corrected p.1 hs d hd hb b hbB (v b) (hvl b hbB) (hvb b hbB) (hdist b hbB)]
        simp only
        have hl : (blockData p.1 d b).length = p.1.dataLen b :=
          blockData_length p.1 R.hB d hd b (by have := R.hBn; omega)
        rw [List.take_append_of_le_length (by omega), List.take_of_length_le (by omega)])
    exact this
  rw [hmap]
  exact resultBytes_blocks p.1 R.hB R.hBn R.hsum d hd (fun b => (v b).drop (p.1.dataLen b))

/-! ## the whole low-level chain on an arbitrary codeword stream -/

/-- for each of the 30 sizes and EVERY byte stream `raw` of the symbol's total codeword count: the decoder model
    applied to the symbol carrying `raw` (Annex-F placement + finder/clock framing) recovers the version, the
    mapping matrix, `raw` itself, and the blocks `raw` splits into -/
theorem chain_of_stream (p : Sym × Nat) (hp : p ∈ table7.zipIdx) (raw : List Nat) (hl : raw.length = p.1.total)
    (hrb : ∀ x ∈ raw, x < 256) :
    DMDec.newBitMatrixParser DMDec.versions ⟨p.1.cols, p.1.rows, (symbolOfCodewords p.1 raw).flatten.toArray⟩ =
        .ok (DMDec.ofSym (p.2 + 1) p.1, ⟨p.1.mapCols, p.1.mapRows, mappingBits p.1.mapRows p.1.mapCols raw⟩) ∧
    DMDec.readCodewords (DMDec.ofSym (p.2 + 1) p.1)
        ⟨p.1.mapCols, p.1.mapRows, mappingBits p.1.mapRows p.1.mapCols raw⟩ = .ok raw ∧
    DMDec.getDataBlocks raw (DMDec.ofSym (p.2 + 1) p.1) =
      .ok ((List.range p.1.blocks).map (fun b => (p.1.dataLen b, blockOfStream p.1 raw b))) := by
  have hs := Gzx.Properties.C08.zipIdx_mem_table7 p hp
  refine ⟨?_, ?_, ?_⟩
  · exact Gzx.Properties.C08.extract_inverts_framing p hp _ (mappingBits_size _ _ _)
  · exact Gzx.Properties.C08.read_place_inv p.1 hs (p.2 + 1) raw hl hrb
  · exact getDataBlocks_stream (p.2 + 1) p.1 (Gzx.Properties.C08.ecc_interleave_index_facts p hp) raw hl

/-- block-error tolerance of `Decoder.Decode` (model, up to the byte stream) -/
theorem decodeMatrixBytes_tolerates (p : Sym × Nat) (hp : p ∈ table7.zipIdx) (d : List Nat)
    (hd : d.length = p.1.nData) (hb : ∀ x ∈ d, x < 256) (raw : List Nat) (hl : raw.length = p.1.total)
    (hrb : ∀ x ∈ raw, x < 256)
    (hdist : ∀ b, b < p.1.blocks →
      2 * hamming (blockOfStream p.1 (codewords p.1 d) b) (blockOfStream p.1 raw b) ≤ p.1.blkErr) :
    DMDec.decodeMatrixBytes ⟨p.1.cols, p.1.rows, (symbolOfCodewords p.1 raw).flatten.toArray⟩ = .ok d := by
  have hs := Gzx.Properties.C08.zipIdx_mem_table7 p hp
  have R := RowOK.of_mem hs
  obtain ⟨h1, h2, h3⟩ := chain_of_stream p hp raw hl hrb
  unfold DMDec.decodeMatrixBytes
  rw [h1]
  simp only
  rw [h2]
  simp only
  rw [h3]
  simp only
  apply decodeCodewordBlocks_corrects p hp d hd hb (blockOfStream p.1 raw)
  · intro b hbB; exact blockOfStream_length p.1 R.hB R.hE raw hbB
  · intro b hbB; exact blockOfStream_bytes p.1 raw b hrb
  · intro b hbB
    rw [← show _ = blockData p.1 d b ++ blockEcc p.1 d b from blockOfStream_blockOf p.1 R.hB R.hBn R.hE d hd b hbB]
    exact hdist b hbB

theorem hamming_self (c : List Nat) : hamming c c = 0 := by
  unfold hamming
  exact weight_zipWith_self c

/-! ## faults given as a list of (stream position, new byte) -/

/-- replace the codewords at the listed stream positions (later entries win; positions outside the stream are
    ignored) -/
def applyFaults (cw : List Nat) : List (Nat × Nat) → List Nat
  | [] => cw
  | (pos, v) :: fs => applyFaults (cw.set pos v) fs

/-- number of listed faults that hit block `b` (position `≡ b (mod B)`) -/
def faultsInBlock (s : Sym) (fs : List (Nat × Nat)) (b : Nat) : Nat :=
  (fs.filter (fun f => f.1 % s.blocks == b)).length

theorem applyFaults_length (cw : List Nat) (fs : List (Nat × Nat)) : (applyFaults cw fs).length = cw.length := by
  induction fs generalizing cw with
  | nil => rfl
  | cons f fs ih => obtain ⟨q, v⟩ := f; simp [applyFaults, ih]

theorem applyFaults_bytes (cw : List Nat) (fs : List (Nat × Nat)) (hc : ∀ x ∈ cw, x < 256)
    (hf : ∀ f ∈ fs, f.2 < 256) : ∀ x ∈ applyFaults cw fs, x < 256 := by
  induction fs generalizing cw with
  | nil => exact hc
  | cons f fs ih =>
    obtain ⟨q, v⟩ := f
    simp only [applyFaults]
    apply ih
    · intro x hx
      rcases List.mem_or_eq_of_mem_set hx with h | h
      · exact hc x h
      · rw [h]; exact hf (q, v) List.mem_cons_self
    · intro f hf'; exact hf f (List.mem_cons_of_mem _ hf')

theorem hamming_set_le (s : Sym) (x : List Nat) (q v b : Nat) :
    hamming (blockOfStream s x b) (blockOfStream s (x.set q v) b) ≤ if q % s.blocks == b then 1 else 0 := by
  unfold hamming blockOfStream weight
  rw [List.zipWith_map_left, List.zipWith_map_right, List.zipWith_self, List.filter_map, List.length_map]
  have hnd : (blockPositions s b).Nodup := by
    unfold blockPositions
    exact List.Pairwise.filter _ List.nodup_range
  have hsub : ∀ r ∈ (blockPositions s b).filter
      ((fun y => y != 0) ∘ fun r => x.getD r 0 ^^^ (x.set q v).getD r 0), r = q ∧ q % s.blocks = b := by
    intro r hr
    obtain ⟨hr1, hr2⟩ := List.mem_filter.1 hr
    simp only [Function.comp, bne_iff_ne, ne_eq] at hr2
    have hrq : r = q := by
      apply Classical.byContradiction
      intro hne
      apply hr2
      rw [List.getD_eq_getElem?_getD, List.getD_eq_getElem?_getD, List.getElem?_set_ne (fun h => hne h.symm)]
      exact Nat.xor_self _
    refine ⟨hrq, ?_⟩
    unfold blockPositions at hr1
    have := (List.mem_filter.1 hr1).2
    rw [hrq] at this
    simpa using this
  have hnd2 : ((blockPositions s b).filter ((fun y => y != 0) ∘ fun r => x.getD r 0 ^^^ (x.set q v).getD r 0)).Nodup := List.Pairwise.filter _ hnd
  generalize (blockPositions s b).filter _ = L at hsub hnd2
  match L, hsub, hnd2 with
  | [], _, _ => simp
  | [r], hs1, _ =>
    have := (hs1 r List.mem_cons_self).2
    simp [this]
  | r1 :: r2 :: _, hs1, hn =>
    exfalso
    have e1 := (hs1 r1 List.mem_cons_self).1
    have e2 := (hs1 r2 (List.mem_cons_of_mem _ List.mem_cons_self)).1
    rw [List.nodup_cons] at hn
    exact hn.1 (by rw [e1, ← e2]; exact List.mem_cons_self)

theorem hamming_applyFaults_le (s : Sym) (hB : 0 < s.blocks) (hE : s.blocks * s.blkErr = s.nErr) (b : Nat)
    (hb : b < s.blocks) :
    ∀ (fs : List (Nat × Nat)) (cw : List Nat),
      hamming (blockOfStream s cw b) (blockOfStream s (applyFaults cw fs) b) ≤ faultsInBlock s fs b := by
  intro fs
  induction fs with
  | nil => intro cw; simp [applyFaults, hamming_self, faultsInBlock]
  | cons f fs ih =>
    intro cw
    obtain ⟨q, v⟩ := f
    simp only [applyFaults]
    have h1 := hamming_set_le s cw q v b
    have h2 := ih (cw.set q v)
    have hl := fun raw => blockOfStream_length s hB hE raw hb
    have htri := Gzx.Proofs.MinDist.weight_triangle (blockOfStream s cw b) (blockOfStream s (cw.set q v) b)
      (blockOfStream s (applyFaults (cw.set q v) fs) b) (by rw [hl, hl]) (by rw [hl, hl])
    unfold hamming at h1 h2 ⊢
    unfold faultsInBlock at h2 ⊢
    simp only [List.filter_cons]
    by_cases hq : (q % s.blocks == b) = true
    · simp only [hq, if_true] at h1 ⊢
      simp only [List.length_cons]; omega
    · simp only [hq, if_false, Bool.false_eq_true] at h1 ⊢
      omega

end Gzx.DMProofs
