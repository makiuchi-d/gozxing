/-
  Helper lemmas for Properties/C03Row128.lean: the `for !done` loop of DecodeRow on a row that
  carries symbol characters `codes` at `s` pixels per module is the symbol-level reader `symRun` on `codes`; the stop
  pattern's last bar and the clipped trailing quiet-zone test; the table hypothesis `wfRow128B` of the read-back
  theorems, what it gives (`wfRow128_facts`) and that the reference table meets it (`wfRow128B_ref`).
-/
import Gzx.Proofs.Row128Read
import Gzx.Proofs.ListGrid
namespace Gzx.Row128
open Gzx Gzx.OneD

/-! ## the symbol-level reader -/

/-- the `for !done` loop on already classified symbol characters -/
def symRun (gs1 : Bool) : List Nat → St → Res St
  | [], _ => .error .notFound
  | c :: cs, s =>
    match step gs1 s c with
    | .error e => .error e
    | .ok (s', true) => .ok s'
    | .ok (s', false) => symRun gs1 cs s'

/-- what DecodeRow returns for the symbol characters `start :: rest` (text and symbology modifier) -/
def readSyms (gs1 : Bool) (start : Nat) (rest : List Nat) : Res (List Nat × Nat) :=
  match codeSetOf start with
  | none => .error .format
  | some cs =>
    match symRun gs1 rest (st0 cs start) with
    | .error e => .error e
    | .ok s =>
      match finish s with
      | .error e => .error e
      | .ok t => .ok (t, s.symMod)

/-! ## code set invariant, `done` exactly at STOP -/

def mem3 (x : Nat) : Prop := x = 99 ∨ x = 100 ∨ x = 101

/-- the code set is one of A (101), B (100), C (99) -/
def CS (s : St) : Prop := mem3 s.codeSet

theorem CS_st0 {cs : Nat} (h : cs = 99 ∨ cs = 100 ∨ cs = 101) (sc : Nat) : CS (st0 cs sc) := h

theorem mem3_ite (c : Prop) [Decidable c] (a b : Nat) (ha : mem3 a) (hb : mem3 b) : mem3 (if c then a else b) := by
  split <;> assumption

theorem stepBody_CS (gs1 : Bool) (t : St) (code : Nat) (h : CS t) : CS (stepBody gs1 t code).1 := by
  unfold CS at *
  unfold stepBody
  simp only [apply_ite Prod.fst, apply_ite St.codeSet, emit, fnc1_codeSet, fnc4_codeSet, np_codeSet]
  repeat' (apply mem3_ite)
  all_goals (first | exact h | exact Or.inl rfl | exact Or.inr (Or.inl rfl) | exact Or.inr (Or.inr rfl))

theorem stepBody_done (gs1 : Bool) (t : St) (code : Nat) (h : CS t) : (stepBody gs1 t code).2 = decide (code = 106) := by
  unfold CS at h
  unfold stepBody
  simp only [apply_ite Prod.snd]
  by_cases h106 : code = 106
  · subst h106
    rcases h with h | h | h <;> simp [h]
  · rcases h with h | h | h <;> simp [h, h106]

theorem stepPost_CS (u : Bool) (s : St) (h : CS s) : CS (stepPost u s) := by
  unfold stepPost CS mem3 at *
  cases u with
  | false => simpa using h
  | true => simp only [if_true]; split <;> simp

theorem step_CS (gs1 : Bool) (s : St) (code : Nat) (s' : St) (d : Bool) (hcs : CS s)
    (h : step gs1 s code = .ok (s', d)) : CS s' ∧ d = decide (code = 106) := by
  unfold step at h
  split at h
  · cases h
  · simp only [Except.ok.injEq, Prod.mk.injEq] at h
    have hpre : CS (stepPre s code) := by unfold CS at *; rw [stepPre_codeSet]; exact hcs
    refine ⟨?_, ?_⟩
    · rw [← h.1]; exact stepPost_CS _ _ (stepBody_CS gs1 _ code hpre)
    · rw [← h.2]; exact stepBody_done gs1 _ code hpre

/-! ## the main loop on a drawn symbol -/

/-- run widths of symbol characters `codes` (each pattern cut to its six counted elements) at `s` pixels per module -/
def codeRuns (P : List (List Nat)) (s : Nat) (codes : List Nat) : List Nat :=
  (codes.map (fun c => ((P.getD c []).take 6).map (s * ·))).flatten

theorem codeRuns_cons (P : List (List Nat)) (s c : Nat) (codes : List Nat) :
    codeRuns P s (c :: codes) = ((P.getD c []).take 6).map (s * ·) ++ codeRuns P s codes := rfl

theorem step_not_start (gs1 : Bool) (st : St) (c : Nat) (h : ¬ (c = 103 ∨ c = 104 ∨ c = 105)) :
    ∃ s' d, step gs1 st c = .ok (s', d) := by
  unfold step
  rw [if_neg h]
  exact ⟨_, _, rfl⟩

theorem mainLoop_codes {P : List (List Nat)} (hP : PatTable P 6 11) (h106 : 106 < P.length) (s : Nat) (hs : 0 < s)
    (row : List Bool) (gs1 : Bool) :
    ∀ (body : List Nat) (off : Nat) (st : St) (raw : List Nat) (lastStart : Nat) (tailW : List Nat) (fuel : Nat),
    CS st → (∀ c ∈ body, c < P.length ∧ c ≠ 106) → body.length + 1 ≤ fuel →
    RowAt row off (codeRuns P s (body ++ [106]) ++ tailW) true →
    mainLoop exactDom P row gs1 fuel st ⟨raw, lastStart, off⟩ =
      match symRun gs1 (body ++ [106]) st with
      | .error e => .error e
      | .ok st' => .ok (st', ⟨(body ++ [106]).reverse ++ raw, off + s * 11 * body.length,
                               off + s * 11 * (body.length + 1)⟩) := by
  intro body
  induction body with
  | nil =>
    intro off st raw lastStart tailW fuel hcs _ hfuel hrow
    obtain ⟨f, rfl⟩ : ∃ f, fuel = f + 1 := ⟨fuel - 1, by simp at hfuel; omega⟩
    have hcr : codeRuns P s ([] ++ [106]) = (P[106].take 6).map (s * ·) := by
      have := getD_eq_getElem P 106 [] h106
      simp only [List.nil_append, codeRuns, List.map_cons, List.map_nil, List.flatten_cons, List.flatten_nil,
        List.append_nil, this]
    rw [hcr] at hrow
    have hdec := decodeCode_at hP 106 h106 s hs tailW true hrow
    obtain ⟨s', d, hstep⟩ := step_not_start gs1 st 106 (by omega)
    have hd := (step_CS gs1 st 106 s' d hcs hstep).2
    simp only [decide_true] at hd
    subst hd
    have hsum : sumL ((P[106].take 6).map (s * ·)) = s * 11 := by
      rw [sumL_scale, (hP.shape P[106] (List.getElem_mem h106)).2.1]
    unfold mainLoop
    simp only [hdec, hstep, List.nil_append, symRun, hsum, List.reverse_cons, List.reverse_nil, List.length_nil,
      Nat.mul_zero, Nat.add_zero, Nat.zero_add, Nat.mul_one, List.singleton_append]
  | cons c body ih =>
    intro off st raw lastStart tailW fuel hcs hb hfuel hrow
    obtain ⟨f, rfl⟩ : ∃ f, fuel = f + 1 := ⟨fuel - 1, by simp at hfuel; omega⟩
    have hc := hb c (by simp)
    rw [List.cons_append, codeRuns_cons, getD_eq_getElem P c [] hc.1, List.append_assoc] at hrow
    have hdec := decodeCode_at hP c hc.1 s hs _ true hrow
    have hsum : sumL ((P[c].take 6).map (s * ·)) = s * 11 := by
      rw [sumL_scale, (hP.shape P[c] (List.getElem_mem hc.1)).2.1]
    have hadv := hrow.advance_even _ _ (by
      have := (hP.shape P[c] (List.getElem_mem hc.1)).1
      simp; omega)
    rw [hsum] at hadv
    unfold mainLoop
    simp only [hdec, List.cons_append, symRun, hsum]
    cases hstep : step gs1 st c with
    | error e => rfl
    | ok r =>
      obtain ⟨s', d⟩ := r
      have hd := step_CS gs1 st c s' d hcs hstep
      have hdf : d = false := by rw [hd.2]; simp [hc.2]
      subst hdf
      simp only []
      rw [ih (off + s * 11) s' (c :: raw) off tailW f hd.1 (fun x hx => hb x (by simp [hx]))
        (by simp at hfuel ⊢; omega) hadv]
      cases symRun gs1 (body ++ [106]) s' with
      | error e => rfl
      | ok st' =>
        simp only [List.reverse_cons, List.append_assoc, List.singleton_append, List.length_cons,
          Except.ok.injEq, Prod.mk.injEq, Pos.mk.injEq, true_and]
        refine ⟨?_, ?_⟩
        · rw [Nat.mul_add]; omega
        · rw [Nat.mul_add (s * 11) (body.length + 1) 1]; omega

/-! ## after the loop: the stop pattern's last bar and the clipped quiet-zone test -/

theorem getNextUnset_replicate_true (w : Nat) (X : List Bool) (hX : X = [] ∨ X.head? = some false) :
    getNextUnset (List.replicate w true ++ X) 0 = w := by
  induction w with
  | zero =>
    rcases hX with rfl | hX
    · rfl
    · cases X with
      | nil => simp at hX
      | cons b bs => simp at hX; subst hX; simp [getNextUnset]
  | succ w ih => simp only [List.replicate_succ, List.cons_append, getNextUnset]; simp [ih]; omega

theorem getNextUnset_bar {row : List Bool} {off w rq : Nat} (h : RowAt row off (w :: tailQ rq) true) :
    getNextUnset row off = off + w := by
  rw [getNextUnset_drop row off h.le, h.drop]
  simp only [appendPattern, Bool.not_true, appendPattern_tailQ]
  rw [getNextUnset_replicate_true]
  cases rq with
  | zero => exact Or.inl rfl
  | succ n => exact Or.inr (by simp [List.replicate_succ])

theorem isRangeWhite_tail {row : List Bool} {off rq : Nat} (h : RowAt row off (tailQ rq) false) (e : Nat)
    (he1 : off ≤ e) (he2 : e ≤ row.length) : isRangeWhite row off e = true := by
  unfold isRangeWhite
  rw [if_neg (by omega), h.drop, appendPattern_tailQ]
  simp

/-! ## the row the theorems talk about -/

/-- the full patterns of the symbol characters, as the writer draws them -/
def fullRuns (P : List (List Nat)) (codes : List Nat) : List Nat := (codes.map (fun c => P.getD c [])).flatten

/-- `WF128` (107 rows; six positive widths, STOP seven; pairwise distinct) plus what the row reader needs: the rows cut
    to their six counted elements are still pairwise distinct and all sum to 11 modules -/
def wfRow128B (P : List (List Nat)) : Bool :=
  WF128 P && decide (P.map (List.take 6)).Nodup && P.all (fun q => sumL (q.take 6) == 11)

theorem wfRow128_facts (P : List (List Nat)) (h : wfRow128B P = true) :
    P.length = 107 ∧ PatTable P 6 11 ∧
    (∀ (c : Nat) (hc : c < P.length), c < 106 → P[c].length = 6) ∧
    (∀ (hc : 106 < P.length), P[106].length = 7 ∧ ∀ w ∈ P[106], 0 < w) := by
  simp only [wfRow128B, WF128, Bool.and_eq_true, beq_iff_eq, decide_eq_true_eq, List.all_eq_true] at h
  obtain ⟨⟨⟨⟨⟨hlen, h6⟩, h7⟩, _⟩, hnd⟩, hsum⟩ := h
  have hlt6 : ∀ (c : Nat) (hc : c < P.length), c < 106 → P[c].length = 6 ∧ ∀ w ∈ P[c], 0 < w := by
    intro c hc hc6
    have hm : P[c] ∈ P.take 106 := by
      have : (P.take 106)[c]'(by simp; omega) = P[c] := by simp
      rw [← this]; exact List.getElem_mem _
    exact h6 _ hm
  have hstop : ∀ (hc : 106 < P.length), P[106].length = 7 ∧ ∀ w ∈ P[106], 0 < w := by
    intro hc
    have hm : P[106] ∈ P.drop 106 := by
      have : (P.drop 106)[0]'(by simp; omega) = P[106] := by simp
      rw [← this]; exact List.getElem_mem _
    exact h7 _ hm
  refine ⟨hlen, ⟨hnd, ?_, by omega⟩, fun c hc h6' => (hlt6 c hc h6').1, hstop⟩
  intro q hq
  obtain ⟨c, hc, rfl⟩ := List.getElem_of_mem hq
  refine ⟨?_, hsum _ hq, ?_⟩
  · by_cases h6' : c < 106
    · rw [(hlt6 c hc h6').1]; omega
    · have : c = 106 := by omega
      subst this
      rw [(hstop hc).1]; omega
  · intro w hw
    have hw' := List.mem_of_mem_take hw
    by_cases h6' : c < 106
    · exact (hlt6 c hc h6').2 w hw'
    · have : c = 106 := by omega
      subst this
      exact (hstop hc).2 w hw'

/-- the reference table (generated from the Go source, Obligations) meets the hypothesis; evaluated here once, the
    instances in Properties refer to it.  Its `WF128` part is `OneD.wf128_ref`; the rows cut to six widths are compared
    as base-8 numerals, as there. -/
theorem wfRow128B_ref : wfRow128B refTables.code128 = true := by
  have hnd6 : (refTables.code128.map (List.take 6)).Nodup :=
    nodup_of_map (fun q => q.foldl (fun a d => 8 * a + d) 0) (by decide +kernel)
  simp only [wfRow128B, Bool.and_eq_true, decide_eq_true_eq]
  exact ⟨⟨wf128_ref, hnd6⟩, by decide +kernel⟩

end Gzx.Row128
