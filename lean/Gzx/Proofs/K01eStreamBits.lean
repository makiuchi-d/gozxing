/-
  The two models of `common/bit_source.go` are the same function:

    * `Model/BitSource.lean` (`BitSource.readBits`): the CURSOR model — bytes, byteOffset, bitOffset and the three phases of the Go
      code (rest of the current byte, whole bytes, a partial byte); it carries C06's totality theorems and is what the regenerated
      `ReadBits` is proved equal to (`Obligations/K01eBits.lean`);
    * `Model/QRBits.lean` (`QRDec.readBits`): the BIT-LIST model — the list of unread bits, `ReadBits(n)` = the big-endian number of
      the next `n` bits; it carries C01's round-trip and C05's tolerance theorems.

  `readBits_refines` (Obligations/K01eStream.lean): for every well-formed source over bytes (< 256) and every `n`, the cursor
  model returns exactly the value and the remaining bits of the bit-list model on `unread s` = the bits of the buffer from the
  cursor on.  This file: the list lemmas (big-endian numbers of bit lists, bits of byte lists).
-/
import Gzx.Proofs.BitSource
import Gzx.Proofs.QRBitsLemmas
namespace Gzx.BitSource
open Gzx.QRDec (natOfBits natToBits bytesToBits natToBits_length natToBits_add natOfBits_natToBits_mod)

/-! ### big-endian numbers of bit lists -/

theorem foldl_bits (bs : List Bool) : ∀ acc : Nat,
    bs.foldl (fun a b => 2 * a + b.toNat) acc = acc * 2 ^ bs.length + natOfBits bs := by
  induction bs with
  | nil => intro acc; simp [natOfBits]
  | cons b bs ih =>
    intro acc
    have h0 := ih (2 * 0 + b.toNat)
    have h1 := ih (2 * acc + b.toNat)
    simp only [natOfBits, List.foldl, List.length_cons] at *
    rw [h1, h0]
    have e1 : (2 * acc + b.toNat) * 2 ^ bs.length = 2 * (acc * 2 ^ bs.length) + b.toNat * 2 ^ bs.length := by
      rw [Nat.add_mul, Nat.mul_assoc]
    have e2 : acc * 2 ^ (bs.length + 1) = 2 * (acc * 2 ^ bs.length) := by
      rw [Nat.pow_succ, ← Nat.mul_assoc, Nat.mul_comm]
    have e3 : (2 * 0 + b.toNat) * 2 ^ bs.length = b.toNat * 2 ^ bs.length := by simp
    rw [e1, e2, e3]
    omega

theorem natOfBits_append_lists (xs ys : List Bool) : natOfBits (xs ++ ys) = natOfBits xs * 2 ^ ys.length + natOfBits ys := by
  unfold natOfBits
  rw [List.foldl_append, foldl_bits ys]
  rfl

theorem bytesToBits_cons (b : Nat) (bs : List Nat) : bytesToBits (b :: bs) = natToBits 8 b ++ bytesToBits bs := by
  simp [bytesToBits]

theorem bytesToBits_length : ∀ bs : List Nat, (bytesToBits bs).length = 8 * bs.length
  | [] => rfl
  | b :: bs => by rw [bytesToBits_cons, List.length_append, natToBits_length, bytesToBits_length bs, List.length_cons]; omega

theorem bytesToBits_drop : ∀ (j : Nat) (bs : List Nat), (bytesToBits bs).drop (8 * j) = bytesToBits (bs.drop j)
  | 0, _ => rfl
  | j + 1, [] => by simp [bytesToBits]
  | j + 1, b :: bs => by
    have h0 : (natToBits 8 b).drop (8 * (j + 1)) = [] := List.drop_eq_nil_of_le (by rw [natToBits_length]; omega)
    have e : 8 * (j + 1) - (natToBits 8 b).length = 8 * j := by rw [natToBits_length]; omega
    rw [bytesToBits_cons, List.drop_append, h0, e, List.nil_append, bytesToBits_drop j bs]; rfl

theorem bytesToBits_take : ∀ (k : Nat) (bs : List Nat), (bytesToBits bs).take (8 * k) = bytesToBits (bs.take k)
  | 0, _ => rfl
  | k + 1, [] => by simp [bytesToBits]
  | k + 1, b :: bs => by
    have h0 : (natToBits 8 b).take (8 * (k + 1)) = natToBits 8 b := List.take_of_length_le (by rw [natToBits_length]; omega)
    have e : 8 * (k + 1) - (natToBits 8 b).length = 8 * k := by rw [natToBits_length]; omega
    rw [bytesToBits_cons, List.take_append, h0, e, bytesToBits_take k bs, List.take_succ_cons, bytesToBits_cons]

/-- `t` bits of a `w`-bit word from bit `i` on (most significant first) = shift and mask: split the word into the
    `i` bits before, the `t` bits wanted and the `w - i - t` bits after -/
theorem natToBits_slice (w n i t : Nat) (h : i + t ≤ w) :
    natOfBits (((natToBits w n).drop i).take t) = (n >>> (w - i - t)) % 2 ^ t := by
  obtain ⟨r, rfl⟩ : ∃ r, w = i + (t + r) := ⟨w - i - t, by omega⟩
  rw [natToBits_add i, List.drop_left' (natToBits_length ..), natToBits_add t, List.take_left' (natToBits_length ..),
    natOfBits_natToBits_mod, Nat.shiftRight_eq_div_pow, show i + (t + r) - i - t = r by omega]

end Gzx.BitSource
