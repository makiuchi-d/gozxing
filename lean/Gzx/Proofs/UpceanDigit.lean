/-
  C03 — helper lemmas for `upcean_read_write`: the best-match digit decoder (`decodeDigit`, `digitsLoop`)
  on runs that are an exact multiple of a table pattern picks exactly that pattern, for every table whose
  patterns are pairwise distinct, of equal length and equal width sum (the loop itself: Proofs/BestMatch.lean).
-/
import Gzx.Proofs.BestMatch
namespace Gzx.OneD
open Gzx Gzx.CheckDigit

/-- what the digit theorems need of a pattern table: pairwise distinct rows of four positive widths with
    the same sum `M` -/
structure DigitTable (P : List (List Nat)) (M : Nat) : Prop where
  nodup : P.Nodup
  shape : ∀ q ∈ P, q.length = 4 ∧ sumL q = M ∧ ∀ w ∈ q, 0 < w

theorem DigitTable.Mpos {P M} (h : DigitTable P M) (j : Nat) (hj : j < P.length) : 0 < M := by
  have hq := h.shape P[j] (List.getElem_mem hj)
  rw [← hq.2.1]
  exact sumL_pos _ (by intro e; have := hq.1; rw [e] at this; simp at this) hq.2.2

/-- the UPC/EAN loop is `bestGen` without the tie rule, in the exact interpretation (`none` = +Inf never beats the
    running best) -/
theorem bestLoop_eq_gen (c : List Nat) : ∀ (ps : List (List Nat)) (i : Nat) (best : Nat × Nat) (bm : Option Nat),
    bestLoop c ps i best bm = Row128.bestGen false Row128.exactDom c 7 10 ps i (some best) bm
  | [], _, _, _ => rfl
  | p :: ps, i, best, bm => by
    cases h : RunLength.patternMatchVariance c p 7 10 with
    | error e =>
      have h' : Row128.exactDom.pmv c p 7 10 = .error e := h
      simp only [bestLoop, Row128.bestGen, h, h']
    | ok v =>
      have h' : Row128.exactDom.pmv c p 7 10 = .ok v := h
      cases v with
      | none =>
        have hlt : Row128.exactDom.lt none (some best) = false := rfl
        simp only [bestLoop, Row128.bestGen, h, h', hlt, Bool.false_and, Bool.false_eq_true, if_false]
        exact bestLoop_eq_gen c ps _ _ _
      | some v =>
        have hlt : Row128.exactDom.lt (some v) (some best) = fracLt v best := rfl
        simp only [bestLoop, Row128.bestGen, h, h', hlt, Bool.false_and, Bool.false_eq_true, if_false]
        split <;> exact bestLoop_eq_gen c ps _ _ _

/-- `decodeDigit` at a run boundary where the next four runs are `s`·(row `j` of the table): digit `j`, `s·M` pixels -/
theorem decodeDigit_at {row off} {P : List (List Nat)} {M : Nat} (hP : DigitTable P M) (j : Nat) (hj : j < P.length)
    (s : Nat) (hs : 0 < s) (rest : List Nat) (col : Bool)
    (h : RowAt row off (P[j].map (s * ·) ++ rest) col) :
    decodeDigit row off P = .ok (j, s * M) := by
  have hq := hP.shape P[j] (List.getElem_mem hj)
  have hM := hP.Mpos j hj
  have hrec := recordPattern_at (P[j].map (s * ·)) rest 4 (by omega) (by simp [hq.1]) h
  have hbest : bestLoop (P[j].map (s * ·)) P 0 (12, 25) none = .ok (some j) := by
    have := Row128.bestGen_pick false (P[j].map (s * ·)) 7 10 (sumL P[j] * (s * sumL P[j]))
      (by rw [hq.2.1]; exact Nat.mul_pos hM (Nat.mul_pos hs hM)) P j hj 0 12 25 none (by decide)
      (pmv_multiple P[j] s 7 10 hs)
      (fun k hk hne => by
        have hqs := hP.shape P[k] (List.getElem_mem hk)
        exact pmv_ne P[j] P[k] s 7 10 hs (by rw [hqs.1, hq.1]) (by rw [hqs.2.1, hq.2.1]) (by rw [hq.2.1]; exact hM)
          (fun e => Row128.nodup_getElem_ne P hP.nodup k j hk hj hne e.symm))
    rw [Nat.zero_add] at this
    exact (bestLoop_eq_gen _ P 0 (12, 25) none).trans this
  unfold decodeDigit
  simp only [hrec, hbest, sumL_scale, hq.2.1]

/-- the widths the writer draws for table rows `idx` -/
def digitWidths (P : List (List Nat)) (idx : List Nat) : List Nat := (idx.map (fun i => P.getD i [])).flatten

theorem digitWidths_cons (P : List (List Nat)) (i : Nat) (idx : List Nat) :
    digitWidths P (i :: idx) = P.getD i [] ++ digitWidths P idx := rfl

/-- `digitsLoop` over `idx.length` digits drawn from table rows `idx`, followed by at least one more run -/
theorem digitsLoop_at {row} {P : List (List Nat)} {M : Nat} (hP : DigitTable P M) (s : Nat) (hs : 0 < s) :
    ∀ (idx : List Nat) (off : Nat) (rest : List Nat) (col : Bool) (acc : List Nat),
    (∀ i ∈ idx, i < P.length) → rest ≠ [] →
    RowAt row off ((digitWidths P idx).map (s * ·) ++ rest) col →
    digitsLoop row P idx.length off acc = .ok (acc.reverse ++ idx, off + s * M * idx.length) ∧
    RowAt row (off + s * M * idx.length) rest col := by
  intro idx
  induction idx with
  | nil =>
    intro off rest col acc _ _ h
    simp only [digitWidths, List.map_nil, List.flatten_nil, List.nil_append] at h
    simp [digitsLoop, h]
  | cons i idx ih =>
    intro off rest col acc hidx hne h
    have hi : i < P.length := hidx i (by simp)
    rw [digitWidths_cons, List.map_append, getD_eq_getElem _ _ _ hi, List.append_assoc] at h
    have hlt : off < row.length := h.lt (by
      have hl4 := (hP.shape P[i] (List.getElem_mem hi)).1
      intro e
      have hl0 := congrArg List.length e
      simp [hl4] at hl0)
    have hd := decodeDigit_at hP i hi s hs _ col h
    have hadv := h.advance _ _
    have hq := hP.shape P[i] (List.getElem_mem hi)
    simp only [List.length_map, hq.1, sumL_scale, hq.2.1] at hadv
    have hadv' : RowAt row (off + s * M) ((digitWidths P idx).map (s * ·) ++ rest) col := by simpa using hadv
    obtain ⟨h1, h2⟩ := ih (off + s * M) rest col (i :: acc) (fun k hk => hidx k (by simp [hk])) hne hadv'
    have e : off + s * M + s * M * idx.length = off + s * M * (idx.length + 1) := by
      rw [Nat.mul_add]; omega
    constructor
    · simp only [List.length_cons, digitsLoop, hlt, if_true, hd, h1]
      rw [e]; simp
    · rw [List.length_cons, ← e]; exact h2

end Gzx.OneD
