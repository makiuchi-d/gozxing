/-
  Helper lemmas for C13: the two-pass version recommendation of the QR encoder lands on the
  smallest fitting version.  Pure layer (`dataBytes`, `cbOf`; the search `firstFrom` is Proofs/FirstFit.lean) +
  refinement of the monadic model `Gzx.QRVersionChoice` to it under table well-formedness.
-/
import Gzx.Model.QRVersionChoice
import Gzx.Proofs.FirstFit
namespace Gzx.QRVersionChoice
open Gzx Gzx.QRRef

/-! ## the abstract two-pass argument -/

/-- `b` input bits fit into `d` data bytes (`willFit`'s comparison) -/
def fitsBytes (d : Int) (b : Nat) : Bool := decide (d ≥ (((b + 7) / 8 : Nat) : Int))

/-- Two-pass choice over capacities `D` (strictly increasing on 1..40) and bit demands `b v`
    (payload bits when the count indicator has the width of version `v`: monotone, total variation at
    most 8 bits): choosing with the demand of version 1, then again with the demand of that
    provisional version, gives the first version that fits with its own demand — or fails exactly
    when no version fits. -/
theorem two_pass (D : Nat → Int) (b : Nat → Nat)
    (hD : ∀ u v, 1 ≤ u → u < v → v ≤ 40 → D u < D v)
    (hw : ∀ u v, 1 ≤ u → u ≤ v → v ≤ 40 → b u ≤ b v) (hw8 : b 40 ≤ b 1 + 8) :
    (match firstFrom (fun v => fitsBytes (D v) (b 1)) 40 1 with
     | none => none
     | some p => firstFrom (fun v => fitsBytes (D v) (b p)) 40 1)
    = firstFrom (fun v => fitsBytes (D v) (b v)) 40 1 := by
  cases hp : firstFrom (fun v => fitsBytes (D v) (b 1)) 40 1 with
  | none =>
    simp only
    symm
    rw [firstFrom_none] at hp ⊢
    intro u h1 h2
    have := hp u h1 h2
    have hwu := hw 1 u (Nat.le_refl _) h1 (by omega)
    simp only [fitsBytes, decide_eq_false_iff_not] at this ⊢
    omega
  | some p =>
    simp only
    rw [firstFrom_some] at hp
    obtain ⟨hp1, hp2, hp3, hp4⟩ := hp
    have hw1p := hw 1 p (Nat.le_refl _) hp1 (by omega)
    have hwp40 := hw p 40 hp1 (by omega) (Nat.le_refl _)
    simp only [fitsBytes, decide_eq_true_eq] at hp3
    cases hf : firstFrom (fun v => fitsBytes (D v) (b p)) 40 1 with
    | none =>
      symm
      rw [firstFrom_none] at hf ⊢
      intro u h1 h2
      by_cases hup : p ≤ u
      · have := hf u h1 h2
        have hwu := hw p u hp1 hup (by omega)
        simp only [fitsBytes, decide_eq_false_iff_not] at this ⊢
        omega
      · have := hp4 u h1 (by omega)
        have hwu := hw 1 u (Nat.le_refl _) h1 (by omega)
        simp only [fitsBytes, decide_eq_false_iff_not] at this ⊢
        omega
    | some f =>
      -- The provisional version `p` fits the demand of version 1.  If the second pass moves on to `f > p`,
      -- `f` fits its own demand all the same: capacities are whole bytes and strictly increasing (`hD`, needed
      -- only here), so `D f` is at least one byte above `D p`, and one byte absorbs the at most 8 bits by which
      -- the demand can have grown (`hw8`).  Everywhere else a smaller demand only makes fitting easier (`hw`).
      symm
      rw [firstFrom_some] at hf ⊢
      obtain ⟨hf1, hf2, hf3, hf4⟩ := hf
      simp only [fitsBytes, decide_eq_true_eq] at hf3
      have hpf : p ≤ f := by
        by_cases h : p ≤ f
        · exact h
        · have := hp4 f hf1 (by omega)
          simp only [fitsBytes, decide_eq_false_iff_not] at this
          omega
      refine ⟨hf1, hf2, ?_, ?_⟩
      · simp only [fitsBytes, decide_eq_true_eq]
        by_cases hpf' : p = f
        · subst hpf'; exact hf3
        · have hnp := hf4 p hp1 (by omega)
          simp only [fitsBytes, decide_eq_false_iff_not] at hnp
          have hDpf := hD p f hp1 (by omega) (by omega)
          have hwf40 := hw f 40 hf1 (by omega) (Nat.le_refl _)
          omega
      · intro u h1 h2
        by_cases hup : p ≤ u
        · have := hf4 u h1 h2
          have hwu := hw p u hp1 hup (by omega)
          simp only [fitsBytes, decide_eq_false_iff_not] at this ⊢
          omega
        · have := hp4 u h1 (by omega)
          have hwu := hw 1 u (Nat.le_refl _) h1 (by omega)
          simp only [fitsBytes, decide_eq_false_iff_not] at this ⊢
          omega

/-! ## well-formed tables: the accessors cannot panic -/

/-- row of version `v` (1-based) -/
def rowOf (T : QRTables) (v : Nat) : VersionInfo := T.versions.getD (v - 1) default

/-- data bytes of (version, level): total codewords − EC codewords -/
def dataBytes (T : QRTables) (v : Nat) (ec : EC) : Int :=
  let r := rowOf T v
  (r.total : Int) - (totalECCodewords (r.ecBlocks.getD ec.idx (0, [])) : Int)

/-- count-indicator width of `m` in version `v` -/
def cbOf (T : QRTables) (m : Mode) (v : Nat) : Nat :=
  (T.counts m).getD (if v ≤ 9 then 0 else if v ≤ 26 then 1 else 2) 0

/-- 40 rows, row `i` carries version number `i+1` and four EC block lists; three count widths per mode.
    (The decoder's totality asks more of the same table, in the decoder model's types: `QRDec.wfVersions`,
    Proofs/QRTablesWF.lean.) -/
def wfB (T : QRTables) : Bool :=
  (List.range 40).all (fun i =>
    match T.versions[i]? with
    | some r => r.number == i + 1 && r.ecBlocks.length == 4
    | none => false) &&
  Mode.all.all (fun m => (T.counts m).length == 3)

/-- capacities strictly increase with the version; count widths grow with the version class by at
    most 8 bits in total -/
def monoB (T : QRTables) : Bool :=
  (List.range 39).all (fun i => EC.all.all (fun ec => decide (dataBytes T (i + 1) ec < dataBytes T (i + 2) ec))) &&
  Mode.all.all (fun m =>
    match T.counts m with
    | [a, b, c] => a ≤ b && b ≤ c && c ≤ a + 8
    | _ => false)

theorem mem_Mode_all (m : Mode) : m ∈ Mode.all := by cases m <;> simp [Mode.all]
theorem mem_EC_all (ec : EC) : ec ∈ EC.all := by cases ec <;> simp [EC.all]

theorem wf_row {T : QRTables} (h : wfB T = true) {v : Nat} (h1 : 1 ≤ v) (h40 : v ≤ 40) :
    T.versions[v - 1]? = some (rowOf T v) ∧ (rowOf T v).number = v ∧ (rowOf T v).ecBlocks.length = 4 := by
  unfold wfB at h
  rw [Bool.and_eq_true, List.all_eq_true] at h
  have := h.1 (v - 1) (List.mem_range.mpr (by omega))
  unfold rowOf
  cases hr : T.versions[v - 1]? with
  | none => rw [hr] at this; cases this
  | some r =>
    rw [hr] at this
    simp only [Bool.and_eq_true, beq_iff_eq] at this
    have hg : T.versions.getD (v - 1) default = r := by
      rw [List.getD_eq_getElem?_getD, hr]; rfl
    rw [hg]
    exact ⟨rfl, by omega, this.2⟩

theorem wf_counts {T : QRTables} (h : wfB T = true) (m : Mode) : (T.counts m).length = 3 := by
  unfold wfB at h
  rw [Bool.and_eq_true, List.all_eq_true, List.all_eq_true] at h
  simpa using h.2 m (mem_Mode_all m)

theorem getVersion_ok {T : QRTables} (h : wfB T = true) {v : Nat} (h1 : 1 ≤ v) (h40 : v ≤ 40) :
    getVersionForNumber T (v : Int) = .ok (rowOf T v) := by
  unfold getVersionForNumber
  have hn : ¬ ((v : Int) < 1 ∨ (v : Int) > 40) := by omega
  simp only [hn, if_false]
  have : ((v : Int) - 1).toNat = v - 1 := by omega
  rw [this, (wf_row h h1 h40).1]

theorem numDataBytes_ok {T : QRTables} (h : wfB T = true) {v : Nat} (h1 : 1 ≤ v) (h40 : v ≤ 40) (ec : EC) :
    numDataBytes (rowOf T v) ec = .ok (dataBytes T v ec) := by
  unfold numDataBytes ecBlocksForLevel dataBytes
  have hl := (wf_row h h1 h40).2.2
  have hi : ec.idx < (rowOf T v).ecBlocks.length := by rw [hl]; cases ec <;> decide
  rw [List.getElem?_eq_getElem hi]
  simp only [bind, Except.bind, pure, Except.pure]
  rw [List.getD_eq_getElem?_getD, List.getElem?_eq_getElem hi]
  rfl

theorem characterCountBits_ok {T : QRTables} (h : wfB T = true) (m : Mode) {v : Nat} (h1 : 1 ≤ v) (h40 : v ≤ 40) :
    characterCountBits T m (rowOf T v) = .ok (cbOf T m v) := by
  unfold characterCountBits cbOf
  rw [(wf_row h h1 h40).2.1]
  have hl := wf_counts h m
  have hi : (if v ≤ 9 then 0 else if v ≤ 26 then 1 else 2) < (T.counts m).length := by
    rw [hl]; split
    · decide
    · split <;> decide
  dsimp only
  rw [List.getElem?_eq_getElem hi, List.getD_eq_getElem?_getD, List.getElem?_eq_getElem hi]
  rfl

theorem willFit_ok {T : QRTables} (h : wfB T = true) {v : Nat} (h1 : 1 ≤ v) (h40 : v ≤ 40) (ec : EC) (bits : Nat) :
    willFit bits (rowOf T v) ec = .ok (fitsBytes (dataBytes T v ec) bits) := by
  unfold willFit
  rw [numDataBytes_ok h h1 h40]
  rfl

theorem calculateBitsNeeded_ok {T : QRTables} (h : wfB T = true) (m : Mode) (hdr data : Nat) {v : Nat}
    (h1 : 1 ≤ v) (h40 : v ≤ 40) :
    calculateBitsNeeded T m hdr data (rowOf T v) = .ok (hdr + cbOf T m v + data) := by
  unfold calculateBitsNeeded
  rw [characterCountBits_ok h m h1 h40]
  rfl

theorem chooseVersionLoop_eq {T : QRTables} (h : wfB T = true) (bits : Nat) (ec : EC) (fuel cur : Nat)
    (h1 : 1 ≤ cur) (hsum : cur + fuel = 41) :
    chooseVersionLoop T bits ec fuel cur =
      match firstFrom (fun v => fitsBytes (dataBytes T v ec) bits) fuel cur with
      | some v => .ok (rowOf T v)
      | none => .error .writer := by
  induction fuel generalizing cur with
  | zero => rfl
  | succ f ih =>
    unfold chooseVersionLoop firstFrom
    rw [getVersion_ok h h1 (by omega)]
    simp only [bind, Except.bind, pure, Except.pure]
    rw [willFit_ok h h1 (by omega)]
    simp only
    cases hfit : fitsBytes (dataBytes T cur ec) bits
    · simp only [Bool.false_eq_true, if_false]
      exact ih (cur + 1) (by omega) (by omega)
    · simp only [if_true]

theorem chooseVersion_eq {T : QRTables} (h : wfB T = true) (bits : Nat) (ec : EC) :
    chooseVersion T bits ec =
      match firstFrom (fun v => fitsBytes (dataBytes T v ec) bits) 40 1 with
      | some v => .ok (rowOf T v)
      | none => .error .writer :=
  chooseVersionLoop_eq h bits ec 40 1 (Nat.le_refl _) rfl

/-! ## monotone tables -/

theorem mono_D {T : QRTables} (h : monoB T = true) (ec : EC) :
    ∀ u v, 1 ≤ u → u < v → v ≤ 40 → dataBytes T u ec < dataBytes T v ec := by
  unfold monoB at h
  rw [Bool.and_eq_true, List.all_eq_true] at h
  have step : ∀ i, 1 ≤ i → i < 40 → dataBytes T i ec < dataBytes T (i + 1) ec := by
    intro i h1 h2
    have := h.1 (i - 1) (List.mem_range.mpr (by omega))
    rw [List.all_eq_true] at this
    have := this ec (mem_EC_all ec)
    have e1 : i - 1 + 1 = i := by omega
    have e2 : i - 1 + 2 = i + 1 := by omega
    rw [e1, e2] at this
    simpa using this
  intro u v hu huv hv
  induction v with
  | zero => omega
  | succ v ih =>
    by_cases huv' : u = v
    · rw [huv']; exact step v (by omega) (by omega)
    · exact Int.lt_trans (ih (by omega) (by omega)) (step v (by omega) (by omega))

theorem mono_w {T : QRTables} (h : monoB T = true) (m : Mode) :
    (∀ u v, 1 ≤ u → u ≤ v → v ≤ 40 → cbOf T m u ≤ cbOf T m v) ∧ cbOf T m 40 ≤ cbOf T m 1 + 8 := by
  unfold monoB at h
  rw [Bool.and_eq_true, List.all_eq_true, List.all_eq_true] at h
  have := h.2 m (mem_Mode_all m)
  unfold cbOf
  match hc : T.counts m, this with
  | [a, b, c], this =>
    simp only [Bool.and_eq_true, decide_eq_true_eq] at this
    obtain ⟨⟨hab, hbc⟩, hca⟩ := this
    constructor
    · intro u v _ huv _
      by_cases h9 : u ≤ 9 <;> by_cases h9' : v ≤ 9 <;> by_cases h26 : u ≤ 26 <;> by_cases h26' : v ≤ 26 <;>
        simp [h9, h9', h26, h26'] <;> omega
    · simp; omega

end Gzx.QRVersionChoice
