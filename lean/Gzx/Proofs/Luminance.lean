/-
  C17, the luminance sources of Model/Luminance.lean: a well-formed view (crop window, inversion flag over a base
  buffer) denotes a naive array (`View.abs`, an `Img` of Ref/Luminance.lean); GetRow and GetMatrix never panic on it and
  return that array's rows; Crop, Invert and RotateCounterClockwise act on the array as sub-rectangle, complement and
  quarter turn.
-/
import Gzx.Model.Luminance
import Gzx.Ref.Luminance
import Gzx.Proofs.ExceptList
import Gzx.Proofs.ListGrid
namespace Gzx.Luminance
open Gzx

/-! ## abstraction: the naive array a view denotes -/

/-- row `y` of the un-inverted view, read straight from the data -/
def View.baseRow (v : View) (y : Nat) : List Nat :=
  (v.data.drop ((y + v.top) * v.dataW + v.left)).take v.w

def View.baseRows (v : View) : List (List Nat) := (List.range v.h).map v.baseRow

/-- the naive `w x h` array denoted by a view -/
def View.abs (v : View) : Img :=
  if v.inv then (Img.mk v.w v.h v.baseRows).invert else Img.mk v.w v.h v.baseRows

/-- well-formed view: the rectangle lies inside the data, the data is at least `dataW x dataH` bytes -/
structure View.WF (v : View) : Prop where
  len : v.dataW * v.dataH ≤ v.data.length
  horiz : v.left + v.w ≤ v.dataW
  vert : v.top + v.h ≤ v.dataH
  bytes : ∀ p ∈ v.data, p ≤ 255

/-! ## lists: rows cut out of one array, rows flattened into one array -/

theorem flatten_row (R : List (List Nat)) (w : Nat) (hR : ∀ r ∈ R, r.length = w) (y : Nat) (hy : y < R.length) :
    (R.flatten.drop (y * w)).take w = R[y] := by
  induction R generalizing y with
  | nil => exact absurd hy (Nat.not_lt_zero _)
  | cons r rs ih =>
    have hr := hR r List.mem_cons_self
    cases y with
    | zero => rw [Nat.zero_mul, List.drop_zero, List.flatten_cons, List.take_left' hr]; rfl
    | succ y =>
      have hd : (r ++ rs.flatten).drop (w + y * w) = rs.flatten.drop (y * w) := hr ▸ List.drop_length_add_append _
      rw [List.flatten_cons, Nat.succ_mul, Nat.add_comm, hd]
      exact ih (fun q hq => hR q (List.mem_cons_of_mem _ hq)) y (Nat.lt_of_succ_lt_succ hy)

theorem unflatten (R : List (List Nat)) (h : Nat) (hR : ∀ r ∈ R, r.length = h) :
    (List.range R.length).map (fun y => (R.flatten.drop (y * h)).take h) = R := by
  apply List.ext_getElem (by rw [List.length_map, List.length_range])
  intro y _ hy
  rw [List.getElem_map, List.getElem_range]
  exact flatten_row R h hR y hy

theorem range_map_drop_take {α : Type} (f : Nat → α) (n t h : Nat) (hle : t + h ≤ n) :
    (((List.range n).map f).drop t).take h = (List.range h).map (fun y => f (y + t)) := by
  apply List.ext_getElem?
  intro i
  simp only [List.getElem?_take, List.getElem?_drop, List.getElem?_map]
  by_cases hi : i < h
  · have h1 : t + i < n := by omega
    simp [hi, h1, Nat.add_comm]
  · simp [hi]

theorem sub_row {α : Type} (data : List α) (a W l w' : Nat) (h : l + w' ≤ W) :
    (((data.drop a).take W).drop l).take w' = (data.drop (a + l)).take w' := by
  rw [List.drop_take, List.take_take, List.drop_drop, Nat.min_eq_left (Nat.le_sub_of_add_le' h)]

theorem map_map_self {α : Type} (f : α → α) (l : List α) (h : ∀ a ∈ l, f (f a) = a) : (l.map f).map f = l := by
  rw [List.map_map]
  exact (List.map_congr_left h).trans (List.map_id l)

theorem getD_le_255 (r : List Nat) (hr : ∀ p ∈ r, p ≤ 255) (i : Nat) : r.getD i 0 ≤ 255 := by
  rw [List.getD_eq_getElem?_getD]
  cases h : r[i]? with
  | none => exact Nat.zero_le _
  | some p => exact hr p (List.mem_of_getElem? h)

/-! ## the reference operations on naive arrays -/

theorem Img.invert_WF (m : Img) (hm : m.WF) : m.invert.WF := by
  refine ⟨by rw [Img.invert, List.length_map]; exact hm.1, ?_⟩
  intro r hr
  obtain ⟨r', hr', rfl⟩ := List.mem_map.mp hr
  rw [List.length_map]
  exact hm.2 r' hr'

theorem Img.rot_WF (m : Img) (hm : m.WF) : m.rotCCW.WF := by
  refine ⟨by simp [Img.rotCCW], ?_⟩
  intro r hr
  simp only [Img.rotCCW, List.mem_map, List.mem_range] at hr
  obtain ⟨j, _, rfl⟩ := hr
  simp only [List.length_map, hm.1]
  rfl

theorem invert_invert_rows (rows : List (List Nat)) (h : ∀ r ∈ rows, ∀ p ∈ r, p ≤ 255) :
    (rows.map (fun r => r.map (fun v => 255 - v))).map (fun r => r.map (fun v => 255 - v)) = rows :=
  map_map_self _ rows fun r hr => map_map_self _ r fun p hp => Nat.sub_sub_self (h r hr p hp)

theorem Img.crop_invert (m : Img) (l t w h : Nat) : m.invert.crop l t w h = (m.crop l t w h).invert := by
  simp only [Img.invert, Img.crop, Img.mk.injEq, true_and, List.map_drop, List.map_take, List.map_map]
  congr 3
  funext r
  simp only [Function.comp, List.map_drop, List.map_take]

theorem rot_invert_rows (m : Img) (hm : m.WF) : m.invert.rotCCW = m.rotCCW.invert := by
  simp only [Img.invert, Img.rotCCW, Img.mk.injEq, true_and, List.map_map]
  apply List.map_congr_left
  intro j hj
  simp only [Function.comp, List.map_map]
  apply List.map_congr_left
  intro r hr
  have hlt : m.w - 1 - j < r.length := by rw [hm.2 r hr]; exact Nat.sub_one_sub_lt (List.mem_range.mp hj)
  simp only [Function.comp, List.getD_eq_getElem?_getD, List.getElem?_map, List.getElem?_eq_getElem hlt,
    Option.map_some, Option.getD_some]

/-! ## rows of the un-inverted view -/

theorem row_end_le (v : View) (hv : v.WF) (y : Nat) (hy : y < v.h) :
    (y + v.top) * v.dataW + v.left + v.w ≤ v.data.length :=
  calc (y + v.top) * v.dataW + v.left + v.w
      ≤ (y + v.top) * v.dataW + v.dataW := by rw [Nat.add_assoc]; exact Nat.add_le_add_left hv.horiz _
    _ = (y + v.top + 1) * v.dataW := (Nat.succ_mul _ _).symm
    _ ≤ v.dataH * v.dataW := Nat.mul_le_mul_right _ (by have := hv.vert; omega)
    _ = v.dataW * v.dataH := Nat.mul_comm _ _
    _ ≤ v.data.length := hv.len

theorem cell_lt (v : View) (hv : v.WF) (y x : Nat) (hy : y < v.h) (hx : x < v.w) :
    (y + v.top) * v.dataW + v.left + x < v.data.length :=
  Nat.lt_of_lt_of_le (Nat.add_lt_add_left hx _) (row_end_le v hv y hy)

theorem baseRow_length (v : View) (hv : v.WF) (y : Nat) (hy : y < v.h) : (v.baseRow y).length = v.w := by
  rw [View.baseRow, List.length_take, List.length_drop]
  exact Nat.min_eq_left (Nat.le_sub_of_add_le' (row_end_le v hv y hy))

theorem baseRow_getElem? (v : View) (y x : Nat) (hx : x < v.w) :
    (v.baseRow y)[x]? = v.data[(y + v.top) * v.dataW + v.left + x]? := by
  rw [View.baseRow, List.getElem?_take_of_lt hx, List.getElem?_drop]

theorem baseRows_length (v : View) : v.baseRows.length = v.h := by simp [View.baseRows]

theorem mem_baseRows {v : View} {r : List Nat} : r ∈ v.baseRows ↔ ∃ y, y < v.h ∧ v.baseRow y = r := by
  simp only [View.baseRows, List.mem_map, List.mem_range]

theorem baseRows_getElem? (v : View) (y : Nat) (hy : y < v.h) : v.baseRows[y]? = some (v.baseRow y) := by
  rw [View.baseRows, List.getElem?_map, List.getElem?_range hy]
  rfl

theorem baseRows_row_length (v : View) (hv : v.WF) : ∀ r ∈ v.baseRows, r.length = v.w := by
  intro r hr
  obtain ⟨y, hy, rfl⟩ := mem_baseRows.mp hr
  exact baseRow_length v hv y hy

theorem baseRows_bytes (v : View) (hv : v.WF) : ∀ r ∈ v.baseRows, ∀ p ∈ r, p ≤ 255 := by
  intro r hr p hp
  obtain ⟨y, _, rfl⟩ := mem_baseRows.mp hr
  exact hv.bytes p (List.mem_of_mem_drop (List.mem_of_mem_take hp))

theorem baseRows_flatten_length (v : View) (hv : v.WF) : v.baseRows.flatten.length = v.w * v.h := by
  rw [flatten_length_const _ v.w (baseRows_row_length v hv), baseRows_length]

theorem baseRows_of_flatten (R : List (List Nat)) (v : View) (hR : ∀ r ∈ R, r.length = v.w)
    (hd : v.data = R.flatten) (hW : v.dataW = v.w) (hl : v.left = 0) (ht : v.top = 0) (hh : v.h = R.length) :
    v.baseRows = R := by
  conv => rhs; rw [← unflatten R v.w hR, ← hh]
  apply List.map_congr_left
  intro y _
  rw [View.baseRow, hd, hW, hl, ht]
  rfl

/-! ## the array of a view -/

theorem abs_w (v : View) : v.abs.w = v.w := by unfold View.abs; split <;> rfl
theorem abs_h (v : View) : v.abs.h = v.h := by unfold View.abs; split <;> rfl

theorem base_WF (v : View) (hv : v.WF) : (Img.mk v.w v.h v.baseRows).WF :=
  ⟨baseRows_length v, baseRows_row_length v hv⟩

theorem abs_WF (v : View) (hv : v.WF) : v.abs.WF := by
  unfold View.abs
  split
  · exact Img.invert_WF _ (base_WF v hv)
  · exact base_WF v hv

/-- a view `v'` whose un-inverted rows are `f` of those of `v` denotes `f` of the array of `v`, for
    every `f` that commutes with inversion -/
theorem abs_of_base (f : Img → Img) (v v' : View) (hi : v'.inv = v.inv)
    (hb : Img.mk v'.w v'.h v'.baseRows = f (Img.mk v.w v.h v.baseRows))
    (hf : f (Img.mk v.w v.h v.baseRows).invert = (f (Img.mk v.w v.h v.baseRows)).invert) :
    v'.abs = f v.abs := by
  unfold View.abs
  rw [hi, hb]
  split
  · exact hf.symm
  · rfl

/-! ## GetRow -/

theorem slice_ok (l : List Nat) (a n : Nat) (h : a + n ≤ l.length) :
    slice l a (a + n) = .ok ((l.drop a).take n) := by
  unfold slice
  rw [if_pos ⟨Nat.le_add_right a n, h⟩, Nat.add_sub_cancel_left]

/-- what is left of the caller's buffer behind the row -/
def bufTail (w : Nat) : Option (List Nat) → List Nat
  | some r => if r.length < w then [] else r.drop w
  | none => []

theorem baseGetRow_ok (v : View) (hv : v.WF) (y : Nat) (hy : y < v.h) (row : Option (List Nat)) :
    baseGetRow v (y : Int) row = .ok (v.baseRow y ++ bufTail v.w row) := by
  have hn : ¬ ((y : Int) < 0 ∨ (y : Int) ≥ v.h) := by omega
  simp only [baseGetRow, hn, if_false, Int.toNat_natCast, slice_ok _ _ _ (row_end_le v hv y hy)]
  show Except.ok (_ ++ _) = _
  congr 2
  cases row with
  | none => simp [bufTail]
  | some r => simp only [bufTail]; split <;> simp

/-- **GetRow inside the view** returns row `y` of the naive array, followed by the untouched tail of a
    longer caller buffer (a buffer shorter than the row is replaced) -/
theorem getRow_ok (v : View) (hv : v.WF) (y : Nat) (hy : y < v.h) (row : Option (List Nat)) :
    getRow v (y : Int) row = .ok ((v.abs.rows.getD y []) ++ bufTail v.w row) := by
  have hl := baseRow_length v hv y hy
  unfold getRow View.abs
  rw [baseGetRow_ok v hv y hy row]
  show (if v.inv then _ else _) = _
  split
  · rw [List.take_left' hl, List.drop_left' hl, Img.invert, List.getD_eq_getElem?_getD, List.getElem?_map,
      baseRows_getElem? v y hy]
    rfl
  · rw [List.getD_eq_getElem?_getD, baseRows_getElem? v y hy]
    rfl

/-- **GetRow outside the view** is an IllegalArgumentException — never a panic, never pixels -/
theorem getRow_outside (v : View) (y : Int) (hy : y < 0 ∨ y ≥ v.h) (row : Option (List Nat)) :
    getRow v y row = .error (.fault .illegalArg) := by
  unfold getRow baseGetRow
  rw [if_pos hy]
  rfl

/-! ## GetMatrix: the three copy strategies produce the rows of the naive array -/

theorem rows_adjacent (v : View) (hfull : v.w = v.dataW) (hl : v.left = 0) (y n : Nat) :
    ((List.range' y n).map v.baseRow).flatten = (v.data.drop ((y + v.top) * v.dataW)).take (v.dataW * n) := by
  induction n generalizing y with
  | zero => rfl
  | succ n ih =>
    rw [Nat.mul_succ, Nat.add_comm (v.dataW * n), List.take_add, List.drop_drop, ← Nat.succ_mul,
      ← Nat.succ_add, ← ih]
    show v.baseRow y ++ _ = _
    rw [View.baseRow, hfull, hl]
    rfl

theorem rowsCopy_ok (v : View) (hv : v.WF) (y n : Nat) (h : y + n ≤ v.h) :
    rowsCopy v.data v.dataW v.w ((y + v.top) * v.dataW + v.left) n =
      .ok ((List.range' y n).map v.baseRow).flatten := by
  induction n generalizing y with
  | zero => rfl
  | succ n ih =>
    have hoff : (y + v.top) * v.dataW + v.left + v.dataW = (y + 1 + v.top) * v.dataW + v.left := by
      rw [Nat.add_right_comm y 1, Nat.succ_mul, Nat.add_right_comm]
    rw [rowsCopy, slice_ok _ _ _ (row_end_le v hv y (by omega)), hoff, ih (y + 1) (by omega)]
    rfl

theorem baseGetMatrix_ok (v : View) (hv : v.WF) :
    ∃ m, baseGetMatrix v = .ok m ∧ m.take (v.w * v.h) = v.baseRows.flatten := by
  unfold baseGetMatrix
  by_cases hfull : v.w = v.dataW
  · -- the rows are adjacent in the data
    have hl : v.left = 0 := by have := hv.horiz; omega
    have hflat : v.baseRows.flatten = (v.data.drop (v.top * v.dataW + v.left)).take (v.w * v.h) := by
      rw [View.baseRows, List.range_eq_range', rows_adjacent v hfull hl 0 v.h, Nat.zero_add, hl, hfull]
      rfl
    by_cases hwhole : v.h = v.dataH
    · -- the array itself
      have ht : v.top = 0 := by have := hv.vert; omega
      rw [if_pos ⟨hfull, hwhole⟩]
      refine ⟨v.data, rfl, ?_⟩
      rw [hflat, hl, ht, Nat.zero_mul, List.drop_zero]
    · -- one copy
      have hend : v.top * v.dataW + v.left + v.w * v.h ≤ v.data.length := by
        rw [hl, hfull, Nat.add_zero, Nat.mul_comm v.dataW, ← Nat.add_mul]
        exact Nat.le_trans (Nat.mul_le_mul_right _ hv.vert) (Nat.mul_comm _ _ ▸ hv.len)
      rw [if_neg (fun h => hwhole h.2), if_pos hfull, slice_ok _ _ _ hend]
      exact ⟨_, rfl, by rw [hflat, List.take_take, Nat.min_self]⟩
  · -- row by row
    have hcopy := rowsCopy_ok v hv 0 v.h (Nat.le_of_eq (Nat.zero_add _))
    rw [Nat.zero_add, ← List.range_eq_range'] at hcopy
    rw [if_neg (fun h => hfull h.1), if_neg hfull, hcopy]
    exact ⟨_, rfl, List.take_of_length_le (Nat.le_of_eq (baseRows_flatten_length v hv))⟩

/-- **GetMatrix** (whole array / one copy / row by row, and the inverting wrapper) never panics on a
    well-formed view and its first `w*h` bytes are the rows of the naive array in raster order -/
theorem getMatrix_ok (v : View) (hv : v.WF) :
    ∃ m, getMatrix v = .ok m ∧ m.take (v.w * v.h) = v.abs.rows.flatten := by
  obtain ⟨m, hm, hrows⟩ := baseGetMatrix_ok v hv
  unfold getMatrix View.abs
  rw [hm]
  show ∃ m', (if v.inv then _ else _) = Except.ok m' ∧ _
  split
  · have hlen : ¬ m.length < v.w * v.h := by
      have := congrArg List.length hrows
      rw [baseRows_flatten_length v hv, List.length_take] at this
      rw [← this]
      exact Nat.not_lt.mpr (Nat.min_le_right _ _)
    rw [if_neg hlen, hrows]
    refine ⟨_, rfl, ?_⟩
    rw [List.take_of_length_le (by rw [List.length_map, baseRows_flatten_length v hv]; exact Nat.le_refl _)]
    exact List.map_flatten
  · exact ⟨m, rfl, hrows⟩

/-! ## Crop -/

/-- what a valid `Crop(l, t, w, h)` returns, whatever the kind of source -/
def View.sub (v : View) (l t w h : Nat) : View := { v with left := v.left + l, top := v.top + t, w := w, h := h }

theorem sub_baseRows (v : View) (l t w h : Nat) (hw : l + w ≤ v.w) (hh : t + h ≤ v.h) :
    (v.sub l t w h).baseRows = ((v.baseRows.drop t).take h).map (fun r => (r.drop l).take w) := by
  rw [View.baseRows, View.baseRows, range_map_drop_take _ _ _ _ hh, List.map_map]
  apply List.map_congr_left
  intro y _
  simp only [View.baseRow, View.sub, Function.comp]
  rw [sub_row _ _ _ _ _ hw, Nat.add_assoc y, Nat.add_comm t, Nat.add_assoc _ v.left]

theorem sub_wf (v : View) (hv : v.WF) (l t w h : Nat) (hw : l + w ≤ v.w) (hh : t + h ≤ v.h) :
    (v.sub l t w h).WF := by
  refine ⟨hv.len, ?_, ?_, hv.bytes⟩
  · show v.left + l + w ≤ v.dataW
    rw [Nat.add_assoc]
    exact Nat.le_trans (Nat.add_le_add_left hw _) hv.horiz
  · show v.top + t + h ≤ v.dataH
    rw [Nat.add_assoc]
    exact Nat.le_trans (Nat.add_le_add_left hh _) hv.vert

theorem abs_sub (v : View) (l t w h : Nat) (hw : l + w ≤ v.w) (hh : t + h ≤ v.h) :
    (v.sub l t w h).abs = v.abs.crop l t w h :=
  abs_of_base (·.crop l t w h) v _ rfl (congrArg (Img.mk w h) (sub_baseRows v l t w h hw hh))
    (Img.crop_invert ..)

/-- the bounds test of `Crop` and of `NewPlanarYUVLuminanceSource` lets a rectangle inside through -/
theorem not_outside {l t a b c d : Int} (hl : 0 ≤ l) (ht : 0 ≤ t) (hw : a ≤ b) (hh : c ≤ d) :
    ¬ (l < 0 ∨ t < 0 ∨ a > b ∨ c > d) := by omega

theorem toNat_add_le {l : Int} {w n : Nat} (h0 : 0 ≤ l) (h : l + w ≤ n) : l.toNat + w ≤ n := by omega

theorem offset_add_le {a w W D : Nat} {l : Int} (hw : l + w ≤ W) (hD : a + W ≤ D) : (a : Int) + l + w ≤ D := by
  omega

theorem newYUV_ok (data : List Nat) (dataW dataH : Nat) (left top : Int) (w h : Nat)
    (hl : 0 ≤ left) (ht : 0 ≤ top) (hw : left + w ≤ dataW) (hh : top + h ≤ dataH) :
    newYUV data dataW dataH left top w h false =
      .ok { kind := .yuv, data := data, dataW := dataW, dataH := dataH, left := left.toNat, top := top.toNat,
            w := w, h := h, inv := false } := by
  rw [newYUV, if_neg (not_outside hl ht hw hh)]
  rfl

theorem crop_ok (v : View) (hv : v.WF) (l t : Int) (w h : Nat) (hl : 0 ≤ l) (ht : 0 ≤ t)
    (hw : l + w ≤ v.w) (hh : t + h ≤ v.h) : crop v l t w h = .ok (v.sub l.toNat t.toNat w h) := by
  rw [crop, if_neg (not_outside hl ht hw hh), View.sub]
  cases hk : v.kind with
  | yuv =>
    -- the constructor's own test against the data passes as well
    have hl' := Int.natCast_nonneg v.left
    have ht' := Int.natCast_nonneg v.top
    simp only [newYUV_ok v.data v.dataW v.dataH (v.left + l) (v.top + t) w h (Int.add_nonneg hl' hl)
      (Int.add_nonneg ht' ht) (offset_add_le hw hv.horiz) (offset_add_le hh hv.vert), Int.toNat_add hl' hl, Int.toNat_add ht' ht,
      Int.toNat_natCast]
    rfl
  | rgb => rfl
  | img => rfl

theorem crop_valid (v : View) (hv : v.WF) (l t : Int) (w h : Nat) (hval : v.abs.ValidCrop l t w h) :
    ∃ v', crop v l t w h = .ok v' ∧ v'.WF ∧ v'.kind = v.kind ∧ v'.inv = v.inv ∧
      v'.abs = v.abs.crop l.toNat t.toNat w h := by
  obtain ⟨h0, h1, h2, h3⟩ := hval
  rw [abs_w] at h2
  rw [abs_h] at h3
  have hw' := toNat_add_le h0 h2
  have hh' := toNat_add_le h1 h3
  exact ⟨_, crop_ok v hv l t w h h0 h1 h2 h3, sub_wf v hv _ _ w h hw' hh', rfl, rfl, abs_sub v _ _ w h hw' hh'⟩

/-- an invalid rectangle (negative origin, or reaching outside the view) is an
    IllegalArgumentException — never a panic, never a view -/
theorem crop_invalid (v : View) (l t : Int) (w h : Nat) (hinv : ¬ v.abs.ValidCrop l t w h) :
    crop v l t w h = .error (.fault .illegalArg) := by
  unfold Img.ValidCrop at hinv
  rw [abs_w, abs_h] at hinv
  have hn : (l < 0 ∨ t < 0 ∨ l + w > v.w ∨ t + h > v.h) := by omega
  rw [crop, if_pos hn]
  rfl

/-! ## Invert -/

theorem abs_invert (v : View) (hv : v.WF) : (invert v).abs = v.abs.invert := by
  have hb := invert_invert_rows v.baseRows (baseRows_bytes v hv)
  unfold View.abs invert
  cases v.inv with
  | false => rfl
  | true => exact congrArg (Img.mk v.w v.h) hb.symm

theorem invert_wf (v : View) (hv : v.WF) : (invert v).WF := ⟨hv.len, hv.horiz, hv.vert, hv.bytes⟩

/-! ## RotateCounterClockwise -/

theorem idx_ok (l : List Nat) (i : Nat) (h : i < l.length) : idx l i = .ok ((l[i]?).getD 0) := by
  rw [idx, List.getElem?_eq_getElem h]
  rfl

/-- row `j` of the rotated copy is column `w - 1 - j` of the view -/
theorem rotRow_ok (v : View) (hv : v.WF) (j : Nat) (hj : j < v.w) :
    rotRow v j = .ok (v.baseRows.map (fun r => r.getD (v.w - 1 - j) 0)) := by
  rw [View.baseRows, List.map_map]
  apply mapME_eq_map
  intro i hi
  have hx : v.w - 1 - j < v.w := by omega
  rw [Nat.add_comm v.top i, Nat.sub_sub, Nat.add_sub_assoc (show 1 + j ≤ v.w by omega), ← Nat.add_assoc,
    ← Nat.sub_sub, idx_ok _ _ (cell_lt v hv i _ (List.mem_range.mp hi) hx)]
  simp only [Function.comp, List.getD_eq_getElem?_getD, baseRow_getElem? v i _ hx]

theorem rotate_ok (v : View) (hv : v.WF) (hk : v.kind = .img) :
    ∃ v', rotateCCW v = .ok v' ∧ v'.WF ∧ v'.kind = .img ∧ v'.inv = v.inv ∧ v'.abs = v.abs.rotCCW := by
  have hm := base_WF v hv
  have hR := Img.rot_WF _ hm
  have hrows : mapME (rotRow v) (List.range v.w) = .ok (Img.mk v.w v.h v.baseRows).rotCCW.rows :=
    mapME_eq_map _ _ _ fun j hj => rotRow_ok v hv j (List.mem_range.mp hj)
  unfold rotateCCW
  rw [hk]
  simp only [hrows]
  refine ⟨_, rfl, ⟨?_, Nat.le_of_eq (Nat.zero_add _), Nat.le_of_eq (Nat.zero_add _), ?_⟩, rfl, rfl, ?_⟩
  · -- a fresh `h x w` array
    show v.h * v.w ≤ List.length (List.flatten _)
    rw [flatten_length_const _ v.h hR.2, hR.1]
    exact Nat.le_refl _
  · intro p hp
    obtain ⟨r, hr, hpr⟩ := List.mem_flatten.mp hp
    obtain ⟨j, _, rfl⟩ := List.mem_map.mp hr
    obtain ⟨r', hr', rfl⟩ := List.mem_map.mp hpr
    exact getD_le_255 r' (baseRows_bytes v hv r' hr') _
  · exact abs_of_base Img.rotCCW v _ rfl
      (congrArg (Img.mk v.h v.w) (baseRows_of_flatten _ _ hR.2 rfl rfl rfl rfl hR.1.symm))
      (rot_invert_rows _ hm)

theorem rotate_unsupported (v : View) (hk : v.kind ≠ .img) : rotateCCW v = .error .unsupported := by
  unfold rotateCCW
  cases h : v.kind with
  | img => exact absurd h hk
  | rgb => rfl
  | yuv => rfl

/-! ## the naive array: extensionality, rotation index transform, four quarter turns -/

theorem Img.ext_px (a b : Img) (ha : a.WF) (hb : b.WF) (hw : a.w = b.w) (hh : a.h = b.h)
    (hpx : ∀ x y, x < a.w → y < a.h → a.px x y = b.px x y) : a = b := by
  have hrows : a.rows = b.rows := by
    apply List.ext_getElem (by rw [ha.1, hb.1, hh])
    intro y h1 h2
    have l1 := ha.2 _ (List.getElem_mem h1)
    apply List.ext_getElem (by rw [l1, hb.2 _ (List.getElem_mem h2), hw])
    intro x h3 h4
    have := hpx x y (l1 ▸ h3) (ha.1 ▸ h1)
    simp only [Img.px, List.getD_eq_getElem?_getD, List.getElem?_eq_getElem h1, List.getElem?_eq_getElem h2,
      Option.getD_some, List.getElem?_eq_getElem h3, List.getElem?_eq_getElem h4] at this
    exact this
  cases a
  cases b
  cases hw
  cases hh
  cases hrows
  rfl

/-- quarter turn counter-clockwise as an index transform: `new(x, y) = old(w - 1 - y, x)` -/
theorem Img.px_rot (m : Img) (hm : m.WF) (x y : Nat) (hx : x < m.h) (hy : y < m.w) :
    m.rotCCW.px x y = m.px (m.w - 1 - y) x := by
  have hx' : x < m.rows.length := hm.1 ▸ hx
  simp only [Img.px, Img.rotCCW, List.getD_eq_getElem?_getD, List.getElem?_map, List.getElem?_range hy,
    List.getElem?_eq_getElem hx', Option.map_some, Option.getD_some]

/-- two quarter turns are the point reflection -/
theorem Img.px_rot_rot (m : Img) (hm : m.WF) (x y : Nat) (hx : x < m.w) (hy : y < m.h) :
    m.rotCCW.rotCCW.px x y = m.px (m.w - 1 - x) (m.h - 1 - y) := by
  rw [Img.px_rot _ (Img.rot_WF m hm) x y hx hy]
  exact Img.px_rot m hm _ x (show m.h - 1 - y < m.h by omega) hx

theorem Img.rot4 (m : Img) (hm : m.WF) : m.rotCCW.rotCCW.rotCCW.rotCCW = m := by
  have w2 := Img.rot_WF _ (Img.rot_WF m hm)
  apply Img.ext_px _ _ (Img.rot_WF _ (Img.rot_WF _ w2)) hm rfl rfl
  intro x y (hx : x < m.w) (hy : y < m.h)
  rw [Img.px_rot_rot _ w2 x y hx hy]
  show m.rotCCW.rotCCW.px (m.w - 1 - x) (m.h - 1 - y) = _
  rw [Img.px_rot_rot m hm _ _ (Nat.sub_one_sub_lt hx) (Nat.sub_one_sub_lt hy),
    Nat.sub_sub_self (Nat.le_sub_one_of_lt hx), Nat.sub_sub_self (Nat.le_sub_one_of_lt hy)]

end Gzx.Luminance
