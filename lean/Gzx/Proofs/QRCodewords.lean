/-
  Length lemmas of the reference codeword pipeline (for the C01 composition): termination fills
  the data capacity exactly, Reed-Solomon parity has the requested length, round robin emits every
  codeword of every block (from which `Properties.C07.final_codewords_length` has the `totalCodewords`
  codewords of the final sequence); every codeword of that sequence is a byte; how many data codewords the
  `b`-th block carries (`blockDataLengths_getD`, for Obligations/C07.lean).
  The parity is where the field comes in: `QRRef.gfMul` is C04's reference product `gmul 0x11D` on bytes, the
  generator is monic with the roots `2^0 … 2^(n-1)`, and `rsParity` is the shift register of Proofs/LFSR.lean
  (`rsParity_roots`, from which Proofs/QRCompGF.lean has the link to C04).
-/
import Gzx.Ref.QR
import Gzx.Proofs.GFShiftAdd
import Gzx.Proofs.GFParams
import Gzx.Proofs.LFSR
namespace Gzx.QRRef
open Gzx Gzx.GF Gzx.Ref.GF Gzx.Proofs.GF Gzx.Proofs.GF2 Gzx.Proofs.Poly

theorem bytesOfBits_length : ∀ (f : Nat) (bs : List Bool), bs.length = 8 * f → (bytesOfBits f bs).length = f := by
  intro f
  induction f with
  | zero => intro bs _; rfl
  | succ f ih =>
    intro bs h
    cases bs with
    | nil => simp at h
    | cons b bs =>
      unfold bytesOfBits
      rw [List.length_cons, ih _ (by rw [List.length_drop, h]; omega)]

theorem padBytes_length (n : Nat) : (padBytes n).length = n := by
  have : ∀ n, (padBytes n).length = n ∧ (padBytes (n + 1)).length = n + 1 := by
    intro n
    induction n with
    | zero => exact ⟨rfl, rfl⟩
    | succ n ih =>
      refine ⟨ih.2, ?_⟩
      show (0xEC :: 0x11 :: padBytes n).length = n + 1 + 1
      rw [List.length_cons, List.length_cons, ih.1]
  exact (this n).1

theorem terminate_length (d : Nat) (bits : List Bool) (h : bits.length ≤ 8 * d) :
    (terminate d bits).length = d := by
  unfold terminate
  simp only
  generalize hb1 : bits ++ List.replicate (min 4 (8 * d - bits.length)) false = b1
  have hl1 : b1.length = bits.length + min 4 (8 * d - bits.length) := by
    rw [← hb1, List.length_append, List.length_replicate]
  generalize hb2 : b1 ++ List.replicate ((8 - b1.length % 8) % 8) false = b2
  have hl2 : b2.length = b1.length + (8 - b1.length % 8) % 8 := by
    rw [← hb2, List.length_append, List.length_replicate]
  have h8 : b2.length = 8 * (b2.length / 8) := by omega
  rw [List.length_append, bytesOfBits_length _ _ h8, padBytes_length]
  omega

def sumLens (bs : List (List Nat)) : Nat := (bs.map List.length).foldl (· + ·) 0

theorem foldl_add_eq (l : List Nat) (a : Nat) : l.foldl (· + ·) a = a + l.foldl (· + ·) 0 := by
  induction l generalizing a with
  | nil => simp
  | cons x xs ih => rw [List.foldl_cons, List.foldl_cons, ih, ih (0 + x)]; omega

theorem sumLens_cons (b : List Nat) (bs : List (List Nat)) : sumLens (b :: bs) = b.length + sumLens bs := by
  unfold sumLens
  rw [List.map_cons, List.foldl_cons, foldl_add_eq]; omega

theorem heads_tails (bs : List (List Nat)) :
    sumLens bs = (bs.filterMap List.head?).length + sumLens (bs.map List.tail) := by
  induction bs with
  | nil => rfl
  | cons b bs ih =>
    rw [List.map_cons, sumLens_cons, sumLens_cons, ih]
    cases b with
    | nil => simp [List.filterMap_cons]
    | cons x xs => simp; omega

theorem roundRobin_length : ∀ (f : Nat) (bs : List (List Nat)), (∀ b ∈ bs, b.length ≤ f) →
    (roundRobin f bs).length = sumLens bs := by
  intro f
  induction f with
  | zero =>
    intro bs h
    unfold roundRobin
    induction bs with
    | nil => rfl
    | cons b bs ih =>
      rw [sumLens_cons, ← ih (fun c hc => h c (List.mem_cons_of_mem _ hc))]
      have := h b List.mem_cons_self
      simp at this
      simp [this]
  | succ f ih =>
    intro bs h
    unfold roundRobin
    rw [List.length_append, ih, ← heads_tails]
    intro t ht
    obtain ⟨b, hb, rfl⟩ := List.mem_map.mp ht
    have := h b hb
    rw [List.length_tail]; omega

theorem le_maxLen_foldl (bs : List (List Nat)) (m : Nat) :
    m ≤ bs.foldl (fun m b => max m b.length) m ∧ ∀ b ∈ bs, b.length ≤ bs.foldl (fun m b => max m b.length) m := by
  induction bs generalizing m with
  | nil => simp
  | cons c cs ih =>
    rw [List.foldl_cons]
    have := ih (max m c.length)
    refine ⟨by omega, ?_⟩
    intro b hb
    rcases List.mem_cons.mp hb with rfl | hb'
    · omega
    · exact this.2 b hb'

theorem le_maxLen (bs : List (List Nat)) : ∀ b ∈ bs, b.length ≤ maxLen bs := (le_maxLen_foldl bs 0).2

theorem polyMulLinear_length (p : List Nat) (r : Nat) : (polyMulLinear p r).length = p.length + 1 := by
  unfold polyMulLinear
  simp [List.length_zipWith]

theorem rsGenerator_length (n : Nat) : (rsGenerator n).length = n + 1 := by
  unfold rsGenerator
  have : ∀ (l : List Nat) (ga : List Nat × Nat),
      (l.foldl (fun (ga : List Nat × Nat) _ => (polyMulLinear ga.1 ga.2, gfMul 2 ga.2)) ga).1.length = ga.1.length + l.length := by
    intro l
    induction l with
    | nil => intro ga; rfl
    | cons x xs ih =>
      intro ga
      rw [List.foldl_cons, ih, polyMulLinear_length, List.length_cons]
      omega
  rw [this, List.length_range]
  simp; omega

/-! ### the parity over the field of C04 -/

theorem gfMulAux_eq_shiftAdd : ∀ (f a b acc : Nat),
    gfMulAux f a b acc = shiftAdd (fun a => if a * 2 ≥ 256 then (a * 2) ^^^ 0x11D else a * 2) f a b acc
  | 0, _, _, _ => rfl
  | f + 1, a, b, acc => by
    unfold gfMulAux shiftAdd
    exact gfMulAux_eq_shiftAdd f _ _ _

/-- the shift-and-add product of the QR reference is C04's `pmod 0x11D (clmul a b)` on bytes -/
theorem gfMul_eq_gmul (a b : Nat) (ha : a < 256) (hb : b < 256) : gfMul a b = gmul 0x11D a b := by
  unfold gfMul
  rw [gfMulAux_eq_shiftAdd]
  exact shiftAdd_eq_gmul (p := 0x11D) (d := 8) paramsOK_11D_256 _
    (fun a ha => by rw [Nat.mul_comm a 2]; exact double_reduce_eq_xt 0x11D 8 a ha) a b ha hb

/-- after `k` steps the generator loop holds a monic polynomial over the bytes that vanishes at `2^0 … 2^(k-1)`,
    together with `2^k` -/
theorem generator_loop (k : Nat) :
    ∃ g, (List.range k).foldl (fun (ga : List Nat × Nat) _ => (polyMulLinear ga.1 ga.2, gfMul 2 ga.2)) ([1], 1) =
        (1 :: g, pw 0x11D 256 k) ∧ InR 256 g ∧ ∀ i, i < k → evalH 0x11D (pw 0x11D 256 i) (1 :: g) = 0 := by
  have ok := paramsOK_11D_256
  induction k with
  | zero => exact ⟨[], rfl, InR.nil, fun i hi => by omega⟩
  | succ k ih =>
    obtain ⟨g, hfold, hg, hroots⟩ := ih
    have hk : pw 0x11D 256 k < 256 := pw_lt ok k
    obtain ⟨g', e, _, hin, hr⟩ := mulLinear_monic ok _ hk g hg
    rw [List.range_succ, List.foldl_append, hfold]
    refine ⟨g', ?_, hin, fun i hi => hr _ (pw_lt ok i) ?_⟩
    · simp only [List.foldl_cons, List.foldl_nil]
      rw [gfMul_eq_gmul 2 _ (by decide) hk, show (2 : Nat) = pw 0x11D 256 1 from rfl, gmul_pw_pw ok, Nat.add_comm,
        ← e]
      unfold polyMulLinear
      rw [List.map_congr_left fun x hx => gfMul_eq_gmul _ x hk (InR.cons (by decide) hg x hx)]
    · by_cases hik : i < k
      · exact Or.inr (hroots i hik)
      · exact Or.inl (by rw [show i = k by omega])

theorem gen_facts (n : Nat) :
    ∃ g, rsGenerator n = 1 :: g ∧ g.length = n ∧ InR 256 g ∧
      ∀ i, i < n → evalH 0x11D (pw 0x11D 256 i) (1 :: g) = 0 := by
  obtain ⟨g, hfold, hg, hroots⟩ := generator_loop n
  have hgen : rsGenerator n = 1 :: g := by unfold rsGenerator; rw [hfold]
  refine ⟨g, hgen, ?_, hg, hroots⟩
  have := rsGenerator_length n
  rw [hgen] at this
  simpa using this

theorem rsParity_eq_lfsr (data : List Nat) (n : Nat) :
    rsParity data n = lfsr gfMul ((rsGenerator n).drop 1) data := by
  have e : ∀ g, lfsrStep gfMul g = fun reg d =>
      List.zipWith (· ^^^ ·) (reg.tail ++ [0]) (g.map (gfMul (d ^^^ reg.headD 0))) := by
    intro g; funext reg d; simp only [lfsrStep, List.drop_one]
  simp only [rsParity, lfsr, e, List.drop_one, List.length_tail, rsGenerator_length, Nat.add_sub_cancel]

theorem rsParity_length (data : List Nat) (n : Nat) : (rsParity data n).length = n := by
  rw [rsParity_eq_lfsr, lfsr_length, List.length_drop, rsGenerator_length, Nat.add_sub_cancel]

theorem rsParity_roots (n : Nat) (data : List Nat) (hd : InR 256 data) :
    InR 256 (rsParity data n) ∧
    ∀ i, i < n → evalH 0x11D (pw 0x11D 256 i) (data ++ rsParity data n) = 0 := by
  obtain ⟨g, hgen, _, hgb, hroots⟩ := gen_facts n
  rw [rsParity_eq_lfsr, hgen]
  obtain ⟨hin, hr⟩ := lfsr_codeword paramsOK_11D_256 gfMul gfMul_eq_gmul g hgb data hd
  exact ⟨hin, fun i hi => hr _ (pw_lt paramsOK_11D_256 _) (hroots i hi)⟩

theorem rsParity_lt (data : List Nat) (n : Nat) (hd : ∀ d ∈ data, d < 256) : ∀ p ∈ rsParity data n, p < 256 :=
  (rsParity_roots n data hd).1

theorem splitBlocks_lengths : ∀ (lens : List Nat) (data : List Nat), data.length = lens.foldl (· + ·) 0 →
    (splitBlocks lens data).map List.length = lens := by
  intro lens
  induction lens with
  | nil => intro _ _; rfl
  | cons l ls ih =>
    intro data h
    rw [List.foldl_cons, foldl_add_eq] at h
    unfold splitBlocks
    rw [List.map_cons, ih _ (by rw [List.length_drop]; omega), List.length_take]
    congr 1
    omega

theorem sumLens_const (bs : List (List Nat)) (k : Nat) (h : ∀ b ∈ bs, b.length = k) : sumLens bs = bs.length * k := by
  induction bs with
  | nil => simp [sumLens]
  | cons b bs ih =>
    rw [sumLens_cons, ih (fun c hc => h c (List.mem_cons_of_mem _ hc)), h b List.mem_cons_self, List.length_cons]
    rw [Nat.add_mul]; omega

theorem sumLens_eq (bs : List (List Nat)) : sumLens bs = (bs.map List.length).foldl (· + ·) 0 := rfl

/-! ### codewords are bytes -/

theorem mem_roundRobin : ∀ (f : Nat) (bs : List (List Nat)) (x : Nat), x ∈ roundRobin f bs → ∃ b ∈ bs, x ∈ b := by
  intro f
  induction f with
  | zero => intro bs x h; simp [roundRobin] at h
  | succ f ih =>
    intro bs x h
    unfold roundRobin at h
    rcases List.mem_append.mp h with h | h
    · obtain ⟨b, hb, hx⟩ := List.mem_filterMap.mp h
      exact ⟨b, hb, List.mem_of_mem_head? hx⟩
    · obtain ⟨t, ht, hx⟩ := ih _ x h
      obtain ⟨b, hb, rfl⟩ := List.mem_map.mp ht
      exact ⟨b, hb, List.mem_of_mem_tail hx⟩

theorem mem_splitBlocks : ∀ (lens data : List Nat) (b : List Nat), b ∈ splitBlocks lens data → ∀ x ∈ b, x ∈ data := by
  intro lens
  induction lens with
  | nil => intro data b h; simp [splitBlocks] at h
  | cons l ls ih =>
    intro data b h x hx
    unfold splitBlocks at h
    rcases List.mem_cons.mp h with rfl | h
    · exact List.mem_of_mem_take hx
    · exact List.mem_of_mem_drop (ih _ b h x hx)

theorem finalCodewords_lt (v : Nat) (ec : EC) (data : List Nat) (hd : ∀ d ∈ data, d < 256) :
    ∀ c ∈ finalCodewords v ec data, c < 256 := by
  intro c hc
  unfold finalCodewords at hc
  simp only at hc
  rcases List.mem_append.mp hc with h | h
  · obtain ⟨b, hb, hx⟩ := mem_roundRobin _ _ c h
    exact hd c (mem_splitBlocks _ _ b hb c hx)
  · obtain ⟨p, hp, hx⟩ := mem_roundRobin _ _ c h
    obtain ⟨b, hb, rfl⟩ := List.mem_map.mp hp
    exact rsParity_lt b _ (fun d hdb => hd d (mem_splitBlocks _ _ b hb d hdb)) c hx

/-! ### data codewords per block -/

theorem blockDataLengths_getD (v : Nat) (ec : EC) (b : Nat) (hb : b < numBlocks v ec) :
    (blockDataLengths v ec).getD b 0 =
      if b < numBlocks v ec - dataCodewords v ec % numBlocks v ec then dataCodewords v ec / numBlocks v ec
      else dataCodewords v ec / numBlocks v ec + 1 := by
  unfold blockDataLengths blockGroups
  generalize numBlocks v ec = n at hb ⊢
  generalize dataCodewords v ec = D
  have hr := Nat.mod_lt D (Nat.zero_lt_of_lt hb)
  simp only [Nat.ne_of_gt (Nat.zero_lt_of_lt hb), if_false, List.getD_eq_getElem?_getD]
  split
  · rename_i h0
    simp only [List.flatMap_cons, List.flatMap_nil, List.append_nil, List.getElem?_replicate, hb, h0,
      Nat.sub_zero, if_true, Option.getD_some]
  · simp only [List.flatMap_cons, List.flatMap_nil, List.append_nil,
      List.getElem?_append, List.length_replicate, List.getElem?_replicate]
    split
    · rfl
    · rw [if_pos (by omega)]; rfl

end Gzx.QRRef
