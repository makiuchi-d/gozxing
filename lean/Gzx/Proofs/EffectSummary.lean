/-
  Soundness of the merge checks of Model/EffectSummary.lean — for ARBITRARY lists (sortedness is only needed
  for completeness, which nothing relies on: an incomplete check can only fail an obligation, never pass one).
-/
import Gzx.Model.EffectSummary
namespace Gzx.EffectSummary

theorem nat_beq_eq {a b : Nat} (h : Nat.beq a b = true) : a = b := Nat.eq_of_beq_eq_true h

theorem eqPair_eq {a b : Nat × Nat} (h : eqPair a b = true) : a = b := by
  unfold eqPair at h
  rw [Bool.and_eq_true] at h
  exact Prod.ext (nat_beq_eq h.1) (nat_beq_eq h.2)

theorem subCodes_sound : ∀ (xs ys : List Nat), subCodes xs ys = true → ∀ x ∈ xs, x ∈ ys
  | [], _, _, x, hx => by cases hx
  | _ :: _, [], h, _, _ => by simp [subCodes] at h
  | a :: as, b :: bs, h, x, hx => by
    unfold subCodes at h
    split at h
    · rename_i hab
      have e := nat_beq_eq hab
      rcases List.mem_cons.mp hx with rfl | hx'
      · rw [e]; exact List.mem_cons_self
      · exact List.mem_cons_of_mem _ (subCodes_sound as bs h x hx')
    · split at h
      · exact List.mem_cons_of_mem _ (subCodes_sound (a :: as) bs h x hx)
      · cases h

theorem subPairs_sound : ∀ (xs ys : List (Nat × Nat)), subPairs xs ys = true → ∀ x ∈ xs, x ∈ ys
  | [], _, _, x, hx => by cases hx
  | _ :: _, [], h, _, _ => by simp [subPairs] at h
  | a :: as, b :: bs, h, x, hx => by
    unfold subPairs at h
    split at h
    · rename_i hab
      have e := eqPair_eq hab
      rcases List.mem_cons.mp hx with rfl | hx'
      · rw [e]; exact List.mem_cons_self
      · exact List.mem_cons_of_mem _ (subPairs_sound as bs h x hx')
    · split at h
      · exact List.mem_cons_of_mem _ (subPairs_sound (a :: as) bs h x hx)
      · cases h

theorem eqCodes_sound : ∀ (xs ys : List Nat), eqCodes xs ys = true → xs = ys
  | [], [], _ => rfl
  | [], _ :: _, h => by simp [eqCodes] at h
  | _ :: _, [], h => by simp [eqCodes] at h
  | a :: as, b :: bs, h => by
    unfold eqCodes at h
    rw [Bool.and_eq_true] at h
    rw [nat_beq_eq h.1, eqCodes_sound as bs h.2]

theorem eqPairs_sound : ∀ (xs ys : List (Nat × Nat)), eqPairs xs ys = true → xs = ys
  | [], [], _ => rfl
  | [], _ :: _, h => by simp [eqPairs] at h
  | _ :: _, [], h => by simp [eqPairs] at h
  | a :: as, b :: bs, h => by
    unfold eqPairs at h
    rw [Bool.and_eq_true] at h
    rw [eqPair_eq h.1, eqPairs_sound as bs h.2]

theorem subCodes_nil {xs : List Nat} (h : subCodes xs [] = true) : xs = [] := by
  cases xs with
  | nil => rfl
  | cons a as => simp [subCodes] at h

theorem subPairs_nil {xs : List (Nat × Nat)} (h : subPairs xs [] = true) : xs = [] := by
  cases xs with
  | nil => rfl
  | cons a as => simp [subPairs] at h

example : subCodes [2, 5] [1, 2, 3, 5, 8] = true := by decide
example : subCodes [2, 4] [1, 2, 3, 5, 8] = false := by decide
example : subPairs [(1, 2), (3, 1)] [(1, 1), (1, 2), (2, 9), (3, 1)] = true := by decide
example : subPairs [(1, 3)] [(1, 1), (1, 2), (2, 9), (3, 1)] = false := by decide

end Gzx.EffectSummary
