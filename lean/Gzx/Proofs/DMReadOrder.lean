/-
  C08: the decoder's `readCodewords` against the Annex F program, for every mapping matrix.  The two are different programs
  (the decoder reads a corner in a pass of its own loop and remembers it in a flag, wraps rows once more, keeps its own
  bit set), but whenever the reference run is clean they assign and read the same cells in the same order
  (`read_eq_place`).  Second part: the reference program with the utah shapes that lie inside the matrix assigned by cell
  offsets, without the wrap-around tests (`placeStateF`, equal to `placeState`: `placeStateF_eq`); this is the form the
  per-size evaluation runs, alone (`placeCheck`), and `sizeCheck` with its decoder half follows (`sizeCheck_of_placeCheck`).
-/
import Gzx.Proofs.DM
namespace Gzx.DMProofs
open Gzx Gzx.DMRef

/-! ## the decoder's read order is the placement order -/

open DMDec K08c

/-- the decoder's bookkeeping describes the same moment as the reference state -/
structure Sim (st : PState) (rs : RState) : Prop where
  cells : rs.cells = st.seq
  read : rs.read = st.occ
  oob : rs.oob = false

variable {nrow ncol : Nat}

theorem readModule_eq (rs : RState) (row col : Int) :
    readModule nrow ncol rs row col =
      (let rc := wrapRC nrow ncol row col
       let rc : Int × Int := if rc.1 ≥ nrow then (rc.1 - nrow, rc.2) else rc
       if 0 ≤ rc.1 ∧ rc.1 < nrow ∧ 0 ≤ rc.2 ∧ rc.2 < ncol then
         { rs with read := rs.read ||| (1 <<< (rc.1.toNat * ncol + rc.2.toNat)),
                   cells := (rc.1.toNat * ncol + rc.2.toNat) :: rs.cells }
       else { rs with oob := true }) := rfl

theorem module_sim {st : PState} {rs : RState} {r c : Int} (hc : Clean (module nrow ncol st r c)) (h : Sim st rs) :
    Sim (module nrow ncol st r c) (readModule nrow ncol rs r c) := by
  rw [module_eq] at hc ⊢
  rw [readModule_eq]
  cases hcell : cellOf nrow ncol (wrapRC nrow ncol r c).1 (wrapRC nrow ncol r c).2 with
  | none => rw [hcell] at hc; exact absurd hc (not_clean_setBad st)
  | some x =>
    obtain ⟨h0, h1, h2, h3, rfl⟩ := cellOf_some hcell
    simp only [ge_iff_le, Int.not_le.2 h1, if_false, h0, h1, h2, h3, and_self, if_true]
    exact ⟨by rw [h.cells], by rw [h.read], h.oob⟩

theorem moduleList_sim : ∀ (l : List (Int × Int)) {st : PState} {rs : RState}, Clean (moduleList nrow ncol st l) →
    Sim st rs → Sim (moduleList nrow ncol st l) (readModules nrow ncol rs l)
  | [], _, _, _, h => h
  | _ :: rest, _, _, hc, h =>
    moduleList_sim rest hc (module_sim (hc.of_ext ((stepRel_ext nrow ncol).moduleList rest _)) h)

theorem tryUtah_sim {st : PState} {rs : RState} {r c : Int} (hc : Clean (tryUtah nrow ncol st r c)) (h : Sim st rs) :
    Sim (tryUtah nrow ncol st r c) (tryReadUtah nrow ncol rs r c) := by
  rw [tryUtah_eq, occupied_eq] at hc ⊢
  unfold tryReadUtah
  by_cases hin : 0 ≤ r ∧ r < nrow ∧ 0 ≤ c ∧ c < ncol
  · simp only [if_pos hin, Bool.false_eq_true, if_false, h.read] at hc ⊢
    split
    · exact h
    · rename_i hb
      rw [if_neg hb] at hc
      exact moduleList_sim _ hc h
  · simp only [if_neg hin, if_true, Bool.false_eq_true, if_false] at hc
    exact absurd (hc.of_ext ((stepRel_ext nrow ncol).moduleList _ _)) (not_clean_setBad st)

theorem ite_sim {p : Prop} [Decidable p] {st st' : PState} {rs rs' : RState} (h : Sim st rs) (h' : p → Sim st' rs') :
    Sim (if p then st' else st) (if p then rs' else rs) := by
  split
  · exact h' ‹p›
  · exact h

theorem sweepUp_sim : ∀ (f f' : Nat) {st : PState} {rs : RState} (r c : Int), f ≤ f' →
    Clean (sweepUp nrow ncol f st r c).1 → Sim st rs →
    Sim (sweepUp nrow ncol f st r c).1 (readSweepUp nrow ncol f' rs r c).1 ∧
      (readSweepUp nrow ncol f' rs r c).2 = (sweepUp nrow ncol f st r c).2
  | 0, _, st, _, _, _, _, hc, _ => absurd hc (not_clean_setBad st)
  | f + 1, f' + 1, st, rs, r, c, hf, hc, h => by
    rw [sweepUp_succ] at hc ⊢
    unfold readSweepUp
    simp only
    have E := stepRel_ext nrow ncol
    by_cases hgo : r - 2 ≥ 0 ∧ c + 2 < ncol
    · rw [if_pos hgo] at hc ⊢
      rw [if_pos hgo]
      exact sweepUp_sim f f' _ _ (by omega) hc
        (ite_sim h fun hp => tryUtah_sim ((hc.of_ext (E.sweepUp f _ _ _)).of_ext (by rw [if_pos hp]; exact E.refl _)) h)
    · rw [if_neg hgo] at hc ⊢
      rw [if_neg hgo]
      exact ⟨ite_sim h fun hp => tryUtah_sim (by rw [if_pos hp] at hc; exact hc) h, rfl⟩

theorem sweepDown_sim : ∀ (f f' : Nat) {st : PState} {rs : RState} (r c : Int), f ≤ f' →
    Clean (sweepDown nrow ncol f st r c).1 → Sim st rs →
    Sim (sweepDown nrow ncol f st r c).1 (readSweepDown nrow ncol f' rs r c).1 ∧
      (readSweepDown nrow ncol f' rs r c).2 = (sweepDown nrow ncol f st r c).2
  | 0, _, st, _, _, _, _, hc, _ => absurd hc (not_clean_setBad st)
  | f + 1, f' + 1, st, rs, r, c, hf, hc, h => by
    rw [sweepDown_succ] at hc ⊢
    unfold readSweepDown
    simp only
    have E := stepRel_ext nrow ncol
    by_cases hgo : r + 2 < nrow ∧ c - 2 ≥ 0
    · rw [if_pos hgo] at hc ⊢
      rw [if_pos hgo]
      exact sweepDown_sim f f' _ _ (by omega) hc
        (ite_sim h fun hp => tryUtah_sim ((hc.of_ext (E.sweepDown f _ _ _)).of_ext (by rw [if_pos hp]; exact E.refl _)) h)
    · rw [if_neg hgo] at hc ⊢
      rw [if_neg hgo]
      exact ⟨ite_sim h fun hp => tryUtah_sim (by rw [if_pos hp] at hc; exact hc) h, rfl⟩

/-- one pass of the decoder's outer `for`: a corner reader and a step up the diagonal, or the two sweeps -/
def readStep (nrow ncol : Nat) (rs : RState) (cs : Corners) (row col : Int) : RState × Corners × Int × Int :=
  if row = nrow ∧ col = 0 ∧ !cs.c1 then
    (readModules nrow ncol rs (corner1Reads nrow ncol), { cs with c1 := true }, row - 2, col + 2)
  else if row = (nrow : Int) - 2 ∧ col = 0 ∧ ncol % 4 ≠ 0 ∧ !cs.c2 then
    (readModules nrow ncol rs (corner2Reads nrow ncol), { cs with c2 := true }, row - 2, col + 2)
  else if row = (nrow : Int) + 4 ∧ col = 2 ∧ ncol % 8 = 0 ∧ !cs.c3 then
    (readModules nrow ncol rs (corner3Reads nrow ncol), { cs with c3 := true }, row - 2, col + 2)
  else if row = (nrow : Int) - 2 ∧ col = 0 ∧ ncol % 8 = 4 ∧ !cs.c4 then
    (readModules nrow ncol rs (corner4Reads nrow ncol), { cs with c4 := true }, row - 2, col + 2)
  else
    let up := readSweepUp nrow ncol (nrow + ncol) rs row col
    let dn := readSweepDown nrow ncol (nrow + ncol) up.1 (up.2.1 + 1) (up.2.2 + 3)
    (dn.1, cs, dn.2.1 + 3, dn.2.2 + 1)

theorem readLoop_succ (f : Nat) (rs : RState) (cs : Corners) (row col : Int) :
    readLoop nrow ncol (f + 1) rs cs row col =
      if (readStep nrow ncol rs cs row col).2.2.1 < nrow ∨ (readStep nrow ncol rs cs row col).2.2.2 < ncol then
        readLoop nrow ncol f (readStep nrow ncol rs cs row col).1 (readStep nrow ncol rs cs row col).2.1
          (readStep nrow ncol rs cs row col).2.2.1 (readStep nrow ncol rs cs row col).2.2.2
      else (readStep nrow ncol rs cs row col).1 := rfl

/-- the positions and sizes at which a round starts with one of the four corner cases -/
def AtCorner (nrow ncol : Nat) (row col : Int) : Prop :=
  (row = nrow ∧ col = 0) ∨ (row = (nrow : Int) - 2 ∧ col = 0 ∧ ncol % 4 ≠ 0) ∨
    (row = (nrow : Int) - 2 ∧ col = 0 ∧ ncol % 8 = 4) ∨ (row = (nrow : Int) + 4 ∧ col = 2 ∧ ncol % 8 = 0)

/-- the two sweeps of a round, the first with fuel `F` -/
def sweepsOf (nrow ncol F : Nat) (st : PState) (row col : Int) : PState × Int × Int :=
  let up := sweepUp nrow ncol F st row col
  sweepDown nrow ncol (nrow + ncol) up.1 (up.2.1 + 1) (up.2.2 + 3)

theorem roundOf_eq (st : PState) (row col : Int) :
    roundOf nrow ncol st row col = sweepsOf nrow ncol (nrow + ncol) (corners nrow ncol st row col) row col := rfl

theorem ext_sweepsOf (F : Nat) (st : PState) (row col : Int) : Ext st (sweepsOf nrow ncol F st row col).1 :=
  (stepRel_ext nrow ncol).trans ((stepRel_ext nrow ncol).sweepUp F st row col) ((stepRel_ext nrow ncol).sweepDown _ _ _ _)

/-- away from the four corner positions a pass of the decoder's loop is the two sweeps -/
theorem sweeps_sim {F : Nat} {st : PState} {rs : RState} (cs : Corners) {row col : Int} (hF : F ≤ nrow + ncol)
    (hpos : ¬ AtCorner nrow ncol row col) (hc : Clean (sweepsOf nrow ncol F st row col).1) (h : Sim st rs) :
    ∃ rs', readStep nrow ncol rs cs row col =
        (rs', cs, (sweepsOf nrow ncol F st row col).2.1 + 3, (sweepsOf nrow ncol F st row col).2.2 + 1) ∧
      Sim (sweepsOf nrow ncol F st row col).1 rs' := by
  have hup := sweepUp_sim F (nrow + ncol) row col hF (hc.of_ext ((stepRel_ext nrow ncol).sweepDown _ _ _ _)) h
  unfold sweepsOf at hc ⊢
  simp only at hc ⊢
  have hdn := sweepDown_sim (nrow + ncol) (nrow + ncol) _ _ (Nat.le_refl _) hc hup.1
  unfold readStep
  rw [if_neg fun k => hpos (.inl ⟨k.1, k.2.1⟩), if_neg fun k => hpos (.inr (.inl ⟨k.1, k.2.1, k.2.2.1⟩)),
    if_neg fun k => hpos (.inr (.inr (.inr ⟨k.1, k.2.1, k.2.2.1⟩))), if_neg fun k => hpos (.inr (.inr (.inl ⟨k.1, k.2.1, k.2.2.1⟩)))]
  simp only [hup.2]
  exact ⟨_, by rw [hdn.2], hdn.1⟩

/-- assigning `p` once more, now or later, raises `dup` (or `bad`) -/
def NotAgain (nrow ncol : Nat) (st : PState) (p : Int × Int) : Prop :=
  ∀ st', Ext st st' → ¬ Clean (module nrow ncol st' p.1 p.2)

theorem NotAgain.mono {a b : PState} {p : Int × Int} (h : NotAgain nrow ncol a p) (hab : Ext a b) : NotAgain nrow ncol b p :=
  fun st' hb => h st' ((stepRel_ext nrow ncol).trans hab hb)

theorem notAgain_module (st : PState) (r c : Int) : NotAgain nrow ncol (module nrow ncol st r c) (r, c) := by
  intro st' hext hcl
  rw [module_eq] at hext hcl
  cases hcell : cellOf nrow ncol (wrapRC nrow ncol r c).1 (wrapRC nrow ncol r c).2 with
  | none => rw [hcell] at hcl; exact not_clean_setBad st' hcl
  | some x =>
    rw [hcell] at hext hcl
    have : st'.occ.testBit x = true := hext.occ x (by simp [Nat.testBit_or])
    have := hcl.2
    simp_all

theorem notAgain_moduleList : ∀ (l : List (Int × Int)) (st : PState) (p : Int × Int), p ∈ l →
    NotAgain nrow ncol (moduleList nrow ncol st l) p
  | (r, c) :: rest, st, p, hp => by
    rcases List.mem_cons.1 hp with rfl | hp
    · exact (notAgain_module st r c).mono ((stepRel_ext nrow ncol).moduleList rest _)
    · exact notAgain_moduleList rest _ p hp

/-- a cell that cannot be assigned again is found occupied: `tryUtah` there changes nothing -/
theorem tryUtah_notAgain {st : PState} {r c : Int} (hn : NotAgain nrow ncol st (r, c))
    (hc : Clean (tryUtah nrow ncol st r c)) : tryUtah nrow ncol st r c = st := by
  rw [tryUtah_eq, occupied_eq] at hc ⊢
  by_cases hin : 0 ≤ r ∧ r < nrow ∧ 0 ≤ c ∧ c < ncol
  · simp only [if_pos hin, Bool.false_eq_true, if_false] at hc ⊢
    split
    · rfl
    · rename_i hb
      rw [if_neg hb] at hc
      -- `(r, c)` is the last cell of its own utah shape: by then the other seven are assigned and (r, c) still cannot be
      exact absurd hc (hn _ ((stepRel_ext nrow ncol).moduleList (utahCells r c).dropLast st))
  · simp only [if_neg hin, if_true, Bool.false_eq_true, if_false] at hc
    exact absurd (hc.of_ext ((stepRel_ext nrow ncol).moduleList _ _)) (not_clean_setBad st)

/-- a corner the decoder has marked as read cannot be placed again: its first cell is taken.  The decoder numbers the last
    two corners the other way round: its corner 3 (`corner3Reads`, at `row = numRows + 4`) is Annex F's corner 4
    (`corner4Cells`, first cell `(nrow-1, 0)`), its corner 4 is Annex F's corner 3 (first cell `(nrow-3, 0)`) -/
structure Flags (nrow ncol : Nat) (st : PState) (cs : Corners) : Prop where
  c1 : cs.c1 = true → NotAgain nrow ncol st ((nrow : Int) - 1, 0)
  c2 : cs.c2 = true → NotAgain nrow ncol st ((nrow : Int) - 3, 0)
  c3 : cs.c3 = true → NotAgain nrow ncol st ((nrow : Int) - 1, 0)
  c4 : cs.c4 = true → NotAgain nrow ncol st ((nrow : Int) - 3, 0)

theorem Flags.mono {a b : PState} {cs : Corners} (h : Flags nrow ncol a cs) (hab : Ext a b) : Flags nrow ncol b cs :=
  ⟨fun hc => (h.c1 hc).mono hab, fun hc => (h.c2 hc).mono hab, fun hc => (h.c3 hc).mono hab, fun hc => (h.c4 hc).mono hab⟩

/-- A round that starts with corner cells `l`.  The reference program goes on with the upward sweep from the same
    position, whose first step does nothing (outside the matrix, or on a cell of the corner) and moves up the diagonal;
    the decoder spends a pass of its loop on the corner, moves up the diagonal and sweeps in the next pass. -/
theorem corner_sim {st : PState} {rs : RState} {cs' : Corners} {row col : Int} (l : List (Int × Int))
    (hcorn : corners nrow ncol st row col = moduleList nrow ncol st l)
    (hnoop : ¬ (row < nrow ∧ col ≥ 0) ∨ (row, col) ∈ l) (hcol : 0 ≤ col) (hgo : row - 2 ≥ 0 ∧ col + 2 < ncol)
    (hpos : ¬ AtCorner nrow ncol (row - 2) (col + 2))
    (hc : Clean (roundOf nrow ncol st row col).1) (h : Sim st rs) :
    ∃ rs', readStep nrow ncol (readModules nrow ncol rs l) cs' (row - 2) (col + 2) =
        (rs', cs', (roundOf nrow ncol st row col).2.1 + 3, (roundOf nrow ncol st row col).2.2 + 1) ∧
      Sim (roundOf nrow ncol st row col).1 rs' := by
  have E := stepRel_ext nrow ncol
  obtain ⟨F, hF⟩ : ∃ F, nrow + ncol = F + 1 := ⟨nrow + ncol - 1, by omega⟩
  have hround : roundOf nrow ncol st row col = sweepsOf nrow ncol F (moduleList nrow ncol st l) (row - 2) (col + 2) := by
    rw [roundOf_eq, hcorn] at hc ⊢
    unfold sweepsOf at hc ⊢
    rw [hF, sweepUp_succ, if_pos hgo] at hc ⊢
    have hcl := (hc.of_ext (E.sweepDown _ _ _ _)).of_ext (E.sweepUp F _ _ _)
    have : (if row < nrow ∧ col ≥ 0 then tryUtah nrow ncol (moduleList nrow ncol st l) row col
        else moduleList nrow ncol st l) = moduleList nrow ncol st l := by
      split
      · rename_i hp
        rw [if_pos hp] at hcl
        exact tryUtah_notAgain (notAgain_moduleList l st _ (hnoop.resolve_left (not_not_intro hp))) hcl
      · rfl
    rw [this]
  rw [hround] at hc ⊢
  exact sweeps_sim cs' (by omega) hpos hc (moduleList_sim l (hc.of_ext (ext_sweepsOf _ _ _ _)) h)

theorem clean_corners {st : PState} {row col : Int} (hc : Clean (roundOf nrow ncol st row col).1) :
    Clean (corners nrow ncol st row col) :=
  hc.of_ext (ext_sweepsOf _ _ _ _)

/-- a corner whose first cell cannot be assigned again is not reached by a clean round -/
theorem not_notAgain_corner {st : PState} {row col : Int} {p : Int × Int} {rest : List (Int × Int)}
    (hcorn : corners nrow ncol st row col = moduleList nrow ncol st (p :: rest))
    (hc : Clean (roundOf nrow ncol st row col).1) : ¬ NotAgain nrow ncol st p := fun hn =>
  hn st ((stepRel_ext nrow ncol).refl st)
    ((hcorn ▸ clean_corners hc).of_ext ((stepRel_ext nrow ncol).moduleList rest _))

/-- What a round of the reference program is to the decoder: `2 - e` passes of its loop, after which both stand at
    the same position in matching states. -/
def RoundSim (nrow ncol : Nat) (st : PState) (rs : RState) (cs : Corners) (row col : Int) : Prop :=
  ∃ rs' cs' e, Sim (roundOf nrow ncol st row col).1 rs' ∧ Flags nrow ncol (roundOf nrow ncol st row col).1 cs' ∧
    ∀ g, readLoop nrow ncol (g + 2) rs cs row col =
      if (roundOf nrow ncol st row col).2.1 + 3 < nrow ∨ (roundOf nrow ncol st row col).2.2 + 1 < ncol then
        readLoop nrow ncol (g + e) rs' cs' ((roundOf nrow ncol st row col).2.1 + 3) ((roundOf nrow ncol st row col).2.2 + 1)
      else rs'

/-- a round with corner cells `l`, which the decoder reads in a pass of their own -/
theorem corner_round {st : PState} {rs : RState} {cs : Corners} {row col : Int}
    (hc : Clean (roundOf nrow ncol st row col).1) (h : Sim st rs) (l : List (Int × Int)) (cs' : Corners)
    (hcorn : corners nrow ncol st row col = moduleList nrow ncol st l)
    (hstep : readStep nrow ncol rs cs row col = (readModules nrow ncol rs l, cs', row - 2, col + 2))
    (hnoop : ¬ (row < nrow ∧ col ≥ 0) ∨ (row, col) ∈ l) (hcol : col = 0 ∨ col = 2)
    (hrow : row - 2 ≥ 0 ∧ row - 2 ≤ nrow + 2) (h4 : col + 2 < ncol)
    (hf' : Flags nrow ncol (moduleList nrow ncol st l) cs') : RoundSim nrow ncol st rs cs row col := by
  obtain ⟨rs', hstep', hsim⟩ := corner_sim (cs' := cs') l hcorn hnoop (by omega) (by omega) (by unfold AtCorner; omega) hc h
  refine ⟨rs', cs', 0, hsim, (hcorn ▸ hf'.mono) (ext_sweepsOf _ _ _ _), fun g => ?_⟩
  rw [readLoop_succ, hstep]
  simp only
  rw [if_pos (by omega), readLoop_succ, hstep']
  rfl

theorem round_sim (hsz : 4 ≤ nrow ∧ 2 < ncol) {st : PState} {rs : RState} {cs : Corners} {row col : Int}
    (hc : Clean (roundOf nrow ncol st row col).1) (h : Sim st rs) (hf : Flags nrow ncol st cs) :
    RoundSim nrow ncol st rs cs row col := by
  have E := stepRel_ext nrow ncol
  by_cases k1 : row = nrow ∧ col = 0
  · have hcorn : corners nrow ncol st row col = moduleList nrow ncol st (corner1Cells nrow ncol) := by
      unfold corners; simp only; rw [if_pos k1, if_neg (by omega), if_neg (by omega), if_neg (by omega)]
    have hflag : cs.c1 = false := Bool.eq_false_iff.2 fun hb => not_notAgain_corner hcorn hc (hf.c1 hb)
    exact corner_round hc h _ { cs with c1 := true } hcorn
      (by unfold readStep; rw [if_pos ⟨k1.1, k1.2, by simp [hflag]⟩]; rfl)
      (Or.inl (by omega)) (by omega) (by omega) (by omega)
      ⟨fun _ => notAgain_moduleList _ st _ List.mem_cons_self, fun hb => (hf.c2 hb).mono (E.moduleList _ _),
       fun hb => (hf.c3 hb).mono (E.moduleList _ _), fun hb => (hf.c4 hb).mono (E.moduleList _ _)⟩
  by_cases k2 : row = (nrow : Int) - 2 ∧ col = 0 ∧ ncol % 4 ≠ 0
  · have hcorn : corners nrow ncol st row col = moduleList nrow ncol st (corner2Cells nrow ncol) := by
      unfold corners; simp only; rw [if_neg k1, if_pos k2, if_neg (by omega), if_neg (by omega)]
    have hflag : cs.c2 = false := Bool.eq_false_iff.2 fun hb => not_notAgain_corner hcorn hc (hf.c2 hb)
    exact corner_round hc h _ { cs with c2 := true } hcorn
      (by unfold readStep; rw [if_neg (by omega), if_pos ⟨k2.1, k2.2.1, k2.2.2, by simp [hflag]⟩]; rfl)
      (Or.inr (by simp [corner2Cells, k2.1, k2.2.1])) (by omega) (by omega) (by omega)
      ⟨fun hb => (hf.c1 hb).mono (E.moduleList _ _), fun _ => notAgain_moduleList _ st _ List.mem_cons_self,
       fun hb => (hf.c3 hb).mono (E.moduleList _ _), fun hb => (hf.c4 hb).mono (E.moduleList _ _)⟩
  by_cases k3 : row = (nrow : Int) - 2 ∧ col = 0 ∧ ncol % 8 = 4
  · have hcorn : corners nrow ncol st row col = moduleList nrow ncol st (corner3Cells nrow ncol) := by
      unfold corners; simp only; rw [if_neg k1, if_neg k2, if_pos k3, if_neg (by omega)]
    have hflag : cs.c4 = false := Bool.eq_false_iff.2 fun hb => not_notAgain_corner hcorn hc (hf.c4 hb)
    exact corner_round hc h _ { cs with c4 := true } hcorn
      (by unfold readStep
          rw [if_neg (by omega), if_neg (by omega), if_neg (by omega), if_pos ⟨k3.1, k3.2.1, k3.2.2, by simp [hflag]⟩]; rfl)
      (Or.inr (by simp [corner3Cells, k3.1, k3.2.1])) (by omega) (by omega) (by omega)
      ⟨fun hb => (hf.c1 hb).mono (E.moduleList _ _), fun hb => (hf.c2 hb).mono (E.moduleList _ _),
       fun hb => (hf.c3 hb).mono (E.moduleList _ _), fun _ => notAgain_moduleList _ st _ List.mem_cons_self⟩
  by_cases k4 : row = (nrow : Int) + 4 ∧ col = 2 ∧ ncol % 8 = 0
  · have hcorn : corners nrow ncol st row col = moduleList nrow ncol st (corner4Cells nrow ncol) := by
      unfold corners; simp only; rw [if_neg k1, if_neg k2, if_neg k3, if_pos k4]
    have hflag : cs.c3 = false := Bool.eq_false_iff.2 fun hb => not_notAgain_corner hcorn hc (hf.c3 hb)
    exact corner_round hc h _ { cs with c3 := true } hcorn
      (by unfold readStep
          rw [if_neg (by omega), if_neg (by omega), if_pos ⟨k4.1, k4.2.1, k4.2.2, by simp [hflag]⟩]; rfl)
      (Or.inl (by omega)) (by omega) (by omega) (by omega)
      ⟨fun hb => (hf.c1 hb).mono (E.moduleList _ _), fun hb => (hf.c2 hb).mono (E.moduleList _ _),
       fun _ => notAgain_moduleList _ st _ List.mem_cons_self, fun hb => (hf.c4 hb).mono (E.moduleList _ _)⟩
  have hpos : ¬ AtCorner nrow ncol row col := fun k => k.elim k1 (·.elim k2 (·.elim k3 k4))
  have hcorn : corners nrow ncol st row col = st := by
    unfold corners; simp only; rw [if_neg k1, if_neg k2, if_neg k3, if_neg k4]
  rw [RoundSim, roundOf_eq, hcorn]
  rw [roundOf_eq, hcorn] at hc
  obtain ⟨rs', hstep, hsim⟩ := sweeps_sim cs (Nat.le_refl _) hpos hc h
  exact ⟨rs', cs, 1, hsim, hf.mono (ext_sweepsOf _ _ _ _), fun g => by rw [readLoop_succ, hstep]⟩

/-- the decoder's loop against the reference loop: at most two passes for a round -/
theorem loop_sim (hsz : 4 ≤ nrow ∧ 2 < ncol) (f : Nat) : ∀ (f' : Nat) {st : PState} {rs : RState} {cs : Corners}
    (row col : Int), 2 * f ≤ f' → Clean (placeLoop nrow ncol f st row col) → Sim st rs → Flags nrow ncol st cs →
    Sim (placeLoop nrow ncol f st row col) (readLoop nrow ncol f' rs cs row col) := by
  induction f with
  | zero => intro _ st _ _ _ _ _ hc _ _; exact absurd hc (not_clean_setBad st)
  | succ f ih =>
    intro f' st rs cs row col hf hc h hfl
    obtain ⟨g, rfl⟩ : ∃ g, f' = g + 2 := ⟨f' - 2, by omega⟩
    rw [placeLoop_succ] at hc ⊢
    have hR : Clean (roundOf nrow ncol st row col).1 := by
      split at hc
      · exact hc.of_ext ((stepRel_ext nrow ncol).placeLoop f _ _ _)
      · exact hc
    obtain ⟨rs', cs', e, hsim, hfl', hread⟩ := round_sim hsz hR h hfl
    rw [hread]
    split
    · rename_i hgo
      rw [if_pos hgo] at hc
      exact ih (g + e) _ _ (by omega) hc hsim hfl'
    · exact hsim

/-- Whenever the Annex F program runs cleanly on a mapping matrix (no index outside, no cell twice), the decoder's
    `readCodewords` visits the same cells in the same order and stays inside the matrix as well. -/
theorem read_eq_place (hsz : 4 ≤ nrow ∧ 2 < ncol) (hc : Clean (placeState nrow ncol)) :
    (readState nrow ncol).cells = (placeState nrow ncol).seq ∧ (readState nrow ncol).oob = false :=
  have h := loop_sim hsz (nrow + ncol) (2 * (nrow + ncol) + 8) 4 0 (by omega) hc ⟨rfl, rfl, rfl⟩
    ⟨fun h => Bool.noConfusion h, fun h => Bool.noConfusion h, fun h => Bool.noConfusion h, fun h => Bool.noConfusion h⟩
  ⟨h.cells, h.oob⟩

/-! ## the reference program with the inner utah shapes assigned by offsets (the form the kernel runs) -/

/-- what `module` does with a cell it has found -/
def assign (st : PState) (c : Nat) : PState :=
  { st with occ := st.occ ||| (1 <<< c), seq := c :: st.seq, dup := st.dup || st.occ.testBit c }

theorem module_inside {nrow ncol : Nat} (st : PState) {r c : Nat} (hr : r < nrow) (hc : c < ncol) :
    module nrow ncol st r c = assign st (r * ncol + c) := by
  have h0 : ¬ ((r : Int) < 0) := by omega
  have h1 : ¬ ((c : Int) < 0) := by omega
  have hcell : cellOf nrow ncol r c = some (r * ncol + c) := by
    unfold cellOf
    rw [if_pos ⟨by omega, by omega, by omega, by omega⟩]
    rfl
  rw [module_eq]
  unfold wrapRC
  simp only [if_neg h0, if_neg h1, hcell]
  rfl

/-- The utah shape at `(r, c)` when it lies inside the matrix (`2 ≤ r < nrow`, `2 ≤ c < ncol`): no wrap-around, the eight
    cells are the top-left one plus fixed offsets.  Most shapes of a symbol are of this kind; it is what makes the
    per-size run cheap for the kernel. -/
def utahInside (ncol : Nat) (st : PState) (r c : Nat) : PState :=
  let a := (r - 2) * ncol + (c - 2)
  let b := a + ncol
  let d := b + ncol
  assign (assign (assign (assign (assign (assign (assign (assign st a) (a + 1)) b) (b + 1)) (b + 2)) d) (d + 1)) (d + 2)

theorem utahInside_eq {nrow ncol : Nat} (st : PState) {r c : Nat} (hr2 : 2 ≤ r) (hr : r < nrow) (hc2 : 2 ≤ c) (hc : c < ncol) :
    moduleList nrow ncol st (utahCells r c) = utahInside ncol st r c := by
  obtain ⟨r, rfl⟩ : ∃ r', r = r' + 2 := ⟨r - 2, by omega⟩
  obtain ⟨c, rfl⟩ : ∃ c', c = c' + 2 := ⟨c - 2, by omega⟩
  have e0 : ((r + 2 : Nat) : Int) - 2 = (r : Nat) := by omega
  have e1 : ((r + 2 : Nat) : Int) - 1 = ((r + 1 : Nat) : Int) := by omega
  have f0 : ((c + 2 : Nat) : Int) - 2 = (c : Nat) := by omega
  have f1 : ((c + 2 : Nat) : Int) - 1 = ((c + 1 : Nat) : Int) := by omega
  unfold utahCells utahInside
  simp only [moduleList, e0, e1, f0, f1]
  rw [module_inside _ (by omega) (by omega), module_inside _ (by omega) (by omega), module_inside _ (by omega) (by omega),
    module_inside _ (by omega) (by omega), module_inside _ (by omega) (by omega), module_inside _ (by omega) (by omega),
    module_inside _ (by omega) (by omega), module_inside _ (by omega) (by omega)]
  simp only [Nat.add_sub_cancel, Nat.add_mul, Nat.one_mul, Nat.two_mul, Nat.add_assoc, Nat.add_comm, Nat.add_left_comm]

/-- `moduleList … (utahCells row col)` with the inner shapes taken the short way -/
def utahF (nrow ncol : Nat) (st : PState) (row col : Int) : PState :=
  match row, col with
  | .ofNat r, .ofNat c =>
    if 2 ≤ r ∧ r < nrow ∧ 2 ≤ c ∧ c < ncol then utahInside ncol st r c else moduleList nrow ncol st (utahCells row col)
  | _, _ => moduleList nrow ncol st (utahCells row col)

theorem utahF_eq (nrow ncol : Nat) (st : PState) (row col : Int) :
    utahF nrow ncol st row col = moduleList nrow ncol st (utahCells row col) := by
  unfold utahF
  split
  · split
    · rename_i r c h
      exact (utahInside_eq st h.1 h.2.1 h.2.2.1 h.2.2.2).symm
    · rfl
  · rfl

def tryUtahF (nrow ncol : Nat) (st : PState) (row col : Int) : PState :=
  let (o, oob) := occupied nrow ncol st row col
  let st := if oob then { st with bad := true } else st
  if o then st else utahF nrow ncol st row col

def sweepUpF (nrow ncol : Nat) : Nat → PState → Int → Int → PState × Int × Int
  | 0, st, r, c => ({ st with bad := true }, r, c)
  | f + 1, st, r, c =>
    let st := if r < nrow ∧ c ≥ 0 then tryUtahF nrow ncol st r c else st
    let r := r - 2
    let c := c + 2
    if r ≥ 0 ∧ c < ncol then sweepUpF nrow ncol f st r c else (st, r, c)

def sweepDownF (nrow ncol : Nat) : Nat → PState → Int → Int → PState × Int × Int
  | 0, st, r, c => ({ st with bad := true }, r, c)
  | f + 1, st, r, c =>
    let st := if r ≥ 0 ∧ c < ncol then tryUtahF nrow ncol st r c else st
    let r := r + 2
    let c := c - 2
    if r < nrow ∧ c ≥ 0 then sweepDownF nrow ncol f st r c else (st, r, c)

def placeLoopF (nrow ncol : Nat) : Nat → PState → Int → Int → PState
  | 0, st, _, _ => { st with bad := true }
  | f + 1, st, row, col =>
    let up := sweepUpF nrow ncol (nrow + ncol) (corners nrow ncol st row col) row col
    let dn := sweepDownF nrow ncol (nrow + ncol) up.1 (up.2.1 + 1) (up.2.2 + 3)
    if dn.2.1 + 3 < nrow ∨ dn.2.2 + 1 < ncol then placeLoopF nrow ncol f dn.1 (dn.2.1 + 3) (dn.2.2 + 1) else dn.1

theorem tryUtahF_eq (nrow ncol : Nat) : tryUtahF nrow ncol = tryUtah nrow ncol := by
  funext st row col
  unfold tryUtahF tryUtah
  simp only [utahF_eq]

theorem sweepUpF_eq (nrow ncol : Nat) : ∀ f st r c, sweepUpF nrow ncol f st r c = sweepUp nrow ncol f st r c
  | 0, _, _, _ => rfl
  | f + 1, st, r, c => by
    unfold sweepUpF sweepUp
    simp only [tryUtahF_eq, sweepUpF_eq nrow ncol f]

theorem sweepDownF_eq (nrow ncol : Nat) : ∀ f st r c, sweepDownF nrow ncol f st r c = sweepDown nrow ncol f st r c
  | 0, _, _, _ => rfl
  | f + 1, st, r, c => by
    unfold sweepDownF sweepDown
    simp only [tryUtahF_eq, sweepDownF_eq nrow ncol f]

theorem placeLoopF_eq (nrow ncol : Nat) : ∀ f st r c, placeLoopF nrow ncol f st r c = placeLoop nrow ncol f st r c
  | 0, _, _, _ => rfl
  | f + 1, st, r, c => by
    unfold placeLoopF placeLoop
    simp only [sweepUpF_eq, sweepDownF_eq, placeLoopF_eq nrow ncol f]

def placeStateF (nrow ncol : Nat) : PState := placeLoopF nrow ncol (nrow + ncol) {} 4 0

theorem placeStateF_eq (nrow ncol : Nat) : placeStateF nrow ncol = placeState nrow ncol :=
  placeLoopF_eq nrow ncol _ _ _ _

/-! ## the per-size evaluation: the reference program alone -/

theorem seq_lt (nrow ncol : Nat) : ∀ c ∈ (placeState nrow ncol).seq, c < nrow * ncol := by
  refine (StepRel.of_inv (fun st : PState => ∀ c ∈ st.seq, c < nrow * ncol) (fun st r c h => ?_) (fun _ h => h)).placeLoop
    _ _ _ _ (fun _ h => nomatch h)
  rw [module_eq]
  split
  · rename_i x hx
    exact fun c hc => (List.mem_cons.1 hc).elim (· ▸ cell_lt hx) (h c)
  · exact h

/-- the fixed 2x2 pattern as `fixedCells` computes it, from a given final state -/
def fixedCellsOf (st : PState) (nrow ncol : Nat) : List (Nat × Bool) :=
  if !st.occ.testBit (nrow * ncol - 1) then
    [(nrow * ncol - ncol - 2, true), (nrow * ncol - ncol - 1, false), (nrow * ncol - 2, false), (nrow * ncol - 1, true)]
  else []

/-- What is asked of the final state `st` of the Annex F program over an `nrow x ncol` mapping matrix: the run was clean,
    assigned `8*total` cells, left the fixed-pattern cells alone, and together with them fills the matrix (the occupancy
    mask with the fixed cells added is all ones). -/
def finalOK (st : PState) (nrow ncol total : Nat) : Bool :=
  let fx := fixedCellsOf st nrow ncol
  !st.bad && !st.dup && st.seq.length == 8 * total &&
  fx.all (fun p => decide (p.1 < nrow * ncol) && !st.occ.testBit p.1) && decide ((fx.map (·.1)).Nodup) &&
  fx.foldl (fun m p => m ||| 1 <<< p.1) st.occ == 2 ^ (nrow * ncol) - 1 && decide (4 ≤ nrow) && decide (2 < ncol)

/-- One run of the reference program (in the form `placeStateF`) and the test of its final state. `sizeCheck` follows
    (`sizeCheck_of_placeCheck`), its decoder half through `read_eq_place`. -/
def placeCheck (nrow ncol total : Nat) : Bool := finalOK (placeStateF nrow ncol) nrow ncol total

theorem testBit_foldl_or (c : Nat) : ∀ (fx : List (Nat × Bool)) (m : Nat),
    (fx.foldl (fun m p => m ||| 1 <<< p.1) m).testBit c = (m.testBit c || fx.any (·.1 == c))
  | [], m => by simp
  | p :: fx, m => by
    rw [List.foldl_cons, testBit_foldl_or c fx, Nat.testBit_or, testBit_one_shiftLeft, List.any_cons, Bool.or_assoc,
      Bool.beq_eq_decide_eq]

theorem sizeCheck_of_placeCheck {nrow ncol total : Nat} (h : placeCheck nrow ncol total = true) :
    sizeCheck nrow ncol total = true := by
  rw [placeCheck, placeStateF_eq, finalOK, show fixedCellsOf (placeState nrow ncol) nrow ncol = fixedCells nrow ncol from rfl] at h
  simp only [Bool.and_eq_true, Bool.not_eq_true', beq_iff_eq, decide_eq_true_eq] at h
  obtain ⟨⟨⟨⟨⟨⟨⟨hbad, hdup⟩, hlen⟩, hfx⟩, hnd⟩, hmask⟩, h4⟩, h2⟩ := h
  obtain ⟨hcells, hoob⟩ := read_eq_place ⟨h4, h2⟩ ⟨hbad, hdup⟩
  unfold sizeCheck
  simp only [Bool.and_eq_true, Bool.not_eq_true', beq_iff_eq, decide_eq_true_eq, List.all_eq_true, List.mem_range]
  refine ⟨⟨⟨⟨⟨⟨⟨⟨⟨hbad, hdup⟩, hoob⟩, hlen⟩, fun c hc => by simpa using seq_lt nrow ncol c hc⟩, fun p hp => by simpa using List.all_eq_true.1 hfx p hp⟩, hnd⟩, fun c hc => ?_⟩,
    hcells⟩, by omega⟩
  rw [← testBit_foldl_or, hmask, Nat.testBit_two_pow_sub_one]
  exact decide_eq_true hc
end Gzx.DMProofs
