/-
  Root bound by synthetic division: a coefficient list of length n with n distinct roots in the field is
  identically zero.  Helper lemmas for Properties/C04.lean.
-/
import Gzx.Proofs.Poly
namespace Gzx.Proofs.Roots
open Gzx Gzx.GF Gzx.Ref.GF Gzx.Proofs.GF Gzx.Proofs.Poly

/-- Horner partial values at `b` *before* each coefficient (synthetic division by `x + b`): for start value 0
    this is `0 :: quotient` -/
def qs (prim b : Nat) : Nat → List Nat → List Nat
  | _, [] => []
  | h, c :: cs => h :: qs prim b (gmul prim b h ^^^ c) cs

theorem qs_length (prim b : Nat) : ∀ (p : List Nat) (h : Nat), (qs prim b h p).length = p.length
  | [], _ => rfl
  | _ :: cs, _ => by simp [qs, qs_length prim b cs]

theorem xor_cancel_right (x y : Nat) : x ^^^ y ^^^ y = x := by
  rw [Nat.xor_assoc, Nat.xor_self, Nat.xor_zero]

section field
variable {prim size : Nat} (ok : ParamsOK prim size)
include ok

theorem qs_inR (b : Nat) : ∀ (p : List Nat) (h : Nat), h < size → InR size p → InR size (qs prim b h p)
  | [], _, _, _ => InR.nil
  | _ :: cs, _, hh, hp =>
    InR.cons hh (qs_inR b cs _ (xor_lt_size ok _ _ (gmul_lt ok _ _) hp.head) hp.tail)

/-- `p(a) = (a + b)·q(a) + p(b)` with accumulators -/
theorem synth_eval (a b : Nat) (ha : a < size) (hb : b < size) : ∀ (p : List Nat) (v qv h : Nat),
    InR size p → qv < size → h < size →
    v = gmul prim (a ^^^ b) qv ^^^ h →
    evalFrom prim a v p = gmul prim (a ^^^ b) (evalFrom prim a qv (qs prim b h p)) ^^^ evalFrom prim b h p
  | [], v, qv, h, _, _, _, hv => hv
  | c :: cs, v, qv, h, hp, hqv, hh, hv => by
    have hk : a ^^^ b < size := xor_lt_size ok a b ha hb
    show evalFrom prim a (gmul prim a v ^^^ c) cs =
      gmul prim (a ^^^ b) (evalFrom prim a (gmul prim a qv ^^^ h) (qs prim b (gmul prim b h ^^^ c) cs)) ^^^
        evalFrom prim b (gmul prim b h ^^^ c) cs
    apply synth_eval a b ha hb cs _ _ _ hp.tail (xor_lt_size ok _ _ (gmul_lt ok _ _) hh)
      (xor_lt_size ok _ _ (gmul_lt ok _ _) hp.head)
    -- a·((a+b)·qv + h) + c = (a+b)·(a·qv + h) + (b·h + c)
    have haq : gmul prim a qv < size := gmul_lt ok _ _
    have e1 : gmul prim a v = gmul prim (a ^^^ b) (gmul prim a qv) ^^^ gmul prim a h := by
      rw [hv, gmul_xor_right ok a _ _ (gmul_lt ok _ _) hh,
        ← gmul_assoc ok a _ qv ha hk hqv, gmul_comm ok a _ ha hk, gmul_assoc ok _ a qv hk ha hqv]
    have e2 : gmul prim (a ^^^ b) (gmul prim a qv ^^^ h) =
        gmul prim (a ^^^ b) (gmul prim a qv) ^^^ (gmul prim a h ^^^ gmul prim b h) := by
      rw [gmul_xor_right ok _ _ _ haq hh, gmul_xor_left ok a b h ha hb hh]
    -- the right side carries `b·h` twice
    rw [e1, e2, ← xor_cancel_right (gmul prim (a ^^^ b) (gmul prim a qv) ^^^ gmul prim a h ^^^ c) (gmul prim b h)]
    ac_rfl

/-- the quotient of the synthetic division by `x + b` -/
def quot (prim b : Nat) (p : List Nat) : List Nat := (qs prim b 0 p).tail

omit ok in
theorem quot_length (b : Nat) (p : List Nat) : (quot prim b p).length = p.length - 1 := by
  unfold quot; rw [List.length_tail, qs_length]

theorem quot_inR (b : Nat) (p : List Nat) (hp : InR size p) : InR size (quot prim b p) := by
  intro x hx
  exact qs_inR ok b p 0 (zero_lt_size ok) hp x (List.mem_of_mem_tail hx)

theorem evalH_quot (a b : Nat) (ha : a < size) (hb : b < size) (p : List Nat) (hp : InR size p) :
    evalH prim a p = gmul prim (a ^^^ b) (evalH prim a (quot prim b p)) ^^^ evalH prim b p := by
  have hs := zero_lt_size ok
  have := synth_eval ok a b ha hb p 0 0 0 hp hs hs (by rw [gmul_zero_right ok]; rfl)
  unfold evalH quot
  rw [this]
  congr 2
  cases p with
  | nil => rfl
  | cons c cs =>
    show evalFrom prim a 0 (0 :: qs prim b _ cs) = evalFrom prim a 0 (qs prim b _ cs)
    exact evalH_zero_cons ok a _

/-- if all Horner partial values at `b`, the last one `p(b)` included, vanish then so do all coefficients,
    each being the difference of two consecutive partial values -/
theorem zero_of_qs_zero (b : Nat) : ∀ (p : List Nat) (h : Nat), (∀ x, x ∈ qs prim b h p → x = 0) →
    evalFrom prim b h p = 0 → h = 0 ∧ ∀ c, c ∈ p → c = 0
  | [], _, _, hev => ⟨hev, fun c hc => by simp at hc⟩
  | c :: cs, h, hq, hev => by
    have hh : h = 0 := hq h (by simp [qs])
    obtain ⟨hc, hcs⟩ := zero_of_qs_zero b cs (gmul prim b h ^^^ c) (fun x hx => hq x (by simp [qs, hx])) hev
    rw [hh, gmul_zero_right ok, Nat.zero_xor] at hc
    refine ⟨hh, fun x hx => ?_⟩
    rcases List.mem_cons.1 hx with rfl | hx
    · exact hc
    · exact hcs x hx

/-- root bound: `n` distinct roots force a coefficient list of length `≤ n` to be identically zero -/
theorem zero_of_roots : ∀ (bs : List Nat) (p : List Nat), InR size p → bs.Nodup → (∀ b, b ∈ bs → b < size) →
    (∀ b, b ∈ bs → evalH prim b p = 0) → p.length ≤ bs.length → ∀ c, c ∈ p → c = 0
  | _, [], _, _, _, _, _ => fun c hc => by simp at hc
  | [], _ :: _, _, _, _, _, hlen => by simp at hlen
  | b :: bs, c0 :: cs, hp, hnd, hbs, hroots, hlen => by
    have hb : b < size := hbs b (by simp)
    have hnd' := List.nodup_cons.1 hnd
    have hq : ∀ x, x ∈ quot prim b (c0 :: cs) → x = 0 := by
      apply zero_of_roots bs (quot prim b (c0 :: cs)) (quot_inR ok b _ hp) hnd'.2
        (fun b' hb' => hbs b' (List.mem_cons_of_mem _ hb'))
      · intro b' hb'
        have hb'lt : b' < size := hbs b' (List.mem_cons_of_mem _ hb')
        have h1 := evalH_quot ok b' b hb'lt hb (c0 :: cs) hp
        rw [hroots b' (List.mem_cons_of_mem _ hb'), hroots b (by simp), Nat.xor_zero] at h1
        rcases gmul_eq_zero ok _ _ (xor_lt_size ok b' b hb'lt hb) (evalH_lt ok b' _ (quot_inR ok b _ hp)) h1.symm with h | h
        · exfalso
          have : b' = b := xor_eq_zero h
          subst this
          exact hnd'.1 hb'
        · exact h
      · rw [quot_length]; simp only [List.length_cons] at hlen ⊢; omega
    refine (zero_of_qs_zero ok b (c0 :: cs) 0 (fun x hx => ?_) (hroots b (by simp))).2
    rcases List.mem_cons.1 hx with rfl | hx
    · rfl
    · exact hq x hx

end field
end Gzx.Proofs.Roots
