/-
  Code 39: the row decoder model reads back what the writer model draws, at every scale.
  Helper lemmas for Properties/C03Row39.lean.
-/
import Gzx.Proofs.Row39Read
namespace Gzx.Row39
open Gzx Gzx.OneD
open Gzx.CheckDigit (indexOf? indexOf?_lt indexOf?_get indexOf?_none indexOf?_getElem distinct)

/-! ## `code39ToNarrowWidePattern` on two-valued counters with three wide ones -/

theorem minAbove_nw (a b : Nat) (bits : List Bool) (ha0 : 0 < a) (ha : a ≤ 2147483647) (hab : a < b)
    (hn : false ∈ bits) : c39MinAbove (nw a b bits) 0 = a := by
  obtain ⟨h1, h2, h3⟩ := foldl_minAbove 0 (nw a b bits) 2147483647
  unfold c39MinAbove
  have hmem : a ∈ nw a b bits := List.mem_map.mpr ⟨false, hn, by simp⟩
  have hle := h2 a hmem ha0
  rcases h3 with e | ⟨e1, _⟩
  · omega
  · rcases mem_nw a b bits _ e1 with e | e
    · exact e
    · omega

def stepBits (p : Nat) (bits : List Bool) : Nat := bits.foldl (fun acc b => 2 * acc + (if b then 1 else 0)) p

theorem c39Scan_nw (a b : Nat) (hab : a < b) : ∀ (bits : List Bool) (p w t : Nat),
    c39Scan a (nw a b bits) (p, w, t) =
      (stepBits p bits, w + (bits.filter id).length, t + b * (bits.filter id).length)
  | [], p, w, t => by simp [nw, c39Scan, stepBits]
  | true :: bits, p, w, t => by
    have ih := c39Scan_nw a b hab bits (2 * p + 1) (w + 1) (t + b)
    simp only [nw, List.map_cons, if_true, c39Scan, hab, stepBits, List.foldl_cons, List.filter_cons, id,
      List.length_cons] at ih ⊢
    rw [ih]
    congr 2
    · omega
    · rw [Nat.mul_succ]; omega
  | false :: bits, p, w, t => by
    have ih := c39Scan_nw a b hab bits (2 * p) w t
    have hna : ¬ a > a := by omega
    simp only [nw, List.map_cons, Bool.false_eq_true, if_false, c39Scan, hna, stepBits, List.foldl_cons,
      List.filter_cons, id, Nat.add_zero] at ih ⊢
    rw [ih]

theorem c39WideOk_nw (a b : Nat) (hab : a < b) : ∀ (bits : List Bool) (w : Nat),
    c39WideOk a (b * 3) (nw a b bits) w = true
  | [], _ => by simp [nw, c39WideOk]
  | bit :: bits, 0 => by simp [nw, c39WideOk]
  | true :: bits, w + 1 => by
    have ih := c39WideOk_nw a b hab bits w
    have h2 : ¬ b * 2 ≥ b * 3 := by omega
    simp only [nw, List.map_cons, if_true, c39WideOk, hab, h2, if_false] at ih ⊢
    exact ih
  | false :: bits, w + 1 => by
    have ih := c39WideOk_nw a b hab bits (w + 1)
    have hna : ¬ a > a := by omega
    simp only [nw, List.map_cons, Bool.false_eq_true, if_false, c39WideOk, hna] at ih ⊢
    exact ih

/-- three wide elements among narrow ones, all narrow equal, all wide equal: the pattern is the wide/narrow word -/
theorem c39Pattern_nw (a b : Nat) (bits : List Bool) (ha0 : 0 < a) (ha : a ≤ 2147483647) (hab : a < b)
    (h3 : (bits.filter id).length = 3) (hn : false ∈ bits) :
    c39Pattern (nw a b bits) = .ok (some (natOfBits bits)) := by
  unfold c39Pattern c39PatternLoop
  have hok := c39WideOk_nw a b hab bits 3
  simp only [minAbove_nw a b bits ha0 ha hab hn, c39Scan_nw a b hab, h3, Nat.zero_add, if_true, hok]
  rfl

/-! ## table facts -/

def enc39 (T : Tables) (i : Nat) : Nat := T.code39Enc.getD i 0
def alpha39 (T : Tables) (i : Nat) : Nat := T.code39Alphabet.getD i 0

/-- is `e` a 9-element word with exactly three wide elements? -/
def word39Ok (e : Nat) : Bool :=
  decide (((bitsMSB 9 e).filter id).length = 3) && (bitsMSB 9 e).contains false &&
    decide (natOfBits (bitsMSB 9 e) = e)

/-- what `code39_row_read_write` needs of the tables: 43 encodings + the asterisk, pairwise distinct, each three
    wide elements of nine; a 43-character alphabet without '*' -/
def WF39Row (T : Tables) : Bool :=
  decide (T.code39Enc.length = 43) && decide (T.code39Alphabet.length = 43) &&
  distinct (T.code39Asterisk :: T.code39Enc) && !T.code39Alphabet.contains 42 &&
  (T.code39Asterisk :: T.code39Enc).all word39Ok

structure WF39Facts (T : Tables) : Prop where
  encLen : T.code39Enc.length = 43
  alphaLen : T.code39Alphabet.length = 43
  encDistinct : distinct T.code39Enc = true
  starNot : T.code39Asterisk ∉ T.code39Enc
  noStar : 42 ∉ T.code39Alphabet
  star : word39Ok T.code39Asterisk = true
  word : ∀ i, i < 43 → word39Ok (enc39 T i) = true

theorem wf39Facts (T : Tables) (h : WF39Row T = true) : WF39Facts T := by
  simp only [WF39Row, Bool.and_eq_true, decide_eq_true_eq, List.all_eq_true, Bool.not_eq_true',
    List.contains_eq_mem, decide_eq_false_iff_not, distinct] at h
  obtain ⟨⟨⟨⟨h1, h2⟩, h3, h3'⟩, h4⟩, h5⟩ := h
  refine ⟨h1, h2, h3', h3, h4, h5 _ (by simp), ?_⟩
  intro i hi
  apply h5
  unfold enc39
  rw [getD_eq_getElem _ _ _ (by omega)]
  simp

theorem wf39_of_row (T : Tables) (h : WF39Row T = true) : WF39 T = true := by
  have f := wf39Facts T h
  simp [WF39, f.encLen, f.alphaLen]

theorem widths_scaled (s e : Nat) : (code39Widths e).map (s * ·) = nw (s * 1) (s * 2) (bitsMSB 9 e) := by
  unfold code39Widths nw
  rw [List.map_map]
  apply List.map_congr_left
  intro w _
  cases w <;> simp

theorem widths_len (e : Nat) : (code39Widths e).length = 9 := by simp [code39Widths, bitsMSB]

theorem sumL_nw (a b : Nat) : ∀ (bits : List Bool),
    sumL (nw a b bits) = a * (bits.length - (bits.filter id).length) + b * (bits.filter id).length
  | [] => by simp [nw, sumL_nil]
  | true :: bits => by
    have ih := sumL_nw a b bits
    have hle : (bits.filter id).length ≤ bits.length := List.length_filter_le _ _
    simp only [nw, List.map_cons, if_true, sumL_cons, List.filter_cons, id, List.length_cons] at ih ⊢
    rw [ih, Nat.mul_succ]
    have : bits.length + 1 - ((List.filter id bits).length + 1) = bits.length - (List.filter id bits).length := by omega
    rw [this]; omega
  | false :: bits => by
    have ih := sumL_nw a b bits
    have hle : (bits.filter id).length ≤ bits.length := List.length_filter_le _ _
    simp only [nw, List.map_cons, Bool.false_eq_true, if_false, sumL_cons, List.filter_cons, id,
      List.length_cons] at ih ⊢
    rw [ih]
    have : bits.length + 1 - (List.filter id bits).length = (bits.length - (List.filter id bits).length) + 1 := by omega
    rw [this, Nat.mul_succ]; omega

theorem word39_facts (s e : Nat) (hs : 0 < s) (hs31 : s ≤ 2147483647) (hw : word39Ok e = true) :
    c39Pattern ((code39Widths e).map (s * ·)) = .ok (some e) ∧ sumL ((code39Widths e).map (s * ·)) = 12 * s ∧
      (∀ w ∈ (code39Widths e).map (s * ·), 0 < w) := by
  simp only [word39Ok, Bool.and_eq_true, decide_eq_true_eq, List.contains_eq_mem] at hw
  obtain ⟨⟨h3, hn⟩, hv⟩ := hw
  rw [widths_scaled]
  refine ⟨?_, ?_, ?_⟩
  · rw [c39Pattern_nw (s * 1) (s * 2) _ (by omega) (by omega) (by omega) h3 (by simpa using hn), hv]
  · rw [sumL_nw, h3]
    have : (bitsMSB 9 e).length = 9 := by simp [bitsMSB]
    rw [this]; omega
  · intro w hw
    rcases mem_nw _ _ _ w hw with e | e <;> omega

/-! ## table lookup -/

theorem indexOf?_of_not_mem (x : Nat) : ∀ (l : List Nat), x ∉ l → indexOf? x l = none
  | [], _ => rfl
  | y :: ys, h => by
    simp only [List.mem_cons, not_or] at h
    simp only [CheckDigit.indexOf?]
    rw [if_neg (fun e => h.1 e.symm), indexOf?_of_not_mem x ys h.2]
    rfl

theorem c39Char_at (T : Tables) (f : WF39Facts T) (i : Nat) (hi : i < 43) :
    c39Char T (enc39 T i) = .ok (alpha39 T i) := by
  unfold c39Char
  have he : enc39 T i = T.code39Enc[i]'(by rw [f.encLen]; exact hi) := by
    unfold enc39; exact getD_eq_getElem _ _ _ _
  rw [he, indexOf?_getElem f.encDistinct i (by rw [f.encLen]; exact hi)]
  simp only []
  rw [nth_ok _ i (by rw [f.alphaLen]; exact hi)]
  unfold alpha39
  rw [getD_eq_getElem _ _ _ (by rw [f.alphaLen]; exact hi)]

theorem c39Char_star (T : Tables) (f : WF39Facts T) : c39Char T T.code39Asterisk = .ok 42 := by
  unfold c39Char
  rw [indexOf?_of_not_mem _ _ f.starNot]
  simp

theorem alpha39_ne_star (T : Tables) (f : WF39Facts T) (i : Nat) (hi : i < 43) : alpha39 T i ≠ 42 := by
  intro h
  apply f.noStar
  rw [← h]
  unfold alpha39
  rw [getD_eq_getElem _ _ _ (by rw [f.alphaLen]; exact hi)]
  exact List.getElem_mem _

/-! ## the character loop on a drawn row -/

/-- nine elements of symbol character `i` and the narrow gap after it, at `s` pixels per module -/
def char39 (T : Tables) (s i : Nat) : List Nat := (code39Widths (enc39 T i)).map (s * ·) ++ [s * 1]
def runs39 (T : Tables) (s : Nat) (idx : List Nat) : List Nat := (idx.map (char39 T s)).flatten
def star39 (T : Tables) (s : Nat) : List Nat := (code39Widths T.code39Asterisk).map (s * ·)

theorem runs39_cons (T : Tables) (s i : Nat) (idx : List Nat) :
    runs39 T s (i :: idx) = (code39Widths (enc39 T i)).map (s * ·) ++ (s * 1 :: runs39 T s idx) := by
  simp [runs39, char39]

/-- character runs come in tens (nine elements and the gap), 13 modules each -/
theorem runs39_shape (T : Tables) (f : WF39Facts T) (s : Nat) (hs : 0 < s) (hs31 : s ≤ 2147483647) :
    ∀ (idx : List Nat), (∀ i ∈ idx, i < 43) →
      (runs39 T s idx).length % 2 = 0 ∧ sumL (runs39 T s idx) = 13 * s * idx.length
  | [], _ => by simp [runs39, sumL_nil]
  | i :: idx, hh => by
    obtain ⟨a, b⟩ := runs39_shape T f s hs hs31 idx (fun j hj => hh j (by simp [hj]))
    obtain ⟨_, c, _⟩ := word39_facts s (enc39 T i) hs hs31 (f.word i (hh i (by simp)))
    rw [runs39_cons]
    refine ⟨by simp [widths_len]; omega, ?_⟩
    have e : 13 * s * (idx.length + 1) = 13 * s * idx.length + 13 * s := Nat.mul_succ _ _
    rw [sumL_append, c, sumL_cons, b, List.length_cons, e]; omega

/-! ## what the writer draws, as one run list -/

/-- run widths of a whole Code 39 symbol: start, gap, (character, gap)*, stop -/
def symbol39 (T : Tables) (syms : List Nat) : List Nat :=
  (code39Widths T.code39Asterisk ++ [1]) ++
    ((syms.map (fun i => code39Widths (enc39 T i) ++ [1])).flatten ++ code39Widths T.code39Asterisk)

theorem symbol39_mem (T : Tables) (syms : List Nat) : ∀ c ∈ symbol39 T syms, c = 1 ∨ c = 2 := by
  have hw : ∀ e, ∀ c ∈ code39Widths e, c = 1 ∨ c = 2 := by
    intro e c hc
    unfold code39Widths at hc
    obtain ⟨b, _, rfl⟩ := List.mem_map.mp hc
    cases b <;> simp
  intro c hc
  unfold symbol39 at hc
  simp only [List.mem_append, List.mem_singleton, List.mem_flatten, List.mem_map] at hc
  rcases hc with (h | h) | (⟨l, ⟨i, _, rfl⟩, h⟩ | h)
  · exact hw _ c h
  · left; exact h
  · rcases List.mem_append.mp h with h | h
    · exact hw _ c h
    · left; simpa using h
  · exact hw _ c h

theorem symbol39_length (T : Tables) (syms : List Nat) : (symbol39 T syms).length = 19 + 10 * syms.length := by
  unfold symbol39
  simp only [List.length_append, widths_len, List.length_singleton, List.length_flatten, List.map_map]
  have : (syms.map (List.length ∘ fun i => code39Widths (enc39 T i) ++ [1])) = syms.map (fun _ => 10) := by
    apply List.map_congr_left; intro i _; simp [widths_len]
  rw [this]
  have hs : ∀ l : List Nat, (l.map (fun _ => 10)).sum = 10 * l.length := by
    intro l; induction l with
    | nil => rfl
    | cons a t ih => simp [ih]; omega
  rw [hs]; omega

theorem symbol39_scaled (T : Tables) (s : Nat) (syms : List Nat) :
    (symbol39 T syms).map (s * ·) = star39 T s ++ (s * 1 :: (runs39 T s syms ++ star39 T s)) := by
  simp only [symbol39, star39, runs39, List.map_append, List.map_flatten, List.map_map, List.map_cons,
    List.append_assoc, List.singleton_append]
  congr 2

theorem appendPattern_gap (W : List Nat) (hW : W.length % 2 = 1) :
    appendPattern (W ++ [1]) true = appendPattern W true ++ [false] := by
  rw [appendPattern_append]
  have : ¬ W.length % 2 = 0 := by omega
  simp [this, appendPattern]

theorem code39Draw_runs (T : Tables) (f : WF39Facts T) (syms : List Nat) (h : ∀ i ∈ syms, i < 43) :
    code39Draw T syms = .ok (appendPattern (symbol39 T syms) true) := by
  unfold code39Draw
  have hchars : syms.mapM (fun i => do
        let e ← nth T.code39Enc i
        pure (appendPattern (code39Widths e) true ++ [false])) =
      .ok (syms.map (fun i => appendPattern (code39Widths (enc39 T i) ++ [1]) true)) := by
    apply mapM_ok
    intro i hi
    have := h i hi
    rw [nth_ok _ i (by rw [f.encLen]; exact this)]
    unfold enc39; rw [getD_eq_getElem _ _ _ (by rw [f.encLen]; exact this)]
    rw [appendPattern_gap _ (by rw [widths_len])]
    rfl
  simp only []
  rw [hchars, ok_bind]
  show Except.ok _ = Except.ok _
  congr 1
  have hflat : (syms.map (fun i => appendPattern (code39Widths (enc39 T i) ++ [1]) true)).flatten =
      appendPattern (syms.map (fun i => code39Widths (enc39 T i) ++ [1])).flatten true := by
    rw [← flatten_map_appendPattern _ true (by
      intro p hp
      obtain ⟨i, _, rfl⟩ := List.mem_map.mp hp
      simp [widths_len])]
    rw [List.map_map]
    rfl
  have hevenF : (syms.map (fun i => code39Widths (enc39 T i) ++ [1])).flatten.length % 2 = 0 := by
    apply flatten_length_even
    intro p hp
    obtain ⟨i, _, rfl⟩ := List.mem_map.mp hp
    simp [widths_len]
  unfold symbol39
  rw [hflat, ← appendPattern_even_append _ _ _ (by simp [widths_len]), ← appendPattern_even_append _ _ _ hevenF,
    appendPattern_gap _ (by rw [widths_len])]
  simp [List.append_assoc]

/-! ## DecodeRow on a drawn row -/

theorem getNextSet_white : ∀ (l : List Bool), (∀ b ∈ l, b = false) → getNextSet l 0 = l.length
  | [], _ => rfl
  | b :: bs, h => by
    have hb : b = false := h b (by simp)
    subst hb
    simp only [getNextSet, Bool.false_eq_true, if_false, List.length_cons]
    rw [getNextSet_white bs (fun x hx => h x (by simp [hx]))]; omega

theorem getNextSet_tailQ {row off rq} (h : RowAt row off (tailQ rq) false) : getNextSet row off = row.length := by
  rw [getNextSet_drop row off h.le, h.drop, getNextSet_white]
  · have := h.length
    rw [length_appendPattern]; omega
  · intro b hb
    rw [appendPattern_tailQ] at hb
    exact (List.mem_replicate.mp hb).2

/-- everything `code39Reader.DecodeRow` does before the optional check digit, on a row that shows (from pixel
    `lq` on, after white pixels only, followed by white pixels only) the symbol characters `syms` -/
theorem c39DecodeRow_core (T : Tables) (f : WF39Facts T) (s : Nat) (hs : 0 < s) (hs31 : s ≤ 2147483647)
    (syms : List Nat) (hsyms : ∀ i ∈ syms, i < 43) (ck ext : Bool) (row : List Bool) (lq rq : Nat)
    (hrow : RowAt row lq ((symbol39 T syms).map (s * ·) ++ tailQ rq) true) (hoff : getNextSet row 0 = lq)
    (hwhite : ∀ a, a ≤ lq → isRangeWhite row a lq = true) :
    c39DecodeRow T ck ext row =
      match c39Finish T.code39Alphabet ck ext (syms.map (alpha39 T)) with
      | .error e => .error e
      | .ok text => .ok ⟨text, 2 * lq + 12 * s, 2 * (lq + 13 * s + 13 * s * syms.length) + 12 * s⟩ := by
  obtain ⟨hsp, hss, _⟩ : c39Pattern (star39 T s) = .ok (some T.code39Asterisk) ∧ sumL (star39 T s) = 12 * s ∧ _ :=
    word39_facts s T.code39Asterisk hs hs31 f.star
  have hstarLen : (star39 T s).length = 9 := by simp [star39, widths_len]
  -- the characters as (runs, value); start, gap, characters with gaps, stop
  have hruns : ((syms.map (fun i => ((code39Widths (enc39 T i)).map (s * ·), alpha39 T i))).map
      (fun g => g.1 ++ [s * 1])).flatten = runs39 T s syms := by
    simp only [runs39, List.map_map, Function.comp_def]
    rfl
  rw [symbol39_scaled] at hrow
  obtain ⟨hfind, hskip, hloop⟩ := starScan_at (row := row) (lq := lq) 9 (by omega) (c39Accept T row) (classify39 T)
    [s * 1] (by simp) (by simp) (star39 T s) hstarLen (by unfold classify39; rw [hsp]; exact c39Char_star T f)
    (syms.map (fun i => ((code39Widths (enc39 T i)).map (s * ·), alpha39 T i)))
    (by
      intro g hg
      obtain ⟨i, hi, rfl⟩ := List.mem_map.mp hg
      have hi43 := hsyms i hi
      obtain ⟨h2, _, _⟩ := word39_facts s (enc39 T i) hs hs31 (f.word i hi43)
      exact ⟨by simp [widths_len], by unfold classify39; rw [h2]; exact c39Char_at T f i hi43,
        alpha39_ne_star T f i hi43⟩)
    (tailQ rq) (by rw [hruns]; simpa [List.append_assoc] using hrow)
    (by
      unfold c39Accept
      simp only [hsp, hss, if_true]
      rw [show (lq + 12 * s - lq) / 2 = 6 * s by omega, hwhite _ (by omega)])
  obtain ⟨hrl, hrs⟩ := runs39_shape T f s hs hs31 syms hsyms
  rw [hruns, hrs, hss] at hloop
  simp only [sumL_cons, sumL_nil, Nat.add_zero, hss, List.map_map, Function.comp_def] at hfind hskip hloop
  -- after the stop character only white is left
  have hend : getNextSet row (lq + 12 * s + s * 1 + 13 * s * syms.length + 12 * s) = row.length := by
    have h' : RowAt row lq ((star39 T s ++ s * 1 :: (runs39 T s syms ++ star39 T s)) ++ tailQ rq) true := by
      simpa [List.append_assoc] using hrow
    have := h'.advance_odd _ _ (by simp only [List.length_append, List.length_cons, hstarLen]; omega)
    simp only [sumL_append, sumL_cons, hrs, hss, Bool.not_true] at this
    rw [show lq + (12 * s + (s * 1 + (13 * s * syms.length + 12 * s))) =
      lq + 12 * s + s * 1 + 13 * s * syms.length + 12 * s by omega] at this
    exact getNextSet_tailQ this
  unfold c39DecodeRow c39FindAsterisk
  simp only [hoff, hfind, hskip, c39Loop_eq, hloop, hend, ne_eq, not_true_eq_false, false_and, if_false]
  have e1 : lq + (lq + 12 * s) = 2 * lq + 12 * s := by omega
  have e2 : lq + 12 * s + s * 1 + 13 * s * syms.length = lq + 13 * s + 13 * s * syms.length := by omega
  rw [e1, e2]
  cases c39Finish T.code39Alphabet ck ext (List.map (alpha39 T) syms) <;> rfl

/-! ## extended mode: `OneDPost.c39Ext` (the model of `code39DecodeExtended`) agrees with the symbol-level unescaping -/

/-- the writer-side table of the four shift characters `$ % / +` (`pair39`) against the reader's `c39Escape`, shift
    character by shift character -/
theorem pair39_escape (c n d : Nat) (hc : isShift39 c = true) (h : pair39 c n = .ok d) :
    OneDPost.c39Escape c n = some d := by
  simp only [isShift39, Bool.or_eq_true, decide_eq_true_eq] at hc
  rcases hc with ((rfl | rfl) | rfl) | rfl <;>
    simp only [pair39, OneDPost.c39Escape, OneDPost.inRange] at h ⊢ <;> grind

theorem shift39_eq (c : Nat) : OneDPost.c39IsEscape c = isShift39 c := by
  simp only [OneDPost.c39IsEscape, isShift39]
  have h : ∀ k : Nat, (c == k) = decide (c = k) := fun k => by
    by_cases e : c = k <;> simp [e]
  rw [h, h, h, h]

theorem c39Ext_of_unescape (l : List Nat) : ∀ (r acc : List Nat), code39Unescape l = .ok r →
    OneDPost.c39Ext l acc = .ok (acc.reverse ++ r) := by
  fun_induction code39Unescape l with
  | case1 => intro r acc h; cases h; simp [OneDPost.c39Ext]
  | case2 c hs => intro r acc h; cases h
  | case3 c hs =>
    intro r acc h; cases h
    simp [OneDPost.c39Ext, shift39_eq, hs]
  | case4 c n rest hs d hp ih =>
    intro r acc h
    cases hr : code39Unescape rest with
    | error e => rw [hr] at h; cases h
    | ok r' =>
      rw [hr] at h; cases h
      simp [OneDPost.c39Ext, shift39_eq, hs, pair39_escape c n d hs hp, ih r' (d :: acc) hr]
  | case5 c n rest hs e hp => intro r acc h; cases h
  | case6 c n rest hs ih =>
    intro r acc h
    cases hr : code39Unescape (n :: rest) with
    | error e => rw [hr] at h; cases h
    | ok r' =>
      rw [hr] at h; cases h
      simp [OneDPost.c39Ext, shift39_eq, hs, ih r' (c :: acc) hr]

/-- `DecodeRow` after the loop (no check digit) on the characters of the writer's symbols = the symbol-level reader -/
theorem c39Finish_symbols (T : Tables) (f : WF39Facts T) (syms : List Nat) (hsyms : ∀ i ∈ syms, i < 43)
    (ext : Bool) (contents : List Nat) (h : code39ReadSymbols T syms ext = .ok contents) :
    c39Finish T.code39Alphabet false ext (syms.map (alpha39 T)) = .ok contents := by
  have hm : syms.mapM (nth T.code39Alphabet) = .ok (syms.map (alpha39 T)) := by
    apply mapM_ok
    intro i hi
    have := hsyms i hi
    rw [nth_ok _ i (by rw [f.alphaLen]; exact this)]
    unfold alpha39
    rw [getD_eq_getElem _ _ _ (by rw [f.alphaLen]; exact this)]
  unfold code39ReadSymbols at h
  rw [hm, ok_bind] at h
  unfold c39Finish
  by_cases he : (syms.map (alpha39 T)).isEmpty = true
  · simp [he, throw, throwThe, MonadExceptOf.throw, bind, Except.bind] at h
  · have hl : ¬ (syms.map (alpha39 T)).length = 0 := by
      intro h0; apply he; exact List.isEmpty_iff.mpr (List.eq_nil_of_length_eq_zero h0)
    simp only [he, Bool.false_eq_true, if_false, bind, Except.bind, pure, Except.pure] at h
    simp only [hl, if_false, Bool.false_eq_true]
    cases ext with
    | false => simpa using h
    | true =>
      simp only [if_true] at h ⊢
      rw [c39Ext_of_unescape _ _ [] h]
      simp

theorem WF39Row_ref : WF39Row refTables = true := by decide +kernel

end Gzx.Row39
