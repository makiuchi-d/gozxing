/-
  The Code 128 writer loop (`chooseCode`, `c128Loop`, `code128Codes` of Model/OneD.lean), for every forced code set the
  writer can pass (none, A, B, C) at once, through `newCS` and the one-iteration equation `c128Loop_cons`:
  * it is total — symbol characters below STOP, or a WriterException, and the latter only under a forced code set; never
    a panic and never out of fuel (a code-set switch is followed by a step that consumes input, because `chooseCode` is
    idempotent in the old code set);
  * on ASCII contents what it emits reads back as the contents: `loop_reads` against `readCodes` (the reader on the
    SHIFT- and FNC4-free fragment, Proofs/OneD.lean), and `code128_inv` for the whole symbol with check character and STOP.
-/
import Gzx.Proofs.OneD
namespace Gzx.OneD
open Gzx Gzx.CheckDigit

/-! ### `chooseCode` -/

/-- the first conjunct of `c128CharOk`: ASCII or one of the four FNC escapes -/
def okc (c : Nat) : Prop := c ≤ 127 ∨ c = 0xF1 ∨ c = 0xF2 ∨ c = 0xF3 ∨ c = 0xF4

theorem findCType_cases (v : List Nat) :
    findCType v = .uncodable ∨ findCType v = .oneDigit ∨ findCType v = .twoDigits ∨ findCType v = .fnc1 := by
  cases findCType v <;> simp

theorem findCType_fnc1 {c : Nat} {rest : List Nat} (h : findCType (c :: rest) = .fnc1) : c = 0xF1 := by
  unfold findCType at h
  by_cases hc : c = 0xF1
  · exact hc
  · simp only [hc, if_false] at h
    split at h
    · cases h
    · split at h
      · cases h
      · split at h <;> cases h

theorem findCType_two {c : Nat} {rest : List Nat} (h : findCType (c :: rest) = .twoDigits) :
    isDigitCp c = true ∧ ∃ c2 r2, rest = c2 :: r2 ∧ isDigitCp c2 = true := by
  unfold findCType at h
  by_cases hc : c = 0xF1
  · simp [hc] at h
  · simp only [hc, if_false] at h
    by_cases hd : isDigitCp c = true
    · simp only [hd, Bool.not_true, Bool.false_eq_true, if_false] at h
      cases rest with
      | nil => cases h
      | cons c2 r2 =>
        simp only at h
        by_cases hd2 : isDigitCp c2 = true
        · exact ⟨hd, c2, r2, rfl, hd2⟩
        · simp [hd2] at h
    · simp [hd] at h

theorem findCType_one {c : Nat} {rest : List Nat} (h : findCType (c :: rest) = .oneDigit) : isDigitCp c = true := by
  unfold findCType at h
  by_cases hc : c = 0xF1
  · simp [hc] at h
  · simp only [hc, if_false] at h
    by_cases hd : isDigitCp c = true
    · exact hd
    · simp [hd] at h

theorem findCType_unc {c : Nat} {rest : List Nat} (h : findCType (c :: rest) = .uncodable) :
    c ≠ 0xF1 ∧ isDigitCp c = false := by
  unfold findCType at h
  by_cases hc : c = 0xF1
  · simp [hc] at h
  · simp only [hc, if_false] at h
    by_cases hd : isDigitCp c = true
    · simp only [hd, Bool.not_true, Bool.false_eq_true, if_false] at h
      cases rest with
      | nil => cases h
      | cons c2 r2 => simp only at h; split at h <;> cases h
    · exact ⟨hc, by simpa using hd⟩

theorem chooseCode_one {v : List Nat} (old : Nat) (h : findCType v = .oneDigit) :
    chooseCode v old = if old = 101 then 101 else 100 := by
  unfold chooseCode
  simp [h]

theorem chooseCode_unc {c : Nat} {rest : List Nat} (old : Nat) (h : findCType (c :: rest) = .uncodable) :
    chooseCode (c :: rest) old = if c < 32 ∨ (old = 101 ∧ (c < 96 ∨ (0xF1 ≤ c ∧ c ≤ 0xF4))) then 101 else 100 := by
  unfold chooseCode
  simp [h]

theorem chooseCode_fnc {v : List Nat} (old : Nat) (h : findCType v = .fnc1) :
    chooseCode v old = if old = 101 then 101 else if old = 99 then 99 else if old = 100 then 100
      else if findCType (v.drop 1) = .twoDigits then 99 else 100 := by
  unfold chooseCode
  simp only [h]
  simp

/-- with two digits ahead: stay in C, from B the look-ahead decides (independently of anything else), otherwise C -/
theorem chooseCode_two {v : List Nat} (old : Nat) (h : findCType v = .twoDigits) :
    chooseCode v old = if old = 99 then 99 else if old = 100 then chooseCode v 100 else 99 := by
  by_cases h2 : old = 99
  · subst h2
    unfold chooseCode
    simp [h]
  · by_cases h3 : old = 100
    · subst h3; simp
    · rw [if_neg h2, if_neg h3]
      unfold chooseCode
      simp [h, h2, h3]

theorem chooseCode_two_B {v : List Nat} (h : findCType v = .twoDigits) : chooseCode v 100 = 99 ∨ chooseCode v 100 = 100 := by
  unfold chooseCode
  simp only [h]
  simp
  repeat' split
  all_goals (first | (simp; done) | grind)

/-- after a switch the writer stays -/
theorem chooseCode_idem (v : List Nat) (old : Nat) : chooseCode v (chooseCode v old) = chooseCode v old := by
  cases v with
  | nil => simp [chooseCode, findCType]
  | cons c rest =>
    rcases findCType_cases (c :: rest) with h | h | h | h
    · rw [chooseCode_unc _ h, chooseCode_unc _ h]
      by_cases hc : c < 32 ∨ (old = 101 ∧ (c < 96 ∨ (0xF1 ≤ c ∧ c ≤ 0xF4)))
      · rw [if_pos hc]
        have : c < 32 ∨ ((101 : Nat) = 101 ∧ (c < 96 ∨ (0xF1 ≤ c ∧ c ≤ 0xF4))) := by
          rcases hc with h1 | h1
          · exact Or.inl h1
          · exact Or.inr ⟨rfl, h1.2⟩
        rw [if_pos this]
      · rw [if_neg hc]
        have : ¬ (c < 32 ∨ ((100 : Nat) = 101 ∧ (c < 96 ∨ (0xF1 ≤ c ∧ c ≤ 0xF4)))) := by
          intro h1
          rcases h1 with h1 | h1
          · exact hc (Or.inl h1)
          · exact absurd h1.1 (by decide)
        rw [if_neg this]
    · rw [chooseCode_one _ h, chooseCode_one _ h]
      by_cases h1 : old = 101 <;> simp [h1]
    · rw [chooseCode_two old h]
      by_cases h2 : old = 99
      · rw [if_pos h2, chooseCode_two 99 h]; simp
      · rw [if_neg h2]
        by_cases h3 : old = 100
        · rw [if_pos h3]
          rcases chooseCode_two_B h with hb | hb
          · rw [hb, chooseCode_two 99 h]; simp
          · rw [hb]; exact hb
        · rw [if_neg h3, chooseCode_two 99 h]; simp
    · rw [chooseCode_fnc old h]
      by_cases h1 : old = 101
      · rw [if_pos h1, chooseCode_fnc 101 h]; simp
      · rw [if_neg h1]
        by_cases h2 : old = 99
        · rw [if_pos h2, chooseCode_fnc 99 h]; simp
        · rw [if_neg h2]
          by_cases h3 : old = 100
          · rw [if_pos h3, chooseCode_fnc 100 h]; simp
          · rw [if_neg h3]
            by_cases h4 : findCType ((c :: rest).drop 1) = .twoDigits
            · rw [if_pos h4, chooseCode_fnc 99 h]; simp
            · rw [if_neg h4, chooseCode_fnc 100 h]; simp

/-- what the chosen code set says about the character at hand -/
theorem chooseCode_facts (c : Nat) (rest : List Nat) (old : Nat) :
    (chooseCode (c :: rest) old = 99 ∨ chooseCode (c :: rest) old = 100 ∨ chooseCode (c :: rest) old = 101) ∧
    (chooseCode (c :: rest) old = 101 → c < 96 ∨ c = 0xF1 ∨ c = 0xF2 ∨ c = 0xF3 ∨ c = 0xF4) ∧
    (chooseCode (c :: rest) old = 100 → 32 ≤ c) ∧
    (chooseCode (c :: rest) old = 99 → c = 0xF1 ∨ (isDigitCp c = true ∧ ∃ c2 r2, rest = c2 :: r2 ∧ isDigitCp c2 = true)) := by
  rcases findCType_cases (c :: rest) with h | h | h | h
  · rw [chooseCode_unc _ h]
    obtain ⟨hne, hnd⟩ := findCType_unc h
    by_cases hc : c < 32 ∨ (old = 101 ∧ (c < 96 ∨ (0xF1 ≤ c ∧ c ≤ 0xF4)))
    · rw [if_pos hc]
      refine ⟨by simp, fun _ => ?_, by simp, by simp⟩
      omega
    · rw [if_neg hc]
      refine ⟨by simp, by simp, fun _ => ?_, by simp⟩
      omega
  · rw [chooseCode_one _ h]
    have hd := findCType_one h
    have h48 : 48 ≤ c ∧ c ≤ 57 := by simpa [isDigitCp] using hd
    by_cases h1 : old = 101
    · rw [if_pos h1]; refine ⟨by simp, fun _ => by omega, by simp, by simp⟩
    · rw [if_neg h1]; refine ⟨by simp, by simp, fun _ => by omega, by simp⟩
  · obtain ⟨hd, c2, r2, hr, hd2⟩ := findCType_two h
    have h48 : 48 ≤ c ∧ c ≤ 57 := by simpa [isDigitCp] using hd
    have key : chooseCode (c :: rest) old = 99 ∨ chooseCode (c :: rest) old = 100 := by
      rw [chooseCode_two old h]
      by_cases h2 : old = 99
      · simp [h2]
      · rw [if_neg h2]
        by_cases h3 : old = 100
        · rw [if_pos h3]; exact chooseCode_two_B h
        · simp [h3]
    refine ⟨?_, ?_, fun _ => by omega, fun _ => Or.inr ⟨hd, c2, r2, hr, hd2⟩⟩
    · rcases key with k | k <;> simp [k]
    · intro h101; rcases key with k | k <;> rw [k] at h101 <;> cases h101
  · have hc := findCType_fnc1 h
    rw [chooseCode_fnc old h]
    refine ⟨?_, fun _ => Or.inr (Or.inl hc), fun _ => by omega, fun _ => Or.inl hc⟩
    repeat' split
    all_goals simp

/-! ### the main loop -/

/-- the forced code sets `encodeWithHints` can have: none, A, B, C -/
def ForcedOK (forced : Option Nat) : Prop := forced = none ∨ forced = some 99 ∨ forced = some 100 ∨ forced = some 101

/-- `newCodeSet` of one iteration -/
def newCS (forced : Option Nat) (v : List Nat) (cs : Nat) : Nat :=
  match forced with
  | some f => f
  | none => chooseCode v cs

/-- symbol characters below STOP, or — only under a forced code set — a WriterException -/
def Good (forced : Option Nat) (r : Res (List (Nat × Bool))) : Prop :=
  (∃ out, r = .ok out ∧ ∀ e ∈ out, e.1 < 106) ∨ (forced ≠ none ∧ r = .error .writer)

theorem c128CharOk_okc {forced : Option Nat} {c : Nat} (h : c128CharOk forced c = true) : okc c := by
  unfold c128CharOk at h
  simp only [Bool.and_eq_true, Bool.or_eq_true, decide_eq_true_eq] at h
  unfold okc
  omega

theorem newCS_range {forced : Option Nat} (hf : ForcedOK forced) (c : Nat) (rest : List Nat) (cs : Nat) :
    newCS forced (c :: rest) cs = 99 ∨ newCS forced (c :: rest) cs = 100 ∨ newCS forced (c :: rest) cs = 101 := by
  rcases hf with rfl | rfl | rfl | rfl
  · exact (chooseCode_facts c rest cs).1
  · simp [newCS]
  · simp [newCS]
  · simp [newCS]

theorem newCS_idem (forced : Option Nat) (v : List Nat) (cs : Nat) :
    newCS forced v (newCS forced v cs) = newCS forced v cs := by
  cases forced with
  | none => exact chooseCode_idem v cs
  | some f => rfl

theorem c128Loop_cons (forced : Option Nat) (fuel c : Nat) (rest : List Nat) (moved : Bool) (codeSet : Nat)
    (acc : List (Nat × Bool)) :
    c128Loop forced (fuel + 1) (c :: rest) moved codeSet acc =
      if newCS forced (c :: rest) codeSet = codeSet then
        if c = 0xF1 then c128Loop forced fuel rest true codeSet ((102, true) :: acc)
        else if c = 0xF2 then c128Loop forced fuel rest true codeSet ((97, true) :: acc)
        else if c = 0xF3 then c128Loop forced fuel rest true codeSet ((96, true) :: acc)
        else if c = 0xF4 then
          c128Loop forced fuel rest true codeSet ((if codeSet = 101 then 101 else 100, true) :: acc)
        else if codeSet = 101 then
          c128Loop forced fuel rest true codeSet ((if c < 32 then c + 64 else c - 32, true) :: acc)
        else if codeSet = 100 then
          if c < 32 then .error (.panic "negative pattern index")
          else c128Loop forced fuel rest true codeSet ((c - 32, true) :: acc)
        else
          match rest with
          | [] => .error .writer
          | c2 :: rest2 =>
            if c2 < 48 ∨ c2 > 57 then .error .writer
            else if c < 48 ∨ (c - 48) * 10 + (c2 - 48) ≥ 107 then .error (.panic "pattern index out of range")
            else c128Loop forced fuel rest2 true codeSet (((c - 48) * 10 + (c2 - 48), true) :: acc)
      else
        c128Loop forced fuel (c :: rest) moved (newCS forced (c :: rest) codeSet)
          ((if codeSet = 0 then (if newCS forced (c :: rest) codeSet = 101 then 103
              else if newCS forced (c :: rest) codeSet = 100 then 104 else 105)
            else newCS forced (c :: rest) codeSet, moved) :: acc) := by
  cases forced <;> rfl

/-- one iteration that stays in its code set: consumes input; good if every continuation on shorter input is -/
theorem c128_stable_step {forced : Option Nat} (hf : ForcedOK forced) (fuel : Nat) (c : Nat) (rest : List Nat)
    (moved : Bool) (cs : Nat) (acc : List (Nat × Bool))
    (hok : ∀ x ∈ c :: rest, c128CharOk forced x = true) (hacc : ∀ e ∈ acc, e.1 < 106)
    (hst : newCS forced (c :: rest) cs = cs)
    (hrec : ∀ (v' : List Nat) (acc' : List (Nat × Bool)), v'.length < (c :: rest).length →
      (∀ x ∈ v', c128CharOk forced x = true) → (∀ e ∈ acc', e.1 < 106) → Good forced (c128Loop forced fuel v' true cs acc')) :
    Good forced (c128Loop forced (fuel + 1) (c :: rest) moved cs acc) := by
  have hcok := hok c List.mem_cons_self
  have hokc := c128CharOk_okc hcok
  have hrest : ∀ x ∈ rest, c128CharOk forced x = true := fun x hx => hok x (List.mem_cons_of_mem _ hx)
  have hcons : ∀ (i : Nat), i < 106 → ∀ e ∈ (i, true) :: acc, e.1 < 106 := by
    intro i hi e he
    rcases List.mem_cons.mp he with rfl | he
    · exact hi
    · exact hacc e he
  have hlen : rest.length < (c :: rest).length := by simp
  have hrange := newCS_range hf c rest cs
  rw [hst] at hrange
  rw [c128Loop_cons, if_pos hst]
  by_cases h1 : c = 0xF1
  · simp only [h1, if_true]; exact hrec rest _ hlen hrest (hcons _ (by decide : (_ : Nat) < 106))
  · by_cases h2 : c = 0xF2
    · simp only [h2, if_true]; exact hrec rest _ hlen hrest (hcons _ (by decide : (_ : Nat) < 106))
    · by_cases h3 : c = 0xF3
      · simp only [h3, if_true]; exact hrec rest _ hlen hrest (hcons _ (by decide : (_ : Nat) < 106))
      · by_cases h4 : c = 0xF4
        · simp only [h4, if_true]
          exact hrec rest _ hlen hrest (hcons (if cs = 101 then 101 else 100) (by split <;> decide))
        · simp only [h1, h2, h3, h4, if_false]
          have h127 : c ≤ 127 := by unfold okc at hokc; omega
          by_cases hA : cs = 101
          · subst hA
            rw [if_pos rfl]
            exact hrec rest _ hlen hrest (hcons (if c < 32 then c + 64 else c - 32) (by split <;> omega))
          · rw [if_neg hA]
            by_cases hB : cs = 100
            · subst hB
              rw [if_pos rfl]
              have h32 : 32 ≤ c := by
                rcases hf with rfl | rfl | rfl | rfl
                · exact (chooseCode_facts c rest 100).2.2.1 hst
                · simp [newCS] at hst
                · unfold c128CharOk at hcok
                  simp only [Bool.and_eq_true, Bool.not_eq_true', decide_eq_false_iff_not] at hcok
                  omega
                · simp [newCS] at hst
              have : ¬ c < 32 := by omega
              rw [if_neg this]
              exact hrec rest _ hlen hrest (hcons (c - 32) (by omega))
            · rw [if_neg hB]
              have hC : cs = 99 := by omega
              subst hC
              -- without a forced code set, C was chosen by the look-ahead: a digit pair is at hand
              have hpair : forced = none → ∃ c2 r2, rest = c2 :: r2 ∧ isDigitCp c2 = true := by
                rintro rfl
                rcases (chooseCode_facts c rest 99).2.2.2 hst with h | h
                · exact absurd h h1
                · exact h.2
              cases rest with
              | nil =>
                refine Or.inr ⟨fun hn => ?_, rfl⟩
                obtain ⟨_, _, h, _⟩ := hpair hn
                cases h
              | cons c2 r2 =>
                show Good forced (if c2 < 48 ∨ c2 > 57 then .error .writer
                  else if c < 48 ∨ (c - 48) * 10 + (c2 - 48) ≥ 107 then .error (.panic "pattern index out of range")
                  else c128Loop forced fuel r2 true 99 (((c - 48) * 10 + (c2 - 48), true) :: acc))
                by_cases hd2 : c2 < 48 ∨ c2 > 57
                · rw [if_pos hd2]
                  refine Or.inr ⟨fun hn => ?_, rfl⟩
                  obtain ⟨_, _, h, hdg⟩ := hpair hn
                  cases h
                  simp only [isDigitCp, Bool.and_eq_true, decide_eq_true_eq] at hdg
                  omega
                · rw [if_neg hd2]
                  have hdig : 48 ≤ c ∧ c ≤ 57 := by
                    rcases hf with rfl | rfl | rfl | rfl
                    · have := (chooseCode_facts c (c2 :: r2) 99).2.2.2 hst
                      rcases this with h | h
                      · exact absurd h h1
                      · simpa [isDigitCp] using h.1
                    · unfold c128CharOk at hcok
                      simp only [Bool.and_eq_true, Bool.not_eq_true', Bool.or_eq_false_iff, Bool.and_eq_false_imp,
                        decide_eq_false_iff_not, decide_eq_true_eq] at hcok
                      omega
                    · simp [newCS] at hst
                    · simp [newCS] at hst
                  have hg : ¬ (c < 48 ∨ (c - 48) * 10 + (c2 - 48) ≥ 107) := by omega
                  rw [if_neg hg]
                  exact hrec r2 _ (by simp only [List.length_cons]; omega) (fun x hx => hrest x (List.mem_cons_of_mem _ hx))
                    (hcons ((c - 48) * 10 + (c2 - 48)) (by omega))

/-- the loop is good whenever the fuel covers two iterations per remaining character (one when the code set is settled) -/
theorem c128Loop_good {forced : Option Nat} (hf : ForcedOK forced) :
    ∀ (n : Nat) (v : List Nat), v.length ≤ n → (∀ x ∈ v, c128CharOk forced x = true) →
      ∀ (fuel : Nat) (moved : Bool) (cs : Nat) (acc : List (Nat × Bool)), (∀ e ∈ acc, e.1 < 106) →
        (2 * v.length + 1 ≤ fuel ∨ (v ≠ [] ∧ 2 * v.length ≤ fuel ∧ newCS forced v cs = cs)) →
        Good forced (c128Loop forced fuel v moved cs acc) := by
  intro n
  induction n with
  | zero =>
    intro v hv _ fuel moved cs acc hacc hfu
    have : v = [] := List.length_eq_zero_iff.mp (by omega)
    subst this
    rcases hfu with h | h
    · obtain ⟨f, rfl⟩ : ∃ f, fuel = f + 1 := ⟨fuel - 1, by simp at h; omega⟩
      simp only [c128Loop]
      exact Or.inl ⟨_, rfl, fun e he => hacc e (List.mem_reverse.mp he)⟩
    · exact absurd rfl h.1
  | succ n ih =>
    intro v hv hok fuel moved cs acc hacc hfu
    cases v with
    | nil =>
      rcases hfu with h | h
      · obtain ⟨f, rfl⟩ : ∃ f, fuel = f + 1 := ⟨fuel - 1, by simp at h; omega⟩
        simp only [c128Loop]
        exact Or.inl ⟨_, rfl, fun e he => hacc e (List.mem_reverse.mp he)⟩
      · exact absurd rfl h.1
    | cons c rest =>
      have hlen : rest.length ≤ n := by simp at hv; omega
      have stable : ∀ (fuel : Nat) (moved : Bool) (cs : Nat) (acc : List (Nat × Bool)), (∀ e ∈ acc, e.1 < 106) →
          2 * (c :: rest).length ≤ fuel + 1 → newCS forced (c :: rest) cs = cs →
          Good forced (c128Loop forced (fuel + 1) (c :: rest) moved cs acc) := by
        intro fuel moved cs acc hacc hfu hst
        apply c128_stable_step hf fuel c rest moved cs acc hok hacc hst
        intro v' acc' hl hok' hacc'
        simp only [List.length_cons] at hl hfu
        exact ih v' (by omega) hok' fuel true cs acc' hacc' (Or.inl (by omega))
      rcases hfu with h | h
      · obtain ⟨f, rfl⟩ : ∃ f, fuel = f + 1 := ⟨fuel - 1, by simp at h; omega⟩
        by_cases hst : newCS forced (c :: rest) cs = cs
        · exact stable f moved cs acc hacc (by omega) hst
        · -- switch the code set, then the settled case
          rw [c128Loop_cons, if_neg hst]
          have hr := newCS_range hf c rest cs
          obtain ⟨f', rfl⟩ : ∃ f', f = f' + 1 := ⟨f - 1, by simp at h; omega⟩
          apply stable f' moved _ _ _ (by omega) (newCS_idem forced _ cs)
          intro e he
          rcases List.mem_cons.mp he with rfl | he
          · simp only
            split
            · split
              · decide
              · split <;> decide
            · omega
          · exact hacc e he
      · obtain ⟨f, rfl⟩ : ∃ f, fuel = f + 1 := ⟨fuel - 1, by simp at h; omega⟩
        exact stable f moved cs acc hacc (by omega) h.2.2

/-- `c128Loop` with the fuel `code128Codes` gives it -/
theorem c128Loop_total {forced : Option Nat} (hf : ForcedOK forced) (contents : List Nat)
    (hok : contents.all (c128CharOk forced) = true) :
    Good forced (c128Loop forced (2 * contents.length + 2) contents false 0 []) :=
  c128Loop_good hf contents.length contents (Nat.le_refl _) (fun x hx => List.all_eq_true.mp hok x hx)
    _ false 0 [] (by simp) (Or.inl (by omega))

theorem code128Codes_rejects (contents : List Nat) (forced : Option Nat)
    (h : contents.length < 1 ∨ contents.length > 80 ∨ contents.all (c128CharOk forced) = false) :
    code128Codes contents forced = .error .writer := by
  unfold code128Codes
  by_cases h1 : contents.length < 1 ∨ contents.length > 80
  · simp only [h1, if_true, throw, throwThe, MonadExceptOf.throw, bind, Except.bind]
  · have h3 : contents.all (c128CharOk forced) = false := by
      rcases h with h | h | h
      · exact absurd (Or.inl h) h1
      · exact absurd (Or.inr h) h1
      · exact h
    simp only [h1, if_false, h3, Bool.not_false, if_true, throw, throwThe, MonadExceptOf.throw, bind, Except.bind,
      pure, Except.pure]

/-- without a forced code set the writer accepts every content of 1..80 admissible characters: the look-ahead
    only selects code set C in front of a digit pair, so the two WriterExceptions of the loop are out of reach -/
theorem code128Codes_ok (contents : List Nat) (hl : 1 ≤ contents.length) (hl' : contents.length ≤ 80)
    (hok : contents.all (c128CharOk none) = true) : ∃ codes, code128Codes contents none = .ok codes := by
  rcases c128Loop_total (Or.inl rfl) contents hok with ⟨out, ho, _⟩ | ⟨hn, _⟩
  · have hlen : ¬ (contents.length < 1 ∨ contents.length > 80) := by omega
    refine ⟨out.map (·.1) ++ [c128WriterSum out 0 1, 106], ?_⟩
    simp only [code128Codes, hlen, if_false, hok, Bool.not_true, Bool.false_eq_true, ho, bind, Except.bind, pure,
      Except.pure]
  · exact absurd rfl hn

/-- whatever the writer returns is symbol characters below STOP followed by STOP: any content, any forced code set -/
theorem code128Codes_shape {forced : Option Nat} (hf : ForcedOK forced) (contents codes : List Nat)
    (h : code128Codes contents forced = .ok codes) : ∃ body, codes = body ++ [106] ∧ ∀ c ∈ body, c < 106 := by
  unfold code128Codes at h
  simp only [bind, Except.bind, pure, Except.pure, throw, throwThe, MonadExceptOf.throw] at h
  split at h
  · cases h
  · split at h
    · cases h
    · rename_i hall
      split at h
      · cases h
      · rename_i emitted hloop
        cases h
        rcases c128Loop_total hf contents (by simpa using hall) with ⟨out, ho, hlt⟩ | ⟨_, he⟩
        · rw [hloop] at ho
          cases ho
          refine ⟨emitted.map (·.1) ++ [c128WriterSum emitted 0 1], by simp, ?_⟩
          intro x hx
          simp only [List.mem_append, List.mem_map, List.mem_singleton] at hx
          rcases hx with ⟨e, he, rfl⟩ | rfl
          · exact hlt e he
          · have := c128WriterSum_lt emitted 0 1; omega
        · rw [hloop] at he; cases he

/-! ### what the loop emits reads back -/

theorem charOk_ascii (c : Nat) (hc : c < 128) : c128CharOk none c = true := by
  simp [c128CharOk]; omega

/-- what `c128CharOk (some f) c` grants about an ASCII character, per forced code set (one implication is live for a
    given `f`; stated as three so that the loop proof can pick by `f`) -/
theorem charOk_forced (f c : Nat) (hf : f = 99 ∨ f = 100 ∨ f = 101) (hc : c < 128)
    (h : c128CharOk (some f) c = true) :
    (f = 101 → c < 96) ∧ (f = 100 → 32 ≤ c) ∧ (f = 99 → 48 ≤ c ∧ c ≤ 57) := by
  unfold c128CharOk at h
  rcases hf with rfl | rfl | rfl
  · simp at h
    refine ⟨by omega, by omega, fun _ => ?_⟩
    omega
  · simp at h
    refine ⟨by omega, fun _ => by omega, by omega⟩
  · simp at h
    refine ⟨fun _ => by omega, by omega, by omega⟩

theorem emitOf_A (c : Nat) (h : c < 96) : emitOf 101 (if c < 32 then c + 64 else c - 32) = some ([c], 101) := by
  by_cases h32 : c < 32
  · have a1 : ¬ c + 64 < 64 := by omega
    have a2 : c + 64 < 96 := by omega
    have e1 : c + 64 - 64 = c := by omega
    simp only [h32, if_true, emitOf, a1, a2, if_false, e1]
  · have a1 : c - 32 < 64 := by omega
    have e1 : 32 + (c - 32) = c := by omega
    simp only [h32, if_false, emitOf, if_true, a1, e1]

theorem emitOf_B (c : Nat) (h : 32 ≤ c) (h' : c < 128) : emitOf 100 (c - 32) = some ([c], 100) := by
  have : c - 32 < 96 := by omega
  have e1 : 32 + (c - 32) = c := by omega
  simp only [emitOf, show ¬ (100 = 101) by decide, if_false, if_true, this, e1]

theorem emitOf_C (c c2 : Nat) (h1 : 48 ≤ c ∧ c ≤ 57) (h2 : 48 ≤ c2 ∧ c2 ≤ 57) :
    emitOf 99 ((c - 48) * 10 + (c2 - 48)) = some ([c, c2], 99) := by
  have : (c - 48) * 10 + (c2 - 48) < 100 := by omega
  have e1 : 48 + ((c - 48) * 10 + (c2 - 48)) / 10 = c := by omega
  have e2 : 48 + ((c - 48) * 10 + (c2 - 48)) % 10 = c2 := by omega
  simp only [emitOf, show ¬ (99 = 101) by decide, show ¬ (99 = 100) by decide, if_false, if_true, this, e1, e2]

/-- what a settled code set says about the ASCII character at hand, with or without a forced code set -/
theorem settled_facts {forced : Option Nat} (hf : ForcedOK forced) (c : Nat) (rest : List Nat) (cs : Nat) (hc : c < 128)
    (hok : c128CharOk forced c = true) (hst : newCS forced (c :: rest) cs = cs) :
    (cs = 101 → c < 96) ∧ (cs = 100 → 32 ≤ c) ∧ (cs = 99 → 48 ≤ c ∧ c ≤ 57) := by
  rcases hf with rfl | rfl | rfl | rfl
  · have := chooseCode_facts c rest cs
    simp only [newCS] at hst
    rw [hst] at this
    refine ⟨fun h => by have := this.2.1 h; omega, this.2.2.1, fun h => ?_⟩
    rcases this.2.2.2 h with h | h
    · omega
    · simpa [isDigitCp] using h.1
  all_goals
    simp only [newCS] at hst
    subst hst
    have := charOk_forced _ c (by simp) hc hok
    simpa using this

/-- the writer half, for every forced code set at once and against `readCodes` alone: what the loop appends to `acc`
    is a list `em` of symbol characters, all marked `moved`, that read back as the input.  The fourth hypothesis is what
    the loop maintains: right after a code-set switch the pushed entry carries `moved`, otherwise `cs` is already what
    `newCS` selects (the caller starts with `moved = false` and `newCS_idem`). -/
theorem loop_reads {forced : Option Nat} (hf : ForcedOK forced) (fuel : Nat) :
    ∀ (input : List Nat) (moved : Bool) (cs : Nat) (acc out : List (Nat × Bool)),
    (∀ c ∈ input, c < 128) → (∀ c ∈ input, c128CharOk forced c = true) → (cs = 99 ∨ cs = 100 ∨ cs = 101) →
    (moved = true ∨ input = [] ∨ newCS forced input cs = cs) →
    c128Loop forced fuel input moved cs acc = .ok out →
    ∃ em cs', out = acc.reverse ++ em ∧ (∀ e ∈ em, e.2 = true) ∧ readCodes cs (em.map (·.1)) = some (input, cs') := by
  induction fuel with
  | zero => intro input moved cs acc out _ _ _ _ h; simp [c128Loop] at h
  | succ fuel ih =>
    intro input moved cs acc out hascii hok hcs hmv h
    cases input with
    | nil =>
      simp only [c128Loop] at h
      cases h
      exact ⟨[], cs, by simp, by simp, rfl⟩
    | cons c rest =>
      have hc : c < 128 := hascii c (by simp)
      have hrest : ∀ x ∈ rest, x < 128 := fun x hx => hascii x (by simp [hx])
      have hokr : ∀ x ∈ rest, c128CharOk forced x = true := fun x hx => hok x (by simp [hx])
      -- one emitted code `code` that stands for `b`, followed by what the loop does on `rest'`
      have emit : ∀ (code : Nat) (b rest' : List Nat) (cs1 : Nat) (mv : Bool), c :: rest = b ++ rest' →
          emitOf cs code = some (b, cs1) → (cs1 = 99 ∨ cs1 = 100 ∨ cs1 = 101) →
          (∀ x ∈ rest', x < 128) → (∀ x ∈ rest', c128CharOk forced x = true) →
          (mv = true ∨ rest' = [] ∨ newCS forced rest' cs1 = cs1) →
          c128Loop forced fuel rest' mv cs1 ((code, true) :: acc) = .ok out →
          ∃ em cs', out = acc.reverse ++ em ∧ (∀ e ∈ em, e.2 = true) ∧
            readCodes cs (em.map (·.1)) = some (c :: rest, cs') := by
        intro code b rest' cs1 mv hsplit he hcs1 ha ho hm hl
        obtain ⟨em', cs', ho', hmv', hr⟩ := ih rest' mv cs1 _ out ha ho hcs1 hm hl
        refine ⟨(code, true) :: em', cs', by simp [ho'], ?_, ?_⟩
        · intro e he'
          rcases List.mem_cons.mp he' with rfl | he'
          · rfl
          · exact hmv' e he'
        · simp only [List.map_cons, readCodes, he, hr, hsplit]
      have nF : ¬ c = 0xF1 ∧ ¬ c = 0xF2 ∧ ¬ c = 0xF3 ∧ ¬ c = 0xF4 := by omega
      rw [c128Loop_cons] at h
      by_cases hn : newCS forced (c :: rest) cs = cs
      · have facts := settled_facts hf c rest cs hc (hok c (by simp)) hn
        simp only [hn, if_true, nF.1, nF.2.1, nF.2.2.1, nF.2.2.2, if_false] at h
        rcases hcs with rfl | rfl | rfl
        · -- code set C
          have h1 := facts.2.2 rfl
          simp only [show ¬ (99 = 101) by decide, show ¬ (99 = 100) by decide, if_false] at h
          cases rest with
          | nil => cases h
          | cons c2 r2 =>
            simp only at h
            by_cases hd2 : c2 < 48 ∨ c2 > 57
            · rw [if_pos hd2] at h; cases h
            · have hg : ¬ (c < 48 ∨ (c - 48) * 10 + (c2 - 48) ≥ 107) := by omega
              rw [if_neg hd2, if_neg hg] at h
              exact emit _ [c, c2] r2 99 true rfl (emitOf_C c c2 h1 (by omega)) (Or.inl rfl)
                (fun x hx => hrest x (by simp [hx])) (fun x hx => hokr x (by simp [hx])) (Or.inl rfl) h
        · -- code set B
          have h32 := facts.2.1 rfl
          have hg : ¬ c < 32 := by omega
          simp only [show ¬ (100 = 101) by decide, if_false, if_true, hg] at h
          exact emit _ [c] rest 100 true rfl (emitOf_B c h32 hc) (Or.inr (Or.inl rfl)) hrest hokr (Or.inl rfl) h
        · -- code set A
          simp only [if_true] at h
          exact emit _ [c] rest 101 true rfl (emitOf_A c (facts.1 rfl)) (Or.inr (Or.inr rfl)) hrest hokr (Or.inl rfl) h
      · -- code-set switch: emitted with the `moved` flag, which the invariant makes `true`
        have hm : moved = true := by
          rcases hmv with h | h | h
          · exact h
          · cases h
          · exact absurd h hn
        subst hm
        have hr := newCS_range hf c rest cs
        have hcs0 : ¬ cs = 0 := by omega
        simp only [hn, if_false, hcs0] at h
        exact emit _ [] (c :: rest) _ true rfl (emitOf_switch cs _ hcs hr hn) hr hascii hok (Or.inl rfl) h


/-- symbol layer, with or without a forced code set: the symbol characters the writer emits (start code, data and
    code-set switches, mod-103 check character, STOP) are decoded by the reader's state machine — including its
    treatment of the check character as data and its removal afterwards — to exactly the content -/
theorem code128_inv {forced : Option Nat} (hf : ForcedOK forced) (contents codes : List Nat)
    (hascii : ∀ c ∈ contents, c < 128) (h : code128Codes contents forced = .ok codes) :
    code128ReadCodes codes = .ok contents := by
  unfold code128Codes at h
  simp only [bind, Except.bind, pure, Except.pure, throw, throwThe, MonadExceptOf.throw] at h
  split at h
  · cases h
  · split at h
    · cases h
    · rename_i hall
      split at h
      · cases h
      · rename_i emitted hloop
        cases h
        have hok : ∀ c ∈ contents, c128CharOk forced c = true :=
          List.all_eq_true.mp (by simpa using hall)
        cases contents with
        | nil => exfalso; simp_all
        | cons c rest =>
          obtain ⟨fu, hfuel⟩ : ∃ fu, 2 * (c :: rest).length + 2 = fu + 1 := ⟨2 * (c :: rest).length + 1, by omega⟩
          rw [hfuel, c128Loop_cons] at hloop
          have hr := newCS_range hf c rest 0
          generalize hn : newCS forced (c :: rest) 0 = n0 at *
          have hn0 : ¬ n0 = 0 := by omega
          simp only [hn0, if_false, if_true] at hloop
          obtain ⟨em, cs', hem, hmv, hrd⟩ := loop_reads hf fu (c :: rest) false n0 _ emitted hascii hok hr
            (Or.inr (Or.inr (by rw [← hn]; exact newCS_idem forced _ 0))) hloop
          subst hem
          generalize hst : (if n0 = 101 then 103 else if n0 = 100 then 104 else 105) = st at *
          have hst' : (st = 103 ∧ n0 = 101) ∨ (st = 104 ∧ n0 = 100) ∨ (st = 105 ∧ n0 = 99) := by
            rcases hr with h | h | h <;> subst h <;> simp at hst <;> omega
          simp only [List.reverse_cons, List.reverse_nil, List.nil_append, List.cons_append, List.map_cons]
          have hsum : c128WriterSum ((st, false) :: em) 0 1 = (st + wsumFrom 1 (em.map (·.1))) % 103 := by
            simp only [c128WriterSum, Bool.false_eq_true, if_false]
            rw [writerSum_moved em _ 1 hmv]; simp
          rw [hsum]
          unfold code128ReadCodes
          have hstart : ¬ (st ≠ 103 ∧ st ≠ 104 ∧ st ≠ 105) := by omega
          simp only [hstart, if_false]
          have hcs0 : (if st = 103 then 101 else if st = 104 then 100 else 99) = n0 := by
            rcases hst' with ⟨h1, h2⟩ | ⟨h1, h2⟩ | ⟨h1, h2⟩ <;> subst h1 <;> subst h2 <;> simp
          rw [hcs0]
          have hs0 : StOk ⟨n0, [], true, false, false, false, 0, 0, st, 0⟩ n0 [] st 0 0 := by simp [StOk]
          obtain ⟨s', cd', hrun, hs'⟩ := run_readCodes _ _ _ _ hrd _ _ _ _ _ hs0 [(st + wsumFrom 1 (em.map (·.1))) % 103, 106]
          simp only [Nat.zero_add, List.append_nil] at hs' hrun
          obtain ⟨s2, hrun2, hck, hcase⟩ := run_check_stop s' cs' _ _ _ cd' hs' (readCodes_range _ _ _ _ hrd hr)
          rw [hrun, hrun2]
          simp only [hck, ne_eq, not_true_eq_false, if_false]
          rcases hcase with ⟨hp, hres⟩ | ⟨hp, pr, hres, hlen⟩
          · simp [hp, hres]
          · have hlr : (s2.result.reverse).length = (c :: rest).length + pr.length := by
              rw [hres]; simp; omega
            have hk : pr.length = (if s2.codeSet = 99 then 2 else 1) := hlen
            simp only [hp, if_true]
            have hne : ¬ s2.result.reverse.length = 0 := by rw [hlr]; simp
            have hge : ¬ s2.result.reverse.length < (if s2.codeSet = 99 then 2 else 1) := by rw [hlr, ← hk]; omega
            simp only [hne, hge, if_false]
            congr 1
            rw [hlr, ← hk, Nat.add_sub_cancel, hres]
            simp only [List.reverse_append, List.reverse_reverse]
            rw [List.take_left']
            simp

end Gzx.OneD
