/-
  Proof of the C18 non-interference invariant: by induction over the schedule, every reachable
  state is determined by the program counters alone and each goroutine's view coincides with
  its solo execution.
-/
import Gzx.Model.Interference
namespace Gzx.Interference

theorem upd_same {α : Type} (f : Nat → α) (i : Nat) (v : α) : upd f i v i = v := by simp [upd]
theorem upd_other {α : Type} (f : Nat → α) (i j : Nat) (v : α) (h : j ≠ i) : upd f i v j = f j := by
  simp [upd, h]

theorem upd_comm {α : Type} (f : Nat → α) (i j : Nat) (x y : α) (h : i ≠ j) :
    upd (upd f i x) j y = upd (upd f j y) i x := by
  funext k
  simp only [upd]
  by_cases e1 : k = j
  · subst e1
    have : k ≠ i := fun e => h e.symm
    simp [this]
  · simp [e1]

theorem state_ext (a b : State) (hP : a.P = b.P) (hG : a.G = b.G) (hpc : a.pc = b.pc) : a = b := by
  cases a; cases b; simp only at hP hG hpc; subst hP; subst hG; subst hpc; rfl

theorem alone_succ (prog : List Step) (p0 : PStore) (G0 : GStore) (k : Nat) (s : Step)
    (h : prog[k]? = some s) : alone prog p0 G0 (k + 1) = exec s (alone prog p0 G0 k) := by
  unfold alone
  rw [List.take_add_one, h]
  simp [List.foldl_append]

theorem exec_frame (s : Step) (st : PStore × GStore) (loc : Loc) (h : ¬ s.writes loc) :
    (exec s st).2 loc = st.2 loc := by
  obtain ⟨p, G⟩ := st
  cases s with
  | read r l => rfl
  | write l e =>
    have : loc ≠ l := fun e' => h (by simp [Step.writes, e'])
    simp [exec, upd, this]
  | localStep f => rfl

theorem foldl_take_inv {σ α : Type} (f : σ → α → σ) (P : σ → Prop) :
    ∀ (l : List α) (a : σ) (k : Nat), P a → (∀ a s, s ∈ l → P a → P (f a s)) → P ((l.take k).foldl f a)
  | [], _, _, h0, _ => by simpa using h0
  | _ :: _, _, 0, h0, _ => h0
  | x :: xs, a, k + 1, h0, hstep =>
    foldl_take_inv f P xs (f a x) k (hstep a x (List.mem_cons_self ..) h0)
      fun a s hs => hstep a s (List.mem_cons_of_mem _ hs)

/-- a goroutine that never writes `loc` sees the initial value there throughout its solo run -/
theorem alone_frame (prog : List Step) (p0 : PStore) (G0 : GStore) (loc : Loc)
    (h : ∀ s, s ∈ prog → ¬ s.writes loc) (k : Nat) : (alone prog p0 G0 k).2 loc = G0 loc :=
  foldl_take_inv _ (fun st => st.2 loc = G0 loc) prog (p0, G0) k rfl
    fun st s hs hst => by rw [exec_frame s st loc (h s hs)]; exact hst

/-- the invariant: the state is a function of the program counters -/
structure Inv (prog : Gid → List Step) (Shared : Loc → Prop) (owner : Loc → Gid)
    (P0 : Gid → PStore) (G0 : GStore) (st : State) : Prop where
  priv : ∀ g, st.P g = (alone (prog g) (P0 g) G0 (st.pc g)).1
  shared : ∀ loc, Shared loc → st.G loc = G0 loc
  owned : ∀ loc, ¬ Shared loc →
    st.G loc = (alone (prog (owner loc)) (P0 (owner loc)) G0 (st.pc (owner loc))).2 loc

theorem inv_init (prog : Gid → List Step) (Shared : Loc → Prop) (owner : Loc → Gid)
    (P0 : Gid → PStore) (G0 : GStore) : Inv prog Shared owner P0 G0 (init P0 G0) :=
  ⟨fun _ => by simp [init, alone], fun _ _ => rfl, fun _ _ => by simp [init, alone]⟩

/-- a step sees the global store only at the locations it accesses -/
theorem exec_congr (s : Step) (p : PStore) (G G' : GStore) (hacc : ∀ l, s.accesses l → G l = G' l) :
    (exec s (p, G)).1 = (exec s (p, G')).1 ∧
      ∀ loc, G loc = G' loc → (exec s (p, G)).2 loc = (exec s (p, G')).2 loc := by
  cases s with
  | read r l => exact ⟨by simp only [exec, hacc l (Or.inl rfl)], fun _ h => h⟩
  | write l e => exact ⟨rfl, fun loc h => by
      simp only [exec, upd]
      split
      · rfl
      · exact h⟩
  | localStep f => exact ⟨rfl, fun _ h => h⟩

/-- one scheduled step of an independent program keeps the invariant: shared locations keep their initial value,
    every owned location holds what its owner alone would have computed -/
theorem inv_step (prog : Gid → List Step) (Shared : Loc → Prop) (owner : Loc → Gid)
    (P0 : Gid → PStore) (G0 : GStore) (hI : Independent prog Shared owner)
    (st : State) (hinv : Inv prog Shared owner P0 G0 st) (g : Gid) :
    Inv prog Shared owner P0 G0 (stepOf prog st g) := by
  unfold stepOf
  cases hs : (prog g)[st.pc g]? with
  | none => exact hinv
  | some s =>
    have hmem : s ∈ prog g := List.mem_of_getElem? hs
    have hsucc := alone_succ (prog g) (P0 g) G0 (st.pc g) s hs
    have hp := hinv.priv g
    -- the solo state of g before this step
    generalize hA : alone (prog g) (P0 g) G0 (st.pc g) = A at hsucc hp
    obtain ⟨a1, a2⟩ := A
    -- what g can see of the global store equals what it sees when running alone
    have hview : ∀ loc, s.accesses loc → st.G loc = a2 loc := by
      intro loc hacc
      by_cases hsh : Shared loc
      · rw [hinv.shared loc hsh]
        have := alone_frame (prog g) (P0 g) G0 loc (fun s' hs' hw => hI.noSharedWrite g s' hs' loc hw hsh) (st.pc g)
        rw [hA] at this; exact this.symm
      · have ho := hI.ownInstances g s hmem loc hacc hsh
        have := hinv.owned loc hsh
        rw [ho, hA] at this; exact this
    -- so the step does in the interleaving what it does in the solo run
    have hsame := exec_congr s (st.P g) st.G a2 hview
    rw [hp] at hsame
    refine ⟨fun g' => ?_, fun loc hsh => ?_, fun loc hsh => ?_⟩
    · by_cases e : g' = g
      · subst e; simp only [upd_same]; rw [hsucc, hp]; exact hsame.1
      · simp only [upd_other _ _ _ _ e]; exact hinv.priv g'
    · exact (exec_frame s _ loc (fun hw => hI.noSharedWrite g s hmem loc hw hsh)).trans (hinv.shared loc hsh)
    · have hold := hinv.owned loc hsh
      by_cases e : owner loc = g
      · simp only [e, upd_same]
        rw [hsucc, hp]
        rw [e, hA] at hold
        exact hsame.2 loc hold
      · simp only [upd_other _ _ _ _ e]
        exact (exec_frame s _ loc (fun hw => e (hI.ownInstances g s hmem loc (Or.inr hw) hsh))).trans hold

theorem inv_run (prog : Gid → List Step) (Shared : Loc → Prop) (owner : Loc → Gid)
    (P0 : Gid → PStore) (G0 : GStore) (hI : Independent prog Shared owner)
    (sched : List Gid) (st : State) (hinv : Inv prog Shared owner P0 G0 st) :
    Inv prog Shared owner P0 G0 (run prog sched st) := by
  induction sched generalizing st with
  | nil => exact hinv
  | cons g rest ih =>
    simp only [run, List.foldl_cons]
    exact ih _ (inv_step prog Shared owner P0 G0 hI st hinv g)

/-! ### program counters after a schedule -/

def countG (g : Gid) (sched : List Gid) : Nat := (sched.filter (fun x => x == g)).length

theorem countG_append (g : Gid) (a b : List Gid) : countG g (a ++ b) = countG g a + countG g b := by
  simp [countG, List.filter_append]

theorem countG_replicate_self (g n : Nat) : countG g (List.replicate n g) = n := by
  induction n with
  | zero => simp [countG]
  | succ n ih =>
    simp only [List.replicate_succ, countG, List.filter_cons, beq_self_eq_true, if_true, List.length_cons]
    simp only [countG] at ih
    omega

/-- The program counters after a schedule, for any machine whose step advances the counter of the scheduled goroutine
    while it has steps left and touches no other counter. -/
theorem pc_foldl (step : State → Gid → State) (len : Gid → Nat)
    (hstep : ∀ st g, (step st g).pc = if st.pc g < len g then upd st.pc g (st.pc g + 1) else st.pc) :
    ∀ (sched : List Gid) (st : State), (∀ g, st.pc g ≤ len g) → ∀ g,
      (sched.foldl step st).pc g = min (st.pc g + countG g sched) (len g)
  | [], st, h, g => by simpa [countG] using (Nat.min_eq_left (h g)).symm
  | x :: rest, st, h, g => by
    have hx : ∀ g', (step st x).pc g' = if x = g' ∧ st.pc x < len x then st.pc g' + 1 else st.pc g' := by
      intro g'
      rw [hstep]
      by_cases e : x = g'
      · subst e; split <;> simp [upd_same, *]
      · split <;> simp [upd_other _ _ _ _ (Ne.symm e), e]
    have hg := h g
    have hb : ∀ g', (step st x).pc g' ≤ len g' := fun g' => by
      rw [hx]
      split
      · rename_i hc; rw [← hc.1]; omega
      · exact h g'
    rw [List.foldl_cons, pc_foldl step len hstep rest (step st x) hb g, hx]
    by_cases e : x = g
    · subst e
      simp only [countG, List.filter_cons, beq_self_eq_true, if_true, List.length_cons, true_and]
      split <;> omega
    · have : (x == g) = false := by simpa using e
      simp [countG, this, e]

/-- … so after a schedule that gives every goroutine at least as many turns as it has steps, every counter stands at
    the end -/
theorem pc_foldl_complete (step : State → Gid → State) (len : Gid → Nat)
    (hstep : ∀ st g, (step st g).pc = if st.pc g < len g then upd st.pc g (st.pc g + 1) else st.pc)
    (sched : List Gid) (P0 : Gid → PStore) (G0 : GStore) (hc : ∀ g, len g ≤ countG g sched) (g : Gid) :
    (sched.foldl step (init P0 G0)).pc g = len g := by
  rw [pc_foldl step len hstep sched (init P0 G0) (fun _ => Nat.zero_le _) g]
  have := hc g
  simp only [init]
  omega

theorem stepOf_pc (prog : Gid → List Step) (st : State) (g : Gid) :
    (stepOf prog st g).pc = if st.pc g < (prog g).length then upd st.pc g (st.pc g + 1) else st.pc := by
  unfold stepOf
  by_cases hlt : st.pc g < (prog g).length
  · rw [List.getElem?_eq_getElem hlt, if_pos hlt]
  · rw [List.getElem?_eq_none (Nat.le_of_not_lt hlt), if_neg hlt]

theorem pc_run (prog : Gid → List Step) (sched : List Gid) (st : State)
    (h : ∀ g, st.pc g ≤ (prog g).length) (g : Gid) :
    (run prog sched st).pc g = min (st.pc g + countG g sched) (prog g).length :=
  pc_foldl (stepOf prog) _ (stepOf_pc prog) sched st h g
end Gzx.Interference
