/-
  The division loop (one function under `Divide` and under the Euclidean algorithm of the decoder: quotient and
  remainder coefficient by coefficient), `Divide`, the generator polynomial, `Encode` and the clean path of `Decode`
  (Model/RS.lean) under `FieldOK F`.  Helper lemmas for Properties/C04.lean.
-/
import Gzx.Proofs.Coef
namespace Gzx.Proofs.RS
open Gzx Gzx.GF Gzx.RS Gzx.Ref.GF Gzx.Proofs.GF Gzx.Proofs.Poly Gzx.Proofs.Conv Gzx.Proofs.Coef

section F
variable {F : GF} (hF : FieldOK F)
include hF

/-! ### Divide -/

omit hF in
/-- `GenericGFPoly.Divide`'s loop and the inner loop of `runEuclideanAlgorithm` are the same function: they differ in
    the order of `BuildMonomial` / `AddOrSubtract` on the quotient, which cannot fail, and the scaling of the divisor -/
theorem euclidDivLoop_eq_divLoop (B : Poly) (inv : Nat) : ∀ (fuel : Nat) (q r : Poly),
    euclidDivLoop F B inv fuel q r = divLoop F B inv fuel q r
  | 0, _, _ => rfl
  | fuel + 1, q, r => by
    unfold euclidDivLoop divLoop
    split
    · simp only [bind, Except.bind]
      cases getCoefficient r (degree r) with
      | error e => rfl
      | ok lead =>
        simp only
        cases F.mul lead inv with
        | error e => rfl
        | ok scale =>
          obtain ⟨m, hm, hne⟩ := buildMonomial_ne_nil (degree r - degree B) scale
          obtain ⟨q', hq'⟩ := addOrSubtract_ok_right q m hne
          simp only [hm, hq']
          cases multiplyByMonomial F B (degree r - degree B) scale with
          | error e => rfl
          | ok term =>
            simp only
            cases addOrSubtract r term with
            | error e => rfl
            | ok r' => exact euclidDivLoop_eq_divLoop B inv fuel q' r'
    · rfl

/-- One iteration of the division loop on a remainder `rh :: rt` not shorter than the divisor `lh :: lt`, with
    `s = rh/lh` and `d` the difference of the degrees: the quotient gains `s·x^d`, the remainder gains `s·x^d` times the
    divisor, which has the remainder's length and leading coefficient, so the sum loses its head. -/
theorem divLoop_step (lh : Nat) (lt : List Nat) (hB : WF F.size (lh :: lt)) (inv : Nat) (hinv : inv < F.size)
    (hmul : gmul F.prim lh inv = 1) (q : List Nat) (hq : WF F.size q) (rh : Nat) (rt : List Nat)
    (hr : WF F.size (rh :: rt)) (hrh : rh ≠ 0) (hdeg : lt.length ≤ rt.length) (fuel : Nat) :
    ∃ q' r', divLoop F (lh :: lt) inv (fuel + 1) q (rh :: rt) = divLoop F (lh :: lt) inv fuel q' r' ∧
      WF F.size q' ∧ WF F.size r' ∧ (r' = [0] ∨ r'.length ≤ rt.length) ∧
      (q = [0] → q'.length = rt.length - lt.length + 1) ∧
      (rt.length - lt.length + 1 < q.length → q'.length = q.length) ∧
      (∀ m, coef q' m = coef q m ^^^ if m = rt.length - lt.length then gmul F.prim rh inv else 0) ∧
      (∀ m, coef r' m = coef (rh :: rt) m ^^^ if m ≥ rt.length - lt.length then
        gmul F.prim (gmul F.prim rh inv) (coef (lh :: lt) (m - (rt.length - lt.length))) else 0) ∧
      ∀ a, a < F.size → evalH F.prim a (lh :: lt) = 0 → evalH F.prim a r' = evalH F.prim a (rh :: rt) := by
  have ok := hF.2
  have hinv0 : inv ≠ 0 := by
    intro h; rw [h, gmul_zero_right ok] at hmul; exact absurd hmul (by decide)
  have hscale : gmul F.prim rh inv < F.size := gmul_lt ok _ _
  have hscale0 : gmul F.prim rh inv ≠ 0 := gmul_ne_zero ok _ _ hr.1.head hinv hrh hinv0
  have hlead : gmul F.prim (gmul F.prim rh inv) lh = rh := by
    rw [gmul_assoc ok rh inv lh hr.1.head hinv hB.1.head, gmul_comm ok inv lh hinv hB.1.head, hmul,
      gmul_one_right ok rh hr.1.head]
  obtain ⟨term, hterm, htermwf, hterm_ev, hshape⟩ :=
    multiplyByMonomial_spec hF (lh :: lt) hB (rt.length - lt.length) _ hscale
  have hterm_eq := hshape lh lt rfl (by rw [hlead]; exact hrh)
  rw [hlead] at hterm_eq
  have hmono : WF F.size (gmul F.prim rh inv :: List.replicate (rt.length - lt.length) 0) :=
    ⟨InR.cons hscale (InR.replicate (size_pos hF)), Or.inr ⟨_, _, rfl, hscale0⟩⟩
  obtain ⟨q', hq', hq'wf, _, _⟩ := addOrSubtract_spec hF q _ hq hmono
  obtain ⟨r', hr', hr'wf, _, hr'_ev⟩ := addOrSubtract_spec hF (rh :: rt) term hr htermwf
  have hr'_eq : r' = normalize (List.zipWith (· ^^^ ·) rt
      (lt.map (gmul F.prim (gmul F.prim rh inv)) ++ List.replicate (rt.length - lt.length) 0)) := by
    have := addOrSubtract_cancel rh rt (lt.map (gmul F.prim (gmul F.prim rh inv)) ++
      List.replicate (rt.length - lt.length) 0) hrh (by simp; omega)
    rw [← hterm_eq, hr'] at this
    exact Except.ok.inj this
  refine ⟨q', r', ?_, hq'wf, hr'wf, ?_, ?_, ?_, ?_, ?_, ?_⟩
  · have hcond : (decide (degree (rh :: rt) ≥ degree (lh :: lt)) && !isZero (rh :: rt)) = true := by
      simp [degree, isZero, hrh, hdeg]
    have hdd : degree (rh :: rt) - degree (lh :: lt) = rt.length - lt.length := by simp [degree]
    conv => lhs; unfold divLoop
    rw [if_pos hcond, getCoefficient_lead, hdd]
    simp only [bind, Except.bind, F_mul hF rh inv hr.1.head hinv, hterm, buildMonomial_eq _ hscale0, hq', hr']
  · have hlen := normalize_length_le' (List.zipWith (· ^^^ ·) rt
      (lt.map (gmul F.prim (gmul F.prim rh inv)) ++ List.replicate (rt.length - lt.length) 0))
    rw [← hr'_eq, List.length_zipWith, List.length_append, List.length_map, List.length_replicate,
      Nat.add_sub_of_le hdeg, Nat.min_self] at hlen
    cases rt with
    | nil => left; rw [hr'_eq]; rfl
    | cons x xs => right; simp only [List.length_cons] at hlen ⊢; omega
  · rintro rfl
    cases hq'
    simp
  · intro hlt
    exact addOrSubtract_len_gt q _ q' hq.2 hmono.2 (by simpa using hlt) hq'
  · intro m
    rw [addOrSubtract_coef _ _ _ hq hmono hq' m,
      buildMonomial_coef _ _ _ (buildMonomial_eq (rt.length - lt.length) hscale0) m]
  · intro m
    rw [addOrSubtract_coef _ _ _ hr htermwf hr' m, multiplyByMonomial_coef hF _ _ hB _ _ hscale hterm m]
  · intro a ha hroot
    rw [hr'_ev a ha, hterm_ev a ha, hroot, gmul_zero_right ok, gmul_zero_right ok, Nat.xor_zero]

/-- The division loop started at `([0], A)` and run from `(q, r)`: it ends within the fuel with
    `r' = A + q'·B` coefficient-wise, `r'` shorter than `B` or zero, `deg q' = deg A - deg B` unless no step was taken;
    `r'` and `A` agree at every root of `B`. -/
theorem divLoop_inv (lh : Nat) (lt : List Nat) (hB : WF F.size (lh :: lt)) (inv : Nat) (hinv : inv < F.size)
    (hmul : gmul F.prim lh inv = 1) (A : List Nat) :
    ∀ (fuel : Nat) (q r : List Nat), WF F.size q → WF F.size r →
      (if r = [0] then 1 else r.length + 1) ≤ fuel →
      (∀ m, coef r m = coef A m ^^^ conv F.prim (coef q) (coef (lh :: lt)) m) →
      (∀ a, a < F.size → evalH F.prim a (lh :: lt) = 0 → evalH F.prim a r = evalH F.prim a A) →
      ((q = [0] ∧ r = A) ∨ (q.length + (lh :: lt).length = A.length + 1 ∧ (r = [0] ∨ r.length < A.length))) →
      ∃ q' r', divLoop F (lh :: lt) inv fuel q r = .ok (q', r') ∧ WF F.size q' ∧ WF F.size r' ∧
        (r'.length < (lh :: lt).length ∨ r' = [0]) ∧
        (∀ m, coef r' m = coef A m ^^^ conv F.prim (coef q') (coef (lh :: lt)) m) ∧
        (∀ a, a < F.size → evalH F.prim a (lh :: lt) = 0 → evalH F.prim a r' = evalH F.prim a A) ∧
        ((q' = [0] ∧ r' = A) ∨ q'.length + (lh :: lt).length = A.length + 1)
  | 0, _, r, _, _, hfuel, _, _, _ => by
    exfalso
    split at hfuel <;> omega
  | fuel + 1, q, r, hq, hr, hfuel, hcoef, hev, hshape => by
    have ok := hF.2
    by_cases hcond : (decide (degree r ≥ degree (lh :: lt)) && !isZero r) = true
    · simp only [Bool.and_eq_true, decide_eq_true_eq, Bool.not_eq_true'] at hcond
      obtain ⟨hdeg, hnz⟩ := hcond
      have hne0 : r ≠ [0] := fun h => by rw [h] at hnz; simp [isZero] at hnz
      obtain ⟨rh, rt, rfl, hrh⟩ : ∃ c t, r = c :: t ∧ c ≠ 0 := hr.2.resolve_left hne0
      simp only [degree, List.length_cons, Nat.add_sub_cancel] at hdeg
      obtain ⟨q', r', hstep, hq'wf, hr'wf, hr'len, hq'0, hq'len, hq'coef, hr'coef, hr'ev⟩ :=
        divLoop_step hF lh lt hB inv hinv hmul q hq rh rt hr hrh hdeg fuel
      rw [hstep]
      have hfuel' : (if r' = [0] then 1 else r'.length + 1) ≤ fuel := by
        rw [if_neg hne0, List.length_cons] at hfuel
        split
        · omega
        · rename_i hr0
          have := hr'len.resolve_left hr0
          omega
      have hBlt : ∀ j, coef (lh :: lt) j < F.size := coef_lt (size_pos hF) _ hB.1
      have hcoef' : ∀ m, coef r' m = coef A m ^^^ conv F.prim (coef q') (coef (lh :: lt)) m := by
        intro m
        rw [hr'coef m, hcoef m, conv_congr_left (fun i _ => hq'coef i),
          conv_xor_left ok _ _ _ (coef_lt (size_pos hF) q hq.1)
            (fun j => by split; exact gmul_lt ok _ _; exact size_pos hF) hBlt m,
          conv_monomial ok _ _ _ hBlt m, Nat.xor_assoc]
      refine divLoop_inv lh lt hB inv hinv hmul A fuel q' r' hq'wf hr'wf hfuel' hcoef'
        (fun a ha hroot => by rw [hr'ev a ha hroot, hev a ha hroot]) (Or.inr ?_)
      simp only [List.length_cons] at hshape ⊢
      rcases hshape with ⟨hq0, hrA⟩ | ⟨hql, hrl⟩
      · rw [hq'0 hq0, ← hrA, List.length_cons]
        exact ⟨by omega, hr'len.imp_right (by omega)⟩
      · have hrl' := hrl.resolve_left hne0
        rw [hq'len (by omega)]
        exact ⟨hql, hr'len.imp_right (by omega)⟩
    · have hres : divLoop F (lh :: lt) inv (fuel + 1) q r = .ok (q, r) := by
        conv => lhs; unfold divLoop
        rw [if_neg hcond]
      simp only [Bool.and_eq_true, decide_eq_true_eq, Bool.not_eq_true', not_and, Bool.not_eq_false] at hcond
      refine ⟨q, r, hres, hq, hr, ?_, hcoef, hev, hshape.imp_right And.left⟩
      by_cases hdeg : degree r ≥ degree (lh :: lt)
      · right
        exact (isZero_iff hr.2).1 (hcond hdeg)
      · left
        have := List.length_pos_iff.2 hr.2.ne_nil
        simp only [degree, List.length_cons, Nat.add_sub_cancel] at hdeg ⊢
        omega

/-- the division loop from `([0], A)`, for `Divide` and for the Euclidean algorithm alike -/
theorem divLoop_spec (lh : Nat) (lt : List Nat) (hB : WF F.size (lh :: lt)) (inv : Nat) (hinv : inv < F.size)
    (hmul : gmul F.prim lh inv = 1) (A : List Nat) (hA : WF F.size A) :
    ∃ q r, divLoop F (lh :: lt) inv (A.length + 1) [0] A = .ok (q, r) ∧ WF F.size q ∧ WF F.size r ∧
      (r.length < (lh :: lt).length ∨ r = [0]) ∧
      (∀ m, coef r m = coef A m ^^^ conv F.prim (coef q) (coef (lh :: lt)) m) ∧
      (∀ a, a < F.size → evalH F.prim a (lh :: lt) = 0 → evalH F.prim a r = evalH F.prim a A) ∧
      ((q = [0] ∧ r = A) ∨ q.length + (lh :: lt).length = A.length + 1) :=
  divLoop_inv hF lh lt hB inv hinv hmul A (A.length + 1) [0] A (wf_zero (size_pos hF)) hA
    (by split <;> omega)
    (fun m => by
      rw [conv_zero_left hF _ (coef_lt (size_pos hF) _ hB.1) m, Nat.xor_zero])
    (fun _ _ _ => rfl) (Or.inl ⟨rfl, rfl⟩)

/-- `Divide(other)` for a non-zero divisor -/
theorem divide_spec (p : List Nat) (hp : WF F.size p) (oh : Nat) (ot : List Nat)
    (hother : WF F.size (oh :: ot)) (hoh : oh ≠ 0) :
    ∃ q r, divide F p (oh :: ot) = .ok (q, r) ∧ WF F.size r ∧
      (r.length < (oh :: ot).length ∨ r = [0]) ∧
      ∀ a, a < F.size → evalH F.prim a (oh :: ot) = 0 → evalH F.prim a r = evalH F.prim a p := by
  unfold divide
  rw [isZero_false hoh]
  simp only [Bool.false_eq_true, if_false]
  obtain ⟨v, hv, hvlt, _, hmul⟩ := F_inv hF oh hoh hother.1.head
  rw [getCoefficient_lead]
  simp only [bind, Except.bind, hv]
  obtain ⟨q, r, hdiv, _, hrwf, hrlen, _, hrev, _⟩ := divLoop_spec hF oh ot hother v hvlt hmul p hp
  exact ⟨q, r, hdiv, hrwf, hrlen, hrev⟩

/-! ### generator polynomial -/

/-- `buildGenerator(n)` is monic of degree `n` and vanishes at `α^(i+base)`, `i < n` -/
theorem buildGenerator_spec : ∀ (n : Nat), n + F.base ≤ F.size →
    ∃ gt, buildGenerator F n = .ok (1 :: gt) ∧ InR F.size (1 :: gt) ∧ gt.length = n ∧
      ∀ i, i < n → evalH F.prim (pw F.prim F.size (i + F.base)) (1 :: gt) = 0
  | 0, _ => ⟨[], rfl, InR.cons (one_lt_size hF.2) InR.nil, rfl, fun i hi => by omega⟩
  | n + 1, hn => by
    obtain ⟨gt, hg, hgin, hglen, hgroots⟩ := buildGenerator_spec n (by omega)
    unfold buildGenerator
    rw [hg, F_exp hF (n + F.base) (by omega)]
    simp only [bind, Except.bind]
    have he := pw_lt hF.2 (n + F.base)
    rw [mkPoly_ok _ (by simp), normalize_of_head_ne_zero _ _ (by decide)]
    have hwf1 : WF F.size (1 :: gt) := ⟨hgin, Or.inr ⟨1, gt, rfl, by decide⟩⟩
    have hwf2 : WF F.size [1, pw F.prim F.size (n + F.base)] :=
      ⟨InR.cons (one_lt_size hF.2) (InR.cons he InR.nil), Or.inr ⟨1, _, rfl, by decide⟩⟩
    obtain ⟨r, hr, hrwf, hrev, hrshape⟩ := multiply_spec hF _ _ hwf1 hwf2
    obtain ⟨hrlen, hrhead⟩ := hrshape 1 gt 1 _ rfl rfl (by decide) (by decide)
    rw [gmul_one_left hF.2 1 (one_lt_size hF.2)] at hrhead
    simp only
    rw [hr]
    cases r with
    | nil => simp at hrhead
    | cons c cs =>
      simp only [List.head?_cons, Option.some.injEq] at hrhead
      subst hrhead
      refine ⟨cs, rfl, hrwf.1, ?_, ?_⟩
      · simp only [List.length_cons, List.length_nil, hglen] at hrlen; omega
      · intro i hi
        have hai := pw_lt hF.2 (i + F.base)
        rw [hrev _ hai]
        by_cases hin : i < n
        · rw [hgroots i hin, gmul_zero_left hF.2 _ (evalH_lt hF.2 _ _ hwf2.1)]
        · have : i = n := by omega
          subst this
          have : evalH F.prim (pw F.prim F.size (i + F.base)) [1, pw F.prim F.size (i + F.base)] = 0 := by
            unfold evalH
            rw [evalFrom_cons, evalFrom_cons, evalFrom_nil, gmul_zero_right hF.2, Nat.zero_xor,
              gmul_one_right hF.2 _ he, Nat.xor_self]
          rw [this, gmul_zero_right hF.2]

/-! ### Encode -/

/-- `Encode(data ++ tail, r)`: data kept, `r` parity symbols appended, the word vanishes at every
    `α^(i+base)`, `i < r` -/
theorem encodeArr_spec (data tail : List Nat) (r : Nat) (hk : data ≠ []) (hr : 0 < r) (htl : tail.length = r)
    (hd : InR F.size data) (hb : r + F.base ≤ F.size) :
    ∃ par, encodeArr F (data ++ tail) r = .ok (data ++ par) ∧ par.length = r ∧ InR F.size par ∧
      ∀ i, i < r → evalH F.prim (pw F.prim F.size (i + F.base)) (data ++ par) = 0 := by
  have hkl : 0 < data.length := List.length_pos_iff.2 hk
  obtain ⟨gt, hgen, hgin, hglen, hgroots⟩ := buildGenerator_spec hF r hb
  have hgwf : WF F.size (1 :: gt) := ⟨hgin, Or.inr ⟨1, gt, rfl, by decide⟩⟩
  have hinfo0 : WF F.size (normalize data) := wf_normalize (size_pos hF) data hd
  obtain ⟨info, hinfo, hinfo_wf, hinfo_ev, _⟩ :=
    multiplyByMonomial_spec hF (normalize data) hinfo0 r 1 (one_lt_size hF.2)
  obtain ⟨q, rem, hdiv, hrem_wf, hrem_len, hrem_ev⟩ := divide_spec hF info hinfo_wf 1 gt hgwf (by decide)
  have hreml : rem.length ≤ r := by
    rcases hrem_len with h | h
    · simp only [List.length_cons, hglen] at h; omega
    · rw [h]; show 1 ≤ r; omega
  have hrem_pos : 0 < rem.length := List.length_pos_iff.2 hrem_wf.2.ne_nil
  unfold encodeArr
  have h1 : ¬ r = 0 := by omega
  have h2 : ¬ (data ++ tail).length ≤ r := by rw [List.length_append]; omega
  have hk' : (data ++ tail).length - r = data.length := by rw [List.length_append]; omega
  have htk : List.take data.length (data ++ tail) = data := List.take_left' rfl
  have h3 : ¬ rem.length > (data ++ tail).length := by rw [List.length_append]; omega
  have hmin : min data.length ((data ++ tail).length - rem.length) = data.length := by
    rw [List.length_append]; omega
  rw [if_neg h1, if_neg h2, hk']
  simp only [htk, hgen, mkPoly_ok data hk, bind, Except.bind, hinfo, hdiv, if_neg h3, hmin, List.append_assoc]
  refine ⟨_, rfl, ?_, InR.append (InR.replicate (size_pos hF)) hrem_wf.1, ?_⟩
  · rw [List.length_append, List.length_replicate, List.length_append]; omega
  · intro i hi
    have ha := pw_lt hF.2 (i + F.base)
    have hparlen : (List.replicate ((data ++ tail).length - rem.length - data.length) 0 ++ rem).length = r := by
      rw [List.length_append, List.length_replicate, List.length_append]; omega
    rw [evalH_append hF.2 _ ha data _ hd (InR.append (InR.replicate (size_pos hF)) hrem_wf.1), hparlen,
      evalH_zeros_append hF.2, hrem_ev _ ha (hgroots i hi), hinfo_ev _ ha, evalH_normalize hF.2,
      gmul_one_left hF.2 _ (evalH_lt hF.2 _ _ hd), Nat.xor_self]

/-! ### syndromes, clean decode -/

theorem syndromes_spec (poly : List Nat) (hne : poly ≠ []) (hin : InR F.size poly) : ∀ (n i : Nat),
    i + n + F.base ≤ F.size →
    syndromes F poly n i =
      .ok ((List.range' i n).map (fun j => evalH F.prim (pw F.prim F.size (j + F.base)) poly))
  | 0, _, _ => rfl
  | n + 1, i, h => by
    unfold syndromes
    rw [F_exp hF (i + F.base) (by omega)]
    simp only [bind, Except.bind]
    rw [evaluateAt_ok hF poly hne hin _ (pw_lt hF.2 _), syndromes_spec poly hne hin n (i + 1) (by omega)]
    rfl

/-- the syndromes `Decode` computes for `w` with `twoS` check symbols -/
def syndList (F : GF) (w : List Nat) (twoS : Nat) : List Nat :=
  (List.range' 0 twoS).map (fun j => evalH F.prim (pw F.prim F.size (j + F.base)) w)

/-- `Decode` on a word over the field: the syndromes, and if one is non-zero the four stages on the monomial
    `x^twoS` and the syndrome polynomial -/
theorem decodeD_eq (w : List Nat) (hne : w ≠ []) (hin : InR F.size w) (twoS : Nat) (hb : twoS + F.base ≤ F.size) :
    decodeD F w twoS =
      (if (syndList F w twoS).all (· == 0) then .ok w
      else do
        let (sigma, omega) ←
          runEuclideanAlgorithm F (1 :: List.replicate twoS 0) (normalize (syndList F w twoS).reverse) twoS
        let errorLocations ← findErrorLocations F sigma
        let errorMagnitudes ← liftD (findErrorMagnitudes F omega errorLocations)
        applyCorrections F errorLocations errorMagnitudes w) := by
  unfold decodeD
  rw [mkPoly_ok w hne]
  simp only [liftD, bind, Except.bind]
  rw [syndromes_spec hF _ (normalize_ne_nil w) (InR_normalize (size_pos hF) w hin) twoS 0 (by omega)]
  simp only [evalH_normalize hF.2]
  unfold syndList
  split
  · rfl
  · rename_i hall
    have hsne : ((List.range' 0 twoS).map
        (fun j => evalH F.prim (pw F.prim F.size (j + F.base)) w)).reverse ≠ [] := by
      intro h
      rw [List.reverse_eq_nil_iff.1 h] at hall
      exact hall rfl
    rw [mkPoly_ok _ hsne, buildMonomial_eq twoS (by decide)]

theorem syndList_inR (w : List Nat) (hin : InR F.size w) (twoS : Nat) : InR F.size (syndList F w twoS) := by
  intro x hx
  obtain ⟨j, _, rfl⟩ := List.mem_map.1 hx
  exact evalH_lt hF.2 _ _ hin

theorem decodeD_clean (w : List Nat) (hne : w ≠ []) (hin : InR F.size w) (twoS : Nat)
    (hb : twoS + F.base ≤ F.size)
    (hz : ∀ i, i < twoS → evalH F.prim (pw F.prim F.size (i + F.base)) w = 0) :
    decodeD F w twoS = .ok w := by
  rw [decodeD_eq hF w hne hin twoS hb, if_pos]
  rw [List.all_eq_true]
  intro x hx
  obtain ⟨j, hj, rfl⟩ := List.mem_map.1 hx
  rw [hz j (by have := List.mem_range'_1.1 hj; omega)]
  rfl

end F
end Gzx.Proofs.RS
