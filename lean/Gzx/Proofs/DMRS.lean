/-
  C08 ↔ C04: the Data Matrix reference parity `DMRef.eccBlock n data` IS the Reed-Solomon encoding of C04,
  `Gzx.RS.encode Gzx.GF.dataMatrix256 data n` (the model of common/reedsolomon, whose correction capability
  C04/C05 prove).  Route: reference multiplication = C04's reference product on bytes; `2^1 … 2^n` are roots of the
  generator `∏ (x + 2^i)`; long division by it is the shift register of Proofs/LFSR.lean (`eccBlock_eq_lfsr`), which
  keeps the value at every root of the generator; hence `data ++ eccBlock n data` has zero syndromes;
  `rs_encode_unique`.
-/
import Gzx.Proofs.DMGF
import Gzx.Proofs.LFSR
import Gzx.Properties.C04
namespace Gzx.DMProofs
open Gzx Gzx.DMRef Gzx.GF Gzx.Ref.GF Gzx.Proofs.GF Gzx.Proofs.Poly

theorem dmFieldOK : FieldOK dataMatrix256 := fieldOK_mk' dmParamsOK

/-- the reference encoder's `alpha i` is C04's `x^i` -/
theorem dmAlpha_eq_pw : ∀ i, alpha i = pw 0x12D 256 i
  | 0 => rfl
  | i + 1 => by rw [alpha, dmAlpha_eq_pw i, pw_succ, xtime_eq_xt _ (pw_lt dmParamsOK i), log2_256]

theorem genPoly_monic : ∀ n, ∃ q, genPoly n = q ++ [1]
  | 0 => ⟨[], rfl⟩
  | n + 1 => by
    obtain ⟨q, hq⟩ := genPoly_monic n
    have hl : (0 :: q).length = (List.map (gfMul (alpha (n + 1))) (genPoly n)).length := by
      rw [List.length_map, hq]; simp
    have hc : 0 :: genPoly n = (0 :: q) ++ [1] := by rw [hq]; rfl
    exact ⟨_, by rw [genPoly, mulLinear, hc, xorZip_append _ _ _ _ hl]; rfl⟩

/-- multiplying by `x + r` (coefficients low order first) multiplies the value at `ρ` by `ρ + r` -/
theorem evalH_dmMulLinear (r ρ : Nat) (hr : r < 256) (hρ : ρ < 256) (p : List Nat) (hp : allBytes p) :
    evalH 0x12D ρ (mulLinear r p).reverse =
      gmul 0x12D ρ (evalH 0x12D ρ p.reverse) ^^^ gmul 0x12D r (evalH 0x12D ρ p.reverse) := by
  have ok := dmParamsOK
  have hP : InR 256 p.reverse := fun x hx => hp x (List.mem_reverse.1 hx)
  have hmap : p.map (gfMul r) = p.map (gmul 0x12D r) := List.map_congr_left fun c hc => gfMul_eq_gmul r c hr (hp c hc)
  rw [mulLinear, xorZip_reverse _ _ (by simp), xorZip_eq_zipWith, hmap, List.reverse_cons, List.reverse_append,
    List.reverse_cons, List.reverse_nil, List.nil_append, List.singleton_append, ← List.map_reverse]
  exact evalH_mulLinear ok ρ r hρ hr _ hP

theorem genPoly_roots : ∀ (n i : Nat), i < n → evalH 0x12D (pw 0x12D 256 (i + 1)) (genPoly n).reverse = 0
  | 0, i, h => by omega
  | n + 1, i, h => by
    have ok := dmParamsOK
    rw [genPoly, evalH_dmMulLinear _ _ (alpha_lt _) (pw_lt ok _) _ (genPoly_bytes n)]
    by_cases hi : i = n
    · subst hi; rw [dmAlpha_eq_pw, Nat.xor_self]
    · rw [genPoly_roots n i (by omega), gmul_zero_right ok, gmul_zero_right ok]; rfl

theorem genPoly_reverse (n : Nat) : (genPoly n).reverse = 1 :: genHigh n := by
  obtain ⟨q, hq⟩ := genPoly_monic n
  have hl : q.length = n := by
    have := genPoly_length n
    rw [hq] at this
    simpa using this
  rw [genHigh, hq, List.take_left' hl, List.reverse_append]
  rfl

/-- the division step of Proofs/DMEcc.lean is the shift-register step of Proofs/LFSR.lean -/
theorem stepHigh_eq_lfsrStep (mul : Nat → Nat → Nat) (gs H : List Nat) (d : Nat) :
    stepHigh mul gs H d = lfsrStep mul gs H d := by
  rw [stepHigh, lfsrStep, xorZip_eq_zipWith, List.drop_one, Nat.xor_comm]

/-- long division of `data(x)·x^n` by the monic generator is the shift register run over the data -/
theorem eccBlock_eq_lfsr (n : Nat) (hn : 0 < n) (data : List Nat) :
    eccBlock n data = lfsr gfMul (genHigh n) data := by
  have h := polyRem_eq_fold gfMul (genHigh n) (by rw [genHigh_length]; exact hn) data
    (List.replicate (genHigh n).length 0) (by simp)
  rw [xorPrefix_by_zeros, genHigh_length] at h
  rw [eccBlock, h, lfsr, genHigh_length]
  congr 1
  funext H d
  exact stepHigh_eq_lfsrStep gfMul (genHigh n) H d

theorem eccBlock_zero_syndromes (n : Nat) (data : List Nat) (hd : allBytes data) :
    Gzx.Properties.C04.ZeroSyndromes dataMatrix256 (data ++ eccBlock n data) n := by
  intro i hi
  have ok := dmParamsOK
  rw [Properties.C04.alpha_eq_pw dataMatrix256 dmFieldOK, eccBlock_eq_lfsr n (by omega)]
  exact (lfsr_codeword ok gfMul gfMul_eq_gmul (genHigh n) (genHigh_bytes n) data hd).2 _ (pw_lt ok _)
    (genPoly_reverse n ▸ genPoly_roots n i hi)

/-- the reference parity of a Data Matrix block is what the model of the library's
    Reed-Solomon encoder (`Gzx.RS.encode` over `Gzx.GF.dataMatrix256`) computes — for each of the 16 parity
    lengths and every non-empty byte vector that fits a GF(256) code word. -/
theorem eccBlock_eq_rs_encode (n : Nat) (hn : n ∈ parityLengths) (data : List Nat) (hne : data ≠ [])
    (hd : allBytes data) (hlen : data.length + n ≤ 255) :
    Gzx.RS.encode dataMatrix256 data n = .ok (eccBlock n data) := by
  have hn0 : 0 < n := by
    have : ∀ m ∈ parityLengths, 0 < m := by decide
    exact this n hn
  exact Gzx.Properties.C04.rs_encode_unique dataMatrix256 dmFieldOK data (eccBlock n data) n hne hn0
    hd (eccBlock_bytes n data hd) (eccBlock_length n data) hlen (by
      show n + 1 ≤ 256
      omega) (eccBlock_zero_syndromes n data hd)

theorem horner_eq_evalH (ρ : Nat) (hρ : ρ < 256) : ∀ l : List Nat, InR 256 l →
    l.foldr (fun c acc => gfMul acc ρ ^^^ c) 0 = evalH 0x12D ρ l.reverse ∧
      evalH 0x12D ρ l.reverse < 256
  | [], _ => ⟨rfl, show 0 < 256 by decide⟩
  | c :: t, h => by
    obtain ⟨ih, hlt⟩ := horner_eq_evalH ρ hρ t (fun x hx => h x (List.mem_cons_of_mem _ hx))
    have hc : c < 256 := h c List.mem_cons_self
    have hstep : evalH 0x12D ρ (c :: t).reverse = gmul 0x12D ρ (evalH 0x12D ρ t.reverse) ^^^ c := by
      unfold evalH
      rw [List.reverse_cons, evalFrom_append]
      rfl
    rw [List.foldr_cons, ih, hstep, gfMul_eq_gmul _ _ hlt hρ, gmul_comm dmParamsOK _ _ hlt hρ]
    exact ⟨rfl, Nat.xor_lt_two_pow (n := 8) (gmul_lt dmParamsOK _ _) hc⟩

/-- `2^(i+1)`, `i < n`, is a root of `genPoly n` for the reference's own Horner evaluation -/
theorem genPoly_horner_root (n i : Nat) (hi : i < n) :
    (genPoly n).foldr (fun c acc => gfMul acc (alpha (i + 1)) ^^^ c) 0 = 0 := by
  rw [dmAlpha_eq_pw, (horner_eq_evalH _ (pw_lt dmParamsOK _) _ (genPoly_bytes n)).1]
  exact genPoly_roots n i hi

end Gzx.DMProofs
