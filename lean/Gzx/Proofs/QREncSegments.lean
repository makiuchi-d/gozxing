/-
  wp `qrenc` — the data-bit loops of encoder.go on the mirror model (`appendNumericBytes`, `appendAlphanumericBytes`,
  `append8BitBytes` with their index arithmetic) produce the reference packings of ISO/IEC 18004 (`QRRef.packNumeric`,
  `packAlnum`, `bitsOfBytes`); `appendLengthInfo` writes the character count in the version's count width.
-/
import Gzx.Model.QREncMirror
import Gzx.Proofs.QREncBits
import Gzx.Proofs.QREncInv
namespace Gzx.QREnc
open Gzx Gzx.QRRef

/-! ### byte mode -/

theorem append8BitBytes_eq (bs : List Nat) (bits : Bits) :
    append8BitBytes (some bs) bits = .ok (bits ++ bitsOfBytes bs) := by
  unfold append8BitBytes
  simp only [Except.ok.injEq]
  induction bs generalizing bits with
  | nil => simp [bitsOfBytes]
  | cons b bs ih =>
    rw [List.foldl_cons, ih, appendBitsIgn_byte, bitsOfBytes_cons, List.append_assoc]

/-! ### numeric mode -/

def isDigit (c : Nat) : Prop := 48 ≤ c ∧ c ≤ 57

theorem idx_append_right {α} (pre rest : List α) (k : Nat) (hk : k < rest.length) :
    idx (pre ++ rest) ((pre.length : Int) + (k : Int)) = .ok rest[k] := by
  have : (pre.length : Int) + (k : Int) = ((pre.length + k : Nat) : Int) := by omega
  rw [this, idx_nat _ _ (by simp; omega)]
  simp [List.getElem_append_right]

theorem numericLoop (fuel : Nat) : ∀ (rest pre : List Nat) (bits : Bits), rest.length < fuel → (∀ c ∈ rest, isDigit c) →
    appendNumericLoop (pre ++ rest) fuel (pre.length : Int) bits = .ok (bits ++ packNumeric (rest.map (· - 48))) := by
  induction fuel with
  | zero => intro rest _ _ hf; omega
  | succ f ih =>
    intro rest pre bits hf hd
    -- the recursive call, `k` digits further on
    have next : ∀ (k : Nat) (bits' : Bits), 0 < k → k ≤ rest.length →
        appendNumericLoop (pre ++ rest) f ((pre.length : Int) + (k : Int)) bits' =
          .ok (bits' ++ packNumeric ((rest.drop k).map (· - 48))) := by
      intro k bits' h0 hk
      have := ih (rest.drop k) (pre ++ rest.take k) bits' (by rw [List.length_drop]; omega)
        (fun c hc => hd c (List.mem_of_mem_drop hc))
      rwa [List.append_assoc, List.take_append_drop, List.length_append, List.length_take, Nat.min_eq_left hk,
        Int.natCast_add] at this
    unfold appendNumericLoop
    have hL : (((pre ++ rest).length : Nat) : Int) = (pre.length : Int) + (rest.length : Int) := by simp
    simp only [hL]
    match rest, hf, hd, next with
    | [], _, _, _ =>
      have : ¬ ((pre.length : Int) < (pre.length : Int) + ((([] : List Nat).length : Nat) : Int)) := by simp
      rw [if_neg this]
      simp [packNumeric]
    | [a], _, hd, next =>
      have ha := hd a (by simp)
      have hl : ((([a] : List Nat).length : Nat) : Int) = 1 := rfl
      rw [hl]
      have h1 : ((pre.length : Int) < (pre.length : Int) + 1) := by omega
      have h2 : ¬ ((pre.length : Int) + 2 < (pre.length : Int) + 1) := by omega
      have h3 : ¬ ((pre.length : Int) + 1 < (pre.length : Int) + 1) := by omega
      rw [if_pos h1]
      have hi0 := idx_append_right pre [a] 0 (by simp)
      simp only [Int.natCast_zero, Int.add_zero, List.getElem_cons_zero] at hi0
      simp only [bind, Except.bind, hi0, if_neg h2, if_neg h3]
      have hv : ((a : Int) - 48) = (((a - 48 : Nat)) : Int) := by unfold isDigit at ha; omega
      rw [hv, show (4 : Int) = ((4 : Nat) : Int) by rfl, appendBitsIgn_nat _ 4 (by omega)]
      rw [show (1 : Int) = ((1 : Nat) : Int) by rfl, next 1 _ (by omega) (by simp)]
      simp [packNumeric]
    | [a, b], _, hd, next =>
      have ha := hd a (by simp)
      have hb := hd b (by simp)
      have hl : ((([a, b] : List Nat).length : Nat) : Int) = 2 := rfl
      rw [hl]
      have h1 : ((pre.length : Int) < (pre.length : Int) + 2) := by omega
      have h2 : ¬ ((pre.length : Int) + 2 < (pre.length : Int) + 2) := by omega
      have h3 : ((pre.length : Int) + 1 < (pre.length : Int) + 2) := by omega
      rw [if_pos h1]
      have hi0 := idx_append_right pre [a, b] 0 (by simp)
      have hi1 := idx_append_right pre [a, b] 1 (by simp)
      simp only [Int.natCast_zero, Int.add_zero, List.getElem_cons_zero, Int.natCast_one, List.getElem_cons_succ] at hi0 hi1
      simp only [bind, Except.bind, hi0, hi1, if_neg h2, if_pos h3]
      have hv : ((a : Int) - 48) * 10 + ((b : Int) - 48) = (((10 * (a - 48) + (b - 48) : Nat)) : Int) := by
        unfold isDigit at ha hb; omega
      rw [hv, show (7 : Int) = ((7 : Nat) : Int) by rfl, appendBitsIgn_nat _ 7 (by omega)]
      rw [show (2 : Int) = ((2 : Nat) : Int) by rfl, next 2 _ (by omega) (by simp)]
      simp [packNumeric]
    | a :: b :: c :: rest', _, hd, next =>
      have ha := hd a (by simp)
      have hb := hd b (by simp)
      have hc := hd c (by simp)
      have hl : (((a :: b :: c :: rest').length : Nat) : Int) = (rest'.length : Int) + 3 := by simp; omega
      rw [hl]
      have h1 : ((pre.length : Int) < (pre.length : Int) + ((rest'.length : Int) + 3)) := by omega
      have h2 : ((pre.length : Int) + 2 < (pre.length : Int) + ((rest'.length : Int) + 3)) := by omega
      rw [if_pos h1]
      have hi0 := idx_append_right pre (a :: b :: c :: rest') 0 (by simp)
      have hi1 := idx_append_right pre (a :: b :: c :: rest') 1 (by simp)
      have hi2 := idx_append_right pre (a :: b :: c :: rest') 2 (by simp)
      simp only [Int.natCast_zero, Int.add_zero, List.getElem_cons_zero, Int.natCast_one, List.getElem_cons_succ] at hi0 hi1 hi2
      have e2 : ((2 : Nat) : Int) = 2 := rfl
      rw [e2] at hi2
      simp only [bind, Except.bind, hi0, hi1, hi2, if_pos h2]
      have hv : ((a : Int) - 48) * 100 + ((b : Int) - 48) * 10 + ((c : Int) - 48) =
          (((100 * (a - 48) + 10 * (b - 48) + (c - 48) : Nat)) : Int) := by
        unfold isDigit at ha hb hc; omega
      rw [hv, show (10 : Int) = ((10 : Nat) : Int) by rfl, appendBitsIgn_nat _ 10 (by omega),
        show (3 : Int) = ((3 : Nat) : Int) by rfl, next 3 _ (by omega) (by simp)]
      simp [packNumeric, List.append_assoc]

theorem appendNumericBytes_eq (content : List Nat) (hd : ∀ c ∈ content, isDigit c) (bits : Bits) :
    appendNumericBytes content bits = .ok (bits ++ packNumeric (content.map (· - 48))) := by
  unfold appendNumericBytes
  have := numericLoop (content.length + 1) content [] bits (by omega) hd
  simpa using this


/-! ### alphanumeric mode -/

theorem alnumCode_beyond (c : Nat) (h : 96 ≤ c) : alnumCode c = none := by
  unfold alnumCode
  repeat rw [if_neg (by omega)]

theorem getAlphanumericCode_eq (c : Nat) :
    getAlphanumericCode c = .ok (match alnumCode c with | some k => (k : Int) | none => -1) := by
  unfold getAlphanumericCode
  have hlen : alphanumericTable.length = 96 := by simp [alphanumericTable]
  by_cases h : c < 96
  · have : ((c : Nat) : Int) < ((alphanumericTable.length : Nat) : Int) := by rw [hlen]; omega
    rw [if_pos this, idx_nat _ _ (by rw [hlen]; exact h)]
    simp [alphanumericTable, List.getElem_map, List.getElem_range]
    cases alnumCode c <;> rfl
  · have : ¬ ((c : Nat) : Int) < ((alphanumericTable.length : Nat) : Int) := by rw [hlen]; omega
    rw [if_neg this, alnumCode_beyond c (by omega)]

theorem alnumLoop (fuel : Nat) : ∀ (rest pre : List Nat) (codes : List Nat) (bits : Bits), rest.length < fuel →
    rest.mapM alnumCode = some codes →
    appendAlphanumericLoop (pre ++ rest) fuel (pre.length : Int) bits = .ok (bits ++ packAlnum codes) := by
  induction fuel with
  | zero => intro rest _ _ _ hf; omega
  | succ f ih =>
    intro rest pre codes bits hf hc
    -- the recursive call, `k` characters further on
    have next : ∀ (k : Nat) (cs : List Nat) (bits' : Bits), 0 < k → k ≤ rest.length →
        (rest.drop k).mapM alnumCode = some cs →
        appendAlphanumericLoop (pre ++ rest) f ((pre.length : Int) + (k : Int)) bits' = .ok (bits' ++ packAlnum cs) := by
      intro k cs bits' h0 hk hcs
      have := ih (rest.drop k) (pre ++ rest.take k) cs bits' (by rw [List.length_drop]; omega) hcs
      rwa [List.append_assoc, List.take_append_drop, List.length_append, List.length_take, Nat.min_eq_left hk,
        Int.natCast_add] at this
    unfold appendAlphanumericLoop
    have hL : (((pre ++ rest).length : Nat) : Int) = (pre.length : Int) + (rest.length : Int) := by simp
    simp only [hL]
    match rest, hf, hc, next with
    | [], _, hc, _ =>
      have : ¬ ((pre.length : Int) < (pre.length : Int) + ((([] : List Nat).length : Nat) : Int)) := by simp
      rw [if_neg this]
      simp only [List.mapM_nil, Option.pure_def, Option.some.injEq] at hc
      subst hc
      simp [packAlnum]
    | [a], _, hc, next =>
      have hl : ((([a] : List Nat).length : Nat) : Int) = 1 := rfl
      rw [hl]
      have h1 : ((pre.length : Int) < (pre.length : Int) + 1) := by omega
      have h3 : ¬ ((pre.length : Int) + 1 < (pre.length : Int) + 1) := by omega
      rw [if_pos h1]
      have hi0 := idx_append_right pre [a] 0 (by simp)
      simp only [Int.natCast_zero, Int.add_zero, List.getElem_cons_zero] at hi0
      cases ha : alnumCode a with
      | none => simp [List.mapM_cons, ha] at hc
      | some ka =>
        simp only [List.mapM_cons, ha, List.mapM_nil, Option.pure_def, Option.bind_eq_bind, Option.bind_some, Option.some.injEq] at hc
        subst hc
        simp only [bind, Except.bind, hi0, getAlphanumericCode_eq, ha]
        have hne : ¬ ((ka : Int) = -1) := by omega
        rw [if_neg hne, if_neg h3]
        rw [show (6 : Int) = ((6 : Nat) : Int) by rfl, appendBitsIgn_nat _ 6 (by omega),
          show (1 : Int) = ((1 : Nat) : Int) by rfl, next 1 [] _ (by omega) (by simp) rfl]
        simp [packAlnum]
    | a :: b :: rest', _, hc, next =>
      have hl : (((a :: b :: rest').length : Nat) : Int) = (rest'.length : Int) + 2 := by simp; omega
      rw [hl]
      have h1 : ((pre.length : Int) < (pre.length : Int) + ((rest'.length : Int) + 2)) := by omega
      have h3 : ((pre.length : Int) + 1 < (pre.length : Int) + ((rest'.length : Int) + 2)) := by omega
      rw [if_pos h1]
      have hi0 := idx_append_right pre (a :: b :: rest') 0 (by simp)
      have hi1 := idx_append_right pre (a :: b :: rest') 1 (by simp)
      simp only [Int.natCast_zero, Int.add_zero, List.getElem_cons_zero, Int.natCast_one, List.getElem_cons_succ] at hi0 hi1
      cases ha : alnumCode a with
      | none => simp [List.mapM_cons, ha] at hc
      | some ka =>
        cases hb : alnumCode b with
        | none => simp [List.mapM_cons, ha, hb] at hc
        | some kb =>
          cases hr : rest'.mapM alnumCode with
          | none => simp [List.mapM_cons, ha, hb, hr] at hc
          | some cs =>
            simp only [List.mapM_cons, ha, hb, hr, Option.pure_def, Option.bind_eq_bind, Option.bind_some, Option.some.injEq] at hc
            subst hc
            simp only [bind, Except.bind, hi0, hi1, getAlphanumericCode_eq, ha, hb]
            have hne : ¬ ((ka : Int) = -1) := by omega
            have hne2 : ¬ ((kb : Int) = -1) := by omega
            rw [if_neg hne, if_pos h3]
            simp only [if_neg hne2]
            have hv : (ka : Int) * 45 + (kb : Int) = ((45 * ka + kb : Nat) : Int) := by omega
            rw [hv, show (11 : Int) = ((11 : Nat) : Int) by rfl, appendBitsIgn_nat _ 11 (by omega),
              show (2 : Int) = ((2 : Nat) : Int) by rfl, next 2 cs _ (by omega) (by simp) hr]
            simp [packAlnum, List.append_assoc]

/-- `hc`: every character of `content` is in Table 5 of ISO/IEC 18004 -/
theorem appendAlphanumericBytes_eq (content codes : List Nat) (hc : content.mapM alnumCode = some codes) (bits : Bits) :
    appendAlphanumericBytes content bits = .ok (bits ++ packAlnum codes) := by
  unfold appendAlphanumericBytes
  have := alnumLoop (content.length + 1) content [] codes bits (by omega) hc
  simpa using this

/-! ### character count -/

theorem appendLengthInfo_eq (v : Nat) (m : Mode) (count : Nat)
    (hlt : count < 2 ^ countBits m v) (bits : Bits) :
    appendLengthInfo (count : Int) (versionInfo v) m bits = .ok (bits ++ toBitsBE (countBits m v) count) := by
  unfold appendLengthInfo QRVersionChoice.characterCountBits tables QRVersionChoice.refTables
  have hnum : (versionInfo v).number = v := rfl
  simp only [hnum]
  have hcb : countBits m v ≤ 32 := by cases m <;> simp [countBits] <;> split <;> (try split) <;> omega
  have hsel : ([countBits m 1, countBits m 10, countBits m 27])[if v ≤ 9 then 0 else if v ≤ 26 then 1 else 2]? =
      some (countBits m v) := by
    by_cases h9 : v ≤ 9
    · simp [h9]; cases m <;> simp [countBits, h9]
    · by_cases h26 : v ≤ 26
      · simp [h9, h26]; cases m <;> simp [countBits, h9, h26]
      · simp [h9, h26]; cases m <;> simp [countBits, h9, h26]
  rw [hsel]
  simp only [bind, Except.bind]
  have hge : ¬ ((count : Int) ≥ ((2 ^ countBits m v : Nat) : Int)) := by omega
  rw [if_neg hge]
  simp only [pure, Except.pure]
  rw [appendBitsIgn_nat _ _ hcb]

end Gzx.QREnc
