/-
  C08: `Gzx.DMProofs.sizeCheck` per size.  The kernel runs the Annex F placement program once over the mapping matrix of
  the size (`placeCheck`); the decoder's half of `sizeCheck` follows from `read_eq_place` (Proofs/DMReadOrder.lean).
  Heavy for the kernel (about 2 ms per module of the matrix); split over several files so that lake checks them side by side.
  `maxRecDepth`: the kernel's recursion grows with the run; from 64x64 modules on the default depth is too small.
-/
import Gzx.Proofs.DMReadOrder
namespace Gzx.DMProofs

set_option maxRecDepth 10000000 in
/-- symbol 72x72: mapping matrix 64x64, 512 codewords -/
theorem check_72x72 : sizeCheck 64 64 512 = true :=
  sizeCheck_of_placeCheck (by decide +kernel)

/-- symbol 52x52: mapping matrix 48x48, 288 codewords -/
theorem check_52x52 : sizeCheck 48 48 288 = true :=
  sizeCheck_of_placeCheck (by decide +kernel)

/-- symbol 48x48: mapping matrix 44x44, 242 codewords -/
theorem check_48x48 : sizeCheck 44 44 242 = true :=
  sizeCheck_of_placeCheck (by decide +kernel)

/-- symbol 44x44: mapping matrix 40x40, 200 codewords -/
theorem check_44x44 : sizeCheck 40 40 200 = true :=
  sizeCheck_of_placeCheck (by decide +kernel)

/-- symbol 40x40: mapping matrix 36x36, 162 codewords -/
theorem check_40x40 : sizeCheck 36 36 162 = true :=
  sizeCheck_of_placeCheck (by decide +kernel)

/-- symbol 36x36: mapping matrix 32x32, 128 codewords -/
theorem check_36x36 : sizeCheck 32 32 128 = true :=
  sizeCheck_of_placeCheck (by decide +kernel)

/-- symbol 32x32: mapping matrix 28x28, 98 codewords -/
theorem check_32x32 : sizeCheck 28 28 98 = true :=
  sizeCheck_of_placeCheck (by decide +kernel)

end Gzx.DMProofs
