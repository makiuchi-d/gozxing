/-
  C16 helper lemmas: the BitArray operations over many words or bits: SetRange / IsRange / Xor / AppendBits /
  AppendBitArray.
-/
import Gzx.Proofs.BitsArr
namespace Gzx.Bits
open Gzx

namespace WArr

/-- `for i < n { ws[i] ^= os[i] }` on word lists that are long enough -/
theorem foldlM_xorWords (os ws : List Nat) (n : Nat) (hn : n ≤ os.length) (hw : n ≤ ws.length) :
    ∃ ws', (List.range n).foldlM (fun ws i => do
        let o ← wordAt os i
        updWord ws i (fun w => w ^^^ o)) ws = .ok ws' ∧ ws'.length = ws.length ∧
      ((∀ w ∈ ws, w < W32) → (∀ w ∈ os, w < W32) → ∀ w ∈ ws', w < W32) ∧
      ∀ g, bitAt ws' g = if g / 32 < n then (bitAt ws g ^^ bitAt os g) else bitAt ws g := by
  refine ⟨ws.mapIdx fun k w => if k ∈ List.range n then w ^^^ os[k]?.getD 0 else w, ?_, List.length_mapIdx,
    fun h1 h2 => words_lt_mapIdx (fun k w hw => ?_) h1, fun g => ?_⟩
  · -- the words of `os` are read in range: replace the monadic read by the value
    rw [foldlM_congr_mem _ (fun ws i => updWord ws i (fun w => w ^^^ (os[i]?.getD 0))) _ _
        (fun i hi ws => by
          have hk : i < os.length := by have := List.mem_range.mp hi; omega
          rw [wordAt_ok _ _ hk, List.getElem?_eq_getElem hk]; rfl),
      foldlM_updWord _ _ List.nodup_range _ (fun i hi => by have := List.mem_range.mp hi; omega)]
  · split
    · refine xor_lt_W32 hw ?_
      cases hok : os[k]? with
      | none => decide
      | some v => exact h2 v (List.mem_of_getElem? hok)
    · exact hw
  · by_cases hk : g / 32 < ws.length
    · rw [bitAt_mapIdx _ _ _ hk, bitAt_getElem _ _ hk]
      simp only [List.mem_range]
      split
      · rw [Nat.testBit_xor]; rfl
      · rfl
    · rw [bitAt_of_ge _ _ (by rw [List.length_mapIdx]; omega), bitAt_of_ge _ _ (by omega), if_neg (by omega)]

theorem setRange_refines (a : WArr) (s e : Nat) (h : InvA a) :
    match SArr.setRange (absA a) s e with
    | .ok r => RefinesA (a.setRange s e) r
    | .error err => a.setRange s e = .error err := by
  unfold SArr.setRange WArr.setRange
  rw [absA_length]
  by_cases hbad : e < s ∨ e > a.size
  · simp [hbad]
  · rw [if_neg hbad, if_neg hbad]
    simp only
    have hlen := h.1
    have hF : ∀ g, a.size ≤ g → (false || (decide (s ≤ g) && decide (g < e))) = false := by
      intro g hg; simp; omega
    by_cases hse : e = s
    · rw [if_pos hse]
      refine ⟨a, rfl, h, (pointwise h rfl h.words_lt _ hF fun g => ?_).2⟩
      have : (decide (s ≤ g) && decide (g < e)) = false := by simp; omega
      rw [this, Bool.or_false]
    · rw [if_neg hse, foldlM_updWord _ _ (List.nodup_range' ..) _
        (fun i hi => by have := List.mem_range'_1.mp hi; omega)]
      refine ⟨_, rfl, pointwise h List.length_mapIdx (words_lt_mapIdx (fun k w hw => ?_) h.words_lt) _ hF fun g => ?_⟩
      · split
        · exact or_lt_W32 hw (rangeMask_lt _ _ _ _ _)
        · exact hw
      · by_cases hk : g / 32 < a.words.length
        · rw [bitAt_mapIdx _ _ _ hk, bitAt_getElem _ _ hk]
          by_cases c : g / 32 ∈ List.range' (s / 32) ((e - 1) / 32 + 1 - s / 32)
          · have c' := List.mem_range'_1.mp c
            rw [if_pos c, Nat.testBit_or, testBit_rangeMask s (e - 1) (g / 32) (g % 32) c'.1 (by omega) (by omega)
              (Nat.mod_lt _ (by decide))]
            congr 1
            rw [Bool.eq_iff_iff]
            simp only [Bool.and_eq_true, decide_eq_true_eq]
            omega
          · have c' : ¬ (s / 32 ≤ g / 32 ∧ g / 32 < s / 32 + ((e - 1) / 32 + 1 - s / 32)) :=
              fun hh => c (List.mem_range'_1.mpr hh)
            have : (decide (s ≤ g) && decide (g < e)) = false := by simp; omega
            rw [if_neg c, this, Bool.or_false]
        · have : (decide (s ≤ g) && decide (g < e)) = false := by simp; omega
          rw [bitAt_of_ge _ _ (by rw [List.length_mapIdx]; omega), bitAt_of_ge _ _ (by omega), this]; rfl

theorem masked_eq_iff (w mask : Nat) (v : Bool) :
    (w &&& mask) = (if v then mask else 0) ↔ ∀ j, mask.testBit j = true → w.testBit j = v := by
  constructor
  · intro h j hm
    have h2 := congrArg (fun x => x.testBit j) h
    simp only [Nat.testBit_and, hm, Bool.and_true] at h2
    cases v
    · simpa using h2
    · simpa [hm] using h2
  · intro h
    apply Nat.eq_of_testBit_eq
    intro j
    rw [Nat.testBit_and]
    cases hm : mask.testBit j
    · cases v <;> simp [hm]
    · have := h j hm
      cases v <;> simp_all

theorem isRangeLoop_eq (ws : List Nat) (start e f l : Nat) (value : Bool) (is : List Nat)
    (h : ∀ i ∈ is, i < ws.length) :
    isRangeLoop ws start e f l value is =
      .ok (is.all (fun i => decide ((ws[i]?.getD 0 &&& rangeMask start e f l i) =
        (if value then rangeMask start e f l i else 0)))) := by
  induction is with
  | nil => simp [isRangeLoop]
  | cons i is ih =>
    have hi : i < ws.length := h i (by simp)
    unfold isRangeLoop
    simp only [List.all_cons]
    rw [List.getElem?_eq_getElem hi]
    simp only [Option.getD_some]
    by_cases c : (ws[i] &&& rangeMask start e f l i) = (if value then rangeMask start e f l i else 0)
    · rw [if_neg (by simpa using c), ih (fun j hj => h j (by simp [hj]))]
      simp [c]
    · rw [if_pos (by simpa using c)]
      simp [c]

/-- word side: every word of the range agrees with its mask (`value`) or is disjoint from it (`¬value`); by
    `masked_eq_iff` and `testBit_rangeMask` that is: every stream bit in `[s, e)` equals `v`; by `key` that is: every
    element of the naive `drop`/`take` equals `v` -/
theorem isRange_refines (a : WArr) (s e : Nat) (v : Bool) (h : InvA a) :
    a.isRange s e v = SArr.isRange (absA a) s e v := by
  unfold SArr.isRange WArr.isRange
  rw [absA_length]
  by_cases hbad : e < s ∨ e > a.size
  · simp [hbad]
  · rw [if_neg hbad, if_neg hbad]
    have hlen := h.1
    by_cases hse : e = s
    · rw [if_pos hse]; subst hse
      congr 1; symm
      rw [List.all_eq_true]
      intro x hx
      have : (List.drop e (List.take e (absA a))) = [] := by
        apply List.drop_eq_nil_of_le; simp; omega
      rw [this] at hx; cases hx
    · rw [if_neg hse]
      simp only
      rw [isRangeLoop_eq]
      · congr 1
        rw [Bool.eq_iff_iff, List.all_eq_true, List.all_eq_true]
        -- the naive side looks at the bits `s ≤ g < e` of the stream
        have hdt : List.drop s (List.take e (absA a)) = (List.range' s (e - s)).map (fun g => bitAt a.words g) := by
          unfold absA
          rw [← List.map_take, ← List.map_drop, List.take_range, Nat.min_eq_left (by omega), List.range_eq_range',
            List.drop_range']
          simp
        have key : (∀ g, s ≤ g → g < e → bitAt a.words g = v) ↔
            ∀ x ∈ List.drop s (List.take e (absA a)), (x == v) = true := by
          rw [hdt]
          simp only [List.mem_map, List.mem_range'_1]
          constructor
          · rintro hg x ⟨g, ⟨g1, g2⟩, rfl⟩
            rw [hg g g1 (by omega)]; simp
          · intro hx g g1 g2
            simpa using hx _ ⟨g, ⟨g1, by omega⟩, rfl⟩
        rw [← key]
        constructor
        · intro hall g h1 h2
          have hi : g / 32 ∈ List.range' (s / 32) ((e - 1) / 32 + 1 - s / 32) := by
            rw [List.mem_range']; exact ⟨g / 32 - s / 32, by omega, by omega⟩
          have := hall _ hi
          simp only [decide_eq_true_eq] at this
          rw [masked_eq_iff] at this
          have hk : g / 32 < a.words.length := by omega
          have := this (g % 32) (by
            rw [testBit_rangeMask s (e - 1) (g / 32) (g % 32) (by omega) (by omega) (by omega)
              (Nat.mod_lt _ (by decide))]
            simp; omega)
          rw [bitAt_getElem _ _ hk]
          rw [List.getElem?_eq_getElem hk] at this
          exact this
        · intro hall i hi
          rw [List.mem_range'] at hi
          obtain ⟨d, hd, rfl⟩ := hi
          simp only [decide_eq_true_eq, Nat.one_mul]
          rw [masked_eq_iff]
          intro j hj
          have hj32 : j < 32 := by
            false_or_by_contra
            have := Nat.testBit_lt_two_pow (x := rangeMask s (e - 1) (s / 32) ((e - 1) / 32) (s / 32 + d)) (i := j)
              (Nat.lt_of_lt_of_le (by rw [← W32_eq]; exact rangeMask_lt _ _ _ _ _)
                (Nat.pow_le_pow_right (by decide) (by omega)))
            rw [this] at hj; cases hj
          rw [testBit_rangeMask s (e - 1) (s / 32 + d) j (by omega) (by omega) (by omega) hj32] at hj
          simp only [Bool.and_eq_true, decide_eq_true_eq] at hj
          have hk : s / 32 + d < a.words.length := by omega
          have := hall ((s / 32 + d) * 32 + j) (by omega) (by omega)
          rw [bitAt_eq_testBit _ _ _ hj32] at this
          exact this
      · intro i hi
        rw [List.mem_range'] at hi
        obtain ⟨d, hd, rfl⟩ := hi
        omega

theorem xor_refines (a o : WArr) (h : InvA a) (ho : InvA o) :
    match SArr.xor (absA a) (absA o) with
    | .ok r => RefinesA (a.xor o) r
    | .error err => a.xor o = .error err := by
  unfold SArr.xor WArr.xor
  rw [absA_length, absA_length]
  by_cases hsz : a.size ≠ o.size
  · simp [hsz]
  · rw [if_neg hsz, if_neg hsz]
    have hsz' : a.size = o.size := by omega
    have hla := h.1
    have hlo := ho.1
    simp only
    obtain ⟨ws', h1, h2, h3, h4⟩ := foldlM_xorWords o.words a.words ((a.size + 31) / 32) (by omega) (by omega)
    have hspec : List.zipWith (fun x y => x ^^ y) (absA a) (absA o) =
        (absA a).mapIdx (fun g b => b ^^ bitAt o.words g) := by
      refine List.ext_getElem? fun g => ?_
      rw [List.getElem?_mapIdx, List.getElem?_zipWith, absA_getElem?, absA_getElem?]
      by_cases hg : g < a.size
      · rw [if_pos hg, if_pos (by omega)]; rfl
      · rw [if_neg hg]; rfl
    rw [h1, hspec]
    refine ⟨_, rfl, pointwise h h2 (h3 h.words_lt ho.words_lt) _
      (fun g hg => by rw [ho.pad g (by omega)]; rfl) fun g => ?_⟩
    rw [h4]
    split
    · rfl
    · rw [ho.pad g (by omega), Bool.xor_false]

theorem appendBitsStep_eq (value : Nat) (ws : List Nat) (sz k : Nat) (hcap : sz + 1 ≤ ws.length * 32) :
    appendBitsStep value (ws, sz) k =
      (WArr.appendBit ⟨ws, sz⟩ (value.testBit k)).map (fun a => (a.words, a.size)) := by
  unfold appendBitsStep WArr.appendBit
  have he : ensureCapacity ⟨ws, sz⟩ (sz + 1) = ⟨ws, sz⟩ := ensureCapacity_of_le _ _ hcap
  rw [Nat.one_shiftLeft, and_two_pow_ne_zero]
  simp only [he]
  cases value.testBit k
  · simp [Except.map]
  · simp only [if_true]
    cases updWord ws (sz / 32) (fun w => w ||| 1 <<< (sz % 32)) <;> rfl

theorem appendBitsLoop (value : Nat) (ks : List Nat) : ∀ (ws : List Nat) (sz : Nat),
    InvA ⟨ws, sz⟩ → sz + ks.length ≤ ws.length * 32 →
    ∃ ws', ks.foldlM (appendBitsStep value) (ws, sz) = .ok (ws', sz + ks.length) ∧
      InvA ⟨ws', sz + ks.length⟩ ∧
      absA ⟨ws', sz + ks.length⟩ = absA ⟨ws, sz⟩ ++ ks.map (fun k => value.testBit k) := by
  induction ks with
  | nil => intro ws sz h _; exact ⟨ws, rfl, h, by simp⟩
  | cons k ks ih =>
    intro ws sz h hcap
    simp only [List.length_cons] at hcap
    rw [List.foldlM_cons, appendBitsStep_eq _ _ _ _ (by omega)]
    obtain ⟨a', h1, h2, h3⟩ := appendBit_refines ⟨ws, sz⟩ (value.testBit k) h
    rw [h1]
    have hsz : a'.size = sz + 1 := by
      have := congrArg List.length h3
      simpa [absA_length, SArr.appendBit] using this
    have hlen : a'.words.length = ws.length := by
      rw [appendBit_words_length h1, ensureCapacity_of_le _ _ (by show sz + 1 ≤ ws.length * 32; omega)]
    obtain ⟨a'w, a's⟩ := a'
    simp only at hsz hlen
    subst hsz
    obtain ⟨ws', g1, g2, g3⟩ := ih a'w (sz + 1) h2 (by omega)
    refine ⟨ws', ?_, ?_, ?_⟩
    · simp only [Except.map, bind, Except.bind, List.length_cons]
      rw [g1]; congr 2; omega
    · have : sz + (ks.length + 1) = sz + 1 + ks.length := by omega
      simp only [List.length_cons]; rw [this]; exact g2
    · have : sz + (ks.length + 1) = sz + 1 + ks.length := by omega
      simp only [List.length_cons, List.map_cons]; rw [this, g3, h3]
      simp [SArr.appendBit]

theorem appendBits_refines (a : WArr) (value n : Nat) (h : InvA a) :
    match SArr.appendBits (absA a) value n with
    | .ok r => RefinesA (a.appendBits value n) r
    | .error err => a.appendBits value n = .error err := by
  unfold SArr.appendBits WArr.appendBits
  by_cases hn : n > 32
  · simp [hn]
  · rw [if_neg hn, if_neg hn]
    obtain ⟨h1, hcap, hb1⟩ := ensureCapacity_inv a (a.size + n) h
    have hsz := ensureCapacity_size a (a.size + n)
    have habs := absA_ensureCapacity a (a.size + n) h
    simp only
    generalize ensureCapacity a (a.size + n) = a1 at *
    obtain ⟨w1, s1⟩ := a1
    simp only at hsz hcap
    subst hsz
    obtain ⟨ws', g1, g2, g3⟩ := appendBitsLoop value (List.range n).reverse w1 a.size h1
      (by simpa using hcap)
    rw [g1]
    refine ⟨_, rfl, g2, ?_⟩
    rw [g3, habs, List.map_reverse, reverse_range_map]

theorem appendLoop {α : Type} (gt : α → Res Bool) (f : α → Bool) (xs : List α) : ∀ (a : WArr),
    InvA a → (∀ x ∈ xs, gt x = .ok (f x)) →
    RefinesA (xs.foldlM (fun b x => do let bit ← gt x; b.appendBit bit) a) (absA a ++ xs.map f) := by
  induction xs with
  | nil => intro a h _; exact ⟨a, rfl, h, by simp⟩
  | cons x xs ih =>
    intro a h hg
    rw [List.foldlM_cons, hg x (by simp)]
    obtain ⟨a', h1, h2, h3⟩ := appendBit_refines a (f x) h
    simp only [bind, Except.bind]
    rw [h1]
    obtain ⟨a'', k1, k2, k3⟩ := ih a' h2 (fun y hy => hg y (by simp [hy]))
    refine ⟨a'', ?_, k2, ?_⟩
    · simpa [bind, Except.bind] using k1
    · rw [k3, h3]; simp [SArr.appendBit]

theorem appendBitArray_refines (a o : WArr) (h : InvA a) (ho : InvA o) :
    RefinesA (a.appendBitArray o) (SArr.appendBitArray (absA a) (absA o)) := by
  unfold WArr.appendBitArray SArr.appendBitArray
  have h1 := (ensureCapacity_inv a (a.size + o.size) h).1
  have habs := absA_ensureCapacity a (a.size + o.size) h
  have := appendLoop (fun i => o.get i) (fun i => bitAt o.words i) (List.range o.size)
    (ensureCapacity a (a.size + o.size)) h1 (by
      intro i hi
      rw [List.mem_range] at hi
      exact get_eq_bitAt o i (ho.idx hi))
  rw [habs] at this
  exact this

end WArr

end Gzx.Bits
