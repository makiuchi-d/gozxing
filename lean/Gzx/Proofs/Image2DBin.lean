/-
  The image → luminance → binariser part of the pure-barcode path: the black matrix of a rendered BitMatrix is that
  BitMatrix again (local method from 40x40 pixels up: always; global fallback below: or NotFound), by C17's
  `hybrid_bilevel_exact` / `hybrid_bilevel_exact_or_notfound`.
-/
import Gzx.Model.ImagePath2D
import Gzx.Proofs.Render
import Gzx.Properties.C17
import Gzx.Proofs.ListGrid
namespace Gzx.ImagePath
open Gzx Gzx.Det Gzx.Binarizer

/-- stated for the functions, so that rewriting with it never makes the kernel compare the two by unfolding
    the luminance formula on a variable -/
theorem lumOfBit_eq : lumOfBit = grayAt := funext fun b => by cases b <;> rfl

theorem lumOfRows_bilevel (rows : List (List Bool)) : Properties.C17.Bilevel (lumOfRows rows) := by
  intro i p hp
  simp only [lumOfRows, lumOfBit_eq, List.getElem?_toArray, List.getElem?_map, Option.map_eq_some_iff] at hp
  obtain ⟨b, -, rfl⟩ := hp
  cases b <;> simp [grayAt]

/-! ## the luminance array of a rendered BitMatrix, pixel by pixel -/

theorem image_row_length (img : Render.Image) : ∀ r ∈ img.rows, r.length = img.w.toNat := by
  intro r hr
  obtain ⟨y, -, rfl⟩ := List.mem_map.mp hr
  simp [Render.Image.row]

theorem lumOfImage_size (img : Render.Image) : (lumOfRows img.rows).size = img.w.toNat * img.h.toNat := by
  simp only [lumOfRows, List.size_toArray, List.length_map]
  rw [flatten_length_const _ _ (image_row_length img)]
  simp [Render.Image.rows]

theorem lumOfImage_get (img : Render.Image) (X Y : Nat) (hX : X < img.w.toNat) (hY : Y < img.h.toNat) :
    (lumOfRows img.rows)[Y * img.w.toNat + X]? = some (grayAt (img.px X Y)) := by
  unfold lumOfRows
  rw [lumOfBit_eq, List.getElem?_toArray, List.getElem?_map,
    flatten_getElem?_uniform _ _ Y X (image_row_length img) hX]
  simp only [Render.Image.rows, List.getElem?_map, List.getElem?_range hY, Option.map_some, Option.bind_some]
  rw [Render.row_getElem? img (Y : Int) (by omega) (by omega) X, if_pos hX]
  rfl

/-! ## the black matrix -/

/-- the black matrix `bm` of the rendered BitMatrix `img` has its dimensions and pixels -/
def SameAsImage (bm : Img) (img : Render.Image) : Prop :=
  bm.w = img.w ∧ bm.h = img.h ∧ ∀ x y, bm.inside x y → bm.pix x y = img.px x y

theorem blackMatrix_eq (img : Render.Image) :
    blackMatrix img = (hybridSets (lumOfRows img.rows) img.w.toNat img.h.toNat).map
      (blackImg img.w.toNat img.h.toNat) := by
  unfold blackMatrix blackMatrixOfRows
  cases hybridSets (lumOfRows img.rows) img.w.toNat img.h.toNat <;> rfl

/-- a binariser that sets exactly the pixels of luminance 0 (the conclusion of C17's exactness theorems) gives
    back the rendered BitMatrix: `render` replays the `Set` calls, and luminance 0 is a set bit -/
theorem blackMatrix_of_exact (img : Render.Image) (hw : 0 ≤ img.w) (hh : 0 ≤ img.h)
    (h : ∃ sets, hybridSets (lumOfRows img.rows) img.w.toNat img.h.toNat = .ok sets ∧
      (∀ X Y, (X, Y) ∈ sets → X < img.w.toNat ∧ Y < img.h.toNat) ∧
      (∀ X Y, X < img.w.toNat → Y < img.h.toNat →
        ((X, Y) ∈ sets ↔ (lumOfRows img.rows)[Y * img.w.toNat + X]? = some 0))) :
    ∃ bm, blackMatrix img = .ok bm ∧ SameAsImage bm img := by
  obtain ⟨sets, hs, -, hiff⟩ := h
  refine ⟨_, by rw [blackMatrix_eq, hs]; rfl, by simp only [blackImg]; omega, by simp only [blackImg]; omega, ?_⟩
  intro x y ⟨x0, xw, y0, yh⟩
  simp only [blackImg] at xw yh ⊢
  have hX : x.toNat < img.w.toNat := by omega
  have hY : y.toNat < img.h.toNat := by omega
  have hmem := hiff _ _ hX hY
  rw [lumOfImage_get img _ _ hX hY, Int.toNat_of_nonneg x0, Int.toNat_of_nonneg y0] at hmem
  rw [render_spec _ _ sets _ _ hX hY]
  cases hp : img.px x y <;> simp_all [grayAt]

theorem blackMatrix_local (img : Render.Image) (hw : 40 ≤ img.w) (hh : 40 ≤ img.h) :
    ∃ bm, blackMatrix img = .ok bm ∧ SameAsImage bm img :=
  blackMatrix_of_exact img (by omega) (by omega)
    (Properties.C17.hybrid_bilevel_exact _ _ _ (by omega) (by omega) (lumOfImage_size img) (lumOfRows_bilevel _))

theorem blackMatrix_any (img : Render.Image) (hw : 1 ≤ img.w) (hh : 1 ≤ img.h) :
    blackMatrix img = .error .notFound ∨ ∃ bm, blackMatrix img = .ok bm ∧ SameAsImage bm img := by
  rcases Properties.C17.hybrid_bilevel_exact_or_notfound _ _ _ (by omega) (by omega) (lumOfImage_size img)
    (lumOfRows_bilevel _) with hnf | hex
  · left; rw [blackMatrix_eq, hnf]; rfl
  · right; exact blackMatrix_of_exact img (by omega) (by omega) hex

end Gzx.ImagePath
