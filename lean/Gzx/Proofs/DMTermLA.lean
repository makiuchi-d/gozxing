/-
  C02 — termination of `EncodeHighLevel`, after DMTermC40 and DMTermXE: what the exact look-ahead `laExactR ρ` (every
  float rounding `ρ`) guarantees about the mode it proposes from ASCII encodation: C40 (Text) is never proposed when
  the rest of the message is a run of characters whose C40 (Text) value counts are (1 or 4), 3, …, 3, (1, 3 or 4) —
  exactly the runs on which the C40 / Text encoder backtracks everything (`NoConsume`, Proofs/DMTermC40.lean): along
  such a run the ASCII count never exceeds the C40 / Text / X12 / EDIFACT counts (linear invariants `MC`, `WC` in
  units of 1/12), so steps R and K answer ASCII or Base 256.
  (That X12 / EDIFACT are not proposed with at most two characters left is in Proofs/DMTermDispatch.lean.)
-/
import Gzx.Proofs.DMLookAhead
import Gzx.Proofs.DMTermC40
namespace Gzx.DMHighLevel

/-! ## step K's last resort -/

/-- step K does not answer C40 when the ASCII count is at most the C40, Text, X12 and EDIFACT counts and either is
    below 2^31 or step R has just declined to decide on the same counts -/
theorem decideK_ne_c40 (i : IntCounts) (hmin : i.min ≤ i.a)
    (hc : i.min ∈ [2147483647, i.a, i.c, i.t, i.x, i.e, i.b])
    (h : i.a ≤ i.c ∧ i.a ≤ i.t ∧ i.a ≤ i.x ∧ i.a ≤ i.e)
    (hb : i.a ≤ 2147483647 ∨ ∃ scan, decideR i scan = none) : decideK i ≠ C40 := by
  intro hK
  simp only [List.mem_cons, List.not_mem_nil, or_false] at hc
  by_cases ha : i.a = i.min
  · simp only [decideK, ha, if_true] at hK
    cases hK
  · -- the minimum is below a, hence below c, t, x, e: it is b or 2^31 - 1
    have hc' : i.c ≠ i.min ∧ i.t ≠ i.min ∧ i.x ≠ i.min ∧ i.e ≠ i.min := by omega
    -- on such counts step R answers ASCII or Base 256
    have hR : ∀ scan, decideR i scan ≠ none := by
      intro scan
      simp only [decideR, IntCounts.isMin, hc', beq_eq_false_iff_ne.2, ne_eq, not_false_eq_true, Bool.not_false,
        Bool.and_self, or_true, if_true]
      split <;> simp
    have h31 : i.a ≤ 2147483647 := hb.resolve_right (fun ⟨scan, hs⟩ => hR scan hs)
    have hbm : i.b = i.min := by omega
    have hn : i.minCount = 1 := by
      simp only [IntCounts.minCount, IntCounts.isMin, b2n, beq_iff_eq, ha, hc', hbm, if_true, if_false]
    simp only [decideK, IntCounts.isMin, beq_iff_eq, ha, hn, hbm, and_self, if_true, if_false] at hK
    cases hK

/-! ## trajectories -/

/-- the ASCII count (rounded up) is at most the C40, Text, X12 and EDIFACT counts (before float rounding) -/
def SafeC (k : ECounts) : Prop :=
  ceil12 k.a ≤ ceil12 k.c ∧ ceil12 k.a ≤ ceil12 k.t ∧ ceil12 k.a ≤ ceil12 k.x ∧ ceil12 k.a ≤ ceil12 k.e

/-- `SafeC` wherever steps R / K look (and everywhere before), and a bound on the ASCII count when fewer than four
    characters are seen in all.  `lookOK (·.c)` with `laLoopR_ne` does not do for C40: step K answers C40 as its last
    resort, also on ties, so all four counts and the bound are needed at the end (`decideK_ne_c40`). -/
def SafeRun : List CharClass → Nat → ECounts → Prop
  | [], n, k => SafeC k ∧ (n < 4 → ceil12 k.a ≤ 2147483647)
  | ch :: rest, n, k => SafeC (stepECounts k ch) ∧ SafeRun rest (n + 1) (stepECounts k ch)

theorem laLoopR_ne_c40 (ρ : Bump) : ∀ (cls : List CharClass) (n : Nat) (k : ECounts),
    SafeRun cls n k → (4 ≤ n → ∃ scan, decideR (eIntCountsR ρ n k) scan = none) →
    laLoopR ρ cls n k ≠ C40 := by
  intro cls
  induction cls with
  | nil =>
    intro n k h hR
    obtain ⟨⟨h1, h2, h3, h4⟩, hb⟩ := h
    unfold laLoopR
    exact decideK_ne_c40 _ (mkIntCounts_min_le _ _ _ _ _ _) (mkIntCounts_min_mem _ _ _ _ _ _)
      ⟨Nat.le_trans h1 (ceil12R_ge _ _), Nat.le_trans h2 (ceil12R_ge _ _), Nat.le_trans h3 (ceil12R_ge _ _), h4⟩
      (if hn : n < 4 then .inl (hb hn) else .inr (hR (by omega)))
  | cons ch rest ih =>
    intro n k h _
    obtain ⟨⟨h1, _⟩, hrest⟩ := h
    unfold laLoopR
    simp only
    split
    · split
      · rename_i m hm
        intro hmx
        have hlt : ceil12R (ρ (n + 1) 1) (stepECounts k ch).c + 1 < ceil12 (stepECounts k ch).a :=
          (decideR_lt _ _ _ (x12ScanC_range _) (mkIntCounts_min_le _ _ _ _ _ _) (hmx ▸ hm)).1 rfl
        have := ceil12R_ge (ρ (n + 1) 1) (stepECounts k ch).c
        omega
      · rename_i hm
        exact ih _ _ hrest (fun _ => ⟨_, hm⟩)
    · rename_i hge
      exact ih _ _ hrest (fun h4 => by omega)

/-! ## the linear invariants along a backtracked run -/

/-- strong invariant (before the last character of the run), C40: counts in units of 1/12, `n` characters seen.
    `+ 8`: the C40 count is at least 2/3 (one native C40 character) above the rounded-up ASCII count.  The first
    character gives exactly that from the start values (native: 20 against 12; extended: 44 against 24), and an
    extended character keeps it: it costs 2 in ASCII (after rounding up) and 8/3 in C40.  A native character in the
    middle of the run would break it (ASCII + 1, C40 + 2/3): the run has none, it is the LAST character that may be
    native, and then only the weak form `WC` is left — which is all the decisions after it need, and which the
    trailer characters (ASCII + 1, C40 + 4/3) keep.  `k.c ≤ k.t, k.x, k.e`: no character of such a run is cheaper in
    Text, X12 or EDIFACT than in C40, so C40 is the smallest of the four.  `k.a ≤ 36 * n`: only for step K with
    fewer than four characters seen, where the minimum is taken with the constant 2^31 - 1 (`WC.safe`). -/
def MC (n : Nat) (k : ECounts) : Prop :=
  ceil12 k.a * 12 + 8 ≤ k.c ∧ k.c ≤ k.t ∧ k.c ≤ k.x ∧ k.c ≤ k.e ∧ k.a ≤ 36 * n

/-- weak invariant (after the last character and along the macro trailer), C40 -/
def WC (n : Nat) (k : ECounts) : Prop :=
  ceil12 k.a * 12 ≤ k.c ∧ k.c ≤ k.t ∧ k.c ≤ k.x ∧ k.c ≤ k.e ∧ k.a ≤ 36 * n

/-- strong invariant, Text: the Text part of `MC` -/
def MT (k : ECounts) : Prop := ceil12 k.a * 12 + 8 ≤ k.t
/-- weak invariant, Text: the Text part of `WC` -/
def WT (k : ECounts) : Prop := ceil12 k.a * 12 ≤ k.t

def SafeT (k : ECounts) : Prop := ceil12 k.a ≤ ceil12 k.t

theorem WC.safe {n : Nat} {k : ECounts} (h : WC n k) : SafeC k ∧ (n < 4 → ceil12 k.a ≤ 2147483647) := by
  unfold WC at h; unfold SafeC ceil12 at *
  refine ⟨⟨?_, ?_, ?_, ?_⟩, ?_⟩ <;> omega

theorem MC.weak {n : Nat} {k : ECounts} (h : MC n k) : WC n k := by
  unfold MC at h; unfold WC; omega

theorem WT.safe {k : ECounts} (h : WT k) : SafeT k := by
  unfold WT at h; unfold SafeT ceil12 at *; omega

theorem MT.weak {k : ECounts} (h : MT k) : WT k := by
  unfold MT at h; unfold WT; omega

/-- a character that is native to C40 (space, digit, upper case): class facts -/
structure NatC (cl : CharClass) : Prop where
  ext : cl.ext = false
  c40 : cl.c40 = true
  x12 : cl.x12 = true
  edi : cl.edi = true

structure NatT (cl : CharClass) : Prop where
  ext : cl.ext = false
  text : cl.text = true

theorem natC_of (ch : Nat) (h : isNativeC40 ch = true) : NatC (classOf ch) := by
  have hlt : ch < 256 := by
    simp only [isNativeC40, Bool.or_eq_true, Bool.and_eq_true, decide_eq_true_eq] at h; omega
  have : ∀ c : Fin 256, isNativeC40 c.val = true →
      (classOf c.val).ext = false ∧ (classOf c.val).c40 = true ∧ (classOf c.val).x12 = true ∧ (classOf c.val).edi = true := by
    decide +kernel
  obtain ⟨a1, a2, a3, a4⟩ := this ⟨ch, hlt⟩ h
  exact ⟨a1, a2, a3, a4⟩

theorem natT_of (ch : Nat) (h : isNativeText ch = true) : NatT (classOf ch) := by
  have hlt : ch < 256 := by
    simp only [isNativeText, Bool.or_eq_true, Bool.and_eq_true, decide_eq_true_eq] at h; omega
  have : ∀ c : Fin 256, isNativeText c.val = true → (classOf c.val).ext = false ∧ (classOf c.val).text = true := by
    decide +kernel
  obtain ⟨a1, a2⟩ := this ⟨ch, hlt⟩ h
  exact ⟨a1, a2⟩

theorem step_ext (k : ECounts) :
    stepECounts k extClass = ⟨ceil12 k.a * 12 + 24, k.c + 32, k.t + 32, k.x + 52, k.e + 51, k.b + 12⟩ := by
  simp [stepECounts, extClass]

theorem step_other (k : ECounts) :
    stepECounts k otherClass = ⟨ceil12 k.a * 12 + 12, k.c + 16, k.t + 16, k.x + 40, k.e + 39, k.b + 12⟩ := by
  simp [stepECounts, otherClass]

theorem MC.ext {n : Nat} {k : ECounts} (h : MC n k) : MC (n + 1) (stepECounts k extClass) := by
  rw [step_ext]; unfold MC ceil12 at *; simp only; omega

theorem WC.other {n : Nat} {k : ECounts} (h : WC n k) : WC (n + 1) (stepECounts k otherClass) := by
  rw [step_other]; unfold WC ceil12 at *; simp only; omega

theorem MC.last_ext {n : Nat} {k : ECounts} (h : MC n k) : WC (n + 1) (stepECounts k extClass) := h.ext.weak

theorem MC.last_nat {n : Nat} {k : ECounts} {cl : CharClass} (h : MC n k) (hc : NatC cl) :
    WC (n + 1) (stepECounts k cl) := by
  unfold MC at h
  unfold WC stepECounts ceil12 at *
  simp only [hc.ext, hc.c40, hc.x12, hc.edi, if_true, Bool.false_eq_true, if_false]
  cases cl.digit <;> cases cl.text <;> simp only [if_true, Bool.false_eq_true, if_false] <;> omega

theorem MT.ext {k : ECounts} (h : MT k) : MT (stepECounts k extClass) := by
  rw [step_ext]; unfold MT ceil12 at *; simp only; omega

theorem WT.other {k : ECounts} (h : WT k) : WT (stepECounts k otherClass) := by
  rw [step_other]; unfold WT ceil12 at *; simp only; omega

theorem MT.last_nat {k : ECounts} {cl : CharClass} (h : MT k) (hc : NatT cl) : WT (stepECounts k cl) := by
  unfold MT at h
  unfold WT stepECounts ceil12 at *
  simp only [hc.ext, hc.text, if_true, Bool.false_eq_true, if_false]
  cases cl.digit <;> simp only [if_true, Bool.false_eq_true, if_false] <;> omega

/-- the first character of the run, from the start values of ASCII encodation -/
theorem MC.first_ext : MC 1 (stepECounts (startCounts ASCII) extClass) := by
  rw [step_ext]; unfold MC ceil12 startCounts; simp
theorem MC.first_nat {cl : CharClass} (hc : NatC cl) : MC 1 (stepECounts (startCounts ASCII) cl) := by
  unfold MC stepECounts ceil12 startCounts
  simp only [hc.ext, hc.c40, hc.x12, hc.edi, if_true, Bool.false_eq_true, if_false]
  cases cl.digit <;> cases cl.text <;> simp
theorem MT.first_ext : MT (stepECounts (startCounts ASCII) extClass) := by
  rw [step_ext]; unfold MT ceil12 startCounts; simp
theorem MT.first_nat {cl : CharClass} (hc : NatT cl) : MT (stepECounts (startCounts ASCII) cl) := by
  unfold MT stepECounts ceil12 startCounts
  simp only [hc.ext, hc.text, if_true, Bool.false_eq_true, if_false]
  cases cl.digit <;> simp

/-! ## the run pattern on characters -/

def goodCh (text : Bool) (x : Nat) : Bool := isExtended x || (if text then isNativeText x else isNativeC40 x)

/-- the characters after the first one: extended ones, the last one extended or native -/
def tailPat (text : Bool) : List Nat → Bool
  | [] => false
  | [l] => goodCh text l
  | x :: y :: r => isExtended x && tailPat text (y :: r)

theorem run_c40 : ∀ (rest : List Nat) (n : Nat) (k : ECounts) (tl : List Nat), tailPat false rest = true →
    MC n k → IsTrailer tl → SafeRun ((rest ++ tl).map classOf) n k := by
  intro rest
  induction rest with
  | nil => intro n k tl h; simp [tailPat] at h
  | cons x r ih =>
    intro n k tl h hM htl
    cases r with
    | nil =>
      simp only [tailPat, goodCh, Bool.false_eq_true, if_false, Bool.or_eq_true] at h
      have hW : WC (n + 1) (stepECounts k (classOf x)) := by
        rcases h with h | h
        · rw [classOf_ext x h]; exact hM.last_ext
        · exact hM.last_nat (natC_of x h)
      rcases htl with rfl | rfl
      · simp only [List.append_nil, List.map_cons, List.map_nil, SafeRun]
        exact ⟨hW.safe.1, hW.safe⟩
      · simp only [List.cons_append, List.nil_append, List.map_cons, List.map_nil, SafeRun, classOf_30, classOf_4]
        exact ⟨hW.safe.1, hW.other.safe.1, hW.other.other.safe.1, hW.other.other.safe⟩
    | cons y r' =>
      simp only [tailPat, Bool.and_eq_true] at h
      obtain ⟨hx, hrest⟩ := h
      have key := ih (n + 1) (stepECounts k extClass) tl hrest hM.ext htl
      simp only [List.cons_append, List.map_cons, SafeRun] at key ⊢
      rw [classOf_ext x hx]
      exact ⟨hM.ext.weak.safe.1, key⟩

theorem run_text : ∀ (rest : List Nat) (n : Nat) (k : ECounts) (tl : List Nat), tailPat true rest = true →
    MT k → IsTrailer tl → lookOK (·.t) ((rest ++ tl).map classOf) n k = true := by
  intro rest
  induction rest with
  | nil => intro n k tl h; simp [tailPat] at h
  | cons x r ih =>
    intro n k tl h hM htl
    cases r with
    | nil =>
      simp only [tailPat, goodCh, if_true, Bool.or_eq_true] at h
      have hW : WT (stepECounts k (classOf x)) := by
        rcases h with h | h
        · rw [classOf_ext x h]; exact hM.ext.weak
        · exact hM.last_nat (natT_of x h)
      rcases htl with rfl | rfl
      · exact lookOK_cons hW.safe (lookOK_nil hW.safe)
      · simp only [List.cons_append, List.nil_append, List.map_cons, List.map_nil, classOf_30, classOf_4]
        exact lookOK_cons hW.safe (lookOK_cons hW.other.safe (lookOK_cons hW.other.other.safe
          (lookOK_nil hW.other.other.safe)))
    | cons y r' =>
      simp only [tailPat, Bool.and_eq_true] at h
      obtain ⟨hx, hrest⟩ := h
      have key := ih (n + 1) (stepECounts k extClass) tl hrest hM.ext htl
      simp only [List.cons_append, List.map_cons] at key ⊢
      rw [classOf_ext x hx]
      exact lookOK_cons hM.ext.weak.safe key

/-- from ASCII encodation, a run `f :: rest` of the C40 pattern (plus trailer) never makes the look-ahead loop
    answer C40 -/
theorem laLoopR_run_c40 (ρ : Bump) (f : Nat) (rest tl : List Nat) (hf : goodCh false f = true)
    (hr : tailPat false rest = true) (htl : IsTrailer tl) :
    laLoopR ρ ((f :: rest ++ tl).map classOf) 0 (startCounts ASCII) ≠ C40 := by
  apply laLoopR_ne_c40
  · simp only [List.cons_append, List.map_cons, SafeRun]
    simp only [goodCh, Bool.false_eq_true, if_false, Bool.or_eq_true] at hf
    have hM : MC 1 (stepECounts (startCounts ASCII) (classOf f)) := by
      rcases hf with h | h
      · rw [classOf_ext f h]; exact MC.first_ext
      · exact MC.first_nat (natC_of f h)
    exact ⟨hM.weak.safe.1, run_c40 rest 1 _ tl hr hM htl⟩
  · intro h; omega

theorem laLoopR_run_text (ρ : Bump) (f : Nat) (rest tl : List Nat) (hf : goodCh true f = true)
    (hr : tailPat true rest = true) (htl : IsTrailer tl) :
    laLoopR ρ ((f :: rest ++ tl).map classOf) 0 (startCounts ASCII) ≠ TEXT := by
  apply laLoopR_ne_text
  simp only [List.cons_append, List.map_cons]
  simp only [goodCh, if_true, Bool.or_eq_true] at hf
  have hM : MT (stepECounts (startCounts ASCII) (classOf f)) := by
    rcases hf with h | h
    · rw [classOf_ext f h]; exact MT.first_ext
    · exact MT.first_nat (natT_of f h)
  exact lookOK_cons hM.weak.safe (run_text rest _ _ tl hr hM htl)

/-! ## from the value counts to the pattern -/

/-- value counts of bytes: `1 (mod 3)` ⇒ native or extended, `0 (mod 3)` ⇒ extended, never `2 (mod 3)` for an
    extended or native one -/
def sizeOK (text : Bool) (c : Nat) : Bool :=
  let s := (cEncodeChar text c).length
  (decide (s % 3 ≠ 2) → goodCh text c) && (decide (s % 3 = 0) → isExtended c)

theorem sizeOK_checked : ∀ (text : Bool) (c : Fin 256), sizeOK text c.val = true := by decide +kernel

theorem sizeOK_all (text : Bool) (c : Nat) (hc : c < 256) :
    ((cEncodeChar text c).length % 3 ≠ 2 → goodCh text c = true) ∧
    ((cEncodeChar text c).length % 3 = 0 → isExtended c = true) := by
  have h : sizeOK text c = true := sizeOK_checked text ⟨c, hc⟩
  simp only [sizeOK, Bool.and_eq_true, decide_eq_true_eq] at h
  simpa using h

theorem tailPat_of_sums (text : Bool) : ∀ (l : List Nat) (acc : Nat), (∀ x ∈ l, x < 256) → acc % 3 = 1 → l ≠ [] →
    (∀ i, 1 ≤ i → i < l.length → (acc + (cVals text (l.take i)).length) % 3 = 1) →
    (acc + (cVals text l).length) % 3 ≠ 0 → tailPat text l = true := by
  intro l
  induction l with
  | nil => intro acc _ _ h; exact absurd rfl h
  | cons x r ih =>
    intro acc hb hacc _ hmid hend
    have hx := sizeOK_all text x (hb x (by simp))
    cases r with
    | nil =>
      simp only [cVals, List.append_nil] at hend
      simp only [tailPat]
      exact hx.1 (by omega)
    | cons y r' =>
      have h1 := hmid 1 (by omega) (by simp)
      simp only [List.take_succ_cons, List.take_zero, cVals, List.append_nil] at h1
      have hext := hx.2 (by omega)
      simp only [tailPat, hext, Bool.true_and]
      apply ih (acc + (cEncodeChar text x).length) (fun z hz => hb z (by simp [hz])) (by omega) (by simp)
      · intro i hi1 hi2
        have := hmid (i + 1) (by omega) (by simp at hi2 ⊢; omega)
        simp only [List.take_succ_cons, cVals, List.length_append] at this
        omega
      · simp only [cVals, List.length_append] at hend ⊢
        omega

end Gzx.DMHighLevel
