/-
  Model-side lemmas for the regenerated check-digit kernels (Obligations/K10.lean).  Nothing here
  depends on `Gzx.Gen`: these are facts about the hand-written model (`Gzx.CheckDigit`) and about folds
  (`Gzx.GoM.foldC/foldC2`), proved once.
-/
import Gzx.Proofs.GoM
import Gzx.Proofs.CheckDigit
namespace Gzx.K10
open Gzx Gzx.GoM Gzx.CheckDigit

/-! ## alternating sums: elements 0, 2, 4, … of a list -/

def evens : List Nat → Nat
  | [] => 0
  | [v] => v
  | v :: _ :: rest => v + evens rest

theorem evens_cons (v : Nat) (r : List Nat) : evens (v :: r) = v + evens r.tail := by
  cases r <;> simp [evens]

/-- weights `a, b, a, b …` from the RIGHT end: `CheckDigit.dot (altW a b ds.length) ds` (`W_eq_dot`), as a recursion on the
    list itself, which is the form `W_append` / `W_reverse` are proved on -/
def W (a b : Nat) : List Nat → Nat
  | [] => 0
  | d :: ds => (if ds.length % 2 = 0 then a else b) * d + W a b ds

theorem W_append (a b : Nat) (xs : List Nat) (v : Nat) : W a b (xs ++ [v]) = a * v + W b a xs := by
  induction xs with
  | nil => simp [W]
  | cons x xs ih =>
    simp only [List.cons_append, W, ih, List.length_append, List.length_cons, List.length_nil]
    by_cases h : xs.length % 2 = 0
    · have : ¬ (xs.length + (0 + 1)) % 2 = 0 := by omega
      simp only [h, this, if_true, if_false]; omega
    · have : (xs.length + (0 + 1)) % 2 = 0 := by omega
      simp only [h, this, if_true, if_false]; omega

theorem W_reverse (a b : Nat) (r : List Nat) : W a b r.reverse = a * evens r + b * evens r.tail := by
  induction r generalizing a b with
  | nil => simp [W, evens]
  | cons v r ih =>
    rw [List.reverse_cons, W_append, ih, evens_cons, List.tail_cons, Nat.mul_add]
    omega

theorem W_eq_dot (a b : Nat) (ds : List Nat) : W a b ds = dot (altW a b ds.length) ds := by
  induction ds with
  | nil => rfl
  | cons d ds ih => simp [W, altW, dot, ih]

theorem eanSum_eq (ds : List Nat) : eanSum ds = 3 * evens ds.reverse + evens ds.reverse.tail := by
  have := W_reverse 3 1 ds.reverse
  rw [List.reverse_reverse] at this
  rw [eanSum, altSum_eq_dot 3 1 eanSumAux rfl (fun _ _ => rfl), ← W_eq_dot, this]; omega

theorem ext5Checksum_eq (ds : List Nat) :
    ext5Checksum ds = (3 * evens ds.reverse + 9 * evens ds.reverse.tail) % 10 := by
  have := W_reverse 3 9 ds.reverse
  rw [List.reverse_reverse] at this
  rw [ext5Checksum, altSum_eq_dot 3 9 ext5SumAux rfl (fun _ _ => rfl), ← W_eq_dot, this]

/-! ## the digit test of the UPC/EAN loops on bytes -/

/-- every byte at position 0, 2, 4, … is an ASCII digit -/
def ok2 : List Nat → Bool
  | [] => true
  | [v] => isDigitByte v
  | v :: _ :: rest => isDigitByte v && ok2 rest

/-- Σ (byte - 48) over positions 0, 2, 4, … -/
def sumE : List Nat → Nat
  | [] => 0
  | [v] => v - 48
  | v :: _ :: rest => (v - 48) + sumE rest

theorem ok2_cons (v : Nat) (r : List Nat) : ok2 (v :: r) = (isDigitByte v && ok2 r.tail) := by
  cases r <;> simp [ok2]

theorem all_eq_ok2 (r : List Nat) : r.all isDigitByte = (ok2 r && ok2 r.tail) := by
  induction r with
  | nil => simp [ok2]
  | cons v r ih =>
    rw [List.all_cons, ih, ok2_cons, List.tail_cons]
    cases isDigitByte v <;> cases ok2 r <;> cases ok2 r.tail <;> rfl

theorem sumE_digitBytes (q : List Nat) : sumE (digitBytes q) = evens q := by
  unfold digitBytes
  induction q using evens.induct with
  | case1 => simp [sumE, evens]
  | case2 v => simp [sumE, evens]
  | case3 v w rest ih => simp only [List.map_cons, sumE, evens, ih]; omega

theorem digitBytes_reverse (q : List Nat) : (digitBytes q).reverse = digitBytes q.reverse := by
  simp [digitBytes, List.map_reverse]

theorem digitBytes_tail (q : List Nat) : (digitBytes q).tail = digitBytes q.tail := by
  cases q <;> simp [digitBytes]

/-- the step of both loops of `getStandardUPCEANChecksum`: `digit := s[i]-'0'` (byte arithmetic);
    a non-digit returns `(0, FormatException)`, a digit is added -/
def gDigit (v : Int) (st : Int) : Ctl Int (Int × Bool) :=
  if 48 ≤ v ∧ v ≤ 57 then .next (st + (v - 48)) else .ret (0, true)

theorem gDigit_byte (v : Nat) (st : Int) :
    gDigit (v : Int) st = if isDigitByte v then .next (st + ((v - 48 : Nat) : Int)) else .ret (0, true) := by
  unfold gDigit isDigitByte
  by_cases h : 48 ≤ v ∧ v ≤ 57
  · rw [if_pos (by omega), if_pos (by simpa using h)]; congr 2; omega
  · rw [if_neg (by omega), if_neg (by simpa using h)]

theorem foldC2_gDigit (r : List Nat) (st : Int) :
    foldC2 gDigit (bytes r) st = if ok2 r then .next (st + (sumE r : Nat)) else .ret (0, true) := by
  induction r using ok2.induct generalizing st with
  | case1 => simp [bytes, foldC2, ok2, sumE]
  | case2 v =>
    simp only [bytes, List.map_cons, List.map_nil, foldC2, Int.ofNat_eq_natCast, gDigit_byte, ok2, sumE]
    by_cases hv : isDigitByte v = true <;> simp only [hv, if_true, Bool.false_eq_true, if_false]
  | case3 v w rest ih =>
    simp only [bytes, List.map_cons, foldC2, Int.ofNat_eq_natCast, gDigit_byte, ok2, sumE] at ih ⊢
    by_cases hv : isDigitByte v = true
    · simp only [hv, if_true, Bool.true_and, ih, Int.natCast_add, Int.add_assoc]
    · simp only [hv, Bool.false_eq_true, if_false, Bool.false_and]

/-- the steps of the two loops of `extensionChecksum` agree on digits: plain addition of `s[i]-'0'` -/
def gPlain (v : Int) (st : Int) : Ctl Int Int := .next (st + (v - 48))

theorem foldC2_gPlain_digits (q : List Nat) (st : Int) :
    foldC2 gPlain (bytes (digitBytes q)) st = .next (st + (evens q : Nat)) := by
  induction q using evens.induct generalizing st with
  | case1 => simp [bytes, digitBytes, foldC2, evens]
  | case2 v => simp [bytes, digitBytes, foldC2, evens, gPlain]
  | case3 v w rest ih =>
    simp only [bytes, digitBytes, List.map_cons, foldC2, evens, gPlain, Int.ofNat_eq_natCast] at ih ⊢
    rw [ih]; congr 1; omega

/-! ## Code 93: weights cycling 1..max from the right -/

/-- the step of the Code 93 loops on an alphabet INDEX `c`: state = (weight, total) -/
def g93 {ρ : Type} (maxW : Int) (c : Int) (st : Int × Int) : Ctl (Int × Int) ρ :=
  .next (if st.1 + 1 > maxW then 1 else st.1 + 1, st.2 + st.1 * c)

theorem foldC_g93 {ρ : Type} (F : Int → Int) (c : Nat → Nat) (r : List Nat)
    (hF : ∀ b ∈ r, F (b : Int) = (c b : Int)) (maxW : Nat) :
    ∀ (w : Nat) (tot : Int), ∃ w' : Nat,
      foldC (ρ := ρ) (fun v st => g93 (maxW : Int) (F v) st) (bytes r) ((w : Int), tot) =
        .next ((w' : Int), tot + (c93SumRev maxW w (r.map c) : Nat)) := by
  induction r with
  | nil => intro w tot; exact ⟨w, by simp [bytes, foldC, c93SumRev]⟩
  | cons b r ih =>
    intro w tot
    have hb := hF b (by simp)
    obtain ⟨w', hw'⟩ := ih (fun x hx => hF x (by simp [hx])) (c93Next maxW w) (tot + (w : Int) * (c b : Int))
    refine ⟨w', ?_⟩
    have hnext : (if (w : Int) + 1 > (maxW : Int) then (1 : Int) else (w : Int) + 1) = ((c93Next maxW w : Nat) : Int) := by
      unfold c93Next
      split <;> split <;> omega
    simp only [bytes, List.map_cons, foldC, g93, Int.ofNat_eq_natCast, hb, hnext] at hw' ⊢
    rw [hw']
    simp only [c93SumRev, Int.natCast_add, Int.natCast_mul]
    congr 2
    rw [Int.mul_comm (c b : Int) (w : Int)]; omega

/-! ## table scans `for d := 0; d < n; d++ { if lg == T[d] { return d, nil } }` -/

theorem loop_scan (T : List Nat) (lg : Nat) (body : Int → Unit → Ctl Unit (Int × Bool))
    (hb : ∀ (i : Nat) (h : i < T.length), body (i : Int) () = if T[i] = lg then .ret ((i : Int), false) else .next ()) :
    ∀ (n a : Nat), a + n ≤ T.length →
      loop body 1 n (a : Int) () =
        match indexOf? lg ((T.drop a).take n) with
        | some d => .ret (((a + d : Nat) : Int), false)
        | none => .next () := by
  intro n
  induction n with
  | zero => intro a _; simp [loop, indexOf?]
  | succ n ih =>
    intro a ha
    have hlt : a < T.length := by omega
    have e : (T.drop a).take (n + 1) = T[a] :: (T.drop (a + 1)).take n := by
      rw [List.drop_eq_getElem_cons hlt, List.take_succ_cons]
    rw [e, loop_succ, hb a hlt]
    simp only [indexOf?]
    by_cases c : T[a] = lg
    · simp [c]
    · simp only [c, if_false]
      have e2 : (a : Int) + 1 = ((a + 1 : Nat) : Int) := by omega
      rw [e2, ih (a + 1) (by omega)]
      cases indexOf? lg ((T.drop (a + 1)).take n) with
      | none => rfl
      | some d => simp only [Option.map_some]; congr 3; omega

end Gzx.K10
