/-
  Helper lemmas for the QR detector models (Gzx/Model/DetQRFinder.lean, DetQRDetector.lean):
  with a total reader (`BitMatrix.Get` of this tree) no operation faults, whatever the float operations do.
-/
import Gzx.Model.DetQRDetector
import Gzx.Proofs.DetWalk
namespace Gzx.Det
open Gzx

namespace QR
attribute [local irreducible] walk

/-! ## cross checks -/

theorem crossCheck_sat {F : Type} (o : FOps F) {rd : Reader} (hrd : Total rd) (vertical : Bool)
    (maxP start q maxCount origTotal : Int) :
    Sat NoFault (fun _ => True) (crossCheck o rd vertical maxP start q maxCount origTotal) := by
  unfold crossCheck
  sat_steps
  all_goals first | exact walk_down_total hrd _ _ _ _ _ | exact walk_up_total hrd _ _ _ _ _ _

theorem crossCheckDiagonal_sat {F : Type} (o : FOps F) {rd : Reader} (hrd : Total rd)
    (maxI maxJ centerI centerJ : Int) :
    Sat NoFault (fun _ => True) (crossCheckDiagonal o rd maxI maxJ centerI centerJ) := by
  unfold crossCheckDiagonal
  sat_steps
  all_goals first
    | exact walk_up_guard_total hrd _ _ _ _ (centerI + 1) _ _ (fun p h => by
        simp only [Bool.and_eq_true, decide_eq_true_eq] at h; omega)
    | exact walk_up_guard_total hrd _ _ _ _ (maxI - centerI) _ _ (fun p h => by
        simp only [Bool.and_eq_true, decide_eq_true_eq] at h; omega)

attribute [local irreducible] crossCheck crossCheckDiagonal in
theorem handlePossibleCenter_sat {F : Type} (o : FOps F) {rd : Reader} (hrd : Total rd)
    (maxI maxJ : Int) (fs : FS F) (sc : SC5) (i j : Int) :
    Sat NoFault (fun _ => True) (handlePossibleCenter o rd maxI maxJ fs sc i j) := by
  unfold handlePossibleCenter
  simp only []
  sat_steps
  all_goals first
    | exact crossCheck_sat o hrd _ _ _ _ _ _
    | exact crossCheckDiagonal_sat o hrd _ _ _ _

/-! ## the row scan -/

def SC5.NonNeg (s : SC5) : Prop := 0 ≤ s.c0 ∧ 0 ≤ s.c1 ∧ 0 ≤ s.c2 ∧ 0 ≤ s.c3 ∧ 0 ≤ s.c4

theorem SC5.inc_sat (s : SC5) (i : Int) (h0 : 0 ≤ i) (h4 : i ≤ 4) (hs : s.NonNeg) :
    Sat NoFault SC5.NonNeg (s.inc i) := by
  obtain ⟨a0, a1, a2, a3, a4⟩ := hs
  rcases (by omega : i = 0 ∨ i = 1 ∨ i = 2 ∨ i = 3 ∨ i = 4) with rfl | rfl | rfl | rfl | rfl <;>
    refine Sat.ok ⟨?_, ?_, ?_, ?_, ?_⟩ <;> simp only [] <;> omega

theorem SC5.zero_nonneg : SC5.zero.NonNeg := by simp [SC5.zero, SC5.NonNeg]

theorem SC5.shift2_nonneg (s : SC5) (h : s.NonNeg) : s.shift2.NonNeg := by
  obtain ⟨a0, a1, a2, a3, a4⟩ := h
  exact ⟨a2, a3, a4, by simp only [SC5.shift2]; omega, by simp only [SC5.shift2]; omega⟩

theorem plausible_c0 (s : SC5) (hs : s.NonNeg) (h : s.plausible = true) : 1 ≤ s.c0 := by
  unfold SC5.plausible at h
  simp only [Bool.and_eq_true, Bool.not_eq_true', Bool.or_eq_false_iff, beq_eq_false_iff_ne] at h
  have := h.1.1.1.1.1
  have := hs.1
  omega

theorem zero_not_plausible : SC5.zero.plausible = false := by decide

theorem foundPatternCross_plausible {F : Type} (o : FOps F) (s : SC5) (h : foundPatternCross o s = true) :
    s.plausible = true := by
  unfold foundPatternCross at h
  simp only [Bool.and_eq_true] at h
  exact h.1

def ScanInv {F : Type} (s : Scan F) : Prop := s.sc.NonNeg ∧ 0 ≤ s.cur ∧ s.cur ≤ 4 ∧ 1 ≤ s.iSkip

/-- the row position after a step: unchanged, or (row left through the skip) moved back by at most one
    with `iSkip = 2` and cleared counters.  Cleared counters are not `plausible`, which is how `scanRow_sat`
    tells afterwards that a row on which the end-of-row pattern test fires was not left through the skip. -/
def RowPos {F : Type} (i0 : Int) (s : Scan F) : Prop :=
  s.i = i0 ∨ (i0 - 1 ≤ s.i ∧ s.iSkip = 2 ∧ s.sc = SC5.zero)

/-- what a pixel step from `s` answers: the invariant; a step that goes on in the row has not moved it, one that
    leaves the row (second component) has at most taken the skip -/
def StepPost {F : Type} (s : Scan F) (r : Scan F × Bool) : Prop :=
  ScanInv r.1 ∧ (r.2 = false → r.1.i = s.i) ∧ (r.2 = true → RowPos s.i r.1)

theorem pixelStep_sat {F : Type} (o : FOps F) {rd : Reader} (hrd : Total rd) (maxI maxJ : Int) (s : Scan F) (j : Int)
    (hs : ScanInv s) : Sat NoFault (StepPost s) (pixelStep o rd maxI maxJ s j) := by
  obtain ⟨hnn, hc0, hc4, hsk⟩ := hs
  -- every branch but the row skip stays in the row
  have stay : ∀ {s' : Scan F}, ScanInv s' → s'.i = s.i → Sat NoFault (StepPost s) (pure (s', false)) :=
    fun h hi => ⟨h, fun _ => hi, nofun⟩
  -- the two states a finder-pattern candidate leaves: counters cleared / shifted by two
  have cleared : ∀ (fs : FS F) (i : Int) (d : Bool), ScanInv (⟨fs, SC5.zero, 0, i, 2, d⟩ : Scan F) := fun _ _ _ =>
    ⟨SC5.zero_nonneg, by simp only []; omega, by simp only []; omega, by simp only []; omega⟩
  have shifted : ∀ fs : FS F, ScanInv (⟨fs, s.sc.shift2, 3, s.i, s.iSkip, s.done⟩ : Scan F) := fun _ =>
    ⟨SC5.shift2_nonneg _ hnn, by simp only []; omega, by simp only []; omega, hsk⟩
  unfold pixelStep
  refine Sat.then (hrd.sat trivial) fun b => Sat.ite (fun _ => ?_) fun _ => Sat.ite (fun heven =>
    Sat.ite (fun h4 => Sat.ite (fun _ => ?_) fun _ => ?_) fun h4 => ?_) fun hodd => ?_
  · exact Sat.bind (SC5.inc_sat s.sc _ (by split <;> omega) (by split <;> omega) hnn) fun sc hsc =>
      stay ⟨hsc, by simp only []; split <;> omega, by simp only []; split <;> omega, hsk⟩ rfl
  · refine Sat.then (handlePossibleCenter_sat o hrd maxI maxJ s.fs s.sc s.i j) fun ⟨confirmed, fs⟩ => ?_
    refine Sat.ite (fun _ => Sat.ite (fun _ => stay (cleared _ _ _) rfl) fun _ => ?_) fun _ =>
      stay (shifted _) rfl
    rcases findRowSkip o fs with ⟨rowSkip, fs'⟩
    exact Sat.ite (fun _ => Sat.ok ⟨cleared _ _ _, nofun,
      fun _ => Or.inr ⟨by simp only []; omega, rfl, rfl⟩⟩) fun _ => stay (cleared _ _ _) rfl
  · exact stay (shifted _) rfl
  · exact Sat.bind (SC5.inc_sat s.sc _ (by omega) (by omega) hnn) fun sc hsc =>
      stay ⟨hsc, by simp only []; omega, by simp only []; omega, hsk⟩ rfl
  · exact Sat.bind (SC5.inc_sat s.sc _ hc0 hc4 hnn) fun sc hsc => stay ⟨hsc, hc0, hc4, hsk⟩ rfl

theorem rowLoop_sat {F : Type} (o : FOps F) {rd : Reader} (hrd : Total rd) (maxI maxJ : Int) :
    ∀ (n : Nat) (j : Int) (s : Scan F), ScanInv s →
      Sat NoFault (fun r => ScanInv r ∧ RowPos s.i r) (rowLoop o rd maxI maxJ n j s)
  | 0, _, _, hs => Sat.ok ⟨hs, Or.inl rfl⟩
  | n + 1, j, s, hs => by
    unfold rowLoop
    refine Sat.bind (pixelStep_sat o hrd maxI maxJ s j hs) fun ⟨s', leave⟩ ⟨h1, h2, h3⟩ =>
      Sat.ite (fun hl => Sat.ok ⟨h1, h3 hl⟩) fun hl => ?_
    rw [← h2 (by simpa using hl)]
    exact rowLoop_sat o hrd maxI maxJ n (j + 1) s' h1

/-- one row: the invariant is kept and the next row index is strictly larger -/
theorem scanRow_sat {F : Type} (o : FOps F) {rd : Reader} (hrd : Total rd) (maxI maxJ : Int) (s : Scan F)
    (hs : ScanInv s) :
    Sat NoFault (fun r => ScanInv r ∧ s.i + 1 ≤ r.i + r.iSkip) (scanRow o rd maxI maxJ s) := by
  unfold scanRow
  have start : ScanInv { s with sc := SC5.zero, cur := 0 } :=
    ⟨SC5.zero_nonneg, by simp only []; omega, by simp only []; omega, hs.2.2.2⟩
  refine Sat.bind (rowLoop_sat o hrd maxI maxJ _ 0 _ start)
    fun s1 ⟨⟨hnn, hc0, hc4, hsk⟩, hpos⟩ => Sat.ite (fun hf => ?_) fun _ => Sat.ok ⟨⟨hnn, hc0, hc4, hsk⟩, ?_⟩
  · have hpl := foundPatternCross_plausible o _ hf
    have hc0' := plausible_c0 _ hnn hpl
    have hi : s1.i = s.i := by
      rcases hpos with h | ⟨_, _, hz⟩
      · exact h
      · rw [hz, zero_not_plausible] at hpl; cases hpl
    refine Sat.then (handlePossibleCenter_sat o hrd maxI maxJ s1.fs s1.sc s1.i maxJ) fun ⟨confirmed, fs⟩ =>
      Sat.ite (fun _ => Sat.ite (fun _ => Sat.ok ⟨⟨hnn, hc0, hc4, hc0'⟩, ?_⟩)
        fun _ => Sat.ok ⟨⟨hnn, hc0, hc4, hc0'⟩, ?_⟩)
        fun _ => Sat.ok ⟨⟨hnn, hc0, hc4, hsk⟩, ?_⟩
    all_goals simp only []; omega
  · simp only [] at hpos
    rcases hpos with h | ⟨h1, h2, _⟩ <;> omega

theorem rowsLoop_sat {F : Type} (o : FOps F) {rd : Reader} (hrd : Total rd) (maxI maxJ : Int) :
    ∀ (n : Nat) (s : Scan F), ScanInv s → (maxI - s.i).toNat ≤ n →
      Sat NoFault (fun _ => True) (rowsLoop o rd maxI maxJ n s)
  | 0, s, _, hn => by
    unfold rowsLoop
    exact Sat.ite (fun hc => by omega) fun _ => Sat.ok trivial
  | n + 1, s, hs, hn => by
    unfold rowsLoop
    exact Sat.ite (fun hc => Sat.bind (scanRow_sat o hrd maxI maxJ s hs) fun s' ⟨h1, h2⟩ =>
      rowsLoop_sat o hrd maxI maxJ n _ h1 (by simp only []; omega)) fun _ => Sat.ok trivial

theorem findScan_sat {F : Type} (o : FOps F) {rd : Reader} (hrd : Total rd) (maxI maxJ : Int) (tryHarder : Bool) :
    Sat NoFault (fun _ => True) (findScan o rd maxI maxJ tryHarder) := by
  unfold findScan
  simp only []
  refine rowsLoop_sat o hrd maxI maxJ _ _ ⟨SC5.zero_nonneg, by simp only []; omega, by simp only []; omega, ?_⟩ ?_
  · simp only []; split <;> omega
  · simp only []; split <;> omega

end QR
end Gzx.Det
