/-
  Every one of the nine row decoders refuses a row without a single black pixel with NotFound.  Used by the sideways
  theorem of Properties/C09Image.lean (the pixel rows of a rendered symbol turned by 90° have one colour each) and to
  show that a symbol which is read back has a bar.
-/
import Gzx.Proofs.Image1DPath
import Gzx.Properties.C03RowFull
import Gzx.Proofs.Row39Code93
import Gzx.Proofs.Row39Code39
namespace Gzx.Image1DWhite
open Gzx Gzx.Image1D Gzx.OneD

theorem white_all (N : Nat) : ∀ b ∈ List.replicate N false, b = false := fun _ hb => (List.mem_replicate.mp hb).2

theorem getNextSet_white (N : Nat) : getNextSet (List.replicate N false) 0 = N := by
  have := Row39.getNextSet_white _ (white_all N)
  simpa using this

theorem code128_white (P : List (List Nat)) (N : Nat) (gs1 : Bool) :
    Row128.decodeRow Row128.exactDom P (List.replicate N false) gs1 = .error .notFound := by
  unfold Row128.decodeRow Row128.findStartPattern
  simp only [getNextSet_white]
  rw [show (List.replicate N false).drop N = [] by simp]
  rfl

theorem code39_white (T : Tables) (ck ext : Bool) (N : Nat) :
    Row39.c39DecodeRow T ck ext (List.replicate N false) = .error .notFound := by
  unfold Row39.c39DecodeRow Row39.c39FindAsterisk
  simp only [getNextSet_white]
  rw [show (List.replicate N false).drop N = [] by simp]
  rfl

theorem code93_white (T : Tables) (hT : Row39.WF93Row T = true) (N : Nat) :
    Row39.c93DecodeRow T (List.replicate N false) = .error .notFound := by
  have f := Row39.wf93Facts T hT
  have hn : ∃ star, nth T.code93Enc 47 = .ok star := by
    unfold nth
    have : 47 < T.code93Enc.length := by rw [f.encLen]; omega
    rw [List.getElem?_eq_getElem this]
    exact ⟨_, rfl⟩
  obtain ⟨star, hs⟩ := hn
  unfold Row39.c93DecodeRow Row39.c93FindAsterisk
  rw [hs]
  simp only [getNextSet_white]
  rw [show (List.replicate N false).drop N = [] by simp]
  rfl

theorem itf_white (I : RowITF.ItfT) (N : Nat) (allowed : Option (List Int)) :
    RowITF.decodeRow Row128.exactDom I (List.replicate N false) allowed = .error .notFound := by
  unfold RowITF.decodeRow RowITF.decodeStart RowITF.skipWhiteSpace
  simp only [getNextSet_white, List.length_replicate, if_true]
  rfl

theorem cbCountLoop_white (N c : Nat) (acc : List Nat) :
    Row39.cbCountLoop (List.replicate N false) true c acc = ((c + N) :: acc).reverse := by
  induction N generalizing c with
  | zero => rfl
  | succ n ih =>
    rw [List.replicate_succ, Row39.cbCountLoop]
    simp only [bne_iff_ne, ne_eq, Bool.false_eq_true, not_false_eq_true, if_true]
    rw [ih]
    congr 2; omega

theorem codabar_white (T : Tables) (retSE : Bool) (N : Nat) :
    Row39.cbDecodeRow T retSE (List.replicate N false) = .error .notFound := by
  unfold Row39.cbDecodeRow Row39.cbScan Row39.cbSetCounters
  cases N with
  | zero => rfl
  | succ n =>
    have h0 : getNextUnset (List.replicate (n + 1) false) 0 = 0 := by simp [List.replicate_succ, getNextUnset]
    simp only [h0, List.length_replicate, List.drop_zero]
    rw [if_neg (by omega), cbCountLoop_white]
    simp [Row39.cbFindStart, Row39.cbFindStartLoop]

theorem upc_white (E : Env) (k : CheckDigit.EanKind) (rn : Int) (N : Nat) :
    upcRow E k rn (List.replicate N false) = .error .notFound := by
  have hg : OneD.findStartGuardPattern E.T (List.replicate N false) = .error .notFound := by
    unfold OneD.findStartGuardPattern
    simp only [findStartLoop, findGuardPattern, Bool.false_eq_true, if_false, getNextSet_white,
      List.length_replicate, Nat.min_self]
    rw [show (List.replicate N false).drop N = [] by simp]
    rfl
  unfold upcRow OneDRowExt.decodeRow
  rw [Proofs.OneDRowExtExact.findStartGuardPattern_exact, hg]
  rfl

/-- Code 93: for a well-formed table — the asterisk encoding is looked up first -/
theorem rowRead_white (E : Env) (ext39 : Bool) (sym : Sym) (h93 : sym = .code93 → Row39.WF93Row E.T = true) (rn : Int)
    (N : Nat) : rowRead E ext39 sym rn (List.replicate N false) = .error .notFound := by
  cases sym
  case code93 => simp only [rowRead, code93_white E.T (h93 rfl), Except.map]
  all_goals simp only [rowRead, upc_white, code128_white, code39_white, itf_white, codabar_white, Except.map]

/-! ## `Readable` without its `bar` -/

open Gzx.Image1DPath in
/-- a symbol that a row decoder reads back has a bar: without one its padded row is all white -/
theorem bar_of_read (E : Env) (ext39 : Bool) (sym : Sym) (h93 : sym = .code93 → Row39.WF93Row E.T = true)
    (mods : List Bool) (lq s rq : Nat) (rn : Int) (t : Sym × List Nat)
    (h : rowRead E ext39 sym rn (paddedRow lq s rq mods) = .ok t) : true ∈ mods := by
  apply Classical.byContradiction
  intro hno
  rw [paddedRow_allwhite _ _ _ _ hno, rowRead_white E ext39 sym h93] at h
  cases h

open Gzx.Image1DPath in
theorem _root_.Gzx.Image1DPath.Readable.of_read {E : Env} {sym : Sym} {ext39 : Bool} {contents : List Nat} {width height : Nat}
    {margin forced : Option Nat} {canonical : List Nat} {mods : List Bool} {m : Nat}
    (hm : 2 ≤ m) (h93 : scanSym sym = .code93 → Row39.WF93Row E.T = true)
    (write : writeImage E.T sym contents (width : Int) (height : Int) (margin.map Int.ofNat) forced =
      Render.render1D mods (width : Int) (height : Int) (m : Int))
    (read : ∀ (lq s rq : Nat) (rn : Int), 1 ≤ s → m * s ≤ lq + rq → lq = (lq + rq) / 2 → s ≤ max 1 width →
      ∃ t, rowRead E ext39 (scanSym sym) rn (paddedRow lq s rq mods) = .ok t ∧ finishRead sym t = .ok (sym, canonical)) :
    Readable E sym ext39 contents width height margin forced canonical mods m := by
  -- any row with the renderer's geometry will do: one pixel per module, `m` white pixels on either side
  obtain ⟨t, ht, _⟩ := read m 1 m 0 (by omega) (by omega) (by omega) (by omega)
  exact ⟨hm, bar_of_read E ext39 _ h93 mods m 1 m 0 t ht, write, read⟩

end Gzx.Image1DWhite
