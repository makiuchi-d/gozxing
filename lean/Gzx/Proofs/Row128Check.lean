/-
  Helper lemmas for Properties/C10Row128.lean: the running checksum of the row model's `for !done` loop.
-/
import Gzx.Proofs.Row128Bridge
namespace Gzx.Row128
open Gzx Gzx.OneD Gzx.CheckDigit

/-- the checksum fields of the loop state -/
def chk (s : St) : Nat × Nat × Nat × Nat := (s.total, s.mult, s.code, s.lastCode)

theorem fnc1_chk (g : Bool) (s : St) : chk (fnc1 g s) = chk s := by
  unfold fnc1 chk; simp only []; split <;> (try split) <;> (try split) <;> (try split) <;> rfl
theorem fnc4_chk (s : St) : chk (fnc4 s) = chk s := by
  unfold fnc4 chk; split <;> (try split) <;> rfl
theorem np_chk (s : St) (c : Nat) : chk (np s c) = chk s := by
  unfold np chk; split <;> rfl

theorem chk_ite (c : Prop) [Decidable c] (a b : St) (x : Nat × Nat × Nat × Nat) (ha : chk a = x) (hb : chk b = x) :
    chk (if c then a else b) = x := by
  split <;> assumption

/-- the `switch codeSet` block never touches the checksum variables -/
theorem stepBody_chk (g : Bool) (t : St) (code : Nat) : chk (stepBody g t code).1 = chk t := by
  unfold stepBody
  simp only [apply_ite Prod.fst]
  repeat' (apply chk_ite)
  all_goals (first | rfl | exact fnc1_chk g _ ▸ np_chk t code | exact fnc4_chk _ ▸ np_chk t code | exact np_chk t code | skip)
  all_goals (simp only [chk, np]; split <;> rfl)

theorem stepPost_chk (u : Bool) (s : St) : chk (stepPost u s) = chk s := by
  unfold stepPost; split <;> rfl

/-- one loop iteration on a code that is neither a start code nor STOP -/
theorem step_data (g : Bool) (s : St) (c : Nat) (hc : c < 103) (hcs : CS s) :
    ∃ s', step g s c = .ok (s', false) ∧ CS s' ∧
      chk s' = (s.total + (s.mult + 1) * c, s.mult + 1, c, s.code) := by
  obtain ⟨s', d, hstep⟩ := step_not_start g s c (by omega)
  have hd := step_CS g s c s' d hcs hstep
  have hdf : d = false := by rw [hd.2]; simp; omega
  subst hdf
  refine ⟨s', hstep, hd.1, ?_⟩
  unfold step at hstep
  rw [if_neg (by omega)] at hstep
  simp only [Except.ok.injEq, Prod.mk.injEq] at hstep
  rw [← hstep.1, stepPost_chk, stepBody_chk]
  have h106 : c ≠ 106 := by omega
  simp [chk, stepPre, h106]

/-- the iteration that decodes STOP -/
theorem step_stop (g : Bool) (s : St) (hcs : CS s) :
    ∃ s', step g s 106 = .ok (s', true) ∧ chk s' = (s.total, s.mult, 106, s.code) := by
  obtain ⟨s', d, hstep⟩ := step_not_start g s 106 (by omega)
  have hd := step_CS g s 106 s' d hcs hstep
  have hdt : d = true := by rw [hd.2]; simp
  subst hdt
  refine ⟨s', hstep, ?_⟩
  unfold step at hstep
  rw [if_neg (by omega)] at hstep
  simp only [Except.ok.injEq, Prod.mk.injEq] at hstep
  rw [← hstep.1, stepPost_chk, stepBody_chk]
  simp [chk, stepPre]

/-- the loop over data / check characters below 103 followed by STOP: total, multiplier and lastCode at the end -/
theorem symRun_data (g : Bool) : ∀ (codes : List Nat) (s : St), (∀ c ∈ codes, c < 103) → CS s →
    ∃ s', symRun g (codes ++ [106]) s = .ok s' ∧ s'.total = s.total + wsumFrom (s.mult + 1) codes ∧
      s'.mult = s.mult + codes.length ∧ s'.lastCode = (codes.getLast?).getD s.code
  | [], s, _, hcs => by
    obtain ⟨s', hstep, hchk⟩ := step_stop g s hcs
    refine ⟨s', by simp [symRun, hstep], ?_⟩
    simp only [chk, Prod.mk.injEq] at hchk
    simp [wsumFrom, hchk.1, hchk.2.1, hchk.2.2.2]
  | c :: cs, s, h, hcs => by
    obtain ⟨s1, hstep, hcs1, hchk⟩ := step_data g s c (h c (by simp)) hcs
    obtain ⟨s', hrun, h1, h2, h3⟩ := symRun_data g cs s1 (fun x hx => h x (by simp [hx])) hcs1
    simp only [chk, Prod.mk.injEq] at hchk
    refine ⟨s', by simp [symRun, hstep, hrun], ?_, ?_, ?_⟩
    · rw [h1, hchk.1, hchk.2.1]; simp only [wsumFrom]; omega
    · rw [h2, hchk.2.1]; simp; omega
    · rw [h3, hchk.2.2.1]
      cases cs with
      | nil => simp
      | cons x xs =>
        have : ∃ l, (x :: xs).getLast? = some l := by
          cases hl : (x :: xs).getLast? with
          | none => simp at hl
          | some l => exact ⟨l, rfl⟩
        obtain ⟨l, hl⟩ := this
        simp [List.getLast?_cons_cons, hl]

end Gzx.Row128
