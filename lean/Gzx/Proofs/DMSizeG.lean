/-
  C08: `Gzx.DMProofs.sizeCheck` per size.  The kernel runs the Annex F placement program once over the mapping matrix of
  the size (`placeCheck`); the decoder's half of `sizeCheck` follows from `read_eq_place` (Proofs/DMReadOrder.lean).
  Heavy for the kernel (about 2 ms per module of the matrix); split over several files so that lake checks them side by side.
-/
import Gzx.Proofs.DMReadOrder
namespace Gzx.DMProofs

/-- symbol 10x10: mapping matrix 8x8, 8 codewords -/
theorem check_10x10 : sizeCheck 8 8 8 = true :=
  sizeCheck_of_placeCheck (by decide +kernel)

/-- symbol 12x12: mapping matrix 10x10, 12 codewords -/
theorem check_12x12 : sizeCheck 10 10 12 = true :=
  sizeCheck_of_placeCheck (by decide +kernel)

/-- symbol 14x14: mapping matrix 12x12, 18 codewords -/
theorem check_14x14 : sizeCheck 12 12 18 = true :=
  sizeCheck_of_placeCheck (by decide +kernel)

/-- symbol 16x16: mapping matrix 14x14, 24 codewords -/
theorem check_16x16 : sizeCheck 14 14 24 = true :=
  sizeCheck_of_placeCheck (by decide +kernel)

/-- symbol 18x18: mapping matrix 16x16, 32 codewords -/
theorem check_18x18 : sizeCheck 16 16 32 = true :=
  sizeCheck_of_placeCheck (by decide +kernel)

/-- symbol 20x20: mapping matrix 18x18, 40 codewords -/
theorem check_20x20 : sizeCheck 18 18 40 = true :=
  sizeCheck_of_placeCheck (by decide +kernel)

/-- symbol 22x22: mapping matrix 20x20, 50 codewords -/
theorem check_22x22 : sizeCheck 20 20 50 = true :=
  sizeCheck_of_placeCheck (by decide +kernel)

/-- symbol 24x24: mapping matrix 22x22, 60 codewords -/
theorem check_24x24 : sizeCheck 22 22 60 = true :=
  sizeCheck_of_placeCheck (by decide +kernel)

/-- symbol 26x26: mapping matrix 24x24, 72 codewords -/
theorem check_26x26 : sizeCheck 24 24 72 = true :=
  sizeCheck_of_placeCheck (by decide +kernel)

/-- symbol 8x18: mapping matrix 6x16, 12 codewords -/
theorem check_8x18 : sizeCheck 6 16 12 = true :=
  sizeCheck_of_placeCheck (by decide +kernel)

/-- symbol 8x32: mapping matrix 6x28, 21 codewords -/
theorem check_8x32 : sizeCheck 6 28 21 = true :=
  sizeCheck_of_placeCheck (by decide +kernel)

/-- symbol 12x26: mapping matrix 10x24, 30 codewords -/
theorem check_12x26 : sizeCheck 10 24 30 = true :=
  sizeCheck_of_placeCheck (by decide +kernel)

/-- symbol 12x36: mapping matrix 10x32, 40 codewords -/
theorem check_12x36 : sizeCheck 10 32 40 = true :=
  sizeCheck_of_placeCheck (by decide +kernel)

/-- symbol 16x36: mapping matrix 14x32, 56 codewords -/
theorem check_16x36 : sizeCheck 14 32 56 = true :=
  sizeCheck_of_placeCheck (by decide +kernel)

/-- symbol 16x48: mapping matrix 14x44, 77 codewords -/
theorem check_16x48 : sizeCheck 14 44 77 = true :=
  sizeCheck_of_placeCheck (by decide +kernel)

end Gzx.DMProofs
