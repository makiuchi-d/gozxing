/-
  `StringUtils_guessCharset` on structurally well-formed UTF-8 (C15 / C01 `guess_utf8`).
-/
import Gzx.Proofs.ECILemmas
namespace Gzx.ECI
open Gzx Gzx.QRDec

def isCont (b : Nat) : Bool := decide (0x80 ≤ b) && decide (b < 0xC0)

/-- one UTF-8 encoded character by its byte classes: 0xxxxxxx | 110xxxxx 10xxxxxx | 1110xxxx 10.. 10.. |
    11110xxx 10.. 10.. 10..  (a superset of valid UTF-8: overlong forms and surrogates are not excluded) -/
def wfChar : List Nat → Bool
  | [a] => decide (a < 0x80)
  | [l, c1] => decide (0xC0 ≤ l) && decide (l < 0xE0) && isCont c1
  | [l, c1, c2] => decide (0xE0 ≤ l) && decide (l < 0xF0) && isCont c1 && isCont c2
  | [l, c1, c2, c3] => decide (0xF0 ≤ l) && decide (l < 0xF8) && isCont c1 && isCont c2 && isCont c3
  | _ => false

/-- the UTF-8 automaton is in its rest state and has seen `n` multi-byte characters -/
def Good (s : Utf8St) (n : Nat) : Prop := s.can = true ∧ s.left = 0 ∧ s.two + s.three + s.four = n

theorem cont_step (s : Utf8St) (b : Nat) (hc : isCont b = true) (hcan : s.can = true) (hl : s.left > 0) :
    utf8Step s b = { s with left := s.left - 1 } := by
  simp only [isCont, Bool.and_eq_true, decide_eq_true_eq] at hc
  have f := (bf1 b (by omega)).2.1 hc.1
  unfold utf8Step
  simp [hcan, hl, f]

theorem char_step (c : List Nat) (h : wfChar c = true) (s : Utf8St) (n : Nat) (hs : Good s n) :
    Good (c.foldl utf8Step s) (n + (if c.length > 1 then 1 else 0)) := by
  obtain ⟨hcan, hleft, hn⟩ := hs
  match c, h with
  | [a], h =>
    simp only [wfChar, decide_eq_true_eq] at h
    have f := (bf1 a (by omega)).1 h
    have : utf8Step s a = s := by
      unfold utf8Step; simp [hcan, hleft, f.1]
    simp [List.foldl, this, Good, hcan, hleft, hn]
  | [l, c1], h =>
    simp only [wfChar, Bool.and_eq_true, decide_eq_true_eq] at h
    obtain ⟨⟨h1, h2⟩, h3⟩ := h
    have f1 := (bf1 l (by omega)).2.1 (by omega)
    have f2 := (bf2 l (by omega)).1 h1
    have f3 := (bf2 l (by omega)).2.1 h1 h2
    have e1 : utf8Step s l = { s with left := s.left + 1, two := s.two + 1 } := by
      unfold utf8Step; simp [hcan, hleft, f1, f2.1, f3.1]
    simp only [List.foldl, e1]
    rw [cont_step _ c1 h3 (by simp [hcan]) (by simp)]
    simp [Good, hcan, hleft]; omega
  | [l, c1, c2], h =>
    simp only [wfChar, Bool.and_eq_true, decide_eq_true_eq] at h
    obtain ⟨⟨⟨h1, h2⟩, h3⟩, h4⟩ := h
    have f1 := (bf1 l (by omega)).2.1 (by omega)
    have f2 := (bf2 l (by omega)).1 (by omega)
    have f3 := (bf2 l (by omega)).2.2 h1
    have f4 := (bf3 l (by omega)).1 h1 h2
    have e1 : utf8Step s l = { s with left := s.left + 2, three := s.three + 1 } := by
      unfold utf8Step; simp [hcan, hleft, f1, f2.1, f3.1, f4]
    simp only [List.foldl, e1]
    rw [cont_step _ c1 h3 (by simp [hcan]) (by simp)]
    rw [cont_step _ c2 h4 (by simp [hcan]) (by simp [hleft])]
    simp [Good, hcan, hleft]; omega
  | [l, c1, c2, c3], h =>
    simp only [wfChar, Bool.and_eq_true, decide_eq_true_eq] at h
    obtain ⟨⟨⟨⟨h1, h2⟩, h3⟩, h4⟩, h5⟩ := h
    have f1 := (bf1 l (by omega)).2.1 (by omega)
    have f2 := (bf2 l (by omega)).1 (by omega)
    have f3 := (bf2 l (by omega)).2.2 (by omega)
    have f4 := (bf3 l (by omega)).2.1 h1
    have f5 := (bf3 l (by omega)).2.2.1 h1 h2
    have e1 : utf8Step s l = { s with left := s.left + 3, four := s.four + 1 } := by
      unfold utf8Step; simp [hcan, hleft, f1, f2.1, f3.1, f4, f5]
    simp only [List.foldl, e1]
    rw [cont_step _ c1 h3 (by simp [hcan]) (by simp)]
    rw [cont_step _ c2 h4 (by simp [hcan]) (by simp [hleft])]
    rw [cont_step _ c3 h5 (by simp [hcan]) (by simp [hleft])]
    simp [Good, hcan, hleft]; omega

def multiCount (chars : List (List Nat)) : Nat := (chars.filter (fun c => c.length > 1)).length

theorem chars_step (chars : List (List Nat)) (h : ∀ c ∈ chars, wfChar c = true) (s : Utf8St) (n : Nat)
    (hs : Good s n) : Good (chars.flatten.foldl utf8Step s) (n + multiCount chars) := by
  induction chars generalizing s n with
  | nil => simpa [multiCount] using hs
  | cons c cs ih =>
    simp only [List.flatten_cons, List.foldl_append]
    have g := char_step c (h c (by simp)) s n hs
    have := ih (fun c' hc' => h c' (List.mem_cons_of_mem _ hc')) _ _ g
    have e : n + multiCount (c :: cs) = n + (if c.length > 1 then 1 else 0) + multiCount cs := by
      unfold multiCount
      by_cases hc : c.length > 1 <;> simp [List.filter, hc] <;> omega
    rw [e]; exact this

theorem guessStep_u (g : GuessSt) (v : Nat) : (guessStep g v).u = utf8Step g.u v := by
  unfold guessStep
  split
  · rfl
  · rename_i h
    have hc : g.u.can = false := by
      cases hu : g.u.can <;> simp [hu] at h ⊢
    unfold utf8Step; simp [hc]

theorem foldl_guessStep_u (bs : List Nat) (g : GuessSt) : (bs.foldl guessStep g).u = bs.foldl utf8Step g.u := by
  induction bs generalizing g with
  | nil => rfl
  | cons b bs ih => simp only [List.foldl]; rw [ih, guessStep_u]

theorem guessStep_ascii (v : Nat) (hv : v < 0x80) : guessStep {} v = {} := by
  have f := (bf1 v (by omega)).1 hv
  unfold guessStep utf8Step isoStep sjisStep
  have h2 : ¬ (v > 0x9F ∧ (v < 0xC0 ∨ v = 0xD7 ∨ v = 0xF7)) := by omega
  have h3 : ¬ (v = 0x80 ∨ v = 0xA0 ∨ v > 0xEF) := by omega
  have h4 : ¬ (v > 0xA0 ∧ v < 0xE0) := by omega
  have h5 : ¬ v > 0x7F := by omega
  simp [f.1, h2, h3, h4, h5]

theorem foldl_guessStep_ascii (bs : List Nat) (h : ∀ b ∈ bs, b < 0x80) : bs.foldl guessStep {} = {} := by
  induction bs with
  | nil => rfl
  | cons b bs ih =>
    simp only [List.foldl]
    rw [guessStep_ascii b (h b (by simp))]
    exact ih (fun x hx => h x (List.mem_cons_of_mem _ hx))

end Gzx.ECI
