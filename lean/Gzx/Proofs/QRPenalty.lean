/-
  The executable mask-evaluation functions of the reference construction against declarative
  readings of ISO/IEC 18004 Table 11 (N1, N2, N4; N3 as a position count).
-/
import Gzx.Ref.QR
namespace Gzx.QRRef

/-! ### N1: runs of five or more modules of one colour -/

/-- lengths of the maximal same-colour runs of a line, continuing a run of `cnt` modules of colour `cur` -/
def runsFrom : List Bool → Bool → Nat → List Nat
  | [], _, cnt => [cnt]
  | b :: bs, cur, cnt => if b = cur then runsFrom bs cur (cnt + 1) else cnt :: runsFrom bs b 1

/-- lengths of the maximal same-colour runs of a line -/
def lineRuns : List Bool → List Nat
  | [] => []
  | b :: bs => runsFrom bs b 1

/-- Table 11, first row: a run of `5 + i` modules scores `N1 + i = 3 + i`; shorter runs nothing -/
def runScore (r : Nat) : Nat := if r ≥ 5 then 3 + (r - 5) else 0

/-- A `foldr` sum, so that it unfolds along the recursion of `runsFrom` (`cnt :: runsFrom …`): that is why
    `runPenalty_some` closes by `List.foldr_cons` and the induction hypothesis.  The executable `penalty1` adds up
    with the `foldl` sum `sumL`. -/
def sumN (xs : List Nat) : Nat := xs.foldr (· + ·) 0

theorem runPenalty_some (bs : List Bool) (c : Bool) (k : Nat) :
    runPenalty bs (some c) k = sumN ((runsFrom bs c k).map runScore) := by
  induction bs generalizing c k with
  | nil => simp [runPenalty, runsFrom, sumN, runScore]
  | cons b bs ih =>
    unfold runPenalty runsFrom
    by_cases h : b = c
    · subst h
      simp only [if_true]
      exact ih b (k + 1)
    · have h' : ¬ some c = some b := fun e => h (Option.some.inj e).symm
      simp only [h', h, if_false, List.map_cons, sumN, List.foldr_cons]
      rw [ih b 1]
      rfl

/-- the executable run penalty of a line is the sum of the Table 11 scores of
    its maximal runs -/
theorem penalty_n1_line (row : List Bool) :
    runPenalty row none 0 = sumN ((lineRuns row).map runScore) := by
  cases row with
  | nil => rfl
  | cons b bs =>
    unfold runPenalty lineRuns
    have : ¬ (none : Option Bool) = some b := by simp
    simp only [this, if_false]
    rw [runPenalty_some]
    simp

/-- the maximal runs partition the line -/
theorem runsFrom_sum (bs : List Bool) (c : Bool) (k : Nat) : sumN (runsFrom bs c k) = k + bs.length := by
  induction bs generalizing c k with
  | nil => simp [runsFrom, sumN]
  | cons b bs ih =>
    unfold runsFrom
    split
    · rw [ih]; simp; omega
    · simp only [sumN, List.foldr_cons] at ih ⊢
      rw [ih]; simp; omega

theorem lineRuns_sum (row : List Bool) : sumN (lineRuns row) = row.length := by
  cases row with
  | nil => rfl
  | cons b bs => unfold lineRuns; rw [runsFrom_sum]; simp; omega

/-! ### N2: blocks of one colour -/

def solidRow (c : Bool) (w : Nat) : List Bool := List.replicate w c

theorem blocks2_solid (c : Bool) : ∀ w, blocks2 (solidRow c (w + 1)) (solidRow c (w + 1)) = w := by
  intro w
  induction w with
  | zero => rfl
  | succ w ih =>
    have e : solidRow c (w + 1 + 1) = c :: c :: solidRow c w := rfl
    have e' : solidRow c (w + 1) = c :: solidRow c w := rfl
    rw [e, blocks2]
    simp only [and_self, if_true]
    rw [← e', ih]; omega

theorem rowPairs_solid (c : Bool) (w : Nat) : ∀ h, rowPairs (List.replicate (h + 1) (solidRow c (w + 1))) = h * w := by
  intro h
  induction h with
  | zero => simp [rowPairs]
  | succ h ih =>
    have e : List.replicate (h + 1 + 1) (solidRow c (w + 1)) =
        solidRow c (w + 1) :: solidRow c (w + 1) :: List.replicate h (solidRow c (w + 1)) := rfl
    have e' : List.replicate (h + 1) (solidRow c (w + 1)) = solidRow c (w + 1) :: List.replicate h (solidRow c (w + 1)) := rfl
    rw [e, rowPairs, blocks2_solid, ← e', ih, Nat.add_mul]; omega

/-- a solid block of m x n modules scores `N2·(m-1)·(n-1)` (Table 11, second
    row): counting 2x2 blocks agrees with the standard's block formula -/
theorem penalty_n2_block (c : Bool) (m n : Nat) (hm : 1 ≤ m) (hn : 1 ≤ n) :
    penalty2 (List.replicate m (solidRow c n)) = 3 * ((m - 1) * (n - 1)) := by
  obtain ⟨h, rfl⟩ : ∃ h, m = h + 1 := ⟨m - 1, by omega⟩
  obtain ⟨w, rfl⟩ : ∃ w, n = w + 1 := ⟨n - 1, by omega⟩
  unfold penalty2
  rw [rowPairs_solid]
  simp

/-! ### N4: proportion of dark modules -/

/-- `penalty4 = 10·k` where the dark proportion deviates from 50% by at least
    `5k%` and by less than `5(k+1)%`: with `dev = |2·dark − total|`,
    `k·total ≤ 10·dev < (k+1)·total` (deviation in percent = 50·dev/total) -/
theorem penalty_n4_spec (m : List (List Bool)) (total dark : Nat)
    (ht : total = sumL (m.map List.length)) (hd : dark = sumL (m.map (fun r => r.count true)))
    (hpos : 0 < total) :
    ∃ k, penalty4 m = 10 * k ∧
      k * total ≤ 10 * (if 2 * dark ≥ total then 2 * dark - total else total - 2 * dark) ∧
      10 * (if 2 * dark ≥ total then 2 * dark - total else total - 2 * dark) < (k + 1) * total := by
  subst ht hd
  unfold penalty4
  simp only
  generalize (if 2 * sumL (m.map (fun r => r.count true)) ≥ sumL (m.map List.length) then _ else _) = dev
  refine ⟨dev * 10 / sumL (m.map List.length), rfl, ?_, ?_⟩
  · have := Nat.div_mul_le_self (dev * 10) (sumL (m.map List.length))
    omega
  · have := Nat.lt_div_mul_add (a := dev * 10) hpos
    rw [Nat.add_mul]
    omega

/-! ### N3: 1:1:3:1:1 pattern next to four light modules -/

/-- the seven modules at the head of `l` are dark-light-dark-dark-dark-light-dark -/
def finderAt (l : List Bool) : Bool :=
  match l with
  | true :: false :: true :: true :: true :: false :: true :: _ => true
  | _ => false

/-- position test of Table 11, third row, at the split `before.reverse ++ rest` of a line: the
    pattern starts here and the four modules before it or the four modules after it are light
    (modules outside the symbol — the quiet zone — are light) -/
def n3Here (before rest : List Bool) : Bool :=
  finderAt rest && (allLight (before.take 4) || allLight ((rest.drop 7).take 4))

theorem finderLike_cons (before : List Bool) (b : Bool) (rest : List Bool) :
    finderLike before (b :: rest) = (if n3Here before (b :: rest) then 1 else 0) + finderLike (b :: before) rest := by
  rw [finderLike]
  congr 1
  unfold n3Here finderAt
  split <;> simp_all

/-- the executable count is the number of positions of the line at which the
    declarative test holds -/
theorem penalty_n3_line : ∀ (rest before : List Bool),
    finderLike before rest =
      ((List.range rest.length).filter (fun i =>
        n3Here ((rest.take i).reverse ++ before) (rest.drop i))).length := by
  intro rest
  induction rest with
  | nil => intro before; rfl
  | cons b rest ih =>
    intro before
    rw [finderLike_cons, ih (b :: before), List.length_cons, List.range_succ_eq_map, List.filter_cons]
    have h0 : n3Here (((b :: rest).take 0).reverse ++ before) ((b :: rest).drop 0) = n3Here before (b :: rest) := rfl
    rw [h0, List.filter_map]
    have hf : ((fun i => n3Here (((b :: rest).take i).reverse ++ before) ((b :: rest).drop i)) ∘ Nat.succ) =
        (fun i => n3Here ((rest.take i).reverse ++ b :: before) (rest.drop i)) := by
      funext i
      simp [List.take_succ_cons, List.reverse_cons, List.append_assoc]
    rw [hf]
    cases n3Here before (b :: rest)
    · simp only [Bool.false_eq_true, if_false, List.length_map]; omega
    · simp only [if_true, List.length_cons, List.length_map]; omega

end Gzx.QRRef
