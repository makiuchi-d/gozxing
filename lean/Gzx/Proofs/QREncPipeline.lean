/-
  wp `qrenc` — the back half of `Encoder_encode` on the mirror model, composed: terminateBits →
  interleaveWithECBytes → (chooseMaskPattern) → MatrixUtil_buildMatrix = the reference symbol of the payload
  (`refMatrix` of `finalCodewords` of `terminate`), which is the symbol C01's round-trip theorems decode.
-/
import Gzx.Proofs.QREncMask
import Gzx.Proofs.QREncInterleave
import Gzx.Proofs.QREncBits
import Gzx.Properties.C07
namespace Gzx.QREnc
open Gzx Gzx.QRRef

def refCodewords (v : Nat) (ec : EC) (payload : List Bool) : List Nat :=
  finalCodewords v ec (terminate (dataCodewords v ec) payload)

/-- what `Encoder_encode` does after the version is known -/
def backHalf (K : Kernels) (v : Nat) (ec : EC) (forced : Option Nat) (payload : Bits) : Res (Int × ByteMatrix) := do
  let terminated ← terminateBits (dataCodewords v ec : Nat) payload
  let finalBits ← interleaveWithECBytes K terminated (totalCodewords v : Nat) (dataCodewords v ec : Nat) (numBlocks v ec : Nat)
  let matrix ← newByteMatrix (dimension v : Nat) (dimension v : Nat)
  let (maskPattern, _, matrix) ← match forced with
    | some k => pure ((k : Int), ([] : List Int), matrix)
    | none => chooseMaskPattern K finalBits ec v matrix
  let matrix ← buildMatrix K finalBits ec v maskPattern matrix
  pure (maskPattern, matrix)

theorem newByteMatrix_wfm (n : Nat) : ∃ m, newByteMatrix (n : Int) (n : Int) = .ok m ∧ WFM n m := by
  unfold newByteMatrix
  have : ¬ ((n : Int) < 0 ∨ (0 < (n : Int) ∧ (n : Int) < 0)) := by omega
  rw [if_neg this]
  refine ⟨_, rfl, ?_⟩
  refine ⟨rfl, rfl, by simp, ?_⟩
  intro r hr
  simp only [Int.toNat_natCast] at hr
  rw [List.eq_of_mem_replicate hr]
  simp

theorem zigzag_room (v : Nat) (h1 : 1 ≤ v) (h40 : v ≤ 40) (cw : List Nat) (hl : cw.length = totalCodewords v) :
    (bitsOfBytes cw).length ≤ (zigzag v).length := by
  rw [bitsOfBytes_length, hl, Gzx.Properties.C07.std_zigzag_count v h1 h40]
  omega

theorem refCodewords_room (v : Nat) (h1 : 1 ≤ v) (h40 : v ≤ 40) (ec : EC) (payload : Bits)
    (hfit : payload.length ≤ 8 * dataCodewords v ec) :
    (bitsOfBytes (refCodewords v ec payload)).length ≤ (zigzag v).length :=
  zigzag_room v h1 h40 _ (Gzx.Properties.C07.final_codewords_length v h1 h40 ec _
    (terminate_length (dataCodewords v ec) payload hfit))

theorem backHalf_eq_ref {K : Kernels} (hK : KernelsOK K) (v : Nat) (h1 : 1 ≤ v) (h40 : v ≤ 40)
    (ec : EC) (forced : Option Nat) (hforced : ∀ k, forced = some k → k < 8) (payload : Bits)
    (hfit : payload.length ≤ 8 * dataCodewords v ec) :
    backHalf K v ec forced payload =
      .ok (((forced.getD (chooseMask v ec (refCodewords v ec payload)) : Nat) : Int),
        refByteMatrix v ec (forced.getD (chooseMask v ec (refCodewords v ec payload))) (refCodewords v ec payload)) := by
  unfold backHalf
  rw [terminateBits_eq _ _ hfit]
  simp only [bind, Except.bind]
  have hdl := terminate_length (dataCodewords v ec) payload hfit
  have hdb := QRComp.terminate_lt (dataCodewords v ec) payload
  rw [interleave_eq_ref hK v h1 h40 ec _ hdl hdb]
  simp only
  obtain ⟨m0, hm0, hw0⟩ := newByteMatrix_wfm (dimension v)
  rw [hm0]
  simp only
  have hroom := refCodewords_room v h1 h40 ec payload hfit
  unfold refCodewords at hroom
  cases hfo : forced with
  | some k =>
    have hk := hforced k hfo
    simp only [pure, Except.pure, Option.getD_some]
    rw [buildMatrix_eq_ref hK v h1 h40 ec k hk _ hroom m0 hw0]
    rfl
  | none =>
    obtain ⟨pens, m1, hch, hw1⟩ := chooseMaskPattern_eq hK v h1 h40 ec _ hroom m0 hw0
    simp only [Option.getD_none]
    rw [hch]
    simp only
    have hk := chooseMask_lt v ec (finalCodewords v ec (terminate (dataCodewords v ec) payload))
    rw [buildMatrix_eq_ref hK v h1 h40 ec _ hk _ hroom m1 hw1]
    rfl

end Gzx.QREnc
