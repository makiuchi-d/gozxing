/-
  C02: properties of the exact look-ahead `laExactR ρ` (Model/DMHighLevel.lean, Part 5) for EVERY float rounding
  oracle `ρ`, hence for every `LaFloatLike` look-ahead:
    * with one character left (plus the macro trailer, if any) it answers ASCII from ASCII   (`LaTailAscii`)
    * for three characters followed by one extended character (plus trailer) it never answers X12, neither
      from X12 nor from ASCII                                                                 (`LaX12Tail`)
  Method: the look-ahead depends on a character only through its class; there are nine classes; the count
  trajectories do not depend on `ρ` (only the final integer conversion of C40/Text/X12 does, upwards), so the two
  facts reduce to inequalities between exact counts, kernel-evaluated over all class combinations.
-/
import Gzx.Proofs.DMGeneral
namespace Gzx.DMHighLevel

/-! ## the nine character classes -/

def otherClass : CharClass := ⟨false, false, false, false, false, false, false⟩
def extClass : CharClass := ⟨false, true, false, false, false, false, false⟩

/-- digit, space, upper case, lower case, CR, `*` / `>`, EDIFACT-only, none, extended -/
def allClasses : List CharClass := [
  ⟨true, false, true, true, true, true, false⟩, ⟨false, false, true, true, true, true, false⟩,
  ⟨false, false, true, false, true, true, false⟩, ⟨false, false, false, true, false, false, false⟩,
  ⟨false, false, false, false, true, false, true⟩, ⟨false, false, false, false, true, true, true⟩,
  ⟨false, false, false, false, false, true, false⟩, otherClass, extClass]

theorem classOf_mem_small : ∀ c : Fin 256, classOf c.val ∈ allClasses := by decide +kernel

theorem classOf_big (ch : Nat) (h : 256 ≤ ch) : classOf ch = otherClass := by
  unfold classOf otherClass isDigit isExtended isNativeC40 isNativeText isNativeX12 isNativeEDIFACT isX12TermSep
  simp only [CharClass.mk.injEq, Bool.and_eq_false_iff, Bool.or_eq_false_iff, decide_eq_false_iff_not]
  omega

theorem classOf_mem (ch : Nat) : classOf ch ∈ allClasses := by
  by_cases h : ch < 256
  · exact classOf_mem_small ⟨ch, h⟩
  · rw [classOf_big ch (by omega)]; decide

theorem classOf_ext_small : ∀ c : Fin 256, isExtended c.val = true → classOf c.val = extClass := by decide +kernel

theorem classOf_ext (ch : Nat) (h : isExtended ch = true) : classOf ch = extClass := by
  have hlt : ch < 256 := by
    simp only [isExtended, Bool.and_eq_true, decide_eq_true_eq] at h; omega
  exact classOf_ext_small ⟨ch, hlt⟩ h

theorem classOf_30 : classOf 30 = otherClass := by decide
theorem classOf_4 : classOf 4 = otherClass := by decide

/-! ## integer conversion: `ρ` only moves C40 / Text / X12 upwards -/

theorem ceil12R_ge (b : Bool) (n : Nat) : ceil12 n ≤ ceil12R b n := by
  unfold ceil12R; omega

/-! ## the minimum of `findMinimums` -/

theorem mkIntCounts_min (a c t x e b : Nat) :
    (mkIntCounts a c t x e b).min = min 2147483647 (min a (min c (min t (min x (min e b))))) := rfl

theorem mkIntCounts_min_le (a c t x e b : Nat) : (mkIntCounts a c t x e b).min ≤ a :=
  Nat.le_trans (Nat.min_le_right _ _) (Nat.min_le_left _ _)

theorem mkIntCounts_min_mem (a c t x e b : Nat) :
    (mkIntCounts a c t x e b).min ∈ [2147483647, a, c, t, x, e, b] := by
  have pick : ∀ (u v : Nat) (l : List Nat), u ∈ l → v ∈ l → min u v ∈ l := by
    intro u v l hu hv
    rcases Nat.le_total u v with h | h
    · rw [Nat.min_eq_left h]; exact hu
    · rw [Nat.min_eq_right h]; exact hv
  rw [mkIntCounts_min]
  repeat' apply pick
  all_goals simp only [List.mem_cons, true_or, or_true]

theorem mkIntCounts_min_eq (a c t x e b : Nat)
    (h : a ≤ c ∧ a ≤ t ∧ a ≤ x ∧ a ≤ e ∧ a ≤ b ∧ a ≤ 2147483647) : (mkIntCounts a c t x e b).min = a := by
  obtain ⟨h1, h2, h3, h4, h5, h6⟩ := h
  rw [mkIntCounts_min, Nat.min_eq_left (Nat.le_min.2 ⟨h1, Nat.le_min.2 ⟨h2, Nat.le_min.2 ⟨h3, Nat.le_min.2 ⟨h4, h5⟩⟩⟩⟩),
    Nat.min_eq_right h6]

theorem IntCounts.unique_min_a (i : IntCounts) (hn : i.minCount = 1) (ha : i.a = i.min) :
    i.c ≠ i.min ∧ i.t ≠ i.min ∧ i.x ≠ i.min ∧ i.e ≠ i.min ∧ i.b ≠ i.min := by
  simp only [IntCounts.minCount, IntCounts.isMin, b2n, beq_iff_eq, ha, if_true] at hn
  refine ⟨?_, ?_, ?_, ?_, ?_⟩ <;> intro h <;> simp only [h, if_true] at hn <;> omega

/-! ## steps K and R: a mode other than ASCII and Base 256 is answered only when its count is below the ASCII count
  (step K's last resort C40 apart) -/

theorem decideK_lt (i : IntCounts) (m : Nat) (hmin : i.min ≤ i.a) (h : decideK i = m) :
    (m = TEXT → i.t < i.a) ∧ (m = X12 → i.x < i.a) ∧ (m = EDIFACT → i.e < i.a) := by
  simp only [decideK, IntCounts.isMin, beq_iff_eq, ASCII, C40, TEXT, X12, EDIFACT, BASE256] at h ⊢
  by_cases ha : i.a = i.min
  · rw [if_pos ha] at h; omega
  rw [if_neg ha] at h
  -- Base 256, EDIFACT, Text, X12 in turn, then the last resort C40
  iterate 4
    rcases ite_eq_cases h with ⟨hp, h'⟩ | h
    · omega
  omega

theorem decideR_lt (i : IntCounts) (scan m : Nat) (hs : scan = C40 ∨ scan = X12) (hmin : i.min ≤ i.a)
    (h : decideR i scan = some m) :
    (m = C40 → i.c + 1 < i.a) ∧ (m = TEXT → i.t < i.a) ∧ (m = X12 → i.x < i.a) ∧ (m = EDIFACT → i.e < i.a) := by
  have hu := i.unique_min_a
  simp only [decideR, IntCounts.isMin, beq_iff_eq, ASCII, C40, TEXT, X12, EDIFACT, BASE256] at h hs ⊢
  -- ASCII, Base 256, EDIFACT, Text, X12 in turn
  iterate 5
    rcases ite_eq_cases h with ⟨hp, h'⟩ | h
    · cases h'; omega
  -- C40, or the result of the tie scan when the C40 and X12 counts agree
  rcases ite_eq_cases h with ⟨hp, h⟩ | h
  · rcases ite_eq_cases h with ⟨_, h'⟩ | h
    · cases h'; omega
    · rcases ite_eq_cases h with ⟨_, h'⟩ | h
      · cases h'; omega
      · cases h
  · cases h

theorem decideK_ascii (i : IntCounts) (h : i.min = i.a) : decideK i = ASCII := by
  simp only [decideK, h, if_true]

theorem decideR_ascii (i : IntCounts) (scan : Nat)
    (h : i.a < i.b ∧ i.a < i.c ∧ i.a < i.t ∧ i.a < i.x ∧ i.a < i.e) : decideR i scan = some ASCII := by
  unfold decideR
  exact if_pos h

theorem x12ScanC_range (l : List CharClass) : x12ScanC l = C40 ∨ x12ScanC l = X12 := by
  induction l with
  | nil => left; rfl
  | cons tc rest ih =>
    unfold x12ScanC
    split
    · right; rfl
    · split
      · left; rfl
      · exact ih

/-! ## trajectory checks -/

/-- along the exact trajectory the ASCII count is at most the count `sel` wherever steps R / K look -/
def lookOK (sel : ECounts → Nat) : List CharClass → Nat → ECounts → Bool
  | [], _, k => decide (ceil12 k.a ≤ ceil12 (sel k))
  | ch :: rest, n, k =>
    let k' := stepECounts k ch
    (decide (n + 1 < 4) || decide (ceil12 k'.a ≤ ceil12 (sel k'))) && lookOK sel rest (n + 1) k'

/-- the look-ahead loop does not answer a mode `m` that steps K and R answer only below the ASCII count (`hK`,
    `hR`) when the trajectory keeps the ASCII count at most the count of `m` (`sel` exact, `cnt` as converted) -/
theorem laLoopR_ne (ρ : Bump) (m : Nat) (sel : ECounts → Nat) (cnt : IntCounts → Nat)
    (hK : ∀ i, i.min ≤ i.a → decideK i = m → cnt i < i.a)
    (hR : ∀ i scan, scan = C40 ∨ scan = X12 → i.min ≤ i.a → decideR i scan = some m → cnt i < i.a)
    (hc : ∀ n k, ceil12 (sel k) ≤ cnt (eIntCountsR ρ n k)) :
    ∀ (cls : List CharClass) (n : Nat) (k : ECounts), lookOK sel cls n k = true → laLoopR ρ cls n k ≠ m := by
  have hle : ∀ n k, (eIntCountsR ρ n k).min ≤ (eIntCountsR ρ n k).a := fun _ _ => mkIntCounts_min_le _ _ _ _ _ _
  have ha : ∀ n k, (eIntCountsR ρ n k).a = ceil12 k.a := fun _ _ => rfl
  intro cls
  induction cls with
  | nil =>
    intro n k h hm
    simp only [lookOK, decide_eq_true_eq] at h
    have := hK _ (hle n k) hm
    have := hc n k
    rw [ha] at *
    omega
  | cons ch rest ih =>
    intro n k h
    simp only [lookOK, Bool.and_eq_true, Bool.or_eq_true, decide_eq_true_eq] at h
    obtain ⟨h1, h2⟩ := h
    unfold laLoopR
    simp only
    split
    · split
      · rename_i hge m' hm'
        intro hmm
        have := hR _ _ (x12ScanC_range _) (hle _ _) (hmm ▸ hm')
        have := hc (n + 1) (stepECounts k ch)
        rw [ha] at *
        omega
      · exact ih _ _ h2
    · exact ih _ _ h2

theorem lookOK_nil {sel : ECounts → Nat} {n : Nat} {k : ECounts} (h : ceil12 k.a ≤ ceil12 (sel k)) :
    lookOK sel [] n k = true := by
  simp only [lookOK, h, decide_true]

theorem lookOK_cons {sel : ECounts → Nat} {ch : CharClass} {rest : List CharClass} {n : Nat} {k : ECounts}
    (h : ceil12 (stepECounts k ch).a ≤ ceil12 (sel (stepECounts k ch)))
    (hrest : lookOK sel rest (n + 1) (stepECounts k ch) = true) : lookOK sel (ch :: rest) n k = true := by
  simp only [lookOK, h, hrest, decide_true, Bool.or_true, Bool.and_self]

theorem laLoopR_ne_x12 (ρ : Bump) :
    ∀ cls n k, lookOK (·.x) cls n k = true → laLoopR ρ cls n k ≠ X12 :=
  laLoopR_ne ρ X12 (·.x) (·.x) (fun i h hk => (decideK_lt i _ h hk).2.1 rfl)
    (fun i s hs h hr => (decideR_lt i s _ hs h hr).2.2.1 rfl) (fun _ _ => ceil12R_ge _ _)

theorem laLoopR_ne_edi (ρ : Bump) :
    ∀ cls n k, lookOK (·.e) cls n k = true → laLoopR ρ cls n k ≠ EDIFACT :=
  laLoopR_ne ρ EDIFACT (·.e) (·.e) (fun i h hk => (decideK_lt i _ h hk).2.2 rfl)
    (fun i s hs h hr => (decideR_lt i s _ hs h hr).2.2.2 rfl) (fun _ _ => Nat.le_refl _)

theorem laLoopR_ne_text (ρ : Bump) :
    ∀ cls n k, lookOK (·.t) cls n k = true → laLoopR ρ cls n k ≠ TEXT :=
  laLoopR_ne ρ TEXT (·.t) (·.t) (fun i h hk => (decideK_lt i _ h hk).1 rfl)
    (fun i s hs h hr => (decideR_lt i s _ hs h hr).2.1 rfl) (fun _ _ => ceil12R_ge _ _)

/-- fewer than four characters are looked at and at the end the ASCII count is minimal -/
def asciiTailOK : List CharClass → Nat → ECounts → Bool
  | [], _, k =>
    decide (ceil12 k.a ≤ ceil12 k.c) && decide (ceil12 k.a ≤ ceil12 k.t) && decide (ceil12 k.a ≤ ceil12 k.x) &&
    decide (ceil12 k.a ≤ ceil12 k.e) && decide (ceil12 k.a ≤ ceil12 k.b) && decide (ceil12 k.a ≤ 2147483647)
  | ch :: rest, n, k => decide (n + 1 < 4) && asciiTailOK rest (n + 1) (stepECounts k ch)

theorem laLoopR_ascii (ρ : Bump) : ∀ (cls : List CharClass) (n : Nat) (k : ECounts),
    asciiTailOK cls n k = true → laLoopR ρ cls n k = ASCII := by
  intro cls
  induction cls with
  | nil =>
    intro n k h
    simp only [asciiTailOK, Bool.and_eq_true, decide_eq_true_eq] at h
    obtain ⟨⟨⟨⟨⟨h1, h2⟩, h3⟩, h4⟩, h5⟩, h6⟩ := h
    unfold laLoopR eIntCountsR
    exact decideK_ascii _ (mkIntCounts_min_eq _ _ _ _ _ _ ⟨Nat.le_trans h1 (ceil12R_ge _ _),
      Nat.le_trans h2 (ceil12R_ge _ _), Nat.le_trans h3 (ceil12R_ge _ _), h4, h5, h6⟩)
  | cons ch rest ih =>
    intro n k h
    simp only [asciiTailOK, Bool.and_eq_true, decide_eq_true_eq] at h
    obtain ⟨h1, h2⟩ := h
    unfold laLoopR
    simp only
    split
    · omega
    · exact ih _ _ h2

/-! ## kernel evaluation over all class combinations -/

theorem asciiTail_checked : ∀ k1 ∈ allClasses,
    asciiTailOK [k1] 0 (startCounts ASCII) = true ∧
    asciiTailOK [k1, otherClass, otherClass] 0 (startCounts ASCII) = true := by decide +kernel

theorem x12Tail_checked : ∀ k1 ∈ allClasses, ∀ k2 ∈ allClasses, ∀ k3 ∈ allClasses,
    lookOK (·.x) [k1, k2, k3, extClass] 0 (startCounts X12) = true ∧
    lookOK (·.x) [k1, k2, k3, extClass] 0 (startCounts ASCII) = true ∧
    lookOK (·.x) [k1, k2, k3, extClass, otherClass, otherClass] 0 (startCounts X12) = true ∧
    lookOK (·.x) [k1, k2, k3, extClass, otherClass, otherClass] 0 (startCounts ASCII) = true := by decide +kernel

/-! ## the oracle conditions for `laExactR ρ` -/

/-- the macro trailer RS EOT, or nothing -/
def IsTrailer (tl : List Nat) : Prop := tl = [] ∨ tl = [30, 4]

/-- how the message ends behind the last character the encoder handles: nothing, or the macro trailer -/
def TotOK (msg : List Nat) (tot : Nat) : Prop := tot = msg.length ∨ (tot + 2 = msg.length ∧ msg.drop tot = [30, 4])

theorem drop_succ_of_lt {l : List Nat} {p : Nat} (h : p < l.length) : l.drop p = l[p] :: l.drop (p + 1) :=
  List.drop_eq_getElem_cons h

theorem tail_cases {msg : List Nat} {tot : Nat} (h : TotOK msg tot) : IsTrailer (msg.drop tot) := by
  rcases h with h | ⟨_, h⟩
  · left; rw [h]; exact List.drop_length
  · right; exact h

theorem laExactR_cases (ρ : Bump) (msg : List Nat) (p mode : Nat) (hp : p < msg.length) :
    laExactR ρ msg p mode = ASCII ∨
    laExactR ρ msg p mode = laLoopR ρ ((msg.drop p).map classOf) 0 (startCounts mode) := by
  unfold laExactR laClsR
  have hnot : ¬ p ≥ (msg.map classOf).length := by simp; omega
  simp only [hnot, if_false]
  rw [← List.map_drop]
  split
  · left; rfl
  · split
    · left; rfl
    · right; rfl

theorem laExactR_tail_ascii (ρ : Bump) (msg : List Nat) (tot : Nat) (h : TotOK msg tot) :
    LaTailAscii (laExactR ρ) msg tot := by
  intro p hp
  have hlen : tot ≤ msg.length := by rcases h with h | ⟨h, _⟩ <;> omega
  have hplt : p < msg.length := by omega
  have hd : msg.drop p = msg[p] :: msg.drop tot := by rw [drop_succ_of_lt hplt, hp]
  rcases laExactR_cases ρ msg p ASCII hplt with e | e
  · exact e
  rw [e, hd, List.map_cons]
  obtain ⟨c1, c2⟩ := asciiTail_checked (classOf msg[p]) (classOf_mem _)
  rcases tail_cases h with ht | ht
  · rw [ht]; exact laLoopR_ascii ρ _ _ _ c1
  · rw [ht]
    simp only [List.map_cons, List.map_nil, classOf_30, classOf_4]
    exact laLoopR_ascii ρ _ _ _ c2

theorem laExactR_x12_tail (ρ : Bump) (msg : List Nat) (tot : Nat) (h : TotOK msg tot) :
    LaX12Tail (laExactR ρ) msg tot := by
  intro p ch hp hch hext
  have hlen : tot ≤ msg.length := by rcases h with h | ⟨h, _⟩ <;> omega
  have h0 : p < msg.length := by omega
  have h1 : p + 1 < msg.length := by omega
  have h2 : p + 2 < msg.length := by omega
  have h3 : p + 3 < msg.length := by omega
  have hd : msg.drop p = msg[p] :: msg[p + 1] :: msg[p + 2] :: ch :: msg.drop tot := by
    rw [drop_succ_of_lt h0, drop_succ_of_lt h1, drop_succ_of_lt h2, drop_succ_of_lt h3]
    have : msg[p + 3] = ch := by
      rw [List.getElem?_eq_getElem h3] at hch; exact Option.some.inj hch
    rw [this, show p + 3 + 1 = tot by omega]
  obtain ⟨c1, c2, c3, c4⟩ := x12Tail_checked (classOf msg[p]) (classOf_mem _) (classOf msg[p + 1]) (classOf_mem _)
    (classOf msg[p + 2]) (classOf_mem _)
  have key : ∀ mode, (mode = X12 ∨ mode = ASCII) →
      laLoopR ρ ((msg.drop p).map classOf) 0 (startCounts mode) ≠ X12 := by
    intro mode hm
    rw [hd]
    simp only [List.map_cons, classOf_ext ch hext]
    rcases tail_cases h with ht | ht
    · rw [ht]
      rcases hm with rfl | rfl
      · exact laLoopR_ne_x12 ρ _ _ _ c1
      · exact laLoopR_ne_x12 ρ _ _ _ c2
    · rw [ht]
      simp only [List.map_cons, List.map_nil, classOf_30, classOf_4]
      rcases hm with rfl | rfl
      · exact laLoopR_ne_x12 ρ _ _ _ c3
      · exact laLoopR_ne_x12 ρ _ _ _ c4
  have fin : ∀ mode, (mode = X12 ∨ mode = ASCII) → laExactR ρ msg p mode ≠ X12 := by
    intro mode hm
    rcases laExactR_cases ρ msg p mode h0 with e | e
    · rw [e]; decide
    · rw [e]; exact key mode hm
  exact ⟨fin X12 (Or.inl rfl), fin ASCII (Or.inr rfl)⟩

theorem floatLike_tail_conditions (la : LookAhead) (hla : LaFloatLike la) (msg : List Nat) (tot : Nat)
    (h : TotOK msg tot) : LaTailAscii la msg tot ∧ LaX12Tail la msg tot := by
  constructor
  · intro p hp
    obtain ⟨ρ, hρ⟩ := hla msg p ASCII
    rw [hρ]; exact laExactR_tail_ascii ρ msg tot h p hp
  · intro p ch hp hch hext
    obtain ⟨ρ1, hρ1⟩ := hla msg p X12
    obtain ⟨ρ2, hρ2⟩ := hla msg p ASCII
    rw [hρ1, hρ2]
    exact ⟨(laExactR_x12_tail ρ1 msg tot h p ch hp hch hext).1, (laExactR_x12_tail ρ2 msg tot h p ch hp hch hext).2⟩

theorem totOK_initCtx (msg : List Nat) (cfg : Cfg) : TotOK msg (initCtx msg cfg).total := by
  obtain ⟨_, _, _, htr, _, hmsg, _⟩ := initCtx_inv refTables msg cfg
  unfold TotOK Ctx.total
  rw [hmsg]
  rcases htr with h0 | ⟨h2, hl, hd⟩
  · left; rw [h0]; rfl
  · right
    rw [hmsg] at hl hd
    rw [h2]
    exact ⟨by omega, hd⟩

/-! ## when EDIFACT is never proposed -/

/-- the classes of EDIFACT-native characters: digit, space, upper case, `*` / `>`, EDIFACT-only -/
def ediClasses : List CharClass := allClasses.filter (·.edi)

theorem classOf_edi_small : ∀ c : Fin 256, isNativeEDIFACT c.val = true → classOf c.val ∈ ediClasses := by
  decide +kernel

theorem classOf_edi (ch : Nat) (h : isNativeEDIFACT ch = true) : classOf ch ∈ ediClasses := by
  have hlt : ch < 256 := by
    simp only [isNativeEDIFACT, Bool.and_eq_true, decide_eq_true_eq] at h; omega
  exact classOf_edi_small ⟨ch, hlt⟩ h

/-- up to three EDIFACT-native characters before the end of the message: ASCII from ASCII -/
theorem ediTail_checked : ∀ k1 ∈ ediClasses, ∀ k2 ∈ ediClasses, ∀ k3 ∈ ediClasses,
    asciiTailOK [k1] 0 (startCounts ASCII) = true ∧ asciiTailOK [k1, k2] 0 (startCounts ASCII) = true ∧
    asciiTailOK [k1, k2, k3] 0 (startCounts ASCII) = true := by decide +kernel

/-- a message in which every window of four consecutive characters contains a character that EDIFACT cannot
    encode is never sent to EDIFACT by the exact look-ahead, whatever the float rounding -/
theorem laExactR_no_edifact (ρ : Bump) (msg : List Nat)
    (H : ∀ p, p + 4 ≤ msg.length → ((msg.drop p).take 4).all isNativeEDIFACT = false) :
    LaNoEdifactOn (laExactR ρ) msg := by
  intro p
  unfold laExactR laClsR
  by_cases hp : p ≥ (msg.map classOf).length
  · simp only [hp, if_true]; decide
  · simp only [hp, if_false]
    rw [← List.map_drop]
    have hall : (((msg.drop p).map classOf).take 4).all (·.edi) = ((msg.drop p).take 4).all isNativeEDIFACT := by
      rw [← List.map_take, List.all_map]; rfl
    rw [hall]
    cases hA : ((msg.drop p).take 4).all isNativeEDIFACT with
    | false =>
      simp only [Bool.not_false, and_true]
      split
      · decide
      · split
        · decide
        · assumption
    | true =>
      have hlen : ¬ p + 4 ≤ msg.length := fun h4 => by rw [H p h4] at hA; cases hA
      have hp' : p < msg.length := by simpa using hp
      have hdl : (msg.drop p).length = msg.length - p := List.length_drop
      have htake : (msg.drop p).take 4 = msg.drop p := List.take_of_length_le (by omega)
      rw [htake, List.all_eq_true] at hA
      have hASCII : laLoopR ρ ((msg.drop p).map classOf) 0 (startCounts ASCII) = ASCII := by
        match hl : msg.drop p, hA, hdl with
        | [], _, hdl => simp at hdl; omega
        | [a], hA, _ =>
          obtain ⟨c1, _, _⟩ := ediTail_checked _ (classOf_edi a (hA a (by simp))) _ (classOf_edi a (hA a (by simp)))
            _ (classOf_edi a (hA a (by simp)))
          exact laLoopR_ascii ρ _ _ _ c1
        | [a, b], hA, _ =>
          obtain ⟨_, c2, _⟩ := ediTail_checked _ (classOf_edi a (hA a (by simp))) _ (classOf_edi b (hA b (by simp)))
            _ (classOf_edi a (hA a (by simp)))
          exact laLoopR_ascii ρ _ _ _ c2
        | [a, b, c], hA, _ =>
          obtain ⟨_, _, c3⟩ := ediTail_checked _ (classOf_edi a (hA a (by simp))) _ (classOf_edi b (hA b (by simp)))
            _ (classOf_edi c (hA c (by simp)))
          exact laLoopR_ascii ρ _ _ _ c3
        | _ :: _ :: _ :: _ :: _, _, hdl => simp at hdl; omega
      rw [hASCII]
      simp

/-! ## two characters left -/

/-- like `asciiTailOK`, and from the fourth character on the ASCII count is STRICTLY minimal at once -/
def asciiStrictOK : List CharClass → Nat → ECounts → Bool
  | [], n, k => asciiTailOK [] n k
  | ch :: rest, n, k =>
    let k' := stepECounts k ch
    if n + 1 ≥ 4 then
      decide (ceil12 k'.a < ceil12 k'.b) && decide (ceil12 k'.a < ceil12 k'.c) && decide (ceil12 k'.a < ceil12 k'.t) &&
      decide (ceil12 k'.a < ceil12 k'.x) && decide (ceil12 k'.a < ceil12 k'.e)
    else asciiStrictOK rest (n + 1) k'

theorem laLoopR_ascii_strict (ρ : Bump) : ∀ (cls : List CharClass) (n : Nat) (k : ECounts),
    asciiStrictOK cls n k = true → laLoopR ρ cls n k = ASCII := by
  intro cls
  induction cls with
  | nil => intro n k h; exact laLoopR_ascii ρ [] n k h
  | cons ch rest ih =>
    intro n k h
    unfold asciiStrictOK at h
    simp only at h
    unfold laLoopR
    simp only
    split
    · rename_i hge
      simp only [hge, if_true, Bool.and_eq_true, decide_eq_true_eq] at h
      obtain ⟨⟨⟨⟨h1, h2⟩, h3⟩, h4⟩, h5⟩ := h
      unfold eIntCountsR
      rw [decideR_ascii _ _ ⟨h1, Nat.lt_of_lt_of_le h2 (ceil12R_ge _ _), Nat.lt_of_lt_of_le h3 (ceil12R_ge _ _),
        Nat.lt_of_lt_of_le h4 (ceil12R_ge _ _), h5⟩]
    · rename_i hge
      simp only [hge, if_false] at h
      exact ih _ _ h

def plainClasses : List CharClass := allClasses.filter (fun k => !k.ext)

theorem classOf_plain_small : ∀ c : Fin 256, isExtended c.val = false → classOf c.val ∈ plainClasses := by
  decide +kernel

theorem classOf_plain (ch : Nat) (h : isExtended ch = false) : classOf ch ∈ plainClasses := by
  by_cases hlt : ch < 256
  · exact classOf_plain_small ⟨ch, hlt⟩ h
  · rw [classOf_big ch (by omega)]; decide

theorem asciiTail2_checked : ∀ k1 ∈ plainClasses, ∀ k2 ∈ plainClasses,
    asciiStrictOK [k1, k2] 0 (startCounts ASCII) = true ∧
    asciiStrictOK [k1, k2, otherClass, otherClass] 0 (startCounts ASCII) = true := by decide +kernel

/-- with two non-extended characters left the oracle asked from ASCII stays in ASCII — the condition an EDIFACT
    segment that ends without unlatch (or is rewound) relies on -/
def LaTail2Ascii (la : LookAhead) (msg : List Nat) (tot : Nat) : Prop :=
  ∀ p c1 c2, p + 2 = tot → msg[p]? = some c1 → msg[p + 1]? = some c2 → isExtended c1 = false →
    isExtended c2 = false → la msg p ASCII = ASCII

theorem laExactR_tail2_ascii (ρ : Bump) (msg : List Nat) (tot : Nat) (h : TotOK msg tot) :
    LaTail2Ascii (laExactR ρ) msg tot := by
  intro p c1 c2 hp hc1 hc2 he1 he2
  have hlen : tot ≤ msg.length := by rcases h with h | ⟨h, _⟩ <;> omega
  have h0 : p < msg.length := by omega
  have h1 : p + 1 < msg.length := by omega
  have hd : msg.drop p = c1 :: c2 :: msg.drop tot := by
    rw [drop_succ_of_lt h0, drop_succ_of_lt h1]
    have e1 : msg[p] = c1 := by rw [List.getElem?_eq_getElem h0] at hc1; exact Option.some.inj hc1
    have e2 : msg[p + 1] = c2 := by rw [List.getElem?_eq_getElem h1] at hc2; exact Option.some.inj hc2
    rw [e1, e2, show p + 1 + 1 = tot by omega]
  rcases laExactR_cases ρ msg p ASCII h0 with e | e
  · exact e
  rw [e, hd]
  simp only [List.map_cons]
  obtain ⟨q1, q2⟩ := asciiTail2_checked _ (classOf_plain c1 he1) _ (classOf_plain c2 he2)
  rcases tail_cases h with ht | ht
  · rw [ht]; exact laLoopR_ascii_strict ρ _ _ _ q1
  · rw [ht]
    simp only [List.map_cons, List.map_nil, classOf_30, classOf_4]
    exact laLoopR_ascii_strict ρ _ _ _ q2

end Gzx.DMHighLevel
