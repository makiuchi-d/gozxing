/-
  Helper lemmas for Properties/C03Row128.lean: best-match loops of the exact interpretation on exact multiples of a
  table pattern; `decodeCode` at a run boundary; `code128FindStartPattern` on a row whose first black pixel starts
  `s`·(a start pattern).
-/
import Gzx.Proofs.Row128Total
import Gzx.Proofs.RowRender
import Gzx.Proofs.BestMatch
namespace Gzx.Row128
open Gzx Gzx.OneD

/-! ## the best loop of the exact interpretation -/

theorem bestLoopD_eq_gen (D : VarDom) (c : List Nat) (a b : Nat) : ∀ (ps : List (List Nat)) (i : Nat) (best : D.V)
    (bm : Option Nat), bestLoopD D c a b ps i best bm = bestGen false D c a b ps i best bm
  | [], _, _, _ => rfl
  | p :: ps, i, best, bm => by
    unfold bestLoopD bestGen
    cases D.pmv c p a b with
    | error e => rfl
    | ok v =>
      simp only [Bool.false_and, Bool.false_eq_true, if_false]
      split <;> exact bestLoopD_eq_gen D c a b ps _ _ _

/-- on `s`·(row `j` cut to `len`) the best loop over the whole table returns `j` -/
theorem bestLoopD_table {P : List (List Nat)} {len M : Nat} (hP : PatTable P len M) (j : Nat) (hj : j < P.length)
    (s : Nat) (hs : 0 < s) (a b bn bd : Nat) (hbn : 0 < bn) (bm : Option Nat) (i : Nat) :
    bestLoopD exactDom ((P[j].take len).map (s * ·)) a b P i (some (bn, bd)) bm = .ok (some (i + j)) :=
  (bestLoopD_eq_gen _ _ a b P i _ bm).trans (bestGen_table false hP j hj s hs a b bn bd hbn bm i)

/-! ## decodeCode at a run boundary -/

theorem decodeCode_at {row off} {P : List (List Nat)} {M : Nat} (hP : PatTable P 6 M) (j : Nat) (hj : j < P.length)
    (s : Nat) (hs : 0 < s) (rest : List Nat) (col : Bool)
    (h : RowAt row off ((P[j].take 6).map (s * ·) ++ rest) col) :
    decodeCode exactDom P row off = .ok (j, (P[j].take 6).map (s * ·)) := by
  have hq := hP.shape P[j] (List.getElem_mem hj)
  have hl6 : ((P[j].take 6).map (s * ·)).length = 6 := by simp; omega
  have hrec := recordPattern_at ((P[j].take 6).map (s * ·)) rest 6 (by omega) hl6 h
  have hbest := bestLoopD_table hP j hj s hs 7 10 1 4 (by omega) none 0
  rw [Nat.zero_add] at hbest
  unfold decodeCode
  rw [hrec]
  simp only [wrapNF]
  have hb : bestLoopD exactDom ((P[j].take 6).map (s * ·)) 7 10 P 0 (exactDom.frac 1 4) none = .ok (some j) := hbest
  rw [hb]

/-! ## code128FindStartPattern on a drawn start pattern -/

theorem startPatterns_eq (P : List (List Nat)) (hl : 106 ≤ P.length) :
    startPatterns P = .ok [P[103], P[104], P[105]] := by
  simp only [startPatterns, nth_ok P 103 (by omega), nth_ok P 104 (by omega), nth_ok P 105 (by omega),
    bind, Except.bind, pure, Except.pure]

/-- `code128FindStartPattern` on a row that shows `s`·(start pattern `sc`) and one more run from its first bar at `lq`,
    white before it: found at once (the quiet-zone test is clipped to the row: `max(0, …)`) -/
theorem findStartPattern_rowAt {P : List (List Nat)} (hP : PatTable P 6 11) (hl : 106 ≤ P.length)
    (sc : Nat) (hsc : sc = 103 ∨ sc = 104 ∨ sc = 105) (hsc6 : P[sc]'(by omega) = (P[sc]'(by omega)).take 6)
    (row : List Bool) (lq s : Nat) (hs : 0 < s) (w : Nat) (rest : List Nat)
    (h : RowAt row lq ((P[sc]'(by omega)).map (s * ·) ++ w :: rest) true) (hoff : getNextSet row 0 = lq)
    (hwhite : ∀ a, a ≤ lq → isRangeWhite row a lq = true) :
    findStartPattern exactDom P row = .ok (lq, lq + s * 11, sc) := by
  have hscl : sc < P.length := by omega
  have hq := hP.shape P[sc] (List.getElem_mem hscl)
  have hlen6 : (P[sc].map (s * ·)).length = 6 := by rw [hsc6]; simp; omega
  have hsum : sumL (P[sc].map (s * ·)) = s * 11 := by rw [sumL_scale, hsc6, hq.2.1]
  unfold findStartPattern
  simp only [hoff]
  rw [startLoop_eq_gen _ _ _ _ _ _ _ _ _ (by simp)]
  refine genLoop_first 6 (by omega) _ _ hlen6 w rest h _ ?_
  rw [hsum]
  unfold check128
  rw [startPatterns_eq P hl]
  simp only []
  -- the three start patterns are a table of their own; `sc` is its row `sc - 103`
  have hsub : PatTable [P[103], P[104], P[105]] 6 11 := by
    refine ⟨?_, ?_, by omega⟩
    · have e : [P[103], P[104], P[105]].map (List.take 6) = ((P.map (List.take 6)).drop 103).take 3 := by
        rw [← List.map_drop, ← List.map_take]
        congr 1
        apply List.ext_getElem
        · simp; omega
        · intro n h1 h2
          have hn : n < 3 := by simpa using h1
          rcases n with _ | _ | _ | n
          · simp
          · simp
          · simp
          · omega
      rw [e]
      exact (hP.nodup.sublist (List.drop_sublist _ _)).sublist (List.take_sublist _ _)
    · intro q hqm
      simp only [List.mem_cons, List.mem_nil_iff, or_false] at hqm
      rcases hqm with rfl | rfl | rfl <;> exact hP.shape _ (List.getElem_mem _)
  have hidx : [P[103], P[104], P[105]][sc - 103]'(by simp; omega) = P[sc] := by
    rcases hsc with rfl | rfl | rfl <;> rfl
  have hb := bestLoopD_table hsub (sc - 103) (by simp; omega) s hs 7 10 1 4 (by omega) none 103
  rw [hidx, ← hsc6, show 103 + (sc - 103) = sc by omega] at hb
  have hb' : bestLoopD exactDom (P[sc].map (s * ·)) 7 10 [P[103], P[104], P[105]] 103 (exactDom.frac 1 4) none =
      .ok (some sc) := hb
  rw [hb']
  simp only [hit128]
  rw [show lq + s * 11 - lq = s * 11 by omega, hwhite _ (by omega)]
  simp

end Gzx.Row128
