/-
  C12 / wp dmenc — the Data Matrix writer core `DMWriterCore.core` (EncodeHighLevel, second symbol lookup, ECC200,
  placement, low-level matrix) is total for every look-ahead that is exact arithmetic up to float rounding:
  it returns a WriterException or the reference symbol of the codewords; the ignored errors of the writer's second
  lookup and of `ErrorCorrection_EncodeECC200` never hide a nil value.
-/
import Gzx.Proofs.DMBytesAll
import Gzx.Model.DMWriterCore
import Gzx.Properties.C08
import Gzx.Proofs.WriterFrontend
namespace Gzx.DMWriterCore
open Gzx Gzx.DMHighLevel

theorem symbols_in_table7 : DMRef.symbols.all (fun s => DMRef.table7.contains s) = true := by decide +kernel

theorem mem_table7_of_symbols {s : DMRef.Sym} (h : s ∈ DMRef.symbols) : s ∈ DMRef.table7 := by
  have := symbols_in_table7
  rw [List.all_eq_true] at this
  have := this s h
  simpa using this

theorem table7_dims : DMRef.table7.all (fun s => decide (1 ≤ s.rows) && decide (1 ≤ s.cols)) = true := by decide +kernel

theorem lookup_hlSyms (cfg : Cfg) (n : Nat) : lookup hlSyms cfg n = (lookupRow cfg n).map hlOf := by
  unfold lookup hlSyms lookupRow
  rw [List.find?_map]
  rfl

theorem rowsOf_total (la : LookAhead) (hla : LaFloatLike la) (msg : List Nat) (cfg : Cfg)
    (hb : ∀ x ∈ msg, x < 256) :
    rowsOf la msg cfg = .error .writer ∨
    ∃ s cw, s ∈ DMRef.table7 ∧ encodeHL hlSyms la msg cfg = .ok cw ∧ cw.length = s.nData ∧
      lookupRow cfg cw.length = some s ∧ rowsOf la msg cfg = .ok (DMRef.symbolBits s cw) := by
  unfold rowsOf
  rcases encodeHL_total hlSyms la hla msg cfg hb with ⟨cw, he⟩ | he
  · right
    rw [he]
    simp only
    obtain ⟨s', n, _, hlen, hl2, _, _⟩ := encodeHL_symbol hlSyms la msg cfg cw he
    rw [lookup_hlSyms] at hl2
    cases hr : lookupRow cfg cw.length with
    | none => rw [hr] at hl2; cases hl2
    | some s =>
      rw [hr] at hl2
      simp only [Option.map_some, Option.some.injEq] at hl2
      have hmem : s ∈ DMRef.table7 := mem_table7_of_symbols (List.mem_of_find?_eq_some hr)
      have hn : cw.length = s.nData := by rw [hlen, ← hl2]; rfl
      have hbytes := encodeHL_bytes_all hlSyms la msg cfg cw hb he
      have hsym := Gzx.Properties.C08.model_symbol_eq_reference_symbol s hmem cw hn hbytes
      simp only [hsym]
      exact ⟨s, cw, hmem, rfl, hn, hr, rfl⟩
  · left; rw [he]

theorem modulesOf_symbolBits (s : DMRef.Sym) (hs : s ∈ DMRef.table7) (d : List Nat) :
    (modulesOf (DMRef.symbolBits s d)).mw = s.cols ∧ (modulesOf (DMRef.symbolBits s d)).mh = s.rows ∧
    1 ≤ s.cols ∧ 1 ≤ s.rows := by
  have hd := table7_dims
  rw [List.all_eq_true] at hd
  have := hd s hs
  simp only [Bool.and_eq_true, decide_eq_true_eq] at this
  obtain ⟨h1, h2⟩ := this
  unfold modulesOf DMRef.symbolBits DMRef.symbolOfCodewords DMRef.symbolOfMapping
  simp only [List.length_map, List.length_range]
  refine ⟨?_, trivial, h2, h1⟩
  obtain ⟨k, hk⟩ : ∃ k, s.rows = k + 1 := ⟨s.rows - 1, by omega⟩
  rw [hk, List.range_succ_eq_map]
  simp

open Gzx.WriterFrontend in
/-- the hypothesis `DMCoreTotal` of the C12 front-end theorems, discharged for the modelled core -/
theorem core_total (la : LookAhead) (hla : LaFloatLike la) (prep : List Nat → Option (List Nat))
    (hprep : ∀ c msg, prep c = some msg → ∀ x ∈ msg, x < 256) : DMCoreTotal ⟨core la prep⟩ := by
  constructor
  · intro c s mn mx w hw
    simp only [core] at hw
    split at hw
    · cases hw
    · rename_i msg hp
      rcases rowsOf_total la hla msg (cfgOf s mn mx) (hprep c msg hp) with h | ⟨_, _, _, _, _, _, h⟩
      · rw [h] at hw; cases hw
      · rw [h] at hw; cases hw
  · intro c s mn mx md hok
    simp only [core] at hok
    split at hok
    · cases hok
    · rename_i msg hp
      rcases rowsOf_total la hla msg (cfgOf s mn mx) (hprep c msg hp) with h | ⟨r, cw, hr, _, _, _, h⟩
      · rw [h] at hok; cases hok
      · rw [h] at hok
        simp only [Except.map, Except.ok.injEq] at hok
        subst hok
        obtain ⟨e1, e2, e3, e4⟩ := modulesOf_symbolBits r hr cw
        rw [e1, e2]; exact ⟨e3, e4⟩

end Gzx.DMWriterCore
