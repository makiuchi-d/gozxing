/-
  The generic composition: writer front end → rendering → picture → bitmap → scan: what the nine symbologies have
  in common (`Readable`) and what `OneDReader.Decode` returns for the written picture, upright and turned by 180°.
-/
import Gzx.Proofs.Image1DScan
namespace Gzx.Image1DPath
open Gzx Gzx.Image1D Gzx.Image1DScan Gzx.OneD Gzx.WriterFrontend

theorem uniform_rot180 (row : List Bool) (h : Nat) : (uniform row h).rot180 = uniform row.reverse h := by
  simp [Pic.rot180, uniform]

/-! ## the writer front end -/

theorem onedMargin_hintsOf (dflt : Int) (hd : 0 ≤ dflt) (margin : Option Nat) (forced : Option Nat) :
    onedMargin dflt (hintsOf (margin.map Int.ofNat) forced) = .ok ((margin.map Int.ofNat).getD dflt) := by
  cases margin with
  | none => simp [onedMargin, hintsOf]; omega
  | some m => simp [onedMargin, hintsOf]

/-- `OneDimensionalCodeWriter.Encode` with natural width / height / margin hint on accepted contents is the rendering
    of the module pattern (`d`: the writer's default margin, 10 or 9) -/
theorem encode1D_render (cfg : OneDCfg) (d : Nat) (hd : cfg.defaultMargin = (d : Int)) (contents : List Nat)
    (hne : contents ≠ []) (fmt : Nat) (hfmt : cfg.supported.contains fmt = true) (width height : Nat)
    (margin forced : Option Nat) (mods : List Bool)
    (hcore : cfg.core contents (hintsOf (margin.map Int.ofNat) forced) = .ok mods) :
    encode1D cfg contents fmt (width : Int) (height : Int) (hintsOf (margin.map Int.ofNat) forced) =
      Render.render1D mods (width : Int) (height : Int) ((margin.getD d : Nat) : Int) := by
  unfold encode1D
  have h1 : ¬ contents.length = 0 := by cases contents with | nil => exact absurd rfl hne | cons a l => simp
  have h2 : ¬ ((width : Int) < 0 ∨ (height : Int) < 0) := by omega
  rw [if_neg h1, if_neg h2, if_neg (by rw [hfmt]; simp), onedMargin_hintsOf cfg.defaultMargin (by omega), hcore, hd]
  cases margin <;> rfl

/-! ## a symbol without a single bar is drawn as an all-white row -/

theorem scaleRow_allwhite (s : Nat) (mods : List Bool) (h : ¬ true ∈ mods) :
    scaleRow s mods = List.replicate (mods.length * s) false := by
  induction mods with
  | nil => simp [scaleRow]
  | cons b bs ih =>
    have hb : b = false := by cases b with | false => rfl | true => exact absurd (by simp) h
    have hbs : ¬ true ∈ bs := fun hm => h (by simp [hm])
    have e : scaleRow s (b :: bs) = List.replicate s b ++ scaleRow s bs := by simp [scaleRow]
    rw [e, ih hbs, hb, List.length_cons, Nat.add_mul, Nat.one_mul, Nat.add_comm, List.replicate_append_replicate]

theorem paddedRow_allwhite (lq s rq : Nat) (mods : List Bool) (h : ¬ true ∈ mods) :
    paddedRow lq s rq mods = List.replicate (lq + mods.length * s + rq) false := by
  unfold paddedRow
  rw [scaleRow_allwhite s mods h, List.replicate_append_replicate, List.replicate_append_replicate]

/-! ## what the nine symbologies have in common, and the generic pose theorems -/

/-- The writer front end accepts `contents` and renders the module pattern `mods` with an effective margin of
    `m ≥ 2` modules; the symbol has a bar; and the scanning reader's `DecodeRow` reads back every padded row with the
    renderer's geometry, `Decode`'s post-processing turning that into (`sym`, `canonical`).
    The theorems below use `bar` only to know that `mods` is not empty; `Readable.of_read` (Image1DWhite.lean) supplies
    it from `read`, since every reader refuses an all-white row. -/
structure Readable (E : Env) (sym : Sym) (ext39 : Bool) (contents : List Nat) (width height : Nat)
    (margin forced : Option Nat) (canonical : List Nat) (mods : List Bool) (m : Nat) : Prop where
  margin_ge : 2 ≤ m
  bar : true ∈ mods
  write : writeImage E.T sym contents (width : Int) (height : Int) (margin.map Int.ofNat) forced =
    Render.render1D mods (width : Int) (height : Int) (m : Int)
  read : ∀ (lq s rq : Nat) (rn : Int), 1 ≤ s → m * s ≤ lq + rq → lq = (lq + rq) / 2 → s ≤ max 1 width →
    ∃ t, rowRead E ext39 (scanSym sym) rn (paddedRow lq s rq mods) = .ok t ∧ finishRead sym t = .ok (sym, canonical)

/-- upright: content and format from the first scanned row, no orientation -/
theorem upright_of_readable {E : Env} {sym : Sym} {ext39 : Bool} {contents : List Nat} {width height : Nat}
    {margin forced : Option Nat} {canonical : List Nat} {mods : List Bool} {m : Nat}
    (hR : Readable E sym ext39 contents width height margin forced canonical mods m) (binz : Binz) (th : Bool) :
    imagePath E sym contents width height (margin.map Int.ofNat) forced .upright binz ext39 th =
      .ok ⟨sym, canonical, max 1 height / 2, false, false, none⟩ := by
  obtain ⟨img, lq, s, rq, himg, _, hpic, g, hc⟩ := written_pic mods (List.length_pos_of_mem hR.bar) width height m hR.margin_ge
  obtain ⟨t, hres, hP⟩ := hR.read lq s rq ((max 1 height / 2 : Nat) : Int) g.scale g.quiet g.centred g.le_width
  unfold imagePath
  rw [hR.write, himg]
  simp only [Pic.pose]
  rw [readImage_generic, hpic, decodeImage_uniform _ binz _ hc _ (by omega) th (.ok (t, false)) (by rw [hres]; rfl)]
  simp only [Except.map, foundAt, hP]; rfl

/-- upside down, in full generality: the outcome is decided by what the scanning reader's `DecodeRow` makes of the
    REVERSED rendered row (the first attempt of `doDecode` on the middle row): a result is returned as it is (upright,
    no orientation); a reader exception leads to the reversed-row retry, which reads the content with ORIENTATION 180;
    any other failure is returned.  The rendered row comes with the renderer's geometry. -/
theorem upside_down_geometry {E : Env} {sym : Sym} {ext39 : Bool} {contents : List Nat} {width height : Nat}
    {margin forced : Option Nat} {canonical : List Nat} {mods : List Bool} {m : Nat}
    (hR : Readable E sym ext39 contents width height margin forced canonical mods m) (binz : Binz) (th : Bool) :
    ∃ lq s rq, OneD.renderRow mods width m = .ok (paddedRow lq s rq mods) ∧
      Image1DRender.Geom m width lq s rq ∧
      imagePath E sym contents width height (margin.map Int.ofNat) forced .upsideDown binz ext39 th =
        match rowRead E ext39 (scanSym sym) ((max 1 height / 2 : Nat) : Int) (paddedRow lq s rq mods).reverse with
        | .ok t =>
          (match finishRead sym t with
           | .error e => .error e
           | .ok r => .ok ⟨r.1, r.2, max 1 height / 2, false, false, none⟩)
        | .error e =>
          if OneDScan.isReaderException e then .ok ⟨sym, canonical, max 1 height / 2, true, false, some 180⟩
          else .error e := by
  obtain ⟨img, lq, s, rq, himg, hrow, hpic, g, hc⟩ := written_pic mods (List.length_pos_of_mem hR.bar) width height m hR.margin_ge
  obtain ⟨t, hres, hP⟩ := hR.read lq s rq ((max 1 height / 2 : Nat) : Int) g.scale g.quiet g.centred g.le_width
  refine ⟨lq, s, rq, hrow, g, ?_⟩
  have key := fun v => decodeImage_uniform (rowRead E ext39 (scanSym sym)) binz _ hc.reverse (max 1 height) (by omega) th v
  rw [List.reverse_reverse, hres] at key
  unfold imagePath
  rw [hR.write, himg]
  simp only [Pic.pose]
  rw [readImage_generic, hpic, uniform_rot180]
  cases hfirst : rowRead E ext39 (scanSym sym) ((max 1 height / 2 : Nat) : Int) (paddedRow lq s rq mods).reverse with
  | ok t' => rw [key (.ok (t', false)) (by rw [hfirst]; rfl)]; rfl
  | error e =>
    cases he : OneDScan.isReaderException e with
    | true =>
      rw [key (.ok (t, true)) (by rw [hfirst]; simp only [verdict, he, Bool.not_true, Bool.false_eq_true, if_false])]
      simp only [Except.map, foundAt, hP, he, if_true]
    | false =>
      rw [key (.error e) (by rw [hfirst]; simp only [verdict, he, Bool.not_false, if_true])]
      simp only [Except.map, he, Bool.false_eq_true, if_false]

end Gzx.Image1DPath
