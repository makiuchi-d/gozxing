/-
  Binariser facts the 1-D image path uses.

  `GetBlackRow` (the one row method both binarisers share: HybridBinarizer embeds GlobalHistogramBinarizer) on the
  luminances of a row of a rendered 1-D symbol: the row is bilevel (0 / 255) and has a white pixel, so there is a
  black point estimate (`Binarizer.estimateBlackPoint_bilevel`), it lies in [8, 240], and the -1 4 -1 filter then
  reproduces every interior pixel exactly; the two border pixels are never set, which agrees with the row because a
  rendered row starts and ends white.
-/
import Gzx.Model.ImagePath2D
import Gzx.Proofs.Binarizer
import Gzx.Properties.C17
namespace Gzx.Image1DBin
open Gzx Gzx.Binarizer Gzx.ImagePath

theorem grayAt_bilevel (bits : List Bool) : ∀ p ∈ bits.map grayAt, p = 0 ∨ p = 255 := by
  intro p hp
  obtain ⟨b, _, rfl⟩ := List.mem_map.mp hp
  cases b <;> simp [grayAt]

/-- a row whose two border pixels — which the -1 4 -1 filter never sets — are white -/
structure WhiteEnds (row : List Bool) : Prop where
  first : row.head? = some false
  last : row.getLast? = some false

theorem WhiteEnds.reverse {row : List Bool} (h : WhiteEnds row) : WhiteEnds row.reverse :=
  ⟨by rw [List.head?_reverse]; exact h.last, by rw [List.getLast?_reverse]; exact h.first⟩

/-- `GetBlackRow` reproduces a rendered row (by either binariser — they share the method) -/
theorem blackRow_bits (bits : List Bool) (hw : WhiteEnds bits) : blackRow (bits.map grayAt) = .ok bits := by
  obtain ⟨hfirst, hlast⟩ := hw
  have hwhite : false ∈ bits := by
    cases bits with
    | nil => cases hfirst
    | cons b bs => simp only [List.head?_cons, Option.some.injEq] at hfirst; subst hfirst; simp
  have hbi := grayAt_bilevel bits
  rcases Properties.C17.blackRow_bilevel (bits.map grayAt) hbi with hnf | ⟨out, hout, hlen, hpx⟩
  · -- NotFound is impossible: the row has a white pixel
    exfalso
    obtain ⟨bp, hbp⟩ := (estimateBlackPoint_bilevel _ hbi).1 (List.mem_map.mpr ⟨false, hwhite, rfl⟩)
    unfold blackRow at hnf
    rw [hbp] at hnf
    simp only at hnf
    split at hnf <;> cases hnf
  · rw [hout]
    refine congrArg Except.ok ?_
    simp only [List.length_map] at hlen hpx
    apply List.ext_getElem?
    intro i
    by_cases hi : i < bits.length
    · rw [hpx i hi, List.getElem?_eq_getElem hi]
      refine congrArg some ?_
      have hb : (bits.map grayAt)[i]'(by simpa using hi) = grayAt bits[i] := by simp
      rw [hb]
      by_cases h0 : i = 0
      · subst h0
        have : bits[0] = false := by
          cases bits with
          | nil => cases hfirst
          | cons b bs => simpa using hfirst
        simp [this, grayAt]
      · by_cases hl : i + 1 = bits.length
        · have : bits[i] = false := by
            have := List.getLast?_eq_getElem? (l := bits)
            rw [this] at hlast
            have e : bits.length - 1 = i := by omega
            rw [e, List.getElem?_eq_getElem hi] at hlast
            simpa using hlast
          simp [this, grayAt]
        · have h3 : ¬ bits.length < 3 := by omega
          have hin : 0 < i ∧ i + 1 < bits.length := by omega
          cases hbv : bits[i] <;> simp [grayAt, h3, hin]
    · rw [List.getElem?_eq_none (by omega), List.getElem?_eq_none (by omega)]

end Gzx.Image1DBin
