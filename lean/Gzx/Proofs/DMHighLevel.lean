/-
  Helper lemmas for C02 (Data Matrix codeword level): codec inverses, and what the operations of the encoder context do.
-/
import Gzx.Model.DMHighLevel
import Gzx.Proofs.ExceptList
namespace Gzx.DMHighLevel

/-- which branch of a first-match chain produced `y` (the tests that failed before it are dropped) -/
theorem ite_eq_cases {α : Type} {p : Prop} [Decidable p] {r₁ r₂ y : α}
    (h : (if p then r₁ else r₂) = y) : p ∧ r₁ = y ∨ r₂ = y := by
  split at h
  · exact .inl ⟨‹p›, h⟩
  · exact .inr h

/-! ## ASCII digit pairs -/

theorem digitPair_digits (d1 d2 : Nat) (h1 : d1 < 10) (h2 : d2 < 10) :
    digitPair (d1 * 10 + d2) = [48 + d1, 48 + d2] := by
  unfold digitPair itoa2
  by_cases h : d1 * 10 + d2 < 10
  · have h0 : d1 = 0 := by omega
    subst h0
    have hd : 0 * 10 + d2 = d2 := by omega
    rw [hd] at h ⊢
    simp [h]
  · have e1 : (d1 * 10 + d2) / 10 = d1 := by omega
    have e2 : (d1 * 10 + d2) % 10 = d2 := by omega
    simp [h, e1, e2]

theorem digitPair_code (d1 d2 : Nat) (h1 : 48 ≤ d1 ∧ d1 ≤ 57) (h2 : 48 ≤ d2 ∧ d2 ≤ 57) :
    digitPair ((d1 - 48) * 10 + (d2 - 48) + 130 - 130) = [d1, d2] := by
  have := digitPair_digits (d1 - 48) (d2 - 48) (by omega) (by omega)
  rw [show 48 + (d1 - 48) = d1 by omega, show 48 + (d2 - 48) = d2 by omega] at this
  rw [Nat.add_sub_cancel, this]

/-! ## C40 / Text / X12 triplet packing -/

theorem parseTwoBytes_pack (c1 c2 c3 : Nat) (h1 : c1 < 40) (h2 : c2 < 40) (h3 : c3 < 40) :
    parseTwoBytes ((1600 * c1 + 40 * c2 + c3 + 1) / 256 % 256) ((1600 * c1 + 40 * c2 + c3 + 1) % 256)
      = ((c1 : Int), (c2 : Int), (c3 : Int)) := by
  unfold parseTwoBytes
  have hv : (1600 * c1 + 40 * c2 + c3 + 1) / 256 % 256 = (1600 * c1 + 40 * c2 + c3 + 1) / 256 := by omega
  rw [hv]
  have hfull : ((((1600 * c1 + 40 * c2 + c3 + 1) / 256 : Nat) : Int) * 256
      + (((1600 * c1 + 40 * c2 + c3 + 1) % 256 : Nat) : Int) - 1) = ((1600 * c1 + 40 * c2 + c3 : Nat) : Int) := by
    omega
  simp only [hfull]
  have t1 : Int.tdiv ((1600 * c1 + 40 * c2 + c3 : Nat) : Int) 1600 = (c1 : Int) := by
    rw [Int.tdiv_eq_ediv_of_nonneg (by omega)]
    omega
  simp only [t1]
  have hrem : ((1600 * c1 + 40 * c2 + c3 : Nat) : Int) - (c1 : Int) * 1600 = ((40 * c2 + c3 : Nat) : Int) := by
    omega
  simp only [hrem]
  have t2 : Int.tdiv ((40 * c2 + c3 : Nat) : Int) 40 = (c2 : Int) := by
    rw [Int.tdiv_eq_ediv_of_nonneg (by omega)]
    omega
  simp only [t2]
  have : ((40 * c2 + c3 : Nat) : Int) - (c2 : Int) * 40 = (c3 : Int) := by omega
  simp only [this]

/-! ## Base 256 randomisation -/

theorem unrand255_rand255 (b p : Nat) (hb : b < 256) : unrand255 (rand255 b p) p = b := by
  unfold unrand255 rand255
  simp only
  split <;> split <;> omega

theorem rand255_lt (b p : Nat) (hb : b < 256) : rand255 b p < 256 := by
  unfold rand255
  simp only
  split <;> omega

/-! ## pad codewords -/

theorem rand253_range (p : Nat) : 1 ≤ rand253 p ∧ rand253 p ≤ 254 ∧ rand253 p ≠ 129 := by
  unfold rand253
  simp only
  split <;> omega

/-! ## EDIFACT -/

theorem edifactUnpack_word (c1 c2 c3 c4 : Nat) (h1 : c1 < 64) (h2 : c2 < 64) (h3 : c3 < 64) (h4 : c4 < 64) :
    ∃ b1 b2 b3, edifactWord c1 c2 c3 c4 = [b1, b2, b3] ∧ b1 < 256 ∧ b2 < 256 ∧ b3 < 256 ∧
      edifactUnpack b1 b2 b3 = [c1, c2, c3, c4] := by
  refine ⟨_, _, _, rfl, by omega, by omega, by omega, ?_⟩
  unfold edifactUnpack
  simp only
  have hv : (c1 * 262144 + c2 * 4096 + c3 * 64 + c4) / 65536 % 256 * 65536
      + (c1 * 262144 + c2 * 4096 + c3 * 64 + c4) / 256 % 256 * 256
      + (c1 * 262144 + c2 * 4096 + c3 * 64 + c4) % 256 = c1 * 262144 + c2 * 4096 + c3 * 64 + c4 := by omega
  rw [hv]
  have e1 : (c1 * 262144 + c2 * 4096 + c3 * 64 + c4) / 262144 % 64 = c1 := by omega
  have e2 : (c1 * 262144 + c2 * 4096 + c3 * 64 + c4) / 4096 % 64 = c2 := by omega
  have e3 : (c1 * 262144 + c2 * 4096 + c3 * 64 + c4) / 64 % 64 = c3 := by omega
  have e4 : (c1 * 262144 + c2 * 4096 + c3 * 64 + c4) % 64 = c4 := by omega
  rw [e1, e2, e3, e4]

/-! ## the C40 / Text value automaton on a list of values -/

/-- run `cValueCore` over a list of values, collecting what is appended -/
def runVals (T : Tables) (text : Bool) : List Int → CState → Res (CState × List Emit)
  | [], st => .ok (st, [])
  | v :: vs, st =>
    match cValueCore T text v st with
    | .error x => .error x
    | .ok (st', e) =>
      match runVals T text vs st' with
      | .error x => .error x
      | .ok (st'', es) => .ok (st'', e :: es)

def realEmits (es : List Emit) : List Emit := es.filter (fun e => e != .none)

/-- decidable form of "the values of character `c` decode to exactly `c` and leave the automaton in its
    initial state" -/
def charRoundTrips (T : Tables) (text : Bool) (c : Nat) : Bool :=
  match runVals T text ((cEncodeChar text c).map Int.ofNat) {} with
  | .ok (st, es) => st == {} && realEmits es == [.char c] && (cEncodeChar text c).all (· < 40)
  | .error _ => false

theorem c40_chars_roundtrip : ∀ c : Fin 256, charRoundTrips refTables false c.val = true := by decide +kernel
theorem text_chars_roundtrip : ∀ c : Fin 256, charRoundTrips refTables true c.val = true := by decide +kernel

def x12RoundTrips (c : Nat) : Bool :=
  match x12EncodeChar c with
  | .ok v => isNativeX12 c && decide (v < 40) && x12Value (v : Int) == .ok c
  | .error _ => !isNativeX12 c

theorem x12_chars_roundtrip : ∀ c : Fin 256, x12RoundTrips c.val = true := by decide +kernel

def edifactRoundTrips (c : Nat) : Bool :=
  match edifactEncodeChar c with
  | .ok v => isNativeEDIFACT c && decide (v < 64) && decide (v ≠ 31) && edifactChar v == c
  | .error _ => !isNativeEDIFACT c

/-! ## the encoder context: `cur`, `hasMore`, `back`, `UpdateSymbolInfoByLength` -/

theorem cur_ok_iff {c : Ctx} {ch : Nat} : c.cur = .ok ch ↔ c.msg[c.pos]? = some ch := by
  unfold Ctx.cur
  cases c.msg[c.pos]? <;> simp

theorem update_cases {syms : List SymbolInfo} {c c' : Ctx} {n : Nat} (h : c.update syms n = .ok c') :
    (c' = c ∧ ∃ s0, c.sym = some s0 ∧ n ≤ s0.cap) ∨
    (∃ s, lookup syms c.cfg n = some s ∧ c' = { c with sym := some s } ∧
      (c.sym = none ∨ ∃ s0, c.sym = some s0 ∧ n > s0.cap)) := by
  unfold Ctx.update at h
  simp only at h
  have relook : ∀ {r : Res Ctx}, r = .ok c' → (r = match lookup syms c.cfg n with
      | some s => .ok { c with sym := some s }
      | none => .error .writer) → ∃ s, lookup syms c.cfg n = some s ∧ c' = { c with sym := some s } := by
    intro r hr e
    rw [e] at hr
    cases hl : lookup syms c.cfg n with
    | none => rw [hl] at hr; cases hr
    | some s => rw [hl] at hr; cases hr; exact ⟨s, rfl, rfl⟩
  cases hs : c.sym with
  | none =>
    rw [hs] at h
    obtain ⟨s, hl, e⟩ := relook h rfl
    exact .inr ⟨s, hl, e, .inl rfl⟩
  | some s0 =>
    rw [hs] at h
    simp only at h
    by_cases hgt : n > s0.cap
    · rw [if_pos hgt] at h
      obtain ⟨s, hl, e⟩ := relook h rfl
      exact .inr ⟨s, hl, e, .inr ⟨s0, rfl, hgt⟩⟩
    · rw [if_neg hgt] at h
      cases h
      exact .inl ⟨rfl, s0, rfl, by omega⟩

theorem lookup_cap {syms : List SymbolInfo} {cfg : Cfg} {n : Nat} {s : SymbolInfo} (h : lookup syms cfg n = some s) :
    n ≤ s.cap := by
  have := List.find?_some h
  simp only [Bool.and_eq_true, decide_eq_true_eq] at this
  exact this.2

theorem update_spec {syms : List SymbolInfo} {c c' : Ctx} {n : Nat} (h : c.update syms n = .ok c') :
    c'.cw = c.cw ∧ c'.msg = c.msg ∧ c'.pos = c.pos ∧ c'.cfg = c.cfg ∧ c'.skipAtEnd = c.skipAtEnd ∧
    c'.newEnc = c.newEnc ∧ ∃ s, c'.sym = some s ∧ n ≤ s.cap ∧ (c.sym = some s ∨ c.sym = none ∨ ∃ s0, c.sym = some s0 ∧ n > s0.cap) := by
  rcases update_cases h with ⟨rfl, s0, hs, hle⟩ | ⟨s, hl, rfl, hc⟩
  · exact ⟨rfl, rfl, rfl, rfl, rfl, rfl, s0, hs, hle, .inl hs⟩
  · exact ⟨rfl, rfl, rfl, rfl, rfl, rfl, s, rfl, lookup_cap hl, .inr hc⟩

theorem hasMore_iff (c : Ctx) : c.hasMore = true ↔ c.pos < c.total := by simp [Ctx.hasMore]
theorem hasMore_false_iff (c : Ctx) : c.hasMore = false ↔ ¬ c.pos < c.total := by simp [Ctx.hasMore]

theorem hasMore_congr (c c2 : Ctx) (h1 : c2.msg = c.msg) (h2 : c2.pos = c.pos) (h3 : c2.skipAtEnd = c.skipAtEnd) :
    c2.hasMore = c.hasMore := by unfold Ctx.hasMore Ctx.total; rw [h1, h2, h3]

theorem remaining_advance {c c' : Ctx} (hm : c.hasMore = true) (h1 : c'.msg = c.msg) (h2 : c'.skipAtEnd = c.skipAtEnd)
    (h3 : c'.pos = c.pos + 1) : c'.remaining < c.remaining := by
  have := (hasMore_iff c).mp hm
  simp only [Ctx.remaining, Ctx.total, h1, h2, h3] at this ⊢
  omega

theorem cur_spec {c : Ctx} {ch : Nat} (h : c.cur = .ok ch) : c.msg[c.pos]? = some ch ∧ c.pos < c.msg.length := by
  unfold Ctx.cur at h
  split at h
  · rename_i x hx
    cases h
    refine ⟨hx, ?_⟩
    rcases Nat.lt_or_ge c.pos c.msg.length with hlt | hge
    · exact hlt
    · rw [List.getElem?_eq_none hge] at hx; cases hx
  · cases h

theorem hasMore_cur {c : Ctx} (h : c.hasMore = true) : ∃ ch, c.cur = .ok ch ∧ c.msg[c.pos]? = some ch := by
  have hlt : c.pos < c.msg.length := by
    have := (hasMore_iff c).mp h
    simp only [Ctx.total] at this; omega
  refine ⟨c.msg[c.pos], ?_, List.getElem?_eq_getElem hlt⟩
  simp [Ctx.cur, List.getElem?_eq_getElem hlt]

theorem drop_eq_cons_of_getElem? {l : List Nat} {i x : Nat} (h : l[i]? = some x) :
    l.drop i = x :: l.drop (i + 1) := by
  have hlt : i < l.length := by
    rcases Nat.lt_or_ge i l.length with hlt | hge
    · exact hlt
    · rw [List.getElem?_eq_none hge] at h; cases h
  rw [List.drop_eq_getElem_cons hlt]
  congr 1
  rw [List.getElem?_eq_getElem hlt] at h
  exact Option.some.inj h

theorem back_spec {c c' : Ctx} {k : Nat} (h : c.back k = .ok c') :
    k ≤ c.pos ∧ c' = { c with pos := c.pos - k } := by
  unfold Ctx.back at h
  split at h
  · cases h; exact ⟨by assumption, rfl⟩
  · cases h

theorem capacity_ok_iff {c : Ctx} {cap : Nat} : c.capacity = .ok cap ↔ ∃ s, c.sym = some s ∧ cap = s.cap := by
  unfold Ctx.capacity
  cases c.sym with
  | none => exact ⟨fun h => (by cases h), fun ⟨_, h, _⟩ => (by cases h)⟩
  | some s => exact ⟨fun h => (by cases h; exact ⟨s, rfl, rfl⟩), fun ⟨_, h, e⟩ => (by cases h; rw [e])⟩

theorem capacity_of_update {syms : List SymbolInfo} {c c' : Ctx} {n : Nat} (h : c.update syms n = .ok c') :
    ∃ s, c'.sym = some s ∧ c'.capacity = .ok s.cap := by
  obtain ⟨_, _, _, _, _, _, s, hs, _, _⟩ := update_spec h
  exact ⟨s, hs, capacity_ok_iff.2 ⟨s, hs, rfl⟩⟩

/-- `UpdateSymbolInfoByLength` fails only with the WriterException "no symbol fits" -/
theorem update_error {syms : List SymbolInfo} {c : Ctx} {n : Nat} {e : Fault} (h : c.update syms n = .error e) :
    e = .writer := by
  unfold Ctx.update at h
  simp only at h
  repeat' split at h
  all_goals cases h
  all_goals rfl

theorem update_sym_cases {syms : List SymbolInfo} {c c' : Ctx} {n : Nat} (h : c.update syms n = .ok c') :
    c'.cfg = c.cfg ∧ c'.cw = c.cw ∧ (c'.sym = c.sym ∨ ∃ s, lookup syms c.cfg n = some s ∧ c'.sym = some s) := by
  rcases update_cases h with ⟨rfl, _⟩ | ⟨s, hl, rfl, _⟩
  · exact ⟨rfl, rfl, Or.inl rfl⟩
  · exact ⟨rfl, rfl, Or.inr ⟨s, hl, rfl⟩⟩

theorem update_noop {syms : List SymbolInfo} {c : Ctx} {s : SymbolInfo} {n : Nat} (hs : c.sym = some s)
    (hn : n ≤ s.cap) : c.update syms n = .ok c := by
  unfold Ctx.update
  simp only [hs]
  have : ¬ n > s.cap := by omega
  simp [this]

theorem update_sym_congr {syms : List SymbolInfo} {c d c2 : Ctx} {n : Nat} (h1 : d.cfg = c.cfg) (h2 : d.sym = c.sym)
    (h : c.update syms n = .ok c2) : ∃ d2, d.update syms n = .ok d2 ∧ d2.sym = c2.sym := by
  unfold Ctx.update at h ⊢
  simp only [h1, h2] at h ⊢
  cases hs : c.sym with
  | none =>
    rw [hs] at h
    simp only at h ⊢
    cases hl : lookup syms c.cfg n with
    | none => rw [hl] at h; cases h
    | some s => rw [hl] at h; cases h; exact ⟨_, rfl, rfl⟩
  | some s0 =>
    rw [hs] at h
    simp only at h ⊢
    split
    · rename_i hgt
      simp only [hgt, if_true] at h
      cases hl : lookup syms c.cfg n with
      | none => rw [hl] at h; cases h
      | some s => rw [hl] at h; cases h; exact ⟨_, rfl, rfl⟩
    · rename_i hgt
      simp only [hgt, if_false] at h
      cases h
      exact ⟨_, rfl, by simp [h2, hs]⟩

end Gzx.DMHighLevel
