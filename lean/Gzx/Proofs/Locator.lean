/-
  The true error locator `Λ = Π (1 + X_l x)` and evaluator `Ω = Σ_l Y_l Π_{j≠l} (1 + X_j x)` as coefficient
  lists, their values, and the key equation `Λ·S ≡ Ω (mod x^R)` coefficient-wise.
  Helper lemmas for Properties/C04.lean.
-/
import Gzx.Proofs.KeyEq
namespace Gzx.Proofs.Locator
open Gzx Gzx.GF Gzx.RS Gzx.Ref.GF Gzx.Proofs.GF Gzx.Proofs.Poly Gzx.Proofs.Conv Gzx.Proofs.Coef
  Gzx.Proofs.MinDist Gzx.Proofs.KeyEq

/-- `(1 + X·x) · p` -/
def mulLin (prim X : Nat) (p : List Nat) : List Nat :=
  List.zipWith (· ^^^ ·) (p.map (gmul prim X) ++ [0]) (0 :: p)

/-- `Λ = Π (1 + X_l x)` -/
def lamList (prim : Nat) : List (Nat × Nat) → List Nat
  | [] => [1]
  | p :: L => mulLin prim p.2 (lamList prim L)

/-- `Ω = Σ_l Y_l Π_{j≠l} (1 + X_j x)` (length `|L|`, leading zeros allowed) -/
def omList (prim : Nat) : List (Nat × Nat) → List Nat
  | [] => []
  | p :: L => List.zipWith (· ^^^ ·) (mulLin prim p.2 (omList prim L)) ((lamList prim L).map (gmul prim p.1))

/-- `Λ(a)` -/
def lamVal (prim : Nat) : List (Nat × Nat) → Nat → Nat
  | [], _ => 1
  | p :: L, a => gmul prim (1 ^^^ gmul prim p.2 a) (lamVal prim L a)

/-- `Ω(a)` -/
def omVal (prim : Nat) : List (Nat × Nat) → Nat → Nat
  | [], _ => 0
  | p :: L, a => gmul prim (1 ^^^ gmul prim p.2 a) (omVal prim L a) ^^^ gmul prim p.1 (lamVal prim L a)

theorem mulLin_length (prim X : Nat) (p : List Nat) : (mulLin prim X p).length = p.length + 1 := by
  simp [mulLin]

theorem lamList_length (prim : Nat) : ∀ L, (lamList prim L).length = L.length + 1
  | [] => rfl
  | p :: L => by simp [lamList, mulLin_length, lamList_length prim L]

theorem omList_length (prim : Nat) : ∀ L, (omList prim L).length = L.length
  | [] => rfl
  | p :: L => by simp [omList, mulLin_length, omList_length prim L, lamList_length prim L]

section field
variable {prim size : Nat} (ok : ParamsOK prim size)
include ok

theorem mulLin_inR (X : Nat) (p : List Nat) (hp : InR size p) : InR size (mulLin prim X p) :=
  InR_zipWith_xor ok _ _ (InR.append (InR_map_gmul ok X p) (InR.cons (zero_lt_size ok) InR.nil))
    (InR.cons (zero_lt_size ok) hp)

theorem lamList_inR : ∀ L, InR size (lamList prim L)
  | [] => InR.cons (one_lt_size ok) InR.nil
  | p :: L => mulLin_inR ok p.2 _ (lamList_inR L)

theorem omList_inR : ∀ L, InR size (omList prim L)
  | [] => InR.nil
  | p :: L => InR_zipWith_xor ok _ _ (mulLin_inR ok p.2 _ (omList_inR L)) (InR_map_gmul ok p.1 _)

theorem lamVal_lt : ∀ L a, lamVal prim L a < size
  | [], _ => one_lt_size ok
  | _ :: _, _ => gmul_lt ok _ _

theorem omVal_lt : ∀ L a, omVal prim L a < size
  | [], _ => zero_lt_size ok
  | _ :: _, _ => xor_lt_size ok _ _ (gmul_lt ok _ _) (gmul_lt ok _ _)

theorem evalH_mulLin (a X : Nat) (ha : a < size) (hX : X < size) (p : List Nat) (hp : InR size p) :
    evalH prim a (mulLin prim X p) = gmul prim (1 ^^^ gmul prim X a) (evalH prim a p) := by
  have hs := zero_lt_size ok
  have h1 := one_lt_size ok
  unfold mulLin
  have hx := evalFrom_xor ok a (p.map (gmul prim X) ++ [0]) (0 :: p) 0 0 (by simp) hs hs
    (InR.append (InR_map_gmul ok X p) (InR.cons hs InR.nil)) (InR.cons hs hp)
  rw [Nat.xor_zero] at hx
  show evalFrom prim a 0 _ = _
  rw [hx]
  show evalH prim a (p.map (gmul prim X) ++ [0]) ^^^ evalH prim a (0 :: p) = _
  have hpe := evalH_lt ok a p hp
  rw [evalH_zero_cons ok, evalH_append ok a ha _ _ (InR_map_gmul ok X p) (InR.cons hs InR.nil),
    evalH_zero_poly ok, Nat.xor_zero, evalH_scale ok a X ha hX p hp]
  show gmul prim (gmul prim 1 a) _ ^^^ _ = _
  rw [gmul_one_left ok a ha, gmul_xor_left ok 1 _ _ h1 (gmul_lt ok _ _) hpe, gmul_one_left ok _ hpe,
    ← gmul_assoc ok a X _ ha hX hpe, gmul_comm ok a X ha hX, Nat.xor_comm]

theorem evalH_lamList (a : Nat) (ha : a < size) : ∀ L, PairsIn size L →
    evalH prim a (lamList prim L) = lamVal prim L a
  | [], _ => evalH_cons_eq_evalFrom ok a 1 []
  | p :: L, hL => by
    show evalH prim a (mulLin prim p.2 (lamList prim L)) = _
    rw [evalH_mulLin ok a p.2 ha hL.head.2 _ (lamList_inR ok L), evalH_lamList a ha L hL.tail]
    rfl

theorem evalH_omList (a : Nat) (ha : a < size) : ∀ L, PairsIn size L →
    evalH prim a (omList prim L) = omVal prim L a
  | [], _ => rfl
  | p :: L, hL => by
    have hp := hL.head
    have hL' : PairsIn size L := hL.tail
    have hs := zero_lt_size ok
    show evalFrom prim a 0 (List.zipWith (· ^^^ ·) (mulLin prim p.2 (omList prim L))
      ((lamList prim L).map (gmul prim p.1))) = _
    have hx := evalFrom_xor ok a (mulLin prim p.2 (omList prim L)) ((lamList prim L).map (gmul prim p.1)) 0 0
      (by simp [mulLin_length, omList_length, lamList_length]) hs hs
      (mulLin_inR ok p.2 _ (omList_inR ok L)) (InR_map_gmul ok p.1 _)
    rw [Nat.xor_zero] at hx
    rw [hx]
    show evalH prim a (mulLin prim p.2 (omList prim L)) ^^^ evalH prim a ((lamList prim L).map (gmul prim p.1)) = _
    rw [evalH_mulLin ok a p.2 ha hp.2 _ (omList_inR ok L), evalH_omList a ha L hL',
      evalH_scale ok a p.1 ha hp.1 _ (lamList_inR ok L), evalH_lamList ok a ha L hL']
    rfl

/-- `Λ` vanishes exactly at the inverse locators -/
theorem lamVal_eq_zero_iff (a : Nat) (ha : a < size) : ∀ L, PairsIn size L →
    (lamVal prim L a = 0 ↔ ∃ p, p ∈ L ∧ gmul prim p.2 a = 1)
  | [], _ => by
    constructor
    · intro h; exact absurd h (by show (1 : Nat) ≠ 0; decide)
    · intro ⟨p, hp, _⟩; simp at hp
  | p :: L, hL => by
    have hp := hL.head
    have hL' : PairsIn size L := hL.tail
    have ih := lamVal_eq_zero_iff a ha L hL'
    constructor
    · intro h
      rcases gmul_eq_zero ok _ _ (xor_lt_size ok _ _ (one_lt_size ok) (gmul_lt ok _ _)) (lamVal_lt ok L a) h with h1 | h1
      · exact ⟨p, by simp, (xor_eq_zero h1).symm⟩
      · obtain ⟨q, hq, hq1⟩ := ih.1 h1
        exact ⟨q, List.mem_cons_of_mem _ hq, hq1⟩
    · intro ⟨q, hq, hq1⟩
      show gmul prim (1 ^^^ gmul prim p.2 a) (lamVal prim L a) = 0
      rcases List.mem_cons.1 hq with rfl | hq
      · rw [hq1, Nat.xor_self, gmul_zero_left ok _ (lamVal_lt ok L a)]
      · rw [ih.2 ⟨q, hq, hq1⟩, gmul_zero_right ok]

omit ok in
theorem coef_mulLin_aux (X : Nat) (p : List Nat) (m : Nat) :
    coef (p.map (gmul prim X) ++ [0]) m = if m ≥ 1 then coef (p.map (gmul prim X)) (m - 1) else 0 := by
  rw [coef_append]
  simp only [List.length_cons, List.length_nil, Nat.zero_add]
  by_cases hm : m < 1
  · have : ¬ m ≥ 1 := by omega
    rw [if_pos hm, if_neg this, coef_zero_cons]; rfl
  · have : m ≥ 1 := by omega
    rw [if_neg hm, if_pos this]

theorem coef_mulLin (X : Nat) (p : List Nat) (m : Nat) :
    coef (mulLin prim X p) m = coef p m ^^^ (if m ≥ 1 then gmul prim X (coef p (m - 1)) else 0) := by
  unfold mulLin
  rw [coef_zipWith_xor _ _ _ (by simp), coef_zero_cons, coef_mulLin_aux, Nat.xor_comm]
  congr 1
  split
  · rw [coef_map_gmul ok]
  · rfl

theorem conv_mulLin (X : Nat) (hX : X < size) (P : List Nat) (hP : InR size P) (g : Nat → Nat)
    (hg : ∀ j, g j < size) (m : Nat) :
    conv prim (coef (mulLin prim X P)) g m =
      conv prim (coef P) g m ^^^ (if m ≥ 1 then gmul prim X (conv prim (coef P) g (m - 1)) else 0) := by
  have hs := zero_lt_size ok
  have hc : ∀ j, coef P j < size := coef_lt hs P hP
  have h1 : ∀ i, i ≤ m → coef (mulLin prim X P) i =
      (fun j => coef P j ^^^ (if j ≥ 1 then gmul prim X (coef P (j - 1)) else 0)) i := by
    intro i _; exact coef_mulLin ok X P i
  have hsh : conv prim (fun j => if j ≥ 1 then gmul prim X (coef P (j - 1)) else 0) g m =
      if m ≥ 1 then conv prim (fun j => gmul prim X (coef P j)) g (m - 1) else 0 :=
    conv_shift_left ok 1 (fun j => gmul prim X (coef P j)) g hg m
  rw [conv_congr_left h1, conv_xor_left ok _ _ _ hc (fun j => by split; exact gmul_lt ok _ _; exact hs) hg m,
    hsh]
  congr 1
  split
  · exact conv_scale_left ok X hX _ g hc hg _
  · rfl

/-- a geometric sequence is annihilated (mod its constant) by its own linear factor -/
theorem geom_cancel (X Y : Nat) (hX : X < size) (hY : Y < size) (P : List Nat) (hP : InR size P) : ∀ m,
    conv prim (coef P) (fun i => gmul prim Y (gpow prim X i)) m ^^^
      (if m ≥ 1 then gmul prim X (conv prim (coef P) (fun i => gmul prim Y (gpow prim X i)) (m - 1)) else 0) =
      gmul prim Y (coef P m)
  | 0 => by
    have hc := coef_lt (zero_lt_size ok) P hP 0
    show (0 ^^^ gmul prim (coef P 0) (gmul prim Y (gpow prim X 0))) ^^^ 0 = _
    rw [Nat.xor_zero, Nat.zero_xor, show gpow prim X 0 = 1 from rfl, gmul_one_right ok Y hY,
      gmul_comm ok _ Y hc hY]
  | k + 1 => by
    have hs := zero_lt_size ok
    have hc : ∀ j, coef P j < size := coef_lt hs P hP
    have h1 : k + 1 ≥ 1 := by omega
    rw [if_pos h1]
    show (xsum (k + 1) (fun j => gmul prim (coef P j) (gmul prim Y (gpow prim X (k + 1 - j)))) ^^^
        gmul prim (coef P (k + 1)) (gmul prim Y (gpow prim X (k + 1 - (k + 1))))) ^^^
      gmul prim X (xsum (k + 1) (fun j => gmul prim (coef P j) (gmul prim Y (gpow prim X (k + 1 - 1 - j))))) = _
    rw [xsum_gmul_left ok X (fun _ _ => gmul_lt ok _ _)]
    have hterm : ∀ j, j < k + 1 → gmul prim X (gmul prim (coef P j) (gmul prim Y (gpow prim X (k + 1 - 1 - j)))) =
        gmul prim (coef P j) (gmul prim Y (gpow prim X (k + 1 - j))) := by
      intro j hj
      have e : k + 1 - j = (k + 1 - 1 - j) + 1 := by omega
      rw [e]
      show _ = gmul prim (coef P j) (gmul prim Y (gmul prim (gpow prim X (k + 1 - 1 - j)) X))
      have hg := gpow_lt ok X (k + 1 - 1 - j)
      rw [← gmul_assoc ok Y _ X hY hg hX, ← gmul_assoc ok (coef P j) _ X (hc j) (gmul_lt ok _ _) hX,
        gmul_comm ok X _ hX (gmul_lt ok _ _)]
    rw [xsum_congr hterm]
    have e0 : k + 1 - (k + 1) = 0 := by omega
    rw [e0, show gpow prim X 0 = 1 from rfl, gmul_one_right ok Y hY, gmul_comm ok _ Y (hc _) hY]
    rw [Nat.xor_comm (xsum _ _), Nat.xor_assoc, Nat.xor_self, Nat.xor_zero]

/-- key equation for the true locator: `(Λ·S)_m = Ω_m` for `m < R` -/
theorem key_lambda (R : Nat) : ∀ L, PairsIn size L → ∀ m, m < R →
    conv prim (coef (lamList prim L)) (Sfun prim L R) m = coef (omList prim L) m
  | [], _, m, hm => by
    show conv prim (coef [1]) _ m = _
    rw [conv_one ok _ (Sfun_lt ok [] R) m]
    unfold Sfun; rw [if_pos hm]; rfl
  | p :: L, hL, m, hm => by
    have hp := hL.head
    have hL' : PairsIn size L := hL.tail
    have hs := zero_lt_size ok
    have hS' := Sfun_lt ok L R
    have hS : ∀ i, i ≤ m → Sfun prim (p :: L) R i =
        (fun i => gmul prim p.1 (gpow prim p.2 i) ^^^ Sfun prim L R i) i := by
      intro i hi
      have hiR : i < R := by omega
      show (if i < R then psum prim (p :: L) i else 0) =
        gmul prim p.1 (gpow prim p.2 i) ^^^ (if i < R then psum prim L i else 0)
      rw [if_pos hiR, if_pos hiR]; rfl
    show conv prim (coef (mulLin prim p.2 (lamList prim L))) _ m = _
    rw [conv_congr_right hS, conv_xor_right ok _ _ _ (fun _ => gmul_lt ok _ _) hS' m,
      conv_mulLin ok p.2 hp.2 _ (lamList_inR ok L) _ (fun _ => gmul_lt ok _ _) m,
      conv_mulLin ok p.2 hp.2 _ (lamList_inR ok L) _ hS' m,
      geom_cancel ok p.2 p.1 hp.2 hp.1 _ (lamList_inR ok L) m,
      key_lambda R L hL' m hm]
    show _ = coef (List.zipWith (· ^^^ ·) (mulLin prim p.2 (omList prim L)) ((lamList prim L).map (gmul prim p.1))) m
    rw [coef_zipWith_xor _ _ _ (by simp [mulLin_length, omList_length, lamList_length]), coef_mulLin ok,
      coef_map_gmul ok, Nat.xor_comm]
    congr 2
    split
    · rename_i h1
      rw [key_lambda R L hL' (m - 1) (by omega)]
    · rfl

theorem lamVal_zero : ∀ L, PairsIn size L → lamVal prim L 0 = 1
  | [], _ => rfl
  | p :: L, hL => by
    show gmul prim (1 ^^^ gmul prim p.2 0) (lamVal prim L 0) = 1
    rw [gmul_zero_right ok, Nat.xor_zero, lamVal_zero L hL.tail,
      gmul_one_left ok 1 (one_lt_size ok)]

end field
end Gzx.Proofs.Locator
