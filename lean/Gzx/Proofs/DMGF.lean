/-
  C08: the reference field multiplication (shift-and-add modulo 0x12D) is C04's reference product on bytes
  (shift-and-add over `xtime`, C04's `xt`), the antilog table lists C04's powers of x, and the log table inverts it (the powers
  are distinct and exhaust 1..255); so the table multiplication of the modelled createECCBlock (log/alog as
  init() builds them) equals the reference multiplication on bytes, and the modelled createECCBlock with the
  standard's factor table equals the reference parity `eccBlock` for every byte vector and every parity length.
-/
import Gzx.Ref.DM
import Gzx.Model.DMEncoder
import Gzx.Proofs.Poly
import Gzx.Proofs.GFParams
import Gzx.Proofs.DMEcc
import Gzx.Proofs.DMBytes
import Gzx.Proofs.GFShiftAdd
namespace Gzx.DMProofs
open Gzx Gzx.DMRef Gzx.GF Gzx.Ref.GF Gzx.Proofs.GF Gzx.Proofs.Poly Gzx.Proofs.GF2

/-- 0x12D is a primitive polynomial of degree 8 (`ParamsOK`, computed in Proofs/GFParams.lean) -/
theorem dmParamsOK : ParamsOK 0x12D 256 := paramsOK_12D_256

theorem log2_256 : (256 : Nat).log2 = 8 := Nat.log2_two_pow (n := 8)

/-- the first loop of `init()` lists the iterates of the doubling step -/
theorem alogLoop_eq : ∀ (k p : Nat), p < 256 →
    DMEnc.alogLoop k p = (List.range k).map (fun j => iter (xt 0x12D 8) j p)
  | 0, _, _ => rfl
  | k + 1, p, hp => by
    have hs : (let q := p * 2; if q ≥ 256 then q ^^^ 0x12d else q) = xt 0x12D 8 p := by
      rw [← xtime_eq_xt p hp, xtime, Nat.mul_comm]; rfl
    rw [DMEnc.alogLoop, hs, alogLoop_eq k _ (xt_lt (p := 0x12D) (d := 8) ⟨by decide, by decide⟩ p hp),
      List.range_succ_eq_map, List.map_cons, List.map_map]
    rfl

/-- the antilog table (built as the Go init() of error_correction.go builds it) lists C04's powers of x -/
theorem alog_eq_pw : DMEnc.alog = (List.range 255).map (pw 0x12D 256) := by
  rw [DMEnc.alog, alogLoop_eq 255 1 (by decide)]
  unfold pw
  rw [log2_256]

theorem gfMulAux_eq_shiftAdd : ∀ (k a b acc : Nat), gfMulAux k a b acc = shiftAdd xtime k a b acc
  | 0, _, _, _ => rfl
  | k + 1, a, b, acc => by
    unfold gfMulAux shiftAdd
    exact gfMulAux_eq_shiftAdd k _ _ _

/-- the reference multiplication of `Gzx.DMRef` is C04's reference product `pmod 0x12D (clmul a b)` on bytes -/
theorem gfMul_eq_gmul (a b : Nat) (ha : a < 256) (hb : b < 256) : gfMul a b = gmul 0x12D a b := by
  unfold gfMul
  rw [gfMulAux_eq_shiftAdd]
  exact shiftAdd_eq_gmul (p := 0x12D) (d := 8) dmParamsOK xtime xtime_eq_xt a b ha hb

theorem alog_getD_eq_pw (j : Nat) (hj : j < 255) : DMEnc.alog.getD j 0 = pw 0x12D 256 j := by
  rw [alog_eq_pw, List.getD_eq_getElem?_getD, List.getElem?_map, List.getElem?_range hj]
  rfl

/-- `2^i · 2^j = 2^((i+j) mod 255)` for the reference multiplication and the modelled antilog table -/
theorem gfMul_alog (i j : Nat) (hi : i < 255) (hj : j < 255) :
    gfMul (DMEnc.alog.getD i 0) (DMEnc.alog.getD j 0) = DMEnc.alog.getD ((i + j) % 255) 0 := by
  rw [alog_getD_eq_pw i hi, alog_getD_eq_pw j hj, alog_getD_eq_pw _ (Nat.mod_lt _ (by decide)),
    gfMul_eq_gmul _ _ (pw_lt dmParamsOK i) (pw_lt dmParamsOK j), gmul_pw_pw dmParamsOK]
  exact (pw_mod dmParamsOK (i + j)).symm

/-! the log table: `init()` writes `log[alog[i]] = i`; the powers of x are distinct and exhaust 1..255 -/

/-- the second loop of `init()` is the log loop of C04's field model -/
theorem logLoop_eq : ∀ (es : List Nat) (i : Nat) (acc : List Nat), DMEnc.logLoop es i acc = Gzx.GF.logLoop es i acc
  | [], _, _ => rfl
  | e :: es, i, acc => by rw [DMEnc.logLoop, Gzx.GF.logLoop, logLoop_eq es]

theorem log_pw (j : Nat) (hj : j < 255) : DMEnc.log.getD (pw 0x12D 256 j) 0 = j := by
  have ok := dmParamsOK
  have hnd : ((List.range 255).map (pw 0x12D 256)).Nodup := by
    rw [List.Nodup, List.pairwise_map]
    exact List.Pairwise.imp_of_mem (fun {a b} _ hb hab => pw_inj ok a b hab (List.mem_range.1 hb)) List.pairwise_lt_range
  have := logLoop_mem _ 0 (List.replicate 256 0) hnd
    (fun a ha => by
      obtain ⟨i, _, rfl⟩ := List.mem_map.1 ha
      rw [List.length_replicate]; exact pw_lt ok i)
    j (pw 0x12D 256 j) (by rw [List.getElem?_map, List.getElem?_range hj]; rfl)
  rw [DMEnc.log, alog_eq_pw, logLoop_eq, List.getD_eq_getElem?_getD, this, Nat.zero_add]
  rfl
theorem tabMul_eq_gfMul (a b : Nat) (ha : a < 256) (hb : b < 256) : DMEnc.tabMul a b = gfMul a b := by
  unfold DMEnc.tabMul
  by_cases ha0 : a = 0
  · subst ha0
    simp only [ne_eq, not_true_eq_false, false_and, if_false]
    rw [gfMul_eq_gmul 0 b ha hb, gmul_zero_left dmParamsOK b hb]
  by_cases hb0 : b = 0
  · subst hb0
    simp only [ne_eq, not_true_eq_false, and_false, if_false]
    rw [gfMul_eq_gmul a 0 ha hb, gmul_zero_right dmParamsOK]
  simp only [ne_eq, ha0, hb0, not_false_eq_true, and_self, if_true]
  obtain ⟨i, hi, rfl⟩ := pw_surj dmParamsOK a ha0 ha
  obtain ⟨j, hj, rfl⟩ := pw_surj dmParamsOK b hb0 hb
  rw [log_pw i hi, log_pw j hj, ← alog_getD_eq_pw i hi, ← alog_getD_eq_pw j hj]
  exact (gfMul_alog i j hi hj).symm

/-- long division only multiplies bytes, so two products that agree on bytes give the same remainder -/
theorem polyRem_congr {m1 m2 : Nat → Nat → Nat} (hm : ∀ a b, a < 256 → b < 256 → m1 a b = m2 a b)
    (hlt : ∀ a b, a < 256 → m2 a b < 256) (gs : List Nat) (hgs : allBytes gs) :
    ∀ (k : Nat) (xs : List Nat), allBytes xs → polyRem m1 gs k xs = polyRem m2 gs k xs := by
  intro k
  induction k with
  | zero => intro xs _; rfl
  | succ k ih =>
    intro xs h
    cases xs with
    | nil => rfl
    | cons c xs =>
      simp only [polyRem]
      have hc : c < 256 := h c List.mem_cons_self
      have hmap : gs.map (m1 c) = gs.map (m2 c) :=
        List.map_congr_left (fun g hg => hm c g hc (hgs g hg))
      rw [hmap]
      apply ih
      apply xorPrefix_bytes
      · exact fun w hw => h w (List.mem_cons_of_mem _ hw)
      · intro w hw
        obtain ⟨g, _, rfl⟩ := List.mem_map.1 hw
        exact hlt c g hc

theorem polyRem_tabMul (gs : List Nat) (hgs : allBytes gs) (k : Nat) (xs : List Nat) (hxs : allBytes xs) :
    polyRem DMEnc.tabMul gs k xs = polyRem gfMul gs k xs :=
  polyRem_congr tabMul_eq_gfMul (fun a b ha => gfMul_lt a b ha) gs hgs k xs hxs

theorem findTable_parity : parityLengths.zipIdx.all (fun nt =>
    decide (DMEnc.findTable nt.1 parityLengths 0 = some nt.2) && decide (0 < nt.1)) = true := by decide

/-- The modelled `createECCBlock` with the standard's tables (which the regenerated Go tables equal:
    `Obligations.C08.gen_factorSets_eq`, `gen_factors_eq`) returns the reference parity `eccBlock n data`
    for every byte vector `data` and each of the 16 parity lengths `n`. -/
theorem createECCBlock_eq_ref (n : Nat) (hn : n ∈ parityLengths) (data : List Nat) (hd : allBytes data) :
    DMEnc.createECCBlock parityLengths factorTable data n = .ok (eccBlock n data) := by
  obtain ⟨t, hnt⟩ : ∃ t, (n, t) ∈ parityLengths.zipIdx := by
    obtain ⟨t, ht, hte⟩ := List.mem_iff_getElem.1 hn
    exact ⟨t, List.mem_zipIdx_iff_getElem?.2 (by simp [List.getElem?_eq_getElem ht, hte])⟩
  have h := List.all_eq_true.1 findTable_parity (n, t) hnt
  simp only [Bool.and_eq_true, decide_eq_true_eq] at h
  obtain ⟨h1, h4⟩ := h
  have h2 : factorTable[t]? = some ((genPoly n).take n) := by
    rw [factorTable, List.getElem?_map, (List.mem_zipIdx_iff_getElem?.1 hnt)]; rfl
  have h3 : ((genPoly n).take n).length = n := by rw [List.length_take, genPoly_length]; omega
  have h5 : allBytes ((genPoly n).take n) := fun x hx => genPoly_bytes n x (List.mem_of_mem_take hx)
  have hb : ((genPoly n).take n).all (· < 256) = true := by
    rw [List.all_eq_true]; intro x hx; simpa using h5 x hx
  have hmodel : DMEnc.createECCBlock parityLengths factorTable data n =
      .ok (polyRem DMEnc.tabMul ((genPoly n).take n).reverse data.length (data ++ List.replicate n 0)) := by
    unfold DMEnc.createECCBlock
    simp only [h1, h2]
    have htake : ((genPoly n).take n).take n = (genPoly n).take n := List.take_of_length_le (by omega)
    cases data with
    | nil => simp [polyRem]
    | cons d ds =>
      have hn0 : ¬ n = 0 := by omega
      have hlt : ¬ ((genPoly n).take n).length < n := by omega
      simp only [List.isEmpty_cons, Bool.false_eq_true, if_false, hn0, hlt, hb, Bool.not_true, htake]
      have := lfsr_eq_polyRem DMEnc.tabMul ((genPoly n).take n) (by omega) (d :: ds)
      rw [h3] at this
      rw [this]
  rw [hmodel]
  unfold eccBlock genHigh
  congr 1
  apply polyRem_tabMul
  · intro g hg
    have hg' := List.mem_reverse.1 hg
    exact h5 g hg'
  · intro x hx
    rcases List.mem_append.1 hx with hx1 | hx1
    · exact hd x hx1
    · rw [List.eq_of_mem_replicate hx1]; decide

end Gzx.DMProofs
