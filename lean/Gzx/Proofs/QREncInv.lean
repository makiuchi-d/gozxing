/-
  wp `qrenc` — the ByteMatrix operations of the mirror model on well-formed n×n matrices: `get` and `set` in terms of
  the cells, that such a matrix is its cells (`wfm_ext`), the matrix with given cells (`tableOf`); and total
  correctness of the model's loops (`forRange_total`, `foldlM_total`) with an invariant that knows how far the loop is.
-/
import Gzx.Model.QREncMatrix
import Gzx.Proofs.ExceptList
namespace Gzx.QREnc
open Gzx

/-- an `n × n` matrix as `NewByteMatrix(n, n)` makes it -/
structure WFM (n : Nat) (m : ByteMatrix) : Prop where
  w : m.width = n
  h : m.height = n
  rows : m.bytes.length = n
  cols : ∀ r ∈ m.bytes, r.length = n

/-- cell (x, y); 0 outside -/
def cell (m : ByteMatrix) (x y : Nat) : Int := (m.bytes.getD y []).getD x 0

theorem idx_nat {α} (l : List α) (i : Nat) (h : i < l.length) : idx l (i : Int) = .ok l[i] := by
  unfold idx
  have : ¬ ((i : Int) < 0) := by omega
  simp [this, h]

/-- pure description of a successful `Set` -/
def setC (m : ByteMatrix) (x y : Nat) (v : Int) : ByteMatrix :=
  { m with bytes := m.bytes.set y ((m.bytes.getD y []).set x v) }

theorem WFM.row {n : Nat} {m : ByteMatrix} (hm : WFM n m) {y : Nat} (hy : y < n) :
    ∃ r, m.bytes[y]? = some r ∧ r.length = n := by
  have hy' : y < m.bytes.length := by rw [hm.rows]; exact hy
  exact ⟨m.bytes[y], List.getElem?_eq_getElem hy', hm.cols _ (List.getElem_mem hy')⟩

theorem get_nat {n : Nat} {m : ByteMatrix} (hm : WFM n m) {x y : Nat} (hx : x < n) (hy : y < n) :
    m.get (x : Int) (y : Int) = .ok (cell m x y) := by
  obtain ⟨r, hr, hl⟩ := hm.row hy
  have hy' : y < m.bytes.length := by rw [hm.rows]; exact hy
  unfold ByteMatrix.get cell
  rw [idx_nat _ _ hy']
  simp only [bind, Except.bind]
  have hr' : m.bytes[y] = r := by
    have := List.getElem?_eq_getElem hy'
    rw [this] at hr; exact Option.some.inj hr
  rw [hr', idx_nat _ _ (by rw [hl]; exact hx)]
  simp [List.getD_eq_getElem?_getD, hr, List.getElem?_eq_getElem (by rw [hl]; exact hx : x < r.length)]

theorem set_nat {n : Nat} {m : ByteMatrix} (hm : WFM n m) {x y : Nat} (hx : x < n) (hy : y < n) (v : Int) :
    m.set (x : Int) (y : Int) v = .ok (setC m x y v) := by
  obtain ⟨r, hr, hl⟩ := hm.row hy
  have hy' : y < m.bytes.length := by rw [hm.rows]; exact hy
  have hr' : m.bytes[y] = r := by
    have := List.getElem?_eq_getElem hy'
    rw [this] at hr; exact Option.some.inj hr
  unfold ByteMatrix.set setC
  rw [idx_nat _ _ hy']
  simp only [bind, Except.bind]
  rw [hr', idx_nat _ _ (by rw [hl]; exact hx)]
  simp [pure, Except.pure, List.getD_eq_getElem?_getD, hr]

theorem setC_wfm {n : Nat} {m : ByteMatrix} (hm : WFM n m) (x y : Nat) (v : Int) : WFM n (setC m x y v) := by
  refine ⟨hm.w, hm.h, ?_, ?_⟩
  · simp [setC, hm.rows]
  · intro r hr
    simp only [setC] at hr
    rcases List.mem_or_eq_of_mem_set hr with h | h
    · exact hm.cols r h
    · rw [h, List.length_set]
      by_cases hy : y < m.bytes.length
      · have : m.bytes.getD y [] = m.bytes[y] := by simp [List.getD_eq_getElem?_getD, List.getElem?_eq_getElem hy]
        rw [this]; exact hm.cols _ (List.getElem_mem hy)
      · -- `y` out of range: the set is a no-op, so `r` is a row of `m`
        have hno : m.bytes.set y ((m.bytes.getD y []).set x v) = m.bytes := List.set_eq_of_length_le (by omega)
        rw [hno] at hr
        have := hm.cols r hr
        rw [h, List.length_set] at this
        exact this

theorem cell_setC {n : Nat} {m : ByteMatrix} (hm : WFM n m) {x y : Nat} (hx : x < n) (hy : y < n) (v : Int)
    (x' y' : Nat) : cell (setC m x y v) x' y' = if x' = x ∧ y' = y then v else cell m x' y' := by
  obtain ⟨r, hr, hl⟩ := hm.row hy
  have hy' : y < m.bytes.length := by rw [hm.rows]; exact hy
  unfold cell setC
  simp only [List.getD_eq_getElem?_getD, List.getElem?_set]
  by_cases hyy : y = y'
  · subst hyy
    simp only [hy', if_true, hr, Option.getD_some, List.getElem?_set]
    by_cases hxx : x = x'
    · subst hxx
      simp [hl, hx]
    · have hxx' : ¬ x' = x := fun h => hxx h.symm
      simp [hxx, hxx']
  · have : ¬ (x' = x ∧ y' = y) := by intro h; exact hyy h.2.symm
    simp [hyy, this]

theorem wfm_ext {n : Nat} {a b : ByteMatrix} (ha : WFM n a) (hb : WFM n b)
    (h : ∀ x y, x < n → y < n → cell a x y = cell b x y) : a = b := by
  have hbytes : a.bytes = b.bytes := by
    apply List.ext_getElem
    · rw [ha.rows, hb.rows]
    · intro y h1 h2
      have hy : y < n := by rw [← ha.rows]; exact h1
      apply List.ext_getElem
      · rw [ha.cols _ (List.getElem_mem h1), hb.cols _ (List.getElem_mem h2)]
      · intro x hx1 hx2
        have hx : x < n := by rw [← ha.cols _ (List.getElem_mem h1)]; exact hx1
        have := h x y hx hy
        unfold cell at this
        simpa [List.getD_eq_getElem?_getD, List.getElem?_eq_getElem h1, List.getElem?_eq_getElem h2,
          List.getElem?_eq_getElem hx1, List.getElem?_eq_getElem hx2] using this
  cases a with
  | mk ab aw ah =>
    cases b with
    | mk bb bw bh =>
      have h1 := ha.w; have h2 := ha.h; have h3 := hb.w; have h4 := hb.h
      simp only at hbytes h1 h2 h3 h4
      subst hbytes
      rw [h1, h2, h3, h4]

/-! ### the n×n matrix with given cells -/

def tableOf (n : Nat) (f : Nat → Nat → Int) : ByteMatrix :=
  ⟨(List.range n).map (fun y => (List.range n).map (fun x => f x y)), n, n⟩

theorem tableOf_wfm (n : Nat) (f : Nat → Nat → Int) : WFM n (tableOf n f) := by
  refine ⟨rfl, rfl, ?_, ?_⟩
  · simp [tableOf]
  · intro r hr
    simp only [tableOf, List.mem_map, List.mem_range] at hr
    obtain ⟨y, _, rfl⟩ := hr
    simp

theorem tableOf_cell (n : Nat) (f : Nat → Nat → Int) (x y : Nat) (hx : x < n) (hy : y < n) :
    cell (tableOf n f) x y = f x y := by
  unfold cell tableOf
  simp [List.getD_eq_getElem?_getD, hx, hy]

/-! ### total correctness of a loop, with an invariant that knows how far the loop has come -/

theorem foldlM_range_total {σ} (P : Nat → σ → Prop) (body : σ → Nat → Res σ) :
    ∀ (n : Nat) (s : σ), P 0 s →
      (∀ k s, k < n → P k s → ∃ s', body s k = .ok s' ∧ P (k + 1) s') →
      ∃ s', (List.range n).foldlM body s = .ok s' ∧ P n s' := by
  intro n
  induction n with
  | zero => intro s h0 _; exact ⟨s, rfl, h0⟩
  | succ n ih =>
    intro s h0 hstep
    obtain ⟨s1, h1, hp1⟩ := ih s h0 (fun k s hk hp => hstep k s (by omega) hp)
    obtain ⟨s2, h2, hp2⟩ := hstep n s1 (by omega) hp1
    refine ⟨s2, ?_, hp2⟩
    rw [List.range_succ, List.foldlM_append, h1]
    simp only [List.foldlM_cons, List.foldlM_nil]
    show (Except.ok s1 >>= fun s => body s n >>= pure) = _
    rw [ok_bind, h2]; rfl

/-- `P k` holds before iteration `k`; `Q` is what the caller wants of `P cnt` -/
theorem forRange_total {σ} (P : Nat → σ → Prop) (Q : σ → Prop) (lo : Int) (cnt : Nat) (body : Int → σ → Res σ) (s : σ)
    (h0 : P 0 s)
    (hstep : ∀ (k : Nat) s, k < cnt → P k s → ∃ s', body (lo + (k : Nat)) s = .ok s' ∧ P (k + 1) s')
    (hQ : ∀ s, P cnt s → Q s) : ∃ s', forRange lo (lo + cnt) body s = .ok s' ∧ Q s' := by
  unfold forRange
  rw [show (lo + (cnt : Int) - lo).toNat = cnt by omega]
  exact (foldlM_range_total P _ cnt s h0 hstep).imp (fun _ h => ⟨h.1, hQ _ h.2⟩)

/-- the same for a loop over a list: `P pre` holds when the elements `pre` are done -/
theorem foldlM_total {σ ι} (P : List ι → σ → Prop) (body : σ → ι → Res σ) (l : List ι) :
    ∀ (post pre : List ι) (s : σ), l = pre ++ post → P pre s →
      (∀ pre' a post' s, l = pre' ++ a :: post' → P pre' s → ∃ s', body s a = .ok s' ∧ P (pre' ++ [a]) s') →
      ∃ s', post.foldlM body s = .ok s' ∧ P l s' := by
  intro post
  induction post with
  | nil => intro pre s hl hp _; rw [List.append_nil] at hl; subst hl; exact ⟨s, rfl, hp⟩
  | cons a post ih =>
    intro pre s hl hp hstep
    obtain ⟨s1, h1, hp1⟩ := hstep pre a post s hl hp
    obtain ⟨s2, h2, hp2⟩ := ih (pre ++ [a]) s1 (by rw [hl]; simp) hp1 hstep
    exact ⟨s2, by rw [List.foldlM_cons, h1, ok_bind, h2], hp2⟩

theorem foldlM_ok_inv {σ ι} (P : σ → Prop) (body : σ → ι → Res σ) (g : σ → ι → σ) :
    ∀ (l : List ι) (s : σ), P s → (∀ s k, k ∈ l → P s → body s k = .ok (g s k) ∧ P (g s k)) →
      l.foldlM body s = .ok (l.foldl g s) := by
  intro l
  induction l with
  | nil => intro s _ _; rfl
  | cons k ks ih =>
    intro s hp h
    simp only [List.foldlM_cons, bind, Except.bind, List.foldl_cons]
    obtain ⟨h1, h2⟩ := h s k List.mem_cons_self hp
    rw [h1]
    exact ih _ h2 (fun s k' hk' hp' => h s k' (List.mem_cons_of_mem _ hk') hp')

theorem foldlM_ok {σ ι} (body : σ → ι → Res σ) (g : σ → ι → σ) (l : List ι) (s : σ)
    (h : ∀ s k, k ∈ l → body s k = .ok (g s k)) : l.foldlM body s = .ok (l.foldl g s) :=
  foldlM_ok_inv (fun _ => True) body g l s trivial (fun s k hk _ => ⟨h s k hk, trivial⟩)

theorem seq_ok {α β : Type} {P : α → Prop} {Q : β → Prop} {x : Res α} {g : α → Res β}
    (hx : ∃ a, x = .ok a ∧ P a) (hg : ∀ a, P a → ∃ b, g a = .ok b ∧ Q b) : ∃ b, (x >>= g) = .ok b ∧ Q b := by
  obtain ⟨a, ha, hp⟩ := hx
  rw [ha, ok_bind]
  exact hg a hp

theorem idx_some {α} {l : List α} {x : Int} {i : Nat} {a : α} (hx : x = i) (h : l[i]? = some a) : idx l x = .ok a := by
  subst hx
  unfold idx
  simp [show ¬ ((i : Int) < 0) by omega, h]

end Gzx.QREnc
