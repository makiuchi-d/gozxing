/-
  Rules for `Sat E P r` (Model/DetCore.lean): "`r` is a result satisfying `P`, or one of the faults in `E`".
  Every statement of the form "this `Res` computation cannot panic" is an instance: the allowed faults are a set
  without `.panic` and `.fuel` (`Checked`), and the forms in which the properties spell it out
  (`∃ a, r = .ok a`, `(∃ a, r = .ok a) ∨ r = .error .format`, `∀ w, r ≠ .error (.panic w)` …) are read off at the end.
  The definition with `Sat.bind`, `Sat.mono`, `Sat.ok`, `Sat.pure` stands in Model/DetCore.lean, because the
  specification `walk_sat` of the detectors' walk is stated with it beside the walk (Model/DetWalk.lean); hence the
  namespace `Gzx.Det`, which the parser proofs open for it.
-/
import Gzx.Model.DetCore
import Gzx.Model.ExceptList
namespace Gzx.Det
open Gzx

/-! ## sets of faults -/

def Only (e : Fault) : Fault → Prop := fun x => x = e
def Either (e₁ e₂ : Fault) : Fault → Prop := fun x => x = e₁ ∨ x = e₂
/-- the three kinds of ReaderException -/
def ReaderFault : Fault → Prop := fun e => e = .notFound ∨ e = .checksum ∨ e = .format
/-- every fault: `Sat AnyFault P r` is partial correctness -/
def AnyFault : Fault → Prop := fun _ => True
/-- a checked error return: neither a panic nor an exhausted loop budget -/
def Checked : Fault → Prop := fun e => (∀ w, e ≠ .panic w) ∧ e ≠ .fuel

theorem only_checked {e : Fault} (he : Checked e) : ∀ x, Only e x → Checked x := fun _ hx => hx ▸ he
theorem either_checked {e₁ e₂ : Fault} (h₁ : Checked e₁) (h₂ : Checked e₂) : ∀ x, Either e₁ e₂ x → Checked x :=
  fun _ hx => hx.elim (· ▸ h₁) (· ▸ h₂)
theorem readerFault_checked : ∀ x, ReaderFault x → Checked x := fun _ hx => by
  rcases hx with rfl | rfl | rfl <;> exact ⟨nofun, nofun⟩

/-! ## structure of the computation -/

/-- The bind rule as an eliminator: `refine Sat.step _ h (fun e he => ?_) fun a ha => ?_` finds the motive by
    abstracting the call from the goal, so it applies to `x >>= f` and to a step the model writes as
    `match x with | .error e => .error e | .ok a => …` alike (`simp only []` then reduces the match).  A `by` block
    inside `h` is elaborated only after the motive has been looked for: state such an `h` with `have` first. -/
@[elab_as_elim] theorem Sat.step {α : Type} {E : Fault → Prop} {P : α → Prop} {motive : Res α → Prop} (r : Res α)
    (h : Sat E P r) (err : ∀ e, E e → motive (.error e)) (ok : ∀ a, P a → motive (.ok a)) : motive r := by
  cases r with
  | ok a => exact ok a h
  | error e => exact err e h

/-- `bind` whose continuation may use that the first step answered -/
theorem Sat.bind_eq {α β : Type} {E : Fault → Prop} {P : α → Prop} {Q : β → Prop} {x : Res α} {f : α → Res β}
    (hx : Sat E P x) (hf : ∀ a, x = .ok a → P a → Sat E Q (f a)) : Sat E Q (x >>= f) := by
  cases x with
  | ok a => exact hf a rfl hx
  | error e => exact hx

/-- `bind` when nothing is needed of the first result -/
theorem Sat.then {α β : Type} {E : Fault → Prop} {P : α → Prop} {Q : β → Prop} {x : Res α} {f : α → Res β}
    (hx : Sat E P x) (hf : ∀ a, Sat E Q (f a)) : Sat E Q (x >>= f) :=
  Sat.bind hx fun a _ => hf a

theorem Sat.ite {α : Type} {E : Fault → Prop} {P : α → Prop} {c : Prop} [Decidable c] {a b : Res α}
    (ha : c → Sat E P a) (hb : ¬ c → Sat E P b) : Sat E P (if c then a else b) := by
  split
  · exact ha ‹_›
  · exact hb ‹_›

theorem Sat.error {α : Type} {E : Fault → Prop} {P : α → Prop} {e : Fault} (h : E e) :
    Sat E P (.error e : Res α) := h

theorem Sat.map {α β : Type} {E : Fault → Prop} {P : β → Prop} {r : Res α} {f : α → β}
    (h : Sat E (fun a => P (f a)) r) : Sat E P (Except.map f r) := by
  cases r <;> exact h

theorem Sat.mapM {α β : Type} {E : Fault → Prop} {P : β → Prop} {f : α → Res β} :
    ∀ {l : List α}, (∀ x ∈ l, Sat E P (f x)) → Sat E (fun ys => ys.length = l.length ∧ ∀ y ∈ ys, P y) (l.mapM f)
  | [], _ => Sat.ok ⟨rfl, nofun⟩
  | a :: l, h => by
    rw [List.mapM_cons]
    exact Sat.bind (h a List.mem_cons_self) fun b hb =>
      Sat.bind (Sat.mapM fun x hx => h x (List.mem_cons_of_mem _ hx)) fun bs ⟨hl, hbs⟩ =>
        Sat.pure ⟨by simp [hl], fun y hy => by
          rcases List.mem_cons.mp hy with rfl | hy
          · exact hb
          · exact hbs y hy⟩

/-- the same for the models' own traversal `mapME` -/
theorem Sat.mapME {α β : Type} {E : Fault → Prop} {P : β → Prop} {f : α → Res β} :
    ∀ {l : List α}, (∀ x ∈ l, Sat E P (f x)) → Sat E (fun ys => ys.length = l.length ∧ ∀ y ∈ ys, P y) (mapME f l)
  | [], _ => Sat.ok ⟨rfl, nofun⟩
  | a :: l, h => by
    have first := h a List.mem_cons_self
    have rest := Sat.mapME (f := f) fun x hx => h x (List.mem_cons_of_mem _ hx)
    unfold Gzx.mapME
    exact Sat.step _ first (fun _ he => he) fun b hb => Sat.step _ rest (fun _ he => he) fun bs ⟨hl, hbs⟩ =>
      ⟨by simp [hl], fun y hy => by
        rcases List.mem_cons.mp hy with rfl | hy
        · exact hb
        · exact hbs y hy⟩

/-- The shape of the models' catch-and-rethrow wrappers (`wrapF`, `wrapNF`, `notFoundOf`): a panic and an
    exhausted budget pass, every checked error becomes `e'`. -/
def rethrow {α : Type} (e' : Fault) : Res α → Res α
  | .ok a => .ok a
  | .error (.panic w) => .error (.panic w)
  | .error .fuel => .error .fuel
  | .error _ => .error e'

theorem Sat.rethrow {α : Type} {E : Fault → Prop} {P : α → Prop} {r : Res α} {e' : Fault}
    (h : Sat E P r) (hE : ∀ e, E e → Checked e) : Sat (Only e') P (rethrow e' r) := by
  cases r with
  | ok a => exact h
  | error e =>
    have := hE e h
    cases e <;> first | rfl | exact absurd rfl (this.1 _) | exact absurd rfl this.2

/-! ## weakening -/

theorem Sat.post {α : Type} {E : Fault → Prop} {P P' : α → Prop} {r : Res α} (h : Sat E P r)
    (hP : ∀ a, P a → P' a) : Sat E P' r := h.mono (fun _ h => h) hP

theorem Sat.faults {α : Type} {E E' : Fault → Prop} {P : α → Prop} {r : Res α} (h : Sat E P r)
    (hE : ∀ e, E e → E' e) : Sat E' P r := h.mono hE (fun _ h => h)

theorem Sat.lift {α : Type} {E : Fault → Prop} {P : α → Prop} {r : Res α} (h : Sat NoFault P r) : Sat E P r :=
  h.faults fun _ h => h.elim

theorem sat_true_of {α : Type} {E : Fault → Prop} {P : α → Prop} {r : Res α} (h : Sat E P r) :
    Sat E (fun _ => True) r := h.post fun _ _ => trivial

/-! ## reading the outcome off -/

/-- for a `match` on the outcome of a step -/
theorem Sat.cases {α : Type} {E : Fault → Prop} {P : α → Prop} {r : Res α} (h : Sat E P r) :
    (∃ a, r = .ok a ∧ P a) ∨ (∃ e, r = .error e ∧ E e) := by
  cases r with
  | ok a => exact Or.inl ⟨a, rfl, h⟩
  | error e => exact Or.inr ⟨e, rfl, h⟩

theorem Sat.of_ok {α : Type} {E : Fault → Prop} {P : α → Prop} {r : Res α} {a : α} (h : Sat E P r)
    (hr : r = .ok a) : P a := by
  subst hr; exact h

theorem Sat.of_error {α : Type} {E : Fault → Prop} {P : α → Prop} {r : Res α} {e : Fault} (h : Sat E P r)
    (hr : r = .error e) : E e := by
  subst hr; exact h

theorem Sat.any {α : Type} {r : Res α} : Sat AnyFault (fun _ => True) r := by cases r <;> trivial

theorem Sat.partial_iff {α : Type} {P : α → Prop} {r : Res α} : Sat AnyFault P r ↔ ∀ a, r = .ok a → P a := by
  cases r with
  | ok a => exact ⟨fun h b hb => (by cases hb; exact h), fun h => h a rfl⟩
  | error e => exact ⟨fun _ b hb => (by cases hb), fun _ => trivial⟩

theorem Sat.total {α : Type} {P : α → Prop} {r : Res α} (h : Sat NoFault P r) : ∃ a, r = .ok a ∧ P a :=
  h.cases.resolve_right fun ⟨_, _, he⟩ => he

theorem Sat.ok_or {α : Type} {P : α → Prop} {e : Fault} {r : Res α} (h : Sat (Only e) P r) :
    (∃ a, r = .ok a) ∨ r = .error e :=
  h.cases.imp (fun ⟨a, hr, _⟩ => ⟨a, hr⟩) fun ⟨_, hr, he⟩ => he ▸ hr

theorem Sat.ok_or2 {α : Type} {P : α → Prop} {e₁ e₂ : Fault} {r : Res α} (h : Sat (Either e₁ e₂) P r) :
    (∃ a, r = .ok a) ∨ r = .error e₁ ∨ r = .error e₂ :=
  h.cases.elim (fun ⟨a, hr, _⟩ => Or.inl ⟨a, hr⟩) fun ⟨_, hr, he⟩ => by
    rcases he with rfl | rfl
    · exact Or.inr (Or.inl hr)
    · exact Or.inr (Or.inr hr)

theorem Sat.typed {α : Type} {P : α → Prop} {r : Res α} (h : Sat ReaderFault P r) :
    (∃ a, r = .ok a) ∨ r = .error .notFound ∨ r = .error .checksum ∨ r = .error .format :=
  h.cases.elim (fun ⟨a, hr, _⟩ => Or.inl ⟨a, hr⟩) fun ⟨_, hr, he⟩ => by
    rcases he with rfl | rfl | rfl
    · exact Or.inr (Or.inl hr)
    · exact Or.inr (Or.inr (Or.inl hr))
    · exact Or.inr (Or.inr (Or.inr hr))

theorem Sat.no_crash {α : Type} {E : Fault → Prop} {P : α → Prop} {r : Res α} (h : Sat E P r)
    (hE : ∀ e, E e → Checked e) : (∀ w, r ≠ .error (.panic w)) ∧ r ≠ .error .fuel :=
  ⟨h.no_panic fun w hw => (hE _ hw).1 w rfl, h.no_fuel fun hf => (hE _ hf).2 rfl⟩

/-- "never a panic, never out of fuel", as the C06 statements spell it out, when one checked error `e` is the only
    fault (`OnlyNotFound` is `Only .notFound`); `he` is found by itself for a constructor `e` -/
theorem Sat.never {α : Type} {P : α → Prop} {e : Fault} {r : Res α} (h : Sat (Only e) P r)
    (he : Checked e := by exact ⟨nofun, nofun⟩) : (∀ why, r ≠ .error (.panic why)) ∧ r ≠ .error .fuel :=
  h.no_crash (only_checked he)

/-- … with the third clause: a result satisfying `P`, or the one error -/
theorem Sat.spelled_out {α : Type} {P : α → Prop} {e : Fault} {r : Res α} (h : Sat (Only e) P r)
    (he : Checked e := by exact ⟨nofun, nofun⟩) :
    (∀ why, r ≠ .error (.panic why)) ∧ r ≠ .error .fuel ∧ ((∃ a, r = .ok a ∧ P a) ∨ r = .error e) :=
  ⟨(h.never he).1, (h.never he).2, h.cases.imp id fun ⟨_, hr, he'⟩ => he' ▸ hr⟩

end Gzx.Det
