/-
  C02 — what the mode encoders do once their loop is over (`c40HandleEOD`, `x12HandleEOD`, `edifactHandleEOD`, the
  tail of `b256Encode`), each stated once: the symbol is re-selected, then a decision that depends only on the
  buffer, the free space and whether characters remain says which codewords are appended and how far the position
  steps back.  `*_ok_iff` characterises the successful calls.
-/
import Gzx.Proofs.DMHighLevel
namespace Gzx.DMHighLevel

def Ctx.leave (c : Ctx) (x : List Nat) (k : Nat) : Ctx :=
  { c with cw := c.cw ++ x, pos := c.pos - k, newEnc := some ASCII }

/-! ## C40 / Text -/

/-- the decision of `c40HandleEOD`: the codewords to append and the characters to step back, from the buffered values,
    the free codewords and whether characters remain; `none` is the WriterException "Unexpected case" -/
def c40Eod (more : Bool) (buf : List Nat) (av : Nat) : Option (List Nat × Nat) :=
  if buf.length % 3 = 2 then some ((writeTriplets (buf ++ [0])).1 ++ (if more then [254] else []), 0)
  else if av = 1 ∧ buf.length % 3 = 1 then some ((writeTriplets buf).1 ++ (if more then [254] else []), 1)
  else if buf.length % 3 = 0 then some ((writeTriplets buf).1 ++ (if av > 0 ∨ more then [254] else []), 0)
  else none

theorem c40HandleEOD_eq (syms : List SymbolInfo) (c : Ctx) (buf : List Nat) :
    c40HandleEOD syms c buf = c40Available syms c buf >>= fun r =>
      match c40Eod r.1.hasMore buf r.2 with
      | none => .error .writer
      | some (x, k) => if k ≤ r.1.pos then .ok (r.1.leave x k) else .error (.panic "pos below zero") := by
  unfold c40HandleEOD c40Eod
  cases c40Available syms c buf with
  | error e => rfl
  | ok r =>
    obtain ⟨c2, av⟩ := r
    simp only [bind, Except.bind]
    have hw : ∀ xs : List Nat, (c2.writeAll xs).hasMore = c2.hasMore := fun _ => rfl
    simp only [hw]
    by_cases h2 : buf.length % 3 = 2
    · simp only [h2, if_true, Nat.zero_le]
      cases c2.hasMore <;> simp [Ctx.leave, Ctx.signal, Ctx.write, Ctx.writeAll]
    · simp only [h2, if_false]
      by_cases h1 : av = 1 ∧ buf.length % 3 = 1
      · simp only [h1, and_self, if_true]
        by_cases hk : 1 ≤ c2.pos <;> cases c2.hasMore <;>
          simp [hk, Ctx.back, Ctx.leave, Ctx.signal, Ctx.write, Ctx.writeAll]
      · simp only [h1, if_false]
        by_cases h0 : buf.length % 3 = 0
        · simp only [h0, if_true, Nat.zero_le]
          split <;> simp [Ctx.leave, Ctx.signal, Ctx.write, Ctx.writeAll]
        · simp only [h0, if_false]

theorem c40HandleEOD_ok_iff {syms : List SymbolInfo} {c c' : Ctx} {buf : List Nat} :
    c40HandleEOD syms c buf = .ok c' ↔
      ∃ c2 av x k, c40Available syms c buf = .ok (c2, av) ∧ c40Eod c2.hasMore buf av = some (x, k) ∧ k ≤ c2.pos ∧
        c' = c2.leave x k := by
  rw [c40HandleEOD_eq]
  cases c40Available syms c buf with
  | error e => exact ⟨fun h => (by cases h), fun ⟨_, _, _, _, h, _⟩ => by cases h⟩
  | ok r =>
    obtain ⟨c2, av⟩ := r
    simp only [bind, Except.bind]
    cases hd : c40Eod c2.hasMore buf av with
    | none => exact ⟨fun h => (by cases h), fun ⟨_, _, _, _, h, h', _⟩ => by cases h; rw [hd] at h'; cases h'⟩
    | some xk =>
      obtain ⟨x, k⟩ := xk
      simp only
      by_cases hk : k ≤ c2.pos
      · rw [if_pos hk]
        exact ⟨fun h => by cases h; exact ⟨c2, av, x, k, rfl, hd, hk, rfl⟩,
          fun ⟨_, _, _, _, h, h', _, e⟩ => by cases h; rw [hd] at h'; cases h'; rw [e]⟩
      · rw [if_neg hk]
        exact ⟨fun h => (by cases h), fun ⟨_, _, _, _, h, h', hk', _⟩ => by cases h; rw [hd] at h'; cases h'; exact absurd hk' hk⟩

/-- what the decision can be: complete triplets (the buffer padded with a 0 when two values are left over) and
    possibly an unlatch; one character is stepped back exactly when a single value is left over -/
theorem c40Eod_cases {more : Bool} {buf : List Nat} {av : Nat} {x : List Nat} {k : Nat}
    (h : c40Eod more buf av = some (x, k)) :
    ∃ u, (u = [] ∨ u = [254]) ∧
      ((buf.length % 3 = 2 ∧ x = (writeTriplets (buf ++ [0])).1 ++ u ∧ k = 0) ∨
       (buf.length % 3 = 1 ∧ av = 1 ∧ x = (writeTriplets buf).1 ++ u ∧ k = 1) ∨
       (buf.length % 3 = 0 ∧ x = (writeTriplets buf).1 ++ u ∧ k = 0)) := by
  unfold c40Eod at h
  have hu : ∀ p : Prop, [Decidable p] → ((if p then [254] else []) = ([] : List Nat) ∨ (if p then [254] else []) = [254]) :=
    fun p _ => by by_cases hp : p <;> simp [hp]
  rcases ite_eq_cases h with ⟨h2, h⟩ | h
  · cases h; exact ⟨_, hu _, .inl ⟨h2, rfl, rfl⟩⟩
  rcases ite_eq_cases h with ⟨h1, h⟩ | h
  · cases h; exact ⟨_, hu _, .inr (.inl ⟨h1.2, h1.1, rfl, rfl⟩)⟩
  rcases ite_eq_cases h with ⟨h0, h⟩ | h
  · cases h; exact ⟨_, hu _, .inr (.inr ⟨h0, rfl, rfl⟩)⟩
  · cases h

/-! ## X12 -/

/-- the context `x12HandleEOD` returns, from the context `c2` after `UpdateSymbolInfoByLength` (symbol `s`) and the
    number `n` of buffered values: rewind, unlatch unless the symbol is exactly used up, signal ASCII -/
def x12Out (c2 : Ctx) (s : SymbolInfo) (n : Nat) : Ctx :=
  let c3 : Ctx := { c2 with pos := c2.pos - n }
  let c4 := if c3.remaining > 1 ∨ s.cap - c2.count > 1 ∨ c3.remaining ≠ s.cap - c2.count then c3.write 254 else c3
  if c4.newEnc.isNone then c4.signal ASCII else c4

theorem x12HandleEOD_ok_iff {syms : List SymbolInfo} {c c' : Ctx} {buf : List Nat} :
    x12HandleEOD syms c buf = .ok c' ↔
      ∃ c2 s, c.update syms c.count = .ok c2 ∧ c2.sym = some s ∧ buf.length ≤ c2.pos ∧ c' = x12Out c2 s buf.length := by
  unfold x12HandleEOD x12Out
  cases hu : c.update syms c.count with
  | error e => simp [bind, Except.bind]
  | ok c2 =>
    cases hs : c2.sym with
    | none => simp [bind, Except.bind, Ctx.capacity, hs]
    | some s =>
      have hcap : c2.capacity = .ok s.cap := capacity_ok_iff.2 ⟨s, hs, rfl⟩
      by_cases hb : buf.length ≤ c2.pos
      · simp only [bind, Except.bind, hcap, Ctx.back, hb, if_true, Except.ok.injEq]
        constructor
        · rintro rfl; exact ⟨c2, s, rfl, hs, hb, rfl⟩
        · rintro ⟨c2', s', e1, e2, _, rfl⟩
          cases e1; rw [hs] at e2; cases e2; rfl
      · simp only [bind, Except.bind, hcap, Ctx.back, hb, if_false]
        constructor
        · intro h; cases h
        · rintro ⟨c2', s', e1, _, e3, _⟩; cases e1; exact absurd e3 hb

theorem x12HandleEOD_update_error {syms : List SymbolInfo} {c : Ctx} {buf : List Nat} {e : Fault}
    (h : c.update syms c.count = .error e) : x12HandleEOD syms c buf = .error e := by
  unfold x12HandleEOD
  rw [h]; rfl

/-- the frame, the appended codewords (a function of `count` only) and the signalled mode -/
theorem x12Out_facts (c2 : Ctx) (s : SymbolInfo) (n : Nat) :
    (x12Out c2 s n).msg = c2.msg ∧ (x12Out c2 s n).cfg = c2.cfg ∧ (x12Out c2 s n).skipAtEnd = c2.skipAtEnd ∧
    (x12Out c2 s n).sym = c2.sym ∧ (x12Out c2 s n).pos = c2.pos - n ∧
    ((x12Out c2 s n).cw = c2.cw ∨ (x12Out c2 s n).cw = c2.cw ++ [254]) ∧
    (x12Out c2 s n).newEnc = some (c2.newEnc.getD ASCII) := by
  unfold x12Out
  simp only
  split <;> split <;> cases h : c2.newEnc <;> simp_all [Ctx.write, Ctx.signal]

/-! ## EDIFACT -/

/-- the `count == 1` prelude of edifactHandleEOD -/
def ediEarly (syms : List SymbolInfo) (c : Ctx) (count : Nat) : Res (Ctx × Bool) :=
  if count = 1 then do
    let c ← c.update syms c.count
    let cap ← c.capacity
    let available := cap - c.count
    let remaining ← edifactRestNeed c
    let (c, available) ←
      (if remaining > available then do
        let c ← c.update syms (c.count + 1)
        let cap ← c.capacity
        pure (c, cap - c.count)
       else pure (c, available) : Res (Ctx × Nat))
    .ok (c, decide (remaining ≤ available ∧ available ≤ 2))
  else .ok (c, false)

/-- the symbol re-selection of edifactHandleEOD for `count - 1` buffered characters -/
def ediStep (syms : List SymbolInfo) (c : Ctx) (buf : List Nat) : Res (Ctx × Bool) :=
  let restChars := buf.length - 1
  let restInAscii := !c.hasMore && decide (restChars ≤ 2)
  if restChars ≤ 2 then do
    let c ← c.update syms (c.count + restChars)
    let cap ← c.capacity
    let available := cap - c.count
    if available ≥ 3 then do
      let c ← c.update syms (c.count + (edifactPack buf).length)
      .ok (c, false)
    else .ok (c, restInAscii)
  else .ok (c, restInAscii)

theorem edifactHandleEOD_eq (syms : List SymbolInfo) (c : Ctx) (buf : List Nat) :
    edifactHandleEOD syms c buf =
      (if buf.length = 0 then .ok (c.signal ASCII)
      else do
        let (c, noUnlatch) ← ediEarly syms c buf.length
        if noUnlatch then .ok (c.signal ASCII)
        else if buf.length > 4 then .error .writer
        else do
          let (c, restInAscii) ← ediStep syms c buf
          if restInAscii then do
            let c ← ({ c with sym := none } : Ctx).back (buf.length - 1)
            .ok (c.signal ASCII)
          else .ok ((c.writeAll (edifactPack buf)).signal ASCII)) := by
  rfl

/-- the successful calls of `edifactHandleEOD`: nothing buffered; only the unlatch value buffered and the rest of the
    message fits the symbol in ASCII encodation; at the end of the message at most two characters go back to ASCII
    (`ResetSymbolInfo`, rewind); the buffer is written -/
inductive EdiOut (syms : List SymbolInfo) (c : Ctx) (buf : List Nat) : Ctx → Prop where
  | empty (h0 : buf.length = 0) : EdiOut syms c buf (c.signal ASCII)
  | noUnlatch (c1 : Ctx) (h0 : ¬ buf.length = 0) (he : ediEarly syms c buf.length = .ok (c1, true)) :
      EdiOut syms c buf (c1.signal ASCII)
  | ascii (c1 c2 : Ctx) (h0 : ¬ buf.length = 0) (he : ediEarly syms c buf.length = .ok (c1, false))
      (h4 : ¬ buf.length > 4) (hs : ediStep syms c1 buf = .ok (c2, true)) (hk : buf.length - 1 ≤ c2.pos) :
      EdiOut syms c buf (({ c2 with sym := none, pos := c2.pos - (buf.length - 1) } : Ctx).signal ASCII)
  | pack (c1 c2 : Ctx) (h0 : ¬ buf.length = 0) (he : ediEarly syms c buf.length = .ok (c1, false))
      (h4 : ¬ buf.length > 4) (hs : ediStep syms c1 buf = .ok (c2, false)) :
      EdiOut syms c buf ((c2.writeAll (edifactPack buf)).signal ASCII)

theorem edifactHandleEOD_ok_iff {syms : List SymbolInfo} {c c' : Ctx} {buf : List Nat} :
    edifactHandleEOD syms c buf = .ok c' ↔ EdiOut syms c buf c' := by
  rw [edifactHandleEOD_eq]
  constructor
  · intro h
    by_cases h0 : buf.length = 0
    · rw [if_pos h0] at h; cases h; exact .empty h0
    rw [if_neg h0] at h
    obtain ⟨⟨c1, nu⟩, he, h⟩ := bind_ok h
    cases nu with
    | true => cases h; exact .noUnlatch c1 h0 he
    | false =>
      simp only [Bool.false_eq_true, if_false] at h
      by_cases h4 : buf.length > 4
      · rw [if_pos h4] at h; cases h
      rw [if_neg h4] at h
      obtain ⟨⟨c2, ria⟩, hs, h⟩ := bind_ok h
      cases ria with
      | true =>
        simp only [if_true] at h
        obtain ⟨c3, h3, h⟩ := bind_ok h
        cases h
        simp only [Ctx.back] at h3
        by_cases hk : buf.length - 1 ≤ c2.pos
        · rw [if_pos hk] at h3; cases h3; exact .ascii c1 c2 h0 he h4 hs hk
        · rw [if_neg hk] at h3; cases h3
      | false => cases h; exact .pack c1 c2 h0 he h4 hs
  · intro h
    cases h with
    | empty h0 => rw [if_pos h0]
    | noUnlatch c1 h0 he => rw [if_neg h0, he]; rfl
    | ascii c1 c2 h0 he h4 hs hk =>
      rw [if_neg h0, he]
      simp only [bind, Except.bind, Bool.false_eq_true, if_false, if_neg h4, hs, if_true, Ctx.back, if_pos hk]
    | pack c1 c2 h0 he h4 hs =>
      rw [if_neg h0, he]
      simp only [bind, Except.bind, Bool.false_eq_true, if_false, if_neg h4, hs]

/-! ## Base 256 -/

/-- the length field of a Base-256 run of `n` bytes; `[0]` (until the end of the symbol) when the run ends the message
    and fills the symbol; a run of more than 1555 bytes is a WriterException -/
def b256Header (pad : Prop) [Decidable pad] (n : Nat) : Res (List Nat) :=
  if pad then
    if n ≤ 249 then .ok [n]
    else if n ≤ 1555 then .ok [n / 250 + 249, n % 250]
    else .error .writer
  else .ok [0]

theorem b256Header_length {pad : Prop} [Decidable pad] {n : Nat} {hdr : List Nat} (h : b256Header pad n = .ok hdr) :
    1 ≤ hdr.length ∧ hdr.length ≤ 2 := by
  unfold b256Header at h
  repeat' split at h
  all_goals cases h
  all_goals exact ⟨by simp, by simp⟩

theorem b256Encode_ok_iff {syms : List SymbolInfo} {la : LookAhead} {c c' : Ctx} :
    b256Encode syms la c = .ok c' ↔
      ∃ c1 data c2 s hdr, b256Loop la c.remaining c [] = .ok (c1, data) ∧
        c1.update syms (c1.count + data.length + 1) = .ok c2 ∧ c2.sym = some s ∧
        b256Header (c2.hasMore = true ∨ s.cap - (c1.count + data.length + 1) > 0) data.length = .ok hdr ∧
        c' = c2.writeAll (rand255All (hdr ++ data) (c2.count + 1)) := by
  constructor
  · intro h
    unfold b256Encode at h
    obtain ⟨⟨c1, data⟩, hl, h⟩ := bind_ok h
    obtain ⟨c2, hu, h⟩ := bind_ok h
    obtain ⟨cap, hc, h⟩ := bind_ok h
    obtain ⟨s, hs, rfl⟩ := capacity_ok_iff.1 hc
    obtain ⟨hdr, hh, h⟩ := bind_ok h
    cases h
    exact ⟨c1, data, c2, s, hdr, hl, hu, hs, hh, rfl⟩
  · rintro ⟨c1, data, c2, s, hdr, hl, hu, hs, hh, rfl⟩
    unfold b256Encode
    simp only [hl, bind, Except.bind, hu, capacity_ok_iff.2 ⟨s, hs, rfl⟩]
    unfold b256Header at hh
    rw [hh]

end Gzx.DMHighLevel
