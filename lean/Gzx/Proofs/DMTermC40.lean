/-
  C02 — termination and totality of `EncodeHighLevel`: the C40 / Text encoder (continued in DMTermXE, DMTermLA,
  DMTermDispatch).
    * `Clean r`: a modelled call returns a value or a WriterException — no panic, not out of fuel; with a
      post-condition it is `Sat (Only .writer)` (`sat_writer_iff`), whose bind rule walks a definition once for both.
    * the two loops of the encoder are in Proofs/DMC40Loop.lean (`c40Loop_sat`: a WriterException, or where the loop
      ends and which characters its backtracking has removed).
    * `c40Encode_sat`, three parts: a whole call of the C40 / Text encoder returns a value or a WriterException, for
      EVERY look-ahead oracle and table; what a successful call leaves unchanged, and where it ends; a successful
      call that consumes NOTHING has taken every character up to the end of the message and backtracked all of
      them; then the value counts of the characters are (1 or 4), 3, 3, …, 3, (1, 3 or 4) — `NoConsume` states this
      through the prefix sums modulo 3.
-/
import Gzx.Proofs.DMC40Loop
import Gzx.Proofs.DMHandlers
namespace Gzx.DMHighLevel
open Gzx.Det (Sat Only)

def Clean {α : Type} (r : Res α) : Prop := (∃ v, r = .ok v) ∨ r = .error .writer

theorem Clean.ok {α : Type} (v : α) : Clean (.ok v : Res α) := Or.inl ⟨v, rfl⟩
theorem Clean.writer {α : Type} : Clean (.error .writer : Res α) := Or.inr rfl
theorem Clean.ite {α : Type} {p : Prop} [Decidable p] {a b : Res α} (ha : Clean a) (hb : Clean b) :
    Clean (if p then a else b) := by
  split <;> assumption

theorem Clean.error_eq {α : Type} {e : Fault} (h : Clean (.error e : Res α)) : e = .writer := by
  rcases h with ⟨v, hv⟩ | h
  · cases hv
  · cases h; rfl

theorem Clean.ne_fuel {α : Type} {r : Res α} (h : Clean r) : r ≠ .error .fuel := by
  rcases h with ⟨v, hv⟩ | h
  · rw [hv]; intro x; cases x
  · rw [h]; intro x; cases x

theorem Clean.ne_panic {α : Type} {r : Res α} (h : Clean r) (s : String) : r ≠ .error (.panic s) := by
  rcases h with ⟨v, hv⟩ | h
  · rw [hv]; intro x; cases x
  · rw [h]; intro x; cases x

theorem sat_writer_iff {α : Type} {Q : α → Prop} {r : Res α} :
    Sat (Only .writer) Q r ↔ Clean r ∧ ∀ v, r = .ok v → Q v := by
  cases r with
  | ok a => exact ⟨fun h => ⟨Clean.ok a, fun v e => by cases e; exact h⟩, fun h => h.2 a rfl⟩
  | error e => exact ⟨fun h => ⟨(show e = .writer from h) ▸ Clean.writer, fun v e => by cases e⟩, fun h => h.1.error_eq⟩

theorem c40HandleEOD_sat {text : Bool} {syms : List SymbolInfo} {c0 c : Ctx} {buf : List Nat}
    (hB : CBuf text c0 c buf) :
    Sat (Only .writer) (fun c' => c'.msg = c0.msg ∧ c'.skipAtEnd = c0.skipAtEnd ∧ c'.cfg = c0.cfg ∧
        c'.newEnc = some ASCII ∧ (c'.pos = c.pos ∨ (c'.pos + 1 = c.pos ∧ buf.length % 3 = 1)))
      (c40HandleEOD syms c buf) := by
  rw [c40HandleEOD_eq]
  refine Sat.bind_eq (c40Available_sat syms c buf) fun ⟨c2, av⟩ hav _ => ?_
  obtain ⟨_, a2, a3, a4, a5, _⟩ := c40Available_spec hav
  simp only
  cases hd : c40Eod c2.hasMore buf av with
  | none => exact Sat.error rfl
  | some xk =>
    obtain ⟨x, k⟩ := xk
    obtain ⟨u, _, hc⟩ := c40Eod_cases hd
    -- one character is stepped back only when a value is left over, so something is buffered
    have hk : (k = 0 ∨ (k = 1 ∧ buf.length % 3 = 1)) ∧ k ≤ c2.pos := by
      rcases hc with ⟨_, _, rfl⟩ | ⟨h1, _, _, rfl⟩ | ⟨_, _, rfl⟩
      · exact ⟨.inl rfl, Nat.zero_le _⟩
      · have hne : buf ≠ [] := by intro e; rw [e] at h1; simp at h1
        have := hB.nonempty hne
        exact ⟨.inr ⟨rfl, h1⟩, by omega⟩
      · exact ⟨.inl rfl, Nat.zero_le _⟩
    simp only [if_pos hk.2]
    refine ⟨a2.trans hB.msg, a5.trans hB.skip, a4.trans hB.cfg, rfl, ?_⟩
    show c2.pos - k = c.pos ∨ (c2.pos - k + 1 = c.pos ∧ buf.length % 3 = 1)
    rcases hk.1 with rfl | ⟨rfl, h1⟩
    · exact .inl a3
    · exact .inr ⟨by omega, h1⟩

/-- the characters `c.pos ..< c.total` all went through the C40 / Text encoder and were all backtracked: every
    proper prefix of at least one character has `1 (mod 3)` values, and the whole has not `0 (mod 3)` -/
def NoConsume (text : Bool) (c : Ctx) : Prop :=
  (∀ q, c.pos < q → q < c.total → valsUpTo text c q % 3 = 1) ∧
  (c.pos + 1 < c.total → valsUpTo text c c.total % 3 ≠ 0)

theorem c40Encode_sat {text : Bool} {syms : List SymbolInfo} {la : LookAhead} {c : Ctx}
    (hle : c.pos ≤ c.total) (hm : c.hasMore = true) (hnew : c.newEnc = none) :
    Sat (Only .writer) (fun c' => c'.msg = c.msg ∧ c'.skipAtEnd = c.skipAtEnd ∧ c'.cfg = c.cfg ∧
        c'.newEnc = some ASCII ∧ c.pos ≤ c'.pos ∧ c'.pos ≤ c'.total ∧ (c'.pos = c.pos → NoConsume text c))
      (c40Encode syms la text c) := by
  have hB0 : CBuf text c c [] := ⟨rfl, rfl, rfl, rfl, Nat.le_refl _, hle, by simp [charsOf, cVals]⟩
  unfold c40Encode
  refine Sat.bind (c40Loop_sat (syms := syms) (la := la) c.remaining c [] hB0 hm hnew (Nat.le_refl _))
    fun ⟨c1, buf1⟩ ⟨⟨hB1, hexit⟩, hrA, hrB⟩ => ?_
  simp only at hB1 hexit hrA hrB ⊢
  refine (c40HandleEOD_sat (syms := syms) hB1).post fun c' ⟨p1, p2, p3, p4, p5⟩ => ?_
  have htot : c'.total = c.total := by simp [Ctx.total, p1, p2]
  have hlen1 := hB1.len
  have hlo := hB1.lo
  have hhi := hB1.hi
  have htot1 : c1.total = c.total := by simp [Ctx.total, hB1.msg, hB1.skip]
  have hv0 : valsUpTo text c c.pos = 0 := by simp [valsUpTo, cVals]
  have hposge : c.pos ≤ c'.pos := by
    rcases p5 with e | ⟨e, hr⟩
    · omega
    · have : buf1 ≠ [] := by intro e; rw [e] at hr; simp at hr
      have := hB1.nonempty this
      omega
  refine ⟨p1, p2, p3, p4, hposge, by rw [htot]; rcases p5 with e | ⟨e, _⟩ <;> omega, ?_⟩
  intro hsame
  rcases hexit with ⟨hn1, h3, hm1⟩ | ⟨hn1, _⟩
  · -- look-ahead exit: something was consumed and complete triplets are written
    exfalso
    have hne := hrA hn1
    have := hB1.nonempty hne
    rcases p5 with e | ⟨e, hr⟩ <;> omega
  · obtain ⟨hall, hlast⟩ := hrB hn1
    constructor
    · intro q hq1 hq2
      by_cases hq : c1.pos < q
      · exact hall q hq hq2
      · -- q = c.pos + 1 = c1.pos and one value is left over
        rcases p5 with e | ⟨e, hr⟩
        · omega
        · have : q = c1.pos := by omega
          rw [this, ← hlen1]; exact hr
    · intro h2
      apply hlast
      rcases p5 with e | ⟨e, _⟩ <;> omega

end Gzx.DMHighLevel
