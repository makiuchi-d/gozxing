/-
  Decoder-side layer inverses for the QR data segments: parsing what the standard's packing
  (Gzx/Ref/QRPack.lean) wrote returns the characters, for all lengths (numeric, alphanumeric, groups of `w` bits,
  the 13-bit pair codec of Kanji and Hanzi); the character count widths of the decoder are those of Table 3
  (`countBits_*`); the segment loop stops on a terminated tail (`parseLoop_terminated`).
-/
import Gzx.Proofs.QRBitsLemmas
import Gzx.Proofs.ListGrid
import Gzx.Ref.QRPackTerms
namespace Gzx.QRDec
open Gzx Gzx.QRPack

theorem decodeNumeric_pack (ds : List Nat) (hd : ∀ d ∈ ds, d < 10) (rest : List Bool) (acc : List Nat) :
    decodeNumeric ds.length (packNumeric ds ++ rest) acc = .ok (acc ++ ds.map (48 + ·), rest) := by
  fun_induction packNumeric ds generalizing acc with
  | case1 a b c tl ih =>
    have ha := hd a (by simp); have hb := hd b (by simp); have hc := hd c (by simp)
    simp only [List.length_cons, decodeNumeric, List.append_assoc]
    rw [readBitsF_natToBits_lt 10 _ _ (by omega) (by omega) (by omega)]
    simp only [bind, Except.bind]
    have h1000 : ¬ (100 * a + 10 * b + c ≥ 1000) := by omega
    simp only [h1000, if_false]
    rw [ih (fun d h => hd d (by simp [h]))]
    have e1 : (100 * a + 10 * b + c) / 100 = a := by omega
    have e2 : (100 * a + 10 * b + c) / 10 % 10 = b := by omega
    have e3 : (100 * a + 10 * b + c) % 10 = c := by omega
    simp [e1, e2, e3]
  | case2 a b =>
    have ha := hd a (by simp); have hb := hd b (by simp)
    simp only [List.length_cons, List.length_nil, decodeNumeric]
    rw [readBitsF_natToBits_lt 7 _ _ (by omega) (by omega) (by omega)]
    have h100 : ¬ (10 * a + b ≥ 100) := by omega
    have e1 : (10 * a + b) / 10 = a := by omega
    have e2 : (10 * a + b) % 10 = b := by omega
    simp [bind, Except.bind, h100, e1, e2]
  | case3 a =>
    have ha := hd a (by simp)
    simp only [List.length_cons, List.length_nil, decodeNumeric]
    rw [readBitsF_natToBits_lt 4 _ _ (by omega) (by omega) (by omega)]
    have h10 : ¬ (a ≥ 10) := by omega
    simp [bind, Except.bind, h10]
  | case4 => simp [decodeNumeric]

theorem toAlnumChar_lt (v : Nat) (h : v < 45) : toAlnumChar v = .ok (alnumCharOf v) := by
  unfold toAlnumChar alnumCharOf
  have : v < alnumChars.length := by simpa [alnumChars] using h
  rw [List.getElem?_eq_getElem this]
  simp [List.getD, List.getElem?_eq_getElem this]

theorem decodeAlnumRaw_pack (cs : List Nat) (hc : ∀ c ∈ cs, c < 45) (rest : List Bool) (acc : List Nat) :
    decodeAlnumRaw cs.length (packAlnum cs ++ rest) acc = .ok (acc ++ cs.map alnumCharOf, rest) := by
  fun_induction packAlnum cs generalizing acc with
  | case1 a b tl ih =>
    have ha := hc a (by simp); have hb := hc b (by simp)
    simp only [List.length_cons, decodeAlnumRaw, List.append_assoc]
    rw [readBitsF_natToBits_lt 11 _ _ (by omega) (by omega) (by omega)]
    have e1 : (45 * a + b) / 45 = a := by omega
    have e2 : (45 * a + b) % 45 = b := by omega
    simp only [bind, Except.bind, e1, e2, toAlnumChar_lt a ha, toAlnumChar_lt b hb]
    rw [ih (fun d h => hc d (by simp [h]))]
    simp
  | case2 a =>
    have ha := hc a (by simp)
    simp only [List.length_cons, List.length_nil, decodeAlnumRaw]
    rw [readBitsF_natToBits_lt 6 _ _ (by omega) (by omega) (by omega)]
    simp [bind, Except.bind, toAlnumChar_lt a ha]
  | case3 => simp [decodeAlnumRaw]

theorem readGroups_pack (w : Nat) (h1 : 1 ≤ w) (h32 : w ≤ 32) (vs : List Nat) (hv : ∀ v ∈ vs, v < 2 ^ w)
    (rest : List Bool) (acc : List Nat) :
    readGroups w vs.length (vs.flatMap (natToBits w) ++ rest) acc = .ok (acc ++ vs, rest) := by
  induction vs generalizing acc with
  | nil => simp [readGroups]
  | cons v vs ih =>
    simp only [List.length_cons, readGroups, List.flatMap_cons, List.append_assoc]
    rw [readBitsF_natToBits_lt w v _ h1 h32 (hv v (by simp))]
    simp only [bind, Except.bind]
    rw [ih (fun x hx => hv x (List.mem_cons_of_mem _ hx))]
    simp

theorem flatMap_natToBits_length (w : Nat) (vs : List Nat) : (vs.flatMap (natToBits w)).length = vs.length * w := by
  induction vs with
  | nil => simp
  | cons v vs ih => simp [List.flatMap_cons, ih, Nat.succ_mul]; omega

theorem flatMap_pair_length (ps : List (Nat × Nat)) : (ps.flatMap (fun p => [p.1, p.2])).length = 2 * ps.length := by
  induction ps with
  | nil => rfl
  | cons p ps ih => rw [List.flatMap_cons, List.length_append, ih]; simp; omega

theorem kanjiValue_lt (p : Nat × Nat) (h : kanjiPairOK p) : kanjiValue p.1 p.2 < 2 ^ 13 := by
  obtain ⟨h1, h2, h3, h4⟩ := h
  unfold kanjiValue
  dsimp only
  split <;> omega

theorem kanjiBytes_value (p : Nat × Nat) (h : kanjiPairOK p) : kanjiBytes (kanjiValue p.1 p.2) = [p.1, p.2] := by
  obtain ⟨h1, h2, h3, h4⟩ := h
  unfold kanjiBytes kanjiValue
  dsimp only
  rcases h1 with ⟨a, b⟩ | ⟨a, b⟩
  · have hb : p.1 ≤ 0x9F := b
    simp only [hb, if_true]
    have e1 : ((p.1 - 0x81) * 0xC0 + (p.2 - 0x40)) / 0xC0 = p.1 - 0x81 := by omega
    have e2 : ((p.1 - 0x81) * 0xC0 + (p.2 - 0x40)) % 0xC0 = p.2 - 0x40 := by omega
    rw [e1, e2]
    have hlt : (p.1 - 0x81) * 256 + (p.2 - 0x40) < 0x1F00 := by omega
    simp only [hlt, if_true]
    have : (p.1 - 0x81) * 256 + (p.2 - 0x40) + 0x8140 = p.1 * 256 + p.2 := by omega
    rw [this]
    simp; omega
  · have hb : ¬ p.1 ≤ 0x9F := by omega
    simp only [hb, if_false]
    have e1 : ((p.1 - 0xC1) * 0xC0 + (p.2 - 0x40)) / 0xC0 = p.1 - 0xC1 := by omega
    have e2 : ((p.1 - 0xC1) * 0xC0 + (p.2 - 0x40)) % 0xC0 = p.2 - 0x40 := by omega
    rw [e1, e2]
    have hlt : ¬ (p.1 - 0xC1) * 256 + (p.2 - 0x40) < 0x1F00 := by omega
    simp only [hlt, if_false]
    have : (p.1 - 0xC1) * 256 + (p.2 - 0x40) + 0xC140 = p.1 * 256 + p.2 := by omega
    rw [this]
    simp; omega

theorem packKanji_eq (ps : List (Nat × Nat)) :
    packKanji ps = (ps.map (fun p => kanjiValue p.1 p.2)).flatMap (natToBits 13) := by
  induction ps with
  | nil => rfl
  | cons p ps ih => obtain ⟨l, t⟩ := p; simp [packKanji, ih]

/-- Kanji and Hanzi are the same codec up to the pair ↔ 13-bit value map: `val` packs, `bytes` unpacks -/
theorem decode13_pack (val : Nat × Nat → Nat) (bytes : Nat → List Nat) (ps : List (Nat × Nat))
    (hlt : ∀ p ∈ ps, val p < 2 ^ 13) (hinv : ∀ p ∈ ps, bytes (val p) = [p.1, p.2]) (rest : List Bool) :
    decode13 bytes ps.length ((ps.map val).flatMap (natToBits 13) ++ rest) =
      .ok (ps.flatMap (fun p => [p.1, p.2]), rest) := by
  unfold decode13
  have hlen : ¬ ps.length * 13 > ((ps.map val).flatMap (natToBits 13) ++ rest).length := by
    simp only [List.length_append, flatMap_natToBits_length, List.length_map]; omega
  have := readGroups_pack 13 (by omega) (by omega) (ps.map val)
    (by intro v hv; obtain ⟨p, hp, rfl⟩ := List.mem_map.mp hv; exact hlt p hp) rest []
  simp only [List.length_map, List.nil_append] at this
  simp only [hlen, if_false]
  rw [this]
  simp only [bind, Except.bind, List.flatMap_map]
  rw [flatMap_congr hinv]

theorem decode13_packKanji (ps : List (Nat × Nat)) (h : ∀ p ∈ ps, kanjiPairOK p) (rest : List Bool) :
    decode13 kanjiBytes ps.length (packKanji ps ++ rest) = .ok (ps.flatMap (fun p => [p.1, p.2]), rest) := by
  rw [packKanji_eq]
  exact decode13_pack (fun p => kanjiValue p.1 p.2) kanjiBytes ps (fun p hp => kanjiValue_lt p (h p hp))
    (fun p hp => kanjiBytes_value p (h p hp)) rest

section
open Gzx.ECI
/-- a count table that lists the widths for versions 1–9, 10–26 and 27–40 -/
theorem countBits_eq (m : Mode) (k ver : Nat)
    (h : m.countTable = [countWidth k 1, countWidth k 10, countWidth k 27]) :
    countBits m ver = .ok (countWidth k ver) := by
  unfold countBits
  rw [h]
  unfold countWidth
  by_cases h9 : ver ≤ 9
  · simp only [h9, if_true]; rfl
  · by_cases h26 : ver ≤ 26
    · simp only [h9, h26, if_true, if_false]; rfl
    · simp only [h9, h26, if_false]; rfl

theorem countBits_numeric (ver : Nat) : countBits .numeric ver = .ok (countWidth 0 ver) := countBits_eq _ _ _ rfl
theorem countBits_alnum (ver : Nat) : countBits .alphanumeric ver = .ok (countWidth 1 ver) := countBits_eq _ _ _ rfl
theorem countBits_byte (ver : Nat) : countBits .byte ver = .ok (countWidth 2 ver) := countBits_eq _ _ _ rfl
theorem countBits_kanji (ver : Nat) : countBits .kanji ver = .ok (countWidth 3 ver) := countBits_eq _ _ _ rfl

theorem countWidth_range (m ver : Nat) : 1 ≤ countWidth m ver ∧ countWidth m ver ≤ 32 := by
  by_cases h9 : ver ≤ 9 <;> by_cases h26 : ver ≤ 26 <;>
    (unfold countWidth; simp only [h9, h26, if_true, if_false]; split <;> omega)

theorem parseLoop_terminated (reg : Registry) (ver : Nat) (hint : Hint) (fuel : Nat) (st : PSt)
    (tail : List Bool) (ht : Terminated tail) : parseLoop reg ver hint (fuel + 1) st tail = .ok st := by
  rcases ht with ⟨pad, rfl⟩ | h
  · unfold parseLoop
    have hl : ¬ (List.replicate 4 false ++ pad).length < 4 := by simp
    simp only [hl, if_false]
    have : List.replicate 4 false = natToBits 4 0 := by decide
    rw [this, readBitsF_natToBits_lt 4 0 _ (by omega) (by omega) (by decide)]
    simp [bind, Except.bind, modeForBits, wrapF]
  · unfold parseLoop
    simp [h]

end

end Gzx.QRDec
