/-
  C02 — `dm_roundtrip` for ALL six encodation modes: for every symbol table with ascending
  capacities in which different capacities differ by at least two (`tableOK`; shown necessary by
  `dm_roundtrip_edifact_needs_symbol_gap`), every look-ahead that is exact arithmetic up to float rounding, every
  message of bytes and every hint configuration, what `encodeHL` returns decodes to exactly the message.
-/
import Gzx.Proofs.DMFullDispatch
namespace Gzx.DMHighLevel

theorem roundtrip_full (syms : List SymbolInfo) (htab : tableOK syms = true) (la : LookAhead)
    (hla : LaFloatLike la) (msg : List Nat) (cfg : Cfg) (cw : List Nat) (hb : ∀ x ∈ msg, x < 256)
    (h : encodeHL syms la msg cfg = .ok cw) : decodeText refTables cw = .ok msg := by
  obtain ⟨hsorted, hgap⟩ : sortedCap syms = true ∧ gapCap syms = true := by
    unfold tableOK at htab; rw [Bool.and_eq_true] at htab; exact htab
  obtain ⟨a0, hI0, hn0, htr0, hle0, hmsg0, htrail⟩ := initCtx_inv refTables msg cfg
  obtain ⟨hs0, hcfg0⟩ := initCtx_sym msg cfg
  have htot0 := totOK_initCtx msg cfg
  unfold encodeHL at h
  obtain ⟨r, hd, h⟩ := bind_ok h
  obtain ⟨c1, mode⟩ := r
  obtain ⟨c2, hu, h⟩ := bind_ok h
  obtain ⟨cap, hc, h⟩ := bind_ok h
  have P0 : Pre syms la ASCII (initCtx msg cfg) (initCtx msg cfg).cw a0 0 :=
    ⟨by rw [hmsg0]; exact hb, initCtx_bytes msg cfg, rfl, FSt.ascii hI0, hn0, htr0, hle0, by rw [hmsg0]; exact htot0,
      (by intro s hs; rw [hs0] at hs; cases hs), Sim.refl _ _, Or.inl rfl⟩
  obtain ⟨hmode, hB1, V', a', j', hV', hfin, htra, hmsg1, hskip1, hcfg1, hend, hff1, hsim, hdebt⟩ :=
    dispatch_full hla (dispatchFuel msg) c1 mode ASCII (initCtx msg cfg) (initCtx msg cfg).cw a0 0 P0 hd
  have hm1 : c1.msg = msg := by rw [hmsg1, hmsg0]
  -- the final symbol
  obtain ⟨ucw, _, _, ucfg, _, _, s, hs, hcapN, _⟩ := update_spec hu
  obtain ⟨s', hs', _, hmem, hadm⟩ := update_sym_adm hff1 hu
  have hss : s' = s := by rw [hs] at hs'; exact (Option.some.inj hs').symm
  subst hss
  obtain ⟨_, _, hkf⟩ := update_sym_cases hu
  have hcapv : cap = s'.cap := by unfold Ctx.capacity at hc; rw [hs] at hc; cases hc; rfl
  have hnolatch : ¬ (c1.count < cap ∧ mode ≠ ASCII ∧ mode ≠ BASE256 ∧ mode ≠ EDIFACT) := by
    rcases hmode with rfl | rfl <;> simp
  simp only [hnolatch, if_false, Except.ok.injEq] at h
  subst h
  have hcnt2 : c2.count = c1.count := by simp [Ctx.count, ucw]
  rw [hcnt2, ucw]
  have hN : c1.count = V'.length := by simp only [Ctx.count]; rw [hV']
  obtain ⟨pad, hpad⟩ : ∃ p, p = padding c1.count cap := ⟨_, rfl⟩
  rw [← hpad]
  have hplen : c1.count + pad.length = cap := by rw [hpad]; exact padding_length _ _ (by rw [hcapv]; exact hcapN)
  have hpbytes : Bytes pad := by rw [hpad]; exact padding_bytes _ _
  have hpshape : pad = [] ∨ ∃ r, pad = 129 :: r := by rw [hpad]; exact padding_shape _ _
  -- the virtual stream decodes
  have hvirt : decLoop refTables (V' ++ pad) 0 false 0 {} = .ok a' ∧ a'.rev.reverse = c1.msg.take c1.pos := by
    cases hfin with
    | inv hI =>
      have hdv : DecodesTo refTables V' a' := hI.dec
      exact ⟨by rw [hdv pad, decLoop_padding refTables a' _ _ hpshape], hI.text⟩
    | tail k hk hT hC =>
      refine ⟨?_, hT.text⟩
      obtain ⟨sk, hkm, hka, hkc, hksym⟩ := hC
      have hkc' : sk.cap = c1.count + k := by rw [hN]; exact hkc
      have hle : pad.length ≤ k := by
        rcases hksym with e | e
        · have e' : c1.sym = some sk := e
          have : c2.sym = some sk := by
            have h0 := update_noop (syms := syms) e' (n := c1.count) (by omega)
            rw [h0] at hu; cases hu; exact e'
          rw [hs] at this; cases this; omega
        · have e' : c1.sym = none := e
          rcases hkf with k1 | ⟨s2, hl2, hs2⟩
          · rw [k1, e'] at hs; cases hs
          · rw [hs] at hs2; cases hs2
            have := lookup_min hsorted hl2 sk hkm hka (by omega)
            omega
      have hdv : DecK refTables V' a' k := hT.dec
      rw [hdv pad hle, decLoop_padding refTables a' _ _ hpshape]
    | endpad jj hdj ht hsj =>
      refine ⟨?_, ht⟩
      have hle : jj ≤ pad.length := by
        rcases hsj with e | ⟨sj, hsj1, hsj2⟩
        · omega
        · have e' : c1.sym = some sj := hsj1
          have hsj2' : c1.count + jj ≤ sj.cap := by rw [hN]; exact hsj2
          have : c2.sym = some sj := by
            have h0 := update_noop (syms := syms) e' (n := c1.count) (by omega)
            rw [h0] at hu; cases hu; exact e'
          rw [hs] at this; cases this; omega
      have hdv : DecFrom refTables jj V' a' := hdj
      rw [hdv pad hle hpbytes, decLoop_padding refTables a' _ _ hpshape]
  -- what is owed behind an EDIFACT unlatch is there
  have hj : j' ≤ pad.length := by
    rcases hdebt with e | ⟨L, y, am, pm, sm, n0, hVL, hjy, hdL, htm, htrm, hpm, hmm, hma, hlm, hn0, ⟨s0, hs0, hcapm, hcases⟩, hy⟩
    · omega
    · obtain rfl : sm = s0 := Option.some.inj hs0
      have hcapm : L.length ≤ sm.cap := hcapm
      have hcases : L.length + 2 ≤ sm.cap ∨ sm.cap = L.length ∨ (sm.cap = L.length + 1 ∧
          (2 < c1.total - pm ∨ 2 < asciiNeed ((c1.msg.drop pm).take (c1.total - pm)))) := hcases
      have hnm : c1.hasMore = false := by rw [hasMore_false_iff]; omega
      have hyne : y ≠ [] := by
        intro e; have := (hy e).2; rw [hnm] at this; cases this
      by_cases hy2 : 2 ≤ y.length
      · omega
      · have hy1 : y.length = 1 := by
          have : y.length ≠ 0 := fun e => hyne (List.eq_nil_of_length_eq_zero e)
          omega
        have hNL : c1.count = L.length + 1 := by rw [hN, hVL, List.length_append, hy1]
        rw [hjy, hy1]
        show 1 ≤ pad.length
        have hadm' : admissible c1.cfg s' = true := hadm
        rcases hcases with hA | hB | ⟨hC1, hC2⟩
        · have := lookup_min hsorted hlm s' hmem hadm' (by omega)
          omega
        · have := gap_of hgap hmm hmem (by omega)
          omega
        · -- the symbol at the unlatch had one codeword left and the rest did not fit: it cannot have fitted
          by_cases hp0 : pad.length = 0
          · exfalso
            have hpnil : pad = [] := List.eq_nil_of_length_eq_zero hp0
            obtain ⟨hdv, htv⟩ := hvirt
            rw [hpnil, List.append_nil, hVL] at hdv
            match y, hy1 with
            | [x1], _ =>
              rw [hdL [x1]] at hdv
              obtain ⟨l, hl1, hl2, hl3⟩ := decLoop_single refTables x1 _ am a' hdv (by rw [htra, htrm])
              rw [htv, htm, hend] at hl1
              have hsplit : c1.msg.take c1.total = c1.msg.take pm ++ (c1.msg.drop pm).take (c1.total - pm) := by
                rw [take_add_drop_take]; congr 1; omega
              rw [hsplit] at hl1
              have hl : (c1.msg.drop pm).take (c1.total - pm) = l := List.append_cancel_left hl1
              have hlen : l.length = c1.total - pm := by
                rw [← hl, List.length_take, List.length_drop]
                have : c1.total ≤ c1.msg.length := by simp only [Ctx.total]; omega
                omega
              rw [hl] at hC2
              have hneed : asciiNeed l = l.length := by
                rw [asciiNeed_eq]
                have : l.filter isExtended = [] := by
                  rw [List.filter_eq_nil_iff]
                  intro c hc
                  have := hl3 c hc
                  simp [isExtended]; omega
                rw [this]; simp
              rcases hC2 with e | e <;> omega
          · omega
  -- transfer to the real stream
  unfold decodeText
  rw [hsim.2 pad hpbytes hj, hvirt.1]
  simp only [Except.map]
  congr 1
  exact final_text htr0 hmsg0 htrail hm1 hskip1 hend hvirt.2 htra

end Gzx.DMHighLevel
