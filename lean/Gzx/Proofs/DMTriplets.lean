/-
  C02: C40 / Text / X12 segments at stream level — the decoder on complete triplets written by
  `writeTriplets`, followed by an explicit unlatch or left open at the end of the symbol.
-/
import Gzx.Proofs.DMInvariant
namespace Gzx.DMHighLevel

/-! ## packing -/

theorem packTriplet_spec (a b c : Nat) (ha : a < 40) (hb : b < 40) (hc : c < 40) :
    ∃ b1 b2, packTriplet a b c = [b1, b2] ∧ b1 ≠ 254 ∧ b1 < 256 ∧ b2 < 256 ∧
      parseTwoBytes b1 b2 = ((a : Int), (b : Int), (c : Int)) := by
  have hq : (1600 * a + 40 * b + c + 1) / 256 ≤ 250 := by omega
  have hm : (1600 * a + 40 * b + c + 1) / 256 % 256 = (1600 * a + 40 * b + c + 1) / 256 := by omega
  exact ⟨_, _, rfl, by rw [hm]; omega, by omega, by omega, parseTwoBytes_pack a b c ha hb hc⟩

/-! ## `writeTriplets` -/

theorem writeTriplets_short (l : List Nat) (h : l.length < 3) : writeTriplets l = ([], l) := by
  match l, h with
  | [], _ => rfl
  | [_], _ => rfl
  | [_, _], _ => rfl

theorem writeTriplets_cons3 (a b c : Nat) (r : List Nat) :
    writeTriplets (a :: b :: c :: r) = (packTriplet a b c ++ (writeTriplets r).1, (writeTriplets r).2) := by
  simp [writeTriplets]

/-- `writeTriplets` packs the longest prefix whose length is a multiple of three and leaves the rest -/
theorem writeTriplets_split : ∀ l : List Nat,
    ∃ k, 3 * k ≤ l.length ∧ l.length < 3 * k + 3 ∧ (writeTriplets l).2 = l.drop (3 * k) ∧
      (writeTriplets l).1 = (writeTriplets (l.take (3 * k))).1 ∧ (writeTriplets (l.take (3 * k))).2 = [] ∧
      (writeTriplets l).1.length = 2 * k
  | [] => ⟨0, by simp, by simp, rfl, rfl, rfl, rfl⟩
  | [_] => ⟨0, by simp, by simp, rfl, rfl, rfl, rfl⟩
  | [_, _] => ⟨0, by simp, by simp, rfl, rfl, rfl, rfl⟩
  | a :: b :: c :: r => by
    obtain ⟨k, h1, h2, h3, h4, h5, h6⟩ := writeTriplets_split r
    have e : 3 * (k + 1) = 3 * k + 1 + 1 + 1 := by omega
    refine ⟨k + 1, by simp; omega, by simp; omega, ?_, ?_, ?_, ?_⟩
    · rw [writeTriplets_cons3, e]; simp only
      rw [h3]; simp
    · rw [e]
      simp only [List.take_succ_cons, writeTriplets_cons3]
      rw [h4]
    · rw [e]
      simp only [List.take_succ_cons, writeTriplets_cons3]
      exact h5
    · rw [writeTriplets_cons3]
      simp only [List.length_append, h6, packTriplet, List.length_cons, List.length_nil]
      omega

theorem writeTriplets_exact (l : List Nat) (k : Nat) (h : l.length = 3 * k) :
    (writeTriplets l).2 = [] ∧ (writeTriplets l).1.length = 2 * k := by
  obtain ⟨k', h1, h2, h3, _, _, h6⟩ := writeTriplets_split l
  have : k' = k := by omega
  subst this
  refine ⟨?_, h6⟩
  rw [h3]; apply List.drop_eq_nil_of_le; omega

theorem writeTriplets_take (l : List Nat) (k : Nat) (h1 : 3 * k ≤ l.length) (h2 : l.length < 3 * k + 3) :
    (writeTriplets l).1 = (writeTriplets (l.take (3 * k))).1 ∧ (writeTriplets l).1.length = 2 * k := by
  obtain ⟨k', g1, g2, _, g4, _, g6⟩ := writeTriplets_split l
  have : k' = k := by omega
  subst this
  exact ⟨g4, g6⟩

/-! ## X12 -/

/-- the characters a list of X12 values stands for -/
def x12Chars : List Nat → Res (List Nat)
  | [] => .ok []
  | v :: vs =>
    match x12Value (v : Int), x12Chars vs with
    | .ok c, .ok cs => .ok (c :: cs)
    | .error e, _ => .error e
    | _, .error e => .error e

theorem pushAll_append (a : Acc) (xs ys : List Nat) : a.pushAll (xs ++ ys) = (a.pushAll xs).pushAll ys := by
  induction xs generalizing a with
  | nil => rfl
  | cons x xs ih => simp [Acc.pushAll, ih]

theorem x12Seg_triplets : ∀ (k : Nat) (vals chars tail : List Nat) (a : Acc) (n : Nat),
    vals.length = 3 * k → (∀ v ∈ vals, v < 40) → x12Chars vals = .ok chars →
    x12Seg ((writeTriplets vals).1 ++ tail) a n
      = x12Seg tail (a.pushAll chars) (n + (writeTriplets vals).1.length) := by
  intro k
  induction k with
  | zero =>
    intro vals chars tail a n hl _ hc
    have : vals = [] := List.eq_nil_of_length_eq_zero (by omega)
    subst this
    simp only [x12Chars, Except.ok.injEq] at hc
    subst hc
    simp [writeTriplets, Acc.pushAll]
  | succ k ih =>
    intro vals chars tail a n hl hv hc
    match vals, hl with
    | v1 :: v2 :: v3 :: rest, hl =>
      have h1 : v1 < 40 := hv v1 (by simp)
      have h2 : v2 < 40 := hv v2 (by simp)
      have h3 : v3 < 40 := hv v3 (by simp)
      obtain ⟨b1, b2, hp, hne, _, _, hparse⟩ := packTriplet_spec v1 v2 v3 h1 h2 h3
      simp only [x12Chars] at hc
      cases e1 : x12Value (v1 : Int) with
      | error e => rw [e1] at hc; simp at hc
      | ok c1 =>
        cases e2 : x12Value (v2 : Int) with
        | error e => rw [e1, e2] at hc; cases h : x12Chars (v3 :: rest) <;> simp at hc <;> (split at hc <;> simp at hc)
        | ok c2 =>
          cases e3 : x12Value (v3 : Int) with
          | error e =>
            rw [e1, e2, e3] at hc
            exfalso
            cases h : x12Chars rest <;> simp at hc
          | ok c3 =>
            cases e4 : x12Chars rest with
            | error e => rw [e1, e2, e3, e4] at hc; simp at hc
            | ok cs =>
              rw [e1, e2, e3, e4] at hc
              simp only [Except.ok.injEq] at hc
              subst hc
              have hlr : rest.length = 3 * k := by simp only [List.length_cons] at hl; omega
              have ihs := ih rest cs tail (((a.push c1).push c2).push c3) (n + 2) hlr
                (fun v hv' => hv v (by simp [hv'])) e4
              simp only [writeTriplets, hp, List.cons_append, List.nil_append, x12Seg, hne, if_false, hparse,
                e1, e2, e3, List.length_cons]
              rw [ihs]
              simp only [Acc.pushAll]
              congr 1
              first | omega | (simp only [List.length_nil]; omega)

theorem pushAll_pend_lt (cs : List Nat) (b : Acc) (h : ∀ c ∈ cs, c < 128) : (b.pushAll cs).pend = b.pend := by
  induction cs generalizing b with
  | nil => rfl
  | cons x xs ih =>
    simp only [Acc.pushAll]
    rw [ih _ (fun c hc' => h c (by simp [hc'])), Acc.push_pend_lt _ _ (h x (by simp))]

/-- an X12 segment of complete triplets closed by the unlatch, latch included -/
theorem reads_x12_closed (T : Tables) (off k : Nat) (vals chars : List Nat) (hl : vals.length = 3 * k)
    (hv : ∀ v ∈ vals, v < 40) (hc : x12Chars vals = .ok chars) :
    Reads T (fun _ => True) off (238 :: ((writeTriplets vals).1 ++ [254])) (fun a => (a.pushAll chars).endSeg) := by
  refine reads_seg T (by decide) _ off _ (fun a => a.pushAll chars) (fun suf a _ => ?_)
  have hseg := x12Seg_triplets k vals chars (254 :: suf) a 0 hl hv hc
  refine ⟨if suf = [] then (writeTriplets vals).1.length else (writeTriplets vals).1.length + 1, ?_,
    decLoop_unlatch_last T _ suf _ _ _ rfl⟩
  simp only [segRead, List.append_assoc, List.singleton_append, hseg, Nat.zero_add, show ¬ (238 : Nat) = 230 by decide,
    show ¬ (238 : Nat) = 239 by decide, if_false, if_true]
  cases suf <;> simp [x12Seg]

/-- an X12 segment of complete triplets left open: at most one more codeword follows, and is read in ASCII -/
theorem reads_x12_open (T : Tables) (off k : Nat) (vals chars : List Nat) (hl : vals.length = 3 * k)
    (hv : ∀ v ∈ vals, v < 40) (hc : x12Chars vals = .ok chars) :
    Reads T (fun s => s.length ≤ 1) off (238 :: (writeTriplets vals).1) (fun a => (a.pushAll chars).endSeg) := by
  refine reads_seg_exact T (by decide) _ off _ (fun a => a.pushAll chars) (fun suf a hs => ?_)
  have hseg := x12Seg_triplets k vals chars suf a 0 hl hv hc
  simp only [segRead, hseg, Nat.zero_add, show ¬ (238 : Nat) = 230 by decide,
    show ¬ (238 : Nat) = 239 by decide, if_false, if_true]
  match suf, hs with
  | [], _ => simp [x12Seg]
  | [x], _ => simp [x12Seg]

theorem decodesTo_x12 {T : Tables} {cw : List Nat} {a : Acc} (h : DecodesTo T cw a) (hp : a.pend = 0)
    (k : Nat) (vals chars : List Nat) (hl : vals.length = 3 * k) (hv : ∀ v ∈ vals, v < 40)
    (hc : x12Chars vals = .ok chars) (hch : ∀ c ∈ chars, c < 128) :
    DecodesTo T (cw ++ [238] ++ (writeTriplets vals).1 ++ [254]) (a.pushAll chars) := by
  have := h.append (reads_x12_closed T cw.length k vals chars hl hv hc)
  rw [Acc.endSeg_of_pend _ (by rw [pushAll_pend_lt chars a hch, hp])] at this
  simpa [List.append_assoc] using this

/-! ## C40 / Text -/

def Acc.emitAll (a : Acc) : List Emit → Acc
  | [] => a
  | e :: es => (a.emit e).emitAll es

theorem emitAll_append (a : Acc) (xs ys : List Emit) : a.emitAll (xs ++ ys) = (a.emitAll xs).emitAll ys := by
  induction xs generalizing a with
  | nil => rfl
  | cons x xs ih => simp [Acc.emitAll, ih]

theorem emitAll_real (a : Acc) (es : List Emit) : a.emitAll (realEmits es) = a.emitAll es := by
  induction es generalizing a with
  | nil => rfl
  | cons e es ih =>
    cases e with
    | none => simp [realEmits, Acc.emitAll, Acc.emit] at ih ⊢; exact ih a
    | char c => simp [realEmits, Acc.emitAll] at ih ⊢; exact ih _
    | fnc1 => simp [realEmits, Acc.emitAll] at ih ⊢; exact ih _

theorem cSeg_triplets (T : Tables) (text : Bool) : ∀ (k : Nat) (vals tail : List Nat) (st st' : CState)
    (es : List Emit) (a : Acc) (n : Nat),
    vals.length = 3 * k → (∀ v ∈ vals, v < 40) →
    runVals T text (vals.map Int.ofNat) st = .ok (st', es) →
    cSeg T text ((writeTriplets vals).1 ++ tail) st a n
      = cSeg T text tail st' (a.emitAll es) (n + (writeTriplets vals).1.length) := by
  intro k
  induction k with
  | zero =>
    intro vals tail st st' es a n hl _ hr
    have : vals = [] := List.eq_nil_of_length_eq_zero (by omega)
    subst this
    simp only [List.map_nil, runVals, Except.ok.injEq, Prod.mk.injEq] at hr
    obtain ⟨rfl, rfl⟩ := hr
    simp [writeTriplets, Acc.emitAll]
  | succ k ih =>
    intro vals tail st st' es a n hl hv hr
    match vals, hl with
    | v1 :: v2 :: v3 :: rest, hl =>
      have h1 : v1 < 40 := hv v1 (by simp)
      have h2 : v2 < 40 := hv v2 (by simp)
      have h3 : v3 < 40 := hv v3 (by simp)
      obtain ⟨b1, b2, hp, hne, _, _, hparse⟩ := packTriplet_spec v1 v2 v3 h1 h2 h3
      simp only [List.map_cons, runVals] at hr
      cases e1 : cValueCore T text (Int.ofNat v1) st with
      | error e => rw [e1] at hr; simp at hr
      | ok r1 =>
        obtain ⟨s1, m1⟩ := r1
        rw [e1] at hr
        simp only at hr
        cases e2 : cValueCore T text (Int.ofNat v2) s1 with
        | error e => rw [e2] at hr; simp at hr
        | ok r2 =>
          obtain ⟨s2, m2⟩ := r2
          rw [e2] at hr
          simp only at hr
          cases e3 : cValueCore T text (Int.ofNat v3) s2 with
          | error e => rw [e3] at hr; simp at hr
          | ok r3 =>
            obtain ⟨s3, m3⟩ := r3
            rw [e3] at hr
            simp only at hr
            cases e4 : runVals T text (rest.map Int.ofNat) s3 with
            | error e => rw [e4] at hr; simp at hr
            | ok r4 =>
              obtain ⟨s4, m4⟩ := r4
              rw [e4] at hr
              simp only [Except.ok.injEq, Prod.mk.injEq] at hr
              obtain ⟨rfl, rfl⟩ := hr
              have hlr : rest.length = 3 * k := by simp only [List.length_cons] at hl; omega
              have ihs := ih rest tail s3 s4 m4 (((a.emit m1).emit m2).emit m3) (n + 2) hlr
                (fun v hv' => hv v (by simp [hv'])) e4
              have c1 : (Int.ofNat v1 : Int) = (v1 : Int) := rfl
              have c2 : (Int.ofNat v2 : Int) = (v2 : Int) := rfl
              have c3 : (Int.ofNat v3 : Int) = (v3 : Int) := rfl
              rw [c1] at e1; rw [c2] at e2; rw [c3] at e3
              simp only [writeTriplets, hp, List.cons_append, List.nil_append, cSeg, hne, if_false, hparse,
                cValue, e1, e2, e3, List.length_cons]
              rw [ihs]
              simp only [Acc.emitAll]
              congr 1
              first | omega | (simp only [List.length_nil]; omega)

theorem runVals_append (T : Tables) (text : Bool) (xs ys : List Int) (st s1 s2 : CState) (e1 e2 : List Emit)
    (h1 : runVals T text xs st = .ok (s1, e1)) (h2 : runVals T text ys s1 = .ok (s2, e2)) :
    runVals T text (xs ++ ys) st = .ok (s2, e1 ++ e2) := by
  induction xs generalizing st e1 with
  | nil =>
    simp only [runVals, Except.ok.injEq, Prod.mk.injEq] at h1
    obtain ⟨rfl, rfl⟩ := h1
    simpa using h2
  | cons x xs ih =>
    simp only [List.cons_append, runVals] at h1 ⊢
    cases hx : cValueCore T text x st with
    | error e => rw [hx] at h1; simp at h1
    | ok r =>
      obtain ⟨sx, ex⟩ := r
      rw [hx] at h1
      simp only at h1 ⊢
      cases hr : runVals T text xs sx with
      | error e => rw [hr] at h1; simp at h1
      | ok r2 =>
        obtain ⟨sr, er⟩ := r2
        rw [hr] at h1
        simp only [Except.ok.injEq, Prod.mk.injEq] at h1
        obtain ⟨rfl, rfl⟩ := h1
        rw [ih sx er hr]
        simp

def cVals (text : Bool) : List Nat → List Nat
  | [] => []
  | c :: cs => cEncodeChar text c ++ cVals text cs

theorem char_run (text : Bool) (c : Nat) (hc : c < 256) :
    ∃ es, runVals refTables text ((cEncodeChar text c).map Int.ofNat) {} = .ok ({}, es) ∧
      realEmits es = [.char c] ∧ ∀ v ∈ cEncodeChar text c, v < 40 := by
  have h : charRoundTrips refTables text c = true := by
    cases text
    · exact c40_chars_roundtrip ⟨c, hc⟩
    · exact text_chars_roundtrip ⟨c, hc⟩
  unfold charRoundTrips at h
  split at h
  · rename_i st es hr
    simp only [Bool.and_eq_true, beq_iff_eq, List.all_eq_true, decide_eq_true_eq] at h
    obtain ⟨⟨h1, h2⟩, h3⟩ := h
    subst h1
    exact ⟨es, hr, h2, h3⟩
  · cases h

/-- the value automaton on the values of whole characters emits exactly those characters -/
theorem chars_run (text : Bool) : ∀ (chars : List Nat), (∀ c ∈ chars, c < 256) →
    ∃ es, runVals refTables text ((cVals text chars).map Int.ofNat) {} = .ok ({}, es) ∧
      (∀ a : Acc, a.emitAll es = a.pushAll chars) ∧ ∀ v ∈ cVals text chars, v < 40 := by
  intro chars
  induction chars with
  | nil => intro _; exact ⟨[], rfl, fun _ => rfl, by simp [cVals]⟩
  | cons c cs ih =>
    intro hb
    obtain ⟨e1, hr1, hre, hv1⟩ := char_run text c (hb c (by simp))
    obtain ⟨e2, hr2, hem, hv2⟩ := ih (fun x hx => hb x (by simp [hx]))
    refine ⟨e1 ++ e2, ?_, ?_, ?_⟩
    · simp only [cVals, List.map_append]
      exact runVals_append refTables text _ _ {} {} {} e1 e2 hr1 hr2
    · intro a
      rw [emitAll_append, ← emitAll_real a e1, hre, hem]
      simp [Acc.emitAll, Acc.emit, Acc.pushAll]
    · intro v hv
      simp only [cVals, List.mem_append] at hv
      rcases hv with h | h
      · exact hv1 v h
      · exact hv2 v h

theorem cSeg_open_tail (T : Tables) (text : Bool) (suf : List Nat) (st : CState) (a : Acc) (n : Nat)
    (hs : suf.length ≤ 1) : cSeg T text suf st a n = .ok (a, n) := by
  match suf, hs with
  | [], _ => simp [cSeg]
  | [x], _ => simp [cSeg]

theorem segRead_c (T : Tables) (text : Bool) (rest : List Nat) (a : Acc) :
    segRead T (if text then 239 else 230) rest a = cSeg T text rest {} a 0 := by
  cases text <;> simp [segRead]

/-- a C40 (230) or Text (239) segment of complete triplets of values closed by the unlatch, latch included -/
theorem reads_cvals_closed (T : Tables) (text : Bool) (off k : Nat) (vals : List Nat) (hl : vals.length = 3 * k)
    (hv : ∀ v ∈ vals, v < 40) (st' : CState) (es : List Emit)
    (hr : runVals T text (vals.map Int.ofNat) {} = .ok (st', es)) :
    Reads T (fun _ => True) off ((if text then 239 else 230) :: ((writeTriplets vals).1 ++ [254]))
      (fun a => (a.emitAll es).endSeg) := by
  refine reads_seg T (by cases text <;> decide) _ off _ (fun a => a.emitAll es) (fun suf a _ => ?_)
  have hseg := cSeg_triplets T text k vals (254 :: suf) {} st' es a 0 hl hv hr
  refine ⟨if suf = [] then (writeTriplets vals).1.length else (writeTriplets vals).1.length + 1, ?_,
    decLoop_unlatch_last T _ suf _ _ _ rfl⟩
  rw [segRead_c, List.append_assoc, List.singleton_append, hseg, Nat.zero_add]
  cases suf <;> simp [cSeg]

/-- the same left open: at most one more codeword follows, and is read in ASCII -/
theorem reads_cvals_open (T : Tables) (text : Bool) (off k : Nat) (vals : List Nat) (hl : vals.length = 3 * k)
    (hv : ∀ v ∈ vals, v < 40) (st' : CState) (es : List Emit)
    (hr : runVals T text (vals.map Int.ofNat) {} = .ok (st', es)) :
    Reads T (fun s => s.length ≤ 1) off ((if text then 239 else 230) :: (writeTriplets vals).1)
      (fun a => (a.emitAll es).endSeg) := by
  refine reads_seg_exact T (by cases text <;> decide) _ off _ (fun a => a.emitAll es) (fun suf a hs => ?_)
  rw [segRead_c, cSeg_triplets T text k vals suf {} st' es a 0 hl hv hr, cSeg_open_tail T text suf st' _ _ hs,
    Nat.zero_add]

theorem SegReads.of_emitAll {T : Tables} {K : List Nat → Prop} {off b : Nat} {ws chars : List Nat} {es : List Emit}
    (h : Reads T K off (b :: ws) (fun a => (a.emitAll es).endSeg)) (hem : ∀ a : Acc, a.emitAll es = a.pushAll chars) :
    SegReads T K off b ws chars :=
  SegReads.of_pushAll (by simpa only [hem] using h)

/-- the complete triplets of whole characters closed by the unlatch, behind the C40 (230) or Text (239) latch, are read back
    as those characters (reference tables) -/
theorem segReads_chars_closed (text : Bool) (off k : Nat) (chars : List Nat) (hb : ∀ c ∈ chars, c < 256)
    (hl : (cVals text chars).length = 3 * k) :
    SegReads refTables (fun _ => True) off (if text then 239 else 230) ((writeTriplets (cVals text chars)).1 ++ [254])
      chars := by
  obtain ⟨es, hr, hem, hv⟩ := chars_run text chars hb
  exact SegReads.of_emitAll (reads_cvals_closed refTables text off k _ hl hv {} es hr) hem

/-- `c40_segment_inv` (`text` selects Text encodation): a C40 (230) or Text (239) segment made of the complete triplets of
    whole characters and closed by an explicit unlatch, latch included, extends `DecodesTo` by exactly those
    characters (reference tables). -/
theorem decodesTo_c40 {cw : List Nat} {a : Acc} (text : Bool) (h : DecodesTo refTables cw a)
    (chars : List Nat) (hb : ∀ c ∈ chars, c < 256) (k : Nat) (hl : (cVals text chars).length = 3 * k) :
    DecodesTo refTables (cw ++ [if text then 239 else 230] ++ (writeTriplets (cVals text chars)).1 ++ [254])
      (a.pushAll chars).endSeg := by
  obtain ⟨es, hr, hem, hv⟩ := chars_run text chars hb
  have := h.append (reads_cvals_closed refTables text cw.length k _ hl hv {} es hr)
  rw [hem] at this
  simpa [List.append_assoc] using this

end Gzx.DMHighLevel
