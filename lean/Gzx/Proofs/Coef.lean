/-
  Coefficient semantics of the polynomial operations of Model/RS.lean: `coef p m` is the coefficient of
  `x^m` of a coefficient list (highest degree first).  Every operation is described coefficient-wise
  (sum, shift, scaling, convolution product).  Helper lemmas for Properties/C04.lean.
-/
import Gzx.Proofs.Conv
import Gzx.Proofs.PolyOps
namespace Gzx.Proofs.Coef
open Gzx Gzx.GF Gzx.RS Gzx.Ref.GF Gzx.Proofs.GF Gzx.Proofs.Poly Gzx.Proofs.Conv

/-- coefficient of `x^m` -/
def coef : List Nat → Nat → Nat
  | [], _ => 0
  | c :: cs, m => if m = cs.length then c else coef cs m

theorem coef_ge : ∀ (p : List Nat) (m : Nat), p.length ≤ m → coef p m = 0
  | [], _, _ => rfl
  | c :: cs, m, h => by
    simp only [List.length_cons] at h
    have : ¬ m = cs.length := by omega
    simp only [coef, this, if_false]
    exact coef_ge cs m (by omega)

theorem coef_head (c : Nat) (cs : List Nat) : coef (c :: cs) cs.length = c := by simp [coef]

theorem coef_cons_lt (c : Nat) (cs : List Nat) (m : Nat) (h : m < cs.length) : coef (c :: cs) m = coef cs m := by
  have : ¬ m = cs.length := by omega
  simp [coef, this]

theorem coef_zero_cons (cs : List Nat) (m : Nat) : coef (0 :: cs) m = coef cs m := by
  by_cases h : m = cs.length
  · subst h; simp [coef, coef_ge cs cs.length (Nat.le_refl _)]
  · simp [coef, h]

theorem coef_lt {size : Nat} (hs : 0 < size) : ∀ (p : List Nat), InR size p → ∀ m, coef p m < size
  | [], _, _ => hs
  | c :: cs, hp, m => by
    unfold coef
    split
    · exact hp.head
    · exact coef_lt hs cs hp.tail m

theorem coef_append : ∀ (xs ys : List Nat) (m : Nat),
    coef (xs ++ ys) m = if m < ys.length then coef ys m else coef xs (m - ys.length)
  | [], ys, m => by
    simp only [List.nil_append]
    split
    · rfl
    · rw [coef_ge ys m (by omega)]; rfl
  | x :: xs, ys, m => by
    simp only [List.cons_append, coef, List.length_append]
    by_cases h : m = xs.length + ys.length
    · have h1 : ¬ m < ys.length := by omega
      have h2 : m - ys.length = xs.length := by omega
      rw [if_pos h, if_neg h1, if_pos h2]
    · rw [if_neg h, coef_append xs ys m]
      by_cases h1 : m < ys.length
      · simp [h1]
      · have h2 : ¬ m - ys.length = xs.length := by omega
        simp [h1, h2]

theorem coef_replicate_zero (k m : Nat) : coef (List.replicate k 0) m = 0 := by
  induction k with
  | zero => rfl
  | succ k ih => rw [List.replicate_succ, coef_zero_cons, ih]

theorem coef_normalize (p : List Nat) (m : Nat) : coef (normalize p) m = coef p m :=
  normalize_induction (P := fun p r => coef r m = coef p m) (coef_zero_cons [] m)
    (fun p r ih => by rw [ih, coef_zero_cons]) (fun _ _ _ => rfl) p

theorem coef_zipWith_xor : ∀ (xs ys : List Nat) (m : Nat), xs.length = ys.length →
    coef (List.zipWith (· ^^^ ·) xs ys) m = coef xs m ^^^ coef ys m
  | [], [], _, _ => by simp [coef]
  | [], _ :: _, _, h => by simp at h
  | _ :: _, [], _, h => by simp at h
  | x :: xs, y :: ys, m, h => by
    have hl : xs.length = ys.length := by simpa using h
    simp only [List.zipWith_cons_cons, coef, List.length_zipWith, hl, Nat.min_self]
    split
    · rfl
    · exact coef_zipWith_xor xs ys m hl

theorem coef_take_drop (l : List Nat) (d m : Nat) :
    coef l m = if m < (l.drop d).length then coef (l.drop d) m else coef (l.take d) (m - (l.drop d).length) := by
  have := coef_append (l.take d) (l.drop d) m
  rw [List.take_append_drop] at this
  exact this

theorem getCoefficient_eq_coef : ∀ (p : List Nat) (d : Nat), d < p.length → getCoefficient p d = .ok (coef p d)
  | [], d, h => by simp at h
  | c :: cs, d, h => by
    unfold getCoefficient
    have h1 : ¬ d + 1 > (c :: cs).length := by omega
    rw [if_neg h1]
    simp only [List.length_cons] at h
    by_cases hd : d = cs.length
    · subst hd
      simp [coef]
    · have hlt : d < cs.length := by omega
      have ih := getCoefficient_eq_coef cs d hlt
      unfold getCoefficient at ih
      have h2 : ¬ d + 1 > cs.length := by omega
      rw [if_neg h2] at ih
      have e : (c :: cs).length - 1 - d = (cs.length - 1 - d) + 1 := by simp only [List.length_cons]; omega
      rw [e, List.getElem?_cons_succ]
      simp only [coef, hd, if_false]
      exact ih

theorem coef_reverse_map (f : Nat → Nat) : ∀ (r m : Nat),
    coef ((List.range' 0 r).map f).reverse m = if m < r then f m else 0
  | 0, m => by simp [coef]
  | r + 1, m => by
    rw [List.range'_1_concat, List.map_append, List.reverse_append]
    simp only [List.map_cons, List.map_nil, List.reverse_cons, List.reverse_nil, List.nil_append,
      List.singleton_append, Nat.zero_add]
    show (if m = (((List.range' 0 r).map f).reverse).length then f r else coef _ m) = _
    rw [List.length_reverse, List.length_map, List.length_range', coef_reverse_map f r m]
    by_cases h : m = r
    · subst h; simp
    · by_cases h2 : m < r
      · have : m < r + 1 := by omega
        simp [h, h2, this]
      · have : ¬ m < r + 1 := by omega
        simp [h, h2, this]

section field
variable {prim size : Nat} (ok : ParamsOK prim size)
include ok

theorem coef_map_gmul (c : Nat) : ∀ (p : List Nat) (m : Nat),
    coef (p.map (gmul prim c)) m = gmul prim c (coef p m)
  | [], _ => (gmul_zero_right ok c).symm
  | x :: xs, m => by
    simp only [List.map_cons, coef, List.length_map]
    split
    · rfl
    · exact coef_map_gmul c xs m

theorem evalH_eq_xsum (a : Nat) (ha : a < size) : ∀ (p : List Nat), InR size p →
    evalH prim a p = xsum p.length (fun m => gmul prim (gpow prim a m) (coef p m))
  | [], _ => rfl
  | c :: cs, hp => by
    rw [evalH_cons ok a ha c cs hp.head hp.tail, evalH_eq_xsum a ha cs hp.tail]
    show _ = xsum cs.length _ ^^^ gmul prim (gpow prim a cs.length) (coef (c :: cs) cs.length)
    rw [coef_head, Nat.xor_comm]
    congr 1
    apply xsum_congr
    intro m hm
    rw [coef_cons_lt c cs m hm]

theorem evalH_eq_xsum_ge (a : Nat) (ha : a < size) (p : List Nat) (hp : InR size p) (N : Nat)
    (hN : p.length ≤ N) :
    evalH prim a p = xsum N (fun m => gmul prim (gpow prim a m) (coef p m)) := by
  rw [evalH_eq_xsum ok a ha p hp]
  symm
  apply xsum_extend hN
  intro j h1 _
  rw [coef_ge p j h1, gmul_zero_right ok]

theorem evalH_congr_coef (a : Nat) (ha : a < size) (p q : List Nat) (hp : InR size p) (hq : InR size q)
    (h : ∀ m, coef p m = coef q m) : evalH prim a p = evalH prim a q := by
  rw [evalH_eq_xsum_ge ok a ha p hp (max p.length q.length) (Nat.le_max_left _ _),
    evalH_eq_xsum_ge ok a ha q hq (max p.length q.length) (Nat.le_max_right _ _)]
  exact xsum_congr (fun m _ => by rw [h m])

theorem evalH_at_zero (p : List Nat) (hp : InR size p) (hne : p ≠ []) : evalH prim 0 p = coef p 0 := by
  have hs := zero_lt_size ok
  rw [evalH_eq_xsum ok 0 hs p hp]
  have hl : 0 < p.length := List.length_pos_iff.2 hne
  rw [xsum_single 0 hl (fun j _ hne => by
    obtain ⟨k, rfl⟩ : ∃ k, j = k + 1 := ⟨j - 1, by omega⟩
    rw [gpow_zero_succ ok, gmul_zero_left ok _ (coef_lt hs p hp _)])]
  exact gmul_one_left ok _ (coef_lt hs p hp 0)

theorem conv_one (g : Nat → Nat) (hg : ∀ j, g j < size) (m : Nat) : conv prim (coef [1]) g m = g m := by
  have h : ∀ i, i ≤ m → coef [1] i = (fun j => if j = 0 then 1 else 0) i := by
    intro i _; simp [coef]
  rw [conv_congr_left h, conv_monomial ok 0 1 g hg m]
  simp [gmul_one_left ok _ (hg m)]

end field

theorem coef_xorLow (s l : List Nat) (h : s.length ≤ l.length) (m : Nat) :
    coef (xorLow s l) m = coef s m ^^^ coef l m := by
  have hd : (l.drop (l.length - s.length)).length = s.length := by rw [List.length_drop]; omega
  unfold xorLow
  rw [coef_append, List.length_zipWith, hd, Nat.min_self, coef_take_drop l (l.length - s.length) m, hd]
  by_cases hm : m < s.length
  · rw [if_pos hm, if_pos hm, coef_zipWith_xor _ _ _ hd.symm]
  · rw [if_neg hm, if_neg hm, coef_ge s m (by omega), Nat.zero_xor]

section F
variable {F : GF} (hF : FieldOK F)
include hF

omit hF in
theorem coef_zero_poly (m : Nat) : coef [0] m = 0 := by rw [coef_zero_cons]; rfl

omit hF in
theorem addOrSubtract_coef (p q r : List Nat) (hp : WF F.size p) (hq : WF F.size q)
    (h : addOrSubtract p q = .ok r) (m : Nat) : coef r m = coef p m ^^^ coef q m := by
  by_cases hp0 : p = [0]
  · subst hp0
    cases h
    rw [coef_zero_poly, Nat.zero_xor]
  by_cases hq0 : q = [0]
  · subst hq0
    rw [addOrSubtract_zero_right hp.2 hp0] at h
    cases h
    rw [coef_zero_poly, Nat.xor_zero]
  by_cases hlen : q.length < p.length
  · rw [addOrSubtract_of_lt hp.2 hq.2 hp0 hq0 hlen] at h
    cases h
    rw [coef_normalize, coef_xorLow q p (by omega), Nat.xor_comm]
  · rw [addOrSubtract_of_le hp.2 hq.2 hp0 hq0 (by omega)] at h
    cases h
    rw [coef_normalize, coef_xorLow p q (by omega)]

theorem multiplyByMonomial_coef (p r : List Nat) (hp : WF F.size p) (d c : Nat) (hc : c < F.size)
    (h : multiplyByMonomial F p d c = .ok r) (m : Nat) :
    coef r m = if m ≥ d then gmul F.prim c (coef p (m - d)) else 0 := by
  by_cases h0 : c = 0
  · subst h0
    cases h
    rw [coef_zero_poly, gmul_zero_left hF.2 _ (coef_lt (size_pos hF) p hp.1 _), ite_self]
  · rw [multiplyByMonomial_eq hF p hp d c hc h0] at h
    cases h
    rw [coef_normalize, coef_append, List.length_replicate, coef_replicate_zero, coef_map_gmul hF.2]
    by_cases hm : m < d
    · rw [if_pos hm, if_neg (by omega)]
    · rw [if_neg hm, if_pos (by omega)]

omit hF in
theorem buildMonomial_coef (d c : Nat) (r : List Nat) (h : buildMonomial d c = .ok r) (m : Nat) :
    coef r m = if m = d then c else 0 := by
  by_cases h0 : c = 0
  · subst h0
    cases h
    rw [coef_zero_poly, ite_self]
  · rw [buildMonomial_eq d h0] at h
    cases h
    simp only [coef, List.length_replicate, coef_replicate_zero]

theorem multiplyBy_coef (p r : List Nat) (hp : WF F.size p) (s : Nat) (hs : s < F.size)
    (h : multiplyBy F p s = .ok r) (m : Nat) : coef r m = gmul F.prim s (coef p m) := by
  have hcl := coef_lt (size_pos hF) p hp.1 m
  by_cases h0 : s = 0
  · subst h0
    cases h
    rw [coef_zero_poly, gmul_zero_left hF.2 _ hcl]
  by_cases h1 : s = 1
  · subst h1
    cases h
    rw [gmul_one_left hF.2 _ hcl]
  rw [multiplyBy_eq hF p hp s hs h0 h1] at h
  cases h
  rw [coef_normalize, coef_map_gmul hF.2]

/-- the list of the coefficient double loop is the convolution product -/
theorem coef_mulRows (b : List Nat) (hb : InR F.size b) (hbne : b ≠ []) (m : Nat) : ∀ (as : List Nat),
    coef (mulRows F.prim as b) m = conv F.prim (coef as) (coef b) m
  | [] => by
    rw [mulRows, coef_replicate_zero]
    exact (xsum_zero fun j _ => gmul_zero_left hF.2 _ (coef_lt (size_pos hF) b hb _)).symm
  | a0 :: as => by
    have ok := hF.2
    have hbl : 0 < b.length := List.length_pos_iff.2 hbne
    rw [mulRows, coef_zipWith_xor _ _ _ (by simp [mulRows_length F.prim b hbne as]; omega), coef_zero_cons,
      coef_mulRows b hb hbne m as, coef_append, List.length_replicate, coef_replicate_zero, coef_map_gmul ok]
    -- split the convolution at the index of the leading coefficient
    unfold conv
    have hsplit : ∀ j, gmul F.prim (coef (a0 :: as) j) (coef b (m - j)) =
        (if j = as.length then gmul F.prim a0 (coef b (m - as.length)) else 0) ^^^
          gmul F.prim (coef as j) (coef b (m - j)) := by
      intro j
      by_cases hj : j = as.length
      · subst hj
        rw [coef_head, if_pos rfl, coef_ge as as.length (Nat.le_refl _),
          gmul_zero_left ok _ (coef_lt (size_pos hF) b hb _), Nat.xor_zero]
      · simp only [coef, hj, if_false, Nat.zero_xor]
    rw [xsum_congr (fun j _ => hsplit j), xsum_xor]
    congr 1
    by_cases hm : m < as.length
    · rw [if_pos hm]
      exact (xsum_zero fun j hj => if_neg (by omega)).symm
    · rw [if_neg hm, xsum_single as.length (by omega) (fun j _ hne => if_neg hne), if_pos rfl]

theorem multiply_coef (p q r : List Nat) (hp : WF F.size p) (hq : WF F.size q)
    (h : multiply F p q = .ok r) (m : Nat) : coef r m = conv F.prim (coef p) (coef q) m := by
  by_cases hz : p = [0] ∨ q = [0]
  · rw [multiply_zero p q hz] at h
    cases h
    rw [coef_zero_poly]
    refine (xsum_zero fun j _ => ?_).symm
    rcases hz with rfl | rfl
    · rw [coef_zero_poly, gmul_zero_left hF.2 _ (coef_lt (size_pos hF) q hq.1 _)]
    · rw [coef_zero_poly, gmul_zero_right hF.2]
  · rw [not_or] at hz
    rw [multiply_eq hF p q hp hq hz.1 hz.2] at h
    cases h
    rw [coef_normalize]
    exact coef_mulRows hF q hq.1 hq.2.ne_nil m p

theorem conv_zero_left (g : Nat → Nat) (hg : ∀ j, g j < F.size) (m : Nat) :
    conv F.prim (coef [0]) g m = 0 := by
  apply xsum_zero
  intro j _
  show gmul F.prim (coef [0] j) _ = 0
  rw [coef_zero_poly, gmul_zero_left hF.2 _ (hg _)]

end F
end Gzx.Proofs.Coef
