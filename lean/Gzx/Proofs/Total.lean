/-
  Totality of the model decoder on in-range input: `Decode` never panics and never runs out of fuel;
  it returns a word of the same length over the field or a ReedSolomonException.  Each loop is read off the
  description of its result in Proofs/RS.lean, Euclid.lean, Chien.lean and Forney.lean.
  Helper lemmas for Properties/C04.lean.
-/
import Gzx.Proofs.Forney
import Gzx.Proofs.Euclid
namespace Gzx.Proofs.Total
open Gzx Gzx.GF Gzx.RS Gzx.Ref.GF Gzx.Proofs.GF Gzx.Proofs.Poly Gzx.Proofs.RS Gzx.Proofs.Euclid Gzx.Proofs.Chien
  Gzx.Proofs.Forney

/-- a failure that `Decode` reports as a `ReedSolomonException` (not a panic, not fuel exhaustion) -/
def Benign (e : DErr) : Prop := e.toFault = .checksum

section F
variable {F : GF} (hF : FieldOK F)
include hF

/-- outer loop of Euclid: a well-formed pair or a ReedSolomonException -/
theorem euclidLoop_total (R : Nat) : ∀ (fuel : Nat) (rLast r tLast t : List Nat),
    WF F.size rLast → WF F.size r → WF F.size tLast → WF F.size t → r.length + 1 ≤ fuel →
    (∃ t' r', euclidLoop F R fuel rLast r tLast t = .ok (t', r') ∧ WF F.size t' ∧ WF F.size r') ∨
    (∃ e, euclidLoop F R fuel rLast r tLast t = .error e ∧ Benign e)
  | 0, _, r, _, _, _, _, _, _, hfuel => by omega
  | fuel + 1, rLast, r, tLast, t, hrLast, hr, htLast, ht, hfuel => by
    by_cases hcond : 2 * degree r ≥ R
    · by_cases hz : isZero r = true
      · right
        refine ⟨.rLastZero, ?_, rfl⟩
        simp [euclidLoop, hcond, hz, bind, Except.bind, throw, throwThe, MonadExceptOf.throw]
      · have hne0 : r ≠ [0] := fun h => by rw [h] at hz; simp [isZero] at hz
        obtain ⟨lh, lt, rfl, hlh⟩ := wf_cons_of_ne_zero hr hne0
        obtain ⟨q, r', qt, t', _, hr'wf, _, ht'wf, hr'len, _, _, _, _, hstep⟩ :=
          euclidLoop_step hF R rLast lh lt tLast t hrLast hr hlh htLast ht hcond fuel
        rw [hstep]
        by_cases hdeg : degree r' ≥ degree (lh :: lt)
        · right
          exact ⟨.illegalState, by rw [if_pos hdeg], rfl⟩
        · rw [if_neg hdeg]
          have hr'l : r'.length + 1 ≤ fuel := by
            have := List.length_pos_iff.2 hr'wf.2.ne_nil
            simp only [degree, List.length_cons, Nat.add_sub_cancel] at hdeg hfuel
            omega
          exact euclidLoop_total R fuel (lh :: lt) r' t t' hr hr'wf ht ht'wf hr'l
    · left
      simp only [euclidLoop, if_neg hcond]
      exact ⟨t, r, rfl, ht, hr⟩

/-- `runEuclideanAlgorithm`: well-formed (sigma, omega) or a ReedSolomonException -/
theorem runEuclid_total (a b : List Nat) (ha : WF F.size a) (hb : WF F.size b) (R : Nat) :
    (∃ sigma omega, runEuclideanAlgorithm F a b R = .ok (sigma, omega) ∧ WF F.size sigma ∧ WF F.size omega) ∨
    (∃ e, runEuclideanAlgorithm F a b R = .error e ∧ Benign e) := by
  have ok := hF.2
  -- after the swap
  obtain ⟨a', b', hab, ha', hb'⟩ : ∃ a' b', (if degree a < degree b then (b, a) else (a, b)) = (a', b') ∧
      WF F.size a' ∧ WF F.size b' := by
    by_cases h : degree a < degree b
    · exact ⟨b, a, by rw [if_pos h], hb, ha⟩
    · exact ⟨a, b, by rw [if_neg h], ha, hb⟩
  unfold runEuclideanAlgorithm
  simp only [hab]
  rcases euclidLoop_total hF R (b'.length + 1) a' b' [0] [1] ha' hb' (wf_zero (size_pos hF))
    ⟨InR.cons (one_lt_size ok) InR.nil, Or.inr ⟨1, [], rfl, by decide⟩⟩ (Nat.le_refl _) with
    ⟨t, r, hloop, htwf, hrwf⟩ | ⟨e, hloop, he⟩
  · obtain ⟨v, hv, hvmem⟩ := getCoefficient_zero t htwf.2.ne_nil
    simp only [hloop, hv, liftD, bind, Except.bind]
    by_cases hv0 : v = 0
    · right
      refine ⟨.sigmaZero, ?_, rfl⟩
      simp [hv0, throw, throwThe, MonadExceptOf.throw]
    · obtain ⟨z, hz, hzlt, _, _⟩ := F_inv hF v hv0 (htwf.1 v hvmem)
      obtain ⟨sigma, hsig, hsigwf, _⟩ := multiplyBy_spec hF t htwf z hzlt
      obtain ⟨omega, hom, homwf, _⟩ := multiplyBy_spec hF r hrwf z hzlt
      left
      refine ⟨sigma, omega, ?_, hsigwf, homwf⟩
      simp [hv0, hz, hsig, hom]
  · right
    refine ⟨e, ?_, he⟩
    simp only [hloop, bind, Except.bind]

theorem chien_total (sigma : List Nat) (hs : WF F.size sigma) (n : Nat) (cands acc : List Nat)
    (hc : NZ F.size cands) (hacc : NZ F.size acc) : ∃ res, chien F sigma n cands acc = .ok res ∧ NZ F.size res := by
  refine ⟨_, chien_eq hF sigma hs n cands acc hc, fun y hy => ?_⟩
  rcases List.mem_append.1 hy with h | h
  · exact hacc y h
  · obtain ⟨i, hi, rfl⟩ := List.mem_map.1 h
    have hi' := hc i (List.mem_filter.1 (List.mem_of_mem_take hi)).1
    obtain ⟨_, hlt, h0, _⟩ := invOf_spec hF i hi'.1 hi'.2
    exact ⟨h0, hlt⟩

theorem findErrorLocations_total (sigma : List Nat) (hs : WF F.size sigma) :
    (∃ locs, findErrorLocations F sigma = .ok locs ∧ NZ F.size locs) ∨
    (∃ e, findErrorLocations F sigma = .error e ∧ Benign e) := by
  unfold findErrorLocations
  by_cases h1 : degree sigma = 1
  · left
    -- sigma = [c, d] with c ≠ 0
    have hlen : sigma.length = 2 := by
      have := List.length_pos_iff.2 hs.2.ne_nil
      unfold degree at h1; omega
    rcases hs.2 with h | ⟨c, r, rfl, hc⟩
    · rw [h] at hlen; simp at hlen
    · have hr : r.length = 1 := by simpa using hlen
      have : getCoefficient (c :: r) 1 = .ok c := by
        simp [getCoefficient, hr]
      simp only [h1, if_true, this, liftD, bind, Except.bind]
      refine ⟨[c], rfl, ?_⟩
      intro x hx
      simp at hx
      rw [hx]
      exact ⟨hc, hs.1.head⟩
  · simp only [h1, if_false]
    have hcands : NZ F.size (List.range' 1 (F.size - 1)) := by
      intro x hx
      have := List.mem_range'_1.1 hx
      constructor <;> omega
    obtain ⟨res, hres, hnz⟩ := chien_total hF sigma hs (degree sigma) _ [] hcands (fun x hx => by simp at hx)
    simp only [hres, liftD, bind, Except.bind]
    by_cases hl : res.length ≠ degree sigma
    · right
      refine ⟨.rootCount, ?_, rfl⟩
      simp [hl, throw, throwThe, MonadExceptOf.throw]
    · left
      refine ⟨res, ?_, hnz⟩
      simp [hl]

theorem errorMagnitude_total (omega : List Nat) (ho : WF F.size omega) (locs : List Nat) (hl : InR F.size locs)
    (i xi : Nat) (hxi0 : xi ≠ 0) (hxi : xi < F.size) :
    (∃ m, errorMagnitude F omega locs i xi = .ok m ∧ m < F.size) ∨
    errorMagnitude F omega locs i xi = .error .illegalArg := by
  rw [errorMagnitude_eq hF omega ho locs hl i xi hxi0 hxi]
  split
  · exact Or.inr rfl
  · refine Or.inl ⟨_, rfl, ?_⟩
    split <;> exact gmul_lt hF.2 _ _

theorem magLoop_total (omega : List Nat) (ho : WF F.size omega) (locs : List Nat) (hl : InR F.size locs) :
    ∀ (rest : List Nat) (i : Nat), NZ F.size rest →
    (∃ ms, magLoop F omega locs rest i = .ok ms ∧ InR F.size ms ∧ ms.length = rest.length) ∨
    magLoop F omega locs rest i = .error .illegalArg
  | [], _, _ => Or.inl ⟨[], rfl, InR.nil, rfl⟩
  | xi :: rest, i, hr => by
    have hxi := hr xi (by simp)
    unfold magLoop
    rcases errorMagnitude_total hF omega ho locs hl i xi hxi.1 hxi.2 with ⟨m, hm, hmlt⟩ | he
    · rcases magLoop_total omega ho locs hl rest (i + 1) (fun x hx => hr x (List.mem_cons_of_mem _ hx)) with
        ⟨ms, hms, hmsin, hmslen⟩ | he
      · left
        refine ⟨m :: ms, ?_, InR.cons hmlt hmsin, by simp [hmslen]⟩
        simp only [hm, hms, bind, Except.bind]
      · right
        simp only [hm, he, bind, Except.bind]
    · right
      simp only [he, bind, Except.bind]

theorem applyCorrections_total : ∀ (locs ms w : List Nat), NZ F.size locs → InR F.size ms →
    ms.length = locs.length → InR F.size w →
    (∃ w', applyCorrections F locs ms w = .ok w' ∧ InR F.size w' ∧ w'.length = w.length) ∨
    (∃ e, applyCorrections F locs ms w = .error e ∧ Benign e)
  | [], _, w, _, _, _, hw => Or.inl ⟨w, by unfold applyCorrections; rfl, hw, rfl⟩
  | _ :: _, [], _, _, _, hlen, _ => by simp at hlen
  | loc :: locs, m :: ms, w, hl, hm, hlen, hw => by
    have ok := hF.2
    have hloc := hl loc (by simp)
    obtain ⟨lg, hlg, _⟩ := F_log hF loc hloc.1 hloc.2
    unfold applyCorrections
    simp only [hlg, liftD, bind, Except.bind]
    by_cases hbad : w.length < lg + 1
    · right
      refine ⟨.badLocation, ?_, rfl⟩
      simp [hbad, throw, throwThe, MonadExceptOf.throw]
    · have hpos : w.length - 1 - lg < w.length := by omega
      have hget : w[w.length - 1 - lg]? = some w[w.length - 1 - lg] := List.getElem?_eq_getElem hpos
      simp only [hbad, if_false, hget]
      have hv : w[w.length - 1 - lg] < F.size := hw _ (List.getElem_mem hpos)
      have hw' : InR F.size (w.set (w.length - 1 - lg) (w[w.length - 1 - lg] ^^^ m)) := by
        intro y hy
        rcases List.mem_or_eq_of_mem_set hy with h | h
        · exact hw y h
        · rw [h]; exact xor_lt_size ok _ _ hv hm.head
      rcases applyCorrections_total locs ms _ (fun x hx => hl x (List.mem_cons_of_mem _ hx)) hm.tail
        (by simpa using hlen) hw' with ⟨w'', h1, h2, h3⟩ | ⟨e, h1, h2⟩
      · left
        exact ⟨w'', h1, h2, by rw [h3, List.length_set]⟩
      · right
        exact ⟨e, h1, h2⟩

/-- `Decode` on an in-range word never panics and never runs out of fuel -/
theorem decodeD_total (w : List Nat) (hne : w ≠ []) (hw : InR F.size w) (twoS : Nat)
    (hb : twoS + F.base ≤ F.size) :
    (∃ w', decodeD F w twoS = .ok w' ∧ InR F.size w' ∧ w'.length = w.length) ∨
    (∃ e, decodeD F w twoS = .error e ∧ Benign e) := by
  have ok := hF.2
  rw [decodeD_eq hF w hne hw twoS hb]
  have hsin := syndList_inR hF w hw twoS
  by_cases hall : (syndList F w twoS).all (· == 0) = true
  · left
    rw [if_pos hall]
    exact ⟨w, rfl, hw, rfl⟩
  · rw [if_neg hall]
    have hswf : WF F.size (normalize (syndList F w twoS).reverse) :=
      wf_normalize (size_pos hF) _ (fun x hx => hsin x (by simpa using hx))
    have hmwf : WF F.size (1 :: List.replicate twoS 0) :=
      ⟨InR.cons (one_lt_size ok) (InR.replicate (size_pos hF)), Or.inr ⟨1, _, rfl, by decide⟩⟩
    simp only [bind, Except.bind, liftD]
    rcases runEuclid_total hF _ _ hmwf hswf twoS with ⟨sigma, omega, hrun, hsig, hom⟩ | ⟨e, hrun, he⟩
    · rw [hrun]
      simp only
      rcases findErrorLocations_total hF sigma hsig with ⟨locs, hlocs, hnz⟩ | ⟨e, hlocs, he⟩
      · rw [hlocs]
        simp only
        have hlin : InR F.size locs := fun x hx => (hnz x hx).2
        rcases magLoop_total hF omega hom locs hlin locs 0 hnz with ⟨ms, hms, hmsin, hmslen⟩ | hms
        · have : findErrorMagnitudes F omega locs = .ok ms := hms
          rw [this]
          simp only
          exact applyCorrections_total hF locs ms w hnz hmsin hmslen hw
        · right
          have : findErrorMagnitudes F omega locs = .error .illegalArg := hms
          rw [this]
          exact ⟨.base .illegalArg, rfl, rfl⟩
      · right
        rw [hlocs]
        exact ⟨e, rfl, he⟩
    · right
      rw [hrun]
      exact ⟨e, rfl, he⟩

end F
end Gzx.Proofs.Total
