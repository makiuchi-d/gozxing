/-
  wp `qrenc` — GENERAL proof that the coded zig-zag loop of `embedDataBits` (with its `x == 6` skip and direction
  flips) visits the modules in the standard's placement order `QRRef.zigzagAll n`, for every odd side `n ≥ 9`
  (hence for every version number, not only 1..40).
-/
import Gzx.Proofs.QREncOrderDefs
import Gzx.Proofs.QRZigzag
namespace Gzx.QREnc
open Gzx Gzx.QRRef

def pairCells (x : Int) (ys : List Nat) : List (Int × Int) :=
  ys.flatMap (fun (y : Nat) => [(x, (y : Int)), (x - 1, (y : Int))])

/-- upward column: from `y = k - 1` down to 0 -/
theorem col_up (H x : Int) : ∀ (k : Nat), (k : Int) ≤ H → ∀ fuel, k + 1 ≤ fuel →
    columnCells H x (-1) fuel ((k : Int) - 1) = some (pairCells x (List.range k).reverse, -1) := by
  intro k
  induction k with
  | zero =>
    intro _ fuel hf
    cases fuel with
    | zero => omega
    | succ f =>
      unfold columnCells
      have : ¬ (((0 : Nat) : Int) - 1 ≥ 0 ∧ ((0 : Nat) : Int) - 1 < H) := by omega
      rw [if_neg this]
      simp [pairCells]
  | succ k ih =>
    intro hk fuel hf
    cases fuel with
    | zero => omega
    | succ f =>
      unfold columnCells
      have hy : (((k + 1 : Nat) : Int) - 1 ≥ 0 ∧ ((k + 1 : Nat) : Int) - 1 < H) := by omega
      rw [if_pos hy]
      have hstep : ((k + 1 : Nat) : Int) - 1 + -1 = (k : Int) - 1 := by omega
      rw [hstep, ih (by omega) f (by omega)]
      simp only [pairCells, List.range_succ, List.reverse_append, List.reverse_cons, List.reverse_nil, List.nil_append,
        List.singleton_append, List.flatMap_cons, Option.some.injEq, Prod.mk.injEq, and_true]
      have : ((k + 1 : Nat) : Int) - 1 = (k : Int) := by omega
      rw [this]
      rfl

/-- downward column: from `y = n - k` up to `n - 1` -/
theorem col_down (n : Nat) (x : Int) : ∀ (k : Nat), k ≤ n → ∀ fuel, k + 1 ≤ fuel →
    columnCells (n : Int) x 1 fuel ((n - k : Nat) : Int) = some (pairCells x (List.range' (n - k) k), (n : Int)) := by
  intro k
  induction k with
  | zero =>
    intro _ fuel hf
    cases fuel with
    | zero => omega
    | succ f =>
      unfold columnCells
      have : ¬ (((n - 0 : Nat) : Int) ≥ 0 ∧ ((n - 0 : Nat) : Int) < (n : Int)) := by omega
      rw [if_neg this]
      simp [pairCells]
  | succ k ih =>
    intro hk fuel hf
    cases fuel with
    | zero => omega
    | succ f =>
      unfold columnCells
      have hy : (((n - (k + 1) : Nat) : Int) ≥ 0 ∧ ((n - (k + 1) : Nat) : Int) < (n : Int)) := by omega
      rw [if_pos hy]
      have hstep : ((n - (k + 1) : Nat) : Int) + 1 = ((n - k : Nat) : Int) := by omega
      rw [hstep, ih (by omega) f (by omega)]
      have hr : List.range' (n - (k + 1)) (k + 1) = (n - (k + 1)) :: List.range' (n - k) k := by
        have : n - (k + 1) + 1 = n - k := by omega
        rw [List.range'_succ, this]
      rw [hr]
      simp [pairCells]

theorem columnPair_cast (n xr : Nat) (hx : 0 < xr) (up : Bool) :
    (columnPair n xr up).map (fun c => ((c.1 : Int), (c.2 : Int))) =
      pairCells (xr : Int) (if up then (List.range n).reverse else List.range n) := by
  unfold columnPair pairCells
  rw [List.map_flatMap]
  congr 1
  funext y
  simp only [List.map_cons, List.map_nil]
  have : ((xr - 1 : Nat) : Int) = (xr : Int) - 1 := by omega
  rw [this]

/-- x before the `if x == 6` adjustment of iteration `k` -/
def xBefore (n k : Nat) : Int := if 2 * k + 7 ≤ n then (n : Int) - 1 - 2 * k else (n : Int) - 2 - 2 * k

theorem outer_from (n : Nat) (hodd : n % 2 = 1) (h9 : 9 ≤ n) :
    ∀ (r k : Nat), k + r = (n - 1) / 2 → ∀ fuel, r + 1 ≤ fuel →
      outerCells (n : Int) fuel (xBefore n k) (if k % 2 = 0 then (n : Int) - 1 else 0) (if k % 2 = 0 then -1 else 1) =
        some ((List.range' k r).flatMap (fun j =>
          (columnPair n (pairColumn n j) (j % 2 == 0)).map (fun c => ((c.1 : Int), (c.2 : Int))))) := by
  intro r
  induction r with
  | zero =>
    intro k hk fuel hf
    cases fuel with
    | zero => omega
    | succ f =>
      unfold outerCells
      have hx : ¬ (xBefore n k > 0) := by unfold xBefore; split <;> omega
      rw [if_neg hx]
      simp
  | succ r ih =>
    intro k hk fuel hf
    cases fuel with
    | zero => omega
    | succ f =>
      unfold outerCells
      have hx : xBefore n k > 0 := by unfold xBefore; split <;> omega
      rw [if_pos hx]
      simp only
      have hpc : (if xBefore n k = 6 then xBefore n k - 1 else xBefore n k) = ((pairColumn n k : Nat) : Int) := by
        unfold xBefore pairColumn
        split <;> split <;> split <;> omega
      have hpos : 0 < pairColumn n k := pairColumn_pos hodd (by omega)
      rw [hpc]
      have hnext : ((pairColumn n k : Nat) : Int) - 2 = xBefore n (k + 1) := by
        unfold xBefore pairColumn
        split <;> split <;> omega
      have htoNat : ((n : Int).toNat + 1) = n + 1 := by omega
      rw [htoNat, List.range'_succ, List.flatMap_cons]
      by_cases hev : k % 2 = 0
      · -- upward column
        simp only [hev, if_true]
        have hcol := col_up (n : Int) ((pairColumn n k : Nat) : Int) n (by omega) (n + 1) (by omega)
        rw [hcol]
        simp only
        have hk1 : (k + 1) % 2 = 1 := by omega
        have hih := ih (k + 1) (by omega) f (by omega)
        have hne : ¬ ((k + 1) % 2 = 0) := by omega
        simp only [hne, if_false] at hih
        have e1 : (-1 : Int) + - -1 = 0 := by omega
        have e2 : (- (-1 : Int)) = 1 := by omega
        rw [hnext, e1, e2, hih]
        simp only [Option.some.injEq]
        congr 1
        rw [columnPair_cast n _ hpos]
        simp
      · -- downward column
        simp only [hev, if_false]
        have hcol := col_down n ((pairColumn n k : Nat) : Int) n (Nat.le_refl _) (n + 1) (by omega)
        have h0 : ((n - n : Nat) : Int) = 0 := by omega
        rw [h0] at hcol
        rw [hcol]
        simp only
        have hih := ih (k + 1) (by omega) f (by omega)
        have hev1 : (k + 1) % 2 = 0 := by omega
        simp only [hev1, if_true] at hih
        have e1 : (n : Int) + -1 = (n : Int) - 1 := by omega
        rw [hnext, e1, hih]
        simp only [Option.some.injEq]
        congr 1
        rw [columnPair_cast n _ hpos]
        have : (k % 2 == 0) = false := by simp [hev]
        simp [this, List.range_eq_range']

theorem visitOrder_eq (n : Nat) (hodd : n % 2 = 1) (h9 : 9 ≤ n) :
    visitOrder (n : Int) (n : Int) = some (refOrder n) := by
  unfold visitOrder
  have h := outer_from n hodd h9 ((n - 1) / 2) 0 (by omega) ((n : Int).toNat + 1) (by omega)
  have hx : xBefore n 0 = (n : Int) - 1 := by unfold xBefore; split <;> omega
  simp only [Nat.zero_mod, if_true] at h
  rw [hx] at h
  rw [h]
  unfold refOrder zigzagAll
  rw [List.map_flatMap, List.range_eq_range']

theorem orderOK_all (v : Nat) : OrderOK v := by
  unfold OrderOK
  exact visitOrder_eq (dimension v) (odd_dimension v) (dimension_ge v)

end Gzx.QREnc
