/-
  C02: towards the EDIFACT encoder as a WHOLE CALL (Proofs/DMEdifactCall.lean): what the rest of the message needs in
  ASCII, the unlatch forms behind complete quadruples as the decoder reads them (`segReads_edi_*`), and the ways the
  call can end (`EdiEnd` without a prefix, `EdiPost` behind one).
-/
import Gzx.Proofs.DMEdifact
import Gzx.Proofs.DMMidstream
import Gzx.Proofs.DMC40
namespace Gzx.DMHighLevel

/-! ## helpers -/

theorem writeQuads_split : ∀ l : List Nat,
    ∃ k, 4 * k ≤ l.length ∧ l.length < 4 * k + 4 ∧ (writeQuads l).1 = (writeQuads (l.take (4 * k))).1 ∧
      (writeQuads l).2 = l.drop (4 * k)
  | [] => ⟨0, by simp, by simp, rfl, rfl⟩
  | [_] => ⟨0, by simp, by simp, rfl, rfl⟩
  | [_, _] => ⟨0, by simp, by simp, rfl, rfl⟩
  | [_, _, _] => ⟨0, by simp, by simp, rfl, rfl⟩
  | a :: b :: c :: d :: r => by
    obtain ⟨k, h1, h2, h3, h4⟩ := writeQuads_split r
    have e : 4 * (k + 1) = 4 * k + 1 + 1 + 1 + 1 := by omega
    refine ⟨k + 1, by simp only [List.length_cons]; omega, by simp only [List.length_cons]; omega, ?_, ?_⟩
    · rw [e]
      simp only [List.take_succ_cons, writeQuads_cons4, h3]
    · rw [e]
      simp only [List.drop_succ_cons, writeQuads_cons4, h4]

theorem asciiNeed_eq (l : List Nat) : asciiNeed l = l.length + (l.filter isExtended).length := by
  induction l with
  | nil => rfl
  | cons c cs ih =>
    simp only [asciiNeed, ih, List.length_cons, List.filter_cons]
    by_cases hc : isExtended c = true
    · simp only [hc, if_true, List.length_cons]; omega
    · simp only [hc, if_false, Bool.false_eq_true]; omega

theorem asciiNeed_native (l : List Nat) (h : ∀ x ∈ l, isNativeEDIFACT x = true) : asciiNeed l = l.length := by
  induction l with
  | nil => rfl
  | cons c cs ih =>
    have hc := (ediVal_facts c (h c (by simp))).2.2.2.2
    have : isExtended c = false := by simp [isExtended]; omega
    simp only [asciiNeed, this, List.length_cons, ih (fun x hx => h x (by simp [hx]))]
    simp; omega

theorem edifactRestNeed_spec {c : Ctx} {r : Nat} (h : edifactRestNeed c = .ok r) :
    (c.remaining ≤ 2 → r = asciiNeed c.rest) ∧ (2 < c.remaining → r = c.remaining) := by
  unfold edifactRestNeed at h
  simp only at h
  split at h
  · rename_i h2
    split at h
    · cases h
      refine ⟨fun _ => ?_, fun h3 => by omega⟩
      rw [asciiNeed_eq]
      have hlen : c.rest.length = c.remaining := by
        unfold Ctx.rest
        rw [List.length_take, List.length_drop]
        omega
      unfold Ctx.rest at hlen ⊢
      rw [hlen]
    · cases h
  · rename_i h2
    cases h
    exact ⟨fun h3 => by omega, fun _ => rfl⟩

/-- an EDIFACT segment behind its latch (at offset `off`): the complete quadruples of `chars`, then `tailcw` on which the
    segment decoder stops having appended `last` -/
theorem segReads_edifact (T : Tables) (off k : Nat) (chars : List Nat) (hl : chars.length = 4 * k)
    (hn : ∀ c ∈ chars, isNativeEDIFACT c = true) (tailcw last : List Nat) (K : List Nat → Prop)
    (hseg : ∀ suf, K suf → ∀ (b : Acc) (n : Nat),
      edifactSeg (tailcw ++ suf) b n = (b.pushAll last, n + tailcw.length)) :
    SegReads T K off 240 ((writeQuads (chars.map ediVal)).1 ++ tailcw) (chars ++ last) :=
  SegReads.of_pushAll (by simpa only [pushAll_append] using reads_edifact T off k chars hl hn tailcw last K hseg)

/-- closed by nothing: at most two codewords follow and are read in ASCII -/
theorem segReads_edi_open (T : Tables) (off k : Nat) (chars : List Nat) (hl : chars.length = 4 * k)
    (hn : ∀ c ∈ chars, isNativeEDIFACT c = true) :
    SegReads T (fun s => s.length ≤ 2) off 240 (writeQuads (chars.map ediVal)).1 chars := by
  have := segReads_edifact T off k chars hl hn [] [] (fun s => s.length ≤ 2) (fun suf hs b n => by
    simp only [List.nil_append, edifactSeg_short suf b n hs, Acc.pushAll, List.length_nil, Nat.add_zero])
  simpa using this

/-- the four unlatch forms after complete quadruples: the unlatch alone is read as such if at least two more bytes
    follow, one character + unlatch if at least one more follows, two or three characters + unlatch always -/
theorem segReads_edi_closed1 (T : Tables) (off k : Nat) (chars : List Nat) (hl : chars.length = 4 * k)
    (hn : ∀ c ∈ chars, isNativeEDIFACT c = true) :
    SegReads T (fun s => 2 ≤ s.length ∧ ∀ x ∈ s, x < 256) off 240
      ((writeQuads (chars.map ediVal)).1 ++ edifactPack [31]) chars := by
  have := segReads_edifact T off k chars hl hn (edifactPack [31]) [] (fun s => 2 ≤ s.length ∧ ∀ x ∈ s, x < 256)
    (fun suf hs b n => by
      match suf, hs with
      | x :: y :: rest, ⟨_, hb⟩ => exact edifactSeg_unlatch1 x y (hb x (by simp)) (hb y (by simp)) rest b n)
  simpa using this

theorem segReads_edi_closed2 (T : Tables) (off k : Nat) (chars : List Nat) (hl : chars.length = 4 * k)
    (hn : ∀ c ∈ chars, isNativeEDIFACT c = true) (c1 : Nat) (h1 : isNativeEDIFACT c1 = true) :
    SegReads T (fun s => 1 ≤ s.length ∧ ∀ x ∈ s, x < 256) off 240
      ((writeQuads (chars.map ediVal)).1 ++ edifactPack [ediVal c1, 31]) (chars ++ [c1]) :=
  segReads_edifact T off k chars hl hn _ _ _ (fun suf hs b n => by
    match suf, hs with
    | z :: rest, ⟨_, hb⟩ =>
      have := edifactSeg_unlatch2 c1 h1 z (hb z (by simp)) rest b n
      simpa [edifactPack, Acc.pushAll, edifactWord] using this)

theorem segReads_edi_closed3 (T : Tables) (off k : Nat) (chars : List Nat) (hl : chars.length = 4 * k)
    (hn : ∀ c ∈ chars, isNativeEDIFACT c = true) (c1 c2 : Nat) (h1 : isNativeEDIFACT c1 = true)
    (h2 : isNativeEDIFACT c2 = true) :
    SegReads T (fun _ => True) off 240
      ((writeQuads (chars.map ediVal)).1 ++ edifactPack [ediVal c1, ediVal c2, 31]) (chars ++ [c1, c2]) :=
  segReads_edifact T off k chars hl hn _ _ _ (fun suf _ b n => by
    have := edifactSeg_unlatch3 c1 c2 h1 h2 suf b n
    simpa [edifactPack, Acc.pushAll, edifactWord] using this)

theorem segReads_edi_closed4 (T : Tables) (off k : Nat) (chars : List Nat) (hl : chars.length = 4 * k)
    (hn : ∀ c ∈ chars, isNativeEDIFACT c = true) (c1 c2 c3 : Nat) (h1 : isNativeEDIFACT c1 = true)
    (h2 : isNativeEDIFACT c2 = true) (h3 : isNativeEDIFACT c3 = true) :
    SegReads T (fun _ => True) off 240
      ((writeQuads (chars.map ediVal)).1 ++ edifactPack [ediVal c1, ediVal c2, ediVal c3, 31])
      (chars ++ [c1, c2, c3]) :=
  segReads_edifact T off k chars hl hn _ _ _ (fun suf _ b n => by
    have := edifactSeg_unlatch4 c1 c2 c3 h1 h2 h3 suf b n
    simpa [edifactPack, Acc.pushAll, edifactWord] using this)

/-! ## the whole call -/

/-- what is known right after the one-codeword unlatch has been written (`c'.count` includes it): the symbol `s`
    current at that moment holds the unlatch, and it has two more codewords, or is exactly full, or has one more and
    the rest of the message needs more than two codewords in ASCII -/
def MidFacts (c' : Ctx) : Prop :=
  ∃ s, c'.sym = some s ∧ c'.count ≤ s.cap ∧
    (c'.count + 2 ≤ s.cap ∨ s.cap = c'.count ∨
      (s.cap = c'.count + 1 ∧ (2 < c'.remaining ∨ 2 < asciiNeed c'.rest)))

theorem MidFacts.congr {c d : Ctx} (h : MidFacts c) (h1 : d.sym = c.sym) (h2 : d.count = c.count) (h3 : d.msg = c.msg)
    (h4 : d.pos = c.pos) (h5 : d.skipAtEnd = c.skipAtEnd) : MidFacts d := by
  obtain ⟨s, hs, hc, hcase⟩ := h
  have hr : d.remaining = c.remaining := by simp [Ctx.remaining, Ctx.total, h3, h4, h5]
  have hrest : d.rest = c.rest := by simp [Ctx.rest, Ctx.remaining, Ctx.total, h3, h4, h5]
  exact ⟨s, by rw [h1]; exact hs, by rw [h2]; exact hc, by rw [h2, hr, hrest]; exact hcase⟩

/-- the ways a whole call of the EDIFACT encoder (entry context `c`, result `c'`) can end, in terms of what the decoder
    reads behind the latch 240 at offset `off`: the cases of `EdiPost` below, without a prefix -/
inductive EdiEnd (T : Tables) (syms : List SymbolInfo) (off : Nat) (c c' : Ctx) (ws chars : List Nat) : Prop where
  | closed : SegReads T (fun _ => True) off 240 ws chars → c'.hasMore = false → EdiEnd T syms off c c' ws chars
  | tail (k : Nat) : k ≤ 2 → SegReads T (fun s => s.length ≤ k) off 240 ws chars →
      (∃ s, c'.sym = some s ∧ s.cap = c'.count + k) → asciiNeed c'.rest ≤ k → EdiEnd T syms off c c' ws chars
  | rewound : SegReads T (fun s => s.length ≤ 2) off 240 ws chars → c'.sym = none → c'.remaining ≤ 2 →
      (∀ x ∈ c'.rest, isNativeEDIFACT x = true) →
      (∃ c2 s, ({ c' with sym := c.sym } : Ctx).update syms (c'.count + c'.remaining) = .ok c2 ∧ c2.sym = some s ∧
        s.cap ≤ c'.count + 2) → EdiEnd T syms off c c' ws chars
  | endpad (j : Nat) : j ≤ 2 → SegReads T (fun s => j ≤ s.length ∧ ∀ x ∈ s, x < 256) off 240 ws chars →
      c'.hasMore = false → (∃ s, c'.sym = some s ∧ c'.count + j ≤ s.cap) → EdiEnd T syms off c c' ws chars
  | mid (kq : Nat) : SegReads T (fun s => 2 ≤ s.length ∧ ∀ x ∈ s, x < 256) off 240 ws chars → c'.hasMore = true →
      c.pos < c'.pos → chars.length = 4 * kq → 1 ≤ kq → (∀ x ∈ chars, isNativeEDIFACT x = true) →
      ws = (writeQuads (chars.map ediVal)).1 ++ [124] → MidFacts c' → EdiEnd T syms off c c' ws chars

/-- the states a whole call of the EDIFACT encoder can end in (entry context `c`, result `c'`) -/
inductive EdiPost (T : Tables) (syms : List SymbolInfo) (c c' : Ctx) (a' : Acc) : Prop where
  /-- unlatch written inside full codewords (two or three buffered characters): decoder back in ASCII, whatever follows -/
  | closed : DecFrom T 0 c'.cw a' → EdiPost T syms c c' a'
  /-- no unlatch: the symbol has `k ≤ 2` codewords left and the rest of the message fits there in ASCII -/
  | tail (k : Nat) : k ≤ 2 → Tail T c' a' k → EdiPost T syms c c' a'
  /-- end of message with one or two buffered characters and fewer than three codewords left: nothing written for
      them, position rewound, symbol forgotten; the symbol UpdateSymbolInfoByLength picks for them has at most two
      codewords behind the last quadruple -/
  | rewound : DecK T c'.cw a' 2 → c'.sym = none → c'.remaining ≤ 2 → (∀ x ∈ c'.rest, isNativeEDIFACT x = true) →
      (∃ c2 s, ({ c' with sym := c.sym } : Ctx).update syms (c'.count + c'.remaining) = .ok c2 ∧ c2.sym = some s ∧
        s.cap ≤ c'.count + 2) → EdiPost T syms c c' a'
  /-- end of message, unlatch written in one or two codewords: read as unlatch because the symbol has at least
      `j` more codewords (padding) -/
  | endpad (j : Nat) : j ≤ 2 → DecFrom T j c'.cw a' → c'.hasMore = false →
      (∃ s, c'.sym = some s ∧ c'.count + j ≤ s.cap) → EdiPost T syms c c' a'
  /-- the look-ahead left EDIFACT in mid-stream and the one-codeword unlatch 124 was written: read as unlatch iff
      at least two more codewords follow in the FINAL symbol -/
  | mid : DecFrom T 2 c'.cw a' → c'.hasMore = true → c.pos < c'.pos → EdiPost T syms c c' a'

end Gzx.DMHighLevel
