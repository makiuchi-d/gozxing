/-
  The model's Euclidean algorithm (Model/RS.lean `euclidLoop`; its inner division loop is `divLoop_spec` of
  Proofs/RS.lean): what one pass computes (`euclidLoop_step`), and the invariant at the level of coefficient
  sequences: every remainder/cofactor pair satisfies `t·S ≡ r (mod x^R)`, and `deg t + deg rLast = R`.  Helper lemmas for Properties/C04.lean.
-/
import Gzx.Proofs.Coef
import Gzx.Proofs.RS
namespace Gzx.Proofs.Euclid
open Gzx Gzx.GF Gzx.RS Gzx.Ref.GF Gzx.Proofs.GF Gzx.Proofs.Poly Gzx.Proofs.Conv Gzx.Proofs.Coef
  Gzx.Proofs.RS

section F
variable {F : GF} (hF : FieldOK F)
include hF

theorem multiply_len (ph : Nat) (pt : List Nat) (qh : Nat) (qt : List Nat) (hp : InR F.size (ph :: pt))
    (hq : InR F.size (qh :: qt)) (hph : ph ≠ 0) (hqh : qh ≠ 0) (r : List Nat)
    (h : multiply F (ph :: pt) (qh :: qt) = .ok r) :
    r.length = pt.length + qt.length + 1 ∧ r ≠ [0] := by
  obtain ⟨r', hr', _, _, hshape⟩ := multiply_spec hF _ _ ⟨hp, Or.inr ⟨ph, pt, rfl, hph⟩⟩ ⟨hq, Or.inr ⟨qh, qt, rfl, hqh⟩⟩
  obtain rfl : r' = r := Except.ok.inj (hr'.symm.trans h)
  obtain ⟨hlen, hhead⟩ := hshape ph pt qh qt rfl rfl hph hqh
  refine ⟨by simp only [List.length_cons] at hlen; omega, fun h0 => ?_⟩
  rw [h0] at hhead
  exact gmul_ne_zero hF.2 _ _ hp.head hq.head hph hqh (Option.some.inj hhead).symm

/-- invariant of the outer loop of `runEuclideanAlgorithm` for the syndrome sequence `S` modulo `x^R` -/
structure Inv (F : GF) (R : Nat) (S : Nat → Nat) (rLast r tLast t : List Nat) : Prop where
  wf1 : WF F.size rLast
  wf2 : WF F.size r
  wf3 : WF F.size tLast
  wf4 : WF F.size t
  /-- cofactors multiply the syndromes to the remainders modulo x^R -/
  c1 : ∀ m, m < R → conv F.prim (coef tLast) S m = coef rLast m
  c2 : ∀ m, m < R → conv F.prim (coef t) S m = coef r m
  /-- the degree of the cofactor and of the previous remainder add up to R -/
  d1 : degree t + degree rLast = R
  d2 : degree r < degree rLast
  /-- so that the next cofactor q·t + tLast takes the degree of q·t -/
  d3 : tLast = [0] ∨ degree tLast < degree t
  /-- the loop test held when this step was entered: with `d1` it bounds deg t by R/2 -/
  d4 : 2 * degree rLast ≥ R
  /-- t has a non-zero leading coefficient to split off -/
  d5 : t ≠ [0]

omit hF in
theorem wf_cons_of_ne_zero {size : Nat} {p : List Nat} (hp : WF size p) (h : p ≠ [0]) :
    ∃ c t, p = c :: t ∧ c ≠ 0 := hp.2.resolve_left h

/-- One pass of the outer loop on a non-zero remainder `r = lh :: lt` that still fails the stop test: the division
    `rLast = q·r + r'`, the product `qt = q·t`, the new cofactor `t' = qt + tLast`; the loop goes on with
    `(r, r', t, t')` unless the new remainder is a constant like `r`, which Go reports as an illegal state. -/
theorem euclidLoop_step (R : Nat) (rLast : List Nat) (lh : Nat) (lt tLast t : List Nat) (hrLast : WF F.size rLast)
    (hr : WF F.size (lh :: lt)) (hlh : lh ≠ 0) (htLast : WF F.size tLast) (ht : WF F.size t)
    (hcond : 2 * degree (lh :: lt) ≥ R) (fuel : Nat) :
    ∃ q r' qt t', WF F.size q ∧ WF F.size r' ∧ WF F.size qt ∧ WF F.size t' ∧
      (r'.length < (lh :: lt).length ∨ r' = [0]) ∧
      (∀ m, coef r' m = coef rLast m ^^^ conv F.prim (coef q) (coef (lh :: lt)) m) ∧
      ((q = [0] ∧ r' = rLast) ∨ q.length + (lh :: lt).length = rLast.length + 1) ∧
      multiply F q t = .ok qt ∧ addOrSubtract qt tLast = .ok t' ∧
      euclidLoop F R (fuel + 1) rLast (lh :: lt) tLast t =
        if degree r' ≥ degree (lh :: lt) then .error .illegalState else euclidLoop F R fuel (lh :: lt) r' t t' := by
  obtain ⟨u, hinv, hu, _, hmul⟩ := F_inv hF lh hlh hr.1.head
  obtain ⟨q, r', hdiv, hqwf, hr'wf, hr'len, hr'coef, _, hqshape⟩ := divLoop_spec hF lh lt hr u hu hmul rLast hrLast
  obtain ⟨qt, hqt, hqtwf, _, _⟩ := multiply_spec hF q t hqwf ht
  obtain ⟨t', ht', ht'wf, _, _⟩ := addOrSubtract_spec hF qt tLast hqtwf htLast
  refine ⟨q, r', qt, t', hqwf, hr'wf, hqtwf, ht'wf, hr'len, hr'coef, hqshape, hqt, ht', ?_⟩
  simp only [euclidLoop, if_pos hcond, isZero_false hlh, getCoefficient_lead, hinv, euclidDivLoop_eq_divLoop, hdiv,
    hqt, ht', liftD, bind, Except.bind, Bool.false_eq_true, if_false]
  by_cases hdeg : degree r' ≥ degree (lh :: lt)
  · simp only [hdeg, if_true, throw, throwThe, MonadExceptOf.throw]
  · simp only [hdeg, if_false]

theorem euclidLoop_inv (R : Nat) (hR : 1 ≤ R) (S : Nat → Nat) (hS : ∀ j, S j < F.size) (fuel : Nat) :
    ∀ (rLast r tLast t : List Nat), Inv F R S rLast r tLast t → r.length + 1 ≤ fuel →
    ∃ rLast' r' tLast' t', euclidLoop F R fuel rLast r tLast t = .ok (t', r') ∧
      Inv F R S rLast' r' tLast' t' ∧ 2 * degree r' < R := by
  have ok := hF.2
  induction fuel with
  | zero => intro _ r _ _ _ hfuel; omega
  | succ fuel ih =>
    intro rLast r tLast t hI hfuel
    by_cases hcond : 2 * degree r ≥ R
    · -- `r` and `t` are non-zero, `rLast` is non-empty: degrees become lengths of tails
      have hne0 : r ≠ [0] := fun h => by
        subst h; exact absurd hcond (by show ¬ 2 * 0 ≥ R; omega)
      obtain ⟨lh, lt, rfl, hlh⟩ := wf_cons_of_ne_zero hI.wf2 hne0
      obtain ⟨th, tt, rfl, hth⟩ := wf_cons_of_ne_zero hI.wf4 hI.d5
      obtain ⟨a, as, rfl⟩ := List.exists_cons_of_ne_nil hI.wf1.2.ne_nil
      have hlt : 2 * lt.length ≥ R := hcond
      have hd1 : tt.length + as.length = R := hI.d1
      have hd2 : lt.length < as.length := hI.d2
      obtain ⟨q, r', qt, t', hqwf, hr'wf, hqtwf, ht'wf, hr'len, hr'coef, hqshape, hqt, ht', hstep⟩ :=
        euclidLoop_step hF R (a :: as) lh lt tLast (th :: tt) hI.wf1 hI.wf2 hlh hI.wf3 hI.wf4 hcond fuel
      -- a division step was taken, `rLast` being longer than `r`: deg q = deg rLast - deg r ≥ 1
      have hqlen : q.length + (lh :: lt).length = (a :: as).length + 1 := by
        refine hqshape.resolve_left fun h => ?_
        rw [h.2] at hr'len
        rcases hr'len with h' | h'
        · simp only [List.length_cons] at h'; omega
        · rw [(List.cons.inj h').2] at hd2; simp at hd2
      have hqlen' : q.length + lt.length = as.length + 1 := by
        simp only [List.length_cons] at hqlen; omega
      have hq0 : q ≠ [0] := fun h => by
        rw [h, List.length_cons, List.length_nil] at hqlen'; omega
      obtain ⟨qh, qt', rfl, hqh⟩ := wf_cons_of_ne_zero hqwf hq0
      rw [List.length_cons] at hqlen'
      obtain ⟨hqtlen, hqt0⟩ := multiply_len hF qh qt' th tt hqwf.1 hI.wf4.1 hqh hth qt hqt
      -- deg (q·t) > deg tLast, so the new cofactor has the degree of `q·t`
      have htLastlen : tLast.length < qt.length := by
        rcases hI.d3 with h | h
        · rw [h, hqtlen, List.length_cons, List.length_nil]; omega
        · have h' : tLast.length - 1 < tt.length := h
          omega
      have ht'len := addOrSubtract_len_gt qt tLast t' hqtwf.2 hI.wf3.2 htLastlen ht'
      rw [hqtlen] at ht'len
      have hr'deg : degree r' < lt.length := by
        rcases hr'len with h | h
        · have := List.length_pos_iff.2 hr'wf.2.ne_nil
          rw [List.length_cons] at h
          unfold degree; omega
        · rw [h]; show 0 < lt.length; omega
      have hdeg' : ¬ degree r' ≥ degree (lh :: lt) := Nat.not_le.2 hr'deg
      rw [hstep, if_neg hdeg']
      have hI' : Inv F R S (lh :: lt) r' (th :: tt) t' := by
        refine ⟨hI.wf2, hr'wf, hI.wf4, ht'wf, hI.c2, ?_, ?_, hr'deg, ?_, hcond, ?_⟩
        · -- t'·S = (q·t + tLast)·S = q·r + rLast = r'
          intro m hm
          have hqtc : ∀ i, i ≤ m → coef t' i = (fun j => coef qt j ^^^ coef tLast j) i :=
            fun i _ => addOrSubtract_coef _ _ _ hqtwf hI.wf3 ht' i
          have hqc : ∀ i, i ≤ m → coef qt i = conv F.prim (coef (qh :: qt')) (coef (th :: tt)) i :=
            fun i _ => multiply_coef hF _ _ _ hqwf hI.wf4 hqt i
          have hcr : ∀ i, i ≤ m → conv F.prim (coef (th :: tt)) S i = coef (lh :: lt) i :=
            fun i hi => hI.c2 i (Nat.lt_of_le_of_lt hi hm)
          rw [conv_congr_left hqtc,
            conv_xor_left ok _ _ _ (coef_lt (size_pos hF) _ hqtwf.1) (coef_lt (size_pos hF) _ hI.wf3.1) hS m,
            conv_congr_left hqc,
            conv_assoc ok _ _ _ (coef_lt (size_pos hF) _ hqwf.1) (coef_lt (size_pos hF) _ hI.wf4.1) hS m,
            conv_congr_right hcr, hI.c1 m hm, hr'coef m, Nat.xor_comm]
        · show t'.length - 1 + lt.length = R
          omega
        · right
          show tt.length < t'.length - 1
          omega
        · intro h0
          rw [h0, List.length_cons, List.length_nil] at ht'len
          omega
      have hr'l : r'.length + 1 ≤ fuel := by
        rw [List.length_cons] at hfuel
        rcases hr'len with h | h
        · rw [List.length_cons] at h; omega
        · rw [h, List.length_cons, List.length_nil]; omega
      exact ih (lh :: lt) r' (th :: tt) t' hI' hr'l
    · simp only [euclidLoop, if_neg hcond]
      exact ⟨rLast, r, tLast, t, rfl, hI, by omega⟩

end F
end Gzx.Proofs.Euclid
