/-
  Lemmas about the run-length models of Gzx/Model/RunLength.lean used by Properties/C20.lean and C20Runs.lean:
  `rpLoop` (the loop of RecordPattern) against `runsAux`, sums of scaled run lists, `absDiff`.
-/
import Gzx.Model.RunLength
namespace Gzx.RunLength

theorem runsAux_ne_nil (bs : List Bool) (cur : Bool) (cnt : Nat) : runsAux bs cur cnt ≠ [] := by
  induction bs generalizing cur cnt with
  | nil => simp [runsAux]
  | cons b bs ih =>
    unfold runsAux
    split
    · exact ih _ _
    · simp

theorem runsAux_length_pos (bs : List Bool) (cur : Bool) (cnt : Nat) : 0 < (runsAux bs cur cnt).length := by
  have := runsAux_ne_nil bs cur cnt
  cases h : runsAux bs cur cnt with
  | nil => exact absurd h this
  | cons _ _ => simp

/-- the loop of `RecordPattern` computes a prefix of the run-length encoding -/
theorem rpLoop_spec (n : Nat) (bs : List Bool) (cur : Bool) (done : List Nat) (cnt : Nat)
    (h : done.length < n) :
    rpLoop n bs cur done cnt =
      if done.length + (runsAux bs cur cnt).length > n
      then ((done ++ runsAux bs cur cnt).take n, true)
      else (done ++ runsAux bs cur cnt, false) := by
  induction bs generalizing cur done cnt with
  | nil =>
    simp only [rpLoop, runsAux, List.length_cons, List.length_nil]
    have : ¬ (done.length + (0 + 1) > n) := by omega
    simp [this]
  | cons b bs ih =>
    unfold rpLoop runsAux
    by_cases hb : b = cur
    · simp only [hb, if_true]
      exact ih cur done (cnt + 1) h
    · simp only [hb, if_false]
      have hpos := runsAux_length_pos bs b 1
      by_cases hn : done.length + 1 = n
      · simp only [hn, if_true, List.length_cons]
        have : done.length + ((runsAux bs b 1).length + 1) > n := by omega
        simp only [this, if_true]
        have hl : done.length = n - 1 := by omega
        congr 1
        rw [List.take_append]
        have h1 : n - done.length = 1 := by omega
        have h2 : List.take n done = done := List.take_of_length_le (by omega)
        simp [h1, h2]
      · simp only [hn, if_false]
        have h' : (done ++ [cnt]).length < n := by simp; omega
        rw [ih b (done ++ [cnt]) 1 h']
        simp only [List.length_append, List.length_cons, List.length_nil, List.append_assoc,
          List.cons_append, List.nil_append]
        have e : done.length + (0 + 1) + (runsAux bs b 1).length =
            done.length + ((runsAux bs b 1).length + 1) := by omega
        rw [e]

theorem sumL_map_mul (k : Nat) (xs : List Nat) : sumL (xs.map (k * ·)) = k * sumL xs := by
  induction xs with
  | nil => simp [sumL]
  | cons x xs ih =>
    simp only [sumL, List.map_cons, List.foldr_cons] at ih ⊢
    rw [ih, Nat.mul_add]

theorem absDiff_self (a : Nat) : absDiff a a = 0 := by simp [absDiff]

theorem absDiff_mul (k a b : Nat) : absDiff (k * a) (k * b) = k * absDiff a b := by
  unfold absDiff
  by_cases h : a ≥ b
  · have : k * a ≥ k * b := Nat.mul_le_mul_left k h
    simp [h, this, Nat.mul_sub]
  · have h' : b ≥ a := by omega
    by_cases hk : k * a ≥ k * b
    · have : k * a = k * b := Nat.le_antisymm (Nat.mul_le_mul_left k h') hk
      simp [h, this, Nat.mul_sub]
    · simp [h, hk, Nat.mul_sub]

end Gzx.RunLength
