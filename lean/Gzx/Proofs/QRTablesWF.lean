/-
  Well-formedness of the QR version table in the decoder model's types (decidable, linear structural checks):
  hypothesis of the decoder's totality (Proofs/TotalQRDec.lean, Properties/C06.lean, C06PureRead.lean), discharged
  for the regenerated table by `Obligations.C01.versions_wf` (C05 and C06 take it from there).
  The encoder's version decision has a predicate of its own over its own table type, `QRVersionChoice.wfB`
  (Proofs/QRVersionChoice.lean): it asks less of a row (number and four block lists) and also covers the count widths.
-/
import Gzx.Model.QRDecoder
namespace Gzx.QRDec

/-- one group of equal blocks, or two groups whose second has one more data codeword per block -/
def wfBlocks (b : ECBlocks) : Bool :=
  match b.groups with
  | [(c, _)] => decide (1 ≤ c)
  | [(c1, d1), (c2, d2)] => decide (1 ≤ c1) && decide (1 ≤ c2) && d2 == d1 + 1
  | _ => false

def ECBlocks.total (b : ECBlocks) : Nat :=
  (b.groups.map (fun g => g.1 * (g.2 + b.ecPerBlock))).foldl (· + ·) 0

/-- entry `i` of VERSIONS: number `i+1`, four levels, well-formed block lists that all fill the
    same total number of codewords -/
def wfVersion (v : VersionInfo) (i : Nat) : Bool :=
  v.num == i + 1 && v.ecBlocks.length == 4 && v.ecBlocks.all wfBlocks &&
  v.ecBlocks.all (fun b => b.total == v.totalCodewords)

def wfVersionsFrom : List VersionInfo → Nat → Bool
  | [], _ => true
  | v :: vs, i => wfVersion v i && wfVersionsFrom vs (i + 1)

def wfVersions (vs : List VersionInfo) : Bool := vs.length == 40 && wfVersionsFrom vs 0

end Gzx.QRDec
