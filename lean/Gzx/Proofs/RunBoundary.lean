/-
  A 1-D row given by its run widths (`appendPattern R c`, scaled and padded by `paddedRow`) and looked at from a run
  boundary: `RowAt row off B col` — from pixel `off` on the row consists of runs of widths `B`, the first of colour
  `col` — with what the readers' primitives do there (`GetNextSet` / `GetNextUnset`, `RecordPattern`, the quiet-zone
  test, `PatternMatchVariance` on an exact multiple), and the sums and scalings these need.  Every row reader's
  "reads back what the writer drew" argument walks such a row boundary by boundary.
-/
import Gzx.Proofs.OneD
import Gzx.Properties.C20
namespace Gzx.OneD
open Gzx Gzx.CheckDigit

/-! ## sums, scaling -/

theorem rl_sumL (xs : List Nat) : RunLength.sumL xs = sumL xs := rfl

theorem sumL_nil : sumL [] = 0 := rfl

theorem sumL_cons (x : Nat) (xs : List Nat) : sumL (x :: xs) = x + sumL xs := rfl

theorem sumL_append (a b : List Nat) : sumL (a ++ b) = sumL a + sumL b := by
  induction a with
  | nil => simp [sumL_nil]
  | cons x xs ih => simp only [List.cons_append, sumL_cons, ih]; omega

theorem sumL_scale (s : Nat) (xs : List Nat) : sumL (xs.map (s * ·)) = s * sumL xs :=
  RunLength.sumL_map_mul s xs

theorem sumL_reverse (xs : List Nat) : sumL xs.reverse = sumL xs := by
  induction xs with
  | nil => rfl
  | cons x xs ih => simp only [List.reverse_cons, sumL_append, sumL_cons, sumL_nil, ih]; omega

theorem sumL_pos (xs : List Nat) (hne : xs ≠ []) (hpos : ∀ w ∈ xs, 0 < w) : 0 < sumL xs := by
  cases xs with
  | nil => exact absurd rfl hne
  | cons x xs => have := hpos x (by simp); rw [sumL_cons]; omega

theorem length_appendPattern (ws : List Nat) (c : Bool) : (appendPattern ws c).length = sumL ws := by
  induction ws generalizing c with
  | nil => rfl
  | cons w ws ih => simp only [appendPattern, List.length_append, List.length_replicate, ih, sumL_cons]

theorem scaleRow_append (s : Nat) (a b : List Bool) : scaleRow s (a ++ b) = scaleRow s a ++ scaleRow s b := by
  simp [scaleRow]

theorem scaleRow_replicate (s w : Nat) (c : Bool) : scaleRow s (List.replicate w c) = List.replicate (s * w) c := by
  induction w with
  | zero => simp [scaleRow]
  | succ w ih =>
    have h := ih
    simp only [scaleRow, List.replicate_succ, List.map_cons, List.flatten_cons] at h ⊢
    rw [h, Nat.mul_succ, Nat.add_comm, List.replicate_append_replicate]

theorem scaleRow_appendPattern (s : Nat) (ws : List Nat) (c : Bool) :
    scaleRow s (appendPattern ws c) = appendPattern (ws.map (s * ·)) c := by
  induction ws generalizing c with
  | nil => simp [appendPattern, scaleRow]
  | cons w ws ih => simp only [appendPattern, List.map_cons, scaleRow_append, scaleRow_replicate, ih]

theorem scale_pos (s : Nat) (hs : 0 < s) (ws : List Nat) (h : ∀ w ∈ ws, 0 < w) : ∀ w ∈ ws.map (s * ·), 0 < w := by
  intro w hw
  obtain ⟨v, hv, rfl⟩ := List.mem_map.mp hw
  exact Nat.mul_pos hs (h v hv)

theorem getD_eq_getElem {α} (l : List α) (i : Nat) (d : α) (hi : i < l.length) : l.getD i d = l[i] := by
  simp [List.getD_eq_getElem?_getD, List.getElem?_eq_getElem hi]

/-! ## a row seen from a run boundary -/

/-- from pixel `off` on, the row consists of runs of widths `B` (all positive), the first of colour `col` -/
structure RowAt (row : List Bool) (off : Nat) (B : List Nat) (col : Bool) : Prop where
  le : off ≤ row.length
  drop : row.drop off = appendPattern B col
  pos : ∀ w ∈ B, 0 < w

theorem RowAt.length {row off B col} (h : RowAt row off B col) : row.length = off + sumL B := by
  have := congrArg List.length h.drop
  rw [List.length_drop, length_appendPattern] at this
  have := h.le
  omega

theorem RowAt.advance {row off col} (A B : List Nat) (h : RowAt row off (A ++ B) col) :
    RowAt row (off + sumL A) B (if A.length % 2 = 0 then col else !col) := by
  have hl := h.length
  rw [sumL_append] at hl
  refine ⟨by omega, ?_, fun w hw => h.pos w (by simp [hw])⟩
  rw [← List.drop_drop, h.drop, appendPattern_append]
  have : sumL A = (appendPattern A col).length := (length_appendPattern A col).symm
  rw [this, List.drop_left]

theorem RowAt.advance_even {row off col} (A B : List Nat) (hA : A.length % 2 = 0) (h : RowAt row off (A ++ B) col) :
    RowAt row (off + sumL A) B col := by
  have := h.advance A B
  simpa [hA] using this

theorem RowAt.advance_odd {row off col} (A B : List Nat) (hA : A.length % 2 = 1) (h : RowAt row off (A ++ B) col) :
    RowAt row (off + sumL A) B (!col) := by
  have := h.advance A B
  have hne : ¬ A.length % 2 = 0 := by omega
  simpa [hne] using this

theorem RowAt.lt {row off B col} (h : RowAt row off B col) (hne : B ≠ []) : off < row.length := by
  have := h.length
  have := sumL_pos B hne h.pos
  omega

theorem RowAt.head {row off w B col} (h : RowAt row off (w :: B) col) :
    ∃ tl, row.drop off = col :: tl := by
  have hw := h.pos w (by simp)
  obtain ⟨k, rfl⟩ : ∃ k, w = k + 1 := ⟨w - 1, by omega⟩
  refine ⟨List.replicate k col ++ appendPattern B (!col), ?_⟩
  rw [h.drop]; simp [appendPattern, List.replicate_succ]

theorem rowAt_zero (R : List Nat) (c : Bool) (hpos : ∀ w ∈ R, 0 < w) : RowAt (appendPattern R c) 0 R c :=
  ⟨Nat.zero_le _, by simp, hpos⟩

theorem paddedRow_runs (W : List Nat) (lq s rq : Nat) (hodd : W.length % 2 = 1) :
    paddedRow lq s rq (appendPattern W true) = appendPattern (lq :: (W.map (s * ·) ++ [rq])) false := by
  unfold paddedRow
  rw [scaleRow_appendPattern]
  simp only [appendPattern, Bool.not_false]
  rw [appendPattern_append]
  simp [hodd, appendPattern]

/-- `RecordPattern` at a run boundary returns the next `n` runs -/
theorem recordPattern_at {row off col} (A B : List Nat) (n : Nat) (hn : 0 < n) (hA : A.length = n)
    (h : RowAt row off (A ++ B) col) : RunLength.recordPattern row off n = .ok A := by
  rw [Properties.C20.recordPattern_eq_runs row off n hn, h.drop, runs_appendPattern _ _ h.pos]
  have hl : (A ++ B).length ≥ n := by simp; omega
  simp only [hl, if_true]
  rw [← hA, List.take_left']
  rfl

/-! ## GetNextSet / GetNextUnset at a pixel of the right colour -/

theorem getNextSet_drop (row : List Bool) (off : Nat) (h : off ≤ row.length) :
    getNextSet row off = off + getNextSet (row.drop off) 0 := by
  induction row generalizing off with
  | nil => simp at h; subst h; simp [getNextSet]
  | cons b bs ih =>
    cases off with
    | zero => simp
    | succ n =>
      simp only [getNextSet, List.drop_succ_cons]
      rw [ih n (by simpa using h)]; omega

theorem getNextUnset_drop (row : List Bool) (off : Nat) (h : off ≤ row.length) :
    getNextUnset row off = off + getNextUnset (row.drop off) 0 := by
  induction row generalizing off with
  | nil => simp at h; subst h; simp [getNextUnset]
  | cons b bs ih =>
    cases off with
    | zero => simp
    | succ n =>
      simp only [getNextUnset, List.drop_succ_cons]
      rw [ih n (by simpa using h)]; omega

theorem getNextSet_at {row off w B} (h : RowAt row off (w :: B) true) : getNextSet row off = off := by
  obtain ⟨tl, htl⟩ := h.head
  rw [getNextSet_drop row off h.le, htl]; simp [getNextSet]

theorem getNextUnset_at {row off w B} (h : RowAt row off (w :: B) false) : getNextUnset row off = off := by
  obtain ⟨tl, htl⟩ := h.head
  rw [getNextUnset_drop row off h.le, htl]; simp [getNextUnset]

theorem getNextSet_replicate (lq : Nat) (rest : List Bool) :
    getNextSet (List.replicate lq false ++ true :: rest) 0 = lq := by
  induction lq with
  | zero => simp [getNextSet]
  | succ n ih => simp only [List.replicate_succ, List.cons_append, getNextSet]; simp [ih]; omega

theorem getNextSet_skip {row off w0 w1 B} (h : RowAt row off (w0 :: w1 :: B) false) :
    getNextSet row off = off + w0 := by
  have hw1 := h.pos w1 (by simp)
  obtain ⟨k, rfl⟩ : ∃ k, w1 = k + 1 := ⟨w1 - 1, by omega⟩
  rw [getNextSet_drop row off h.le, h.drop]
  simp only [appendPattern, Bool.not_false, List.replicate_succ, List.cons_append]
  rw [getNextSet_replicate]

/-- `GetNextSet` never goes back, and from beyond the row it answers the row's size -/
theorem getNextSet_ge_min : ∀ (row : List Bool) (n : Nat), min n row.length ≤ getNextSet row n
  | [], n => by simp
  | b :: bs, 0 => Nat.zero_le _
  | b :: bs, n + 1 => by
    have := getNextSet_ge_min bs n
    simp only [getNextSet, List.length_cons]; omega

theorem getNextUnset_ge_min : ∀ (row : List Bool) (n : Nat), min n row.length ≤ getNextUnset row n
  | [], n => by simp
  | b :: bs, 0 => Nat.zero_le _
  | b :: bs, n + 1 => by
    have := getNextUnset_ge_min bs n
    simp only [getNextUnset, List.length_cons]; omega

/-! ## white ranges -/

theorem isRangeWhite_prefix (lq : Nat) (X : List Bool) (a b : Nat) (hab : a ≤ b) (hb : b ≤ lq) :
    isRangeWhite (List.replicate lq false ++ X) a b = true := by
  unfold isRangeWhite
  have h1 : ¬ (b < a ∨ b > (List.replicate lq false ++ X).length) := by simp; omega
  rw [if_neg h1]
  rw [List.drop_append_of_le_length (by simp; omega), List.take_append_of_le_length (by simp; omega)]
  simp

theorem isRangeWhite_at {row off w B} (h : RowAt row off (w :: B) false) (n : Nat) (hn : n ≤ w) :
    isRangeWhite row off (off + n) = true := by
  unfold isRangeWhite
  have hl := h.length
  rw [sumL_cons] at hl
  have h1 : ¬ (off + n < off ∨ off + n > row.length) := by omega
  rw [if_neg h1, h.drop]
  simp only [appendPattern, Nat.add_sub_cancel_left]
  rw [List.take_append_of_le_length (by simp; omega)]
  simp

/-- inside a white run of `rq` pixels the reader's quiet-zone test (bounds check, `isRangeWhite`) passes for every
    width below `rq` -/
theorem quiet_at {row off rq} (h : RowAt row off [rq] false) (n : Nat) (hn : n < rq) :
    ¬ (off + n ≥ row.length) ∧ isRangeWhite row off (off + n) = true := by
  have hl := h.length
  simp only [sumL_cons, sumL_nil] at hl
  exact ⟨by omega, isRangeWhite_at h n (by omega)⟩

/-! ## counters and variance -/

theorem incrAt_length : ∀ (cs : List Nat) (n : Nat), (incrAt cs n).length = cs.length
  | [], _ => rfl
  | _ :: _, 0 => rfl
  | c :: cs, n + 1 => by simp [incrAt, incrAt_length cs n]

theorem incrAt_mid (pre : List Nat) (k : Nat) (zs : List Nat) :
    incrAt (pre ++ k :: zs) pre.length = pre ++ (k + 1) :: zs := by
  induction pre with
  | nil => simp [incrAt]
  | cons p pre ih => simp [incrAt, ih]

/-- an exact multiple of the pattern scores 0 with a positive denominator -/
theorem pmv_multiple (p : List Nat) (k a b : Nat) (hk : 0 < k) :
    RunLength.patternMatchVariance (p.map (k * ·)) p a b = .ok (some (0, sumL p * (k * sumL p))) := by
  have hlen : (p.map (k * ·)).length = p.length := by simp
  have htake : p.take (p.map (k * ·)).length = p := by simp
  have hT : RunLength.sumL (p.map (k * ·)) = k * RunLength.sumL p := RunLength.sumL_map_mul k p
  have hz := Properties.C20.devs_multiple k (RunLength.sumL p) p
  have := Properties.C20.pmv_formula (p.map (k * ·)) p a b (by simp)
    (by rw [htake, hT]; exact Nat.le_mul_of_pos_left _ hk)
    (by
      rw [htake, hT]
      intro d hd
      rw [hz d hd]; simp)
  rw [this, htake, hT, Properties.C20.sumL_zero_of_all_zero _ hz]
  rfl

end Gzx.OneD
