/-
  The reference encoders of QR, Data Matrix and Aztec each carry their own shift-and-add field
  multiplication (double `a` with reduction, add it where `b` has a bit).  All three are one loop over the
  doubling step; here that loop is shown to be C04's reference product `gmul`, for every primitive
  polynomial of degree `d` — once.
-/
import Gzx.Proofs.GF
namespace Gzx.Proofs.GF
open Gzx Gzx.GF Gzx.Ref.GF Gzx.Proofs.GF2

/-- shift-and-add multiplication over an arbitrary doubling step -/
def shiftAdd (dbl : Nat → Nat) : Nat → Nat → Nat → Nat → Nat
  | 0, _, _, acc => acc
  | k + 1, a, b, acc => shiftAdd dbl k (dbl a) (b / 2) (if b % 2 = 1 then acc ^^^ a else acc)

theorem peasant_fuel (p d b : Nat) : ∀ (k a : Nat), a < 2 ^ k → ∀ j,
    peasant p d (k + j) a b = peasant p d k a b
  | 0, a, ha, j => by
    obtain rfl : a = 0 := by simpa using ha
    rw [peasant_zero_left, peasant_zero_left]
  | k + 1, a, ha, j => by
    rw [show k + 1 + j = (k + j) + 1 by omega]
    unfold peasant
    rw [peasant_fuel p d b k (a / 2) (by rw [Nat.pow_succ] at ha; omega) j]

section
variable {p d : Nat} (ok : ParamsOK p (2 ^ d)) (dbl : Nat → Nat) (hdbl : ∀ a, a < 2 ^ d → dbl a = xt p d a)
include ok hdbl

theorem shiftAdd_eq_peasant : ∀ (k a b acc : Nat), a < 2 ^ d →
    shiftAdd dbl k a b acc = acc ^^^ peasant p d k b a
  | 0, _, _, acc, _ => by simp [shiftAdd, peasant]
  | k + 1, a, b, acc, ha => by
    have hx : xt p d a < 2 ^ d := by
      have := xt_lt_size ok a ha
      rwa [Nat.log2_two_pow] at this
    unfold shiftAdd peasant
    rw [hdbl a ha, shiftAdd_eq_peasant k _ _ _ hx, peasant_xt]
    split <;> simp [Nat.xor_assoc]

theorem shiftAdd_eq_gmul (a b : Nat) (ha : a < 2 ^ d) (hb : b < 2 ^ d) :
    shiftAdd dbl d a b 0 = gmul p a b := by
  rw [shiftAdd_eq_peasant ok dbl hdbl d a b 0 ha, Nat.zero_xor, gmul_comm ok a b ha hb,
    gmul_eq_peasant ok b a ha, Nat.log2_two_pow]
  by_cases hb0 : b = 0
  · subst hb0; rw [peasant_zero_left, peasant_zero_left]
  · have hl : b.log2 < d := (Nat.log2_lt hb0).2 hb
    have := peasant_fuel p d a (b.log2 + 1) b Nat.lt_log2_self (d - (b.log2 + 1))
    rwa [show b.log2 + 1 + (d - (b.log2 + 1)) = d by omega] at this

end
end Gzx.Proofs.GF
