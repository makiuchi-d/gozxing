/-
  C02: whole-message round trip for every look-ahead oracle that never chooses EDIFACT, i.e. for messages
  encoded with ASCII, C40, Text, X12 and Base-256 encodation in any combination — under two explicit
  conditions on the oracle's behaviour at the very end of the message (without which the statement is false).
-/
import Gzx.Proofs.DMC40
import Gzx.Proofs.DMBytesAll
import Gzx.Proofs.DMRoundTripAB
namespace Gzx.DMHighLevel

/-- the states the dispatch loop passes through -/
inductive GSt (la : LookAhead) : Nat → Ctx → Acc → Prop where
  | ascii {c a} : Inv refTables c a → GSt la ASCII c a
  | tail {m c a} (k : Nat) : k ≤ 1 → Tail refTables c a k → (m = ASCII ∨ (m = BASE256 ∧ c.hasMore = false)) →
      GSt la m c a
  | latched {m c a} (code : Nat) : LatchedM refTables m code la c a → c.hasMore = true →
      ((m = BASE256 ∧ code = 231) ∨ (m = C40 ∧ code = 230) ∨ (m = X12 ∧ code = 238) ∨ (m = TEXT ∧ code = 239)) →
      GSt la m c a
  | done256 {c a} : Inv refTables c a → c.hasMore = false → GSt la BASE256 c a

theorem dispatch_gen_on {syms : List SymbolInfo} {la : LookAhead} :
    ∀ (fuel mode : Nat) (c : Ctx) (a : Acc) (c' : Ctx) (mode' : Nat), LaNoEdifactOn la c.msg →
      (∀ x ∈ c.msg, x < 256) → GSt la mode c a → c.newEnc = none → TrailerOK c → c.pos ≤ c.total →
      LaTailAscii la c.msg c.total → LaX12Tail la c.msg c.total →
      dispatch syms la fuel mode c = .ok (c', mode') →
      (mode' = ASCII ∨ mode' = BASE256) ∧ ∃ a', (Inv refTables c' a' ∨ ∃ k, k ≤ 1 ∧ Tail refTables c' a' k) ∧
        a'.trailer = a.trailer ∧ c'.msg = c.msg ∧ c'.skipAtEnd = c.skipAtEnd ∧ c'.pos = c'.total := by
  intro fuel
  induction fuel with
  | zero =>
    intro mode c a c' mode' _ _ hS _ _ hle _ _ h
    simp only [dispatch] at h
    split at h
    · cases h
    · rename_i hm
      cases h
      have hend : c.pos = c.total := by
        have := (hasMore_false_iff c).mp (by simpa using hm); omega
      cases hS with
      | ascii hI => exact ⟨Or.inl rfl, a, Or.inl hI, rfl, rfl, rfl, hend⟩
      | tail k hk hT hmode =>
        exact ⟨by rcases hmode with e | ⟨e, _⟩ <;> simp [e], a, Or.inr ⟨k, hk, hT⟩, rfl, rfl, rfl, hend⟩
      | latched _ _ hm' _ => simp [hm'] at hm
      | done256 hI _ => exact ⟨Or.inr rfl, a, Or.inl hI, rfl, rfl, rfl, hend⟩
  | succ n ih =>
    intro mode c a c' mode' hNoE hb hS hnew htr hle hTA hXT h
    simp only [dispatch] at h
    split at h
    · rename_i hm
      cases h
      have hend : c.pos = c.total := by
        have := (hasMore_false_iff c).mp (by simpa using hm); omega
      cases hS with
      | ascii hI => exact ⟨Or.inl rfl, a, Or.inl hI, rfl, rfl, rfl, hend⟩
      | tail k hk hT hmode =>
        exact ⟨by rcases hmode with e | ⟨e, _⟩ <;> simp [e], a, Or.inr ⟨k, hk, hT⟩, rfl, rfl, rfl, hend⟩
      | latched _ _ hm' _ => simp [hm'] at hm
      | done256 hI _ => exact ⟨Or.inr rfl, a, Or.inl hI, rfl, rfl, rfl, hend⟩
    · rename_i hm
      simp only [Bool.not_eq_true', Bool.not_eq_false] at hm
      have hm' : c.pos < c.total := (hasMore_iff c).mp hm
      -- how the hypotheses about the oracle carry over to a context with the same message
      have carry : ∀ c1 : Ctx, c1.msg = c.msg → c1.skipAtEnd = c.skipAtEnd →
          ((∀ x ∈ c1.msg, x < 256) ∧ LaNoEdifactOn la c1.msg) ∧ TrailerOK c1 ∧ LaTailAscii la c1.msg c1.total ∧
            LaX12Tail la c1.msg c1.total := by
        intro c1 e1 e2
        have et : c1.total = c.total := by simp [Ctx.total, e1, e2]
        refine ⟨⟨by rw [e1]; exact hb, by rw [e1]; exact hNoE⟩, ?_, by rw [e1, et]; exact hTA, by rw [e1, et]; exact hXT⟩
        unfold TrailerOK; rw [e1, e2]; exact htr
      -- one more round with the result of an encoder call that signalled ASCII
      have finish : ∀ (c1 : Ctx) (a1 : Acc), c1.msg = c.msg → c1.skipAtEnd = c.skipAtEnd → c1.pos ≤ c1.total →
          c1.newEnc = some ASCII → a1.trailer = a.trailer →
          (Inv refTables c1 a1 ∨ ∃ k, k ≤ 1 ∧ Tail refTables c1 a1 k) →
          dispatch syms la n ASCII { c1 with newEnc := none } = .ok (c', mode') →
          (mode' = ASCII ∨ mode' = BASE256) ∧ ∃ a', (Inv refTables c' a' ∨ ∃ k, k ≤ 1 ∧ Tail refTables c' a' k) ∧
            a'.trailer = a.trailer ∧ c'.msg = c.msg ∧ c'.skipAtEnd = c.skipAtEnd ∧ c'.pos = c'.total := by
        intro c1 a1 e1 e2 hle1 _ htr1 hres hd
        obtain ⟨q1, q2, q3, q4⟩ := carry ({ c1 with newEnc := none } : Ctx) e1 e2
        have hS1 : GSt la ASCII ({ c1 with newEnc := none } : Ctx) a1 := by
          rcases hres with hI | ⟨k, hk, hT⟩
          · exact GSt.ascii ⟨hI.dec, hI.text, hI.pend⟩
          · exact GSt.tail k hk ⟨hT.dec, hT.text, hT.pend, hT.full, hT.need⟩ (Or.inl rfl)
        obtain ⟨r1, a', r2, r3, r4, r5, r6⟩ := ih ASCII _ a1 c' mode' q1.2 q1.1 hS1 rfl q2 hle1 q3 q4 hd
        exact ⟨r1, a', r2, by rw [r3, htr1], by rw [r4]; exact e1, by rw [r5]; exact e2, r6⟩
      cases hS with
      | done256 _ hf => rw [hf] at hm; cases hm
      | ascii hI =>
        rw [encodeMode_ascii] at h
        obtain ⟨c1, he, h⟩ := bind_ok h
        cases hn1 : c1.newEnc with
        | none =>
          rw [hn1] at h
          simp only at h
          obtain ⟨a1, hI1, htr1, hsf, hpos, hlt⟩ := ascii_step_inv hb hI he hn1
          have hle1 := (ascii_step_le htr hm' hsf hpos).1
          obtain ⟨q1, q2, q3, q4⟩ := carry c1 hsf.msg hsf.skip
          obtain ⟨r1, a', r2, r3, r4, r5, r6⟩ := ih ASCII c1 a1 c' mode' q1.2 q1.1 (GSt.ascii hI1) hn1 q2 hle1 q3 q4 h
          exact ⟨r1, a', r2, by rw [r3, htr1], by rw [r4, hsf.msg], by rw [r5, hsf.skip], r6⟩
        | some m =>
          rw [hn1] at h
          simp only at h
          obtain ⟨m', code, hlam, hc1, hcases⟩ := ascii_latch_gen he (by rw [hn1]; simp) hnew
          have hmm : m = m' := by
            rw [hc1] at hn1; simp only [Ctx.signal, Option.some.injEq] at hn1; exact hn1.symm
          subst hmm
          have hcases' : (m = BASE256 ∧ code = 231) ∨ (m = C40 ∧ code = 230) ∨ (m = X12 ∧ code = 238) ∨
              (m = TEXT ∧ code = 239) := by
            rcases hcases with x | x | x | x | ⟨x, _⟩
            · exact Or.inl x
            · exact Or.inr (Or.inl x)
            · exact Or.inr (Or.inr (Or.inl x))
            · exact Or.inr (Or.inr (Or.inr x))
            · exact absurd (x ▸ hlam) (hNoE c.pos)
          have hL : LatchedM refTables m code la ({ c1 with newEnc := none } : Ctx) a := by
            rw [hc1]
            exact ⟨c.cw, rfl, hI.dec, hI.text, hI.pend, hlam⟩
          have hmore1 : ({ c1 with newEnc := none } : Ctx).hasMore = true := by rw [hc1]; exact hm
          obtain ⟨q1, q2, q3, q4⟩ := carry ({ c1 with newEnc := none } : Ctx) (by rw [hc1]; rfl) (by rw [hc1]; rfl)
          have hle1 : ({ c1 with newEnc := none } : Ctx).pos ≤ ({ c1 with newEnc := none } : Ctx).total := by
            rw [hc1]; exact hle
          obtain ⟨r1, a', r2, r3, r4, r5, r6⟩ :=
            ih m _ a c' mode' q1.2 q1.1 (GSt.latched code hL hmore1 hcases') rfl q2 hle1 q3 q4 h
          refine ⟨r1, a', r2, r3, ?_, ?_, r6⟩
          · rw [r4, hc1]; rfl
          · rw [r5, hc1]; rfl
      | tail k hk hT hmode =>
        have hmA : mode = ASCII := by
          rcases hmode with e | ⟨_, e⟩
          · exact e
          · rw [e] at hm; cases hm
        subst hmA
        rw [encodeMode_ascii] at h
        -- one character is left: the oracle stays in ASCII
        have hk1 : k = 1 := by
          have h1 := asciiNeed_ge_length c.rest
          have h2 := hT.need
          have : 1 ≤ c.rest.length := by
            simp only [Ctx.rest, List.length_take, List.length_drop, Ctx.remaining, Ctx.total] at hm' ⊢
            omega
          omega
        have hrem : c.pos + 1 = c.total := by
          have h1 := asciiNeed_ge_length c.rest
          have h2 := hT.need
          have : c.rest.length = c.total - c.pos := by
            simp only [Ctx.rest, List.length_take, List.length_drop, Ctx.remaining, Ctx.total] at hm' ⊢
            omega
          omega
        have hla := hTA c.pos hrem
        obtain ⟨c1, he, h⟩ := bind_ok h
        obtain ⟨a1, k1, hT1, hk1', htr1, hsf, hp1, hle1, hn1⟩ := ascii_step_tail hb hT hm htr hla he
        rw [hn1, hnew] at h
        simp only at h
        obtain ⟨q1, q2, q3, q4⟩ := carry c1 hsf.msg hsf.skip
        obtain ⟨r1, a', r2, r3, r4, r5, r6⟩ :=
          ih ASCII c1 a1 c' mode' q1.2 q1.1 (GSt.tail k1 (by omega) hT1 (Or.inl rfl)) (by rw [hn1, hnew]) q2 hle1 q3 q4 h
        exact ⟨r1, a', r2, by rw [r3, htr1], by rw [r4, hsf.msg], by rw [r5, hsf.skip], r6⟩
      | latched code hL _ hcases =>
        rcases hcases with ⟨rfl, rfl⟩ | ⟨rfl, rfl⟩ | ⟨rfl, rfl⟩ | ⟨rfl, rfl⟩
        · rw [encodeMode_b256] at h
          obtain ⟨c1, he, h⟩ := bind_ok h
          have hL' : Latched256 refTables c a := by
            obtain ⟨cw0, x1, x2, x3, x4, _⟩ := hL
            exact ⟨cw0, x1, x2, x3, x4⟩
          obtain ⟨a1, htr1, hmsg1, hcfg1, hskip1, hpos1, hpt1, hnew1, hres1⟩ :=
            b256_step_inv hb hL' hle hm hnew he
          have hres1' : Inv refTables c1 a1 ∨ ∃ k, k ≤ 1 ∧ Tail refTables c1 a1 k := by
            rcases hres1 with hI | ⟨hf, hE⟩
            · exact Or.inl hI
            · exact Or.inr ⟨0, by omega, hE.tail hf⟩
          rcases hnew1 with ⟨hn, hf⟩ | hn
          · rw [hn] at h
            simp only at h
            obtain ⟨q1, q2, q3, q4⟩ := carry c1 hmsg1 hskip1
            have hS1 : GSt la BASE256 c1 a1 := by
              rcases hres1' with hI | ⟨k, hk, hT⟩
              · exact GSt.done256 hI hf
              · exact GSt.tail k hk hT (Or.inr ⟨rfl, hf⟩)
            obtain ⟨r1, a', r2, r3, r4, r5, r6⟩ := ih BASE256 c1 a1 c' mode' q1.2 q1.1 hS1 hn q2 hpt1 q3 q4 h
            exact ⟨r1, a', r2, by rw [r3, htr1], by rw [r4, hmsg1], by rw [r5, hskip1], r6⟩
          · rw [hn] at h
            simp only at h
            exact finish c1 a1 hmsg1 hskip1 hpt1 hn htr1 hres1' h
        · rw [encodeMode_c40] at h
          obtain ⟨c1, he, h⟩ := bind_ok h
          obtain ⟨a1, htr1, hmsg1, _, hskip1, _, hpt1, hn, hres1⟩ :=
            c40_step_post (text := false) hb hL hle hm hnew he
          rw [hn] at h
          simp only at h
          exact finish c1 a1 hmsg1 hskip1 hpt1 hn htr1 hres1 h
        · rw [encodeMode_x12] at h
          obtain ⟨c1, he, h⟩ := bind_ok h
          obtain ⟨a1, htr1, hmsg1, _, hskip1, _, hpt1, hn, hres1⟩ :=
            x12_step_post hL hle hnew (fun p ch e1 e2 e3 => hXT p ch e1 e2 e3) he
          rw [hn] at h
          simp only at h
          exact finish c1 a1 hmsg1 hskip1 hpt1 hn htr1 hres1 h
        · rw [encodeMode_text] at h
          obtain ⟨c1, he, h⟩ := bind_ok h
          obtain ⟨a1, htr1, hmsg1, _, hskip1, _, hpt1, hn, hres1⟩ :=
            c40_step_post (text := true) hb hL hle hm hnew he
          rw [hn] at h
          simp only at h
          exact finish c1 a1 hmsg1 hskip1 hpt1 hn htr1 hres1 h

theorem dispatch_gen {syms : List SymbolInfo} {la : LookAhead} (hNoE : LaNoEdifact la)
    (fuel mode : Nat) (c : Ctx) (a : Acc) (c' : Ctx) (mode' : Nat) :
      (∀ x ∈ c.msg, x < 256) → Bytes c.cw → GSt la mode c a → c.newEnc = none → TrailerOK c → c.pos ≤ c.total →
      LaTailAscii la c.msg c.total → LaX12Tail la c.msg c.total →
      dispatch syms la fuel mode c = .ok (c', mode') →
      (mode' = ASCII ∨ mode' = BASE256) ∧ Bytes c'.cw ∧ ∃ a', (Inv refTables c' a' ∨ ∃ k, k ≤ 1 ∧ Tail refTables c' a' k) ∧
        a'.trailer = a.trailer ∧ c'.msg = c.msg ∧ c'.skipAtEnd = c.skipAtEnd ∧ c'.pos = c'.total :=
  fun hb hcw hS hnew htr hle hTA hXT h =>
    let ⟨hmode, r⟩ := dispatch_gen_on fuel mode c a c' mode' (hNoE.on c.msg) hb hS hnew htr hle hTA hXT h
    ⟨hmode, dispatch_bytes fuel mode c c' mode' hb hcw hnew h, r⟩

theorem roundtrip_gen_on (syms : List SymbolInfo) (la : LookAhead) (msg : List Nat) (cfg : Cfg) (cw : List Nat)
    (hNoE : LaNoEdifactOn la msg)
    (hTA : LaTailAscii la msg (initCtx msg cfg).total) (hXT : LaX12Tail la msg (initCtx msg cfg).total)
    (hb : ∀ x ∈ msg, x < 256) (h : encodeHL syms la msg cfg = .ok cw) :
    decodeText refTables cw = .ok msg := by
  refine roundtrip_finish h (fun a0 c1 mode hI0 hn0 htr0 hle0 hmsg0 hd => ?_)
  obtain ⟨hmode, a1, hres, r⟩ :=
    dispatch_gen_on (syms := syms) (dispatchFuel msg) ASCII (initCtx msg cfg) a0 c1 mode (by rw [hmsg0]; exact hNoE)
      (by rw [hmsg0]; exact hb) (GSt.ascii hI0) hn0 htr0 hle0 (by rw [hmsg0]; exact hTA)
      (by rw [hmsg0]; exact hXT) hd
  exact ⟨hmode, a1, hres.imp id (fun ⟨k, _, hT⟩ => ⟨k, hT⟩), r⟩

theorem roundtrip_gen (syms : List SymbolInfo) (la : LookAhead) (msg : List Nat) (cfg : Cfg) (cw : List Nat)
    (hNoE : LaNoEdifact la)
    (hTA : LaTailAscii la msg (initCtx msg cfg).total) (hXT : LaX12Tail la msg (initCtx msg cfg).total)
    (hb : ∀ x ∈ msg, x < 256) (h : encodeHL syms la msg cfg = .ok cw) :
    decodeText refTables cw = .ok msg :=
  roundtrip_gen_on syms la msg cfg cw (hNoE.on msg) hTA hXT hb h

end Gzx.DMHighLevel
