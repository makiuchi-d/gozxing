/-
  C02: whole-message round trip for encodings that use ASCII and Base-256 encodation only
  (any look-ahead oracle that proposes nothing but these two modes).
-/
import Gzx.Proofs.DMAsciiRoundTrip
import Gzx.Proofs.DMBase256
import Gzx.Proofs.DMGeneral
namespace Gzx.DMHighLevel

/-- the oracle proposes only ASCII or Base 256 -/
def LaAB (la : LookAhead) : Prop := ∀ m p k, la m p k = ASCII ∨ la m p k = BASE256

theorem ascii_latch {la : LookAhead} (hla : LaAB la) {c c' : Ctx}
    (h : asciiEncode la c = .ok c') (hsome : c'.newEnc ≠ none) (hnew : c.newEnc = none) :
    c' = (c.write 231).signal BASE256 := by
  obtain ⟨m, code, hl, rfl, hc⟩ := ascii_latch_gen h hsome hnew
  have hm : m = ASCII ∨ m = BASE256 := hl ▸ hla c.msg c.pos ASCII
  simp only [ASCII, BASE256, C40, X12, TEXT, EDIFACT] at hm hc
  obtain ⟨rfl, rfl⟩ : m = 5 ∧ code = 231 := by omega
  rfl

/-- the states the dispatch loop passes through -/
inductive St (T : Tables) : Nat → Ctx → Acc → Prop where
  | ascii {c a} : Inv T c a → St T ASCII c a
  | latched {c a} : Latched256 T c a → c.hasMore = true → St T BASE256 c a
  | done256 {c a} : Inv T c a → c.hasMore = false → St T BASE256 c a
  | exact {m c a} : (m = ASCII ∨ m = BASE256) → Exact T c a → c.hasMore = false → St T m c a

theorem dispatch_ab {T : Tables} {syms : List SymbolInfo} {la : LookAhead} (hla : LaAB la) :
    ∀ (fuel mode : Nat) (c : Ctx) (a : Acc) (c' : Ctx) (mode' : Nat),
      (∀ x ∈ c.msg, x < 256) → St T mode c a → c.newEnc = none → TrailerOK c → c.pos ≤ c.total →
      dispatch syms la fuel mode c = .ok (c', mode') →
      (mode' = ASCII ∨ mode' = BASE256) ∧ ∃ a', (Inv T c' a' ∨ Exact T c' a') ∧ a'.trailer = a.trailer ∧
        c'.msg = c.msg ∧ c'.skipAtEnd = c.skipAtEnd ∧ c'.pos = c'.total := by
  intro fuel
  induction fuel with
  | zero =>
    intro mode c a c' mode' _ hS _ _ hle h
    simp only [dispatch] at h
    split at h
    · cases h
    · rename_i hm
      cases h
      have hend : c.pos = c.total := by
        simp only [Ctx.hasMore, decide_eq_true_eq] at hm; omega
      cases hS with
      | ascii hI => exact ⟨Or.inl rfl, a, Or.inl hI, rfl, rfl, rfl, hend⟩
      | latched _ hm' => simp [hm'] at hm
      | done256 hI _ => exact ⟨Or.inr rfl, a, Or.inl hI, rfl, rfl, rfl, hend⟩
      | exact hmode hE _ => exact ⟨hmode, a, Or.inr hE, rfl, rfl, rfl, hend⟩
  | succ n ih =>
    intro mode c a c' mode' hb hS hnew htr hle h
    simp only [dispatch] at h
    split at h
    · rename_i hm
      cases h
      have hend : c.pos = c.total := by
        simp only [Ctx.hasMore, Bool.not_eq_true', decide_eq_false_iff_not] at hm; omega
      cases hS with
      | ascii hI => exact ⟨Or.inl rfl, a, Or.inl hI, rfl, rfl, rfl, hend⟩
      | latched _ hm' => simp [hm'] at hm
      | done256 hI _ => exact ⟨Or.inr rfl, a, Or.inl hI, rfl, rfl, rfl, hend⟩
      | exact hmode hE _ => exact ⟨hmode, a, Or.inr hE, rfl, rfl, rfl, hend⟩
    · rename_i hm
      simp only [Bool.not_eq_true', Bool.not_eq_false] at hm
      have hm' : c.pos < c.total := by simpa [Ctx.hasMore] using hm
      cases hS with
      | done256 _ hf => rw [hf] at hm; cases hm
      | exact _ _ hf => rw [hf] at hm; cases hm
      | ascii hI =>
        simp only [encodeMode, if_true] at h
        obtain ⟨c1, he, h⟩ := bind_ok h
        cases hn1 : c1.newEnc with
        | none =>
          rw [hn1] at h
          simp only at h
          obtain ⟨a1, hI1, htr1, hsf, hpos, hlt⟩ := ascii_step_inv hb hI he hn1
          obtain ⟨hle1, htr'⟩ := ascii_step_le htr hm' hsf hpos
          obtain ⟨hmode, a', hres, htr2, hmsg2, hskip2, hend⟩ :=
            ih ASCII c1 a1 c' mode' (by rw [hsf.msg]; exact hb) (St.ascii hI1) hn1 htr' hle1 h
          exact ⟨hmode, a', hres, by rw [htr2, htr1], by rw [hmsg2, hsf.msg], by rw [hskip2, hsf.skip], hend⟩
        | some m =>
          rw [hn1] at h
          simp only at h
          have hc1 := ascii_latch hla he (by rw [hn1]; simp) hnew
          have hm5 : m = BASE256 := by
            rw [hc1] at hn1; simp only [Ctx.signal, Option.some.injEq] at hn1; exact hn1.symm
          subst hm5
          have hL : Latched256 T ({ c1 with newEnc := none } : Ctx) a := by
            rw [hc1]
            exact ⟨c.cw, rfl, hI.dec, hI.text, hI.pend⟩
          have hmore1 : ({ c1 with newEnc := none } : Ctx).hasMore = true := by rw [hc1]; exact hm
          have htr' : TrailerOK ({ c1 with newEnc := none } : Ctx) := by rw [hc1]; exact htr
          have hle1 : ({ c1 with newEnc := none } : Ctx).pos ≤ ({ c1 with newEnc := none } : Ctx).total := by
            rw [hc1]; exact hle
          obtain ⟨hmode, a', hres, htr2, hmsg2, hskip2, hend⟩ :=
            ih BASE256 _ a c' mode' (by rw [hc1]; exact hb) (St.latched hL hmore1) rfl htr' hle1 h
          refine ⟨hmode, a', hres, htr2, ?_, ?_, hend⟩
          · rw [hmsg2, hc1]; rfl
          · rw [hskip2, hc1]; rfl
      | latched hL _ =>
        simp only [encodeMode, show ¬ (BASE256 : Nat) = ASCII by decide, show ¬ (BASE256 : Nat) = C40 by decide,
          show ¬ (BASE256 : Nat) = TEXT by decide, show ¬ (BASE256 : Nat) = X12 by decide,
          show ¬ (BASE256 : Nat) = EDIFACT by decide, if_false, if_true] at h
        obtain ⟨c1, he, h⟩ := bind_ok h
        obtain ⟨a1, htr1, hmsg1, hcfg1, hskip1, hpos1, hpt1, hnew1, hres1⟩ :=
          b256_step_inv hb hL hle hm hnew he
        have htrk : ∀ c2 : Ctx, c2.msg = c1.msg → c2.skipAtEnd = c1.skipAtEnd → TrailerOK c2 := by
          intro c2 e1 e2
          unfold TrailerOK; rw [e1, e2, hmsg1, hskip1]; exact htr
        rcases hnew1 with ⟨hn, hf⟩ | hn
        · rw [hn] at h
          simp only at h
          have hS1 : St T BASE256 c1 a1 := by
            rcases hres1 with hI | ⟨_, hE⟩
            · exact St.done256 hI hf
            · exact St.exact (Or.inr rfl) hE hf
          obtain ⟨hmode, a', hres, htr2, hmsg2, hskip2, hend⟩ :=
            ih BASE256 c1 a1 c' mode' (by rw [hmsg1]; exact hb) hS1 hn (htrk c1 rfl rfl) hpt1 h
          exact ⟨hmode, a', hres, by rw [htr2, htr1], by rw [hmsg2, hmsg1], by rw [hskip2, hskip1], hend⟩
        · rw [hn] at h
          simp only at h
          have hS1 : St T ASCII ({ c1 with newEnc := none } : Ctx) a1 := by
            rcases hres1 with hI | ⟨hf, hE⟩
            · exact St.ascii ⟨hI.dec, hI.text, hI.pend⟩
            · exact St.exact (Or.inl rfl) ⟨hE.dec, hE.text, hE.full, hE.pend⟩ hf
          obtain ⟨hmode, a', hres, htr2, hmsg2, hskip2, hend⟩ :=
            ih ASCII _ a1 c' mode' (by show ∀ x ∈ c1.msg, x < 256; rw [hmsg1]; exact hb) hS1 rfl
              (htrk _ rfl rfl) hpt1 h
          exact ⟨hmode, a', hres, by rw [htr2, htr1], by rw [hmsg2]; exact hmsg1, by rw [hskip2]; exact hskip1, hend⟩

theorem roundtrip_ab (T : Tables) (syms : List SymbolInfo) (la : LookAhead) (hla : LaAB la)
    (msg : List Nat) (cfg : Cfg) (cw : List Nat)
    (hb : ∀ x ∈ msg, x < 256) (h : encodeHL syms la msg cfg = .ok cw) :
    decodeText T cw = .ok msg := by
  refine roundtrip_finish h (fun a0 c1 mode hI0 hn0 htr0 hle0 hmsg0 hd => ?_)
  obtain ⟨hmode, a1, hres, r⟩ := dispatch_ab (T := T) hla (dispatchFuel msg) ASCII (initCtx msg cfg) a0 c1 mode
    (by rw [hmsg0]; exact hb) (St.ascii hI0) hn0 htr0 hle0 hd
  refine ⟨hmode, a1, ?_, r⟩
  rcases hres with hI | hE
  · exact Or.inl hI
  · exact Or.inr ⟨0, hE.tail (by rw [hasMore_false_iff]; have := r.2.2.2; omega)⟩

/-- from ASCII encodation the dispatch loop asks the look-ahead only about ASCII: a look-ahead that always answers
    ASCII there can be replaced by the constant one -/
theorem dispatch_ascii_const {syms : List SymbolInfo} {la : LookAhead} (hla : ∀ m p, la m p ASCII = ASCII) :
    ∀ (fuel : Nat) (c : Ctx), c.newEnc = none →
      dispatch syms la fuel ASCII c = dispatch syms (fun _ _ _ => ASCII) fuel ASCII c := by
  intro fuel
  induction fuel with
  | zero => intro c _; rfl
  | succ n ih =>
    intro c hnew
    have he : asciiEncode la c = asciiEncode (fun _ _ _ => ASCII) c := by
      unfold asciiEncode
      simp only [hla]
    simp only [dispatch, encodeMode_ascii, he]
    cases hc : asciiEncode (fun _ _ _ => ASCII) c with
    | error e => rfl
    | ok c1 =>
      have hn1 : c1.newEnc = none := (asciiEncode_newEnc (fun _ _ => rfl) hc).trans hnew
      simp only [bind, Except.bind, hn1]
      rw [ih c1 hn1]

theorem roundtrip_ascii (T : Tables) (syms : List SymbolInfo) (la : LookAhead)
    (hla : ∀ m p, la m p ASCII = ASCII) (msg : List Nat) (cfg : Cfg) (cw : List Nat)
    (hb : ∀ x ∈ msg, x < 256) (h : encodeHL syms la msg cfg = .ok cw) :
    decodeText T cw = .ok msg := by
  obtain ⟨_, _, hn0, _⟩ := initCtx_inv T msg cfg
  have : encodeHL syms (fun _ _ _ => ASCII) msg cfg = .ok cw := by
    unfold encodeHL at h ⊢
    rw [← dispatch_ascii_const hla _ _ hn0]
    exact h
  exact roundtrip_ab T syms _ (fun _ _ _ => Or.inl rfl) msg cfg cw hb this
end Gzx.DMHighLevel
