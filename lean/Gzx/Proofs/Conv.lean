/-
  Finite xor-sums and the convolution product of coefficient sequences over the reference field
  (`gmul prim` on `[0,size)`): linearity, shift, associativity.  The coefficient-level language for the
  key equation `σ·S ≡ ω (mod x^r)`.  Helper lemmas for Properties/C04.lean.
-/
import Gzx.Proofs.Poly
namespace Gzx.Proofs.Conv
open Gzx Gzx.GF Gzx.Ref.GF Gzx.Proofs.GF Gzx.Proofs.Poly

/-- `F 0 ⊕ F 1 ⊕ … ⊕ F (n-1)` -/
def xsum : Nat → (Nat → Nat) → Nat
  | 0, _ => 0
  | n + 1, F => xsum n F ^^^ F n

theorem xsum_congr {n : Nat} {F G : Nat → Nat} (h : ∀ j, j < n → F j = G j) : xsum n F = xsum n G := by
  induction n with
  | zero => rfl
  | succ n ih =>
    simp only [xsum]
    rw [ih (fun j hj => h j (by omega)), h n (by omega)]

theorem xsum_zero {n : Nat} {F : Nat → Nat} (h : ∀ j, j < n → F j = 0) : xsum n F = 0 := by
  induction n with
  | zero => rfl
  | succ n ih =>
    simp only [xsum]
    rw [ih (fun j hj => h j (by omega)), h n (by omega)]; rfl

theorem xsum_xor (n : Nat) (F G : Nat → Nat) :
    xsum n (fun j => F j ^^^ G j) = xsum n F ^^^ xsum n G := by
  induction n with
  | zero => simp [xsum]
  | succ n ih =>
    simp only [xsum]
    rw [ih]
    ac_rfl

theorem xsum_single {n : Nat} {F : Nat → Nat} (k : Nat) (hk : k < n) (h : ∀ j, j < n → j ≠ k → F j = 0) :
    xsum n F = F k := by
  induction n with
  | zero => omega
  | succ n ih =>
    simp only [xsum]
    by_cases hkn : k = n
    · subst hkn
      rw [xsum_zero (fun j hj => h j (by omega) (by omega)), Nat.zero_xor]
    · rw [ih (by omega) (fun j hj hne => h j (by omega) hne), h n (by omega) (by omega), Nat.xor_zero]

theorem xsum_extend {n n' : Nat} {F : Nat → Nat} (hle : n ≤ n') (h : ∀ j, n ≤ j → j < n' → F j = 0) :
    xsum n' F = xsum n F := by
  induction n' with
  | zero => have : n = 0 := by omega
            subst this; rfl
  | succ m ih =>
    by_cases hm : n = m + 1
    · subst hm; rfl
    · simp only [xsum]
      rw [ih (by omega) (fun j h1 h2 => h j h1 (by omega)), h m (by omega) (by omega), Nat.xor_zero]

theorem xsum_succ_left (n : Nat) (F : Nat → Nat) : xsum (n + 1) F = F 0 ^^^ xsum n (fun j => F (j + 1)) := by
  induction n with
  | zero => simp [xsum]
  | succ n ih =>
    show xsum (n + 1) F ^^^ F (n + 1) = F 0 ^^^ (xsum n (fun j => F (j + 1)) ^^^ F (n + 1))
    rw [ih, Nat.xor_assoc]

/-- triangle exchange: `Σ_{j<n} Σ_{i≤j} A i j = Σ_{i<n} Σ_{k<n-i} A i (i+k)` -/
theorem xsum_triangle (A : Nat → Nat → Nat) : ∀ n,
    xsum n (fun j => xsum (j + 1) (fun i => A i j)) = xsum n (fun i => xsum (n - i) (fun k => A i (i + k)))
  | 0 => rfl
  | n + 1 => by
    show xsum n (fun j => xsum (j + 1) (fun i => A i j)) ^^^ xsum (n + 1) (fun i => A i n) =
      xsum n (fun i => xsum (n + 1 - i) (fun k => A i (i + k))) ^^^ xsum (n + 1 - n) (fun k => A n (n + k))
    rw [xsum_triangle A n]
    have h1 : xsum n (fun i => xsum (n + 1 - i) (fun k => A i (i + k))) =
        xsum n (fun i => xsum (n - i) (fun k => A i (i + k)) ^^^ A i n) := by
      apply xsum_congr
      intro i hi
      have e : n + 1 - i = (n - i) + 1 := by omega
      rw [e]
      show _ ^^^ A i (i + (n - i)) = _
      have e2 : i + (n - i) = n := by omega
      rw [e2]
    rw [h1, xsum_xor]
    have h2 : xsum (n + 1 - n) (fun k => A n (n + k)) = A n n := by
      have e : n + 1 - n = 1 := by omega
      rw [e]; simp [xsum]
    rw [h2]
    show _ ^^^ (xsum n (fun i => A i n) ^^^ A n n) = _
    rw [Nat.xor_assoc]

theorem xsum_drop {k : Nat} {F : Nat → Nat} (h : ∀ j, j < k → F j = 0) : ∀ n,
    xsum (k + n) F = xsum n (fun i => F (k + i))
  | 0 => xsum_zero h
  | n + 1 => by
    show xsum (k + n) F ^^^ F (k + n) = xsum n (fun i => F (k + i)) ^^^ F (k + n)
    rw [xsum_drop h n]

section field
variable {prim size : Nat} (ok : ParamsOK prim size)
include ok

theorem xsum_lt {n : Nat} {F : Nat → Nat} (h : ∀ j, j < n → F j < size) : xsum n F < size := by
  induction n with
  | zero => exact zero_lt_size ok
  | succ n ih => exact xor_lt_size ok _ _ (ih (fun j hj => h j (by omega))) (h n (by omega))

theorem xsum_gmul_left (c : Nat) {n : Nat} {F : Nat → Nat} (h : ∀ j, j < n → F j < size) :
    gmul prim c (xsum n F) = xsum n (fun j => gmul prim c (F j)) := by
  induction n with
  | zero => exact gmul_zero_right ok c
  | succ n ih =>
    simp only [xsum]
    rw [gmul_xor_right ok c _ _ (xsum_lt ok (fun j hj => h j (by omega))) (h n (by omega)),
      ih (fun j hj => h j (by omega))]

theorem xsum_gmul_right (c : Nat) (hc : c < size) {n : Nat} {F : Nat → Nat} (h : ∀ j, j < n → F j < size) :
    gmul prim (xsum n F) c = xsum n (fun j => gmul prim (F j) c) := by
  rw [gmul_comm ok _ c (xsum_lt ok h) hc, xsum_gmul_left ok c h]
  exact xsum_congr (fun j hj => gmul_comm ok c _ hc (h j hj))

/-! ## convolution -/

/-- coefficient `m` of the product of the coefficient sequences `f` and `g` -/
def conv (prim : Nat) (f g : Nat → Nat) (m : Nat) : Nat :=
  xsum (m + 1) (fun j => gmul prim (f j) (g (m - j)))

omit ok in
theorem conv_congr_right {f g g' : Nat → Nat} {m : Nat} (h : ∀ i, i ≤ m → g i = g' i) :
    conv prim f g m = conv prim f g' m := by
  unfold conv
  apply xsum_congr
  intro j hj
  rw [h (m - j) (by omega)]

omit ok in
theorem conv_congr_left {f f' g : Nat → Nat} {m : Nat} (h : ∀ i, i ≤ m → f i = f' i) :
    conv prim f g m = conv prim f' g m := by
  unfold conv
  apply xsum_congr
  intro j hj
  rw [h j (by omega)]

theorem conv_lt (f g : Nat → Nat) (m : Nat) : conv prim f g m < size :=
  xsum_lt ok (fun _ _ => gmul_lt ok _ _)

theorem conv_xor_left (f f' g : Nat → Nat) (hf : ∀ j, f j < size) (hf' : ∀ j, f' j < size)
    (hg : ∀ j, g j < size) (m : Nat) :
    conv prim (fun j => f j ^^^ f' j) g m = conv prim f g m ^^^ conv prim f' g m := by
  unfold conv
  rw [← xsum_xor]
  apply xsum_congr
  intro j _
  exact gmul_xor_left ok _ _ _ (hf j) (hf' j) (hg _)

theorem conv_xor_right (f g g' : Nat → Nat) (hg : ∀ j, g j < size) (hg' : ∀ j, g' j < size) (m : Nat) :
    conv prim f (fun j => g j ^^^ g' j) m = conv prim f g m ^^^ conv prim f g' m := by
  unfold conv
  rw [← xsum_xor]
  apply xsum_congr
  intro j _
  exact gmul_xor_right ok _ _ _ (hg _) (hg' _)

theorem conv_scale_left (c : Nat) (hc : c < size) (f g : Nat → Nat) (hf : ∀ j, f j < size)
    (hg : ∀ j, g j < size) (m : Nat) :
    conv prim (fun j => gmul prim c (f j)) g m = gmul prim c (conv prim f g m) := by
  unfold conv
  rw [xsum_gmul_left ok c (fun _ _ => gmul_lt ok _ _)]
  apply xsum_congr
  intro j _
  exact gmul_assoc ok c _ _ hc (hf j) (hg _)

theorem conv_shift_left (k : Nat) (f g : Nat → Nat) (hg : ∀ j, g j < size) (m : Nat) :
    conv prim (fun j => if j ≥ k then f (j - k) else 0) g m =
      if m ≥ k then conv prim f g (m - k) else 0 := by
  unfold conv
  by_cases hm : m ≥ k
  · rw [if_pos hm]
    have e : m + 1 = k + (m - k + 1) := by omega
    rw [e, xsum_drop (fun j hj => by
      have : ¬ j ≥ k := by omega
      simp only [this, if_false]
      exact gmul_zero_left ok _ (hg _))]
    apply xsum_congr
    intro i hi
    have h1 : k + i ≥ k := by omega
    have h2 : k + i - k = i := by omega
    have h3 : m - (k + i) = m - k - i := by omega
    simp only [h1, if_true, h2, h3]
  · rw [if_neg hm]
    apply xsum_zero
    intro j hj
    have : ¬ j ≥ k := by omega
    simp only [this, if_false]
    exact gmul_zero_left ok _ (hg _)

theorem conv_monomial (d c : Nat) (g : Nat → Nat) (hg : ∀ j, g j < size) (m : Nat) :
    conv prim (fun j => if j = d then c else 0) g m = if m ≥ d then gmul prim c (g (m - d)) else 0 := by
  unfold conv
  by_cases hm : m ≥ d
  · rw [if_pos hm]
    have := xsum_single (n := m + 1) (F := fun j => gmul prim (if j = d then c else 0) (g (m - j))) d (by omega)
      (fun j _ hne => by simp only [hne, if_false]; exact gmul_zero_left ok _ (hg _))
    rw [this]; simp
  · rw [if_neg hm]
    apply xsum_zero
    intro j hj
    have : ¬ j = d := by omega
    simp only [this, if_false]
    exact gmul_zero_left ok _ (hg _)

theorem conv_assoc (f g h : Nat → Nat) (hf : ∀ j, f j < size) (hg : ∀ j, g j < size) (hh : ∀ j, h j < size)
    (m : Nat) : conv prim (conv prim f g) h m = conv prim f (conv prim g h) m := by
  -- left: Σ_{j≤m} (Σ_{i≤j} f_i g_{j-i}) h_{m-j}
  have hL : conv prim (conv prim f g) h m =
      xsum (m + 1) (fun j => xsum (j + 1) (fun i => gmul prim (gmul prim (f i) (g (j - i))) (h (m - j)))) := by
    unfold conv
    apply xsum_congr
    intro j _
    exact xsum_gmul_right ok _ (hh _) (fun _ _ => gmul_lt ok _ _)
  have hR : conv prim f (conv prim g h) m =
      xsum (m + 1) (fun i => xsum (m + 1 - i)
        (fun k => gmul prim (gmul prim (f i) (g (i + k - i))) (h (m - (i + k))))) := by
    unfold conv
    apply xsum_congr
    intro i hi
    rw [xsum_gmul_left ok _ (fun _ _ => gmul_lt ok _ _)]
    have e : m - i + 1 = m + 1 - i := by omega
    rw [e]
    apply xsum_congr
    intro k hk
    have e1 : i + k - i = k := by omega
    have e2 : m - (i + k) = m - i - k := by omega
    rw [e1, e2, gmul_assoc ok _ _ _ (hf i) (hg k) (hh _)]
  rw [hL, hR]
  exact xsum_triangle (fun i j => gmul prim (gmul prim (f i) (g (j - i))) (h (m - j))) (m + 1)

end field
end Gzx.Proofs.Conv
