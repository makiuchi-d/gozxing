/-
  Lemmas for `Obligations/K17.lean`, `K17Hyb.lean` and `K17Lum.lean`: the loops of the regenerated binariser and luminance
  kernels against the hand-written `Model/Binarizer.lean` — the peak searches of `estimateBlackPoint`, the rectangle test of
  `Crop`, the loop that fills a fresh slice, the rectangle scans (`setW`, `rectW`, `ScanAgrees`: home of the pixel-by-pixel
  mirror that `K17Hyb` and `K17c` tie to) and the bucket increment.  Nothing here mentions a generated definition.
-/
import Gzx.Proofs.GoMTie
import Gzx.Proofs.GoMLoop
import Gzx.Proofs.Binarizer
namespace Gzx.K17
open Gzx Gzx.GoM Gzx.Binarizer

/-- `pixel & 0xff` of a non-negative value -/
theorem iand_255 (p : Nat) : GoVal.iand (p : Int) 255 = ((p % 256 : Nat) : Int) :=
  (iand_mask_eq_mod (p : Int) 8 (Int.natCast_nonneg p)).trans rfl

theorem indexed_getElem (bs : List Nat) (i : Nat) (h : i < (indexed bs).length) :
    (indexed bs)[i] = (i, bs[i]'(by simpa [indexed] using h)) := by
  simp [indexed]

theorem indexed_getElem? (bs : List Nat) (i : Nat) : (indexed bs)[i]? = bs[i]?.map (fun c => (i, c)) := by
  unfold indexed List.zip
  rw [List.getElem?_zipWith']
  by_cases h : i < bs.length
  · rw [List.getElem?_range h, List.getElem?_eq_getElem h]; rfl
  · rw [List.getElem?_eq_none (Nat.le_of_not_lt h)]; cases (List.range bs.length)[i]? <;> rfl

theorem indexed_length (bs : List Nat) : (indexed bs).length = bs.length := by simp [indexed]

theorem indexed_drop (pre suf : List Nat) :
    (indexed (pre ++ suf)).drop pre.length = (List.range' pre.length suf.length).zip suf := by
  apply List.ext_getElem
  · simp [indexed]
  · intro i h1 h2
    simp [indexed, List.getElem_append_right]

/-- `(x - p)²` in `int` arithmetic is the model's squared distance -/
theorem sq_cast (x p : Nat) : ((x : Int) - p) * ((x : Int) - p) = ((sqDist x p : Nat) : Int) := by
  unfold sqDist
  by_cases h : x ≥ p
  · simp only [h, if_true]
    rw [Int.natCast_mul, Int.natCast_sub h]
  · simp only [h, if_false]
    rw [Int.natCast_mul, Int.natCast_sub (by omega : x ≤ p)]
    have e : ((x : Int) - p) = -((p : Int) - x) := by omega
    rw [e, Int.neg_mul_neg]

/-- the score of a valley candidate `x` between the peaks: `fromFirst * fromFirst * toSecond * (maxBucketCount - buckets[x])` -/
theorem valley_cast (x fp sp c : Nat) (mbc : Int) (h1 : fp ≤ x) (h2 : x ≤ sp) :
    (((x : Int) - (fp : Int)) * ((x : Int) - (fp : Int)) * ((sp : Int) - (x : Int))) * (mbc - Int.ofNat c) =
      (((x - fp) * (x - fp) * (sp - x) : Nat) : Int) * (mbc - (c : Int)) := by
  rw [Int.natCast_mul, Int.natCast_mul, Int.natCast_sub h1, Int.natCast_sub h2]; rfl

/-- `if firstPeak > secondPeak { firstPeak, secondPeak = secondPeak, firstPeak }` -/
theorem swap_cast (a b : Nat) :
    (if decide ((a : Int) > (b : Int)) = true then ((b : Int), (a : Int)) else ((a : Int), (b : Int))) =
      (((min a b : Nat) : Int), ((max a b : Nat) : Int)) := by
  simp only [decide_eq_true_eq]
  split <;> simp only [Prod.mk.injEq] <;> omega

/-- the contrast rule `secondPeak - firstPeak <= numBuckets / 16` -/
theorem contrast_cast (sp fp n : Nat) :
    decide ((sp : Int) - (fp : Int) ≤ Int.tdiv (n : Int) 16) = decide (sp - fp ≤ n / 16) :=
  decide_eq_decide.mpr (by rw [show (16 : Int) = ((16 : Nat) : Int) from rfl, tdiv_natCast]; omega)

/-- trip count of the valley search `for x := secondPeak - 1; x > firstPeak; x--` -/
theorem valley_trip (fp sp : Nat) : tripDown ((sp : Int) - 1) (fp : Int) 1 = sp - fp - 1 := by
  rw [tripDown_one]; omega

theorem argmaxStrict_fst (l : List (Nat × Int)) (n : Nat) (hl : ∀ p ∈ l, p.1 < n) :
    ∀ best : Nat × Int, (argmaxStrict best l).1 = best.1 ∨ (argmaxStrict best l).1 < n := by
  induction l with
  | nil => intro best; left; rfl
  | cons p rest ih =>
    intro best
    obtain ⟨x, s⟩ := p
    unfold argmaxStrict
    have hr : ∀ p ∈ rest, p.1 < n := fun q hq => hl q (List.mem_cons_of_mem _ hq)
    split
    · rcases ih hr (x, s) with h | h
      · right; rw [h]; exact hl (x, s) (List.mem_cons_self)
      · right; exact h
    · exact ih hr best

/-- the strict-maximum search over scored buckets, as the iteration the two peak loops run -/
theorem foldIdx_argmax {ρ : Type} (sc : Nat → Nat → Int) : ∀ (l : List Nat) (a : Nat) (best : Nat × Int),
    foldIdx (ρ := ρ) (fun x c best => .next (if sc x c > best.2 then (x, sc x c) else best)) a l best =
      .next (argmaxStrict best (((List.range' a l.length).zip l).map (fun (x, c) => (x, sc x c))))
  | [], _, _ => rfl
  | c :: l, a, best => by
    simp only [foldIdx, List.length_cons, List.range'_succ, List.zip_cons_cons, List.map_cons, argmaxStrict]
    split <;> exact foldIdx_argmax sc l (a + 1) _

theorem mem_indexed_lt (bs : List Nat) (p : Nat × Nat) (h : p ∈ indexed bs) : p.1 < bs.length :=
  (List.getElem?_eq_some_iff.mp ((mem_indexed bs p.1 p.2).mp h)).1

/-- the valley candidates: the indexed buckets strictly between the peaks, last first -/
theorem cands_eq (bs : List Nat) (fp sp : Nat) (hsp : sp ≤ bs.length) (hfs : fp < sp) :
    ((indexed bs).filter (fun (x, _) => decide (fp < x ∧ x < sp))).reverse =
      (((indexed bs).drop (fp + 1)).take (sp - fp - 1)).reverse := by
  congr 1
  have hsplit : indexed bs = (indexed bs).take (fp + 1) ++ (((indexed bs).drop (fp + 1)).take (sp - fp - 1) ++
      ((indexed bs).drop (fp + 1)).drop (sp - fp - 1)) := by
    rw [List.take_append_drop, List.take_append_drop]
  have hlen := indexed_length bs
  conv => lhs; rw [hsplit]
  rw [List.filter_append, List.filter_append]
  have h1 : ((indexed bs).take (fp + 1)).filter (fun (x, _) => decide (fp < x ∧ x < sp)) = [] := by
    rw [List.filter_eq_nil_iff]
    intro p hp
    obtain ⟨i, hi, rfl⟩ := List.mem_iff_getElem.mp hp
    simp only [List.length_take] at hi
    rw [List.getElem_take, indexed_getElem]
    simp; omega
  have h3 : (((indexed bs).drop (fp + 1)).drop (sp - fp - 1)).filter (fun (x, _) => decide (fp < x ∧ x < sp)) = [] := by
    rw [List.filter_eq_nil_iff]
    intro p hp
    obtain ⟨i, hi, rfl⟩ := List.mem_iff_getElem.mp hp
    rw [List.getElem_drop, List.getElem_drop, indexed_getElem]
    simp; omega
  have h2 : (((indexed bs).drop (fp + 1)).take (sp - fp - 1)).filter (fun (x, _) => decide (fp < x ∧ x < sp)) =
      ((indexed bs).drop (fp + 1)).take (sp - fp - 1) := by
    rw [List.filter_eq_self]
    intro p hp
    obtain ⟨i, hi, rfl⟩ := List.mem_iff_getElem.mp hp
    simp only [List.length_take, List.length_drop] at hi
    rw [List.getElem_take, List.getElem_drop, indexed_getElem]
    simp; omega
  rw [h1, h2, h3]; simp

/-! ### the rectangle test of `Crop` and of the YUV constructor -/

/-- the six comparisons in the order the Go sources make them, against the order the models state them in -/
theorem rect_test (W H l t w h : Int) :
    ((((((decide (l < 0)) || (decide (t < 0))) || (decide (w < 0))) || (decide (h < 0))) || (decide ((l + w) > W))) ||
        (decide ((t + h) > H))) = decide (w < 0 ∨ h < 0 ∨ l < 0 ∨ t < 0 ∨ l + w > W ∨ t + h > H) := by
  rw [Bool.eq_iff_iff]
  simp only [Bool.or_eq_true, decide_eq_true_eq]
  grind

/-! ### loops that fill / rewrite a byte slice element by element -/

/-- a Go function on bytes that is `f` on naturals, mapped over a slice -/
theorem map_bytes (l : List Nat) (F : Int → Int) (f : Nat → Nat) (h : ∀ b ∈ l, F (Int.ofNat b) = Int.ofNat (f b)) :
    (l.map Int.ofNat).map F = (l.map f).map Int.ofNat := by
  rw [List.map_map, List.map_map]
  exact List.map_congr_left h

/-- `dst := make([]T, n); for i := 0; i < n; i++ { dst[i] = g(src[i]) }` as the translator renders it: after `j` rounds the first
    `j` elements of `src` through `g`, zeros behind -/
theorem loop_fill_fresh {ρ : Type} (body : Int → List Int → Ctl (List Int) ρ) (src : List Int) (g : Int → Int) (n k : Nat) (hk : k = n)
    (hb : ∀ (i : Nat) (t : List Int), body i t = tryC (idx src i) fun v => tryC (setIdx t i (g v)) fun t' => .next t') :
    loop body 1 k 0 (words (List.replicate n 0)) =
      if src.length < n then .panic oob else .next ((src.take n).map g) := by
  subst hk
  have h := loop_steps (fun j => (src.take j).map g ++ List.replicate (k - j) 0) src.length oob 1 (fun j => (j : Int))
    (fun _ => Int.natCast_succ _) body k
    (fun j hj hjk => by
      obtain ⟨m, hm⟩ : ∃ m, k - j = m + 1 := ⟨k - j - 1, by omega⟩
      rw [hb, idx_ofNat _ _ hj, tryC_ok, hm, List.replicate_succ,
        setIdx_seam _ _ _ _ _ (by rw [List.length_map, List.length_take, Nat.min_eq_left (Nat.le_of_lt hj)]), tryC_ok,
        List.take_succ_eq_append_getElem hj, List.map_append, List.append_assoc, show k - (j + 1) = m by omega]
      rfl)
    (fun _ => by rw [hb, idx_ge _ _ (Int.le_refl _)]; rfl)
  rw [Nat.sub_self, List.replicate_zero, List.append_nil] at h
  rw [← h, words, List.map_replicate]
  rfl

/-! ### rectangle scans (`thresholdBlock`, the global `GetBlackMatrix` loop): read, test, `Set` — pixel by pixel -/

open Gzx.Bits in
/-- `BitMatrix.Set(x, y)` on the word slice of a matrix with row size `rs` (`WMat.set` without the record around it) -/
def setW (rs : Nat) (ws : List Nat) (x y : Nat) : Res (List Nat) :=
  updWord ws (y * rs + x / 32) (fun w => w ||| 1 <<< (x % 32))

/-- one pixel as the Go loops run it: checked read of `luminances[(y0+yy)*w + x0 + xx]`, test, `Set(x0+xx, y0+yy)` -/
def cellW (lum : List Nat) (w x0 y0 : Nat) (test : Nat → Bool) (rs yy : Nat) (ws : List Nat) (xx : Nat) : Res (List Nat) :=
  match lum[(y0 + yy) * w + x0 + xx]? with
  | none => .error oob
  | some p => if test (p % 256) then setW rs ws (x0 + xx) (y0 + yy) else .ok ws

/-- one pixel as the translator renders it: the checked read at `e`, the test `goTest` on the masked byte, the `Set` call `set` -/
theorem cellW_words {ρ : Type} (lum : List Nat) (w x0 y0 : Nat) (test : Nat → Bool) (goTest : Int → Bool) (rs yy xx : Nat)
    (ws : List Nat) (e : Int) (he : e = (((y0 + yy) * w + x0 + xx : Nat) : Int)) (set : Res (List Int))
    (hset : set = (setW rs ws (x0 + xx) (y0 + yy)).map words) (htest : ∀ q : Nat, goTest (q : Int) = test q) :
    (tryC (idx (bytes lum) e) fun t1 =>
        if goTest (GoVal.iand t1 255) then tryC set fun t2 => (.next t2 : Ctl (List Int) ρ) else .next (words ws)) =
      ofRes ((cellW lum w x0 y0 test rs yy ws xx).map words) := by
  subst he hset
  rw [bytes, idx_bytes, cellW]
  cases lum[(y0 + yy) * w + x0 + xx]? with
  | none => rfl
  | some p =>
    simp only [tryC_ok]
    rw [iand_255, htest]
    cases test (p % 256) with
    | false => rfl
    | true =>
      simp only [if_true]
      cases setW rs ws (x0 + xx) (y0 + yy) <;> rfl

/-- one row of the rectangle, pixel by pixel -/
def rowW (lum : List Nat) (w x0 y0 nx : Nat) (test : Nat → Bool) (rs : Nat) (ws : List Nat) (yy : Nat) : Res (List Nat) :=
  (List.range' 0 nx).foldlM (cellW lum w x0 y0 test rs yy) ws

/-- the rectangle row by row, as the two nested Go loops run it -/
def rectW (lum : List Nat) (w x0 y0 nx ny : Nat) (test : Nat → Bool) (rs : Nat) (ws : List Nat) : Res (List Nat) :=
  (List.range' 0 ny).foldlM (rowW lum w x0 y0 nx test rs) ws

/-- the `Set` calls of the model, applied in order -/
def applySets (rs : Nat) (ws : List Nat) (l : List (Nat × Nat)) : Res (List Nat) :=
  l.foldlM (fun ws p => setW rs ws p.1 p.2) ws

/-- the mirror and the model's list of `Set` calls say the same.  The tie of the scans deliberately ends here, at "the same
    `Set` calls in the same order on the same word slice": `applySets` may itself fail (a `Set` outside the slice), which the
    model's list does not record, and what the calls make of a `WMat` is the subject of the `BitMatrix.Set` tie
    (`Obligations/K16b*`), not of these files. -/
def ScanAgrees (rs : Nat) (ws : List Nat) (mirror : Res (List Nat)) : Res (List (Nat × Nat)) → Prop
  | .ok l => mirror = applySets rs ws l
  | .error _ => ∃ e, mirror = .error e

theorem applySets_append (rs : Nat) (ws : List Nat) (l1 l2 : List (Nat × Nat)) :
    applySets rs ws (l1 ++ l2) = (applySets rs ws l1).bind (fun ws' => applySets rs ws' l2) := by
  simp [applySets, List.foldlM_append, bind]

/-- scans performed one after the other agree with the concatenated `Set` lists -/
theorem scanAgrees_fold {β : Type} (rs : Nat) (f : List Nat → β → Res (List Nat)) (g : β → Res (List (Nat × Nat)))
    (hfg : ∀ ws b, ScanAgrees rs ws (f ws b) (g b)) :
    ∀ (l : List β) (ws : List Nat),
      ScanAgrees rs ws (l.foldlM f ws) (match mapME g l with | .ok ls => .ok ls.flatten | .error e => .error e) := by
  intro l
  induction l with
  | nil => intro ws; simp [mapME, ScanAgrees, applySets, pure, Except.pure]
  | cons b l ih =>
    intro ws
    simp only [List.foldlM, mapME, bind, Except.bind]
    have h1 := hfg ws b
    cases hg : g b with
    | error e =>
      rw [hg] at h1
      obtain ⟨e', he'⟩ := h1
      rw [he']
      exact ⟨e', rfl⟩
    | ok l1 =>
      rw [hg] at h1
      simp only [ScanAgrees] at h1
      rw [h1]
      cases hs : applySets rs ws l1 with
      | error e =>
        simp only []
        cases mapME g l with
        | error e' => exact ⟨e, rfl⟩
        | ok ls =>
          simp only [ScanAgrees, List.flatten_cons, applySets_append, hs]
          rfl
      | ok ws' =>
        simp only []
        have h2 := ih ws'
        cases hm : mapME g l with
        | error e' => rw [hm] at h2; exact h2
        | ok ls =>
          rw [hm] at h2
          simp only [ScanAgrees] at h2 ⊢
          rw [h2, List.flatten_cons, applySets_append, hs]
          rfl

theorem mapME_map_result {ε α β γ : Type} (g : α → Except ε β) (φ : β → γ) : ∀ l : List α,
    mapME (fun a => (g a).map φ) l = (mapME g l).map (List.map φ)
  | [] => rfl
  | a :: l => by
    simp only [mapME]
    rw [mapME_map_result g φ l]
    cases g a with
    | error e => rfl
    | ok b => cases mapME g l <;> rfl

theorem flatten_map_toList {α β : Type} (f : α → Option β) : ∀ l : List α,
    (l.map (fun a => (f a).toList)).flatten = l.filterMap f
  | [] => rfl
  | a :: l => by
    rw [List.map_cons, List.flatten_cons, flatten_map_toList f l, List.filterMap_cons]
    cases f a <;> rfl

/-- one pixel: the `Set` call of the model's cell, if it keeps one -/
theorem cellW_agrees (lum : List Nat) (w x0 y0 : Nat) (test : Nat → Bool) (rs yy : Nat) (ws : List Nat) (xx : Nat) :
    ScanAgrees rs ws (cellW lum w x0 y0 test rs yy ws xx)
      ((scanCell lum.toArray w x0 y0 test yy xx).map (fun c => (keepSet c).toList)) := by
  unfold cellW scanCell rd
  rw [List.getElem?_toArray]
  cases lum[(y0 + yy) * w + x0 + xx]? with
  | none => exact ⟨_, rfl⟩
  | some p =>
    cases ht : test (p % 256) with
    | false => simp [ScanAgrees, Except.map, keepSet, ht, applySets, pure, Except.pure]
    | true =>
      simp only [ScanAgrees, Except.map, keepSet, ht, if_true, Option.toList_some, applySets, List.foldlM_cons, List.foldlM_nil]
      cases setW rs ws (x0 + xx) (y0 + yy) <;> rfl

/-- **rectangle scan**: the pixel-by-pixel mirror of the Go loops and `Binarizer.scanRect` agree — the same `Set` calls in the
    same order when every read succeeds, a panic otherwise.  `scanAgrees_fold` twice: pixels of a row, rows of the rectangle. -/
theorem rectW_agrees (lum : List Nat) (w x0 y0 nx ny : Nat) (test : Nat → Bool) (rs : Nat) (ws : List Nat) :
    ScanAgrees rs ws (rectW lum w x0 y0 nx ny test rs ws) (scanRect lum.toArray w x0 y0 nx ny test) := by
  have hrow : ∀ ws yy, ScanAgrees rs ws (rowW lum w x0 y0 nx test rs ws yy)
      ((scanCells lum.toArray w x0 y0 nx test yy).map (List.filterMap keepSet)) := by
    intro ws yy
    have h := scanAgrees_fold rs (cellW lum w x0 y0 test rs yy) _ (cellW_agrees lum w x0 y0 test rs yy) (List.range' 0 nx) ws
    rw [mapME_map_result] at h
    unfold rowW scanCells
    rw [List.range_eq_range']
    cases hm : mapME (scanCell lum.toArray w x0 y0 test yy) (List.range' 0 nx) with
    | error e => rw [hm] at h; exact h
    | ok cells => rw [hm] at h; simpa only [Except.map, flatten_map_toList] using h
  have h := scanAgrees_fold rs (rowW lum w x0 y0 nx test rs) _ hrow (List.range' 0 ny) ws
  rw [mapME_map_result] at h
  unfold rectW scanRect
  rw [List.range_eq_range']
  cases hm : mapME (scanCells lum.toArray w x0 y0 nx test) (List.range' 0 ny) with
  | error e => rw [hm] at h; exact h
  | ok rows => rw [hm] at h; simpa only [Except.map, List.filterMap_flatten] using h

/-! ### the bucket-filling loop -/

/-- `(pixel & 0xff) >> LUMINANCE_SHIFT` -/
theorem bucket_cast (p : Nat) : GoVal.ishr (GoVal.iand ((p : Nat) : Int) 255) 3 = ((bucketOf p : Nat) : Int) := by
  rw [iand_255, show (3 : Int) = ((3 : Nat) : Int) from rfl, ishr_natCast, Nat.shiftRight_eq_div_pow]
  rfl

theorem bucketOf_lt (p : Nat) : bucketOf p < 32 := by
  unfold bucketOf
  have := Nat.mod_lt p (by decide : 256 > 0)
  omega

theorem histogram_getElem (ps : List Nat) (i : Nat) (h : i < (histogram ps).length) :
    (histogram ps)[i] = ps.countP (fun p => bucketOf p == i) := by
  simp [histogram]

theorem histogram_snoc (ps : List Nat) (p : Nat) :
    histogram (ps ++ [p]) = (histogram ps).set (bucketOf p) ((histogram ps)[bucketOf p]'(by rw [histogram_length]; exact bucketOf_lt p) + 1) := by
  apply List.ext_getElem
  · simp [histogram_length]
  · intro i h1 h2
    rw [histogram_getElem, List.getElem_set, List.countP_append]
    by_cases hb : bucketOf p = i
    · subst hb
      simp [histogram_getElem]
    · have : (bucketOf p == i) = false := by simpa using hb
      simp [hb, histogram_getElem, this]

open Gzx.Bits Gzx.GoVal in
/-- `localBuckets[(pixel & 0xff) >> 3]++` on the histogram of `ps`: the histogram of `ps` and the pixel -/
theorem hist_incr {σ ρ : Type} (ps : List Nat) (p : Nat) (k : List Int → Ctl σ ρ) :
    (tryC (idx (words (histogram ps)) (ishr (iand (p : Int) 255) 3)) fun t2 =>
      tryC (setIdx (words (histogram ps)) (ishr (iand (p : Int) 255) 3) (t2 + 1)) k) = k (words (histogram (ps ++ [p]))) := by
  rw [bucket_cast, updC _ (bucketOf p) (· + 1) _ rfl rfl (fun w => by simp), updWord,
    List.getElem?_eq_getElem (by rw [histogram_length]; exact bucketOf_lt _)]
  simp only []
  rw [histogram_snoc]

end Gzx.K17
