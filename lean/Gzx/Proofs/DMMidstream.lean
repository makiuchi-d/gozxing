/-
  C02: leaving C40 / Text encodation in mid-stream (complete triplets buffered, more characters follow):
  `c40HandleEOD` writes the triplets and the unlatch, and the invariant holds again.
-/
import Gzx.Proofs.DMTriplets
import Gzx.Proofs.DMHandlers
namespace Gzx.DMHighLevel

/-- the C40 / Text encoder has buffered the values of the characters `chars`, the last ones before `c.pos`, behind the latch -/
def Buffered (text : Bool) (c : Ctx) (a : Acc) (chars buf : List Nat) : Prop :=
  ∃ cw0, c.cw = cw0 ++ [if text then 239 else 230] ∧ DecodesTo refTables cw0 a ∧
    a.rev.reverse ++ chars = c.msg.take c.pos ∧ buf = cVals text chars

theorem c40HandleEOD_mid {syms : List SymbolInfo} {c c' : Ctx} {buf : List Nat}
    (k : Nat) (h3 : buf.length = 3 * k) (hmore : c.hasMore = true) (h : c40HandleEOD syms c buf = .ok c') :
    c'.cw = c.cw ++ ((writeTriplets buf).1 ++ [254]) ∧ c'.pos = c.pos ∧ c'.msg = c.msg ∧ c'.cfg = c.cfg ∧
      c'.skipAtEnd = c.skipAtEnd ∧ c'.newEnc = some ASCII := by
  obtain ⟨c2, av, x, kk, hav, he, _, rfl⟩ := c40HandleEOD_ok_iff.1 h
  unfold c40Available at hav
  obtain ⟨cu, hu, hav⟩ := bind_ok hav
  obtain ⟨cap, _, hav⟩ := bind_ok hav
  cases hav
  obtain ⟨ucw, umsg, upos, ucfg, uskip, _⟩ := update_spec hu
  have hmore2 : c2.hasMore = true := by
    unfold Ctx.hasMore Ctx.total at hmore ⊢; rw [umsg, upos, uskip]; exact hmore
  unfold c40Eod at he
  rw [if_neg (by omega), if_neg (by omega), if_pos (by omega)] at he
  simp only [hmore2, or_true, if_true, Option.some.injEq, Prod.mk.injEq] at he
  obtain ⟨rfl, rfl⟩ := he
  exact ⟨by simp [Ctx.leave, ucw], by simp [Ctx.leave, upos], umsg, ucfg, uskip, rfl⟩

/-- `dm_encoder_invariant`, C40 / Text left in mid-stream -/
theorem c40HandleEOD_midstream {syms : List SymbolInfo} {text : Bool} {c c' : Ctx} {a : Acc}
    {chars buf : List Nat} (hB : Buffered text c a chars buf) (hb : ∀ x ∈ chars, x < 256)
    (k : Nat) (h3 : buf.length = 3 * k) (hmore : c.hasMore = true)
    (h : c40HandleEOD syms c buf = .ok c') :
    Inv refTables c' (a.pushAll chars).endSeg ∧ c'.pos = c.pos ∧ c'.msg = c.msg ∧ c'.newEnc = some ASCII := by
  obtain ⟨cw0, hcw, hdec, htext, hbuf⟩ := hB
  obtain ⟨e1, e2, e3, _, _, e6⟩ := c40HandleEOD_mid k h3 hmore h
  obtain ⟨es, hr, hem, hv⟩ := chars_run text chars hb
  rw [← hbuf] at hr hv
  have := hdec.append (reads_cvals_closed refTables text cw0.length k buf h3 hv {} es hr)
  rw [hem] at this
  refine ⟨⟨?_, ?_, rfl⟩, e2, e3, e6⟩
  · rw [e1, hcw]; simpa [List.append_assoc] using this
  · rw [Acc.endSeg_rev, pushAll_rev, e3, e2, htext]

end Gzx.DMHighLevel
