/-
  C08: the interleaving at the level of INDEX MAPS.  `ownerRef` is the standard's rule "codeword p of the symbol
  belongs to block p mod B".  It makes the codeword stream the transpose of the blocks: position `p` is entry
  `p / B` of block `p % B` (`ownerRef_eq`), and the three fill loops of the decoder's DataBlocks_getDataBlocks walk
  that same map (`dbTargets_uniform`; `dbTargets_special` for version 24 with its rotated error loop).  What is read
  off each row of Table 7 is only the shape of its version entry (`rowShape`).
-/
import Gzx.Ref.DM
import Gzx.Model.DMDecoder
import Gzx.Proofs.DMRow
import Gzx.Proofs.ListGrid
namespace Gzx.DMProofs
open Gzx Gzx.DMRef

/-- the (block, index within block) that holds codeword `p` of the reference codeword sequence:
    data codeword `p` is the `p / B`-th data codeword of block `p mod B`; error codeword `k = p - nData` is the
    `k / B`-th error codeword of block `p mod B` and sits behind that block's data codewords -/
def ownerRef (s : Sym) (p : Nat) : Nat × Nat :=
  if p < s.nData then (p % s.blocks, p / s.blocks)
  else (p % s.blocks, s.dataLen (p % s.blocks) + (p - s.nData) / s.blocks)

/-- the flat key `j * 4096 + i` of a target (block `j`, index `i`) -/
def keysOf (ts : List (Nat × Nat)) : List Nat := ts.map (fun t => t.1 * 4096 + t.2)

/-- one pass over a key list with a bit set: no key twice, and the set of keys seen -/
def dupFreeKeys : List Nat → Nat → Bool × Nat
  | [], seen => (true, seen)
  | c :: cs, seen => if seen.testBit c then (false, seen) else dupFreeKeys cs (seen ||| (1 <<< c))

/-! ## the stream is the transpose of the blocks -/

theorem ownerRef_eq (s : Sym) (hB : 0 < s.blocks) (p : Nat) : ownerRef s p = (p % s.blocks, p / s.blocks) := by
  unfold ownerRef
  split
  · rfl
  · rename_i hlt
    have hb := Nat.mod_lt p hB
    have hp := Nat.div_add_mod' p s.blocks
    generalize p % s.blocks = b at *
    generalize p / s.blocks = j at *
    -- `dataLen b` is the least `D` with `b + D * blocks ≥ nData`
    have hD := Nat.div_add_mod' (s.nData + s.blocks - 1 - b) s.blocks
    have hr := Nat.mod_lt (s.nData + s.blocks - 1 - b) hB
    rw [show (s.nData + s.blocks - 1 - b) / s.blocks = s.dataLen b from rfl] at hD
    have hDj : s.dataLen b < j + 1 := (Nat.div_lt_iff_lt_mul hB).2 (by rw [Nat.add_mul]; omega)
    obtain ⟨k, rfl⟩ : ∃ k, j = s.dataLen b + k := ⟨j - s.dataLen b, by omega⟩
    rw [Nat.add_mul] at hp
    rw [div_eq_of_bounds (k := k) (by omega) (by omega)]

/-- block `b` has as many codewords as there are stream positions `b, b + B, …` below `total` -/
theorem blockLen_eq (s : Sym) (hB : 0 < s.blocks) (hE : s.blocks * s.blkErr = s.nErr) {b : Nat} (hb : b < s.blocks) :
    (s.total + s.blocks - 1 - b) / s.blocks = s.dataLen b + s.blkErr := by
  have hD := Nat.div_add_mod' (s.nData + s.blocks - 1 - b) s.blocks
  have hr := Nat.mod_lt (s.nData + s.blocks - 1 - b) hB
  rw [show (s.nData + s.blocks - 1 - b) / s.blocks = s.dataLen b from rfl] at hD
  rw [Nat.mul_comm] at hE
  unfold Sym.total
  apply div_eq_of_bounds <;> rw [Nat.add_mul] <;> omega

theorem lt_blockLen_iff (s : Sym) (hB : 0 < s.blocks) (hE : s.blocks * s.blkErr = s.nErr) {b : Nat}
    (hb : b < s.blocks) (i : Nat) : i < s.dataLen b + s.blkErr ↔ b + i * s.blocks < s.total := by
  rw [← blockLen_eq s hB hE hb, Nat.lt_iff_add_one_le, Nat.le_div_iff_mul_le hB, Nat.add_mul]
  omega

/-! ## the decoder's three fill loops walk the same map -/

/-- every version but 24: the fill loops are rows `0 … L-2`, row `L-1` and rows `L …` of one grid of `n` columns -/
theorem dbTargets_uniform (v : DMDec.Version) (n L : Nat) (hb : v.ecBlocks = [⟨n, L⟩]) (hn : 0 < n) (hL : 0 < L)
    (h24 : v.versionNumber ≠ 24) :
    DMDec.dbTargets v = .ok ((List.range ((L + v.ecCodewords) * n)).map (fun p => (p % n, p / n))) := by
  obtain ⟨L, rfl⟩ : ∃ k, L = k + 1 := ⟨L - 1, by omega⟩
  obtain ⟨m, hm⟩ : ∃ m, n = m + 1 := ⟨n - 1, by omega⟩
  have hs : DMDec.blockShapes v = List.replicate n (L + 1, v.ecCodewords + (L + 1)) := by
    simp [DMDec.blockShapes, hb]
  unfold DMDec.dbTargets
  rw [hs, hm, List.replicate_succ, ← hm]
  have h24' : (v.versionNumber == 24) = false := beq_eq_false_iff_ne.2 h24
  have e1 : v.ecCodewords + (L + 1) - v.ecCodewords = L + 1 := by omega
  have e2 : ¬ v.ecCodewords + (L + 1) < v.ecCodewords + 1 := by omega
  have e3 : (List.replicate m (L + 1, v.ecCodewords + (L + 1))).length + 1 = n := by simp [hm]
  simp only [e1, e2, h24', if_false, Bool.false_eq_true, List.length_cons, e3, Nat.add_sub_cancel]
  rw [← flatMap_range_cols (fun j i => (j, i)) n, List.range_add, List.range_succ]
  simp [List.flatMap_append, List.flatMap_map]

/-- version 24 (8 blocks of `L`, 2 of `L - 1` data codewords): the error loop starts at block 8 and writes one index
    lower in the two short blocks, which continues the same grid of 10 columns -/
theorem dbTargets_special (v : DMDec.Version) (L : Nat) (hb : v.ecBlocks = [⟨8, L⟩, ⟨2, L - 1⟩]) (hL : 2 ≤ L)
    (h24 : v.versionNumber = 24) :
    DMDec.dbTargets v =
      .ok ((List.range ((L - 1) * 10 + 8 + v.ecCodewords * 10)).map (fun p => (p % 10, p / 10))) := by
  obtain ⟨L, rfl⟩ : ∃ k, L = k + 1 := ⟨L - 1, by omega⟩
  have hs : DMDec.blockShapes v = List.replicate 8 (L + 1, v.ecCodewords + (L + 1)) ++
      List.replicate 2 (L, v.ecCodewords + L) := by simp [DMDec.blockShapes, hb]
  unfold DMDec.dbTargets
  rw [hs]
  have e1 : v.ecCodewords + (L + 1) - v.ecCodewords = L + 1 := by omega
  have e2 : ¬ v.ecCodewords + (L + 1) < v.ecCodewords + 1 := by omega
  simp only [List.replicate, List.cons_append, List.nil_append, List.length_cons, List.length_nil, e1, e2, h24,
    beq_self_eq_true, if_true, if_false, Nat.add_sub_cancel]
  rw [flatMap_range_cols (fun j i => (j, i)) 10 L,
    flatMap_range_cols (fun j i => ((j + 8) % 10, if (j + 8) % 10 > 7 then L + 1 + i - 1 else L + 1 + i)) 10]
  congr 1
  rw [List.range_add, List.range_add, List.map_append, List.map_append, List.map_map, List.map_map]
  congr 1
  · congr 1
    apply List.map_congr_left
    intro j hj
    have := List.mem_range.1 hj
    simp only [Function.comp_def, Prod.mk.injEq]
    omega
  · apply List.map_congr_left
    intro q _
    simp only [Function.comp_def, Prod.mk.injEq]
    constructor
    · omega
    · split <;> omega

/-! ## the rows of Table 7 -/

/-- what is read off a row: the version entry the standard prescribes for it has the block shapes
    `(dataLen b, dataLen b + blkErr)` and is one group of equal blocks, or for version 24 the 8 + 2 blocks -/
def rowShape (k : Nat) (s : Sym) : Bool :=
  let v := DMDec.ofSym k s
  let lens := (List.range s.blocks).map (fun b => s.dataLen b + s.blkErr)
  decide (DMDec.blockShapes v = (List.range s.blocks).map (fun b => (s.dataLen b, s.dataLen b + s.blkErr))) &&
  (if k = 24 then
    v.ecBlocks == [⟨8, s.blkData⟩, ⟨2, s.blkData - 1⟩] && decide (2 ≤ s.blkData) && s.blocks == 10 &&
      (s.blkData - 1) * 10 + 8 + s.blkErr * 10 == s.total
   else
    v.ecBlocks == [⟨s.blocks, s.blkData⟩] && decide (0 < s.blkData) && (s.blkData + s.blkErr) * s.blocks == s.total) &&
  lens.all (fun l => decide (l ≤ 4096))

theorem rowShape_table : ∀ p ∈ table7.zipIdx, rowShape (p.2 + 1) p.1 = true := by decide +kernel

theorem targets_of_rowShape {k : Nat} {s : Sym} (hB : 0 < s.blocks) (h : rowShape k s = true) :
    DMDec.dbTargets (DMDec.ofSym k s) = .ok ((List.range s.total).map (ownerRef s)) := by
  unfold rowShape at h
  simp only [Bool.and_eq_true] at h
  obtain ⟨⟨_, hv⟩, _⟩ := h
  have hown : ∀ n, n = s.total → (List.range n).map (fun p => (p % s.blocks, p / s.blocks)) =
      (List.range s.total).map (ownerRef s) := by
    intro n hn
    rw [hn]
    exact List.map_congr_left (fun p _ => (ownerRef_eq s hB p).symm)
  split at hv
  · rename_i hk
    simp only [Bool.and_eq_true, beq_iff_eq, decide_eq_true_eq] at hv
    obtain ⟨⟨⟨hb, hL⟩, h10⟩, ht⟩ := hv
    rw [dbTargets_special _ _ hb hL (by rw [hk]; rfl), ← hown _ ht, h10]
    rfl
  · rename_i hk
    simp only [Bool.and_eq_true, beq_iff_eq, decide_eq_true_eq] at hv
    obtain ⟨⟨hb, hL⟩, ht⟩ := hv
    rw [dbTargets_uniform _ _ _ hb hB hL hk, ← hown _ ht]
    rfl

theorem dupFreeKeys_of_nodup : ∀ (cs : List Nat) (seen : Nat), cs.Nodup → (∀ c ∈ cs, seen.testBit c = false) →
    (dupFreeKeys cs seen).1 = true ∧
      ∀ x, seen.testBit x = true ∨ x ∈ cs → (dupFreeKeys cs seen).2.testBit x = true
  | [], _, _, _ => ⟨rfl, fun _ h => h.elim id (fun h => by cases h)⟩
  | c :: cs, seen, hnd, hfree => by
    obtain ⟨hc, hnd'⟩ := List.nodup_cons.1 hnd
    have hbit : ∀ x, (seen ||| 1 <<< c).testBit x = (seen.testBit x || decide (c = x)) := fun x => by
      rw [Nat.testBit_or, Nat.one_shiftLeft, Nat.testBit_two_pow]
    have ih := dupFreeKeys_of_nodup cs (seen ||| 1 <<< c) hnd' (by
      intro c' hc'
      have hne : c ≠ c' := fun e => hc (e ▸ hc')
      rw [hbit, hfree c' (List.mem_cons_of_mem _ hc'), decide_eq_false hne]
      rfl)
    simp only [dupFreeKeys, hfree c List.mem_cons_self, Bool.false_eq_true, if_false]
    refine ⟨ih.1, fun x hx => ih.2 x ?_⟩
    rcases hx with h | h
    · exact Or.inl (by rw [hbit, h]; rfl)
    · rcases List.mem_cons.1 h with rfl | h
      · exact Or.inl (by rw [hbit, decide_eq_true rfl, Bool.or_true])
      · exact Or.inr h

end Gzx.DMProofs
