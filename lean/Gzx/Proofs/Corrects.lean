/-
  Assembly: `Decode` restores a code word after corruption of at most ⌊r/2⌋ positions
  (`decodeD_corrects`); one changed symbol with r ≥ 2 is the special case `decodeD_single`.
  Error pattern of an error word, syndromes as power sums, Euclid, Chien, Forney, correction loop.
  Helper lemmas for Properties/C04.lean.
-/
import Gzx.Proofs.Forney
import Gzx.Proofs.Sugiyama
namespace Gzx.Proofs.Corrects
open Gzx Gzx.GF Gzx.RS Gzx.Ref.GF Gzx.Proofs.GF Gzx.Proofs.Poly Gzx.Proofs.Conv Gzx.Proofs.Coef
  Gzx.Proofs.MinDist Gzx.Proofs.KeyEq Gzx.Proofs.Locator Gzx.Proofs.Sugiyama
  Gzx.Proofs.Chien Gzx.Proofs.Forney Gzx.Proofs.RS

section F
variable {F : GF} (hF : FieldOK F)
include hF

/-- the error pattern of an error word: the non-zero entries of `pairs` -/
def errPairs (F : GF) (e : List Nat) : List (Nat × Nat) :=
  (pairs F.prim F.size F.base e).filter (fun p => p.1 != 0)

theorem errPairs_length (e : List Nat) (he : InR F.size e) :
    (errPairs F e).length ≤ weight e := pairs_filter_length hF.2 F.base e he

theorem errPairs_errSet (e : List Nat) (hlen : e.length ≤ F.size - 1) :
    ErrSet F.prim F.size (errPairs F e) (invOf F) := by
  have ok := hF.2
  refine ⟨?_, ?_, ?_, ?_, ?_⟩
  · intro p hp
    exact pairs_in ok F.base e p (List.mem_filter.1 hp).1
  · exact (pairs_distinct ok F.base e hlen).filter _
  · intro p hp
    obtain ⟨len, _, h2, _⟩ := pairs_desc F.prim F.size F.base e p (List.mem_filter.1 hp).1
    rw [h2]; exact pw_ne_zero ok len
  · intro p hp
    have := (List.mem_filter.1 hp).2
    simpa using this
  · intro p hp
    obtain ⟨len, _, h2, _⟩ := pairs_desc F.prim F.size F.base e p (List.mem_filter.1 hp).1
    have := invOf_spec hF p.2 (by rw [h2]; exact pw_ne_zero ok len) (by rw [h2]; exact pw_lt ok len)
    exact ⟨this.2.1, this.2.2.2⟩

theorem syndrome_psum (c e : List Nat) (hlen : e.length = c.length) (hc : InR F.size c) (he : InR F.size e)
    (i : Nat) (hz : evalH F.prim (pw F.prim F.size (i + F.base)) c = 0) :
    evalH F.prim (pw F.prim F.size (i + F.base)) (List.zipWith (· ^^^ ·) c e) = psum F.prim (errPairs F e) i := by
  have ok := hF.2
  have hs := size_pos hF
  have := evalFrom_xor ok (pw F.prim F.size (i + F.base)) c e 0 0 hlen.symm hs hs hc he
  rw [Nat.xor_zero] at this
  show evalFrom F.prim _ 0 _ = _
  rw [this]
  show evalH F.prim _ c ^^^ evalH F.prim _ e = _
  rw [hz, Nat.zero_xor, evalH_eq_psum ok F.base i e he]
  unfold errPairs
  rw [psum_filter ok i _ (pairs_in ok F.base e)]

/-! ### the correction loop -/

def logv (F : GF) (x : Nat) : Nat :=
  match F.logOf x with
  | .ok l => l
  | .error _ => 0

/-- the error value at the position addressed by the locator `x` in a word of length `n` -/
def errAt (F : GF) (e : List Nat) (n x : Nat) : Nat := e[n - 1 - logv F x]?.getD 0

/-- the correction loop as a pure function -/
def applyPure (F : GF) (e : List Nat) : List Nat → List Nat → List Nat
  | [], w => w
  | x :: xs, w =>
    applyPure F e xs (w.set (w.length - 1 - logv F x) ((w[w.length - 1 - logv F x]?.getD 0) ^^^ errAt F e w.length x))

omit hF in
theorem applyPure_length (e : List Nat) : ∀ (locs w : List Nat), (applyPure F e locs w).length = w.length
  | [], _ => rfl
  | x :: xs, w => by
    show (applyPure F e xs _).length = _
    rw [applyPure_length e xs, List.length_set]

theorem logv_pw (len : Nat) (h : len < F.size - 1) : logv F (pw F.prim F.size len) = len := by
  unfold logv; rw [F_log_pw hF len h]

theorem apply_eq_pure (e : List Nat) : ∀ (locs w : List Nat),
    (∀ x, x ∈ locs → ∃ len, len < w.length ∧ x = pw F.prim F.size len) → w.length ≤ F.size - 1 →
    applyCorrections F locs (locs.map (errAt F e w.length)) w = .ok (applyPure F e locs w)
  | [], w, _, _ => by unfold applyCorrections; rfl
  | x :: xs, w, hv, hn => by
    obtain ⟨len, hlen, hx⟩ := hv x (by simp)
    have hlog : F.logOf x = .ok len := by rw [hx]; exact F_log_pw hF len (by omega)
    have hlv : logv F x = len := by unfold logv; rw [hlog]
    have hpos : w.length - 1 - len < w.length := by omega
    have hbad : ¬ w.length < len + 1 := by omega
    rw [List.map_cons]
    unfold applyCorrections
    simp only [hlog, liftD, bind, Except.bind, hbad, if_false, List.getElem?_eq_getElem hpos]
    have := apply_eq_pure e xs (w.set (w.length - 1 - len) (w[w.length - 1 - len] ^^^ errAt F e w.length x))
      (fun y hy => by rw [List.length_set]; exact hv y (List.mem_cons_of_mem _ hy))
      (by rw [List.length_set]; exact hn)
    rw [List.length_set] at this
    rw [this]
    show _ = Except.ok (applyPure F e xs _)
    rw [hlv, List.getElem?_eq_getElem hpos]
    rfl

theorem applyPure_get (e : List Nat) (n : Nat) (hn : n ≤ F.size - 1) : ∀ (locs w : List Nat), locs.Nodup →
    (∀ x, x ∈ locs → ∃ len, len < n ∧ x = pw F.prim F.size len) → w.length = n →
    ∀ j, j < n → (applyPure F e locs w)[j]?.getD 0 =
      if pw F.prim F.size (n - 1 - j) ∈ locs then (w[j]?.getD 0) ^^^ errAt F e n (pw F.prim F.size (n - 1 - j))
      else w[j]?.getD 0
  | [], w, _, _, _, j, _ => by simp [applyPure]
  | x :: xs, w, hnd, hv, hw, j, hj => by
    have ok := hF.2
    have hnd' := List.nodup_cons.1 hnd
    obtain ⟨len, hlen, hx⟩ := hv x (by simp)
    have hlv : logv F x = len := by rw [hx]; exact logv_pw hF len (by omega)
    show (applyPure F e xs (w.set (w.length - 1 - logv F x) _))[j]?.getD 0 = _
    rw [hw, hlv]
    have ih := applyPure_get e n hn xs (w.set (n - 1 - len) ((w[n - 1 - len]?.getD 0) ^^^ errAt F e n x)) hnd'.2
      (fun y hy => hv y (List.mem_cons_of_mem _ hy)) (by rw [List.length_set]; exact hw) j hj
    rw [ih]
    by_cases hjp : j = n - 1 - len
    · -- the position corrected by `x`
      have hxe : pw F.prim F.size (n - 1 - j) = x := by
        rw [hx, hjp, Nat.sub_sub_self (Nat.le_sub_one_of_lt hlen)]
      have hnotin : pw F.prim F.size (n - 1 - j) ∉ xs := by rw [hxe]; exact hnd'.1
      have hin : pw F.prim F.size (n - 1 - j) ∈ x :: xs := by rw [hxe]; simp
      rw [if_neg hnotin, if_pos hin, List.getElem?_set, if_pos hjp.symm, if_pos (by rw [hw]; omega), hxe, hjp]
      rfl
    · have hne : pw F.prim F.size (n - 1 - j) ≠ x := by
        rw [hx]
        intro h
        by_cases hlt : n - 1 - j < len
        · exact pw_inj ok _ _ hlt (by omega) h
        · exact pw_inj ok _ _ (by omega) (by omega) h.symm
      have hmem : pw F.prim F.size (n - 1 - j) ∈ x :: xs ↔ pw F.prim F.size (n - 1 - j) ∈ xs := by
        constructor
        · intro h
          rcases List.mem_cons.1 h with h | h
          · exact absurd h hne
          · exact h
        · exact List.mem_cons_of_mem _
      have hset : (w.set (n - 1 - len) ((w[n - 1 - len]?.getD 0) ^^^ errAt F e n x))[j]? = w[j]? := by
        rw [List.getElem?_set, if_neg (fun h => hjp h.symm)]
      rw [hset]
      by_cases hm : pw F.prim F.size (n - 1 - j) ∈ xs
      · rw [if_pos hm, if_pos (hmem.2 hm)]
      · rw [if_neg hm, if_neg (fun h => hm (hmem.1 h))]

theorem applyPure_restores (c e : List Nat) (hlen : e.length = c.length) (hn : c.length ≤ F.size - 1)
    (locs : List Nat) (hnd : locs.Nodup)
    (hvalid : ∀ x, x ∈ locs → ∃ len, len < c.length ∧ x = pw F.prim F.size len)
    (hcover : ∀ j (hj : j < e.length), e[j] ≠ 0 → pw F.prim F.size (c.length - 1 - j) ∈ locs) :
    applyPure F e locs (List.zipWith (· ^^^ ·) c e) = c := by
  have hwlen : (List.zipWith (· ^^^ ·) c e).length = c.length := by
    rw [List.length_zipWith, hlen, Nat.min_self]
  apply List.ext_getElem?
  intro j
  by_cases hj : j < c.length
  · have hget := applyPure_get hF e c.length hn locs (List.zipWith (· ^^^ ·) c e) hnd hvalid hwlen j hj
    have hlj : j < (applyPure F e locs (List.zipWith (· ^^^ ·) c e)).length := by
      rw [applyPure_length, hwlen]; exact hj
    have hje : j < e.length := by rw [hlen]; exact hj
    have hwj : (List.zipWith (· ^^^ ·) c e)[j]?.getD 0 = c[j] ^^^ e[j] := by
      rw [List.getElem?_zipWith, List.getElem?_eq_getElem hj, List.getElem?_eq_getElem hje]
      rfl
    have hEj : errAt F e c.length (pw F.prim F.size (c.length - 1 - j)) = e[j] := by
      unfold errAt
      rw [logv_pw hF _ (by omega), Nat.sub_sub_self (Nat.le_sub_one_of_lt hj), List.getElem?_eq_getElem hje]
      rfl
    have hg : (applyPure F e locs (List.zipWith (· ^^^ ·) c e))[j]?.getD 0 =
        (applyPure F e locs (List.zipWith (· ^^^ ·) c e))[j] := by
      rw [List.getElem?_eq_getElem hlj]; rfl
    rw [List.getElem?_eq_getElem hlj, List.getElem?_eq_getElem hj, ← hg, hget, hwj, hEj]
    congr 1
    by_cases hm : pw F.prim F.size (c.length - 1 - j) ∈ locs
    · rw [if_pos hm, Nat.xor_assoc, Nat.xor_self, Nat.xor_zero]
    · -- not a located position: the error symbol there is zero
      have hej0 : e[j] = 0 := Classical.byContradiction fun hne0 => hm (hcover j hje hne0)
      rw [if_neg hm, hej0, Nat.xor_zero]
  · rw [List.getElem?_eq_none (by rw [applyPure_length, hwlen]; omega), List.getElem?_eq_none (by omega)]

/-- **Decode corrects up to ⌊r/2⌋ corrupted positions** (model decoder with failure reasons) -/
theorem decodeD_corrects (hb : F.base ≤ 1) (c e : List Nat) (r : Nat) (hlen : e.length = c.length)
    (hn : c.length ≤ F.size - 1) (hc : InR F.size c) (he : InR F.size e)
    (hz : ∀ i, i < r → evalH F.prim (pw F.prim F.size (i + F.base)) c = 0)
    (hne : c ≠ []) (hrb : r + F.base ≤ F.size) (hwt : 2 * weight e ≤ r) :
    decodeD F (List.zipWith (· ^^^ ·) c e) r = .ok c := by
  have ok := hF.2
  have hsz := size_pos hF
  have hnpos : 0 < c.length := List.length_pos_iff.2 hne
  have hwin : InR F.size (List.zipWith (· ^^^ ·) c e) := InR_zipWith_xor ok c e hc he
  have hwne : List.zipWith (· ^^^ ·) c e ≠ [] := by
    intro h
    rcases List.zipWith_eq_nil_iff.1 h with h | h
    · exact hne h
    · rw [h] at hlen; simp at hlen; omega
  have hwlen : (List.zipWith (· ^^^ ·) c e).length = c.length := by simp [hlen]
  have hE := errPairs_errSet hF e (by omega)
  have hLlen : 2 * (errPairs F e).length ≤ r := by
    have := errPairs_length hF e he; omega
  by_cases hL0 : errPairs F e = []
  · -- no error at all
    have hez : ∀ x, x ∈ e → x = 0 := by
      apply pairs_zero ok F.base e he
      intro p hp
      by_cases h : p.1 = 0
      · exact h
      · exfalso
        have : p ∈ errPairs F e := List.mem_filter.2 ⟨hp, by simpa using h⟩
        rw [hL0] at this; simp at this
    have hw0 : weight e = 0 := by
      unfold weight
      rw [List.length_eq_zero_iff, List.filter_eq_nil_iff]
      intro x hx
      simp [hez x hx]
    rw [zipWith_xor_weight_zero c e hlen hw0]
    exact decodeD_clean hF c hne hc r hrb hz
  · have hs1 : 1 ≤ (errPairs F e).length := List.length_pos_iff.2 hL0
    rw [decodeD_eq hF _ hwne hwin r hrb]
    have hmapS : syndList F (List.zipWith (· ^^^ ·) c e) r = (List.range' 0 r).map (psum F.prim (errPairs F e)) := by
      apply List.map_congr_left
      intro i hi
      exact syndrome_psum hF c e hlen hc he i (hz i (by have := List.mem_range'_1.1 hi; omega))
    rw [hmapS]
    have hnotall : ((List.range' 0 r).map (psum F.prim (errPairs F e))).all (· == 0) = false := by
      cases hall : ((List.range' 0 r).map (psum F.prim (errPairs F e))).all (· == 0) with
      | false => rfl
      | true =>
        exfalso
        rw [List.all_eq_true] at hall
        have hv := vandermonde ok (errPairs F e) hE.inr hE.distinct (fun i hi => by
          have := hall (psum F.prim (errPairs F e) i)
            (List.mem_map.2 ⟨i, List.mem_range'_1.2 (by omega), rfl⟩)
          simpa using this)
        obtain ⟨p, hp⟩ := List.exists_mem_of_ne_nil _ hL0
        exact hE.ynz p hp (hv p hp)
    rw [hnotall]
    simp only [Bool.false_eq_true, if_false, bind, Except.bind, liftD]
    have hSne : ((List.range' 0 r).map (psum F.prim (errPairs F e))).reverse ≠ [] := by
      intro h
      have : ((List.range' 0 r).map (psum F.prim (errPairs F e))) = [] := by simpa using h
      rw [this] at hnotall; simp at hnotall
    have hSin : InR F.size ((List.range' 0 r).map (psum F.prim (errPairs F e))).reverse := by
      intro x hx
      obtain ⟨i, _, rfl⟩ := List.mem_map.1 (List.mem_reverse.1 hx)
      exact psum_lt ok _ _
    have hSwf := wf_normalize hsz _ hSin
    have hSlen : (normalize ((List.range' 0 r).map (psum F.prim (errPairs F e))).reverse).length ≤ r := by
      have := normalize_length_le _ hSne
      simpa using this
    have hScoef : ∀ m, coef (normalize ((List.range' 0 r).map (psum F.prim (errPairs F e))).reverse) m =
        Sfun F.prim (errPairs F e) r m := by
      intro m
      rw [coef_normalize, coef_reverse_map]
      rfl
    obtain ⟨sigma, omega, hrun, hsigwf, homwf, hsiglen, hsigc, homc⟩ :=
      euclid_output hF (errPairs F e) (invOf F) hE r hs1 hLlen _ hSwf hSlen hScoef
    rw [hrun]
    simp only
    obtain ⟨locs, hlocs, hlnd, hlmem⟩ := findErrorLocations_ok hF (errPairs F e) hE hs1 sigma hsigwf hsiglen hsigc
    rw [hlocs]
    simp only
    -- the locations are a permutation of the locators
    have hLnd : ((errPairs F e).map (·.2)).Nodup := by
      rw [List.nodup_iff_pairwise_ne, List.pairwise_map]; exact hE.distinct
    have hperm : locs.Perm ((errPairs F e).map (·.2)) := by
      rw [List.perm_ext_iff_of_nodup hlnd hLnd]
      intro x
      rw [hlmem x, List.mem_map]
    have hvalid : ∀ x, x ∈ locs → ∃ len, len < c.length ∧ x = pw F.prim F.size len := by
      intro x hx
      obtain ⟨p, hp, rfl⟩ := (hlmem x).1 hx
      obtain ⟨len, hl, h2, _⟩ := pairs_desc F.prim F.size F.base e p (List.mem_filter.1 hp).1
      exact ⟨len, by omega, h2⟩
    -- error values: the pair of an error carries Y·X^base; the magnitude step multiplies by X⁻¹ exactly when base ≠ 0,
    -- which undoes X^base only for base ≤ 1 (this is where `hb` is needed)
    have hEv : ∀ p, p ∈ errPairs F e →
        (if F.base ≠ 0 then gmul F.prim p.1 (invOf F p.2) else p.1) = errAt F e c.length p.2 := by
      intro p hp
      obtain ⟨len, hl, h2, h1⟩ := pairs_desc F.prim F.size F.base e p (List.mem_filter.1 hp).1
      have hlv : logv F p.2 = len := by rw [h2]; exact logv_pw hF len (by omega)
      have hej : (e[e.length - 1 - len]?.getD 0) < F.size := by
        rw [List.getD_getElem?]
        split
        · exact he _ (List.getElem_mem _)
        · exact hsz
      unfold errAt
      rw [hlv, ← hlen, h1]
      by_cases hb0 : F.base = 0
      · simp only [hb0, ne_eq, not_true_eq_false, if_false, Nat.mul_zero]
        show gmul F.prim _ 1 = _
        rw [gmul_one_right ok _ hej]
      · have hb1 : F.base = 1 := Nat.le_antisymm hb (Nat.pos_of_ne_zero hb0)
        have hspec := invOf_spec hF p.2 (hE.xnz p hp) (hE.inr p hp).2
        simp only [hb1, ne_eq, Nat.succ_ne_zero, not_false_eq_true, if_true, Nat.mul_one]
        rw [← h2, gmul_assoc ok _ _ _ hej (hE.inr p hp).2 hspec.2.1, hspec.2.2.2, gmul_one_right ok _ hej]
    have hmag : findErrorMagnitudes F omega locs = .ok (locs.map (errAt F e c.length)) :=
      magLoop_ok hF (errPairs F e) hE omega homwf homc locs hlnd hperm (errAt F e c.length) hEv locs [] rfl
    rw [hmag]
    simp only
    have happ := apply_eq_pure hF e locs (List.zipWith (· ^^^ ·) c e)
      (fun x hx => by rw [hwlen]; exact hvalid x hx) (by rw [hwlen]; exact hn)
    rw [hwlen] at happ
    rw [happ]
    congr 1
    -- every non-zero error symbol has its locator among the locations
    apply applyPure_restores hF c e hlen hn locs hlnd hvalid
    intro j hje hne0
    rw [hlmem]
    refine ⟨_, List.mem_filter.2 ⟨pairs_mem F.prim F.size F.base e j hje, ?_⟩, by simp only; rw [hlen]⟩
    have : gmul F.prim e[j] (pw F.prim F.size ((e.length - 1 - j) * F.base)) ≠ 0 :=
      gmul_ne_zero ok _ _ (he _ (List.getElem_mem _)) (pw_lt ok _) hne0 (pw_ne_zero ok _)
    simpa using this

end F

/-- one corrupted symbol is corrected: the changed word differs from `c` by an error word of weight ≤ 1 -/
theorem decodeD_single {F : GF} (hF : FieldOK F) (hb : F.base ≤ 1) (c : List Nat) (r j e : Nat) (hr : 2 ≤ r)
    (hrb : r + F.base ≤ F.size) (hn : c.length ≤ F.size - 1) (hc : InR F.size c)
    (hz : ∀ i, i < r → evalH F.prim (pw F.prim F.size (i + F.base)) c = 0)
    (hj : j < c.length) (he : e < F.size) :
    decodeD F (c.set j (c[j] ^^^ e)) r = .ok c := by
  have hlen : (c.set j (c[j] ^^^ e)).length = c.length := List.length_set
  have hv : InR F.size (c.set j (c[j] ^^^ e)) := by
    intro y hy
    rcases List.mem_or_eq_of_mem_set hy with h | h
    · exact hc y h
    · rw [h]; exact xor_lt_size hF.2 _ _ (hc _ (List.getElem_mem hj)) he
  have hwt := weight_zipWith_set c j (c[j] ^^^ e)
  have := decodeD_corrects hF hb c (List.zipWith (· ^^^ ·) c (c.set j (c[j] ^^^ e))) r
    (by rw [List.length_zipWith, hlen, Nat.min_self]) hn hc (InR_zipWith_xor hF.2 _ _ hc hv) hz
    (List.ne_nil_of_length_pos (Nat.zero_lt_of_lt hj)) hrb (by omega)
  rwa [zipWith_xor_cancel c _ hlen] at this

end Gzx.Proofs.Corrects
