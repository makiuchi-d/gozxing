/-
  Helper lemmas for Properties/C03Row128.lean: the whole Code 128 DecodeRow model on a drawn symbol
  (any left / right quiet zone ≥ 0, any scale ≥ 1) equals the symbol-level reader on the drawn symbol characters.
-/
import Gzx.Proofs.Row128Main
namespace Gzx.Row128
open Gzx Gzx.OneD

theorem fullRuns_cons (P : List (List Nat)) (c : Nat) (codes : List Nat) :
    fullRuns P (c :: codes) = P.getD c [] ++ fullRuns P codes := rfl

theorem fullRuns_append (P : List (List Nat)) (a b : List Nat) : fullRuns P (a ++ b) = fullRuns P a ++ fullRuns P b := by
  simp [fullRuns]

theorem codeRuns_append (P : List (List Nat)) (s : Nat) (a b : List Nat) :
    codeRuns P s (a ++ b) = codeRuns P s a ++ codeRuns P s b := by
  simp [codeRuns]

theorem codeRuns_body (P : List (List Nat)) (s : Nat) (body : List Nat)
    (h : ∀ c ∈ body, (P.getD c []).length = 6) : codeRuns P s body = (fullRuns P body).map (s * ·) := by
  induction body with
  | nil => rfl
  | cons c body ih =>
    rw [codeRuns_cons, fullRuns_cons, List.map_append, ih (fun x hx => h x (by simp [hx]))]
    have : (P.getD c []).take 6 = P.getD c [] := List.take_of_length_le (by rw [h c (by simp)]; omega)
    rw [this]

theorem sumL_codeRuns {P : List (List Nat)} (hP : PatTable P 6 11) (s : Nat) (codes : List Nat)
    (h : ∀ c ∈ codes, c < P.length) : sumL (codeRuns P s codes) = s * 11 * codes.length := by
  induction codes with
  | nil => rfl
  | cons c codes ih =>
    have hc := h c (by simp)
    rw [codeRuns_cons, sumL_append, ih (fun x hx => h x (by simp [hx])), getD_eq_getElem P c [] hc, sumL_scale,
      (hP.shape P[c] (List.getElem_mem hc)).2.1, List.length_cons, Nat.mul_add]
    omega

theorem codeRuns_pos {P : List (List Nat)} (hP : PatTable P 6 11) (s : Nat) (hs : 0 < s) (codes : List Nat)
    (h : ∀ c ∈ codes, c < P.length) : ∀ w ∈ codeRuns P s codes, 0 < w := by
  induction codes with
  | nil => intro w hw; simp [codeRuns] at hw
  | cons c codes ih =>
    have hc := h c (by simp)
    intro w hw
    rw [codeRuns_cons, List.mem_append] at hw
    rcases hw with hw | hw
    · rw [getD_eq_getElem P c [] hc] at hw
      exact scale_pos s hs _ (hP.shape P[c] (List.getElem_mem hc)).2.2 w hw
    · exact ih (fun x hx => h x (by simp [hx])) w hw

/-- the run widths of a drawn symbol at `s` pixels per module: the start pattern, the six counted elements of every
    further character, the last bar of STOP -/
theorem symbolRuns_shape (P : List (List Nat)) (hWF : wfRow128B P = true) (sc : Nat) (hsc : sc = 103 ∨ sc = 104 ∨ sc = 105)
    (body : List Nat) (hb : ∀ c ∈ body, c < 106) (s : Nat) :
    ∃ (hscl : sc < P.length) (h106 : 106 < P.length) (last : Nat), 0 < last ∧
      (fullRuns P (sc :: body ++ [106])).map (s * ·) =
        P[sc].map (s * ·) ++ (codeRuns P s (body ++ [106]) ++ [s * last]) ∧
      (fullRuns P (sc :: body ++ [106])).length % 2 = 1 := by
  obtain ⟨hlen, hP, h6, h7⟩ := wfRow128_facts P hWF
  have hscl : sc < P.length := by omega
  have h106 : 106 < P.length := by omega
  obtain ⟨hs7, hspos⟩ := h7 h106
  have hstop : P[106] = P[106].take 6 ++ [P[106][6]] := by
    have : P[106].take 7 = P[106] := List.take_of_length_le (by omega)
    conv => lhs; rw [← this]
    rw [List.take_succ_eq_append_getElem (by omega)]
  refine ⟨hscl, h106, P[106][6], hspos _ (List.getElem_mem _), ?_, ?_⟩
  all_goals
    have hbody6 : ∀ c ∈ body, (P.getD c []).length = 6 := by
      intro c hc
      have := hb c hc
      rw [getD_eq_getElem P c [] (by omega)]
      exact h6 c (by omega) this
    have hfull : fullRuns P (sc :: body ++ [106]) = P[sc] ++ (fullRuns P body ++ (P[106].take 6 ++ [P[106][6]])) := by
      rw [List.cons_append, fullRuns_cons, fullRuns_append, getD_eq_getElem P sc [] hscl]
      congr 2
      simp only [fullRuns, List.map_cons, List.map_nil, List.flatten_cons, List.flatten_nil, List.append_nil,
        getD_eq_getElem P 106 [] h106]
      exact hstop
  · have hcr : codeRuns P s (body ++ [106]) = (fullRuns P body).map (s * ·) ++ (P[106].take 6).map (s * ·) := by
      rw [codeRuns_append, codeRuns_body P s body hbody6]
      congr 1
      simp only [codeRuns, List.map_cons, List.map_nil, List.flatten_cons, List.flatten_nil, List.append_nil,
        getD_eq_getElem P 106 [] h106]
    rw [hfull, hcr]
    simp only [List.map_append, List.map_cons, List.map_nil, List.append_assoc]
  · have h1 : P[sc].length = 6 := h6 sc hscl (by omega)
    have h2 : (fullRuns P body).length = 6 * body.length := by
      have := flatten_length_const (body.map (fun c => P.getD c [])) 6 (by
        intro x hx
        obtain ⟨c, hc, rfl⟩ := List.mem_map.mp hx
        exact hbody6 c hc)
      simpa [fullRuns] using this
    rw [hfull]
    simp only [List.length_append, List.length_take, List.length_cons, List.length_nil, h1, h2, hs7]
    omega

theorem codeSetOf_start (sc : Nat) (hsc : sc = 103 ∨ sc = 104 ∨ sc = 105) :
    ∃ cs, codeSetOf sc = some cs ∧ (cs = 99 ∨ cs = 100 ∨ cs = 101) := by
  rcases hsc with rfl | rfl | rfl
  · exact ⟨101, rfl, by omega⟩
  · exact ⟨100, rfl, by omega⟩
  · exact ⟨99, rfl, by omega⟩

/-- DecodeRow on a drawn symbol = the symbol-level reader on its symbol characters, with the geometry of the row:
    every left and right quiet zone `lq, rq ≥ 0`, every scale `s ≥ 1`, both values of ASSUME_GS1 -/
theorem decodeRow_symbol (P : List (List Nat)) (hWF : wfRow128B P = true) (sc : Nat) (hsc : sc = 103 ∨ sc = 104 ∨ sc = 105)
    (body : List Nat) (hb : ∀ c ∈ body, c < 106) (lq s rq : Nat) (hs : 0 < s) (gs1 : Bool) :
    Row128.decodeRow exactDom P (paddedRow lq s rq (appendPattern (fullRuns P (sc :: body ++ [106])) true)) gs1 =
      match readSyms gs1 sc (body ++ [106]) with
      | .error e => .error e
      | .ok (t, m) => .ok { text := t, raw := sc :: body ++ [106], left2 := 2 * lq + s * 11,
                            right2 := 2 * (lq + s * 11 * (body.length + 1)) + s * 11, symMod := m } := by
  obtain ⟨hlen, hP, h6, h7⟩ := wfRow128_facts P hWF
  obtain ⟨hscl, h106, last, hlast, hmap, hodd⟩ := symbolRuns_shape P hWF sc hsc body hb s
  have hcodes : ∀ c ∈ body ++ [106], c < P.length := by
    intro c hc
    simp only [List.mem_append, List.mem_singleton] at hc
    rcases hc with hc | rfl
    · have := hb c hc; omega
    · exact h106
  have hBpos := codeRuns_pos hP s hs (body ++ [106]) hcodes
  have hBsum := sumL_codeRuns hP s (body ++ [106]) hcodes
  have hsc6 : P[sc] = P[sc].take 6 := (List.take_of_length_le (by rw [h6 sc hscl (by omega)]; omega)).symm
  have hApos : ∀ w ∈ P[sc].map (s * ·), 0 < w := by
    rw [hsc6]; exact scale_pos s hs _ (hP.shape P[sc] (List.getElem_mem hscl)).2.2
  have hAsum : sumL (P[sc].map (s * ·)) = s * 11 := by
    rw [sumL_scale, hsc6, (hP.shape P[sc] (List.getElem_mem hscl)).2.1]
  obtain ⟨w, rest, hwr⟩ : ∃ w rest, codeRuns P s (body ++ [106]) ++ s * last :: tailQ rq = w :: rest :=
    List.exists_cons_of_ne_nil (by simp)
  have hwhite := fun a ha => paddedRow_white lq s rq (appendPattern (fullRuns P (sc :: body ++ [106])) true) a ha
  have hRpos : ∀ x ∈ fullRuns P (sc :: body ++ [106]), 0 < x := by
    intro x hx
    have hm : s * x ∈ (fullRuns P (sc :: body ++ [106])).map (s * ·) := List.mem_map_of_mem hx
    rw [hmap] at hm
    simp only [List.mem_append, List.mem_singleton] at hm
    have : 0 < s * x := by
      rcases hm with hm | hm | hm
      · exact hApos _ hm
      · exact hBpos _ hm
      · rw [hm]; exact Nat.mul_pos hs hlast
    exact Nat.pos_of_mul_pos_left this
  obtain ⟨hat0, hoff, _⟩ := paddedRow_rowAt _ lq s rq hs hodd hRpos
  generalize paddedRow lq s rq (appendPattern (fullRuns P (sc :: body ++ [106])) true) = row at hat0 hoff hwhite ⊢
  rw [hmap] at hat0
  simp only [List.append_assoc, List.singleton_append] at hat0
  have hstart := findStartPattern_rowAt hP (by omega) sc hsc hsc6 row lq s hs w rest (by rw [← hwr]; exact hat0) hoff hwhite
  have hat1 := hat0.advance_even _ _ (by simp [h6 sc hscl (by omega)])
  rw [hAsum] at hat1
  have hrowlen := hat0.length
  rw [sumL_append, sumL_append, hAsum, hBsum, sumL_cons] at hrowlen
  obtain ⟨cs, hcs, hcs3⟩ := codeSetOf_start sc hsc
  have hCS0 : CS (st0 cs sc) := CS_st0 hcs3 sc
  have hmain := mainLoop_codes hP h106 s hs row gs1 body (lq + s * 11) (st0 cs sc) [sc] lq (s * last :: tailQ rq)
    (row.length + 1) hCS0 (fun c hc => ⟨by have := hb c hc; omega, by have := hb c hc; omega⟩)
    (by
      have : body.length + 1 ≤ s * 11 * (body ++ [106]).length := by
        simp only [List.length_append, List.length_cons, List.length_nil]
        calc body.length + 1 ≤ 1 * (body.length + 1) := by omega
          _ ≤ s * 11 * (body.length + 1) := Nat.mul_le_mul_right _ (by omega)
      omega)
    hat1
  unfold Row128.decodeRow readSyms
  rw [hstart]
  simp only [hcs]
  rw [hmain]
  cases hsym : symRun gs1 (body ++ [106]) (st0 cs sc) with
  | error e => rfl
  | ok st' =>
    simp only []
    -- the last bar of STOP and the (clipped) quiet zone
    have hat2 : RowAt row (lq + s * 11 + s * 11 * (body.length + 1)) (s * last :: tailQ rq) true := by
      have := hat1.advance_even _ _ (by
        have : (codeRuns P s (body ++ [106])).length = 6 * (body.length + 1) := by
          have := flatten_length_const ((body ++ [106]).map (fun c => ((P.getD c []).take 6).map (s * ·))) 6 (by
            intro x hx
            obtain ⟨c, hc, rfl⟩ := List.mem_map.mp hx
            have hcl := hcodes c hc
            rw [getD_eq_getElem P c [] hcl]
            have := (hP.shape P[c] (List.getElem_mem hcl)).1
            simp; omega)
          simpa [codeRuns] using this
        omega)
      rw [hBsum] at this
      simpa using this
    have hnu := getNextUnset_bar hat2
    have hat3 : RowAt row (lq + s * 11 + s * 11 * (body.length + 1) + s * last) (tailQ rq) false := by
      have := hat2.advance_odd [s * last] (tailQ rq) (by simp)
      simp only [sumL_cons, sumL_nil, Nat.add_zero] at this
      exact this
    rw [hnu]
    have hwhite := isRangeWhite_tail hat3
      (min row.length (lq + s * 11 + s * 11 * (body.length + 1) + s * last +
        (lq + s * 11 + s * 11 * (body.length + 1) + s * last - (lq + s * 11 + s * 11 * body.length)) / 2))
      (by
        have := hat3.le
        omega)
      (Nat.min_le_left _ _)
    rw [hwhite]
    simp only [Bool.not_true, Bool.false_eq_true, if_false]
    cases hfin : finish st' with
    | error e => rfl
    | ok t =>
      simp only [List.reverse_append, List.reverse_cons, List.reverse_nil, List.nil_append, List.reverse_reverse,
        List.cons_append, Except.ok.injEq, Out.mk.injEq, true_and, and_true]
      have e : s * 11 * (body.length + 1) = s * 11 * body.length + s * 11 := by rw [Nat.mul_add]; omega
      refine ⟨by omega, ?_⟩
      rw [e]; omega

end Gzx.Row128
