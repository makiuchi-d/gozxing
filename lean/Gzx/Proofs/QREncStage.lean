/-
  wp `qrenc` — the function-pattern stage of `MatrixUtil_buildMatrix` with the REAL format / version bits: on the
  cleared matrix it leaves the standard's function modules and -1 on the data modules (`functionStage_eq`).
  The loops are those of Proofs/QREncFuncLoops.lean, run with the target `funcCell` and the bits of the format and
  version words as values.
-/
import Gzx.Proofs.QREncFuncLoops
import Gzx.Proofs.QREncBCH
import Gzx.Proofs.QRVersionChoice
namespace Gzx.QREnc
open Gzx Gzx.QRRef

theorem clear_wfm {n : Nat} {m : ByteMatrix} (hm : WFM n m) : m.clear (-1) = emptyMatrix n := by
  unfold ByteMatrix.clear emptyMatrix
  have hb : m.bytes.map (fun row => row.map (fun _ => (-1 : Int))) = List.replicate n (List.replicate n (-1)) := by
    apply List.ext_getElem
    · simp [hm.rows]
    · intro i h1 h2
      simp only [List.getElem_map, List.getElem_replicate]
      have hi : i < m.bytes.length := by simpa using h1
      have hl := hm.cols _ (List.getElem_mem hi)
      apply List.ext_getElem
      · simp [hl]
      · intro j _ _; simp
  cases m with
  | mk bytes width height =>
    simp only at hb ⊢
    have hw := hm.w; have hh := hm.h
    simp only at hw hh
    rw [hb, hw, hh]

/-- the three function-pattern steps of `buildMatrix` with the real type / version information -/
def functionStage (v : Nat) (ec : EC) (mask : Nat) (m : ByteMatrix) : Res ByteMatrix := do
  let m ← embedBasicPatterns v m
  let m ← embedTypeInfo ec (mask : Int) m
  maybeEmbedVersionInfo v m

/-- what the function stage leaves at (x, y): the standard's function module, -1 on a data module -/
def funcCell (v : Nat) (ec : EC) (mask x y : Nat) : Int :=
  if isFunction v x y then b2i (functionModule v ec mask x y) else -1

def funcMatrix (v : Nat) (ec : EC) (mask : Nat) : ByteMatrix := tableOf (dimension v) (funcCell v ec mask)

theorem funcMatrix_wfm (v : Nat) (ec : EC) (mask : Nat) : WFM (dimension v) (funcMatrix v ec mask) :=
  tableOf_wfm _ _

theorem funcMatrix_cell (v : Nat) (ec : EC) (mask x y : Nat) (hx : x < dimension v) (hy : y < dimension v) :
    cell (funcMatrix v ec mask) x y = funcCell v ec mask x y :=
  tableOf_cell _ _ x y hx hy

/-- outside the two information areas the position tags play no part -/
theorem tagCell_eq_funcCell (v : Nat) (ec : EC) (mask a b : Nat)
    (h : regionOf v a b ≠ .format ∧ regionOf v a b ≠ .version) : tagCell v a b = funcCell v ec mask a b := by
  unfold tagCell funcCell functionModule isFunction
  cases hr : regionOf v a b <;> simp [hr, b2i] at h ⊢

theorem funcCell_format (v : Nat) (ec : EC) (mask i : Nat) (hv : 1 ≤ v) (hi : i < 15) :
    funcCell v ec mask (formatPos1 i).1 (formatPos1 i).2 = b2i ((formatWord ec mask).testBit i) ∧
    funcCell v ec mask (formatPos2 (dimension v) i).1 (formatPos2 (dimension v) i).2 =
      b2i ((formatWord ec mask).testBit i) := by
  obtain ⟨r1, f1⟩ := formatPos_spec v i hv hi _ (Or.inl rfl)
  obtain ⟨r2, f2⟩ := formatPos_spec v i hv hi _ (Or.inr rfl)
  unfold funcCell functionModule isFunction formatBitAt
  rw [r1, r2]
  simp [f1, f2]

theorem funcCell_version (v : Nat) (ec : EC) (mask i : Nat) (hv : 7 ≤ v) (hi : i < 18) :
    funcCell v ec mask (versionPos1 (dimension v) i).1 (versionPos1 (dimension v) i).2 = b2i ((versionWord v).testBit i) ∧
    funcCell v ec mask (versionPos2 (dimension v) i).1 (versionPos2 (dimension v) i).2 =
      b2i ((versionWord v).testBit i) := by
  obtain ⟨r1, f1⟩ := versionPos_spec v i hv hi _ (Or.inl rfl)
  obtain ⟨r2, f2⟩ := versionPos_spec v i hv hi _ (Or.inr rfl)
  unfold funcCell functionModule isFunction versionBitAt
  rw [r1, r2]
  simp [f1, f2]

theorem functionStage_eq (v : Nat) (h1 : 1 ≤ v) (h40 : v ≤ 40) (ec : EC) (mask : Nat) (hk : mask < 8) :
    functionStage v ec mask (emptyMatrix (dimension v)) = .ok (funcMatrix v ec mask) := by
  have hcs := centresOK_all v (List.mem_range'_1.mpr ⟨h1, by omega⟩)
  have hti : ∀ m, embedTypeInfo ec (mask : Int) m =
      embedTypeInfoVals ((toBitsBE 15 (formatWord ec mask)).map b2i) m := by
    intro m
    unfold embedTypeInfo
    rw [typeInfoBits_all ec (QRVersionChoice.mem_EC_all ec) mask (List.mem_range.mpr hk)]
    rfl
  have hvi : ∀ m, maybeEmbedVersionInfo v m =
      if v < 7 then pure m else embedVersionInfoVals ((toBitsBE 18 (versionWord v)).map b2i) m := by
    intro m
    unfold maybeEmbedVersionInfo
    by_cases h7 : v < 7
    · rw [if_pos h7, if_pos h7]; rfl
    · have := versionInfoBits_all (v - 7) (List.mem_range.mpr (by omega))
      rw [show v - 7 + 7 = v by omega] at this
      rw [if_neg h7, if_neg h7, this]
      rfl
  obtain ⟨m', e, d⟩ := functionStage_drawn v h1 h40 hcs (funcCell v ec mask)
    (fun a b h => tagCell_eq_funcCell v ec mask a b (regionOf_basic v a b h1 hcs h))
    ((toBitsBE 15 (formatWord ec mask)).map b2i) ((toBitsBE 18 (versionWord v)).map b2i) (by simp [toBitsBE])
    (by
      unfold toBitsBE; rw [List.map_map]
      exact valsAt_range (fun i => b2i ((formatWord ec mask).testBit i))
        (fun i hi => ⟨(funcCell_format v ec mask i h1 hi).1.symm, (funcCell_format v ec mask i h1 hi).2.symm⟩))
    (fun h7 => by
      unfold toBitsBE; rw [List.map_map]
      exact valsAt_range (fun i => b2i ((versionWord v).testBit i))
        (fun i hi => ⟨(funcCell_version v ec mask i h7 hi).1.symm, (funcCell_version v ec mask i h7 hi).2.symm⟩))
  unfold functionStage
  simp only [hti, hvi]
  rw [e, d.eq_table (fun x y hx hy hw => by
    unfold funcCell isFunction; rw [region_data_of_not_drawn v x y h1 hx hy hw]; rfl)]
  rfl

end Gzx.QREnc
