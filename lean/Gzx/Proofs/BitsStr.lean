/-
  C16 helper lemmas: BitArray.String and ToBytes.
-/
import Gzx.Proofs.BitsArr
namespace Gzx.Bits
open Gzx

/-- the characters `String()` emits for bit `i` -/
def strPiece (b : Bool) (i : Nat) : List Nat :=
  (if i % 8 = 0 then [32] else []) ++ [if b then 88 else 46]

theorem zipIdx_map_range (n : Nat) (f : Nat → Bool) :
    ((List.range n).map f).zipIdx = (List.range n).map (fun i => (f i, i)) := by
  apply List.ext_getElem?
  intro i
  rw [List.getElem?_zipIdx, List.getElem?_map, List.getElem?_map]
  by_cases hi : i < n
  · rw [List.getElem?_range hi]; simp
  · rw [List.getElem?_eq_none (by simp; omega)]; rfl

namespace WArr

theorem toStr_loop (a : WArr) (h : InvA a) :
    (List.range a.size).foldlM (fun (result : List Nat) i => do
      let bit ← a.get i
      let result := if i % 8 = 0 then 32 :: result else result
      pure ((if bit then 88 else 46) :: result)) [] =
    .ok (((List.range a.size).flatMap (fun i => strPiece (bitAt a.words i) i)).reverse) := by
  rw [foldlM_prepend _ (fun i => strPiece (bitAt a.words i) i) _ (fun i hi acc => ?_), List.append_nil]
  rw [get_eq_bitAt a i (h.idx (List.mem_range.mp hi))]
  unfold strPiece
  by_cases c : i % 8 = 0
  · simp [c, bind, Except.bind, pure, Except.pure]
  · simp [c, bind, Except.bind, pure, Except.pure]

theorem toStr_refines (a : WArr) (h : InvA a) : a.toStr = .ok (SArr.toStr (absA a)) := by
  unfold WArr.toStr SArr.toStr
  rw [toStr_loop a h]
  simp only [Except.map, List.reverse_reverse]
  congr 1
  unfold absA
  rw [zipIdx_map_range, List.flatMap_map]
  rfl

/-! ### ToBytes -/

/-- big-endian value of a bit list, bit by bit -/
theorem testBit_foldl_byte (bs : List Bool) : ∀ (acc k : Nat),
    (bs.foldl (fun acc b => 2 * acc + b.toNat) acc).testBit k =
      if h : k < bs.length then bs[bs.length - 1 - k] else acc.testBit (k - bs.length) := by
  induction bs with
  | nil => intro acc k; simp
  | cons b bs ih =>
    intro acc k
    rw [List.foldl_cons, ih]
    by_cases c : k < bs.length
    · have c2 : k < (b :: bs).length := by simp; omega
      rw [dif_pos c, dif_pos c2]
      have e : (b :: bs).length - 1 - k = (bs.length - 1 - k) + 1 := by simp; omega
      simp only [e, List.getElem_cons_succ]
    · rw [dif_neg c]
      by_cases c3 : k = bs.length
      · have c2 : k < (b :: bs).length := by simp; omega
        rw [dif_pos c2]
        have e : (b :: bs).length - 1 - k = 0 := by simp; omega
        simp only [e, List.getElem_cons_zero]
        have e2 : k - bs.length = 0 := by omega
        rw [e2, Nat.testBit_zero]
        cases b <;> simp <;> omega
      · have c2 : ¬ k < (b :: bs).length := by simp; omega
        rw [dif_neg c2]
        have e : k - bs.length = (k - (b :: bs).length) + 1 := by simp; omega
        rw [e, Nat.testBit_succ]
        congr 1
        cases b <;> simp <;> omega

/-- the accumulation loop of one byte, bit by bit -/
theorem byteLoop_testBit (c : Nat → Bool) (n : Nat) (hn : n ≤ 8) : ∀ k,
    ((List.range n).foldl (fun tb j => if c j then tb ||| 1 <<< (7 - j) else tb) 0).testBit k =
      (decide (7 - k < n) && decide (k ≤ 7) && c (7 - k)) := by
  induction n with
  | zero => intro k; simp
  | succ n ih =>
    intro k
    rw [List.range_succ, List.foldl_append, List.foldl_cons, List.foldl_nil]
    by_cases cn : c n
    · rw [if_pos cn, Nat.testBit_or, ih (by omega), Nat.one_shiftLeft, Nat.testBit_two_pow]
      cases hc7 : c (7 - k) with
      | false =>
        have : ¬ 7 - n = k := by
          intro e
          have e2 : 7 - k = n := by omega
          rw [e2, cn] at hc7; cases hc7
        simp [this]
      | true =>
        rw [Bool.eq_iff_iff]
        simp only [Bool.or_eq_true, Bool.and_eq_true, decide_eq_true_eq, and_true]
        omega
    · rw [if_neg cn, ih (by omega)]
      cases hc7 : c (7 - k) with
      | false => simp
      | true =>
        have : ¬ (7 - k = n) := by
          intro e; rw [e] at hc7; exact cn hc7
        rw [Bool.eq_iff_iff]
        simp only [Bool.and_eq_true, decide_eq_true_eq, and_true]
        omega

theorem toBytesByte_refines (a : WArr) (off : Nat) (h : InvA a) (hoff : off + 8 ≤ a.size) :
    toBytesByte a off = .ok (SArr.byteOf (((absA a).drop off).take 8)) := by
  unfold toBytesByte
  -- every read is in range: the monadic loop is a pure fold
  rw [foldlM_pure _ _ (fun tb j => if bitAt a.words (off + j) then tb ||| 1 <<< (7 - j) else tb) (fun j hj tb => by
    rw [get_eq_bitAt a (off + j) (h.idx (by have := List.mem_range.mp hj; omega))]; rfl)]
  congr 1
  apply Nat.eq_of_testBit_eq
  intro k
  rw [byteLoop_testBit (fun j => bitAt a.words (off + j)) 8 (Nat.le_refl _) k]
  unfold SArr.byteOf
  rw [testBit_foldl_byte]
  have hlen : (((absA a).drop off).take 8).length = 8 := by
    rw [List.length_take, List.length_drop, absA_length]; omega
  by_cases c : k < 8
  · rw [dif_pos (by rw [hlen]; exact c)]
    have hg : (((absA a).drop off).take 8)[8 - 1 - k]? = some (bitAt a.words (off + (7 - k))) := by
      rw [List.getElem?_take, if_pos (by omega), List.getElem?_drop, absA_getElem?, if_pos (by omega)]
    have hlt : 8 - 1 - k < (((absA a).drop off).take 8).length := by rw [hlen]; omega
    rw [List.getElem?_eq_getElem hlt] at hg
    simp only [Option.some.injEq] at hg
    simp only [hlen]
    rw [hg]
    have c1 : 7 - k < 8 := by omega
    have c2 : k ≤ 7 := by omega
    simp [c1, c2]
  · rw [dif_neg (by rw [hlen]; exact c), Nat.zero_testBit]
    have c2 : ¬ k ≤ 7 := by omega
    simp [c2]

/-- `ToBytes(bitOffset, array, offset, numBytes)` with all bits and all bytes in range -/
theorem toBytes_refines (a : WArr) (bitOffset : Nat) (array : List Nat) (offset numBytes : Nat)
    (h : InvA a) (hbits : bitOffset + 8 * numBytes ≤ a.size) (harr : offset + numBytes ≤ array.length) :
    a.toBytes bitOffset array offset numBytes =
      .ok (SArr.toBytes (absA a) bitOffset array offset numBytes) := by
  unfold WArr.toBytes SArr.toBytes
  have hloop : ∀ n, n ≤ numBytes →
      (List.range n).foldlM (fun arr i => do
        let theByte ← toBytesByte a (bitOffset + 8 * i)
        if offset + i < arr.length then pure (arr.set (offset + i) theByte)
        else .error (.panic "index out of range")) array =
      .ok (array.take offset ++
        (List.range n).map (fun i => SArr.byteOf (((absA a).drop (bitOffset + 8 * i)).take 8)) ++
        array.drop (offset + n)) := by
    intro n
    induction n with
    | zero => intro _; simp [pure, Except.pure]
    | succ n ih =>
      intro hn
      rw [List.range_succ, List.foldlM_append, ih (by omega)]
      simp only [bind, Except.bind, List.foldlM_cons, List.foldlM_nil, pure, Except.pure]
      rw [toBytesByte_refines a (bitOffset + 8 * n) h (by omega)]
      simp only
      have hl : (array.take offset ++
          (List.range n).map (fun i => SArr.byteOf (((absA a).drop (bitOffset + 8 * i)).take 8)) ++
          array.drop (offset + n)).length = array.length := by
        simp only [List.length_append, List.length_take, List.length_map, List.length_range,
          List.length_drop]; omega
      rw [if_pos (by rw [hl]; omega)]
      simp only
      congr 1
      apply List.ext_getElem?
      intro k
      rw [List.getElem?_set, hl]
      simp only [List.map_append, List.map_cons, List.map_nil]
      rw [List.append_assoc, List.append_assoc, List.getElem?_append, List.getElem?_append,
        List.append_assoc, List.getElem?_append, List.getElem?_append, List.getElem?_append]
      simp only [List.length_take, List.length_map, List.length_range, List.length_cons,
        List.length_nil]
      have emin : min offset array.length = offset := by omega
      rw [emin]
      by_cases c0 : k < offset
      · simp [c0]; omega
      · by_cases c1 : k - offset < n
        · have : ¬ offset + n = k := by omega
          simp [c0, c1, this]
        · by_cases c2 : offset + n = k
          · have e : k - offset - n = 0 := by omega
            simp [c0, c1, c2, e]; omega
          · have c3 : ¬ k - offset - n < 0 + 1 := by omega
            simp only [c0, c1, c2, if_false, c3]
            rw [List.getElem?_drop, List.getElem?_drop]
            congr 1; omega
  exact hloop numBytes (Nat.le_refl _)

end WArr
end Gzx.Bits
