/-
  Helper lemmas for the ITF row read-back theorem (Properties/C03Row128.lean): `itfReader_decodeDigit` with its
  "second best match with the same variance" rule on exact multiples of a reader pattern (the loop: Proofs/BestMatch.lean);
  the threshold test of a guard pattern at every scale; guards found at the first attempt.
-/
import Gzx.Proofs.Row128Read
import Gzx.Proofs.RowITFTotal
namespace Gzx.RowITF
open Gzx Gzx.OneD Gzx.Row128

theorem bestLoopTie_eq_gen (D : VarDom) (c : List Nat) : ∀ (ps : List (List Nat)) (i : Nat) (best : D.V)
    (bm : Option Nat), RowITF.bestLoopTie D c ps i best bm = bestGen true D c 1 2 ps i best bm
  | [], _, _, _ => rfl
  | p :: ps, i, best, bm => by
    unfold RowITF.bestLoopTie bestGen
    cases D.pmv c p 1 2 with
    | error e => rfl
    | ok v =>
      simp only [Bool.true_and]
      split
      · exact bestLoopTie_eq_gen D c ps _ _ _
      · split <;> exact bestLoopTie_eq_gen D c ps _ _ _

/-- what the digit lemma needs of the reader's pattern table: rows of five positive widths, pairwise non-proportional
    (decidable; 20 x 20 checks) -/
def digitTableB (Q : List (List Nat)) : Bool :=
  Q.all (fun q => q.length == 5 && q.all (0 < ·)) &&
  (List.range Q.length).all (fun i => (List.range Q.length).all (fun j => i == j || nonProp (Q.getD i []) (Q.getD j [])))

/-- `itfReader_decodeDigit` on `s`·(row `j` of the reader table) returns `j mod 10` -/
theorem decodeDigit_at (T : ItfT) (hT : digitTableB T.patterns = true) (j : Nat) (hj : j < T.patterns.length)
    (s : Nat) (hs : 0 < s) : decodeDigit exactDom T (T.patterns[j].map (s * ·)) = .ok (j % 10) := by
  simp only [digitTableB, Bool.and_eq_true, List.all_eq_true, beq_iff_eq, decide_eq_true_eq, List.mem_range,
    Bool.or_eq_true] at hT
  obtain ⟨hshape, hnp⟩ := hT
  have hqj := hshape _ (List.getElem_mem hj)
  have hposj : ∀ w ∈ T.patterns[j], 0 < w := hqj.2
  have hsum : 0 < sumL T.patterns[j] := sumL_pos _ (by intro e; rw [e] at hqj; simp at hqj) hposj
  have hother : ∀ (k : Nat) (hk : k < T.patterns.length), k ≠ j →
      pmv (T.patterns[j].map (s * ·)) T.patterns[k] 1 2 = .ok none ∨
        ∃ n d, pmv (T.patterns[j].map (s * ·)) T.patterns[k] 1 2 = .ok (some (n, d)) ∧ 0 < n := by
    intro k hk hne
    have := hnp j hj k hk
    rcases this with h | h
    · exact absurd h.symm hne
    · rw [getD_eq_getElem _ _ _ hj, getD_eq_getElem _ _ _ hk] at h
      exact pmv_nonProp _ _ s 1 2 hs (by rw [(hshape _ (List.getElem_mem hk)).1, hqj.1]) h
  have hpick := bestGen_pick true (T.patterns[j].map (s * ·)) 1 2 (sumL T.patterns[j] * (s * sumL T.patterns[j]))
    (Nat.mul_pos hsum (Nat.mul_pos hs hsum)) T.patterns j hj 0 19 50 none (by omega)
    (pmv_multiple T.patterns[j] s 1 2 hs) hother
  unfold decodeDigit
  have hp' : bestLoopTie exactDom (T.patterns[j].map (s * ·)) T.patterns 0 (exactDom.frac 19 50) none = .ok (some (0 + j)) :=
    (bestLoopTie_eq_gen _ _ T.patterns 0 _ none).trans hpick
  rw [hp']
  simp

/-! ## findGuardPattern at its first attempt -/

theorem pmv_den_pos (c p : List Nat) (a b n d : Nat) (h : pmv c p a b = .ok (some (n, d)))
    (hP : 0 < sumL (p.take c.length)) : 0 < d := by
  unfold pmv RunLength.patternMatchVariance at h
  split at h
  · cases h
  · simp only [] at h
    split at h
    · cases h
    · rename_i hT
      split at h
      · cases h
      · simp only [Except.ok.injEq, Option.some.injEq, Prod.mk.injEq] at h
        rw [← h.2]
        simp only [rl_sumL] at hT ⊢
        exact Nat.mul_pos hP (by omega)

/-- decidable at scale 1: the observation `g` scores below MAX_AVG_VARIANCE (19/50) against `pattern` -/
def pmvBelow (g pattern : List Nat) : Bool :=
  match pmv g pattern 1 2 with
  | .ok (some (n, d)) => decide (50 * n < 19 * d)
  | _ => false

/-- … and then so does every multiple of it (C20 `pmv_scale_invariant`) -/
theorem pmvBelow_scale (g pattern : List Nat) (s : Nat) (hs : 0 < s) (hl : g.length = pattern.length)
    (hpos : 0 < sumL pattern) (h : pmvBelow g pattern = true) :
    ∃ v, pmv (g.map (s * ·)) pattern 1 2 = .ok v ∧ exactDom.lt v (exactDom.frac 19 50) = true := by
  unfold pmvBelow at h
  cases h1 : pmv g pattern 1 2 with
  | error e => rw [h1] at h; cases h
  | ok r =>
    cases r with
    | none => rw [h1] at h; cases h
    | some nd =>
      obtain ⟨n, d⟩ := nd
      rw [h1] at h
      simp only [decide_eq_true_eq] at h
      have htake : pattern.take g.length = pattern := List.take_of_length_le (by omega)
      have hres : sumL (pattern.take g.length) ≤ sumL g := by
        -- otherwise the score would be +Inf
        unfold pmv RunLength.patternMatchVariance at h1
        rw [if_neg (by omega)] at h1
        simp only [] at h1
        split at h1
        · cases h1
        · rename_i hT; simp only [rl_sumL] at hT; omega
      have hinv := Properties.C20.pmv_scale_invariant g pattern s 1 2 hs (by omega) hres
      have h1' : RunLength.patternMatchVariance g pattern 1 2 = .ok (some (n, d)) := h1
      rw [h1'] at hinv
      cases h2 : RunLength.patternMatchVariance (g.map (s * ·)) pattern 1 2 with
      | error e => rw [h2] at hinv; exact absurd hinv (by simp)
      | ok r2 =>
        cases r2 with
        | none => rw [h2] at hinv; exact absurd hinv (by simp)
        | some nd' =>
          obtain ⟨n', d'⟩ := nd'
          rw [h2] at hinv
          simp only [] at hinv
          refine ⟨some (n', d'), h2, ?_⟩
          change fracLtO (some (n', d')) (some (19, 50)) = true
          simp only [fracLtO, decide_eq_true_eq]
          have hd' : 0 < d' := pmv_den_pos (g.map (s * ·)) pattern 1 2 n' d' h2 (by
            rw [List.length_map, htake]; exact hpos)
          -- n' * d = n * d', 50 n < 19 d  ⊢  n' * 50 < 19 * d'
          apply Nat.lt_of_mul_lt_mul_right (a := d)
          calc n' * 50 * d = 50 * (n' * d) := by rw [Nat.mul_comm n' 50, Nat.mul_assoc]
            _ = 50 * (n * d') := by rw [hinv]
            _ = (50 * n) * d' := by rw [Nat.mul_assoc]
            _ < (19 * d) * d' := Nat.mul_lt_mul_of_pos_right h hd'
            _ = 19 * d' * d := by rw [Nat.mul_assoc, Nat.mul_comm d d', ← Nat.mul_assoc]

/-- `findGuardPattern` started at a run boundary where the next runs `s`·g score below the threshold against `pattern`
    and at least one more run follows: found at once -/
theorem findGuard_first {row : List Bool} {off : Nat} (pattern g : List Nat) (s w : Nat) (rest : List Nat)
    (h3 : 3 ≤ pattern.length) (hlen : g.length = pattern.length)
    (v : Option (Nat × Nat)) (hv : pmv (g.map (s * ·)) pattern 1 2 = .ok v)
    (hlt : exactDom.lt v (exactDom.frac 19 50) = true)
    (h : RowAt row off (g.map (s * ·) ++ w :: rest) true) :
    findGuardPattern exactDom row off pattern = .ok (off, off + s * sumL g) := by
  unfold findGuardPattern
  rw [guardLoop_eq_gen]
  refine genLoop_first pattern.length h3 _ (g.map (s * ·)) (by simpa using hlen) w rest h _ ?_
  unfold checkITF
  have hv' : exactDom.pmv (g.map (s * ·)) pattern 1 2 = .ok v := hv
  rw [hv']
  simp only [hlt, if_true, sumL_scale]

end Gzx.RowITF
