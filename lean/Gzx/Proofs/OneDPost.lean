/-
  Helper lemmas for Properties/C06.lean and C10Mod43.lean : index arithmetic of the Code 39 / Code 93 check characters, and the
  post-classification step of the two readers (extended decoding, check characters): a text or a ReaderException.
-/
import Gzx.Model.OneDPost
import Gzx.Proofs.Sat
namespace Gzx.OneDPost
open Gzx.Det

theorem indexFrom_nonneg (alpha : List Nat) (c i : Nat) (h : c ∈ alpha) : 0 ≤ indexFrom alpha c i := by
  induction alpha generalizing i with
  | nil => cases h
  | cons a as ih =>
    unfold indexFrom
    by_cases e : a = c
    · simp only [e, if_true]; omega
    · simp only [e, if_false]
      have : c ∈ as := by
        rcases List.mem_cons.mp h with h1 | h1
        · exact absurd h1.symm e
        · exact h1
      exact ih (i + 1) this

theorem indexFrom_lt (as : List Nat) (c : Nat) (i : Nat) (h : c ∈ as) :
    indexFrom as c i < ((i + as.length : Nat) : Int) := by
  induction as generalizing i with
  | nil => simp at h
  | cons a as ih =>
    unfold indexFrom
    split
    · simp only [List.length_cons]; omega
    · rename_i e
      have : c ∈ as := by
        rcases List.mem_cons.mp h with h1 | h1
        · exact absurd h1.symm e
        · exact h1
      have := ih (i + 1) this
      simp only [List.length_cons]; omega

theorem indexOf_nonneg (alpha : List Nat) (c : Nat) (h : c ∈ alpha) : 0 ≤ indexOf alpha c :=
  indexFrom_nonneg alpha c 0 h

theorem foldl_idx_nonneg (alpha : List Nat) (s : List Nat) (h : ∀ c ∈ s, c ∈ alpha) (t : Int) (ht : 0 ≤ t) :
    0 ≤ s.foldl (fun t c => t + indexOf alpha c) t := by
  induction s generalizing t with
  | nil => simpa using ht
  | cons c rest ih =>
    simp only [List.foldl_cons]
    apply ih (fun x hx => h x (by simp [hx]))
    have := indexOf_nonneg alpha c (h c (by simp))
    omega

theorem sumIdx_nonneg (alpha s : List Nat) (h : ∀ c ∈ s, c ∈ alpha) : 0 ≤ sumIdx alpha s :=
  foldl_idx_nonneg alpha s h 0 (by omega)

theorem alphaAt_tmod_ok (alpha : List Nat) (n : Nat) (hn : n ≤ alpha.length) (hpos : 0 < n)
    (total : Int) (ht : 0 ≤ total) : ∃ c, alphaAt alpha (Int.tmod total n) = .ok c := by
  unfold alphaAt
  have h0 : 0 ≤ Int.tmod total n := Int.tmod_nonneg _ ht
  have h1 : Int.tmod total n < n := Int.tmod_lt_of_pos _ (by omega)
  have hneg : ¬ (Int.tmod total n < 0) := by omega
  simp only [hneg, if_false]
  have hlt : (Int.tmod total n).toNat < alpha.length := by omega
  have : alpha[(Int.tmod total n).toNat]? = some alpha[(Int.tmod total n).toNat] := List.getElem?_eq_getElem hlt
  rw [this]
  exact ⟨_, rfl⟩

theorem c93Weighted_nonneg (wm : Nat) (s : List Nat) (h : ∀ c ∈ s, c ∈ c93Alphabet) (w : Nat) (t : Int)
    (ht : 0 ≤ t) : 0 ≤ c93Weighted wm s w t := by
  induction s generalizing w t with
  | nil => simpa [c93Weighted] using ht
  | cons c rest ih =>
    simp only [c93Weighted]
    apply ih (fun x hx => h x (by simp [hx]))
    have h1 := indexOf_nonneg c93Alphabet c (h c (by simp))
    have h2 : 0 ≤ (w : Int) * indexOf c93Alphabet c := Int.mul_nonneg (by omega) h1
    omega

/-! ## the post-classification step -/

theorem c39Ext_sat (s acc : List Nat) : Sat (Only .format) (fun _ => True) (c39Ext s acc) := by
  fun_induction c39Ext s acc <;> first | exact Sat.ok trivial | exact Sat.error rfl | assumption

theorem c39Post_sat (ck ext : Bool) (s : List Nat) (h : ∀ c ∈ s, c ∈ c39Alphabet) :
    Sat ReaderFault (fun _ => True) (c39Post ck ext s) := by
  have tail : ∀ s' : List Nat, Sat ReaderFault (fun _ => True) (if s'.length = 0 then .error .notFound
      else if ext = true then c39Ext s' [] else .ok s') := fun s' =>
    Sat.ite (fun _ => Sat.error (Or.inl rfl)) fun _ =>
      Sat.ite (fun _ => (c39Ext_sat s' []).faults fun _ he => Or.inr (Or.inr he)) fun _ => Sat.ok trivial
  unfold c39Post
  refine Sat.ite (fun _ => Sat.error (Or.inl rfl)) fun h0 => ?_
  cases ck
  · exact tail s
  · simp only [if_true]
    -- every character is an alphabet character, so the weighted sum is not negative and `total % 43` is an index
    have hmax : s.length - 1 < s.length := by omega
    have htot : 0 ≤ sumIdx c39Alphabet (s.take (s.length - 1)) :=
      sumIdx_nonneg _ _ (fun c hc => h c (List.mem_of_mem_take hc))
    obtain ⟨want, hw⟩ := alphaAt_tmod_ok c39Alphabet 43 (by decide) (by decide) _ htot
    have hw' : alphaAt c39Alphabet (Int.tmod (sumIdx c39Alphabet (s.take (s.length - 1))) 43) = .ok want := hw
    rw [List.getElem?_eq_getElem hmax, hw']
    simp only
    by_cases hne : s[s.length - 1] ≠ want
    · rw [if_pos hne]; exact Sat.error (Or.inr (Or.inl rfl))
    · rw [if_neg hne]; exact tail _

/-- one Code 93 check character never indexes out of range -/
theorem c93CheckOne_sat (s : List Nat) (h : ∀ c ∈ s, c ∈ c93Alphabet) (pos wm : Nat) (hp : pos < s.length) :
    Sat (Only .checksum) (fun _ => True) (c93CheckOne s pos wm) := by
  unfold c93CheckOne
  have htot : 0 ≤ c93Weighted wm (s.take pos).reverse 1 0 :=
    c93Weighted_nonneg wm _ (fun c hc => h c (List.mem_of_mem_take (List.mem_reverse.mp hc))) 1 0 (by omega)
  obtain ⟨want, hw⟩ := alphaAt_tmod_ok c93Alphabet 47 (by decide) (by decide) _ htot
  have hw' : alphaAt c93Alphabet (Int.tmod (c93Weighted wm (s.take pos).reverse 1 0) 47) = .ok want := hw
  simp only [List.getElem?_eq_getElem hp, hw']
  exact Sat.ite (fun _ => Sat.error rfl) fun _ => Sat.ok trivial

theorem c93Ext_sat (s acc : List Nat) : Sat (Only .format) (fun _ => True) (c93Ext s acc) := by
  fun_induction c93Ext s acc <;> first | exact Sat.ok trivial | exact Sat.error rfl | assumption

theorem c93Post_sat (s : List Nat) (h : ∀ c ∈ s, c ∈ c93Alphabet) : Sat ReaderFault (fun _ => True) (c93Post s) := by
  unfold c93Post
  refine Sat.ite (fun _ => Sat.error (Or.inl rfl)) fun h2 => ?_
  have check := fun pos wm hp => (c93CheckOne_sat s h pos wm hp).faults fun _ he => (Or.inr (Or.inl he) : ReaderFault _)
  refine Sat.step _ (check (s.length - 2) 20 (by omega)) (fun _ he => he) fun _ _ => ?_
  refine Sat.step _ (check (s.length - 1) 15 (by omega)) (fun _ he => he) fun _ _ => ?_
  exact (c93Ext_sat _ []).faults fun _ he => Or.inr (Or.inr he)

end Gzx.OneDPost
