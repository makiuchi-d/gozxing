/-
  wp `enc2` — the function-pattern loops of matrix_util.go (Model/QREncMatrix.lean) written ONCE over an abstract matrix
  interface (`MI`: Get / Set / width / height).  Instantiated with the `ByteMatrix` operations they ARE the model's
  functions (`g…_bm`, by `rfl`): the loops use the matrix through these four operations only.
  (The function-pattern theorems, Proofs/QREncFuncLoops.lean, are about the model's functions directly.)
-/
import Gzx.Proofs.QREncFuncDefs
namespace Gzx.QREnc
open Gzx Gzx.QRRef

/-- the operations of byte_matrix.go the embed loops use -/
structure MI (σ : Type) where
  get : σ → Int → Int → Res Int
  set : σ → Int → Int → Int → Res σ
  width : σ → Int
  height : σ → Int

def bmI : MI ByteMatrix := ⟨ByteMatrix.get, ByteMatrix.set, ByteMatrix.width, ByteMatrix.height⟩

variable {σ : Type} (I : MI σ)

def gPDP (xStart yStart : Int) (m : σ) : Res σ :=
  forRange 0 7 (fun y m => do
    let patternY ← idx pdp y
    forRange 0 7 (fun x m => do
      let v ← idx patternY x
      I.set m (xStart + x) (yStart + y) v) m) m

def gPAP (xStart yStart : Int) (m : σ) : Res σ :=
  forRange 0 5 (fun y m => do
    let patternY ← idx pap y
    forRange 0 5 (fun x m => do
      let v ← idx patternY x
      I.set m (xStart + x) (yStart + y) v) m) m

def gHSep (xStart yStart : Int) (m : σ) : Res σ :=
  forRange 0 8 (fun x m => do
    if !isEmpty (← I.get m (xStart + x) yStart) then .error .writer
    I.set m (xStart + x) yStart 0) m

def gVSep (xStart yStart : Int) (m : σ) : Res σ :=
  forRange 0 7 (fun y m => do
    if !isEmpty (← I.get m xStart (yStart + y)) then .error .writer
    I.set m xStart (yStart + y) 0) m

def gPDPs (m : σ) : Res σ := do
  let pdpWidth : Int := 7
  let m ← gPDP I 0 0 m
  let m ← gPDP I (I.width m - pdpWidth) 0 m
  let m ← gPDP I 0 (I.width m - pdpWidth) m
  let hspWidth : Int := 8
  let m ← gHSep I 0 (hspWidth - 1) m
  let m ← gHSep I (I.width m - hspWidth) (hspWidth - 1) m
  let m ← gHSep I 0 (I.width m - hspWidth) m
  let vspSize : Int := 7
  let m ← gVSep I vspSize 0 m
  let m ← gVSep I (I.height m - vspSize - 1) 0 m
  gVSep I vspSize (I.height m - vspSize) m

def gDark (m : σ) : Res σ := do
  if (← I.get m 8 (I.height m - 8)) = 0 then .error .writer
  I.set m 8 (I.height m - 8) 1

def gPAPs (versionNumber : Int) (m : σ) : Res σ :=
  if versionNumber < 2 then .ok m
  else do
    let index := versionNumber - 1
    let coordinates ← idx alignTable index
    coordinates.foldlM (fun m y =>
      if y ≥ 0 then
        coordinates.foldlM (fun m x => do
          if x ≥ 0 then
            if isEmpty (← I.get m x y) then gPAP I (x - 2) (y - 2) m
            else pure m
          else pure m) m
      else pure m) m

def gTiming (m : σ) : Res σ :=
  forRange 8 (I.width m - 8) (fun i m => do
    let bit : Int := Int.tmod (i + 1) 2
    let m ← if isEmpty (← I.get m i 6) then I.set m i 6 bit else pure m
    if isEmpty (← I.get m 6 i) then I.set m 6 i bit else pure m) m

def gBasic (versionNumber : Int) (m : σ) : Res σ := do
  let m ← gPDPs I m
  let m ← gDark I m
  let m ← gPAPs I versionNumber m
  gTiming I m

def gTypeInfoVals (vals : List Int) (m : σ) : Res σ :=
  let size : Int := vals.length
  forRange 0 size (fun i m => do
    let bit ← idx vals (size - 1 - i)
    let coordinates ← idx typeInfoCoordinates i
    let x1 ← idx coordinates 0
    let y1 ← idx coordinates 1
    let m ← I.set m x1 y1 bit
    if i < 8 then
      I.set m (I.width m - i - 1) 8 bit
    else do
      let x2 : Int := 8
      let y2 : Int := I.height m - 7 + (i - 8)
      let m ← I.set m x2 y2 bit
      I.set m x2 y2 bit) m

def gVersionInfoVals (vals : List Int) (m : σ) : Res σ := do
  let r ← forRange 0 6 (fun i (st : σ × Int) =>
    forRange 0 3 (fun j (st : σ × Int) => do
      let (m, bitIndex) := st
      let bit ← idx vals bitIndex
      let m ← I.set m i (I.height m - 11 + j) bit
      let m ← I.set m (I.height m - 11 + j) i bit
      pure (m, bitIndex - 1)) st) (m, 6 * 3 - 1)
  pure r.1

/-! ### at `ByteMatrix` the generic loops are the model's loops -/

theorem gPDP_bm : gPDP bmI = embedPositionDetectionPattern := rfl
theorem gPAP_bm : gPAP bmI = embedPositionAdjustmentPattern := rfl
theorem gHSep_bm : gHSep bmI = embedHorizontalSeparationPattern := rfl
theorem gVSep_bm : gVSep bmI = embedVerticalSeparationPattern := rfl
theorem gPDPs_bm : gPDPs bmI = embedPositionDetectionPatternsAndSeparators := rfl
theorem gDark_bm : gDark bmI = embedDarkDotAtLeftBottomCorner := rfl
theorem gPAPs_bm : gPAPs bmI = maybeEmbedPositionAdjustmentPatterns := rfl
theorem gTiming_bm : gTiming bmI = embedTimingPatterns := rfl
theorem gBasic_bm : gBasic bmI = embedBasicPatterns := rfl
theorem gTypeInfoVals_bm : gTypeInfoVals bmI = embedTypeInfoVals := rfl
theorem gVersionInfoVals_bm : gVersionInfoVals bmI = embedVersionInfoVals := rfl

end Gzx.QREnc
