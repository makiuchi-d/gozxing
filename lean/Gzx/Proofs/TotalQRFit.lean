/-
  C06 — a decidable check `cwFitsB` of the per-version obligation `CwFits` of Proofs/TotalQRDec.lean
  ("the symbol has room for at most totalCodewords codewords outside its function patterns"), and its
  soundness.  The check walks the zig-zag column pairs as `ReadCodewords` does; the function-pattern
  cells of one column are held in ONE natural number (bit y = row y).  The check is the form in which the
  property theorems take the hypothesis; nothing evaluates it: that the standard's version table passes it is
  shown by argument in Proofs/TotalQRFitRef.lean, and every user goes back to `CwFits` by `cwFits_of_check`.
-/
import Gzx.Proofs.TotalQRDec
namespace Gzx.Proofs.TotalQRFit
open Gzx Gzx.QRDec Gzx.Proofs.TotalQRDec

/-- rows of column `x` covered by the regions: bit `y` is set iff some region has `(x, y)` -/
def colMask : List Region → Nat → Nat
  | [], _ => 0
  | r :: rs, x =>
    (if r.left ≤ x ∧ x < r.left + r.width then (2 ^ r.height - 1) <<< r.top else 0) ||| colMask rs x

theorem colMask_testBit (regs : List Region) (x y : Nat) :
    (colMask regs x).testBit y = regs.any (·.has x y) := by
  induction regs with
  | nil => simp [colMask]
  | cons r rs ih =>
    simp only [colMask, Nat.testBit_or, ih, List.any_cons]
    congr 1
    unfold Region.has
    by_cases hx : r.left ≤ x ∧ x < r.left + r.width
    · rw [if_pos hx, Nat.testBit_shiftLeft, Nat.testBit_two_pow_sub_one]
      by_cases hy : r.top ≤ y
      · by_cases hy2 : y < r.top + r.height
        · have : y - r.top < r.height := by omega
          simp [hx.1, hx.2, hy, hy2, this]
        · have : ¬ y - r.top < r.height := by omega
          simp [hx.1, hx.2, hy, hy2, this]
      · simp [hy]
    · rw [if_neg hx]
      by_cases h1 : r.left ≤ x
      · have : ¬ x < r.left + r.width := fun h => hx ⟨h1, h⟩
        simp [h1, this]
      · simp [h1]

/-- `forceNat m k = k m` (`forceNat_eq`): binds a value for a continuation.  `pairsFree` uses it to name
    the two column masks of a pair before counting in them; the `match` makes an evaluator compute the mask once,
    where a `let` would be substituted into every use.  The proofs only use `forceNat_eq`. -/
def forceNat (m : Nat) (k : Nat → Nat) : Nat :=
  match m with
  | 0 => k 0
  | n + 1 => k (n + 1)

theorem forceNat_eq (m : Nat) (k : Nat → Nat) : forceNat m k = k m := by
  cases m <;> rfl

/-- data cells among the first `k` cells of one column walked upwards (`up`) or downwards -/
def colFree (mask dim : Nat) (xin up : Bool) : Nat → Nat
  | 0 => 0
  | k + 1 =>
    colFree mask dim xin up k +
      (if xin && decide ((if up then dim - 1 - k else k) < dim) && mask.testBit (if up then dim - 1 - k else k)
       then 0 else 1)

def pairsFree (regs : List Region) (dim : Nat) : List (Nat × Bool) → Nat
  | [] => 0
  | ju :: rest =>
    forceNat (colMask regs ju.1) (fun m1 => forceNat (colMask regs (ju.1 - 1)) (fun m2 =>
      colFree m1 dim (decide (ju.1 < dim)) ju.2 dim + colFree m2 dim (decide (ju.1 - 1 < dim)) ju.2 dim)) +
    pairsFree regs dim rest

/-- the region list of `Version.buildFunctionPattern` -/
def functionRegions (v : VersionInfo) : Option (List Region) :=
  match alignmentRegions v.centers with
  | none => none
  | some al =>
    some ([⟨0, 0, 9, 9⟩, ⟨v.dimension - 8, 0, 8, 9⟩, ⟨0, v.dimension - 8, 9, 8⟩] ++ al ++
      [⟨6, 9, 1, v.dimension - 17⟩, ⟨9, 6, v.dimension - 17, 1⟩] ++
      (if v.num > 6 then [⟨v.dimension - 11, 0, 3, 6⟩, ⟨0, v.dimension - 11, 6, 3⟩] else []))

/-- the check, one version -/
def cwFitsB (v : VersionInfo) : Bool :=
  match functionRegions v with
  | some regs =>
    decide (pairsFree regs v.dimension (colPairs v.dimension (v.dimension - 1) true) / 8 ≤ v.totalCodewords)
  | none => true

/-! ## soundness -/

theorem buildFunctionPattern_regs (v : VersionInfo) (fp : Matrix) (h : buildFunctionPattern v = .ok fp) :
    ∃ regs, functionRegions v = some regs ∧ fp.dim = v.dimension ∧ ∀ x y, fp.bit x y = regs.any (·.has x y) := by
  unfold buildFunctionPattern at h
  unfold functionRegions
  simp only [] at h
  cases hal : alignmentRegions v.centers with
  | none => rw [hal] at h; cases h
  | some al =>
    rw [hal] at h
    simp only [] at h ⊢
    by_cases h6 : v.num > 6
    · simp only [h6, if_true] at h ⊢
      split at h
      · cases h
        exact ⟨_, rfl, rfl, fun x y => rfl⟩
      · cases h
    · simp only [h6, if_false] at h ⊢
      split at h
      · cases h
        exact ⟨_, rfl, rfl, fun x y => rfl⟩
      · cases h

theorem freeCount_append (fp : Matrix) (l1 l2 : List (Nat × Nat)) :
    freeCount fp (l1 ++ l2) = freeCount fp l1 + freeCount fp l2 := by
  induction l1 with
  | nil => simp [freeCount]
  | cons a l ih => simp only [List.cons_append, freeCount, ih]; omega

theorem getB_mask (fp : Matrix) (regs : List Region) (hbit : ∀ x y, fp.bit x y = regs.any (·.has x y)) (x y : Nat) :
    fp.getB x y = (decide (x < fp.dim) && decide (y < fp.dim) && (colMask regs x).testBit y) := by
  unfold Matrix.getB
  rw [colMask_testBit, hbit]
  by_cases hx : x < fp.dim
  · by_cases hy : y < fp.dim
    · simp [hx, hy]
    · simp [hy]
  · simp [hx]

theorem freeCount_column (fp : Matrix) (regs : List Region) (hbit : ∀ x y, fp.bit x y = regs.any (·.has x y))
    (a b : Nat) (up : Bool) : ∀ k : Nat,
    freeCount fp ((List.range k).flatMap (fun count =>
      [(a, if up then fp.dim - 1 - count else count), (b, if up then fp.dim - 1 - count else count)])) =
    colFree (colMask regs a) fp.dim (decide (a < fp.dim)) up k +
      colFree (colMask regs b) fp.dim (decide (b < fp.dim)) up k
  | 0 => by simp [freeCount, colFree]
  | k + 1 => by
    rw [List.range_succ, List.flatMap_append, freeCount_append, freeCount_column fp regs hbit a b up k]
    simp only [List.flatMap_cons, List.flatMap_nil, List.append_nil, freeCount, colFree,
      getB_mask fp regs hbit]
    omega

theorem freeCount_pairs (fp : Matrix) (regs : List Region) (hbit : ∀ x y, fp.bit x y = regs.any (·.has x y)) :
    ∀ pairs : List (Nat × Bool),
    freeCount fp (pairs.flatMap (fun ju =>
      (List.range fp.dim).flatMap (fun count =>
        let i := if ju.2 then fp.dim - 1 - count else count
        [(ju.1, i), (ju.1 - 1, i)]))) = pairsFree regs fp.dim pairs
  | [] => by simp [freeCount, pairsFree]
  | ju :: rest => by
    rw [List.flatMap_cons, freeCount_append, freeCount_pairs fp regs hbit rest]
    simp only [pairsFree, forceNat_eq]
    rw [← freeCount_column fp regs hbit ju.1 (ju.1 - 1) ju.2 fp.dim]

theorem cwFits_of_check (T : Tables) (h : T.versions.all cwFitsB = true) : CwFits T := by
  intro v hv fp hfp
  have hc := List.all_eq_true.mp h v hv
  obtain ⟨regs, hregs, hdim, hbit⟩ := buildFunctionPattern_regs v fp hfp
  unfold cwFitsB at hc
  rw [hregs] at hc
  simp only [decide_eq_true_eq] at hc
  have := freeCount_pairs fp regs hbit (colPairs v.dimension (v.dimension - 1) true)
  rw [hdim] at this
  unfold zigzagCells
  rw [this]
  exact hc

end Gzx.Proofs.TotalQRFit
