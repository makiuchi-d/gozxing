/-
  C11 mode message with the C04 Reed-Solomon decoder over GF(16) plugged in: the 4-bit words that
  `getCorrectedParameterData` cuts from the reference mode message are `header nibbles ++ rsParity 4 (5|6) …`,
  a code word of C04's code over `aztecParam`; hence the tolerance of 2 (compact) / 3 (full-range) wrong words.
-/
import Gzx.Proofs.AztecMode
import Gzx.Proofs.AztecRS
namespace Gzx.AztecModeRS
open Gzx Gzx.AztecDecoder Gzx.Ref.Aztec Gzx.AztecLink Gzx.AztecStuff Gzx.AztecMode Gzx.AztecRS
open Gzx.Properties.C04 (hamming)

theorem digits16_snoc (n pd a : Nat) (ha : a < 16) :
    digits16 (n + 1) (pd * 16 + a) = digits16 n pd ++ [a] := by
  unfold digits16
  rw [List.range_succ, List.map_append]
  congr 1
  · apply List.map_congr_left
    intro i hi
    have hi' : i < n := List.mem_range.1 hi
    have e : 4 * (n + 1 - 1 - i) = 4 * (n - 1 - i) + 4 := by omega
    rw [e, and15, and15, Nat.shiftRight_eq_div_pow, Nat.shiftRight_eq_div_pow, Nat.pow_add,
      Nat.mul_comm (2 ^ (4 * (n - 1 - i))) (2 ^ 4), ← Nat.div_div_eq_div_mul]
    congr 2
    omega
  · simp only [List.map_cons, List.map_nil, and15, Nat.shiftRight_eq_div_pow]
    have : 4 * (n + 1 - 1 - n) = 0 := by omega
    rw [this]
    simp
    omega

theorem digits16_flatMap (ws : List Nat) : (∀ x ∈ ws, x < 16) →
    digits16 ws.length (fromBits (ws.flatMap (toBits 4))) = ws := by
  induction ws using QRComp.rev_ind with
  | h0 => intro _; rfl
  | hs ws a ih =>
    intro h
    have ha : a < 16 := h a (by simp)
    have hws : ∀ x ∈ ws, x < 16 := fun x hx => h x (by simp [hx])
    rw [List.flatMap_append, fromBits_append]
    simp only [List.flatMap_cons, List.flatMap_nil, List.append_nil, length_toBits, List.length_append,
      List.length_cons, List.length_nil]
    rw [fromBits_toBits_of_lt 4 a ha]
    show digits16 (ws.length + 1) (fromBits (ws.flatMap (toBits 4)) * 16 + a) = ws ++ [a]
    rw [digits16_snoc _ _ _ ha, ih hws]

/-- the two header fields of the mode message (layers - 1 on 2 | 5 bits, data words - 1 on 6 | 11 bits),
    cut into 4-bit words as `modeMessage` feeds them to `rsParity`: the `nib` of `Ref.Aztec.modeMessage`, cut out so
    that it can be named (`modeMessage_eq`, by `rfl`) -/
def headerNibbles (compact : Bool) (layers dw : Nat) : List Nat :=
  let hdr := if compact then toBits 2 (layers - 1) ++ toBits 6 (dw - 1)
             else toBits 5 (layers - 1) ++ toBits 11 (dw - 1)
  if compact then [fromBits (hdr.take 4), fromBits (hdr.drop 4)]
  else [fromBits (hdr.take 4), fromBits ((hdr.drop 4).take 4),
        fromBits ((hdr.drop 8).take 4), fromBits (hdr.drop 12)]

theorem modeMessage_eq (compact : Bool) (layers dw : Nat) :
    modeMessage compact layers dw =
      (headerNibbles compact layers dw ++
        rsParity 4 (if compact then 5 else 6) (headerNibbles compact layers dw)).flatMap (toBits 4) := rfl

theorem headerNibbles_lt (compact : Bool) (layers dw : Nat) : ∀ x ∈ headerNibbles compact layers dw, x < 2 ^ 4 := by
  have htake (l : List Bool) : fromBits (l.take 4) < 2 ^ 4 := fromBits_lt_of_length_le _ (List.length_take_le 4 l)
  cases compact
  · simp only [headerNibbles, Bool.false_eq_true, if_false, List.mem_cons, List.not_mem_nil, or_false,
      forall_eq_or_imp, forall_eq]
    exact ⟨htake _, htake _, htake _, fromBits_lt_of_length_le _ (by simp [length_toBits])⟩
  · simp only [headerNibbles, if_true, List.mem_cons, List.not_mem_nil, or_false, forall_eq_or_imp, forall_eq]
    exact ⟨htake _, fromBits_lt_of_length_le _ (by simp [length_toBits])⟩

theorem headerNibbles_length (compact : Bool) (layers dw : Nat) :
    (headerNibbles compact layers dw).length = if compact then 2 else 4 := by
  cases compact <;> rfl

theorem wordOK4 : WordOK 4 := Or.inl rfl

/-- **the words `getCorrectedParameterData` hands to the Reed-Solomon decoder are header nibbles followed by
    their reference check nibbles** -/
theorem paramWords_ref (compact : Bool) (layers dw : Nat) :
    paramWords compact (fromBits (modeMessage compact layers dw)) =
      headerNibbles compact layers dw ++
        rsParity 4 (if compact then 5 else 6) (headerNibbles compact layers dw) := by
  have hlt : ∀ x ∈ headerNibbles compact layers dw ++
      rsParity 4 (if compact then 5 else 6) (headerNibbles compact layers dw), x < 16 := by
    have := (rsParity_codeword 4 wordOK4 (if compact then 5 else 6) (headerNibbles compact layers dw)
      (headerNibbles_lt compact layers dw)).1
    intro x hx
    have h := this x hx
    rwa [gfOf_size 4 wordOK4] at h
  have hlen : (headerNibbles compact layers dw ++
      rsParity 4 (if compact then 5 else 6) (headerNibbles compact layers dw)).length =
      if compact then 7 else 10 := by
    rw [List.length_append, rsParity_length, headerNibbles_length]
    cases compact <;> rfl
  rw [paramWords_eq, modeMessage_eq, ← hlen]
  exact digits16_flatMap _ hlt

theorem headerNibbles_fold (compact : Bool) (layers dw : Nat)
    (hl : layers ≤ (if compact then 4 else 32)) (hd : dw ≤ (if compact then 64 else 2048)) :
    (headerNibbles compact layers dw).foldl (fun r w => (r <<< 4) + w) 0 =
      (layers - 1) * 2 ^ (if compact then 6 else 11) + (dw - 1) := by
  cases compact
  · simp only [headerNibbles, Bool.false_eq_true, if_false] at hl hd ⊢
    have hv : fromBits (toBits 5 (layers - 1) ++ toBits 11 (dw - 1)) = (layers - 1) * 2 ^ 11 + (dw - 1) := by
      rw [fromBits_append, length_toBits, fromBits_toBits_of_lt 5 _ (by omega),
        fromBits_toBits_of_lt 11 _ (by omega)]
    rw [← hv]
    generalize hh : toBits 5 (layers - 1) ++ toBits 11 (dw - 1) = hdr
    have hlen : hdr.length = 16 := by rw [← hh]; simp [length_toBits]
    have h := fromBits_chunks 4 [hdr.take 4, (hdr.drop 4).take 4, (hdr.drop 8).take 4, hdr.drop 12]
      (by simp [hlen])
    have a1 : (hdr.drop 8).take 4 ++ hdr.drop 12 = hdr.drop 8 := by
      simpa [List.drop_drop] using List.take_append_drop 4 (hdr.drop 8)
    have a2 : (hdr.drop 4).take 4 ++ hdr.drop 8 = hdr.drop 4 := by
      simpa [List.drop_drop] using List.take_append_drop 4 (hdr.drop 4)
    simpa [a1, a2] using h
  · simp only [headerNibbles, if_true] at hl hd ⊢
    have hv : fromBits (toBits 2 (layers - 1) ++ toBits 6 (dw - 1)) = (layers - 1) * 2 ^ 6 + (dw - 1) := by
      rw [fromBits_append, length_toBits, fromBits_toBits_of_lt 2 _ (by omega),
        fromBits_toBits_of_lt 6 _ (by omega)]
    rw [← hv]
    generalize hh : toBits 2 (layers - 1) ++ toBits 6 (dw - 1) = hdr
    have hlen : hdr.length = 8 := by rw [← hh]; simp [length_toBits]
    simpa using fromBits_chunks 4 [hdr.take 4, hdr.drop 4] (by simp [hlen])

/-- the header fields are recovered from any parameter word `pd'`, whatever Reed-Solomon decoder turns
    its 4-bit words into those of the reference mode message -/
theorem mode_fields (rs : RSDecoder) (compact : Bool) (layers dw : Nat)
    (hl : 1 ≤ layers ∧ layers ≤ (if compact then 4 else 32))
    (hd : 1 ≤ dw ∧ dw ≤ (if compact then 64 else 2048)) (pd' : Nat)
    (hrs : rs 4 (paramWords compact pd') (if compact then 5 else 6) =
      .ok (paramWords compact (fromBits (modeMessage compact layers dw)))) :
    correctedParameters rs compact pd' = .ok (layers, dw) := by
  have htake := List.take_left (l₁ := headerNibbles compact layers dw)
    (l₂ := rsParity 4 (if compact then 5 else 6) (headerNibbles compact layers dw))
  rw [headerNibbles_length] at htake
  rw [correctedParameters_eq, hrs, paramWords_ref]
  simp only [htake, headerNibbles_fold compact layers dw hl.2 hd.2]
  cases compact
  · simp only [Bool.false_eq_true, if_false, Nat.shiftRight_eq_div_pow,
      Nat.and_two_pow_sub_one_eq_mod _ 11] at hl hd ⊢
    congr 2 <;> omega
  · simp only [if_true, Nat.shiftRight_eq_div_pow, Nat.and_two_pow_sub_one_eq_mod _ 6] at hl hd ⊢
    congr 2 <;> omega

/-- any parameter word whose 4-bit words differ from the reference mode message's in at most 2 (compact) /
    3 (full-range) positions is corrected to it -/
theorem mode_rs_corrects (compact : Bool) (layers dw pd' : Nat)
    (hdam : hamming (paramWords compact (fromBits (modeMessage compact layers dw))) (paramWords compact pd') ≤
      (if compact then 2 else 3)) :
    rsModel 4 (paramWords compact pd') (if compact then 5 else 6) =
      .ok (paramWords compact (fromBits (modeMessage compact layers dw))) := by
  rw [paramWords_ref] at hdam ⊢
  apply rsModel_corrects 4 wordOK4 _ _ _ (by cases compact <;> simp [headerNibbles])
    (headerNibbles_lt compact layers dw)
  · rw [headerNibbles_length]; cases compact <;> decide
  · rw [headerNibbles_length, paramWords_eq]; cases compact <;> simp [digits16]
  · rw [paramWords_eq]; exact digits16_lt _ _
  · cases compact <;> simp at hdam ⊢ <;> omega

/-! ### length of the mode message -/

theorem modeMessage_length (compact : Bool) (layers dw : Nat) :
    (modeMessage compact layers dw).length = if compact then 28 else 40 := by
  have hfl : ∀ ws : List Nat, (ws.flatMap (toBits 4)).length = 4 * ws.length := by
    intro ws
    induction ws with
    | nil => rfl
    | cons x ws ih => simp [length_toBits, ih]; omega
  cases compact
  · simp only [modeMessage, Bool.false_eq_true, if_false, hfl, List.length_append, rsParity_length]
    simp
  · simp only [modeMessage, if_true, hfl, List.length_append, rsParity_length]
    simp

end Gzx.AztecModeRS
