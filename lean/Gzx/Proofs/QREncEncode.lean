/-
  wp `qrenc` — `Encoder_encode` on the mirror model, both halves: `encodeBack` (terminate → interleave → mask →
  buildMatrix) = the reference symbol of the payload; `encodeFront` (mode, header segments, data bits, version,
  character count) builds the reference's payload for a mode whose data segment is known (`Segment`: numeric,
  alphanumeric and byte here, Kanji in Proofs/QREncFront.lean); composed: `encode_eq_ref`, the whole call = the reference construction.
-/
import Gzx.Proofs.QREncPipeline
import Gzx.Proofs.QREncVersion
import Gzx.Proofs.QREncSegments
namespace Gzx.QREnc
open Gzx Gzx.QRRef

/-- the block row of (version, level) as `Encoder_encode` reads it -/
theorem ecBlocks_facts (v : Nat) (h1 : 1 ≤ v) (h40 : v ≤ 40) (ec : EC) :
    ∃ b, QRVersionChoice.ecBlocksForLevel (versionInfo v) ec = .ok b ∧
      QRVersionChoice.numBlocksOf b = numBlocks v ec ∧
      ((versionInfo v).total : Int) - (QRVersionChoice.totalECCodewords b : Int) = ((dataCodewords v ec : Nat) : Int) ∧
      (versionInfo v).total = totalCodewords v := by
  have hk := kernOK_all (v - 1) (List.mem_range.mpr (by omega)) ec (QRVersionChoice.mem_EC_all ec)
  rw [show v - 1 + 1 = v by omega] at hk
  unfold kernOK at hk
  simp only [Bool.and_eq_true, beq_iff_eq, decide_eq_true_eq, List.all_eq_true] at hk
  obtain ⟨⟨⟨⟨⟨⟨_, _⟩, htot⟩, _⟩, _⟩, _⟩, _⟩ := hk
  have hs := Gzx.Properties.C07.std_blocks_sum (v - 1) (List.mem_range.mpr (by omega)) ec (QRVersionChoice.mem_EC_all ec)
  rw [show v - 1 + 1 = v by omega] at hs
  obtain ⟨_, hnb, _, _, _, _⟩ := hs
  refine ⟨(ecPerBlock v ec, blockGroups v ec), ?_, ?_, ?_, rfl⟩
  · unfold QRVersionChoice.ecBlocksForLevel versionInfo
    cases ec <;> rfl
  · unfold QRVersionChoice.numBlocksOf
    exact hnb
  · unfold QRVersionChoice.totalECCodewords QRVersionChoice.numBlocksOf
    simp only
    rw [hnb]
    show ((totalCodewords v : Nat) : Int) - _ = _
    rw [htot]
    simp [Int.natCast_mul]

theorem maskOfHint_cases (h : Option HintVal) : maskOfHint h = -1 ∨ ∃ k : Nat, k < 8 ∧ maskOfHint h = (k : Int) := by
  unfold maskOfHint
  cases h with
  | none => left; rfl
  | some hv =>
    simp only
    generalize maskHintInt hv = mp
    by_cases hvalid : isValidMaskPattern mp = true
    · rw [if_pos hvalid]
      right
      simp only [isValidMaskPattern, Bool.and_eq_true, decide_eq_true_eq] at hvalid
      exact ⟨mp.toNat, by omega, by omega⟩
    · rw [if_neg hvalid]; left; rfl

/-- the mask the call ends up with: the hinted one if valid, else the reference's choice -/
def finalMask (maskHint : Option HintVal) (v : Nat) (ec : EC) (payload : Bits) : Nat :=
  if maskOfHint maskHint = -1 then chooseMask v ec (refCodewords v ec payload) else (maskOfHint maskHint).toNat

theorem encodeBack_eq_ref {K : Kernels} (hK : KernelsOK K) (v : Nat) (h1 : 1 ≤ v) (h40 : v ≤ 40)
    (maskHint : Option HintVal) (f : FrontResult) (hv : f.version = versionInfo v)
    (hfit : f.headerAndDataBits.length ≤ 8 * dataCodewords v f.ec) :
    ∃ t, encodeBack K maskHint f = .ok t ∧ t.mode = f.mode ∧ t.version = v ∧ t.headerAndDataBits = f.headerAndDataBits ∧
      t.maskPattern = ((finalMask maskHint v f.ec f.headerAndDataBits : Nat) : Int) ∧
      t.terminated = bitsOfBytes (terminate (dataCodewords v f.ec) f.headerAndDataBits) ∧
      t.finalBits = bitsOfBytes (refCodewords v f.ec f.headerAndDataBits) ∧
      t.matrix = refByteMatrix v f.ec (finalMask maskHint v f.ec f.headerAndDataBits) (refCodewords v f.ec f.headerAndDataBits) := by
  obtain ⟨b, hb, hnb, hnd, htotal⟩ := ecBlocks_facts v h1 h40 f.ec
  unfold encodeBack
  rw [hv, hb]
  rw [htotal] at hnd
  simp only [bind, Except.bind, htotal, hnd, hnb]
  rw [terminateBits_eq _ _ hfit]
  simp only
  have hdl := terminate_length (dataCodewords v f.ec) f.headerAndDataBits hfit
  have hdb := QRComp.terminate_lt (dataCodewords v f.ec) f.headerAndDataBits
  rw [interleave_eq_ref hK v h1 h40 f.ec _ hdl hdb]
  simp only
  have hdim : (17 : Int) + 4 * (((versionInfo v).number : Nat) : Int) = ((dimension v : Nat) : Int) := by
    show (17 : Int) + 4 * ((v : Nat) : Int) = _
    unfold dimension; omega
  rw [hdim]
  obtain ⟨m0, hm0, hw0⟩ := newByteMatrix_wfm (dimension v)
  rw [hm0]
  simp only
  have hroom := refCodewords_room v h1 h40 f.ec f.headerAndDataBits hfit
  unfold refCodewords at hroom
  have hnum : (versionInfo v).number = v := rfl
  simp only [hnum]
  unfold finalMask refCodewords
  rcases maskOfHint_cases maskHint with hauto | ⟨k, hk, hkk⟩
  · rw [hauto]
    simp only [if_true]
    obtain ⟨pens, m1, hch, hw1⟩ := chooseMaskPattern_eq hK v h1 h40 f.ec _ hroom m0 hw0
    rw [hch]
    simp only
    have hk := chooseMask_lt v f.ec (finalCodewords v f.ec (terminate (dataCodewords v f.ec) f.headerAndDataBits))
    rw [buildMatrix_eq_ref hK v h1 h40 f.ec _ hk _ hroom m1 hw1]
    exact ⟨_, rfl, rfl, rfl, rfl, rfl, rfl, rfl, rfl⟩
  · rw [hkk]
    have hne : ¬ ((k : Int) = -1) := by omega
    simp only [hne, if_false, pure, Except.pure, Int.toNat_natCast]
    rw [buildMatrix_eq_ref hK v h1 h40 f.ec k hk _ hroom m0 hw0]
    exact ⟨_, rfl, rfl, rfl, rfl, rfl, rfl, rfl, rfl⟩

theorem encodeBack_total {K : Kernels} (hK : KernelsOK K) (v : Nat) (h1 : 1 ≤ v) (h40 : v ≤ 40)
    (maskHint : Option HintVal) (f : FrontResult) (hv : f.version = versionInfo v) :
    (∃ t, encodeBack K maskHint f = .ok t ∧ t.version = v) ∨ encodeBack K maskHint f = .error .writer := by
  by_cases hfit : f.headerAndDataBits.length ≤ 8 * dataCodewords v f.ec
  · obtain ⟨t, ht, _, htv, _⟩ := encodeBack_eq_ref hK v h1 h40 maskHint f hv hfit
    exact Or.inl ⟨t, ht, htv⟩
  · right
    obtain ⟨b, hb, hnb, hnd, htotal⟩ := ecBlocks_facts v h1 h40 f.ec
    unfold encodeBack
    rw [hv, hb]
    rw [htotal] at hnd
    simp only [bind, Except.bind, htotal, hnd]
    rw [terminateBits_refuses _ _ (by omega)]

/-! ### the first half -/

/-- A data segment of mode `m`: what `appendBytes` makes of the content, what the reference's `encodeData` makes of
    the mode's byte representation, the character count `Encoder_encode` writes, and the fact that a count whose
    data fits a version fits that version's count indicator. -/
structure Segment (inp : EncInput) (m : Mode) (bytes : List Nat) (count : Nat) (data : Bits) : Prop where
  append : appendBytes inp.content m inp.encoded inp.sjis [] = .ok data
  ref : encodeData m bytes = some (count, data)
  letters : numLettersOf inp m data = (count : Int)
  countFits : ∀ v ec hdr, 1 ≤ v → v ≤ 40 → 4 ≤ hdr → fitsBits v ec m hdr data.length = true → count < 2 ^ countBits m v

/-- the ECI designator the call announces -/
def eciOf (inp : EncInput) (m : Mode) : Option Nat := if m = .byte then inp.charset.bind (·.eciValue) else none

theorem appendModeInfo_nat (k : Nat) (bits : Bits) : appendModeInfo (k : Int) bits = bits ++ toBitsBE 4 k := by
  unfold appendModeInfo
  exact appendBitsIgn_nat k 4 (by omega) bits

theorem header_eq (inp : EncInput) (m : Mode) (he : ∀ e, eciOf inp m = some e → e < 128) :
    headerOf inp m = headerBits (eciOf inp m) (gs1OfHint inp.gs1) m := by
  unfold headerOf
  simp only
  have heci : eciHeader inp m = (match eciOf inp m with
        | some e => toBitsBE 4 7 ++ eciDesignator e
        | none => []) := by
    unfold eciHeader
    unfold eciOf
    by_cases hm : m = .byte
    · subst hm
      simp only [true_and, if_true]
      cases hc : inp.charset with
      | none => simp
      | some cs =>
        simp only [Option.isSome_some, if_true, Option.bind_some]
        cases hv : cs.eciValue with
        | none => rfl
        | some e =>
          simp only
          have hlt : e < 128 := he e (by unfold eciOf; simp [hc, hv])
          unfold appendECI eciDesignator
          rw [if_pos hlt]
          have h1 : appendBitsIgn 7 4 [] = toBitsBE 4 7 := by
            have := appendBitsIgn_nat 7 4 (by omega) []
            simpa using this
          rw [h1]
          exact appendBitsIgn_nat e 8 (by omega) _
    · simp [hm]
  rw [heci]
  unfold headerBits
  rw [appendModeInfo_nat]
  cases gs1OfHint inp.gs1
  · simp only [Bool.false_eq_true, if_false, List.append_nil]
    cases eciOf inp m <;> rfl
  · simp only [if_true]
    rw [show (5 : Int) = ((5 : Nat) : Int) by rfl, appendModeInfo_nat]
    cases eciOf inp m <;> rfl

theorem headerBits_len (eci : Option Nat) (g : Bool) (m : Mode) : 4 ≤ (headerBits eci g m).length := by
  unfold headerBits
  simp only [List.length_append, toBitsBE_length]
  omega

theorem refTables_row (v : Nat) (h1 : 1 ≤ v) (h40 : v ≤ 40) :
    QRVersionChoice.getVersionForNumber tables (v : Int) = .ok (versionInfo v) := by
  have := QRVersionChoice.getVersion_ok (T := QRVersionChoice.refTables) Gzx.Properties.C13.ref_wf h1 h40
  rw [(row_facts v h1 h40 .L .byte).1] at this
  exact this

def versionChoice (inp : EncInput) (ec : EC) (m : Mode) (hdrLen dataLen : Nat) : Option Nat :=
  match inp.version with
  | some h =>
    if 1 ≤ versionHintInt h ∧ versionHintInt h ≤ 40 ∧ fitsBits (versionHintInt h).toNat ec m hdrLen dataLen = true
    then some (versionHintInt h).toNat else none
  | none => minVersion ec m hdrLen dataLen

theorem versionChoice_range {inp : EncInput} {ec : EC} {m : Mode} {h d v : Nat} (hv : versionChoice inp ec m h d = some v) :
    1 ≤ v ∧ v ≤ 40 ∧ fitsBits v ec m h d = true := by
  unfold versionChoice at hv
  cases hh : inp.version with
  | none => rw [hh] at hv; exact minVersion_range hv
  | some hint =>
    rw [hh] at hv
    simp only at hv
    split at hv
    · rename_i hc
      simp only [Option.some.injEq] at hv
      subst hv
      exact ⟨by omega, by omega, hc.2.2⟩
    · cases hv

/-- a character set the registry knows passes the check of `Encoder_encode` -/
theorem charsetIsSJIS_known (inp : EncInput) (hcs : ∀ cs, inp.charset = some cs → cs.known = true) :
    charsetIsSJIS inp = .ok (match inp.charset with | some cs => cs.isSJIS | none => false) := by
  unfold charsetIsSJIS
  cases hc : inp.charset with
  | none => rfl
  | some cs => simp [hcs cs hc, pure, Except.pure]

/-- `encodeFront` once level, character set and data bits are settled: the version decision (requested version
    iff in 1..40 and fitting, else the smallest fitting one, else refusal) followed by the character count -/
theorem encodeFront_shape (inp : EncInput) (ec : EC) (hec : ecOfInt inp.ecLevel = some ec)
    (hcs : charsetIsSJIS inp = .ok (match inp.charset with | some cs => cs.isSJIS | none => false)) (m : Mode)
    (hmode : chooseMode inp.content (match inp.charset with | some cs => cs.isSJIS | none => false) inp.sjis = .ok m)
    (data : Bits) (happ : appendBytes inp.content m inp.encoded inp.sjis [] = .ok data) :
    encodeFront inp =
      match versionChoice inp ec m (headerOf inp m).length data.length with
      | some v =>
        (appendLengthInfo (numLettersOf inp m data) (versionInfo v) m (headerOf inp m)).bind
          (fun hb => .ok ⟨ec, m, headerOf inp m, data, versionInfo v, hb ++ data⟩)
      | none => .error .writer := by
  unfold encodeFront
  simp only [hec, bind, Except.bind, pure, Except.pure]
  rw [hcs]
  simp only
  rw [hmode]
  simp only
  rw [happ]
  simp only
  generalize hH : headerOf inp m = hdr
  unfold versionChoice
  cases hvh : inp.version with
  | none =>
    simp only
    rw [recommendVersion_eq_min]
    cases hmin : minVersion ec m hdr.length data.length with
    | none => rfl
    | some v =>
      simp only
  | some hint =>
    simp only
    by_cases hr : 1 ≤ versionHintInt hint ∧ versionHintInt hint ≤ 40
    · obtain ⟨v, hv⟩ : ∃ v : Nat, versionHintInt hint = (v : Int) := ⟨(versionHintInt hint).toNat, by omega⟩
      rw [hv] at hr ⊢
      have h1 : 1 ≤ v := by omega
      have h40 : v ≤ 40 := by omega
      rw [refTables_row v h1 h40]
      simp only [Int.toNat_natCast]
      have hrow := (row_facts v h1 h40 ec m).1
      have hcb : QRVersionChoice.calculateBitsNeeded tables m hdr.length data.length (versionInfo v) =
          .ok (hdr.length + QRVersionChoice.cbOf QRVersionChoice.refTables m v + data.length) := by
        have := QRVersionChoice.calculateBitsNeeded_ok (T := QRVersionChoice.refTables) Gzx.Properties.C13.ref_wf m hdr.length data.length h1 h40
        rw [hrow] at this
        exact this
      rw [hcb]
      simp only
      have hwf : QRVersionChoice.willFit (hdr.length + QRVersionChoice.cbOf QRVersionChoice.refTables m v + data.length) (versionInfo v) ec =
          .ok (QRVersionChoice.fitsBytes (QRVersionChoice.dataBytes QRVersionChoice.refTables v ec)
            (hdr.length + QRVersionChoice.cbOf QRVersionChoice.refTables m v + data.length)) := by
        have := QRVersionChoice.willFit_ok (T := QRVersionChoice.refTables) Gzx.Properties.C13.ref_wf h1 h40 ec
          (hdr.length + QRVersionChoice.cbOf QRVersionChoice.refTables m v + data.length)
        rw [hrow] at this
        exact this
      rw [hwf]
      simp only
      have hfe := fits_eq_fitsBits v h1 h40 ec m hdr.length data.length
      unfold Gzx.Properties.C13.fits Gzx.Properties.C13.bitsNeeded at hfe
      rw [hfe]
      cases hfit : fitsBits v ec m hdr.length data.length
      · simp [hr]
      · simp only [Bool.not_true, Bool.false_eq_true, if_false]
        have : ((1 : Int) ≤ (v : Int) ∧ (v : Int) ≤ 40 ∧ True) := ⟨by omega, by omega, trivial⟩
        rw [if_pos this]
    · have hno : ¬ (1 ≤ versionHintInt hint ∧ versionHintInt hint ≤ 40 ∧
          fitsBits (versionHintInt hint).toNat ec m hdr.length data.length = true) := fun h => hr ⟨h.1, h.2.1⟩
      rw [if_neg hno]
      unfold QRVersionChoice.getVersionForNumber
      have : versionHintInt hint < 1 ∨ versionHintInt hint > 40 := by omega
      simp [this]

theorem encodeFront_eq (inp : EncInput) (ec : EC) (hec : ecOfInt inp.ecLevel = some ec)
    (hcs : ∀ cs, inp.charset = some cs → cs.known = true) (m : Mode)
    (hmode : chooseMode inp.content (match inp.charset with | some cs => cs.isSJIS | none => false) inp.sjis = .ok m)
    (bytes : List Nat) (count : Nat) (data : Bits) (seg : Segment inp m bytes count data)
    (he : ∀ e, eciOf inp m = some e → e < 128) :
    encodeFront inp =
      match versionChoice inp ec m (headerBits (eciOf inp m) (gs1OfHint inp.gs1) m).length data.length with
      | some v => .ok ⟨ec, m, headerBits (eciOf inp m) (gs1OfHint inp.gs1) m, data, versionInfo v,
          payloadBits v (headerBits (eciOf inp m) (gs1OfHint inp.gs1) m) m count data⟩
      | none => .error .writer := by
  rw [encodeFront_shape inp ec hec (charsetIsSJIS_known inp hcs) m hmode data seg.append, header_eq inp m he]
  generalize hH : headerBits (eciOf inp m) (gs1OfHint inp.gs1) m = hdr
  have hlen4 : 4 ≤ hdr.length := by rw [← hH]; exact headerBits_len _ _ _
  cases hvc : versionChoice inp ec m hdr.length data.length with
  | none => rfl
  | some v =>
    obtain ⟨h1, h40, hfit⟩ := versionChoice_range hvc
    simp only
    rw [seg.letters, appendLengthInfo_eq v m count (seg.countFits v ec hdr.length h1 h40 hlen4 hfit)]
    simp [Except.bind, payloadBits, List.append_assoc]

/-! ### the segments of numeric, alphanumeric and byte mode -/

/-- a character count whose data bits fit a version fits that version's count indicator (from C13) -/
theorem count_fits (m : Mode) (n : Nat) (v : Nat) (ec : EC) (hdr : Nat) (h1 : 1 ≤ v) (h40 : v ≤ 40) (hh : 4 ≤ hdr)
    (hfit : fitsBits v ec m hdr (dataBitsLen m n) = true) : n < 2 ^ countBits m v := by
  have hf : Gzx.Properties.C13.fits QRVersionChoice.refTables ec m hdr (dataBitsLen m n) v = true := by
    rw [fits_eq_fitsBits v h1 h40]; exact hfit
  have := Gzx.Properties.C13.length_guard_never_fires QRVersionChoice.refTables Gzx.Properties.C13.ref_guard ec m hdr n v h1 h40 hh hf
  rw [(row_facts v h1 h40 ec m).2.2] at this
  exact this

theorem segment_byte (inp : EncInput) (bs : List Nat) (he : inp.encoded = some bs) :
    Segment inp .byte bs bs.length (bitsOfBytes bs) := by
  refine ⟨?_, rfl, ?_, ?_⟩
  · unfold appendBytes
    simp only
    rw [he, append8BitBytes_eq]
    simp
  · unfold numLettersOf sizeInBytes
    simp only
    rw [bitsOfBytes_length]
    congr 1; omega
  · intro v ec hdr h1 h40 hh hfit
    rw [bitsOfBytes_length] at hfit
    exact count_fits .byte bs.length v ec hdr h1 h40 hh (by simpa [dataBitsLen] using hfit)

theorem mapM_digitVal (content : List Nat) (hd : ∀ c ∈ content, isDigit c) :
    content.mapM digitVal = some (content.map (· - 48)) := by
  induction content with
  | nil => rfl
  | cons c cs ih =>
    have hc := hd c List.mem_cons_self
    rw [List.mapM_cons, ih (fun x hx => hd x (List.mem_cons_of_mem _ hx))]
    unfold digitVal
    unfold isDigit at hc
    simp [hc]

theorem segment_numeric (inp : EncInput) (hd : ∀ c ∈ inp.content, isDigit c) :
    Segment inp .numeric inp.content inp.content.length (packNumeric (inp.content.map (· - 48))) := by
  refine ⟨?_, ?_, rfl, ?_⟩
  · unfold appendBytes
    simp only
    rw [appendNumericBytes_eq _ hd]
    simp
  · unfold encodeData
    simp only
    rw [mapM_digitVal _ hd]
    simp
  · intro v ec hdr h1 h40 hh hfit
    rw [QRComp.packNumeric_length, List.length_map] at hfit
    exact count_fits .numeric _ v ec hdr h1 h40 hh (by simpa [dataBitsLen] using hfit)

theorem segment_alnum (inp : EncInput) (codes : List Nat) (hc : inp.content.mapM alnumCode = some codes) :
    Segment inp .alnum inp.content inp.content.length (packAlnum codes) := by
  have hlen : codes.length = inp.content.length := by
    have : ∀ (l : List Nat) (cs : List Nat), l.mapM alnumCode = some cs → cs.length = l.length := by
      intro l
      induction l with
      | nil => intro cs h; simp at h; subst h; rfl
      | cons a as ih =>
        intro cs h
        rw [List.mapM_cons] at h
        cases ha : alnumCode a with
        | none => simp [ha] at h
        | some k =>
          cases hr : as.mapM alnumCode with
          | none => simp [ha, hr] at h
          | some r =>
            simp [ha, hr] at h
            subst h
            simp [ih r hr]
    exact this _ _ hc
  refine ⟨?_, ?_, rfl, ?_⟩
  · unfold appendBytes
    simp only
    rw [appendAlphanumericBytes_eq _ codes hc]
    simp
  · unfold encodeData
    simp only
    rw [hc]
    simp [hlen]
  · intro v ec hdr h1 h40 hh hfit
    rw [QRComp.packAlnum_length, hlen] at hfit
    exact count_fits .alnum _ v ec hdr h1 h40 hh (by simpa [dataBitsLen] using hfit)

/-! ### the whole call -/

/-- the reference configuration an `Encoder_encode` call amounts to -/
def refConfig (inp : EncInput) (ec : EC) (m : Mode) : Config :=
  { ec := ec, eci := eciOf inp m, gs1 := gs1OfHint inp.gs1,
    version := inp.version.map (fun h => (versionHintInt h).toNat),
    mask := if maskOfHint inp.mask = -1 then none else some (maskOfHint inp.mask).toNat }

/-- `encode` = the reference construction, composed: with the mode `chooseMode` returns and a segment whose packing
    is known, `Encoder_encode` on the mirror model settles on the reference's version (`versionChoice`: the requested
    one if it is in 1..40 and fits, else the smallest that fits) and returns the reference symbol of the reference
    payload (header, character count, data) with the hinted or the reference's own mask — or a WriterException
    exactly when no version is admissible. -/
theorem encode_eq_ref {K : Kernels} (hK : KernelsOK K)
    (inp : EncInput) (ec : EC) (hec : ecOfInt inp.ecLevel = some ec)
    (hcs : ∀ cs, inp.charset = some cs → cs.known = true) (m : Mode)
    (hmode : chooseMode inp.content (match inp.charset with | some cs => cs.isSJIS | none => false) inp.sjis = .ok m)
    (bytes : List Nat) (count : Nat) (data : Bits) (seg : Segment inp m bytes count data)
    (he : ∀ e, eciOf inp m = some e → e < 128) :
    match versionChoice inp ec m (headerBits (eciOf inp m) (gs1OfHint inp.gs1) m).length data.length with
    | some v =>
      ∃ t, encode K inp = .ok t ∧ t.mode = m ∧ t.version = v ∧
        t.headerAndDataBits = payloadBits v (headerBits (eciOf inp m) (gs1OfHint inp.gs1) m) m count data ∧
        t.maskPattern = ((finalMask inp.mask v ec t.headerAndDataBits : Nat) : Int) ∧
        t.finalBits = bitsOfBytes (refCodewords v ec t.headerAndDataBits) ∧
        t.matrix = refByteMatrix v ec (finalMask inp.mask v ec t.headerAndDataBits) (refCodewords v ec t.headerAndDataBits)
    | none => encode K inp = .error .writer := by
  unfold encode
  rw [encodeFront_eq inp ec hec hcs m hmode bytes count data seg he]
  generalize hH : headerBits (eciOf inp m) (gs1OfHint inp.gs1) m = hdr
  cases hch : versionChoice inp ec m hdr.length data.length with
  | none => rfl
  | some v =>
    obtain ⟨h1, h40, hfit⟩ := versionChoice_range hch
    simp only [bind, Except.bind]
    have hpl : (payloadBits v hdr m count data).length ≤ 8 * dataCodewords v ec := by
      unfold fitsBits at hfit
      simp only [decide_eq_true_eq] at hfit
      unfold payloadBits
      simp only [List.length_append, toBitsBE_length]
      omega
    obtain ⟨t, ht, hm, hv, hhd, hmask, _, hfb, hmat⟩ := encodeBack_eq_ref hK v h1 h40 inp.mask
      ⟨ec, m, hdr, data, versionInfo v, payloadBits v hdr m count data⟩ rfl hpl
    simp only at hhd hmask hfb hmat hm
    refine ⟨t, ht, hm, hv, hhd, ?_, ?_, ?_⟩
    · rw [hhd]; exact hmask
    · rw [hhd]; exact hfb
    · rw [hhd]; exact hmat

end Gzx.QREnc
