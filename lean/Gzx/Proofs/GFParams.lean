/-
  `ParamsOK` of the six fields of generic_gf.go (QR, Data Matrix / Aztec 8-bit, Aztec parameter, 6-, 10- and 12-bit
  data; MaxiCode shares the 6-bit field): the one place where the order of `x` modulo each primitive polynomial is
  computed, by kernel evaluation of one loop of `size - 2` doubling steps.
-/
import Gzx.Proofs.GF
namespace Gzx.Proofs.GF
open Gzx.GF

theorem paramsOK_11D_256 : ParamsOK 0x11D 256 := by decide +kernel
theorem paramsOK_12D_256 : ParamsOK 0x12D 256 := by decide +kernel
theorem paramsOK_13_16 : ParamsOK 0x13 16 := by decide +kernel
theorem paramsOK_43_64 : ParamsOK 0x43 64 := by decide +kernel
theorem paramsOK_409_1024 : ParamsOK 0x409 1024 := by decide +kernel
theorem paramsOK_1069_4096 : ParamsOK 0x1069 4096 := by decide +kernel

end Gzx.Proofs.GF
