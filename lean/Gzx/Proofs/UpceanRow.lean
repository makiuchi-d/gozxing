/-
  C03 — `findGuardPattern` of the faithful UPC/EAN row decoder (Model/OneD.lean) started at a run boundary where the
  next runs are an exact multiple of the guard pattern: found at its first attempt.

  This is the first-window fact `genLoop_first` of Proofs/RowWindow.lean proved for this one loop on its own: it
  holds for EVERY non-empty guard pattern, which is what `upcean_read_write` assumes (`WFUpcEan`: guards of odd / even
  non-zero length), whereas the loop is the counter-window loop only for patterns of at least three runs
  (`guardLoop_eq_gen`, Proofs/OneDRowExtGuard.lean: a window of one or two counters that is declined panics).
-/
import Gzx.Proofs.RunBoundary
namespace Gzx.OneD
open Gzx Gzx.CheckDigit

theorem guardLoop_same (g : List Nat) (m : Nat) (col : Bool) (tail : List Bool) (x : Nat) (pre : List Nat)
    (k : Nat) (zs : List Nat) (ps : Nat) :
    guardLoop g (List.replicate m col ++ tail) x (pre ++ k :: zs) pre.length ps (!col)
      = guardLoop g tail (x + m) (pre ++ (k + m) :: zs) pre.length ps (!col) := by
  induction m generalizing x k with
  | zero => simp
  | succ m ih =>
    have hc : (col != !col) = true := by cases col <;> rfl
    simp only [List.replicate_succ, List.cons_append, guardLoop, hc, if_true, incrAt_mid]
    rw [ih]
    have e1 : x + 1 + m = x + (m + 1) := by omega
    have e2 : k + 1 + m = k + (m + 1) := by omega
    rw [e1, e2]

/-- `pre` = counters completed, `k` = the count of the run being read when `m` more of its pixels follow, `zs` = counters
    still to fill, `post` = the runs that fill them, `w :: rest` = what follows the window; the variance test accepts
    the full window `pre ++ (k + m) :: post` -/
theorem guardLoop_match (g : List Nat) (post : List Nat) :
    ∀ (pre : List Nat) (k m : Nat) (zs : List Nat) (w : Nat) (rest : List Nat) (col : Bool) (x ps : Nat)
      (v : Option (Nat × Nat)),
    pre.length + 1 + post.length = g.length → zs.length = post.length → (∀ p ∈ post, 0 < p) → 0 < w →
    RunLength.patternMatchVariance (pre ++ (k + m) :: post) g 7 10 = .ok v → belowAvg v = true →
    guardLoop g (List.replicate m col ++ appendPattern (post ++ w :: rest) (!col)) x (pre ++ k :: zs) pre.length
        ps (!col) = .ok (ps, x + m + sumL post) := by
  induction post with
  | nil =>
    intro pre k m zs w rest col x ps v hlen hzs _ hw hv hb
    have hz : zs = [] := by simpa using hzs
    subst hz
    obtain ⟨w', rfl⟩ : ∃ w', w = w' + 1 := ⟨w - 1, by omega⟩
    rw [guardLoop_same]
    have hc : ((!col) != !col) = false := by cases col <;> rfl
    have hl : pre.length + 1 = g.length := by simpa using hlen
    simp only [List.nil_append, appendPattern, List.replicate_succ, List.cons_append, guardLoop, hc,
      Bool.false_eq_true, if_false, hl, if_true, hv, hb, sumL_nil, Nat.add_zero]
  | cons p post ih =>
    intro pre k m zs w rest col x ps v hlen hzs hpos hw hv hb
    obtain ⟨z, zs', rfl⟩ : ∃ z zs', zs = z :: zs' := by
      cases zs with
      | nil => simp at hzs
      | cons z zs' => exact ⟨z, zs', rfl⟩
    have hp : 0 < p := hpos p (by simp)
    obtain ⟨p', rfl⟩ : ∃ p', p = p' + 1 := ⟨p - 1, by omega⟩
    rw [guardLoop_same]
    have hc : ((!col) != !col) = false := by cases col <;> rfl
    have hl : ¬ pre.length + 1 = g.length := by simp at hlen; omega
    simp only [List.cons_append, appendPattern, List.replicate_succ, guardLoop, hc,
      Bool.false_eq_true, if_false, hl]
    have hset : (pre ++ (k + m) :: z :: zs').set (pre.length + 1) 1 = (pre ++ [k + m]) ++ 1 :: zs' := by
      rw [List.set_append_right _ _ (by omega)]
      simp
    have hpl : pre.length + 1 = (pre ++ [k + m]).length := by simp
    rw [hset, hpl]
    have := ih (pre ++ [k + m]) 1 p' zs' w rest (!col) (x + m + 1) ps v
      (by simp at hlen ⊢; omega) (by simpa using hzs) (fun q hq => hpos q (by simp [hq])) hw
      (by
        have e : 1 + p' = p' + 1 := by omega
        rw [e]; simpa using hv) hb
    rw [this, sumL_cons]
    congr 2; omega

/-- `findGuardPattern` started at a run boundary where the next runs are `s`·pattern followed by at least one
    more run: found at once, range = exactly those runs -/
theorem findGuard_at {row off} (g : List Nat) (s w : Nat) (rest : List Nat) (col : Bool)
    (hg : g ≠ []) (hgpos : ∀ x ∈ g, 0 < x) (hs : 0 < s)
    (h : RowAt row off (g.map (s * ·) ++ w :: rest) col) :
    findGuardPattern row off (!col) g = .ok (off, off + s * sumL g) := by
  obtain ⟨g0, g', rfl⟩ : ∃ g0 g', g = g0 :: g' := by
    cases g with
    | nil => exact absurd rfl hg
    | cons a b => exact ⟨a, b, rfl⟩
  have hw : 0 < w := h.pos w (by simp)
  have hoff : (if (!col) = true then getNextUnset row off else getNextSet row off) = off := by
    cases col with
    | true => simp only [Bool.not_true, Bool.false_eq_true, if_false]; exact getNextSet_at h
    | false => simp only [Bool.not_false, if_true]; exact getNextUnset_at h
  unfold findGuardPattern
  simp only [hoff, Nat.min_eq_left h.le, h.drop]
  simp only [List.map_cons, List.cons_append, appendPattern, List.length_cons, List.replicate_succ]
  have hm := guardLoop_match (g0 :: g') (g'.map (s * ·)) [] 0 (s * g0) (List.replicate g'.length 0) w rest col off off
    (some (0, sumL (g0 :: g') * (s * sumL (g0 :: g'))))
    (by simp; omega) (by simp) (scale_pos s hs g' (fun x hx => hgpos x (by simp [hx]))) hw
    (by
      have := pmv_multiple (g0 :: g') s 7 10 hs
      simpa using this)
    (by
      have : 0 < sumL (g0 :: g') := sumL_pos _ (by simp) hgpos
      have : 0 < sumL (g0 :: g') * (s * sumL (g0 :: g')) := Nat.mul_pos this (Nat.mul_pos hs this)
      simp only [belowAvg, decide_eq_true_eq]; omega)
  simp only [List.nil_append, List.length_nil] at hm
  rw [hm, sumL_scale, sumL_cons]
  congr 2
  rw [Nat.mul_add]; omega

end Gzx.OneD
