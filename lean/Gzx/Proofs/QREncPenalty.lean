/-
  wp `qrenc` — the four penalty loops of mask_util.go (index loops over `array[y][x]` with their early exits)
  compute the reference penalties of ISO/IEC 18004 Table 11 (`QRRef.penalty1..4`, structural recursion) on
  every square 0/1 matrix.  Rules 1, 2 and 4 here, rule 3 in Proofs/QREncPenalty3.lean.
-/
import Gzx.Model.QREncMirror
import Gzx.Proofs.QREncInterleave
import Gzx.Proofs.QRPenalty
import Gzx.Proofs.QRKernels
namespace Gzx.QREnc
open Gzx Gzx.QRRef

/-- a Bool matrix as the ByteMatrix the encoder evaluates -/
def ofRows (rows : List (List Bool)) (n : Nat) : ByteMatrix := ⟨rows.map (fun r => r.map b2i), n, n⟩

theorem b2i_eq_one (b : Bool) : (b2i b = 1) ↔ b = true := by cases b <;> simp [b2i]

theorem b2i_eq_zero (b : Bool) : (b2i b = 0) ↔ b = false := by cases b <;> simp [b2i]

theorem b2i_inj (a b : Bool) : (b2i a = b2i b) ↔ a = b := by cases a <;> cases b <;> simp [b2i]

structure Square (n : Nat) (rows : List (List Bool)) : Prop where
  len : rows.length = n
  cols : ∀ r ∈ rows, r.length = n

theorem idx_rows {n : Nat} {rows : List (List Bool)} (hs : Square n rows) (y : Nat) (hy : y < n) :
    idx (ofRows rows n).bytes (y : Int) = .ok ((rows.getD y []).map b2i) := by
  unfold ofRows
  simp only
  rw [idx_nat _ _ (by simp [hs.len]; exact hy)]
  simp [List.getD_eq_getElem?_getD, List.getElem?_eq_getElem (by rw [hs.len]; exact hy : y < rows.length)]

theorem getD_row_len {n : Nat} {rows : List (List Bool)} (hs : Square n rows) (y : Nat) (hy : y < n) :
    (rows.getD y []).length = n := by
  have hy' : y < rows.length := by rw [hs.len]; exact hy
  simp only [List.getD_eq_getElem?_getD, List.getElem?_eq_getElem hy', Option.getD_some]
  exact hs.cols _ (List.getElem_mem hy')

theorem idx_cell (r : List Bool) (x : Nat) (hx : x < r.length) :
    idx (r.map b2i) (x : Int) = .ok (b2i (r.getD x false)) := by
  rw [idx_nat _ _ (by simp; exact hx)]
  simp [List.getD_eq_getElem?_getD, List.getElem?_eq_getElem hx]

theorem foldl_range_getD {α σ} (l : List α) (d : α) (f : σ → α → σ) (s : σ) :
    (List.range l.length).foldl (fun s k => f s (l.getD k d)) s = l.foldl f s := by
  have : l = (List.range l.length).map (fun k => l.getD k d) := by
    apply List.ext_getElem
    · simp
    · intro i h1 h2
      simp [List.getD_eq_getElem?_getD, List.getElem?_eq_getElem h1]
  conv => rhs; rw [this]
  rw [List.foldl_map]

theorem forRange_ok {σ} (n : Nat) (body : Int → σ → Res σ) (g : σ → Nat → σ) (s : σ)
    (h : ∀ s k, k < n → body ((k : Nat) : Int) s = .ok (g s k)) :
    forRange 0 (n : Int) body s = .ok ((List.range n).foldl g s) := by
  unfold forRange
  have hn : ((n : Int) - 0).toNat = n := by omega
  rw [hn]
  apply foldlM_ok
  intro s k hk
  have : (0 : Int) + ((k : Nat) : Int) = ((k : Nat) : Int) := by omega
  rw [this]
  exact h s k (List.mem_range.mp hk)

/-! ### rule 1 -/

/-- one step of the run scanner of `applyMaskPenaltyRule1Internal`: (numSameBitCells, prevBit, penalty) -/
def step1 (st : Int × Int × Int) (bit : Int) : Int × Int × Int :=
  if bit = st.2.1 then (st.1 + 1, st.2.1, st.2.2)
  else (1, bit, if st.1 ≥ 5 then st.2.2 + (3 + (st.1 - 5)) else st.2.2)

def encPrev : Option Bool → Int
  | none => -1
  | some b => b2i b

theorem b2i_eq_enc (b : Bool) (prev : Option Bool) : (b2i b = encPrev prev) ↔ prev = some b := by
  cases prev with
  | none => cases b <;> simp [b2i, encPrev]
  | some c => cases b <;> cases c <;> simp [b2i, encPrev]

theorem scan1 : ∀ (r : List Bool) (prev : Option Bool) (run : Nat) (p : Int),
    ((r.map b2i).foldl step1 ((run : Int), encPrev prev, p)).2.2 +
      (if ((r.map b2i).foldl step1 ((run : Int), encPrev prev, p)).1 ≥ 5
        then 3 + (((r.map b2i).foldl step1 ((run : Int), encPrev prev, p)).1 - 5) else 0) =
      p + ((runPenalty r prev run : Nat) : Int) := by
  intro r
  induction r with
  | nil =>
    intro prev run p
    simp only [List.map_nil, List.foldl_nil, runPenalty]
    split <;> split <;> omega
  | cons b bs ih =>
    intro prev run p
    simp only [List.map_cons, List.foldl_cons]
    unfold runPenalty
    by_cases h : prev = some b
    · have hb : b2i b = encPrev prev := (b2i_eq_enc b prev).mpr h
      have hstep : step1 ((run : Int), encPrev prev, p) (b2i b) = (((run + 1 : Nat) : Int), encPrev prev, p) := by
        unfold step1; simp [hb]
      rw [hstep, if_pos h]
      exact ih prev (run + 1) p
    · have hb : ¬ (b2i b = encPrev prev) := fun e => h ((b2i_eq_enc b prev).mp e)
      have hstep : step1 ((run : Int), encPrev prev, p) (b2i b) =
          (((1 : Nat) : Int), encPrev (some b), if (run : Int) ≥ 5 then p + (3 + ((run : Int) - 5)) else p) := by
        unfold step1
        simp only []
        rw [if_neg hb]
        rfl
      rw [hstep, if_neg h, ih (some b) 1]
      split <;> split <;> omega

theorem inner1 (cells : List Bool) (p : Int) :
    let st := (cells.map b2i).foldl step1 (0, -1, p)
    (if st.1 ≥ 5 then st.2.2 + (3 + (st.1 - 5)) else st.2.2) = p + ((runPenalty cells none 0 : Nat) : Int) := by
  have := scan1 cells none 0 p
  simp only [encPrev, Int.natCast_zero] at this
  simp only
  rw [← this]
  split <;> omega

theorem sumL_eq_foldl (l : List Nat) (p : Nat) : l.foldl (· + ·) p = p + sumL l := by
  unfold sumL; rw [QRRef.foldl_add_eq]

theorem sumL_cons (x : Nat) (xs : List Nat) : sumL (x :: xs) = x + sumL xs := by
  rw [sumL, List.foldl_cons, Nat.zero_add, sumL_eq_foldl]

theorem foldl_score {α} (f : α → Nat) (l : List α) (p : Int) :
    l.foldl (fun (pen : Int) i => pen + ((f i : Nat) : Int)) p = p + ((sumL (l.map f) : Nat) : Int) := by
  induction l generalizing p with
  | nil => simp [sumL]
  | cons x l ih => rw [List.foldl_cons, ih, List.map_cons, sumL_cons]; omega

def column (rows : List (List Bool)) (i : Nat) : List Bool := rows.map (fun r => r.getD i false)

theorem column_length {n : Nat} {rows : List (List Bool)} (hs : Square n rows) (x : Nat) : (column rows x).length = n := by
  simp [column, hs.len]

theorem column_getD {n : Nat} {rows : List (List Bool)} (hs : Square n rows) (x y : Nat) (hy : y < n) :
    (column rows x).getD y false = (rows.getD y []).getD x false := by
  have hy' : y < rows.length := by rw [hs.len]; exact hy
  simp [column, List.getD_eq_getElem?_getD, List.getElem?_map, List.getElem?_eq_getElem hy']

/-- reading cell (x, y) through the rows is reading cell `y` of column `x` -/
theorem idx_column {n : Nat} {rows : List (List Bool)} (hs : Square n rows) (x y : Nat) (hx : x < n) (hy : y < n) :
    (do idx (← idx (ofRows rows n).bytes (y : Int)) (x : Int)) = .ok (b2i ((column rows x).getD y false)) := by
  rw [idx_rows hs y hy, column_getD hs x y hy]
  exact idx_cell _ x (by rw [getD_row_len hs y hy]; exact hx)

theorem transpose_eq {n : Nat} (rows : List (List Bool)) : transpose n rows = (List.range n).map (column rows) := rfl

/-- `applyMaskPenaltyRule1Internal` in either direction: `line i` is the `i`-th line it scans (row or column), and
    `hcell` says that its index expression reads cell `j` of that line -/
theorem rule1_lines {n : Nat} {rows : List (List Bool)} (hz : Bool) (line : Nat → List Bool)
    (hlen : ∀ i, i < n → (line i).length = n)
    (hcell : ∀ i j, i < n → j < n → ∃ r, idx (ofRows rows n).bytes ((if hz then i else j : Nat) : Int) = .ok r ∧
      idx r ((if hz then j else i : Nat) : Int) = .ok (b2i ((line i).getD j false))) :
    applyMaskPenaltyRule1Internal (ofRows rows n) hz =
      .ok ((sumL ((List.range n).map (fun i => runPenalty (line i) none 0)) : Nat) : Int) := by
  unfold applyMaskPenaltyRule1Internal
  have hlim : (if hz = true then ((ofRows rows n).height, (ofRows rows n).width)
      else ((ofRows rows n).width, (ofRows rows n).height)) = ((n : Int), (n : Int)) := by cases hz <;> rfl
  simp only [hlim, bind, Except.bind]
  rw [forRange_ok n _ (fun pen i => pen + ((runPenalty (line i) none 0 : Nat) : Int))]
  · rw [foldl_score]; simp
  · intro pen i hi
    rw [forRange_ok n _ (fun st j => step1 st (b2i ((line i).getD j false)))]
    · simp only [pure, Except.pure]
      rw [← hlen i hi, foldl_range_getD (line i) false (fun st c => step1 st (b2i c)), ← List.foldl_map]
      exact congrArg Except.ok (inner1 (line i) pen)
    · intro st j hj
      obtain ⟨a, b, c⟩ := st
      obtain ⟨r, h1, h2⟩ := hcell i j hi hj
      cases hz <;> simp only [Bool.false_eq_true, if_false, if_true] at h1 h2 ⊢ <;>
        simp only [h1, h2, step1, pure, Except.pure] <;> split <;> rfl

theorem rule1_eq {n : Nat} {rows : List (List Bool)} (hs : Square n rows) :
    applyMaskPenaltyRule1 (ofRows rows n) = .ok ((penalty1 rows : Nat) : Int) := by
  unfold applyMaskPenaltyRule1
  rw [rule1_lines true (fun i => rows.getD i []) (getD_row_len hs) (fun i j hi hj =>
      ⟨_, idx_rows hs i hi, idx_cell _ j (by rw [getD_row_len hs i hi]; exact hj)⟩),
    rule1_lines false (column rows) (fun i _ => column_length hs i) (fun i j hi hj =>
      ⟨_, idx_rows hs j hj, by rw [column_getD hs i j hj]; exact idx_cell _ i (by rw [getD_row_len hs j hj]; exact hi)⟩)]
  simp only [bind, Except.bind, pure, Except.pure]
  unfold penalty1
  rw [hs.len, transpose_eq, List.map_map]
  have hrows : rows.map (fun r => runPenalty r none 0) = (List.range n).map (fun i => runPenalty (rows.getD i []) none 0) := by
    apply List.ext_getElem
    · simp [hs.len]
    · intro i h1 h2
      simp [List.getD_eq_getElem?_getD, List.getElem?_eq_getElem (by simpa using h1 : i < rows.length)]
  rw [hrows]
  simp
  rfl


/-! ### rule 4 -/

theorem count_row (r : List Bool) (c : Int) :
    r.foldl (fun (n : Int) b => if b2i b = 1 then n + 1 else n) c = c + ((r.count true : Nat) : Int) := by
  induction r generalizing c with
  | nil => simp
  | cons b bs ih =>
    rw [List.foldl_cons, ih]
    cases b <;> simp [b2i] <;> omega

theorem sumL_const (rows : List (List Bool)) (n : Nat) (h : ∀ r ∈ rows, r.length = n) :
    sumL (rows.map List.length) = rows.length * n := by
  induction rows with
  | nil => simp [sumL]
  | cons r rs ih =>
    rw [List.map_cons, sumL_cons, ih (fun r' hr' => h r' (List.mem_cons_of_mem _ hr')), h r List.mem_cons_self,
      List.length_cons, Nat.succ_mul]
    omega

theorem rule4_eq {n : Nat} {rows : List (List Bool)} (hs : Square n rows) (hn : 0 < n) :
    applyMaskPenaltyRule4 (ofRows rows n) = .ok ((penalty4 rows : Nat) : Int) := by
  unfold applyMaskPenaltyRule4
  have hw : (ofRows rows n).width = (n : Int) := rfl
  have hh : (ofRows rows n).height = (n : Int) := rfl
  simp only [hw, hh, bind, Except.bind]
  rw [forRange_ok n _ (fun cnt y => cnt + (((rows.getD y []).count true : Nat) : Int))]
  · rw [← hs.len, foldl_range_getD rows [] (fun (cnt : Int) r => cnt + ((r.count true : Nat) : Int)), foldl_score]
    simp only [Int.zero_add]
    have hz : ¬ ((rows.length : Int) * (rows.length : Int) = 0) := by
      rw [hs.len]
      have : (0 : Int) < (n : Int) * (n : Int) := Int.mul_pos (by omega) (by omega)
      omega
    rw [if_neg hz]
    simp only [pure, Except.pure, Except.ok.injEq]
    unfold penalty4
    simp only
    rw [sumL_const rows n hs.cols, hs.len]
    generalize sumL (rows.map (fun r => r.count true)) = dark
    have hnn : ((n : Int) * (n : Int)) = ((n * n : Nat) : Int) := by simp
    rw [hnn]
    have hpos : 0 < n * n := Nat.mul_pos hn hn
    by_cases hge : 2 * dark ≥ n * n
    · rw [if_pos hge]
      have h1 : ¬ (((dark : Nat) : Int) * 2 - ((n * n : Nat) : Int) < 0) := by omega
      rw [if_neg h1]
      have : (((dark : Nat) : Int) * 2 - ((n * n : Nat) : Int)) * 10 = (((2 * dark - n * n) * 10 : Nat) : Int) := by omega
      rw [this, QRKernels.tdiv_natCast]
      simp [Int.natCast_mul]; omega
    · rw [if_neg hge]
      have h1 : (((dark : Nat) : Int) * 2 - ((n * n : Nat) : Int) < 0) := by omega
      rw [if_pos h1]
      have : (-(((dark : Nat) : Int) * 2 - ((n * n : Nat) : Int))) * 10 = (((n * n - 2 * dark) * 10 : Nat) : Int) := by omega
      rw [this, QRKernels.tdiv_natCast]
      simp [Int.natCast_mul]; omega
  · intro cnt y hy
    rw [idx_rows hs y hy]
    simp only
    rw [forRange_ok n _ (fun c x => if b2i ((rows.getD y []).getD x false) = 1 then c + 1 else c)]
    · have hl := getD_row_len hs y hy
      rw [← hl, foldl_range_getD (rows.getD y []) false (fun (c : Int) b => if b2i b = 1 then c + 1 else c), count_row]
    · intro c x hx
      rw [idx_cell _ x (by rw [getD_row_len hs y hy]; exact hx)]
      simp only [pure, Except.pure]


/-! ### rule 2 -/

def cond2 (r0 r1 : List Bool) (x : Nat) : Bool :=
  r0.getD x false == r0.getD (x + 1) false && r0.getD x false == r1.getD x false &&
    r0.getD x false == r1.getD (x + 1) false

theorem blocks2_range : ∀ (r0 r1 : List Bool) (p : Int), r0.length = r1.length →
    (List.range (r0.length - 1)).foldl (fun (p : Int) x => if cond2 r0 r1 x then p + 1 else p) p =
      p + ((blocks2 r0 r1 : Nat) : Int) := by
  intro r0
  induction r0 with
  | nil => intro r1 p _; simp [blocks2]
  | cons a r0' ih =>
    intro r1 p hl
    cases r0' with
    | nil =>
      cases r1 with
      | nil => simp at hl
      | cons c r1' =>
        cases r1' with
        | nil => simp [blocks2]
        | cons d r1'' => simp at hl
    | cons b r0'' =>
      cases r1 with
      | nil => simp at hl
      | cons c r1' =>
        cases r1' with
        | nil => simp at hl
        | cons d r1'' =>
          have hlen : (a :: b :: r0'').length - 1 = (b :: r0'').length - 1 + 1 := by simp
          rw [hlen, List.range_succ_eq_map, List.foldl_cons, List.foldl_map]
          have hshift : ∀ x, cond2 (a :: b :: r0'') (c :: d :: r1'') (x + 1) = cond2 (b :: r0'') (d :: r1'') x := by
            intro x; simp [cond2, List.getD_eq_getElem?_getD]
          simp only [hshift]
          rw [ih (d :: r1'') _ (by simpa using hl)]
          have hb2 : blocks2 (a :: b :: r0'') (c :: d :: r1'') =
              (if a = b ∧ a = c ∧ a = d then 1 else 0) + blocks2 (b :: r0'') (d :: r1'') := rfl
          rw [hb2]
          have h0 : cond2 (a :: b :: r0'') (c :: d :: r1'') 0 = (a == b && a == c && a == d) := by
            simp [cond2, List.getD_eq_getElem?_getD]
          rw [h0]
          by_cases h : a = b ∧ a = c ∧ a = d
          · obtain ⟨rfl, rfl, rfl⟩ := h
            simp; omega
          · rw [if_neg h]
            have : (a == b && a == c && a == d) = false := by
              rw [Bool.eq_false_iff]
              intro hh
              simp only [Bool.and_eq_true, beq_iff_eq] at hh
              exact h ⟨hh.1.1, hh.1.2, hh.2⟩
            rw [this]
            simp

theorem rowPairs_range : ∀ (rows : List (List Bool)) (p : Int),
    (List.range (rows.length - 1)).foldl (fun (p : Int) y => p + ((blocks2 (rows.getD y []) (rows.getD (y + 1) []) : Nat) : Int)) p =
      p + ((rowPairs rows : Nat) : Int) := by
  intro rows
  induction rows with
  | nil => intro p; simp [rowPairs]
  | cons r0 rs ih =>
    intro p
    cases rs with
    | nil => simp [rowPairs]
    | cons r1 rs' =>
      have hlen : (r0 :: r1 :: rs').length - 1 = (r1 :: rs').length - 1 + 1 := by simp
      rw [hlen, List.range_succ_eq_map, List.foldl_cons, List.foldl_map]
      have := ih (p + ((blocks2 r0 r1 : Nat) : Int))
      simp only [List.getD_eq_getElem?_getD, List.getElem?_cons_succ, List.getElem?_cons_zero, Option.getD_some] at this ⊢
      rw [this]
      have hrp : rowPairs (r0 :: r1 :: rs') = blocks2 r0 r1 + rowPairs (r1 :: rs') := rfl
      rw [hrp]
      simp; omega

theorem rule2_eq {n : Nat} {rows : List (List Bool)} (hs : Square n rows) :
    applyMaskPenaltyRule2 (ofRows rows n) = .ok ((penalty2 rows : Nat) : Int) := by
  unfold applyMaskPenaltyRule2
  have hw : (ofRows rows n).width = (n : Int) := rfl
  have hh : (ofRows rows n).height = (n : Int) := rfl
  simp only [hw, hh, bind, Except.bind]
  by_cases hn : n = 0
  · subst hn
    have : rows = [] := List.eq_nil_of_length_eq_zero hs.len
    subst this
    simp [forRange, penalty2, rowPairs, pure, Except.pure]
  have hn1 : ((n : Int) - 1) = ((n - 1 : Nat) : Int) := by omega
  rw [hn1, forRange_ok (n - 1) _
    (fun p y => p + ((blocks2 (rows.getD y []) (rows.getD (y + 1) []) : Nat) : Int))]
  · rw [← hs.len, rowPairs_range]
    simp [penalty2, pure, Except.pure]
  · intro p y hy
    have hy0 : y < n := by omega
    have hy1 : y + 1 < n := by omega
    rw [idx_rows hs y hy0]
    simp only
    rw [forRange_ok (n - 1) _ (fun p x => if cond2 (rows.getD y []) (rows.getD (y + 1) []) x then p + 1 else p)]
    · have hl0 := getD_row_len hs y hy0
      have hl1 := getD_row_len hs (y + 1) hy1
      have := blocks2_range (rows.getD y []) (rows.getD (y + 1) []) p (by rw [hl0, hl1])
      rw [hl0] at this
      rw [this]
    · intro p x hx
      have hx0 : x < (rows.getD y []).length := by rw [getD_row_len hs y hy0]; omega
      have hx1 : x + 1 < (rows.getD y []).length := by rw [getD_row_len hs y hy0]; omega
      have hx0' : x < (rows.getD (y + 1) []).length := by rw [getD_row_len hs (y + 1) hy1]; omega
      have hx1' : x + 1 < (rows.getD (y + 1) []).length := by rw [getD_row_len hs (y + 1) hy1]; omega
      have hyc : ((y : Nat) : Int) + 1 = ((y + 1 : Nat) : Int) := by omega
      have hxc : ((x : Nat) : Int) + 1 = ((x + 1 : Nat) : Int) := by omega
      rw [idx_cell _ x hx0]
      simp only [hxc, hyc]
      rw [idx_cell _ (x + 1) hx1, idx_rows hs (y + 1) hy1]
      simp only [ne_eq, b2i_inj, pure, Except.pure]
      rw [idx_cell _ x hx0', idx_cell _ (x + 1) hx1']
      simp only [b2i_inj]
      unfold cond2
      generalize (rows.getD y []).getD x false = a
      generalize (rows.getD y []).getD (x + 1) false = b
      generalize (rows.getD (y + 1) []).getD x false = c
      generalize (rows.getD (y + 1) []).getD (x + 1) false = d
      cases a <;> cases b <;> cases c <;> cases d <;> simp

end Gzx.QREnc
