/-
  wp `qrenc` — `embedDataBits`: the coded zig-zag loop, run on the matrix the function stage leaves, puts bit `i`
  of the stream (XOR the mask) on the `i`-th EMPTY module of the visit order and nothing else.
-/
import Gzx.Proofs.QREncInv
import Gzx.Proofs.QREncOrderDefs
namespace Gzx.QREnc
open Gzx Gzx.QRRef

/-- what the theorems need from the two regenerated kernels (discharged for the regenerated ones in
    `Obligations/QREnc.lean`, for the hand mirror `refKernels` in `Proofs/QREncKernels.lean`) -/
structure KernelsOK (K : Kernels) : Prop where
  /-- block sizes of a row with `n > 0` blocks of `e` EC codewords and `D` data codewords -/
  block : ∀ D e n b : Nat, 0 < n → b < n →
    K.blockSizes ((D + e * n : Nat) : Int) (D : Int) (n : Int) (b : Int) =
      (((if b < n - D % n then D / n else D / n + 1 : Nat) : Int), (e : Int), false)
  /-- the mask condition of pattern `k < 8` at column `x`, row `y` -/
  mask : ∀ k x y : Nat, k < 8 → K.maskBit (k : Int) (x : Int) (y : Int) = (maskBit k x y, false)

def placeVal (bits : List Bool) (mask k : Nat) (c : Nat × Nat) : Int :=
  b2i ((bits.getD k false) != maskBit mask c.1 c.2)

def nextK (bits : List Bool) (k : Nat) : Nat := if k < bits.length then k + 1 else k

/-- the cell step of `embedDataBits` as a pure function on well-formed matrices -/
def placeStep (bits : List Bool) (mask : Nat) (s : ByteMatrix × Nat) (c : Nat × Nat) : ByteMatrix × Nat :=
  if cell s.1 c.1 c.2 = -1 then (setC s.1 c.1 c.2 (placeVal bits mask s.2 c), nextK bits s.2) else s

theorem idxA_toArray {α} (l : List α) (i : Int) : idxA l.toArray i = idx l i := by
  unfold idxA idx
  simp

theorem embedCell_nat {K : Kernels} (hK : KernelsOK K) (bits : List Bool) (mask : Nat) (hk : mask < 8)
    {n : Nat} {m : ByteMatrix} (hm : WFM n m) {x y : Nat} (hx : x < n) (hy : y < n) (k : Nat) :
    embedCell K bits.toArray (mask : Int) (x : Int) (y : Int) (m, k) = .ok (placeStep bits mask (m, k) (x, y)) := by
  unfold embedCell placeStep
  simp only [bind, Except.bind, get_nat hm hx hy, isEmpty]
  by_cases he : cell m x y = -1
  · simp only [he, if_true, beq_self_eq_true, Bool.not_true, Bool.false_eq_true, if_false, List.size_toArray]
    have hmask : ((mask : Int) ≠ -1) := by omega
    simp only [hmask, ne_eq, not_false_eq_true, if_true, hK.mask mask x y hk]
    by_cases hlt : k < bits.length
    · simp only [hlt, if_true, idxA_toArray, idx_nat bits k hlt, pure, Except.pure]
      unfold ByteMatrix.setBool
      have hv : (if maskBit mask x y = true then !bits[k] else bits[k]) = (bits.getD k false != maskBit mask x y) := by
        have : bits.getD k false = bits[k] := by simp [List.getD_eq_getElem?_getD, List.getElem?_eq_getElem hlt]
        rw [this]
        cases maskBit mask x y <;> cases bits[k] <;> rfl
      rw [hv, set_nat hm hx hy]
      simp [placeVal, nextK, hlt]
    · simp only [hlt, if_false, pure, Except.pure]
      unfold ByteMatrix.setBool
      have hv : (if maskBit mask x y = true then !false else false) = (bits.getD k false != maskBit mask x y) := by
        have : bits.getD k false = false := by
          simp [List.getD_eq_getElem?_getD, List.getElem?_eq_none (by omega : bits.length ≤ k)]
        rw [this]
        cases maskBit mask x y <;> rfl
      rw [hv, set_nat hm hx hy]
      simp [placeVal, nextK, hlt]
  · have hne : (cell m x y == -1) = false := by simpa using he
    simp [he, hne, pure, Except.pure]

theorem placeStep_wfm (bits : List Bool) (mask : Nat) {n : Nat} (s : ByteMatrix × Nat) (c : Nat × Nat)
    (hm : WFM n s.1) : WFM n (placeStep bits mask s c).1 := by
  unfold placeStep
  split
  · exact setC_wfm hm _ _ _
  · exact hm

theorem stepAll_nat {K : Kernels} (hK : KernelsOK K) (bits : List Bool) (mask : Nat) (hk : mask < 8) {n : Nat} :
    ∀ (l : List (Nat × Nat)) (s : ByteMatrix × Nat), WFM n s.1 → (∀ c ∈ l, c.1 < n ∧ c.2 < n) →
      stepAll (embedCell K bits.toArray (mask : Int)) (l.map (fun c => ((c.1 : Int), (c.2 : Int)))) s =
        .ok (l.foldl (placeStep bits mask) s) := by
  intro l
  induction l with
  | nil => intro s _ _; simp [stepAll, pure, Except.pure]
  | cons c cs ih =>
    intro s hm hr
    obtain ⟨m, k⟩ := s
    have hc := hr c List.mem_cons_self
    simp only [stepAll, List.map_cons, List.foldlM_cons, bind, Except.bind, List.foldl_cons]
    rw [embedCell_nat hK bits mask hk hm hc.1 hc.2 k]
    simp only
    exact ih _ (placeStep_wfm bits mask (m, k) c hm) (fun c' hc' => hr c' (List.mem_cons_of_mem _ hc'))

/-! ### the pure fold -/

def empties (m : ByteMatrix) (l : List (Nat × Nat)) : List (Nat × Nat) :=
  l.filter (fun c => cell m c.1 c.2 == -1)

theorem empties_setC {n : Nat} {m : ByteMatrix} (hm : WFM n m) {c : Nat × Nat} (hc : c.1 < n ∧ c.2 < n) (v : Int)
    (l : List (Nat × Nat)) (hnot : c ∉ l) : empties (setC m c.1 c.2 v) l = empties m l := by
  unfold empties
  apply List.filter_congr
  intro d hd
  rw [cell_setC hm hc.1 hc.2]
  have : ¬ (d.1 = c.1 ∧ d.2 = c.2) := by
    intro h
    apply hnot
    have : d = c := Prod.ext h.1 h.2
    rw [← this]; exact hd
  rw [if_neg this]

theorem getD_min (bits : List Bool) (j : Nat) : bits.getD (min j bits.length) false = bits.getD j false := by
  by_cases h : j < bits.length
  · rw [Nat.min_eq_left (by omega)]
  · rw [Nat.min_eq_right (by omega)]
    simp [List.getD_eq_getElem?_getD, List.getElem?_eq_none (by omega : bits.length ≤ j)]

/-- Folding the cell step over a duplicate-free list of cells in range, from bit index `k ≤ len`:
    the `i`-th empty cell receives stream bit `k + i` (zero beyond the stream) XOR the mask, every other
    cell keeps its value, and the bit index ends at `min (k + #empty) len`. -/
theorem placeFold {n : Nat} (bits : List Bool) (mask : Nat) :
    ∀ (l : List (Nat × Nat)) (m : ByteMatrix) (k : Nat), WFM n m → l.Nodup → (∀ c ∈ l, c.1 < n ∧ c.2 < n) →
      k ≤ bits.length →
      WFM n (l.foldl (placeStep bits mask) (m, k)).1 ∧
      (l.foldl (placeStep bits mask) (m, k)).2 = min (k + (empties m l).length) bits.length ∧
      (∀ (i : Nat) (hi : i < (empties m l).length),
        cell (l.foldl (placeStep bits mask) (m, k)).1 ((empties m l)[i]).1 ((empties m l)[i]).2 =
          b2i ((bits.getD (k + i) false) != maskBit mask ((empties m l)[i]).1 ((empties m l)[i]).2)) ∧
      (∀ x y, (x, y) ∉ empties m l → cell (l.foldl (placeStep bits mask) (m, k)).1 x y = cell m x y) := by
  intro l
  induction l with
  | nil =>
    intro m k hm _ _ hk
    refine ⟨hm, ?_, ?_, ?_⟩
    · simp [empties]; omega
    · intro i hi; simp [empties] at hi
    · intro x y _; rfl
  | cons c cs ih =>
    intro m k hm hnd hr hk
    have hc := hr c List.mem_cons_self
    have hcs : ∀ d ∈ cs, d.1 < n ∧ d.2 < n := fun d hd => hr d (List.mem_cons_of_mem _ hd)
    rw [List.nodup_cons] at hnd
    rw [List.foldl_cons]
    by_cases he : cell m c.1 c.2 = -1
    · -- the cell is written
      have hstep : placeStep bits mask (m, k) c = (setC m c.1 c.2 (placeVal bits mask k c), nextK bits k) := by
        unfold placeStep; simp [he]
      rw [hstep]
      have hm' : WFM n (setC m c.1 c.2 (placeVal bits mask k c)) := setC_wfm hm _ _ _
      have hk' : nextK bits k ≤ bits.length := by unfold nextK; split <;> omega
      have hemp : empties m (c :: cs) = c :: empties (setC m c.1 c.2 (placeVal bits mask k c)) cs := by
        rw [empties_setC hm hc _ cs hnd.1]
        unfold empties
        rw [List.filter_cons]
        simp [he]
      obtain ⟨w, hkk, hcells, hother⟩ := ih _ (nextK bits k) hm' hnd.2 hcs hk'
      rw [hemp]
      refine ⟨w, ?_, ?_, ?_⟩
      · rw [hkk, List.length_cons]
        unfold nextK; split <;> omega
      · intro i hi
        cases i with
        | zero =>
          simp only [List.getElem_cons_zero, Nat.add_zero]
          have hnotin : (c.1, c.2) ∉ empties (setC m c.1 c.2 (placeVal bits mask k c)) cs := by
            intro h
            apply hnd.1
            exact (List.mem_filter.mp h).1
          rw [hother c.1 c.2 hnotin, cell_setC hm hc.1 hc.2]
          simp [placeVal]
        | succ i =>
          simp only [List.getElem_cons_succ]
          have hi' : i < (empties (setC m c.1 c.2 (placeVal bits mask k c)) cs).length := by
            simpa using hi
          rw [hcells i hi']
          have : bits.getD (nextK bits k + i) false = bits.getD (k + (i + 1)) false := by
            unfold nextK
            split
            · congr 1; omega
            · have h1 : bits.length ≤ k + i := by omega
              have h2 : bits.length ≤ k + (i + 1) := by omega
              simp [List.getD_eq_getElem?_getD, List.getElem?_eq_none h1, List.getElem?_eq_none h2]
          rw [this]
      · intro x y hxy
        have hxy' : (x, y) ∉ empties (setC m c.1 c.2 (placeVal bits mask k c)) cs := by
          intro h; exact hxy (List.mem_cons_of_mem _ h)
        rw [hother x y hxy', cell_setC hm hc.1 hc.2]
        have : ¬ (x = c.1 ∧ y = c.2) := by
          intro h
          apply hxy
          have : (x, y) = c := Prod.ext h.1 h.2
          rw [this]; exact List.mem_cons_self
        rw [if_neg this]
    · -- the cell is skipped
      have hstep : placeStep bits mask (m, k) c = (m, k) := by
        unfold placeStep; simp [he]
      rw [hstep]
      have hemp : empties m (c :: cs) = empties m cs := by
        unfold empties
        rw [List.filter_cons]
        simp [he]
      rw [hemp]
      exact ih m k hm hnd.2 hcs hk

end Gzx.QREnc
