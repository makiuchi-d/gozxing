/-
  C08: `Gzx.DMProofs.sizeCheck` per size.  The kernel runs the Annex F placement program once over the mapping matrix of
  the size (`placeCheck`); the decoder's half of `sizeCheck` follows from `read_eq_place` (Proofs/DMReadOrder.lean).
  Heavy for the kernel (about 2 ms per module of the matrix); split over several files so that lake checks them side by side.
  `maxRecDepth`: the kernel's recursion grows with the run; from 64x64 modules on the default depth is too small.
-/
import Gzx.Proofs.DMReadOrder
namespace Gzx.DMProofs

set_option maxRecDepth 10000000 in
/-- symbol 96x96: mapping matrix 88x88, 968 codewords -/
theorem check_96x96 : sizeCheck 88 88 968 = true :=
  sizeCheck_of_placeCheck (by decide +kernel)

set_option maxRecDepth 10000000 in
/-- symbol 88x88: mapping matrix 80x80, 800 codewords -/
theorem check_88x88 : sizeCheck 80 80 800 = true :=
  sizeCheck_of_placeCheck (by decide +kernel)

end Gzx.DMProofs
