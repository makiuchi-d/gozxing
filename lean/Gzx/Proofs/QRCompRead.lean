/-
  C01 composition, matrix layer: the reference symbol `QRRef.refMatrix v ec mask cw` as a matrix of the decoder
  model, and what its format and version cells hold (what `BitMatrixParser` makes of them: Proofs/QRMultiComb.lean).
  Tables: the decoder model's `Tables` argument is required to CONFORM to the reference
  (`TablesConform T`, decidable; discharged for the regenerated tables in Obligations/C01.lean).
-/
import Gzx.Proofs.QRCompCells
import Gzx.Proofs.QRTolerance
import Gzx.Properties.C07
namespace Gzx.QRComp
open Gzx Gzx.QRDec

/-! ### reference tables in the decoder model's types -/

def toDecEC : QRRef.EC → EC
  | .L => .L | .M => .M | .Q => .Q | .H => .H

/-- a row of VERSIONS as the standard prescribes it -/
def refVersion (v : Nat) : VersionInfo :=
  ⟨v, QRRef.alignCentres v, QRRef.EC.all.map (fun ec => ⟨QRRef.ecPerBlock v ec, QRRef.blockGroups v ec⟩)⟩

def refVersions : List VersionInfo := (List.range 40).map (fun i => refVersion (i + 1))

/-- formatInfoDecodeLookup: masked BCH(15,5) word and its five data bits, in the order of the data bits -/
def refFmt : List (Nat × Nat) := (List.range 32).map (fun d => (QRRef.formatWordOfData d, d))

/-- VERSION_DECODE_INFO: BCH(18,6) words of versions 7..40 -/
def refVdi : List Nat := (List.range 34).map (fun i => QRRef.versionWord (i + 7))

/-- the decoder's tables are those of ISO/IEC 18004 (the ECI registry is unconstrained) -/
def TablesConform (T : Tables) : Prop := T.fmt = refFmt ∧ T.vdi = refVdi ∧ T.versions = refVersions

instance (T : Tables) : Decidable (TablesConform T) := by unfold TablesConform; infer_instance

/-- the standard's tables as a concrete `Tables` value (empty ECI registry) -/
def refTables : Tables := ⟨refFmt, QRRef.formatMask, refVdi, refVersions, []⟩

theorem refTables_conform : TablesConform refTables := ⟨rfl, rfl, rfl⟩

theorem refFmt_minDist : MinDist 7 (refFmt.map (·.1)) := by decide +kernel
theorem refVdi_minDist : MinDist 8 refVdi := by decide +kernel
theorem formatWord_lt : ∀ d ∈ List.range 32, QRRef.formatWordOfData d < 2 ^ 15 :=
  fun d hd => (Gzx.Properties.C07.bch15_codewords d hd).2.2
theorem versionWord_lt : ∀ i ∈ List.range 34, QRRef.versionWord (i + 7) < 2 ^ 18 :=
  fun i hi => (Gzx.Properties.C07.bch18_codewords i hi).2.2

theorem formatData_facts : ∀ ec : QRRef.EC, ∀ mask ∈ List.range 8,
    ((ec.bits <<< 3) ||| mask) < 32 ∧ formatInfoOf ((ec.bits <<< 3) ||| mask) = .ok (toDecEC ec, mask) := by
  intro ec; cases ec <;> decide

theorem getVersion_ref (T : Tables) (hT : TablesConform T) (v : Nat) (h1 : 1 ≤ v) (h40 : v ≤ 40) :
    getVersionForNumber T.versions v = .ok (refVersion v) := by
  unfold getVersionForNumber
  have : ¬ (v < 1 ∨ v > 40) := by omega
  simp only [this, if_false, hT.2.2, refVersions, List.getElem?_map, List.getElem?_range (show v - 1 < 40 by omega),
    Option.map_some]
  rw [show v - 1 + 1 = v by omega]

theorem refVersion_total (v : Nat) (h1 : 1 ≤ v) (h40 : v ≤ 40) :
    (refVersion v).totalCodewords = QRRef.totalCodewords v := by
  have := Gzx.Properties.C07.std_blocks_sum_version v h1 h40 .L
  unfold Gzx.Properties.C07.groupCodewords at this
  unfold QRRef.totalCodewords
  rw [← this]
  rfl

/-! ### matrices -/

/-- a symbol given as rows of modules, as a decoder-model matrix -/
def matrixOf (rows : List (List Bool)) : Matrix :=
  { dim := rows.length, bit := fun x y => QRRef.matrixAt rows x y }

theorem refMatrix_length (v : Nat) (ec : QRRef.EC) (mask : Nat) (cw : List Nat) :
    (QRRef.refMatrix v ec mask cw).length = 17 + 4 * v := by
  rw [QRRef.refMatrix_eq_spec]
  unfold QRRef.specMatrix
  simp only [List.length_map, List.length_range]
  rfl

theorem matrixOf_dim (v : Nat) (ec : QRRef.EC) (mask : Nat) (cw : List Nat) :
    (matrixOf (QRRef.refMatrix v ec mask cw)).dim = 17 + 4 * v := refMatrix_length v ec mask cw

theorem matrixOf_bit (v : Nat) (ec : QRRef.EC) (mask : Nat) (cw : List Nat) (x y : Nat)
    (hx : x < 17 + 4 * v) (hy : y < 17 + 4 * v) :
    (matrixOf (QRRef.refMatrix v ec mask cw)).bit x y = QRRef.moduleAt v ec mask cw x y :=
  Gzx.Properties.C07.ref_matrix_at v ec mask cw x y hx hy

theorem matrixOf_getB (v : Nat) (ec : QRRef.EC) (mask : Nat) (cw : List Nat) (x y : Nat)
    (hx : x < 17 + 4 * v) (hy : y < 17 + 4 * v) :
    (matrixOf (QRRef.refMatrix v ec mask cw)).getB x y = QRRef.moduleAt v ec mask cw x y := by
  unfold Matrix.getB
  rw [matrixOf_dim, if_pos ⟨hx, hy⟩, matrixOf_bit v ec mask cw x y hx hy]

/-! ### bits -/

theorem toBitsBE_eq_natToBits : ∀ (w n : Nat), QRRef.toBitsBE w n = natToBits w n := by
  intro w
  induction w with
  | zero => intro n; rfl
  | succ w ih =>
    intro n
    unfold natToBits
    rw [← ih (n / 2)]
    unfold QRRef.toBitsBE
    rw [List.range_succ, List.map_append]
    congr 1
    · apply List.map_congr_left
      intro i hi
      have hi := List.mem_range.mp hi
      rw [show w + 1 - 1 - i = (w - 1 - i) + 1 by omega, Nat.testBit_succ]
    · simp only [List.map_cons, List.map_nil]
      rw [show w + 1 - 1 - w = 0 by omega, Nat.testBit_zero]
      by_cases h : n % 2 = 1 <;> simp [h]

/-! ### coordinates: the decoder's copy loops visit the standard's bit positions, most significant first -/

/-- what is evaluated per version: the four coordinate lists of the decoder's copy loops (both copies of the format
    information; from version 7 both copies of the version information) against the standard's bit positions.
    The indices cross for the version information: `ReadVersion` reads the TOP-RIGHT block first (`versionCoords1`,
    3 wide by 6 tall), which is the standard's second copy `versionPos2`, then the bottom-left one (`versionPos1`). -/
def coordsOK (v : Nat) : Bool :=
  let n := 17 + 4 * v
  formatCoords1 == (List.range 15).map (fun i => QRRef.formatPos1 (15 - 1 - i)) &&
  formatCoords2 n == (List.range 15).map (fun i => QRRef.formatPos2 n (15 - 1 - i)) &&
  (decide (v < 7) || versionCoords1 n == (List.range 18).map (fun i => QRRef.versionPos2 n (18 - 1 - i))) &&
  (decide (v < 7) || versionCoords2 n == (List.range 18).map (fun i => QRRef.versionPos1 n (18 - 1 - i)))

theorem coordsOK_all : ∀ v ∈ List.range 40, coordsOK (v + 1) = true := by decide +kernel

theorem coordsOK_of (v : Nat) (h1 : 1 ≤ v) (h40 : v ≤ 40) :
    formatCoords1 = (List.range 15).map (fun i => QRRef.formatPos1 (15 - 1 - i)) ∧
    formatCoords2 (17 + 4 * v) = (List.range 15).map (fun i => QRRef.formatPos2 (17 + 4 * v) (15 - 1 - i)) ∧
    (7 ≤ v → versionCoords1 (17 + 4 * v) =
      (List.range 18).map (fun i => QRRef.versionPos2 (17 + 4 * v) (18 - 1 - i))) ∧
    (7 ≤ v → versionCoords2 (17 + 4 * v) =
      (List.range 18).map (fun i => QRRef.versionPos1 (17 + 4 * v) (18 - 1 - i))) := by
  have h := coordsOK_all (v - 1) (List.mem_range.mpr (by omega))
  rw [show v - 1 + 1 = v by omega] at h
  simp only [coordsOK, Bool.and_eq_true, Bool.or_eq_true, decide_eq_true_eq, beq_iff_eq] at h
  exact ⟨h.1.1.1, h.1.1.2, fun h7 => h.1.2.resolve_left (by omega), fun h7 => h.2.resolve_left (by omega)⟩

theorem formatPos1_lt (i : Nat) : (QRRef.formatPos1 i).1 < 9 ∧ (QRRef.formatPos1 i).2 < 9 := by
  unfold QRRef.formatPos1
  repeat' split
  all_goals (constructor <;> simp <;> omega)

theorem formatPos2_lt (n i : Nat) (hn : 21 ≤ n) (hi : i < 15) :
    (QRRef.formatPos2 n i).1 < n ∧ (QRRef.formatPos2 n i).2 < n := by
  unfold QRRef.formatPos2
  split <;> (constructor <;> simp <;> omega)

theorem versionPos2_lt (n i : Nat) (hn : 21 ≤ n) (hi : i < 18) :
    (QRRef.versionPos2 n i).1 < n ∧ (QRRef.versionPos2 n i).2 < n := by
  unfold QRRef.versionPos2
  constructor <;> simp <;> omega

theorem versionPos1_lt (n i : Nat) (hn : 21 ≤ n) (hi : i < 18) :
    (QRRef.versionPos1 n i).1 < n ∧ (QRRef.versionPos1 n i).2 < n := by
  unfold QRRef.versionPos1
  constructor <;> simp <;> omega

section symbol
variable (v : Nat) (h1 : 1 ≤ v) (h40 : v ≤ 40) (ec : QRRef.EC) (mask : Nat) (cw : List Nat)

abbrev sym : Matrix := matrixOf (QRRef.refMatrix v ec mask cw)

/-- an information area of the symbol: the coordinate list `cs` of one of the decoder's copy loops lies inside the
    symbol and holds, most significant bit first, the `w`-bit word -/
structure Area (cs : List (Nat × Nat)) (w word : Nat) : Prop where
  len : cs.length = w
  inside : ∀ c ∈ cs, c.1 < 17 + 4 * v ∧ c.2 < 17 + 4 * v
  reads : cs.map (cellOf (sym v ec mask cw) false) = natToBits w word

omit h1 h40 in
theorem area_of_pos (pos : Nat → Nat × Nat) (w word : Nat)
    (hpos : ∀ i, i < w → (pos i).1 < 17 + 4 * v ∧ (pos i).2 < 17 + 4 * v)
    (hbit : ∀ i, i < w → QRRef.moduleAt v ec mask cw (pos i).1 (pos i).2 = word.testBit i) :
    Area v ec mask cw ((List.range w).map (fun i => pos (w - 1 - i))) w word := by
  refine ⟨by simp, fun c hc => ?_, ?_⟩
  · obtain ⟨i, hi, rfl⟩ := List.mem_map.mp hc
    exact hpos _ (by have := List.mem_range.mp hi; omega)
  · rw [List.map_map, ← toBitsBE_eq_natToBits]
    unfold QRRef.toBitsBE
    apply List.map_congr_left
    intro i hi
    have hi := List.mem_range.mp hi
    have hb := hpos (w - 1 - i) (by omega)
    simp only [Function.comp, cellOf, Bool.false_eq_true, if_false]
    rw [matrixOf_getB v ec mask cw _ _ hb.1 hb.2]
    exact hbit _ (by omega)

include h1 h40

theorem format_area1 : Area v ec mask cw formatCoords1 15 (QRRef.formatWord ec mask) := by
  rw [(coordsOK_of v h1 h40).1]
  exact area_of_pos v ec mask cw _ 15 _ (fun i _ => by have := formatPos1_lt i; omega)
    (fun i hi => (Gzx.Properties.C07.ref_format_info_readback v h1 h40 ec mask cw i hi).1)

theorem format_area2 : Area v ec mask cw (formatCoords2 (17 + 4 * v)) 15 (QRRef.formatWord ec mask) := by
  rw [(coordsOK_of v h1 h40).2.1]
  exact area_of_pos v ec mask cw _ 15 _ (fun i hi => formatPos2_lt _ i (by omega) hi)
    (fun i hi => (Gzx.Properties.C07.ref_format_info_readback v h1 h40 ec mask cw i hi).2)

theorem version_area1 (h7 : 7 ≤ v) :
    Area v ec mask cw (versionCoords1 (17 + 4 * v)) 18 (QRRef.versionWord v) := by
  rw [(coordsOK_of v h1 h40).2.2.1 h7]
  exact area_of_pos v ec mask cw _ 18 _ (fun i hi => versionPos2_lt _ i (by omega) hi)
    (fun i hi => (Gzx.Properties.C07.ref_version_info_readback v h7 h40 ec mask cw i hi).2)

/-- the copy of the version information that `ReadVersion` reads second -/
theorem version_area2 (h7 : 7 ≤ v) :
    Area v ec mask cw (versionCoords2 (17 + 4 * v)) 18 (QRRef.versionWord v) := by
  rw [(coordsOK_of v h1 h40).2.2.2 h7]
  exact area_of_pos v ec mask cw _ 18 _ (fun i hi => versionPos1_lt _ i (by omega) hi)
    (fun i hi => (Gzx.Properties.C07.ref_version_info_readback v h7 h40 ec mask cw i hi).1)

end symbol

/-! ### codewords -/

/-- the decoder's `isMasked(i, j)` on (row, column) is the standard's condition on (x, y); masks 5–7 are written
    differently in the library (`mask_alt_equiv`) -/
theorem maskBit_eq (k x y : Nat) : QRDec.maskBit k y x = QRRef.maskBit k x y := by
  have h := Gzx.Properties.C07.mask_alt_equiv y x
  match k with
  | 0 | 1 | 2 | 3 | 4 => rfl
  | 5 => exact h.1.symm
  | 6 => exact h.2.1.symm
  | 7 => exact h.2.2.symm
  | _ + 8 => rfl

theorem bitsToBytes_eq_bytesOfBits : ∀ (n : Nat) (bits : List Bool), 8 * n ≤ bits.length →
    bitsToBytes n bits = QRRef.bytesOfBits n bits
  | 0, _, _ => rfl
  | n + 1, bits, h => by
    cases bits with
    | nil => simp at h
    | cons b bs =>
      unfold bitsToBytes QRRef.bytesOfBits
      rw [if_neg (by omega), bitsToBytes_eq_bytesOfBits n _ (by rw [List.length_drop]; omega)]
      rfl

theorem bitsToBytes_bitsOfBytes (bs : List Nat) (rest : List Bool) (h : ∀ b ∈ bs, b < 256) :
    bitsToBytes bs.length (QRRef.bitsOfBytes bs ++ rest) = bs := by
  rw [bitsToBytes_eq_bytesOfBits _ _ (by rw [List.length_append, QRRef.bitsOfBytes_length]; omega)]
  exact QRRef.bytesOfBits_bitsOfBytes bs rest h

end Gzx.QRComp
