/-
  C02: the two loops of the C40 / Text encoder (`c40Loop`, and `backtrackLoop` at the end of the message) on the buffer
  invariant `CBuf`: the buffer holds the values of the characters consumed since the call started.  One lemma per
  iteration (`btIter_spec`, `c40Iter_spec`), one theorem per loop (`backtrackLoop_sat`, `c40Loop_sat`, by `loopOf_sat`):
  a WriterException from a symbol lookup, or the loop ends on the invariant, with what is known at each exit and which
  characters the backtracking has removed.
-/
import Gzx.Proofs.DMTriplets
import Gzx.Proofs.DMLoop
namespace Gzx.DMHighLevel
open Gzx.Det (Sat Only)

/-! ## values of characters -/

theorem cVals_append (text : Bool) (xs ys : List Nat) : cVals text (xs ++ ys) = cVals text xs ++ cVals text ys := by
  induction xs with
  | nil => rfl
  | cons x xs ih => simp [cVals, ih]

theorem ite_ne_nil {p : Prop} [Decidable p] {a b : List Nat} (ha : a ≠ []) (hb : b ≠ []) :
    (if p then a else b) ≠ [] := by
  split <;> assumption

theorem cEncodeChar_pos (text : Bool) (c : Nat) : 0 < (cEncodeChar text c).length := by
  apply List.length_pos_iff.2
  unfold cEncodeChar c40Base textBase
  repeat' apply ite_ne_nil
  all_goals exact List.cons_ne_nil _ _

/-! ## encoder: the buffer invariant -/

/-- the characters consumed since the call started at `c0` -/
def charsOf (c0 c : Ctx) : List Nat := (c0.msg.drop c0.pos).take (c.pos - c0.pos)

/-- size of the character that ends the buffer (0 if nothing is buffered) -/
def lastSz (text : Bool) (c0 c : Ctx) : Nat :=
  if c0.pos < c.pos then
    match c.msg[c.pos - 1]? with
    | some p => (cEncodeChar text p).length
    | none => 0
  else 0

/-- the C40 / Text encoder's loop invariant: nothing written yet, `buf` = values of the characters consumed -/
structure CBuf (text : Bool) (c0 c : Ctx) (buf : List Nat) : Prop where
  cw : c.cw = c0.cw
  msg : c.msg = c0.msg
  cfg : c.cfg = c0.cfg
  skip : c.skipAtEnd = c0.skipAtEnd
  lo : c0.pos ≤ c.pos
  hi : c.pos ≤ c.total
  buf : buf = cVals text (charsOf c0 c)

theorem charsOf_succ {c0 c : Ctx} {ch : Nat} (hm : c.msg = c0.msg) (hlo : c0.pos ≤ c.pos)
    (hget : c.msg[c.pos]? = some ch) (c' : Ctx) (hp : c'.pos = c.pos + 1) :
    charsOf c0 c' = charsOf c0 c ++ [ch] := by
  unfold charsOf
  rw [hp]
  have h1 : c.pos + 1 - c0.pos = (c.pos - c0.pos) + 1 := by omega
  rw [h1, List.take_add_one]
  congr 1
  rw [List.getElem?_drop]
  have : c0.pos + (c.pos - c0.pos) = c.pos := by omega
  rw [this, ← hm, hget]; rfl

/-- `c40Available` is `UpdateSymbolInfoByLength` for the codewords written plus the buffer's complete triplets -/
theorem c40Available_update {syms : List SymbolInfo} {c c2 : Ctx} {buf : List Nat} {av : Nat}
    (h : c40Available syms c buf = .ok (c2, av)) : c.update syms (c.count + buf.length / 3 * 2) = .ok c2 := by
  unfold c40Available at h
  obtain ⟨c3, h3, h⟩ := bind_ok h
  obtain ⟨cap, _, h⟩ := bind_ok h
  cases h
  exact h3

theorem c40Available_spec {syms : List SymbolInfo} {c c2 : Ctx} {buf : List Nat} {av : Nat}
    (h : c40Available syms c buf = .ok (c2, av)) :
    c2.cw = c.cw ∧ c2.msg = c.msg ∧ c2.pos = c.pos ∧ c2.cfg = c.cfg ∧ c2.skipAtEnd = c.skipAtEnd ∧
    c2.newEnc = c.newEnc ∧ ∃ s, c2.sym = some s ∧ c.count + buf.length / 3 * 2 ≤ s.cap ∧
      av = s.cap - (c.count + buf.length / 3 * 2) ∧ c40Available syms c2 buf = .ok (c2, av) := by
  have hu := c40Available_update h
  obtain ⟨ucw, umsg, upos, ucfg, uskip, unew, s, hs, hcap, _⟩ := update_spec hu
  have hcapok : c2.capacity = .ok s.cap := capacity_ok_iff.2 ⟨s, hs, rfl⟩
  have hcount : c2.count = c.count := by simp [Ctx.count, ucw]
  have hav : av = s.cap - (c.count + buf.length / 3 * 2) := by
    unfold c40Available at h
    simp only [bind, Except.bind, hu, hcapok, Except.ok.injEq, Prod.mk.injEq] at h
    exact h.2.symm
  refine ⟨ucw, umsg, upos, ucfg, uskip, unew, s, hs, hcap, hav, ?_⟩
  -- the symbol holds the triplets: a second lookup changes nothing
  unfold c40Available
  simp only [bind, Except.bind, hcount, update_noop hs hcap, hcapok, hav]

theorem CBuf.avail {text : Bool} {syms : List SymbolInfo} {c0 c c2 : Ctx} {buf : List Nat} {av : Nat}
    (hB : CBuf text c0 c buf) (h : c40Available syms c buf = .ok (c2, av)) : CBuf text c0 c2 buf := by
  obtain ⟨a1, a2, a3, a4, a5, a6, _⟩ := c40Available_spec h
  refine ⟨by rw [a1, hB.cw], by rw [a2, hB.msg], by rw [a4, hB.cfg], by rw [a5, hB.skip],
    by rw [a3]; exact hB.lo, ?_, ?_⟩
  · simp only [Ctx.total, a2, a3, a5]; exact hB.hi
  · have : charsOf c0 c2 = charsOf c0 c := by simp [charsOf, a3]
    rw [this]; exact hB.buf

theorem lastSz_congr (text : Bool) (c0 c c2 : Ctx) (h1 : c2.msg = c.msg) (h2 : c2.pos = c.pos) :
    lastSz text c0 c2 = lastSz text c0 c := by simp [lastSz, h1, h2]

theorem backtrackOne_ctx {text : Bool} {c c' : Ctx} {buf buf' : List Nat} {ls l' : Nat}
    (h : backtrackOne text c buf ls = .ok (c', buf', l')) : c' = { c with pos := c.pos - 1, sym := none } := by
  unfold backtrackOne at h
  rcases ite_eq_cases h with ⟨_, h⟩ | h
  · cases h
  obtain ⟨c1, h1, h⟩ := bind_ok h
  obtain ⟨_, _, h⟩ := bind_ok h
  obtain ⟨_, rfl⟩ := back_spec h1
  rcases ite_eq_cases h with ⟨_, h⟩ | h
  · rcases ite_eq_cases h with ⟨_, h⟩ | h
    · cases h
    · split at h
      · cases h; rfl
      · cases h
  · cases h; rfl

/-- backtrackOneCharacter on the invariant: the last character goes back, its values leave the buffer, the symbol is
    forgotten -/
theorem backtrackOne_eq {text : Bool} {c0 c : Ctx} {buf : List Nat} (hB : CBuf text c0 c buf) (hne : c0.pos < c.pos) :
    backtrackOne text c buf (lastSz text c0 c) =
      .ok (({ c with pos := c.pos - 1, sym := none } : Ctx),
        cVals text (charsOf c0 ({ c with pos := c.pos - 1, sym := none } : Ctx)),
        lastSz text c0 ({ c with pos := c.pos - 1, sym := none } : Ctx)) ∧
    (cVals text (charsOf c0 ({ c with pos := c.pos - 1, sym := none } : Ctx))).length < buf.length := by
  have hlen : c.pos ≤ c.msg.length := by have := hB.hi; simp only [Ctx.total] at this; omega
  obtain ⟨lc, hget⟩ : ∃ lc, c.msg[c.pos - 1]? = some lc := ⟨_, List.getElem?_eq_getElem (by omega)⟩
  let cm : Ctx := { c with pos := c.pos - 1 }
  have hchars : charsOf c0 c = charsOf c0 cm ++ [lc] :=
    charsOf_succ (c0 := c0) (c := cm) (ch := lc) hB.msg (by show c0.pos ≤ c.pos - 1; omega) hget c
      (by show c.pos = c.pos - 1 + 1; omega)
  have hls : lastSz text c0 c = (cEncodeChar text lc).length := by simp [lastSz, hne, hget]
  have hbuf : buf = cVals text (charsOf c0 cm) ++ cEncodeChar text lc := by
    rw [hB.buf, hchars, cVals_append]; simp [cVals]
  have hle : ¬ lastSz text c0 c > buf.length := by rw [hls, hbuf]; simp
  have hback : c.back 1 = .ok cm := by simp [Ctx.back, cm]; omega
  have hcur : cm.cur = .ok lc := by simp [Ctx.cur, cm, hget]
  have htake : buf.take (buf.length - lastSz text c0 c) = cVals text (charsOf c0 cm) := by
    rw [hls, hbuf]; simp
  refine ⟨?_, by rw [hbuf]; have := cEncodeChar_pos text lc; simp only [List.length_append]; exact Nat.lt_add_of_pos_right this⟩
  unfold backtrackOne
  simp only [hle, if_false, hback, bind, Except.bind, hcur, htake]
  by_cases hlt0 : c0.pos < c.pos - 1
  · -- a character is left in the buffer: its size is reported
    obtain ⟨pc, hg⟩ : ∃ pc, c.msg[c.pos - 1 - 1]? = some pc := ⟨_, List.getElem?_eq_getElem (by omega)⟩
    have hpos : (cVals text (charsOf c0 cm)).length > 0 := by
      have := charsOf_succ (c0 := c0) (c := ({ c with pos := c.pos - 1 - 1 } : Ctx)) (ch := pc) hB.msg
        (by show c0.pos ≤ c.pos - 1 - 1; omega) hg cm (by show c.pos - 1 = c.pos - 1 - 1 + 1; omega)
      have hp := cEncodeChar_pos text pc
      rw [this, cVals_append]
      simp only [cVals, List.length_append, List.append_nil]
      omega
    have h0 : ¬ c.pos - 1 = 0 := by omega
    simp only [hpos, if_true, cm, h0, if_false, hg, lastSz, hlt0]
    rfl
  · have hnil : ∀ cc : Ctx, cc.pos = c.pos - 1 → charsOf c0 cc = [] := by
      intro cc e
      unfold charsOf
      rw [show cc.pos - c0.pos = 0 by omega]
      rfl
    simp only [hnil cm rfl, hnil ({ c with pos := c.pos - 1, sym := none } : Ctx) rfl, cVals, List.length_nil,
      Nat.lt_irrefl, gt_iff_lt, if_false, lastSz, hlt0, cm]
theorem backtrackOne_spec {text : Bool} {c0 c c' : Ctx} {buf buf' : List Nat} {last' : Nat}
    (hB : CBuf text c0 c buf) (hne : c0.pos < c.pos)
    (h : backtrackOne text c buf (lastSz text c0 c) = .ok (c', buf', last')) :
    CBuf text c0 c' buf' ∧ c'.pos + 1 = c.pos ∧ c'.newEnc = c.newEnc ∧ last' = lastSz text c0 c' ∧
      c'.hasMore = true ∧ buf'.length < buf.length := by
  obtain ⟨he, hlen⟩ := backtrackOne_eq hB hne
  rw [he] at h
  cases h
  have hhi : c.pos ≤ c.msg.length - c.skipAtEnd := hB.hi
  refine ⟨⟨hB.cw, hB.msg, hB.cfg, hB.skip, ?_, ?_, rfl⟩, ?_, rfl, rfl, (hasMore_iff _).2 ?_, hlen⟩
  · show c0.pos ≤ c.pos - 1; omega
  · show c.pos - 1 ≤ c.msg.length - c.skipAtEnd; omega
  · show c.pos - 1 + 1 = c.pos; omega
  · show c.pos - 1 < c.msg.length - c.skipAtEnd; omega

theorem CBuf.nonempty {text : Bool} {c0 c : Ctx} {buf : List Nat} (hB : CBuf text c0 c buf) (h : buf ≠ []) :
    c0.pos < c.pos := by
  by_cases hx : c0.pos < c.pos
  · exact hx
  · exfalso; apply h
    rw [hB.buf]
    have : c.pos - c0.pos = 0 := by omega
    simp [charsOf, this, cVals]

theorem c40Available_sat (syms : List SymbolInfo) (c : Ctx) (buf : List Nat) :
    Sat (Only .writer) (fun _ => True) (c40Available syms c buf) := by
  unfold c40Available
  refine Sat.bind_eq (P := fun _ => True) ?_ fun c2 hu _ => ?_
  · cases hu : c.update syms (c.count + buf.length / 3 * 2) with
    | ok _ => trivial
    | error e => exact update_error hu
  · obtain ⟨s, _, hc⟩ := capacity_of_update hu
    rw [hc]
    trivial

theorem backtrackOne_ok {text : Bool} {c0 c : Ctx} {buf : List Nat} (hB : CBuf text c0 c buf) (hne : c0.pos < c.pos) :
    ∃ r, backtrackOne text c buf (lastSz text c0 c) = .ok r :=
  ⟨_, (backtrackOne_eq hB hne).1⟩

/-- the prefix sums of the value counts: number of C40 / Text values of the characters `c0.pos ..< q` -/
def valsUpTo (text : Bool) (c0 : Ctx) (q : Nat) : Nat :=
  (cVals text ((c0.msg.drop c0.pos).take (q - c0.pos))).length

theorem CBuf.len {text : Bool} {c0 c : Ctx} {buf : List Nat} (hB : CBuf text c0 c buf) :
    buf.length = valsUpTo text c0 c.pos := by
  rw [hB.buf]; rfl

/-! ## the backtracking loop -/

/-- the loop's state on the buffer invariant -/
structure BInv (text : Bool) (c0 : Ctx) (s : BS) : Prop where
  buf : CBuf text c0 s.1 s.2.1
  last : s.2.2.1 = lastSz text c0 s.1

/-- one iteration: a WriterException from the symbol lookup, or one character back on the invariant -/
theorem btIter_spec {text : Bool} {syms : List SymbolInfo} {c0 : Ctx} {s : BS} (hI : BInv text c0 s)
    (hc : btCont s = true) :
    btIter syms text s = .error .writer ∨
    ∃ s', btIter syms text s = .ok (.more s') ∧ BInv text c0 s' ∧ s'.1.pos + 1 = s.1.pos ∧
      s'.2.1.length < s.2.1.length ∧ s'.1.newEnc = s.1.newEnc ∧ s'.1.hasMore = true ∧
      c40Available syms s'.1 s'.2.1 = .ok (s'.1, s'.2.2.2) := by
  obtain ⟨c, buf, ls, av⟩ := s
  obtain ⟨hB, hl⟩ := hI
  simp only at hB hl
  subst hl
  simp only [btCont, decide_eq_true_eq] at hc
  have hne : buf ≠ [] := by intro e; rw [e] at hc; simp at hc
  have hlt := hB.nonempty hne
  obtain ⟨⟨c1, buf1, last1⟩, h1⟩ := backtrackOne_ok hB hlt
  obtain ⟨hB1, hp1, hn1, hl1, hm1, hlen1⟩ := backtrackOne_spec hB hlt h1
  unfold btIter
  simp only [h1, bind, Except.bind]
  rcases (c40Available_sat syms c1 buf1).cases with ⟨⟨c2, av2⟩, h2, _⟩ | ⟨_, h2, rfl⟩
  · obtain ⟨a1, a2, a3, a4, a5, a6, s, hs, _, _, hidem⟩ := c40Available_spec h2
    rw [h2]
    exact .inr ⟨_, rfl, ⟨hB1.avail h2, by rw [hl1, lastSz_congr text c0 c1 c2 a2 a3]⟩, by rw [a3]; exact hp1, hlen1,
      by rw [a6, hn1], by rw [hasMore_congr c1 c2 a2 a3 a5]; exact hm1, hidem⟩
  · rw [h2]; exact .inl rfl

/-- the backtracking loop, started where the symbol holds the buffer's triplets: a WriterException, or it stops on
    the invariant, with the symbol looked up for what is left and no single value left over that could go back; every
    character it has removed ended a buffer of `1 (mod 3)` values -/
theorem backtrackLoop_sat {text : Bool} {syms : List SymbolInfo} {c0 : Ctx} (fuel : Nat) (c : Ctx) (buf : List Nat)
    (av : Nat) (hB : CBuf text c0 c buf) (hav : c40Available syms c buf = .ok (c, av)) (hf : buf.length < fuel) :
    Sat (Only .writer)
      (fun r => (CBuf text c0 r.1 r.2 ∧ r.1.newEnc = c.newEnc ∧ ∃ av', c40Available syms r.1 r.2 = .ok (r.1, av') ∧
          ¬ (r.2.length % 3 = 1 ∧ (lastSz text c0 r.1 > 2 ∨ av' ≠ 1)) ∧
          ((r.1 = c ∧ r.2 = buf ∧ av' = av) ∨ r.1.hasMore = true)) ∧
        r.1.pos ≤ c.pos ∧ ∀ q, r.1.pos < q → q ≤ c.pos → valsUpTo text c0 q % 3 = 1)
      (backtrackLoop syms text fuel c buf (lastSz text c0 c) av) := by
  rw [backtrackLoop_eq]
  let J : BS → Prop := fun s =>
    s.1.newEnc = c.newEnc ∧ c40Available syms s.1 s.2.1 = .ok (s.1, s.2.2.2) ∧
    ((s.1 = c ∧ s.2.1 = buf ∧ s.2.2.2 = av) ∨ s.1.hasMore = true) ∧
    s.1.pos ≤ c.pos ∧ ∀ q, s.1.pos < q → q ≤ c.pos → valsUpTo text c0 q % 3 = 1
  refine loopOf_sat (fun s : BS => BInv text c0 s ∧ J s) _ (fun s : BS => s.2.1.length + 1)
    (fun _ _ h => by omega) (fun s hJ hc => ?_) (fun s hJ hc => ?_) fuel (c, buf, lastSz text c0 c, av)
    ⟨⟨hB, rfl⟩, rfl, hav, .inl ⟨rfl, rfl, rfl⟩, Nat.le_refl _, fun q (h1 : c.pos < q) h2 => by omega⟩ hf
  · obtain ⟨hI, hn, ha, hor, hle, hall⟩ := hJ
    simp only [btCont, decide_eq_false_iff_not] at hc
    have hst : ¬ (s.2.1.length % 3 = 1 ∧ (lastSz text c0 s.1 > 2 ∨ s.2.2.2 ≠ 1)) := by rw [← hI.last]; exact hc
    exact ⟨⟨hI.buf, hn, s.2.2.2, ha, hst, hor⟩, hle, hall⟩
  · obtain ⟨hI, hn, _, _, hle, hall⟩ := hJ
    rcases btIter_spec (syms := syms) hI hc with e | ⟨s', e, hI', hp, hlen, hn', hm', ha'⟩
    · rw [e]; exact Sat.error rfl
    · rw [e]
      refine ⟨⟨hI', hn'.trans hn, ha', .inr hm', by omega, fun q hq1 hq2 => ?_⟩, by omega⟩
      by_cases hq : q ≤ s.1.pos
      · have : q = s.1.pos := by omega
        simp only [btCont, decide_eq_true_eq] at hc
        rw [this, ← hI.buf.len]; exact hc.1
      · exact hall q (by omega) hq2

/-! ## the main loop -/

/-- one iteration on the invariant: a WriterException from the symbol lookup, or the next character is buffered
    (context `c2`, free codewords `av`) and the three ways on are spelled out -/
theorem c40Iter_spec {text : Bool} {syms : List SymbolInfo} {la : LookAhead} {c0 : Ctx} {s : LS}
    (hB : CBuf text c0 s.1 s.2) (hm : s.1.hasMore = true) :
    c40Iter syms la text s = .error .writer ∨
    ∃ c2 buf2 av, CBuf text c0 c2 buf2 ∧ buf2 ≠ [] ∧ s.2.length < buf2.length ∧ c2.pos = s.1.pos + 1 ∧
      c2.newEnc = s.1.newEnc ∧ c40Available syms c2 buf2 = .ok (c2, av) ∧
      c40Iter syms la text s =
        if !c2.hasMore then (c40End syms text c2 buf2 (lastSz text c0 c2) av).map .done
        else if buf2.length % 3 = 0 ∧ la c2.msg c2.pos (if text then TEXT else C40) ≠ (if text then TEXT else C40) then
          .ok (.done (c2.signal ASCII, buf2))
        else .ok (.more (c2, buf2)) := by
  obtain ⟨c, buf⟩ := s
  simp only at hB hm
  obtain ⟨ch, hc, hget⟩ := hasMore_cur hm
  have hlt : c.pos < c.total := (hasMore_iff c).mp hm
  have hB' : CBuf text c0 ({ c with pos := c.pos + 1 } : Ctx) (buf ++ cEncodeChar text ch) := by
    refine ⟨hB.cw, hB.msg, hB.cfg, hB.skip, by have := hB.lo; simp only; omega, ?_, ?_⟩
    · simp only [Ctx.total] at hlt ⊢; omega
    · rw [charsOf_succ hB.msg hB.lo hget _ rfl, cVals_append, ← hB.buf]; simp [cVals]
  unfold c40Iter
  simp only [hc, bind, Except.bind]
  rcases (c40Available_sat syms ({ c with pos := c.pos + 1 } : Ctx) (buf ++ cEncodeChar text ch)).cases with
    ⟨⟨c2, av⟩, h2, _⟩ | ⟨_, h2, rfl⟩
  · obtain ⟨a1, a2, a3, a4, a5, a6, _, _, _, _, hidem⟩ := c40Available_spec h2
    have hls : (cEncodeChar text ch).length = lastSz text c0 c2 := by
      have h1 : c0.pos < c2.pos := by rw [a3]; have := hB.lo; simp only; omega
      have h2' : c2.msg[c2.pos - 1]? = some ch := by rw [a2, a3]; simp only; rw [Nat.add_sub_cancel]; exact hget
      simp [lastSz, h1, h2']
    have hpos := cEncodeChar_pos text ch
    rw [h2]
    refine .inr ⟨c2, _, av, hB'.avail h2, ?_, by simp only [List.length_append]; omega, a3, a6, hidem, by rw [hls]⟩
    intro e; have := congrArg List.length e
    simp only [List.length_append, List.length_nil] at this; omega
  · rw [h2]; exact .inl rfl

/-- the end of the message is reached at `c`: a WriterException, or where the backtracking stops and what it
    removes -/
theorem c40End_sat {text : Bool} {syms : List SymbolInfo} {c0 c : Ctx} {buf : List Nat} {av : Nat}
    (hB : CBuf text c0 c buf) (hne : buf ≠ []) (hav : c40Available syms c buf = .ok (c, av)) (hend : c.pos = c0.total) :
    Sat (Only .writer)
      (fun r => (CBuf text c0 r.1 r.2 ∧ r.1.newEnc = c.newEnc ∧ ∃ avf, c40Available syms r.1 r.2 = .ok (r.1, avf) ∧
          ¬ (r.2.length % 3 = 1 ∧ (lastSz text c0 r.1 > 2 ∨ avf ≠ 1)) ∧
          (r.1.hasMore = true ∨ ¬ (r.2.length % 3 = 2 ∧ avf ≠ 2))) ∧
        (∀ q, r.1.pos < q → q < c0.total → valsUpTo text c0 q % 3 = 1) ∧
        (r.1.pos < c0.total → valsUpTo text c0 c0.total % 3 ≠ 0))
      (c40End syms text c buf (lastSz text c0 c) av) := by
  unfold c40End
  refine Sat.ite (fun hc => ?_) (fun hc => ?_)
  · obtain ⟨⟨c3, buf3, last3⟩, h3⟩ := backtrackOne_ok hB (hB.nonempty hne)
    obtain ⟨hB3, hp3, hn3, hl3, hm3, _⟩ := backtrackOne_spec hB (hB.nonempty hne) h3
    rw [h3]
    show Sat _ _ (c40Available syms c3 buf3 >>= _)
    refine Sat.bind_eq (c40Available_sat syms c3 buf3) fun ⟨c4, av4⟩ h4 _ => ?_
    obtain ⟨_, b2, b3, _, b5, b6, _, _, _, _, hidem4⟩ := c40Available_spec h4
    have hm4 : c4.hasMore = true := by rw [hasMore_congr c3 c4 b2 b3 b5]; exact hm3
    simp only
    rw [hl3, ← lastSz_congr text c0 c3 c4 b2 b3]
    refine (backtrackLoop_sat _ c4 buf3 av4 (hB3.avail h4) hidem4 (by omega)).post
      fun r ⟨⟨hBf, hn, avf, haf, hnc, hor⟩, _, hall⟩ =>
        ⟨⟨hBf, by rw [hn, b6, hn3], avf, haf, hnc, .inl (hor.elim (fun e => e.1 ▸ hm4) id)⟩,
          fun q hq1 hq2 => hall q hq1 (by omega), fun _ => ?_⟩
    rw [← hend, ← hB.len]; omega
  · exact (backtrackLoop_sat _ c buf av hB hav (by omega)).post fun r ⟨⟨hBf, hn, avf, haf, hnc, hor⟩, _, hall⟩ =>
      ⟨⟨hBf, hn, avf, haf, hnc, hor.elim (fun ⟨_, e2, e3⟩ => .inr (by rw [e2, e3]; exact hc)) .inl⟩,
        fun q hq1 hq2 => hall q hq1 (by omega), fun hlt => by have := hall c0.total hlt (by omega); omega⟩

/-- the main loop: a WriterException, or it ends on the invariant — at a look-ahead exit (ASCII signalled, complete
    triplets, something consumed) or at the end of the message where the backtracking stopped, having removed only
    characters that ended a buffer of `1 (mod 3)` values, except that the very last character may have ended one of
    `2 (mod 3)` values -/
theorem c40Loop_sat {text : Bool} {syms : List SymbolInfo} {la : LookAhead} {c0 : Ctx} (fuel : Nat) (c : Ctx)
    (buf : List Nat) (hB : CBuf text c0 c buf) (hm : c.hasMore = true) (hnew : c.newEnc = none)
    (hr : c.remaining ≤ fuel) :
    Sat (Only .writer)
      (fun r => (CBuf text c0 r.1 r.2 ∧
          ((r.1.newEnc = some ASCII ∧ r.2.length % 3 = 0 ∧ r.1.hasMore = true) ∨
           (r.1.newEnc = none ∧ ∃ av, c40Available syms r.1 r.2 = .ok (r.1, av) ∧
              ¬ (r.2.length % 3 = 1 ∧ (lastSz text c0 r.1 > 2 ∨ av ≠ 1)) ∧
              (r.1.hasMore = true ∨ ¬ (r.2.length % 3 = 2 ∧ av ≠ 2))))) ∧
        (r.1.newEnc = some ASCII → r.2 ≠ []) ∧
        (r.1.newEnc = none → (∀ q, r.1.pos < q → q < c0.total → valsUpTo text c0 q % 3 = 1) ∧
          (r.1.pos < c0.total → valsUpTo text c0 c0.total % 3 ≠ 0)))
      (c40Loop syms la text fuel c buf) := by
  rw [c40Loop_eq]
  refine loopOf_sat (fun s => CBuf text c0 s.1 s.2 ∧ s.1.hasMore = true ∧ s.1.newEnc = none) _ (fun s => s.1.remaining)
    (fun s hI h0 => ?_) (fun s hI hc => ?_) (fun s hI hc => ?_) fuel (c, buf) ⟨hB, hm, hnew⟩ hr
  · have := (hasMore_iff s.1).mp hI.2.1
    simp only [Ctx.remaining] at h0; omega
  · exact absurd hI.2.1 (by rw [show s.1.hasMore = false from hc]; decide)
  · obtain ⟨hBs, _, hn⟩ := hI
    rcases c40Iter_spec (syms := syms) (la := la) hBs hc with e | ⟨c2, buf2, av, hB2, hne, _, hp, hn2, hav2, e⟩
    · rw [e]; exact Sat.error rfl
    rw [e]
    refine Sat.ite (fun hnm => ?_) (fun hnm => Sat.ite (fun hex => ?_) (fun _ => ?_))
    · -- the last character has been consumed
      have hend : c2.pos = c0.total := by
        have h1 := (hasMore_false_iff c2).mp (by simpa using hnm)
        have h2 := hB2.hi
        have : c2.total = c0.total := by simp [Ctx.total, hB2.msg, hB2.skip]
        omega
      refine Sat.map ((c40End_sat hB2 hne hav2 hend).post fun r ⟨⟨hBf, hn1, hst⟩, hall⟩ => ?_)
      have hnone : r.1.newEnc = none := by rw [hn1, hn2, hn]
      exact ⟨⟨hBf, .inr ⟨hnone, hst⟩⟩, fun hx => (by rw [hnone] at hx; cases hx), fun _ => hall⟩
    · exact ⟨⟨⟨hB2.cw, hB2.msg, hB2.cfg, hB2.skip, hB2.lo, hB2.hi, hB2.buf⟩, .inl ⟨rfl, hex.1, by show c2.hasMore = true; simpa using hnm⟩⟩,
        fun _ => hne, fun hx => by simp [Ctx.signal] at hx⟩
    · exact ⟨⟨hB2, by simpa using hnm, hn2.trans hn⟩,
        remaining_advance hc (hB2.msg.trans hBs.msg.symm) (hB2.skip.trans hBs.skip.symm) hp⟩

end Gzx.DMHighLevel
