/-
  Code 93: the row decoder model reads back what the writer model draws, at every scale.
  Helper lemmas for Properties/C03Row39.lean.
-/
import Gzx.Proofs.Row39Read
namespace Gzx.Row39
open Gzx Gzx.OneD
open Gzx.CheckDigit (indexOf? indexOf?_lt indexOf?_get indexOf?_none indexOf?_getElem distinct)

/-! ## the classifier is scale invariant -/

theorem c93PatLoop_scale (s : Nat) (hs : 0 < s) (sum : Nat) : ∀ (cs : List Nat) (even : Bool) (p : Nat),
    c93PatLoop (s * sum) (cs.map (s * ·)) even p = c93PatLoop sum cs even p
  | [], _, _ => rfl
  | c :: cs, even, p => by
    simp only [List.map_cons, c93PatLoop]
    have h0 : (s * sum = 0) ↔ (sum = 0) := by
      constructor
      · intro h; rcases Nat.mul_eq_zero.mp h with h | h <;> omega
      · intro h; rw [h]; simp
    have hdiv : (18 * (s * c) + s * sum) / (2 * (s * sum)) = (18 * c + sum) / (2 * sum) := by
      have e1 : 18 * (s * c) + s * sum = s * (18 * c + sum) := by
        rw [Nat.mul_add, Nat.mul_left_comm]
      have e2 : 2 * (s * sum) = s * (2 * sum) := Nat.mul_left_comm _ _ _
      rw [e1, e2, Nat.mul_div_mul_left _ _ hs]
    by_cases hz : sum = 0
    · have hz' : s * sum = 0 := h0.mpr hz
      simp [hz]
    · have hz' : ¬ s * sum = 0 := fun h => hz (h0.mp h)
      simp only [hz, hz', if_false, hdiv]
      split
      · rfl
      · split
        · exact c93PatLoop_scale s hs sum cs false _
        · exact c93PatLoop_scale s hs sum cs true _

/-- `code93ToPattern` sees the same pattern at every integer scale -/
theorem c93Pattern_scale (s : Nat) (hs : 0 < s) (cs : List Nat) : c93Pattern (cs.map (s * ·)) = c93Pattern cs := by
  unfold c93Pattern
  rw [sumL_scale, c93PatLoop_scale s hs]

/-! ## table facts -/

/-- run widths of the nine modules of an encoding word -/
def r93 (e : Nat) : List Nat := RunLength.runs (bitsMSB 9 e)

def enc93 (T : Tables) (i : Nat) : Nat := T.code93Enc.getD i 0
def alpha93 (T : Tables) (i : Nat) : Nat := T.code93Alphabet.getD i 0

/-- what `code93_row_read_write` needs of the tables: 48 pairwise distinct words, each nine modules =
    three bars and three spaces (six runs, read back by the classifier at one pixel per module), 48 pairwise
    distinct alphabet characters, the 48th being '*' -/
def WF93Row (T : Tables) : Bool :=
  decide (T.code93Enc.length = 48) && decide (T.code93Alphabet.length = 48) &&
  distinct T.code93Enc && distinct T.code93Alphabet && decide (T.code93Alphabet[47]? = some 42) &&
  T.code93Enc.all (fun e =>
    decide ((r93 e).length = 6) && (r93 e).all (fun w => decide (0 < w)) &&
    decide (appendPattern (r93 e) true = bitsMSB 9 e) && decide (c93Pattern (r93 e) = some e))

structure WF93Facts (T : Tables) : Prop where
  encLen : T.code93Enc.length = 48
  alphaLen : T.code93Alphabet.length = 48
  encDistinct : distinct T.code93Enc = true
  alphaDistinct : distinct T.code93Alphabet = true
  star : T.code93Alphabet[47]? = some 42
  word : ∀ i, i < 48 → (r93 (enc93 T i)).length = 6 ∧ (∀ w ∈ r93 (enc93 T i), 0 < w) ∧
    appendPattern (r93 (enc93 T i)) true = bitsMSB 9 (enc93 T i) ∧ c93Pattern (r93 (enc93 T i)) = some (enc93 T i)

theorem wf93Facts (T : Tables) (h : WF93Row T = true) : WF93Facts T := by
  simp only [WF93Row, Bool.and_eq_true, decide_eq_true_eq, List.all_eq_true] at h
  obtain ⟨⟨⟨⟨⟨h1, h2⟩, h3⟩, h4⟩, h5⟩, h6⟩ := h
  refine ⟨h1, h2, h3, h4, h5, ?_⟩
  intro i hi
  have hmem : enc93 T i ∈ T.code93Enc := by
    unfold enc93
    rw [getD_eq_getElem _ _ _ (by omega)]
    exact List.getElem_mem _
  obtain ⟨⟨⟨a, b⟩, c⟩, d⟩ := h6 _ hmem
  exact ⟨a, fun w hw => by simpa using b w hw, c, d⟩

theorem wf93_of_row (T : Tables) (h : WF93Row T = true) : WF93 T = true := by
  have f := wf93Facts T h
  simp [WF93, f.encLen, f.alphaLen]

theorem sumL_eq_length_appendPattern (ws : List Nat) (c : Bool) : sumL ws = (appendPattern ws c).length :=
  (length_appendPattern ws c).symm

theorem r93_sum (T : Tables) (f : WF93Facts T) (i : Nat) (hi : i < 48) : sumL (r93 (enc93 T i)) = 9 := by
  have := (f.word i hi).2.2.1
  rw [sumL_eq_length_appendPattern _ true, this]
  simp [bitsMSB]

/-! ## the character loop on a drawn row -/

/-- runs of the symbol characters `idx` at `s` pixels per module -/
def runs93 (T : Tables) (s : Nat) (idx : List Nat) : List Nat :=
  (idx.map (fun i => (r93 (enc93 T i)).map (s * ·))).flatten

theorem runs93_cons (T : Tables) (s i : Nat) (idx : List Nat) :
    runs93 T s (i :: idx) = (r93 (enc93 T i)).map (s * ·) ++ runs93 T s idx := by
  simp [runs93]

theorem c93Char_at (T : Tables) (f : WF93Facts T) (i : Nat) (hi : i < 48) :
    c93Char T (enc93 T i) = .ok (alpha93 T i) := by
  unfold c93Char
  have he : enc93 T i = T.code93Enc[i]'(by rw [f.encLen]; exact hi) := by
    unfold enc93; exact getD_eq_getElem _ _ _ _
  rw [he, indexOf?_getElem f.encDistinct i (by rw [f.encLen]; exact hi)]
  simp only []
  rw [nth_ok _ i (by rw [f.alphaLen]; exact hi)]
  unfold alpha93
  rw [getD_eq_getElem _ _ _ (by rw [f.alphaLen]; exact hi)]

theorem alpha93_ne_star (T : Tables) (f : WF93Facts T) (i : Nat) (hi : i < 47) : alpha93 T i ≠ 42 := by
  intro h
  have h47 : T.code93Alphabet[47]'(by rw [f.alphaLen]; omega) = 42 := by
    have := f.star
    rw [List.getElem?_eq_getElem (by rw [f.alphaLen]; omega)] at this
    exact Option.some.inj this
  have hi' : T.code93Alphabet[i]'(by rw [f.alphaLen]; omega) = 42 := by
    unfold alpha93 at h
    rw [getD_eq_getElem _ _ _ (by rw [f.alphaLen]; omega)] at h
    exact h
  have e1 := indexOf?_getElem f.alphaDistinct i (by rw [f.alphaLen]; omega)
  have e2 := indexOf?_getElem f.alphaDistinct 47 (by rw [f.alphaLen]; omega)
  rw [hi'] at e1
  rw [h47] at e2
  rw [e1] at e2
  have := Option.some.inj e2
  omega

theorem alpha93_star (T : Tables) (f : WF93Facts T) : alpha93 T 47 = 42 := by
  unfold alpha93
  rw [getD_eq_getElem _ _ _ (by rw [f.alphaLen]; omega)]
  have := f.star
  rw [List.getElem?_eq_getElem (by rw [f.alphaLen]; omega)] at this
  exact Option.some.inj this

/-! ## symbols ↔ characters -/

theorem alphaIndex_spec (A : List Nat) (c i : Nat) (h : alphaIndex A c = .ok i) : i < A.length ∧ A.getD i 0 = c := by
  unfold alphaIndex at h
  split at h
  · rename_i j hj
    cases h
    have h1 := indexOf?_lt hj
    have h2 := indexOf?_get hj
    refine ⟨h1, ?_⟩
    rw [List.getD_eq_getElem?_getD, h2]; rfl
  · cases h

theorem mapM_alphaIndex_spec (A : List Nat) : ∀ (l syms : List Nat), l.mapM (alphaIndex A) = .ok syms →
    (∀ i ∈ syms, i < A.length) ∧ syms.map (fun i => A.getD i 0) = l
  | [], syms, h => by
    simp only [List.mapM_nil, pure, Except.pure] at h
    cases h; simp
  | c :: cs, syms, h => by
    simp only [List.mapM_cons, bind, Except.bind] at h
    split at h
    · cases h
    · rename_i i hi
      split at h
      · cases h
      · rename_i rest hrest
        simp only [pure, Except.pure] at h
        cases h
        obtain ⟨h1, h2⟩ := alphaIndex_spec A c i hi
        obtain ⟨h3, h4⟩ := mapM_alphaIndex_spec A cs rest hrest
        refine ⟨?_, by rw [List.map_cons, h2, h4]⟩
        intro j hj
        rcases List.mem_cons.mp hj with e | e
        · rw [e]; exact h1
        · exact h3 j e

/-! ## the check characters and the unescaping, on characters -/

theorem indexFrom_getElem (A : List Nat) (hA : distinct A = true) (i : Nat) (hi : i < A.length) (k : Nat) :
    OneDPost.indexFrom A A[i] k = ((k + i : Nat) : Int) := by
  induction A generalizing i k with
  | nil => simp at hi
  | cons y ys ih =>
    simp only [distinct, Bool.and_eq_true, Bool.not_eq_true', List.contains_eq_mem,
      decide_eq_false_iff_not] at hA
    cases i with
    | zero => simp [OneDPost.indexFrom]
    | succ j =>
      have hj : j < ys.length := by simpa using hi
      simp only [List.getElem_cons_succ, OneDPost.indexFrom]
      have hne : ¬ y = ys[j] := by
        intro e; apply hA.1; rw [e]; exact List.getElem_mem hj
      rw [if_neg hne, ih hA.2 j hj (k + 1)]
      congr 1; omega

theorem indexOf_alpha93 (T : Tables) (f : WF93Facts T) (i : Nat) (hi : i < 48) :
    OneDPost.indexOf T.code93Alphabet (alpha93 T i) = (i : Int) := by
  unfold OneDPost.indexOf alpha93
  rw [getD_eq_getElem _ _ _ (by rw [f.alphaLen]; exact hi), indexFrom_getElem _ f.alphaDistinct i _ 0]
  simp

theorem c93Weighted_alpha (T : Tables) (f : WF93Facts T) (wm : Nat) : ∀ (l : List Nat) (w : Nat) (t : Int),
    (∀ i ∈ l, i < 48) →
    c93Weighted T.code93Alphabet wm (l.map (alpha93 T)) w t = t + ((CheckDigit.c93SumRev wm w l : Nat) : Int)
  | [], w, t, _ => by simp [c93Weighted, CheckDigit.c93SumRev]
  | i :: l, w, t, h => by
    simp only [List.map_cons, c93Weighted, CheckDigit.c93SumRev]
    rw [c93Weighted_alpha T f wm l _ _ (fun j hj => h j (by simp [hj])), indexOf_alpha93 T f i (h i (by simp))]
    simp only [CheckDigit.c93Next]
    have : ((i * w + CheckDigit.c93SumRev wm (if w + 1 > wm then 1 else w + 1) l : Nat) : Int) =
        (w : Int) * (i : Int) + ((CheckDigit.c93SumRev wm (if w + 1 > wm then 1 else w + 1) l : Nat) : Int) := by
      rw [Int.natCast_add, Int.natCast_mul, Int.mul_comm]
    rw [this]; omega

/-- one check character verifies on the characters the writer's symbols stand for -/
theorem c93CheckOne_written (T : Tables) (f : WF93Facts T) (syms : List Nat) (hs : ∀ i ∈ syms, i < 48)
    (pos wm : Nat) (hp : pos < syms.length)
    (hck : syms.getD pos 0 = CheckDigit.c93Check wm (syms.take pos)) :
    c93CheckOne T.code93Alphabet (syms.map (alpha93 T)) pos wm = .ok () := by
  unfold c93CheckOne
  rw [nth_ok _ pos (by simpa using hp)]
  rw [← List.map_take, ← List.map_reverse,
    c93Weighted_alpha T f wm _ 1 0 (fun i hi => hs i (List.mem_of_mem_take (List.mem_reverse.mp hi)))]
  simp only [Int.zero_add]
  have hmod : Int.tmod ((CheckDigit.c93SumRev wm 1 (syms.take pos).reverse : Nat) : Int) 47 =
      ((CheckDigit.c93Check wm (syms.take pos) : Nat) : Int) := by
    unfold CheckDigit.c93Check
    exact (Int.ofNat_tmod _ 47).symm
  rw [hmod]
  have hlt : CheckDigit.c93Check wm (syms.take pos) < 47 := by
    unfold CheckDigit.c93Check; exact Nat.mod_lt _ (by omega)
  have hal : OneDPost.alphaAt T.code93Alphabet ((CheckDigit.c93Check wm (syms.take pos) : Nat) : Int) =
      .ok (alpha93 T (CheckDigit.c93Check wm (syms.take pos))) := by
    unfold OneDPost.alphaAt
    rw [if_neg (by omega)]
    simp only [Int.toNat_natCast]
    rw [List.getElem?_eq_getElem (by rw [f.alphaLen]; omega)]
    unfold alpha93
    rw [getD_eq_getElem _ _ _ (by rw [f.alphaLen]; omega)]
  rw [hal]
  simp only [List.getElem_map]
  have : syms[pos] = CheckDigit.c93Check wm (syms.take pos) := by
    rw [← hck, getD_eq_getElem _ _ _ hp]
  rw [this]
  simp

theorem pair93_escape (c n d : Nat) (hc : isShift93 c = true) (h : pair93 c n = .ok d) :
    OneDPost.c93Escape c n = some d := by
  simp only [isShift93, Bool.and_eq_true, decide_eq_true_eq] at hc
  have hc' : c = 97 ∨ c = 98 ∨ c = 99 ∨ c = 100 := by omega
  rcases hc' with rfl | rfl | rfl | rfl <;>
    simp only [pair93, OneDPost.c93Escape, OneDPost.inRange] at h ⊢ <;> grind

theorem shift93_eq (c : Nat) : OneDPost.c93IsShift c = isShift93 c := by
  simp [OneDPost.c93IsShift, OneDPost.inRange, isShift93]

/-- the reader's `decodeExtended` (accumulator style) undoes what the symbol-level unescaping undoes; by the case
    analysis of `code93Unescape` -/
theorem c93Ext_of_unescape (l : List Nat) : ∀ (r acc : List Nat), code93Unescape l = .ok r →
    OneDPost.c93Ext l acc = .ok (acc.reverse ++ r) := by
  fun_induction code93Unescape l with
  | case1 => intro r acc h; cases h; simp [OneDPost.c93Ext]
  | case2 c hs => intro r acc h; cases h
  | case3 c hs =>
    intro r acc h; cases h
    simp [OneDPost.c93Ext, shift93_eq, hs]
  | case4 c n rest hs d hp ih =>
    intro r acc h
    cases hr : code93Unescape rest with
    | error e => rw [hr] at h; cases h
    | ok r' =>
      rw [hr] at h; cases h
      simp [OneDPost.c93Ext, shift93_eq, hs, pair93_escape c n d hs hp, ih r' (d :: acc) hr]
  | case5 c n rest hs e hp => intro r acc h; cases h
  | case6 c n rest hs ih =>
    intro r acc h
    cases hr : code93Unescape (n :: rest) with
    | error e => rw [hr] at h; cases h
    | ok r' =>
      rw [hr] at h; cases h
      simp [OneDPost.c93Ext, shift93_eq, hs, ih r' (c :: acc) hr]

/-! ## what the writer draws, as one run list -/

def runs93u (T : Tables) (idx : List Nat) : List Nat := (idx.map (fun i => r93 (enc93 T i))).flatten

theorem runs93u_scale (T : Tables) (s : Nat) (idx : List Nat) : (runs93u T idx).map (s * ·) = runs93 T s idx := by
  simp [runs93u, runs93, List.map_flatten, List.map_map, Function.comp_def]

theorem runs93_facts (T : Tables) (f : WF93Facts T) (s : Nat) (hs : 0 < s) : ∀ (idx : List Nat), (∀ i ∈ idx, i < 48) →
    (runs93 T s idx).length = 6 * idx.length ∧ sumL (runs93 T s idx) = 9 * s * idx.length ∧
      (∀ w ∈ runs93 T s idx, 0 < w)
  | [], _ => by simp [runs93, sumL_nil]
  | i :: idx, h => by
    obtain ⟨h1, h2, h3⟩ := runs93_facts T f s hs idx (fun j hj => h j (by simp [hj]))
    have hi := h i (by simp)
    obtain ⟨hl, hp, _, _⟩ := f.word i hi
    rw [runs93_cons]
    refine ⟨by simp [hl, h1]; omega, ?_, ?_⟩
    · rw [sumL_append, sumL_scale, r93_sum T f i hi, h2, List.length_cons]
      have e : 9 * s * (idx.length + 1) = 9 * s * idx.length + 9 * s := Nat.mul_succ _ _
      rw [e]; omega
    · intro w hw
      rcases List.mem_append.mp hw with e | e
      · exact scale_pos s hs _ hp w e
      · exact h3 w e

/-- the run widths of a whole Code 93 symbol: start, characters, stop, termination bar -/
def symbol93 (T : Tables) (syms : List Nat) : List Nat :=
  r93 (enc93 T 47) ++ (runs93u T syms ++ (r93 (enc93 T 47) ++ [1]))

theorem code93Draw_runs (T : Tables) (f : WF93Facts T) (syms : List Nat) (h : ∀ i ∈ syms, i < 48) :
    code93Draw T syms = .ok (appendPattern (symbol93 T syms) true) := by
  unfold code93Draw
  have hstar : nth T.code93Enc 47 = .ok (enc93 T 47) := by
    rw [nth_ok _ 47 (by rw [f.encLen]; omega)]
    unfold enc93; rw [getD_eq_getElem _ _ _ (by rw [f.encLen]; omega)]
  have hchars : syms.mapM (fun i => do let e ← nth T.code93Enc i; pure (bitsMSB 9 e)) =
      .ok (syms.map (fun i => bitsMSB 9 (enc93 T i))) := by
    apply mapM_ok
    intro i hi
    have := h i hi
    rw [nth_ok _ i (by rw [f.encLen]; exact this)]
    unfold enc93; rw [getD_eq_getElem _ _ _ (by rw [f.encLen]; exact this)]
    rfl
  rw [hstar, ok_bind, hchars, ok_bind]
  show Except.ok _ = Except.ok _
  congr 1
  have hw47 := f.word 47 (by omega)
  have hflat : (syms.map (fun i => bitsMSB 9 (enc93 T i))).flatten = appendPattern (runs93u T syms) true := by
    unfold runs93u
    rw [← flatten_map_appendPattern _ true (by
      intro p hp
      obtain ⟨i, hi, rfl⟩ := List.mem_map.mp hp
      rw [(f.word i (h i hi)).1])]
    rw [List.map_map]
    congr 1
    apply List.map_congr_left
    intro i hi
    exact ((f.word i (h i hi)).2.2.1).symm
  have hlenu : (runs93u T syms).length % 2 = 0 := by
    have := (runs93_facts T f 1 (by omega) syms h).1
    rw [← runs93u_scale] at this
    simp at this; omega
  unfold symbol93
  rw [hflat, ← hw47.2.2.1]
  rw [← appendPattern_even_append _ _ _ (by rw [hw47.1]), ← appendPattern_even_append _ _ _ hlenu,
    ← appendPattern_even_append _ _ _ (by rw [hw47.1])]
  simp [appendPattern, List.append_assoc]

theorem escape93_1_no_star (c : Nat) (l : List Nat) (h : code93Escape1 c = .ok l) : 42 ∉ l := by
  unfold code93Escape1 at h
  grind (splits := 30)

theorem escape93_no_star : ∀ (cs e : List Nat), code93Escape cs = .ok e → 42 ∉ e
  | [], e, h => by cases h; simp
  | c :: cs, e, h => by
    simp only [code93Escape, bind, Except.bind] at h
    split at h
    · cases h
    · rename_i e1 h1
      split at h
      · cases h
      · rename_i e2 h2
        simp only [pure, Except.pure] at h
        cases h
        intro hm
        rcases List.mem_append.mp hm with x | x
        · exact escape93_1_no_star c e1 h1 x
        · exact escape93_no_star cs e2 h2 x

/-! ## DecodeRow on a drawn row -/

theorem symbol93_scaled (T : Tables) (s : Nat) (syms : List Nat) :
    (symbol93 T syms).map (s * ·) =
      (r93 (enc93 T 47)).map (s * ·) ++ (runs93 T s syms ++ ((r93 (enc93 T 47)).map (s * ·) ++ [s * 1])) := by
  simp [symbol93, runs93u_scale]

/-- everything `code93Reader.DecodeRow` does before the check characters, on a row that shows (from pixel `lq`
    on, after white pixels only) the symbol characters `syms` between start and stop at `s` pixels per module -/
theorem c93DecodeRow_core (T : Tables) (f : WF93Facts T) (s : Nat) (hs : 0 < s) (syms : List Nat)
    (hsyms : ∀ i ∈ syms, i < 47) (row : List Bool) (lq rq : Nat)
    (hrow : RowAt row lq ((symbol93 T syms).map (s * ·) ++ tailQ rq) true) (hoff : getNextSet row 0 = lq) :
    c93DecodeRow T row =
      match c93Finish T.code93Alphabet (syms.map (alpha93 T)) with
      | .error e => .error e
      | .ok text => .ok ⟨text, 2 * lq + 9 * s, 2 * (lq + 9 * s + 9 * s * syms.length) + 9 * s⟩ := by
  have hsyms48 : ∀ i ∈ syms, i < 48 := fun i hi => by have := hsyms i hi; omega
  obtain ⟨hrl, hrs, _⟩ := runs93_facts T f s hs syms hsyms48
  -- every character: six runs, classified as its table entry at every scale
  have hcl : ∀ i, i < 48 → ((r93 (enc93 T i)).map (s * ·)).length = 6 ∧
      classify93 T ((r93 (enc93 T i)).map (s * ·)) = .ok (alpha93 T i) := by
    intro i hi
    obtain ⟨hl, _, _, hp⟩ := f.word i hi
    exact ⟨by simp [hl], by unfold classify93; rw [c93Pattern_scale s hs, hp]; exact c93Char_at T f i hi⟩
  have hsum47 : sumL ((r93 (enc93 T 47)).map (s * ·)) = 9 * s := by
    rw [sumL_scale, r93_sum T f 47 (by omega), Nat.mul_comm]
  have hruns : ((syms.map (fun i => ((r93 (enc93 T i)).map (s * ·), alpha93 T i))).map
      (fun g => g.1 ++ [])).flatten = runs93 T s syms := by
    simp [runs93, List.map_map, Function.comp_def]
  rw [symbol93_scaled] at hrow
  obtain ⟨hfind, hskip, hloop⟩ := starScan_at (row := row) (lq := lq) 6 (by omega) (c93Accept (enc93 T 47))
    (classify93 T) [] (by simp) (by simp) ((r93 (enc93 T 47)).map (s * ·)) (hcl 47 (by omega)).1
    (by rw [(hcl 47 (by omega)).2, alpha93_star T f])
    (syms.map (fun i => ((r93 (enc93 T i)).map (s * ·), alpha93 T i)))
    (by
      intro g hg
      obtain ⟨i, hi, rfl⟩ := List.mem_map.mp hg
      exact ⟨(hcl i (hsyms48 i hi)).1, (hcl i (hsyms48 i hi)).2, alpha93_ne_star T f i (hsyms i hi)⟩)
    (s * 1 :: tailQ rq) (by rw [hruns]; simpa [List.append_assoc] using hrow)
    (by
      unfold c93Accept
      rw [c93Pattern_scale s hs, (f.word 47 (by omega)).2.2.2]
      simp)
  rw [hruns, hrs, hsum47] at hloop
  simp only [sumL_nil, Nat.add_zero, hsum47, List.map_map, Function.comp_def] at hfind hskip hloop
  -- the termination bar follows the stop character
  have hbar : RowAt row (lq + 9 * s + 9 * s * syms.length + 9 * s) (s * 1 :: tailQ rq) true := by
    have h' : RowAt row lq (((r93 (enc93 T 47)).map (s * ·) ++ (runs93 T s syms ++ (r93 (enc93 T 47)).map (s * ·))) ++
        (s * 1 :: tailQ rq)) true := by
      simpa [List.append_assoc] using hrow
    have := h'.advance_even _ _ (by simp only [List.length_append, (hcl 47 (by omega)).1, hrl]; omega)
    simp only [sumL_append, hrs, hsum47] at this
    rw [show lq + (9 * s + (9 * s * syms.length + 9 * s)) = lq + 9 * s + 9 * s * syms.length + 9 * s by omega] at this
    exact this
  have hlt : lq + 9 * s + 9 * s * syms.length + 9 * s ≠ row.length := by
    have := hbar.lt (by simp)
    omega
  unfold c93DecodeRow c93FindAsterisk
  rw [nth_ok _ 47 (by rw [f.encLen]; omega)]
  have he47 : T.code93Enc[47]'(by rw [f.encLen]; omega) = enc93 T 47 := by
    unfold enc93; rw [getD_eq_getElem _ _ _ (by rw [f.encLen]; omega)]
  simp only [he47, hoff, hfind, hskip, c93Loop_eq, hloop, getNextSet_at hbar, hlt, if_false, rowGet_at hbar, Except.map,
    Bool.not_true]
  rw [show lq + (lq + 9 * s) = 2 * lq + 9 * s by omega]
  cases c93Finish T.code93Alphabet (List.map (alpha93 T) syms) <;> rfl

theorem c93Check_lt (wm : Nat) (vals : List Nat) : CheckDigit.c93Check wm vals < 47 := by
  unfold CheckDigit.c93Check; exact Nat.mod_lt _ (by omega)

/-- the characters the writer's symbols (data, C, K) stand for pass `checkChecksums` and unescape to the content -/
theorem c93Finish_written (T : Tables) (f : WF93Facts T) (vals : List Nat) (hv : ∀ i ∈ vals, i < 48)
    (contents : List Nat) (hun : code93Unescape (vals.map (alpha93 T)) = .ok contents) :
    c93Finish T.code93Alphabet ((vals ++ [(CheckDigit.c93Checks vals).1, (CheckDigit.c93Checks vals).2]).map (alpha93 T))
      = .ok contents := by
  have hc : (CheckDigit.c93Checks vals).1 = CheckDigit.c93Check 20 vals := rfl
  have hk : (CheckDigit.c93Checks vals).2 = CheckDigit.c93Check 15 (vals ++ [CheckDigit.c93Check 20 vals]) := rfl
  rw [hc, hk]
  generalize hcv : CheckDigit.c93Check 20 vals = c
  generalize hkv : CheckDigit.c93Check 15 (vals ++ [c]) = k
  have hclt : c < 47 := by rw [← hcv]; exact c93Check_lt _ _
  have hklt : k < 47 := by rw [← hkv]; exact c93Check_lt _ _
  have hall : ∀ i ∈ vals ++ [c, k], i < 48 := by
    intro i hi
    rcases List.mem_append.mp hi with e | e
    · exact hv i e
    · simp at e; omega
  have hlen : (vals ++ [c, k]).length = vals.length + 2 := by simp
  have h1 := c93CheckOne_written T f (vals ++ [c, k]) hall vals.length 20 (by omega) (by
    rw [List.take_left' rfl, hcv]
    simp [List.getD_eq_getElem?_getD])
  have h2 := c93CheckOne_written T f (vals ++ [c, k]) hall (vals.length + 1) 15 (by omega) (by
    have : (vals ++ [c, k]).take (vals.length + 1) = vals ++ [c] := by
      rw [show vals ++ [c, k] = (vals ++ [c]) ++ [k] by simp, List.take_left' (by simp)]
    rw [this, hkv]
    simp [List.getD_eq_getElem?_getD])
  unfold c93Finish
  have hl2 : ¬ ((vals ++ [c, k]).map (alpha93 T)).length < 2 := by simp
  rw [if_neg hl2]
  have e1 : ((vals ++ [c, k]).map (alpha93 T)).length - 2 = vals.length := by simp
  have e2 : ((vals ++ [c, k]).map (alpha93 T)).length - 1 = vals.length + 1 := by simp
  rw [e1, e2, h1]
  simp only [h2]
  have e3 : ((vals ++ [c, k]).map (alpha93 T)).take vals.length = vals.map (alpha93 T) := by
    rw [List.map_append, List.take_left' (by simp)]
  rw [e3, c93Ext_of_unescape _ _ [] hun]
  simp

theorem WF93Row_ref : WF93Row refTables = true := by decide +kernel

end Gzx.Row39
