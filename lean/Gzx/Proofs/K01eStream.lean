/-
  `readBits_val`, the cursor side of `readBits_refines` (Obligations/K01eStream.lean): a successful
  `BitSource.readBits s n` returns the big-endian number of the next `n` bits of `unread s` and moves the cursor by `n`,
  which is what the bit-list model (`QRDec.readBits`) computes.  Proofs/K01eStreamBits.lean has the statement of intent
  and the list lemmas.  `unread s` (the bits of the buffer from the cursor on: the state of the bit-list model) and `Bytes s`
  (all elements below 256) are defined here; the statements of Obligations/K01eStream.lean and K01eBuf.lean are about them.
-/
import Gzx.Proofs.K01eStreamBits
namespace Gzx.BitSource
open Gzx.QRDec (natOfBits natToBits bytesToBits natToBits_length)

def Bytes (s : BitSource) : Prop := ∀ b ∈ s.bytes, b < 256

theorem byteAt_drop (s : BitSource) (off : Nat) (h : off < s.bytes.length) :
    ∃ b, byteAt s off = .ok b ∧ s.bytes.drop off = b :: s.bytes.drop (off + 1) ∧ b ∈ s.bytes := by
  refine ⟨s.bytes[off], ?_, ?_, List.getElem_mem h⟩
  · unfold byteAt; rw [List.getElem?_eq_getElem h]
  · rw [List.drop_eq_getElem_cons h]

theorem shl_or_eq (a x m : Nat) (hx : x < 2 ^ m) : (a <<< m) ||| x = a * 2 ^ m + x := by
  rw [← Nat.shiftLeft_add_eq_or_of_lt hx a, Nat.shiftLeft_eq]

/-- the whole-byte loop: the accumulator is extended by the bits of the next `k` bytes -/
theorem readWhole_val (s : BitSource) (hb : Bytes s) :
    ∀ (k off acc : Nat), off + k ≤ s.bytes.length →
      readWhole s k off acc =
        .ok (acc * 2 ^ (8 * k) + natOfBits (bytesToBits ((s.bytes.drop off).take k)), off + k) := by
  intro k
  induction k with
  | zero => intro off acc _; simp [readWhole, bytesToBits, natOfBits]
  | succ k ih =>
    intro off acc hlen
    obtain ⟨b, hbyte, hdrop, hmem⟩ := byteAt_drop s off (by omega)
    have hb8 : b < 256 := hb b hmem
    have hand : b &&& 0xFF = b := (Nat.and_two_pow_sub_one_eq_mod b 8).trans (Nat.mod_eq_of_lt hb8)
    simp only [readWhole, hbyte, hand]
    rw [ih (off + 1) _ (by omega), hdrop, List.take_succ_cons, bytesToBits_cons, natOfBits_append_lists,
      QRDec.natOfBits_natToBits 8 b hb8, bytesToBits_length, shl_or_eq acc b 8 (by omega)]
    have hl : ((s.bytes.drop (off + 1)).take k).length = k := by
      rw [List.length_take, List.length_drop]; omega
    have e : 2 ^ (8 * (k + 1)) = 2 ^ 8 * 2 ^ (8 * k) := by rw [← Nat.pow_add]; congr 1; omega
    rw [hl, e, Nat.add_mul, Nat.mul_assoc, Nat.add_assoc, Nat.add_assoc off 1 k, Nat.add_comm 1 k]

/-- phases 2 and 3 from a byte boundary: the accumulator is extended by the next `n1` bits of the buffer -/
theorem readRest_val (s : BitSource) (hb : Bytes s) (r n1 byo : Nat) (hav : 8 * byo + n1 ≤ 8 * s.bytes.length) :
    readRest s r n1 byo 0 =
      .ok (r * 2 ^ n1 + natOfBits ((bytesToBits (s.bytes.drop byo)).take n1),
        { s with byteOffset := byo + n1 / 8, bitOffset := n1 % 8 }) := by
  unfold readRest
  by_cases hn1 : n1 > 0
  · rw [if_pos hn1, readWhole_val s hb (n1 / 8) byo r (by omega)]
    simp only
    have hsplit : (bytesToBits (s.bytes.drop byo)).take n1 =
        bytesToBits ((s.bytes.drop byo).take (n1 / 8)) ++ ((bytesToBits (s.bytes.drop (byo + n1 / 8))).take (n1 % 8)) := by
      have e : n1 = 8 * (n1 / 8) + n1 % 8 := by omega
      conv => lhs; rw [e, List.take_add, bytesToBits_take, bytesToBits_drop, List.drop_drop]
    have hpow : 2 ^ n1 = 2 ^ (8 * (n1 / 8)) * 2 ^ (n1 % 8) := by rw [← Nat.pow_add]; congr 1; omega
    by_cases hn2 : n1 % 8 > 0
    · rw [if_pos hn2]
      obtain ⟨b, hbyte, hdrop, _⟩ := byteAt_drop s (byo + n1 / 8) (by omega)
      simp only [hbyte, Nat.zero_add]
      congr 2
      have hx : (b >>> (8 - n1 % 8)) % 2 ^ (n1 % 8) < 2 ^ (n1 % 8) := Nat.mod_lt _ (Nat.two_pow_pos _)
      have htk : ((bytesToBits (s.bytes.drop (byo + n1 / 8))).take (n1 % 8)) = ((natToBits 8 b).drop 0).take (n1 % 8) := by
        rw [hdrop, bytesToBits_cons, List.take_append_of_le_length (by rw [natToBits_length]; omega), List.drop_zero]
      have hsl := natToBits_slice 8 b 0 (n1 % 8) (by omega)
      have hlen : (((natToBits 8 b).drop 0).take (n1 % 8)).length = n1 % 8 := by
        rw [List.drop_zero, List.length_take, natToBits_length]; omega
      rw [shl_or_eq _ _ _ hx, hsplit, natOfBits_append_lists, htk, hlen, hsl, hpow]
      simp only [Nat.sub_zero]
      rw [Nat.add_mul, Nat.mul_assoc, Nat.add_assoc]
    · rw [if_neg hn2]
      have h0 : n1 % 8 = 0 := by omega
      rw [hsplit, hpow, h0, List.take_zero, List.append_nil]
      simp
  · rw [if_neg hn1]
    obtain rfl : n1 = 0 := by omega
    simp [natOfBits]

/-- the bits of the buffer from the cursor on: the state of the bit-list model -/
def unread (s : BitSource) : List Bool := (bytesToBits s.bytes).drop (position s)

theorem unread_length (s : BitSource) : (unread s).length = 8 * s.bytes.length - position s := by
  unfold unread; rw [List.length_drop, bytesToBits_length]

theorem unread_split (s : BitSource) (hbo : s.bitOffset ≤ 8) (hlt : s.byteOffset < s.bytes.length) :
    ∃ b, byteAt s s.byteOffset = .ok b ∧
      unread s = (natToBits 8 b).drop s.bitOffset ++ bytesToBits (s.bytes.drop (s.byteOffset + 1)) := by
  obtain ⟨b, hbyte, hdrop, _⟩ := byteAt_drop s s.byteOffset hlt
  refine ⟨b, hbyte, ?_⟩
  unfold unread position
  rw [← List.drop_drop, bytesToBits_drop, hdrop, bytesToBits_cons,
    List.drop_append_of_le_length (by rw [natToBits_length]; exact hbo)]

theorem readBits_val (s : BitSource) (hs : WF s) (hb : Bytes s) (n : Nat) (h1 : 1 ≤ n) (h32 : n ≤ 32)
    (hav : (n : Int) ≤ available s) :
    ∃ s', readBits s (n : Int) = .ok (natOfBits ((unread s).take n), s') ∧ position s' = position s + n ∧
      s'.bytes = s.bytes := by
  obtain ⟨h8, hle, hlt⟩ := hs
  have hav' : 8 * s.byteOffset + s.bitOffset + n ≤ 8 * s.bytes.length := by unfold available at hav; omega
  unfold readBits
  rw [if_neg (by omega), Int.toNat_natCast]
  unfold readFirst
  by_cases hbio : s.bitOffset > 0
  · rw [if_pos hbio]
    have hlen := hlt hbio
    obtain ⟨b, hbyte, hun⟩ := unread_split s (by omega) hlen
    simp only [hbyte]
    have hA : ((natToBits 8 b).drop s.bitOffset).length = 8 - s.bitOffset := by
      rw [List.length_drop, natToBits_length]
    by_cases hsmall : n < 8 - s.bitOffset
    · have hne : ¬ (s.bitOffset + n = 8) := by omega
      simp only [hsmall, if_true, hne, if_false]
      have hz : ¬ (n - n > 0) := by omega
      unfold readRest
      rw [if_neg hz, hun, List.take_append_of_le_length (by rw [hA]; omega), natToBits_slice 8 b s.bitOffset n (by omega)]
      exact ⟨_, rfl, by simp only [position]; omega, rfl⟩
    · have he : s.bitOffset + (8 - s.bitOffset) = 8 := by omega
      simp only [hsmall, if_false, he, if_true]
      have hsl := natToBits_slice 8 b s.bitOffset (8 - s.bitOffset) (by omega)
      have hAll : ((natToBits 8 b).drop s.bitOffset).take (8 - s.bitOffset) = (natToBits 8 b).drop s.bitOffset :=
        List.take_of_length_le (Nat.le_of_eq hA)
      rw [hAll] at hsl
      have hlen2 : ((bytesToBits (s.bytes.drop (s.byteOffset + 1))).take (n - (8 - s.bitOffset))).length = n - (8 - s.bitOffset) := by
        rw [List.length_take, bytesToBits_length, List.length_drop]; omega
      have hT : ((natToBits 8 b).drop s.bitOffset).take n = (natToBits 8 b).drop s.bitOffset :=
        List.take_of_length_le (by rw [hA]; omega)
      rw [readRest_val s hb _ _ _ (by omega), hun, List.take_append, hT, hA, natOfBits_append_lists, hlen2, hsl]
      exact ⟨_, rfl, by simp only [position]; omega, rfl⟩
  · rw [if_neg hbio]
    have h0 : s.bitOffset = 0 := by omega
    have hu : unread s = bytesToBits (s.bytes.drop s.byteOffset) := by
      unfold unread position; rw [h0, Nat.add_zero, bytesToBits_drop]
    simp only
    rw [readRest_val s hb 0 n s.byteOffset (by omega), Nat.zero_mul, Nat.zero_add, hu]
    exact ⟨_, rfl, by simp only [position]; omega, rfl⟩

end Gzx.BitSource
