/-
  Lemmas for the kernel theorems of `Obligations/K04b*.lean` : the Reed-Solomon / GF polynomial
  code regenerated from /repo on every run (`Gzx.Gen.K04b`, value-passing target of the translator) against the
  hand-written model of `Model/GF.lean` + `Model/RS.lean`.  Stated on the translator's rendering of a Go construct (and so the
  lemmas to look at when the rendering changes): `tp1_ctl`, `andNot_ok`, `guardC`, `tryC_expE`.

  Conventions: a model value (`Nat`, `List Nat`) appears in regenerated code as `Int` / `List Int` through `Int.ofNat` /
  `ints`; a Go function with an `error` result renders a model result through `expE` (`(zero value, true)` for a checked
  failure, the fault itself for a panic or for exhausted fuel).

  How a kernel theorem goes: the generated loops are carried to loops on model states by the rules of Proofs/GoMLoop.lean
  (`Ctl.map R`, `foldIdx`, `whileLoop_map_inv'`); a loop body is shown to be `(stepE D m).map R` for the model's round `m`
  by one rule per call of the Go source (`bindP`, `bindE`, …, fed with the callee's kernel theorem); the model's own fuel
  loops are instances of `whileX`, which a `for cond` loop of such rounds runs (`whileLoop_whileX`).
-/
import Gzx.GoMV
import Gzx.Proofs.GoMTie
import Gzx.Proofs.GoMLoop
import Gzx.Proofs.GoMV
import Gzx.Model.RS
import Gzx.Proofs.Poly
namespace Gzx.K04bTie
open Gzx Gzx.GoM Gzx.GoVal Gzx.RS

/-- Go `[]int` contents of a model coefficient list / table -/
abbrev ints (l : List Nat) : List Int := l.map Int.ofNat

/-- how a Go function `(T, error)` renders a model result: value and `nil`, or zero value and a non-nil error for a
    checked failure; a panic (and exhausted fuel) is the fault itself -/
def expE {α β : Type} (dflt : α) (emb : β → α) : Res β → Res (α × Bool)
  | .ok b => .ok (emb b, false)
  | .error (.panic w) => .error (.panic w)
  | .error .fuel => .error .fuel
  | .error _ => .ok (dflt, true)

@[simp] theorem expE_ok {α β : Type} (d : α) (emb : β → α) (b : β) : expE d emb (.ok b) = .ok (emb b, false) := rfl
@[simp] theorem expE_illegal {α β : Type} (d : α) (emb : β → α) : expE d emb (.error .illegalArg : Res β) = .ok (d, true) := rfl
@[simp] theorem expE_panic {α β : Type} (d : α) (emb : β → α) (w : String) :
    expE d emb (.error (.panic w) : Res β) = .error (.panic w) := rfl

/-- the only way the model's field / polynomial operations fail: a Go panic or the checked `IllegalArgumentException` -/
def PanicOrArg (e : Fault) : Prop := (∃ w, e = .panic w) ∨ e = .illegalArg

/-! ### checked reads of a model table -/

theorem idx_arr (t : Array Nat) (e : Int) (n : Nat) (h : e = n) :
    GoM.idx (ints t.toList) e = (GF.idx t n).map Int.ofNat := by
  rw [idx_nats _ _ n h]
  unfold GF.idx
  rw [Array.getElem?_toList]
  cases t[n]? <;> rfl

theorem gomod_cast (x y : Nat) (hy : y ≠ 0) (e1 e2 : Int) (h1 : e1 = x) (h2 : e2 = y) :
    GoM.mod e1 e2 = .ok ((x % y : Nat) : Int) := by
  unfold GoM.mod
  have : ¬ e2 = 0 := by omega
  rw [if_neg this, tmod_of_eq x y e1 e2 h1 h2]

/-! ### control values over model states -/

variable {σ ρ τ : Type}

/-- the same function as `Ctl.map` (`mapS_eq`), which the lemmas below and the loop rules use -/
def mapS (R : τ → σ) : Ctl τ ρ → Ctl σ ρ
  | .next t => .next (R t)
  | .brk t => .brk (R t)
  | .ret r => .ret r
  | .panic f => .panic f

theorem mapS_eq (R : τ → σ) (c : Ctl τ ρ) : mapS R c = c.map R := by cases c <;> rfl

@[simp] theorem mapS_next (R : τ → σ) (t : τ) : mapS R (.next t : Ctl τ ρ) = .next (R t) := rfl
@[simp] theorem mapS_brk (R : τ → σ) (t : τ) : mapS R (.brk t : Ctl τ ρ) = .brk (R t) := rfl
@[simp] theorem mapS_ret (R : τ → σ) (r : ρ) : mapS R (.ret r : Ctl τ ρ) = .ret r := rfl
@[simp] theorem mapS_panic (R : τ → σ) (f : Fault) : mapS R (.panic f : Ctl τ ρ) = .panic f := rfl

theorem mapS_thenR (R : τ → σ) (c : Ctl τ ρ) (k : σ → Res ρ) : (mapS R c).thenR k = c.thenR (fun t => k (R t)) := by
  cases c <;> rfl

/-- the same function as `ofRes` (Proofs/GoMLoop.lean), which the lemmas below and the loop rules use -/
def stepC : Res τ → Ctl τ ρ
  | .ok t => .next t
  | .error f => .panic f

@[simp] theorem stepC_ok (t : τ) : (stepC (.ok t) : Ctl τ ρ) = .next t := rfl
@[simp] theorem stepC_error (f : Fault) : (stepC (.error f : Res τ) : Ctl τ ρ) = .panic f := rfl

theorem setWord_mid (pre : List Nat) (x m : Nat) (rest : List Nat) :
    Bits.setWord (pre ++ x :: rest) pre.length m = .ok (pre ++ [m] ++ rest) := by
  unfold Bits.setWord
  rw [if_pos (by simp), List.set_append_right _ _ (Nat.le_refl _), Nat.sub_self, List.set_cons_zero, List.append_assoc]
  rfl

/-! ### faults of the model's field operations are panics -/

/-- a Go panic (not a checked error, not exhausted fuel) -/
def IsPanic (e : Fault) : Prop := ∃ w, e = .panic w

theorem expE_of_panic {α β : Type} (d : α) (emb : β → α) {e : Fault} (h : IsPanic e) :
    expE d emb (.error e : Res β) = .error e := by
  obtain ⟨w, rfl⟩ := h; rfl

/-- a model computation that fails only by a Go panic -/
def Panics {β : Type} (r : Res β) : Prop := ∀ e, r = .error e → IsPanic e

theorem Panics.ok {β : Type} (b : β) : Panics (.ok b : Res β) := fun _ h => by cases h
theorem Panics.pure {β : Type} (b : β) : Panics (Pure.pure b : Res β) := fun _ h => by cases h
theorem Panics.panic {β : Type} (w : String) : Panics (.error (.panic w) : Res β) := fun _ h => by cases h; exact ⟨w, rfl⟩

theorem Panics.bind {α β : Type} {r : Res α} {k : α → Res β} (hr : Panics r) (hk : ∀ a, r = .ok a → Panics (k a)) :
    Panics (r >>= k) := by
  intro e h
  rcases bind_error h with h1 | ⟨a, ha, h2⟩
  · exact hr e h1
  · exact hk a ha e h2

theorem Panics.ite {β : Type} {c : Prop} [Decidable c] {a b : Res β} (ha : c → Panics a) (hb : ¬ c → Panics b) :
    Panics (if c then a else b) := by
  split
  · exact ha ‹_›
  · exact hb ‹_›

theorem Panics.mapM {f : Nat → Res Nat} (hf : ∀ x, Panics (f x)) : ∀ l : List Nat, Panics (l.mapM f)
  | [] => .pure _
  | x :: xs => by
    rw [List.mapM_cons]
    exact (hf x).bind fun _ _ => (Panics.mapM hf xs).bind fun _ _ => .pure _

theorem gfidx_panics (t : Array Nat) (i : Nat) : Panics (GF.idx t i) := by
  unfold GF.idx
  cases t[i]? with
  | some v => exact .ok _
  | none => exact .panic _

theorem mul_panics (F : GF.GF) (a b : Nat) : Panics (F.mul a b) := by
  unfold GF.GF.mul
  exact .ite (fun _ => .ok _) fun _ => (gfidx_panics _ _).bind fun _ _ => (gfidx_panics _ _).bind fun _ _ =>
    .ite (fun _ => .panic _) fun _ => gfidx_panics _ _

theorem getCoefficient_panics (p : Poly) (d : Nat) : Panics (getCoefficient p d) := by
  unfold getCoefficient
  refine .ite (fun _ => .panic _) fun _ => ?_
  cases p[p.length - 1 - d]? with
  | some v => exact .ok _
  | none => exact .panic _

theorem mkPoly_panics {cs : List Nat} (h : cs ≠ []) : Panics (mkPoly cs) := by
  unfold mkPoly
  cases cs with
  | nil => exact absurd rfl h
  | cons c cs => exact .ok _

/-! ### loops that fill a fresh slice -/

/-- `prod[i] = f(x)` for the `i`-th element `x` -/
def mapStep (f : Nat → Res Nat) (i x : Nat) (prod : List Nat) : Ctl (List Nat) ρ :=
  match f x with
  | .ok m => ofRes (Bits.setWord prod i m)
  | .error e => .panic e

theorem foldIdx_map (f : Nat → Res Nat) (tailLen : Nat) : ∀ (l pre : List Nat),
    foldIdx (ρ := ρ) (mapStep f) pre.length l (pre ++ List.replicate (l.length + tailLen) 0) =
      ofRes ((l.mapM f).map (fun ms => pre ++ ms ++ List.replicate tailLen 0)) := by
  intro l
  induction l with
  | nil => intro pre; simp [foldIdx, pure, Except.pure, Except.map]
  | cons x xs ih =>
    intro pre
    rw [List.mapM_cons]
    simp only [foldIdx, mapStep, bind, Except.bind]
    cases hx : f x with
    | error e => rfl
    | ok m =>
      rw [List.length_cons, show xs.length + 1 + tailLen = (xs.length + tailLen) + 1 by omega, List.replicate_succ]
      simp only [setWord_mid, ofRes_ok]
      have := ih (pre ++ [m])
      rw [List.length_append, List.length_singleton] at this
      rw [this]
      cases xs.mapM f with
      | error e => rfl
      | ok ms => simp [Except.map, pure, Except.pure]

/-! ### checked failures of callees inside loop bodies / at function level -/

/-- what a failing model call means for the enclosing Go function: a panic (or exhausted fuel) propagates, every other
    fault is the checked-error exit `c` of the caller -/
def failK {γ : Type} (c : γ) (lift : Fault → γ) : Fault → γ
  | .panic w => lift (.panic w)
  | .fuel => lift .fuel
  | _ => c

theorem failK_panic_of {γ : Type} {c : γ} {lift : Fault → γ} {e : Fault} (h : ∃ w, e = .panic w) : failK c lift e = lift e := by
  obtain ⟨w, rfl⟩ := h; rfl

theorem tryC_expE {α β : Type} (d : α) (emb : β → α) (r : Res β) (kT kF : α × Bool → Ctl σ ρ) :
    (tryC (expE d emb r) fun t => if t.2 = true then kT t else kF t) =
      match r with
      | .ok b => kF (emb b, false)
      | .error e => failK (kT (d, true)) Ctl.panic e := by
  cases r with
  | ok b => rfl
  | error e => cases e <;> rfl

/-- a model step with checked failures as the outcome of a loop body whose function returns `dflt` on a checked error -/
def stepE (dflt : ρ) : Res τ → Ctl τ ρ
  | .ok t => .next t
  | .error e => failK (.ret dflt) Ctl.panic e

@[simp] theorem stepE_ok (d : ρ) (t : τ) : stepE d (.ok t) = .next t := rfl

theorem stepE_next {d : ρ} {r : Res τ} {t : τ} (h : stepE d r = .next t) : r = .ok t := by
  cases r with
  | ok t' => cases h; rfl
  | error e => cases e <;> cases h

theorem Ctl.map_failK (R : τ → σ) (c : ρ) (e : Fault) :
    Ctl.map R (failK (Ctl.ret c) Ctl.panic e : Ctl τ ρ) = failK (Ctl.ret c) Ctl.panic e := by
  cases e <;> rfl

/-! ### rules for the judgement `c = (stepE D m).map R`

  "`c`, a piece of a Go loop body on states embedded by `R`, does what the model computation `m` does; a checked error leaves
  the function with `D`."  One rule per way a callee reports failure, fed with the callee's kernel theorem `hg`: a body lemma
  is then one `refine` per call of the Go source, in source order.  The names say where the call stands and how the callee
  fails:

    bind P …   callee without `error` result, `hg : g = r.map emb`, `Panics r`
    bind E …   callee with `error` result, `hg : g = expE d emb r`; `hT` is the caller's `if err != nil { return D }`
    … (none)   in a loop body:      `tryC g kG = (stepE D (r >>= k)).map R`
    … R        at function level:   `tryR g kG = retE D emb (r >>= k)`     (`retE`: how the function renders its model)
    … D …      the caller's model computes with the decoder's failure reasons (`DRes`, the callee lifted by `liftD`):
               `stepD` / `retD` for `stepE` / `retE`; these rules follow `failD` further down
    loopP, whileR, whileCD, whileRD   an inner loop already identified with a model computation (`ofRes m'` for a counted
               loop, `outC step m` for a `for cond` loop), then the rest of the body (`thenC`) or of the function (`thenR`)
    guardC, andNot_ok, tryC_thenC     the test of a `for cond` loop and two shapes of generated text around it -/

/-- call of a function without `error` result (kernel theorem `g = r.map emb`) -/
theorem bindP {α β : Type} {D : ρ} {R : τ → σ} {emb : β → α} {g : Res α} {r : Res β} {k : β → Res τ} {kG : α → Ctl σ ρ}
    (hg : g = r.map emb) (hp : Panics r) (hk : ∀ b, r = .ok b → kG (emb b) = Ctl.map R (stepE D (k b))) :
    tryC g kG = Ctl.map R (stepE D (r >>= k)) := by
  subst hg
  cases r with
  | ok b => exact hk b rfl
  | error e => obtain ⟨w, rfl⟩ := hp e rfl; rfl

/-- call of a function with an `error` result (kernel theorem `g = expE d emb r`); `hT` is the caller's
    `if err != nil { return D }` -/
theorem bindE {α β : Type} {D : ρ} {R : τ → σ} {d : α} {emb : β → α} {g : Res (α × Bool)} {r : Res β} {k : β → Res τ}
    {kG : α × Bool → Ctl σ ρ}
    (hg : g = expE d emb r) (hT : kG (d, true) = .ret D) (hk : ∀ b, r = .ok b → kG (emb b, false) = Ctl.map R (stepE D (k b))) :
    tryC g kG = Ctl.map R (stepE D (r >>= k)) := by
  subst hg
  cases r with
  | ok b => exact hk b rfl
  | error e => cases e <;> first | rfl | exact hT

theorem tryC_thenC {α σ' : Type} (g : Res α) (kG : α → Ctl σ' ρ) (k : σ' → Ctl σ ρ) :
    (tryC g kG).thenC k = tryC g fun a => (kG a).thenC k := by
  cases g <;> rfl

/-- an inner loop that has been identified with a model computation `m'` (panics only), and what follows it in the body -/
theorem loopP {σ' τ' : Type} {D : ρ} {R : τ → σ} {R' : τ' → σ'} {m' : Res τ'} {c : Ctl σ' ρ} {k : τ' → Res τ} {kG : σ' → Ctl σ ρ}
    (hc : c = Ctl.map R' (ofRes m')) (hp : Panics m') (hk : ∀ v, m' = .ok v → kG (R' v) = Ctl.map R (stepE D (k v))) :
    c.thenC kG = Ctl.map R (stepE D (m' >>= k)) := by
  subst hc
  cases m' with
  | ok v => exact hk v rfl
  | error e => obtain ⟨w, rfl⟩ := hp e rfl; rfl

/-- the test of a `for cond` loop: the condition computed without failure, then the round or `break` -/
theorem guardC {R : τ → σ} {gc : Res Bool} {c : Bool} {t : τ} {kT : Ctl σ ρ} {m : Ctl τ ρ}
    (hg : gc = .ok c) (hT : c = true → kT = Ctl.map R m) :
    (tryC gc fun b => if b = true then kT else .brk (R t)) = Ctl.map R (if c = true then m else .brk t) := by
  subst hg
  cases c with
  | true => simpa using hT rfl
  | false => rfl

/-- `x.GetDegree() >= y.GetDegree() && !x.IsZero()` as the translator renders the short-circuit -/
theorem andNot_ok {c : Bool} (c' : Bool) (h : c = c') {b : Bool} :
    (if c = true then (tryR (Except.ok b : Res Bool) fun z => Except.ok (!z)) else Except.ok false) =
      (.ok (c' && !b) : Res Bool) := by
  subst h; cases c <;> rfl

/-- how a Go function with an `error` result renders a model result (`expE` and its relatives are instances) -/
def retE {τ' : Type} (D : ρ) (emb : τ' → ρ) : Res τ' → Res ρ
  | .ok t => .ok (emb t)
  | .error e => failK (.ok D) Except.error e

theorem bindPR {α β τ' : Type} {D : ρ} {emb : τ' → ρ} {emb' : β → α} {g : Res α} {r : Res β} {k : β → Res τ'} {kG : α → Res ρ}
    (hg : g = r.map emb') (hp : Panics r) (hk : ∀ b, r = .ok b → kG (emb' b) = retE D emb (k b)) :
    tryR g kG = retE D emb (r >>= k) := by
  subst hg
  cases r with
  | ok b => exact hk b rfl
  | error e => obtain ⟨w, rfl⟩ := hp e rfl; rfl

theorem bindER {α β τ' : Type} {D : ρ} {emb : τ' → ρ} {d : α} {emb' : β → α} {g : Res (α × Bool)} {r : Res β} {k : β → Res τ'}
    {kG : α × Bool → Res ρ}
    (hg : g = expE d emb' r) (hT : kG (d, true) = .ok D) (hk : ∀ b, r = .ok b → kG (emb' b, false) = retE D emb (k b)) :
    tryR g kG = retE D emb (r >>= k) := by
  subst hg
  cases r with
  | ok b => exact hk b rfl
  | error e => cases e <;> first | rfl | exact hT

/-- how a `for cond` loop ends: the state it leaves with, or the exit of a failed round -/
def outC {ε : Type} (step : Except ε τ → Ctl τ ρ) : Except ε τ → Ctl τ ρ
  | .ok t => .brk t
  | .error e => step (.error e)

/-- a `for cond` loop that has been identified with a model loop `m`, and what follows it in the function -/
theorem whileR {τ' : Type} {D : ρ} {emb : τ' → ρ} {R : τ → σ} {m : Res τ} {kG : σ → Res ρ} {k : τ → Res τ'} {c : Ctl σ ρ}
    (hc : c = Ctl.map R (outC (stepE D) m)) (hk : ∀ t, m = .ok t → kG (R t) = retE D emb (k t)) :
    c.thenR kG = retE D emb (m >>= k) := by
  subst hc
  cases m with
  | ok t => exact hk t rfl
  | error e => cases e <;> rfl

/-! ### the model's fuel loops, and `for cond` loops that run them -/

/-- `for cond(t) { t = round(t) }` on `n` units of fuel: the shape of `divLoop`, `euclidDivLoop`, `euclidLoop` -/
def whileX {ε : Type} (fuelE : ε) (cond : τ → Bool) (round : τ → Except ε τ) : Nat → τ → Except ε τ
  | 0, _ => .error fuelE
  | n + 1, t => if cond t = true then round t >>= whileX fuelE cond round n else .ok t

/-- a control value that leaves the function -/
def Exits (c : Ctl τ ρ) : Prop := (∃ r, c = .ret r) ∨ ∃ f, c = .panic f

theorem failK_exits (D : ρ) (e : Fault) : Exits (failK (.ret D) Ctl.panic e : Ctl τ ρ) := by
  cases e <;> first | exact .inr ⟨_, rfl⟩ | exact .inl ⟨_, rfl⟩

/-- the Go loop `if cond t { round t, failures through step } else break` is the model loop on the same fuel -/
theorem whileLoop_whileX {ε : Type} (fuelE : ε) (cond : τ → Bool) (round : τ → Except ε τ) (step : Except ε τ → Ctl τ ρ)
    (hok : ∀ t, step (.ok t) = .next t) (hex : ∀ e, Exits (step (.error e))) (hfuel : step (.error fuelE) = .panic .fuel) :
    ∀ (n : Nat) (t : τ),
      whileLoop (fun t => if cond t = true then step (round t) else .brk t) n t = outC step (whileX fuelE cond round n t) := by
  intro n
  induction n with
  | zero => intro t; exact hfuel.symm
  | succ n ih =>
    intro t
    rw [whileLoop_succ, whileX]
    by_cases hc : cond t = true
    · rw [if_pos hc, if_pos hc]
      cases round t with
      | ok t' => rw [hok]; exact ih t'
      | error e => rcases hex e with ⟨r, h⟩ | ⟨f, h⟩ <;> (rw [h]; exact h.symm)
    · rw [if_neg hc, if_neg hc]; rfl

/-- a run that does not exhaust its fuel is not changed by more fuel, nor by a round that differs only where the first one
    runs out of (its own, inner) fuel -/
theorem whileX_congr {ε : Type} (fuelE : ε) (cond : τ → Bool) (round1 round2 : τ → Except ε τ) (Inv : τ → Prop)
    (h12 : ∀ t, Inv t → round1 t ≠ .error fuelE → round2 t = round1 t)
    (hinv : ∀ t t', Inv t → round1 t = .ok t' → Inv t') : ∀ (m n : Nat) (t : τ), m ≤ n → Inv t →
    whileX fuelE cond round1 m t ≠ .error fuelE → whileX fuelE cond round2 n t = whileX fuelE cond round1 m t := by
  intro m
  induction m with
  | zero => intro n t _ _ h; exact absurd rfl h
  | succ m ih =>
    intro n t hn ht hnf
    obtain ⟨n, rfl⟩ : ∃ k, n = k + 1 := ⟨n - 1, by omega⟩
    rw [whileX] at hnf ⊢
    rw [whileX]
    by_cases hc : cond t = true
    · rw [if_pos hc] at hnf ⊢
      rw [if_pos hc]
      have h1 : round1 t ≠ .error fuelE := by intro h; rw [h] at hnf; exact hnf rfl
      rw [h12 t ht h1]
      cases hr : round1 t with
      | error e => rfl
      | ok t' => rw [hr] at hnf; exact ih n t' (by omega) (hinv t t' ht hr) hnf
    · rw [if_neg hc, if_neg hc]

theorem whileX_mono {ε : Type} (fuelE : ε) (cond : τ → Bool) (round : τ → Except ε τ) (m n : Nat) (t : τ) (hmn : m ≤ n)
    (hnf : whileX fuelE cond round m t ≠ .error fuelE) : whileX fuelE cond round n t = whileX fuelE cond round m t :=
  whileX_congr fuelE cond round round (fun _ => True) (fun _ _ _ => rfl) (fun _ _ _ _ => trivial) m n t hmn trivial hnf

theorem whileX_inv {ε : Type} (fuelE : ε) (cond : τ → Bool) (round : τ → Except ε τ) (Inv : τ → Prop)
    (hr : ∀ t t', Inv t → round t = .ok t' → Inv t') : ∀ (n : Nat) (t t' : τ), Inv t →
    whileX fuelE cond round n t = .ok t' → Inv t' := by
  intro n
  induction n with
  | zero => intro t t' _ h; cases h
  | succ n ih =>
    intro t t' ht h
    rw [whileX] at h
    split at h
    · obtain ⟨t1, h1, h2⟩ := bind_ok h
      exact ih t1 t' (hr t t1 ht h1) h2
    · cases h; exact ht

/-! ### polynomials stay non-empty; which operations fail only by panic; lengths -/

theorem mkPoly_ne {cs v : List Nat} (h : mkPoly cs = .ok v) : v ≠ [] := by
  unfold mkPoly at h
  split at h
  · cases h
  · cases h; exact Proofs.Poly.normalize_ne_nil cs

theorem addOrSubtract_ne {p q v : List Nat} (hp : p ≠ []) (hq : q ≠ []) (h : addOrSubtract p q = .ok v) : v ≠ [] := by
  unfold addOrSubtract at h
  split at h
  · cases h; exact hq
  · split at h
    · cases h; exact hp
    · exact mkPoly_ne h

theorem buildMonomial_ne {d c : Nat} {v : List Nat} (h : buildMonomial d c = .ok v) : v ≠ [] := by
  unfold buildMonomial at h
  split at h
  · cases h; simp
  · exact mkPoly_ne h

theorem multiplyByMonomial_ne {F : GF.GF} {p v : List Nat} {d c : Nat} (h : multiplyByMonomial F p d c = .ok v) : v ≠ [] := by
  unfold multiplyByMonomial at h
  split at h
  · cases h; simp
  · obtain ⟨ms, -, h⟩ := bind_ok h
    exact mkPoly_ne h

theorem multiply_ne {F : GF.GF} {p q v : List Nat} (h : multiply F p q = .ok v) : v ≠ [] := by
  unfold multiply at h
  split at h
  · cases h; simp
  · obtain ⟨ms, -, h⟩ := bind_ok h
    exact mkPoly_ne h

theorem multiplyBy_ne {F : GF.GF} {p v : List Nat} {s : Nat} (hp : p ≠ []) (h : multiplyBy F p s = .ok v) : v ≠ [] := by
  unfold multiplyBy at h
  split at h
  · cases h; simp
  · split at h
    · cases h; exact hp
    · obtain ⟨ms, -, h⟩ := bind_ok h
      exact mkPoly_ne h

theorem multiplyBy_panics (F : GF.GF) {p : Poly} (hp : p ≠ []) (sc : Nat) : Panics (multiplyBy F p sc) := by
  unfold multiplyBy
  refine .ite (fun _ => .ok _) fun _ => .ite (fun _ => .ok _) fun _ =>
    (Panics.mapM (fun _ => mul_panics _ _ _) _).bind fun ms hm => mkPoly_panics ?_
  have hl := mapM_length _ _ hm
  have : 0 < p.length := List.length_pos_iff.mpr hp
  intro h; rw [h] at hl; simp at hl; omega

theorem multiplyByMonomial_panics (F : GF.GF) {p : Poly} (hp : p ≠ []) (d c : Nat) : Panics (multiplyByMonomial F p d c) := by
  unfold multiplyByMonomial
  refine .ite (fun _ => .ok _) fun _ => (Panics.mapM (fun _ => mul_panics _ _ _) _).bind fun ms hm => mkPoly_panics ?_
  have hl := mapM_length _ _ hm
  have : 0 < p.length := List.length_pos_iff.mpr hp
  intro h; have := congrArg List.length h
  simp only [List.length_append, List.length_replicate, List.length_nil] at this; omega

theorem multiplyByMonomial_length_le {F : GF.GF} {p v : Poly} {d c : Nat} (hp : p ≠ [])
    (h : multiplyByMonomial F p d c = .ok v) : v.length ≤ p.length + d := by
  have hpl : 0 < p.length := List.length_pos_iff.mpr hp
  unfold multiplyByMonomial at h
  split at h
  · cases h; simp; omega
  · obtain ⟨ms, hm, h⟩ := bind_ok h
    have hl := mapM_length _ _ hm
    have hne : ms ++ List.replicate d 0 ≠ [] := by
      intro h0; have := congrArg List.length h0; simp only [List.length_append, List.length_replicate, List.length_nil] at this; omega
    rw [Proofs.Poly.mkPoly_ok _ hne] at h
    cases h
    have := Proofs.Poly.normalize_length_le _ hne
    simp at this; omega

/-! ### the division loop of `GenericGFPoly.Divide` on model states -/

/-- embedding of a pair of polynomials -/
def ints2 (t : Poly × Poly) : List Int × List Int := (ints t.1, ints t.2)

/-- the calls of one round of `Divide`'s loop (state: quotient, remainder) -/
def divRound (F : GF.GF) (other : Poly) (inv : Nat) (st : Poly × Poly) : Res (Poly × Poly) := do
  let lead ← getCoefficient st.2 (degree st.2)
  let scale ← F.mul lead inv
  let term ← multiplyByMonomial F other (degree st.2 - degree other) scale
  let iq ← buildMonomial (degree st.2 - degree other) scale
  let q' ← addOrSubtract st.1 iq
  let r' ← addOrSubtract st.2 term
  pure (q', r')

/-- one round of `Divide`'s loop with its test; `D` is what the Go function returns on a checked error -/
def divStep (F : GF.GF) (other : Poly) (inv : Nat) (D : ρ) (st : Poly × Poly) : Ctl (Poly × Poly) ρ :=
  if degree st.2 ≥ degree other && !isZero st.2 then stepE D (divRound F other inv st) else .brk st

theorem divRound_ne {F : GF.GF} {other : Poly} {inv : Nat} {t t' : Poly × Poly}
    (ht : t.1 ≠ [] ∧ t.2 ≠ []) (h : divRound F other inv t = .ok t') : t'.1 ≠ [] ∧ t'.2 ≠ [] := by
  unfold divRound at h
  obtain ⟨lead, -, h⟩ := bind_ok h
  obtain ⟨scale, -, h⟩ := bind_ok h
  obtain ⟨term, h3, h⟩ := bind_ok h
  obtain ⟨iq, h4, h⟩ := bind_ok h
  obtain ⟨q', h5, h⟩ := bind_ok h
  obtain ⟨r', h6, h⟩ := bind_ok h
  cases h
  exact ⟨addOrSubtract_ne ht.1 (buildMonomial_ne h4) h5, addOrSubtract_ne ht.2 (multiplyByMonomial_ne h3) h6⟩

theorem divStep_inv {F : GF.GF} {other : Poly} {inv : Nat} {D : ρ} {t t' : Poly × Poly}
    (ht : t.1 ≠ [] ∧ t.2 ≠ []) (h : divStep F other inv D t = .next t') : t'.1 ≠ [] ∧ t'.2 ≠ [] := by
  unfold divStep at h
  split at h
  · exact divRound_ne ht (stepE_next h)
  · cases h

theorem divLoop_succ (F : GF.GF) (other : Poly) (inv : Nat) (m : Nat) (q r : Poly) :
    divLoop F other inv (m + 1) q r =
      if degree r ≥ degree other && !isZero r then divRound F other inv (q, r) >>= fun t => divLoop F other inv m t.1 t.2
      else .ok (q, r) := by
  rw [divLoop]
  split
  · simp only [divRound, bind_assoc, pure_bind]
  · rfl

theorem divLoop_eq (F : GF.GF) (other : Poly) (inv : Nat) : ∀ (m : Nat) (q r : Poly),
    divLoop F other inv m q r =
      whileX .fuel (fun st => decide (degree st.2 ≥ degree other) && !isZero st.2) (divRound F other inv) m (q, r) := by
  intro m
  induction m with
  | zero => intro q r; rfl
  | succ m ih =>
    intro q r
    rw [divLoop_succ, whileX]
    by_cases hc : (decide (degree r ≥ degree other) && !isZero r) = true
    · rw [if_pos hc, if_pos hc]
      congr 1; funext t; exact ih t.1 t.2
    · rw [if_neg hc, if_neg hc]

/-- the Go loop on model states is the model's `divLoop`, on any fuel above one that `divLoop` does not exhaust -/
theorem divStep_run (F : GF.GF) (other : Poly) (inv : Nat) (D : ρ) (m : Nat) (q r : Poly) (n : Nat) (hmn : m ≤ n)
    (hnf : divLoop F other inv m q r ≠ .error .fuel) :
    whileLoop (divStep F other inv D) n (q, r) = outC (stepE D) (divLoop F other inv m q r) := by
  rw [divLoop_eq] at hnf ⊢
  rw [← whileX_mono _ _ _ m n _ hmn hnf]
  exact whileLoop_whileX .fuel _ (divRound F other inv) (stepE D) (fun _ => rfl) (failK_exits D) rfl n (q, r)

/-! ### the double loop of `GenericGFPoly.Multiply` on model states -/

theorem addInto_length : ∀ (row acc : List Nat), (addInto row acc).length = max row.length acc.length
  | [], acc => by simp [addInto]
  | r :: rs, [] => by simp [addInto]
  | r :: rs, x :: xs => by simp [addInto, addInto_length rs xs]

theorem mulRaw_length (F : GF.GF) (b : List Nat) (hb : b ≠ []) : ∀ (a m : List Nat), mulRaw F a b = .ok m →
    m.length = a.length + b.length - 1 := by
  have hbl : 0 < b.length := List.length_pos_iff.mpr hb
  intro a
  induction a with
  | nil => intro m h; simp only [mulRaw] at h; cases h; simp
  | cons a0 as ih =>
    intro m h
    rw [mulRaw] at h
    obtain ⟨row, hrow, h⟩ := bind_ok h
    obtain ⟨rest, hrest, h⟩ := bind_ok h
    cases h
    rw [addInto_length, mapM_length _ _ hrow, List.length_cons, ih rest hrest]
    simp; omega

/-- xor-ing a row into the accumulator commutes with the later xor of the remaining rows -/
theorem zipWith_addInto : ∀ (row cur z : List Nat), cur.length = z.length →
    List.zipWith (· ^^^ ·) cur (addInto row z) = List.zipWith (· ^^^ ·) (addInto row cur) z
  | [], cur, z, _ => by simp [addInto]
  | r :: rs, [], z, h => by
    have : z = [] := List.eq_nil_of_length_eq_zero (by simpa using h.symm)
    subst this; simp [addInto]
  | r :: rs, x :: xs, [], h => by simp at h
  | r :: rs, x :: xs, y :: ys, h => by
    simp only [addInto, List.zipWith_cons_cons]
    rw [zipWith_addInto rs xs ys (by simpa using h)]
    congr 1
    rw [← Nat.xor_assoc, Nat.xor_comm x r]

theorem zipWith_zeros_right : ∀ (cur : List Nat), List.zipWith (· ^^^ ·) cur (List.replicate cur.length 0) = cur
  | [] => rfl
  | x :: xs => by simp [List.replicate_succ, zipWith_zeros_right xs]

/-- one step of the inner loop: `product[i+j] ^= a_i * b_j` -/
def mulInner (F : GF.GF) (ai i : Nat) (j y : Nat) (prod : List Nat) : Ctl (List Nat) ρ :=
  match prod[i + j]? with
  | none => .panic oob
  | some v =>
    match F.mul ai y with
    | .error e => .panic e
    | .ok m => ofRes (Bits.setWord prod (i + j) (v ^^^ m))

theorem foldIdx_mulInner (F : GF.GF) (ai i : Nat) : ∀ (bs pre cur : List Nat) (j : Nat), pre.length = i + j →
    bs.length ≤ cur.length →
    foldIdx (ρ := ρ) (mulInner F ai i) j bs (pre ++ cur) =
      match bs.mapM (fun bj => F.mul ai bj) with
      | .ok row => .next (pre ++ addInto row cur)
      | .error e => .panic e := by
  intro bs
  induction bs with
  | nil => intro pre cur j _ _; simp [foldIdx, pure, Except.pure, addInto]
  | cons y ys ih =>
    intro pre cur j hpre hlen
    cases cur with
    | nil => simp at hlen
    | cons x xs =>
      rw [List.mapM_cons]
      have hget : (pre ++ x :: xs)[i + j]? = some x := by
        rw [← hpre, List.getElem?_append_right (Nat.le_refl _), Nat.sub_self]; rfl
      simp only [foldIdx, mulInner, hget, bind, Except.bind]
      cases hm : F.mul ai y with
      | error e => rfl
      | ok m =>
        rw [← hpre]
        simp only [setWord_mid, ofRes_ok]
        rw [ih (pre ++ [x ^^^ m]) xs (j + 1) (by simp; omega) (by simpa using hlen)]
        cases ys.mapM (fun bj => F.mul ai bj) with
        | error e => rfl
        | ok row => simp [pure, Except.pure, addInto, Nat.xor_comm m x]

/-- one step of the outer loop: the whole row `a_i * b` is xor-ed into `product` at offset `i` -/
def mulOuter (F : GF.GF) (b : List Nat) (i x : Nat) (prod : List Nat) : Ctl (List Nat) ρ :=
  (foldIdx (ρ := ρ) (mulInner F x i) 0 b prod).thenC fun p => .next p

theorem foldIdx_mulOuter (F : GF.GF) (b : List Nat) (hb : b ≠ []) : ∀ (a pre cur : List Nat), cur.length = a.length + b.length - 1 →
    foldIdx (ρ := ρ) (mulOuter F b) pre.length a (pre ++ cur) =
      match mulRaw F a b with
      | .ok m => .next (pre ++ List.zipWith (· ^^^ ·) cur m)
      | .error e => .panic e := by
  have hbl : 0 < b.length := List.length_pos_iff.mpr hb
  intro a
  induction a with
  | nil =>
    intro pre cur hlen
    simp only [foldIdx, mulRaw]
    have : b.length - 1 = cur.length := by simp at hlen; omega
    rw [this, zipWith_zeros_right]
  | cons a0 as ih =>
    intro pre cur hlen
    simp only [foldIdx, mulOuter, mulRaw, bind, Except.bind]
    rw [foldIdx_mulInner F a0 pre.length b pre cur 0 rfl (by simp at hlen; omega)]
    cases hrow : b.mapM (fun bj => F.mul a0 bj) with
    | error e => rfl
    | ok row =>
      simp only [next_thenC]
      have hrl : row.length = b.length := mapM_length _ _ hrow
      have hal : (addInto row cur).length = cur.length := by
        rw [addInto_length, hrl]; simp at hlen; omega
      cases hacc : addInto row cur with
      | nil => rw [hacc] at hal; simp at hal hlen; omega
      | cons c0 ctl =>
        have := ih (pre ++ [c0]) ctl (by rw [hacc] at hal; simp at hal hlen; omega)
        rw [List.length_append, List.length_singleton, List.append_assoc, List.singleton_append] at this
        rw [this]
        cases hrest : mulRaw F as b with
        | error e => rfl
        | ok rest =>
          simp only []
          have hrestl := mulRaw_length F b hb as rest hrest
          rw [zipWith_addInto row cur (0 :: rest) (by simp [hrestl]; simp at hlen; omega), hacc]
          simp

theorem mulRaw_panics (F : GF.GF) (b : List Nat) : ∀ a, Panics (mulRaw F a b)
  | [] => by rw [mulRaw]; exact .ok _
  | a0 :: as => by
    rw [mulRaw]
    exact (Panics.mapM (fun _ => mul_panics _ _ _) _).bind fun _ _ => (mulRaw_panics F b as).bind fun _ _ => .ok _

theorem multiply_panics (F : GF.GF) {p q : Poly} (hp : p ≠ []) (hq : q ≠ []) : Panics (multiply F p q) := by
  unfold multiply
  refine .ite (fun _ => .ok _) fun _ => (mulRaw_panics F q p).bind fun m hm => mkPoly_panics ?_
  have hl := mulRaw_length F q hq p m hm
  have hpl : 0 < p.length := List.length_pos_iff.mpr hp
  have hql : 0 < q.length := List.length_pos_iff.mpr hq
  intro h; rw [h] at hl; simp at hl; omega

/-! ### the generator cache of `ReedSolomonEncoder.buildGenerator` -/

/-- one stage of the generator recursion: `g_d = g_{d-1} · (x + α^(d-1+base))` -/
def genStage (F : GF.GF) (d : Nat) (last : Poly) : Res Poly := do
  let e ← F.expAt (d - 1 + F.base)
  let f ← mkPoly [1, e]
  multiply F last f

theorem buildGenerator_succ (F : GF.GF) (d : Nat) :
    buildGenerator F (d + 1) = buildGenerator F d >>= fun g => genStage F (d + 1) g := by
  simp only [buildGenerator, genStage, Nat.add_sub_cancel]

theorem genStage_ne {F : GF.GF} {d : Nat} {last g : Poly} (h : genStage F d last = .ok g) : g ≠ [] := by
  unfold genStage at h
  obtain ⟨ev, -, h⟩ := bind_ok h
  obtain ⟨f, -, h⟩ := bind_ok h
  exact multiply_ne h

theorem buildGenerator_ne (F : GF.GF) : ∀ (d : Nat) (g : Poly), buildGenerator F d = .ok g → g ≠ [] := by
  intro d
  cases d with
  | zero => intro g h; simp only [buildGenerator] at h; cases h; simp
  | succ d =>
    intro g h
    rw [buildGenerator_succ] at h
    obtain ⟨g0, -, h⟩ := bind_ok h
    exact genStage_ne h

theorem buildGenerator_error_mono (F : GF.GF) {d : Nat} {e : Fault} (h : buildGenerator F d = .error e) :
    ∀ k, buildGenerator F (d + k) = .error e := by
  intro k
  induction k with
  | zero => exact h
  | succ k ih => rw [← Nat.add_assoc, buildGenerator_succ, ih]; rfl

/-- what the encoder's cache holds: generators 0, 1, … (at least g_0) -/
def CacheOK (F : GF.GF) (cache : List Poly) : Prop :=
  cache ≠ [] ∧ ∀ i (h : i < cache.length), buildGenerator F i = .ok cache[i]

/-- the cache of a fresh encoder (`NewReedSolomonEncoder`): g_0 = 1 only -/
theorem cacheOK_one (F : GF.GF) : CacheOK F [[1]] := by
  refine ⟨by simp, fun i hi => ?_⟩
  have : i = 0 := by simpa using hi
  subst this; rfl

/-- one round of the cache-filling loop (state: cache, last generator) -/
def cacheStep (F : GF.GF) (d : Nat) (st : List Poly × Poly) : Ctl (List Poly × Poly) ρ :=
  match genStage F d st.2 with
  | .ok g => .next (st.1 ++ [g], g)
  | .error e => .panic e

theorem cache_run (F : GF.GF) : ∀ (n s : Nat) (cache : List Poly) (last : Poly), 1 ≤ s → cache.length = s →
    (∀ i (h : i < cache.length), buildGenerator F i = .ok cache[i]) → buildGenerator F (s - 1) = .ok last → 1 ≤ n →
    match buildGenerator F (s + n - 1) with
    | .ok g => ∃ cache', foldIdx (ρ := ρ) (fun _ d t => cacheStep F d t) s (List.range' s n) (cache, last) = .next (cache', g) ∧
        cache'.length = s + n ∧ (∀ i (h : i < cache'.length), buildGenerator F i = .ok cache'[i])
    | .error e => foldIdx (ρ := ρ) (fun _ d t => cacheStep F d t) s (List.range' s n) (cache, last) = .panic e := by
  intro n
  induction n with
  | zero => intro s cache last _ _ _ _ h; omega
  | succ n ih =>
    intro s cache last hs hlen hc hlast _
    obtain ⟨s', rfl⟩ : ∃ k, s = k + 1 := ⟨s - 1, by omega⟩
    have hstage : buildGenerator F (s' + 1) = genStage F (s' + 1) last := by
      rw [buildGenerator_succ]; simp only [Nat.add_sub_cancel] at hlast; rw [hlast]; rfl
    simp only [List.range'_succ, foldIdx, cacheStep]
    cases hg : genStage F (s' + 1) last with
    | error e =>
      have := buildGenerator_error_mono F (hstage.trans hg) n
      rw [show s' + 1 + (n + 1) - 1 = s' + 1 + n by omega, this]
    | ok g =>
      simp only []
      have hbg : buildGenerator F (s' + 1) = .ok g := hstage.trans hg
      have hc' : ∀ i (h : i < (cache ++ [g]).length), buildGenerator F i = .ok (cache ++ [g])[i] := by
        intro i hi
        by_cases hlt : i < cache.length
        · rw [List.getElem_append_left hlt]; exact hc i hlt
        · have : i = s' + 1 := by simp at hi; omega
          subst this
          rw [List.getElem_append_right (by omega)]
          simp [hlen, hbg]
      by_cases hn : n = 0
      · subst hn
        simp only [List.range'_zero, foldIdx]
        rw [show s' + 1 + (0 + 1) - 1 = s' + 1 by omega, hbg]
        exact ⟨_, rfl, by simp [hlen], hc'⟩
      · have := ih (s' + 1 + 1) (cache ++ [g]) g (by omega) (by simp [hlen]) hc' (by simpa using hbg) (by omega)
        rw [show s' + 1 + 1 + n - 1 = s' + 1 + (n + 1) - 1 by omega] at this
        cases hfin : buildGenerator F (s' + 1 + (n + 1) - 1) with
        | error e => rw [hfin] at this; exact this
        | ok gg =>
          rw [hfin] at this
          obtain ⟨cache', h1, h2, h3⟩ := this
          exact ⟨cache', h1, by omega, h3⟩

theorem buildGenerator_panics (F : GF.GF) : ∀ d, Panics (buildGenerator F d)
  | 0 => by rw [buildGenerator]; exact .ok _
  | d + 1 => by
    rw [buildGenerator_succ]
    refine (buildGenerator_panics F d).bind fun g hg => ?_
    unfold genStage
    refine (gfidx_panics _ _).bind fun ev _ => ?_
    have hmk : mkPoly [1, ev] = .ok [1, ev] := by unfold mkPoly normalize; rfl
    rw [hmk]
    exact multiply_panics F (buildGenerator_ne F d g hg) (by simp)

/-! ### the tail of `ReedSolomonEncoder.Encode`: zero fill and copy of the remainder -/

/-- `for i := 0; i < n; i++ { toEncode[k+i] = 0 }` on model states -/
theorem fill_zero' (k : Nat) : ∀ (mid pre post : List Nat) (j : Nat), pre.length = k + j →
    foldIdx (ρ := ρ) (fun _ i t => ofRes (Bits.setWord t (k + i) 0)) j (List.range' j mid.length) (pre ++ mid ++ post) =
      .next (pre ++ List.replicate mid.length 0 ++ post) := by
  intro mid
  induction mid with
  | nil => intro pre post j _; simp [foldIdx]
  | cons m ms ih =>
    intro pre post j hpre
    simp only [List.length_cons, List.range'_succ, foldIdx]
    rw [← hpre, List.append_assoc, List.cons_append, setWord_mid, ofRes_ok, ← List.append_assoc]
    simp only []
    rw [ih (pre ++ [0]) post (j + 1) (by simp; omega)]
    simp [List.replicate_succ]

theorem fill_zero (k n : Nat) (te : List Nat) (h : k + n ≤ te.length) :
    foldIdx (ρ := ρ) (fun _ i t => ofRes (Bits.setWord t (k + i) 0)) 0 (List.range' 0 n) te =
      .next (te.take k ++ List.replicate n 0 ++ te.drop (k + n)) := by
  have hdec : te = te.take k ++ (te.drop k).take n ++ te.drop (k + n) := by
    rw [List.append_assoc, ← List.drop_drop, List.take_append_drop, List.take_append_drop]
  have hml : ((te.drop k).take n).length = n := by simp; omega
  have := fill_zero' (ρ := ρ) k ((te.drop k).take n) (te.take k) (te.drop (k + n)) 0 (by simp; omega)
  rw [hml, ← hdec] at this
  exact this

/-- `copy(dst[a:], src)` when `src` exactly fills the tail -/
theorem copySeg_tail (dst src : List Nat) (a : Nat) (e1 e2 : Int) (h1 : e1 = a) (h2 : e2 = dst.length) (ha : a ≤ dst.length)
    (hs : src.length = dst.length - a) :
    copySeg (ints dst) e1 e2 (ints src) = .ok (ints (dst.take a ++ src)) := by
  subst h1 h2
  unfold copySeg
  rw [if_pos (by simp []; omega)]
  congr 1
  simp only [Int.toNat_natCast, copyL, ints, List.length_map, List.length_take, List.length_drop]
  rw [show min (dst.length - a) (dst.length - a) = dst.length - a by omega, ← hs]
  have e1 : List.take src.length (List.map Int.ofNat src) = List.map Int.ofNat src := by
    rw [List.take_of_length_le (by simp)]
  have e2 : List.drop src.length (List.take src.length (List.drop a (List.map Int.ofNat dst))) = [] := by
    rw [List.drop_eq_nil_iff]; simp only [List.length_take, List.length_drop, List.length_map]; omega
  have e3 : List.drop dst.length (List.map Int.ofNat dst) = [] := by
    rw [List.drop_eq_nil_iff]; simp
  rw [e1, e2, e3, List.append_nil, List.append_nil, List.map_append, List.map_take]

theorem copySeg_neg (dst src : List Int) (e1 e2 : Int) (h : e1 < 0) :
    copySeg dst e1 e2 src = .error (.panic "slice bounds out of range") := by
  unfold copySeg
  rw [if_neg (by omega)]

theorem copyL_zeros (k : Nat) (te : List Nat) (h : k ≤ te.length) :
    copyL (words (List.replicate k 0)) (ints te) = ints (te.take k) := by
  unfold copyL
  simp only [words, ints, List.length_map, List.length_replicate, List.map_take]
  rw [List.drop_of_length_le (by simp; omega), List.append_nil]

/-! ### Forney's formula (`findErrorMagnitudes`) on model states -/

/-- the "plus one" of the source (`term | 1` for an even, `term & ^1` for an odd value) -/
def tp1 (t : Nat) : Nat := if t &&& 1 = 0 then t ||| 1 else t - 1

theorem tp1_eq_xor (t : Nat) : tp1 t = t ^^^ 1 := Proofs.GF2.termPlus1_eq t

theorem iand_neg2 (t : Nat) (h : ¬ t &&& 1 = 0) : GoVal.iand (t : Int) (-2) = ((t - 1 : Nat) : Int) := by
  have h1 : t % 2 = 1 := by rw [Nat.and_one_is_mod] at h; omega
  unfold GoVal.iand
  have e : (-(-2 : Int) - 1).toNat = 1 := by decide
  have ha : (t : Int) ≥ 0 := by omega
  have hb : ¬ ((-2 : Int) ≥ 0) := by decide
  rw [if_pos ha, if_neg hb, Int.toNat_natCast, e, Nat.and_one_is_mod, h1]
  show (t : Int) - ((1 : Nat) : Int) = _
  omega

/-- the source's two-branch form of "plus one", as a control value -/
theorem tp1_ctl (t : Nat) (k : Int → Ctl σ ρ) :
    (Ctl.thenC (σ' := Int) (if (GoVal.iand (t : Int) 1 == 0) = true then Ctl.next (GoVal.ior (t : Int) 1)
      else Ctl.next (GoVal.iand (t : Int) (-2))) k) = k ((tp1 t : Nat) : Int) := by
  unfold tp1
  rw [show (1 : Int) = ((1 : Nat) : Int) from rfl, iand_natCast, natCast_beq_zero]
  by_cases h : t &&& 1 = 0
  · rw [if_pos (by rw [h]; rfl), if_pos h, ior_natCast]; rfl
  · rw [if_neg (by rw [beq_iff_eq]; exact h), if_neg h]
    have := iand_neg2 t h
    rw [this]; rfl

/-- one factor of the denominator: `den *= 1 + X_j·X_i⁻¹` for `j ≠ i` -/
def denStep (F : GF.GF) (xiInv i : Nat) (j xj den : Nat) : Ctl Nat ρ :=
  if i ≠ j then ofRes (do let term ← F.mul xj xiInv; F.mul den (tp1 term)) else .next den

theorem foldIdx_den (F : GF.GF) (xiInv i : Nat) : ∀ (rest : List Nat) (j den : Nat),
    foldIdx (ρ := ρ) (denStep F xiInv i) j rest den = ofRes (magDenominator F xiInv i rest j den) := by
  intro rest
  induction rest with
  | nil => intro j den; rfl
  | cons xj rest ih =>
    intro j den
    simp only [foldIdx, denStep, magDenominator]
    by_cases hij : i ≠ j
    · simp only [hij, ne_eq, not_false_eq_true, if_true, bind, Except.bind]
      cases F.mul xj xiInv with
      | error e => rfl
      | ok term =>
        simp only []
        cases hm : F.mul den (tp1 term) with
        | error e => simp only [tp1] at hm; simp only [hm]; rfl
        | ok den' => simp only [tp1] at hm; simp only [hm, ofRes_ok]; exact ih (j + 1) den'
    · simp only [hij, if_false]; exact ih (j + 1) den

theorem magDenominator_panics (F : GF.GF) (xiInv i : Nat) : ∀ rest j den, Panics (magDenominator F xiInv i rest j den)
  | [], _, _ => .ok _
  | xj :: rest, j, den => by
    rw [magDenominator]
    exact .ite (fun _ => (mul_panics _ _ _).bind fun _ _ => (mul_panics _ _ _).bind fun _ _ =>
      magDenominator_panics F xiInv i rest _ _) (fun _ => magDenominator_panics F xiInv i rest _ _)

theorem evalLoop_panics (F : GF.GF) (a : Nat) : ∀ cs r, Panics (evalLoop F a cs r)
  | [], _ => .ok _
  | c :: cs, r => by
    rw [evalLoop]
    exact (mul_panics _ _ _).bind fun _ _ => evalLoop_panics F a cs _

theorem evaluateAt_panics (F : GF.GF) (p : Poly) (a : Nat) : Panics (evaluateAt F p a) := by
  unfold evaluateAt
  refine .ite (fun _ => getCoefficient_panics _ _) fun _ => .ite (fun _ => .ok _) fun _ => ?_
  cases p with
  | nil => exact .panic _
  | cons c0 cs => exact evalLoop_panics F a cs c0

/-- one magnitude written into the result slice -/
def magStep (F : GF.GF) (omega locs : List Nat) (D : ρ) (i xi : Nat) (res : List Nat) : Ctl (List Nat) ρ :=
  stepE D (errorMagnitude F omega locs i xi >>= fun m => Bits.setWord res i m)

theorem foldIdx_mag (F : GF.GF) (omega locs : List Nat) (D : ρ) : ∀ (rest pre : List Nat),
    foldIdx (magStep F omega locs D) pre.length rest (pre ++ List.replicate rest.length 0) =
      match magLoop F omega locs rest pre.length with
      | .ok ms => .next (pre ++ ms)
      | .error e => failK (.ret D) Ctl.panic e := by
  intro rest
  induction rest with
  | nil => intro pre; simp [foldIdx, magLoop]
  | cons xi rest ih =>
    intro pre
    simp only [foldIdx, magStep, magLoop, bind, Except.bind]
    cases hm : errorMagnitude F omega locs pre.length xi with
    | error e => cases e <;> rfl
    | ok m =>
      rw [List.length_cons, List.replicate_succ]
      simp only [setWord_mid, stepE_ok]
      have := ih (pre ++ [m])
      rw [List.length_append, List.length_singleton] at this
      rw [this]
      cases magLoop F omega locs rest (pre.length + 1) with
      | error e => cases e <;> rfl
      | ok ms => simp

theorem magLoop_length {F : GF.GF} {omega locs : List Nat} : ∀ (rest : List Nat) (i : Nat) (ms : List Nat),
    magLoop F omega locs rest i = .ok ms → ms.length = rest.length := by
  intro rest
  induction rest with
  | nil => intro i ms h; simp only [magLoop] at h; cases h; rfl
  | cons xi rest ih =>
    intro i ms h
    rw [magLoop] at h
    obtain ⟨m, -, h⟩ := bind_ok h
    obtain ⟨ms', hr, h⟩ := bind_ok h
    cases h
    simp [ih _ _ hr]

/-! ### Chien search (`findErrorLocations`) on model states -/

/-- what the Chien search does with candidate `i` (state: locations found so far, candidate) -/
def chienRound (F : GF.GF) (sigma : Poly) (st : List Nat × Nat) : Res (List Nat × Nat) := do
  let v ← evaluateAt F sigma st.2
  if v = 0 then do
    let x ← F.inv st.2
    pure (st.1 ++ [x], st.2 + 1)
  else pure (st.1, st.2 + 1)

/-- one candidate of the Chien search with the loop's test -/
def chienStep (F : GF.GF) (sigma : Poly) (ne : Nat) (D : ρ) (st : List Nat × Nat) : Ctl (List Nat × Nat) ρ :=
  if decide (st.2 < F.size) && decide (st.1.length < ne) then stepE D (chienRound F sigma st) else .brk st

theorem chien_run (F : GF.GF) (sigma : Poly) (ne : Nat) (D : ρ) : ∀ (n i : Nat) (acc : List Nat) (fuel : Nat),
    i + n = F.size → n + 1 ≤ fuel →
    ∃ i', whileLoop (chienStep F sigma ne D) fuel (acc, i) =
      outC (stepE D) ((chien F sigma ne (List.range' i n) acc).map fun found => (found, i')) := by
  intro n
  induction n with
  | zero =>
    intro i acc fuel hi hf
    obtain ⟨fuel, rfl⟩ : ∃ k, fuel = k + 1 := ⟨fuel - 1, by omega⟩
    refine ⟨i, ?_⟩
    rw [whileLoop_succ]
    simp only [chienStep, List.range'_zero, chien]
    rw [if_neg (by simp; omega)]
    rfl
  | succ n ih =>
    intro i acc fuel hi hf
    obtain ⟨fuel, rfl⟩ : ∃ k, fuel = k + 1 := ⟨fuel - 1, by omega⟩
    simp only [List.range'_succ, chien]
    rw [whileLoop_succ]
    simp only [chienStep]
    by_cases hfull : acc.length ≥ ne
    · rw [if_pos hfull, if_neg (by simp; omega)]
      exact ⟨i, rfl⟩
    · rw [if_neg hfull, if_pos (by simp; omega)]
      simp only [chienRound, bind, Except.bind]
      cases hev : evaluateAt F sigma i with
      | error e => exact ⟨i, by cases e <;> rfl⟩
      | ok v =>
        simp only []
        by_cases hv : v = 0
        · simp only [hv, if_true]
          cases hinv : F.inv i with
          | error e => exact ⟨i, by cases e <;> rfl⟩
          | ok x => exact ih (i + 1) (acc ++ [x]) fuel (by omega) (by omega)
        · simp only [hv, if_false]
          exact ih (i + 1) acc fuel (by omega) (by omega)

/-! ### the decoder's own failure reasons (`DErr`): the same judgement, the same rules -/

/-- what a failing decoder step means for the enclosing Go function -/
def failD {γ : Type} (c : γ) (lift : Fault → γ) : DErr → γ
  | .base (.panic w) => lift (.panic w)
  | .base .fuel => lift .fuel
  | _ => c

/-- a decoder step as the outcome of a loop body -/
def stepD (dflt : ρ) : DRes τ → Ctl τ ρ
  | .ok t => .next t
  | .error e => failD (.ret dflt) Ctl.panic e

/-- `failD` is `failK` on what `Decode`'s caller sees (Model/RS.lean) -/
theorem failD_eq {γ : Type} (c : γ) (lift : Fault → γ) (e : DErr) : failD c lift e = failK c lift e.toFault := by
  cases e with
  | base f => cases f <;> rfl
  | _ => rfl

theorem failD_exits (D : ρ) (e : DErr) : Exits (failD (.ret D) Ctl.panic e : Ctl τ ρ) := by
  rw [failD_eq]; exact failK_exits D _

theorem mapS_failD (R : τ → σ) (c : ρ) (e : DErr) :
    mapS R (failD (Ctl.ret c) Ctl.panic e : Ctl τ ρ) = failD (Ctl.ret c) Ctl.panic e := by
  rw [mapS_eq, failD_eq, failD_eq]; exact Ctl.map_failK R c _

theorem stepD_next {d : ρ} {r : DRes τ} {t : τ} (h : stepD d r = .next t) : r = .ok t := by
  cases r with
  | ok t' => cases h; rfl
  | error e => rcases failD_exits (τ := τ) d e with ⟨x, hx⟩ | ⟨x, hx⟩ <;> (rw [stepD, hx] at h; cases h)

theorem liftD_ok {α : Type} {r : Res α} {a : α} (h : liftD r = .ok a) : r = .ok a := by
  cases r with
  | ok v => cases h; rfl
  | error e => cases h

theorem liftD_ne_fuel {α : Type} {r : Res α} (h : r ≠ .error .fuel) : liftD r ≠ .error (.base .fuel) := by
  cases r with
  | ok v => intro h2; cases h2
  | error e => intro h2; simp only [liftD] at h2; cases h2; exact h rfl

theorem exc_ok_bind {ε α β : Type} (a : α) (k : α → Except ε β) : (Except.ok a : Except ε α) >>= k = k a := rfl

theorem map_bind {ε α β γ : Type} (x : Except ε α) (f : α → β) (k : β → Except ε γ) :
    x.map f >>= k = x >>= fun v => k (f v) := by
  cases x <;> rfl

theorem map_ok {ε α β : Type} {x : Except ε α} {f : α → β} {b : β} (h : x.map f = .ok b) : ∃ a, x = .ok a ∧ f a = b := by
  cases x with
  | error e => cases h
  | ok a => cases h; exact ⟨a, rfl, rfl⟩

theorem bindPD {α β : Type} {D : ρ} {R : τ → σ} {emb : β → α} {g : Res α} {r : Res β} {k : β → DRes τ} {kG : α → Ctl σ ρ}
    (hg : g = r.map emb) (hp : Panics r) (hk : ∀ b, r = .ok b → kG (emb b) = Ctl.map R (stepD D (k b))) :
    tryC g kG = Ctl.map R (stepD D (liftD r >>= k)) := by
  subst hg
  cases r with
  | ok b => exact hk b rfl
  | error e => obtain ⟨w, rfl⟩ := hp e rfl; rfl

theorem bindED {α β : Type} {D : ρ} {R : τ → σ} {d : α} {emb : β → α} {g : Res (α × Bool)} {r : Res β} {k : β → DRes τ}
    {kG : α × Bool → Ctl σ ρ}
    (hg : g = expE d emb r) (hT : kG (d, true) = .ret D) (hk : ∀ b, r = .ok b → kG (emb b, false) = Ctl.map R (stepD D (k b))) :
    tryC g kG = Ctl.map R (stepD D (liftD r >>= k)) := by
  subst hg
  cases r with
  | ok b => exact hk b rfl
  | error e => cases e <;> first | rfl | exact hT

/-- an inner `for cond` loop that has been identified with a model loop `m'`, and what follows it in the body -/
theorem whileCD {σ' τ' : Type} {D : ρ} {R : τ → σ} {R' : τ' → σ'} {m' : Res τ'} {c : Ctl σ' ρ} {k : τ' → DRes τ}
    {kG : σ' → Ctl σ ρ}
    (hc : c = Ctl.map R' (outC (stepE D) m')) (hk : ∀ v, m' = .ok v → kG (R' v) = Ctl.map R (stepD D (k v))) :
    c.thenC kG = Ctl.map R (stepD D (liftD m' >>= k)) := by
  subst hc
  cases m' with
  | ok v => exact hk v rfl
  | error e => cases e <;> rfl

/-- `retE` for a function whose model has the decoder's failure reasons -/
def retD {τ' : Type} (D : ρ) (emb : τ' → ρ) : DRes τ' → Res ρ
  | .ok t => .ok (emb t)
  | .error e => failD (.ok D) Except.error e

theorem expE_eq_retD {α β : Type} (d : α) (emb : β → α) (r : Res β) :
    expE d emb r = retD (d, true) (fun b => (emb b, false)) (liftD r) := by
  cases r with
  | ok b => rfl
  | error e => cases e <;> rfl

theorem bindPDR {α β τ' : Type} {D : ρ} {emb : τ' → ρ} {emb' : β → α} {g : Res α} {r : Res β} {k : β → DRes τ'} {kG : α → Res ρ}
    (hg : g = r.map emb') (hp : Panics r) (hk : ∀ b, r = .ok b → kG (emb' b) = retD D emb (k b)) :
    tryR g kG = retD D emb (liftD r >>= k) := by
  subst hg
  cases r with
  | ok b => exact hk b rfl
  | error e => obtain ⟨w, rfl⟩ := hp e rfl; rfl

theorem bindEDR {α β τ' : Type} {D : ρ} {emb : τ' → ρ} {d : α} {emb' : β → α} {g : Res (α × Bool)} {r : Res β} {k : β → DRes τ'}
    {kG : α × Bool → Res ρ}
    (hg : g = expE d emb' r) (hT : kG (d, true) = .ok D) (hk : ∀ b, r = .ok b → kG (emb' b, false) = retD D emb (k b)) :
    tryR g kG = retD D emb (liftD r >>= k) := by
  subst hg
  cases r with
  | ok b => exact hk b rfl
  | error e => cases e <;> first | rfl | exact hT

theorem whileRD {τ' : Type} {D : ρ} {emb : τ' → ρ} {R : τ → σ} {m : DRes τ} {kG : σ → Res ρ} {k : τ → DRes τ'} {c : Ctl σ ρ}
    (hc : c = Ctl.map R (outC (stepD D) m)) (hk : ∀ t, m = .ok t → kG (R t) = retD D emb (k t)) :
    c.thenR kG = retD D emb (m >>= k) := by
  subst hc
  cases m with
  | ok t => exact hk t rfl
  | error e =>
    cases e with
    | base f => cases f <;> rfl
    | _ => rfl

/-! ### the Euclidean algorithm of the decoder on model states -/

/-- the calls of one round of the inner division loop of `runEuclideanAlgorithm` (state: r, q — the order of the Go locals) -/
def edivRound (F : GF.GF) (rLast : Poly) (dlt : Nat) (st : Poly × Poly) : Res (Poly × Poly) := do
  let lead ← getCoefficient st.1 (degree st.1)
  let scale ← F.mul lead dlt
  let monomial ← buildMonomial (degree st.1 - degree rLast) scale
  let q' ← addOrSubtract st.2 monomial
  let polynomial ← multiplyByMonomial F rLast (degree st.1 - degree rLast) scale
  let r' ← addOrSubtract st.1 polynomial
  pure (r', q')

/-- one round of that loop with its test -/
def edivStep (F : GF.GF) (rLast : Poly) (dlt : Nat) (D : ρ) (st : Poly × Poly) : Ctl (Poly × Poly) ρ :=
  if degree st.1 ≥ degree rLast && !isZero st.1 then stepE D (edivRound F rLast dlt st) else .brk st

/-- the model's `euclidDivLoop` as the fuel loop of `edivRound` -/
abbrev edivX (F : GF.GF) (rLast : Poly) (dlt : Nat) : Nat → Poly × Poly → Res (Poly × Poly) :=
  whileX .fuel (fun st => decide (degree st.1 ≥ degree rLast) && !isZero st.1) (edivRound F rLast dlt)

theorem euclidDivLoop_succ (F : GF.GF) (rLast : Poly) (dlt : Nat) (m : Nat) (q r : Poly) :
    euclidDivLoop F rLast dlt (m + 1) q r =
      if degree r ≥ degree rLast && !isZero r then edivRound F rLast dlt (r, q) >>= fun t => euclidDivLoop F rLast dlt m t.2 t.1
      else .ok (q, r) := by
  rw [euclidDivLoop]
  split
  · simp only [edivRound, bind_assoc, pure_bind]
  · rfl

theorem euclidDivLoop_eq (F : GF.GF) (rLast : Poly) (dlt : Nat) : ∀ (m : Nat) (q r : Poly),
    euclidDivLoop F rLast dlt m q r = (edivX F rLast dlt m (r, q)).map Prod.swap := by
  intro m
  induction m with
  | zero => intro q r; rfl
  | succ m ih =>
    intro q r
    rw [euclidDivLoop_succ, edivX, whileX]
    by_cases hc : (decide (degree r ≥ degree rLast) && !isZero r) = true
    · rw [if_pos hc, if_pos hc]
      cases edivRound F rLast dlt (r, q) with
      | error e => rfl
      | ok t => exact ih t.2 t.1
    · rw [if_neg hc, if_neg hc]; rfl

theorem edivStep_run (F : GF.GF) (rLast : Poly) (dlt : Nat) (D : ρ) (n : Nat) (st : Poly × Poly) :
    whileLoop (edivStep F rLast dlt D) n st = outC (stepE D) (edivX F rLast dlt n st) :=
  whileLoop_whileX Fault.fuel (fun st : Poly × Poly => decide (degree st.1 ≥ degree rLast) && !isZero st.1) (edivRound F rLast dlt)
    (stepE D)
    (fun _ => rfl) (failK_exits D) rfl n st

theorem edivRound_ne {F : GF.GF} {rLast : Poly} {dlt : Nat} {t t' : Poly × Poly}
    (ht : t.1 ≠ [] ∧ t.2 ≠ []) (h : edivRound F rLast dlt t = .ok t') : t'.1 ≠ [] ∧ t'.2 ≠ [] := by
  unfold edivRound at h
  obtain ⟨lead, -, h⟩ := bind_ok h
  obtain ⟨scale, -, h⟩ := bind_ok h
  obtain ⟨iq, h3, h⟩ := bind_ok h
  obtain ⟨q', h4, h⟩ := bind_ok h
  obtain ⟨term, h5, h⟩ := bind_ok h
  obtain ⟨r', h6, h⟩ := bind_ok h
  cases h
  exact ⟨addOrSubtract_ne ht.1 (multiplyByMonomial_ne h5) h6, addOrSubtract_ne ht.2 (buildMonomial_ne h3) h4⟩

theorem edivStep_inv {F : GF.GF} {rLast : Poly} {dlt : Nat} {D : ρ} {t t' : Poly × Poly}
    (ht : t.1 ≠ [] ∧ t.2 ≠ []) (h : edivStep F rLast dlt D t = .next t') : t'.1 ≠ [] ∧ t'.2 ≠ [] := by
  unfold edivStep at h
  split at h
  · exact edivRound_ne ht (stepE_next h)
  · cases h

theorem edivX_ne (F : GF.GF) (rLast : Poly) (dlt : Nat) (n : Nat) (t t' : Poly × Poly) (ht : t.1 ≠ [] ∧ t.2 ≠ [])
    (h : edivX F rLast dlt n t = .ok t') : t'.1 ≠ [] ∧ t'.2 ≠ [] :=
  whileX_inv _ _ _ (fun t => t.1 ≠ [] ∧ t.2 ≠ []) (fun _ _ ht h => edivRound_ne ht h) n t t' ht h

/-- one round of the outer loop of `runEuclideanAlgorithm`, the inner division running on fuel `f`:
    (rLast, r, tLast, t) ↦ (r, rLast mod r, t, q·t + tLast) -/
def euclidBlk (F : GF.GF) (f : Nat) (st : Poly × Poly × Poly × Poly) : DRes (Poly × Poly × Poly × Poly) := do
  if isZero st.2.1 then throw DErr.rLastZero
  let dlt ← liftD (getCoefficient st.2.1 (degree st.2.1))
  let dltInverse ← liftD (F.inv dlt)
  let rq ← liftD (edivX F st.2.1 dltInverse f (st.1, [0]))
  let q ← liftD (multiply F rq.2 st.2.2.2)
  let t' ← liftD (addOrSubtract q st.2.2.1)
  if degree rq.1 ≥ degree st.2.1 then throw DErr.illegalState
  pure (st.2.1, rq.1, st.2.2.2, t')

/-- the model's `euclidLoop` as a fuel loop: its round runs the inner division on `len(rLast) + 1` rounds -/
abbrev euclidX (F : GF.GF) (R : Nat) : Nat → Poly × Poly × Poly × Poly → DRes (Poly × Poly × Poly × Poly) :=
  whileX (.base .fuel) (fun st => decide (2 * degree st.2.1 ≥ R)) (fun st => euclidBlk F (st.1.length + 1) st)

theorem euclidLoop_succ (F : GF.GF) (R m : Nat) (rLast r tLast t : Poly) :
    euclidLoop F R (m + 1) rLast r tLast t =
      if 2 * degree r ≥ R then
        euclidBlk F (rLast.length + 1) (rLast, r, tLast, t) >>= fun s => euclidLoop F R m s.1 s.2.1 s.2.2.1 s.2.2.2
      else .ok (t, r) := by
  rw [euclidLoop]
  split
  · unfold euclidBlk
    by_cases hz : isZero r = true
    · simp only [hz, if_true]; rfl
    · simp only [hz, Bool.false_eq_true, if_false, euclidDivLoop_eq]
      simp only [bind, Except.bind, pure, Except.pure]
      cases liftD (getCoefficient r (degree r)) with
      | error e => rfl
      | ok dlt =>
        simp only []
        cases liftD (F.inv dlt) with
        | error e => rfl
        | ok dltInverse =>
          simp only []
          cases edivX F r dltInverse (rLast.length + 1) (rLast, [0]) with
          | error e => rfl
          | ok rq =>
            obtain ⟨r', q⟩ := rq
            simp only [Except.map, Prod.swap, liftD]
            cases multiply F q t with
            | error e => rfl
            | ok q2 =>
              simp only []
              cases addOrSubtract q2 tLast with
              | error e => rfl
              | ok t' =>
                simp only []
                by_cases hd : degree r' ≥ degree r
                · simp only [hd, if_true]; rfl
                · simp only [hd, if_false]
  · rfl

theorem euclidLoop_eq (F : GF.GF) (R : Nat) : ∀ (m : Nat) (rLast r tLast t : Poly),
    euclidLoop F R m rLast r tLast t = (euclidX F R m (rLast, r, tLast, t)).map fun st => (st.2.2.2, st.2.1) := by
  intro m
  induction m with
  | zero => intro rLast r tLast t; rfl
  | succ m ih =>
    intro rLast r tLast t
    rw [euclidLoop_succ, euclidX, whileX]
    by_cases hc : 2 * degree r ≥ R
    · rw [if_pos hc, if_pos (decide_eq_true hc)]
      cases euclidBlk F (rLast.length + 1) (rLast, r, tLast, t) with
      | error e => rfl
      | ok s => exact ih s.1 s.2.1 s.2.2.1 s.2.2.2
    · rw [if_neg hc, if_neg (by simpa using hc)]; rfl

/-- what a successful round returns, and the successful calls it is made of -/
theorem euclidBlk_ok {F : GF.GF} {f : Nat} {st s : Poly × Poly × Poly × Poly} (h : euclidBlk F f st = .ok s) :
    ∃ dinv rq q2 t', edivX F st.2.1 dinv f (st.1, [0]) = .ok rq ∧ multiply F rq.2 st.2.2.2 = .ok q2 ∧
      addOrSubtract q2 st.2.2.1 = .ok t' ∧ degree rq.1 < degree st.2.1 ∧ s = (st.2.1, rq.1, st.2.2.2, t') := by
  unfold euclidBlk at h
  split at h
  · cases h
  · obtain ⟨dlt, -, h⟩ := bind_ok h
    obtain ⟨dinv, -, h⟩ := bind_ok h
    obtain ⟨rq, h3, h⟩ := bind_ok h
    obtain ⟨q2, h4, h⟩ := bind_ok h
    obtain ⟨t', h5, h⟩ := bind_ok h
    split at h
    · cases h
    · cases h
      exact ⟨dinv, rq, q2, t', liftD_ok h3, liftD_ok h4, liftD_ok h5, by omega, rfl⟩

/-- the round does not depend on the inner fuel once that suffices -/
theorem euclidBlk_mono (F : GF.GF) (f1 f2 : Nat) (hf : f1 ≤ f2) (st : Poly × Poly × Poly × Poly)
    (hnf : euclidBlk F f1 st ≠ .error (.base .fuel)) : euclidBlk F f2 st = euclidBlk F f1 st := by
  unfold euclidBlk at hnf ⊢
  by_cases hz : isZero st.2.1 = true
  · simp only [hz, if_true]; rfl
  · simp only [hz, Bool.false_eq_true, if_false] at hnf ⊢
    simp only [bind, Except.bind, pure, Except.pure] at hnf ⊢
    cases h1 : liftD (getCoefficient st.2.1 (degree st.2.1)) with
    | error e => rfl
    | ok dlt =>
      simp only [h1] at hnf ⊢
      cases h2 : liftD (F.inv dlt) with
      | error e => rfl
      | ok dltInverse =>
        simp only [h2] at hnf ⊢
        have hin : edivX F st.2.1 dltInverse f1 (st.1, [0]) ≠ .error .fuel := by
          intro h; rw [h] at hnf; exact hnf rfl
        rw [show edivX F st.2.1 dltInverse f2 (st.1, [0]) = edivX F st.2.1 dltInverse f1 (st.1, [0]) from
          whileX_mono _ _ _ f1 f2 _ hf hin]

/-- one round of the outer loop as a control value (state: rLast, r, tLast, t) -/
def euclidStep (F : GF.GF) (R : Nat) (D : ρ) (f : Nat) (st : Poly × Poly × Poly × Poly) : Ctl (Poly × Poly × Poly × Poly) ρ :=
  if decide (2 * degree st.2.1 ≥ R) then stepD D (euclidBlk F f st) else .brk st

/-- the Go loop on model states, inner divisions on fuel `f`, is the model's `euclidLoop` whenever that does not exhaust its
    own budgets and `f` covers the lengths of the two remainders (the remainders only get shorter) -/
theorem euclid_run (F : GF.GF) (R : Nat) (D : ρ) (f m n : Nat) (st : Poly × Poly × Poly × Poly) (hmn : m ≤ n)
    (hl1 : st.1.length + 1 ≤ f) (hl2 : st.2.1.length + 1 ≤ f) (hnf : euclidX F R m st ≠ .error (.base .fuel)) :
    whileLoop (euclidStep F R D f) n st = outC (stepD D) (euclidX F R m st) := by
  unfold euclidX at hnf ⊢
  rw [← whileX_congr (.base .fuel) _ (fun st => euclidBlk F (st.1.length + 1) st) (fun st => euclidBlk F f st)
    (fun st => st.1.length + 1 ≤ f ∧ st.2.1.length + 1 ≤ f)
    (fun st hst h => euclidBlk_mono F _ f hst.1 st h)
    (fun st st' hst h => by
      obtain ⟨dinv, rq, q2, t', -, -, -, hd, rfl⟩ := euclidBlk_ok h
      exact ⟨hst.2, by unfold degree at hd; dsimp only; omega⟩)
    m n st hmn ⟨hl1, hl2⟩ hnf]
  exact whileLoop_whileX (DErr.base .fuel) (fun st : Poly × Poly × Poly × Poly => decide (2 * degree st.2.1 ≥ R))
    (fun st => euclidBlk F f st) (stepD D)
    (fun _ => rfl) (failD_exits D) rfl n st

/-! ### `Decode`: the syndrome loop and the correction loop on model states -/

/-- one syndrome: `S_i = poly(α^(i+base))`, stored at `len-1-i`; `noError` stays true while the values are 0 -/
def synStep (F : GF.GF) (poly : Poly) (i : Nat) (st : List Nat × Bool) : Ctl (List Nat × Bool) ρ :=
  match (do let x ← F.expAt (i + F.base); evaluateAt F poly x) with
  | .error e => .panic e
  | .ok ev =>
    match Bits.setWord st.1 (st.1.length - 1 - i) ev with
    | .error e => .panic e
    | .ok sc => .next (sc, if ev ≠ 0 then false else st.2)

theorem foldIdx_syn (F : GF.GF) (poly : Poly) : ∀ (n i : Nat) (accRev : List Nat) (ne : Bool), accRev.length = i →
    foldIdx (ρ := ρ) (fun _ d t => synStep F poly d t) i (List.range' i n) (List.replicate n 0 ++ accRev, ne) =
      match syndromes F poly n i with
      | .ok rest => .next (rest.reverse ++ accRev, ne && rest.all (· == 0))
      | .error e => .panic e := by
  intro n
  induction n with
  | zero => intro i accRev ne _; simp [foldIdx, syndromes]
  | succ n ih =>
    intro i accRev ne hacc
    have hset : ∀ ev, Bits.setWord (List.replicate (n + 1) 0 ++ accRev) ((List.replicate (n + 1) 0 ++ accRev).length - 1 - i) ev =
        .ok (List.replicate n 0 ++ (ev :: accRev)) := by
      intro ev
      have hpos : (List.replicate (n + 1) 0 ++ accRev).length - 1 - i = (List.replicate n 0).length := by simp; omega
      rw [hpos, List.replicate_succ', List.append_assoc, List.singleton_append, setWord_mid, List.append_assoc,
        List.singleton_append]
    have hstep : synStep (ρ := ρ) F poly i (List.replicate (n + 1) 0 ++ accRev, ne) =
        match (do let x ← F.expAt (i + F.base); evaluateAt F poly x) with
        | .error e => .panic e
        | .ok ev => .next (List.replicate n 0 ++ (ev :: accRev), if ev ≠ 0 then false else ne) := by
      unfold synStep
      cases (do let x ← F.expAt (i + F.base); evaluateAt F poly x : Res Nat) with
      | error e => rfl
      | ok ev => simp only [hset]
    simp only [List.range'_succ, foldIdx]
    rw [hstep]
    simp only [syndromes, bind, Except.bind]
    cases hx : F.expAt (i + F.base) with
    | error e => rfl
    | ok x =>
      simp only []
      cases hev : evaluateAt F poly x with
      | error e => rfl
      | ok ev =>
        simp only []
        rw [ih (i + 1) (ev :: accRev) _ (by simp [hacc])]
        cases syndromes F poly n (i + 1) with
        | error e => rfl
        | ok rest =>
          simp only [List.reverse_cons, List.append_assoc, List.singleton_append, List.all_cons]
          congr 2
          by_cases hz : ev = 0
          · subst hz; simp
          · have : (ev == 0) = false := beq_eq_false_iff_ne.mpr hz
            simp [hz, this]

theorem syndromes_panics (F : GF.GF) (poly : Poly) : ∀ n i, Panics (syndromes F poly n i)
  | 0, _ => .ok _
  | n + 1, i => by
    rw [syndromes]
    exact (gfidx_panics _ _).bind fun _ _ => (evaluateAt_panics _ _ _).bind fun _ _ =>
      (syndromes_panics F poly n _).bind fun _ _ => .ok _

theorem syndromes_length {F : GF.GF} {poly : Poly} : ∀ (n i : Nat) (s : List Nat), syndromes F poly n i = .ok s → s.length = n := by
  intro n
  induction n with
  | zero => intro i s h; simp only [syndromes] at h; cases h; rfl
  | succ n ih =>
    intro i s h
    rw [syndromes] at h
    obtain ⟨x, -, h⟩ := bind_ok h
    obtain ⟨ev, -, h⟩ := bind_ok h
    obtain ⟨rest, hr, h⟩ := bind_ok h
    cases h
    simp [ih _ _ hr]

/-- one correction: `received[len-1-log(X_i)] ^= magnitude_i`; a zero location or a location outside the word ends `Decode`
    with a checked error (the slice as corrected so far) -/
def corrStep (F : GF.GF) (mags : List Nat) (i loc : Nat) (rec : List Nat) : Ctl (List Nat) (Bool × List Int) :=
  match F.logOf loc with
  | .error e => failK (.ret (true, ints rec)) Ctl.panic e
  | .ok log =>
    if rec.length < log + 1 then .ret (true, ints rec)
    else
      match rec[rec.length - 1 - log]? with
      | none => .panic oob
      | some v =>
        match mags[i]? with
        | none => .panic oob
        | some m => ofRes (Bits.setWord rec (rec.length - 1 - log) (v ^^^ m))

end Gzx.K04bTie
