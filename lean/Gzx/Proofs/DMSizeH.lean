/-
  C08 (and C06): the 18 DMRE versions 31..48 of the decoder table are outside ISO/IEC 16022, so there is no reference
  symbol to compare with.  What is shown per size is `readOnlyCheck`, about the decoder alone: the read order never leaves
  the mapping matrix, visits every cell at most once, and yields exactly `totalCodewords` codewords (readCodewords neither
  panics nor returns a FormatException on any matrix of these dimensions).  For 16 of the sizes the Annex F program of
  ISO 16022 runs cleanly on the mapping matrix, so the kernel runs that (`cleanCheck`) and the decoder's side follows
  from `read_eq_place`; for 26x40 and 26x48 the program leaves the matrix (ISO 21471 amends it) and the kernel runs the
  decoder's reader itself.
-/
import Gzx.Proofs.DMReadOrder
namespace Gzx.DMProofs
open Gzx.DMRef

def dupFree : List Nat → Nat → Bool
  | [], _ => true
  | c :: cs, seen => !seen.testBit c && dupFree cs (seen ||| (1 <<< c))

def readOnlyCheck (nrow ncol total : Nat) : Bool :=
  let rs := DMDec.readState nrow ncol
  !rs.oob && rs.cells.length == 8 * total && rs.cells.all (· < nrow * ncol) && dupFree rs.cells 0

theorem dupFree_of_nodup : ∀ (cs : List Nat) (seen : Nat), cs.Nodup → (∀ c ∈ cs, seen.testBit c = false) →
    dupFree cs seen = true
  | [], _, _, _ => rfl
  | c :: cs, seen, hnd, hs => by
    obtain ⟨hc, hnd⟩ := List.nodup_cons.1 hnd
    rw [dupFree, hs c List.mem_cons_self, dupFree_of_nodup cs _ hnd fun x hx => ?_]
    · rfl
    · rw [Nat.testBit_or, hs x (List.mem_cons_of_mem _ hx), testBit_one_shiftLeft]
      exact decide_eq_false fun e => hc (e ▸ hx)

def cleanCheck (nrow ncol total : Nat) : Bool :=
  let st := placeStateF nrow ncol
  !st.bad && !st.dup && st.seq.length == 8 * total && decide (4 ≤ nrow) && decide (2 < ncol)

theorem readOnlyCheck_of_cleanCheck {nrow ncol total : Nat} (h : cleanCheck nrow ncol total = true) :
    readOnlyCheck nrow ncol total = true := by
  rw [cleanCheck, placeStateF_eq] at h
  simp only [Bool.and_eq_true, Bool.not_eq_true', beq_iff_eq, decide_eq_true_eq] at h
  obtain ⟨⟨⟨⟨hbad, hdup⟩, hlen⟩, h4⟩, h2⟩ := h
  obtain ⟨hcells, hoob⟩ := read_eq_place ⟨h4, h2⟩ ⟨hbad, hdup⟩
  unfold readOnlyCheck
  simp only [hcells, hoob, hlen, Bool.not_false, beq_self_eq_true, Bool.true_and, Bool.and_eq_true, List.all_eq_true,
    decide_eq_true_eq]
  exact ⟨seq_lt nrow ncol, dupFree_of_nodup _ 0 (placeState_inv nrow ncol hdup).1 fun _ _ => Nat.zero_testBit _⟩

/-- DMRE symbol 8x48: mapping matrix 6x44, 33 codewords -/
theorem check_dmre_8x48 : readOnlyCheck 6 44 33 = true :=
  readOnlyCheck_of_cleanCheck (by decide +kernel)

/-- DMRE symbol 8x64: mapping matrix 6x56, 42 codewords -/
theorem check_dmre_8x64 : readOnlyCheck 6 56 42 = true :=
  readOnlyCheck_of_cleanCheck (by decide +kernel)

/-- DMRE symbol 8x80: mapping matrix 6x72, 54 codewords -/
theorem check_dmre_8x80 : readOnlyCheck 6 72 54 = true :=
  readOnlyCheck_of_cleanCheck (by decide +kernel)

/-- DMRE symbol 8x96: mapping matrix 6x88, 66 codewords -/
theorem check_dmre_8x96 : readOnlyCheck 6 88 66 = true :=
  readOnlyCheck_of_cleanCheck (by decide +kernel)

/-- DMRE symbol 8x120: mapping matrix 6x108, 81 codewords -/
theorem check_dmre_8x120 : readOnlyCheck 6 108 81 = true :=
  readOnlyCheck_of_cleanCheck (by decide +kernel)

/-- DMRE symbol 8x144: mapping matrix 6x132, 99 codewords -/
theorem check_dmre_8x144 : readOnlyCheck 6 132 99 = true :=
  readOnlyCheck_of_cleanCheck (by decide +kernel)

/-- DMRE symbol 12x64: mapping matrix 10x56, 70 codewords -/
theorem check_dmre_12x64 : readOnlyCheck 10 56 70 = true :=
  readOnlyCheck_of_cleanCheck (by decide +kernel)

/-- DMRE symbol 12x88: mapping matrix 10x80, 100 codewords -/
theorem check_dmre_12x88 : readOnlyCheck 10 80 100 = true :=
  readOnlyCheck_of_cleanCheck (by decide +kernel)

/-- DMRE symbol 16x64: mapping matrix 14x56, 98 codewords -/
theorem check_dmre_16x64 : readOnlyCheck 14 56 98 = true :=
  readOnlyCheck_of_cleanCheck (by decide +kernel)

/-- DMRE symbol 20x36: mapping matrix 18x32, 72 codewords -/
theorem check_dmre_20x36 : readOnlyCheck 18 32 72 = true :=
  readOnlyCheck_of_cleanCheck (by decide +kernel)

/-- DMRE symbol 20x44: mapping matrix 18x40, 90 codewords -/
theorem check_dmre_20x44 : readOnlyCheck 18 40 90 = true :=
  readOnlyCheck_of_cleanCheck (by decide +kernel)

/-- DMRE symbol 20x64: mapping matrix 18x56, 126 codewords -/
theorem check_dmre_20x64 : readOnlyCheck 18 56 126 = true :=
  readOnlyCheck_of_cleanCheck (by decide +kernel)

/-- DMRE symbol 22x48: mapping matrix 20x44, 110 codewords -/
theorem check_dmre_22x48 : readOnlyCheck 20 44 110 = true :=
  readOnlyCheck_of_cleanCheck (by decide +kernel)

/-- DMRE symbol 24x48: mapping matrix 22x44, 121 codewords -/
theorem check_dmre_24x48 : readOnlyCheck 22 44 121 = true :=
  readOnlyCheck_of_cleanCheck (by decide +kernel)

/-- DMRE symbol 24x64: mapping matrix 22x56, 154 codewords -/
theorem check_dmre_24x64 : readOnlyCheck 22 56 154 = true :=
  readOnlyCheck_of_cleanCheck (by decide +kernel)

/-- DMRE symbol 26x40: mapping matrix 24x36, 108 codewords -/
theorem check_dmre_26x40 : readOnlyCheck 24 36 108 = true := by decide +kernel

/-- DMRE symbol 26x48: mapping matrix 24x44, 132 codewords -/
theorem check_dmre_26x48 : readOnlyCheck 24 44 132 = true := by decide +kernel

/-- DMRE symbol 26x64: mapping matrix 24x56, 168 codewords -/
theorem check_dmre_26x64 : readOnlyCheck 24 56 168 = true :=
  readOnlyCheck_of_cleanCheck (by decide +kernel)


end Gzx.DMProofs
