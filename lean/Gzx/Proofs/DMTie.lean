/-
  Lemmas for the kernel theorems of `Obligations/K08b*.lean`: the regenerated Data Matrix encoder / decoder loops
  (`Gzx.Gen.K08b`) against the hand-written models `Gzx.DMEnc` / `Gzx.DMDec`.
  Nothing here mentions the text of a generated definition.

  * `Bytes s`: every element of the model list `s` is below 256 — the model side of a Go `[]byte`, and the hypothesis of
    every K08b theorem about codewords;
  * `loop_inv_up` / `loop_inv_down`: a counted loop whose body keeps an invariant never leaves through
    `break` / `return` / panic and ends in a state that satisfies the invariant at the last index (the upward one is
    `loop_inv_next` of Proofs/GoMLoop.lean under the name and argument order the K08b files use);
  * `loop_find`: the `for i … { if xs[i] == n { t = i; break } }` search is `DMEnc.findTable`;
  * `setIdx_words_lt`, `mk_words'` are `setIdx_nats`, `mk_nats` of Proofs/GoM.lean read for `words`.
-/
import Gzx.GoMDm
import Gzx.Proofs.GoMTie
import Gzx.Model.DMEncoder
import Gzx.Proofs.DMEcc
import Gzx.Proofs.DMBytes
namespace Gzx.GoM
open Gzx Gzx.GoVal

variable {σ ρ : Type}

/-! ### byte vectors -/

/-- the model side of a Go `[]byte`: every element is below 256 -/
def Bytes (s : List Nat) : Prop := ∀ x ∈ s, x < 256

theorem Bytes.getD {s : List Nat} (h : Bytes s) (i : Nat) : s.getD i 0 < 256 := by
  by_cases hi : i < s.length
  · simp only [List.getD_eq_getElem?_getD, List.getElem?_eq_getElem hi, Option.getD_some]
    exact h _ (List.getElem_mem hi)
  · simp [List.getD_eq_getElem?_getD, List.getElem?_eq_none (by omega : s.length ≤ i)]

theorem Bytes.set {s : List Nat} (h : Bytes s) (i v : Nat) (hv : v < 256) : Bytes (s.set i v) := by
  intro x hx
  rcases List.mem_or_eq_of_mem_set hx with h1 | h1
  · exact h x h1
  · subst h1; exact hv

theorem bytes_replicate (n : Nat) : Bytes (List.replicate n 0) := by
  intro x hx; rw [List.mem_replicate] at hx; omega

theorem xor_lt_256 {a b : Nat} (ha : a < 256) (hb : b < 256) : a ^^^ b < 256 :=
  Nat.xor_lt_two_pow (n := 8) ha hb

theorem alog_bytes : Bytes DMEnc.alog := by unfold Bytes; decide +kernel

/-! ### counted loops with an invariant -/

/-- `for i := a; …; i++` with `k` iterations left at index `a+i`, invariant indexed by the number of iterations done:
    `GoM.loop_inv_next` with `a n` in this order -/
theorem loop_inv_up (body : Int → σ → Ctl σ ρ) (Inv : Nat → σ → Prop) (a n : Nat)
    (step : ∀ i st, i < n → Inv i st → ∃ st', body ((a + i : Nat) : Int) st = .next st' ∧ Inv (i + 1) st') :
    ∀ (k i : Nat) (st : σ), i + k = n → Inv i st →
      ∃ st', loop body 1 k ((a + i : Nat) : Int) st = .next st' ∧ Inv n st' :=
  loop_inv_next body Inv n a step

/-- `for k := k0; k > 0; k--`: iterations at k0, k0-1, …, 1; the invariant is indexed by the next index -/
theorem loop_inv_down (body : Int → σ → Ctl σ ρ) (Inv : Nat → σ → Prop)
    (step : ∀ k st, Inv (k + 1) st → ∃ st', body ((k + 1 : Nat) : Int) st = .next st' ∧ Inv k st') :
    ∀ (k : Nat) (st : σ), Inv k st → ∃ st', loop body (-1) k (k : Int) st = .next st' ∧ Inv 0 st' := by
  intro k
  induction k with
  | zero => intro st hi; exact ⟨st, rfl, hi⟩
  | succ k ih =>
    intro st hi
    obtain ⟨st1, h1, hi1⟩ := step k st hi
    obtain ⟨st2, h2, hi2⟩ := ih st1 hi1
    refine ⟨st2, ?_, hi2⟩
    rw [loop_succ, h1]
    have e : ((k + 1 : Nat) : Int) + -1 = (k : Int) := by omega
    simp only [e]; exact h2

/-! ### checked reads and writes of byte lists -/

theorem idx_words_lt (ws : List Nat) (i : Nat) (h : i < ws.length) : idx (words ws) (i : Int) = .ok ((ws.getD i 0 : Nat) : Int) := by
  rw [idx_bytes, List.getElem?_eq_getElem h]
  simp [List.getD_eq_getElem?_getD, List.getElem?_eq_getElem h]

theorem idx_words_lt' (ws : List Nat) (e : Int) (i : Nat) (he : e = i) (h : i < ws.length) :
    idx (words ws) e = .ok ((ws.getD i 0 : Nat) : Int) := by subst he; exact idx_words_lt ws i h

theorem setIdx_words_lt (ws : List Nat) (e v : Int) (i u : Nat) (he : e = i) (hv : v = u) (h : i < ws.length) :
    setIdx (words ws) e v = .ok (words (ws.set i u)) :=
  setIdx_nats ws e v i u he hv h

theorem idxL_map (t : List (List Nat)) (i : Nat) (r : List Nat) (h : t[i]? = some r) :
    idxL (t.map words) (i : Int) = .ok (words r) := by
  unfold idxL
  have h0 : ¬ ((i : Int) < 0) := by omega
  simp [h0, h]

theorem mk_words' (n : Nat) : mk (n : Int) = .ok (words (List.replicate n 0)) := mk_nats _ n rfl

/-! ### the table search of createECCBlock -/

theorem findTable_drop (n : Nat) (fs : List Nat) (a : Nat) (h : a < fs.length) :
    DMEnc.findTable n (fs.drop a) a = if fs[a] = n then some a else DMEnc.findTable n (fs.drop (a + 1)) (a + 1) := by
  rw [List.drop_eq_getElem_cons h]; rfl

/-- `t := st; for i := a; i < len(xs); i++ { if xs[i] == n { t = i; break } }` -/
theorem loop_find (fs : List Nat) (n : Nat) (body : Int → Int → Ctl Int ρ)
    (hb : ∀ (i : Nat) (st : Int), i < fs.length → body (i : Int) st = if fs.getD i 0 = n then .brk (i : Int) else .next st) :
    ∀ (k a : Nat) (st : Int), a + k = fs.length →
      loop body 1 k (a : Int) st =
        match DMEnc.findTable n (fs.drop a) a with
        | some t => .brk (t : Int)
        | none => .next st := by
  intro k
  induction k with
  | zero =>
    intro a st h
    have : fs.drop a = [] := List.drop_eq_nil_of_le (by omega)
    rw [this]; rfl
  | succ k ih =>
    intro a st h
    have ha : a < fs.length := by omega
    rw [loop_succ, hb a st ha, findTable_drop n fs a ha]
    have e : fs.getD a 0 = fs[a] := by simp [List.getD_eq_getElem?_getD, List.getElem?_eq_getElem ha]
    rw [e]
    by_cases hf : fs[a] = n
    · simp [hf]
    · simp only [hf, if_false]
      have e2 : (a : Int) + 1 = ((a + 1 : Nat) : Int) := by omega
      rw [e2]; exact ih (a + 1) st (by omega)

theorem findTable_some (n : Nat) : ∀ (fs : List Nat) (a t : Nat), DMEnc.findTable n fs a = some t →
    a ≤ t ∧ fs[t - a]? = some n := by
  intro fs
  induction fs with
  | nil => intro a t h; cases h
  | cons f fs ih =>
    intro a t h
    unfold DMEnc.findTable at h
    by_cases hf : f = n
    · simp only [hf, if_true] at h; injection h with h; subst h; subst hf; simp
    · simp only [hf, if_false] at h
      obtain ⟨h1, h2⟩ := ih (a + 1) t h
      refine ⟨by omega, ?_⟩
      have : t - a = (t - (a + 1)) + 1 := by omega
      rw [this]; simpa using h2

/-! ### the shift register of createECCBlock -/

theorem xorZip_length (xs ys : List Nat) : (DMEnc.xorZip xs ys).length = min xs.length ys.length := by
  rw [DMProofs.enc_xorZip_eq, DMProofs.xorZip_length]

theorem xorZip_getD : ∀ (xs ys : List Nat) (i : Nat), i < xs.length → i < ys.length →
    (DMEnc.xorZip xs ys).getD i 0 = xs.getD i 0 ^^^ ys.getD i 0
  | [], _, _, h, _ => by simp at h
  | _ :: _, [], _, _, h => by simp at h
  | x :: xs, y :: ys, 0, _, _ => by simp [DMEnc.xorZip]
  | x :: xs, y :: ys, i + 1, h1, h2 => by
    simp only [DMEnc.xorZip, List.getD_cons_succ]
    exact xorZip_getD xs ys i (by simpa using h1) (by simpa using h2)

theorem getD_cons_dropLast (e : List Nat) (i : Nat) (h : i + 1 < e.length + 1) (hi : 0 < i) :
    (0 :: e.dropLast).getD i 0 = e.getD (i - 1) 0 := by
  obtain ⟨j, rfl⟩ : ∃ j, i = j + 1 := ⟨i - 1, by omega⟩
  simp only [List.getD_cons_succ, Nat.add_sub_cancel]
  have hj : j < e.dropLast.length := by simp; omega
  simp [List.getD_eq_getElem?_getD, List.getElem?_eq_getElem hj, List.getElem?_eq_getElem (by omega : j < e.length)]

/-- pointwise description of one step of the register: what the in-place downward loop followed by the write of
    cell 0 must have produced -/
theorem eccStep_ext (mul : Nat → Nat → Nat) (poly ecc s : List Nat) (cw n : Nat) (hn : 0 < n)
    (hl : ecc.length = n) (hp : poly.length = n) (hs : s.length = n)
    (h0 : s.getD 0 0 = mul (ecc.getLastD 0 ^^^ cw) (poly.getD 0 0))
    (hk : ∀ i, 0 < i → i < n → s.getD i 0 = ecc.getD (i - 1) 0 ^^^ mul (ecc.getLastD 0 ^^^ cw) (poly.getD i 0)) :
    s = DMEnc.eccStep mul poly ecc cw := by
  unfold DMEnc.eccStep
  have hlen : (DMEnc.xorZip (0 :: ecc.dropLast) (poly.map (mul (ecc.getLastD 0 ^^^ cw)))).length = n := by
    rw [xorZip_length]; simp; omega
  apply List.ext_getElem (by rw [hs, hlen])
  intro i h1 h2
  have e1 : s[i] = s.getD i 0 := by simp [List.getD_eq_getElem?_getD, List.getElem?_eq_getElem h1]
  have e2 : ∀ (l : List Nat) (h : i < l.length), l[i] = l.getD i 0 := by
    intro l h; simp [List.getD_eq_getElem?_getD, List.getElem?_eq_getElem h]
  rw [e1, e2 _ h2, xorZip_getD _ _ i (by simp; omega) (by simp; omega)]
  have hm : (poly.map (mul (ecc.getLastD 0 ^^^ cw))).getD i 0 = mul (ecc.getLastD 0 ^^^ cw) (poly.getD i 0) := by
    have hi : i < poly.length := by omega
    simp [List.getD_eq_getElem?_getD, List.getElem?_eq_getElem hi]
  rw [hm]
  by_cases hi : i = 0
  · subst hi
    rw [h0]; simp
  · rw [hk i (by omega) (by omega), getD_cons_dropLast ecc i (by omega) (by omega)]

/-! ### the two loops of `init()` -/

theorem alogLoop_length : ∀ (k p : Nat), (DMEnc.alogLoop k p).length = k
  | 0, _ => rfl
  | k + 1, p => by rw [DMEnc.alogLoop, List.length_cons, alogLoop_length k]

theorem logLoop_length : ∀ (ps : List Nat) (i : Nat) (lg : List Nat), (DMEnc.logLoop ps i lg).length = lg.length
  | [], _, _ => rfl
  | p :: ps, i, lg => by rw [DMEnc.logLoop, logLoop_length ps, List.length_set]

/-! ### the model's tables and its table multiplication -/

theorem log_length : DMEnc.log.length = 256 := by
  rw [DMEnc.log, logLoop_length, List.length_replicate]

theorem alog_length : DMEnc.alog.length = 255 := alogLoop_length 255 1

theorem tabMul_lt (m p : Nat) : DMEnc.tabMul m p < 256 := by
  unfold DMEnc.tabMul
  split
  · exact alog_bytes.getD _
  · omega

theorem tabMul_zero_left (p : Nat) : DMEnc.tabMul 0 p = 0 := by simp [DMEnc.tabMul]

theorem tabMul_zero_right (m : Nat) : DMEnc.tabMul m 0 = 0 := by simp [DMEnc.tabMul]

theorem tabMul_of_not {m p : Nat} (h : ¬ (m ≠ 0 ∧ p ≠ 0)) : DMEnc.tabMul m p = 0 := if_neg h

/-! ### the register stays a byte vector of its length -/

theorem xorZip_bytes : ∀ (xs ys : List Nat), Bytes xs → Bytes ys → Bytes (DMEnc.xorZip xs ys) := by
  intro xs ys h1 h2
  rw [DMProofs.enc_xorZip_eq]
  exact DMProofs.xorZip_bytes xs ys h1 h2

theorem eccStep_bytes (poly e : List Nat) (cw : Nat) (he : Bytes e) : Bytes (DMEnc.eccStep DMEnc.tabMul poly e cw) := by
  unfold DMEnc.eccStep
  apply xorZip_bytes
  · intro x hx
    rcases List.mem_cons.mp hx with rfl | hx
    · omega
    · exact he x (List.dropLast_subset _ hx)
  · intro x hx
    obtain ⟨p, _, rfl⟩ := List.mem_map.mp hx
    exact tabMul_lt _ _

theorem eccStep_length (poly e : List Nat) (cw n : Nat) (hn : 0 < n) (he : e.length = n) (hp : poly.length = n) :
    (DMEnc.eccStep DMEnc.tabMul poly e cw).length = n := by
  subst hp
  exact DMProofs.eccStep_length _ poly e cw he hn

theorem getD_last (e : List Nat) (n : Nat) (hn : 0 < n) (hl : e.length = n) : e.getD (n - 1) 0 = e.getLastD 0 := by
  have h1 : n - 1 < e.length := by omega
  rw [List.getLastD_eq_getLast?, List.getLast?_eq_getElem?, hl]
  simp [List.getD_eq_getElem?_getD]

theorem lfsr_facts (poly cws : List Nat) (n : Nat) (hn : 0 < n) (hpl : poly.length = n) :
    (DMEnc.lfsr DMEnc.tabMul poly n cws).length = n ∧ Bytes (DMEnc.lfsr DMEnc.tabMul poly n cws) := by
  unfold DMEnc.lfsr
  have gen : ∀ (cs : List Nat) (e0 : List Nat), e0.length = n → Bytes e0 →
      (cs.foldl (DMEnc.eccStep DMEnc.tabMul poly) e0).length = n ∧ Bytes (cs.foldl (DMEnc.eccStep DMEnc.tabMul poly) e0) := by
    intro cs
    induction cs with
    | nil => intro e0 h1 h2; exact ⟨h1, h2⟩
    | cons c cs ih =>
      intro e0 h1 h2
      exact ih _ (eccStep_length poly e0 c n hn h1 hpl) (eccStep_bytes poly e0 c h2)
  exact gen cws _ (by simp) (bytes_replicate n)

/-! ### the generator table over the reference tables, and what `createECCBlock` can return -/

theorem findTable_lt (n t : Nat) (h : DMEnc.findTable n DMRef.parityLengths 0 = some t) :
    t < 16 ∧ DMRef.parityLengths.getD t 0 = n := by
  obtain ⟨_, h2⟩ := findTable_some n _ 0 t h
  rw [Nat.sub_zero] at h2
  have hlt : t < DMRef.parityLengths.length := (List.getElem?_eq_some_iff.mp h2).1
  exact ⟨hlt, by rw [List.getD_eq_getElem?_getD, h2]; rfl⟩

theorem factor_rows : ∀ t : Fin 16, (DMRef.factorTable.getD t []).length = DMRef.parityLengths.getD t 0 ∧
    (DMRef.factorTable.getD t []).all (· < 256) = true ∧ 0 < DMRef.parityLengths.getD t 0 := by
  intro t
  have hpos : ∀ t : Fin 16, 0 < DMRef.parityLengths.getD t 0 := by decide
  have ht : (t : Nat) < DMRef.parityLengths.length := t.isLt
  -- row `t` is the generator polynomial of parity length `n` without its leading coefficient
  generalize hn : DMRef.parityLengths.getD t 0 = n
  have hrow : DMRef.factorTable.getD t [] = (DMRef.genPoly n).take n := by
    rw [← hn, DMRef.factorTable, List.getD_eq_getElem?_getD, List.getD_eq_getElem?_getD, List.getElem?_map,
      List.getElem?_eq_getElem ht]
    rfl
  rw [hrow, List.length_take, DMProofs.genPoly_length, List.all_eq_true]
  refine ⟨by omega, fun x hx => ?_, hn ▸ hpos t⟩
  simpa using DMProofs.genPoly_bytes n x (List.mem_of_mem_take hx)

theorem factor_row (n t : Nat) (h : DMEnc.findTable n DMRef.parityLengths 0 = some t) :
    ∃ poly, DMRef.factorTable[t]? = some poly ∧ poly.length = n ∧ Bytes poly ∧ poly.all (· < 256) = true ∧ 0 < n := by
  obtain ⟨ht16, htn⟩ := findTable_lt n t h
  obtain ⟨hrl, hrb, hr0⟩ := factor_rows ⟨t, ht16⟩
  simp only [] at hrl hrb hr0
  rw [htn] at hrl hr0
  have ht : t < DMRef.factorTable.length := by rw [DMRef.factorTable, List.length_map]; exact ht16
  exact ⟨_, by rw [List.getD_eq_getElem?_getD, List.getElem?_eq_getElem ht]; rfl, hrl,
    fun x hx => by simpa using List.all_eq_true.mp hrb x hx, hrb, hr0⟩

theorem createECCBlock_res (cws : List Nat) (n : Nat) :
    (∃ e, DMEnc.createECCBlock DMRef.parityLengths DMRef.factorTable cws n = .ok e ∧ e.length = n ∧ n ∈ DMRef.parityLengths) ∨
    (DMEnc.createECCBlock DMRef.parityLengths DMRef.factorTable cws n = .error .writer ∧ n ∉ DMRef.parityLengths) := by
  unfold DMEnc.createECCBlock
  cases hft : DMEnc.findTable n DMRef.parityLengths 0 with
  | none =>
    right
    refine ⟨rfl, ?_⟩
    intro hmem
    have : ∀ (fs : List Nat) (a : Nat), n ∈ fs → DMEnc.findTable n fs a ≠ none := by
      intro fs
      induction fs with
      | nil => intro a h; cases h
      | cons f fs ih =>
        intro a h
        unfold DMEnc.findTable
        by_cases hf : f = n
        · simp [hf]
        · simp only [hf, if_false]
          exact ih (a + 1) (by rcases List.mem_cons.mp h with h | h; exact absurd h.symm hf; exact h)
    exact this _ 0 hmem hft
  | some t =>
    left
    obtain ⟨poly, hrow, hrl, -, hrb, hr0⟩ := factor_row n t hft
    have hmem : n ∈ DMRef.parityLengths := by
      obtain ⟨_, h2⟩ := findTable_some n _ 0 t hft
      exact List.mem_of_getElem? h2
    simp only [hrow]
    have htake : poly.take n = poly := List.take_of_length_le (by omega)
    by_cases hemp : cws.isEmpty = true
    · exact ⟨List.replicate n 0, by simp [hemp], by simp, hmem⟩
    · have h2 : ¬ n = 0 := by omega
      have h3 : ¬ poly.length < n := by omega
      refine ⟨(DMEnc.lfsr DMEnc.tabMul poly n cws).reverse, by simp only [hemp, Bool.false_eq_true, if_false, h2, h3, hrb, Bool.not_true, htake], ?_, hmem⟩
      rw [List.length_reverse]
      exact (lfsr_facts poly cws n hr0 hrl).1

/-! ### every `B`-th codeword -/

theorem everyNthAux_drop (B : Nat) : ∀ (k : Nat) (xs : List Nat),
    DMRef.everyNthAux B k xs = DMRef.everyNthAux B 0 (xs.drop k) := by
  intro k
  induction k with
  | zero => intro xs; rfl
  | succ k ih =>
    intro xs
    cases xs with
    | nil => simp [DMRef.everyNthAux]
    | cons x xs => simp only [DMRef.everyNthAux, List.drop_succ_cons]; exact ih xs

theorem everyNthAux_bytes (B : Nat) : ∀ (xs : List Nat) (k : Nat), Bytes xs → Bytes (DMRef.everyNthAux B k xs) := by
  intro xs
  induction xs with
  | nil => intro k _ x hx; cases k <;> simp [DMRef.everyNthAux] at hx
  | cons y ys ih =>
    intro k h x hx
    cases k with
    | zero =>
      simp only [DMRef.everyNthAux, List.mem_cons] at hx
      rcases hx with rfl | hx
      · exact h _ (by simp)
      · exact ih _ (fun a ha => h a (by simp [ha])) x hx
    | succ k =>
      simp only [DMRef.everyNthAux] at hx
      exact ih _ (fun a ha => h a (by simp [ha])) x hx

theorem strideFrom_bytes (B : Nat) (cws : List Nat) (b : Nat) (h : Bytes cws) : Bytes (DMEnc.strideFrom B cws b) := by
  unfold DMEnc.strideFrom DMRef.everyNth
  exact everyNthAux_bytes B _ 0 (fun x hx => h x (List.mem_of_mem_drop hx))

/-! ### two list facts of the decoder's block construction -/

theorem sum_take_succ : ∀ (cs : List Nat) (i : Nat) (hi : i < cs.length),
    (cs.take (i + 1)).sum = (cs.take i).sum + cs[i]
  | [], _, h => by simp at h
  | c :: cs, 0, _ => by simp
  | c :: cs, i + 1, h => by
    have := sum_take_succ cs i (by simpa using h)
    simp only [List.take_succ_cons, List.sum_cons, List.getElem_cons_succ] at this ⊢
    omega

theorem set_append_replicate {α : Type} (l : List α) (r : Nat) (z x : α) (hr : 0 < r) :
    (l ++ List.replicate r z).set l.length x = (l ++ [x]) ++ List.replicate (r - 1) z := by
  obtain ⟨r, rfl⟩ : ∃ k, r = k + 1 := ⟨r - 1, by omega⟩
  simp [List.replicate_succ]

end Gzx.GoM
