/-
  Property C19 — lemmas for `Obligations/K19P.lean`: the REGENERATED perspective kernels
  (`Gzx.Gen.K19.squareToQuad / buildAdjoint / times / transformPoints`, translator kind `funcn`: float64 as an abstract
  number type with operations `ops`) against `Model/Perspective.lean`, which is written over the type classes
  `+ - * /`, `0`, `1`, decidable `=`.

  `FieldLike ops`: the operations structure IS the type-class arithmetic of the carrier.  It holds for exact rationals
  (`ratOps_fieldLike`, what the driver computes with) and, in `GzxM/K19.lean`, for every field (what the algebra
  theorems of `GzxM/Perspective.lean` are about) — so the same generated syntax is instantiated with Go's float64
  (`floatOps`), with `Rat`, and with an arbitrary field.
  `loop_pairs`, `loop_zip`: the stride-2 counted loop of `TransformPoints` and the two-slice loop of `TransformPointsXY` for
  an arbitrary body; `transformXYLoop_eq`: the model's `transformXYLoop` in closed form.  Core Lean only.
-/
import Gzx.GoMNum
import Gzx.Proofs.GoMTie
import Gzx.Model.Perspective
set_option linter.unusedSectionVars false
namespace Gzx.K19
open Gzx Gzx.GoM Gzx.Perspective

variable {α : Type} [Add α] [Sub α] [Mul α] [Div α] [Zero α] [One α] [DecidableEq α]

/-- the operations structure of a regenerated kernel is the arithmetic of the carrier's type classes -/
structure FieldLike (ops : NumOps α) : Prop where
  add : ∀ a b, ops.add a b = a + b
  sub : ∀ a b, ops.sub a b = a - b
  mul : ∀ a b, ops.mul a b = a * b
  div : ∀ a b, ops.div a b = a / b
  zero : ops.ofInt 0 = 0
  one : ops.ofInt 1 = 1
  eq : ∀ a b, ops.eq a b = decide (a = b)

/-- a `*PerspectiveTransform` result of a regenerated kernel: the fields in the order of the Go struct -/
def tup (p : PT α) : α × α × α × α × α × α × α × α × α :=
  (p.a11, p.a21, p.a31, p.a12, p.a22, p.a32, p.a13, p.a23, p.a33)

theorem ratOps_fieldLike : FieldLike ratOps :=
  ⟨fun _ _ => rfl, fun _ _ => rfl, fun _ _ => rfl, fun _ _ => rfl, rfl, rfl, fun _ _ => rfl⟩

/-- `for i := 0; i < len-1; i += 2 { points[i], points[i+1] = f(points[i], points[i+1]) }` for an arbitrary body -/
theorem loop_pairs {F : Type} (f : F → F → F × F) (g : List F → List F)
    (hg2 : ∀ x y rest, g (x :: y :: rest) = (f x y).1 :: (f x y).2 :: g rest)
    (hg1 : ∀ l, l.length ≤ 1 → g l = l)
    (body : Int → List F → Ctl (List F) (List F))
    (hstep : ∀ (done : List F) (x y : F) (rest : List F),
      body ((done.length : Nat) : Int) (done ++ x :: y :: rest) = .next (done ++ (f x y).1 :: (f x y).2 :: rest)) :
    ∀ (rest done : List F) (n : Nat), n = rest.length / 2 →
      loop body 2 n ((done.length : Nat) : Int) (done ++ rest) = .next (done ++ g rest) := by
  have key : ∀ rest : List F,
      (∀ done : List F, loop body 2 (rest.length / 2) ((done.length : Nat) : Int) (done ++ rest) = .next (done ++ g rest)) ∧
      (∀ (done : List F) (z : F), loop body 2 ((z :: rest).length / 2) ((done.length : Nat) : Int) (done ++ z :: rest) =
        .next (done ++ g (z :: rest))) := by
    intro rest
    induction rest with
    | nil => exact ⟨fun done => by simp [loop, hg1], fun done z => by simp [loop, hg1]⟩
    | cons y rest ih =>
      refine ⟨fun done => ih.2 done y, fun done z => ?_⟩
      have e : (z :: y :: rest).length / 2 = rest.length / 2 + 1 := by simp only [List.length_cons]; omega
      rw [e, loop, hstep, hg2]
      have := ih.1 (done ++ [(f z y).1, (f z y).2])
      simp only [List.length_append, List.length_cons, List.length_nil, List.append_assoc, List.cons_append, List.nil_append] at this
      have e2 : (((done.length + (0 + 1 + 1) : Nat) : Int)) = ((done.length : Nat) : Int) + 2 := by omega
      rw [e2] at this
      simp only [this]
  intro rest done n hn
  subst hn
  exact (key rest).1 done

/-- `for i := 0; i < len(xs); i++ { xs[i], ys[i] = f(xs[i], ys[i]) }` for an arbitrary body: the model's
    `transformXYLoop` shape — a panic as soon as `ys` is exhausted first -/
theorem loop_zip {F : Type} (f : F → F → F × F)
    (body : Int → List F × List F → Ctl (List F × List F) (List F × List F))
    (hstep : ∀ (dx dy : List F) (x y : F) (xs ys : List F), dx.length = dy.length →
      body ((dx.length : Nat) : Int) (dx ++ x :: xs, dy ++ y :: ys) = .next (dx ++ (f x y).1 :: xs, dy ++ (f x y).2 :: ys))
    (hpanic : ∀ (dx dy : List F) (x : F) (xs : List F), dx.length = dy.length →
      body ((dx.length : Nat) : Int) (dx ++ x :: xs, dy) = .panic oob) :
    ∀ (xs ys dx dy : List F), dx.length = dy.length →
      loop body 1 xs.length ((dx.length : Nat) : Int) (dx ++ xs, dy ++ ys) =
        if xs.length ≤ ys.length then
          .next (dx ++ (List.zipWith (fun x y => (f x y).1) xs ys), dy ++ (List.zipWith (fun x y => (f x y).2) xs ys) ++ ys.drop xs.length)
        else .panic oob := by
  intro xs
  induction xs with
  | nil => intro ys dx dy _; simp [loop]
  | cons x xs ih =>
    intro ys dx dy hl
    cases ys with
    | nil =>
      simp only [List.length_cons, List.length_nil, loop, List.append_nil]
      rw [hpanic dx dy x xs hl]
      simp
    | cons y ys =>
      simp only [List.length_cons, loop]
      rw [hstep dx dy x y xs ys hl]
      have := ih ys (dx ++ [(f x y).1]) (dy ++ [(f x y).2]) (by simp [hl])
      simp only [List.length_append, List.length_cons, List.length_nil, List.append_assoc, List.cons_append, List.nil_append] at this
      have e2 : (((dx.length + (0 + 1) : Nat) : Int)) = ((dx.length : Nat) : Int) + 1 := by omega
      rw [e2] at this
      simp only [this]
      by_cases hle : xs.length ≤ ys.length
      · simp [hle]
      · simp [hle]

theorem transformXYLoop_eq (p : PT α) : ∀ (xs ys : List α),
    p.transformXYLoop xs ys =
      if xs.length ≤ ys.length then
        .ok (List.zipWith (fun x y => (p.apply x y).1) xs ys, List.zipWith (fun x y => (p.apply x y).2) xs ys ++ ys.drop xs.length)
      else .error (.panic "yValues[i]: index out of range") := by
  intro xs
  induction xs with
  | nil => intro ys; simp [PT.transformXYLoop]
  | cons x xs ih =>
    intro ys
    cases ys with
    | nil => simp [PT.transformXYLoop]
    | cons y ys =>
      simp only [PT.transformXYLoop, ih ys, List.length_cons]
      by_cases hle : xs.length ≤ ys.length
      · simp [hle]
      · simp [hle]

theorem transformPoints_length (p : PT α) : ∀ l : List α, (p.transformPoints l).length = l.length
  | [] => rfl
  | [_] => rfl
  | x :: y :: rest => by
    simp only [PT.transformPoints, List.length_cons]
    rw [transformPoints_length p rest]

end Gzx.K19
