/-
  32-bit word primitives of the C16 word model as `Nat.testBit` facts: `not32`, `shl32`, `neg32`, the range masks of
  SetRange / IsRange, `rev32` (Reverse32), `tz32` (TrailingZeros32) and the `lowBit` / `highBit` loops.
-/
import Gzx.Model.Bits
namespace Gzx.Bits
open Gzx

theorem W32_eq : W32 = 2 ^ 32 := by decide

theorem testBit_not32 (v j : Nat) : (not32 v).testBit j = (v.testBit j ^^ decide (j < 32)) := by
  unfold not32
  rw [Nat.testBit_xor]
  have : (4294967295 : Nat) = 2 ^ 32 - 1 := by decide
  rw [this, Nat.testBit_two_pow_sub_one]

theorem not32_lt {v : Nat} (h : v < W32) : not32 v < W32 := by
  unfold not32
  rw [W32_eq] at *
  exact Nat.xor_lt_two_pow h (by decide)

theorem and_two_pow_ne_zero (w k : Nat) : ((w &&& 2 ^ k) != 0) = w.testBit k := by
  cases h : w.testBit k
  · have : w &&& 2 ^ k = 0 := by
      apply Nat.eq_of_testBit_eq
      intro i
      rw [Nat.testBit_and, Nat.testBit_two_pow, Nat.zero_testBit]
      by_cases hki : k = i
      · subst hki; simp [h]
      · simp [hki]
    simp [this]
  · have : (w &&& 2 ^ k).testBit k = true := by
      rw [Nat.testBit_and, Nat.testBit_two_pow]; simp [h]
    have hne : w &&& 2 ^ k ≠ 0 := by
      intro h0; rw [h0, Nat.zero_testBit] at this; cases this
    simp [hne]

theorem shr_and_one_ne_zero (w k : Nat) : (((w >>> k) &&& 1) != 0) = w.testBit k := by
  unfold Nat.testBit
  rw [Nat.and_comm]

theorem testBit_shl32 (v k j : Nat) :
    (shl32 v k).testBit j = (decide (j < 32) && (decide (k ≤ j) && v.testBit (j - k))) := by
  unfold shl32
  rw [W32_eq, Nat.testBit_mod_two_pow, Nat.testBit_shiftLeft]

theorem shl32_lt (v k : Nat) : shl32 v k < W32 := by
  unfold shl32; exact Nat.mod_lt _ (by decide)

theorem two_pow_lt_W32 {b : Nat} (hb : b < 32) : 2 ^ b < W32 := by
  rw [W32_eq]; exact Nat.pow_lt_pow_right (by decide) hb

theorem or_lt_W32 {x y : Nat} (hx : x < W32) (hy : y < W32) : x ||| y < W32 := by
  rw [W32_eq] at *; exact Nat.or_lt_two_pow hx hy

theorem xor_lt_W32 {x y : Nat} (hx : x < W32) (hy : y < W32) : x ^^^ y < W32 := by
  rw [W32_eq] at *; exact Nat.xor_lt_two_pow hx hy

theorem and_lt_W32 {x y : Nat} (hx : x < W32) : x &&& y < W32 :=
  Nat.lt_of_le_of_lt Nat.and_le_left hx

theorem one_shl_lt_W32 {b : Nat} (hb : b < 32) : 1 <<< b < W32 := by
  rw [Nat.one_shiftLeft]; exact two_pow_lt_W32 hb

theorem testBit_ge32 {w : Nat} (hw : w < W32) {j : Nat} (hj : 32 ≤ j) : w.testBit j = false := by
  apply Nat.testBit_lt_two_pow
  have : 2 ^ 32 ≤ 2 ^ j := Nat.pow_le_pow_right (by decide) hj
  rw [W32_eq] at hw; omega

theorem shr_lt_W32 {w : Nat} (hw : w < W32) (k : Nat) : w >>> k < W32 := by
  rw [Nat.shiftRight_eq_div_pow]
  exact Nat.lt_of_le_of_lt (Nat.div_le_self _ _) hw

/-! ### range masks -/

theorem testBit_pow_sub_pow (f l j : Nat) (hfl : f ≤ l + 1) :
    (2 ^ (l + 1) - 2 ^ f).testBit j = (decide (f ≤ j) && decide (j < l + 1)) := by
  have h1 : 2 ^ (l + 1) - 2 ^ f = (2 ^ (l + 1 - f) - 1) * 2 ^ f := by
    rw [Nat.sub_mul, ← Nat.pow_add, Nat.one_mul]
    congr 2; omega
  rw [h1, Nat.testBit_mul_two_pow, Nat.testBit_two_pow_sub_one]
  by_cases hfj : f ≤ j
  · simp [hfj]; omega
  · simp [hfj]

/-- first and last bit of word `i` of the range `start ..= e` (as `rangeMask` chooses them) are in order -/
theorem rangeBits_le {start e i : Nat} (hse : start ≤ e) :
    (if i = start / 32 then start % 32 else 0) ≤ (if i = e / 32 then e % 32 else 31) + 1 := by
  split <;> split <;> omega

theorem testBit_rangeMask (start e i j : Nat) (hfi : start / 32 ≤ i) (hil : i ≤ e / 32)
    (hse : start ≤ e) (hj : j < 32) :
    (WArr.rangeMask start e (start / 32) (e / 32) i).testBit j =
      (decide (start ≤ i * 32 + j) && decide (i * 32 + j ≤ e)) := by
  unfold WArr.rangeMask
  simp only
  generalize hf : (if i = start / 32 then start % 32 else 0) = f
  generalize hl : (if i = e / 32 then e % 32 else 31) = l
  have hl31 : l ≤ 31 := by rw [← hl]; split <;> omega
  have hfl : f ≤ l + 1 := by
    rw [← hf, ← hl]; exact rangeBits_le hse
  have e1 : 2 <<< l = 2 ^ (l + 1) := by rw [Nat.shiftLeft_eq, Nat.pow_succ, Nat.mul_comm]
  rw [e1, Nat.one_shiftLeft]
  have hlt : 2 ^ (l + 1) - 2 ^ f < W32 := by
    have : 2 ^ (l + 1) ≤ 2 ^ 32 := Nat.pow_le_pow_right (by decide) (by omega)
    have : 0 < 2 ^ f := Nat.pow_pos (by decide)
    rw [W32_eq]; omega
  rw [Nat.mod_eq_of_lt hlt, testBit_pow_sub_pow f l j hfl]
  rw [Bool.eq_iff_iff]
  simp only [Bool.and_eq_true, decide_eq_true_eq]
  rw [← hf, ← hl]
  split <;> split <;> omega

theorem rangeMask_lt (start e f l i : Nat) : WArr.rangeMask start e f l i < W32 := by
  unfold WArr.rangeMask; exact Nat.mod_lt _ (by decide)

theorem testBit_neg32_two_pow (k j : Nat) (hk : k < 32) :
    (neg32 (2 ^ k)).testBit j = (decide (k ≤ j) && decide (j < 32)) := by
  unfold neg32
  have hlt : 2 ^ k < W32 := by rw [W32_eq]; exact Nat.pow_lt_pow_right (by decide) hk
  have hpos : 0 < 2 ^ k := Nat.pow_pos (by decide)
  rw [Nat.mod_eq_of_lt hlt, Nat.mod_eq_of_lt (by omega), W32_eq]
  exact testBit_pow_sub_pow k 31 j (by omega)

theorem neg32_lt (v : Nat) : neg32 v < W32 := by
  unfold neg32; exact Nat.mod_lt _ (by decide)

/-! ### Reverse32 -/

theorem revBits_lt (n w : Nat) : revBits n w < 2 ^ n := by
  induction n generalizing w with
  | zero => simp [revBits]
  | succ n ih =>
    unfold revBits
    have h1 := ih (w / 2)
    have h2 : w % 2 < 2 := Nat.mod_lt _ (by decide)
    have h3 : w % 2 * 2 ^ n ≤ 1 * 2 ^ n := Nat.mul_le_mul_right _ (by omega)
    rw [Nat.pow_succ]; omega

theorem testBit_revBits (n w j : Nat) :
    (revBits n w).testBit j = (decide (j < n) && w.testBit (n - 1 - j)) := by
  induction n generalizing w j with
  | zero => simp [revBits]
  | succ n ih =>
    unfold revBits
    rw [Nat.mul_comm, Nat.testBit_two_pow_mul_add _ (revBits_lt n (w / 2))]
    by_cases hjn : j < n
    · simp only [hjn, if_true]
      rw [ih, Nat.testBit_div_two]
      have : n - 1 - j + 1 = n + 1 - 1 - j := by omega
      rw [this]; simp [hjn]; omega
    · simp only [hjn, if_false]
      by_cases hj : j = n
      · subst hj
        have : j + 1 - 1 - j = 0 := by omega
        rw [this]; simp [Nat.testBit_zero]
      · have hlt : ¬ j < n + 1 := by omega
        have h2 : w % 2 < 2 ^ (j - n) := by
          have : w % 2 < 2 := Nat.mod_lt _ (by decide)
          have : 2 ^ 1 ≤ 2 ^ (j - n) := Nat.pow_le_pow_right (by decide) (by omega)
          omega
        simp [hlt, Nat.testBit_lt_two_pow h2]

theorem testBit_rev32 (w j : Nat) : (rev32 w).testBit j = (decide (j < 32) && w.testBit (31 - j)) := by
  unfold rev32; rw [testBit_revBits]

theorem rev32_lt (w : Nat) : rev32 w < W32 := by
  rw [W32_eq]; exact revBits_lt 32 w

/-! ### TrailingZeros32 -/

theorem ctz_spec (fuel w : Nat) (hw : w ≠ 0) (hlt : w < 2 ^ fuel) :
    w.testBit (ctz fuel w) = true ∧ ∀ j, j < ctz fuel w → w.testBit j = false := by
  induction fuel generalizing w with
  | zero => simp at hlt; omega
  | succ f ih =>
    unfold ctz
    by_cases h1 : w % 2 = 1
    · simp only [h1, if_true]
      refine ⟨?_, fun j hj => by omega⟩
      rw [Nat.testBit_zero]; simp [h1]
    · simp only [h1, if_false]
      have hw2 : w / 2 ≠ 0 := by omega
      have hlt2 : w / 2 < 2 ^ f := by rw [Nat.pow_succ] at hlt; omega
      obtain ⟨a, b⟩ := ih (w / 2) hw2 hlt2
      constructor
      · rw [Nat.add_comm, ← Nat.testBit_div_two]; exact a
      · intro j hj
        cases j with
        | zero => rw [Nat.testBit_zero]; simp; omega
        | succ j => rw [← Nat.testBit_div_two]; exact b j (by omega)

theorem tz32_spec (w : Nat) (hw : w ≠ 0) (hlt : w < W32) :
    w.testBit (tz32 w) = true ∧ ∀ j, j < tz32 w → w.testBit j = false :=
  ctz_spec 32 w hw (by rw [← W32_eq]; exact hlt)

theorem tz32_lt (w : Nat) (hw : w ≠ 0) (hlt : w < W32) : tz32 w < 32 := by
  have h := (tz32_spec w hw hlt).1
  false_or_by_contra
  rename_i hge
  have : w < 2 ^ (tz32 w) := by
    have : 2 ^ 32 ≤ 2 ^ tz32 w := Nat.pow_le_pow_right (by decide) (by omega)
    rw [W32_eq] at hlt; omega
  rw [Nat.testBit_lt_two_pow this] at h; cases h

/-! ### `for (theBits << (31-bit)) == 0 { bit++ }` and `for (theBits >> bit) == 0 { bit-- }` -/

theorem shl32_eq_zero_iff (w k : Nat) :
    shl32 w k = 0 ↔ ∀ j, j + k < 32 → w.testBit j = false := by
  constructor
  · intro h j hj
    have := testBit_shl32 w k (j + k)
    rw [h, Nat.zero_testBit] at this
    have e : j + k - k = j := by omega
    rw [e] at this
    have h1 : decide (j + k < 32) = true := by simpa using hj
    have h2 : decide (k ≤ j + k) = true := by simp
    rw [h1, h2] at this
    simpa using this.symm
  · intro h
    apply Nat.eq_of_testBit_eq
    intro i
    rw [testBit_shl32, Nat.zero_testBit]
    by_cases c1 : i < 32
    · by_cases c2 : k ≤ i
      · have := h (i - k) (by omega)
        simp [c1, c2, this]
      · simp [c2]
    · simp [c1]

theorem shr_eq_zero_iff (w b : Nat) : w >>> b = 0 ↔ ∀ j, b ≤ j → w.testBit j = false := by
  constructor
  · intro h j hj
    have := Nat.testBit_shiftRight (i := b) (j := j - b) w
    rw [h, Nat.zero_testBit] at this
    have e : b + (j - b) = j := by omega
    rw [e] at this; exact this.symm
  · intro h
    apply Nat.eq_of_testBit_eq
    intro i
    rw [Nat.testBit_shiftRight, Nat.zero_testBit]
    exact h _ (by omega)

theorem lowBitLoop_spec (w : Nat) : ∀ (fuel b : Nat),
    (∀ j, j < b → w.testBit j = false) → (∃ j, b ≤ j ∧ j < 32 ∧ w.testBit j = true) →
    32 ≤ fuel + b →
    b ≤ lowBitLoop fuel b w ∧ lowBitLoop fuel b w < 32 ∧ w.testBit (lowBitLoop fuel b w) = true ∧
      ∀ j, j < lowBitLoop fuel b w → w.testBit j = false := by
  intro fuel
  induction fuel with
  | zero =>
    intro b _ hex hf
    obtain ⟨j, h1, h2, _⟩ := hex; omega
  | succ fuel ih =>
    intro b hlow hex hf
    obtain ⟨j0, j1, j2, j3⟩ := hex
    unfold lowBitLoop
    by_cases hz : shl32 w (31 - b) = 0
    · rw [if_pos hz]
      have hall := (shl32_eq_zero_iff w (31 - b)).mp hz
      have hb : w.testBit b = false := hall b (by omega)
      have hne : j0 ≠ b := by intro e; rw [e, hb] at j3; cases j3
      have := ih (b + 1)
        (by intro j hj; by_cases e : j = b
            · rw [e]; exact hb
            · exact hlow j (by omega))
        ⟨j0, by omega, j2, j3⟩ (by omega)
      exact ⟨by omega, this.2.1, this.2.2.1, this.2.2.2⟩
    · rw [if_neg hz]
      have : ¬ ∀ j, j + (31 - b) < 32 → w.testBit j = false :=
        fun hh => hz ((shl32_eq_zero_iff w (31 - b)).mpr hh)
      have hbt : w.testBit b = true := by
        false_or_by_contra
        rename_i hbf
        apply this
        intro j hj
        by_cases e : j = b
        · rw [e]; simpa using hbf
        · exact hlow j (by omega)
      exact ⟨Nat.le_refl _, by omega, hbt, hlow⟩

theorem lowBit_spec (w : Nat) (hw : w ≠ 0) (hlt : w < W32) :
    lowBit w < 32 ∧ w.testBit (lowBit w) = true ∧ ∀ j, j < lowBit w → w.testBit j = false := by
  -- `tz32 w` only serves as the set bit below 32 that the loop's termination needs
  have t1 := tz32_spec w hw hlt
  have t2 := tz32_lt w hw hlt
  have := lowBitLoop_spec w 32 0 (by intro j hj; omega) ⟨tz32 w, by omega, t2, t1.1⟩ (by omega)
  exact ⟨this.2.1, this.2.2.1, this.2.2.2⟩

theorem highBitLoop_spec (w : Nat) : ∀ (fuel b : Nat),
    (∀ j, b < j → w.testBit j = false) → (∃ j, j ≤ b ∧ w.testBit j = true) → b + 1 ≤ fuel →
    highBitLoop fuel b w ≤ b ∧ w.testBit (highBitLoop fuel b w) = true ∧
      ∀ j, highBitLoop fuel b w < j → w.testBit j = false := by
  intro fuel
  induction fuel with
  | zero => intro b _ _ hf; omega
  | succ fuel ih =>
    intro b hhigh hex hf
    obtain ⟨j0, j1, j3⟩ := hex
    unfold highBitLoop
    by_cases hz : w >>> b = 0
    · rw [if_pos hz]
      have hall := (shr_eq_zero_iff w b).mp hz
      have hb : w.testBit b = false := hall b (Nat.le_refl _)
      have hne : j0 ≠ b := by intro e; rw [e, hb] at j3; cases j3
      have := ih (b - 1)
        (by intro j hj; exact hall j (by omega))
        ⟨j0, by omega, j3⟩ (by omega)
      exact ⟨by omega, this.2.1, this.2.2⟩
    · rw [if_neg hz]
      have : ¬ ∀ j, b ≤ j → w.testBit j = false :=
        fun hh => hz ((shr_eq_zero_iff w b).mpr hh)
      have hbt : w.testBit b = true := by
        false_or_by_contra
        rename_i hbf
        apply this
        intro j hj
        by_cases e : j = b
        · rw [e]; simpa using hbf
        · exact hhigh j (by omega)
      exact ⟨Nat.le_refl _, hbt, hhigh⟩

theorem highBit_spec (w : Nat) (hw : w ≠ 0) (hlt : w < W32) :
    highBit w < 32 ∧ w.testBit (highBit w) = true ∧ ∀ j, highBit w < j → w.testBit j = false := by
  have t1 := tz32_spec w hw hlt
  have t2 := tz32_lt w hw hlt
  have := highBitLoop_spec w 32 31 (by intro j hj; exact testBit_ge32 hlt (by omega))
    ⟨tz32 w, by omega, t1.1⟩ (by omega)
  have hle : highBit w ≤ 31 := this.1
  exact ⟨by omega, this.2.1, this.2.2⟩

end Gzx.Bits
