/-
  Coefficient lists (highest first) over a field with `ParamsOK prim size`: the range predicate `InR`,
  Horner evaluation `evalH` by the reference product `gmul`, `normalize` of Model/RS.lean, and how `evalH`
  behaves under xor, append, leading zeros and scaling.  The GenericGFPoly operations themselves are
  specified in Proofs/PolyOps.lean.  Helper lemmas for Properties/C04.lean.
-/
import Gzx.Model.RS
import Gzx.Proofs.GF
import Gzx.Proofs.ExceptList
namespace Gzx.Proofs.Poly
open Gzx Gzx.GF Gzx.RS Gzx.Ref.GF Gzx.Proofs.GF

/-- all symbols are field elements -/
def InR (size : Nat) (cs : List Nat) : Prop := ∀ c, c ∈ cs → c < size

theorem InR.nil {size : Nat} : InR size [] := fun _ h => by simp at h
theorem InR.cons {size c : Nat} {cs : List Nat} (hc : c < size) (h : InR size cs) : InR size (c :: cs) := by
  intro x hx
  rcases List.mem_cons.1 hx with rfl | hx
  · exact hc
  · exact h x hx
theorem InR.head {size c : Nat} {cs : List Nat} (h : InR size (c :: cs)) : c < size := h c (by simp)
theorem InR.tail {size c : Nat} {cs : List Nat} (h : InR size (c :: cs)) : InR size cs :=
  fun x hx => h x (List.mem_cons_of_mem _ hx)
theorem InR.append {size : Nat} {xs ys : List Nat} (hx : InR size xs) (hy : InR size ys) : InR size (xs ++ ys) := by
  intro c hc
  rcases List.mem_append.1 hc with h | h
  · exact hx c h
  · exact hy c h
theorem InR.replicate {size k v : Nat} (hv : v < size) : InR size (List.replicate k v) := by
  intro c hc
  rw [(List.mem_replicate.1 hc).2]; exact hv
theorem InR.take {size n : Nat} {xs : List Nat} (h : InR size xs) : InR size (xs.take n) :=
  fun c hc => h c (List.mem_of_mem_take hc)
theorem InR.drop {size n : Nat} {xs : List Nat} (h : InR size xs) : InR size (xs.drop n) :=
  fun c hc => h c (List.mem_of_mem_drop hc)

/-- Horner evaluation at `a` starting from the accumulator `acc` -/
def evalFrom (prim a acc : Nat) (cs : List Nat) : Nat := cs.foldl (fun r c => gmul prim a r ^^^ c) acc

/-- value of the polynomial with coefficient list `cs` (highest first) at `a` -/
def evalH (prim a : Nat) (cs : List Nat) : Nat := evalFrom prim a 0 cs

/-- `a^k` -/
def gpow (prim a : Nat) : Nat → Nat
  | 0 => 1
  | k + 1 => gmul prim (gpow prim a k) a

theorem evalFrom_nil (prim a acc : Nat) : evalFrom prim a acc [] = acc := rfl
theorem evalFrom_cons (prim a acc c : Nat) (cs : List Nat) :
    evalFrom prim a acc (c :: cs) = evalFrom prim a (gmul prim a acc ^^^ c) cs := rfl
theorem evalFrom_append (prim a acc : Nat) (xs ys : List Nat) :
    evalFrom prim a acc (xs ++ ys) = evalFrom prim a (evalFrom prim a acc xs) ys := by
  unfold evalFrom; rw [List.foldl_append]

theorem zipWith_zeros_left : ∀ (ys : List Nat), List.zipWith (· ^^^ ·) (List.replicate ys.length 0) ys = ys
  | [] => rfl
  | y :: ys => by simp [List.replicate_succ, zipWith_zeros_left ys]

/-! ### `normalize` -/

theorem normalize_zero_cons (cs : List Nat) : normalize (0 :: cs) = normalize cs := by
  unfold normalize
  rw [List.dropWhile_cons]
  simp

theorem normalize_of_head_ne_zero (c : Nat) (cs : List Nat) (h : c ≠ 0) : normalize (c :: cs) = c :: cs := by
  unfold normalize
  have : (c == 0) = false := by simpa using h
  rw [List.dropWhile_cons, this]
  simp

/-- how `normalize` relates its argument to its result: `[]` gives `[0]`, a leading zero is dropped, a
    non-zero head ends the stripping -/
theorem normalize_induction {P : List Nat → List Nat → Prop} (nil : P [] [0])
    (zero : ∀ cs r, P cs r → P (0 :: cs) r) (stop : ∀ c cs, c ≠ 0 → P (c :: cs) (c :: cs)) :
    ∀ cs, P cs (normalize cs)
  | [] => nil
  | c :: cs => by
    by_cases h : c = 0
    · subst h
      rw [normalize_zero_cons]
      exact zero cs _ (normalize_induction nil zero stop cs)
    · rw [normalize_of_head_ne_zero c cs h]
      exact stop c cs h

theorem InR_normalize {size : Nat} (hs : 0 < size) (cs : List Nat) (h : InR size cs) : InR size (normalize cs) :=
  normalize_induction (P := fun cs r => InR size cs → InR size r) (fun _ => InR.cons hs InR.nil)
    (fun _ _ ih h => ih h.tail) (fun _ _ _ h => h) cs h

theorem normalize_ne_nil (cs : List Nat) : normalize cs ≠ [] :=
  normalize_induction (P := fun _ r => r ≠ []) (by simp) (fun _ _ ih => ih) (fun _ _ _ => by simp) cs

theorem normalize_length_le' (cs : List Nat) : (normalize cs).length ≤ max 1 cs.length :=
  normalize_induction (P := fun cs r => r.length ≤ max 1 cs.length) (Nat.le_refl _)
    (fun _ _ ih => by rw [List.length_cons]; omega) (fun _ _ _ => by omega) cs

theorem normalize_length_le (cs : List Nat) (h : cs ≠ []) : (normalize cs).length ≤ cs.length := by
  have := normalize_length_le' cs
  have := List.length_pos_iff.2 h
  omega

theorem mkPoly_ok (cs : List Nat) (h : cs ≠ []) : mkPoly cs = .ok (normalize cs) := by
  unfold mkPoly
  cases cs with
  | nil => exact absurd rfl h
  | cons c cs => rfl

section field
variable {prim size : Nat} (ok : ParamsOK prim size)
include ok

theorem zero_lt_size : 0 < size := by have := ok.2.1; omega

theorem gpow_lt (a : Nat) : ∀ k, gpow prim a k < size
  | 0 => one_lt_size ok
  | _ + 1 => gmul_lt ok _ _

theorem gpow_ne_zero (y : Nat) (hy : y < size) (hy0 : y ≠ 0) : ∀ n, gpow prim y n ≠ 0
  | 0 => by show (1 : Nat) ≠ 0; decide
  | n + 1 => gmul_ne_zero ok _ _ (gpow_lt ok y n) hy (gpow_ne_zero y hy hy0 n) hy0

theorem gpow_succ_comm (X : Nat) (hX : X < size) (i : Nat) :
    gpow prim X (i + 1) = gmul prim X (gpow prim X i) := by
  show gmul prim (gpow prim X i) X = _
  exact gmul_comm ok _ _ (gpow_lt ok X i) hX

theorem gpow_add (x : Nat) (hx : x < size) (i : Nat) : ∀ j, gpow prim x (i + j) = gmul prim (gpow prim x i) (gpow prim x j)
  | 0 => by
    show gpow prim x i = gmul prim (gpow prim x i) 1
    rw [gmul_one_right ok _ (gpow_lt ok x i)]
  | j + 1 => by
    show gmul prim (gpow prim x (i + j)) x = gmul prim (gpow prim x i) (gmul prim (gpow prim x j) x)
    rw [gpow_add x hx i j, gmul_assoc ok _ _ _ (gpow_lt ok x i) (gpow_lt ok x j) hx]

theorem gpow_mul_inv (x a : Nat) (hx : x < size) (ha : a < size) (h : gmul prim x a = 1) :
    ∀ j, gmul prim (gpow prim x j) (gpow prim a j) = 1
  | 0 => gmul_one_left ok 1 (one_lt_size ok)
  | j + 1 => by
    show gmul prim (gmul prim (gpow prim x j) x) (gmul prim (gpow prim a j) a) = 1
    have hxj := gpow_lt ok x j
    have haj := gpow_lt ok a j
    rw [gmul_assoc ok _ x _ hxj hx (gmul_lt ok _ _), ← gmul_assoc ok x _ a hx haj ha,
      gmul_comm ok x _ hx haj, gmul_assoc ok _ x a haj hx ha, h, gmul_one_right ok _ haj,
      gpow_mul_inv x a hx ha h j]

theorem gpow_sub (x a : Nat) (hx : x < size) (ha : a < size) (h : gmul prim x a = 1) (m j : Nat) (hj : j ≤ m) :
    gpow prim x (m - j) = gmul prim (gpow prim x m) (gpow prim a j) := by
  have e : m = (m - j) + j := by omega
  have h1 := gpow_add ok x hx (m - j) j
  rw [← e] at h1
  rw [h1, gmul_assoc ok _ _ _ (gpow_lt ok x _) (gpow_lt ok x j) (gpow_lt ok a j),
    gpow_mul_inv ok x a hx ha h j, gmul_one_right ok _ (gpow_lt ok x _)]

theorem gpow_zero_succ (k : Nat) : gpow prim 0 (k + 1) = 0 := gmul_zero_right ok _


theorem gpow_pw (m : Nat) : ∀ k, gpow prim (pw prim size m) k = pw prim size (m * k)
  | 0 => rfl
  | k + 1 => by
    show gmul prim (gpow prim (pw prim size m) k) (pw prim size m) = _
    rw [gpow_pw m k, gmul_pw_pw ok, Nat.mul_succ]

theorem evalFrom_lt (a : Nat) : ∀ (cs : List Nat) (acc : Nat), acc < size → InR size cs →
    evalFrom prim a acc cs < size
  | [], _, h, _ => h
  | c :: cs, acc, _, hc => by
    rw [evalFrom_cons]
    exact evalFrom_lt a cs _ (xor_lt_size ok _ _ (gmul_lt ok _ _) hc.head) hc.tail

theorem evalH_lt (a : Nat) (cs : List Nat) (h : InR size cs) : evalH prim a cs < size :=
  evalFrom_lt ok a cs 0 (zero_lt_size ok) h

theorem evalFrom_xor (a : Nat) : ∀ (cs ds : List Nat) (x y : Nat), cs.length = ds.length →
    x < size → y < size → InR size cs → InR size ds →
    evalFrom prim a (x ^^^ y) (List.zipWith (· ^^^ ·) cs ds) = evalFrom prim a x cs ^^^ evalFrom prim a y ds
  | [], [], _, _, _, _, _, _, _ => rfl
  | [], _ :: _, _, _, h, _, _, _, _ => by simp at h
  | _ :: _, [], _, _, h, _, _, _, _ => by simp at h
  | c :: cs, d :: ds, x, y, hl, hx, hy, hc, hd => by
    simp only [List.zipWith_cons_cons, evalFrom_cons]
    have e : gmul prim a (x ^^^ y) ^^^ (c ^^^ d) = (gmul prim a x ^^^ c) ^^^ (gmul prim a y ^^^ d) := by
      rw [gmul_xor_right ok a x y hx hy]
      ac_rfl
    rw [e]
    exact evalFrom_xor a cs ds _ _ (by simpa using hl)
      (xor_lt_size ok _ _ (gmul_lt ok _ _) hc.head) (xor_lt_size ok _ _ (gmul_lt ok _ _) hd.head) hc.tail hd.tail

theorem evalFrom_zeros (a : Nat) (ha : a < size) : ∀ (k acc : Nat), acc < size →
    evalFrom prim a acc (List.replicate k 0) = gmul prim (gpow prim a k) acc
  | 0, acc, h => by simp [evalFrom_nil, gpow, gmul_one_left ok acc h]
  | k + 1, acc, h => by
    rw [List.replicate_succ, evalFrom_cons, Nat.xor_zero, evalFrom_zeros a ha k _ (gmul_lt ok _ _)]
    show _ = gmul prim (gmul prim (gpow prim a k) a) acc
    rw [gmul_assoc ok _ _ _ (gpow_lt ok a k) ha h]

/-- an accumulator contributes `a^n · acc` -/
theorem evalFrom_split (a : Nat) (ha : a < size) (ys : List Nat) (acc : Nat) (hacc : acc < size)
    (hy : InR size ys) :
    evalFrom prim a acc ys = gmul prim (gpow prim a ys.length) acc ^^^ evalH prim a ys := by
  have := evalFrom_xor ok a (List.replicate ys.length 0) ys acc 0 (by simp) hacc (zero_lt_size ok)
    (InR.replicate (zero_lt_size ok)) hy
  rw [Nat.xor_zero, zipWith_zeros_left, evalFrom_zeros ok a ha _ _ hacc] at this
  exact this

theorem evalH_append (a : Nat) (ha : a < size) (xs ys : List Nat) (hx : InR size xs) (hy : InR size ys) :
    evalH prim a (xs ++ ys) = gmul prim (gpow prim a ys.length) (evalH prim a xs) ^^^ evalH prim a ys := by
  unfold evalH
  rw [evalFrom_append, evalFrom_split ok a ha ys _ (evalFrom_lt ok a xs 0 (zero_lt_size ok) hx) hy]
  rfl

theorem evalH_cons_eq_evalFrom (a c : Nat) (cs : List Nat) : evalH prim a (c :: cs) = evalFrom prim a c cs := by
  unfold evalH
  rw [evalFrom_cons, gmul_zero_right ok, Nat.zero_xor]

theorem evalH_cons (a : Nat) (ha : a < size) (c : Nat) (cs : List Nat) (hc : c < size) (hcs : InR size cs) :
    evalH prim a (c :: cs) = gmul prim (gpow prim a cs.length) c ^^^ evalH prim a cs := by
  have := evalH_append ok a ha [c] cs (InR.cons hc InR.nil) hcs
  rw [List.singleton_append] at this
  rw [this]
  congr 2
  exact evalH_cons_eq_evalFrom ok a c []

theorem evalH_zero_cons (a : Nat) (cs : List Nat) : evalH prim a (0 :: cs) = evalH prim a cs :=
  evalH_cons_eq_evalFrom ok a 0 cs

theorem evalH_zero_poly (a : Nat) : evalH prim a [0] = 0 := by
  rw [evalH_zero_cons ok]; rfl

theorem evalH_replicate_zero (a : Nat) : ∀ k, evalH prim a (List.replicate k 0) = 0
  | 0 => rfl
  | k + 1 => by rw [List.replicate_succ, evalH_zero_cons ok, evalH_replicate_zero a k]

theorem evalH_zeros_append (a : Nat) (cs : List Nat) : ∀ k, evalH prim a (List.replicate k 0 ++ cs) = evalH prim a cs
  | 0 => by simp
  | k + 1 => by
    rw [List.replicate_succ, List.cons_append, evalH_zero_cons ok, evalH_zeros_append a cs k]

theorem evalH_normalize (a : Nat) (cs : List Nat) : evalH prim a (normalize cs) = evalH prim a cs :=
  normalize_induction (P := fun cs r => evalH prim a r = evalH prim a cs) (evalH_zero_cons ok a [])
    (fun cs r ih => by rw [ih, evalH_zero_cons ok]) (fun _ _ _ => rfl) cs

theorem evalFrom_scale (a s : Nat) (ha : a < size) (hs : s < size) : ∀ (cs : List Nat) (acc : Nat),
    acc < size → InR size cs →
    evalFrom prim a (gmul prim s acc) (cs.map (gmul prim s)) = gmul prim s (evalFrom prim a acc cs)
  | [], _, _, _ => rfl
  | c :: cs, acc, hacc, hc => by
    rw [List.map_cons, evalFrom_cons, evalFrom_cons]
    have e : gmul prim a (gmul prim s acc) ^^^ gmul prim s c = gmul prim s (gmul prim a acc ^^^ c) := by
      rw [gmul_xor_right ok s _ _ (gmul_lt ok _ _) hc.head]
      congr 1
      rw [← gmul_assoc ok a s acc ha hs hacc, gmul_comm ok a s ha hs, gmul_assoc ok s a acc hs ha hacc]
    rw [e]
    exact evalFrom_scale a s ha hs cs _ (xor_lt_size ok _ _ (gmul_lt ok _ _) hc.head) hc.tail

theorem evalH_scale (a s : Nat) (ha : a < size) (hs : s < size) (cs : List Nat) (hc : InR size cs) :
    evalH prim a (cs.map (gmul prim s)) = gmul prim s (evalH prim a cs) := by
  have := evalFrom_scale ok a s ha hs cs 0 (zero_lt_size ok) hc
  rw [gmul_zero_right ok] at this
  exact this

theorem InR_map_gmul (s : Nat) (cs : List Nat) : InR size (cs.map (gmul prim s)) := by
  intro c hc
  obtain ⟨x, _, rfl⟩ := List.mem_map.1 hc
  exact gmul_lt ok _ _

theorem InR_zipWith_xor : ∀ (xs ys : List Nat), InR size xs → InR size ys →
    InR size (List.zipWith (· ^^^ ·) xs ys)
  | [], _, _, _ => by simp [InR.nil]
  | _ :: _, [], _, _ => by simp [InR.nil]
  | x :: xs, y :: ys, hx, hy => by
    rw [List.zipWith_cons_cons]
    exact InR.cons (xor_lt_size ok x y hx.head hy.head) (InR_zipWith_xor xs ys hx.tail hy.tail)

/-- value of `p(x)·(x + r)` at `ρ` (coefficients highest power first): `(ρ + r)·p(ρ)` -/
theorem evalH_mulLinear (ρ r : Nat) (hρ : ρ < size) (hr : r < size) (p : List Nat) (hp : InR size p) :
    evalH prim ρ (List.zipWith (· ^^^ ·) (p ++ [0]) (0 :: p.map (gmul prim r))) =
      gmul prim ρ (evalH prim ρ p) ^^^ gmul prim r (evalH prim ρ p) := by
  have h0 := zero_lt_size ok
  have hx := evalFrom_xor ok ρ (p ++ [0]) (0 :: p.map (gmul prim r)) 0 0 (by simp) h0 h0
    (InR.append hp (InR.cons h0 InR.nil)) (InR.cons h0 (InR_map_gmul ok r p))
  rw [Nat.xor_self] at hx
  unfold evalH
  rw [hx, evalFrom_append, evalFrom_cons, evalFrom_nil, Nat.xor_zero]
  show _ ^^^ evalH prim ρ (0 :: _) = _
  rw [evalH_zero_cons ok, evalH_scale ok ρ r hρ hr _ hp]
  rfl

end field

end Gzx.Proofs.Poly
