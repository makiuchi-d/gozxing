/-
  C16 tie: the integer expressions that the regenerated BitArray / BitMatrix methods compute for a word index
  `i/32` and a bit `1 << (i%32)`, as casts of the model's natural-number expressions; a word write keeps the length.
-/
import Gzx.Proofs.GoMTie
import Gzx.Proofs.Bits
namespace Gzx.GoM
open Gzx.GoVal Gzx.Bits

theorem tdiv32_natCast (i : Nat) : Int.tdiv (i : Int) 32 = ((i / 32 : Nat) : Int) := tdiv_natCast i 32

theorem tdiv2_natCast (i : Nat) : Int.tdiv (i : Int) 2 = ((i / 2 : Nat) : Int) := tdiv_natCast i 2

theorem tmod32_natCast (i : Nat) : wrap 64 (Int.tmod (i : Int) 32) = ((i % 32 : Nat) : Int) := by
  gonorm; omega

/-- `uint32(1) << uint(i % 32)` -/
theorem bit32_natCast (i : Nat) :
    wrap 32 (ishl 1 (wrap 64 (Int.tmod (i : Int) 32))) = ((1 <<< (i % 32) : Nat) : Int) := by
  rw [tmod32_natCast]; exact bit_natCast _ (i % 32) rfl (Nat.mod_lt _ (by decide))

theorem iand31_natCast (i : Nat) : iand (i : Int) 31 = ((i % 32 : Nat) : Int) := by
  gonorm; omega

theorem wrap64_iand31_natCast (i : Nat) : wrap 64 (iand (i : Int) 31) = ((i % 32 : Nat) : Int) := by
  gonorm; omega

/-- `uint32(1) << uint(i & 0x1f)` -/
theorem bit32_iand31_natCast (i : Nat) :
    wrap 32 (ishl 1 (iand (i : Int) 31)) = ((1 <<< (i % 32) : Nat) : Int) := by
  rw [iand31_natCast]; exact bit_natCast _ (i % 32) rfl (Nat.mod_lt _ (by decide))

/-- `firstBit` (default `d = 0`) and `lastBit` (default `d = 31`) of iteration `i` of `SetRange` / `IsRange` -/
theorem rangeBit_natCast (i k s d : Nat) (hd : d < 64) :
    wrap 64 (if decide (i = k) = true then Int.tmod (s : Int) 32 else (d : Int)) =
      ((if i = k then s % 32 else d : Nat) : Int) := by
  by_cases c : i = k
  · rw [if_pos (decide_eq_true c), if_pos c]; exact tmod32_natCast s
  · rw [if_neg (by simpa using c), if_neg c]
    exact wrap_of_lt _ _ (Int.natCast_nonneg _) (by omega)

/-- the mask `(2 << lastBit) - (1 << firstBit)` of word `i` of `SetRange`, converted to `uint32` -/
theorem rangeMask_natCast {start e i : Nat} (hse : start ≤ e) :
    wrap 32 (ishl 2 (wrap 64 (if decide (i = e / 32) = true then Int.tmod (e : Int) 32 else 31)) -
        ishl 1 (wrap 64 (if decide (i = start / 32) = true then Int.tmod (start : Int) 32 else 0))) =
      ((WArr.rangeMask start e (start / 32) (e / 32) i : Nat) : Int) :=
  rangeMask_cast _ _ (rangeBits_le hse) _ _ (rangeBit_natCast _ _ _ 0 (by decide)) (rangeBit_natCast _ _ _ 31 (by decide))

/-- the same mask computed in `uint32` throughout (`IsRange`) -/
theorem rangeMask32_natCast {start e i : Nat} (hse : start ≤ e) :
    wrap 32 (wrap 32 (ishl 2 (wrap 64 (if decide (i = e / 32) = true then Int.tmod (e : Int) 32 else 31))) -
        wrap 32 (ishl 1 (wrap 64 (if decide (i = start / 32) = true then Int.tmod (start : Int) 32 else 0)))) =
      ((WArr.rangeMask start e (start / 32) (e / 32) i : Nat) : Int) :=
  rangeMask_cast32 _ _ (rangeBits_le hse) _ _ (rangeBit_natCast _ _ _ 0 (by decide)) (rangeBit_natCast _ _ _ 31 (by decide))

/-- word `y*rowSize + x/32` of a matrix -/
theorem cellWord_natCast (rs x y : Nat) :
    (y : Int) * (rs : Int) + Int.tdiv (x : Int) 32 = ((y * rs + x / 32 : Nat) : Int) := by
  rw [tdiv32_natCast, Int.natCast_add, Int.natCast_mul]

theorem setWord_length {ws ws' : List Nat} {i v : Nat} (h : setWord ws i v = .ok ws') : ws'.length = ws.length := by
  unfold setWord at h
  by_cases hl : i < ws.length
  · rw [if_pos hl] at h; injection h with h; rw [← h, List.length_set]
  · rw [if_neg hl] at h; cases h

end Gzx.GoM
