/-
  Helper lemmas for C16: the bit-stream view `bitAt` of a word list, single-bit word updates (`BitOp`), loops of word
  updates on that stream (and the few facts about `foldlM` loops the C16 files share), and the abstraction `absA` of a
  BitArray (`arr_of_bits`: invariant and abstraction from a bit-by-bit description of the words).  The word primitives are
  in BitsWord; the refinement of each operation is in the `Bits*` files that import this one.
-/
import Gzx.Proofs.BitsWord
import Gzx.Proofs.ExceptList
namespace Gzx.Bits
open Gzx

/-! ## checked word access -/

theorem wordAt_ok (ws : List Nat) (k : Nat) (hk : k < ws.length) : wordAt ws k = .ok ws[k] := by
  unfold wordAt; rw [List.getElem?_eq_getElem hk]

theorem updWord_ok (ws : List Nat) (k : Nat) (f : Nat → Nat) (hk : k < ws.length) :
    updWord ws k f = .ok (ws.set k (f ws[k])) := by
  unfold updWord; rw [List.getElem?_eq_getElem hk]

theorem setWord_ok (ws : List Nat) (k v : Nat) (hk : k < ws.length) :
    setWord ws k v = .ok (ws.set k v) := by
  unfold setWord; simp [hk]

theorem updWord_length {ws ws' : List Nat} {i : Nat} {f : Nat → Nat} (h : updWord ws i f = .ok ws') :
    ws'.length = ws.length := by
  unfold updWord at h
  split at h
  · injection h with h; rw [← h, List.length_set]
  · cases h

/-! ## word index and bit index of a stream position -/

theorem div32_add {k j : Nat} (hj : j < 32) : (k * 32 + j) / 32 = k := by omega

theorem mod32_add {k j : Nat} (hj : j < 32) : (k * 32 + j) % 32 = j := by omega

/-! ## the bit stream of a word list -/

theorem bitAt_set (ws : List Nat) (k v g : Nat) (hk : k < ws.length) :
    bitAt (ws.set k v) g = if g / 32 = k then v.testBit (g % 32) else bitAt ws g := by
  unfold bitAt
  rw [List.getElem?_set]
  by_cases h : g / 32 = k
  · subst h; simp [hk]
  · have : ¬ k = g / 32 := fun e => h e.symm
    simp [h, this]

theorem bitAt_of_ge (ws : List Nat) (g : Nat) (h : ws.length * 32 ≤ g) : bitAt ws g = false := by
  unfold bitAt
  have : ws.length ≤ g / 32 := by omega
  rw [List.getElem?_eq_none this]; simp

theorem bitAt_map_zero (ws : List Nat) (g : Nat) : bitAt (ws.map fun _ => 0) g = false := by
  unfold bitAt
  rw [List.getElem?_map]
  cases ws[g / 32]? <;> simp

theorem bitAt_zeros (n g : Nat) : bitAt (List.replicate n 0) g = false := by
  unfold bitAt
  rw [List.getElem?_replicate]; split <;> simp

theorem bitAt_eq_testBit (ws : List Nat) (k j : Nat) (hj : j < 32) :
    bitAt ws (k * 32 + j) = (ws[k]?.getD 0).testBit j := by
  unfold bitAt
  rw [div32_add hj, mod32_add hj]

theorem bitAt_cons (x : Nat) (xs : List Nat) (g : Nat) :
    bitAt (x :: xs) g = if g < 32 then x.testBit g else bitAt xs (g - 32) := by
  unfold bitAt
  by_cases h : g < 32
  · have h1 : g / 32 = 0 := by omega
    have h2 : g % 32 = g := by omega
    rw [if_pos h, h1, h2]; rfl
  · have h1 : g / 32 = (g - 32) / 32 + 1 := by omega
    have h2 : g % 32 = (g - 32) % 32 := by omega
    rw [if_neg h, h1, h2, List.getElem?_cons_succ]

theorem bitAt_getElem (ws : List Nat) (g : Nat) (h : g / 32 < ws.length) :
    bitAt ws g = (ws[g / 32]).testBit (g % 32) := by
  unfold bitAt; rw [List.getElem?_eq_getElem h]; rfl

theorem words_lt_set {ws : List Nat} {k v : Nat} (h : ∀ w ∈ ws, w < W32) (hv : v < W32) :
    ∀ w ∈ ws.set k v, w < W32 := by
  intro w hw
  rcases List.mem_or_eq_of_mem_set hw with h1 | h1
  · exact h w h1
  · exact h1 ▸ hv

theorem bitAt_append (xs ys : List Nat) (g : Nat) :
    bitAt (xs ++ ys) g = if g < xs.length * 32 then bitAt xs g else bitAt ys (g - xs.length * 32) := by
  unfold bitAt
  rw [List.getElem?_append]
  by_cases h : g < xs.length * 32
  · have : g / 32 < xs.length := by omega
    rw [if_pos h, if_pos this]
  · have : ¬ g / 32 < xs.length := by omega
    rw [if_neg h, if_neg this]
    have h1 : (g - xs.length * 32) / 32 = g / 32 - xs.length := by omega
    have h2 : (g - xs.length * 32) % 32 = g % 32 := by omega
    rw [h1, h2]

theorem bitAt_append_zeros (ws : List Nat) (k g : Nat) :
    bitAt (ws ++ List.replicate k 0) g = bitAt ws g := by
  rw [bitAt_append]
  split
  · rfl
  · rw [bitAt_zeros, bitAt_of_ge _ _ (by omega)]

theorem bitAt_take (ws : List Nat) (L g : Nat) :
    bitAt (ws.take L) g = if g < L * 32 then bitAt ws g else false := by
  unfold bitAt
  rw [List.getElem?_take]
  by_cases c : g < L * 32
  · rw [if_pos c, if_pos (by omega)]
  · rw [if_neg c, if_neg (by omega)]; simp

/-! ## loops -/

theorem foldlM_pure {α β : Type} (l : List α) (f : β → α → Res β) (g : β → α → β)
    (hfg : ∀ a ∈ l, ∀ b, f b a = .ok (g b a)) : ∀ init, l.foldlM f init = .ok (l.foldl g init) := by
  induction l with
  | nil => intro init; rfl
  | cons a l ih =>
    intro init
    rw [List.foldlM_cons, hfg a (by simp), List.foldl_cons]
    simp only [bind, Except.bind]
    exact ih (fun b hb => hfg b (by simp [hb])) _

theorem foldlM_prepend {α : Type} (step : List Nat → α → Res (List Nat)) (piece : α → List Nat) (xs : List α)
    (hstep : ∀ x ∈ xs, ∀ acc, step acc x = .ok ((piece x).reverse ++ acc)) : ∀ acc,
    xs.foldlM step acc = .ok ((xs.flatMap piece).reverse ++ acc) := by
  induction xs with
  | nil => intro acc; rfl
  | cons x xs ih =>
    intro acc
    rw [List.foldlM_cons, hstep x (by simp)]
    simp only [bind, Except.bind]
    rw [ih (fun y hy => hstep y (by simp [hy])), List.flatMap_cons, List.reverse_append, List.append_assoc]

theorem foldlM_flatMap {α β γ δ : Type} (f : γ → δ → Res γ) (g : α → β → δ) (as : List α) (bs : α → List β) :
    ∀ (init : γ),
    as.foldlM (fun s a => (bs a).foldlM (fun s b => f s (g a b)) s) init =
      (as.flatMap (fun a => (bs a).map (g a))).foldlM f init := by
  induction as with
  | nil => intro init; rfl
  | cons a as ih =>
    intro init
    rw [List.foldlM_cons, List.flatMap_cons, List.foldlM_append, List.foldlM_map]
    simp only [bind, Except.bind]
    cases (bs a).foldlM (fun s b => f s (g a b)) init with
    | error e => rfl
    | ok s => exact ih s

theorem foldlM_nested {α β γ : Type} (f : γ → α → β → Res γ) (as : List α) (bs : α → List β) (init : γ) :
    as.foldlM (fun s a => (bs a).foldlM (fun s b => f s a b) s) init =
      (as.flatMap (fun a => (bs a).map (fun b => (a, b)))).foldlM (fun s p => f s p.1 p.2) init :=
  foldlM_flatMap (fun s p => f s p.1 p.2) Prod.mk as bs init

theorem mem_flatMap_pairs {α β : Type} (as : List α) (bs : List β) (p : α × β) :
    p ∈ as.flatMap (fun a => bs.map (fun b => (a, b))) ↔ p.1 ∈ as ∧ p.2 ∈ bs := by
  rw [List.mem_flatMap]
  constructor
  · rintro ⟨a, ha, hp⟩
    obtain ⟨b, hb, rfl⟩ := List.mem_map.mp hp
    exact ⟨ha, hb⟩
  · rintro ⟨h1, h2⟩
    exact ⟨p.1, h1, List.mem_map.mpr ⟨p.2, h2, rfl⟩⟩

theorem foldlM_filter {α β : Type} (c : α → Bool) (F : β → α → Res β) (l : List α) : ∀ (init : β),
    l.foldlM (fun s p => if c p then F s p else pure s) init = (l.filter c).foldlM F init := by
  induction l with
  | nil => intro init; rfl
  | cons a l ih =>
    intro init
    rw [List.foldlM_cons, List.filter_cons]
    by_cases h : c a
    · simp only [h, if_true]
      rw [List.foldlM_cons]
      cases F init a with
      | error e => rfl
      | ok s => exact ih s
    · simp only [h, Bool.false_eq_true, if_false]
      exact ih init

theorem reverse_range_map {α : Type} (n : Nat) (f : Nat → α) :
    ((List.range n).map f).reverse = (List.range n).map (fun k => f (n - 1 - k)) := by
  apply List.ext_getElem
  · simp
  · intro i h1 h2
    simp only [List.length_reverse, List.length_map, List.length_range] at h1
    simp only [List.getElem_reverse, List.getElem_map, List.getElem_range, List.length_map, List.length_range]

/-! ## single-bit updates and loops of word updates -/

/-- `f` rewrites bit `b` of a 32-bit word by `c` and leaves the other bits alone -/
structure BitOp (b : Nat) (f : Nat → Nat) (c : Bool → Bool) : Prop where
  lt : ∀ {w}, w < W32 → f w < W32
  testBit : ∀ w j, j < 32 → (f w).testBit j = if j = b then c (w.testBit j) else w.testBit j

/-- `w | 1<<b` -/
theorem bitOp_or {b : Nat} (hb : b < 32) : BitOp b (fun w => w ||| 1 <<< b) (fun _ => true) where
  lt hw := or_lt_W32 hw (one_shl_lt_W32 hb)
  testBit w j _ := by
    rw [Nat.one_shiftLeft, Nat.testBit_or, Nat.testBit_two_pow]
    by_cases e : b = j
    · subst e; simp
    · simp [e, Ne.symm e]

/-- `w ^ 1<<b` -/
theorem bitOp_xor {b : Nat} (hb : b < 32) : BitOp b (fun w => w ^^^ 1 <<< b) (fun v => !v) where
  lt hw := xor_lt_W32 hw (one_shl_lt_W32 hb)
  testBit w j _ := by
    rw [Nat.one_shiftLeft, Nat.testBit_xor, Nat.testBit_two_pow]
    by_cases e : b = j
    · subst e; simp
    · simp [e, Ne.symm e]

/-- `w &^ 1<<b` -/
theorem bitOp_andnot (b : Nat) : BitOp b (fun w => w &&& not32 (1 <<< b)) (fun _ => false) where
  lt hw := and_lt_W32 hw
  testBit w j hj := by
    rw [Nat.one_shiftLeft, Nat.testBit_and, testBit_not32, Nat.testBit_two_pow]
    by_cases e : b = j
    · subst e; simp [hj]
    · simp [e, Ne.symm e, hj]

theorem BitOp.bitAt_set {b : Nat} {f : Nat → Nat} {c : Bool → Bool} (hop : BitOp b f c) (hb : b < 32)
    {ws : List Nat} {k : Nat} (hk : k < ws.length) (g : Nat) :
    bitAt (ws.set k (f ws[k])) g = if g = k * 32 + b then c (bitAt ws g) else bitAt ws g := by
  rw [Bits.bitAt_set _ _ _ _ hk]
  by_cases h : g / 32 = k
  · subst h
    rw [if_pos rfl, hop.testBit _ _ (Nat.mod_lt _ (by decide)), bitAt_getElem ws g hk]
    by_cases h2 : g % 32 = b
    · rw [if_pos h2, if_pos (by omega)]
    · rw [if_neg h2, if_neg (by omega)]
  · rw [if_neg h, if_neg (by omega)]

theorem foldlM_updWord (F : Nat → Nat → Nat) (is : List Nat) (hnd : is.Nodup) :
    ∀ ws : List Nat, (∀ i ∈ is, i < ws.length) →
    is.foldlM (fun ws i => updWord ws i (F i)) ws =
      .ok (ws.mapIdx fun k w => if k ∈ is then F k w else w) := by
  induction is with
  | nil =>
    intro ws _
    refine congrArg Except.ok (List.ext_getElem? fun k => ?_)
    rw [List.getElem?_mapIdx]; cases ws[k]? <;> rfl
  | cons i is ih =>
    intro ws h
    have hi : i < ws.length := h i (by simp)
    obtain ⟨hni, hnd'⟩ := List.nodup_cons.mp hnd
    rw [List.foldlM_cons, updWord_ok _ _ _ hi]
    simp only [bind, Except.bind]
    rw [ih hnd' _ (fun j hj => by rw [List.length_set]; exact h j (by simp [hj]))]
    congr 1
    apply List.ext_getElem?
    intro k
    rw [List.getElem?_mapIdx, List.getElem?_mapIdx, List.getElem?_set]
    by_cases e : i = k
    · subst e
      rw [if_pos rfl, if_pos hi, List.getElem?_eq_getElem hi]
      simp [hni]
    · rw [if_neg e]
      simp [Ne.symm e]

theorem nodup_stride (n rs c : Nat) (hrs : 0 < rs) : ((List.range n).map (fun y => y * rs + c)).Nodup := by
  rw [List.Nodup, List.pairwise_map]
  refine List.pairwise_lt_range.imp (fun {a b} hlt heq => ?_)
  have := Nat.mul_lt_mul_of_pos_right hlt hrs
  omega

theorem bitAt_mapIdx (G : Nat → Nat → Nat) (ws : List Nat) (g : Nat) (hk : g / 32 < ws.length) :
    bitAt (ws.mapIdx G) g = (G (g / 32) ws[g / 32]).testBit (g % 32) := by
  unfold bitAt
  rw [List.getElem?_mapIdx, List.getElem?_eq_getElem hk]; rfl

theorem words_lt_mapIdx {G : Nat → Nat → Nat} {ws : List Nat} (hG : ∀ k w, w < W32 → G k w < W32)
    (h : ∀ w ∈ ws, w < W32) : ∀ w ∈ ws.mapIdx G, w < W32 := by
  intro w hw
  obtain ⟨i, hi, rfl⟩ := List.mem_mapIdx.mp hw
  exact hG _ _ (h _ (List.getElem_mem hi))

/-! ## BitArray: abstraction facts -/

theorem InvA.idx {a : WArr} (h : InvA a) {i : Nat} (hi : i < a.size) : i / 32 < a.words.length := by
  have := h.1; omega

theorem InvA.words_lt {a : WArr} (h : InvA a) : ∀ w ∈ a.words, w < W32 := h.2.1

theorem InvA.pad {a : WArr} (h : InvA a) : ∀ g, a.size ≤ g → bitAt a.words g = false := h.2.2

theorem absA_length (a : WArr) : (absA a).length = a.size := by simp [absA]

theorem absA_getElem? (a : WArr) (i : Nat) :
    (absA a)[i]? = if i < a.size then some (bitAt a.words i) else none := by
  unfold absA
  rw [List.getElem?_map]
  by_cases h : i < a.size
  · rw [List.getElem?_range h]; simp [h]
  · rw [List.getElem?_eq_none (by simp; omega)]; simp [h]

/-- under the invariant the naive read of the abstraction is the stream bit, also beyond `size` -/
theorem absA_getD {a : WArr} (h : InvA a) (g : Nat) : (absA a)[g]?.getD false = bitAt a.words g := by
  rw [absA_getElem?]
  by_cases hg : g < a.size
  · rw [if_pos hg]; rfl
  · rw [if_neg hg, h.2.2 g (by omega)]; rfl

/-- word result refines spec result -/
def RefinesA (r : Res WArr) (s : SArr) : Prop := ∃ a', r = .ok a' ∧ InvA a' ∧ absA a' = s

theorem absA_eq_of (a' : WArr) (s : SArr) (hl : s.length = a'.size)
    (hb : ∀ i, i < a'.size → s[i]? = some (bitAt a'.words i)) : absA a' = s := by
  apply List.ext_getElem?
  intro i
  rw [absA_getElem?]
  by_cases h : i < a'.size
  · rw [if_pos h, hb i h]
  · rw [if_neg h, List.getElem?_eq_none (by omega)]

theorem arr_of_bits {ws : List Nat} {sz : Nat} (hcap : sz ≤ ws.length * 32) (hlt : ∀ w ∈ ws, w < W32)
    (φ : Nat → Bool) (hb : ∀ g, bitAt ws g = if g < sz then φ g else false) :
    InvA ⟨ws, sz⟩ ∧ absA ⟨ws, sz⟩ = (List.range sz).map φ :=
  ⟨⟨hcap, hlt, fun g hg => by rw [hb, if_neg (Nat.not_lt.mpr hg)]⟩,
    List.map_congr_left fun g hg => by rw [hb, if_pos (List.mem_range.mp hg)]⟩

end Gzx.Bits
