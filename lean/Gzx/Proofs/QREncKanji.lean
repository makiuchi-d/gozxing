/-
  wp `enc2` — `appendKanjiBytes` of the mirror model = the reference's `packKanji`, for EVERY Shift_JIS byte string
  and including the error returns: no encoder result, an odd number of bytes, or a byte pair outside
  0x8140..0x9FFC / 0xE040..0xEBBF is the WriterException "Invalid byte sequence" exactly when `packKanji` has no
  value; otherwise the loop `for i := 0; i < maxI; i += 2` appends exactly the reference's 13-bit values.
-/
import Gzx.Proofs.QREncSegments
namespace Gzx.QREnc
open Gzx Gzx.QRRef

/-- what the reference makes of one byte pair, appended -/
def kanjiStepRef (bits : Bits) (b1 b2 : Nat) : Res Bits :=
  match kanjiCode b1 b2 with
  | some c => .ok (bits ++ toBitsBE 13 c)
  | none => .error .writer

/-- the body of the loop of `appendKanjiBytes` at pair `k` -/
def kanjiBody (bytes : List Nat) (bits : Bits) (k : Nat) : Res Bits := do
  let i : Int := ((2 * k : Nat) : Int)
  let byte1 ← idx bytes i
  let byte2 ← idx bytes (i + 1)
  let code : Nat := (byte1 % 256) <<< 8 ||| (byte2 % 256)
  let subtracted : Int :=
    if code ≥ 0x8140 ∧ code ≤ 0x9ffc then (code : Int) - 0x8140
    else if code ≥ 0xe040 ∧ code ≤ 0xebbf then (code : Int) - 0xc140
    else -1
  if subtracted = -1 then .error .writer
  else
    let encoded : Int := (subtracted >>> 8) * 0xc0 + subtracted % 256
    pure (appendBitsIgn encoded 13 bits)

theorem appendKanjiBytes_unfold (bytes : List Nat) (bits : Bits) (he : bytes.length % 2 = 0) :
    appendKanjiBytes (some bytes) bits = (List.range (bytes.length / 2)).foldlM (kanjiBody bytes) bits := by
  unfold appendKanjiBytes
  simp only
  have h : ¬ (bytes.length % 2 ≠ 0) := by omega
  rw [if_neg h]
  have : (((bytes.length : Int) - 1 + 1) / 2).toNat = bytes.length / 2 := by omega
  rw [this]
  rfl

theorem code_eq (b1 b2 : Nat) (h1 : b1 < 256) (h2 : b2 < 256) : (b1 % 256) <<< 8 ||| (b2 % 256) = b1 * 256 + b2 := by
  rw [Nat.mod_eq_of_lt h1, Nat.mod_eq_of_lt h2, ← Nat.shiftLeft_add_eq_or_of_lt (by simpa using h2), Nat.shiftLeft_eq]

theorem kanjiBody_eq (bytes : List Nat) (bits : Bits) (k : Nat) (hk : 2 * k + 1 < bytes.length)
    (hb : ∀ b ∈ bytes, b < 256) :
    kanjiBody bytes bits k = kanjiStepRef bits (bytes[2 * k]'(by omega)) (bytes[2 * k + 1]'hk) := by
  unfold kanjiBody
  have hi1 := idx_nat bytes (2 * k) (by omega)
  have hi2 := idx_nat bytes (2 * k + 1) hk
  rw [show (((2 * k + 1 : Nat) : Int)) = ((2 * k : Nat) : Int) + 1 by omega] at hi2
  simp only [hi1, hi2, bind, Except.bind]
  have h1 := hb _ (List.getElem_mem (by omega : 2 * k < bytes.length))
  have h2 := hb _ (List.getElem_mem hk)
  generalize bytes[2 * k]'(by omega) = b1 at *
  generalize bytes[2 * k + 1]'hk = b2 at *
  rw [code_eq b1 b2 h1 h2]
  unfold kanjiStepRef kanjiCode
  simp only
  by_cases ha : 0x8140 ≤ b1 * 256 + b2 ∧ b1 * 256 + b2 ≤ 0x9FFC
  · have ha' : b1 * 256 + b2 ≥ 0x8140 ∧ b1 * 256 + b2 ≤ 0x9ffc := ha
    rw [if_pos ha, if_pos ha']
    have hne : ¬ (((b1 * 256 + b2 : Nat) : Int) - 0x8140 = -1) := by omega
    rw [if_neg hne]
    simp only [pure, Except.pure]
    have henc : ((((b1 * 256 + b2 : Nat) : Int) - 0x8140) >>> 8) * 0xc0 + (((b1 * 256 + b2 : Nat) : Int) - 0x8140) % 256 =
        ((((b1 * 256 + b2 - 0x8140) / 256) * 0xC0 + (b1 * 256 + b2 - 0x8140) % 256 : Nat) : Int) := by
      rw [Int.shiftRight_eq_div_pow]
      have : ((2 ^ 8 : Nat) : Int) = 256 := by decide
      rw [this]
      omega
    rw [henc, show (13 : Int) = ((13 : Nat) : Int) by rfl, appendBitsIgn_nat _ 13 (by omega)]
  · have ha' : ¬ (b1 * 256 + b2 ≥ 0x8140 ∧ b1 * 256 + b2 ≤ 0x9ffc) := ha
    rw [if_neg ha, if_neg ha']
    by_cases hc : 0xE040 ≤ b1 * 256 + b2 ∧ b1 * 256 + b2 ≤ 0xEBBF
    · have hc' : b1 * 256 + b2 ≥ 0xe040 ∧ b1 * 256 + b2 ≤ 0xebbf := hc
      rw [if_pos hc, if_pos hc']
      have hne : ¬ (((b1 * 256 + b2 : Nat) : Int) - 0xc140 = -1) := by omega
      rw [if_neg hne]
      simp only [pure, Except.pure]
      have henc : ((((b1 * 256 + b2 : Nat) : Int) - 0xc140) >>> 8) * 0xc0 + (((b1 * 256 + b2 : Nat) : Int) - 0xc140) % 256 =
          ((((b1 * 256 + b2 - 0xC140) / 256) * 0xC0 + (b1 * 256 + b2 - 0xC140) % 256 : Nat) : Int) := by
        rw [Int.shiftRight_eq_div_pow]
        have : ((2 ^ 8 : Nat) : Int) = 256 := by decide
        rw [this]
        omega
      rw [henc, show (13 : Int) = ((13 : Nat) : Int) by rfl, appendBitsIgn_nat _ 13 (by omega)]
    · have hc' : ¬ (b1 * 256 + b2 ≥ 0xe040 ∧ b1 * 256 + b2 ≤ 0xebbf) := hc
      rw [if_neg hc, if_neg hc']
      simp

theorem packKanji_append : ∀ (n : Nat) (a b : List Nat), a.length = 2 * n →
    packKanji (a ++ b) = (packKanji a).bind (fun x => (packKanji b).map (x ++ ·)) := by
  intro n
  induction n with
  | zero =>
    intro a b ha
    have : a = [] := List.length_eq_zero_iff.mp (by omega)
    subst this
    simp only [List.nil_append, packKanji, Option.bind_some]
    cases packKanji b <;> simp
  | succ n ih =>
    intro a b ha
    match a, ha with
    | hi :: lo :: rest, ha =>
      have hr : rest.length = 2 * n := by simp at ha; omega
      simp only [List.cons_append, packKanji]
      rw [ih rest b hr]
      cases kanjiCode hi lo with
      | none => simp
      | some c =>
        cases packKanji rest with
        | none => simp
        | some r => cases packKanji b <;> simp

theorem packKanji_pair (b1 b2 : Nat) : packKanji [b1, b2] = (kanjiCode b1 b2).map (toBitsBE 13 ·) := by
  simp only [packKanji]
  cases kanjiCode b1 b2 <;> simp

theorem kanjiLoop (bytes : List Nat) (hb : ∀ b ∈ bytes, b < 256) (bits : Bits) :
    ∀ k, 2 * k ≤ bytes.length →
      (List.range k).foldlM (kanjiBody bytes) bits =
        match packKanji (bytes.take (2 * k)) with
        | some d => .ok (bits ++ d)
        | none => .error .writer := by
  intro k
  induction k with
  | zero => intro _; simp [packKanji, pure, Except.pure]
  | succ k ih =>
    intro hk
    rw [List.range_succ, List.foldlM_append, ih (by omega)]
    have htake : bytes.take (2 * (k + 1)) = bytes.take (2 * k) ++ [bytes[2 * k]'(by omega), bytes[2 * k + 1]'(by omega)] := by
      have e1 : bytes.take (2 * k + 1 + 1) = bytes.take (2 * k + 1) ++ [bytes[2 * k + 1]'(by omega)] := by
        rw [List.take_add_one, List.getElem?_eq_getElem (by omega : 2 * k + 1 < bytes.length)]; rfl
      have e0 : bytes.take (2 * k + 1) = bytes.take (2 * k) ++ [bytes[2 * k]'(by omega)] := by
        rw [List.take_add_one, List.getElem?_eq_getElem (by omega : 2 * k < bytes.length)]; rfl
      rw [show 2 * (k + 1) = 2 * k + 1 + 1 by omega, e1, e0, List.append_assoc]
      rfl
    rw [htake, packKanji_append k _ _ (by rw [List.length_take]; omega), packKanji_pair]
    cases hp : packKanji (bytes.take (2 * k)) with
    | none => simp [bind, Except.bind]
    | some d =>
      simp only [bind, Except.bind, List.foldlM_cons, List.foldlM_nil, Option.bind_some]
      rw [kanjiBody_eq bytes (bits ++ d) k (by omega) hb]
      unfold kanjiStepRef
      cases kanjiCode (bytes[2 * k]'(by omega)) (bytes[2 * k + 1]'(by omega)) with
      | none => simp
      | some c => simp [pure, Except.pure, List.append_assoc]

theorem packKanji_odd : ∀ (n : Nat) (bytes : List Nat), bytes.length = 2 * n + 1 → packKanji bytes = none := by
  intro n
  induction n with
  | zero =>
    intro bytes h
    match bytes, h with
    | [b], _ => rfl
  | succ n ih =>
    intro bytes h
    match bytes, h with
    | hi :: lo :: rest, h =>
      simp only [packKanji]
      rw [ih rest (by simp at h; omega)]
      cases kanjiCode hi lo <;> simp

theorem appendKanjiBytes_eq (sjis : Option (List Nat)) (hb : ∀ bytes, sjis = some bytes → ∀ b ∈ bytes, b < 256) (bits : Bits) :
    appendKanjiBytes sjis bits =
      match sjis.bind packKanji with
      | some d => .ok (bits ++ d)
      | none => .error .writer := by
  cases sjis with
  | none => rfl
  | some bytes =>
    simp only [Option.bind_some]
    by_cases he : bytes.length % 2 = 0
    · rw [appendKanjiBytes_unfold bytes bits he, kanjiLoop bytes (hb bytes rfl) bits (bytes.length / 2) (by omega)]
      rw [show 2 * (bytes.length / 2) = bytes.length by omega, List.take_length]
    · rw [packKanji_odd (bytes.length / 2) bytes (by omega)]
      unfold appendKanjiBytes
      simp only
      rw [if_pos (by omega)]

end Gzx.QREnc
