/-
  wp `enc2` — forward simulation between two implementations of the matrix interface `MI`
  (Proofs/QREncFuncGen.lean): `Fwd R f₁ f₂` says that a successful step of the second implementation from a related
  state is matched by the first; `SimH I₁ I₂ R` asks this of `Get`, `Set`, width and height.
  (The function-pattern theorems do not go through a second implementation: they run the loops on `ByteMatrix` itself
  under the invariant of Proofs/QREncDrawn.lean.)
-/
import Gzx.Proofs.QREncFuncGen
namespace Gzx.QREnc
open Gzx Gzx.QRRef

def Fwd {σ₁ σ₂ : Type} (R : σ₁ → σ₂ → Prop) (f₁ : σ₁ → Res σ₁) (f₂ : σ₂ → Res σ₂) : Prop :=
  ∀ s₁ s₂ s₂', R s₁ s₂ → f₂ s₂ = .ok s₂' → ∃ s₁', f₁ s₁ = .ok s₁' ∧ R s₁' s₂'

structure SimH {σ₁ σ₂ : Type} (I₁ : MI σ₁) (I₂ : MI σ₂) (R : σ₁ → σ₂ → Prop) : Prop where
  get : ∀ s₁ s₂ x y c, R s₁ s₂ → I₂.get s₂ x y = .ok c → I₁.get s₁ x y = .ok c
  set : ∀ x y v, Fwd R (fun s => I₁.set s x y v) (fun s => I₂.set s x y v)
  width : ∀ s₁ s₂, R s₁ s₂ → I₁.width s₁ = I₂.width s₂
  height : ∀ s₁ s₂, R s₁ s₂ → I₁.height s₁ = I₂.height s₂

end Gzx.QREnc
