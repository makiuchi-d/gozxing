/-
  C19 — lemmas for `Obligations/K19.lean`: the REGENERATED
  `GridSampler_checkAndNudgePoints` (`Gzx.Gen.K19.checkAndNudge`, two `for cond` loops over an interleaved `[]float64`
  of an abstract number type `F` with operations `ops : NumOps F`) against structural recursions on the list.

  Nothing here mentions the text of a generated definition: the loop lemmas (`fwd_loop`, `bwd_loop`) take the loop
  BODY as a parameter with three hypotheses (one iteration at a visited pair; stop when the flag is down; stop at the
  end of the slice), which `Obligations/K19.lean` proves by unfolding the generated body once.

  * `passFwdF` / `passBwdRevF` — one loop of the Go function as a recursion over the (reversed) interleaved list;
  * `nudgeSpec` — both loops; `none` = NotFound;
  * `nudgeSpec_sim` — the decisions depend on `ops.toInt` ONLY and the written values are `ops.ofInt 0`,
    `ops.ofInt (w-1)`, `ops.ofInt (h-1)`: two runs over different number types whose inputs have the same `toInt`
    take the same decisions and end with the same `toInt`s (used with Lean `Float` on one side and exact rationals
    on the other: `Float` occurs only through the abstract `toInt`, `ofInt`);
  * `nudgeSpec_rat_even` — over exact rationals `nudgeSpec` IS the hand-written model `GridSampler.checkAndNudge`
    (on even-length slices, the domain the Go comment "points.length must be even" and the property claim);
    `nudgeSpec_rat` — and `GridSampler.checkAndNudgePoints` on EVERY slice (odd lengths as coded).
  Core Lean only.
-/
import Gzx.GoMNum
import Gzx.Proofs.GoMTie
import Gzx.Proofs.GridSampler
namespace Gzx.K19
open Gzx Gzx.GoM

variable {F : Type}

/-! ### checked accessors at a known position -/

theorem idxA_at (done : List F) (x : F) (rest : List F) (e : Int) (he : e = (done.length : Nat)) :
    idxA (done ++ x :: rest) e = .ok x :=
  idxA_seam done x rest e he

theorem idxA_at1 (done : List F) (x y : F) (rest : List F) (e : Int) (he : e = (done.length : Nat) + 1) :
    idxA (done ++ x :: y :: rest) e = .ok y := by
  have := idxA_at (done ++ [x]) y rest e (by simp [he])
  simpa using this

theorem setIdxA_at (done : List F) (x v : F) (rest : List F) (e : Int) (he : e = (done.length : Nat)) :
    setIdxA (done ++ x :: rest) e v = .ok (done ++ v :: rest) :=
  setIdxA_seam done x v rest e he

theorem setIdxA_at1 (done : List F) (x y v : F) (rest : List F) (e : Int) (he : e = (done.length : Nat) + 1) :
    setIdxA (done ++ x :: y :: rest) e v = .ok (done ++ x :: v :: rest) := by
  have := setIdxA_at (done ++ [x]) y v rest e (by simp [he])
  simpa using this

/-! ### the two loops as recursions -/

/-- the NotFound test `x < -1 || x > width || y < -1 || y > height` on `x = int(points[o])`, `y = int(points[o+1])` -/
def beyondF (ops : NumOps F) (w h : Int) (x y : F) : Bool :=
  decide (ops.toInt x < -1) || decide (ops.toInt x > w) || decide (ops.toInt y < -1) || decide (ops.toInt y > h)

/-- one coordinate: `-1 ↦ float64 0`, `n ↦ float64(n-1)`; second component = `nudged` -/
def nudgeCoordF (ops : NumOps F) (n : Int) (x : F) : F × Bool :=
  if ops.toInt x = -1 then (ops.ofInt 0, true)
  else if ops.toInt x = n then (ops.ofInt (n - 1), true)
  else (x, false)

theorem nudgeCoordF_fst {ops : NumOps F} {n : Int} {x : F} (h : (nudgeCoordF ops n x).2 = false) :
    (nudgeCoordF ops n x).1 = x := by
  unfold nudgeCoordF at h ⊢
  split at h
  · simp at h
  · split at h
    · simp at h
    · rename_i h1 h2
      simp [h1, h2]

/-- `for offset := 0; offset < len-1 && nudged; offset += 2` on the slice from `offset` on; `none` = NotFound -/
def passFwdF (ops : NumOps F) (w h : Int) : List F → Option (List F)
  | x :: y :: rest =>
    if beyondF ops w h x y then none
    else if (nudgeCoordF ops w x).2 || (nudgeCoordF ops h y).2 then
      (passFwdF ops w h rest).map (fun r => (nudgeCoordF ops w x).1 :: (nudgeCoordF ops h y).1 :: r)
    else some (x :: y :: rest)
  | rest => some rest

/-- `for offset := len-2; offset >= 0 && nudged; offset -= 2` on the REVERSED slice up to `offset+1` -/
def passBwdRevF (ops : NumOps F) (w h : Int) : List F → Option (List F)
  | y :: x :: rest =>
    if beyondF ops w h x y then none
    else if (nudgeCoordF ops w x).2 || (nudgeCoordF ops h y).2 then
      (passBwdRevF ops w h rest).map (fun r => (nudgeCoordF ops h y).1 :: (nudgeCoordF ops w x).1 :: r)
    else some (y :: x :: rest)
  | rest => some rest

theorem beyondF_swap (ops : NumOps F) (w h : Int) (x y : F) : beyondF ops w h x y = beyondF ops h w y x := by
  unfold beyondF
  cases decide (ops.toInt x < -1) <;> cases decide (ops.toInt x > w) <;> cases decide (ops.toInt y < -1) <;>
    cases decide (ops.toInt y > h) <;> rfl

/-- the second loop is the first with the roles of the two coordinates exchanged -/
theorem passBwdRevF_eq_fwd (ops : NumOps F) (w h : Int) : ∀ l : List F, passBwdRevF ops w h l = passFwdF ops h w l
  | y :: x :: rest => by
    rw [passBwdRevF, passFwdF, passBwdRevF_eq_fwd ops w h rest, beyondF_swap, Bool.or_comm]
  | [] => rfl
  | [_] => rfl

/-- both loops of `GridSampler_checkAndNudgePoints`; `none` = NotFoundException -/
def nudgeSpec (ops : NumOps F) (w h : Int) (pts : List F) : Option (List F) :=
  match passFwdF ops w h pts with
  | none => none
  | some p1 =>
    match passBwdRevF ops w h p1.reverse with
    | none => none
    | some r => some r.reverse

theorem passFwdF_length (ops : NumOps F) (w h : Int) :
    ∀ (l : List F) {r}, passFwdF ops w h l = some r → r.length = l.length
  | x :: y :: rest, r, hr => by
    unfold passFwdF at hr
    split at hr
    · cases hr
    · split at hr
      · obtain ⟨r', hp, rfl⟩ := Option.map_eq_some_iff.mp hr
        simp [passFwdF_length ops w h rest hp]
      · cases hr; rfl
  | [], r, hr => by cases hr; rfl
  | [_], r, hr => by cases hr; rfl

/-! ### the generated loops, for an arbitrary body that satisfies the three step equations -/

/-- state of both loops: the points slice, the flag `nudged`, `offset` -/
abbrev St (F : Type) := List F × Bool × Int

/-- first loop: state `(done ++ rest, true, |done|)` -/
theorem fwd_loop (ops : NumOps F) (w h mo : Int) (body : St F → Ctl (St F) (Bool × List F))
    (hstep : ∀ (done : List F) (x y : F) (rest : List F), ((done.length : Nat) : Int) < mo →
      body (done ++ x :: y :: rest, true, ((done.length : Nat) : Int)) =
        if beyondF ops w h x y then .ret (true, done ++ x :: y :: rest)
        else .next (done ++ (nudgeCoordF ops w x).1 :: (nudgeCoordF ops h y).1 :: rest,
                    (nudgeCoordF ops w x).2 || (nudgeCoordF ops h y).2, ((done.length : Nat) : Int) + 2))
    (hdown : ∀ pts off, body (pts, false, off) = .brk (pts, false, off))
    (hend : ∀ pts b off, ¬ off < mo → body (pts, b, off) = .brk (pts, b, off)) :
    ∀ (rest done : List F) (fuel : Nat), rest.length < fuel → mo = ((done.length + rest.length : Nat) : Int) - 1 →
      (∀ r, passFwdF ops w h rest = some r →
        ∃ b off, whileLoop body fuel (done ++ rest, true, ((done.length : Nat) : Int)) = .brk (done ++ r, b, off)) ∧
      (passFwdF ops w h rest = none →
        ∃ ps, whileLoop body fuel (done ++ rest, true, ((done.length : Nat) : Int)) = .ret (true, ps))
  | x :: y :: rest, done, fuel + 1, hf, hmo => by
    have hlt : ((done.length : Nat) : Int) < mo := by simp only [List.length_cons] at hmo; omega
    rw [whileLoop_succ, hstep done x y rest hlt]
    simp only [passFwdF]
    by_cases hb : beyondF ops w h x y = true
    · simp only [hb, if_true]
      exact ⟨nofun, fun _ => ⟨_, rfl⟩⟩
    simp only [hb, Bool.false_eq_true, if_false]
    cases hn : (nudgeCoordF ops w x).2 || (nudgeCoordF ops h y).2 with
    | true =>
      -- the pair was nudged: the loop goes on behind it
      have ih := fwd_loop ops w h mo body hstep hdown hend rest
        (done ++ [(nudgeCoordF ops w x).1, (nudgeCoordF ops h y).1]) fuel
        (by simp only [List.length_cons] at hf; omega)
        (by simp only [List.length_cons, List.length_append, List.length_nil] at hmo ⊢; omega)
      simp only [List.append_assoc, List.cons_append, List.nil_append, List.length_append, List.length_cons,
        List.length_nil] at ih
      rw [show ((done.length + (0 + 1 + 1) : Nat) : Int) = (done.length : Nat) + 2 by omega] at ih
      simp only [if_true]
      cases hp : passFwdF ops w h rest with
      | none => exact ⟨nofun, fun _ => ih.2 hp⟩
      | some r' => exact ⟨fun r hr => by cases hr; exact ih.1 r' hp, nofun⟩
    | false =>
      -- nothing to nudge: the pair stays as it is and the next test of the flag ends the loop
      obtain ⟨fuel, rfl⟩ : ∃ k, fuel = k + 1 := ⟨fuel - 1, by simp only [List.length_cons] at hf; omega⟩
      rw [Bool.or_eq_false_iff] at hn
      rw [nudgeCoordF_fst hn.1, nudgeCoordF_fst hn.2, whileLoop_succ, hdown]
      exact ⟨fun r hr => by cases hr; exact ⟨_, _, rfl⟩, nofun⟩
  | [], done, fuel + 1, _, hmo => by
    refine ⟨fun r hr => ?_, nofun⟩
    cases hr
    exact ⟨true, _, by rw [whileLoop_succ, hend _ _ _ (by simp at hmo; omega)]⟩
  | [a], done, fuel + 1, _, hmo => by
    refine ⟨fun r hr => ?_, nofun⟩
    cases hr
    exact ⟨true, _, by rw [whileLoop_succ, hend _ _ _ (by simp at hmo; omega)]⟩
/-- second loop: state `(rrem.reverse ++ tail, true, |rrem| - 2)` -/
theorem bwd_loop (ops : NumOps F) (w h : Int) (body : St F → Ctl (St F) (Bool × List F))
    (hstep : ∀ (pre : List F) (x y : F) (tail : List F),
      body (pre ++ x :: y :: tail, true, ((pre.length : Nat) : Int)) =
        if beyondF ops w h x y then .ret (true, pre ++ x :: y :: tail)
        else .next (pre ++ (nudgeCoordF ops w x).1 :: (nudgeCoordF ops h y).1 :: tail,
                    (nudgeCoordF ops w x).2 || (nudgeCoordF ops h y).2, ((pre.length : Nat) : Int) - 2))
    (hdown : ∀ pts off, body (pts, false, off) = .brk (pts, false, off))
    (hend : ∀ pts b off, ¬ off ≥ 0 → body (pts, b, off) = .brk (pts, b, off)) :
    ∀ (rrem tail : List F) (fuel : Nat), rrem.length < fuel →
      (∀ r, passBwdRevF ops w h rrem = some r →
        ∃ b off, whileLoop body fuel (rrem.reverse ++ tail, true, ((rrem.length : Nat) : Int) - 2) = .brk (r.reverse ++ tail, b, off)) ∧
      (passBwdRevF ops w h rrem = none →
        ∃ ps, whileLoop body fuel (rrem.reverse ++ tail, true, ((rrem.length : Nat) : Int) - 2) = .ret (true, ps))
  | y :: x :: rest, tail, fuel + 1, hf => by
    -- the pair read first is the last one of the slice
    rw [show ((y :: x :: rest).reverse ++ tail, true, (((y :: x :: rest).length : Nat) : Int) - 2) =
      ((rest.reverse ++ x :: y :: tail, true, ((rest.reverse.length : Nat) : Int)) : St F) by simp; omega,
      whileLoop_succ, hstep rest.reverse x y tail]
    simp only [passBwdRevF]
    by_cases hb : beyondF ops w h x y = true
    · simp only [hb, if_true]
      exact ⟨nofun, fun _ => ⟨_, rfl⟩⟩
    simp only [hb, Bool.false_eq_true, if_false]
    cases hn : (nudgeCoordF ops w x).2 || (nudgeCoordF ops h y).2 with
    | true =>
      have ih := bwd_loop ops w h body hstep hdown hend rest
        ((nudgeCoordF ops w x).1 :: (nudgeCoordF ops h y).1 :: tail) fuel
        (by simp only [List.length_cons] at hf; omega)
      simp only [if_true, List.length_reverse]
      cases hp : passBwdRevF ops w h rest with
      | none => exact ⟨nofun, fun _ => ih.2 hp⟩
      | some r' => exact ⟨fun r hr => by cases hr; simpa using ih.1 r' hp, nofun⟩
    | false =>
      obtain ⟨fuel, rfl⟩ : ∃ k, fuel = k + 1 := ⟨fuel - 1, by simp only [List.length_cons] at hf; omega⟩
      rw [Bool.or_eq_false_iff] at hn
      rw [nudgeCoordF_fst hn.1, nudgeCoordF_fst hn.2, whileLoop_succ, hdown]
      exact ⟨fun r hr => by cases hr; exact ⟨false, ((rest.reverse.length : Nat) : Int) - 2, by simp⟩, nofun⟩
  | [], tail, fuel + 1, _ => by
    refine ⟨fun r hr => ?_, nofun⟩
    cases hr
    exact ⟨true, _, by rw [whileLoop_succ, hend _ _ _ (by simp)]⟩
  | [a], tail, fuel + 1, _ => by
    refine ⟨fun r hr => ?_, nofun⟩
    cases hr
    exact ⟨true, _, by rw [whileLoop_succ, hend _ _ _ (by simp)]⟩
/-! ### the decisions depend on `toInt` only -/

section sim
variable {G : Type} (o1 : NumOps F) (o2 : NumOps G)

/-- the two number types agree on the pixel index of the three values the function writes -/
structure WritesAgree (w h : Int) : Prop where
  zero : o1.toInt (o1.ofInt 0) = o2.toInt (o2.ofInt 0)
  wid : o1.toInt (o1.ofInt (w - 1)) = o2.toInt (o2.ofInt (w - 1))
  hei : o1.toInt (o1.ofInt (h - 1)) = o2.toInt (o2.ofInt (h - 1))

theorem beyondF_sim (w h : Int) {x y : F} {x' y' : G} (hx : o1.toInt x = o2.toInt x') (hy : o1.toInt y = o2.toInt y') :
    beyondF o1 w h x y = beyondF o2 w h x' y' := by
  simp [beyondF, hx, hy]

theorem nudgeCoordF_sim (n : Int) (h0 : o1.toInt (o1.ofInt 0) = o2.toInt (o2.ofInt 0))
    (hn : o1.toInt (o1.ofInt (n - 1)) = o2.toInt (o2.ofInt (n - 1))) {x : F} {x' : G} (hx : o1.toInt x = o2.toInt x') :
    (nudgeCoordF o1 n x).2 = (nudgeCoordF o2 n x').2 ∧
      o1.toInt (nudgeCoordF o1 n x).1 = o2.toInt (nudgeCoordF o2 n x').1 := by
  unfold nudgeCoordF
  rw [hx]
  by_cases c1 : o2.toInt x' = -1
  · simp [c1, h0]
  · by_cases c2 : o2.toInt x' = n
    · rw [if_neg c1, if_pos c2, if_neg c1, if_pos c2]; exact ⟨rfl, hn⟩
    · rw [if_neg c1, if_neg c2, if_neg c1, if_neg c2]; exact ⟨rfl, hx⟩

theorem passFwdF_sim (w h : Int) (H : WritesAgree o1 o2 w h) : ∀ (l : List F) (l' : List G),
    l.map o1.toInt = l'.map o2.toInt →
      (passFwdF o1 w h l).map (List.map o1.toInt) = (passFwdF o2 w h l').map (List.map o2.toInt)
  | x :: y :: rest, x' :: y' :: rest', hl => by
    have hl' := hl
    simp only [List.map_cons, List.cons.injEq] at hl'
    obtain ⟨hx, hy, hr⟩ := hl'
    have cx := nudgeCoordF_sim o1 o2 w H.zero H.wid hx
    have cy := nudgeCoordF_sim o1 o2 h H.zero H.hei hy
    have ih := passFwdF_sim w h H rest rest' hr
    simp only [passFwdF, beyondF_sim o1 o2 w h hx hy, cx.1, cy.1]
    split
    · rfl
    · split
      · simp only [Option.map_map]
        cases h1 : passFwdF o1 w h rest <;> cases h2 : passFwdF o2 w h rest' <;> simp [h1, h2] at ih ⊢
        exact ⟨cx.2, cy.2, ih⟩
      · exact congrArg some hl
  | [], [], _ => rfl
  | [_], [_], hl => by simpa [passFwdF] using hl
  | [], _ :: _, hl => by simp at hl
  | _ :: _, [], hl => by simp at hl
  | [_], _ :: _ :: _, hl => by simp at hl
  | _ :: _ :: _, [_], hl => by simp at hl

theorem passBwdRevF_sim (w h : Int) (H : WritesAgree o1 o2 w h) (l : List F) (l' : List G)
    (hl : l.map o1.toInt = l'.map o2.toInt) :
    (passBwdRevF o1 w h l).map (List.map o1.toInt) = (passBwdRevF o2 w h l').map (List.map o2.toInt) := by
  rw [passBwdRevF_eq_fwd, passBwdRevF_eq_fwd]
  exact passFwdF_sim o1 o2 h w ⟨H.zero, H.hei, H.wid⟩ l l' hl

/-- Two runs over different number types whose inputs have the same pixel indices either both answer NotFound or both
    succeed with slices that have the same pixel indices again. -/
theorem nudgeSpec_sim (w h : Int) (H : WritesAgree o1 o2 w h) (l : List F) (l' : List G)
    (hl : l.map o1.toInt = l'.map o2.toInt) :
    (nudgeSpec o1 w h l).map (List.map o1.toInt) = (nudgeSpec o2 w h l').map (List.map o2.toInt) := by
  have h1 := passFwdF_sim o1 o2 w h H l l' hl
  unfold nudgeSpec
  cases e1 : passFwdF o1 w h l <;> cases e2 : passFwdF o2 w h l' <;> simp [e1, e2] at h1 ⊢
  rename_i p1 p2
  have h2 := passBwdRevF_sim o1 o2 w h H p1.reverse p2.reverse (by simp [h1])
  cases e3 : passBwdRevF o1 w h p1.reverse <;> cases e4 : passBwdRevF o2 w h p2.reverse <;> simp [e3, e4] at h2 ⊢
  simp [h2]

end sim

/-! ### over exact rationals the specification is the hand-written model -/

section rat
open Gzx.GridSampler

theorem ratOps_toInt (x : Rat) : ratOps.toInt x = trunc x := rfl

theorem beyondF_rat (w h : Int) (p : Pt) : beyondF ratOps w h p.1 p.2 = beyond w h p := by
  rfl

theorem nudgeCoordF_rat (n : Int) (x : Rat) : nudgeCoordF ratOps n x = nudgeCoord n (n - 1) x := by
  unfold nudgeCoordF nudgeCoord
  rw [ratOps_toInt]
  rfl

/-- a list of points as the reversed interleaved slice `…, y1, x1, y0, x0` read from the end -/
def revPairs : List Pt → List Rat
  | [] => []
  | p :: ps => p.2 :: p.1 :: revPairs ps

theorem revPairs_append (a b : List Pt) : revPairs (a ++ b) = revPairs a ++ revPairs b := by
  induction a with
  | nil => rfl
  | cons p a ih => simp [revPairs, ih]

theorem fromPairs_reverse (qs : List Pt) : (fromPairs qs).reverse = revPairs qs.reverse := by
  induction qs with
  | nil => rfl
  | cons p qs ih => simp [fromPairs, revPairs_append, revPairs, ih]

/-- `Res` of the model as the `Option` of the specification -/
def optOf : Res (List Pt) → (List Pt → List Rat) → Option (List Rat)
  | .ok r, f => some (f r)
  | .error _, _ => none

/-- The first loop over exact rationals is `nudgePass` on the pairs; an unpaired last element `r` is left alone. -/
theorem passFwdF_rat_tail (w h : Int) (r : List Rat) (hr : r.length ≤ 1) : ∀ ps : List Pt,
    passFwdF ratOps w h (fromPairs ps ++ r) = optOf (nudgePass w h ps) (fun q => fromPairs q ++ r)
  | [] => by
    match r, hr with
    | [], _ => rfl
    | [_], _ => rfl
  | p :: ps => by
    simp only [fromPairs, List.cons_append, passFwdF, nudgePass, nudgePassG, beyondF_rat, nudgeCoordF_rat,
      passFwdF_rat_tail w h r hr ps]
    split
    · rfl
    · split
      · cases nudgePassG w h (h - 1) ps <;> rfl
      · rfl
theorem passBwdRevF_rat_tail (w h : Int) (r : List Rat) (hr : r.length ≤ 1) : ∀ ps : List Pt,
    passBwdRevF ratOps w h (revPairs ps ++ r) = optOf (nudgePass w h ps) (fun q => revPairs q ++ r)
  | [] => by
    match r, hr with
    | [], _ => rfl
    | [_], _ => rfl
  | p :: ps => by
    simp only [revPairs, List.cons_append, passBwdRevF, nudgePass, nudgePassG, beyondF_rat, nudgeCoordF_rat,
      passBwdRevF_rat_tail w h r hr ps]
    split
    · rfl
    · split
      · cases nudgePassG w h (h - 1) ps <;> rfl
      · rfl
theorem passFwdF_rat (w h : Int) (ps : List Pt) :
    passFwdF ratOps w h (fromPairs ps) = optOf (nudgePass w h ps) fromPairs := by
  simpa using passFwdF_rat_tail w h [] (Nat.zero_le 1) ps

theorem passBwdRevF_rat (w h : Int) (qs : List Pt) :
    passBwdRevF ratOps w h (revPairs qs) = optOf (nudgePass w h qs) revPairs := by
  simpa using passBwdRevF_rat_tail w h [] (Nat.zero_le 1) qs

/-- On an even-length slice (the points `ps` interleaved) `nudgeSpec` is `GridSampler.checkAndNudge` — the function that
    `nudge_symmetric`, `nudge_rejects_beyond`, `nudge_accepts_within` … of Properties/C19.lean are about. -/
theorem nudgeSpec_rat_even (w h : Int) (ps : List Pt) :
    nudgeSpec ratOps w h (fromPairs ps) = optOf (checkAndNudge w h ps) fromPairs := by
  unfold nudgeSpec checkAndNudge
  rw [passFwdF_rat]
  cases h1 : nudgePass w h ps with
  | error e => rfl
  | ok ps1 =>
    simp only [optOf]
    rw [fromPairs_reverse, passBwdRevF_rat]
    cases h2 : nudgePass w h ps1.reverse with
    | error e => rfl
    | ok ps2 =>
      simp only [optOf]
      have := fromPairs_reverse ps2.reverse
      rw [List.reverse_reverse] at this
      rw [← this, List.reverse_reverse]

/-! #### every slice, odd lengths as coded -/

theorem toPairs_spec : ∀ l : List Rat, l = fromPairs (toPairs l).1 ++ (toPairs l).2 ∧ (toPairs l).2.length ≤ 1 ∧
    l.length = 2 * (toPairs l).1.length + (toPairs l).2.length
  | [] => ⟨rfl, by simp [toPairs], by simp [toPairs]⟩
  | [_] => ⟨rfl, by simp [toPairs], by simp [toPairs]⟩
  | x :: y :: rest => by
    obtain ⟨h1, h2, h3⟩ := toPairs_spec rest
    refine ⟨?_, ?_, ?_⟩
    · simp only [toPairs, fromPairs, List.cons_append]; rw [← h1]
    · simpa [toPairs] using h2
    · simp only [toPairs, List.length_cons]; omega

theorem fromPairs_snoc : ∀ (l : List Pt) (p : Pt), fromPairs (l ++ [p]) = fromPairs l ++ [p.1, p.2]
  | [], p => rfl
  | q :: l, p => by simp [fromPairs, fromPairs_snoc l p]

theorem transformPoints_row (t : Perspective.PT Rat) : ∀ (ps qs : List Pt), transformRow t ps = some qs →
    t.transformPoints (fromPairs ps) = fromPairs qs
  | [], qs, h => by simp [transformRow] at h; subst h; rfl
  | p :: ps, qs, h => by
    unfold transformRow at h
    cases h1 : t.apply? p.1 p.2 with
    | none => rw [h1] at h; simp at h
    | some q =>
      cases h2 : transformRow t ps with
      | none => rw [h1, h2] at h; simp at h
      | some qs' =>
        rw [h1, h2] at h
        simp only [Option.some.injEq] at h
        subst h
        have hq : t.apply p.1 p.2 = q := by
          unfold Perspective.PT.apply? at h1
          split at h1
          · cases h1
          · exact Option.some.inj h1
        simp only [fromPairs, Perspective.PT.transformPoints, hq]
        rw [transformPoints_row t ps qs' h2]

theorem checkAndNudge_length {w h : Int} {ps ps' : List Pt} (hc : checkAndNudge w h ps = .ok ps') : ps'.length = ps.length := by
  unfold checkAndNudge at hc
  cases h1 : nudgePass w h ps with
  | error e => rw [h1] at hc; cases hc
  | ok ps1 =>
    rw [h1] at hc
    simp only [] at hc
    cases h2 : nudgePass w h ps1.reverse with
    | error e => rw [h2] at hc; cases hc
    | ok ps2 =>
      rw [h2] at hc
      simp only [Except.ok.injEq] at hc
      subst hc
      have l1 := (nudgePass_ok h1).length_eq
      have l2 := (nudgePass_ok h2).length_eq
      simp only [List.length_reverse] at l2 ⊢
      omega

theorem fromPairs_length (l : List Pt) : (fromPairs l).length = 2 * l.length := by
  induction l with
  | nil => rfl
  | cons a l ih => simp only [fromPairs, List.length_cons, ih]; omega

theorem toPairs_fromPairs_tail (l : List Pt) (r : List Rat) (hr : r.length ≤ 1) : toPairs (fromPairs l ++ r) = (l, r) := by
  induction l with
  | nil =>
    match r, hr with
    | [], _ => rfl
    | [_], _ => rfl
  | cons a l ih => simp [fromPairs, toPairs, ih]

/-- `Res` of the model on a flat slice -/
def optFlat : Res (List Rat) → Option (List Rat)
  | .ok r => some r
  | .error _ => none

theorem toPairs_even (l : List Rat) (hev : l.length % 2 = 0) : l = fromPairs (toPairs l).1 ∧ toPairs l = ((toPairs l).1, []) := by
  obtain ⟨h1, h2, h3⟩ := toPairs_spec l
  have hr : (toPairs l).2 = [] := by
    match hq : (toPairs l).2, h2 with
    | [], _ => rfl
    | [_], _ => rw [hq] at h3; simp at h3; omega
  constructor
  · rw [hr, List.append_nil] at h1; exact h1
  · exact Prod.ext rfl hr

theorem passBwdEven_rat (w h : Int) (t x : List Rat) (hx : x.length ≤ 1) (hev : t.length % 2 = 0) :
    (passBwdRevF ratOps w h (x ++ t).reverse).map List.reverse =
      optFlat (match passBwdEven w h t with | .ok t' => .ok (x ++ t') | .error e => .error e) := by
  obtain ⟨ht, htp⟩ := toPairs_even t hev
  generalize (toPairs t).1 = qs at ht htp
  subst ht
  unfold passBwdEven
  rw [htp]
  simp only [List.append_nil, List.reverse_append]
  rw [fromPairs_reverse, passBwdRevF_rat_tail w h x.reverse (by simpa using hx)]
  cases h2 : nudgePass w h qs.reverse with
  | error e => rfl
  | ok ps2 =>
    simp only [optOf, optFlat, Option.map_some, List.reverse_append, List.reverse_reverse]
    have := fromPairs_reverse ps2.reverse
    rw [List.reverse_reverse] at this
    rw [← this, List.reverse_reverse]

theorem passBwd_rat (w h : Int) (l : List Rat) :
    (passBwdRevF ratOps w h l.reverse).map List.reverse = optFlat (passBwd w h l) := by
  unfold passBwd
  by_cases hev : l.length % 2 = 0
  · rw [if_pos hev]
    have := passBwdEven_rat w h l [] (by simp) hev
    simp only [List.nil_append] at this
    rw [this]
    cases passBwdEven w h l <;> rfl
  · rw [if_neg hev]
    match l, hev with
    | [], hev => simp at hev
    | x :: t, hev =>
      have hevt : t.length % 2 = 0 := by simp only [List.length_cons] at hev; omega
      have := passBwdEven_rat w h t [x] (by simp) hevt
      simp only [List.cons_append, List.nil_append] at this
      rw [this]
      rfl

/-- On EVERY slice; odd lengths as coded: the second loop pairs `(points[1], points[2]), …` and never touches
    `points[0]`. -/
theorem nudgeSpec_rat (w h : Int) (pts : List Rat) :
    nudgeSpec ratOps w h pts = optFlat (checkAndNudgePoints w h pts) := by
  obtain ⟨hp, hr, hlen⟩ := toPairs_spec pts
  unfold nudgeSpec checkAndNudgePoints passFwd
  conv => lhs; rw [hp, passFwdF_rat_tail w h _ hr]
  cases h1 : nudgePass w h (toPairs pts).1 with
  | error e => rfl
  | ok ps1 =>
    simp only [optOf]
    have := passBwd_rat w h (fromPairs ps1 ++ (toPairs pts).2)
    cases hb : passBwdRevF ratOps w h (fromPairs ps1 ++ (toPairs pts).2).reverse with
    | none => rw [hb] at this; rw [← this]; rfl
    | some r => rw [hb] at this; rw [← this]; rfl

end rat

end Gzx.K19
