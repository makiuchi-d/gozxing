/-
  C16 helper lemmas: BitMatrix — naive-grid facts, abstraction facts, index arithmetic of the row-padded layout,
  and `mat_of_bits` / `cellwise`, which turn a cell-by-cell description of the words of a new matrix / of new words for
  the same matrix into invariant + abstraction.
-/
import Gzx.Proofs.Bits
import Gzx.Proofs.ListGrid
namespace Gzx.Bits
open Gzx

/-! ## naive grid -/

namespace SMat

theorem get_eq (m : SMat) (x y : Nat) (hy : y < m.rows.length) :
    m.get x y = (m.rows[y])[x]?.getD false := by
  unfold SMat.get; rw [List.getElem?_eq_getElem hy]; rfl

theorem ext_get (a b : SMat) (ha : a.WF) (hb : b.WF) (hw : a.width = b.width) (hh : a.height = b.height)
    (hc : ∀ x y, x < a.width → y < a.height → a.get x y = b.get x y) : a = b := by
  obtain ⟨aw, ah, ar⟩ := a
  obtain ⟨bw, bh, br⟩ := b
  simp only at hw hh
  subst hw hh
  obtain ⟨ha1, ha2⟩ := ha
  obtain ⟨hb1, hb2⟩ := hb
  simp only at ha1 ha2 hb1 hb2 hc
  congr 1
  apply List.ext_getElem (by omega)
  intro y h1 h2
  have hl1 : ar[y].length = aw := ha2 _ (List.getElem_mem h1)
  have hl2 : br[y].length = aw := hb2 _ (List.getElem_mem h2)
  apply List.ext_getElem (by omega)
  intro x g1 g2
  have := hc x y (by omega) (by omega)
  rw [get_eq _ _ _ (by simpa using h1), get_eq _ _ _ (by simpa using h2)] at this
  simp only at this
  rw [List.getElem?_eq_getElem g1, List.getElem?_eq_getElem g2] at this
  simpa using this

def ofFn (w h : Nat) (f : Nat → Nat → Bool) : SMat :=
  ⟨w, h, (List.range h).map (fun y => (List.range w).map (fun x => f x y))⟩

theorem ofFn_WF (w h : Nat) (f : Nat → Nat → Bool) : (ofFn w h f).WF := by
  constructor
  · simp [ofFn]
  · intro r hr
    simp only [ofFn, List.mem_map] at hr
    obtain ⟨y, _, rfl⟩ := hr
    simp [ofFn]

theorem get_ofFn (w h : Nat) (f : Nat → Nat → Bool) (x y : Nat) (hx : x < w) (hy : y < h) :
    (ofFn w h f).get x y = f x y := by
  unfold SMat.get ofFn
  simp only
  rw [List.getElem?_map, List.getElem?_range hy]
  simp only [Option.map_some, Option.getD_some]
  rw [List.getElem?_map, List.getElem?_range hx]
  rfl

theorem get_ofFn_out (w h : Nat) (f : Nat → Nat → Bool) (x y : Nat) (hout : ¬ (x < w ∧ y < h)) :
    (ofFn w h f).get x y = false := by
  unfold SMat.get ofFn
  simp only
  by_cases hy : y < h
  · have hx : w ≤ x := by omega
    have e1 : ((List.range h).map (fun y => (List.range w).map (fun x => f x y)))[y]? =
        some ((List.range w).map (fun x => f x y)) := by
      rw [List.getElem?_map, List.getElem?_range hy]; rfl
    rw [e1]
    simp only [Option.getD_some]
    have e2 : ((List.range w).map (fun x => f x y))[x]? = none :=
      List.getElem?_eq_none (by simp; omega)
    rw [e2]; rfl
  · have e1 : ((List.range h).map (fun y => (List.range w).map (fun x => f x y)))[y]? = none :=
      List.getElem?_eq_none (by simp; omega)
    rw [e1]; rfl

theorem ofFn_congr (w h : Nat) {f g : Nat → Nat → Bool} (hfg : ∀ x y, x < w → y < h → f x y = g x y) :
    ofFn w h f = ofFn w h g := by
  unfold ofFn
  congr 1
  refine List.map_congr_left fun y hy => List.map_congr_left fun x hx => ?_
  exact hfg x y (List.mem_range.mp hx) (List.mem_range.mp hy)

theorem eq_ofFn (m : SMat) (hm : m.WF) : m = ofFn m.width m.height (fun x y => m.get x y) := by
  apply ext_get _ _ hm (ofFn_WF _ _ _) rfl rfl
  intro x y hx hy
  rw [get_ofFn _ _ _ _ _ hx hy]

theorem eq_ofFn_of (m : SMat) (hm : m.WF) (w h : Nat) (f : Nat → Nat → Bool) (hw : m.width = w)
    (hh : m.height = h) (hc : ∀ x y, x < w → y < h → m.get x y = f x y) : m = ofFn w h f := by
  subst hw hh
  apply ext_get _ _ hm (ofFn_WF _ _ _) rfl rfl
  intro x y hx hy
  rw [get_ofFn _ _ _ _ _ hx hy]; exact hc x y hx hy

end SMat

/-! ## abstraction -/

theorem absM_eq_ofFn (m : WMat) : absM m = SMat.ofFn m.width m.height (fun x y => mbit m x y) := rfl

theorem absM_WF (m : WMat) : (absM m).WF := SMat.ofFn_WF _ _ _

theorem absM_get (m : WMat) (x y : Nat) (hx : x < m.width) (hy : y < m.height) :
    (absM m).get x y = mbit m x y := SMat.get_ofFn _ _ _ _ _ hx hy

theorem absM_get_true (m : WMat) (x y : Nat) :
    (absM m).get x y = true ↔ (x < m.width ∧ y < m.height ∧ mbit m x y = true) := by
  by_cases c : x < m.width ∧ y < m.height
  · rw [absM_get m x y c.1 c.2]; simp [c.1, c.2]
  · rw [absM_eq_ofFn, SMat.get_ofFn_out _ _ _ _ _ c]
    constructor
    · intro hh; cases hh
    · rintro ⟨a, b, _⟩; exact absurd ⟨a, b⟩ c

/-- word result refines naive result -/
def RefinesM (r : Res WMat) (s : SMat) : Prop := ∃ m', r = .ok m' ∧ InvM m' ∧ absM m' = s

theorem absM_eq_of (m' : WMat) (s : SMat) (hs : s.WF) (hw : s.width = m'.width)
    (hh : s.height = m'.height)
    (hc : ∀ x y, x < m'.width → y < m'.height → s.get x y = mbit m' x y) : absM m' = s := by
  symm
  rw [absM_eq_ofFn]
  exact SMat.eq_ofFn_of s hs _ _ _ hw hh hc

/-! ## index arithmetic of the row-padded layout -/

theorem InvM.rowSize_eq {m : WMat} (h : InvM m) : m.rowSize = (m.width + 31) / 32 := h.2.2.1

theorem InvM.len {m : WMat} (h : InvM m) : m.words.length = m.rowSize * m.height := h.2.2.2.1

theorem InvM.words_lt {m : WMat} (h : InvM m) : ∀ w ∈ m.words, w < W32 := h.2.2.2.2.1

theorem InvM.pad {m : WMat} (h : InvM m) :
    ∀ x y, m.width ≤ x → x < m.rowSize * 32 → mbit m x y = false := h.2.2.2.2.2

theorem InvM.rs_pos {m : WMat} (h : InvM m) : 0 < m.rowSize := by
  have := h.1; have := h.rowSize_eq; omega

theorem InvM.width_le {m : WMat} (h : InvM m) : m.width ≤ m.rowSize * 32 := by
  have := h.rowSize_eq; omega

theorem InvM.lt_width {m : WMat} (h : InvM m) : m.rowSize * 32 < m.width + 32 := by
  have := h.rowSize_eq; omega

theorem row_idx_lt {rs h y k : Nat} (hk : k < rs) (hy : y < h) : y * rs + k < rs * h := by
  rw [Nat.mul_comm rs h]; exact mul_add_lt hy hk

theorem InvM.idx {m : WMat} (h : InvM m) {x y : Nat} (hx : x < m.width) (hy : y < m.height) :
    y * m.rowSize + x / 32 < m.words.length := by
  rw [h.len]
  have := h.width_le
  exact row_idx_lt (by omega) hy

theorem flatMap_rows (rs n : Nat) :
    (List.range n).flatMap (fun y => (List.range rs).map (fun x => y * rs + x)) = List.range (n * rs) := by
  induction n with
  | zero => simp
  | succ n ih => rw [List.range_succ, List.flatMap_append, ih, Nat.succ_mul, List.range_add]; simp

/-- distinct cells live at distinct stream positions -/
theorem cell_inj {rs x y x' y' : Nat} (hx : x < rs * 32) (hx' : x' < rs * 32) :
    (y' * rs) * 32 + x' = (y * rs) * 32 + x ↔ (x' = x ∧ y' = y) := by
  constructor
  · intro h
    have e1 : y' * rs * 32 = y' * (rs * 32) := Nat.mul_assoc _ _ _
    have e2 : y * rs * 32 = y * (rs * 32) := Nat.mul_assoc _ _ _
    rw [e1, e2] at h
    have hm := congrArg (· % (rs * 32)) h
    simp only [Nat.mul_add_mod_self_right] at hm
    rw [Nat.mod_eq_of_lt hx', Nat.mod_eq_of_lt hx] at hm
    subst hm
    have : y' * (rs * 32) = y * (rs * 32) := by omega
    exact ⟨rfl, Nat.eq_of_mul_eq_mul_right (by omega) this⟩
  · rintro ⟨rfl, rfl⟩; rfl

theorem mbit_eq (m : WMat) (x y : Nat) : mbit m x y = bitAt m.words ((y * m.rowSize) * 32 + x) := rfl

theorem cell_div (rs x y : Nat) : (y * rs * 32 + x) / 32 = y * rs + x / 32 := by omega

theorem cell_mod (rs x y : Nat) : (y * rs * 32 + x) % 32 = x % 32 := by omega

theorem bitAt_cell (ws : List Nat) (rs x y : Nat) :
    bitAt ws (y * rs * 32 + x) = (ws[y * rs + x / 32]?.getD 0).testBit (x % 32) := by
  unfold bitAt
  rw [cell_div, cell_mod]

theorem mbit_word (m : WMat) (x y : Nat) :
    mbit m x y = (m.words[y * m.rowSize + x / 32]?.getD 0).testBit (x % 32) := bitAt_cell ..

theorem InvM.row_end {m : WMat} (h : InvM m) {y : Nat} (hy : y < m.height) :
    y * m.rowSize + m.rowSize ≤ m.words.length := by
  have : (y + 1) * m.rowSize ≤ m.height * m.rowSize := Nat.mul_le_mul_right _ hy
  rw [Nat.add_mul, Nat.one_mul] at this
  rw [h.len, Nat.mul_comm m.rowSize]; exact this

theorem mat_of_bits {w ht : Nat} (hw : 1 ≤ w) (hh : 1 ≤ ht) {ws : List Nat}
    (hl : ws.length = (w + 31) / 32 * ht) (hlt : ∀ v ∈ ws, v < W32) (f : Nat → Nat → Bool)
    (hb : ∀ x y, x < (w + 31) / 32 * 32 → y < ht →
      bitAt ws ((y * ((w + 31) / 32)) * 32 + x) = if x < w then f x y else false) :
    InvM ⟨w, ht, (w + 31) / 32, ws⟩ ∧ absM ⟨w, ht, (w + 31) / 32, ws⟩ = SMat.ofFn w ht f := by
  -- only `w ≤ rs * 32` is used of the row size, not the division
  generalize hrs : (w + 31) / 32 = rs at hl hb
  have hwl : w ≤ rs * 32 := by omega
  refine ⟨⟨hw, hh, hrs.symm, hl, hlt, fun x y hx1 hx2 => ?_⟩, ?_⟩
  · show bitAt ws (y * rs * 32 + x) = false
    by_cases hy : y < ht
    · rw [hb x y hx2 hy, if_neg (Nat.not_lt.mpr hx1)]
    · apply bitAt_of_ge
      have : ht * rs ≤ y * rs := Nat.mul_le_mul_right _ (by omega)
      rw [hl, Nat.mul_comm rs]; omega
  · apply absM_eq_of _ _ (SMat.ofFn_WF _ _ _) rfl rfl
    intro x y hx hy
    have hx' : x < w := hx
    rw [SMat.get_ofFn _ _ _ _ _ hx' hy]
    show _ = bitAt ws (y * rs * 32 + x)
    rw [hb x y (by omega) hy, if_pos hx']

theorem cellwise (m : WMat) (h : InvM m) (ws' : List Nat) (f : Nat → Nat → Bool)
    (hl : ws'.length = m.words.length) (hlt : ∀ w ∈ ws', w < W32)
    (hb : ∀ x y, x < m.rowSize * 32 → y < m.height →
      bitAt ws' ((y * m.rowSize) * 32 + x) = if x < m.width then f x y else false) :
    InvM { m with words := ws' } ∧
      absM { m with words := ws' } = SMat.ofFn m.width m.height f := by
  have hrs := h.rowSize_eq
  have := mat_of_bits h.1 h.2.1 (ws := ws') (by rw [hl, h.len, hrs]) hlt f (by rw [← hrs]; exact hb)
  rw [← hrs] at this
  exact this

theorem zero_mat {w h : Nat} (hw : 1 ≤ w) (hh : 1 ≤ h) :
    InvM ⟨w, h, (w + 31) / 32, List.replicate ((w + 31) / 32 * h) 0⟩ ∧
      absM ⟨w, h, (w + 31) / 32, List.replicate ((w + 31) / 32 * h) 0⟩ = SMat.ofFn w h (fun _ _ => false) :=
  mat_of_bits hw hh (List.length_replicate ..)
    (fun v hv => by rw [(List.mem_replicate.mp hv).2]; decide) (fun _ _ => false)
    (fun _ _ _ _ => by rw [bitAt_zeros]; split <;> rfl)

theorem WMat.newMat_props (w h : Nat) (hw : 1 ≤ w) (hh : 1 ≤ h) :
    ∃ m0, WMat.new w h = .ok m0 ∧ InvM m0 ∧ m0.width = w ∧ m0.height = h ∧
      ∀ x y, mbit m0 x y = false := by
  unfold WMat.new
  rw [if_neg (by omega)]
  exact ⟨_, rfl, (zero_mat hw hh).1, rfl, rfl, fun _ _ => bitAt_zeros _ _⟩

end Gzx.Bits
