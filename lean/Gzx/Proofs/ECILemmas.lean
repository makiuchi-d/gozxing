/-
  Lemmas about the ECI designator encoding/parsing (C15): the bit tests that classify a lead byte
  (`bf1`/`bf2`/`bf3`, shared with the UTF-8 scan of Proofs/GuessLemmas.lean) and the three designator forms read back.
  The registry lookups are in Properties/C15.lean.
-/
import Gzx.Proofs.QRBitsLemmas
namespace Gzx.ECI
open Gzx Gzx.QRDec

/-- Lead-byte classes by mask test, all 256 bytes evaluated.  The top two bits:
    `.1` 0xxxxxxx (`< 0x80`): the test `&&& 0x80` is 0 and the payload `&&& 0x7F` is the byte;
    `.2.1` `≥ 0x80`: that test is not 0;
    `.2.2` 10xxxxxx (`0x80..0xBF`, a continuation byte / the 2-byte ECI form): `&&& 0x40 = 0`, `&&& 0xC0 = 0x80`,
    payload `&&& 0x3F`. -/
theorem bf1 : ∀ v, v < 256 → ((v < 0x80 → v &&& 0x80 = 0 ∧ v &&& 0x7F = v) ∧
     (0x80 ≤ v → v &&& 0x80 ≠ 0) ∧
     (0x80 ≤ v → v < 0xC0 → v &&& 0x40 = 0 ∧ v &&& 0xC0 = 0x80 ∧ v &&& 0x3F = v - 0x80)) := by decide +kernel

/-- Bytes `≥ 0xC0`:
    `.1` they are not of class 10xxxxxx (`&&& 0x40 ≠ 0`, `&&& 0xC0 ≠ 0x80`);
    `.2.1` 110xxxxx (`0xC0..0xDF`, lead of a 2-byte UTF-8 character / the 3-byte ECI form): `&&& 0x20 = 0`,
    `&&& 0xE0 = 0xC0`, payload `&&& 0x1F`;
    `.2.2` `≥ 0xE0`: not of class 110xxxxx (`&&& 0x20 ≠ 0`, `&&& 0xE0 ≠ 0xC0`). -/
theorem bf2 : ∀ v, v < 256 → (
     (0xC0 ≤ v → v &&& 0x40 ≠ 0 ∧ v &&& 0xC0 ≠ 0x80) ∧
     (0xC0 ≤ v → v < 0xE0 → v &&& 0x20 = 0 ∧ v &&& 0xE0 = 0xC0 ∧ v &&& 0x1F = v - 0xC0) ∧
     (0xE0 ≤ v → v &&& 0x20 ≠ 0 ∧ v &&& 0xE0 ≠ 0xC0)) := by decide +kernel

/-- Bytes `≥ 0xE0`, the tests of the UTF-8 scan on bits 0x10 and 0x08:
    `.1` 1110xxxx (`0xE0..0xEF`, lead of a 3-byte character): `&&& 0x10 = 0`;   `.2.1` `≥ 0xF0`: `&&& 0x10 ≠ 0`;
    `.2.2.1` 11110xxx (`0xF0..0xF7`, lead of a 4-byte character): `&&& 0x08 = 0`;   `.2.2.2` `≥ 0xF8` (no UTF-8
    lead byte): `&&& 0x08 ≠ 0`. -/
theorem bf3 : ∀ v, v < 256 → (
     (0xE0 ≤ v → v < 0xF0 → v &&& 0x10 = 0) ∧
     (0xF0 ≤ v → v &&& 0x10 ≠ 0) ∧
     (0xF0 ≤ v → v < 0xF8 → v &&& 0x08 = 0) ∧
     (0xF8 ≤ v → v &&& 0x08 ≠ 0)) := by decide +kernel

theorem shl_or (a b k : Nat) (h : b < 2 ^ k) : (a <<< k) ||| b = a * 2 ^ k + b := by
  rw [← Nat.shiftLeft_add_eq_or_of_lt h, Nat.shiftLeft_eq]

/-- one-byte form: 0bbbbbbb -/
theorem parseECI_form1 (v : Nat) (hv : v < 128) (rest : List Bool) :
    parseECIValue (encodeECIValue 1 v ++ rest) = .ok (v, rest) := by
  unfold parseECIValue encodeECIValue
  simp only [if_true]
  rw [readBitsF_natToBits_lt 8 v rest (by omega) (by omega) (by omega)]
  have f := (bf1 v (by omega)).1 hv
  simp [bind, Except.bind, f.1, f.2]

/-- two-byte form: 10bbbbbb bbbbbbbb -/
theorem parseECI_form2 (v : Nat) (hv : v < 16384) (rest : List Bool) :
    parseECIValue (encodeECIValue 2 v ++ rest) = .ok (v, rest) := by
  unfold parseECIValue encodeECIValue
  simp only [show (2 : Nat) = 1 ↔ False by decide, if_false, if_true]
  rw [show (16 : Nat) = 8 + 8 from rfl, natToBits_add, List.append_assoc]
  rw [readBitsF_natToBits 8 _ _ (by omega) (by omega)]
  have h1 : (0x8000 + v) / 2 ^ 8 % 2 ^ 8 = 0x80 + v / 256 := by omega
  rw [h1]
  have hf : 0x80 + v / 256 < 256 := by omega
  have f := bf1 (0x80 + v / 256) hf
  have f2 := f.2.1 (by omega)
  have f3 := f.2.2 (by omega) (by omega)
  simp only [bind, Except.bind, f2, if_false, f3.2.1, if_true]
  rw [readBitsF_natToBits 8 _ _ (by omega) (by omega)]
  simp only [f3.2.2]
  rw [shl_or _ _ 8 (Nat.mod_lt _ (by decide))]
  have : (0x80 + v / 256 - 0x80) * 2 ^ 8 + (0x8000 + v) % 2 ^ 8 = v := by omega
  rw [this]

/-- three-byte form: 110bbbbb bbbbbbbb bbbbbbbb -/
theorem parseECI_form3 (v : Nat) (hv : v < 2097152) (rest : List Bool) :
    parseECIValue (encodeECIValue 3 v ++ rest) = .ok (v, rest) := by
  unfold parseECIValue encodeECIValue
  simp only [show (3 : Nat) = 1 ↔ False by decide, show (3 : Nat) = 2 ↔ False by decide, if_false]
  rw [show (24 : Nat) = 8 + 16 from rfl, natToBits_add, List.append_assoc]
  rw [readBitsF_natToBits 8 _ _ (by omega) (by omega)]
  have h1 : (0xC00000 + v) / 2 ^ 16 % 2 ^ 8 = 0xC0 + v / 65536 := by omega
  rw [h1]
  have hf : 0xC0 + v / 65536 < 256 := by omega
  have f2 := (bf1 (0xC0 + v / 65536) hf).2.1 (by omega)
  have f4 := (bf2 (0xC0 + v / 65536) hf).1 (by omega)
  have f5 := (bf2 (0xC0 + v / 65536) hf).2.1 (by omega) (by omega)
  simp only [bind, Except.bind, f2, if_false, f4.2, f5.2.1, if_true]
  rw [readBitsF_natToBits 16 _ _ (by omega) (by omega)]
  simp only [f5.2.2]
  rw [shl_or _ _ 16 (Nat.mod_lt _ (by decide))]
  have : (0xC0 + v / 65536 - 0xC0) * 2 ^ 16 + (0xC00000 + v) % 2 ^ 16 = v := by omega
  rw [this]

end Gzx.ECI
