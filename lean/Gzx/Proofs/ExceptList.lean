import Gzx.Model.ExceptList
import Gzx.Util
namespace Gzx

variable {ε α β : Type}

theorem mapME_nil (f : α → Except ε β) : mapME f [] = .ok [] := rfl

theorem mapME_cons_ok (f : α → Except ε β) (a : α) (as : List α) (b : β) (bs : List β)
    (h1 : f a = .ok b) (h2 : mapME f as = .ok bs) : mapME f (a :: as) = .ok (b :: bs) := by
  simp [mapME, h1, h2]

theorem mapME_cons_inv (f : α → Except ε β) (a : α) (as : List α) (r : List β)
    (h : mapME f (a :: as) = .ok r) : ∃ b bs, f a = .ok b ∧ mapME f as = .ok bs ∧ r = b :: bs := by
  unfold mapME at h
  split at h
  · cases h
  · rename_i b hb
    split at h
    · cases h
    · rename_i bs hbs
      cases h
      exact ⟨b, bs, hb, hbs, rfl⟩

theorem mapME_eq_map (f : α → Except ε β) (g : α → β) (l : List α)
    (h : ∀ a ∈ l, f a = .ok (g a)) : mapME f l = .ok (l.map g) := by
  induction l with
  | nil => rfl
  | cons a as ih =>
    have h1 := h a (by simp)
    have h2 := ih (fun x hx => h x (by simp [hx]))
    simp [mapME, h1, h2]

theorem mapME_exists (f : α → Except ε β) (l : List α)
    (h : ∀ a ∈ l, ∃ b, f a = .ok b) : ∃ bs, mapME f l = .ok bs := by
  induction l with
  | nil => exact ⟨[], rfl⟩
  | cons a as ih =>
    obtain ⟨b, hb⟩ := h a (by simp)
    obtain ⟨bs, hbs⟩ := ih (fun x hx => h x (by simp [hx]))
    exact ⟨b :: bs, mapME_cons_ok f a as b bs hb hbs⟩

theorem mapME_length (f : α → Except ε β) (l : List α) (bs : List β) (h : mapME f l = .ok bs) :
    bs.length = l.length := by
  induction l generalizing bs with
  | nil => simp [mapME] at h; subst h; rfl
  | cons a as ih =>
    obtain ⟨b, bs', _, h2, rfl⟩ := mapME_cons_inv f a as bs h
    simp [ih bs' h2]

theorem mapME_mem_right (f : α → Except ε β) (l : List α) (bs : List β) (h : mapME f l = .ok bs) :
    ∀ b ∈ bs, ∃ a ∈ l, f a = .ok b := by
  induction l generalizing bs with
  | nil => simp [mapME] at h; subst h; simp
  | cons a as ih =>
    obtain ⟨b0, bs', h1, h2, rfl⟩ := mapME_cons_inv f a as bs h
    intro b hb
    rcases List.mem_cons.mp hb with rfl | hb
    · exact ⟨a, by simp, h1⟩
    · obtain ⟨a', ha', hf⟩ := ih bs' h2 b hb
      exact ⟨a', by simp [ha'], hf⟩

theorem mapME_mem_left (f : α → Except ε β) (l : List α) (bs : List β) (h : mapME f l = .ok bs) :
    ∀ a ∈ l, ∃ b ∈ bs, f a = .ok b := by
  induction l generalizing bs with
  | nil => simp
  | cons a as ih =>
    obtain ⟨b0, bs', h1, h2, rfl⟩ := mapME_cons_inv f a as bs h
    intro x hx
    rcases List.mem_cons.mp hx with rfl | hx
    · exact ⟨b0, by simp, h1⟩
    · obtain ⟨b, hb, hf⟩ := ih bs' h2 x hx
      exact ⟨b, by simp [hb], hf⟩

theorem mapME_getElem (f : α → Except ε β) (l : List α) (bs : List β) (h : mapME f l = .ok bs)
    (i : Nat) (a : α) (ha : l[i]? = some a) : ∃ b, bs[i]? = some b ∧ f a = .ok b := by
  induction l generalizing bs i with
  | nil => simp at ha
  | cons a0 as ih =>
    obtain ⟨b0, bs', h1, h2, rfl⟩ := mapME_cons_inv f a0 as bs h
    cases i with
    | zero => simp at ha; subst ha; exact ⟨b0, by simp, h1⟩
    | succ i =>
      simp at ha
      obtain ⟨b, hb, hf⟩ := ih bs' h2 i ha
      exact ⟨b, by simp [hb], hf⟩

theorem mapME_error (f : α → Except ε β) (l : List α) (e : ε) (h : mapME f l = .error e) :
    ∃ a ∈ l, f a = .error e := by
  induction l with
  | nil => simp [mapME] at h
  | cons a as ih =>
    unfold mapME at h
    split at h
    · rename_i e' he; cases h; exact ⟨a, by simp, he⟩
    · split at h
      · rename_i e' he; cases h
        obtain ⟨a', ha', hf⟩ := ih he
        exact ⟨a', by simp [ha'], hf⟩
      · cases h

theorem mem_mapME_iff (f : α → Except ε β) (l : List α) (bs : List β)
    (h : mapME f l = .ok bs) (b : β) : b ∈ bs ↔ ∃ a ∈ l, f a = .ok b := by
  refine ⟨mapME_mem_right f l bs h b, fun ⟨a, ha, hf⟩ => ?_⟩
  obtain ⟨b', hb', hf'⟩ := mapME_mem_left f l bs h a ha
  rw [hf] at hf'
  cases hf'
  exact hb'

theorem mem_flatten_mapME (f : α → Except ε (List β)) (l : List α) (rows : List (List β))
    (h : mapME f l = .ok rows) (b : β) : b ∈ rows.flatten ↔ ∃ a ∈ l, ∃ r, f a = .ok r ∧ b ∈ r := by
  simp only [List.mem_flatten, mem_mapME_iff f l rows h]
  exact ⟨fun ⟨r, ⟨a, ha, hf⟩, hb⟩ => ⟨a, ha, r, hf, hb⟩, fun ⟨a, ha, r, hf, hb⟩ => ⟨r, ⟨a, ha, hf⟩, hb⟩⟩

theorem mapME_map {γ : Type} (f : β → Except ε γ) (g : α → β) :
    ∀ l : List α, mapME f (l.map g) = mapME (fun a => f (g a)) l
  | [] => rfl
  | a :: as => by simp only [List.map_cons, mapME, mapME_map f g as]

/-! ### `bind` and `List.mapM` in `Res` / `Except` -/

theorem ok_bind {α β : Type} (a : α) (g : α → Res β) : (Except.ok a >>= g) = g a := rfl

/-- a way to name the value of a closed computation after the kernel has only been asked whether it succeeds -/
theorem exists_ok_of_isOk {α : Type} {r : Res α} (h : r.isOk = true) : ∃ a, r = .ok a := by
  cases r with
  | ok a => exact ⟨a, rfl⟩
  | error e => cases h

theorem bind_ok {ε α β : Type} {x : Except ε α} {f : α → Except ε β} {b : β} (h : x >>= f = .ok b) :
    ∃ a, x = .ok a ∧ f a = .ok b := by
  cases x with
  | error e => cases h
  | ok a => exact ⟨a, rfl, h⟩

theorem bind_error {ε α β : Type} {x : Except ε α} {f : α → Except ε β} {e : ε} (h : x >>= f = .error e) :
    x = .error e ∨ ∃ a, x = .ok a ∧ f a = .error e := by
  cases x with
  | error e' => cases h; exact .inl rfl
  | ok a => exact .inr ⟨a, rfl, h⟩

theorem mapM_ok {α β : Type} (f : α → Res β) (g : α → β) : ∀ (l : List α),
    (∀ x ∈ l, f x = .ok (g x)) → l.mapM f = .ok (l.map g)
  | [], _ => rfl
  | x :: xs, h => by
    rw [List.mapM_cons, h x (by simp), mapM_ok f g xs (fun y hy => h y (List.mem_cons_of_mem _ hy))]
    rfl

theorem mapM_length {α β : Type} {f : α → Res β} : ∀ (l : List α) (ms : List β), l.mapM f = .ok ms → ms.length = l.length
  | [], ms, h => by simp [pure, Except.pure] at h; subst h; rfl
  | x :: xs, ms, h => by
    rw [List.mapM_cons] at h
    obtain ⟨m, -, h⟩ := bind_ok h
    obtain ⟨ms', hxs, h⟩ := bind_ok h
    cases h
    simp [mapM_length xs ms' hxs]

theorem foldlM_congr_mem {α β : Type} (f g : β → α → Res β) (l : List α) (b : β)
    (h : ∀ x ∈ l, ∀ b, f b x = g b x) : l.foldlM f b = l.foldlM g b := by
  induction l generalizing b with
  | nil => rfl
  | cons x xs ih =>
    rw [List.foldlM_cons, List.foldlM_cons, h x (by simp)]
    cases g b x with
    | error e => rfl
    | ok b' => exact ih b' (fun y hy => h y (by simp [hy]))

theorem foldlM_inv {σ ι : Type} (P : σ → Prop) (body : σ → ι → Res σ) (hb : ∀ s k s', P s → body s k = .ok s' → P s') :
    ∀ (l : List ι) (s s' : σ), P s → l.foldlM body s = .ok s' → P s'
  | [], s, s', hp, h => by simp only [List.foldlM, pure, Except.pure] at h; injection h with h; exact h ▸ hp
  | k :: l, s, s', hp, h => by
    simp only [List.foldlM, bind, Except.bind] at h
    cases hk : body s k with
    | error e => rw [hk] at h; cases h
    | ok s1 => rw [hk] at h; exact foldlM_inv P body hb l s1 s' (hb s k s1 hp hk) h

end Gzx
