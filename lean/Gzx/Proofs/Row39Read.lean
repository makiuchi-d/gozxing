/-
  Helper lemmas for Properties/C03Row39.lean: the primitives of the Code 39 / Code 93 row decoders evaluated on a
  row given by its run widths, at a run boundary (`RowAt`, Proofs/RunBoundary.lean); the start search and the character
  loop of both on a row that shows start character, characters and stop character (`starScan_at`).
-/
import Gzx.Proofs.Row39Total
import Gzx.Proofs.Row128Read
namespace Gzx.Row39
open Gzx Gzx.OneD

/-! ## two-valued widths (Code 39, Codabar) -/

/-- element widths: `a` for a narrow (0) element, `b` for a wide (1) element -/
def nw (a b : Nat) (bits : List Bool) : List Nat := bits.map (fun w => if w then b else a)

theorem mem_nw (a b : Nat) (bits : List Bool) : ∀ c ∈ nw a b bits, c = a ∨ c = b := by
  intro c hc
  obtain ⟨w, _, rfl⟩ := List.mem_map.mp hc
  cases w <;> simp

/-! ## the start-pattern search finds the first window when `accept` says yes -/

theorem starLoop_same (acc : List Nat → Nat → Nat → Res Bool) (m : Nat) (col : Bool) (tail : List Bool) (x : Nat)
    (pre : List Nat) (k : Nat) (zs : List Nat) (ps : Nat) :
    starLoop acc (List.replicate m col ++ tail) x (pre ++ k :: zs) pre.length ps (!col)
      = starLoop acc tail (x + m) (pre ++ (k + m) :: zs) pre.length ps (!col) := by
  induction m generalizing x k with
  | zero => simp
  | succ m ih =>
    have hc : (col != !col) = true := by cases col <;> rfl
    have hlt : pre.length < (pre ++ k :: zs).length := by simp
    simp only [List.replicate_succ, List.cons_append, starLoop, hc, if_true, hlt, incrAt_mid]
    rw [ih]
    have e1 : x + 1 + m = x + (m + 1) := by omega
    have e2 : k + 1 + m = k + (m + 1) := by omega
    rw [e1, e2]

theorem starLoop_match (acc : List Nat → Nat → Nat → Res Bool) (post : List Nat) :
    ∀ (pre : List Nat) (k m : Nat) (zs : List Nat) (w : Nat) (rest : List Nat) (col : Bool) (x ps : Nat),
    zs.length = post.length → (∀ p ∈ post, 0 < p) → 0 < w →
    acc (pre ++ (k + m) :: post) ps (x + m + sumL post) = .ok true →
    starLoop acc (List.replicate m col ++ appendPattern (post ++ w :: rest) (!col)) x (pre ++ k :: zs) pre.length
        ps (!col) = .ok (ps, x + m + sumL post) := by
  induction post with
  | nil =>
    intro pre k m zs w rest col x ps hzs _ hw hacc
    have hz : zs = [] := by simpa using hzs
    subst hz
    obtain ⟨w', rfl⟩ : ∃ w', w = w' + 1 := ⟨w - 1, by omega⟩
    rw [starLoop_same]
    have hc : ((!col) != !col) = false := by cases col <;> rfl
    have hl : pre.length + 1 = (pre ++ [k + m]).length := by simp
    simp only [sumL_nil, Nat.add_zero] at hacc
    simp only [List.nil_append, appendPattern, List.replicate_succ, List.cons_append, starLoop, hc,
      Bool.false_eq_true, if_false, hl, if_true, hacc, sumL_nil, Nat.add_zero]
  | cons p post ih =>
    intro pre k m zs w rest col x ps hzs hpos hw hacc
    obtain ⟨z, zs', rfl⟩ := List.exists_cons_of_length_eq_add_one hzs
    have hp : 0 < p := hpos p (by simp)
    obtain ⟨p', rfl⟩ : ∃ p', p = p' + 1 := ⟨p - 1, by omega⟩
    rw [starLoop_same]
    have hc : ((!col) != !col) = false := by cases col <;> rfl
    have hl : ¬ pre.length + 1 = (pre ++ (k + m) :: z :: zs').length := by simp
    have hl2 : pre.length + 1 < (pre ++ (k + m) :: z :: zs').length := by simp
    simp only [List.cons_append, appendPattern, List.replicate_succ, starLoop, hc,
      Bool.false_eq_true, if_false, hl, hl2, if_true]
    have hset : (pre ++ (k + m) :: z :: zs').set (pre.length + 1) 1 = (pre ++ [k + m]) ++ 1 :: zs' := by
      rw [List.set_append_right _ _ (by omega)]
      simp
    have hpl : pre.length + 1 = (pre ++ [k + m]).length := by simp
    rw [hset, hpl]
    have := ih (pre ++ [k + m]) 1 p' zs' w rest (!col) (x + m + 1) ps
      (by simpa using hzs) (fun q hq => hpos q (by simp [hq])) hw
      (by
        have e : 1 + p' = p' + 1 := by omega
        have e2 : x + m + 1 + p' + sumL post = x + m + sumL ((p' + 1) :: post) := by rw [sumL_cons]; omega
        rw [e, e2]; simpa using hacc)
    simp only [Bool.not_not] at this ⊢
    rw [this, sumL_cons]
    congr 2; omega

/-- the search started where the first black run begins: the first runs `S` are the window -/
theorem starLoop_first {row off} (acc : List Nat → Nat → Nat → Res Bool) (S : List Nat) (hS : 3 ≤ S.length) (w : Nat)
    (rest : List Nat) (h : RowAt row off (S ++ w :: rest) true) (hacc : acc S off (off + sumL S) = .ok true) :
    starLoop acc (row.drop off) off (List.replicate S.length 0) 0 off false = .ok (off, off + sumL S) := by
  rw [starLoop_eq_gen _ _ _ _ _ _ _ (by simpa using hS) (by simp; omega), List.length_replicate]
  refine Row128.genLoop_first S.length hS _ S rfl w rest h _ ?_
  unfold checkStar
  rw [hacc]

/-- after the runs `A` of a character and the runs `gap` up to the next bar (none, or one space), `GetNextSet` stands on
    that bar -/
theorem next_bar {row off} (A gap B : List Nat) (hgap : gap.length ≤ 1) (hpar : (A.length + gap.length) % 2 = 0)
    (hB : B ≠ []) (h : RowAt row off (A ++ (gap ++ B)) true) :
    getNextSet row (off + sumL A) = off + sumL A + sumL gap ∧ RowAt row (off + sumL A + sumL gap) B true := by
  match gap, hgap with
  | [], _ =>
    have hadv := h.advance_even A _ (by simpa using hpar)
    obtain ⟨w, B', rfl⟩ := List.exists_cons_of_ne_nil hB
    exact ⟨by simpa [sumL_nil] using getNextSet_at hadv, by simpa [sumL_nil] using hadv⟩
  | [g], _ =>
    -- `A` ends with a bar, the space `g` follows, then the next bar
    have hadv := h.advance_odd A _ (by simp at hpar; omega)
    obtain ⟨w1, rest, rfl⟩ := List.exists_cons_of_ne_nil hB
    have := hadv.advance_odd [g] _ (by simp)
    exact ⟨by simpa [sumL_cons, sumL_nil] using getNextSet_skip hadv, by simpa [sumL_cons, sumL_nil] using this⟩

/-- the drawn characters `gs` (runs, value), each followed by `gap`, then the stop character: the loop returns the
    values and stands where the stop character starts -/
theorem charLoop_at {row} (n : Nat) (hn : 0 < n) (classify : List Nat → Res Nat) (gap : List Nat)
    (hgap : gap.length ≤ 1) (hpar : (n + gap.length) % 2 = 0) (stop : List Nat) (hstop : stop.length = n)
    (hcs : classify stop = .ok 42) (tail : List Nat) :
    ∀ (gs : List (List Nat × Nat)) (off fuel : Nat) (acc : List Nat),
      (∀ g ∈ gs, g.1.length = n ∧ classify g.1 = .ok g.2 ∧ g.2 ≠ 42) → gs.length < fuel →
      RowAt row off ((gs.map (fun g => g.1 ++ gap)).flatten ++ (stop ++ tail)) true →
      charLoop n classify row fuel off acc =
        .ok (acc.reverse ++ gs.map (·.2), off + sumL (gs.map (fun g => g.1 ++ gap)).flatten, sumL stop,
             getNextSet row (off + sumL (gs.map (fun g => g.1 ++ gap)).flatten + sumL stop)) := by
  intro gs
  induction gs with
  | nil =>
    intro off fuel acc _ hfuel h
    obtain ⟨fuel', rfl⟩ : ∃ k, fuel = k + 1 := ⟨fuel - 1, by simp at hfuel; omega⟩
    simp only [List.map_nil, List.flatten_nil, List.nil_append] at h
    unfold charLoop
    rw [recordPattern_at stop tail n hn hstop h]
    simp [wrapNotFound, hcs, sumL_nil]
  | cons g gs ih =>
    intro off fuel acc hgs hfuel h
    obtain ⟨fuel', rfl⟩ : ∃ k, fuel = k + 1 := ⟨fuel - 1, by simp at hfuel; omega⟩
    obtain ⟨hl, hc, h42⟩ := hgs g (by simp)
    simp only [List.map_cons, List.flatten_cons, List.append_assoc] at h
    obtain ⟨hnext, hadv⟩ := next_bar g.1 gap _ hgap (by rw [hl]; exact hpar)
      (by intro e; have := congrArg List.length e
          simp only [List.length_append, hstop, List.length_nil] at this; omega) h
    unfold charLoop
    rw [recordPattern_at g.1 _ n hn hl h]
    simp only [wrapNotFound, hc, h42, if_false, hnext]
    rw [ih (off + sumL g.1 + sumL gap) fuel' (g.2 :: acc) (fun x hx => hgs x (by simp [hx]))
      (by simp at hfuel; omega) hadv]
    simp [sumL_append, Nat.add_assoc]

/-- the drawn characters take at least one pixel each -/
theorem glyphs_le_sum (n : Nat) (hn : 0 < n) (gap : List Nat) : ∀ (gs : List (List Nat × Nat)),
    (∀ g ∈ gs, g.1.length = n) → (∀ w ∈ (gs.map (fun g => g.1 ++ gap)).flatten, 0 < w) →
    gs.length ≤ sumL (gs.map (fun g => g.1 ++ gap)).flatten
  | [], _, _ => Nat.zero_le _
  | g :: gs, hl, hpos => by
    have ih := glyphs_le_sum n hn gap gs (fun x hx => hl x (by simp [hx]))
      (fun w hw => hpos w (by simp only [List.map_cons, List.flatten_cons, List.mem_append]; exact Or.inr hw))
    obtain ⟨x, xs, hx⟩ := List.exists_cons_of_length_pos (by rw [hl g (by simp)]; exact hn : 0 < g.1.length)
    have := hpos x (by simp [hx])
    simp only [List.map_cons, List.flatten_cons, sumL_append, hx, List.cons_append, sumL_cons, List.length_cons]
    omega

/-- a row that shows, from its first bar at `lq`: the start character, `gap`, the characters `gs` (runs, value) each
    followed by `gap`, the stop character, `tail`.  The search finds the start character, and the character loop returns
    the values and stands where the stop character starts. -/
theorem starScan_at {row : List Bool} {lq : Nat} (n : Nat) (h3 : 3 ≤ n) (accept : List Nat → Nat → Nat → Res Bool)
    (classify : List Nat → Res Nat) (gap : List Nat) (hgap : gap.length ≤ 1) (hpar : (n + gap.length) % 2 = 0)
    (star : List Nat) (hstar : star.length = n) (hcs : classify star = .ok 42) (gs : List (List Nat × Nat))
    (hgs : ∀ g ∈ gs, g.1.length = n ∧ classify g.1 = .ok g.2 ∧ g.2 ≠ 42) (tail : List Nat)
    (h : RowAt row lq (star ++ (gap ++ ((gs.map (fun g => g.1 ++ gap)).flatten ++ (star ++ tail)))) true)
    (hacc : accept star lq (lq + sumL star) = .ok true) :
    starLoop accept (row.drop lq) lq (List.replicate n 0) 0 lq false = .ok (lq, lq + sumL star) ∧
    getNextSet row (lq + sumL star) = lq + sumL star + sumL gap ∧
    charLoop n classify row (row.length + 1) (lq + sumL star + sumL gap) [] =
      .ok (gs.map (·.2), lq + sumL star + sumL gap + sumL (gs.map (fun g => g.1 ++ gap)).flatten, sumL star,
           getNextSet row (lq + sumL star + sumL gap + sumL (gs.map (fun g => g.1 ++ gap)).flatten + sumL star)) := by
  have hne : (gs.map (fun g => g.1 ++ gap)).flatten ++ (star ++ tail) ≠ [] := by
    intro e
    have := congrArg List.length e
    simp only [List.length_append, hstar, List.length_nil] at this
    omega
  obtain ⟨hnext, hadv⟩ := next_bar star gap _ hgap (by rw [hstar]; exact hpar) hne h
  obtain ⟨w, rest, hwr⟩ := List.exists_cons_of_ne_nil
    (by intro e; exact hne (List.append_eq_nil_iff.mp e).2 : gap ++ ((gs.map (fun g => g.1 ++ gap)).flatten ++ (star ++ tail)) ≠ [])
  refine ⟨?_, hnext, ?_⟩
  · have := starLoop_first accept star (by omega) w rest (by rw [← hwr]; exact h) hacc
    rwa [hstar] at this
  · have hfuel : gs.length < row.length + 1 := by
      have hl := hadv.length
      have := glyphs_le_sum n (by omega) gap gs (fun g hg => (hgs g hg).1)
        (fun w hw => hadv.pos w (List.mem_append_left _ hw))
      rw [sumL_append] at hl
      omega
    have := charLoop_at (row := row) n (by omega) classify gap hgap hpar star hstar hcs tail gs
      (lq + sumL star + sumL gap) (row.length + 1) [] hgs hfuel hadv
    simpa using this

theorem rowGet_at {row off w B col} (h : RowAt row off (w :: B) col) : rowGet row off = .ok col := by
  obtain ⟨tl, htl⟩ := h.head
  unfold rowGet nth
  have : row[off]? = some col := by
    have := List.getElem?_drop (xs := row) (i := off) (j := 0)
    rw [htl] at this
    simpa using this.symm
  rw [this]

end Gzx.Row39
