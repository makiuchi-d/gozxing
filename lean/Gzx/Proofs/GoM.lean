/-
  The data of the translator's monadic target against model data: checked reads and writes of slices, Go's integer operators
  on values that come from naturals, byte strings, and the two simp sets (`gonorm`, `resolve_ifs`) under which `omega` decides
  the index equations and argument checks of generated code.  The loops, and how a kernel theorem goes, are in
  Proofs/GoMLoop.lean; nothing here mentions the text of a generated body.

  Which lemma for a checked operation.  `idx`, `idxRow`, `idxL`, … are `idxA` and `setIdx`, `setRow`, … are `setIdxA` at a
  type (`idx_eq_idxA`, `idxRow_eq_idxA`; the writes by `rfl`), and `mk` is `mkA 0`; the theory is stated once, on `idxA` /
  `setIdxA` / `mkA`, in four forms: `_of_lt` (index in range, `e = ↑n`), `_neg` / `_of_ge` (out of range), `_seam` (the
  element after a prefix `pre`, `e = ↑pre.length`), `_map` (through an embedding).  On a slice of integers the same forms are
  at hand as `idx_ofNat` (literal `↑i`), `idx_neg`, `idx_ge`, `idx_seam`, `setIdx_of_lt`, `setIdx_of_ge`, `setIdx_seam`; on a
  slice `nats l` of model naturals as `idx_nats` (all three outcomes), `idx_nats_lt`, `setIdx_nats`, `mk_nats`, and `len_words`
  for its length (the name under which `gonorm` has it, after the `[]uint32` words of the bit containers).
-/
import Gzx.GoMNum
import Gzx.GoMExt
import Gzx.Proofs.GoMLoop
namespace Gzx.GoM
open Gzx.GoVal

variable {σ ρ : Type}

variable {α β : Type}

/-! ### checked reads and writes: `idxA` / `setIdxA`

A Go index expression `e` is tied to the model index `n` it stands for by a side condition `e = ↑n`, which `omega` proves
after `gonorm`. -/

theorem idxA_of_lt (xs : List α) (e : Int) (n : Nat) (he : e = n) (h : n < xs.length) : idxA xs e = .ok xs[n] := by
  subst he
  unfold idxA
  rw [if_neg (by omega), Int.toNat_natCast, List.getElem?_eq_getElem h]

theorem idxA_neg (xs : List α) (e : Int) (h : e < 0) : idxA xs e = .error oob := by
  unfold idxA; rw [if_pos h]

theorem idxA_of_ge (xs : List α) (e : Int) (h : (xs.length : Int) ≤ e) : idxA xs e = .error oob := by
  unfold idxA
  rw [if_neg (by omega), List.getElem?_eq_none (by omega)]

theorem idxA_natCast (xs : List α) (n : Nat) :
    idxA xs (n : Int) = match xs[n]? with | some v => .ok v | none => .error oob := by
  unfold idxA
  rw [if_neg (by omega), Int.toNat_natCast]
  cases xs[n]? <;> rfl

theorem idxA_map (f : α → β) (xs : List α) (e : Int) : idxA (xs.map f) e = (idxA xs e).map f := by
  unfold idxA
  split
  · rfl
  · rw [List.getElem?_map]; cases xs[e.toNat]? <;> rfl

theorem idxA_seam (pre : List α) (c : α) (post : List α) (e : Int) (he : e = (pre.length : Nat)) :
    idxA (pre ++ c :: post) e = .ok c := by
  rw [idxA_of_lt _ e pre.length he (by rw [List.length_append, List.length_cons]; omega),
    List.getElem_append_right (Nat.le_refl _)]
  simp only [Nat.sub_self, List.getElem_cons_zero]

theorem setIdxA_of_lt (xs : List α) (e : Int) (n : Nat) (v : α) (he : e = n) (h : n < xs.length) :
    setIdxA xs e v = .ok (xs.set n v) := by
  subst he
  unfold setIdxA
  rw [if_neg (by omega), Int.toNat_natCast, if_pos h]

theorem setIdxA_of_ge (xs : List α) (e : Int) (v : α) (h : (xs.length : Int) ≤ e) : setIdxA xs e v = .error oob := by
  unfold setIdxA
  rw [if_neg (by omega), if_neg (by omega)]

theorem setIdxA_seam (pre : List α) (c v : α) (post : List α) (e : Int) (he : e = (pre.length : Nat)) :
    setIdxA (pre ++ c :: post) e v = .ok (pre ++ v :: post) := by
  rw [setIdxA_of_lt _ e pre.length v he (by rw [List.length_append, List.length_cons]; omega),
    List.set_append_right _ _ (Nat.le_refl _), Nat.sub_self, List.set_cons_zero]

theorem mkA_of_eq (z : α) (e : Int) (n : Nat) (he : e = n) : mkA z e = .ok (List.replicate n z) := by
  subst he
  unfold mkA
  rw [if_neg (by omega), Int.toNat_natCast]

/-! ### the accessors of the run-time library are `idxA` / `setIdxA` at a type (`setIdx`, too, by `rfl`) -/

theorem idx_eq_idxA (xs : List Int) (i : Int) : idx xs i = idxA xs i := by
  unfold idx idxA; split
  · rfl
  · cases xs[i.toNat]? <;> rfl

theorem idxRow_eq_idxA (m : List (List Int)) (i : Int) : idxRow m i = idxA m i := by
  unfold idxRow idxA; split
  · rfl
  · cases m[i.toNat]? <;> rfl

theorem setRow_eq_setIdxA (m : List (List Int)) (i : Int) (r : List Int) : setRow m i r = setIdxA m i r := rfl

theorem mk_eq_mkA (n : Int) : mk n = mkA 0 n := rfl

/-! ### `idx` / `setIdx` / `slice` on a slice of integers -/

theorem idx_ofNat (s : List Int) (i : Nat) (h : i < s.length) : idx s (i : Int) = .ok s[i] :=
  (idx_eq_idxA s i).trans (idxA_of_lt s i i rfl h)

theorem idx_eq_ok (s : List Int) (i : Int) (h0 : 0 ≤ i) (h : i.toNat < s.length) : idx s i = .ok s[i.toNat] :=
  (idx_eq_idxA s i).trans (idxA_of_lt s i i.toNat (Int.toNat_of_nonneg h0).symm h)

theorem idx_neg (s : List Int) (i : Int) (h : i < 0) : idx s i = .error oob :=
  (idx_eq_idxA s i).trans (idxA_neg s i h)

theorem idx_ge (s : List Int) (i : Int) (h : (s.length : Int) ≤ i) : idx s i = .error oob :=
  (idx_eq_idxA s i).trans (idxA_of_ge s i h)

theorem idx_seam (pre : List Int) (c : Int) (post : List Int) (e : Int) (he : e = (pre.length : Nat)) :
    idx (pre ++ c :: post) e = .ok c :=
  (idx_eq_idxA _ e).trans (idxA_seam pre c post e he)

theorem setIdx_of_lt (s : List Int) (e v : Int) (n : Nat) (he : e = n) (h : n < s.length) : setIdx s e v = .ok (s.set n v) :=
  setIdxA_of_lt s e n v he h

theorem setIdx_of_ge (s : List Int) (e v : Int) (h : (s.length : Int) ≤ e) : setIdx s e v = .error oob :=
  setIdxA_of_ge s e v h

theorem setIdx_seam (pre : List Int) (c v : Int) (post : List Int) (e : Int) (he : e = (pre.length : Nat)) :
    setIdx (pre ++ c :: post) e v = .ok (pre ++ v :: post) :=
  setIdxA_seam pre c v post e he

theorem slice_zero (xs : List Int) (b : Int) (h0 : 0 ≤ b) (h : b ≤ (xs.length : Nat)) :
    slice xs 0 b = .ok (xs.take b.toNat) := by
  unfold slice
  have : (0 : Int) ≤ 0 ∧ 0 ≤ b ∧ b ≤ (xs.length : Nat) := ⟨by omega, h0, h⟩
  simp [this]

/-! ### a slice of model naturals

`words`, `ints`, `bytesI`, `nb` (abbreviations in the files of their kernels) unfold to `nats` by themselves, so the lemmas
below rewrite them as they stand; `bytes` (below) and K12's `runes` are definitions and are unfolded first. -/

/-- the Go slice (`[]byte`, `[]int`, `[]uint32`, a string) whose elements are the model's naturals -/
abbrev nats (l : List Nat) : List Int := l.map Int.ofNat

theorem nats_length (l : List Nat) : (nats l).length = l.length := List.length_map _

theorem len_words (l : List Nat) : len (nats l) = (l.length : Int) := by rw [len, nats_length]

theorem idx_nats (l : List Nat) (e : Int) (n : Nat) (he : e = n) :
    idx (nats l) e = match l[n]? with | some v => .ok (v : Int) | none => .error oob := by
  subst he
  rw [idx_eq_idxA, idxA_map, idxA_natCast]; cases l[n]? <;> rfl

theorem idx_nats_lt (l : List Nat) (e : Int) (n : Nat) (he : e = n) (h : n < l.length) :
    idx (nats l) e = .ok ((l[n] : Nat) : Int) := by
  rw [idx_nats l e n he, List.getElem?_eq_getElem h]

theorem setIdx_nats (l : List Nat) (e v : Int) (n u : Nat) (he : e = n) (hv : v = u) (h : n < l.length) :
    setIdx (nats l) e v = .ok (nats (l.set n u)) := by
  subst hv
  rw [setIdx_of_lt _ e (u : Int) n he (by rw [nats_length]; exact h)]
  exact congrArg Except.ok (List.map_set (f := Int.ofNat)).symm

theorem mk_nats (e : Int) (n : Nat) (he : e = n) : mk e = .ok (nats (List.replicate n 0)) := by
  rw [mk_eq_mkA, mkA_of_eq 0 e n he, nats, List.map_replicate]; rfl

theorem len_map (f : Nat → Int) (s : List Nat) : len (s.map f) = (s.length : Int) := by
  simp [len]

theorem idx_bytes (ws : List Nat) (i : Nat) :
    idx (ws.map Int.ofNat) (i : Int) =
      match ws[i]? with
      | some w => .ok (w : Int)
      | none => .error oob := idx_nats ws i i rfl

/-- Go string / []byte argument built from a model byte list -/
def bytes (s : List Nat) : List Int := s.map Int.ofNat

theorem bytes_length (s : List Nat) : (bytes s).length = s.length := by simp [bytes]

theorem bytes_getElem (s : List Nat) (i : Nat) (h : i < (bytes s).length) :
    (bytes s)[i] = ((s[i]'(by simpa [bytes] using h) : Nat) : Int) := by
  simp [bytes]

theorem bytes_take (s : List Nat) (m : Nat) : (bytes s).take m = bytes (s.take m) := by
  simp [bytes, List.map_take]

theorem bytes_reverse (s : List Nat) : (bytes s).reverse = bytes s.reverse := by
  simp [bytes, List.map_reverse]

/-! ### Go's integer operators on values that come from naturals -/

theorem iand_natCast (a b : Nat) : GoVal.iand (a : Int) (b : Int) = ((a &&& b : Nat) : Int) := by
  unfold GoVal.iand
  have h1 : (a : Int) ≥ 0 := Int.natCast_nonneg a
  have h2 : (b : Int) ≥ 0 := Int.natCast_nonneg b
  simp only [h1, h2, if_true, Int.toNat_natCast]
  rfl

theorem ishr_natCast (a k : Nat) : GoVal.ishr (a : Int) (k : Int) = ((a >>> k : Nat) : Int) := by
  unfold GoVal.ishr
  simp only [Int.toNat_natCast]
  rfl

theorem ishl_natCast (a k : Nat) : GoVal.ishl (a : Int) (k : Int) = ((a <<< k : Nat) : Int) := by
  unfold GoVal.ishl
  simp only [Int.toNat_natCast]
  rfl

theorem ishl_one (k : Nat) : ishl 1 (k : Int) = ((1 <<< k : Nat) : Int) := by
  have e1 : (1 : Int) = ((1 : Nat) : Int) := rfl
  rw [e1, ishl_natCast]

theorem ior_natCast (a b : Nat) : ior (a : Int) (b : Int) = ((a ||| b : Nat) : Int) := by
  unfold ior inot iand
  have h1 : ¬ (-(a : Int) - 1 ≥ 0) := by omega
  have h2 : ¬ (-(b : Int) - 1 ≥ 0) := by omega
  have e1 : (-(-(a : Int) - 1) - 1).toNat = a := by omega
  have e2 : (-(-(b : Int) - 1) - 1).toNat = b := by omega
  simp only [h1, h2, if_false, e1, e2]
  show -(-((a ||| b : Nat) : Int) - 1) - 1 = _
  omega

theorem or_eq_xor_add_and (a : Nat) : ∀ b : Nat, a ||| b = (a ^^^ b) + (a &&& b) := by
  induction a using Nat.strongRecOn with
  | _ a ih =>
    intro b
    by_cases ha : a = 0
    · subst ha; simp
    · -- the claim for the halves, then the lowest bit by cases
      have hr := ih (a / 2) (Nat.div_lt_self (by omega) (by decide)) (b / 2)
      rw [← Nat.or_div_two, ← Nat.xor_div_two, ← Nat.and_div_two] at hr
      have ho : (a ||| b) % 2 = a % 2 ||| b % 2 := Nat.or_mod_two_pow (n := 1)
      have hx : (a ^^^ b) % 2 = a % 2 ^^^ b % 2 := Nat.xor_mod_two_pow (n := 1)
      have hn : (a &&& b) % 2 = a % 2 &&& b % 2 := Nat.and_mod_two_pow (n := 1)
      rcases Nat.mod_two_eq_zero_or_one a with ma | ma <;> rcases Nat.mod_two_eq_zero_or_one b with mb | mb <;>
        rw [ma, mb] at ho hx hn <;> simp only [Nat.reduceOr, Nat.reduceXor, Nat.reduceAnd] at ho hx hn <;> omega

theorem ixor_natCast (a b : Nat) : ixor (a : Int) (b : Int) = ((a ^^^ b : Nat) : Int) := by
  unfold ixor
  rw [ior_natCast, iand_natCast, or_eq_xor_add_and]
  omega

theorem wrap_natCast (bits n : Nat) : wrap bits (n : Int) = ((n % 2 ^ bits : Nat) : Int) := by
  unfold wrap
  rw [Int.natCast_emod, Int.natCast_pow]; rfl

theorem tdiv_natCast (a b : Nat) : Int.tdiv (a : Int) (b : Int) = ((a / b : Nat) : Int) := rfl
theorem tmod_natCast (a b : Nat) : Int.tmod (a : Int) (b : Int) = ((a % b : Nat) : Int) := (Int.ofNat_tmod a b).symm

theorem tmod_natCast_emod (n : Nat) (k : Int) : Int.tmod (n : Int) k = (n : Int) % k :=
  Int.tmod_eq_emod_of_nonneg (by omega)

/-- Go's `%` and a conversion to an unsigned type on expressions `e` that stand for naturals (`e = ↑n` by `omega`) -/
theorem tmod_of_eq (x y : Nat) (e1 e2 : Int) (h1 : e1 = x) (h2 : e2 = y) : Int.tmod e1 e2 = ((x % y : Nat) : Int) := by
  subst h1 h2; exact tmod_natCast x y

theorem wrap_of_eq (bits : Nat) (e : Int) (n : Nat) (he : e = n) (h : n < 2 ^ bits) : wrap bits e = (n : Int) := by
  subst he; rw [wrap_natCast, Nat.mod_eq_of_lt h]

theorem wrap8_byte_sub (b k : Nat) (_hb : b < 256) (_hk : k ≤ 256) :
    wrap 8 ((b : Int) - (k : Int)) = (((b + (256 - k)) % 256 : Nat) : Int) := by
  unfold wrap
  omega

/-- a shift by a non-negative signed count does not panic -/
theorem shl_of_nonneg (a e : Int) (h : 0 ≤ e) : shl a e = .ok (ishl a e) := by
  unfold shl; simp [Int.not_lt.mpr h]

theorem shr_of_nonneg (a e : Int) (h : 0 ≤ e) : shr a e = .ok (ishr a e) := by
  unfold shr; simp [Int.not_lt.mpr h]

theorem natCast_beq (a b : Nat) : (((a : Int) == (b : Int)) : Bool) = (a == b) := by
  rw [Bool.eq_iff_iff, beq_iff_eq, beq_iff_eq, Int.natCast_inj]

theorem natCast_bne (a b : Nat) : (((a : Int) != (b : Int)) : Bool) = (a != b) := by
  simp only [bne, natCast_beq]

theorem natCast_beq_zero (n : Nat) : (((n : Int) == 0) : Bool) = (n == 0) := natCast_beq n 0

theorem natCast_bne_zero (n : Nat) : (((n : Int) != 0) : Bool) = (n != 0) := by
  rw [Bool.eq_iff_iff, bne_iff_ne, bne_iff_ne, Ne, Ne, Int.natCast_eq_zero]

/-! ### normal form of the integer arithmetic of generated code (`gonorm`) -/

theorem wrap_of_lt (bits : Nat) (e : Int) (h0 : 0 ≤ e) (h1 : e < 2 ^ bits) : wrap bits e = e := by
  unfold wrap; exact Int.emod_eq_of_lt h0 h1

theorem wrap_nonneg (bits : Nat) (e : Int) : 0 ≤ wrap bits e := by
  unfold wrap
  have hp : (0 : Int) < 2 ^ bits := Int.pow_pos (by decide)
  exact Int.emod_nonneg _ (by omega)

theorem ishr_eq_div (e : Int) (k : Nat) (h : 0 ≤ e) : ishr e (k : Int) = e / (2 ^ k : Nat) := by
  obtain ⟨n, rfl⟩ := Int.eq_ofNat_of_zero_le h
  rw [ishr_natCast, Nat.shiftRight_eq_div_pow]; simp

theorem iand_mask_eq_mod (e : Int) (k : Nat) (h : 0 ≤ e) : iand e ((2 ^ k - 1 : Nat) : Int) = e % (2 ^ k : Nat) := by
  obtain ⟨n, rfl⟩ := Int.eq_ofNat_of_zero_le h
  rw [iand_natCast, Nat.and_two_pow_sub_one_eq_mod]; simp

theorem ishr5 (e : Int) (h : 0 ≤ e) : ishr e 5 = e / 32 := ishr_eq_div e 5 h
theorem iand31 (e : Int) (h : 0 ≤ e) : iand e 31 = e % 32 := iand_mask_eq_mod e 5 h
theorem iand7 (e : Int) (h : 0 ≤ e) : iand e 7 = e % 8 := iand_mask_eq_mod e 3 h
theorem ishr3 (e : Int) (h : 0 ≤ e) : ishr e 3 = e / 8 := ishr_eq_div e 3 h

/-- `simp (disch := omega) only [gonorm…]`: truncated division / remainder, `>>5`, `&31`, conversions of small
    non-negative values become `/`, `%` on `Int`, which `omega` understands -/
macro "gonorm" : tactic =>
  `(tactic| simp (disch := omega) only [Int.tdiv_eq_ediv_of_nonneg, Int.tmod_eq_emod_of_nonneg, ishr5, iand31, ishr3, iand7,
      wrap_of_lt, len_words])

macro "gonorm" " at " h:ident : tactic =>
  `(tactic| simp (disch := omega) only [Int.tdiv_eq_ediv_of_nonneg, Int.tmod_eq_emod_of_nonneg, ishr5, iand31, ishr3, iand7,
      wrap_of_lt, len_words] at $h:ident)

/-- resolve the argument checks: every `if` whose condition `omega` decides from the context -/
macro "resolve_ifs" : tactic =>
  `(tactic| simp (disch := omega) only [Bool.or_eq_true, Bool.and_eq_true, decide_eq_true_eq, bne_iff_ne, beq_iff_eq, ne_eq,
      if_pos, if_neg])

end Gzx.GoM
