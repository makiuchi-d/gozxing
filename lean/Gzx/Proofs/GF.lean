/-
  The table-driven field of Model/GF.lean is GF(2)[x]/(prim):  `FieldOK`, table semantics
  (`exp[i] = x^i`, `log` its inverse on 1..size-1), and the field laws of the reference product
  `gmul prim a b = pmod prim (clmul a b)` on `[0,size)`.   Helper lemmas for Properties/C04.lean.
-/
import Gzx.Model.GF
import Gzx.Proofs.GF2
namespace Gzx.GF
open Gzx.Ref.GF Gzx.Proofs.GF2

/-- the order check: `x·1, x²·1, …` (k more values) are all `≠ 1` and the next one is `1` -/
def ordLoop (prim size : Nat) : Nat → Nat → Bool
  | 0, x => x == 1
  | k + 1, x => x != 1 && ordLoop prim size k (step prim size x)

/-- decidable well-formedness of field parameters: `size = 2^m ≥ 2`, `prim` has degree `m` and
    constant term 1, and `x` has multiplicative order exactly `size-1` modulo `prim`
    (one loop of `size-1` doubling steps) — i.e. `prim` is a primitive polynomial. -/
def ParamsOK (prim size : Nat) : Prop :=
  size = 2 ^ size.log2 ∧ 2 ≤ size ∧ size ≤ prim ∧ prim < 2 * size ∧ prim % 2 = 1 ∧
    ordLoop prim size (size - 2) (step prim size 1) = true

instance (prim size : Nat) : Decidable (ParamsOK prim size) := by unfold ParamsOK; infer_instance

/-- `F` is what `NewGenericGF` builds from well-formed parameters -/
def FieldOK (F : GF) : Prop := F = mk' F.prim F.size F.base ∧ ParamsOK F.prim F.size

instance (F : GF) : Decidable (FieldOK F) := by unfold FieldOK; infer_instance

theorem fieldOK_mk' {prim size base : Nat} (h : ParamsOK prim size) : FieldOK (mk' prim size base) :=
  ⟨rfl, h⟩

end Gzx.GF

namespace Gzx.Proofs.GF
open Gzx Gzx.GF Gzx.Ref.GF Gzx.Proofs.GF2

theorem xor_eq_zero {a b : Nat} (h : a ^^^ b = 0) : a = b := by
  have : a ^^^ (a ^^^ b) = b := by rw [← Nat.xor_assoc, Nat.xor_self, Nat.zero_xor]
  rw [h, Nat.xor_zero] at this
  exact this

/-! ## parameters -/

section params
variable {prim size : Nat} (ok : ParamsOK prim size)
include ok

theorem size_eq : size = 2 ^ size.log2 := ok.1

theorem one_lt_size : 1 < size := ok.2.1

theorem lt_size_iff (a : Nat) : a < size ↔ a < 2 ^ size.log2 := by rw [← ok.1]

theorem degIs : DegIs prim size.log2 := by
  unfold DegIs
  rw [Nat.pow_succ, ← ok.1, Nat.mul_comm]
  exact ⟨ok.2.2.1, ok.2.2.2.1⟩

theorem deg_pos : 1 ≤ size.log2 := by
  have h := ok.1
  have h2 := ok.2.1
  cases hd : size.log2 with
  | zero => rw [hd] at h; simp at h; omega
  | succ n => omega

theorem xt_lt_size (x : Nat) (hx : x < size) : xt prim size.log2 x < size := by
  rw [lt_size_iff ok] at *
  exact xt_lt (degIs ok) x hx

/-- Go's doubling step (compare with `size`, mask with `size - 1`) is multiplication by x modulo `prim` -/
theorem step_eq_xt (x : Nat) (hx : x < size) : step prim size x = xt prim size.log2 x := by
  have hs := ok.1
  have hx2 : 2 * x < 2 ^ (size.log2 + 1) := by rw [Nat.pow_succ, ← hs]; omega
  have hlt := xt_lt_size ok x hx
  unfold step xt at *
  simp only [Nat.mul_comm x 2]
  by_cases hge : 2 * x ≥ size
  · have hb : (2 * x).testBit size.log2 = true :=
      Nat.testBit_of_two_pow_le_and_two_pow_add_one_gt (by rw [← hs]; exact hge) hx2
    rw [if_pos hb] at hlt
    have e : size - 1 = 2 ^ size.log2 - 1 := by rw [← hs]
    rw [if_pos hge, if_pos hb, e, Nat.and_two_pow_sub_one_eq_mod, ← hs, Nat.mod_eq_of_lt hlt]
  · have hb : ¬ (2 * x).testBit size.log2 = true := by
      rw [Nat.testBit_lt_two_pow (by rw [← hs]; omega)]; decide
    rw [if_neg hge, if_neg hb]

theorem iter_step_eq : ∀ (j x : Nat), x < size →
    iter (step prim size) j x = iter (xt prim size.log2) j x
  | 0, _, _ => rfl
  | j + 1, x, hx => by
    show iter _ j (step prim size x) = iter _ j (xt prim size.log2 x)
    rw [step_eq_xt ok x hx]
    exact iter_step_eq j _ (xt_lt_size ok x hx)

theorem iter_xt_lt : ∀ (j x : Nat), x < size → iter (xt prim size.log2) j x < size
  | 0, _, hx => hx
  | j + 1, x, hx => iter_xt_lt j _ (xt_lt_size ok x hx)

/-- `x·c = 0 → c = 0` (prim has constant term 1) -/
theorem xt_eq_zero (c : Nat) (h : xt prim size.log2 c = 0) : c = 0 := by
  unfold xt at h
  split at h
  · have := xor_eq_zero h
    have := ok.2.2.2.2.1
    omega
  · omega

theorem xt_inj (a b : Nat) (h : xt prim size.log2 a = xt prim size.log2 b) : a = b := by
  apply xor_eq_zero
  apply xt_eq_zero ok
  rw [xt_xor, h, Nat.xor_self]

end params

/-- `x^j mod prim` by repeated multiplication by x -/
def pw (prim size j : Nat) : Nat := iter (xt prim size.log2) j 1

theorem ordLoop_spec (prim size : Nat) : ∀ (k x : Nat), ordLoop prim size k x = true →
    (∀ j, j < k → iter (step prim size) j x ≠ 1) ∧ iter (step prim size) k x = 1
  | 0, x, h => ⟨fun j hj => by omega, by simpa [ordLoop, iter] using h⟩
  | k + 1, x, h => by
    simp only [ordLoop, Bool.and_eq_true, bne_iff_ne, ne_eq] at h
    obtain ⟨ih1, ih2⟩ := ordLoop_spec prim size k _ h.2
    refine ⟨fun j hj => ?_, ih2⟩
    cases j with
    | zero => exact h.1
    | succ j => exact ih1 j (by omega)

section order
variable {prim size : Nat} (ok : ParamsOK prim size)
include ok

/-- the entries of Go's exp table are the powers of x -/
theorem iter_step_one (j : Nat) : iter (step prim size) j 1 = pw prim size j :=
  iter_step_eq ok j 1 (one_lt_size ok)

theorem pw_lt (j : Nat) : pw prim size j < size := iter_xt_lt ok j 1 (one_lt_size ok)

omit ok in
theorem pw_succ (j : Nat) : pw prim size (j + 1) = xt prim size.log2 (pw prim size j) :=
  iter_succ' _ j 1

omit ok in
theorem pw_add (i j : Nat) : pw prim size (i + j) = iter (xt prim size.log2) j (pw prim size i) :=
  iter_add _ i j 1

/-- order divides size-1 -/
theorem pw_order : pw prim size (size - 1) = 1 := by
  have h := (ordLoop_spec prim size _ _ ok.2.2.2.2.2).2
  have e : size - 1 = (size - 2) + 1 := by have := ok.2.1; omega
  rw [← iter_step_one ok, e]
  exact h

/-- order is not smaller -/
theorem pw_ne_one (j : Nat) (h0 : 0 < j) (hj : j < size - 1) : pw prim size j ≠ 1 := by
  have h := (ordLoop_spec prim size _ _ ok.2.2.2.2.2).1 (j - 1) (by omega)
  have e : j = (j - 1) + 1 := by omega
  rw [← iter_step_one ok, e]
  exact h

theorem pw_ne_zero : ∀ (j : Nat), pw prim size j ≠ 0
  | 0 => by simp [pw, iter]
  | j + 1 => by
    rw [pw_succ]
    intro h
    exact pw_ne_zero j (xt_eq_zero ok _ h)

theorem pw_inj : ∀ (i j : Nat), i < j → j < size - 1 → pw prim size i ≠ pw prim size j
  | 0, j, hij, hj => by
    intro h
    exact pw_ne_one ok j hij hj h.symm
  | i + 1, j, hij, hj => by
    intro h
    have e : j = (j - 1) + 1 := by omega
    rw [e, pw_succ, pw_succ] at h
    exact pw_inj i (j - 1) (by omega) (by omega) (xt_inj ok _ _ h)

theorem pw_period (j : Nat) : pw prim size (j + (size - 1)) = pw prim size j := by
  rw [Nat.add_comm, pw_add, pw_order ok]; rfl

theorem pw_mod (j : Nat) : pw prim size (j % (size - 1)) = pw prim size j := by
  have hn : 0 < size - 1 := by have := ok.2.1; omega
  induction j using Nat.strongRecOn with
  | _ j ih =>
    by_cases hj : j < size - 1
    · rw [Nat.mod_eq_of_lt hj]
    · have e : j = (j - (size - 1)) + (size - 1) := by omega
      rw [e, Nat.add_mod_right, pw_period ok, ih _ (by omega)]

theorem pw_nodup : ((List.range (size - 1)).map (pw prim size)).Nodup := by
  rw [List.Nodup, List.pairwise_map]
  exact List.pairwise_lt_range.imp_of_mem fun _ hj hij => pw_inj ok _ _ hij (List.mem_range.1 hj)

/-- every non-zero element is a power of x: otherwise it and the `size-1` different powers would be
    `size` different values in `[1, size)` -/
theorem pw_surj (a : Nat) (h0 : a ≠ 0) (ha : a < size) : ∃ j, j < size - 1 ∧ pw prim size j = a := by
  apply Classical.byContradiction
  intro hno
  have hnd : (a :: (List.range (size - 1)).map (pw prim size)).Nodup := by
    refine List.nodup_cons.2 ⟨fun hm => ?_, pw_nodup ok⟩
    obtain ⟨j, hj, e⟩ := List.mem_map.1 hm
    exact hno ⟨j, List.mem_range.1 hj, e⟩
  have hsub : a :: (List.range (size - 1)).map (pw prim size) ⊆ List.range' 1 (size - 1) := by
    intro x hx
    rw [List.mem_range'_1]
    rcases List.mem_cons.1 hx with rfl | hx
    · omega
    · obtain ⟨j, _, rfl⟩ := List.mem_map.1 hx
      have := pw_ne_zero ok j
      have := pw_lt ok j
      omega
  have := hnd.length_le_of_subset hsub
  simp only [List.length_cons, List.length_map, List.length_range, List.length_range'] at this
  omega

theorem zero_or_pw (a : Nat) (ha : a < size) : a = 0 ∨ ∃ j, j < size - 1 ∧ pw prim size j = a := by
  by_cases h0 : a = 0
  · exact Or.inl h0
  · exact Or.inr (pw_surj ok a h0 ha)

end order

/-! ## tables -/

theorem expList_eq_map (prim size : Nat) : ∀ (k x : Nat),
    expList prim size k x = (List.range k).map (fun j => iter (step prim size) j x)
  | 0, _ => rfl
  | k + 1, x => by
    rw [expList, expList_eq_map prim size k, List.range_succ_eq_map, List.map_cons, List.map_map]
    rfl

theorem step_lt (prim x : Nat) {size : Nat} (hs : 0 < size) : step prim size x < size := by
  simp only [step]
  split
  · exact Nat.lt_of_le_of_lt Nat.and_le_right (Nat.sub_lt hs Nat.one_pos)
  · omega

theorem expList_lt (prim : Nat) {size : Nat} (hs : 0 < size) : ∀ (k x : Nat), x < size → ∀ e ∈ expList prim size k x, e < size
  | 0, _, _, _, he => nomatch he
  | k + 1, x, hx, e, he => by
    rcases List.mem_cons.mp he with rfl | h
    · exact hx
    · exact expList_lt prim hs k _ (step_lt prim x hs) e h

theorem expList_length (prim size : Nat) : ∀ (k x : Nat), (expList prim size k x).length = k
  | 0, _ => rfl
  | k + 1, x => by simp [expList, expList_length prim size k]

theorem logLoop_length : ∀ (es : List Nat) (i : Nat) (acc : List Nat), (logLoop es i acc).length = acc.length
  | [], _, _ => rfl
  | e :: es, i, acc => by simp [logLoop, logLoop_length es]

theorem logLoop_not_mem : ∀ (es : List Nat) (i : Nat) (acc : List Nat) (a : Nat),
    a ∉ es → (logLoop es i acc)[a]? = acc[a]?
  | [], _, _, _, _ => rfl
  | e :: es, i, acc, a, h => by
    rw [List.mem_cons, not_or] at h
    rw [logLoop, logLoop_not_mem es _ _ a h.2, List.getElem?_set_ne (Ne.symm h.1)]

theorem logLoop_mem : ∀ (es : List Nat) (i : Nat) (acc : List Nat), es.Nodup →
    (∀ a, a ∈ es → a < acc.length) →
    ∀ (j a : Nat), es[j]? = some a → (logLoop es i acc)[a]? = some (i + j)
  | [], _, _, _, _, j, a, h => by simp at h
  | e :: es, i, acc, hnd, hl, 0, a, h => by
    obtain rfl : e = a := by simpa using h
    rw [logLoop, logLoop_not_mem es _ _ e (List.nodup_cons.1 hnd).1,
      List.getElem?_set_self (hl e List.mem_cons_self)]
    rfl
  | e :: es, i, acc, hnd, hl, j + 1, a, h => by
    rw [logLoop, logLoop_mem es (i + 1) _ (List.nodup_cons.1 hnd).2
      (fun a ha => by rw [List.length_set]; exact hl a (List.mem_cons_of_mem _ ha)) j a (by simpa using h)]
    congr 1
    omega

section tables
variable {prim size : Nat} (ok : ParamsOK prim size) (base : Nat)
include ok

theorem expTable_eq : expList prim size size 1 = (List.range size).map (pw prim size) := by
  rw [expList_eq_map]
  exact List.map_congr_left fun j _ => iter_step_one ok j

theorem exp_get (j : Nat) (hj : j < size) : idx (mk' prim size base).exp j = .ok (pw prim size j) := by
  unfold idx mk'
  simp only [List.getElem?_toArray, expTable_eq ok, List.getElem?_map, List.getElem?_range hj,
    Option.map_some]

omit ok in
theorem exp_get_oob (j : Nat) (hj : ¬ j < size) : ∃ w, idx (mk' prim size base).exp j = .error (.panic w) := by
  unfold idx mk'
  have : (expList prim size size 1)[j]? = none := by
    rw [List.getElem?_eq_none_iff, expList_length]; omega
  simp only [List.getElem?_toArray, this]
  exact ⟨_, rfl⟩

theorem log_get (j : Nat) (hj : j < size - 1) : idx (mk' prim size base).log (pw prim size j) = .ok j := by
  unfold idx mk'
  simp only [List.getElem?_toArray, expTable_eq ok, ← List.map_take, List.take_range,
    Nat.min_eq_left (Nat.sub_le size 1)]
  rw [logLoop_mem _ 0 _ (pw_nodup ok) ?_ j (pw prim size j) ?_]
  · simp
  · intro a ha
    obtain ⟨i, _, rfl⟩ := List.mem_map.1 ha
    rw [List.length_replicate]
    exact pw_lt ok i
  · rw [List.getElem?_map, List.getElem?_range hj]; rfl

omit ok in
theorem log_get_oob (a : Nat) (ha : ¬ a < size) : ∃ w, idx (mk' prim size base).log a = .error (.panic w) := by
  unfold idx mk'
  simp only [List.getElem?_toArray]
  have : (logLoop (List.take (size - 1) (expList prim size size 1)) 0 (List.replicate size 0))[a]? = none := by
    rw [List.getElem?_eq_none_iff, logLoop_length, List.length_replicate]; omega
  rw [this]
  exact ⟨_, rfl⟩

end tables

/-! ## the reference product on `[0,size)`

  Every element is 0 or a power of x (`zero_or_pw`; that is why `ParamsOK` checks the order of x and not just
  irreducibility), and powers multiply by adding exponents (`gmul_pw_pw`): commutativity, associativity and the
  absence of zero divisors are read off that.  Only distributivity comes from the bit side (`peasant_xor`). -/

section field
variable {prim size : Nat} (ok : ParamsOK prim size)
include ok

theorem gmul_eq_peasant (a b : Nat) (hb : b < size) :
    gmul prim a b = peasant prim size.log2 (a.log2 + 1) a b := by
  unfold gmul clmul
  exact pmod_clmulAux (degIs ok) _ a b ((lt_size_iff ok b).1 hb)

theorem gmul_lt (a b : Nat) : gmul prim a b < size := by
  rw [lt_size_iff ok]
  exact pmod_lt (degIs ok) _

theorem gmul_pw (a j : Nat) (ha : a < size) :
    gmul prim a (pw prim size j) = iter (xt prim size.log2) j a := by
  rw [gmul_eq_peasant ok a _ (pw_lt ok j)]
  unfold pw
  rw [peasant_iter, peasant_one]
  · by_cases h0 : a = 0
    · subst h0; have := deg_pos ok; simp [Nat.log2_zero]; omega
    · have := (Nat.log2_lt h0).2 ((lt_size_iff ok a).1 ha)
      omega
  · exact Nat.lt_log2_self

theorem gmul_pw_pw (i j : Nat) : gmul prim (pw prim size i) (pw prim size j) = pw prim size (i + j) := by
  rw [gmul_pw ok _ j (pw_lt ok i), pw_add]

theorem gmul_zero_left (b : Nat) (hb : b < size) : gmul prim 0 b = 0 := by
  rw [gmul_eq_peasant ok 0 b hb]; exact peasant_zero_left _ _ _ _

theorem gmul_zero_right (a : Nat) : gmul prim a 0 = 0 := by
  rw [gmul_eq_peasant ok a 0 (by have := ok.2.1; omega)]; exact peasant_zero_right _ _ _ _

theorem gmul_one_right (a : Nat) (ha : a < size) : gmul prim a 1 = a := by
  have := gmul_pw ok a 0 ha
  simpa [pw, iter] using this

theorem gmul_comm (a b : Nat) (ha : a < size) (hb : b < size) : gmul prim a b = gmul prim b a := by
  rcases zero_or_pw ok a ha with rfl | ⟨i, _, rfl⟩
  · rw [gmul_zero_left ok b hb, gmul_zero_right ok]
  rcases zero_or_pw ok b hb with rfl | ⟨j, _, rfl⟩
  · rw [gmul_zero_left ok _ ha, gmul_zero_right ok]
  rw [gmul_pw_pw ok, gmul_pw_pw ok, Nat.add_comm]

theorem gmul_one_left (a : Nat) (ha : a < size) : gmul prim 1 a = a := by
  rw [gmul_comm ok 1 a (one_lt_size ok) ha, gmul_one_right ok a ha]

theorem gmul_assoc (a b c : Nat) (ha : a < size) (hb : b < size) (hc : c < size) :
    gmul prim (gmul prim a b) c = gmul prim a (gmul prim b c) := by
  rcases zero_or_pw ok a ha with rfl | ⟨i, _, rfl⟩
  · rw [gmul_zero_left ok b hb, gmul_zero_left ok c hc, gmul_zero_left ok _ (gmul_lt ok _ _)]
  rcases zero_or_pw ok b hb with rfl | ⟨j, _, rfl⟩
  · rw [gmul_zero_right ok, gmul_zero_left ok c hc, gmul_zero_right ok]
  rcases zero_or_pw ok c hc with rfl | ⟨k, _, rfl⟩
  · rw [gmul_zero_right ok, gmul_zero_right ok, gmul_zero_right ok]
  rw [gmul_pw_pw ok, gmul_pw_pw ok, gmul_pw_pw ok, gmul_pw_pw ok, Nat.add_assoc]

theorem xor_lt_size (a b : Nat) (ha : a < size) (hb : b < size) : a ^^^ b < size := by
  rw [lt_size_iff ok] at *
  exact Nat.xor_lt_two_pow ha hb

theorem gmul_xor_right (a b c : Nat) (hb : b < size) (hc : c < size) :
    gmul prim a (b ^^^ c) = gmul prim a b ^^^ gmul prim a c := by
  rw [gmul_eq_peasant ok a _ (xor_lt_size ok b c hb hc), gmul_eq_peasant ok a b hb,
    gmul_eq_peasant ok a c hc, peasant_xor]

theorem gmul_xor_left (a b c : Nat) (ha : a < size) (hb : b < size) (hc : c < size) :
    gmul prim (a ^^^ b) c = gmul prim a c ^^^ gmul prim b c := by
  rw [gmul_comm ok _ c (xor_lt_size ok a b ha hb) hc, gmul_xor_right ok c a b ha hb,
    gmul_comm ok c a hc ha, gmul_comm ok c b hc hb]

theorem gmul_eq_zero (a b : Nat) (ha : a < size) (hb : b < size) (h : gmul prim a b = 0) :
    a = 0 ∨ b = 0 := by
  rcases zero_or_pw ok a ha with rfl | ⟨i, _, rfl⟩
  · exact Or.inl rfl
  rcases zero_or_pw ok b hb with rfl | ⟨j, _, rfl⟩
  · exact Or.inr rfl
  rw [gmul_pw_pw ok] at h
  exact absurd h (pw_ne_zero ok _)

theorem gmul_ne_zero (a b : Nat) (ha : a < size) (hb : b < size) (ha0 : a ≠ 0) (hb0 : b ≠ 0) :
    gmul prim a b ≠ 0 := by
  intro h
  rcases gmul_eq_zero ok a b ha hb h with h | h
  · exact ha0 h
  · exact hb0 h

theorem inv_unique (a b y : Nat) (ha : a < size) (hb : b < size) (hy : y < size)
    (h1 : gmul prim a y = 1) (h2 : gmul prim b y = 1) : a = b := by
  have : gmul prim (gmul prim a y) b = gmul prim a (gmul prim b y) := by
    rw [gmul_assoc ok a y b ha hy hb, gmul_comm ok y b hy hb]
  rw [h1, h2, gmul_one_left ok b hb, gmul_one_right ok a ha] at this
  exact this.symm

end field

/-! ## the table-driven operations compute the reference field -/

section ops
variable {prim size : Nat} (ok : ParamsOK prim size) (base : Nat)
include ok

theorem mk'_mul (a b : Nat) (ha : a < size) (hb : b < size) :
    (mk' prim size base).mul a b = .ok (gmul prim a b) := by
  unfold GF.mul
  by_cases h0 : a = 0 ∨ b = 0
  · rw [if_pos h0]
    cases h0 with
    | inl h => subst h; rw [gmul_zero_left ok b hb]
    | inr h => subst h; rw [gmul_zero_right ok]
  · rw [if_neg h0]
    have ha0 : a ≠ 0 := fun h => h0 (Or.inl h)
    have hb0 : b ≠ 0 := fun h => h0 (Or.inr h)
    obtain ⟨i, hi, rfl⟩ := pw_surj ok a ha0 ha
    obtain ⟨j, hj, rfl⟩ := pw_surj ok b hb0 hb
    have hs : ¬ (mk' prim size base).size ≤ 1 := by have := ok.2.1; show ¬ size ≤ 1; omega
    have hm : (i + j) % (size - 1) < size := by
      have := Nat.mod_lt (i + j) (show 0 < size - 1 by omega); omega
    simp only [log_get ok base i hi, log_get ok base j hj, bind, Except.bind, hs, if_false]
    show idx (mk' prim size base).exp ((i + j) % (size - 1)) = _
    rw [exp_get ok base _ hm, pw_mod ok, gmul_pw_pw ok]

theorem mk'_inv (a : Nat) (h0 : a ≠ 0) (ha : a < size) :
    ∃ v, (mk' prim size base).inv a = .ok v ∧ v < size ∧ v ≠ 0 ∧ gmul prim a v = 1 := by
  obtain ⟨i, hi, rfl⟩ := pw_surj ok a h0 ha
  refine ⟨pw prim size (size - 1 - i), ?_, pw_lt ok _, pw_ne_zero ok _, ?_⟩
  · unfold GF.inv
    rw [if_neg h0]
    have hs : ¬ i + 1 > (mk' prim size base).size := by show ¬ i + 1 > size; omega
    simp only [log_get ok base i hi, bind, Except.bind, hs, if_false]
    show idx (mk' prim size base).exp (size - i - 1) = _
    have e : size - i - 1 = size - 1 - i := by omega
    rw [e, exp_get ok base _ (by omega)]
  · rw [gmul_pw_pw ok]
    have e : i + (size - 1 - i) = size - 1 := by omega
    rw [e, pw_order ok]

theorem mk'_log (a : Nat) (h0 : a ≠ 0) (ha : a < size) :
    ∃ l, (mk' prim size base).logOf a = .ok l ∧ l < size - 1 ∧ (mk' prim size base).expAt l = .ok a := by
  obtain ⟨i, hi, rfl⟩ := pw_surj ok a h0 ha
  refine ⟨i, ?_, hi, ?_⟩
  · unfold GF.logOf; rw [if_neg h0, log_get ok base i hi]
  · unfold GF.expAt; rw [exp_get ok base i (by omega)]

theorem mk'_exp (i : Nat) (hi : i < size - 1) :
    ∃ v, (mk' prim size base).expAt i = .ok v ∧ v ≠ 0 ∧ v < size ∧ (mk' prim size base).logOf v = .ok i := by
  refine ⟨pw prim size i, ?_, pw_ne_zero ok i, pw_lt ok i, ?_⟩
  · unfold GF.expAt; rw [exp_get ok base i (by omega)]
  · unfold GF.logOf; rw [if_neg (pw_ne_zero ok i), log_get ok base i hi]

/-- `x^i mod prim` by the long-division reference -/
theorem pw_eq_pmod : ∀ (i : Nat), pw prim size i = pmod prim (2 ^ i)
  | 0 => by
    rw [pmod_of_lt (degIs ok) _ (by have := deg_pos ok; exact Nat.one_lt_two_pow (by omega))]; rfl
  | i + 1 => by
    rw [pw_succ, pw_eq_pmod i, ← pmod_two_mul (degIs ok), Nat.pow_succ, Nat.mul_comm]

end ops


/-! ## the same facts for a field `F` with `FieldOK F` -/

section F
variable {F : GF} (hF : FieldOK F)
include hF

theorem F_mul (a b : Nat) (ha : a < F.size) (hb : b < F.size) : F.mul a b = .ok (gmul F.prim a b) := by
  rw [hF.1]; exact mk'_mul hF.2 F.base a b ha hb

theorem F_inv (a : Nat) (h0 : a ≠ 0) (ha : a < F.size) :
    ∃ v, F.inv a = .ok v ∧ v < F.size ∧ v ≠ 0 ∧ gmul F.prim a v = 1 := by
  rw [hF.1]; exact mk'_inv hF.2 F.base a h0 ha

theorem F_exp (i : Nat) (hi : i < F.size) : F.expAt i = .ok (pw F.prim F.size i) := by
  rw [hF.1]; exact exp_get hF.2 F.base i hi

theorem F_log (a : Nat) (h0 : a ≠ 0) (ha : a < F.size) : ∃ l, F.logOf a = .ok l ∧ l < F.size - 1 := by
  rw [hF.1]
  obtain ⟨l, h1, h2, _⟩ := mk'_log hF.2 F.base a h0 ha
  exact ⟨l, h1, h2⟩

theorem F_log_pw (j : Nat) (hj : j < F.size - 1) : F.logOf (pw F.prim F.size j) = .ok j := by
  unfold GF.logOf
  rw [if_neg (pw_ne_zero hF.2 j), hF.1]
  exact log_get hF.2 F.base j hj

end F

/-- the inverse computed by the model (0 for 0 / out of range) -/
def invOf (F : GF) (x : Nat) : Nat :=
  match F.inv x with
  | .ok v => v
  | .error _ => 0

section F
variable {F : GF} (hF : FieldOK F)
include hF

theorem invOf_spec (x : Nat) (h0 : x ≠ 0) (hx : x < F.size) :
    F.inv x = .ok (invOf F x) ∧ invOf F x < F.size ∧ invOf F x ≠ 0 ∧ gmul F.prim x (invOf F x) = 1 := by
  obtain ⟨v, hv, hvlt, hv0, hmul⟩ := F_inv hF x h0 hx
  have : invOf F x = v := by unfold invOf; rw [hv]
  rw [this]
  exact ⟨hv, hvlt, hv0, hmul⟩

theorem invOf_invOf (x : Nat) (h0 : x ≠ 0) (hx : x < F.size) : invOf F (invOf F x) = x := by
  have ok := hF.2
  obtain ⟨_, h2, h3, h4⟩ := invOf_spec hF x h0 hx
  obtain ⟨_, g2, _, g4⟩ := invOf_spec hF (invOf F x) h3 h2
  -- both `invOf (invOf x)` and `x` are inverses of `invOf x`
  apply inv_unique ok _ _ (invOf F x) g2 hx h2
  · rw [gmul_comm ok _ _ g2 h2]; exact g4
  · exact h4

end F

end Gzx.Proofs.GF
