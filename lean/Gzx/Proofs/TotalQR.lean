/-
  C06 — totality of the QR bit-stream parser model (`Gzx.QRDec.parse`, all modes):
  result or FormatException, never a panic, never out of fuel.  Helper lemmas for Properties/C06.lean.
-/
import Gzx.Model.QRDecoder
import Gzx.Proofs.Sat
namespace Gzx.Proofs.TotalQR
open Gzx Gzx.Det Gzx.QRDec Gzx.ECI

/-- a result or FormatException (in particular: no panic, no fuel exhaustion): `Sat (Only .format) (fun _ => True) r`
    spelled out (`Sat.ok_or`) -/
def FmtOnly {α : Type} (r : Res α) : Prop := (∃ a, r = .ok a) ∨ r = .error .format

/-- a reading step on the bit list `bits`: FormatException, or a value and a remaining bit list that is
    at least `k` bits shorter: `Sat (Only .format) (Eats k bits) r` spelled out -/
def Step {α : Type} (k : Nat) (bits : List Bool) (r : Res (α × List Bool)) : Prop :=
  r = .error .format ∨ ∃ a bits', r = .ok (a, bits') ∧ bits'.length + k ≤ bits.length

theorem Step.weaken {α : Type} {k bits} {r : Res (α × List Bool)} (h : Step k bits r) : Step 0 bits r := by
  rcases h with h | ⟨a, b, h, hl⟩
  · exact Or.inl h
  · exact Or.inr ⟨a, b, h, by omega⟩

theorem Step.toFmtOnly {α : Type} {k bits} {r : Res (α × List Bool)} (h : Step k bits r) : FmtOnly r := by
  rcases h with h | ⟨a, b, h, _⟩
  · exact Or.inr h
  · exact Or.inl ⟨_, h⟩

/-- what a reading step on `bits` answers: a value and a rest at least `k` bits shorter -/
abbrev Eats {α : Type} (k : Nat) (bits : List Bool) : α × List Bool → Prop := fun r => r.2.length + k ≤ bits.length

/-! ## primitives -/

theorem readBitsF_sat (n : Nat) (bits : List Bool) : Sat (Only .format) (Eats n bits) (readBitsF n bits) := by
  unfold readBitsF readBits
  by_cases h : n < 1 ∨ n > 32 ∨ n > bits.length
  · rw [if_pos h]; exact Sat.error rfl
  · rw [if_neg h]
    refine Sat.ok ?_
    show (bits.drop n).length + n ≤ bits.length
    rw [List.length_drop]; omega

theorem countBits_sat {E : Fault → Prop} (m : Mode) (ver : Nat) : Sat E (fun _ => True) (countBits m ver) := by
  have : ∃ n, countBits m ver = .ok n := by
    unfold countBits
    by_cases h9 : ver ≤ 9
    · cases m <;> simp [Mode.countTable, h9]
    · by_cases h26 : ver ≤ 26
      · cases m <;> simp [Mode.countTable, h9, h26]
      · cases m <;> simp [Mode.countTable, h9, h26]
  obtain ⟨n, h⟩ := this
  rw [h]; trivial

theorem toAlnumChar_sat (v : Nat) : Sat (Only .format) (fun _ => True) (toAlnumChar v) := by
  unfold toAlnumChar
  split
  · exact Sat.ok trivial
  · exact Sat.error rfl

/-- `wrapF` lets a panic and an exhausted budget pass and turns every checked error into FormatException -/
theorem wrapF_sat {α : Type} {E : Fault → Prop} {P : α → Prop} {r : Res α} (h : Sat E P r)
    (hE : ∀ e, E e → Checked e) : Sat (Only .format) P (wrapF r) := by
  have : wrapF r = rethrow .format r := by
    cases r with
    | ok a => rfl
    | error e => cases e <;> rfl
  rw [this]; exact h.rethrow hE

theorem modeForBits_sat (n : Nat) : Sat (Only .illegalArg) (fun _ => True) (modeForBits n) := by
  unfold modeForBits
  split <;> first | exact Sat.ok trivial | exact Sat.error rfl

theorem byValue_sat (reg : Registry) (v : Int) : Sat (Only .format) (fun _ => True) (byValue reg v) := by
  unfold byValue
  exact Sat.ite (fun _ => Sat.error rfl) fun _ => Sat.ok trivial

theorem guessCharset_sat (reg : Registry) (bytes : List Nat) (hint : Hint) :
    Sat (Only .format) (fun _ => True) (guessCharset reg bytes hint) := by
  unfold guessCharset
  split
  · exact Sat.ok trivial
  · split
    · exact Sat.ok trivial
    · exact Sat.ite (fun _ => Sat.ok trivial) fun _ => Sat.error rfl
  · split <;> exact Sat.ok trivial

theorem parseECIValue_sat (bits : List Bool) : Sat (Only .format) (Eats 8 bits) (parseECIValue bits) := by
  unfold parseECIValue
  refine Sat.bind (readBitsF_sat 8 bits) fun ⟨first, b1⟩ h1 =>
    Sat.ite (fun _ => Sat.ok h1) fun _ => Sat.ite (fun _ => ?_) fun _ => Sat.ite (fun _ => ?_) fun _ => Sat.error rfl
  · exact Sat.bind (readBitsF_sat 8 b1) fun ⟨_, b2⟩ h2 => Sat.ok (by dsimp only [Eats] at h1 h2 ⊢; omega)
  · exact Sat.bind (readBitsF_sat 16 b1) fun ⟨_, b2⟩ h2 => Sat.ok (by dsimp only [Eats] at h1 h2 ⊢; omega)

/-! ## segment decoders -/

/-- a step after which another one follows on the rest: the rest of the rest is shorter still -/
theorem Eats.trans {α β : Type} {k k' : Nat} {bits : List Bool} {r : α × List Bool} {r' : β × List Bool}
    (h : Eats k bits r) (h' : Eats k' r.2 r') : Eats 0 bits r' := by
  dsimp only [Eats] at h h' ⊢; omega

theorem decodeNumeric_sat (n : Nat) (bits : List Bool) (acc : List Nat) :
    Sat (Only .format) (Eats 0 bits) (decodeNumeric n bits acc) := by
  fun_induction decodeNumeric n bits acc with
  | case1 n bits acc ih =>
    exact Sat.bind (readBitsF_sat 10 bits) fun ⟨v, b1⟩ h1 => Sat.ite (fun _ => Sat.error rfl) fun _ =>
      (ih v b1).post fun _ => h1.trans
  | case2 bits acc =>
    exact Sat.bind (readBitsF_sat 7 bits) fun ⟨v, b1⟩ h1 => Sat.ite (fun _ => Sat.error rfl) fun _ =>
      Sat.ok (Nat.le_of_add_right_le h1)
  | case3 bits acc =>
    exact Sat.bind (readBitsF_sat 4 bits) fun ⟨v, b1⟩ h1 => Sat.ite (fun _ => Sat.error rfl) fun _ =>
      Sat.ok (Nat.le_of_add_right_le h1)
  | case4 bits acc => exact Sat.ok (Nat.le_refl _)

theorem decodeAlnumRaw_sat (n : Nat) (bits : List Bool) (acc : List Nat) :
    Sat (Only .format) (Eats 0 bits) (decodeAlnumRaw n bits acc) := by
  fun_induction decodeAlnumRaw n bits acc with
  | case1 n bits acc ih =>
    exact Sat.bind (readBitsF_sat 11 bits) fun ⟨v, b1⟩ h1 => Sat.then (toAlnumChar_sat _) fun c1 =>
      Sat.then (toAlnumChar_sat _) fun c2 => (ih b1 c1 c2).post fun _ => h1.trans
  | case2 bits acc =>
    exact Sat.bind (readBitsF_sat 6 bits) fun ⟨v, b1⟩ h1 => Sat.then (toAlnumChar_sat _) fun c =>
      Sat.ok (Nat.le_of_add_right_le h1)
  | case3 bits acc => exact Sat.ok (Nat.le_refl _)

theorem decodeAlnum_sat (count : Nat) (bits : List Bool) (fnc1 : Bool) :
    Sat (Only .format) (Eats 0 bits) (decodeAlnum count bits fnc1) := by
  unfold decodeAlnum
  exact Sat.bind (decodeAlnumRaw_sat count bits []) fun ⟨cs, b1⟩ h1 => Sat.ok h1

theorem readGroups_sat (w : Nat) : ∀ (n : Nat) (bits : List Bool) (acc : List Nat),
    Sat (Only .format) (Eats 0 bits) (readGroups w n bits acc)
  | 0, _, _ => Sat.ok (Nat.le_refl _)
  | n + 1, bits, acc => by
    unfold readGroups
    exact Sat.bind (readBitsF_sat w bits) fun ⟨v, b1⟩ h1 => (readGroups_sat w n b1 _).post fun _ => h1.trans

theorem decode13_sat (toBytes : Nat → List Nat) (count : Nat) (bits : List Bool) :
    Sat (Only .format) (Eats 0 bits) (decode13 toBytes count bits) := by
  unfold decode13
  exact Sat.ite (fun _ => Sat.error rfl) fun _ =>
    Sat.bind (readGroups_sat 13 count bits []) fun ⟨vs, b1⟩ h1 => Sat.ok h1

theorem decodeByte_sat (reg : Registry) (count : Nat) (bits : List Bool) (eci : Option Entry) (hint : Hint) :
    Sat (Only .format) (fun r => r.2.2.length ≤ bits.length) (decodeByte reg count bits eci hint) := by
  unfold decodeByte
  refine Sat.ite (fun _ => Sat.error rfl) fun _ => Sat.bind (readGroups_sat 8 count bits []) fun ⟨bytes, b1⟩ h1 => ?_
  dsimp only
  cases eci with
  | some e => exact Sat.ok h1
  | none =>
    refine Sat.step _ (guessCharset_sat reg bytes hint) (fun e he => ?_) fun cs _ => Sat.ok h1
    cases he; exact Sat.error rfl

/-! ## the segment loop -/

/-- the loop never panics and never runs out of fuel when the fuel exceeds the number of unread bits
    (every round consumes the 4 mode bits) -/
theorem parseLoop_sat (reg : Registry) (ver : Nat) (hint : Hint) :
    ∀ (fuel : Nat) (st : PSt) (bits : List Bool), bits.length < fuel →
      Sat (Only .format) (fun _ => True) (parseLoop reg ver hint fuel st bits)
  | 0, _, _, h => by omega
  | fuel + 1, st, bits, hfuel => by
    have next : ∀ (st' : PSt) (b : List Bool), b.length < bits.length →
        Sat (Only .format) (fun _ => True) (parseLoop reg ver hint fuel st' b) :=
      fun st' b hb => parseLoop_sat reg ver hint fuel st' b (by omega)
    have count := fun m => countBits_sat (E := Only .format) m ver
    unfold parseLoop
    refine Sat.ite (fun _ => Sat.ok trivial) fun _ => Sat.bind (readBitsF_sat 4 bits) fun ⟨m4, b0⟩ h0 =>
      Sat.then (wrapF_sat (modeForBits_sat m4) (only_checked ⟨nofun, nofun⟩)) fun mode => ?_
    have h0 : b0.length + 4 ≤ bits.length := h0
    cases mode with
    | terminator => exact Sat.ok trivial
    | fnc1First => exact next _ _ (by omega)
    | fnc1Second => exact next _ _ (by omega)
    | structuredAppend =>
      refine Sat.bind (readBitsF_sat 8 b0) fun ⟨seq, b1⟩ h1 => Sat.bind (readBitsF_sat 8 b1) fun ⟨par, b2⟩ h2 =>
        next _ _ ?_
      dsimp only [Eats] at h1 h2; omega
    | eci =>
      refine Sat.bind (parseECIValue_sat b0) fun ⟨value, b1⟩ h1 => ?_
      dsimp only
      refine Sat.step _ (byValue_sat reg value) (fun e he => ?_) fun o _ => ?_
      · cases he; exact Sat.error rfl
      · cases o with
        | none => exact Sat.error rfl
        | some e => exact next _ _ (by dsimp only [Eats] at h1; omega)
    | hanzi =>
      refine Sat.bind (readBitsF_sat 4 b0) fun ⟨subset, b1⟩ h1 => Sat.then (count .hanzi) fun cb =>
        Sat.bind (readBitsF_sat cb b1) fun ⟨n, b2⟩ h2 => Sat.ite (fun _ => ?_) fun _ => next _ _ ?_
      · exact Sat.bind (decode13_sat hanziBytes n b2) fun ⟨bytes, b3⟩ h3 =>
          next _ _ (by dsimp only [Eats] at h1 h2 h3; omega)
      · dsimp only [Eats] at h1 h2; omega
    | numeric =>
      exact Sat.then (count .numeric) fun cb => Sat.bind (readBitsF_sat cb b0) fun ⟨n, b1⟩ h1 =>
        Sat.bind (decodeNumeric_sat n b1 []) fun ⟨cs, b2⟩ h2 => next _ _ (by dsimp only [Eats] at h1 h2; omega)
    | alphanumeric =>
      exact Sat.then (count .alphanumeric) fun cb => Sat.bind (readBitsF_sat cb b0) fun ⟨n, b1⟩ h1 =>
        Sat.bind (decodeAlnum_sat n b1 st.fnc1) fun ⟨cs, b2⟩ h2 => next _ _ (by dsimp only [Eats] at h1 h2; omega)
    | byte =>
      exact Sat.then (count .byte) fun cb => Sat.bind (readBitsF_sat cb b0) fun ⟨n, b1⟩ h1 =>
        Sat.bind (decodeByte_sat reg n b1 st.eci hint) fun ⟨cs, bytes, b2⟩ h2 =>
          next _ _ (by dsimp only [Eats] at h1 h2; omega)
    | kanji =>
      exact Sat.then (count .kanji) fun cb => Sat.bind (readBitsF_sat cb b0) fun ⟨n, b1⟩ h1 =>
        Sat.bind (decode13_sat kanjiBytes n b1) fun ⟨bytes, b2⟩ h2 => next _ _ (by dsimp only [Eats] at h1 h2; omega)

theorem parse_sat (reg : Registry) (bytes : List Nat) (ver : Nat) (hint : Hint) :
    Sat (Only .format) (fun _ => True) (parse reg bytes ver hint) := by
  unfold parse parseStream
  exact Sat.then (parseLoop_sat reg ver hint _ _ _ (Nat.lt_succ_self _)) fun st => Sat.ok trivial

end Gzx.Proofs.TotalQR
