/-
  C16 helper lemmas: BitMatrix.Rotate90 (counter-clockwise) refinement and the naive rotation.
-/
import Gzx.Proofs.BitsMatGrid
namespace Gzx.Bits
open Gzx

namespace SMat

theorem headD_eq (r : List Bool) : r.headD false = r[0]?.getD false := by cases r <;> rfl

theorem columns_length (w : Nat) : ∀ rows, (columns w rows).length = w := by
  induction w with
  | zero => intro rows; rfl
  | succ w ih => intro rows; simp [columns, ih]

theorem columns_get (w : Nat) : ∀ (rows : List (List Bool)) (c : Nat), c < w →
    (columns w rows)[c]? = some (rows.map (fun r => r[c]?.getD false)) := by
  induction w with
  | zero => intro rows c hc; omega
  | succ w ih =>
    intro rows c hc
    unfold columns
    cases c with
    | zero =>
      rw [List.getElem?_cons_zero]
      congr 1
      apply List.map_congr_left
      intro r _; exact headD_eq r
    | succ c =>
      rw [List.getElem?_cons_succ, ih _ c (by omega), List.map_map]
      congr 1
      apply List.map_congr_left
      intro r _
      simp only [Function.comp]
      cases r with
      | nil => rfl
      | cons a t => rfl

theorem rotate90_WF (m : SMat) (hm : m.WF) : m.rotate90.WF := by
  constructor
  · simp [SMat.rotate90, columns_length]
  · intro r hr
    simp only [SMat.rotate90, List.mem_reverse] at hr
    obtain ⟨c, hc, rfl⟩ := List.getElem_of_mem hr
    rw [columns_length] at hc
    have := columns_get m.width m.rows c hc
    rw [List.getElem?_eq_getElem (by rw [columns_length]; exact hc)] at this
    simp only [Option.some.injEq] at this
    rw [this, List.length_map]; exact hm.1

theorem get_rotate90 (m : SMat) (hm : m.WF) (x y : Nat) (hx : x < m.height) (hy : y < m.width) :
    m.rotate90.get x y = m.get (m.width - 1 - y) x := by
  have hxl : x < m.rows.length := by rw [hm.1]; exact hx
  rw [get_eq m _ _ hxl]
  unfold SMat.get SMat.rotate90
  simp only
  rw [List.getElem?_reverse (by rw [columns_length]; exact hy), columns_length,
    columns_get m.width m.rows _ (by omega)]
  simp only [Option.getD_some]
  rw [List.getElem?_map, List.getElem?_eq_getElem hxl]
  rfl

theorem rotate90_eq (m : SMat) (hm : m.WF) :
    m.rotate90 = ofFn m.height m.width (fun x y => m.get (m.width - 1 - y) x) :=
  eq_ofFn_of _ (rotate90_WF m hm) _ _ _ rfl rfl (fun x y hx hy => get_rotate90 m hm x y hx hy)

end SMat

namespace WMat

theorem rotate90_refines (m : WMat) (h : InvM m) :
    RefinesM m.rotate90 (absM m).rotate90 := by
  have hw1 := h.1
  have i0 := (zero_mat (w := m.height) (h := m.width) h.2.1 h.1).1
  unfold WMat.rotate90
  simp only
  -- one loop over the cells, reads resolved, only the set cells kept, each sent to its new place
  rw [foldlM_nested (fun nb y x => do
      let w ← wordAt m.words (y * m.rowSize + x / 32)
      if ((w >>> (x % 32)) &&& 1) != 0 then
        updWord nb ((m.width - 1 - x) * ((m.height + 31) / 32) + y / 32) (fun v => v ||| (1 <<< (y % 32)))
      else pure nb)]
  generalize hps : ((List.range m.height).flatMap
    (fun a => (List.range m.width).map (fun b => (a, b)))) = ps
  have hmem : ∀ p, p ∈ ps ↔ p.1 < m.height ∧ p.2 < m.width := by
    intro p
    rw [← hps, mem_flatMap_pairs, List.mem_range, List.mem_range]
  have hstep : ps.foldlM (fun nb p => do
        let w ← wordAt m.words (p.1 * m.rowSize + p.2 / 32)
        if ((w >>> (p.2 % 32)) &&& 1) != 0 then
          updWord nb ((m.width - 1 - p.2) * ((m.height + 31) / 32) + p.1 / 32) (fun v => v ||| (1 <<< (p.1 % 32)))
        else pure nb) (List.replicate ((m.height + 31) / 32 * m.width) 0) =
      ((ps.filter (fun p => mbit m p.2 p.1)).map (fun p => (p.1, m.width - 1 - p.2))).foldlM
        (fun ws c => updWord ws (c.2 * ((m.height + 31) / 32) + c.1 / 32) (fun w => w ||| 1 <<< (c.1 % 32)))
        (List.replicate ((m.height + 31) / 32 * m.width) 0) := by
    rw [List.foldlM_map, ← foldlM_filter]
    apply foldlM_congr_mem
    intro p hp nb
    have hp' := (hmem p).mp hp
    have hk := h.idx hp'.2 hp'.1
    rw [wordAt_ok _ _ hk]
    simp only [bind, Except.bind]
    rw [shr_and_one_ne_zero, mbit_word, List.getElem?_eq_getElem hk]
    rfl
  rw [hstep]
  generalize hcs : ((ps.filter (fun p => mbit m p.2 p.1)).map (fun p => (p.1, m.width - 1 - p.2))) = cells
  have hcmem : ∀ x y, (x, y) ∈ cells ↔ x < m.height ∧ ∃ x0, x0 < m.width ∧ y = m.width - 1 - x0 ∧ mbit m x0 x = true := by
    intro x y
    rw [← hcs, List.mem_map]
    constructor
    · rintro ⟨p, hp, he⟩
      rw [List.mem_filter] at hp
      have := (hmem p).mp hp.1
      cases he
      exact ⟨this.1, p.2, this.2, rfl, hp.2⟩
    · rintro ⟨hx, x0, hx0, rfl, hb⟩
      exact ⟨(x, x0), List.mem_filter.mpr ⟨(hmem (x, x0)).mpr ⟨hx, hx0⟩, hb⟩, rfl⟩
  obtain ⟨nb, g1, g2, g3⟩ := setCells i0 cells (fun p hp => by
    obtain ⟨a, x0, b, c, _⟩ := (hcmem p.1 p.2).mp hp
    exact ⟨a, by show p.2 < m.width; omega⟩)
  dsimp only at g1 g2 g3
  rw [g1]
  refine ⟨_, rfl, g2, g3.trans ?_⟩
  rw [SMat.rotate90_eq _ (absM_WF m)]
  refine SMat.ofFn_congr _ _ fun x y hx hy => ?_
  show (bitAt _ _ || _) = (absM m).get (m.width - 1 - y) x
  rw [bitAt_zeros, Bool.false_or, absM_get m _ _ (by omega) hx, Bool.eq_iff_iff, decide_eq_true_eq, hcmem]
  constructor
  · rintro ⟨_, x0, hx0, e, hb⟩
    rw [show m.width - 1 - y = x0 by omega]; exact hb
  · intro hb
    exact ⟨hx, m.width - 1 - y, by omega, by omega, hb⟩

end WMat

end Gzx.Bits
