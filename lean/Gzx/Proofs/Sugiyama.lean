/-
  The Euclidean algorithm solves the key equation: for at most ⌊R/2⌋ errors the pair returned by the model's
  `runEuclideanAlgorithm` is (Λ, Ω), coefficient by coefficient.
  Helper lemmas for Properties/C04.lean.
-/
import Gzx.Proofs.Locator
import Gzx.Proofs.Roots
import Gzx.Proofs.Euclid
namespace Gzx.Proofs.Sugiyama
open Gzx Gzx.GF Gzx.RS Gzx.Ref.GF Gzx.Proofs.GF Gzx.Proofs.Poly Gzx.Proofs.Conv Gzx.Proofs.Coef
  Gzx.Proofs.MinDist Gzx.Proofs.KeyEq Gzx.Proofs.Locator Gzx.Proofs.Roots
  Gzx.Proofs.Euclid

section F
variable {F : GF} (hF : FieldOK F)
include hF

/-- **Euclid solves the key equation.**  For `1 ≤ |L|`, `2|L| ≤ R` and the syndrome polynomial `Spoly` of the
    error pattern `L`, the model's `runEuclideanAlgorithm(x^R, S, R)` succeeds and returns the true locator and
    evaluator, coefficient by coefficient.  Steps, for the pair (t, r) the loop stops with: (1) t vanishes at every
    inverse locator; (2) so deg t ≥ |L|; (3) deg t ≤ |L|; (4) hence t = c·Λ, both having the same roots and degree;
    (5) c ≠ 0; (6) r = c·Ω by the key equation; the normalisation by t(0) = c then returns (Λ, Ω). -/
theorem euclid_output (L : List (Nat × Nat)) (ai : Nat → Nat) (hE : ErrSet F.prim F.size L ai) (R : Nat)
    (hs1 : 1 ≤ L.length) (hs2 : 2 * L.length ≤ R)
    (Spoly : List Nat) (hSwf : WF F.size Spoly) (hSlen : Spoly.length ≤ R)
    (hScoef : ∀ m, coef Spoly m = Sfun F.prim L R m) :
    ∃ sigma omega, runEuclideanAlgorithm F (1 :: List.replicate R 0) Spoly R = .ok (sigma, omega) ∧
      WF F.size sigma ∧ WF F.size omega ∧ sigma.length = L.length + 1 ∧
      (∀ m, coef sigma m = coef (lamList F.prim L) m) ∧ (∀ m, coef omega m = coef (omList F.prim L) m) := by
  have ok := hF.2
  have hsz := size_pos hF
  have h1lt := one_lt_size ok
  have hR : 1 ≤ R := by omega
  have hSf : ∀ j, Sfun F.prim L R j < F.size := Sfun_lt ok L R
  have hSl : 0 < Spoly.length := List.length_pos_iff.2 hSwf.2.ne_nil
  have hmono : WF F.size (1 :: List.replicate R 0) :=
    ⟨InR.cons h1lt (InR.replicate hsz), Or.inr ⟨1, _, rfl, by decide⟩⟩
  have hI0 : Inv F R (Sfun F.prim L R) (1 :: List.replicate R 0) Spoly [0] [1] := by
    refine ⟨hmono, hSwf, wf_zero hsz, ⟨InR.cons h1lt InR.nil, Or.inr ⟨1, [], rfl, by decide⟩⟩, ?_, ?_, ?_, ?_,
      Or.inl rfl, ?_, by decide⟩
    · intro m hm
      rw [conv_zero_left hF _ hSf m]
      have : ¬ m = (List.replicate R 0).length := by simp; omega
      simp only [coef, this, if_false, coef_replicate_zero]
    · intro m _
      rw [conv_one ok _ hSf m, hScoef m]
    · simp [degree]
    · simp only [degree, List.length_cons, List.length_replicate]; omega
    · simp only [degree, List.length_cons, List.length_replicate]; omega
  obtain ⟨rLast, r, tLast, t, hloop, hI, hstop⟩ :=
    euclidLoop_inv hF R hR (Sfun F.prim L R) hSf (Spoly.length + 1) _ _ _ _ hI0 (Nat.le_refl _)
  have htl : 0 < t.length := List.length_pos_iff.2 hI.wf4.2.ne_nil
  have hrl : 0 < r.length := List.length_pos_iff.2 hI.wf2.2.ne_nil
  have hrLl : 0 < rLast.length := List.length_pos_iff.2 hI.wf1.2.ne_nil
  have htLl : 0 < tLast.length := List.length_pos_iff.2 hI.wf3.2.ne_nil
  have hd1 := hI.d1
  have hd2 := hI.d2
  have hd4 := hI.d4
  unfold degree at hd1 hd2 hd4 hstop
  obtain ⟨th, tt, rfl, hth⟩ := wf_cons_of_ne_zero hI.wf4 hI.d5
  -- (1) t vanishes at the inverse locators: the key equation on the |L| indices from R - |L| on, all above deg r
  have hroots : ∀ p, p ∈ L → evalH F.prim (ai p.2) (th :: tt) = 0 :=
    roots_of_key ok (th :: tt) r hI.wf4.1 L ai hE R (R - L.length) hI.c2
      (by simp only [List.length_cons] at hd1 ⊢; omega) (by omega) (by omega)
  -- (2) deg t ≥ |L|: otherwise t has more roots than its degree allows
  obtain ⟨hnd, hblt⟩ := inv_nodup ok L ai hE
  have hge : L.length < (th :: tt).length := by
    apply Classical.byContradiction
    intro hcon
    have hz := zero_of_roots ok (L.map (fun p => ai p.2)) (th :: tt) hI.wf4.1 (List.nodup_cons.1 hnd).2
      (fun b hb => hblt b (List.mem_cons_of_mem _ hb))
      (fun b hb => by obtain ⟨p, hp, rfl⟩ := List.mem_map.1 hb; exact hroots p hp)
      (by rw [List.length_map]; omega)
    exact hth (hz th (by simp))
  -- (3) deg t ≤ |L|: otherwise deg rLast < R - |L| by `d1`, so a window of |L| indices fits above deg rLast for the
  --     previous pair (tLast, rLast) as well, and `prev_remainder_long` refutes that
  have hle : (th :: tt).length ≤ L.length + 1 := by
    apply Classical.byContradiction
    intro hcon
    simp only [List.length_cons] at hcon hd1 hge
    have hrLne : rLast ≠ [0] := fun h => by rw [h] at hd2; simp at hd2
    obtain ⟨qh, qt, rfl, hqh⟩ := wf_cons_of_ne_zero hI.wf1 hrLne
    simp only [List.length_cons, Nat.add_sub_cancel] at hd1 hd2 hd4
    have htLlen : tLast.length ≤ qt.length + 1 := by
      rcases hI.d3 with h | h
      · rw [h]; simp
      · unfold degree at h; simp only [List.length_cons, Nat.add_sub_cancel] at h; omega
    exact prev_remainder_long ok tLast hI.wf3.1 qh qt hqh L ai hE R hI.c1 htLlen (by omega) (by omega)
  have htlen : (th :: tt).length = L.length + 1 := by omega
  -- (4) t = c · Λ
  have hLin := hE.inr
  have hc : coef (th :: tt) 0 < F.size := coef_lt hsz _ hI.wf4.1 0
  have hdiff : ∀ x, x ∈ List.zipWith (· ^^^ ·) (th :: tt) ((lamList F.prim L).map (gmul F.prim (coef (th :: tt) 0))) →
      x = 0 := by
    have hlen2 : (th :: tt).length = ((lamList F.prim L).map (gmul F.prim (coef (th :: tt) 0))).length := by
      rw [List.length_map, lamList_length, htlen]
    have hev : ∀ b, b < F.size → evalH F.prim b (List.zipWith (· ^^^ ·) (th :: tt)
        ((lamList F.prim L).map (gmul F.prim (coef (th :: tt) 0)))) =
        evalH F.prim b (th :: tt) ^^^ gmul F.prim (coef (th :: tt) 0) (lamVal F.prim L b) := by
      intro b hb
      have := evalFrom_xor ok b (th :: tt) ((lamList F.prim L).map (gmul F.prim (coef (th :: tt) 0))) 0 0 hlen2
        hsz hsz hI.wf4.1 (InR_map_gmul ok _ _)
      rw [Nat.xor_zero] at this
      show evalFrom F.prim b 0 _ = _
      rw [this]
      show evalH F.prim b _ ^^^ evalH F.prim b _ = _
      rw [evalH_scale ok b _ hb hc _ (lamList_inR ok L), evalH_lamList ok b hb L hLin]
    apply zero_of_roots ok (0 :: L.map (fun p => ai p.2)) _
      (InR_zipWith_xor ok _ _ hI.wf4.1 (InR_map_gmul ok _ _)) hnd hblt
    · intro b hb
      rw [hev b (hblt b hb)]
      rcases List.mem_cons.1 hb with rfl | hb
      · rw [evalH_at_zero ok _ hI.wf4.1 (by simp), lamVal_zero ok L hLin, gmul_one_right ok _ hc, Nat.xor_self]
      · obtain ⟨p, hp, rfl⟩ := List.mem_map.1 hb
        rw [hroots p hp, (lamVal_eq_zero_iff ok _ (hE.inv p hp).1 L hLin).2 ⟨p, hp, (hE.inv p hp).2⟩,
          gmul_zero_right ok]
        rfl
    · simp only [List.length_zipWith, List.length_map, lamList_length, List.length_cons] at htlen ⊢
      omega
  have hteq : (th :: tt) = (lamList F.prim L).map (gmul F.prim (coef (th :: tt) 0)) :=
    zipWith_xor_all_zero _ _ (by rw [List.length_map, lamList_length, htlen]) hdiff
  -- (5) c ≠ 0
  have hc0 : coef (th :: tt) 0 ≠ 0 := by
    intro h0
    have : th = 0 := by
      have hm : th ∈ (lamList F.prim L).map (gmul F.prim (coef (th :: tt) 0)) := by rw [← hteq]; simp
      obtain ⟨x, hx, hxe⟩ := List.mem_map.1 hm
      rw [← hxe, h0, gmul_zero_left ok x (lamList_inR ok L x hx)]
    exact hth this
  have htcoef : ∀ m, coef (th :: tt) m = gmul F.prim (coef (th :: tt) 0) (coef (lamList F.prim L) m) := by
    intro m
    conv => lhs; rw [hteq]
    exact coef_map_gmul ok _ _ m
  -- (6) r = c · Ω
  have hrcoef : ∀ m, coef r m = gmul F.prim (coef (th :: tt) 0) (coef (omList F.prim L) m) := by
    intro m
    by_cases hm : m < R
    · rw [← hI.c2 m hm, conv_congr_left (fun i _ => htcoef i),
        conv_scale_left ok _ hc _ _ (coef_lt hsz _ (lamList_inR ok L)) hSf m, key_lambda ok R L hLin m hm]
    · rw [coef_ge r m (by omega), coef_ge _ m (by rw [omList_length]; omega), gmul_zero_right ok]
  -- run the rest of `runEuclideanAlgorithm`
  obtain ⟨z, hz, hzlt, hz0, hcz⟩ := F_inv hF _ hc0 hc
  obtain ⟨sigma, hsig, hsigwf, _⟩ := multiplyBy_spec hF _ hI.wf4 z hzlt
  obtain ⟨omega, hom, homwf, _⟩ := multiplyBy_spec hF r hI.wf2 z hzlt
  have hzc : ∀ x, x < F.size → gmul F.prim z (gmul F.prim (coef (th :: tt) 0) x) = x := by
    intro x hx
    rw [← gmul_assoc ok z _ x hzlt hc hx, gmul_comm ok z _ hzlt hc, hcz, gmul_one_left ok x hx]
  have hsc : ∀ m, coef sigma m = coef (lamList F.prim L) m := by
    intro m
    rw [multiplyBy_coef hF _ _ hI.wf4 z hzlt hsig m, htcoef m, hzc _ (coef_lt hsz _ (lamList_inR ok L) m)]
  refine ⟨sigma, omega, ?_, hsigwf, homwf, ?_, hsc, ?_⟩
  · unfold runEuclideanAlgorithm
    have hdeg : ¬ degree (1 :: List.replicate R 0) < degree Spoly := by
      simp only [degree, List.length_cons, List.length_replicate]; omega
    simp only [hdeg, if_false, hloop, bind, Except.bind, liftD,
      getCoefficient_eq_coef (th :: tt) 0 (by simp), hc0, hz, hsig, hom]
  · -- length of sigma: σ is normal, and its coefficient |L| is the (non-zero) leading coefficient of t scaled
    have hlead : coef sigma L.length ≠ 0 := by
      rw [multiplyBy_coef hF _ _ hI.wf4 z hzlt hsig L.length]
      have : coef (th :: tt) L.length = th := by
        simp only [List.length_cons] at htlen
        have : L.length = tt.length := by omega
        rw [this, coef_head]
      rw [this]
      exact gmul_ne_zero ok _ _ hzlt hI.wf4.1.head hz0 hth
    have hzero : ∀ m, L.length < m → coef sigma m = 0 := by
      intro m hm
      rw [hsc m, coef_ge _ m (by rw [lamList_length]; omega)]
    -- a normal list: length = 1 + index of the leading coefficient
    rcases hsigwf.2 with h0 | ⟨c, rs, rfl, hcne⟩
    · rw [h0] at hlead
      exact absurd (coef_zero_poly L.length) hlead
    · have h1 : coef (c :: rs) rs.length = c := coef_head c rs
      have hle1 : ¬ L.length < rs.length := fun h => hcne (by rw [← h1]; exact hzero _ h)
      have hle2 : ¬ rs.length < L.length := fun h => hlead (coef_ge _ _ (by simp only [List.length_cons]; omega))
      simp only [List.length_cons]; omega
  · intro m
    rw [multiplyBy_coef hF _ _ hI.wf2 z hzlt hom m, hrcoef m, hzc _ (coef_lt hsz _ (omList_inR ok L) m)]

end F
end Gzx.Proofs.Sugiyama
