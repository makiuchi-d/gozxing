/-
  C02: the decoder state after a prefix of codewords (`DecodesTo`; `DecOn` for a set of continuations), what the decoder
  reads from ASCII state (`Reads`, with the segment frame `reads_seg`), and how the ASCII-mode encoder steps extend it.
-/
import Gzx.Proofs.DMHighLevel
namespace Gzx.DMHighLevel

/-- After the codewords `cw` the decoder is back at the top of its main loop, in ASCII mode without a pending
    upper shift, with accumulator `a` — whatever codewords follow. -/
def DecodesTo (T : Tables) (cw : List Nat) (a : Acc) : Prop :=
  ∀ suf, decLoop T (cw ++ suf) 0 false 0 {} = decLoop T suf 0 false cw.length a

/-- the same for the continuations in `P` only: `DecodesTo` is `P = everything`, `DecK` "at most `k` more codewords",
    `DecFrom` "at least `j` more, all bytes" -/
def DecOn (T : Tables) (P : List Nat → Prop) (cw : List Nat) (a : Acc) : Prop :=
  ∀ suf, P suf → decLoop T (cw ++ suf) 0 false 0 {} = decLoop T suf 0 false cw.length a

theorem decodesTo_iff {T : Tables} {cw : List Nat} {a : Acc} : DecodesTo T cw a ↔ DecOn T (fun _ => True) cw a :=
  ⟨fun h s _ => h s, fun h s => h s trivial⟩

theorem DecOn.mono {T : Tables} {P Q : List Nat → Prop} {cw : List Nat} {a : Acc} (h : DecOn T P cw a)
    (hPQ : ∀ s, Q s → P s) : DecOn T Q cw a := fun s hs => h s (hPQ s hs)

/-- In ASCII state at offset `off` the decoder reads the codewords `x` and is back in ASCII state with `f a`, for every
    continuation in `K`.  Nothing is said about what came before: a prefix is put in front by `DecOn.append`. -/
def Reads (T : Tables) (K : List Nat → Prop) (off : Nat) (x : List Nat) (f : Acc → Acc) : Prop :=
  ∀ suf a, K suf → decLoop T (x ++ suf) 0 false off a = decLoop T suf 0 false (off + x.length) (f a)

theorem DecOn.append {T : Tables} {P Q K : List Nat → Prop} {cw x : List Nat} {a : Acc} {f : Acc → Acc}
    (h : DecOn T P cw a) (hr : Reads T K cw.length x f) (hQ : ∀ s, Q s → K s ∧ P (x ++ s)) :
    DecOn T Q (cw ++ x) (f a) := by
  intro s hs
  rw [List.append_assoc, h _ (hQ s hs).2, hr s a (hQ s hs).1, List.length_append]

theorem DecodesTo.append {T : Tables} {cw x : List Nat} {a : Acc} {f : Acc → Acc} (h : DecodesTo T cw a)
    (hr : Reads T (fun _ => True) cw.length x f) : DecodesTo T (cw ++ x) (f a) :=
  decodesTo_iff.2 ((decodesTo_iff.1 h).append hr (fun _ _ => ⟨trivial, trivial⟩))

theorem decodesTo_nil (T : Tables) : DecodesTo T [] {} := by
  intro suf; simp

/-- one plain ASCII codeword (value + 1) -/
theorem reads_ascii (T : Tables) (off b : Nat) (h1 : 1 ≤ b) (h2 : b ≤ 128) :
    Reads T (fun _ => True) off [b] (fun a => (a.push (b - 1)).endSeg) := by
  intro suf a _
  have hb0 : ¬ b = 0 := by omega
  simp [decLoop, hb0, h2]

theorem reads_digits (T : Tables) (off b : Nat) (h1 : 130 ≤ b) (h2 : b ≤ 229) :
    Reads T (fun _ => True) off [b] (fun a => a.pushAll (digitPair (b - 130))) := by
  intro suf a _
  have hb0 : ¬ b = 0 := by omega
  have hb1 : ¬ b ≤ 128 := by omega
  have hb2 : ¬ b = 129 := by omega
  simp [decLoop, hb0, hb1, hb2, h2]

/-- upper shift followed by (value - 127) -/
theorem reads_upper (T : Tables) (off b : Nat) (h1 : 1 ≤ b) (h2 : b ≤ 128) :
    Reads T (fun _ => True) off [235, b] (fun a => (a.push (b + 128 - 1)).endSeg) := by
  intro suf a _
  have hb0 : ¬ b = 0 := by omega
  simp [decLoop, hb0, h2, Nat.add_assoc]

/-- macro 05 / 06 as the first codeword -/
theorem decodesTo_macro (T : Tables) (n : Nat) (hn : n = 5 ∨ n = 6) :
    DecodesTo T [231 + n]
      { ({} : Acc).pushAll (macroHeader n) with trailer := macroTrailer } := by
  intro suf
  rcases hn with rfl | rfl <;> simp [decLoop, macroTrailer]

theorem decLoop_padding (T : Tables) (a : Acc) (off : Nat) (pad : List Nat)
    (hp : pad = [] ∨ ∃ r, pad = 129 :: r) : decLoop T pad 0 false off a = .ok a := by
  rcases hp with rfl | ⟨r, rfl⟩
  · simp [decLoop]
  · simp [decLoop]

theorem padding_shape (len cap : Nat) : padding len cap = [] ∨ ∃ r, padding len cap = 129 :: r := by
  unfold padding
  split
  · exact Or.inr ⟨_, rfl⟩
  · exact Or.inl rfl

/-- skipping the bytes a segment has consumed -/
theorem decLoop_skip (T : Tables) (xs suf : List Nat) (up : Bool) (off : Nat) (a : Acc) :
    decLoop T (xs ++ suf) xs.length up off a = decLoop T suf 0 up (off + xs.length) a := by
  induction xs generalizing off with
  | nil => simp
  | cons x xs ih =>
    simp only [List.cons_append, List.length_cons, decLoop]
    rw [ih]; congr 1; omega

/-! ## the four segments that have a segment decoder (C40 230, X12 238, Text 239, EDIFACT 240) -/

/-- what the main loop calls behind the latch `b` -/
def segRead (T : Tables) (b : Nat) (rest : List Nat) (a : Acc) : Res (Acc × Nat) :=
  if b = 230 then cSeg T false rest {} a 0
  else if b = 239 then cSeg T true rest {} a 0
  else if b = 238 then x12Seg rest a 0
  else .ok (edifactSeg rest a 0)

theorem decLoop_latch (T : Tables) {b : Nat} (hb : b = 230 ∨ b = 238 ∨ b = 239 ∨ b = 240) (rest : List Nat)
    (off : Nat) (a : Acc) :
    decLoop T (b :: rest) 0 false off a =
      match segRead T b rest a with
      | .ok (a', n) => decLoop T rest n false (off + 1) a'.endSeg
      | .error e => .error e := by
  rcases hb with rfl | rfl | rfl | rfl <;> simp [decLoop, segRead] <;> rfl

/-- the frame of a segment: behind the latch the segment decoder stops after `n` of the codewords `body ++ suf` with
    `f a`, and skipping those `n` leaves the main loop at `suf` (`n` is `body.length` except when the closing unlatch is
    the last codeword of the symbol: `decLoop_unlatch_last`) -/
theorem reads_seg (T : Tables) {b : Nat} (hb : b = 230 ∨ b = 238 ∨ b = 239 ∨ b = 240) (K : List Nat → Prop)
    (off : Nat) (body : List Nat) (f : Acc → Acc)
    (h : ∀ suf a, K suf → ∃ n, segRead T b (body ++ suf) a = .ok (f a, n) ∧
      decLoop T (body ++ suf) n false (off + 1) (f a).endSeg
        = decLoop T suf 0 false (off + 1 + body.length) (f a).endSeg) :
    Reads T K off (b :: body) (fun a => (f a).endSeg) := by
  intro suf a hK
  obtain ⟨n, h1, h2⟩ := h suf a hK
  rw [List.cons_append, decLoop_latch T hb, h1]
  simp only [h2, List.length_cons]
  congr 1; omega

/-- the usual case: the segment decoder consumes exactly `body` -/
theorem reads_seg_exact (T : Tables) {b : Nat} (hb : b = 230 ∨ b = 238 ∨ b = 239 ∨ b = 240) (K : List Nat → Prop)
    (off : Nat) (body : List Nat) (f : Acc → Acc)
    (h : ∀ suf a, K suf → segRead T b (body ++ suf) a = .ok (f a, body.length)) :
    Reads T K off (b :: body) (fun a => (f a).endSeg) :=
  reads_seg T hb K off body f (fun suf a hK => ⟨_, h suf a hK, decLoop_skip T body suf false (off + 1) _⟩)

/-- a segment closed by the unlatch 254: the segment decoder consumes it, or, if it is the last codeword of the
    symbol ("only one byte left"), leaves it to the main loop, which tolerates it there -/
theorem decLoop_unlatch_last (T : Tables) (xs suf : List Nat) (m off : Nat) (a : Acc)
    (hm : m = if suf = [] then xs.length else xs.length + 1) :
    decLoop T ((xs ++ [254]) ++ suf) m false off a = decLoop T suf 0 false (off + (xs ++ [254]).length) a := by
  subst hm
  cases suf with
  | nil =>
    rw [if_pos rfl, List.append_nil, decLoop_skip]
    simp [decLoop]
  | cons s ss =>
    rw [if_neg (List.cons_ne_nil _ _), show xs.length + 1 = (xs ++ [254]).length by simp, decLoop_skip]

/-! ## list facts -/

theorem drop_cons_facts {l : List Nat} {pos x : Nat} {r : List Nat} (h : l.drop pos = x :: r) :
    l[pos]? = some x ∧ l.take (pos + 1) = l.take pos ++ [x] ∧ l.drop (pos + 1) = r ∧ pos < l.length := by
  have hlt : pos < l.length := by
    by_cases hlt : pos < l.length
    · exact hlt
    · have : l.drop pos = [] := List.drop_eq_nil_of_le (by omega)
      rw [this] at h; cases h
  have hx : l[pos]? = some x := by
    have := List.getElem?_drop (xs := l) (i := pos) (j := 0)
    rw [h] at this
    simpa using this.symm
  refine ⟨hx, ?_, ?_, hlt⟩
  · rw [List.take_add_one, hx]; rfl
  · have : l.drop (pos + 1) = (l.drop pos).drop 1 := by rw [List.drop_drop]
    rw [this, h]; rfl

theorem digitRun_two {l : List Nat} (h : digitRun l ≥ 2) :
    ∃ d1 d2 r, l = d1 :: d2 :: r ∧ isDigit d1 = true ∧ isDigit d2 = true := by
  match l, h with
  | [], h => simp [digitRun] at h
  | [d1], h =>
    simp only [digitRun] at h
    split at h <;> omega
  | d1 :: d2 :: r, h =>
    refine ⟨d1, d2, r, rfl, ?_, ?_⟩
    · simp only [digitRun] at h
      by_cases c1 : isDigit d1 = true
      · exact c1
      · simp [c1] at h
    · simp only [digitRun] at h
      by_cases c1 : isDigit d1 = true
      · by_cases c2 : isDigit d2 = true
        · exact c2
        · simp [c1, c2] at h
      · simp [c1] at h

/-! ## the encoder invariant -/

/-- The decoder, run on the codewords written so far, has produced exactly the characters consumed so far and
    is in ASCII state (no open segment). -/
structure Inv (T : Tables) (c : Ctx) (a : Acc) : Prop where
  dec : DecodesTo T c.cw a
  text : a.rev.reverse = c.msg.take c.pos
  pend : a.pend = 0

/-- `Inv` for the continuations in `P` only -/
structure InvOn (T : Tables) (P : List Nat → Prop) (c : Ctx) (a : Acc) : Prop where
  dec : DecOn T P c.cw a
  text : a.rev.reverse = c.msg.take c.pos
  pend : a.pend = 0

theorem inv_iff {T : Tables} {c : Ctx} {a : Acc} : Inv T c a ↔ InvOn T (fun _ => True) c a :=
  ⟨fun h => ⟨decodesTo_iff.1 h.dec, h.text, h.pend⟩, fun h => ⟨decodesTo_iff.2 h.dec, h.text, h.pend⟩⟩

theorem Acc.push_rev (a : Acc) (x : Nat) : (a.push x).rev.reverse = a.rev.reverse ++ [x] := by
  simp [Acc.push]

theorem Acc.endSeg_rev (a : Acc) : a.endSeg.rev = a.rev := rfl
theorem Acc.endSeg_pend (a : Acc) : a.endSeg.pend = 0 := rfl
theorem Acc.endSeg_trailer (a : Acc) : a.endSeg.trailer = a.trailer := rfl
theorem Acc.endSeg_of_pend (b : Acc) (h : b.pend = 0) : b.endSeg = b := by
  cases b; simp_all [Acc.endSeg]
theorem Acc.push_trailer (a : Acc) (x : Nat) : (a.push x).trailer = a.trailer := rfl
theorem Acc.push_pend_lt (a : Acc) (x : Nat) (hx : x < 128) : (a.push x).pend = a.pend := by
  have : ¬ x ≥ 128 := by omega
  simp [Acc.push, this]

theorem pushAll_rev (a : Acc) (cs : List Nat) : (a.pushAll cs).rev.reverse = a.rev.reverse ++ cs := by
  induction cs generalizing a with
  | nil => simp [Acc.pushAll]
  | cons c cs ih => simp [Acc.pushAll, ih, Acc.push]

theorem pushAll_trailer (cs : List Nat) (b : Acc) : (b.pushAll cs).trailer = b.trailer := by
  induction cs generalizing b with
  | nil => rfl
  | cons x xs ih => simp only [Acc.pushAll]; rw [ih]; rfl

/-- the codewords `ws` behind the latch `b` at offset `off` are read back as exactly the characters `chars`, for the
    continuations in `K` -/
def SegReads (T : Tables) (K : List Nat → Prop) (off b : Nat) (ws chars : List Nat) : Prop :=
  ∃ f : Acc → Acc, Reads T K off (b :: ws) f ∧
    ∀ a, (f a).rev.reverse = a.rev.reverse ++ chars ∧ (a.pend = 0 → (f a).pend = 0) ∧ (f a).trailer = a.trailer

theorem SegReads.of_pushAll {T : Tables} {K : List Nat → Prop} {off b : Nat} {ws chars : List Nat}
    (h : Reads T K off (b :: ws) (fun a => (a.pushAll chars).endSeg)) : SegReads T K off b ws chars :=
  ⟨_, h, fun a => ⟨by rw [Acc.endSeg_rev, pushAll_rev], fun _ => rfl, by rw [Acc.endSeg_trailer, pushAll_trailer]⟩⟩

theorem SegReads.mono {T : Tables} {K K' : List Nat → Prop} {off b : Nat} {ws chars : List Nat}
    (h : SegReads T K off b ws chars) (hK : ∀ s, K' s → K s) : SegReads T K' off b ws chars := by
  obtain ⟨f, hr, hf⟩ := h
  exact ⟨f, fun s a hs => hr s a (hK s hs), hf⟩

/-- behind a prefix that decodes for the continuations in `P` -/
theorem SegReads.extend {T : Tables} {P Q K : List Nat → Prop} {cw0 ws chars : List Nat} {b : Nat} {a : Acc}
    (h : SegReads T K cw0.length b ws chars) (hd : DecOn T P cw0 a) (hQ : ∀ s, Q s → K s ∧ P (b :: ws ++ s)) :
    ∃ a', DecOn T Q (cw0 ++ b :: ws) a' ∧ a'.rev.reverse = a.rev.reverse ++ chars ∧ (a.pend = 0 → a'.pend = 0) ∧
      a'.trailer = a.trailer := by
  obtain ⟨f, hr, hf⟩ := h
  exact ⟨f a, hd.append hr hQ, hf a⟩

/-- what an ASCII-mode step leaves unchanged -/
structure SameFrame (c c' : Ctx) : Prop where
  msg : c'.msg = c.msg
  cfg : c'.cfg = c.cfg
  skip : c'.skipAtEnd = c.skipAtEnd
  sym : c'.sym = c.sym

/-- the frame of a whole call of a non-ASCII encoder: it appends the codewords `ws` and ends `chars` further on in the
    message (it may have stepped back over characters it had consumed) -/
structure CallFrame (c c' : Ctx) (ws chars : List Nat) : Prop where
  cw : c'.cw = c.cw ++ ws
  msg : c'.msg = c.msg
  cfg : c'.cfg = c.cfg
  skip : c'.skipAtEnd = c.skipAtEnd
  take : c.msg.take c'.pos = c.msg.take c.pos ++ chars
  lo : c.pos ≤ c'.pos
  hi : c'.pos ≤ c'.total

/-- such a call entered right behind its latch `b`, on a prefix that decodes whatever follows: what it has written decodes
    (for the continuations it is read back for) to the characters it ends behind -/
theorem CallFrame.behind {T : Tables} {K : List Nat → Prop} {c c' : Ctx} {a : Acc} {cw0 ws chars : List Nat} {b : Nat}
    (hF : CallFrame c c' ws chars) (hcw : c.cw = cw0 ++ [b]) (hdec : DecodesTo T cw0 a)
    (htext : a.rev.reverse = c.msg.take c.pos) (hpend : a.pend = 0) (hr : SegReads T K cw0.length b ws chars) :
    ∃ a', DecOn T K c'.cw a' ∧ a'.trailer = a.trailer ∧ a'.rev.reverse = c'.msg.take c'.pos ∧ a'.pend = 0 := by
  obtain ⟨a', hd, h1, h2, h3⟩ := hr.extend (decodesTo_iff.1 hdec) (Q := K) (fun _ hs => ⟨hs, trivial⟩)
  have hcw' : c'.cw = cw0 ++ b :: ws := by rw [hF.cw, hcw]; simp
  rw [← hcw'] at hd
  exact ⟨a', hd, h3, by rw [h1, htext, hF.msg, hF.take], h2 hpend⟩

/-! ## the ASCII encoder -/

/-- the latch codewords of the ASCII encoder, by the mode latched to -/
def latchCodes : List (Nat × Nat) := [(BASE256, 231), (C40, 230), (X12, 238), (TEXT, 239), (EDIFACT, 240)]

theorem mem_latchCodes {m code : Nat} : (m, code) ∈ latchCodes ↔
    (m = BASE256 ∧ code = 231) ∨ (m = C40 ∧ code = 230) ∨ (m = X12 ∧ code = 238) ∨
    (m = TEXT ∧ code = 239) ∨ (m = EDIFACT ∧ code = 240) := by
  simp [latchCodes]

theorem latchCodes_ne_ascii {m code : Nat} (h : (m, code) ∈ latchCodes) : m ≠ ASCII := by
  rintro rfl
  simp [latchCodes] at h

/-- the successful steps of the ASCII encoder at position `pos` of `msg`: the codewords written, the new position
    and the mode signalled — a digit pair, a latch to the mode the look-ahead proposes, an upper shift with its
    character, a plain character -/
inductive AsciiOut (la : LookAhead) (msg : List Nat) (pos : Nat) : List Nat → Nat → Option Nat → Prop where
  | pair (d1 d2 : Nat) (hn : digitRun (msg.drop pos) ≥ 2) (h1 : msg[pos]? = some d1) (h2 : msg[pos + 1]? = some d2)
      (hd1 : isDigit d1 = true) (hd2 : isDigit d2 = true) :
      AsciiOut la msg pos [(d1 - 48) * 10 + (d2 - 48) + 130] (pos + 2) none
  | latch (ch m code : Nat) (hn : ¬ digitRun (msg.drop pos) ≥ 2) (hch : msg[pos]? = some ch)
      (hla : la msg pos ASCII = m) (hm : (m, code) ∈ latchCodes) : AsciiOut la msg pos [code] pos (some m)
  | upper (ch : Nat) (hn : ¬ digitRun (msg.drop pos) ≥ 2) (hch : msg[pos]? = some ch)
      (hla : la msg pos ASCII = ASCII) (hx : isExtended ch = true) :
      AsciiOut la msg pos [235, ch - 128 + 1] (pos + 1) none
  | plain (ch : Nat) (hn : ¬ digitRun (msg.drop pos) ≥ 2) (hch : msg[pos]? = some ch)
      (hla : la msg pos ASCII = ASCII) (hx : ¬ isExtended ch = true) : AsciiOut la msg pos [ch + 1] (pos + 1) none

theorem asciiEncode_ok_iff {la : LookAhead} {c c' : Ctx} :
    asciiEncode la c = .ok c' ↔
      ∃ x p s, AsciiOut la c.msg c.pos x p s ∧ c' = { c with cw := c.cw ++ x, pos := p, newEnc := s.or c.newEnc } := by
  constructor
  · intro h
    unfold asciiEncode at h
    simp only at h
    by_cases hn : digitRun (c.msg.drop c.pos) ≥ 2
    · rw [if_pos hn] at h
      cases h1 : c.msg[c.pos]? with
      | none => rw [h1] at h; cases h
      | some d1 =>
        cases h2 : c.msg[c.pos + 1]? with
        | none => rw [h1, h2] at h; cases h
        | some d2 =>
          rw [h1, h2] at h
          cases h
          obtain ⟨e1, e2, r, hl, hd1, hd2⟩ := digitRun_two hn
          obtain ⟨g1, _, dr1, _⟩ := drop_cons_facts hl
          obtain ⟨g2, _, _, _⟩ := drop_cons_facts dr1
          cases h1.symm.trans g1
          cases h2.symm.trans g2
          exact ⟨_, _, _, .pair d1 d2 hn h1 h2 hd1 hd2, rfl⟩
    · rw [if_neg hn] at h
      obtain ⟨ch, hch, h⟩ := bind_ok h
      rw [cur_ok_iff] at hch
      have L := fun m code hla hm => AsciiOut.latch (la := la) ch m code hn hch hla hm
      by_cases h0 : la c.msg c.pos ASCII ≠ ASCII
      · rw [if_pos h0] at h
        by_cases h5 : la c.msg c.pos ASCII = BASE256
        · rw [if_pos h5] at h; cases h; exact ⟨_, _, _, L _ 231 h5 (by simp [latchCodes]), rfl⟩
        rw [if_neg h5] at h
        by_cases h1 : la c.msg c.pos ASCII = C40
        · rw [if_pos h1] at h; cases h; exact ⟨_, _, _, L _ 230 h1 (by simp [latchCodes]), rfl⟩
        rw [if_neg h1] at h
        by_cases h3 : la c.msg c.pos ASCII = X12
        · rw [if_pos h3] at h; cases h; exact ⟨_, _, _, L _ 238 h3 (by simp [latchCodes]), rfl⟩
        rw [if_neg h3] at h
        by_cases h2 : la c.msg c.pos ASCII = TEXT
        · rw [if_pos h2] at h; cases h; exact ⟨_, _, _, L _ 239 h2 (by simp [latchCodes]), rfl⟩
        rw [if_neg h2] at h
        by_cases h4 : la c.msg c.pos ASCII = EDIFACT
        · rw [if_pos h4] at h; cases h; exact ⟨_, _, _, L _ 240 h4 (by simp [latchCodes]), rfl⟩
        rw [if_neg h4] at h; cases h
      · rw [if_neg h0] at h
        have h0' : la c.msg c.pos ASCII = ASCII := Decidable.not_not.1 h0
        by_cases hx : isExtended ch = true
        · rw [if_pos hx] at h; cases h; exact ⟨_, _, _, .upper ch hn hch h0' hx, by simp [Ctx.write]⟩
        · rw [if_neg hx] at h; cases h; exact ⟨_, _, _, .plain ch hn hch h0' hx, rfl⟩
  · rintro ⟨x, p, s, ho, rfl⟩
    unfold asciiEncode
    cases ho with
    | pair d1 d2 hn h1 h2 _ _ => simp only [hn, if_true, h1, h2]; rfl
    | latch ch m code hn hch hla hm =>
      rw [mem_latchCodes] at hm
      rcases hm with ⟨rfl, rfl⟩ | ⟨rfl, rfl⟩ | ⟨rfl, rfl⟩ | ⟨rfl, rfl⟩ | ⟨rfl, rfl⟩ <;>
        simp [hn, cur_ok_iff.2 hch, hla, bind, Except.bind] <;> rfl
    | upper ch hn hch hla hx => simp [hn, cur_ok_iff.2 hch, hla, hx, bind, Except.bind, Ctx.write]
    | plain ch hn hch hla hx => simp [hn, cur_ok_iff.2 hch, hla, hx, bind, Except.bind, Ctx.write]

/-- codewords the ASCII encodation needs at most: two for an extended character, one otherwise -/
def asciiNeed : List Nat → Nat
  | [] => 0
  | c :: cs => (if isExtended c then 2 else 1) + asciiNeed cs

/-- what a data step of the ASCII encoder writes is read back as the characters it has consumed, in any ASCII state,
    whatever follows -/
theorem asciiOut_reads (T : Tables) (off : Nat) {la : LookAhead} {msg : List Nat} {pos p : Nat} {x : List Nat}
    (hbytes : ∀ y ∈ msg, y < 256) (ho : AsciiOut la msg pos x p none) :
    ∃ (f : Acc → Acc) (cs : List Nat), Reads T (fun _ => True) off x f ∧ (∀ y ∈ x, y < 256) ∧ 1 ≤ x.length ∧
      x.length ≤ asciiNeed cs ∧ cs = (msg.drop pos).take (p - pos) ∧ msg.take p = msg.take pos ++ cs ∧
      (∀ a, (f a).rev.reverse = a.rev.reverse ++ cs ∧ (a.pend = 0 → (f a).pend = 0) ∧ (f a).trailer = a.trailer) ∧
      (p = pos + 1 ∨ (p = pos + 2 ∧ pos + 2 ≤ msg.length ∧ ∃ d, msg[pos + 1]? = some d ∧ isDigit d = true)) ∧
      pos < msg.length := by
  have hget : ∀ {i v}, msg[i]? = some v → i < msg.length := fun hv => (List.getElem?_eq_some_iff.1 hv).1
  have hone : ∀ {ch}, msg[pos]? = some ch → [ch] = (msg.drop pos).take (pos + 1 - pos) ∧
      msg.take (pos + 1) = msg.take pos ++ [ch] := by
    intro ch hch
    exact ⟨by rw [drop_eq_cons_of_getElem? hch, Nat.add_sub_cancel_left]; rfl, by rw [List.take_add_one, hch]; rfl⟩
  cases ho with
  | pair d1 d2 hn g1 g2 hd1 hd2 =>
    have hd2' := hd2
    simp only [isDigit, Bool.and_eq_true, decide_eq_true_eq] at hd1 hd2
    have := hget g2
    obtain ⟨e1, e2, r, hl, _, _⟩ := digitRun_two hn
    obtain ⟨k1, _, dr1, _⟩ := drop_cons_facts hl
    obtain ⟨k2, _, _, _⟩ := drop_cons_facts dr1
    cases g1.symm.trans k1
    cases g2.symm.trans k2
    have x1 : isExtended d1 = false := by simp [isExtended]; omega
    have x2 : isExtended d2 = false := by simp [isExtended]; omega
    refine ⟨fun a => (a.push d1).push d2, [d1, d2], ?_, by intro y hy; simp at hy; omega, by simp,
      by simp [asciiNeed, x1, x2], by rw [hl, Nat.add_sub_cancel_left]; rfl, ?_, fun a => ⟨by simp [Acc.push_rev], ?_, rfl⟩,
      Or.inr ⟨rfl, by omega, d2, g2, hd2'⟩, hget g1⟩
    · have := reads_digits T off ((d1 - 48) * 10 + (d2 - 48) + 130) (by omega) (by omega)
      rw [digitPair_code d1 d2 hd1 hd2] at this
      simpa [Acc.pushAll] using this
    · rw [List.take_add_one, List.take_add_one, g1, g2]; simp
    · intro h0; rw [Acc.push_pend_lt _ _ (by omega), Acc.push_pend_lt _ _ (by omega), h0]
  | upper ch hn hch hla hext =>
    have hch256 : ch < 256 := hbytes ch (List.mem_of_getElem? hch)
    have hext' := hext
    simp only [isExtended, Bool.and_eq_true, decide_eq_true_eq] at hext
    refine ⟨fun a => (a.push ch).endSeg, [ch], ?_, by intro y hy; simp at hy; omega, by simp,
      by simp [asciiNeed, hext'], (hone hch).1, (hone hch).2,
      fun a => ⟨by simp [Acc.endSeg_rev, Acc.push_rev], fun _ => rfl, rfl⟩, Or.inl rfl, hget hch⟩
    have := reads_upper T off (ch - 128 + 1) (by omega) (by omega)
    rw [show ch - 128 + 1 + 128 - 1 = ch by omega] at this
    exact this
  | plain ch hn hch hla hext =>
    have hlt128 : ch < 128 := by
      have := hbytes ch (List.mem_of_getElem? hch)
      simp only [isExtended, Bool.and_eq_true, decide_eq_true_eq, not_and] at hext
      omega
    refine ⟨fun a => (a.push ch).endSeg, [ch], ?_, by intro y hy; simp at hy; omega, by simp,
      by simp [asciiNeed, hext], (hone hch).1, (hone hch).2,
      fun a => ⟨by simp [Acc.endSeg_rev, Acc.push_rev], fun _ => rfl, rfl⟩, Or.inl rfl, hget hch⟩
    have := reads_ascii T off (ch + 1) (by omega) (by omega)
    simpa using this

/-- a data step of the ASCII encoder (digit pair, ASCII character, upper shift + character) keeps the invariant, for
    whatever set of continuations it holds; EVERY look-ahead oracle -/
theorem asciiOut_invOn {T : Tables} {P : List Nat → Prop} {la : LookAhead} {c : Ctx} {a : Acc} {x : List Nat} {p : Nat}
    (hbytes : ∀ y ∈ c.msg, y < 256) (hI : InvOn T P c a) (ho : AsciiOut la c.msg c.pos x p none) :
    ∃ a', InvOn T (fun s => P (x ++ s)) { c with cw := c.cw ++ x, pos := p } a' ∧ a'.trailer = a.trailer ∧
      (∀ y ∈ x, y < 256) ∧ 1 ≤ x.length ∧ x.length ≤ asciiNeed ((c.msg.drop c.pos).take (p - c.pos)) ∧
      (p = c.pos + 1 ∨ (p = c.pos + 2 ∧ c.pos + 2 ≤ c.msg.length ∧
        ∃ d, c.msg[c.pos + 1]? = some d ∧ isDigit d = true)) ∧ c.pos < c.msg.length := by
  obtain ⟨f, cs, hr, hxb, hxl, hneed, hcs, htake, hf, hpos, hlt⟩ := asciiOut_reads T c.cw.length hbytes ho
  obtain ⟨f1, f2, f3⟩ := hf a
  exact ⟨f a, ⟨hI.dec.append hr (fun s hs => ⟨trivial, hs⟩), by rw [f1, hI.text]; exact htake.symm, f2 hI.pend⟩, f3,
    hxb, hxl, hcs ▸ hneed, hpos, hlt⟩

/-- `dm_encoder_invariant`, ASCII mode: a data step of the ASCII encoder (digit pair, ASCII character, upper
    shift + character) preserves the invariant and advances; this holds for EVERY look-ahead oracle. -/
theorem ascii_step_inv {T : Tables} {la : LookAhead} {c c' : Ctx} {a : Acc}
    (hbytes : ∀ x ∈ c.msg, x < 256) (hI : Inv T c a)
    (h : asciiEncode la c = .ok c') (hno : c'.newEnc = none) :
    ∃ a', Inv T c' a' ∧ a'.trailer = a.trailer ∧ SameFrame c c' ∧
      (c'.pos = c.pos + 1 ∨ (c'.pos = c.pos + 2 ∧ c.pos + 2 ≤ c.msg.length ∧
        ∃ d, c.msg[c.pos + 1]? = some d ∧ isDigit d = true)) ∧ c.pos < c.msg.length := by
  obtain ⟨x, p, s, ho, rfl⟩ := asciiEncode_ok_iff.1 h
  cases s with
  | some m => cases hno
  | none =>
    obtain ⟨a', hI', htr, _, _, _, hpos, hlt⟩ := asciiOut_invOn hbytes (inv_iff.1 hI) ho
    exact ⟨a', inv_iff.2 hI', htr, ⟨rfl, rfl, rfl, rfl⟩, hpos, hlt⟩

theorem ascii_latch_gen {la : LookAhead} {c c' : Ctx}
    (h : asciiEncode la c = .ok c') (hsome : c'.newEnc ≠ none) (hnew : c.newEnc = none) :
    ∃ m code, la c.msg c.pos ASCII = m ∧ c' = (c.write code).signal m ∧
      ((m = BASE256 ∧ code = 231) ∨ (m = C40 ∧ code = 230) ∨ (m = X12 ∧ code = 238) ∨
       (m = TEXT ∧ code = 239) ∨ (m = EDIFACT ∧ code = 240)) := by
  obtain ⟨x, p, s, ho, rfl⟩ := asciiEncode_ok_iff.1 h
  cases ho
  case latch ch m code _ _ hl hm => exact ⟨m, code, hl, rfl, mem_latchCodes.1 hm⟩
  all_goals exact absurd hnew hsome

/-! ## the table of encoders -/

theorem encodeMode_ascii (syms : List SymbolInfo) (la : LookAhead) (c : Ctx) :
    encodeMode syms la ASCII c = asciiEncode la c := rfl
theorem encodeMode_c40 (syms : List SymbolInfo) (la : LookAhead) (c : Ctx) :
    encodeMode syms la C40 c = c40Encode syms la false c := rfl
theorem encodeMode_text (syms : List SymbolInfo) (la : LookAhead) (c : Ctx) :
    encodeMode syms la TEXT c = c40Encode syms la true c := rfl
theorem encodeMode_x12 (syms : List SymbolInfo) (la : LookAhead) (c : Ctx) :
    encodeMode syms la X12 c = x12Encode syms la c := rfl
theorem encodeMode_edifact (syms : List SymbolInfo) (la : LookAhead) (c : Ctx) :
    encodeMode syms la EDIFACT c = edifactEncode syms la c := rfl
theorem encodeMode_b256 (syms : List SymbolInfo) (la : LookAhead) (c : Ctx) :
    encodeMode syms la BASE256 c = b256Encode syms la c := rfl

theorem encodeMode_ok {syms : List SymbolInfo} {la : LookAhead} {mode : Nat} {c c' : Ctx}
    (h : encodeMode syms la mode c = .ok c') :
    (mode = ASCII ∧ asciiEncode la c = .ok c') ∨ (mode = C40 ∧ c40Encode syms la false c = .ok c') ∨
    (mode = TEXT ∧ c40Encode syms la true c = .ok c') ∨ (mode = X12 ∧ x12Encode syms la c = .ok c') ∨
    (mode = EDIFACT ∧ edifactEncode syms la c = .ok c') ∨ (mode = BASE256 ∧ b256Encode syms la c = .ok c') := by
  unfold encodeMode at h
  by_cases h0 : mode = ASCII
  · rw [if_pos h0] at h; exact .inl ⟨h0, h⟩
  rw [if_neg h0] at h
  by_cases h1 : mode = C40
  · rw [if_pos h1] at h; exact .inr (.inl ⟨h1, h⟩)
  rw [if_neg h1] at h
  by_cases h2 : mode = TEXT
  · rw [if_pos h2] at h; exact .inr (.inr (.inl ⟨h2, h⟩))
  rw [if_neg h2] at h
  by_cases h3 : mode = X12
  · rw [if_pos h3] at h; exact .inr (.inr (.inr (.inl ⟨h3, h⟩)))
  rw [if_neg h3] at h
  by_cases h4 : mode = EDIFACT
  · rw [if_pos h4] at h; exact .inr (.inr (.inr (.inr (.inl ⟨h4, h⟩))))
  rw [if_neg h4] at h
  by_cases h5 : mode = BASE256
  · rw [if_pos h5] at h; exact .inr (.inr (.inr (.inr (.inr ⟨h5, h⟩))))
  rw [if_neg h5] at h
  cases h

end Gzx.DMHighLevel
