/-
  The array-assembled matrix `refMatrix` (what the driver prints and the oracle compares with the
  library) is the functional specification `specMatrix` / `moduleAt` (what the theorems are about).
-/
import Gzx.Proofs.QRPlacement
import Gzx.Proofs.ListGrid
namespace Gzx.QRRef

theorem foldl_set_getD {β : Type} (idx : β → Nat) (val : β → Bool) :
    ∀ (ps : List β) (base : Array Bool) (j : Nat), j < base.size → (ps.map idx).Nodup →
      (ps.foldl (fun a p => a.setIfInBounds (idx p) (val p)) base).getD j false =
        ((ps.find? (fun p => idx p == j)).map val).getD (base.getD j false) := by
  intro ps
  induction ps with
  | nil => intro base j _ _; rfl
  | cons p ps ih =>
    intro base j hj hnd
    rw [List.map_cons, List.nodup_cons] at hnd
    rw [List.foldl_cons, ih _ j (by rw [Array.size_setIfInBounds]; exact hj) hnd.2, List.find?_cons]
    by_cases hp : idx p = j
    · have hnone : ps.find? (fun q => idx q == j) = none := by
        rw [List.find?_eq_none]
        intro q hq hqj
        have : idx q = idx p := by rw [hp]; simpa using hqj
        exact hnd.1 (this ▸ List.mem_map_of_mem hq)
      have hb : (idx p == j) = true := by simpa using hp
      rw [hnone, hb]
      simp only [Option.map_none, Option.getD_none, Option.map_some, Option.getD_some]
      rw [Array.getD_eq_getD_getElem?, Array.getElem?_setIfInBounds]
      simp [hp, hj]
    · have hb : (idx p == j) = false := by simpa using hp
      rw [hb]
      simp only
      rw [Array.getD_eq_getD_getElem?, Array.getElem?_setIfInBounds, if_neg hp, ← Array.getD_eq_getD_getElem?]

theorem find_idx_eq_lookup (n x y : Nat) (hx : x < n) :
    ∀ (ps : List ((Nat × Nat) × Bool)), (∀ p ∈ ps, p.1.1 < n) →
      (ps.find? (fun p => p.1.2 * n + p.1.1 == y * n + x)).map (·.2) = ps.lookup (x, y) := by
  intro ps
  induction ps with
  | nil => intro _; rfl
  | cons p ps ih =>
    intro hall
    obtain ⟨⟨px, py⟩, b⟩ := p
    have hpx : px < n := hall _ List.mem_cons_self
    rw [List.find?_cons, List.lookup_cons]
    by_cases hk : (x, y) = (px, py)
    · have h1 : ((x, y) == (px, py)) = true := by simpa using hk
      simp only [Prod.mk.injEq] at hk
      have h2 : (py * n + px == y * n + x) = true := by simp [hk.1, hk.2]
      rw [h1, h2]; rfl
    · have h1 : ((x, y) == (px, py)) = false := by simpa using hk
      have h2 : (py * n + px == y * n + x) = false := by
        apply beq_false_of_ne
        intro h
        have := idx_inj hpx hx h
        exact hk (by rw [this.1, this.2])
      rw [h1, h2]
      exact ih (fun q hq => hall q (List.mem_cons_of_mem _ hq))

theorem lookup_none_of_not_mem {α β : Type} [BEq α] [LawfulBEq α] (k : α) :
    ∀ (ps : List (α × β)), k ∉ ps.map (·.1) → ps.lookup k = none := by
  intro ps
  induction ps with
  | nil => intro _; rfl
  | cons p ps ih =>
    intro h
    obtain ⟨a, b⟩ := p
    rw [List.map_cons, List.mem_cons, not_or] at h
    rw [List.lookup_cons]
    have : (k == a) = false := by simpa using h.1
    rw [this]
    exact ih h.2

theorem lookup_ne_none_of_mem {α β : Type} [BEq α] [LawfulBEq α] (k : α) :
    ∀ (ps : List (α × β)), k ∈ ps.map (·.1) → ps.lookup k ≠ none := by
  intro ps
  induction ps with
  | nil => intro h; simp at h
  | cons p ps ih =>
    intro h
    obtain ⟨a, b⟩ := p
    rw [List.lookup_cons]
    by_cases hk : k = a
    · have : (k == a) = true := by simpa using hk
      rw [this]; simp
    · have : (k == a) = false := by simpa using hk
      rw [this]
      rw [List.map_cons, List.mem_cons] at h
      exact ih (h.resolve_left hk)

theorem map_fst_zipWith {α β γ : Type} (g : α → β → γ) :
    ∀ (cs : List α) (bs : List β), cs.length ≤ bs.length →
      (List.zipWith (fun c b => (c, g c b)) cs bs).map (·.1) = cs := by
  intro cs
  induction cs with
  | nil => intro bs _; simp
  | cons c cs ih =>
    intro bs h
    cases bs with
    | nil => simp at h
    | cons b bs =>
      simp only [List.zipWith_cons_cons, List.map_cons]
      rw [ih bs (by simpa using h)]

theorem placedData_keys (v mask : Nat) (cw : List Nat) :
    (placedData v mask cw).map (·.1) = zigzag v := by
  rw [placedData_eq]
  apply map_fst_zipWith
  unfold streamBits
  rw [List.length_append, List.length_replicate]
  omega

/-- The driver's matrix is the specification matrix.  `refMatrix` starts from an array of the function
    modules (`Array.ofFn`) and folds `setIfInBounds` over `placedData` at index `y * n + x`.  A cell read back is
    the value of the first placed entry with that index, else the array's (`foldl_set_getD`; the indices are
    distinct because the placement order is duplicate-free and `idx_inj`); `find?` on the index is `lookup` on
    the cell (`find_idx_eq_lookup`).  Then function modules are never placed, data modules always. -/
theorem refMatrix_eq_spec (v : Nat) (ec : EC) (mask : Nat) (cw : List Nat) :
    refMatrix v ec mask cw = specMatrix v ec mask cw := by
  unfold refMatrix specMatrix
  simp only
  apply List.map_congr_left
  intro y hy
  apply List.map_congr_left
  intro x hx
  rw [List.mem_range] at hx hy
  generalize hn : dimension v = n at hx hy ⊢
  have hj : y * n + x < n * n := mul_add_lt hy hx
  have hkeys := placedData_keys v mask cw
  have hall : ∀ p ∈ placedData v mask cw, p.1.1 < n := by
    intro p hp
    have : p.1 ∈ zigzag v := by rw [← hkeys]; exact List.mem_map_of_mem hp
    have := (mem_zigzag v p.1.1 p.1.2).mp this
    rw [hn] at this
    exact this.1
  have hnd : ((placedData v mask cw).map (fun p => p.1.2 * n + p.1.1)).Nodup := by
    have hk : ((placedData v mask cw).map (·.1)).Nodup := by rw [hkeys]; exact nodup_zigzag v
    rw [List.nodup_iff_pairwise_ne, List.pairwise_map] at hk ⊢
    rw [List.pairwise_iff_forall_sublist] at hk ⊢
    intro a b hab heq
    have ha : a ∈ placedData v mask cw := hab.subset (by simp)
    have hb : b ∈ placedData v mask cw := hab.subset (by simp)
    have := idx_inj (hall a ha) (hall b hb) heq
    exact hk hab (Prod.ext this.1 this.2)
  rw [foldl_set_getD (fun (p : (Nat × Nat) × Bool) => p.1.2 * n + p.1.1) (fun p => p.2) _ _ _
    (by rw [Array.size_ofFn]; exact hj) hnd]
  rw [find_idx_eq_lookup n x y hx _ hall]
  unfold moduleAt
  by_cases hf : isFunction v x y = true
  · rw [hf]
    simp only [if_true]
    have hnot : (x, y) ∉ (placedData v mask cw).map (·.1) := by
      rw [hkeys, mem_zigzag]
      intro h
      rw [hf] at h
      exact absurd h.2.2 (by simp)
    rw [lookup_none_of_not_mem _ _ hnot]
    simp only [Option.getD_none]
    rw [Array.getD_eq_getD_getElem?, Array.getElem?_ofFn]
    simp only [hj, dite_true, Option.getD_some]
    obtain ⟨e1, e2⟩ := mul_add_mod_div (n := y) hx
    rw [e1, e2]
    unfold functionModule
    rw [hn]
  · have hf' : isFunction v x y = false := by simpa using hf
    rw [hf']
    simp only [Bool.false_eq_true, if_false]
    have hmem : (x, y) ∈ zigzag v := (mem_zigzag v x y).mpr ⟨hn ▸ hx, hn ▸ hy, hf'⟩
    cases hl : (placedData v mask cw).lookup (x, y) with
    | some b => rfl
    | none => exact absurd hl (lookup_ne_none_of_mem _ _ (hkeys ▸ hmem))

end Gzx.QRRef
