/-
  Least and greatest member of a set of positions, where the start value of the Go scan (`size`, `width`, `height`
  for a least, `-1` for a greatest) stands for "none": what GetNextSet / GetNextUnset and the four sides of
  GetEnclosingRectangle are, on the words and on the naive model alike.
-/
namespace Gzx.Bits

/-- `lo` is the least member of `S`; `top` when `S` has no member below `top` -/
structure IsLo (S : Nat → Prop) (top lo : Nat) : Prop where
  le : ∀ v, S v → lo ≤ v
  le_top : lo ≤ top
  mem : lo < top → S lo

/-- `hi` is the greatest member of `S`; `-1` when `S` is empty -/
structure IsHi (S : Nat → Prop) (hi : Int) : Prop where
  ge : ∀ v, S v → (v : Int) ≤ hi
  neg : -1 ≤ hi
  mem : 0 ≤ hi → S hi.toNat

theorem IsLo.unique {S : Nat → Prop} {top lo lo' : Nat} (h : IsLo S top lo) (h' : IsLo S top lo') : lo = lo' := by
  have a := h.le_top
  have a' := h'.le_top
  by_cases c : lo < top
  · have := h'.le _ (h.mem c)
    have := h.le _ (h'.mem (by omega))
    omega
  · by_cases c' : lo' < top
    · have := h.le _ (h'.mem c'); omega
    · omega

theorem IsHi.unique {S : Nat → Prop} {hi hi' : Int} (h : IsHi S hi) (h' : IsHi S hi') : hi = hi' := by
  have a := h.neg
  have a' := h'.neg
  by_cases c : 0 ≤ hi
  · have := h'.ge _ (h.mem c)
    have := h.ge _ (h'.mem (by omega))
    omega
  · by_cases c' : 0 ≤ hi'
    · have := h.ge _ (h'.mem c'); omega
    · omega

theorem IsLo.init (top : Nat) : IsLo (fun _ => False) top top :=
  ⟨fun _ h => h.elim, Nat.le_refl _, fun h => absurd h (Nat.lt_irrefl _)⟩

theorem IsHi.init : IsHi (fun _ => False) (-1) :=
  ⟨fun _ h => h.elim, Int.le_refl _, fun h => absurd h (by decide)⟩

theorem IsLo.of_before {S : Nat → Prop} {top lo : Nat} (hle : lo ≤ top) (hbefore : ∀ g, g < lo → ¬ S g)
    (hat : lo < top → S lo) : IsLo S top lo :=
  ⟨fun v hv => Nat.le_of_not_lt fun c => hbefore v c hv, hle, hat⟩

theorem IsLo.single {top a : Nat} (ha : a < top) : IsLo (fun v => v = a) top a :=
  ⟨fun _ hv => Nat.le_of_eq hv.symm, Nat.le_of_lt ha, fun _ => rfl⟩

theorem IsHi.single (a : Nat) : IsHi (fun v => v = a) (a : Int) :=
  ⟨fun _ hv => by omega, by omega, fun _ => Int.toNat_natCast a⟩

theorem IsLo.congr {S S' : Nat → Prop} {top lo : Nat} (h : IsLo S top lo) (e : ∀ v, S v ↔ S' v) : IsLo S' top lo :=
  ⟨fun v hv => h.le v ((e v).mpr hv), h.le_top, fun c => (e _).mp (h.mem c)⟩

theorem IsHi.congr {S S' : Nat → Prop} {hi : Int} (h : IsHi S hi) (e : ∀ v, S v ↔ S' v) : IsHi S' hi :=
  ⟨fun v hv => h.ge v ((e v).mpr hv), h.neg, fun c => (e _).mp (h.mem c)⟩

/-- more members `T`, of which `a` is the least: what `if a < lo { lo = a }` keeps -/
theorem IsLo.step {S T : Nat → Prop} {top lo a : Nat} (h : IsLo S top lo) (ha : T a) (hT : ∀ v, T v → a ≤ v)
    (hat : a < top) : IsLo (fun v => S v ∨ T v) top (if a < lo then a else lo) := by
  have := h.le_top
  refine ⟨fun v hv => ?_, by split <;> omega, fun hl => ?_⟩
  · rcases hv with hv | hv
    · have := h.le v hv; split <;> omega
    · have := hT v hv; split <;> omega
  · split
    · exact Or.inr ha
    · exact Or.inl (h.mem (by omega))

/-- more members `T`, of which `b` is the greatest: what `if b > hi { hi = b }` keeps -/
theorem IsHi.step {S T : Nat → Prop} {hi : Int} {b : Nat} (h : IsHi S hi) (hb : T b) (hT : ∀ v, T v → v ≤ b) :
    IsHi (fun v => S v ∨ T v) (if (b : Int) > hi then (b : Int) else hi) := by
  have := h.neg
  refine ⟨fun v hv => ?_, by split <;> omega, fun hh => ?_⟩
  · rcases hv with hv | hv
    · have := h.ge v hv; split <;> omega
    · have := hT v hv; split <;> omega
  · split
    · rw [Int.toNat_natCast]; exact Or.inr hb
    · exact Or.inl (h.mem (by omega))

end Gzx.Bits
