/-
  The sideways pose: a rendered 1-D image turned by 90° clockwise.
  * every pixel row of the turned picture has ONE colour: `GetBlackRow` answers NotFound on a black row (a single
    histogram peak fails the contrast test) and NotFound or an all-white row on a white one;
  * so the upright scan of `OneDReader.Decode` finds nothing, provided the row decoder refuses all-white rows;
  * `RotateCounterClockwise` of the turned picture's bitmap IS the bitmap of the original picture;
  * with TRY_HARDER the rotated scan then finds the symbol on its middle row: ORIENTATION 270.
-/
import Gzx.Proofs.Image1DPath
import Gzx.Proofs.ListGrid
namespace Gzx.Image1DSide
open Gzx Gzx.Image1D Gzx.Image1DScan Gzx.Image1DBin Gzx.Luminance Gzx.Binarizer Gzx.ImagePath

/-! ## one-colour rows -/

theorem blackRow_black (H : Nat) : blackRow ((List.replicate H true).map grayAt) = .error .notFound := by
  unfold blackRow
  rw [(estimateBlackPoint_bilevel _ (grayAt_bilevel _)).2 (by simp [grayAt])]

theorem blackRow_white (H : Nat) :
    blackRow ((List.replicate H false).map grayAt) = .error .notFound ∨
    blackRow ((List.replicate H false).map grayAt) = .ok (List.replicate H false) := by
  rcases Properties.C17.blackRow_bilevel _ (grayAt_bilevel _) with h | ⟨bits, hb, hlen, hpx⟩
  · left; exact h
  · right
    rw [hb]
    refine congrArg Except.ok ?_
    simp only [List.length_map, List.length_replicate] at hlen hpx
    apply List.ext_getElem?
    intro i
    by_cases hi : i < H
    · rw [hpx i hi]
      simp [grayAt, hi]
    · rw [List.getElem?_eq_none (by omega), List.getElem?_eq_none (by simp; omega)]

/-! ## the turned picture -/

theorem rot90_uniform (row : List Bool) (H : Nat) :
    (uniform row H).rot90 = ⟨H, row.length, row.map (fun c => List.replicate H c)⟩ := by
  unfold Pic.rot90 uniform
  simp only [Pic.mk.injEq, true_and, List.reverse_replicate]
  apply List.ext_getElem?
  intro y
  by_cases hy : y < row.length
  · rw [List.getElem?_map, List.getElem?_range hy, List.getElem?_map, List.getElem?_eq_getElem hy]
    simp only [Option.map_some, Option.some.injEq]
    induction H with
    | zero => rfl
    | succ n ih => rw [List.replicate_succ, List.filterMap_cons, List.getElem?_eq_getElem hy, ih, List.replicate_succ]
  · rw [List.getElem?_eq_none (by simpa using hy), List.getElem?_eq_none (by simpa using hy)]

theorem side_wf (row : List Bool) (H : Nat) : Pic.WF (uniform row H).rot90 := by
  rw [rot90_uniform]
  exact ⟨by simp, by intro r hr; obtain ⟨c, _, rfl⟩ := List.mem_map.mp hr; simp⟩

theorem getBlackRow_side (binz : Binz) (row : List Bool) (H : Nat) (y : Nat) (hy : y < row.length) :
    (Bitmap.ofPic binz (uniform row H).rot90).getBlackRow y = .error .notFound ∨
    (Bitmap.ofPic binz (uniform row H).rot90).getBlackRow y = .ok (List.replicate H false) := by
  have hr : (uniform row H).rot90.rows[y]? = some (List.replicate H row[y]) := by
    rw [rot90_uniform]; simp [hy]
  have hh : (uniform row H).rot90.h = row.length := by rw [rot90_uniform]
  rw [getBlackRow_ofPic binz _ (side_wf row H) y (by rw [hh]; exact hy) _ hr]
  cases row[y] with
  | true => left; exact blackRow_black H
  | false => exact blackRow_white H

/-! ## RotateCounterClockwise of the turned picture -/

theorem rotate_side (binz : Binz) (row : List Bool) (H : Nat) :
    (Bitmap.ofPic binz (uniform row H).rot90).rotate = .ok (Bitmap.ofPic binz (uniform row H)) := by
  rw [rot90_uniform]
  unfold Bitmap.rotate Bitmap.ofPic rotateCCW
  simp only [ofLuminances]
  -- every row of the rotated copy is the original row
  have hrow : ∀ j ∈ List.range H,
      rotRow { kind := Kind.img, data := ((row.map (fun c => List.replicate H c)).flatten.map lumOfPixel), dataW := H,
               dataH := row.length, left := 0, top := 0, w := H, h := row.length, inv := false } j =
        .ok (row.map lumOfPixel) := by
    intro j hj
    have hjH : j < H := List.mem_range.mp hj
    unfold rotRow
    simp only [Nat.zero_add]
    have hm := mapME_eq_map
      (fun i => idx ((row.map (fun c => List.replicate H c)).flatten.map lumOfPixel) (i * H + (H - 1 - j)))
      (fun i => lumOfPixel (row.getD i false)) (List.range row.length) (by
        intro i hi
        have hiW : i < row.length := List.mem_range.mp hi
        unfold idx
        rw [List.getElem?_map, flatten_getElem?_uniform H _ i (H - 1 - j) (by
          intro r hr; obtain ⟨c, _, rfl⟩ := List.mem_map.mp hr; simp) (by omega)]
        simp [hiW, show H - 1 - j < H by omega])
    rw [hm]
    refine congrArg Except.ok ?_
    apply List.ext_getElem?
    intro i
    by_cases hi : i < row.length
    · simp [hi]
    · simp [hi]
  have hall := mapME_eq_map
    (rotRow { kind := Kind.img, data := ((row.map (fun c => List.replicate H c)).flatten.map lumOfPixel), dataW := H,
               dataH := row.length, left := 0, top := 0, w := H, h := row.length, inv := false })
    (fun _ => row.map lumOfPixel) (List.range H) hrow
  simp only [hall, bind, Except.bind]
  have hdata : ((List.range H).map (fun _ => row.map lumOfPixel)).flatten =
      ((uniform row H).rows.flatten).map lumOfPixel := by
    simp only [uniform, List.map_const', List.length_range, List.map_flatten, List.map_replicate]
  rw [hdata]
  rfl

/-! ## the sideways read -/

/-- turned by 90° clockwise, read with TRY_HARDER: the upright scan finds nothing, the rotated scan finds the symbol on
    its middle row; ORIENTATION 270 -/
theorem decodeImage_sideways {R : Type} (rd : Int → List Bool → Res R) (binz : Binz) (row : List Bool) (H : Nat)
    (hH : 0 < H) (hends : WhiteEnds row)
    (hwhite : ∀ (N : Nat) (rn : Int), ∃ e, OneDScan.isReaderException e = true ∧ rd rn (List.replicate N false) = .error e)
    (res : R) (hres : rd ((H / 2 : Nat) : Int) row = .ok res) :
    decodeImage rd (Bitmap.ofPic binz (uniform row H).rot90) true = .ok ⟨res, H / 2, false, true, some 270⟩ := by
  have hw : (Bitmap.ofPic binz (uniform row H).rot90).src.w = H := by rw [rot90_uniform]; rfl
  have hh : (Bitmap.ofPic binz (uniform row H).rot90).src.h = row.length := by rw [rot90_uniform]; rfl
  have hw' : (Bitmap.ofPic binz (uniform row H)).src.w = row.length := rfl
  have hh' : (Bitmap.ofPic binz (uniform row H)).src.h = H := rfl
  -- the upright scan finds nothing
  have hup : OneDScan.doDecode H row.length true (blackOf (Bitmap.ofPic binz (uniform row H).rot90))
      (decOf rd (Bitmap.ofPic binz (uniform row H).rot90)) = .error .notFound := by
    rw [Properties.C09.doDecode_eq_visit]
    apply Properties.C09.firstDecisive_notFound
    intro y hy
    rcases getBlackRow_side binz row H y (Properties.C09.visit_in_range _ _ y hy) with hnf | hok
    · left; simp [blackOf, hnf]
    · right
      obtain ⟨e, he, hfail⟩ := hwhite H (y : Int)
      simp only [OneDScan.scanRow, decOf, attempt, hok, Bool.false_eq_true, if_false, if_true, List.reverse_replicate,
        hfail, he, Bool.not_true]
  -- the rotated scan finds the symbol on its middle row
  have hbits := getBlackRow_uniform binz row H (H / 2) (by omega) hends
  have hatt : attempt rd (Bitmap.ofPic binz (uniform row H)) (H / 2) false = .ok res := by
    simp only [attempt, hbits, Bool.false_eq_true, if_false]; exact hres
  have hdec : decOf rd (Bitmap.ofPic binz (uniform row H)) (H / 2) false = .ok ⟨attemptKey (H / 2) false, none, []⟩ := by
    simp [decOf, hatt]
  have hrot := Properties.C09.upright_middle_row row.length H true (blackOf (Bitmap.ofPic binz (uniform row H)))
    (decOf rd (Bitmap.ofPic binz (uniform row H))) hH (blackOf_ok _ _ row hbits) _ hdec
  have hdecode := Properties.C09.tryharder_rotation H row.length _ _ _ _ hup _ hrot
  unfold decodeImage
  simp only [rotate_side, hw, hh]
  have hsup : isRotateSupported (Bitmap.ofPic binz (uniform row H).rot90).src = true := rfl
  rw [hsup, hdecode]
  have h1 : attemptKey (H / 2) false / 2 = H / 2 := by simp [attemptKey]
  have h2 : (attemptKey (H / 2) false % 2 == 1) = false := by simp [attemptKey]
  simp only [fetch, isRotated, OneDScan.rotOrientation, h1, h2, if_true, hatt]

end Gzx.Image1DSide
