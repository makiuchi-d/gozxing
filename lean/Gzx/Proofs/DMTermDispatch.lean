/-
  C02 — termination and totality of `EncodeHighLevel`: the dispatch loop, from the encoder lemmas of DMTermC40 and
  DMTermXE and the look-ahead lemmas of DMTermLA.
    * for every look-ahead that is exact arithmetic up to float rounding (`LaFloatLike`): the mode it proposes from
      ASCII encodation is one whose encoder, called at that position, consumes at least one character or fails
      with a WriterException (`la_consumes_*`: C40 / Text by DMTermLA; X12 / EDIFACT are not proposed when at most two
      characters are left, `laExactR_two_left`); `LaProgress` is that property by itself;
    * progress measure of the dispatch loop: `2 · remaining + [mode = ASCII]` decreases with every iteration —
      an ASCII data step consumes a character, a latch leaves ASCII, every other encoder call consumes and
      returns to ASCII;
    * `encodeHL_total_of`: under `LaProgress`, `encodeHL` returns codewords or a WriterException — never out of fuel,
      never a panic; `encodeHL_total` is the case of a float-like look-ahead on a message of bytes.
-/
import Gzx.Proofs.DMTermLA
import Gzx.Proofs.DMTermXE
namespace Gzx.DMHighLevel
open Gzx.Det (Sat Only)

/-! ## short tails: X12 and EDIFACT -/

theorem shortTail_checked : ∀ k1 ∈ allClasses, ∀ k2 ∈ allClasses,
    lookOK (·.x) [k1, k2] 0 (startCounts ASCII) = true ∧ lookOK (·.x) [k1, k2, otherClass, otherClass] 0 (startCounts ASCII) = true ∧
    lookOK (·.e) [k1, k2] 0 (startCounts ASCII) = true ∧ lookOK (·.e) [k1, k2, otherClass, otherClass] 0 (startCounts ASCII) = true := by
  decide +kernel

theorem drop_split {msg : List Nat} {p tot : Nat} (h1 : p ≤ tot) :
    msg.drop p = (msg.drop p).take (tot - p) ++ msg.drop tot := by
  have := (List.take_append_drop (tot - p) (msg.drop p)).symm
  rw [List.drop_drop] at this
  rw [show p + (tot - p) = tot by omega] at this
  exact this

theorem totOK_le {msg : List Nat} {tot : Nat} (h : TotOK msg tot) : tot ≤ msg.length := by
  rcases h with h | ⟨h, _⟩ <;> omega

theorem laExactR_two_left (ρ : Bump) (msg : List Nat) (tot : Nat) (h : TotOK msg tot) (p : Nat) (hp : p + 2 = tot) :
    laExactR ρ msg p ASCII ≠ X12 ∧ laExactR ρ msg p ASCII ≠ EDIFACT := by
  have hlen := totOK_le h
  have h0 : p < msg.length := by omega
  have h1 : p + 1 < msg.length := by omega
  have hd : msg.drop p = msg[p] :: msg[p + 1] :: msg.drop tot := by
    rw [drop_succ_of_lt h0, drop_succ_of_lt h1, show p + 1 + 1 = tot by omega]
  obtain ⟨q1, q2, q3, q4⟩ := shortTail_checked (classOf msg[p]) (classOf_mem _) (classOf msg[p + 1]) (classOf_mem _)
  have key : laLoopR ρ ((msg.drop p).map classOf) 0 (startCounts ASCII) ≠ X12 ∧
      laLoopR ρ ((msg.drop p).map classOf) 0 (startCounts ASCII) ≠ EDIFACT := by
    rw [hd]
    simp only [List.map_cons]
    rcases tail_cases h with ht | ht
    · rw [ht]
      exact ⟨laLoopR_ne_x12 ρ _ _ _ q1, laLoopR_ne_edi ρ _ _ _ q3⟩
    · rw [ht]
      simp only [List.map_cons, List.map_nil, classOf_30, classOf_4]
      exact ⟨laLoopR_ne_x12 ρ _ _ _ q2, laLoopR_ne_edi ρ _ _ _ q4⟩
  rcases laExactR_cases ρ msg p ASCII h0 with e | e
  · rw [e]; exact ⟨by decide, by decide⟩
  · rw [e]; exact key

/-! ## backtracked runs: C40 and Text -/

theorem laExactR_noConsume (ρ : Bump) (text : Bool) (c : Ctx) (hb : ∀ x ∈ c.msg, x < 256) (h : TotOK c.msg c.total)
    (hlt : c.pos + 1 < c.total) (hN : NoConsume text c) :
    laExactR ρ c.msg c.pos ASCII ≠ (if text then TEXT else C40) := by
  have hlen := totOK_le h
  have h0 : c.pos < c.msg.length := by omega
  obtain ⟨hmid, hend⟩ := hN
  -- the run
  obtain ⟨l, hl⟩ : ∃ l, l = (c.msg.drop c.pos).take (c.total - c.pos) := ⟨_, rfl⟩
  have hll : l.length = c.total - c.pos := by rw [hl, List.length_take, List.length_drop]; omega
  have hsplit : c.msg.drop c.pos = l ++ c.msg.drop c.total := by rw [hl]; exact drop_split (by omega)
  have hlb : ∀ x ∈ l, x < 256 := by
    intro x hx; rw [hl] at hx
    exact hb x (List.mem_of_mem_drop (List.mem_of_mem_take hx))
  have hv : ∀ q, q ≤ c.total → valsUpTo text c q = (cVals text (l.take (q - c.pos))).length := by
    intro q hq
    unfold valsUpTo
    rw [hl, List.take_take, Nat.min_eq_left (by omega)]
  match l, hll, hsplit, hlb, hv with
  | [], hll, _, _, _ => simp at hll; omega
  | [_], hll, _, _, _ => simp at hll; omega
  | f :: g :: r, hll, hsplit, hlb, hv =>
    simp only [List.length_cons] at hll
    have hf1 : (cEncodeChar text f).length % 3 = 1 := by
      have := hmid (c.pos + 1) (by omega) (by omega)
      rw [hv _ (by omega), show c.pos + 1 - c.pos = 1 by omega] at this
      simpa [cVals] using this
    have hgood : goodCh text f = true := (sizeOK_all text f (hlb f (by simp))).1 (by omega)
    have hpat : tailPat text (g :: r) = true := by
      apply tailPat_of_sums text (g :: r) (cEncodeChar text f).length (fun x hx => hlb x (by simp [hx])) hf1 (by simp)
      · intro i hi1 hi2
        simp only [List.length_cons] at hi2
        have := hmid (c.pos + 1 + i) (by omega) (by omega)
        rw [hv _ (by omega), show c.pos + 1 + i - c.pos = i + 1 by omega] at this
        simpa [cVals] using this
      · have := hend hlt
        rw [hv _ (Nat.le_refl _), List.take_of_length_le (by simp only [List.length_cons]; omega)] at this
        simpa [cVals] using this
    have htl := tail_cases h
    rcases laExactR_cases ρ c.msg c.pos ASCII h0 with e | e
    · rw [e]; cases text <;> decide
    · rw [e, hsplit]
      cases text
      · simpa using laLoopR_run_c40 ρ f (g :: r) _ hgood hpat htl
      · simpa using laLoopR_run_text ρ f (g :: r) _ hgood hpat htl

/-! ## the mode a float-like look-ahead proposes from ASCII makes progress -/

/-- C40 / Text: a successful call at a position where the look-ahead proposed this mode has consumed something -/
theorem la_consumes_c40 {la : LookAhead} (hla : LaFloatLike la) {text : Bool} {c : Ctx}
    (hb : ∀ x ∈ c.msg, x < 256) (h : TotOK c.msg c.total) (hm : c.hasMore = true)
    (hmode : la c.msg c.pos ASCII = (if text then TEXT else C40)) : ¬ NoConsume text c := by
  intro hN
  obtain ⟨ρ, hρ⟩ := hla c.msg c.pos ASCII
  have hlt := (hasMore_iff c).mp hm
  by_cases h1 : c.pos + 1 = c.total
  · have := laExactR_tail_ascii ρ c.msg c.total h c.pos h1
    rw [hρ, this] at hmode
    cases text <;> cases hmode
  · exact laExactR_noConsume ρ text c hb h (by omega) hN (by rw [← hρ]; exact hmode)

/-- X12 / EDIFACT: at a position where the look-ahead proposed this mode at least three characters are left -/
theorem la_consumes_x12_edi {la : LookAhead} (hla : LaFloatLike la) {c : Ctx}
    (h : TotOK c.msg c.total) (hm : c.hasMore = true)
    (hmode : la c.msg c.pos ASCII = X12 ∨ la c.msg c.pos ASCII = EDIFACT) : ¬ c.remaining ≤ 2 := by
  intro hr
  obtain ⟨ρ, hρ⟩ := hla c.msg c.pos ASCII
  have hlt := (hasMore_iff c).mp hm
  simp only [Ctx.remaining] at hr
  by_cases h1 : c.pos + 1 = c.total
  · have := laExactR_tail_ascii ρ c.msg c.total h c.pos h1
    rw [hρ, this] at hmode
    rcases hmode with e | e <;> cases e
  · obtain ⟨n1, n2⟩ := laExactR_two_left ρ c.msg c.total h c.pos (by omega)
    rw [hρ] at hmode
    rcases hmode with e | e
    · exact n1 e
    · exact n2 e

/-! ## the ASCII encoder -/

/-- one step of the ASCII encoder, any look-ahead: a WriterException, or a data step that advances, or a latch that
    stays and names the mode the look-ahead proposed -/
theorem asciiEncode_sat {la : LookAhead} {c : Ctx} (h : c.hasMore = true) :
    Sat (Only .writer) (fun c' => c'.msg = c.msg ∧ c'.skipAtEnd = c.skipAtEnd ∧
        ((c'.newEnc = c.newEnc ∧ c.pos < c'.pos) ∨
         (c'.pos = c.pos ∧ ∃ m, c'.newEnc = some m ∧ la c.msg c.pos ASCII = m ∧
            (m = BASE256 ∨ m = C40 ∨ m = X12 ∨ m = TEXT ∨ m = EDIFACT))))
      (asciiEncode la c) := by
  have hT : Sat (Only .writer) (fun _ => True) (asciiEncode la c) := by
    obtain ⟨ch, hc, hget⟩ := hasMore_cur h
    unfold asciiEncode
    simp only
    by_cases hn : digitRun (c.msg.drop c.pos) ≥ 2
    · obtain ⟨d1, d2, r, hl, _, _⟩ := digitRun_two hn
      obtain ⟨g1, _, dr1, _⟩ := drop_cons_facts hl
      obtain ⟨g2, _, _, _⟩ := drop_cons_facts dr1
      rw [if_pos hn, g1, g2]
      trivial
    · rw [if_neg hn, hc]
      simp only [bind, Except.bind]
      repeat' refine Sat.ite (fun _ => ?_) (fun _ => ?_)
      all_goals first | exact trivial | exact Sat.error rfl
  refine sat_writer_iff.2 ⟨hT.ok_or, fun c' h' => ?_⟩
  obtain ⟨x, p, s, ho, rfl⟩ := asciiEncode_ok_iff.1 h'
  refine ⟨rfl, rfl, ?_⟩
  cases ho
  case latch ch m code _ _ hl hm =>
    have := mem_latchCodes.1 hm
    exact Or.inr ⟨rfl, m, rfl, hl, by omega⟩
  all_goals exact Or.inl ⟨rfl, Nat.lt_add_of_pos_right (by decide)⟩

/-! ## the dispatch loop -/

/-- what termination needs of the look-ahead on a message `msg` of which `tot` characters are encoded: a mode it
    proposes from ASCII encodation is one whose encoder, called there, consumes a character -/
structure LaProgress (la : LookAhead) (msg : List Nat) (tot : Nat) : Prop where
  c40 : ∀ (text : Bool) (c : Ctx), c.msg = msg → c.total = tot → c.hasMore = true →
    la c.msg c.pos ASCII = (if text then TEXT else C40) → ¬ NoConsume text c
  xe : ∀ c : Ctx, c.msg = msg → c.total = tot → c.hasMore = true →
    (la c.msg c.pos ASCII = X12 ∨ la c.msg c.pos ASCII = EDIFACT) → ¬ c.remaining ≤ 2

theorem LaFloatLike.progress {la : LookAhead} (hla : LaFloatLike la) {msg : List Nat} {tot : Nat}
    (hb : ∀ x ∈ msg, x < 256) (ht : TotOK msg tot) : LaProgress la msg tot where
  c40 _ c hmsg htot hm h := la_consumes_c40 hla (by rw [hmsg]; exact hb) (by rw [hmsg, htot]; exact ht) hm h
  xe c hmsg htot hm h := la_consumes_x12_edi hla (by rw [hmsg, htot]; exact ht) hm h

/-- progress measure `2 · remaining + [mode = ASCII]`: an ASCII data step consumes a character, a latch leaves
    ASCII, every other encoder call consumes and returns to ASCII -/
theorem dispatch_total_of {syms : List SymbolInfo} {la : LookAhead} {msg : List Nat} {tot : Nat}
    (hp : LaProgress la msg tot) (fuel mode : Nat) (c : Ctx) (hmsg : c.msg = msg) (htot : c.total = tot)
    (hnew : c.newEnc = none)
    (hmode : mode = ASCII ∨ mode = BASE256 ∨
      (la c.msg c.pos ASCII = mode ∧ (mode = C40 ∨ mode = TEXT ∨ mode = X12 ∨ mode = EDIFACT)))
    (hfuel : 2 * c.remaining + (if mode = ASCII then 1 else 0) < fuel) :
    Sat (Only .writer) (fun _ => True) (dispatch syms la fuel mode c) := by
  rw [dispatch_eq]
  -- the loop head: no encodation pending; a mode other than ASCII / Base 256 is the one the look-ahead proposed here
  let I : Nat × Ctx → Prop := fun s => s.2.msg = msg ∧ s.2.total = tot ∧ s.2.newEnc = none ∧
    (s.1 = ASCII ∨ s.1 = BASE256 ∨
      (la s.2.msg s.2.pos ASCII = s.1 ∧ (s.1 = C40 ∨ s.1 = TEXT ∨ s.1 = X12 ∨ s.1 = EDIFACT)))
  let μ : Nat × Ctx → Nat := fun s => 2 * s.2.remaining + (if s.1 = ASCII then 1 else 0) + 1
  refine loopOf_sat (E := Only .writer) I (fun _ => True) μ (fun s _ h => absurd h (Nat.succ_ne_zero _))
    (fun _ _ _ => trivial) (fun s hI hc => ?_) fuel (mode, c) ⟨hmsg, htot, hnew, hmode⟩
    (by show 2 * c.remaining + (if mode = ASCII then 1 else 0) + 1 ≤ fuel; omega)
  obtain ⟨mode, c⟩ := s
  obtain ⟨hmsg0, htot0, hnew, hmode⟩ := hI
  have hm : c.hasMore = true := hc
  simp only at hmsg0 htot0 hnew hmode
  have hlt : c.pos < c.total := (hasMore_iff c).mp hm
  have hle : c.pos ≤ c.total := Nat.le_of_lt hlt
  -- the next round starts from `(m, c1)`, closer to the end
  have next : ∀ (m : Nat) (c1 : Ctx), c1.msg = c.msg → c1.skipAtEnd = c.skipAtEnd → c1.newEnc = none →
      (m = ASCII ∨ m = BASE256 ∨ (la c1.msg c1.pos ASCII = m ∧ (m = C40 ∨ m = TEXT ∨ m = X12 ∨ m = EDIFACT))) →
      2 * (c.total - c1.pos) + (if m = ASCII then 1 else 0) < 2 * (c.total - c.pos) + (if mode = ASCII then 1 else 0) →
      I (m, c1) ∧ μ (m, c1) < μ (mode, c) := by
    intro m c1 e1 e2 e3 hm1 hlt1
    have et : c1.total = c.total := by simp [Ctx.total, e1, e2]
    refine ⟨⟨e1.trans hmsg0, et.trans htot0, e3, hm1⟩, ?_⟩
    show 2 * (c1.total - c1.pos) + (if m = ASCII then 1 else 0) + 1 < 2 * (c.total - c.pos) + (if mode = ASCII then 1 else 0) + 1
    rw [et]; omega
  -- after a call that returned to ASCII having consumed something
  have back : ∀ c1 : Ctx, c1.msg = c.msg → c1.skipAtEnd = c.skipAtEnd → c1.newEnc = some ASCII → c.pos < c1.pos →
      ¬ mode = ASCII → I (dispatchNext mode c1) ∧ μ (dispatchNext mode c1) < μ (mode, c) := by
    intro c1 e1 e2 e3 hp1 hnm
    rw [dispatchNext_some e3]
    refine next ASCII _ e1 e2 rfl (.inl rfl) ?_
    simp only [if_neg hnm, if_true]
    show 2 * (c.total - c1.pos) + 1 < 2 * (c.total - c.pos) + 0
    omega
  -- a call of the C40, Text, X12 or EDIFACT encoder where the look-ahead proposed it
  have latched : ∀ (E : Res Ctx) (stall : Prop),
      Sat (Only .writer) (fun c' => c'.msg = c.msg ∧ c'.skipAtEnd = c.skipAtEnd ∧ c'.cfg = c.cfg ∧
        c'.newEnc = some ASCII ∧ c.pos ≤ c'.pos ∧ c'.pos ≤ c'.total ∧ (c'.pos = c.pos → stall)) E →
      ¬ stall → ¬ mode = ASCII →
      Sat (Only .writer) (Iter.Holds (fun _ => True) fun s' => I s' ∧ μ s' < μ (mode, c))
        (E.map fun c1 => (.more (dispatchNext mode c1) : Iter (Nat × Ctx) (Ctx × Nat))) :=
    fun E stall hE hns hnm => Sat.map (hE.post fun c1 ⟨p1, p2, _, p4, p5, _, p7⟩ =>
      back c1 p1 p2 p4 ((Nat.lt_or_eq_of_le p5).resolve_right (fun e => hns (p7 e.symm))) hnm)
  unfold dispatchIter
  rcases hmode with rfl | rfl | ⟨hlam, hmode⟩
  · show Sat _ _ ((encodeMode syms la ASCII c).map _)
    rw [encodeMode_ascii]
    refine Sat.map ((asciiEncode_sat (la := la) hm).post fun c1 ⟨e1, e2, hstep⟩ => ?_)
    rcases hstep with ⟨hn, hp1⟩ | ⟨hp1, m, hn, hlam, hmm⟩
    · rw [dispatchNext_none (hn.trans hnew)]
      refine next ASCII c1 e1 e2 (hn.trans hnew) (.inl rfl) ?_
      simp only [if_true]
      omega
    · rw [dispatchNext_some hn]
      have hl : la c1.msg c1.pos ASCII = m := by rw [e1, hp1]; exact hlam
      have hne : ¬ m = ASCII := by rcases hmm with rfl | rfl | rfl | rfl | rfl <;> decide
      refine next m _ e1 e2 rfl ?_ ?_
      · rcases hmm with rfl | rfl | rfl | rfl | rfl
        · exact .inr (.inl rfl)
        · exact .inr (.inr ⟨hl, .inl rfl⟩)
        · exact .inr (.inr ⟨hl, .inr (.inr (.inl rfl))⟩)
        · exact .inr (.inr ⟨hl, .inr (.inl rfl)⟩)
        · exact .inr (.inr ⟨hl, .inr (.inr (.inr rfl))⟩)
      · simp only [if_neg hne, if_true]
        show 2 * (c.total - c1.pos) + 0 < 2 * (c.total - c.pos) + 1
        rw [hp1]; omega
  · -- Base 256: it stays there only at the end of the message
    show Sat _ _ ((encodeMode syms la BASE256 c).map _)
    rw [encodeMode_b256]
    refine Sat.map ((b256Encode_sat (syms := syms) (la := la) hm hle hnew).post fun c1 ⟨e1, e2, hp1, _, hn⟩ => ?_)
    rcases hn with hn | hn
    · rw [dispatchNext_none hn]
      refine next BASE256 c1 e1 e2 hn (.inr (.inl rfl)) ?_
      simp only [show ¬ (BASE256 : Nat) = ASCII by decide, if_false]
      omega
    · exact back c1 e1 e2 hn hp1 (by decide)
  · rcases hmode with rfl | rfl | rfl | rfl
    · show Sat _ _ ((encodeMode syms la C40 c).map _)
      rw [encodeMode_c40]
      exact latched _ _ (c40Encode_sat (syms := syms) (la := la) hle hm hnew) (hp.c40 false c hmsg0 htot0 hm hlam) (by decide)
    · show Sat _ _ ((encodeMode syms la TEXT c).map _)
      rw [encodeMode_text]
      exact latched _ _ (c40Encode_sat (syms := syms) (la := la) hle hm hnew) (hp.c40 true c hmsg0 htot0 hm hlam) (by decide)
    · show Sat _ _ ((encodeMode syms la X12 c).map _)
      rw [encodeMode_x12]
      exact latched _ _ (x12Encode_sat (syms := syms) (la := la) hle hnew) (hp.xe c hmsg0 htot0 hm (.inl hlam)) (by decide)
    · show Sat _ _ ((encodeMode syms la EDIFACT c).map _)
      rw [encodeMode_edifact]
      exact latched _ _ (edifactEncode_sat (syms := syms) (la := la) hle) (hp.xe c hmsg0 htot0 hm (.inr hlam)) (by decide)

theorem encodeHL_total_of (syms : List SymbolInfo) (la : LookAhead) (msg : List Nat) (cfg : Cfg)
    (hp : LaProgress la msg (initCtx msg cfg).total) : Clean (encodeHL syms la msg cfg) := by
  obtain ⟨a0, _, hn0, _, _, hmsg0, _⟩ := initCtx_inv refTables msg cfg
  unfold encodeHL
  have hfuel : 2 * (initCtx msg cfg).remaining + (if ASCII = ASCII then 1 else 0) < dispatchFuel msg := by
    simp only [Ctx.remaining, Ctx.total, hmsg0, dispatchFuel, if_true]; omega
  refine Sat.ok_or (P := fun _ => True) (Sat.bind (dispatch_total_of (syms := syms) hp (dispatchFuel msg) ASCII
    (initCtx msg cfg) hmsg0 rfl hn0 (Or.inl rfl) hfuel) fun r _ => ?_)
  refine Sat.bind (update_sat syms r.1 _) fun c2 ⟨_, _, s, _, hcap⟩ => ?_
  rw [hcap]
  trivial

theorem encodeHL_total (syms : List SymbolInfo) (la : LookAhead) (hla : LaFloatLike la) (msg : List Nat) (cfg : Cfg)
    (hb : ∀ x ∈ msg, x < 256) : Clean (encodeHL syms la msg cfg) :=
  encodeHL_total_of syms la msg cfg (hla.progress hb (totOK_initCtx msg cfg))

end Gzx.DMHighLevel
