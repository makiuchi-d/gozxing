/-
  C12: the encoder cores modelled elsewhere in this project are total — no panic for any input, and a symbol that is
  returned is not empty — so the writer front-end theorems of Properties/C12 can be instantiated without a core
  hypothesis for the 1-D writers (Gzx/Model/OneD.lean, C03) and for QR (Gzx/Ref/QR.lean `refEncode`, C07).  The Data
  Matrix core (high-level encoder of C02, ASCII / Base 256) is total relative to its back end: `dmHLCore_total` keeps
  the hypotheses on `post` and on the look-ahead oracle.
-/
import Gzx.Proofs.WriterFrontend
import Gzx.Proofs.OneD
import Gzx.Proofs.UpceanWrite
import Gzx.Proofs.UpceanDraw
import Gzx.Proofs.CheckDigit
import Gzx.Ref.QR
import Gzx.Proofs.DMTotalAB
namespace Gzx.WriterFrontend
open Gzx Gzx.Render Gzx.OneD Gzx.CheckDigit

/-- an encoder that answers with a WriterException or a non-empty code is a total core -/
theorem coreTotal_of_key (core : List Nat → Res (List Bool))
    (key : ∀ c, core c = .error .writer ∨ ∃ code, core c = .ok code ∧ 1 ≤ code.length) :
    OneDCoreTotal (fun c (_ : Hints) => core c) := by
  constructor
  · intro c _ w hw
    rcases key c with h | ⟨code, h, -⟩ <;> rw [h] at hw <;> cases hw
  · intro c _ code hok
    rcases key c with h | ⟨code', h, hl⟩
    · rw [h] at hok; cases hok
    · rw [h] at hok; cases hok; exact hl

/-! ## UPC/EAN -/

/-- what the UPC/EAN writers need from the tables they index -/
def WFUpc (T : Tables) : Bool :=
  T.lPatterns.length == 10 && T.firstDigit.length == 10 && T.upceParity.length == 2 &&
  T.upceParity.all (fun r => r.length == 10) && decide (1 ≤ (appendPattern T.startEnd true).length)

theorem wfUpc_ref : WFUpc refTables = true := by decide

theorem ean13_core_total (T : Tables) (hT : WFUpc T = true) :
    OneDCoreTotal (fun c (_ : Hints) => ean13Modules T c) := by
  simp only [WFUpc, Bool.and_eq_true, beq_iff_eq, decide_eq_true_eq] at hT
  obtain ⟨⟨⟨⟨hL, hF⟩, -⟩, -⟩, hS⟩ := hT
  apply coreTotal_of_key
  intro c
  cases h : stdWriterContents 13 c with
  | error e =>
    cases stdWriterContents_err 13 c e h
    exact .inl (by simp only [ean13Modules, h, bind, Except.bind])
  | ok full =>
    refine .inr ⟨_, ean13Modules_of_contents T hL hF c full h, ?_⟩
    simp only [draw13, List.length_append]; omega

theorem ean8_core_total (T : Tables) (hT : WFUpc T = true) :
    OneDCoreTotal (fun c (_ : Hints) => ean8Modules T c) := by
  simp only [WFUpc, Bool.and_eq_true, beq_iff_eq, decide_eq_true_eq] at hT
  obtain ⟨⟨⟨⟨hL, -⟩, -⟩, -⟩, hS⟩ := hT
  apply coreTotal_of_key
  intro c
  cases h : stdWriterContents 8 c with
  | error e =>
    cases stdWriterContents_err 8 c e h
    exact .inl (by simp only [ean8Modules, h, bind, Except.bind])
  | ok full =>
    refine .inr ⟨_, ean8Modules_of_contents T hL c full h, ?_⟩
    simp only [draw8, List.length_append]; omega

/-- UPC-A: the EAN-13 encoder on "0" + contents -/
theorem upca_core_total (T : Tables) (hT : WFUpc T = true) :
    OneDCoreTotal (fun c (_ : Hints) => upcaModules T c) := by
  have h := ean13_core_total T hT
  constructor
  · intro c hh; exact h.noPanic (48 :: c) hh
  · intro c hh code hok; exact h.nonEmpty (48 :: c) hh code hok

theorem upceWriterContents_err (contents : List Nat) (e : Fault) (h : upceWriterContents contents = .error e) :
    e = .writer := by
  rw [upceWriterContents_eq] at h
  cases hc : upceChecked contents with
  | error e' =>
    rw [hc] at h
    cases h
    exact upceChecked_err contents e hc
  | ok full =>
    rw [hc] at h
    obtain ⟨hlen, t, rfl⟩ := upceChecked_prefix contents full hc
    -- the string that reaches the last stage is not empty, so its index panic is out of reach
    unfold firstOk at h
    cases contents with
    | nil => simp at hlen
    | cons b tl =>
      dsimp only [List.cons_append] at h
      split at h
      · cases h; rfl
      · split at h
        · cases h
        · cases h; rfl

theorem upce_core_total (T : Tables) (hT : WFUpc T = true) :
    OneDCoreTotal (fun c (_ : Hints) => upceModules T c) := by
  simp only [WFUpc, Bool.and_eq_true, beq_iff_eq, decide_eq_true_eq, List.all_eq_true] at hT
  obtain ⟨⟨⟨⟨hL, -⟩, hP⟩, hRow⟩, hS⟩ := hT
  apply coreTotal_of_key
  intro c
  cases hfull : upceWriterContents c with
  | error e =>
    cases upceWriterContents_err _ _ hfull
    exact .inl (by simp only [upceModules, hfull, bind, Except.bind])
  | ok full =>
    obtain ⟨fd, rfl, hlen, hd, hhead, -⟩ := upce_full c _ hfull
    have hl : (digitBytes fd).length = 8 := by simpa [digitBytes] using hlen
    have hf : (digitBytes fd)[0]'(by omega) = 48 ∨ (digitBytes fd)[0]'(by omega) = 49 := by
      cases fd with
      | nil => simp at hlen
      | cons x xs =>
        simp only [List.head?_cons, Option.some.injEq] at hhead
        simp only [digitBytes, List.map_cons, List.getElem_cons_zero]
        omega
    refine .inr ⟨_, upceModules_of_contents T hL hP (fun r hr => by simpa using hRow r hr) c _ hfull hl
      (allDigits_digitBytes fd hd) hf, ?_⟩
    simp only [drawE, List.length_append]; omega

/-! ## ITF -/

def WFItfW (T : Tables) : Bool :=
  T.itfWriter.length == 10 && decide (1 ≤ (appendPattern T.itfStart true).length)

theorem wfItfW_ref : WFItfW refTables = true := by decide

theorem itfSymbols_ok (c ds : List Nat) (h : itfSymbols c = .ok ds) : ∀ d ∈ ds, d < 10 := by
  unfold itfSymbols at h
  simp only [bind, Except.bind, throw, throwThe, MonadExceptOf.throw, pure, Except.pure] at h
  split at h
  · cases h
  · split at h
    · cases h
    · split at h
      · cases h
      · rename_i hdig
        cases h
        exact digitVals_lt c (by simpa using hdig)

theorem itfSymbols_err (c : List Nat) (e : Fault) (h : itfSymbols c = .error e) : e = .writer := by
  unfold itfSymbols at h
  simp only [bind, Except.bind, throw, throwThe, MonadExceptOf.throw, pure, Except.pure] at h
  split at h
  · cases h; rfl
  · split at h
    · cases h; rfl
    · split at h
      · cases h; rfl
      · cases h

theorem itf_core_total (T : Tables) (hT : WFItfW T = true) :
    OneDCoreTotal (fun c (_ : Hints) => itfModules T c) := by
  simp only [WFItfW, Bool.and_eq_true, beq_iff_eq, decide_eq_true_eq] at hT
  obtain ⟨hW, hS⟩ := hT
  apply coreTotal_of_key
  intro c
  unfold itfModules
  cases hds : itfSymbols c with
  | error e => left; rw [itfSymbols_err _ _ hds]; rfl
  | ok ds =>
    right
    have hd := itfSymbols_ok _ _ hds
    obtain ⟨pairs, hpairs, -, -⟩ := mapM_exists_ok (itfPairDraw T.itfWriter) (itfPairs ds) (by
      intro p hp
      obtain ⟨m1, m2⟩ := itfPairs_mem _ p hp
      have h1' := nth_ok T.itfWriter p.1 (by have := hd _ m1; omega)
      have h2' := nth_ok T.itfWriter p.2 (by have := hd _ m2; omega)
      exact ⟨_, by simp only [itfPairDraw, h1', h2', bind, Except.bind, pure, Except.pure]; rfl⟩)
    simp only [bind, Except.bind, pure, Except.pure, itfDraw, hpairs]
    refine ⟨_, rfl, ?_⟩
    simp only [List.length_append]; omega

/-! ## Code 39 / Code 93 -/

/-- every byte an escape produces is in the alphabet, for all 128 escapable bytes -/
def escInAlpha (esc : Nat → Res (List Nat)) (A : List Nat) : Bool :=
  (List.range 128).all (fun c =>
    match esc c with
    | .ok e => e.all (fun x => (indexOf? x A).isSome)
    | .error f => f == .writer)

/-- what the Code 39 WRITER needs of its tables to be total: every byte an escape produces is in the alphabet, and the
    encoding table covers the alphabet (not the reader-side `Row39.WF39`) -/
def WF39 (T : Tables) : Bool :=
  escInAlpha code39Escape1 T.code39Alphabet && decide (T.code39Alphabet.length ≤ T.code39Enc.length)

/-- the same for the Code 93 writer, whose table also holds the asterisk at index 47 (not `Row39.WF93`) -/
def WF93 (T : Tables) : Bool :=
  escInAlpha code93Escape1 T.code93Alphabet && decide (T.code93Alphabet.length ≤ T.code93Enc.length) &&
  decide (48 ≤ T.code93Enc.length)

theorem wf39_ref : WF39 refTables = true := by decide +kernel
theorem wf93_ref : WF93 refTables = true := by decide +kernel

/-- a list escape either fails with a WriterException or yields bytes of the alphabet -/
theorem escape_list (esc : Nat → Res (List Nat)) (escL : List Nat → Res (List Nat)) (A : List Nat)
    (hnil : escL [] = .ok [])
    (hcons : ∀ c cs, escL (c :: cs) = (do let e ← esc c; let r ← escL cs; pure (e ++ r)))
    (hge : ∀ c, 128 ≤ c → esc c = .error .writer) (hA : escInAlpha esc A = true) :
    ∀ cs, escL cs = .error .writer ∨ ∃ e, escL cs = .ok e ∧ ∀ x ∈ e, (indexOf? x A).isSome = true := by
  intro cs
  induction cs with
  | nil => right; exact ⟨[], hnil, by simp⟩
  | cons c cs ih =>
    rw [hcons]
    by_cases hc : c < 128
    · have h1 := List.all_eq_true.mp hA c (List.mem_range.mpr hc)
      cases he : esc c with
      | error f =>
        rw [he] at h1
        have : f = .writer := by simpa using h1
        left; rw [this]; rfl
      | ok e =>
        rw [he] at h1
        rcases ih with h | ⟨r, hr, hmem⟩
        · left; simp only [h, bind, Except.bind]
        · right
          refine ⟨e ++ r, by simp only [hr, bind, Except.bind, pure, Except.pure], ?_⟩
          intro x hx
          rcases List.mem_append.mp hx with hx | hx
          · exact List.all_eq_true.mp h1 x hx
          · exact hmem x hx
    · left; simp only [hge c (by omega), bind, Except.bind]

theorem mapM_alphaIndex_ok (A : List Nat) (l : List Nat) (h : ∀ x ∈ l, (indexOf? x A).isSome = true) :
    ∃ syms, l.mapM (alphaIndex A) = .ok syms ∧ ∀ i ∈ syms, i < A.length := by
  obtain ⟨syms, hs, -, hmem⟩ := mapM_exists_ok (alphaIndex A) l (by
    intro x hx
    have := h x hx
    cases hi : indexOf? x A with
    | none => rw [hi] at this; cases this
    | some i => exact ⟨i, by simp only [alphaIndex, hi]⟩)
  refine ⟨syms, hs, ?_⟩
  intro i hi
  obtain ⟨x, -, hx⟩ := hmem i hi
  unfold alphaIndex at hx
  split at hx
  · rename_i j hj; cases hx; exact indexOf?_lt hj
  · cases hx

theorem code39Symbols_total (T : Tables) (hT : WF39 T = true) (c : List Nat) :
    code39Symbols T c = .error .writer ∨
      ∃ syms, code39Symbols T c = .ok syms ∧ ∀ i ∈ syms, i < T.code39Alphabet.length := by
  simp only [WF39, Bool.and_eq_true, decide_eq_true_eq] at hT
  unfold code39Symbols
  simp only [bind, Except.bind, throw, throwThe, MonadExceptOf.throw, pure, Except.pure]
  split
  · left; rfl
  · split
    · rename_i hall
      obtain ⟨syms, hs, hlt⟩ := mapM_alphaIndex_ok T.code39Alphabet c (by
        intro x hx; exact List.all_eq_true.mp hall x hx)
      right; exact ⟨syms, by rw [hs], hlt⟩
    · rcases escape_list code39Escape1 code39Escape T.code39Alphabet rfl (fun _ _ => rfl) esc39_ge hT.1 c
        with h | ⟨e, he, hmem⟩
      · left; simp only [h]
      · simp only [he]
        split
        · left; rfl
        · obtain ⟨syms, hs, hlt⟩ := mapM_alphaIndex_ok T.code39Alphabet e hmem
          right; exact ⟨syms, by rw [hs], hlt⟩

theorem code39_core_total (T : Tables) (hT : WF39 T = true) :
    OneDCoreTotal (fun c (_ : Hints) => code39Modules T c) := by
  have hT' := hT
  simp only [WF39, Bool.and_eq_true, decide_eq_true_eq] at hT'
  apply coreTotal_of_key
  intro c
  unfold code39Modules
  rcases code39Symbols_total T hT c with h | ⟨syms, hs, hlt⟩
  · left; simp only [h, bind, Except.bind]
  · right
    obtain ⟨chars, hchars, -, -⟩ := mapM_exists_ok
      (fun i => do
        let e ← nth T.code39Enc i
        pure (appendPattern (code39Widths e) true ++ [false])) syms (by
        intro i hi
        have he := nth_ok T.code39Enc i (by have := hlt i hi; omega)
        exact ⟨_, by simp only [he, bind, Except.bind, pure, Except.pure]; rfl⟩)
    simp only [bind, Except.bind, pure, Except.pure] at hchars ⊢
    simp only [hs, code39Draw, bind, Except.bind, pure, Except.pure, hchars]
    refine ⟨_, rfl, ?_⟩
    simp only [List.length_append, List.length_cons, List.length_nil]; omega

theorem c93Check_lt (m : Nat) (vals : List Nat) : c93Check m vals < 47 := by
  unfold c93Check; exact Nat.mod_lt _ (by decide)

theorem code93Symbols_total (T : Tables) (hT : WF93 T = true) (c : List Nat) :
    code93Symbols T c = .error .writer ∨
      ∃ syms, code93Symbols T c = .ok syms ∧ ∀ i ∈ syms, i < T.code93Enc.length := by
  simp only [WF93, Bool.and_eq_true, decide_eq_true_eq] at hT
  obtain ⟨⟨hA, hle⟩, h48⟩ := hT
  unfold code93Symbols
  simp only [bind, Except.bind, throw, throwThe, MonadExceptOf.throw, pure, Except.pure]
  rcases escape_list code93Escape1 code93Escape T.code93Alphabet rfl (fun _ _ => rfl) esc93_ge hA c
    with h | ⟨e, he, hmem⟩
  · left; simp only [h]
  · simp only [he]
    split
    · left; rfl
    · obtain ⟨vals, hv, hlt⟩ := mapM_alphaIndex_ok T.code93Alphabet e hmem
      right
      simp only [hv]
      refine ⟨_, rfl, ?_⟩
      intro i hi
      simp only [c93Checks, List.mem_append, List.mem_cons, List.not_mem_nil, or_false] at hi
      rcases hi with hi | rfl | rfl
      · have := hlt i hi; omega
      · have := c93Check_lt 20 vals; omega
      · have := c93Check_lt 15 (vals ++ [c93Check 20 vals]); omega

theorem code93_core_total (T : Tables) (hT : WF93 T = true) :
    OneDCoreTotal (fun c (_ : Hints) => code93Modules T c) := by
  have hT' := hT
  simp only [WF93, Bool.and_eq_true, decide_eq_true_eq] at hT'
  apply coreTotal_of_key
  intro c
  unfold code93Modules
  rcases code93Symbols_total T hT c with h | ⟨syms, hs, hlt⟩
  · left; simp only [h, bind, Except.bind]
  · right
    have hstar := nth_ok T.code93Enc 47 (by omega)
    obtain ⟨chars, hchars, -, -⟩ := mapM_exists_ok
      (fun i => do let e ← nth T.code93Enc i; pure (bitsMSB 9 e)) syms (by
        intro i hi
        have he := nth_ok T.code93Enc i (hlt i hi)
        exact ⟨_, by simp only [he, bind, Except.bind, pure, Except.pure]; rfl⟩)
    simp only [bind, Except.bind, pure, Except.pure] at hchars ⊢
    simp only [hs, code93Draw, bind, Except.bind, pure, Except.pure, hstar, hchars]
    refine ⟨_, rfl, ?_⟩
    simp only [List.length_append, List.length_cons, List.length_nil]; omega

/-! ## Codabar -/

/-- what the Codabar WRITER needs to be total: the encoding table covers the alphabet.  Not `OneD.WFCodabar` (twenty
    pairwise distinct 7-bit words), which the read-back theorems of C03 assume. -/
def WFCodabar (T : Tables) : Bool := decide (T.codabarAlphabet.length ≤ T.codabarEnc.length)

theorem wfCodabar_ref : WFCodabar refTables = true := by decide

theorem appendPattern_length_pos (w : Nat) (ws : List Nat) (c : Bool) (hw : 1 ≤ w) :
    1 ≤ (appendPattern (w :: ws) c).length := by
  simp only [appendPattern, List.length_append, List.length_replicate]; omega

theorem codabarDraw_pos (w : Nat) (ws : List Nat) : 1 ≤ (codabarDraw (w :: ws)).length := by
  have h7 : ∃ x xs, codabarWidths w = x :: xs ∧ 1 ≤ x := by
    unfold codabarWidths bitsMSB
    refine ⟨_, _, rfl, ?_⟩
    by_cases hb : decide (w / 2 ^ (7 - 1 - 0) % 2 = 1) = true <;> simp [hb]
  obtain ⟨x, xs, hx, h1⟩ := h7
  cases ws with
  | nil => simp only [codabarDraw, hx]; exact appendPattern_length_pos x xs true h1
  | cons v vs =>
    simp only [codabarDraw, hx, List.length_append]
    have := appendPattern_length_pos x xs true h1
    omega

theorem codabarWords_ok (T : Tables) (hT : T.codabarAlphabet.length ≤ T.codabarEnc.length) (full : List Nat) :
    ∃ words, codabarWords T full = .ok words ∧ words.length = full.length := by
  cases hw : codabarWords T full with
  | ok words =>
    refine ⟨words, rfl, ?_⟩
    unfold codabarWords at hw
    dsimp only at hw
    simpa using mapM_length _ _ hw
  | error e =>
    exfalso
    unfold codabarWords at hw
    dsimp only at hw
    obtain ⟨i, hi, hfi⟩ := mapM_error_elem _ _ _ hw
    have hi : i < full.length := List.mem_range.mp hi
    have hc0 := nth_ok full i hi
    simp only [hc0, bind, Except.bind, pure, Except.pure] at hfi
    split at hfi
    · rename_i k hk
      have hw' := nth_ok T.codabarEnc k (by have := indexOf?_lt hk; omega)
      rw [hw'] at hfi; cases hfi
    · cases hfi

theorem codabar_core_total (T : Tables) (hT : WFCodabar T = true) :
    OneDCoreTotal (fun c (_ : Hints) => codabarModules T c) := by
  simp only [WFCodabar, decide_eq_true_eq] at hT
  apply coreTotal_of_key
  intro c
  unfold codabarModules
  rcases codabarFull_cases c with h | ⟨f, mid, l, hfull, -, -, -⟩
  · left; simp only [h, bind, Except.bind]
  · right
    obtain ⟨words, hwords, hwl⟩ := codabarWords_ok T hT (f :: (mid ++ [l]))
    simp only [hfull, hwords, bind, Except.bind, pure, Except.pure]
    refine ⟨_, rfl, ?_⟩
    cases words with
    | nil => simp at hwl
    | cons w ws => exact codabarDraw_pos w ws

/-! ## QR: the reference encoder of C07 as the core -/

/-- The QR core built from the reference encoder `QRRef.refEncode` (ISO/IEC 18004, tied to the Go encoder by
    C07 / C01).  `prep` stands for what precedes it in `Encoder_encode` (character-set conversion, mode choice,
    QR_VERSION / QR_MASK_PATTERN / GS1_FORMAT parsing): any function, `none` = refused. -/
def qrRefCore (prep : List Nat → Int → Hints → Option (QRRef.Mode × List Nat × QRRef.Config)) :
    List Nat → Int → Hints → Res Modules :=
  fun c e h =>
    match prep c e h with
    | none => .error .writer
    | some (m, bytes, cfg) =>
      match QRRef.refEncode m bytes cfg with
      | none => .error .writer                 -- not encodable in the mode / does not fit / version refused
      | some s =>
        .ok ⟨QRRef.dimension s.version, QRRef.dimension s.version,
             fun x y => ((s.matrix[y]?).bind (fun row => row[x]?)).getD false⟩

theorem qrRefCore_total (prep : List Nat → Int → Hints → Option (QRRef.Mode × List Nat × QRRef.Config))
    (knownCharset : HintVal → Bool) : QRCoreTotal ⟨knownCharset, qrRefCore prep⟩ := by
  constructor
  · intro c e h w hw
    simp only [qrRefCore] at hw
    split at hw
    · cases hw
    · split at hw <;> cases hw
  · intro c e h md hok
    simp only [qrRefCore] at hok
    split at hok
    · cases hok
    · split at hok
      · cases hok
      · cases hok
        simp only [QRRef.dimension]
        exact ⟨by omega, by omega⟩

/-! ## Data Matrix: the high-level encoder model of C02, ASCII / Base-256 part -/

/-- Data Matrix core = ISO-8859-1 conversion (`prep`, `none` = character outside Latin-1), the high-level
    encoder model `encodeHL` with look-ahead oracle `la`, then `post` = symbol lookup, ECC200, placement and
    `encodeLowLevel`'s module matrix (not instantiated here). -/
def dmHLCore (syms : List DMHighLevel.SymbolInfo) (la : DMHighLevel.LookAhead)
    (prep : List Nat → Option (List Nat))
    (post : List Nat → Int → Option (Int × Int) → Option (Int × Int) → Res Modules) :
    List Nat → Int → Option (Int × Int) → Option (Int × Int) → Res Modules :=
  fun c shape mn mx =>
    match prep c with
    | none => .error .writer
    | some msg =>
      match DMHighLevel.encodeHL syms la msg
          ⟨shape.toNat, mn.map (fun d => (d.1.toNat, d.2.toNat)), mx.map (fun d => (d.1.toNat, d.2.toNat))⟩ with
      | .error f => .error f
      | .ok cw => post cw shape mn mx

/-- with an oracle that proposes only ASCII and Base 256 (for which C02 proves that the mode loop terminates
    without panic) the Data Matrix core is total as soon as the back end `post` is -/
theorem dmHLCore_total (syms : List DMHighLevel.SymbolInfo) (la : DMHighLevel.LookAhead)
    (hla : DMHighLevel.LaAB la) (prep : List Nat → Option (List Nat))
    (post : List Nat → Int → Option (Int × Int) → Option (Int × Int) → Res Modules)
    (hpost : ∀ cw s mn mx, NoPanic (post cw s mn mx))
    (hne : ∀ cw s mn mx md, post cw s mn mx = .ok md → 1 ≤ md.mw ∧ 1 ≤ md.mh) :
    DMCoreTotal ⟨dmHLCore syms la prep post⟩ := by
  constructor
  · intro c s mn mx w hw
    simp only [dmHLCore] at hw
    split at hw
    · cases hw
    · rename_i msg _
      rcases DMHighLevel.encode_total_ab syms la hla msg
        ⟨s.toNat, mn.map (fun d => (d.1.toNat, d.2.toNat)), mx.map (fun d => (d.1.toNat, d.2.toNat))⟩ with h | ⟨cw, h⟩
      · rw [h] at hw; cases hw
      · rw [h] at hw; exact hpost _ _ _ _ w hw
  · intro c s mn mx md hok
    simp only [dmHLCore] at hok
    split at hok
    · cases hok
    · split at hok
      · cases hok
      · exact hne _ _ _ _ _ hok

end Gzx.WriterFrontend
