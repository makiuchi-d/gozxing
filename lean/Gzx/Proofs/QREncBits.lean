/-
  wp `qrenc` — lemmas about the bit-array operations of the mirror model (`Gzx.QREnc`) and the proof that the
  coded `terminateBits` loops compute the reference `QRRef.terminate`.
-/
import Gzx.Model.QREncMirror
import Gzx.Proofs.QRCompStream
namespace Gzx.QREnc
open Gzx Gzx.QRRef

/-! ### AppendBits -/

theorem testBitI_nat (n k : Nat) : testBitI (n : Int) k = n.testBit k := by
  unfold testBitI
  rw [Int.shiftRight_eq_div_pow, Nat.testBit_eq_decide_div_mod_eq]
  have h : ((n : Int) / ((2 ^ k : Nat) : Int)) % 2 = (((n / 2 ^ k) % 2 : Nat) : Int) := by
    omega
  rw [h]
  rcases Nat.mod_two_eq_zero_or_one (n / 2 ^ k) with h0 | h1
  · rw [h0]; simp
  · rw [h1]; simp

theorem appendBits_nat (v w : Nat) (hw : w ≤ 32) (bits : Bits) :
    appendBits (v : Int) (w : Int) bits = .ok (bits ++ toBitsBE w v) := by
  unfold appendBits
  have h1 : ¬ ((w : Int) < 0 ∨ (w : Int) > 32) := by omega
  rw [if_neg h1]
  simp only [Int.toNat_natCast, testBitI_nat]
  rfl

theorem appendBitsIgn_nat (v w : Nat) (hw : w ≤ 32) (bits : Bits) :
    appendBitsIgn (v : Int) (w : Int) bits = bits ++ toBitsBE w v := by
  unfold appendBitsIgn
  rw [appendBits_nat v w hw]

theorem appendBitsIgn_byte (b : Nat) (bits : Bits) : appendBitsIgn (b : Int) 8 bits = bits ++ toBitsBE 8 b :=
  appendBitsIgn_nat b 8 (by omega) bits

/-! ### bytes and bits -/

theorem bitsOfBytes_append (a b : List Nat) : bitsOfBytes (a ++ b) = bitsOfBytes a ++ bitsOfBytes b := by
  unfold bitsOfBytes; rw [List.flatMap_append]

theorem bitsOfBytes_bytesOfBits (k : Nat) (bs : List Bool) (h : bs.length = 8 * k) :
    bitsOfBytes (bytesOfBits k bs) = bs := by
  rw [QRComp.bitsOfBytes_eq]
  exact QRComp.bytesToBits_bytesOfBits k bs h

theorem padBytes_succ (n : Nat) : padBytes (n + 1) = padBytes n ++ [if n % 2 = 0 then 0xEC else 0x11] := by
  have : ∀ n, (padBytes (n + 1) = padBytes n ++ [if n % 2 = 0 then 0xEC else 0x11]) ∧
      (padBytes (n + 2) = padBytes (n + 1) ++ [if (n + 1) % 2 = 0 then 0xEC else 0x11]) := by
    intro n
    induction n using Nat.strongRecOn with
    | _ n ih =>
      match n with
      | 0 => exact ⟨rfl, rfl⟩
      | 1 => exact ⟨rfl, rfl⟩
      | n + 2 =>
        have h := ih n (by omega)
        constructor
        · show 0xEC :: 0x11 :: padBytes (n + 1) = (0xEC :: 0x11 :: padBytes n) ++ _
          rw [h.1]
          have : (n + 2) % 2 = n % 2 := by omega
          rw [this]; rfl
        · show 0xEC :: 0x11 :: padBytes (n + 2) = (0xEC :: 0x11 :: padBytes (n + 1)) ++ _
          rw [h.2]
          have : (n + 2 + 1) % 2 = (n + 1) % 2 := by omega
          rw [this]; rfl
  exact (this n).1

/-! ### the three loops of terminateBits -/

theorem term_loop1 (cap : Int) : ∀ (k : Nat) (bits : Bits), (bits.length : Int) ≤ cap →
    (List.range k).foldl (fun (bits : Bits) _ => if (bits.length : Int) < cap then bits ++ [false] else bits) bits =
      bits ++ List.replicate (min k (cap - bits.length).toNat) false := by
  intro k
  induction k with
  | zero => intro bits _; simp
  | succ k ih =>
    intro bits h
    rw [List.range_succ, List.foldl_append, ih bits h]
    simp only [List.foldl_cons, List.foldl_nil, List.length_append, List.length_replicate]
    by_cases hk : k < (cap - bits.length).toNat
    · have h1 : min k (cap - (bits.length : Int)).toNat = k := Nat.min_eq_left (by omega)
      have h2 : min (k + 1) (cap - (bits.length : Int)).toNat = k + 1 := Nat.min_eq_left (by omega)
      rw [h1, h2]
      have : ((bits.length + k : Nat) : Int) < cap := by omega
      rw [if_pos this, List.append_assoc, ← List.replicate_succ']
    · have h1 : min k (cap - (bits.length : Int)).toNat = (cap - (bits.length : Int)).toNat := Nat.min_eq_right (by omega)
      have h2 : min (k + 1) (cap - (bits.length : Int)).toNat = (cap - (bits.length : Int)).toNat := Nat.min_eq_right (by omega)
      rw [h1, h2]
      have : ¬ ((bits.length + (cap - (bits.length : Int)).toNat : Nat) : Int) < cap := by omega
      rw [if_neg this]

theorem term_loop2 : ∀ (k : Nat) (bits : Bits),
    (List.range k).foldl (fun (bits : Bits) _ => bits ++ [false]) bits = bits ++ List.replicate k false := by
  intro k
  induction k with
  | zero => intro bits; simp
  | succ k ih =>
    intro bits
    rw [List.range_succ, List.foldl_append, ih bits]
    simp only [List.foldl_cons, List.foldl_nil]
    rw [List.append_assoc, ← List.replicate_succ']

theorem term_loop3 : ∀ (k : Nat) (bits : Bits),
    (List.range k).foldl (fun (bits : Bits) i => appendBitsIgn (if i % 2 = 0 then 0xEC else 0x11) 8 bits) bits =
      bits ++ bitsOfBytes (padBytes k) := by
  intro k
  induction k with
  | zero => intro bits; simp [padBytes, bitsOfBytes]
  | succ k ih =>
    intro bits
    rw [List.range_succ, List.foldl_append, ih bits]
    simp only [List.foldl_cons, List.foldl_nil]
    rw [padBytes_succ, bitsOfBytes_append, ← List.append_assoc]
    congr 1
    by_cases hk : k % 2 = 0
    · simp only [hk, if_true]
      exact appendBitsIgn_byte 0xEC _
    · simp only [hk, if_false]
      exact appendBitsIgn_byte 0x11 _

theorem terminateBits_eq (d : Nat) (bits : Bits) (h : bits.length ≤ 8 * d) :
    terminateBits (d : Int) bits = .ok (bitsOfBytes (terminate d bits)) := by
  unfold terminateBits terminate
  have hcap : ¬ ((bits.length : Int) > (d : Int) * 8) := by omega
  simp only [hcap, if_false, bind, Except.bind, pure, Except.pure]
  rw [term_loop1 ((d : Int) * 8) 4 bits (by omega)]
  have hmin : min 4 ((d : Int) * 8 - (bits.length : Int)).toNat = min 4 (8 * d - bits.length) := by omega
  rw [hmin]
  generalize hb1 : bits ++ List.replicate (min 4 (8 * d - bits.length)) false = b1
  have hl1 : b1.length = bits.length + min 4 (8 * d - bits.length) := by
    rw [← hb1, List.length_append, List.length_replicate]
  have hb2' : (if b1.length % 8 > 0 then (List.range (8 - b1.length % 8)).foldl (fun (bits : Bits) _ => bits ++ [false]) b1 else b1)
      = b1 ++ List.replicate ((8 - b1.length % 8) % 8) false := by
    by_cases hr : b1.length % 8 > 0
    · rw [if_pos hr, term_loop2]
      have : (8 - b1.length % 8) % 8 = 8 - b1.length % 8 := by omega
      rw [this]
    · rw [if_neg hr]
      have : (8 - b1.length % 8) % 8 = 0 := by omega
      rw [this]; simp
  rw [hb2']
  generalize hb2 : b1 ++ List.replicate ((8 - b1.length % 8) % 8) false = b2
  have hl2 : b2.length = b1.length + (8 - b1.length % 8) % 8 := by
    rw [← hb2, List.length_append, List.length_replicate]
  have h8 : b2.length = 8 * (b2.length / 8) := by omega
  have hsz : sizeInBytes b2 = ((b2.length / 8 : Nat) : Int) := by
    unfold sizeInBytes
    congr 1
    omega
  rw [hsz, term_loop3]
  have hpad : ((d : Int) - ((b2.length / 8 : Nat) : Int)).toNat = d - (bytesOfBits (b2.length / 8) b2).length := by
    rw [bytesOfBits_length _ _ h8]; omega
  rw [hpad, bitsOfBytes_append, bitsOfBytes_bytesOfBits _ _ h8]
  have hlen : ((b2 ++ bitsOfBytes (padBytes (d - (bytesOfBits (b2.length / 8) b2).length))).length : Int) = (d : Int) * 8 := by
    rw [List.length_append, bitsOfBytes_length, padBytes_length, bytesOfBits_length _ _ h8]
    omega
  rw [if_neg (by rw [hlen]; simp)]

theorem terminateBits_refuses (d : Int) (bits : Bits) (h : (bits.length : Int) > d * 8) :
    terminateBits d bits = .error .writer := by
  unfold terminateBits
  simp only [h, if_true, bind, Except.bind]

end Gzx.QREnc
