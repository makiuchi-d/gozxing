/-
  Lemmas for `Obligations/K08bDec.lean` and `K08bDecAll.lean`: the fill loops of the regenerated
  `DataBlocks_getDataBlocks` against `DMDec.fillBlocks` / `DMDec.dbTargets`.  Nothing here mentions the text of a
  generated definition.

  `fillFrom raw ts off b`: write `raw[off], raw[off+1], …` to the targets `ts` (block, position) of the block list `b`,
  `none` as soon as a target or a raw index is out of range — the success path of `DMDec.fillBlocks`, with an explicit
  offset so that consecutive loops compose (`fillFrom_append`).
-/
import Gzx.GoMDm
import Gzx.Proofs.DMTie
import Gzx.Model.DMDecoder
namespace Gzx.GoM
open Gzx Gzx.GoVal

/-- Go `[][]byte` of a model block list -/
abbrev cwI (b : List (List Nat)) : List (List Int) := b.map words

def fillFrom (raw : List Nat) : List (Nat × Nat) → Nat → List (List Nat) → Option (List (List Nat))
  | [], _, b => some b
  | (j, i) :: ts, off, b =>
    match raw[off]? with
    | none => none
    | some x =>
      match DMDec.set2 b j i x with
      | none => none
      | some b' => fillFrom raw ts (off + 1) b'

theorem fillFrom_append (raw : List Nat) : ∀ (ts1 ts2 : List (Nat × Nat)) (off : Nat) (b : List (List Nat)),
    fillFrom raw (ts1 ++ ts2) off b = (fillFrom raw ts1 off b).bind (fillFrom raw ts2 (off + ts1.length)) := by
  intro ts1
  induction ts1 with
  | nil => intro ts2 off b; simp [fillFrom]
  | cons t ts1 ih =>
    intro ts2 off b
    obtain ⟨j, i⟩ := t
    simp only [List.cons_append, fillFrom, List.length_cons]
    cases raw[off]? with
    | none => rfl
    | some x =>
      simp only []
      cases DMDec.set2 b j i x with
      | none => rfl
      | some b' =>
        simp only []
        rw [ih ts2 (off + 1) b']
        congr 2; omega

theorem of_drop_eq_cons (raw : List Nat) (off x : Nat) (xs : List Nat) (h : raw.drop off = x :: xs) :
    raw[off]? = some x ∧ raw.drop (off + 1) = xs := by
  have hlt : off < raw.length := by
    have := congrArg List.length h; simp at this; omega
  rw [List.drop_eq_getElem_cons hlt] at h
  injection h with h1 h2
  exact ⟨by rw [List.getElem?_eq_getElem hlt, h1], h2⟩

theorem fillBlocks_ok (raw : List Nat) : ∀ (ts : List (Nat × Nat)) (off : Nat) (b b' : List (List Nat)), off ≤ raw.length →
    DMDec.fillBlocks ts (raw.drop off) b = .ok b' → fillFrom raw ts off b = some b' ∧ raw.length = off + ts.length := by
  intro ts
  induction ts with
  | nil =>
    intro off b b' hoff h
    cases hd : raw.drop off with
    | nil =>
      rw [hd] at h
      simp only [DMDec.fillBlocks] at h
      injection h with h; subst h
      have : raw.length ≤ off := by have := congrArg List.length hd; simp at this; omega
      exact ⟨rfl, by simp; omega⟩
    | cons x xs => rw [hd] at h; simp [DMDec.fillBlocks] at h
  | cons t ts ih =>
    intro off b b' hoff h
    obtain ⟨j, i⟩ := t
    cases hd : raw.drop off with
    | nil => rw [hd] at h; simp [DMDec.fillBlocks] at h
    | cons x xs =>
      rw [hd] at h
      obtain ⟨hx, hxs⟩ := of_drop_eq_cons raw off x xs hd
      have hlt : off < raw.length := (List.getElem?_eq_some_iff.mp hx).1
      simp only [DMDec.fillBlocks] at h
      cases hs : DMDec.set2 b j i x with
      | none => rw [hs] at h; cases h
      | some b1 =>
        rw [hs] at h
        simp only [] at h
        rw [← hxs] at h
        obtain ⟨h1, h2⟩ := ih (off + 1) b1 b' (by omega) h
        exact ⟨by simp only [fillFrom, hx, hs]; exact h1, by simp only [List.length_cons]; omega⟩

theorem fillBlocks_format (raw : List Nat) : ∀ (ts : List (Nat × Nat)) (off : Nat) (b : List (List Nat)), off ≤ raw.length →
    DMDec.fillBlocks ts (raw.drop off) b = .error .format →
      ∃ b', fillFrom raw ts off b = some b' ∧ off + ts.length < raw.length := by
  intro ts
  induction ts with
  | nil =>
    intro off b hoff h
    cases hd : raw.drop off with
    | nil => rw [hd] at h; simp [DMDec.fillBlocks] at h
    | cons x xs =>
      have : off < raw.length := by have := congrArg List.length hd; simp at this; omega
      exact ⟨b, rfl, by simp; omega⟩
  | cons t ts ih =>
    intro off b hoff h
    obtain ⟨j, i⟩ := t
    cases hd : raw.drop off with
    | nil => rw [hd] at h; simp [DMDec.fillBlocks] at h
    | cons x xs =>
      rw [hd] at h
      obtain ⟨hx, hxs⟩ := of_drop_eq_cons raw off x xs hd
      have hlt : off < raw.length := (List.getElem?_eq_some_iff.mp hx).1
      simp only [DMDec.fillBlocks] at h
      cases hs : DMDec.set2 b j i x with
      | none => rw [hs] at h; cases h
      | some b1 =>
        rw [hs] at h
        simp only [] at h
        rw [← hxs] at h
        obtain ⟨b', h1, h2⟩ := ih (off + 1) b1 (by omega) h
        exact ⟨b', by simp only [fillFrom, hx, hs]; exact h1, by simp only [List.length_cons]; omega⟩

theorem set2_shape (b b' : List (List Nat)) (j i x : Nat) (h : DMDec.set2 b j i x = some b') :
    b'.map List.length = b.map List.length := by
  unfold DMDec.set2 at h
  cases hr : b[j]? with
  | none => rw [hr] at h; cases h
  | some r =>
    rw [hr] at h
    simp only [] at h
    split at h
    · injection h with h; subst h
      have hj : j < b.length := (List.getElem?_eq_some_iff.mp hr).1
      have hrj : r = b[j] := by rw [List.getElem?_eq_getElem hj] at hr; injection hr with hr; exact hr.symm
      apply List.ext_getElem (by simp)
      intro k h1 h2
      simp only [List.getElem_map, List.getElem_set]
      by_cases hk : j = k
      · subst hk; simp [hrj]
      · simp [hk]
    · cases h

theorem fillFrom_shape (raw : List Nat) : ∀ (ts : List (Nat × Nat)) (off : Nat) (b b' : List (List Nat)),
    fillFrom raw ts off b = some b' → b'.map List.length = b.map List.length := by
  intro ts
  induction ts with
  | nil => intro off b b' h; simp [fillFrom] at h; subst h; rfl
  | cons t ts ih =>
    intro off b b' h
    obtain ⟨j, i⟩ := t
    simp only [fillFrom] at h
    cases hx : raw[off]? with
    | none => rw [hx] at h; cases h
    | some x =>
      rw [hx] at h
      simp only [] at h
      cases hs : DMDec.set2 b j i x with
      | none => rw [hs] at h; cases h
      | some b1 =>
        rw [hs] at h
        simp only [] at h
        rw [ih (off + 1) b1 b' h, set2_shape b b1 j i x hs]

theorem fillBlocks_err : ∀ (ts : List (Nat × Nat)) (xs : List Nat) (b : List (List Nat)) (e : Fault),
    DMDec.fillBlocks ts xs b = .error e → e = .format ∨ ∃ s, e = .panic s := by
  intro ts
  induction ts with
  | nil =>
    intro xs b e h
    cases xs with
    | nil => simp [DMDec.fillBlocks] at h
    | cons x xs => simp only [DMDec.fillBlocks] at h; injection h with h; exact Or.inl h.symm
  | cons t ts ih =>
    intro xs b e h
    obtain ⟨j, i⟩ := t
    cases xs with
    | nil => simp only [DMDec.fillBlocks] at h; injection h with h; exact Or.inr ⟨_, h.symm⟩
    | cons x xs =>
      simp only [DMDec.fillBlocks] at h
      cases hs : DMDec.set2 b j i x with
      | none => rw [hs] at h; simp only [] at h; injection h with h; exact Or.inr ⟨_, h.symm⟩
      | some b1 => rw [hs] at h; exact ih xs b1 e h

/-! ### one target, one loop -/

variable {σ ρ : Type}

theorem idxL_cwI (b : List (List Nat)) (e : Int) (j : Nat) (r : List Nat) (he : e = j) (h : b[j]? = some r) :
    idxL (cwI b) e = .ok (words r) := by
  subst he; exact idxL_map b j r h

/-- `make([][]byte, n)` -/
theorem mkLL_nat (n : Nat) : mkLL (n : Int) = .ok (cwI (List.replicate n [])) := by
  unfold mkLL
  have : ¬ ((n : Int) < 0) := by omega
  simp [this, cwI]

theorem setIdxLL_cwI (b : List (List Nat)) (e : Int) (j : Nat) (r : List Nat) (he : e = j) (h : j < b.length) :
    setIdxLL (cwI b) e (words r) = .ok (cwI (b.set j r)) := by
  subst he
  unfold setIdxLL
  have h0 : ¬ ((j : Int) < 0) := by omega
  simp [h0, h, cwI, List.map_set]

/-- `result[j].codewords[i] = rawCodewords[off]` (four checked operations) for a target the model accepts -/
theorem target_step (raw : List Nat) (b b' : List (List Nat)) (j i off : Nat)
    (h : fillFrom raw [(j, i)] off b = some b') (k : List (List Int) → Ctl σ ρ) (eo ej ei : Int)
    (ho : eo = off) (hj : ej = j) (hi : ei = i) :
    (tryC (idx (words raw) eo) fun t10 => tryC (idxL (cwI b) ej) fun t11 => tryC (setIdx t11 ei t10) fun t12 =>
      tryC (setIdxLL (cwI b) ej t12) k) = k (cwI b') := by
  simp only [fillFrom] at h
  cases hx : raw[off]? with
  | none => rw [hx] at h; cases h
  | some x =>
    rw [hx] at h
    simp only [] at h
    unfold DMDec.set2 at h
    cases hr : b[j]? with
    | none => rw [hr] at h; cases h
    | some r =>
      rw [hr] at h
      simp only [] at h
      by_cases hil : i < r.length
      · simp only [hil, if_true] at h
        injection h with h; subst h
        have hlt : off < raw.length := (List.getElem?_eq_some_iff.mp hx).1
        have hjl : j < b.length := (List.getElem?_eq_some_iff.mp hr).1
        rw [idx_words_lt' raw eo off ho hlt]
        simp only [tryC_ok]
        rw [idxL_cwI b ej j r hj hr]
        simp only [tryC_ok]
        rw [setIdx_words_lt r ei _ i (raw.getD off 0) hi rfl hil]
        simp only [tryC_ok]
        rw [setIdxLL_cwI b ej j _ hj hjl]
        simp only [tryC_ok]
        have : raw.getD off 0 = x := by simp [List.getD_eq_getElem?_getD, hx]
        rw [this]
      · simp only [hil, if_false] at h; cases h

/-- a counted loop whose iteration `i` writes the targets `T i` writes `flatMap T` of its index range -/
theorem loop_fill (raw : List Nat) (body : Int → (List (List Int) × Int) → Ctl (List (List Int) × Int) ρ)
    (T : Nat → List (Nat × Nat)) :
    ∀ (n i0 : Nat),
      (∀ i b off b', i0 ≤ i → i < i0 + n → fillFrom raw (T i) off b = some b' →
        body (i : Int) (cwI b, (off : Int)) = .next (cwI b', ((off + (T i).length : Nat) : Int))) →
      ∀ (b : List (List Nat)) (off : Nat) (b' : List (List Nat)),
        fillFrom raw ((List.range' i0 n).flatMap T) off b = some b' →
        loop body 1 n (i0 : Int) (cwI b, (off : Int)) =
          .next (cwI b', ((off + ((List.range' i0 n).flatMap T).length : Nat) : Int)) := by
  intro n
  induction n with
  | zero => intro i0 _ b off b' h; simp [fillFrom] at h; subst h; simp [loop]
  | succ n ih =>
    intro i0 hb b off b' h
    rw [List.range'_succ, List.flatMap_cons, fillFrom_append] at h
    cases h1 : fillFrom raw (T i0) off b with
    | none => rw [h1] at h; cases h
    | some b1 =>
      rw [h1] at h
      simp only [Option.bind_some] at h
      rw [loop_succ, hb i0 b off b1 (Nat.le_refl _) (by omega) h1]
      simp only []
      have e : (i0 : Int) + 1 = ((i0 + 1 : Nat) : Int) := by omega
      rw [e, ih (i0 + 1) (fun i b off b' h1 h2 => hb i b off b' (by omega) (by omega)) b1 _ b' h]
      rw [List.range'_succ, List.flatMap_cons, List.length_append]
      congr 3; omega

end Gzx.GoM
