/-
  C16 helper lemmas: BitMatrix.Rotate180 — the swap loops of `rotate180Swap` reverse the word list; `mapRows` /
  `realignRow` realign every row; the naive 180° rotation; the refinement.
-/
import Gzx.Proofs.BitsRev
import Gzx.Proofs.BitsMat
namespace Gzx.Bits
open Gzx

/-! ## `rotate180Swap`: the swap loops reverse the word list -/

/-- the first and the last `z` positions have been exchanged (mirror image), the middle is untouched -/
def Zone (ws0 ws : List Nat) (z : Nat) : Prop :=
  ws.length = ws0.length ∧
  ∀ p, p < ws0.length →
    ws[p]? = if p < z ∨ ws0.length - z ≤ p then ws0[ws0.length - 1 - p]? else ws0[p]?

theorem zone_init (ws0 : List Nat) : Zone ws0 ws0 0 := by
  refine ⟨rfl, ?_⟩
  intro p hp; rw [if_neg (by omega)]

theorem zone_swap (ws0 ws : List Nat) (z : Nat) (hz : Zone ws0 ws z) (h2 : 2 * z + 2 ≤ ws0.length) :
    ∃ ws', WMat.swapWords ws z (ws0.length - 1 - z) = .ok ws' ∧ Zone ws0 ws' (z + 1) := by
  obtain ⟨hlen, hget⟩ := hz
  have h1 : z < ws.length := by omega
  have h3 : ws0.length - 1 - z < ws.length := by omega
  have hA : ws[z]? = ws0[z]? := by rw [hget z (by omega), if_neg (by omega)]
  have hB : ws[ws0.length - 1 - z]? = ws0[ws0.length - 1 - z]? := by
    rw [hget _ (by omega), if_neg (by omega)]
  unfold WMat.swapWords
  rw [wordAt_ok _ _ h1, wordAt_ok _ _ h3]
  simp only [bind, Except.bind]
  rw [setWord_ok _ _ _ h1]
  simp only
  rw [setWord_ok _ _ _ (by simpa using h3)]
  refine ⟨_, rfl, by simpa using hlen, ?_⟩
  intro p hp
  rw [List.getElem?_set, List.getElem?_set]
  rw [List.getElem?_eq_getElem h1] at hA
  rw [List.getElem?_eq_getElem h3] at hB
  by_cases c1 : ws0.length - 1 - z = p
  · rw [if_pos c1, if_pos (by simpa using h3), if_pos (by omega), hA]
    congr 1; omega
  · rw [if_neg c1]
    by_cases c2 : z = p
    · rw [if_pos c2, if_pos h1, if_pos (by omega), hB, c2]
    · rw [if_neg c2, hget p hp]
      by_cases c3 : p < z ∨ ws0.length - z ≤ p
      · rw [if_pos c3, if_pos (by omega)]
      · rw [if_neg c3, if_neg (by omega)]

theorem zone_loop (ws0 : List Nat) (n : Nat) : ∀ (ws : List Nat) (z0 : Nat),
    Zone ws0 ws z0 → 2 * (z0 + n) ≤ ws0.length →
    ∃ ws', (List.range n).foldlM
        (fun ws j => WMat.swapWords ws (z0 + j) (ws0.length - 1 - (z0 + j))) ws = .ok ws' ∧
      Zone ws0 ws' (z0 + n) := by
  induction n with
  | zero => intro ws z0 hz _; exact ⟨ws, rfl, hz⟩
  | succ n ih =>
    intro ws z0 hz hb
    obtain ⟨ws1, g1, g2⟩ := ih ws z0 hz (by omega)
    obtain ⟨ws2, k1, k2⟩ := zone_swap ws0 ws1 (z0 + n) g2 (by omega)
    rw [List.range_succ, List.foldlM_append, g1]
    simp only [bind, Except.bind, List.foldlM_cons, List.foldlM_nil, pure, Except.pure]
    rw [k1]
    exact ⟨ws2, rfl, k2⟩

/-- the row-pair loop of `Rotate180`: one loop over the word indices below `h / 2 * rs` -/
theorem zone_rows (ws0 : List Nat) (rs h : Nat) (hN : ws0.length = h * rs) :
    ∃ ws', (List.range (h / 2)).foldlM (fun ws i =>
        (List.range rs).foldlM
          (fun ws j => WMat.swapWords ws (i * rs + j) ((h - i) * rs - 1 - j)) ws) ws0 = .ok ws' ∧
      Zone ws0 ws' (h / 2 * rs) := by
  have hb : 2 * (h / 2 * rs) ≤ ws0.length := by
    have : 2 * (h / 2) * rs ≤ h * rs := Nat.mul_le_mul_right rs (by omega)
    rw [hN, ← Nat.mul_assoc]; exact this
  have hL : (List.range (h / 2)).flatMap (fun i => (List.range rs).map (fun j => (i * rs + j, (h - i) * rs - 1 - j))) =
      (List.range (h / 2 * rs)).map (fun k => (0 + k, ws0.length - 1 - (0 + k))) := by
    rw [← flatMap_rows, List.map_flatMap]
    refine flatMap_congr fun i hi => ?_
    rw [List.map_map]
    refine List.map_congr_left fun j hj => ?_
    have hi' : i * rs ≤ h * rs := Nat.mul_le_mul_right rs (by have := List.mem_range.mp hi; omega)
    simp only [Function.comp, Nat.zero_add, hN, Nat.sub_mul]
    congr 1; omega
  rw [foldlM_flatMap (fun ws (p : Nat × Nat) => WMat.swapWords ws p.1 p.2) (fun i j => (i * rs + j, (h - i) * rs - 1 - j)),
    hL, List.foldlM_map]
  have := zone_loop ws0 (h / 2 * rs) ws0 0 (zone_init ws0) (by omega)
  rwa [Nat.zero_add] at this

theorem zone_final (ws0 ws : List Nat) (z : Nat) (hz : Zone ws0 ws z) (h1 : 2 * z ≤ ws0.length)
    (h2 : ws0.length ≤ 2 * z + 1) : ws = ws0.reverse := by
  apply List.ext_getElem?
  intro p
  by_cases hp : p < ws0.length
  · rw [hz.2 p hp, List.getElem?_reverse hp]
    by_cases c : p < z ∨ ws0.length - z ≤ p
    · rw [if_pos c]
    · rw [if_neg c]; congr 1; omega
  · rw [List.getElem?_eq_none (by rw [hz.1]; omega), List.getElem?_eq_none (by simp; omega)]

theorem rotate180Swap_eq_reverse (rs h : Nat) (ws0 : List Nat) (hN : ws0.length = h * rs) :
    WMat.rotate180Swap rs h ws0 = .ok ws0.reverse := by
  unfold WMat.rotate180Swap
  obtain ⟨ws1, g1, g2⟩ := zone_rows ws0 rs h hN
  simp only
  rw [g1]
  simp only
  by_cases hodd : h % 2 ≠ 0
  · rw [if_pos hodd]
    have hh : h = 2 * (h / 2) + 1 := by omega
    have hNN : ws0.length = 2 * (h / 2 * rs) + rs := by
      rw [hN]
      conv => lhs; rw [hh]
      rw [Nat.add_mul, Nat.mul_assoc, Nat.one_mul]
    have hoff : rs * (h - 1) / 2 = h / 2 * rs := by
      have hk : h - 1 = 2 * (h / 2) := by omega
      rw [hk, Nat.mul_left_comm, Nat.mul_div_cancel_left _ (by decide : 0 < 2), Nat.mul_comm]
    rw [hoff]
    obtain ⟨ws2, k1, k2⟩ := zone_loop ws0 (rs / 2) ws1 (h / 2 * rs) g2 (by omega)
    have hc : (List.range (rs / 2)).foldlM
          (fun ws j => WMat.swapWords ws (h / 2 * rs + j) (h / 2 * rs + rs - 1 - j)) ws1 =
        (List.range (rs / 2)).foldlM
          (fun ws j => WMat.swapWords ws (h / 2 * rs + j) (ws0.length - 1 - (h / 2 * rs + j))) ws1 := by
      apply foldlM_congr_mem
      intro j hj ws
      rw [List.mem_range] at hj
      have : h / 2 * rs + rs - 1 - j = ws0.length - 1 - (h / 2 * rs + j) := by omega
      rw [this]
    rw [hc, k1]
    congr 1
    exact zone_final ws0 ws2 _ k2 (by omega) (by omega)
  · rw [if_neg hodd]
    have hh : h = 2 * (h / 2) := by omega
    have hNN : ws0.length = 2 * (h / 2 * rs) := by
      rw [hN]
      conv => lhs; rw [hh]
      rw [Nat.mul_assoc]
    congr 1
    exact zone_final ws0 ws1 _ g2 (by omega) (by omega)

/-! ## `mapRows` / `realignRow`: per-row reverse-and-realign -/

theorem realignLoop_eq (shift : Nat) (hs : shift < 32) (rest : List Nat) : ∀ prev,
    WMat.realignLoop shift rest prev = WArr.shiftLoop (32 - shift) (rest.map rev32) prev := by
  induction rest with
  | nil => intro prev; rfl
  | cons w rest ih =>
    intro prev
    unfold WMat.realignLoop
    rw [List.map_cons]
    unfold WArr.shiftLoop
    have e : 32 - (32 - shift) = shift := by omega
    rw [e]
    show (prev ||| shl32 (rev32 w) shift) :: WMat.realignLoop shift rest (rev32 w >>> (32 - shift)) = _
    rw [ih]

theorem mapRows_length (rs : Nat) (f : List Nat → List Nat) (hf : ∀ r, (f r).length = r.length)
    (h : Nat) : ∀ ws, ws.length = h * rs → (WMat.mapRows rs f h ws).length = ws.length := by
  induction h with
  | zero => intro ws _; rfl
  | succ h ih =>
    intro ws hl
    unfold WMat.mapRows
    rw [Nat.add_mul, Nat.one_mul] at hl
    rw [List.length_append, hf, ih _ (by rw [List.length_drop]; omega), List.length_take,
      List.length_drop]
    omega

theorem mapRows_get (rs : Nat) (f : List Nat → List Nat) (hf : ∀ r, (f r).length = r.length)
    (h : Nat) : ∀ ws y k, ws.length = h * rs → y < h → k < rs →
    (WMat.mapRows rs f h ws)[y * rs + k]? = (f ((ws.drop (y * rs)).take rs))[k]? := by
  induction h with
  | zero => intro ws y k _ hy _; omega
  | succ h ih =>
    intro ws y k hl hy hk
    unfold WMat.mapRows
    rw [Nat.add_mul, Nat.one_mul] at hl
    have htl : (f (ws.take rs)).length = rs := by rw [hf, List.length_take]; omega
    rw [List.getElem?_append, htl]
    cases y with
    | zero =>
      rw [Nat.zero_mul, Nat.zero_add, if_pos hk, List.drop_zero]
    | succ y =>
      have e1 : ¬ ((y + 1) * rs + k < rs) := by rw [Nat.add_mul, Nat.one_mul]; omega
      have e2 : (y + 1) * rs + k - rs = y * rs + k := by rw [Nat.add_mul, Nat.one_mul]; omega
      rw [if_neg e1, e2, ih (ws.drop rs) y k (by rw [List.length_drop]; omega) (by omega) hk,
        List.drop_drop]
      have e3 : rs + y * rs = (y + 1) * rs := by rw [Nat.add_mul, Nat.one_mul]; omega
      rw [e3]

theorem bitAt_row (ws : List Nat) (rs y g : Nat) (hg : g < rs * 32) :
    bitAt ((ws.drop (y * rs)).take rs) g = bitAt ws (y * rs * 32 + g) := by
  unfold bitAt
  rw [cell_div, cell_mod, List.getElem?_take, if_pos (by omega), List.getElem?_drop]

theorem realignRow_bit (shift : Nat) (h0 : 0 < shift) (hs : shift < 32) (row : List Nat)
    (hne : row ≠ []) (hlt : ∀ w ∈ row, w < W32) (g : Nat) :
    bitAt (WMat.realignRow shift row) g = bitAt (row.map rev32) (g + (32 - shift)) := by
  cases row with
  | nil => exact absurd rfl hne
  | cons w0 rest =>
    show bitAt (WMat.realignLoop shift rest (rev32 w0 >>> (32 - shift))) g = _
    rw [realignLoop_eq shift hs, List.map_cons]
    exact bitAt_shiftLoop (32 - shift) (by omega) (by omega) (rest.map rev32) (rev32 w0) (rev32_lt _)
      (by intro w hw; obtain ⟨v, _, rfl⟩ := List.mem_map.mp hw; exact rev32_lt _) g

theorem realignRow_length (shift : Nat) (hs : shift < 32) (row : List Nat) :
    (WMat.realignRow shift row).length = row.length := by
  cases row with
  | nil => rfl
  | cons w0 rest =>
    show (WMat.realignLoop shift rest (rev32 w0 >>> (32 - shift))).length = _
    rw [realignLoop_eq shift hs, shiftLoop_length]; simp

theorem realignRow_lt (shift : Nat) (hs : shift < 32) (row : List Nat) :
    ∀ w ∈ WMat.realignRow shift row, w < W32 := by
  cases row with
  | nil => intro w hw; simp [WMat.realignRow] at hw
  | cons w0 rest =>
    show ∀ w ∈ WMat.realignLoop shift rest (rev32 w0 >>> (32 - shift)), w < W32
    rw [realignLoop_eq shift hs]
    exact shiftLoop_lt _ _ _ (shr_lt_W32 (rev32_lt _) _)
      (by intro w hw; obtain ⟨v, _, rfl⟩ := List.mem_map.mp hw; exact rev32_lt _)

theorem mapRows_lt (rs : Nat) (f : List Nat → List Nat) (hf : ∀ r, ∀ w ∈ f r, w < W32) (h : Nat) :
    ∀ ws, ws.length = h * rs → ∀ w ∈ WMat.mapRows rs f h ws, w < W32 := by
  induction h with
  | zero =>
    intro ws hl w hw
    have : ws = [] := List.eq_nil_of_length_eq_zero (by simpa using hl)
    rw [this] at hw; simp [WMat.mapRows] at hw
  | succ h ih =>
    intro ws hl w hw
    unfold WMat.mapRows at hw
    rw [Nat.add_mul, Nat.one_mul] at hl
    rcases List.mem_append.mp hw with h1 | h1
    · exact hf _ w h1
    · exact ih _ (by rw [List.length_drop]; omega) w h1

/-! ## the naive rotation and the refinement -/

namespace SMat

theorem rotate180_WF (m : SMat) (hm : m.WF) : m.rotate180.WF := by
  constructor
  · simpa [SMat.rotate180] using hm.1
  · intro r hr
    simp only [SMat.rotate180, List.mem_map, List.mem_reverse] at hr
    obtain ⟨r0, h0, rfl⟩ := hr
    rw [List.length_reverse]; exact hm.2 r0 h0

theorem get_rotate180 (m : SMat) (hm : m.WF) (x y : Nat) (hx : x < m.width) (hy : y < m.height) :
    m.rotate180.get x y = m.get (m.width - 1 - x) (m.height - 1 - y) := by
  have hl := hm.1
  have hy' : m.height - 1 - y < m.rows.length := by omega
  have hrl : m.rows[m.height - 1 - y].length = m.width := hm.2 _ (List.getElem_mem hy')
  rw [get_eq m _ _ hy']
  unfold SMat.get SMat.rotate180
  simp only
  rw [List.getElem?_map, List.getElem?_reverse (by omega), hl, List.getElem?_eq_getElem hy']
  simp only [Option.map_some, Option.getD_some]
  rw [List.getElem?_reverse (by omega), hrl]

theorem rotate180_eq (m : SMat) (hm : m.WF) :
    m.rotate180 = ofFn m.width m.height (fun x y => m.get (m.width - 1 - x) (m.height - 1 - y)) :=
  eq_ofFn_of _ (rotate180_WF m hm) _ _ _ rfl rfl (fun x y hx hy => get_rotate180 m hm x y hx hy)

end SMat

namespace WMat

theorem rotate180_refines (m : WMat) (h : InvM m) :
    RefinesM m.rotate180 (absM m).rotate180 := by
  have hwl := h.width_le
  have hlen := h.len
  have hwu := h.lt_width
  have hrp := h.rs_pos
  have hN : m.words.length = m.height * m.rowSize := by rw [hlen, Nat.mul_comm]
  unfold WMat.rotate180
  rw [rotate180Swap_eq_reverse m.rowSize m.height m.words hN]
  simp only
  have hspec : (absM m).rotate180 = SMat.ofFn m.width m.height
      (fun x y => mbit m (m.width - 1 - x) (m.height - 1 - y)) := by
    rw [SMat.rotate180_eq _ (absM_WF m)]
    show SMat.ofFn m.width m.height
      (fun x y => (absM m).get (m.width - 1 - x) (m.height - 1 - y)) = _
    congr 1
    funext x y
    have := h.1
    have := h.2.1
    exact absM_get m _ _ (by omega) (by omega)
  rw [hspec]
  have hrowsum : ∀ y, y < m.height →
      (m.height - 1 - y) * m.rowSize + m.rowSize + y * m.rowSize = m.height * m.rowSize := by
    intro y hy
    have : (m.height - 1 - y) + 1 + y = m.height := by omega
    calc (m.height - 1 - y) * m.rowSize + m.rowSize + y * m.rowSize
        = ((m.height - 1 - y) + 1 + y) * m.rowSize := by rw [Nat.add_mul, Nat.add_mul, Nat.one_mul]
      _ = m.height * m.rowSize := by rw [this]
  by_cases hs : m.width % 32 ≠ 0
  · rw [if_pos hs]
    refine ⟨_, rfl, ?_⟩
    have hs32 : m.width % 32 < 32 := Nat.mod_lt _ (by decide)
    have hrevlen : m.words.reverse.length = m.height * m.rowSize := by simpa using hN
    apply cellwise m h _ _
      (by rw [mapRows_length _ _ (realignRow_length _ hs32) _ _ hrevlen]; simp)
      (mapRows_lt _ _ (fun r => realignRow_lt _ hs32 r) _ _ hrevlen)
    intro x y hx hy
    -- the word holding the cell comes from the realigned row
    have hbit : bitAt (mapRows m.rowSize (realignRow (m.width % 32)) m.height m.words.reverse)
          (y * m.rowSize * 32 + x) =
        bitAt (realignRow (m.width % 32) ((m.words.reverse.drop (y * m.rowSize)).take m.rowSize)) x := by
      rw [bitAt_cell, mapRows_get _ _ (realignRow_length _ hs32) _ _ y (x / 32) hrevlen hy (by omega)]
      rfl
    rw [hbit]
    generalize hrow : (m.words.reverse.drop (y * m.rowSize)).take m.rowSize = row
    have hrowlen : row.length = m.rowSize := by
      rw [← hrow, List.length_take, List.length_drop, hrevlen]
      have := hrowsum y hy; omega
    have hrowlt : ∀ w ∈ row, w < W32 := by
      intro w hw
      rw [← hrow] at hw
      exact h.words_lt w (List.mem_reverse.mp (List.mem_of_mem_drop (List.mem_of_mem_take hw)))
    rw [realignRow_bit _ (by omega) hs32 _
      (by intro hnil; have := congrArg List.length hnil; simp [hrowlen] at this; omega) hrowlt]
    by_cases c : x < m.width
    · -- a bit of the row is a bit of the whole word list reversed, words and bits
      have hg : y * m.rowSize * 32 + (x + (32 - m.width % 32)) < m.words.length * 32 := by
        have := hrowsum y hy; omega
      rw [if_pos c, ← hrow, List.map_take, List.map_drop, bitAt_row _ _ _ _ (by omega), List.map_reverse,
        bitAt_reverse_rev32 _ _ hg]
      unfold mbit
      congr 1
      have := hrowsum y hy; omega
    · rw [if_neg c]
      apply bitAt_of_ge
      rw [List.length_map, hrowlen]
      omega
  · rw [if_neg hs]
    refine ⟨_, rfl, ?_⟩
    have hw32 : m.width = m.rowSize * 32 := by omega
    apply cellwise m h _ _ (by simp)
      (by intro w hw; obtain ⟨v, _, rfl⟩ := List.mem_map.mp hw; exact rev32_lt _)
    intro x y hx hy
    rw [List.map_reverse]
    have hg : y * m.rowSize * 32 + x < m.words.length * 32 := by
      have := hrowsum y hy; omega
    rw [bitAt_reverse_rev32 _ _ hg, if_pos (by omega)]
    unfold mbit
    congr 1
    have := hrowsum y hy; omega

end WMat

end Gzx.Bits
