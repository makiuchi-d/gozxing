/-
  The generator polynomial and the Reed-Solomon check words of the REFERENCE Aztec encoder, and their link to C04.
  `Ref.Aztec.genPoly` builds `(x-α)(x-α²)…(x-αⁿ)` with `polyMulLin` (`genPoly_spec`: monic, over the field, with
  these roots); `Ref.Aztec.rsParity` is the shift register of Proofs/LFSR.lean run with the table product
  (`rsParity_eq_lfsr`), so `data ++ parity` is a word with zero syndromes `S_0 … S_{n-1}` over C04's model field
  (`rsParity_roots`, `rsParity_codeword`) for each of the five codeword sizes (`WordOK`), every `n` and every data
  word over the field.  Hence (`rs_encode_unique`) the check words ARE what the model of the library's encoder
  computes, and the model decoder restores the reference codeword from ≤ ⌊n/2⌋ wrong words
  (`rs_corrects_received`).  Algebraic: nothing here enumerates field elements.
-/
import Gzx.Proofs.AztecGF
import Gzx.Proofs.GFParams
import Gzx.Proofs.LFSR
import Gzx.Model.AztecRS
import Gzx.Properties.C04
namespace Gzx.AztecRS
open Gzx Gzx.GF Gzx.Ref.GF Gzx.Proofs.GF Gzx.Proofs.GF2 Gzx.Proofs.Poly Gzx.Ref.Aztec Gzx.AztecGF

/-- the five codeword sizes of ISO/IEC 24778 (4 = mode message) -/
def WordOK (w : Nat) : Prop := w = 4 ∨ w = 6 ∨ w = 8 ∨ w = 10 ∨ w = 12

/-- each primitive polynomial of the reference encoder is primitive of the right degree (Proofs/GFParams.lean) -/
theorem paramsOK (w : Nat) (h : WordOK w) : ParamsOK (primPoly w) (2 ^ w) := by
  rcases h with rfl | rfl | rfl | rfl | rfl
  · exact paramsOK_13_16
  · exact paramsOK_43_64
  · exact paramsOK_12D_256
  · exact paramsOK_409_1024
  · exact paramsOK_1069_4096

/-! ## length of the generator polynomial and of the check words; the check words as a shift register -/

theorem polyMulLin_size (gf : Ref.Aztec.GF) (g : Array Nat) (r : Nat) : (polyMulLin gf g r).size = g.size + 1 := by
  simp [polyMulLin]

theorem genPoly_fold_size (gf : Ref.Aztec.GF) (r : Nat → Nat) :
    ∀ (l : List Nat) (g : Array Nat),
      (l.foldl (fun g i => polyMulLin gf g (r i)) g).size = g.size + l.length := by
  intro l
  induction l with
  | nil => intro g; simp
  | cons i l ih => intro g; simp only [List.foldl_cons, ih, polyMulLin_size, List.length_cons]; omega

theorem genPoly_size (gf : Ref.Aztec.GF) (n : Nat) : (genPoly gf n).size = n + 1 := by
  unfold genPoly
  rw [genPoly_fold_size gf (fun i => gf.exp.getD ((i + 1) % (2 ^ gf.w - 1)) 1)]
  simp
  omega

theorem rsParity_eq_lfsr (w n : Nat) (data : List Nat) :
    rsParity w n data = lfsr (GF.make w).mul ((genPoly (GF.make w) n).toList.drop 1) data := by
  have e : ∀ g, lfsrStep (GF.make w).mul g = fun rem d =>
      List.zipWith (fun r gc => r ^^^ (GF.make w).mul (d ^^^ rem.headD 0) gc) (rem.drop 1 ++ [0]) g := by
    intro g; funext rem d; simp only [lfsrStep, List.zipWith_map_right]
  simp only [rsParity, lfsr, e, List.length_drop, Array.length_toList, genPoly_size, Nat.add_sub_cancel]

theorem rsParity_length (w n : Nat) (data : List Nat) : (rsParity w n data).length = n := by
  rw [rsParity_eq_lfsr, lfsr_length]; simp [genPoly_size]

/-! ## list form of `polyMulLin` -/

theorem range_map_shift (G : List Nat) :
    (List.range (G.length + 1)).map (fun i => if i < G.length then G.getD i 0 else 0) = G ++ [0] := by
  apply List.ext_getElem?
  intro i
  simp only [List.getElem?_map, List.getD_eq_getElem?_getD]
  by_cases h : i < G.length
  · rw [List.getElem?_range (by omega)]
    simp [h, List.getElem?_append_left h]
  · by_cases h2 : i = G.length
    · subst h2
      simp
    · rw [List.getElem?_eq_none (by simp; omega), List.getElem?_eq_none (by simp; omega)]
      rfl

theorem range_map_scale (m : Nat → Nat) (G : List Nat) :
    (List.range (G.length + 1)).map (fun i => if i ≥ 1 then m (G.getD (i - 1) 0) else 0) = 0 :: G.map m := by
  apply List.ext_getElem?
  intro i
  cases i with
  | zero => simp
  | succ i =>
    simp only [List.getElem?_map, List.getElem?_cons_succ, List.getD_eq_getElem?_getD]
    by_cases h : i < G.length
    · rw [List.getElem?_range (by omega)]
      simp [h]
    · rw [List.getElem?_eq_none (by simp; omega), List.getElem?_eq_none (by omega)]
      rfl

/-- `g · (x + r)`: `g·x` xor-ed with `r·g` -/
theorem polyMulLin_toList (gf : Ref.Aztec.GF) (g : Array Nat) (r : Nat) :
    (polyMulLin gf g r).toList =
      List.zipWith (· ^^^ ·) (g.toList ++ [0]) (0 :: g.toList.map (gf.mul · r)) := by
  rw [← range_map_shift, ← range_map_scale (gf.mul · r), List.zipWith_map_left, List.zipWith_map_right, List.zipWith_self]
  unfold polyMulLin
  simp only [Array.toList_map, Array.toList_range, Array.length_toList, Array.getD_eq_getD_getElem?,
    List.getD_eq_getElem?_getD, Array.getElem?_toList]

/-! ## the reference generator polynomial and check words -/

section ref
variable {w : Nat} (ok : ParamsOK (primPoly w) (2 ^ w)) (hw : 2 ≤ w)
include ok hw

/-- the `i`-th root the reference encoder uses is `α^(i+1)` -/
theorem genRoot (i : Nat) :
    (GF.make w).exp.getD ((i + 1) % (2 ^ (GF.make w).w - 1)) 1 = pw (primPoly w) (2 ^ w) (i + 1) := by
  have hwf : (GF.make w).w = w := rfl
  have hs : 0 < 2 ^ w - 1 := by have := one_lt_size ok; omega
  rw [hwf, make_exp ok hw _ (Nat.mod_lt _ hs) 1, pw_mod ok]

theorem genPoly_succ (n : Nat) :
    genPoly (GF.make w) (n + 1) =
      polyMulLin (GF.make w) (genPoly (GF.make w) n) (pw (primPoly w) (2 ^ w) (n + 1)) := by
  unfold genPoly
  rw [List.range_succ, List.foldl_append]
  simp only [List.foldl_cons, List.foldl_nil]
  rw [genRoot ok hw n]

theorem genPoly_spec : ∀ (n : Nat), ∃ gl, (genPoly (GF.make w) n).toList = 1 :: gl ∧ gl.length = n ∧
    InR (2 ^ w) gl ∧ ∀ j, j < n → evalH (primPoly w) (pw (primPoly w) (2 ^ w) (j + 1)) (1 :: gl) = 0
  | 0 => ⟨[], rfl, rfl, InR.nil, fun j hj => by omega⟩
  | n + 1 => by
    obtain ⟨gl, h1, h2, h3, h4⟩ := genPoly_spec n
    have hr : pw (primPoly w) (2 ^ w) (n + 1) < 2 ^ w := pw_lt ok _
    have hG : InR (2 ^ w) (1 :: gl) := InR.cons (one_lt_size ok) h3
    obtain ⟨gl', e, hl, hin, hroots⟩ := mulLinear_monic ok _ hr gl h3
    refine ⟨gl', ?_, by omega, hin, fun j hj => hroots _ (pw_lt ok _) ?_⟩
    · -- `polyMulLin` multiplies by the root from the right, with the table product
      rw [genPoly_succ ok hw n, polyMulLin_toList, h1, ← e]
      congr 2
      exact List.map_congr_left fun c hc =>
        (make_mul ok hw c _ (hG c hc) hr).trans (gmul_comm ok c _ (hG c hc) hr)
    · by_cases hjn : j = n
      · exact Or.inl (by rw [hjn])
      · exact Or.inr (h4 j (by omega))

theorem rsParity_roots (n : Nat) (data : List Nat) (hd : InR (2 ^ w) data) :
    InR (2 ^ w) (rsParity w n data) ∧
    ∀ j, j < n → evalH (primPoly w) (pw (primPoly w) (2 ^ w) (j + 1)) (data ++ rsParity w n data) = 0 := by
  obtain ⟨gl, h1, _, h3, h4⟩ := genPoly_spec ok hw n
  rw [rsParity_eq_lfsr, h1]
  obtain ⟨hin, hroots⟩ := lfsr_codeword ok (GF.make w).mul (make_mul ok hw) gl h3 data hd
  exact ⟨hin, fun j hj => hroots _ (pw_lt ok _) (h4 j hj)⟩

end ref

/-! ## the link to C04 -/

open Gzx.AztecDecoder Gzx.Properties.C04

/-- the field `correctBits` / `getCorrectedParameterData` select is the field of the reference encoder -/
theorem gfOf_eq (w : Nat) (h : WordOK w) : gfOf w = mk' (primPoly w) (2 ^ w) 1 := by
  rcases h with rfl | rfl | rfl | rfl | rfl <;> rfl

theorem gfOf_ok (w : Nat) (h : WordOK w) : FieldOK (gfOf w) := by
  rw [gfOf_eq w h]; exact fieldOK_mk' (paramsOK w h)

theorem gfOf_prim (w : Nat) (h : WordOK w) : (gfOf w).prim = primPoly w := by rw [gfOf_eq w h]; rfl
theorem gfOf_size (w : Nat) (h : WordOK w) : (gfOf w).size = 2 ^ w := by rw [gfOf_eq w h]; rfl
theorem gfOf_base (w : Nat) (h : WordOK w) : (gfOf w).base = 1 := by rw [gfOf_eq w h]; rfl

theorem wordOK_two_le (w : Nat) (h : WordOK w) : 2 ≤ w := by
  rcases h with rfl | rfl | rfl | rfl | rfl <;> decide

/-- **`data ++ rsParity w n data` is a code word of C04's code** (in the field, zero syndromes `S_0 … S_{n-1}`),
    for each of the five codeword sizes, every number `n` of check words and every data word over the field -/
theorem rsParity_codeword (w : Nat) (h : WordOK w) (n : Nat) (data : List Nat) (hd : ∀ x ∈ data, x < 2 ^ w) :
    InField (gfOf w) (data ++ rsParity w n data) ∧ ZeroSyndromes (gfOf w) (data ++ rsParity w n data) n := by
  obtain ⟨h1, h2⟩ := rsParity_roots (paramsOK w h) (wordOK_two_le w h) n data hd
  constructor
  · intro x hx
    rw [gfOf_size w h]
    exact InR.append hd h1 x hx
  · intro i hi
    rw [alpha_eq_pw _ (gfOf_ok w h), gfOf_prim w h, gfOf_size w h, gfOf_base w h]
    exact h2 i hi

/-- **the reference check words are what the model of the library's Reed-Solomon ENCODER computes**
    (`ReedSolomonEncoder.Encode` over the same field; the library has no Aztec writer, so this only says that
    the reference encoder and common/reedsolomon agree on the code) -/
theorem rsParity_eq_rs_encode (w : Nat) (h : WordOK w) (n : Nat) (data : List Nat) (hne : data ≠ [])
    (hn : 0 < n) (hd : ∀ x ∈ data, x < 2 ^ w) (hlen : data.length + n ≤ 2 ^ w - 1) :
    Gzx.RS.encode (gfOf w) data n = .ok (rsParity w n data) := by
  obtain ⟨h1, h2⟩ := rsParity_codeword w h n data hd
  have hs := gfOf_size w h
  have hb := gfOf_base w h
  exact rs_encode_unique (gfOf w) (gfOf_ok w h) data (rsParity w n data) n hne hn
    (fun x hx => h1 x (List.mem_append_left _ hx)) (fun x hx => h1 x (List.mem_append_right _ hx))
    (rsParity_length w n data) (by rw [hs]; exact hlen) (by rw [hs, hb]; omega) h2

/-- the model decoder restores a reference code word from any received word over the field that differs from
    it in at most ⌊n/2⌋ positions -/
theorem rsModel_corrects (w : Nat) (h : WordOK w) (n : Nat) (data v : List Nat) (hne : data ≠ [])
    (hd : ∀ x ∈ data, x < 2 ^ w) (hlen : data.length + n ≤ 2 ^ w - 1)
    (hvl : v.length = data.length + n) (hv : ∀ x ∈ v, x < 2 ^ w)
    (hham : 2 * hamming (data ++ rsParity w n data) v ≤ n) :
    rsModel w v n = .ok (data ++ rsParity w n data) := by
  obtain ⟨h1, h2⟩ := rsParity_codeword w h n data hd
  have hs := gfOf_size w h
  have hb := gfOf_base w h
  have hcl : (data ++ rsParity w n data).length = data.length + n := by
    rw [List.length_append, rsParity_length]
  unfold rsModel
  exact rs_corrects_received (gfOf w) (gfOf_ok w h) (by rw [hb]; omega) _ v n (by rw [hcl, hvl])
    (by rw [hcl, hs]; exact hlen) h1 (by intro x hx; rw [hs]; exact hv x hx) h2 (by simp [hne])
    (by rw [hs, hb]; have := List.length_pos_iff.2 hne; omega) hham

end Gzx.AztecRS
