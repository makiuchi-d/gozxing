/-
  The PURE-BARCODE image path, geometry part.

  `Shows img mw mh m s padX padY`: the bit image `img` shows the `mw x mh` module matrix `m` as `s x s`
  blocks whose top-left corner is `(padX, padY)`, everything else white — exactly what C14 proves of the
  renderers (`renderQR_pixel`, `renderDM_pixel`) and what C17 proves the binarisers keep of a bilevel
  picture.  On such an image:

    * `GetTopLeftOnBit` / `GetBottomRightOnBit` (specification level, Model/PureBits.lean) return the
      corners of the symbol when module (0,0) / module (mw-1, mh-1) are dark;
    * the read-off loops sample the centre of every block and return exactly the module matrix;
    * the Data Matrix `moduleSize` walk along the top row measures `s` when module (1,0) is light;
    * hence `DM.extractPureBits = m` (`dm_extract_shows`).
-/
import Gzx.Proofs.PureBits
import Gzx.Proofs.Render
namespace Gzx.Image2D
open Gzx Gzx.Det Gzx.Det.Pure

/-- the module matrix as rows of cells (row `j`, column `i` ↦ `m i j`), the shape `Bits.rows` has -/
def matrixRows (mw mh : Nat) (m : Nat → Nat → Bool) : List (List Bool) :=
  (List.range mh).map (fun j => (List.range mw).map (fun i => m i j))

/-- `img` shows `m` at scale `s` with its top-left corner at `(padX, padY)`; white elsewhere -/
structure Shows (img : Img) (mw mh : Nat) (m : Nat → Nat → Bool) (s padX padY : Int) : Prop where
  s_pos : 1 ≤ s
  padX_nonneg : 0 ≤ padX
  padY_nonneg : 0 ≤ padY
  fitX : padX + (mw : Int) * s ≤ img.w
  fitY : padY + (mh : Int) * s ≤ img.h
  pix : ∀ x y, img.inside x y → (img.pix x y = true ↔
    (padX ≤ x ∧ x < padX + (mw : Int) * s ∧ padY ≤ y ∧ y < padY + (mh : Int) * s ∧
      m ((x - padX) / s).toNat ((y - padY) / s).toNat = true))

/-- a reader that answers the pixel inside the image (both `rdGo` and `rdStrict` do) -/
def Reads (rd : Reader) (img : Img) : Prop := ∀ x y, img.inside x y → rd x y = .ok (img.pix x y)

theorem reads_rdGo (img : Img) : Reads img.rdGo img := by
  intro x y ⟨h1, h2, h3, h4⟩
  have : img.outside x y = false := by
    simp only [Img.outside, Bool.or_eq_false_iff, decide_eq_false_iff_not]; omega
  simp [Img.rdGo, Img.get, this]

theorem reads_rdStrict (img : Img) : Reads img.rdStrict img := by
  intro x y ⟨h1, h2, h3, h4⟩
  have : img.outside x y = false := by
    simp only [Img.outside, Bool.or_eq_false_iff, decide_eq_false_iff_not]; omega
  simp [Img.rdStrict, this]

namespace Shows
variable {img : Img} {mw mh : Nat} {m : Nat → Nat → Bool} {s padX padY : Int}

theorem block (h : Shows img mw mh m s padX padY) (i j : Nat) (hi : i < mw) (hj : j < mh)
    (dx dy : Int) (hdx : 0 ≤ dx ∧ dx < s) (hdy : 0 ≤ dy ∧ dy < s) :
    img.inside (padX + (i : Int) * s + dx) (padY + (j : Int) * s + dy) ∧
    img.pix (padX + (i : Int) * s + dx) (padY + (j : Int) * s + dy) = m i j := by
  have hs := h.s_pos; have hX := h.fitX; have hY := h.fitY; have hpx := h.padX_nonneg; have hpy := h.padY_nonneg
  obtain ⟨ni, ei⟩ := Render.block_bounds s i mw (by omega) hi
  obtain ⟨nj, ej⟩ := Render.block_bounds s j mh (by omega) hj
  have hin : img.inside (padX + (i : Int) * s + dx) (padY + (j : Int) * s + dy) :=
    ⟨by omega, by omega, by omega, by omega⟩
  exact ⟨hin, Render.block_px hs hi hj hdx hdy (h.pix _ _ hin)⟩

theorem white (h : Shows img mw mh m s padX padY) (x y : Int) (hin : img.inside x y)
    (ho : x < padX ∨ padX + (mw : Int) * s ≤ x ∨ y < padY ∨ padY + (mh : Int) * s ≤ y) :
    img.pix x y = false := by
  refine Bool.eq_false_iff.mpr fun hq => ?_
  have := (h.pix x y hin).1 hq
  omega

theorem symbolPix (h : Shows img mw mh m s padX padY) (dx dy : Int) (hx : 0 ≤ dx ∧ dx < (mw : Int) * s)
    (hy : 0 ≤ dy ∧ dy < (mh : Int) * s) :
    img.inside (padX + dx) (padY + dy) ∧ img.pix (padX + dx) (padY + dy) = m (dx / s).toNat (dy / s).toNat := by
  have hX := h.fitX; have hY := h.fitY; have hpx := h.padX_nonneg; have hpy := h.padY_nonneg
  have hin : img.inside (padX + dx) (padY + dy) := ⟨by omega, by omega, by omega, by omega⟩
  refine ⟨hin, ?_⟩
  have hp := h.pix _ _ hin
  rw [show padX + dx - padX = dx by omega, show padY + dy - padY = dy by omega] at hp
  exact Bool.eq_iff_iff.mpr (hp.trans ⟨fun h => h.2.2.2.2, fun hm => ⟨by omega, by omega, by omega, by omega, hm⟩⟩)

theorem dims_pos (h : Shows img mw mh m s padX padY) (hw : 1 ≤ mw) (hh : 1 ≤ mh) : 1 ≤ img.w ∧ 1 ≤ img.h := by
  have hs := h.s_pos; have hX := h.fitX; have hY := h.fitY; have hpx := h.padX_nonneg; have hpy := h.padY_nonneg
  obtain ⟨-, e1⟩ := Render.block_bounds s 0 mw (by omega) hw
  obtain ⟨-, e2⟩ := Render.block_bounds s 0 mh (by omega) hh
  simp only [Int.natCast_zero, Int.zero_mul, Int.zero_add] at e1 e2
  omega

end Shows

/-! ## the corner scans -/

theorem rowFirst_eq (p : Int → Bool) : ∀ (n : Nat) (x r : Int), x ≤ r → r < x + n → p r = true →
    (∀ x', x ≤ x' → x' < r → p x' = false) → rowFirst p n x = some r
  | 0, _, _, h1, h2, _, _ => by omega
  | n + 1, x, r, h1, h2, hp, hw => by
    unfold rowFirst
    by_cases hx : x = r
    · subst hx; simp [hp]
    · rw [hw x (Int.le_refl _) (by omega)]
      exact rowFirst_eq p n (x + 1) r (by omega) (by omega) hp (fun x' a b => hw x' (by omega) b)

theorem rowFirst_none (p : Int → Bool) : ∀ (n : Nat) (x : Int),
    (∀ x', x ≤ x' → x' < x + n → p x' = false) → rowFirst p n x = none
  | 0, _, _ => rfl
  | n + 1, x, hw => by
    unfold rowFirst
    rw [hw x (Int.le_refl _) (by omega)]
    exact rowFirst_none p n (x + 1) (fun x' a b => hw x' (by omega) (by omega))

theorem rowLast_eq (p : Int → Bool) : ∀ (n : Nat) (x r : Int), r ≤ x → x - n < r → p r = true →
    (∀ x', r < x' → x' ≤ x → p x' = false) → rowLast p n x = some r
  | 0, _, _, h1, h2, _, _ => by omega
  | n + 1, x, r, h1, h2, hp, hw => by
    unfold rowLast
    by_cases hx : x = r
    · subst hx; simp [hp]
    · rw [hw x (by omega) (Int.le_refl _)]
      exact rowLast_eq p n (x - 1) r (by omega) (by omega) hp (fun x' a b => hw x' a (by omega))

theorem rowLast_none (p : Int → Bool) : ∀ (n : Nat) (x : Int),
    (∀ x', x - n < x' → x' ≤ x → p x' = false) → rowLast p n x = none
  | 0, _, _ => rfl
  | n + 1, x, hw => by
    unfold rowLast
    rw [hw x (by omega) (Int.le_refl _)]
    exact rowLast_none p n (x - 1) (fun x' a b => hw x' (by omega) (by omega))

theorem topLeftFrom_eq (img : Img) (x0 y0 : Int) : ∀ (n : Nat) (y : Int), y ≤ y0 → y0 < y + n →
    (∀ y', y ≤ y' → y' < y0 → ∀ x', 0 ≤ x' → x' < img.w → img.pix x' y' = false) →
    rowFirst (fun x => img.pix x y0) img.w.toNat 0 = some x0 →
    topLeftFrom img n y = some (x0, y0)
  | 0, _, h1, h2, _, _ => by omega
  | n + 1, y, h1, h2, hw, hr => by
    unfold topLeftFrom
    by_cases hy : y = y0
    · subst hy; rw [hr]
    · rw [rowFirst_none _ _ _ (fun x' a b => hw y (Int.le_refl _) (by omega) x' a (by omega))]
      exact topLeftFrom_eq img x0 y0 n (y + 1) (by omega) (by omega) (fun y' a b => hw y' (by omega) b) hr

theorem bottomRightFrom_eq (img : Img) (x0 y0 : Int) : ∀ (n : Nat) (y : Int), y0 ≤ y → y - n < y0 →
    (∀ y', y0 < y' → y' ≤ y → ∀ x', 0 ≤ x' → x' < img.w → img.pix x' y' = false) →
    rowLast (fun x => img.pix x y0) img.w.toNat (img.w - 1) = some x0 →
    bottomRightFrom img n y = some (x0, y0)
  | 0, _, h1, h2, _, _ => by omega
  | n + 1, y, h1, h2, hw, hr => by
    unfold bottomRightFrom
    by_cases hy : y = y0
    · subst hy; rw [hr]
    · rw [rowLast_none _ _ _ (fun x' a b => hw y (by omega) (Int.le_refl _) x' (by omega) (by omega))]
      exact bottomRightFrom_eq img x0 y0 n (y - 1) (by omega) (by omega) (fun y' a b => hw y' a (by omega)) hr

section corners
variable {img : Img} {mw mh : Nat} {m : Nat → Nat → Bool} {s padX padY : Int}

/-- `GetTopLeftOnBit` on an image that shows `m` with a dark module (0,0): the symbol's top-left pixel -/
theorem topLeft_shows (h : Shows img mw mh m s padX padY) (hw : 1 ≤ mw) (hh : 1 ≤ mh) (h00 : m 0 0 = true) :
    topLeft img = some (padX, padY) := by
  have hs := h.s_pos; have hX := h.fitX; have hY := h.fitY; have hpx := h.padX_nonneg; have hpy := h.padY_nonneg
  have e1 : (1 : Int) * s ≤ (mw : Int) * s := Int.mul_le_mul_of_nonneg_right (by omega) (by omega)
  have e2 : (1 : Int) * s ≤ (mh : Int) * s := Int.mul_le_mul_of_nonneg_right (by omega) (by omega)
  rw [Int.one_mul] at e1 e2
  have hb := h.block 0 0 (by omega) (by omega) 0 0 ⟨by omega, by omega⟩ ⟨by omega, by omega⟩
  simp only [Int.natCast_zero, Int.zero_mul, Int.add_zero] at hb
  unfold topLeft
  refine topLeftFrom_eq img padX padY _ 0 hpy (by omega) ?_ ?_
  · intro y' a b x' c d
    exact h.white x' y' ⟨c, d, a, by omega⟩ (by omega)
  · refine rowFirst_eq _ _ 0 padX hpx (by omega) (by rw [hb.2, h00]) ?_
    intro x' a b
    exact h.white x' padY ⟨a, by omega, hpy, by omega⟩ (by omega)

/-- `GetBottomRightOnBit` when the last module row's last dark module is in column `J`: the bottom-right
    pixel of that module -/
theorem bottomRight_shows_col (h : Shows img mw mh m s padX padY) (hh : 1 ≤ mh) (J : Nat) (hJ : J < mw)
    (hd : m J (mh - 1) = true) (hlast : ∀ j', J < j' → j' < mw → m j' (mh - 1) = false) :
    bottomRight img = some (padX + ((J : Int) + 1) * s - 1, padY + (mh : Int) * s - 1) := by
  have hs := h.s_pos; have hX := h.fitX; have hY := h.fitY; have hpx := h.padX_nonneg; have hpy := h.padY_nonneg
  obtain ⟨nJ, eJ⟩ := Render.block_bounds s J mw (by omega) hJ
  obtain ⟨nY, eY⟩ := Render.block_bounds s (mh - 1) mh (by omega) (by omega)
  have cY : ((mh - 1 : Nat) : Int) * s + s = (mh : Int) * s := by
    rw [show ((mh - 1 : Nat) : Int) = (mh : Int) - 1 by omega, Int.sub_mul]; omega
  have eY' : padY + (mh : Int) * s - 1 = padY + ((mh - 1 : Nat) : Int) * s + (s - 1) := by omega
  rw [Int.add_mul, Int.one_mul, eY']
  have hb := h.block J (mh - 1) hJ (by omega) (s - 1) (s - 1) ⟨by omega, by omega⟩ ⟨by omega, by omega⟩
  rw [show padX + (J : Int) * s + (s - 1) = padX + ((J : Int) * s + s) - 1 by omega] at hb
  unfold bottomRight
  refine bottomRightFrom_eq img _ _ _ (img.h - 1) (by omega) (by omega) ?_ ?_
  · intro y' a b x' c d
    exact h.white x' y' ⟨c, d, by omega, by omega⟩ (by omega)
  · refine rowLast_eq _ _ (img.w - 1) _ (by omega) (by omega) (by rw [hb.2, hd]) ?_
    intro x' a b
    refine Bool.eq_false_iff.mpr fun hq => ?_
    obtain ⟨p1, p2, -, -, p5⟩ := (h.pix _ _ ⟨by omega, by omega, by omega, by omega⟩).1 hq
    -- the module of that pixel lies in the last row, right of column `J`
    have i1 := Render.block_range s (x' - padX) (J + 1) mw (by omega)
      (by rw [Int.natCast_add, Int.add_mul]; simp; omega) (by omega)
    rw [Render.block_index_add s padY (s - 1) (mh - 1) (by omega) ⟨by omega, by omega⟩,
      hlast _ (by omega) i1.2] at p5
    cases p5

/-- `GetBottomRightOnBit` with a dark module (mw-1, mh-1): the symbol's bottom-right pixel -/
theorem bottomRight_shows (h : Shows img mw mh m s padX padY) (hw : 1 ≤ mw) (hh : 1 ≤ mh)
    (hll : m (mw - 1) (mh - 1) = true) :
    bottomRight img = some (padX + (mw : Int) * s - 1, padY + (mh : Int) * s - 1) := by
  have := bottomRight_shows_col h hh (mw - 1) (by omega) hll (fun j' a b => by omega)
  rwa [show ((mw - 1 : Nat) : Int) + 1 = (mw : Int) by omega] at this

end corners

/-! ## the read-off returns what the reader answers -/

theorem readOff_eq {rd : Reader} (mw mh : Nat) (m : Nat → Nat → Bool) (xAt yAt : Int → Int)
    (hw : 1 ≤ mw) (hh : 1 ≤ mh)
    (hrd : ∀ i j : Nat, i < mw → j < mh → rd (xAt i) (yAt j) = .ok (m i j)) :
    readOff rd mw mh xAt yAt = .ok { w := mw, h := mh, rows := matrixRows mw mh m } := by
  rw [readOff_mapME (mw : Int) (mh : Int) xAt yAt (by omega) (by omega), Int.toNat_natCast, Int.toNat_natCast,
    mapME_eq_map _ (fun j => (List.range mw).map fun i => m i j) _ fun j hj =>
      mapME_eq_map _ (fun i => m i j) _ fun i hi => hrd i j (List.mem_range.mp hi) (List.mem_range.mp hj)]
  rfl

/-- the step both extractors end in: sampling the centre of every block reads the module matrix -/
theorem readOff_centres {img : Img} {mw mh : Nat} {m : Nat → Nat → Bool} {s padX padY : Int} {rd : Reader}
    (h : Shows img mw mh m s padX padY) (hrd : Reads rd img) (hw : 1 ≤ mw) (hh : 1 ≤ mh)
    (xAt yAt : Int → Int) (hx : ∀ i : Nat, i < mw → xAt i = padX + s / 2 + (i : Int) * s)
    (hy : ∀ j : Nat, j < mh → yAt j = padY + s / 2 + (j : Int) * s) :
    readOff rd mw mh xAt yAt = .ok { w := mw, h := mh, rows := matrixRows mw mh m } := by
  have hs := h.s_pos
  refine readOff_eq mw mh m _ _ hw hh fun i j hi hj => ?_
  have hb := h.block i j hi hj (s / 2) (s / 2) ⟨by omega, by omega⟩ ⟨by omega, by omega⟩
  rw [hx i hi, hy j hj, show padX + s / 2 + (i : Int) * s = padX + (i : Int) * s + s / 2 by omega,
    show padY + s / 2 + (j : Int) * s = padY + (j : Int) * s + s / 2 by omega, hrd _ _ hb.1, hb.2]

/-- `walk` (step 1) over the cells `p .. e-1` of the walked colour followed by the cell `e` of the other colour,
    all within the limit and the cap: it stops on `e`, having counted `e - p` -/
theorem walk_run {rd : Reader} (pt : Int → Int × Int) (color : Bool) (lim cap : Int → Bool) :
    ∀ (d n : Nat) (p e cnt : Int), e = p + d → d < n →
      (∀ j, p ≤ j → j < e → lim j = true ∧ rd (pt j).1 (pt j).2 = .ok color ∧ cap (cnt + (j - p)) = true) →
      lim e = true → rd (pt e).1 (pt e).2 = .ok (!color) →
      walk rd pt color 1 lim cap n p cnt = .ok (e, cnt + (e - p)) := by
  intro d
  induction d with
  | zero =>
    intro n p e cnt hd hn _ hl hr
    obtain rfl : p = e := by omega
    obtain ⟨n', rfl⟩ : ∃ n', n = n' + 1 := ⟨n - 1, by omega⟩
    unfold walk
    simp only [hl, if_true, hr, bind, Except.bind, Int.sub_self, Int.add_zero]
    cases color <;> rfl
  | succ d ih =>
    intro n p e cnt hd hn hrun hl hr
    obtain ⟨n', rfl⟩ : ∃ n', n = n' + 1 := ⟨n - 1, by omega⟩
    obtain ⟨l0, r0, c0⟩ := hrun p (Int.le_refl _) (by omega)
    rw [Int.sub_self, Int.add_zero] at c0
    unfold walk
    simp only [l0, if_true, r0, bind, Except.bind, c0, beq_self_eq_true, Bool.and_self]
    rw [ih n' (p + 1) e (cnt + 1) (by omega) (by omega)
      (fun j h1 h2 => by
        rw [show cnt + 1 + (j - (p + 1)) = cnt + (j - p) by omega]
        exact hrun j (by omega) h2) hl hr,
      show cnt + 1 + (e - (p + 1)) = cnt + (e - p) by omega]

/-! ## Data Matrix: `moduleSize` and `extractPureBits` on an image that shows `m` -/

section dm
variable {img : Img} {mw mh : Nat} {m : Nat → Nat → Bool} {s padX padY : Int} {rd : Reader}

/-- the walk along the top row from the top-left pixel measures the block size when module (0,0) is
    dark and module (1,0) is light (the alternating track of a Data Matrix symbol) -/
theorem dm_moduleSize_shows (h : Shows img mw mh m s padX padY) (hrd : Reads rd img)
    (hw : 2 ≤ mw) (hh : 1 ≤ mh) (h00 : m 0 0 = true) (h10 : m 1 0 = false) :
    DM.moduleSize rd img.w padX padY = .ok s := by
  have hs := h.s_pos; have hX := h.fitX; have hY := h.fitY; have hpx := h.padX_nonneg; have hpy := h.padY_nonneg
  have e1 : (2 : Int) * s ≤ (mw : Int) * s := Int.mul_le_mul_of_nonneg_right (by omega) (by omega)
  have hrun := walk_run (rd := rd) (fun x => (x, padY)) true (fun x => decide (x < img.w)) (fun _ => true)
    s.toNat (fuelTo img.w padX) padX (padX + s) 0 (by omega) (by unfold fuelTo; omega)
    (by
      intro j h1 h2
      have hb := h.block 0 0 (by omega) (by omega) (j - padX) 0 ⟨by omega, by omega⟩ ⟨by omega, by omega⟩
      simp only [Int.natCast_zero, Int.zero_mul, Int.add_zero] at hb
      rw [show padX + (j - padX) = j by omega] at hb
      refine ⟨by simp; omega, ?_, rfl⟩
      simp only []
      rw [hrd _ _ hb.1, hb.2, h00])
    (by simp; omega)
    (by
      have hb := h.block 1 0 (by omega) (by omega) 0 0 ⟨by omega, by omega⟩ ⟨by omega, by omega⟩
      simp only [Int.natCast_zero, Int.zero_mul, Int.add_zero, Int.natCast_one, Int.one_mul] at hb
      simp only []
      rw [hrd _ _ hb.1, hb.2, h10]
      rfl)
  unfold DM.moduleSize
  rw [hrun]
  simp only [bind, Except.bind, pure, Except.pure]
  have n1 : ¬ (padX + s = img.w) := by omega
  have n2 : ¬ (padX + s - padX = 0) := by omega
  simp only [n1, n2, if_false]
  congr 1; omega

/-- The facts used are the three the code relies on — module (0,0) dark (top-left corner of the "L"), module (1,0)
    light (second module of the alternating top track: the run that `moduleSize` measures ends there), module
    (mw-1, mh-1) dark (right end of the solid bottom row) — and `mw ≥ 2`. -/
theorem dm_extract_shows (h : Shows img mw mh m s padX padY) (hrd : Reads rd img)
    (hw : 2 ≤ mw) (hh : 1 ≤ mh) (h00 : m 0 0 = true) (h10 : m 1 0 = false)
    (hll : m (mw - 1) (mh - 1) = true) :
    DM.extractPureBits rd img = .ok { w := mw, h := mh, rows := matrixRows mw mh m } := by
  have hs := h.s_pos
  have hne : s ≠ 0 := by omega
  unfold DM.extractPureBits
  rw [topLeft_shows h (by omega) hh h00, bottomRight_shows h (by omega) hh hll]
  simp only [dm_moduleSize_shows h hrd hw hh h00 h10, bind, Except.bind]
  have d1 : padX + (mw : Int) * s - 1 - padX + 1 = (mw : Int) * s := by omega
  have d2 : padY + (mh : Int) * s - 1 - padY + 1 = (mh : Int) * s := by omega
  simp only [DM.dims, goDiv, hne, if_false, bind, Except.bind, pure, Except.pure, d1, d2,
    Int.mul_tdiv_cancel _ hne]
  have npos : ¬ ((mw : Int) ≤ 0 ∨ (mh : Int) ≤ 0) := by omega
  simp only [npos, if_false, DM.nudged]
  have hn : Int.tdiv s 2 = s / 2 := Int.tdiv_eq_ediv_of_nonneg (by omega)
  rw [hn]
  exact readOff_centres h hrd (by omega) hh _ _ (fun _ _ => rfl) (fun _ _ => rfl)

end dm

end Gzx.Image2D
