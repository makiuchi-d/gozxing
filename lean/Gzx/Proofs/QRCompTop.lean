/-
  C05 composition: the decoder model on a matrix whose data cells carry a RECEIVED codeword stream — the
  interleaving of received blocks that have the shape of the written blocks and differ from them in at most
  ⌊ecPerBlock/2⌋ codewords each — and whose format / version information is damaged within the limits of
  `Damaged` (Proofs/QRMultiComb.lean) returns what the undamaged symbol returns (`decode_damaged`); the reference
  symbol carrying the received stream is the case without damage to the function patterns (`decode_received`).
  Reed-Solomon correction is C04's `rs_corrects_received` over the QR field (`QRComp.rsQR_corrects`).
-/
import Gzx.Proofs.QRCompBlocks
import Gzx.Proofs.QRMultiComb
import Gzx.Proofs.QRCompStream
import Gzx.Proofs.QRMultiFit
namespace Gzx.QRComp
open Gzx Gzx.QRDec Gzx.ECI

/-- composition skeleton of `Decoder.Decode` (first attempt succeeds) -/
theorem decode_layers (T : Tables) (rs : List Nat → Nat → Res (List Nat)) (hint : Hint) (m : Matrix)
    (hdim : ¬ (m.dim < 21 ∨ m.dim % 4 ≠ 1))
    (v : VersionInfo) (p1 : Parser) (h_version : readVersion T { m := m } = .ok (v, p1))
    (fi : EC × Nat) (p2 : Parser) (h_format : readFormatInformation T p1 = .ok (fi, p2))
    (raw : List Nat) (p3 : Parser) (h_place : readCodewords T p2 = (.ok raw, p3))
    (blocks : List (Nat × List Nat)) (h_deint : getDataBlocks raw v fi.1 = .ok blocks)
    (data : List Nat) (h_rs : correctBlocks rs blocks = .ok data)
    (parsed : Parsed) (h_parse : parse T.eci data v.num hint = .ok parsed) :
    decode T rs hint m = .ok ⟨parsed, fi.1, v.num, data, false⟩ := by
  unfold decode newParser
  simp only [hdim, if_false]
  unfold decodeOnce
  simp only [h_version, h_format, h_place, h_deint, wrapF, bind, Except.bind, h_rs, h_parse]

/-- received blocks: same shape as the written blocks, bytes, at most ⌊e/2⌋ wrong codewords per block -/
structure Received (v : Nat) (ec : QRRef.EC) (data : List Nat) (recv : List (List Nat × List Nat)) : Prop where
  shape : recv.map (fun b => (b.1.length, b.2.length)) =
    (refBlocks v ec data).map (fun b => (b.1.length, b.2.length))
  bytes : ∀ b ∈ recv, ∀ x ∈ b.1 ++ b.2, x < 256
  errors : ∀ p ∈ (refBlocks v ec data).zip recv,
    2 * Gzx.Properties.C04.hamming (p.1.1 ++ p.1.2) (p.2.1 ++ p.2.2) ≤ QRRef.ecPerBlock v ec

theorem decode_damaged (T : Tables) (hT : TablesConform T) (hint : Hint) (v : Nat) (h1 : 1 ≤ v) (h40 : v ≤ 40)
    (ec : QRRef.EC) (mask : Nat) (hm : mask < 8) (bits : List Bool)
    (hfit : bits.length ≤ 8 * QRRef.dataCodewords v ec) (parsed : Parsed)
    (hparse : ∀ tail, Terminated tail → parseStream T.eci (bits ++ tail) v hint = .ok parsed)
    (recv : List (List Nat × List Nat))
    (hrecv : Received v ec (QRRef.terminate (QRRef.dataCodewords v ec) bits) recv)
    (m : Matrix) (hD : Damaged v ec mask (QRDec.interleave recv) m) :
    decode T rsQR hint m =
      .ok ⟨parsed, toDecEC ec, v, QRRef.terminate (QRRef.dataCodewords v ec) bits, false⟩ := by
  revert hrecv
  generalize hdata : QRRef.terminate (QRRef.dataCodewords v ec) bits = data
  intro hrecv
  have hd : data.length = QRRef.dataCodewords v ec := by
    rw [← hdata]; exact QRRef.terminate_length _ _ hfit
  have hb : ∀ x ∈ data, x < 256 := by rw [← hdata]; exact terminate_lt _ _
  obtain ⟨s, l, q, hs, hq, h255, hlens, hpar, eb, heb, hec, hshape0, htot0⟩ :=
    refBlocks_structure v h1 h40 ec data hd
  have w := shortLong_of_lengths _ s l q _ hs hlens hpar
  have hsplit := List.take_append_drop s (refBlocks v ec data)
  have hsh : shape recv = shape ((refBlocks v ec data).take s ++ (refBlocks v ec data).drop s) := by
    rw [hsplit]; exact hrecv.shape
  -- de-interleaving, and Reed-Solomon correction block by block (`rsQR_corrects`, C04)
  obtain ⟨hde, hrs⟩ := deinterleave_correct rsQR w hsh (refVersion v) (toDecEC ec) eb heb hec
    (by rw [hsplit, hshape0, ← hlens, List.map_map]; rfl) (by rw [hsplit]; exact htot0) (by
      rw [hsplit]
      intro p hp
      have hmem : p.1 ∈ refBlocks v ec data := (List.of_mem_zip hp).1
      obtain ⟨hparity, hne, hbytes, hecm⟩ := refBlocks_mem v h1 h40 ec data hd hb p.1 hmem
      have hlen := zip_shape hrecv.shape p hp
      have hq1 : p.1.1.length ≤ q + 1 := (w.data_len p.1 (by rw [hsplit]; exact hmem)).2.1
      have herr := hrecv.errors p hp
      rw [hparity] at herr ⊢
      exact rsQR_corrects _ hecm p.1.1 hne hbytes (by omega) (p.2.1 ++ p.2.2)
        (by rw [List.length_append, (Prod.mk.inj hlen).1, (Prod.mk.inj hlen).2, hpar p.1 hmem])
        (hrecv.bytes p.2 (List.of_mem_zip hp).2) herr)
  rw [hsplit, refBlocks_data v h1 h40 ec data hd] at hrs
  -- what the matrix carries: `totalCodewords v` bytes
  have hl : (QRDec.interleave recv).length = QRRef.totalCodewords v := by
    rw [interleave_length_shape w hsh, hsplit, ← htot0, refVersion_total v h1 h40]
  have hcb : ∀ x ∈ QRDec.interleave recv, x < 256 := by
    intro x hx
    obtain ⟨b, hbm, hxb⟩ := mem_interleave recv x hx
    exact hrecv.bytes b hbm x (List.mem_append.mpr hxb)
  -- the four layers: matrix reads, de-interleaving, Reed-Solomon correction, the bit stream
  refine decode_layers T rsQR hint m (by rw [hD.dim]; omega) (refVersion v) _
    (readVersion_damaged v h1 h40 ec mask _ m T hT hD) (toDecEC ec, mask) _
    (readFormat_damaged v ec mask _ m T hT hD hm)
    (QRDec.interleave recv) _ (Prod.ext (readCodewords_damaged v h1 h40 ec mask _ m T hT hD hl hcb) rfl)
    _ hde data hrs parsed ?_
  unfold parse
  obtain ⟨tail, hbits, hterm⟩ := terminate_stream (QRRef.dataCodewords v ec) bits hfit
  rw [← hdata, hbits]
  exact hparse tail hterm

theorem decode_received (T : Tables) (hT : TablesConform T) (hint : Hint) (v : Nat) (h1 : 1 ≤ v) (h40 : v ≤ 40)
    (ec : QRRef.EC) (mask : Nat) (hm : mask < 8) (bits : List Bool)
    (hfit : bits.length ≤ 8 * QRRef.dataCodewords v ec) (parsed : Parsed)
    (hparse : ∀ tail, Terminated tail → parseStream T.eci (bits ++ tail) v hint = .ok parsed)
    (recv : List (List Nat × List Nat))
    (hrecv : Received v ec (QRRef.terminate (QRRef.dataCodewords v ec) bits) recv) :
    decode T rsQR hint (matrixOf (QRRef.refMatrix v ec mask (QRDec.interleave recv))) =
      .ok ⟨parsed, toDecEC ec, v, QRRef.terminate (QRRef.dataCodewords v ec) bits, false⟩ :=
  decode_damaged T hT hint v h1 h40 ec mask hm bits hfit parsed hparse recv hrecv _
    (damaged_sym v h1 h40 ec mask _)

theorem received_refBlocks (v : Nat) (ec : QRRef.EC) (data : List Nat) (hb : ∀ d ∈ data, d < 256) :
    Received v ec data (refBlocks v ec data) := by
  refine ⟨rfl, ?_, ?_⟩
  · intro b hbm x hx
    unfold refBlocks at hbm
    obtain ⟨blk, hblk, rfl⟩ := List.mem_map.mp hbm
    rcases List.mem_append.mp hx with h | h
    · exact hb x (QRRef.mem_splitBlocks _ _ blk hblk x h)
    · exact QRRef.rsParity_lt blk _ (fun d hd => hb d (QRRef.mem_splitBlocks _ _ blk hblk d hd)) x h
  · intro p hp
    rw [← zip_self_mem hp]
    unfold Gzx.Properties.C04.hamming
    rw [Gzx.Proofs.MinDist.weight_zipWith_self]
    omega

/-! ### payloads that are item lists (`QRMulti`): the parser hypothesis is discharged -/

open Gzx.QRMulti in
/-- any sequence of segments, ECI designators, FNC1 indicators and structured-append headers, in a matrix damaged within
    the limits of `Damaged`, with received blocks within the Reed-Solomon capacity: the decoder returns the meaning of
    the item list -/
theorem decode_damaged_items (T : Tables) (hT : TablesConform T) (hint : Hint) (v : Nat) (h1 : 1 ≤ v) (h40 : v ≤ 40)
    (ec : QRRef.EC) (mask : Nat) (hm : mask < 8) (items : List Item) (g : List Nat → Charset)
    (hc : ∀ it ∈ items, it.Content T.eci)
    (hg : ∀ bs ∈ guessed false items, guessCharset T.eci bs hint = .ok (g bs))
    (hfit : (bitsOf v items).length ≤ 8 * QRRef.dataCodewords v ec)
    (recv : List (List Nat × List Nat))
    (hrecv : Received v ec (QRRef.terminate (QRRef.dataCodewords v ec) (bitsOf v items)) recv)
    (m : Matrix) (hD : Damaged v ec mask (QRDec.interleave recv) m) :
    decode T rsQR hint m = .ok ⟨toParsed (run T.eci g {} items), toDecEC ec, v,
      QRRef.terminate (QRRef.dataCodewords v ec) (bitsOf v items), false⟩ :=
  decode_damaged T hT hint v h1 h40 ec mask hm _ hfit _
    (fun tail ht => parseStream_items T.eci v hint g items
      (fun it hit => ⟨hc it hit, countOK_of_fit_all v h1 h40 ec items hfit it hit⟩) hg tail ht) recv hrecv m hD

open Gzx.QRMulti in
theorem decode_ref_items (T : Tables) (hT : TablesConform T) (hint : Hint) (v : Nat) (h1 : 1 ≤ v) (h40 : v ≤ 40)
    (ec : QRRef.EC) (mask : Nat) (hm : mask < 8) (items : List Item) (g : List Nat → Charset)
    (hc : ∀ it ∈ items, it.Content T.eci)
    (hg : ∀ bs ∈ guessed false items, guessCharset T.eci bs hint = .ok (g bs))
    (hfit : (bitsOf v items).length ≤ 8 * QRRef.dataCodewords v ec) :
    decode T rsQR hint (matrixOf (QRRef.refMatrix v ec mask
        (QRRef.finalCodewords v ec (QRRef.terminate (QRRef.dataCodewords v ec) (bitsOf v items))))) =
      .ok ⟨toParsed (run T.eci g {} items), toDecEC ec, v,
        QRRef.terminate (QRRef.dataCodewords v ec) (bitsOf v items), false⟩ := by
  rw [finalCodewords_eq_interleave]
  exact decode_damaged_items T hT hint v h1 h40 ec mask hm items g hc hg hfit _
    (received_refBlocks v ec _ (terminate_lt _ _)) _ (damaged_sym v h1 h40 ec mask _)

end Gzx.QRComp
