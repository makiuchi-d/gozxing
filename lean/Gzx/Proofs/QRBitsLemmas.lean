/-
  Bit-stream lemmas for the QR decoder model: `natToBits`/`natOfBits` are inverse, and `readBits`
  returns what `natToBits` wrote.  At the end `rev_ind`, induction on a list from the right (bit lists grow
  there), with the converse direction proved by it; these three carry the namespace `Gzx.QRComp`: the QR
  composition, the QR encoder proofs and the Aztec proofs refer to them under it.
-/
import Gzx.Model.QRDecoder
namespace Gzx.QRDec

theorem natOfBits_append (xs : List Bool) (b : Bool) : natOfBits (xs ++ [b]) = 2 * natOfBits xs + b.toNat := by
  simp [natOfBits, List.foldl_append]

@[simp] theorem natToBits_length (w n : Nat) : (natToBits w n).length = w := by
  induction w generalizing n with
  | zero => rfl
  | succ w ih => simp [natToBits, ih]

theorem natOfBits_natToBits_mod (w n : Nat) : natOfBits (natToBits w n) = n % 2 ^ w := by
  induction w generalizing n with
  | zero => simp [natToBits, natOfBits, Nat.mod_one]
  | succ w ih =>
    simp only [natToBits, natOfBits_append]
    rw [ih (n / 2), Nat.pow_succ, Nat.mul_comm (2 ^ w) 2, Nat.mod_mul]
    rcases Nat.mod_two_eq_zero_or_one n with h0 | h0 <;> simp [h0] <;> omega

theorem natOfBits_natToBits (w n : Nat) (h : n < 2 ^ w) : natOfBits (natToBits w n) = n := by
  rw [natOfBits_natToBits_mod, Nat.mod_eq_of_lt h]

theorem natToBits_add (a b n : Nat) : natToBits (a + b) n = natToBits a (n / 2 ^ b) ++ natToBits b n := by
  induction b generalizing n with
  | zero => simp [natToBits]
  | succ b ih =>
    have e : a + (b + 1) = (a + b) + 1 := by omega
    rw [e]
    simp only [natToBits]
    rw [ih (n / 2), Nat.div_div_eq_div_mul, Nat.pow_succ, Nat.mul_comm 2 (2 ^ b), List.append_assoc]

theorem readBits_natToBits (w n : Nat) (rest : List Bool) (h1 : 1 ≤ w) (h32 : w ≤ 32) :
    readBits w (natToBits w n ++ rest) = .ok (n % 2 ^ w, rest) := by
  unfold readBits
  have hl : ¬ (w < 1 ∨ w > 32 ∨ w > (natToBits w n ++ rest).length) := by
    simp only [List.length_append, natToBits_length]; omega
  simp only [hl, if_false]
  rw [List.take_left' (natToBits_length w n), List.drop_left' (natToBits_length w n), natOfBits_natToBits_mod]

theorem readBitsF_natToBits (w n : Nat) (rest : List Bool) (h1 : 1 ≤ w) (h32 : w ≤ 32) :
    readBitsF w (natToBits w n ++ rest) = .ok (n % 2 ^ w, rest) := by
  unfold readBitsF
  rw [readBits_natToBits w n rest h1 h32]

theorem readBitsF_natToBits_lt (w n : Nat) (rest : List Bool) (h1 : 1 ≤ w) (h32 : w ≤ 32) (hn : n < 2 ^ w) :
    readBitsF w (natToBits w n ++ rest) = .ok (n, rest) := by
  rw [readBitsF_natToBits w n rest h1 h32, Nat.mod_eq_of_lt hn]

/-- the four mode bits at the head of a segment: long enough for `parseLoop` to go on, and read back -/
theorem mode_bits_length (k : Nat) (rest : List Bool) : ¬ (natToBits 4 k ++ rest).length < 4 := by
  simp only [List.length_append, natToBits_length]; omega

theorem readBitsF_mode (k : Nat) (rest : List Bool) (hk : k < 16) :
    readBitsF 4 (natToBits 4 k ++ rest) = .ok (k, rest) :=
  readBitsF_natToBits_lt 4 k rest (by omega) (by omega) hk

end Gzx.QRDec

namespace Gzx.QRComp
open Gzx Gzx.QRDec

theorem rev_ind {α : Type} {P : List α → Prop} (h0 : P []) (hs : ∀ xs x, P xs → P (xs ++ [x])) : ∀ l, P l := by
  intro l
  rw [← List.reverse_reverse l]
  induction l.reverse with
  | nil => exact h0
  | cons x xs ih => rw [List.reverse_cons]; exact hs _ _ ih

theorem natOfBits_lt (bs : List Bool) : natOfBits bs < 2 ^ bs.length := by
  induction bs using rev_ind with
  | h0 => decide
  | hs xs b ih =>
    rw [natOfBits_append, List.length_append, List.length_singleton, Nat.pow_succ]
    cases b <;> simp <;> omega

theorem natToBits_natOfBits (bs : List Bool) : natToBits bs.length (natOfBits bs) = bs := by
  induction bs using rev_ind with
  | h0 => rfl
  | hs xs b ih =>
    rw [natOfBits_append, List.length_append, List.length_singleton]
    unfold natToBits
    have h1 : (2 * natOfBits xs + b.toNat) / 2 = natOfBits xs := by cases b <;> simp <;> omega
    have h2 : ((2 * natOfBits xs + b.toNat) % 2 == 1) = b := by cases b <;> simp <;> omega
    rw [h1, h2, ih]

end Gzx.QRComp
