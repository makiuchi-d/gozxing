/-
  Lists of rows of one length read as a grid: length and entries of the flattened list, and the index
  arithmetic `row * width + column` that goes with it; at the end two facts about duplicate-free `map`s.  Core Lean
  only.
-/
namespace Gzx

theorem mul_add_lt {b n t k : Nat} (hb : b < n) (ht : t < k) : b * k + t < n * k :=
  calc b * k + t < b * k + k := Nat.add_lt_add_left ht _
    _ = (b + 1) * k := (Nat.succ_mul b k).symm
    _ ≤ n * k := Nat.mul_le_mul_right k hb

theorem mul_add_mod_div {n k t : Nat} (ht : t < k) : (n * k + t) % k = t ∧ (n * k + t) / k = n := by
  rw [Nat.mul_comm, Nat.mul_add_mod, Nat.mul_add_div (by omega), Nat.mod_eq_of_lt ht, Nat.div_eq_of_lt ht]
  exact ⟨rfl, rfl⟩

/-- the index `row * width + column` determines row and column -/
theorem idx_inj {n x y x' y' : Nat} (hx : x < n) (hx' : x' < n) (h : y * n + x = y' * n + x') :
    x = x' ∧ y = y' := by
  have a := mul_add_mod_div (n := y) hx
  rw [h] at a
  have b := mul_add_mod_div (n := y') hx'
  exact ⟨a.1.symm.trans b.1, a.2.symm.trans b.2⟩

theorem div_eq_of_bounds {B x k : Nat} (lo : k * B ≤ x) (hi : x < k * B + B) : x / B = k :=
  (Nat.div_eq_iff (by omega)).2 ⟨lo, by omega⟩

theorem flatten_length_const {α : Type} (rows : List (List α)) (n : Nat) (h : ∀ r ∈ rows, r.length = n) :
    rows.flatten.length = n * rows.length := by
  induction rows with
  | nil => rfl
  | cons r rs ih =>
    rw [List.flatten_cons, List.length_append, List.length_cons, h r List.mem_cons_self,
      ih (fun x hx => h x (List.mem_cons_of_mem _ hx)), Nat.mul_succ, Nat.add_comm]

/-- entry `(b, t)` of a grid with rows of length `E` sits at `b * E + t` of the flattened list -/
theorem flatten_getElem?_uniform {α : Type} (E : Nat) : ∀ (L : List (List α)) (b t : Nat),
    (∀ l ∈ L, l.length = E) → t < E → L.flatten[b * E + t]? = (L[b]?).bind (·[t]?)
  | [], _, _, _, _ => by simp
  | l :: L, 0, t, hu, ht => by
    simp only [Nat.zero_mul, Nat.zero_add, List.flatten_cons, List.getElem?_cons_zero, Option.bind_some]
    exact List.getElem?_append_left (by rw [hu l List.mem_cons_self]; exact ht)
  | l :: L, b + 1, t, hu, ht => by
    have hl : l.length = E := hu l List.mem_cons_self
    rw [List.flatten_cons, List.getElem?_cons_succ, List.getElem?_append_right (by rw [Nat.succ_mul]; omega),
      show (b + 1) * E + t - l.length = b * E + t by rw [Nat.succ_mul]; omega]
    exact flatten_getElem?_uniform E L b t (fun l' hl' => hu l' (List.mem_cons_of_mem _ hl')) ht

theorem flatMap_congr {α β : Type} {l : List α} {f g : α → List β} (h : ∀ a ∈ l, f a = g a) :
    l.flatMap f = l.flatMap g := by
  rw [List.flatMap_def, List.flatMap_def, List.map_congr_left h]

/-- rows of `W` consecutive indices, one after the other, are the indices `0 … H*W-1` -/
theorem flatMap_range_rows {α : Type} (f : Nat → α) (W : Nat) : ∀ H,
    (List.range H).flatMap (fun y => (List.range W).map (fun x => f (y * W + x))) = (List.range (H * W)).map f
  | 0 => by simp
  | H + 1 => by
    rw [List.range_succ, List.flatMap_append, flatMap_range_rows f W H, Nat.succ_mul, List.range_add,
      List.map_append, List.map_map]
    simp [Function.comp_def]

/-- `m` rows of `B` entries each: entry `p` of the flattened list is entry `p % B` of row `p / B` -/
theorem flatMap_range_cols {α : Type} (f : Nat → Nat → α) (B m : Nat) :
    (List.range m).flatMap (fun i => (List.range B).map (fun j => f j i)) =
      (List.range (m * B)).map (fun p => f (p % B) (p / B)) := by
  rw [← flatMap_range_rows (fun p => f (p % B) (p / B)) B m]
  apply flatMap_congr
  intro i _
  apply List.map_congr_left
  intro j hj
  obtain ⟨h1, h2⟩ := mul_add_mod_div (n := i) (List.mem_range.1 hj)
  rw [h1, h2]

theorem nodup_of_map {α β : Type} (f : α → β) {l : List α} (h : (l.map f).Nodup) : l.Nodup :=
  List.Pairwise.of_map f (fun _ _ hne e => hne (congrArg f e)) h

theorem nodup_map_range {α : Type} (f : Nat → α) (n : Nat) (h : ∀ p q, p < n → q < n → f p = f q → p = q) :
    ((List.range n).map f).Nodup := by
  rw [List.Nodup, List.pairwise_map]
  exact (List.nodup_range (n := n)).imp_of_mem
    (fun ha hb hne heq => hne (h _ _ (List.mem_range.1 ha) (List.mem_range.1 hb) heq))

end Gzx
