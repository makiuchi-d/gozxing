/-
  Lemmas about the run-time library of the value-passing target (Gzx/GoMV.lean): `for i, x := range xs` against the model's
  list-driven iteration, in the manner of Proofs/GoMLoop.lean.
-/
import Gzx.GoMV
import Gzx.Proofs.GoM
namespace Gzx.GoM

variable {σ ρ τ : Type}

/-- `for i, x := range l` over a slice of model naturals -/
theorem forRange_foldIdx (R : τ → σ) (body : Int → Int → σ → Ctl σ ρ) (g : Nat → Nat → τ → Ctl τ ρ) :
    ∀ (l : List Nat) (a : Nat) (t : τ),
      (∀ j (hj : j < l.length) t, body ((a + j : Nat) : Int) ((l[j] : Nat) : Int) (R t) = (g (a + j) l[j] t).map R) →
      forRange body (l.map Int.ofNat) (a : Int) (R t) = (foldIdx g a l t).map R := by
  intro l
  induction l with
  | nil => intro a t _; rfl
  | cons x xs ih =>
    intro a t hb
    have h0 := hb 0 (Nat.zero_lt_succ _) t
    simp only [Nat.add_zero, List.getElem_cons_zero] at h0
    simp only [List.map_cons, forRange, foldIdx]
    rw [show Int.ofNat x = (x : Int) from rfl, h0]
    cases hg : g a x t with
    | next t' =>
      simp only [Ctl.map_next]
      rw [← Int.natCast_succ]
      refine ih (a + 1) t' (fun j hj t => ?_)
      have := hb (j + 1) (Nat.succ_lt_succ hj) t
      simp only [List.getElem_cons_succ] at this
      rw [show a + 1 + j = a + (j + 1) by omega]
      exact this
    | brk t' => rfl
    | ret r => rfl
    | panic f => rfl

theorem forRange_foldIdx' (R : τ → σ) (g : Nat → Nat → τ → Ctl τ ρ) (l : List Nat) (a : Nat) (t : τ)
    {body : Int → Int → σ → Ctl σ ρ} {xs : List Int} {i0 : Int} {s : σ}
    (hx : xs = l.map Int.ofNat) (hs : s = R t) (hi : i0 = (a : Int))
    (hb : ∀ j (hj : j < l.length) t, body ((a + j : Nat) : Int) ((l[j] : Nat) : Int) (R t) = (g (a + j) l[j] t).map R) :
    forRange body xs i0 s = (foldIdx g a l t).map R := by
  subst hx hs hi; exact forRange_foldIdx R body g l a t hb

end Gzx.GoM
