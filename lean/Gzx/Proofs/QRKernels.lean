/-
  Bridging lemmas for translated integer kernels (`Gzx.Gen.*`, Go `int` arithmetic on `Int`) applied
  to natural-number arguments: everything is pushed back to `Nat`, where `omega` decides the
  residue arithmetic.  Used by Obligations/C07.lean (mask predicates, block sizes) and by the encoder's
  kernels (Proofs/QREncKernels.lean, Proofs/QREncPenalty.lean).
-/
import Gzx.GoVal
namespace Gzx.QRKernels
open Gzx

theorem iand_natCast_one (n : Nat) : GoVal.iand (n : Int) 1 = ((n % 2 : Nat) : Int) := by
  unfold GoVal.iand
  have h1 : (n : Int) ≥ 0 := Int.natCast_nonneg n
  simp only [h1, if_true]
  have h2 : ((1 : Int) ≥ 0) := by decide
  simp only [h2, if_true]
  show Int.ofNat ((n : Int).toNat &&& (1 : Int).toNat) = _
  simp [Nat.and_one_is_mod]

theorem tmod_natCast (a b : Nat) : Int.tmod (a : Int) (b : Int) = ((a % b : Nat) : Int) := (Int.ofNat_tmod a b).symm
theorem tmod_natCast_2 (a : Nat) : Int.tmod (a : Int) 2 = ((a % 2 : Nat) : Int) := tmod_natCast a 2
theorem tmod_natCast_3 (a : Nat) : Int.tmod (a : Int) 3 = ((a % 3 : Nat) : Int) := tmod_natCast a 3
theorem tmod_natCast_6 (a : Nat) : Int.tmod (a : Int) 6 = ((a % 6 : Nat) : Int) := tmod_natCast a 6
theorem tdiv_natCast (a b : Nat) : Int.tdiv (a : Int) (b : Int) = ((a / b : Nat) : Int) := rfl
theorem tdiv_natCast_2 (a : Nat) : Int.tdiv (a : Int) 2 = ((a / 2 : Nat) : Int) := tdiv_natCast a 2
theorem tdiv_natCast_3 (a : Nat) : Int.tdiv (a : Int) 3 = ((a / 3 : Nat) : Int) := tdiv_natCast a 3

theorem natCast_beq_zero (a : Nat) : ((a : Int) == 0) = (a == 0) := by
  cases a <;> rfl

theorem natCast_lt_3 (a : Nat) : decide ((a : Int) < 3) = decide (a < 3) := by
  simp only [decide_eq_decide]; omega

/-- the total of the short/long block split, as the block-size kernel's sanity check computes it -/
theorem ring1 (Q E N R : Int) :
    (Q + (Q + E - Q)) * (N - R) + (Q + 1 + (Q + E + 1 - (Q + 1))) * R = N * Q + R + E * N := by
  grind

end Gzx.QRKernels
