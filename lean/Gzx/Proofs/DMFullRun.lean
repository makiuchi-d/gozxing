/-
  C02 — the states of the dispatch loop of `EncodeHighLevel` with ALL SIX encodation modes (the induction over the loop
  is `dispatch_full` in Proofs/DMFullDispatch.lean).  The decoder invariant is kept on a VIRTUAL codeword list `V` of the
  same length as the real one (`FSt` is stated about `c.swap V`); the real codewords decode like `V` on every byte
  continuation of at least `j` codewords (`Sim`), where `j > 0` only behind a one-codeword EDIFACT unlatch (`Debt`,
  `MidInfo`).  The encoders run on the real context only; what a whole call has written is read behind the virtual
  prefix through its prefix-free description (`CallOut`, `EdiEnd` with `SegReads.extend`).
-/
import Gzx.Proofs.DMFullAux
import Gzx.Proofs.DMSwap
import Gzx.Proofs.DMBytesAll
import Gzx.Proofs.DMTermDispatch
import Gzx.Proofs.DMRoundTripGen
namespace Gzx.DMHighLevel

inductive FSt (syms : List SymbolInfo) (la : LookAhead) : Nat → Ctx → Acc → Prop where
  | ascii {c a} : Inv refTables c a → FSt syms la ASCII c a
  | tail {m c a} (k : Nat) : k ≤ 2 → TailG refTables c a k → CapFact syms c k →
      (m = ASCII ∨ (m = BASE256 ∧ c.hasMore = false)) → FSt syms la m c a
  | latched {m c a} (code : Nat) : LatchedM refTables m code la c a → c.hasMore = true →
      ((m = BASE256 ∧ code = 231) ∨ (m = C40 ∧ code = 230) ∨ (m = X12 ∧ code = 238) ∨ (m = TEXT ∧ code = 239) ∨
       (m = EDIFACT ∧ code = 240)) → FSt syms la m c a
  | done256 {c a} : Inv refTables c a → c.hasMore = false → FSt syms la BASE256 c a
  | endpad {c a} (j : Nat) : DecFrom refTables j c.cw a → a.rev.reverse = c.msg.take c.pos → c.hasMore = false →
      (j = 0 ∨ ∃ s, c.sym = some s ∧ c.count + j ≤ s.cap) → FSt syms la ASCII c a

/-- the states the loop can end in -/
inductive Fin (syms : List SymbolInfo) (c : Ctx) (a : Acc) : Prop where
  | inv : Inv refTables c a → Fin syms c a
  | tail (k : Nat) : k ≤ 2 → TailG refTables c a k → CapFact syms c k → Fin syms c a
  | endpad (j : Nat) : DecFrom refTables j c.cw a → a.rev.reverse = c.msg.take c.pos →
      (j = 0 ∨ ∃ s, c.sym = some s ∧ c.count + j ≤ s.cap) → Fin syms c a

/-- What is remembered behind a one-codeword EDIFACT unlatch.  `V = L ++ y`: `L` is the virtual prefix at the unlatch (it
    decodes to `am`, the message up to `pm`, whatever follows), `y` what has been written since; `j = 2 - |y|` codewords
    are still owed before the real prefix decodes like `V`.  `sm` is the symbol that was current at the unlatch (found by
    looking up `n0` codewords, so the final symbol cannot be smaller than `sm` unless fewer than `n0` codewords are needed),
    with `MidFacts` about it: that is what shows, at the end, that at least the owed codewords follow as padding. -/
def MidInfo (syms : List SymbolInfo) (mode : Nat) (c : Ctx) (V : List Nat) (trl : List Nat) (j : Nat) : Prop :=
  ∃ (L y : List Nat) (am : Acc) (pm : Nat) (sm : SymbolInfo) (n0 : Nat),
    V = L ++ y ∧ j = 2 - y.length ∧ DecodesTo refTables L am ∧ am.rev.reverse = c.msg.take pm ∧ am.trailer = trl ∧
    pm < c.total ∧ sm ∈ syms ∧ admissible c.cfg sm = true ∧ lookup syms c.cfg n0 = some sm ∧ n0 ≤ L.length + 1 ∧
    MidFacts ({ c with cw := L, pos := pm, sym := some sm } : Ctx) ∧
    (y = [] → mode = ASCII ∧ c.hasMore = true)

def Debt (syms : List SymbolInfo) (mode : Nat) (c : Ctx) (V : List Nat) (trl : List Nat) (j : Nat) : Prop :=
  j = 0 ∨ MidInfo syms mode c V trl j

/-- a step that appends `x` (at least one codeword if nothing had been written since the unlatch) keeps the debt -/
theorem Debt.step {syms : List SymbolInfo} {mode mode' : Nat} {c c' : Ctx} {V x trl : List Nat} {j : Nat}
    (h : Debt syms mode c V trl j) (hmsg : c'.msg = c.msg) (hskip : c'.skipAtEnd = c.skipAtEnd)
    (hcfg : c'.cfg = c.cfg) (hx : mode = ASCII → 1 ≤ x.length) :
    Debt syms mode' c' (V ++ x) trl (j - x.length) := by
  rcases h with h | ⟨L, y, am, pm, sm, n0, hV, hj, hd, ht, htr, hpm, hmem, hadm, hl, hn0, hfacts, hy⟩
  · left; omega
  · have htot : c'.total = c.total := by simp [Ctx.total, hmsg, hskip]
    right
    refine ⟨L, y ++ x, am, pm, sm, n0, by rw [hV, List.append_assoc], by simp; omega, hd, by rw [hmsg]; exact ht, htr,
      by rw [htot]; exact hpm, hmem, by rw [hcfg]; exact hadm, by rw [hcfg]; exact hl, hn0,
      hfacts.congr rfl rfl hmsg rfl hskip, ?_⟩
    intro hyx
    exfalso
    have hy0 : y = [] := List.append_eq_nil_iff.mp hyx |>.1
    have hx0 : x = [] := List.append_eq_nil_iff.mp hyx |>.2
    have := hx (hy hy0).1
    rw [hx0] at this; simp at this

theorem CallOut.swap {T : Tables} {off b kmax : Nat} {c' : Ctx} {ws chars V' : List Nat}
    (h : CallOut T off b c' ws chars kmax) (hV : V'.length = c'.cw.length) :
    CallOut T off b (c'.swap V') ws chars kmax := by
  rcases h with h | ⟨k, hk, hr, ⟨s, hs, hcap⟩, hneed⟩
  · exact Or.inl h
  · exact Or.inr ⟨k, hk, hr, ⟨s, hs, by show s.cap = V'.length + k; rw [hV]; exact hcap⟩, hneed⟩

theorem capFact_of_full {syms : List SymbolInfo} {c : Ctx} {k : Nat} (hff : SymFF syms c)
    (h : ∃ s, c.sym = some s ∧ s.cap = c.count + k) : CapFact syms c k := by
  obtain ⟨s, hs, hcap⟩ := h
  obtain ⟨n, hn⟩ := hff s hs
  obtain ⟨_, _, hmem, hadm⟩ := lookup_idem hn
  exact ⟨s, hmem, hadm, hcap, Or.inl hs⟩

theorem symFF_swap {syms : List SymbolInfo} {c : Ctx} {V : List Nat} (h : SymFF syms c) : SymFF syms (c.swap V) := h

theorem tail_la_ascii {la : LookAhead} (hla : LaFloatLike la) {c : Ctx} (htot : TotOK c.msg c.total)
    (hm : c.hasMore = true) (hneed : asciiNeed c.rest ≤ 2) : la c.msg c.pos ASCII = ASCII := by
  obtain ⟨ρ, hρ⟩ := hla c.msg c.pos ASCII
  rw [hρ]
  have hlt := (hasMore_iff c).mp hm
  have hlen := totOK_le htot
  have hrl : c.rest.length = c.total - c.pos := by
    simp only [Ctx.rest, Ctx.remaining, List.length_take, List.length_drop]; omega
  have hge := asciiNeed_ge_length c.rest
  by_cases h1 : c.pos + 1 = c.total
  · exact laExactR_tail_ascii ρ c.msg c.total htot c.pos h1
  · have h2 : c.pos + 2 = c.total := by omega
    have h0 : c.pos < c.msg.length := by omega
    have h1' : c.pos + 1 < c.msg.length := by omega
    obtain ⟨x1, g1⟩ : ∃ x1, c.msg[c.pos]? = some x1 := ⟨_, List.getElem?_eq_getElem h0⟩
    obtain ⟨x2, g2⟩ : ∃ x2, c.msg[c.pos + 1]? = some x2 := ⟨_, List.getElem?_eq_getElem h1'⟩
    have hrest : c.rest = [x1, x2] := by
      simp only [Ctx.rest, Ctx.remaining]
      rw [show c.total - c.pos = 2 by omega, drop_eq_cons_of_getElem? g1, drop_eq_cons_of_getElem? g2]
      rfl
    rw [hrest] at hneed
    simp only [asciiNeed] at hneed
    have e1 : isExtended x1 = false := by
      cases h : isExtended x1 with
      | false => rfl
      | true => rw [h] at hneed; simp at hneed; split at hneed <;> omega
    have e2 : isExtended x2 = false := by
      cases h : isExtended x2 with
      | false => rfl
      | true => rw [h] at hneed; simp at hneed; split at hneed <;> omega
    exact laExactR_tail2_ascii ρ c.msg c.total htot c.pos _ _ h2 g1 g2 e1 e2

end Gzx.DMHighLevel
