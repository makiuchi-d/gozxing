/-
  wp `enc2` — the first half of `Encoder_encode` on the mirror model without hypotheses about the mode or the data
  segment: its totality (`encodeFront_total`: a result with a table row as version, or a WriterException — for
  every content and every hint value; from the closed form `encodeFront_shape` of Proofs/QREncEncode.lean), the data
  segment of every mode (`segment_of_ref`, Kanji included), and the composed theorems `encode_total`,
  `encode_eq_ref_full`, `encode_eq_refEncode`.
-/
import Gzx.Proofs.QREncEncode
import Gzx.Proofs.QREncKanji
import Gzx.Proofs.QREncMode
namespace Gzx.QREnc
open Gzx Gzx.QRRef

/-! ### the data segment by mode -/

/-- the byte representation of the content in mode `m`: the content itself (numeric / alphanumeric), the bytes of
    the encoding in force (byte mode), the Shift_JIS bytes (Kanji mode) -/
def modeBytes (inp : EncInput) (m : Mode) : Option (List Nat) :=
  match m with
  | .byte => inp.encoded
  | .kanji => inp.sjis
  | _ => some inp.content

/-- the reference's data segment: (character count, data bits); `none` = not encodable -/
def refSegment (inp : EncInput) (m : Mode) : Option (Nat × Bits) := (modeBytes inp m).bind (encodeData m)

def modeOf (inp : EncInput) : Mode :=
  refMode inp.content (match inp.charset with | some cs => cs.isSJIS | none => false) inp.sjis

theorem refMode_numeric {content : List Nat} {s : Bool} {sj : Option (List Nat)} (h : refMode content s sj = .numeric) :
    content.all isDigitB = true := by
  unfold refMode at h
  split at h
  · cases h
  · split at h
    · rename_i hc; simp only [Bool.and_eq_true] at hc; exact hc.2
    · split at h <;> cases h

theorem refMode_alnum {content : List Nat} {s : Bool} {sj : Option (List Nat)} (h : refMode content s sj = .alnum) :
    content.all inTable = true := by
  unfold refMode at h
  split at h
  · cases h
  · split at h
    · cases h
    · split at h
      · rename_i hc; simp only [Bool.and_eq_true] at hc; exact hc.2
      · cases h

theorem mapM_alnum_of_all : ∀ (content : List Nat), content.all inTable = true → ∃ codes, content.mapM alnumCode = some codes := by
  intro content
  induction content with
  | nil => intro _; exact ⟨[], rfl⟩
  | cons c cs ih =>
    intro h
    simp only [List.all_cons, Bool.and_eq_true] at h
    obtain ⟨codes, hc⟩ := ih h.2
    have : (alnumCode c).isSome = true := h.1
    obtain ⟨k, hk⟩ := Option.isSome_iff_exists.mp this
    exact ⟨k :: codes, by rw [List.mapM_cons, hk, hc]; rfl⟩

theorem packKanji_len : ∀ (n : Nat) (bytes : List Nat) (d : Bits), bytes.length ≤ n → packKanji bytes = some d →
    d.length = 13 * (bytes.length / 2) := by
  intro n
  induction n with
  | zero =>
    intro bytes d hl h
    have : bytes = [] := List.length_eq_zero_iff.mp (by omega)
    subst this
    simp [packKanji] at h
    subst h; rfl
  | succ n ih =>
    intro bytes d hl h
    match bytes, hl, h with
    | [], _, h => simp [packKanji] at h; subst h; rfl
    | [_], _, h => simp [packKanji] at h
    | hi :: lo :: rest, hl, h =>
      simp only [packKanji] at h
      cases hk : kanjiCode hi lo with
      | none => simp [hk] at h
      | some c =>
        cases hr : packKanji rest with
        | none => simp [hk, hr] at h
        | some r =>
          simp [hk, hr] at h
          subst h
          have := ih rest r (by simp at hl; omega) hr
          simp only [List.length_append, toBitsBE_length, this, List.length_cons]
          omega

/-- the Kanji segment: codec parameters = the Shift_JIS encoder yields bytes, one rune per byte pair -/
theorem segment_kanji (inp : EncInput) (bytes : List Nat) (d : Bits) (hs : inp.sjis = some bytes)
    (hb : ∀ b ∈ bytes, b < 256) (hrc : inp.runeCount = bytes.length / 2) (hp : packKanji bytes = some d) :
    Segment inp .kanji bytes (bytes.length / 2) d := by
  refine ⟨?_, ?_, ?_, ?_⟩
  · unfold appendBytes
    simp only
    rw [appendKanjiBytes_eq inp.sjis (fun bs h b hbm => by rw [hs] at h; cases h; exact hb b hbm) [], hs]
    simp [hp]
  · unfold encodeData
    simp [hp]
  · unfold numLettersOf
    simp only
    rw [hrc]
  · intro v ec hdr h1 h40 hh hfit
    rw [packKanji_len bytes.length bytes d (Nat.le_refl _) hp] at hfit
    exact count_fits .kanji _ v ec hdr h1 h40 hh (by simpa [dataBitsLen] using hfit)

theorem isDigitB_isDigit {content : List Nat} (h : content.all isDigitB = true) : ∀ c ∈ content, isDigit c := by
  intro c hc
  have := List.all_eq_true.mp h c hc
  simpa [isDigitB, isDigit] using this

/-- the segment of the reference for the mode the call settles on IS the segment the mirror writes -/
theorem segment_of_ref (inp : EncInput) (count : Nat) (data : Bits)
    (hsj : ∀ bs, inp.sjis = some bs → ∀ b ∈ bs, b < 256)
    (hrc : ∀ bs, inp.sjis = some bs → modeOf inp = .kanji → inp.runeCount = bs.length / 2)
    (href : refSegment inp (modeOf inp) = some (count, data)) :
    ∃ bytes, Segment inp (modeOf inp) bytes count data := by
  unfold refSegment modeBytes at href
  cases hm : modeOf inp with
  | numeric =>
    rw [hm] at href
    have hd := isDigitB_isDigit (refMode_numeric hm)
    have := segment_numeric inp hd
    simp only [Option.bind_some] at href
    have href2 := this.ref
    rw [href] at href2
    cases href2
    exact ⟨_, this⟩
  | alnum =>
    rw [hm] at href
    obtain ⟨codes, hc⟩ := mapM_alnum_of_all _ (refMode_alnum hm)
    have := segment_alnum inp codes hc
    simp only [Option.bind_some] at href
    have href2 := this.ref
    rw [href] at href2
    cases href2
    exact ⟨_, this⟩
  | byte =>
    rw [hm] at href
    simp only at href
    cases he : inp.encoded with
    | none => rw [he] at href; cases href
    | some bs =>
      rw [he] at href
      have := segment_byte inp bs he
      simp only [Option.bind_some] at href
      have href2 := this.ref
      rw [href] at href2
      cases href2
      exact ⟨_, this⟩
  | kanji =>
    rw [hm] at href
    simp only at href
    cases hs : inp.sjis with
    | none => rw [hs] at href; cases href
    | some bs =>
      rw [hs] at href
      simp only [Option.bind_some, encodeData, Option.map_eq_some_iff] at href
      obtain ⟨d, hp, hcd⟩ := href
      simp only [Prod.mk.injEq] at hcd
      rw [← hcd.1, ← hcd.2]
      exact ⟨bs, segment_kanji inp bs d hs (hsj bs hs) (hrc bs hs hm) hp⟩

theorem appendBytes_refused (inp : EncInput)
    (hsj : ∀ bs, inp.sjis = some bs → ∀ b ∈ bs, b < 256)
    (href : refSegment inp (modeOf inp) = none) :
    appendBytes inp.content (modeOf inp) inp.encoded inp.sjis [] = .error .writer := by
  unfold refSegment modeBytes at href
  cases hm : modeOf inp with
  | numeric =>
    rw [hm] at href
    have := (segment_numeric inp (isDigitB_isDigit (refMode_numeric hm))).ref
    simp only [Option.bind_some] at href
    rw [href] at this; cases this
  | alnum =>
    rw [hm] at href
    obtain ⟨codes, hc⟩ := mapM_alnum_of_all _ (refMode_alnum hm)
    have := (segment_alnum inp codes hc).ref
    simp only [Option.bind_some] at href
    rw [href] at this; cases this
  | byte =>
    rw [hm] at href
    simp only at href
    cases he : inp.encoded with
    | none => rfl
    | some bs => rw [he] at href; simp [encodeData] at href
  | kanji =>
    rw [hm] at href
    simp only at href
    unfold appendBytes
    simp only
    rw [appendKanjiBytes_eq inp.sjis hsj []]
    cases hs : inp.sjis with
    | none => rfl
    | some bs =>
      rw [hs] at href
      simp only [Option.bind_some, encodeData, Option.map_eq_none_iff] at href
      simp [href]

/-! ### totality of the data-bit loops (no codec parameter needed) -/

def OkOrWriter {α : Type} (r : Res α) : Prop := (∃ a, r = .ok a) ∨ r = .error .writer

theorem foldlM_okOrWriter {σ ι : Type} (f : σ → ι → Res σ) (l : List ι) (P : ι → Prop) (hP : ∀ i ∈ l, P i)
    (h : ∀ s i, P i → OkOrWriter (f s i)) : ∀ s, OkOrWriter (l.foldlM f s) := by
  induction l with
  | nil => intro s; exact Or.inl ⟨s, rfl⟩
  | cons i is ih =>
    intro s
    simp only [List.foldlM_cons, bind, Except.bind]
    rcases h s i (hP i List.mem_cons_self) with ⟨a, ha⟩ | he
    · rw [ha]; exact ih (fun j hj => hP j (List.mem_cons_of_mem _ hj)) a
    · rw [he]; exact Or.inr rfl

theorem appendKanjiBytes_total (sjis : Option (List Nat)) (bits : Bits) : OkOrWriter (appendKanjiBytes sjis bits) := by
  cases sjis with
  | none => exact Or.inr rfl
  | some bytes =>
    by_cases he : bytes.length % 2 = 0
    · rw [appendKanjiBytes_unfold bytes bits he]
      apply foldlM_okOrWriter (kanjiBody bytes) _ (fun k => 2 * k + 1 < bytes.length)
      · intro k hk; have := List.mem_range.mp hk; omega
      · intro s k hk
        unfold kanjiBody
        have hi1 := idx_nat bytes (2 * k) (by omega)
        have hi2 := idx_nat bytes (2 * k + 1) hk
        rw [show (((2 * k + 1 : Nat) : Int)) = ((2 * k : Nat) : Int) + 1 by omega] at hi2
        simp only [hi1, hi2, bind, Except.bind]
        repeat' split
        all_goals first | exact Or.inr rfl | exact Or.inl ⟨_, rfl⟩
    · unfold appendKanjiBytes
      simp only
      rw [if_pos (by omega)]
      exact Or.inr rfl

theorem appendBytes_total (inp : EncInput) : OkOrWriter (appendBytes inp.content (modeOf inp) inp.encoded inp.sjis []) := by
  cases hm : modeOf inp with
  | numeric => exact Or.inl ⟨_, (segment_numeric inp (isDigitB_isDigit (refMode_numeric hm))).append⟩
  | alnum =>
    obtain ⟨codes, hc⟩ := mapM_alnum_of_all _ (refMode_alnum hm)
    exact Or.inl ⟨_, (segment_alnum inp codes hc).append⟩
  | byte =>
    unfold appendBytes
    simp only
    cases inp.encoded with
    | none => exact Or.inr rfl
    | some bs => exact Or.inl ⟨_, rfl⟩
  | kanji => exact appendKanjiBytes_total _ _

theorem appendLengthInfo_total (v : Nat) (m : Mode) (n : Int) (bits : Bits) :
    OkOrWriter (appendLengthInfo n (versionInfo v) m bits) := by
  unfold appendLengthInfo QRVersionChoice.characterCountBits tables QRVersionChoice.refTables
  have hnum : (versionInfo v).number = v := rfl
  simp only [hnum]
  have hsel : ([countBits m 1, countBits m 10, countBits m 27])[if v ≤ 9 then 0 else if v ≤ 26 then 1 else 2]? =
      some (countBits m v) := by
    by_cases h9 : v ≤ 9
    · simp [h9]; cases m <;> simp [countBits, h9]
    · by_cases h26 : v ≤ 26
      · simp [h9, h26]; cases m <;> simp [countBits, h9, h26]
      · simp [h9, h26]; cases m <;> simp [countBits, h9, h26]
  rw [hsel]
  simp only [bind, Except.bind]
  split
  · exact Or.inr rfl
  · exact Or.inl ⟨_, rfl⟩

/-! ### the first half: totality -/

theorem charsetIsSJIS_cases (inp : EncInput) :
    charsetIsSJIS inp = .ok (match inp.charset with | some cs => cs.isSJIS | none => false) ∨
    charsetIsSJIS inp = .error .writer := by
  unfold charsetIsSJIS
  cases inp.charset with
  | none => left; rfl
  | some cs =>
    simp only
    cases cs.known
    · right; rfl
    · left; rfl

theorem encodeFront_total (inp : EncInput) :
    (∃ f v, encodeFront inp = .ok f ∧ 1 ≤ v ∧ v ≤ 40 ∧ f.version = versionInfo v) ∨ encodeFront inp = .error .writer := by
  cases hec : ecOfInt inp.ecLevel with
  | none => right; unfold encodeFront; simp [hec, bind, Except.bind]
  | some ec =>
    rcases charsetIsSJIS_cases inp with hcs | hcs
    · rcases appendBytes_total inp with ⟨data, happ⟩ | happ
      · rw [encodeFront_shape inp ec hec hcs (modeOf inp) (chooseMode_eq _ _ _) data happ]
        cases hch : versionChoice inp ec (modeOf inp) (headerOf inp (modeOf inp)).length data.length with
        | none => right; rfl
        | some v =>
          obtain ⟨h1, h40, _⟩ := versionChoice_range hch
          simp only
          rcases appendLengthInfo_total v (modeOf inp) (numLettersOf inp (modeOf inp) data) (headerOf inp (modeOf inp)) with ⟨hb, hl⟩ | hl
          · rw [hl]; left; exact ⟨_, v, rfl, h1, h40, rfl⟩
          · rw [hl]; right; rfl
      · right
        unfold encodeFront
        simp only [hec, bind, Except.bind, pure, Except.pure]
        rw [hcs]
        simp only
        rw [chooseMode_eq]
        simp only
        rw [show appendBytes inp.content (refMode inp.content (match inp.charset with | some cs => cs.isSJIS | none => false) inp.sjis) inp.encoded inp.sjis [] = Except.error Fault.writer from happ]
    · right
      unfold encodeFront
      simp only [hec, bind, Except.bind, pure, Except.pure]
      rw [hcs]

/-- the whole `Encoder_encode` mirror returns a symbol or a WriterException — never a panic, never out of fuel — for
    every content, level value and hint values of any dynamic type -/
theorem encode_total {K : Kernels} (hK : KernelsOK K) (inp : EncInput) :
    (∃ t, encode K inp = .ok t ∧ 1 ≤ t.version ∧ t.version ≤ 40) ∨ encode K inp = .error .writer := by
  unfold encode
  rcases encodeFront_total inp with ⟨f, v, hf, h1, h40, hv⟩ | he
  · rw [hf]
    simp only [bind, Except.bind]
    rcases encodeBack_total hK v h1 h40 inp.mask f hv with ⟨t, ht, htv⟩ | he
    · left; exact ⟨t, ht, by omega, by omega⟩
    · right; exact he
  · rw [he]; right; rfl

/-- The whole call = the reference construction, with no hypothesis about mode or segment.
    Codec parameters: the Shift_JIS encoder yields bytes and (in Kanji mode) one rune per byte pair; the ECI value
    of the registry is below 128 (the code writes it in 8 bits). -/
theorem encode_eq_ref_full {K : Kernels} (hK : KernelsOK K)
    (inp : EncInput) (ec : EC) (hec : ecOfInt inp.ecLevel = some ec)
    (hcs : ∀ cs, inp.charset = some cs → cs.known = true)
    (hsj : ∀ bs, inp.sjis = some bs → ∀ b ∈ bs, b < 256)
    (hrc : ∀ bs, inp.sjis = some bs → modeOf inp = .kanji → inp.runeCount = bs.length / 2)
    (he : ∀ e, eciOf inp (modeOf inp) = some e → e < 128) :
    match refSegment inp (modeOf inp) with
    | none => encode K inp = .error .writer
    | some (count, data) =>
      match versionChoice inp ec (modeOf inp) (headerBits (eciOf inp (modeOf inp)) (gs1OfHint inp.gs1) (modeOf inp)).length data.length with
      | some v =>
        ∃ t, encode K inp = .ok t ∧ t.mode = modeOf inp ∧ t.version = v ∧
          t.headerAndDataBits = payloadBits v (headerBits (eciOf inp (modeOf inp)) (gs1OfHint inp.gs1) (modeOf inp)) (modeOf inp) count data ∧
          t.maskPattern = ((finalMask inp.mask v ec t.headerAndDataBits : Nat) : Int) ∧
          t.finalBits = bitsOfBytes (refCodewords v ec t.headerAndDataBits) ∧
          t.matrix = refByteMatrix v ec (finalMask inp.mask v ec t.headerAndDataBits) (refCodewords v ec t.headerAndDataBits)
      | none => encode K inp = .error .writer := by
  have hsjis : charsetIsSJIS inp = .ok (match inp.charset with | some cs => cs.isSJIS | none => false) :=
    charsetIsSJIS_known inp hcs
  cases href : refSegment inp (modeOf inp) with
  | none =>
    simp only
    have happ := appendBytes_refused inp hsj href
    unfold encode encodeFront
    simp only [hec, bind, Except.bind, pure, Except.pure]
    rw [hsjis]
    simp only
    rw [chooseMode_eq]
    simp only
    rw [show appendBytes inp.content (refMode inp.content (match inp.charset with | some cs => cs.isSJIS | none => false) inp.sjis) inp.encoded inp.sjis [] = Except.error Fault.writer from happ]
  | some cd =>
    obtain ⟨count, data⟩ := cd
    simp only
    obtain ⟨bytes, seg⟩ := segment_of_ref inp count data hsj hrc href
    exact encode_eq_ref hK inp ec hec hcs (modeOf inp) (chooseMode_eq _ _ _) bytes count data seg he

/-! ### the whole call against `QRRef.refEncode` -/

/-- the version `refEncode` settles on -/
def refVersion (cfg : Config) (m : Mode) (hl dl : Nat) : Option Nat :=
  match cfg.version with
  | some v => if 1 ≤ v ∧ v ≤ 40 ∧ fitsBits v cfg.ec m hl dl then some v else none
  | none => minVersion cfg.ec m hl dl

theorem versionChoice_eq_ref (inp : EncInput) (ec : EC) (m : Mode) (h d : Nat) :
    versionChoice inp ec m h d = refVersion (refConfig inp ec m) m h d := by
  unfold versionChoice refVersion refConfig
  cases hv : inp.version with
  | none => rfl
  | some hint =>
    simp only [Option.map_some]
    by_cases h1 : 1 ≤ versionHintInt hint ∧ versionHintInt hint ≤ 40
    · by_cases hf : fitsBits (versionHintInt hint).toNat ec m h d = true
      · rw [if_pos ⟨h1.1, h1.2, hf⟩, if_pos ⟨by omega, by omega, hf⟩]
      · rw [if_neg (fun hh => hf hh.2.2), if_neg (fun hh => hf hh.2.2)]
    · rw [if_neg (fun hh => h1 ⟨hh.1, hh.2.1⟩)]
      by_cases h0 : versionHintInt hint < 1
      · have : (versionHintInt hint).toNat = 0 := by omega
        rw [this]; simp
      · rw [if_neg]
        intro hh; omega

/-- the symbol `refEncode` returns once the version is settled -/
def refSymbolOf (m : Mode) (cfg : Config) (count : Nat) (data : List Bool) (v : Nat) : Symbol :=
  let hdr := headerBits cfg.eci cfg.gs1 m
  let dcw := dataCodewordsOf v cfg.ec hdr m count data
  let cw := finalCodewords v cfg.ec dcw
  let mask := match cfg.mask with
    | some k => k
    | none => chooseMask v cfg.ec cw
  { mode := m, version := v, mask := mask, dataCodewords := dcw, codewords := cw, matrix := refMatrix v cfg.ec mask cw }

theorem refEncode_unfold (m : Mode) (bytes : List Nat) (cfg : Config) :
    refEncode m bytes cfg =
      (encodeData m bytes).bind (fun cd =>
        (refVersion cfg m (headerBits cfg.eci cfg.gs1 m).length cd.2.length).map (fun v => refSymbolOf m cfg cd.1 cd.2 v)) := by
  unfold refEncode refVersion
  cases encodeData m bytes with
  | none => rfl
  | some cd =>
    obtain ⟨count, data⟩ := cd
    simp only [Option.bind_eq_bind, Option.bind_some]
    cases cfg.version with
    | none =>
      simp only
      cases minVersion cfg.ec m (headerBits cfg.eci cfg.gs1 m).length data.length <;> rfl
    | some v =>
      simp only
      split <;> rfl

/-- The mirror of `Encoder_encode` IS the reference encoder `QRRef.refEncode` (ISO/IEC 18004)
    run on the mode of the reference mode analysis, the mode's byte representation of the content and the
    configuration the hints amount to: same refusals, and on success the same mode, version, mask pattern, final
    codeword sequence and matrix (every module). -/
theorem encode_eq_refEncode {K : Kernels} (hK : KernelsOK K)
    (inp : EncInput) (ec : EC) (hec : ecOfInt inp.ecLevel = some ec)
    (hcs : ∀ cs, inp.charset = some cs → cs.known = true)
    (hsj : ∀ bs, inp.sjis = some bs → ∀ b ∈ bs, b < 256)
    (hrc : ∀ bs, inp.sjis = some bs → modeOf inp = .kanji → inp.runeCount = bs.length / 2)
    (he : ∀ e, eciOf inp (modeOf inp) = some e → e < 128) :
    match (modeBytes inp (modeOf inp)).bind (fun bytes => refEncode (modeOf inp) bytes (refConfig inp ec (modeOf inp))) with
    | none => encode K inp = .error .writer
    | some s =>
      ∃ t, encode K inp = .ok t ∧ t.mode = s.mode ∧ t.version = s.version ∧ t.maskPattern = ((s.mask : Nat) : Int) ∧
        t.finalBits = bitsOfBytes s.codewords ∧ t.matrix = refByteMatrix s.version ec s.mask s.codewords ∧
        t.matrix.bytes.map (fun r => r.map (· == 1)) = s.matrix := by
  have hfull := encode_eq_ref_full hK inp ec hec hcs hsj hrc he
  generalize hm : modeOf inp = m at hfull ⊢
  unfold refSegment at hfull
  cases hb : modeBytes inp m with
  | none => rw [hb] at hfull; simpa using hfull
  | some bytes =>
    rw [hb] at hfull
    simp only [Option.bind_some] at hfull ⊢
    rw [refEncode_unfold]
    cases hd : encodeData m bytes with
    | none => rw [hd] at hfull; simpa using hfull
    | some cd =>
      obtain ⟨count, data⟩ := cd
      rw [hd] at hfull
      simp only at hfull
      simp only [Option.bind_some]
      have hvc : refVersion (refConfig inp ec m) m (headerBits (refConfig inp ec m).eci (refConfig inp ec m).gs1 m).length data.length =
          versionChoice inp ec m (headerBits (eciOf inp m) (gs1OfHint inp.gs1) m).length data.length :=
        (versionChoice_eq_ref inp ec m _ _).symm
      rw [hvc]
      cases hch : versionChoice inp ec m (headerBits (eciOf inp m) (gs1OfHint inp.gs1) m).length data.length with
      | none => rw [hch] at hfull; simpa using hfull
      | some v =>
        rw [hch] at hfull
        simp only at hfull
        obtain ⟨t, ht, hmode, hv, hhd, hmask, hfb, hmat⟩ := hfull
        simp only [Option.map_some]
        have hcw : (refSymbolOf m (refConfig inp ec m) count data v).codewords = refCodewords v ec t.headerAndDataBits := by
          rw [hhd]; rfl
        have hmk : (refSymbolOf m (refConfig inp ec m) count data v).mask = finalMask inp.mask v ec t.headerAndDataBits := by
          unfold finalMask
          rw [← hcw]
          unfold refSymbolOf refConfig
          simp only
          by_cases hauto : maskOfHint inp.mask = -1
          · simp only [hauto, if_true]
          · simp only [hauto, if_false]
        have hver : (refSymbolOf m (refConfig inp ec m) count data v).version = v := rfl
        have hmat2 : (refSymbolOf m (refConfig inp ec m) count data v).matrix =
            refMatrix v ec (refSymbolOf m (refConfig inp ec m) count data v).mask
              (refSymbolOf m (refConfig inp ec m) count data v).codewords := rfl
        refine ⟨t, ht, hmode, hv, ?_, ?_, ?_, ?_⟩
        · rw [hmk]; exact hmask
        · rw [hcw]; exact hfb
        · rw [hver, hmk, hcw]; exact hmat
        · rw [hmat, hmat2, hmk, hcw]
          exact refByteMatrix_modules v ec _ _

end Gzx.QREnc
