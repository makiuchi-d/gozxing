/-
  What all detector proofs share: a reader that answers everywhere (`Total`; `BitMatrix.Get` of this tree is one,
  `rdGo_ok`), the run-counting walk of Model/DetWalk.lean under such a reader, and the tactic that takes a
  `do` block apart along its binds.
-/
import Gzx.Model.DetWalk
import Gzx.Proofs.Sat
namespace Gzx.Det
open Gzx

abbrev Total (rd : Reader) : Prop := RdOK rd (fun _ _ => True)

theorem walk_down_total {rd : Reader} (hrd : Total rd) {E : Fault → Prop} (pt : Int → Int × Int) (color : Bool)
    (cap : Int → Bool) (p0 cnt : Int) :
    Sat E (fun _ => True) (walk rd pt color (-1) (fun p => decide (p ≥ 0)) cap (fuelTo0 p0) p0 cnt) :=
  sat_true_of (walk_down_sat pt color cap p0 cnt (fun _ _ _ => hrd.sat trivial))

theorem walk_up_guard_total {rd : Reader} (hrd : Total rd) {E : Fault → Prop} (pt : Int → Int × Int) (color : Bool)
    (lim cap : Int → Bool) (L p0 cnt : Int) (hl : ∀ p, lim p = true → p < L) :
    Sat E (fun _ => True) (walk rd pt color 1 lim cap (fuelTo L p0) p0 cnt) := by
  refine sat_true_of (walk_sat pt color 1 lim cap (fun _ => True) (fun p => (L - p).toNat) ?_ ?_ ?_ _ p0 cnt trivial ?_)
  · intro p _ _; exact hrd.sat trivial
  · intro _ _ _; trivial
  · intro p _ h; have := hl p h; omega
  · intro h; have := hl p0 h; unfold fuelTo; omega

theorem walk_up_total {rd : Reader} (hrd : Total rd) {E : Fault → Prop} (pt : Int → Int × Int) (color : Bool)
    (cap : Int → Bool) (L p0 cnt : Int) :
    Sat E (fun _ => True) (walk rd pt color 1 (fun p => decide (p < L)) cap (fuelTo L p0) p0 cnt) :=
  walk_up_guard_total hrd pt color _ cap L p0 cnt fun _ h => of_decide_eq_true h

/-- Takes a goal `Sat E (fun _ => True) (do …)` apart along its binds and `if`s and closes the `pure`
    leaves; the calls are left over as goals.  With `walk` (and the functions called) irreducible, so that
    `apply` does not look for a bind inside them. -/
syntax "sat_steps" : tactic
macro_rules
  | `(tactic| sat_steps) => `(tactic| repeat' (first
      | exact Sat.ok trivial
      | exact rfl
      | apply Sat.then (P := fun _ => True)
      | apply Sat.ite
      | intro _
      | split))

end Gzx.Det
