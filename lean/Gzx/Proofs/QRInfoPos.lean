/-
  Where the reference construction puts the format and version information, for EVERY version number:
  position `i` of either copy (`formatPos1/2`, `versionPos1/2`) lies in the format / version region of
  `regionOf`, and the lookup that draws a module there (`formatBitAt`, `versionBitAt`: first index whose
  position is the module) resolves to `i`, because the positions are pairwise distinct.
  The region tests of these modules come before the alignment test of `regionOf`, so no centre list enters.
-/
import Gzx.Ref.QR
namespace Gzx.QRRef

/-- `regionOf` with its seven tests as propositions -/
theorem regionOf_eq (v x y : Nat) : regionOf v x y =
    if (x < 7 ∧ y < 7) ∨ (x + 7 ≥ dimension v ∧ y < 7) ∨ (x < 7 ∧ y + 7 ≥ dimension v) then .finder
    else if (x < 8 ∧ y < 8) ∨ (x + 8 ≥ dimension v ∧ y < 8) ∨ (x < 8 ∧ y + 8 ≥ dimension v) then .separator
    else if x = 8 ∧ y + 8 = dimension v then .dark
    else if (x ≤ 8 ∧ y ≤ 8 ∧ (x = 8 ∨ y = 8) ∧ x ≠ 6 ∧ y ≠ 6) ∨ (y = 8 ∧ x + 8 ≥ dimension v) ∨
        (x = 8 ∧ y + 8 ≥ dimension v) then .format
    else if 7 ≤ v ∧ ((x < 6 ∧ y + 11 ≥ dimension v ∧ y + 9 ≤ dimension v) ∨
        (y < 6 ∧ x + 11 ≥ dimension v ∧ x + 9 ≤ dimension v)) then .version
    else if inAlignment v x y = true then .alignment
    else if x = 6 ∨ y = 6 then .timing else .data := by
  unfold regionOf
  simp only [Bool.or_eq_true, Bool.and_eq_true, decide_eq_true_eq, beq_iff_eq, bne_iff_ne, ge_iff_le, and_assoc, or_assoc]

/-- `>` in the last disjunct where `regionOf` tests `≥`: `(8, dimension v - 8)` is the dark module, which
    `regionOf` tests one branch earlier -/
theorem regionOf_format (v x y : Nat) (hv : 1 ≤ v)
    (h : (x ≤ 8 ∧ y ≤ 8 ∧ (x = 8 ∨ y = 8) ∧ x ≠ 6 ∧ y ≠ 6) ∨ (y = 8 ∧ x + 8 ≥ dimension v) ∨
      (x = 8 ∧ y + 8 > dimension v)) : regionOf v x y = .format := by
  have hn : dimension v = 17 + 4 * v := rfl
  rw [regionOf_eq, if_neg, if_neg, if_neg, if_pos] <;> omega

theorem regionOf_version (v x y : Nat) (hv : 7 ≤ v)
    (h : (x < 6 ∧ y + 11 ≥ dimension v ∧ y + 9 ≤ dimension v) ∨ (y < 6 ∧ x + 11 ≥ dimension v ∧ x + 9 ≤ dimension v)) :
    regionOf v x y = .version := by
  have hn : dimension v = 17 + 4 * v := rfl
  rw [regionOf_eq, if_neg, if_neg, if_neg, if_neg, if_pos] <;> omega

theorem find?_range_unique (n i : Nat) (p : Nat → Bool) (hi : i < n) (hp : p i = true)
    (hu : ∀ j, j < i → p j = false) : (List.range n).find? p = some i := by
  induction n with
  | zero => omega
  | succ n ih =>
    rw [List.range_succ, List.find?_append]
    by_cases hin : i < n
    · rw [ih hin]; rfl
    · have : i = n := by omega
      subst this
      have : (List.range i).find? p = none := by
        rw [List.find?_eq_none]; intro j hj; rw [hu j (List.mem_range.mp hj)]; decide
      rw [this]; simp [hp]

/-- the 30 format positions of a symbol with `n ≥ 21` modules per side are pairwise distinct -/
theorem formatPos_inj (n i j : Nat) (hn : 21 ≤ n) (hi : i < 15) (hj : j < 15) :
    (formatPos1 j = formatPos1 i → j = i) ∧ (formatPos2 n j = formatPos2 n i → j = i) ∧
    formatPos1 j ≠ formatPos2 n i := by
  unfold formatPos1 formatPos2
  refine ⟨?_, ?_, ?_⟩ <;> (repeat' split) <;> simp only [Prod.mk.injEq, ne_eq] <;> omega

/-- both copies of format bit `i`: a format module, drawn from bit `i` -/
theorem formatPos_spec (v i : Nat) (hv : 1 ≤ v) (hi : i < 15) :
    ∀ c, c = formatPos1 i ∨ c = formatPos2 (dimension v) i →
      regionOf v c.1 c.2 = .format ∧
      (List.range 15).find? (fun j => formatPos1 j == (c.1, c.2) || formatPos2 (dimension v) j == (c.1, c.2)) = some i := by
  have hn : dimension v = 17 + 4 * v := rfl
  have inj := fun j (hj : j < 15) => formatPos_inj (dimension v) i j (by omega) hi hj
  have inj' := fun j (hj : j < 15) => formatPos_inj (dimension v) j i (by omega) hj hi
  rintro c (rfl | rfl)
  · refine ⟨regionOf_format v _ _ hv (Or.inl ?_), find?_range_unique 15 i _ hi (by simp) (fun j hj => ?_)⟩
    · unfold formatPos1; (repeat' split) <;> dsimp only <;> omega
    · have h1 : formatPos1 j ≠ formatPos1 i := fun h => by have := (inj j (by omega)).1 h; omega
      have h2 : formatPos2 (dimension v) j ≠ formatPos1 i := fun h => (inj' j (by omega)).2.2 h.symm
      simp [h1, h2]
  · refine ⟨regionOf_format v _ _ hv (Or.inr ?_), find?_range_unique 15 i _ hi (by simp) (fun j hj => ?_)⟩
    · unfold formatPos2; split <;> dsimp only <;> omega
    · have h1 : formatPos1 j ≠ formatPos2 (dimension v) i := (inj j (by omega)).2.2
      have h2 : formatPos2 (dimension v) j ≠ formatPos2 (dimension v) i := fun h => by
        have := (inj j (by omega)).2.1 h; omega
      simp [h1, h2]

/-- both copies of version bit `i`: a version module, drawn from bit `i` -/
theorem versionPos_spec (v i : Nat) (hv : 7 ≤ v) (hi : i < 18) :
    ∀ c, c = versionPos1 (dimension v) i ∨ c = versionPos2 (dimension v) i →
      regionOf v c.1 c.2 = .version ∧
      (List.range 18).find? (fun j => versionPos1 (dimension v) j == (c.1, c.2) ||
        versionPos2 (dimension v) j == (c.1, c.2)) = some i := by
  have hn : dimension v = 17 + 4 * v := rfl
  have hne : ∀ j, j < i →
      versionPos1 (dimension v) j ≠ versionPos1 (dimension v) i ∧ versionPos2 (dimension v) j ≠ versionPos1 (dimension v) i ∧
      versionPos1 (dimension v) j ≠ versionPos2 (dimension v) i ∧ versionPos2 (dimension v) j ≠ versionPos2 (dimension v) i := by
    intro j hj
    unfold versionPos1 versionPos2
    simp only [ne_eq, Prod.mk.injEq]
    omega
  rintro c (rfl | rfl)
  · refine ⟨regionOf_version v _ _ hv (Or.inl (by unfold versionPos1; dsimp only; omega)),
      find?_range_unique 18 i _ hi (by simp) (fun j hj => ?_)⟩
    simp [(hne j hj).1, (hne j hj).2.1]
  · refine ⟨regionOf_version v _ _ hv (Or.inr (by unfold versionPos2; dsimp only; omega)),
      find?_range_unique 18 i _ hi (by simp) (fun j hj => ?_)⟩
    simp [(hne j hj).2.2.1, (hne j hj).2.2.2]

end Gzx.QRRef
