/-
  The QR detector model after the finder scan: SelectBestPatterns / Find, the Detector steps (module size walk,
  dimension, alignment search), and their composition `locate_sat` / `detect_sat`: NotFound, Format (a dimension
  no version has) or a located symbol with dimension 21..177, 1 mod 4.
-/
import Gzx.Proofs.DetQR
namespace Gzx.Det.QR
open Gzx Gzx.Det

/-! ## SelectBestPatterns -/

/-- `bestPatterns` is still `nil` only while `distortion` still is the initial `math.MaxFloat64` -/
def BestInv {F : Type} (o : FOps F) (b : Best F) : Prop := b.pats = none → b.distortion = o.maxFloat

theorem bestK_inv {F : Type} (o : FOps F) (fpi fpj : FP F) (sq : F) :
    ∀ (ks : List (FP F)) (b : Best F), BestInv o b → BestInv o (bestK o fpi fpj sq ks b) := by
  intro ks
  induction ks with
  | nil => intro b hb; exact hb
  | cons k ks ih =>
    intro b hb
    unfold bestK
    split
    · exact ih b hb
    · simp only []
      split
      · exact ih _ (fun h => by cases h)
      · exact ih b hb

theorem bestJ_inv {F : Type} (o : FOps F) (fpi : FP F) :
    ∀ (js : List (FP F)) (b : Best F), BestInv o b → BestInv o (bestJ o fpi js b) := by
  intro js
  induction js with
  | nil => intro b hb; exact hb
  | cons j js ih => intro b hb; exact ih _ (bestK_inv o fpi j _ js b hb)

theorem bestI_inv {F : Type} (o : FOps F) :
    ∀ (is : List (FP F)) (b : Best F), BestInv o b → BestInv o (bestI o is b) := by
  intro is
  induction is with
  | nil => intro b hb; exact hb
  | cons i is ih => intro b hb; exact ih _ (bestJ_inv o i is b hb)

/-- the one property of float64 the totality of `SelectBestPatterns` rests on -/
def MaxEqSelf {F : Type} (o : FOps F) : Prop := o.eq o.maxFloat o.maxFloat = true

theorem selectBestPatterns_sat {F : Type} (o : FOps F) (hmax : MaxEqSelf o) (centers : List (FP F)) :
    Sat OnlyNotFound (fun _ => True) (selectBestPatterns o centers) := by
  unfold selectBestPatterns
  split
  · exact rfl
  · simp only []
    have hinv := bestI_inv o (sortBySize o centers) { distortion := o.maxFloat, pats := none } (fun _ => rfl)
    split
    · exact rfl
    · rename_i hne
      split
      · exact Sat.ok trivial
      · rename_i hnone
        exfalso
        apply hne
        rw [hinv hnone]
        exact hmax

attribute [local irreducible] findScan selectBestPatterns in
theorem find_sat {F : Type} (o : FOps F) (hmax : MaxEqSelf o) {rd : Reader} (hrd : Total rd)
    (maxI maxJ : Int) (tryHarder : Bool) :
    Sat OnlyNotFound (fun _ => True) (find o rd maxI maxJ tryHarder) := by
  unfold find
  exact Sat.then (Sat.lift (findScan_sat o hrd maxI maxJ tryHarder)) fun s =>
    Sat.then (selectBestPatterns_sat o hmax _) fun p => Sat.ok trivial

/-! ## module size -/

theorem bwbLoop_sat {F : Type} (o : FOps F) {rd : Reader} (hrd : Total rd) (steep : Bool)
    (fromX fromY toY dx dy xstep ystep : Int) :
    ∀ (n : Nat) (x y err state : Int),
      Sat NoFault (fun _ => True) (bwbLoop o rd steep fromX fromY toY dx dy xstep ystep n x y err state)
  | 0, _, _, _, _ => Sat.ok trivial
  | n + 1, x, y, err, state => by
    unfold bwbLoop
    exact Sat.then (hrd.sat trivial) fun b => Sat.ite (fun _ => Sat.ok trivial) fun _ =>
      Sat.ite (fun _ => Sat.ite (fun _ => Sat.ok trivial) fun _ => bwbLoop_sat o hrd _ _ _ _ _ _ _ _ n _ _ _ _)
        fun _ => bwbLoop_sat o hrd _ _ _ _ _ _ _ _ n _ _ _ _

attribute [local irreducible] bwbLoop in
theorem sizeOfBlackWhiteBlackRun_sat {F : Type} (o : FOps F) {rd : Reader} (hrd : Total rd)
    (fromX fromY toX toY : Int) :
    Sat NoFault (fun _ => True) (sizeOfBlackWhiteBlackRun o rd fromX fromY toX toY) := by
  unfold sizeOfBlackWhiteBlackRun
  simp only []
  split <;> simp only [] <;>
  · refine Sat.then (bwbLoop_sat o hrd _ _ _ _ _ _ _ _ _ _ _ _ _) ?_
    intro r
    sat_steps

attribute [local irreducible] sizeOfBlackWhiteBlackRun in
theorem sizeOfBlackWhiteBlackRunBothWays_sat {F : Type} (o : FOps F) {rd : Reader} (hrd : Total rd)
    (w h fromX fromY toX toY : Int) :
    Sat NoFault (fun _ => True) (sizeOfBlackWhiteBlackRunBothWays o rd w h fromX fromY toX toY) := by
  unfold sizeOfBlackWhiteBlackRunBothWays
  refine Sat.then (sizeOfBlackWhiteBlackRun_sat o hrd _ _ _ _) fun r => ?_
  simp only []
  exact Sat.then (sizeOfBlackWhiteBlackRun_sat o hrd _ _ _ _) fun r2 => Sat.ok trivial

attribute [local irreducible] sizeOfBlackWhiteBlackRunBothWays in
theorem calculateModuleSizeOneWay_sat {F : Type} (o : FOps F) {rd : Reader} (hrd : Total rd)
    (w h : Int) (p q : FP F) :
    Sat NoFault (fun _ => True) (calculateModuleSizeOneWay o rd w h p q) := by
  unfold calculateModuleSizeOneWay
  exact Sat.then (sizeOfBlackWhiteBlackRunBothWays_sat o hrd _ _ _ _ _ _) fun e1 =>
    Sat.then (sizeOfBlackWhiteBlackRunBothWays_sat o hrd _ _ _ _ _ _) fun e2 =>
      Sat.ite (fun _ => Sat.ok trivial) fun _ => Sat.ite (fun _ => Sat.ok trivial) fun _ => Sat.ok trivial

attribute [local irreducible] calculateModuleSizeOneWay in
theorem calculateModuleSize_sat {F : Type} (o : FOps F) {rd : Reader} (hrd : Total rd)
    (w h : Int) (tl tr bl : FP F) :
    Sat NoFault (fun _ => True) (calculateModuleSize o rd w h tl tr bl) := by
  unfold calculateModuleSize
  exact Sat.then (calculateModuleSizeOneWay_sat o hrd _ _ _ _) fun a =>
    Sat.then (calculateModuleSizeOneWay_sat o hrd _ _ _ _) fun b => Sat.ok trivial

/-! ## dimension -/

/-- The `dimension % 4` switch of `computeDimension` answers NotFoundException or a dimension `d` with `d % 4 = 1`
    — unless `(a + b) / 2 + 7` is negative (no distance gives that, an `int(NaN)` does): Go's `%` is then negative,
    the switch does not normalise, and all that is known of `d` is `d < 7`.  `locate` does not rely on either: it
    tests `d % 4 = 1` again before it uses `d`. -/
theorem adjustDimension_sat (a b : Int) :
    Sat OnlyNotFound (fun d => Int.tmod d 4 = 1 ∨ d < 7) (adjustDimension a b) := by
  unfold adjustDimension
  simp only []
  generalize Int.tdiv (wrap64 (a + b)) 2 + 7 = d
  by_cases hd : 0 ≤ d
  · -- for non-negative numbers the truncating remainder is the Euclidean one
    have key : ∀ e : Int, 0 ≤ e → e % 4 = 1 → Int.tmod e 4 = 1 ∨ e < 7 := fun e he h =>
      Or.inl (by rw [Int.tmod_eq_emod_of_nonneg he]; exact h)
    rw [Int.tmod_eq_emod_of_nonneg hd]
    exact Sat.ite (fun _ => Sat.ok (key _ (by omega) (by omega))) fun _ =>
      Sat.ite (fun _ => Sat.ok (key _ (by omega) (by omega))) fun _ =>
        Sat.ite (fun _ => rfl) fun _ => Sat.ok (key _ hd (by omega))
  · exact Sat.ite (fun _ => Sat.ok (Or.inr (by omega))) fun _ => Sat.ite (fun _ => Sat.ok (Or.inr (by omega))) fun _ =>
      Sat.ite (fun _ => rfl) fun _ => Sat.ok (Or.inr (by omega))

/-! ## AlignmentPatternFinder -/

attribute [local irreducible] walk in
theorem apCrossCheckVertical_sat {F : Type} (o : FOps F) {rd : Reader} (hrd : Total rd) (maxI : Int) (moduleSize : F)
    (startI centerJ maxCount origTotal : Int) :
    Sat NoFault (fun _ => True) (apCrossCheckVertical o rd maxI moduleSize startI centerJ maxCount origTotal) := by
  unfold apCrossCheckVertical
  sat_steps
  all_goals first | exact walk_down_total hrd _ _ _ _ _ | exact walk_up_total hrd _ _ _ _ _ _

attribute [local irreducible] apCrossCheckVertical in
theorem apHandlePossibleCenter_sat {F : Type} (o : FOps F) {rd : Reader} (hrd : Total rd) (maxI : Int) (moduleSize : F)
    (centers : List (AP F)) (sc : SC3) (i j : Int) :
    Sat NoFault (fun _ => True) (apHandlePossibleCenter o rd maxI moduleSize centers sc i j) := by
  unfold apHandlePossibleCenter
  simp only []
  refine Sat.then (apCrossCheckVertical_sat o hrd _ _ _ _ _ _) ?_
  intro c
  sat_steps

theorem SC3.inc_sat (s : SC3) (i : Int) (h0 : 0 ≤ i) (h2 : i ≤ 2) : Sat NoFault (fun _ => True) (s.inc i) := by
  rcases (by omega : i = 0 ∨ i = 1 ∨ i = 2) with rfl | rfl | rfl <;> exact Sat.ok trivial
attribute [local irreducible] apHandlePossibleCenter in
theorem apRowLoop_sat {F : Type} (o : FOps F) {rd : Reader} (hrd : Total rd) (maxI : Int) (moduleSize : F) (i : Int) :
    ∀ (n : Nat) (j : Int) (s : APScan F), 0 ≤ s.cur → s.cur ≤ 2 →
      Sat NoFault (fun _ => True) (apRowLoop o rd maxI moduleSize i n j s)
  | 0, _, _, _, _ => Sat.ok trivial
  | n + 1, j, s, h0, h2 => by
    have next := apRowLoop_sat o hrd maxI moduleSize i n (j + 1)
    unfold apRowLoop
    refine Sat.then (hrd.sat trivial) fun b => Sat.ite (fun _ => Sat.ite (fun c1 => ?_) fun c1 =>
      Sat.ite (fun c2 => Sat.ite (fun _ => ?_) fun _ => next _ (by simp only []; omega) (by simp only []; omega)) fun c2 => ?_) fun _ => ?_
    · exact Sat.then (SC3.inc_sat _ 1 (by decide) (by decide)) fun sc => next _ h0 h2
    · refine Sat.then (apHandlePossibleCenter_sat o hrd _ _ _ _ _ _) fun ⟨confirmed, centers⟩ => ?_
      cases confirmed with
      | some a => exact Sat.ok trivial
      | none => exact next _ (by simp only []; omega) (by simp only []; omega)
    · exact Sat.then (SC3.inc_sat _ _ (by omega) (by omega)) fun sc =>
        next _ (by simp only []; omega) (by simp only []; omega)
    · exact Sat.then (SC3.inc_sat _ _ (by split <;> omega) (by split <;> omega)) fun sc =>
        next _ (by simp only []; split <;> omega) (by simp only []; split <;> omega)

attribute [local irreducible] apHandlePossibleCenter apRowLoop in
theorem apRowsLoop_sat {F : Type} (o : FOps F) {rd : Reader} (hrd : Total rd) (maxI : Int) (moduleSize : F)
    (startX maxJ middleI : Int) :
    ∀ (n : Nat) (iGen : Int) (centers : List (AP F)),
      Sat NoFault (fun _ => True) (apRowsLoop o rd maxI moduleSize startX maxJ middleI n iGen centers)
  | 0, _, _ => Sat.ok trivial
  | n + 1, iGen, centers => by
    have next := apRowsLoop_sat o hrd maxI moduleSize startX maxJ middleI n (iGen + 1)
    unfold apRowsLoop
    refine Sat.then (walk_up_total hrd _ _ _ _ _ _) fun r =>
      Sat.then (apRowLoop_sat o hrd _ _ _ _ _ _ (Int.le_refl 0) (by simp only []; omega)) fun r2 => ?_
    cases r2 with
    | inl a => exact Sat.ok trivial
    | inr s =>
      refine Sat.ite (fun _ => Sat.then (apHandlePossibleCenter_sat o hrd _ _ _ _ _ _) fun ⟨confirmed, centers'⟩ => ?_)
        fun _ => next _
      cases confirmed with
      | some a => exact Sat.ok trivial
      | none => exact next _

attribute [local irreducible] apRowsLoop in
theorem apFind_sat {F : Type} (o : FOps F) {rd : Reader} (hrd : Total rd) (maxI startX startY width height : Int)
    (moduleSize : F) :
    Sat OnlyNotFound (fun _ => True) (apFind o rd maxI startX startY width height moduleSize) := by
  unfold apFind
  refine Sat.then (Sat.lift (apRowsLoop_sat o hrd _ _ _ _ _ _ _ _)) fun r => ?_
  rcases r with a | _ | ⟨c, _⟩
  · exact Sat.ok trivial
  · exact rfl
  · exact Sat.ok trivial

attribute [local irreducible] apFind in
theorem findAlignmentInRegion_sat {F : Type} (o : FOps F) {rd : Reader} (hrd : Total rd) (w h : Int) (moduleSize : F)
    (estX estY : Int) (factor : F) :
    Sat OnlyNotFound (fun _ => True) (findAlignmentInRegion o rd w h moduleSize estX estY factor) := by
  unfold findAlignmentInRegion
  exact Sat.ite (fun _ => rfl) fun _ => Sat.ite (fun _ => rfl) fun _ => apFind_sat o hrd _ _ _ _ _ _

attribute [local irreducible] findAlignmentInRegion in
theorem alignmentSearch_sat {F : Type} (o : FOps F) {rd : Reader} (hrd : Total rd) (w h : Int) (moduleSize : F)
    (estX estY : Int) :
    ∀ (l : List Int), Sat NoFault (fun _ => True) (alignmentSearch o rd w h moduleSize estX estY l)
  | [] => Sat.ok trivial
  | i :: is => by
    unfold alignmentSearch
    rcases (findAlignmentInRegion_sat o hrd w h moduleSize estX estY (o.ofInt i)).cases with
      ⟨a, hr, _⟩ | ⟨e, hr, rfl⟩ <;> rw [hr]
    · exact Sat.ok trivial
    · exact alignmentSearch_sat o hrd w h moduleSize estX estY is

/-- a dimension that passes `Version_GetProvisionalVersionForDimension` (Go's `/` and `%` truncate) -/
theorem dimension_bounds (d : Int) (hm : Int.tmod d 4 = 1)
    (hv : ¬ (Int.tdiv (d - 17) 4 < 1 ∨ Int.tdiv (d - 17) 4 > 40)) : 21 ≤ d ∧ d ≤ 177 := by
  rw [Int.tdiv_eq_ediv, show (4 : Int).sign = 1 from rfl] at hv
  rw [Int.tmod_eq_emod, show (4 : Int).natAbs = 4 from rfl] at hm
  split at hv <;> split at hm <;> omega

attribute [local irreducible] calculateModuleSize alignmentSearch in
theorem locate_sat {F : Type} (o : FOps F) {rd : Reader} (hrd : Total rd) (w h : Int) (tl tr bl : FP F) :
    Sat (Either .notFound .format) (fun l => Int.tmod l.dimension 4 = 1 ∧ 21 ≤ l.dimension ∧ l.dimension ≤ 177)
      (locate o rd w h tl tr bl) := by
  unfold locate
  refine Sat.then (Sat.lift (calculateModuleSize_sat o hrd w h tl tr bl)) fun ms =>
    Sat.ite (fun _ => Sat.error (Or.inl rfl)) fun _ =>
    Sat.then (Sat.mono (adjustDimension_sat _ _) (fun _ => Or.inl) fun _ _ => trivial) fun d =>
    Sat.ite (fun _ => Sat.error (Or.inr rfl)) fun hm => Sat.ite (fun _ => Sat.error (Or.inr rfl)) fun hv => ?_
  have hd := And.intro (Decidable.not_not.mp hm) (dimension_bounds d (Decidable.not_not.mp hm) hv)
  exact Sat.ite (fun _ => Sat.then (Sat.lift (alignmentSearch_sat o hrd w h ms _ _ _)) fun a => Sat.ok hd)
    fun _ => Sat.ok hd

attribute [local irreducible] find locate in
theorem detect_sat {F : Type} (o : FOps F) (hmax : MaxEqSelf o) {rd : Reader} (hrd : Total rd) (w h : Int)
    (tryHarder : Bool) :
    Sat (Either .notFound .format) (fun r => Int.tmod r.2.dimension 4 = 1 ∧ 21 ≤ r.2.dimension ∧ r.2.dimension ≤ 177)
      (detect o rd w h tryHarder) := by
  unfold detect
  exact Sat.then (Sat.mono (find_sat o hmax hrd h w tryHarder) (fun _ => Or.inl) fun _ h => h) fun info =>
    Sat.bind (locate_sat o hrd w h _ _ _) fun loc hl => Sat.ok hl

end Gzx.Det.QR
