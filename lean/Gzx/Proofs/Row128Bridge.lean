/-
  Helper lemmas for Properties/C03Row128.lean: without the ASSUME_GS1 hint the `step` function of
  the row model is the symbol-level state machine `c128Step` of Gzx/Model/OneD.lean (plus the symbology modifier), so the
  symbol-level theorems of C03 / C10 (`code128_codeset_inv`, `code128_forced_inv`, …) apply to what the row decoder reads;
  the writer's module pattern as a run list.
-/
import Gzx.Proofs.Row128Top
namespace Gzx.Row128
open Gzx Gzx.OneD Gzx.CheckDigit

def proj (s : St) : C128St :=
  ⟨s.codeSet, s.result, s.lastPrintable, s.upper, s.shiftUpper, s.nextShifted, s.lastCode, s.code, s.total, s.mult⟩

def projR : Res (St × Bool) → Res (C128St × Bool)
  | .ok (s', d) => .ok (proj s', d)
  | .error e => .error e

def newMod (s : St) : Nat := if s.result.length = 0 then 1 else if s.result.length = 1 then 2 else s.symMod

theorem fnc1_false (s : St) : fnc1 false s = { s with symMod := newMod s } := by
  unfold fnc1 newMod
  simp only [Bool.false_eq_true, if_false]
  split
  · rfl
  · split <;> rfl

macro "bridge_simp" : tactic =>
  `(tactic| simp [step, c128Step, projR, stepPre, stepBody, stepPost, proj, emit, fnc1_false, fnc4, np, *])

theorem step_proj_A (s : St) (code : Nat) (hA : s.codeSet = 101) : projR (step false s code) = c128Step (proj s) code := by
  obtain ⟨cs, res, lp, up, su, ns, lc, cd, tot, mu, sm⟩ := s
  simp only [] at hA
  subst hA
  by_cases hst : code = 103 ∨ code = 104 ∨ code = 105
  · simp [step, c128Step, hst, projR]
  · by_cases h64 : code < 64
    · have h106 : code ≠ 106 := by omega
      cases ns <;> bridge_simp
    · by_cases h96 : code < 96
      · have h106 : code ≠ 106 := by omega
        cases ns <;> bridge_simp
      · by_cases h102 : code = 102
        · subst h102; cases ns <;> bridge_simp
        · by_cases h97 : code = 97
          · subst h97; cases ns <;> bridge_simp
          · by_cases h96' : code = 96
            · subst h96'; cases ns <;> bridge_simp
            · by_cases h101 : code = 101
              · subst h101; cases ns <;> cases up <;> cases su <;> bridge_simp
              · by_cases h98 : code = 98
                · subst h98; cases ns <;> bridge_simp
                · by_cases h100 : code = 100
                  · subst h100; cases ns <;> bridge_simp
                  · by_cases h99 : code = 99
                    · subst h99; cases ns <;> bridge_simp
                    · by_cases h106 : code = 106
                      · subst h106; cases ns <;> bridge_simp
                      · cases ns <;> bridge_simp

theorem step_proj_B (s : St) (code : Nat) (hB : s.codeSet = 100) : projR (step false s code) = c128Step (proj s) code := by
  obtain ⟨cs, res, lp, up, su, ns, lc, cd, tot, mu, sm⟩ := s
  simp only [] at hB
  subst hB
  by_cases hst : code = 103 ∨ code = 104 ∨ code = 105
  · simp [step, c128Step, hst, projR]
  · by_cases h96 : code < 96
    · have h106 : code ≠ 106 := by omega
      cases ns <;> bridge_simp
    · by_cases h102 : code = 102
      · subst h102; cases ns <;> bridge_simp
      · by_cases h97 : code = 97
        · subst h97; cases ns <;> bridge_simp
        · by_cases h96' : code = 96
          · subst h96'; cases ns <;> bridge_simp
          · by_cases h100 : code = 100
            · subst h100; cases ns <;> cases up <;> cases su <;> bridge_simp
            · by_cases h98 : code = 98
              · subst h98; cases ns <;> bridge_simp
              · by_cases h101 : code = 101
                · subst h101; cases ns <;> bridge_simp
                · by_cases h99 : code = 99
                  · subst h99; cases ns <;> bridge_simp
                  · by_cases h106 : code = 106
                    · subst h106; cases ns <;> bridge_simp
                    · cases ns <;> bridge_simp

theorem step_proj_C (s : St) (code : Nat) (hC : s.codeSet = 99) : projR (step false s code) = c128Step (proj s) code := by
  obtain ⟨cs, res, lp, up, su, ns, lc, cd, tot, mu, sm⟩ := s
  simp only [] at hC
  subst hC
  by_cases hst : code = 103 ∨ code = 104 ∨ code = 105
  · simp [step, c128Step, hst, projR]
  · by_cases h100 : code < 100
    · have h106 : code ≠ 106 := by omega
      cases ns <;> bridge_simp
    · by_cases h102 : code = 102
      · subst h102; cases ns <;> bridge_simp
      · by_cases h101 : code = 101
        · subst h101; cases ns <;> bridge_simp
        · by_cases h100' : code = 100
          · subst h100'; cases ns <;> bridge_simp
          · by_cases h106 : code = 106
            · subst h106; cases ns <;> bridge_simp
            · cases ns <;> bridge_simp

/-- without ASSUME_GS1 the row model's `step` is `c128Step` on the shared fields -/
theorem step_proj (s : St) (code : Nat) (h : CS s) : projR (step false s code) = c128Step (proj s) code := by
  rcases h with h | h | h
  · exact step_proj_C s code h
  · exact step_proj_B s code h
  · exact step_proj_A s code h

theorem symRun_proj : ∀ (codes : List Nat) (s : St), CS s →
    (match symRun false codes s with | .ok s' => .ok (proj s') | .error e => .error e) = c128Run codes (proj s)
  | [], _, _ => rfl
  | c :: cs, s, h => by
    unfold symRun c128Run
    rw [← step_proj s c h]
    cases hstep : step false s c with
    | error e => rfl
    | ok r =>
      obtain ⟨s', d⟩ := r
      cases d with
      | true => rfl
      | false =>
        simp only [projR]
        exact symRun_proj cs s' (step_CS false s c s' false h hstep).1

/-- the text the symbol-level reader of the row model returns is what `code128ReadCodes` (C03 / C10) returns -/
theorem readSyms_text (sc : Nat) (hsc : sc = 103 ∨ sc = 104 ∨ sc = 105) (rest : List Nat) :
    (match readSyms false sc rest with | .ok r => .ok r.1 | .error e => .error e) = code128ReadCodes (sc :: rest) := by
  obtain ⟨cs, hcs, hcs3⟩ := codeSetOf_start sc hsc
  have hCS : CS (st0 cs sc) := CS_st0 hcs3 sc
  have hrun := symRun_proj rest (st0 cs sc) hCS
  have hcs' : cs = (if sc = 103 then 101 else if sc = 104 then 100 else 99) := by
    rcases hsc with rfl | rfl | rfl <;> (simp [codeSetOf] at hcs; simp; omega)
  unfold readSyms code128ReadCodes
  rw [hcs]
  have hnot : ¬ (sc ≠ 103 ∧ sc ≠ 104 ∧ sc ≠ 105) := by omega
  simp only [hnot, if_false]
  have hp : proj (st0 cs sc) = ⟨(if sc = 103 then 101 else if sc = 104 then 100 else 99), [], true, false, false, false, 0, 0, sc, 0⟩ := by
    rw [← hcs']; rfl
  rw [← hp, ← hrun]
  cases symRun false rest (st0 cs sc) with
  | error e => rfl
  | ok s =>
    refine Eq.trans ?_ (show finish s = _ from rfl)
    simp only []
    cases finish s <;> rfl

/-- the module pattern the Code 128 writer draws for symbol characters `body ++ [STOP]`, as one run list -/
theorem code128Draw_runs (T : Tables) (hT : WF128 T.code128 = true) (body : List Nat) (hb : ∀ c ∈ body, c < 106) :
    code128Draw T (body ++ [106]) = .ok (appendPattern (fullRuns T.code128 (body ++ [106])) true) := by
  rw [code128Draw_body_stop T hT body hb]
  simp [fullRuns]

end Gzx.Row128
