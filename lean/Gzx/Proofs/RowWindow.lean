/-
  The counter-window search loop of the 1-D row readers: `code128FindStartPattern`, `itfReader_findGuardPattern`,
  `code39FindAsteriskPattern` / Code 93 `findAsteriskPattern`, `upceanReader_findGuardPatternWithCounters` and
  `rss14Reader findFinderPattern` are all the loop `genLoop n check` (their agreement lemmas stand next to their
  models' other lemmas).  About it:
  `genLoop_fill` — on a row given by its run lengths the pixel loop is `fillG`, which looks at one window of `n` runs
  after the other; `genLoop_first` — the first window, when `check` accepts it; `genLoop_sat` — what holds of every
  window `check` is asked about, hence of the result, on every row.
-/
import Gzx.Model.OneDRow128
import Gzx.Model.DetCore
import Gzx.Proofs.RunBoundary
namespace Gzx.Row128
open Gzx Gzx.OneD Gzx.Det

/-- `check ps i counters`: what happens when the window is full at pixel `i` — `some r` returns `r`, `none` shifts the
    window by two counters -/
def genLoop {β : Type} (n : Nat) (check : Nat → Nat → List Nat → Res (Option β)) :
    List Bool → Nat → List Nat → Nat → Nat → Bool → Res β
  | [], _, _, _, _, _ => .error .notFound
  | b :: bs, i, cs, pos, ps, isWhite =>
    if b != isWhite then
      match incrChk cs pos with
      | .error e => .error e
      | .ok cs' => genLoop n check bs (i + 1) cs' pos ps isWhite
    else if pos + 1 = n then
      match check ps i cs with
      | .error e => .error e
      | .ok (some r) => .ok r
      | .ok none =>
        match cs with
        | c0 :: c1 :: tl =>
          if pos < 2 then .error (.panic "slice bounds out of range")
          else genLoop n check bs (i + 1) (tl ++ [1, 0]) (pos - 1) (ps + c0 + c1) (!isWhite)
        | _ => .error (.panic "index out of range")
    else
      if pos + 1 < cs.length then genLoop n check bs (i + 1) (cs.set (pos + 1) 1) (pos + 1) ps (!isWhite)
      else .error (.panic "index out of range")

theorem incrChk_mid (pre : List Nat) (k : Nat) (zs : List Nat) :
    incrChk (pre ++ k :: zs) pre.length = .ok (pre ++ (k + 1) :: zs) := by
  unfold incrChk
  rw [if_pos (by simp), incrAt_mid]

theorem genLoop_same {β : Type} (n : Nat) (check : Nat → Nat → List Nat → Res (Option β)) (m : Nat) (col : Bool)
    (tail : List Bool) (x : Nat) (pre : List Nat) (k : Nat) (zs : List Nat) (ps : Nat) :
    genLoop n check (List.replicate m col ++ tail) x (pre ++ k :: zs) pre.length ps (!col)
      = genLoop n check tail (x + m) (pre ++ (k + m) :: zs) pre.length ps (!col) := by
  induction m generalizing x k with
  | zero => simp
  | succ m ih =>
    have hc : (col != !col) = true := by cases col <;> rfl
    simp only [List.replicate_succ, List.cons_append, genLoop, hc, if_true, incrChk_mid]
    rw [ih]
    have e1 : x + 1 + m = x + (m + 1) := by omega
    have e2 : k + 1 + m = k + (m + 1) := by omega
    rw [e1, e2]


/-! ## on a row given by its runs -/

/-- the window loop seen run by run: `pre` = completed counters, `K` = the run being counted (complete), `zs` = counters
    still to fill, `R` = the runs that follow; a window is checked when one more run follows it, and shifted by two
    runs when `check` declines -/
def fillG {β : Type} (check : Nat → Nat → List Nat → Res (Option β)) :
    List Nat → Nat → List Nat → List Nat → Nat → Nat → Res β
  | _, _, _, [], _, _ => .error .notFound
  | pre, K, [], w :: R, x, ps =>
    match check ps x (pre ++ [K]) with
    | .error e => .error e
    | .ok (some r) => .ok r
    | .ok none =>
      match pre ++ [K] with
      | c0 :: c1 :: tl => fillG check tl w [0] R (x + w) (ps + c0 + c1)
      | _ => .error (.panic "index out of range")
  | pre, K, _ :: zs, w :: R, x, ps => fillG check (pre ++ [K]) w zs R (x + w) ps

/-- the pixel loop is the run-level loop, on every row.  `3 ≤ n`: with fewer than three counters the declining branch
    of `genLoop` panics on its slice bounds (`pos < 2`), which `fillG` does not model. -/
theorem genLoop_fill {β : Type} (n : Nat) (h3 : 3 ≤ n) (check : Nat → Nat → List Nat → Res (Option β)) (R : List Nat) :
    ∀ (pre : List Nat) (k m : Nat) (zs : List Nat) (col : Bool) (x ps : Nat), (∀ r ∈ R, 0 < r) →
    pre.length + 1 + zs.length = n →
    genLoop n check (List.replicate m col ++ appendPattern R (!col)) x (pre ++ k :: zs) pre.length ps (!col)
      = fillG check pre (k + m) zs R (x + m) ps := by
  induction R with
  | nil =>
    intro pre k m zs col x ps _ _
    rw [genLoop_same]
    cases zs <;> simp [appendPattern, genLoop, fillG]
  | cons w R ih =>
    intro pre k m zs col x ps hpos hn
    have hw : 0 < w := hpos w (by simp)
    have hR : ∀ r ∈ R, 0 < r := fun r hr => hpos r (by simp [hr])
    obtain ⟨w', rfl⟩ : ∃ w', w = w' + 1 := ⟨w - 1, by omega⟩
    rw [genLoop_same]
    have hc : ((!col) != !col) = false := by cases col <;> rfl
    cases zs with
    | nil =>
      have hl : pre.length + 1 = n := by simpa using hn
      simp only [appendPattern, List.replicate_succ, List.cons_append, genLoop, hc, Bool.false_eq_true, if_false,
        hl, if_true, fillG]
      cases hck : check ps (x + m) (pre ++ [k + m]) with
      | error e => rfl
      | ok o =>
        cases o with
        | some r => rfl
        | none =>
          simp only []
          cases hcs : pre ++ [k + m] with
          | nil => rfl
          | cons c0 rest =>
            cases rest with
            | nil => rfl
            | cons c1 tl =>
              simp only []
              have hpl : pre.length - 1 = tl.length := by
                have := congrArg List.length hcs
                simp at this; omega
              rw [if_neg (by omega)]
              have := ih tl 1 w' [0] (!col) (x + m + 1) (ps + c0 + c1) hR (by simp; omega)
              simp only [Bool.not_not] at this
              simp only [Bool.not_not]
              rw [hpl, this]
              congr 1 <;> omega
    | cons z zs' =>
      have hl : ¬ pre.length + 1 = n := by simp at hn; omega
      have hl2 : pre.length + 1 < (pre ++ (k + m) :: z :: zs').length := by simp
      simp only [appendPattern, List.replicate_succ, List.cons_append, genLoop, hc, Bool.false_eq_true, if_false,
        hl, hl2, if_true, fillG]
      have hset : (pre ++ (k + m) :: z :: zs').set (pre.length + 1) 1 = (pre ++ [k + m]) ++ 1 :: zs' := by
        rw [List.set_append_right _ _ (by omega)]
        simp
      have hpl : pre.length + 1 = (pre ++ [k + m]).length := by simp
      rw [hset, hpl]
      have := ih (pre ++ [k + m]) 1 w' zs' (!col) (x + m + 1) ps hR (by simp at hn ⊢; omega)
      simp only [Bool.not_not] at this ⊢
      rw [this]
      congr 1 <;> omega


/-- the window fills with the next runs; `check` accepts it -/
theorem fillG_accept {β : Type} (check : Nat → Nat → List Nat → Res (Option β)) (r : β) (w : Nat) (rest : List Nat) :
    ∀ (P pre : List Nat) (K : Nat) (zs : List Nat) (x ps : Nat), zs.length = P.length →
      check ps (x + sumL P) (pre ++ K :: P) = .ok (some r) →
      fillG check pre K zs (P ++ w :: rest) x ps = .ok r
  | [], pre, K, zs, x, ps, hz, hck => by
    have : zs = [] := by simpa using hz
    subst this
    simp only [sumL_nil, Nat.add_zero] at hck
    simp only [List.nil_append, fillG, hck]
  | p :: P, pre, K, zs, x, ps, hz, hck => by
    obtain ⟨z, zs', rfl⟩ := List.exists_cons_of_length_eq_add_one hz
    simp only [List.cons_append, fillG]
    exact fillG_accept check r w rest P (pre ++ [K]) p zs' (x + p) ps (by simpa using hz)
      (by rw [sumL_cons, ← Nat.add_assoc] at hck; simpa using hck)

/-- the search starts on the first run of a window that `check` accepts -/
theorem genLoop_first {β : Type} {row : List Bool} {off : Nat} {col : Bool} (n : Nat) (h3 : 3 ≤ n)
    (check : Nat → Nat → List Nat → Res (Option β)) (S : List Nat) (hS : S.length = n) (w : Nat) (rest : List Nat)
    (h : RowAt row off (S ++ w :: rest) col) (r : β) (hck : check off (off + sumL S) S = .ok (some r)) :
    genLoop n check (row.drop off) off (List.replicate n 0) 0 off (!col) = .ok r := by
  obtain ⟨p0, P, rfl⟩ := List.exists_cons_of_ne_nil (List.ne_nil_of_length_pos (by omega) : S ≠ [])
  rw [h.drop]
  have hn : n = P.length + 1 := by simpa using hS.symm
  subst hn
  have := genLoop_fill (P.length + 1) h3 check (P ++ w :: rest) [] 0 p0 (List.replicate P.length 0) col off off
    (fun q hq => h.pos q (by simp at hq ⊢; exact Or.inr hq)) (by simp; omega)
  simp only [List.cons_append, appendPattern, List.replicate_succ, List.nil_append, List.length_nil,
    Nat.zero_add] at this ⊢
  rw [this]
  exact fillG_accept check r w rest P [] p0 _ (off + p0) off (by simp)
    (by rw [sumL_cons, ← Nat.add_assoc] at hck; simpa using hck)

/-! ## on every row -/

theorem sumL_incrAt (cs : List Nat) (pos : Nat) : sumL (incrAt cs pos) ≤ sumL cs + 1 := by
  induction cs generalizing pos with
  | nil => simp [incrAt, sumL]
  | cons c cs ih =>
    cases pos with
    | zero => simp only [incrAt, sumL, List.foldr_cons]; omega
    | succ n =>
      have := ih n
      simp only [incrAt, sumL, List.foldr_cons] at this ⊢; omega

theorem sumL_set_one (cs : List Nat) (k : Nat) : sumL (cs.set k 1) ≤ sumL cs + 1 := by
  induction cs generalizing k with
  | nil => simp [sumL]
  | cons c cs ih =>
    cases k with
    | zero => simp only [List.set_cons_zero, sumL, List.foldr_cons]; omega
    | succ n =>
      have := ih n
      simp only [List.set_cons_succ, sumL, List.foldr_cons] at this ⊢; omega

theorem sumL_replicate_zero (k : Nat) : sumL (List.replicate k 0) = 0 := by
  induction k with
  | zero => rfl
  | succ k ih => simp only [List.replicate_succ, sumL, List.foldr_cons] at ih ⊢; omega

/-- every call of `check` is on a full window `cs` lying between `ps` and the current pixel `x`, inside the row;
    whatever `check` guarantees of an accepted result, the loop guarantees; the loop itself adds no fault but NotFound.
    `lo` bounds the pixel of a check from below: every counter opened since the start has taken a pixel, so with
    `lo + pos ≤ x + (n - 1)` now, `lo ≤ x` when the window is full (`lo = 0` asks nothing).  `3 ≤ n` as in `genLoop_fill`. -/
theorem genLoop_sat {β : Type} {E : Fault → Prop} {Q : β → Prop} (hnf : E .notFound) (n N lo : Nat) (h3 : 3 ≤ n)
    (check : Nat → Nat → List Nat → Res (Option β))
    (hcheck : ∀ ps x cs, cs.length = n → ps + sumL cs ≤ x → lo ≤ x → x < N →
      Sat E (fun o => ∀ r, o = some r → Q r) (check ps x cs)) :
    ∀ (bs : List Bool) (x : Nat) (cs : List Nat) (pos ps : Nat) (w : Bool),
      cs.length = n → pos < n → x + bs.length = N → ps + sumL cs ≤ x → lo + pos ≤ x + (n - 1) →
      Sat E Q (genLoop n check bs x cs pos ps w)
  | [], _, _, _, _, _, _, _, _, _, _ => hnf
  | b :: bs, x, cs, pos, ps, w, hl, hp, hx, hs, hlo => by
    have hx' : x + 1 + bs.length = N := by simp at hx; omega
    unfold genLoop
    by_cases hb : (b != w) = true
    · rw [if_pos hb]
      simp only [incrChk, hl, hp, if_true]
      exact genLoop_sat hnf n N lo h3 check hcheck bs _ _ _ _ _ (by rw [incrAt_length]; exact hl) hp hx'
        (by have := sumL_incrAt cs pos; omega) (by omega)
    · rw [if_neg hb]
      by_cases hlast : pos + 1 = n
      · rw [if_pos hlast]
        have hc := hcheck ps x cs hl hs (by omega) (by simp at hx; omega)
        cases hck : check ps x cs with
        | error e => rw [hck] at hc; exact hc
        | ok o =>
          rw [hck] at hc
          cases o with
          | some r => exact hc r rfl
          | none =>
            obtain ⟨c0, c1, tl, rfl⟩ : ∃ c0 c1 tl, cs = c0 :: c1 :: tl := by
              match cs, hl with
              | c0 :: c1 :: tl, _ => exact ⟨c0, c1, tl, rfl⟩
              | [_], hl => simp at hl; omega
              | [], hl => simp at hl; omega
            simp only [List.length_cons] at hl
            simp only []
            rw [if_neg (by omega)]
            refine genLoop_sat hnf n N lo h3 check hcheck bs _ _ _ _ _ (by simp; omega) (by omega) hx' ?_ (by omega)
            have e1 : sumL (tl ++ [1, 0]) = sumL tl + 1 := by rw [sumL_append]; rfl
            have e2 : sumL (c0 :: c1 :: tl) = c0 + (c1 + sumL tl) := rfl
            omega
      · rw [if_neg hlast]
        rw [if_pos (by omega)]
        exact genLoop_sat hnf n N lo h3 check hcheck bs _ _ _ _ _ (by rw [List.length_set]; exact hl) (by omega) hx'
          (by have := sumL_set_one cs (pos + 1); omega) (by omega)

end Gzx.Row128
