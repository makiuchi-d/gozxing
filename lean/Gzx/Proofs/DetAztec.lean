/-
  The Aztec detector model (Gzx/Model/DetAztec.lean: `getMatrixCenter` with its `getFirstDifferent` walks;
  Gzx/Model/DetAztec2.lean: bull's eye, parameter extraction, `Detect`) is total: with the bounds-checked
  `BitMatrix.Get` of this tree no operation faults, whatever the float operations do.
-/
import Gzx.Model.DetAztec2
import Gzx.Proofs.DetWhiteRect
namespace Gzx.Det.AZ
open Gzx Gzx.Det

/-! ## the matrix centre -/

theorem gfdWalk_sat {rd : Reader} (hrd : Total rd) (w h : Int) (color : Bool) (x0 y0 dx dy L : Int) :
    Sat NoFault (fun _ => True) (gfdWalk rd w h color x0 y0 dx dy L) := by
  unfold gfdWalk
  exact Sat.then (walk_up_guard_total hrd _ _ _ _ L 0 0 (fun p hp => by
    simp only [Bool.and_eq_true, decide_eq_true_eq] at hp; exact hp.1)) fun r => Sat.ok trivial

/-- `getFirstDifferent` from ANY start point (inside or outside the image), any colour, any direction:
    a point, no fault; each of its three loops ends within the distance to the image edge -/
theorem getFirstDifferent_sat (img : Img) (init : Int × Int) (color : Bool) (dx dy : Int) :
    Sat NoFault (fun _ => True) (getFirstDifferent img.rdGo img.w img.h init color dx dy) := by
  have walk := fun x0 y0 dx dy L => gfdWalk_sat (rdGo_ok img) img.w img.h color x0 y0 dx dy L
  unfold getFirstDifferent
  simp only []
  exact Sat.then (walk _ _ _ _ _) fun k1 => Sat.then (walk _ _ _ _ _) fun k2 => Sat.then (walk _ _ _ _ _) fun k3 =>
    Sat.ok trivial

attribute [local irreducible] getFirstDifferent in
theorem fallback_sat (img : Img) (cx cy : Int) :
    Sat NoFault (fun ps => ps.length = 4) (fallback img.rdGo img.w img.h cx cy) := by
  have first := fun p c dx dy => getFirstDifferent_sat img p c dx dy
  unfold fallback
  exact Sat.then (first _ _ _ _) fun a => Sat.then (first _ _ _ _) fun b => Sat.then (first _ _ _ _) fun c =>
    Sat.then (first _ _ _ _) fun d => Sat.ok rfl

attribute [local irreducible] fallback WRD.detect in
/-- a WhiteRectangleDetector run, and on any NotFound (of the constructor or of `Detect`) the four
    `getFirstDifferent` walks: always four points -/
theorem rectOrFallback_sat {F : Type} (o : FOps F) (img : Img) (wr : Res WRD.WR)
    (hwr : Sat OnlyNotFound (fun _ => True) wr) (cx cy : Int) :
    Sat NoFault (fun ps => ps.length = 4) (rectOrFallback o img.rdGo img.w img.h wr cx cy) := by
  unfold rectOrFallback
  have hrun := Sat.then hwr fun d => WRD.detect_sat o img d
  exact Sat.step _ hrun (fun e he => by cases he; exact fallback_sat img cx cy) fun ps hps => hps.1

theorem centre_sat {F : Type} (o : FOps F) (ps : List (Int × Int)) (sel : Int × Int → Int) (h : ps.length = 4) :
    Sat NoFault (fun _ => True) (centre o ps sel) := by
  match ps, h with
  | [a, b, c, d], _ => exact Sat.ok trivial

/-- `getMatrixCenter`: both WhiteRectangleDetector runs with their fallbacks (which may start outside a small
    image), the `cornerPoints[0..3]` accesses (always four points) and the float averaging -/
theorem getMatrixCenter_sat {F : Type} (o : FOps F) (img : Img) :
    Sat NoFault (fun _ => True) (getMatrixCenter o img.rdGo img.w img.h) := by
  have rect := fun i x y cx cy =>
    rectOrFallback_sat o img _ (sat_true_of (WRD.new_sat img.w img.h i x y)) cx cy
  unfold getMatrixCenter
  exact Sat.bind (rect _ _ _ _ _) fun ps hps => Sat.then (centre_sat o ps _ hps) fun cx =>
    Sat.then (centre_sat o ps _ hps) fun cy => Sat.bind (rect _ _ _ _ _) fun ps2 hps2 =>
      Sat.then (centre_sat o ps2 _ hps2) fun cx2 => Sat.then (centre_sat o ps2 _ hps2) fun cy2 => Sat.ok trivial

/-! ## the bull's eye -/

theorem colorLoop_sat {F : Type} (o : FOps F) {rd : Reader} (hrd : Total rd) {E : Fault → Prop} (cm : Bool) (dx dy : F) :
    ∀ (n : Nat) (px py : F) (err : Int), Sat E (fun _ => True) (colorLoop o rd cm dx dy n px py err)
  | 0, _, _, _ => Sat.ok trivial
  | n + 1, px, py, err => by
    unfold colorLoop
    exact Sat.then (hrd.sat trivial) fun b => colorLoop_sat o hrd cm dx dy n _ _ _

def IsColor (c : Int) : Prop := c = 0 ∨ c = 1 ∨ c = -1

theorem getColor_sat {F : Type} (o : FOps F) {rd : Reader} (hrd : Total rd) {E : Fault → Prop} (p1 p2 : IPt) :
    Sat E IsColor (getColor o rd p1 p2) := by
  unfold getColor
  exact Sat.ite (fun _ => Sat.ok (.inl rfl)) fun _ => Sat.then (hrd.sat trivial) fun cm =>
    Sat.then (colorLoop_sat o hrd cm _ _ _ _ _ _) fun err => Sat.ite (fun _ => Sat.ok (.inl rfl)) fun _ =>
      Sat.ite (fun _ => Sat.ok (.inr (.inl rfl))) fun _ => Sat.ok (.inr (.inr rfl))

attribute [local irreducible] getColor in
theorem isWhiteOrBlackRectangle_sat {F : Type} (o : FOps F) {rd : Reader} (hrd : Total rd) {E : Fault → Prop}
    (w h : Int) (p1 p2 p3 p4 : IPt) :
    Sat E (fun _ => True) (isWhiteOrBlackRectangle o rd w h p1 p2 p3 p4) := by
  have color := fun p q => getColor_sat (E := E) o hrd p q
  unfold isWhiteOrBlackRectangle
  exact Sat.then (color _ _) fun c0 => Sat.ite (fun _ => Sat.ok trivial) fun _ =>
    Sat.then (color _ _) fun c1 => Sat.ite (fun _ => Sat.ok trivial) fun _ =>
      Sat.then (color _ _) fun c2 => Sat.ite (fun _ => Sat.ok trivial) fun _ =>
        Sat.then (color _ _) fun c3 => Sat.ok trivial

attribute [local irreducible] getFirstDifferent isWhiteOrBlackRectangle in
theorem bullsLoop_sat {F : Type} (o : FOps F) (img : Img) :
    ∀ (n : Nat) (nb : Int) (pin : Pins) (color : Bool), Sat NoFault (fun r => nb ≤ r.1 ∧ r.1 ≤ nb + n)
      (bullsLoop o img.rdGo img.w img.h n nb pin color)
  | 0, nb, _, _ => Sat.ok ⟨Int.le_refl _, by omega⟩
  | n + 1, nb, pin, color => by
    have first := fun p dx dy => getFirstDifferent_sat img p color dx dy
    unfold bullsLoop
    refine Sat.then (first _ _ _) fun pa => Sat.then (first _ _ _) fun pb =>
      Sat.then (first _ _ _) fun pc => Sat.then (first _ _ _) fun pd => Sat.then (P := fun _ => True) ?stop fun stop =>
        Sat.ite (fun _ => Sat.ok ⟨Int.le_refl _, by omega⟩) fun _ =>
          Sat.mono (bullsLoop_sat o img n (nb + 1) _ _) (fun _ h => h) fun r ⟨h1, h2⟩ => ⟨by omega, by omega⟩
    exact Sat.ite (fun _ => Sat.ite (fun _ => Sat.ok trivial) fun _ =>
      Sat.then (isWhiteOrBlackRectangle_sat o (rdGo_ok img) _ _ _ _ _ _) fun r => Sat.ok trivial)
      fun _ => Sat.ok trivial

/-- what `getBullsEyeCorners` leaves in the detector -/
def GoodBullsEye {F : Type} (be : BullsEye F) : Prop :=
  (be.nbCenterLayers = 5 ∧ be.compact = true) ∨ (be.nbCenterLayers = 7 ∧ be.compact = false)

attribute [local irreducible] bullsLoop in
theorem getBullsEyeCorners_sat {F : Type} (o : FOps F) (img : Img) (pCenter : IPt) :
    Sat OnlyNotFound GoodBullsEye (getBullsEyeCorners o img.rdGo img.w img.h pCenter) := by
  unfold getBullsEyeCorners
  refine Sat.bind (Sat.lift (bullsLoop_sat o img 8 1 _ true)) fun ⟨nb, pin⟩ _ =>
    Sat.ite (fun _ => rfl) fun h => Sat.ok ?_
  unfold GoodBullsEye
  simp only []
  by_cases h5 : nb = 5
  · exact .inl ⟨h5, by simp [h5]⟩
  · exact .inr ⟨by omega, by simp [h5]⟩

theorem shl1_sat {E : Fault → Prop} (k : Int) (hk : 0 ≤ k) : Sat E (fun _ => True) (shl1 k) := by
  unfold shl1
  exact Sat.ite (fun _ => by omega) fun _ => Sat.ok trivial

theorem sampleLineLoop_sat {F : Type} (o : FOps F) {rd : Reader} (hrd : Total rd) {E : Fault → Prop}
    (px py dx dy : F) (size : Int) :
    ∀ (n : Nat) (i : Int) (result : Nat), (n ≠ 0 → i + n ≤ size) →
      Sat E (fun _ => True) (sampleLineLoop o rd px py dx dy size n i result)
  | 0, _, _, _ => Sat.ok trivial
  | n + 1, i, result, hi => by
    have hi' := hi (by omega)
    have next := fun result' => sampleLineLoop_sat (E := E) o hrd px py dx dy size n (i + 1) result' (fun _ => by omega)
    unfold sampleLineLoop
    exact Sat.then (hrd.sat trivial) fun b => Sat.ite (fun _ =>
      Sat.then (shl1_sat _ (by omega)) fun bit => next _) fun _ => next _

/-- `sampleLine` for ANY two float points and ANY size (also ≤ 0): a number, never a fault; every
    `1 << (size - i - 1)` has a non-negative count because `i < size` -/
theorem sampleLine_sat {F : Type} (o : FOps F) {rd : Reader} (hrd : Total rd) {E : Fault → Prop}
    (p1 p2 : FPt F) (size : Int) :
    Sat E (fun _ => True) (sampleLine o rd p1 p2 size) := by
  unfold sampleLine
  exact sampleLineLoop_sat o hrd _ _ _ _ size size.toNat 0 0 (fun _ => by omega)

theorem getRotation_sat (expected sides : List Nat) (length : Nat) :
    Sat OnlyNotFound (fun s => s < 4) (AztecDecoder.getRotation expected sides length) := by
  unfold AztecDecoder.getRotation
  simp only []
  split
  · rename_i s hs
    exact Sat.ok (by simpa using List.mem_of_find?_eq_some hs)
  · exact rfl

theorem correctedParameters_sat (rs : AztecDecoder.RSDecoder) (compact : Bool) (pd : Nat) :
    Sat OnlyNotFound (fun r => 1 ≤ r.1 ∧ 1 ≤ r.2) (AztecDecoder.correctedParameters rs compact pd) := by
  unfold AztecDecoder.correctedParameters
  simp only []
  split
  · exact rfl
  · split <;> exact Sat.ok ⟨by omega, by omega⟩

def GoodParams (p : Params) : Prop := p.shift < 4 ∧ 1 ≤ p.nbLayers ∧ 1 ≤ p.nbDataBlocks

attribute [local irreducible] sampleLine AztecDecoder.getRotation AztecDecoder.correctedParameters AztecDecoder.parameterData in
theorem extractParameters_sat {F : Type} (o : FOps F) {rd : Reader} (hrd : Total rd) (w h : Int) (expected : List Nat)
    (rs : AztecDecoder.RSDecoder) (c : Quad F) (nb : Int) (hnb : 1 ≤ nb) (compact : Bool) :
    Sat OnlyNotFound GoodParams (extractParameters o rd w h expected rs c nb compact) := by
  have line := fun p q size => sampleLine_sat (E := OnlyNotFound) o hrd p q size
  unfold extractParameters
  refine Sat.ite (fun _ => rfl) fun _ => Sat.then (line _ _ _) fun s0 => Sat.then (line _ _ _) fun s1 =>
    Sat.then (line _ _ _) fun s2 => Sat.then (line _ _ _) fun s3 => ?_
  rw [if_neg (by omega : ¬ 2 * nb < 2)]
  exact Sat.bind (getRotation_sat _ _ _) fun shift hshift =>
    Sat.bind (correctedParameters_sat rs compact _) fun ⟨l, b⟩ ⟨h1, h2⟩ => Sat.ok ⟨hshift, h1, h2⟩

theorem quad_get_sat {F : Type} (q : Quad F) (i : Int) (h0 : 0 ≤ i) (h3 : i ≤ 3) {E : Fault → Prop} :
    Sat E (fun _ => True) (q.get i) := by
  unfold Quad.get
  have : i = 0 ∨ i = 1 ∨ i = 2 ∨ i = 3 := by omega
  rcases this with rfl | rfl | rfl | rfl <;> exact Sat.ok trivial

theorem getDimension_ge (compact : Bool) (nbLayers : Int) (h : 1 ≤ nbLayers) : 15 ≤ getDimension compact nbLayers := by
  unfold getDimension
  cases compact with
  | true => simp only [if_true]; omega
  | false =>
    simp only [Bool.false_eq_true, if_false]
    have : 0 ≤ Int.tdiv (2 * nbLayers + 6) 15 := Int.tdiv_nonneg (by omega) (by decide)
    omega

/-- what `Detect` hands to the grid sampler -/
def GoodLocated {F : Type} (l : Located F) : Prop :=
  15 ≤ l.dimension ∧ l.dimension = getDimension l.compact l.nbLayers ∧ l.shift < 4 ∧ 1 ≤ l.nbLayers ∧ 1 ≤ l.nbDataBlocks


theorem tmod4_range (a : Int) (h : 0 ≤ a) : 0 ≤ Int.tmod a 4 ∧ Int.tmod a 4 ≤ 3 := by
  rw [Int.tmod_eq_emod_of_nonneg h]; omega

attribute [local irreducible] getMatrixCenter getBullsEyeCorners extractParameters expandSquare in
theorem detect_sat {F : Type} (o : FOps F) (img : Img) (expected : List Nat) (rs : AztecDecoder.RSDecoder)
    (isMirror : Bool) :
    Sat OnlyNotFound GoodLocated (detect o img.rdGo img.w img.h expected rs isMirror) := by
  unfold detect
  refine Sat.then (Sat.lift (getMatrixCenter_sat o img)) fun pCenter =>
    Sat.bind (getBullsEyeCorners_sat o img pCenter) fun be hbe => ?_
  have hnb : 1 ≤ be.nbCenterLayers := by rcases hbe with ⟨h, _⟩ | ⟨h, _⟩ <;> omega
  refine Sat.bind (extractParameters_sat o (rdGo_ok img) img.w img.h expected rs _ be.nbCenterLayers hnb be.compact)
    fun p ⟨hs, hl, hb⟩ => ?_
  -- the four corners are taken at `(shift + k) % 4`
  have corner := fun (k : Int) (hk : 0 ≤ k) (q : Quad F) =>
    quad_get_sat (E := OnlyNotFound) q _ (tmod4_range (p.shift + k) (by omega)).1 (tmod4_range (p.shift + k) (by omega)).2
  exact Sat.then (corner 0 (by omega) _) fun tl => Sat.then (corner 1 (by omega) _) fun tr =>
    Sat.then (corner 2 (by omega) _) fun br => Sat.then (corner 3 (by omega) _) fun bl =>
      Sat.ok ⟨getDimension_ge _ _ (by omega), rfl, hs, hl, hb⟩

end Gzx.Det.AZ
