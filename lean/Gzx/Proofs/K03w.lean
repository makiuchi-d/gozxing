/-
  Lemmas for the kernel theorems of `Obligations/K03w*.lean` that do not mention generated code: the cursor discipline of
  the 1-D writers (`target[pos] = …; pos++` over a buffer allocated in advance) and the shape of an escaping loop.

  A writer's state is `(target, pos)`.  Split the target at the cursor, `target = done ++ rest`, `pos = len(done)`; then a
  step that DRAWS `mods` yields `drawn done rest |mods| mods`.  `Draws` says that of a step for every split; it is closed
  under sequencing (`Draws.seq`) and counted loops of any stride (`Draws.loop`), so an encoder is the concatenation of what
  its steps draw, and panics exactly when that does not fit.
-/
import Gzx.GoMK03w
import Gzx.Proofs.GoMTie
import Gzx.Proofs.ListGrid
namespace Gzx.K03w
open Gzx Gzx.GoM

-- outcomes of loop bodies are compared by evaluation (the 256-case tables of the escaping loops)
deriving instance DecidableEq for Gzx.GoM.Ctl

variable {ρ : Type}

/-- the outcome of drawing `w` more modules behind `done` when `rest` is what is left of the target -/
def drawn (done rest : List Int) (w : Nat) (mods : List Int) : Ctl (List Int × Int) ρ :=
  if w ≤ rest.length then .next (done ++ mods ++ rest.drop w, ((done.length + w : Nat) : Int)) else .panic oob

/-- `f` writes `mods` from the cursor on and moves the cursor behind them, wherever the cursor stands -/
def Draws (f : List Int × Int → Ctl (List Int × Int) ρ) (mods : List Int) : Prop :=
  ∀ done rest, f (done ++ rest, (done.length : Int)) = drawn done rest mods.length mods

theorem Draws.of_width {f : List Int × Int → Ctl (List Int × Int) ρ} {mods : List Int} (w : Nat) (hw : w = mods.length)
    (h : ∀ done rest, f (done ++ rest, (done.length : Int)) = drawn done rest w mods) : Draws f mods := by
  subst hw; exact h

theorem Draws.nil : Draws (ρ := ρ) Ctl.next [] := by
  intro done rest; simp [drawn]

/-- sequencing: what follows a draw sees the cursor behind it -/
theorem Draws.seq {k : List Int × Int → Ctl (List Int × Int) ρ} {m2 : List Int} (hk : Draws k m2) (done rest m1 : List Int)
    (h1 : m1.length ≤ rest.length) :
    k (done ++ m1 ++ rest.drop m1.length, ((done.length + m1.length : Nat) : Int)) =
      drawn done rest (m1 ++ m2).length (m1 ++ m2) := by
  rw [← List.length_append, hk (done ++ m1) (rest.drop m1.length)]
  unfold drawn
  simp only [List.length_drop, List.length_append, List.drop_drop, List.append_assoc]
  by_cases h2 : m2.length ≤ rest.length - m1.length
  · rw [if_pos h2, if_pos (by omega), Nat.add_assoc]
  · rw [if_neg h2, if_neg (by omega)]

/-- `for i := a; …; i += d` (`k` iterations) each of whose iterations draws `m i` -/
theorem Draws.loop (body : Int → List Int × Int → Ctl (List Int × Int) ρ) (m : Nat → List Int) (d : Nat) :
    ∀ (k a : Nat), (∀ i ∈ List.range' a k d, Draws (body (i : Int)) (m i)) →
      Draws (loop body (d : Int) k (a : Int)) ((List.range' a k d).map m).flatten := by
  intro k
  induction k with
  | zero => intro a _; exact Draws.nil
  | succ k ih =>
    intro a hb done rest
    have e : (a : Int) + (d : Int) = ((a + d : Nat) : Int) := by omega
    rw [loop_succ, hb a (by simp [List.range'_succ]), e, List.range'_succ, List.map_cons, List.flatten_cons]
    by_cases h1 : (m a).length ≤ rest.length
    · rw [drawn, if_pos h1]
      exact Draws.seq (ih (a + d) fun i hi => hb i (by simp [List.range'_succ, hi])) done rest (m a) h1
    · rw [drawn, if_neg h1, drawn, if_neg (by rw [List.length_append]; omega)]

/-- `Draws.loop` against generated code: stride, trip count, start index and position as they stand there; every iteration
    draws `w` modules -/
theorem Draws.loop_at (body : Int → List Int × Int → Ctl (List Int × Int) ρ) (m : Nat → List Int) (d k a w : Nat)
    (done rest : List Int) {di : Int} {n : Nat} {i0 p : Int}
    (hb : ∀ i ∈ List.range' a k d, Draws (body (i : Int)) (m i)) (hw : ∀ i ∈ List.range' a k d, (m i).length = w)
    (hd : di = (d : Int)) (hn : n = k) (hi : i0 = (a : Int)) (hp : p = (done.length : Int)) :
    GoM.loop body di n i0 (done ++ rest, p) = drawn done rest (w * k) ((List.range' a k d).map m).flatten := by
  subst hd hn hi hp
  have hl := flatten_length_const ((List.range' a n d).map m) w (by
    intro r hr
    obtain ⟨i, hi, rfl⟩ := List.mem_map.mp hr
    exact hw i hi)
  rw [List.length_map, List.length_range'] at hl
  rw [← hl]
  exact Draws.loop body m d n a hb done rest

/-! ### loops that fill cells by index (`code39ToIntArray`, `code93AppendPattern`) -/

/-- a loop that writes cell `p + i` in iteration `i`, for `i = m, …, m + n - 1`, when `done` are the cells before `p + m`:
    the index panic exactly when fewer than `n` cells are left -/
theorem fill_off {ρ : Type} (body : Int → List Int → Ctl (List Int) ρ) (f : Nat → Int) (N p : Nat)
    (hb : ∀ i, i < N → ∀ xs, body (i : Int) xs = tryC (setIdx xs ((p : Int) + (i : Int)) (f i)) fun t => .next t) :
    ∀ (n m : Nat) (done rest : List Int), done.length = p + m → m + n ≤ N →
      loop body 1 n (m : Int) (done ++ rest) =
        if n ≤ rest.length then .next (done ++ (List.range' m n).map f ++ rest.drop n) else .panic oob := by
  intro n
  induction n with
  | zero => intro m done rest _ _; simp [loop]
  | succ n ih =>
    intro m done rest hd hN
    have ep : (p : Int) + (m : Int) = (done.length : Int) := by omega
    rw [loop_succ, hb m (by omega), ep]
    cases rest with
    | nil => rw [setIdx_of_ge (done ++ []) _ _ (by simp)]; rfl
    | cons r rs =>
      rw [setIdx_seam done r _ rs _ rfl]
      simp only [tryC_ok]
      have e1 : done ++ f m :: rs = (done ++ [f m]) ++ rs := by simp
      have e2 : (m : Int) + 1 = ((m + 1 : Nat) : Int) := by omega
      rw [e1, e2, ih (m + 1) _ _ (by simp; omega) (by omega)]
      by_cases h : n ≤ rs.length
      · rw [if_pos h, if_pos (by simpa using h)]
        simp [List.range'_succ]
      · rw [if_neg h, if_neg (by simpa using h)]

/-! ### escaping loops: `for i := range contents { extendedContent += escape(contents[i]) }`, error on a byte that has none -/

/-- the outcome of an appending loop body started with `acc` instead of the empty slice -/
def liftAcc (acc : List Int) : Ctl (List Int) (List Int × Bool) → Ctl (List Int) (List Int × Bool)
  | .next s => .next (acc ++ s)
  | .ret (s, b) => .ret (acc ++ s, b)
  | .brk s => .brk (acc ++ s)
  | .panic f => .panic f

/-- what an escaping loop has appended when it meets byte `c` -/
def escStep (esc1 : Nat → Res (List Nat)) (c : Nat) (acc : List Int) : Ctl (List Int) (List Int × Bool) :=
  match esc1 c with
  | .ok e => .next (acc ++ bytes e)
  | .error _ => .ret (acc, true)

theorem liftAcc_escStep (esc1 : Nat → Res (List Nat)) (c : Nat) (acc : List Int) :
    liftAcc acc (escStep esc1 c []) = escStep esc1 c acc := by
  unfold escStep
  cases esc1 c <;> simp [liftAcc]

/-- `for i := 0; i < len(contents); i++ { … extendedContent += escape(contents[i]) … }` against a model `esc` that maps
    `esc1` over the string and `pre`, the escapes before the first failure.  What is asked of the generated body: it
    looks at `contents[i]` only (`hloc`), appends to whatever it has (`hlift`), and on a single byte is `esc1` (`hnil`,
    a 256-case evaluation) -/
theorem esc_loop (esc1 : Nat → Res (List Nat)) (esc : List Nat → Res (List Nat)) (pre : List Nat → List Nat)
    (esc_nil : esc [] = .ok [])
    (esc_cons : ∀ c cs, esc (c :: cs) = do let e ← esc1 c; let r ← esc cs; pure (e ++ r))
    (pre_cons : ∀ c cs, pre (c :: cs) = match esc1 c with | .ok e => e ++ pre cs | .error _ => [])
    (body : List Int → Int → List Int → Ctl (List Int) (List Int × Bool))
    (hloc : ∀ (s : List Int) (i : Nat) (h : i < s.length) acc, body s (i : Int) acc = body [s[i]] 0 acc)
    (hlift : ∀ c acc, body [c] 0 acc = liftAcc acc (body [c] 0 []))
    (hnil : ∀ c : Nat, c < 256 → body [(c : Int)] 0 [] = escStep esc1 c [])
    (s : List Nat) (hs : ∀ b ∈ s, b < 256) {n : Nat} (hn : n = s.length) :
    (loop (body (bytes s)) 1 n 0 []).thenR (fun st => .ok (st, false)) =
      .ok (match esc s with
           | .ok e => (bytes e, false)
           | .error _ => (bytes (pre s), true)) := by
  have fold : ∀ (s : List Nat) (acc : List Int),
      foldC (fun v a => escStep esc1 v.toNat a) (bytes s) acc =
        match esc s with
        | .ok e => .next (acc ++ bytes e)
        | .error _ => .ret (acc ++ bytes (pre s), true) := by
    intro s
    induction s with
    | nil => intro acc; simp [foldC, bytes, esc_nil]
    | cons c cs ih =>
      intro acc
      have hb : bytes (c :: cs) = (c : Int) :: bytes cs := by simp [bytes]
      rw [hb, esc_cons, pre_cons]
      simp only [foldC, Int.toNat_natCast, bind, Except.bind, pure, Except.pure]
      have hstep : escStep esc1 c acc = match esc1 c with
          | .ok e => .next (acc ++ bytes e)
          | .error _ => .ret (acc, true) := rfl
      rw [hstep]
      cases esc1 c with
      | error e => simp [bytes]
      | ok e =>
        simp only [ih]
        cases esc cs <;> simp [bytes]
  rw [loop_up1' (bytes s) (fun v a => escStep esc1 v.toNat a) 0 s.length (by simp [bytes])
      (fun i h st => by
        have hi' : i < s.length := by simpa [bytes] using h
        rw [hloc _ i h, hlift, bytes_getElem, hnil _ (hs _ (List.getElem_mem hi')), liftAcc_escStep, Int.toNat_natCast])
      hn (by simp)]
  rw [List.drop_zero, List.take_of_length_le (by simp [bytes]), fold]
  cases esc s <;> simp

end Gzx.K03w
