/-
  Power-sum form of the key equation.  For the syndrome sequence `S_m = Σ_l Y_l X_l^m` (m < R) and any
  polynomial `P` with `P·S ≡ Q (mod x^R)`:  `Q_m = Σ_l Y_l P(X_l⁻¹) X_l^m` for `deg P ≤ m < R`.
  With the Vandermonde lemma this gives, for any pair with `T·S ≡ Q`: `T` vanishes at every inverse locator when
  a window of `|L|` indices fits above both degrees (`roots_of_key`), and a remainder `Q'` of exact degree `D`
  leaves fewer than `|L|` indices between `D` and `R` (`prev_remainder_long`; applied to the previous pair of the
  Euclid loop in Proofs/Sugiyama.lean it bounds the degree of the output by the number of errors).
  Helper lemmas for Properties/C04.lean.
-/
import Gzx.Proofs.Coef
import Gzx.Proofs.MinDist
namespace Gzx.Proofs.KeyEq
open Gzx Gzx.GF Gzx.RS Gzx.Ref.GF Gzx.Proofs.GF Gzx.Proofs.Poly Gzx.Proofs.Conv Gzx.Proofs.Coef
  Gzx.Proofs.MinDist

/-- syndrome coefficient sequence: power sums below `R`, zero above -/
def Sfun (prim : Nat) (L : List (Nat × Nat)) (R : Nat) (m : Nat) : Nat :=
  if m < R then psum prim L m else 0

section field
variable {prim size : Nat} (ok : ParamsOK prim size)
include ok

theorem psum_lt' (L : List (Nat × Nat)) (i : Nat) : psum prim L i < size := psum_lt ok L i

theorem Sfun_lt (L : List (Nat × Nat)) (R j : Nat) : Sfun prim L R j < size := by
  unfold Sfun
  split
  · exact psum_lt ok L j
  · exact zero_lt_size ok

/-- single locator: `(P · Σ Y X^i x^i)_m = Y·P(a)·X^m` for `m ≥ deg P`, `a = X⁻¹` -/
theorem conv_geometric (P : List Nat) (hP : InR size P) (Y X a : Nat) (hY : Y < size) (hX : X < size)
    (ha : a < size) (hXa : gmul prim X a = 1) (m : Nat) (hm : P.length ≤ m + 1) :
    conv prim (coef P) (fun i => gmul prim Y (gpow prim X i)) m =
      gmul prim (gmul prim Y (evalH prim a P)) (gpow prim X m) := by
  have hs : 0 < size := zero_lt_size ok
  unfold conv
  have hterm : ∀ j, j < m + 1 → gmul prim (coef P j) (gmul prim Y (gpow prim X (m - j))) =
      gmul prim (gmul prim Y (gpow prim X m)) (gmul prim (gpow prim a j) (coef P j)) := by
    intro j hj
    have hc := coef_lt hs P hP j
    have hxm := gpow_lt ok X m
    have haj := gpow_lt ok a j
    rw [gpow_sub ok X a hX ha hXa m j (by omega),
      ← gmul_assoc ok Y _ _ hY hxm haj,
      gmul_comm ok (coef P j) _ hc (gmul_lt ok _ _),
      gmul_assoc ok _ _ _ (gmul_lt ok _ _) haj hc]
  rw [xsum_congr hterm, ← xsum_gmul_left ok _ (fun _ _ => gmul_lt ok _ _),
    ← evalH_eq_xsum_ge ok a ha P hP (m + 1) hm]
  have he := evalH_lt ok a P hP
  have hxm := gpow_lt ok X m
  rw [gmul_assoc ok Y _ _ hY hxm he, gmul_comm ok _ _ hxm he, ← gmul_assoc ok Y _ _ hY he hxm]

/-- `(P·S)_m = Σ_l Y_l P(a_l) X_l^m` for `deg P ≤ m`, with `a_l = ai X_l` the inverse locators -/
theorem conv_psum (P : List Nat) (hP : InR size P) (ai : Nat → Nat) (m : Nat) (hm : P.length ≤ m + 1) :
    ∀ (L : List (Nat × Nat)), PairsIn size L →
      (∀ p, p ∈ L → ai p.2 < size ∧ gmul prim p.2 (ai p.2) = 1) →
      conv prim (coef P) (psum prim L) m =
        psum prim (L.map (fun p => (gmul prim p.1 (evalH prim (ai p.2) P), p.2))) m
  | [], _, _ => by
    apply xsum_zero
    intro j _
    show gmul prim _ 0 = 0
    exact gmul_zero_right ok _
  | (Y, X) :: L, hL, hinv => by
    have hYX := hL.head
    have hi := hinv (Y, X) List.mem_cons_self
    have ih := conv_psum P hP ai m hm L hL.tail (fun p hp => hinv p (List.mem_cons_of_mem _ hp))
    have hfun : ∀ i, i ≤ m → psum prim ((Y, X) :: L) i =
        (fun i => gmul prim Y (gpow prim X i) ^^^ psum prim L i) i := fun _ _ => rfl
    rw [conv_congr_right hfun, conv_xor_right ok _ _ _ (fun _ => gmul_lt ok _ _) (fun i => psum_lt ok L i) m,
      ih, conv_geometric ok P hP Y X (ai X) hYX.1 hYX.2 hi.1 hi.2 m hm]
    rfl

/-- Vandermonde on a window of consecutive power sums `m0 ≤ m < m0 + |L|` -/
theorem vandermonde_window (L : List (Nat × Nat)) (hL : PairsIn size L)
    (hd : L.Pairwise (fun p q => p.2 ≠ q.2)) (hnz : ∀ p, p ∈ L → p.2 ≠ 0) (m0 : Nat)
    (hs : ∀ i, i < L.length → psum prim L (m0 + i) = 0) : ∀ p, p ∈ L → p.1 = 0 := by
  -- absorb X^m0 into the coefficients
  have hshift : ∀ (L : List (Nat × Nat)), PairsIn size L → ∀ i,
      psum prim (L.map (fun p => (gmul prim p.1 (gpow prim p.2 m0), p.2))) i = psum prim L (m0 + i) := by
    intro L hL i
    induction L with
    | nil => rfl
    | cons p L ih =>
      have hp := hL.head
      rw [List.map_cons, psum_cons, psum_cons, ih hL.tail]
      congr 1
      show gmul prim (gmul prim p.1 (gpow prim p.2 m0)) (gpow prim p.2 i) = _
      rw [gmul_assoc ok _ _ _ hp.1 (gpow_lt ok _ _) (gpow_lt ok _ _), ← gpow_add ok p.2 hp.2 m0 i]
  have hL' := hL.scale ok (fun p => gpow prim p.2 m0)
  have hd' : (L.map (fun p => (gmul prim p.1 (gpow prim p.2 m0), p.2))).Pairwise (fun p q => p.2 ≠ q.2) := by
    rw [List.pairwise_map]; exact hd
  have := vandermonde ok _ hL' hd' (fun i hi => by
    rw [hshift L hL i]; exact hs i (by simpa using hi))
  intro p hp
  have h0 := this (gmul prim p.1 (gpow prim p.2 m0), p.2) (List.mem_map.2 ⟨p, hp, rfl⟩)
  rcases gmul_eq_zero ok _ _ (hL p hp).1 (gpow_lt ok _ _) h0 with h | h
  · exact h
  · exact absurd h (gpow_ne_zero ok p.2 (hL p hp).2 (hnz p hp) m0)

/-- the error pattern as (Y, X) pairs: distinct non-zero locators, non-zero values, `ai` inverts locators
    (Chien, Forney and Corrects take `ai := invOf F`, the model's `Inverse`) -/
structure ErrSet (prim size : Nat) (L : List (Nat × Nat)) (ai : Nat → Nat) : Prop where
  inr : PairsIn size L
  distinct : L.Pairwise (fun p q => p.2 ≠ q.2)
  xnz : ∀ p, p ∈ L → p.2 ≠ 0
  ynz : ∀ p, p ∈ L → p.1 ≠ 0
  inv : ∀ p, p ∈ L → ai p.2 < size ∧ gmul prim p.2 (ai p.2) = 1

/-- inverse locators are distinct and non-zero -/
theorem inv_nodup (L : List (Nat × Nat)) (ai : Nat → Nat) (hE : ErrSet prim size L ai) :
    (0 :: L.map (fun p => ai p.2)).Nodup ∧ ∀ b, b ∈ (0 :: L.map (fun p => ai p.2)) → b < size := by
  constructor
  · rw [List.nodup_cons]
    constructor
    · intro h
      obtain ⟨p, hp, h0⟩ := List.mem_map.1 h
      have := (hE.inv p hp).2
      rw [h0, gmul_zero_right ok] at this
      exact absurd this (by decide)
    · rw [List.nodup_iff_pairwise_ne, List.pairwise_map]
      apply hE.distinct.imp_of_mem
      intro p q hp hq hne heq
      apply hne
      -- equal inverses ⇒ equal locators
      have h1 := hE.inv p hp
      have h2 := hE.inv q hq
      rw [← heq] at h2
      exact inv_unique ok p.2 q.2 (ai p.2) (hE.inr p hp).2 (hE.inr q hq).2 h1.1 h1.2 h2.2
  · intro b hb
    rcases List.mem_cons.1 hb with rfl | hb
    · exact zero_lt_size ok
    · obtain ⟨p, hp, rfl⟩ := List.mem_map.1 hb
      exact (hE.inv p hp).1

theorem conv_Sfun (P : List Nat) (hP : InR size P) (L : List (Nat × Nat)) (ai : Nat → Nat)
    (hE : ErrSet prim size L ai) (R m : Nat) (hm : P.length ≤ m + 1) (hmR : m < R) :
    conv prim (coef P) (Sfun prim L R) m =
      psum prim (L.map (fun p => (gmul prim p.1 (evalH prim (ai p.2) P), p.2))) m := by
  have h : ∀ i, i ≤ m → Sfun prim L R i = psum prim L i := by
    intro i hi
    unfold Sfun
    rw [if_pos (by omega)]
  rw [conv_congr_right h, conv_psum ok P hP ai m hm L hE.inr hE.inv]

/-- if `T·S ≡ Q (mod x^R)` and there is a window of `|L|` indices above the degrees of `T` and `Q`,
    then `T` vanishes at every inverse locator -/
theorem roots_of_key (T Q : List Nat) (hT : InR size T) (L : List (Nat × Nat)) (ai : Nat → Nat)
    (hE : ErrSet prim size L ai) (R m0 : Nat)
    (hkey : ∀ m, m < R → conv prim (coef T) (Sfun prim L R) m = coef Q m)
    (h1 : T.length ≤ m0 + 1) (h2 : Q.length ≤ m0) (h3 : m0 + L.length ≤ R) :
    ∀ p, p ∈ L → evalH prim (ai p.2) T = 0 := by
  have hL' := hE.inr.scale ok (fun p => evalH prim (ai p.2) T)
  have hd' : (L.map (fun p => (gmul prim p.1 (evalH prim (ai p.2) T), p.2))).Pairwise (fun p q => p.2 ≠ q.2) := by
    rw [List.pairwise_map]; exact hE.distinct
  have hnz' : ∀ q, q ∈ L.map (fun p => (gmul prim p.1 (evalH prim (ai p.2) T), p.2)) → q.2 ≠ 0 := by
    intro q hq
    obtain ⟨p, hp, rfl⟩ := List.mem_map.1 hq
    exact hE.xnz p hp
  have hv := vandermonde_window ok _ hL' hd' hnz' m0 (fun i hi => by
    rw [List.length_map] at hi
    rw [← conv_Sfun ok T hT L ai hE R (m0 + i) (by omega) (by omega), hkey _ (by omega),
      coef_ge Q _ (by omega)])
  intro p hp
  have h0 := hv (gmul prim p.1 (evalH prim (ai p.2) T), p.2) (List.mem_map.2 ⟨p, hp, rfl⟩)
  rcases gmul_eq_zero ok _ _ (hE.inr p hp).1 (evalH_lt ok _ T hT) h0 with h | h
  · exact absurd h (hE.ynz p hp)
  · exact h

/-- the previous remainder cannot have too small a degree: with `T'·S ≡ Q'`, `Q'` of exact degree `D ≥ deg T'`,
    fewer than `|L|` indices lie strictly between `D` and `R` -/
theorem prev_remainder_long (T' : List Nat) (hT : InR size T') (qh : Nat) (qt : List Nat)
    (hqh : qh ≠ 0) (L : List (Nat × Nat)) (ai : Nat → Nat) (hE : ErrSet prim size L ai) (R : Nat)
    (hkey : ∀ m, m < R → conv prim (coef T') (Sfun prim L R) m = coef (qh :: qt) m)
    (h1 : T'.length ≤ qt.length + 1) (hD : qt.length < R) :
    ¬ (qt.length + 1 + L.length ≤ R) := by
  intro hcontra
  have hroots := roots_of_key ok T' (qh :: qt) hT L ai hE R (qt.length + 1) hkey (by omega)
    (by simp) hcontra
  have h := hkey qt.length hD
  rw [coef_head, conv_Sfun ok T' hT L ai hE R qt.length h1 hD] at h
  have hz : psum prim (L.map (fun p => (gmul prim p.1 (evalH prim (ai p.2) T'), p.2))) qt.length = 0 := by
    apply psum_all_zero ok
    intro q hq
    obtain ⟨p, hp, rfl⟩ := List.mem_map.1 hq
    show gmul prim p.1 (evalH prim (ai p.2) T') = 0
    rw [hroots p hp, gmul_zero_right ok]
  rw [hz] at h
  exact hqh h.symm

end field
end Gzx.Proofs.KeyEq
