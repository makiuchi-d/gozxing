/-
  C11 high-level lemmas: the decoder model's control loop (`AztecDecoder.step/loop`) against the reference
  encoder's scripts (`Ref.Aztec.encodeScript`).
  On arbitrary bits and tables one iteration continues on a strictly shorter rest, stops, or fails with
  FormatException (`step_total`; Proofs/AztecTotal.lean builds the decoder's totality on it), so the fuel of `loop`
  does not matter once it exceeds the length (`loop_fuel`, `run`).  `Runs c bits c' rest evs` says that the decoder
  in control state `c` reads `bits` down to `rest`, reaching `c'` and emitting `evs`: every op of the reference
  encoder is one or two such steps (`op_runs`), a script is their concatenation (`script_runs`), and what follows
  the script's bits is decoded from the mode the script ends in (`Runs.run_eq`).
  Last: scripts without FLG(n) (`PlainScript`) emit byte runs only and ask nothing of the ECI registry.
-/
import Gzx.Proofs.AztecStuff
import Gzx.Proofs.AztecLink
namespace Gzx.AztecHL
open Gzx Gzx.AztecDecoder Gzx.Ref.Aztec Gzx.AztecLink Gzx.AztecStuff

/-! ### every step consumes bits -/

theorem splitN?_eq {α : Type} : ∀ (k : Nat) (bs : List α),
    splitN? k bs = if k ≤ bs.length then some (bs.take k, bs.drop k) else none
  | 0, bs => by simp [splitN?]
  | k + 1, [] => by simp [splitN?]
  | k + 1, b :: bs => by
    simp only [splitN?, splitN?_eq k bs, List.length_cons]
    by_cases h : k ≤ bs.length
    · simp [h]
    · simp [h]

theorem splitN?_some {α : Type} (k : Nat) (bs a r : List α) (h : splitN? k bs = some (a, r)) :
    r.length + k = bs.length := by
  rw [splitN?_eq] at h
  split at h
  · cases h; rw [List.length_drop]; omega
  · cases h

theorem splitN?_of_le {α : Type} (k : Nat) (bs : List α) (h : k ≤ bs.length) : ∃ a r, splitN? k bs = some (a, r) :=
  ⟨_, _, by rw [splitN?_eq, if_pos h]⟩

theorem splitN?_append {α : Type} (h t : List α) : splitN? h.length (h ++ t) = some (h, t) := by
  rw [splitN?_eq, if_pos (by simp)]; simp

theorem takeBytes_length : ∀ (n : Nat) (bits : List Bool) (acc : List Nat),
    (takeBytes n bits acc).2.length ≤ bits.length
  | 0, _, _ => Nat.le_refl _
  | n + 1, bits, acc => by
    unfold takeBytes
    cases h : splitN? 8 bits with
    | none => simp
    | some p =>
      obtain ⟨b, rest⟩ := p
      simp only
      have := splitN?_some 8 bits b rest h
      have := takeBytes_length n rest (acc ++ [readCode b])
      omega

theorem readDigits_total : ∀ (n : Nat) (bits : List Bool) (eci : Nat), 4 * n ≤ bits.length →
    (∃ e r, readDigits n bits eci = .ok (e, r) ∧ r.length ≤ bits.length) ∨
      readDigits n bits eci = .error .format
  | 0, bits, eci, _ => Or.inl ⟨eci, bits, rfl, Nat.le_refl _⟩
  | n + 1, bits, eci, h => by
    obtain ⟨d, rest, hd⟩ := splitN?_of_le 4 bits (by omega)
    have hl := splitN?_some 4 bits d rest hd
    unfold readDigits
    simp only [hd]
    split
    · exact Or.inr rfl
    · rcases readDigits_total n rest (eci * 10 + (readCode d - 2)) (by omega) with ⟨e, r, h1, h2⟩ | h1
      · exact Or.inl ⟨e, r, h1, by omega⟩
      · exact Or.inr h1

theorem step_total (T : Tables) (reg : Nat → Bool) (c : Ctl) (bits : List Bool) :
    (∃ c' rest ev, step T reg c bits = .next c' rest ev ∧ rest.length < bits.length) ∨
      step T reg c bits = .stop ∨ step T reg c bits = .fail .format := by
  unfold step
  by_cases hbin : c.shift = Table.binary
  · -- binary shift
    rw [if_pos hbin]
    cases h5 : splitN? 5 bits with
    | none => exact Or.inr (Or.inl rfl)
    | some p =>
      obtain ⟨l5, bits1⟩ := p
      have hl5 := splitN?_some 5 bits l5 bits1 h5
      dsimp only
      by_cases hz : readCode l5 = 0
      · simp only [hz, if_true]
        cases h11 : splitN? 11 bits1 with
        | none => exact Or.inr (Or.inl rfl)
        | some q =>
          obtain ⟨l11, bits2⟩ := q
          have hl11 := splitN?_some 11 bits1 l11 bits2 h11
          dsimp only
          have := takeBytes_length (readCode l11 + 31) bits2 []
          exact Or.inl ⟨_, _, _, rfl, by omega⟩
      · simp only [hz, if_false]
        have := takeBytes_length (readCode l5) bits1 []
        exact Or.inl ⟨_, _, _, rfl, by omega⟩
  · rw [if_neg hbin]
    dsimp only
    cases hs : splitN? (if c.shift = Table.digit then 4 else 5) bits with
    | none => exact Or.inr (Or.inl rfl)
    | some p =>
      obtain ⟨cb, bits1⟩ := p
      have hl1 := splitN?_some _ bits cb bits1 hs
      have hsz : 4 ≤ (if c.shift = Table.digit then 4 else 5) := by split <;> omega
      dsimp only
      cases hg : getCharacter T c.shift (readCode cb) with
      | error e =>
        dsimp only
        have : e = .format := by
          unfold getCharacter at hg
          simp only at hg
          split at hg
          · cases hg; rfl
          · split at hg
            · cases hg; rfl
            · cases hg
        subst this
        exact Or.inr (Or.inr rfl)
      | ok ent =>
        cases ent with
        | flg =>
          dsimp only
          cases h3 : splitN? 3 bits1 with
          | none => exact Or.inr (Or.inl rfl)
          | some q =>
            obtain ⟨nb, bits2⟩ := q
            have hl3 := splitN?_some 3 bits1 nb bits2 h3
            dsimp only
            by_cases h0 : readCode nb = 0
            · rw [if_pos h0]; exact Or.inl ⟨_, _, _, rfl, by omega⟩
            rw [if_neg h0]
            by_cases h7 : readCode nb = 7
            · rw [if_pos h7]; exact Or.inr (Or.inr rfl)
            rw [if_neg h7]
            by_cases hlen : bits2.length < 4 * readCode nb
            · rw [if_pos hlen]; exact Or.inl ⟨_, _, _, rfl, by omega⟩
            rw [if_neg hlen]
            rcases readDigits_total (readCode nb) bits2 0 (by omega) with ⟨e, r, h1, h2⟩ | h1
            · rw [h1]
              dsimp only
              by_cases h900 : e ≥ 900
              · rw [if_pos h900]; exact Or.inr (Or.inr rfl)
              rw [if_neg h900]
              cases hreg : reg e
              · exact Or.inr (Or.inr rfl)
              · exact Or.inl ⟨_, _, _, rfl, by omega⟩
            · rw [h1]; exact Or.inr (Or.inr rfl)
        | ctrl t isLatch => exact Or.inl ⟨_, _, _, rfl, by omega⟩
        | lit bytes => exact Or.inl ⟨_, _, _, rfl, by omega⟩

/-! ### fuel, and what a stretch of bits makes the decoder do -/

theorem step_shrinks (T : Tables) (reg : Nat → Bool) {c c' : Ctl} {bits rest : List Bool} {ev : List Event}
    (h : step T reg c bits = .next c' rest ev) : rest.length < bits.length := by
  rcases step_total T reg c bits with ⟨_, _, _, hs, hlt⟩ | hs | hs <;> rw [hs] at h
  · cases h; exact hlt
  · cases h
  · cases h

theorem loop_fuel (T : Tables) (reg : Nat → Bool) : ∀ (f f' : Nat) (c : Ctl) (bits : List Bool),
    bits.length < f → bits.length < f' → loop T reg f c bits = loop T reg f' c bits
  | 0, _, _, _, h, _ => by omega
  | _, 0, _, _, _, h => by omega
  | f + 1, f' + 1, c, bits, h, h' => by
    unfold loop
    split
    · rfl
    · cases hs : step T reg c bits with
      | next c' rest ev =>
        have := step_shrinks T reg hs
        simp only [loop_fuel T reg f f' c' rest (by omega) (by omega)]
      | stop => rfl
      | fail e => rfl

/-- the loop of `getEncodedData` with the fuel it is given there -/
def run (T : Tables) (reg : Nat → Bool) (c : Ctl) (bits : List Bool) : Res (List Event) :=
  loop T reg (bits.length + 1) c bits

theorem getEncodedData_eq_run (T : Tables) (reg : Nat → Bool) (bits : List Bool) :
    getEncodedData T reg bits = (run T reg Ctl.init bits).map segments := rfl

theorem run_next (T : Tables) (reg : Nat → Bool) {c c' : Ctl} {bits rest : List Bool} {ev : List Event}
    (hne : bits.isEmpty = false) (h : step T reg c bits = .next c' rest ev) :
    run T reg c bits = (run T reg c' rest).map (ev ++ ·) := by
  have := step_shrinks T reg h
  simp only [run, loop, hne, h, loop_fuel T reg bits.length (rest.length + 1) c' rest this (by omega)]
  rfl

/-- from control state `c` the decoder reads `bits` down to `rest`, arrives in `c'` and has emitted `evs` -/
inductive Runs (T : Tables) (reg : Nat → Bool) : Ctl → List Bool → Ctl → List Bool → List Event → Prop
  | refl (c bits) : Runs T reg c bits c bits []
  | cons {c c' c'' bits mid rest ev evs} : bits.isEmpty = false → step T reg c bits = .next c' mid ev →
      Runs T reg c' mid c'' rest evs → Runs T reg c bits c'' rest (ev ++ evs)

section runs
variable {T : Tables} {reg : Nat → Bool}

theorem Runs.one {c c' : Ctl} {bits rest : List Bool} {ev : List Event} (hne : bits.isEmpty = false)
    (h : step T reg c bits = .next c' rest ev) : Runs T reg c bits c' rest ev := by
  have := Runs.cons hne h (Runs.refl (T := T) (reg := reg) c' rest)
  rwa [List.append_nil] at this

theorem Runs.trans {c c' c'' : Ctl} {bits mid rest : List Bool} {e1 e2 : List Event}
    (h1 : Runs T reg c bits c' mid e1) (h2 : Runs T reg c' mid c'' rest e2) :
    Runs T reg c bits c'' rest (e1 ++ e2) := by
  induction h1 with
  | refl => exact h2
  | cons hne hs _ ih => rw [List.append_assoc]; exact Runs.cons hne hs (ih h2)

theorem Runs.run_eq {c c' : Ctl} {bits rest : List Bool} {evs : List Event} (h : Runs T reg c bits c' rest evs) :
    run T reg c bits = (run T reg c' rest).map (evs ++ ·) := by
  induction h with
  | refl => cases run T reg _ _ <;> rfl
  | cons hne hs _ ih =>
    rw [run_next T reg hne hs, ih]
    cases run T reg _ _ <;> simp [Except.map]

end runs

/-! ### one table read: a code `toBits (width m) c` is split off and read back as `c`, and `refTables` holds `toD`
of the reference entry at `c` -/

theorem splitN?_toBits (w n : Nat) (t : List Bool) :
    splitN? w (toBits w n ++ t) = some (toBits w n, t) := by
  have := splitN?_append (toBits w n) t
  rwa [length_toBits] at this

theorem readCode_toBits (w n : Nat) (h : n < 2 ^ w) : readCode (toBits w n) = n := by
  rw [readCode_eq_fromBits, fromBits_toBits_of_lt w n h]

theorem table_length (m : Mode) : (tableOf m).length = 2 ^ width m := by
  cases m <;> decide

theorem toTable_ne_binary (m : Mode) : toTable m ≠ .binary := by
  cases m <;> decide

theorem size_eq_width (m : Mode) : (if toTable m = Table.digit then 4 else 5) = width m := by
  cases m <;> decide

theorem getCharacter_ref (m : Mode) (c : Nat) :
    getCharacter refTables (toTable m) c =
      (match (tableOf m)[c]? with
       | some e => .ok (toD e)
       | none => .error .format) := by
  cases m <;> simp only [getCharacter, refTables, toTable, tableOf, List.getElem?_map] <;>
    cases (_ : List Entry)[c]? <;> rfl

theorem findCode_spec (t : List Entry) (e : Entry) (c : Nat) (h : findCode t e = some c) :
    t[c]? = some e := by
  unfold findCode at h
  simp only at h
  split at h
  · rename_i hlt
    injection h with h
    subst h
    have := List.findIdx_getElem (w := hlt)
    simp only [beq_iff_eq] at this
    rw [List.getElem?_eq_getElem hlt, this]
  · cases h

theorem lookup_lt {m : Mode} {c : Nat} {e : Entry} (h : (tableOf m)[c]? = some e) :
    c < 2 ^ width m := by
  rw [← table_length]
  exact (List.getElem?_eq_some_iff.mp h).1

theorem isEmpty_toBits_append (w n : Nat) (t : List Bool) (hw : 0 < w) :
    (toBits w n ++ t).isEmpty = false := by
  cases h : toBits w n ++ t with
  | nil =>
    have := congrArg List.length h
    simp [length_toBits] at this
    omega
  | cons _ _ => rfl

theorem width_pos (m : Mode) : 0 < width m := by cases m <;> decide

theorem step_lit (reg : Nat → Bool) (ctl : Ctl) (ms : Mode) (c : Nat) (bs : List Nat)
    (rest : List Bool) (hs : ctl.shift = toTable ms) (h : (tableOf ms)[c]? = some (.lit bs)) :
    step refTables reg ctl (toBits (width ms) c ++ rest) =
      .next ⟨ctl.latch, ctl.latch⟩ rest [.bytes bs] := by
  have hlt := lookup_lt h
  simp only [step, hs, toTable_ne_binary, if_false, size_eq_width, splitN?_toBits,
    readCode_toBits _ _ hlt, getCharacter_ref, h, toD]

/-- reading a latch / shift / binary-shift code -/
theorem step_ctrl (reg : Nat → Bool) (ctl : Ctl) (ms : Mode) (c : Nat) (e : Entry) (t : Table)
    (isL : Bool) (rest : List Bool) (hs : ctl.shift = toTable ms)
    (h : (tableOf ms)[c]? = some e) (he : toD e = .ctrl t isL) :
    step refTables reg ctl (toBits (width ms) c ++ rest) =
      .next ⟨bif isL then t else toTable ms, t⟩ rest [] := by
  have hlt := lookup_lt h
  simp only [step, hs, toTable_ne_binary, if_false, size_eq_width, splitN?_toBits,
    readCode_toBits _ _ hlt, getCharacter_ref, h, he]
  cases isL <;> rfl

/-! ### binary shift -/

theorem takeBytes_bytesBits (bytes : List Nat) (rest : List Bool) (hb : bytes.all (· < 256) = true) :
    ∀ acc, takeBytes bytes.length (bytesBits bytes ++ rest) acc = (acc ++ bytes, rest) := by
  induction bytes with
  | nil => intro acc; simp [takeBytes, bytesBits]
  | cons b bs ih =>
    intro acc
    simp only [List.all_cons, Bool.and_eq_true, decide_eq_true_eq] at hb
    have h8 : b < 2 ^ 8 := by omega
    simp only [List.length_cons, takeBytes, bytesBits, List.flatMap_cons, List.append_assoc,
      splitN?_toBits, readCode_toBits 8 b h8]
    have := ih hb.2 (acc ++ [b])
    simp only [bytesBits] at this
    rw [this]
    simp

theorem step_binary_short (reg : Nat → Bool) (l : Table) (bytes : List Nat) (rest : List Bool)
    (hb : bytes.all (· < 256) = true) (h1 : 1 ≤ bytes.length) (h31 : bytes.length ≤ 31) :
    step refTables reg ⟨l, .binary⟩ (toBits 5 bytes.length ++ bytesBits bytes ++ rest) =
      .next ⟨l, l⟩ rest [.bytes bytes] := by
  have hlt : bytes.length < 2 ^ 5 := by omega
  have hne : ¬ bytes.length = 0 := by omega
  have hemp : bytes.isEmpty = false := by
    cases bytes with
    | nil => simp at h1
    | cons _ _ => rfl
  simp only [step, if_true, List.append_assoc, splitN?_toBits, readCode_toBits 5 _ hlt, hne,
    if_false, takeBytes_bytesBits bytes rest hb [], List.nil_append, hemp, Bool.false_eq_true]

theorem step_binary_long (reg : Nat → Bool) (l : Table) (bytes : List Nat) (rest : List Bool)
    (hb : bytes.all (· < 256) = true) (h32 : 32 ≤ bytes.length) (hmax : bytes.length ≤ 2078) :
    step refTables reg ⟨l, .binary⟩
        (toBits 5 0 ++ toBits 11 (bytes.length - 31) ++ bytesBits bytes ++ rest) =
      .next ⟨l, l⟩ rest [.bytes bytes] := by
  have hlt : bytes.length - 31 < 2 ^ 11 := by omega
  have h0 : (0 : Nat) < 2 ^ 5 := by decide
  have hlen : bytes.length - 31 + 31 = bytes.length := by omega
  have hemp : bytes.isEmpty = false := by
    cases bytes with
    | nil => simp at h32
    | cons _ _ => rfl
  simp only [step, if_true, List.append_assoc, splitN?_toBits, readCode_toBits 5 0 h0,
    readCode_toBits 11 _ hlt, hlen, takeBytes_bytesBits bytes rest hb [], List.nil_append, hemp,
    Bool.false_eq_true, if_false]

/-! ### FLG(n) -/

theorem readDigits_spec (ds : List Nat) (rest : List Bool) (hd : ds.all (· < 10) = true) :
    ∀ acc, readDigits ds.length (ds.flatMap (fun d => toBits 4 (d + 2)) ++ rest) acc =
      .ok (ds.foldl (fun a d => 10 * a + d) acc, rest) := by
  induction ds with
  | nil => intro acc; simp [readDigits]
  | cons d ds ih =>
    intro acc
    simp only [List.all_cons, Bool.and_eq_true, decide_eq_true_eq] at hd
    have h4 : d + 2 < 2 ^ 4 := by omega
    have hnot : ¬ (d + 2 < 2 ∨ d + 2 > 11) := by omega
    simp only [List.length_cons, readDigits, List.flatMap_cons, List.append_assoc, splitN?_toBits,
      readCode_toBits 4 _ h4, hnot, if_false, List.foldl_cons]
    have : acc * 10 + (d + 2 - 2) = 10 * acc + d := by omega
    rw [this]
    exact ih hd.2 _

theorem length_digitBits (ds : List Nat) :
    (ds.flatMap (fun d => toBits 4 (d + 2))).length = 4 * ds.length := by
  induction ds with
  | nil => rfl
  | cons d ds ih => simp [length_toBits, ih]; omega

def flgEvent (n : Nat) (ds : List Nat) : Event := if n = 0 then .fnc1 else .eci (digitsVal ds)

/-- the ECI designators of a script are values the library knows -/
def flgOK (reg : Nat → Bool) (n : Nat) (ds : List Nat) : Prop :=
  n = 0 ∨ (digitsVal ds < 900 ∧ reg (digitsVal ds) = true)

theorem step_flg (reg : Nat → Bool) (ctl : Ctl) (ms : Mode) (c n : Nat) (ds : List Nat)
    (p rest : List Bool) (hs : ctl.shift = toTable ms)
    (h : (tableOf ms)[c]? = some .flg) (hp : flgBits n ds = some p) (hok : flgOK reg n ds) :
    step refTables reg ctl (toBits (width ms) c ++ p ++ rest) =
      .next ⟨ctl.latch, ctl.latch⟩ rest [flgEvent n ds] := by
  have hlt := lookup_lt h
  unfold flgBits at hp
  split at hp
  · rename_i hcond
    obtain ⟨hn6, hlen, hall⟩ := hcond
    injection hp with hp
    subst hp
    have hn8 : n < 2 ^ 3 := by omega
    simp only [step, hs, toTable_ne_binary, if_false, size_eq_width, List.append_assoc,
      splitN?_toBits, readCode_toBits _ _ hlt, getCharacter_ref, h, toD, readCode_toBits 3 n hn8]
    by_cases hn0 : n = 0
    · have : ds = [] := by
        apply List.eq_nil_of_length_eq_zero; omega
      subst this
      simp [hn0, flgEvent]
    · have hn7 : ¬ n = 7 := by omega
      have hlen' : ¬ ((ds.flatMap (fun d => toBits 4 (d + 2)) ++ rest).length < 4 * n) := by
        rw [List.length_append, length_digitBits, hlen]; omega
      have hrd := readDigits_spec ds rest hall 0
      rw [hlen] at hrd
      rcases hok with hok | ⟨h900, hreg⟩
      · exact absurd hok hn0
      · have h900' : ¬ (List.foldl (fun a d => 10 * a + d) 0 ds ≥ 900) := by
          unfold digitsVal at h900; omega
        have hreg' : reg (List.foldl (fun a d => 10 * a + d) 0 ds) = true := hreg
        simp only [hn0, hn7, if_false, hlen', hrd, h900', hreg', flgEvent, digitsVal]
        rfl
  · cases hp

/-! ### ops -/

def toEvent : Item → Event
  | .bytes bs => .bytes bs
  | .fnc1 => .fnc1
  | .eci n => .eci n

/-- side condition on a script: its ECI designators are registered -/
def opOK (reg : Nat → Bool) : Op → Prop
  | .flg n ds | .shFlg n ds => flgOK reg n ds
  | _ => True

def mctl (m : Mode) : Ctl := ⟨toTable m, toTable m⟩

theorem isEmpty_code (m : Mode) (c : Nat) (t : List Bool) :
    (toBits (width m) c ++ t).isEmpty = false :=
  isEmpty_toBits_append _ _ _ (width_pos m)

section ops
variable {reg : Nat → Bool}

theorem code_runs_lit (ctl : Ctl) (ms : Mode) (c : Nat) (bs : List Nat) (rest : List Bool)
    (hs : ctl.shift = toTable ms) (h : (tableOf ms)[c]? = some (.lit bs)) :
    Runs refTables reg ctl (toBits (width ms) c ++ rest) ⟨ctl.latch, ctl.latch⟩ rest [.bytes bs] :=
  Runs.one (isEmpty_code ms c rest) (step_lit reg ctl ms c bs rest hs h)

theorem code_runs_ctrl (ctl : Ctl) (ms : Mode) (s : Nat) (e : Entry) (t : Table) (isL : Bool) (rest : List Bool)
    (hs : ctl.shift = toTable ms) (h : findCode (tableOf ms) e = some s) (he : toD e = .ctrl t isL) :
    Runs refTables reg ctl (toBits (width ms) s ++ rest) ⟨bif isL then t else toTable ms, t⟩ rest [] :=
  Runs.one (isEmpty_code ms s rest) (step_ctrl reg ctl ms s e t isL rest hs (findCode_spec _ _ _ h) he)

theorem code_runs_flg (ctl : Ctl) (ms : Mode) (c n : Nat) (ds : List Nat) (p rest : List Bool)
    (hs : ctl.shift = toTable ms) (h : findCode (tableOf ms) .flg = some c) (hp : flgBits n ds = some p)
    (hok : flgOK reg n ds) :
    Runs refTables reg ctl (toBits (width ms) c ++ (p ++ rest)) ⟨ctl.latch, ctl.latch⟩ rest [flgEvent n ds] := by
  rw [← List.append_assoc]
  exact Runs.one (by rw [List.append_assoc]; exact isEmpty_code ms c _)
    (step_flg reg ctl ms c n ds p rest hs (findCode_spec _ _ _ h) hp hok)

theorem toEvent_flg (n : Nat) (ds : List Nat) :
    (if n = 0 then [Item.fnc1] else [Item.eci (digitsVal ds)]).map toEvent = [flgEvent n ds] := by
  unfold flgEvent; split <;> rfl

theorem op_runs (m m' : Mode) (op : Op) (b : List Bool) (henc : encodeOp m op = some (b, m'))
    (hok : opOK reg op) (rest : List Bool) :
    Runs refTables reg (mctl m) (b ++ rest) (mctl m') rest ((opItems m op).map toEvent) := by
  cases op with
  | ch c =>
    simp only [encodeOp] at henc
    split at henc
    · rename_i bs hl
      cases henc
      simpa [opItems, hl, toEvent, mctl] using code_runs_lit (reg := reg) (mctl m) m c bs rest rfl hl
    · cases henc
  | latch mt =>
    simp only [encodeOp] at henc
    cases hf : findCode (tableOf m) (Entry.latch mt) with
    | none => rw [hf] at henc; cases henc
    | some s =>
      rw [hf] at henc; cases henc
      exact code_runs_ctrl (mctl m) m _ _ _ true rest rfl hf rfl
  | sh mt c =>
    simp only [encodeOp] at henc
    cases hf : findCode (tableOf m) (Entry.shift mt) <;> rw [hf] at henc
    · cases henc
    · split at henc
      · rename_i s' bs hs' hl2
        cases hs'; cases henc
        rw [List.append_assoc]
        have := (code_runs_ctrl (reg := reg) (mctl m) m _ _ (toTable mt) false _ rfl hf rfl).trans
          (code_runs_lit ⟨toTable m, toTable mt⟩ mt c bs rest rfl hl2)
        simpa [opItems, hl2, toEvent, mctl] using this
      · cases henc
  | bin bytes =>
    simp only [encodeOp] at henc
    cases hf : findCode (tableOf m) Entry.bshift <;> rw [hf] at henc
    · cases henc
    · simp only at henc
      have first := fun r => code_runs_ctrl (reg := reg) (mctl m) m _ _ .binary false r rfl hf rfl
      split at henc
      · cases henc
      · rename_i hall
        have hall' : bytes.all (· < 256) = true := by simpa using hall
        split at henc
        · rename_i hshort
          cases henc
          simp only [List.append_assoc]
          exact (first _).trans (Runs.one (isEmpty_toBits_append 5 _ _ (by decide))
            (by rw [← List.append_assoc]
                exact step_binary_short reg (toTable m) bytes rest hall' hshort.1 hshort.2))
        · split at henc
          · rename_i hlong
            cases henc
            simp only [List.append_assoc]
            exact (first _).trans (Runs.one (isEmpty_toBits_append 5 _ _ (by decide))
              (by rw [← List.append_assoc, ← List.append_assoc]
                  exact step_binary_long reg (toTable m) bytes rest hall' hlong.1 hlong.2))
          · cases henc
  | flg n ds =>
    simp only [encodeOp] at henc
    cases hf : findCode (tableOf m) Entry.flg <;> rw [hf] at henc
    · cases henc
    · cases hp : flgBits n ds <;> rw [hp] at henc <;> cases henc
      rw [List.append_assoc]
      simpa only [opItems, toEvent_flg, mctl] using code_runs_flg (reg := reg) (mctl m) m _ n ds _ rest rfl hf hp hok
  | shFlg n ds =>
    simp only [encodeOp] at henc
    cases hf : findCode (tableOf m) (Entry.shift Mode.punct) <;> rw [hf] at henc
    · cases henc
    · cases hf2 : findCode punctTable Entry.flg <;> rw [hf2] at henc
      · cases henc
      · cases hp : flgBits n ds <;> rw [hp] at henc <;> cases henc
        simp only [List.append_assoc]
        have := (code_runs_ctrl (reg := reg) (mctl m) m _ _ .punct false _ rfl hf rfl).trans
          (code_runs_flg ⟨toTable m, .punct⟩ Mode.punct _ n ds _ rest rfl hf2 hp hok)
        simpa only [opItems, toEvent_flg, List.nil_append, mctl, width] using this

end ops

/-! ### scripts -/

def scriptOK (reg : Nat → Bool) (ops : List Op) : Prop := ∀ op ∈ ops, opOK reg op

def finalMode : Mode → List Op → Mode
  | m, [] => m
  | m, op :: ops => finalMode (opMode m op) ops

theorem encodeOp_mode (m m' : Mode) (op : Op) (b : List Bool) (h : encodeOp m op = some (b, m')) :
    m' = opMode m op := by
  cases op <;> simp only [encodeOp] at h
  case ch c => split at h <;> cases h; rfl
  case latch mt => cases hf : findCode (tableOf m) (Entry.latch mt) <;> rw [hf] at h <;> cases h; rfl
  case sh mt c => split at h <;> cases h; rfl
  case bin bytes =>
    split at h
    · cases h
    · split at h
      · cases h
      · split at h
        · cases h; rfl
        · split at h <;> cases h; rfl
  case flg n ds => split at h <;> cases h; rfl
  case shFlg n ds => split at h <;> cases h; rfl

theorem script_runs {reg : Nat → Bool} : ∀ (ops : List Op) (m : Mode) (bits : List Bool),
    encodeScript m ops = some bits → scriptOK reg ops → ∀ rest : List Bool,
    Runs refTables reg (mctl m) (bits ++ rest) (mctl (finalMode m ops)) rest ((scriptItems m ops).map toEvent)
  | [], m, bits, h, _, rest => by
    cases h; exact Runs.refl _ _
  | op :: ops, m, bits, h, hok, rest => by
    simp only [encodeScript] at h
    cases he : encodeOp m op with
    | none => rw [he] at h; cases h
    | some p =>
      obtain ⟨b, m'⟩ := p
      rw [he] at h
      simp only at h
      cases hs : encodeScript m' ops with
      | none => rw [hs] at h; cases h
      | some bs =>
        rw [hs] at h; cases h
        have hm' := encodeOp_mode m m' op b he
        have h1 := op_runs m m' op b he (hok op (by simp)) (bs ++ rest)
        have h2 := script_runs ops m' bs hs (fun o ho => hok o (by simp [ho])) rest
        subst hm'
        rw [List.append_assoc]
        simpa only [scriptItems, finalMode, List.map_append] using h1.trans h2

/-- up to 11 pad ones after the message decode to nothing, whatever the final mode: all-ones is B/S in Upper, Lower
    and Mixed, U/L in Punct and U/S in Digit, none of which emits anything, and what follows runs out of bits before a
    byte or a character is complete (a binary shift whose bytes are cut off appends nothing).  11 because the padding
    of the last codeword is shorter than a codeword (`stuffWords_unstuff`) and codewords have at most 12 bits
    (`wordSize_bounds`).  A fact about `refTables`, found by running the model: 12 lengths × 5 modes. -/
theorem pad_run (reg : Nat → Bool) (m : Mode) (k : Nat) (hk : k < 12) :
    run refTables reg (mctl m) (List.replicate k true) = .ok [] := by
  have : k = 0 ∨ k = 1 ∨ k = 2 ∨ k = 3 ∨ k = 4 ∨ k = 5 ∨ k = 6 ∨ k = 7 ∨ k = 8 ∨ k = 9 ∨
      k = 10 ∨ k = 11 := by omega
  -- the registry is never consulted on these inputs
  rcases this with h | h | h | h | h | h | h | h | h | h | h | h <;> subst h <;> cases m <;> rfl


/-! ### plain scripts -/

def isPlain : Op → Bool
  | .flg _ _ | .shFlg _ _ => false
  | _ => true

/-- a script without FLG(n): only data bytes -/
def PlainScript (ops : List Op) : Prop := ∀ op ∈ ops, isPlain op = true

instance (ops : List Op) : Decidable (PlainScript ops) := by unfold PlainScript; infer_instance

theorem plain_items (ops : List Op) (h : PlainScript ops) :
    ∀ m, ∃ bss : List (List Nat),
      (scriptItems m ops).map toEvent = bss.map Event.bytes ∧
      itemsBytes (scriptItems m ops) = bss.flatten := by
  induction ops with
  | nil => intro m; exact ⟨[], rfl, rfl⟩
  | cons op ops ih =>
    intro m
    have h1 := h op (by simp)
    obtain ⟨bss, h2, h3⟩ := ih (fun o ho => h o (by simp [ho])) (opMode m op)
    have key : ∃ b1 : List (List Nat), (opItems m op).map toEvent = b1.map Event.bytes ∧
        itemsBytes (opItems m op) = b1.flatten := by
      cases op with
      | ch c =>
        simp only [opItems]
        split
        · rename_i bs _; exact ⟨[bs], rfl, by simp [itemsBytes]⟩
        · exact ⟨[], rfl, rfl⟩
      | latch _ => exact ⟨[], rfl, rfl⟩
      | sh mt c =>
        simp only [opItems]
        split
        · rename_i bs _; exact ⟨[bs], rfl, by simp [itemsBytes]⟩
        · exact ⟨[], rfl, rfl⟩
      | bin bs => exact ⟨[bs], rfl, by simp [opItems, itemsBytes]⟩
      | flg _ _ => simp [isPlain] at h1
      | shFlg _ _ => simp [isPlain] at h1
    obtain ⟨b1, k1, k2⟩ := key
    refine ⟨b1 ++ bss, ?_, ?_⟩
    · simp only [scriptItems, List.map_append, k1, h2]
    · simp only [scriptItems, itemsBytes, List.flatMap_append, List.flatten_append] at k2 h3 ⊢
      rw [k2, h3]

theorem plain_scriptOK (reg : Nat → Bool) (ops : List Op) (h : PlainScript ops) : scriptOK reg ops := by
  intro op hop
  have := h op hop
  cases op <;> first | trivial | (simp [isPlain] at this)

end Gzx.AztecHL
