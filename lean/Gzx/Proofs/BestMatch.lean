/-
  The best-match loops of the 1-D readers — `upceanReader_decodeDigit`, `code128DecodeCode` and
  `code128FindStartPattern`, `itfReader_decodeDigit` — are one loop `bestGen` (their agreement lemmas stand next to
  their models' other lemmas).  On counters that are an exact multiple of row `j` of the table the exact variance
  arithmetic gives that row 0 and every row not proportional to it a positive or infinite variance (`pmv_nonProp`; for
  rows of equal sum: `pmv_ne`), so the loop returns `j` (`bestGen_pick`; for a table of rows of equal sum that differ
  when cut to the counted entries: `bestGen_table`), with or without the ITF tie rule.
-/
import Gzx.Proofs.UpceanRow
import Gzx.Model.OneDRow128

namespace Gzx.OneD
abbrev pmv := RunLength.patternMatchVariance
end Gzx.OneD

namespace Gzx.Row128
open Gzx Gzx.OneD

/-- a positive or infinite variance -/
def Worse (r : Res (Option (Nat × Nat))) : Prop := r = .ok none ∨ ∃ n d, r = .ok (some (n, d)) ∧ 0 < n

end Gzx.Row128

namespace Gzx.RowITF
open Gzx Gzx.OneD

/-! ## PatternMatchVariance against a pattern that is not proportional to the observation -/

/-- `q` is not proportional to `p`: some cross-multiplied deviation is non-zero (decidable) -/
def nonProp (p q : List Nat) : Bool := (RunLength.devs (sumL p) (sumL q) p q).any (· ≠ 0)

theorem sumL_pos_of_mem (xs : List Nat) (d : Nat) (hd : d ∈ xs) (h0 : d ≠ 0) : 0 < sumL xs := by
  induction xs with
  | nil => simp at hd
  | cons x xs ih =>
    rw [sumL_cons]
    simp only [List.mem_cons] at hd
    rcases hd with rfl | hd
    · omega
    · have := ih hd; omega

theorem pmv_nonProp (p q : List Nat) (s a b : Nat) (hs : 0 < s) (hl : q.length = p.length) (h : nonProp p q = true) :
    Row128.Worse (pmv (p.map (s * ·)) q a b) := by
  unfold pmv RunLength.patternMatchVariance
  have h0 : ¬ q.length < (p.map (s * ·)).length := by simp; omega
  have htake : q.take (p.map (s * ·)).length = q := List.take_of_length_le (by simp; omega)
  simp only [h0, if_false, htake, rl_sumL, sumL_scale]
  split
  · exact Or.inl rfl
  · split
    · exact Or.inl rfl
    · refine Or.inr ⟨_, _, rfl, ?_⟩
      rw [Properties.C20.devs_scale]
      simp only [nonProp, List.any_eq_true, decide_eq_true_eq] at h
      obtain ⟨d, hd, hd0⟩ := h
      apply sumL_pos_of_mem _ (s * d) (List.mem_map_of_mem hd)
      exact Nat.ne_of_gt (Nat.mul_pos hs (Nat.pos_of_ne_zero hd0))

end Gzx.RowITF

namespace Gzx.OneD
open Gzx

theorem eq_of_devs_zero (M : Nat) (hM : 0 < M) : ∀ (p q : List Nat), p.length = q.length →
    (∀ d ∈ RunLength.devs M M p q, d = 0) → p = q
  | [], [], _, _ => rfl
  | [], _ :: _, hl, _ => by simp at hl
  | _ :: _, [], hl, _ => by simp at hl
  | x :: xs, y :: ys, hl, hz => by
    simp only [RunLength.devs, List.mem_cons, forall_eq_or_imp] at hz
    have hx : x = y := by
      have h := hz.1
      unfold RunLength.absDiff at h
      apply Nat.eq_of_mul_eq_mul_right hM
      split at h <;> omega
    rw [hx, eq_of_devs_zero M hM xs ys (by simpa using hl) hz.2]

theorem pmv_ne (p q : List Nat) (s a b : Nat) (hs : 0 < s) (hl : q.length = p.length) (hsum : sumL q = sumL p)
    (hP : 0 < sumL p) (hne : p ≠ q) : Row128.Worse (pmv (p.map (s * ·)) q a b) := by
  refine RowITF.pmv_nonProp p q s a b hs hl ?_
  cases h : RowITF.nonProp p q with
  | true => rfl
  | false =>
    refine absurd (eq_of_devs_zero (sumL p) hP p q hl.symm fun d hd => ?_) hne
    simp only [RowITF.nonProp, hsum, List.any_eq_false, decide_eq_true_eq, Decidable.not_not] at h
    exact h d hd

end Gzx.OneD

namespace Gzx.Row128
open Gzx Gzx.OneD

/-- `for i, pattern := range patterns { variance := PatternMatchVariance(…); if variance < bestVariance {…} }`;
    `tie` = the ITF rule "a later pattern with exactly the running best variance cancels the match" -/
def bestGen (tie : Bool) (D : VarDom) (c : List Nat) (a b : Nat) :
    List (List Nat) → Nat → D.V → Option Nat → Res (Option Nat)
  | [], _, _, bm => .ok bm
  | p :: ps, i, best, bm =>
    match D.pmv c p a b with
    | .error e => .error e
    | .ok v =>
      if D.lt v best then bestGen tie D c a b ps (i + 1) v (some i)
      else if tie && D.eq v best then bestGen tie D c a b ps (i + 1) best none
      else bestGen tie D c a b ps (i + 1) best bm

/-! ## the one row with variance 0 wins -/

theorem bestGen_stay (tie : Bool) (c : List Nat) (a b : Nat) (den : Nat) (hden : 0 < den) :
    ∀ (ps : List (List Nat)) (i : Nat) (bm : Option Nat), (∀ q ∈ ps, Worse (pmv c q a b)) →
    bestGen tie exactDom c a b ps i (some (0, den)) bm = .ok bm := by
  intro ps
  induction ps with
  | nil => intro i bm _; rfl
  | cons q ps ih =>
    intro i bm hall
    have hrest : ∀ q ∈ ps, Worse (pmv c q a b) := fun q' h' => hall q' (by simp [h'])
    rcases hall q (by simp) with hq | ⟨n, d, hq, hn⟩
    · have hq' : exactDom.pmv c q a b = .ok none := hq
      have h1 : exactDom.lt none (some (0, den)) = false := rfl
      have h2 : exactDom.eq none (some (0, den)) = false := rfl
      simp only [bestGen, hq', h1, h2, Bool.and_false, Bool.false_eq_true, if_false]
      exact ih _ _ hrest
    · have hq' : exactDom.pmv c q a b = .ok (some (n, d)) := hq
      have h1 : exactDom.lt (some (n, d)) (some (0, den)) = false := by
        change fracLtO (some (n, d)) (some (0, den)) = false
        simp [fracLtO]
      have h2 : exactDom.eq (some (n, d)) (some (0, den)) = false := by
        change fracEqO (some (n, d)) (some (0, den)) = false
        simp only [fracEqO, Nat.zero_mul, beq_eq_false_iff_ne, ne_eq]
        exact Nat.ne_of_gt (Nat.mul_pos hn hden)
      simp only [bestGen, hq', h1, h2, Bool.and_false, Bool.false_eq_true, if_false]
      exact ih _ _ hrest

/-- the rows before and after `j` are worse: by induction along the table -/
theorem bestGen_pick_split (tie : Bool) (c : List Nat) (a b : Nat) (den : Nat) (hden : 0 < den) :
    ∀ (ps : List (List Nat)) (j i : Nat) (bn bd : Nat) (bm : Option Nat) (hj : j < ps.length),
    0 < bn → pmv c ps[j] a b = .ok (some (0, den)) →
    (∀ q ∈ ps.take j, Worse (pmv c q a b)) → (∀ q ∈ ps.drop (j + 1), Worse (pmv c q a b)) →
    bestGen tie exactDom c a b ps i (some (bn, bd)) bm = .ok (some (i + j)) := by
  intro ps
  induction ps with
  | nil => intro j i bn bd bm hj; simp at hj
  | cons q ps ih =>
    intro j i bn bd bm hj hb hhit hbefore hafter
    cases j with
    | zero =>
      simp only [List.getElem_cons_zero] at hhit
      have hhit' : exactDom.pmv c q a b = .ok (some (0, den)) := hhit
      have : exactDom.lt (some (0, den)) (some (bn, bd)) = true := by
        change fracLtO (some (0, den)) (some (bn, bd)) = true
        simp only [fracLtO, Nat.zero_mul, decide_eq_true_eq]
        exact Nat.mul_pos hb hden
      simp only [bestGen, hhit', this, if_true]
      exact bestGen_stay tie c a b den hden ps _ _ (by simpa using hafter)
    | succ j =>
      have hj' : j < ps.length := by simpa using hj
      have hbefore' : ∀ q ∈ ps.take j, Worse (pmv c q a b) := fun q' h' => hbefore q' (by simp [h'])
      have hafter' : ∀ q ∈ ps.drop (j + 1), Worse (pmv c q a b) := by simpa using hafter
      have hhit' : pmv c ps[j] a b = .ok (some (0, den)) := by simpa using hhit
      have e : i + (j + 1) = i + 1 + j := by omega
      rw [e]
      rcases hbefore q (by simp) with hq | ⟨n, d, hq, hn⟩
      · have hq' : exactDom.pmv c q a b = .ok none := hq
        have h1 : exactDom.lt none (some (bn, bd)) = false := rfl
        have h2 : exactDom.eq none (some (bn, bd)) = false := rfl
        simp only [bestGen, hq', h1, h2, Bool.and_false, Bool.false_eq_true, if_false]
        exact ih j (i + 1) bn bd bm hj' hb hhit' hbefore' hafter'
      · have hq' : exactDom.pmv c q a b = .ok (some (n, d)) := hq
        simp only [bestGen, hq']
        split
        · exact ih j (i + 1) n d (some i) hj' hn hhit' hbefore' hafter'
        · split
          · exact ih j (i + 1) bn bd none hj' hb hhit' hbefore' hafter'
          · exact ih j (i + 1) bn bd bm hj' hb hhit' hbefore' hafter'

theorem bestGen_pick (tie : Bool) (c : List Nat) (a b : Nat) (den : Nat) (hden : 0 < den) (ps : List (List Nat))
    (j : Nat) (hj : j < ps.length) (i bn bd : Nat) (bm : Option Nat) (hb : 0 < bn)
    (hhit : pmv c ps[j] a b = .ok (some (0, den)))
    (hother : ∀ (k : Nat) (hk : k < ps.length), k ≠ j → Worse (pmv c ps[k] a b)) :
    bestGen tie exactDom c a b ps i (some (bn, bd)) bm = .ok (some (i + j)) := by
  refine bestGen_pick_split tie c a b den hden ps j i bn bd bm hj hb hhit ?_ ?_
  · intro q hq
    obtain ⟨k, hk, rfl⟩ := List.getElem_of_mem hq
    simp only [List.length_take] at hk
    rw [List.getElem_take]
    exact hother k (by omega) (by omega)
  · intro q hq
    obtain ⟨k, hk, rfl⟩ := List.getElem_of_mem hq
    simp only [List.length_drop] at hk
    rw [List.getElem_drop]
    exact hother (j + 1 + k) (by omega) (by omega)

/-! ## a table of rows of equal sum -/

theorem pmv_take (c q : List Nat) (a b : Nat) (h : c.length ≤ q.length) :
    pmv c q a b = pmv c (q.take c.length) a b := by
  unfold pmv RunLength.patternMatchVariance
  have h1 : ¬ q.length < c.length := by omega
  have h2 : ¬ (q.take c.length).length < c.length := by simp; omega
  simp only [h1, h2, if_false, List.take_take, Nat.min_self]

/-- a table whose rows, cut to `len` entries, are pairwise distinct, of positive widths with the same sum `M` -/
structure PatTable (P : List (List Nat)) (len M : Nat) : Prop where
  nodup : (P.map (List.take len)).Nodup
  shape : ∀ q ∈ P, len ≤ q.length ∧ sumL (q.take len) = M ∧ ∀ w ∈ q.take len, 0 < w
  lenPos : 0 < len

theorem PatTable.Mpos {P len M} (h : PatTable P len M) (j : Nat) (hj : j < P.length) : 0 < M := by
  have hq := h.shape P[j] (List.getElem_mem hj)
  rw [← hq.2.1]
  apply sumL_pos _ _ hq.2.2
  intro e
  have h1 : (P[j].take len).length = len := by rw [List.length_take]; exact Nat.min_eq_left hq.1
  rw [e] at h1
  have := h.lenPos
  simp at h1
  omega

theorem nodup_getElem_ne {α} (l : List α) (h : l.Nodup) (k j : Nat) (hk : k < l.length) (hj : j < l.length)
    (hne : k ≠ j) : l[k] ≠ l[j] := by
  have hp := List.pairwise_iff_getElem.mp h
  rcases Nat.lt_or_gt_of_ne hne with hlt | hlt
  · exact hp k j hk hj hlt
  · exact fun e => hp j k hj hk hlt e.symm

theorem bestGen_table (tie : Bool) {P : List (List Nat)} {len M : Nat} (hP : PatTable P len M) (j : Nat)
    (hj : j < P.length) (s : Nat) (hs : 0 < s) (a b bn bd : Nat) (hbn : 0 < bn) (bm : Option Nat) (i : Nat) :
    bestGen tie exactDom ((P[j].take len).map (s * ·)) a b P i (some (bn, bd)) bm = .ok (some (i + j)) := by
  have hq := hP.shape P[j] (List.getElem_mem hj)
  have hM := hP.Mpos j hj
  have hclen : ((P[j].take len).map (s * ·)).length = len := by simp; omega
  have htl : ∀ q ∈ P, (q.take len).length = len := fun q hqm => by
    have := (hP.shape q hqm).1
    simp; omega
  have hpmv : ∀ q ∈ P, pmv ((P[j].take len).map (s * ·)) q a b = pmv ((P[j].take len).map (s * ·)) (q.take len) a b :=
    fun q hqm => by
      have := pmv_take ((P[j].take len).map (s * ·)) q a b (by rw [hclen]; exact (hP.shape q hqm).1)
      rw [hclen] at this
      exact this
  refine bestGen_pick tie _ a b (sumL (P[j].take len) * (s * sumL (P[j].take len)))
    (by rw [hq.2.1]; exact Nat.mul_pos hM (Nat.mul_pos hs hM)) P j hj i bn bd bm hbn
    (by rw [hpmv _ (List.getElem_mem hj)]; exact pmv_multiple (P[j].take len) s a b hs) ?_
  -- every other row differs from `P[j]` when cut, because the cut table has no duplicates
  intro k hk hne
  have hqs := hP.shape P[k] (List.getElem_mem hk)
  rw [hpmv _ (List.getElem_mem hk)]
  refine pmv_ne (P[j].take len) (P[k].take len) s a b hs
    (by rw [htl _ (List.getElem_mem hk), htl _ (List.getElem_mem hj)]) (by rw [hqs.2.1, hq.2.1])
    (by rw [hq.2.1]; exact hM) (fun e => ?_)
  have := nodup_getElem_ne _ hP.nodup k j (by simpa using hk) (by simpa using hj) hne
  simp only [List.getElem_map] at this
  exact this e.symm

end Gzx.Row128
