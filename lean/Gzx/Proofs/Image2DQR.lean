/-
  QR: `QRCodeReader.moduleSize` / `extractPureBits` on an image that shows a module
  matrix with the QR finder structure (Gzx.Image2D.Shows, Proofs/Image2D.lean).

  Facts of the matrix the code uses:
    * the diagonal through the top-left finder pattern and its separator, modules (i,i) for i = 0..7:
      dark, light, dark, dark, dark, light, dark, light — the five transitions `moduleSize` counts; the walk ends
      on module (7,7) after 7·s pixels, so the module size is `float64(7s)/7.0`;
    * module (0,0) dark: `GetTopLeftOnBit` is the symbol's corner;
    * the last module row has a dark module in some column ≥ 1 (the bottom-left finder): `GetBottomRightOnBit`
      lies in the symbol's last pixel row; if the bottom-right module itself is light the code's "special case"
      (`right = left + (bottom - top)`) recovers the right edge.
  Float64 enters through `FOps`; the accuracy needed is `QRFloatExact o s n` (three equations), which every
  interpretation that is exact on the integers involved satisfies (`ExactOps`, e.g. the integer toy model;
  IEEE binary64 for values below 2^53 — checked on the Go side by the `img2d qrfloat` correspondence).
-/
import Gzx.Proofs.Image2D
namespace Gzx.Image2D
open Gzx Gzx.Det Gzx.Det.Pure

/-- cells `k .. e-1` of the current colour `c`, then cell `e` of the other colour, all inside `width x height`:
    the loop counts one transition; at the fifth it stops on `e`, otherwise it goes on behind it with the colour
    flipped.  The fuel is written `M - k`, so that it follows the position. -/
theorem msLoop_seg {rd : Reader} (width height left top M : Int) (c : Bool) (tr : Int) :
    ∀ (d : Nat) (k e : Int), e = k + d → e < M →
      (∀ j, k ≤ j → j ≤ e → left + j < width ∧ top + j < height) →
      (∀ j, k ≤ j → j < e → rd (left + j) (top + j) = .ok c) →
      rd (left + e) (top + e) = .ok (!c) →
      QR.msLoop rd width height left top (M - k).toNat k c tr =
        if tr + 1 = 5 then .ok e
        else QR.msLoop rd width height left top (M - (e + 1)).toNat (e + 1) (!c) (tr + 1) := by
  intro d
  induction d with
  | zero =>
    intro k e hd heM hlim _ hlast
    obtain rfl : k = e := by omega
    have hfuel : (M - k).toNat = (M - (k + 1)).toNat + 1 := by omega
    rw [hfuel, QR.msLoop]
    have : (c != !c) = true := by cases c <;> rfl
    simp only [hlim k (Int.le_refl _) (Int.le_refl _), and_self, if_true, hlast, bind, Except.bind, this]
  | succ d ih =>
    intro k e hd heM hlim hrun hlast
    have hfuel : (M - k).toNat = (M - (k + 1)).toNat + 1 := by omega
    rw [hfuel, QR.msLoop]
    have : (c != c) = false := by cases c <;> rfl
    simp only [hlim k (Int.le_refl _) (by omega), and_self, if_true, hrun k (Int.le_refl _) (by omega), bind, Except.bind,
      this, Bool.false_eq_true, if_false]
    exact ih (k + 1) e (by omega) heM (fun j h1 h2 => hlim j (by omega) h2)
      (fun j h1 h2 => hrun j (by omega) h2) hlast

/-! ## the finder diagonal -/

/-- colour of module `(i, i)`, `i < 8`, of any QR symbol: finder pattern and separator along the diagonal -/
def finderDiag (i : Nat) : Bool := i != 1 && i != 5 && i != 7

/-- what the QR pure-barcode code uses of an `n x n` module matrix -/
structure QRFinderFacts (n : Nat) (m : Nat → Nat → Bool) : Prop where
  size : 8 ≤ n
  diag : ∀ i, i < 8 → m i i = finderDiag i
  bottomRow : ∃ j, 1 ≤ j ∧ j < n ∧ m j (n - 1) = true

/-- the accuracy needed of float64 for module pitch `s` and dimension `n`: with `moduleSize = float64(7s)/7.0`,
    `Round(float64(n·s)/moduleSize) = n`, `int(moduleSize/2.0) = ⌊s/2⌋`, `int(float64(a)·moduleSize) = a·s` for
    `0 ≤ a < n` -/
structure QRFloatExact {F : Type} (o : FOps F) (s n : Int) : Prop where
  round_dim : o.round (o.div (o.ofInt (n * s)) (QR.msOf o (7 * s))) = n
  half : o.toInt (o.div (QR.msOf o (7 * s)) (o.ofInt 2)) = s / 2
  offs : ∀ a, 0 ≤ a → a < n → o.toInt (o.mul (o.ofInt a) (QR.msOf o (7 * s))) = a * s

/-- an interpretation that is exact on integers (quotients that are integers, products, halves) -/
structure ExactOps {F : Type} (o : FOps F) : Prop where
  div_exact : ∀ a b : Int, 0 < b → o.div (o.ofInt (a * b)) (o.ofInt b) = o.ofInt a
  mul_exact : ∀ a b : Int, o.mul (o.ofInt a) (o.ofInt b) = o.ofInt (a * b)
  toInt_ofInt : ∀ a : Int, o.toInt (o.ofInt a) = a
  round_ofInt : ∀ a : Int, 0 ≤ a → o.round (o.ofInt a) = a
  half_ofInt : ∀ a : Int, 0 ≤ a → o.toInt (o.div (o.ofInt a) (o.ofInt 2)) = a / 2

theorem ExactOps.qrFloatExact {F : Type} {o : FOps F} (h : ExactOps o) (s n : Int) (hs : 1 ≤ s) (hn : 0 ≤ n) :
    QRFloatExact o s n := by
  have hms : QR.msOf o (7 * s) = o.ofInt s := by
    unfold QR.msOf
    rw [Int.mul_comm 7 s]
    exact h.div_exact s 7 (by decide)
  refine ⟨?_, ?_, ?_⟩
  · rw [hms, h.div_exact n s (by omega)]
    exact h.round_ofInt n hn
  · rw [hms]; exact h.half_ofInt s (by omega)
  · intro a _ _
    rw [hms, h.mul_exact, h.toInt_ofInt]

section moduleSize
variable {img : Img} {n : Nat} {m : Nat → Nat → Bool} {s padX padY : Int} {rd : Reader}

/-- colour of diagonal pixel `k` when `a·s ≤ k < b·s` and modules `a..b-1` of the diagonal all have colour `c` -/
theorem diag_colour (h : Shows img n n m s padX padY) (hrd : Reads rd img) (hf : QRFinderFacts n m)
    (a b : Nat) (c : Bool) (hb : b ≤ 8) (hc : ∀ i, i < b → a ≤ i → finderDiag i = c)
    (k : Int) (h1 : (a : Int) * s ≤ k) (h2 : k < (b : Int) * s) :
    (padX + k < img.w ∧ padY + k < img.h) ∧ rd (padX + k) (padY + k) = .ok c := by
  have hs : 0 < s := by have := h.s_pos; omega
  have hn := hf.size
  have e8 : (b : Int) * s ≤ (n : Int) * s := Int.mul_le_mul_of_nonneg_right (by omega) (by omega)
  have ea : 0 ≤ (a : Int) * s := Int.mul_nonneg (by omega) (by omega)
  obtain ⟨hin, hp⟩ := h.symbolPix k k ⟨by omega, by omega⟩ ⟨by omega, by omega⟩
  obtain ⟨i1, i2⟩ := Render.block_range s k a b hs h1 h2
  refine ⟨⟨hin.2.1, hin.2.2.2⟩, ?_⟩
  rw [hrd _ _ hin, hp, hf.diag _ (by omega), hc _ i2 i1]

/-- **the diagonal walk of `QRCodeReader.moduleSize` ends after exactly seven modules** -/
theorem qr_moduleSize_shows {F : Type} (o : FOps F) (h : Shows img n n m s padX padY) (hrd : Reads rd img)
    (hf : QRFinderFacts n m) :
    QR.moduleSize o rd img.w img.h padX padY = .ok (QR.msOf o (7 * s), 7 * s) := by
  have hs := h.s_pos
  have hn := hf.size
  have hX := h.fitX; have hY := h.fitY; have hpx := h.padX_nonneg
  have e8 : (8 : Int) * s ≤ (n : Int) * s := Int.mul_le_mul_of_nonneg_right (by omega) (by omega)
  have hM : (img.w - padX).toNat + 1 = ((((img.w - padX).toNat + 1 : Nat) : Int) - 0).toNat := by omega
  -- from `k` inside modules [a, b) of colour `c` up to the first cell of modules [b, b') of the other colour
  have seg : ∀ (c c' : Bool) (a b b' : Nat) (k tr : Int), (!c) = c' → b' ≤ 8 → b < b' →
      (∀ i, i < b → a ≤ i → finderDiag i = c) → (∀ i, i < b' → b ≤ i → finderDiag i = c') →
      (a : Int) * s ≤ k → k ≤ (b : Int) * s →
      QR.msLoop rd img.w img.h padX padY ((((img.w - padX).toNat + 1 : Nat) : Int) - k).toNat k c tr =
        if tr + 1 = 5 then .ok ((b : Int) * s)
        else QR.msLoop rd img.w img.h padX padY
          ((((img.w - padX).toNat + 1 : Nat) : Int) - ((b : Int) * s + 1)).toNat ((b : Int) * s + 1) c' (tr + 1) := by
    intro c c' a b b' k tr hc hb' hbb hA hB hk hkb
    subst hc
    have hA := diag_colour (rd := rd) h hrd hf a b c (by omega) hA
    have hB := diag_colour (rd := rd) h hrd hf b b' (!c) hb' hB
    obtain ⟨-, eb⟩ := Render.block_bounds s b b' (by omega) hbb
    have e8' : (b' : Int) * s ≤ (8 : Int) * s := Int.mul_le_mul_of_nonneg_right (by omega) (by omega)
    refine msLoop_seg img.w img.h padX padY _ c tr ((b : Int) * s - k).toNat k _ (by omega) (by omega) ?_ ?_ ?_
    · intro j h1 h2
      by_cases hj : j < (b : Int) * s
      · exact (hA j (by omega) hj).1
      · exact (hB j (by omega) (by omega)).1
    · intro j h1 h2
      exact (hA j (by omega) h2).2
    · exact (hB _ (Int.le_refl _) (by omega)).2
  unfold QR.moduleSize
  -- module 0 (dark) | module 1 (light) | modules 2..4 (dark) | module 5 (light) | module 6 (dark), stop on 7
  rw [hM,
    seg true false 0 1 2 0 0 rfl (by decide) (by decide) (by decide) (by decide) (by omega) (by omega), if_neg (by decide),
    seg false true 1 2 5 _ _ rfl (by decide) (by decide) (by decide) (by decide) (by omega) (by omega), if_neg (by decide),
    seg true false 2 5 6 _ _ rfl (by decide) (by decide) (by decide) (by decide) (by omega) (by omega), if_neg (by decide),
    seg false true 5 6 7 _ _ rfl (by decide) (by decide) (by decide) (by decide) (by omega) (by omega), if_neg (by decide),
    seg true false 6 7 8 _ _ rfl (by decide) (by decide) (by decide) (by decide) (by omega) (by omega), if_pos (by decide)]
  simp only [bind, Except.bind, pure, Except.pure]
  have n1 : ¬ (padX + ((7 : Nat) : Int) * s = img.w ∨ padY + ((7 : Nat) : Int) * s = img.h) := by omega
  simp only [n1, if_false]
  rw [show padX + ((7 : Nat) : Int) * s - padX = 7 * s by omega]
  rfl

end moduleSize

/-! ## the last dark module of a row -/

theorem exists_last (p : Nat → Bool) : ∀ (n j : Nat), j < n → p j = true →
    ∃ J, j ≤ J ∧ J < n ∧ p J = true ∧ ∀ j', J < j' → j' < n → p j' = false := by
  intro n
  induction n with
  | zero => intro j hj; omega
  | succ n ih =>
    intro j hj hp
    by_cases hl : p n = true
    · exact ⟨n, by omega, by omega, hl, fun j' a b => by omega⟩
    · have hjn : j < n := Nat.lt_of_le_of_ne (Nat.le_of_lt_succ hj) (fun e => hl (e ▸ hp))
      obtain ⟨J, h1, h2, h3, h4⟩ := ih j hjn hp
      refine ⟨J, h1, Nat.lt_succ_of_lt h2, h3, fun j' a b => ?_⟩
      rcases Nat.lt_or_eq_of_le (Nat.le_of_lt_succ b) with hlt | rfl
      · exact h4 j' a hlt
      · exact Bool.eq_false_iff.mpr hl

section extract
variable {img : Img} {n : Nat} {m : Nat → Nat → Bool} {s padX padY : Int} {rd : Reader}

/-- for every float interpretation that is accurate enough for this pitch and dimension -/
theorem qr_extract_shows {F : Type} (o : FOps F) (h : Shows img n n m s padX padY) (hrd : Reads rd img)
    (hf : QRFinderFacts n m) (ho : QRFloatExact o s n) :
    QR.extractPureBits o rd img = .ok { w := n, h := n, rows := matrixRows n n m } := by
  have hs := h.s_pos
  have hn := hf.size
  have hX := h.fitX; have hY := h.fitY; have hpx := h.padX_nonneg; have hpy := h.padY_nonneg
  obtain ⟨j, hj1, hjn, hjd⟩ := hf.bottomRow
  obtain ⟨J, hJ1, hJn, hJd, hJlast⟩ := exists_last (fun j => m j (n - 1)) n j hjn hjd
  have e2 : (2 : Int) * s ≤ ((J : Int) + 1) * s := Int.mul_le_mul_of_nonneg_right (by omega) (by omega)
  have eJ : ((J : Int) + 1) * s ≤ (n : Int) * s := Int.mul_le_mul_of_nonneg_right (by omega) (by omega)
  have e8 : (8 : Int) * s ≤ (n : Int) * s := Int.mul_le_mul_of_nonneg_right (by omega) (by omega)
  have h00 : m 0 0 = true := by rw [hf.diag 0 (by omega)]; rfl
  unfold QR.extractPureBits
  rw [topLeft_shows h (by omega) (by omega) h00,
    bottomRight_shows_col h (by omega) J hJn hJd (fun j' a b => hJlast j' a b)]
  simp only [qr_moduleSize_shows o h hrd hf, bind, Except.bind]
  have sane : ¬ (padX ≥ padX + ((J : Int) + 1) * s - 1 ∨ padY ≥ padY + (n : Int) * s - 1) := by omega
  simp only [sane, if_false]
  -- the right edge, in both cases
  have hright : (if padY + (n : Int) * s - 1 - padY ≠ padX + ((J : Int) + 1) * s - 1 - padX then
        (if padX + (padY + (n : Int) * s - 1 - padY) ≥ img.w then (.error .notFound : Res Int)
          else .ok (padX + (padY + (n : Int) * s - 1 - padY)))
      else .ok (padX + ((J : Int) + 1) * s - 1)) = .ok (padX + (n : Int) * s - 1) := by
    split
    · rw [if_neg (by omega)]
      congr 1; omega
    · congr 1; omega
  rw [hright]
  simp only []
  have d1 : padX + (n : Int) * s - 1 - padX + 1 = (n : Int) * s := by omega
  have d2 : padY + (n : Int) * s - 1 - padY + 1 = (n : Int) * s := by omega
  rw [d1, d2]
  simp only [ho.round_dim, ho.half]
  rw [if_neg (by omega), if_neg (fun hne => hne rfl), ho.offs ((n : Int) - 1) (by omega) (by omega)]
  have far1 : ¬ (padX + s / 2 + ((n : Int) - 1) * s - (padX + (n : Int) * s - 1) > 0) := by
    rw [Int.sub_mul]; omega
  have far2 : ¬ (padY + s / 2 + ((n : Int) - 1) * s - (padY + (n : Int) * s - 1) > 0) := by
    rw [Int.sub_mul]; omega
  simp only [QR.unNudge, far1, far2, if_false]
  exact readOff_centres h hrd (by omega) (by omega) _ _
    (fun i hi => by rw [ho.offs i (by omega) (by omega)]) (fun k hk => by rw [ho.offs k (by omega) (by omega)])

end extract

end Gzx.Image2D
