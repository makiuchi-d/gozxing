/-
  Chien search of the model (`chien`, `findErrorLocations`) on the true locator: it returns exactly the error
  locators, each once.  Helper lemmas for Properties/C04.lean.
-/
import Gzx.Proofs.Locator
namespace Gzx.Proofs.Chien
open Gzx Gzx.GF Gzx.RS Gzx.Ref.GF Gzx.Proofs.GF Gzx.Proofs.Poly Gzx.Proofs.Conv Gzx.Proofs.Coef
  Gzx.Proofs.MinDist Gzx.Proofs.KeyEq Gzx.Proofs.Locator

/-- non-zero field elements -/
def NZ (size : Nat) (l : List Nat) : Prop := ∀ x, x ∈ l → x ≠ 0 ∧ x < size

section F
variable {F : GF} (hF : FieldOK F)
include hF

/-- the loop collects the inverses of the roots among the candidates, in order, until `n` are found -/
theorem chien_eq (sigma : List Nat) (hs : WF F.size sigma) (n : Nat) : ∀ (cands acc : List Nat),
    NZ F.size cands →
    chien F sigma n cands acc =
      .ok (acc ++ ((cands.filter (fun i => evalH F.prim i sigma == 0)).take (n - acc.length)).map (invOf F))
  | [], acc, _ => by simp [chien]
  | i :: is, acc, hc => by
    have hi := hc i (by simp)
    have hc' : ∀ j, j ∈ is → j ≠ 0 ∧ j < F.size := fun j hj => hc j (List.mem_cons_of_mem _ hj)
    unfold chien
    by_cases hfull : acc.length ≥ n
    · rw [if_pos hfull, Nat.sub_eq_zero_of_le hfull]; simp
    · rw [if_neg hfull, evaluateAt_ok hF sigma hs.2.ne_nil hs.1 i hi.2]
      simp only [bind, Except.bind]
      by_cases hv : evalH F.prim i sigma = 0
      · obtain ⟨k, hk⟩ : ∃ k, n - acc.length = k + 1 := ⟨n - acc.length - 1, by omega⟩
        rw [if_pos hv, (invOf_spec hF i hi.1 hi.2).1]
        simp only
        rw [chien_eq sigma hs n is (acc ++ [invOf F i]) hc', List.filter_cons_of_pos (by simp [hv]), hk,
          List.take_succ_cons, List.length_append, List.length_singleton,
          show n - (acc.length + 1) = k by omega]
        simp
      · rw [if_neg hv, List.filter_cons_of_neg (by simp [hv])]
        exact chien_eq sigma hs n is acc hc'

/-- `findErrorLocations` on (a polynomial with the coefficients of) the true locator returns the error
    locators: no duplicates, exactly the locators of `L` -/
theorem findErrorLocations_ok (L : List (Nat × Nat)) (hE : ErrSet F.prim F.size L (invOf F))
    (hs1 : 1 ≤ L.length) (sigma : List Nat) (hswf : WF F.size sigma) (hslen : sigma.length = L.length + 1)
    (hscoef : ∀ m, coef sigma m = coef (lamList F.prim L) m) :
    ∃ locs, findErrorLocations F sigma = .ok locs ∧ locs.Nodup ∧ (∀ x, x ∈ locs ↔ ∃ p, p ∈ L ∧ p.2 = x) := by
  have ok := hF.2
  have hsz := size_pos hF
  have hval : ∀ i, i < F.size → evalH F.prim i sigma = lamVal F.prim L i := by
    intro i hi
    rw [evalH_congr_coef ok i hi sigma _ hswf.1 (lamList_inR ok L) hscoef, evalH_lamList ok i hi L hE.inr]
  unfold findErrorLocations
  by_cases h1 : degree sigma = 1
  · -- one error: the shortcut returns the coefficient of x
    have hL1 : L.length = 1 := by unfold degree at h1; omega
    obtain ⟨p, rfl⟩ : ∃ p, L = [p] := by
      cases L with
      | nil => simp at hL1
      | cons p t =>
        cases t with
        | nil => exact ⟨p, rfl⟩
        | cons q t => simp at hL1
    have hp := hE.inr p (by simp)
    have hc1 : coef sigma 1 = p.2 := by
      rw [hscoef 1]
      show coef (mulLin F.prim p.2 [1]) 1 = p.2
      rw [coef_mulLin ok]
      simp only [coef, List.length_nil, ge_iff_le, Nat.le_refl, if_true, Nat.sub_self]
      simp [gmul_one_right ok p.2 hp.2]
    simp only [h1, if_true, getCoefficient_eq_coef sigma 1 (by omega), hc1, liftD, bind, Except.bind]
    refine ⟨[p.2], rfl, by simp, ?_⟩
    intro x
    constructor
    · intro hx; simp at hx; exact ⟨p, by simp, hx.symm⟩
    · intro ⟨q, hq, hqx⟩; simp at hq; rw [← hqx, hq]; simp
  · simp only [h1, if_false]
    have hdeg : degree sigma = L.length := by unfold degree; omega
    have hcands : ∀ i, i ∈ List.range' 1 (F.size - 1) → i ≠ 0 ∧ i < F.size := by
      intro i hi
      have := List.mem_range'_1.1 hi
      constructor <;> omega
    obtain ⟨roots, hroots⟩ : ∃ roots, roots = (List.range' 1 (F.size - 1)).filter (fun i => evalH F.prim i sigma == 0) := ⟨_, rfl⟩
    have hroot_iff : ∀ i, i ∈ roots ↔
        ∃ p, p ∈ L ∧ i = invOf F p.2 := by
      intro i
      rw [hroots, List.mem_filter]
      constructor
      · intro ⟨hi, hr⟩
        have hib := hcands i hi
        have hr' : evalH F.prim i sigma = 0 := by simpa using hr
        rw [hval i hib.2] at hr'
        obtain ⟨p, hp, hpi⟩ := (lamVal_eq_zero_iff ok i hib.2 L hE.inr).1 hr'
        refine ⟨p, hp, ?_⟩
        have hinv := hE.inv p hp
        apply inv_unique ok _ _ p.2 hib.2 hinv.1 (hE.inr p hp).2
        · rw [gmul_comm ok _ _ hib.2 (hE.inr p hp).2]; exact hpi
        · rw [gmul_comm ok _ _ hinv.1 (hE.inr p hp).2]; exact hinv.2
      · intro ⟨p, hp, hi⟩
        have hinv := hE.inv p hp
        have hne : invOf F p.2 ≠ 0 := by
          intro h0
          have := hinv.2
          rw [h0, gmul_zero_right ok] at this
          exact absurd this (by decide)
        subst hi
        refine ⟨List.mem_range'_1.2 (by omega), ?_⟩
        rw [hval _ hinv.1, (lamVal_eq_zero_iff ok _ hinv.1 L hE.inr).2 ⟨p, hp, hinv.2⟩]
        rfl
    have hrnd : roots.Nodup := hroots ▸ List.Pairwise.filter _ (List.nodup_range' 1)
    obtain ⟨hnd0, _⟩ := inv_nodup ok L (invOf F) hE
    have hnd := (List.nodup_cons.1 hnd0).2
    have hlen1 : roots.length ≤ L.length := by
      have := List.Nodup.length_le_of_subset hrnd (l₂ := L.map (fun p => invOf F p.2)) (by
        intro i hi
        obtain ⟨p, hp, rfl⟩ := (hroot_iff i).1 hi
        exact List.mem_map.2 ⟨p, hp, rfl⟩)
      simpa using this
    have hlen2 : L.length ≤ roots.length := by
      have := List.Nodup.length_le_of_subset hnd
        (l₂ := roots) (by
        intro i hi
        obtain ⟨p, hp, rfl⟩ := List.mem_map.1 hi
        exact (hroot_iff _).2 ⟨p, hp, rfl⟩)
      simpa using this
    rw [chien_eq hF sigma hswf (degree sigma) _ [] hcands, ← hroots,
      List.take_of_length_le (show roots.length ≤ degree sigma - ([] : List Nat).length by rw [hdeg]; exact hlen1)]
    simp only [liftD, bind, Except.bind, List.nil_append, List.length_map]
    have hcnt : ¬ roots.length ≠ degree sigma := by
      rw [hdeg]; omega
    simp only [hcnt, if_false]
    refine ⟨_, rfl, ?_, ?_⟩
    · -- no duplicates: invOf is injective on the roots
      rw [List.nodup_iff_pairwise_ne, List.pairwise_map]
      apply (List.nodup_iff_pairwise_ne.1 hrnd).imp_of_mem
      intro i j hi hj hne heq
      apply hne
      obtain ⟨p, hp, rfl⟩ := (hroot_iff i).1 hi
      obtain ⟨q, hq, rfl⟩ := (hroot_iff j).1 hj
      rw [invOf_invOf hF p.2 (hE.xnz p hp) (hE.inr p hp).2, invOf_invOf hF q.2 (hE.xnz q hq) (hE.inr q hq).2] at heq
      rw [heq]
    · intro x
      rw [List.mem_map]
      constructor
      · intro ⟨i, hi, hix⟩
        obtain ⟨p, hp, rfl⟩ := (hroot_iff i).1 hi
        rw [invOf_invOf hF p.2 (hE.xnz p hp) (hE.inr p hp).2] at hix
        exact ⟨p, hp, hix⟩
      · intro ⟨p, hp, hpx⟩
        exact ⟨invOf F p.2, (hroot_iff _).2 ⟨p, hp, rfl⟩, by
          rw [invOf_invOf hF p.2 (hE.xnz p hp) (hE.inr p hp).2, hpx]⟩

end F
end Gzx.Proofs.Chien
