/-
  First fit in a list: looking the capacity of the row found up again finds the same row.  Used for both models of
  `SymbolInfo_Lookup` (C13's `lookupLoop`, C02's `DMHighLevel.lookup`).
  First fit by counting up (`firstFrom`, the shape of the version loops of the QR encoder): what it returns, and that
  it is `find?` over the index list (Proofs/QRVersionChoice.lean, Properties/C13.lean).
-/
namespace Gzx

/-- rows before the first fit for `n` are inadmissible or too small for `n`, hence too small for the capacity of the
    row found -/
theorem find?_firstFit_idem {α : Type} (adm : α → Bool) (cap : α → Nat) {n : Nat} {s : α} :
    ∀ {l : List α}, l.find? (fun x => adm x && decide (n ≤ cap x)) = some s →
      l.find? (fun x => adm x && decide (cap s ≤ cap x)) = some s
  | [], h => by cases h
  | a :: rest, h => by
    have hs := List.find?_some h
    rw [Bool.and_eq_true, decide_eq_true_eq] at hs
    rw [List.find?_cons] at h ⊢
    cases hp : (adm a && decide (n ≤ cap a)) with
    | true =>
      rw [hp] at h
      cases h
      rw [Bool.and_eq_true] at hp
      simp [hp.1]
    | false =>
      rw [hp] at h
      have : (adm a && decide (cap s ≤ cap a)) = false := by
        cases hadm : adm a
        · rfl
        · rw [hadm, Bool.true_and, decide_eq_false_iff_not] at hp
          simp only [Bool.true_and, decide_eq_false_iff_not]
          omega
      rw [this]
      exact find?_firstFit_idem adm cap h

/-! ## first index satisfying a predicate, shaped like a Go `for cur := c; …; cur++` loop with `f` rounds -/

def firstFrom (P : Nat → Bool) : Nat → Nat → Option Nat
  | 0, _ => none
  | f + 1, cur => if P cur then some cur else firstFrom P f (cur + 1)

theorem firstFrom_some {P : Nat → Bool} {f c v : Nat} :
    firstFrom P f c = some v ↔ (c ≤ v ∧ v < c + f ∧ P v = true ∧ ∀ u, c ≤ u → u < v → P u = false) := by
  induction f generalizing c with
  | zero => simp [firstFrom]; omega
  | succ f ih =>
    unfold firstFrom
    by_cases hp : P c = true
    · simp only [hp, if_true, Option.some.injEq]
      constructor
      · rintro rfl
        exact ⟨Nat.le_refl _, by omega, hp, fun u h1 h2 => by omega⟩
      · rintro ⟨h1, _, _, h4⟩
        by_cases hcv : c = v
        · exact hcv
        · have := h4 c (Nat.le_refl _) (by omega)
          rw [hp] at this; cases this
    · have hp' : P c = false := by simpa using hp
      simp only [hp', Bool.false_eq_true, if_false]
      rw [ih]
      constructor
      · rintro ⟨h1, h2, h3, h4⟩
        refine ⟨by omega, by omega, h3, ?_⟩
        intro u hu1 hu2
        by_cases huc : u = c
        · rw [huc]; exact hp'
        · exact h4 u (by omega) hu2
      · rintro ⟨h1, h2, h3, h4⟩
        have hne : c ≠ v := by
          intro h; rw [h] at hp'; rw [hp'] at h3; cases h3
        exact ⟨by omega, by omega, h3, fun u hu1 hu2 => h4 u (by omega) hu2⟩

theorem firstFrom_none {P : Nat → Bool} {f c : Nat} :
    firstFrom P f c = none ↔ ∀ u, c ≤ u → u < c + f → P u = false := by
  induction f generalizing c with
  | zero => simp [firstFrom]; intro u h1 h2; omega
  | succ f ih =>
    unfold firstFrom
    by_cases hp : P c = true
    · simp only [hp, if_true]
      constructor
      · intro h; cases h
      · intro h
        have := h c (Nat.le_refl _) (by omega)
        rw [hp] at this; cases this
    · have hp' : P c = false := by simpa using hp
      simp only [hp', Bool.false_eq_true, if_false]
      rw [ih]
      constructor
      · intro h u hu1 hu2
        by_cases huc : u = c
        · rw [huc]; exact hp'
        · exact h u (by omega) (by omega)
      · intro h u hu1 hu2
        exact h u (by omega) (by omega)

theorem firstFrom_eq_find (P : Nat → Bool) (f c : Nat) :
    firstFrom P f c = ((List.range f).map (· + c)).find? P := by
  induction f generalizing c with
  | zero => rfl
  | succ f ih =>
    unfold firstFrom
    rw [List.range_succ_eq_map, List.map_cons, List.find?_cons, Nat.zero_add, ih]
    have : (List.map (fun x => x + c) (List.map Nat.succ (List.range f))) = List.map (fun x => x + (c + 1)) (List.range f) := by
      rw [List.map_map]; apply List.map_congr_left; intro a _; simp; omega
    rw [this]
    cases P c <;> rfl

end Gzx
