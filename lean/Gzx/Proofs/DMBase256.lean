/-
  C02: Base-256 segments — the decoder on what the encoder writes (length field + 255-state randomisation),
  and a whole Base-256 encoder call (`b256_call_reads`, no prefix; `b256_step_inv` behind a prefix that decodes).
-/
import Gzx.Proofs.DMInvariant
import Gzx.Proofs.DMHandlers
import Gzx.Proofs.Sat
namespace Gzx.DMHighLevel
open Gzx.Det (Sat NoFault)

def Acc.push256All (a : Acc) : List Nat → Acc
  | [] => a
  | c :: cs => (a.push256 c).push256All cs

theorem Acc.push256All_rev (a : Acc) (cs : List Nat) : (a.push256All cs).rev.reverse = a.rev.reverse ++ cs := by
  induction cs generalizing a with
  | nil => simp [Acc.push256All]
  | cons c cs ih => simp [Acc.push256All, ih, Acc.push256]

theorem Acc.push256All_pend (a : Acc) (cs : List Nat) : (a.push256All cs).pend = a.pend := by
  induction cs generalizing a with
  | nil => rfl
  | cons c cs ih => simp [Acc.push256All, ih, Acc.push256]

theorem Acc.push256All_trailer (a : Acc) (cs : List Nat) : (a.push256All cs).trailer = a.trailer := by
  induction cs generalizing a with
  | nil => rfl
  | cons c cs ih => simp [Acc.push256All, ih, Acc.push256]

theorem rand255All_length (xs : List Nat) (p : Nat) : (rand255All xs p).length = xs.length := by
  induction xs generalizing p with
  | nil => rfl
  | cons x xs ih => simp [rand255All, ih]

theorem rand255All_append (xs ys : List Nat) (p : Nat) :
    rand255All (xs ++ ys) p = rand255All xs p ++ rand255All ys (p + xs.length) := by
  induction xs generalizing p with
  | nil => simp [rand255All]
  | cons x xs ih =>
    simp only [List.cons_append, rand255All, ih, List.length_cons]
    congr 3; omega

theorem b256Data_rand (data suf : List Nat) (pos : Nat) (a : Acc) (hd : ∀ x ∈ data, x < 256) :
    b256Data data.length (rand255All data pos ++ suf) pos a = .ok (a.push256All data) := by
  induction data generalizing pos a with
  | nil => simp [b256Data, Acc.push256All]
  | cons x xs ih =>
    have hx : x < 256 := hd x (by simp)
    simp only [List.length_cons, rand255All, List.cons_append, b256Data, unrand255_rand255 x pos hx,
      Acc.push256All]
    exact ih (pos + 1) (a.push256 x) (fun y hy => hd y (by simp [hy]))

/-- `base256_length_inv`, one-byte length field (1..249 data bytes) -/
theorem b256Seg_len1 (data suf : List Nat) (off : Nat) (a : Acc) (hd : ∀ x ∈ data, x < 256)
    (h1 : 1 ≤ data.length) (h2 : data.length ≤ 249) :
    b256Seg (rand255All (data.length :: data) (off + 1) ++ suf) off a
      = .ok (a.push256All data, 1 + data.length) := by
  simp only [rand255All, List.cons_append, b256Seg, unrand255_rand255 data.length (off + 1) (by omega)]
  have n0 : ¬ data.length = 0 := by omega
  have lt : data.length < 250 := by omega
  simp only [n0, lt, if_false, if_true]
  rw [b256Data_rand data suf (off + 1 + 1) a hd]

/-- `base256_length_inv`, two-byte length field (250..1555 data bytes) -/
theorem b256Seg_len2 (data suf : List Nat) (off : Nat) (a : Acc) (hd : ∀ x ∈ data, x < 256)
    (h1 : 250 ≤ data.length) (h2 : data.length ≤ 1555) :
    b256Seg (rand255All ((data.length / 250 + 249) :: (data.length % 250) :: data) (off + 1) ++ suf) off a
      = .ok (a.push256All data, 2 + data.length) := by
  simp only [rand255All, List.cons_append, b256Seg,
    unrand255_rand255 (data.length / 250 + 249) (off + 1) (by omega),
    unrand255_rand255 (data.length % 250) (off + 1 + 1) (by omega)]
  have n0 : ¬ data.length / 250 + 249 = 0 := by omega
  have lt : ¬ data.length / 250 + 249 < 250 := by omega
  have hc : 250 * (data.length / 250 + 249 - 249) + data.length % 250 = data.length := by omega
  simp only [n0, lt, if_false, hc]
  rw [b256Data_rand data suf (off + 1 + 1 + 1) a hd]

/-- `base256_length_inv`, length 0 = "until the end of the symbol" (nothing may follow) -/
theorem b256Seg_toEnd (data : List Nat) (off : Nat) (a : Acc) (hd : ∀ x ∈ data, x < 256) :
    b256Seg (rand255All (0 :: data) (off + 1)) off a = .ok (a.push256All data, 1 + data.length) := by
  simp only [rand255All, b256Seg, unrand255_rand255 0 (off + 1) (by omega), if_true, rand255All_length]
  have := b256Data_rand data [] (off + 1 + 1) a hd
  simp only [List.append_nil] at this
  rw [this]

theorem decLoop_231 (T : Tables) (rest : List Nat) (off : Nat) (a : Acc) (hne : rest.isEmpty = false) :
    decLoop T (231 :: rest) 0 false off a =
      match b256Seg rest (off + 1) a with
      | .ok (a', n) => decLoop T rest n false (off + 1) a'
      | .error e => .error e := by
  simp only [decLoop, show ¬ (231 : Nat) = 0 by decide, show ¬ (231 : Nat) ≤ 128 by decide,
    show ¬ (231 : Nat) = 129 by decide, show ¬ (231 : Nat) ≤ 229 by decide,
    show ¬ (231 : Nat) = 230 by decide, if_false, if_true, hne, Bool.false_eq_true]
  rfl

/-- A Base-256 segment with an explicit length field, latch included; its codewords depend on the offset. -/
theorem reads_b256 (T : Tables) (off : Nat) (hdr data : List Nat) (hd : ∀ x ∈ data, x < 256)
    (hh : (hdr = [data.length] ∧ 1 ≤ data.length ∧ data.length ≤ 249) ∨
          (hdr = [data.length / 250 + 249, data.length % 250] ∧ 250 ≤ data.length ∧ data.length ≤ 1555)) :
    Reads T (fun _ => True) off (231 :: rand255All (hdr ++ data) (off + 2)) (fun a => a.push256All data) := by
  intro suf a _
  have hne : (rand255All (hdr ++ data) (off + 2) ++ suf).isEmpty = false := by
    rcases hh with ⟨rfl, _⟩ | ⟨rfl, _⟩ <;> simp [rand255All]
  rw [List.cons_append, decLoop_231 T _ off a hne]
  rcases hh with ⟨rfl, h1, h2⟩ | ⟨rfl, h1, h2⟩
  · rw [List.singleton_append, b256Seg_len1 data suf (off + 1) a hd h1 h2]
    simp only
    rw [show 1 + data.length = (rand255All (data.length :: data) (off + 1 + 1)).length by
      rw [rand255All_length, List.length_cons]; omega, decLoop_skip]
    simp only [List.length_cons, rand255All_length]
    rw [show off + 1 + (data.length + 1) = off + (data.length + 1 + 1) by omega]
  · rw [List.cons_append, List.cons_append, List.nil_append, b256Seg_len2 data suf (off + 1) a hd h1 h2]
    simp only
    rw [show 2 + data.length =
        (rand255All ((data.length / 250 + 249) :: (data.length % 250) :: data) (off + 1 + 1)).length by
      rw [rand255All_length, List.length_cons, List.length_cons]; omega, decLoop_skip]
    simp only [List.length_cons, rand255All_length]
    rw [show off + 1 + (data.length + 1 + 1) = off + (data.length + 1 + 1 + 1) by omega]

/-- A Base-256 segment with length 0 runs to the end of the symbol: nothing may follow. -/
theorem reads_b256_toEnd (T : Tables) (off : Nat) (data : List Nat) (hd : ∀ x ∈ data, x < 256) :
    Reads T (fun s => s = []) off (231 :: rand255All (0 :: data) (off + 2)) (fun a => a.push256All data) := by
  intro suf a hs
  subst hs
  have hne : (rand255All (0 :: data) (off + 2)).isEmpty = false := by simp [rand255All]
  rw [List.append_nil, decLoop_231 T _ off a hne, b256Seg_toEnd data (off + 1) a hd]
  simp only
  have := decLoop_skip T (rand255All (0 :: data) (off + 1 + 1)) [] false (off + 1) (a.push256All data)
  rw [List.append_nil, rand255All_length, List.length_cons] at this
  rw [show 1 + data.length = data.length + 1 by omega, this]
  simp [decLoop]

theorem SegReads.of_push256All {T : Tables} {K : List Nat → Prop} {off b : Nat} {ws data : List Nat}
    (h : Reads T K off (b :: ws) (fun a => a.push256All data)) : SegReads T K off b ws data :=
  ⟨_, h, fun a => ⟨Acc.push256All_rev a data, fun h0 => by rw [Acc.push256All_pend, h0], Acc.push256All_trailer a data⟩⟩

/-! ## the encoder side -/

/-- the Base-256 loop never fails and collects exactly the characters it steps over -/
theorem b256Loop_sat (la : LookAhead) :
    ∀ (fuel : Nat) (c : Ctx) (data0 : List Nat), c.pos ≤ c.total → c.remaining ≤ fuel →
      Sat NoFault (fun r => r.1.cw = c.cw ∧ SameFrame c r.1 ∧ c.pos ≤ r.1.pos ∧ r.1.pos ≤ r.1.total ∧
          r.2 = data0 ++ (c.msg.drop c.pos).take (r.1.pos - c.pos) ∧
          ((r.1.newEnc = c.newEnc ∧ r.1.hasMore = false) ∨ r.1.newEnc = some ASCII) ∧
          (c.hasMore = true → c.pos < r.1.pos))
        (b256Loop la fuel c data0) := by
  intro fuel
  induction fuel with
  | zero =>
    intro c data0 hle hr
    have hm : c.hasMore = false := by
      simp only [Ctx.remaining] at hr
      rw [hasMore_false_iff]; omega
    simp only [b256Loop, hm, Bool.false_eq_true, if_false]
    exact ⟨rfl, ⟨rfl, rfl, rfl, rfl⟩, Nat.le_refl _, hle, by simp, Or.inl ⟨rfl, hm⟩, by simp⟩
  | succ n ih =>
    intro c data0 hle hr
    simp only [b256Loop]
    by_cases hm : c.hasMore = true
    · simp only [hm, Bool.not_true, Bool.false_eq_true, if_false]
      obtain ⟨ch, hc, hget⟩ := hasMore_cur hm
      have hdrop := drop_eq_cons_of_getElem? hget
      have hm' : c.pos < c.total := (hasMore_iff c).mp hm
      have hle' : ({ c with pos := c.pos + 1 } : Ctx).pos ≤ ({ c with pos := c.pos + 1 } : Ctx).total := by
        simp only [Ctx.total] at hm' ⊢; omega
      rw [hc]
      simp only [bind, Except.bind]
      refine Sat.ite (fun _ => ?_) (fun _ => ?_)
      · -- look-ahead leaves Base 256
        refine ⟨rfl, ⟨rfl, rfl, rfl, rfl⟩, Nat.le_succ c.pos, hle', ?_, Or.inr rfl, fun _ => Nat.lt_succ_self c.pos⟩
        show data0 ++ [ch] = data0 ++ (c.msg.drop c.pos).take (c.pos + 1 - c.pos)
        rw [hdrop, show c.pos + 1 - c.pos = 1 by omega]
        rfl
      · refine (ih { c with pos := c.pos + 1 } (data0 ++ [ch]) hle'
          (by simp only [Ctx.remaining, Ctx.total] at hr hm' ⊢; omega)).post
          fun r ⟨hcw, hsf, hp, hpt, hdata, hne, _⟩ => ?_
        simp only at hp hdata
        refine ⟨hcw, ⟨hsf.msg, hsf.cfg, hsf.skip, hsf.sym⟩, by omega, hpt, ?_, hne, fun _ => by omega⟩
        rw [hdata, hdrop, show r.1.pos - c.pos = (r.1.pos - (c.pos + 1)) + 1 by omega, List.take_succ_cons]
        simp
    · simp only [Bool.not_eq_true] at hm
      simp only [hm, Bool.not_false, if_true]
      exact ⟨rfl, ⟨rfl, rfl, rfl, rfl⟩, Nat.le_refl _, hle, by simp, Or.inl ⟨rfl, hm⟩, by simp⟩

/-- state right after the ASCII encoder has written the Base-256 latch -/
def Latched256 (T : Tables) (c : Ctx) (a : Acc) : Prop :=
  ∃ cw0, c.cw = cw0 ++ [231] ∧ DecodesTo T cw0 a ∧ a.rev.reverse = c.msg.take c.pos ∧ a.pend = 0

/-- the whole stream decodes (nothing may follow) and the symbol is exactly full -/
structure Exact (T : Tables) (c : Ctx) (a : Acc) : Prop where
  dec : decLoop T c.cw 0 false 0 {} = .ok a
  text : a.rev.reverse = c.msg.take c.pos
  full : ∃ s, c.sym = some s ∧ s.cap = c.count
  pend : a.pend = 0

theorem take_add_drop_take (l : List Nat) (i k : Nat) :
    l.take i ++ (l.drop i).take k = l.take (i + k) := by
  rw [List.take_add]

/-- A whole call of the Base-256 encoder, entered behind the latch 231 which sits at offset `off` (the codewords
    depend on their position): what it appends is read back as the characters it has consumed — whatever follows
    (explicit length field), or as the end of the stream when the run fills the symbol exactly (length 0); for EVERY
    look-ahead oracle.  Nothing is said about what precedes the latch. -/
theorem b256_call_reads {T : Tables} {syms : List SymbolInfo} {la : LookAhead} {c c' : Ctx} {off : Nat}
    (hoff : c.count = off + 1) (hbytes : ∀ x ∈ c.msg, x < 256) (hle : c.pos ≤ c.total) (hmore : c.hasMore = true)
    (hnew : c.newEnc = none) (h : b256Encode syms la c = .ok c') :
    ∃ ws chars, CallFrame c c' ws chars ∧ c.pos < c'.pos ∧
      ((c'.newEnc = none ∧ c'.hasMore = false) ∨ c'.newEnc = some ASCII) ∧
      (SegReads T (fun _ => True) off 231 ws chars ∨
       (c'.hasMore = false ∧ SegReads T (fun s => s = []) off 231 ws chars ∧ ∃ s, c'.sym = some s ∧ s.cap = c'.count)) := by
  obtain ⟨c1, data, c2, s, hdr, hl, hu, hs, hhdr, rfl⟩ := b256Encode_ok_iff.1 h
  obtain ⟨hcw1, hsf1, hp1, hpt1, hdata, hne1, hprog⟩ := (b256Loop_sat la c.remaining c [] hle (Nat.le_refl _)).of_ok hl
  simp only at hcw1 hsf1 hp1 hpt1 hdata hne1 hprog
  simp only [List.nil_append] at hdata
  obtain ⟨ucw, umsg, upos, ucfg, uskip, unew, _, _, _, _⟩ := update_spec hu
  have hdb : ∀ x ∈ data, x < 256 := by
    intro x hx
    rw [hdata] at hx
    exact hbytes x (List.mem_of_mem_drop (List.mem_of_mem_take hx))
  have hcount2 : c2.count = off + 1 := by
    rw [← hoff]; simp [Ctx.count, ucw, hcw1]
  have hcount1 : c1.count = off + 1 := by
    rw [← hoff]; simp [Ctx.count, hcw1]
  have hmore2 : c2.hasMore = c1.hasMore := by
    unfold Ctx.hasMore Ctx.total; rw [umsg, upos, uskip]
  have hpos2 : c.pos < c2.pos := by rw [upos]; exact hprog hmore
  have hpt2 : c2.pos ≤ c2.total := by simpa [Ctx.total, umsg, upos, uskip] using hpt1
  have htake : c.msg.take c2.pos = c.msg.take c.pos ++ data := by
    rw [hdata, upos, take_add_drop_take]
    congr 1; omega
  have hF : ∀ ws, CallFrame c (c2.writeAll ws) ws data := fun ws =>
    ⟨by simp [Ctx.writeAll, ucw, hcw1], by simp [Ctx.writeAll, umsg, hsf1.msg],
      by simp [Ctx.writeAll, ucfg, hsf1.cfg], by simp [Ctx.writeAll, uskip, hsf1.skip], htake,
      by show c.pos ≤ c2.pos; rw [upos]; exact hp1, hpt2⟩
  have hlen : 1 ≤ data.length := by
    have := hprog hmore
    rw [hdata, List.length_take, List.length_drop]
    have : c1.pos ≤ c.msg.length := by
      have := hpt1; simp only [Ctx.total, hsf1.msg] at this; omega
    omega
  have hnew2 : (c2.newEnc = none ∧ c2.hasMore = false) ∨ c2.newEnc = some ASCII := by
    rw [unew, hmore2]
    rcases hne1 with ⟨h1, h2⟩ | h1
    · exact Or.inl ⟨by rw [h1, hnew], h2⟩
    · exact Or.inr h1
  -- the three shapes of the length field
  unfold b256Header at hhdr
  by_cases hcond : c2.hasMore = true ∨ s.cap - (c1.count + data.length + 1) > 0
  · rw [if_pos hcond] at hhdr
    by_cases h249 : data.length ≤ 249
    · rw [if_pos h249] at hhdr
      cases hhdr
      refine ⟨_, data, hF _, hpos2, hnew2, Or.inl (SegReads.of_push256All ?_)⟩
      rw [hcount2]
      exact reads_b256 T off [data.length] data hdb (Or.inl ⟨rfl, hlen, h249⟩)
    · rw [if_neg h249] at hhdr
      by_cases h1555 : data.length ≤ 1555
      · rw [if_pos h1555] at hhdr
        cases hhdr
        refine ⟨_, data, hF _, hpos2, hnew2, Or.inl (SegReads.of_push256All ?_)⟩
        rw [hcount2]
        exact reads_b256 T off [data.length / 250 + 249, data.length % 250] data hdb
          (Or.inr ⟨rfl, by omega, h1555⟩)
      · rw [if_neg h1555] at hhdr; cases hhdr
  · -- the run fills the symbol: length 0
    rw [if_neg hcond] at hhdr
    cases hhdr
    simp only [not_or, Bool.not_eq_true, gt_iff_lt, Nat.not_lt, Nat.le_zero_eq] at hcond
    obtain ⟨hm2, hfull⟩ := hcond
    refine ⟨_, data, hF _, hpos2, hnew2, Or.inr ⟨hm2, SegReads.of_push256All ?_, s, hs, ?_⟩⟩
    · rw [List.singleton_append, hcount2]
      exact reads_b256_toEnd T off data hdb
    · have hcap : c1.count + data.length + 1 ≤ s.cap := by
        obtain ⟨_, _, _, _, _, _, s', hs', hc, _⟩ := update_spec hu
        rw [hs] at hs'; cases hs'; exact hc
      have e2 : c2.cw.length = off + 1 := hcount2
      simp only [Ctx.writeAll, Ctx.count, List.length_append, rand255All_length, List.length_cons, List.length_nil]
      rw [e2]
      omega

/-- such a call behind a prefix that decodes whatever follows: the invariant again, or the stream ends exactly here -/
theorem b256_post_of_reads {T : Tables} {c c' : Ctx} {a : Acc} {cw0 ws chars : List Nat}
    (hLcw : c.cw = cw0 ++ [231]) (hLdec : DecodesTo T cw0 a) (hLtext : a.rev.reverse = c.msg.take c.pos)
    (hLpend : a.pend = 0) (hF : CallFrame c c' ws chars)
    (hout : SegReads T (fun _ => True) cw0.length 231 ws chars ∨
       (c'.hasMore = false ∧ SegReads T (fun s => s = []) cw0.length 231 ws chars ∧
        ∃ s, c'.sym = some s ∧ s.cap = c'.count)) :
    ∃ a', a'.trailer = a.trailer ∧ (Inv T c' a' ∨ (c'.hasMore = false ∧ Exact T c' a')) := by
  rcases hout with hr | ⟨hm', hr, hfull⟩
  · obtain ⟨a', hd, h1, h2, h3⟩ := hF.behind hLcw hLdec hLtext hLpend hr
    exact ⟨a', h1, Or.inl ⟨decodesTo_iff.2 hd, h2, h3⟩⟩
  · obtain ⟨a', hd, h1, h2, h3⟩ := hF.behind hLcw hLdec hLtext hLpend hr
    have := hd [] rfl
    rw [List.append_nil] at this
    exact ⟨a', h1, Or.inr ⟨hm', ⟨by rw [this]; simp [decLoop], h2, hfull, h3⟩⟩⟩

/-- `dm_encoder_invariant`, Base 256: a whole call of the Base-256 encoder, started right after the latch,
    re-establishes the invariant (explicit length field) or ends the symbol exactly (length 0); for EVERY
    look-ahead oracle. -/
theorem b256_step_inv {T : Tables} {syms : List SymbolInfo} {la : LookAhead} {c c' : Ctx} {a : Acc}
    (hbytes : ∀ x ∈ c.msg, x < 256) (hL : Latched256 T c a) (hle : c.pos ≤ c.total) (hmore : c.hasMore = true)
    (hnew : c.newEnc = none) (h : b256Encode syms la c = .ok c') :
    ∃ a', a'.trailer = a.trailer ∧ c'.msg = c.msg ∧ c'.cfg = c.cfg ∧ c'.skipAtEnd = c.skipAtEnd ∧
      c.pos < c'.pos ∧ c'.pos ≤ c'.total ∧
      ((c'.newEnc = none ∧ c'.hasMore = false) ∨ c'.newEnc = some ASCII) ∧
      (Inv T c' a' ∨ (c'.hasMore = false ∧ Exact T c' a')) := by
  obtain ⟨cw0, hLcw, hLdec, hLtext, hLpend⟩ := hL
  obtain ⟨ws, chars, hF, hpos, hn, hout⟩ :=
    b256_call_reads (T := T) (off := cw0.length) (by simp [Ctx.count, hLcw]) hbytes hle hmore hnew h
  obtain ⟨a', h1, h2⟩ := b256_post_of_reads hLcw hLdec hLtext hLpend hF hout
  exact ⟨a', h1, hF.msg, hF.cfg, hF.skip, hpos, hF.hi, hn, h2⟩

end Gzx.DMHighLevel
