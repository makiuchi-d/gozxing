/-
  C06 — totality of the Data Matrix bit-stream parser model (`Gzx.DMHighLevel.decodeText` /
  `decodeFull`: ASCII, C40, Text, ANSI X12, EDIFACT, Base 256, macros, FNC1, ECI):
  a text or FormatException for EVERY codeword list and every character tables; never a panic.
  Helper lemmas for Properties/C06.lean.
-/
import Gzx.Model.DMHighLevel
import Gzx.Proofs.Sat
namespace Gzx.Proofs.TotalDM
open Gzx Gzx.Det Gzx.DMHighLevel

/-! ## C40 / Text values

The only way a C40/Text value can be negative is the pair (0,0), whose 16-bit value minus one is −1:
Go's truncating division then gives (0, 0, −1).  The −1 is harmless because the two zeros before it
leave the shift state in {0, 1}, where the value is not used as an index. -/

theorem idx_sat {E : Fault → Prop} (tbl : List Nat) (v : Int) (h0 : 0 ≤ v) (hl : v < tbl.length) :
    Sat E (fun _ => True) (idx tbl v) := by
  unfold idx
  rw [if_neg (by omega), List.getElem?_eq_getElem (by omega : v.toNat < tbl.length)]
  trivial

theorem emitUp_shift (st : CState) (c : Int) : (emitUp st c).1.shift = 0 := by
  unfold emitUp; split <;> rfl

/-- the guarded table access `if v < len(tbl) { tbl[v] … } else …` -/
theorem guarded_idx_sat (tbl : List Nat) (v : Int) (h0 : 0 ≤ v) (st : CState) (els : Res (CState × Emit))
    (hels : Sat (Only .format) (fun r => r.1.shift = 0) els) :
    Sat (Only .format) (fun r => r.1.shift = 0) (if v < tbl.length then
      (match idx tbl v with
       | .ok c => .ok (emitUp st c)
       | .error e => .error e) else els) := by
  refine Sat.ite (fun hl => ?_) fun _ => hels
  exact Sat.step _ (idx_sat (E := Only .format) tbl v h0 hl) (fun _ he => he) fun c _ => emitUp_shift st c

/-- One value, in every shift state it can meet: the decoder answers, and the shift state is back to 0, or a shift
    value 0..2 has just selected set 1..3.  The value may be negative only in shift state 0 or 1, where it is not
    used as an index. -/
theorem cValueCore_sat (T : Tables) (text : Bool) (v : Int) (st : CState)
    (h : 0 ≤ v ∨ st.shift = 0 ∨ st.shift = 1) :
    Sat (Only .format) (fun r => r.1.shift = 0 ∨ (v < 3 ∧ r.1.shift = v + 1)) (cValueCore T text v st) := by
  have table : ∀ (tbl : List Nat) (els : Res (CState × Emit)), 0 ≤ v → Sat (Only .format) (fun r => r.1.shift = 0) els →
      Sat (Only .format) (fun r => r.1.shift = 0 ∨ (v < 3 ∧ r.1.shift = v + 1)) (if v < tbl.length then
        (match idx tbl v with
         | .ok c => .ok (emitUp st c)
         | .error e => .error e) else els) := fun tbl els h0 hels =>
    (guarded_idx_sat tbl v h0 st els hels).post fun _ => Or.inl
  unfold cValueCore
  simp only []
  refine Sat.ite (fun s0 => Sat.ite (fun h3 => Sat.ok (Or.inr ⟨h3, rfl⟩)) fun h3 => table _ _ (by omega) (Sat.error rfl))
    fun s0 => Sat.ite (fun s1 => Sat.ok (Or.inl (emitUp_shift st v))) fun s1 => ?_
  have h0 : 0 ≤ v := by omega
  refine Sat.ite (fun _ => table _ _ h0 (Sat.ite (fun _ => Sat.ok rfl) fun _ => Sat.ite (fun _ => Sat.ok rfl) fun _ =>
    Sat.error rfl)) fun _ => Sat.ite (fun _ => ?_) fun _ => Sat.error rfl
  cases text
  · exact Sat.ite (fun h => absurd h (by decide)) fun _ =>
      Sat.ite (fun _ => Sat.ok (Or.inl rfl)) fun _ => Sat.ok (Or.inl rfl)
  · exact Sat.ite (fun _ => table _ _ h0 (Sat.error rfl)) fun h => absurd rfl h

theorem cValue_sat (T : Tables) (text : Bool) (v : Int) (st : CState) (a : Acc)
    (h : 0 ≤ v ∨ st.shift = 0 ∨ st.shift = 1) :
    Sat (Only .format) (fun r => r.1.shift = 0 ∨ (v < 3 ∧ r.1.shift = v + 1)) (cValue T text v st a) := by
  unfold cValue
  exact Sat.step _ (cValueCore_sat T text v st h) (fun _ he => he) fun _ hr => hr

/-- the three values of a codeword pair: all non-negative, or (0, 0, −1): Go's truncating division of the
    16-bit value minus one, which is −1 for the pair (0,0) -/
theorem parseTwoBytes_cases (b1 b2 : Nat) :
    0 ≤ (parseTwoBytes b1 b2).1 ∧ 0 ≤ (parseTwoBytes b1 b2).2.1 ∧
      (0 ≤ (parseTwoBytes b1 b2).2.2 ∨ (parseTwoBytes b1 b2).2.1 = 0) := by
  by_cases hz : b1 = 0 ∧ b2 = 0
  · rw [hz.1, hz.2]; decide
  · unfold parseTwoBytes
    dsimp only
    have hfull : (0 : Int) ≤ (b1 : Int) * 256 + b2 - 1 := by omega
    generalize (b1 : Int) * 256 + b2 - 1 = full at hfull
    rw [Int.tdiv_eq_ediv_of_nonneg hfull]
    have h2 : 0 ≤ full - full / 1600 * 1600 := by omega
    rw [Int.tdiv_eq_ediv_of_nonneg h2]
    exact ⟨by omega, by omega, Or.inl (by omega)⟩

theorem x12Value_sat (v : Int) : Sat (Only .format) (fun _ => True) (x12Value v) := by
  unfold x12Value
  repeat' split
  all_goals first | exact Sat.ok trivial | exact Sat.error rfl

/-! ## segments -/

theorem cSeg_sat (T : Tables) (text : Bool) : ∀ (bs : List Nat) (st : CState) (a : Acc) (n : Nat),
    Sat (Only .format) (fun _ => True) (cSeg T text bs st a n)
  | [], _, _, _ => by unfold cSeg; exact Sat.ok trivial
  | [_], _, _, _ => by unfold cSeg; exact Sat.ok trivial
  | b1 :: b2 :: rest, st, a, n => by
    unfold cSeg
    refine Sat.ite (fun _ => Sat.ok trivial) fun _ => ?_
    obtain ⟨h1, h2, h3⟩ := parseTwoBytes_cases b1 b2
    generalize parseTwoBytes b1 b2 = p at h1 h2 h3 ⊢
    obtain ⟨c1, c2, c3⟩ := p
    simp only [] at h1 h2 h3 ⊢
    refine Sat.step _ (cValue_sat T text c1 st a (Or.inl h1)) (fun _ he => he) fun ⟨st1, a1⟩ _ => ?_
    simp only []
    refine Sat.step _ (cValue_sat T text c2 st1 a1 (Or.inl h2)) (fun _ he => he) fun ⟨st2, a2⟩ hs2 => ?_
    simp only []
    -- after the value 0 the shift state is 0 or 1, so a third value −1 is not used as an index
    have h3' : 0 ≤ c3 ∨ st2.shift = 0 ∨ st2.shift = 1 := by
      simp only [] at hs2
      omega
    exact Sat.step _ (cValue_sat T text c3 st2 a2 h3') (fun _ he => he) fun ⟨st3, a3⟩ _ => cSeg_sat T text rest _ _ _

theorem x12Seg_sat : ∀ (bs : List Nat) (a : Acc) (n : Nat), Sat (Only .format) (fun _ => True) (x12Seg bs a n)
  | [], _, _ => by unfold x12Seg; exact Sat.ok trivial
  | [_], _, _ => by unfold x12Seg; exact Sat.ok trivial
  | b1 :: b2 :: rest, a, n => by
    unfold x12Seg
    refine Sat.ite (fun _ => Sat.ok trivial) fun _ => ?_
    generalize parseTwoBytes b1 b2 = p
    obtain ⟨c1, c2, c3⟩ := p
    simp only []
    exact Sat.step _ (x12Value_sat c1) (fun _ he => he) fun x1 _ => Sat.step _ (x12Value_sat c2) (fun _ he => he)
      fun x2 _ => Sat.step _ (x12Value_sat c3) (fun _ he => he) fun x3 _ => x12Seg_sat rest _ _

theorem b256Data_sat : ∀ (k : Nat) (bs : List Nat) (pos : Nat) (a : Acc),
    Sat (Only .format) (fun _ => True) (b256Data k bs pos a)
  | 0, _, _, _ => by unfold b256Data; exact Sat.ok trivial
  | _ + 1, [], _, _ => by unfold b256Data; exact Sat.error rfl
  | k + 1, b :: bs, pos, a => by unfold b256Data; exact b256Data_sat k bs _ _

theorem b256Seg_sat (rest : List Nat) (off : Nat) (a : Acc) : Sat (Only .format) (fun _ => True) (b256Seg rest off a) := by
  have data := fun k bs pos => b256Data_sat k bs pos a
  unfold b256Seg
  cases rest with
  | nil => exact Sat.ok trivial
  | cons b r1 =>
    simp only []
    refine Sat.ite (fun _ => Sat.step _ (data _ _ _) (fun _ he => he) fun _ _ => trivial) fun _ =>
      Sat.ite (fun _ => Sat.step _ (data _ _ _) (fun _ he => he) fun _ _ => trivial) fun _ => ?_
    cases r1 with
    | nil => exact Sat.error rfl
    | cons b2 r2 =>
      simp only []
      exact Sat.step _ (data _ _ _) (fun _ he => he) fun _ _ => trivial

/-! ## the main loop -/

theorem decLoop_sat (T : Tables) (bs : List Nat) (skip : Nat) (up : Bool) (off : Nat) (a : Acc) :
    Sat (Only .format) (fun _ => True) (decLoop T bs skip up off a) := by
  fun_induction decLoop T bs skip up off a <;>
    first
    | exact Sat.ok trivial
    | exact Sat.error rfl
    | assumption
    | exact Sat.error ((cSeg_sat _ _ _ _ _ _).of_error (by assumption))
    | exact Sat.error ((x12Seg_sat _ _ _).of_error (by assumption))
    | exact Sat.error ((b256Seg_sat _ _ _).of_error (by assumption))

/-- `DecodedBitStreamParser_decode` (text): a text or FormatException -/
theorem decodeText_sat (T : Tables) (cw : List Nat) : Sat (Only .format) (fun _ => True) (decodeText T cw) := by
  unfold decodeText
  exact Sat.step _ (decLoop_sat T cw 0 false 0 {}) (fun _ he => he) fun _ _ => trivial

/-- text and symbology modifier -/
theorem decodeFull_sat (T : Tables) (cw : List Nat) : Sat (Only .format) (fun _ => True) (decodeFull T cw) := by
  unfold decodeFull
  exact Sat.step _ (decLoop_sat T cw 0 false 0 {}) (fun _ he => he) fun _ _ => trivial

end Gzx.Proofs.TotalDM
