/-
  C02: EDIFACT segments — the decoder on complete quadruples, the four unlatch forms and the "two or fewer bytes left"
  rule; the loop of EdifactEncoder.encode (the whole call is in Proofs/DMEdifactCall.lean).
-/
import Gzx.Proofs.DMGeneral
import Gzx.Proofs.DMTriplets
namespace Gzx.DMHighLevel
open Gzx.Det (Sat Only)

/-! ## the decoder -/

/-- the 6-bit value of an EDIFACT-native character -/
def ediVal (c : Nat) : Nat := if c < 64 then c else c - 64

theorem ediVal_facts_small : ∀ c : Fin 256, isNativeEDIFACT c.val = true →
    edifactEncodeChar c.val = .ok (ediVal c.val) ∧ ediVal c.val < 64 ∧ ediVal c.val ≠ 31 ∧
    edifactChar (ediVal c.val) = c.val ∧ c.val < 128 := by decide +kernel

theorem ediVal_facts (c : Nat) (h : isNativeEDIFACT c = true) :
    edifactEncodeChar c = .ok (ediVal c) ∧ ediVal c < 64 ∧ ediVal c ≠ 31 ∧ edifactChar (ediVal c) = c ∧ c < 128 := by
  have hlt : c < 256 := by
    simp only [isNativeEDIFACT, Bool.and_eq_true, decide_eq_true_eq] at h; omega
  exact ediVal_facts_small ⟨c, hlt⟩ h

theorem edifactEncodeChar_ok {c v : Nat} (h : edifactEncodeChar c = .ok v) :
    isNativeEDIFACT c = true ∧ v = ediVal c := by
  unfold edifactEncodeChar at h
  unfold isNativeEDIFACT ediVal
  split at h
  · cases h; simp only [Bool.and_eq_true, decide_eq_true_eq]; refine ⟨by omega, ?_⟩; split <;> omega
  · split at h
    · cases h; simp only [Bool.and_eq_true, decide_eq_true_eq]; refine ⟨by omega, ?_⟩; split <;> omega
    · cases h

/-- codewords of the complete quadruples of a value list, and the values left over -/
def writeQuads : List Nat → List Nat × List Nat
  | a :: b :: c :: d :: rest =>
    let (cws, left) := writeQuads rest
    (edifactWord a b c d ++ cws, left)
  | left => ([], left)

theorem writeQuads_short (l : List Nat) (h : l.length < 4) : writeQuads l = ([], l) := by
  match l, h with
  | [], _ => rfl
  | [_], _ => rfl
  | [_, _], _ => rfl
  | [_, _, _], _ => rfl

theorem writeQuads_cons4 (a b c d : Nat) (r : List Nat) :
    writeQuads (a :: b :: c :: d :: r) = (edifactWord a b c d ++ (writeQuads r).1, (writeQuads r).2) := rfl

/-- "If there is only two or less bytes left then it will be encoded as ASCII" -/
theorem edifactSeg_short (suf : List Nat) (a : Acc) (n : Nat) (h : suf.length ≤ 2) :
    edifactSeg suf a n = (a, n) := by
  match suf, h with
  | [], _ => rfl
  | [_], _ => rfl
  | [_, _], _ => rfl

theorem edifactSeg_quad (c1 c2 c3 c4 : Nat) (h1 : isNativeEDIFACT c1 = true) (h2 : isNativeEDIFACT c2 = true)
    (h3 : isNativeEDIFACT c3 = true) (h4 : isNativeEDIFACT c4 = true) (rest : List Nat) (a : Acc) (n : Nat) :
    edifactSeg (edifactWord (ediVal c1) (ediVal c2) (ediVal c3) (ediVal c4) ++ rest) a n =
      edifactSeg rest ((((a.push c1).push c2).push c3).push c4) (n + 3) := by
  obtain ⟨_, a1, a2, a3, _⟩ := ediVal_facts c1 h1
  obtain ⟨_, b1, b2, b3, _⟩ := ediVal_facts c2 h2
  obtain ⟨_, d1, d2, d3, _⟩ := ediVal_facts c3 h3
  obtain ⟨_, e1, e2, e3, _⟩ := ediVal_facts c4 h4
  obtain ⟨x, y, z, hw, _, _, _, hu⟩ := edifactUnpack_word _ _ _ _ a1 b1 d1 e1
  rw [hw]
  simp only [List.cons_append, List.nil_append, edifactSeg, hu, edifactVals, a2, b2, d2, e2, if_false, a3, b3, d3, e3]

theorem edifactSeg_quads : ∀ (k : Nat) (chars : List Nat), chars.length = 4 * k →
    (∀ c ∈ chars, isNativeEDIFACT c = true) → ∀ (rest : List Nat) (a : Acc) (n : Nat),
    edifactSeg ((writeQuads (chars.map ediVal)).1 ++ rest) a n = edifactSeg rest (a.pushAll chars) (n + 3 * k) := by
  intro k
  induction k with
  | zero =>
    intro chars hl _ rest a n
    have : chars = [] := List.eq_nil_of_length_eq_zero (by omega)
    subst this
    simp [writeQuads, Acc.pushAll]
  | succ k ih =>
    intro chars hl hn rest a n
    match chars, hl with
    | c1 :: c2 :: c3 :: c4 :: cs, hl =>
      simp only [List.map_cons, writeQuads_cons4, List.append_assoc]
      rw [edifactSeg_quad c1 c2 c3 c4 (hn _ (by simp)) (hn _ (by simp)) (hn _ (by simp)) (hn _ (by simp))]
      rw [ih cs (by simp only [List.length_cons] at hl; omega) (fun c hc => hn c (by simp [hc]))]
      simp only [Acc.pushAll]
      congr 1
      omega

/-- unlatch alone (one codeword, 31 in the top six bits): read as unlatch iff at least two more codewords follow -/
theorem edifactSeg_unlatch1 (x y : Nat) (hx : x < 256) (hy : y < 256) (rest : List Nat) (a : Acc) (n : Nat) :
    edifactSeg ((edifactWord 31 0 0 0).take 1 ++ x :: y :: rest) a n = (a, n + 1) := by
  have hu : edifactUnpack 124 x y = [31, (124 * 65536 + x * 256 + y) / 4096 % 64,
      (124 * 65536 + x * 256 + y) / 64 % 64, (124 * 65536 + x * 256 + y) % 64] := by
    unfold edifactUnpack
    simp only
    have e1 : (124 * 65536 + x * 256 + y) / 262144 % 64 = 31 := by omega
    rw [e1]
  have hw : (edifactWord 31 0 0 0).take 1 = [124] := by decide
  rw [hw]
  simp only [List.cons_append, List.nil_append, edifactSeg, hu, edifactVals, if_true]

theorem unl2_arith (v z : Nat) (hv : v < 64) (hz : z < 256) :
    (v * 262144 + 31 * 4096) / 65536 % 256 = 4 * v + 1 ∧ (v * 262144 + 31 * 4096) / 256 % 256 = 240 ∧
    ((4 * v + 1) * 65536 + 240 * 256 + z) / 262144 % 64 = v ∧
    ((4 * v + 1) * 65536 + 240 * 256 + z) / 4096 % 64 = 31 := by
  refine ⟨by omega, by omega, by omega, by omega⟩

/-- one character and the unlatch (two codewords): needs one more codeword behind -/
theorem edifactSeg_unlatch2 (c1 : Nat) (h1 : isNativeEDIFACT c1 = true) (z : Nat) (hz : z < 256) (rest : List Nat)
    (a : Acc) (n : Nat) :
    edifactSeg ((edifactWord (ediVal c1) 31 0 0).take 2 ++ z :: rest) a n = (a.push c1, n + 2) := by
  obtain ⟨_, a1, a2, a3, _⟩ := ediVal_facts c1 h1
  generalize ediVal c1 = v at a1 a2 a3
  have hw : (edifactWord v 31 0 0).take 2 = [(v * 262144 + 31 * 4096) / 65536 % 256, (v * 262144 + 31 * 4096) / 256 % 256] := by
    simp [edifactWord]
  rw [hw]
  simp only [List.cons_append, List.nil_append, edifactSeg]
  obtain ⟨hB1, hB2, e1, e2⟩ := unl2_arith v z a1 hz
  rw [hB1, hB2]
  have hu : edifactUnpack (4 * v + 1) 240 z = [v, 31, ((4 * v + 1) * 65536 + 240 * 256 + z) / 64 % 64,
      ((4 * v + 1) * 65536 + 240 * 256 + z) % 64] := by
    unfold edifactUnpack
    simp only
    rw [e1, e2]
  rw [hu]
  simp only [edifactVals, a2, if_false, if_true, a3]
  rfl

/-- two characters and the unlatch: three full codewords -/
theorem edifactSeg_unlatch3 (c1 c2 : Nat) (h1 : isNativeEDIFACT c1 = true) (h2 : isNativeEDIFACT c2 = true)
    (rest : List Nat) (a : Acc) (n : Nat) :
    edifactSeg (edifactWord (ediVal c1) (ediVal c2) 31 0 ++ rest) a n = ((a.push c1).push c2, n + 3) := by
  obtain ⟨_, a1, a2, a3, _⟩ := ediVal_facts c1 h1
  obtain ⟨_, b1, b2, b3, _⟩ := ediVal_facts c2 h2
  obtain ⟨x, y, z, hw, _, _, _, hu⟩ := edifactUnpack_word (ediVal c1) (ediVal c2) 31 0 a1 b1 (by omega) (by omega)
  rw [hw]
  simp only [List.cons_append, List.nil_append, edifactSeg, hu, edifactVals, a2, b2, if_false, if_true, a3, b3]
  rfl

/-- three characters and the unlatch: three full codewords -/
theorem edifactSeg_unlatch4 (c1 c2 c3 : Nat) (h1 : isNativeEDIFACT c1 = true) (h2 : isNativeEDIFACT c2 = true)
    (h3 : isNativeEDIFACT c3 = true) (rest : List Nat) (a : Acc) (n : Nat) :
    edifactSeg (edifactWord (ediVal c1) (ediVal c2) (ediVal c3) 31 ++ rest) a n =
      (((a.push c1).push c2).push c3, n + 3) := by
  obtain ⟨_, a1, a2, a3, _⟩ := ediVal_facts c1 h1
  obtain ⟨_, b1, b2, b3, _⟩ := ediVal_facts c2 h2
  obtain ⟨_, d1, d2, d3, _⟩ := ediVal_facts c3 h3
  obtain ⟨x, y, z, hw, _, _, _, hu⟩ := edifactUnpack_word (ediVal c1) (ediVal c2) (ediVal c3) 31 a1 b1 d1 (by omega)
  rw [hw]
  simp only [List.cons_append, List.nil_append, edifactSeg, hu, edifactVals, a2, b2, d2, if_false, if_true, a3, b3, d3]
  rfl

/-- the decoder reads on correctly for every continuation of at least `j` codewords -/
def DecFrom (T : Tables) (j : Nat) (cw : List Nat) (a : Acc) : Prop :=
  ∀ suf, j ≤ suf.length → (∀ x ∈ suf, x < 256) →
    decLoop T (cw ++ suf) 0 false 0 {} = decLoop T suf 0 false cw.length a

theorem DecodesTo.decFrom {T : Tables} {cw : List Nat} {a : Acc} (h : DecodesTo T cw a) (j : Nat) :
    DecFrom T j cw a := fun suf _ _ => h suf

theorem decFrom_iff {T : Tables} {cw : List Nat} {a : Acc} {j : Nat} :
    DecFrom T j cw a ↔ DecOn T (fun s => j ≤ s.length ∧ ∀ x ∈ s, x < 256) cw a :=
  ⟨fun h s hs => h s hs.1 hs.2, fun h s h1 h2 => h s ⟨h1, h2⟩⟩

theorem writeQuads_fst_length : ∀ (k : Nat) (vals : List Nat), vals.length = 4 * k →
    (writeQuads vals).1.length = 3 * k ∧ (writeQuads vals).2 = [] := by
  intro k
  induction k with
  | zero =>
    intro vals hl
    have : vals = [] := List.eq_nil_of_length_eq_zero (by omega)
    subst this; exact ⟨rfl, rfl⟩
  | succ k ih =>
    intro vals hl
    match vals, hl with
    | c1 :: c2 :: c3 :: c4 :: cs, hl =>
      obtain ⟨i1, i2⟩ := ih cs (by simp only [List.length_cons] at hl; omega)
      simp only [writeQuads_cons4, List.length_append, i1, i2]
      refine ⟨?_, trivial⟩
      simp [edifactWord]; omega

/-- the shape of an EDIFACT segment: latch, complete quadruples of `chars`, then `tailcw` on which (followed by a
    continuation in `K`) the segment decoder stops after `tailcw.length` codewords having appended `last` -/
theorem reads_edifact (T : Tables) (off k : Nat) (chars : List Nat) (hl : chars.length = 4 * k)
    (hn : ∀ c ∈ chars, isNativeEDIFACT c = true) (tailcw last : List Nat) (K : List Nat → Prop)
    (hseg : ∀ suf, K suf → ∀ (b : Acc) (n : Nat),
      edifactSeg (tailcw ++ suf) b n = (b.pushAll last, n + tailcw.length)) :
    Reads T K off (240 :: ((writeQuads (chars.map ediVal)).1 ++ tailcw))
      (fun a => ((a.pushAll chars).pushAll last).endSeg) := by
  refine reads_seg_exact T (by decide) _ off _ (fun a => (a.pushAll chars).pushAll last) (fun suf a hK => ?_)
  have hq := (writeQuads_fst_length k (chars.map ediVal) (by simpa using hl)).1
  simp only [segRead, show ¬ (240 : Nat) = 230 by decide, show ¬ (240 : Nat) = 239 by decide,
    show ¬ (240 : Nat) = 238 by decide, if_false, List.append_assoc, edifactSeg_quads k chars hl hn, hseg suf hK,
    List.length_append, hq, Nat.zero_add]

/-- the same behind a prefix, with the accumulator written without `endSeg` (EDIFACT characters are below 128) -/
theorem decOn_edifact {T : Tables} {cw0 : List Nat} {a : Acc} (h : DecodesTo T cw0 a) (hp : a.pend = 0)
    (k : Nat) (chars : List Nat) (hl : chars.length = 4 * k) (hn : ∀ c ∈ chars, isNativeEDIFACT c = true)
    (tailcw last : List Nat) (hlast : ∀ c ∈ last, c < 128) (K : List Nat → Prop)
    (hseg : ∀ suf, K suf → ∀ (b : Acc) (n : Nat),
      edifactSeg (tailcw ++ suf) b n = (b.pushAll last, n + tailcw.length)) :
    DecOn T K (cw0 ++ [240] ++ (writeQuads (chars.map ediVal)).1 ++ tailcw) ((a.pushAll chars).pushAll last) := by
  have := (decodesTo_iff.1 h).append (reads_edifact T cw0.length k chars hl hn tailcw last K hseg)
    (fun s hs => ⟨hs, trivial⟩)
  have hpend : ((a.pushAll chars).pushAll last).pend = 0 := by
    rw [pushAll_pend_lt last _ hlast, pushAll_pend_lt chars _ (fun c hc => (ediVal_facts c (hn c hc)).2.2.2.2), hp]
  rw [Acc.endSeg_of_pend _ hpend] at this
  simpa [List.append_assoc] using this

/-- closed by nothing: at most two codewords follow and are read in ASCII -/
theorem edifact_segment_open {T : Tables} {cw0 : List Nat} {a : Acc} (h : DecodesTo T cw0 a) (hp : a.pend = 0)
    (k : Nat) (chars : List Nat) (hl : chars.length = 4 * k) (hn : ∀ c ∈ chars, isNativeEDIFACT c = true) :
    DecK T (cw0 ++ [240] ++ (writeQuads (chars.map ediVal)).1) (a.pushAll chars) 2 := by
  have := decOn_edifact h hp k chars hl hn [] [] (by simp) (fun s => s.length ≤ 2) (fun suf hs b n => by
    simp only [List.nil_append, edifactSeg_short suf b n hs, Acc.pushAll, List.length_nil, Nat.add_zero])
  exact decK_iff.2 (by simpa [Acc.pushAll] using this)

/-! ## the loop of EdifactEncoder.encode -/

theorem edifactEncodeChar_error {ch : Nat} {e : Fault} (h : edifactEncodeChar ch = .error e) : e = .writer := by
  unfold edifactEncodeChar at h
  repeat' split at h
  all_goals cases h
  rfl

/-- the EDIFACT loop: a WriterException (a character outside the EDIFACT set), or the characters it has consumed,
    their values written as complete quadruples and buffered, and how it ended -/
theorem edifactLoop_sat (la : LookAhead) :
    ∀ (fuel : Nat) (c : Ctx) (buf : List Nat), buf.length < 4 → c.pos ≤ c.total → c.remaining ≤ fuel →
      Sat (Only .writer) (fun r =>
        ∃ chars, chars = (c.msg.drop c.pos).take (r.1.pos - c.pos) ∧ (∀ x ∈ chars, isNativeEDIFACT x = true) ∧
          r.1.cw = c.cw ++ (writeQuads (buf ++ chars.map ediVal)).1 ∧
          r.2 = (writeQuads (buf ++ chars.map ediVal)).2 ∧
          SameFrame c r.1 ∧ c.pos ≤ r.1.pos ∧ r.1.pos ≤ r.1.total ∧ chars.length = r.1.pos - c.pos ∧
          ((r.1.newEnc = c.newEnc ∧ r.1.hasMore = false) ∨
           (r.1.newEnc = some ASCII ∧ r.2 = [] ∧ c.pos < r.1.pos ∧ la c.msg r.1.pos EDIFACT ≠ EDIFACT)))
        (edifactLoop la fuel c buf) := by
  intro fuel
  induction fuel with
  | zero =>
    intro c buf hb hle hr
    have hm : c.hasMore = false := by
      simp only [Ctx.remaining] at hr
      rw [hasMore_false_iff]; omega
    simp only [edifactLoop, hm, Bool.false_eq_true, if_false]
    exact ⟨[], by simp, by simp, by simp [writeQuads_short buf hb], by simp [writeQuads_short buf hb],
      ⟨rfl, rfl, rfl, rfl⟩, Nat.le_refl _, hle, by simp, Or.inl ⟨rfl, hm⟩⟩
  | succ n ih =>
    intro c buf hb hle hr
    simp only [edifactLoop]
    by_cases hm : c.hasMore = true
    · simp only [hm, Bool.not_true, Bool.false_eq_true, if_false]
      have hlt : c.pos < c.total := (hasMore_iff c).mp hm
      obtain ⟨ch, hc, hget⟩ := hasMore_cur hm
      have hdrop := drop_eq_cons_of_getElem? hget
      rw [hc]
      simp only [bind, Except.bind]
      cases he : edifactEncodeChar ch with
      | error e => exact edifactEncodeChar_error he
      | ok v =>
        simp only
        obtain ⟨hnat, hv⟩ := edifactEncodeChar_ok he
        subst hv
        have hle' : ({ c with pos := c.pos + 1 } : Ctx).pos ≤ ({ c with pos := c.pos + 1 } : Ctx).total := by
          simp only [Ctx.total] at hlt ⊢; omega
        have hr' : ∀ cc : Ctx, cc.msg = c.msg → cc.skipAtEnd = c.skipAtEnd → cc.pos = c.pos + 1 → cc.remaining ≤ n := by
          intro cc e1 e2 e3
          simp only [Ctx.remaining, Ctx.total, e1, e2, e3] at hr ⊢
          simp only [Ctx.total] at hlt
          omega
        have hchars : ∀ p1, c.pos + 1 ≤ p1 →
            (c.msg.drop c.pos).take (p1 - c.pos) = ch :: (c.msg.drop (c.pos + 1)).take (p1 - (c.pos + 1)) := by
          intro p1 hp
          rw [hdrop]
          have : p1 - c.pos = (p1 - (c.pos + 1)) + 1 := by omega
          rw [this, List.take_succ_cons]
        by_cases h4 : (buf ++ [ediVal ch]).length ≥ 4
        · have hl3 : buf.length = 3 := by
            simp only [List.length_append, List.length_cons, List.length_nil] at h4; omega
          obtain ⟨x, y, z, hxyz⟩ : ∃ x y z, buf = [x, y, z] := by
            match buf, hl3 with
            | [x, y, z], _ => exact ⟨x, y, z, rfl⟩
          subst hxyz
          simp only [List.cons_append, List.nil_append, List.length_cons, List.length_nil, Nat.reduceAdd,
            ge_iff_le, Nat.le_refl, if_true, edifactPack, List.drop_succ_cons, List.drop_zero]
          refine Sat.ite (fun hla => ?_) (fun _ => ?_)
          · refine ⟨[ch], ?_, ?_, ?_, ?_, ⟨rfl, rfl, rfl, rfl⟩, by simp [Ctx.signal, Ctx.writeAll],
              by simp only [Ctx.signal, Ctx.writeAll, Ctx.total] at hlt ⊢; omega, by simp [Ctx.signal, Ctx.writeAll],
              Or.inr ⟨rfl, by simp, by simp [Ctx.signal, Ctx.writeAll],
                by simpa [Ctx.signal, Ctx.writeAll] using hla⟩⟩
            · simp only [Ctx.signal, Ctx.writeAll]
              rw [hchars (c.pos + 1) (Nat.le_refl _)]; simp
            · intro x hx; simp at hx; rw [hx]; exact hnat
            · simp [Ctx.signal, Ctx.writeAll, writeQuads]
            · simp [writeQuads]
          · refine (ih (({ c with pos := c.pos + 1 } : Ctx).writeAll (edifactWord x y z (ediVal ch))) []
                (by simp) (by simp only [Ctx.writeAll, Ctx.total] at hlt ⊢; omega) (hr' _ rfl rfl rfl)).post
              fun r ⟨chars, i1, i2, i3, i4, i5, i6, i7, i8, i9⟩ => ?_
            simp only [Ctx.writeAll] at i1 i3 i6 i8 i9
            refine ⟨ch :: chars, ?_, ?_, ?_, ?_, ⟨i5.msg, i5.cfg, i5.skip, i5.sym⟩, by omega, i7,
              by simp; omega, ?_⟩
            · rw [hchars r.1.pos i6, i1]
            · intro x hx
              rcases List.mem_cons.1 hx with rfl | hx
              · exact hnat
              · exact i2 x hx
            · rw [i3]; simp [writeQuads_cons4, List.append_assoc]
            · rw [i4]; simp [writeQuads_cons4]
            · rcases i9 with ⟨e1, e2⟩ | ⟨e1, e2, e3, e4⟩
              · exact Or.inl ⟨e1, e2⟩
              · exact Or.inr ⟨e1, e2, by omega, e4⟩
        · have hl3 : buf.length < 3 := by
            simp only [List.length_append, List.length_cons, List.length_nil] at h4; omega
          simp only [h4, if_false]
          refine (ih ({ c with pos := c.pos + 1 } : Ctx) (buf ++ [ediVal ch]) (by simp; omega) hle'
              (hr' _ rfl rfl rfl)).post fun r ⟨chars, i1, i2, i3, i4, i5, i6, i7, i8, i9⟩ => ?_
          simp only at i1 i3 i6 i8 i9
          refine ⟨ch :: chars, ?_, ?_, ?_, ?_, ⟨i5.msg, i5.cfg, i5.skip, i5.sym⟩, by omega, i7,
            by simp; omega, ?_⟩
          · rw [hchars r.1.pos i6, i1]
          · intro x hx
            rcases List.mem_cons.1 hx with rfl | hx
            · exact hnat
            · exact i2 x hx
          · rw [i3]; simp [List.append_assoc]
          · rw [i4]; simp [List.append_assoc]
          · rcases i9 with ⟨e1, e2⟩ | ⟨e1, e2, e3, e4⟩
            · exact Or.inl ⟨e1, e2⟩
            · exact Or.inr ⟨e1, e2, by omega, e4⟩
    · simp only [Bool.not_eq_true] at hm
      simp only [hm, Bool.not_false, if_true]
      exact ⟨[], by simp, by simp, by simp [writeQuads_short buf hb], by simp [writeQuads_short buf hb],
        ⟨rfl, rfl, rfl, rfl⟩, Nat.le_refl _, hle, by simp, Or.inl ⟨rfl, hm⟩⟩

end Gzx.DMHighLevel
