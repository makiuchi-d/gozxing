/-
  Forney's formula as computed by the model (`magDenominator`, `errorMagnitude`, `magLoop`): on the true
  evaluator and the found locators it returns the error values.
  Helper lemmas for Properties/C04.lean.
-/
import Gzx.Proofs.Chien
namespace Gzx.Proofs.Forney
open Gzx Gzx.GF Gzx.RS Gzx.Ref.GF Gzx.Proofs.GF Gzx.Proofs.Poly Gzx.Proofs.Conv Gzx.Proofs.Coef
  Gzx.Proofs.MinDist Gzx.Proofs.KeyEq Gzx.Proofs.Locator Gzx.Proofs.Chien Gzx.Proofs.GF2

/-- `Π_{x ∈ xs} (1 + x·a)`: `Locator.lamVal` on a bare list of locators (`prodAll_map_snd`), which is what the model's
    denominator loop walks -/
def prodAll (prim : Nat) : List Nat → Nat → Nat
  | [], _ => 1
  | x :: xs, a => gmul prim (1 ^^^ gmul prim x a) (prodAll prim xs a)

/-- `Π_{x ∈ xs, x ≠ v} (1 + x·a)` -/
def prodSkip (prim : Nat) : List Nat → Nat → Nat → Nat
  | [], _, _ => 1
  | x :: xs, v, a => if x = v then prodSkip prim xs v a else gmul prim (1 ^^^ gmul prim x a) (prodSkip prim xs v a)

theorem prodSkip_of_not_mem (prim : Nat) : ∀ (xs : List Nat) (v a : Nat), v ∉ xs →
    prodSkip prim xs v a = prodAll prim xs a
  | [], _, _, _ => rfl
  | x :: xs, v, a, h => by
    have h1 : x ≠ v := fun e => h (by rw [e]; simp)
    have h2 : v ∉ xs := fun e => h (List.mem_cons_of_mem _ e)
    simp only [prodSkip, prodAll, h1, if_false, prodSkip_of_not_mem prim xs v a h2]

/-- `Π (1 + x·a)` over `xs` without the entry at index `i`, the head of `xs` having index `j`: what the
    denominator loop of `findErrorMagnitudes` multiplies up -/
def prodIdx (prim : Nat) : List Nat → Nat → Nat → Nat → Nat
  | [], _, _, _ => 1
  | x :: xs, j, i, a =>
    if i = j then prodIdx prim xs (j + 1) i a else gmul prim (1 ^^^ gmul prim x a) (prodIdx prim xs (j + 1) i a)

theorem prodIdx_past (prim a i : Nat) : ∀ (xs : List Nat) (j : Nat), i < j → prodIdx prim xs j i a = prodAll prim xs a
  | [], _, _ => rfl
  | x :: xs, j, hij => by
    have hne : i ≠ j := by omega
    simp only [prodIdx, prodAll, hne, if_false, prodIdx_past prim a i xs (j + 1) (by omega)]

theorem prodIdx_at (prim a i : Nat) : ∀ (xs : List Nat) (j : Nat), xs.Nodup → j ≤ i → (h : i - j < xs.length) →
    prodIdx prim xs j i a = prodSkip prim xs (xs[i - j]) a
  | [], _, _, _, h => by simp at h
  | x :: xs, j, hnd, hji, h => by
    have hnd' := List.nodup_cons.1 hnd
    by_cases hij : i = j
    · subst hij
      simp only [prodIdx, prodSkip, Nat.sub_self, List.getElem_cons_zero, if_true]
      rw [prodIdx_past prim a i xs (i + 1) (by omega), prodSkip_of_not_mem prim xs x a hnd'.1]
    · have hlt : i - (j + 1) < xs.length := by simp only [List.length_cons] at h; omega
      have hidx : (x :: xs)[i - j] = xs[i - (j + 1)] := by
        have e : i - j = (i - (j + 1)) + 1 := by omega
        simp only [e, List.getElem_cons_succ]
      have hxne : x ≠ xs[i - (j + 1)] := fun e => hnd'.1 (by rw [e]; exact List.getElem_mem hlt)
      rw [hidx]
      simp only [prodIdx, prodSkip, hij, hxne, if_false, prodIdx_at prim a i xs (j + 1) hnd'.2 (by omega) hlt]

section field
variable {prim size : Nat} (ok : ParamsOK prim size)
include ok

theorem prodSkip_lt : ∀ xs v a, prodSkip prim xs v a < size
  | [], _, _ => one_lt_size ok
  | x :: xs, v, a => by
    unfold prodSkip
    split
    · exact prodSkip_lt xs v a
    · exact gmul_lt ok _ _

theorem prodIdx_lt : ∀ xs j i a, prodIdx prim xs j i a < size
  | [], _, _, _ => one_lt_size ok
  | x :: xs, j, i, a => by
    unfold prodIdx
    split
    · exact prodIdx_lt xs (j + 1) i a
    · exact gmul_lt ok _ _

omit ok in
theorem prodAll_map_snd (a : Nat) : ∀ (L : List (Nat × Nat)), prodAll prim (L.map (·.2)) a = lamVal prim L a
  | [] => rfl
  | p :: L => by
    show gmul prim _ (prodAll prim (L.map (·.2)) a) = gmul prim _ (lamVal prim L a)
    rw [prodAll_map_snd a L]

theorem prodSkip_perm (v a : Nat) {xs ys : List Nat} (h : xs.Perm ys) :
    prodSkip prim xs v a = prodSkip prim ys v a := by
  induction h with
  | nil => rfl
  | cons x _ ih => simp only [prodSkip, ih]
  | swap x y l =>
    simp only [prodSkip]
    have hl := prodSkip_lt ok l v a
    have hx : 1 ^^^ gmul prim x a < size := xor_lt_size ok _ _ (one_lt_size ok) (gmul_lt ok _ _)
    have hy : 1 ^^^ gmul prim y a < size := xor_lt_size ok _ _ (one_lt_size ok) (gmul_lt ok _ _)
    by_cases h1 : x = v <;> by_cases h2 : y = v <;> simp only [h1, h2, if_true, if_false]
    rw [← gmul_assoc ok _ _ _ hy hx hl, gmul_comm ok _ _ hy hx, gmul_assoc ok _ _ _ hx hy hl]
  | trans _ _ ih1 ih2 => rw [ih1, ih2]

end field

section F
variable {F : GF} (hF : FieldOK F)
include hF

theorem magDenominator_eq (a i : Nat) (ha : a < F.size) : ∀ (xs : List Nat) (j den : Nat),
    InR F.size xs → den < F.size →
    magDenominator F a i xs j den = .ok (gmul F.prim den (prodIdx F.prim xs j i a))
  | [], j, den, _, hd => by
    show Except.ok den = _
    rw [show prodIdx F.prim [] j i a = 1 from rfl, gmul_one_right hF.2 den hd]
  | x :: xs, j, den, hx, hd => by
    have ok := hF.2
    unfold magDenominator prodIdx
    by_cases hij : i = j
    · have : ¬ i ≠ j := fun h => h hij
      rw [if_neg this, if_pos hij]
      exact magDenominator_eq a i ha xs (j + 1) den hx.tail hd
    · rw [if_pos hij, if_neg hij, F_mul hF x a hx.head ha]
      simp only [bind, Except.bind]
      rw [termPlus1_eq, F_mul hF den _ hd (xor_lt_size ok _ _ (gmul_lt ok _ _) (one_lt_size ok))]
      simp only
      rw [magDenominator_eq a i ha xs (j + 1) _ hx.tail (gmul_lt ok _ _), Nat.xor_comm,
        gmul_assoc ok den _ _ hd (xor_lt_size ok _ _ (one_lt_size ok) (gmul_lt ok _ _)) (prodIdx_lt ok xs _ i a)]

/-- value of the evaluator at an inverse locator: `Ω(X_k⁻¹) = Y_k · Π_{j≠k} (1 + X_j X_k⁻¹)` -/
theorem omVal_at_root (a : Nat) (ha : a < F.size) : ∀ (L : List (Nat × Nat)), PairsIn F.size L →
    L.Pairwise (fun p q => p.2 ≠ q.2) → ∀ k, k ∈ L → gmul F.prim k.2 a = 1 →
    omVal F.prim L a = gmul F.prim k.1 (prodSkip F.prim (L.map (·.2)) k.2 a)
  | [], _, _, k, hk, _ => by simp at hk
  | p :: L, hL, hd, k, hk, hka => by
    have ok := hF.2
    have hp := hL p (by simp)
    have hL' : PairsIn F.size L := fun q hq => hL q (List.mem_cons_of_mem _ hq)
    have hd' := List.pairwise_cons.1 hd
    show gmul F.prim (1 ^^^ gmul F.prim p.2 a) (omVal F.prim L a) ^^^ gmul F.prim p.1 (lamVal F.prim L a) = _
    by_cases hpk : p.2 = k.2
    · have hkp : k = p := by
        rcases List.mem_cons.1 hk with h | h
        · exact h
        · exact absurd hpk (hd'.1 k h)
      subst hkp
      have hnm : k.2 ∉ L.map (·.2) := by
        intro hm
        obtain ⟨q, hq, hqe⟩ := List.mem_map.1 hm
        exact hd'.1 q hq hqe.symm
      rw [hka, Nat.xor_self, gmul_zero_left ok _ (omVal_lt ok L a), Nat.zero_xor]
      simp only [List.map_cons, prodSkip, if_true]
      rw [prodSkip_of_not_mem F.prim _ _ a hnm, prodAll_map_snd a L]
    · have hkL : k ∈ L := by
        rcases List.mem_cons.1 hk with h | h
        · rw [h] at hpk; exact absurd rfl hpk
        · exact h
      have hk' := hL' k hkL
      rw [(lamVal_eq_zero_iff ok a ha L hL').2 ⟨k, hkL, hka⟩, gmul_zero_right ok, Nat.xor_zero,
        omVal_at_root a ha L hL' hd'.2 k hkL hka]
      simp only [List.map_cons, prodSkip, hpk, if_false]
      have hf : 1 ^^^ gmul F.prim p.2 a < F.size := xor_lt_size ok _ _ (one_lt_size ok) (gmul_lt ok _ _)
      have hps := prodSkip_lt ok (L.map (·.2)) k.2 a
      rw [← gmul_assoc ok _ k.1 _ hf hk'.1 hps, gmul_comm ok _ k.1 hf hk'.1, gmul_assoc ok k.1 _ _ hk'.1 hf hps]

/-- the denominator of Forney's formula is non-zero -/
theorem prodSkip_ne_zero (a v : Nat) (ha : a < F.size) (hv : v < F.size) (hva : gmul F.prim v a = 1) :
    ∀ (xs : List Nat), InR F.size xs → prodSkip F.prim xs v a ≠ 0
  | [], _ => by show (1 : Nat) ≠ 0; decide
  | x :: xs, hx => by
    have ok := hF.2
    unfold prodSkip
    split
    · exact prodSkip_ne_zero a v ha hv hva xs hx.tail
    · rename_i hxv
      apply gmul_ne_zero ok _ _ (xor_lt_size ok _ _ (one_lt_size ok) (gmul_lt ok _ _)) (prodSkip_lt ok xs v a)
      · intro h
        have h1 : gmul F.prim x a = 1 := (xor_eq_zero h).symm
        exact hxv (inv_unique ok x v a hx.head hv ha h1 hva)
      · exact prodSkip_ne_zero a v ha hv hva xs hx.tail

/-- `findErrorMagnitudes` for one location `xi` at index `i`: `Ω(xi⁻¹) / D`, times `xi⁻¹` for a generator base
    other than 0, with `D` the product over the other locations; Go's `Inverse` refuses `D = 0` -/
theorem errorMagnitude_eq (omega : List Nat) (ho : WF F.size omega) (locs : List Nat) (hl : InR F.size locs)
    (i xi : Nat) (hxi0 : xi ≠ 0) (hxi : xi < F.size) :
    errorMagnitude F omega locs i xi =
      if prodIdx F.prim locs 0 i (invOf F xi) = 0 then .error .illegalArg
      else
        let m := gmul F.prim (evalH F.prim (invOf F xi) omega) (invOf F (prodIdx F.prim locs 0 i (invOf F xi)))
        .ok (if F.base ≠ 0 then gmul F.prim m (invOf F xi) else m) := by
  have ok := hF.2
  obtain ⟨hinv, hylt, _, _⟩ := invOf_spec hF xi hxi0 hxi
  have hDlt := prodIdx_lt ok locs 0 i (invOf F xi)
  have hden := magDenominator_eq hF (invOf F xi) i hylt locs 0 1 hl (one_lt_size ok)
  rw [gmul_one_left ok _ hDlt] at hden
  unfold errorMagnitude
  simp only [hinv, hden, bind, Except.bind]
  by_cases hD0 : prodIdx F.prim locs 0 i (invOf F xi) = 0
  · rw [if_pos hD0, hD0]; rfl
  · obtain ⟨hDinv, hDilt, _, _⟩ := invOf_spec hF _ hD0 hDlt
    rw [if_neg hD0]
    simp only [hDinv, evaluateAt_ok hF omega ho.2.ne_nil ho.1 _ hylt,
      F_mul hF _ _ (evalH_lt ok _ omega ho.1) hDilt]
    by_cases hb : F.base ≠ 0
    · rw [if_pos hb, if_pos hb, F_mul hF _ _ (gmul_lt ok _ _) hylt]
    · rw [if_neg hb, if_neg hb]

/-- one error value by Forney's formula with the generator-base correction -/
theorem errorMagnitude_ok (L : List (Nat × Nat)) (hE : ErrSet F.prim F.size L (invOf F))
    (omega : List Nat) (howf : WF F.size omega) (hocoef : ∀ m, coef omega m = coef (omList F.prim L) m)
    (locs : List Nat) (hnd : locs.Nodup) (hperm : locs.Perm (L.map (·.2)))
    (i : Nat) (hi : i < locs.length) (k : Nat × Nat) (hk : k ∈ L) (hkx : k.2 = locs[i]) :
    errorMagnitude F omega locs i locs[i] =
      .ok (if F.base ≠ 0 then gmul F.prim k.1 (invOf F k.2) else k.1) := by
  have ok := hF.2
  have hkin := hE.inr k hk
  obtain ⟨_, halt, _, hka⟩ := invOf_spec hF k.2 (hE.xnz k hk) hkin.2
  have hlin : InR F.size locs := by
    intro x hx
    obtain ⟨p, hp, rfl⟩ := List.mem_map.1 (hperm.subset hx)
    exact (hE.inr p hp).2
  -- the denominator: the product over the other locators, non-zero
  have hDlt := prodSkip_lt ok locs k.2 (invOf F k.2)
  have hD0 := prodSkip_ne_zero hF (invOf F k.2) k.2 halt hkin.2 hka locs hlin
  obtain ⟨_, hDilt, _, hDmul⟩ := invOf_spec hF _ hD0 hDlt
  have hidx : prodIdx F.prim locs 0 i (invOf F k.2) = prodSkip F.prim locs k.2 (invOf F k.2) := by
    rw [prodIdx_at F.prim _ i locs 0 hnd (Nat.zero_le _) (by simpa using hi)]
    simp only [Nat.sub_zero, hkx]
  -- the numerator `Ω(X_k⁻¹)` carries the same product
  have hev : evalH F.prim (invOf F k.2) omega = gmul F.prim k.1 (prodSkip F.prim locs k.2 (invOf F k.2)) := by
    rw [evalH_congr_coef ok _ halt omega _ howf.1 (omList_inR ok L) hocoef,
      evalH_omList ok _ halt L hE.inr, omVal_at_root hF _ halt L hE.inr hE.distinct k hk hka,
      prodSkip_perm ok _ _ hperm]
  rw [← hkx, errorMagnitude_eq hF omega howf locs hlin i k.2 (hE.xnz k hk) hkin.2, hidx, if_neg hD0]
  simp only [hev]
  rw [gmul_assoc ok _ _ _ hkin.1 hDlt hDilt, hDmul, gmul_one_right ok _ hkin.1]

/-- all error values: `E` sends a locator to the magnitude expected at its position (`hEv`; Corrects takes the
    symbol of the error word there), so the loop over `locs` returns `locs.map E`; `pre` are the locations already
    done, whose number is the loop's index -/
theorem magLoop_ok (L : List (Nat × Nat)) (hE : ErrSet F.prim F.size L (invOf F))
    (omega : List Nat) (howf : WF F.size omega) (hocoef : ∀ m, coef omega m = coef (omList F.prim L) m)
    (locs : List Nat) (hnd : locs.Nodup) (hperm : locs.Perm (L.map (·.2)))
    (E : Nat → Nat) (hEv : ∀ p, p ∈ L → (if F.base ≠ 0 then gmul F.prim p.1 (invOf F p.2) else p.1) = E p.2) :
    ∀ (rest pre : List Nat), locs = pre ++ rest →
      magLoop F omega locs rest pre.length = .ok (rest.map E)
  | [], _, _ => rfl
  | xi :: rest, pre, hsplit => by
    have hi : pre.length < locs.length := by rw [hsplit]; simp
    have hxi : locs[pre.length] = xi := by
      simp only [hsplit]
      rw [List.getElem_append_right (Nat.le_refl _)]
      simp
    obtain ⟨k, hk, hkx⟩ : ∃ k, k ∈ L ∧ k.2 = xi := by
      have : xi ∈ L.map (·.2) := hperm.subset (by rw [hsplit]; simp)
      obtain ⟨k, hk, hke⟩ := List.mem_map.1 this
      exact ⟨k, hk, hke⟩
    have hmag := errorMagnitude_ok hF L hE omega howf hocoef locs hnd hperm pre.length hi k hk (by rw [hxi, hkx])
    rw [hxi, hEv k hk, hkx] at hmag
    unfold magLoop
    rw [hmag]
    simp only [bind, Except.bind]
    have hrec := magLoop_ok L hE omega howf hocoef locs hnd hperm E hEv rest (pre ++ [xi])
      (by rw [hsplit]; simp)
    rw [List.length_append, List.length_singleton] at hrec
    rw [hrec]
    rfl

end F
end Gzx.Proofs.Forney
