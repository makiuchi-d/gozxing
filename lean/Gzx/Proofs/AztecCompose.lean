/-
  C11 composition lemmas: stuffWords/unstuff on whole messages, HighLevelDecode of a script's bits
  plus padding, what the decoded segments of a script of data bytes render to, codeword chunking.
-/
import Gzx.Proofs.AztecHL
namespace Gzx.AztecCompose
open Gzx Gzx.AztecDecoder Gzx.Ref.Aztec Gzx.AztecLink Gzx.AztecStuff Gzx.AztecHL

/-! ### stuffing -/

theorem stuffWords_unstuff (b : Nat) (hb : 2 ≤ b) (bits : List Bool) :
    ∃ k, k < b ∧
      unstuff b ((stuffWords b bits).map fromBits) = .ok (bits ++ List.replicate k true) := by
  unfold stuffWords
  cases hbits : bits with
  | nil =>
    refine ⟨b - 1, by omega, ?_⟩
    simp only [List.isEmpty_nil, if_true, List.map_cons, List.map_nil, fromBits_ones_zero b hb]
    rw [unstuff_ones b hb [] [] rfl]
    simp
  | cons x xs =>
    rw [← hbits]
    have : bits.isEmpty = false := by rw [hbits]; rfl
    simp only [this, Bool.false_eq_true, if_false]
    obtain ⟨k, hk, _, h⟩ := stuff_unstuff_aux b hb (bits.length + 1) bits (by omega)
    exact ⟨k, hk, h⟩

theorem stuffAux_word_length (b : Nat) (hb : 1 ≤ b) :
    ∀ (fuel : Nat) (bits : List Bool), ∀ wd ∈ stuffAux b fuel bits, wd.length = b
  | 0, _, wd, h => by simp [stuffAux] at h
  | fuel + 1, bits, wd, h => by
    by_cases hne : bits = []
    · subst hne; simp [stuffAux] at h
    · have hplen : ∀ y : Bool, (padTake (b - 1) bits ++ [y]).length = b := by
        intro y; rw [List.length_append, length_padTake]; simp; omega
      rw [stuffAux_cons b fuel bits hne] at h
      split at h
      · rcases List.mem_cons.mp h with h | h
        · rw [h]; exact hplen _
        · exact stuffAux_word_length b hb fuel _ wd h
      · split at h <;> rcases List.mem_cons.mp h with h | h
        · rw [h]; exact hplen _
        · exact stuffAux_word_length b hb fuel _ wd h
        · rw [h]; exact hplen _
        · exact stuffAux_word_length b hb fuel _ wd h

theorem stuffWords_word_length (b : Nat) (hb : 1 ≤ b) (bits : List Bool) :
    ∀ wd ∈ stuffWords b bits, wd.length = b := by
  intro wd h
  unfold stuffWords at h
  split at h
  · simp at h; rw [h]; simp; omega
  · exact stuffAux_word_length b hb _ _ wd h

theorem stuffWords_values_lt (b : Nat) (hb : 1 ≤ b) (bits : List Bool) :
    ∀ x ∈ (stuffWords b bits).map fromBits, x < 2 ^ b := by
  intro x h
  obtain ⟨wd, hwd, rfl⟩ := List.mem_map.mp h
  have := fromBits_lt wd
  rwa [stuffWords_word_length b hb bits wd hwd] at this

/-! ### HighLevelDecode of a script -/

theorem hld_script (reg : Nat → Bool) (ops : List Op) (bits : List Bool)
    (henc : encodeScript .upper ops = some bits) (hok : scriptOK reg ops) (k : Nat) (hk : k < 12) :
    getEncodedData refTables reg (bits ++ List.replicate k true) =
      .ok (segments ((scriptItems .upper ops).map toEvent)) := by
  rw [getEncodedData_eq_run, show Ctl.init = mctl .upper from rfl,
    (script_runs ops .upper bits henc hok _).run_eq, pad_run reg _ k hk]
  simp [Except.map]

/-! ### segments of plain byte events -/

theorem foldl_bytes (bss : List (List Nat)) (d : Data) :
    (bss.map Event.bytes).foldl Data.apply d = { d with decoded := d.decoded ++ bss.flatten } := by
  induction bss generalizing d with
  | nil => simp
  | cons bs bss ih =>
    simp only [List.map_cons, List.foldl_cons, ih, Data.apply, List.flatten_cons, List.append_assoc]

theorem segments_bytes (bss : List (List Nat)) :
    segments (bss.map Event.bytes) =
      (if bss.flatten.isEmpty then [] else [.enc none bss.flatten]) := by
  unfold segments
  rw [foldl_bytes]
  simp only [Data.flush, List.nil_append]
  split <;> simp_all

theorem latin1_render (bs : List Nat) :
    renderDefault (if bs.isEmpty then [] else [.enc none bs]) = some (latin1ToUtf8 bs) := by
  split
  · rename_i h
    have : bs = [] := by simpa using h
    subst this; rfl
  · simp [renderDefault]

/-- the content of a script of data bytes only renders (ISO-8859-1 to UTF-8) to the script's bytes -/
theorem plain_render (ops : List Op) (h : PlainScript ops) :
    renderDefault (segments ((scriptItems .upper ops).map toEvent)) =
      some (latin1ToUtf8 (itemsBytes (scriptItems .upper ops))) := by
  obtain ⟨bss, h1, h2⟩ := plain_items ops h .upper
  rw [h1, h2, segments_bytes, latin1_render]

/-! ### codewords -/

theorem chunkWords_flatMap (w : Nat) (ws : List Nat) (h : ∀ x ∈ ws, x < 2 ^ w) :
    chunkWords w ws.length (ws.flatMap (toBits w)) = ws := by
  induction ws with
  | nil => rfl
  | cons x ws ih =>
    have hx : x < 2 ^ w := h x (by simp)
    have hrest : ∀ y ∈ ws, y < 2 ^ w := fun y hy => h y (by simp [hy])
    simp only [List.length_cons, chunkWords, List.flatMap_cons]
    have ht : (toBits w x ++ ws.flatMap (toBits w)).take w = toBits w x := by
      apply List.take_left'; exact length_toBits w x
    have hd : (toBits w x ++ ws.flatMap (toBits w)).drop w = ws.flatMap (toBits w) := by
      apply List.drop_left'; exact length_toBits w x
    rw [ht, hd, readCode_toBits w x hx, ih hrest]

theorem length_flatMap_toBits (w : Nat) (ws : List Nat) :
    (ws.flatMap (toBits w)).length = ws.length * w := by
  induction ws with
  | nil => simp
  | cons x ws ih => simp [length_toBits, ih, Nat.succ_mul]; omega

theorem codewordSize_eq (layers : Nat) : codewordSize layers = wordSize layers := rfl

theorem wordSize_bounds (layers : Nat) : 6 ≤ wordSize layers ∧ wordSize layers ≤ 12 := by
  unfold wordSize
  by_cases h1 : layers ≤ 2
  · simp [h1]
  · by_cases h2 : layers ≤ 8
    · simp [h1, h2]
    · by_cases h3 : layers ≤ 22 <;> simp [h1, h2, h3]

end Gzx.AztecCompose
