/-
  The WhiteRectangleDetector model (Gzx/Model/DetWhiteRect.lean) is total.  Each expansion loop ends within the
  distance of its border to the image edge; a round of the outer loop that reports a black point has moved some
  border, so `measure` (the four distances together) bounds the rounds.  With the box invariant the same loops read
  only inside the image, which is what the in-bounds theorem of Properties/C06Det.lean uses.
-/
import Gzx.Model.DetWhiteRect
import Gzx.Proofs.DetWalk
namespace Gzx.Det.WRD
open Gzx Gzx.Det

/-! ## containsBlackPoint -/

theorem scanLine_sat {rd : Reader} {R : Int → Int → Prop} (hrd : RdOK rd R) {E : Fault → Prop}
    (horizontal : Bool) (fixed : Int) :
    ∀ (n : Nat) (c : Int),
      (∀ k : Int, c ≤ k → k < c + n → if horizontal then R k fixed else R fixed k) →
      Sat E (fun _ => True) (scanLine rd horizontal fixed n c)
  | 0, _, _ => Sat.ok trivial
  | n + 1, c, hR => by
    have hread : Sat E (fun _ => True) (rd (if horizontal then c else fixed) (if horizontal then fixed else c)) := by
      cases horizontal <;> exact hrd.sat (by simpa using hR c (Int.le_refl c) (by omega))
    unfold scanLine
    exact Sat.then hread fun b => Sat.ite (fun _ => Sat.ok trivial) fun _ =>
      scanLine_sat hrd horizontal fixed n (c + 1) fun k h1 h2 => hR k (by omega) (by omega)

theorem containsBlackPoint_sat {rd : Reader} {R : Int → Int → Prop} (hrd : RdOK rd R) {E : Fault → Prop}
    (a b fixed : Int) (horizontal : Bool)
    (hR : ∀ k : Int, a ≤ k → k ≤ b → if horizontal then R k fixed else R fixed k) :
    Sat E (fun _ => True) (containsBlackPoint rd a b fixed horizontal) := by
  unfold containsBlackPoint
  exact scanLine_sat hrd horizontal fixed _ a (fun k h1 h2 => hR k h1 (by omega))

/-! ## one expansion loop -/

/-- Generic specification of `expandLoop`.  `I` is an invariant of the moving border, `J` says "the
    border has moved" (closed under further steps), `μ` the distance to the limit. -/
theorem expandLoop_sat {rd : Reader} {E : Fault → Prop} (horizontal : Bool) (a b step : Int) (lim : Int → Bool)
    (I J : Int → Prop) (μ : Int → Nat)
    (hcb : ∀ c, I c → lim c = true → Sat E (fun _ => True) (containsBlackPoint rd a b c horizontal))
    (hI : ∀ c, I c → lim c = true → I (c + step))
    (hJ : ∀ c, I c → lim c = true → J (c + step))
    (hμ : ∀ c, I c → lim c = true → μ (c + step) < μ c) :
    ∀ (n : Nat) (c : Int) (nw one found : Bool), I c →
      (((nw || !one) && lim c) = true → μ c < n) →
      Sat E (fun r => I r.1 ∧ (J c → J r.1) ∧ (r.2.2 = true → found = true ∨ J r.1))
        (expandLoop rd horizontal a b step lim n c nw one found)
  | 0, c, nw, one, found, hIc, hfuel => by
    unfold expandLoop
    exact Sat.ite (fun hc => absurd (hfuel hc) (Nat.not_lt_zero _)) fun _ => Sat.ok ⟨hIc, id, Or.inl⟩
  | n + 1, c, nw, one, found, hIc, hfuel => by
    unfold expandLoop
    refine Sat.ite (fun hc => ?_) fun _ => Sat.ok ⟨hIc, id, Or.inl⟩
    have hl : lim c = true := by simp only [Bool.and_eq_true] at hc; exact hc.2
    have hm := hfuel hc
    have hm' := hμ c hIc hl
    -- a round that moves the border
    have moved : ∀ nw' one' found', Sat E (fun r => I r.1 ∧ (J c → J r.1) ∧ (r.2.2 = true → found = true ∨ J r.1))
        (expandLoop rd horizontal a b step lim n (c + step) nw' one' found') := fun nw' one' found' =>
      Sat.mono (expandLoop_sat horizontal a b step lim I J μ hcb hI hJ hμ n (c + step) nw' one' found' (hI c hIc hl)
        (fun _ => by omega)) (fun _ h => h) fun r ⟨h1, h2, _⟩ =>
          ⟨h1, fun _ => h2 (hJ c hIc hl), fun _ => Or.inr (h2 (hJ c hIc hl))⟩
    exact Sat.bind (hcb c hIc hl) fun nw' _ => Sat.ite (fun _ => moved _ _ _) fun _ => Sat.ite (fun _ => moved _ _ _)
      fun hone => expandLoop_sat horizontal a b step lim I J μ hcb hI hJ hμ n c false one found hIc
        fun h => by simp only [Bool.false_or, Bool.and_eq_true] at h; exact absurd h.1 hone

theorem expandUp_sat {rd : Reader} (horizontal : Bool) (a b L c0 : Int) (one found : Bool)
    (hcb : ∀ c, c0 ≤ c → c < L → Sat NoFault (fun _ => True) (containsBlackPoint rd a b c horizontal)) :
    Sat NoFault (fun r => c0 ≤ r.1 ∧ (r.2.2 = true → found = true ∨ c0 < r.1))
      (expandLoop rd horizontal a b 1 (fun c => decide (c < L)) (fuelUp L c0) c0 true one found) := by
  refine Sat.mono (expandLoop_sat horizontal a b 1 _ (fun c => c0 ≤ c) (fun c => c0 < c) (fun c => (L - c).toNat)
    (fun c hc hl => hcb c hc (by simpa using hl)) (fun c hc _ => by omega) (fun c hc _ => by omega)
    (fun c _ hl => by have : c < L := by simpa using hl
                      omega)
    (fuelUp L c0) c0 true one found (Int.le_refl _) fun hl => by
      have : c0 < L := by simpa using hl
      unfold fuelUp; omega) (fun _ h => h) fun r ⟨h1, _, h3⟩ => ⟨h1, h3⟩

theorem expandDown_sat {rd : Reader} (horizontal : Bool) (a b c0 : Int) (one found : Bool)
    (hcb : ∀ c, c ≤ c0 → 0 ≤ c → Sat NoFault (fun _ => True) (containsBlackPoint rd a b c horizontal)) :
    Sat NoFault (fun r => r.1 ≤ c0 ∧ (0 ≤ c0 → -1 ≤ r.1) ∧ (r.2.2 = true → found = true ∨ r.1 < c0))
      (expandLoop rd horizontal a b (-1) (fun c => decide (c ≥ 0)) (fuelDown c0) c0 true one found) := by
  refine Sat.mono (expandLoop_sat horizontal a b (-1) _ (fun c => c ≤ c0 ∧ (0 ≤ c0 → -1 ≤ c)) (fun c => c < c0)
    (fun c => (c + 1).toNat)
    (fun c hc hl => hcb c hc.1 (by simpa using hl))
    (fun c hc hl => by have : c ≥ 0 := by simpa using hl
                       exact ⟨by omega, fun _ => by omega⟩)
    (fun c hc _ => by omega)
    (fun c _ hl => by have : c ≥ 0 := by simpa using hl
                      omega)
    (fuelDown c0) c0 true one found ⟨Int.le_refl _, fun h => by omega⟩ fun hl => by
      have : c0 ≥ 0 := by simpa using hl
      unfold fuelDown; omega) (fun _ h => h) fun r ⟨h1, _, h3⟩ => ⟨h1.1, h1.2, h3⟩

/-! ## one round of the outer loop -/

/-- the borders enclose a non-empty box with its top-left corner inside the image
    (what `new` establishes for `initSize ≥ 0`) -/
def Box (s : St) : Prop := 0 ≤ s.left ∧ s.left ≤ s.right ∧ 0 ≤ s.up ∧ s.up ≤ s.down

/-- what holds of every state with which the loop continues -/
def InLimits (w h : Int) (s : St) : Prop := s.right < w ∧ s.down < h ∧ 0 ≤ s.left ∧ 0 ≤ s.up

def measure (w h : Int) (s : St) : Int := (w - s.right) + (h - s.down) + (s.left + 1) + (s.up + 1)

def Grown (s s' : St) : Prop :=
  s.right ≤ s'.right ∧ s.down ≤ s'.down ∧ s'.left ≤ s.left ∧ s'.up ≤ s.up

/-- what one round achieves: borders only grow; a continuing round stays within the limits, and if it reports a
    black point on the border, some border has moved -/
def RoundOK (w h : Int) (s : St) (r : Option (St × Bool)) : Prop :=
  ∀ s' f, r = some (s', f) →
    Grown s s' ∧ InLimits w h s' ∧ (f = true → measure w h s' < measure w h s) ∧ (Box s → Box s')

/-- Specification of one round, for a reader that is total (`Or.inl`) or total on the image with the
    box invariant (`Or.inr`): no fault, and `RoundOK`. -/
theorem round_sat {rd : Reader} {R : Int → Int → Prop} (hrd : RdOK rd R) (w h : Int) (s : St)
    (hsafe : (∀ x y, R x y) ∨ (Box s ∧ InLimits w h s ∧ ∀ x y, (0 ≤ x ∧ x < w ∧ 0 ≤ y ∧ y < h) → R x y)) :
    Sat NoFault (RoundOK w h s) (round rd w h s) := by
  -- a scan of column `c` / of row `c` from `a` to `b` reads inside the image when the box is inside
  have column : ∀ a b c, (Box s → InLimits w h s → 0 ≤ c ∧ c < w ∧ 0 ≤ a ∧ b < h) →
      Sat NoFault (fun _ => True) (containsBlackPoint rd a b c false) := fun a b c hg =>
    containsBlackPoint_sat hrd a b c false fun k hk1 hk2 => by
      rcases hsafe with hall | ⟨hbox, hlim, hin⟩
      · exact hall _ _
      · have := hg hbox hlim
        exact hin _ _ ⟨by omega, by omega, by omega, by omega⟩
  have row : ∀ a b c, (Box s → InLimits w h s → 0 ≤ a ∧ b < w ∧ 0 ≤ c ∧ c < h) →
      Sat NoFault (fun _ => True) (containsBlackPoint rd a b c true) := fun a b c hg =>
    containsBlackPoint_sat hrd a b c true fun k hk1 hk2 => by
      rcases hsafe with hall | ⟨hbox, hlim, hin⟩
      · exact hall _ _
      · have := hg hbox hlim
        exact hin _ _ ⟨by omega, by omega, by omega, by omega⟩
  have exceeded : Sat NoFault (RoundOK w h s) (pure none) := fun _ _ h => nomatch h
  unfold round
  refine Sat.bind (expandUp_sat false s.up s.down w s.right s.oneR false fun c hc hl =>
    column _ _ c fun ⟨_, _, _, _⟩ ⟨_, _, _, _⟩ => ⟨by omega, hl, by omega, by omega⟩)
    fun r1 ⟨hr1, hf1⟩ => Sat.ite (fun _ => exceeded) fun hx1 => ?_
  refine Sat.bind (expandUp_sat true s.left r1.1 h s.down s.oneB r1.2.2 fun c hc hl =>
    row _ _ c fun ⟨_, _, _, _⟩ ⟨_, _, _, _⟩ => ⟨by omega, by omega, by omega, hl⟩)
    fun r2 ⟨hr2, hf2⟩ => Sat.ite (fun _ => exceeded) fun hx2 => ?_
  refine Sat.bind (expandDown_sat false s.up r2.1 s.left s.oneL r2.2.2 fun c hc hl =>
    column _ _ c fun ⟨_, _, _, _⟩ ⟨_, _, _, _⟩ => ⟨hl, by omega, by omega, by omega⟩)
    fun r3 ⟨hr3, hr3', hf3⟩ => Sat.ite (fun _ => exceeded) fun hx3 => ?_
  refine Sat.bind (expandDown_sat true r3.1 r1.1 s.up s.oneT r3.2.2 fun c hc hl =>
    row _ _ c fun ⟨_, _, _, _⟩ ⟨_, _, _, _⟩ => ⟨by omega, by omega, hl, by omega⟩)
    fun r4 ⟨hr4, _, hf4⟩ => Sat.ite (fun _ => exceeded) fun hx4 => Sat.ok ?_
  intro s' f hs
  cases hs
  refine ⟨⟨hr1, hr2, hr3, hr4⟩, ⟨by simp only []; omega, by simp only []; omega, by simp only []; omega,
    by simp only []; omega⟩, fun hf => ?_, fun ⟨_, _, _, _⟩ => ⟨by simp only []; omega, by simp only []; omega,
      by simp only []; omega, by simp only []; omega⟩⟩
  -- the flag of the last loop is up: one of the four borders has moved
  simp only [measure]
  rcases hf4 hf with h | h
  · rcases hf3 h with h | h
    · rcases hf2 h with h | h
      · rcases hf1 h with h | h
        · cases h
        · omega
      · omega
    · omega
  · omega

/-! ## the outer loop -/

theorem detectLoop_sat {rd : Reader} {R : Int → Int → Prop} (hrd : RdOK rd R) (w h : Int) :
    ∀ (n : Nat) (s : St),
      ((∀ x y, R x y) ∨ (Box s ∧ InLimits w h s ∧ ∀ x y, (0 ≤ x ∧ x < w ∧ 0 ≤ y ∧ y < h) → R x y)) →
      (measure w h s).toNat < n →
      Sat NoFault (fun r => ∀ s', r = some s' → InLimits w h s' ∧ (Box s → Box s'))
        (detectLoop rd w h n s)
  | 0, _, _, hm => absurd hm (Nat.not_lt_zero _)
  | n + 1, s, hsafe, hm => by
    unfold detectLoop
    refine Sat.bind (round_sat hrd w h s hsafe) fun r hr => ?_
    rcases r with _ | ⟨s', f⟩
    · exact Sat.ok nofun
    obtain ⟨hg, hlim, hdec, hbox⟩ := hr s' f rfl
    refine Sat.ite (fun hf => ?_) fun _ => Sat.ok fun s'' hs => by cases hs; exact ⟨hlim, hbox⟩
    have hd := hdec hf
    have hpos : 0 < measure w h s' := by
      obtain ⟨l1, l2, l3, l4⟩ := hlim
      simp only [measure]; omega
    refine Sat.mono (detectLoop_sat hrd w h n s' (hsafe.imp id fun ⟨hb, _, hin⟩ => ⟨hbox hb, hlim, hin⟩) (by omega))
      (fun _ h => h) fun r hr' s'' hs => ?_
    obtain ⟨h1, h2⟩ := hr' s'' hs
    exact ⟨h1, fun hb => h2 (hbox hb)⟩

/-! ## corner search -/

theorem segLoop_sat {F : Type} (o : FOps F) {rd : Reader} (hrd : Total rd)
    (aX aY : Int) (xStep yStep : F) :
    ∀ (n : Nat) (i : Int),
      Sat NoFault (fun r => ∀ p, r = some p → rd p.1 p.2 = .ok true) (segLoop o rd aX aY xStep yStep n i)
  | 0, _ => Sat.ok nofun
  | n + 1, i => by
    unfold segLoop
    refine Sat.bind_eq (hrd.sat trivial) fun b hb _ => ?_
    cases b with
    | true => exact Sat.ok fun p hp => by cases hp; exact hb
    | false => exact segLoop_sat o hrd aX aY xStep yStep n (i + 1)

theorem getBlackPointOnSegment_sat {F : Type} (o : FOps F) {rd : Reader} (hrd : Total rd)
    (aX aY bX bY : Int) :
    Sat NoFault (fun r => ∀ p, r = some p → rd p.1 p.2 = .ok true) (getBlackPointOnSegment o rd aX aY bX bY) := by
  unfold getBlackPointOnSegment
  exact segLoop_sat o hrd _ _ _ _ _ _

theorem cornerLoop_sat {F : Type} (o : FOps F) {rd : Reader} (hrd : Total rd)
    (seg : Int → Int × Int × Int × Int) :
    ∀ (n : Nat) (i : Int),
      Sat NoFault (fun r => ∀ p, r = some p → rd p.1 p.2 = .ok true) (cornerLoop o rd seg n i)
  | 0, _ => Sat.ok nofun
  | n + 1, i => by
    unfold cornerLoop
    refine Sat.bind (getBlackPointOnSegment_sat o hrd _ _ _ _) fun r hr => ?_
    cases r with
    | none => exact cornerLoop_sat o hrd seg n (i + 1)
    | some p => exact Sat.ok fun q hq => by cases hq; exact hr p rfl

/-- "black" of a list of four points built by `centerEdges` from pixels the reader answered `true` for -/
def FromBlack (rd : Reader) (pts : List (Int × Int)) : Prop :=
  ∃ y z x t : Int × Int, rd y.1 y.2 = .ok true ∧ rd z.1 z.2 = .ok true ∧ rd x.1 x.2 = .ok true ∧
    rd t.1 t.2 = .ok true ∧
    (pts = [(t.1 - 1, t.2 + 1), (z.1 + 1, z.2 + 1), (x.1 - 1, x.2 - 1), (y.1 + 1, y.2 - 1)] ∨
     pts = [(t.1 + 1, t.2 + 1), (z.1 + 1, z.2 - 1), (x.1 - 1, x.2 + 1), (y.1 - 1, y.2 - 1)])

theorem corners_sat {F : Type} (o : FOps F) {rd : Reader} (hrd : Total rd) (w : Int) (s : St) :
    Sat OnlyNotFound (FromBlack rd) (corners o rd w s) := by
  unfold corners
  simp only []
  refine Sat.bind (Sat.lift (cornerLoop_sat o hrd _ _ _)) ?_
  intro rz hz
  cases rz with
  | none => exact rfl
  | some z =>
  refine Sat.bind (Sat.lift (cornerLoop_sat o hrd _ _ _)) ?_
  intro rt ht
  cases rt with
  | none => exact rfl
  | some t =>
  refine Sat.bind (Sat.lift (cornerLoop_sat o hrd _ _ _)) ?_
  intro rx hx
  cases rx with
  | none => exact rfl
  | some x =>
  refine Sat.bind (Sat.lift (cornerLoop_sat o hrd _ _ _)) ?_
  intro ry hy
  cases ry with
  | none => exact rfl
  | some y =>
  refine Sat.ok ?_
  refine ⟨y, z, x, t, hy y rfl, hz z rfl, hx x rfl, ht t rfl, ?_⟩
  unfold centerEdges
  by_cases hc : 2 * y.1 < w
  · simp [hc]
  · simp [hc]

/-! ## constructor and `Detect` on an image with the bounds-checked `Get` -/

theorem new_sat (w h initSize x y : Int) :
    Sat OnlyNotFound (fun d => 0 ≤ d.upInit ∧ 0 ≤ d.leftInit ∧ d.downInit < h ∧ d.rightInit < w)
      (new w h initSize x y) := by
  unfold new
  simp only []
  exact Sat.ite (fun _ => Sat.error rfl) fun hc => Sat.ok (by simp only []; omega)

theorem get_true_inside (img : Img) (x y : Int) (h : img.rdGo x y = .ok true) : img.inside x y := by
  simp only [Img.rdGo, Img.get, Except.ok.injEq] at h
  by_cases ho : img.outside x y = true
  · simp [ho] at h
  · simp only [Img.outside, Bool.or_eq_true, decide_eq_true_eq, not_or] at ho
    exact ⟨by omega, by omega, by omega, by omega⟩

/-- four points built from black pixels of the image, each moved by one pixel: within one pixel of the image -/
theorem fromBlack_near (img : Img) (pts : List (Int × Int)) (h : FromBlack img.rdGo pts) :
    pts.length = 4 ∧ ∀ p ∈ pts, -1 ≤ p.1 ∧ p.1 ≤ img.w ∧ -1 ≤ p.2 ∧ p.2 ≤ img.h := by
  obtain ⟨y, z, x, t, hy, hz, hx, ht, hp⟩ := h
  have iy := get_true_inside img _ _ hy
  have iz := get_true_inside img _ _ hz
  have ix := get_true_inside img _ _ hx
  have it := get_true_inside img _ _ ht
  simp only [Img.inside] at iy iz ix it
  rcases hp with hp | hp <;> subst hp <;> refine ⟨rfl, ?_⟩ <;> intro p hp <;>
    simp only [List.mem_cons, List.mem_nil_iff, or_false] at hp <;>
    rcases hp with rfl | rfl | rfl | rfl <;> simp only [] <;> omega

/-- `Detect` from any detector state: the outer loop ends within `detectFuel` rounds, and the outcome is four
    points within one pixel of the image or NotFoundException -/
theorem detect_sat {F : Type} (o : FOps F) (img : Img) (d : WR) :
    Sat OnlyNotFound (fun pts => pts.length = 4 ∧ ∀ p ∈ pts, -1 ≤ p.1 ∧ p.1 ≤ img.w ∧ -1 ≤ p.2 ∧ p.2 ≤ img.h)
      (detect o img.rdGo img.w img.h d) := by
  unfold detect
  have hl := detectLoop_sat (rdGo_ok img) img.w img.h (detectFuel img.w img.h (initSt d)) (initSt d)
    (Or.inl (fun _ _ => trivial)) (by unfold detectFuel measure; omega)
  refine Sat.bind (Sat.lift hl) fun r _ => ?_
  cases r with
  | none => exact rfl
  | some s => exact (corners_sat o (rdGo_ok img) img.w s).post fun _ h => fromBlack_near img _ h

theorem newAndDetect_sat {F : Type} (o : FOps F) (img : Img) (initSize x y : Int) :
    Sat OnlyNotFound (fun pts => pts.length = 4 ∧ ∀ p ∈ pts, -1 ≤ p.1 ∧ p.1 ≤ img.w ∧ -1 ≤ p.2 ∧ p.2 ≤ img.h)
      (newAndDetect o img.rdGo img.w img.h initSize x y) := by
  unfold newAndDetect
  exact Sat.then (new_sat img.w img.h initSize x y) fun d => detect_sat o img d

end Gzx.Det.WRD
