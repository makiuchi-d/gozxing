/-
  wp `qrenc` — the invariant under which the embed loops of matrix_util.go are run symbolically:
  `Drawn n T W m` says that the n×n matrix `m` holds the target value `T x y` on the set `W` of cells drawn so far
  and the empty marker -1 elsewhere.  A `Set` of the target value adds a cell to `W`, a `Get` is decided by `W`, a loop
  adds the cells of its iterations (`Drawn.loop`, `Drawn.fold`); the emptiness tests of the Go code (separators,
  alignment centres, timing) become questions about `W`.  Generic in `T`, so that the same lemmas serve the position
  tags of `FuncOK` and the real format / version bits.
-/
import Gzx.Proofs.QREncFuncDefs
import Gzx.Proofs.QREncInv
namespace Gzx.QREnc
open Gzx Gzx.QRRef

/-! ### the invariant -/

structure Drawn (n : Nat) (T : Nat → Nat → Int) (W : Nat → Nat → Prop) (m : ByteMatrix) : Prop where
  wf : WFM n m
  on : ∀ x y, x < n → y < n → W x y → cell m x y = T x y
  off : ∀ x y, x < n → y < n → ¬ W x y → cell m x y = -1

variable {n : Nat} {T : Nat → Nat → Int} {W : Nat → Nat → Prop} {m : ByteMatrix}

abbrev withCell (W : Nat → Nat → Prop) (a b : Nat) : Nat → Nat → Prop := fun a' b' => W a' b' ∨ (a' = a ∧ b' = b)

abbrev rect (xs ys w h : Nat) : Nat → Nat → Prop := fun a b => xs ≤ a ∧ a < xs + w ∧ ys ≤ b ∧ b < ys + h

theorem Drawn.congr {W' : Nat → Nat → Prop} (h : Drawn n T W m)
    (hw : ∀ x y, x < n → y < n → (W x y ↔ W' x y)) : Drawn n T W' m :=
  ⟨h.wf, fun x y hx hy hW => h.on x y hx hy ((hw x y hx hy).mpr hW),
    fun x y hx hy hW => h.off x y hx hy (fun h' => hW ((hw x y hx hy).mp h'))⟩

theorem Drawn.retarget {T' : Nat → Nat → Int} (h : Drawn n T W m) (hT : ∀ x y, W x y → T x y = T' x y) :
    Drawn n T' W m :=
  ⟨h.wf, fun x y hx hy hW => (h.on x y hx hy hW).trans (hT x y hW), h.off⟩

theorem drawn_empty (n : Nat) (T : Nat → Nat → Int) : Drawn n T (fun _ _ => False) (emptyMatrix n) := by
  refine ⟨⟨rfl, rfl, by simp [emptyMatrix], ?_⟩, fun _ _ _ _ h => h.elim, ?_⟩
  · intro r hr
    simp only [emptyMatrix] at hr
    rw [List.eq_of_mem_replicate hr]; simp
  · intro x y hx hy _
    unfold cell emptyMatrix
    simp [List.getD_eq_getElem?_getD, hx, hy]

theorem Drawn.set (h : Drawn n T W m) {x y : Int} {a b : Nat} (hx : x = a) (hy : y = b) (ha : a < n) (hb : b < n)
    {val : Int} (hv : val = T a b) :
    ∃ m', m.set x y val = .ok m' ∧ Drawn n T (withCell W a b) m' := by
  subst hx hy
  refine ⟨setC m a b val, set_nat h.wf ha hb val, setC_wfm h.wf _ _ _, ?_, ?_⟩
  · intro x' y' hx' hy' hW
    rw [cell_setC h.wf ha hb]
    by_cases hc : x' = a ∧ y' = b
    · rw [if_pos hc, hc.1, hc.2, hv]
    · rw [if_neg hc]; exact h.on x' y' hx' hy' (hW.resolve_right hc)
  · intro x' y' hx' hy' hW
    rw [cell_setC h.wf ha hb, if_neg (fun hc => hW (Or.inr hc))]
    exact h.off x' y' hx' hy' (fun hc => hW (Or.inl hc))

theorem withCell_iff {a b a' b' : Nat} (hw : W a b) : withCell W a b a' b' ↔ W a' b' :=
  ⟨fun h => h.elim id (fun ⟨e1, e2⟩ => e1 ▸ e2 ▸ hw), Or.inl⟩

theorem Drawn.set_drawn (h : Drawn n T W m) {x y : Int} {a b : Nat} (hx : x = a) (hy : y = b) (ha : a < n) (hb : b < n)
    {val : Int} (hv : val = T a b) (hw : W a b) : ∃ m', m.set x y val = .ok m' ∧ Drawn n T W m' :=
  (h.set hx hy ha hb hv).imp fun _ h' => ⟨h'.1, h'.2.congr fun _ _ _ _ => withCell_iff hw⟩

theorem Drawn.get_off (h : Drawn n T W m) {x y : Int} {a b : Nat} (hx : x = a) (hy : y = b) (ha : a < n) (hb : b < n)
    (hW : ¬ W a b) : m.get x y = .ok (-1) := by
  subst hx hy
  rw [get_nat h.wf ha hb, h.off a b ha hb hW]

theorem Drawn.get_on (h : Drawn n T W m) {x y : Int} {a b : Nat} (hx : x = a) (hy : y = b) (ha : a < n) (hb : b < n)
    (hW : W a b) : m.get x y = .ok (T a b) := by
  subst hx hy
  rw [get_nat h.wf ha hb, h.on a b ha hb hW]

theorem Drawn.eq_table (h : Drawn n T W m) (hoff : ∀ x y, x < n → y < n → ¬ W x y → T x y = -1) : m = tableOf n T := by
  refine wfm_ext h.wf (tableOf_wfm n T) (fun x y hx hy => ?_)
  rw [tableOf_cell n T x y hx hy]
  by_cases hw : W x y
  · exact h.on x y hx hy hw
  · rw [h.off x y hx hy hw, hoff x y hx hy hw]

/-! ### loops -/

/-- `W` and what iterations `j < k` drew (`S j`) -/
def upto (W : Nat → Nat → Prop) (S : Nat → Nat → Nat → Prop) (k : Nat) : Nat → Nat → Prop :=
  fun a b => W a b ∨ ∃ j, j < k ∧ S j a b

theorem upto_zero {S : Nat → Nat → Nat → Prop} {a b : Nat} : W a b ↔ upto W S 0 a b :=
  ⟨Or.inl, fun h => h.elim id (fun ⟨_, h0, _⟩ => absurd h0 (Nat.not_lt_zero _))⟩

theorem upto_succ {S : Nat → Nat → Nat → Prop} {k a b : Nat} : upto W S (k + 1) a b ↔ upto W S k a b ∨ S k a b := by
  unfold upto
  constructor
  · rintro (h | ⟨j, hj, hs⟩)
    · exact Or.inl (Or.inl h)
    · by_cases hjk : j = k
      · subst hjk; exact Or.inr hs
      · exact Or.inl (Or.inr ⟨j, by omega, hs⟩)
  · rintro ((h | ⟨j, hj, hs⟩) | hs)
    · exact Or.inl h
    · exact Or.inr ⟨j, by omega, hs⟩
    · exact Or.inr ⟨k, by omega, hs⟩

/-- the iterations `j < k` of a loop along one coordinate, from `o` -/
theorem exists_lt_add {k o t : Nat} {P : Prop} : (∃ j, j < k ∧ t = o + j ∧ P) ↔ (P ∧ o ≤ t ∧ t < o + k) :=
  ⟨fun ⟨j, hj, ht, hp⟩ => ⟨hp, by omega, by omega⟩, fun ⟨hp, h1, h2⟩ => ⟨t - o, by omega, by omega, hp⟩⟩

theorem exists_lt_add' {k o t : Nat} {P : Prop} : (∃ j, j < k ∧ P ∧ t = o + j) ↔ (P ∧ o ≤ t ∧ t < o + k) :=
  (exists_congr fun _ => and_congr_right fun _ => and_comm).trans exists_lt_add

/-- The shape the embed loops share: iteration `k` draws the cells `S k`; `W'` is `W` and all of them.
    (`W'` is a parameter so that the loop body is found by unification with the goal.) -/
theorem Drawn.loop {W' : Nat → Nat → Prop} (h : Drawn n T W m) (lo : Int) (cnt : Nat)
    (body : Int → ByteMatrix → Res ByteMatrix) (S : Nat → Nat → Nat → Prop)
    (hbody : ∀ (k : Nat) m, k < cnt → Drawn n T (upto W S k) m →
      ∃ m', body (lo + (k : Nat)) m = .ok m' ∧ Drawn n T (fun a b => upto W S k a b ∨ S k a b) m')
    (hW : ∀ a b, a < n → b < n → (upto W S cnt a b ↔ W' a b)) :
    ∃ m', forRange lo (lo + cnt) body m = .ok m' ∧ Drawn n T W' m' :=
  forRange_total (fun k m => Drawn n T (upto W S k) m) _ lo cnt body m
    (h.congr (fun _ _ _ _ => upto_zero))
    (fun k s hk hs => (hbody k s hk hs).imp (fun _ h => ⟨h.1, h.2.congr (fun _ _ _ _ => upto_succ.symm)⟩))
    (fun _ hd => hd.congr hW)

/-- `Drawn.loop` for a loop over a list: the iteration for `c` draws the cells `S c` -/
theorem Drawn.fold {ι : Type} {W' : Nat → Nat → Prop} (hd : Drawn n T W m) (l : List ι)
    (body : ByteMatrix → ι → Res ByteMatrix) (S : ι → Nat → Nat → Prop)
    (hbody : ∀ pre c post m, l = pre ++ c :: post → Drawn n T (fun x y => W x y ∨ ∃ c' ∈ pre, S c' x y) m →
      ∃ m', body m c = .ok m' ∧ Drawn n T (fun x y => (W x y ∨ ∃ c' ∈ pre, S c' x y) ∨ S c x y) m')
    (hW : ∀ x y, x < n → y < n → ((W x y ∨ ∃ c ∈ l, S c x y) ↔ W' x y)) :
    ∃ m', l.foldlM body m = .ok m' ∧ Drawn n T W' m' := by
  obtain ⟨m', e, d⟩ := foldlM_total (fun pre m => Drawn n T (fun x y => W x y ∨ ∃ c' ∈ pre, S c' x y) m) body l l [] m rfl
    (hd.congr (fun a b _ _ => ⟨Or.inl, fun h => h.resolve_right (fun ⟨_, h, _⟩ => by cases h)⟩))
    (fun pre c post m hl d => (hbody pre c post m hl d).imp (fun _ h => ⟨h.1, h.2.congr (fun a b _ _ => by
      simp only [List.mem_append, List.mem_singleton, or_and_right, exists_or, exists_eq_left, or_assoc])⟩))
  exact ⟨m', e, d.congr hW⟩

/-- the double loop of `embedPositionDetectionPattern` / `embedPositionAdjustmentPattern`: a `w × h` block at
    `(xs, ys)` whose pattern holds the target values -/
theorem Drawn.block (hd : Drawn n T W m) (pat : List (List Int)) (w h xs ys : Nat) (xsI ysI : Int)
    (hxs : xsI = xs) (hys : ysI = ys) (hx : xs + w ≤ n) (hy : ys + h ≤ n)
    (hpat : ∀ j, j < h → ∃ row, pat[j]? = some row ∧ ∀ i, i < w → row[i]? = some (T (xs + i) (ys + j))) :
    ∃ m', forRange 0 (0 + (h : Nat)) (fun y m => do
        let patternY ← idx pat y
        forRange 0 (0 + (w : Nat)) (fun x m => do
          let val ← idx patternY x
          m.set (xsI + x) (ysI + y) val) m) m = .ok m' ∧
      Drawn n T (fun a b => W a b ∨ rect xs ys w h a b) m' := by
  refine hd.loop 0 h _ (fun j a b => b = ys + j ∧ xs ≤ a ∧ a < xs + w) (fun j m hj hdj => ?_)
    (fun a b _ _ => or_congr_right (exists_lt_add.trans and_assoc))
  obtain ⟨row, hrow, hcells⟩ := hpat j hj
  rw [idx_some (by omega) hrow, ok_bind]
  refine hdj.loop 0 w _ (fun i a b => a = xs + i ∧ b = ys + j) (fun i m hi hdi => ?_)
    (fun a b _ _ => or_congr_right exists_lt_add)
  rw [idx_some (by omega) (hcells i hi), ok_bind]
  exact hdi.set (a := xs + i) (b := ys + j) (by omega) (by omega) (by omega) (by omega) rfl

/-- a separator cell: it must still be empty and is set to the target value 0 -/
theorem Drawn.sepCell (hd : Drawn n T W m) {x y : Int} {a b : Nat} (hx : x = a) (hy : y = b) (ha : a < n) (hb : b < n)
    (hfree : ¬ W a b) (hT : T a b = 0) :
    ∃ m', (do
        if !isEmpty (← m.get x y) then .error .writer
        m.set x y 0) = .ok m' ∧ Drawn n T (withCell W a b) m' := by
  rw [hd.get_off hx hy ha hb hfree, ok_bind]
  exact hd.set hx hy ha hb hT.symm

/-- `if isEmpty (Get(x, y)) then Set(x, y, val)`, where `val` is the target unless the cell is already drawn,
    followed by the rest `k` of the loop body (the shape `do` gives it: `k` in both branches) -/
theorem Drawn.setIfEmpty_then {β : Type} (hd : Drawn n T W m) (hne : ∀ a b, W a b → isEmpty (T a b) = false)
    {x y : Int} {a b : Nat} (hx : x = a) (hy : y = b) (ha : a < n) (hb : b < n) {val : Int} (hv : ¬ W a b → val = T a b)
    (k : ByteMatrix → Res β) (Q : β → Prop)
    (hk : ∀ m', Drawn n T (withCell W a b) m' → ∃ r, k m' = .ok r ∧ Q r) :
    ∃ r, (m.get x y >>= fun c => if isEmpty c = true then m.set x y val >>= k else pure m >>= k) = .ok r ∧ Q r := by
  by_cases hw : W a b
  · rw [hd.get_on hx hy ha hb hw, ok_bind, if_neg (by rw [hne a b hw]; decide)]
    exact hk m (hd.congr (fun _ _ _ _ => (withCell_iff hw).symm))
  · rw [hd.get_off hx hy ha hb hw, ok_bind]
    exact seq_ok (hd.set hx hy ha hb (hv hw)) hk

/-- the same step at the end of a loop body -/
theorem Drawn.setIfEmpty (hd : Drawn n T W m) (hne : ∀ a b, W a b → isEmpty (T a b) = false)
    {x y : Int} {a b : Nat} (hx : x = a) (hy : y = b) (ha : a < n) (hb : b < n) {val : Int} (hv : ¬ W a b → val = T a b) :
    ∃ m', (do if isEmpty (← m.get x y) then m.set x y val else pure m) = .ok m' ∧
      Drawn n T (withCell W a b) m' := by
  by_cases hw : W a b
  · rw [hd.get_on hx hy ha hb hw, ok_bind, if_neg (by rw [hne a b hw]; decide)]
    exact ⟨m, rfl, hd.congr (fun _ _ _ _ => (withCell_iff hw).symm)⟩
  · rw [hd.get_off hx hy ha hb hw, ok_bind]
    exact hd.set hx hy ha hb (hv hw)

end Gzx.QREnc
