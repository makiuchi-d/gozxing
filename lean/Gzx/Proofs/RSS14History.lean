/-
  The pair history of the RSS-14 reader: the counts, and why a fresh reader needs three sightings
  (`decodeRow_notFound_of_counts`, `decodeRow_empty_counts`); the remembered values stay pairwise distinct and each call
  adds at most one pair (`tally_values`, `tally_none`, `addOrTally_nodup`).
-/
import Gzx.Proofs.RSS14Total
namespace Gzx.Proofs.RSS14Total
open Gzx Gzx.Det Gzx.RSS14

def AllCountLe (n : Nat) (ps : List Pair) : Prop := ∀ p ∈ ps, p.count ≤ n

theorem tally_counts {v : Int} : ∀ {ps ps' : List Pair} {n : Nat}, tally v ps = some ps' → AllCountLe n ps →
    AllCountLe (n + 1) ps'
  | [], _, _, h, _ => by simp [tally] at h
  | p :: ps, ps', n, h, hc => by
    unfold tally at h
    split at h
    · cases h
      intro q hq
      simp only [List.mem_cons] at hq
      rcases hq with rfl | hq
      · have := hc p (by simp); simp only []; omega
      · have := hc q (by simp [hq]); omega
    · cases ht : tally v ps with
      | none => rw [ht] at h; simp at h
      | some r =>
        rw [ht] at h
        simp only [Option.map_some, Option.some.injEq] at h
        subst h
        have ih := tally_counts ht (fun q hq => hc q (by simp [hq]))
        intro q hq
        simp only [List.mem_cons] at hq
        rcases hq with rfl | hq
        · have := hc q (by simp); omega
        · exact ih q hq

theorem addOrTally_counts {ps : List Pair} {n : Nat} (hc : AllCountLe n ps) (p : Option Pair)
    (hp : ∀ q, p = some q → q.count = 0) : AllCountLe (n + 1) (addOrTally ps p) := by
  unfold addOrTally
  cases p with
  | none => intro q hq; have := hc q hq; omega
  | some q =>
    simp only []
    cases ht : tally q.value ps with
    | some r => exact tally_counts ht hc
    | none =>
      intro x hx
      simp only [List.mem_append, List.mem_singleton] at hx
      rcases hx with hx | rfl
      · have := hc x hx; omega
      · rw [hp x rfl]; omega

theorem addOrTally_nil (p : Option Pair) (hp : ∀ q, p = some q → q.count = 0) : AllCountLe 0 (addOrTally [] p) := by
  unfold addOrTally
  cases p with
  | none => intro q hq; simp at hq
  | some q =>
    simp only [tally]
    intro x hx
    simp only [List.nil_append, List.mem_singleton] at hx
    subst hx
    rw [hp x rfl]; omega

theorem findMatch_count {rights : List Pair} : ∀ {lefts : List Pair} {l r : Pair},
    findMatch rights lefts = some (l, r) → l ∈ lefts ∧ l.count > 1
  | [], _, _, h => by simp [findMatch] at h
  | x :: xs, l, r, h => by
    unfold findMatch at h
    split at h
    · rename_i hx
      split at h
      · cases h; exact ⟨by simp, hx⟩
      · have := findMatch_count h; exact ⟨by simp [this.1], this.2⟩
    · have := findMatch_count h; exact ⟨by simp [this.1], this.2⟩

section
variable {F : Type} (o : FOps F)

theorem decodePair_count (T : Tables) (row : List Bool) (right : Bool) (rn : Int) (cb : Bool) (q : Pair)
    (h : (decodePair o T row right rn cb).2 = .ok (some q)) : q.count = 0 := by
  unfold decodePair at h
  repeat' split at h
  all_goals first
    | (cases h; done)
    | (simp only [Except.ok.injEq, Option.some.injEq] at h; subst h; rfl)
    | (simp at h)

/-- all left counts ≤ 1 after the tally: no left pair qualifies, the call is NotFound -/
theorem decodeRow_notFound_of_counts (T : Tables) (wf : WFRSS T) (st : State) (rn : Int) (row : List Bool) (cb : Bool)
    (hc : AllCountLe 0 st.left) :
    (decodeRow o T st rn row cb).2.2 = .error .notFound ∧ AllCountLe 1 (decodeRow o T st rn row cb).1.left := by
  unfold decodeRow
  obtain ⟨lp, hlp, -⟩ := (decodePair_sat o T wf row false rn cb).total
  obtain ⟨rp, hrp, -⟩ := (decodePair_sat o T wf row.reverse true rn cb).total
  have hl1 : AllCountLe 1 (addOrTally st.left lp) :=
    addOrTally_counts hc lp (fun q hq => decodePair_count o T row false rn cb q (by rw [hlp, hq]))
  simp only [hlp, hrp]
  refine ⟨?_, hl1⟩
  split
  · rename_i l r hm
    have := findMatch_count hm
    have := hl1 l this.1
    omega
  · rfl

/-- from the empty history: the first call leaves counts 0 -/
theorem decodeRow_empty_counts (T : Tables) (wf : WFRSS T) (rn : Int) (row : List Bool) (cb : Bool) :
    AllCountLe 0 (decodeRow o T State.empty rn row cb).1.left := by
  unfold decodeRow
  obtain ⟨lp, hlp, -⟩ := (decodePair_sat o T wf row false rn cb).total
  obtain ⟨rp, hrp, -⟩ := (decodePair_sat o T wf row.reverse true rn cb).total
  simp only [hlp, hrp, State.empty]
  exact addOrTally_nil lp (fun q hq => decodePair_count o T row false rn cb q (by rw [hlp, hq]))
end

/-! ## pairs are remembered by value -/

theorem tally_values {v : Int} : ∀ {ps ps' : List Pair}, tally v ps = some ps' → ps'.map (·.value) = ps.map (·.value)
  | [], _, h => by simp [tally] at h
  | p :: ps, ps', h => by
    unfold tally at h
    split at h
    · cases h; rfl
    · cases ht : tally v ps with
      | none => rw [ht] at h; simp at h
      | some r =>
        rw [ht] at h
        simp only [Option.map_some, Option.some.injEq] at h
        subst h
        simp [tally_values ht]

theorem tally_none {v : Int} : ∀ {ps : List Pair}, tally v ps = none → v ∉ ps.map (·.value)
  | [], _ => by simp
  | p :: ps, h => by
    unfold tally at h
    split at h
    · cases h
    · rename_i hne
      cases ht : tally v ps with
      | some r => rw [ht] at h; simp at h
      | none =>
        have := tally_none ht
        simp only [List.map_cons, List.mem_cons, not_or]
        exact ⟨fun e => hne e.symm, this⟩

theorem addOrTally_nodup {ps : List Pair} (hn : (ps.map (·.value)).Nodup) (p : Option Pair) :
    ((addOrTally ps p).map (·.value)).Nodup ∧ (addOrTally ps p).length ≤ ps.length + 1 := by
  unfold addOrTally
  cases p with
  | none => exact ⟨hn, Nat.le_succ _⟩
  | some q =>
    simp only []
    cases ht : tally q.value ps with
    | some r =>
      have hv := tally_values ht
      refine ⟨by rw [hv]; exact hn, ?_⟩
      have : r.length = ps.length := by
        have := congrArg List.length hv
        simpa using this
      show r.length ≤ ps.length + 1
      omega
    | none =>
      have hnot := tally_none ht
      refine ⟨?_, by simp⟩
      rw [List.map_append, List.nodup_append]
      refine ⟨hn, by simp, ?_⟩
      intro a ha b hb
      simp only [List.map_cons, List.map_nil, List.mem_singleton] at hb
      subst hb
      intro e; subst e; exact hnot ha

end Gzx.Proofs.RSS14Total
