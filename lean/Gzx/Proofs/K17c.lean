/-
  Lemmas for `Obligations/K17c.lean` and `K17d.lean`, the block loops of the hybrid binariser: the 5x5 average, the casts and
  the scan / neighbour facts of `calculateBlackPoints`, and the mirror of `calculateThresholdForBlock` on the word slice with
  its agreement with `Binarizer.hybridBlocks`.  Nothing here mentions a generated definition.
-/
import Gzx.Proofs.K17b
namespace Gzx.K17c
open Gzx Gzx.GoM Gzx.Bits Gzx.Binarizer Gzx.K17 Gzx.K17b

/-! ### the 5x5 average of `calculateThresholdForBlock` -/

/-- the sum of the 25 black points around `(left, top)`, rows `top-2 … top+2` in order -/
def thrSum (bps : List (List Nat)) (top left : Nat) : Res Nat :=
  if top < 2 then .error (.panic "blackPoints[top-2]")
  else
    match mapME (rowSum5 bps left) [top - 2, top - 1, top, top + 1, top + 2] with
    | .error e => .error e
    | .ok sums => .ok (sums.foldl (· + ·) 0)

theorem blockThreshold_eq (bps : List (List Nat)) (subW subH x y : Nat) :
    blockThreshold bps subW subH x y = (thrSum bps (cap y 2 (subH - 3)) (cap x 2 (subW - 3))).map (· / 25) := by
  unfold blockThreshold thrSum
  by_cases h : cap y 2 (subH - 3) < 2
  · simp [h, Except.map]
  · simp only [h, if_false]
    cases mapME (rowSum5 bps (cap x 2 (subW - 3))) _ <;> rfl

theorem five_rows (top : Nat) (h : ¬ top < 2) : [top - 2, top - 1, top, top + 1, top + 2] = List.range' (top - 2) 5 := by
  obtain ⟨t, rfl⟩ : ∃ t, top = t + 2 := ⟨top - 2, by omega⟩
  rfl

/-! ### `calculateBlackPoints`: Go integers against the naturals of the model -/

/-- the offset of the next pixel row: `offset += width` -/
theorem nextRow_cast (w xo yo k : Nat) :
    (((yo + k) * w + xo : Nat) : Int) + (w : Int) = (((yo + (k + 1)) * w + xo : Nat) : Int) := by
  rw [← Int.natCast_add, ← Nat.add_assoc, Nat.succ_mul, Nat.add_right_comm]

theorem min_cast (q m : Nat) : (if decide ((q : Int) < (m : Int)) then (q : Int) else (m : Int)) = ((min m q : Nat) : Int) := by
  simp only [decide_eq_true_eq]; split <;> omega

theorem max_cast (q m : Nat) : (if decide ((q : Int) > (m : Int)) then (q : Int) else (m : Int)) = ((max m q : Nat) : Int) := by
  simp only [decide_eq_true_eq]; split <;> omega

/-- `max - min > 24`, the test that ends the min / max scan of a block -/
theorem rangeMet_cast (mx mn : Nat) : decide ((mx : Int) - (mn : Int) > 24) = decide (mx - mn > MIN_DYNAMIC_RANGE) :=
  decide_eq_decide.mpr (by unfold MIN_DYNAMIC_RANGE; omega)

/-- `max - min <= 24`, the low-contrast test of a block -/
theorem lowContrast_cast (mx mn : Nat) : decide ((mx : Int) - (mn : Int) ≤ 24) = decide (mx - mn ≤ MIN_DYNAMIC_RANGE) :=
  decide_eq_decide.mpr (by unfold MIN_DYNAMIC_RANGE; omega)

theorem ishr_six (n : Nat) : GoVal.ishr (n : Int) 6 = ((n / 64 : Nat) : Int) :=
  (ishr_eq_div (n : Int) 6 (Int.natCast_nonneg n)).trans rfl

/-- `(bp[y-1][x] + 2*bp[y][x-1] + bp[y-1][x-1]) / 4` -/
theorem nbAverage_cast (up lft upl : Nat) :
    Int.tdiv ((up : Int) + 2 * (lft : Int) + (upl : Int)) 4 = (((up + 2 * lft + upl) / 4 : Nat) : Int) := rfl

/-! ### the scan of a block and the neighbours of a black point -/

theorem scanRow_of_not_met (s : Scan) (ps : List Nat) (hs : s.met = false) :
    scanRow s ps = { ps.foldl scanPixel s with
      met := decide ((ps.foldl scanPixel s).mx - (ps.foldl scanPixel s).mn > MIN_DYNAMIC_RANGE) } := by
  unfold scanRow; rw [hs]; rfl

theorem scanRow_of_met (s : Scan) (ps : List Nat) (hs : s.met = true) :
    scanRow s ps = { s with sum := ps.foldl (· + ·) s.sum } := by
  unfold scanRow; rw [hs]; rfl

/-- once the range is met, the remaining rows only add to the sum -/
theorem foldl_scanRow_met (rows : List (List Nat)) : ∀ (s : Scan), s.met = true →
    rows.foldl scanRow s = { s with sum := rows.foldl (fun a ps => ps.foldl (· + ·) a) s.sum } := by
  induction rows with
  | nil => intro s _; rfl
  | cons ps rows ih =>
    intro s hs
    simp only [List.foldl_cons]
    rw [scanRow_of_met s ps hs]
    exact ih _ hs

theorem blockPixel_eq (lum : List Nat) (w xo yo yy xx : Nat) :
    blockPixel lum.toArray w xo yo yy xx =
      match lum[(yo + yy) * w + xo + xx]? with
      | some p => .ok (p % 256)
      | none => .error (.panic "luminances index out of range") := by
  unfold blockPixel rd
  rw [List.getElem?_toArray]
  cases lum[(yo + yy) * w + xo + xx]? <;> rfl

/-- past the first column the three neighbours are there as soon as the row above is longer than the part of the current row -/
theorem neighbours_some (pr acc : List Nat) (hx0 : acc.length ≠ 0) (h : acc.length < pr.length) :
    ∃ up lft upl, pr[acc.length]? = some up ∧ acc[acc.length - 1]? = some lft ∧ pr[acc.length - 1]? = some upl ∧
      neighbours pr acc acc.length = .ok (some (up, lft, upl)) := by
  have h1 : pr[acc.length]? = some pr[acc.length] := List.getElem?_eq_getElem h
  have h2 : acc[acc.length - 1]? = some (acc[acc.length - 1]'(by omega)) := List.getElem?_eq_getElem _
  have h3 : pr[acc.length - 1]? = some (pr[acc.length - 1]'(by omega)) := List.getElem?_eq_getElem _
  refine ⟨_, _, _, h1, h2, h3, ?_⟩
  simp only [neighbours, hx0, if_false, h1, h2, h3]

/-! ### a row / a table of black points has one entry per block / per row -/

theorem bpRow_length (lum : Array Nat) (w ht y : Nat) (prev : Option (List Nat)) : ∀ (xs : List Nat) (acc row : List Nat),
    bpRow lum w ht y prev xs acc = .ok row → row.length = acc.length + xs.length := by
  intro xs
  induction xs with
  | nil => intro acc row he; cases he; rfl
  | cons x xs ih =>
    intro acc row
    rw [bpRow]
    cases scanBlock lum w (blockOffset x w) (blockOffset y ht) with
    | error e => exact nofun
    | ok s =>
      cases neighboursOf prev acc x with
      | error e => exact nofun
      | ok nb =>
        intro he
        rw [ih _ _ he, List.length_append, List.length_singleton, List.length_cons, Nat.add_assoc, Nat.add_comm 1]

theorem bpRows_length (lum : Array Nat) (w h subW : Nat) : ∀ (ys : List Nat) (prev : Option (List Nat)) (acc all : List (List Nat)),
    bpRows lum w h subW ys prev acc = .ok all → all.length = acc.length + ys.length
  | [], _, _, _, he => by cases he; rfl
  | y :: ys, prev, acc, all, he => by
    rw [bpRows] at he
    cases hr : bpRow lum w h y prev (List.range subW) [] with
    | error e => rw [hr] at he; cases he
    | ok row =>
      rw [hr] at he
      rw [bpRows_length lum w h subW ys _ _ _ he, List.length_append, List.length_singleton, List.length_cons, Nat.add_assoc,
        Nat.add_comm 1]

/-! ### the mirror of `calculateThresholdForBlock` -/

/-- one block: the clamped 5x5 average, then the 8x8 scan at the clamped pixel offset.  Every failure of the average is
    reported as the index panic: `ScanAgrees` only asks that mirror and model fail together. -/
def hybBlockW (lum : List Nat) (w h : Nat) (bps : List (List Nat)) (subW subH rs y : Nat) (ws : List Nat) (x : Nat) :
    Res (List Nat) :=
  match blockThreshold bps subW subH x y with
  | .error _ => .error oob
  | .ok thr => rectW lum w (blockOffset x w) (blockOffset y h) 8 8 (fun p => decide (p ≤ thr)) rs ws

/-- one row of blocks -/
def hybRowW (lum : List Nat) (w h : Nat) (bps : List (List Nat)) (subW subH rs : Nat) (ws : List Nat) (y : Nat) : Res (List Nat) :=
  (List.range' 0 subW).foldlM (hybBlockW lum w h bps subW subH rs y) ws

/-- all blocks, row by row, as the two nested Go loops run them -/
def hybW (lum : List Nat) (w h : Nat) (bps : List (List Nat)) (subW subH rs : Nat) (ws : List Nat) : Res (List Nat) :=
  (List.range' 0 subH).foldlM (hybRowW lum w h bps subW subH rs) ws

theorem hybBlockW_agrees (lum : List Nat) (w h : Nat) (bps : List (List Nat)) (rs y : Nat) (ws : List Nat) (x : Nat) :
    ScanAgrees rs ws (hybBlockW lum w h bps (subDim w) (subDim h) rs y ws x) (hybridBlock lum.toArray w h bps x y) := by
  unfold hybBlockW hybridBlock
  cases blockThreshold bps (subDim w) (subDim h) x y with
  | error e => exact ⟨oob, rfl⟩
  | ok thr => exact rectW_agrees lum w _ _ 8 8 _ rs ws

/-- **calculateThresholdForBlock, mirror to model**: the same `Set` calls as `Binarizer.hybridBlocks`, block by block -/
theorem hybW_agrees (lum : List Nat) (w h : Nat) (bps : List (List Nat)) (rs : Nat) (ws : List Nat) :
    ScanAgrees rs ws (hybW lum w h bps (subDim w) (subDim h) rs ws) (hybridBlocks lum.toArray w h bps) := by
  unfold hybW hybridBlocks
  rw [List.range_eq_range']
  have hrow : ∀ ws y, ScanAgrees rs ws (hybRowW lum w h bps (subDim w) (subDim h) rs ws y) (hybridRow lum.toArray w h bps y) := by
    intro ws y
    unfold hybRowW hybridRow
    rw [List.range_eq_range']
    have := scanAgrees_fold rs (hybBlockW lum w h bps (subDim w) (subDim h) rs y)
      (fun x => hybridBlock lum.toArray w h bps x y) (fun ws x => hybBlockW_agrees lum w h bps rs y ws x)
      (List.range' 0 (subDim w)) ws
    cases hm : mapME (fun x => hybridBlock lum.toArray w h bps x y) (List.range' 0 (subDim w)) with
    | error e => rw [hm] at this; exact this
    | ok ls => rw [hm] at this; exact this
  have := scanAgrees_fold rs (hybRowW lum w h bps (subDim w) (subDim h) rs) (hybridRow lum.toArray w h bps) hrow
    (List.range' 0 (subDim h)) ws
  cases hm : mapME (hybridRow lum.toArray w h bps) (List.range' 0 (subDim h)) with
  | error e => rw [hm] at this; exact this
  | ok ls => rw [hm] at this; exact this

end Gzx.K17c
