/-
  C02 — the loops of the high-level encoder model with more than one way on per iteration (`c40Loop`, `backtrackLoop`,
  `dispatch`) as instances of one fuelled loop `loopOf` over a step function (`*Iter`, `*_eq`).  What is proved of such
  a loop is proved of its iteration and carried over: an invariant kept by every iteration holds at every exit
  (`loopOf_inv`: `dispatch_inv`, the symbol invariant through the C40 loops); if moreover every iteration lowers a
  measure that the fuel covers, the loop answers within the faults its iterations allow (`loopOf_sat`:
  `backtrackLoop_sat`, `c40Loop_sat`, `dispatch_total_of`).  The loops of the X12, EDIFACT and Base-256 encoders
  consume one character per iteration and are proved by induction on the fuel where they are read back
  (`x12Loop_sat`, `edifactLoop_sat`, `b256Loop_sat`).
-/
import Gzx.Proofs.DMHighLevel
import Gzx.Proofs.Sat
namespace Gzx.DMHighLevel
open Gzx.Det (Sat)

/-- what one iteration of a `for cond { … }` loop with early `return` does: leave with a result, or go round again -/
inductive Iter (σ ρ : Type) where
  | done (r : ρ)
  | more (s : σ)

/-- what holds of the outcome of an iteration: `Q` of a result, `P` of the state the next round starts from -/
def Iter.Holds {σ ρ : Type} (Q : ρ → Prop) (P : σ → Prop) : Iter σ ρ → Prop
  | .done r => Q r
  | .more s => P s

/-- `for cont s { s ← step s }` with `fuel` iterations at most; `fin` is the result of a regular exit, `z` what
    happens when the fuel is used up -/
def loopOf {σ ρ : Type} (z : σ → Res ρ) (cont : σ → Bool) (fin : σ → ρ) (step : σ → Res (Iter σ ρ)) : Nat → σ → Res ρ
  | 0, s => z s
  | n + 1, s =>
    if cont s then
      step s >>= fun
        | .done r => .ok r
        | .more s' => loopOf z cont fin step n s'
    else .ok (fin s)

/-- out of fuel: one more test of the loop condition (the five `for context.HasMoreCharacters()` loops) -/
def zCheck {σ ρ : Type} (cont : σ → Bool) (fin : σ → ρ) (s : σ) : Res ρ := if cont s then .error .fuel else .ok (fin s)

section
variable {σ ρ : Type} {z : σ → Res ρ} {cont : σ → Bool} {fin : σ → ρ} {step : σ → Res (Iter σ ρ)}

theorem zCheck_ok {s : σ} {r : ρ} (h : zCheck cont fin s = .ok r) : cont s = false ∧ r = fin s := by
  unfold zCheck at h
  cases hc : cont s with
  | true => simp [hc] at h
  | false => simp [hc] at h; exact ⟨rfl, h.symm⟩

theorem loopOf_inv (I : σ → Prop) (Q : ρ → Prop)
    (hz : ∀ s r, I s → z s = .ok r → Q r)
    (hfin : ∀ s, I s → cont s = false → Q (fin s))
    (hdone : ∀ s r, I s → cont s = true → step s = .ok (.done r) → Q r)
    (hmore : ∀ s s', I s → cont s = true → step s = .ok (.more s') → I s') :
    ∀ (n : Nat) (s : σ) (r : ρ), I s → loopOf z cont fin step n s = .ok r → Q r := by
  intro n
  induction n with
  | zero => intro s r hI h; exact hz s r hI h
  | succ n ih =>
    intro s r hI h
    cases hc : cont s with
    | false => simp only [loopOf, hc, Bool.false_eq_true, if_false] at h; cases h; exact hfin s hI hc
    | true =>
      simp only [loopOf, hc, if_true] at h
      obtain ⟨o, ho, h⟩ := bind_ok h
      cases o with
      | done r' => cases h; exact hdone s r hI hc ho
      | more s' => exact ih s' r (hmore s s' hI hc ho) h

theorem loopOf_sat {E : Fault → Prop} (I : σ → Prop) (Q : ρ → Prop) (μ : σ → Nat)
    (hz : ∀ s, I s → μ s = 0 → Sat E Q (z s))
    (hfin : ∀ s, I s → cont s = false → Q (fin s))
    (hstep : ∀ s, I s → cont s = true → Sat E (Iter.Holds Q fun s' => I s' ∧ μ s' < μ s) (step s)) :
    ∀ (n : Nat) (s : σ), I s → μ s ≤ n → Sat E Q (loopOf z cont fin step n s) := by
  intro n
  induction n with
  | zero => intro s hI hμ; exact hz s hI (by omega)
  | succ n ih =>
    intro s hI hμ
    cases hc : cont s with
    | false => simp only [loopOf, hc, Bool.false_eq_true, if_false]; exact hfin s hI hc
    | true =>
      simp only [loopOf, hc, if_true]
      refine Sat.bind (hstep s hI hc) (fun o ho => ?_)
      cases o with
      | done r => exact ho
      | more s' => exact ih s' ho.1 (by have := ho.2; omega)

end

/-! ## the model's loops -/

/-- state of a mode encoder's loop: the context and the buffered values -/
abbrev LS := Ctx × List Nat

def hasMoreS (s : LS) : Bool := s.1.hasMore

/-- the end-of-message branch of the C40 / Text loop: backtrack while a single value would be left over -/
def c40End (syms : List SymbolInfo) (text : Bool) (c : Ctx) (buf : List Nat) (sz available : Nat) : Res LS :=
  if buf.length % 3 = 2 ∧ available ≠ 2 then do
    let (c, buf, lastSize) ← backtrackOne text c buf sz
    let (c, available) ← c40Available syms c buf
    backtrackLoop syms text (buf.length + 1) c buf lastSize available
  else backtrackLoop syms text (buf.length + 1) c buf sz available

def c40Iter (syms : List SymbolInfo) (la : LookAhead) (text : Bool) (s : LS) : Res (Iter LS LS) := do
  let ch ← s.1.cur
  let buf := s.2 ++ cEncodeChar text ch
  let (c, available) ← c40Available syms { s.1 with pos := s.1.pos + 1 } buf
  if !c.hasMore then (c40End syms text c buf (cEncodeChar text ch).length available).map .done
  else if buf.length % 3 = 0 ∧ la c.msg c.pos (if text then TEXT else C40) ≠ (if text then TEXT else C40) then
    .ok (.done (c.signal ASCII, buf))
  else .ok (.more (c, buf))

theorem c40Loop_eq (syms : List SymbolInfo) (la : LookAhead) (text : Bool) : ∀ (n : Nat) (c : Ctx) (buf : List Nat),
    c40Loop syms la text n c buf = loopOf (zCheck hasMoreS id) hasMoreS id (c40Iter syms la text) n (c, buf) := by
  intro n
  induction n with
  | zero => intro c buf; rfl
  | succ n ih =>
    intro c buf
    simp only [c40Loop, loopOf, hasMoreS, c40Iter]
    cases c.hasMore with
    | false => rfl
    | true =>
      simp only [Bool.not_true, Bool.false_eq_true, if_false, if_true]
      cases c.cur with
      | error e => rfl
      | ok ch =>
        simp only [bind, Except.bind]
        cases c40Available syms { c with pos := c.pos + 1 } (buf ++ cEncodeChar text ch) with
        | error e => rfl
        | ok r =>
          obtain ⟨c2, av⟩ := r
          simp only
          cases c2.hasMore with
          | false =>
            simp only [Bool.not_false, if_true]
            show c40End syms text c2 (buf ++ cEncodeChar text ch) (cEncodeChar text ch).length av = _
            cases c40End syms text c2 (buf ++ cEncodeChar text ch) (cEncodeChar text ch).length av <;> rfl
          | true =>
            simp only [Bool.not_true, Bool.false_eq_true, if_false]
            by_cases h3 : (buf ++ cEncodeChar text ch).length % 3 = 0
            · simp only [h3, if_true, true_and]
              by_cases hla : la c2.msg c2.pos (if text = true then TEXT else C40) ≠ (if text = true then TEXT else C40)
              · rw [if_pos hla, if_pos hla]
              · rw [if_neg hla, if_neg hla]; exact ih _ _
            · simp only [h3, if_false, false_and]
              exact ih _ _

def dispatchNext (mode : Nat) (c1 : Ctx) : Nat × Ctx :=
  match c1.newEnc with
  | some m => (m, { c1 with newEnc := none })
  | none => (mode, c1)

theorem dispatchNext_some {mode m : Nat} {c1 : Ctx} (h : c1.newEnc = some m) :
    dispatchNext mode c1 = (m, { c1 with newEnc := none }) := by
  unfold dispatchNext; rw [h]

theorem dispatchNext_none {mode : Nat} {c1 : Ctx} (h : c1.newEnc = none) : dispatchNext mode c1 = (mode, c1) := by
  unfold dispatchNext; rw [h]

/-- the dispatch loop: state = (mode, context); an iteration never leaves the loop -/
def dispatchIter (syms : List SymbolInfo) (la : LookAhead) (s : Nat × Ctx) : Res (Iter (Nat × Ctx) (Ctx × Nat)) :=
  (encodeMode syms la s.1 s.2).map fun c1 => .more (dispatchNext s.1 c1)

def dCont (s : Nat × Ctx) : Bool := s.2.hasMore
def dFin (s : Nat × Ctx) : Ctx × Nat := (s.2, s.1)

theorem dispatch_eq (syms : List SymbolInfo) (la : LookAhead) : ∀ (n mode : Nat) (c : Ctx),
    dispatch syms la n mode c = loopOf (zCheck dCont dFin) dCont dFin (dispatchIter syms la) n (mode, c) := by
  intro n
  induction n with
  | zero => intro mode c; rfl
  | succ n ih =>
    intro mode c
    simp only [dispatch, loopOf, dCont, dFin, dispatchIter]
    by_cases hm : c.hasMore = true
    · simp only [hm, Bool.not_true, Bool.false_eq_true, if_false, if_true]
      cases encodeMode syms la mode c with
      | error e => rfl
      | ok c1 =>
        simp only [bind, Except.bind, Except.map]
        cases hn : c1.newEnc with
        | some m => rw [dispatchNext_some hn]; exact ih _ _
        | none => rw [dispatchNext_none hn]; exact ih _ _
    · simp only [Bool.not_eq_true] at hm
      simp only [hm, Bool.false_eq_true, if_false]
      rfl

theorem ctx_newEnc_none (c : Ctx) (h : c.newEnc = none) : ({ c with newEnc := none } : Ctx) = c := by
  cases c; simp only at h; subst h; rfl

/-- an invariant of the context at the head of the dispatch loop (where no new encodation is pending) holds at its
    exit -/
theorem dispatch_inv {syms : List SymbolInfo} {la : LookAhead} (I : Ctx → Prop)
    (hmode : ∀ mode c c', I c → c.newEnc = none → c.hasMore = true → encodeMode syms la mode c = .ok c' →
      I { c' with newEnc := none })
    (fuel mode : Nat) (c c' : Ctx) (m' : Nat) (hI : I c) (hnew : c.newEnc = none)
    (h : dispatch syms la fuel mode c = .ok (c', m')) : I c' := by
  rw [dispatch_eq] at h
  refine loopOf_inv (fun s => I s.2 ∧ s.2.newEnc = none) (fun r => I r.1) (fun s r hs hz => ?_) (fun s hs _ => hs.1)
    (fun s r _ _ hd => ?_) (fun s s' hs hc hi => ?_) fuel (mode, c) (c', m') ⟨hI, hnew⟩ h
  · rw [(zCheck_ok hz).2]; exact hs.1
  · unfold dispatchIter at hd
    cases he : encodeMode syms la s.1 s.2 <;> rw [he] at hd <;> cases hd
  · unfold dispatchIter at hi
    cases he : encodeMode syms la s.1 s.2 with
    | error e => rw [he] at hi; cases hi
    | ok c1 =>
      rw [he] at hi
      cases hi
      have := hmode _ _ _ hs.1 hs.2 hc he
      cases hn : c1.newEnc with
      | some m => rw [dispatchNext_some hn]; exact ⟨this, rfl⟩
      | none =>
        -- nothing was signalled: the context is as the encoder left it
        rw [dispatchNext_none hn]
        exact ⟨ctx_newEnc_none c1 hn ▸ this, hn⟩

/-- the backtracking loop of the C40 / Text encoder: state = (context, buffer, size of the last character, free
    codewords); out of fuel is an error outright -/
abbrev BS := Ctx × List Nat × Nat × Nat

def btCont (s : BS) : Bool := decide (s.2.1.length % 3 = 1 ∧ (s.2.2.1 > 2 ∨ s.2.2.2 ≠ 1))
def btFin (s : BS) : LS := (s.1, s.2.1)

def btIter (syms : List SymbolInfo) (text : Bool) (s : BS) : Res (Iter BS LS) := do
  let (c, buf, lastSize) ← backtrackOne text s.1 s.2.1 s.2.2.1
  let (c, available) ← c40Available syms c buf
  .ok (.more (c, buf, lastSize, available))

theorem backtrackLoop_eq (syms : List SymbolInfo) (text : Bool) : ∀ (n : Nat) (c : Ctx) (buf : List Nat) (ls av : Nat),
    backtrackLoop syms text n c buf ls av =
      loopOf (fun _ => .error .fuel) btCont btFin (btIter syms text) n (c, buf, ls, av) := by
  intro n
  induction n with
  | zero => intro c buf ls av; rfl
  | succ n ih =>
    intro c buf ls av
    simp only [backtrackLoop, loopOf, btCont, btFin, btIter, decide_eq_true_eq]
    split
    · cases backtrackOne text c buf ls with
      | error e => rfl
      | ok r1 =>
        simp only [bind, Except.bind]
        cases c40Available syms r1.1 r1.2.1 with
        | error e => rfl
        | ok r2 => exact ih _ _ _ _
    · rfl

end Gzx.DMHighLevel
