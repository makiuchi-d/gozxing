/-
  C03 — `upcean_read_write`, content level: what the writers' check-digit stage returns, the module pattern
  as one run list (from the symbol-by-symbol drawing of Proofs/UpceanDraw.lean, over the digit string as a list),
  and the composition with the row-level facts, per symbology.
-/
import Gzx.Proofs.UpceanKinds
import Gzx.Proofs.UpceanDraw
import Gzx.Properties.C10
namespace Gzx.OneD
open Gzx Gzx.CheckDigit

/-! ## the digit string the writer draws -/

theorem readerAccept_std (k : EanKind) (hk : k ≠ .upce) (fd : List Nat) (hl : 8 ≤ fd.length) (hd : ∀ d ∈ fd, d < 10)
    (hv : eanValid fd = true) : readerAccept k (digitBytes fd) = .ok () := by
  unfold readerAccept
  have : ¬ (digitBytes fd).length < 8 := by simp [digitBytes]; omega
  rw [if_neg this]
  cases k <;> simp_all [checkStandardB_digitBytes fd hd]

theorem idxDigit (b : Prop) [Decidable b] (d : Nat) (hd : d < 10) : 48 + (if b then d + 10 else d) % 10 = d + 48 := by
  split <;> omega

/-- guard · left digits · middle · right digits · guard, each drawn in its own colour, is one drawing of all widths -/
theorem symbol_join (g DL m DR e : List Nat) (hg : g.length % 2 = 1) (hDL : DL.length % 2 = 0) (hm : m.length % 2 = 1)
    (hDR : DR.length % 2 = 0) :
    appendPattern g true ++ appendPattern DL false ++ appendPattern m false ++ appendPattern DR true ++ appendPattern e true
      = appendPattern (g ++ DL ++ m ++ DR ++ e) true := by
  simp only [appendPattern_append, List.length_append]
  have p1 : ¬ g.length % 2 = 0 := by omega
  have p2 : ¬ (g.length + DL.length) % 2 = 0 := by omega
  have p3 : (g.length + DL.length + m.length) % 2 = 0 := by omega
  have p4 : (g.length + DL.length + m.length + DR.length) % 2 = 0 := by omega
  simp only [p1, p2, p3, p4, if_false, if_true, Bool.not_true]

/-! ## from the drawing symbol by symbol to one run list -/

/-- digit value of the byte at position `i` -/
def dv (full : List Nat) (i : Nat) : Nat := (full[i]?.getD 48) - 48

theorem rowAt_eq (L : List (List Nat)) (i : Nat) : rowAt L i = L.getD i [] := rfl

/-- a run of per-digit drawings is one drawing of all their widths -/
theorem segM_widths {P : List (List Nat)} {M : Nat} (hP : DigitTable P M) (f : Nat → Nat) (c : Bool) (a k : Nat)
    (hf : ∀ i ∈ List.range' a k, f i < P.length) :
    segM (fun i => rowAt P (f i)) c a k = appendPattern (digitWidths P ((List.range' a k).map f)) c := by
  have he := hP.rows_even ((List.range' a k).map f) (by
    intro i hi
    obtain ⟨j, hj, rfl⟩ := List.mem_map.mp hi
    exact hf j hj)
  rw [digitWidths, ← flatten_map_appendPattern _ c he]
  simp only [segM, List.map_map, Function.comp_def, rowAt_eq]

theorem dv_spec (full : List Nat) (hd : allDigits full = true) (i : Nat) (hi : i < full.length) :
    dv full i < 10 ∧ 48 + dv full i = full[i] := by
  have := List.all_eq_true.mp hd full[i] (List.getElem_mem hi)
  simp only [isDigitByte, Bool.and_eq_true, decide_eq_true_eq] at this
  simp only [dv, List.getElem?_eq_getElem hi, Option.getD_some]
  omega

theorem map_dv_range' (full : List Nat) (hd : allDigits full = true) (a k : Nat) (h : a + k ≤ full.length) :
    (List.range' a k).map (fun i => 48 + dv full i) = (full.drop a).take k := by
  apply List.ext_getElem
  · simp; omega
  · intro n h1 h2
    simp only [List.length_map, List.length_range'] at h1
    simp only [List.getElem_map, List.getElem_range', Nat.one_mul, List.getElem_take, List.getElem_drop]
    exact (dv_spec full hd (a + n) (by omega)).2

theorem dv_range'_lt (full : List Nat) (hd : allDigits full = true) (a k : Nat) (h : a + k ≤ full.length) :
    ∀ i ∈ (List.range' a k).map (dv full), i < 10 := by
  intro i hi
  obtain ⟨j, hj, rfl⟩ := List.mem_map.mp hi
  have := List.mem_range'_1.mp hj
  exact (dv_spec full hd j (by omega)).1

/-- a digit string cut at the positions the UPC/EAN symbols cut it -/
theorem digits_split (full : List Nat) (hd : allDigits full = true) (a k : Nat) (h : a + k = full.length) :
    (List.range' 0 a).map (fun i => 48 + dv full i) ++ (List.range' a k).map (fun i => 48 + dv full i) = full := by
  rw [map_dv_range' full hd 0 a (by omega), map_dv_range' full hd a k (by omega), List.drop_zero,
    List.take_of_length_le (l := full.drop a) (by simp; omega), List.take_append_drop]

/-! ## EAN-8 -/

theorem draw8_eq (T : Tables) (hT : WFFacts T) (full : List Nat) (hd : allDigits full = true) (hl : full.length = 8) :
    draw8 T full = appendPattern (T.startEnd ++ digitWidths T.lPatterns ((List.range' 0 4).map (dv full)) ++ T.middle ++
      digitWidths T.lPatterns ((List.range' 4 4).map (dv full)) ++ T.startEnd) true := by
  have h1 := dv_range'_lt full hd 0 4 (by omega)
  have h2 := dv_range'_lt full hd 4 4 (by omega)
  have hlt : ∀ a k, a + k ≤ full.length → ∀ i ∈ List.range' a k, dv full i < T.lPatterns.length := by
    intro a k h i hi
    rw [hT.len]
    exact dv_range'_lt full hd a k h _ (List.mem_map_of_mem hi)
  have e1 := segM_widths hT.tabL (dv full) false 0 4 (hlt 0 4 (by omega))
  have e2 := segM_widths hT.tabL (dv full) true 4 4 (hlt 4 4 (by omega))
  obtain ⟨l1, _⟩ := digitWidths_shape hT.tabL _ (fun i hi => by rw [hT.len]; exact h1 i hi)
  obtain ⟨l2, _⟩ := digitWidths_shape hT.tabL _ (fun i hi => by rw [hT.len]; exact h2 i hi)
  unfold draw8
  rw [show lPat T full = fun i => rowAt T.lPatterns (dv full i) from rfl, e1, e2]
  exact symbol_join _ _ _ _ _ hT.gOdd (by rw [l1]; omega) hT.mOdd (by rw [l2]; omega)

theorem ean8_core (T : Tables) (hWF : WFUpcEan T = true) (contents full : List Nat)
    (hw : stdWriterContents 8 contents = .ok full) :
    ∃ mods, ean8Modules T contents = .ok mods ∧ ∀ (lq s rq : Nat), 0 < s → s * sumL T.startEnd ≤ lq →
      s * sumL T.startEnd < rq → decodeRow T .ean8 (paddedRow lq s rq mods) = .ok full := by
  have hT := wfFacts T hWF
  obtain ⟨hl, hd⟩ := stdWriterContents_ok 8 contents full hw
  refine ⟨_, ean8Modules_of_contents T hT.len contents full hw, ?_⟩
  intro lq s rq hs hlq hrq
  have h1 := dv_range'_lt full hd 0 4 (by omega)
  have h2 := dv_range'_lt full hd 4 4 (by omega)
  obtain ⟨F1, F2, F3, F4, F5, F6, F7⟩ := twoHalf_facts T hT T.lPatterns hT.tabL _ _
    (fun i hi => by rw [hT.len]; exact h1 i hi) (fun i hi => by rw [hT.len]; exact h2 i hi)
    lq s rq hs hlq hrq (paddedRow lq s rq (draw8 T full)) (by rw [draw8_eq T hT full hd hl]) _ _ _ _ _ rfl rfl rfl rfl rfl
  simp only [List.length_map, List.length_range'] at F2 F3 F4 F5 F6 F7
  generalize paddedRow lq s rq _ = row at *
  simp only [decodeRow, F1, notFoundOf, bind, Except.bind, decodeWithStart, ean8DecodeMiddle, F2, F3, F4, F5,
    pure, Except.pure]
  have hres : List.map (fun x => 48 + x) ((List.range' 0 4).map (dv full)) ++
      List.map (fun x => 48 + x) ((List.range' 4 4).map (dv full)) = full := by
    have e1 := map_dv_range' full hd 0 4 (by omega)
    have e2 := map_dv_range' full hd 4 4 (by omega)
    simp only [List.map_map, Function.comp_def, e1, e2]
    rw [List.drop_zero, List.take_of_length_le (i := 4) (l := full.drop 4) (by simp; omega), List.take_append_drop]
  have hacc : readerAccept .ean8 full = .ok () := by
    obtain ⟨fd, rfl, hlen, hdg, hv⟩ := stdWriterContents_valid 8 contents full hw
    exact readerAccept_std .ean8 (by decide) _ (by omega) hdg hv
  simp only [Nat.add_sub_cancel_left, F6, F7, if_false, Bool.not_true, Bool.false_eq_true, hres, hacc, reduceCtorEq]

/-! ## the parity-encoded left half (EAN-13, UPC-E) -/

/-- row of the L/G table drawn at left-half position `i` (1..6) under parity word `p` -/
def lgI (full : List Nat) (p i : Nat) : Nat := if (p / 2 ^ (6 - i)) % 2 = 1 then dv full i + 10 else dv full i

theorem lgI_range'_lt (full : List Nat) (hd : allDigits full = true) (p : Nat) (h : 7 ≤ full.length) :
    ∀ i ∈ (List.range' 1 6).map (lgI full p), i < 20 := by
  intro i hi
  obtain ⟨j, hj, rfl⟩ := List.mem_map.mp hi
  have := List.mem_range'_1.mp hj
  have := (dv_spec full hd j (by omega)).1
  unfold lgI; split <;> omega

/-- the word the reader accumulates from the six L/G rows is the parity word they were drawn with -/
theorem lgWord_lgI (full : List Nat) (hd : allDigits full = true) (h : 7 ≤ full.length) (p : Nat) (hp : p < 64) :
    lgWord 6 ((List.range' 1 6).map (lgI full p)) = p := by
  have hflags : ((List.range' 1 6).map (lgI full p)).map (fun m => decide (m ≥ 10)) = parityFlags 6 p := by
    have ge : ∀ i ∈ List.range' 1 6, decide (lgI full p i ≥ 10) = decide ((p / 2 ^ (6 - i)) % 2 = 1) := by
      intro i hi
      have := List.mem_range'_1.mp hi
      have := (dv_spec full hd i (by omega)).1
      unfold lgI; split <;> simp <;> omega
    rw [List.map_map]
    exact (List.map_congr_left (g := fun i => decide ((p / 2 ^ (6 - i)) % 2 = 1)) (fun i hi => ge i hi)).trans rfl
  have := lgWord_eq_parityBits ((List.range' 1 6).map (lgI full p))
  rw [hflags, parityBits_parityFlags, Nat.mod_eq_of_lt hp] at this
  exact this

/-- the digits the reader takes from the six L/G rows (`m % 10`) are the digits drawn -/
theorem map_lgI_mod (full : List Nat) (hd : allDigits full = true) (h : 7 ≤ full.length) (p : Nat) :
    List.map (fun m => 48 + m % 10) ((List.range' 1 6).map (lgI full p)) = (List.range' 1 6).map (fun i => 48 + dv full i) := by
  rw [List.map_map]
  refine List.map_congr_left (fun i hi => ?_)
  have := List.mem_range'_1.mp hi
  have := (dv_spec full hd i (by omega)).1
  show 48 + lgI full p i % 10 = 48 + dv full i
  unfold lgI; split <;> omega

/-! ## EAN-13 and UPC-A -/

theorem draw13_eq (T : Tables) (hT : WFFacts T) (full : List Nat) (hd : allDigits full = true) (hl : full.length = 13)
    (p : Nat) (hp : parityOf T full = p) :
    draw13 T full = appendPattern (T.startEnd ++ digitWidths (lAndG T.lPatterns) ((List.range' 1 6).map (lgI full p)) ++
      T.middle ++ digitWidths T.lPatterns ((List.range' 7 6).map (dv full)) ++ T.startEnd) true := by
  have h1 := lgI_range'_lt full hd p (by omega)
  have h2 := dv_range'_lt full hd 7 6 (by omega)
  have hlg := lAndG_length hT.len
  have e1 := segM_widths hT.tabLG (lgI full p) false 1 6 (fun i hi => by rw [hlg]; exact h1 _ (List.mem_map_of_mem hi))
  have e2 := segM_widths hT.tabL (dv full) true 7 6 (fun i hi => by rw [hT.len]; exact h2 _ (List.mem_map_of_mem hi))
  obtain ⟨l1, _⟩ := digitWidths_shape hT.tabLG _ (fun i hi => by rw [hlg]; exact h1 i hi)
  obtain ⟨l2, _⟩ := digitWidths_shape hT.tabL _ (fun i hi => by rw [hT.len]; exact h2 i hi)
  unfold draw13
  rw [hp, show lgPat T full p = fun i => rowAt (lAndG T.lPatterns) (lgI full p i) from rfl,
    show lPat T full = fun i => rowAt T.lPatterns (dv full i) from rfl, e1, e2]
  exact symbol_join _ _ _ _ _ hT.gOdd (by rw [l1]; simp) hT.mOdd (by rw [l2]; simp)

theorem ean13_core (T : Tables) (hWF : WFUpcEan T = true) (k : EanKind) (hk : k = .ean13 ∨ k = .upca)
    (contents full : List Nat) (hw : stdWriterContents 13 contents = .ok full)
    (hupca : k = .upca → full.head? = some 48) :
    ∃ mods, ean13Modules T contents = .ok mods ∧ ∀ (lq s rq : Nat), 0 < s → s * sumL T.startEnd ≤ lq →
      s * sumL T.startEnd < rq → decodeRow T k (paddedRow lq s rq mods) = .ok (upceanCanonical k full) := by
  have hT := wfFacts T hWF
  obtain ⟨hl, hd⟩ := stdWriterContents_ok 13 contents full hw
  have hfd := hT.fd
  have hfdl : T.firstDigit.length = 10 := by
    simp only [WFParity, Bool.and_eq_true, beq_iff_eq] at hfd; exact hfd.1
  refine ⟨_, ean13Modules_of_contents T hT.len hfdl contents full hw, ?_⟩
  intro lq s rq hs hlq hrq
  have hacc : readerAccept .ean13 full = .ok () := by
    obtain ⟨fd, rfl, hlen, hdg, hv⟩ := stdWriterContents_valid 13 contents full hw
    exact readerAccept_std .ean13 (by decide) _ (by omega) hdg hv
  have h0 := (dv_spec full hd 0 (by omega)).1
  generalize hp : parityOf T full = p
  have hpe : p = T.firstDigit[dv full 0]'(by omega) := by
    rw [← hp, parityOf, show (full[0]?.getD 48) - 48 = dv full 0 from rfl, List.getElem?_eq_getElem (by omega)]; rfl
  have hp64 : p < 64 := by rw [hpe]; exact hT.fd64 _ (List.getElem_mem _)
  have h1 := lgI_range'_lt full hd p (by omega)
  have h2 := dv_range'_lt full hd 7 6 (by omega)
  obtain ⟨F1, F2, F3, F4, F5, F6, F7⟩ := twoHalf_facts T hT (lAndG T.lPatterns) hT.tabLG _ _
    (fun i hi => by rw [lAndG_length hT.len]; exact h1 i hi) (fun i hi => by rw [hT.len]; exact h2 i hi)
    lq s rq hs hlq hrq (paddedRow lq s rq (draw13 T full)) (by rw [draw13_eq T hT full hd hl p hp])
    _ _ _ _ _ rfl rfl rfl rfl rfl
  simp only [List.length_map, List.length_range'] at F2 F3 F4 F5 F6 F7
  generalize paddedRow lq s rq _ = row at *
  have hdet : determineFirstDigit T.firstDigit (lgWord 6 ((List.range' 1 6).map (lgI full p))) = .ok (dv full 0) := by
    rw [lgWord_lgI full hd (by omega) p hp64, hpe]
    exact (scan10_getElem hfd _ h0).2
  have hres : ((48 + dv full 0) :: List.map (fun m => 48 + m % 10) ((List.range' 1 6).map (lgI full p))) ++
      List.map (fun x => 48 + x) ((List.range' 7 6).map (dv full)) = full := by
    have m1 := map_lgI_mod full hd (by omega) p
    have m2 : List.map (fun x => 48 + x) ((List.range' 7 6).map (dv full))
        = (List.range' 7 6).map (fun i => 48 + dv full i) := by
      rw [List.map_map]; rfl
    rw [m1, m2]
    have e1 := digits_split full hd 7 6 (by omega)
    have e2 : (List.range' 0 7).map (fun i => 48 + dv full i)
        = (48 + dv full 0) :: (List.range' 1 6).map (fun i => 48 + dv full i) := rfl
    rw [e2] at e1
    exact e1
  rcases hk with rfl | rfl
  · simp only [decodeRow, F1, notFoundOf, bind, Except.bind, decodeWithStart, ean13DecodeMiddle, F2, F3, F4, F5,
      pure, Except.pure, hdet, Nat.add_sub_cancel_left, F6, F7, if_false, Bool.not_true, Bool.false_eq_true,
      reduceCtorEq, upceanCanonical]
    rw [hres, hacc]
  · simp only [decodeRow, F1, notFoundOf, bind, Except.bind, decodeWithStart, ean13DecodeMiddle, F2, F3, F4, F5,
      pure, Except.pure, hdet, Nat.add_sub_cancel_left, F6, F7, if_false, Bool.not_true, Bool.false_eq_true,
      upceanCanonical, if_true]
    rw [hres, hacc]
    obtain ⟨x, rest, rfl⟩ : ∃ x rest, full = x :: rest := by
      cases full with
      | nil => simp at hl
      | cons x rest => exact ⟨x, rest, rfl⟩
    have : x = 48 := by simpa using hupca rfl
    subst this
    rfl

/-! ## UPC-E -/

/-- what an accepted UPC-E content looks like -/
theorem upce_key (s full : List Nat) (h : upceWriterContents s = .ok full) :
    allDigits s = true ∧ (s.length = 7 ∨ s.length = 8) ∧ (s.head? = some 48 ∨ s.head? = some 49) := by
  rw [upceWriterContents_eq] at h
  cases hc : upceChecked s with
  | error e' => rw [hc] at h; cases h
  | ok full' =>
    rw [hc] at h
    obtain ⟨hlen, t, rfl⟩ := upceChecked_prefix s full' hc
    unfold firstOk at h
    cases s with
    | nil => simp at hlen
    | cons b tl =>
      dsimp only [List.cons_append] at h
      split at h
      · cases h
      · rename_i hd
        split at h
        · rename_i hb
          simp only [Bool.not_eq_true, Bool.not_eq_false'] at hd
          rw [← List.cons_append] at hd
          simp only [allDigits, List.all_append, Bool.and_eq_true] at hd
          exact ⟨hd.1, hlen, by simpa using hb⟩
        · cases h

theorem upce_full (s full : List Nat) (h : upceWriterContents s = .ok full) :
    ∃ fd, full = digitBytes fd ∧ fd.length = 8 ∧ (∀ d ∈ fd, d < 10) ∧ (fd.head? = some 0 ∨ fd.head? = some 1) ∧
      readerAccept .upce full = .ok () := by
  obtain ⟨hall, hlen, hhead⟩ := upce_key s full h
  obtain ⟨ds, rfl, hds⟩ := allDigits_exists s hall
  have hdl : (digitBytes ds).length = ds.length := by simp [digitBytes]
  rw [hdl] at hlen
  have hns : ds.head? = some 0 ∨ ds.head? = some 1 := by
    cases ds with
    | nil => simp at hlen
    | cons d tl =>
      simp only [digitBytes, List.map_cons, List.head?_cons, Option.some.injEq] at hhead ⊢
      omega
  rcases hlen with h7 | h8
  · obtain ⟨a, c, hea, hc10, hcd, hw, hacc⟩ := Properties.C10.upce_check_on_expansion ds h7 hds hns
    rw [hw] at h
    cases h
    refine ⟨ds ++ [c], rfl, by simp; omega, ?_, ?_, hacc⟩
    · intro d hd
      simp only [List.mem_append, List.mem_singleton] at hd
      rcases hd with hd | rfl
      · exact hds d hd
      · exact hc10
    · cases ds with
      | nil => simp at h7
      | cons d tl => simpa using hns
  · obtain ⟨a, hea, hw⟩ := Properties.C10.upce_writer_rejects_wrong_check ds h8 hds
    rw [hw] at h
    split at h
    · rename_i hcond
      cases h
      obtain ⟨a', hea', hacc⟩ := Properties.C10.upce_reader_accept_iff ds h8 hds
      rw [hea] at hea'
      cases hea'
      rw [if_pos hcond.1] at hacc
      exact ⟨ds, rfl, h8, hds, hns, hacc⟩
    · cases h

theorem wfParity2_rows (T : Tables) (hT : WFFacts T) :
    ∃ r0 r1, T.upceParity = [r0, r1] ∧ r0.length = 10 ∧ r1.length = 10 := by
  have h := hT.up
  unfold WFParity2 at h
  split at h
  · rename_i r0 r1 he
    simp only [Bool.and_eq_true, beq_iff_eq] at h
    exact ⟨r0, r1, he, h.1.1, h.1.2⟩
  · cases h

/-- the parity row of number system 0 or 1 exists and has ten entries -/
theorem upceParity_row (T : Tables) (hT : WFFacts T) (d0 : Nat) (hns : d0 = 0 ∨ d0 = 1) :
    (T.upceParity.getD d0 []).length = 10 ∧ T.upceParity.getD d0 [] ∈ T.upceParity := by
  obtain ⟨r0, r1, hrows, hr0, hr1⟩ := wfParity2_rows T hT
  rw [hrows]
  rcases hns with rfl | rfl <;> simp [hr0, hr1]

theorem drawE_eq (T : Tables) (hT : WFFacts T) (full : List Nat) (hd : allDigits full = true) (hl : full.length = 8)
    (p : Nat) (hp : parityE T full = p) :
    drawE T full = appendPattern (T.startEnd ++ digitWidths (lAndG T.lPatterns) ((List.range' 1 6).map (lgI full p)) ++
      T.upceEnd) true := by
  have h1 := lgI_range'_lt full hd p (by omega)
  have hlg := lAndG_length hT.len
  have e1 := segM_widths hT.tabLG (lgI full p) false 1 6 (fun i hi => by rw [hlg]; exact h1 _ (List.mem_map_of_mem hi))
  obtain ⟨l1, _⟩ := digitWidths_shape hT.tabLG _ (fun i hi => by rw [hlg]; exact h1 i hi)
  unfold drawE
  rw [hp, show lgPat T full p = fun i => rowAt (lAndG T.lPatterns) (lgI full p i) from rfl, e1]
  simp only [appendPattern_append, List.length_append, l1]
  have p1 : ¬ T.startEnd.length % 2 = 0 := by have := hT.gOdd; omega
  have p2 : ¬ (T.startEnd.length + 4 * ((List.range' 1 6).map (lgI full p)).length) % 2 = 0 := by
    have := hT.gOdd; simp; omega
  simp only [p1, p2, if_false, Bool.not_true]

theorem upce_core (T : Tables) (hWF : WFUpcEan T = true)
    (contents full : List Nat) (hw : upceWriterContents contents = .ok full) :
    ∃ mods, upceModules T contents = .ok mods ∧ ∀ (lq s rq : Nat), 0 < s → s * sumL T.startEnd ≤ lq →
      s * sumL T.upceMiddleEnd < rq → decodeRow T .upce (paddedRow lq s rq mods) = .ok full := by
  have hT := wfFacts T hWF
  obtain ⟨hd, hl, hns, hacc⟩ : allDigits full = true ∧ full.length = 8 ∧ (dv full 0 = 0 ∨ dv full 0 = 1) ∧
      readerAccept .upce full = .ok () := by
    obtain ⟨fd, rfl, hlen, hdg, hns, hacc⟩ := upce_full contents full hw
    refine ⟨allDigits_digitBytes fd hdg, by simpa [digitBytes] using hlen, ?_, hacc⟩
    cases fd with
    | nil => simp at hlen
    | cons d tl => simpa [dv, digitBytes] using hns
  obtain ⟨r0, r1, hrows, hr0, hr1⟩ := wfParity2_rows T hT
  have hf : full[0]'(by omega) = 48 ∨ full[0]'(by omega) = 49 := by
    have := (dv_spec full hd 0 (by omega)).2
    omega
  refine ⟨_, upceModules_of_contents T hT.len (by rw [hrows]; rfl)
    (by rw [hrows]; intro r hr; simp only [List.mem_cons, List.not_mem_nil, or_false] at hr; rcases hr with rfl | rfl <;> assumption)
    contents full hw hl hd hf, ?_⟩
  intro lq s rq hs hlq hrq
  rw [hT.eEq] at hrq
  have h7 := (dv_spec full hd 7 (by omega)).1
  have hup := hT.up
  rw [hrows] at hup
  obtain ⟨hb0, hb1, _⟩ := Properties.C10.upce_parity_bijective r0 r1 hup
  generalize hp : parityE T full = p
  have hpe : p = (T.upceParity.getD (dv full 0) []).getD (dv full 7) 0 := by
    rw [← hp, parityE, rowAt_eq, List.getD_eq_getElem?_getD]; rfl
  have hp64 : p < 64 := by
    rw [hpe]
    obtain ⟨hrl, hmem⟩ := upceParity_row T hT (dv full 0) hns
    rw [getD_eq_getElem _ _ _ (by omega)]
    exact hT.up64 _ hmem _ (List.getElem_mem _)
  have h1 := lgI_range'_lt full hd p (by omega)
  have hdet : determineNumSysAndCheckDigit T.upceParity (lgWord 6 ((List.range' 1 6).map (lgI full p)))
      = .ok (dv full 0, dv full 7) := by
    rw [lgWord_lgI full hd (by omega) p hp64, hpe, hrows]
    rcases hns with e | e <;> rw [e]
    · obtain ⟨hlt, hh⟩ := hb0 _ h7
      simp only [List.getD_cons_zero]
      rw [getD_eq_getElem _ _ _ hlt]; exact hh
    · obtain ⟨hlt, hh⟩ := hb1 _ h7
      simp only [List.getD_cons_succ, List.getD_cons_zero]
      rw [getD_eq_getElem _ _ _ hlt]; exact hh
  obtain ⟨F1, F2, F3, F6, F7⟩ := upce_facts T hT _
    (fun i hi => by rw [lAndG_length hT.len]; exact h1 i hi)
    lq s rq hs hlq hrq (paddedRow lq s rq (drawE T full)) (by rw [drawE_eq T hT full hd hl p hp]) _ _ _ rfl rfl rfl
  simp only [List.length_map, List.length_range'] at F2 F3 F6 F7
  generalize paddedRow lq s rq _ = row at *
  have hres : ((48 + dv full 0) :: List.map (fun m => 48 + m % 10) ((List.range' 1 6).map (lgI full p))) ++
      [48 + dv full 7] = full := by
    have m1 := map_lgI_mod full hd (by omega) p
    rw [m1]
    exact digits_split full hd 7 1 (by omega)
  simp only [decodeRow, F1, notFoundOf, bind, Except.bind, decodeWithStart, upceDecodeMiddle, F2, F3,
    pure, Except.pure, hdet, Nat.add_sub_cancel_left, F6, F7, if_false, Bool.not_true, Bool.false_eq_true,
    reduceCtorEq]
  rw [hres, hacc]

/-! ## the writer's own rendering -/

theorem renderRow_padded (code : List Bool) (width margin : Nat) (h0 : code.length + margin ≠ 0) :
    renderRow code width margin = .ok (paddedRow
      ((max width (code.length + margin) - code.length * (max width (code.length + margin) / (code.length + margin))) / 2)
      (max width (code.length + margin) / (code.length + margin))
      (max width (code.length + margin)
        - (max width (code.length + margin) - code.length * (max width (code.length + margin) / (code.length + margin))) / 2
        - code.length * (max width (code.length + margin) / (code.length + margin)))
      code) := by
  unfold renderRow
  simp only [h0, if_false, paddedRow, scaleRow]

end Gzx.OneD
