/-
  C16 helper lemmas for the whole-grid operations of BitMatrix: `setCells` for every loop that sets a list of cells
  (SetRegion, Rotate90, the constructors), the naive side of Clear / FlipAll / Xor / SetRegion on `ofFn` grids, and the
  word refinement of these four.
-/
import Gzx.Proofs.BitsMat
import Gzx.Proofs.BitsArrBulk
namespace Gzx.Bits
open Gzx

/-! ## loops over the cells -/

/-- a loop of `bits[g/32] |= 1 << (g%32)` over a list of stream positions -/
theorem foldlM_orBits (gs : List Nat) : ∀ (ws : List Nat),
    (∀ g ∈ gs, g / 32 < ws.length) → (∀ w ∈ ws, w < W32) →
    ∃ ws', gs.foldlM (fun ws g => updWord ws (g / 32) (fun w => w ||| 1 <<< (g % 32))) ws = .ok ws' ∧
      ws'.length = ws.length ∧ (∀ w ∈ ws', w < W32) ∧
      ∀ g, bitAt ws' g = (bitAt ws g || decide (g ∈ gs)) := by
  induction gs with
  | nil => intro ws _ hlt; exact ⟨ws, rfl, rfl, hlt, by simp⟩
  | cons g0 gs ih =>
    intro ws hidx hlt
    have hk : g0 / 32 < ws.length := hidx g0 (by simp)
    have hb : g0 % 32 < 32 := Nat.mod_lt _ (by decide)
    rw [List.foldlM_cons, updWord_ok _ _ _ hk]
    obtain ⟨ws', h1, h2, h3, h4⟩ := ih (ws.set (g0 / 32) (ws[g0 / 32] ||| 1 <<< (g0 % 32)))
      (by intro g hg; simpa using hidx g (by simp [hg]))
      (words_lt_set hlt ((bitOp_or hb).lt (hlt _ (List.getElem_mem hk))))
    refine ⟨ws', by simpa [bind, Except.bind] using h1, by simpa using h2, h3, ?_⟩
    intro g
    rw [h4, (bitOp_or hb).bitAt_set hb hk, Nat.div_add_mod']
    by_cases c : g = g0
    · simp [c]
    · simp [c]

theorem WMat.setCells {m : WMat} (h : InvM m) (cells : List (Nat × Nat))
    (hin : ∀ p ∈ cells, p.1 < m.width ∧ p.2 < m.height) :
    ∃ ws', cells.foldlM (fun ws p => updWord ws (p.2 * m.rowSize + p.1 / 32) (fun w => w ||| 1 <<< (p.1 % 32)))
        m.words = .ok ws' ∧ InvM { m with words := ws' } ∧
      absM { m with words := ws' } =
        SMat.ofFn m.width m.height (fun x y => mbit m x y || decide ((x, y) ∈ cells)) := by
  have hwl := h.width_le
  have hstep : cells.foldlM (fun ws p => updWord ws (p.2 * m.rowSize + p.1 / 32) (fun w => w ||| 1 <<< (p.1 % 32)))
        m.words =
      (cells.map (fun p => p.2 * m.rowSize * 32 + p.1)).foldlM
        (fun ws g => updWord ws (g / 32) (fun w => w ||| 1 <<< (g % 32))) m.words := by
    rw [List.foldlM_map]
    exact foldlM_congr_mem _ _ _ _ fun p _ ws => by rw [cell_div, cell_mod]
  obtain ⟨ws', g1, g2, g3, g4⟩ := foldlM_orBits (cells.map (fun p => p.2 * m.rowSize * 32 + p.1)) m.words
    (fun g hg => by
      obtain ⟨p, hp, rfl⟩ := List.mem_map.mp hg
      rw [cell_div]; exact h.idx (hin p hp).1 (hin p hp).2)
    h.words_lt
  refine ⟨ws', hstep.trans g1, cellwise m h ws' _ g2 g3 fun x y hx hy => ?_⟩
  rw [g4]
  have hmem : (y * m.rowSize * 32 + x ∈ cells.map (fun p => p.2 * m.rowSize * 32 + p.1)) ↔ (x, y) ∈ cells := by
    rw [List.mem_map]
    constructor
    · rintro ⟨p, hp, he⟩
      obtain ⟨e1, e2⟩ := (cell_inj (rs := m.rowSize) hx (by have := (hin p hp).1; omega)).mp he
      rw [← e1, ← e2]; exact hp
    · intro hp; exact ⟨(x, y), hp, rfl⟩
  by_cases hxw : x < m.width
  · rw [if_pos hxw, decide_eq_decide.mpr hmem]; rfl
  · have p1 : bitAt m.words (y * m.rowSize * 32 + x) = false := h.pad x y (by omega) hx
    have : ¬ (x, y) ∈ cells := fun hp => hxw (hin _ hp).1
    rw [if_neg hxw, p1, decide_eq_false (mt hmem.mp this)]; rfl

/-! ## naive side on `ofFn` grids -/

namespace SMat

theorem flipAll_ofFn (w h : Nat) (f : Nat → Nat → Bool) :
    (ofFn w h f).flipAll = ofFn w h (fun x y => !f x y) := by
  simp [SMat.flipAll, ofFn, List.map_map, Function.comp_def]

theorem clear_ofFn (w h : Nat) (f : Nat → Nat → Bool) :
    (ofFn w h f).clear = ofFn w h (fun _ _ => false) := by
  simp [SMat.clear, ofFn, List.map_map, Function.comp_def]

theorem xor_ofFn (w h : Nat) (f g : Nat → Nat → Bool) :
    (ofFn w h f).xor (ofFn w h g) = .ok (ofFn w h (fun x y => f x y ^^ g x y)) := by
  simp [SMat.xor, ofFn, List.zipWith_map, List.zipWith_self]

theorem get_some (m : SMat) (hm : m.WF) (x y : Nat) (hx : x < m.width) (hy : y < m.height) :
    ∃ r, m.rows[y]? = some r ∧ r.length = m.width ∧ r[x]? = some (m.get x y) := by
  have hyl : y < m.rows.length := by rw [hm.1]; exact hy
  have hrl := hm.2 _ (List.getElem_mem hyl)
  refine ⟨m.rows[y], List.getElem?_eq_getElem hyl, hrl, ?_⟩
  rw [get_eq m x y hyl, List.getElem?_eq_getElem (by omega)]; rfl

theorem setRegion_eq (m : SMat) (hm : m.WF) (l t w h : Nat)
    (hok : ¬ (h < 1 ∨ w < 1) ∧ ¬ (t + h > m.height ∨ l + w > m.width)) :
    m.setRegion l t w h = .ok (ofFn m.width m.height (fun x y =>
      m.get x y || (decide (l ≤ x) && decide (x < l + w) && (decide (t ≤ y) && decide (y < t + h))))) := by
  unfold SMat.setRegion
  rw [if_neg hok.1, if_neg hok.2]
  congr 1
  apply eq_ofFn_of _ _ _ _ _ rfl rfl
  · intro x y hx hy
    obtain ⟨r, h1, h2, h3⟩ := get_some m hm x y hx hy
    unfold SMat.get
    simp only
    rw [List.getElem?_mapIdx, h1]
    simp only [Option.map_some, Option.getD_some]
    by_cases c : t ≤ y ∧ y < t + h
    · rw [if_pos c, List.getElem?_mapIdx, h3]
      simp [c.1, c.2]
    · rw [if_neg c, h3]
      have : (decide (t ≤ y) && decide (y < t + h)) = false := by simp; omega
      simp [this]
  · constructor
    · simpa using hm.1
    · intro r hr
      simp only at hr
      obtain ⟨i, hi, rfl⟩ := List.getElem_of_mem hr
      rw [List.getElem_mapIdx]
      have hi' : i < m.rows.length := by simpa using hi
      have := hm.2 _ (List.getElem_mem hi')
      split <;> simp [this]

end SMat

/-! ## refinement -/

namespace WMat

theorem clear_refines (m : WMat) (h : InvM m) :
    InvM m.clear ∧ absM m.clear = (absM m).clear := by
  have := cellwise m h (m.words.map (fun _ => 0)) (fun _ _ => false) (by simp)
    (by intro w hw; simp at hw; rw [← hw.2]; decide)
    (by intro x y _ _; rw [bitAt_map_zero]; simp)
  rw [absM_eq_ofFn m, SMat.clear_ofFn]
  exact this

theorem flipAll_refines (m : WMat) (h : InvM m) :
    RefinesM m.flipAll (absM m).flipAll := by
  unfold WMat.flipAll
  rw [absM_eq_ofFn m, SMat.flipAll_ofFn]
  have hwu := h.lt_width
  have hwl := h.width_le
  have hlen := h.len
  have hnot : ∀ g, g / 32 < m.words.length → bitAt (m.words.map not32) g = !bitAt m.words g := by
    intro g hg
    rw [bitAt_getElem _ _ (by simpa using hg), bitAt_getElem _ _ hg, List.getElem_map, testBit_not32]
    have : g % 32 < 32 := Nat.mod_lt _ (by decide)
    simp [this]
  have hnotlt : ∀ w ∈ m.words.map not32, w < W32 := by
    intro w hw
    obtain ⟨v, hv, rfl⟩ := List.mem_map.mp hw
    exact not32_lt (h.words_lt v hv)
  simp only
  by_cases hs : m.width % 32 ≠ 0
  · rw [if_pos hs]
    -- the loop visits the last word of every row once
    have hfold := foldlM_updWord (fun _ w => w &&& ((1 <<< (m.width % 32)) - 1))
      ((List.range m.height).map (fun y => y * m.rowSize + (m.rowSize - 1))) (nodup_stride _ _ _ h.rs_pos)
      (m.words.map not32) (fun i hi => by
        obtain ⟨y, hy, rfl⟩ := List.mem_map.mp hi
        rw [List.length_map, hlen]
        exact row_idx_lt (by have := h.rs_pos; omega) (List.mem_range.mp hy))
    simp only [List.foldlM_map] at hfold
    rw [hfold]
    refine ⟨_, rfl, cellwise m h _ _ (by rw [List.length_mapIdx, List.length_map])
      (words_lt_mapIdx (fun k w hw => by split; exact and_lt_W32 hw; exact hw) hnotlt) fun x y hx hy => ?_⟩
    have hkidx : y * m.rowSize + x / 32 < m.words.length := by
      rw [hlen]; exact row_idx_lt (by omega) hy
    have hk' : y * m.rowSize + x / 32 < (m.words.map not32).length := by simpa using hkidx
    have hold : ((m.words.map not32)[y * m.rowSize + x / 32]).testBit (x % 32) = !mbit m x y := by
      rw [List.getElem_map, testBit_not32, mbit_word, List.getElem?_eq_getElem hkidx,
        decide_eq_true (Nat.mod_lt _ (by decide)), Bool.xor_true]; rfl
    -- a word index is on the stride list iff it is the last word of its row
    have hlast : y * m.rowSize + x / 32 ∈ (List.range m.height).map (fun y => y * m.rowSize + (m.rowSize - 1)) ↔
        x / 32 = m.rowSize - 1 := by
      constructor
      · intro hi
        obtain ⟨y', _, he⟩ := List.mem_map.mp hi
        have := congrArg (· % m.rowSize) he
        simp only [Nat.mul_add_mod_self_right] at this
        rw [Nat.mod_eq_of_lt (by have := h.rs_pos; omega), Nat.mod_eq_of_lt (by omega)] at this
        exact this.symm
      · intro e
        exact List.mem_map.mpr ⟨y, List.mem_range.mpr hy, by rw [e]⟩
    rw [bitAt_cell, List.getElem?_mapIdx, List.getElem?_eq_getElem hk']
    simp only [Option.map_some, Option.getD_some]
    by_cases c : x / 32 = m.rowSize - 1
    · rw [if_pos (hlast.mpr c), Nat.testBit_and, hold, Nat.one_shiftLeft, Nat.testBit_two_pow_sub_one]
      by_cases hin : x < m.width
      · rw [if_pos hin]
        have : x % 32 < m.width % 32 := by omega
        simp [this]
      · rw [if_neg hin]
        have : ¬ x % 32 < m.width % 32 := by omega
        simp [this]
    · rw [if_neg (fun hh => c (hlast.mp hh)), hold, if_pos (by omega)]
  · rw [if_neg hs]
    refine ⟨_, rfl, ?_⟩
    apply cellwise m h (m.words.map not32) _ (by simp) hnotlt
    intro x y hx hy
    have hkidx : y * m.rowSize + x / 32 < m.words.length := by
      rw [hlen]; exact row_idx_lt (by omega) hy
    rw [hnot _ (by omega), if_pos (by omega)]; rfl

theorem xor_refines (m mask : WMat) (h : InvM m) (hk : InvM mask) :
    match (absM m).xor (absM mask) with
    | .ok r => RefinesM (m.xor mask) r
    | .error err => m.xor mask = .error err := by
  unfold WMat.xor
  by_cases hd : m.width ≠ mask.width ∨ m.height ≠ mask.height
  · have : (absM m).xor (absM mask) = .error .illegalArg := by
      unfold SMat.xor; rw [if_pos (by simpa [absM] using hd)]
    rw [this]
    simp only
    rw [if_pos (by omega)]
  · have hw : m.width = mask.width := by omega
    have hh : m.height = mask.height := by omega
    have hrs : m.rowSize = mask.rowSize := by rw [h.rowSize_eq, hk.rowSize_eq, hw]
    have hspec : (absM m).xor (absM mask) =
        .ok (SMat.ofFn m.width m.height (fun x y => mbit m x y ^^ mbit mask x y)) := by
      rw [absM_eq_ofFn m, absM_eq_ofFn mask, ← hw, ← hh, SMat.xor_ofFn]
    have hlen := h.len
    have hlenk := hk.len
    rw [hspec]
    simp only
    -- both matrices have the same layout, so the two loops walk the words `0 .. height*rowSize` of both
    rw [if_neg (by omega), ← hrs, foldlM_flatMap (fun ws k => do
        let o ← wordAt mask.words k
        updWord ws k (fun w => w ^^^ o)) (fun y x => y * m.rowSize + x), flatMap_rows]
    obtain ⟨ws', g1, g2, g3, g4⟩ := WArr.foldlM_xorWords mask.words m.words (m.height * m.rowSize)
      (by rw [hlenk, ← hrs, ← hh, Nat.mul_comm]; exact Nat.le_refl _) (by rw [hlen, Nat.mul_comm]; exact Nat.le_refl _)
    rw [g1]
    refine ⟨_, rfl, cellwise m h ws' _ g2 (g3 h.words_lt hk.words_lt) fun x y hx hy => ?_⟩
    have hidx : (y * m.rowSize * 32 + x) / 32 < m.height * m.rowSize := by
      rw [cell_div, Nat.mul_comm m.height m.rowSize]
      exact row_idx_lt (by omega) hy
    rw [g4, if_pos hidx]
    by_cases hin : x < m.width
    · rw [if_pos hin]
      show (mbit m x y ^^ bitAt mask.words (y * m.rowSize * 32 + x)) = _
      rw [hrs]; rfl
    · rw [if_neg hin]
      have p1 := h.pad x y (by omega) hx
      have p2 := hk.pad x y (by omega) (by rw [← hrs]; exact hx)
      unfold mbit at p1 p2
      rw [← hrs] at p2
      rw [p1, p2]; rfl

theorem setRegion_refines (m : WMat) (l t w ht : Nat) (h : InvM m) :
    match (absM m).setRegion l t w ht with
    | .ok r => RefinesM (m.setRegion l t w ht) r
    | .error err => m.setRegion l t w ht = .error err := by
  unfold WMat.setRegion
  by_cases hbad1 : ht < 1 ∨ w < 1
  · have : (absM m).setRegion l t w ht = .error .illegalArg := by
      unfold SMat.setRegion; rw [if_pos hbad1]
    rw [this]; simp only; rw [if_pos hbad1]
  · by_cases hbad2 : t + ht > m.height ∨ l + w > m.width
    · have : (absM m).setRegion l t w ht = .error .illegalArg := by
        unfold SMat.setRegion; rw [if_neg hbad1, if_pos (by simpa [absM] using hbad2)]
      rw [this]; simp only; rw [if_neg hbad1, if_pos hbad2]
    · rw [SMat.setRegion_eq _ (absM_WF m) l t w ht ⟨hbad1, by simpa [absM] using hbad2⟩]
      simp only
      rw [if_neg hbad1, if_neg hbad2,
        foldlM_flatMap (fun ws (p : Nat × Nat) => updWord ws (p.2 * m.rowSize + p.1 / 32) (fun w => w ||| 1 <<< (p.1 % 32)))
          (fun y x => (x, y))]
      have hmem : ∀ x y, (x, y) ∈ (List.range' t ht).flatMap (fun y => (List.range' l w).map (fun x => (x, y))) ↔
          (l ≤ x ∧ x < l + w) ∧ (t ≤ y ∧ y < t + ht) := by
        intro x y
        simp only [List.mem_flatMap, List.mem_map, List.mem_range'_1, Prod.mk.injEq]
        constructor
        · rintro ⟨y', hy', x', hx', rfl, rfl⟩; exact ⟨hx', hy'⟩
        · rintro ⟨hx', hy'⟩; exact ⟨y, hy', x, hx', rfl, rfl⟩
      obtain ⟨ws', g1, g2, g3⟩ := setCells h _ (fun p hp => by have := (hmem p.1 p.2).mp hp; omega)
      rw [g1]
      refine ⟨_, rfl, g2, g3.trans (SMat.ofFn_congr _ _ fun x y hx hy => ?_)⟩
      rw [absM_get m x y hx hy]
      congr 1
      rw [Bool.eq_iff_iff]
      simp only [decide_eq_true_eq, Bool.and_eq_true, hmem]

end WMat

end Gzx.Bits
