/-
  C16 helper lemmas: the only error the naive operations can return is `illegalArg`.
-/
import Gzx.Model.Bits
namespace Gzx.Bits
open Gzx

theorem SArr.setRange_error {a : SArr} {s e : Nat} {err : Fault}
    (h : SArr.setRange a s e = .error err) : err = .illegalArg := by
  unfold SArr.setRange at h
  split at h
  · cases h; rfl
  · cases h

theorem SArr.appendBits_error {a : SArr} {v n : Nat} {err : Fault}
    (h : SArr.appendBits a v n = .error err) : err = .illegalArg := by
  unfold SArr.appendBits at h
  split at h
  · cases h; rfl
  · cases h

theorem SArr.xor_error {a o : SArr} {err : Fault}
    (h : SArr.xor a o = .error err) : err = .illegalArg := by
  unfold SArr.xor at h
  split at h
  · cases h; rfl
  · cases h

theorem SMat.xor_error {a o : SMat} {err : Fault}
    (h : SMat.xor a o = .error err) : err = .illegalArg := by
  unfold SMat.xor at h
  split at h
  · cases h; rfl
  · cases h

theorem SMat.setRegion_error {a : SMat} {l t w ht : Nat} {err : Fault}
    (h : SMat.setRegion a l t w ht = .error err) : err = .illegalArg := by
  unfold SMat.setRegion at h
  split at h
  · cases h; rfl
  · split at h
    · cases h; rfl
    · cases h

end Gzx.Bits
