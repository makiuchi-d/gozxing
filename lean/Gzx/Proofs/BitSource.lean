/-
  Helper lemmas for Properties/C06.lean : bounds-safety and arithmetic of the BitSource model; `ReadBits` and the
  ECI designator read on a well-formed source.
-/
import Gzx.Model.BitSource
import Gzx.Proofs.Sat
namespace Gzx.BitSource
open Gzx.Det

theorem byteAt_ok (s : BitSource) (i : Nat) (h : i < s.bytes.length) :
    ∃ b, byteAt s i = .ok b := by
  unfold byteAt
  have : s.bytes[i]? = some s.bytes[i] := List.getElem?_eq_getElem h
  rw [this]
  exact ⟨_, rfl⟩

theorem shl_or_lt (a x t m : Nat) (ha : a < 2 ^ t) (hx : x < 2 ^ m) :
    (a <<< m) ||| x < 2 ^ (t + m) := by
  apply Nat.or_lt_two_pow
  · rw [Nat.shiftLeft_eq, Nat.pow_add]
    exact Nat.mul_lt_mul_of_lt_of_le ha (Nat.le_refl _) (Nat.two_pow_pos m)
  · calc x < 2 ^ m := hx
      _ ≤ 2 ^ (t + m) := Nat.pow_le_pow_right (by decide) (by omega)

theorem readWhole_ok (s : BitSource) :
    ∀ (k off acc t : Nat), off + k ≤ s.bytes.length → acc < 2 ^ t →
      ∃ v, readWhole s k off acc = .ok (v, off + k) ∧ v < 2 ^ (t + 8 * k) := by
  intro k
  induction k with
  | zero =>
    intro off acc t _ hacc
    exact ⟨acc, by simp [readWhole], by simpa using hacc⟩
  | succ k ih =>
    intro off acc t hlen hacc
    obtain ⟨b, hb⟩ := byteAt_ok s off (by omega)
    have hand : b &&& 0xFF < 2 ^ 8 := Nat.and_lt_two_pow b (by decide : 0xFF < 2 ^ 8)
    have hacc' : (acc <<< 8) ||| (b &&& 0xFF) < 2 ^ (t + 8) := shl_or_lt acc _ t 8 hacc hand
    obtain ⟨v, hv, hvb⟩ := ih (off + 1) ((acc <<< 8) ||| (b &&& 0xFF)) (t + 8) (by omega) hacc'
    refine ⟨v, ?_, ?_⟩
    · simp only [readWhole, hb]
      rw [hv]
      congr 2
      omega
    · have : t + 8 + 8 * k = t + 8 * (k + 1) := by omega
      rw [← this]; exact hvb

/-- phase 1 stays inside the buffer and accounts for exactly the bits it consumed.  What it leaves is what phases 2
    and 3 assume: the last four conjuncts are the hypotheses of `readRest_ok`, the bound on `r` its `hr`; the
    equation is the bookkeeping by which `readBits_sat` gets the position advanced by exactly `n`. -/
theorem readFirst_ok (s : BitSource) (hs : WF s) (n : Nat) (hn : 1 ≤ n)
    (hav : n + s.bitOffset ≤ 8 * (s.bytes.length - s.byteOffset)) :
    ∃ r n1 byo bio, readFirst s n = .ok (r, n1, byo, bio) ∧ n1 ≤ n ∧ r < 2 ^ (n - n1) ∧
      8 * byo + bio + n1 = 8 * s.byteOffset + s.bitOffset + n ∧ bio < 8 ∧ (n1 > 0 → bio = 0) ∧
      (bio > 0 → byo < s.bytes.length) ∧ 8 * byo + bio + n1 ≤ 8 * s.bytes.length := by
  obtain ⟨h8, hle, hlt⟩ := hs
  unfold readFirst
  by_cases hb : s.bitOffset > 0
  · simp only [hb, if_true]
    obtain ⟨b, hbyte⟩ := byteAt_ok s s.byteOffset (hlt hb)
    simp only [hbyte]
    have hlen := hlt hb
    by_cases hsmall : n < 8 - s.bitOffset
    · simp only [hsmall, if_true]
      have hne : ¬ (s.bitOffset + n = 8) := by omega
      simp only [hne, if_false]
      refine ⟨_, _, _, _, rfl, by omega, ?_, by omega, by omega, by omega, fun _ => hlen, by omega⟩
      have : n - (n - n) = n := by omega
      rw [this]
      exact Nat.mod_lt _ (Nat.two_pow_pos n)
    · simp only [hsmall, if_false]
      have he : s.bitOffset + (8 - s.bitOffset) = 8 := by omega
      simp only [he, if_true]
      refine ⟨_, _, _, _, rfl, by omega, ?_, by omega, by omega, by omega, by omega, by omega⟩
      have : n - (n - (8 - s.bitOffset)) = 8 - s.bitOffset := by omega
      rw [this]
      exact Nat.mod_lt _ (Nat.two_pow_pos _)
  · simp only [hb, if_false]
    have h0 : s.bitOffset = 0 := by omega
    refine ⟨0, n, s.byteOffset, 0, rfl, by omega, ?_, by omega, by omega, by omega, by omega, by omega⟩
    simp

/-- phases 2 and 3 stay inside the buffer -/
theorem readRest_ok (s : BitSource) (r n1 byo bio t : Nat) (hr : r < 2 ^ t)
    (hbio : bio < 8) (hz : n1 > 0 → bio = 0) (hin : bio > 0 → byo < s.bytes.length)
    (hav : 8 * byo + bio + n1 ≤ 8 * s.bytes.length) :
    ∃ v s', readRest s r n1 byo bio = .ok (v, s') ∧ v < 2 ^ (t + n1) ∧
      position s' = 8 * byo + bio + n1 ∧ WF s' ∧ s'.bytes = s.bytes := by
  unfold readRest
  by_cases hn1 : n1 > 0
  · simp only [hn1, if_true]
    have hb0 : bio = 0 := hz hn1
    subst hb0
    obtain ⟨v, hv, hvb⟩ := readWhole_ok s (n1 / 8) byo r t (by omega) hr
    simp only [hv]
    by_cases hn2 : n1 % 8 > 0
    · simp only [hn2, if_true]
      obtain ⟨b, hbyte⟩ := byteAt_ok s (byo + n1 / 8) (by omega)
      simp only [hbyte]
      refine ⟨_, _, rfl, ?_, ?_, ?_, rfl⟩
      · have hx : (b >>> (8 - n1 % 8)) % 2 ^ (n1 % 8) < 2 ^ (n1 % 8) := Nat.mod_lt _ (Nat.two_pow_pos _)
        have := shl_or_lt v _ (t + 8 * (n1 / 8)) (n1 % 8) hvb hx
        have e : t + 8 * (n1 / 8) + n1 % 8 = t + n1 := by omega
        rw [e] at this; exact this
      · simp only [position]; omega
      · refine ⟨?_, ?_, ?_⟩ <;> simp only <;> omega
    · simp only [hn2, if_false]
      refine ⟨_, _, rfl, ?_, ?_, ?_, rfl⟩
      · have e : t + 8 * (n1 / 8) = t + n1 := by omega
        rw [e] at hvb; exact hvb
      · simp only [position]; omega
      · refine ⟨?_, ?_, ?_⟩ <;> simp only <;> omega
  · simp only [hn1, if_false]
    have : n1 = 0 := by omega
    subst this
    refine ⟨r, _, rfl, by simpa using hr, ?_, ?_, rfl⟩
    · simp only [position]; omega
    · refine ⟨?_, ?_, ?_⟩ <;> simp only
      · exact hbio
      · omega
      · exact hin

/-! ## ReadBits, parseECIValue -/

/-- `ReadBits` on a well-formed source: IllegalArgument exactly when `numBits` is outside 1..32 or more than is
    available; otherwise a value below `2^numBits`, the position advanced exactly, the buffer untouched, the
    invariant kept -/
theorem readBits_sat (s : BitSource) (hs : WF s) (n : Int) :
    Sat (fun e => e = .illegalArg ∧ (n < 1 ∨ n > 32 ∨ n > available s))
      (fun r => r.1 < 2 ^ n.toNat ∧ position r.2 = position s + n.toNat ∧ WF r.2 ∧ r.2.bytes = s.bytes)
      (readBits s n) := by
  unfold readBits
  refine Sat.ite (fun h => Sat.error ⟨rfl, h⟩) fun hcond => ?_
  have havN : n.toNat + s.bitOffset ≤ 8 * (s.bytes.length - s.byteOffset) := by
    obtain ⟨h8, hle, hlt⟩ := hs
    unfold available at hcond
    omega
  obtain ⟨r, n1, byo, bio, hf, hn1, hr, hpos, hbio, hz, hin, hfit⟩ :=
    readFirst_ok s hs n.toNat (by omega) havN
  simp only [hf]
  obtain ⟨v, s', hrest, hv, hp, hwf, hbytes⟩ := readRest_ok s r n1 byo bio (n.toNat - n1) hr hbio hz hin hfit
  rw [hrest]
  refine ⟨?_, ?_, hwf, hbytes⟩
  · have e : n.toNat - n1 + n1 = n.toNat := by omega
    rw [e] at hv; exact hv
  · show position s' = _
    rw [hp]; simp only [position]; omega

theorem readBitsF_sat (s : BitSource) (hs : WF s) (n : Int) :
    Sat (Only .format) (fun r => r.1 < 2 ^ n.toNat ∧ WF r.2) (readBitsF s n) := by
  unfold readBitsF
  have read := readBits_sat s hs n
  exact Sat.step _ read (fun _ he => by rw [he.1]; rfl) fun _ hr => ⟨hr.1, hr.2.2.1⟩

theorem parseECIValue_sat (s : BitSource) (hs : WF s) :
    Sat (Only .format) (fun r => r.1 < 2 ^ 21 ∧ WF r.2) (parseECIValue s) := by
  unfold parseECIValue
  refine Sat.step _ (readBitsF_sat s hs 8) (fun _ he => he) fun ⟨f, s1⟩ ⟨hf, hw1⟩ => ?_
  have more := fun n => readBitsF_sat s1 hw1 n
  dsimp only at hf hw1 more ⊢
  refine Sat.ite (fun _ => Sat.ok ⟨?_, hw1⟩) fun _ => Sat.ite (fun _ => ?_) fun _ => Sat.ite (fun _ => ?_) fun _ =>
    Sat.error rfl
  · have : f &&& 0x7F < 2 ^ 7 := Nat.and_lt_two_pow f (by decide : 0x7F < 2 ^ 7)
    show f &&& 0x7F < 2 ^ 21
    omega
  · refine Sat.step _ (more 8) (fun _ he => he) fun ⟨g, s2⟩ ⟨hg, hw2⟩ => ⟨?_, hw2⟩
    have ha : f &&& 0x3F < 2 ^ 6 := Nat.and_lt_two_pow f (by decide : 0x3F < 2 ^ 6)
    calc _ < 2 ^ (6 + 8) := shl_or_lt (f &&& 0x3F) g 6 8 ha hg
      _ ≤ 2 ^ 21 := Nat.pow_le_pow_right (by decide) (by decide)
  · refine Sat.step _ (more 16) (fun _ he => he) fun ⟨g, s2⟩ ⟨hg, hw2⟩ => ⟨?_, hw2⟩
    exact shl_or_lt (f &&& 0x1F) g 5 16 (Nat.and_lt_two_pow f (by decide : 0x1F < 2 ^ 5)) hg

end Gzx.BitSource
