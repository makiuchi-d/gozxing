/-
  The field arithmetic of the REFERENCE Aztec encoder (Gzx/Ref/Aztec.lean §5) is the field arithmetic of C04.

  * `gfMul w a b` (shift-and-add modulo `primPoly w`) = C04's reference product `gmul (primPoly w) a b`;
  * the exp/log tables `GF.make w` builds hold `x^i` and its inverse, hence the table product `GF.mul` is
    the same product (`make_mul`).

  Everything is algebraic and parametric in the codeword size `w` with the single hypothesis
  `ParamsOK (primPoly w) (2^w)`; no enumeration of field elements, so GF(4096) costs the same as GF(16).
  The generator polynomial and the check words built with this product are in Proofs/AztecRS.lean.
-/
import Gzx.Proofs.GFShiftAdd
import Gzx.Ref.Aztec
namespace Gzx.AztecGF
open Gzx Gzx.GF Gzx.Ref.GF Gzx.Proofs.GF Gzx.Proofs.GF2 Gzx.Ref.Aztec

section field
variable {w : Nat} (ok : ParamsOK (primPoly w) (2 ^ w))
include ok

omit ok in
theorem log2_size : (2 ^ w).log2 = w := Nat.log2_two_pow

theorem xt_lt' (a : Nat) (ha : a < 2 ^ w) : xt (primPoly w) w a < 2 ^ w := by
  have := xt_lt_size ok a ha
  rw [log2_size] at this
  exact this

omit ok in
theorem gfMulAux_eq_shiftAdd (poly size : Nat) : ∀ (k a b acc : Nat),
    gfMulAux poly size k a b acc = shiftAdd (fun a => if a * 2 ≥ size then a * 2 ^^^ poly else a * 2) k a b acc
  | 0, _, _, _ => rfl
  | k + 1, a, b, acc => by
    unfold gfMulAux shiftAdd
    simp only [beq_iff_eq]
    exact gfMulAux_eq_shiftAdd poly size k _ _ _

theorem gfMul_eq_gmul (a b : Nat) (ha : a < 2 ^ w) (hb : b < 2 ^ w) :
    gfMul w a b = gmul (primPoly w) a b := by
  unfold gfMul
  rw [gfMulAux_eq_shiftAdd]
  exact shiftAdd_eq_gmul ok _ (fun a ha => by rw [Nat.mul_comm a 2]; exact double_reduce_eq_xt _ w a ha) a b ha hb

omit ok in
theorem pw_one (hw : 2 ≤ w) : pw (primPoly w) (2 ^ w) 1 = 2 := by
  show xt (primPoly w) (2 ^ w).log2 1 = 2
  rw [log2_size]
  unfold xt
  have : (2 * 1).testBit w = false := by
    apply testBit_false_of_lt (n := w) _ (Nat.le_refl _)
    calc 2 * 1 < 2 ^ 2 := by decide
      _ ≤ 2 ^ w := Nat.pow_le_pow_right (by omega) hw
  simp [this]

/-- multiplication by `x` in the reference encoder is C04's `xt` -/
theorem gfMul_two (hw : 2 ≤ w) (a : Nat) (ha : a < 2 ^ w) : gfMul w a 2 = xt (primPoly w) w a := by
  have h2 : 2 < 2 ^ w := by
    calc 2 < 2 ^ 2 := by decide
      _ ≤ 2 ^ w := Nat.pow_le_pow_right (by omega) hw
  rw [gfMul_eq_gmul ok a 2 ha h2]
  have := gmul_pw ok a 1 ha
  rw [pw_one hw, log2_size] at this
  exact this

end field

/-! ## the exp/log tables of `GF.make` -/

theorem foldl_push_iter (f : Nat → Nat) (x : Nat) : ∀ n,
    (List.range n).foldl (fun (p : Array Nat × Nat) _ => (p.1.push p.2, f p.2)) (#[], x) =
      (((List.range n).map (fun i => iter f i x)).toArray, iter f n x)
  | 0 => rfl
  | n + 1 => by
    rw [List.range_succ, List.foldl_append, foldl_push_iter f x n]
    simp only [List.foldl_cons, List.foldl_nil, List.map_append, List.map_cons, List.map_nil,
      List.push_toArray, iter_succ']

theorem iter_congr (S : Nat) (f g : Nat → Nat) (hfg : ∀ x, x < S → f x = g x) (hg : ∀ x, x < S → g x < S) :
    ∀ (j x : Nat), x < S → iter f j x = iter g j x
  | 0, _, _ => rfl
  | j + 1, x, hx => by
    show iter f j (f x) = iter g j (g x)
    rw [hfg x hx]
    exact iter_congr S f g hfg hg j _ (hg x hx)

theorem setFold_size (e : Nat → Nat) : ∀ (n : Nat) (init : Array Nat),
    ((List.range n).foldl (fun (l : Array Nat) i => l.setIfInBounds (e i) i) init).size = init.size
  | 0, _ => rfl
  | n + 1, init => by
    rw [List.range_succ, List.foldl_append]
    simp only [List.foldl_cons, List.foldl_nil, Array.size_setIfInBounds]
    exact setFold_size e n init

/-- the second loop of `GF.make`: an injective `e` is inverted on its range -/
theorem setFold_get (e : Nat → Nat) (size : Nat) (init : Array Nat) (hinit : init.size = size) :
    ∀ (n : Nat), (∀ i, i < n → e i < size) → (∀ i j, i < j → j < n → e i ≠ e j) →
    ∀ j, j < n →
      ((List.range n).foldl (fun (l : Array Nat) i => l.setIfInBounds (e i) i) init)[e j]? = some j
  | 0, _, _, j, hj => by omega
  | n + 1, hlt, hinj, j, hj => by
    rw [List.range_succ, List.foldl_append]
    simp only [List.foldl_cons, List.foldl_nil, Array.getElem?_setIfInBounds, setFold_size, hinit]
    by_cases hjn : j = n
    · subst hjn
      simp [hlt j (by omega)]
    · have hne : e n ≠ e j := fun h => hinj j n (by omega) (by omega) h.symm
      rw [if_neg hne]
      exact setFold_get e size init hinit n (fun i hi => hlt i (by omega))
        (fun i j hij hj => hinj i j hij (by omega)) j (by omega)

section tables
variable {w : Nat} (ok : ParamsOK (primPoly w) (2 ^ w)) (hw : 2 ≤ w)
include ok hw

/-- `exp[i] = x^i` for `i < 2^w - 1` -/
theorem make_exp_get (i : Nat) (hi : i < 2 ^ w - 1) :
    (GF.make w).exp[i]? = some (pw (primPoly w) (2 ^ w) i) := by
  unfold GF.make
  simp only
  rw [foldl_push_iter (fun x => gfMul w x 2) 1]
  simp only [List.getElem?_toArray, List.getElem?_map, List.getElem?_range hi, Option.map_some]
  unfold pw
  rw [log2_size]
  congr 1
  exact iter_congr (2 ^ w) _ _ (fun x hx => gfMul_two ok hw x hx) (fun x hx => xt_lt' ok x hx) i 1
    (one_lt_size ok)

theorem make_exp (i : Nat) (hi : i < 2 ^ w - 1) (d : Nat) :
    (GF.make w).exp.getD i d = pw (primPoly w) (2 ^ w) i := by
  rw [Array.getD_eq_getD_getElem?, make_exp_get ok hw i hi]
  rfl

/-- `log[x^j] = j` for `j < 2^w - 1` -/
theorem make_log (j : Nat) (hj : j < 2 ^ w - 1) :
    (GF.make w).log.getD (pw (primPoly w) (2 ^ w) j) 0 = j := by
  have key := setFold_get (fun i => (GF.make w).exp.getD i 0) (2 ^ w) (Array.replicate (2 ^ w) 0)
    (by simp) (2 ^ w - 1)
    (fun i hi => by
      show (GF.make w).exp.getD i 0 < 2 ^ w
      rw [make_exp ok hw i hi 0]; exact pw_lt ok i)
    (fun i j hij hj => by
      show (GF.make w).exp.getD i 0 ≠ (GF.make w).exp.getD j 0
      rw [make_exp ok hw i (by omega) 0, make_exp ok hw j hj 0]; exact pw_inj ok i j hij hj)
    j hj
  simp only [make_exp ok hw j hj 0] at key
  rw [Array.getD_eq_getD_getElem?]
  show ((List.range (2 ^ w - 1)).foldl (fun (l : Array Nat) i => l.setIfInBounds ((GF.make w).exp.getD i 0) i)
    (Array.replicate (2 ^ w) 0))[pw (primPoly w) (2 ^ w) j]?.getD 0 = j
  rw [key]
  rfl

theorem make_mul (a b : Nat) (ha : a < 2 ^ w) (hb : b < 2 ^ w) :
    (GF.make w).mul a b = gmul (primPoly w) a b := by
  unfold Ref.Aztec.GF.mul
  by_cases h0 : a = 0 ∨ b = 0
  · rw [if_pos h0]
    cases h0 with
    | inl h => subst h; rw [gmul_zero_left ok b hb]
    | inr h => subst h; rw [gmul_zero_right ok]
  · rw [if_neg h0]
    have ha0 : a ≠ 0 := fun h => h0 (Or.inl h)
    have hb0 : b ≠ 0 := fun h => h0 (Or.inr h)
    obtain ⟨i, hi, rfl⟩ := pw_surj ok a ha0 ha
    obtain ⟨j, hj, rfl⟩ := pw_surj ok b hb0 hb
    have hwf : (GF.make w).w = w := rfl
    have hs : 0 < 2 ^ w - 1 := by omega
    rw [make_log ok hw i hi, make_log ok hw j hj, hwf, make_exp ok hw _ (Nat.mod_lt _ hs) 0, pw_mod ok,
      gmul_pw_pw ok]

end tables

end Gzx.AztecGF
