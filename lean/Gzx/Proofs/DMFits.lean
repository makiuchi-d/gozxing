/-
  C02 — `dm_fits_encodes`, the part with a closed form: as long as the look-ahead keeps ASCII
  encodation (always the case for all-digit messages), `EncodeHighLevel` writes the ASCII encodation `asciiCws msg`
  (digit pairs, upper shift for extended characters) and succeeds exactly when an admissible symbol holds it.
-/
import Gzx.Proofs.DMTermDispatch
namespace Gzx.DMHighLevel

def asciiOne (c : Nat) : List Nat := if isExtended c then [235, c - 128 + 1] else [c + 1]

def asciiCws : List Nat → List Nat
  | [] => []
  | [c] => asciiOne c
  | d1 :: d2 :: r =>
    if isDigit d1 && isDigit d2 then ((d1 - 48) * 10 + (d2 - 48) + 130) :: asciiCws r
    else asciiOne d1 ++ asciiCws (d2 :: r)

theorem digitRun_lt_two {d1 d2 : Nat} {r : List Nat} (h : ¬ digitRun (d1 :: d2 :: r) ≥ 2) :
    (isDigit d1 && isDigit d2) = false := by
  simp only [digitRun] at h
  cases h1 : isDigit d1 <;> cases h2 : isDigit d2 <;> simp_all

theorem asciiCws_single_step (ch : Nat) (rest : List Nat) (h : ¬ digitRun (ch :: rest) ≥ 2) :
    asciiCws (ch :: rest) = asciiOne ch ++ asciiCws rest := by
  cases rest with
  | nil => simp [asciiCws]
  | cons d2 r => simp only [asciiCws, digitRun_lt_two h, Bool.false_eq_true, if_false]

theorem match_newEnc_none {β : Type} (cc : Ctx) (A : Nat → β) (B : β) (h : cc.newEnc = none) :
    (match cc.newEnc with
      | some m => A m
      | none => B) = B := by rw [h]

/-- the dispatch loop while the look-ahead stays in ASCII (message without macro envelope) -/
theorem ascii_run {syms : List SymbolInfo} {la : LookAhead} :
    ∀ (n : Nat) (c : Ctx), c.skipAtEnd = 0 → c.newEnc = none → c.pos ≤ c.msg.length → c.msg.length - c.pos ≤ n →
      (∀ p, c.pos ≤ p → p < c.msg.length → ¬ digitRun (c.msg.drop p) ≥ 2 → la c.msg p ASCII = ASCII) →
      ∀ fuel, 2 * (c.msg.length - c.pos) + 1 < fuel →
        dispatch syms la fuel ASCII c =
          .ok ({ c with cw := c.cw ++ asciiCws (c.msg.drop c.pos), pos := c.msg.length, newEnc := none }, ASCII) := by
  intro n
  induction n using Nat.strongRecOn with
  | _ n ih =>
    intro c hskip hnew hle hn hla fuel hfuel
    cases fuel with
    | zero => omega
    | succ f =>
      simp only [dispatch]
      by_cases hm : c.hasMore = true
      · simp only [hm, Bool.not_true, Bool.false_eq_true, if_false]
        have hlt : c.pos < c.msg.length := by
          have := (hasMore_iff c).mp hm; simp only [Ctx.total, hskip] at this; omega
        -- a data step of the ASCII encoder: codewords `x`, new position `p`
        have step : ∀ (x : List Nat) (p : Nat), AsciiOut la c.msg c.pos x p none → c.pos < p → p ≤ c.msg.length →
            asciiCws (c.msg.drop c.pos) = x ++ asciiCws (c.msg.drop p) →
            (encodeMode syms la ASCII c >>= fun c1 => match c1.newEnc with
              | some m => dispatch syms la f m { c1 with newEnc := none }
              | none => dispatch syms la f ASCII c1) =
            .ok ({ c with cw := c.cw ++ asciiCws (c.msg.drop c.pos), pos := c.msg.length, newEnc := none }, ASCII) := by
          intro x p ho hp1 hp2 hcws
          rw [encodeMode_ascii, asciiEncode_ok_iff.2 ⟨x, p, none, ho, rfl⟩]
          simp only [bind, Except.bind, Option.or, hnew]
          rw [ih (n - 1) (by omega) ({ c with cw := c.cw ++ x, pos := p, newEnc := none } : Ctx) hskip rfl hp2
            (by show c.msg.length - p ≤ n - 1; omega) (fun q hq1 hq2 hq3 => hla q (by show c.pos ≤ q; have : p ≤ q := hq1; omega) hq2 hq3)
            f (by show 2 * (c.msg.length - p) + 1 < f; omega), hcws]
          simp only [List.append_assoc]
        obtain ⟨ch, hc, hget⟩ := hasMore_cur hm
        have hdrop := drop_eq_cons_of_getElem? hget
        by_cases hd : digitRun (c.msg.drop c.pos) ≥ 2
        · obtain ⟨d1, d2, r, hl, hd1, hd2⟩ := digitRun_two hd
          obtain ⟨g1, _, dr1, _⟩ := drop_cons_facts hl
          obtain ⟨g2, _, dr2, l2⟩ := drop_cons_facts dr1
          exact step _ _ (.pair d1 d2 hd g1 g2 hd1 hd2) (by omega) (by omega)
            (by rw [show c.pos + 2 = c.pos + 1 + 1 from rfl, dr2, hl]; simp [asciiCws, hd1, hd2])
        · have hcws : ∀ x, x = asciiOne ch → asciiCws (c.msg.drop c.pos) = x ++ asciiCws (c.msg.drop (c.pos + 1)) := by
            rintro x rfl; rw [hdrop]; exact asciiCws_single_step ch _ (by rw [← hdrop]; exact hd)
          have hlaA := hla c.pos (Nat.le_refl _) hlt hd
          by_cases hext : isExtended ch = true
          · exact step _ _ (.upper ch hd hget hlaA hext) (by omega) (by omega) (hcws _ (by simp [asciiOne, hext]))
          · exact step _ _ (.plain ch hd hget hlaA hext) (by omega) (by omega) (hcws _ (by simp [asciiOne, hext]))
      · simp only [Bool.not_eq_true] at hm
        simp only [hm, Bool.not_false, if_true]
        have hpe : c.pos = c.msg.length := by
          have := (hasMore_false_iff c).mp hm; simp only [Ctx.total, hskip] at this; omega
        have : c.msg.drop c.pos = [] := by rw [hpe]; exact List.drop_length
        rw [this]
        simp only [asciiCws, List.append_nil, ← hpe]
        cases c; simp only at hnew; subst hnew; rfl

/-- `encodeHL` on a message without macro envelope while the look-ahead stays in ASCII: closed form -/
theorem encodeHL_ascii (syms : List SymbolInfo) (la : LookAhead) (msg : List Nat) (cfg : Cfg)
    (hplain : initCtx msg cfg = { msg := msg, cfg := cfg })
    (hla : ∀ p, p < msg.length → ¬ digitRun (msg.drop p) ≥ 2 → la msg p ASCII = ASCII) :
    encodeHL syms la msg cfg =
      match lookup syms cfg (asciiCws msg).length with
      | some s => .ok (asciiCws msg ++ padding (asciiCws msg).length s.cap)
      | none => .error .writer := by
  unfold encodeHL
  rw [hplain]
  have hrun := ascii_run (syms := syms) (la := la) msg.length ({ msg := msg, cfg := cfg } : Ctx) rfl rfl (Nat.zero_le _)
    (by simp) (fun p _ hp2 hp3 => hla p hp2 hp3) (dispatchFuel msg) (by simp [dispatchFuel]; omega)
  rw [hrun]
  simp only [bind, Except.bind, List.drop_zero, List.nil_append, Ctx.count, Ctx.update]
  cases hl : lookup syms cfg (asciiCws msg).length with
  | none => rfl
  | some s =>
    simp only [Ctx.capacity, Ctx.write]
    simp

theorem asciiCws_digits_length : ∀ (n : Nat) (l : List Nat), l.length ≤ n → (∀ x ∈ l, isDigit x = true) →
    (asciiCws l).length = (l.length + 1) / 2 := by
  intro n
  induction n using Nat.strongRecOn with
  | _ n ih =>
    intro l hl hd
    match l, hl, hd with
    | [], _, _ => rfl
    | [c], _, hd =>
      have : isExtended c = false := by
        have := hd c (by simp)
        simp only [isDigit, Bool.and_eq_true, decide_eq_true_eq] at this
        simp [isExtended]; omega
      simp [asciiCws, asciiOne, this]
    | d1 :: d2 :: r, hl, hd =>
      have h1 := hd d1 (by simp)
      have h2 := hd d2 (by simp)
      simp only [asciiCws, h1, h2, Bool.and_self, if_true, List.length_cons]
      rw [ih (n - 2) (by simp at hl; omega) r (by simp at hl; omega) (fun x hx => hd x (by simp [hx]))]
      omega

theorem initCtx_plain_of_digit (msg : List Nat) (cfg : Cfg) (d : Nat) (r : List Nat) (hm : msg = d :: r)
    (hd : isDigit d = true) : initCtx msg cfg = { msg := msg, cfg := cfg } := by
  have hne : (91 == d) = false := by
    simp only [isDigit, Bool.and_eq_true, decide_eq_true_eq] at hd
    simp; omega
  unfold initCtx
  have h5 : macro05.isPrefixOf msg = false := by
    rw [hm]; simp [macro05, macroHeader, List.isPrefixOf, hne]
  have h6 : macro06.isPrefixOf msg = false := by
    rw [hm]; simp [macro06, macroHeader, List.isPrefixOf, hne]
  simp [h5, h6]

/-- all-digit messages under a float-like look-ahead: the look-ahead is consulted for the last digit of an odd
    number only, and stays in ASCII there -/
theorem digits_la {la : LookAhead} (hla : LaFloatLike la) (msg : List Nat) (hd : ∀ x ∈ msg, isDigit x = true) :
    ∀ p, p < msg.length → ¬ digitRun (msg.drop p) ≥ 2 → la msg p ASCII = ASCII := by
  intro p hp hrun
  have hlast : p + 1 = msg.length := by
    by_cases h : p + 1 < msg.length
    · exfalso; apply hrun
      rw [drop_succ_of_lt hp, drop_succ_of_lt h]
      have h1 := hd msg[p] (List.getElem_mem hp)
      have h2 := hd msg[p + 1] (List.getElem_mem h)
      simp only [digitRun, h1, h2, if_true]
      omega
    · omega
  obtain ⟨ρ, hρ⟩ := hla msg p ASCII
  rw [hρ]
  exact laExactR_tail_ascii ρ msg msg.length (Or.inl rfl) p hlast

end Gzx.DMHighLevel
