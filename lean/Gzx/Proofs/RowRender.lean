/-
  The pixel row of a drawn 1-D symbol (`paddedRow lq s rq modules`: quiet zones and scaling as `onedWriter_renderResult`
  produces them) seen as a run list from the end of its left quiet zone (`tailQ`, `paddedRow_rowAt`), and what the
  readers' start searches ask of the white pixels in front of it.  Used by the read-back proofs of Code 128, ITF,
  Code 39 and Code 93.
-/
import Gzx.Proofs.RunBoundary
namespace Gzx.OneD
open Gzx

/-! ## the rendered row seen from the end of the left quiet zone (quiet zones may be empty) -/

/-- the right quiet zone as a run list: nothing when it is empty -/
def tailQ (rq : Nat) : List Nat := if rq = 0 then [] else [rq]

theorem tailQ_pos (rq : Nat) : ∀ w ∈ tailQ rq, 0 < w := by
  intro w hw
  unfold tailQ at hw
  split at hw
  · cases hw
  · simp at hw; omega

theorem appendPattern_tailQ (rq : Nat) : appendPattern (tailQ rq) false = List.replicate rq false := by
  unfold tailQ
  split
  · rename_i h; subst h; rfl
  · simp [appendPattern]

/-- the white pixels after a symbol that ends with a bar are one more run, or none -/
theorem appendPattern_tail_white (X : List Nat) (rq : Nat) (hX : X.length % 2 = 1) :
    appendPattern X true ++ List.replicate rq false = appendPattern (X ++ tailQ rq) true := by
  rw [appendPattern_append]
  have : ¬ X.length % 2 = 0 := by omega
  simp only [this, if_false, Bool.not_true, appendPattern_tailQ]

/-- a symbol with run widths `R` (bars first and last), drawn at `s` pixels per module between `lq` and `rq` white
    pixels: from pixel `lq` on the row consists of the scaled runs and the right quiet zone; nothing black before -/
theorem paddedRow_rowAt (R : List Nat) (lq s rq : Nat) (hs : 0 < s) (hodd : R.length % 2 = 1)
    (hpos : ∀ w ∈ R, 0 < w) :
    RowAt (paddedRow lq s rq (appendPattern R true)) lq (R.map (s * ·) ++ tailQ rq) true ∧
    getNextSet (paddedRow lq s rq (appendPattern R true)) 0 = lq ∧
    (paddedRow lq s rq (appendPattern R true)).length = lq + s * sumL R + rq := by
  have hbody : (paddedRow lq s rq (appendPattern R true)).drop lq =
      appendPattern (R.map (s * ·) ++ tailQ rq) true := by
    unfold paddedRow
    rw [List.append_assoc, List.drop_left' (by simp), scaleRow_appendPattern,
      appendPattern_tail_white _ rq (by simpa using hodd)]
  have hlen : (paddedRow lq s rq (appendPattern R true)).length = lq + s * sumL R + rq := by
    unfold paddedRow
    simp only [List.length_append, List.length_replicate, scaleRow_appendPattern, length_appendPattern, sumL_scale]
  refine ⟨⟨by omega, hbody, ?_⟩, ?_, hlen⟩
  · intro w hw
    rcases List.mem_append.mp hw with h | h
    · exact scale_pos s hs R hpos w h
    · exact tailQ_pos rq w h
  · obtain ⟨r0, R', rfl⟩ : ∃ r0 R', R = r0 :: R' := List.exists_cons_of_ne_nil (by intro e; simp [e] at hodd)
    have hr0 : 0 < s * r0 := Nat.mul_pos hs (hpos r0 (by simp))
    obtain ⟨k, hk⟩ : ∃ k, s * r0 = k + 1 := ⟨s * r0 - 1, by omega⟩
    unfold paddedRow
    rw [scaleRow_appendPattern]
    simp only [List.map_cons, appendPattern, hk, List.replicate_succ, List.cons_append, List.append_assoc]
    exact getNextSet_replicate lq _

/-! ## a row that is white up to pixel `lq` -/

theorem white_prefix {row : List Bool} {lq : Nat} (hw : row.take lq = List.replicate lq false) :
    row = List.replicate lq false ++ row.drop lq := by
  rw [← hw, List.take_append_drop]

theorem paddedRow_take (lq s rq : Nat) (X : List Bool) : (paddedRow lq s rq X).take lq = List.replicate lq false := by
  unfold paddedRow
  rw [List.append_assoc, List.take_left' (by simp)]

/-- the first bar of such a row, when a bar starts at `lq` -/
theorem getNextSet_of_white {row : List Bool} {lq w : Nat} {B : List Nat} (h : RowAt row lq (w :: B) true)
    (hw : row.take lq = List.replicate lq false) : getNextSet row 0 = lq := by
  obtain ⟨tl, htl⟩ := h.head
  rw [white_prefix hw, htl]
  exact getNextSet_replicate lq tl

/-- the test "white from `a` up to the symbol" of a start search passes on a rendered row -/
theorem paddedRow_white (lq s rq : Nat) (X : List Bool) (a : Nat) (ha : a ≤ lq) :
    isRangeWhite (paddedRow lq s rq X) a lq = true := by
  unfold paddedRow
  rw [List.append_assoc]
  exact isRangeWhite_prefix lq _ a lq ha (Nat.le_refl _)

end Gzx.OneD
