/-
  C02: the EDIFACT encoder as a WHOLE CALL (EdifactEncoder.encode + edifactHandleEOD as of /repo commit 7bca761): what it
  appends behind the latch and how the decoder reads that (`edifact_call_reads`, no prefix), hence what state it leaves
  behind a prefix that decodes (`edifact_step_post`); for every look-ahead oracle and every symbol table.
-/
import Gzx.Proofs.DMTermXE
namespace Gzx.DMHighLevel
open Gzx.Det (Sat Only)

/-- the `count == 1` prelude in detail -/
theorem ediEarly_one {syms : List SymbolInfo} {c c2 : Ctx} {nu : Bool} (h : ediEarly syms c 1 = .ok (c2, nu)) :
    ∃ s r, c2.sym = some s ∧ c.count ≤ s.cap ∧ edifactRestNeed c = .ok r ∧
      nu = decide (r ≤ s.cap - c.count ∧ s.cap - c.count ≤ 2) ∧ (s.cap - c.count < r → c.count + 1 ≤ s.cap) ∧
      Frame c c2 ∧ c2.cw = c.cw := by
  unfold ediEarly at h
  simp only [if_true] at h
  obtain ⟨c1, hu1, h⟩ := bind_ok h
  obtain ⟨cap, hc1, h⟩ := bind_ok h
  obtain ⟨rem, hr, h⟩ := bind_ok h
  obtain ⟨p, hp, h⟩ := bind_ok h
  obtain ⟨c3, av⟩ := p
  simp only [Except.ok.injEq, Prod.mk.injEq] at h
  obtain ⟨rfl, rfl⟩ := h
  obtain ⟨ucw, umsg, upos, ucfg, uskip, unew, s1, hs1, hcap1, _⟩ := update_spec hu1
  have hf1 := update_frame hu1
  have hcnt1 : c1.count = c.count := by simp [Ctx.count, ucw]
  have hcapv : cap = s1.cap := by unfold Ctx.capacity at hc1; rw [hs1] at hc1; cases hc1; rfl
  have hr' : edifactRestNeed c = .ok rem := by
    have : edifactRestNeed c1 = edifactRestNeed c := by
      unfold edifactRestNeed Ctx.remaining Ctx.total
      rw [umsg, upos, uskip]
    rw [← this]; exact hr
  by_cases hgt : rem > cap - c1.count
  · rw [if_pos hgt] at hp
    obtain ⟨c4, hu4, hp⟩ := bind_ok hp
    obtain ⟨cap4, hc4, hp⟩ := bind_ok hp
    simp only [pure, Except.pure, Except.ok.injEq, Prod.mk.injEq] at hp
    obtain ⟨rfl, rfl⟩ := hp
    obtain ⟨ucw4, _, _, _, _, _, s4, hs4, hcap4, _⟩ := update_spec hu4
    have hcnt4 : c4.count = c.count := by simp [Ctx.count, ucw4, ucw]
    have hcapv4 : cap4 = s4.cap := by unfold Ctx.capacity at hc4; rw [hs4] at hc4; cases hc4; rfl
    refine ⟨s4, rem, hs4, by rw [hcnt1] at hcap4; omega, hr', ?_, fun _ => by rw [hcnt1] at hcap4; omega,
      hf1.trans (update_frame hu4), by rw [ucw4, ucw]⟩
    rw [hcapv4, hcnt4]
  · rw [if_neg hgt] at hp
    simp only [pure, Except.pure, Except.ok.injEq, Prod.mk.injEq] at hp
    obtain ⟨rfl, rfl⟩ := hp
    refine ⟨s1, rem, hs1, hcap1, hr', ?_, fun hlt => ?_, hf1, ucw⟩
    · rw [hcapv, hcnt1]
    · exfalso; rw [hcapv, hcnt1] at hgt; omega

/-- the symbol re-selection for at most two buffered characters is ONE look-up (the second, for the packed codewords,
    finds the symbol of the first: three codewords are free and at most three are written); the rest goes to ASCII iff
    fewer than three codewords are free at the end of the message -/
theorem ediStep_spec {syms : List SymbolInfo} {c c2 : Ctx} {buf : List Nat} {ria : Bool}
    (h1 : 1 ≤ buf.length) (hr : buf.length - 1 ≤ 2) (h : ediStep syms c buf = .ok (c2, ria)) :
    ∃ s1, c.update syms (c.count + (buf.length - 1)) = .ok c2 ∧ c2.sym = some s1 ∧
      ria = (decide (s1.cap - c.count < 3) && !c.hasMore) := by
  unfold ediStep at h
  simp only [hr, if_true, decide_true, Bool.and_true] at h
  obtain ⟨c1, hu1, h⟩ := bind_ok h
  obtain ⟨cap, hc, h⟩ := bind_ok h
  obtain ⟨ucw, _, _, _, _, _, s1, hs1, hcap1, _⟩ := update_spec hu1
  have hcapv : cap = s1.cap := by unfold Ctx.capacity at hc; rw [hs1] at hc; cases hc; rfl
  have hcnt : c1.count = c.count := by simp [Ctx.count, ucw]
  rw [hcapv, hcnt] at h
  by_cases h3 : s1.cap - c.count ≥ 3
  · rw [if_pos h3] at h
    rw [update_noop hs1 (by rw [edifactPack_length buf h1]; omega)] at h
    simp only [bind, Except.bind, Except.ok.injEq, Prod.mk.injEq] at h
    obtain ⟨rfl, rfl⟩ := h
    exact ⟨s1, hu1, hs1, by simp [show ¬ s1.cap - c.count < 3 by omega]⟩
  · rw [if_neg h3] at h
    simp only [Except.ok.injEq, Prod.mk.injEq] at h
    obtain ⟨rfl, rfl⟩ := h
    exact ⟨s1, hu1, hs1, by simp [show s1.cap - c.count < 3 by omega]⟩

/-- A whole call of the EDIFACT encoder, entered behind the latch 240: what it appends and how that is read back.
    Nothing is said about what precedes the latch. -/
theorem edifact_call_reads {T : Tables} {syms : List SymbolInfo} {la : LookAhead} {c c' : Ctx}
    (hle : c.pos ≤ c.total) (h : edifactEncode syms la c = .ok c') :
    ∃ ws chars, CallFrame c c' ws chars ∧ c'.newEnc = some ASCII ∧ ∀ off, EdiEnd T syms off c c' ws chars := by
  unfold edifactEncode at h
  cases hl : edifactLoop la c.remaining c [] with
  | error e => rw [hl] at h; simp [bind, Except.bind] at h
  | ok r =>
    obtain ⟨c1, buf1⟩ := r
    rw [hl] at h
    simp only [bind, Except.bind] at h
    obtain ⟨chars, hchars, hnat, hcw1, hbuf1, hsf, hp1, hp1t, hclen, hexit⟩ :=
      (edifactLoop_sat la c.remaining c [] (by simp) hle (Nat.le_refl _)).of_ok hl
    simp only [List.nil_append] at hchars hcw1 hbuf1 hsf hp1 hp1t hclen hexit
    obtain ⟨k, hk1, hk2, hq1, hq2⟩ := writeQuads_split (chars.map ediVal)
    rw [List.length_map] at hk1 hk2
    obtain ⟨charsQ, hQ⟩ : ∃ x, x = chars.take (4 * k) := ⟨_, rfl⟩
    obtain ⟨charsB, hB⟩ : ∃ x, x = chars.drop (4 * k) := ⟨_, rfl⟩
    have hQl : charsQ.length = 4 * k := by rw [hQ, List.length_take]; omega
    have hBl : charsB.length < 4 := by rw [hB, List.length_drop]; omega
    have hQn : ∀ x ∈ charsQ, isNativeEDIFACT x = true := fun x hx => hnat x (by rw [hQ] at hx; exact List.mem_of_mem_take hx)
    have hBn : ∀ x ∈ charsB, isNativeEDIFACT x = true := fun x hx => hnat x (by rw [hB] at hx; exact List.mem_of_mem_drop hx)
    have hcw1' : c1.cw = c.cw ++ (writeQuads (charsQ.map ediVal)).1 := by
      rw [hcw1, hq1, hQ, List.map_take]
    have hbuf1' : buf1 = charsB.map ediVal := by rw [hbuf1, hq2, hB, List.map_drop]
    have hopen := fun off => segReads_edi_open T off k charsQ hQl hQn
    subst hbuf1'
    have hsplit : charsQ ++ charsB = chars := by rw [hQ, hB]; exact List.take_append_drop _ _
    have hAllText : c.msg.take c1.pos = c.msg.take c.pos ++ chars := by
      rw [hchars, take_add_drop_take]; congr 1; omega
    have hQText : c.msg.take (c.pos + 4 * k) = c.msg.take c.pos ++ charsQ := by
      rw [hQ, hchars, List.take_take, Nat.min_eq_left (by omega), take_add_drop_take]
    have hc1len : c1.pos = c.pos + 4 * k + charsB.length := by
      have : chars.length = charsQ.length + charsB.length := by rw [← hsplit, List.length_append]
      omega
    have hbl : (charsB.map ediVal ++ [31]).length - 1 = charsB.length := by simp
    -- buffered characters mean that the loop has run to the end of the message
    have hm1 : charsB ≠ [] → c1.hasMore = false := by
      intro hne
      rcases hexit with ⟨_, e⟩ | ⟨_, e, _⟩
      · exact e
      · exact absurd (List.map_eq_nil_iff.mp e) hne
    -- the frame of a result that differs from `c1` (or from `c1` stepped back) in the symbol and the codewords only
    have frame : ∀ (cZ : Ctx) (ws chs : List Nat) (back : Nat), Frame c1 cZ → c'.msg = cZ.msg → c'.cfg = cZ.cfg →
        c'.skipAtEnd = cZ.skipAtEnd → c'.pos = cZ.pos - back → c'.cw = c.cw ++ ws → back ≤ charsB.length →
        c.msg.take (c1.pos - back) = c.msg.take c.pos ++ chs → CallFrame c c' ws chs := by
      intro cZ ws chs back hf e1 e2 e3 e4 e5 hb htk
      refine ⟨e5, by rw [e1, hf.msg, hsf.msg], by rw [e2, hf.cfg, hsf.cfg], by rw [e3, hf.skip, hsf.skip],
        by rw [e4, hf.pos]; exact htk, by rw [e4, hf.pos]; omega, ?_⟩
      have : c'.total = c1.total := by simp [Ctx.total, e1, e3, hf.msg, hf.skip]
      rw [this, e4, hf.pos]; omega
    rw [edifactHandleEOD_ok_iff] at h
    generalize hbuf : charsB.map ediVal ++ [31] = buf at h hbl
    cases h with
    | empty h0 => rw [← hbuf] at h0; simp at h0
    | noUnlatch c2 h0 he =>
      -- only the unlatch value is buffered and the rest of the message fits what the symbol has left
      have hB0 : charsB = [] := by
        refine Decidable.byContradiction fun hne => ?_
        have : ¬ buf.length = 1 := by
          rw [← hbuf]; simp only [List.length_append, List.length_map, List.length_cons, List.length_nil]
          have := List.length_pos_iff.2 hne; omega
        unfold ediEarly at he
        rw [if_neg this] at he
        cases he
      have hb1 : buf.length = 1 := by rw [← hbuf, hB0]; rfl
      rw [hb1] at he
      obtain ⟨s, r, hs2, hcap2, hr, hnu, hroom, hf2, hcw2⟩ := ediEarly_one he
      have hd := of_decide_eq_true hnu.symm
      obtain ⟨hrs1, hrs2⟩ := edifactRestNeed_spec hr
      rw [hB0] at hc1len
      refine ⟨(writeQuads (charsQ.map ediVal)).1, charsQ,
        frame c2 _ _ 0 hf2 rfl rfl rfl rfl (by show c2.cw = _; rw [hcw2, hcw1']) (Nat.zero_le _)
          (by rw [Nat.sub_zero, hc1len]; exact hQText), rfl,
        fun off => EdiEnd.tail (s.cap - c1.count) hd.2 ((hopen off).mono (fun _ hs => Nat.le_trans hs hd.2))
          ⟨s, hs2, by show s.cap = c2.cw.length + _; rw [hcw2]; show _ = c1.count + _; omega⟩ ?_⟩
      have hrest : (c2.signal ASCII).rest = c1.rest := by
        simp only [Ctx.rest, Ctx.remaining, Ctx.total, Ctx.signal, hf2.msg, hf2.pos, hf2.skip]
      rw [hrest]
      by_cases h2 : c1.remaining ≤ 2
      · rw [← hrs1 h2]; exact hd.1
      · have := hrs2 (by omega); omega
    | ascii c2 c3 h0 he h4 hs hk =>
      -- at most two characters are stepped back over and the symbol is forgotten
      have hr2 : buf.length - 1 ≤ 2 := by
        refine Decidable.byContradiction fun hgt => ?_
        unfold ediStep at hs
        simp only [hgt, if_false, decide_false, Bool.and_false, Except.ok.injEq, Prod.mk.injEq] at hs
        exact absurd hs.2 (by decide)
      obtain ⟨s1, hu, hs1, hria⟩ := ediStep_spec (by omega) hr2 hs
      have hBne : charsB ≠ [] := by
        intro hB0
        -- nothing is buffered: with nothing left "no unlatch" applies unless three codewords are free
        have hb1 : buf.length = 1 := by rw [← hbuf, hB0]; rfl
        rw [hb1] at he
        obtain ⟨s, r, hs2, hcap2, hr, hnu, _, hf2, hcw2⟩ := ediEarly_one he
        have hcnt2 : c2.count = c1.count := by simp [Ctx.count, hcw2]
        rw [hb1, Nat.sub_self, Nat.add_zero, update_noop hs2 (by rw [hcnt2]; exact hcap2)] at hu
        cases hu
        rw [hs2] at hs1; cases hs1
        have hx := hria.symm
        simp only [Bool.and_eq_true, decide_eq_true_eq, Bool.not_eq_true'] at hx
        have hrem : c1.remaining = 0 := by
          have := (hasMore_false_iff c1).mp (by rw [← hf2.hasMore]; exact hx.2)
          simp only [Ctx.remaining]; omega
        have hr0 : r = 0 := by
          rw [(edifactRestNeed_spec hr).1 (by omega)]; simp [Ctx.rest, hrem, asciiNeed]
        have := of_decide_eq_false hnu.symm
        rw [hcnt2] at hx
        omega
      have hne : ¬ buf.length = 1 := by
        rw [← hbuf]; simp only [List.length_append, List.length_map, List.length_cons, List.length_nil]
        have := List.length_pos_iff.2 hBne; omega
      unfold ediEarly at he
      rw [if_neg hne] at he
      cases he
      have hx := hria.symm
      simp only [Bool.and_eq_true, decide_eq_true_eq, Bool.not_eq_true'] at hx
      obtain ⟨ucw, umsg, upos, ucfg, uskip, _, _, _, _, _⟩ := update_spec hu
      have hf3 := update_frame hu
      rw [hbl] at hk hr2 hu
      have hend : c1.pos = c1.total := by have := (hasMore_false_iff c1).mp (hm1 hBne); omega
      have hrem : (({ c3 with sym := none, pos := c3.pos - (buf.length - 1) } : Ctx).signal ASCII).remaining
          = charsB.length := by
        simp only [Ctx.remaining, Ctx.total, Ctx.signal, umsg, upos, uskip, hbl]
        simp only [Ctx.total] at hend hp1t; omega
      have hdropB : ∀ n, n = c1.pos - c.pos - 4 * k → chars.drop (4 * k) = (c.msg.drop (c.pos + 4 * k)).take n := by
        intro n hn
        rw [hchars, List.drop_take, List.drop_drop, hn]
      have hrest : (({ c3 with sym := none, pos := c3.pos - (buf.length - 1) } : Ctx).signal ASCII).rest = charsB := by
        show (List.drop (c3.pos - (buf.length - 1)) c3.msg).take _ = _
        rw [hrem, umsg, upos, hbl, hsf.msg, show c1.pos - charsB.length = c.pos + 4 * k by omega]
        rw [← hdropB charsB.length (by omega)]; exact hB.symm
      refine ⟨(writeQuads (charsQ.map ediVal)).1, charsQ,
        frame c3 _ _ charsB.length hf3 rfl rfl rfl (by rw [hbl]; rfl) (by show c3.cw = _; rw [ucw, hcw1']) (Nat.le_refl _)
          (by rw [show c1.pos - charsB.length = c.pos + 4 * k by omega]; exact hQText), rfl,
        fun off => EdiEnd.rewound (hopen off) rfl (by rw [hrem]; exact hr2) ?_ ?_⟩
      · rw [hrest]; exact hBn
      · rw [hrem]
        obtain ⟨d2, hd2, hd2s⟩ := update_sym_congr (c := c1)
          (d := ({ ({ c3 with sym := none, pos := c3.pos - (buf.length - 1) } : Ctx).signal ASCII with sym := c.sym } : Ctx))
          (n := c1.count + charsB.length) (by simp [Ctx.signal, ucfg]) (by simp [hsf.sym]) hu
        have hcnt : (({ c3 with sym := none, pos := c3.pos - (buf.length - 1) } : Ctx).signal ASCII).count = c1.count := by
          simp [Ctx.signal, Ctx.count, ucw]
        rw [hcnt]
        exact ⟨d2, s1, hd2, by rw [hd2s, hs1], by omega⟩
    | pack c2 c3 h0 he h4 hs =>
      -- the buffer is written; first: one or two characters buffered at the end of the message, `pack` = they and the unlatch
      have hpk : ∀ (pack : List Nat) (j : Nat), 1 ≤ charsB.length → charsB.length ≤ 2 → edifactPack buf = pack →
          pack.length + j = 3 → j ≤ 2 →
          (∀ off, SegReads T (fun s => j ≤ s.length ∧ ∀ x ∈ s, x < 256) off 240
            ((writeQuads (charsQ.map ediVal)).1 ++ pack) chars) →
          ∃ ws chs, CallFrame c ((c3.writeAll (edifactPack buf)).signal ASCII) ws chs ∧
            ((c3.writeAll (edifactPack buf)).signal ASCII).newEnc = some ASCII ∧
            ∀ off, EdiEnd T syms off c ((c3.writeAll (edifactPack buf)).signal ASCII) ws chs := by
        intro pack j g1 g2 hsplitck gj gj2 hdf
        have hBne : charsB ≠ [] := fun e => by rw [e] at g1; simp at g1
        have hne : ¬ buf.length = 1 := by
          rw [← hbuf]; simp only [List.length_append, List.length_map, List.length_cons, List.length_nil]; omega
        unfold ediEarly at he
        rw [if_neg hne] at he
        cases he
        obtain ⟨s1, hu, hs1, hria⟩ := ediStep_spec (by omega) (by rw [hbl]; exact g2) hs
        rw [hm1 hBne] at hria
        have h3 : ¬ s1.cap - c1.count < 3 := by
          intro hx; simp [hx] at hria
        have hf3 := update_frame hu
        have ucw := (update_spec hu).1
        refine ⟨(writeQuads (charsQ.map ediVal)).1 ++ pack, chars,
          frame c3 _ _ 0 hf3 rfl rfl rfl rfl (by simp [Ctx.signal, Ctx.writeAll, hsplitck, ucw, hcw1'])
            (Nat.zero_le _) (by rw [Nat.sub_zero]; exact hAllText), rfl,
          fun off => EdiEnd.endpad j gj2 (hdf off) (by rw [← hm1 hBne]; exact hf3.hasMore) ⟨s1, hs1, ?_⟩⟩
        simp only [Ctx.signal, Ctx.writeAll, Ctx.count, List.length_append, hsplitck, ucw]
        simp only [Ctx.count] at h3
        omega
      match charsB, hBl, hB, hBn, hsplit, hc1len, hbuf, hbl, hm1 with
      | [], _, hB, _, hsplit, hc1len, hbuf, hbl, _ =>
        -- the unlatch in a codeword of its own
        have hb1 : buf.length = 1 := by rw [← hbuf]; rfl
        have hsplitck : edifactPack buf = [124] := by rw [← hbuf]; decide
        rw [hb1] at he
        obtain ⟨s, r, hs2, hcap2, hr, hnu, hroom, hf2, hcw2⟩ := ediEarly_one he
        have hcnt2 : c2.count = c1.count := by simp [Ctx.count, hcw2]
        obtain ⟨s1, hu, hs1, hria⟩ := ediStep_spec (by omega) (by rw [hb1]; decide) hs
        rw [hb1, Nat.sub_self, Nat.add_zero, update_noop hs2 (by rw [hcnt2]; exact hcap2)] at hu
        cases hu
        rw [hs2] at hs1; cases hs1
        rw [hcnt2, hf2.hasMore] at hria
        have hd : ¬ (r ≤ s.cap - c1.count ∧ s.cap - c1.count ≤ 2) := of_decide_eq_false hnu.symm
        obtain ⟨hrs1, hrs2⟩ := edifactRestNeed_spec hr
        have hc1pos : c1.pos = c.pos + 4 * k := by simpa using hc1len
        have hcntf : ((c2.writeAll (edifactPack buf)).signal ASCII).count = c1.count + 1 := by
          simp [Ctx.signal, Ctx.writeAll, Ctx.count, hsplitck, hcw2]
        have hmoref : ((c2.writeAll (edifactPack buf)).signal ASCII).hasMore = c1.hasMore := hf2.hasMore
        refine ⟨(writeQuads (charsQ.map ediVal)).1 ++ edifactPack [31], charsQ,
          frame c2 _ _ 0 hf2 rfl rfl rfl rfl
            (by simp [Ctx.signal, Ctx.writeAll, hsplitck, hcw2, hcw1', show edifactPack [31] = [124] by decide])
            (Nat.zero_le _) (by rw [Nat.sub_zero, hc1pos]; exact hQText), rfl, fun off => ?_⟩
        have hdf := segReads_edi_closed1 T off k charsQ hQl hQn
        cases hmc : c1.hasMore with
        | true =>
          have hpos1 : c.pos < c1.pos := by
            rcases hexit with ⟨_, e2⟩ | ⟨_, _, e3, _⟩
            · rw [hmc] at e2; cases e2
            · exact e3
          refine EdiEnd.mid k hdf (by rw [hmoref, hmc]) (by show c.pos < c2.pos; rw [hf2.pos]; exact hpos1) hQl (by omega)
            hQn (by rw [show edifactPack [31] = [124] by decide]) ⟨s, hs2, ?_, ?_⟩
          · rw [hcntf]
            by_cases hx : s.cap - c1.count < r
            · exact hroom hx
            · omega
          · have hremf : ((c2.writeAll (edifactPack buf)).signal ASCII).remaining = c1.remaining := hf2.remaining
            have hrestf : ((c2.writeAll (edifactPack buf)).signal ASCII).rest = c1.rest := by
              simp only [Ctx.rest, Ctx.remaining, Ctx.total, Ctx.signal, Ctx.writeAll, hf2.msg, hf2.pos, hf2.skip]
            rw [hcntf, hremf, hrestf]
            by_cases hA : c1.count + 3 ≤ s.cap
            · left; omega
            · right
              have hx : s.cap - c1.count < r := by omega
              have := hroom hx
              by_cases hB1 : s.cap = c1.count + 1
              · left; exact hB1
              · right
                refine ⟨by omega, ?_⟩
                have hr2 : 2 < r := by omega
                by_cases h2 : c1.remaining ≤ 2
                · right; rw [← hrs1 h2]; exact hr2
                · left; omega
        | false =>
          rw [hmc] at hria
          have h3 : ¬ s.cap - c1.count < 3 := by
            intro hx; simp [hx] at hria
          exact EdiEnd.endpad 2 (Nat.le_refl _) hdf (by rw [hmoref, hmc]) ⟨s, hs2, by rw [hcntf]; omega⟩
      | [b1], _, hB, hBn, hsplit, hc1len, hbuf, hbl, hm1 =>
        have hdf := fun off => segReads_edi_closed2 T off k charsQ hQl hQn b1 (hBn b1 (by simp))
        rw [hsplit] at hdf
        exact hpk (edifactPack [ediVal b1, 31]) 1 (by simp) (by simp) (by rw [← hbuf]; rfl)
          (by simp [edifactPack, edifactWord]) (by decide) hdf
      | [b1, b2], _, hB, hBn, hsplit, hc1len, hbuf, hbl, hm1 =>
        have hdf := fun off => (segReads_edi_closed3 T off k charsQ hQl hQn b1 b2 (hBn b1 (by simp))
          (hBn b2 (by simp))).mono (K' := fun s => 0 ≤ s.length ∧ ∀ x ∈ s, x < 256) (fun _ _ => trivial)
        rw [hsplit] at hdf
        exact hpk (edifactPack [ediVal b1, ediVal b2, 31]) 0 (by simp) (by simp) (by rw [← hbuf]; rfl)
          (by simp [edifactPack, edifactWord]) (by decide) hdf
      | [b1, b2, b3], _, hB, hBn, hsplit, hc1len, hbuf, hbl, hm1 =>
        -- a full group: three characters and the unlatch
        have hne : ¬ buf.length = 1 := by rw [← hbuf]; simp
        unfold ediEarly at he
        rw [if_neg hne] at he
        cases he
        have hgt : ¬ buf.length - 1 ≤ 2 := by rw [← hbuf]; simp
        unfold ediStep at hs
        simp only [hgt, if_false, Except.ok.injEq, Prod.mk.injEq] at hs
        obtain ⟨rfl, _⟩ := hs
        have hdf := fun off => segReads_edi_closed4 T off k charsQ hQl hQn b1 b2 b3 (hBn b1 (by simp)) (hBn b2 (by simp))
          (hBn b3 (by simp))
        rw [hsplit] at hdf
        have hf := hm1 (by simp)
        exact ⟨_, chars, frame c1 _ _ 0 (Frame.refl _) rfl rfl rfl rfl
          (by rw [← hbuf]; simp [Ctx.signal, Ctx.writeAll, hcw1']) (Nat.zero_le _) (by rw [Nat.sub_zero]; exact hAllText),
          rfl, fun off => EdiEnd.closed (hdf off) hf⟩

/-- `dm_encoder_invariant`, EDIFACT: a whole call of the EDIFACT encoder, started right after the latch 240 on a
    prefix that decodes whatever follows -/
theorem edifact_step_post {T : Tables} {syms : List SymbolInfo} {la : LookAhead} {c c' : Ctx} {a : Acc}
    (hL : LatchedM T EDIFACT 240 la c a) (hle : c.pos ≤ c.total) (h : edifactEncode syms la c = .ok c') :
    ∃ a', a'.trailer = a.trailer ∧ c'.msg = c.msg ∧ c'.cfg = c.cfg ∧ c'.skipAtEnd = c.skipAtEnd ∧
      c.pos ≤ c'.pos ∧ c'.pos ≤ c'.total ∧ c'.newEnc = some ASCII ∧ a'.rev.reverse = c'.msg.take c'.pos ∧
      a'.pend = 0 ∧ EdiPost T syms c c' a' := by
  obtain ⟨cw0, hcw, hdec, htext, hpend, _⟩ := hL
  obtain ⟨ws, chs, hF, hn, hout⟩ := edifact_call_reads (T := T) hle h
  have key : ∀ {K : List Nat → Prop}, SegReads T K cw0.length 240 ws chs →
      ∃ a', DecOn T K c'.cw a' ∧ a'.trailer = a.trailer ∧ a'.rev.reverse = c'.msg.take c'.pos ∧ a'.pend = 0 :=
    fun hr => hF.behind hcw hdec htext hpend hr
  have fin : ∀ a', a'.trailer = a.trailer → a'.rev.reverse = c'.msg.take c'.pos → a'.pend = 0 → EdiPost T syms c c' a' →
      ∃ a', a'.trailer = a.trailer ∧ c'.msg = c.msg ∧ c'.cfg = c.cfg ∧ c'.skipAtEnd = c.skipAtEnd ∧
        c.pos ≤ c'.pos ∧ c'.pos ≤ c'.total ∧ c'.newEnc = some ASCII ∧ a'.rev.reverse = c'.msg.take c'.pos ∧
        a'.pend = 0 ∧ EdiPost T syms c c' a' :=
    fun a' e1 e2 e3 e4 => ⟨a', e1, hF.msg, hF.cfg, hF.skip, hF.lo, hF.hi, hn, e2, e3, e4⟩
  cases hout cw0.length with
  | closed hr _ =>
    obtain ⟨a', hd, e1, e2, e3⟩ := key hr
    exact fin a' e1 e2 e3 (.closed ((decodesTo_iff.2 hd).decFrom 0))
  | tail k hk hr hfull hneed =>
    obtain ⟨a', hd, e1, e2, e3⟩ := key hr
    exact fin a' e1 e2 e3 (.tail k hk ⟨hd, e2, e3, hfull, hneed⟩)
  | rewound hr g1 g2 g3 g4 =>
    obtain ⟨a', hd, e1, e2, e3⟩ := key hr
    exact fin a' e1 e2 e3 (.rewound hd g1 g2 g3 g4)
  | endpad j hj hr g1 g2 =>
    obtain ⟨a', hd, e1, e2, e3⟩ := key hr
    exact fin a' e1 e2 e3 (.endpad j hj (decFrom_iff.2 hd) g1 g2)
  | mid kq hr g1 g2 =>
    obtain ⟨a', hd, e1, e2, e3⟩ := key hr
    exact fin a' e1 e2 e3 (.mid (decFrom_iff.2 hd) g1 g2)

end Gzx.DMHighLevel
