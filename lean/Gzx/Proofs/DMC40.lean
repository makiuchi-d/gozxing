/-
  C02: a whole call of the C40 / Text encoder read back by the decoder: what the loop (Proofs/DMC40Loop.lean) leaves
  at a look-ahead exit or after the end-of-message backtracking, and `c40HandleEOD` (all rest cases): what is appended
  behind the latch is read back as the characters the call ends behind (`c40_call_reads`, no prefix; `c40_step_post`
  behind a prefix that decodes).
-/
import Gzx.Proofs.DMC40Loop
import Gzx.Proofs.DMX12
import Gzx.Proofs.DMMidstream
import Gzx.Proofs.DMHandlers
namespace Gzx.DMHighLevel

/-! ## values of characters -/

/-- for bytes: one or two values ⇒ not an extended character; the first of two values is a shift (< 3) -/
def smallCharOK (text : Bool) (c : Nat) : Bool :=
  let e := cEncodeChar text c
  (decide (e.length ≤ 2) → decide (c < 128)) &&
  (match e with
   | [s, _] => decide (s < 3)
   | _ => true)

theorem smallChar_checked : ∀ (text : Bool) (c : Fin 256), smallCharOK text c.val = true := by decide +kernel

theorem smallChar (text : Bool) (c : Nat) (hc : c < 256) : smallCharOK text c = true :=
  smallChar_checked text ⟨c, hc⟩

/-- the values of whole characters followed by one shift value (0, 1 or 2): the automaton emits the
    characters and ends in a shift state -/
theorem chars_run_shift (text : Bool) (chars : List Nat) (hb : ∀ c ∈ chars, c < 256) (s : Nat) (hs : s < 3) :
    ∃ st es, runVals refTables text ((cVals text chars ++ [s]).map Int.ofNat) {} = .ok (st, es) ∧
      (∀ a : Acc, a.emitAll es = a.pushAll chars) ∧ ∀ v ∈ cVals text chars ++ [s], v < 40 := by
  obtain ⟨es, hr, hem, hv⟩ := chars_run text chars hb
  have h1 : runVals refTables text ([s].map Int.ofNat) {} = .ok ({ shift := (s : Int) + 1 }, [.none]) := by
    have : ((s : Nat) : Int) < 3 := by omega
    simp [runVals, cValueCore, this]
  refine ⟨{ shift := (s : Int) + 1 }, es ++ [.none], ?_, ?_, ?_⟩
  · rw [List.map_append]
    exact runVals_append refTables text _ _ {} {} _ es [.none] hr h1
  · intro a
    rw [emitAll_append, hem]
    simp [Acc.emitAll, Acc.emit]
  · intro v hv'
    simp only [List.mem_append, List.mem_singleton] at hv'
    rcases hv' with h | h
    · exact hv v h
    · omega

theorem charsOf_take (c0 c : Ctx) (hlo : c0.pos ≤ c.pos) :
    c0.msg.take c.pos = c0.msg.take c0.pos ++ charsOf c0 c := by
  unfold charsOf
  rw [take_add_drop_take]; congr 1; omega

/-- `c40HandleEOD` after the loop: every reachable combination of rest / free space / more characters ends in
    the invariant or a tail state.  `h1`, `h2` are what the loop's backtracking leaves: a single left-over value
    belongs to a character of at most two values with exactly one codeword free (`h1`: that character goes to ASCII,
    and what is written before it is whole characters plus at most its shift value — `chars_run_shift`); two
    left-over values at the end of the message meet exactly two free codewords (`h2`: no unlatch fits, tail state). -/
theorem c40HandleEOD_post {text : Bool} {syms : List SymbolInfo} {c0 c c' : Ctx}
    {buf : List Nat} {av : Nat}
    (hbytes : ∀ x ∈ c0.msg, x < 256)
    (hB : CBuf text c0 c buf) (hav : c40Available syms c buf = .ok (c, av))
    (h1 : ¬ (buf.length % 3 = 1 ∧ (lastSz text c0 c > 2 ∨ av ≠ 1)))
    (h2 : c.hasMore = true ∨ ¬ (buf.length % 3 = 2 ∧ av ≠ 2))
    (h : c40HandleEOD syms c buf = .ok c') :
    ∃ ws chars, CallFrame c0 c' ws chars ∧ c'.newEnc = some ASCII ∧
      ∀ off, CallOut refTables off (if text then 239 else 230) c' ws chars 1 := by
  obtain ⟨_, _, _, _, _, _, s, hs, hcap, havs, _⟩ := c40Available_spec hav
  have hcb : ∀ x ∈ charsOf c0 c, x < 256 := by
    intro x hx; unfold charsOf at hx
    exact hbytes x (List.mem_of_mem_drop (List.mem_of_mem_take hx))
  obtain ⟨c2, av2, x, kk, hav2, he, _, rfl⟩ := c40HandleEOD_ok_iff.1 h
  rw [hav] at hav2
  cases hav2
  unfold c40Eod at he
  have htot : ∀ cc : Ctx, cc.msg = c.msg → cc.skipAtEnd = c.skipAtEnd → cc.total = c.total := by
    intro cc e1 e2; simp [Ctx.total, e1, e2]
  by_cases hr2 : buf.length % 3 = 2
  · -- two values left: pad with a shift-1 value
    rw [if_pos hr2] at he
    obtain ⟨k, hk⟩ : ∃ k, (buf ++ [0]).length = 3 * k := ⟨(buf.length + 1) / 3, by simp; omega⟩
    obtain ⟨st, es, hrun, hem, hv40⟩ := chars_run_shift text (charsOf c0 c) hcb 0 (by decide)
    rw [← hB.buf] at hrun hv40
    obtain ⟨hw2, hwl⟩ := writeTriplets_exact (buf ++ [0]) k hk
    by_cases hm : c.hasMore = true
    · simp only [hm, if_true, Option.some.injEq, Prod.mk.injEq] at he
      obtain ⟨rfl, rfl⟩ := he
      exact ⟨(writeTriplets (buf ++ [0])).1 ++ [254], charsOf c0 c,
        ⟨by simp [Ctx.leave, hB.cw], hB.msg, hB.cfg, hB.skip, charsOf_take c0 c hB.lo, hB.lo,
          hB.hi⟩, rfl,
        fun off => Or.inl (SegReads.of_emitAll (reads_cvals_closed refTables text off k _ hk hv40 st es hrun) hem)⟩
    · simp only [hm, Bool.false_eq_true, if_false, List.append_nil, Option.some.injEq, Prod.mk.injEq] at he
      obtain ⟨rfl, rfl⟩ := he
      have hav2 : av = 2 := by
        rcases h2 with e | e
        · exact absurd e hm
        · by_cases hx : av = 2
          · exact hx
          · exact absurd ⟨hr2, hx⟩ e
      have hmf : c.hasMore = false := by simpa using hm
      refine ⟨(writeTriplets (buf ++ [0])).1, charsOf c0 c,
        ⟨by simp [Ctx.leave, hB.cw], hB.msg, hB.cfg, hB.skip, charsOf_take c0 c hB.lo, hB.lo, hB.hi⟩, rfl,
        fun off => Or.inr ⟨0, by omega,
          (SegReads.of_emitAll (reads_cvals_open refTables text off k _ hk hv40 st es hrun) hem).mono
            (fun _ hs => Nat.le_trans hs (Nat.zero_le 1)), ⟨s, hs, ?_⟩, ?_⟩⟩
      · simp only [Ctx.leave, Ctx.count, List.length_append, hwl]
        simp only [Ctx.count] at havs hcap
        simp only [List.length_append, List.length_cons, List.length_nil] at hk
        omega
      · have hr0 : c.remaining = 0 := by
          have := (hasMore_false_iff c).mp hmf
          simp only [Ctx.remaining]; omega
        have : (c.leave (writeTriplets (buf ++ [0])).1 0).rest = c.rest := rfl
        rw [this]; simp [Ctx.rest, hr0, asciiNeed]
  · by_cases hr1 : buf.length % 3 = 1
    · -- one value left: the last character goes to ASCII encodation
      have hav1 : av = 1 := by
        by_cases hx : av = 1
        · exact hx
        · exact absurd ⟨hr1, Or.inr hx⟩ h1
      have hls : lastSz text c0 c ≤ 2 := by
        by_cases hx : lastSz text c0 c ≤ 2
        · exact hx
        · exact absurd ⟨hr1, Or.inl (by omega)⟩ h1
      rw [if_neg hr2, if_pos ⟨hav1, hr1⟩] at he
      have hne : buf ≠ [] := by intro e; rw [e] at hr1; simp at hr1
      have hlt := hB.nonempty hne
      -- the last character
      have hlen : c.pos ≤ c.msg.length := by have := hB.hi; simp only [Ctx.total] at this; omega
      obtain ⟨lc, hget⟩ : ∃ lc, c.msg[c.pos - 1]? = some lc := ⟨_, List.getElem?_eq_getElem (by omega)⟩
      have hcm : charsOf c0 c = charsOf c0 ({ c with pos := c.pos - 1 } : Ctx) ++ [lc] :=
        charsOf_succ (c0 := c0) (c := ({ c with pos := c.pos - 1 } : Ctx)) hB.msg (by show c0.pos ≤ c.pos - 1; omega)
          hget c (by show c.pos = c.pos - 1 + 1; omega)
      generalize hch' : charsOf c0 ({ c with pos := c.pos - 1 } : Ctx) = chars' at hcm
      have hlc : lc < 256 := hcb _ (by rw [hcm]; simp)
      have hcb' : ∀ x ∈ chars', x < 256 := fun x hx => hcb x (by rw [hcm]; simp [hx])
      have hlsz : lastSz text c0 c = (cEncodeChar text lc).length := by simp [lastSz, hlt, hget]
      have hbuf : buf = cVals text chars' ++ cEncodeChar text lc := by
        rw [hB.buf, hcm, cVals_append]; simp [cVals]
      have hsm := smallChar text _ hlc
      unfold smallCharOK at hsm
      simp only [Bool.and_eq_true] at hsm
      have hl128 : lc < 128 := by
        have h1' := of_decide_eq_true hsm.1
        exact of_decide_eq_true (h1' (decide_eq_true (by omega)))
      obtain ⟨k, hk⟩ : ∃ k, buf.length = 3 * k + 1 := ⟨buf.length / 3, by omega⟩
      obtain ⟨hwt, hwl⟩ := writeTriplets_take buf k (by omega) (by omega)
      -- the first 3k values: whole characters, possibly followed by the shift of the last one
      have hV : ∃ st es, runVals refTables text ((buf.take (3 * k)).map Int.ofNat) {} = .ok (st, es) ∧
          (∀ b : Acc, b.emitAll es = b.pushAll chars') ∧ ∀ v ∈ buf.take (3 * k), v < 40 := by
        have hpos := cEncodeChar_pos text lc
        by_cases hsz : (cEncodeChar text lc).length = 1
        · obtain ⟨es, hr, hem, hv⟩ := chars_run text chars' hcb'
          have : buf.take (3 * k) = cVals text chars' := by
            rw [hbuf]; rw [hbuf] at hk
            simp only [List.length_append] at hk
            rw [List.take_append_of_le_length (by omega)]
            apply List.take_of_length_le; omega
          rw [this]
          exact ⟨{}, es, hr, hem, hv⟩
        · have hsz2 : (cEncodeChar text lc).length = 2 := by omega
          match hq : cEncodeChar text lc, hsz2 with
          | [sv, xv], _ =>
            have hs3 : sv < 3 := by have := hsm.2; rw [hq] at this; simpa using this
            obtain ⟨st, es, hr, hem, hv⟩ := chars_run_shift text chars' hcb' sv hs3
            have : buf.take (3 * k) = cVals text chars' ++ [sv] := by
              rw [hbuf, hq]; rw [hbuf, hq] at hk
              simp only [List.length_append, List.length_cons, List.length_nil] at hk
              have e : cVals text chars' ++ [sv, xv] = (cVals text chars' ++ [sv]) ++ [xv] := by simp
              rw [e, List.take_append_of_le_length (by simp; omega)]
              apply List.take_of_length_le; simp; omega
            rw [this]
            exact ⟨st, es, hr, hem, hv⟩
      obtain ⟨st, es, hrun, hem, hv40⟩ := hV
      have hlen3 : (buf.take (3 * k)).length = 3 * k := by rw [List.length_take]; omega
      have htk' : c0.msg.take (c.pos - 1) = c0.msg.take c0.pos ++ chars' := by
        have := charsOf_take c0 ({ c with pos := c.pos - 1 } : Ctx) (by show c0.pos ≤ c.pos - 1; omega)
        rw [hch'] at this; exact this
      by_cases hm : c.hasMore = true
      · simp only [hm, if_true, Option.some.injEq, Prod.mk.injEq] at he
        obtain ⟨rfl, rfl⟩ := he
        exact ⟨(writeTriplets (buf.take (3 * k))).1 ++ [254], chars',
          ⟨by simp [Ctx.leave, hB.cw, hwt], hB.msg, hB.cfg, hB.skip, htk',
            by show c0.pos ≤ c.pos - 1; omega, by show c.pos - 1 ≤ c.total; have := hB.hi; omega⟩, rfl,
          fun off => Or.inl (SegReads.of_emitAll (reads_cvals_closed refTables text off k _ hlen3 hv40 st es hrun) hem)⟩
      · simp only [hm, Bool.false_eq_true, if_false, List.append_nil, Option.some.injEq, Prod.mk.injEq] at he
        obtain ⟨rfl, rfl⟩ := he
        have hmf : c.hasMore = false := by simpa using hm
        have hpt : c.pos = c.total := by
          have := (hasMore_false_iff c).mp hmf; have := hB.hi; omega
        refine ⟨(writeTriplets (buf.take (3 * k))).1, chars',
          ⟨by simp [Ctx.leave, hB.cw, hwt], hB.msg, hB.cfg, hB.skip, htk',
            by show c0.pos ≤ c.pos - 1; omega, by show c.pos - 1 ≤ c.total; omega⟩, rfl,
          fun off => Or.inr ⟨1, by omega,
            SegReads.of_emitAll (reads_cvals_open refTables text off k _ hlen3 hv40 st es hrun) hem, ⟨s, hs, ?_⟩, ?_⟩⟩
        · simp only [Ctx.leave, Ctx.count, List.length_append, hwl]
          simp only [Ctx.count] at havs hcap
          omega
        · have hrest : (c.leave (writeTriplets buf).1 1).rest = [lc] := by
            simp only [Ctx.rest, Ctx.leave, Ctx.remaining, Ctx.total]
            rw [drop_eq_cons_of_getElem? hget]
            have : c.msg.length - c.skipAtEnd - (c.pos - 1) = 1 := by
              simp only [Ctx.total] at hpt; omega
            rw [this]; rfl
          rw [hrest]
          have : isExtended lc = false := by simp [isExtended]; omega
          simp [asciiNeed, this]
    · -- complete triplets
      have hr0 : buf.length % 3 = 0 := by omega
      rw [if_neg hr2, if_neg (fun e => hr1 e.2), if_pos hr0] at he
      obtain ⟨k, hk⟩ : ∃ k, buf.length = 3 * k := ⟨buf.length / 3, by omega⟩
      obtain ⟨es, hrun, hem, hv40⟩ := chars_run text (charsOf c0 c) hcb
      rw [← hB.buf] at hrun hv40
      obtain ⟨_, hwl⟩ := writeTriplets_exact buf k hk
      by_cases hcond : av > 0 ∨ c.hasMore = true
      · simp only [hcond, if_true, Option.some.injEq, Prod.mk.injEq] at he
        obtain ⟨rfl, rfl⟩ := he
        exact ⟨(writeTriplets buf).1 ++ [254], charsOf c0 c,
          ⟨by simp [Ctx.leave, hB.cw], hB.msg, hB.cfg, hB.skip, charsOf_take c0 c hB.lo, hB.lo,
            hB.hi⟩, rfl,
          fun off => Or.inl (SegReads.of_emitAll (reads_cvals_closed refTables text off k _ hk hv40 {} es hrun) hem)⟩
      · simp only [hcond, if_false, List.append_nil, Option.some.injEq, Prod.mk.injEq] at he
        obtain ⟨rfl, rfl⟩ := he
        simp only [not_or, Nat.not_lt, Nat.le_zero_eq, Bool.not_eq_true] at hcond
        obtain ⟨hav0, hmf⟩ := hcond
        refine ⟨(writeTriplets buf).1, charsOf c0 c,
          ⟨by simp [Ctx.leave, hB.cw], hB.msg, hB.cfg, hB.skip, charsOf_take c0 c hB.lo, hB.lo, hB.hi⟩, rfl,
          fun off => Or.inr ⟨0, by omega,
            (SegReads.of_emitAll (reads_cvals_open refTables text off k _ hk hv40 {} es hrun) hem).mono
              (fun _ hs => Nat.le_trans hs (Nat.zero_le 1)), ⟨s, hs, ?_⟩, ?_⟩⟩
        · simp only [Ctx.leave, Ctx.count, List.length_append, hwl]
          simp only [Ctx.count] at havs hcap
          omega
        · have hr0' : c.remaining = 0 := by
            have := (hasMore_false_iff c).mp hmf
            simp only [Ctx.remaining]; omega
          have : (c.leave (writeTriplets buf).1 0).rest = c.rest := rfl
          rw [this]; simp [Ctx.rest, hr0', asciiNeed]

/-- A whole call of the C40 (Text) encoder, entered behind its latch: the codewords it appends are read back as the
    characters it ends behind, whatever follows if the unlatch was written, else for the one codeword at most that the
    symbol still has — for EVERY look-ahead oracle.  Nothing is said about what precedes the latch. -/
theorem c40_call_reads {text : Bool} {syms : List SymbolInfo} {la : LookAhead} {c c' : Ctx}
    (hbytes : ∀ x ∈ c.msg, x < 256) (hle : c.pos ≤ c.total) (hm : c.hasMore = true) (hnew : c.newEnc = none)
    (h : c40Encode syms la text c = .ok c') :
    ∃ ws chars, CallFrame c c' ws chars ∧ c'.newEnc = some ASCII ∧
      ∀ off, CallOut refTables off (if text then 239 else 230) c' ws chars 1 := by
  have hB0 : CBuf text c c [] := ⟨rfl, rfl, rfl, rfl, Nat.le_refl _, hle, by simp [charsOf, cVals]⟩
  unfold c40Encode at h
  cases hl : c40Loop syms la text c.remaining c [] with
  | error e => rw [hl] at h; simp [bind, Except.bind] at h
  | ok r =>
    obtain ⟨c1, buf1⟩ := r
    rw [hl] at h
    simp only [bind, Except.bind] at h
    obtain ⟨⟨hB1, hexit⟩, _⟩ :=
      (c40Loop_sat (syms := syms) (la := la) c.remaining c [] hB0 hm hnew (Nat.le_refl _)).of_ok hl
    simp only at hB1 hexit
    rcases hexit with ⟨hn1, h3, hm1⟩ | ⟨hn1, av, hav, hc1, hc2⟩
    · -- the look-ahead asked to leave with complete triplets
      have hcb : ∀ x ∈ charsOf c c1, x < 256 := by
        intro x hx; unfold charsOf at hx
        exact hbytes x (List.mem_of_mem_drop (List.mem_of_mem_take hx))
      obtain ⟨k, hk⟩ : ∃ k, buf1.length = 3 * k := ⟨buf1.length / 3, by omega⟩
      obtain ⟨e1, e2, e3, e4, e5, e6⟩ := c40HandleEOD_mid k hk hm1 h
      have hsr := fun off => segReads_chars_closed text off k (charsOf c c1) hcb (by rw [← hB1.buf]; exact hk)
      rw [← hB1.buf] at hsr
      refine ⟨(writeTriplets buf1).1 ++ [254], charsOf c c1,
        ⟨by rw [e1, hB1.cw], by rw [e3, hB1.msg], by rw [e4, hB1.cfg], by rw [e5, hB1.skip],
          by rw [e2]; exact charsOf_take c c1 hB1.lo, by rw [e2]; exact hB1.lo, ?_⟩, e6, fun off => Or.inl (hsr off)⟩
      have : c'.total = c1.total := by simp [Ctx.total, e3, e5]
      rw [e2, this]; exact hB1.hi
    · exact c40HandleEOD_post hbytes hB1 hav hc1 hc2 h

/-- `dm_encoder_invariant`, C40 / Text: a whole call of the C40 (Text) encoder, started right after the latch,
    ends with the invariant (unlatch written) or in a tail state (symbol exactly used up, or one codeword left
    for the last character, which is not an extended one) — for EVERY look-ahead oracle. -/
theorem c40_step_post {text : Bool} {syms : List SymbolInfo} {la : LookAhead} {c c' : Ctx} {a : Acc}
    (hbytes : ∀ x ∈ c.msg, x < 256)
    (hL : LatchedM refTables (if text then TEXT else C40) (if text then 239 else 230) la c a)
    (hle : c.pos ≤ c.total) (hm : c.hasMore = true) (hnew : c.newEnc = none)
    (h : c40Encode syms la text c = .ok c') :
    ∃ a', a'.trailer = a.trailer ∧ c'.msg = c.msg ∧ c'.cfg = c.cfg ∧ c'.skipAtEnd = c.skipAtEnd ∧
      c.pos ≤ c'.pos ∧ c'.pos ≤ c'.total ∧ c'.newEnc = some ASCII ∧
      (Inv refTables c' a' ∨ ∃ k, k ≤ 1 ∧ Tail refTables c' a' k) := by
  obtain ⟨ws, chars, hF, hn, hout⟩ := c40_call_reads hbytes hle hm hnew h
  exact step_post_of_reads hL hF hn hout

end Gzx.DMHighLevel
