/-
  A Code 39 symbol read BACKWARDS is refused by `code39Reader.DecodeRow` (NotFound): the start/stop
  asymmetry.  `code39FindAsteriskPattern` looks at windows of nine runs beginning with a bar.  On the reversed symbol
  * the first window is the reversed asterisk, whose narrow/wide word is not the asterisk word (table condition
    `revStar39`, decidable);
  * every other window begins inside the symbol: the white run in front of it is at most 2 modules wide, the window at
    least 9, so the quiet-zone test `IsRange(patternStart - width/2, patternStart, false)` meets a bar.
-/
import Gzx.Proofs.Row39Code39
import Gzx.Proofs.Row39Total
import Gzx.Proofs.RowITFTop
namespace Gzx.Image1DRev39
open Gzx Gzx.OneD Gzx.Row39 Gzx.Row128

theorem sumL_ge (s : Nat) : ∀ l : List Nat, (∀ c ∈ l, s ≤ c) → l.length * s ≤ sumL l
  | [], _ => by simp [sumL_nil]
  | c :: l, h => by
    have h1 := h c (by simp)
    have h2 := sumL_ge s l (fun c' hc' => h c' (by simp [hc']))
    rw [sumL_cons, List.length_cons, Nat.add_mul, Nat.one_mul]; omega

theorem isRangeWhite_black (row : List Bool) (a b i : Nat) (ha : a ≤ i) (hb : i < b) (hi : row[i]? = some true) :
    isRangeWhite row a b = false := by
  unfold isRangeWhite
  split
  · rfl
  · rw [List.all_eq_false]
    refine ⟨true, ?_, by simp⟩
    have : ((row.drop a).take (b - a))[i - a]? = some true := by
      rw [List.getElem?_take_of_lt (by omega), List.getElem?_drop]
      have : a + (i - a) = i := by omega
      rw [this, hi]
    exact List.mem_of_getElem? this

theorem even_split (A : List Nat) (hne : A ≠ []) (hev : A.length % 2 = 0) : ∃ A' b q, A = A' ++ [b, q] := by
  have hl : 2 ≤ A.length := by
    cases A with
    | nil => exact absurd rfl hne
    | cons a t => cases t with
      | nil => simp at hev
      | cons b t' => simp
  have h2 : (A.drop (A.length - 2)).length = 2 := by simp; omega
  match hd : A.drop (A.length - 2), h2 with
  | [b, q], _ => exact ⟨A.take (A.length - 2), b, q, by rw [← hd, List.take_append_drop]⟩

/-- every window of the search on a row whose runs are `G` (all but the last `s` or `2s` wide) is rejected, provided
    the first nine runs do not classify as the asterisk.  `2s ≤ 2^31-1`: `code39ToNarrowWidePattern` answers only when no
    counter (here at most `2s`) exceeds `math.MaxInt32` (`c39Pattern_ok`). -/
theorem fill_reject (T : Tables) (row : List Bool) (L s : Nat) (G : List Nat) (hs : 1 ≤ s)
    (hrow : RowAt row L G true) (hG : ∀ A g B, G = A ++ g :: B → B ≠ [] → g = s ∨ g = 2 * s)
    (hs30 : 2 * s ≤ 2147483647) (rv : Nat) (hrv : rv ≠ T.code39Asterisk)
    (hfirst : c39Pattern (G.take 9) = .ok (some rv)) :
    ∀ (R pre : List Nat) (K : Nat) (zs A : List Nat), G = A ++ pre ++ K :: R → A.length % 2 = 0 →
      pre.length + 1 + zs.length = 9 →
      fillG (checkStar (c39Accept T row)) pre K zs R (L + sumL (A ++ pre ++ [K])) (L + sumL A) = .error .notFound := by
  intro R
  induction R with
  | nil => intro pre K zs A _ _ _; simp only [fillG]
  | cons w R' ih =>
    intro pre K zs A hGe hev hlen
    have hGe' : G = A ++ (pre ++ [K]) ++ w :: R' := by rw [hGe]; simp
    cases zs with
    | cons z zs' =>
      simp only [fillG]
      have := ih (pre ++ [K]) w zs' A hGe' hev (by simp at hlen ⊢; omega)
      have e : L + sumL (A ++ pre ++ [K]) + w = L + sumL (A ++ (pre ++ [K]) ++ [w]) := by
        simp only [sumL_append, sumL_cons, sumL_nil]; omega
      rw [e]; exact this
    | nil =>
      have hlen9 : (pre ++ [K]).length = 9 := by simp at hlen ⊢; omega
      -- the window consists of symbol elements
      have hwin : ∀ c ∈ pre ++ [K], c = s ∨ c = 2 * s := by
        intro c hc
        obtain ⟨W1, W2, hW⟩ := List.append_of_mem hc
        exact hG (A ++ W1) c (W2 ++ w :: R') (by rw [hGe', hW]; simp) (by simp)
      obtain ⟨p, hp⟩ := c39Pattern_ok (pre ++ [K]) (by
        intro c hc; rcases hwin c hc with h | h <;> omega)
      have hsum : 9 * s ≤ sumL (pre ++ [K]) := by
        have := sumL_ge s (pre ++ [K]) (by intro c hc; rcases hwin c hc with h | h <;> omega)
        rw [hlen9] at this; exact this
      have hacc : c39Accept T row (pre ++ [K]) (L + sumL A) (L + sumL (A ++ pre ++ [K])) = .ok false := by
        unfold c39Accept
        rw [hp]
        simp only []
        by_cases hpe : p = some T.code39Asterisk
        · rw [if_pos hpe]
          by_cases hA : A = []
          · -- the first window: it is the reversed asterisk
            exfalso
            subst hA
            have : G.take 9 = pre ++ [K] := by
              rw [hGe', List.nil_append, List.take_left' hlen9]
            rw [this, hp] at hfirst
            injection hfirst with h1
            rw [hpe] at h1
            injection h1 with h2
            exact hrv h2.symm
          · obtain ⟨A', b, q, rfl⟩ := even_split A hA hev
            have hq : q = s ∨ q = 2 * s :=
              hG (A' ++ [b]) q ((pre ++ [K]) ++ w :: R') (by rw [hGe']; simp) (by simp)
            have hb : 0 < b := hrow.pos b (by rw [hGe']; simp)
            have hA'ev : A'.length % 2 = 0 := by simp at hev; omega
            have hrow' : RowAt row L (A' ++ ([b, q] ++ (pre ++ [K]) ++ w :: R')) true := by
              have h0 := hrow
              rw [hGe'] at h0
              simpa using h0
            have hadv := hrow'.advance A' ([b, q] ++ (pre ++ [K]) ++ w :: R')
            rw [if_pos hA'ev] at hadv
            have hpix : row[L + sumL A' + (b - 1)]? = some true := by
              have hd := hadv.drop
              have : (row.drop (L + sumL A'))[b - 1]? = some true := by
                rw [hd]
                simp only [List.cons_append, appendPattern]
                rw [List.getElem?_append_left (by simp; omega)]
                simp [List.getElem?_replicate]; omega
              rw [List.getElem?_drop] at this
              exact this
            congr 1
            apply isRangeWhite_black row _ _ (L + sumL A' + (b - 1)) _ _ hpix
            · have e1 : sumL (A' ++ [b, q] ++ pre ++ [K]) = sumL (A' ++ [b, q]) + sumL (pre ++ [K]) := by
                simp only [sumL_append]; omega
              have e2 : sumL (A' ++ [b, q]) = sumL A' + b + q := by
                simp only [sumL_append, sumL_cons, sumL_nil]; omega
              rw [e1, e2]
              rcases hq with h | h <;> omega
            · have e2 : sumL (A' ++ [b, q]) = sumL A' + b + q := by
                simp only [sumL_append, sumL_cons, sumL_nil]; omega
              rw [e2]
              rcases hq with h | h <;> omega
        · rw [if_neg hpe]
      simp only [fillG, checkStar, hacc]
      obtain ⟨c0, c1, tl, hcs⟩ : ∃ c0 c1 tl, pre ++ [K] = c0 :: c1 :: tl := by
        match hm : pre ++ [K], hlen9 with
        | c0 :: c1 :: tl, _ => exact ⟨c0, c1, tl, rfl⟩
      rw [hcs]
      simp only []
      have htl : tl.length = 7 := by rw [hcs] at hlen9; simpa using hlen9
      have := ih tl w [0] (A ++ [c0, c1]) (by rw [hGe', hcs]; simp) (by simp; omega) (by simp; omega)
      have e1 : L + sumL (A ++ pre ++ [K]) + w = L + sumL (A ++ [c0, c1] ++ tl ++ [w]) := by
        have : sumL (A ++ pre ++ [K]) = sumL A + sumL (pre ++ [K]) := by simp only [sumL_append]; omega
        rw [this, hcs]
        simp only [sumL_append, sumL_cons, sumL_nil]; omega
      have e2 : L + sumL A + c0 + c1 = L + sumL (A ++ [c0, c1]) := by
        simp only [sumL_append, sumL_cons, sumL_nil]; omega
      rw [e1, e2]; exact this

/-- table condition: the asterisk word read backwards is not the asterisk word -/
def revStar39 (T : Tables) : Bool :=
  decide (natOfBits (bitsMSB 9 T.code39Asterisk).reverse ≠ T.code39Asterisk)

/-- Code 39 start/stop asymmetry, at every scale and with any quiet zones -/
theorem c39_reversed_refused (T : Tables) (hT : WF39Row T = true) (hrev : revStar39 T = true) (syms : List Nat)
    (lq s rq : Nat) (hs : 1 ≤ s) (hs30 : 2 * s ≤ 2147483647) (ck ext : Bool) :
    c39DecodeRow T ck ext (paddedRow lq s rq (appendPattern (symbol39 T syms) true)).reverse = .error .notFound := by
  have f := wf39Facts T hT
  have hlenS := symbol39_length T syms
  have hodd : (symbol39 T syms).length % 2 = 1 := by rw [hlenS]; omega
  obtain ⟨hrow, hwhite⟩ := RowITF.paddedRow_reverse_rowAt (symbol39 T syms) lq s rq (by omega) hodd
    (fun w hw => by rcases symbol39_mem T syms w hw with h | h <;> omega)
  generalize (paddedRow lq s rq (appendPattern (symbol39 T syms) true)).reverse = row at hrow hwhite ⊢
  generalize hGdef : (symbol39 T syms).reverse.map (s * ·) ++ tailQ lq = G at hrow
  -- all runs but the last are symbol elements
  have hG : ∀ A g B, G = A ++ g :: B → B ≠ [] → g = s ∨ g = 2 * s := by
    intro A g B hAB hB
    have hlenG : G.length = A.length + 1 + B.length := by rw [hAB]; simp; omega
    have hBl : 1 ≤ B.length := by cases B with | nil => exact absurd rfl hB | cons _ _ => simp
    have htq : (tailQ lq).length ≤ 1 := by unfold tailQ; split <;> simp
    have hlt : A.length < ((symbol39 T syms).reverse.map (s * ·)).length := by
      have : G.length = ((symbol39 T syms).reverse.map (s * ·)).length + (tailQ lq).length := by rw [← hGdef]; simp
      omega
    have hg : G[A.length]? = some g := by rw [hAB]; simp
    rw [← hGdef, List.getElem?_append_left hlt] at hg
    have hmem := List.mem_of_getElem? hg
    obtain ⟨c, hc, rfl⟩ := List.mem_map.mp hmem
    rcases symbol39_mem T syms c (List.mem_reverse.mp hc) with h | h <;> subst h <;> omega
  -- the first window is the reversed asterisk
  have hstar := f.star
  simp only [word39Ok, Bool.and_eq_true, decide_eq_true_eq, List.contains_eq_mem] at hstar
  obtain ⟨⟨h3, hfalse⟩, _⟩ := hstar
  have hfirst : c39Pattern (G.take 9) = .ok (some (natOfBits (bitsMSB 9 T.code39Asterisk).reverse)) := by
    have htake : G.take 9 = nw (s * 1) (s * 2) (bitsMSB 9 T.code39Asterisk).reverse := by
      rw [← hGdef]
      have h9 : 9 ≤ ((symbol39 T syms).reverse.map (s * ·)).length := by simp [hlenS]; omega
      rw [List.take_append_of_le_length h9, ← List.map_take]
      have : (symbol39 T syms).reverse.take 9 = (code39Widths T.code39Asterisk).reverse := by
        have hrevS : (symbol39 T syms).reverse = (code39Widths T.code39Asterisk).reverse ++
            ((syms.map (fun i => code39Widths (enc39 T i) ++ [1])).flatten.reverse ++
              ([1] ++ (code39Widths T.code39Asterisk).reverse)) := by
          simp [symbol39, List.reverse_append]
        rw [hrevS, List.take_left' (by simp [widths_len])]
      rw [this]
      have hmr : List.map (fun x => s * x) (code39Widths T.code39Asterisk).reverse =
          (List.map (fun x => s * x) (code39Widths T.code39Asterisk)).reverse := by simp [List.map_reverse]
      rw [hmr, widths_scaled]
      simp [nw, List.map_reverse]
    rw [htake]
    exact c39Pattern_nw (s * 1) (s * 2) _ (by omega) (by omega) (by omega)
      (by rw [List.filter_reverse, List.length_reverse]; exact h3) (by simpa using hfalse)
  have hrv : natOfBits (bitsMSB 9 T.code39Asterisk).reverse ≠ T.code39Asterisk := by
    simpa [revStar39] using hrev
  obtain ⟨g0, G', hGc⟩ : ∃ g0 G', G = g0 :: G' :=
    List.exists_cons_of_length_pos (by rw [← hGdef]; simp [hlenS]; omega)
  rw [hGc] at hrow
  have hfind : c39FindAsterisk T row = .error .notFound := by
    unfold c39FindAsterisk
    simp only [getNextSet_of_white hrow hwhite]
    rw [starLoop_eq_gen _ _ _ _ _ _ _ (by simp) (by simp), hrow.drop]
    have := genLoop_fill 9 (by omega) (checkStar (c39Accept T row)) G' [] 0 g0 (List.replicate 8 0) true rq rq
      (fun r hr => hrow.pos r (by simp [hr])) (by simp)
    simp only [List.nil_append, List.length_nil, Bool.not_true, Nat.zero_add] at this
    simp only [appendPattern, List.length_replicate, Bool.not_true]
    rw [show List.replicate 9 0 = 0 :: List.replicate 8 0 from rfl, this]
    have hr := fill_reject T row rq s G hs (hGc ▸ hrow) hG hs30 _ hrv hfirst G' [] g0 (List.replicate 8 0) []
      (by rw [hGc]; simp) (by simp) (by simp)
    simpa only [List.nil_append, sumL_cons, sumL_nil, Nat.add_zero] using hr
  unfold c39DecodeRow
  rw [hfind]

end Gzx.Image1DRev39
