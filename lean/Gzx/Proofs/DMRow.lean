/-
  C08: what the arguments about blocks and interleaving use of a row of ISO/IEC 16022 Table 7, taken once from the
  row's consistency check `Sym.geomOK`.
-/
import Gzx.Ref.DM
namespace Gzx.DMProofs
open Gzx Gzx.DMRef

structure RowOK (s : Sym) : Prop where
  hB : 0 < s.blocks
  hBn : s.blocks ≤ s.nData
  hE : s.blocks * s.blkErr = s.nErr
  hsum : s.dataLens.sum = s.nData

theorem RowOK.of_geomOK {s : Sym} (h : s.geomOK = true) : RowOK s := by
  simp only [Sym.geomOK, Bool.and_eq_true, beq_iff_eq, decide_eq_true_eq] at h
  obtain ⟨⟨⟨⟨⟨⟨⟨⟨⟨_, hE⟩, hsum⟩, _⟩, _⟩, _⟩, _⟩, _⟩, hB⟩, hBn⟩ := h
  exact ⟨hB, hBn, hE, hsum⟩

theorem table7_geomOK : table7.all Sym.geomOK = true := by decide

theorem RowOK.of_mem {s : Sym} (hs : s ∈ table7) : RowOK s :=
  .of_geomOK (List.all_eq_true.1 table7_geomOK s hs)

end Gzx.DMProofs
