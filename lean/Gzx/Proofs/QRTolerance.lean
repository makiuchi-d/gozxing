/-
  Nearest-word decoding of the format and version information tolerates three flipped bits
  (shared by Properties/C05 and Properties/C01).
-/
import Gzx.Proofs.QRHamming
namespace Gzx.QRDec
open Gzx

/-- `doDecodeFormatInformation` / `FormatInformation_DecodeFormatInformation` on two copies within
    three bits of the word of lookup entry `(w, d)`: the data bits `d`, on the first attempt -/
theorem decodeFormatData_near (T : List (Nat × Nat)) (mask : Nat) (hT : MinDist 7 (T.map (·.1)))
    (w d : Nat) (hw : (w, d) ∈ T) (e₁ e₂ : Nat) (h₁ : popCount 64 e₁ ≤ 3) (h₂ : popCount 64 e₂ ≤ 3) :
    decodeFormatData T mask (w ^^^ e₁) (w ^^^ e₂) = some d := by
  obtain ⟨pre, post, rfl⟩ := List.append_of_mem hw
  simp only [List.map_append, List.map_cons] at hT
  have ⟨hp, hq⟩ := minDist_split hT
  have n1 : numBitsDiffering (w ^^^ e₁) w ≤ 3 := by rw [nbd_xor_left]; exact h₁
  have n2 : numBitsDiffering (w ^^^ e₂) w ≤ 3 := by rw [nbd_xor_left]; exact h₂
  have far : ∀ m, numBitsDiffering m w ≤ 3 → ∀ p : Nat × Nat, (p ∈ pre ∨ p ∈ post) → 4 ≤ numBitsDiffering m p.1 := by
    intro m hm p hp'
    have h7 : 7 ≤ numBitsDiffering w p.1 := by
      rcases hp' with h | h
      · rw [nbd_comm]; exact hp p.1 (List.mem_map_of_mem h)
      · exact hq p.1 (List.mem_map_of_mem h)
    have := far_of_near hm h7
    omega
  unfold decodeFormatData doDecodeFormat
  rw [fmtLoop_before (w ^^^ e₁) (w ^^^ e₂) w d pre post maxInt32 0
    (fun p h => ⟨far _ n1 p (Or.inl h), far _ n2 p (Or.inl h)⟩)
    (fun p h => ⟨far _ n1 p (Or.inr h), far _ n2 p (Or.inr h)⟩) n1 n2 (by decide)]

theorem decodeFormat_near (T : List (Nat × Nat)) (mask : Nat) (hT : MinDist 7 (T.map (·.1)))
    (w d : Nat) (hw : (w, d) ∈ T) (e₁ e₂ : Nat) (h₁ : popCount 64 e₁ ≤ 3) (h₂ : popCount 64 e₂ ≤ 3) :
    decodeFormat T mask (w ^^^ e₁) (w ^^^ e₂) = (do let fi ← formatInfoOf d; pure (some fi)) := by
  unfold decodeFormat
  rw [decodeFormatData_near T mask hT w d hw e₁ e₂ h₁ h₂]
  rfl

/-- `Version_decodeVersionInformation` on a copy within three bits of the `i`-th word -/
theorem decodeVersion_near (T : Tables) (hT : MinDist 8 T.vdi) (i w : Nat) (hw : T.vdi[i]? = some w)
    (e : Nat) (he : popCount 64 e ≤ 3) :
    decodeVersionInformation T (w ^^^ e) = getVersionForNumber T.versions (i + 7) := by
  have hi : i < T.vdi.length := by
    rcases Nat.lt_or_ge i T.vdi.length with h | h
    · exact h
    · rw [List.getElem?_eq_none h] at hw; cases hw
  have hsplit : T.vdi = T.vdi.take i ++ w :: T.vdi.drop (i + 1) := by
    have hg : T.vdi[i] = w := by
      rw [List.getElem?_eq_getElem hi] at hw; exact Option.some.inj hw
    rw [← hg, ← List.drop_eq_getElem_cons hi, List.take_append_drop]
  have hlen : (T.vdi.take i).length = i := by rw [List.length_take]; omega
  rw [hsplit] at hT
  have ⟨hp, hq⟩ := minDist_split hT
  have n1 : numBitsDiffering (w ^^^ e) w ≤ 3 := by rw [nbd_xor_left]; exact he
  have farP : ∀ t ∈ T.vdi.take i, 4 ≤ numBitsDiffering (w ^^^ e) t := by
    intro t ht
    have h8 : 8 ≤ numBitsDiffering w t := by rw [nbd_comm]; exact hp t ht
    have := far_of_near n1 h8; omega
  have farQ : ∀ t ∈ T.vdi.drop (i + 1), 4 ≤ numBitsDiffering (w ^^^ e) t := by
    intro t ht
    have := far_of_near n1 (hq t ht); omega
  unfold decodeVersionInformation
  rw [hsplit]
  rcases verLoop_before (w ^^^ e) w (T.vdi.take i) (T.vdi.drop (i + 1)) 0 maxInt32 0 farP farQ n1 (by decide) with h | ⟨b, hb, h⟩
  · rw [h, hlen]; simp
  · rw [h, hlen]; simp [hb]

/-- one copy inside `ReadVersion` (decode + dimension check) -/
theorem versionCopyOK_near (T : Tables) (hT : MinDist 8 T.vdi) (i w : Nat) (hw : T.vdi[i]? = some w)
    (e : Nat) (he : popCount 64 e ≤ 3) (v : VersionInfo)
    (hv : getVersionForNumber T.versions (i + 7) = .ok v) (dim : Nat) (hd : v.dimension = dim) :
    versionCopyOK T dim (w ^^^ e) = some v := by
  unfold versionCopyOK
  rw [decodeVersion_near T hT i w hw e he, hv]
  simp [hd]

end Gzx.QRDec
