/-
  Lemmas for `Obligations/K17b.lean`: word-level mirrors of the sharpening loop and of `GetMatrix`
  with their agreement with the hand-written models of `Model/Binarizer.lean` / `Model/Luminance.lean`, and the rows the
  sampling and rotation loops read.  Pure list facts: nothing here mentions a generated definition.
-/
import Gzx.Proofs.K17
import Gzx.Proofs.ExceptList
import Gzx.Model.Luminance
namespace Gzx.K17b
open Gzx Gzx.GoM Gzx.Bits Gzx.Binarizer Gzx.K17

/-! ### `BitArray.Set` on the word slice, and rows of conditional `Set` calls -/

/-- `BitArray.Set(i)` on the word slice (`WArr.set` without the record around it) -/
def setA (ws : List Nat) (i : Nat) : Res (List Nat) :=
  updWord ws (i / 32) (fun w => w ||| 1 <<< (i % 32))

theorem setA_eq_WArr (a : WArr) (i : Nat) : (WArr.set a i).map (fun a' => a'.words) = setA a.words i := by
  unfold WArr.set setA
  cases updWord a.words (i / 32) _ <;> rfl

/-- the `Set` calls of a row, applied in order.  As for the rectangle scans (`K17.ScanAgrees`) the tie of the row ends at "the
    same `Set(x)` calls in the same order on the word slice"; `setA_eq_WArr` reads one call as `WArr.set`. -/
def applyA (ws : List Nat) (l : List Nat) : Res (List Nat) := l.foldlM setA ws

/-- a loop of `if P x { row.Set(x) }` performs the `Set` calls of the indices that pass -/
theorem foldlM_cond_filter (P : Nat → Bool) : ∀ (l : List Nat) (ws : List Nat),
    l.foldlM (fun t x => if P x then setA t x else .ok t) ws = applyA ws (l.filter P) := by
  intro l
  induction l with
  | nil => intro ws; rfl
  | cons x l ih =>
    intro ws
    by_cases h : P x = true
    · simp only [List.foldlM, h, if_true, List.filter_cons_of_pos, applyA, bind, Except.bind]
      cases setA ws x with
      | error e => rfl
      | ok ws' => exact ih ws'
    · have h' : P x = false := by simpa using h
      simp only [List.foldlM, h', Bool.false_eq_true, if_false, bind, Except.bind]
      rw [List.filter_cons_of_neg (by simp [h'])]
      exact ih ws

/-- the indices of the set bits of a row of booleans -/
def trueIdx (bits : List Bool) : List Nat := (List.range' 0 bits.length).filter (fun i => bits.getD i false)

/-! ### the sharpening loop of `GetBlackRow` -/

/-- pixel `x` of the small-row loop (`width < 3`): checked read, `pixel < blackPoint`, `Set(x)` -/
def smallStep (lum : List Nat) (bp : Nat) (ws : List Nat) (x : Nat) : Res (List Nat) :=
  match lum[x]? with
  | none => .error oob
  | some p => if p % 256 < bp then setA ws x else .ok ws

/-- the filter value at `x` computed from the three neighbouring luminances -/
def sharpAt (lum : List Nat) (bp x : Nat) : Bool :=
  decide (Int.tdiv (((lum.getD x 0 % 256 : Nat) : Int) * 4 - ((lum.getD (x - 1) 0 % 256 : Nat) : Int) -
    ((lum.getD (x + 1) 0 % 256 : Nat) : Int)) 2 < (bp : Int))

/-- pixel `x` of the `-1 4 -1` loop: checked read of `localLuminances[x+1]`, `left` / `center` carried from the previous rounds -/
def sharpStep (lum : List Nat) (bp : Nat) (ws : List Nat) (x : Nat) : Res (List Nat) :=
  match lum[x + 1]? with
  | none => .error oob
  | some _ => if sharpAt lum bp x then setA ws x else .ok ws

/-- the last statement of `GetBlackRow` as the Go code runs it -/
def sharpenW (ws : List Nat) (width : Nat) (lum : List Nat) (bp : Nat) : Res (List Nat) :=
  if width < 3 then (List.range' 0 width).foldlM (smallStep lum bp) ws
  else
    match lum[0]?, lum[1]? with
    | some _, some _ => (List.range' 1 (width - 2)).foldlM (sharpStep lum bp) ws
    | _, _ => .error oob

/-- the row of bits `Binarizer.blackRow` returns once the black point is known -/
def rowBits (bp : Nat) (row : List Nat) : List Bool :=
  if row.length < 3 then row.map (fun p => decide (p % 256 < bp))
  else false :: sharpen bp (row.map (· % 256)) ++ [false]

theorem blackRow_eq (row : List Nat) :
    blackRow row = (estimateBlackPoint (histogram row)).map (fun bp => rowBits bp row) := by
  unfold blackRow rowBits
  cases estimateBlackPoint (histogram row) with
  | error e => rfl
  | ok bp => by_cases h : row.length < 3 <;> simp [h, Except.map]

theorem sharpen_getD (bp : Nat) : ∀ (l : List Nat) (i : Nat), i + 2 < l.length →
    (sharpen bp l).getD i false =
      decide (Int.tdiv (((l.getD (i + 1) 0 : Nat) : Int) * 4 - ((l.getD i 0 : Nat) : Int) - ((l.getD (i + 2) 0 : Nat) : Int)) 2 < (bp : Int))
  | [], i, h => absurd h (Nat.not_lt_zero _)
  | [_], i, h => absurd (Nat.lt_of_succ_lt_succ h) (Nat.not_lt_zero _)
  | [_, _], i, h => absurd (Nat.lt_of_succ_lt_succ (Nat.lt_of_succ_lt_succ h)) (Nat.not_lt_zero _)
  | a :: b :: c :: rest, 0, _ => rfl
  | a :: b :: c :: rest, i + 1, h => by
    rw [sharpen, List.getD_cons_succ, List.getD_cons_succ, List.getD_cons_succ, List.getD_cons_succ]
    exact sharpen_getD bp (b :: c :: rest) i (Nat.lt_of_succ_lt_succ h)

theorem getD_map_mod (l : List Nat) (i : Nat) : (l.map (· % 256)).getD i 0 = l.getD i 0 % 256 := by
  simp only [List.getD_eq_getElem?_getD, List.getElem?_map]
  cases l[i]? <;> simp

theorem rowBits_getD (bp : Nat) (row : List Nat) (h3 : ¬ row.length < 3) (x : Nat) (hx : x < row.length) :
    (rowBits bp row).getD x false = (decide (1 ≤ x ∧ x + 1 < row.length) && sharpAt row bp x) := by
  unfold rowBits
  simp only [h3, if_false]
  have hsl : (sharpen bp (row.map (· % 256))).length = row.length - 2 := by rw [sharpen_length]; simp
  cases x with
  | zero => simp
  | succ x =>
    rw [List.cons_append, List.getD_cons_succ]
    by_cases hlast : x + 2 < row.length
    · rw [List.getD_eq_getElem?_getD, List.getElem?_append_left (by rw [hsl]; omega), ← List.getD_eq_getElem?_getD,
        sharpen_getD bp _ x (by simp; omega)]
      simp only [getD_map_mod, sharpAt, Nat.add_sub_cancel]
      have : (1 ≤ x + 1 ∧ x + 1 + 1 < row.length) := ⟨by omega, by omega⟩
      simp [this]
    · rw [List.getD_eq_getElem?_getD, List.getElem?_append_right (by rw [hsl]; omega)]
      have e : x - (sharpen bp (row.map (· % 256))).length = 0 := by rw [hsl]; omega
      have : ¬ (x + 1 + 1 < row.length) := by omega
      simp [e, this]

theorem rowBits_length (bp : Nat) (row : List Nat) : (rowBits bp row).length = row.length := by
  unfold rowBits
  by_cases h : row.length < 3
  · simp [h]
  · simp only [h, if_false, List.length_cons, List.length_append, List.length_nil, sharpen_length, List.length_map]
    omega

/-- **the sharpening loop, mirror to model**: on a row of `width` luminances the Go loop performs exactly the `Set(x)` calls of the
    bits that `Binarizer.blackRow` reports (in increasing `x`) -/
theorem sharpenW_agrees (ws : List Nat) (lum : List Nat) (bp : Nat) :
    sharpenW ws lum.length lum bp = applyA ws (trueIdx (rowBits bp lum)) := by
  unfold sharpenW trueIdx
  rw [rowBits_length]
  by_cases h3 : lum.length < 3
  · simp only [h3, if_true]
    rw [← foldlM_cond_filter]
    apply foldlM_congr_mem
    intro x hx t
    have hx' : x < lum.length := by simp [List.mem_range'_1] at hx; exact hx
    simp only [smallStep, List.getElem?_eq_getElem hx']
    have : (rowBits bp lum).getD x false = decide (lum[x] % 256 < bp) := by
      unfold rowBits
      simp only [h3, if_true, List.getD_eq_getElem?_getD, List.getElem?_map, List.getElem?_eq_getElem hx', Option.map_some,
        Option.getD_some]
    rw [this]
    by_cases hp : lum[x] % 256 < bp <;> simp [hp]
  · simp only [h3, if_false]
    rw [List.getElem?_eq_getElem (by omega), List.getElem?_eq_getElem (by omega)]
    simp only []
    -- the end pixels `0` and `m + 1` are never set
    obtain ⟨m, hm⟩ : ∃ m, lum.length = m + 2 := ⟨lum.length - 2, by omega⟩
    have e0 : ¬ (rowBits bp lum).getD 0 false = true := by
      rw [rowBits_getD bp lum h3 0 (by omega)]; exact Bool.false_ne_true
    have e1 : ¬ (rowBits bp lum).getD (0 + 1 + m) false = true := by
      rw [rowBits_getD bp lum h3 _ (by omega), decide_eq_false (by omega)]; exact Bool.false_ne_true
    rw [hm, Nat.add_sub_cancel, List.range'_succ, List.range'_1_concat, List.filter_cons_of_neg (p := fun i => (rowBits bp lum).getD i false) e0,
      List.filter_append, List.filter_cons_of_neg (p := fun i => (rowBits bp lum).getD i false) e1, List.filter_nil, List.append_nil, ← foldlM_cond_filter]
    apply foldlM_congr_mem
    intro x hx t
    have hx' : 1 ≤ x ∧ x + 1 < lum.length := by rw [List.mem_range'_1] at hx; omega
    simp only [sharpStep, List.getElem?_eq_getElem hx'.2]
    rw [rowBits_getD bp lum h3 x (by omega), decide_eq_true hx']
    rfl

/-! ### the four sampled rows of `GlobalHistogramBinarizer.GetBlackMatrix` -/

/-- row `r` of a `w`-wide luminance matrix, as `GetRow(r, _)` of a whole-image source returns it -/
def rowOf (lum : List Nat) (w r : Nat) : List Nat := (lum.drop (r * w)).take w

theorem rowOf_getElem? (lum : List Nat) (w r x : Nat) (hx : x < w) : (rowOf lum w r)[x]? = lum[r * w + x]? := by
  unfold rowOf
  rw [List.getElem?_take_of_lt hx, List.getElem?_drop]

theorem range_drop (n a : Nat) : (List.range n).drop a = List.range' a (n - a) := by
  rw [List.range_eq_range', List.drop_range']
  simp

/-! ### `GetMatrix`: block copies into a fresh array, row by row -/

open Gzx.Luminance in
/-- a `Fault` as a view error -/
def liftV {α : Type} : Res α → Luminance.VRes α
  | .ok a => .ok a
  | .error f => .error (.fault f)

theorem mapME_liftV {α β : Type} (f : β → Res α) : ∀ l : List β, mapME (fun a => liftV (f a)) l = liftV (mapME f l)
  | [] => rfl
  | a :: l => by
    simp only [mapME]
    rw [mapME_liftV f l]
    cases f a with
    | error e => rfl
    | ok b => cases mapME f l <;> rfl

/-- `xs[a:b]` (capacity = length) on a model byte list, as a `Fault` -/
def sliceN (l : List Nat) (a b : Nat) : Res (List Nat) :=
  if a ≤ b ∧ b ≤ l.length then .ok ((l.drop a).take (b - a)) else .error (.panic "slice bounds out of range")

theorem slice_eq_liftV (l : List Nat) (a b : Nat) : Luminance.slice l a b = liftV (sliceN l a b) := by
  unfold Luminance.slice sliceN
  by_cases h : a ≤ b ∧ b ≤ l.length <;> simp [h, liftV, Luminance.vpanic]

theorem sliceN_length (l : List Nat) (a w : Nat) (r : List Nat) (h : sliceN l a (a + w) = .ok r) : r.length = w := by
  unfold sliceN at h
  split at h
  · injection h with h; subst h; simp; omega
  · cases h

/-- `copy(dst[lo:hi], src)` on model byte lists -/
def copySegN (dst : List Nat) (lo hi : Nat) (src : List Nat) : Res (List Nat) :=
  if lo ≤ hi ∧ hi ≤ dst.length then
    .ok (dst.take lo ++ copyInto ((dst.drop lo).take (hi - lo)) src ++ dst.drop hi)
  else .error (.panic "slice bounds out of range")

/-! the Go slice operations on `bytes` are the model's on the byte lists -/

theorem sliceL_bytes (l : List Nat) (a b : Nat) (ea eb : Int) (ha : ea = a) (hb : eb = b) :
    sliceL (bytes l) ea eb = (sliceN l a b).map bytes := by
  subst ha hb
  unfold sliceL sliceN
  by_cases h : a ≤ b ∧ b ≤ l.length
  · have h' : (0 : Int) ≤ (a : Int) ∧ (a : Int) ≤ (b : Int) ∧ (b : Int) ≤ ((bytes l).length : Nat) := by
      rw [bytes_length]; omega
    simp only [h, h', and_self, if_true, Except.map, Int.toNat_natCast]
    congr 1
    rw [List.drop_take, bytes, bytes, List.map_take, List.map_drop]
  · have h' : ¬ ((0 : Int) ≤ (a : Int) ∧ (a : Int) ≤ (b : Int) ∧ (b : Int) ≤ ((bytes l).length : Nat)) := by
      rw [bytes_length]; omega
    simp only [h, h', if_false, Except.map]

theorem copyL_bytes (a b : List Nat) : copyL (bytes a) (bytes b) = bytes (copyInto a b) := copyL_words a b

theorem copySeg_bytes (t : List Nat) (lo hi : Nat) (s : List Nat) (elo ehi : Int) (hlo : elo = lo) (hhi : ehi = hi) :
    copySeg (bytes t) elo ehi (bytes s) = (copySegN t lo hi s).map bytes := by
  subst hlo hhi
  unfold copySeg copySegN
  by_cases h : lo ≤ hi ∧ hi ≤ t.length
  · have h' : (0 : Int) ≤ (lo : Int) ∧ (lo : Int) ≤ (hi : Int) ∧ (hi : Int) ≤ ((bytes t).length : Nat) := by
      rw [bytes_length]; omega
    simp only [h, h', and_self, if_true, Except.map, Int.toNat_natCast]
    congr 1
    have e : (List.drop lo (bytes t)).take (hi - lo) = bytes ((t.drop lo).take (hi - lo)) := by
      simp [bytes, List.map_take, List.map_drop]
    rw [e, copyL_bytes]
    simp [bytes, List.map_take, List.map_drop]
  · have h' : ¬ ((0 : Int) ≤ (lo : Int) ∧ (lo : Int) ≤ (hi : Int) ∧ (hi : Int) ≤ ((bytes t).length : Nat)) := by
      rw [bytes_length]; omega
    simp only [h, h', if_false, Except.map]

theorem mk_bytes (e : Int) (n : Nat) (h : e = n) : mk e = .ok (bytes (List.replicate n 0)) := mk_nats e n h

/-- a block of `bw` elements copied to position `lo` with either upper bound the Go code uses (`lo+bw` or `len dst`) -/
theorem copySegN_block (dst : List Nat) (lo hi : Nat) (src : List Nat) (hl : lo + src.length ≤ dst.length)
    (hh : hi = lo + src.length ∨ hi = dst.length) :
    copySegN dst lo hi src = .ok (dst.take lo ++ src ++ dst.drop (lo + src.length)) := by
  unfold copySegN copyInto
  have hc : lo ≤ hi ∧ hi ≤ dst.length := by omega
  simp only [hc, and_self, if_true]
  congr 1
  rcases hh with hh | hh
  · subst hh
    have e1 : ((dst.drop lo).take (lo + src.length - lo)).length = src.length := by simp; omega
    rw [e1, List.take_length, List.drop_eq_nil_of_le (by rw [e1]; omega)]
    simp
  · subst hh
    have e0 : (dst.drop lo).take (dst.length - lo) = dst.drop lo := List.take_of_length_le (by simp)
    rw [e0, List.length_drop, List.take_of_length_le (by omega : src.length ≤ dst.length - lo), List.drop_drop,
      List.drop_eq_nil_of_le (Nat.le_refl dst.length)]
    simp

theorem mapME_flatten_length {ε : Type} {bw : Nat} {rowF : Nat → Except ε (List Nat)} (hrow : ∀ j r, rowF j = .ok r → r.length = bw) :
    ∀ (l : List Nat) (rows : List (List Nat)), mapME rowF l = .ok rows → rows.flatten.length = l.length * bw
  | [], rows, h => by cases h; exact (Nat.zero_mul _).symm
  | a :: l, rows, h => by
    obtain ⟨r, rs, hfa, hm, rfl⟩ := mapME_cons_inv rowF a l rows h
    rw [List.flatten_cons, List.length_append, hrow a r hfa, mapME_flatten_length hrow l rs hm, List.length_cons, Nat.succ_mul,
      Nat.add_comm]

theorem drop_append_len {α : Type} (l1 l2 : List α) (n i : Nat) (h : l1.length = n) : (l1 ++ l2).drop (n + i) = l2.drop i := by
  subst h; simp

/-- **filling a fresh array block by block**: a step that puts block `j` (of `bw` elements) at `j*bw` turns `t0` into the blocks so
    far followed by the untouched rest; errors are those of the first failing block -/
theorem foldlM_blocks {ε : Type} (bw n : Nat) (rowF : Nat → Except ε (List Nat)) (step : List Nat → Nat → Except ε (List Nat))
    (hrow : ∀ j r, rowF j = .ok r → r.length = bw)
    (hstep : ∀ t j, j < n → t.length = n * bw → step t j =
      match rowF j with
      | .ok r => .ok (t.take (j * bw) ++ r ++ t.drop (j * bw + bw))
      | .error e => .error e) :
    ∀ k, k ≤ n → ∀ t0 : List Nat, t0.length = n * bw →
      (List.range' 0 k).foldlM step t0 =
        match mapME rowF (List.range' 0 k) with
        | .ok rows => .ok (rows.flatten ++ t0.drop (k * bw))
        | .error e => .error e := by
  intro k
  induction k with
  | zero => intro _ t0 _; simp [mapME, pure, Except.pure]
  | succ k ih =>
    intro hk t0 ht0
    rw [List.range'_1_concat, List.foldlM_append, ih (by omega) t0 ht0, mapME_append_single, Nat.zero_add]
    cases hm : mapME rowF (List.range' 0 k) with
    | error e => simp [bind, Except.bind]
    | ok rows =>
      have hl : rows.flatten.length = k * bw := by rw [mapME_flatten_length hrow _ rows hm, List.length_range']
      have hkb : k * bw + bw ≤ n * bw := by
        have : (k + 1) * bw ≤ n * bw := Nat.mul_le_mul_right bw hk
        rw [Nat.add_mul] at this; omega
      simp only [bind, Except.bind, List.foldlM, pure, Except.pure]
      rw [hstep _ k (by omega) (by simp [hl, ht0]; omega)]
      cases hr : rowF k with
      | error e => rfl
      | ok r =>
        simp only []
        congr 1
        have hrl := hrow k r hr
        have hX1 : (rows.flatten ++ t0.drop (k * bw)).take (k * bw) = rows.flatten := List.take_left' hl
        have hX2 : (rows.flatten ++ t0.drop (k * bw)).drop (k * bw + bw) = t0.drop ((k + 1) * bw) := by
          rw [drop_append_len _ _ (k * bw) bw hl, List.drop_drop, Nat.add_mul, Nat.one_mul]
        rw [hX1, hX2, List.flatten_append, List.flatten_singleton]

/-- the rows `GetMatrix` copies: `luminances[off + y*dataW : off + y*dataW + w]` -/
def cropRow (data : List Nat) (dataW w off y : Nat) : Res (List Nat) := sliceN data (off + y * dataW) (off + y * dataW + w)

theorem rowsCopy_eq (data : List Nat) (dataW w off : Nat) : ∀ (n s : Nat),
    Luminance.rowsCopy data dataW w (off + s * dataW) n =
      liftV ((mapME (cropRow data dataW w off) (List.range' s n)).map List.flatten)
  | 0, s => rfl
  | n + 1, s => by
    simp only [Luminance.rowsCopy, List.range'_succ, mapME, cropRow, bind, Except.bind]
    rw [slice_eq_liftV]
    cases sliceN data (off + s * dataW) (off + s * dataW + w) with
    | error e => rfl
    | ok r =>
      simp only [liftV]
      have e : off + s * dataW + dataW = off + (s + 1) * dataW := by rw [Nat.add_mul]; omega
      rw [e, rowsCopy_eq data dataW w off n (s + 1)]
      cases mapME (cropRow data dataW w off) (List.range' (s + 1) n) <;> rfl

/-- one row of the row-by-row copy with the upper bound `hiF len y` of the destination slice -/
def cropStep (data : List Nat) (dataW w off : Nat) (hiF : Nat → Nat → Nat) (t : List Nat) (y : Nat) : Res (List Nat) :=
  match cropRow data dataW w off y with
  | .error e => .error e
  | .ok r => copySegN t (y * w) (hiF t.length y) r

/-- the mirror of `GetMatrix` of the RGB (`hiF = fun _ y => y*w + w`) and YUV (`hiF = fun len _ => len`) sources -/
def getMatrixW (data : List Nat) (dataW dataH left top w h : Nat) (hiF : Nat → Nat → Nat) : Res (List Nat) :=
  if w = dataW ∧ h = dataH then .ok data
  else if w = dataW then (sliceN data (top * dataW + left) (top * dataW + left + w * h)).map
      (fun s => copyInto (List.replicate (w * h) 0) s)
  else (List.range' 0 h).foldlM (cropStep data dataW w (top * dataW + left) hiF) (List.replicate (w * h) 0)

/-- **GetMatrix, mirror to model**: `Luminance.baseGetMatrix` for every view -/
theorem getMatrixW_agrees (v : Luminance.View) (hiF : Nat → Nat → Nat)
    (hh : ∀ len y, hiF len y = y * v.w + v.w ∨ hiF len y = len) :
    Luminance.baseGetMatrix v = liftV (getMatrixW v.data v.dataW v.dataH v.left v.top v.w v.h hiF) := by
  unfold Luminance.baseGetMatrix getMatrixW
  by_cases h1 : v.w = v.dataW ∧ v.h = v.dataH
  · simp only [h1, and_self, if_true]; rfl
  · simp only [h1, if_false]
    by_cases h2 : v.w = v.dataW
    · simp only [h2, if_true]
      rw [slice_eq_liftV]
      cases hs : sliceN v.data (v.top * v.dataW + v.left) (v.top * v.dataW + v.left + v.dataW * v.h) with
      | error e => rfl
      | ok s =>
        have hl := sliceN_length _ _ _ _ hs
        simp only [Except.map, liftV]
        congr 1
        unfold copyInto
        simp only [List.length_replicate, hl, Nat.le_refl, List.drop_eq_nil_of_le, List.append_nil]
        rw [← hl, List.take_length]
    · simp only [h2, if_false]
      have h0 := rowsCopy_eq v.data v.dataW v.w (v.top * v.dataW + v.left) v.h 0
      simp only [Nat.zero_mul, Nat.add_zero] at h0
      rw [h0]
      have hb := foldlM_blocks v.w v.h (cropRow v.data v.dataW v.w (v.top * v.dataW + v.left))
        (cropStep v.data v.dataW v.w (v.top * v.dataW + v.left) hiF)
        (fun j r hr => sliceN_length _ _ _ _ hr)
        (by
          intro t j hj ht
          unfold cropStep
          cases hr : cropRow v.data v.dataW v.w (v.top * v.dataW + v.left) j with
          | error e => rfl
          | ok r =>
            have hrl : r.length = v.w := sliceN_length _ _ _ _ hr
            have hjb : j * v.w + v.w ≤ v.h * v.w := by
              have : (j + 1) * v.w ≤ v.h * v.w := Nat.mul_le_mul_right v.w hj
              rw [Nat.add_mul] at this; omega
            simp only []
            have hhi : hiF t.length j = j * v.w + r.length ∨ hiF t.length j = t.length := by
              rcases hh t.length j with h | h
              · left; omega
              · right; omega
            rw [copySegN_block t (j * v.w) _ r (by omega) hhi, hrl])
        v.h (Nat.le_refl _) (List.replicate (v.w * v.h) 0) (by simp [Nat.mul_comm])
      rw [hb]
      cases mapME _ (List.range' 0 v.h) with
      | error e => rfl
      | ok rows =>
        simp only [Except.map, liftV]
        congr 1
        rw [List.drop_of_length_le (by simp [Nat.mul_comm])]
        simp

/-! ### `RotateCounterClockwise`: the rotated rows, written element by element behind one another -/

/-- `ws[k] = v` where `ws` has `k` words, then `c` -/
theorem setWord_append_cons (pre : List Nat) (c v : Nat) (post : List Nat) (k : Nat) (hk : pre.length = k) :
    setWord (pre ++ c :: post) k v = .ok (pre ++ v :: post) := by
  subst hk
  unfold setWord
  rw [if_pos (by rw [List.length_append, List.length_cons]; omega), List.set_append_right _ _ (Nat.le_refl _), Nat.sub_self,
    List.set_cons_zero]

theorem idx_eq_liftV (l : List Nat) (i : Nat) : Luminance.idx l i = liftV (wordAt l i) := by
  unfold Luminance.idx wordAt
  cases l[i]? <;> rfl

/-- column `left+width-1-j` of the view, top to bottom: row `j` of the rotated copy -/
def rotRowR (data : List Nat) (dataW left top w h j : Nat) : Res (List Nat) :=
  mapME (fun i => wordAt data ((top + i) * dataW + (left + w - 1 - j))) (List.range' 0 h)

theorem rotRowR_length {data : List Nat} {dataW left top w h j : Nat} {r : List Nat}
    (hr : rotRowR data dataW left top w h j = .ok r) : r.length = h :=
  (mapME_length _ _ r hr).trans List.length_range'

theorem rotRows_length {data : List Nat} {dataW left top w h : Nat} (l : List Nat) (rows : List (List Nat))
    (hr : mapME (rotRowR data dataW left top w h) l = .ok rows) : rows.flatten.length = l.length * h :=
  mapME_flatten_length (fun _ _ => rotRowR_length) l rows hr

theorem rotRows_error {data : List Nat} {dataW left top w h : Nat} {l : List Nat} {e : Fault}
    (he : mapME (rotRowR data dataW left top w h) l = .error e) : e = oob := by
  obtain ⟨j, _, hj⟩ := mapME_error _ _ _ he
  obtain ⟨i, _, hi⟩ := mapME_error _ _ _ hj
  unfold wordAt at hi
  split at hi <;> cases hi
  rfl

/-- `make([]byte, n)` with the elements `vs` already written at its front -/
def filled (n : Nat) (vs : List Nat) : List Int := words (vs ++ List.replicate (n - vs.length) 0)

theorem filled_full (n : Nat) (vs : List Nat) (h : vs.length = n) : filled n vs = words vs := by
  rw [filled, h, Nat.sub_self, List.replicate_zero, List.append_nil]

theorem filled_write {σ ρ : Type} (n : Nat) (vs : List Nat) (v : Nat) (e : Int) (he : e = (vs.length : Nat)) (hl : vs.length < n)
    (k : List Int → Ctl σ ρ) : tryC (setIdx (filled n vs) e (v : Int)) k = k (filled n (vs ++ [v])) := by
  obtain ⟨m, hm⟩ : ∃ m, n - vs.length = m + 1 := ⟨n - vs.length - 1, by omega⟩
  rw [filled, filled, hm, List.replicate_succ, setC _ vs.length v k he rfl, setWord_append_cons _ _ v _ _ rfl, List.length_append,
    List.length_singleton, show n - (vs.length + 1) = m by omega, List.append_assoc]
  rfl

/-- **RotateCounterClockwise, rows to model**: the rows `rotRowR` are the model's rotated rows -/
theorem rotRows_agree (v : Luminance.View) :
    (mapME (Luminance.rotRow v) (List.range v.w) |>.map List.flatten) =
      liftV ((mapME (rotRowR v.data v.dataW v.left v.top v.w v.h) (List.range' 0 v.w)).map List.flatten) := by
  have hrow : Luminance.rotRow v = fun j => liftV (rotRowR v.data v.dataW v.left v.top v.w v.h j) := by
    funext j
    unfold Luminance.rotRow rotRowR
    rw [List.range_eq_range', ← mapME_liftV]
    congr 1
    funext i
    exact idx_eq_liftV _ _
  rw [hrow, List.range_eq_range', mapME_liftV]
  cases mapME (rotRowR v.data v.dataW v.left v.top v.w v.h) (List.range' 0 v.w) <;> rfl

end Gzx.K17b
