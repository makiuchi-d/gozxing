/-
  What the UPC/EAN writers of `Model/OneD.lean` draw, as a function of the complete digit string: the guard patterns and,
  per half, the concatenation of one pattern per digit position in one colour (`segM`), the pattern of a position being
  the row of the L table (`lPat`) or of the L-and-G table chosen by a bit of the parity word (`lgPat`).  For any `Tables`
  whose L table has ten rows (and, where they are read, ten first-digit words and two rows of ten UPC-E parity words).
-/
import Gzx.Proofs.OneD
namespace Gzx.OneD
open Gzx Gzx.CheckDigit

/-- row `i` of a table of run-width patterns (the empty pattern outside the table) -/
def rowAt (L : List (List Nat)) (i : Nat) : List Nat := L[i]?.getD []

theorem nth_rowAt (L : List (List Nat)) (i : Nat) (h : i < L.length) : nth L i = .ok (rowAt L i) := by
  unfold nth rowAt; simp [h]

theorem digit_of_all {full : List Nat} (h : allDigits full = true) (i : Nat) (hi : i < full.length) :
    48 ≤ full[i] ∧ full[i] ≤ 57 := by
  have := (List.all_eq_true.mp h) full[i] (List.getElem_mem hi)
  simpa [isDigitByte] using this

theorem nth_digitVals (full : List Nat) (i : Nat) (hi : i < full.length) : nth (digitVals full) i = .ok (full[i] - 48) := by
  unfold nth digitVals; simp [hi]

/-- modules of the patterns `pats a, …, pats (a+k-1)` drawn one after the other, each in colour `c` -/
def segM (pats : Nat → List Nat) (c : Bool) (a k : Nat) : List Bool :=
  ((List.range' a k).map (fun i => appendPattern (pats i) c)).flatten

/-- the L pattern of the digit at position `i` of a digit string -/
def lPat (T : Tables) (full : List Nat) (i : Nat) : List Nat := rowAt T.lPatterns ((full[i]?.getD 48) - 48)

/-- the L-or-G pattern of the digit at position `i` under the parity word `p` -/
def lgPat (T : Tables) (full : List Nat) (p : Nat) (i : Nat) : List Nat :=
  rowAt (lAndG T.lPatterns) (if (p / 2 ^ (6 - i)) % 2 = 1 then (full[i]?.getD 48) - 48 + 10 else (full[i]?.getD 48) - 48)

/-- the parity word of a digit string's first digit (EAN-13) -/
def parityOf (T : Tables) (full : List Nat) : Nat := (T.firstDigit[(full[0]?.getD 48) - 48]?).getD 0

/-- the parity word of a UPC-E digit string (number system digit, check digit) -/
def parityE (T : Tables) (full : List Nat) : Nat :=
  ((rowAt T.upceParity ((full[0]?.getD 48) - 48))[(full[7]?.getD 48) - 48]?).getD 0

/-- the modules of a complete 8-digit string -/
def draw8 (T : Tables) (full : List Nat) : List Bool :=
  appendPattern T.startEnd true ++ segM (lPat T full) false 0 4 ++ appendPattern T.middle false ++
    segM (lPat T full) true 4 4 ++ appendPattern T.startEnd true

/-- the modules of a complete 13-digit string -/
def draw13 (T : Tables) (full : List Nat) : List Bool :=
  appendPattern T.startEnd true ++ segM (lgPat T full (parityOf T full)) false 1 6 ++
    appendPattern T.middle false ++ segM (lPat T full) true 7 6 ++ appendPattern T.startEnd true

/-- the modules of a complete UPC-E digit string (8 digits) -/
def drawE (T : Tables) (full : List Nat) : List Bool :=
  appendPattern T.startEnd true ++ segM (lgPat T full (parityE T full)) false 1 6 ++ appendPattern T.upceEnd false

theorem mapM_range'_ok {α : Type} (f : Nat → Res α) (g : Nat → α) : ∀ (k a : Nat),
    (∀ i, a ≤ i → i < a + k → f i = .ok (g i)) → (List.range' a k).mapM f = .ok ((List.range' a k).map g) :=
  fun _ _ h => Gzx.mapM_ok f g _ fun i hi => h i (List.mem_range'_1.mp hi).1 (List.mem_range'_1.mp hi).2

theorem mapM_range'_add {α} (f : Nat → Res α) (a : Nat) : ∀ (k s : Nat),
    (List.range' s k).mapM (fun j => f (j + a)) = (List.range' (s + a) k).mapM f := by
  intro k
  induction k with
  | zero => intro s; rfl
  | succ k ih =>
    intro s
    rw [List.range'_succ, List.range'_succ, List.mapM_cons, List.mapM_cons, ih (s + 1), Nat.add_right_comm]

/-- the rows of the L table the UPC/EAN writers look up for the `k` digits from position `a` on -/
theorem lRows_of_digits (T : Tables) (hL : T.lPatterns.length = 10) (full : List Nat) (hd : allDigits full = true)
    (a k : Nat) (h : a + k ≤ full.length) :
    (List.range k).mapM (fun j => do let d ← nth (digitVals full) (j + a); nth T.lPatterns d) =
      .ok ((List.range' a k).map (lPat T full)) := by
  rw [List.range_eq_range', mapM_range'_add (fun i => do let d ← nth (digitVals full) i; nth T.lPatterns d),
    Nat.zero_add]
  apply mapM_ok
  intro i hi
  obtain ⟨h1, h2⟩ := List.mem_range'_1.mp hi
  have hi' : i < full.length := by omega
  have hb := List.all_eq_true.mp hd full[i] (List.getElem_mem hi')
  simp only [isDigitByte, Bool.and_eq_true, decide_eq_true_eq] at hb
  have hv : full[i] - 48 < T.lPatterns.length := by omega
  simp [nth, digitVals, lPat, rowAt, hi', hv, bind, Except.bind]

theorem leftHalf_eq (T : Tables) (hL : T.lPatterns.length = 10) (full : List Nat) (p : Nat) (hl : 7 ≤ full.length)
    (hd : allDigits full = true) : leftHalf T (digitVals full) p = .ok (segM (lgPat T full p) false 1 6) := by
  have hLG := lAndG_length hL
  have key : (List.range 6).mapM (fun j => do
      let d ← nth (digitVals full) (j + 1)
      nth (lAndG T.lPatterns) (if (p / 2 ^ (5 - j)) % 2 = 1 then d + 10 else d)) =
        .ok ((List.range' 0 6).map (fun j => lgPat T full p (j + 1))) := by
    rw [List.range_eq_range', mapM_range'_ok _ (fun j => lgPat T full p (j + 1)) 6 0]
    intro i _ hi
    have hi' : i + 1 < full.length := by omega
    obtain ⟨h1, h2⟩ := digit_of_all hd (i + 1) hi'
    rw [nth_digitVals full (i + 1) hi']
    show nth (lAndG T.lPatterns) (if (p / 2 ^ (5 - i)) % 2 = 1 then full[i + 1] - 48 + 10 else full[i + 1] - 48) = _
    have e56 : 6 - (i + 1) = 5 - i := by omega
    unfold lgPat
    rw [List.getElem?_eq_getElem hi', e56]
    simp only [Option.getD_some]
    split
    · exact nth_rowAt _ _ (by rw [hLG]; omega)
    · exact nth_rowAt _ _ (by rw [hLG]; omega)
  unfold leftHalf
  simp only [bind, Except.bind, pure, Except.pure] at key ⊢
  simp only [key, segM, List.map_map]
  rfl

theorem ean8Modules_of_contents (T : Tables) (hL : T.lPatterns.length = 10) (s full : List Nat)
    (hc : stdWriterContents 8 s = .ok full) : ean8Modules T s = .ok (draw8 T full) := by
  obtain ⟨hl, hd⟩ := stdWriterContents_ok 8 s full hc
  have k0 := lRows_of_digits T hL full hd 0 4 (by omega)
  have k4 := lRows_of_digits T hL full hd 4 4 (by omega)
  unfold ean8Modules
  rw [hc]
  simp only [bind, Except.bind, pure, Except.pure, Nat.add_zero] at k0 k4 ⊢
  simp only [k0, k4, draw8, segM, List.map_map]
  rfl

theorem ean13Modules_of_contents (T : Tables) (hL : T.lPatterns.length = 10) (hF : T.firstDigit.length = 10)
    (s full : List Nat) (hc : stdWriterContents 13 s = .ok full) : ean13Modules T s = .ok (draw13 T full) := by
  obtain ⟨hl, hd⟩ := stdWriterContents_ok 13 s full hc
  have kr := lRows_of_digits T hL full hd 7 6 (by omega)
  have h0 : 0 < full.length := by omega
  obtain ⟨h1, h2⟩ := digit_of_all hd 0 h0
  have ef : nth T.firstDigit (full[0] - 48) = .ok (parityOf T full) := by
    unfold nth parityOf
    rw [List.getElem?_eq_getElem h0]
    have : full[0] - 48 < T.firstDigit.length := by rw [hF]; omega
    simp [this]
  unfold ean13Modules
  rw [hc]
  simp only [bind, Except.bind, pure, Except.pure] at kr ⊢
  simp only [nth_digitVals full 0 h0, ef, leftHalf_eq T hL full _ (by omega) hd, kr, draw13, segM, List.map_map]
  rfl

theorem upceModules_of_contents (T : Tables) (hL : T.lPatterns.length = 10) (hP : T.upceParity.length = 2)
    (hP' : ∀ r ∈ T.upceParity, r.length = 10) (s full : List Nat) (hc : upceWriterContents s = .ok full)
    (hl : full.length = 8) (hd : allDigits full = true) (hf : full[0]'(by omega) = 48 ∨ full[0]'(by omega) = 49) :
    upceModules T s = .ok (drawE T full) := by
  have h0 : 0 < full.length := by omega
  have h7 : 7 < full.length := by omega
  obtain ⟨a1, a2⟩ := digit_of_all hd 7 h7
  have hf' : full[0] = 48 ∨ full[0] = 49 := hf
  have hr : full[0] - 48 < T.upceParity.length := by rw [hP]; omega
  have e1 : nth T.upceParity (full[0] - 48) = .ok (rowAt T.upceParity (full[0] - 48)) := nth_rowAt _ _ hr
  have e2 : nth (rowAt T.upceParity (full[0] - 48)) (full[7] - 48) = .ok (parityE T full) := by
    unfold nth parityE
    rw [List.getElem?_eq_getElem h0, List.getElem?_eq_getElem h7]
    have : full[7] - 48 < (rowAt T.upceParity (full[0] - 48)).length := by
      have : rowAt T.upceParity (full[0] - 48) = T.upceParity[full[0] - 48] := by simp [rowAt, hr]
      rw [this, hP' _ (List.getElem_mem hr)]; omega
    simp [this]
  unfold upceModules
  rw [hc]
  simp only [bind, Except.bind, pure, Except.pure]
  simp only [nth_digitVals full 0 h0, nth_digitVals full 7 h7, e1, e2, leftHalf_eq T hL full _ (by omega) hd, drawE]

end Gzx.OneD
