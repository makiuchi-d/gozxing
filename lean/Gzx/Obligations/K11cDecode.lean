/-
  K11c — `getEncodedData` (= `HighLevelDecode`) of aztec/decoder/decoder.go, regenerated from /repo on every run
  (`Gzx.Gen.K11c.getEncodedData`: the `for index < endIndex` loop, the binary shift with its two length forms and its byte
  loop, the code read by table, `getCharacter`, FLG(n) with its `switch` — FNC1, the reserved FLG(7), the ECI digits loop,
  the unregistered-ECI repair —, the latch / shift bookkeeping, the text appended to the byte buffer, the final flush),
  proved equal to the model `AztecDecoder.getEncodedData` (`k_getEncodedData_eq`): one iteration of the Go loop against one
  `step` of the model (`body1_step`, relation `StepAgrees`), then the induction (`ged_loop`).  The character-set machinery is
  UNINTERPRETED on both sides: `transform.Append(enc.NewDecoder(), result, bytes)` is an abstract parameter that appends
  `render enc bytes`, `common.GetCharacterSetECIByValue` / `GetCharset` are abstract parameters that agree with the
  model's `registered` predicate (`AbsOK`).
-/
import Gzx.Obligations.K11cData
import Gzx.Proofs.AztecHL
namespace Gzx.Obligations.K11c
open Gzx Gzx.GoM Gzx.GoVal Gzx.AztecDecoder Gzx.Obligations.K11b

/-- bytes of the model as kernel values -/
abbrev nb (bs : List Nat) : List Int := bs.map Int.ofNat

/-! ## the uninterpreted character-set machinery -/

/-- what is assumed of the uninterpreted parameters: `app` (= `transform.Append` of the decoder of an encoding) appends the
    rendering of the bytes and never fails; `byValue` (= `common.GetCharacterSetECIByValue`) answers every value, and on the Go
    side "error returned or nil charset" (`e = true ∨ t = -1`) is the model's "value ≥ 900 or not registered" -/
structure AbsOK (reg : Nat → Bool) (byValue : Int → Res (Int × Bool))
    (app : Int → List Int → List Int → Res (List Int × Bool)) (render : Int → List Int → List Int) : Prop where
  app_ok : ∀ enc r d, app enc r d = .ok (r ++ render enc d, false)
  render_nil : ∀ enc, render enc [] = []
  eci : ∀ n : Nat, ∃ t e, byValue (n : Int) = .ok (t, e) ∧ ((e = true ∨ t = -1) ↔ (n ≥ 900 ∨ reg n = false))

/-- the `*CharacterSetECI` token of an ECI value -/
def tokOf (byValue : Int → Res (Int × Bool)) (n : Nat) : Int :=
  match byValue (n : Int) with
  | .ok (t, _) => t
  | .error _ => -1

/-- the `encoding.Encoding` token of the model's character set -/
def encTok (d0 : Int) (byValue : Int → Res (Int × Bool)) (getCharset : Int → Int) : Option Nat → Int
  | none => d0
  | some n => getCharset (tokOf byValue n)

/-- the bytes `result` holds for the model's segments -/
def renderSegs (tk : Option Nat → Int) (render : Int → List Int → List Int) (segs : List Seg) : List Int :=
  segs.flatMap (fun s => match s with
    | .enc e bs => render (tk e) (nb bs)
    | .raw bs => nb bs)

/-- the Go data state `(result, decodedBytes, encoding)` against the model's -/
structure DRel (tk : Option Nat → Int) (render : Int → List Int → List Int) (res dec : List Int) (enc : Int) (d : Data) : Prop where
  hres : res = renderSegs tk render d.result
  hdec : dec = nb d.decoded
  henc : enc = tk d.enc

theorem DRel.flush {tk : Option Nat → Int} {render : Int → List Int → List Int} (hn : ∀ enc, render enc [] = [])
    {res dec : List Int} {enc : Int} {d : Data} (h : DRel tk render res dec enc d) :
    DRel tk render (res ++ render enc dec) [] enc d.flush := by
  unfold Data.flush
  by_cases he : d.decoded.isEmpty
  · have : d.decoded = [] := List.isEmpty_iff.mp he
    simp only [he, if_true]
    refine ⟨?_, by simp [this], h.henc⟩
    rw [h.hdec, this]; simp [hn, h.hres]
  · simp only [he, Bool.false_eq_true, if_false]
    refine ⟨?_, rfl, h.henc⟩
    simp [renderSegs, h.hres, h.hdec, h.henc]

theorem DRel.bytes {tk : Option Nat → Int} {render : Int → List Int → List Int}
    {res dec : List Int} {enc : Int} {d : Data} (h : DRel tk render res dec enc d) (bs : List Nat) :
    DRel tk render res (dec ++ nb bs) enc (d.apply (.bytes bs)) :=
  ⟨h.hres, by simp [Data.apply, h.hdec], h.henc⟩

/-! ## reads and the two inner loops -/

when_kernel Gzx.Gen.K11b.readCode in
when_kernel Gzx.Gen.K11c.readCode in
theorem readK (xs : List Int) (idx k : Nat) (ii ki : Int) (hi : ii = (idx : Int)) (hki : ki = (k : Int)) (hk : 0 < k)
    (h : idx + k ≤ xs.length) :
    Gen.K11c.readCode xs ii ki = .ok ((AztecDecoder.readCode (((boolsOf xs).drop idx).take k) : Nat) : Int) := by
  subst hi hki
  rw [k_readCode_eq']
  have c1 : ¬ ((k : Int) ≤ 0) := by omega
  have c2 : (0 : Int) ≤ (idx : Int) ∧ (idx : Int) + (k : Int) ≤ (xs.length : Int) := by omega
  rw [if_neg c1, if_pos c2]
  simp

theorem readCode_take_lt (bs : List Bool) (k : Nat) : AztecDecoder.readCode (bs.take k) < 2 ^ k := by
  have := model_readCode_lt (bs.take k)
  have hl : (bs.take k).length ≤ k := by simp; omega
  exact Nat.lt_of_lt_of_le this (Nat.pow_le_pow_right (by decide) hl)

abbrev RG := List Int × Bool

when_kernel Gzx.Gen.K11c.getEncodedData in
theorem body3_same : Gen.K11c.getEncodedData_body3 = Gen.K11c.getEncodedData_body2 := rfl

when_kernel Gzx.Gen.K11c.getEncodedData in
/-- the byte loop of a binary shift = the model's `takeBytes` -/
theorem bytes_loop (xs : List Int) : ∀ (n : Nat) (i0 : Int) (idx : Nat) (acc : List Nat) (dec : List Int), idx ≤ xs.length →
    ∃ idx', idx ≤ idx' ∧ idx' ≤ xs.length ∧ (takeBytes n ((boolsOf xs).drop idx) acc).2 = (boolsOf xs).drop idx' ∧
      ∀ {σ : Type} (k' : List Int × Int → Ctl σ RG),
        (GoM.loop (Gen.K11c.getEncodedData_body2 xs (xs.length : Int)) 1 n i0 (dec ++ nb acc, (idx : Int))).thenC k'
          = k' (dec ++ nb (takeBytes n ((boolsOf xs).drop idx) acc).1, (idx' : Int)) := by
  intro n
  induction n with
  | zero =>
    intro i0 idx acc dec h
    exact ⟨idx, Nat.le_refl _, h, rfl, fun k' => rfl⟩
  | succ n ih =>
    intro i0 idx acc dec h
    by_cases hs : xs.length - idx < 8
    · have hsp0 : splitN? 8 ((boolsOf xs).drop idx) = none := by
        rw [AztecHL.splitN?_eq, if_neg (by simp; omega)]
      refine ⟨xs.length, h, Nat.le_refl _, ?_, ?_⟩
      · simp only [takeBytes, hsp0]
        rw [List.drop_eq_nil_of_le (by simp)]
      · intro σ k'
        rw [loop_succ]
        unfold Gen.K11c.getEncodedData_body2
        have c : decide ((xs.length : Int) - (idx : Int) < 8) = true := by simp; omega
        simp only [c, if_true]
        simp only [takeBytes, hsp0]
        rfl
    · have hsp : splitN? 8 ((boolsOf xs).drop idx) = some (((boolsOf xs).drop idx).take 8, (boolsOf xs).drop (idx + 8)) := by
        rw [AztecHL.splitN?_eq, if_pos (by simp; omega)]; simp [List.drop_drop]
      obtain ⟨idx', h1, h2, h3, h4⟩ := ih (i0 + 1) (idx + 8) (acc ++ [AztecDecoder.readCode (((boolsOf xs).drop idx).take 8)]) dec (by omega)
      refine ⟨idx', by omega, h2, ?_, ?_⟩
      · simp only [takeBytes, hsp]; exact h3
      · intro σ k'
        rw [loop_succ]
        have hstep : Gen.K11c.getEncodedData_body2 xs (xs.length : Int) i0 (dec ++ nb acc, (idx : Int))
            = .next (dec ++ nb (acc ++ [AztecDecoder.readCode (((boolsOf xs).drop idx).take 8)]), ((idx + 8 : Nat) : Int)) := by
          unfold Gen.K11c.getEncodedData_body2
          have c : decide ((xs.length : Int) - (idx : Int) < 8) = false := by simp; omega
          simp only [c, Bool.false_eq_true, if_false]
          rw [readK xs idx 8 (idx : Int) 8 rfl rfl (by decide) (by omega)]
          simp only [tryC_ok]
          have hlt := readCode_take_lt ((boolsOf xs).drop idx) 8
          have hw : wrap 8 ((AztecDecoder.readCode (((boolsOf xs).drop idx).take 8) : Nat) : Int)
              = ((AztecDecoder.readCode (((boolsOf xs).drop idx).take 8) : Nat) : Int) := by
            unfold wrap; omega
          rw [hw]
          simp [nb]
        rw [hstep]
        simp only []
        rw [h4 k']
        simp only [takeBytes, hsp]

when_kernel Gzx.Gen.K11c.getEncodedData in
/-- the ECI digits loop = the model's `readDigits` (the bits are there: the length test precedes the loop) -/
theorem digits_loop (xs : List Int) (res2 : List Int) : ∀ (n idx eci f : Nat), idx + 4 * n ≤ xs.length → n < f →
    (readDigits n ((boolsOf xs).drop idx) eci = .error .format ∧
      whileLoop (Gen.K11c.getEncodedData_body4 xs res2) f ((idx : Int), (n : Int), (eci : Int)) = .ret (res2, true))
    ∨ (∃ e' : Nat, readDigits n ((boolsOf xs).drop idx) eci = .ok (e', (boolsOf xs).drop (idx + 4 * n)) ∧
      whileLoop (Gen.K11c.getEncodedData_body4 xs res2) f ((idx : Int), (n : Int), (eci : Int))
        = .brk (((idx + 4 * n : Nat) : Int), 0, (e' : Int))) := by
  intro n
  induction n with
  | zero =>
    intro idx eci f _ hf
    obtain ⟨f, rfl⟩ : ∃ k, f = k + 1 := ⟨f - 1, by omega⟩
    right
    refine ⟨eci, by simp [readDigits], ?_⟩
    rw [whileLoop_succ]
    unfold Gen.K11c.getEncodedData_body4
    simp
  | succ n ih =>
    intro idx eci f h hf
    obtain ⟨f, rfl⟩ : ∃ k, f = k + 1 := ⟨f - 1, by omega⟩
    have hsp : splitN? 4 ((boolsOf xs).drop idx) = some (((boolsOf xs).drop idx).take 4, (boolsOf xs).drop (idx + 4)) := by
      rw [AztecHL.splitN?_eq, if_pos (by simp; omega)]; simp [List.drop_drop]
    generalize hd : AztecDecoder.readCode (((boolsOf xs).drop idx).take 4) = dg at *
    have hbody : Gen.K11c.getEncodedData_body4 xs res2 ((idx : Int), ((n + 1 : Nat) : Int), (eci : Int))
        = if dg < 2 ∨ dg > 11 then .ret (res2, true)
          else .next (((idx + 4 : Nat) : Int), (n : Int), ((eci * 10 + (dg - 2) : Nat) : Int)) := by
      unfold Gen.K11c.getEncodedData_body4
      have c : decide ((((n + 1 : Nat) : Int)) > 0) = true := by simp
      simp only [c, if_true]
      rw [readK xs idx 4 (idx : Int) 4 rfl rfl (by decide) (by omega), hd]
      simp only [tryC_ok]
      by_cases hb : dg < 2 ∨ dg > 11
      · have cb : (decide (((dg : Nat) : Int) < 2) || decide (((dg : Nat) : Int) > 11)) = true := by
          simp only [Bool.or_eq_true, decide_eq_true_eq]; omega
        simp only [cb, if_true, hb]
      · have cb : (decide (((dg : Nat) : Int) < 2) || decide (((dg : Nat) : Int) > 11)) = false := by
          simp only [Bool.or_eq_false_iff, decide_eq_false_iff_not]; omega
        simp only [cb, Bool.false_eq_true, if_false, hb]
        have e1 : (idx : Int) + 4 = ((idx + 4 : Nat) : Int) := by omega
        have e2 : ((n + 1 : Nat) : Int) - 1 = (n : Int) := by omega
        have e3 : (eci : Int) * 10 + ((dg : Int) - 2) = ((eci * 10 + (dg - 2) : Nat) : Int) := by omega
        rw [e1, e2, e3]
    rw [whileLoop_succ, hbody]
    simp only [readDigits, hsp, hd]
    by_cases hb : dg < 2 ∨ dg > 11
    · left; simp [hb]
    · simp only [hb, if_false]
      rcases ih (idx + 4) (eci * 10 + (dg - 2)) f (by omega) (by omega) with ⟨h1, h2⟩ | ⟨e', h1, h2⟩
      · left; exact ⟨h1, h2⟩
      · right
        refine ⟨e', ?_, ?_⟩
        · rw [h1]; congr 3; omega
        · rw [h2]; congr 3; omega

/-! ## the main loop -/

abbrev SG := Int × Int × List Int × List Int × Int × Int

/-- what the kernel must answer for the model's events from the data state `d` on -/
def GAgrees (tk : Option Nat → Int) (render : Int → List Int → List Int) (k : Res RG) (d : Data) : Res (List Event) → Prop
  | .ok evs => k = .ok (renderSegs tk render ((evs.foldl Data.apply d).flush.result), false)
  | .error .format => ∃ r, k = .ok (r, true)
  | .error _ => False

theorem GAgrees_map {tk : Option Nat → Int} {render : Int → List Int → List Int} {k : Res RG} {d : Data} (ev : List Event)
    {r : Res (List Event)} (h : GAgrees tk render k (ev.foldl Data.apply d) r) :
    GAgrees tk render k d (r.map (ev ++ ·)) := by
  cases r with
  | error e => cases e <;> simpa [GAgrees, Except.map] using h
  | ok evs => simpa [GAgrees, Except.map, List.foldl_append] using h

/-- one unrolling of a `for cond` loop, with the continuation named -/
def contW {σ ρ : Type} (W : σ → Ctl σ ρ) (c : Ctl σ ρ) : Ctl σ ρ :=
  match c with
  | .next st' => W st'
  | .brk st' => .brk st'
  | .ret r => .ret r
  | .panic f => .panic f

theorem whileLoop_succ' {σ ρ : Type} (body : σ → Ctl σ ρ) (n : Nat) (st : σ) :
    whileLoop body (n + 1) st = contW (whileLoop body n) (body st) := rfl

@[simp] theorem contW_next {σ ρ : Type} (W : σ → Ctl σ ρ) (s : σ) : contW W (.next s) = W s := rfl
@[simp] theorem contW_brk {σ ρ : Type} (W : σ → Ctl σ ρ) (s : σ) : contW W (.brk s : Ctl σ ρ) = .brk s := rfl
@[simp] theorem contW_ret {σ ρ : Type} (W : σ → Ctl σ ρ) (r : ρ) : contW W (.ret r : Ctl σ ρ) = .ret r := rfl
@[simp] theorem contW_panic {σ ρ : Type} (W : σ → Ctl σ ρ) (f : Fault) : contW W (.panic f : Ctl σ ρ) = .panic f := rfl

theorem tableCode_inj (a b : Table) : (tableCode a == tableCode b) = decide (a = b) := by
  cases a <;> cases b <;> rfl

theorem slice00 (xs : List Int) : GoM.slice xs 0 0 = .ok [] := by
  unfold GoM.slice; simp

section
variable (T : Tables) (reg : Nat → Bool) (d0 : Int) (byValue : Int → Res (Int × Bool)) (getCharset : Int → Int)
  (app : Int → List Int → List Int → Res (List Int × Bool)) (render : Int → List Int → List Int)

/-- the continuation after the loop: the final flush -/
def finK : SG → Res RG := fun st =>
  tryR (app st.2.2.2.2.1 st.2.2.1 st.2.2.2.1) fun t => if (t.2 != false) = true then .ok (t.1, true) else .ok (t.1, false)

theorem finK_ok (hA : AbsOK reg byValue app render) {res dec : List Int} {enc : Int} {d : Data}
    (hR : DRel (encTok d0 byValue getCharset) render res dec enc d) (l s i : Int) :
    GAgrees (encTok d0 byValue getCharset) render (finK app (l, s, res, dec, enc, i)) d (.ok []) := by
  have := (hR.flush hA.render_nil).hres
  simp [GAgrees, finK, hA.app_ok, this]

when_kernel Gzx.Gen.K11c.getEncodedData in
theorem ged_exit (hA : AbsOK reg byValue app render) (F : Nat) (xs : List Int) (idx : Nat) (hidx : xs.length ≤ idx)
    (c : AztecDecoder.Ctl) {res dec : List Int} {enc : Int} {d : Data}
    (hR : DRel (encTok d0 byValue getCharset) render res dec enc d) (fm f : Nat) :
    GAgrees (encTok d0 byValue getCharset) render
      ((whileLoop (Gen.K11c.getEncodedData_body1 F app byValue getCharset xs (xs.length : Int)) (f + 1)
          (tableCode c.latch, tableCode c.shift, res, dec, enc, (idx : Int))).thenR (finK app)) d
      (AztecDecoder.loop T reg (fm + 1) c ((boolsOf xs).drop idx)) := by
  rw [List.drop_eq_nil_of_le (by simpa using hidx), whileLoop_succ]
  unfold Gen.K11c.getEncodedData_body1
  have c1 : decide ((idx : Int) < (xs.length : Int)) = false := by simp; omega
  simp only [c1, Bool.false_eq_true, if_false, brk_thenR, AztecDecoder.loop, List.isEmpty_nil, if_true]
  exact finK_ok reg d0 byValue getCharset app render hA hR _ _ _

/-- what one iteration of the Go loop does, for each thing a model `step` can do: go on at a later index with the data state
    advanced by the step's events, `break` with the data untouched, or the FormatException exit -/
def StepAgrees (xs : List Int) (idx : Nat) (res dec : List Int) (enc : Int) (d : Data) (b : GoM.Ctl SG RG) : Step → Prop
  | .next c' rest ev => ∃ (idx' : Nat) (res' dec' : List Int) (enc' : Int), idx < idx' ∧ rest = (boolsOf xs).drop idx' ∧
      b = .next (tableCode c'.latch, tableCode c'.shift, res', dec', enc', (idx' : Int)) ∧
      DRel (encTok d0 byValue getCharset) render res' dec' enc' (ev.foldl Data.apply d)
  | .stop => ∃ l s i, b = .brk (l, s, res, dec, enc, i)
  | .fail .format => ∃ r, b = .ret (r, true)
  | .fail _ => False

variable {d0 byValue getCharset render} in
theorem StepAgrees.next {xs : List Int} {idx : Nat} {res dec : List Int} {enc : Int} {d : Data} {c' : AztecDecoder.Ctl}
    {idx' : Nat} {res' dec' : List Int} {enc' : Int} {ev : List Event} (hlt : idx < idx')
    (hR : DRel (encTok d0 byValue getCharset) render res' dec' enc' (ev.foldl Data.apply d)) :
    StepAgrees d0 byValue getCharset render xs idx res dec enc d
      (.next (tableCode c'.latch, tableCode c'.shift, res', dec', enc', (idx' : Int))) (.next c' ((boolsOf xs).drop idx') ev) :=
  ⟨idx', res', dec', enc', hlt, rfl, rfl, hR⟩

variable {d0 byValue getCharset render} in
theorem StepAgrees.stop {xs : List Int} {idx : Nat} {res dec : List Int} {enc : Int} {d : Data} (l s i : Int) :
    StepAgrees d0 byValue getCharset render xs idx res dec enc d (.brk (l, s, res, dec, enc, i)) .stop :=
  ⟨l, s, i, rfl⟩

variable {d0 byValue getCharset render} in
theorem StepAgrees.fail {xs : List Int} {idx : Nat} {res dec : List Int} {enc : Int} {d : Data} (r : List Int) :
    StepAgrees d0 byValue getCharset render xs idx res dec enc d (.ret (r, true)) (.fail .format) :=
  ⟨r, rfl⟩

when_kernel Gzx.Gen.K11c.getEncodedData in
/-- one iteration of the Go loop against one `step` of the model: the binary shift with its two length forms, the code read
    by table, FLG(n) with FNC1 / the reserved 7 / the ECI digits, latch and shift, a text entry.  `8 ≤ F`: the ECI digits loop
    is a `for cond` loop on the function's fuel `F`; it reads n digits, n < 8 being the 3-bit FLG argument: n rounds and the
    test that ends it -/
theorem body1_step (hT : TablesAgreeA T) (hA : AbsOK reg byValue app render) (F : Nat) (hF : 8 ≤ F) (xs : List Int)
    (idx : Nat) (c : AztecDecoder.Ctl) (res dec : List Int) (enc : Int) (d : Data) (hlt : idx < xs.length)
    (hR : DRel (encTok d0 byValue getCharset) render res dec enc d) :
    StepAgrees d0 byValue getCharset render xs idx res dec enc d
      (Gen.K11c.getEncodedData_body1 F app byValue getCharset xs (xs.length : Int)
        (tableCode c.latch, tableCode c.shift, res, dec, enc, (idx : Int)))
      (step T reg c ((boolsOf xs).drop idx)) := by
  unfold Gen.K11c.getEncodedData_body1
  have c1 : decide ((idx : Int) < (xs.length : Int)) = true := by simp; omega
  simp only [c1, if_true]
  unfold step
  by_cases hbin : c.shift = .binary
  · have cb : (tableCode Table.binary == 5) = true := rfl
    -- the byte loop from `idx2`, for either length form
    have after : ∀ (n idx2 : Nat), idx < idx2 → idx2 ≤ xs.length →
        StepAgrees d0 byValue getCharset render xs idx res dec enc d
          ((GoM.loop (Gen.K11c.getEncodedData_body2 xs (xs.length : Int)) 1 n 0 (dec, (idx2 : Int))).thenC
              fun st => (Ctl.next (tableCode c.latch, tableCode c.latch, res, st.1, enc, st.2) : Ctl SG RG))
          (.next ⟨c.latch, c.latch⟩ (takeBytes n ((boolsOf xs).drop idx2) []).2
            (if (takeBytes n ((boolsOf xs).drop idx2) []).1.isEmpty then []
              else [Event.bytes (takeBytes n ((boolsOf xs).drop idx2) []).1])) := by
      intro n idx2 hi2 hle
      obtain ⟨idx', h1, h2, h3, h4⟩ := bytes_loop xs n 0 idx2 [] dec hle
      have h4' := h4 (fun st => (Ctl.next (tableCode c.latch, tableCode c.latch, res, st.1, enc, st.2) : Ctl SG RG))
      simp only [nb, List.map_nil, List.append_nil] at h4'
      rw [h4', h3]
      refine StepAgrees.next (c' := ⟨c.latch, c.latch⟩) (by omega) ?_
      by_cases he : (takeBytes n ((boolsOf xs).drop idx2) []).1.isEmpty
      · have : (takeBytes n ((boolsOf xs).drop idx2) []).1 = [] := List.isEmpty_iff.mp he
        simp only [this, List.map_nil, List.append_nil]
        exact hR
      · simp only [he, Bool.false_eq_true, if_false, List.foldl_cons, List.foldl_nil]
        exact hR.bytes _
    simp only [hbin, cb, if_true, AztecHL.splitN?_eq, List.length_drop, boolsOf_length]
    by_cases h5 : xs.length - idx < 5
    · have c5 : decide ((xs.length : Int) - (idx : Int) < 5) = true := by simp; omega
      have n5 : ¬ 5 ≤ xs.length - idx := by omega
      simp only [c5, n5, if_true, if_false]
      exact StepAgrees.stop _ _ _
    · have c5 : decide ((xs.length : Int) - (idx : Int) < 5) = false := by simp; omega
      have n5 : 5 ≤ xs.length - idx := by omega
      simp only [c5, n5, if_true, Bool.false_eq_true, if_false]
      rw [readK xs idx 5 (idx : Int) 5 rfl rfl (by decide) (by omega)]
      simp only [tryC_ok, List.drop_drop]
      generalize hl : AztecDecoder.readCode (((boolsOf xs).drop idx).take 5) = len5
      have e5 : (idx : Int) + 5 = ((idx + 5 : Nat) : Int) := by omega
      by_cases hl0 : len5 = 0
      · have c0 : (((len5 : Nat) : Int) == 0) = true := by simp [hl0]
        simp only [c0, if_true]
        rw [if_pos hl0]
        by_cases h11 : xs.length - (idx + 5) < 11
        · have c11 : decide ((xs.length : Int) - ((idx : Int) + 5) < 11) = true := by simp; omega
          have n11 : ¬ 11 ≤ xs.length - (idx + 5) := by omega
          simp only [List.length_drop, boolsOf_length, c11, n11, if_true, if_false]
          exact StepAgrees.stop _ _ _
        · have c11 : decide ((xs.length : Int) - ((idx : Int) + 5) < 11) = false := by simp; omega
          have n11 : 11 ≤ xs.length - (idx + 5) := by omega
          simp only [List.length_drop, boolsOf_length, c11, n11, if_true, Bool.false_eq_true, if_false]
          rw [readK xs (idx + 5) 11 ((idx : Int) + 5) 11 e5 rfl (by decide) (by omega)]
          simp only [tryC_ok, tripUp_one]
          have et : ((((AztecDecoder.readCode (((boolsOf xs).drop (idx + 5)).take 11) : Nat) : Int) + 31) - 0).toNat
              = AztecDecoder.readCode (((boolsOf xs).drop (idx + 5)).take 11) + 31 := by omega
          have e16 : (idx : Int) + 5 + 11 = ((idx + 5 + 11 : Nat) : Int) := by omega
          rw [et, e16]
          exact after (AztecDecoder.readCode (((boolsOf xs).drop (idx + 5)).take 11) + 31) (idx + 5 + 11) (by omega) (by omega)
      · have c0 : (((len5 : Nat) : Int) == 0) = false := by simp; omega
        simp only [c0, Bool.false_eq_true, if_false, body3_same, tripUp_one]
        rw [if_neg hl0]
        have et : (((len5 : Nat) : Int) - 0).toNat = len5 := by omega
        rw [et, e5]
        simp only []
        exact after len5 (idx + 5) (by omega) (by omega)
  · have cb : (tableCode c.shift == 5) = false :=
      (tableCode_inj c.shift .binary).trans (decide_eq_false hbin)
    simp only [cb, hbin, Bool.false_eq_true, if_false]
    obtain ⟨sz, hsz, hszK, hszM⟩ : ∃ sz : Nat, (sz = 4 ∨ sz = 5)
        ∧ (if (tableCode c.shift == 3) = true then (4 : Int) else 5) = (sz : Int)
        ∧ (if c.shift = Table.digit then 4 else 5) = sz := by
      cases hs : c.shift <;> simp [tableCode]
    rw [hszK, hszM]
    simp only [AztecHL.splitN?_eq, List.length_drop, boolsOf_length]
    by_cases hsz5 : xs.length - idx < sz
    · have c5 : decide ((xs.length : Int) - (idx : Int) < (sz : Int)) = true := by simp; omega
      have n5 : ¬ sz ≤ xs.length - idx := by omega
      simp only [c5, n5, if_true, if_false]
      exact StepAgrees.stop _ _ _
    · have c5 : decide ((xs.length : Int) - (idx : Int) < (sz : Int)) = false := by simp; omega
      have n5 : sz ≤ xs.length - idx := by omega
      simp only [c5, n5, if_true, Bool.false_eq_true, if_false]
      rw [readK xs idx sz (idx : Int) (sz : Int) rfl rfl (by omega) (by omega)]
      simp only [tryC_ok, List.drop_drop]
      generalize AztecDecoder.readCode (((boolsOf xs).drop idx).take sz) = code
      have esz : (idx : Int) + (sz : Int) = ((idx + sz : Nat) : Int) := by omega
      rw [esz]
      rcases k_getCharacter_eq T hT c.shift code with ⟨s, e, hm, hcl, hby, hk⟩ | ⟨hm, hk⟩
      · rw [hm, hk]
        simp only [tryC_ok, bne_self_eq_false, Bool.false_eq_true, if_false]
        unfold classifyB at hcl
        by_cases hflg : s = [70, 76, 71, 40, 110, 41]
        · -- FLG(n)
          have he : e = DEntry.flg := by
            simp only [hflg, if_true, Option.some.injEq] at hcl; exact hcl.symm
          subst he
          have cf : (s == [70, 76, 71, 40, 110, 41]) = true := by simp [hflg]
          simp only [cf, if_true, List.length_drop, boolsOf_length]
          by_cases h3 : xs.length - (idx + sz) < 3
          · have c3 : decide ((xs.length : Int) - ((idx + sz : Nat) : Int) < 3) = true := by simp; omega
            have n3 : ¬ 3 ≤ xs.length - (idx + sz) := by omega
            simp only [c3, n3, if_true, if_false]
            exact StepAgrees.stop _ _ _
          · have c3 : decide ((xs.length : Int) - ((idx + sz : Nat) : Int) < 3) = false := by simp; omega
            have n3 : 3 ≤ xs.length - (idx + sz) := by omega
            simp only [c3, n3, if_true, Bool.false_eq_true, if_false]
            rw [readK xs (idx + sz) 3 _ 3 rfl rfl (by decide) (by omega)]
            have hn8 := readCode_take_lt ((boolsOf xs).drop (idx + sz)) 3
            generalize AztecDecoder.readCode (((boolsOf xs).drop (idx + sz)).take 3) = n at hn8
            simp only [tryC_ok, hA.app_ok, bne_self_eq_false, Bool.false_eq_true, if_false, slice00]
            have e3 : ((idx + sz : Nat) : Int) + 3 = ((idx + sz + 3 : Nat) : Int) := by omega
            rw [e3]
            have hRf := hR.flush hA.render_nil
            by_cases hn0 : n = 0
            · have c0 : (((n : Nat) : Int) == 0) = true := by simp [hn0]
              simp only [c0, if_true]
              rw [if_pos hn0]
              refine StepAgrees.next (c' := ⟨c.latch, c.latch⟩) (idx' := (idx + sz + 3)) (by omega) ?_
              refine ⟨?_, hRf.hdec, hRf.henc⟩
              simp [Data.apply, renderSegs, hRf.hres]
            · have c0 : (((n : Nat) : Int) == 0) = false := by simp; omega
              simp only [c0, Bool.false_eq_true, if_false]
              rw [if_neg hn0]
              by_cases hn7 : n = 7
              · have c7 : (((n : Nat) : Int) == 7) = true := by simp [hn7]
                simp only [c7, if_true]
                rw [if_pos hn7]
                exact StepAgrees.fail _
              · have c7 : (((n : Nat) : Int) == 7) = false := by simp; omega
                simp only [c7, Bool.false_eq_true, if_false]
                rw [if_neg hn7]
                simp only [List.length_drop, boolsOf_length]
                by_cases hshort : xs.length - (idx + sz + 3) < 4 * n
                · have cs : (!decide ((xs.length : Int) - ((idx + sz + 3 : Nat) : Int) < 4 * ((n : Nat) : Int))) = false := by
                    simp; omega
                  simp only [cs, Bool.false_eq_true, if_false]
                  rw [if_pos hshort]
                  refine StepAgrees.next (c' := ⟨c.latch, c.latch⟩) (idx' := (idx + sz + 3)) (by omega) ?_
                  exact hRf
                · have cs : (!decide ((xs.length : Int) - ((idx + sz + 3 : Nat) : Int) < 4 * ((n : Nat) : Int))) = true := by
                    simp; omega
                  simp only [cs, if_true]
                  rw [if_neg hshort]
                  have hdg := digits_loop xs (res ++ render enc dec) n (idx + sz + 3) 0 F (by omega) (by omega)
                  rw [show ((0 : Nat) : Int) = 0 from rfl] at hdg
                  rcases hdg with ⟨hd1, hd2⟩ | ⟨e', hd1, hd2⟩
                  · rw [hd1, hd2]
                    simp only [ret_thenC]
                    exact StepAgrees.fail _
                  · rw [hd1, hd2]
                    simp only [brk_thenC]
                    obtain ⟨t, er, hbv, hiff⟩ := hA.eci e'
                    rw [hbv]
                    simp only [tryC_ok]
                    by_cases hbad : e' ≥ 900 ∨ reg e' = false
                    · have hk' := hiff.mpr hbad
                      have hmod : (if e' ≥ 900 then Step.fail Fault.format
                          else if (!reg e') = true then Step.fail Fault.format
                          else Step.next { latch := c.latch, shift := c.latch } ((boolsOf xs).drop (idx + sz + 3 + 4 * n)) [Event.eci e'])
                          = Step.fail Fault.format := by
                        rcases hbad with h | h
                        · simp [h]
                        · simp [h]
                      rw [hmod]
                      rcases hk' with h | h
                      · subst h; simp only [bne_iff_ne, ne_eq, Bool.true_eq_false, not_false_eq_true, if_true]
                        exact StepAgrees.fail _
                      · subst h
                        cases er <;> simp only [bne_self_eq_false, Bool.false_eq_true, if_false, beq_self_eq_true, if_true,
                          bne_iff_ne, ne_eq, Bool.true_eq_false, not_false_eq_true] <;> exact StepAgrees.fail _
                    · have hgood : ¬ (er = true ∨ t = -1) := fun h => hbad (hiff.mp h)
                      have her : er = false := by
                        cases er with
                        | false => rfl
                        | true => exact absurd (Or.inl rfl) hgood
                      have ht : (t == -1) = false := by
                        have : t ≠ -1 := fun h => hgood (Or.inr h)
                        simpa using this
                      have h900 : ¬ e' ≥ 900 := fun h => hbad (Or.inl h)
                      have hreg : reg e' = true := by
                        cases hr : reg e' with
                        | true => rfl
                        | false => exact absurd (Or.inr hr) hbad
                      subst her
                      simp only [bne_self_eq_false, Bool.false_eq_true, if_false, ht]
                      rw [if_neg h900]
                      simp only [hreg, Bool.not_true, Bool.false_eq_true, if_false]
                      refine StepAgrees.next (c' := ⟨c.latch, c.latch⟩) (idx' := (idx + sz + 3 + 4 * n)) (by omega) ?_
                      refine ⟨?_, ?_, ?_⟩
                      · simpa [Data.apply] using hRf.hres
                      · simpa [Data.apply] using hRf.hdec
                      · simp [Data.apply, encTok, tokOf, hbv]
        · have cf : (s == [70, 76, 71, 40, 110, 41]) = false := by simpa using hflg
          simp only [hflg, if_false] at hcl
          simp only [cf, Bool.false_eq_true, if_false]
          by_cases hpre : hasPrefix s [67, 84, 82, 76, 95] = true
          · -- CTRL_xy: latch / shift
            simp only [hpre, if_true] at hcl ⊢
            cases hdr : s.drop 5 with
            | nil => simp [hdr] at hcl
            | cons tb r1 =>
              cases r1 with
              | nil => simp [hdr] at hcl
              | cons l r2 =>
                simp only [hdr, Option.some.injEq] at hcl
                subst hcl
                have g5 : s[5]? = some tb := by
                  have := congrArg (fun l => l[0]?) hdr
                  simpa using this
                have g6 : s[6]? = some l := by
                  have := congrArg (fun l => l[1]?) hdr
                  simpa using this
                have h5 : GoM.idx s 5 = .ok tb := by
                  unfold GoM.idx; simp [g5]
                have h6 : GoM.idx s 6 = .ok l := by
                  unfold GoM.idx; simp [g6]
                have htb := hby tb (List.mem_of_getElem? g5)
                have hgt : Gen.K11c.getTable tb = .ok (tableCode (AztecDecoder.getTable (Char.ofNat tb.toNat))) := by
                  have := k_getTable_eq tb.toNat (by omega)
                  rwa [Int.toNat_of_nonneg htb.1] at this
                rw [h5]
                simp only [tryC_ok]
                rw [hgt]
                simp only [tryC_ok]
                rw [h6]
                simp only [tryC_ok]
                have et : tableCode (if (l == 76) = true then AztecDecoder.getTable (Char.ofNat tb.toNat) else c.shift)
                    = if (l == 76) = true then tableCode (AztecDecoder.getTable (Char.ofNat tb.toNat)) else tableCode c.shift := by
                  split <;> rfl
                rw [← et]
                exact StepAgrees.next (c' := ⟨if (l == 76) = true then AztecDecoder.getTable (Char.ofNat tb.toNat) else c.shift,
                  AztecDecoder.getTable (Char.ofNat tb.toNat)⟩) (idx' := idx + sz) (by omega) hR
          · -- a text entry: its bytes
            have hpre' : hasPrefix s [67, 84, 82, 76, 95] = false := by simpa using hpre
            simp only [hpre', Bool.false_eq_true, if_false, Option.some.injEq] at hcl ⊢
            subst hcl
            refine StepAgrees.next (c' := ⟨c.latch, c.latch⟩) (idx' := (idx + sz)) (by omega) ?_
            have hs : nb (s.map Int.toNat) = s := by
              simp only [nb, List.map_map]
              conv => rhs; rw [← List.map_id s]
              apply List.map_congr_left
              intro x hx
              have := (hby x hx).1
              simp only [Function.comp, id]
              exact Int.toNat_of_nonneg this
            have := hR.bytes (s.map Int.toNat)
            rw [hs] at this
            simpa using this
      · rw [hm, hk]
        simp only [tryC_ok]
        exact StepAgrees.fail _


when_kernel Gzx.Gen.K11c.getEncodedData in
theorem ged_loop (hT : TablesAgreeA T) (hA : AbsOK reg byValue app render) (F : Nat) (hF : 8 ≤ F) (xs : List Int) :
    ∀ (m idx : Nat) (c : AztecDecoder.Ctl) (res dec : List Int) (enc : Int) (d : Data) (fm f : Nat),
      xs.length - idx ≤ m → m < fm → m < f → DRel (encTok d0 byValue getCharset) render res dec enc d →
      GAgrees (encTok d0 byValue getCharset) render
        ((whileLoop (Gen.K11c.getEncodedData_body1 F app byValue getCharset xs (xs.length : Int)) f
            (tableCode c.latch, tableCode c.shift, res, dec, enc, (idx : Int))).thenR (finK app)) d
        (AztecDecoder.loop T reg fm c ((boolsOf xs).drop idx)) := by
  intro m
  induction m with
  | zero =>
    intro idx c res dec enc d fm f hm hfm hf hR
    obtain ⟨f, rfl⟩ : ∃ k, f = k + 1 := ⟨f - 1, by omega⟩
    obtain ⟨fm, rfl⟩ : ∃ k, fm = k + 1 := ⟨fm - 1, by omega⟩
    exact ged_exit T reg d0 byValue getCharset app render hA F xs idx (by omega) c hR fm f
  | succ m ih =>
    intro idx c res dec enc d fm f hm hfm hf hR
    obtain ⟨f, rfl⟩ : ∃ k, f = k + 1 := ⟨f - 1, by omega⟩
    obtain ⟨fm, rfl⟩ : ∃ k, fm = k + 1 := ⟨fm - 1, by omega⟩
    by_cases hend : xs.length ≤ idx
    · exact ged_exit T reg d0 byValue getCharset app render hA F xs idx hend c hR fm f
    have hne : ((boolsOf xs).drop idx).isEmpty = false := by
      cases hd : (boolsOf xs).drop idx with
      | nil => have := congrArg List.length hd; simp at this; omega
      | cons _ _ => rfl
    have hs := body1_step T reg d0 byValue getCharset app render hT hA F hF xs idx c res dec enc d (by omega) hR
    rw [whileLoop_succ']
    simp only [AztecDecoder.loop, hne, Bool.false_eq_true, if_false]
    cases hst : step T reg c ((boolsOf xs).drop idx) with
    | next c' rest ev =>
      rw [hst] at hs
      obtain ⟨idx', res', dec', enc', hlt, rfl, hb, hR'⟩ := hs
      rw [hb, contW_next]
      exact GAgrees_map ev (ih idx' c' res' dec' enc' _ fm f (by omega) (by omega) (by omega) hR')
    | stop =>
      rw [hst] at hs
      obtain ⟨l, s, i, hb⟩ := hs
      rw [hb, contW_brk, brk_thenR]
      exact finK_ok reg d0 byValue getCharset app render hA hR _ _ _
    | fail e =>
      rw [hst] at hs
      cases e <;> first | exact hs.elim | (obtain ⟨r, hb⟩ := hs; rw [hb, contW_ret, ret_thenR]; exact ⟨r, rfl⟩)

when_kernel Gzx.Gen.K11c.getEncodedData in
/-- `getEncodedData(correctedBits)` (= `HighLevelDecode`) = the model's `getEncodedData`, for EVERY bit slice: the bytes of
    `result` are the model's segments rendered by the (uninterpreted) character-set decoder — FNC1 as the raw byte 29 —,
    FormatException in exactly the model's cases (a code beyond its table, the reserved FLG(7), a non-digit in an ECI, an
    ECI value ≥ 900 or unregistered); the model never panics and neither does the kernel.  `xs.length + 8 ≤ fuel`: every
    iteration of the main loop advances the index, and the ECI digits loop inside runs on the same fuel (`body1_step`) -/
theorem k_getEncodedData_eq (hT : TablesAgreeA T) (hA : AbsOK reg byValue app render) (fuel : Nat) (xs : List Int)
    (hf : xs.length + 8 ≤ fuel) :
    match AztecDecoder.getEncodedData T reg (boolsOf xs) with
    | .ok segs => Gen.K11c.getEncodedData fuel d0 byValue getCharset app xs
        = .ok (renderSegs (encTok d0 byValue getCharset) render segs, false)
    | .error .format => ∃ r, Gen.K11c.getEncodedData fuel d0 byValue getCharset app xs = .ok (r, true)
    | .error _ => False := by
  have hR0 : DRel (encTok d0 byValue getCharset) render [] [] d0 ⟨[], [], none⟩ := ⟨rfl, rfl, rfl⟩
  have hloop := ged_loop T reg d0 byValue getCharset app render hT hA fuel (by omega) xs xs.length 0 Ctl.init [] [] d0
    ⟨[], [], none⟩ (xs.length + 1) fuel (by omega) (by omega) (by omega) hR0
  have hk : Gen.K11c.getEncodedData fuel d0 byValue getCharset app xs
      = (whileLoop (Gen.K11c.getEncodedData_body1 fuel app byValue getCharset xs (xs.length : Int)) fuel
          (tableCode Ctl.init.latch, tableCode Ctl.init.shift, [], [], d0, ((0 : Nat) : Int))).thenR (finK app) := by
    unfold Gen.K11c.getEncodedData
    have hcap : ∀ c : Int, 0 ≤ c → mk3n 0 c = .ok [] := by
      intro c hc; unfold mk3n; simp; omega
    have hmk2 : mk 0 = .ok [] := rfl
    simp only []
    have hnn : ∀ c : Int, 0 ≤ (if decide (c < 0) = true then 0 else c) := by
      intro c; by_cases h : c < 0 <;> simp [h]; omega
    rw [hcap _ (hnn _), hmk2]
    rfl
  rw [← hk] at hloop
  simp only [List.drop_zero] at hloop
  unfold AztecDecoder.getEncodedData
  simp only [boolsOf_length]
  cases hm : AztecDecoder.loop T reg (xs.length + 1) Ctl.init (boolsOf xs) with
  | error e =>
    rw [hm] at hloop
    cases e <;> simpa [GAgrees, Except.map] using hloop
  | ok evs =>
    rw [hm] at hloop
    simpa [GAgrees, Except.map, segments] using hloop

end

/-- non-vacuity: an environment that satisfies `AbsOK` (UTF-8 registered as ECI 26, the decoders the identity) -/
example : AbsOK (fun n => n == 26) (fun v => .ok (if v == 26 then 26 else -1, decide (v ≥ 900)))
    (fun _ r d => .ok (r ++ d, false)) (fun _ d => d) := by
  refine ⟨fun _ _ _ => rfl, fun _ => rfl, fun n => ⟨_, _, rfl, ?_⟩⟩
  by_cases h : n = 26
  · subst h; simp
  · have : ¬ ((n : Int) = 26) := by omega
    simp [h, this]

when_kernel Gzx.Gen.K11c.getEncodedData in
/-- "A", then P/S "." (upper 2, upper 0 = CTRL_PS, punct 19) -/
example : Gen.K11c.getEncodedData 40 0 (fun v => .ok (if v == 26 then 26 else -1, decide (v ≥ 900))) (fun t => t)
    (fun _ r d => .ok (r ++ d, false)) (bitsI ([false, false, false, true, false] ++ [false, false, false, false, false]
      ++ [true, false, false, true, true])) = .ok ([65, 46], false) := by decide +kernel

end Gzx.Obligations.K11c
