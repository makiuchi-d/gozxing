/-
  K01e (decoded_bit_stream_parser.go) — the byte / Kanji / Hanzi segment decoders UP TO THE CHARSET CALL: the statements that fill
  the byte buffer (`readBytes` / `buffer`) from the BitSource, regenerated on every run as regions of
  `DecodedBitStreamParser_decodeByteSegment`, `…decodeKanjiSegment`, `…decodeHanziSegment` (`Gzx.Gen.K01de.byteBuffer`,
  `kanjiBuffer`, `hanziBuffer`), proved equal to the bit-list model (`QRDec.readGroups`, `kanjiBytes`, `hanziBytes` =
  the buffers of `QRDec.decodeByte` / `decode13`, Model/QRDecoder.lean) on the bits from the cursor on, for EVERY stream and count
  for which the guard in front of the region (`8*count` resp. `13*count ≤ Available()`) holds.
-/
import Gzx.Obligations.K01eAlnum
namespace Gzx.Obligations.K01e
open Gzx Gzx.GoM Gzx.GoVal Gzx.BitSource
open Gzx.QRDec (natOfBits)

theorem readBitsF_ok (n : Nat) (bits : List Bool) (h1 : 1 ≤ n) (h32 : n ≤ 32) (hl : n ≤ bits.length) :
    QRDec.readBitsF n bits = .ok (natOfBits (bits.take n), bits.drop n) := by
  unfold QRDec.readBitsF QRDec.readBits
  rw [if_neg (by omega)]

/-! ### decodeByteSegment: `readBytes` -/

when_kernel Gzx.Gen.K01de.byteBuffer in
theorem k_byte_loop (fuel : Nat) (hf : 5 ≤ fuel) : ∀ (m : Nat) (s : BitSource) (done : List Nat), Stream s →
    8 * m ≤ (unread s).length →
    ∃ s' vs,
      loop (ρ := List Int × Int × Int) (Gen.K01de.byteBuffer_body1 fuel (bytes s.bytes)) 1 m ((done.length : Nat) : Int)
          ((s.byteOffset : Int), (s.bitOffset : Int), bytes (done ++ List.replicate m 0)) =
        .next ((s'.byteOffset : Int), (s'.bitOffset : Int), bytes vs) ∧
      QRDec.readGroups 8 m (unread s) done = .ok (vs, unread s') ∧ Stream s' ∧ s'.bytes = s.bytes := by
  intro m
  induction m with
  | zero =>
    intro s done hs _
    exact ⟨s, done, by simp [loop], rfl, hs, rfl⟩
  | succ m ih =>
    intro s done hs hl
    have hok := readBitsF_ok 8 (unread s) (by decide) (by decide) (by omega)
    have hrb := k_readBits_stream s hs 8 8 rfl fuel hf
    rw [hok] at hrb
    obtain ⟨s1, hr, hu, hst, hby⟩ := hrb
    have hv : natOfBits ((unread s).take 8) < 2 ^ 8 :=
      Nat.lt_of_lt_of_le (QRComp.natOfBits_lt _) (Nat.pow_le_pow_right (by decide) (List.length_take_le 8 _))
    generalize natOfBits ((unread s).take 8) = v at hok hr hv
    have hl1 : 8 * m ≤ (unread s1).length := by rw [hu, List.length_drop]; omega
    obtain ⟨s', vs, h1, h2, h3, h4⟩ := ih s1 (done ++ [v]) hst hl1
    refine ⟨s', vs, ?_, ?_, h3, h4.trans hby⟩
    · rw [hby, List.append_assoc, List.length_append, List.length_singleton, Int.natCast_succ] at h1
      rw [loop_succ]
      simp only [Gen.K01de.byteBuffer_body1, hr, tryC_ok, wrap_natCast, Nat.mod_eq_of_lt hv, List.replicate_succ, setIdx_mid]
      exact h1
    · simp only [QRDec.readGroups, hok, bind, Except.bind]
      rw [← hu]; exact h2

when_kernel Gzx.Gen.K01de.byteBuffer in
/-- `decodeByteSegment`'s `readBytes := make([]byte, count); for i … { b, _ := bits.ReadBits(8); readBytes[i] = byte(b) }` = the
    model's `readGroups 8 count`: the bytes handed to the charset decoder (and to `byteSegments`) and the cursor afterwards -/
theorem k_byteBuffer_eq (s : BitSource) (hs : Stream s) (count : Nat) (fuel : Nat) (hf : 5 ≤ fuel)
    (hg : 8 * count ≤ (unread s).length) :
    ∃ s' vs,
      Gen.K01de.byteBuffer fuel (bytes s.bytes) (s.byteOffset : Int) (s.bitOffset : Int) (count : Int) =
        .ok (bytes vs, (s'.byteOffset : Int), (s'.bitOffset : Int)) ∧
      QRDec.readGroups 8 count (unread s) [] = .ok (vs, unread s') ∧ Stream s' ∧ s'.bytes = s.bytes := by
  obtain ⟨s', vs, h1, h2, h3, h4⟩ := k_byte_loop fuel hf count s [] hs hg
  refine ⟨s', vs, ?_, h2, h3, h4⟩
  have ht : tripUp 0 (count : Int) 1 = count := by rw [tripUp_one]; omega
  simp only [Gen.K01de.byteBuffer, mk_nats (count : Int) count rfl, tryR_ok, ht]
  erw [h1]
  rfl

/-! ### decodeKanjiSegment / decodeHanziSegment: `buffer` -/

theorem flatMap_len2 (f : Nat → List Nat) (hf : ∀ v, (f v).length = 2) : ∀ vals : List Nat, (vals.flatMap f).length = 2 * vals.length
  | [] => rfl
  | v :: vs => by rw [List.flatMap_cons, List.length_append, hf, flatMap_len2 f hf vs, List.length_cons]; omega

theorem kanjiBytes_len (v : Nat) : (QRDec.kanjiBytes v).length = 2 := rfl
theorem hanziBytes_len (v : Nat) : (QRDec.hanziBytes v).length = 2 := rfl

/-- two consecutive element writes into the zero tail of a buffer -/
theorem setIdx_two (D : List Nat) (x y : Nat) (Z : List Nat) (off off1 : Int) (h0 : off = ((D.length : Nat) : Int))
    (h1 : off1 = ((D.length : Nat) : Int) + 1) {σ ρ : Type} (k : List Int → Ctl σ ρ) :
    tryC (setIdx (bytes (D ++ 0 :: 0 :: Z)) off (x : Int)) (fun t3 => tryC (setIdx t3 off1 (y : Int)) k) =
      k (bytes (D ++ x :: y :: Z)) := by
  subst h0 h1
  rw [setIdx_mid D 0 x (0 :: Z), tryC_ok]
  have e1 : D ++ x :: 0 :: Z = (D ++ [x]) ++ 0 :: Z := by simp
  have e2 : ((D.length : Nat) : Int) + 1 = (((D ++ [x]).length : Nat) : Int) := by simp
  rw [e1, e2, setIdx_mid (D ++ [x]) 0 y Z, tryC_ok]
  simp

/-- `(v / d) << 8 | v % d` -/
theorem assembled_natCast (v d : Nat) (hd : v % d < 256) :
    ior (ishl (Int.tdiv (v : Int) (d : Int)) ((8 : Nat) : Int)) (Int.tmod (v : Int) (d : Int)) = ((v / d * 256 + v % d : Nat) : Int) := by
  rw [tdiv_natCast, tmod_natCast, ishl_natCast, ior_natCast, shl_or_eq _ _ 8 hd]

/-- the range offset: `+ o1` below `l`, `+ o2` from there on -/
theorem offset_natCast (a l o1 o2 : Nat) :
    (if decide ((a : Int) < (l : Int)) then (a : Int) + (o1 : Int) else (a : Int) + (o2 : Int)) =
      ((if a < l then a + o1 else a + o2 : Nat) : Int) := by
  by_cases h : a < l
  · rw [if_pos h, if_pos (decide_eq_true (Int.ofNat_lt.mpr h))]; rfl
  · rw [if_neg h, if_neg (by rw [decide_eq_true_eq, Int.ofNat_lt]; exact h)]; rfl

/-- `byte(x & 0xFF)` -/
theorem and8 (x : Nat) : wrap 8 (iand (x : Int) 255) = ((x % 256 : Nat) : Int) := by
  rw [show (255 : Int) = ((2 ^ 8 - 1 : Nat) : Int) from rfl, iand_natCast, Nat.and_two_pow_sub_one_eq_mod, wrap_natCast, Nat.mod_mod]

when_kernel Gzx.Gen.K01de.readBits in
/-- a `for count > 0` loop whose iteration reads 13 bits, writes the two bytes `f v` of the value read at `offset` and counts
    down (`hstep`: one iteration after a successful read) = the model's `readGroups 13`, each value expanded by `f` -/
theorem loop13 (f : Nat → List Nat) (hlen : ∀ v, (f v).length = 2) (fb : Nat) (hfb : 5 ≤ fb)
    (body : List Int → Int × Int × Int × List Int × Int → Ctl (Int × Int × Int × List Int × Int) (List Int × Int × Int × Int))
    (hend : ∀ bs st, body bs (0, st) = .brk (0, st))
    (hstep : ∀ bs (c : Int) (v : Nat) (a b a' b' : Int) (D Z : List Nat), c > 0 →
      Gen.K01de.readBits fb bs a b 13 = .ok ((v : Int), false, a', b') →
      body bs (c, a, b, bytes (D ++ 0 :: 0 :: Z), ((D.length : Nat) : Int)) =
        .next (c - 1, a', b', bytes (D ++ (f v ++ Z)), ((D.length : Nat) : Int) + 2)) :
    ∀ (m : Nat) (s : BitSource) (vals : List Nat) (fl : Nat), Stream s → 13 * m ≤ (unread s).length → m < fl →
    ∃ s' vs,
      whileLoop (body (bytes s.bytes)) fl
          ((m : Int), (s.byteOffset : Int), (s.bitOffset : Int),
            bytes (vals.flatMap f ++ List.replicate (2 * m) 0), ((2 * vals.length : Nat) : Int)) =
        .brk (0, (s'.byteOffset : Int), (s'.bitOffset : Int), bytes (vs.flatMap f), ((2 * vs.length : Nat) : Int)) ∧
      QRDec.readGroups 13 m (unread s) vals = .ok (vs, unread s') ∧ Stream s' ∧ s'.bytes = s.bytes := by
  intro m
  induction m with
  | zero =>
    intro s vals fl hs _ hf
    obtain ⟨fl, rfl⟩ := Nat.exists_eq_add_one_of_ne_zero (Nat.ne_zero_of_lt hf)
    refine ⟨s, vals, ?_, rfl, hs, rfl⟩
    rw [whileLoop_succ, show ((0 : Nat) : Int) = 0 from rfl, hend, Nat.mul_zero, List.replicate_zero, List.append_nil]
  | succ m ih =>
    intro s vals fl hs hl hf
    obtain ⟨fl, rfl⟩ := Nat.exists_eq_add_one_of_ne_zero (Nat.ne_zero_of_lt hf)
    have hok := readBitsF_ok 13 (unread s) (by decide) (by decide) (by omega)
    have hrb := k_readBits_stream s hs 13 13 rfl fb hfb
    rw [hok] at hrb
    obtain ⟨s1, hr, hu, hst, hby⟩ := hrb
    generalize natOfBits ((unread s).take 13) = v at hok hr
    have hl1 : 13 * m ≤ (unread s1).length := by rw [hu, List.length_drop]; omega
    obtain ⟨s', vs, h1, h2, h3, h4⟩ := ih s1 (vals ++ [v]) fl hst hl1 (by omega)
    refine ⟨s', vs, ?_, ?_, h3, h4.trans hby⟩
    · rw [hby, List.flatMap_append, List.flatMap_singleton, List.append_assoc, List.length_append, List.length_singleton,
        Nat.mul_add, Int.natCast_add] at h1
      rw [whileLoop_succ, Nat.mul_succ, List.replicate_succ, List.replicate_succ, ← flatMap_len2 f hlen vals,
        hstep _ _ v _ _ _ _ _ _ (by omega) hr, flatMap_len2 f hlen vals, Int.natCast_succ, Int.add_sub_cancel]
      exact h1
    · simp only [QRDec.readGroups, hok, bind, Except.bind]
      rw [← hu]; exact h2

when_kernel Gzx.Gen.K01de.kanjiBuffer in
theorem k_kanji_loop (fb : Nat) (hfb : 5 ≤ fb) : ∀ (m : Nat) (s : BitSource) (vals : List Nat) (fl : Nat), Stream s →
    13 * m ≤ (unread s).length → m < fl →
    ∃ s' vs,
      whileLoop (ρ := List Int × Int × Int × Int) (Gen.K01de.kanjiBuffer_body1 fb (bytes s.bytes)) fl
          ((m : Int), (s.byteOffset : Int), (s.bitOffset : Int),
            bytes (vals.flatMap QRDec.kanjiBytes ++ List.replicate (2 * m) 0), ((2 * vals.length : Nat) : Int)) =
        .brk (0, (s'.byteOffset : Int), (s'.bitOffset : Int), bytes (vs.flatMap QRDec.kanjiBytes), ((2 * vs.length : Nat) : Int)) ∧
      QRDec.readGroups 13 m (unread s) vals = .ok (vs, unread s') ∧ Stream s' ∧ s'.bytes = s.bytes :=
  loop13 QRDec.kanjiBytes kanjiBytes_len fb hfb (Gen.K01de.kanjiBuffer_body1 fb) (fun _ _ => rfl)
    fun bs c v a b a' b' D Z hc hr => by
      simp only [Gen.K01de.kanjiBuffer_body1, hc, decide_true, if_true, hr, tryC_ok]
      -- `erw`: the numerals of the generated code are `Int` literals, those of the lemmas casts of `Nat` literals
      erw [assembled_natCast v 0xC0 (by omega), offset_natCast _ 0x1F00 0x8140 0xC140, ishr_natCast _ 8, wrap_natCast, wrap_natCast,
        setIdx_two _ _ _ _ _ _ rfl rfl, Nat.shiftRight_eq_div_pow]
      rfl

when_kernel Gzx.Gen.K01de.hanziBuffer in
theorem k_hanzi_loop (fb : Nat) (hfb : 5 ≤ fb) : ∀ (m : Nat) (s : BitSource) (vals : List Nat) (fl : Nat), Stream s →
    13 * m ≤ (unread s).length → m < fl →
    ∃ s' vs,
      whileLoop (ρ := List Int × Int × Int × Int) (Gen.K01de.hanziBuffer_body1 fb (bytes s.bytes)) fl
          ((m : Int), (s.byteOffset : Int), (s.bitOffset : Int),
            bytes (vals.flatMap QRDec.hanziBytes ++ List.replicate (2 * m) 0), ((2 * vals.length : Nat) : Int)) =
        .brk (0, (s'.byteOffset : Int), (s'.bitOffset : Int), bytes (vs.flatMap QRDec.hanziBytes), ((2 * vs.length : Nat) : Int)) ∧
      QRDec.readGroups 13 m (unread s) vals = .ok (vs, unread s') ∧ Stream s' ∧ s'.bytes = s.bytes :=
  loop13 QRDec.hanziBytes hanziBytes_len fb hfb (Gen.K01de.hanziBuffer_body1 fb) (fun _ _ => rfl)
    fun bs c v a b a' b' D Z hc hr => by
      simp only [Gen.K01de.hanziBuffer_body1, hc, decide_true, if_true, hr, tryC_ok]
      -- as for Kanji, with the GB2312 constants, and `byte(x & 0xFF)` (`and8`) where Kanji has the plain conversion
      erw [assembled_natCast v 0x60 (by omega), offset_natCast _ 0xA00 0xA1A1 0xA6A1, ishr_natCast _ 8, and8, and8,
        setIdx_two _ _ _ _ _ _ rfl rfl, Nat.shiftRight_eq_div_pow]
      rfl

when_kernel Gzx.Gen.K01de.kanjiBuffer in
/-- `decodeKanjiSegment`'s buffer loop (`make([]byte, 2*count)`, 13 bits per character, the Shift_JIS assembly with its two
    range offsets) = the model's `decode13 kanjiBytes`: the bytes handed to the Shift_JIS decoder, the offset and the cursor -/
theorem k_kanjiBuffer_eq (s : BitSource) (hs : Stream s) (count : Nat) (fuel : Nat) (hf : 5 ≤ fuel) (hfc : count < fuel)
    (hg : 13 * count ≤ (unread s).length) :
    ∃ (s' : BitSource) (vs : List Nat),
      Gen.K01de.kanjiBuffer fuel (bytes s.bytes) (s.byteOffset : Int) (s.bitOffset : Int) (count : Int) =
        .ok (bytes (vs.flatMap QRDec.kanjiBytes), ((2 * vs.length : Nat) : Int), (s'.byteOffset : Int), (s'.bitOffset : Int)) ∧
      QRDec.decode13 QRDec.kanjiBytes count (unread s) = .ok (vs.flatMap QRDec.kanjiBytes, unread s') ∧ Stream s' ∧
      s'.bytes = s.bytes := by
  obtain ⟨s', vs, h1, h2, h3, h4⟩ := k_kanji_loop fuel hf count s [] fuel hs hg hfc
  refine ⟨s', vs, ?_, ?_, h3, h4⟩
  · simp only [Gen.K01de.kanjiBuffer, mk_nats (2 * (count : Int)) (2 * count) (by omega), tryR_ok]
    erw [h1]
    rfl
  · unfold QRDec.decode13
    rw [if_neg (by omega)]
    simp only [h2, bind, Except.bind]

when_kernel Gzx.Gen.K01de.hanziBuffer in
/-- the same for `decodeHanziSegment` (GB2312 assembly) = the model's `decode13 hanziBytes` -/
theorem k_hanziBuffer_eq (s : BitSource) (hs : Stream s) (count : Nat) (fuel : Nat) (hf : 5 ≤ fuel) (hfc : count < fuel)
    (hg : 13 * count ≤ (unread s).length) :
    ∃ (s' : BitSource) (vs : List Nat),
      Gen.K01de.hanziBuffer fuel (bytes s.bytes) (s.byteOffset : Int) (s.bitOffset : Int) (count : Int) =
        .ok (bytes (vs.flatMap QRDec.hanziBytes), ((2 * vs.length : Nat) : Int), (s'.byteOffset : Int), (s'.bitOffset : Int)) ∧
      QRDec.decode13 QRDec.hanziBytes count (unread s) = .ok (vs.flatMap QRDec.hanziBytes, unread s') ∧ Stream s' ∧
      s'.bytes = s.bytes := by
  obtain ⟨s', vs, h1, h2, h3, h4⟩ := k_hanzi_loop fuel hf count s [] fuel hs hg hfc
  refine ⟨s', vs, ?_, ?_, h3, h4⟩
  · simp only [Gen.K01de.hanziBuffer, mk_nats (2 * (count : Int)) (2 * count) (by omega), tryR_ok]
    erw [h1]
    rfl
  · unfold QRDec.decode13
    rw [if_neg (by omega)]
    simp only [h2, bind, Except.bind]

/-- non-vacuity: one Kanji character 0x0D9F (13 bits: 0 1101 1001 1111) -/
example : Stream (BitSource.new [0x6C, 0xF8]) := stream_new _ (by decide)
example : Gen.K01de.kanjiBuffer 5 (bytes [0x6C, 0xF8]) 0 0 1 = .ok ([147, 95], 2, 1, 5) := by decide

end Gzx.Obligations.K01e
