/-
  K16c — the BitMatrix constructors: the argument check of `NewBitMatrix`
  (`Gen.K16c.newBitMatrixRejects`: the condition of its first `if`, translator kind `region`) and the forwarder
  `NewSquareBitMatrix` (`Gen.K16c.newSquareBitMatrix`, kind `funce`: `NewBitMatrix` is an abstract callee), regenerated from
  /repo's bit_matrix.go on every run and proved equal to `Bits.WMat.new` of Model/Bits.lean; and `ParseBoolMapToBitMatrix`
  (`Gen.K16c.parseBoolMap`, abstract callees `NewBitMatrix` and `BitMatrix.Set`), proved equal to a closed form for every
  callee and to `WMat.ofBoolMap` with the word model's constructor and `Set` as callees.
  NOT regenerated (outside every subset of the translator; covered by model + correspondence): ParseStringToBitMatrix
  (string prefix tests, []bool), ToString (append of byte strings), the image view At / Bounds (values of package image /
  image/color).
-/
import Gzx.Gen.K16c
import Gzx.KernelGuard
import Gzx.Proofs.GoM
import Gzx.Model.Bits
import Gzx.Proofs.ExceptList
namespace Gzx.Obligations.K16c
open Gzx Gzx.GoM Gzx.Bits

when_kernel Gzx.Gen.K16c.newBitMatrixRejects in
/-- `NewBitMatrix(width, height)` rejects exactly `width < 1 || height < 1` (any Go ints, negative ones included) -/
theorem k_newBitMatrixRejects_eq (w h : Int) : Gen.K16c.newBitMatrixRejects w h = .ok (decide (w < 1 ∨ h < 1)) := by
  simp only [Gen.K16c.newBitMatrixRejects]
  congr 1
  rw [Bool.eq_iff_iff]
  simp only [Bool.or_eq_true, decide_eq_true_eq]

when_kernel Gzx.Gen.K16c.newBitMatrixRejects in
/-- … which is when the model's constructor answers IllegalArgumentException -/
theorem k_newBitMatrixRejects_model (w h : Nat) :
    Gen.K16c.newBitMatrixRejects w h = .ok (decide (WMat.new w h = .error .illegalArg)) := by
  rw [k_newBitMatrixRejects_eq]
  congr 2
  unfold WMat.new
  by_cases hc : w < 1 ∨ h < 1
  · have : (w : Int) < 1 ∨ (h : Int) < 1 := by omega
    rw [if_pos hc]; simp only [this]
  · have : ¬ ((w : Int) < 1 ∨ (h : Int) < 1) := by omega
    rw [if_neg hc]; simp only [this]
    simp

/-- `NewBitMatrix` as the model has it, for Go ints: a matrix or the error -/
def newMatrixOpt (w h : Int) : Option WMat :=
  if w < 1 ∨ h < 1 then none else (WMat.new w.toNat h.toNat).toOption

when_kernel Gzx.Gen.K16c.newSquareBitMatrix in
/-- `NewSquareBitMatrix(dimension)` hands `dimension` to `NewBitMatrix` twice and returns its results unchanged — for every
    callee; with the model's constructor it is `WMat.new d d` -/
theorem k_newSquareBitMatrix_eq {F S : Type} (ops : NumOps F) (env : Gen.K16c.newSquareBitMatrix_Env F S) (d : Int) :
    Gen.K16c.newSquareBitMatrix ops env d = .ok (env.NewBitMatrix d d) := rfl

when_kernel Gzx.Gen.K16c.newSquareBitMatrix in
/-- … with the model's constructor as the callee: `WMat.new d d`.  Stated for `floatOps`, but the function uses no number
    operation (`k_newSquareBitMatrix_eq` is `rfl` for every `ops`; the examples below run it with `ratOps`) -/
theorem k_newSquareBitMatrix_model (d : Nat) (hd : 1 ≤ d) :
    Gen.K16c.newSquareBitMatrix floatOps ⟨newMatrixOpt⟩ (d : Int) = .ok (WMat.new d d).toOption := by
  rw [k_newSquareBitMatrix_eq]
  show Except.ok (newMatrixOpt (d : Int) (d : Int)) = _
  unfold newMatrixOpt
  have : ¬ ((d : Int) < 1 ∨ (d : Int) < 1) := by omega
  rw [if_neg this, Int.toNat_natCast]

when_kernel Gzx.Gen.K16c.newSquareBitMatrix in
example : Gen.K16c.newSquareBitMatrix ratOps ⟨newMatrixOpt⟩ 33 = .ok (some ⟨33, 33, 2, List.replicate 66 0⟩) := by decide
when_kernel Gzx.Gen.K16c.newSquareBitMatrix in
example : Gen.K16c.newSquareBitMatrix ratOps ⟨newMatrixOpt⟩ 0 = .ok none := by decide

/-! ## `ParseBoolMapToBitMatrix` -/

variable {F S : Type}

/-- one cell: `if imageI[j] { bits.Set(j, i) }` -/
def cellK (env : Gen.K16c.parseBoolMap_Env F S) (row : List Bool) (i : Int) (b : S) (j : Nat) : Res S :=
  match row[j]? with
  | none => .error oob
  | some true => .ok (env.BitMatrix_Set b ((j : Nat) : Int) i)
  | some false => .ok b

/-- one row: `imageI := image[i]`, then `width` cells -/
def rowK (env : Gen.K16c.parseBoolMap_Env F S) (image : List (List Bool)) (width : Nat) (b : S) (i : Nat) : Res S :=
  match image[i]? with
  | none => .error oob
  | some row => (List.range' 0 width).foldlM (cellK env row ((i : Nat) : Int)) b

/-- `ParseBoolMapToBitMatrix(image)` in closed form: `height = len(image)`, `width = len(image[0])` (0 for no rows), the
    constructor's error handed on, then row by row, cell by cell -/
def parseSpec (env : Gen.K16c.parseBoolMap_Env F S) (image : List (List Bool)) : Res (Option S) :=
  let width := match image with | [] => 0 | r :: _ => r.length
  let t := env.NewBitMatrix ((width : Nat) : Int) ((image.length : Nat) : Int)
  if t.2 then .ok none else ((List.range' 0 image.length).foldlM (rowK env image width) t.1).map some

/-- the two loops of `ParseBoolMapToBitMatrix` for a given `width` -/
theorem parse_loops (env : Gen.K16c.parseBoolMap_Env F S) (image : List (List Bool)) (width : Nat) (bits : S) :
    ((loop (fun (i : Int) (st : S) => ((
        let bits := st
        tryC (idxA image i) fun t3 =>
        let imageI : List Bool := t3
        (loop (fun (j : Int) (st : S) => ((
            let bits := st
            tryC (idxA imageI j) fun t4 =>
            let bits :=
              if t4 then
                let bits := env.BitMatrix_Set bits j i
                bits
              else
                bits
            .next bits
            ) : Ctl (S) (Option S))) 1 (tripUp 0 ((width : Nat) : Int) 1) 0 bits).thenC fun st =>
        let bits := st
        .next bits
        ) : Ctl (S) (Option S))) 1 (tripUp 0 ((image.length : Nat) : Int) 1) 0 bits).thenR fun st => .ok (some st)) =
      ((List.range' 0 image.length).foldlM (rowK env image width) bits).map some := by
  simp only []
  rw [loop_up_fold' (fun (s : S) => s) (rowK env image width) 0 image.length bits rfl (by rw [tripUp_one]; omega)
        (show (0 : Int) = ((0 : Nat) : Int) from rfl)]
  · cases (List.range' 0 image.length).foldlM (rowK env image width) bits <;> rfl
  · intro i _ _ b
    simp only [rowK]
    rw [idxA_natCast]
    cases image[i]? with
    | none => rfl
    | some row =>
      simp only [tryC_ok]
      rw [loop_up_fold' (fun (s : S) => s) (cellK env row ((i : Nat) : Int)) 0 width b rfl (by rw [tripUp_one]; omega)
            (show (0 : Int) = ((0 : Nat) : Int) from rfl)]
      · cases (List.range' 0 width).foldlM (cellK env row ((i : Nat) : Int)) b <;> rfl
      · intro j _ _ b'
        simp only [cellK]
        rw [idxA_natCast]
        cases row[j]? with
        | none => rfl
        | some v => cases v <;> rfl

when_kernel Gzx.Gen.K16c.parseBoolMap in
/-- **ParseBoolMapToBitMatrix, Go source to closed form**, for every constructor / `Set` (the rows are read with checked accesses:
    a row shorter than the first one is the index panic) -/
theorem k_parseBoolMap_eq (ops : NumOps F) (env : Gen.K16c.parseBoolMap_Env F S) (image : List (List Bool)) :
    Gen.K16c.parseBoolMap ops env image = parseSpec env image := by
  unfold Gen.K16c.parseBoolMap parseSpec
  cases image with
  | nil =>
    simp only [lenA, List.length_nil]
    have h0 : ¬ ((((0 : Nat)) : Int) > 0) := by omega
    simp only [h0, decide_false, Bool.false_eq_true, if_false, tryR_ok]
    cases he : (env.NewBitMatrix 0 (((0 : Nat)) : Int)).2 with
    | true => simp only [if_true]
    | false =>
      simp only [Bool.false_eq_true, if_false]
      exact parse_loops env [] 0 _
  | cons r rest =>
    have hpos : (((r :: rest).length : Nat) : Int) > 0 := by simp only [List.length_cons]; omega
    have e0 : idxA (r :: rest) 0 = .ok r := idxA_natCast (r :: rest) 0
    simp only [lenA, hpos, decide_true, if_true, e0, tryR_ok]
    cases he : (env.NewBitMatrix ((r.length : Nat) : Int) (((r :: rest).length : Nat) : Int)).2 with
    | true => simp only [if_true]
    | false =>
      simp only [Bool.false_eq_true, if_false]
      exact parse_loops env (r :: rest) r.length _

/-! ### … and the word model -/

/-- the constructor and `Set` of the word model as the callees: the matrix under construction is a `Res WMat` (a panic of `Set`
    stays in it; `Set` on an existing matrix of the right size never panics, Properties/C16) -/
def wmEnv : Gen.K16c.parseBoolMap_Env F (Res WMat) where
  NewBitMatrix := fun w h => (WMat.new w.toNat h.toNat, decide (w < 1 ∨ h < 1))
  BitMatrix_Set := fun s x y => s.bind fun m => m.set x.toNat y.toNat

/-- the model's run so far and the kernel's: the same matrix, or both failed (the model stops at a failed `Set`, the kernel carries it) -/
def Sim (mr : Res WMat) (kr : Res (Res WMat)) : Prop :=
  match mr with
  | .ok m => kr = .ok (.ok m)
  | .error _ => ∀ m, kr ≠ .ok (.ok m)

theorem sim_fold {β : Type} (f : WMat → β → Res WMat) (g : Res WMat → β → Res (Res WMat))
    (hstep : ∀ mr kr x, Sim mr kr → Sim (mr.bind (f · x)) (kr.bind (g · x))) :
    ∀ (l : List β) (mr : Res WMat) (kr : Res (Res WMat)), Sim mr kr → Sim (mr.bind (l.foldlM f)) (kr.bind (l.foldlM g)) := by
  intro l
  induction l with
  | nil =>
    intro mr kr h
    cases mr <;> cases kr <;> simpa [Sim, Except.bind, pure, Except.pure] using h
  | cons x l ih =>
    intro mr kr h
    have h1 := ih _ _ (hstep mr kr x h)
    have e1 : mr.bind (List.foldlM f · (x :: l)) = (mr.bind (f · x)).bind (l.foldlM f) := by
      cases mr <;> simp [List.foldlM, Except.bind, bind]
    have e2 : kr.bind (List.foldlM g · (x :: l)) = (kr.bind (g · x)).bind (l.foldlM g) := by
      cases kr <;> simp [List.foldlM, Except.bind, bind]
    rw [e1, e2]; exact h1

theorem sim_cell (row : List Bool) (i j : Nat) (mr : Res WMat) (kr : Res (Res WMat)) (h : Sim mr kr) :
    Sim (mr.bind (fun m => WMat.ofBoolMapCell m row i j)) (kr.bind (fun s => cellK (F := F) wmEnv row ((i : Nat) : Int) s j)) := by
  unfold WMat.ofBoolMapCell cellK
  cases mr with
  | ok m =>
    simp only [Sim] at h
    subst h
    simp only [Except.bind]
    cases row[j]? with
    | none => intro m'; simp
    | some v =>
      cases v with
      | false => simp [Sim, pure, Except.pure]
      | true =>
        simp only [wmEnv, Except.bind, Int.toNat_natCast]
        cases m.set j i with
        | ok m' => simp [Sim]
        | error e => intro m'; simp
  | error e =>
    simp only [Sim] at h
    simp only [Except.bind, Sim]
    intro m'
    cases kr with
    | error e' => simp
    | ok s =>
      cases s with
      | ok m0 => exact absurd rfl (h m0)
      | error e' =>
        dsimp only
        cases row[j]? with
        | none => simp
        | some v => cases v <;> simp [wmEnv, Except.bind]

theorem foldlM_zipIdx {α τ : Type} (f : τ → α × Nat → Res τ) : ∀ (l : List α) (k : Nat) (b : τ),
    (l.zipIdx k).foldlM f b =
      (List.range' k l.length).foldlM (fun b i => match l[i - k]? with | none => .error oob | some a => f b (a, i)) b := by
  intro l
  induction l with
  | nil => intro k b; rfl
  | cons a l ih =>
    intro k b
    simp only [List.zipIdx_cons, List.length_cons, List.range'_succ, List.foldlM, Nat.sub_self, List.getElem?_cons_zero, bind, Except.bind]
    cases f b (a, k) with
    | error e => rfl
    | ok b' =>
      simp only []
      rw [ih (k + 1) b']
      apply foldlM_congr_mem
      intro i hi t
      have hge : k + 1 ≤ i := by simp [List.mem_range'_1] at hi; omega
      rw [show i - k = (i - (k + 1)) + 1 by omega, List.getElem?_cons_succ]

/-- the rows from a given matrix on: the kernel's fold (on `Res WMat`) against the model's -/
theorem parse_core (image : List (List Bool)) (width : Nat) (m0 : WMat) :
    match image.zipIdx.foldlM (fun m p => (List.range width).foldlM (fun m j => WMat.ofBoolMapCell m p.1 p.2 j) m) m0 with
    | .ok m => ((List.range' 0 image.length).foldlM (rowK (F := F) wmEnv image width) (.ok m0)).map some = .ok (some (.ok m))
    | .error _ => ∀ m, ((List.range' 0 image.length).foldlM (rowK (F := F) wmEnv image width) (.ok m0)).map some ≠ .ok (some (.ok m)) := by
  have hk : (List.range' 0 image.length).foldlM (rowK (F := F) wmEnv image width) (.ok m0) =
      image.zipIdx.foldlM (fun b p => (List.range' 0 width).foldlM (cellK (F := F) wmEnv p.1 ((p.2 : Nat) : Int)) b) (.ok m0) := by
    rw [foldlM_zipIdx]
    apply foldlM_congr_mem
    intro i _ t
    simp only [rowK, Nat.sub_zero]
    cases image[i]? <;> rfl
  rw [hk]
  have hsim := sim_fold
    (fun (m : WMat) (p : List Bool × Nat) => (List.range width).foldlM (fun m j => WMat.ofBoolMapCell m p.1 p.2 j) m)
    (fun (s : Res WMat) (p : List Bool × Nat) => (List.range' 0 width).foldlM (cellK (F := F) wmEnv p.1 ((p.2 : Nat) : Int)) s)
    (by
      intro mr kr p h
      rw [List.range_eq_range']
      exact sim_fold (fun m j => WMat.ofBoolMapCell m p.1 p.2 j) (fun s j => cellK (F := F) wmEnv p.1 ((p.2 : Nat) : Int) s j)
        (fun mr kr j h => sim_cell p.1 p.2 j mr kr h) (List.range' 0 width) mr kr h)
    image.zipIdx (.ok m0) (.ok (.ok m0)) rfl
  simp only [Except.bind] at hsim
  cases hm : image.zipIdx.foldlM (fun m p => (List.range width).foldlM (fun m j => WMat.ofBoolMapCell m p.1 p.2 j) m) m0 with
  | ok m =>
    rw [hm] at hsim
    simp only [Sim] at hsim
    simp only []
    rw [hsim]; rfl
  | error e =>
    rw [hm] at hsim
    simp only [Sim] at hsim
    simp only []
    intro m hc
    cases hf : image.zipIdx.foldlM (fun b p => (List.range' 0 width).foldlM (cellK (F := F) wmEnv p.1 ((p.2 : Nat) : Int)) b) (.ok m0) with
    | error e' => rw [hf] at hc; cases hc
    | ok s =>
      rw [hf] at hc
      simp only [Except.map, Except.ok.injEq, Option.some.injEq] at hc
      subst hc
      exact hsim m hf

when_kernel Gzx.Gen.K16c.parseBoolMap in
/-- **ParseBoolMapToBitMatrix, Go source to model**: with the word model's constructor and `Set` as callees the regenerated
    function builds the matrix of `WMat.ofBoolMap`; where the model fails (no rows or an empty first row: IllegalArgumentException;
    a row shorter than the first one: index panic) it does not return a matrix either -/
theorem k_parseBoolMap_model (ops : NumOps F) (image : List (List Bool)) :
    match WMat.ofBoolMap image with
    | .ok m => Gen.K16c.parseBoolMap ops wmEnv image = .ok (some (.ok m))
    | .error _ => ∀ m, Gen.K16c.parseBoolMap ops wmEnv image ≠ .ok (some (.ok m)) := by
  rw [k_parseBoolMap_eq]
  cases image with
  | nil =>
    have : WMat.ofBoolMap [] = .error .illegalArg := by decide
    rw [this]
    intro m hc
    have : parseSpec (F := F) wmEnv [] = .ok none := by
      unfold parseSpec; simp [wmEnv]
    rw [this] at hc; cases hc
  | cons r rest =>
    unfold parseSpec WMat.ofBoolMap
    simp only []
    have hnb : (wmEnv (F := F)).NewBitMatrix ((r.length : Nat) : Int) (((r :: rest).length : Nat) : Int) =
        (WMat.new r.length (r :: rest).length, decide (r.length < 1)) := by
      simp only [wmEnv, Int.toNat_natCast]
      congr 1
      rw [Bool.eq_iff_iff]; simp only [decide_eq_true_eq, List.length_cons]; omega
    rw [hnb]
    simp only []
    by_cases hbad : r.length < 1
    · have hnew : WMat.new r.length (r :: rest).length = .error .illegalArg := by
        unfold WMat.new; rw [if_pos (Or.inl hbad)]
      rw [hnew]
      simp only [hbad, decide_true, if_true]
      intro m hc; cases hc
    · have hnew : WMat.new r.length (r :: rest).length =
          .ok ⟨r.length, (r :: rest).length, (r.length + 31) / 32, List.replicate ((r.length + 31) / 32 * (r :: rest).length) 0⟩ := by
        unfold WMat.new
        rw [if_neg (by simp only [List.length_cons]; omega)]
      rw [hnew]
      simp only [hbad, decide_false, Bool.false_eq_true, if_false]
      exact parse_core (F := F) (r :: rest) r.length _

-- non-vacuity: a 2x2 map; an image without rows is refused; a ragged image (second row shorter) yields no matrix
when_kernel Gzx.Gen.K16c.parseBoolMap in
example : Gen.K16c.parseBoolMap ratOps wmEnv [[true, false], [false, true]] = .ok (some (.ok ⟨2, 2, 1, [1, 2]⟩)) := by decide
when_kernel Gzx.Gen.K16c.parseBoolMap in
example : Gen.K16c.parseBoolMap ratOps wmEnv [] = .ok none := by decide
when_kernel Gzx.Gen.K16c.parseBoolMap in
example : Gen.K16c.parseBoolMap ratOps wmEnv [[true, false], [false]] = .error oob := by decide

end Gzx.Obligations.K16c
