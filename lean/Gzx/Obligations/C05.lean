/-
  C05 — per-run obligations over the tables regenerated from /repo:
  the BCH look-ups keep the minimum distances that `format_tolerates_3` / `version_tolerates_3`
  consume, and VERSIONS keeps the block structure that `interleave_deinterleave` consumes.
-/
import Gzx.Driver.QRTables
import Gzx.Proofs.QRHamming
import Gzx.Proofs.QRTablesWF
import Gzx.Gen.C07Tables
import Gzx.Model.QRTablesView
import Gzx.Obligations.C01
namespace Gzx.Obligations.C05
open Gzx Gzx.QRDec

/-- the regenerated tables have the expected shape (no fallback to an empty table) -/
theorem tables_decoded :
    QRTables.fmt?.isSome ∧ QRTables.fmtMask?.isSome ∧ QRTables.vdi?.isSome ∧ QRTables.versions?.isSome := by
  decide +kernel

/-- formatInfoDecodeLookup: 32 entries, one per 5-bit data value … -/
theorem format_lookup_complete : QRTables.fmt.map (·.2) = List.range 32 := by decide +kernel

/-- … with pairwise Hamming distance ≥ 7: the regenerated table IS the standard's (`Obligations.C01.tables_conform`),
    whose distance is `QRComp.refFmt_minDist` -/
theorem format_lookup_min_distance : MinDist 7 (QRTables.fmt.map (·.1)) := by
  have h : QRTables.fmt = QRComp.refFmt := Obligations.C01.tables_conform.1
  rw [h]; exact QRComp.refFmt_minDist

/-- VERSION_DECODE_INFO: 34 words (versions 7..40) … -/
theorem version_words_count : QRTables.vdi.length = 34 := by decide +kernel

/-- … with pairwise Hamming distance ≥ 8 (`QRComp.refVdi_minDist`) -/
theorem version_words_min_distance : MinDist 8 QRTables.vdi := by
  have h : QRTables.vdi = QRComp.refVdi := Obligations.C01.tables_conform.2.1
  rw [h]; exact QRComp.refVdi_minDist

/-- the words carry their version number in the upper 6 bits (so that decoding returns a version of
    the matrix' dimension) -/
theorem version_words_carry_number :
    QRTables.vdi.map (· >>> 12) = (List.range 34).map (· + 7) := by decide +kernel

/-- VERSIONS: 40 entries numbered 1..40, four levels each, short/long block structure, equal totals -/
theorem versions_wf : wfVersions QRTables.versions = true := Obligations.C01.versions_wf

/-- the decoder's alignment-pattern centres (version.go; they fix the function pattern around which the
    codewords are read) agree, version by version, with the encoder's own table (matrix_util.go, rows padded
    with -1): the decoder reads every codeword where the encoder put it.  A centre that differs displaces part
    of the read-out; Reed-Solomon hides that on clean symbols and spends the promised correction capacity. -/
theorem alignment_decoder_eq_encoder :
    Gen.C07Tables.POSITION_ADJUSTMENT_PATTERN_COORDINATE_TABLE.asIntListList? =
      some (QRTables.versions.map (fun v => QRTablesView.padAlign v.centers)) := by
  decide +kernel

end Gzx.Obligations.C05
