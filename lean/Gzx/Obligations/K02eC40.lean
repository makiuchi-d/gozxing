/-
  K02e — `decodeC40Segment` and `decodeTextSegment` of datamatrix/decoder/decoded_bit_stream_parser.go,
  regenerated from /repo on every run (`Gzx.Gen.K02e`: the `for bits.Available() > 0` loop over the threaded BitSource,
  the one-byte-left and unlatch exits, `parseTwoBytes`, the three-value loop with the shift `switch`, the nested FNC1 /
  upper-shift `switch`, byte arithmetic with wrap-around, the `intSet` of FNC1 positions as the list of added keys),
  proved equal to the model `DMHighLevel.cSeg` (`text = false / true`) for EVERY byte-aligned bit source, every
  accumulator and every character-table set that agrees with the regenerated tables (`TablesAgree`, decided for the
  reference tables in `tables_agree_ref`):  `k_decodeC40Segment_eq`, `k_decodeTextSegment_eq`.
-/
import Gzx.Obligations.K02eX12
namespace Gzx.Obligations.K02e
open Gzx Gzx.GoM Gzx.GoVal Gzx.DMHighLevel

/-! ## model side -/

def Acc.emits (a : Acc) (es : List Emit) : Acc := es.foldl Acc.emit a

/-- the emissions of `cSeg` and the number of bytes it consumes, without the accumulator -/
def cOut (T : Tables) (text : Bool) : List Nat → CState → Res (List Emit × Nat)
  | [], _ => .ok ([], 0)
  | [_], _ => .ok ([], 0)
  | b1 :: b2 :: rest, st =>
    if b1 = 254 then .ok ([], 1)
    else
      match cValueCore T text (parseTwoBytes b1 b2).1 st with
      | .error e => .error e
      | .ok (st1, e1) =>
        match cValueCore T text (parseTwoBytes b1 b2).2.1 st1 with
        | .error e => .error e
        | .ok (st2, e2) =>
          match cValueCore T text (parseTwoBytes b1 b2).2.2 st2 with
          | .error e => .error e
          | .ok (st3, e3) =>
            match cOut T text rest st3 with
            | .error e => .error e
            | .ok (es, k) => .ok (e1 :: e2 :: e3 :: es, k + 2)

theorem cSeg_eq_out (T : Tables) (text : Bool) : ∀ (bs : List Nat) (st : CState) (a : Acc) (n : Nat),
    cSeg T text bs st a n = (cOut T text bs st).map (fun p => (Acc.emits a p.1, n + p.2))
  | [], st, a, n => by simp [cSeg, cOut, Except.map, Acc.emits]
  | [_], st, a, n => by simp [cSeg, cOut, Except.map, Acc.emits]
  | b1 :: b2 :: rest, st, a, n => by
    unfold cSeg cOut
    by_cases h : b1 = 254
    · simp [h, Except.map, Acc.emits]
    · simp only [h, if_false, cValue]
      cases h1 : cValueCore T text (parseTwoBytes b1 b2).1 st with
      | error e => simp [Except.map]
      | ok p1 =>
        obtain ⟨st1, e1⟩ := p1
        simp only []
        cases h2 : cValueCore T text (parseTwoBytes b1 b2).2.1 st1 with
        | error e => simp [Except.map]
        | ok p2 =>
          obtain ⟨st2, e2⟩ := p2
          simp only []
          cases h3 : cValueCore T text (parseTwoBytes b1 b2).2.2 st2 with
          | error e => simp [Except.map]
          | ok p3 =>
            obtain ⟨st3, e3⟩ := p3
            simp only []
            rw [cSeg_eq_out T text rest]
            cases cOut T text rest st3 with
            | error e => simp [Except.map]
            | ok p => simp [Except.map, Acc.emits]; omega

/-! ## kernel side -/

/-- what one emission does to the Go state `(result, fnc1positions)` -/
def emitK (p : List Int × List Int) : Emit → List Int × List Int
  | .none => p
  | .char c => (p.1 ++ [(c : Int)], p.2)
  | .fnc1 => (p.1 ++ [29], p.2 ++ [(p.1.length : Int)])

def emitsK (p : List Int × List Int) (es : List Emit) : List Int × List Int := es.foldl emitK p

when_kernel Gzx.Gen.K02e.decodeC40Segment in
when_kernel Gzx.Gen.K02e.decodeTextSegment in
/-- the character tables of the model are the regenerated tables; every entry is a byte -/
def TablesAgree (T : Tables) : Prop :=
  bytesI T.c40Basic = Gen.K02e.tbl_C40_BASIC_SET_CHARS ∧ bytesI T.c40Shift2 = Gen.K02e.tbl_C40_SHIFT2_SET_CHARS
  ∧ bytesI T.textBasic = Gen.K02e.tbl_TEXT_BASIC_SET_CHARS ∧ bytesI T.textShift2 = Gen.K02e.tbl_TEXT_SHIFT2_SET_CHARS
  ∧ bytesI T.textShift3 = Gen.K02e.tbl_TEXT_SHIFT3_SET_CHARS
  ∧ (∀ c ∈ T.c40Basic ++ T.c40Shift2 ++ T.textBasic ++ T.textShift2 ++ T.textShift3, c < 256)

when_kernel Gzx.Gen.K02e.decodeC40Segment in
when_kernel Gzx.Gen.K02e.decodeTextSegment in
instance (T : Tables) : Decidable (TablesAgree T) := by unfold TablesAgree; infer_instance

set_option maxRecDepth 100000 in
when_kernel Gzx.Gen.K02e.decodeC40Segment in
when_kernel Gzx.Gen.K02e.decodeTextSegment in
/-- the regenerated tables are the reference tables of ISO/IEC 16022 Annex C -/
theorem tables_agree_ref : TablesAgree refTables := by decide

/-- a checked table read in the kernel against the model's -/
theorem idx_agree (tbl : List Nat) (v : Int) :
    GoM.idx (bytesI tbl) v = match DMHighLevel.idx tbl v with
      | .ok c => .ok (c : Int)
      | .error _ => .error oob := by
  unfold GoM.idx DMHighLevel.idx
  by_cases h : v < 0
  · simp [h]
  · simp only [h, if_false, bytesI, List.getElem?_map]
    cases tbl[v.toNat]? <;> simp

theorem idx_lt (tbl : List Nat) (hb : ∀ c ∈ tbl, c < 256) (v : Int) (c : Nat) (h : DMHighLevel.idx tbl v = .ok c) : c < 256 := by
  unfold DMHighLevel.idx at h
  split at h
  · cases h
  · split at h
    · cases h; exact hb _ (List.mem_of_getElem? ‹_›)
    · cases h

theorem toByte_of_lt (c : Nat) (h : c < 256) : toByte (c : Int) = c := by
  unfold toByte; omega

/-- the outcome of one C40 / Text value in the kernel, from the model's `cValueCore` -/
def stepK (bo bi : Int) (res fn : List Int) :
    Res (CState × Emit) → Ctl (List Int × List Int × Bool × Int) (List Int × Bool × Int × Int × List Int × List Int)
  | .ok (st', e) => .next ((emitK (res, fn) e).1, (emitK (res, fn) e).2, st'.upper, st'.shift)
  | .error .format => .ret (res, true, bo, bi, res, fn)
  | .error _ => .panic oob

theorem emitUp_step (bo bi : Int) (res fn : List Int) (sh : Int) (up : Bool) (c : Int) :
    stepK bo bi res fn (.ok (emitUp ⟨sh, up⟩ c)) =
      if up then .next (res ++ [wrap 8 (c + 128)], fn, false, 0) else .next (res ++ [wrap 8 c], fn, false, 0) := by
  cases up <;> simp [stepK, emitUp, emitK, toByte_cast]

theorem idx_error (tbl : List Nat) (v : Int) (e : Fault) (h : DMHighLevel.idx tbl v = .error e) : ∃ s, e = .panic s := by
  unfold DMHighLevel.idx at h
  split at h
  · cases h; exact ⟨_, rfl⟩
  · split at h
    · cases h
    · cases h; exact ⟨_, rfl⟩

/-- a table character appended under the shift state: kernel continuation `K` against the model's `emitUp` -/
theorem idx_step (bo bi : Int) (res fn : List Int) (sh : Int) (up : Bool) (tbl : List Nat) (hb : ∀ c ∈ tbl, c < 256) (v : Int)
    (K : Int → Ctl (List Int × List Int × Bool × Int) (List Int × Bool × Int × Int × List Int × List Int))
    (hK : ∀ c : Nat, c < 256 → K (c : Int) = stepK bo bi res fn (.ok (emitUp ⟨sh, up⟩ c))) :
    tryC (match DMHighLevel.idx tbl v with
        | .ok c => (.ok (c : Int) : Res Int)
        | .error _ => .error oob) K
      = stepK bo bi res fn (match DMHighLevel.idx tbl v with
        | .ok c => .ok (emitUp ⟨sh, up⟩ c)
        | .error e => .error e) := by
  cases hidx : DMHighLevel.idx tbl v with
  | error e =>
    obtain ⟨s, rfl⟩ := idx_error _ _ _ hidx
    simp [stepK]
  | ok c => simp only [tryC_ok]; exact hK c (idx_lt tbl hb v c hidx)

theorem wrap8_of_lt (c : Nat) (h : c < 256) : wrap 8 (c : Int) = (c : Int) := by
  unfold wrap; omega

when_kernel Gzx.Gen.K02e.decodeC40Segment in
when_kernel Gzx.Gen.K02e.decodeTextSegment in
/-- one value of the three-value loop of decodeC40Segment = the model's `cValueCore` (C40) -/
theorem c40_body2 (T : Tables) (hT : TablesAgree T) (bo bi : Int) (cv : List Int) (i : Nat) (ii : Int) (hii : ii = (i : Int))
    (hi : i < cv.length) (res fn : List Int) (up : Bool) (sh : Int) :
    Gen.K02e.decodeC40Segment_body2 bo bi cv ii (res, fn, up, sh)
      = stepK bo bi res fn (cValueCore T false cv[i] ⟨sh, up⟩) := by
  subst hii
  obtain ⟨h1, h2, -, -, -, hlt⟩ := hT
  have hb1 : ∀ c ∈ T.c40Basic, c < 256 := fun c hc => hlt c (by simp [hc])
  have hb2 : ∀ c ∈ T.c40Shift2, c < 256 := fun c hc => hlt c (by simp [hc])
  unfold Gen.K02e.decodeC40Segment_body2
  rw [idx_ofNat cv i hi]
  simp only [tryC_ok]
  generalize cv[i] = v
  rw [← h1, ← h2]
  simp only [len, bytesI_length, idx_agree]
  unfold cValueCore
  simp only [Bool.false_eq_true, if_false]
  by_cases s0 : sh = 0
  · subst s0
    simp only [beq_self_eq_true, if_true]
    by_cases v3 : v < 3
    · simp [v3, stepK, emitK]
    · by_cases vb : v < (T.c40Basic.length : Int)
      · simp only [v3, vb, decide_true, decide_false, if_true, Bool.false_eq_true, if_false]
        apply idx_step _ _ _ _ _ _ _ hb1
        intro c hc
        rw [emitUp_step]
        cases up <;> simp [wrap8_of_lt c hc]
      · simp [v3, vb, stepK]
  · have c0 : (sh == 0) = false := by simpa using s0
    simp only [c0, Bool.false_eq_true, if_false, s0]
    by_cases s1 : sh = 1
    · subst s1
      simp only [beq_self_eq_true, if_true]
      rw [emitUp_step]
      cases up <;> simp
    · have c1 : (sh == 1) = false := by simpa using s1
      simp only [c1, Bool.false_eq_true, if_false, s1]
      by_cases s2 : sh = 2
      · subst s2
        simp only [beq_self_eq_true, if_true]
        by_cases vb : v < (T.c40Shift2.length : Int)
        · simp only [vb, decide_true, if_true]
          apply idx_step _ _ _ _ _ _ _ hb2
          intro c hc
          rw [emitUp_step]
          cases up <;> simp [wrap8_of_lt c hc]
        · simp only [vb, decide_false, Bool.false_eq_true, if_false]
          by_cases v27 : v = 27
          · simp [v27, stepK, emitK]
          · by_cases v30 : v = 30
            · simp [v30, stepK, emitK]
            · simp [v27, v30, stepK]
      · have c2 : (sh == 2) = false := by simpa using s2
        simp only [c2, Bool.false_eq_true, if_false, s2]
        by_cases s3 : sh = 3
        · subst s3
          simp only [beq_self_eq_true, if_true]
          cases up <;> simp [stepK, emitK, toByte_cast]
        · have c3 : (sh == 3) = false := by simpa using s3
          simp [c3, s3, stepK]

when_kernel Gzx.Gen.K02e.decodeC40Segment in
when_kernel Gzx.Gen.K02e.decodeTextSegment in
/-- one value of the three-value loop of decodeTextSegment = the model's `cValueCore` (Text); the proof is that of
    `c40_body2` line by line, with the Text tables and a table read in the shift-3 branch -/
theorem text_body2 (T : Tables) (hT : TablesAgree T) (bo bi : Int) (cv : List Int) (i : Nat) (ii : Int) (hii : ii = (i : Int))
    (hi : i < cv.length) (res fn : List Int) (up : Bool) (sh : Int) :
    Gen.K02e.decodeTextSegment_body2 bo bi cv ii (res, fn, up, sh)
      = stepK bo bi res fn (cValueCore T true cv[i] ⟨sh, up⟩) := by
  subst hii
  obtain ⟨-, -, h1, h2, h3, hlt⟩ := hT
  have hb1 : ∀ c ∈ T.textBasic, c < 256 := fun c hc => hlt c (by simp [hc])
  have hb2 : ∀ c ∈ T.textShift2, c < 256 := fun c hc => hlt c (by simp [hc])
  have hb3 : ∀ c ∈ T.textShift3, c < 256 := fun c hc => hlt c (by simp [hc])
  unfold Gen.K02e.decodeTextSegment_body2
  rw [idx_ofNat cv i hi]
  simp only [tryC_ok]
  generalize cv[i] = v
  rw [← h1, ← h2, ← h3]
  simp only [len, bytesI_length, idx_agree]
  unfold cValueCore
  simp only [if_true]
  by_cases s0 : sh = 0
  · subst s0
    simp only [beq_self_eq_true, if_true]
    by_cases v3 : v < 3
    · simp [v3, stepK, emitK]
    · by_cases vb : v < (T.textBasic.length : Int)
      · simp only [v3, vb, decide_true, decide_false, if_true, Bool.false_eq_true, if_false]
        apply idx_step _ _ _ _ _ _ _ hb1
        intro c hc
        rw [emitUp_step]
        cases up <;> simp [wrap8_of_lt c hc]
      · simp [v3, vb, stepK]
  · have c0 : (sh == 0) = false := by simpa using s0
    simp only [c0, Bool.false_eq_true, if_false, s0]
    by_cases s1 : sh = 1
    · subst s1
      simp only [beq_self_eq_true, if_true]
      rw [emitUp_step]
      cases up <;> simp
    · have c1 : (sh == 1) = false := by simpa using s1
      simp only [c1, Bool.false_eq_true, if_false, s1]
      by_cases s2 : sh = 2
      · subst s2
        simp only [beq_self_eq_true, if_true]
        by_cases vb : v < (T.textShift2.length : Int)
        · simp only [vb, decide_true, if_true]
          apply idx_step _ _ _ _ _ _ _ hb2
          intro c hc
          rw [emitUp_step]
          cases up <;> simp [wrap8_of_lt c hc]
        · simp only [vb, decide_false, Bool.false_eq_true, if_false]
          by_cases v27 : v = 27
          · simp [v27, stepK, emitK]
          · by_cases v30 : v = 30
            · simp [v30, stepK, emitK]
            · simp [v27, v30, stepK]
      · have c2 : (sh == 2) = false := by simpa using s2
        simp only [c2, Bool.false_eq_true, if_false, s2]
        by_cases s3 : sh = 3
        · subst s3
          simp only [beq_self_eq_true, if_true]
          by_cases vb : v < (T.textShift3.length : Int)
          · simp only [vb, decide_true, if_true]
            apply idx_step _ _ _ _ _ _ _ hb3
            intro c hc
            rw [emitUp_step]
            cases up <;> simp [wrap8_of_lt c hc]
          · simp [vb, stepK]
        · have c3 : (sh == 3) = false := by simpa using s3
          simp [c3, s3, stepK]

/-! ## the segment loop, generic in the regenerated three-value body -/

/-- loop state of `decodeC40Segment` / `decodeTextSegment`: byte offset, bit offset, `result`, `fnc1positions`,
    `upperShift`, `cValues`, `shift` -/
abbrev S1 := Int × Int × List Int × List Int × Bool × List Int × Int
/-- state of their three-value loop: `result`, `fnc1positions`, `upperShift`, `shift` -/
abbrev S2 := List Int × List Int × Bool × Int
/-- what they return: `result`, the error flag, byte offset, bit offset, `result`, `fnc1positions` -/
abbrev CRet := List Int × Bool × Int × Int × List Int × List Int

/-- what the kernel must answer for a model outcome -/
def CAgrees (k : Res CRet) (res fn : List Int) (off : Nat) : Res (List Emit × Nat) → Prop
  | .ok (es, n) => k = .ok ((emitsK (res, fn) es).1, false, ((off + n : Nat) : Int), 0, (emitsK (res, fn) es).1, (emitsK (res, fn) es).2)
  | .error .format => ∃ r bo f, k = .ok (r, true, bo, 0, r, f)
  | .error _ => k = .error oob

/-- where byte offset, bit offset, `cValues` and the state of the three-value loop sit in the loop state of
    `decodeC40Segment` / `decodeTextSegment`, and what they return for a source position -/
def getC (st : S1) : Int × Int × List Int × S2 :=
  (st.1, st.2.1, st.2.2.2.2.2.1, (st.2.2.1, st.2.2.2.1, st.2.2.2.2.1, st.2.2.2.2.2.2))
def putC (bo bi : Int) (cv : List Int) (t : S2) : S1 := (bo, bi, t.1, t.2.1, t.2.2.1, cv, t.2.2.2)
def retC (t : S2) (bo bi : Int) : CRet := (t.1, false, bo, bi, t.1, t.2.1)

when_kernel Gzx.Gen.K02e.available in
when_kernel Gzx.Gen.K02e.readBits in
when_kernel Gzx.Gen.K02e.parseTwoBytes in
/-- the loop from byte `off` over a three-value body that computes `cValueCore` answers as `cOut` on the remaining
    bytes; `K` stands for what follows the loop (the function's final `return`), `m` bounds the bytes left -/
theorem cseg_loop (T : Tables) (text : Bool) (F : Nat) (hF : 2 ≤ F) (bs : List Nat) (hb : ∀ b ∈ bs, b < 256)
    (B2 : Int → Int → List Int → Int → S2 → Ctl S2 CRet)
    (hstep : ∀ (bo bi : Int) (cv : List Int) (i : Nat) (ii : Int), ii = (i : Int) → (hi : i < cv.length) → ∀ res fn up sh,
      B2 bo bi cv ii (res, fn, up, sh) = stepK bo bi res fn (cValueCore T text cv[i] ⟨sh, up⟩))
    (K : S1 → Res CRet) (hK : ∀ bo bi res fn up cv sh, K (bo, bi, res, fn, up, cv, sh) = .ok (res, false, bo, bi, res, fn)) :
    ∀ (m off : Nat) (res fn : List Int) (st : CState) (cv : List Int) (f : Nat), cv.length = 3 → bs.length - off ≤ m →
      off ≤ bs.length → m < f →
      CAgrees ((whileLoop (pairBody F (bytesI bs) B2 getC putC retC) f
          ((off : Int), 0, res, fn, st.upper, cv, st.shift)).thenR K) res fn off
        (cOut T text (bs.drop off) st) := by
  intro m off res fn st cv f hcv hm hoff hf
  refine whileLoop_ind (body := pairBody F (bytesI bs) B2 getC putC retC)
    (fun m s c => ∀ (off : Nat) res fn (st : CState) cv, s = ((off : Int), 0, res, fn, st.upper, cv, st.shift) →
      cv.length = 3 → bs.length - off ≤ m → off ≤ bs.length →
      CAgrees (c.thenR K) res fn off (cOut T text (bs.drop off) st))
    (fun m s W ih off res fn st cv hs hcv hm hoff => ?_) f m _ hf off res fn st cv rfl hcv hm hoff
  subst hs
  by_cases h0 : off = bs.length
  · rw [List.drop_eq_nil_of_le (by omega),
      pairBody_end F bs B2 getC putC retC _ off cv (res, fn, st.upper, st.shift) rfl (by omega)]
    simp [putC, brk_thenR, hK, cOut, CAgrees, emitsK]
  by_cases h1 : off + 1 = bs.length
  · have hd : bs.drop off = [bs[off]'(by omega)] := by
      rw [List.drop_eq_getElem_cons (by omega), List.drop_eq_nil_of_le (by omega)]
    rw [hd, pairBody_one F bs B2 getC putC retC _ off cv (res, fn, st.upper, st.shift) rfl h1]
    simp [retC, ret_thenR, cOut, CAgrees, emitsK]
  have hlt : off + 1 < bs.length := by omega
  obtain ⟨r0, r1, r2, rfl⟩ : ∃ r0 r1 r2, cv = [r0, r1, r2] := by
    match cv, hcv with
    | [r0, r1, r2], _ => exact ⟨r0, r1, r2, rfl⟩
  have hd : bs.drop off = bs[off]'(by omega) :: bs[off + 1]'hlt :: bs.drop (off + 2) := by
    rw [List.drop_eq_getElem_cons (by omega), List.drop_eq_getElem_cons hlt]
  rw [hd, pairBody_two F bs B2 getC putC retC hF hb _ off r0 r1 r2 (res, fn, st.upper, st.shift) rfl hlt]
  generalize bs[off]'(by omega) = b1
  generalize bs[off + 1]'hlt = b2
  unfold cOut
  by_cases h254 : b1 = 254
  · simp [h254, retC, ret_thenR, CAgrees, emitsK]
  simp only [h254, if_false]
  rw [loop_succ, hstep _ _ _ 0 0 rfl (by simp)]
  simp only [List.getElem_cons_zero]
  cases hx1 : cValueCore T text (parseTwoBytes b1 b2).1 ⟨st.shift, st.upper⟩ with
  | error e => cases e <;> simp [stepK, CAgrees]
  | ok p1 =>
    obtain ⟨st1, e1⟩ := p1
    simp only [stepK]
    rw [loop_succ, hstep _ _ _ 1 (0 + 1) (by decide) (by simp)]
    simp only [List.getElem_cons_succ, List.getElem_cons_zero]
    cases hx2 : cValueCore T text (parseTwoBytes b1 b2).2.1 ⟨st1.shift, st1.upper⟩ with
    | error e => cases e <;> simp [stepK, CAgrees]
    | ok p2 =>
      obtain ⟨st2, e2⟩ := p2
      simp only [stepK]
      rw [loop_succ, hstep _ _ _ 2 (0 + 1 + 1) (by decide) (by simp)]
      simp only [List.getElem_cons_succ, List.getElem_cons_zero]
      cases hx3 : cValueCore T text (parseTwoBytes b1 b2).2.2 ⟨st2.shift, st2.upper⟩ with
      | error e => cases e <;> simp [stepK, CAgrees]
      | ok p3 =>
        obtain ⟨st3, e3⟩ := p3
        simp only [stepK, loop_zero, next_thenC, putC]
        have := ih (m - 1) _ (by omega) (off + 2) (emitK (emitK (emitK (res, fn) e1) e2) e3).1
          (emitK (emitK (emitK (res, fn) e1) e2) e3).2 st3
          [(parseTwoBytes b1 b2).1, (parseTwoBytes b1 b2).2.1, (parseTwoBytes b1 b2).2.2] rfl rfl (by omega) (by omega)
        cases hrest : cOut T text (bs.drop (off + 2)) st3 with
        | error e =>
          rw [hrest] at this
          cases e <;> simpa [CAgrees] using this
        | ok p =>
          rw [hrest] at this
          simp only [CAgrees] at this ⊢
          rw [this]
          simp [emitsK]
          omega

when_kernel Gzx.Gen.K02e.available in
when_kernel Gzx.Gen.K02e.readBits in
when_kernel Gzx.Gen.K02e.parseTwoBytes in
/-- a kernel that is the segment loop over a three-value body that computes `cValueCore` answers as the model's `cSeg` does -/
theorem cseg_eq (T : Tables) (text : Bool) (fuel : Nat) (bs : List Nat) (hb : ∀ b ∈ bs, b < 256) (off : Nat) (hoff : off ≤ bs.length)
    (hf : bs.length + 2 ≤ fuel) (result fn : List Int) (a : Acc) (n : Nat) (seg : Res CRet)
    (B2 : Int → Int → List Int → Int → S2 → Ctl S2 CRet)
    (hk : seg = (whileLoop (pairBody fuel (bytesI bs) B2 getC putC retC) fuel ((off : Int), 0, result, fn, false, [0, 0, 0], 0)).thenR
      (fun st => .ok (st.2.2.1, false, st.1, st.2.1, st.2.2.1, st.2.2.2.1)))
    (hstep : ∀ (bo bi : Int) (cv : List Int) (i : Nat) (ii : Int), ii = (i : Int) → (hi : i < cv.length) → ∀ res fn up sh,
      B2 bo bi cv ii (res, fn, up, sh) = stepK bo bi res fn (cValueCore T text cv[i] ⟨sh, up⟩)) :
    match cSeg T text (bs.drop off) {} a n with
    | .ok (a', n') => ∃ es, cOut T text (bs.drop off) {} = .ok (es, n' - n) ∧ a' = Acc.emits a es ∧
        seg = .ok ((emitsK (result, fn) es).1, false, ((off + (n' - n) : Nat) : Int), 0, (emitsK (result, fn) es).1, (emitsK (result, fn) es).2)
    | .error .format => ∃ r bo f, seg = .ok (r, true, bo, 0, r, f)
    | .error _ => seg = .error oob := by
  rw [cSeg_eq_out]
  have := cseg_loop T text fuel (by omega) bs hb B2 hstep
    (fun st => .ok (st.2.2.1, false, st.1, st.2.1, st.2.2.1, st.2.2.2.1)) (fun _ _ _ _ _ _ _ => rfl)
    (bs.length - off) off result fn {} [0, 0, 0] fuel rfl (Nat.le_refl _) hoff (by omega)
  rw [← hk] at this
  cases hx : cOut T text (bs.drop off) {} with
  | error e =>
    rw [hx] at this
    cases e <;> simpa [CAgrees, Except.map] using this
  | ok p =>
    rw [hx] at this
    simp only [Except.map]
    refine ⟨p.1, by simp, rfl, ?_⟩
    simp only [CAgrees] at this
    rw [this]
    simp

when_kernel Gzx.Gen.K02e.decodeC40Segment in
when_kernel Gzx.Gen.K02e.decodeTextSegment in
/-- `decodeC40Segment(bits, result, fnc1positions)` on a byte-aligned source at byte `off` of `bs` = the model's
    `cSeg T false` on the remaining bytes, for every accumulator: `result` / `fnc1positions` grow by exactly the model's
    emissions (characters, FNC1 as GS with its position), the source advances by the bytes the model consumes; a
    FormatException of the model is the kernel's error flag; an index panic of the model is one of the kernel -/
theorem k_decodeC40Segment_eq (T : Tables) (hT : TablesAgree T) (fuel : Nat) (bs : List Nat) (hb : ∀ b ∈ bs, b < 256) (off : Nat)
    (hoff : off ≤ bs.length) (hf : bs.length + 2 ≤ fuel) (result fn : List Int) (a : Acc) (n : Nat) :
    match cSeg T false (bs.drop off) {} a n with
    | .ok (a', n') => ∃ es, cOut T false (bs.drop off) {} = .ok (es, n' - n) ∧ a' = Acc.emits a es ∧
        Gen.K02e.decodeC40Segment fuel (bytesI bs) (off : Int) 0 result fn
          = .ok ((emitsK (result, fn) es).1, false, ((off + (n' - n) : Nat) : Int), 0, (emitsK (result, fn) es).1, (emitsK (result, fn) es).2)
    | .error .format => ∃ r bo f, Gen.K02e.decodeC40Segment fuel (bytesI bs) (off : Int) 0 result fn = .ok (r, true, bo, 0, r, f)
    | .error _ => Gen.K02e.decodeC40Segment fuel (bytesI bs) (off : Int) 0 result fn = .error oob := by
  exact cseg_eq T false fuel bs hb off hoff hf result fn a n _ _ (by unfold Gen.K02e.decodeC40Segment; rfl) (c40_body2 T hT)

when_kernel Gzx.Gen.K02e.decodeC40Segment in
when_kernel Gzx.Gen.K02e.decodeTextSegment in
/-- `decodeTextSegment(bits, result, fnc1positions)` on a byte-aligned source at byte `off` of `bs` = the model's
    `cSeg T true` on the remaining bytes, for every accumulator: `result` / `fnc1positions` grow by exactly the model's
    emissions (characters, FNC1 as GS with its position), the source advances by the bytes the model consumes; a
    FormatException of the model is the kernel's error flag; an index panic of the model is one of the kernel -/
theorem k_decodeTextSegment_eq (T : Tables) (hT : TablesAgree T) (fuel : Nat) (bs : List Nat) (hb : ∀ b ∈ bs, b < 256) (off : Nat)
    (hoff : off ≤ bs.length) (hf : bs.length + 2 ≤ fuel) (result fn : List Int) (a : Acc) (n : Nat) :
    match cSeg T true (bs.drop off) {} a n with
    | .ok (a', n') => ∃ es, cOut T true (bs.drop off) {} = .ok (es, n' - n) ∧ a' = Acc.emits a es ∧
        Gen.K02e.decodeTextSegment fuel (bytesI bs) (off : Int) 0 result fn
          = .ok ((emitsK (result, fn) es).1, false, ((off + (n' - n) : Nat) : Int), 0, (emitsK (result, fn) es).1, (emitsK (result, fn) es).2)
    | .error .format => ∃ r bo f, Gen.K02e.decodeTextSegment fuel (bytesI bs) (off : Int) 0 result fn = .ok (r, true, bo, 0, r, f)
    | .error _ => Gen.K02e.decodeTextSegment fuel (bytesI bs) (off : Int) 0 result fn = .error oob := by
  exact cseg_eq T true fuel bs hb off hoff hf result fn a n _ _ (by unfold Gen.K02e.decodeTextSegment; rfl) (text_body2 T hT)

when_kernel Gzx.Gen.K02e.decodeC40Segment in
/-- non-vacuity: the pair 0x57 0xC4 is the values 14, 1, 27 = "A", shift 2, FNC1 (GS at position 2), then unlatch; an
    illegal value -/
example : Gen.K02e.decodeC40Segment 10 (bytesI [0x57, 0xC4, 254, 9]) 0 0 [7] [] = .ok ([7, 65, 29], false, 3, 0, [7, 65, 29], [2]) := by
  rfl
when_kernel Gzx.Gen.K02e.decodeC40Segment in
example : Gen.K02e.decodeC40Segment 10 (bytesI [255, 255]) 0 0 [] [] = .ok ([], true, 2, 0, [], []) := by rfl

end Gzx.Obligations.K02e
