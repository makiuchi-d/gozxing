/-
  wp oned39 — per-run obligations of Properties/C06Row39.lean and Properties/C03Row39.lean over the data
  regenerated from /repo/oned (Gzx.Gen.C03Tables, Gzx.Gen.C03Row39): the table hypotheses of the totality theorems
  hold for the tables the readers have NOW, and the readers' constants are the ones the models hard-code.
-/
import Gzx.Gen.C03Tables
import Gzx.Gen.C03Row39
import Gzx.Obligations.C03
import Gzx.Proofs.Row39Total
namespace Gzx.Obligations.C06Row39
open Gzx Gzx.OneD Gzx.Row39 Gzx.Obligations.C03

/-- the Code 39 / Code 93 / Codabar reader tables exactly as regenerated from /repo (everything else `refTables`) -/
def genRowTables : Tables :=
  { refTables with
    code39Alphabet := bytesOfStr Gen.C03Tables.code39Alphabet
    code39Enc := natList Gen.C03Tables.code39Encodings
    code39Asterisk := (Gen.C03Tables.code39Asterisk.asNat?).getD 0
    code93Alphabet := bytesOfStr Gen.C03Tables.code93Alphabet
    code93Enc := natList Gen.C03Tables.code93Encodings
    codabarAlphabet := bytesOfStr Gen.C03Tables.codabarAlphabet
    codabarEnc := natList Gen.C03Tables.codabarEncodings }

/-- hypothesis of `code39_decodeRow_total` / `code39_decodeRow_no_panic` for the tables /repo has now -/
theorem gen_wf39 : WF39 genRowTables = true := by decide +kernel

/-- hypothesis of `code93_decodeRow_total` -/
theorem gen_wf93 : WF93 genRowTables = true := by decide +kernel

/-- hypothesis of `codabar_decodeRow_total` -/
theorem gen_wfcb : WFCbRead genRowTables = true := by decide +kernel

/-- constants the Codabar model hard-codes: start/stop set A-D, MIN_CHARACTER_LENGTH = 3, and the two float
    constants behind the cross-multiplied upper threshold `2·size·cw > 4·sw + 3` (MAX_ACCEPTABLE = 2, PADDING = 3/2) -/
theorem gen_codabar_reader_constants :
    Gen.C03Row39.codabarReaderStartEnd.asNatList? = some cbStartEnd ∧
    Gen.C03Row39.codabarMinCharacterLength.asNat? = some 3 ∧
    (Gen.C03Row39.codabarMaxAcceptable.asApp? "rat").bind (·.mapM GoVal.asInt?) = some [2, 1] ∧
    (Gen.C03Row39.codabarPadding.asApp? "rat").bind (·.mapM GoVal.asInt?) = some [3, 2] := by decide +kernel

end Gzx.Obligations.C06Row39
