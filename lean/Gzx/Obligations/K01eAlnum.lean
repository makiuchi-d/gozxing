/-
  K01e (decoded_bit_stream_parser.go) — `toAlphaNumericChar` and `DecodedBitStreamParser_decodeAlphanumericSegment` INCLUDING the
  FNC1 rule (`%%` → `%`, a single `%` → GS 0x1D, by deleting / overwriting elements of the result slice in place), regenerated on
  every run into `Gzx.Gen.K01de`, proved equal to the bit-list model `QRDec.decodeAlnum` (`decodeAlnumRaw` + `fnc1Massage`,
  Model/QRDecoder.lean) on the bits from the cursor on — for EVERY stream, character count, prefix already in `result` and FNC1
  flag.
-/
import Gzx.Obligations.K01eNum
namespace Gzx.Obligations.K01e
open Gzx Gzx.GoM Gzx.GoVal Gzx.BitSource

/-! ### toAlphaNumericChar -/

when_kernel Gzx.Gen.K01de.tbl_ALPHANUMERIC_CHARS in
when_kernel Gzx.Gen.K01de.toAlphaNumericChar in
/-- the regenerated table `ALPHANUMERIC_CHARS` is the model's -/
theorem k_alnumTable : Gen.K01de.tbl_ALPHANUMERIC_CHARS = bytes QRDec.alnumChars := by decide

when_kernel Gzx.Gen.K01de.toAlphaNumericChar in
/-- `toAlphaNumericChar(value)` = the model's `toAlnumChar` for every non-negative value (error flag beyond the 45 characters) -/
theorem k_toAlphaNumericChar_eq (v : Nat) :
    Gen.K01de.toAlphaNumericChar (v : Int) =
      .ok (match QRDec.toAlnumChar v with | .ok c => ((c : Int), false) | .error _ => (0, true)) := by
  unfold Gen.K01de.toAlphaNumericChar QRDec.toAlnumChar
  rw [k_alnumTable]
  have hl : len (bytes QRDec.alnumChars) = 45 := by decide
  rw [hl]
  by_cases h : v < 45
  · have h' : ¬ ((v : Int) ≥ 45) := by omega
    simp only [h', decide_false, Bool.false_eq_true, if_false]
    unfold bytes
    rw [idx_bytes]
    have : v < QRDec.alnumChars.length := h
    rw [List.getElem?_eq_getElem this]
    rfl
  · have h' : ((v : Int) ≥ 45) := by omega
    have : QRDec.alnumChars[v]? = none := List.getElem?_eq_none (by show QRDec.alnumChars.length ≤ v; have : QRDec.alnumChars.length = 45 := rfl; omega)
    simp only [h', decide_true, if_true, this]

theorem toAlnum_lt (v : Nat) (h : v < 45) : ∃ c, QRDec.toAlnumChar v = .ok c := by
  unfold QRDec.toAlnumChar
  have : v < QRDec.alnumChars.length := h
  rw [List.getElem?_eq_getElem this]
  exact ⟨_, rfl⟩

/-! ### the FNC1 loop -/

theorem len_bytes (l : List Nat) : len (bytes l) = ((l.length : Nat) : Int) := len_words l

theorem bytes_seam (pre : List Nat) (c : Nat) (rest : List Nat) : bytes (pre ++ c :: rest) = bytes pre ++ (c : Int) :: bytes rest := by
  simp [bytes]

theorem idx_mid (pre : List Nat) (c : Nat) (rest : List Nat) :
    idx (bytes (pre ++ c :: rest)) ((pre.length : Nat) : Int) = .ok (c : Int) := by
  rw [bytes_seam, idx_seam _ _ _ _ (by rw [bytes_length])]

theorem idx_mid1 (pre : List Nat) (c d : Nat) (rest : List Nat) :
    idx (bytes (pre ++ c :: d :: rest)) (((pre.length : Nat) : Int) + 1) = .ok (d : Int) := by
  rw [show pre ++ c :: d :: rest = (pre ++ [c]) ++ d :: rest by simp, bytes_seam,
    idx_seam _ _ _ _ (by rw [bytes_length, List.length_append, List.length_singleton, Int.natCast_succ])]

theorem delAt_mid (pre : List Nat) (c : Nat) (rest : List Nat) :
    delAt (bytes (pre ++ c :: rest)) ((pre.length : Nat) : Int) = .ok (bytes (pre ++ rest)) := by
  unfold delAt
  have hl : (bytes (pre ++ c :: rest)).length = pre.length + 1 + rest.length := by simp [bytes]; omega
  rw [if_pos ⟨by omega, by rw [hl]; omega⟩, Int.toNat_natCast]
  congr 1
  have e : bytes (pre ++ c :: rest) = (bytes pre ++ [(c : Int)]) ++ bytes rest := by simp [bytes]
  have ht : (bytes (pre ++ c :: rest)).take pre.length = bytes pre := by
    rw [e, List.append_assoc, List.take_left' (by simp [bytes])]
  have hd : (bytes (pre ++ c :: rest)).drop (pre.length + 1) = bytes rest := by
    rw [e, List.drop_left' (by simp [bytes])]
  rw [ht, hd]
  simp [bytes]

theorem setIdx_mid (pre : List Nat) (c v : Nat) (rest : List Nat) :
    setIdx (bytes (pre ++ c :: rest)) ((pre.length : Nat) : Int) (v : Int) = .ok (bytes (pre ++ v :: rest)) := by
  rw [bytes_seam, bytes_seam, setIdx_seam _ _ _ _ _ (by rw [bytes_length])]

when_kernel Gzx.Gen.K01de.decodeAlphanumericSegment in
/-- the in-place FNC1 loop over `result[i:]` = the model's `fnc1Massage` of that suffix -/
theorem k_fnc1_loop : ∀ (todo pre : List Nat) (fuel : Nat), todo.length < fuel →
    whileLoop (ρ := List Int × Bool × Int × Int × List Int) Gen.K01de.decodeAlphanumericSegment_body2 fuel
        (bytes (pre ++ todo), ((pre.length : Nat) : Int)) =
      .brk (bytes (pre ++ QRDec.fnc1Massage todo), (((pre ++ QRDec.fnc1Massage todo).length : Nat) : Int)) := by
  -- a settled element `x` moves from the work list to the finished prefix
  have adv : ∀ (pre : List Nat) (x : Nat) (rest : List Nat), (bytes (pre ++ x :: rest), ((pre.length : Nat) : Int) + 1) =
      (bytes ((pre ++ [x]) ++ rest), (((pre ++ [x]).length : Nat) : Int)) := by
    intro pre x rest
    rw [List.append_assoc, List.length_append, List.length_singleton, Int.natCast_succ]
    rfl
  have hlt : ∀ (pre : List Nat) (c : Nat) (rest : List Nat),
      ((pre.length : Nat) : Int) < (((pre ++ c :: rest).length : Nat) : Int) := by
    intro pre c rest
    rw [List.length_append, List.length_cons]; omega
  have hlt1 : ∀ (pre : List Nat) (c d : Nat) (rest : List Nat),
      ((pre.length : Nat) : Int) < (((pre ++ c :: d :: rest).length : Nat) : Int) - 1 := by
    intro pre c d rest
    rw [List.length_append, List.length_cons, List.length_cons]; omega
  have e37 : (((37 : Nat) : Int) == 37) = true := rfl
  have e29 : (29 : Int) = ((29 : Nat) : Int) := rfl
  have ne37 : ∀ c : Nat, c ≠ 37 → (((c : Nat) : Int) == 37) = false := by
    intro c h
    simp; omega
  intro todo
  induction todo using QRDec.fnc1Massage.induct with
  | case1 rest ih =>
    intro pre fuel hf
    obtain ⟨fuel, rfl⟩ := Nat.exists_eq_add_one_of_ne_zero (Nat.ne_zero_of_lt hf)
    rw [whileLoop_succ, QRDec.fnc1Massage.eq_1, List.append_cons pre 37 (QRDec.fnc1Massage rest),
      ← ih (pre ++ [37]) fuel (by simp at hf; omega), ← adv]
    simp only [Gen.K01de.decodeAlphanumericSegment_body2, len_bytes, hlt, hlt1, decide_true, if_true, idx_mid, idx_mid1, tryC_ok,
      e37, delAt_mid, next_thenC]
  | case2 rest hno ih =>
    intro pre fuel hf
    obtain ⟨fuel, rfl⟩ := Nat.exists_eq_add_one_of_ne_zero (Nat.ne_zero_of_lt hf)
    rw [whileLoop_succ, QRDec.fnc1Massage.eq_2 rest hno, List.append_cons pre 29 (QRDec.fnc1Massage rest),
      ← ih (pre ++ [29]) fuel (by simp at hf; omega), ← adv]
    cases rest with
    | nil =>
      have hlt0 : ¬ (((pre.length : Nat) : Int) < (((pre ++ [37]).length : Nat) : Int) - 1) := by simp
      simp only [Gen.K01de.decodeAlphanumericSegment_body2, len_bytes, hlt, hlt0, decide_true, decide_false, if_true, idx_mid,
        tryC_ok, e37, Bool.false_eq_true, if_false, e29, setIdx_mid, next_thenC]
    | cons d r =>
      simp only [Gen.K01de.decodeAlphanumericSegment_body2, len_bytes, hlt, hlt1, decide_true, if_true, idx_mid, idx_mid1,
        tryC_ok, e37, ne37 d fun h => hno r (by rw [h]), Bool.false_eq_true, if_false, e29, setIdx_mid, next_thenC]
  | case3 c rest hc1 hc2 ih =>
    intro pre fuel hf
    obtain ⟨fuel, rfl⟩ := Nat.exists_eq_add_one_of_ne_zero (Nat.ne_zero_of_lt hf)
    rw [whileLoop_succ, QRDec.fnc1Massage.eq_3 c rest hc1 hc2, List.append_cons pre c (QRDec.fnc1Massage rest),
      ← ih (pre ++ [c]) fuel (by simp at hf; omega), ← adv]
    simp only [Gen.K01de.decodeAlphanumericSegment_body2, len_bytes, hlt, decide_true, if_true, idx_mid, tryC_ok, ne37 c hc2,
      Bool.false_eq_true, if_false, next_thenC]
  | case4 =>
    intro pre fuel hf
    obtain ⟨fuel, rfl⟩ := Nat.exists_eq_add_one_of_ne_zero (Nat.ne_zero_of_lt hf)
    have hlt0 : ¬ (((pre.length : Nat) : Int) < (((pre ++ []).length : Nat) : Int)) := by simp
    rw [whileLoop_succ]
    simp only [Gen.K01de.decodeAlphanumericSegment_body2, len_bytes, hlt0, decide_false, Bool.false_eq_true, if_false]
    simp [QRDec.fnc1Massage]

/-! ### the pair loop -/

def alnumPairs : Nat → List Bool → List Nat → Res (List Nat × List Bool)
  | 0, bits, acc => .ok (acc, bits)
  | k + 1, bits, acc =>
    match QRDec.readBitsF 11 bits with
    | .error e => .error e
    | .ok (v, bits) =>
      match QRDec.toAlnumChar (v / 45) with
      | .error e => .error e
      | .ok c1 =>
        match QRDec.toAlnumChar (v % 45) with
        | .error e => .error e
        | .ok c2 => alnumPairs k bits (acc ++ [c1, c2])

theorem decodeAlnumRaw_split : ∀ (k count : Nat) (bits : List Bool) (acc : List Nat), count / 2 = k →
    QRDec.decodeAlnumRaw count bits acc =
      match alnumPairs k bits acc with
      | .error e => .error e
      | .ok (acc', bits') => QRDec.decodeAlnumRaw (count % 2) bits' acc' := by
  intro k
  induction k with
  | zero =>
    intro count bits acc h
    have : count % 2 = count := by omega
    simp only [alnumPairs, this]
  | succ k ih =>
    intro count bits acc h
    obtain ⟨n, rfl⟩ : ∃ n, count = n + 2 := ⟨count - 2, by omega⟩
    have hm : (n + 2) % 2 = n % 2 := Nat.add_mod_right n 2
    simp only [QRDec.decodeAlnumRaw, alnumPairs, bind, Except.bind, hm]
    cases QRDec.readBitsF 11 bits with
    | error e => rfl
    | ok p =>
      obtain ⟨v, bits'⟩ := p
      simp only
      cases QRDec.toAlnumChar (v / 45) with
      | error e => rfl
      | ok c1 =>
        simp only
        cases QRDec.toAlnumChar (v % 45) with
        | error e => rfl
        | ok c2 => exact ih n bits' _ (by omega)

theorem alnumPairs_length : ∀ (k : Nat) (bits : List Bool) (acc acc' : List Nat) (rest : List Bool),
    alnumPairs k bits acc = .ok (acc', rest) → acc'.length = acc.length + 2 * k := by
  intro k
  induction k with
  | zero => intro bits acc acc' rest h; simp only [alnumPairs] at h; cases h; rfl
  | succ k ih =>
    intro bits acc acc' rest h
    simp only [alnumPairs] at h
    split at h
    · cases h
    · split at h
      · cases h
      · split at h
        · cases h
        · have := ih _ _ _ _ h
          simp at this
          omega

when_kernel Gzx.Gen.K01de.decodeAlphanumericSegment in
/-- the `for count > 1` loop = `count / 2` pairs of the model (`result` = the prefix followed by the model's accumulator) -/
theorem k_alnum_loop (fb : Nat) (hfb : 5 ≤ fb) (pre : List Nat) : ∀ (k count : Nat) (s : BitSource) (acc : List Nat) (fl : Nat),
    Stream s → count / 2 = k → k < fl →
    match alnumPairs k (unread s) acc with
    | .ok (acc', rest) => ∃ s',
        whileLoop (Gen.K01de.decodeAlphanumericSegment_body1 fb (bytes s.bytes)) fl
            ((s.byteOffset : Int), (s.bitOffset : Int), bytes (pre ++ acc), (count : Int)) =
          .brk ((s'.byteOffset : Int), (s'.bitOffset : Int), bytes (pre ++ acc'), ((count % 2 : Nat) : Int)) ∧
        unread s' = rest ∧ Stream s' ∧ s'.bytes = s.bytes
    | .error _ => ∃ r a b,
        whileLoop (Gen.K01de.decodeAlphanumericSegment_body1 fb (bytes s.bytes)) fl
            ((s.byteOffset : Int), (s.bitOffset : Int), bytes (pre ++ acc), (count : Int)) = .ret (r, true, a, b, r) := by
  intro k
  induction k with
  | zero =>
    intro count s acc fl hs hk hf
    obtain ⟨fl, rfl⟩ := Nat.exists_eq_add_one_of_ne_zero (Nat.ne_zero_of_lt hf)
    have h3 : ¬ ((count : Int) > 1) := by omega
    have hm : count % 2 = count := by omega
    simp only [alnumPairs]
    refine ⟨s, ?_, rfl, hs, rfl⟩
    rw [whileLoop_succ]
    simp only [Gen.K01de.decodeAlphanumericSegment_body1, h3, decide_false, Bool.false_eq_true, if_false, hm]
  | succ k ih =>
    intro count s acc fl hs hk hf
    obtain ⟨fl, rfl⟩ := Nat.exists_eq_add_one_of_ne_zero (Nat.ne_zero_of_lt hf)
    have h2 : 2 ≤ count := by omega
    have hk' : (count - 2) / 2 = k := by omega
    have hm : (count - 2) % 2 = count % 2 := by omega
    have h3 : (count : Int) > 1 := Int.ofNat_lt.mpr h2
    have hrb := k_readBits_stream s hs 11 11 rfl fb hfb
    simp only [alnumPairs]
    rw [whileLoop_succ]
    simp only [Gen.K01de.decodeAlphanumericSegment_body1, h3, decide_true, if_true]
    generalize QRDec.readBitsF 11 (unread s) = q at hrb
    match q, hrb with
    | .error _, hr =>
      simp only [hr, tryC_ok]
      exact ⟨_, _, _, rfl⟩
    | .ok (v, rest), ⟨s1, hr, hu, hst, hby⟩ =>
      have d1 : Int.tdiv (v : Int) 45 = ((v / 45 : Nat) : Int) := tdiv_natCast v 45
      have d2 : Int.tmod (v : Int) 45 = ((v % 45 : Nat) : Int) := tmod_natCast v 45
      obtain ⟨c2, hc2⟩ := toAlnum_lt (v % 45) (Nat.mod_lt _ (by decide))
      simp only [hr, tryC_ok, d1, d2, k_toAlphaNumericChar_eq, hc2]
      cases hc1 : QRDec.toAlnumChar (v / 45) with
      | error e => exact ⟨_, _, _, rfl⟩
      | ok c1 =>
        have hc : (count : Int) - 2 = ((count - 2 : Nat) : Int) := (Int.natCast_sub h2).symm
        simp only [Bool.false_eq_true, if_false, List.append_assoc, hc, bne_self_eq_false]
        have ih' := ih (count - 2) s1 (acc ++ [c1, c2]) fl hst hk' (Nat.lt_of_succ_lt_succ hf)
        rw [hby, hu, hm, ← List.append_assoc, bytes_append] at ih'
        exact ih'

when_kernel Gzx.Gen.K01de.decodeAlphanumericSegment in
/-- `DecodedBitStreamParser_decodeAlphanumericSegment(bits, result, count, fc1InEffect)` = the bit-list model `QRDec.decodeAlnum`
    on the unread bits, for EVERY stream, count, prefix `result` and FNC1 flag (fuel ≥ 5 and above `count`): the model's
    characters — after the FNC1 rule when the flag is set, applied to the NEW characters only (`start = len(result)`) — are appended,
    the cursor is where the model's remaining bits start, the error flag is set exactly when the model fails -/
theorem k_decodeAlphanumericSegment_eq (s : BitSource) (hs : Stream s) (count : Nat) (pre : List Nat) (fnc1 : Bool) (fuel : Nat)
    (hf5 : 5 ≤ fuel) (hfc : count < fuel) :
    match QRDec.decodeAlnum count (unread s) fnc1 with
    | .ok (cs, rest) => ∃ s',
        Gen.K01de.decodeAlphanumericSegment fuel (bytes s.bytes) (s.byteOffset : Int) (s.bitOffset : Int) (bytes pre) (count : Int) fnc1 =
          .ok (bytes (pre ++ cs), false, (s'.byteOffset : Int), (s'.bitOffset : Int), bytes (pre ++ cs)) ∧
        unread s' = rest ∧ Stream s' ∧ s'.bytes = s.bytes
    | .error _ => ∃ r a b,
        Gen.K01de.decodeAlphanumericSegment fuel (bytes s.bytes) (s.byteOffset : Int) (s.bitOffset : Int) (bytes pre) (count : Int) fnc1 =
          .ok (r, true, a, b, r) := by
  have hl := k_alnum_loop fuel hf5 pre (count / 2) count s [] fuel hs rfl (by omega)
  rw [List.append_nil] at hl
  simp only [QRDec.decodeAlnum, bind, Except.bind]
  rw [decodeAlnumRaw_split (count / 2) count _ _ rfl]
  generalize hn : alnumPairs (count / 2) (unread s) [] = res at hl
  match res, hl with
  | .error _, ⟨r, a, b, hw⟩ =>
    simp only [Gen.K01de.decodeAlphanumericSegment, hw, ret_thenR]
    exact ⟨r, a, b, rfl⟩
  | .ok (acc1, rest1), ⟨s1, hw, hu, hst, hby⟩ =>
    have hlen := alnumPairs_length _ _ _ _ _ hn
    simp only [List.length_nil, Nat.zero_add] at hlen
    simp only [Gen.K01de.decodeAlphanumericSegment, hw, brk_thenR, len_bytes]
    -- the FNC1 pass over the new characters `acc` (or none), common to an even and an odd count
    have tail : ∀ (acc : List Nat) (a b : Int), acc.length < fuel →
        ((if fnc1 = true then
            (whileLoop Gen.K01de.decodeAlphanumericSegment_body2 fuel (bytes (pre ++ acc), ((pre.length : Nat) : Int))).thenC
              fun st => Ctl.next st.1
          else Ctl.next (bytes (pre ++ acc)) : Ctl (List Int) (List Int × Bool × Int × Int × List Int)).thenR
            fun st => Except.ok (st, false, a, b, st)) =
          .ok (bytes (pre ++ if fnc1 = true then QRDec.fnc1Massage acc else acc), false, a, b,
            bytes (pre ++ if fnc1 = true then QRDec.fnc1Massage acc else acc)) := by
      intro acc a b h
      cases fnc1
      · rfl
      · rw [if_pos rfl, k_fnc1_loop acc pre fuel h]
        rfl
    have hr2 : count % 2 < 2 := Nat.mod_lt _ (by decide)
    generalize hrr : count % 2 = r at hr2
    have rb6 := k_readBits_stream s1 hst 6 6 rfl fuel hf5
    rw [hby, hu] at rb6
    match r, hr2 with
    | 0, _ =>
      simp only [QRDec.decodeAlnumRaw, show (((0 : Nat) : Int) == 1) = false from rfl, Bool.false_eq_true, if_false, next_thenR]
      exact ⟨s1, tail acc1 _ _ (by omega), hu, hst, hby⟩
    | 1, _ =>
      simp only [QRDec.decodeAlnumRaw, bind, Except.bind, show (((1 : Nat) : Int) == 1) = true from rfl, if_true]
      generalize QRDec.readBitsF 6 rest1 = q at rb6
      match q, rb6 with
      | .error _, hr =>
        simp only [hr, tryC_ok]
        exact ⟨_, _, _, rfl⟩
      | .ok (v, rest2), ⟨s2, hr, hu2, hst2, hby2⟩ =>
        simp only [hr, tryC_ok, k_toAlphaNumericChar_eq]
        cases hc : QRDec.toAlnumChar v with
        | error e => exact ⟨_, _, _, rfl⟩
        | ok c =>
          have hacc : bytes (pre ++ acc1) ++ [(c : Int)] = bytes (pre ++ (acc1 ++ [c])) :=
            (bytes_append (pre ++ acc1) [c]).symm.trans (congrArg bytes (List.append_assoc pre acc1 [c]))
          simp only [bne_self_eq_false, Bool.false_eq_true, if_false, next_thenR, hacc]
          exact ⟨s2, tail (acc1 ++ [c]) _ _ (by rw [List.length_append, List.length_singleton]; omega), hu2, hst2, hby2⟩

/-- non-vacuity: "A%%" with FNC1 in effect: pair (10, 38) = 488 in 11 bits, single 38 in 6 bits; `%%` becomes `%` -/
example : Stream (BitSource.new [0x3D, 0x13, 0x00]) := stream_new _ (by decide)
example : Gen.K01de.decodeAlphanumericSegment 5 (bytes [0x3D, 0x13, 0x00]) 0 0 [] 3 true =
    .ok ([65, 37], false, 2, 1, [65, 37]) := by decide

end Gzx.Obligations.K01e
