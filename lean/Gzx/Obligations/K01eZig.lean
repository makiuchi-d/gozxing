/-
  K01e (bit_matrix_parser.go) — the ZIG-ZAG READ LOOP of `BitMatrixParser.ReadCodewords` (column pairs from the right, skipping
  column 6, alternately upwards and downwards, two modules per row, modules of the function pattern skipped, eight bits packed
  into a byte of `result`), regenerated on every run as a region (`Gzx.Gen.K01de.zigzag`, kind regionq: both matrices abstract),
  proved equal to the model's reading order: the loop performs exactly `packBit` on the data bits of `QRDec.zigzagCells dim` in
  that order (`QRDec.readDataBits`), for every pair of lawful matrices (unmasked symbol, function pattern) of every dimension.
-/
import Gzx.Obligations.K01eMirror
import Gzx.Gen.K01de
namespace Gzx.Obligations.K01e
open Gzx Gzx.GoM Gzx.GoVal Gzx.QRDec Gzx.Obligations.K01d

/-- the packing state of the Go loop: (result, resultOffset, currentByte, bitsRead) -/
abbrev ZSt := List Nat × Nat × Nat × Nat

/-- the Go values of a packing state -/
def encZ (st : ZSt) : List Int × Int × Int × Int := (bytes st.1, (st.2.1 : Int), (st.2.2.1 : Int), (st.2.2.2 : Int))

/-- one data bit: shift it into `currentByte`; the eighth bit stores the byte (index-checked) and resets the two counters -/
def packBit (st : ZSt) (b : Bool) : Res ZSt :=
  let cur := 2 * st.2.2.1 + b.toNat
  if st.2.2.2 + 1 = 8 then
    (if st.2.1 < st.1.length then .ok (st.1.set st.2.1 (cur % 256), st.2.1 + 1, 0, 0) else .error oob)
  else .ok (st.1, st.2.1, cur, st.2.2.2 + 1)

/-- one module: skipped when the function pattern covers it -/
def cellStep (F A : Matrix) (st : ZSt) (xy : Nat × Nat) : Res ZSt :=
  if getV F xy.1 xy.2 then .ok st else packBit st (getV A xy.1 xy.2)

theorem setIdx_bytes (res : List Nat) (off v : Nat) :
    setIdx (bytes res) (off : Int) (v : Int) = if off < res.length then .ok (bytes (res.set off v)) else .error oob := by
  have h := setIdx_words res (off : Int) (v : Int) off v rfl rfl
  unfold Bits.setWord at h
  rw [show bytes res = words res from rfl, h]
  split <;> rfl

section
variable {M : Type} (ops : MatOps M) (abs : M → Matrix) (law : GetLaw ops abs)
include law

when_kernel Gzx.Gen.K01de.zigzag in
theorem k_zz_body3 (fp m : M) (j i col : Nat) (hj : col ≤ j) (st : ZSt) :
    Gen.K01de.zigzag_body3 ops fp m (j : Int) (i : Int) (col : Int) (encZ st) =
      ofRes ((cellStep (abs fp) (abs m) st (j - col, i)).map encZ) := by
  obtain ⟨res, off, cur, k⟩ := st
  have ej : (j : Int) - (col : Int) = ((j - col : Nat) : Int) := by omega
  simp only [Gen.K01de.zigzag_body3, encZ, ej, get_v ops abs law, cellStep]
  cases hF : getV (abs fp) (j - col) i with
  | true => simp [Except.map, encZ]
  | false =>
    have hcur : ∀ b : Bool, (if b then ior (ishl (cur : Int) 1) 1 else ishl (cur : Int) 1) = ((2 * cur + b.toNat : Nat) : Int) := by
      intro b
      rw [show ishl (cur : Int) 1 = ((cur <<< 1 : Nat) : Int) from ishl_natCast cur 1]
      cases b
      · rw [if_neg Bool.false_ne_true, Nat.shiftLeft_eq]
        exact congrArg Nat.cast (Nat.mul_comm cur 2)
      · rw [if_pos rfl, show ior ((cur <<< 1 : Nat) : Int) 1 = _ from ior_natCast (cur <<< 1) 1, shl1_or1]
        rfl
    simp only [Bool.not_false, if_true, hcur, packBit]
    by_cases h8 : k + 1 = 8
    · have h8' : (((k : Int) + 1) == 8) = true := by simp; omega
      simp only [h8, h8', if_true, wrap_natCast, setIdx_bytes]
      split <;> simp [Except.map, encZ]
    · have h8' : (((k : Int) + 1) == 8) = false := by simp; omega
      simp [h8, h8', Except.map, encZ]

/-- one row of a column pair: the modules `(j, i)` and `(j-1, i)` -/
def rowStep (F A : Matrix) (dim j : Nat) (up : Bool) (st : ZSt) (count : Nat) : Res ZSt :=
  [(j, if up then dim - 1 - count else count), (j - 1, if up then dim - 1 - count else count)].foldlM (cellStep F A) st

/-- one column pair: all rows, upwards or downwards -/
def colStep (F A : Matrix) (dim : Nat) (st : ZSt) (ju : Nat × Bool) : Res ZSt :=
  (List.range dim).foldlM (rowStep F A dim ju.1 ju.2) st

when_kernel Gzx.Gen.K01de.zigzag in
theorem k_zz_body2 (fp m : M) (dim j count : Nat) (up : Bool) (hj : 1 ≤ j) (hc : count < dim) (st : ZSt) :
    Gen.K01de.zigzag_body2 ops (dim : Int) fp up m (j : Int) (count : Int) (encZ st) =
      ofRes ((rowStep (abs fp) (abs m) dim j up st count).map encZ) := by
  have hi : (if up then ((dim : Int) - 1) - (count : Int) else (count : Int)) =
      (((if up then dim - 1 - count else count) : Nat) : Int) := by cases up <;> simp <;> omega
  have ht : tripUp 0 2 1 = 2 := by decide
  simp only [Gen.K01de.zigzag_body2, hi]
  show (loop _ 1 (tripUp 0 2 1) ((0 : Nat) : Int) (encZ st)).thenC (fun st => Ctl.next st) = _
  rw [loop_up_fold' encZ (fun st col => cellStep (abs fp) (abs m) st (j - col, if up then dim - 1 - count else count)) 0 2 st rfl ht rfl
      (fun col _ hc2 st => k_zz_body3 ops abs law fp m j _ col (by omega) st), ofRes_thenC_next]
  rfl

when_kernel Gzx.Gen.K01de.zigzag in
theorem k_zz_col (fp m : M) (dim j : Nat) (up : Bool) (hj : 1 ≤ j) (st : ZSt) :
    loop (ρ := List Int × Int × M) (Gen.K01de.zigzag_body2 ops (dim : Int) fp up m (j : Int)) 1 (tripUp 0 (dim : Int) 1) 0 (encZ st) =
      ofRes ((colStep (abs fp) (abs m) dim st (j, up)).map encZ) := by
  have ht : tripUp 0 (dim : Int) 1 = dim := by rw [tripUp_one]; omega
  unfold colStep
  rw [List.range_eq_range']
  exact loop_up_fold' encZ (rowStep (abs fp) (abs m) dim j up) 0 dim st rfl ht rfl
    (fun count _ hc st => k_zz_body2 ops abs law fp m dim j count up hj (by omega) st)

/-- the state of the outer loop: (readingUp, result, resultOffset, currentByte, bitsRead, j) -/
def encO (up : Bool) (st : ZSt) (j : Int) : Bool × List Int × Int × Int × Int × Int :=
  (up, bytes st.1, (st.2.1 : Int), (st.2.2.1 : Int), (st.2.2.2 : Int), j)

when_kernel Gzx.Gen.K01de.zigzag in
/-- the outer loop `for j := dimension-1; j > 0; j -= 2 { if j == 6 { j-- } … }` = the model's `colPairs` -/
theorem k_zz_outer (fp m : M) (dim : Nat) : ∀ (n jN : Nat) (jI : Int) (up : Bool) (st : ZSt) (fl : Nat),
    (jI > 0 → jI = (jN : Int)) → (jI ≤ 0 → jN = 0) → jN ≤ 2 * n → n < fl →
    match (colPairs n jN up).foldlM (colStep (abs fp) (abs m) dim) st with
    | .ok st' => ∃ up' j', whileLoop (ρ := List Int × Int × M) (Gen.K01de.zigzag_body1 ops (dim : Int) fp m) fl (encO up st jI) =
        .brk (encO up' st' j')
    | .error e => whileLoop (ρ := List Int × Int × M) (Gen.K01de.zigzag_body1 ops (dim : Int) fp m) fl (encO up st jI) = .panic e := by
  -- once `j > 0` fails, the next iteration breaks
  have stop : ∀ (jI : Int) (up : Bool) (st : ZSt) (fl : Nat), ¬ jI > 0 → ∃ up' j',
      whileLoop (ρ := List Int × Int × M) (Gen.K01de.zigzag_body1 ops (dim : Int) fp m) (fl + 1) (encO up st jI) = .brk (encO up' st j') := by
    intro jI up st fl hj0
    refine ⟨up, jI, ?_⟩
    rw [whileLoop_succ]
    simp only [Gen.K01de.zigzag_body1, encO, hj0, decide_false, Bool.false_eq_true, if_false]
  intro n
  induction n with
  | zero =>
    intro jN jI up st fl h1 h2 hb hf
    obtain ⟨fl, rfl⟩ := Nat.exists_eq_add_one.mpr (Nat.zero_lt_of_lt hf)
    exact stop jI up st fl (fun h => by have := h1 h; omega)
  | succ n ih =>
    intro jN jI up st fl h1 h2 hb hf
    obtain ⟨fl, rfl⟩ := Nat.exists_eq_add_one.mpr (Nat.zero_lt_of_lt hf)
    by_cases hpos : jI > 0
    · obtain rfl := h1 hpos
      have hN : jN > 0 := by omega
      have hb6 : ((jN : Int) == 6) = decide (jN = 6) := by rw [Bool.eq_iff_iff, beq_iff_eq, decide_eq_true_eq]; omega
      have hj2 : (if jN = 6 then (jN : Int) - 1 else (jN : Int)) = (((if jN = 6 then 5 else jN) : Nat) : Int) := by
        split <;> omega
      rw [whileLoop_succ]
      simp only [colPairs, hN, if_true, List.foldlM, bind, Except.bind]
      simp only [Gen.K01de.zigzag_body1, encO, hpos, decide_true, if_true, hb6, decide_eq_true_eq, hj2]
      have hj : 1 ≤ (if jN = 6 then 5 else jN) ∧ (if jN = 6 then 5 else jN) ≤ jN := by split <;> omega
      -- from here on only these bounds of the column `j2` (after the jump over the timing column) matter
      generalize (if jN = 6 then 5 else jN) = j2 at *
      rw [show (bytes st.1, (st.2.1 : Int), (st.2.2.1 : Int), (st.2.2.2 : Int)) = encZ st from rfl,
        k_zz_col ops abs law fp m dim j2 up hj.1 st]
      cases hc : colStep (abs fp) (abs m) dim st (j2, up) with
      | error e => simp [Except.map]
      | ok st1 =>
        simp only [Except.map, ofRes_ok, next_thenC]
        exact ih (j2 - 2) ((j2 : Int) - 2) (!up) st1 fl (by omega) (by omega) (by omega) (by omega)
    · obtain rfl := h2 (by omega)
      exact stop jI up st fl hpos

end

/-! ### the model side: the fold over `zigzagCells` is `readDataBits` -/

/-- the data bits of a cell list: modules outside the function pattern, in order -/
def dataBits (F A : Matrix) (cells : List (Nat × Nat)) : List Bool :=
  cells.filterMap (fun xy => if getV F xy.1 xy.2 then none else some (getV A xy.1 xy.2))

theorem readDataBits_eq (F A : Matrix) : ∀ (cells : List (Nat × Nat)) (acc : List Bool),
    readDataBits F A cells acc = .ok (acc.reverse ++ dataBits F A cells)
  | [], acc => by simp [readDataBits, dataBits]
  | xy :: rest, acc => by
    simp only [readDataBits, get_eq, bind, Except.bind]
    cases hF : getV F xy.1 xy.2 <;> simp [readDataBits_eq F A rest, dataBits, hF]

theorem foldlM_cells (F A : Matrix) : ∀ (cells : List (Nat × Nat)) (st : ZSt),
    cells.foldlM (cellStep F A) st = (dataBits F A cells).foldlM packBit st := by
  intro cells st
  unfold dataBits
  rw [List.foldlM_filterMap]
  congr 1
  funext st xy
  unfold cellStep
  cases getV F xy.1 xy.2 <;> rfl

theorem foldlM_flatMap {α β σ : Type} (f : α → List β) (g : σ → β → Res σ) : ∀ (l : List α) (a : σ),
    (l.flatMap f).foldlM g a = l.foldlM (fun a x => (f x).foldlM g a) a
  | [], a => rfl
  | x :: rest, a => by
    rw [List.flatMap_cons, List.foldlM_append]
    simp only [List.foldlM, bind, Except.bind]
    cases (f x).foldlM g a with
    | error e => rfl
    | ok a1 => exact foldlM_flatMap f g rest a1

theorem zz_fold_eq (F A : Matrix) (dim : Nat) (st : ZSt) :
    (colPairs dim (dim - 1) true).foldlM (colStep F A dim) st = (dataBits F A (zigzagCells dim)).foldlM packBit st := by
  rw [← foldlM_cells]
  unfold zigzagCells
  rw [foldlM_flatMap]
  congr 1
  funext st ju
  rw [foldlM_flatMap]
  rfl

when_kernel Gzx.Gen.K01de.zigzag in
/-- THE ZIG-ZAG LOOP of `ReadCodewords` = packing the model's data bits in the model's reading order: for every pair of lawful
    matrices (symbol, function pattern), every dimension, every `result` slice and every fuel above the dimension, the loop
    visits the modules of `QRDec.zigzagCells dim`, skips those of the function pattern, and packs the others MSB-first into
    `result` (an index panic exactly where `packBit` runs over the end of `result`) -/
theorem k_zigzag_eq {M : Type} (ops : MatOps M) (abs : M → Matrix) (law : GetLaw ops abs) (fp m : M) (dim : Nat)
    (res0 : List Nat) (fuel : Nat) (hf : dim < fuel) :
    Gen.K01de.zigzag ops fuel m (dim : Int) fp true (bytes res0) =
      match (dataBits (abs fp) (abs m) (zigzagCells dim)).foldlM packBit (res0, 0, 0, 0) with
      | .ok st' => .ok (bytes st'.1, (st'.2.1 : Int), m)
      | .error e => .error e := by
  have ho := k_zz_outer ops abs law fp m dim dim (dim - 1) ((dim : Int) - 1) true (res0, 0, 0, 0) fuel
    (by omega) (by omega) (by omega) hf
  simp only [zz_fold_eq, encO, Int.natCast_zero] at ho
  cases hfold : (dataBits (abs fp) (abs m) (zigzagCells dim)).foldlM packBit (res0, 0, 0, 0) with
  | error e =>
    simp only [hfold] at ho
    simp only [Gen.K01de.zigzag, ho, panic_thenR]
  | ok st' =>
    simp only [hfold] at ho
    obtain ⟨up', j', ho⟩ := ho
    simp only [Gen.K01de.zigzag, ho, brk_thenR]

/-- … and those data bits are what the model's `readDataBits` returns -/
theorem dataBits_model (F A : Matrix) (dim : Nat) :
    readDataBits F A (zigzagCells dim) [] = .ok (dataBits F A (zigzagCells dim)) := by
  rw [readDataBits_eq]; rfl

end Gzx.Obligations.K01e
