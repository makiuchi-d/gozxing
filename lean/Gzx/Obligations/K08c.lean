/-
  K08c — the Data Matrix module placement `DefaultPlacement` (datamatrix/encoder/default_placement.go):
  `GetBit / setBit / hasBit / module / utah / corner1-4 / Place`, regenerated from /repo on every run (`Gzx.Gen.K08bPlace`,
  translator kind `funcm` with the dmmirror subset) and proved to SIMULATE the reference program of ISO/IEC 16022 Annex F
  (`DMRef.placeState`, Ref/DMPlacement.lean): as long as the reference program neither leaves the mapping matrix nor runs out of
  codewords, the regenerated function does not panic and its `bits` array is the picture `K08c.paint` of the reference state
  (invariant `K08c.Inv`: same occupied cells, every assigned cell holds the bit of its codeword).  `k_place_eq` is the whole
  `Place()`: on the fresh array it returns `placeBits`, whose cells tested with `· == 1` (what `GetBit` computes: `k_getBit_eq`)
  are the reference mapping matrix `DMRef.mappingBits` (`placeBits_getBit`).  All theorems are for every matrix size; the side
  condition "the reference program stays inside" is the theorem `placement_total_injective` of Properties/C08 for the 30 sizes
  of Table 7.  `module` is tied a second time in Obligations/K08.lean (`k_moduleWrap_eq`: the wrap-around rules alone, from the
  source region); `k_module_eq` here is the whole function.  Which Go declaration each `Gen.K08bPlace.*` name stands for:
  translator/tables.d/K08c.txt (the module name's prefix K08b switches on the translator subset that has the short-circuit
  `&&` with a checked right operand, which `Place` needs).
-/
import Gzx.Gen.K08bPlace
import Gzx.KernelGuard
import Gzx.Proofs.K08c
namespace Gzx.Obligations.K08c
open Gzx Gzx.GoM Gzx.GoVal Gzx.DMRef Gzx.K08c

/-! ## `GetBit`, `setBit`, `hasBit` -/

when_kernel Gzx.Gen.K08bPlace.getBit in
/-- `GetBit(col, row)`: the checked read of cell `row*numcols+col`, compared with 1 -/
theorem k_getBit_eq (ncol : Nat) (B : List Int) (col row : Int) (c : Nat) (hc : row * (ncol : Int) + col = c) (hl : c < B.length) :
    Gen.K08bPlace.getBit ncol B col row = .ok (B[c] == 1) := by
  simp only [Gen.K08bPlace.getBit]
  rw [hc, idx_ofNat _ _ hl]; rfl

when_kernel Gzx.Gen.K08bPlace.hasBit in
/-- `hasBit(col, row)`: the cell is assigned (0 or 1, not -1) -/
theorem k_hasBit_eq (ncol : Nat) (B : List Int) (col row : Int) (c : Nat) (hc : row * (ncol : Int) + col = c) (hl : c < B.length) :
    Gen.K08bPlace.hasBit ncol B col row = .ok (decide (B[c] ≥ 0)) := by
  simp only [Gen.K08bPlace.hasBit]
  rw [hc, idx_ofNat _ _ hl]; rfl

when_kernel Gzx.Gen.K08bPlace.hasBit in
theorem k_hasBit_oob (ncol : Nat) (B : List Int) (col row : Int)
    (h : row * (ncol : Int) + col < 0 ∨ (B.length : Int) ≤ row * (ncol : Int) + col) :
    Gen.K08bPlace.hasBit ncol B col row = .error oob := by
  simp only [Gen.K08bPlace.hasBit]
  rcases h with h | h
  · rw [idx_neg _ _ h]; rfl
  · rw [idx_ge _ _ h]; rfl

when_kernel Gzx.Gen.K08bPlace.setBit in
/-- `setBit(col, row, bit)`: the checked write of 1 / 0 -/
theorem k_setBit_eq (ncol : Nat) (B : List Int) (col row : Int) (bit : Bool) (c : Nat) (hc : row * (ncol : Int) + col = c)
    (hl : c < B.length) :
    Gen.K08bPlace.setBit ncol B col row bit = .ok (B.set c (if bit then 1 else 0)) := by
  simp only [Gen.K08bPlace.setBit]
  rw [hc, setIdx_nat _ _ _ hl]
  cases bit <;> rfl

/-! ## `module` -/

theorem tmod8_cast (n : Nat) : Int.tmod ((n : Int) + 4) 8 = (((n + 4) % 8 : Nat) : Int) := by
  rw [Int.tmod_eq_emod_of_nonneg (by omega)]; omega

theorem bit_mask (bit : Nat) (h1 : 1 ≤ bit) (h8 : bit ≤ 8) :
    wrap 8 (ishl 1 (wrap 64 (8 - (bit : Int)))) = ((1 <<< (8 - bit) : Nat) : Int) := by
  have e : (8 : Int) - (bit : Int) = ((8 - bit : Nat) : Int) := by omega
  have h64 : ((8 - bit : Nat) : Int) < 2 ^ 64 := by
    have : ((8 - bit : Nat) : Int) ≤ 8 := by omega
    have : (8 : Int) < 2 ^ 64 := by decide
    omega
  rw [e, wrap_of_lt 64 _ (by omega) h64, ishl_one, wrap_natCast]
  congr 1
  apply Nat.mod_eq_of_lt
  rw [Nat.one_shiftLeft]
  calc 2 ^ (8 - bit) ≤ 2 ^ 7 := Nat.pow_le_pow_right (by decide) (by omega)
    _ < 2 ^ 8 := by decide

when_kernel Gzx.Gen.K08bPlace.module in
/-- `module(row, col, pos, bit)`: the two wrap-around rules of Annex F, the checked read of `codewords[pos]`, the mask
    `1 << (8-bit)` and the checked write of the cell — one assignment of the reference program -/
theorem k_module_eq (cw : List Nat) (nrow ncol : Nat) (B : List Int) (row col : Int) (pos bit : Nat)
    (h1 : 1 ≤ bit) (h8 : bit ≤ 8) (hpos : pos < cw.length) (cell : Nat)
    (hc : cellOf nrow ncol (wrapRC nrow ncol row col).1 (wrapRC nrow ncol row col).2 = some cell) (hl : cell < B.length) :
    Gen.K08bPlace.module (bytes cw) nrow ncol B row col pos bit = .ok (B.set cell (bitVal cw (8 * pos + (bit - 1)))) := by
  simp only [Gen.K08bPlace.module, tmod8_cast]
  have hw : wrapRC nrow ncol row col =
      ((if (if row < 0 then (row + (nrow : Int), col + (4 - (((nrow + 4) % 8 : Nat) : Int))) else (row, col)).2 < 0 then
          ((if row < 0 then (row + (nrow : Int), col + (4 - (((nrow + 4) % 8 : Nat) : Int))) else (row, col)).1 +
              (4 - (((ncol + 4) % 8 : Nat) : Int)),
            (if row < 0 then (row + (nrow : Int), col + (4 - (((nrow + 4) % 8 : Nat) : Int))) else (row, col)).2 + (ncol : Int))
        else (if row < 0 then (row + (nrow : Int), col + (4 - (((nrow + 4) % 8 : Nat) : Int))) else (row, col)))) := rfl
  -- the kernel's two `if`s compute the same pair (components swapped in the second one)
  have hr : (if decide ((if decide (row < 0) = true then (row + (nrow : Int), col + (4 - (((nrow + 4) % 8 : Nat) : Int))) else (row, col)).2 < 0) = true
        then ((if decide (row < 0) = true then (row + (nrow : Int), col + (4 - (((nrow + 4) % 8 : Nat) : Int))) else (row, col)).1 +
                (4 - (((ncol + 4) % 8 : Nat) : Int)),
              (if decide (row < 0) = true then (row + (nrow : Int), col + (4 - (((nrow + 4) % 8 : Nat) : Int))) else (row, col)).2 +
                (ncol : Int))
        else ((if decide (row < 0) = true then (row + (nrow : Int), col + (4 - (((nrow + 4) % 8 : Nat) : Int))) else (row, col)).1,
              (if decide (row < 0) = true then (row + (nrow : Int), col + (4 - (((nrow + 4) % 8 : Nat) : Int))) else (row, col)).2)) =
      wrapRC nrow ncol row col := by
    rw [hw]
    by_cases hrow : row < 0 <;> simp only [hrow, decide_true, decide_false, if_true, if_false, Bool.false_eq_true]
    · by_cases hcol : col + (4 - (((nrow + 4) % 8 : Nat) : Int)) < 0 <;> simp
    · by_cases hcol : col < 0 <;> simp [hcol]
  rw [hr, bytes, idx_bytes, List.getElem?_eq_getElem hpos]
  simp only [tryR_ok]
  rw [bit_mask bit h1 h8, iand_natCast, natCast_bne_zero,
    k_setBit_eq ncol B _ _ _ cell (cell_cast hc) hl]
  congr 2
  unfold bitVal
  have e1 : (8 * pos + (bit - 1)) / 8 = pos := by omega
  have e2 : 7 - (8 * pos + (bit - 1)) % 8 = 8 - bit := by omega
  rw [e1, e2, List.getD_eq_getElem?_getD, List.getElem?_eq_getElem hpos]
  simp

/-! ## `module`, `utah`, `corner1-4` simulate the reference program -/

variable {nrow ncol : Nat} {cw : List Nat}

when_kernel Gzx.Gen.K08bPlace.module in
/-- one assignment: `module` on related states yields related states (while the reference program is fine) -/
theorem module_sim {B : List Int} {st : PState} (hI : Inv nrow ncol cw B st) (pos bit : Nat) (h1 : 1 ≤ bit) (h8 : bit ≤ 8)
    (hlen : st.seq.length = 8 * pos + (bit - 1)) (row col : Int) (hg : Good cw.length (DMRef.module nrow ncol st row col)) :
    ∃ B', Gen.K08bPlace.module (bytes cw) nrow ncol B row col pos bit = .ok B' ∧
      Inv nrow ncol cw B' (DMRef.module nrow ncol st row col) ∧
      (DMRef.module nrow ncol st row col).seq.length = 8 * pos + bit := by
  rw [module_eq] at hg ⊢
  cases hc : cellOf nrow ncol (wrapRC nrow ncol row col).1 (wrapRC nrow ncol row col).2 with
  | none => rw [hc] at hg; exact absurd hg not_good_bad
  | some cell =>
    rw [hc] at hg
    have hl2 := hg.2
    simp only [List.length_cons] at hl2
    have hpos : pos < cw.length := by omega
    have hcl : cell < B.length := by rw [hI.len]; exact cell_lt hc
    refine ⟨_, k_module_eq cw nrow ncol B row col pos bit h1 h8 hpos cell hc hcl, ?_, ?_⟩
    · rw [← hlen]; exact inv_assign hI cell (cell_lt hc)
    · simp only [List.length_cons]; omega

when_kernel Gzx.Gen.K08bPlace.module in
/-- a run of `module` calls with consecutive bit numbers (what `utah` and the corner functions are) -/
def chainK (cws : List Int) (nrows ncols pos : Int) : List (Int × Int) → Int → List Int → Res (List Int)
  | [], _, B => .ok B
  | (r, c) :: rest, bit, B =>
    tryR (Gen.K08bPlace.module cws nrows ncols B r c pos bit) fun B' => chainK cws nrows ncols pos rest (bit + 1) B'

when_kernel Gzx.Gen.K08bPlace.module in
theorem chain_sim (pos : Nat) : ∀ (cells : List (Int × Int)) (bit : Nat) (B : List Int) (st : PState),
    Inv nrow ncol cw B st → 1 ≤ bit → bit - 1 + cells.length ≤ 8 → st.seq.length = 8 * pos + (bit - 1) →
    Good cw.length (moduleList nrow ncol st cells) →
    ∃ B', chainK (bytes cw) nrow ncol pos cells bit B = .ok B' ∧ Inv nrow ncol cw B' (moduleList nrow ncol st cells) ∧
      (moduleList nrow ncol st cells).seq.length = 8 * pos + (bit - 1) + cells.length := by
  intro cells
  induction cells with
  | nil => intro bit B st hI _ _ hlen _; exact ⟨B, rfl, hI, by simpa [moduleList] using hlen⟩
  | cons rc rest ih =>
    intro bit B st hI h1 h8 hlen hg
    obtain ⟨r, c⟩ := rc
    simp only [List.length_cons] at h8
    have hg1 : Good cw.length (DMRef.module nrow ncol st r c) := good_moduleList rest _ hg
    obtain ⟨B1, e1, I1, l1⟩ := module_sim hI pos bit h1 (by omega) hlen r c hg1
    obtain ⟨B2, e2, I2, l2⟩ := ih (bit + 1) B1 (DMRef.module nrow ncol st r c) I1 (by omega) (by omega)
      (by rw [l1]; omega) hg
    refine ⟨B2, ?_, I2, ?_⟩
    · simp only [chainK, e1, tryR_ok]
      rw [show ((bit : Int) + 1) = ((bit + 1 : Nat) : Int) by omega]
      exact e2
    · show (moduleList nrow ncol (DMRef.module nrow ncol st r c) rest).seq.length = _
      rw [l2]; simp only [List.length_cons]; omega

when_kernel Gzx.Gen.K08bPlace.utah in
theorem utah_chain (cws : List Int) (nrows ncols : Int) (B : List Int) (row col pos : Int) :
    Gen.K08bPlace.utah cws nrows ncols B row col pos = chainK cws nrows ncols pos (utahCells row col) 1 B := rfl

when_kernel Gzx.Gen.K08bPlace.corner1 in
theorem corner1_chain (cws : List Int) (B : List Int) (pos : Int) :
    Gen.K08bPlace.corner1 cws nrow ncol B pos = chainK cws nrow ncol pos (corner1Cells nrow ncol) 1 B := rfl
when_kernel Gzx.Gen.K08bPlace.corner2 in
theorem corner2_chain (cws : List Int) (B : List Int) (pos : Int) :
    Gen.K08bPlace.corner2 cws nrow ncol B pos = chainK cws nrow ncol pos (corner2Cells nrow ncol) 1 B := rfl
when_kernel Gzx.Gen.K08bPlace.corner3 in
theorem corner3_chain (cws : List Int) (B : List Int) (pos : Int) :
    Gen.K08bPlace.corner3 cws nrow ncol B pos = chainK cws nrow ncol pos (corner3Cells nrow ncol) 1 B := rfl
when_kernel Gzx.Gen.K08bPlace.corner4 in
theorem corner4_chain (cws : List Int) (B : List Int) (pos : Int) :
    Gen.K08bPlace.corner4 cws nrow ncol B pos = chainK cws nrow ncol pos (corner4Cells nrow ncol) 1 B := rfl

when_kernel Gzx.Gen.K08bPlace.module in
/-- a symbol character (eight `module` calls, bits 1..8, then `pos++`) placed under a guard -/
theorem char_sim {B : List Int} {st : PState} (hI : Inv nrow ncol cw B st) (pos : Nat) (hlen : st.seq.length = 8 * pos)
    (g : Bool) (cells : List (Int × Int)) (h8 : cells.length = 8) (K : Res (List Int))
    (hK : K = chainK (bytes cw) nrow ncol pos cells 1 B)
    (hg : Good cw.length (if g = true then moduleList nrow ncol st cells else st)) :
    ∃ B' pos', ((if g = true then tryC K fun t => Ctl.next (t, (pos : Int) + 1) else Ctl.next (B, (pos : Int)) :
          Ctl (List Int × Int) (List Int))) = .next (B', ((pos' : Nat) : Int)) ∧
      Inv nrow ncol cw B' (if g = true then moduleList nrow ncol st cells else st) ∧
      (if g = true then moduleList nrow ncol st cells else st).seq.length = 8 * pos' := by
  cases g with
  | false => exact ⟨B, pos, rfl, hI, hlen⟩
  | true =>
    simp only [if_true] at hg ⊢
    obtain ⟨B', e, I', l'⟩ := chain_sim pos cells 1 B st hI (Nat.le_refl 1) (by omega) (by simpa using hlen) hg
    refine ⟨B', pos + 1, ?_, I', by rw [l', h8]; omega⟩
    have e' : chainK (bytes cw) nrow ncol pos cells 1 B = .ok B' := e
    rw [hK, e']; simp only [tryC_ok]
    congr 2

/-! ## the two diagonal sweeps -/

when_kernel Gzx.Gen.K08bPlace.hasBit in
when_kernel Gzx.Gen.K08bPlace.utah in
when_kernel Gzx.Gen.K08bPlace.place in
/-- `if GUARD && !this.hasBit(col, row) { this.utah(row, col, pos); pos++ }` as the kernel runs it -/
def condUtah (cws : List Int) (nrows ncols : Int) (g : Bool) (B : List Int) (pos r c : Int) : Ctl (List Int × Int) (List Int) :=
  tryC ((if g then (tryR (Gen.K08bPlace.hasBit ncols B c r) fun t5 => Except.ok (!t5)) else Except.ok false : Res Bool)) fun t6 =>
  if t6 then tryC (Gen.K08bPlace.utah cws nrows ncols B r c pos) fun t7 => .next (t7, pos + 1) else .next (B, pos)

when_kernel Gzx.Gen.K08bPlace.place in
theorem condUtah_sim {B : List Int} {st : PState} (hI : Inv nrow ncol cw B st) (pos : Nat) (hlen : st.seq.length = 8 * pos)
    (g : Bool) (r c : Int) (hg : Good cw.length (if g = true then tryUtah nrow ncol st r c else st)) :
    ∃ B' pos', condUtah (bytes cw) nrow ncol g B pos r c = .next (B', ((pos' : Nat) : Int)) ∧
      Inv nrow ncol cw B' (if g = true then tryUtah nrow ncol st r c else st) ∧
      (if g = true then tryUtah nrow ncol st r c else st).seq.length = 8 * pos' := by
  cases g with
  | false => exact ⟨B, pos, rfl, hI, hlen⟩
  | true =>
    simp only [if_true] at hg ⊢
    obtain ⟨_, hoob⟩ := good_tryUtah hg
    have hocc : occupied nrow ncol st r c = ((occupied nrow ncol st r c).1, false) := by rw [← hoob]
    obtain ⟨h0, h1, ho⟩ := occupied_inside hocc
    have hcl : (r * (ncol : Int) + c).toNat < B.length := by
      rw [hI.len]
      have : ((nrow * ncol : Nat) : Int) = (nrow : Int) * (ncol : Int) := Int.natCast_mul _ _
      omega
    have hhas := k_hasBit_eq ncol B c r (r * (ncol : Int) + c).toNat (by omega) hcl
    have hb := hI.occ (r * (ncol : Int) + c).toNat (by rw [← hI.len]; exact hcl)
    rw [List.getD_eq_getElem?_getD, List.getElem?_eq_getElem hcl, Option.getD_some] at hb
    rw [tryUtah_eq] at hg ⊢
    simp only [hoob, Bool.false_eq_true, if_false] at hg ⊢
    unfold condUtah
    simp only [if_true, hhas, tryR_ok, tryC_ok, ← hb, ← ho]
    cases hoc : (occupied nrow ncol st r c).1 with
    | true =>
      simp only [hoc, if_true] at hg ⊢
      exact ⟨B, pos, rfl, hI, hlen⟩
    | false =>
      simp only [hoc, Bool.false_eq_true, if_false, Bool.not_false, if_true] at hg ⊢
      obtain ⟨B', pos', e, I', l'⟩ := char_sim hI pos hlen true (utahCells r c) rfl _
        (utah_chain (bytes cw) nrow ncol B r c pos) (by simpa using hg)
      simp only [if_true] at e I' l'
      exact ⟨B', pos', e, I', l'⟩

when_kernel Gzx.Gen.K08bPlace.place in
theorem body2_eq (cws : List Int) (nrows ncols : Int) (B : List Int) (pos r c : Int) :
    Gen.K08bPlace.place_body2 cws nrows ncols (B, pos, r, c) =
      (condUtah cws nrows ncols (decide (r < nrows) && decide (c ≥ 0)) B pos r c).thenC fun st =>
        if (decide (r - 2 < 0) || decide (c + 2 ≥ ncols)) then .brk (st.1, st.2, r - 2, c + 2) else .next (st.1, st.2, r - 2, c + 2) := by
  unfold Gen.K08bPlace.place_body2 condUtah
  simp only []
  generalize (if (decide (r < nrows) && decide (c ≥ 0)) = true then
    (tryR (Gen.K08bPlace.hasBit ncols B c r) fun t5 => Except.ok (!t5)) else Except.ok false : Res Bool) = X
  cases X <;> rfl

when_kernel Gzx.Gen.K08bPlace.place in
theorem body3_eq (cws : List Int) (nrows ncols : Int) (B : List Int) (pos r c : Int) :
    Gen.K08bPlace.place_body3 cws nrows ncols (B, pos, r, c) =
      (condUtah cws nrows ncols (decide (r ≥ 0) && decide (c < ncols)) B pos r c).thenC fun st =>
        if (decide (r + 2 ≥ nrows) || decide (c - 2 < 0)) then .brk (st.1, st.2, r + 2, c - 2) else .next (st.1, st.2, r + 2, c - 2) := by
  unfold Gen.K08bPlace.place_body3 condUtah
  simp only []
  generalize (if (decide (r ≥ 0) && decide (c < ncols)) = true then
    (tryR (Gen.K08bPlace.hasBit ncols B c r) fun t5 => Except.ok (!t5)) else Except.ok false : Res Bool) = X
  cases X <;> rfl

theorem ite_decide_and {α : Type} (p q : Prop) [Decidable p] [Decidable q] (a b : α) :
    (if p ∧ q then a else b) = (if (decide p && decide q) = true then a else b) := by
  by_cases hp : p <;> by_cases hq : q <;> simp [hp, hq]

when_kernel Gzx.Gen.K08bPlace.place in
/-- the upward sweep: the kernel's `for { … if row < 0 || col >= numcols { break } }` follows `DMRef.sweepUp` -/
theorem sweepUp_sim : ∀ (f kf : Nat) (st : PState) (r c : Int) (B : List Int) (pos : Nat),
    f < kf → Inv nrow ncol cw B st → st.seq.length = 8 * pos → Good cw.length (sweepUp nrow ncol f st r c).1 →
    ∃ B' pos', whileLoop (Gen.K08bPlace.place_body2 (bytes cw) nrow ncol) kf (B, ((pos : Nat) : Int), r, c) =
        .brk (B', ((pos' : Nat) : Int), (sweepUp nrow ncol f st r c).2.1, (sweepUp nrow ncol f st r c).2.2) ∧
      Inv nrow ncol cw B' (sweepUp nrow ncol f st r c).1 ∧ (sweepUp nrow ncol f st r c).1.seq.length = 8 * pos' := by
  intro f
  induction f with
  | zero => intro kf st r c B pos _ _ _ hg; exact absurd hg (by unfold sweepUp; exact not_good_bad)
  | succ f ih =>
    intro kf st r c B pos hkf hI hlen hg
    obtain ⟨kf, rfl⟩ : ∃ k, kf = k + 1 := ⟨kf - 1, by omega⟩
    rw [sweepUp_succ] at hg ⊢
    rw [whileLoop_succ, body2_eq]
    have hs1 : Good cw.length (if r < (nrow : Int) ∧ c ≥ 0 then tryUtah nrow ncol st r c else st) := by
      by_cases hc : r - 2 ≥ 0 ∧ c + 2 < (ncol : Int)
      · simp only [hc, and_self, if_true] at hg; exact good_sweepUp f _ _ _ hg
      · simp only [hc, if_false] at hg; exact hg
    rw [ite_decide_and] at hs1
    obtain ⟨B1, pos1, e1, I1, l1⟩ := condUtah_sim hI pos hlen _ r c hs1
    rw [e1]
    simp only [next_thenC]
    rw [← ite_decide_and] at I1 l1
    by_cases hc : r - 2 ≥ 0 ∧ c + 2 < (ncol : Int)
    · have hk : (decide (r - 2 < 0) || decide (c + 2 ≥ (ncol : Int))) = false := by
        rw [Bool.or_eq_false_iff]; constructor <;> simp <;> omega
      simp only [hc, and_self, if_true, hk, Bool.false_eq_true, if_false] at hg ⊢
      exact ih kf _ (r - 2) (c + 2) B1 pos1 (by omega) I1 l1 hg
    · have hk : (decide (r - 2 < 0) || decide (c + 2 ≥ (ncol : Int))) = true := by
        rw [Bool.or_eq_true]; simp only [decide_eq_true_eq]; omega
      simp only [hc, if_false, hk, if_true] at hg ⊢
      exact ⟨B1, pos1, rfl, I1, l1⟩

when_kernel Gzx.Gen.K08bPlace.place in
theorem sweepDown_sim : ∀ (f kf : Nat) (st : PState) (r c : Int) (B : List Int) (pos : Nat),
    f < kf → Inv nrow ncol cw B st → st.seq.length = 8 * pos → Good cw.length (sweepDown nrow ncol f st r c).1 →
    ∃ B' pos', whileLoop (Gen.K08bPlace.place_body3 (bytes cw) nrow ncol) kf (B, ((pos : Nat) : Int), r, c) =
        .brk (B', ((pos' : Nat) : Int), (sweepDown nrow ncol f st r c).2.1, (sweepDown nrow ncol f st r c).2.2) ∧
      Inv nrow ncol cw B' (sweepDown nrow ncol f st r c).1 ∧ (sweepDown nrow ncol f st r c).1.seq.length = 8 * pos' := by
  intro f
  induction f with
  | zero => intro kf st r c B pos _ _ _ hg; exact absurd hg (by unfold sweepDown; exact not_good_bad)
  | succ f ih =>
    intro kf st r c B pos hkf hI hlen hg
    obtain ⟨kf, rfl⟩ : ∃ k, kf = k + 1 := ⟨kf - 1, by omega⟩
    rw [sweepDown_succ] at hg ⊢
    rw [whileLoop_succ, body3_eq]
    have hs1 : Good cw.length (if r ≥ 0 ∧ c < (ncol : Int) then tryUtah nrow ncol st r c else st) := by
      by_cases hc : r + 2 < (nrow : Int) ∧ c - 2 ≥ 0
      · simp only [hc, and_self, if_true] at hg; exact good_sweepDown f _ _ _ hg
      · simp only [hc, if_false] at hg; exact hg
    rw [ite_decide_and] at hs1
    obtain ⟨B1, pos1, e1, I1, l1⟩ := condUtah_sim hI pos hlen _ r c hs1
    rw [e1]
    simp only [next_thenC]
    rw [← ite_decide_and] at I1 l1
    by_cases hc : r + 2 < (nrow : Int) ∧ c - 2 ≥ 0
    · have hk : (decide (r + 2 ≥ (nrow : Int)) || decide (c - 2 < 0)) = false := by
        rw [Bool.or_eq_false_iff]; constructor <;> simp <;> omega
      simp only [hc, and_self, if_true, hk, Bool.false_eq_true, if_false] at hg ⊢
      exact ih kf _ (r + 2) (c - 2) B1 pos1 (by omega) I1 l1 hg
    · have hk : (decide (r + 2 ≥ (nrow : Int)) || decide (c - 2 < 0)) = true := by
        rw [Bool.or_eq_true]; simp only [decide_eq_true_eq]; omega
      simp only [hc, if_false, hk, if_true] at hg ⊢
      exact ⟨B1, pos1, rfl, I1, l1⟩

/-! ## the outer loop and `Place` -/

theorem corner1Of_b (st : PState) (row col : Int) :
    corner1Of nrow ncol st row col =
      if ((row == (nrow : Int)) && (col == 0)) = true then moduleList nrow ncol st (corner1Cells nrow ncol) else st := by
  unfold corner1Of
  by_cases h1 : row = (nrow : Int) <;> by_cases h2 : col = 0 <;> simp [h1, h2]

theorem corner2Of_b (st : PState) (row col : Int) :
    corner2Of nrow ncol st row col =
      if (((row == (nrow : Int) - 2) && (col == 0)) && (Int.tmod (ncol : Int) 4 != 0)) = true then
        moduleList nrow ncol st (corner2Cells nrow ncol) else st := by
  unfold corner2Of
  have e : Int.tmod (ncol : Int) 4 = ((ncol % 4 : Nat) : Int) := by
    rw [show (4 : Int) = ((4 : Nat) : Int) from rfl, tmod_natCast]
  rw [e, natCast_bne_zero]
  by_cases h1 : row = (nrow : Int) - 2 <;> by_cases h2 : col = 0 <;> by_cases h3 : ncol % 4 = 0 <;> simp [h1, h2, h3]

theorem corner3Of_b (st : PState) (row col : Int) :
    corner3Of nrow ncol st row col =
      if (((row == (nrow : Int) - 2) && (col == 0)) && (Int.tmod (ncol : Int) 8 == 4)) = true then
        moduleList nrow ncol st (corner3Cells nrow ncol) else st := by
  unfold corner3Of
  have e : Int.tmod (ncol : Int) 8 = ((ncol % 8 : Nat) : Int) := by
    rw [show (8 : Int) = ((8 : Nat) : Int) from rfl, tmod_natCast]
  rw [e]
  have e4 : ((((ncol % 8 : Nat) : Int) == 4) : Bool) = decide (ncol % 8 = 4) := by
    by_cases h : ncol % 8 = 4
    · rw [h]; simp
    · have : ¬ ((ncol % 8 : Nat) : Int) = 4 := by omega
      rw [beq_eq_false_iff_ne.mpr this]; simp [h]
  rw [e4]
  by_cases h1 : row = (nrow : Int) - 2 <;> by_cases h2 : col = 0 <;> by_cases h3 : ncol % 8 = 4 <;> simp [h1, h2, h3]

theorem corner4Of_b (st : PState) (row col : Int) :
    corner4Of nrow ncol st row col =
      if (((row == (nrow : Int) + 4) && (col == 2)) && (Int.tmod (ncol : Int) 8 == 0)) = true then
        moduleList nrow ncol st (corner4Cells nrow ncol) else st := by
  unfold corner4Of
  have e : Int.tmod (ncol : Int) 8 = ((ncol % 8 : Nat) : Int) := by
    rw [show (8 : Int) = ((8 : Nat) : Int) from rfl, tmod_natCast]
  rw [e]
  have e4 : ((((ncol % 8 : Nat) : Int) == 0) : Bool) = decide (ncol % 8 = 0) := by
    by_cases h : ncol % 8 = 0
    · rw [h]; simp
    · have : ¬ ((ncol % 8 : Nat) : Int) = 0 := by omega
      rw [beq_eq_false_iff_ne.mpr this]; simp [h]
  rw [e4]
  by_cases h1 : row = (nrow : Int) + 4 <;> by_cases h2 : col = 2 <;> by_cases h3 : ncol % 8 = 0 <;> simp [h1, h2, h3]

when_kernel Gzx.Gen.K08bPlace.place in
/-- one round of the outer loop: corner cases, sweep up, sweep down, the exit test -/
theorem round_sim {B : List Int} {st : PState} (hI : Inv nrow ncol cw B st) (pos : Nat) (hlen : st.seq.length = 8 * pos)
    (row col : Int) (fuel : Nat) (hf : nrow + ncol < fuel) (hg : Good cw.length (roundOf nrow ncol st row col).1) :
    ∃ B' pos', Gen.K08bPlace.place_body1 fuel (bytes cw) nrow ncol (B, ((pos : Nat) : Int), row, col) =
        (if (roundOf nrow ncol st row col).2.1 + 3 < nrow ∨ (roundOf nrow ncol st row col).2.2 + 1 < ncol then
          Ctl.next (B', ((pos' : Nat) : Int), (roundOf nrow ncol st row col).2.1 + 3, (roundOf nrow ncol st row col).2.2 + 1)
        else Ctl.brk (B', ((pos' : Nat) : Int), (roundOf nrow ncol st row col).2.1 + 3, (roundOf nrow ncol st row col).2.2 + 1)) ∧
      Inv nrow ncol cw B' (roundOf nrow ncol st row col).1 ∧ (roundOf nrow ncol st row col).1.seq.length = 8 * pos' := by
  have gUp := good_roundOf hg
  have gC := good_sweepUp _ _ _ _ gUp
  rw [corners_eq] at gC
  have g4 := gC
  rw [corner4Of_b] at g4
  have g3 := good_ite_moduleList (p := _) g4
  have g3' := g3
  rw [corner3Of_b] at g3'
  have g2 := good_ite_moduleList (p := _) g3'
  have g2' := g2
  rw [corner2Of_b] at g2'
  have g1 := good_ite_moduleList (p := _) g2'
  rw [corner1Of_b] at g1
  obtain ⟨B1, p1, e1, I1, l1⟩ := char_sim hI pos hlen _ (corner1Cells nrow ncol) rfl _ (corner1_chain (bytes cw) B pos) g1
  rw [← corner1Of_b] at I1 l1
  obtain ⟨B2, p2, e2, I2, l2⟩ := char_sim I1 p1 l1 _ (corner2Cells nrow ncol) rfl _ (corner2_chain (bytes cw) B1 p1) g2'
  rw [← corner2Of_b] at I2 l2
  obtain ⟨B3, p3, e3, I3, l3⟩ := char_sim I2 p2 l2 _ (corner3Cells nrow ncol) rfl _ (corner3_chain (bytes cw) B2 p2) g3'
  rw [← corner3Of_b] at I3 l3
  obtain ⟨B4, p4, e4, I4, l4⟩ := char_sim I3 p3 l3 _ (corner4Cells nrow ncol) rfl _ (corner4_chain (bytes cw) B3 p3) g4
  rw [← corner4Of_b, ← corners_eq] at I4 l4
  obtain ⟨B5, p5, e5, I5, l5⟩ := sweepUp_sim (nrow + ncol) fuel _ row col B4 p4 hf I4 l4 gUp
  obtain ⟨B6, p6, e6, I6, l6⟩ := sweepDown_sim (nrow + ncol) fuel _ _ _ B5 p5 hf I5 l5 hg
  refine ⟨B6, p6, ?_, I6, l6⟩
  unfold Gen.K08bPlace.place_body1
  simp only []
  rw [e1]; simp only [next_thenC]
  rw [e2]; simp only [next_thenC]
  rw [e3]; simp only [next_thenC]
  rw [e4]; simp only [next_thenC]
  rw [e5]; simp only [brk_thenC]
  have e6' : whileLoop (Gen.K08bPlace.place_body3 (bytes cw) nrow ncol) fuel
      (B5, ((p5 : Nat) : Int), (sweepUp nrow ncol (nrow + ncol) (corners nrow ncol st row col) row col).2.1 + 1,
        (sweepUp nrow ncol (nrow + ncol) (corners nrow ncol st row col) row col).2.2 + 3) = _ := e6
  rw [e6']; simp only [brk_thenC]
  show (if (decide ((roundOf nrow ncol st row col).2.1 + 3 ≥ (nrow : Int)) &&
      decide ((roundOf nrow ncol st row col).2.2 + 1 ≥ (ncol : Int))) = true then _ else _) = _
  by_cases hc : (roundOf nrow ncol st row col).2.1 + 3 < nrow ∨ (roundOf nrow ncol st row col).2.2 + 1 < ncol
  · have hk : (decide ((roundOf nrow ncol st row col).2.1 + 3 ≥ (nrow : Int)) &&
        decide ((roundOf nrow ncol st row col).2.2 + 1 ≥ (ncol : Int))) = false := by
      rw [Bool.and_eq_false_iff]; simp only [decide_eq_false_iff_not]; omega
    simp only [hk, hc, Bool.false_eq_true, if_false, if_true]
    rfl
  · have hk : (decide ((roundOf nrow ncol st row col).2.1 + 3 ≥ (nrow : Int)) &&
        decide ((roundOf nrow ncol st row col).2.2 + 1 ≥ (ncol : Int))) = true := by
      rw [Bool.and_eq_true]; simp only [decide_eq_true_eq]; omega
    simp only [hk, hc, if_false, if_true]
    rfl

when_kernel Gzx.Gen.K08bPlace.place in
/-- the outer `for { … }` follows `DMRef.placeLoop` -/
theorem placeLoop_sim (fuel : Nat) (hfu : nrow + ncol < fuel) : ∀ (f kf : Nat) (st : PState) (row col : Int) (B : List Int) (pos : Nat),
    f < kf → Inv nrow ncol cw B st → st.seq.length = 8 * pos → Good cw.length (placeLoop nrow ncol f st row col) →
    ∃ B' pos' r' c', whileLoop (Gen.K08bPlace.place_body1 fuel (bytes cw) nrow ncol) kf (B, ((pos : Nat) : Int), row, col) =
        .brk (B', ((pos' : Nat) : Int), r', c') ∧ Inv nrow ncol cw B' (placeLoop nrow ncol f st row col) := by
  intro f
  induction f with
  | zero => intro kf st row col B pos _ _ _ hg; exact absurd hg (by unfold placeLoop; exact not_good_bad)
  | succ f ih =>
    intro kf st row col B pos hkf hI hlen hg
    obtain ⟨kf, rfl⟩ : ∃ k, kf = k + 1 := ⟨kf - 1, by omega⟩
    have hr := good_placeLoop (f + 1) st row col hg
    obtain ⟨B1, p1, e1, I1, l1⟩ := round_sim hI pos hlen row col fuel hfu hr
    rw [placeLoop_succ] at hg ⊢
    rw [whileLoop_succ, e1]
    by_cases hc : (roundOf nrow ncol st row col).2.1 + 3 < nrow ∨ (roundOf nrow ncol st row col).2.2 + 1 < ncol
    · simp only [hc, if_true] at hg ⊢
      exact ih kf _ _ _ B1 p1 (by omega) I1 l1 hg
    · simp only [hc, if_false] at hg ⊢
      exact ⟨B1, p1, _, _, rfl, I1⟩

/-- the `bits` array `Place()` leaves: every assigned cell holds its codeword bit (msb first, in the order of the reference
    program), unassigned cells hold -1, and when the lower right corner was left free its two dark cells are set -/
def placeBits (nrow ncol : Nat) (cw : List Nat) : List Int :=
  let B := paint cw (placeSeq nrow ncol) 0 (List.replicate (nrow * ncol) (-1))
  if fixedUsed nrow ncol then (B.set (nrow * ncol - 1) 1).set (nrow * ncol - ncol - 2) 1 else B

when_kernel Gzx.Gen.K08bPlace.place in
/-- **`DefaultPlacement.Place()`, Go source to ISO/IEC 16022 Annex F**: for every mapping-matrix size on which the reference
    placement program stays inside the matrix, and every codeword vector long enough for the characters it places, the
    regenerated `Place()` started on the fresh array (`NewDefaultPlacement`: all cells -1) does not panic and leaves exactly
    `placeBits` — the reference program's cells painted with the codeword bits, plus the fixed corner pattern.
    (`placement_total_injective`, Properties/C08: the side conditions hold for the 30 sizes of Table 7 with `8 x total` cells.) -/
theorem k_place_eq (nrow ncol : Nat) (cw : List Nat) (fuel : Nat) (h2r : 2 ≤ nrow) (h2c : 2 ≤ ncol)
    (hb : (placeState nrow ncol).bad = false) (hl : (placeState nrow ncol).seq.length ≤ 8 * cw.length)
    (hf : nrow + ncol < fuel) :
    Gen.K08bPlace.place fuel (bytes cw) nrow ncol (List.replicate (nrow * ncol) (-1)) = .ok (placeBits nrow ncol cw) := by
  have hg : Good cw.length (placeLoop nrow ncol (nrow + ncol) {} 4 0) := ⟨hb, hl⟩
  obtain ⟨B', pos', r', c', e, I'⟩ := placeLoop_sim (cw := cw) fuel hf (nrow + ncol) fuel {} 4 0
    (List.replicate (nrow * ncol) (-1)) 0 hf (inv_init nrow ncol cw) rfl hg
  unfold Gen.K08bPlace.place
  simp only []
  have e' : whileLoop (Gen.K08bPlace.place_body1 fuel (bytes cw) nrow ncol) fuel (List.replicate (nrow * ncol) (-1), 0, 4, 0) = _ := e
  rw [e']
  simp only [brk_thenR]
  have hmul : 2 * ncol ≤ nrow * ncol := Nat.mul_le_mul_right ncol h2r
  have hn : nrow * ncol - 1 < B'.length := by rw [I'.len]; omega
  have hn2 : nrow * ncol - ncol - 2 < B'.length := by rw [I'.len]; omega
  have hcell1 : ((nrow : Int) - 1) * (ncol : Int) + ((ncol : Int) - 1) = ((nrow * ncol - 1 : Nat) : Int) := by
    have : ((nrow * ncol : Nat) : Int) = (nrow : Int) * (ncol : Int) := Int.natCast_mul _ _
    rw [Int.sub_mul]; omega
  have hcell2 : ((nrow : Int) - 2) * (ncol : Int) + ((ncol : Int) - 2) = ((nrow * ncol - ncol - 2 : Nat) : Int) := by
    have : ((nrow * ncol : Nat) : Int) = (nrow : Int) * (ncol : Int) := Int.natCast_mul _ _
    rw [Int.sub_mul]; omega
  rw [k_hasBit_eq ncol B' _ _ _ hcell1 hn]
  simp only [tryR_ok]
  have hocc := I'.occ (nrow * ncol - 1) (by omega)
  rw [List.getD_eq_getElem?_getD, List.getElem?_eq_getElem hn, Option.getD_some] at hocc
  have hval : B' = paint cw (placeSeq nrow ncol) 0 (List.replicate (nrow * ncol) (-1)) := I'.val
  unfold placeBits fixedUsed
  simp only []
  rw [← hval, ← hocc]
  show (if (!(placeState nrow ncol).occ.testBit (nrow * ncol - 1)) = true then _ else _) = _
  cases ht : (placeState nrow ncol).occ.testBit (nrow * ncol - 1) with
  | true => simp
  | false =>
    simp only [Bool.not_false, if_true]
    rw [k_setBit_eq ncol B' _ _ true _ hcell1 hn]
    simp only [tryR_ok, if_true]
    rw [k_setBit_eq ncol _ _ _ true _ hcell2 (by simpa using hn2)]
    simp

/-- **the array `Place()` leaves, tested cell by cell with `· == 1`, is the reference mapping matrix** `DMRef.mappingBits` (the
    matrix the C08 theorems `read_place_inv`, `decoder_inverts_reference_symbol` … are about).  `· == 1` is what `GetBit`
    computes (`k_getBit_eq`); no generated function occurs here.  `hfree`: the fixed pattern, when used, lies on unassigned
    cells (`SizeFacts.fixedFree`, checked for the 30 sizes); `hb` is not used: it is there so that the theorem has the
    hypotheses of `k_place_eq` -/
theorem placeBits_getBit (nrow ncol : Nat) (cw : List Nat) (h2r : 2 ≤ nrow) (h2c : 2 ≤ ncol)
    (hb : (placeState nrow ncol).bad = false) (hl : (placeState nrow ncol).seq.length ≤ 8 * cw.length)
    (hfree : ∀ p ∈ fixedCells nrow ncol, (placeState nrow ncol).occ.testBit p.1 = false) (c : Nat) :
    ((placeBits nrow ncol cw).getD c (-1) == 1) = (mappingBits nrow ncol cw).getD c false := by
  have I := inv_placeState nrow ncol cw
  have hmul : 2 * ncol ≤ nrow * ncol := Nat.mul_le_mul_right ncol h2r
  have hps := paint_scatter cw (placeSeq nrow ncol) 0 (List.replicate (nrow * ncol) (-1)) (Array.replicate (nrow * ncol) false)
    (by simp) (by simpa [placeSeq] using hl)
    (by
      intro x
      simp only [List.getD_eq_getElem?_getD, Array.getD_eq_getD_getElem?]
      by_cases hx : x < nrow * ncol <;> simp [hx])
  simp only [List.drop_zero] at hps
  unfold placeBits mappingBits
  simp only []
  generalize hB : paint cw (placeSeq nrow ncol) 0 (List.replicate (nrow * ncol) (-1)) = B at hps I
  generalize hG : scatter (placeSeq nrow ncol) (allBits cw) (Array.replicate (nrow * ncol) false) = g at hps
  have hBl : B.length = nrow * ncol := I.len
  have hGl : g.size = nrow * ncol := by rw [← hG, DMProofs.scatter_size]; simp
  have hocc := I.occ
  by_cases hfu : fixedUsed nrow ncol = true
  · have hfc : fixedCells nrow ncol =
        [(nrow * ncol - ncol - 2, true), (nrow * ncol - ncol - 1, false), (nrow * ncol - 2, false), (nrow * ncol - 1, true)] := by
      unfold fixedCells; simp [hfu]
    have hf2 := hfree (nrow * ncol - ncol - 1, false) (by rw [hfc]; simp)
    have hf3 := hfree (nrow * ncol - 2, false) (by rw [hfc]; simp)
    have ho2 := hocc (nrow * ncol - ncol - 1) (by omega)
    have ho3 := hocc (nrow * ncol - 2) (by omega)
    rw [hf2] at ho2; rw [hf3] at ho3
    have hn2 : ¬ (B.getD (nrow * ncol - ncol - 1) (-1) ≥ 0) := by simpa using ho2.symm
    have hn3 : ¬ (B.getD (nrow * ncol - 2) (-1) ≥ 0) := by simpa using ho3.symm
    simp only [hfu, if_true, hfc, List.map_cons, List.map_nil, scatter]
    have hx := hps c
    clear hocc hf2 hf3 ho2 ho3 hfree hfc hps hB hG I hl hfu
    generalize nrow * ncol = n at *
    have hne2 : ¬ (B.getD (n - ncol - 1) (-1) = 1) := by omega
    have hne3 : ¬ (B.getD (n - 2) (-1) = 1) := by omega
    simp only [List.getD_eq_getElem?_getD, Array.getD_eq_getD_getElem?, List.getElem?_set, Array.getElem?_setIfInBounds,
      List.length_set, Array.size_setIfInBounds, hBl, hGl] at hx hne2 hne3 ⊢
    by_cases h4 : n - 1 = c
    · subst h4
      have e1 : ¬ (n - ncol - 2 = n - 1) := by omega
      have l1 : n - 1 < n := by omega
      simp [e1, l1]
    · by_cases h1 : n - ncol - 2 = c
      · subst h1
        have l1 : n - ncol - 2 < n := by omega
        have e2 : ¬ (n - 2 = n - ncol - 2) := by omega
        have e3 : ¬ (n - ncol - 1 = n - ncol - 2) := by omega
        simp [h4, l1, e2, e3]
      · by_cases h3 : n - 2 = c
        · subst h3
          have l1 : n - 2 < n := by omega
          simp [h4, h1, l1, hne3]
        · by_cases h2 : n - ncol - 1 = c
          · subst h2
            have l1 : n - ncol - 1 < n := by omega
            simp [h4, h1, h3, l1, hne2]
          · simp only [h4, h1, h2, h3, if_false]
            exact hx
  · have hfu' : fixedUsed nrow ncol = false := by simpa using hfu
    have hfc : fixedCells nrow ncol = [] := by unfold fixedCells; simp [hfu']
    simp only [hfu', Bool.false_eq_true, if_false, hfc, List.map_nil, scatter]
    exact hps c

-- non-vacuity: the 8x8 mapping matrix of the 10x10 symbol (8 codewords), fuel 17
when_kernel Gzx.Gen.K08bPlace.place in
example : Gen.K08bPlace.place 17 (bytes [142, 164, 186, 114, 25, 5, 88, 102]) 8 8 (List.replicate 64 (-1)) =
    .ok (placeBits 8 8 [142, 164, 186, 114, 25, 5, 88, 102]) := by decide +kernel
example : (placeState 8 8).bad = false ∧ (placeState 8 8).seq.length = 64 := by decide +kernel

end Gzx.Obligations.K08c
