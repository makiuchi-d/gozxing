/-
  Per-run obligations over the tables regenerated from /repo (Gzx.Gen.C06RowsTables): the tables the
  row-decoder models of Properties/C06RowUPC, C06RSS, C03Multi, C10Row are instantiated with (`OneD.refTables`,
  `OneDRowExt.refExt`, `RSS14.refTables`) are the tables the code holds NOW, they satisfy the shape conditions the
  totality theorems assume, and the variance / ratio limits are the rationals the models use.
-/
import Gzx.Gen.C06RowsTables
import Gzx.Properties.C06RowUPC
import Gzx.Properties.C06RSS
namespace Gzx.Obligations.C06Rows
open Gzx Gzx.OneDRowExt Gzx.Proofs.OneDRowExtTotal

def countryRow? : GoVal → Option (Nat × Nat × List Nat)
  | .app _ [.int a, .int b, .str s] =>
    if a ≥ 0 ∧ b ≥ 0 then some (a.toNat, b.toNat, OneD.bytesOf s) else none
  | _ => none

def countries? (v : GoVal) : Option (List (Nat × Nat × List Nat)) := v.asList?.bind (·.mapM countryRow?)

def rat? : GoVal → Option (Int × Int)
  | .app "rat" [.int a, .int b] => some (a, b)
  | _ => none

/-- UPC/EAN pattern and parity tables of the code = the tables of the models -/
theorem gen_upcean_tables :
    Gen.C06RowsTables.lPatterns.asNatListList? = some OneD.refTables.lPatterns ∧
    Gen.C06RowsTables.startEndPattern.asNatList? = some OneD.refTables.startEnd ∧
    Gen.C06RowsTables.middlePattern.asNatList? = some OneD.refTables.middle ∧
    Gen.C06RowsTables.upceMiddleEndPattern.asNatList? = some OneD.refTables.upceMiddleEnd ∧
    Gen.C06RowsTables.ean13FirstDigit.asNatList? = some OneD.refTables.firstDigit ∧
    Gen.C06RowsTables.upceParity.asNatListList? = some OneD.refTables.upceParity := by decide +kernel

/-- add-on guard, EAN-5 parity table and the country ranges of the code = `refExt` -/
theorem gen_extension_tables :
    Gen.C06RowsTables.extensionStart.asNatList? = some refExt.extStart ∧
    Gen.C06RowsTables.ean5CheckDigit.asNatList? = some refExt.ean5Check ∧
    countries? Gen.C06RowsTables.countries = some refExt.countries := by decide +kernel

def rangesAscending : List (Nat × Nat × List Nat) → Bool
  | a :: b :: rest => decide (a.1 ≤ a.2.1) && decide (a.2.1 < b.1) && rangesAscending (b :: rest)
  | [a] => decide (a.1 ≤ a.2.1) && decide (a.2.1 ≤ 999)
  | [] => true

/-- the country ranges of the code are well-formed, ascending and pairwise disjoint, so "the first range containing
    the prefix" is THE range containing it -/
theorem gen_country_ranges_disjoint :
    (countries? Gen.C06RowsTables.countries).map rangesAscending = some true := by decide +kernel

/-- the shape hypothesis of `upcean_decodeRow_total` / `upcean_multi_decodeRow_total` holds for these tables -/
theorem gen_tables_wfRow : wfRow OneD.refTables refExt = true := wfRow_ref

/-- MAX_AVG_VARIANCE = 0.48 and MAX_INDIVIDUAL_VARIANCE = 0.7, the limits `VarOps.exact` / `VarOps.ofFOps` use -/
theorem gen_upcean_variance_limits :
    rat? Gen.C06RowsTables.maxAvgVariance = some (12, 25) ∧ rat? Gen.C06RowsTables.maxIndividualVariance = some (7, 10) := by
  decide +kernel

/-- the RSS-14 tables of the code = `RSS14.refTables` -/
theorem gen_rss_tables :
    Gen.C06RowsTables.rssOutsideEvenTotalSubset.asIntList? = some RSS14.refTables.outsideEvenTotalSubset ∧
    Gen.C06RowsTables.rssInsideOddTotalSubset.asIntList? = some RSS14.refTables.insideOddTotalSubset ∧
    Gen.C06RowsTables.rssOutsideGsum.asIntList? = some RSS14.refTables.outsideGsum ∧
    Gen.C06RowsTables.rssInsideGsum.asIntList? = some RSS14.refTables.insideGsum ∧
    Gen.C06RowsTables.rssOutsideOddWidest.asIntList? = some RSS14.refTables.outsideOddWidest ∧
    Gen.C06RowsTables.rssInsideOddWidest.asIntList? = some RSS14.refTables.insideOddWidest ∧
    Gen.C06RowsTables.rssFinderPatterns.asNatListList? = some RSS14.refTables.finderPatterns := by decide +kernel

/-- the shape hypothesis of `rss14_decodeRow_total` holds for these tables -/
theorem gen_rss_tables_wf : Gzx.Properties.C06RSS.wfRSS RSS14.refTables = true := by decide +kernel

/-- RSS limits: average variance 0.2, individual 0.45, finder ratio between 9.5/12 and 12.5/14 -/
theorem gen_rss_limits :
    rat? Gen.C06RowsTables.rssMaxAvgVariance = some (1, 5) ∧ rat? Gen.C06RowsTables.rssMaxIndividualVariance = some (9, 20) ∧
    rat? Gen.C06RowsTables.rssMinFinderRatio = some (19, 24) ∧ rat? Gen.C06RowsTables.rssMaxFinderRatio = some (25, 28) := by
  decide +kernel

end Gzx.Obligations.C06Rows
