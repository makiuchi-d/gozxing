/-
  K19P (property C19) — the perspective kernels of common/perspective_transform.go REGENERATED on every run
  (`Gzx.Gen.K19.squareToQuad`, `buildAdjoint`, `times`, `transformPoints`; translator kind `funcn`: float64 as an abstract
  number type, operations in the source's order) and proved EQUAL to `Model/Perspective.lean` for every carrier whose
  operations structure is its type-class arithmetic (`FieldLike`): exact rationals here, every field in GzxM/K19.lean.
  The algebra theorems of GzxM/Perspective.lean (`squareToQuad_corners`, `adjoint_is_projective_inverse`,
  `times_is_composition` …) are thereby theorems about the text of perspective_transform.go as it is in /repo now.
  `when_kernel`: a kernel that left the translatable subset is skipped, not broken.
-/
import Gzx.Gen.K19
import Gzx.KernelGuard
import Gzx.Proofs.K19
import Gzx.Proofs.K19P
namespace Gzx.Obligations.K19P
open Gzx Gzx.GoM Gzx.K19 Gzx.Perspective

variable {α : Type} [Add α] [Sub α] [Mul α] [Div α] [Zero α] [One α] [DecidableEq α]

when_kernel Gzx.Gen.K19.squareToQuad in
/-- `PerspectiveTransform_SquareToQuadrilateral` = the model's `squareToQuadrilateral`: the affine test
    `dx3 == 0.0 && dy3 == 0.0`, both struct literals field by field, `a13`, `a23` and their common denominator -/
theorem k_squareToQuad_eq (ops : NumOps α) (H : FieldLike ops) (x0 y0 x1 y1 x2 y2 x3 y3 : α) :
    Gen.K19.squareToQuad ops x0 y0 x1 y1 x2 y2 x3 y3 = .ok (tup (squareToQuadrilateral x0 y0 x1 y1 x2 y2 x3 y3)) := by
  simp only [Gen.K19.squareToQuad, squareToQuadrilateral, H.add, H.sub, H.mul, H.div, H.zero, H.one, H.eq,
    Bool.and_eq_true, decide_eq_true_eq]
  split <;> rfl

when_kernel Gzx.Gen.K19.buildAdjoint in
/-- `buildAdjoint` = the model's `PT.buildAdjoint` (nine cofactors, in the order of the Go literal) -/
theorem k_buildAdjoint_eq (ops : NumOps α) (H : FieldLike ops) (p : PT α) :
    Gen.K19.buildAdjoint ops p.a11 p.a21 p.a31 p.a12 p.a22 p.a32 p.a13 p.a23 p.a33 = .ok (tup p.buildAdjoint) := by
  simp only [Gen.K19.buildAdjoint, PT.buildAdjoint, H.sub, H.mul, tup]

when_kernel Gzx.Gen.K19.times in
/-- `p.times(other)` = the model's `PT.times` (nine row-by-column sums, association as in the source) -/
theorem k_times_eq (ops : NumOps α) (H : FieldLike ops) (p o : PT α) :
    Gen.K19.times ops p.a11 p.a21 p.a31 p.a12 p.a22 p.a32 p.a13 p.a23 p.a33
      o.a11 o.a21 o.a31 o.a12 o.a22 o.a32 o.a13 o.a23 o.a33 = .ok (tup (p.times o)) := by
  simp only [Gen.K19.times, PT.times, H.add, H.mul, tup]

when_kernel Gzx.Gen.K19.transformPoints in
/-- `TransformPoints(points)` = the model's `PT.transformPoints` on EVERY slice: pairs `(points[i], points[i+1])` for
    `i = 0, 2, … < len-1`, a trailing odd element untouched, no index out of range -/
theorem k_transformPoints_eq (ops : NumOps α) (H : FieldLike ops) (p : PT α) (pts : List α) :
    Gen.K19.transformPoints ops p.a11 p.a21 p.a31 p.a12 p.a22 p.a32 p.a13 p.a23 p.a33 pts = .ok (p.transformPoints pts) := by
  have hl := loop_pairs (fun x y => p.apply x y) p.transformPoints
    (fun x y rest => by simp [PT.transformPoints])
    (fun l hl => by
      match l, hl with
      | [], _ => rfl
      | [_], _ => rfl)
    (Gen.K19.transformPoints_body1 ops p.a11 p.a21 p.a31 p.a12 p.a22 p.a32 p.a13 p.a23 p.a33)
    (fun done x y rest => by
      simp only [Gen.K19.transformPoints_body1]
      rw [idxA_at done x (y :: rest) _ rfl, tryC_ok, idxA_at1 done x y rest _ rfl, tryC_ok,
        setIdxA_at done x _ (y :: rest) _ rfl, tryC_ok, setIdxA_at1 done _ y _ rest _ rfl, tryC_ok]
      simp only [PT.apply, PT.denom, H.add, H.mul, H.div])
    pts [] (pts.length / 2) rfl
  simp only [Gen.K19.transformPoints, lenA]
  have ht : tripUp 0 (((pts.length : Nat) : Int) - 1) 2 = pts.length / 2 := by rw [tripUp_two]; omega
  rw [ht]
  simp only [List.nil_append, List.length_nil] at hl
  rw [show ((0 : Nat) : Int) = 0 from rfl] at hl
  rw [hl]
  rfl

when_kernel Gzx.Gen.K19.transformPointsXY in
/-- `TransformPointsXY(xValues, yValues)` = the model's `PT.transformPointsXY`: element `i` of both slices for
    `i < len(xValues)`, surplus `yValues` untouched, and an index panic exactly when `yValues` is the shorter slice -/
theorem k_transformPointsXY_eq (ops : NumOps α) (H : FieldLike ops) (p : PT α) (xs ys : List α) :
    match p.transformPointsXY xs ys with
    | .ok r => Gen.K19.transformPointsXY ops p.a11 p.a21 p.a31 p.a12 p.a22 p.a32 p.a13 p.a23 p.a33 xs ys = .ok r
    | .error _ => Gen.K19.transformPointsXY ops p.a11 p.a21 p.a31 p.a12 p.a22 p.a32 p.a13 p.a23 p.a33 xs ys = .error oob := by
  have hl := loop_zip (fun x y => p.apply x y)
    (Gen.K19.transformPointsXY_body1 ops p.a11 p.a21 p.a31 p.a12 p.a22 p.a32 p.a13 p.a23 p.a33)
    (fun dx dy x y xs ys hlen => by
      simp only [Gen.K19.transformPointsXY_body1]
      rw [idxA_at dx x xs _ rfl, tryC_ok, idxA_at dy y ys _ (by rw [hlen]), tryC_ok,
        setIdxA_at dx x _ xs _ rfl, tryC_ok, setIdxA_at dy y _ ys _ (by rw [hlen]), tryC_ok]
      simp only [PT.apply, PT.denom, H.add, H.mul, H.div])
    (fun dx dy x xs hlen => by
      simp only [Gen.K19.transformPointsXY_body1]
      rw [idxA_at dx x xs _ rfl, tryC_ok, idxA_of_ge dy _ (by rw [hlen]; omega), tryC_error])
    xs ys [] [] rfl
  simp only [List.nil_append, List.length_nil] at hl
  rw [show ((0 : Nat) : Int) = 0 from rfl] at hl
  have ht : tripUp 0 ((xs.length : Nat) : Int) 1 = xs.length := by rw [tripUp_one]; omega
  unfold PT.transformPointsXY
  rw [transformXYLoop_eq]
  simp only [Gen.K19.transformPointsXY, lenA, ht, hl]
  by_cases hle : xs.length ≤ ys.length
  · simp only [hle, if_true]; rfl
  · simp only [hle, if_false]; rfl

/-- non-vacuity: exact rationals are `FieldLike` -/
example : FieldLike ratOps := ratOps_fieldLike

end Gzx.Obligations.K19P
