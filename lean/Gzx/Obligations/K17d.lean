/-
  K17d — `HybridBinarizer.calculateBlackPoints`, regenerated from /repo on every run (`Gzx.Gen.K17`; nested
  counted loops, the two `for yy, offset … ; yy < BLOCK_SIZE; …` loops as fuel-bounded `for cond` loops, the `[][]int` table with
  checked row / element access) and proved equal to `Binarizer.calculateBlackPoints` of Model/Binarizer.lean:
  the pixel scan of a block with its short cut once the dynamic range is met (`k_scan_eq` = `Binarizer.scanBlock`), the black point
  of a block from the scan and the three neighbours (`k_cbp_block`), a row of blocks (`k_cbp_row` = `Binarizer.bpRow`) and the table
  (`k_calculateBlackPoints_eq`).  For every image of at least 8x8 pixels, every luminance array (too short ones: the index panic
  where the model's read fails) and every fuel ≥ 10 (a block has 8 rows: see `k_cbp_scanLoop`).
-/
import Gzx.Gen.K17
import Gzx.KernelGuard
import Gzx.Proofs.K17c
import Gzx.Obligations.K17c
namespace Gzx.Obligations.K17d
open Gzx Gzx.GoM Gzx.Bits Gzx.GoVal Gzx.Binarizer Gzx.K17 Gzx.K17b Gzx.K17c Gzx.Obligations.K17Hyb Gzx.Obligations.K17c

/-! ## reading eight pixels -/

/-- the state `(sum, min, max)` of the scan as Go ints -/
def tri (s : Scan) : Int × Int × Int := ((s.sum : Int), (s.mn : Int), (s.mx : Int))

/-- a counted loop over the eight pixels of block row `yy` whose body reads `luminances[offset+xx] & 0xff` and steps its state
    (`next` is the step on Go integers, `step` the model's) -/
theorem loop_blockRow {σ ρ τ : Type} (R : τ → σ) (step : τ → Nat → τ) (next : τ → Int → σ) (body : Int → σ → Ctl σ ρ)
    (lum : List Nat) (w xo yo yy : Nat)
    (hb : ∀ (xx : Nat) (t : τ), body xx (R t) =
      tryC (idx (bytes lum) ((((yo + yy) * w + xo : Nat) : Int) + xx)) fun p => .next (next t (iand p 255)))
    (hnext : ∀ (t : τ) (q : Nat), next t (q : Int) = R (step t q)) (t : τ) :
    loop body 1 8 0 (R t) =
      match blockRow lum.toArray w xo yo yy with
      | .ok ps => .next (R (ps.foldl step t))
      | .error _ => .panic oob := by
  unfold blockRow
  rw [List.range_eq_range']
  refine (loop_reads (fun ps => R (ps.foldl step t)) (blockPixel lum.toArray w xo yo yy) oob 1 (fun k => (k : Int))
    (fun _ => Int.natCast_succ _) body 8 0 (fun xx ps _ _ _ => ?_)).trans
    (by cases mapME (blockPixel lum.toArray w xo yo yy) (List.range' 0 8) <;> rfl)
  rw [hb, ← Int.natCast_add, bytes, idx_bytes, blockPixel_eq]
  cases lum[(yo + yy) * w + xo + xx]? with
  | none => rfl
  | some p =>
    simp only [tryC_ok]
    rw [iand_255, hnext, List.foldl_append]
    rfl

when_kernel Gzx.Gen.K17.calculateBlackPoints in
/-- the first pixel loop of a block row: `sum += pixel`, `min`, `max` -/
theorem k_cbp_rowScan (lum : List Nat) (w xo yo yy : Nat) (s : Scan) :
    loop (Gen.K17.calculateBlackPoints_body4 (bytes lum) ((((yo + yy) * w + xo : Nat)) : Int)) 1 8 0 (tri s) =
      match blockRow lum.toArray w xo yo yy with
      | .ok ps => .next (tri (ps.foldl scanPixel s))
      | .error _ => .panic oob := by
  refine loop_blockRow tri scanPixel
    (fun t q => ((t.sum : Int) + q, if decide (q < (t.mn : Int)) then q else (t.mn : Int), if decide (q > (t.mx : Int)) then q else (t.mx : Int)))
    _ lum w xo yo yy (fun _ _ => rfl) (fun t q => ?_) s
  simp only [tri, scanPixel, min_cast, max_cast, Int.natCast_add]

when_kernel Gzx.Gen.K17.calculateBlackPoints in
/-- the summing pixel loop of a block row (after the dynamic range was met) -/
theorem k_cbp_rowSum (lum : List Nat) (w xo yo yy : Nat) (sum : Nat) :
    loop (Gen.K17.calculateBlackPoints_body6 (bytes lum) ((((yo + yy) * w + xo : Nat)) : Int)) 1 8 0 ((sum : Nat) : Int) =
      match blockRow lum.toArray w xo yo yy with
      | .ok ps => .next (((ps.foldl (· + ·) sum : Nat)) : Int)
      | .error _ => .panic oob := by
  exact loop_blockRow (fun (n : Nat) => (n : Int)) (· + ·) (fun n q => (n : Int) + q) _ lum w xo yo yy (fun _ _ => rfl) (fun _ _ => rfl) sum

/-! ## the two `for yy, offset` loops -/

theorem offset_cast (w xo yo yy : Nat) :
    (((yo * w + xo : Nat)) : Int) + (yy : Int) * (w : Int) = ((((yo + yy) * w + xo : Nat)) : Int) := by
  rw [Nat.add_mul]; simp only [Int.natCast_add, Int.natCast_mul]; omega

when_kernel Gzx.Gen.K17.calculateBlackPoints in
/-- the inner `for yy, offset = yy+1, offset+width; yy < BLOCK_SIZE; …` loop from row `k` on -/
theorem k_cbp_sumLoop (lum : List Nat) (w xo yo : Nat) : ∀ (m k : Nat) (sum fuel : Nat), k + m = 8 → m < fuel →
    whileLoop (Gen.K17.calculateBlackPoints_body5 (bytes lum) (w : Int)) fuel
        (((sum : Nat) : Int), ((k : Nat) : Int), (((yo + k) * w + xo : Nat) : Int)) =
      match mapME (blockRow lum.toArray w xo yo) (List.range' k m) with
      | .ok rows => .brk ((((rows.foldl (fun a ps => ps.foldl (· + ·) a) sum : Nat)) : Int), 8, (((yo + 8) * w + xo : Nat) : Int))
      | .error _ => .panic oob := by
  intro m
  induction m with
  | zero =>
    intro k sum fuel hk hf
    obtain rfl : k = 8 := hk
    cases fuel with
    | zero => exact absurd hf (Nat.not_lt_zero _)
    | succ fuel => rfl
  | succ m ih =>
    intro k sum fuel hk hf
    cases fuel with
    | zero => exact absurd hf (Nat.not_lt_zero _)
    | succ fuel =>
      have hlt : decide (((k : Nat) : Int) < 8) = true := decide_eq_true (by omega)
      rw [whileLoop_succ, List.range'_succ]
      simp only [Gen.K17.calculateBlackPoints_body5, hlt, if_true, mapME]
      rw [show tripUp 0 8 1 = 8 from rfl, k_cbp_rowSum lum w xo yo k sum]
      cases blockRow lum.toArray w xo yo k with
      | error e => rfl
      | ok ps =>
        simp only [next_thenC]
        rw [← Int.natCast_succ, nextRow_cast, ih (k + 1) _ fuel (by omega) (by omega)]
        cases mapME (blockRow lum.toArray w xo yo) (List.range' (k + 1) m) <;> rfl


when_kernel Gzx.Gen.K17.calculateBlackPoints in
/-- the outer `for yy, offset := 0, …` loop from row `k` on, while the dynamic range is not yet met.  Fuel: `m` rows are left,
    so the outer loop makes at most `m` rounds and one more that finds `yy ≥ 8` (`m + 1 < fuel`); the inner summing loop, which
    the translator runs on the same Go-level fuel `fuelIn`, makes at most 7 rounds and the one that breaks (`8 < fuelIn`).  From
    row 0 both hold for every fuel ≥ 10. -/
theorem k_cbp_scanLoop (lum : List Nat) (w xo yo fuelIn : Nat) (hfi : 8 < fuelIn) : ∀ (m k : Nat) (s : Scan) (fuel : Nat),
    k + m = 8 → m + 1 < fuel → s.met = false →
    ∃ yyf offf, whileLoop (Gen.K17.calculateBlackPoints_body3 fuelIn (bytes lum) (w : Int)) fuel
        (((s.sum : Nat) : Int), ((s.mn : Nat) : Int), ((s.mx : Nat) : Int), ((k : Nat) : Int), (((yo + k) * w + xo : Nat) : Int)) =
      match mapME (blockRow lum.toArray w xo yo) (List.range' k m) with
      | .ok rows => .brk ((((rows.foldl scanRow s).sum : Nat) : Int), (((rows.foldl scanRow s).mn : Nat) : Int),
          (((rows.foldl scanRow s).mx : Nat) : Int), yyf, offf)
      | .error _ => .panic oob := by
  intro m
  induction m with
  | zero =>
    intro k s fuel hk hf _
    obtain rfl : k = 8 := hk
    cases fuel with
    | zero => exact absurd hf (Nat.not_lt_zero _)
    | succ fuel => exact ⟨8, _, rfl⟩
  | succ m ih =>
    intro k s fuel hk hf hs
    cases fuel with
    | zero => exact absurd hf (Nat.not_lt_zero _)
    | succ fuel =>
      have hlt : decide (((k : Nat) : Int) < 8) = true := decide_eq_true (by omega)
      have hrow := k_cbp_rowScan lum w xo yo k s
      simp only [tri] at hrow
      rw [whileLoop_succ, List.range'_succ]
      simp only [Gen.K17.calculateBlackPoints_body3, hlt, if_true, mapME]
      rw [show tripUp 0 8 1 = 8 from rfl, hrow]
      cases blockRow lum.toArray w xo yo k with
      | error e => exact ⟨0, 0, rfl⟩
      | ok ps =>
        simp only [next_thenC]
        have hsr := scanRow_of_not_met s ps hs
        generalize ps.foldl scanPixel s = s' at hsr ⊢
        rw [rangeMet_cast, ← Int.natCast_succ, nextRow_cast]
        by_cases hmet : s'.mx - s'.mn > MIN_DYNAMIC_RANGE
        · -- range met: the inner loop sums the rest, then one more round of the outer loop (yy = 9 is not < 8) ends it
          have hmt : (scanRow s ps).met = true := by rw [hsr]; exact decide_eq_true hmet
          simp only [hmet, decide_true, if_true]
          rw [k_cbp_sumLoop lum w xo yo m (k + 1) _ fuelIn (by omega) (by omega)]
          cases mapME (blockRow lum.toArray w xo yo) (List.range' (k + 1) m) with
          | error e => exact ⟨0, 0, rfl⟩
          | ok rows =>
            cases fuel with
            | zero => omega
            | succ fuel =>
              refine ⟨8 + 1, (((yo + 8) * w + xo : Nat) : Int) + (w : Int), ?_⟩
              simp only [brk_thenC, List.foldl_cons]
              rw [whileLoop_succ, foldl_scanRow_met rows _ hmt, hsr]
              rfl
        · -- range not met: next row
          have hmf : (scanRow s ps).met = false := by rw [hsr]; exact decide_eq_false hmet
          simp only [hmet, decide_false, Bool.false_eq_true, if_false]
          obtain ⟨yyf, offf, hih⟩ := ih (k + 1) (scanRow s ps) fuel (by omega) (by omega) hmf
          rw [hsr] at hih
          refine ⟨yyf, offf, hih.trans ?_⟩
          cases mapME (blockRow lum.toArray w xo yo) (List.range' (k + 1) m) with
          | error e => rfl
          | ok rows => simp only [List.foldl_cons, hsr]

when_kernel Gzx.Gen.K17.calculateBlackPoints in
/-- **the pixel scan of one block** = `Binarizer.scanBlock` (sum, min, max; the index panic where a read fails) -/
theorem k_scan_eq (lum : List Nat) (w xo yo fuel : Nat) (hf : 10 ≤ fuel) :
    ∃ yyf offf, whileLoop (Gen.K17.calculateBlackPoints_body3 fuel (bytes lum) (w : Int)) fuel
        (0, 255, 0, 0, (((yo * w + xo : Nat)) : Int)) =
      match scanBlock lum.toArray w xo yo with
      | .ok s => .brk (((s.sum : Nat) : Int), ((s.mn : Nat) : Int), ((s.mx : Nat) : Int), yyf, offf)
      | .error _ => .panic oob := by
  obtain ⟨yyf, offf, h⟩ := k_cbp_scanLoop lum w xo yo fuel (by omega) 8 0 scanInit fuel rfl (by omega) rfl
  rw [Nat.add_zero] at h
  refine ⟨yyf, offf, h.trans ?_⟩
  unfold scanBlock
  rw [List.range_eq_range']
  cases mapME (blockRow lum.toArray w xo yo) (List.range' 0 8) <;> rfl

/-! ## the table of black points -/

/-- the Go table between two rows: `done` complete rows, nil rows below -/
def tableB (subH : Nat) (done : List (List Nat)) : List (List Int) := rows2 done ++ List.replicate (subH - done.length) []

/-- … while row `done.length` is being filled: its computed prefix `acc`, zeros behind -/
def tableOf (subW subH : Nat) (done : List (List Nat)) (acc : List Nat) : List (List Int) :=
  rows2 done ++ (bytes acc ++ List.replicate (subW - acc.length) 0) :: List.replicate (subH - done.length - 1) []

theorem rows2_length (done : List (List Nat)) : (rows2 done).length = done.length := by simp [rows2]

theorem idxRow_cur (subW subH : Nat) (done : List (List Nat)) (acc : List Nat) :
    idxRow (tableOf subW subH done acc) ((done.length : Nat) : Int) = .ok (bytes acc ++ List.replicate (subW - acc.length) 0) := by
  exact (idxRow_eq_idxA _ _).trans (idxA_seam (rows2 done) _ _ _ (by rw [rows2_length]))

theorem idxRow_prev (subW subH : Nat) (done : List (List Nat)) (acc : List Nat) (i : Nat) (hi : i < done.length) :
    idxRow (tableOf subW subH done acc) ((i : Nat) : Int) = .ok (bytes done[i]) := by
  unfold idxRow tableOf
  rw [if_neg (Int.not_lt.mpr (Int.natCast_nonneg _)), Int.toNat_natCast, List.getElem?_append_left (by rw [rows2_length]; exact hi),
    rows2, List.getElem?_map, List.getElem?_eq_getElem hi]
  rfl

theorem setRow_cur (subW subH : Nat) (done : List (List Nat)) (acc : List Nat) (r : List Int) :
    setRow (tableOf subW subH done acc) ((done.length : Nat) : Int) r =
      .ok (rows2 done ++ r :: List.replicate (subH - done.length - 1) []) := by
  exact setIdxA_seam (rows2 done) _ r _ _ (by rw [rows2_length])

/-- `blackPoints[y][x] = v` for the next cell of the current row (after the row was fetched) -/
theorem table_write' (subW subH : Nat) (done : List (List Nat)) (acc : List Nat) (hx : acc.length < subW) (v : Nat) :
    (tryC (setIdx (bytes acc ++ List.replicate (subW - acc.length) 0) ((acc.length : Nat) : Int) ((v : Nat) : Int)) fun t13 =>
      tryC (setRow (tableOf subW subH done acc) ((done.length : Nat) : Int) t13) fun t14 =>
      (Ctl.next t14 : Ctl (List (List Int)) (List (List Int)))) = .next (tableOf subW subH done (acc ++ [v])) := by
  obtain ⟨k, hk⟩ : ∃ k, subW - acc.length = k + 1 := ⟨subW - acc.length - 1, by omega⟩
  have hk' : subW - (acc ++ [v]).length = k := by rw [List.length_append, List.length_singleton]; omega
  rw [hk, List.replicate_succ, setIdx_seam (bytes acc) 0 _ _ _ (by rw [bytes_length])]
  simp only [tryC_ok]
  rw [setRow_cur]
  simp only [tryC_ok, tableOf, hk', bytes, List.map_append, List.map_cons, List.map_nil, List.append_assoc, List.cons_append,
    List.nil_append]
  rfl

/-- `blackPoints[y][x] = v` for the next cell of the current row -/
theorem table_write (subW subH : Nat) (done : List (List Nat)) (acc : List Nat) (hx : acc.length < subW) (v : Nat) :
    (tryC (idxRow (tableOf subW subH done acc) ((done.length : Nat) : Int)) fun t12 =>
      tryC (setIdx t12 ((acc.length : Nat) : Int) ((v : Nat) : Int)) fun t13 =>
      tryC (setRow (tableOf subW subH done acc) ((done.length : Nat) : Int) t13) fun t14 =>
      (Ctl.next t14 : Ctl (List (List Int)) (List (List Int)))) = .next (tableOf subW subH done (acc ++ [v])) := by
  rw [idxRow_cur]
  simp only [tryC_ok]
  exact table_write' subW subH done acc hx v

/-- one block of the model: the scan, the neighbours (present from the second row / column on), the black point -/
def bpStep (lum : List Nat) (w h : Nat) (done : List (List Nat)) (acc : List Nat) : Res Nat :=
  match scanBlock lum.toArray w (blockOffset acc.length w) (blockOffset done.length h) with
  | .error e => .error e
  | .ok s =>
    match neighboursOf done.getLast? acc acc.length with
    | .error e => .error e
    | .ok nb => .ok (blockBlackPoint s nb)

theorem idx_cur_prefix (subW : Nat) (acc : List Nat) (i : Nat) (hi : i < acc.length) :
    idx (bytes acc ++ List.replicate (subW - acc.length) 0) ((i : Nat) : Int) = .ok ((acc[i] : Nat) : Int) := by
  rw [idx_ofNat _ _ (by rw [List.length_append, bytes_length]; omega), List.getElem_append_left (by rw [bytes_length]; exact hi),
    bytes_getElem]

/-- the neighbour reads of the next cell: none in the first row of blocks and in the first column, else the three values the model
    takes from the row above and the current row -/
theorem table_neighbours (subW subH : Nat) (done : List (List Nat)) (acc : List Nat) (hrows : ∀ r ∈ done, r.length = subW)
    (hx : acc.length < subW) :
    (((decide (((done.length : Nat) : Int) > 0)) && (decide (((acc.length : Nat) : Int) > 0))) = false ∧
      neighboursOf done.getLast? acc acc.length = .ok none) ∨
    ∃ pr up lft upl, ((decide (((done.length : Nat) : Int) > 0)) && (decide (((acc.length : Nat) : Int) > 0))) = true ∧
      neighboursOf done.getLast? acc acc.length = .ok (some (up, lft, upl)) ∧
      idxRow (tableOf subW subH done acc) (((done.length : Nat) : Int) - 1) = .ok (bytes pr) ∧
      idx (bytes pr) ((acc.length : Nat) : Int) = .ok ((up : Nat) : Int) ∧
      idx (bytes pr) (((acc.length : Nat) : Int) - 1) = .ok ((upl : Nat) : Int) ∧
      idx (bytes acc ++ List.replicate (subW - acc.length) 0) (((acc.length : Nat) : Int) - 1) = .ok ((lft : Nat) : Int) := by
  cases hgl : done.getLast? with
  | none =>
    rw [List.getLast?_eq_none_iff.mp hgl]
    exact .inl ⟨rfl, rfl⟩
  | some pr =>
    by_cases hx0 : acc.length = 0
    · refine .inl ⟨by rw [hx0]; simp, ?_⟩
      simp only [neighboursOf, neighbours, hx0, if_true]
    · have hmem : pr ∈ done := List.mem_of_getLast? hgl
      have hy : done.length ≠ 0 := fun h => by rw [List.length_eq_zero_iff.mp h] at hmem; exact absurd hmem List.not_mem_nil
      obtain ⟨up, lft, upl, h1, h2, h3, hn⟩ := neighbours_some pr acc hx0 (by rw [hrows pr hmem]; exact hx)
      obtain ⟨_, hpr⟩ := List.getElem?_eq_some_iff.mp (List.getLast?_eq_getElem?.symm.trans hgl)
      obtain ⟨_, hlft⟩ := List.getElem?_eq_some_iff.mp h2
      have hpred : ((acc.length : Nat) : Int) - 1 = ((acc.length - 1 : Nat) : Int) := (Int.natCast_sub (Nat.pos_of_ne_zero hx0)).symm
      refine .inr ⟨pr, up, lft, upl, ?_, hn, ?_, ?_, ?_, ?_⟩
      · exact (Bool.and_eq_true _ _).mpr ⟨decide_eq_true (Int.natCast_pos.mpr (Nat.pos_of_ne_zero hy)),
          decide_eq_true (Int.natCast_pos.mpr (Nat.pos_of_ne_zero hx0))⟩
      · rw [show ((done.length : Nat) : Int) - 1 = ((done.length - 1 : Nat) : Int) from (Int.natCast_sub (Nat.pos_of_ne_zero hy)).symm,
          idxRow_prev _ _ _ _ _ (Nat.sub_lt (Nat.pos_of_ne_zero hy) Nat.one_pos), hpr]
      · rw [bytes, idx_bytes, h1]
      · rw [hpred, bytes, idx_bytes, h3]
      · rw [hpred, idx_cur_prefix _ _ _ (Nat.sub_lt (Nat.pos_of_ne_zero hx0) Nat.one_pos), hlft]

when_kernel Gzx.Gen.K17.calculateBlackPoints in
/-- **one block of `calculateBlackPoints`**: scan, default estimate `sum >> 6`, the low-contrast rule `min / 2` corrected by the
    neighbours `(bp[y-1][x] + 2·bp[y][x-1] + bp[y-1][x-1]) / 4`, and the write into the table -/
theorem k_cbp_block (lum : List Nat) (w h subW subH fuel : Nat) (hw : 8 ≤ w) (hh : 8 ≤ h) (hf : 10 ≤ fuel)
    (done : List (List Nat)) (acc : List Nat) (hrows : ∀ r ∈ done, r.length = subW) (hx : acc.length < subW) :
    Gen.K17.calculateBlackPoints_body2 fuel (bytes lum) (w : Int) ((w : Int) - 8) ((done.length : Nat) : Int)
        ((blockOffset done.length h : Nat) : Int) ((acc.length : Nat) : Int) (tableOf subW subH done acc) =
      match bpStep lum w h done acc with
      | .ok v => .next (tableOf subW subH done (acc ++ [v]))
      | .error _ => .panic oob := by
  simp only [Gen.K17.calculateBlackPoints_body2, bpStep]
  rw [blockOffset_cast acc.length w hw, ← Int.natCast_mul, ← Int.natCast_add]
  obtain ⟨yyf, offf, hscan⟩ := k_scan_eq lum w (blockOffset acc.length w) (blockOffset done.length h) fuel hf
  rw [hscan]
  cases scanBlock lum.toArray w (blockOffset acc.length w) (blockOffset done.length h) with
  | error e => rfl
  | ok s =>
    simp only [brk_thenC]
    rw [ishr_six, lowContrast_cast, show Int.tdiv (s.mn : Int) 2 = ((s.mn / 2 : Nat) : Int) from rfl]
    rcases table_neighbours subW subH done acc hrows hx with ⟨hb, hnb⟩ | ⟨pr, up, lft, upl, hb, hnb, hr1, hr2, hr3, hr4⟩
    · rw [hnb, hb]
      simp only [blockBlackPoint]
      by_cases hlow : s.mx - s.mn ≤ MIN_DYNAMIC_RANGE
      · simp only [hlow, decide_true, if_true, Bool.false_eq_true, if_false]
        exact table_write subW subH done acc hx _
      · simp only [hlow, decide_false, Bool.false_eq_true, if_false]
        exact table_write subW subH done acc hx _
    · rw [hnb, hb]
      simp only [blockBlackPoint]
      by_cases hlow : s.mx - s.mn ≤ MIN_DYNAMIC_RANGE
      · simp only [hlow, decide_true, if_true, hr1, hr2, hr3, hr4, idxRow_cur, tryC_ok]
        rw [nbAverage_cast]
        by_cases hlt : s.mn < (up + 2 * lft + upl) / 4
        · simp only [Int.ofNat_lt, hlt, decide_true, if_true]
          exact table_write' subW subH done acc hx _
        · simp only [Int.ofNat_lt, hlt, decide_false, Bool.false_eq_true, if_false]
          exact table_write' subW subH done acc hx _
      · simp only [hlow, decide_false, Bool.false_eq_true, if_false]
        exact table_write subW subH done acc hx _


/-! ## rows and the whole table -/

when_kernel Gzx.Gen.K17.calculateBlackPoints in
/-- the blocks `acc.length … subW-1` of a row -/
theorem k_cbp_rowLoop (lum : List Nat) (w h subW subH fuel : Nat) (hw : 8 ≤ w) (hh : 8 ≤ h) (hf : 10 ≤ fuel)
    (done : List (List Nat)) (hrows : ∀ r ∈ done, r.length = subW) : ∀ (n : Nat) (acc : List Nat), acc.length + n = subW →
    loop (Gen.K17.calculateBlackPoints_body2 fuel (bytes lum) (w : Int) ((w : Int) - 8) ((done.length : Nat) : Int)
        ((blockOffset done.length h : Nat) : Int)) 1 n ((acc.length : Nat) : Int) (tableOf subW subH done acc) =
      match bpRow lum.toArray w h done.length done.getLast? (List.range' acc.length n) acc with
      | .ok row => .next (tableOf subW subH done row)
      | .error _ => .panic oob := by
  intro n
  induction n with
  | zero => intro acc _; rfl
  | succ n ih =>
    intro acc hn
    rw [loop_succ, k_cbp_block lum w h subW subH fuel hw hh hf done acc hrows (by omega), List.range'_succ]
    simp only [bpRow, bpStep]
    cases scanBlock lum.toArray w (blockOffset acc.length w) (blockOffset done.length h) with
    | error e => rfl
    | ok s =>
      simp only []
      cases neighboursOf done.getLast? acc acc.length with
      | error e => rfl
      | ok nb =>
        simp only []
        have := ih (acc ++ [blockBlackPoint s nb]) (by simp; omega)
        simp only [List.length_append, List.length_cons, List.length_nil, Nat.zero_add] at this
        rw [show ((acc.length : Nat) : Int) + 1 = ((acc.length + 1 : Nat) : Int) by omega]
        exact this

when_kernel Gzx.Gen.K17.calculateBlackPoints in
/-- one row of the table: `blackPoints[y] = make([]int, subWidth)`, the clamped `yoffset`, the blocks -/
theorem k_cbp_row (lum : List Nat) (w h subW subH fuel : Nat) (hw : 8 ≤ w) (hh : 8 ≤ h) (hf : 10 ≤ fuel)
    (done : List (List Nat)) (hrows : ∀ r ∈ done, r.length = subW) (hy : done.length < subH) :
    Gen.K17.calculateBlackPoints_body1 fuel (bytes lum) (subW : Int) (w : Int) ((h : Int) - 8) ((w : Int) - 8)
        ((done.length : Nat) : Int) (tableB subH done) =
      match bpRow lum.toArray w h done.length done.getLast? (List.range subW) [] with
      | .ok row => .next (tableB subH (done ++ [row]))
      | .error _ => .panic oob := by
  simp only [Gen.K17.calculateBlackPoints_body1]
  rw [mk_nats _ subW rfl]
  simp only [tryC_ok]
  -- the fresh row replaces the first nil row
  obtain ⟨k, hk⟩ : ∃ k, subH - done.length = k + 1 := ⟨subH - done.length - 1, by omega⟩
  have hset : setRow (tableB subH done) ((done.length : Nat) : Int) (words (List.replicate subW 0)) = .ok (tableOf subW subH done []) := by
    unfold tableB tableOf
    rw [hk, List.replicate_succ, setRow_eq_setIdxA, setIdxA_seam (rows2 done) _ _ _ _ (by rw [rows2_length]), Nat.add_sub_cancel, words,
      List.map_replicate]
    rfl
  rw [hset]
  simp only [tryC_ok]
  rw [blockOffset_cast done.length h hh, show tripUp 0 (subW : Int) 1 = subW by rw [tripUp_one]; omega,
    show loop (Gen.K17.calculateBlackPoints_body2 fuel (bytes lum) (w : Int) ((w : Int) - 8) ((done.length : Nat) : Int)
      ((blockOffset done.length h : Nat) : Int)) 1 subW 0 (tableOf subW subH done []) = _
      from k_cbp_rowLoop lum w h subW subH fuel hw hh hf done hrows subW [] (Nat.zero_add _),
    List.range_eq_range']
  cases hr : bpRow lum.toArray w h done.length done.getLast? (List.range' 0 subW) [] with
  | error e => rfl
  | ok row =>
    -- the row is complete: no zeros are left behind it
    have hrl : row.length = subW := by rw [bpRow_length _ _ _ _ _ _ _ _ hr, List.length_range']; exact Nat.zero_add _
    simp only [next_thenC, tableOf, tableB, hrl, Nat.sub_self, List.replicate_zero, List.append_nil, rows2, List.map_append,
      List.map_cons, List.map_nil, List.length_append, List.length_singleton, List.append_assoc, List.cons_append, List.nil_append,
      Nat.sub_sub]

when_kernel Gzx.Gen.K17.calculateBlackPoints in
/-- the rows `done.length … subH-1` -/
theorem k_cbp_rows (lum : List Nat) (w h subW subH fuel : Nat) (hw : 8 ≤ w) (hh : 8 ≤ h) (hf : 10 ≤ fuel) :
    ∀ (m : Nat) (done : List (List Nat)), done.length + m = subH → (∀ r ∈ done, r.length = subW) →
    loop (Gen.K17.calculateBlackPoints_body1 fuel (bytes lum) (subW : Int) (w : Int) ((h : Int) - 8) ((w : Int) - 8)) 1 m
        ((done.length : Nat) : Int) (tableB subH done) =
      match bpRows lum.toArray w h subW (List.range' done.length m) done.getLast? done with
      | .ok all => .next (tableB subH all)
      | .error _ => .panic oob := by
  intro m
  induction m with
  | zero => intro done _ _; rfl
  | succ m ih =>
    intro done hm hrows
    rw [loop_succ, k_cbp_row lum w h subW subH fuel hw hh hf done hrows (by omega), List.range'_succ]
    simp only [bpRows]
    cases hr : bpRow lum.toArray w h done.length done.getLast? (List.range subW) [] with
    | error e => rfl
    | ok row =>
      have hrl : row.length = subW := by
        rw [bpRow_length _ _ _ _ _ _ _ _ hr, List.length_range]; exact Nat.zero_add _
      have := ih (done ++ [row]) (by rw [List.length_append, List.length_singleton]; omega) (fun r hr' => by
        rcases List.mem_append.mp hr' with h1 | h1
        · exact hrows r h1
        · rw [List.mem_singleton.mp h1]; exact hrl)
      rw [List.length_append, List.length_singleton, List.getLast?_concat] at this
      rw [← Int.natCast_succ]
      exact this

when_kernel Gzx.Gen.K17.calculateBlackPoints in
/-- `calculateBlackPoints(luminances, subWidth, subHeight, width, height)` = `Binarizer.bpRows` over all rows, for every image
    of at least 8x8 pixels, any block counts, any luminance array and any fuel ≥ 10 -/
theorem k_calculateBlackPoints_eq (lum : List Nat) (w h subW subH fuel : Nat) (hw : 8 ≤ w) (hh : 8 ≤ h) (hf : 10 ≤ fuel) :
    Gen.K17.calculateBlackPoints fuel (bytes lum) subW subH w h =
      match bpRows lum.toArray w h subW (List.range subH) none [] with
      | .ok all => .ok (rows2 all)
      | .error _ => .error oob := by
  simp only [Gen.K17.calculateBlackPoints]
  have hmk : mk2 (subH : Int) = .ok (tableB subH []) := by
    unfold mk2
    rw [if_neg (Int.not_lt.mpr (Int.natCast_nonneg _)), Int.toNat_natCast]
    rfl
  rw [hmk]
  simp only [tryR_ok]
  rw [show tripUp 0 (subH : Int) 1 = subH by rw [tripUp_one]; omega,
    show loop (Gen.K17.calculateBlackPoints_body1 fuel (bytes lum) (subW : Int) (w : Int) ((h : Int) - 8) ((w : Int) - 8)) 1 subH
      0 (tableB subH []) = _ from k_cbp_rows lum w h subW subH fuel hw hh hf subH [] (Nat.zero_add _) (fun _ hr => nomatch hr)]
  simp only [List.length_nil, List.getLast?_nil]
  rw [List.range_eq_range']
  cases hr : bpRows lum.toArray w h subW (List.range' 0 subH) none [] with
  | error e => rfl
  | ok all =>
    -- all rows are there: no nil rows are left
    have hall : all.length = subH := by rw [bpRows_length _ _ _ _ _ _ _ _ hr, List.length_range']; exact Nat.zero_add _
    simp only [next_thenR, tableB, hall, Nat.sub_self, List.replicate_zero, List.append_nil]

when_kernel Gzx.Gen.K17.calculateBlackPoints in
/-- **calculateBlackPoints, Go source to model**: with the block counts of the hybrid method the regenerated function returns the
    table of `Binarizer.calculateBlackPoints` (or the index panic where the model's read fails) -/
theorem k_calculateBlackPoints_model (lum : List Nat) (w h fuel : Nat) (hw : 8 ≤ w) (hh : 8 ≤ h) (hf : 10 ≤ fuel) :
    Gen.K17.calculateBlackPoints fuel (bytes lum) (subDim w) (subDim h) w h =
      match Binarizer.calculateBlackPoints lum.toArray w h with
      | .ok all => .ok (rows2 all)
      | .error _ => .error oob := by
  rw [k_calculateBlackPoints_eq lum w h _ _ fuel hw hh hf]
  rfl

-- non-vacuity: a 16x8 image, left block uniformly 200 (low contrast, no neighbours in the first row: black point 200/2 = 100),
-- right block with values 0 / 255 (high contrast: black point = average 127)
when_kernel Gzx.Gen.K17.calculateBlackPoints in
example : Gen.K17.calculateBlackPoints 10 (bytes ((List.replicate 8 (List.replicate 8 200 ++ (List.replicate 4 0 ++ List.replicate 4 255))).flatten))
    2 1 16 8 = .ok [[100, 127]] := by decide +kernel

end Gzx.Obligations.K17d
