/-
  K08 — the coordinate wrap of Data Matrix `DefaultPlacement.module` (negative row / column wrap-around with
  the 4 - ((n+4) % 8) shift), regenerated from /repo on every run (`Gzx.Gen.K08.moduleWrap`) and proved to be
  the wrap of the reference placement `DMRef.module` (property C08).  The whole function `module` (codeword read, mask and write
  included) is tied in Obligations/K08c.lean (`k_module_eq`); this file ties the wrap-around rules alone, cut out of the
  source as a region (translator/tables.d/K08.txt).
-/
import Gzx.Gen.K08
import Gzx.KernelGuard
import Gzx.Proofs.GoM
import Gzx.Ref.DMPlacement
namespace Gzx.Obligations.K08
open Gzx Gzx.GoM

when_kernel Gzx.Gen.K08.moduleWrap in
/-- whenever the Go function reaches its `setBit(col, row, …)` call (the codeword read did not fault), the
    cell it addresses is the cell the reference placement addresses -/
theorem k_moduleWrap_eq (cw : List Int) (nrow ncol : Nat) (row col pos bit r c v : Int) (st : DMRef.PState)
    (h : Gen.K08.moduleWrap cw nrow ncol row col pos bit = .ok (r, c, v)) :
    DMRef.module nrow ncol st row col =
      (match DMRef.cellOf nrow ncol r c with
       | some k => { st with occ := st.occ ||| (1 <<< k), seq := k :: st.seq, dup := st.dup || st.occ.testBit k }
       | none => { st with bad := true }) := by
  have e8 : (8 : Int) = ((8 : Nat) : Int) := rfl
  have er : (nrow : Int) + 4 = ((nrow + 4 : Nat) : Int) := by simp
  have ec : (ncol : Int) + 4 = ((ncol + 4 : Nat) : Int) := by simp
  simp only [Gen.K08.moduleWrap, tryR, er, ec, e8, tmod_natCast] at h
  cases hi : idx cw pos with
  | error e => simp [hi] at h
  | ok w =>
    simp only [hi, Except.ok.injEq, Prod.mk.injEq] at h
    obtain ⟨hr, hc, _⟩ := h
    subst hr hc
    unfold DMRef.module
    by_cases h1 : row < 0 <;> simp only [h1, decide_true, decide_false, if_true, if_false, Bool.false_eq_true] <;>
      split <;> simp_all

end Gzx.Obligations.K08
