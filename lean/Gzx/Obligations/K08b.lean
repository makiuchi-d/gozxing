/-
  K08b — `createECCBlock(codewords, numECWords)` of datamatrix/encoder/error_correction.go (the table search, the shift
  register with its log / antilog multiplication, the byte-reversed result), regenerated from /repo on every run
  (`Gzx.Gen.K08b.createECCBlock`, translator kind `funcm` with the subset of translator/ext_dmmirror.go) and proved equal to the
  hand-written model `DMEnc.createECCBlock` (Model/DMEncoder.lean; Properties/C08 relates it to the ISO/IEC 16022 reference) for
  every byte vector: `k_createECCBlock_eq`.  The tables it reads: Obligations/K08bTab.lean.
  Conventions of the K08b files: `words s` is the Go `[]byte` / `[]int` of a model list, `Bytes s` says the elements are
  below 256; a Go `error` result is `true` = failed.  Which Go declaration each `Gen.K08b.*` name stands for:
  translator/tables.d/K08b.txt.
-/
import Gzx.Obligations.K08bTab
namespace Gzx.Obligations.K08b
open Gzx Gzx.GoM Gzx.GoVal

/-- the five table reads of `alog[(log[m]+log[p])%255]` for non-zero bytes -/
theorem tabMul_reads (m p : Nat) (hm : m < 256) (hp : p < 256) (hm0 : m ≠ 0) (hp0 : p ≠ 0) {σ ρ : Type}
    (k : Int → Ctl σ ρ) :
    (tryC (idx (words DMEnc.log) (m : Int)) fun t9 =>
      tryC (idx (words DMEnc.log) (p : Int)) fun t11 =>
      tryC (idx (words DMEnc.alog) (Int.tmod (t9 + t11) 255)) k) = k ((DMEnc.tabMul m p : Nat) : Int) := by
  rw [idx_words_lt _ m (by rw [log_length]; exact hm)]
  simp only [tryC_ok]
  rw [idx_words_lt _ p (by rw [log_length]; exact hp)]
  simp only [tryC_ok]
  have e : Int.tmod (((DMEnc.log.getD m 0 : Nat) : Int) + ((DMEnc.log.getD p 0 : Nat) : Int)) 255 =
      (((DMEnc.log.getD m 0 + DMEnc.log.getD p 0) % 255 : Nat) : Int) := by
    rw [← Int.natCast_add]; exact tmod_natCast _ 255
  rw [e, idx_words_lt _ _ (by rw [alog_length]; exact Nat.mod_lt _ (by decide))]
  simp only [tryC_ok, DMEnc.tabMul, hm0, hp0, ne_eq, not_false_eq_true, and_self, if_true]

/-- the guard `m != 0 && poly[k] != 0` in front of a table multiplication; where it fails the product is 0 -/
theorem tabMul_guard (poly : List Nat) (m k : Nat) (e : Int) (he : e = k) (hk : k < poly.length) {σ ρ : Type}
    (A B : Ctl σ ρ) :
    (tryC (if (m : Int) != 0 then tryR (idx (words poly) e) fun t => Except.ok (t != 0) else Except.ok false)
      fun t => if t then A else B) = if m ≠ 0 ∧ poly.getD k 0 ≠ 0 then A else B := by
  rw [show ((m : Int) != 0) = (m != 0) from natCast_bne m 0, idx_words_lt' poly e k he hk, tryR_ok,
    show (((poly.getD k 0 : Nat) : Int) != 0) = (poly.getD k 0 != 0) from natCast_bne _ 0]
  by_cases hm : m = 0 <;> simp [hm]

when_kernel Gzx.Gen.K08b.createECCBlock in
/-- one iteration `k` of the inner loop: `ecc[k] = ecc[k-1] ^ m·poly[k]` (the `else` branch writes `ecc[k-1]`, which is
    the same because `m·poly[k] = 0` there) -/
theorem body3_eq (poly s : List Nat) (m k : Nat) (hm : m < 256) (hk1 : 0 < k) (hk : k < s.length) (hkp : k < poly.length)
    (hpb : Bytes poly) :
    Gen.K08b.createECCBlock_body3 (words DMEnc.log) (words DMEnc.alog) (words poly) (m : Int) (k : Int) (words s) =
      .next (words (s.set k (s.getD (k - 1) 0 ^^^ DMEnc.tabMul m (poly.getD k 0)))) := by
  have ek : (k : Int) - 1 = ((k - 1 : Nat) : Int) := by omega
  simp only [Gen.K08b.createECCBlock_body3]
  rw [tabMul_guard poly m k _ rfl hkp]
  by_cases h : m ≠ 0 ∧ poly.getD k 0 ≠ 0
  · rw [if_pos h, idx_words_lt' s _ (k - 1) ek (by omega), tryC_ok]
    simp only [idx_words_lt poly k hkp, tryC_ok]
    rw [tabMul_reads m (poly.getD k 0) hm (hpb.getD k) h.1 h.2, ixor_natCast, setIdx_words_lt s _ _ k _ rfl rfl hk, tryC_ok]
  · rw [if_neg h, idx_words_lt' s _ (k - 1) ek (by omega), tryC_ok, setIdx_words_lt s _ _ k (s.getD (k - 1) 0) rfl rfl hk, tryC_ok,
      tabMul_of_not h, Nat.xor_zero]

when_kernel Gzx.Gen.K08b.createECCBlock in
/-- one iteration of the outer loop (one data codeword through the register) is `DMEnc.eccStep` -/
theorem body2_eq (poly cws e : List Nat) (n i : Nat) (hn : 0 < n) (hpl : poly.length = n) (hpb : Bytes poly)
    (hcb : Bytes cws) (hel : e.length = n) (heb : Bytes e) (hi : i < cws.length) :
    Gen.K08b.createECCBlock_body2 (words DMEnc.log) (words DMEnc.alog) (words cws) (n : Int) (words poly) (i : Int) (words e) =
      .next (words (DMEnc.eccStep DMEnc.tabMul poly e (cws.getD i 0))) := by
  have en : (n : Int) - 1 = ((n - 1 : Nat) : Int) := by omega
  simp only [Gen.K08b.createECCBlock_body2]
  rw [idx_words_lt' e _ (n - 1) en (by omega)]
  simp only [tryC_ok]
  rw [idx_words_lt cws i hi]
  simp only [tryC_ok]
  rw [ixor_natCast, getD_last e n hn hel]
  generalize hM : e.getLastD 0 ^^^ cws.getD i 0 = M
  have hM256 : M < 256 := by
    rw [← hM, ← getD_last e n hn hel]; exact xor_lt_256 (heb.getD _) (hcb.getD _)
  have htrip : tripDown ((n : Int) - 1) 0 1 = n - 1 := by rw [tripDown_one]; omega
  rw [htrip, en]
  obtain ⟨st', hloop, _, s', hst, hsl, hsb, hsp⟩ := loop_inv_down
    (Gen.K08b.createECCBlock_body3 (words DMEnc.log) (words DMEnc.alog) (words poly) (M : Int))
    (fun k st => k < n ∧ ∃ s : List Nat, st = words s ∧ s.length = n ∧ Bytes s ∧
      ∀ j, j < n → s.getD j 0 = if k < j then e.getD (j - 1) 0 ^^^ DMEnc.tabMul M (poly.getD j 0) else e.getD j 0)
    (by
      intro k st ⟨hk, s, hst, hsl, hsb, hsp⟩
      subst hst
      refine ⟨_, body3_eq poly s M (k + 1) hM256 (by omega) (by omega) (by omega) hpb, by omega, _, rfl, by simp [hsl], ?_, ?_⟩
      · exact hsb.set _ _ (xor_lt_256 (hsb.getD _) (tabMul_lt _ _))
      · intro j hj
        by_cases hjk : j = k + 1
        · subst hjk
          have : (s.set (k + 1) (s.getD (k + 1 - 1) 0 ^^^ DMEnc.tabMul M (poly.getD (k + 1) 0))).getD (k + 1) 0 =
              s.getD (k + 1 - 1) 0 ^^^ DMEnc.tabMul M (poly.getD (k + 1) 0) := by
            simp [List.getD_eq_getElem?_getD, hsl, hj]
          rw [this, hsp (k + 1 - 1) (by omega), if_neg (by omega), if_pos (by omega)]
        · have : (s.set (k + 1) (s.getD (k + 1 - 1) 0 ^^^ DMEnc.tabMul M (poly.getD (k + 1) 0))).getD j 0 = s.getD j 0 := by
            simp [List.getD_eq_getElem?_getD, Ne.symm hjk]
          rw [this, hsp j hj]
          by_cases h1 : k + 1 < j
          · rw [if_pos h1, if_pos (by omega)]
          · rw [if_neg h1, if_neg (by omega)])
    (n - 1) (words e) ⟨by omega, e, rfl, hel, heb, by intro j hj; rw [if_neg (by omega)]⟩
  rw [hloop]
  subst hst
  simp only [next_thenC]
  have hs0 : 0 < s'.length := by omega
  have hp0l : 0 < poly.length := by omega
  have e0 : (0 : Int) = ((0 : Nat) : Int) := rfl
  have hfin : ∀ v, v = DMEnc.tabMul M (poly.getD 0 0) → s'.set 0 v = DMEnc.eccStep DMEnc.tabMul poly e (cws.getD i 0) := by
    intro v hv
    apply eccStep_ext DMEnc.tabMul poly e _ (cws.getD i 0) n hn hel hpl (by simp [hsl])
    · rw [hM, hv]; simp [List.getD_eq_getElem?_getD, hs0]
    · intro j hj0 hjn
      have : (s'.set 0 v).getD j 0 = s'.getD j 0 := by
        rw [List.getD_eq_getElem?_getD, List.getD_eq_getElem?_getD, List.getElem?_set_ne (by omega)]
      rw [this, hsp j hjn, if_pos hj0, hM]
  rw [tabMul_guard poly M 0 _ e0 hp0l]
  by_cases h : M ≠ 0 ∧ poly.getD 0 0 ≠ 0
  · rw [if_pos h]
    simp only [idx_words_lt' poly _ 0 e0 hp0l, tryC_ok]
    rw [tabMul_reads M (poly.getD 0 0) hM256 (hpb.getD 0) h.1 h.2, setIdx_words_lt s' _ _ 0 _ e0 rfl hs0, tryC_ok,
      hfin _ rfl]
  · rw [if_neg h, setIdx_words_lt s' _ _ 0 0 e0 e0 hs0, tryC_ok, hfin 0 (tabMul_of_not h).symm]

when_kernel Gzx.Gen.K08b.createECCBlock in
/-- the table search: `factorSets[i] == numECWords` -/
theorem body1_eq (n i : Nat) (st : Int) (hi : i < DMRef.parityLengths.length) :
    Gen.K08b.createECCBlock_body1 (n : Int) (i : Int) st =
      if DMRef.parityLengths.getD i 0 = n then .brk (i : Int) else .next st := by
  simp only [Gen.K08b.createECCBlock_body1, k_factorSets_eq]
  rw [idx_words_lt _ i hi]
  simp only [tryC_ok]
  rw [natCast_beq]
  by_cases h : DMRef.parityLengths.getD i 0 = n
  · rw [if_pos h, beq_iff_eq.mpr h]; rfl
  · rw [if_neg h, beq_eq_false_iff_ne.mpr h]; rfl

when_kernel Gzx.Gen.K08b.createECCBlock in
/-- the final loop writes the register back to front, converted to bytes -/
theorem loop4_eq (e : List Nat) (n : Nat) (hel : e.length = n) (heb : Bytes e) :
    loop (Gen.K08b.createECCBlock_body4 (n : Int) (words e)) 1 (tripUp 0 (n : Int) 1) 0 (words (List.replicate n 0)) =
      .next (words e.reverse) := by
  have htrip : tripUp 0 (n : Int) 1 = n := by rw [tripUp_one]; omega
  rw [htrip]
  obtain ⟨st', hloop, s', hst, hsl, hsp⟩ := loop_inv_up
    (Gen.K08b.createECCBlock_body4 (n : Int) (words e))
    (fun i st => ∃ s : List Nat, st = words s ∧ s.length = n ∧ ∀ j, j < i → s.getD j 0 = e.getD (n - j - 1) 0) 0 n
    (by
      intro i st hi ⟨s, hst, hsl, hsp⟩
      subst hst
      have ei : (n : Int) - ((0 + i : Nat) : Int) - 1 = ((n - i - 1 : Nat) : Int) := by omega
      refine ⟨words (s.set i (e.getD (n - i - 1) 0)), ?_, _, rfl, by simp [hsl], ?_⟩
      · simp only [Gen.K08b.createECCBlock_body4]
        rw [idx_words_lt' e _ (n - i - 1) ei (by omega)]
        simp only [tryC_ok]
        rw [wrap_natCast, Nat.mod_eq_of_lt (by simpa using heb.getD _)]
        rw [setIdx_words_lt s _ _ i _ (by omega) rfl (by omega)]
        simp only [tryC_ok]
      · intro j hj
        by_cases hji : j = i
        · subst hji; simp [List.getD_eq_getElem?_getD, hsl, hi]
        · rw [List.getD_eq_getElem?_getD, List.getElem?_set_ne (Ne.symm hji), ← List.getD_eq_getElem?_getD]
          exact hsp j (by omega))
    n 0 (words (List.replicate n 0)) (by omega) ⟨_, rfl, by simp, by intro j hj; omega⟩
  have e0 : ((0 + 0 : Nat) : Int) = 0 := rfl
  rw [e0] at hloop
  rw [hloop, hst]
  have hrev : s' = e.reverse := by
    apply List.ext_getElem (by simp [hsl, hel])
    intro j h1 h2
    have := hsp j (by omega)
    rw [List.getD_eq_getElem?_getD, List.getElem?_eq_getElem h1, List.getD_eq_getElem?_getD,
      List.getElem?_eq_getElem (by omega)] at this
    simp only [Option.getD_some] at this
    rw [this, List.getElem_reverse]
    congr 1
    omega
  rw [hrev]

when_kernel Gzx.Gen.K08b.createECCBlock in
/-- the outer loop: all data codewords through the register = `DMEnc.lfsr` -/
theorem loop2_eq (poly cws : List Nat) (n : Nat) (hn : 0 < n) (hpl : poly.length = n) (hpb : Bytes poly) (hcb : Bytes cws) :
    loop (Gen.K08b.createECCBlock_body2 (words DMEnc.log) (words DMEnc.alog) (words cws) (n : Int) (words poly)) 1
        (tripUp 0 (len (words cws)) 1) 0 (words (List.replicate n 0)) =
      .next (words (DMEnc.lfsr DMEnc.tabMul poly n cws)) := by
  have htrip : tripUp 0 (len (words cws)) 1 = cws.length := by rw [tripUp_one, len_words]; omega
  rw [htrip]
  obtain ⟨st', hloop, e', hst, _, _, he'⟩ := loop_inv_up
    (Gen.K08b.createECCBlock_body2 (words DMEnc.log) (words DMEnc.alog) (words cws) (n : Int) (words poly))
    (fun i st => ∃ e : List Nat, st = words e ∧ e.length = n ∧ Bytes e ∧
      e = (cws.take i).foldl (DMEnc.eccStep DMEnc.tabMul poly) (List.replicate n 0)) 0 cws.length
    (by
      intro i st hi ⟨e, hst, hel, heb, hee⟩
      subst hst
      refine ⟨_, ?_, _, rfl, eccStep_length poly e (cws.getD i 0) n hn hel hpl, eccStep_bytes poly e _ heb, ?_⟩
      · rw [Nat.zero_add]; exact body2_eq poly cws e n i hn hpl hpb hcb hel heb hi
      · rw [List.take_add_one, List.foldl_append, ← hee]
        simp [List.getD_eq_getElem?_getD, List.getElem?_eq_getElem hi])
    cws.length 0 (words (List.replicate n 0)) (by omega) ⟨_, rfl, by simp, bytes_replicate n, by simp⟩
  have e0 : ((0 + 0 : Nat) : Int) = 0 := rfl
  rw [e0] at hloop
  rw [hloop, hst, he', List.take_length]
  rfl

/-- non-vacuity of `Bytes`: the standard's worked example "123456" -/
example : Bytes [142, 164, 186] := by unfold Bytes; decide

/-- what the regenerated `createECCBlock` must return for a result of the model: `WriterException` is the Go error
    (the data codewords are handed back), other faults are panics -/
def expE (cws : List Nat) : Res (List Nat) → Res (List Int × Bool)
  | .ok e => .ok (words e, false)
  | .error .writer => .ok (words cws, true)
  | .error e => .error e

when_kernel Gzx.Gen.K08b.createECCBlock in
/-- `createECCBlock(codewords, numECWords)` = `DMEnc.createECCBlock` over the reference tables, for EVERY byte vector and
    every parity count: the table search, the LFSR loop with its log/antilog multiplication (`init()`'s tables), the
    byte-reversed result; an unknown parity count is the checked WriterException with the codewords handed back.
    (Properties/C08 `createECCBlock_eq_reference` then says the result is the reference Reed-Solomon parity.) -/
theorem k_createECCBlock_eq (cws : List Nat) (hcb : Bytes cws) (n : Nat) :
    Gen.K08b.createECCBlock (words DMEnc.log) (words DMEnc.alog) (words cws) (n : Int) =
      expE cws (DMEnc.createECCBlock DMRef.parityLengths DMRef.factorTable cws n) := by
  simp only [Gen.K08b.createECCBlock]
  have htrip : tripUp 0 (len Gen.K08b.tbl_factorSets) 1 = 16 := by decide
  have hfind := loop_find DMRef.parityLengths n _ (fun i st hi => body1_eq n i st hi) 16 0 (-1) rfl
  have e0 : ((0 : Nat) : Int) = 0 := rfl
  rw [e0] at hfind
  rw [htrip, hfind]
  simp only [List.drop_zero]
  unfold DMEnc.createECCBlock
  cases hft : DMEnc.findTable n DMRef.parityLengths 0 with
  | none => simp [expE]
  | some t =>
    obtain ⟨poly, hrow, hrl, hpb, hrb, hr0⟩ := factor_row n t hft
    have hneg : ¬ ((t : Int) < 0) := by omega
    simp only [brk_thenR, hneg, decide_false, Bool.false_eq_true, if_false, hrow]
    rw [k_factors_eq, idxL_map _ t poly hrow]
    simp only [tryR_ok]
    rw [mk_words', tryR_ok, loop2_eq poly cws n hr0 hrl hpb hcb]
    simp only [next_thenR, tryR_ok]
    have hlf := lfsr_facts poly cws n hr0 hrl
    rw [loop4_eq (DMEnc.lfsr DMEnc.tabMul poly n cws) n hlf.1 hlf.2]
    simp only [next_thenR]
    have htake : poly.take n = poly := List.take_of_length_le (by omega)
    by_cases hemp : cws = []
    · subst hemp; simp [expE, DMEnc.lfsr]
    · have h1 : cws.isEmpty = false := by cases cws <;> simp_all
      have h2 : ¬ n = 0 := by omega
      have h3 : ¬ poly.length < n := by omega
      simp only [h1, Bool.false_eq_true, if_false, h2, h3, hrb, Bool.not_true, htake, expE]

end Gzx.Obligations.K08b
