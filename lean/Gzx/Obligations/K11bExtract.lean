/-
  K11b — `Decoder.extractBits` of aztec/decoder/decoder.go regenerated from /repo on every run (`Gzx.Gen.K11b.extractBits`:
  the alignment-map loop and the four-sided layer walk as coded; `matrix.Get` is the abstract parameter `matrix_Get`)
  and proved equal to the model `AztecDecoder.extractBits` (Model/AztecExtract.lean) wherever the model succeeds, i.e. every
  module the walk reads lies inside the matrix (`k_extractBits_eq_model`; what the regenerated code does when `matrix.Get` is
  asked outside the matrix is not stated) — properties C11, C06.
-/
import Gzx.Obligations.K11b
import Gzx.Proofs.AztecExtract
namespace Gzx.Obligations.K11b
open Gzx Gzx.GoM Gzx.GoVal Gzx.AztecDecoder

theorem idx_nat (st : List Int) (e : Int) (n : Nat) (x : Int) (he : e = n) (h : st[n]? = some x) :
    idx st e = .ok x := by
  subst he
  unfold idx
  simp [h]

/-! ### the alignment map -/

/-- the Go `alignmentMap` slice the model's closed form stands for -/
def amI (L : Nat) (c : Bool) : List Int :=
  (List.range (baseMatrixSize L c)).map (fun idx => ((alignmentMap L c idx : Nat) : Int))

theorem amI_get (L : Nat) (c : Bool) (n : Nat) (h : n < baseMatrixSize L c) :
    (amI L c)[n]? = some ((alignmentMap L c n : Nat) : Int) := by
  simp [amI, h]

when_kernel Gzx.Gen.K11b.extractBits in
/-- compact symbols: `alignmentMap[i] = i` -/
theorem am_loop_compact (L : Nat) :
    loop Gen.K11b.extractBits_body1 1 (baseMatrixSize L true) 0 (List.replicate (baseMatrixSize L true) 0)
      = (.next (amI L true) : Ctl (List Int) (List Int)) := by
  have := fill_loop (ρ := List Int) (fun i => (i : Int)) Gen.K11b.extractBits_body1 (baseMatrixSize L true) 0 []
    (List.replicate (baseMatrixSize L true) 0) rfl (by simp) (by
      intro i st _ _
      unfold Gen.K11b.extractBits_body1
      rfl)
  simp only [List.nil_append] at this
  have e0 : ((0 : Nat) : Int) = 0 := rfl
  rw [e0] at this
  rw [this]
  simp [amI, alignmentMap, List.range_eq_range']

when_kernel Gzx.Gen.K11b.extractBits in
/-- full-range symbols: the two assignments per iteration fill the map from the centre outwards -/
theorem am_loop_full (L : Nat) :
    let B := baseMatrixSize L false
    let oc := B / 2
    let center := (B + 1 + 2 * ((B / 2 - 1) / 15)) / 2
    loop (Gen.K11b.extractBits_body5 (oc : Int) (center : Int)) 1 oc 0 (List.replicate B 0)
      = (.next (amI L false) : Ctl (List Int) (List Int)) := by
  intro B oc center
  have hB : B = 2 * oc := by simp only [B, oc, baseMatrixSize, Bool.false_eq_true, if_false]; omega
  have hoc : oc = baseMatrixSize L false / 2 := rfl
  have hce : center = matrixSize L false / 2 := rfl
  have hBm : B = baseMatrixSize L false := rfl
  clear_value center oc B
  let P : Nat → List Int → Prop := fun i st => st.length = B ∧
    ∀ idx, oc ≤ idx + i → idx < oc + i → st[idx]? = some ((alignmentMap L false idx : Nat) : Int)
  obtain ⟨st', e, hlen, hp⟩ := loop_inv_next (ρ := List Int) (Gen.K11b.extractBits_body5 (oc : Int) (center : Int)) P oc 0
    (n := oc) (k := 0) (s := List.replicate B 0) (Nat.zero_add oc) ⟨by simp, by intro idx h1 h2; omega⟩ (step := by
      intro i st hi ⟨hlen, hp⟩
      rw [Nat.zero_add]
      obtain ⟨hA1, hA2⟩ := alignmentMap_pair L i (by omega)
      unfold Gen.K11b.extractBits_body5
      dsimp only
      have q : Int.tdiv (i : Int) 15 = ((i / 15 : Nat) : Int) := tdiv_natCast i 15
      rw [q, hce, ← hA1, ← hA2, ← hoc]
      -- the two assignments, in either order
      first
        | (rw [setIdx_of_lt st _ _ (oc - i - 1) (by omega) (by omega)]
           simp only [tryC_ok]
           rw [setIdx_of_lt _ _ _ (oc + i) (by omega) (by rw [List.length_set]; omega)]
           simp only [tryC_ok])
        | (rw [setIdx_of_lt st _ _ (oc + i) (by omega) (by omega)]
           simp only [tryC_ok]
           rw [setIdx_of_lt _ _ _ (oc - i - 1) (by omega) (by rw [List.length_set]; omega)]
           simp only [tryC_ok]
           rw [List.set_comm _ _ (by omega)])
      refine ⟨_, rfl, by simp [hlen], ?_⟩
      intro idx h1 h2
      simp only [List.getElem?_set, List.length_set]
      by_cases c1 : idx = oc + i
      · subst c1
        rw [if_pos rfl, if_pos (by omega)]
      · rw [if_neg (Ne.symm c1)]
        by_cases c2 : idx = oc - i - 1
        · subst c2
          rw [if_pos rfl, if_pos (by omega)]
        · rw [if_neg (Ne.symm c2)]
          exact hp idx (by omega) (by omega))
  have e0 : ((0 + 0 : Nat) : Int) = 0 := rfl
  rw [e0] at e
  rw [e]
  congr 1
  apply List.ext_getElem?
  intro idx
  by_cases h : idx < B
  · rw [hp idx (by omega) (by omega), amI_get L false idx (hBm ▸ h)]
  · rw [List.getElem?_eq_none (by omega), List.getElem?_eq_none (by simp [amI, ← hBm]; omega)]

/-! ### the layer walk -/

/-- dominoes per side of layer `i` (Go `rowSize`) -/
def rsz (L : Nat) (c : Bool) (i : Nat) : Nat := (L - i) * 4 + (if c then 9 else 12)

/-- the coordinates `matrix.Get` is called with for side `s` (0 left, 1 bottom, 2 right, 3 top), domino `j`, bit `k` -/
def sidePos (L : Nat) (c : Bool) (i s j k : Nat) : Nat × Nat :=
  let am := alignmentMap L c
  let lo := i * 2
  let hi := baseMatrixSize L c - 1 - lo
  match s with
  | 0 => (am (lo + k), am (lo + j))
  | 1 => (am (lo + j), am (hi - k))
  | 2 => (am (hi - k), am (hi - j))
  | _ => (am (hi - j), am (lo + k))

theorem jk_get (n j k : Nat) (hj : j < n) (hk : k < 2) :
    ((List.range n).flatMap (fun j => [(j, 0), (j, 1)]))[2 * j + k]? = some (j, k) := by
  induction n with
  | zero => omega
  | succ n ih =>
    rw [List.range_succ, List.flatMap_append]
    by_cases h : j < n
    · rw [List.getElem?_append_left (by rw [AztecDecoder.jk_length]; omega)]; exact ih h
    · have : j = n := by omega
      subst this
      rw [List.getElem?_append_right (by rw [AztecDecoder.jk_length]; omega), AztecDecoder.jk_length]
      have : 2 * j + k - 2 * j = k := by omega
      rw [this]
      have : k = 0 ∨ k = 1 := by omega
      rcases this with rfl | rfl <;> simp

/-- `AztecDecoder.layerPositions_length` with the row size written as `rsz` -/
theorem layerPositions_length (L : Nat) (c : Bool) (i : Nat) : (layerPositions L c i).length = 8 * rsz L c i :=
  AztecDecoder.layerPositions_length L c i

theorem layerPositions_get (L : Nat) (c : Bool) (i s j k : Nat) (hs : s < 4) (hj : j < rsz L c i) (hk : k < 2) :
    (layerPositions L c i)[2 * s * rsz L c i + 2 * j + k]? = some (sidePos L c i s j k) := by
  have hl := AztecDecoder.jk_length (rsz L c i)
  have hg := jk_get (rsz L c i) j k hj hk
  unfold rsz at hl hg
  have hs' : s = 0 ∨ s = 1 ∨ s = 2 ∨ s = 3 := by omega
  simp only [layerPositions]
  generalize hrs : (L - i) * 4 + (if c then 9 else 12) = rs at *
  have hrz : rsz L c i = rs := by simp [rsz, hrs]
  rw [hrz]
  rcases hs' with rfl | rfl | rfl | rfl
  · rw [List.getElem?_append_left (by simp [hl]; omega), List.getElem?_append_left (by simp [hl]; omega),
      List.getElem?_append_left (by simp [hl]; omega)]
    rw [show 2 * 0 * rs + 2 * j + k = 2 * j + k by omega, List.getElem?_map, hg]; rfl
  · rw [List.getElem?_append_left (by simp [hl]; omega), List.getElem?_append_left (by simp [hl]; omega),
      List.getElem?_append_right (by simp [hl]; omega)]
    simp only [List.length_map, hl]
    rw [show 2 * 1 * rs + 2 * j + k - 2 * rs = 2 * j + k by omega, List.getElem?_map, hg]; rfl
  · rw [List.getElem?_append_left (by simp [hl]; omega), List.getElem?_append_right (by simp [hl]; omega)]
    simp only [List.length_map, List.length_append, hl]
    rw [show 2 * 2 * rs + 2 * j + k - (2 * rs + 2 * rs) = 2 * j + k by omega, List.getElem?_map, hg]; rfl
  · rw [List.getElem?_append_right (by simp [hl]; omega)]
    simp only [List.length_map, List.length_append, hl]
    rw [show 2 * 3 * rs + 2 * j + k - (2 * rs + 2 * rs + 2 * rs) = 2 * j + k by omega, List.getElem?_map, hg]; rfl

/-- what the walk stores for side `s`, domino `j`, bit `k` of layer `i` -/
def cell (gp : Nat × Nat → Bool) (L : Nat) (c : Bool) (i s j k : Nat) : Int := b2i (gp (sidePos L c i s j k))

/-- `matrix.Get` answers on every coordinate layer `i` reads -/
def ReadsOK (get : Int → Int → Res Bool) (gp : Nat × Nat → Bool) (L : Nat) (c : Bool) (i : Nat) : Prop :=
  ∀ s j k, s < 4 → j < rsz L c i → k < 2 →
    get ((sidePos L c i s j k).1 : Int) ((sidePos L c i s j k).2 : Int) = .ok (gp (sidePos L c i s j k))

/-- the four writes of one `k` -/
def kstep (gp : Nat × Nat → Bool) (L : Nat) (c : Bool) (i off j k : Nat) (st : List Int) : List Int :=
  (((st.set (off + 2 * j + k) (cell gp L c i 0 j k)).set (off + 2 * rsz L c i + 2 * j + k) (cell gp L c i 1 j k)).set
    (off + 4 * rsz L c i + 2 * j + k) (cell gp L c i 2 j k)).set (off + 6 * rsz L c i + 2 * j + k) (cell gp L c i 3 j k)

when_kernel Gzx.Gen.K11b.extractBits in
/-- the four reads and writes of one `k` -/
theorem body4_eq (get : Int → Int → Res Bool) (gp : Nat × Nat → Bool) (L : Nat) (c : Bool) (i off j k : Nat) (st : List Int)
    (hi : i < L) (hj : j < rsz L c i) (hk : k < 2) (hlen : off + 8 * rsz L c i ≤ st.length)
    (hr : ReadsOK get gp L c i)
    {offI rsI loI hiI jI coI kI : Int} (h1 : offI = off) (h2 : rsI = rsz L c i) (h3 : loI = (i * 2 : Nat))
    (h4 : hiI = (baseMatrixSize L c - 1 - i * 2 : Nat)) (h5 : jI = j) (h6 : coI = (2 * j : Nat)) (h7 : kI = k) :
    Gen.K11b.extractBits_body4 get (amI L c) offI rsI loI hiI jI coI kI st =
      .next (kstep gp L c i off j k st) := by
  subst h1 h2 h3 h4 h5 h6 h7
  unfold kstep
  have hB : baseMatrixSize L c = L * 4 + (if c then 11 else 14) := rfl
  have hrs : rsz L c i = (L - i) * 4 + (if c then 9 else 12) := rfl
  have hc : (if c then 11 else 14) = (if c then 9 else 12) + 2 := by cases c <;> rfl
  generalize hrs' : rsz L c i = rs at *
  generalize hB' : baseMatrixSize L c = B at *
  generalize (if c then 9 else 12) = cc at *
  have r1 : idx (amI L c) (((i * 2 : Nat) : Int) + (k : Int)) = .ok ((alignmentMap L c (i * 2 + k) : Nat) : Int) :=
    idx_nat _ _ (i * 2 + k) _ (Int.natCast_add _ _).symm (amI_get L c _ (by omega))
  have r2 : idx (amI L c) (((i * 2 : Nat) : Int) + (j : Int)) = .ok ((alignmentMap L c (i * 2 + j) : Nat) : Int) :=
    idx_nat _ _ (i * 2 + j) _ (Int.natCast_add _ _).symm (amI_get L c _ (by omega))
  have r3 : idx (amI L c) (((B - 1 - i * 2 : Nat) : Int) - (k : Int)) = .ok ((alignmentMap L c (B - 1 - i * 2 - k) : Nat) : Int) :=
    idx_nat _ _ (B - 1 - i * 2 - k) _ (Int.natCast_sub (by omega)).symm (amI_get L c _ (by omega))
  have r4 : idx (amI L c) (((B - 1 - i * 2 : Nat) : Int) - (j : Int)) = .ok ((alignmentMap L c (B - 1 - i * 2 - j) : Nat) : Int) :=
    idx_nat _ _ (B - 1 - i * 2 - j) _ (Int.natCast_sub (by omega)).symm (amI_get L c _ (by omega))
  have g0 := hr 0 j k (by omega) (by omega) hk
  have g1 := hr 1 j k (by omega) (by omega) hk
  have g2 := hr 2 j k (by omega) (by omega) hk
  have g3 := hr 3 j k (by omega) (by omega) hk
  simp only [sidePos, hB'] at g0 g1 g2 g3
  unfold Gen.K11b.extractBits_body4
  simp only [r1, r2, r3, r4, tryC_ok, g0, g1, g2, g3]
  rw [setIdx_of_lt st _ _ (off + 2 * j + k) (by simp only [Int.natCast_add]) (by omega)]
  simp only [tryC_ok]
  rw [setIdx_of_lt _ _ _ (off + 2 * rs + 2 * j + k) (by simp only [Int.natCast_add, Int.natCast_mul]; rfl)
    (by simp only [List.length_set]; omega)]
  simp only [tryC_ok]
  rw [setIdx_of_lt _ _ _ (off + 4 * rs + 2 * j + k) (by simp only [Int.natCast_add, Int.natCast_mul]; rfl)
    (by simp only [List.length_set]; omega)]
  simp only [tryC_ok]
  rw [setIdx_of_lt _ _ _ (off + 6 * rs + 2 * j + k) (by simp only [Int.natCast_add, Int.natCast_mul]; rfl)
    (by simp only [List.length_set]; omega)]
  simp only [tryC_ok, cell, sidePos, hB']

theorem kstep_length (gp : Nat × Nat → Bool) (L : Nat) (c : Bool) (i off j k : Nat) (st : List Int) :
    (kstep gp L c i off j k st).length = st.length := by simp [kstep]

when_kernel Gzx.Gen.K11b.extractBits in
/-- one domino `j`: the `k` loop makes two iterations -/
theorem body3_eq (get : Int → Int → Res Bool) (gp : Nat × Nat → Bool) (L : Nat) (c : Bool) (i off j : Nat) (st : List Int)
    (hi : i < L) (hj : j < rsz L c i) (hlen : off + 8 * rsz L c i ≤ st.length) (hr : ReadsOK get gp L c i)
    {offI rsI loI hiI : Int} (h1 : offI = off) (h2 : rsI = rsz L c i) (h3 : loI = (i * 2 : Nat))
    (h4 : hiI = (baseMatrixSize L c - 1 - i * 2 : Nat)) :
    Gen.K11b.extractBits_body3 get (amI L c) offI rsI loI hiI (j : Int) st =
      .next (kstep gp L c i off j 1 (kstep gp L c i off j 0 st)) := by
  unfold Gen.K11b.extractBits_body3
  dsimp only
  have ht : tripUp 0 2 1 = 2 := by decide
  rw [ht, loop_succ, body4_eq get gp L c i off j 0 st hi hj (by omega) hlen hr (jI := (j : Int)) (coI := (j : Int) * 2) (kI := 0) h1 h2 h3 h4 rfl (by omega) rfl]
  dsimp only
  rw [loop_succ, body4_eq get gp L c i off j 1 _ hi hj (by omega) (by rw [kstep_length]; omega) hr (jI := (j : Int)) (coI := (j : Int) * 2) (kI := 0 + 1) h1 h2 h3 h4 rfl (by omega) rfl]
  rfl

theorem set4_get (st : List Int) (a0 a1 a2 a3 : Nat) (v0 v1 v2 v3 : Int)
    (h0 : a0 < st.length) (h1 : a1 < st.length) (h2 : a2 < st.length) (h3 : a3 < st.length) (q : Nat) :
    ((((st.set a0 v0).set a1 v1).set a2 v2).set a3 v3)[q]? =
      if a3 = q then some v3 else if a2 = q then some v2 else if a1 = q then some v1 else if a0 = q then some v0 else st[q]? := by
  simp only [List.getElem?_set, List.length_set, if_pos h0, if_pos h1, if_pos h2, if_pos h3]

theorem kstep_get (gp : Nat × Nat → Bool) (L : Nat) (c : Bool) (i off j k : Nat) (st : List Int)
    (hj : j < rsz L c i) (hk : k < 2) (hlen : off + 8 * rsz L c i ≤ st.length) (q : Nat) :
    (kstep gp L c i off j k st)[q]? =
      if off + 6 * rsz L c i + 2 * j + k = q then some (cell gp L c i 3 j k)
      else if off + 4 * rsz L c i + 2 * j + k = q then some (cell gp L c i 2 j k)
      else if off + 2 * rsz L c i + 2 * j + k = q then some (cell gp L c i 1 j k)
      else if off + 2 * j + k = q then some (cell gp L c i 0 j k) else st[q]? := by
  unfold kstep
  exact set4_get st _ _ _ _ _ _ _ _ (by omega) (by omega) (by omega) (by omega) q

/-- state of the walk of layer `i` after `jj` dominoes: everything outside the layer's segment untouched, the first
    `jj` dominoes of each of the four sides final -/
def LInv (gp : Nat × Nat → Bool) (L : Nat) (c : Bool) (i off : Nat) (st0 : List Int) (jj : Nat) (st : List Int) : Prop :=
  st.length = st0.length ∧
  (∀ q, (q < off ∨ off + 8 * rsz L c i ≤ q) → st[q]? = st0[q]?) ∧
  (∀ s j k, s < 4 → j < jj → k < 2 → st[off + 2 * s * rsz L c i + 2 * j + k]? = some (cell gp L c i s j k))

theorem LInv_step_out (gp : Nat × Nat → Bool) (L : Nat) (c : Bool) (i off jj : Nat) (st : List Int)
    (hj : jj < rsz L c i) (hl0 : off + 8 * rsz L c i ≤ st.length) (q : Nat) (hq : q < off ∨ off + 8 * rsz L c i ≤ q) :
    (kstep gp L c i off jj 1 (kstep gp L c i off jj 0 st))[q]? = st[q]? := by
  have hl1 : off + 8 * rsz L c i ≤ (kstep gp L c i off jj 0 st).length := by rw [kstep_length]; omega
  rw [kstep_get gp L c i off jj 1 _ hj (by omega) hl1, kstep_get gp L c i off jj 0 _ hj (by omega) hl0]
  generalize rsz L c i = rs at *
  -- one arithmetic problem for the eight written indices (each `≠` costs `omega` a case split)
  have h : ¬ off + 6 * rs + 2 * jj + 1 = q ∧ ¬ off + 4 * rs + 2 * jj + 1 = q ∧ ¬ off + 2 * rs + 2 * jj + 1 = q ∧
      ¬ off + 2 * jj + 1 = q ∧ ¬ off + 6 * rs + 2 * jj + 0 = q ∧ ¬ off + 4 * rs + 2 * jj + 0 = q ∧
      ¬ off + 2 * rs + 2 * jj + 0 = q ∧ ¬ off + 2 * jj + 0 = q := by omega
  simp only [h, if_false]

theorem LInv_step_old (gp : Nat × Nat → Bool) (L : Nat) (c : Bool) (i off jj : Nat) (st : List Int)
    (hj : jj < rsz L c i) (hl0 : off + 8 * rsz L c i ≤ st.length) (s j k : Nat) (hs : s < 4) (hlt : j < jj) (hk : k < 2) :
    (kstep gp L c i off jj 1 (kstep gp L c i off jj 0 st))[off + 2 * s * rsz L c i + 2 * j + k]? =
      st[off + 2 * s * rsz L c i + 2 * j + k]? := by
  have hl1 : off + 8 * rsz L c i ≤ (kstep gp L c i off jj 0 st).length := by rw [kstep_length]; omega
  rw [kstep_get gp L c i off jj 1 _ hj (by omega) hl1, kstep_get gp L c i off jj 0 _ hj (by omega) hl0]
  generalize rsz L c i = rs at *
  -- side `s` starts `s` row lengths into the layer's segment; then as in `LInv_step_out`
  obtain ⟨m, hm, hq⟩ : ∃ m, (m = 0 ∨ m = rs ∨ m = 2 * rs ∨ m = 3 * rs) ∧ 2 * s * rs = 2 * m := by
    have hs' : s = 0 ∨ s = 1 ∨ s = 2 ∨ s = 3 := by omega
    rcases hs' with rfl | rfl | rfl | rfl
    · exact ⟨0, by omega, by omega⟩
    · exact ⟨rs, by omega, by omega⟩
    · exact ⟨2 * rs, by omega, by omega⟩
    · exact ⟨3 * rs, by omega, by omega⟩
  rw [hq]
  have h : ¬ off + 6 * rs + 2 * jj + 1 = off + 2 * m + 2 * j + k ∧
      ¬ off + 4 * rs + 2 * jj + 1 = off + 2 * m + 2 * j + k ∧
      ¬ off + 2 * rs + 2 * jj + 1 = off + 2 * m + 2 * j + k ∧ ¬ off + 2 * jj + 1 = off + 2 * m + 2 * j + k ∧
      ¬ off + 6 * rs + 2 * jj + 0 = off + 2 * m + 2 * j + k ∧
      ¬ off + 4 * rs + 2 * jj + 0 = off + 2 * m + 2 * j + k ∧
      ¬ off + 2 * rs + 2 * jj + 0 = off + 2 * m + 2 * j + k ∧ ¬ off + 2 * jj + 0 = off + 2 * m + 2 * j + k := by
    omega
  simp only [h, if_false]

theorem LInv_step_new (gp : Nat × Nat → Bool) (L : Nat) (c : Bool) (i off jj : Nat) (st : List Int)
    (hj : jj < rsz L c i) (hl0 : off + 8 * rsz L c i ≤ st.length) (s k : Nat) (hs : s < 4) (hk : k < 2) :
    (kstep gp L c i off jj 1 (kstep gp L c i off jj 0 st))[off + 2 * s * rsz L c i + 2 * jj + k]? =
      some (cell gp L c i s jj k) := by
  have hl1 : off + 8 * rsz L c i ≤ (kstep gp L c i off jj 0 st).length := by rw [kstep_length]; omega
  rw [kstep_get gp L c i off jj 1 _ hj (by omega) hl1, kstep_get gp L c i off jj 0 _ hj (by omega) hl0]
  generalize rsz L c i = rs at *
  have hs' : s = 0 ∨ s = 1 ∨ s = 2 ∨ s = 3 := by omega
  have hk' : k = 0 ∨ k = 1 := by omega
  -- `↓`: decide the outer condition first, so that nothing below the branch taken is looked at
  rcases hs' with rfl | rfl | rfl | rfl <;> rcases hk' with rfl | rfl <;>
    simp (disch := omega) only [↓if_neg, ↓if_pos]

theorem LInv_step (gp : Nat × Nat → Bool) (L : Nat) (c : Bool) (i off : Nat) (st0 : List Int) (jj : Nat) (st : List Int)
    (hj : jj < rsz L c i) (hlen : off + 8 * rsz L c i ≤ st0.length) (h : LInv gp L c i off st0 jj st) :
    LInv gp L c i off st0 (jj + 1) (kstep gp L c i off jj 1 (kstep gp L c i off jj 0 st)) := by
  unfold LInv at h ⊢
  obtain ⟨h1, h2, h3⟩ := h
  have hl0 : off + 8 * rsz L c i ≤ st.length := by omega
  refine ⟨by simp [kstep_length, h1], ?_, ?_⟩
  · intro q hq
    rw [← h2 q hq]
    exact LInv_step_out gp L c i off jj st hj hl0 q hq
  · intro s j k hs hjj hk
    by_cases hlt : j < jj
    · rw [LInv_step_old gp L c i off jj st hj hl0 s j k hs hlt hk]
      exact h3 s j k hs hlt hk
    · have : j = jj := by omega
      subst this
      exact LInv_step_new gp L c i off j st hj hl0 s k hs hk

theorem tb_step (L : Nat) (c : Bool) (i : Nat) (hi : i < L) :
    totalBitsInLayer (L - i) c = 8 * rsz L c i + totalBitsInLayer (L - (i + 1)) c := by
  obtain ⟨m, hm⟩ : ∃ m, L - i = m + 1 := ⟨L - i - 1, by omega⟩
  have hm' : L - (i + 1) = m := by omega
  simp only [rsz, hm, hm', totalBitsInLayer]
  cases c <;> simp only [Bool.false_eq_true, if_false, if_true] <;> grind

when_kernel Gzx.Gen.K11b.extractBits in
theorem layer_loop (get : Int → Int → Res Bool) (gp : Nat × Nat → Bool) (L : Nat) (c : Bool) (i off : Nat) (st : List Int)
    (hi : i < L) (hlen : off + 8 * rsz L c i ≤ st.length) (hr : ReadsOK get gp L c i)
    {offI rsI loI hiI : Int} (h1 : offI = off) (h2 : rsI = rsz L c i) (h3 : loI = (i * 2 : Nat))
    (h4 : hiI = (baseMatrixSize L c - 1 - i * 2 : Nat)) :
    ∃ st', loop (Gen.K11b.extractBits_body3 get (amI L c) offI rsI loI hiI) 1 (rsz L c i) 0 st = .next st' ∧
      LInv gp L c i off st (rsz L c i) st' := by
  have := loop_inv_next (ρ := List Int) (Gen.K11b.extractBits_body3 get (amI L c) offI rsI loI hiI)
    (fun jj st' => LInv gp L c i off st jj st') (rsz L c i) 0 (n := rsz L c i) (k := 0) (s := st)
    (Nat.zero_add _) ⟨rfl, fun _ _ => rfl, fun _ _ _ _ h _ => by omega⟩ (step := by
      intro j st' hj hinv
      rw [Nat.zero_add]
      refine ⟨_, body3_eq get gp L c i off j st' hi (by omega) (by rw [hinv.1]; exact hlen) hr h1 h2 h3 h4, ?_⟩
      exact LInv_step gp L c i off st j st' (by omega) hlen hinv)
  simpa using this

/-- the finished layer as a list equation -/
theorem LInv_take (gp : Nat × Nat → Bool) (L : Nat) (c : Bool) (i off : Nat) (st st' : List Int)
    (hlen : off + 8 * rsz L c i ≤ st.length) (h : LInv gp L c i off st (rsz L c i) st') :
    st'.take (off + 8 * rsz L c i) = st.take off ++ (layerPositions L c i).map (fun p => b2i (gp p)) := by
  obtain ⟨h1, h2, h3⟩ := h
  apply List.ext_getElem?
  intro q
  rw [List.getElem?_take]
  by_cases hq : q < off
  · rw [if_pos (by omega), h2 q (Or.inl hq), List.getElem?_append_left (by simp; omega), List.getElem?_take, if_pos hq]
  · by_cases hq2 : q < off + 8 * rsz L c i
    · rw [if_pos hq2, List.getElem?_append_right (by simp; omega)]
      have hlt : (st.take off).length = off := by simp; omega
      rw [hlt]
      have key : ∀ s, s < 4 → 2 * s * rsz L c i ≤ q - off → q - off < 2 * (s + 1) * rsz L c i →
          st'[q]? = ((layerPositions L c i).map (fun p => b2i (gp p)))[q - off]? := by
        intro s hs ha hb
        have hb' : q - off < 2 * s * rsz L c i + 2 * rsz L c i := by
          have : 2 * (s + 1) * rsz L c i = 2 * s * rsz L c i + 2 * rsz L c i := by
            rw [Nat.mul_add, Nat.add_mul]
          omega
        generalize hx : 2 * s * rsz L c i = x at *
        have e : q = off + x + 2 * ((q - off - x) / 2) + (q - off - x) % 2 := by omega
        have e2 : q - off = x + 2 * ((q - off - x) / 2) + (q - off - x) % 2 := by omega
        have hj : (q - off - x) / 2 < rsz L c i := by omega
        have hk : (q - off - x) % 2 < 2 := by omega
        have g := layerPositions_get L c i s _ _ hs hj hk
        have g3 := h3 s _ _ hs hj hk
        rw [hx] at g g3
        rw [List.getElem?_map, e2, g]
        conv => lhs; rw [e]
        rw [g3]; rfl
      by_cases c0 : q - off < 2 * rsz L c i
      · exact key 0 (by omega) (by omega) (by omega)
      · by_cases c1 : q - off < 4 * rsz L c i
        · exact key 1 (by omega) (by omega) (by omega)
        · by_cases c2 : q - off < 6 * rsz L c i
          · exact key 2 (by omega) (by omega) (by omega)
          · exact key 3 (by omega) (by omega) (by omega)
    · rw [if_neg hq2, List.getElem?_eq_none (by simp [layerPositions_length]; omega)]

/-! ### the loop over the layers and the whole function -/

/-- state of `for i, rowOffset := 0, 0; i < layers; i++` after `i` layers -/
def OInv (gp : Nat × Nat → Bool) (L : Nat) (c : Bool) (i : Nat) (s : List Int × Int × Int) : Prop :=
  s.2.1 = (i : Int) ∧ ∃ off : Nat, s.2.2 = (off : Int) ∧ off + totalBitsInLayer (L - i) c = totalBitsInLayer L c ∧
    s.1.length = totalBitsInLayer L c ∧
    s.1.take off = ((List.range i).flatMap (layerPositions L c)).map (fun p => b2i (gp p))

when_kernel Gzx.Gen.K11b.extractBits in
theorem body2_step (get : Int → Int → Res Bool) (gp : Nat × Nat → Bool) (L : Nat) (c : Bool)
    (hr : ∀ i, i < L → ReadsOK get gp L c i) (i : Nat) (s : List Int × Int × Int) (hi : i < L) (h : OInv gp L c i s) :
    ∃ s', Gen.K11b.extractBits_body2 get c (L : Int) (baseMatrixSize L c : Nat) (amI L c) s = .next s' ∧ OInv gp L c (i + 1) s' := by
  obtain ⟨st, iI, offI⟩ := s
  obtain ⟨h1, off, h2, h3, h4, h5⟩ := h
  simp only at h1 h2 h4 h5
  subst h1 h2
  have hstep := tb_step L c i hi
  unfold Gen.K11b.extractBits_body2
  dsimp only
  have hc : decide ((i : Int) < (L : Int)) = true := by simp; omega
  rw [hc, if_pos rfl]
  have hrs : (if c = true then ((L : Int) - (i : Int)) * 4 + 9 else ((L : Int) - (i : Int)) * 4 + 12) = ((rsz L c i : Nat) : Int) := by
    unfold rsz; cases c <;> simp <;> omega
  rw [hrs, tripUp_one]
  have ht : (((rsz L c i : Nat) : Int) - 0).toNat = rsz L c i := by omega
  rw [ht]
  obtain ⟨st', e, hinv⟩ := layer_loop get gp L c i off st hi (by omega) (hr i hi) (offI := (off : Int)) (rsI := ((rsz L c i : Nat) : Int))
    (loI := (i : Int) * 2) (hiI := ((baseMatrixSize L c : Nat) : Int) - 1 - (i : Int) * 2) rfl rfl (by omega)
    (by have : i * 2 + 1 ≤ baseMatrixSize L c := by unfold baseMatrixSize; cases c <;> simp <;> omega
        omega)
  rw [e]
  refine ⟨_, rfl, ?_⟩
  refine ⟨by simp, off + 8 * rsz L c i, by simp; omega, by omega, by simp [hinv.1, h4], ?_⟩
  show st'.take (off + 8 * rsz L c i) = _
  rw [LInv_take gp L c i off st st' (by omega) hinv, h5, List.range_succ, List.flatMap_append]
  simp

when_kernel Gzx.Gen.K11b.extractBits in
theorem body2_end (get : Int → Int → Res Bool) (gp : Nat × Nat → Bool) (L : Nat) (c : Bool)
    (s : List Int × Int × Int) (h : OInv gp L c L s) :
    Gen.K11b.extractBits_body2 get c (L : Int) (baseMatrixSize L c : Nat) (amI L c) s = .brk s := by
  obtain ⟨st, iI, offI⟩ := s
  obtain ⟨h1, _⟩ := h
  simp only at h1
  subst h1
  unfold Gen.K11b.extractBits_body2
  simp

when_kernel Gzx.Gen.K11b.extractBits in
theorem body6_eq : @Gen.K11b.extractBits_body6 = @Gen.K11b.extractBits_body2 := rfl

when_kernel Gzx.Gen.K11b.extractBits in
theorem layers_loop (get : Int → Int → Res Bool) (gp : Nat × Nat → Bool) (L : Nat) (c : Bool) (fuel : Nat) (hf : L < fuel)
    (hr : ∀ i, i < L → ReadsOK get gp L c i) :
    ∃ s', whileLoop (Gen.K11b.extractBits_body2 get c (L : Int) (baseMatrixSize L c : Nat) (amI L c)) fuel
        (List.replicate (totalBitsInLayer L c) 0, 0, 0) = (.brk s' : Ctl _ (List Int)) ∧
      s'.1 = bitsI ((readPositions L c).map gp) := by
  obtain ⟨s', e, hinv⟩ := whileLoop_inv (ρ := List Int) (Gen.K11b.extractBits_body2 get c (L : Int) (baseMatrixSize L c : Nat) (amI L c))
    (OInv gp L c) L (fun i st hi h => body2_step get gp L c hr i st hi h) (fun st h => body2_end get gp L c st h)
    L 0 (List.replicate (totalBitsInLayer L c) 0, 0, 0) fuel (by omega) hf
    ⟨rfl, 0, rfl, by simp, by simp, by simp⟩
  refine ⟨s', e, ?_⟩
  obtain ⟨_, off, _, h3, h4, h5⟩ := hinv
  have h0 : totalBitsInLayer (L - L) c = 0 := by simp [totalBitsInLayer]
  rw [h0] at h3
  rw [List.take_of_length_le (by omega)] at h5
  rw [h5, readPositions, bitsI, List.map_map]; rfl

when_kernel Gzx.Gen.K11b.extractBits in
/-- `Decoder.extractBits` for every layer count, both symbol kinds and EVERY `matrix.Get` that answers on the coordinates
    the walk visits: the regenerated function returns exactly the modules at the model's `readPositions`, in the
    model's order (it needs `layers + 1` units of fuel for the `for i, rowOffset := 0, 0; …` loop) -/
theorem k_extractBits_ok (get : Int → Int → Res Bool) (gp : Nat × Nat → Bool) (L : Nat) (c : Bool) (fuel : Nat) (hf : L < fuel)
    (hr : ∀ i, i < L → ReadsOK get gp L c i) :
    Gen.K11b.extractBits fuel c (L : Int) get = .ok (bitsI ((readPositions L c).map gp)) := by
  obtain ⟨s', e, hs'⟩ := layers_loop get gp L c fuel hf hr
  unfold Gen.K11b.extractBits
  dsimp only
  have hB : (if c = true then (L : Int) * 4 + 11 else (L : Int) * 4 + 14) = ((baseMatrixSize L c : Nat) : Int) := by
    unfold baseMatrixSize; cases c <;> simp
  rw [hB, mk_eq_mkA, mkA_of_eq 0 _ (baseMatrixSize L c) rfl]
  simp only [tryR_ok]
  rw [k_totalBitsInLayer_eq]
  simp only [tryR_ok]
  rw [mk_eq_mkA, mkA_of_eq 0 _ (totalBitsInLayer L c) rfl]
  simp only [tryR_ok]
  cases c with
  | true =>
    simp only [if_true, tripUp_one, len, List.length_replicate]
    rw [show (((baseMatrixSize L true : Nat) : Int) - 0).toNat = baseMatrixSize L true by omega, am_loop_compact L]
    simp only [next_thenR]
    rw [e]
    simp only [brk_thenR, hs']
  | false =>
    simp only [Bool.false_eq_true, if_false, tripUp_one]
    have q1 : Int.tdiv ((baseMatrixSize L false : Nat) : Int) 2 = ((baseMatrixSize L false / 2 : Nat) : Int) := tdiv_natCast _ 2
    rw [q1]
    have q2 : Int.tdiv (((baseMatrixSize L false / 2 : Nat) : Int) - 1) 15 = (((baseMatrixSize L false / 2 - 1) / 15 : Nat) : Int) := by
      have : ((baseMatrixSize L false / 2 : Nat) : Int) - 1 = ((baseMatrixSize L false / 2 - 1 : Nat) : Int) := by
        have : 1 ≤ baseMatrixSize L false / 2 := by unfold baseMatrixSize; simp; omega
        omega
      rw [this]; exact tdiv_natCast _ 15
    rw [q2]
    have q3 : Int.tdiv (((baseMatrixSize L false : Nat) : Int) + 1 + 2 * (((baseMatrixSize L false / 2 - 1) / 15 : Nat) : Int)) 2
        = (((baseMatrixSize L false + 1 + 2 * ((baseMatrixSize L false / 2 - 1) / 15)) / 2 : Nat) : Int) := by
      have : ((baseMatrixSize L false : Nat) : Int) + 1 + 2 * (((baseMatrixSize L false / 2 - 1) / 15 : Nat) : Int)
          = ((baseMatrixSize L false + 1 + 2 * ((baseMatrixSize L false / 2 - 1) / 15) : Nat) : Int) := by omega
      rw [this]; exact tdiv_natCast _ 2
    rw [q3]
    rw [show (((baseMatrixSize L false / 2 : Nat) : Int) - 0).toNat = baseMatrixSize L false / 2 by omega]
    have := am_loop_full L
    simp only at this
    rw [this]
    simp only [next_thenR, body6_eq]
    rw [e]
    simp only [brk_thenR, hs']

/-! ### against the model's `extractBits` on a concrete matrix -/

/-- `matrix.Get` of a model matrix -/
def getOf (m : Matrix) : Int → Int → Res Bool := fun x y => getBit m x.toNat y.toNat

/-- the module the model reads at a position (false where the model's `Get` fails) -/
def bitOf (m : Matrix) (p : Nat × Nat) : Bool :=
  match getBit m p.1 p.2 with
  | .ok b => b
  | .error _ => false

theorem readAll_ok (m : Matrix) : ∀ (ps : List (Nat × Nat)) (bs : List Bool), readAll m ps = .ok bs →
    bs = ps.map (bitOf m) ∧ ∀ p, p ∈ ps → getBit m p.1 p.2 = .ok (bitOf m p) := by
  intro ps
  induction ps with
  | nil => intro bs h; simp [readAll] at h; subst h; simp
  | cons p ps ih =>
    intro bs h
    simp only [readAll] at h
    cases hg : getBit m p.1 p.2 with
    | error e => rw [hg] at h; simp at h
    | ok b =>
      rw [hg] at h
      cases hr : readAll m ps with
      | error e => rw [hr] at h; simp at h
      | ok bs' =>
        rw [hr] at h
        simp only [Except.ok.injEq] at h
        obtain ⟨h1, h2⟩ := ih bs' hr
        have hb : bitOf m p = b := by simp [bitOf, hg]
        refine ⟨by rw [← h, h1, List.map_cons, hb], ?_⟩
        intro q hq
        rcases List.mem_cons.mp hq with rfl | hq
        · rw [hg, hb]
        · exact h2 q hq

theorem sidePos_mem (L : Nat) (c : Bool) (i s j k : Nat) (hi : i < L) (hs : s < 4) (hj : j < rsz L c i) (hk : k < 2) :
    sidePos L c i s j k ∈ readPositions L c := by
  rw [readPositions, List.mem_flatMap]
  exact ⟨i, List.mem_range.mpr hi, List.mem_of_getElem? (layerPositions_get L c i s j k hs hj hk)⟩

when_kernel Gzx.Gen.K11b.extractBits in
/-- whenever the MODEL extracts the bits of a matrix, the regenerated Go function extracts the same bits -/
theorem k_extractBits_eq_model (m : Matrix) (L : Nat) (c : Bool) (bs : List Bool)
    (h : AztecDecoder.extractBits m L c = .ok bs) :
    Gen.K11b.extractBits (L + 1) c (L : Int) (getOf m) = .ok (bitsI bs) := by
  obtain ⟨h1, h2⟩ := readAll_ok m _ bs h
  rw [h1]
  apply k_extractBits_ok (getOf m) (bitOf m) L c (L + 1) (by omega)
  intro i hi s j k hs hj hk
  have := h2 _ (sidePos_mem L c i s j k hi hs hj hk)
  simpa [getOf] using this

/-- non-vacuity: a 15x15 compact symbol with one layer -/
example : AztecDecoder.extractBits (List.replicate 15 (List.replicate 15 true)) 1 true = .ok (List.replicate 104 true) := by
  decide +kernel

end Gzx.Obligations.K11b
