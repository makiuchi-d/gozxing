/-
  K16b (rest of BitMatrix) — the BitMatrix methods that the renderers do not use (Xor, SetRow, FlipAll, rotations, scans),
  regenerated from /repo's bit_matrix.go on every run (`Gzx.Gen.K16b`) and proved equal to the word model `WMat.*` of
  Model/Bits.lean.  Conventions and the renderers' methods (Set/Unset/Flip/SetRegion/Clear): Obligations/K16b.lean.
  Unlike there, some theorems need part of the representation invariant:
  * FlipAll: words below 2^32, `len(bits) = rowSize*height`, `rowSize ≥ 1` (the masking loop runs over `height` rows and masks
    word `rowSize-1` of each); `k_matrixFlipAll_eq` states it for `InvM`;
  * Rotate180: `len(bits) = rowSize*height`, `rowSize ≥ 1` (the rows are cut out of the word list);
  * GetTopLeftOnBit, GetEnclosingRectangle: words below 2^32 (the lowest-bit loop is specified only there);
  * Xor, SetRow, Rotate90, GetBottomRightOnBit: every matrix.
  Loops translated from `for cond` run on fuel; each theorem says how much suffices.
-/
import Gzx.Gen.K16b
import Gzx.KernelGuard
import Gzx.Proofs.BitsTie
import Gzx.Proofs.BitsCorners
namespace Gzx.Obligations.K16bMat
open Gzx Gzx.GoM Gzx.Bits Gzx.GoVal

when_kernel Gzx.Gen.K16b.matrixXor in
/-- `BitMatrix.Xor(mask)` = `WMat.xor`: dimension check (error, unchanged), then word by word
    `bits[y*rowSize+x] ^= mask.bits[y*mask.rowSize+x]`, index panics at the same iteration.
    (`b` and `mask` are different objects: the translation threads the two word slices separately.) -/
theorem k_matrixXor_eq (m mask : WMat) :
    Gen.K16b.matrixXor m.width m.height m.rowSize (words m.words) mask.width mask.height mask.rowSize (words mask.words) =
      expEW m.words (WMat.xor m mask) := by
  simp only [Gen.K16b.matrixXor, WMat.xor]
  by_cases h1 : m.width ≠ mask.width ∨ m.height ≠ mask.height ∨ m.rowSize ≠ mask.rowSize
  · resolve_ifs; rfl
  resolve_ifs
  generalize hF : (fun (ws : List Nat) (y : Nat) => (List.range m.rowSize).foldlM (fun ws x => do
          let o ← wordAt mask.words (y * mask.rowSize + x)
          updWord ws (y * m.rowSize + x) (fun w => w ^^^ o)) ws) = F
  rw [List.range_eq_range', loop_up_fold' words F 0 m.height m.words rfl (by rw [tripUp_one]; omega) (by omega), ofRes_thenR]
  · cases hf : (List.range' 0 m.height).foldlM F m.words with
    | ok ws => rfl
    | error e =>
      refine (expEW_error _ ?_).symm
      subst hF
      refine foldlM_error NotArg _ (fun _ y _ h => foldlM_error NotArg _ (fun _ x e h => ?_) _ _ _ h) _ _ _ hf
      simp only [bind, Except.bind] at h
      cases hw : wordAt mask.words (y * mask.rowSize + x) with
      | error e' => rw [hw] at h; injection h with h; subst h; exact wordAt_error hw
      | ok o => rw [hw] at h; exact updWord_error h
  · subst hF
    intro y _ _ ws
    simp only [Gen.K16b.matrixXor_body1]
    rw [List.range_eq_range', loop_up_fold' words (fun ws x => do
          let o ← wordAt mask.words (y * mask.rowSize + x)
          updWord ws (y * m.rowSize + x) (fun w => w ^^^ o)) 0 m.rowSize ws rfl (by rw [tripUp_one]; omega) (by omega), ofRes_thenC_next]
    intro x _ _ ws
    simp only [Gen.K16b.matrixXor_body2]
    rw [idxC mask.words (y * mask.rowSize + x) _ (by omega)]
    simp only [bind, Except.bind]
    cases wordAt mask.words (y * mask.rowSize + x) with
    | error e => rfl
    | ok o =>
      simp only []
      rw [updC ws (y * m.rowSize + x) (fun w => w ^^^ o) _ (by omega) (by omega) (fun w => ixor_natCast w o)]
      cases updWord ws (y * m.rowSize + x) _ <;> rfl

when_kernel Gzx.Gen.K16b.matrixSetRow in
/-- `BitMatrix.SetRow(y, row)` = `WMat.setRow`: `copy(bits[y*rowSize : y*rowSize+rowSize], row.bits)` with the slice-bounds panic -/
theorem k_matrixSetRow_eq (m : WMat) (y : Nat) (row : WArr) :
    Gen.K16b.matrixSetRow m.rowSize (words m.words) y (words row.words) = expW (WMat.setRow m y row) := by
  have hmul : (y : Int) * (m.rowSize : Int) = ((y * m.rowSize : Nat) : Int) := by simp
  simp only [Gen.K16b.matrixSetRow, WMat.setRow, expW, copySeg, nats_length, hmul]
  by_cases h : y * m.rowSize + m.rowSize > m.words.length
  · simp (disch := omega) only [if_pos, if_neg]; rfl
  · simp (disch := omega) only [if_pos, if_neg]
    have e2 : (((y * m.rowSize : Nat) : Int) + (m.rowSize : Int)).toNat = y * m.rowSize + m.rowSize := by omega
    simp only [Int.toNat_natCast, e2, tryR_ok, Except.map]
    congr 1
    rw [show y * m.rowSize + m.rowSize - y * m.rowSize = m.rowSize by omega]
    simp only [words, ← List.map_take, ← List.map_drop]
    rw [show List.map Int.ofNat ((m.words.drop (y * m.rowSize)).take m.rowSize) =
          words ((m.words.drop (y * m.rowSize)).take m.rowSize) from rfl,
        show List.map Int.ofNat row.words = words row.words from rfl, copyL_words]
    simp [words]

when_kernel Gzx.Gen.K16b.matrixFlipAll in
/-- `BitMatrix.FlipAll()` = `WMat.flipAll` on a matrix with words below 2^32, `len(bits) = rowSize*height` and `rowSize ≥ 1`
    (what the proof needs of the representation invariant), for every fuel above `height`: every word complemented in 32 bits,
    then — when `width%32 ≠ 0` — the last word of every row (`i = rowSize-1; i < len; i += rowSize`) masked with `1<<shift - 1` -/
theorem k_matrixFlipAll_words_eq (m : WMat) (hrs1 : 1 ≤ m.rowSize) (hlen : m.words.length = m.rowSize * m.height)
    (h32 : ∀ w ∈ m.words, w < W32) (fuel : Nat) (hfuel : m.height < fuel) :
    Gen.K16b.matrixFlipAll fuel m.width m.rowSize (words m.words) = expW (WMat.flipAll m) := by
  simp only [Gen.K16b.matrixFlipAll, WMat.flipAll, expW]
  rw [loop_up_fold' words (fun ws i => updWord ws i (fun w => (wrap 32 (inot (w : Int))).toNat)) 0 m.words.length m.words rfl
        (by rw [tripUp_one]; gonorm; omega) (by omega), foldlM_updWord_all,
      show m.words.map (fun (w : Nat) => (wrap 32 (inot (w : Int))).toNat) = m.words.map not32 from
        List.map_congr_left (fun w hw => by rw [not32_natCast w (h32 w hw), Int.toNat_natCast])]
  · simp only [ofRes_thenR, Except.map]
    have hsh := tmod32_natCast m.width
    rw [hsh]
    by_cases hs : m.width % 32 = 0
    · simp [hs]
    · have hne : (((m.width % 32 : Nat) : Int) != 0) = true := by simp; omega
      simp only [hne, if_true, hs, ne_eq, not_false_eq_true]
      have hmask : wrap 32 (wrap 32 (ishl 1 ((m.width % 32 : Nat) : Int)) - 1) = ((1 <<< (m.width % 32) - 1 : Nat) : Int) := by
        rw [bit_natCast _ (m.width % 32) rfl (Nat.mod_lt _ (by decide))]
        have hp : 1 ≤ 1 <<< (m.width % 32) := by rw [Nat.one_shiftLeft]; exact Nat.one_le_two_pow
        have hlt := one_shl_lt (m.width % 32) (Nat.mod_lt _ (by decide))
        unfold W32 at hlt
        have e1 : ((1 <<< (m.width % 32) : Nat) : Int) - (1 : Int) = ((1 <<< (m.width % 32) - 1 : Nat) : Int) := by omega
        rw [e1]
        exact wrap_of_lt _ _ (by omega) (by omega)
      generalize hF : (fun (ws : List Nat) (y : Nat) =>
          updWord ws (y * m.rowSize + (m.rowSize - 1)) (fun w => w &&& (1 <<< (m.width % 32) - 1))) = F
      rw [hmask, show (m.rowSize : Int) - 1 = ((m.rowSize - 1 + 0 * m.rowSize : Nat) : Int) by omega, len_words,
        whileLoop_stride words F
          (m.rowSize - 1) m.rowSize (m.words.map not32).length _ ?_ ?_ m.height 0 (m.words.map not32) fuel hfuel ?_ ?_]
      · rw [List.range_eq_range']
        cases (List.range' 0 m.height).foldlM F (m.words.map not32) <;> rfl
      · subst hF
        intro j ws hj
        simp only [Gen.K16b.matrixFlipAll_body2]
        have hlt : (((m.rowSize - 1 + j * m.rowSize : Nat) : Int) < (m.words.length : Int)) := by
          simp only [List.length_map] at hj; omega
        simp only [hlt, decide_true, if_true]
        rw [updC ws (j * m.rowSize + (m.rowSize - 1)) (fun w => w &&& (1 <<< (m.width % 32) - 1)) _ (by omega) (by omega)
          (fun w => iand_natCast w _)]
        have e : ((m.rowSize - 1 + j * m.rowSize : Nat) : Int) + (m.rowSize : Int) = ((m.rowSize - 1 + (j + 1) * m.rowSize : Nat) : Int) := by
          rw [Nat.succ_mul]; omega
        cases updWord ws _ _ with
        | error er => rfl
        | ok ws' => simp only []; rw [e]
      · intro j ws hj
        simp only [Gen.K16b.matrixFlipAll_body2]
        have hlt : ¬ (((m.rowSize - 1 + j * m.rowSize : Nat) : Int) < (m.words.length : Int)) := by
          simp only [List.length_map] at hj; omega
        simp only [hlt, decide_false, Bool.false_eq_true, if_false]
      · intro i _ hi
        rw [List.length_map, hlen]
        have : (i + 1) * m.rowSize ≤ m.height * m.rowSize := Nat.mul_le_mul_right _ (by omega)
        rw [Nat.succ_mul] at this
        rw [Nat.mul_comm m.rowSize m.height]; omega
      · rw [List.length_map, hlen, Nat.zero_add, Nat.mul_comm m.rowSize m.height]; omega
  · intro i _ hi ws
    simp only [Gen.K16b.matrixFlipAll_body1]
    rw [updC ws i (fun w => (wrap 32 (inot (w : Int))).toNat) _ rfl rfl
      (fun w => (Int.toNat_of_nonneg (wrap_nonneg 32 _)).symm)]
    cases updWord ws i _ <;> rfl

when_kernel Gzx.Gen.K16b.matrixFlipAll in
/-- `BitMatrix.FlipAll()` = `WMat.flipAll` on a matrix satisfying the representation invariant -/
theorem k_matrixFlipAll_eq (m : WMat) (h : InvM m) (fuel : Nat) (hfuel : m.height < fuel) :
    Gen.K16b.matrixFlipAll fuel m.width m.rowSize (words m.words) = expW (WMat.flipAll m) :=
  k_matrixFlipAll_words_eq m (by have := h.1; have := h.2.2.1; omega) h.2.2.2.1 h.2.2.2.2.1 fuel hfuel

/-- non-vacuity of `k_matrixFlipAll_eq`: a 33x2 matrix (two words per row, `width%32 ≠ 0`) satisfies the invariant, fuel 3 -/
example : ∃ m : WMat, InvM m ∧ m.width % 32 ≠ 0 ∧ m.height < 3 :=
  ⟨⟨33, 2, 2, [0, 0, 0, 0]⟩, ⟨by decide, by decide, by decide, by decide, by decide,
    fun x y _ _ => by
      show bitAt (List.replicate 4 0) _ = false
      unfold bitAt
      rw [List.getElem?_replicate]; split <;> simp⟩, by decide, by decide⟩

/-- all four fields, for a method that replaces the whole matrix -/
def expM (r : Res WMat) : Res (Int × Int × Int × List Int) :=
  r.map (fun m' => ((m'.width : Int), (m'.height : Int), (m'.rowSize : Int), words m'.words))

when_kernel Gzx.Gen.K16b.matrixRotate90 in
/-- `BitMatrix.Rotate90()` = `WMat.rotate90`: new dimensions and row size, a zeroed slice of `newRowSize*newHeight` words,
    and for every set cell `(x, y)` (word `y*rowSize + x/32`, bit `x&31`) the bit `y&31` of word
    `(newHeight-1-x)*newRowSize + y/32` of the new slice; all four fields are replaced -/
theorem k_matrixRotate90_eq (m : WMat) :
    Gen.K16b.matrixRotate90 m.width m.height m.rowSize (words m.words) = expM (WMat.rotate90 m) := by
  simp only [Gen.K16b.matrixRotate90, WMat.rotate90, expM]
  have hrs : Int.tdiv ((m.height : Int) + 31) 32 = (((m.height + 31) / 32 : Nat) : Int) := tdiv32_natCast (m.height + 31)
  rw [hrs, mk_nats _ ((m.height + 31) / 32 * m.width) (by simp)]
  simp only [tryR_ok]
  generalize hF : (fun (nb : List Nat) (y : Nat) => (List.range m.width).foldlM (fun nb x => do
        let w ← wordAt m.words (y * m.rowSize + x / 32)
        if ((w >>> (x % 32)) &&& 1) != 0 then
          updWord nb ((m.width - 1 - x) * ((m.height + 31) / 32) + y / 32) (fun v => v ||| (1 <<< (y % 32)))
        else pure nb) nb) = F
  rw [List.range_eq_range', loop_up_fold' words F 0 m.height (List.replicate ((m.height + 31) / 32 * m.width) 0) rfl
        (by rw [tripUp_one]; omega) (by omega), ofRes_thenR]
  · cases (List.range' 0 m.height).foldlM F (List.replicate ((m.height + 31) / 32 * m.width) 0) <;> rfl
  · subst hF
    intro y _ _ nb
    simp only [Gen.K16b.matrixRotate90_body1]
    rw [List.range_eq_range', loop_up_fold' words (fun nb x => do
        let w ← wordAt m.words (y * m.rowSize + x / 32)
        if ((w >>> (x % 32)) &&& 1) != 0 then
          updWord nb ((m.width - 1 - x) * ((m.height + 31) / 32) + y / 32) (fun v => v ||| (1 <<< (y % 32)))
        else pure nb) 0 m.width nb rfl (by rw [tripUp_one]; omega) (by omega), ofRes_thenC_next]
    intro x _ hx nb
    simp only [Gen.K16b.matrixRotate90_body2]
    rw [idxC m.words (y * m.rowSize + x / 32) _ (cellWord_natCast ..)]
    simp only [bind, Except.bind]
    cases wordAt m.words (y * m.rowSize + x / 32) with
    | error e => rfl
    | ok w =>
      simp only []
      rw [shr_of_nonneg _ _ (by rw [iand31_natCast]; exact Int.natCast_nonneg _)]
      simp only [tryC_ok]
      have hsh : ishr (w : Int) (iand (x : Int) 31) = ((w >>> (x % 32) : Nat) : Int) := by
        rw [iand31_natCast, ishr_natCast]
      have e1 : (1 : Int) = ((1 : Nat) : Int) := rfl
      rw [hsh, e1, iand_natCast, natCast_bne_zero]
      cases hb : ((w >>> (x % 32) &&& 1) != 0) with
      | false => simp [pure, Except.pure, Except.map]
      | true =>
        simp only [if_true]
        rw [shl_of_nonneg _ _ (by rw [iand31_natCast]; exact Int.natCast_nonneg _)]
        simp only [tryC_ok]
        have h1 : ((m.width : Int) - ((1 : Nat) : Int) - (x : Int)) = ((m.width - 1 - x : Nat) : Int) := by omega
        rw [h1, ← Int.natCast_mul,
          updC nb ((m.width - 1 - x) * ((m.height + 31) / 32) + y / 32) (fun v => v ||| 1 <<< (y % 32))]
        · cases updWord nb _ _ <;> rfl
        · rw [tdiv32_natCast, Int.natCast_add]
        · rw [tdiv32_natCast, Int.natCast_add]
        · intro v
          rw [← e1, bit32_iand31_natCast, ior_natCast]

/-! ### scans: `GetTopLeftOnBit`, `GetBottomRightOnBit` -/

/-- `bit := 0; for (theBits << (31-bit)) == 0 { bit++ }` on a non-zero 32-bit word is the model's `lowBit`.
    Stated for any `body` with the equation `hb`, which is what `simp only` with the generated body leaves; it serves the
    loops of GetTopLeftOnBit and of GetEnclosingRectangle. -/
theorem lowBit_while {ρ : Type} (w : Nat) (hw0 : w ≠ 0) (hw : w < W32) (body : Int → Ctl Int ρ)
    (hb : ∀ bit : Nat, bit ≤ 31 → body (bit : Int) =
      if shl32 w (31 - bit) = 0 then .next ((bit + 1 : Nat) : Int) else .brk (bit : Int)) :
    ∀ (n bit fuel : Nat), 1 ≤ n → bit + n = 32 → n ≤ fuel →
      whileLoop body fuel (bit : Int) = .brk ((lowBitLoop n bit w : Nat) : Int) := by
  intro n
  induction n with
  | zero => intro _ _ h; omega
  | succ n ih =>
    intro bit fuel _ hbn hf
    obtain ⟨fuel, rfl⟩ : ∃ k, fuel = k + 1 := ⟨fuel - 1, by omega⟩
    rw [whileLoop_succ, hb bit (by omega)]
    unfold lowBitLoop
    by_cases hz : shl32 w (31 - bit) = 0
    · simp only [hz, if_true]
      have hbit : bit ≠ 31 := by
        intro h31; subst h31
        unfold shl32 at hz
        simp only [Nat.sub_self, Nat.shiftLeft_zero] at hz
        rw [Nat.mod_eq_of_lt hw] at hz
        exact hw0 hz
      exact ih (bit + 1) fuel (by omega) (by omega) (by omega)
    · simp only [hz, if_false]

/-- `bit := 31; for (theBits >> bit) == 0 { bit-- }` on a non-zero 32-bit word is the model's `highBit` -/
theorem highBit_while {ρ : Type} (w : Nat) (hw0 : w ≠ 0) (body : Int → Ctl Int ρ)
    (hb : ∀ bit : Nat, bit ≤ 31 → body (bit : Int) =
      if w >>> bit = 0 then .next ((bit - 1 : Nat) : Int) else .brk (bit : Int)) :
    ∀ (n bit fuel : Nat), n = bit + 1 → bit ≤ 31 → n ≤ fuel →
      whileLoop body fuel (bit : Int) = .brk ((highBitLoop n bit w : Nat) : Int) := by
  intro n
  induction n with
  | zero => intro _ _ h; omega
  | succ n ih =>
    intro bit fuel hn hb31 hf
    obtain ⟨fuel, rfl⟩ : ∃ k, fuel = k + 1 := ⟨fuel - 1, by omega⟩
    rw [whileLoop_succ, hb bit hb31]
    unfold highBitLoop
    by_cases hz : w >>> bit = 0
    · simp only [hz, if_true]
      have hbit : bit ≠ 0 := by
        intro h0; subst h0
        simp only [Nat.shiftRight_zero] at hz
        exact hw0 hz
      exact ih (bit - 1) fuel (by omega) (by omega) (by omega)
    · simp only [hz, if_false]

/-- `for bitsOffset < len && bits[bitsOffset] == 0 { bitsOffset++ }` is `findIdx (· != 0)` -/
theorem first_while {ρ : Type} (ws : List Nat) (body : Int → Ctl Int ρ)
    (hb : ∀ k : Nat, body (k : Int) =
      match ws[k]? with
      | some w => if w = 0 then .next ((k + 1 : Nat) : Int) else .brk (k : Int)
      | none => .brk (k : Int)) :
    ∀ (n k fuel : Nat), k + n = ws.length → n < fuel →
      whileLoop body fuel (k : Int) = .brk ((k + (ws.drop k).findIdx (fun w => w != 0) : Nat) : Int) := by
  intro n
  induction n with
  | zero =>
    intro k fuel hk hf
    obtain ⟨fuel, rfl⟩ : ∃ j, fuel = j + 1 := ⟨fuel - 1, by omega⟩
    rw [whileLoop_succ, hb k, List.getElem?_eq_none (by omega), List.drop_eq_nil_of_le (by omega)]
    simp
  | succ n ih =>
    intro k fuel hk hf
    obtain ⟨fuel, rfl⟩ : ∃ j, fuel = j + 1 := ⟨fuel - 1, by omega⟩
    have hlt : k < ws.length := by omega
    rw [whileLoop_succ, hb k, List.getElem?_eq_getElem hlt, List.drop_eq_getElem_cons hlt, List.findIdx_cons]
    by_cases hz : ws[k] = 0
    · simp only [hz, if_true, bne_self_eq_false, cond_false]
      rw [ih (k + 1) fuel (by omega) (by omega)]
      congr 2; omega
    · have : (ws[k] != 0) = true := by simp [hz]
      simp [hz, this]

/-- what the regenerated scans return: `nil` (empty) or the two coordinates -/
def expPt (r : Res (Option (List Nat))) : Res (List Int) :=
  r.map (fun o => match o with | none => [] | some l => l.map Int.ofNat)

when_kernel Gzx.Gen.K16b.matrixGetTopLeftOnBit in
/-- `BitMatrix.GetTopLeftOnBit()` = `WMat.getTopLeftOnBit` (words below 2^32; fuel above `len(bits)+32`): first non-zero word,
    `y = offset / rowSize`, `x = (offset % rowSize)*32 + lowest set bit`, `nil` for an empty matrix, the division panic for
    `rowSize = 0` -/
theorem k_matrixGetTopLeftOnBit_eq (m : WMat) (h32 : ∀ w ∈ m.words, w < W32) (fuel : Nat) (hf : m.words.length + 32 < fuel) :
    Gen.K16b.matrixGetTopLeftOnBit fuel m.rowSize (words m.words) = expPt (WMat.getTopLeftOnBit m) := by
  simp only [Gen.K16b.matrixGetTopLeftOnBit, WMat.getTopLeftOnBit, expPt, len_words]
  rw [show (0 : Int) = ((0 : Nat) : Int) from rfl, first_while m.words _ ?_ m.words.length 0 fuel (by omega) (by omega)]
  · simp only [brk_thenR, List.drop_zero, Nat.zero_add]
    generalize hk : m.words.findIdx (fun w => w != 0) = k
    by_cases hend : k = m.words.length
    · simp [hend, Except.map]
    · have hne : ((k : Int) == (m.words.length : Int)) = false := by simp; omega
      have hk' : k < m.words.length := by
        have := @List.findIdx_le_length _ (fun w => w != 0) m.words; omega
      simp only [hne, Bool.false_eq_true, if_false, List.getElem?_eq_getElem hk']
      by_cases hr0 : m.rowSize = 0
      · simp [hr0, GoM.div, Except.map]
      · have hr0' : ¬ ((m.rowSize : Int) = 0) := by omega
        simp only [GoM.div, GoM.mod, hr0, hr0', if_false, tryR_ok]
        rw [idxR m.words k _ rfl]
        simp only [wordAt, List.getElem?_eq_getElem hk']
        have hnz : m.words[k] ≠ 0 := by
          have := @List.findIdx_getElem _ (fun w => w != 0) m.words (by rw [hk]; exact hk')
          simp only [hk] at this
          simpa using this
        rw [lowBit_while m.words[k] hnz (h32 _ (List.getElem_mem hk')) _ ?_ 32 0 fuel (by omega) (by omega) (by omega)]
        · simp only [brk_thenR, Except.map, lowBit, List.map_cons, List.map_nil, Int.ofNat_eq_natCast]
          gonorm
          have e1 : (k : Int) % (m.rowSize : Int) * 32 + ((lowBitLoop 32 0 m.words[k] : Nat) : Int) =
              ((k % m.rowSize * 32 + lowBitLoop 32 0 m.words[k] : Nat) : Int) := by
            rw [Int.natCast_add, Int.natCast_mul, Int.natCast_emod]; rfl
          have e2 : (k : Int) / (m.rowSize : Int) = ((k / m.rowSize : Nat) : Int) := by rw [Int.natCast_ediv]
          rw [e1, e2]
        · intro bit hbit
          simp only [Gen.K16b.matrixGetTopLeftOnBit_body2]
          have e1 : wrap 64 (31 - (bit : Int)) = ((31 - bit : Nat) : Int) := by gonorm; omega
          have e2 : wrap 64 ((bit : Int) + 1) = ((bit + 1 : Nat) : Int) := by gonorm; omega
          rw [e1, e2, ishl_natCast, wrap_natCast]
          have e3 : (m.words[k] <<< (31 - bit)) % 2 ^ 32 = shl32 m.words[k] (31 - bit) := rfl
          rw [e3]
          by_cases hz : shl32 m.words[k] (31 - bit) = 0
          · simp [hz]
          · have : ((shl32 m.words[k] (31 - bit) : Int) == 0) = false := by simp; omega
            simp [hz, this]
  · intro k
    simp only [Gen.K16b.matrixGetTopLeftOnBit_body1, len_words]
    by_cases hk : k < m.words.length
    · have : decide ((k : Int) < (m.words.length : Int)) = true := by simp; omega
      simp only [this, if_true, List.getElem?_eq_getElem hk]
      rw [idxC m.words k _ rfl]
      simp only [wordAt, List.getElem?_eq_getElem hk]
      by_cases hz : m.words[k] = 0
      · simp [hz]
      · have : ((m.words[k] : Int) == 0) = false := by simp; omega
        simp [hz, this]
    · have : decide ((k : Int) < (m.words.length : Int)) = false := by simp; omega
      simp only [this, Bool.false_eq_true, if_false, List.getElem?_eq_none (by omega : m.words.length ≤ k)]

theorem lastNonzero_snoc (l : List Nat) (x : Nat) : ∀ i, WMat.lastNonzero (l ++ [x]) i =
    if x != 0 then some (i + l.length, x) else WMat.lastNonzero l i := by
  induction l with
  | nil => intro i; simp [WMat.lastNonzero]
  | cons w l ih =>
    intro i
    simp only [List.cons_append, WMat.lastNonzero, ih (i + 1), List.length_cons]
    by_cases hx : (x != 0) = true
    · simp only [hx, if_true]; congr 2; omega
    · simp only [hx, Bool.false_eq_true, if_false]

theorem lastNonzero_spec (l : List Nat) : ∀ (j i w : Nat), WMat.lastNonzero l j = some (i, w) →
    j ≤ i ∧ l[i - j]? = some w ∧ w ≠ 0 := by
  intro j i w h
  have hs := WMat.lastNonzero_spec l j
  rw [h] at hs
  obtain ⟨k, rfl, hk, hw, _⟩ := hs
  exact ⟨Nat.le_add_right _ _, by rw [Nat.add_sub_cancel_left]; exact hk, hw⟩

/-- `bitsOffset := len-1; for bitsOffset >= 0 && bits[bitsOffset] == 0 { bitsOffset-- }` is the model's `lastNonzero` -/
theorem last_while {ρ : Type} (ws : List Nat) (body : Int → Ctl Int ρ)
    (hneg : body (-1) = .brk (-1))
    (hb : ∀ k : Nat, k < ws.length → body (k : Int) = if ws[k]! = 0 then .next ((k : Int) - 1) else .brk (k : Int)) :
    ∀ (n fuel : Nat), n ≤ ws.length → n < fuel →
      whileLoop body fuel ((n : Int) - 1) =
        .brk (match WMat.lastNonzero (ws.take n) 0 with | none => -1 | some (i, _) => (i : Int)) := by
  intro n
  induction n with
  | zero =>
    intro fuel _ hf
    obtain ⟨fuel, rfl⟩ : ∃ j, fuel = j + 1 := ⟨fuel - 1, by omega⟩
    rw [whileLoop_succ, show ((0 : Nat) : Int) - 1 = -1 by omega, hneg]
    simp [WMat.lastNonzero]
  | succ n ih =>
    intro fuel hn hf
    obtain ⟨fuel, rfl⟩ : ∃ j, fuel = j + 1 := ⟨fuel - 1, by omega⟩
    have hlt : n < ws.length := by omega
    rw [whileLoop_succ, show ((n + 1 : Nat) : Int) - 1 = (n : Int) by omega, hb n hlt,
      List.take_succ_eq_append_getElem hlt, lastNonzero_snoc]
    have hget : ws[n]! = ws[n] := by simp [hlt]
    rw [hget]
    by_cases hz : ws[n] = 0
    · simp only [hz, if_true]
      have := ih fuel (by omega) (by omega)
      rw [hz] at *
      exact this
    · have : (ws[n] != 0) = true := by simp [hz]
      simp [hz, this, Nat.min_eq_left (by omega : n ≤ ws.length)]

when_kernel Gzx.Gen.K16b.matrixGetBottomRightOnBit in
/-- `BitMatrix.GetBottomRightOnBit()` = `WMat.getBottomRightOnBit` (fuel above `len(bits)+32`): last non-zero word,
    `y = offset / rowSize`, `x = (offset % rowSize)*32 + highest set bit`, `nil` for an empty matrix -/
theorem k_matrixGetBottomRightOnBit_eq (m : WMat) (fuel : Nat) (hf : m.words.length + 32 < fuel) :
    Gen.K16b.matrixGetBottomRightOnBit fuel m.rowSize (words m.words) = expPt (WMat.getBottomRightOnBit m) := by
  simp only [Gen.K16b.matrixGetBottomRightOnBit, WMat.getBottomRightOnBit, expPt, len_words]
  rw [last_while m.words _ ?_ ?_ m.words.length fuel (Nat.le_refl _) (by omega), List.take_length]
  · simp only [brk_thenR]
    cases hl : WMat.lastNonzero m.words 0 with
    | none => simp [Except.map]
    | some p =>
      obtain ⟨k, w⟩ := p
      obtain ⟨_, hget, hw0⟩ := lastNonzero_spec m.words 0 k w hl
      simp only [Nat.sub_zero] at hget
      have hk' : k < m.words.length := (List.getElem?_eq_some_iff.mp hget).1
      have hnn : decide ((k : Int) < 0) = false := by simp
      simp only [hnn, Bool.false_eq_true, if_false]
      by_cases hr0 : m.rowSize = 0
      · simp [hr0, GoM.div, Except.map]
      · have hr0' : ¬ ((m.rowSize : Int) = 0) := by omega
        simp only [GoM.div, GoM.mod, hr0, hr0', if_false, tryR_ok]
        rw [idxR m.words k _ rfl]
        simp only [wordAt, hget]
        rw [show (31 : Int) = ((31 : Nat) : Int) from rfl,
          highBit_while w hw0 _ ?_ 32 31 fuel (by omega) (by omega) (by omega)]
        · simp only [brk_thenR, Except.map, highBit, List.map_cons, List.map_nil, Int.ofNat_eq_natCast]
          gonorm
          have e1 : (k : Int) % (m.rowSize : Int) * 32 + ((highBitLoop 32 31 w : Nat) : Int) =
              ((k % m.rowSize * 32 + highBitLoop 32 31 w : Nat) : Int) := by
            rw [Int.natCast_add, Int.natCast_mul, Int.natCast_emod]; rfl
          have e2 : (k : Int) / (m.rowSize : Int) = ((k / m.rowSize : Nat) : Int) := by rw [Int.natCast_ediv]
          rw [e1, e2]
        · intro bit hbit
          simp only [Gen.K16b.matrixGetBottomRightOnBit_body2]
          rw [ishr_natCast]
          by_cases hz : w >>> bit = 0
          · have hb0 : bit ≠ 0 := by
              intro h0; subst h0; simp only [Nat.shiftRight_zero] at hz; exact hw0 hz
            have e2 : wrap 64 ((bit : Int) - 1) = ((bit - 1 : Nat) : Int) := by gonorm; omega
            simp [hz, e2]
          · have : (((w >>> bit : Nat) : Int) == 0) = false := beq_eq_false_iff_ne.mpr (Int.natCast_ne_zero.mpr hz)
            simp only [this, Bool.false_eq_true, if_false, hz]
  · simp only [Gen.K16b.matrixGetBottomRightOnBit_body1]
    simp
  · intro k hk
    simp only [Gen.K16b.matrixGetBottomRightOnBit_body1]
    have : decide ((k : Int) ≥ 0) = true := by simp
    simp only [this, if_true]
    rw [idxC m.words k _ rfl]
    have hget : m.words[k]! = m.words[k] := by simp [hk]
    simp only [wordAt, List.getElem?_eq_getElem hk, hget]
    by_cases hz : m.words[k] = 0
    · simp [hz]
    · have : ((m.words[k] : Int) == 0) = false := by simp; omega
      simp [hz, this]

/-! ### GetEnclosingRectangle -/

/-- the scan state of `GetEnclosingRectangle` as the four Go ints -/
abbrev enclR (e : WMat.Encl) : Int × Int × Int × Int := ((e.left : Int), (e.top : Int), e.right, e.bottom)

when_kernel Gzx.Gen.K16b.matrixGetEnclosingRectangle in
/-- `BitMatrix.GetEnclosingRectangle()` = `WMat.getEnclosingRectangle` (words below 2^32, fuel ≥ 33): for every non-zero word the
    four bounds are updated — top/bottom by the row, left by the lowest set bit when the word starts left of `left`, right by
    the highest set bit when the word ends right of `right` — and `nil` when nothing was found -/
theorem k_matrixGetEnclosingRectangle_eq (m : WMat) (h32 : ∀ w ∈ m.words, w < W32) (fuel : Nat) (hf : 33 ≤ fuel) :
    Gen.K16b.matrixGetEnclosingRectangle fuel m.width m.height m.rowSize (words m.words) =
      expPt (WMat.getEnclosingRectangle m) := by
  simp only [Gen.K16b.matrixGetEnclosingRectangle, WMat.getEnclosingRectangle, expPt]
  generalize hF : (fun (e : WMat.Encl) (y : Nat) => (List.range m.rowSize).foldlM (fun e x32 => do
        let theBits ← wordAt m.words (y * m.rowSize + x32)
        pure (WMat.enclStep y x32 theBits e)) e) = F
  rw [List.range_eq_range', show (((m.width : Int), (m.height : Int), (-1 : Int), (-1 : Int))) = enclR ⟨m.width, m.height, -1, -1⟩ from rfl,
    loop_up_fold' enclR F 0 m.height ⟨m.width, m.height, -1, -1⟩ rfl (by rw [tripUp_one]; omega) (by omega), ofRes_thenR]
  · cases (List.range' 0 m.height).foldlM F ⟨m.width, m.height, -1, -1⟩ with
    | error e => rfl
    | ok e =>
      simp only [Except.map, enclR]
      by_cases hr : e.right < (e.left : Int) ∨ e.bottom < (e.top : Int)
      · resolve_ifs
      · resolve_ifs
        simp only [List.map_cons, List.map_nil, Int.ofNat_eq_natCast]
        rw [Int.toNat_of_nonneg (by omega), Int.toNat_of_nonneg (by omega)]
  · subst hF
    intro y _ _ e
    simp only [Gen.K16b.matrixGetEnclosingRectangle_body1]
    rw [List.range_eq_range', show (((e.left : Int), (e.top : Int), e.right, e.bottom)) = enclR e from rfl,
      loop_up_fold' enclR (fun e x32 => do
        let theBits ← wordAt m.words (y * m.rowSize + x32)
        pure (WMat.enclStep y x32 theBits e)) 0 m.rowSize e rfl (by rw [tripUp_one]; omega) (by omega)]
    · exact ofRes_thenC_next _
    · intro x32 _ _ e
      simp only [Gen.K16b.matrixGetEnclosingRectangle_body2]
      rw [idxC m.words (y * m.rowSize + x32) _ (by omega)]
      simp only [bind, Except.bind]
      cases hw : wordAt m.words (y * m.rowSize + x32) with
      | error er => rfl
      | ok w =>
        have hwlt : w < W32 := by
          unfold wordAt at hw
          cases hg : m.words[y * m.rowSize + x32]? with
          | none => rw [hg] at hw; cases hw
          | some v =>
            rw [hg] at hw; injection hw with hw; subst hw
            have := List.getElem?_eq_some_iff.mp hg
            rw [← this.2]; exact h32 _ (List.getElem_mem _)
        simp only [pure, Except.pure, Except.map, ofRes_ok, WMat.enclStep]
        by_cases hz : w = 0
        · subst hz; simp [enclR]
        · have hne : ((w : Int) != 0) = true := by simp; omega
          simp only [hne, if_true, hz, ne_eq, not_false_eq_true]
          have hlow : whileLoop (Gen.K16b.matrixGetEnclosingRectangle_body3 (w : Int)) fuel 0 =
              (.brk ((lowBit w : Nat) : Int) : Ctl Int (List Int)) := by
            rw [show (0 : Int) = ((0 : Nat) : Int) from rfl]
            refine lowBit_while w hz hwlt _ ?_ 32 0 fuel (by omega) (by omega) (by omega)
            intro bit hbit
            simp only [Gen.K16b.matrixGetEnclosingRectangle_body3]
            have e1 : wrap 64 (31 - (bit : Int)) = ((31 - bit : Nat) : Int) := by gonorm; omega
            rw [e1, ishl_natCast, wrap_natCast]
            have e3 : (w <<< (31 - bit)) % 2 ^ 32 = shl32 w (31 - bit) := rfl
            rw [e3]
            by_cases hs : shl32 w (31 - bit) = 0
            · simp [hs]
            · have : ((shl32 w (31 - bit) : Int) == 0) = false := by simp; omega
              simp only [this, Bool.false_eq_true, if_false, hs]
          have hhigh : whileLoop (Gen.K16b.matrixGetEnclosingRectangle_body4 (w : Int)) fuel 31 =
              (.brk ((highBit w : Nat) : Int) : Ctl Int (List Int)) := by
            rw [show (31 : Int) = ((31 : Nat) : Int) from rfl]
            refine highBit_while w hz _ ?_ 32 31 fuel (by omega) (by omega) (by omega)
            intro bit hbit
            simp only [Gen.K16b.matrixGetEnclosingRectangle_body4]
            have e1 : wrap 64 (bit : Int) = (bit : Int) := by gonorm
            rw [e1, ishr_natCast]
            by_cases hs : w >>> bit = 0
            · have hb0 : bit ≠ 0 := by
                intro h0; subst h0; simp only [Nat.shiftRight_zero] at hs; exact hz hs
              have e2 : (bit : Int) - 1 = ((bit - 1 : Nat) : Int) := by omega
              simp [hs, e2]
            · have : (((w >>> bit : Nat) : Int) == 0) = false := beq_eq_false_iff_ne.mpr (Int.natCast_ne_zero.mpr hs)
              simp only [this, Bool.false_eq_true, if_false, hs]
          simp only [hlow, hhigh, brk_thenC]
          -- with the Go comparisons read as comparisons of naturals, `top` and `bottom` agree term by term; `left` and
          -- `right` are each decided by the outer comparison alone
          have e32 : (x32 : Int) * 32 = ((x32 * 32 : Nat) : Int) := by omega
          have e31 : ((x32 * 32 : Nat) : Int) + 31 = ((x32 * 32 + 31 : Nat) : Int) := rfl
          simp only [e32, e31, ← Int.natCast_add, Int.ofNat_lt, decide_eq_true_eq, enclR, apply_ite (Nat.cast : Nat → Int)]
          by_cases c3 : x32 * 32 < e.left <;> by_cases c5 : ((x32 * 32 + 31 : Nat) : Int) > e.right <;>
            simp only [c3, c5, if_true, if_false, next_thenC]

/-- non-vacuity of the hypotheses of the scan theorems: a 40x1 matrix with bits in both words, words below 2^32, fuel 40 -/
example : ∃ (m : WMat) (fuel : Nat), (∀ w ∈ m.words, w < W32) ∧ m.words.length + 32 < fuel ∧ 33 ≤ fuel ∧
    WMat.getTopLeftOnBit m = .ok (some [3, 0]) ∧ WMat.getBottomRightOnBit m = .ok (some [39, 0]) :=
  ⟨⟨40, 1, 2, [8, 128]⟩, 40, by decide, by decide, by decide, by decide, by decide⟩

/-! ### Rotate180 -/

section rotate180
variable {σ ρ : Type}


/-- `b.bits[i], b.bits[j] = b.bits[j], b.bits[i]` inside a loop body -/
theorem swapC (ws : List Nat) (i j : Nat) {ei ej ei' ej' : Int} (k : List Int → Ctl σ ρ)
    (h1 : ej = j) (h2 : ei = i) (h3 : ei' = i) (h4 : ej' = j) :
    tryC (idx (words ws) ej) (fun t1 => tryC (idx (words ws) ei) fun t2 =>
        tryC (setIdx (words ws) ei' t1) fun t3 => tryC (setIdx t3 ej' t2) k) =
      match WMat.swapWords ws i j with
      | .ok ws' => k (words ws')
      | .error e => .panic e := by
  subst h1 h2 h3 h4
  rw [idxC ws j _ rfl]
  unfold WMat.swapWords wordAt
  cases hj : ws[j]? with
  | none =>
    cases hi : ws[i]? <;> rfl
  | some b =>
    simp only []
    rw [idxC ws i _ rfl]
    unfold wordAt
    cases hi : ws[i]? with
    | none => rfl
    | some a =>
      simp only [bind, Except.bind]
      have hil : i < ws.length := (List.getElem?_eq_some_iff.mp hi).1
      have hjl : j < ws.length := (List.getElem?_eq_some_iff.mp hj).1
      rw [setC ws i b _ rfl rfl]
      simp only [setWord, hil, if_true]
      rw [setC (ws.set i b) j a _ rfl rfl]
      simp [setWord, hjl]

theorem realignLoop_length (sh : Nat) : ∀ (rest : List Nat) (prev : Nat), (WMat.realignLoop sh rest prev).length = rest.length + 1 := by
  intro rest
  induction rest with
  | nil => intro prev; rfl
  | cons w rest ih => intro prev; simp [WMat.realignLoop, ih]

/-- the fused reverse-and-realign loop of one row of `Rotate180` -/
theorem realign_row_loop (sh offset : Nat) (body : Int → List Int → Ctl (List Int) ρ)
    (hb : ∀ (j : Nat) (ws : List Nat), 1 ≤ j → body (j : Int) (words ws) =
      match ws[offset + j]? with
      | none => .panic oob
      | some w =>
        match updWord ws (offset + j - 1) (fun v => v ||| shl32 (Bits.rev32 w) sh) with
        | .error e => .panic e
        | .ok ws1 =>
          match setWord ws1 (offset + j) (Bits.rev32 w >>> (32 - sh)) with
          | .ok ws2 => .next (words ws2)
          | .error e => .panic e) :
    ∀ (rest out : List Nat) (prev : Nat) (T : List Nat) (j0 : Nat), 1 ≤ j0 → out.length + 1 = offset + j0 →
      loop body 1 rest.length (j0 : Int) (words (out ++ prev :: rest ++ T)) =
        .next (words (out ++ WMat.realignLoop sh rest prev ++ T)) := by
  intro rest
  induction rest with
  | nil => intro out prev T j0 _ _; simp [loop, WMat.realignLoop]
  | cons w rest ih =>
    intro out prev T j0 hj0 hlen
    rw [List.length_cons, loop_succ, hb j0 _ hj0]
    have h1 : (out ++ prev :: (w :: rest) ++ T)[offset + j0]? = some w := by
      rw [← hlen]; simp
    rw [h1]
    simp only []
    have h2 : updWord (out ++ prev :: (w :: rest) ++ T) (offset + j0 - 1) (fun v => v ||| shl32 (Bits.rev32 w) sh) =
        .ok (out ++ (prev ||| shl32 (Bits.rev32 w) sh) :: (w :: rest) ++ T) := by
      rw [show offset + j0 - 1 = out.length by omega]
      simp [updWord]
    rw [h2]
    simp only []
    have h3 : setWord (out ++ (prev ||| shl32 (Bits.rev32 w) sh) :: (w :: rest) ++ T) (offset + j0) (Bits.rev32 w >>> (32 - sh)) =
        .ok ((out ++ [prev ||| shl32 (Bits.rev32 w) sh]) ++ (Bits.rev32 w >>> (32 - sh)) :: rest ++ T) := by
      rw [← hlen]
      simp [setWord]
    rw [h3]
    simp only []
    have h4 : (j0 : Int) + 1 = ((j0 + 1 : Nat) : Int) := by omega
    rw [h4, ih (out ++ [prev ||| shl32 (Bits.rev32 w) sh]) (Bits.rev32 w >>> (32 - sh)) T (j0 + 1) (by omega) (by simp; omega)]
    simp [WMat.realignLoop]

theorem realignRow_length (sh : Nat) (row : List Nat) : (WMat.realignRow sh row).length = row.length := by
  cases row with
  | nil => rfl
  | cons w rest => simp [WMat.realignRow, realignLoop_length]

/-- the loop over the rows of `Rotate180` (`shift ≠ 0`) is the model's `mapRows` -/
theorem rows_loop (rs sh : Nat) (body : Int → List Int → Ctl (List Int) ρ)
    (hb : ∀ (i : Nat) (done row later : List Nat), done.length = rs * i → row.length = rs →
      body (i : Int) (words (done ++ row ++ later)) = .next (words (done ++ WMat.realignRow sh row ++ later))) :
    ∀ (h i0 : Nat) (done ws : List Nat), done.length = rs * i0 → ws.length = rs * h →
      loop body 1 h (i0 : Int) (words (done ++ ws)) =
        .next (words (done ++ WMat.mapRows rs (WMat.realignRow sh) h ws)) := by
  intro h
  induction h with
  | zero => intro i0 done ws _ _; simp [loop, WMat.mapRows]
  | succ h ih =>
    intro i0 done ws hd hw
    have hsplit : ws = ws.take rs ++ ws.drop rs := (List.take_append_drop rs ws).symm
    have htl : (ws.take rs).length = rs := by
      rw [List.length_take, hw, Nat.mul_succ]; omega
    rw [loop_succ]
    have := hb i0 done (ws.take rs) (ws.drop rs) hd htl
    rw [List.append_assoc, ← hsplit] at this
    rw [this]
    simp only []
    have e : (i0 : Int) + 1 = ((i0 + 1 : Nat) : Int) := by omega
    have := ih (i0 + 1) (done ++ WMat.realignRow sh (ws.take rs)) (ws.drop rs)
      (by rw [List.length_append, realignRow_length, htl, hd, Nat.mul_succ])
      (by rw [List.length_drop, hw, Nat.mul_succ]; omega)
    rw [List.append_assoc] at this
    rw [e, List.append_assoc, this]
    simp [WMat.mapRows]

theorem swapWords_len {ws ws' : List Nat} {i j : Nat} (h : WMat.swapWords ws i j = .ok ws') : ws'.length = ws.length := by
  unfold WMat.swapWords wordAt at h
  cases hi : ws[i]? with
  | none => rw [hi] at h; cases h
  | some a =>
    cases hj : ws[j]? with
    | none => rw [hi, hj] at h; cases h
    | some b =>
      rw [hi, hj] at h
      simp only [bind, Except.bind] at h
      cases h1 : setWord ws i b with
      | error e => rw [h1] at h; cases h
      | ok w1 =>
        rw [h1] at h
        rw [setWord_length h, setWord_length h1]

end rotate180

when_kernel Gzx.Gen.K16b.matrixRotate180 in
/-- `BitMatrix.Rotate180()` = `WMat.rotate180` on a matrix with `len(bits) = rowSize*height` and `rowSize ≥ 1` (part of the
    representation invariant): the word swaps of the row pairs and of the middle row (odd height), then — `width%32 ≠ 0` — per
    row the fused `Reverse32` + realignment by `shift` bits (in place: `bits[offset+j-1] |= cur << shift; bits[offset+j] = cur >>
    (32-shift)`), or — `width%32 = 0` — `Reverse32` of every word -/
theorem k_matrixRotate180_eq (m : WMat) (hlen : m.words.length = m.rowSize * m.height) (hrs : 1 ≤ m.rowSize) :
    Gen.K16b.matrixRotate180 m.width m.height m.rowSize (words m.words) = expW (WMat.rotate180 m) := by
  simp only [Gen.K16b.matrixRotate180, WMat.rotate180, WMat.rotate180Swap, expW]
  generalize hF1 : (fun (ws : List Nat) (i : Nat) => (List.range m.rowSize).foldlM
      (fun ws j => WMat.swapWords ws (i * m.rowSize + j) ((m.height - i) * m.rowSize - 1 - j)) ws) = F1
  rw [List.range_eq_range', tdiv2_natCast m.height, loop_up_fold' words F1 0 (m.height / 2) m.words rfl (by rw [tripUp_one]; omega) (by omega), ofRes_thenR]
  · cases hf1 : (List.range' 0 (m.height / 2)).foldlM F1 m.words with
    | error e => rfl
    | ok ws1 =>
      simp only [Except.map]
      have hl1 : ws1.length = m.words.length := by
        subst hF1
        exact foldlM_inv (·.length = m.words.length) _ (fun ws i ws' hp h =>
          foldlM_inv (·.length = m.words.length) _ (fun ws j ws' hp h => (swapWords_len h).trans hp) _ _ _ hp h) _ _ _ rfl hf1
      -- the middle row (odd height)
      generalize hF2 : (fun (ws : List Nat) (j : Nat) => WMat.swapWords ws (m.rowSize * (m.height - 1) / 2 + j)
          (m.rowSize * (m.height - 1) / 2 + m.rowSize - 1 - j)) = F2
      have hmid : ∀ (k : List Int → Res (List Int)),
          (((if (Int.tmod (m.height : Int) 2 != 0) = true then
              (loop (Gen.K16b.matrixRotate180_body3 (m.rowSize : Int) (Int.tdiv ((m.rowSize : Int) * ((m.height : Int) - 1)) 2)) 1
                (tripUp 0 (Int.tdiv (m.rowSize : Int) 2) 1) 0 (words ws1)).thenC fun st => Ctl.next st
            else Ctl.next (words ws1) : Ctl (List Int) (List Int))).thenR k) =
          match (if m.height % 2 ≠ 0 then (List.range (m.rowSize / 2)).foldlM F2 ws1 else .ok ws1) with
          | .ok ws2 => k (words ws2)
          | .error e => .error e := by
        intro k
        by_cases hodd : m.height % 2 ≠ 0
        · have hc : (Int.tmod (m.height : Int) 2 != 0) = true := by gonorm; simp; omega
          simp only [hc, if_true, hodd, ne_eq, not_false_eq_true]
          rw [show (m.height : Int) - 1 = ((m.height - 1 : Nat) : Int) by omega, ← Int.natCast_mul, tdiv2_natCast,
            tdiv2_natCast, List.range_eq_range', loop_up_fold' words F2 0 (m.rowSize / 2) ws1 rfl (by rw [tripUp_one]; omega) (by omega),
            ofRes_thenC_next, ofRes_thenR]
          · cases (List.range' 0 (m.rowSize / 2)).foldlM F2 ws1 <;> rfl
          · subst hF2
            intro j _ hj ws
            simp only [Gen.K16b.matrixRotate180_body3]
            -- of the two halves only `2j + 2 ≤ rowSize` matters
            have hj' : 2 * j + 2 ≤ m.rowSize := by omega
            clear hj
            generalize m.rowSize * (m.height - 1) / 2 = off
            rw [swapC ws (off + j) (off + m.rowSize - 1 - j) _ (by omega) (by omega) (by omega) (by omega)]
            cases WMat.swapWords ws _ _ <;> rfl
        · have hc : (Int.tmod (m.height : Int) 2 != 0) = false := by gonorm; simp; omega
          simp only [hc, Bool.false_eq_true, if_false, hodd, next_thenR]
      rw [hmid]
      cases hm2 : (if m.height % 2 ≠ 0 then (List.range (m.rowSize / 2)).foldlM F2 ws1 else .ok ws1) with
      | error e => rfl
      | ok ws2 =>
        have hl2 : ws2.length = m.rowSize * m.height := by
          rw [← hlen, ← hl1]
          by_cases hodd : m.height % 2 ≠ 0
          · rw [if_pos hodd] at hm2
            subst hF2
            exact foldlM_inv (·.length = ws1.length) _ (fun ws j ws' hp h => (swapWords_len h).trans hp) _ _ _ rfl hm2
          · rw [if_neg hodd] at hm2; injection hm2 with hm2; rw [hm2]
        simp only []
        have hsh := tmod32_natCast m.width
        rw [hsh]
        -- from here on only `sh < 32` is used of the shift `width % 32`
        have hsh32 : m.width % 32 < 32 := Nat.mod_lt _ (by decide)
        clear hsh
        generalize m.width % 32 = sh at hsh32 ⊢
        by_cases hs : sh = 0
        · have hc : (((sh : Nat) : Int) != 0) = false := by simp; omega
          simp only [hc, Bool.false_eq_true, if_false]
          rw [if_neg (by simp [hs])]
          rw [loop_up_fold' words (fun ws i => updWord ws i Bits.rev32) 0 ws2.length ws2 rfl
                (by rw [tripUp_one]; gonorm; omega) (by omega), foldlM_updWord_all]
          · rfl
          · intro i _ _ ws
            simp only [Gen.K16b.matrixRotate180_body6]
            rw [updC ws i Bits.rev32 _ rfl rfl (fun w => rev32_natCast w)]
            cases updWord ws i _ <;> rfl
        · have hc : (((sh : Nat) : Int) != 0) = true := by simp; omega
          simp only [hc, if_true]
          rw [if_pos (by simpa using hs)]
          have := rows_loop (ρ := List Int) m.rowSize (sh)
            (Gen.K16b.matrixRotate180_body4 (m.rowSize : Int) ((sh : Nat) : Int)) ?_ m.height 0 [] ws2 (by simp) hl2
          · simp only [List.nil_append] at this
            rw [show tripUp 0 (m.height : Int) 1 = m.height by rw [tripUp_one]; omega, show (0 : Int) = ((0 : Nat) : Int) from rfl, this]
            rfl
          · intro i done row later hd hr
            simp only [Gen.K16b.matrixRotate180_body4]
            obtain ⟨w0, rest, rfl⟩ : ∃ w0 rest, row = w0 :: rest := by
              cases row with
              | nil => simp at hr; omega
              | cons w0 rest => exact ⟨w0, rest, rfl⟩
            have hoff : (m.rowSize : Int) * (i : Int) = ((done.length : Nat) : Int) := by rw [hd]; simp
            rw [hoff, idxC (done ++ w0 :: rest ++ later) done.length _ rfl]
            have hg : wordAt (done ++ w0 :: rest ++ later) done.length = .ok w0 := by simp [wordAt]
            rw [hg]
            simp only []
            have hv : ishr (GoM.rev32 (w0 : Int)) (wrap 64 (32 - ((sh : Nat) : Int))) =
                ((Bits.rev32 w0 >>> (32 - sh) : Nat) : Int) := by
              rw [show wrap 64 (32 - ((sh : Nat) : Int)) = ((32 - sh : Nat) : Int) by gonorm; omega,
                rev32_natCast, ishr_natCast]
            rw [setC (done ++ w0 :: rest ++ later) done.length (Bits.rev32 w0 >>> (32 - sh)) _ rfl hv]
            have hset : setWord (done ++ w0 :: rest ++ later) done.length (Bits.rev32 w0 >>> (32 - sh)) =
                .ok (done ++ (Bits.rev32 w0 >>> (32 - sh)) :: rest ++ later) := by simp [setWord]
            rw [hset]
            simp only []
            have hrl : rest.length = m.rowSize - 1 := by simp at hr; omega
            have key := realign_row_loop (ρ := List Int) (sh) done.length
              (Gen.K16b.matrixRotate180_body5 ((done.length : Nat) : Int) ((sh : Nat) : Int)) ?_ rest done
              (Bits.rev32 w0 >>> (32 - sh)) later 1 (by omega) (by omega)
            · rw [show ((1 : Nat) : Int) = 1 from rfl] at key
              rw [show tripUp 1 (m.rowSize : Int) 1 = rest.length by rw [tripUp_one]; omega, key]
              simp [WMat.realignRow]
            · intro j ws hj
              simp only [Gen.K16b.matrixRotate180_body5]
              rw [idxC ws (done.length + j) _ (by omega)]
              unfold wordAt
              cases ws[done.length + j]? with
              | none => rfl
              | some w =>
                simp only [rev32_natCast]
                rw [updC ws (done.length + j - 1) (fun v => v ||| shl32 (Bits.rev32 w) (sh)) _ (by omega) (by omega)
                  (fun v => by rw [ishl_natCast, wrap_natCast, ior_natCast]; rfl)]
                cases updWord ws (done.length + j - 1) _ with
                | error e => rfl
                | ok ws1 =>
                  simp only []
                  rw [setC ws1 (done.length + j) (Bits.rev32 w >>> (32 - sh)) _ (by omega)
                    (by rw [show wrap 64 (32 - ((sh : Nat) : Int)) = ((32 - sh : Nat) : Int) by gonorm; omega,
                      ishr_natCast])]
                  cases setWord ws1 _ _ <;> rfl
  · subst hF1
    intro i _ hi ws
    simp only [Gen.K16b.matrixRotate180_body1]
    rw [List.range_eq_range', loop_up_fold' words (fun ws j => WMat.swapWords ws (i * m.rowSize + j) ((m.height - i) * m.rowSize - 1 - j))
      0 m.rowSize ws rfl (by rw [tripUp_one]; omega) (by omega), ofRes_thenC_next]
    intro j _ hj ws
    simp only [Gen.K16b.matrixRotate180_body2]
    have hmul : m.rowSize ≤ (m.height - i) * m.rowSize := Nat.le_mul_of_pos_left _ (by omega)
    have hbot : ((m.height : Int) - (i : Int)) * (m.rowSize : Int) - 1 - (j : Int) =
        (((m.height - i) * m.rowSize - 1 - j : Nat) : Int) := by
      have h1 : ((m.height : Int) - (i : Int)) = ((m.height - i : Nat) : Int) := by omega
      rw [h1, ← Int.natCast_mul]; omega
    rw [swapC ws (i * m.rowSize + j) ((m.height - i) * m.rowSize - 1 - j) _ hbot (by omega) (by omega) hbot]
    cases WMat.swapWords ws _ _ <;> rfl

/-- non-vacuity of `k_matrixRotate180_eq`: 33x3 (odd height, two words per row, `width%32 ≠ 0`) -/
example : ∃ m : WMat, m.words.length = m.rowSize * m.height ∧ 1 ≤ m.rowSize ∧ m.height % 2 ≠ 0 ∧ m.width % 32 ≠ 0 ∧
    (WMat.rotate180 m).isOk :=
  ⟨⟨33, 3, 2, [1, 0, 2, 1, 4, 0]⟩, by decide, by decide, by decide, by decide, by decide⟩

end Gzx.Obligations.K16bMat
