/-
  K02e — `common.BitSource` as the Data Matrix bit-stream parser uses it: `Available` and `ReadBits`, regenerated from /repo on
  every run (`Gzx.Gen.K02e`; `GetBitOffset`, `GetByteOffset` are regenerated too, plain field reads that no regenerated
  decoder calls and no theorem speaks of).  The regenerated `ReadBits` is the
  definition the QR decoder's module holds (`k_readBits_same`), so its tie to the model `BitSource.readBits` is
  `K01e.k_readBits_fuel`; what the segment decoders need is then the MODEL evaluated at a cursor (`k_readBits_of_model`):

    * `k_available_eq`: `Available()` = 8·(len − byteOffset) − bitOffset,
    * `k_readBits8`: `ReadBits(8)` on an aligned source with a byte left reads that byte and advances by one byte (the
      C40 / Text / X12 / Base 256 / ASCII segment decoders only ever see byte-aligned states),
    * `k_readBits_short`: `ReadBits(n)` with more bits requested than available answers (0, error) and leaves the
      source alone (the segment decoders ignore the error).
-/
import Gzx.Gen.K02e
import Gzx.KernelGuard
import Gzx.Proofs.GoMTie
import Gzx.Obligations.K01eBits
namespace Gzx.Obligations.K02e
open Gzx Gzx.GoM Gzx.GoVal

/-- the Go `[]byte` a model byte list stands for -/
abbrev bytesI (bs : List Nat) : List Int := bs.map Int.ofNat

theorem bytesI_length (bs : List Nat) : (bytesI bs).length = bs.length := by simp [bytesI]

when_kernel Gzx.Gen.K02e.available in
theorem k_available_eq (xs : List Int) (bo bi : Int) :
    Gen.K02e.available xs bo bi = .ok (8 * ((xs.length : Int) - bo) - bi) := rfl

when_kernel Gzx.Gen.K02e.readBits in
/-- more bits requested than available: (0, error), the source is left alone -/
theorem k_readBits_short (fuel : Nat) (xs : List Int) (bo bi n : Int)
    (h : n > 8 * ((xs.length : Int) - bo) - bi) :
    Gen.K02e.readBits fuel xs bo bi n = .ok (0, true, bo, bi) := by
  unfold Gen.K02e.readBits
  by_cases h1 : n < 1
  · simp [h1]
  · by_cases h2 : n > 32
    · simp [h1, h2]
    · simp only [h1, h2, decide_false, Bool.false_eq_true, if_false, k_available_eq, tryR_ok]
      rw [if_pos (by simpa using h)]

when_kernel Gzx.Gen.K01d.readBits in
when_kernel Gzx.Gen.K02e.readBits in
/-- the translator regenerates `ReadBits` once per module; the copies differ in the names of local variables only -/
theorem k_readBits_same : @Gen.K02e.readBits = @Gen.K01d.readBits := rfl

when_kernel Gzx.Gen.K01d.readBits in
when_kernel Gzx.Gen.K02e.readBits in
/-- the regenerated `ReadBits` at a cursor where the model succeeds (fuel: one round per eight bits and one more) -/
theorem k_readBits_of_model (bs : List Nat) (off bit : Nat) (hbit : bit < 8) (n fuel : Nat) (hf : n / 8 < fuel)
    (v : Nat) (s' : BitSource.BitSource) (h : BitSource.readBits ⟨bs, off, bit⟩ (n : Int) = .ok (v, s')) :
    Gen.K02e.readBits fuel (bytesI bs) (off : Int) (bit : Int) (n : Int) =
      .ok ((v : Int), false, (s'.byteOffset : Int), (s'.bitOffset : Int)) := by
  rw [k_readBits_same]
  have := K01e.k_readBits_fuel ⟨bs, off, bit⟩ hbit (n : Int) fuel (fun _ => by simpa using hf)
  rw [h] at this
  exact K01e.stripP_eq this (fun w hw => by cases hw)

when_kernel Gzx.Gen.K01d.readBits in
when_kernel Gzx.Gen.K02e.readBits in
/-- `ReadBits(8)` on a byte-aligned source with a byte left: that byte, no error, one byte further -/
theorem k_readBits8 (fuel : Nat) (hf : 2 ≤ fuel) (bs : List Nat) (hb : ∀ b ∈ bs, b < 256) (off : Nat) (h : off < bs.length) :
    Gen.K02e.readBits fuel (bytesI bs) (off : Int) 0 8 = .ok ((bs[off] : Nat), false, (off : Int) + 1, 0) := by
  have hm : BitSource.readBits ⟨bs, off, 0⟩ ((8 : Nat) : Int) = .ok (bs[off], ⟨bs, off + 1, 0⟩) := by
    have ha : ¬ (((8 : Nat) : Int) < 1 ∨ ((8 : Nat) : Int) > 32 ∨ ((8 : Nat) : Int) > BitSource.available ⟨bs, off, 0⟩) := by
      simp only [BitSource.available]; omega
    have e : bs[off] &&& 255 = bs[off] := by
      rw [show (255 : Nat) = 2 ^ 8 - 1 from rfl, Nat.and_two_pow_sub_one_eq_mod, Nat.mod_eq_of_lt (hb _ (List.getElem_mem h))]
    unfold BitSource.readBits
    rw [if_neg ha]
    simp [BitSource.readFirst, BitSource.readRest, BitSource.readWhole, BitSource.byteAt, List.getElem?_eq_getElem h, e]
  exact k_readBits_of_model bs off 0 (by decide) 8 fuel (by omega) _ _ hm

when_kernel Gzx.Gen.K02e.readBits in
example : Gen.K02e.readBits 5 (bytesI [7, 200, 9]) 1 0 8 = .ok (200, false, 2, 0) := by decide
when_kernel Gzx.Gen.K02e.readBits in
example : Gen.K02e.readBits 5 (bytesI [7, 200, 9]) 3 0 8 = .ok (0, true, 3, 0) := by decide

end Gzx.Obligations.K02e
