/-
  K04b (Multiply, encoder) — `GenericGFPoly.Multiply`, `ReedSolomonEncoder.buildGenerator` and `Encode` regenerated from /repo
  on every run and proved equal to the model (Model/RS.lean: `multiply`, `buildGenerator`, `encodeArr`).
  Conventions: Obligations/K04b.lean.
-/
import Gzx.Obligations.K04bDiv
namespace Gzx.Obligations.K04bEnc
open Gzx Gzx.GoM Gzx.GoVal Gzx.RS Gzx.K04bTie Gzx.Obligations.K04b Gzx.Obligations.K04bPoly Gzx.Obligations.K04bDiv

when_kernel Gzx.Gen.K04b.polyMultiply in
/-- `Multiply(other)` = the model's `multiply`: the zero polynomial if an operand is zero, otherwise the coefficient double
    loop `product[i+j] ^= a_i * b_j` normalised by `NewGenericGFPoly` -/
theorem k_polyMultiply_eq (F : GF.GF) (hF : TablesOK F) (p q : List Nat) (hp : p ≠ []) (hq : q ≠ []) :
    Gen.K04b.polyMultiply (fieldRec F) (ints p) (ints q) = expE [] ints (multiply F p q) := by
  simp only [Gen.K04b.polyMultiply, multiply, Bool.false_eq_true, if_false, fieldRec_zero, len_words]
  rw [k_polyIsZero_eq _ p hp, k_polyIsZero_eq _ q hq]
  simp only [tryR_ok]
  have hor : (if isZero p = true then (Except.ok true : Res Bool) else Except.ok (isZero q)) = .ok (isZero p || isZero q) := by
    cases isZero p <;> rfl
  rw [hor]
  simp only [tryR_ok]
  by_cases hz : (isZero p || isZero q) = true
  · simp only [hz, if_true]; rfl
  simp only [hz, Bool.false_eq_true, if_false]
  have hpl : 0 < p.length := List.length_pos_iff.mpr hp
  have hql : 0 < q.length := List.length_pos_iff.mpr hq
  rw [mk_nats _ (p.length + q.length - 1) (by omega)]
  simp only [tryR_ok]
  rw [loop_up_list' ints (mulOuter F q) p 0 (List.replicate (p.length + q.length - 1) 0)]
  · have := foldIdx_mulOuter (ρ := List Int × Bool) F q hq p [] (List.replicate (p.length + q.length - 1) 0) (by simp)
    simp only [List.length_nil, List.nil_append] at this
    rw [this]
    simp only [bind, Except.bind]
    cases hm : mulRaw F p q with
    | error e =>
      simp only [Ctl.map_panic, panic_thenR]
      exact (expE_of_panic _ _ (mulRaw_panics F q p _ hm)).symm
    | ok m =>
      have hml := mulRaw_length F q hq p m hm
      have hz0 : List.zipWith (· ^^^ ·) (List.replicate (p.length + q.length - 1) 0) m = m := by
        rw [← hml]; exact Proofs.Poly.zipWith_zeros_left m
      simp only [Ctl.map_next, next_thenR, hz0]
      rw [k_newPoly_eq]
      cases mkPoly m with
      | ok v => rfl
      | error e => cases e <;> rfl
  · rfl
  · rw [tripUp_one]; omega
  · rfl
  · intro i hi t
    rw [idx_nats _ _ (0 + i) rfl, Nat.zero_add, List.getElem?_eq_getElem hi]
    simp only [tryC_ok, mulOuter]
    rw [loop_up_list' ints (mulInner F p[i] i) q 0 t]
    · rw [Ctl.map_thenC]
      cases foldIdx (ρ := List Int × Bool) (mulInner F p[i] i) 0 q t <;> rfl
    · rfl
    · rw [tripUp_one]; omega
    · rfl
    · intro j hj t
      simp only [mulInner, Nat.zero_add]
      rw [idx_nats _ _ (i + j) (by omega)]
      cases t[i + j]? with
      | none => rfl
      | some v =>
        simp only [tryC_ok]
        rw [idx_nats _ _ j rfl, List.getElem?_eq_getElem hj]
        simp only [tryC_ok]
        rw [k_gfMultiply_eq F hF]
        cases F.mul p[i] q[j] with
        | error e => rfl
        | ok m =>
          simp only [Except.map, tryC_ok, Int.ofNat_eq_natCast]
          rw [k_gfAddOrSubtract_eq]
          simp only [tryC_ok]
          rw [setIdx_words _ _ _ (i + j) (v ^^^ m) (by omega) (by rfl)]
          cases Bits.setWord t (i + j) (v ^^^ m) <;> rfl


/-! ### ReedSolomonEncoder.buildGenerator -/

/-- Go `[]*GenericGFPoly` contents of a model cache -/
abbrev polys (c : List Poly) : List (List Int) := c.map ints

/-- embedding of the cache loop's state -/
def cacheSt (t : List Poly × Poly) : List (List Int) × List Int := (polys t.1, ints t.2)

theorem idxL_polys (c : List Poly) (e : Int) (n : Nat) (h : e = n) :
    GoM.idxL (polys c) e = match c[n]? with | some v => .ok (ints v) | none => .error oob := by
  subst h
  unfold GoM.idxL
  have : ¬ ((n : Int) < 0) := by omega
  simp only [this, if_false, Int.toNat_natCast, polys, List.getElem?_map]
  cases c[n]? <;> rfl

theorem lenL_polys (c : List Poly) : GoM.lenL (polys c) = (c.length : Int) := by simp [GoM.lenL, polys]

theorem expAt_error {F : GF.GF} {i : Nat} {e : Fault} (h : F.expAt i = .error e) : IsPanic e := gfidx_panics _ _ e h

when_kernel Gzx.Gen.K04b.encBuildGenerator in
/-- `buildGenerator(degree)` on an encoder whose cache holds the generators g_0 … g_{n-1}: the result is the model's
    `buildGenerator degree` (the recursion the cache memoises) and the cache afterwards again holds generators only; a panic of
    the recursion (exponent outside the table) is the same panic -/
theorem k_encBuildGenerator_eq (F : GF.GF) (hF : TablesOK F) (cache : List Poly) (hc : CacheOK F cache) (degree : Nat) :
    match buildGenerator F degree with
    | .ok g => ∃ cache', CacheOK F cache' ∧
        Gen.K04b.encBuildGenerator (fieldRec F) (polys cache) degree = .ok (ints g, polys cache')
    | .error e => Gen.K04b.encBuildGenerator (fieldRec F) (polys cache) degree = .error e := by
  obtain ⟨hne, hgen⟩ := hc
  have hlen : 0 < cache.length := List.length_pos_iff.mpr hne
  simp only [Gen.K04b.encBuildGenerator, lenL_polys, fieldRec_base]
  by_cases hge : degree ≥ cache.length
  · have hd : decide ((degree : Int) ≥ (cache.length : Int)) = true := by apply decide_eq_true; omega
    simp only [hd, if_true]
    rw [idxL_polys _ _ (cache.length - 1) (by omega), List.getElem?_eq_getElem (by omega)]
    simp only [tryC_ok]
    rw [loop_up_range_inv' cacheSt (fun t => t.2 ≠ []) (cacheStep F) cache.length (degree + 1 - cache.length)
      (cache, cache[cache.length - 1])]
    · have hrun := cache_run (ρ := List Int × List (List Int)) F (degree + 1 - cache.length) cache.length cache
        cache[cache.length - 1] (by omega) rfl hgen (hgen _ (by omega)) (by omega)
      rw [show cache.length + (degree + 1 - cache.length) - 1 = degree by omega] at hrun
      cases hbg : buildGenerator F degree with
      | error e => rw [hbg] at hrun; simp only [] at hrun ⊢; rw [hrun]; rfl
      | ok g =>
        rw [hbg] at hrun
        obtain ⟨cache', h1, h2, h3⟩ := hrun
        have hne' : cache' ≠ [] := by intro h; subst h; simp at h2; omega
        refine ⟨cache', ⟨hne', h3⟩, ?_⟩
        rw [h1]
        simp only [Ctl.map_next, cacheSt, next_thenC, next_thenR]
        rw [idxL_polys _ _ degree rfl, List.getElem?_eq_getElem (by omega)]
        have := h3 degree (by omega)
        rw [hbg] at this
        cases this
        rfl
    · rfl
    · rw [tripUp_one]; omega
    · rfl
    · exact buildGenerator_ne F _ _ (hgen _ (by omega))
    · intro d t t' ht hstep
      simp only [cacheStep] at hstep
      cases hg : genStage F d t.2 with
      | error e => simp only [hg] at hstep; cases hstep
      | ok g =>
        simp only [hg] at hstep
        cases hstep
        exact genStage_ne hg
    · intro d hd1 hd2 t ht
      simp only [cacheSt, cacheStep, genStage, bind, Except.bind]
      rw [k_gfExp_eq' F _ (d - 1 + F.base) (by omega)]
      cases he : F.expAt (d - 1 + F.base) with
      | error e => rfl
      | ok ev =>
        simp only [Except.map, tryC_ok, Int.ofNat_eq_natCast]
        rw [show ([1, (ev : Int)] : List Int) = ints [1, ev] from rfl, k_newPoly_eq]
        have hmk : mkPoly [1, ev] = .ok [1, ev] := by
          unfold mkPoly normalize; rfl
        rw [hmk]
        simp only [expE_ok, tryC_ok]
        rw [k_polyMultiply_eq F hF t.2 [1, ev] ht (by simp)]
        cases hm : multiply F t.2 [1, ev] with
        | error e => rw [expE_of_panic _ _ (multiply_panics F ht (by simp) e hm)]; rfl
        | ok g => simp [polys, cacheSt]
  · have hd : decide ((degree : Int) ≥ (cache.length : Int)) = false := by apply decide_eq_false; omega
    simp only [hd, Bool.false_eq_true, if_false, next_thenR]
    rw [hgen degree (by omega)]
    refine ⟨cache, ⟨hne, hgen⟩, ?_⟩
    rw [idxL_polys _ _ degree rfl, List.getElem?_eq_getElem (by omega)]
    rfl


/-! ### ReedSolomonEncoder.Encode -/

/-- how `Encode` renders a model result (error flag, generator cache, the slice `toEncode` after the call) for an encoder whose
    cache holds generators: parity written behind the data and `nil`; the slice untouched and a non-nil error for a checked
    failure; the panic itself.  The cache afterwards again holds generators only. -/
def EncodeAgrees (F : GF.GF) (orig : List Nat) (g : Res (Bool × List (List Int) × List Int)) : Res (List Nat) → Prop
  | .ok w => ∃ cache', CacheOK F cache' ∧ g = .ok (false, polys cache', ints w)
  | .error (.panic s) => g = .error (.panic s)
  | .error _ => ∃ cache', CacheOK F cache' ∧ g = .ok (true, polys cache', ints orig)

theorem EncodeAgrees_panic {F : GF.GF} {o : List Nat} {g : Res (Bool × List (List Int) × List Int)} {e : Fault}
    (he : IsPanic e) (h : g = .error e) : EncodeAgrees F o g (.error e) := by
  obtain ⟨w, rfl⟩ := he; exact h

when_kernel Gzx.Gen.K04b.encEncode in
/-- `Encode(toEncode, ecBytes)` = the model's `encodeArr` (for every fuel of at least `len(toEncode)+1` rounds, whenever the
    model's division does not exhaust its own budget — it never does, `Properties/C04`) -/
theorem k_encEncode_eq (F : GF.GF) (hF : TablesOK F) (cache : List Poly) (hc : CacheOK F cache) (toEncode : List Nat) (ec : Nat)
    (fuel : Nat) (hfuel : toEncode.length + 1 ≤ fuel) (hnf : encodeArr F toEncode ec ≠ .error .fuel) :
    EncodeAgrees F toEncode (Gen.K04b.encEncode fuel (fieldRec F) (polys cache) (ints toEncode) ec) (encodeArr F toEncode ec) := by
  simp only [Gen.K04b.encEncode, encodeArr, len_words] at hnf ⊢
  by_cases h0 : ec = 0
  · subst h0
    simp only [show decide (((0 : Nat) : Int) ≤ 0) = true from rfl, if_true]
    exact ⟨cache, hc, rfl⟩
  have hd0 : decide ((ec : Int) ≤ 0) = false := by apply decide_eq_false; omega
  simp only [hd0, Bool.false_eq_true, if_false, h0] at hnf ⊢
  by_cases h1 : toEncode.length ≤ ec
  · have hd1 : decide ((toEncode.length : Int) - (ec : Int) ≤ 0) = true := by apply decide_eq_true; omega
    simp only [hd1, if_true, h1]
    exact ⟨cache, hc, rfl⟩
  have hd1 : decide ((toEncode.length : Int) - (ec : Int) ≤ 0) = false := by apply decide_eq_false; omega
  simp only [hd1, Bool.false_eq_true, if_false, h1, bind, Except.bind] at hnf ⊢
  have hk : (toEncode.length : Int) - (ec : Int) = ((toEncode.length - ec : Nat) : Int) := by omega
  have hbg := k_encBuildGenerator_eq F hF cache hc ec
  cases hg : buildGenerator F ec with
  | error e =>
    rw [hg] at hbg
    simp only [] at hbg ⊢
    rw [hbg]
    exact EncodeAgrees_panic (buildGenerator_panics F _ _ hg) rfl
  | ok gen =>
    rw [hg] at hbg
    obtain ⟨cache', hc', hgen⟩ := hbg
    simp only [hg] at hnf
    simp only [hgen, tryR_ok, hk]
    rw [mk_nats _ (toEncode.length - ec) rfl]
    simp only [tryR_ok]
    rw [copyL_zeros _ _ (by omega), k_newPoly_eq]
    have hne : toEncode.take (toEncode.length - ec) ≠ [] := by
      intro h; have := congrArg List.length h; simp at this; omega
    rw [Proofs.Poly.mkPoly_ok _ hne] at hnf ⊢
    simp only [expE_ok, tryR_ok] at hnf ⊢
    have hi1 : normalize (toEncode.take (toEncode.length - ec)) ≠ [] := Proofs.Poly.normalize_ne_nil _
    rw [k_polyMultiplyByMonomial_at F hF _ _ _ ec 1 (by rfl) (by rfl)]
    cases hmm : multiplyByMonomial F (normalize (toEncode.take (toEncode.length - ec))) ec 1 with
    | error e =>
      have hp := multiplyByMonomial_panics F hi1 _ _ e hmm
      rw [expE_of_panic _ _ hp]
      exact EncodeAgrees_panic hp rfl
    | ok info =>
      simp only [hmm] at hnf
      simp only [expE_ok, tryR_ok]
      have hinfo : info ≠ [] := multiplyByMonomial_ne hmm
      have hgne : gen ≠ [] := buildGenerator_ne F _ _ hg
      have hil : info.length ≤ toEncode.length := by
        have h1 := multiplyByMonomial_length_le hi1 hmm
        have h2 := Proofs.Poly.normalize_length_le _ hne
        simp at h2; omega
      have hnfd : divide F info gen ≠ .error .fuel := by
        intro h; rw [h] at hnf; exact hnf rfl
      rw [k_polyDivide_eq F hF info gen hinfo hgne fuel (by omega) hnfd]
      cases hdv : divide F info gen with
      | error e =>
        cases e with
        | panic w => exact rfl
        | fuel => exact absurd hdv hnfd
        | illegalArg => exact ⟨cache', hc', rfl⟩
        | notFound => exact ⟨cache', hc', rfl⟩
        | checksum => exact ⟨cache', hc', rfl⟩
        | format => exact ⟨cache', hc', rfl⟩
        | writer => exact ⟨cache', hc', rfl⟩
      | ok qr =>
        obtain ⟨q, rem⟩ := qr
        simp only [expE2, tryR_ok, Bool.false_eq_true, if_false, len_words]
        by_cases hlong : rem.length > toEncode.length
        · -- the remainder does not fit: no zero fill, the copy panics
          simp only [hlong, if_true]
          have ht : tripUp 0 ((ec : Int) - (rem.length : Int)) 1 = 0 := by rw [tripUp_one]; omega
          rw [ht, loop_zero]
          simp only [next_thenR]
          rw [copySeg_neg _ _ _ _ (by omega)]
          exact rfl
        simp only [hlong, if_false]
        by_cases hfit : rem.length ≤ ec
        · -- the usual case: `ec - len(rem)` zeros, then the remainder
          rw [loop_up_range' ints (fun i t => ofRes (Bits.setWord t (toEncode.length - ec + i) 0)) 0 (ec - rem.length) toEncode]
          · rw [fill_zero _ _ _ (by omega)]
            simp only [Ctl.map_next, next_thenR]
            rw [copySeg_tail (toEncode.take (toEncode.length - ec) ++ List.replicate (ec - rem.length) 0 ++
                toEncode.drop (toEncode.length - ec + (ec - rem.length))) rem (toEncode.length - rem.length) _ _
              (by omega) (by rw [len_words]) (by simp; omega) (by simp; omega)]
            refine ⟨cache', hc', ?_⟩
            simp only [tryR_ok]
            have hA : (toEncode.take (toEncode.length - ec) ++ List.replicate (ec - rem.length) 0).length =
                toEncode.length - rem.length := by simp; omega
            rw [List.take_left' hA, Nat.min_eq_left (by omega),
              show toEncode.length - rem.length - (toEncode.length - ec) = ec - rem.length by omega]
          · rfl
          · rw [tripUp_one]; omega
          · rfl
          · intro i _ _ t
            rw [setIdx_words _ _ _ (toEncode.length - ec + i) 0 (by omega) (by rfl)]
            cases Bits.setWord t (toEncode.length - ec + i) 0 <;> rfl
        · -- a remainder longer than `ecBytes`: no zero fill, the copy starts inside the data
          have ht : tripUp 0 ((ec : Int) - (rem.length : Int)) 1 = 0 := by rw [tripUp_one]; omega
          rw [ht, loop_zero]
          simp only [next_thenR]
          rw [copySeg_tail toEncode rem (toEncode.length - rem.length) _ _ (by omega) (by rw [len_words]) (by omega) (by omega)]
          refine ⟨cache', hc', ?_⟩
          simp only [tryR_ok]
          congr 3
          rw [Nat.min_eq_right (by omega), show toEncode.length - rem.length - (toEncode.length - ec) = 0 by omega]
          simp

/-! non-vacuity: a fresh encoder satisfies `CacheOK` (its cache is `[1]` = g_0); the remaining hypotheses of `k_encEncode_eq`
    are instantiated for every well-formed field and block shape in Obligations/K04bProps.lean (`gen_encode_systematic`) -/
example : CacheOK GF.aztecParam [[1]] := cacheOK_one _

end Gzx.Obligations.K04bEnc
