/-
  K14 — the integer data flow of the three renderers (output size, multiple, paddings), regenerated
  from /repo on every run (`Gzx.Gen.K14`, translator kind `region`) and proved to be exactly what the
  hand-written model of Model/Render.lean (the one Properties/C14.lean is about) computes, for ALL
  arguments: the model is the regenerated arithmetic followed by the modelled SetRegion loops.
  The loops themselves (and `NewBitMatrix`'s argument check) are tied by the c14 correspondence suite.
-/
import Gzx.Gen.K14
import Gzx.KernelGuard
import Gzx.Model.Render
namespace Gzx.Obligations.K14
open Gzx Gzx.GoM Gzx.Render

when_kernel Gzx.Gen.K14.qrRender in
/-- `renderResult` (QR): qrWidth/qrHeight, output size = max(requested, symbol + quiet zone), multiple =
    min of the two integer ratios (division by zero faults), paddings by truncated halving -/
theorem k_qrRender_eq (mw mh : Nat) (m : Nat → Nat → Bool) (quiet reqW reqH : Int) :
    renderQR mw mh m quiet reqW reqH =
      match Gen.K14.qrRender reqW reqH quiet mw mh with
      | .error e => .error e
      | .ok (ow, oh, mult, lp, tp) =>
        if ow < 1 ∨ oh < 1 then .error .writer
        else .ok ⟨ow, oh, rowLoop m mw lp mult mult mult mh 0 tp⟩ := by
  simp only [renderQR, Gen.K14.qrRender, goDiv, GoM.div, tryR, bind, Except.bind]
  by_cases h1 : (mw : Int) + quiet * 2 = 0
  · simp [h1]
  by_cases h2 : (mh : Int) + quiet * 2 = 0
  · simp [h1, h2]
  simp [h1, h2]

when_kernel Gzx.Gen.K14.dmRender in
/-- `convertByteMatrixToBitMatrix` (Data Matrix): output size = max(requested, matrix), multiple = min ratio,
    paddings halved — and zero when a requested dimension is smaller than the matrix.  (The BitMatrix size
    chosen in that branch is an argument of the skipped `NewBitMatrix` call: model + correspondence.) -/
theorem k_dmRender_eq (mw mh : Nat) (m : Nat → Nat → Bool) (reqW reqH : Int) :
    renderDM mw mh m reqW reqH =
      match Gen.K14.dmRender reqW reqH mw mh with
      | .error e => .error e
      | .ok (_, _, mult, lp, tp) =>
        let small := decide (reqH < (mh : Int)) || decide (reqW < (mw : Int))
        let W := if small then (mw : Int) else reqW
        let H := if small then (mh : Int) else reqH
        if W < 1 ∨ H < 1 then .error (.panic "nil BitMatrix: Clear")
        else .ok ⟨W, H, rowLoop m mw lp mult mult mult mh 0 tp⟩ := by
  simp only [renderDM, Gen.K14.dmRender, goDiv, GoM.div, tryR, bind, Except.bind]
  by_cases h1 : mw = 0
  · simp [h1]
  by_cases h2 : mh = 0
  · simp [h1, h2]
  by_cases hs : (reqH < (mh : Int) ∨ reqW < (mw : Int))
  · simp [h1, h2, hs]
  · simp [h1, h2, hs]

when_kernel Gzx.Gen.K14.onedRender in
/-- `onedWriter_renderResult` (1-D): full width = code + margin, output = max(requested, full) x max(1, height),
    multiple = output / full (division by zero faults), left padding halved -/
theorem k_onedRender_eq (code : List Bool) (reqW reqH margin : Int) :
    render1D code reqW reqH margin =
      match Gen.K14.onedRender reqW reqH margin (code.length : Int) with
      | .error e => .error e
      | .ok (ow, oh, mult, lp) =>
        if ow < 1 ∨ oh < 1 then .error .writer
        else .ok ⟨ow, oh, barLoop mult oh mult code lp⟩ := by
  simp only [render1D, Gen.K14.onedRender, Gen.K14.onedMax, goDiv, GoM.div, tryR, bind, Except.bind]
  have e1 : ∀ a b : Int, (if (decide (a > b)) = true then (Except.ok a : Res Int) else Except.ok b) =
      Except.ok (if a ≥ b then a else b) := by
    intro a b
    by_cases h : a > b
    · have : a ≥ b := by omega
      simp [h, this]
    · by_cases h' : a ≥ b
      · have : a = b := by omega
        simp [this]
      · simp [h, h']
  simp only [e1]
  by_cases h1 : (code.length : Int) + margin = 0 <;> simp [h1]

end Gzx.Obligations.K14
