/-
  K01d (bit_matrix_parser.go, version.go) — kernels that work on a `*gozxing.BitMatrix`.  The matrix is an ABSTRACT type `M`
  with operations `ops : MatOps M` in the regenerated code (lean/Gzx/GoMK01.lean); the theorems hold for EVERY `ops` whose
  `get` agrees with the model matrix under an abstraction function (`GetLaw`), i.e. through the tied `BitMatrix.Get`
  (`Obligations/K16.lean: k_matrixGet_eq` proves that law for the regenerated Go method on the word model).

  * `copyBit` for all arguments;
  * `buildFunctionPattern`: instantiated with the symbolic matrix `regOps` (a matrix is the list of `SetRegion` calls made on
    it) the regenerated function issues, for every version of the regenerated table, exactly the regions of the model's
    `buildFunctionPattern`, in the same order, and no call is rejected (`k_buildFunctionPattern_regions`, per-run, kernel
    evaluation); `Obligations/K01eFunc.lean: k_buildFunctionPattern_lawful` carries this over to every lawful `ops`.  Open: a
    version number / centre list that is no row of VERSIONS (see the end of the file).
-/
import Gzx.Obligations.K01d
namespace Gzx.Obligations.K01d
open Gzx Gzx.GoM Gzx.GoVal Gzx.QRDec

/-- `ops.get` reads the model matrix `abs m` -/
def GetLaw {M : Type} (ops : MatOps M) (abs : M → Matrix) : Prop :=
  ∀ (m : M) (x y : Nat), (abs m).get x y = .ok (ops.get m (x : Int) (y : Int))

theorem shl1_or1 (a : Nat) : (a <<< 1 ||| 1) = 2 * a + 1 := by
  rw [← Nat.shiftLeft_add_eq_or_of_lt (by decide : 1 < 2 ^ 1), Nat.shiftLeft_eq]; omega

when_kernel Gzx.Gen.K01d.copyBit in
/-- `copyBit(i, j, versionBits)` = the model's `copyBit` (mirrored read, shift, or) for every lawful matrix -/
theorem k_copyBit_eq {M : Type} (ops : MatOps M) (abs : M → Matrix) (law : GetLaw ops abs)
    (m : M) (mirror : Bool) (i j acc : Nat) :
    Gen.K01d.copyBit ops m mirror (i : Int) (j : Int) (acc : Int) =
      (QRDec.copyBit (abs m) mirror acc (i, j)).map Int.ofNat := by
  have s1 : ishl (acc : Int) 1 = ((acc <<< 1 : Nat) : Int) := ishl_natCast acc 1
  have s2 : ior ((acc <<< 1 : Nat) : Int) 1 = ((acc <<< 1 ||| 1 : Nat) : Int) := ior_natCast (acc <<< 1) 1
  have s3 : acc <<< 1 = 2 * acc := by rw [Nat.shiftLeft_eq]; omega
  cases mirror <;>
    simp only [Gen.K01d.copyBit, QRDec.copyBit, if_true, Bool.false_eq_true, if_false, law m i j, law m j i, s1, s2, shl1_or1] <;>
    split <;> simp [Except.map, bind, Except.bind, *]

example : GetLaw (M := Matrix)
    ⟨⟨0, fun _ _ => false⟩, fun m => m.dim, fun m => m.dim,
     fun m x y => decide (0 ≤ x ∧ 0 ≤ y ∧ x.toNat < m.dim ∧ y.toNat < m.dim) && m.bit x.toNat y.toNat,
     fun m _ _ => .ok m, fun m _ _ _ _ => .ok (m, false), fun _ => .ok (⟨0, fun _ _ => false⟩, true)⟩ id := by
  intro m x y
  by_cases h : x < m.dim ∧ y < m.dim <;> simp [Matrix.get, h] <;> omega

/-! ### buildFunctionPattern on the symbolic matrix -/

/-- a matrix as its dimension and the `SetRegion` calls made on it -/
abbrev RegM := Nat × List Region

/-- `SetRegion` as coded: rejected (error, matrix unchanged) unless the region is non-empty and inside -/
def regOps : MatOps RegM where
  nilM := (0, [])
  width m := m.1
  height m := m.1
  get m x y := decide (0 ≤ x ∧ 0 ≤ y) && m.2.any (·.has x.toNat y.toNat)
  flip m _ _ := .ok m
  setRegion m l t w h :=
    if t < 0 ∨ l < 0 ∨ h < 1 ∨ w < 1 ∨ t + h > m.1 ∨ l + w > m.1 then .ok (m, true)
    else .ok ((m.1, m.2 ++ [⟨l.toNat, t.toNat, w.toNat, h.toNat⟩]), false)
  newSquare d := if d < 1 then .ok ((0, []), true) else .ok ((d.toNat, []), false)

/-- the `SetRegion` calls of the model's `buildFunctionPattern` -/
def modelRegions (v : VersionInfo) : Option (List Region) :=
  let dim := v.dimension
  match alignmentRegions v.centers with
  | none => none
  | some al =>
    some ([⟨0, 0, 9, 9⟩, ⟨dim - 8, 0, 8, 9⟩, ⟨0, dim - 8, 9, 8⟩] ++ al ++
      [⟨6, 9, 1, dim - 17⟩, ⟨9, 6, dim - 17, 1⟩] ++
      (if v.num > 6 then [⟨dim - 11, 0, 3, 6⟩, ⟨0, dim - 11, 6, 3⟩] else []))

/-- the model's function pattern is the union of `modelRegions` when all of them are valid -/
theorem model_buildFunctionPattern_regions (v : VersionInfo) (regs : List Region) (h : modelRegions v = some regs)
    (hv : regs.all (Region.valid v.dimension) = true) :
    ∃ m, QRDec.buildFunctionPattern v = .ok m ∧ m.dim = v.dimension ∧ ∀ x y, m.bit x y = regs.any (·.has x y) := by
  unfold modelRegions at h
  unfold QRDec.buildFunctionPattern
  cases ha : alignmentRegions v.centers with
  | none => simp [ha] at h
  | some al =>
    simp only [ha, Option.some.injEq] at h
    subst h
    simp only [hv, if_true]
    exact ⟨_, rfl, rfl, fun _ _ => rfl⟩

when_kernel Gzx.Gen.K01d.buildFunctionPattern in
/-- per version of the regenerated table: the regenerated `buildFunctionPattern` makes the model's `SetRegion` calls, in
    order, none rejected -/
def bfpAgrees (v : VersionInfo) : Bool :=
  match modelRegions v with
  | none => false
  | some regs =>
    regs.all (Region.valid v.dimension) &&
    decide (Gen.K01d.buildFunctionPattern regOps (v.num : Int) (v.centers.map Int.ofNat) = .ok ((v.dimension, regs), false))

/-- non-vacuity: the table has its 40 rows -/
example : QRTables.versions.length = 40 := by decide +kernel

when_kernel Gzx.Gen.K01d.buildFunctionPattern in
theorem k_buildFunctionPattern_regions : QRTables.versions.all bfpAgrees = true := by decide +kernel

/- NOT proved: for an ARBITRARY version number and centre list (not a row of VERSIONS), `Gen.K01d.buildFunctionPattern ops n
   centers` = the model's `buildFunctionPattern`.  Every `*Version` the decoder handles is a row of VERSIONS
   (`k_getVersionForNumber_eq`), which the statement above covers, for every lawful `ops` by
   `Obligations/K01eFunc.lean: k_buildFunctionPattern_lawful`. -/

end Gzx.Obligations.K01d
