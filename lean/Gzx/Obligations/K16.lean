/-
  K16 — word-index arithmetic of BitMatrix / BitArray (`offset = y*rowSize + x/32`, bit `x%32`,
  `(size+7)/8`, `rowSize = (width+31)/32`, allocation size), regenerated from /repo's bit_matrix.go /
  bit_array.go on every run (`Gzx.Gen.K16`) and proved equal, for all arguments, to the WORD-level model
  of Model/Bits.lean whose refinement to the bit-container spec is what Properties/C16.lean proves.
  These are regions cut out of the methods: the whole `Set / Unset / Flip / Get` and the other BitMatrix / BitArray methods
  are tied in Obligations/K16b*.lean (so `k_matrix*Offset_eq` here are parts of `k_matrixSet_eq` … there, and `BitArray.Get`
  is tied once for each of the two regenerated copies, `Gen.K16.arrayGet` here and `Gen.K16b.arrayGet` there).
  `NewBitMatrix` is split: its argument check is `Gen.K16c.newBitMatrixRejects` (Obligations/K16c.lean), the allocation past
  the check is `k_newBitMatrix_eq` here.  Which Go declaration each `Gen.K16.*` name stands for: translator/tables.d/K16.txt.
-/
import Gzx.Gen.K16
import Gzx.KernelGuard
import Gzx.Proofs.GoM
import Gzx.Model.Bits
namespace Gzx.Obligations.K16
open Gzx Gzx.GoM Gzx.Bits

/-- Go `[]uint32` contents of a model word list -/
abbrev words (ws : List Nat) : List Int := ws.map Int.ofNat

when_kernel Gzx.Gen.K16.matrixGet in
/-- `BitMatrix.Get(x, y)` = the word model's `WMat.get` for every matrix and all non-negative coordinates
    (range test, word offset, bit test, and the index fault of a corrupt matrix) -/
theorem k_matrixGet_eq (m : WMat) (x y : Nat) :
    Gen.K16.matrixGet m.width m.height m.rowSize (words m.words) x y = WMat.get m x y := by
  unfold Gen.K16.matrixGet WMat.get
  by_cases h : x ≥ m.width ∨ y ≥ m.height
  · have h' : ((decide ((x : Int) < 0) || decide ((x : Int) ≥ m.width)) || decide ((y : Int) < 0) ||
        decide ((y : Int) ≥ m.height)) = true := by
      simp only [Bool.or_eq_true, decide_eq_true_eq]; omega
    simp only [h', h, if_true]
  · have h' : ((decide ((x : Int) < 0) || decide ((x : Int) ≥ m.width)) || decide ((y : Int) < 0) ||
        decide ((y : Int) ≥ m.height)) = false := by
      simp only [Bool.or_eq_false_iff, decide_eq_false_iff_not]; omega
    have e32 : (32 : Int) = ((32 : Nat) : Int) := rfl
    have eo : (y : Int) * (m.rowSize : Int) + Int.tdiv (x : Int) 32 = ((y * m.rowSize + x / 32 : Nat) : Int) := by
      rw [e32, tdiv_natCast]; simp
    simp only [h', h, Bool.false_eq_true, if_false, eo, idx_bytes, tryR, wordAt, bind, Except.bind]
    cases m.words[y * m.rowSize + x / 32]? with
    | none => rfl
    | some w =>
      have e1 : (1 : Int) = ((1 : Nat) : Int) := rfl
      have em : wrap 64 (Int.tmod (x : Int) 32) = ((x % 32 : Nat) : Int) := by
        rw [e32, tmod_natCast, wrap_natCast]; congr 1
        have : x % 32 < 2 ^ 64 := by omega
        exact Nat.mod_eq_of_lt this
      simp only [em, ishr_natCast, e1, iand_natCast, pure, Except.pure]
      congr 1
      cases hb : ((w >>> (x % 32) &&& 1) != 0) <;> simp_all

when_kernel Gzx.Gen.K16.arrayGet in
/-- `BitArray.Get(i)` = the word model's `WArr.get`: word `i/32`, mask `1 << (i%32)` in 32-bit arithmetic -/
theorem k_arrayGet_eq (a : WArr) (i : Nat) :
    Gen.K16.arrayGet (words a.words) i = WArr.get a i := by
  unfold Gen.K16.arrayGet WArr.get
  have e32 : (32 : Int) = ((32 : Nat) : Int) := rfl
  have e1 : (1 : Int) = ((1 : Nat) : Int) := rfl
  rw [e32, tdiv_natCast]
  simp only [idx_bytes, tryR, wordAt, bind, Except.bind]
  cases a.words[i / 32]? with
  | none => rfl
  | some w =>
    have em : wrap 64 (Int.tmod (i : Int) ((32 : Nat) : Int)) = ((i % 32 : Nat) : Int) := by
      rw [tmod_natCast, wrap_natCast]; congr 1
      have : i % 32 < 2 ^ 64 := by omega
      exact Nat.mod_eq_of_lt this
    have hlt : 1 <<< (i % 32) < 2 ^ 32 := by
      rw [Nat.one_shiftLeft]
      exact Nat.pow_lt_pow_right (by decide) (by omega)
    simp only [em, e1, ishl_natCast, wrap_natCast, iand_natCast, Nat.mod_eq_of_lt hlt, pure, Except.pure]
    congr 1
    cases hb : ((w &&& 1 <<< (i % 32)) != 0) <;> simp_all

when_kernel Gzx.Gen.K16.matrixSetOffset in
/-- the `offset` expression of `Set` is the one of the word model (`y*rowSize + x/32`) -/
theorem k_matrixSetOffset_eq (rowSize x y : Nat) :
    Gen.K16.matrixSetOffset rowSize x y = .ok ((y * rowSize + x / 32 : Nat) : Int) := by
  have e32 : (32 : Int) = ((32 : Nat) : Int) := rfl
  simp only [Gen.K16.matrixSetOffset, e32, tdiv_natCast]
  simp

when_kernel Gzx.Gen.K16.matrixUnsetOffset in
/-- … of `Unset` -/
theorem k_matrixUnsetOffset_eq (rowSize x y : Nat) :
    Gen.K16.matrixUnsetOffset rowSize x y = .ok ((y * rowSize + x / 32 : Nat) : Int) := by
  have e32 : (32 : Int) = ((32 : Nat) : Int) := rfl
  simp only [Gen.K16.matrixUnsetOffset, e32, tdiv_natCast]
  simp

when_kernel Gzx.Gen.K16.matrixFlipOffset in
/-- … of `Flip` -/
theorem k_matrixFlipOffset_eq (rowSize x y : Nat) :
    Gen.K16.matrixFlipOffset rowSize x y = .ok ((y * rowSize + x / 32 : Nat) : Int) := by
  have e32 : (32 : Int) = ((32 : Nat) : Int) := rfl
  simp only [Gen.K16.matrixFlipOffset, e32, tdiv_natCast]
  simp

when_kernel Gzx.Gen.K16.arraySizeInBytes in
/-- `GetSizeInBytes` = `(size + 7) / 8` of the model -/
theorem k_arraySizeInBytes_eq (a : WArr) :
    Gen.K16.arraySizeInBytes a.size = (WArr.getSizeInBytes a : Nat) := by
  have e8 : (8 : Int) = ((8 : Nat) : Int) := rfl
  have e7 : (a.size : Int) + 7 = ((a.size + 7 : Nat) : Int) := by simp
  simp only [Gen.K16.arraySizeInBytes, WArr.getSizeInBytes, e7, e8, tdiv_natCast]

when_kernel Gzx.Gen.K16.newBitMatrix in
/-- `NewBitMatrix(width, height)` past its argument check: `rowSize = (width+31)/32` and a zeroed word
    slice of `rowSize*height` words — the fields of the model's `WMat.new`.  Under `h` both sides are `.ok` (`make` of a
    non-negative length; the `else` branch of `WMat.new`): the `Option` wrapper hides no error case, it only lets the two
    result types (a pair, a `WMat`) be compared field by field -/
theorem k_newBitMatrix_eq (width height : Nat) (h : ¬ (width < 1 ∨ height < 1)) :
    (match Gen.K16.newBitMatrix width height with
     | .ok (rs, bits) => some (rs, bits)
     | .error _ => none) =
    (match WMat.new width height with
     | .ok m => some ((m.rowSize : Int), words m.words)
     | .error _ => none) := by
  have e32 : (32 : Int) = ((32 : Nat) : Int) := rfl
  have e31 : (width : Int) + 31 = ((width + 31 : Nat) : Int) := by simp
  simp only [Gen.K16.newBitMatrix, WMat.new, h, if_false, e31, e32, tdiv_natCast, ← Int.natCast_mul, mk, tryR]
  have ec : ((width : Int) + 31) / 32 * (height : Int) = (((width + 31) / 32 * height : Nat) : Int) := by simp
  have hn : ¬ (((width : Int) + 31) / 32 * (height : Int) < 0) := by rw [ec]; omega
  have ht : (((width : Int) + 31) / 32 * (height : Int)).toNat = (width + 31) / 32 * height := by
    rw [ec, Int.toNat_natCast]
  simp [hn, ht, words]

end Gzx.Obligations.K16
