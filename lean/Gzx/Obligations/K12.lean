/-
  K12 — the look-ahead automaton of the Code 128 writer, regenerated WITH ITS LOOP from
  /repo/oned/code128_writer.go on every run (`Gzx.Gen.K12`, translator kind `funcm`), proved equal for every input to
  the model functions the totality theorems of Properties/C12C128.lean are about (`Gzx.OneD.findCType`,
  `Gzx.OneD.chooseCode`).  A source edit in `code128FindCType` / `code128ChooseCode` breaks the theorem that names it.
-/
import Gzx.Gen.K12
import Gzx.KernelGuard
import Gzx.Proofs.GoM
import Gzx.Model.OneD
namespace Gzx.Obligations.K12
open Gzx Gzx.GoM Gzx.OneD

/-- `code128CType` values -/
def ctCode : CType → Int
  | .uncodable => 0 | .oneDigit => 1 | .twoDigits => 2 | .fnc1 => 3

def runes (v : List Nat) : List Int := v.map Int.ofNat

theorem idx_runes (v : List Nat) (i : Nat) (h : i < v.length) : idx (runes v) (i : Int) = .ok (v[i] : Int) :=
  idx_nats_lt v _ i rfl h

theorem drop_cons (v : List Nat) (i : Nat) (h : i < v.length) : v.drop i = v[i] :: v.drop (i + 1) :=
  List.drop_eq_getElem_cons h

when_kernel Gzx.Gen.K12.findCType in
/-- `code128FindCType(value, start)` = the model's `findCType (value[start:])`, for every rune slice and start -/
theorem k_findCType_eq (v : List Nat) (start : Nat) :
    Gen.K12.findCType (runes v) (start : Int) = .ok (ctCode (findCType (v.drop start))) := by
  unfold Gen.K12.findCType
  have hlen : len (runes v) = (v.length : Int) := by simp [len, runes]
  -- the Go tests on a rune in the model's terms; then, by the number of runes left, both sides are the same `if` chain
  have dig (c : Nat) : (decide ((c : Int) < 48) || decide ((c : Int) > 57)) = !isDigitCp c := by
    unfold isDigitCp; rw [Bool.eq_iff_iff]; simp; omega
  have f1 (c : Nat) : ((c : Int) == 241) = decide (c = 241) := by
    rw [Bool.eq_iff_iff, beq_iff_eq, decide_eq_true_eq]; omega
  simp only [hlen]
  by_cases hs : start < v.length
  · rw [drop_cons v start hs, if_neg (by rw [decide_eq_true_eq]; omega), idx_runes v start hs]
    by_cases hs2 : start + 1 < v.length
    · rw [drop_cons v (start + 1) hs2]
      simp only [tryR, f1, dig, findCType, show (start : Int) + 1 = ((start + 1 : Nat) : Int) from rfl, idx_runes v (start + 1) hs2,
        decide_eq_true_eq, Int.not_le.mpr (Int.ofNat_lt.mpr hs2), if_false, apply_ite (fun x => (Except.ok (ctCode x) : Res Int)),
        Bool.not_eq_true', ← Bool.not_eq_true, ite_not]
      rfl
    · rw [List.drop_eq_nil_of_le (Nat.le_of_not_lt hs2)]
      simp only [tryR, f1, dig, findCType, decide_eq_true_eq, show (start : Int) + 1 ≥ v.length by omega, if_true,
        apply_ite (fun x => (Except.ok (ctCode x) : Res Int))]
      rfl
  · rw [List.drop_eq_nil_of_le (Nat.le_of_not_lt hs), if_pos (by rw [decide_eq_true_eq]; omega)]
    rfl

/-- the comparisons of the Go code with `code128CType` constants -/
theorem ctCode_beq (x : CType) : (ctCode x == 0) = decide (x = .uncodable) ∧ (ctCode x == 1) = decide (x = .oneDigit) ∧
    (ctCode x == 2) = decide (x = .twoDigits) ∧ (ctCode x == 3) = decide (x = .fnc1) := by
  cases x <;> decide

when_kernel Gzx.Gen.K12.chooseCode in
/-- the `for { … index += 2 }` look-ahead loop = the model's `skipPairs` -/
theorem k_chooseCode_loop (v : List Nat) : ∀ (n : Nat) (i : Nat) (fuel : Nat) (la : Int),
    (v.drop i).length ≤ n → n < fuel →
    ∃ j, whileLoop (Gen.K12.chooseCode_body1 (runes v)) fuel (la, (i : Int)) =
      .brk (ctCode (skipPairs n (v.drop i)), j) := by
  intro n
  induction n with
  | zero =>
    intro i fuel la hl hf
    obtain ⟨f, rfl⟩ : ∃ f, fuel = f + 1 := ⟨fuel - 1, by omega⟩
    have hnil : v.drop i = [] := List.length_eq_zero_iff.mp (by omega)
    simp only [whileLoop, Gen.K12.chooseCode_body1, k_findCType_eq, tryC, hnil, skipPairs, findCType, ctCode]
    exact ⟨(i : Int), rfl⟩
  | succ n ih =>
    intro i fuel la hl hf
    obtain ⟨f, rfl⟩ : ∃ f, fuel = f + 1 := ⟨fuel - 1, by omega⟩
    simp only [whileLoop, Gen.K12.chooseCode_body1, k_findCType_eq, tryC, skipPairs, bne, ctCode_beq]
    by_cases h2 : findCType (v.drop i) = .twoDigits
    · simp only [h2, decide_true, Bool.not_true, Bool.false_eq_true, if_false, if_true, List.drop_drop]
      exact ih (i + 2) f _ (by rw [List.length_drop] at hl ⊢; omega) (by omega)
    · simp only [h2, decide_false, Bool.not_false, if_true, if_false]
      exact ⟨_, rfl⟩

when_kernel Gzx.Gen.K12.chooseCode in
/-- `code128ChooseCode(value, start, oldCode)` = the model's `chooseCode (value[start:]) oldCode`, for every rune
    slice, start and old code set (the loop needs at most one iteration per two remaining runes) -/
theorem k_chooseCode_eq (v : List Nat) (start old fuel : Nat) (hf : v.length < fuel) :
    Gen.K12.chooseCode fuel (runes v) (start : Int) (old : Int) = .ok ((chooseCode (v.drop start) old : Nat) : Int) := by
  unfold Gen.K12.chooseCode chooseCode
  have e1 : (start : Int) + 1 = ((start + 1 : Nat) : Int) := rfl
  have e2 : (start : Int) + 2 = ((start + 2 : Nat) : Int) := rfl
  have e3 : (start : Int) + 3 = ((start + 3 : Nat) : Int) := rfl
  have e4 : (start : Int) + 4 = ((start + 4 : Nat) : Int) := rfl
  obtain ⟨j, hloop⟩ := k_chooseCode_loop v (v.drop start).length (start + 4) fuel
    (ctCode (findCType (v.drop (start + 2)))) (by simp only [List.length_drop]; omega) (by rw [List.length_drop]; omega)
  have o (k : Nat) : ((old : Int) == (k : Int)) = decide (old = k) := by
    rw [Bool.eq_iff_iff, beq_iff_eq, decide_eq_true_eq, Int.natCast_inj]
  have o101 : ((old : Int) == 101) = decide (old = 101) := o 101
  have o100 : ((old : Int) == 100) = decide (old = 100) := o 100
  have o99 : ((old : Int) == 99) = decide (old = 99) := o 99
  -- with every Go comparison rewritten into the model's condition the two sides are the same decision tree,
  -- up to the checked read in the `uncodable` branch
  rw [e1, e2, e3, e4]
  simp only [k_findCType_eq, tryR, hloop, Ctl.thenR, List.drop_drop, ctCode_beq, o101, o100, o99, Bool.and_eq_true,
    Bool.or_eq_true, decide_eq_true_eq]
  by_cases hu : findCType (v.drop start) = .uncodable
  · simp only [hu, reduceCtorEq, if_false, if_true]
    have hlen : len (runes v) = (v.length : Int) := by simp [len, runes]
    by_cases hs : start < v.length
    · rw [drop_cons v start hs, idx_runes v start hs, hlen, if_pos (Int.ofNat_lt.mpr hs)]
      generalize v[start] = c
      have hc : ((c : Int) < 32 ∨ old = 101 ∧ ((c : Int) < 96 ∨ (c : Int) ≥ 241 ∧ (c : Int) ≤ 244)) ↔
          (c < 32 ∨ old = 101 ∧ (c < 96 ∨ 241 ≤ c ∧ c ≤ 244)) := by omega
      simp only [hc]
      split <;> rfl
    · rw [List.drop_eq_nil_of_le (Nat.le_of_not_lt hs), hlen, if_neg (by omega)]
      rfl
  · simp only [hu, if_false, apply_ite (fun z : CType => if z = CType.twoDigits then (99 : Nat) else 100),
      apply_ite (fun n : Nat => (Except.ok (n : Int) : Res Int))]
    rfl

end Gzx.Obligations.K12
