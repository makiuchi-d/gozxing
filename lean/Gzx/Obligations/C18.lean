/-
  C18 — per-run, kernel-checked obligations over the effect summary regenerated from the Go working tree
  (`Gzx.Gen.C18Effects`, written by harness/cmd/c18effects in step 1 of bin/check) against the reviewed lists
  (`Gzx.Ref.C18Allowed`, committed; proved equal to the corpus text files of this run).

  What breaks what:
    a new run-time write of a package-level variable            → `shared_writes_allowed`
    package state stored into an instance                       → `escapes_allowed`
    a field of a shared object written after construction
      (tables built lazily on first use, scratch in a singleton)→ `shared_type_writes_allowed`
    a sync.Once / Mutex / atomic appears                        → `sync_uses_allowed`
    the library starts a goroutine / uses a channel             → `go_stmts_allowed` / `chan_ops_allowed`
    an instance field becomes state carried between calls       → `instance_writes_allowed`
    a corpus text file edited without regenerating Ref          → `ref_*_eq_corpus`
  and with them the instantiated LINK theorems `library_*` at the end of this file.
-/
import Gzx.Gen.C18Effects
import Gzx.Ref.C18Allowed
import Gzx.Proofs.EffectSummary
import Gzx.Properties.C18Link
namespace Gzx.Obligations.C18
open Gzx Gzx.Interference Gzx.EffectSummary Gzx.EffectLink
open Gzx.Properties

/-! ### the generated module is well-formed (sorted by code, no duplicates) and non-trivial -/

theorem gen_lists_sorted :
    sortedCodes Gen.C18Effects.vars = true ∧ sortedCodes Gen.C18Effects.functions = true ∧
    sortedPairs Gen.C18Effects.sharedWrites = true ∧ sortedPairs Gen.C18Effects.escapes = true ∧
    sortedPairs Gen.C18Effects.sharedTypeWrites = true ∧ sortedCodes Gen.C18Effects.instanceWrites = true := by
  decide +kernel

/-- the scan saw the library (guards against an empty summary passing every check below): the tree has 121
    package-level variables and 1017 functions today; the bounds are set well below, so that removing code does
    not break the obligation while an empty or truncated scan does -/
theorem gen_nonempty : 50 ≤ Gen.C18Effects.vars.length ∧ 500 ≤ Gen.C18Effects.functions.length := by
  decide +kernel

/-- init-time functions are functions, run-time written variables are variables, and every variable with a
    recorded shared write is among the run-time written ones -/
theorem gen_consistent :
    subCodes Gen.C18Effects.initFunctions Gen.C18Effects.functions = true ∧
    subCodes Gen.C18Effects.runtimeWrittenVars Gen.C18Effects.vars = true ∧
    (Gen.C18Effects.sharedWrites.map (·.2)).all
      (fun v => Gen.C18Effects.runtimeWrittenVars.any (fun w => Nat.beq v w)) = true := by
  decide +kernel

/-! ### one source of truth: the committed reviewed lists equal the corpus text files of this run -/

theorem ref_shared_writes_eq_corpus : Ref.C18Allowed.sharedWrites = Gen.C18Effects.corpusSharedWrites :=
  eqPairs_sound _ _ (by decide +kernel)
theorem ref_escapes_eq_corpus : Ref.C18Allowed.escapes = Gen.C18Effects.corpusEscapes :=
  eqPairs_sound _ _ (by decide +kernel)
theorem ref_shared_type_writes_eq_corpus : Ref.C18Allowed.sharedTypeWrites = Gen.C18Effects.corpusSharedTypeWrites :=
  eqPairs_sound _ _ (by decide +kernel)
theorem ref_sync_uses_eq_corpus : Ref.C18Allowed.syncUses = Gen.C18Effects.corpusSyncUses :=
  eqPairs_sound _ _ (by decide +kernel)
theorem ref_go_stmts_eq_corpus : Ref.C18Allowed.goStmts = Gen.C18Effects.corpusGoStmts :=
  eqCodes_sound _ _ (by decide +kernel)
theorem ref_chan_ops_eq_corpus : Ref.C18Allowed.chanOps = Gen.C18Effects.corpusChanOps :=
  eqCodes_sound _ _ (by decide +kernel)
theorem ref_instance_writes_eq_corpus : Ref.C18Allowed.instanceWrites = Gen.C18Effects.corpusInstanceWrites :=
  eqCodes_sound _ _ (by decide +kernel)

/-! ### every effect found in the working tree is a reviewed one -/

/-- the premise of non-interference, on the code: every function (outside init-time code) that may write a
    package-level variable or something reachable from it is a reviewed exception -/
theorem shared_writes_allowed : ∀ w ∈ Gen.C18Effects.sharedWrites, w ∈ Ref.C18Allowed.sharedWrites :=
  subPairs_sound _ _ (by decide +kernel)

/-- no function stores a reference into package-level state into an object (instances would share it) -/
theorem escapes_allowed : ∀ w ∈ Gen.C18Effects.escapes, w ∈ Ref.C18Allowed.escapes :=
  subPairs_sound _ _ (by decide +kernel)

/-- no field of a type of which a shared instance exists is written after construction (lazy tables inside a
    `GenericGF` held in a package variable, scratch buffers inside the process-wide grid sampler, ...) -/
theorem shared_type_writes_allowed : ∀ w ∈ Gen.C18Effects.sharedTypeWrites, w ∈ Ref.C18Allowed.sharedTypeWrites :=
  subPairs_sound _ _ (by decide +kernel)

/-- no synchronisation objects: the library has no lazily initialised or locked state to reason about -/
theorem sync_uses_allowed : ∀ w ∈ Gen.C18Effects.syncUses, w ∈ Ref.C18Allowed.syncUses :=
  subPairs_sound _ _ (by decide +kernel)

theorem go_stmts_allowed : ∀ w ∈ Gen.C18Effects.goStmts, w ∈ Ref.C18Allowed.goStmts :=
  subCodes_sound _ _ (by decide +kernel)

theorem chan_ops_allowed : ∀ w ∈ Gen.C18Effects.chanOps, w ∈ Ref.C18Allowed.chanOps :=
  subCodes_sound _ _ (by decide +kernel)

/-- statelessness premise of all properties: the instance fields written after construction are the reviewed
    ones (containers, per-call parsers/detectors, scratch reset by every call, two lazily built delegates) -/
theorem instance_writes_allowed : ∀ w ∈ Gen.C18Effects.instanceWrites, w ∈ Ref.C18Allowed.instanceWrites :=
  subCodes_sound _ _ (by decide +kernel)

/-- TODAY the library has no first-use initialisation at all: no sync object and no field of a shared object written
    after construction, so the plain machine (no `once` steps) is the right model and `LazySafe`
    (Model/LazyInit.lean, Properties/C18Lazy.lean) has nothing to check.  When a reviewed entry is added to
    corpus/C18/allowed-sync-uses.txt or allowed-shared-type-writes.txt this theorem stops holding ON PURPOSE: it has to
    be replaced by the `LazySafe` argument for that entry. -/
theorem no_first_use_initialisation :
    Gen.C18Effects.syncUses = [] ∧ Gen.C18Effects.sharedTypeWrites = [] :=
  ⟨subPairs_nil (xs := Gen.C18Effects.syncUses) (by decide +kernel),
   subPairs_nil (xs := Gen.C18Effects.sharedTypeWrites) (by decide +kernel)⟩

/-- every variable that is not init-only is the target of a reviewed write -/
theorem runtime_written_vars_reviewed :
    ∀ v ∈ Gen.C18Effects.runtimeWrittenVars, v ∈ Ref.C18Allowed.sharedWrites.map (·.2) := by
  intro v hv
  have h1 : ∀ x ∈ Gen.C18Effects.runtimeWrittenVars, x ∈ Gen.C18Effects.sharedWrites.map (·.2) := by
    have : Gen.C18Effects.runtimeWrittenVars.all
        (fun x => (Gen.C18Effects.sharedWrites.map (·.2)).any (fun y => Nat.beq x y)) = true := by decide +kernel
    intro x hx
    have hx' := List.all_eq_true.mp this x hx
    obtain ⟨y, hy, e⟩ := List.any_eq_true.mp hx'
    rw [nat_beq_eq e]; exact hy
  obtain ⟨w, hw, e⟩ := List.mem_map.mp (h1 v hv)
  exact List.mem_map.mpr ⟨w, shared_writes_allowed w hw, e⟩

/-! ### the instantiated LINK: the abstract machine over THIS working tree's summary -/

/-- the effect summary of the working tree: location `i` = package-level variable `vars[i]` -/
def libSummary : Summary :=
  ⟨Gen.C18Effects.vars, Gen.C18Effects.sharedWrites, Gen.C18Effects.escapes, Gen.C18Effects.sharedTypeWrites⟩

/-- the reviewed exceptions, in the shape of a `Summary` so that `Covered` can compare list by list; its `vars`
    is not used (`Covered`, `Excluded` look at the three effect lists only) -/
def reviewed : Summary :=
  ⟨[], Ref.C18Allowed.sharedWrites, Ref.C18Allowed.escapes, Ref.C18Allowed.sharedTypeWrites⟩

theorem library_covered : Covered libSummary reviewed :=
  ⟨shared_writes_allowed, escapes_allowed, shared_type_writes_allowed⟩

/-- For the library AS IT IS IN THE WORKING TREE: any number of goroutines running programs drawn from the
    summarised functions (scanner sound for them, reviewed exceptions not executed, own instances only) compute,
    under every interleaving, exactly what each computes alone. -/
theorem library_noninterference (prog : Gid → List TStep) (owner : Loc → Gid)
    (hsound : ∀ g t, t ∈ prog g → SoundFor libSummary t) (hexcl : ∀ g t, t ∈ prog g → Excluded reviewed t)
    (hown : ∀ g s, s ∈ erase prog g → ∀ loc, s.accesses loc → ¬ libSummary.Shared loc → owner loc = g)
    (P0 : Gid → PStore) (G0 : GStore) (sched : List Gid) (g : Gid) :
    (run (erase prog) sched (init P0 G0)).P g
      = (alone (erase prog g) (P0 g) G0 ((run (erase prog) sched (init P0 G0)).pc g)).1 :=
  C18Link.summarised_noninterference libSummary reviewed library_covered prog owner ⟨hsound, hexcl, hown⟩ P0 G0 sched g

/-- ... their results equal the results of the sequential execution ... -/
theorem library_results_eq_sequential (prog : Gid → List TStep) (owner : Loc → Gid)
    (hsound : ∀ g t, t ∈ prog g → SoundFor libSummary t) (hexcl : ∀ g t, t ∈ prog g → Excluded reviewed t)
    (hown : ∀ g s, s ∈ erase prog g → ∀ loc, s.accesses loc → ¬ libSummary.Shared loc → owner loc = g)
    (P0 : Gid → PStore) (G0 : GStore) (sched gs : List Gid)
    (hcomp : C18.Complete (erase prog) sched) (hgs : ∀ g, g ∈ gs ∨ erase prog g = []) :
    (run (erase prog) sched (init P0 G0)).P = (run (erase prog) (sequential (erase prog) gs) (init P0 G0)).P :=
  C18Link.summarised_results_eq_sequential libSummary reviewed library_covered prog owner ⟨hsound, hexcl, hown⟩ P0 G0 sched gs hcomp hgs

/-- ... every package-level variable keeps its init-time value ... -/
theorem library_shared_unchanged (prog : Gid → List TStep) (owner : Loc → Gid)
    (hsound : ∀ g t, t ∈ prog g → SoundFor libSummary t) (hexcl : ∀ g t, t ∈ prog g → Excluded reviewed t)
    (hown : ∀ g s, s ∈ erase prog g → ∀ loc, s.accesses loc → ¬ libSummary.Shared loc → owner loc = g)
    (P0 : Gid → PStore) (G0 : GStore) (sched : List Gid) (loc : Loc) (h : loc < Gen.C18Effects.vars.length) :
    (run (erase prog) sched (init P0 G0)).G loc = G0 loc :=
  C18Link.summarised_shared_unchanged libSummary reviewed library_covered prog owner ⟨hsound, hexcl, hown⟩ P0 G0 sched loc h

/-- ... and no two steps of different goroutines conflict (data-race freedom). -/
theorem library_no_conflict (prog : Gid → List TStep) (owner : Loc → Gid)
    (hsound : ∀ g t, t ∈ prog g → SoundFor libSummary t) (hexcl : ∀ g t, t ∈ prog g → Excluded reviewed t)
    (hown : ∀ g s, s ∈ erase prog g → ∀ loc, s.accesses loc → ¬ libSummary.Shared loc → owner loc = g)
    (g1 g2 : Gid) (hne : g1 ≠ g2) (s1 s2 : Step) (h1 : s1 ∈ erase prog g1) (h2 : s2 ∈ erase prog g2) (loc : Loc)
    (a1 : s1.accesses loc) (a2 : s2.accesses loc) : ¬ (s1.writes loc ∨ s2.writes loc) :=
  C18Link.summarised_no_conflict libSummary reviewed library_covered prog owner ⟨hsound, hexcl, hown⟩ g1 g2 hne s1 s2 h1 h2 loc a1 a2

/-- non-vacuity on the real summary, for the hypothesis `hsound`: the summary is sound for a system in which every
    goroutine reads package-level variable 0 (a read accounts for no write) -/
example : ∀ g t, t ∈ (fun (_ : Gid) => ([⟨0, .direct, .read 0 0⟩] : List TStep)) g → SoundFor libSummary t := by
  intro g t ht loc v hw
  rcases List.mem_singleton.mp ht with rfl
  cases hw

end Gzx.Obligations.C18
