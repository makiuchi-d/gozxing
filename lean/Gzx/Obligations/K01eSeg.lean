/-
  K01e (qrcode/decoder/decoded_bit_stream_parser.go, common/bit_source.go) — the QR bit-stream parser over a `*BitSource` state,
  regenerated on every run into `Gzx.Gen.K01de` (kind funcq + translator/ext_k01dec2.go: a `*BitSource` parameter is the triple
  (bytes, byteOffset, bitOffset); `v, e := bits.ReadBits(n)` binds the regenerated `ReadBits` and rebinds the two offsets; the
  `[]byte` accumulator `result` is a list value).

  * `ReadBits` for a WELL-FORMED source (`BitSource.WF`: the invariant of every source the library can construct) is EXACTLY the
    model's `readBits` (no panic case left: C06's `bitsource_total`);
  * `DecodedBitStreamParser_parseECIValue` = the model's `parseECIValue` (Model/BitSource.lean) for every well-formed source.
-/
import Gzx.Gen.K01de
import Gzx.Obligations.K01eBits
import Gzx.Properties.C06
namespace Gzx.Obligations.K01e
open Gzx Gzx.GoM Gzx.GoVal Gzx.BitSource

when_kernel Gzx.Gen.K01d.readBits in
when_kernel Gzx.Gen.K01de.readBits in
/-- the two regenerations of `ReadBits` (modules K01d and K01de) are the same definition -/
theorem k_readBits_same : @Gen.K01de.readBits = @Gen.K01d.readBits := rfl

when_kernel Gzx.Gen.K01de.readBits in
/-- `ReadBits(numBits)` on a well-formed source = the model's `readBits`, exactly: value and advanced offsets, or the checked
    error with the source unchanged -/
theorem k_readBits_wf (s : BitSource) (hs : WF s) (n : Int) (fuel : Nat) (hf : 5 ≤ fuel) :
    Gen.K01de.readBits fuel (bytes s.bytes) (s.byteOffset : Int) (s.bitOffset : Int) n = encRB s (readBits s n) := by
  rw [k_readBits_same]
  apply stripP_eq (k_readBits_eq s hs.1 n fuel hf)
  intro w hw
  obtain ⟨hnp, hr⟩ := Properties.C06.bitsource_total s hs n
  rcases hr with ⟨v, s', h, _⟩ | h
  · rw [h] at hw; cases hw
  · rw [h] at hw; cases hw

theorem readBits_bytes {s s' : BitSource} {n : Int} {v : Nat} (h : readBits s n = .ok (v, s')) : s'.bytes = s.bytes := by
  unfold readBits at h
  split at h
  · cases h
  · split at h
    · cases h
    · simp only [readRest] at h
      repeat' (split at h)
      all_goals first | (cases h; rfl) | cases h

theorem readBits_cases (s : BitSource) (hs : WF s) (n : Int) :
    (∃ v s', readBits s n = .ok (v, s') ∧ WF s' ∧ s'.bytes = s.bytes) ∨ readBits s n = .error .illegalArg := by
  obtain ⟨_, hr⟩ := Properties.C06.bitsource_total s hs n
  rcases hr with ⟨v, s', h, _, _, hw⟩ | h
  · exact Or.inl ⟨v, s', h, hw, readBits_bytes h⟩
  · exact Or.inr h

/-! ### parseECIValue -/

/-- (value, error?, offsets afterwards) of a model result; after a `FormatException` the parser stops and the offsets are not
    looked at any more -/
def encPE : Res (Nat × BitSource) → Res (Int × Bool × Option (Int × Int))
  | .ok (v, s') => .ok ((v : Int), false, some ((s'.byteOffset : Int), (s'.bitOffset : Int)))
  | .error (.panic w) => .error (.panic w)
  | .error _ => .ok (-1, true, none)

/-- the same view of a regenerated result (value, error?, byteOffset, bitOffset) -/
def viewE : Res (Int × Bool × Int × Int) → Res (Int × Bool × Option (Int × Int))
  | .ok (v, false, a, b) => .ok (v, false, some (a, b))
  | .ok (v, true, _, _) => .ok (v, true, none)
  | .error e => .error e

when_kernel Gzx.Gen.K01de.readBits in
when_kernel Gzx.Gen.K01de.parseECIValue in
/-- `DecodedBitStreamParser_parseECIValue(bits)` = the model's `parseECIValue` for EVERY well-formed source: one, two or three
    bytes by the leading bits, the same value, the same advanced offsets, `FormatException` for a failed read or the prefix 111 -/
theorem k_parseECIValue_eq (s : BitSource) (hs : WF s) (fuel : Nat) (hf : 5 ≤ fuel) :
    viewE (Gen.K01de.parseECIValue fuel (bytes s.bytes) (s.byteOffset : Int) (s.bitOffset : Int)) =
      encPE (parseECIValue s) := by
  simp only [Gen.K01de.parseECIValue, k_readBits_wf s hs 8 fuel hf, parseECIValue]
  rcases readBits_cases s hs 8 with ⟨f, s1, h1, hw1, hb1⟩ | h1
  · -- a continuation read of `n` bits, or-ed below the high bits `hi`
    have second : ∀ (n : Int) (hi : Nat),
        viewE (tryR (Gen.K01de.readBits fuel (bytes s.bytes) (s1.byteOffset : Int) (s1.bitOffset : Int) n) fun t =>
          if (t.2.1 != false) = true then .ok (-1, true, t.2.2.1, t.2.2.2)
          else .ok (ior (hi : Int) t.1, false, t.2.2.1, t.2.2.2)) =
        encPE (match readBitsF s1 n with
          | .error e => .error e
          | .ok (x, s2) => .ok (hi ||| x, s2)) := by
      intro n hi
      rw [← hb1, k_readBits_wf s1 hw1 n fuel hf, readBitsF]
      rcases readBits_cases s1 hw1 n with ⟨g, s2, h2, _, _⟩ | h2 <;> simp [h2, encRB, viewE, encPE, ior_natCast]
    have hF : readBitsF s 8 = .ok (f, s1) := by rw [readBitsF, h1]
    have a80 : iand (f : Int) 128 = ((f &&& 0x80 : Nat) : Int) := iand_natCast f 128
    have aC0 : iand (f : Int) 192 = ((f &&& 0xC0 : Nat) : Int) := iand_natCast f 192
    have aE0 : iand (f : Int) 224 = ((f &&& 0xE0 : Nat) : Int) := iand_natCast f 224
    have a7F : iand (f : Int) 127 = ((f &&& 0x7F : Nat) : Int) := iand_natCast f 127
    have a3F : iand (f : Int) 63 = ((f &&& 0x3F : Nat) : Int) := iand_natCast f 63
    have a1F : iand (f : Int) 31 = ((f &&& 0x1F : Nat) : Int) := iand_natCast f 31
    have sh8 : ishl ((f &&& 0x3F : Nat) : Int) 8 = (((f &&& 0x3F) <<< 8 : Nat) : Int) := ishl_natCast _ 8
    have sh16 : ishl ((f &&& 0x1F : Nat) : Int) 16 = (((f &&& 0x1F) <<< 16 : Nat) : Int) := ishl_natCast _ 16
    simp only [h1, hF, encRB, tryR_ok, a80, aC0, aE0, a7F, a3F, a1F, sh8, sh16]
    by_cases c1 : f &&& 0x80 = 0
    · simp [c1, viewE, encPE]
    · have c1' : ¬ (((f &&& 0x80 : Nat) : Int) = 0) := by omega
      by_cases c2 : f &&& 0xC0 = 0x80
      · simp only [bne_self_eq_false, Bool.false_eq_true, if_false, beq_iff_eq, c1, c1', c2, if_true]
        exact second 8 _
      · have c2' : ¬ (((f &&& 0xC0 : Nat) : Int) = 128) := by omega
        by_cases c3 : f &&& 0xE0 = 0xC0
        · simp only [bne_self_eq_false, Bool.false_eq_true, if_false, beq_iff_eq, c1, c1', c2, c2', c3, if_true]
          exact second 16 _
        · have c3' : ¬ (((f &&& 0xE0 : Nat) : Int) = 192) := by omega
          simp [c1, c2, c2', c3, c3', viewE, encPE]
  · rw [readBitsF, h1]
    rfl

/-- non-vacuity: a fresh source is well-formed; a two-byte designator -/
example : WF (BitSource.new [0x81, 0x02]) := Properties.C06.new_WF _
example : viewE (Gen.K01de.parseECIValue 5 (bytes [0x81, 0x02]) 0 0) = .ok (258, false, some (2, 0)) := by decide

end Gzx.Obligations.K01e
