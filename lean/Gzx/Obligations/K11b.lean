/-
  K11b — the Aztec decoder's bit primitives regenerated from /repo on every run (`Gzx.Gen.K11b`, translator/ext_k11b.go)
  and proved equal to the hand-written model `Model/AztecDecoder.lean` (properties C11, C06): `readCode`, `totalBitsInLayer`
  and `convertBoolArrayToByteArray` for ALL arguments, `readByte` for a start index `8·i` inside the slice (the only way
  `convertBoolArrayToByteArray` calls it).

  A Go `[]bool` is a `List Int` of 0 / 1 in the kernels (`boolsOf xs` is the Go slice a kernel list stands for, any
  non-zero entry reads as true; `bitsI bs` is how a Go slice is handed to / comes back from a kernel).
-/
import Gzx.Gen.K11b
import Gzx.KernelGuard
import Gzx.Model.AztecDecoder
import Gzx.Proofs.GoMTie
namespace Gzx.Obligations.K11b
open Gzx Gzx.GoM Gzx.GoVal

/-- a Go `[]bool` as a kernel list -/
def bitsI (bs : List Bool) : List Int := bs.map b2i
/-- the Go `[]bool` a kernel list stands for -/
def boolsOf (xs : List Int) : List Bool := xs.map (· != 0)

@[simp] theorem bitsI_length (bs : List Bool) : (bitsI bs).length = bs.length := by simp [bitsI]
@[simp] theorem boolsOf_length (xs : List Int) : (boolsOf xs).length = xs.length := by simp [boolsOf]
@[simp] theorem boolsOf_bitsI (bs : List Bool) : boolsOf (bitsI bs) = bs := by
  induction bs with
  | nil => rfl
  | cons b bs ih =>
    simp only [boolsOf, bitsI, List.map_cons, List.map_map] at ih ⊢
    rw [ih]; cases b <;> simp [b2i]

theorem shl1_or1 (a : Nat) : (a <<< 1) ||| 1 = 2 * a + 1 := by
  rw [Nat.shiftLeft_eq]
  apply Nat.eq_of_testBit_eq
  intro i
  rw [Nat.testBit_or]
  cases i with
  | zero => simp [Nat.testBit_zero]
  | succ i =>
    simp only [Nat.testBit_succ]
    have h1 : (2 * a + 1) / 2 = a := by omega
    have h2 : a * 2 ^ 1 / 2 = a := by omega
    simp [h1, h2]

/-- one step of the model's `readCode` fold -/
def rcStep (acc : Nat) (b : Bool) : Nat := 2 * acc + (if b then 1 else 0)

theorem model_readCode_eq (bs : List Bool) : AztecDecoder.readCode bs = bs.foldl rcStep 0 := rfl

/-! ## readCode -/

when_kernel Gzx.Gen.K11b.readCode in
/-- one iteration: `res <<= 1; if rawbits[i] { res |= 1 }` on an index in range -/
theorem readCode_body_in (xs : List Int) (i : Nat) (h : i < xs.length) (acc : Nat) :
    Gen.K11b.readCode_body1 xs (i : Int) (acc : Int) = .next ((rcStep acc (xs[i] != 0) : Nat) : Int) := by
  unfold Gen.K11b.readCode_body1
  rw [idx_ofNat xs i h]
  simp only [tryC_ok]
  have e1 : GoVal.ishl (acc : Int) 1 = ((acc <<< 1 : Nat) : Int) := ishl_natCast acc 1
  rw [e1]
  by_cases hb : (xs[i] != 0) = true
  · have e2 : GoVal.ior ((acc <<< 1 : Nat) : Int) 1 = (((acc <<< 1) ||| 1 : Nat) : Int) := ior_natCast _ 1
    simp only [hb, if_true, e2, rcStep, shl1_or1]
  · simp only [hb, rcStep, Nat.shiftLeft_eq]
    simp; omega

when_kernel Gzx.Gen.K11b.readCode in
theorem readCode_loop_in (xs : List Int) : ∀ (n a acc : Nat), a + n ≤ xs.length →
    loop (Gen.K11b.readCode_body1 xs) 1 n (a : Int) (acc : Int)
      = .next (((((boolsOf xs).drop a).take n).foldl rcStep acc : Nat) : Int) := by
  intro n
  induction n with
  | zero => intro a acc _; simp [loop]
  | succ n ih =>
    intro a acc h
    have ha : a < xs.length := by omega
    rw [loop_succ, readCode_body_in xs a ha acc]
    have e : (a : Int) + 1 = ((a + 1 : Nat) : Int) := by omega
    simp only [e]
    rw [ih (a + 1) _ (by omega)]
    have hd : (boolsOf xs).drop a = (xs[a] != 0) :: (boolsOf xs).drop (a + 1) := by
      rw [List.drop_eq_getElem_cons (by simpa using ha)]
      simp [boolsOf]
    rw [hd]; simp [List.take_succ_cons]

when_kernel Gzx.Gen.K11b.readCode in
theorem readCode_loop_out (xs : List Int) : ∀ (n : Nat) (a : Int) (acc : Nat), 0 < n → (a < 0 ∨ (xs.length : Int) < a + n) →
    loop (Gen.K11b.readCode_body1 xs) 1 n a (acc : Int) = (.panic oob : Ctl Int Int) := by
  intro n
  induction n with
  | zero => intro a acc h; omega
  | succ n ih =>
    intro a acc _ h
    rw [loop_succ]
    by_cases hneg : a < 0
    · unfold Gen.K11b.readCode_body1; rw [idx_neg xs a hneg]; rfl
    · by_cases hge : (xs.length : Int) ≤ a
      · unfold Gen.K11b.readCode_body1; rw [idx_ge xs a hge]; rfl
      · obtain ⟨k, rfl⟩ := Int.eq_ofNat_of_zero_le (by omega : 0 ≤ a)
        have hk : k < xs.length := by omega
        rw [readCode_body_in xs k hk acc]
        simp only []
        exact ih ((k : Int) + 1) _ (by omega) (by omega)

when_kernel Gzx.Gen.K11b.readCode in
/-- `readCode(rawbits, startIndex, length)` for ALL arguments: an empty range reads 0; a non-empty range inside the slice
    reads the model's big-endian value of `rawbits[startIndex : startIndex+length]`; any other range panics (index out
    of range) -/
theorem k_readCode_eq (xs : List Int) (s l : Int) :
    Gen.K11b.readCode xs s l =
      if l ≤ 0 then .ok 0
      else if 0 ≤ s ∧ s + l ≤ (xs.length : Int) then
        .ok ((AztecDecoder.readCode (((boolsOf xs).drop s.toNat).take l.toNat) : Nat) : Int)
      else .error oob := by
  unfold Gen.K11b.readCode
  rw [tripUp_one]
  have e : s + l - s = l := by omega
  rw [e]
  by_cases hl : l ≤ 0
  · have : l.toNat = 0 := by omega
    simp [hl, this, loop]
  · simp only [hl, if_false]
    by_cases hin : 0 ≤ s ∧ s + l ≤ (xs.length : Int)
    · obtain ⟨a, rfl⟩ := Int.eq_ofNat_of_zero_le hin.1
      obtain ⟨n, rfl⟩ := Int.eq_ofNat_of_zero_le (by omega : 0 ≤ l)
      have := readCode_loop_in xs n a 0 (by omega)
      simp only [Int.toNat_natCast, hin, and_self, if_true]
      rw [show ((0 : Int)) = ((0 : Nat) : Int) from rfl, this]
      simp [model_readCode_eq]
    · simp only [hin, if_false]
      have := readCode_loop_out xs l.toNat s 0 (by omega) (by omega)
      rw [show ((0 : Int)) = ((0 : Nat) : Int) from rfl, this]
      rfl

/-- non-vacuity: all three cases occur -/
example : Gen.K11b.readCode (bitsI [true, false, true, true]) 1 3 = .ok 3
    ∧ Gen.K11b.readCode (bitsI [true, false]) 1 0 = .ok 0
    ∧ Gen.K11b.readCode (bitsI [true, false]) 1 2 = .error oob := by decide +kernel

/-! ## readByte, convertBoolArrayToByteArray -/

theorem foldl_rcStep_lt (bs : List Bool) : ∀ acc k, acc < 2 ^ k → bs.foldl rcStep acc < 2 ^ (k + bs.length) := by
  induction bs with
  | nil => intro acc k h; simpa using h
  | cons b bs ih =>
    intro acc k h
    simp only [List.foldl_cons, List.length_cons]
    have h2 : rcStep acc b < 2 ^ (k + 1) := by
      unfold rcStep; rw [Nat.pow_succ]; split <;> omega
    have := ih _ _ h2
    rw [show k + (bs.length + 1) = k + 1 + bs.length by omega]; exact this

theorem model_readCode_lt (bs : List Bool) : AztecDecoder.readCode bs < 2 ^ bs.length := by
  have := foldl_rcStep_lt bs 0 0 (by decide)
  simpa [model_readCode_eq] using this

/-- byte `i` of the packed array: 8 bits from position `8i`, the last byte zero-padded on the right -/
def byteAt (bs : List Bool) (i : Nat) : Nat :=
  let h := (bs.drop (8 * i)).take 8
  AztecDecoder.readCode h * 2 ^ (8 - h.length)

theorem byteAt_lt (bs : List Bool) (i : Nat) : byteAt bs i < 256 := by
  show AztecDecoder.readCode ((bs.drop (8 * i)).take 8) * 2 ^ (8 - ((bs.drop (8 * i)).take 8).length) < 256
  have hl : ((bs.drop (8 * i)).take 8).length ≤ 8 := by simp; omega
  have h1 := model_readCode_lt ((bs.drop (8 * i)).take 8)
  generalize ((bs.drop (8 * i)).take 8).length = n at *
  generalize AztecDecoder.readCode ((bs.drop (8 * i)).take 8) = r at *
  have : r * 2 ^ (8 - n) < 2 ^ n * 2 ^ (8 - n) := Nat.mul_lt_mul_of_pos_right h1 (Nat.two_pow_pos _)
  rw [← Nat.pow_add, show n + (8 - n) = 8 by omega] at this
  exact this

when_kernel Gzx.Gen.K11b.readByte in
/-- `readByte(bits, 8i)` for a start inside the slice -/
theorem k_readByte_eq (xs : List Int) (i : Nat) (h : 8 * i < xs.length) :
    Gen.K11b.readByte xs ((8 * i : Nat) : Int) = .ok ((byteAt (boolsOf xs) i : Nat) : Int) := by
  unfold Gen.K11b.readByte
  have hb := byteAt_lt (boolsOf xs) i
  by_cases h8 : 8 * i + 8 ≤ xs.length
  · have c : decide (len xs - ((8 * i : Nat) : Int) ≥ 8) = true := by simp [len]; omega
    simp only [c, if_true]
    rw [k_readCode_eq]
    have c2 : (0 : Int) ≤ ((8 * i : Nat) : Int) ∧ ((8 * i : Nat) : Int) + 8 ≤ (xs.length : Int) := by omega
    simp only [c2, and_self, if_true, show ¬ ((8 : Int) ≤ 0) by decide, if_false, tryR_ok, Int.toNat_natCast]
    have hlen : (((boolsOf xs).drop (8 * i)).take 8).length = 8 := by simp; omega
    have e : byteAt (boolsOf xs) i = AztecDecoder.readCode (((boolsOf xs).drop (8 * i)).take 8) := by
      simp only [byteAt, hlen]; simp
    rw [e] at hb ⊢
    rw [show (Int.toNat 8) = 8 from rfl, wrap_of_lt 8 _ (by omega) (by omega)]
  · have c : decide (len xs - ((8 * i : Nat) : Int) ≥ 8) = false := by simp [len]; omega
    simp only [c, Bool.false_eq_true, if_false]
    rw [k_readCode_eq]
    obtain ⟨n, hn⟩ : ∃ n : Nat, len xs - ((8 * i : Nat) : Int) = (n : Int) := ⟨xs.length - 8 * i, by simp [len]; omega⟩
    have hn' : n = xs.length - 8 * i := by simp [len] at hn; omega
    rw [hn]
    have c1 : ¬ ((n : Int) ≤ 0) := by omega
    have c2 : (0 : Int) ≤ ((8 * i : Nat) : Int) ∧ ((8 * i : Nat) : Int) + (n : Int) ≤ (xs.length : Int) := by omega
    simp only [c1, c2, and_self, if_true, if_false, tryR_ok, Int.toNat_natCast]
    rw [shl_of_nonneg _ _ (by omega)]
    simp only [tryR_ok]
    have e8 : (8 : Int) - (n : Int) = ((8 - n : Nat) : Int) := by omega
    rw [e8, ishl_natCast, Nat.shiftLeft_eq]
    have htk : ((boolsOf xs).drop (8 * i)).take n = ((boolsOf xs).drop (8 * i)).take 8 := by
      rw [List.take_of_length_le (by simp; omega), List.take_of_length_le (by simp; omega)]
    have hlen : (((boolsOf xs).drop (8 * i)).take 8).length = n := by simp; omega
    have e : byteAt (boolsOf xs) i = AztecDecoder.readCode (((boolsOf xs).drop (8 * i)).take n) * 2 ^ (8 - n) := by
      simp only [byteAt, htk, hlen]
    rw [e] at hb ⊢
    rw [wrap_of_lt 8 _ (by omega) (by exact_mod_cast hb)]

/-- a counted loop that stores `g i` into element `i` of a slice, `i = a … a+n-1` -/
theorem fill_loop {ρ : Type} (g : Nat → Int) (body : Int → List Int → Ctl (List Int) ρ) :
    ∀ (n a : Nat) (pre rest : List Int), pre.length = a → n ≤ rest.length →
      (∀ i st, a ≤ i → i < a + n → body (i : Int) st = tryC (setIdx st (i : Int) (g i)) fun t => .next t) →
      loop body 1 n (a : Int) (pre ++ rest) = .next (pre ++ (List.range' a n).map g ++ rest.drop n) := by
  intro n
  induction n with
  | zero => intro a pre rest _ _ _; simp [loop]
  | succ n ih =>
    intro a pre rest hp hr hb
    obtain ⟨r, rs, rfl⟩ : ∃ r rs, rest = r :: rs := by
      cases rest with
      | nil => simp at hr
      | cons r rs => exact ⟨r, rs, rfl⟩
    rw [loop_succ, hb a _ (Nat.le_refl a) (by omega)]
    have hs : setIdx (pre ++ r :: rs) (a : Int) (g a) = .ok ((pre ++ [g a]) ++ rs) := by
      unfold setIdx
      have : ¬ ((a : Int) < 0) := by omega
      simp only [this, if_false, Int.toNat_natCast, List.length_append, List.length_cons]
      rw [if_pos (by omega)]
      subst hp
      simp [List.set_append_right]
    rw [hs]
    simp only [tryC_ok]
    have e : (a : Int) + 1 = ((a + 1 : Nat) : Int) := by omega
    rw [e, ih (a + 1) (pre ++ [g a]) rs (by simp [hp]) (by simpa using hr)
      (fun i st h1 h2 => hb i st (by omega) (by omega))]
    simp [List.range'_succ]

theorem model_convert_eq : ∀ (fuel : Nat) (bs : List Bool), bs.length < fuel →
    AztecDecoder.convertBoolArrayToByteArray fuel bs = (List.range ((bs.length + 7) / 8)).map (byteAt bs) := by
  intro fuel
  induction fuel with
  | zero => intro bs h; omega
  | succ fuel ih =>
    intro bs h
    cases bs with
    | nil => simp [AztecDecoder.convertBoolArrayToByteArray]
    | cons b bs =>
      simp only [AztecDecoder.convertBoolArrayToByteArray]
      generalize hl : b :: bs = l at *
      have hpos : 0 < l.length := by rw [← hl]; simp
      rw [ih _ (by simp only [List.length_drop]; omega)]
      have hm : (l.length + 7) / 8 = ((l.drop 8).length + 7) / 8 + 1 := by
        simp only [List.length_drop]; omega
      rw [hm, List.range_succ_eq_map, List.map_cons, List.map_map]
      congr 1
      apply List.map_congr_left
      intro i _
      simp only [byteAt, Function.comp, List.drop_drop]
      rw [show 8 + 8 * i = 8 * (i + 1) by omega]

when_kernel Gzx.Gen.K11b.convertBoolArrayToByteArray in
/-- `convertBoolArrayToByteArray(bits)` = the model's packing (MSB first, last byte zero-padded), for EVERY slice;
    it never panics -/
theorem k_convertBoolArrayToByteArray_eq (xs : List Int) :
    Gen.K11b.convertBoolArrayToByteArray xs = .ok ((AztecDecoder.toByteArray (boolsOf xs)).map Int.ofNat) := by
  unfold Gen.K11b.convertBoolArrayToByteArray
  have hm : Int.tdiv (len xs + 7) 8 = (((xs.length + 7) / 8 : Nat) : Int) := by
    simp only [len]; exact tdiv_natCast (xs.length + 7) 8
  rw [hm, mk_nats _ _ rfl]
  simp only [tryR_ok, tripUp_one, len]
  have hlen : (words (List.replicate ((xs.length + 7) / 8) 0)).length = (xs.length + 7) / 8 := by simp [words]
  rw [hlen]
  have hn : (((((xs.length + 7) / 8 : Nat) : Int)) - 0).toNat = (xs.length + 7) / 8 := by omega
  rw [hn]
  have := fill_loop (ρ := List Int) (fun i => ((byteAt (boolsOf xs) i : Nat) : Int))
    (Gen.K11b.convertBoolArrayToByteArray_body1 xs) ((xs.length + 7) / 8) 0 [] (words (List.replicate ((xs.length + 7) / 8) 0))
    rfl (by simp [words]) (by
      intro i st _ hi
      unfold Gen.K11b.convertBoolArrayToByteArray_body1
      have e : (8 : Int) * (i : Int) = ((8 * i : Nat) : Int) := by omega
      rw [e, k_readByte_eq xs i (by omega)]
      rfl)
  simp only [List.nil_append] at this
  rw [show ((0 : Int)) = ((0 : Nat) : Int) from rfl, this]
  simp only [next_thenR, AztecDecoder.toByteArray]
  rw [model_convert_eq _ _ (by omega)]
  simp [words, List.range_eq_range']

example : Gen.K11b.convertBoolArrayToByteArray (bitsI [true, false, true, true, false, false, false, true, true, true])
    = .ok [0xB1, 0xC0] := by decide +kernel

/-! ## totalBitsInLayer -/

when_kernel Gzx.Gen.K11b.totalBitsInLayer in
/-- `totalBitsInLayer(layers, compact)` = `((compact ? 88 : 112) + 16·layers)·layers` -/
theorem k_totalBitsInLayer_eq (layers : Nat) (compact : Bool) :
    Gen.K11b.totalBitsInLayer layers compact = .ok ((AztecDecoder.totalBitsInLayer layers compact : Nat) : Int) := by
  cases compact <;> simp [Gen.K11b.totalBitsInLayer, AztecDecoder.totalBitsInLayer]

end Gzx.Obligations.K11b
