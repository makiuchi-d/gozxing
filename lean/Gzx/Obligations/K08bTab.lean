/-
  K08bTab — the tables behind the Data Matrix ECC 200 error correction of datamatrix/encoder/error_correction.go, regenerated
  from /repo on every run (`Gzx.Gen.K08b`): `init()` fills `log` / `alog` with the model's `DMEnc.log` / `DMEnc.alog`
  (`k_eccInit_eq`), the inlined `factorSets` / `factors` are the reference `DMRef.parityLengths` / `DMRef.factorTable`
  (`k_factorSets_eq`, `k_factors_eq`).  The loops that read these tables are in Obligations/K08b.lean; what the proofs need of
  the model's tables themselves (lengths, byte bounds, the rows of the factor table) is in Proofs/DMTie.lean.
-/
import Gzx.Gen.K08b
import Gzx.KernelGuard
import Gzx.Proofs.DMTie
import Gzx.Proofs.DMBytes
namespace Gzx.Obligations.K08b
open Gzx Gzx.GoM Gzx.GoVal

/-! ## `init()`: the log / antilog tables -/

when_kernel Gzx.Gen.K08b.eccInit in
/-- the regenerated `init()` fills `log` and `alog` with exactly the model's tables (`DMEnc.log`, `DMEnc.alog`: the
    tables `tabMul` reads, proved to be GF(256)/0x12D multiplication in Properties/C08 `tabMul_is_field_mul`); the
    kernels below take the two tables as parameters and are instantiated with these -/
theorem k_eccInit_eq : Gen.K08b.eccInit = .ok (words DMEnc.log, words DMEnc.alog) := by
  unfold Gen.K08b.eccInit
  -- `rw`, not `simp only`: the term is closed, and to check a definitional step the kernel would run the loop
  rw [mk_nats 256 256 rfl, tryR_ok, mk_nats 255 255 rfl, tryR_ok]
  -- invariant after `i` rounds: `alog[0..i)` is written, and the model's two loops, started at index `i` from
  -- the current `log` and `p`, end in the model's tables
  obtain ⟨st', hloop, lg, al, p, hst, hlg, hal, hlog, halog⟩ := loop_inv_up Gen.K08b.eccInit_body1
    (fun i st => ∃ (lg al : List Nat) (p : Nat), st = (words lg, words al, (p : Int)) ∧ lg.length = 256 ∧ al.length = 255 ∧
       DMEnc.log = DMEnc.logLoop (DMEnc.alogLoop (255 - i) p) i lg ∧
       DMEnc.alog = al.take i ++ DMEnc.alogLoop (255 - i) p) 0 255
    (by
      intro i st hi ⟨lg, al, p, hst, hlg, hal, hlog, halog⟩
      subst hst
      obtain ⟨k, hk⟩ : ∃ k, 255 - i = k + 1 := ⟨254 - i, by omega⟩
      rw [hk, DMEnc.alogLoop] at hlog halog
      have hp : p < 256 := alog_bytes p (by rw [halog]; simp)
      have hk' : 255 - (i + 1) = k := by omega
      refine ⟨_, ?_, lg.set p i, al.set i p, if p * 2 ≥ 256 then (p * 2) ^^^ 301 else p * 2, rfl,
        by simpa using hlg, by simpa using hal, by rw [hk']; exact hlog, ?_⟩
      · simp only [Gen.K08b.eccInit_body1]
        rw [setIdx_words_lt al _ _ i p (by omega) rfl (by omega)]
        simp only [tryC_ok]
        rw [setIdx_words_lt lg _ _ p i rfl (by omega) (by omega)]
        simp only [tryC_ok]
        have e : (p : Int) * 2 = ((p * 2 : Nat) : Int) := by omega
        have hc : ((p * 2 : Nat) : Int) ≥ 256 ↔ p * 2 ≥ 256 := by omega
        rw [e, show (301 : Int) = ((301 : Nat) : Int) from rfl, ixor_natCast]
        by_cases h : p * 2 ≥ 256 <;> simp only [decide_eq_true_eq, hc, h, if_true, if_false]
      · rw [hk', halog, List.take_add_one, List.take_set_of_le (Nat.le_refl i), List.getElem?_set_self (by omega)]
        simp)
    255 0 _ rfl ⟨_, List.replicate 255 0, 1, rfl, List.length_replicate, List.length_replicate, rfl, rfl⟩
  rw [show tripUp 0 255 1 = 255 by decide]
  subst hst
  rw [← hal, List.take_length] at halog
  rw [Nat.sub_self] at hlog halog
  show (loop Gen.K08b.eccInit_body1 1 255 ((0 + 0 : Nat) : Int) (_, _, ((1 : Nat) : Int))).thenR _ = _
  rw [hloop, hlog, halog, DMEnc.alogLoop, DMEnc.logLoop, List.append_nil]
  rfl

/-! ## the inlined tables of `createECCBlock` -/

when_kernel Gzx.Gen.K08b.createECCBlock in
theorem k_factorSets_eq : Gen.K08b.tbl_factorSets = words DMRef.parityLengths := by decide +kernel

when_kernel Gzx.Gen.K08b.createECCBlock in
/-- the inlined `factors` is the reference factor table (coefficients of ∏(x - 2^i)) -/
theorem k_factors_eq : Gen.K08b.tbl_factors = DMRef.factorTable.map words := by decide +kernel

end Gzx.Obligations.K08b
