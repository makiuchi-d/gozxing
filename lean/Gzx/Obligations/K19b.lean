/-
  K19b — `DefaultGridSampler.SampleGridWithTransform`, regenerated from common/default_grid_sampler.go on
  every run as a kernel with ABSTRACT CALLEES (`Gzx.Gen.K19b.sampleGridWT`, translator kind `funce`): float64 is the abstract number
  type `F` with operations `ops`, `transform.TransformPoints`, `GridSampler_checkAndNudgePoints`, `image.Get/GetWidth/GetHeight`,
  `gozxing.NewBitMatrix` and `bits.Set` are the fields of the environment `env`, the result matrix an abstract state `S`.

  `k_sampleGridWT_eq`: for EVERY number type, operations, environment whose two slice callees keep the slice length (the real ones
  do: they write in place), and all dimensions, the regenerated function never panics (all 4·dimX·dimY index operations are in
  range) and equals the closed form `sampleSpec`: per row `y` the interleaved cell centres `(x+0.5, y+0.5)` — built with exactly the
  float operations of the source —, transformed, nudged (NotFound when the nudge test fails), then read pairwise: NotFound at the
  first point whose truncated coordinates leave the image, otherwise `Set(x, y)` for the dark pixels, in order.
-/
import Gzx.Gen.K19b
import Gzx.KernelGuard
import Gzx.Proofs.K19
import Gzx.Proofs.GoMLoop
namespace Gzx.Obligations.K19b
open Gzx Gzx.GoM

variable {F S : Type}

/-! ## the closed form -/

/-- the constant `0.5` as the source computes it -/
def half (ops : NumOps F) : F := ops.div (ops.ofInt 1) (ops.ofInt 2)

/-- element `i` of the points slice of row `y` after the fill loop: `x/2 + 0.5` at even, `y + 0.5` at odd positions -/
def centreAt (ops : NumOps F) (y : Int) (i : Nat) : F :=
  if i % 2 = 0 then ops.add (ops.ofInt ((i / 2 : Nat) : Int)) (half ops) else ops.add (ops.ofInt y) (half ops)

/-- the `2·n` interleaved coordinates of the cell centres of row `y` -/
def centres (ops : NumOps F) (n : Nat) (y : Int) : List F := (List.range (2 * n)).map (centreAt ops y)

/-- the reading loop from cell `k` on (`m` cells left): `none` = NotFound (or a slice that is too short: excluded by the theorem) -/
def readFrom (ops : NumOps F) (env : Gen.K19b.sampleGridWT_Env F S) (pts : List F) (y : Int) : Nat → Nat → S → Option S
  | 0, _, bits => some bits
  | m + 1, k, bits =>
    match pts[2 * k]?, pts[2 * k + 1]? with
    | some fx, some fy =>
      let px := ops.toInt fx
      let py := ops.toInt fy
      if px < 0 ∨ py < 0 ∨ px ≥ env.BitMatrix_GetWidth ∨ py ≥ env.BitMatrix_GetHeight then none
      else readFrom ops env pts y m (k + 1) (if env.BitMatrix_Get px py then env.BitMatrix_Set bits (k : Int) y else bits)
    | _, _ => none

/-- one row: the points the next row starts from, and the matrix (`none` = NotFound) -/
def rowSpec (ops : NumOps F) (env : Gen.K19b.sampleGridWT_Env F S) (n : Nat) (y : Int) (bits : S) : List F × Option S :=
  let r := env.GridSampler_checkAndNudgePoints (env.PerspectiveTransform_TransformPoints (centres ops n y))
  (r.2, if r.1 then none else readFrom ops env r.2 y n 0 bits)

/-- rows `y, y+1, …` (`m` rows left) -/
def rowsSpec (ops : NumOps F) (env : Gen.K19b.sampleGridWT_Env F S) (n : Nat) : Nat → Int → S → Option S
  | 0, _, bits => some bits
  | m + 1, y, bits =>
    match (rowSpec ops env n y bits).2 with
    | none => none
    | some bits' => rowsSpec ops env n m (y + 1) bits'

/-- `SampleGridWithTransform(image, dimensionX, dimensionY, transform)` in closed form -/
def sampleSpec (ops : NumOps F) (env : Gen.K19b.sampleGridWT_Env F S) (dimX dimY : Int) : Option S :=
  if dimX ≤ 0 ∨ dimY ≤ 0 then none
  else rowsSpec ops env dimX.toNat dimY.toNat 0 (env.NewBitMatrix dimX dimY)

/-! ## the fill loop -/

theorem centres_length (ops : NumOps F) (n : Nat) (y : Int) : (centres ops n y).length = 2 * n := by simp [centres]

/-- the fill loop (`points[x] = float64(x/2) + 0.5; points[x+1] = float64(y) + 0.5`, stride 2) on a slice of `2·n` elements:
    after `k` rounds the first `2·k` elements are the centres -/
theorem fill_loop (ops : NumOps F) (y : Int) (n : Nat) (L : List F) (hL : L.length = 2 * n)
    {body : Int → List F → Ctl (List F) (Option S)}
    (hbody : ∀ (x : Int) (pts : List F), body x pts =
      tryC (setIdxA pts x (ops.add (ops.ofInt (Int.tdiv x 2)) (half ops))) fun pts =>
      tryC (setIdxA pts (x + 1) (ops.add (ops.ofInt y) (half ops))) fun pts => .next pts) :
    loop body 2 n 0 L = .next (centres ops n y) := by
  have hc := centres_length ops n y
  refine (loop_steps (ρ := Option S) (fun k => (centres ops n y).take (2 * k) ++ L.drop (2 * k)) n oob 2
    (fun k => ((2 * k : Nat) : Int)) (fun k => by omega) body n
    (fun k hk _ => ?_) (fun hn => absurd hn (Nat.lt_irrefl n))).trans ?_
  · show _ = Ctl.next ((centres ops n y).take (2 * (k + 1)) ++ L.drop (2 * (k + 1)))
    have hl : ((centres ops n y).take (2 * k)).length = 2 * k := by rw [List.length_take, hc]; omega
    have hd : Int.tdiv ((2 * k : Nat) : Int) 2 = ((k : Nat) : Int) := by
      rw [show (2 : Int) = ((2 : Nat) : Int) from rfl, tdiv_natCast, Nat.mul_div_cancel_left k (by decide)]
    have e0 : (centres ops n y)[2 * k]'(by omega) = ops.add (ops.ofInt ((k : Nat) : Int)) (half ops) := by
      simp [centres, centreAt]
    have e1 : (centres ops n y)[2 * k + 1]'(by omega) = ops.add (ops.ofInt y) (half ops) := by
      simp [centres, centreAt]
    rw [hbody, List.drop_eq_getElem_cons (by omega : 2 * k < L.length), List.drop_eq_getElem_cons (by omega : 2 * k + 1 < L.length),
      K19.setIdxA_at _ _ _ _ _ (by rw [hl]), tryC_ok, K19.setIdxA_at1 _ _ _ _ _ _ (by rw [hl]), tryC_ok, hd,
      show 2 * (k + 1) = 2 * k + 1 + 1 by omega, List.take_succ_eq_append_getElem (by omega : 2 * k + 1 < (centres ops n y).length),
      List.take_succ_eq_append_getElem (by omega : 2 * k < (centres ops n y).length), e0, e1]
    simp only [List.append_assoc, List.cons_append, List.nil_append]
  · rw [if_neg (Nat.lt_irrefl n), List.take_of_length_le (by omega), List.drop_of_length_le (by omega), List.append_nil]

/-! ## the reading loop -/

/-- the reading loop (stride 2) from cell `k` on: NotFound at the first point whose pixel indices leave the image, otherwise
    `Set(k, y)` for the dark pixels — the recursion `readFrom` -/
theorem read_loop (ops : NumOps F) (env : Gen.K19b.sampleGridWT_Env F S) (pts : List F) (y : Int) (n : Nat) (hl : pts.length = 2 * n)
    {body : Int → S → Ctl S (Option S)}
    (hbody : ∀ (x : Int) (bits : S), body x bits =
      tryC (idxA pts x) fun fx =>
      tryC (idxA pts (x + 1)) fun fy =>
      if decide (ops.toInt fx < 0) || decide (ops.toInt fy < 0) || decide (ops.toInt fx ≥ env.BitMatrix_GetWidth) ||
          decide (ops.toInt fy ≥ env.BitMatrix_GetHeight) then .ret none
      else .next (if env.BitMatrix_Get (ops.toInt fx) (ops.toInt fy) then env.BitMatrix_Set bits (Int.tdiv x 2) y else bits)) :
    ∀ (m k : Nat) (bits : S), k + m = n →
    loop body 2 m ((2 * k : Nat) : Int) bits =
      match readFrom ops env pts y m k bits with
      | some b => .next b
      | none => .ret none := by
  intro m
  induction m with
  | zero => intro k bits _; rfl
  | succ m ih =>
    intro k bits hk
    rw [loop_succ, hbody]
    have h0 : 2 * k < pts.length := by omega
    have h1 : 2 * k + 1 < pts.length := by omega
    have hd : Int.tdiv ((2 * k : Nat) : Int) 2 = ((k : Nat) : Int) := by
      have := tdiv_natCast (2 * k) 2
      rw [show ((2 : Nat) : Int) = 2 from rfl] at this
      rw [this]; congr 1; omega
    rw [idxA_natCast, List.getElem?_eq_getElem h0, show ((2 * k : Nat) : Int) + 1 = ((2 * k + 1 : Nat) : Int) by omega, idxA_natCast,
      List.getElem?_eq_getElem h1, hd]
    simp only [tryC_ok, readFrom, List.getElem?_eq_getElem h0, List.getElem?_eq_getElem h1]
    by_cases hc : ops.toInt pts[2 * k] < 0 ∨ ops.toInt pts[2 * k + 1] < 0 ∨ ops.toInt pts[2 * k] ≥ env.BitMatrix_GetWidth ∨
        ops.toInt pts[2 * k + 1] ≥ env.BitMatrix_GetHeight
    · have hb : ((((decide (ops.toInt pts[2 * k] < 0)) || (decide (ops.toInt pts[2 * k + 1] < 0))) ||
          (decide (ops.toInt pts[2 * k] >= env.BitMatrix_GetWidth))) || (decide (ops.toInt pts[2 * k + 1] >= env.BitMatrix_GetHeight))) = true := by
        simp only [Bool.or_eq_true, decide_eq_true_eq]; omega
      simp only [hb, hc, if_true]
    · have hb : ((((decide (ops.toInt pts[2 * k] < 0)) || (decide (ops.toInt pts[2 * k + 1] < 0))) ||
          (decide (ops.toInt pts[2 * k] >= env.BitMatrix_GetWidth))) || (decide (ops.toInt pts[2 * k + 1] >= env.BitMatrix_GetHeight))) = false := by
        simp only [Bool.or_eq_false_iff, decide_eq_false_iff_not]; omega
      simp only [hb, hc, Bool.false_eq_true, if_false]
      rw [show ((2 * k : Nat) : Int) + 2 = ((2 * (k + 1) : Nat) : Int) by omega]
      exact ih (k + 1) _ (by omega)

/-! ## rows and the whole function -/

/-- the outer loop, for any body that computes `rowSpec` on slices of the right length -/
theorem rows_loop (ops : NumOps F) (env : Gen.K19b.sampleGridWT_Env F S) (n : Nat)
    (body : Int → List F × S → Ctl (List F × S) (Option S))
    (hbody : ∀ (y : Int) (pts : List F) (bits : S), pts.length = 2 * n →
      body y (pts, bits) = match (rowSpec ops env n y bits).2 with
        | some b => .next ((rowSpec ops env n y bits).1, b)
        | none => .ret none)
    (hlen : ∀ (y : Int) (bits b : S), (rowSpec ops env n y bits).2 = some b → (rowSpec ops env n y bits).1.length = 2 * n) :
    ∀ (m : Nat) (y : Int) (pts : List F) (bits : S), pts.length = 2 * n →
      match rowsSpec ops env n m y bits with
      | some b => ∃ pts', loop body 1 m y (pts, bits) = .next (pts', b)
      | none => loop body 1 m y (pts, bits) = .ret none := by
  intro m
  induction m with
  | zero => intro y pts bits _; exact ⟨pts, rfl⟩
  | succ m ih =>
    intro y pts bits hl
    rw [loop_succ, hbody y pts bits hl]
    simp only [rowsSpec]
    cases hr : (rowSpec ops env n y bits).2 with
    | none => rfl
    | some b' =>
      simp only []
      exact ih (y + 1) _ b' (hlen y bits b' hr)

/-- … followed by `return bits, nil` -/
theorem rows_final (ops : NumOps F) (env : Gen.K19b.sampleGridWT_Env F S) (n : Nat)
    {body : Int → List F × S → Ctl (List F × S) (Option S)}
    (hbody : ∀ (y : Int) (pts : List F) (bits : S), pts.length = 2 * n →
      body y (pts, bits) = match (rowSpec ops env n y bits).2 with
        | some b => .next ((rowSpec ops env n y bits).1, b)
        | none => .ret none)
    (hlen : ∀ (y : Int) (bits b : S), (rowSpec ops env n y bits).2 = some b → (rowSpec ops env n y bits).1.length = 2 * n)
    (m : Nat) (pts : List F) (bits : S) (hl : pts.length = 2 * n) :
    (loop body 1 m 0 (pts, bits)).thenR (fun st => .ok (some st.2)) = .ok (rowsSpec ops env n m 0 bits) := by
  have key := rows_loop ops env n body hbody hlen m 0 pts bits hl
  cases hr : rowsSpec ops env n m 0 bits with
  | none => rw [hr] at key; simp only [] at key; rw [key]; rfl
  | some b => rw [hr] at key; obtain ⟨pts', hk⟩ := key; rw [hk]; rfl

theorem tripUp_even (n : Nat) : tripUp 0 (((2 * n : Nat)) : Int) 2 = n := by
  rw [tripUp_two]; omega

when_kernel Gzx.Gen.K19b.sampleGridWT in
/-- **SampleGridWithTransform, Go source to closed form** (general form): it suffices that the nudged slice of every row that passes
    the nudge test has the length of the row (`2·dimensionX`) -/
theorem k_sampleGridWT_eq_rows (ops : NumOps F) (env : Gen.K19b.sampleGridWT_Env F S) (dimX dimY : Int)
    (hN : ∀ y, (env.GridSampler_checkAndNudgePoints (env.PerspectiveTransform_TransformPoints (centres ops dimX.toNat y))).1 = false →
      (env.GridSampler_checkAndNudgePoints (env.PerspectiveTransform_TransformPoints (centres ops dimX.toNat y))).2.length = 2 * dimX.toNat) :
    Gen.K19b.sampleGridWT ops env dimX dimY = .ok (sampleSpec ops env dimX dimY) := by
  unfold Gen.K19b.sampleGridWT sampleSpec
  by_cases hd : dimX ≤ 0 ∨ dimY ≤ 0
  · have hb : ((decide (dimX ≤ 0)) || (decide (dimY ≤ 0))) = true := by simp only [Bool.or_eq_true, decide_eq_true_eq]; exact hd
    simp only [hb, hd, if_true]
  · have hb : ((decide (dimX ≤ 0)) || (decide (dimY ≤ 0))) = false := by
      simp only [Bool.or_eq_false_iff, decide_eq_false_iff_not]; omega
    simp only [hb, hd, Bool.false_eq_true, if_false]
    have hmk : mkA (ops.ofInt 0) (2 * dimX) = .ok (List.replicate (2 * dimX.toNat) (ops.ofInt 0)) := by
      unfold mkA
      have : ¬ (2 * dimX < 0) := by omega
      simp only [this, if_false]
      congr 2; omega
    rw [hmk]
    simp only [tryR_ok]
    have hlen : ∀ (y : Int) (bits b : S), (rowSpec ops env dimX.toNat y bits).2 = some b →
        (rowSpec ops env dimX.toNat y bits).1.length = 2 * dimX.toNat := by
      intro y bits b hb
      simp only [rowSpec] at hb ⊢
      cases hn : (env.GridSampler_checkAndNudgePoints (env.PerspectiveTransform_TransformPoints (centres ops dimX.toNat y))).1 with
      | true => rw [hn] at hb; simp at hb
      | false => exact hN y hn
    rw [show tripUp 0 dimY 1 = dimY.toNat by rw [tripUp_one]; omega]
    rw [rows_final ops env dimX.toNat ?hbody hlen dimY.toNat _ _ (by simp)]
    · intro y pts bits hl
      simp only []
      have hmax : lenA pts = ((2 * dimX.toNat : Nat) : Int) := by simp [lenA, hl]
      rw [hmax, tripUp_even]
      rw [fill_loop (S := S) ops y dimX.toNat pts hl ?hfill]
      case hfill => exact fun _ _ => rfl
      simp only [next_thenC, rowSpec]
      cases hn : (env.GridSampler_checkAndNudgePoints (env.PerspectiveTransform_TransformPoints (centres ops dimX.toNat y))).1 with
      | true => simp only [if_true]
      | false =>
        simp only [Bool.false_eq_true, if_false]
        have hl2 : (env.GridSampler_checkAndNudgePoints (env.PerspectiveTransform_TransformPoints (centres ops dimX.toNat y))).2.length =
            2 * dimX.toNat := hN y hn
        rw [show (0 : Int) = ((2 * 0 : Nat) : Int) from rfl, read_loop ops env _ y dimX.toNat hl2 ?hread dimX.toNat 0 bits (by omega)]
        case hread => exact fun _ _ => rfl
        cases readFrom ops env _ y dimX.toNat 0 bits <;> rfl

when_kernel Gzx.Gen.K19b.sampleGridWT in
/-- **SampleGridWithTransform, Go source to closed form**: for every number type, every environment whose slice callees keep the
    slice length (the real ones write in place), and all dimensions, the regenerated function returns `sampleSpec` — in particular
    it never panics -/
theorem k_sampleGridWT_eq (ops : NumOps F) (env : Gen.K19b.sampleGridWT_Env F S) (dimX dimY : Int)
    (hT : ∀ l, (env.PerspectiveTransform_TransformPoints l).length = l.length)
    (hN : ∀ l, (env.GridSampler_checkAndNudgePoints l).2.length = l.length) :
    Gen.K19b.sampleGridWT ops env dimX dimY = .ok (sampleSpec ops env dimX dimY) :=
  k_sampleGridWT_eq_rows ops env dimX dimY (fun y _ => by rw [hN, hT, centres_length])

-- non-vacuity: a 2x1 grid on a 2x1 image whose left pixel is dark, identity "transform", no nudging (exact rationals; the matrix
-- is the list of `Set` calls): cell (0,0) is set, cell (1,0) is not; and a dimension 0 is NotFound
def demoEnv : Gen.K19b.sampleGridWT_Env Rat (List (Int × Int)) where
  NewBitMatrix := fun _ _ => []
  PerspectiveTransform_TransformPoints := fun l => l
  GridSampler_checkAndNudgePoints := fun l => (false, l)
  BitMatrix_GetWidth := 2
  BitMatrix_GetHeight := 1
  BitMatrix_Get := fun x _ => x == 0
  BitMatrix_Set := fun b x y => b ++ [(x, y)]

when_kernel Gzx.Gen.K19b.sampleGridWT in
example : Gen.K19b.sampleGridWT ratOps demoEnv 2 1 = .ok (some [(0, 0)]) := by
  rw [k_sampleGridWT_eq ratOps demoEnv 2 1 (fun _ => rfl) (fun _ => rfl)]; decide +kernel
when_kernel Gzx.Gen.K19b.sampleGridWT in
example : Gen.K19b.sampleGridWT ratOps demoEnv 0 1 = .ok none := by
  rw [k_sampleGridWT_eq ratOps demoEnv 0 1 (fun _ => rfl) (fun _ => rfl)]; decide +kernel

end Gzx.Obligations.K19b
