/-
  K11c — `Decoder.correctBits` of aztec/decoder/decoder.go, regenerated from /repo on every run
  (`Gzx.Gen.K11b.correctBits`), proved equal to the hand-written model `AztecDecoder.correctBits` FOR ALL ARGUMENTS
  (`k_correctBits_eq`; `k_correctBits_samples` of Obligations/K11bCorrect.lean is its non-vacuity companion):

    * the codeword size / Galois field by layer count (any `int` layer count: the model sees `layers.toNat`),
    * the chunk loop `for i := 0; i < numCodewords; i, offset = i+1, offset+codewordSize` = `chunkWords`,
    * the Reed-Solomon decoder is an ABSTRACT parameter of both sides (`RSAgree`: the kernel's decoder answers like the
      model's on every field / word list / check-word count and keeps the length of the word slice),
    * the stuffing count loop + the two un-stuffing write loops = `unstuff` (FormatException on a data word 0 or mask,
      `codewordSize-1` equal bits for the words 1 and mask-1, `codewordSize` bits MSB first otherwise),
    * `ecLevel` incl. the integer-divide-by-zero panic of an input shorter than one codeword.
-/
import Gzx.Obligations.K11bCorrect
namespace Gzx.Obligations.K11c
open Gzx Gzx.GoM Gzx.GoVal Gzx.AztecDecoder Gzx.Obligations.K11b

/-! ## model side: `unstuff` as count + pieces -/

/-- what the write loop emits for one data word -/
def piece (w d : Nat) : List Bool :=
  if d = 1 ∨ d = 2 ^ w - 1 - 1 then List.replicate (w - 1) (decide (d > 1)) else wordBits w d

/-- the stuffing count loop of the kernel as a recursion over the data words -/
def countK (ρ : Type) (r : ρ) (mask : Int) : List Nat → Int → Ctl Int ρ
  | [], s => .next s
  | d :: ds, s =>
    if (((d : Int) == 0) || ((d : Int) == mask)) then .ret r
    else countK ρ r mask ds (if (((d : Int) == 1) || ((d : Int) == (mask - 1))) then s + 1 else s)

theorem wordBits_length : ∀ (w d : Nat), (wordBits w d).length = w := by
  intro w
  induction w with
  | zero => intro d; rfl
  | succ w ih => intro d; simp [wordBits, ih]

theorem wordBits_succ : ∀ (n d : Nat), wordBits (n + 1) d = d.testBit n :: wordBits n d := by
  intro n
  induction n with
  | zero => intro d; simp [wordBits, Nat.testBit_zero]; cases Nat.mod_two_eq_zero_or_one d <;> simp_all
  | succ n ih =>
    intro d
    rw [wordBits, ih (d / 2)]
    have : (d / 2).testBit n = d.testBit (n + 1) := by rw [Nat.testBit_succ]
    rw [this]
    conv => rhs; rw [wordBits]
    simp

def stuffed (w : Nat) : List Nat → Nat
  | [] => 0
  | d :: ds => (if d = 1 ∨ d = 2 ^ w - 1 - 1 then 1 else 0) + stuffed w ds

theorem piece_length (w d : Nat) (hw : 1 ≤ w) :
    (piece w d).length + (if d = 1 ∨ d = 2 ^ w - 1 - 1 then 1 else 0) = w := by
  unfold piece
  split <;> simp [wordBits_length] <;> omega

theorem flatMap_piece_length (w : Nat) (hw : 1 ≤ w) : ∀ ds : List Nat,
    (ds.flatMap (piece w)).length + stuffed w ds = ds.length * w := by
  intro ds
  induction ds with
  | nil => simp [stuffed]
  | cons d ds ih =>
    have := piece_length w d hw
    simp only [List.flatMap_cons, List.length_append, stuffed, List.length_cons, Nat.succ_mul]
    omega

/-- the mask `(1 << w) - 1` of the kernel -/
theorem mask_cast (w : Nat) : GoVal.ishl 1 (w : Int) - 1 = ((2 ^ w - 1 : Nat) : Int) := by
  rw [ishl_one, Nat.one_shiftLeft]
  have : 1 ≤ 2 ^ w := Nat.one_le_two_pow
  omega

/-- a data word that is illegal after error correction -/
def bad (w d : Nat) : Bool := decide (d = 0 ∨ d = 2 ^ w - 1)

theorem unstuff_spec (w : Nat) : ∀ ds : List Nat,
    unstuff w ds = if ds.any (bad w) then .error .format else .ok (ds.flatMap (piece w)) := by
  intro ds
  induction ds with
  | nil => simp [unstuff]
  | cons d ds ih =>
    by_cases hbad : d = 0 ∨ d = 2 ^ w - 1
    · simp [unstuff, hbad, bad]
    · have hb : bad w d = false := by simp [bad, hbad]
      simp only [unstuff, hbad, if_false, ih, List.any_cons, hb, Bool.false_or]
      by_cases ha : ds.any (bad w) = true
      · simp [ha, bind, Except.bind]
      · simp only [ha, Bool.false_eq_true, if_false, bind, Except.bind, pure, Except.pure, List.flatMap_cons, piece]
        split <;> rfl

theorem countK_spec (ρ : Type) (r : ρ) (w : Nat) : ∀ (ds : List Nat) (s : Int),
    countK ρ r ((2 ^ w - 1 : Nat) : Int) ds s =
      if ds.any (bad w) then .ret r else .next (s + (stuffed w ds : Nat)) := by
  intro ds
  induction ds with
  | nil => intro s; simp [countK, stuffed]
  | cons d ds ih =>
    intro s
    have h1 : 1 ≤ 2 ^ w := Nat.one_le_two_pow
    by_cases hbad : d = 0 ∨ d = 2 ^ w - 1
    · have c : ((((d : Int) == 0) || ((d : Int) == ((2 ^ w - 1 : Nat) : Int))) : Bool) = true := by
        simp only [Bool.or_eq_true, beq_iff_eq]; omega
      simp [countK, c, hbad, bad]
    · have c : ((((d : Int) == 0) || ((d : Int) == ((2 ^ w - 1 : Nat) : Int))) : Bool) = false := by
        simp only [Bool.or_eq_false_iff, beq_eq_false_iff_ne, ne_eq]; omega
      have hb : bad w d = false := by simp [bad, hbad]
      simp only [countK, c, Bool.false_eq_true, if_false, ih, List.any_cons, hb, Bool.false_or, stuffed]
      by_cases hst : d = 1 ∨ d = 2 ^ w - 1 - 1
      · have c2 : ((((d : Int) == 1) || ((d : Int) == (((2 ^ w - 1 : Nat) : Int) - 1))) : Bool) = true := by
          simp only [Bool.or_eq_true, beq_iff_eq]; omega
        simp only [c2, if_true, hst]
        split
        · rfl
        · congr 1; omega
      · have c2 : ((((d : Int) == 1) || ((d : Int) == (((2 ^ w - 1 : Nat) : Int) - 1))) : Bool) = false := by
          simp only [Bool.or_eq_false_iff, beq_eq_false_iff_ne, ne_eq]; omega
        simp only [c2, Bool.false_eq_true, if_false, hst]
        split
        · rfl
        · congr 1; omega

/-! ## kernel side -/

when_kernel Gzx.Gen.K11b.correctBits in
theorem chunk_body_out (xs : List Int) (wi Ni oi ii : Int) (dw : List Int) (h : ¬ ii < Ni) :
    Gen.K11b.correctBits_body1 xs wi Ni (oi, dw, ii) = .brk (oi, dw, ii) := by
  unfold Gen.K11b.correctBits_body1
  simp [h]

when_kernel Gzx.Gen.K11b.correctBits in
theorem chunk_body_in (xs : List Int) (w : Nat) (hw1 : 1 ≤ w) (Ni : Int) (off : Nat) (hoff : off + w ≤ xs.length)
    (pre : List Nat) (r : Int) (rs : List Int) (h : (pre.length : Int) < Ni) :
    Gen.K11b.correctBits_body1 xs (w : Int) Ni ((off : Int), words pre ++ r :: rs, (pre.length : Int))
      = .next (((off + w : Nat) : Int),
          words (pre ++ [AztecDecoder.readCode (((boolsOf xs).drop off).take w)]) ++ rs,
          ((pre ++ [AztecDecoder.readCode (((boolsOf xs).drop off).take w)]).length : Int)) := by
  unfold Gen.K11b.correctBits_body1
  have c : decide ((pre.length : Int) < Ni) = true := by simpa using h
  simp only [c, if_true]
  rw [k_readCode_eq]
  have c1 : ¬ ((w : Int) ≤ 0) := by omega
  have c2 : (0 : Int) ≤ (off : Int) ∧ (off : Int) + (w : Int) ≤ (xs.length : Int) := by omega
  simp only [c1, c2, and_self, if_true, if_false, tryC_ok, Int.toNat_natCast]
  rw [setIdx_seam (words pre) r _ rs _ (by simp [words])]
  simp only [tryC_ok]
  have e3 : (off : Int) + (w : Int) = ((off + w : Nat) : Int) := by omega
  rw [e3]
  simp [words]

when_kernel Gzx.Gen.K11b.correctBits in
/-- the chunk loop: `n` more codewords of `w` bits from bit `off` on -/
theorem chunk_loop (xs : List Int) (wi : Int) (w N : Nat) (hw : wi = (w : Int)) (hw1 : 1 ≤ w) :
    ∀ (n off : Nat) (pre : List Nat) (rest : List Int) (fuel : Nat), rest.length = n → pre.length + n = N →
      off + n * w ≤ xs.length → n < fuel →
      whileLoop (Gen.K11b.correctBits_body1 xs wi (N : Int)) fuel ((off : Int), words pre ++ rest, (pre.length : Int))
        = .brk (((off + n * w : Nat) : Int), words (pre ++ chunkWords w n ((boolsOf xs).drop off)), (N : Int)) := by
  subst hw
  intro n
  induction n with
  | zero =>
    intro off pre rest fuel hr hp _ hf
    obtain ⟨fuel, rfl⟩ : ∃ k, fuel = k + 1 := ⟨fuel - 1, by omega⟩
    have : rest = [] := List.length_eq_zero_iff.mp hr
    subst this
    rw [whileLoop_succ, chunk_body_out _ _ _ _ _ _ (by omega)]
    simp only [chunkWords, List.append_nil, Nat.zero_mul, Nat.add_zero]
    congr 3; omega
  | succ n ih =>
    intro off pre rest fuel hr hp hoff hf
    obtain ⟨fuel, rfl⟩ : ∃ k, fuel = k + 1 := ⟨fuel - 1, by omega⟩
    obtain ⟨r, rs, rfl⟩ : ∃ r rs, rest = r :: rs := by
      cases rest with
      | nil => simp at hr
      | cons r rs => exact ⟨r, rs, rfl⟩
    have hmul : (n + 1) * w = n * w + w := Nat.succ_mul n w
    rw [whileLoop_succ, chunk_body_in xs w hw1 _ off (by omega) pre r rs (by omega)]
    simp only []
    rw [ih (off + w) _ rs fuel (by simpa using hr) (by simp; omega) (by omega) (by omega)]
    simp only [chunkWords, List.append_assoc, List.singleton_append, List.drop_drop]
    congr 3
    · omega

when_kernel Gzx.Gen.K11b.correctBits in
theorem count_body (c : List Nat) (mask : Int) (a : Nat) (ha : a < c.length) (s : Int) :
    Gen.K11b.correctBits_body2 (words c) mask (a : Int) s
      = if ((((c[a] : Nat) : Int) == 0) || (((c[a] : Nat) : Int) == mask)) then .ret ([], 0, true)
        else .next (if ((((c[a] : Nat) : Int) == 1) || (((c[a] : Nat) : Int) == (mask - 1))) then s + 1 else s) := by
  unfold Gen.K11b.correctBits_body2
  rw [idx_ofNat (words c) a (by simpa [words] using ha)]
  have hg : (words c)[a]'(by simpa [words] using ha) = ((c[a] : Nat) : Int) := by simp [words]
  simp only [tryC_ok, hg]

when_kernel Gzx.Gen.K11b.correctBits in
/-- the stuffing count loop over `c[a .. a+n)` -/
theorem count_loop (c : List Nat) (mask : Int) : ∀ (n a : Nat) (s : Int), a + n ≤ c.length →
    GoM.loop (Gen.K11b.correctBits_body2 (words c) mask) 1 n (a : Int) s
      = countK (List Int × Int × Bool) ([], 0, true) mask ((c.drop a).take n) s := by
  intro n
  induction n with
  | zero => intro a s _; simp [GoM.loop, countK]
  | succ n ih =>
    intro a s h
    have ha : a < c.length := by omega
    have hd : c.drop a = c[a] :: c.drop (a + 1) := List.drop_eq_getElem_cons ha
    have e : (a : Int) + 1 = ((a + 1 : Nat) : Int) := by omega
    rw [loop_succ, count_body c mask a ha, hd]
    simp only [List.take_succ_cons, countK]
    by_cases hc : (((((c[a] : Nat) : Int) == 0) || (((c[a] : Nat) : Int) == mask)) : Bool) = true
    · simp only [hc, if_true]
    · have hc' : (((((c[a] : Nat) : Int) == 0) || (((c[a] : Nat) : Int) == mask)) : Bool) = false := by simpa using hc
      simp only [hc', Bool.false_eq_true, if_false, e]; rw [ih (a + 1) _ (by omega)]

theorem and_two_pow' (d n : Nat) : d &&& 2 ^ n = if d.testBit n then 2 ^ n else 0 := by
  apply Nat.eq_of_testBit_eq
  intro i
  rw [Nat.testBit_and, Nat.testBit_two_pow]
  by_cases h : n = i
  · subst h; cases hb : d.testBit n <;> simp
  · cases hb : d.testBit n <;> simp [h]

theorem testBit_and_shl (d n : Nat) : ((((d &&& (1 <<< n) : Nat) : Int) != 0) : Bool) = d.testBit n := by
  rw [natCast_bne_zero, Nat.one_shiftLeft, and_two_pow']
  cases d.testBit n <;> simp

when_kernel Gzx.Gen.K11b.correctBits in
theorem bits_body (d n : Nat) (pre : List Int) (r : Int) (rs : List Int) :
    Gen.K11b.correctBits_body5 (d : Int) (n : Int) (pre ++ r :: rs, (pre.length : Int))
      = (.next (pre ++ b2i (d.testBit n) :: rs, (pre.length : Int) + 1) : Ctl (List Int × Int) (List Int × Int × Bool)) := by
  unfold Gen.K11b.correctBits_body5
  rw [shl_of_nonneg _ _ (by omega)]
  simp only [tryC_ok]
  rw [ishl_one, iand_natCast, testBit_and_shl, setIdx_seam pre r _ rs _ rfl]
  simp only [tryC_ok]

when_kernel Gzx.Gen.K11b.correctBits in
/-- the bit loop of an ordinary data word: `n` bits, most significant first -/
theorem bits_loop (d : Nat) : ∀ (n : Nat) (pre rest : List Int), n ≤ rest.length →
    GoM.loop (Gen.K11b.correctBits_body5 (d : Int)) (-1) n ((n : Int) - 1) (pre ++ rest, (pre.length : Int))
      = (.next (pre ++ bitsI (wordBits n d) ++ rest.drop n, ((pre.length + n : Nat) : Int))
          : Ctl (List Int × Int) (List Int × Int × Bool)) := by
  intro n
  induction n with
  | zero => intro pre rest _; simp [GoM.loop, wordBits, bitsI]
  | succ n ih =>
    intro pre rest h
    obtain ⟨r, rs, rfl⟩ : ∃ r rs, rest = r :: rs := by
      cases rest with
      | nil => simp at h
      | cons r rs => exact ⟨r, rs, rfl⟩
    have e0 : ((n + 1 : Nat) : Int) - 1 = (n : Int) := by omega
    rw [loop_succ, e0, bits_body]
    simp only []
    have e1 : pre ++ b2i (d.testBit n) :: rs = (pre ++ [b2i (d.testBit n)]) ++ rs := by simp
    have e2 : (pre.length : Int) + 1 = ((pre ++ [b2i (d.testBit n)]).length : Int) := by simp
    have e3 : (n : Int) + -1 = (n : Int) - 1 := by omega
    rw [e1, e2, e3, ih _ rs (by simpa using h)]
    rw [wordBits_succ]
    simp only [bitsI, List.map_cons, List.append_assoc, List.singleton_append, List.length_append, List.length_cons,
      List.length_nil, List.drop_succ_cons]
    congr 2; omega

when_kernel Gzx.Gen.K11b.correctBits in
/-- one iteration of the write loop: the piece of data word `c[i]` goes to `index …` -/
theorem write_body (c : List Nat) (wi mask : Int) (w : Nat) (hw : wi = (w : Int)) (hw1 : 1 ≤ w)
    (hm : mask = ((2 ^ w - 1 : Nat) : Int)) (i : Nat) (hi : i < c.length) (pre rest : List Int)
    (hr : (piece w c[i]).length ≤ rest.length) :
    Gen.K11b.correctBits_body3 wi (words c) mask (i : Int) (pre ++ rest, (pre.length : Int))
      = .next (pre ++ bitsI (piece w c[i]) ++ rest.drop (piece w c[i]).length,
          ((pre.length + (piece w c[i]).length : Nat) : Int)) := by
  subst hw hm
  unfold Gen.K11b.correctBits_body3
  rw [idx_ofNat (words c) i (by simpa [words] using hi)]
  have hg : (words c)[i]'(by simpa [words] using hi) = ((c[i] : Nat) : Int) := by simp [words]
  simp only [tryC_ok, hg]
  generalize c[i] = d at *
  have h1 : 1 ≤ 2 ^ w := Nat.one_le_two_pow
  have h2 : 2 ≤ 2 ^ w := by
    calc 2 = 2 ^ 1 := rfl
      _ ≤ 2 ^ w := Nat.pow_le_pow_right (by decide) hw1
  by_cases hst : d = 1 ∨ d = 2 ^ w - 1 - 1
  · have c2 : ((((d : Int) == 1) || ((d : Int) == (((2 ^ w - 1 : Nat) : Int) - 1))) : Bool) = true := by
      simp only [Bool.or_eq_true, beq_iff_eq]; omega
    have hp : piece w d = List.replicate (w - 1) (decide (d > 1)) := by simp [piece, hst]
    rw [hp] at hr ⊢
    simp only [List.length_replicate] at hr ⊢
    simp only [c2, if_true, tripUp_one]
    have hn : ((pre.length : Int) + (w : Int) - 1 - (pre.length : Int)).toNat = w - 1 := by omega
    rw [hn]
    have hv : decide ((d : Int) > 1) = decide (d > 1) := by
      by_cases h : d > 1 <;> simp [h] <;> omega
    rw [hv]
    have := fill_loop (ρ := List Int × Int × Bool) (fun _ => b2i (decide (d > 1)))
      (Gen.K11b.correctBits_body4 (decide (d > 1))) (w - 1) pre.length pre rest rfl hr
      (by intro j st _ _; rfl)
    rw [this]
    simp only [next_thenC]
    congr 2
    · simp [bitsI, List.map_replicate, List.eq_replicate_iff]
      intro b x _ _ hb; exact hb.symm
    · omega
  · have c2 : ((((d : Int) == 1) || ((d : Int) == (((2 ^ w - 1 : Nat) : Int) - 1))) : Bool) = false := by
      simp only [Bool.or_eq_false_iff, beq_eq_false_iff_ne, ne_eq]; omega
    have hp : piece w d = wordBits w d := by simp [piece, hst]
    rw [hp] at hr ⊢
    simp only [wordBits_length] at hr ⊢
    simp only [c2, Bool.false_eq_true, if_false, tripDown_one]
    have hn : ((w : Int) - 1 - (-1)).toNat = w := by omega
    rw [hn, bits_loop d w pre rest hr]
    simp only [next_thenC]

when_kernel Gzx.Gen.K11b.correctBits in
/-- the write loop over `c[a .. a+n)` -/
theorem write_loop (c : List Nat) (wi mask : Int) (w : Nat) (hw : wi = (w : Int)) (hw1 : 1 ≤ w)
    (hm : mask = ((2 ^ w - 1 : Nat) : Int)) : ∀ (n a : Nat) (pre rest : List Int), a + n ≤ c.length →
      (((c.drop a).take n).flatMap (piece w)).length ≤ rest.length →
      GoM.loop (Gen.K11b.correctBits_body3 wi (words c) mask) 1 n (a : Int) (pre ++ rest, (pre.length : Int))
        = .next (pre ++ bitsI (((c.drop a).take n).flatMap (piece w))
              ++ rest.drop (((c.drop a).take n).flatMap (piece w)).length,
            ((pre.length + (((c.drop a).take n).flatMap (piece w)).length : Nat) : Int)) := by
  intro n
  induction n with
  | zero => intro a pre rest _ _; simp [GoM.loop, bitsI]
  | succ n ih =>
    intro a pre rest h hr
    have ha : a < c.length := by omega
    have hd : c.drop a = c[a] :: c.drop (a + 1) := List.drop_eq_getElem_cons ha
    rw [hd] at hr ⊢
    simp only [List.take_succ_cons, List.flatMap_cons, List.length_append] at hr ⊢
    rw [loop_succ, write_body c wi mask w hw hw1 hm a ha pre rest (by omega)]
    simp only []
    have e1 : pre ++ bitsI (piece w c[a]) ++ rest.drop (piece w c[a]).length
        = (pre ++ bitsI (piece w c[a])) ++ rest.drop (piece w c[a]).length := rfl
    have e2 : ((pre.length + (piece w c[a]).length : Nat) : Int) = ((pre ++ bitsI (piece w c[a])).length : Int) := by
      simp
    have e : (a : Int) + 1 = ((a + 1 : Nat) : Int) := by omega
    rw [e2, e, ih (a + 1) _ _ (by omega) (by simp only [List.length_drop]; omega)]
    simp only [bitsI, List.map_append, List.append_assoc, List.drop_drop, List.length_append, List.length_map]
    congr 3
    · omega

/-! ## the theorem -/

/-- the Galois-field object (an opaque token in the kernel) that the code picks for a codeword size -/
def tok (g6 g8 g10 g12 : Int) (w : Nat) : Int :=
  if w = 6 then g6 else if w = 8 then g8 else if w = 10 then g10 else g12

/-- the kernel's abstract `rsDecoder.Decode` answers like the model's RS decoder: on success the error flag is clear and
    the (equally long) word slice holds the corrected words; on failure the error flag is set -/
def RSAgree (rs : RSDecoder) (rsI : Int → List Int → Int → Res (Bool × List Int)) (tk : Nat → Int) : Prop :=
  ∀ (w : Nat) (ws : List Nat) (k : Nat),
    match rs w ws k with
    | .ok c => c.length = ws.length ∧ rsI (tk w) (words ws) (k : Int) = .ok (false, words c)
    | .error _ => ∃ junk, rsI (tk w) (words ws) (k : Int) = .ok (true, junk)

theorem rsAgree_id (tk : Nat → Int) : RSAgree rsId rsIdI tk := by
  intro w ws k; exact ⟨rfl, rfl⟩
theorem rsAgree_fail (tk : Nat → Int) : RSAgree rsFail rsFailI tk := by
  intro w ws k; exact ⟨_, rfl⟩

theorem div_nat (a b : Nat) (hb : 1 ≤ b) : GoM.div (a : Int) (b : Int) = .ok ((a / b : Nat) : Int) := by
  unfold GoM.div
  rw [if_neg (by omega), tdiv_natCast]
theorem mod_nat (a b : Nat) (hb : 1 ≤ b) : GoM.mod (a : Int) (b : Int) = .ok ((a % b : Nat) : Int) := by
  unfold GoM.mod
  rw [if_neg (by omega), tmod_natCast]

when_kernel Gzx.Gen.K11b.correctBits in
/-- `correctBits(rawbits)` = the model, for EVERY raw bit slice, every `int` layer count, every data-block count ≥ 0
    and every Reed-Solomon decoder (abstract on both sides, `RSAgree`): same corrected bits and ecLevel, FormatException
    in exactly the same cases (too few codewords, RS failure, a data word 0 or mask), and the same integer-divide-by-zero
    panic when the input is shorter than one codeword. `fuel` bounds the chunk loop (one iteration per codeword). -/
theorem k_correctBits_eq (rs : RSDecoder) (rsI : Int → List Int → Int → Res (Bool × List Int)) (g10 g12 g6 g8 : Int)
    (hrs : RSAgree rs rsI (tok g6 g8 g10 g12)) (xs : List Int) (L : Int) (nd fuel : Nat) (hf : xs.length / 6 < fuel) :
    Gen.K11b.correctBits fuel g10 g12 g6 g8 (nd : Int) L rsI xs
      = expectCB (AztecDecoder.correctBits rs (boolsOf xs) L.toNat nd) := by
  unfold Gen.K11b.correctBits
  simp only []
  generalize hj : (ite (decide (L ≤ 2) = true) _ _ : Int × Int) = j3
  obtain ⟨w, hw4, hj3, hcw⟩ : ∃ w : Nat, (w = 6 ∨ w = 8 ∨ w = 10 ∨ w = 12)
      ∧ j3 = (tok g6 g8 g10 g12 w, (w : Int)) ∧ codewordSize L.toNat = w := by
    subst hj
    simp only [codewordSize]
    by_cases h1 : L ≤ 2
    · exact ⟨6, by simp, by simp [h1, tok], by rw [if_pos (by omega)]⟩
    · by_cases h2 : L ≤ 8
      · exact ⟨8, by simp, by simp [h1, h2, tok], by rw [if_neg (by omega), if_pos (by omega)]⟩
      · by_cases h3 : L ≤ 22
        · exact ⟨10, by simp, by simp [h1, h2, h3, tok], by rw [if_neg (by omega), if_neg (by omega), if_pos (by omega)]⟩
        · exact ⟨12, by simp, by simp [h1, h2, h3, tok], by rw [if_neg (by omega), if_neg (by omega), if_neg (by omega)]⟩
  clear hj
  subst hj3
  simp only []
  have hw1 : 1 ≤ w := by omega
  have hw6 : 6 ≤ w := by omega
  unfold AztecDecoder.correctBits
  rw [hcw]
  simp only [boolsOf_length]
  -- numCodewords
  rw [show len xs = ((xs.length : Nat) : Int) from rfl, div_nat _ _ hw1]
  simp only [tryR_ok]
  generalize hN : xs.length / w = N
  have hNf : N < fuel := by
    have : xs.length / w ≤ xs.length / 6 := Nat.div_le_div_left hw6 (by decide)
    omega
  by_cases hlt : N < nd
  · have c : decide ((N : Int) < (nd : Int)) = true := by simp; omega
    simp only [c, if_true, hlt, expectCB]
  · have c : decide ((N : Int) < (nd : Int)) = false := by simp; omega
    simp only [c, Bool.false_eq_true, if_false, hlt]
    rw [mod_nat _ _ hw1, mk_nats _ N rfl]
    simp only [tryR_ok]
    have hoff : xs.length % w + N * w ≤ xs.length := by
      have := Nat.mod_add_div xs.length w
      rw [hN, Nat.mul_comm] at this
      omega
    have hch : whileLoop (Gen.K11b.correctBits_body1 xs (w : Int) (N : Int)) fuel
          (((xs.length % w : Nat) : Int), words (List.replicate N 0), 0) = _ :=
      chunk_loop xs (w : Int) w N rfl hw1 N (xs.length % w) [] (words (List.replicate N 0)) fuel
        (by simp [words]) (by simp) hoff hNf
    rw [hch]
    simp only [brk_thenR, List.nil_append]
    have hk : (N : Int) - (nd : Int) = ((N - nd : Nat) : Int) := by omega
    rw [hk]
    have hdl : (chunkWords w N (List.drop (xs.length % w) (boolsOf xs))).length = N := by
      generalize List.drop (xs.length % w) (boolsOf xs) = bs
      clear hch hoff hN hNf hlt c hk
      induction N generalizing bs with
      | zero => rfl
      | succ n ih => simp [chunkWords, ih]
    generalize chunkWords w N (List.drop (xs.length % w) (boolsOf xs)) = dw at hdl ⊢
    have hr := hrs w dw (N - nd)
    generalize rs w dw (N - nd) = r at hr ⊢
    cases r with
    | error e =>
      obtain ⟨junk, hj⟩ := hr
      rw [hj]
      simp [expectCB]
    | ok c =>
      obtain ⟨hlen, hj⟩ := hr
      rw [hj]
      simp only [tryR_ok, bne_self_eq_false, Bool.false_eq_true, if_false]
      rw [shl_of_nonneg _ _ (by omega)]
      simp only [tryR_ok, mask_cast, tripUp_one]
      have hnd : ((nd : Int) - 0).toNat = nd := by omega
      rw [hnd]
      have hcl : GoM.loop (Gen.K11b.correctBits_body2 (words c) ((2 ^ w - 1 : Nat) : Int)) 1 nd 0 0 = _ :=
        count_loop c _ nd 0 0 (by omega)
      rw [hcl, List.drop_zero, countK_spec, unstuff_spec]
      have htl : (c.take nd).length = nd := by simp; omega
      by_cases hb : (c.take nd).any (bad w) = true
      · simp [hb, expectCB, bind, Except.bind]
      · simp only [hb, Bool.false_eq_true, if_false, next_thenR]
        have hfl := flatMap_piece_length w hw1 (c.take nd)
        rw [htl] at hfl
        generalize hF : (c.take nd).flatMap (piece w) = F at hfl ⊢
        have hmk : (nd : Int) * (w : Int) - (0 + ((stuffed w (c.take nd) : Nat) : Int)) = ((F.length : Nat) : Int) := by
          rw [← Int.natCast_mul]; omega
        rw [hmk, mk_nats _ F.length rfl]
        simp only [tryR_ok]
        have hwl : GoM.loop (Gen.K11b.correctBits_body3 (w : Int) (words c) ((2 ^ w - 1 : Nat) : Int)) 1 nd 0
              (words (List.replicate F.length 0), 0) = _ :=
          write_loop c (w : Int) _ w rfl hw1 rfl nd 0 [] (words (List.replicate F.length 0)) (by omega)
            (by rw [List.drop_zero, hF]; simp [words])
        rw [hwl, List.drop_zero, hF]
        simp only [next_thenR, List.nil_append]
        by_cases hN0 : N = 0
        · subst hN0
          simp [GoM.div, expectCB, bind, Except.bind]
        · have hdv : GoM.div (100 * ((N - nd : Nat) : Int)) (N : Int) = .ok (((100 * (N - nd) / N : Nat)) : Int) := by
            have := div_nat (100 * (N - nd)) N (by omega)
            rw [← this]; congr 1
          rw [hdv]
          simp [hN0, expectCB, bind, Except.bind, pure, Except.pure, words]

/-- non-vacuity: `RSAgree` holds for the two decoders of `k_correctBits_samples` (Obligations/K11bCorrect.lean), whose
    samples reach a result, FormatException and the divide-by-zero panic -/
example : RSAgree rsId rsIdI (tok 6 8 10 12) := rsAgree_id _
example : RSAgree rsFail rsFailI (tok 6 8 10 12) := rsAgree_fail _

end Gzx.Obligations.K11c
