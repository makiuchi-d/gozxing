/-
  K03w (continued) — Code 39 writer: `code39ToIntArray`, `code39TryToConvertToExtendedMode` regenerated and proved
  equal to the model (`code39Widths`, `code39Escape`) for every input.
-/
import Gzx.Obligations.K03w
namespace Gzx.Obligations.K03w
open Gzx Gzx.GoM Gzx.CheckDigit Gzx.OneD Gzx.K03w

when_kernel Gzx.Gen.K03w.code39TryToConvertToExtendedMode in
theorem esc39_lift (c : Int) (acc : List Int) :
    Gen.K03w.code39TryToConvertToExtendedMode_body1 [c] 0 acc =
      liftAcc acc (Gen.K03w.code39TryToConvertToExtendedMode_body1 [c] 0 []) := by
  have hidx : idx [c] 0 = .ok c := rfl
  unfold Gen.K03w.code39TryToConvertToExtendedMode_body1
  simp only [hidx, tryC_ok]
  simp only [apply_ite (liftAcc acc)]
  simp only [liftAcc, List.nil_append, List.append_assoc, List.append_nil]

when_kernel Gzx.Gen.K03w.code39TryToConvertToExtendedMode in
theorem esc39_nil : ∀ c : Nat, c < 256 →
    Gen.K03w.code39TryToConvertToExtendedMode_body1 [(c : Int)] 0 [] = escStep code39Escape1 c [] := by decide +kernel

/-- the escapes of the bytes before the first one that cannot be encoded (what the Go function returns next to its error) -/
def escPrefix39 : List Nat → List Nat
  | [] => []
  | c :: cs =>
    match code39Escape1 c with
    | .ok e => e ++ escPrefix39 cs
    | .error _ => []

when_kernel Gzx.Gen.K03w.code39TryToConvertToExtendedMode in
theorem esc39_loc (s : List Int) (i : Nat) (h : i < s.length) (acc : List Int) :
    Gen.K03w.code39TryToConvertToExtendedMode_body1 s (i : Int) acc =
      Gen.K03w.code39TryToConvertToExtendedMode_body1 [s[i]] 0 acc := by
  have hidx : idx [s[i]] 0 = .ok s[i] := rfl
  unfold Gen.K03w.code39TryToConvertToExtendedMode_body1
  rw [idx_ofNat _ _ h, hidx]

when_kernel Gzx.Gen.K03w.code39TryToConvertToExtendedMode in
/-- `code39TryToConvertToExtendedMode(contents)` for EVERY byte string: the model's `code39Escape` (full-ASCII escapes
    `$A`…`%T`, plain characters unchanged), or — for a byte above 127 — the error together with what had been converted -/
theorem k_code39Escape_eq (s : List Nat) (hs : ∀ b ∈ s, b < 256) :
    Gen.K03w.code39TryToConvertToExtendedMode (bytes s) =
      .ok (match code39Escape s with
           | .ok e => (bytes e, false)
           | .error _ => (bytes (escPrefix39 s), true)) := by
  have hmk : mk (0 : Int) = .ok [] := rfl
  simp only [Gen.K03w.code39TryToConvertToExtendedMode, hmk, tryR_ok, len, bytes_length]
  exact esc_loop code39Escape1 code39Escape escPrefix39 rfl (fun _ _ => rfl) (fun _ _ => rfl)
    _ esc39_loc esc39_lift esc39_nil s hs (by rw [tripUp_one]; simp)

/-! ## `code39ToIntArray` -/

/-- the width the writer stores for element `i` of the encoding word `a` -/
def w39 (a i : Nat) : Int := ((code39Widths a)[i]?.getD 0 : Nat)

when_kernel Gzx.Gen.K03w.code39ToIntArray in
theorem w39_step (a : Nat) (i : Nat) (hi : i < 9) (xs : List Int) :
    Gen.K03w.code39ToIntArray_body1 (a : Int) (i : Int) xs =
      tryC (setIdx xs (((0 : Nat) : Int) + (i : Int)) (w39 a i)) fun t => .next t := by
  -- `a & (1 << (8-i))` reads binary digit `8 - i` of `a`, entry `i` of `bitsMSB 9 a`: wide (2) if set, narrow (1) if not
  have hw : wrap 64 (8 - (i : Int)) = ((8 - i : Nat) : Int) := wrap_of_eq 64 _ (8 - i) (by omega) (by omega)
  have hb : w39 a i = if (a / 2 ^ (8 - i)) % 2 = 1 then 2 else 1 := by
    simp only [w39, code39Widths, bitsMSB, List.map_map, List.getElem?_map, List.getElem?_range hi, Option.map_some,
      Option.getD_some, Function.comp, decide_eq_true_eq]
    split <;> rfl
  simp only [Gen.K03w.code39ToIntArray_body1, hw, iand_one_shl_eq_zero, hb, Int.natCast_zero, Int.zero_add]
  by_cases h : (a / 2 ^ (8 - i)) % 2 = 1 <;> simp [h]

theorem w39_all (a : Nat) : (List.range' 0 9).map (w39 a) = (code39Widths a).map Int.ofNat := by
  have hl : (code39Widths a).length = 9 := by simp [code39Widths, bitsMSB]
  apply List.ext_getElem
  · simp [hl]
  · intro i h1 h2
    have hi : i < 9 := by simpa using h1
    simp [w39, hl, hi]

when_kernel Gzx.Gen.K03w.code39ToIntArray in
/-- `code39ToIntArray(a, toReturn)` for EVERY word and buffer: the model's `code39Widths a` (1 = narrow, 2 = wide, most
    significant element first) over the first nine cells, whatever they held; the index panic for a shorter buffer -/
theorem k_code39ToIntArray_eq (a : Nat) (buf : List Int) :
    Gen.K03w.code39ToIntArray (a : Int) buf =
      if 9 ≤ buf.length then .ok ((code39Widths a).map Int.ofNat ++ buf.drop 9) else .error oob := by
  have h := fill_off (ρ := List Int) (Gen.K03w.code39ToIntArray_body1 (a : Int)) (w39 a) 9 0
    (fun i hi xs => w39_step a i hi xs) 9 0 [] buf rfl (Nat.le_refl _)
  have e9 : tripUp 0 9 1 = 9 := by decide
  rw [List.nil_append, w39_all] at h
  simp only [Gen.K03w.code39ToIntArray, e9]
  rw [show ((0 : Int) = ((0 : Nat) : Int)) from rfl, h]
  split <;> rfl

when_kernel Gzx.Gen.K03w.code39ToIntArray in
/-- `code39ToIntArray(a, toReturn)` for every encoding word of the Code 39 table (and the asterisk word) and EVERY
    nine-cell buffer: the model's `code39Widths a` (1 = narrow, 2 = wide, most significant element first), whatever
    the buffer held.  The table plays no part: `k_code39ToIntArray_eq` is the statement for every word and buffer. -/
theorem k_code39ToIntArray_partial (a : Nat) (ha : a ∈ refTables.code39Asterisk :: refTables.code39Enc)
    (buf : List Int) (hb : buf.length = 9) :
    Gen.K03w.code39ToIntArray (a : Int) buf = .ok ((code39Widths a).map Int.ofNat) := by
  rw [k_code39ToIntArray_eq, if_pos (by omega), List.drop_eq_nil_of_le (by omega), List.append_nil]

when_kernel Gzx.Gen.K03w.code39ToIntArray in
example : Gen.K03w.code39ToIntArray 0x094 [7, 7, 7, 7, 7, 7, 7, 7, 7] = .ok ((code39Widths 0x094).map Int.ofNat) :=
  k_code39ToIntArray_partial 0x094 (by decide) _ rfl

end Gzx.Obligations.K03w
