/-
  K02e — `decodeAsciiSegment` of datamatrix/decoder/decoded_bit_stream_parser.go, regenerated from /repo on
  every run (`Gzx.Gen.K02e.decodeAsciiSegment`: the `for bits.Available() > 0` loop, the chain of codeword classes with
  the `switch` of latches / FNC1 / macros / upper shift, `strconv.Itoa` of a digit pair, the trailer prepend, the 254
  work-around), proved equal to `asciiOut` for EVERY byte-aligned bit source (`k_decodeAsciiSegment_eq`).

  `asciiOut` is the ASCII part of the model's fused loop `DMHighLevel.decLoop` read off as a function of its own:
  `decLoop_ascii` proves that `decLoop` (in ASCII state) is `asciiOut` followed by the dispatch on the mode it returns.
-/
import Gzx.Obligations.K02eC40
namespace Gzx.Obligations.K02e
open Gzx Gzx.GoM Gzx.GoVal Gzx.DMHighLevel

/-! ## model side -/

/-- what decodeAsciiSegment does to its three accumulators -/
inductive AEv where
  | chars (cs : List Nat)
  | fnc1
  | macroH (n : Nat)
  deriving Repr, DecidableEq

def Acc.aev (a : Acc) : AEv → Acc
  | .chars cs => a.pushAll cs
  | .fnc1 => a.fnc
  | .macroH n => { a.pushAll (macroHeader n) with trailer := macroTrailer ++ a.trailer }

def Acc.aevs (a : Acc) (es : List AEv) : Acc := es.foldl Acc.aev a

/-- prepend an event / count a byte -/
def aCons (e : Option AEv) : Res (Nat × List AEv × Nat) → Res (Nat × List AEv × Nat)
  | .ok (m, es, k) => .ok (m, (match e with | some e => e :: es | none => es), k + 1)
  | .error f => .error f

/-- decodeAsciiSegment on the remaining bytes: (mode returned, events, bytes consumed).  Modes as in the Go `const` block:
    0 PAD, 1 ASCII, 2 C40, 3 TEXT, 4 ANSIX12, 5 EDIFACT, 6 BASE256, 7 ECI -/
def asciiOut : List Nat → Bool → Res (Nat × List AEv × Nat)
  | [], _ => .ok (1, [], 0)
  | b :: rest, up =>
    if b = 0 then .error .format
    else if b ≤ 128 then .ok (1, [.chars [(if up then b + 128 else b) - 1]], 1)
    else if b = 129 then .ok (0, [], 1)
    else if b ≤ 229 then aCons (some (.chars (digitPair (b - 130)))) (asciiOut rest up)
    else if b = 230 then .ok (2, [], 1)
    else if b = 231 then .ok (6, [], 1)
    else if b = 232 then aCons (some .fnc1) (asciiOut rest up)
    else if b = 233 ∨ b = 234 then aCons none (asciiOut rest up)
    else if b = 235 then aCons none (asciiOut rest true)
    else if b = 236 then aCons (some (.macroH 5)) (asciiOut rest up)
    else if b = 237 then aCons (some (.macroH 6)) (asciiOut rest up)
    else if b = 238 then .ok (4, [], 1)
    else if b = 239 then .ok (3, [], 1)
    else if b = 240 then .ok (5, [], 1)
    else if b = 241 then .ok (7, [], 1)
    else if b ≠ 254 ∨ !rest.isEmpty then .error .format
    else aCons none (asciiOut rest up)

/-- the dispatch of the main loop on the mode decodeAsciiSegment returned, `rest` being the bytes left at byte offset `off`
    (the model's `decLoop` has this fused into its ASCII cases) -/
def afterAscii (T : Tables) (mode : Nat) (rest : List Nat) (off : Nat) (a : Acc) : Res Acc :=
  if mode = 0 then .ok a
  else if mode = 1 then decLoop T rest 0 false off a.endSeg
  else if mode = 2 then
    match cSeg T false rest {} a 0 with
    | .ok (a', n) => decLoop T rest n false off a'.endSeg
    | .error e => .error e
  else if mode = 3 then
    match cSeg T true rest {} a 0 with
    | .ok (a', n) => decLoop T rest n false off a'.endSeg
    | .error e => .error e
  else if mode = 4 then
    match x12Seg rest a 0 with
    | .ok (a', n) => decLoop T rest n false off a'.endSeg
    | .error e => .error e
  else if mode = 5 then decLoop T rest (edifactSeg rest a 0).2 false off (edifactSeg rest a 0).1.endSeg
  else if mode = 6 then
    if rest.isEmpty then .ok a
    else match b256Seg rest off a with
      | .ok (a', n) => decLoop T rest n false off a'
      | .error e => .error e
  else if mode = 7 then decLoop T rest 0 false off (if rest.isEmpty then a else { a with eci := true })
  else .error .format

/-- the continuation of the main loop after decodeAsciiSegment -/
def asciiThen (T : Tables) (bs : List Nat) (off : Nat) (a : Acc) : Res (Nat × List AEv × Nat) → Res Acc
  | .error e => .error e
  | .ok (m, es, k) => afterAscii T m (bs.drop k) (off + k) (Acc.aevs a es)

/-- what one codeword does in `decodeAsciiSegment`: reject, end the segment with a mode, or go on -/
inductive AStep where
  | bad
  | stop (mode : Nat) (es : List AEv)
  | cont (e : Option AEv) (up : Bool)

/-- the chain of codeword classes, once; `last` = no codeword follows.  `asciiOut`, the model's fused loop `decLoop` and the
    regenerated loop body all make this step (`asciiOut_cons`, `decLoop_cons`, `ascii_body1_step`), so that everything else
    about the segment distinguishes three cases and not seventeen -/
def asciiStep (b : Nat) (last up : Bool) : AStep :=
  if b = 0 then .bad
  else if b ≤ 128 then .stop 1 [.chars [(if up then b + 128 else b) - 1]]
  else if b = 129 then .stop 0 []
  else if b ≤ 229 then .cont (some (.chars (digitPair (b - 130)))) up
  else if b = 230 then .stop 2 []
  else if b = 231 then .stop 6 []
  else if b = 232 then .cont (some .fnc1) up
  else if b = 233 ∨ b = 234 then .cont none up
  else if b = 235 then .cont none true
  else if b = 236 then .cont (some (.macroH 5)) up
  else if b = 237 then .cont (some (.macroH 6)) up
  else if b = 238 then .stop 4 []
  else if b = 239 then .stop 3 []
  else if b = 240 then .stop 5 []
  else if b = 241 then .stop 7 []
  else if b ≠ 254 ∨ !last then .bad
  else .cont none up

/-- the outcome of `asciiOut` after a step, given its outcome on the remaining codewords -/
def AStep.run (r : Bool → Res (Nat × List AEv × Nat)) : AStep → Res (Nat × List AEv × Nat)
  | .bad => .error .format
  | .stop m es => .ok (m, es, 1)
  | .cont e up' => aCons e (r up')

theorem asciiOut_cons (b : Nat) (rest : List Nat) (up : Bool) :
    asciiOut (b :: rest) up = (asciiStep b rest.isEmpty up).run (asciiOut rest) := by
  rw [asciiOut]
  simp only [asciiStep, apply_ite (AStep.run (asciiOut rest))]
  rfl

/-- the outcome of the model's fused loop after a step -/
def AStep.model (T : Tables) (rest : List Nat) (off : Nat) (a : Acc) : AStep → Res Acc
  | .bad => .error .format
  | .stop m es => afterAscii T m rest off (Acc.aevs a es)
  | .cont e up' => decLoop T rest 0 up' off (match e with | some e => Acc.aev a e | none => a)

theorem decLoop_cons (T : Tables) (b : Nat) (rest : List Nat) (up : Bool) (off : Nat) (a : Acc) :
    decLoop T (b :: rest) 0 up off a = (asciiStep b rest.isEmpty up).model T rest (off + 1) a := by
  rw [decLoop]
  simp only [asciiStep, apply_ite (AStep.model T rest (off + 1) a)]
  rfl

theorem endSeg_endSeg (a : Acc) : a.endSeg.endSeg = a.endSeg := by simp [Acc.endSeg]

theorem aevs_cons (a : Acc) (e : AEv) (es : List AEv) : Acc.aevs a (e :: es) = Acc.aevs (Acc.aev a e) es := rfl

/-- the model's fused loop, in ASCII state, IS `asciiOut` followed by the dispatch on the returned mode (up to the
    bookkeeping `endSeg` of the final accumulator, which neither the text nor the symbology modifier sees) -/
theorem decLoop_ascii (T : Tables) : ∀ (bs : List Nat) (up : Bool) (off : Nat) (a : Acc),
    (decLoop T bs 0 up off a).map Acc.endSeg =
      (asciiThen T bs off a (asciiOut bs up)).map Acc.endSeg := by
  intro bs
  induction bs with
  | nil =>
    intro up off a
    simp [decLoop, asciiOut, asciiThen, afterAscii, Acc.aevs, Except.map, endSeg_endSeg]
  | cons b rest ih =>
    intro up off a
    rw [decLoop_cons, asciiOut_cons]
    cases asciiStep b rest.isEmpty up with
    | bad => rfl
    | stop m es => rfl
    | cont e up' =>
      -- one event (or none), then the induction hypothesis
      simp only [AStep.model, AStep.run]
      rw [ih up' (off + 1)]
      cases asciiOut rest up' with
      | error f => rfl
      | ok p =>
        obtain ⟨m, es, k⟩ := p
        cases e <;> simp [asciiThen, aCons, aevs_cons, Nat.add_assoc, Nat.add_comm 1 k]

/-! ## kernel side -/

/-- what one event does to the Go state `(result, resultTrailer, fnc1positions)` -/
def aevK (p : List Int × List Int × List Int) : AEv → List Int × List Int × List Int
  | .chars cs => (p.1 ++ bytesI cs, p.2.1, p.2.2)
  | .fnc1 => (p.1 ++ [29], p.2.1, p.2.2 ++ [(p.1.length : Int)])
  | .macroH n => (p.1 ++ bytesI (macroHeader n), bytesI macroTrailer ++ p.2.1, p.2.2)

def aevsK (p : List Int × List Int × List Int) (es : List AEv) : List Int × List Int × List Int := es.foldl aevK p

theorem itoa_pair : ∀ v : Fin 100, GoM.itoa ((v.val : Nat) : Int) = bytesI (itoa2 v.val) := by decide

/-- state of the regenerated loop: (byteOffset, bitOffset, result, resultTrailer, fnc1positions, upperShift) -/
abbrev SA := Int × Int × List Int × List Int × List Int × Bool
/-- what the regenerated function returns: the Go results (mode, result, resultTrailer, error?), then what it wrote of its
    parameters (the BitSource's two offsets; result, resultTrailer, fnc1positions) -/
abbrev RA := Int × List Int × List Int × Bool × Int × Int × List Int × List Int × List Int

/-- what the kernel must answer for a model outcome -/
def AAgrees (k : Res RA) (res tr fn : List Int) (off : Nat) : Res (Nat × List AEv × Nat) → Prop
  | .ok (m, es, n) => k = .ok ((m : Int), (aevsK (res, tr, fn) es).1, (aevsK (res, tr, fn) es).2.1, false, ((off + n : Nat) : Int), 0,
      (aevsK (res, tr, fn) es).1, (aevsK (res, tr, fn) es).2.1, (aevsK (res, tr, fn) es).2.2)
  | .error _ => ∃ r t bo f, k = .ok (1, r, t, true, bo, 0, r, t, f)

/-- what the regenerated loop body does for a step: return with the FormatException flag, return the mode and the three
    accumulators after the step's events, or go on at the next byte offset `o` -/
def AStep.encK (o : Int) (res tr fn : List Int) : AStep → Ctl SA RA
  | .bad => .ret (1, res, tr, true, o, 0, res, tr, fn)
  | .stop m es => .ret ((m : Int), (aevsK (res, tr, fn) es).1, (aevsK (res, tr, fn) es).2.1, false, o, 0,
      (aevsK (res, tr, fn) es).1, (aevsK (res, tr, fn) es).2.1, (aevsK (res, tr, fn) es).2.2)
  | .cont none up' => .next (o, 0, res, tr, fn, up')
  | .cont (some e) up' => .next (o, 0, (aevK (res, tr, fn) e).1, (aevK (res, tr, fn) e).2.1, (aevK (res, tr, fn) e).2.2, up')

when_kernel Gzx.Gen.K02e.decodeAsciiSegment in
theorem ascii_body1_end (F : Nat) (bs : List Nat) (off : Nat) (h : bs.length ≤ off) (res tr fn : List Int) (up : Bool) :
    Gen.K02e.decodeAsciiSegment_body1 F (bytesI bs) ((off : Int), 0, res, tr, fn, up) = .brk ((off : Int), 0, res, tr, fn, up) := by
  unfold Gen.K02e.decodeAsciiSegment_body1
  simp only [k_available_eq, tryC_ok, bytesI_length]
  have c : decide (8 * ((bs.length : Int) - (off : Int)) - 0 > 0) = false := by simp; omega
  simp only [c, Bool.false_eq_true, if_false]

when_kernel Gzx.Gen.K02e.decodeAsciiSegment in
theorem ascii_body1_step (F : Nat) (hF : 2 ≤ F) (bs : List Nat) (hb : ∀ b ∈ bs, b < 256) (off : Nat) (h : off < bs.length)
    (res tr fn : List Int) (up : Bool) :
    Gen.K02e.decodeAsciiSegment_body1 F (bytesI bs) ((off : Int), 0, res, tr, fn, up)
      = (asciiStep bs[off] (decide (off + 1 = bs.length)) up).encK ((off + 1 : Nat) : Int) res tr fn := by
  unfold Gen.K02e.decodeAsciiSegment_body1
  simp only [k_available_eq, tryC_ok, bytesI_length]
  have c : decide (8 * ((bs.length : Int) - (off : Int)) - 0 > 0) = true := by simp; omega
  simp only [c, if_true]
  rw [k_readBits8 F hF bs hb off h]
  simp only [tryC_ok]
  have hlt := hb _ (List.getElem_mem h)
  have e1 : (off : Int) + 1 = ((off + 1 : Nat) : Int) := by omega
  rw [e1]
  generalize bs[off] = b at hlt
  unfold asciiStep
  simp only [AStep.encK, aevsK, aevK]
  by_cases h0 : b = 0
  · subst h0; simp
  have c0 : (((b : Nat) : Int) == 0) = false := by simp; omega
  simp only [c0, Bool.false_eq_true, if_false, h0]
  by_cases h128 : b ≤ 128
  · have c : decide (((b : Nat) : Int) ≤ 128) = true := by simp; omega
    simp only [c, if_true, h128]
    cases up
    · simp only [Bool.false_eq_true, if_false]
      have : wrap 8 ((b : Int) - 1) = ((b - 1 : Nat) : Int) := by unfold wrap; omega
      rw [this]
      rfl
    · simp only [if_true]
      have : wrap 8 ((b : Int) + 128 - 1) = ((b + 128 - 1 : Nat) : Int) := by unfold wrap; omega
      rw [this]
      rfl
  have c128 : decide (((b : Nat) : Int) ≤ 128) = false := by simp; omega
  simp only [c128, Bool.false_eq_true, if_false, h128]
  by_cases h129 : b = 129
  · subst h129; simp
  have c129 : (((b : Nat) : Int) == 129) = false := by simp; omega
  simp only [c129, Bool.false_eq_true, if_false, h129]
  by_cases h229 : b ≤ 229
  · have c : decide (((b : Nat) : Int) ≤ 229) = true := by simp; omega
    simp only [c, if_true, h229]
    have e : ((b : Nat) : Int) - 130 = ((b - 130 : Nat) : Int) := by omega
    have hv : b - 130 < 100 := by omega
    have hi := itoa_pair ⟨b - 130, hv⟩
    simp only at hi
    rw [e, hi]
    unfold digitPair
    by_cases h10 : b - 130 < 10
    · have c10 : decide (((b - 130 : Nat) : Int) < 10) = true := by simp; omega
      simp [c10, h10, bytesI]
    · have c10 : decide (((b - 130 : Nat) : Int) < 10) = false := by simp; omega
      simp [c10, h10, bytesI]
  have c229 : decide (((b : Nat) : Int) ≤ 229) = false := by simp; omega
  simp only [c229, Bool.false_eq_true, if_false, h229]
  have hcases : b = 230 ∨ b = 231 ∨ b = 232 ∨ b = 233 ∨ b = 234 ∨ b = 235 ∨ b = 236 ∨ b = 237 ∨ b = 238 ∨ b = 239 ∨ b = 240
      ∨ b = 241 ∨ (241 < b ∧ b ≠ 254) ∨ b = 254 := by omega
  rcases hcases with h | h | h | h | h | h | h | h | h | h | h | h | h | h
  · subst h; simp
  · subst h; simp
  · subst h; simp [len]
  · subst h; simp
  · subst h; simp
  · subst h; simp
  · subst h; simp [macroHeader, macroTrailer, bytesI]
  · subst h; simp [macroHeader, macroTrailer, bytesI]
  · subst h; simp
  · subst h; simp
  · subst h; simp
  · subst h; simp
  · obtain ⟨h1, h2⟩ := h
    have e230 : (((b : Nat) : Int) == 230) = false := by simp; omega
    have e231 : (((b : Nat) : Int) == 231) = false := by simp; omega
    have e232 : (((b : Nat) : Int) == 232) = false := by simp; omega
    have e233 : (((b : Nat) : Int) == 233) = false := by simp; omega
    have e234 : (((b : Nat) : Int) == 234) = false := by simp; omega
    have e235 : (((b : Nat) : Int) == 235) = false := by simp; omega
    have e236 : (((b : Nat) : Int) == 236) = false := by simp; omega
    have e237 : (((b : Nat) : Int) == 237) = false := by simp; omega
    have e238 : (((b : Nat) : Int) == 238) = false := by simp; omega
    have e239 : (((b : Nat) : Int) == 239) = false := by simp; omega
    have e240 : (((b : Nat) : Int) == 240) = false := by simp; omega
    have e241 : (((b : Nat) : Int) == 241) = false := by simp; omega
    have n254 : (((b : Nat) : Int) != 254) = true := by simp; omega
    simp only [e230, e231, e232, e233, e234, e235, e236, e237, e238, e239, e240, e241, n254, Bool.or_self, Bool.false_eq_true,
      if_false, if_true]
    have : ¬ (b = 230) ∧ ¬ (b = 231) ∧ ¬ (b = 232) ∧ ¬ (b = 233 ∨ b = 234) ∧ ¬ (b = 235) ∧ ¬ (b = 236) ∧ ¬ (b = 237) ∧ ¬ (b = 238)
        ∧ ¬ (b = 239) ∧ ¬ (b = 240) ∧ ¬ (b = 241) := by omega
    obtain ⟨a1, a2, a3, a4, a5, a6, a7, a8, a9, a10, a11⟩ := this
    simp [a1, a2, a3, a4, a5, a6, a7, a8, a9, a10, a11, h2]
  · subst h
    by_cases hl : off + 1 = bs.length
    · have c : (8 * ((bs.length : Int) - ((off + 1 : Nat) : Int)) - 0 != 0) = false := by simp; omega
      rw [c]
      simp [hl]
    · have c : (8 * ((bs.length : Int) - ((off + 1 : Nat) : Int)) - 0 != 0) = true := by simp; omega
      rw [c]
      simp [hl]

theorem AAgrees_cons (k : Res RA) (res tr fn : List Int) (off : Nat) (e : Option AEv) (r : Res (Nat × List AEv × Nat))
    (h : AAgrees k (match e with | some e => (aevK (res, tr, fn) e).1 | none => res)
      (match e with | some e => (aevK (res, tr, fn) e).2.1 | none => tr)
      (match e with | some e => (aevK (res, tr, fn) e).2.2 | none => fn) (off + 1) r) :
    AAgrees k res tr fn off (aCons e r) := by
  cases r with
  | error f => exact h
  | ok p =>
    obtain ⟨m, es, n⟩ := p
    cases e with
    | none =>
      simp only [AAgrees, aCons] at h ⊢
      rw [h]; simp; omega
    | some e =>
      simp only [AAgrees, aCons, aevsK, List.foldl_cons] at h ⊢
      rw [h]; simp; omega

when_kernel Gzx.Gen.K02e.decodeAsciiSegment in
theorem ascii_loop (F : Nat) (hF : 2 ≤ F) (bs : List Nat) (hb : ∀ b ∈ bs, b < 256)
    (K : SA → Res RA) (hK : ∀ bo bi res tr fn up, K (bo, bi, res, tr, fn, up) = .ok (1, res, tr, false, bo, bi, res, tr, fn)) :
    ∀ (m off : Nat) (res tr fn : List Int) (up : Bool) (f : Nat), bs.length - off ≤ m → off ≤ bs.length → m < f →
      AAgrees ((whileLoop (Gen.K02e.decodeAsciiSegment_body1 F (bytesI bs)) f ((off : Int), 0, res, tr, fn, up)).thenR K)
        res tr fn off (asciiOut (bs.drop off) up) := by
  intro m off res tr fn up f hm hoff hf
  -- the measure is the number of bytes left
  refine whileLoop_ind (body := Gen.K02e.decodeAsciiSegment_body1 F (bytesI bs))
    (fun m s c => ∀ (off : Nat) res tr fn up, s = ((off : Int), 0, res, tr, fn, up) → bs.length - off ≤ m → off ≤ bs.length →
      AAgrees (c.thenR K) res tr fn off (asciiOut (bs.drop off) up))
    (fun m s W ih off res tr fn up hs hm hoff => ?_) f m _ hf off res tr fn up rfl hm hoff
  subst hs
  by_cases h0 : off = bs.length
  · rw [List.drop_eq_nil_of_le (by omega), ascii_body1_end F bs off (by omega)]
    simp [brk_thenR, hK, asciiOut, AAgrees, aevsK]
  have hlt : off < bs.length := by omega
  have hlast : (bs.drop (off + 1)).isEmpty = decide (off + 1 = bs.length) := by
    by_cases hl : off + 1 = bs.length
    · simp [hl]
    · simp [hl]; omega
  rw [List.drop_eq_getElem_cons hlt, ascii_body1_step F hF bs hb off hlt, asciiOut_cons, hlast]
  cases asciiStep bs[off] (decide (off + 1 = bs.length)) up with
  | bad => exact ⟨_, _, _, _, rfl⟩
  | stop m es => simp [AStep.encK, AStep.run, AAgrees]
  | cont e up' =>
    have next := fun res' tr' fn' => ih (m - 1) _ (by omega) (off + 1) res' tr' fn' up' rfl (by omega) (by omega)
    cases e with
    | none => exact AAgrees_cons _ _ _ _ _ none _ (next _ _ _)
    | some e => exact AAgrees_cons _ _ _ _ _ (some e) _ (next _ _ _)

when_kernel Gzx.Gen.K02e.decodeAsciiSegment in
/-- `decodeAsciiSegment(bits, result, resultTrailer, fnc1positions)` on a byte-aligned source at byte `off` of `bs` =
    `asciiOut` on the remaining bytes: the mode returned, the three accumulators changed by exactly its events, the source
    advanced by the bytes it consumes; a FormatException (codeword 0, an unused codeword, 254 not at the end) is the error flag -/
theorem k_decodeAsciiSegment_eq (fuel : Nat) (bs : List Nat) (hb : ∀ b ∈ bs, b < 256) (off : Nat) (hoff : off ≤ bs.length)
    (hf : bs.length + 2 ≤ fuel) (res tr fn : List Int) :
    AAgrees (Gen.K02e.decodeAsciiSegment fuel (bytesI bs) (off : Int) 0 res tr fn) res tr fn off (asciiOut (bs.drop off) false) := by
  have hk : Gen.K02e.decodeAsciiSegment fuel (bytesI bs) (off : Int) 0 res tr fn
      = (whileLoop (Gen.K02e.decodeAsciiSegment_body1 fuel (bytesI bs)) fuel ((off : Int), 0, res, tr, fn, false)).thenR
          (fun st => .ok (1, st.2.2.1, st.2.2.2.1, false, st.1, st.2.1, st.2.2.1, st.2.2.2.1, st.2.2.2.2.1)) := by
    unfold Gen.K02e.decodeAsciiSegment
    rfl
  rw [hk]
  exact ascii_loop fuel (by omega) bs hb _ (fun _ _ _ _ _ _ => rfl) (bs.length - off) off res tr fn false fuel
    (Nat.le_refl _) hoff (by omega)

end Gzx.Obligations.K02e
