/-
  K02e — `decodeEdifactSegment` of datamatrix/decoder/decoded_bit_stream_parser.go, regenerated from /repo on
  every run (`Gzx.Gen.K02e.decodeEdifactSegment`), proved equal to the model `DMHighLevel.edifactSeg` for every
  byte-aligned bit source (`k_decodeEdifactSegment_eq`).  This is the one segment decoder that reads the BitSource at bit
  granularity: the six (count, bit offset) combinations EDIFACT uses (`k_readBits_6_0/6_6/6_4/6_2`: six bits at bit offset
  0, 6, 4, 2; the skips `k_readBits_2_6/4_4`) are the model `BitSource.readBits` evaluated at such a cursor (`k_readBits_of_model`).
-/
import Gzx.Obligations.K02eB256
namespace Gzx.Obligations.K02e
open Gzx Gzx.GoM Gzx.GoVal Gzx.DMHighLevel

open BitSource in
/-- the model's `ReadBits` where the request is admissible: the partial first byte, then whole bytes and the partial last one -/
theorem readBits_admissible (bs : List Nat) (off bit n : Nat) (h1 : 1 ≤ n) (h32 : n ≤ 32) (hav : 8 * off + bit + n ≤ 8 * bs.length) :
    readBits ⟨bs, off, bit⟩ (n : Int) =
      match readFirst ⟨bs, off, bit⟩ n with
      | .error e => .error e
      | .ok (r, n1, byo, bio) => readRest ⟨bs, off, bit⟩ r n1 byo bio := by
  unfold readBits
  rw [if_neg (by simp only [available]; omega), Int.toNat_natCast]
  rfl

section
open BitSource
variable (fuel : Nat) (bs : List Nat)

when_kernel Gzx.Gen.K01d.readBits in
when_kernel Gzx.Gen.K02e.readBits in
/-- 6 bits at bit offset 0: the high six bits of the byte -/
theorem k_readBits_6_0 (hb : ∀ b ∈ bs, b < 256) (off : Nat) (h : off < bs.length) :
    Gen.K02e.readBits (fuel + 1) (bytesI bs) (off : Int) 0 6 = .ok (((bs[off] / 4 : Nat) : Int), false, (off : Int), 6) := by
  have hlt := hb _ (List.getElem_mem h)
  refine k_readBits_of_model bs off 0 (by decide) 6 (fuel + 1) (by omega) (bs[off] / 4) ⟨bs, off, 6⟩ ?_
  rw [readBits_admissible bs off 0 6 (by decide) (by decide) (by omega)]
  simp [readFirst, readRest, readWhole, byteAt, List.getElem?_eq_getElem h]
  rw [Nat.shiftRight_eq_div_pow]; omega

when_kernel Gzx.Gen.K01d.readBits in
when_kernel Gzx.Gen.K02e.readBits in
/-- 6 bits at bit offset 6: the low two bits and the high four of the next byte -/
theorem k_readBits_6_6 (hb : ∀ b ∈ bs, b < 256) (off : Nat) (h : off + 1 < bs.length) :
    Gen.K02e.readBits (fuel + 1) (bytesI bs) (off : Int) 6 6
      = .ok ((((bs[off] % 4) * 16 + bs[off + 1] / 16 : Nat) : Int), false, (off : Int) + 1, 4) := by
  have h0 : off < bs.length := by omega
  have hlt := hb _ (List.getElem_mem h)
  refine k_readBits_of_model bs off 6 (by decide) 6 (fuel + 1) (by omega) _ ⟨bs, off + 1, 4⟩ ?_
  rw [readBits_admissible bs off 6 6 (by decide) (by decide) (by omega)]
  simp [readFirst, readRest, readWhole, byteAt, List.getElem?_eq_getElem h, List.getElem?_eq_getElem h0]
  have e1 : bs[off + 1] >>> 4 = bs[off + 1] / 16 := Nat.shiftRight_eq_div_pow _ 4
  have e2 : bs[off + 1] / 16 % 16 = bs[off + 1] / 16 := Nat.mod_eq_of_lt (by omega)
  rw [e1, e2, ← Nat.shiftLeft_add_eq_or_of_lt (show bs[off + 1] / 16 < 2 ^ 4 by omega), Nat.shiftLeft_eq]

when_kernel Gzx.Gen.K01d.readBits in
when_kernel Gzx.Gen.K02e.readBits in
/-- 6 bits at bit offset 4: the low four bits and the high two of the next byte -/
theorem k_readBits_6_4 (hb : ∀ b ∈ bs, b < 256) (off : Nat) (h : off + 1 < bs.length) :
    Gen.K02e.readBits (fuel + 1) (bytesI bs) (off : Int) 4 6
      = .ok ((((bs[off] % 16) * 4 + bs[off + 1] / 64 : Nat) : Int), false, (off : Int) + 1, 2) := by
  have h0 : off < bs.length := by omega
  have hlt := hb _ (List.getElem_mem h)
  refine k_readBits_of_model bs off 4 (by decide) 6 (fuel + 1) (by omega) _ ⟨bs, off + 1, 2⟩ ?_
  rw [readBits_admissible bs off 4 6 (by decide) (by decide) (by omega)]
  simp [readFirst, readRest, readWhole, byteAt, List.getElem?_eq_getElem h, List.getElem?_eq_getElem h0]
  have e1 : bs[off + 1] >>> 6 = bs[off + 1] / 64 := Nat.shiftRight_eq_div_pow _ 6
  have e2 : bs[off + 1] / 64 % 4 = bs[off + 1] / 64 := Nat.mod_eq_of_lt (by omega)
  rw [e1, e2, ← Nat.shiftLeft_add_eq_or_of_lt (show bs[off + 1] / 64 < 2 ^ 2 by omega), Nat.shiftLeft_eq]

when_kernel Gzx.Gen.K01d.readBits in
when_kernel Gzx.Gen.K02e.readBits in
/-- 6 bits at bit offset 2: the low six bits; the source is byte-aligned again -/
theorem k_readBits_6_2 (off : Nat) (h : off < bs.length) :
    Gen.K02e.readBits (fuel + 1) (bytesI bs) (off : Int) 2 6 = .ok (((bs[off] % 64 : Nat) : Int), false, (off : Int) + 1, 0) := by
  refine k_readBits_of_model bs off 2 (by decide) 6 (fuel + 1) (by omega) _ ⟨bs, off + 1, 0⟩ ?_
  rw [readBits_admissible bs off 2 6 (by decide) (by decide) (by omega)]
  simp [readFirst, readRest, byteAt, List.getElem?_eq_getElem h]

when_kernel Gzx.Gen.K01d.readBits in
when_kernel Gzx.Gen.K02e.readBits in
/-- skipping the last 2 bits of a byte -/
theorem k_readBits_2_6 (off : Nat) (h : off < bs.length) :
    ∃ v, Gen.K02e.readBits (fuel + 1) (bytesI bs) (off : Int) 6 2 = .ok (v, false, (off : Int) + 1, 0) := by
  refine ⟨_, k_readBits_of_model bs off 6 (by decide) 2 (fuel + 1) (by omega) (bs[off] % 4) ⟨bs, off + 1, 0⟩ ?_⟩
  rw [readBits_admissible bs off 6 2 (by decide) (by decide) (by omega)]
  simp [readFirst, readRest, byteAt, List.getElem?_eq_getElem h]

when_kernel Gzx.Gen.K01d.readBits in
when_kernel Gzx.Gen.K02e.readBits in
/-- skipping the last 4 bits of a byte -/
theorem k_readBits_4_4 (off : Nat) (h : off < bs.length) :
    ∃ v, Gen.K02e.readBits (fuel + 1) (bytesI bs) (off : Int) 4 4 = .ok (v, false, (off : Int) + 1, 0) := by
  refine ⟨_, k_readBits_of_model bs off 4 (by decide) 4 (fuel + 1) (by omega) (bs[off] % 16) ⟨bs, off + 1, 0⟩ ?_⟩
  rw [readBits_admissible bs off 4 4 (by decide) (by decide) (by omega)]
  simp [readFirst, readRest, byteAt, List.getElem?_eq_getElem h]

end

/-! ## model side -/

/-- the characters of `edifactVals` and the index of the unlatch value, without the accumulator -/
def ediVals : List Nat → Nat → List Nat × Option Nat
  | [], _ => ([], none)
  | v :: vs, i => if v = 31 then ([], some i) else ((edifactChar v :: (ediVals vs (i + 1)).1), (ediVals vs (i + 1)).2)

theorem edifactVals_eq : ∀ (vs : List Nat) (i : Nat) (a : Acc),
    edifactVals vs i a = (a.pushAll (ediVals vs i).1, (ediVals vs i).2)
  | [], i, a => by simp [edifactVals, ediVals, Acc.pushAll]
  | v :: vs, i, a => by
    unfold edifactVals ediVals
    by_cases h : v = 31
    · simp [h, Acc.pushAll]
    · simp only [h, if_false]
      rw [edifactVals_eq vs (i + 1)]
      simp [pushAll_cons]

/-- the characters of `edifactSeg` and the bytes it consumes -/
def edifactOut : List Nat → List Nat × Nat
  | b1 :: b2 :: b3 :: rest =>
    match (ediVals (edifactUnpack b1 b2 b3) 0).2 with
    | some i => ((ediVals (edifactUnpack b1 b2 b3) 0).1, if i = 0 then 1 else if i = 1 then 2 else 3)
    | none => ((ediVals (edifactUnpack b1 b2 b3) 0).1 ++ (edifactOut rest).1, (edifactOut rest).2 + 3)
  | _ => ([], 0)

theorem pushAll_append (a : Acc) : ∀ (xs ys : List Nat), a.pushAll (xs ++ ys) = (a.pushAll xs).pushAll ys
  | [], ys => rfl
  | x :: xs, ys => by simp [Acc.pushAll, pushAll_append (a.push x) xs ys]

theorem edifactSeg_eq_out : ∀ (bs : List Nat) (a : Acc) (n : Nat),
    edifactSeg bs a n = (a.pushAll (edifactOut bs).1, n + (edifactOut bs).2)
  | [], a, n => by simp [edifactSeg, edifactOut, Acc.pushAll]
  | [_], a, n => by simp [edifactSeg, edifactOut, Acc.pushAll]
  | [_, _], a, n => by simp [edifactSeg, edifactOut, Acc.pushAll]
  | b1 :: b2 :: b3 :: rest, a, n => by
    rw [edifactSeg, edifactOut, edifactVals_eq]
    -- name the pair before anything has to be compared up to reduction: to decide `v = 31` inside
    -- `ediVals (edifactUnpack b1 b2 b3) 0` the kernel would normalise `b1 * 65536`, in unary (seconds each time)
    obtain ⟨cs, o, h⟩ : ∃ cs o, ediVals (edifactUnpack b1 b2 b3) 0 = (cs, o) := ⟨_, _, (Prod.eta _).symm⟩
    simp only [h]
    cases o with
    | none =>
      simp only []
      rw [edifactSeg_eq_out rest, pushAll_append, Nat.add_assoc, Nat.add_comm 3]
    | some i => rfl

/-! ## kernel side -/

/-- state of the loops: byte offset and bit offset of the source, `result` -/
abbrev SE := Int × Int × List Int
/-- what the function returns: `result`, the source's two offsets, and `result` once more as the written-back parameter -/
abbrev RE := List Int × Int × Int × List Int

theorem edifactChar_cast (v : Nat) (hv : v < 64) :
    wrap 8 (if (iand (v : Int) 32 == 0) = true then ior (v : Int) 64 else (v : Int)) = ((edifactChar v : Nat) : Int) := by
  have e1 : iand (v : Int) 32 = ((v &&& 32 : Nat) : Int) := iand_natCast v 32
  have e2 : ior (v : Int) 64 = ((v ||| 64 : Nat) : Int) := ior_natCast v 64
  rw [e1, e2]
  unfold edifactChar
  have hor : v ||| 64 < 256 := by
    have : v ||| 64 < 2 ^ 7 := Nat.or_lt_two_pow (by omega) (by decide)
    omega
  by_cases h : v &&& 32 = 0
  · have c : ((((v &&& 32 : Nat) : Int)) == 0) = true := by simp [h]
    simp only [if_true, h]
    exact wrap8_of_lt _ hor
  · have c : ((((v &&& 32 : Nat) : Int)) == 0) = false := by simp; omega
    simp only [c, Bool.false_eq_true, if_false, h]
    exact wrap8_of_lt _ (by omega)

when_kernel Gzx.Gen.K02e.readBits in
when_kernel Gzx.Gen.K02e.decodeEdifactSegment in
/-- one 6-bit value of the inner loop, from what the two reads answer -/
theorem edi_body2 (F : Nat) (xs : List Int) (i bo bi : Int) (res : List Int) (v : Nat) (hv : v < 64) (bo' bi' : Int)
    (hr : Gen.K02e.readBits F xs bo bi 6 = .ok ((v : Int), false, bo', bi')) (bo'' : Int)
    (hs : (bi' = 0 ∧ bo'' = bo') ∨ (bi' ≠ 0 ∧ ∃ w, Gen.K02e.readBits F xs bo' bi' (8 - bi') = .ok (w, false, bo'', 0))) :
    Gen.K02e.decodeEdifactSegment_body2 F xs i (bo, bi, res)
      = if v = 31 then (.ret (res, bo'', 0, res) : Ctl SE RE) else .next (bo', bi', res ++ [((edifactChar v : Nat) : Int)]) := by
  unfold Gen.K02e.decodeEdifactSegment_body2
  simp only [hr, tryC_ok]
  by_cases h31 : v = 31
  · have c : (((v : Nat) : Int) == 31) = true := by simp [h31]
    simp only [c, if_true]
    rw [if_pos h31]
    rcases hs with ⟨h0, hb⟩ | ⟨h0, w, hw⟩
    · subst h0 hb; simp
    · have c8 : (8 - bi' != 8) = true := by simp; omega
      simp only [c8, if_true, hw, tryC_ok, next_thenC]
  · have c : (((v : Nat) : Int) == 31) = false := by simp; omega
    simp only [c, Bool.false_eq_true, if_false, h31]
    rw [edifactChar_cast v hv]

theorem unpack_eq (b1 b2 b3 : Nat) (h1 : b1 < 256) (h2 : b2 < 256) (h3 : b3 < 256) :
    edifactUnpack b1 b2 b3 = [b1 / 4, (b1 % 4) * 16 + b2 / 16, (b2 % 16) * 4 + b3 / 64, b3 % 64] := by
  unfold edifactUnpack
  simp only [List.cons.injEq, and_true]
  refine ⟨?_, ?_, ?_, ?_⟩ <;> omega

when_kernel Gzx.Gen.K02e.decodeEdifactSegment in
/-- the four 6-bit values of three bytes: the characters up to an unlatch value (then the rest of its byte is skipped
    and the function returns), or all four -/
theorem edi_quad (F : Nat) (hF : 1 ≤ F) (bs : List Nat) (hb : ∀ b ∈ bs, b < 256) (off : Nat) (h : off + 2 < bs.length) (res : List Int) :
    GoM.loop (Gen.K02e.decodeEdifactSegment_body2 F (bytesI bs)) 1 4 0 ((off : Int), 0, res)
      = match (ediVals (edifactUnpack bs[off] bs[off + 1] bs[off + 2]) 0).2 with
        | some i => (.ret (res ++ bytesI (ediVals (edifactUnpack bs[off] bs[off + 1] bs[off + 2]) 0).1,
            ((off + (if i = 0 then 1 else if i = 1 then 2 else 3) : Nat) : Int), 0,
            res ++ bytesI (ediVals (edifactUnpack bs[off] bs[off + 1] bs[off + 2]) 0).1) : Ctl SE RE)
        | none => .next (((off + 3 : Nat) : Int), 0, res ++ bytesI (ediVals (edifactUnpack bs[off] bs[off + 1] bs[off + 2]) 0).1) := by
  obtain ⟨F, rfl⟩ : ∃ k, F = k + 1 := ⟨F - 1, by omega⟩
  have hb1 := hb _ (List.getElem_mem (show off < bs.length by omega))
  have hb2 := hb _ (List.getElem_mem (show off + 1 < bs.length by omega))
  have hb3 := hb _ (List.getElem_mem h)
  simp only [unpack_eq _ _ _ hb1 hb2 hb3]
  have e1 : (off : Int) + 1 = ((off + 1 : Nat) : Int) := by omega
  have e2 : ((off + 1 : Nat) : Int) + 1 = ((off + 2 : Nat) : Int) := by omega
  have e3 : ((off + 2 : Nat) : Int) + 1 = ((off + 3 : Nat) : Int) := by omega
  -- the four reads and the three skips
  have r0 := k_readBits_6_0 F bs hb off (by omega)
  have r1 := k_readBits_6_6 F bs hb off (by omega)
  have r2 := k_readBits_6_4 F bs hb (off + 1) (by omega)
  have r3 := k_readBits_6_2 F bs (off + 2) h
  obtain ⟨w0, s0⟩ := k_readBits_2_6 F bs off (by omega)
  obtain ⟨w1, s1⟩ := k_readBits_4_4 F bs (off + 1) (by omega)
  rw [e1] at r1 s0
  rw [e2] at r2 s1
  rw [e3] at r3
  generalize bs[off] = b1 at *
  generalize bs[off + 1] = b2 at *
  generalize bs[off + 2] = b3 at *
  rw [loop_succ, edi_body2 (F + 1) _ _ _ _ _ (b1 / 4) (by omega) _ _ r0 ((off + 1 : Nat) : Int)
    (Or.inr ⟨by decide, w0, by simpa using s0⟩)]
  unfold ediVals
  by_cases v0 : b1 / 4 = 31
  · simp [v0]
  simp only [v0, if_false]
  rw [loop_succ, edi_body2 (F + 1) _ _ _ _ _ (b1 % 4 * 16 + b2 / 16) (by omega) _ _ r1 ((off + 2 : Nat) : Int)
    (Or.inr ⟨by decide, w1, by simpa using s1⟩)]
  unfold ediVals
  by_cases v1 : b1 % 4 * 16 + b2 / 16 = 31
  · simp [v1, bytesI]
  simp only [v1, if_false]
  rw [loop_succ, edi_body2 (F + 1) _ _ _ _ _ (b2 % 16 * 4 + b3 / 64) (by omega) _ _ r2 ((off + 3 : Nat) : Int)
    (Or.inr ⟨by decide, _, by simpa using r3⟩)]
  unfold ediVals
  by_cases v2 : b2 % 16 * 4 + b3 / 64 = 31
  · simp [v2, bytesI]
  simp only [v2, if_false]
  rw [loop_succ, edi_body2 (F + 1) _ _ _ _ _ (b3 % 64) (by omega) _ _ r3 ((off + 3 : Nat) : Int) (Or.inl ⟨rfl, rfl⟩)]
  unfold ediVals
  by_cases v3 : b3 % 64 = 31
  · simp [v3, bytesI]
  · simp [v3, bytesI, ediVals, loop_zero]

when_kernel Gzx.Gen.K02e.decodeEdifactSegment in
theorem edi_body1_end (F : Nat) (bs : List Nat) (off : Nat) (h : bs.length ≤ off) (res : List Int) :
    Gen.K02e.decodeEdifactSegment_body1 F (bytesI bs) ((off : Int), 0, res) = .brk ((off : Int), 0, res) := by
  unfold Gen.K02e.decodeEdifactSegment_body1
  simp only [k_available_eq, tryC_ok, bytesI_length]
  have c : decide (8 * ((bs.length : Int) - (off : Int)) - 0 > 0) = false := by simp; omega
  simp only [c, Bool.false_eq_true, if_false]

when_kernel Gzx.Gen.K02e.decodeEdifactSegment in
theorem edi_body1_few (F : Nat) (bs : List Nat) (off : Nat) (h1 : off < bs.length) (h2 : bs.length ≤ off + 2) (res : List Int) :
    Gen.K02e.decodeEdifactSegment_body1 F (bytesI bs) ((off : Int), 0, res) = .ret (res, (off : Int), 0, res) := by
  unfold Gen.K02e.decodeEdifactSegment_body1
  simp only [k_available_eq, tryC_ok, bytesI_length]
  have c : decide (8 * ((bs.length : Int) - (off : Int)) - 0 > 0) = true := by simp; omega
  have c16 : decide (8 * ((bs.length : Int) - (off : Int)) - 0 ≤ 16) = true := by simp; omega
  simp only [c, c16, if_true]

when_kernel Gzx.Gen.K02e.decodeEdifactSegment in
theorem edi_body1_quad (F : Nat) (bs : List Nat) (off : Nat) (h : off + 2 < bs.length) (res : List Int) :
    Gen.K02e.decodeEdifactSegment_body1 F (bytesI bs) ((off : Int), 0, res)
      = (GoM.loop (Gen.K02e.decodeEdifactSegment_body2 F (bytesI bs)) 1 4 0 ((off : Int), 0, res)).thenC fun st =>
          .next (st.1, st.2.1, st.2.2) := by
  unfold Gen.K02e.decodeEdifactSegment_body1
  simp only [k_available_eq, tryC_ok, bytesI_length]
  have c : decide (8 * ((bs.length : Int) - (off : Int)) - 0 > 0) = true := by simp; omega
  have c16 : decide (8 * ((bs.length : Int) - (off : Int)) - 0 ≤ 16) = false := by simp; omega
  simp only [c, c16, if_true, Bool.false_eq_true, if_false, tripUp_one]
  rfl

when_kernel Gzx.Gen.K02e.decodeEdifactSegment in
theorem edi_loop (F : Nat) (hF : 1 ≤ F) (bs : List Nat) (hb : ∀ b ∈ bs, b < 256)
    (K : SE → Res RE) (hK : ∀ bo bi res, K (bo, bi, res) = .ok (res, bo, bi, res)) :
    ∀ (m off : Nat) (res : List Int) (f : Nat), bs.length - off ≤ m → off ≤ bs.length → m < f →
      (whileLoop (Gen.K02e.decodeEdifactSegment_body1 F (bytesI bs)) f ((off : Int), 0, res)).thenR K
        = .ok (res ++ bytesI (edifactOut (bs.drop off)).1, ((off + (edifactOut (bs.drop off)).2 : Nat) : Int), 0,
            res ++ bytesI (edifactOut (bs.drop off)).1) := by
  intro m off res f hm hoff hf
  refine whileLoop_ind (body := Gen.K02e.decodeEdifactSegment_body1 F (bytesI bs))
    (fun m s c => ∀ (off : Nat) res, s = ((off : Int), 0, res) → bs.length - off ≤ m → off ≤ bs.length →
      c.thenR K = .ok (res ++ bytesI (edifactOut (bs.drop off)).1, ((off + (edifactOut (bs.drop off)).2 : Nat) : Int), 0,
        res ++ bytesI (edifactOut (bs.drop off)).1))
    (fun m s W ih off res hs hm hoff => ?_) f m _ hf off res rfl hm hoff
  subst hs
  by_cases h0 : off = bs.length
  · rw [List.drop_eq_nil_of_le (by omega), edi_body1_end F bs off (by omega)]
    simp [hK, edifactOut, bytesI]
  by_cases h3 : bs.length ≤ off + 2
  · rw [edi_body1_few F bs off (by omega) h3]
    have hout : edifactOut (bs.drop off) = ([], 0) := by
      have hl : (bs.drop off).length ≤ 2 := by simp; omega
      match hdd : bs.drop off, hl with
      | [], _ => rfl
      | [_], _ => rfl
      | [_, _], _ => rfl
    simp [hout, bytesI]
  have hlt : off + 2 < bs.length := by omega
  have hd : bs.drop off = bs[off] :: bs[off + 1] :: bs[off + 2] :: bs.drop (off + 3) := by
    rw [List.drop_eq_getElem_cons (by omega), List.drop_eq_getElem_cons (by omega), List.drop_eq_getElem_cons hlt]
  rw [edi_body1_quad F bs off hlt, edi_quad F hF bs hb off hlt, hd, edifactOut]
  obtain ⟨cs, o, hv⟩ : ∃ cs o, ediVals (edifactUnpack bs[off] bs[off + 1] bs[off + 2]) 0 = (cs, o) :=
    ⟨_, _, (Prod.eta _).symm⟩
  simp only [hv]
  cases o with
  | none =>
    simp only [next_thenC]
    rw [ih (m - 1) _ (by omega) (off + 3) _ rfl (by omega) (by omega)]
    simp [bytesI]
    omega
  | some i => simp

when_kernel Gzx.Gen.K02e.decodeEdifactSegment in
/-- `decodeEdifactSegment(bits, result)` on a byte-aligned source at byte `off` of `bs` = the model's `edifactSeg` on the
    remaining bytes, for every accumulator: the appended bytes are the characters the model pushes (6-bit values, `01`
    prefixed below 32), an unlatch value 31 skips the rest of its byte, fewer than three bytes are left to ASCII -/
theorem k_decodeEdifactSegment_eq (fuel : Nat) (bs : List Nat) (hb : ∀ b ∈ bs, b < 256) (off : Nat) (hoff : off ≤ bs.length)
    (hf : bs.length + 2 ≤ fuel) (result : List Int) (a : Acc) (n : Nat) :
    ∃ d k, edifactOut (bs.drop off) = (d, k) ∧ edifactSeg (bs.drop off) a n = (a.pushAll d, n + k) ∧
      Gen.K02e.decodeEdifactSegment fuel (bytesI bs) (off : Int) 0 result
        = .ok (result ++ bytesI d, ((off + k : Nat) : Int), 0, result ++ bytesI d) := by
  refine ⟨(edifactOut (bs.drop off)).1, (edifactOut (bs.drop off)).2, rfl, edifactSeg_eq_out _ _ _, ?_⟩
  have hk : Gen.K02e.decodeEdifactSegment fuel (bytesI bs) (off : Int) 0 result
      = (whileLoop (Gen.K02e.decodeEdifactSegment_body1 fuel (bytesI bs)) fuel ((off : Int), 0, result)).thenR
          (fun st => .ok (st.2.2, st.1, st.2.1, st.2.2)) := by
    unfold Gen.K02e.decodeEdifactSegment
    rfl
  rw [hk]
  exact edi_loop fuel (by omega) bs hb _ (fun _ _ _ => rfl) (bs.length - off) off result fuel (Nat.le_refl _) hoff (by omega)

when_kernel Gzx.Gen.K02e.decodeEdifactSegment in
/-- non-vacuity: "AB" + unlatch in the third value -/
example : Gen.K02e.decodeEdifactSegment 10 (bytesI [0x04, 0x27, 0xC0, 9]) 0 0 [] = .ok ([65, 66], 3, 0, [65, 66]) := by decide

end Gzx.Obligations.K02e
