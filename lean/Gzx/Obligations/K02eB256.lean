/-
  K02e — `decodeBase256Segment` of datamatrix/decoder/decoded_bit_stream_parser.go, regenerated from /repo on
  every run (`Gzx.Gen.K02e.decodeBase256Segment`: the length byte(s) with `unrandomize255State`, "rest of the symbol" for
  d1 = 0, the two-byte length from 250 on, the data loop with its `bits.Available() < 8` FormatException exit, the byte
  segment, the ISO-8859-1 decoder as the SPECIFIED function `latin1Utf8`), proved equal to the model `DMHighLevel.b256Seg`
  for every byte-aligned bit source that has a byte left (`k_decodeBase256Segment_eq`).
-/
import Gzx.Obligations.K02eAscii
namespace Gzx.Obligations.K02e
open Gzx Gzx.GoM Gzx.GoVal Gzx.DMHighLevel

/-! ## model side -/

/-- the characters of `b256Data` (none: the bytes run out) -/
def b256DataOut : Nat → List Nat → Nat → Option (List Nat)
  | 0, _, _ => some []
  | _ + 1, [], _ => none
  | k + 1, b :: bs, pos => (b256DataOut k bs (pos + 1)).map (unrand255 b pos :: ·)

def Acc.push256All (a : Acc) : List Nat → Acc
  | [] => a
  | c :: cs => Acc.push256All (a.push256 c) cs

theorem b256Data_eq_out : ∀ (k : Nat) (bs : List Nat) (pos : Nat) (a : Acc),
    b256Data k bs pos a = match b256DataOut k bs pos with
      | some d => .ok (Acc.push256All a d)
      | none => .error .format
  | 0, _, _, a => by simp [b256Data, b256DataOut, Acc.push256All]
  | _ + 1, [], _, _ => by simp [b256Data, b256DataOut]
  | k + 1, b :: bs, pos, a => by
    simp only [b256Data, b256DataOut]
    rw [b256Data_eq_out k bs (pos + 1)]
    cases b256DataOut k bs (pos + 1) <;> simp [Acc.push256All]

/-- the characters of `b256Seg` and the bytes it consumes -/
def b256Out (rest : List Nat) (off : Nat) : Res (List Nat × Nat) :=
  match rest with
  | [] => .ok ([], 0)
  | b :: r1 =>
    let d1 := unrand255 b (off + 1)
    if d1 = 0 then
      match b256DataOut r1.length r1 (off + 2) with
      | some d => .ok (d, 1 + r1.length)
      | none => .error .format
    else if d1 < 250 then
      match b256DataOut d1 r1 (off + 2) with
      | some d => .ok (d, 1 + d1)
      | none => .error .format
    else
      match r1 with
      | [] => .error .format
      | b2 :: r2 =>
        match b256DataOut (250 * (d1 - 249) + unrand255 b2 (off + 2)) r2 (off + 3) with
        | some d => .ok (d, 2 + (250 * (d1 - 249) + unrand255 b2 (off + 2)))
        | none => .error .format

theorem b256Seg_eq_out (rest : List Nat) (off : Nat) (a : Acc) :
    b256Seg rest off a = (b256Out rest off).map (fun p => (Acc.push256All a p.1, p.2)) := by
  unfold b256Seg b256Out
  cases rest with
  | nil => simp [Except.map, Acc.push256All]
  | cons b r1 =>
    simp only [b256Data_eq_out]
    split
    · cases b256DataOut r1.length r1 (off + 2) <;> simp [Except.map]
    · split
      · cases b256DataOut (unrand255 b (off + 1)) r1 (off + 2) <;> simp [Except.map]
      · cases r1 with
        | nil => simp [Except.map]
        | cons b2 r2 =>
          simp only []
          cases b256DataOut (250 * (unrand255 b (off + 1) - 249) + unrand255 b2 (off + 2)) r2 (off + 3) <;> simp [Except.map]

/-! ## kernel side -/

theorem unrand255_lt (b pos : Nat) (hb : b < 256) : unrand255 b pos < 256 := by
  unfold unrand255
  simp only
  split <;> omega

when_kernel Gzx.Gen.K02e.unrandomize255State in
theorem k_unrand_eq (b pos : Nat) :
    Gen.K02e.unrandomize255State (b : Int) (pos : Int) = .ok ((unrand255 b pos : Nat) : Int) := by
  unfold Gen.K02e.unrandomize255State unrand255
  have e : Int.tmod (149 * (pos : Int)) 255 = (((149 * pos) % 255 : Nat) : Int) := by
    have := tmod_natCast (149 * pos) 255
    rw [← this]; simp
  simp only [e]
  by_cases h : b ≥ (149 * pos) % 255 + 1
  · have c : decide ((b : Int) - ((((149 * pos) % 255 : Nat) : Int) + 1) ≥ 0) = true := by simp; omega
    simp only [c, if_true, h]
    congr 1; omega
  · have c : decide ((b : Int) - ((((149 * pos) % 255 : Nat) : Int) + 1) ≥ 0) = false := by simp; omega
    simp only [c, Bool.false_eq_true, if_false, h]
    congr 1; omega

abbrev RB := List Int × List (List Int) × Bool × Int × Int × List Int

when_kernel Gzx.Gen.K02e.decodeBase256Segment in
theorem b256_body_dry (F : Nat) (bs : List Nat) (result : List Int) (segs : List (List Int)) (i pos : Int) (buf : List Int) :
    Gen.K02e.decodeBase256Segment_body1 F (bytesI bs) result segs i ((bs.length : Int), 0, pos, buf)
      = .ret (result, segs, true, (bs.length : Int), 0, result) := by
  unfold Gen.K02e.decodeBase256Segment_body1
  simp only [k_available_eq, tryC_ok, bytesI_length]
  have c : decide (8 * ((bs.length : Int) - (bs.length : Int)) - 0 < 8) = true := by simp
  simp only [c, if_true]

when_kernel Gzx.Gen.K02e.decodeBase256Segment in
theorem b256_body_read (F : Nat) (hF : 2 ≤ F) (bs : List Nat) (hb : ∀ b ∈ bs, b < 256) (result : List Int) (segs : List (List Int))
    (off pos : Nat) (hlt : off < bs.length) (pre : List Int) (r : Int) (rs : List Int) :
    Gen.K02e.decodeBase256Segment_body1 F (bytesI bs) result segs (pre.length : Int) ((off : Int), 0, (pos : Int), pre ++ r :: rs)
      = .next (((off + 1 : Nat) : Int), 0, ((pos + 1 : Nat) : Int), (pre ++ [((unrand255 bs[off] pos : Nat) : Int)]) ++ rs) := by
  unfold Gen.K02e.decodeBase256Segment_body1
  simp only [k_available_eq, tryC_ok, bytesI_length]
  have c : decide (8 * ((bs.length : Int) - (off : Int)) - 0 < 8) = false := by simp; omega
  simp only [c, Bool.false_eq_true, if_false]
  rw [k_readBits8 F hF bs hb off hlt]
  simp only [tryC_ok]
  rw [k_unrand_eq]
  simp only [tryC_ok]
  have hw := wrap8_of_lt _ (unrand255_lt bs[off] pos (hb _ (List.getElem_mem hlt)))
  rw [hw, setIdx_seam pre r _ rs _ rfl]
  simp only [tryC_ok]
  have e1 : (off : Int) + 1 = ((off + 1 : Nat) : Int) := by omega
  have e2 : (pos : Int) + 1 = ((pos + 1 : Nat) : Int) := by omega
  rw [e1, e2]
  simp

when_kernel Gzx.Gen.K02e.decodeBase256Segment in
/-- the data loop: `n` more bytes into `bytes[i …]`, or the FormatException exit when the source runs dry -/
theorem b256_data_loop (F : Nat) (hF : 2 ≤ F) (bs : List Nat) (hb : ∀ b ∈ bs, b < 256) (result : List Int) (segs : List (List Int)) :
    ∀ (n off pos : Nat) (pre rest : List Int), off ≤ bs.length → n ≤ rest.length →
      GoM.loop (Gen.K02e.decodeBase256Segment_body1 F (bytesI bs) result segs) 1 n (pre.length : Int)
          ((off : Int), 0, (pos : Int), pre ++ rest)
        = match b256DataOut n (bs.drop off) pos with
          | some d => .next (((off + n : Nat) : Int), 0, ((pos + n : Nat) : Int), pre ++ bytesI d ++ rest.drop n)
          | none => (.ret (result, segs, true, (bs.length : Int), 0, result) : Ctl (Int × Int × Int × List Int) RB) := by
  intro n
  induction n with
  | zero => intro off pos pre rest _ _; simp [GoM.loop, b256DataOut, bytesI]
  | succ n ih =>
    intro off pos pre rest hoff hn
    obtain ⟨r, rs, rfl⟩ : ∃ r rs, rest = r :: rs := by
      cases rest with
      | nil => simp at hn
      | cons r rs => exact ⟨r, rs, rfl⟩
    rw [loop_succ]
    by_cases hend : off = bs.length
    · have hd : bs.drop off = [] := List.drop_eq_nil_of_le (by omega)
      rw [hd, hend, b256_body_dry]
      simp [b256DataOut]
    · have hlt : off < bs.length := by omega
      rw [b256_body_read F hF bs hb result segs off pos hlt pre r rs, List.drop_eq_getElem_cons hlt]
      simp only [b256DataOut]
      have e3 : (pre.length : Int) + 1 = ((pre ++ [((unrand255 bs[off] pos : Nat) : Int)]).length : Int) := by simp
      rw [e3, ih (off + 1) (pos + 1) _ rs (by omega) (by simpa using hn)]
      cases b256DataOut n (bs.drop (off + 1)) (pos + 1) with
      | none => simp
      | some d =>
        simp [bytesI]
        omega

theorem b256Out_error (rest : List Nat) (off : Nat) (e : Fault) (h : b256Out rest off = .error e) : e = .format := by
  unfold b256Out at h
  cases rest with
  | nil => simp at h
  | cons b r1 =>
    simp only at h
    split at h
    · split at h <;> cases h; rfl
    · split at h
      · split at h <;> cases h; rfl
      · cases r1 with
        | nil => cases h; rfl
        | cons b2 r2 =>
          simp only at h
          split at h <;> cases h; rfl

when_kernel Gzx.Gen.K02e.decodeBase256Segment in
/-- the part of decodeBase256Segment after the length: allocate `count` bytes, fill them, append -/
theorem b256_tail (F : Nat) (hF : 2 ≤ F) (bs : List Nat) (hb : ∀ b ∈ bs, b < 256) (result : List Int) (segs : List (List Int))
    (count off pos : Nat) (hoff : off ≤ bs.length)
    (K : Int × Int × Int × List Int → Res RB)
    (hK : ∀ bo bi p buf, K (bo, bi, p, buf) = .ok (result ++ latin1Utf8 buf, segs ++ [buf], false, bo, bi, result ++ latin1Utf8 buf)) :
    (tryR (mk (count : Int)) fun t6 =>
      (GoM.loop (Gen.K02e.decodeBase256Segment_body1 F (bytesI bs) result segs) 1 (tripUp 0 (count : Int) 1) 0
        ((off : Int), 0, (pos : Int), t6)).thenR K)
      = match b256DataOut count (bs.drop off) pos with
        | some d => .ok (result ++ latin1Utf8 (bytesI d), segs ++ [bytesI d], false, ((off + count : Nat) : Int), 0, result ++ latin1Utf8 (bytesI d))
        | none => .ok (result, segs, true, (bs.length : Int), 0, result) := by
  rw [mk_nats _ count rfl]
  simp only [tryR_ok, tripUp_one]
  have hn : ((count : Int) - 0).toNat = count := by omega
  rw [hn]
  have := b256_data_loop F hF bs hb result segs count off pos [] (words (List.replicate count 0)) hoff (by simp [words])
  simp only [List.length_nil, List.nil_append] at this
  have h0 : ((0 : Nat) : Int) = 0 := rfl
  rw [h0] at this
  rw [this]
  cases b256DataOut count (bs.drop off) pos with
  | none => simp
  | some d => simp [hK, words]

when_kernel Gzx.Gen.K02e.unrandomize255State in
when_kernel Gzx.Gen.K02e.decodeBase256Segment in
/-- `decodeBase256Segment(bits, result, byteSegments)` on a byte-aligned source with a byte left at byte `off` of `bs` = the
    model's `b256Seg`: the un-randomised bytes become a byte segment and are appended to `result` as UTF-8, the source
    advances by the bytes the model consumes; the model's FormatException (the data run out) is the kernel's error flag -/
theorem k_decodeBase256Segment_eq (fuel : Nat) (hf : 2 ≤ fuel) (bs : List Nat) (hb : ∀ b ∈ bs, b < 256) (off : Nat)
    (hoff : off < bs.length) (result : List Int) (segs : List (List Int)) (a : Acc) :
    match b256Seg (bs.drop off) off a with
    | .ok (a', n) => ∃ d, a' = Acc.push256All a d ∧
        Gen.K02e.decodeBase256Segment fuel (bytesI bs) (off : Int) 0 result segs
          = .ok (result ++ latin1Utf8 (bytesI d), segs ++ [bytesI d], false, ((off + n : Nat) : Int), 0, result ++ latin1Utf8 (bytesI d))
    | .error e => e = .format ∧ ∃ bo, Gen.K02e.decodeBase256Segment fuel (bytesI bs) (off : Int) 0 result segs
          = .ok (result, segs, true, bo, 0, result) := by
  rw [b256Seg_eq_out]
  -- the kernel, as a function of the model's `b256Out`
  have key : Gen.K02e.decodeBase256Segment fuel (bytesI bs) (off : Int) 0 result segs =
      match b256Out (bs.drop off) off with
      | .ok (d, n) => .ok (result ++ latin1Utf8 (bytesI d), segs ++ [bytesI d], false, ((off + n : Nat) : Int), 0, result ++ latin1Utf8 (bytesI d))
      | .error _ => .ok (result, segs, true, (bs.length : Int), 0, result) := by
    unfold Gen.K02e.decodeBase256Segment b256Out
    rw [List.drop_eq_getElem_cons hoff, k_readBits8 fuel hf bs hb off hoff]
    simp only [tryR_ok]
    have e1 : (1 : Int) + (off : Int) = ((off + 1 : Nat) : Int) := by omega
    have e2 : ((off + 1 : Nat) : Int) + 1 = ((off + 2 : Nat) : Int) := by omega
    have e3 : (off : Int) + 1 = ((off + 1 : Nat) : Int) := by omega
    rw [e1, k_unrand_eq, e2, e3]
    simp only [tryR_ok]
    generalize hd1 : unrand255 bs[off] (off + 1) = d1
    have hd1lt : d1 < 256 := by rw [← hd1]; exact unrand255_lt _ _ (hb _ (List.getElem_mem hoff))
    by_cases h0 : d1 = 0
    · have c0 : (((d1 : Nat) : Int) == 0) = true := by simp [h0]
      simp only [c0, if_true, k_available_eq, tryC_ok, bytesI_length, next_thenR]
      rw [if_pos h0]
      have hc : Int.tdiv (8 * ((bs.length : Int) - ((off + 1 : Nat) : Int)) - 0) 8 = (((bs.drop (off + 1)).length : Nat) : Int) := by
        simp only [List.length_drop]
        have : (8 * ((bs.length : Int) - ((off + 1 : Nat) : Int)) - 0) = ((8 * (bs.length - (off + 1)) : Nat) : Int) := by omega
        rw [this, show (8 : Int) = ((8 : Nat) : Int) from rfl, tdiv_natCast]
        congr 1; omega
      rw [hc]
      have cn : decide ((((bs.drop (off + 1)).length : Nat) : Int) < 0) = false := decide_eq_false (by omega)
      simp only [cn, Bool.false_eq_true, if_false]
      rw [b256_tail fuel hf bs hb result segs _ (off + 1) (off + 2) (by omega) _ (by intros; rfl)]
      cases b256DataOut (bs.drop (off + 1)).length (bs.drop (off + 1)) (off + 2) with
      | none => simp
      | some d => simp; omega
    · have c0 : (((d1 : Nat) : Int) == 0) = false := by simp; omega
      simp only [c0, Bool.false_eq_true, if_false, h0]
      by_cases h250 : d1 < 250
      · have c250 : decide (((d1 : Nat) : Int) < 250) = true := by simp; omega
        have cn : decide (((d1 : Nat) : Int) < 0) = false := decide_eq_false (by omega)
        simp only [c250, if_true, next_thenR, cn, Bool.false_eq_true, if_false, h250]
        rw [b256_tail fuel hf bs hb result segs _ (off + 1) (off + 2) (by omega) _ (by intros; rfl)]
        cases b256DataOut d1 (bs.drop (off + 1)) (off + 2) with
        | none => simp
        | some d => simp; omega
      · have c250 : decide (((d1 : Nat) : Int) < 250) = false := by simp; omega
        simp only [c250, Bool.false_eq_true, if_false, h250]
        by_cases hlast : off + 1 = bs.length
        · -- no second length byte: the read fails (ignored), the count is positive, the first data read finds no bits
          have hd : bs.drop (off + 1) = [] := List.drop_eq_nil_of_le (by omega)
          rw [hd, k_readBits_short fuel (bytesI bs) _ _ _ (by simp [bytesI]; omega)]
          simp only [tryC_ok]
          have hu : Gen.K02e.unrandomize255State 0 ((off + 2 : Nat) : Int) = .ok ((unrand255 0 (off + 2) : Nat) : Int) :=
            k_unrand_eq 0 (off + 2)
          rw [hu]
          simp only [tryC_ok, next_thenR]
          generalize unrand255 0 (off + 2) = u
          have hcnt : (250 : Int) * (((d1 : Nat) : Int) - 249) + ((u : Nat) : Int) = ((250 * (d1 - 249) + u : Nat) : Int) := by omega
          rw [hcnt]
          have cn : decide (((250 * (d1 - 249) + u : Nat) : Int) < 0) = false := decide_eq_false (by omega)
          simp only [cn, Bool.false_eq_true, if_false]
          rw [mk_nats _ _ rfl]
          simp only [tryR_ok, tripUp_one]
          obtain ⟨k, hk⟩ : ∃ k, ((((250 * (d1 - 249) + u : Nat) : Int)) - 0).toNat = k + 1 := ⟨250 * (d1 - 249) + u - 1, by omega⟩
          rw [hk, loop_succ]
          have e4 : ((off + 1 : Nat) : Int) = (bs.length : Int) := by omega
          rw [e4, b256_body_dry]
          simp
        · have hlt : off + 1 < bs.length := by omega
          rw [List.drop_eq_getElem_cons hlt, k_readBits8 fuel hf bs hb (off + 1) hlt]
          simp only [tryC_ok]
          rw [k_unrand_eq]
          simp only [tryC_ok, next_thenR]
          generalize unrand255 bs[off + 1] (off + 2) = u
          have hcnt : (250 : Int) * (((d1 : Nat) : Int) - 249) + ((u : Nat) : Int) = ((250 * (d1 - 249) + u : Nat) : Int) := by omega
          have e5 : ((off + 1 : Nat) : Int) + 1 = ((off + 2 : Nat) : Int) := by omega
          have e6 : ((off + 2 : Nat) : Int) + 1 = ((off + 3 : Nat) : Int) := by omega
          rw [hcnt, e5, e6]
          have cn : decide (((250 * (d1 - 249) + u : Nat) : Int) < 0) = false := decide_eq_false (by omega)
          simp only [cn, Bool.false_eq_true, if_false]
          rw [b256_tail fuel hf bs hb result segs _ (off + 2) (off + 3) (by omega) _ (by intros; rfl)]
          cases b256DataOut (250 * (d1 - 249) + u) (bs.drop (off + 1 + 1)) (off + 3) with
          | none => simp
          | some d => simp; omega
  rw [key]
  cases hx : b256Out (bs.drop off) off with
  | error e => exact ⟨b256Out_error _ _ _ hx, _, rfl⟩
  | ok p => exact ⟨p.1, rfl, rfl⟩

end Gzx.Obligations.K02e
