/-
  K17c — `HybridBinarizer.calculateThresholdForBlock`, regenerated from /repo on every run together with the
  `cap`, `thresholdBlock` and `BitMatrix.Set` it calls (`Gzx.Gen.K17`), proved equal to the word-level mirror `K17c.hybW` (clamped
  pixel offsets, clamped 5x5 window, checked reads of `blackPoints`, `sum/25`, the 8x8 scan) and through `K17c.hybW_agrees`
  to `Binarizer.hybridBlocks`, the model the C17 theorems are about.
-/
import Gzx.Gen.K17
import Gzx.KernelGuard
import Gzx.Proofs.K17c
import Gzx.Obligations.K17Hyb
import Gzx.Obligations.K17Lum
namespace Gzx.Obligations.K17c
open Gzx Gzx.GoM Gzx.Bits Gzx.GoVal Gzx.Binarizer Gzx.K17 Gzx.K17b Gzx.K17c Gzx.Obligations.K17Hyb

/-- the Go `[][]int` of a model table of black points -/
def rows2 (bps : List (List Nat)) : List (List Int) := bps.map bytes

/-- what the kernel makes of a model sum: the value, or the index panic -/
def expSum (s : Int) : Res Nat → Ctl Int (List Int)
  | .ok v => .next (s + (v : Int))
  | .error _ => .panic oob

when_kernel Gzx.Gen.K17.calculateThresholdForBlock in
/-- one row of the 5x5 window: `blackRow := blackPoints[top+z]; sum += blackRow[left-2] + … + blackRow[left+2]` -/
theorem k_ctb_row (bps : List (List Nat)) (top left r : Nat) (z : Int) (hz : (top : Int) + z = r) (s : Int) :
    Gen.K17.calculateThresholdForBlock_body3 (rows2 bps) top left z s = expSum s (rowSum5 bps left r) := by
  simp only [Gen.K17.calculateThresholdForBlock_body3, rowSum5]
  rw [hz, rows2, idxRow_eq_idxA, idxA_map, idxA_natCast]
  cases bps[r]? with
  | none => rfl
  | some row =>
    simp only [Except.map, tryC_ok, sum5]
    by_cases hl : left < 2
    · rw [idx_neg _ _ (by omega)]
      simp [hl, expSum]
    · simp only [hl, if_false]
      have e2 : (left : Int) - 2 = ((left - 2 : Nat) : Int) := by omega
      have e1 : (left : Int) - 1 = ((left - 1 : Nat) : Int) := by omega
      have e3 : (left : Int) + 1 = ((left + 1 : Nat) : Int) := by omega
      have e4 : (left : Int) + 2 = ((left + 2 : Nat) : Int) := by omega
      rw [e2, e1, e3, e4, bytes, idx_bytes, idx_bytes, idx_bytes, idx_bytes, idx_bytes]
      cases row[left - 2]? with
      | none => rfl
      | some a =>
        cases row[left - 1]? with
        | none => rfl
        | some b =>
          cases row[left]? with
          | none => rfl
          | some c =>
            cases row[left + 1]? with
            | none => rfl
            | some d =>
              cases row[left + 2]? with
              | none => rfl
              | some e =>
                simp only [tryC_ok, expSum]
                congr 1

when_kernel Gzx.Gen.K17.calculateThresholdForBlock in
/-- `k` rows of the window starting at row `r0` -/
theorem k_ctb_rows (bps : List (List Nat)) (top left : Nat) (k r0 : Nat) (s : Int) :
    loop (Gen.K17.calculateThresholdForBlock_body3 (rows2 bps) top left) 1 k ((r0 : Int) - (top : Int)) s =
      match mapME (rowSum5 bps left) (List.range' r0 k) with
      | .ok sums => .next (s + ((sums.foldl (· + ·) 0 : Nat) : Int))
      | .error _ => .panic oob := by
  have h := loop_reads (fun sums => s + ((sums.foldl (· + ·) 0 : Nat) : Int)) (rowSum5 bps left) oob 1
    (fun k => (k : Int) - (top : Int)) (fun _ => by omega) (Gen.K17.calculateThresholdForBlock_body3 (rows2 bps) top left) k r0
    (fun r sums _ _ _ => by
      rw [k_ctb_row bps top left r _ (by omega)]
      cases rowSum5 bps left r with
      | error _ => rfl
      | ok v => simp only [expSum, List.foldl_append, List.foldl_cons, List.foldl_nil, Int.natCast_add, Int.add_assoc])
  simp only [List.foldl_nil, Int.natCast_zero, Int.add_zero] at h
  exact h.trans (by cases mapME (rowSum5 bps left) (List.range' r0 k) <;> rfl)

when_kernel Gzx.Gen.K17.calculateThresholdForBlock in
/-- the whole window: the kernel's `sum` is `K17c.thrSum` (or the index panic) -/
theorem k_ctb_sum (bps : List (List Nat)) (top left : Nat) :
    loop (Gen.K17.calculateThresholdForBlock_body3 (rows2 bps) top left) 1 5 (-2) 0 =
      match thrSum bps top left with
      | .ok v => .next ((v : Nat) : Int)
      | .error _ => .panic oob := by
  unfold thrSum
  by_cases h : top < 2
  · simp only [h, if_true]
    rw [loop_succ]
    simp only [Gen.K17.calculateThresholdForBlock_body3]
    rw [idxRow_eq_idxA, idxA_neg _ _ (by omega)]
    rfl
  · simp only [h, if_false]
    rw [five_rows top h]
    have := k_ctb_rows bps top left 5 (top - 2) 0
    rw [show (((top - 2 : Nat) : Int) - (top : Int)) = -2 by omega] at this
    rw [this]
    cases mapME (rowSum5 bps left) (List.range' (top - 2) 5) with
    | error e => rfl
    | ok sums => simp

/-- `x << 3` clamped to `dim - 8` -/
theorem blockOffset_cast (i dim : Nat) (hd : 8 ≤ dim) :
    (if decide (ishl (i : Int) 3 > (dim : Int) - 8) = true then (dim : Int) - 8 else ishl (i : Int) 3) =
      ((blockOffset i dim : Nat) : Int) := by
  have e : ishl (i : Int) 3 = ((i * 8 : Nat) : Int) := by
    rw [show (3 : Int) = ((3 : Nat) : Int) from rfl, ishl_natCast, Nat.shiftLeft_eq]
  rw [e]
  unfold blockOffset
  by_cases h : i * 8 > dim - 8
  · have : ((i * 8 : Nat) : Int) > (dim : Int) - 8 := by omega
    simp only [this, h, decide_true, if_true]; omega
  · have : ¬ ((i * 8 : Nat) : Int) > (dim : Int) - 8 := by omega
    simp only [this, h, decide_false, Bool.false_eq_true, if_false]

when_kernel Gzx.Gen.K17.calculateThresholdForBlock in
theorem k_ctb_block (lum : List Nat) (w h : Nat) (bps : List (List Nat)) (subW subH rs y x : Nat) (ws : List Nat)
    (hw : 8 ≤ w) (hsw : 3 ≤ subW) :
    Gen.K17.calculateThresholdForBlock_body2 (bytes lum) subW w (rows2 bps) rs ((w : Int) - 8) ((blockOffset y h : Nat) : Int)
        ((cap y 2 (subH - 3) : Nat) : Int) (x : Int) (words ws) =
      ofRes ((hybBlockW lum w h bps subW subH rs y ws x).map words) := by
  simp only [Gen.K17.calculateThresholdForBlock_body2, hybBlockW]
  have hc : Gen.K17.cap (x : Int) 2 ((subW - 3 : Nat) : Int) = .ok ((cap x 2 (subW - 3) : Nat) : Int) :=
    K17Lum.k_cap_eq x 2 (subW - 3)
  rw [blockOffset_cast x w hw, show (subW : Int) - 3 = ((subW - 3 : Nat) : Int) by omega, hc]
  simp only [tryC_ok]
  rw [show tripUp (-2) 3 1 = 5 from rfl, k_ctb_sum, blockThreshold_eq]
  cases thrSum bps (cap y 2 (subH - 3)) (cap x 2 (subW - 3)) with
  | error e => rfl
  | ok v =>
    simp only [Except.map, next_thenC]
    rw [show (25 : Int) = ((25 : Nat) : Int) from rfl, tdiv_natCast, k_thresholdBlock_eq]
    cases rectW lum w (blockOffset x w) (blockOffset y h) 8 8 (fun p => decide (p ≤ v / 25)) rs ws <;> rfl

when_kernel Gzx.Gen.K17.calculateThresholdForBlock in
/-- `calculateThresholdForBlock(luminances, subWidth, subHeight, width, height, blackPoints, matrix)` = the mirror `K17c.hybW`
    for every image of at least 8x8 pixels and at least 3x3 blocks (the method runs from 40x40 pixels = 5x5 blocks up) -/
theorem k_calculateThresholdForBlock_eq (lum : List Nat) (w h : Nat) (bps : List (List Nat)) (subW subH rs : Nat) (ws : List Nat)
    (hw : 8 ≤ w) (hh : 8 ≤ h) (hsw : 3 ≤ subW) (hsh : 3 ≤ subH) :
    Gen.K17.calculateThresholdForBlock (bytes lum) subW subH w h (rows2 bps) rs (words ws) =
      (hybW lum w h bps subW subH rs ws).map words := by
  simp only [Gen.K17.calculateThresholdForBlock, hybW]
  rw [loop_up_fold' words (hybRowW lum w h bps subW subH rs) 0 subH ws rfl (by rw [tripUp_one]; omega) (by omega)]
  · cases (List.range' 0 subH).foldlM (hybRowW lum w h bps subW subH rs) ws <;> rfl
  · intro y _ _ t
    simp only [Gen.K17.calculateThresholdForBlock_body1, hybRowW]
    have hc : Gen.K17.cap (y : Int) 2 ((subH - 3 : Nat) : Int) = .ok ((cap y 2 (subH - 3) : Nat) : Int) :=
      K17Lum.k_cap_eq y 2 (subH - 3)
    rw [blockOffset_cast y h hh, show (subH : Int) - 3 = ((subH - 3 : Nat) : Int) by omega, hc]
    simp only [tryC_ok]
    rw [loop_up_fold' words (hybBlockW lum w h bps subW subH rs y) 0 subW t rfl (by rw [tripUp_one]; omega) (by omega)
          (fun x _ _ t => k_ctb_block lum w h bps subW subH rs y x t hw hsw)]
    cases (List.range' 0 subW).foldlM (hybBlockW lum w h bps subW subH rs y) t <;> rfl

when_kernel Gzx.Gen.K17.calculateThresholdForBlock in
/-- **calculateThresholdForBlock, Go source to model**: from 40x40 pixels up the regenerated function performs exactly the `Set`
    calls of `Binarizer.hybridBlocks` in the same order (or panics where the model reports a failed read) -/
theorem k_calculateThresholdForBlock_model (lum : List Nat) (w h : Nat) (bps : List (List Nat)) (rs : Nat) (ws : List Nat)
    (hw : 40 ≤ w) (hh : 40 ≤ h) :
    ∃ r, Gen.K17.calculateThresholdForBlock (bytes lum) (subDim w) (subDim h) w h (rows2 bps) rs (words ws) = r.map words ∧
      ScanAgrees rs ws r (hybridBlocks lum.toArray w h bps) :=
  ⟨_, k_calculateThresholdForBlock_eq lum w h bps _ _ rs ws (by omega) (by omega)
        (by unfold subDim; split <;> omega) (by unfold subDim; split <;> omega),
    hybW_agrees lum w h bps rs ws⟩

-- non-vacuity (of the panic branch): with 3x3 blocks the 5x5 window leaves the table of black points: index panic
when_kernel Gzx.Gen.K17.calculateThresholdForBlock in
example : Gen.K17.calculateThresholdForBlock (bytes (List.replicate 576 0)) 3 3 24 24
    (rows2 (List.replicate 3 (List.replicate 3 10))) 1 (words (List.replicate 24 0)) = .error oob := by decide +kernel

end Gzx.Obligations.K17c
