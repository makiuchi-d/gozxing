/-
  K04b — `ReedSolomonDecoder.findErrorLocations` (Chien search over the field elements 1 … size-1, stopping
  as soon as as many roots are found as the locator's degree) regenerated from /repo on every run and proved equal to the
  model's `findErrorLocations` for ALL locators.  The loop `for i := 1; i < size && e < numErrors; i++` is a `whileLoop` whose
  fuel the translator computes from the header.  Conventions: Obligations/K04b.lean.
-/
import Gzx.Obligations.K04bDiv
namespace Gzx.Obligations.K04bChien
open Gzx Gzx.GoM Gzx.GoVal Gzx.RS Gzx.K04bTie Gzx.Obligations.K04b Gzx.Obligations.K04bPoly Gzx.Obligations.K04bDiv

/-- how a decoder function `(slice, error)` renders a model result with the decoder's failure reasons -/
def expED : DRes (List Nat) → Res (List Int × Bool)
  | .ok v => .ok (ints v, false)
  | .error (.base (.panic w)) => .error (.panic w)
  | .error (.base .fuel) => .error .fuel
  | .error _ => .ok ([], true)

theorem expED_eq (m : DRes (List Nat)) : expED m = retD ([], true) (fun v => (ints v, false)) m := by
  cases m with
  | ok v => rfl
  | error e =>
    cases e with
    | base f => cases f <;> rfl
    | _ => rfl

/-- embedding of the Chien loop's state (found so far, candidate) into the Go state (result slice, e, i) -/
def chienSt (ne : Nat) (t : List Nat × Nat) : List Int × Int × Int :=
  (ints (t.1 ++ List.replicate (ne - t.1.length) 0), (t.1.length : Int), (t.2 : Int))

when_kernel Gzx.Gen.K04b.decFindErrorLocations in
/-- `findErrorLocations(errorLocator)` = the model's `findErrorLocations`: the single root read off a linear locator, otherwise
    the inverses of the roots found by trying 1, 2, … in this order, a checked error ("degree does not match number of roots")
    when fewer are found -/
theorem k_decFindErrorLocations_eq (F : GF.GF) (hF : TablesOK F) (sigma : List Nat) (hs : sigma ≠ []) :
    Gen.K04b.decFindErrorLocations (fieldRec F) (ints sigma) = expED (findErrorLocations F sigma) := by
  have hsl : 0 < sigma.length := List.length_pos_iff.mpr hs
  simp only [Gen.K04b.decFindErrorLocations, findErrorLocations, k_polyGetDegree_eq, tryR_ok]
  dsimp (config := { instances := true }) only [fieldRec_size]
  have hne : (sigma.length : Int) - 1 = ((degree sigma : Nat) : Int) := degree_cast sigma hs
  rw [hne]
  by_cases h1 : degree sigma = 1
  · rw [h1]
    simp only [show ((((1 : Nat) : Int)) == 1) = true from rfl, if_true]
    rw [k_polyGetCoefficient_at _ sigma 1 1 rfl]
    simp only [bind, Except.bind, liftD]
    cases hg : getCoefficient sigma 1 with
    | error e =>
      obtain ⟨w, rfl⟩ := getCoefficient_error hg
      rfl
    | ok c => rfl
  · have hb1 : ((((degree sigma : Nat) : Int)) == 1) = false := by
      rw [show (1 : Int) = ((1 : Nat) : Int) from rfl, natCast_beq]; exact beq_eq_false_iff_ne.mpr h1
    simp only [hb1, Bool.false_eq_true, if_false, h1]
    rw [mk_nats _ (degree sigma) rfl]
    simp only [tryR_ok]
    rw [whileLoop_map_inv' (chienSt (degree sigma)) (fun t => t.1.length ≤ degree sigma)
      (chienStep F sigma (degree sigma) (([], true) : List Int × Bool)) ([], 1)]
    · obtain ⟨i', hrun⟩ := chien_run F sigma (degree sigma) (([], true) : List Int × Bool) (F.size - 1) 1 []
        (tripUp 1 (F.size : Int) 1 + 1) (by have := hF.1; omega) (by rw [tripUp_one]; omega)
      rw [hrun]
      simp only [bind, Except.bind, liftD]
      cases hch : chien F sigma (degree sigma) (List.range' 1 (F.size - 1)) [] with
      | error e => cases e <;> rfl
      | ok found =>
        simp only [Except.map, outC, Ctl.map_brk, brk_thenR, chienSt, GoM.natCast_bne]
        by_cases hfl : found.length = degree sigma
        · have hbn : (found.length != degree sigma) = false := by simpa using hfl
          simp only [hbn, Bool.false_eq_true, if_false]
          simp only [hfl, ne_eq, not_true_eq_false, Nat.sub_self, List.replicate_zero, List.append_nil, if_false]
          rfl
        · have hbn : (found.length != degree sigma) = true := by simpa using hfl
          simp only [hbn, if_true]
          simp only [hfl, ne_eq, not_false_eq_true, if_true]
          rfl
    · simp [chienSt]
    · simp
    · intro t t' ht hstep
      unfold chienStep at hstep
      split at hstep
      · rename_i hc
        obtain ⟨v, -, h⟩ := bind_ok (stepE_next hstep)
        split at h
        · obtain ⟨x, -, h⟩ := bind_ok h
          cases h
          simp at hc ⊢; omega
        · cases h; exact ht
      · cases hstep
    · intro t ht
      obtain ⟨acc, i⟩ := t
      dsimp (config := { instances := true }) only [chienSt, chienStep] at ht ⊢
      rw [decide_eq_decide.mpr (Int.ofNat_lt (n := i) (m := F.size)),
        decide_eq_decide.mpr (Int.ofNat_lt (n := acc.length) (m := degree sigma))]
      by_cases hc : (decide (i < F.size) && decide (acc.length < degree sigma)) = true
      · rw [if_pos hc, if_pos hc]
        have hlt : acc.length < degree sigma := by
          rw [Bool.and_eq_true] at hc; exact of_decide_eq_true hc.2
        have hidx : acc.length < (acc ++ List.replicate (degree sigma - acc.length) 0).length := by simp; omega
        unfold chienRound
        refine bindP (k_polyEvaluateAt_eq F hF sigma i) (evaluateAt_panics _ _ _) fun v _ => ?_
        simp only [Int.ofNat_eq_natCast, natCast_beq_zero]
        by_cases hv : v = 0
        · subst hv
          simp only [beq_self_eq_true, if_true, tryC_thenC]
          -- `result[e], err = field.Inverse(i)` is written before `err` is looked at
          refine bindE (k_gfInverse_eq F hF i) ?_ fun x _ => ?_
          · rw [show (0 : Int) = ((0 : Nat) : Int) from rfl, setIdx_words _ _ _ acc.length 0 (by rfl) (by rfl),
              Bits.setWord_ok _ _ _ hidx]
            rfl
          · simp only [Int.ofNat_eq_natCast]
            rw [setIdx_words _ _ _ acc.length x (by rfl) (by rfl), Bits.setWord_ok _ _ _ hidx]
            simp only [Except.map, tryC_ok, Bool.false_eq_true, if_false, next_thenC]
            show _ = Ctl.next (chienSt (degree sigma) (acc ++ [x], i + 1))
            rw [List.set_append_right _ _ (Nat.le_refl _), Nat.sub_self,
              show degree sigma - acc.length = (degree sigma - (acc ++ [x]).length) + 1 by simp; omega,
              List.replicate_succ, List.set_cons_zero]
            simp [chienSt]
        · have hvb : (v == 0) = false := beq_eq_false_iff_ne.mpr hv
          simp only [hvb, Bool.false_eq_true, if_false, next_thenC, hv]
          rfl
      · rw [if_neg hc, if_neg hc]
        rfl

end Gzx.Obligations.K04bChien
