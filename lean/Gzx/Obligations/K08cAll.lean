/-
  K08cAll — `k_place_eq` / `placeBits_getBit` instantiated for the 30 ECC 200 sizes of ISO/IEC 16022
  Table 7: the side conditions ("the reference placement program stays inside the mapping matrix", "8 x total cells are
  assigned", "the fixed pattern lies on free cells") are the per-size kernel evaluations behind `placement_total_injective`
  (Properties/C08).  So for every size and every codeword vector of the symbol's length the regenerated `Place()` returns the
  reference mapping matrix.
-/
import Gzx.Obligations.K08c
import Gzx.Properties.C08
namespace Gzx.Obligations.K08cAll
open Gzx Gzx.GoM Gzx.DMRef Gzx.K08c Gzx.Obligations.K08c

theorem table7_dims : ∀ s ∈ table7, 2 ≤ s.mapRows ∧ 2 ≤ s.mapCols := by decide

when_kernel Gzx.Gen.K08bPlace.place in
/-- **`Place()` on every Table 7 size**: no panic, and the cells of the result tested with `· == 1` (what `GetBit` computes,
    `k_getBit_eq`) are `DMRef.mappingBits`, for every codeword vector of the symbol's total length and any fuel above
    `rows + cols` of the mapping matrix -/
theorem k_place_table7 : ∀ s ∈ table7, ∀ (cw : List Nat) (fuel : Nat), cw.length = s.total → s.mapRows + s.mapCols < fuel →
    Gen.K08bPlace.place fuel (bytes cw) s.mapRows s.mapCols (List.replicate (s.mapRows * s.mapCols) (-1)) =
        .ok (placeBits s.mapRows s.mapCols cw) ∧
      ∀ c, ((placeBits s.mapRows s.mapCols cw).getD c (-1) == 1) = (mappingBits s.mapRows s.mapCols cw).getD c false := by
  intro s hs cw fuel hlen hf
  have F := DMProofs.sizeFacts_of_check (Properties.C08.all_sizes_checked s hs)
  obtain ⟨h2r, h2c⟩ := table7_dims s hs
  have hl : (placeState s.mapRows s.mapCols).seq.length ≤ 8 * cw.length := by rw [F.len, hlen]; exact Nat.le_refl _
  exact ⟨k_place_eq s.mapRows s.mapCols cw fuel h2r h2c F.nobad hl hf,
    placeBits_getBit s.mapRows s.mapCols cw h2r h2c F.nobad hl (fun p hp => (F.fixedFree p hp).2)⟩

end Gzx.Obligations.K08cAll
