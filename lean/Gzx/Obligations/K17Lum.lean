/-
  K17 (luminance sources) — index / validation arithmetic of rgb_luminance_source.go, planar_yuv_luminance_source.go,
  inverted_luminance_source.go and the hybrid / global binarisers' small helpers, regenerated from /repo on every run
  (`Gzx.Gen.K17`, kinds `funcm` / `region`; a region is a condition or a statement range of a function, which the comment above
  its generated definition names, e.g. "condition if:1..if:1" = the first top-level `if`) and proved equal to
  what `Model/Luminance.lean` / `Model/Binarizer.lean` compute.  Conventions: byte slices are `bytes l` for `l : List Nat`.
-/
import Gzx.Gen.K17
import Gzx.KernelGuard
import Gzx.Proofs.K17
import Gzx.Model.Luminance
namespace Gzx.Obligations.K17Lum
open Gzx Gzx.GoM Gzx.GoVal Gzx.Luminance

/-! ## argument validation (`Crop`, `GetRow`, `NewPlanarYUVLuminanceSource`) -/

/-- the rectangle test of `Crop` / of the YUV constructor against a `W x H` frame, as the models state it -/
abbrev rectRejected (W H : Nat) (l t w h : Int) : Prop := w < 0 ∨ h < 0 ∨ l < 0 ∨ t < 0 ∨ l + w > W ∨ t + h > H

when_kernel Gzx.Gen.K17.rgbCropRejects in
/-- `RGBLuminanceSource.Crop`'s test (also used by the Go-image source): all six comparisons, against the CURRENT view -/
theorem k_rgbCropRejects_eq (W H : Nat) (l t w h : Int) :
    Gen.K17.rgbCropRejects W H l t w h = .ok (decide (rectRejected W H l t w h)) := by
  exact congrArg Except.ok (K17.rect_test W H l t w h)

when_kernel Gzx.Gen.K17.yuvCropRejects in
theorem k_yuvCropRejects_eq (W H : Nat) (l t w h : Int) :
    Gen.K17.yuvCropRejects W H l t w h = .ok (decide (rectRejected W H l t w h)) := by
  exact congrArg Except.ok (K17.rect_test W H l t w h)

when_kernel Gzx.Gen.K17.yuvNewRejects in
/-- `NewPlanarYUVLuminanceSource`'s test against the data frame -/
theorem k_yuvNewRejects_eq (dataW dataH : Nat) (l t w h : Int) :
    Gen.K17.yuvNewRejects dataW dataH l t w h = .ok (decide (rectRejected dataW dataH l t w h)) := by
  exact congrArg Except.ok (K17.rect_test dataW dataH l t w h)

/-- the model's `Crop` (RGB / Go-image views) rejects exactly the rectangles the regenerated test rejects -/
theorem cropI_illegal_iff (v : View) (hk : v.kind ≠ .yuv) (l t w h : Int) :
    cropI v l t w h = villegal ↔ rectRejected v.w v.h l t w h := by
  unfold cropI crop
  by_cases hw : w < 0 ∨ h < 0
  · simp only [hw, if_true, true_iff]
    exact hw.elim .inl (fun a => .inr (.inl a))
  · simp only [hw, if_false]
    rw [Int.toNat_of_nonneg (Int.not_lt.mp (fun a => hw (.inl a))), Int.toNat_of_nonneg (Int.not_lt.mp (fun a => hw (.inr a)))]
    by_cases hc : l < 0 ∨ t < 0 ∨ l + w > v.w ∨ t + h > v.h
    · simp only [hc, if_true, true_iff]
      exact .inr (.inr hc)
    · simp only [hc, if_false]
      constructor
      · intro hh
        cases hkind : v.kind <;> simp [hkind, villegal] at hh hk
      · intro hh
        exact hh.elim (fun a => absurd (.inl a) hw) (fun r => r.elim (fun b => absurd (.inr b) hw) (fun c => absurd c hc))

/-- … and the model's YUV constructor -/
theorem newYUV_illegal_iff (data : List Nat) (dataW dataH : Nat) (l t : Int) (w h : Nat) :
    newYUV data dataW dataH l t w h false = villegal ↔ rectRejected dataW dataH l t w h := by
  unfold newYUV
  by_cases hc : l < 0 ∨ t < 0 ∨ l + w > dataW ∨ t + h > dataH
  · simp only [hc, if_true, true_iff]
    exact .inr (.inr hc)
  · simp only [hc, if_false]
    constructor
    · intro hh; simp [villegal] at hh
    · intro hh
      exact hh.elim (fun a => absurd a (Int.not_lt.mpr (Int.natCast_nonneg w)))
        (fun r => r.elim (fun b => absurd b (Int.not_lt.mpr (Int.natCast_nonneg h))) (fun c => absurd c hc))

when_kernel Gzx.Gen.K17.rgbRowRejects in
/-- `GetRow`'s row test `y < 0 || y >= height` (as in `Luminance.baseGetRow`) -/
theorem k_rgbRowRejects_eq (H : Nat) (y : Int) : Gen.K17.rgbRowRejects H y = .ok (decide (y < 0 ∨ y ≥ H)) := by
  exact congrArg Except.ok (Bool.decide_or _ _).symm

when_kernel Gzx.Gen.K17.yuvRowRejects in
theorem k_yuvRowRejects_eq (H : Nat) (y : Int) : Gen.K17.yuvRowRejects H y = .ok (decide (y < 0 ∨ y ≥ H)) := by
  exact congrArg Except.ok (Bool.decide_or _ _).symm

when_kernel Gzx.Gen.K17.rgbRowOffset in
/-- `GetRow`'s offset `(y+top)*dataWidth + left` (as in `Luminance.baseGetRow`) -/
theorem k_rgbRowOffset_eq (dataW left top y : Nat) :
    Gen.K17.rgbRowOffset dataW left top y = .ok (((y + top) * dataW + left : Nat) : Int) := by
  rfl

when_kernel Gzx.Gen.K17.yuvRowOffset in
theorem k_yuvRowOffset_eq (dataW left top y : Nat) :
    Gen.K17.yuvRowOffset dataW left top y = .ok (((y + top) * dataW + left : Nat) : Int) := by
  rfl

/-! ## the binarisers' small helpers -/

when_kernel Gzx.Gen.K17.cap in
/-- `HybridBinarizer.cap(value, min, max)` = `Binarizer.cap` -/
theorem k_cap_eq (v lo hi : Nat) : Gen.K17.cap v lo hi = .ok ((Binarizer.cap v lo hi : Nat) : Int) := by
  simp only [Gen.K17.cap, Binarizer.cap, gt_iff_lt, Int.ofNat_lt, decide_eq_true_eq]
  split
  · rfl
  · split <;> rfl

when_kernel Gzx.Gen.K17.hybridUsesLocal in
/-- `HybridBinarizer.GetBlackMatrix`: the local method from 40x40 up (`MINIMUM_DIMENSION`), as `Binarizer.hybridSets` tests -/
theorem k_hybridUsesLocal_eq (w h : Nat) :
    Gen.K17.hybridUsesLocal w h = .ok (decide (w ≥ Binarizer.MINIMUM_DIMENSION ∧ h ≥ Binarizer.MINIMUM_DIMENSION)) := by
  simp only [Gen.K17.hybridUsesLocal, Binarizer.MINIMUM_DIMENSION, Bool.decide_and, ge_iff_le]
  rw [show (40 : Int) = ((40 : Nat) : Int) from rfl]
  simp only [Int.ofNat_le]

/-! ## element loops: `InvertedLuminanceSource`, `NewRGBLuminanceSource` -/

/-- `255 - (b & 0xff)` as a byte -/
theorem inv_byte (b : Nat) (hb : b < 256) : wrap 8 (255 - iand (b : Int) 255) = ((inv255 b : Nat) : Int) := by
  have e1 : iand (b : Int) 255 = (b : Int) := by rw [K17.iand_255, Nat.mod_eq_of_lt hb]
  have e2 : ((2 : Int) ^ 8) = 256 := by decide
  rw [e1, wrap_of_lt 8 _ (by omega) (by omega)]
  unfold inv255; omega

theorem map_inv_bytes (l : List Nat) (hl : ∀ b ∈ l, b < 256) :
    (bytes l).map (fun v => wrap 8 (255 - iand v 255)) = bytes (l.map inv255) :=
  K17.map_bytes l _ inv255 (fun b hb => inv_byte b (hl b hb))

when_kernel Gzx.Gen.K17.invertMatrix in
/-- `InvertedLuminanceSource.GetMatrix`'s loop = the model's `(m.take (w*h)).map inv255`, index panic when the delegate's
    matrix is shorter than `w*h` (`Luminance.getMatrix`) -/
theorem k_invertMatrix_eq (m : List Nat) (hm : ∀ b ∈ m, b < 256) (n : Nat) :
    Gen.K17.invertMatrix (bytes m) n =
      if m.length < n then .error oob else .ok (bytes ((m.take n).map inv255)) := by
  simp only [Gen.K17.invertMatrix]
  rw [mk_nats _ n rfl]
  simp only [tryR_ok]
  rw [K17.loop_fill_fresh _ (bytes m) (fun v => wrap 8 (255 - iand v 255)) n _ (by rw [tripUp_one]; omega) (fun _ _ => rfl),
    bytes_length]
  by_cases h : m.length < n
  · rw [if_pos h, if_pos h]; rfl
  · rw [if_neg h, if_neg h, bytes_take, map_inv_bytes _ (fun b hb => hm b (List.mem_of_mem_take hb))]; rfl

when_kernel Gzx.Gen.K17.invertRow in
/-- `InvertedLuminanceSource.GetRow`'s loop: the first `width` bytes of the delegate's row inverted in place, the tail of a
    longer buffer kept (`Luminance.getRow`); index panic on a shorter row -/
theorem k_invertRow_eq (r : List Nat) (hr : ∀ b ∈ r, b < 256) (w : Nat) :
    Gen.K17.invertRow (bytes r) w =
      if r.length < w then .error oob else .ok (bytes ((r.take w).map inv255 ++ r.drop w)) := by
  simp only [Gen.K17.invertRow]
  -- after `k` rounds the first `k` bytes are inverted
  have h := loop_steps (ρ := List Int) (fun k => bytes ((r.take k).map inv255 ++ r.drop k)) r.length oob 1 (fun k => (k : Int))
    (fun _ => Int.natCast_succ _) Gen.K17.invertRow_body1 w
    (fun k hk _ => by
      have hl : (((r.take k).map inv255).map Int.ofNat).length = k := by
        rw [List.length_map, List.length_map, List.length_take, Nat.min_eq_left (Nat.le_of_lt hk)]
      simp only [Gen.K17.invertRow_body1, bytes, List.drop_eq_getElem_cons hk, List.map_append, List.map_cons]
      rw [idx_seam _ _ _ _ (by rw [hl]), tryC_ok, setIdx_seam _ _ _ _ _ (by rw [hl]), tryC_ok,
        show Int.ofNat r[k] = ((r[k] : Nat) : Int) from rfl, inv_byte _ (hr _ (List.getElem_mem hk)),
        List.take_succ_eq_append_getElem hk]
      simp only [List.map_append, List.map_cons, List.map_nil, List.append_assoc, List.cons_append, List.nil_append]
      rfl)
    (fun _ => by
      simp only [Gen.K17.invertRow_body1]
      rw [idx_ge _ _ (by simp [bytes])]
      rfl)
  rw [show tripUp 0 (w : Int) 1 = w by rw [tripUp_one]; omega, show loop Gen.K17.invertRow_body1 1 w 0 (bytes r) = _ from h]
  split <;> rfl

theorem and_510 (q : Nat) : q &&& 510 = 2 * ((q / 2) % 256) := by
  have h1 : (q &&& 510) / 2 = (q / 2) &&& 255 := Nat.and_div_two
  have h2 : (q / 2) &&& 255 = (q / 2) % 256 := Nat.and_two_pow_sub_one_eq_mod (q / 2) 8
  have h3 : (q &&& 510) % 2 = 0 := by
    have := @Nat.and_mod_two_eq_one q 510
    have m := Nat.mod_two_eq_zero_or_one (q &&& 510)
    have : ¬ ((q &&& 510) % 2 = 1) := by rw [this]; omega
    omega
  omega

/-- the pixel formula of `NewRGBLuminanceSource` on a non-negative `int` pixel is `Luminance.lumOfRGBInt` -/
theorem rgb_pixel (p : Nat) :
    wrap 8 (Int.tdiv ((iand (ishr (p : Int) 16) 255 + iand (ishr (p : Int) 7) 510) + iand (p : Int) 255) 4) =
      ((lumOfRGBInt (p : Int) : Nat) : Int) := by
  rw [show (16 : Int) = ((16 : Nat) : Int) from rfl, show (7 : Int) = ((7 : Nat) : Int) from rfl, ishr_natCast, ishr_natCast,
    show (255 : Int) = ((255 : Nat) : Int) from rfl, show (510 : Int) = ((510 : Nat) : Int) from rfl,
    iand_natCast, iand_natCast, iand_natCast, Nat.shiftRight_eq_div_pow, Nat.shiftRight_eq_div_pow, and_510,
    Nat.and_two_pow_sub_one_eq_mod _ 8, Nat.and_two_pow_sub_one_eq_mod _ 8, Nat.div_div_eq_div_mul]
  -- both sides are `(r + 2g + b) / 4 % 256` on naturals: the integer operations on casts of naturals compute to casts
  rw [show Int.tdiv (((p / 2 ^ 16 % 2 ^ 8 : Nat) : Int) + ((2 * (p / (2 ^ 7 * 2) % 256) : Nat) : Int) + ((p % 2 ^ 8 : Nat) : Int)) 4 =
      (((p / 2 ^ 16 % 2 ^ 8 + 2 * (p / (2 ^ 7 * 2) % 256) + p % 2 ^ 8) / 4 : Nat) : Int) from rfl, wrap_natCast]
  rfl

theorem map_rgb_words (l : List Nat) :
    (words l).map (fun p => wrap 8 (Int.tdiv ((iand (ishr p 16) 255 + iand (ishr p 7) 510) + iand p 255) 4)) =
      bytes (l.map (fun (p : Nat) => lumOfRGBInt (p : Int))) :=
  K17.map_bytes l _ (fun (p : Nat) => lumOfRGBInt (p : Int)) (fun b _ => rgb_pixel b)

when_kernel Gzx.Gen.K17.rgbPixels in
/-- `NewRGBLuminanceSource`: `make([]byte, width*height)` and the green-favouring average of every pixel =
    `Luminance.lumOfRGBInt` (non-negative pixels, i.e. `0xAARRGGBB` in a 64-bit `int`); index panic for too few pixels -/
theorem k_rgbPixels_eq (w h : Nat) (px : List Nat) :
    Gen.K17.rgbPixels w h (words px) =
      if px.length < w * h then .error oob else .ok (bytes ((px.take (w * h)).map (fun (p : Nat) => lumOfRGBInt (p : Int)))) := by
  simp only [Gen.K17.rgbPixels]
  rw [← Int.natCast_mul, mk_nats _ (w * h) rfl]
  simp only [tryR_ok]
  rw [K17.loop_fill_fresh _ (words px) (fun p => wrap 8 (Int.tdiv ((iand (ishr p 16) 255 + iand (ishr p 7) 510) + iand p 255) 4))
    (w * h) _ (by rw [tripUp_one]; omega) (fun _ _ => rfl), nats_length]
  by_cases hl : px.length < w * h
  · rw [if_pos hl, if_pos hl]; rfl
  · rw [if_neg hl, if_neg hl, show (words px).take (w * h) = words (px.take (w * h)) from (List.map_take ..).symm, map_rgb_words]; rfl

-- non-vacuity
when_kernel Gzx.Gen.K17.rgbPixels in
example : Gen.K17.rgbPixels 2 1 (words [0xFFFFFFFF, 0xFF102030]) = .ok (bytes [255, 32]) := by decide
when_kernel Gzx.Gen.K17.invertRow in
example : Gen.K17.invertRow (bytes [0, 10, 255, 7]) 3 = .ok (bytes [255, 245, 0, 7]) := by decide
example : rectRejected 10 10 3 3 8 2 := by decide
example : ¬ rectRejected 10 10 3 3 7 7 := by decide

end Gzx.Obligations.K17Lum
