/-
  K04b — `ReedSolomonDecoder.findErrorMagnitudes` (Forney's formula with the generator-base correction)
  regenerated from /repo on every run and proved equal to the model's `findErrorMagnitudes` for ALL inputs.
  Conventions: Obligations/K04b.lean.
-/
import Gzx.Obligations.K04bDiv
namespace Gzx.Obligations.K04bForney
open Gzx Gzx.GoM Gzx.GoVal Gzx.RS Gzx.K04bTie Gzx.Obligations.K04b Gzx.Obligations.K04bPoly Gzx.Obligations.K04bDiv

theorem natCast_bne (a b : Nat) : (((a : Int) != (b : Int)) : Bool) = (a != b) := GoM.natCast_bne a b

theorem setWord_ok (res : List Nat) (i v : Nat) (h : i < res.length) : Bits.setWord res i v = .ok (res.set i v) :=
  Bits.setWord_ok res i v h

when_kernel Gzx.Gen.K04b.decFindErrorMagnitudes in
/-- `findErrorMagnitudes(errorEvaluator, errorLocations)` = the model's `findErrorMagnitudes`: for every location `X_i` the
    value `Ω(X_i⁻¹) / ∏_{j≠i} (1 + X_j·X_i⁻¹)`, times `X_i⁻¹` when the generator base is not 0; a checked error when a
    location or a denominator is 0; panics of out-of-range symbols included -/
theorem k_decFindErrorMagnitudes_eq (F : GF.GF) (hF : TablesOK F) (omega locs : List Nat) :
    Gen.K04b.decFindErrorMagnitudes (fieldRec F) (ints omega) (ints locs) = expE [] ints (findErrorMagnitudes F omega locs) := by
  simp only [Gen.K04b.decFindErrorMagnitudes, findErrorMagnitudes, len_words, fieldRec_base]
  rw [mk_nats _ locs.length rfl]
  simp only [tryR_ok]
  rw [loop_up_list_inv' ints (fun res => res.length = locs.length) (magStep F omega locs ([], true)) locs 0
    (List.replicate locs.length 0)]
  · have := foldIdx_mag F omega locs (([], true) : List Int × Bool) locs []
    simp only [List.length_nil, List.nil_append] at this
    rw [this]
    cases magLoop F omega locs locs 0 with
    | ok ms => rfl
    | error e => cases e <;> rfl
  · rfl
  · rw [tripUp_one]; omega
  · rfl
  · simp
  · intro j hj t t' ht hstep
    obtain ⟨m, -, hset⟩ := bind_ok (stepE_next hstep)
    rw [setWord_ok _ _ _ (by omega)] at hset
    cases hset
    simp [ht]
  · intro j hj res hres
    rw [idx_nats _ _ (0 + j) rfl, Nat.zero_add, List.getElem?_eq_getElem hj]
    simp only [tryC_ok, magStep, errorMagnitude, bind_assoc]
    refine bindE (k_gfInverse_eq F hF _) rfl fun xiInv _ => ?_
    refine loopP (R' := (Nat.cast : Nat → Int)) ?_ (magDenominator_panics F xiInv j locs 0 1) fun den _ => ?_
    · -- the denominator loop
      rw [loop_up_list' (Nat.cast : Nat → Int) (denStep F xiInv j) locs 0 1, foldIdx_den]
      · rfl
      · rw [tripUp_one]; omega
      · rfl
      intro j' hj' den
      simp only [denStep, Nat.zero_add, natCast_bne, Int.ofNat_eq_natCast]
      by_cases hij : j ≠ j'
      · have hne : (j != j') = true := by simpa using hij
        simp only [hne, if_true, hij, ne_eq, not_false_eq_true]
        rw [idx_nats _ _ j' rfl, List.getElem?_eq_getElem hj']
        simp only [tryC_ok]
        rw [k_gfMultiply_eq F hF]
        simp only [bind, Except.bind]
        cases hterm : GF.GF.mul F locs[j'] xiInv with
        | error e => rfl
        | ok term =>
          simp only [Except.map, tryC_ok, Int.ofNat_eq_natCast]
          -- "plus one": the source's two-branch form, or a plain xor with 1
          first
            | rw [tp1_ctl]
            | (rw [show (1 : Int) = ((1 : Nat) : Int) from rfl, k_gfAddOrSubtract_eq, ← tp1_eq_xor]; simp only [tryC_ok])
          rw [k_gfMultiply_eq F hF]
          cases GF.GF.mul F den (tp1 term) <;> rfl
      · have hne : (j != j') = false := by simpa using hij
        simp only [hne, Bool.false_eq_true, if_false, hij]
        rfl
    refine bindE (k_gfInverse_eq F hF _) rfl fun inverse _ => ?_
    refine bindP (k_polyEvaluateAt_eq F hF omega xiInv) (evaluateAt_panics _ _ _) fun ev _ => ?_
    refine bindP (k_gfMultiply_eq F hF ev inverse) (mul_panics _ _ _) fun r _ => ?_
    -- the Go code writes the magnitude, then corrects it in place; the model corrects, then writes
    rw [setIdx_words _ _ _ j r (by rfl) (by rfl), setWord_ok _ _ _ (by omega)]
    simp only [Except.map, tryC_ok]
    by_cases hb : F.base = 0
    · have hbn : (((F.base : Int) != 0) : Bool) = false := by rw [hb]; rfl
      simp only [hbn, Bool.false_eq_true, if_false, next_thenC]
      simp only [hb, ne_eq, not_true_eq_false, if_false, bind, Except.bind]
      rw [setWord_ok _ _ _ (by omega)]
      rfl
    · have hbn : (((F.base : Int) != 0) : Bool) = true := by
        rw [show (0 : Int) = ((0 : Nat) : Int) from rfl, natCast_bne]; simpa using hb
      simp only [hbn, if_true]
      simp only [hb, ne_eq, not_false_eq_true, if_true]
      rw [idx_nats _ _ j rfl, List.getElem?_set_self (by omega)]
      simp only [tryC_ok, Int.ofNat_eq_natCast]
      rw [k_gfMultiply_eq F hF]
      cases hr2 : GF.GF.mul F r xiInv with
      | error e => obtain ⟨w, rfl⟩ := mul_panics _ _ _ e hr2; rfl
      | ok r2 =>
        simp only [Except.map, tryC_ok, Int.ofNat_eq_natCast, bind, Except.bind]
        rw [setIdx_words _ _ _ j r2 (by rfl) (by rfl), setWord_ok _ _ _ (by simp; omega), setWord_ok _ _ _ (by omega)]
        simp only [Except.map, tryC_ok, next_thenC, List.set_set]
        rfl

end Gzx.Obligations.K04bForney
