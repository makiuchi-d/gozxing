/-
  K01e (bit_matrix_parser.go) — two small pieces of the parser's glue, regenerated on every run into `Gzx.Gen.K01de`:
  the acceptance test of `NewBitMatrixParser` (`dimension < 21 || dimension&3 != 1 || width != dimension`) = the model's
  `newParser`, and `SetMirror` (clears both caches, stores the flag) = the model's `setMirror`.
-/
import Gzx.Obligations.K01eParser
import Gzx.Gen.K01de
namespace Gzx.Obligations.K01e
open Gzx Gzx.GoM Gzx.GoVal Gzx.QRDec Gzx.Obligations.K01d

when_kernel Gzx.Gen.K01de.parserRejects in
/-- `NewBitMatrixParser` rejects exactly the matrices the model's `newParser` rejects (square matrices: `GetWidth = GetHeight`) -/
theorem k_parserRejects_eq {M : Type} (ops : MatOps M) (m : M) (A : Matrix) (hw : ops.width m = (A.dim : Int)) :
    Gen.K01de.parserRejects ops m (A.dim : Int) =
      .ok (match newParser A with | .ok _ => false | .error _ => true) := by
  have ha : iand (A.dim : Int) 3 = ((A.dim &&& 3 : Nat) : Int) := iand_natCast A.dim 3
  have hm : A.dim &&& 3 = A.dim % 4 := Nat.and_two_pow_sub_one_eq_mod A.dim 2
  have hd : decide ((A.dim : Int) < 21) = decide (A.dim < 21) := decide_eq_decide.mpr Int.ofNat_lt
  have hb : ((((A.dim % 4 : Nat) : Int) != 1) = decide (A.dim % 4 ≠ 1)) := by
    by_cases h : A.dim % 4 = 1
    · rw [h]; rfl
    · rw [decide_eq_true h, bne_iff_ne]
      exact fun e => h (Int.ofNat_inj.mp e)
  unfold Gen.K01de.parserRejects newParser
  rw [ha, hm, hw, bne_self_eq_false, Bool.or_false, hd, hb, ← Bool.decide_or]
  by_cases h : A.dim < 21 ∨ A.dim % 4 ≠ 1
  · rw [if_pos h, decide_eq_true h]
  · rw [if_neg h, decide_eq_false h]

/-- non-vacuity: the all-white 21 × 21 matrix is accepted -/
example : newParser ⟨21, fun _ _ => false⟩ = .ok { m := ⟨21, fun _ _ => false⟩ } := rfl

when_kernel Gzx.Gen.K01de.setMirror in
/-- `SetMirror(mirror)` = the model's `setMirror`: both caches cleared, the flag stored -/
theorem k_setMirror_eq (p : Parser) (b : Bool) :
    Gen.K01de.setMirror (hOf p.ver) (p.fmt.map encFI) p.mirror b =
      .ok (hOf (setMirror p b).ver, (setMirror p b).fmt.map encFI, (setMirror p b).mirror) := rfl

end Gzx.Obligations.K01e
