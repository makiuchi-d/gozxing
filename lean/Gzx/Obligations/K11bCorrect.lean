/-
  K11b — `Decoder.correctBits` of aztec/decoder/decoder.go regenerated from /repo on every run (`Gzx.Gen.K11b.correctBits`:
  codeword size / field by layer count, codeword assembly, the RS call as the abstract parameter `rs_Decode`, the
  stuffing count with its FormatException exits, the un-stuffing writes, `ecLevel`).

  The full statement
      ∀ rs rawbits layers numDataCodewords, (rs_Decode agrees with rs and keeps the length) →
        Gen.K11b.correctBits fuel g10 g12 g6 g8 numDataCodewords layers rs_Decode rawbits
          = expectCB (AztecDecoder.correctBits rs (boolsOf rawbits) layers numDataCodewords)
  is `k_correctBits_eq` in Obligations/K11cCorrect.lean.  This file has the vocabulary (`expectCB`, the sample
  RS decoders) and the equation on a fixed, structured set of arguments by kernel evaluation of BOTH sides
  (`k_correctBits_samples`, the non-vacuity companion of the full theorem): all four codeword sizes; data words 1 and
  mask-1 (stuffing, both polarities), ordinary words, the illegal words 0 and mask (FormatException), a non-zero bit
  offset, numDataCodewords <, = and > numCodewords, an RS decoder that fails, and the empty input (integer divide by zero).
-/
import Gzx.Obligations.K11b
namespace Gzx.Obligations.K11b
open Gzx Gzx.GoM Gzx.AztecDecoder

/-- how the kernel reports the model's outcome: (correctBits, ecLevel, error flag) -/
def expectCB : Res Corrected → Res (List Int × Int × Bool)
  | .ok c => .ok (bitsI c.bits, (c.ecLevel : Int), false)
  | .error .format => .ok ([], 0, true)
  | .error e => .error e

/-- an RS decoder that finds nothing to correct / that gives up, as model parameter and as kernel parameter -/
def rsId : RSDecoder := fun _ ws _ => .ok ws
def rsIdI : Int → List Int → Int → Res (Bool × List Int) := fun _ ws _ => .ok (false, ws)
def rsFail : RSDecoder := fun _ _ _ => .error .checksum
def rsFailI : Int → List Int → Int → Res (Bool × List Int) := fun _ ws _ => .ok (true, ws)

/-- raw bits made of `pad` leading bits and the given `w`-bit words -/
def rawOf (pad w : Nat) (ws : List Nat) : List Bool := List.replicate pad true ++ ws.flatMap (wordBits w)

when_kernel Gzx.Gen.K11b.correctBits in
def sampleOK (rs : RSDecoder) (rsI : Int → List Int → Int → Res (Bool × List Int)) (L nd pad : Nat) (ws : List Nat) : Bool :=
  let bs := rawOf pad (codewordSize L) ws
  decide (Gen.K11b.correctBits 200 10 12 6 8 (nd : Int) (L : Int) rsI (bitsI bs) = expectCB (correctBits rs bs L nd))

when_kernel Gzx.Gen.K11b.correctBits in
/-- `correctBits` agrees with the model on the structured sample set described in the file header -/
theorem k_correctBits_samples :
    -- 6-bit words (1-2 layers): stuffing of both polarities, ordinary words, offset, all data / some data
    sampleOK rsId rsIdI 1 3 0 [1, 62, 37, 5, 9] = true ∧ sampleOK rsId rsIdI 2 5 3 [33, 1, 1, 62, 12] = true
    -- illegal words 0 and mask among the data words; the same words beyond the data words are harmless
    ∧ sampleOK rsId rsIdI 1 2 0 [7, 0, 9] = true ∧ sampleOK rsId rsIdI 1 2 0 [63, 7, 9] = true
    ∧ sampleOK rsId rsIdI 1 1 0 [7, 0, 63] = true
    -- numDataCodewords > numCodewords, = 0, empty input (integer divide by zero)
    ∧ sampleOK rsId rsIdI 1 4 2 [7, 8, 9] = true ∧ sampleOK rsId rsIdI 1 0 0 [7, 8] = true ∧ sampleOK rsId rsIdI 1 0 0 [] = true
    ∧ sampleOK rsId rsIdI 1 0 4 [] = true
    -- the RS decoder gives up
    ∧ sampleOK rsFail rsFailI 1 2 0 [7, 8, 9] = true
    -- 8-, 10-, 12-bit words (3-8, 9-22, 23-32 layers) and the layer boundaries
    ∧ sampleOK rsId rsIdI 3 3 0 [1, 254, 129, 77] = true ∧ sampleOK rsId rsIdI 8 2 5 [254, 1, 255] = true
    ∧ sampleOK rsId rsIdI 8 2 0 [255, 1] = true
    ∧ sampleOK rsId rsIdI 9 3 0 [1, 1022, 513, 9] = true ∧ sampleOK rsId rsIdI 22 2 7 [1022, 600, 0] = true
    ∧ sampleOK rsId rsIdI 22 1 0 [1023] = true
    ∧ sampleOK rsId rsIdI 23 3 0 [1, 4094, 2049, 9] = true ∧ sampleOK rsId rsIdI 32 2 11 [4094, 3000, 4095] = true
    ∧ sampleOK rsId rsIdI 30 1 0 [0] = true := by
  decide +kernel

end Gzx.Obligations.K11b
