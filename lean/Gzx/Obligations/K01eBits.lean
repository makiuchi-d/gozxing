/-
  K01e (common/bit_source.go) — `BitSource.Available` and `BitSource.ReadBits`, regenerated on every run into `Gzx.Gen.K01d`
  (kind funcq), proved equal to the hand-written model `Model/BitSource.lean` that carries C06's totality theorems
  (`bitsource_total`) and the bit-stream parsers of C01/C02/C05.

  A `*BitSource` is the triple (bytes, byteOffset, bitOffset); the regenerated `ReadBits` returns
  (result, error?, byteOffset', bitOffset').  The statement is for EVERY source with `bitOffset < 8` (the representation
  invariant of the private fields: `NewBitSource` starts at 0/0 and only `ReadBits` moves them), every byte list (no bound on the
  elements), every `numBits : int` and every fuel ≥ 5 (at most four whole bytes are read).  Panic messages are not compared
  (`stripP`): the model says which index failed, the run-time library does not.
-/
import Gzx.Gen.K01d
import Gzx.KernelGuard
import Gzx.Proofs.GoMTie
import Gzx.Model.BitSource
namespace Gzx.Obligations.K01e
open Gzx Gzx.GoM Gzx.GoVal Gzx.BitSource

def stripP {α : Type} : Res α → Res α
  | .error (.panic _) => .error (.panic "")
  | r => r

/-- what the regenerated `ReadBits` must return for a result of the model: (result, error?, byteOffset, bitOffset);
    the checked `IllegalArgumentException` leaves the source where it was -/
def encRB (s : BitSource) : Res (Nat × BitSource) → Res (Int × Bool × Int × Int)
  | .ok (v, s') => .ok ((v : Int), false, (s'.byteOffset : Int), (s'.bitOffset : Int))
  | .error .illegalArg => .ok (0, true, (s.byteOffset : Int), (s.bitOffset : Int))
  | .error e => .error e

when_kernel Gzx.Gen.K01d.available in
/-- `Available()` = the model's `available` (Go `int` arithmetic), for every source -/
theorem k_available_eq (s : BitSource) :
    Gen.K01d.available (bytes s.bytes) (s.byteOffset : Int) (s.bitOffset : Int) = .ok (available s) := by
  simp [Gen.K01d.available, BitSource.available, len, bytes]

theorem idx_byteAt (s : BitSource) (i : Nat) :
    idx (bytes s.bytes) (i : Int) = match byteAt s i with | .ok b => .ok (b : Int) | .error _ => .error oob := by
  unfold bytes byteAt
  rw [idx_bytes]
  cases s.bytes[i]? <;> rfl

theorem byteAt_err {s : BitSource} {i : Nat} {e : Fault} (h : byteAt s i = .error e) : ∃ w, e = .panic w := by
  unfold byteAt at h
  cases hb : s.bytes[i]? <;> rw [hb] at h <;> cases h
  exact ⟨_, rfl⟩

theorem readWhole_err {s : BitSource} : ∀ {k off acc : Nat} {e : Fault}, readWhole s k off acc = .error e → ∃ w, e = .panic w := by
  intro k
  induction k with
  | zero => intro off acc e h; cases h
  | succ k ih =>
    intro off acc e h
    unfold readWhole at h
    cases hb : byteAt s off with
    | error e' => rw [hb] at h; cases h; exact byteAt_err hb
    | ok b => rw [hb] at h; exact ih h

/-! ### the mask arithmetic of `ReadBits` -/

theorem and_shl_shr (b m k : Nat) : (b &&& (m <<< k)) >>> k = (b >>> k) &&& m := by
  apply Nat.eq_of_testBit_eq
  intro i
  simp [Nat.testBit_shiftRight, Nat.testBit_and, Nat.testBit_shiftLeft]

theorem shr255 (t : Nat) (h : t ≤ 8) : 255 >>> (8 - t) = 2 ^ t - 1 := by
  match t, h with
  | 0, _ => rfl | 1, _ => rfl | 2, _ => rfl | 3, _ => rfl | 4, _ => rfl | 5, _ => rfl | 6, _ => rfl | 7, _ => rfl | 8, _ => rfl
  | n + 9, h => omega

/-- `(b & mask) >> k` with `mask = byte((0xFF >> (8-t)) << k)`, `t + k ≤ 8`: the `t` bits above the lowest `k` -/
theorem maskSel (b t k : Nat) (h : t + k ≤ 8) (e1 e2 : Int) (h1 : e1 = ((8 - t : Nat) : Int)) (h2 : e2 = (k : Int)) :
    ishr (iand (b : Int) (wrap 8 (ishl (ishr 255 e1) e2))) e2 = (((b >>> k) % 2 ^ t : Nat) : Int) := by
  subst h1 h2
  have c255 : (255 : Int) = ((255 : Nat) : Int) := rfl
  rw [c255, ishr_natCast, shr255 t (by omega), ishl_natCast, wrap_natCast]
  have hlt : (2 ^ t - 1) <<< k < 2 ^ 8 := by
    rw [Nat.shiftLeft_eq]
    calc (2 ^ t - 1) * 2 ^ k < 2 ^ t * 2 ^ k :=
          Nat.mul_lt_mul_of_pos_right (Nat.sub_one_lt (Nat.ne_of_gt (Nat.two_pow_pos t))) (Nat.two_pow_pos k)
      _ = 2 ^ (t + k) := (Nat.pow_add ..).symm
      _ ≤ 2 ^ 8 := Nat.pow_le_pow_right (by decide) h
  rw [Nat.mod_eq_of_lt hlt, iand_natCast, ishr_natCast, and_shl_shr, Nat.and_two_pow_sub_one_eq_mod]

/-! ### the whole-byte loop -/

when_kernel Gzx.Gen.K01d.readBits in
/-- the `for numBits >= 8` loop = the model's `readWhole` over `numBits / 8` bytes -/
theorem k_readBits_whole (s : BitSource) : ∀ (k fuel byo n1 r : Nat), k < fuel → n1 / 8 = k →
    whileLoop (Gen.K01d.readBits_body1 (bytes s.bytes)) fuel ((byo : Int), (n1 : Int), (r : Int)) =
      match readWhole s k byo r with
      | .ok (r2, byo2) => .brk ((byo2 : Int), ((n1 % 8 : Nat) : Int), (r2 : Int))
      | .error _ => (.panic oob : Ctl (Int × Int × Int) (Int × Bool × Int × Int)) := by
  intro k
  induction k with
  | zero =>
    intro fuel byo n1 r hf hk
    obtain ⟨fuel, rfl⟩ : ∃ f, fuel = f + 1 := ⟨fuel - 1, by omega⟩
    have h8 : ¬ ((n1 : Int) ≥ 8) := by omega
    have hm : n1 % 8 = n1 := by omega
    simp [whileLoop_succ, Gen.K01d.readBits_body1, h8, readWhole, hm]
  | succ k ih =>
    intro fuel byo n1 r hf hk
    obtain ⟨fuel, rfl⟩ : ∃ f, fuel = f + 1 := ⟨fuel - 1, by omega⟩
    obtain ⟨n, rfl⟩ : ∃ n, n1 = n + 8 := ⟨n1 - 8, by omega⟩
    have h8 : (((n + 8 : Nat) : Int) ≥ 8) := by omega
    rw [whileLoop_succ]
    simp only [Gen.K01d.readBits_body1, h8, decide_true, if_true, idx_byteAt, readWhole]
    cases hb : byteAt s byo with
    | error e => rfl
    | ok b =>
      have s1 : iand (b : Int) 255 = ((b &&& 255 : Nat) : Int) := iand_natCast b 255
      have s2 : ishl (r : Int) 8 = ((r <<< 8 : Nat) : Int) := ishl_natCast r 8
      have e2 : ((n + 8 : Nat) : Int) - 8 = (n : Int) := by omega
      simp only [tryC_ok]
      rw [s1, s2, ior_natCast, ← Int.natCast_succ, e2, Nat.add_mod_right]
      exact ih fuel (byo + 1) n _ (by omega) (by omega)

/-! ### ReadBits -/

when_kernel Gzx.Gen.K01d.readBits in
/-- the checked rejections: `numBits < 1`, `> 32`, `> Available()` -/
theorem k_readBits_rejected (s : BitSource) (n : Int) (fuel : Nat) (h : n < 1 ∨ n > 32 ∨ n > available s) :
    Gen.K01d.readBits fuel (bytes s.bytes) (s.byteOffset : Int) (s.bitOffset : Int) n =
      .ok (0, true, (s.byteOffset : Int), (s.bitOffset : Int)) := by
  simp only [Gen.K01d.readBits, k_available_eq, tryR_ok]
  by_cases h1 : n < 1
  · simp [h1]
  · by_cases h2 : n > 32
    · simp [h1, h2]
    · have h3 : n > available s := by omega
      simp [h1, h2, h3]

theorem natCast0 : ((0 : Nat) : Int) = 0 := rfl

when_kernel Gzx.Gen.K01d.readBits in
theorem k_readBits_main (s : BitSource) (hbo : s.bitOffset < 8) (N : Nat) (fuel : Nat) (hf : N / 8 < fuel)
    (h1 : 1 ≤ N) (h32 : N ≤ 32) (hav : (N : Int) ≤ available s) :
    stripP (Gen.K01d.readBits fuel (bytes s.bytes) (s.byteOffset : Int) (s.bitOffset : Int) (N : Int)) =
      stripP (encRB s (match readFirst s N with
        | .error e => .error e
        | .ok (r, n1, byo, bio) => readRest s r n1 byo bio)) := by
  have a1 : ¬ ((N : Int) < 1) := by omega
  have a2 : ¬ ((N : Int) > 32) := by omega
  have a3 : ¬ ((N : Int) > available s) := by omega
  simp only [Gen.K01d.readBits, k_available_eq, tryR_ok, a1, a2, a3, decide_false, Bool.false_eq_true, if_false]
  -- `K`: phases 2 and 3 (whole bytes, final partial byte) as a function of the state after phase 1
  generalize hK : (fun st : Int × Int × Int × Int => (_ : Res (Int × Bool × Int × Int))) = K
  have tail : ∀ byo1 bio1 n1 r1 : Nat, n1 ≤ N →
      stripP (K ((byo1 : Int), (bio1 : Int), (n1 : Int), (r1 : Int))) = stripP (encRB s (readRest s r1 n1 byo1 bio1)) := by
    intro byo1 bio1 n1 r1 hle
    subst hK
    unfold readRest
    simp only [gt_iff_lt, Int.natCast_pos]
    by_cases hn1 : 0 < n1
    · simp only [hn1, decide_true, if_true]
      rw [k_readBits_whole s (n1 / 8) fuel byo1 n1 r1 (by omega) rfl]
      cases hw : readWhole s (n1 / 8) byo1 r1 with
      | error e => obtain ⟨w, rfl⟩ := readWhole_err hw; rfl
      | ok p =>
        obtain ⟨r2, byo2⟩ := p
        simp only [brk_thenC, Int.natCast_pos]
        have hn2 : n1 % 8 < 8 := Nat.mod_lt _ (by decide)
        generalize n1 % 8 = n2 at hn2 ⊢
        by_cases h2 : 0 < n2
        · simp only [h2, decide_true, if_true, idx_byteAt]
          cases hb2 : byteAt s byo2 with
          | error e => obtain ⟨w, rfl⟩ := byteAt_err hb2; rfl
          | ok b =>
            have hw : wrap 64 (8 - (n2 : Int)) = ((8 - n2 : Nat) : Int) := by
              rw [wrap_of_lt 64 _ (by omega) (by omega)]; omega
            simp only [tryC_ok, next_thenR, wrap_of_lt 64 (n2 : Int) (by omega) (by omega), hw,
              maskSel b n2 (8 - n2) (by omega) _ _ rfl rfl, ishl_natCast, ior_natCast, encRB, Int.natCast_add]
        · simp only [h2, decide_false, Bool.false_eq_true, if_false, next_thenR, encRB]
    · simp only [hn1, decide_false, Bool.false_eq_true, if_false, next_thenR, encRB]
  clear hK
  unfold readFirst
  simp only [gt_iff_lt, Int.natCast_pos]
  by_cases hb : 0 < s.bitOffset
  · simp only [hb, decide_true, if_true, idx_byteAt]
    cases hb1 : byteAt s s.byteOffset with
    | error e => obtain ⟨w, rfl⟩ := byteAt_err hb1; rfl
    | ok b =>
      -- `t` = toRead = min(numBits, bitsLeft), in both arithmetics
      obtain ⟨t, ht, ht', ht1, htN, ht8⟩ : ∃ t : Nat, (if N < 8 - s.bitOffset then N else 8 - s.bitOffset) = t ∧
          (if decide ((N : Int) < 8 - (s.bitOffset : Int)) then (N : Int) else 8 - (s.bitOffset : Int)) = (t : Int) ∧
          1 ≤ t ∧ t ≤ N ∧ s.bitOffset + t ≤ 8 := by
        by_cases hN : N < 8 - s.bitOffset
        · exact ⟨N, if_pos hN, if_pos (decide_eq_true (by omega)), h1, Nat.le_refl N, by omega⟩
        · exact ⟨8 - s.bitOffset, if_neg hN, by rw [if_neg (by rw [decide_eq_true_eq]; omega)]; omega, by omega, by omega, by omega⟩
      simp only [tryC_ok, ht, ht']
      have w1 : wrap 64 (8 - (t : Int)) = ((8 - t : Nat) : Int) := by
        rw [wrap_of_lt 64 _ (by omega) (by omega)]; omega
      have w2 : wrap 64 (8 - (s.bitOffset : Int) - (t : Int)) = ((8 - s.bitOffset - t : Nat) : Int) := by
        rw [wrap_of_lt 64 _ (by omega) (by omega)]; omega
      simp only [w1, w2, maskSel b t (8 - s.bitOffset - t) (by omega) _ _ rfl rfl, next_thenR, beq_iff_eq]
      by_cases he : s.bitOffset + t = 8
      · have he' : (s.bitOffset : Int) + (t : Int) = 8 := by omega
        simp only [he, he', if_true]
        rw [← Int.natCast_succ, ← Int.natCast_sub htN]
        exact tail _ 0 _ _ (by omega)
      · have he' : ¬ (s.bitOffset : Int) + (t : Int) = 8 := by omega
        simp only [he, he', if_false]
        rw [← Int.natCast_add, ← Int.natCast_sub htN]
        exact tail _ _ _ _ (by omega)
  · simp only [hb, decide_false, Bool.false_eq_true, if_false, next_thenR]
    rw [Nat.eq_zero_of_not_pos hb]
    exact tail _ 0 _ 0 (Nat.le_refl N)

when_kernel Gzx.Gen.K01d.readBits in
/-- `ReadBits(numBits)` = the model's `readBits` with the fuel it needs: one round of the whole-byte loop per eight bits
    and one more to leave it (at most five rounds, since more than 32 bits are rejected before the loop) -/
theorem k_readBits_fuel (s : BitSource) (hbo : s.bitOffset < 8) (n : Int) (fuel : Nat) (hf : n ≤ 32 → n.toNat / 8 < fuel) :
    stripP (Gen.K01d.readBits fuel (bytes s.bytes) (s.byteOffset : Int) (s.bitOffset : Int) n) =
      stripP (encRB s (readBits s n)) := by
  by_cases h : n < 1 ∨ n > 32 ∨ n > available s
  · rw [k_readBits_rejected s n fuel h]
    unfold readBits
    rw [if_pos h]
    rfl
  · obtain ⟨N, rfl⟩ := Int.eq_ofNat_of_zero_le (by omega : 0 ≤ n)
    rw [k_readBits_main s hbo N fuel (by simpa using hf (by omega)) (by omega) (by omega) (by omega)]
    unfold readBits
    rw [if_neg h]
    rfl

when_kernel Gzx.Gen.K01d.readBits in
/-- `ReadBits(numBits)` = the model's `readBits` for EVERY source with `bitOffset < 8`, every `numBits`, every fuel ≥ 5:
    same value, same advanced offsets, same rejections (`numBits < 1`, `> 32`, `> Available()`: error, source unchanged),
    a panic where the model panics (never, by C06's `bitsource_total`, for a well-formed source) -/
theorem k_readBits_eq (s : BitSource) (hbo : s.bitOffset < 8) (n : Int) (fuel : Nat) (hf : 5 ≤ fuel) :
    stripP (Gen.K01d.readBits fuel (bytes s.bytes) (s.byteOffset : Int) (s.bitOffset : Int) n) =
      stripP (encRB s (readBits s n)) :=
  k_readBits_fuel s hbo n fuel (fun _ => by omega)

theorem stripP_eq {α : Type} {a b : Res α} (h : stripP a = stripP b) (hb : ∀ w, b ≠ .error (.panic w)) : a = b := by
  have hsb : stripP b = b := by
    cases b with
    | ok v => rfl
    | error e => cases e <;> first | rfl | exact absurd rfl (hb _)
  rw [hsb] at h
  cases a with
  | ok u => exact h
  | error e => cases e <;> first | exact h | exact absurd h.symm (hb _)

/-- non-vacuity and a concrete instance: 13 bits across three bytes from bit 3 -/
example : stripP (Gen.K01d.readBits 5 (bytes [0xA5, 0xFF, 0x01]) 0 3 13) =
    stripP (encRB ⟨[0xA5, 0xFF, 0x01], 0, 3⟩ (readBits ⟨[0xA5, 0xFF, 0x01], 0, 3⟩ 13)) :=
  k_readBits_eq ⟨[0xA5, 0xFF, 0x01], 0, 3⟩ (by decide) 13 5 (by decide)

example : Gen.K01d.readBits 5 (bytes [0xA5, 0xFF, 0x01]) 0 3 13 = .ok (0x5FF, false, 2, 0) := by decide

end Gzx.Obligations.K01e
