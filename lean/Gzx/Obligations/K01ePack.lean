/-
  K01e — the BYTE PACKING of the zig-zag loop of `ReadCodewords` (`packBit`: shift each data bit into `currentByte`, store every
  eighth) is the model's `bitsToBytes` (Model/QRBits.lean): `pack_eq` for every bit list and every length of `result`; hence
  (`k_zigzag_codewords`) the regenerated loop returns the model's codewords, the model's `resultOffset`, and panics with an
  index fault exactly when the model reports `result[resultOffset]` (more data modules than `8 * len(result)`).
-/
import Gzx.Obligations.K01eZig
import Gzx.Obligations.K01eBuf
namespace Gzx.Obligations.K01e
open Gzx Gzx.GoM Gzx.GoVal Gzx.QRDec Gzx.Obligations.K01d
open Gzx.BitSource (foldl_bits)

/-- fewer than eight bits in a row only accumulate -/
theorem pack_few (res : List Nat) (off : Nat) : ∀ (w : List Bool) (cur k : Nat), k + w.length < 8 →
    w.foldlM packBit (res, off, cur, k) = .ok (res, off, cur * 2 ^ w.length + natOfBits w, k + w.length) := by
  intro w
  induction w with
  | nil => intro cur k _; simp [natOfBits, pure, Except.pure]
  | cons b w ih =>
    intro cur k h
    rw [List.length_cons] at h
    have e : natOfBits (b :: w) = b.toNat * 2 ^ w.length + natOfBits w := by
      have hb : natOfBits (b :: w) = _ := foldl_bits w (2 * 0 + b.toNat)
      rwa [Nat.mul_zero, Nat.zero_add] at hb
    have e1 : (2 * cur + b.toNat) * 2 ^ w.length = cur * (2 ^ w.length * 2) + b.toNat * 2 ^ w.length := by
      rw [Nat.add_mul, Nat.mul_comm (2 ^ w.length) 2, ← Nat.mul_assoc, Nat.mul_comm 2 cur]
    simp only [List.foldlM, packBit, if_neg (show ¬ k + 1 = 8 by omega), bind, Except.bind]
    rw [ih _ _ (by omega), e, e1, List.length_cons, Nat.pow_succ, Nat.add_assoc, Nat.add_assoc k, Nat.add_comm 1]

/-- eight bits from a byte boundary store one byte -/
theorem pack_byte (res : List Nat) (off : Nat) (w : List Bool) (hw : w.length = 8) :
    w.foldlM packBit (res, off, 0, 0) =
      if off < res.length then .ok (res.set off (natOfBits w), off + 1, 0, 0) else .error oob := by
  obtain ⟨v, b, rfl⟩ := (List.eq_nil_or_concat w).resolve_left (by rintro rfl; cases hw)
  rw [List.concat_eq_append] at hw ⊢
  have h7 : v.length = 7 := by simpa using hw
  have hlt := QRComp.natOfBits_lt (v ++ [b])
  rw [hw, natOfBits_append] at hlt
  rw [List.foldlM_append, pack_few res off v 0 0 (by omega), natOfBits_append]
  simp only [bind, Except.bind, List.foldlM, packBit, h7, pure, Except.pure, Nat.zero_mul, Nat.zero_add, if_true,
    Nat.mod_eq_of_lt hlt]
  by_cases hoff : off < res.length <;> simp [hoff]

theorem set_mid_nat (pre : List Nat) (v : Nat) (n : Nat) :
    (pre ++ List.replicate (n + 1) 0).set pre.length v = (pre ++ [v]) ++ List.replicate n 0 := by
  rw [List.replicate_succ, List.set_append_right _ _ (Nat.le_refl _)]
  simp

/-- the packing fold = the model's `bitsToBytes`, the offset, the pending bits; an index fault iff there are more than `n` bytes -/
theorem pack_general : ∀ (n : Nat) (bits : List Bool) (pre : List Nat),
    bits.foldlM packBit (pre ++ List.replicate n 0, pre.length, 0, 0) =
      if bits.length / 8 > n then .error oob
      else .ok (pre ++ bitsToBytes n bits ++ List.replicate (n - bits.length / 8) 0, pre.length + bits.length / 8,
        natOfBits (bits.drop (8 * (bits.length / 8))), bits.length % 8) := by
  intro n
  induction n with
  | zero =>
    intro bits pre
    by_cases hs : bits.length < 8
    · rw [pack_few _ _ bits 0 0 (by omega), Nat.div_eq_of_lt hs, Nat.mod_eq_of_lt hs]
      simp [bitsToBytes]
    · have h8 : (bits.take 8).length = 8 := by rw [List.length_take]; omega
      conv => lhs; rw [← List.take_append_drop 8 bits, List.foldlM_append, pack_byte _ _ _ h8]
      rw [if_pos (Nat.div_pos (Nat.le_of_not_lt hs) (by decide))]
      simp [bind, Except.bind]
  | succ n ih =>
    intro bits pre
    by_cases hs : bits.length < 8
    · rw [pack_few _ _ bits 0 0 (by omega), Nat.div_eq_of_lt hs, Nat.mod_eq_of_lt hs]
      simp [bitsToBytes, hs]
    · have h8 : (bits.take 8).length = 8 := by rw [List.length_take]; omega
      have hL : bits.length = (bits.drop 8).length + 8 := by rw [List.length_drop]; omega
      have hb : bitsToBytes (n + 1) bits = natOfBits (bits.take 8) :: bitsToBytes n (bits.drop 8) := by
        simp [bitsToBytes, hs]
      have ih' := ih (bits.drop 8) (pre ++ [natOfBits (bits.take 8)])
      rw [List.length_append, List.length_singleton] at ih'
      conv => lhs; rw [← List.take_append_drop 8 bits, List.foldlM_append, pack_byte _ _ _ h8]
      rw [if_pos (by simp), hb, hL, Nat.add_div_right _ (by decide), Nat.add_mod_right, Nat.mul_succ, Nat.add_comm _ 8,
        ← List.drop_drop]
      simp only [bind, Except.bind, set_mid_nat]
      rw [ih']
      generalize (bits.drop 8).length / 8 = q
      by_cases hgt : q > n
      · rw [if_pos hgt, if_pos (by omega)]
      · rw [if_neg hgt, if_neg (by omega)]
        congr 2
        · simp only [List.append_assoc, List.singleton_append]
          congr 3; omega
        · rw [Nat.add_assoc, Nat.add_comm 1 q]

/-- the packing of the zig-zag loop into a fresh `result` of `total` bytes -/
theorem pack_eq (bits : List Bool) (total : Nat) :
    bits.foldlM packBit (List.replicate total 0, 0, 0, 0) =
      if bits.length / 8 > total then .error oob
      else .ok (bitsToBytes total bits ++ List.replicate (total - bits.length / 8) 0, bits.length / 8,
        natOfBits (bits.drop (8 * (bits.length / 8))), bits.length % 8) := by
  have := pack_general total bits []
  simpa using this

when_kernel Gzx.Gen.K01de.zigzag in
/-- the regenerated zig-zag loop on `result := make([]byte, total)`: with `bits` the model's data bits
    (`readDataBits fp m (zigzagCells dim)`), it returns the model's codewords `bitsToBytes total bits` (zero-padded when the symbol
    has fewer), `resultOffset = len(bits) / 8` — the value `ReadCodewords` compares with `total` — and it panics with an index
    fault exactly when the model reports the fault `result[resultOffset]` -/
theorem k_zigzag_codewords {M : Type} (ops : MatOps M) (abs : M → Matrix) (law : GetLaw ops abs) (fp m : M) (dim total : Nat)
    (fuel : Nat) (hf : dim < fuel) (bits : List Bool) (hbits : readDataBits (abs fp) (abs m) (zigzagCells dim) [] = .ok bits) :
    Gen.K01de.zigzag ops fuel m (dim : Int) fp true (bytes (List.replicate total 0)) =
      if bits.length / 8 > total then .error oob
      else .ok (bytes (bitsToBytes total bits ++ List.replicate (total - bits.length / 8) 0), ((bits.length / 8 : Nat) : Int), m) := by
  rw [dataBits_model] at hbits
  injection hbits with hbits
  rw [k_zigzag_eq ops abs law fp m dim _ fuel hf, hbits, pack_eq]
  by_cases hgt : bits.length / 8 > total <;> simp [hgt]

end Gzx.Obligations.K01e
