/-
  C07 — per-run obligations: the tables and small kernels regenerated from /repo's working tree
  (`Gzx.Gen.*`) equal what ISO/IEC 18004 prescribes (`Gzx.QRRef`, written from the standard).
  Every theorem here is re-checked whenever the generated files change; a transposed digit in a
  Go table breaks exactly the theorem that names the table.
-/
import Gzx.Gen.QRVersion
import Gzx.Gen.QRMask
import Gzx.Gen.C07Tables
import Gzx.Gen.C07Kernels
import Gzx.Model.QRTablesView
import Gzx.Proofs.QRKernels
import Gzx.Proofs.QRCodewords
namespace Gzx.Obligations.C07
open Gzx Gzx.GoVal Gzx.QRRef Gzx.QRTablesView Gzx.QRKernels

/-! ### decoder tables (qrcode/decoder/version.go, format_information.go) -/

/-- `VERSIONS`: all 40 rows — version number, alignment centres (= the spacing rule), the 160
    (EC codewords per block, block groups) entries, and the total codeword count that
    `NewVersion` derives (= the count derived from the function-pattern geometry). -/
theorem versions_conform : decodeVersions Gen.QRVersion.VERSIONS = some QRRef.versions := by decide +kernel

/-- `VERSION_DECODE_INFO[i] = (i+7)<<12 | BCH(18,6)(i+7)` for versions 7..40 -/
theorem version_decode_info_conform :
    Gen.QRVersion.VERSION_DECODE_INFO.asNatList? = some ((List.range 34).map (fun i => versionWord (i + 7))) := by
  decide +kernel

/-- `formatInfoDecodeLookup[d] = {((d<<10 | BCH(15,5)(d)) xor 0x5412), d}` for all 32 data values -/
theorem format_lookup_conform :
    Gen.C07Tables.FORMAT_INFO_DECODE_LOOKUP.asNatListList? =
      some ((List.range 32).map (fun d => [formatWordOfData d, d])) := by
  decide +kernel

theorem format_mask_conform :
    Gen.C07Tables.FORMAT_INFO_MASK_QR.asNat? = some formatMask ∧
    Gen.C07Tables.TYPE_INFO_MASK_PATTERN.asNat? = some formatMask := by decide

/-- generator polynomials of the two BCH codes (annexes C and D) -/
theorem bch_polys_conform :
    Gen.C07Tables.TYPE_INFO_POLY.asNat? = some formatPoly ∧
    Gen.C07Tables.VERSION_INFO_POLY.asNat? = some versionPoly := by decide

/-- level indicators of the format information: L=01, M=00, Q=11, H=10 -/
theorem ec_level_bits_conform :
    Gen.C07Tables.ErrorCorrectionLevel_L.asNat? = some EC.L.bits ∧
    Gen.C07Tables.ErrorCorrectionLevel_M.asNat? = some EC.M.bits ∧
    Gen.C07Tables.ErrorCorrectionLevel_Q.asNat? = some EC.Q.bits ∧
    Gen.C07Tables.ErrorCorrectionLevel_H.asNat? = some EC.H.bits := by decide

/-- `ErrorCorrectionLevel_ForBits` is the identity on the two indicator bits (the level type's
    values are the indicators), and fails on anything else -/
theorem ec_level_for_bits (b : Int) :
    Gen.C07Kernels.ecLevelForBits b = if 0 ≤ b ∧ b ≤ 3 then (b, false) else (-1, true) := by
  unfold Gen.C07Kernels.ecLevelForBits
  repeat' split
  all_goals (first | rfl | (simp only [beq_iff_eq] at *; omega) | (simp only [beq_iff_eq] at *; subst_vars; rfl))

/-! ### encoder tables (qrcode/encoder/matrix_util.go, encoder.go, mask_util.go) -/

/-- the encoder's own alignment table (rows padded with -1) equals the spacing rule too -/
theorem align_encoder_conform :
    Gen.C07Tables.POSITION_ADJUSTMENT_PATTERN_COORDINATE_TABLE.asIntListList? =
      some ((List.range 40).map (fun i => padAlign (alignCentres (i + 1)))) := by
  decide +kernel

/-- format-bit coordinates around the upper-left finder, least significant bit first -/
theorem type_info_coordinates_conform :
    Gen.C07Tables.TYPE_INFO_COORDINATES.asNatListList? =
      some ((List.range 15).map (fun i => [(formatPos1 i).1, (formatPos1 i).2])) := by
  decide +kernel

/-- finder pattern bitmap = `finderDark` on the upper-left 7x7 corner -/
theorem finder_bitmap_conform :
    Gen.C07Tables.POSITION_DETECTION_PATTERN.asNatListList?.map bitmapOf =
      some ((List.range 7).map (fun y => (List.range 7).map (fun x => finderDark 1 x y))) := by
  decide +kernel

/-- alignment pattern bitmap = `alignmentDark` around the centre (18,18) of version 2 -/
theorem alignment_bitmap_conform :
    Gen.C07Tables.POSITION_ADJUSTMENT_PATTERN.asNatListList?.map bitmapOf =
      some ((List.range 5).map (fun y => (List.range 5).map (fun x => alignmentDark 2 (16 + x) (16 + y)))) := by
  decide +kernel

/-- `alphanumericTable` (96 entries) = Table 5; code points from 96 up have no value in Table 5
    (`getAlphanumericCode` returns -1 beyond the table) -/
theorem alphanumeric_table_conform :
    Gen.C07Tables.alphanumericTable.asIntList? = some ((List.range 96).map refAlnumEntry) := by
  decide +kernel

theorem alphanumeric_beyond_table (c : Nat) (h : 96 ≤ c) : alnumCode c = none := by
  unfold alnumCode
  rw [if_neg (by omega), if_neg (by omega), if_neg (by omega), if_neg (by omega), if_neg (by omega),
    if_neg (by omega), if_neg (by omega), if_neg (by omega), if_neg (by omega), if_neg (by omega),
    if_neg (by omega)]

/-- mode indicators and character-count widths (Tables 2 and 3) -/
theorem mode_tables_conform :
    decodeMode Gen.C07Tables.Mode_NUMERIC = some (refMode .numeric) ∧
    decodeMode Gen.C07Tables.Mode_ALPHANUMERIC = some (refMode .alnum) ∧
    decodeMode Gen.C07Tables.Mode_BYTE = some (refMode .byte) ∧
    decodeMode Gen.C07Tables.Mode_KANJI = some (refMode .kanji) ∧
    decodeMode Gen.C07Tables.Mode_TERMINATOR = some ([0, 0, 0], 0) ∧
    decodeMode Gen.C07Tables.Mode_STRUCTURED_APPEND = some ([0, 0, 0], 3) ∧
    decodeMode Gen.C07Tables.Mode_FNC1_FIRST_POSITION = some ([0, 0, 0], 5) ∧
    decodeMode Gen.C07Tables.Mode_ECI = some ([0, 0, 0], 7) ∧
    decodeMode Gen.C07Tables.Mode_FNC1_SECOND_POSITION = some ([0, 0, 0], 9) := by decide

/-- penalty weights N1..N4 (Table 11) and the number of mask patterns -/
theorem penalty_weights_conform :
    Gen.C07Tables.maskUtilN1.asNat? = some 3 ∧ Gen.C07Tables.maskUtilN2.asNat? = some 3 ∧
    Gen.C07Tables.maskUtilN3.asNat? = some 40 ∧ Gen.C07Tables.maskUtilN4.asNat? = some 10 ∧
    Gen.C07Tables.QRCode_NUM_MASK_PATERNS.asNat? = some 8 := by decide

theorem valid_mask_pattern (k : Int) :
    Gen.C07Kernels.isValidMaskPattern k = decide (0 ≤ k ∧ k < 8) := by
  unfold Gen.C07Kernels.isValidMaskPattern
  by_cases h1 : k ≥ 0 <;> by_cases h2 : k < 8 <;> simp [h1, h2]

/-! ### translated kernels: mask predicates -/

/-- the encoder's `MaskUtil_getDataMaskBit(k, x, y)` is the standard's mask condition `k` at
    column `x`, row `y`, for all naturals; no error for k < 8 -/
theorem enc_mask_formula (k x y : Nat) (hk : k < 8) :
    Gen.QRMask.getDataMaskBit k x y = (maskBit k x y, false) := by
  have hk' : k = 0 ∨ k = 1 ∨ k = 2 ∨ k = 3 ∨ k = 4 ∨ k = 5 ∨ k = 6 ∨ k = 7 := by omega
  rcases hk' with h | h | h | h | h | h | h | h <;> subst h <;>
    simp only [Gen.QRMask.getDataMaskBit, maskBit] <;>
    simp (decide := true) only [if_true, if_false, ← Int.natCast_add, ← Int.natCast_mul,
      iand_natCast_one, tmod_natCast_3, tdiv_natCast_2, tdiv_natCast_3,
      natCast_beq_zero, Prod.mk.injEq, and_true] <;>
    (try (rw [Bool.eq_iff_iff]; simp only [beq_iff_eq]; generalize y * x = t; generalize y + x = s; omega))

/-- an out-of-range pattern is an error -/
theorem enc_mask_invalid (k x y : Int) (hk : k < 0 ∨ 8 ≤ k) :
    (Gen.QRMask.getDataMaskBit k x y).2 = true := by
  have hne (n : Int) (h0 : 0 ≤ n) (h8 : n < 8) : ¬ (k == n) = true := by
    simp only [beq_iff_eq]; omega
  simp only [Gen.QRMask.getDataMaskBit]
  rw [if_neg (hne 0 (by decide) (by decide)), if_neg (hne 1 (by decide) (by decide)),
    if_neg (hne 2 (by decide) (by decide)), if_neg (hne 3 (by decide) (by decide)),
    if_neg (hne 4 (by decide) (by decide)), if_neg (hne 5 (by decide) (by decide)),
    if_neg (hne 6 (by decide) (by decide)), if_neg (hne 7 (by decide) (by decide))]

/-- the decoder's eight `DataMaskValues` closures, `isMasked(i, j)` with `i` = row, `j` = column -/
def decMask (k : Nat) (i j : Int) : Bool :=
  match k with
  | 0 => Gen.QRMask.decMask_0 i j
  | 1 => Gen.QRMask.decMask_1 i j
  | 2 => Gen.QRMask.decMask_2 i j
  | 3 => Gen.QRMask.decMask_3 i j
  | 4 => Gen.QRMask.decMask_4 i j
  | 5 => Gen.QRMask.decMask_5 i j
  | 6 => Gen.QRMask.decMask_6 i j
  | 7 => Gen.QRMask.decMask_7 i j
  | _ => false

theorem dec_mask_count : Gen.QRMask.decMask_count = 8 := by decide

/-- `mask_formula_equiv`, decoder side: closure `k` applied to (row `i`, column `j`) is the standard's
    condition `k` — including the rewritings "xy mod 6 == 0", "xy mod 6 < 3",
    "(x + y + xy mod 3) mod 2 == 0" — for all naturals -/
theorem dec_mask_formula (k i j : Nat) (hk : k < 8) : decMask k i j = maskBit k j i := by
  have hk' : k = 0 ∨ k = 1 ∨ k = 2 ∨ k = 3 ∨ k = 4 ∨ k = 5 ∨ k = 6 ∨ k = 7 := by omega
  rcases hk' with h | h | h | h | h | h | h | h <;> subst h <;>
    simp only [decMask, Gen.QRMask.decMask_0, Gen.QRMask.decMask_1, Gen.QRMask.decMask_2, Gen.QRMask.decMask_3,
      Gen.QRMask.decMask_4, Gen.QRMask.decMask_5, Gen.QRMask.decMask_6, Gen.QRMask.decMask_7, maskBit] <;>
    simp (decide := true) only [← Int.natCast_add, ← Int.natCast_mul,
      iand_natCast_one, tmod_natCast_3, tmod_natCast_6, tdiv_natCast_2, tdiv_natCast_3,
      natCast_beq_zero, natCast_lt_3] <;>
    (try (rw [Bool.eq_iff_iff]; simp only [beq_iff_eq, decide_eq_true_eq]; generalize i * j = t; generalize i + j = s; omega))

/-- what the encoder XORs onto module (column x, row y) is what the decoder
    removes there: the encoder calls `MaskUtil_getDataMaskBit(k, xx, y)`, the decoder
    `isMasked(i, j)` then `bits.Flip(j, i)` with `i` = row, `j` = column -/
theorem mask_enc_eq_dec (k x y : Nat) (hk : k < 8) :
    (Gen.QRMask.getDataMaskBit k x y).1 = decMask k y x := by
  rw [enc_mask_formula k x y hk, dec_mask_formula k y x hk]

/-! ### translated kernel: block sizes -/

/-- for a row with `n > 0` blocks of `e` EC codewords each and `D` data
    codewords (total `D + e·n`), `getNumDataBytesAndNumECBytesForBlockID(total, D, n, b)` never
    fails for `b < n` (its three "sanity checks" are identities) and returns the standard's split:
    the first `n - D mod n` blocks carry `⌊D/n⌋` data codewords, the others one more. -/
theorem block_split_formula (D e n b : Nat) (hn : 0 < n) (hb : b < n) :
    Gen.C07Kernels.blockSizes ((D + e * n : Nat) : Int) D n b =
      (((if b < n - D % n then D / n else D / n + 1 : Nat) : Int), (e : Int), false) := by
  unfold Gen.C07Kernels.blockSizes
  have h1 : Int.tmod ((D + e * n : Nat) : Int) (n : Int) = ((D % n : Nat) : Int) := by
    rw [tmod_natCast, Nat.add_mul_mod_self_right]
  have h2 : Int.tdiv ((D + e * n : Nat) : Int) (n : Int) = ((D / n : Nat) : Int) + (e : Int) := by
    rw [tdiv_natCast, Nat.add_mul_div_right _ _ hn, Int.natCast_add]
  have h3 : Int.tdiv (D : Int) (n : Int) = ((D / n : Nat) : Int) := tdiv_natCast D n
  have hD : ((D + e * n : Nat) : Int) = (n : Int) * ((D / n : Nat) : Int) + ((D % n : Nat) : Int) + (e : Int) * (n : Int) := by
    have := Nat.div_add_mod D n
    rw [← Int.natCast_mul, ← Int.natCast_mul, ← Int.natCast_add, ← Int.natCast_add, this]
  have hr : D % n < n := Nat.mod_lt _ hn
  simp only [h1, h2, h3]
  have c0 : ¬ ((b : Int) ≥ (n : Int)) := by omega
  simp only [c0, decide_false, Bool.false_eq_true, if_false]
  rw [hD, ← ring1]
  simp only [bne_self_eq_false, Bool.false_eq_true, if_false]
  have c1 : ((D / n : Nat) : Int) + (e : Int) - ((D / n : Nat) : Int) = ((D / n : Nat) : Int) + (e : Int) + 1 - (((D / n : Nat) : Int) + 1) := by omega
  have c2 : (n : Int) = (n : Int) - ((D % n : Nat) : Int) + ((D % n : Nat) : Int) := by omega
  rw [← c1, ← c2]
  simp only [bne_self_eq_false, Bool.false_eq_true, if_false]
  by_cases hlt : b < n - D % n
  · have : (b : Int) < (n : Int) - ((D % n : Nat) : Int) := by omega
    simp only [hlt, this, decide_true, if_true, Prod.mk.injEq, and_true, true_and]
    omega
  · have : ¬ (b : Int) < (n : Int) - ((D % n : Nat) : Int) := by omega
    simp only [hlt, this, decide_false, Bool.false_eq_true, if_false, Prod.mk.injEq, and_true, Int.natCast_add, Int.cast_ofNat_Int, true_and]
    omega

/-- a block id beyond the block count is refused -/
theorem block_split_refuses (T D n b : Int) (hb : b ≥ n) :
    (Gen.C07Kernels.blockSizes T D n b).2.2 = true := by
  unfold Gen.C07Kernels.blockSizes
  simp [hb]

/-- on every (version, level, block) of the standard's table (2 956 blocks) the translated function
    gives the reference block lengths -/
def blockSplitOK (v : Nat) (ec : EC) : Bool :=
  (List.range (numBlocks v ec)).all (fun b =>
    Gen.C07Kernels.blockSizes (totalCodewords v) (dataCodewords v ec) (numBlocks v ec) b ==
      ((((blockDataLengths v ec).getD b 0 : Nat) : Int), ((ecPerBlock v ec : Nat) : Int), false))

theorem block_split_all : ∀ v ∈ List.range 40, ∀ ec ∈ EC.all, blockSplitOK (v + 1) ec = true := by
  intro v hv ec hec
  have htable : ∀ v ∈ List.range 40, ∀ ec ∈ EC.all, 0 < numBlocks (v + 1) ec ∧
      ecPerBlock (v + 1) ec * numBlocks (v + 1) ec ≤ totalCodewords (v + 1) := by decide +kernel
  obtain ⟨hn, hle⟩ := htable v hv ec hec
  unfold blockSplitOK
  rw [List.all_eq_true]
  intro b hb
  rw [List.mem_range] at hb
  have htotal : totalCodewords (v + 1) =
      dataCodewords (v + 1) ec + ecPerBlock (v + 1) ec * numBlocks (v + 1) ec :=
    (Nat.sub_add_cancel hle).symm
  rw [beq_iff_eq, blockDataLengths_getD _ _ _ hb]
  conv => lhs; rw [htotal]
  exact block_split_formula _ _ _ _ hn hb

end Gzx.Obligations.C07
