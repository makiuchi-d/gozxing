/-
  K11c — the Aztec high-level decoder of aztec/decoder/decoder.go regenerated from /repo on every run
  (`Gzx.Gen.K11c`: `readCode`, `getTable`, `getCharacter` with the five `[]string` tables as tables of byte lists,
  `getEncodedData` = `HighLevelDecode`), against the model `Model/AztecDecoder.lean` §5:

    * `k_readCode_eq'`: `readCode` for all arguments (the same text as Gen.K11b.readCode),
    * `k_getTable_eq`: `getTable(t)` for every byte,
    * `k_getCharacter_eq`: `getCharacter(table, code)` for every table value and every code ≥ 0 = the model's
      `getCharacter` on the classified tables (`TablesAgreeA`, decided for the reference tables: `tablesA_ref`).
-/
import Gzx.Gen.K11c
import Gzx.Obligations.K11b
import Gzx.Proofs.AztecLink
namespace Gzx.Obligations.K11c
open Gzx Gzx.GoM Gzx.GoVal Gzx.AztecDecoder Gzx.Obligations.K11b

when_kernel Gzx.Gen.K11b.readCode in
when_kernel Gzx.Gen.K11c.readCode in
theorem readCode_same : Gen.K11c.readCode = Gen.K11b.readCode := rfl

when_kernel Gzx.Gen.K11b.readCode in
when_kernel Gzx.Gen.K11c.readCode in
/-- `readCode(rawbits, startIndex, length)` for ALL arguments (see `K11b.k_readCode_eq`) -/
theorem k_readCode_eq' (xs : List Int) (s l : Int) :
    Gen.K11c.readCode xs s l =
      if l ≤ 0 then .ok 0
      else if 0 ≤ s ∧ s + l ≤ (xs.length : Int) then
        .ok ((AztecDecoder.readCode (((boolsOf xs).drop s.toNat).take l.toNat) : Nat) : Int)
      else .error oob := by
  rw [readCode_same]; exact k_readCode_eq xs s l

/-- the Go `Table` constants -/
def tableCode : Table → Int
  | .upper => 0 | .lower => 1 | .mixed => 2 | .digit => 3 | .punct => 4 | .binary => 5

when_kernel Gzx.Gen.K11c.getTable in
/-- `getTable(t)` for every byte -/
theorem k_getTable_eq (t : Nat) (ht : t < 256) :
    Gen.K11c.getTable (t : Int) = .ok (tableCode (AztecDecoder.getTable (Char.ofNat t))) := by
  have : ∀ t : Fin 256, Gen.K11c.getTable ((t.val : Nat) : Int) = .ok (tableCode (AztecDecoder.getTable (Char.ofNat t.val))) := by
    decide +kernel
  exact this ⟨t, ht⟩

/-- how `getEncodedData` classifies a table string, on its bytes (cf. `AztecDecoder.classify` on `String`) -/
def classifyB (s : List Int) : Option DEntry :=
  if s = [70, 76, 71, 40, 110, 41] then some .flg
  else if hasPrefix s [67, 84, 82, 76, 95] then
    match s.drop 5 with
    | t :: l :: _ => some (.ctrl (AztecDecoder.getTable (Char.ofNat t.toNat)) (l == 76))
    | _ => none
  else some (.lit (s.map Int.toNat))

when_kernel Gzx.Gen.K11c.getCharacter in
/-- the model's tables are the regenerated tables, classified -/
def TablesAgreeA (T : Tables) : Prop :=
  Gen.K11c.tbl_UPPER_TABLE.mapM classifyB = some T.upper ∧ Gen.K11c.tbl_LOWER_TABLE.mapM classifyB = some T.lower
  ∧ Gen.K11c.tbl_MIXED_TABLE.mapM classifyB = some T.mixed ∧ Gen.K11c.tbl_PUNCT_TABLE.mapM classifyB = some T.punct
  ∧ Gen.K11c.tbl_DIGIT_TABLE.mapM classifyB = some T.digit
  ∧ (∀ s ∈ Gen.K11c.tbl_UPPER_TABLE ++ Gen.K11c.tbl_LOWER_TABLE ++ Gen.K11c.tbl_MIXED_TABLE ++ Gen.K11c.tbl_PUNCT_TABLE
      ++ Gen.K11c.tbl_DIGIT_TABLE, ∀ x ∈ s, 0 ≤ x ∧ x < 256)

when_kernel Gzx.Gen.K11c.getCharacter in
instance (T : Tables) : Decidable (TablesAgreeA T) := by unfold TablesAgreeA; infer_instance

when_kernel Gzx.Gen.K11c.getCharacter in
/-- the regenerated `[]string` tables, classified, are the reference tables of ISO/IEC 24778 -/
theorem tablesA_ref : TablesAgreeA AztecLink.refTables := by decide +kernel

theorem mapM_some_spec {α β : Type} (f : α → Option β) : ∀ (xs : List α) (ys : List β), xs.mapM f = some ys →
    xs.length = ys.length ∧ ∀ (i : Nat) (h : i < xs.length) (h' : i < ys.length), f xs[i] = some ys[i]
  | [], ys, h => by
    simp at h; subst h; simp
  | x :: xs, ys, h => by
    simp only [List.mapM_cons, bind, Option.bind] at h
    cases hx : f x with
    | none => simp [hx] at h
    | some y =>
      simp only [hx] at h
      cases hr : xs.mapM f with
      | none => simp [hr] at h
      | some ys' =>
        simp only [hr, pure, Option.some.injEq] at h
        subst h
        obtain ⟨hl, hp⟩ := mapM_some_spec f xs ys' hr
        refine ⟨by simp [hl], ?_⟩
        intro i h1 h2
        cases i with
        | zero => simpa using hx
        | succ i => simpa using hp i (by simpa using h1) (by simpa using h2)

/-- the code test and the checked read of `getCharacter` -/
def lookK (tbl : List (List Int)) (code : Int) : Res (List Int × Bool) :=
  if decide (code ≥ Int.ofNat tbl.length) = true then .ok ([], true)
  else tryR (idxLL tbl code) fun t => .ok (t, false)

/-- a checked read of a classified table -/
theorem lookup_agree (tbl : List (List Int)) (ds : List DEntry) (h : tbl.mapM classifyB = some ds) (code : Nat) :
    (∃ s e, s ∈ tbl ∧ ds[code]? = some e ∧ classifyB s = some e ∧ lookK tbl (code : Int) = .ok (s, false))
    ∨ (ds[code]? = none ∧ lookK tbl (code : Int) = .ok ([], true)) := by
  obtain ⟨hl, hp⟩ := mapM_some_spec classifyB tbl ds h
  unfold lookK
  by_cases hc : code < ds.length
  · left
    have hd : decide (((code : Nat) : Int) ≥ Int.ofNat tbl.length) = false := by simp; omega
    refine ⟨tbl[code]'(by omega), ds[code], List.getElem_mem _, by simp [hc], hp code (by omega) hc, ?_⟩
    rw [hd]
    unfold idxLL
    have : ¬ ((code : Int) < 0) := by omega
    simp [this, show code < tbl.length by omega]
  · right
    have hd : decide (((code : Nat) : Int) ≥ Int.ofNat tbl.length) = true := by simp; omega
    refine ⟨by simp; omega, ?_⟩
    rw [hd]; rfl

when_kernel Gzx.Gen.K11c.getCharacter in
theorem getCharacter_unfold (code : Int) :
    Gen.K11c.getCharacter 0 code = lookK Gen.K11c.tbl_UPPER_TABLE code
    ∧ Gen.K11c.getCharacter 1 code = lookK Gen.K11c.tbl_LOWER_TABLE code
    ∧ Gen.K11c.getCharacter 2 code = lookK Gen.K11c.tbl_MIXED_TABLE code
    ∧ Gen.K11c.getCharacter 4 code = lookK Gen.K11c.tbl_PUNCT_TABLE code
    ∧ Gen.K11c.getCharacter 3 code = lookK Gen.K11c.tbl_DIGIT_TABLE code
    ∧ Gen.K11c.getCharacter 5 code = .ok ([], true) := ⟨rfl, rfl, rfl, rfl, rfl, rfl⟩

when_kernel Gzx.Gen.K11c.getCharacter in
/-- `getCharacter(table, code)` for every table and every code ≥ 0: the string whose classification is the model's entry,
    or the FormatException of a code beyond the table / of the binary "table" -/
theorem k_getCharacter_eq (T : Tables) (hT : TablesAgreeA T) (tb : Table) (code : Nat) :
    (∃ s e, AztecDecoder.getCharacter T tb code = .ok e ∧ classifyB s = some e ∧ (∀ x ∈ s, 0 ≤ x ∧ x < 256) ∧
        Gen.K11c.getCharacter (tableCode tb) (code : Int) = .ok (s, false))
    ∨ (AztecDecoder.getCharacter T tb code = .error .format ∧ Gen.K11c.getCharacter (tableCode tb) (code : Int) = .ok ([], true)) := by
  obtain ⟨h1, h2, h3, h4, h5, hby⟩ := hT
  obtain ⟨u0, u1, u2, u4, u3, u5⟩ := getCharacter_unfold (code : Int)
  unfold AztecDecoder.getCharacter
  cases tb with
  | upper =>
    simp only [tableCode, u0]
    rcases lookup_agree _ _ h1 code with ⟨s, e, hm, he, hc, hk⟩ | ⟨he, hk⟩
    · left; exact ⟨s, e, by simp [he], hc, hby s (by simp [hm]), hk⟩
    · right; exact ⟨by simp [he], hk⟩
  | lower =>
    simp only [tableCode, u1]
    rcases lookup_agree _ _ h2 code with ⟨s, e, hm, he, hc, hk⟩ | ⟨he, hk⟩
    · left; exact ⟨s, e, by simp [he], hc, hby s (by simp [hm]), hk⟩
    · right; exact ⟨by simp [he], hk⟩
  | mixed =>
    simp only [tableCode, u2]
    rcases lookup_agree _ _ h3 code with ⟨s, e, hm, he, hc, hk⟩ | ⟨he, hk⟩
    · left; exact ⟨s, e, by simp [he], hc, hby s (by simp [hm]), hk⟩
    · right; exact ⟨by simp [he], hk⟩
  | punct =>
    simp only [tableCode, u4]
    rcases lookup_agree _ _ h4 code with ⟨s, e, hm, he, hc, hk⟩ | ⟨he, hk⟩
    · left; exact ⟨s, e, by simp [he], hc, hby s (by simp [hm]), hk⟩
    · right; exact ⟨by simp [he], hk⟩
  | digit =>
    simp only [tableCode, u3]
    rcases lookup_agree _ _ h5 code with ⟨s, e, hm, he, hc, hk⟩ | ⟨he, hk⟩
    · left; exact ⟨s, e, by simp [he], hc, hby s (by simp [hm]), hk⟩
    · right; exact ⟨by simp [he], hk⟩
  | binary => right; simp [tableCode, u5]

end Gzx.Obligations.K11c
