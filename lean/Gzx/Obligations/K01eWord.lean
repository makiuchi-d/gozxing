/-
  K01e — the abstract matrix of the regenerated QR decoder (`MatOps M`, lean/Gzx/GoMK01.lean) INSTANTIATED with the word-level
  `BitMatrix` of C16: `M` = the well-formed square word matrices (`InvM`, Model/Bits.lean), `Get` / `Flip` / `SetRegion` = the
  methods regenerated from bit_matrix.go on every run (`Gen.K16.matrixGet`, `Gen.K16b.matrixFlip`, `Gen.K16b.matrixSetRegion`).
  `GetLaw` and `FlipLaw` are THEOREMS for this instance (through `Obligations/K16*.lean`: regenerated method = word model, and
  `Proofs/BitsMat*.lean`: word model refines the bit grid), so `copyBit`, `ReadFormatInformation`, `ReadVersion` and `Mirror` of
  K01d/K01e hold for the real `[]uint32` matrix, not only for an abstract one.
  (`NewSquareBitMatrix` is the model constructor `WMat.new`: the Go constructor returns a pointer next to an error, which the
  translator's subset does not cover.)
-/
import Gzx.Obligations.K01eMirror
import Gzx.Obligations.K16
import Gzx.Obligations.K16b
import Gzx.Proofs.BitsMatCell
import Gzx.Proofs.BitsMatGrid
import Gzx.Proofs.BitsCtor
namespace Gzx.Obligations.K01e
open Gzx Gzx.GoM Gzx.GoVal Gzx.QRDec Gzx.Bits Gzx.Obligations.K01d

/-- a well-formed square word matrix (every `*BitMatrix` a `BitMatrixParser` accepts) -/
def SqM : Type := { m : WMat // InvM m ∧ m.width = m.height }

/-- the model matrix a word matrix stands for (through C16's bit grid `absM`) -/
def absW (m : SqM) : Matrix := ⟨m.1.height, fun x y => (absM m.1).get x y⟩

/-- Go `[]uint32` back to the word list -/
def unwords (ws : List Int) : List Nat := ws.map Int.toNat

theorem unwords_words (ws : List Nat) : unwords (words ws) = ws := by
  unfold unwords words
  rw [List.map_map]
  exact List.map_id'' (fun _ => rfl) ws

/-- the 1x1 white matrix (stands for the nil pointer, which is only ever returned next to an error) -/
def unitM : SqM := ⟨⟨1, 1, 1, [0]⟩, by
  refine ⟨⟨by decide, by decide, by decide, by decide, ?_, ?_⟩, rfl⟩
  · intro w hw; simp at hw; subst hw; decide
  · intro x y h1 h2
    exact bitAt_zeros 1 _⟩

open Classical in
/-- keep a result only if it is again a well-formed square matrix (always, inside the matrix: `WMat.flip_refines` and
    `WMat.setRegion_refines` give the invariant, see `wordFlipLaw`, `wordSetRegionLaw`) -/
noncomputable def reSq (m' : WMat) : Res SqM :=
  if h : InvM m' ∧ m'.width = m'.height then .ok ⟨m', h⟩ else .error (.panic "BitMatrix invariant")

when_kernel Gzx.Gen.K16.matrixGet in
when_kernel Gzx.Gen.K16b.matrixFlip in
when_kernel Gzx.Gen.K16b.matrixSetRegion in
/-- the BitMatrix operations of the QR decoder on the word matrix, through the REGENERATED methods -/
noncomputable def wordOps : MatOps SqM where
  nilM := unitM
  width m := m.1.width
  height m := m.1.height
  get m x y :=
    match Gen.K16.matrixGet m.1.width m.1.height m.1.rowSize (words m.1.words) x y with
    | .ok b => b
    | .error _ => false
  flip m x y :=
    match Gen.K16b.matrixFlip m.1.rowSize (words m.1.words) x y with
    | .ok ws => reSq { m.1 with words := unwords ws }
    | .error e => .error e
  setRegion m l t w h :=
    match Gen.K16b.matrixSetRegion m.1.width m.1.height m.1.rowSize (words m.1.words) l t w h with
    | .ok (e, ws) =>
      match reSq { m.1 with words := unwords ws } with
      | .ok m' => .ok (m', e)
      | .error f => .error f
    | .error e => .error e
  newSquare d :=
    match WMat.new d.toNat d.toNat with
    | .ok m' => if d < 1 then .error (.panic "unreachable") else
        match reSq m' with
        | .ok s => .ok (s, false)
        | .error f => .error f
    | .error _ => .ok (unitM, true)

theorem reSq_ok (m' : WMat) (h : InvM m' ∧ m'.width = m'.height) : reSq m' = .ok ⟨m', h⟩ := by
  unfold reSq; rw [dif_pos h]

when_kernel Gzx.Gen.K16b.matrixFlip in
when_kernel Gzx.Gen.K16b.matrixSetRegion in
when_kernel Gzx.Gen.K16.matrixGet in
/-- the regenerated `BitMatrix.Get` on a well-formed matrix is the bit of the grid (false outside) -/
theorem wordGet_eq (m : SqM) (x y : Nat) : wordOps.get m (x : Int) (y : Int) = (absM m.1).get x y := by
  show (match Gen.K16.matrixGet m.1.width m.1.height m.1.rowSize (words m.1.words) x y with
    | .ok b => b | .error _ => false) = _
  rw [show words m.1.words = Obligations.K16.words m.1.words from rfl, Obligations.K16.k_matrixGet_eq,
    WMat.get_refines m.1 x y m.2.1]

when_kernel Gzx.Gen.K16b.matrixFlip in
when_kernel Gzx.Gen.K16b.matrixSetRegion in
when_kernel Gzx.Gen.K16.matrixGet in
/-- `GetLaw` for the word-level matrix: a THEOREM (regenerated `Get` = word model = bit grid) -/
theorem wordGetLaw : GetLaw wordOps absW := by
  intro m x y
  rw [wordGet_eq]
  unfold Matrix.get absW
  simp only
  split
  · rfl
  · rename_i h
    have hsq := m.2.2
    rw [absM_eq_ofFn, SMat.get_ofFn_out _ _ _ _ _ (by omega)]

theorem flip_shape {m m' : WMat} {x y : Nat} (h : WMat.flip m x y = .ok m') :
    m'.width = m.width ∧ m'.height = m.height ∧ m'.rowSize = m.rowSize := by
  unfold WMat.flip at h
  simp only [bind, Except.bind, pure, Except.pure] at h
  split at h
  · cases h
  · cases h; exact ⟨rfl, rfl, rfl⟩

/-- the words of a result of the same shape, read back from the Go slice and put into the old header, are that result -/
theorem reSq_words {m m' : WMat} (hs : m'.width = m.width ∧ m'.height = m.height ∧ m'.rowSize = m.rowSize)
    (h : InvM m' ∧ m'.width = m'.height) : reSq { m with words := unwords (words m'.words) } = .ok ⟨m', h⟩ := by
  have hm' : ({ m with words := unwords (words m'.words) } : WMat) = m' := by
    rw [unwords_words]
    cases m'
    simp only at hs
    obtain ⟨rfl, rfl, rfl⟩ := hs
    rfl
  rw [hm', reSq_ok]

when_kernel Gzx.Gen.K16.matrixGet in
when_kernel Gzx.Gen.K16b.matrixSetRegion in
when_kernel Gzx.Gen.K16b.matrixFlip in
/-- `FlipLaw` for the word-level matrix: a THEOREM (regenerated `Flip` = word model, which flips exactly that cell of the grid
    and keeps the invariant) -/
theorem wordFlipLaw : FlipLaw wordOps absW := by
  intro m x y hx hy
  have hsq := m.2.2
  have hx' : x < m.1.width := hsq ▸ hx
  obtain ⟨m', hf, hinv, habs⟩ := WMat.flip_refines m.1 x y m.2.1 hx' hy
  obtain ⟨sw, sh, sr⟩ := flip_shape hf
  refine ⟨⟨m', hinv, by omega⟩, ?_, sh, congrArg Nat.cast sw, congrArg Nat.cast sh, ?_⟩
  · show (match Gen.K16b.matrixFlip m.1.rowSize (words m.1.words) x y with
      | .ok ws => reSq { m.1 with words := unwords ws } | .error e => .error e) = _
    rw [Obligations.K16b.k_matrixFlip_eq, hf]
    exact reSq_words ⟨sw, sh, sr⟩ _
  intro a b ha hb
  show (absM m').get a b = if a = x ∧ b = y then !(absM m.1).get a b else (absM m.1).get a b
  rw [habs, SMat.flip_eq _ (absM_WF m.1) x y hx']
  exact SMat.get_ofFn _ _ _ _ _ (hsq ▸ ha : a < m.1.width) hb

/-! ### the decoder kernels on the real word-level matrix -/

when_kernel Gzx.Gen.K16.matrixGet in
when_kernel Gzx.Gen.K16b.matrixFlip in
when_kernel Gzx.Gen.K16b.matrixSetRegion in
when_kernel Gzx.Gen.K01d.copyBit in
/-- `copyBit` of the regenerated decoder running on the regenerated `BitMatrix.Get` over `[]uint32` = the model's `copyBit` -/
theorem k_copyBit_word (m : SqM) (mirror : Bool) (i j acc : Nat) :
    Gen.K01d.copyBit wordOps m mirror (i : Int) (j : Int) (acc : Int) =
      (QRDec.copyBit (absW m) mirror acc (i, j)).map Int.ofNat :=
  k_copyBit_eq wordOps absW wordGetLaw m mirror i j acc

when_kernel Gzx.Gen.K16.matrixGet in
when_kernel Gzx.Gen.K16b.matrixFlip in
when_kernel Gzx.Gen.K16b.matrixSetRegion in
when_kernel Gzx.Gen.K01d.readFormatInformation in
/-- `ReadFormatInformation` on the word-level matrix (dimension ≥ 8) = the model on the matrix it stands for -/
theorem k_readFormatInformation_word (m : SqM) (p : Parser) (hm : absW m = p.m) (hd : 8 ≤ p.m.dim) :
    Gen.K01d.readFormatInformation wordOps m (p.fmt.map encFI) p.mirror =
      expRFI (QRDec.readFormatInformation QRTables.tables p) :=
  k_readFormatInformation_eq wordOps absW wordGetLaw m p hm (by rw [← hm]; rfl) hd

when_kernel Gzx.Gen.K16.matrixGet in
when_kernel Gzx.Gen.K16b.matrixFlip in
when_kernel Gzx.Gen.K16b.matrixSetRegion in
when_kernel Gzx.Gen.K01d.readVersion in
/-- `ReadVersion` on the word-level matrix = the model on the matrix it stands for -/
theorem k_readVersion_word (m : SqM) (p : Parser) (hm : absW m = p.m) (hv : ∀ v, p.ver = some v → 1 ≤ v.num) :
    Gen.K01d.readVersion wordOps m (hOf p.ver) p.mirror = expRV (QRDec.readVersion QRTables.tables p) :=
  k_readVersion_eq wordOps absW wordGetLaw m p hm (by rw [← hm]; rfl) hv

when_kernel Gzx.Gen.K16.matrixGet in
when_kernel Gzx.Gen.K16b.matrixFlip in
when_kernel Gzx.Gen.K16b.matrixSetRegion in
when_kernel Gzx.Gen.K01d.mirror in
/-- `Mirror()` on the word-level matrix (regenerated `Get` and `Flip` over `[]uint32`): the result is again a well-formed
    square matrix of the same size whose module `(a, b)` is the former module `(b, a)` -/
theorem k_mirror_word (m : SqM) (fuel : Nat) (hf : m.1.height < fuel) :
    ∃ m' : SqM, Gen.K01d.mirror wordOps fuel m = .ok m' ∧ m'.1.height = m.1.height ∧
      ∀ a b, a < m.1.height → b < m.1.height → (absW m').bit a b = (mirrorMatrix (absW m)).bit a b := by
  obtain ⟨m', h1, h2, _, _, h5⟩ := k_mirror_eq wordOps absW wordGetLaw wordFlipLaw m m.1.height rfl
    (by show ((m.1.width : Nat) : Int) = _; rw [m.2.2]) rfl fuel hf
  exact ⟨m', h1, h2, h5⟩

/-- non-vacuity: a 21x21 word matrix is such a matrix -/
example : ∃ m : SqM, m.1.height = 21 := by
  obtain ⟨m0, _, hinv, hw, hh, _⟩ := WMat.newMat_props 21 21 (by decide) (by decide)
  exact ⟨⟨m0, hinv, by omega⟩, hh⟩

end Gzx.Obligations.K01e
