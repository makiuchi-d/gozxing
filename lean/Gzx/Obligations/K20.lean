/-
  K20 — the run-length primitives of oned/oned_reader.go regenerated from /repo on every run (`Gzx.Gen.K20`, translator kinds
  `funcm` / `region`, with `counters[i]++` and calls of translated functions that take the row and write the caller's slice)
  and proved equal to the word-level mirror `Model/K20RunLength.lean`, for ALL row word slices (also
  corrupt ones: the panic of `BitArray.Get` is part of the statement), all natural `size`, `start`, all `counters` and every
  `fuel` above the stated bound.  `Proofs/K20.lean` links the mirror to `Model/RunLength.lean` (the model the C20 theorems
  are about).  The pixel getter is the regenerated `BitArray.Get` itself (`Gen.K20.arrayGet`, tied to `WArr.get` below).
-/
import Gzx.Gen.K20
import Gzx.KernelGuard
import Gzx.Proofs.K20
import Gzx.Proofs.BitsArr
namespace Gzx.Obligations.K20
open Gzx Gzx.GoM Gzx.Bits Gzx.GoVal

when_kernel Gzx.Gen.K20.arrayGet in
/-- the row's pixel getter as the kernels call it -/
def getK (row_bits : List Int) (i : Nat) : Res Bool := Gen.K20.arrayGet row_bits (i : Int)

when_kernel Gzx.Gen.K20.arrayGet in
/-- `BitArray.Get(i)` = `WArr.get` (the copy of the kernel that the K20 callers use) -/
theorem k_arrayGet_eq (a : WArr) (i : Nat) : Gen.K20.arrayGet (words a.words) i = WArr.get a i := by
  simp only [Gen.K20.arrayGet, WArr.get]
  rw [idxR a.words (i / 32) _ (by gonorm; omega)]
  simp only [bind, Except.bind]
  cases wordAt a.words (i / 32) with
  | error e => rfl
  | ok w =>
    simp only [pure, Except.pure]
    gonorm
    rw [bit_natCast _ (i % 32) (by omega) (by omega), iand_natCast]
    congr 1
    exact natCast_bne_zero _

/-- what the `for i < end` loop must leave for a result of the mirror -/
def expScan : Res (List Int × Nat × Bool × Int) → Ctl (List Int × Int × Bool × Int) (Bool × List Int)
  | .ok (cs, i, w, cp) => .brk (cs, (i : Int), w, cp)
  | .error e => .panic e

when_kernel Gzx.Gen.K20.recordPattern in
/-- the pixel loop of `RecordPattern` = `K20.rpScan`: same reads, same counter writes, same exits, same panics -/
theorem k_recordPattern_scan (row_bits : List Int) (n : Int) (size : Nat) :
    ∀ (k i : Nat) (cs : List Int) (w : Bool) (cp : Int) (fuel : Nat), k < fuel → i + k = size →
      whileLoop (Gen.K20.recordPattern_body2 row_bits n (size : Int)) fuel (cs, (i : Int), w, cp) =
        expScan (K20.rpScan (getK row_bits) n k i cs w cp) := by
  intro k
  induction k with
  | zero =>
    intro i cs w cp fuel hf hi
    obtain ⟨fuel, rfl⟩ : ∃ f, fuel = f + 1 := ⟨fuel - 1, by omega⟩
    have hc : ¬ ((i : Int) < (size : Int)) := by omega
    simp [whileLoop_succ, Gen.K20.recordPattern_body2, hc, K20.rpScan, expScan]
  | succ k ih =>
    intro i cs w cp fuel hf hi
    obtain ⟨fuel, rfl⟩ : ∃ f, fuel = f + 1 := ⟨fuel - 1, by omega⟩
    have hc : (i : Int) < (size : Int) := by omega
    have e1 : (i : Int) + 1 = ((i + 1 : Nat) : Int) := by omega
    rw [whileLoop_succ]
    simp only [Gen.K20.recordPattern_body2, hc, decide_true, if_true, K20.rpScan, getK]
    cases hg : Gen.K20.arrayGet row_bits (i : Int) with
    | error e => rfl
    | ok b =>
      simp only [tryC_ok]
      by_cases hb : (b != w) = true
      · simp only [hb, if_true]
        cases hx : idx cs cp with
        | error e => rfl
        | ok c =>
          simp only [tryC_ok]
          cases hs : setIdx cs cp (c + 1) with
          | error e => rfl
          | ok cs' =>
            simp only [tryC_ok, e1]
            exact ih (i + 1) cs' w cp fuel (by omega) (by omega)
      · simp only [hb]
        by_cases hn : (cp + 1 == n) = true
        · simp only [hn, if_true]; rfl
        · simp only [hn]
          cases hs : setIdx cs (cp + 1) 1 with
          | error e => rfl
          | ok cs' =>
            simp only [tryC_ok, e1]
            exact ih (i + 1) cs' (!w) (cp + 1) fuel (by omega) (by omega)

when_kernel Gzx.Gen.K20.recordPattern in
/-- `RecordPattern(row, start, counters)` = `K20.recordPattern` on the regenerated getter: counters zeroed, NotFound
    for `start ≥ size`, the pixel loop, the final test `counterPosition == n || (counterPosition == n-1 && i == end)` -/
theorem k_recordPattern_eq (row_bits : List Int) (size start : Nat) (counters : List Int) (fuel : Nat) (hf : size < fuel) :
    Gen.K20.recordPattern fuel row_bits (size : Int) (start : Int) counters =
      K20.recordPattern (getK row_bits) size start counters := by
  simp only [Gen.K20.recordPattern, K20.recordPattern]
  rw [loop_up_fold' (fun (t : List Int) => t) (fun (t : List Int) (i : Nat) => setIdx t (i : Int) 0) 0 counters.length counters rfl
        (by rw [tripUp_one]; simp [len]) (by omega)]
  · rw [foldlM_setIdx_all]
    simp only [Except.map, ofRes_ok, next_thenR]
    by_cases hs : start ≥ size
    · have : (start : Int) ≥ (size : Int) := by omega
      simp [hs, this]
    · have : ¬ (start : Int) ≥ (size : Int) := by omega
      simp only [hs, this, decide_false, if_false, getK]
      cases hg : Gen.K20.arrayGet row_bits (start : Int) with
      | error e => rfl
      | ok b =>
        simp only [tryR_ok]
        rw [k_recordPattern_scan row_bits _ size (size - start) start _ _ _ fuel (by omega) (by omega)]
        cases hr : K20.rpScan (getK row_bits) (len counters) (size - start) start (counters.map fun _ => 0) (!b) 0 with
        | error e => simp [len] at hr; simp [hr, expScan, len]
        | ok r =>
          obtain ⟨cs, i, w, cp⟩ := r
          simp [len] at hr
          simp [hr, expScan, len]
  · intro i _ _ t
    simp only [Gen.K20.recordPattern_body1]
    cases setIdx t (i : Int) 0 <;> rfl

/-- what the backwards loop must leave for a result of the mirror -/
def expRev : Res (Nat × Int × Bool) → Ctl (Int × Int × Bool) (Bool × List Int)
  | .ok (s, l, last) => .brk ((s : Int), l, last)
  | .error e => .panic e

when_kernel Gzx.Gen.K20.recordPatternInReverse in
/-- the backwards walk of `RecordPatternInReverse` = `K20.revScan` -/
theorem k_recordPatternInReverse_scan (row_bits : List Int) :
    ∀ (s : Nat) (l : Int) (last : Bool) (fuel : Nat), s < fuel →
      whileLoop (Gen.K20.recordPatternInReverse_body1 row_bits) fuel ((s : Int), l, last) =
        expRev (K20.revScan (getK row_bits) s l last) := by
  intro s
  induction s with
  | zero =>
    intro l last fuel hf
    obtain ⟨fuel, rfl⟩ : ∃ f, fuel = f + 1 := ⟨fuel - 1, by omega⟩
    simp [whileLoop_succ, Gen.K20.recordPatternInReverse_body1, K20.revScan, expRev]
  | succ s ih =>
    intro l last fuel hf
    obtain ⟨fuel, rfl⟩ : ∃ f, fuel = f + 1 := ⟨fuel - 1, by omega⟩
    have hc : ((s + 1 : Nat) : Int) > 0 := by omega
    have e1 : ((s + 1 : Nat) : Int) - 1 = (s : Int) := by omega
    rw [whileLoop_succ]
    simp only [Gen.K20.recordPatternInReverse_body1, hc, decide_true, if_true, K20.revScan, getK, e1]
    by_cases hl : l ≥ 0
    · simp only [hl, decide_true, if_true]
      cases hg : Gen.K20.arrayGet row_bits (s : Int) with
      | error e => rfl
      | ok b =>
        simp only [tryC_ok]
        by_cases hb : (b != last) = true
        · simp only [hb, if_true]
          exact ih (l - 1) (!last) fuel (by omega)
        · simp only [hb]
          exact ih l last fuel (by omega)
    · simp only [hl, decide_false]
      simp [expRev]

when_kernel Gzx.Gen.K20.recordPatternInReverse in
/-- `RecordPatternInReverse(row, start, counters)` = `K20.recordPatternInReverse`: `row.Get(start)`, the walk back over
    `len(counters)+1` transitions, NotFound when the row start is reached first (counters untouched), else
    `RecordPattern(row, start+1, counters)` -/
theorem k_recordPatternInReverse_eq (row_bits : List Int) (size start : Nat) (counters : List Int) (fuel : Nat)
    (hf : size < fuel) (hs : start < fuel) :
    Gen.K20.recordPatternInReverse fuel row_bits (size : Int) (start : Int) counters =
      K20.recordPatternInReverse (getK row_bits) size start counters := by
  simp only [Gen.K20.recordPatternInReverse, K20.recordPatternInReverse, getK]
  cases hg : Gen.K20.arrayGet row_bits (start : Int) with
  | error e => rfl
  | ok last =>
    simp only [tryR_ok]
    rw [k_recordPatternInReverse_scan row_bits start _ last fuel hs]
    cases hr : K20.revScan (getK row_bits) start (len counters) last with
    | error e => simp [len] at hr; simp [hr, expRev]
    | ok r =>
      obtain ⟨s, l, lst⟩ := r
      simp [len] at hr
      simp only [hr, expRev, brk_thenR]
      by_cases hl : l ≥ 0
      · simp [hl]
      · simp only [hl, decide_false]
        have e : (s : Int) + 1 = ((s + 1 : Nat) : Int) := by omega
        rw [e, k_recordPattern_eq row_bits size (s + 1) counters fuel hf]
        cases K20.recordPattern (getK row_bits) size (s + 1) counters <;> rfl

when_kernel Gzx.Gen.K20.pmvSums in
/-- the first loop of `PatternMatchVariance` (`total`, `patternLength`) = `K20.pmvSums`: sums over `i < len(counters)`,
    index panic when `pattern` is shorter -/
theorem k_pmvSums_eq (counters pattern : List Int) :
    Gen.K20.pmvSums counters pattern = K20.pmvSums counters pattern 0 0 := by
  simp only [Gen.K20.pmvSums]
  have key : ∀ (cs ps pre qre : List Int) (t p : Int), pre.length = qre.length →
      loop (Gen.K20.pmvSums_body1 (pre ++ cs) (qre ++ ps)) 1 cs.length (pre.length : Nat) (t, p) =
        ofRes (K20.pmvSums cs ps t p) := by
    intro cs
    induction cs with
    | nil => intro ps pre qre t p _; simp [loop, K20.pmvSums]
    | cons c cs ih =>
      intro ps pre qre t p hl
      rw [List.length_cons, loop_succ]
      simp only [Gen.K20.pmvSums_body1]
      rw [idx_ofNat _ _ (by simp), List.getElem_append_right (Nat.le_refl _)]
      simp only [Nat.sub_self, List.getElem_cons_zero, tryC_ok]
      cases ps with
      | nil =>
        rw [idx_ge _ _ (by simp; omega)]
        simp [K20.pmvSums]
      | cons q ps =>
        rw [hl, idx_ofNat _ _ (by simp), List.getElem_append_right (Nat.le_refl _)]
        simp only [Nat.sub_self, List.getElem_cons_zero, tryC_ok, K20.pmvSums]
        have e : (qre.length : Int) + 1 = ((pre ++ [c]).length : Nat) := by simp; omega
        have := ih ps (pre ++ [c]) (qre ++ [q]) (t + c) (p + q) (by simp; omega)
        simp only [List.append_assoc, List.singleton_append] at this
        rw [e]; exact this
  have := key counters pattern [] [] 0 0 rfl
  simp only [List.nil_append, List.length_nil] at this
  rw [tripUp_one, show (len counters - 0).toNat = counters.length by simp [len]]
  have e0 : ((0 : Nat) : Int) = 0 := rfl
  rw [e0] at this
  rw [this]
  cases K20.pmvSums counters pattern 0 0 <;> rfl

/-! ### end to end: the regenerated code on a well-formed `BitArray` is the model the C20 theorems are about -/

when_kernel Gzx.Gen.K20.arrayGet in
theorem getK_absA (a : WArr) (ha : a.size ≤ a.words.length * 32) :
    ∀ j (h : j < (absA a).length), getK (words a.words) j = .ok (absA a)[j] := by
  intro j h
  have hj : j < a.size := by simpa [absA] using h
  rw [getK, k_arrayGet_eq, WArr.get_eq_bitAt a j (by omega)]
  simp [absA]

when_kernel Gzx.Gen.K20.recordPattern in
/-- **RecordPattern, Go source to run-length specification**: the function regenerated from oned_reader.go, run on the word
    slice of any `BitArray` with enough words for its size (every array the library builds), agrees with
    `RunLength.recordPattern` on the array's pixels — the model that `Properties/C20.recordPattern_eq_runs` proves equal
    to the first `n` maximal run lengths.  (`K20.Agrees`: equal counters on success, NotFound together, panic together.) -/
theorem k_recordPattern_model (a : WArr) (ha : a.size ≤ a.words.length * 32) (start : Nat) (counters : List Int)
    (fuel : Nat) (hf : a.size < fuel) :
    K20.Agrees (Gen.K20.recordPattern fuel (words a.words) (a.size : Int) (start : Int) counters)
      (RunLength.recordPattern (absA a) start counters.length) := by
  rw [k_recordPattern_eq _ _ _ _ _ hf]
  have := K20.recordPattern_agrees (getK (words a.words)) (absA a) start counters (getK_absA a ha)
  simpa [absA] using this

-- non-vacuity: a 40-pixel row `1100 0111 1000 …` built by `WArr`, three counters from pixel 2: runs 3, 4, 31 (cut by the row end)
when_kernel Gzx.Gen.K20.recordPattern in
example : Gen.K20.recordPattern 41 (words [0x1E3, 0]) 40 2 [7, 7, 7] = .ok (false, [3, 4, 31]) := by decide
when_kernel Gzx.Gen.K20.recordPattern in
example : Gen.K20.recordPattern 41 (words [0x1E3, 0]) 40 9 [7, 7, 7] = .ok (true, [31, 0, 0]) := by decide
when_kernel Gzx.Gen.K20.recordPatternInReverse in
example : Gen.K20.recordPatternInReverse 41 (words [0x1E3, 0]) 40 12 [5, 5] = .ok (false, [3, 4]) := by decide
when_kernel Gzx.Gen.K20.pmvSums in
example : Gen.K20.pmvSums [3, 4, 3] [1, 1, 1, 9] = .ok (10, 3) := by decide
example : (⟨[0x1E3, 0], 40⟩ : WArr).size ≤ (⟨[0x1E3, 0], 40⟩ : WArr).words.length * 32 := by decide

end Gzx.Obligations.K20
