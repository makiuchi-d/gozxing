/-
  wp oned128 — per-run obligations over the tables and constants regenerated from /repo/oned (Gzx.Gen.Row128Tables):
  the pattern tables, thresholds and code values the Code 128 / ITF row-decoder models are written with are what
  /repo holds now, the shape facts the totality theorems consume hold for them, and the totality theorems instantiated
  with the regenerated tables (exact and IEEE interpretation).
-/
import Gzx.Gen.Row128Tables
import Gzx.Properties.C06Row128
namespace Gzx.Obligations.C06Row128
open Gzx Gzx.Row128

def natList (v : GoVal) : List Nat := (v.asNatList?).getD []
def natListList (v : GoVal) : List (List Nat) := (v.asNatListList?).getD []
def intList (v : GoVal) : List Int := (v.asIntList?).getD []
def ratOf (v : GoVal) : Option (List Int) := (v.asApp? "rat").bind (·.mapM GoVal.asInt?)

def genP128 : List (List Nat) := natListList Gen.Row128Tables.c128Patterns

/-- the ITF reader tables as regenerated -/
def genItfT : RowITF.ItfT where
  start := natList Gen.Row128Tables.itfStart
  endRev := natListList Gen.Row128Tables.itfEndReversed
  patterns := natListList Gen.Row128Tables.itfPatterns
  defaultAllowed := intList Gen.Row128Tables.itfAllowedLengths

/-- the driver's tables (the ones the correspondence suites run the model with) are the regenerated ones -/
theorem gen_code128_patterns_are_model's :
    Gen.Row128Tables.c128Patterns.asNatListList? = some OneD.refTables.code128 := by decide +kernel

theorem gen_itf_tables_are_model's :
    Gen.Row128Tables.itfPatterns.asNatListList? = some RowITF.refItfT.patterns ∧
    Gen.Row128Tables.itfStart.asNatList? = some RowITF.refItfT.start ∧
    Gen.Row128Tables.itfEndReversed.asNatListList? = some RowITF.refItfT.endRev ∧
    Gen.Row128Tables.itfAllowedLengths.asIntList? = some RowITF.refItfT.defaultAllowed := by decide +kernel

/-- thresholds: the models compare with 1/4 and 7/10 (Code 128), 19/50 and 1/2 (ITF) -/
theorem gen_thresholds :
    ratOf Gen.Row128Tables.c128MaxAvg = some [1, 4] ∧ ratOf Gen.Row128Tables.c128MaxInd = some [7, 10] ∧
    ratOf Gen.Row128Tables.itfMaxAvg = some [19, 50] ∧ ratOf Gen.Row128Tables.itfMaxInd = some [1, 2] := by decide +kernel

/-- the code values the `step` function of the model is written with -/
theorem gen_code_values :
    [Gen.Row128Tables.c128Shift, Gen.Row128Tables.c128CodeC, Gen.Row128Tables.c128CodeB, Gen.Row128Tables.c128CodeA,
     Gen.Row128Tables.c128Fnc1, Gen.Row128Tables.c128Fnc2, Gen.Row128Tables.c128Fnc3, Gen.Row128Tables.c128Fnc4A,
     Gen.Row128Tables.c128Fnc4B, Gen.Row128Tables.c128StartA, Gen.Row128Tables.c128StartB, Gen.Row128Tables.c128StartC,
     Gen.Row128Tables.c128Stop].map GoVal.asNat? =
    [98, 99, 100, 101, 102, 97, 96, 101, 100, 103, 104, 105, 106].map some := by decide +kernel

/-- shape facts of the totality theorems -/
theorem gen_table128 : table128B genP128 = true := by decide +kernel
theorem gen_tableITF : RowITF.tableITFB genItfT = true := by decide +kernel

/-- `code128_decodeRow_total` for the tables /repo has now, exact and IEEE interpretation -/
theorem code128_decodeRow_total_gen (row : List Bool) (gs1 : Bool) :
    Typed (decodeRow exactDom genP128 row gs1) ∧ Typed (decodeRow floatDom genP128 row gs1) :=
  ⟨Properties.C06Row128.code128_decodeRow_total exactDom exactDom_pmvOk genP128 (table128_of_B _ gen_table128) row gs1,
   Properties.C06Row128.code128_decodeRow_total floatDom floatDom_pmvOk genP128 (table128_of_B _ gen_table128) row gs1⟩

theorem itf_decodeRow_total_gen (row : List Bool) (allowed : Option (List Int)) :
    Typed (RowITF.decodeRow exactDom genItfT row allowed) ∧ Typed (RowITF.decodeRow floatDom genItfT row allowed) :=
  ⟨Properties.C06Row128.itf_decodeRow_total exactDom exactDom_pmvOk genItfT (RowITF.tableITF_of_B _ gen_tableITF) row allowed,
   Properties.C06Row128.itf_decodeRow_total floatDom floatDom_pmvOk genItfT (RowITF.tableITF_of_B _ gen_tableITF) row allowed⟩

end Gzx.Obligations.C06Row128
