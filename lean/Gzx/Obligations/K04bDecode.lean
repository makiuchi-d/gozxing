/-
  K04b — `ReedSolomonDecoder.Decode` regenerated from /repo on every run and proved to agree with the
  model's `decodeD` for ALL received words (symbols outside the field, empty words and too many parity symbols included):
  the corrected word and `nil`; a checked `ReedSolomonException` (the slice then holds the corrections applied before the
  failure was noticed, exactly as in Go); or the same panic.  With this theorem `rs_corrects` (Properties/C04) is a statement
  about the SOURCE TEXT of the decoder: Obligations/K04bProps.lean.
  Conventions: Obligations/K04b.lean; fuel as in Obligations/K04bEuclid.lean.
-/
import Gzx.Obligations.K04bEuclid
import Gzx.Obligations.K04bForney
import Gzx.Obligations.K04bChien
namespace Gzx.Obligations.K04bDecode
open Gzx Gzx.GoM Gzx.GoVal Gzx.RS Gzx.K04bTie Gzx.Obligations.K04b Gzx.Obligations.K04bPoly Gzx.Obligations.K04bDiv
  Gzx.Obligations.K04bEnc Gzx.Obligations.K04bForney Gzx.Obligations.K04bChien Gzx.Obligations.K04bEuclid

/-- how `Decode` (error flag, the slice `received` after the call) renders a model result -/
def DecodeAgrees (g : Res (Bool × List Int)) : DRes (List Nat) → Prop
  | .ok w => g = .ok (false, ints w)
  | .error (.base (.panic s)) => g = .error (.panic s)
  | .error (.base .fuel) => g = .error .fuel
  | .error _ => ∃ w', g = .ok (true, w')

theorem DecodeAgrees_checked {g : Res (Bool × List Int)} {e : DErr} (w' : List Int) (hg : g = .ok (true, w'))
    (he : (∀ s, e ≠ .base (.panic s)) ∧ e ≠ .base .fuel) : DecodeAgrees g (.error e) := by
  cases e with
  | base f =>
    cases f with
    | panic s => exact absurd rfl (he.1 s)
    | fuel => exact absurd rfl he.2
    | _ => exact ⟨w', hg⟩
  | _ => exact ⟨w', hg⟩

/-- `DecodeAgrees` and a call: the callee renders its model `m` by `retD` (`expE`, `expED`, `expED2` do), and `Decode` answers
    its checked error with `(true, _)` -/
theorem DecodeAgrees.bind {α β : Type} {g : Res α} {D : α} {emb : β → α} {m : DRes β} {kG : α → Res (Bool × List Int)}
    {k : β → DRes (List Nat)} (hg : g = retD D emb m) (hT : ∃ w', kG D = .ok (true, w'))
    (hk : ∀ b, m = .ok b → DecodeAgrees (kG (emb b)) (k b)) : DecodeAgrees (tryR g kG) (m >>= k) := by
  subst hg
  cases m with
  | ok b => exact hk b rfl
  | error e =>
    obtain ⟨w', hw⟩ := hT
    cases e with
    | base f => cases f <;> first | exact rfl | exact ⟨w', hw⟩
    | _ => exact ⟨w', hw⟩

/-- the correction loop on model states against the model's `applyCorrections` -/
theorem foldIdx_corr (F : GF.GF) (mags : List Nat) : ∀ (locs restM : List Nat) (i : Nat) (rec : List Nat),
    mags.drop i = restM → restM.length = locs.length →
    DecodeAgrees ((Ctl.map ints (foldIdx (corrStep F mags) i locs rec)).thenR fun r => .ok (false, r))
      (applyCorrections F locs restM rec) := by
  intro locs
  induction locs with
  | nil => intro restM i rec _ _; exact rfl
  | cons loc locs ih =>
    intro restM i rec hd hl
    cases restM with
    | nil => simp at hl
    | cons m ms =>
      have hmi : mags[i]? = some m := by
        have := congrArg List.head? hd
        rwa [List.head?_drop] at this
      have hd' : mags.drop (i + 1) = ms := by rw [← List.drop_drop, hd]; rfl
      simp only [applyCorrections, foldIdx, corrStep, bind, Except.bind, liftD]
      cases hlog : F.logOf loc with
      | error e => cases e <;> first | exact rfl | exact ⟨_, rfl⟩
      | ok log =>
        simp only []
        by_cases hbad : rec.length < log + 1
        · simp only [hbad, if_true]
          exact ⟨_, rfl⟩
        · simp only [hbad, if_false]
          have hlt : rec.length - 1 - log < rec.length := by omega
          simp only [List.getElem?_eq_getElem hlt, hmi, setWord_ok _ _ _ hlt, ofRes_ok]
          exact ih ms (i + 1) _ hd' (by simpa using hl)

/-- embedding of the syndrome loop's state -/
def synSt (t : List Nat × Bool) : List Int × Bool := (ints t.1, t.2)

when_kernel Gzx.Gen.K04b.decDecode in
/-- `Decode(received, twoS)` agrees with the model's `decodeD`.  `twoS + 3 ≤ fuel`: `runEuclideanAlgorithm` is called with the
    monomial x^twoS (twoS + 1 coefficients) and a syndrome polynomial of at most twoS coefficients, and wants the length of
    each + 2 (Obligations/K04bEuclid.lean) -/
theorem k_decDecode_eq (F : GF.GF) (hF : TablesOK F) (received : List Nat) (twoS : Nat) (fuel : Nat)
    (hfuel : twoS + 3 ≤ fuel) (hnf : decodeD F received twoS ≠ .error (.base .fuel)) :
    DecodeAgrees (Gen.K04b.decDecode fuel (fieldRec F) (ints received) twoS) (decodeD F received twoS) := by
  simp only [Gen.K04b.decDecode, decodeD, fieldRec_base] at hnf ⊢
  refine DecodeAgrees.bind ((k_newPoly_eq _ _).trans (expE_eq_retD ([] : List Int) ints _)) ⟨_, rfl⟩ fun poly hpoly => ?_
  rw [hpoly, exc_ok_bind] at hnf
  simp only [Bool.false_eq_true, if_false]
  rw [mk_nats _ twoS rfl]
  simp only [tryR_ok]
  rw [loop_up_range_inv' synSt (fun t => t.1.length = twoS) (synStep F poly) 0 twoS (List.replicate twoS 0, true)]
  · have hsyn := foldIdx_syn (ρ := Bool × List Int) F poly twoS 0 [] true rfl
    simp only [List.append_nil] at hsyn
    rw [hsyn]
    cases hs : syndromes F poly twoS 0 with
    | error e =>
      obtain ⟨w, rfl⟩ := syndromes_panics _ _ _ _ _ hs
      exact rfl
    | ok synd =>
      rw [hs] at hnf
      simp only [liftD, exc_ok_bind] at hnf ⊢
      simp only [Ctl.map_next, next_thenR, synSt, Bool.true_and]
      by_cases hall : (synd.all (· == 0)) = true
      · simp only [hall, if_true]
        exact rfl
      simp only [hall, Bool.false_eq_true, if_false] at hnf ⊢
      refine DecodeAgrees.bind ((k_newPoly_eq _ _).trans (expE_eq_retD ([] : List Int) ints _)) ⟨_, rfl⟩ fun syndrome hsy => ?_
      rw [hsy, exc_ok_bind] at hnf
      have hsy := liftD_ok hsy
      simp only [Bool.false_eq_true, if_false]
      refine DecodeAgrees.bind ((k_gfBuildMonomial_at F _ _ twoS 1 (by rfl) (by rfl)).trans (expE_eq_retD ([] : List Int) ints _))
        ⟨_, rfl⟩ fun monomial hm => ?_
      rw [hm, exc_ok_bind] at hnf
      have hmono : buildMonomial twoS 1 = .ok (1 :: List.replicate twoS 0) := by
        unfold buildMonomial mkPoly normalize; simp
      rw [hmono] at hm
      cases hm
      simp only [Bool.false_eq_true, if_false]
      have hsl : syndrome.length ≤ twoS := by
        have h1 := syndromes_length _ _ _ hs
        have hne : synd.reverse ≠ [] := by
          intro h0; rw [h0] at hsy; cases hsy
        rw [Proofs.Poly.mkPoly_ok _ hne] at hsy
        cases hsy
        have := Proofs.Poly.normalize_length_le _ hne
        simp at this; omega
      have hnfE : runEuclideanAlgorithm F (1 :: List.replicate twoS 0) syndrome twoS ≠ .error (.base .fuel) := by
        intro h; rw [h] at hnf; exact hnf rfl
      refine DecodeAgrees.bind ((k_decRunEuclideanAlgorithm_eq F hF _ syndrome (by simp) (mkPoly_ne hsy) twoS fuel
        (by simp; omega) (by omega) hnfE).trans (expED2_eq _)) ⟨_, rfl⟩ fun so hE => ?_
      obtain ⟨sigma, omega⟩ := so
      have hsig := runEuclid_sigma_ne F _ syndrome (by simp) (mkPoly_ne hsy) twoS sigma omega hE
      simp only [Bool.false_eq_true, if_false]
      refine DecodeAgrees.bind ((k_decFindErrorLocations_eq F hF sigma hsig).trans (expED_eq _)) ⟨_, rfl⟩ fun locs _ => ?_
      simp only [Bool.false_eq_true, if_false]
      refine DecodeAgrees.bind ((k_decFindErrorMagnitudes_eq F hF omega locs).trans (expE_eq_retD ([] : List Int) ints _)) ⟨_, rfl⟩
        fun mags hM => ?_
      have hM := liftD_ok hM
      simp only [Bool.false_eq_true, if_false, len_words]
      unfold findErrorMagnitudes at hM
      have hml : mags.length = locs.length := magLoop_length _ _ _ hM
      rw [loop_up_list' ints (corrStep F mags) locs 0 received]
      · exact foldIdx_corr F mags locs mags 0 received rfl hml
      · rfl
      · rw [tripUp_one]; omega
      · rfl
      · intro j hj rec
        simp only [corrStep, Nat.zero_add]
        rw [idx_nats _ _ j rfl, List.getElem?_eq_getElem hj]
        simp only [tryC_ok]
        rw [k_gfLog_eq F, tryC_expE]
        cases hlog : GF.GF.logOf F locs[j] with
        | error e => cases e <;> rfl
        | ok log =>
          simp only [len_words, Int.ofNat_eq_natCast]
          by_cases hbad : rec.length < log + 1
          · rw [if_pos hbad]
            split
            case isFalse hneg => exfalso; apply hneg; exact decide_eq_true (by omega)
            rfl
          · rw [if_neg hbad]
            split
            case isTrue hpos => exfalso; have := of_decide_eq_true hpos; omega
            rw [idx_nats _ _ (rec.length - 1 - log) (by omega)]
            cases rec[rec.length - 1 - log]? with
            | none => rfl
            | some v =>
              simp only [tryC_ok]
              rw [idx_nats _ _ j rfl]
              cases mags[j]? with
              | none => rfl
              | some m =>
                simp only [tryC_ok]
                rw [k_gfAddOrSubtract_eq]
                simp only [tryC_ok]
                rw [setIdx_words _ _ _ (rec.length - 1 - log) (v ^^^ m) (by omega) (by rfl)]
                cases Bits.setWord rec (rec.length - 1 - log) (v ^^^ m) <;> rfl
  · rfl
  · rw [tripUp_one]; omega
  · rfl
  · simp
  · intro i t t' ht hstep
    simp only [synStep] at hstep
    cases hev : (do let x ← F.expAt (i + F.base); evaluateAt F poly x : Res Nat) with
    | error e => simp only [hev] at hstep; cases hstep
    | ok ev =>
      simp only [hev] at hstep
      cases hset : Bits.setWord t.1 (t.1.length - 1 - i) ev with
      | error e => simp only [hset] at hstep; cases hstep
      | ok sc =>
        simp only [hset] at hstep
        cases hstep
        unfold Bits.setWord at hset
        split at hset
        · cases hset; simp [ht]
        · cases hset
  · intro i _ hi t ht
    obtain ⟨sc, ne⟩ := t
    dsimp (config := { instances := true }) only [synSt, synStep] at ht ⊢
    rw [k_gfExp_eq' F _ (i + F.base) (by omega)]
    simp only [bind, Except.bind]
    cases hx : GF.GF.expAt F (i + F.base) with
    | error e => rfl
    | ok x =>
      simp only [Except.map, tryC_ok, Int.ofNat_eq_natCast]
      rw [k_polyEvaluateAt_eq F hF]
      cases hev : evaluateAt F poly x with
      | error e => rfl
      | ok ev =>
        simp only [Except.map, tryC_ok, Int.ofNat_eq_natCast, len_words]
        rw [setIdx_words _ _ _ (sc.length - 1 - i) ev (by omega) (by rfl)]
        cases Bits.setWord sc (sc.length - 1 - i) ev with
        | error e => rfl
        | ok sc' =>
          simp only [Except.map, tryC_ok, show (0 : Int) = ((0 : Nat) : Int) from rfl, GoM.natCast_bne]
          by_cases hz : ev = 0
          · subst hz; rfl
          · have hb : (ev != 0) = true := by simpa using hz
            simp only [hb, if_true, next_thenC, hz, ne_eq, not_false_eq_true]
            rfl

end Gzx.Obligations.K04bDecode
