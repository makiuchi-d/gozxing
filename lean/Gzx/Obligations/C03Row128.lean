/-
  wp oned128 — per-run obligations of Properties/C03Row128.lean over the Code 128 pattern table regenerated from /repo:
  the table is well-formed for the row reader (107 rows; six positive widths, STOP seven; pairwise distinct also when cut
  to the six counted elements; every cut row 11 modules) — which makes every row the unique best match (variance 0
  against > 0 or +Inf) of its own exact multiples — and the read-back theorem instantiated with it.
-/
import Gzx.Gen.Row128Tables
import Gzx.Properties.C03Row128
import Gzx.Obligations.C06Row128
namespace Gzx.Obligations.C03Row128
open Gzx Gzx.OneD Gzx.Row128

def genP128 : List (List Nat) := (Gen.Row128Tables.c128Patterns.asNatListList?).getD []

def genTables : Tables := { refTables with code128 := genP128 }

theorem gen_wfRow128 : wfRow128B genP128 = true := by
  -- the regenerated table is the one `wfRow128B_ref` was evaluated on
  have h : genP128 = refTables.code128 := by
    unfold genP128
    rw [C06Row128.gen_code128_patterns_are_model's]
    rfl
  rw [h]
  exact wfRow128B_ref

/-- the thresholds the best-match lemmas are about: 1/4 (average) and 7/10 (individual) -/
theorem gen_thresholds128 :
    (Gen.Row128Tables.c128MaxAvg.asApp? "rat").bind (·.mapM GoVal.asInt?) = some [1, 4] ∧
    (Gen.Row128Tables.c128MaxInd.asApp? "rat").bind (·.mapM GoVal.asInt?) = some [7, 10] := by decide

/-- `code128_row_read_write` for the table /repo has now -/
theorem code128_row_read_write_gen (contents : List Nat) (mods : List Bool) (hascii : ∀ c ∈ contents, c < 128)
    (h : code128Modules genTables contents none = .ok mods) (lq s rq : Nat) (hs : 1 ≤ s) :
    ∃ out, Row128.decodeRow exactDom genP128 (paddedRow lq s rq mods) false = .ok out ∧ out.text = contents := by
  obtain ⟨out, h1, h2, _⟩ := Properties.C03Row128.code128_row_read_write genTables gen_wfRow128 contents mods hascii h lq s rq hs
  exact ⟨out, h1, h2⟩

/-! ### ITF -/

def natList (v : GoVal) : List Nat := (v.asNatList?).getD []
def natListList (v : GoVal) : List (List Nat) := (v.asNatListList?).getD []

/-- writer tables as regenerated -/
def genItfW : Tables :=
  { refTables with
    itfWriter := natListList Gen.Row128Tables.itfWriterPatterns
    itfStart := natList Gen.Row128Tables.itfWriterStart
    itfEnd := natList Gen.Row128Tables.itfWriterEnd }

/-- reader tables as regenerated -/
def genItfR : RowITF.ItfT where
  start := natList Gen.Row128Tables.itfStart
  endRev := natListList Gen.Row128Tables.itfEndReversed
  patterns := natListList Gen.Row128Tables.itfPatterns
  defaultAllowed := (Gen.Row128Tables.itfAllowedLengths.asIntList?).getD []

/-- the ITF reader's tables fit the writer's: same start pattern, reader rows 10..19 = writer patterns, twenty pairwise
    non-proportional rows of five positive widths, the writer's end pattern is accepted by the reader's first (2x)
    reversed end pattern -/
theorem gen_wfRowITF : RowITF.wfRowITFB genItfW genItfR = true := by decide +kernel

theorem gen_itf_thresholds_and_lengths :
    (Gen.Row128Tables.itfMaxAvg.asApp? "rat").bind (·.mapM GoVal.asInt?) = some [19, 50] ∧
    (Gen.Row128Tables.itfMaxInd.asApp? "rat").bind (·.mapM GoVal.asInt?) = some [1, 2] ∧
    genItfR.defaultAllowed = [6, 8, 10, 12, 14] := by decide

/-- `itf_row_read_write` for the tables /repo has now, default hint -/
theorem itf_row_read_write_gen (contents : List Nat) (hdig : CheckDigit.allDigits contents = true)
    (heven : contents.length % 2 = 0) (h6 : 6 ≤ contents.length) (hlen : contents.length ≤ 80) (lq s rq : Nat) (hs : 1 ≤ s) :
    ∃ mods out, itfModules genItfW contents = .ok mods ∧
      RowITF.decodeRow exactDom genItfR (paddedRow lq s rq mods) none = .ok out ∧ out.text = contents := by
  obtain ⟨mods, hm, hdec⟩ := Properties.C03Row128.itf_row_read_write genItfW genItfR gen_wfRowITF contents hdig heven hlen none
    (by
      simp only [Option.getD_none, gen_itf_thresholds_and_lengths.2.2]
      exact Properties.C03Row128.itf_default_lengths _ h6 heven) lq s rq hs
  exact ⟨mods, _, hm, hdec, rfl⟩

end Gzx.Obligations.C03Row128
