/-
  K17b — the K17 kernels that loop over pixel rows: `BitArray.Set`, the sharpening loop of
  `GetBlackRow`, the four sampled rows of the global `GetBlackMatrix`, `GetMatrix` of the RGB and YUV sources and the rotation
  loop of the Go-image source.  Each regenerated definition (`Gzx.Gen.K17`, rebuilt from /repo on every run) is proved equal, for
  ALL arguments of the stated types, to the hand-written model function of `Model/Binarizer.lean` / `Model/Luminance.lean`
  (`…_model` theorems): the loops that only read and store (sampled rows, rotation) directly, their state being a function of
  the values read so far; the sharpening loop and `GetMatrix` through a word-level mirror of `Proofs/K17b.lean`.
  The two block loops of the hybrid binariser are in `Obligations/K17c.lean` and `Obligations/K17d.lean`.
-/
import Gzx.Gen.K17
import Gzx.KernelGuard
import Gzx.Proofs.K17b
import Gzx.Obligations.K17Hyb
namespace Gzx.Obligations.K17b
open Gzx Gzx.GoM Gzx.Bits Gzx.GoVal Gzx.Binarizer Gzx.K17 Gzx.K17b Gzx.Obligations.K17Hyb

variable {σ ρ τ α : Type}

/-! ## `BitArray.Set` -/

when_kernel Gzx.Gen.K17.arraySet in
/-- `BitArray.Set(i)` (the copy of the kernel that `GetBlackRow` calls) = `K17b.setA` = `WArr.set` on the words -/
theorem k_arraySet_eq (ws : List Nat) (i : Nat) : Gen.K17.arraySet (words ws) i = (setA ws i).map words := by
  simp only [Gen.K17.arraySet, setA]
  rw [updR ws (i / 32) (fun w => w ||| 1 <<< (i % 32))]
  · cases updWord ws (i / 32) _ <;> rfl
  · gonorm; omega
  · gonorm; omega
  · intro w; gonorm
    rw [bit_natCast _ (i % 32) (by omega) (by omega), ior_natCast]

when_kernel Gzx.Gen.K17.arraySet in
/-- … stated on the model's bit array -/
theorem k_arraySet_model (a : WArr) (i : Nat) :
    Gen.K17.arraySet (words a.words) i = (WArr.set a i).map (fun a' => words a'.words) := by
  rw [k_arraySet_eq, ← setA_eq_WArr]
  cases WArr.set a i <;> rfl

when_kernel Gzx.Gen.K17.arraySet in
example : Gen.K17.arraySet (words [0, 0]) 33 = .ok (words [0, 2]) := by decide

/-! ## the sharpening loop of `GlobalHistogramBinarizer.GetBlackRow` -/

when_kernel Gzx.Gen.K17.rowSharpen in
/-- one pixel of the small-row loop -/
theorem k_rowSharpen_small (lum : List Nat) (bp x : Nat) (ws : List Nat) :
    Gen.K17.rowSharpen_body1 (bytes lum) (bp : Int) (x : Int) (words ws) = ofRes ((smallStep lum bp ws x).map words) := by
  simp only [Gen.K17.rowSharpen_body1, smallStep]
  rw [bytes, idx_bytes]
  cases lum[x]? with
  | none => rfl
  | some p =>
    simp only [tryC_ok]
    rw [iand_255]
    by_cases ht : p % 256 < bp
    · simp only [Int.ofNat_lt, ht, decide_true, if_true]
      rw [k_arraySet_eq]
      cases setA ws x <;> rfl
    · simp only [Int.ofNat_lt, ht, decide_false, Bool.false_eq_true, if_false]
      rfl

/-- `left` and `center` when the `-1 4 -1` loop reaches pixel `x` -/
def lc (lum : List Nat) (x : Nat) : Int × Int := (((lum.getD (x - 1) 0 % 256 : Nat) : Int), ((lum.getD x 0 % 256 : Nat) : Int))

when_kernel Gzx.Gen.K17.rowSharpen in
/-- one pixel of the `-1 4 -1` loop -/
theorem k_rowSharpen_step (lum : List Nat) (bp x : Nat) (ws : List Nat) :
    Gen.K17.rowSharpen_body2 (bytes lum) (bp : Int) (x : Int) (words ws, lc lum x) =
      match sharpStep lum bp ws x with
      | .ok t' => .next (words t', lc lum (x + 1))
      | .error e => .panic e := by
  simp only [Gen.K17.rowSharpen_body2, sharpStep, lc]
  rw [← Int.natCast_succ, bytes, idx_bytes]
  cases hr : lum[x + 1]? with
  | none => rfl
  | some r =>
    simp only [tryC_ok]
    -- `right` is the next luminance, so the Go test is `sharpAt` and the carried pair moves on by one
    have er : r = lum.getD (x + 1) 0 := by rw [List.getD_eq_getElem?_getD, hr]; rfl
    rw [iand_255, er, Nat.add_sub_cancel,
      show sharpAt lum bp x = decide (Int.tdiv (((lum.getD x 0 % 256 : Nat) : Int) * 4 - ((lum.getD (x - 1) 0 % 256 : Nat) : Int) -
        ((lum.getD (x + 1) 0 % 256 : Nat) : Int)) 2 < (bp : Int)) from rfl]
    by_cases hP : Int.tdiv (((lum.getD x 0 % 256 : Nat) : Int) * 4 - ((lum.getD (x - 1) 0 % 256 : Nat) : Int) -
        ((lum.getD (x + 1) 0 % 256 : Nat) : Int)) 2 < (bp : Int)
    · simp only [hP, decide_true, if_true]
      rw [k_arraySet_eq]
      cases setA ws x <;> rfl
    · simp only [hP, decide_false, Bool.false_eq_true, if_false]
      rfl

when_kernel Gzx.Gen.K17.rowSharpen in
/-- the last statement of `GetBlackRow` (`if width < 3 { … } else { left, center … -1 4 -1 … }`) = the mirror `K17b.sharpenW`:
    the same checked reads of the luminance row, the same `row.Set(x)` calls in the same order, the same panics -/
theorem k_rowSharpen_eq (ws : List Nat) (width : Nat) (lum : List Nat) (bp : Nat) :
    Gen.K17.rowSharpen (words ws) width (bytes lum) bp = (sharpenW ws width lum bp).map words := by
  simp only [Gen.K17.rowSharpen, sharpenW]
  by_cases h3 : width < 3
  · have : (width : Int) < 3 := by omega
    simp only [h3, this, decide_true, if_true]
    rw [loop_up_fold' words (smallStep lum bp) 0 width ws rfl (by rw [tripUp_one]; omega) (by omega)
          (fun x _ _ t => k_rowSharpen_small lum bp x t)]
    cases (List.range' 0 width).foldlM (smallStep lum bp) ws <;> rfl
  · have : ¬ (width : Int) < 3 := by omega
    simp only [h3, this, decide_false, Bool.false_eq_true, if_false]
    have i0 : idx (bytes lum) 0 = _ := idx_bytes lum 0
    have i1 : idx (bytes lum) 1 = _ := idx_bytes lum 1
    rw [i0, i1]
    cases h0 : lum[0]? with
    | none => rfl
    | some p0 =>
      cases h1 : lum[1]? with
      | none => rfl
      | some p1 =>
        simp only [tryC_ok]
        rw [iand_255, iand_255]
        have e0 : lum.getD 0 0 = p0 := by simp [List.getD_eq_getElem?_getD, h0]
        have e1 : lum.getD 1 0 = p1 := by simp [List.getD_eq_getElem?_getD, h1]
        have hlc : (((p0 % 256 : Nat) : Int), ((p1 % 256 : Nat) : Int)) = lc lum 1 := by
          show _ = (((lum.getD (1 - 1) 0 % 256 : Nat) : Int), ((lum.getD 1 0 % 256 : Nat) : Int))
          rw [show 1 - 1 = 0 from rfl, e0, e1]
        have h := loop_up_fold_aux (ρ := List Int) words (lc lum) (Gen.K17.rowSharpen_body2 (bytes lum) (bp : Int))
          (sharpStep lum bp) (width - 2) 1 ws (by
            intro x hx1 _ t
            rw [k_rowSharpen_step lum bp x t]
            cases sharpStep lum bp t x <;> rfl)
        have ht : tripUp 1 ((width : Int) - 1) 1 = width - 2 := by rw [tripUp_one]; omega
        rw [ht, hlc]
        have h' : loop (Gen.K17.rowSharpen_body2 (bytes lum) (bp : Int)) 1 (width - 2) 1 (words ws, lc lum 1) = _ := h
        rw [h']
        cases (List.range' 1 (width - 2)).foldlM (sharpStep lum bp) ws <;> rfl

when_kernel Gzx.Gen.K17.rowSharpen in
/-- **the sharpening loop, Go source to model**: on the `width` luminances of a row the regenerated statement performs exactly the
    `Set(x)` calls of the bits that `Binarizer.blackRow` reports for the black point `bp` (`K17b.blackRow_eq`: `blackRow row` is
    `rowBits bp row` for the estimated `bp`) -/
theorem k_rowSharpen_model (ws : List Nat) (lum : List Nat) (bp : Nat) :
    Gen.K17.rowSharpen (words ws) lum.length (bytes lum) bp = (applyA ws (trueIdx (rowBits bp lum))).map words := by
  rw [k_rowSharpen_eq, sharpenW_agrees]

-- non-vacuity: 5 pixels, black point 100: the filter sets bit 2 only ((10*4 - 200 - 200)/2 < 100), the end pixels are never set
when_kernel Gzx.Gen.K17.rowSharpen in
example : Gen.K17.rowSharpen (words [0]) 5 (bytes [0, 200, 10, 200, 0]) 100 = .ok (words [4]) := by decide +kernel
when_kernel Gzx.Gen.K17.rowSharpen in
example : Gen.K17.rowSharpen (words [0]) 2 (bytes [0, 200]) 100 = .ok (words [1]) := by decide +kernel

/-! ## the sampled rows of `GlobalHistogramBinarizer.GetBlackMatrix` -/

when_kernel Gzx.Gen.K17.matrixHistogram in
/-- the sampling loops of `GetBlackMatrix` (`for y := 1; y < 5; y++ { row := height*y/5; … for x := width/5; x < width*4/5; x++ }`)
    with `source.GetRow` as an arbitrary function `getRow`, whose elements `rdAt row x` reads: the histogram of what was sampled
    before and of the pixels read, row after row (index panic at the first failed read).  `L` is the receiver's `luminances`
    field, which the region takes as a parameter and never uses. -/
theorem k_matrixHistogram_eq (L : List Int) (getRow : Nat → List Nat) (rdAt : Nat → Nat → Res Nat) (w h : Nat) (ps0 : List Nat)
    (hrd : ∀ row x, x < w → (getRow row)[x]? = (rdAt row x).toOption) :
    Gen.K17.matrixHistogram L (words (histogram ps0)) w h (fun r => bytes (getRow r.toNat)) =
      match mapME (fun y => mapME (rdAt (h * y / 5)) (List.range' (w / 5) (w * 4 / 5 - w / 5))) [1, 2, 3, 4] with
      | .ok rows => .ok (words (histogram (ps0 ++ rows.flatten)))
      | .error _ => .error oob := by
  -- one sampled row: the pixels `w/5 … w*4/5 - 1` of row `row`, appended to what was sampled before
  have inner : ∀ (row : Nat) (ps1 : List Nat),
      loop (ρ := List Int) (Gen.K17.matrixHistogram_body2 (bytes (getRow row))) 1 (w * 4 / 5 - w / 5) ((w / 5 : Nat) : Int)
          (words (histogram ps1)) =
        match mapME (rdAt row) (List.range' (w / 5) (w * 4 / 5 - w / 5)) with
        | .ok ps => .next (words (histogram (ps1 ++ ps)))
        | .error _ => .panic oob := by
    intro row ps1
    have h := loop_reads (ρ := List Int) (fun ps => words (histogram (ps1 ++ ps))) (rdAt row) oob 1 (fun k => (k : Int))
      (fun _ => Int.natCast_succ _) (Gen.K17.matrixHistogram_body2 (bytes (getRow row))) (w * 4 / 5 - w / 5) (w / 5)
      (fun x ps h1 h2 _ => by
        simp only [Gen.K17.matrixHistogram_body2]
        rw [bytes, idx_bytes, hrd row x (by omega)]
        cases rdAt row x with
        | error _ => rfl
        | ok p => simp only [Except.toOption, tryC_ok]; rw [hist_incr, List.append_assoc])
    rw [List.append_nil] at h
    exact h.trans (by cases mapME (rdAt row) (List.range' (w / 5) (w * 4 / 5 - w / 5)) <;> rfl)
  have outer := loop_reads (ρ := List Int) (fun rows : List (List Nat) => words (histogram (ps0 ++ rows.flatten)))
    (fun y => mapME (rdAt (h * y / 5)) (List.range' (w / 5) (w * 4 / 5 - w / 5))) oob 1 (fun k => (k : Int))
    (fun _ => Int.natCast_succ _) (Gen.K17.matrixHistogram_body1 w h (fun r => bytes (getRow r.toNat))) 4 1
    (fun y rows _ _ _ => by
      simp only [Gen.K17.matrixHistogram_body1]
      rw [show (Int.tdiv ((h : Int) * (y : Int)) 5).toNat = h * y / 5 from rfl,
        show Int.tdiv (w : Int) 5 = ((w / 5 : Nat) : Int) from rfl, show Int.tdiv ((w : Int) * 4) 5 = ((w * 4 / 5 : Nat) : Int) from rfl,
        show tripUp ((w / 5 : Nat) : Int) ((w * 4 / 5 : Nat) : Int) 1 = w * 4 / 5 - w / 5 by rw [tripUp_one]; omega, inner]
      cases mapME (rdAt (h * y / 5)) (List.range' (w / 5) (w * 4 / 5 - w / 5)) with
      | error _ => rfl
      | ok ps =>
        simp only [next_thenC, List.flatten_append, List.flatten_cons, List.flatten_nil, List.append_nil, List.append_assoc])
  rw [List.flatten_nil, List.append_nil] at outer
  simp only [Gen.K17.matrixHistogram]
  rw [show tripUp 1 5 1 = 4 from rfl, show loop _ 1 4 1 (words (histogram ps0)) = _ from outer,
    show List.range' 1 4 = [1, 2, 3, 4] from rfl]
  cases mapME (fun y => mapME (rdAt (h * y / 5)) (List.range' (w / 5) (w * 4 / 5 - w / 5))) [1, 2, 3, 4] <;> rfl

when_kernel Gzx.Gen.K17.matrixHistogram in
/-- **the sampling loops, Go source to model**: on a whole-image source (`GetRow(r)` = row `r` of the matrix) the zeroed histogram
    becomes `Binarizer.histogram` of `Binarizer.samples` (index panic where the model's read fails) -/
theorem k_matrixHistogram_model (L : List Int) (lum : List Nat) (w h : Nat) :
    Gen.K17.matrixHistogram L (words (histogram [])) w h (fun r => bytes (rowOf lum w r.toNat)) =
      match samples lum.toArray w h with
      | .ok ps => .ok (words (histogram ps))
      | .error _ => .error oob := by
  rw [k_matrixHistogram_eq L (rowOf lum w) (fun row x => rd lum.toArray (row * w + x)) w h [] (fun row x hx => by
    rw [rowOf_getElem? lum w row x hx, rd, List.getElem?_toArray]
    cases lum[row * w + x]? <;> rfl)]
  have e : sampleRowAt lum.toArray w h = fun y => mapME (fun x => rd lum.toArray (h * y / 5 * w + x))
      (List.range' (w / 5) (w * 4 / 5 - w / 5)) := funext fun y => by rw [sampleRowAt, sampleRow, range_drop]
  rw [samples, e]
  cases mapME _ [1, 2, 3, 4] <;> rfl

-- non-vacuity: a 5x5 image of value 9 → 4 rows x 3 columns (1..3) sampled, all in bucket 1
when_kernel Gzx.Gen.K17.matrixHistogram in
example : Gen.K17.matrixHistogram [] (words (histogram [])) 5 5 (fun r => bytes (rowOf (List.replicate 25 9) 5 r.toNat)) =
    .ok (words ((List.replicate 32 0).set 1 12)) := by decide +kernel

/-! ## `GetMatrix` of the RGB / Go-image and the YUV source -/

when_kernel Gzx.Gen.K17.rgbGetMatrix in
/-- one row of the RGB source's row-by-row copy (`copy(matrix[outputOffset:outputOffset+width], luminances[inputOffset:inputOffset+width])`) -/
theorem k_rgbGetMatrix_row (data : List Nat) (dataW w off y : Nat) (t : List Nat) :
    Gen.K17.rgbGetMatrix_body1 (bytes data) dataW w y (bytes t, ((off + y * dataW : Nat) : Int)) =
      match cropStep data dataW w off (fun _ y => y * w + w) t y with
      | .ok t' => .next (bytes t', ((off + (y + 1) * dataW : Nat) : Int))
      | .error e => .panic e := by
  simp only [Gen.K17.rgbGetMatrix_body1, cropStep, cropRow]
  rw [sliceL_bytes data (off + y * dataW) (off + y * dataW + w) _ _ rfl (by omega)]
  cases sliceN data (off + y * dataW) (off + y * dataW + w) with
  | error e => rfl
  | ok r =>
    simp only [Except.map, tryC_ok]
    rw [copySeg_bytes t (y * w) (y * w + w) r _ _ (by simp [Int.natCast_mul]) (by simp [Int.natCast_mul, Int.natCast_add])]
    cases copySegN t (y * w) (y * w + w) r with
    | error e => rfl
    | ok t' =>
      simp only [Except.map, tryC_ok]
      congr 2
      rw [Nat.add_mul]; simp [Int.natCast_add, Int.natCast_mul]; omega

when_kernel Gzx.Gen.K17.yuvGetMatrix in
/-- one row of the YUV source's row-by-row copy (`copy(matrix[outputOffset:], yuvData[inputOffset:inputOffset+width])`) -/
theorem k_yuvGetMatrix_row (data : List Nat) (dataW w off y : Nat) (t : List Nat) :
    Gen.K17.yuvGetMatrix_body1 (bytes data) dataW w y (bytes t, ((off + y * dataW : Nat) : Int)) =
      match cropStep data dataW w off (fun len _ => len) t y with
      | .ok t' => .next (bytes t', ((off + (y + 1) * dataW : Nat) : Int))
      | .error e => .panic e := by
  simp only [Gen.K17.yuvGetMatrix_body1, cropStep, cropRow]
  rw [sliceL_bytes data (off + y * dataW) (off + y * dataW + w) _ _ rfl (by omega)]
  cases sliceN data (off + y * dataW) (off + y * dataW + w) with
  | error e => rfl
  | ok r =>
    simp only [Except.map, tryC_ok]
    rw [copySeg_bytes t (y * w) t.length r _ _ (by simp [Int.natCast_mul]) (by simp [len, bytes])]
    cases copySegN t (y * w) t.length r with
    | error e => rfl
    | ok t' =>
      simp only [Except.map, tryC_ok]
      congr 2
      rw [Nat.add_mul]; simp [Int.natCast_add, Int.natCast_mul]; omega

/-- the three strategies around the row loop, shared by both sources -/
theorem getMatrix_shell (body : Int → List Int × Int → Ctl (List Int × Int) (List Int))
    (data : List Nat) (dataW dataH left top w h : Nat) (hiF : Nat → Nat → Nat)
    (hbody : ∀ (y : Nat) (t : List Nat), body (y : Int) (bytes t, ((top * dataW + left + y * dataW : Nat) : Int)) =
      match cropStep data dataW w (top * dataW + left) hiF t y with
      | .ok t' => .next (bytes t', ((top * dataW + left + (y + 1) * dataW : Nat) : Int))
      | .error e => .panic e) :
    (if (((w : Int) == (dataW : Int)) && ((h : Int) == (dataH : Int))) then (.ok (bytes data) : Res (List Int))
      else
        tryR (mk ((w : Int) * (h : Int))) fun t1 =>
        if ((w : Int) == (dataW : Int)) then
          tryR (sliceL (bytes data) ((top : Int) * (dataW : Int) + (left : Int)) ((top : Int) * (dataW : Int) + (left : Int) + (w : Int) * (h : Int))) fun t2 =>
          .ok (copyL t1 t2)
        else
          (loop body 1 (tripUp 0 (h : Int) 1) 0 (t1, (top : Int) * (dataW : Int) + (left : Int))).thenR fun st => .ok st.1) =
      (getMatrixW data dataW dataH left top w h hiF).map bytes := by
  unfold getMatrixW
  by_cases h1 : w = dataW ∧ h = dataH
  · obtain ⟨hw, hh⟩ := h1
    subst hw hh
    simp only [beq_self_eq_true, Bool.and_self, and_self, if_true, Except.map]
  · have : (((w : Int) == (dataW : Int)) && ((h : Int) == (dataH : Int))) = false := by
      rw [Bool.and_eq_false_iff]; simp only [beq_eq_false_iff_ne, ne_eq, Int.natCast_inj]; omega
    simp only [this, h1, Bool.false_eq_true, if_false]
    rw [mk_bytes _ (w * h) (by simp [Int.natCast_mul])]
    simp only [tryR_ok]
    by_cases h2 : w = dataW
    · subst h2
      simp only [beq_self_eq_true, if_true]
      rw [sliceL_bytes data (top * w + left) (top * w + left + w * h) _ _ (by simp [Int.natCast_mul])
        (by simp [Int.natCast_mul, Int.natCast_add])]
      cases sliceN data (top * w + left) (top * w + left + w * h) with
      | error e => rfl
      | ok s => simp only [Except.map, tryR_ok, copyL_bytes]
    · have : ((w : Int) == (dataW : Int)) = false := by
        simp only [beq_eq_false_iff_ne, ne_eq, Int.natCast_inj]; exact h2
      simp only [this, h2, Bool.false_eq_true, if_false]
      have hl := loop_up_fold_aux (ρ := List Int) bytes (fun y => ((top * dataW + left + y * dataW : Nat) : Int)) body
        (cropStep data dataW w (top * dataW + left) hiF) h 0 (List.replicate (w * h) 0) (by
          intro y _ _ t
          rw [hbody y t]
          cases cropStep data dataW w (top * dataW + left) hiF t y <;> rfl)
      have e0 : ((top * dataW + left + 0 * dataW : Nat) : Int) = (top : Int) * (dataW : Int) + (left : Int) := by
        simp [Int.natCast_mul, Int.natCast_add]
      rw [e0] at hl
      rw [show tripUp 0 (h : Int) 1 = h by rw [tripUp_one]; omega]
      have hl' : loop body 1 h 0 (bytes (List.replicate (w * h) 0), (top : Int) * (dataW : Int) + (left : Int)) = _ := hl
      rw [hl']
      cases (List.range' 0 h).foldlM (cropStep data dataW w (top * dataW + left) hiF) (List.replicate (w * h) 0) <;> rfl

when_kernel Gzx.Gen.K17.rgbGetMatrix in
/-- `RGBLuminanceSource.GetMatrix()` (also the Go-image source's) = the mirror `K17b.getMatrixW`: whole image → the original array;
    full width → one checked slice + `copy`; otherwise `height` checked row slices copied to `y*width` -/
theorem k_rgbGetMatrix_eq (data : List Nat) (dataW dataH left top w h : Nat) :
    Gen.K17.rgbGetMatrix w h (bytes data) dataW dataH left top =
      (getMatrixW data dataW dataH left top w h (fun _ y => y * w + w)).map bytes := by
  simp only [Gen.K17.rgbGetMatrix]
  exact getMatrix_shell _ data dataW dataH left top w h _ (fun y t => k_rgbGetMatrix_row data dataW w _ y t)

when_kernel Gzx.Gen.K17.yuvGetMatrix in
/-- `PlanarYUVLuminanceSource.GetMatrix()` = the mirror (destination slices `matrix[outputOffset:]`) -/
theorem k_yuvGetMatrix_eq (data : List Nat) (dataW dataH left top w h : Nat) :
    Gen.K17.yuvGetMatrix w h (bytes data) dataW dataH left top =
      (getMatrixW data dataW dataH left top w h (fun len _ => len)).map bytes := by
  simp only [Gen.K17.yuvGetMatrix]
  exact getMatrix_shell _ data dataW dataH left top w h _ (fun y t => k_yuvGetMatrix_row data dataW w _ y t)

when_kernel Gzx.Gen.K17.rgbGetMatrix in
/-- **RGB / Go-image GetMatrix, Go source to model**: for every view the regenerated method returns what
    `Luminance.baseGetMatrix` returns (the same bytes, or the slice-bounds panic) -/
theorem k_rgbGetMatrix_model (v : Luminance.View) :
    ∃ r, Gen.K17.rgbGetMatrix v.w v.h (bytes v.data) v.dataW v.dataH v.left v.top = r.map bytes ∧
      Luminance.baseGetMatrix v = liftV r :=
  ⟨_, k_rgbGetMatrix_eq _ _ _ _ _ _ _, getMatrixW_agrees v _ (fun _ _ => Or.inl rfl)⟩

when_kernel Gzx.Gen.K17.yuvGetMatrix in
/-- **YUV GetMatrix, Go source to model** -/
theorem k_yuvGetMatrix_model (v : Luminance.View) :
    ∃ r, Gen.K17.yuvGetMatrix v.w v.h (bytes v.data) v.dataW v.dataH v.left v.top = r.map bytes ∧
      Luminance.baseGetMatrix v = liftV r :=
  ⟨_, k_yuvGetMatrix_eq _ _ _ _ _ _ _, getMatrixW_agrees v _ (fun _ _ => Or.inr rfl)⟩

-- non-vacuity: a 2x2 crop at (1,1) of a 4x3 image (row-by-row branch); a too short array panics
when_kernel Gzx.Gen.K17.rgbGetMatrix in
example : Gen.K17.rgbGetMatrix 2 2 (bytes [0,1,2,3, 4,5,6,7, 8,9,10,11]) 4 3 1 1 = .ok (bytes [5, 6, 9, 10]) := by decide +kernel
when_kernel Gzx.Gen.K17.yuvGetMatrix in
example : Gen.K17.yuvGetMatrix 2 2 (bytes [0,1,2,3, 4,5,6,7, 8,9,10,11]) 4 3 1 1 = .ok (bytes [5, 6, 9, 10]) := by decide +kernel
when_kernel Gzx.Gen.K17.rgbGetMatrix in
example : Gen.K17.rgbGetMatrix 2 2 (bytes [0,1,2,3, 4,5,6,7, 8]) 4 3 1 1 = .error (.panic "slice bounds out of range") := by
  decide +kernel

/-! ## the rotation loop of `GoImageLuminanceSource.RotateCounterClockwise` -/

when_kernel Gzx.Gen.K17.rotateCCW in
/-- the rotation loops (`make([]byte, width*height)`, `for j … { x := left+width-1-j; for i … { newLuminas[j*height+i] =
    oldLuminas[(top+i)*dataWidth + x] } }`) write the rows `K17b.rotRowR` one behind the other into the fresh array -/
theorem k_rotateCCW_eq (data : List Nat) (dataW left top w h : Nat) :
    Gen.K17.rotateCCW w h top left dataW (bytes data) =
      ((mapME (rotRowR data dataW left top w h) (List.range' 0 w)).map List.flatten).map words := by
  -- column `j`, with the elements `pre` of the columns before it in place
  have inner : ∀ (j : Nat) (pre : List Nat), j < w → pre.length = j * h →
      loop (ρ := List Int) (Gen.K17.rotateCCW_body2 h top dataW (bytes data) j ((left : Int) + (w : Int) - 1 - (j : Int))) 1 h 0
          (filled (w * h) pre) =
        match rotRowR data dataW left top w h j with
        | .ok r => .next (filled (w * h) (pre ++ r))
        | .error _ => .panic oob := by
    intro j pre hj hpre
    have hjb : j * h + h ≤ w * h := by
      have : (j + 1) * h ≤ w * h := Nat.mul_le_mul_right h hj
      rw [Nat.add_mul] at this; omega
    have h1 := loop_reads (ρ := List Int) (fun vs => filled (w * h) (pre ++ vs))
      (fun i => wordAt data ((top + i) * dataW + (left + w - 1 - j))) oob 1 (fun k => (k : Int)) (fun _ => Int.natCast_succ _)
      (Gen.K17.rotateCCW_body2 h top dataW (bytes data) j ((left : Int) + (w : Int) - 1 - (j : Int))) h 0
      (fun i vs _ hi hvs => by
        have hl : vs.length = i := by rw [mapME_length _ _ _ hvs, List.length_range', Nat.sub_zero]
        have ei : ((top : Int) + (i : Int)) * (dataW : Int) + ((left : Int) + (w : Int) - 1 - (j : Int)) =
            (((top + i) * dataW + (left + w - 1 - j) : Nat) : Int) := by
          rw [Int.natCast_add, Int.natCast_mul, Int.natCast_add]
          omega
        simp only [Gen.K17.rotateCCW_body2, wordAt]
        rw [ei, bytes, idx_bytes]
        cases data[(top + i) * dataW + (left + w - 1 - j)]? with
        | none => rfl
        | some v =>
          simp only [tryC_ok]
          rw [filled_write _ _ v _ (by rw [List.length_append, hpre, hl]; simp [Int.natCast_mul, Int.natCast_add])
            (by rw [List.length_append, hpre, hl]; omega), List.append_assoc])
    rw [List.append_nil] at h1
    unfold rotRowR
    exact h1.trans (by cases mapME _ (List.range' 0 h) <;> rfl)
  have outer := loop_reads (ρ := List Int) (fun rows : List (List Nat) => filled (w * h) rows.flatten)
    (rotRowR data dataW left top w h) oob 1 (fun k => (k : Int)) (fun _ => Int.natCast_succ _)
    (Gen.K17.rotateCCW_body1 w h top left dataW (bytes data)) w 0
    (fun j rows _ hj hrows => by
      simp only [Gen.K17.rotateCCW_body1]
      rw [show tripUp 0 (h : Int) 1 = h by rw [tripUp_one]; omega,
        inner j rows.flatten (by omega) (by rw [rotRows_length _ rows hrows, List.length_range', Nat.sub_zero])]
      cases rotRowR data dataW left top w h j with
      | error _ => rfl
      | ok r => simp only [next_thenC, List.flatten_append, List.flatten_cons, List.flatten_nil, List.append_nil])
  simp only [Gen.K17.rotateCCW]
  rw [mk_nats _ (w * h) (by simp [Int.natCast_mul]), tryR_ok, show tripUp 0 (w : Int) 1 = w by rw [tripUp_one]; omega,
    show loop _ 1 w 0 (words (List.replicate (w * h) 0)) = _ from outer]
  cases hm : mapME (rotRowR data dataW left top w h) (List.range' 0 w) with
  | error e => rw [rotRows_error hm]; rfl
  | ok rows =>
    -- all `w` rows of `h` elements are there: no zero is left behind them
    have hfull : rows.flatten.length = w * h := by rw [rotRows_length _ rows hm, List.length_range']
    simp only [next_thenR, Except.map, filled_full _ _ hfull]

when_kernel Gzx.Gen.K17.rotateCCW in
/-- **RotateCounterClockwise, Go source to model**: the regenerated loops produce the `data` of `Luminance.rotateCCW v`
    (rows of the rotated copy = columns of the view from the right; index panic where the model's read fails) -/
theorem k_rotateCCW_model (v : Luminance.View) :
    ∃ r, Gen.K17.rotateCCW v.w v.h v.top v.left v.dataW (bytes v.data) = r.map words ∧
      (mapME (Luminance.rotRow v) (List.range v.w)).map List.flatten = liftV r :=
  ⟨_, k_rotateCCW_eq _ _ _ _ _ _, rotRows_agree v⟩

-- non-vacuity: the 2x2 view at (1,0) of a 3x2 image [[1,2,3],[4,5,6]] rotates to [[3,6],[2,5]]
when_kernel Gzx.Gen.K17.rotateCCW in
example : Gen.K17.rotateCCW 2 2 0 1 3 (bytes [1, 2, 3, 4, 5, 6]) = .ok (words [3, 6, 2, 5]) := by decide +kernel

end Gzx.Obligations.K17b
