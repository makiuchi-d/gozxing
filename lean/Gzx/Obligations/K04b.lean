/-
  K04b — the Reed-Solomon / GF polynomial code of common/reedsolomon/*.go REGENERATED from /repo on every run
  (`Gzx.Gen.K04b`, translator kinds `ambient` / `funcv`, see translator/ext_c04tie.go) and proved equal to the hand-written
  model of Model/GF.lean + Model/RS.lean, about which Properties/C04.lean proves the property (field arithmetic = clmul mod
  p, systematic encoding, zero syndromes, correction of ≤ ⌊r/2⌋ errors).  This file: the field operations.

  Conventions of every K04b theorem
  * the field object `*GenericGF` is the record `fieldRec F` of a model field `F` (its two tables, `zero = [0]`, `one = [1]`,
    size, primitive, generatorBase); `TablesOK F` (size ≥ 2, logarithms < size — implied by the model's `FieldOK`, and
    decidable) is assumed exactly where the code divides by `size-1` or indexes with `size-log-1`;
  * arguments are arbitrary NATURAL numbers / coefficient lists (out-of-range symbols included: the index panic is part of
    the statement); polynomials are non-empty lists (a `*GenericGFPoly` always holds at least one coefficient);
  * a Go `(T, error)` result is `K04bTie.expE`: `(value, false)`, `(zero value, true)` for a checked failure, the panic itself;
    `expE2` (K04bDiv: two polynomials), `expED` (K04bChien), `expED2` (K04bEuclid) are the same for other result shapes and
    for the decoder's failure reasons — all instances of `K04bTie.retE` / `retD` (`expE_eq_retD`, `expE2_eq`, `expED_eq`,
    `expED2_eq`); `Encode` and `Decode` leave a slice behind on a checked failure and are stated through the relations
    `EncodeAgrees` (K04bEnc) / `DecodeAgrees` (K04bDecode);
  * functions that contain a `for cond` loop take `fuel`; their theorems hold for every sufficiently large fuel.
  Every theorem is guarded by `when_kernel`: a function that leaves the translatable subset loses its theorem (reported as
  skipped, correspondence only), a function whose text changes meaning breaks its theorem by name.
-/
import Gzx.Gen.K04b
import Gzx.KernelGuard
import Gzx.Proofs.K04bTie
namespace Gzx.Obligations.K04b
open Gzx Gzx.GoM Gzx.GoVal Gzx.RS Gzx.K04bTie

/-- the Go field object of a model field -/
def fieldRec (F : GF.GF) : Gen.K04b.GenericGF :=
  { expTable := ints F.exp.toList, logTable := ints F.log.toList, zero := [0], one := [1],
    size := (F.size : Int), primitive := (F.prim : Int), generatorBase := (F.base : Int) }

/-- what the translated code needs of the tables: it divides by `size - 1` and indexes with `size - log - 1` -/
def TablesOK (F : GF.GF) : Prop := 2 ≤ F.size ∧ ∀ x ∈ F.log.toList, x < F.size

instance (F : GF.GF) : Decidable (TablesOK F) := by unfold TablesOK; infer_instance

/-- every entry that the log-table loop of `NewGenericGF` writes is an index below the bound -/
theorem logLoop_lt (B : Nat) : ∀ (es : List Nat) (i : Nat) (acc : List Nat), (∀ x ∈ acc, x < B) → i + es.length ≤ B →
    ∀ x ∈ GF.logLoop es i acc, x < B := by
  intro es
  induction es with
  | nil => intro i acc h _ x hx; exact h x hx
  | cons e es ih =>
    intro i acc h hi x hx
    simp only [GF.logLoop] at hx
    refine ih (i + 1) (acc.set e i) (fun y hy => ?_) (by simp at hi; omega) x hx
    rcases List.mem_or_eq_of_mem_set hy with h1 | h1
    · exact h y h1
    · subst h1; simp at hi; omega

/-- the model's invariant implies what the translated code needs: a field built by `NewGenericGF` from well-formed parameters
    has size ≥ 2 and all logarithms below the size -/
theorem tablesOK_of_fieldOK (F : GF.GF) (h : Gzx.GF.FieldOK F) : TablesOK F := by
  obtain ⟨hF, hP⟩ := h
  refine ⟨hP.2.1, ?_⟩
  rw [hF]
  simp only [GF.mk']
  intro x hx
  refine logLoop_lt F.size _ 0 _ (fun y hy => ?_) ?_ x hx
  · rw [List.mem_replicate] at hy; rw [hy.2]; have := hP.2.1; omega
  · simp; omega

/-! non-vacuity: the library's fields satisfy the hypotheses (all six: `FieldOK` is a per-run obligation in Obligations/C04) -/
example : TablesOK GF.aztecParam := by decide +kernel
example : TablesOK GF.qrCode256 := tablesOK_of_fieldOK _ (Gzx.GF.fieldOK_mk' (by decide +kernel))
example : TablesOK GF.aztecData12 := tablesOK_of_fieldOK _ (Gzx.GF.fieldOK_mk' (by decide +kernel))

when_kernel Gzx.Gen.K04b.gfAddOrSubtract in
/-- `GenericGF_addOrSubtract(a, b)` = xor -/
theorem k_gfAddOrSubtract_eq (a b : Nat) : Gen.K04b.gfAddOrSubtract a b = .ok ((a ^^^ b : Nat) : Int) := by
  simp only [Gen.K04b.gfAddOrSubtract, ixor_natCast]

when_kernel Gzx.Gen.K04b.gfExp in
/-- `GenericGF.Exp(a)` = the model's `expAt` (index panic outside the table included) -/
theorem k_gfExp_eq (F : GF.GF) (a : Nat) : Gen.K04b.gfExp (fieldRec F) a = (F.expAt a).map Int.ofNat := by
  simp only [Gen.K04b.gfExp, fieldRec, GF.GF.expAt]
  rw [idx_arr F.exp _ a rfl]
  cases GF.idx F.exp a <;> rfl

when_kernel Gzx.Gen.K04b.gfExp in
/-- the same with the exponent as an integer expression -/
theorem k_gfExp_eq' (F : GF.GF) (e : Int) (a : Nat) (h : e = a) :
    Gen.K04b.gfExp (fieldRec F) e = (F.expAt a).map Int.ofNat := by
  subst h; exact k_gfExp_eq F a

when_kernel Gzx.Gen.K04b.gfLog in
/-- `GenericGF.Log(a)` = the model's `logOf`: checked error for 0 -/
theorem k_gfLog_eq (F : GF.GF) (a : Nat) : Gen.K04b.gfLog (fieldRec F) a = expE 0 Int.ofNat (F.logOf a) := by
  simp only [Gen.K04b.gfLog, fieldRec, GF.GF.logOf, natCast_beq_zero]
  by_cases h : a = 0
  · simp [h]
  · rw [idx_arr F.log _ a rfl]
    simp only [h, beq_iff_eq, if_false]
    unfold GF.idx
    cases F.log[a]? <;> rfl

when_kernel Gzx.Gen.K04b.gfInverse in
/-- `GenericGF.Inverse(a)` = the model's `inv`: checked error for 0, `expTable[size - logTable[a] - 1]` otherwise -/
theorem k_gfInverse_eq (F : GF.GF) (hF : TablesOK F) (a : Nat) :
    Gen.K04b.gfInverse (fieldRec F) a = expE 0 Int.ofNat (F.inv a) := by
  simp only [Gen.K04b.gfInverse, fieldRec, GF.GF.inv, natCast_beq_zero]
  by_cases h : a = 0
  · simp [h]
  · rw [idx_arr F.log _ a rfl]
    simp only [h, beq_iff_eq, if_false]
    unfold GF.idx
    cases hl : F.log[a]? with
    | none => rfl
    | some l =>
      have hlt : l < F.size := hF.2 l (by
        rw [Array.getElem?_eq_some_iff] at hl
        obtain ⟨hi, rfl⟩ := hl
        exact Array.getElem_mem_toList hi)
      simp only [Except.map, tryR_ok, bind, Except.bind, Int.ofNat_eq_natCast]
      rw [if_neg (by omega), idx_arr F.exp _ (F.size - l - 1) (by omega)]
      unfold GF.idx
      cases F.exp[F.size - l - 1]? <;> rfl

when_kernel Gzx.Gen.K04b.gfMultiply in
/-- `GenericGF.Multiply(a, b)` = the model's `mul`: 0 if an operand is 0, `expTable[(log a + log b) % (size-1)]` otherwise -/
theorem k_gfMultiply_eq (F : GF.GF) (hF : TablesOK F) (a b : Nat) :
    Gen.K04b.gfMultiply (fieldRec F) a b = (F.mul a b).map Int.ofNat := by
  simp only [Gen.K04b.gfMultiply, fieldRec, GF.GF.mul, natCast_beq_zero]
  by_cases h : a = 0 ∨ b = 0
  · have hc : (a == 0 || b == 0) = true := by rcases h with h | h <;> simp [h]
    simp only [hc, if_true, h, Except.map]
    rfl
  · have hc : (a == 0 || b == 0) = false := by
      rw [Bool.or_eq_false_iff, beq_eq_false_iff_ne, beq_eq_false_iff_ne]
      exact ⟨fun e => h (Or.inl e), fun e => h (Or.inr e)⟩
    simp only [hc, h, Bool.false_eq_true, if_false]
    rw [idx_arr F.log _ a rfl, idx_arr F.log _ b rfl]
    cases hla : GF.idx F.log a with
    | error e => rfl
    | ok la =>
      cases hlb : GF.idx F.log b with
      | error e => rfl
      | ok lb =>
        have h2 := hF.1
        have hs : ¬ F.size ≤ 1 := by omega
        simp only [Except.map, tryR_ok, bind, Except.bind, hs, if_false, Int.ofNat_eq_natCast]
        rw [gomod_cast (la + lb) (F.size - 1) (by omega) _ _ (by omega) (by omega)]
        simp only [tryR_ok]
        rw [idx_arr F.exp _ _ rfl]
        cases GF.idx F.exp ((la + lb) % (F.size - 1)) <;> rfl

end Gzx.Obligations.K04b
