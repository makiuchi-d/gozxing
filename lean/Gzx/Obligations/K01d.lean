/-
  K01d — the QR decoder regenerated from qrcode/decoder/*.go on every run (`Gzx.Gen.K01d`, translator kind `funcq`,
  translator/ext_k01dec.go) and proved equal to the hand-written model `Model/QRDecoder.lean`, the model that carries
  C01's round-trip theorems, C05's tolerance theorems and C06's totality theorems.

  This file: format_information.go (`FormatInformation_NumBitsDiffering`, `newFormatInformation`,
  `doDecodeFormatInformation`, `FormatInformation_DecodeFormatInformation`), `ErrorCorrectionLevel_ForBits`, `ModeForBits`.
  A `*FormatInformation` is `Option (ecLevel code × mask)`; `encFI` is that view of the model's `(EC × Nat)`.
  The look-up table inside the regenerated loop is tied to the table the model theorems are instantiated with
  (`QRTables.fmt`, regenerated through the `table` kind) by `k_formatTable_eq`.
-/
import Gzx.Gen.K01d
import Gzx.KernelGuard
import Gzx.Proofs.GoMTie
import Gzx.Driver.QRTables
namespace Gzx.Obligations.K01d
open Gzx Gzx.GoM Gzx.GoVal Gzx.QRDec

/-! ### helpers -/

theorem popc_eq_popCount : ∀ (k n : Nat), popc k n = QRDec.popCount k n
  | 0, _ => rfl
  | k + 1, n => by simp [popc, QRDec.popCount, popc_eq_popCount k]

/-- rows of a two-column table as the translator inlines them -/
def fmtRows (T : List (Nat × Nat)) : List (List Int) := T.map fun p => [(p.1 : Int), (p.2 : Int)]

/-- a counted loop that reads row `i` of a table first: recursion over the rows -/
def foldRows {σ ρ : Type} (g : List Int → Int → σ → Ctl σ ρ) : List (List Int) → Int → σ → Ctl σ ρ
  | [], _, st => .next st
  | r :: rs, k, st =>
    match g r k st with
    | .next st' => foldRows g rs (k + 1) st'
    | .brk st' => .brk st'
    | .ret x => .ret x
    | .panic f => .panic f

theorem idxA_drop {α : Type} (xs : List α) (k : Nat) (x : α) (rest : List α) (h : xs.drop k = x :: rest) :
    idxA xs (k : Int) = .ok x := by
  have hx : xs[k]? = some x := by rw [← List.head?_drop, h]; rfl
  rw [idxA_natCast, hx]

theorem idxRow_drop (rows : List (List Int)) (k : Nat) (r : List Int) (rest : List (List Int))
    (h : rows.drop k = r :: rest) : idxRow rows (k : Int) = .ok r :=
  (idxRow_eq_idxA rows k).trans (idxA_drop rows k r rest h)

theorem loop_rows {σ ρ : Type} (rows : List (List Int)) (g : List Int → Int → σ → Ctl σ ρ) (body : Int → σ → Ctl σ ρ)
    (hb : ∀ i st, body i st = tryC (idxRow rows i) fun r => g r i st) :
    ∀ (rest : List (List Int)) (k : Nat) (st : σ), rows.drop k = rest →
      loop body 1 rest.length (k : Int) st = foldRows g rest (k : Int) st := by
  intro rest
  induction rest with
  | nil => intro k st _; rfl
  | cons r rs ih =>
    intro k st h
    have hd : rows.drop (k + 1) = rs := by
      rw [← List.drop_drop, h]; rfl
    simp only [List.length_cons, loop_succ, hb, idxRow_drop rows k r rs h, tryC_ok, foldRows]
    have e : ((k : Int) + 1) = ((k + 1 : Nat) : Int) := by omega
    cases g r (k : Int) st with
    | next st' => simp only [e]; exact ih (k + 1) st' hd
    | brk _ => rfl
    | ret _ => rfl
    | panic _ => rfl

/-! ### FormatInformation_NumBitsDiffering, ErrorCorrectionLevel_ForBits, ModeForBits -/

when_kernel Gzx.Gen.K01d.numBitsDiffering in
/-- `FormatInformation_NumBitsDiffering(a, b)` = the model's `numBitsDiffering` (one bits of `a ^ b`, 64-bit operands) -/
theorem k_numBitsDiffering_eq (a b : Nat) :
    Gen.K01d.numBitsDiffering (a : Int) (b : Int) = .ok ((QRDec.numBitsDiffering a b : Nat) : Int) := by
  simp [Gen.K01d.numBitsDiffering, QRDec.numBitsDiffering, onesCount64, ixor_natCast, popc_eq_popCount]

/-- the Go value of an error-correction level (`ErrorCorrectionLevel_L = 1, _M = 0, _Q = 3, _H = 2`) -/
def ecCode (ec : EC) : Int := (ec.bits : Nat)

when_kernel Gzx.Gen.K01d.ecForBits in
/-- `ErrorCorrectionLevel_ForBits(bits)` = the model's `ecForBits` for every `bits` (`(-1, error)` beyond 3) -/
theorem k_ecForBits_eq (b : Nat) :
    Gen.K01d.ecForBits (b : Int) =
      .ok (match QRDec.ecForBits b with | .ok ec => (ecCode ec, false) | .error _ => (-1, true)) := by
  match b with
  | 0 => rfl
  | 1 => rfl
  | 2 => rfl
  | 3 => rfl
  | n + 4 =>
    simp (disch := omega) only [Gen.K01d.ecForBits, beq_iff_eq, if_neg]
    rfl

when_kernel Gzx.Gen.K01d.modeForBits in
/-- `ModeForBits(bits)` fails exactly where the model's `modeForBits` does (the `*Mode` object itself is a table row,
    tied by `Obligations/C01`) -/
theorem k_modeForBits_eq (b : Nat) :
    Gen.K01d.modeForBits (b : Int) = .ok (match QRDec.modeForBits b with | .ok _ => false | .error _ => true) := by
  match b with
  | 0 => rfl | 1 => rfl | 2 => rfl | 3 => rfl | 4 => rfl | 5 => rfl | 6 => rfl | 7 => rfl | 8 => rfl | 9 => rfl
  | 10 => rfl | 11 => rfl | 12 => rfl | 13 => rfl
  | n + 14 =>
    simp (disch := omega) only [Gen.K01d.modeForBits, beq_iff_eq, if_neg]
    rfl

/-! ### newFormatInformation -/

/-- a `*FormatInformation` of the regenerated code for the model's format information -/
def encFI (f : EC × Nat) : Int × Int := (ecCode f.1, (f.2 : Nat))

/-- the format information of the 5 data bits `d` (`newFormatInformation`, which cannot fail: two bits select the level) -/
def fiOfData (d : Nat) : Int × Int :=
  (match (d >>> 3) &&& 3 with | 0 => 0 | 1 => 1 | 2 => 2 | _ => 3, ((d &&& 7 : Nat) : Int))

theorem and3_lt (x : Nat) : x &&& 3 < 4 := Nat.lt_succ_of_le Nat.and_le_right

theorem and7_lt (x : Nat) : x &&& 7 < 8 := Nat.lt_succ_of_le Nat.and_le_right

when_kernel Gzx.Gen.K01d.newFormatInformation in
theorem k_newFormatInformation_eq (d : Nat) : Gen.K01d.newFormatInformation (d : Int) = .ok (some (fiOfData d)) := by
  have h7 := and7_lt d
  have h3 := and3_lt (d >>> 3)
  have e8 : wrap 8 ((d &&& 7 : Nat) : Int) = ((d &&& 7 : Nat) : Int) := wrap_of_lt 8 _ (by omega) (by omega)
  have s1 : ishr (d : Int) 3 = ((d >>> 3 : Nat) : Int) := ishr_natCast d 3
  have s2 : iand ((d >>> 3 : Nat) : Int) 3 = ((d >>> 3 &&& 3 : Nat) : Int) := iand_natCast (d >>> 3) 3
  have s3 : iand (d : Int) 7 = ((d &&& 7 : Nat) : Int) := iand_natCast d 7
  simp only [Gen.K01d.newFormatInformation, s1, s2, s3, fiOfData, k_ecForBits_eq, tryR_ok, e8]
  generalize (d >>> 3 &&& 3) = k at h3 ⊢
  match k, h3 with
  | 0, _ => rfl
  | 1, _ => rfl
  | 2, _ => rfl
  | 3, _ => rfl
  | n + 4, h => omega

theorem formatInfoOf_eq (d : Nat) : (QRDec.formatInfoOf d).map encFI = .ok (fiOfData d) := by
  have h3 := and3_lt (d >>> 3)
  unfold QRDec.formatInfoOf fiOfData
  generalize (d >>> 3 &&& 3) = k at *
  match k, h3 with
  | 0, _ => rfl
  | 1, _ => rfl
  | 2, _ => rfl
  | 3, _ => rfl
  | n + 4, h => omega

/-! ### doDecodeFormatInformation -/

when_kernel Gzx.Gen.K01d.tbl_formatInfoDecodeLookup in
/-- the regenerated look-up table is the table the model is instantiated with (`QRTables.fmt`, kind `table`) -/
theorem k_formatTable_eq : Gen.K01d.tbl_formatInfoDecodeLookup = fmtRows QRTables.fmt := by decide +kernel

/-- the scan of `doDecodeFormatInformation` with its two exits: an exact hit (`inl data`) or the best candidate -/
def fmtScan (m1 m2 : Nat) : List (Nat × Nat) → Nat → Nat → Sum Nat (Nat × Nat)
  | [], best, info => .inr (best, info)
  | (t, d) :: rest, best, info =>
    if t = m1 ∨ t = m2 then .inl d
    else
      let s1 : Nat × Nat := if QRDec.numBitsDiffering m1 t < best then (QRDec.numBitsDiffering m1 t, d) else (best, info)
      let s2 : Nat × Nat :=
        if m1 ≠ m2 then (if QRDec.numBitsDiffering m2 t < s1.1 then (QRDec.numBitsDiffering m2 t, d) else s1) else s1
      fmtScan m1 m2 rest s2.1 s2.2

/-- the model's `fmtLoop` is the scan followed by the `≤ 3` test -/
theorem fmtLoop_eq_scan (m1 m2 : Nat) : ∀ (T : List (Nat × Nat)) (best info : Nat),
    QRDec.fmtLoop m1 m2 T best info =
      match fmtScan m1 m2 T best info with
      | .inl d => some d
      | .inr (b, i) => if b ≤ 3 then some i else none := by
  intro T
  induction T with
  | nil => intro best info; rfl
  | cons p rest ih =>
    intro best info
    obtain ⟨t, d⟩ := p
    by_cases hc : t = m1 ∨ t = m2
    · rw [QRDec.fmtLoop, fmtScan, if_pos hc, if_pos hc]
    · rw [QRDec.fmtLoop, fmtScan, if_neg hc, if_neg hc]
      exact ih _ _

/-- what the regenerated loop must leave for a result of the scan -/
def expScan : Sum Nat (Nat × Nat) → Ctl (Int × Int) (Option (Int × Int))
  | .inl d => .ret (some (fiOfData d))
  | .inr (b, i) => .next ((b : Int), (i : Int))

when_kernel Gzx.Gen.K01d.doDecodeFormatInformation in
/-- the loop of `doDecodeFormatInformation` over the regenerated table = the scan: same exact-hit exit, same candidates -/
theorem k_doDecodeFormatInformation_scan (m1 m2 : Nat) :
    ∀ (rest : List (Nat × Nat)) (k best info : Nat), QRTables.fmt.drop k = rest →
      loop (Gen.K01d.doDecodeFormatInformation_body1 (m1 : Int) (m2 : Int)) 1 rest.length (k : Int) ((best : Int), (info : Int)) =
        expScan (fmtScan m1 m2 rest best info) := by
  intro rest
  induction rest with
  | nil => intro k best info _; rfl
  | cons p rest ih =>
    intro k best info h
    obtain ⟨t, d⟩ := p
    have hd : QRTables.fmt.drop (k + 1) = rest := by rw [← List.drop_drop, h]; rfl
    have hrow : idxRow (fmtRows QRTables.fmt) (k : Int) = .ok [(t : Int), (d : Int)] :=
      idxRow_drop _ k _ (fmtRows rest) (by simp [fmtRows, ← List.map_drop, h])
    have i0 : idx [(t : Int), (d : Int)] 0 = .ok (t : Int) := rfl
    have i1 : idx [(t : Int), (d : Int)] 1 = .ok (d : Int) := rfl
    have e : ((k : Int) + 1) = ((k + 1 : Nat) : Int) := by omega
    rw [List.length_cons, loop_succ]
    simp only [Gen.K01d.doDecodeFormatInformation_body1, k_formatTable_eq, hrow, tryC_ok, i0, i1,
      k_numBitsDiffering_eq, k_newFormatInformation_eq, fmtScan]
    by_cases hc : t = m1 ∨ t = m2
    · have hb : (((t : Int) == (m1 : Int)) || ((t : Int) == (m2 : Int))) = true := by simpa [Int.natCast_inj] using hc
      simp [hb, hc, expScan]
    · have hb : (((t : Int) == (m1 : Int)) || ((t : Int) == (m2 : Int))) = false := by simpa [Int.natCast_inj] using hc
      simp only [hb, hc, if_false, Bool.false_eq_true]
      by_cases h2 : m1 = m2
      · subst h2
        by_cases h1 : QRDec.numBitsDiffering m1 t < best <;>
          simp [h1] <;> rw [e] <;> exact ih (k + 1) _ _ hd
      · have h2' : ¬ ((m1 : Int) = (m2 : Int)) := by omega
        by_cases h1 : QRDec.numBitsDiffering m1 t < best
        · by_cases h3 : QRDec.numBitsDiffering m2 t < QRDec.numBitsDiffering m1 t <;>
            simp [h1, h2, h2', h3] <;> rw [e] <;> exact ih (k + 1) _ _ hd
        · by_cases h4 : QRDec.numBitsDiffering m2 t < best <;>
            simp [h1, h2, h2', h4] <;> rw [e] <;> exact ih (k + 1) _ _ hd

when_kernel Gzx.Gen.K01d.doDecodeFormatInformation in
/-- `doDecodeFormatInformation(m1, m2)` = the model's `doDecodeFormat` on the regenerated table, for ALL words -/
theorem k_doDecodeFormatInformation_eq (m1 m2 : Nat) :
    Gen.K01d.doDecodeFormatInformation (m1 : Int) (m2 : Int) =
      .ok ((QRDec.doDecodeFormat QRTables.fmt m1 m2).map fiOfData) := by
  have hlen : QRTables.fmt.length = 32 := by decide +kernel
  have hs := k_doDecodeFormatInformation_scan m1 m2 QRTables.fmt 0 QRDec.maxInt32 0 rfl
  rw [hlen] at hs
  simp only [Gen.K01d.doDecodeFormatInformation, QRDec.doDecodeFormat, fmtLoop_eq_scan]
  have e0 : ((0 : Nat) : Int) = 0 := rfl
  have e1 : ((QRDec.maxInt32 : Nat) : Int) = 2147483647 := rfl
  rw [e0, e1] at hs
  rw [hs]
  cases hr : fmtScan m1 m2 QRTables.fmt QRDec.maxInt32 0 with
  | inl d => simp [expScan]
  | inr bi =>
    obtain ⟨b, i⟩ := bi
    by_cases hb : b ≤ 3
    · have : ((b : Int) ≤ 3) := by omega
      simp [expScan, hb, this, k_newFormatInformation_eq]
    · have : ¬ ((b : Int) ≤ 3) := by omega
      simp [expScan, hb, this]

when_kernel Gzx.Gen.K01d.decodeFormatInformation in
/-- `FormatInformation_DecodeFormatInformation(m1, m2)` = the model's `decodeFormat` on the regenerated table and mask,
    for ALL words: second attempt with the mask removed, level and data mask of the decoded five bits -/
theorem k_decodeFormatInformation_eq (m1 m2 : Nat) :
    Gen.K01d.decodeFormatInformation (m1 : Int) (m2 : Int) =
      (QRDec.decodeFormat QRTables.fmt QRTables.fmtMask m1 m2).map (Option.map encFI) := by
  have hm : QRTables.fmtMask = 21522 := by decide +kernel
  have x1 : ixor (m1 : Int) 21522 = ((m1 ^^^ 21522 : Nat) : Int) := ixor_natCast m1 21522
  have x2 : ixor (m2 : Int) 21522 = ((m2 ^^^ 21522 : Nat) : Int) := ixor_natCast m2 21522
  simp only [Gen.K01d.decodeFormatInformation, k_doDecodeFormatInformation_eq, tryR_ok, x1, x2,
    QRDec.decodeFormat, QRDec.decodeFormatData, hm]
  cases h1 : QRDec.doDecodeFormat QRTables.fmt m1 m2 with
  | some d =>
    have := formatInfoOf_eq d
    cases hf : QRDec.formatInfoOf d with
    | error e => rw [hf] at this; cases this
    | ok f => rw [hf] at this; simp [Except.map] at this; simp [hf, ← this, Except.map, bind, Except.bind]
  | none =>
    simp only [Option.map_none, Option.isNone_none, Bool.not_true, Bool.false_eq_true, if_false]
    cases h2 : QRDec.doDecodeFormat QRTables.fmt (m1 ^^^ 21522) (m2 ^^^ 21522) with
    | some d =>
      have := formatInfoOf_eq d
      cases hf : QRDec.formatInfoOf d with
      | error e => rw [hf] at this; cases this
      | ok f => rw [hf] at this; simp [Except.map] at this; simp [hf, ← this, Except.map, bind, Except.bind]
    | none => rfl

end Gzx.Obligations.K01d
