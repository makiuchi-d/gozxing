/-
  K04b (Divide) — `GenericGFPoly.Divide` regenerated from /repo on every run and proved equal to the model's `divide`
  (Model/RS.lean).  The loop `for remainder.GetDegree() >= other.GetDegree() && !remainder.IsZero()` has no syntactic bound:
  the regenerated definition takes `fuel`; the theorem holds for every fuel that is at least the model's own budget
  (`len + 1` rounds), whenever the model does not exhaust that budget (`Properties/C04`: it never does on field elements).
  Conventions: Obligations/K04b.lean.
-/
import Gzx.Obligations.K04bPoly
namespace Gzx.Obligations.K04bDiv
open Gzx Gzx.GoM Gzx.GoVal Gzx.RS Gzx.K04bTie Gzx.Obligations.K04b Gzx.Obligations.K04bPoly

theorem fieldRec_zero (F : GF.GF) : (fieldRec F).zero = ints [0] := rfl
theorem fieldRec_one (F : GF.GF) : (fieldRec F).one = ints [1] := rfl
theorem fieldRec_size (F : GF.GF) : (fieldRec F).size = (F.size : Int) := rfl
theorem fieldRec_base (F : GF.GF) : (fieldRec F).generatorBase = (F.base : Int) := rfl

/-- how `Divide` (and `runEuclideanAlgorithm`) render a model result: two polynomials and `nil`, or `nil, nil, err` -/
def expE2 : Res (Poly × Poly) → Res (List Int × List Int × Bool)
  | .ok t => .ok (ints t.1, ints t.2, false)
  | .error e => failK (.ok ([], [], true)) Except.error e

theorem getCoefficient_error {p : Poly} {d : Nat} {e : Fault} (h : getCoefficient p d = .error e) : IsPanic e :=
  getCoefficient_panics p d e h

theorem failK_of_panic {γ : Type} (c : γ) (lift : Fault → γ) {e : Fault} (h : IsPanic e) : failK c lift e = lift e :=
  failK_panic_of h

theorem expE2_eq (m : Res (Poly × Poly)) : expE2 m = retE ([], [], true) (fun t => (ints t.1, ints t.2, false)) m := by
  cases m <;> rfl

when_kernel Gzx.Gen.K04b.polyDivide in
/-- `Divide(other)` = the model's `divide`: checked error for a zero divisor, otherwise quotient and remainder by repeated
    cancellation of the leading term -/
theorem k_polyDivide_eq (F : GF.GF) (hF : TablesOK F) (p q : List Nat) (hp : p ≠ []) (hq : q ≠ [])
    (fuel : Nat) (hfuel : p.length + 1 ≤ fuel) (hnf : divide F p q ≠ .error .fuel) :
    Gen.K04b.polyDivide fuel (fieldRec F) (ints p) (ints q) = expE2 (divide F p q) := by
  rw [expE2_eq]
  simp only [Gen.K04b.polyDivide, divide, Bool.false_eq_true, if_false, fieldRec_zero, k_polyIsZero_eq _ q hq, tryR_ok,
    k_polyGetDegree_eq] at hnf ⊢
  by_cases hz : isZero q = true
  · simp only [hz, if_true]; rfl
  simp only [hz, Bool.false_eq_true, if_false] at hnf ⊢
  refine bindPR (k_polyGetCoefficient_at _ q _ (degree q) (degree_cast q hq)) (getCoefficient_panics _ _) fun lead hlead => ?_
  refine bindER (k_gfInverse_eq F hF lead) rfl fun inv hinv => ?_
  have hnf' : divLoop F q inv (p.length + 1) [0] p ≠ .error .fuel := by
    simpa only [hlead, hinv, bind, Except.bind] using hnf
  rw [← bind_pure (divLoop F q inv (p.length + 1) [0] p)]
  refine whileR (R := ints2) ?_ (fun t _ => rfl)
  rw [whileLoop_map_inv' ints2 (fun t => t.1 ≠ [] ∧ t.2 ≠ []) (divStep F q inv ([], [], true)) ([0], p)
    (s := (ints [0], ints p)) rfl ⟨by simp, hp⟩ (fun _ _ => divStep_inv),
    divStep_run F q inv _ (p.length + 1) [0] p fuel hfuel hnf']
  -- the body of the loop: the test, then one rule per call of the round
  intro t ⟨hq1, hr1⟩
  have hlr : 0 < t.2.length := List.length_pos_iff.mpr hr1
  have hlo : 0 < q.length := List.length_pos_iff.mpr hq
  simp only [ints2, divStep, divRound, k_polyGetDegree_eq, tryC_ok, k_polyIsZero_eq _ t.2 hr1]
  refine guardC (R := ints2) (t := t) (andNot_ok (decide (degree t.2 ≥ degree q)) ?_) (fun hc => ?_)
  · exact decide_eq_decide.mpr (by unfold degree; omega)
  have hge : degree t.2 ≥ degree q := by
    rw [Bool.and_eq_true] at hc; exact of_decide_eq_true hc.1
  have e1 : (t.2.length : Int) - 1 - ((q.length : Int) - 1) = ((degree t.2 - degree q : Nat) : Int) := by
    unfold degree at hge ⊢; omega
  refine bindP (k_polyGetCoefficient_at _ t.2 _ (degree t.2) (by unfold degree; omega)) (getCoefficient_panics _ _) fun lead _ => ?_
  refine bindP (k_gfMultiply_eq F hF lead inv) (mul_panics _ _ _) fun scale _ => ?_
  refine bindE (k_polyMultiplyByMonomial_at F hF q _ _ _ scale e1 rfl) rfl fun term hterm => ?_
  refine bindE (k_gfBuildMonomial_at F _ _ _ scale e1 rfl) rfl fun iq hiq => ?_
  refine bindE (k_polyAddOrSubtract_eq F t.1 iq hq1 (buildMonomial_ne hiq)) rfl fun q' _ => ?_
  refine bindE (k_polyAddOrSubtract_eq F t.2 term hr1 (multiplyByMonomial_ne hterm)) rfl fun r' _ => ?_
  rfl

/-! non-vacuity of the hypotheses of `k_polyDivide_eq`: (x² + 2x + 3) / (x + 3) over GF(16), fuel 4 -/
example : TablesOK GF.aztecParam ∧ ([1, 2, 3] : List Nat) ≠ [] ∧ ([1, 3] : List Nat) ≠ [] ∧ ([1, 2, 3] : List Nat).length + 1 ≤ 4 ∧
    divide GF.aztecParam [1, 2, 3] [1, 3] ≠ .error .fuel := by decide +kernel

end Gzx.Obligations.K04bDiv
