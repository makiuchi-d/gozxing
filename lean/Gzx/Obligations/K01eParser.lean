/-
  K01e (qrcode/decoder/bit_matrix_parser.go) — `BitMatrixParser.ReadFormatInformation` and `ReadVersion`, regenerated on every
  run into `Gzx.Gen.K01d`, proved equal to the model `Model/QRDecoder.lean` (`readFormatInformation`,
  `readVersion`: the functions under C01's round trip, C05's tolerance and C06's totality theorems).

  The matrix is abstract (`ops : MatOps M`); the theorems hold for every `ops` whose `Get` reads the model matrix (`GetLaw`) and
  whose `GetHeight` is its dimension — `Obligations/K01eWord.lean` instantiates them with the tied word-level `BitMatrix`.
  A `*BitMatrixParser` is (bitMatrix, parsedVersion, parsedFormatInfo, mirror); the regenerated methods return the Go results
  followed by the written field (`parsedFormatInfo` / `parsedVersion`).
-/
import Gzx.Obligations.K01dMat
import Gzx.Obligations.K01dVer
namespace Gzx.Obligations.K01e
open Gzx Gzx.GoM Gzx.GoVal Gzx.QRDec Gzx.Obligations.K01d

/-! ### `copyBit` sequences as a pure fold (`BitMatrix.Get` never fails) -/

/-- `BitMatrix.Get` as a value -/
def getV (m : Matrix) (x y : Nat) : Bool := if x < m.dim ∧ y < m.dim then m.bit x y else false

theorem get_eq (m : Matrix) (x y : Nat) : m.get x y = .ok (getV m x y) := by
  unfold Matrix.get getV; split <;> rfl

/-- one `copyBit` -/
def cbit (m : Matrix) (mirror : Bool) (acc : Nat) (ij : Nat × Nat) : Nat :=
  2 * acc + (if mirror then getV m ij.2 ij.1 else getV m ij.1 ij.2).toNat

theorem copyBit_ok (m : Matrix) (mirror : Bool) (acc : Nat) (ij : Nat × Nat) :
    QRDec.copyBit m mirror acc ij = .ok (cbit m mirror acc ij) := by
  unfold QRDec.copyBit cbit
  cases mirror <;> simp [get_eq, bind, Except.bind]

theorem copyBits_ok (m : Matrix) (mirror : Bool) : ∀ (l : List (Nat × Nat)) (acc : Nat),
    copyBits m mirror l acc = .ok (l.foldl (cbit m mirror) acc)
  | [], _ => rfl
  | ij :: rest, acc => by
    simp only [copyBits, copyBit_ok, bind, Except.bind, List.foldl]
    exact copyBits_ok m mirror rest _

theorem cbit_lt (m : Matrix) (mirror : Bool) (acc : Nat) (ij : Nat × Nat) : cbit m mirror acc ij < 2 * (acc + 1) := by
  unfold cbit
  cases (if mirror then getV m ij.2 ij.1 else getV m ij.1 ij.2) <;> simp <;> omega

theorem foldl_cbit_lt (m : Matrix) (mirror : Bool) : ∀ (l : List (Nat × Nat)) (acc : Nat),
    l.foldl (cbit m mirror) acc < 2 ^ l.length * (acc + 1)
  | [], acc => by simp
  | ij :: rest, acc => by
    have h1 := foldl_cbit_lt m mirror rest (cbit m mirror acc ij)
    have h2 := cbit_lt m mirror acc ij
    have h3 : 2 ^ rest.length * (cbit m mirror acc ij + 1) ≤ 2 ^ rest.length * (2 * (acc + 1)) :=
      Nat.mul_le_mul_left _ (by omega)
    simp only [List.foldl, List.length_cons, Nat.pow_succ]
    rw [Nat.mul_assoc]
    omega

section
variable {M : Type} (ops : MatOps M) (abs : M → Matrix) (law : GetLaw ops abs)
include law

when_kernel Gzx.Gen.K01d.copyBit in
theorem k_copyBit_v (m : M) (mirror : Bool) (i j acc : Nat) :
    Gen.K01d.copyBit ops m mirror (i : Int) (j : Int) (acc : Int) = .ok ((cbit (abs m) mirror acc (i, j) : Nat) : Int) := by
  rw [k_copyBit_eq ops abs law, copyBit_ok]; rfl

when_kernel Gzx.Gen.K01d.copyBit in
/-- a loop body that is one `copyBit` at the coordinates `(x, y)`, whatever expressions of the loop variables `i`, `j` are -/
theorem k_copyBit_next {ρ : Type} (m : M) (mirror : Bool) (x y acc : Nat) {i j : Int} (hi : i = x) (hj : j = y) :
    (tryC (Gen.K01d.copyBit ops m mirror i j (acc : Int)) fun t => .next t : Ctl Int ρ) =
      .next ((cbit (abs m) mirror acc (x, y) : Nat) : Int) := by
  rw [hi, hj, k_copyBit_v ops abs law]; rfl

omit law in
/-- a counted loop whose `k`-th iteration makes the `copyBit` calls at the coordinates `G k` (an inner loop) -/
theorem loop_copyL {ρ : Type} (m : M) (mirror : Bool) (d : Int) :
    ∀ (n : Nat) (G : Nat → List (Nat × Nat)) (body : Int → Int → Ctl Int ρ) (i0 : Int),
      (∀ k, k < n → ∀ (acc : Nat) (i : Int), i = i0 + d * (k : Int) →
        body i (acc : Int) = .next (((G k).foldl (cbit (abs m) mirror) acc : Nat) : Int)) →
      ∀ acc : Nat, loop body d n i0 (acc : Int) =
        .next ((((List.range n).flatMap G).foldl (cbit (abs m) mirror) acc : Nat) : Int) := by
  intro n
  induction n with
  | zero => intro G body i0 _ acc; rfl
  | succ n ih =>
    intro G body i0 hb acc
    rw [loop_succ, hb 0 (by omega) acc i0 (by simp)]
    simp only [List.range_succ_eq_map, List.flatMap_cons, List.flatMap_map, List.foldl_append]
    exact ih (G ∘ Nat.succ) body (i0 + d) (fun k hk acc i hi => hb (k + 1) (by omega) acc i (by rw [hi]; simp [Int.mul_add]; omega)) _

omit law in
/-- a counted loop whose body is one `copyBit` at the `k`-th coordinate `g k` -/
theorem loop_copy {ρ : Type} (m : M) (mirror : Bool) (d : Int)
    (n : Nat) (g : Nat → Nat × Nat) (body : Int → Int → Ctl Int ρ) (i0 : Int)
    (hb : ∀ k, k < n → ∀ (acc : Nat) (i : Int), i = i0 + d * (k : Int) →
        body i (acc : Int) = .next ((cbit (abs m) mirror acc (g k) : Nat) : Int)) (acc : Nat) :
    loop body d n i0 (acc : Int) = .next ((((List.range n).map g).foldl (cbit (abs m) mirror) acc : Nat) : Int) := by
  rw [loop_copyL abs m mirror d n (fun k => [g k]) body i0 hb acc, ← List.map_eq_flatMap]

end

/-! ### ReadFormatInformation -/

theorem downFrom_eq : ∀ (n hi : Nat), downFrom hi n = (List.range n).map (fun k => hi - k)
  | 0, _ => rfl
  | n + 1, hi => by
    rw [downFrom, downFrom_eq n (hi - 1), List.range_succ_eq_map]
    simp only [List.map_cons, List.map_map, Nat.sub_zero]
    congr 1
    apply List.map_congr_left
    intro k _
    simp only [Function.comp, Nat.succ_eq_add_one]
    omega

theorem formatCoords1_split : formatCoords1 =
    (List.range 6).map (fun k => (k, 8)) ++ ([(7, 8), (8, 8), (8, 7)] ++ (List.range 6).map (fun k => (8, 5 - k))) := by
  decide

theorem formatCoords2_split (dim : Nat) : formatCoords2 dim =
    (List.range 7).map (fun k => (8, dim - 1 - k)) ++ (List.range 8).map (fun k => (dim - 8 + k, 8)) := by
  unfold formatCoords2
  rw [downFrom_eq]
  simp [List.map_map, Function.comp]

theorem decodeFormat_ok (T : List (Nat × Nat)) (mask m1 m2 : Nat) : ∃ o, decodeFormat T mask m1 m2 = .ok o := by
  unfold decodeFormat
  cases decodeFormatData T mask m1 m2 with
  | none => exact ⟨none, rfl⟩
  | some d =>
    have := formatInfoOf_eq d
    cases hf : formatInfoOf d with
    | error e => rw [hf] at this; cases this
    | ok f => exact ⟨some f, by simp [bind, Except.bind, hf]⟩

/-- what the regenerated `ReadFormatInformation` must return for a result of the model:
    (format information, error?, the field `parsedFormatInfo` afterwards) -/
def expRFI : Res ((EC × Nat) × Parser) → Res (Option (Int × Int) × Bool × Option (Int × Int))
  | .ok (f, p') => .ok (some (encFI f), false, p'.fmt.map encFI)
  | .error .format => .ok (none, true, none)
  | .error e => .error e

when_kernel Gzx.Gen.K01d.copyBit in
when_kernel Gzx.Gen.K01d.readFormatInformation in
/-- `ReadFormatInformation()` = the model's `readFormatInformation` on the regenerated tables, for EVERY lawful matrix of
    dimension ≥ 8 (`NewBitMatrixParser` demands ≥ 21), mirrored or not, cached or not: the same 15 + 15 modules are read in
    the same order, decoded by `FormatInformation_DecodeFormatInformation`, cached in the parser; `FormatException` iff the
    model fails -/
theorem k_readFormatInformation_eq {M : Type} (ops : MatOps M) (abs : M → Matrix) (law : GetLaw ops abs)
    (m : M) (p : Parser) (hm : abs m = p.m) (hh : ops.height m = (p.m.dim : Int)) (hd : 8 ≤ p.m.dim) :
    Gen.K01d.readFormatInformation ops m (p.fmt.map encFI) p.mirror =
      expRFI (QRDec.readFormatInformation QRTables.tables p) := by
  cases hf : p.fmt with
  | some f => simp [Gen.K01d.readFormatInformation, QRDec.readFormatInformation, hf, expRFI]
  | none =>
    have t6 : tripUp 0 6 1 = 6 := by decide
    have t6' : tripDown 5 (-1) 1 = 6 := by decide
    have t7 : tripDown ((p.m.dim : Int) - 1) ((p.m.dim : Int) - 7 - 1) 1 = 7 := by rw [tripDown_one]; omega
    have t8 : tripUp ((p.m.dim : Int) - 8) (p.m.dim : Int) 1 = 8 := by rw [tripUp_one]; omega
    have cb := k_copyBit_next (ρ := Option (Int × Int) × Bool × Option (Int × Int)) ops abs law m p.mirror
    have l1 : loop (Gen.K01d.readFormatInformation_body1 ops m p.mirror) 1 6 0 (0 : Int) = _ :=
      loop_copy abs m p.mirror 1 6 (fun k => (k, 8)) _ 0 (fun k _ acc i hi => cb k 8 acc (by omega) rfl) 0
    have l2 := loop_copy abs m p.mirror (-1) 6 (fun k => (8, 5 - k)) (Gen.K01d.readFormatInformation_body2 ops m p.mirror) 5
      (fun k _ acc i hi => cb 8 (5 - k) acc rfl (by omega))
    have l3 : loop (Gen.K01d.readFormatInformation_body3 ops m p.mirror) (-1) 7 ((p.m.dim : Int) - 1) (0 : Int) = _ :=
      loop_copy abs m p.mirror (-1) 7 (fun k => (8, p.m.dim - 1 - k)) _ _
        (fun k _ acc i hi => cb 8 (p.m.dim - 1 - k) acc rfl (by omega)) 0
    have l4 := loop_copy abs m p.mirror 1 8 (fun k => (p.m.dim - 8 + k, 8))
      (Gen.K01d.readFormatInformation_body4 ops m p.mirror) ((p.m.dim : Int) - 8)
      (fun k _ acc i hi => cb (p.m.dim - 8 + k) 8 acc (by omega) rfl)
    simp only [Gen.K01d.readFormatInformation, Option.map_none, Option.isNone_none, Bool.not_true, Bool.false_eq_true, if_false,
      hh, t6, t6', t7, t8]
    have cb1 : ∀ acc : Nat, Gen.K01d.copyBit ops m p.mirror 7 8 (acc : Int) = _ := k_copyBit_v ops abs law m p.mirror 7 8
    have cb2 : ∀ acc : Nat, Gen.K01d.copyBit ops m p.mirror 8 8 (acc : Int) = _ := k_copyBit_v ops abs law m p.mirror 8 8
    have cb3 : ∀ acc : Nat, Gen.K01d.copyBit ops m p.mirror 8 7 (acc : Int) = _ := k_copyBit_v ops abs law m p.mirror 8 7
    simp only [l1, l3, next_thenR, cb1, cb2, cb3, tryR_ok, l2, l4]
    have hlt1 : _ < 2 ^ 15 * (0 + 1) := foldl_cbit_lt (abs m) p.mirror formatCoords1 0
    have hlt2 : _ < 2 ^ 15 * (0 + 1) := foldl_cbit_lt (abs m) p.mirror (formatCoords2 (abs m).dim) 0
    simp only [QRDec.readFormatInformation, QRTables.tables, hf, copyBits_ok, bind, Except.bind, ← hm]
    simp only [formatCoords1_split, formatCoords2_split, List.foldl_append, List.foldl_cons, List.foldl_nil] at hlt1 hlt2 ⊢
    generalize List.foldl (cbit (abs m) p.mirror) _ (List.map (fun k => (8, 5 - k)) (List.range 6)) = b1 at hlt1 ⊢
    generalize List.foldl (cbit (abs m) p.mirror) _ (List.map (fun k => ((abs m).dim - 8 + k, 8)) (List.range 8)) = b2 at hlt2 ⊢
    rw [wrap_of_lt 64 _ (by omega) (by omega), wrap_of_lt 64 _ (by omega) (by omega), k_decodeFormatInformation_eq]
    obtain ⟨o, ho⟩ := decodeFormat_ok QRTables.fmt QRTables.fmtMask b1 b2
    rw [ho]
    cases o with
    | none => rfl
    | some f => simp [Except.map, expRFI]

/-- non-vacuity: a lawful matrix of dimension 21 (all white) -/
example : ∃ (ops : MatOps Matrix) (abs : Matrix → Matrix) (m : Matrix) (p : Parser),
    GetLaw ops abs ∧ abs m = p.m ∧ ops.height m = (p.m.dim : Int) ∧ 8 ≤ p.m.dim :=
  ⟨⟨⟨0, fun _ _ => false⟩, fun m => m.dim, fun m => m.dim, fun m x y => getV m x.toNat y.toNat,
     fun m _ _ => .ok m, fun m _ _ _ _ => .ok (m, false), fun _ => .ok (⟨0, fun _ _ => false⟩, true)⟩,
   id, ⟨21, fun _ _ => false⟩, { m := ⟨21, fun _ _ => false⟩ },
   fun m x y => by simp [get_eq], rfl, rfl, by decide⟩

/-! ### ReadVersion -/

/-- the row handle of a cached `*Version` (nil = -1) -/
def hOf : Option VersionInfo → Int
  | some v => (v.num : Int) - 1
  | none => -1

/-- what the regenerated `ReadVersion` must return for a result of the model: (version handle, error?, the field
    `parsedVersion` afterwards); only the uncached path can fail, so the field is nil then -/
def expRV : Res (VersionInfo × Parser) → Res (Int × Bool × Int)
  | .ok (v, p') => .ok ((v.num : Int) - 1, false, hOf p'.ver)
  | .error (.panic w) => .error (.panic w)
  | .error _ => .ok (-1, true, -1)

theorem versions_len : QRTables.versions.length = 40 := by
  simpa using congrArg List.length versions_numbered

theorem gvn_ok {n : Nat} {v : VersionInfo} (h : QRDec.getVersionForNumber QRTables.versions n = .ok v) :
    v.num = n ∧ 1 ≤ n ∧ n ≤ 40 := by
  have hg := model_gvn n
  rw [h] at hg
  unfold QRDec.getVersionForNumber at h
  by_cases hr : n < 1 ∨ n > 40
  · rw [if_pos hr] at h; cases h
  · have hr' : ¬ ((n : Int) < 1 ∨ (n : Int) > 40) := by omega
    simp only [hview, gvn, if_neg hr', Prod.mk.injEq, and_true] at hg
    omega

theorem gvn_err {n : Nat} {e : Fault} (h : QRDec.getVersionForNumber QRTables.versions n = .error e) : e = .illegalArg := by
  unfold QRDec.getVersionForNumber at h
  by_cases hr : n < 1 ∨ n > 40
  · rw [if_pos hr] at h; cases h; rfl
  · rw [if_neg hr] at h
    have : n - 1 < QRTables.versions.length := by rw [versions_len]; omega
    rw [List.getElem?_eq_getElem this] at h
    cases h

theorem dvi_ok {bits : Nat} {v : VersionInfo} (h : QRDec.decodeVersionInformation QRTables.tables bits = .ok v) :
    1 ≤ v.num ∧ v.num ≤ 40 := by
  simp only [QRDec.decodeVersionInformation, QRTables.tables] at h
  split at h
  · have := gvn_ok h; omega
  · split at h
    · have := gvn_ok h; omega
    · cases h

theorem dvi_err {bits : Nat} {e : Fault} (h : QRDec.decodeVersionInformation QRTables.tables bits = .error e) :
    ∀ w, e ≠ .panic w := by
  simp only [QRDec.decodeVersionInformation, QRTables.tables] at h
  intro w hw
  split at h
  · cases gvn_err h; cases hw
  · split at h
    · cases gvn_err h; cases hw
    · cases h; cases hw

when_kernel Gzx.Gen.K01d.tbl_VERSIONS_versionNumber in
when_kernel Gzx.Gen.K01d.readVersion in
/-- the column `versionNumber` of the regenerated VERSIONS numbers its rows 1..40 -/
theorem k_versionNumbers : Gen.K01d.tbl_VERSIONS_versionNumber = (List.range 40).map (fun k => ((k + 1 : Nat) : Int)) := by
  decide +kernel

theorem versionCoords1_eq (dim : Nat) : versionCoords1 dim =
    (List.range 6).flatMap (fun k => (List.range 3).map (fun l => (dim - 9 - l, 5 - k))) := by
  unfold versionCoords1
  rw [downFrom_eq, downFrom_eq, List.flatMap_map]
  simp only [List.map_map]
  rfl

theorem versionCoords2_eq (dim : Nat) : versionCoords2 dim =
    (List.range 6).flatMap (fun k => (List.range 3).map (fun l => (5 - k, dim - 9 - l))) := by
  unfold versionCoords2
  rw [downFrom_eq, downFrom_eq, List.flatMap_map]
  simp only [List.map_map]
  rfl

when_kernel Gzx.Gen.K01d.decodeVersionInformation in
when_kernel Gzx.Gen.K01d.readVersion in
/-- one copy of the version information as the regenerated code examines it: decode, then compare the dimension -/
theorem k_versionCopy (dim bits : Nat) (hb : bits < 2 ^ 64) :
    ∃ r : Int × Bool, Gen.K01d.decodeVersionInformation (bits : Int) = .ok r ∧
      match versionCopyOK QRTables.tables dim bits with
      | some v => r = ((v.num : Int) - 1, false) ∧ 1 ≤ v.num ∧ v.num ≤ 40 ∧ 17 + 4 * v.num = dim
      | none => r.2 = true ∨ (∃ n : Nat, r = ((n : Int) - 1, false) ∧ 1 ≤ n ∧ n ≤ 40 ∧ 17 + 4 * n ≠ dim) := by
  refine ⟨_, k_decodeVersionInformation_eq bits hb, ?_⟩
  unfold versionCopyOK
  cases hd : QRDec.decodeVersionInformation QRTables.tables bits with
  | error e => simp [hview]
  | ok v =>
    have := dvi_ok hd
    by_cases hdim : v.dimension = dim
    · simp only [hdim, if_true, hview]
      unfold VersionInfo.dimension at hdim
      simp only [true_and]
      exact ⟨this.1, this.2, hdim⟩
    · simp only [hdim, if_false, hview]
      unfold VersionInfo.dimension at hdim
      exact Or.inr ⟨v.num, rfl, this.1, this.2, hdim⟩

when_kernel Gzx.Gen.K01d.tbl_VERSIONS_versionNumber in
when_kernel Gzx.Gen.K01d.readVersion in
theorem idx_versionNumbers (n : Nat) (h1 : 1 ≤ n) (h40 : n ≤ 40) :
    idx Gen.K01d.tbl_VERSIONS_versionNumber ((n : Int) - 1) = .ok (n : Int) := by
  rw [k_versionNumbers]
  have e : (n : Int) - 1 = ((n - 1 : Nat) : Int) := by omega
  rw [e, idx_ofNat _ _ (by simp; omega)]
  simp
  omega

when_kernel Gzx.Gen.K01d.decodeVersionInformation in
when_kernel Gzx.Gen.K01d.getDimensionForVersion in
when_kernel Gzx.Gen.K01d.tbl_VERSIONS_versionNumber in
when_kernel Gzx.Gen.K01d.readVersion in
/-- `ReadVersion()` = the model's `readVersion` on the regenerated tables, for EVERY lawful matrix, mirrored or not, cached or
    not: versions ≤ 6 from the dimension alone, otherwise the two 18-bit copies in the same module order, each decoded by
    `Version_decodeVersionInformation` and accepted only with the matrix' dimension; `FormatException` iff the model fails -/
theorem k_readVersion_eq {M : Type} (ops : MatOps M) (abs : M → Matrix) (law : GetLaw ops abs)
    (m : M) (p : Parser) (hm : abs m = p.m) (hh : ops.height m = (p.m.dim : Int))
    (hv : ∀ v, p.ver = some v → 1 ≤ v.num) :
    Gen.K01d.readVersion ops m (hOf p.ver) p.mirror = expRV (QRDec.readVersion QRTables.tables p) := by
  have hvs : QRTables.tables.versions = QRTables.versions := by simp only [QRTables.tables]
  cases hpv : p.ver with
  | some v =>
    have := hv v hpv
    have hne : (((v.num : Int) - 1) == -1) = false := by simp; omega
    simp [Gen.K01d.readVersion, QRDec.readVersion, hpv, hOf, expRV, hne]
  | none =>
    have hnn : (((-1 : Int)) == -1) = true := rfl
    have hs4 : Int.sign 4 = 1 := rfl
    have hle : Int.tdiv ((p.m.dim : Int) - 17) 4 ≤ 6 ↔ (p.m.dim - 17) / 4 ≤ 6 := by
      rw [Int.tdiv_eq_ediv, hs4]; split <;> omega
    simp only [Gen.K01d.readVersion, hOf, QRDec.readVersion, hpv, hh, hnn, Bool.not_true, Bool.false_eq_true, if_false, hvs, hle]
    by_cases hprov : (p.m.dim - 17) / 4 ≤ 6
    · simp only [hprov, decide_true, if_true, k_getVersionForNumber_gvn, tryR_ok]
      rw [gvn_tdiv, ← model_gvn]
      cases hg : QRDec.getVersionForNumber QRTables.versions ((p.m.dim - 17) / 4) with
      | ok v => simp only [hview, expRV, hpv, hOf, bind, Except.bind]
      | error e => obtain rfl := gvn_err hg; rfl
    · have hdim : 45 ≤ p.m.dim := by omega
      have t3 : tripDown ((p.m.dim : Int) - 9) ((p.m.dim : Int) - 11 - 1) 1 = 3 := by rw [tripDown_one]; omega
      have t6 : tripDown 5 (-1) 1 = 6 := by decide
      have cb := k_copyBit_next (ρ := Int × Bool × Int) ops abs law m p.mirror
      have L1 : loop (Gen.K01d.readVersion_body1 ops m p.mirror (p.m.dim : Int) ((p.m.dim : Int) - 11)) (-1) 6 5 (0 : Int) = _ :=
        loop_copyL abs m p.mirror (-1) 6 (fun k => (List.range 3).map (fun l => (p.m.dim - 9 - l, 5 - k))) _ 5
        (fun k _ acc j hj => by
          simp only [Gen.K01d.readVersion_body1, t3]
          rw [loop_copy abs m p.mirror (-1) 3 (fun l => (p.m.dim - 9 - l, 5 - k)) (Gen.K01d.readVersion_body2 ops m p.mirror j) _
            (fun l _ acc i hi => cb (p.m.dim - 9 - l) (5 - k) acc (by omega) (by omega))]
          rfl) 0
      have L2 : loop (Gen.K01d.readVersion_body3 ops m p.mirror (p.m.dim : Int) ((p.m.dim : Int) - 11)) (-1) 6 5 (0 : Int) = _ :=
        loop_copyL abs m p.mirror (-1) 6 (fun k => (List.range 3).map (fun l => (5 - k, p.m.dim - 9 - l))) _ 5
        (fun k _ acc i hi => by
          simp only [Gen.K01d.readVersion_body3, t3]
          rw [loop_copy abs m p.mirror (-1) 3 (fun l => (5 - k, p.m.dim - 9 - l)) (Gen.K01d.readVersion_body4 ops m p.mirror i) _
            (fun l _ acc j hj => cb (5 - k) (p.m.dim - 9 - l) acc (by omega) (by omega))]
          rfl) 0
      simp only [hprov, decide_false, Bool.false_eq_true, if_false, t6, L1, L2, next_thenR, copyBits_ok, bind, Except.bind,
        versionCoords1_eq, versionCoords2_eq]
      simp only [← hm]
      have hlt1 : _ < 2 ^ 18 * (0 + 1) := foldl_cbit_lt (abs m) p.mirror (versionCoords1 (abs m).dim) 0
      have hlt2 : _ < 2 ^ 18 * (0 + 1) := foldl_cbit_lt (abs m) p.mirror (versionCoords2 (abs m).dim) 0
      rw [versionCoords1_eq] at hlt1
      rw [versionCoords2_eq] at hlt2
      generalize List.foldl (cbit (abs m) p.mirror) 0 (List.flatMap (fun k => List.map (fun l => ((abs m).dim - 9 - l, 5 - k)) (List.range 3)) (List.range 6)) = b1 at hlt1 ⊢
      generalize List.foldl (cbit (abs m) p.mirror) 0 (List.flatMap (fun k => List.map (fun l => (5 - k, (abs m).dim - 9 - l)) (List.range 3)) (List.range 6)) = b2 at hlt2 ⊢
      -- one copy: decode, look the version number up again, compare the dimension; `-1` (nil) is handed on otherwise
      have copy : ∀ b : Nat, b < 2 ^ 64 → ∃ r : Int × Bool, Gen.K01d.decodeVersionInformation (b : Int) = .ok r ∧
          (if (r.2 == false) = true then
              if (!r.1 == -1) = true then
                tryC (idx Gen.K01d.tbl_VERSIONS_versionNumber r.1) fun t =>
                  tryC (Gen.K01d.getDimensionForVersion t) fun t' =>
                    if (t' == ((abs m).dim : Int)) = true then Ctl.ret (r.1, false, r.1) else Ctl.next (-1 : Int)
              else Ctl.next (-1)
            else Ctl.next (-1) : Ctl Int (Int × Bool × Int)) =
            match versionCopyOK QRTables.tables (abs m).dim b with
            | some v => .ret ((v.num : Int) - 1, false, (v.num : Int) - 1)
            | none => .next (-1) := by
        intro b hb
        obtain ⟨r, hr, hc⟩ := k_versionCopy (abs m).dim b hb
        refine ⟨r, hr, ?_⟩
        have gd : ∀ t : Int, Gen.K01d.getDimensionForVersion t = .ok (17 + 4 * t) := fun _ => rfl
        have hit : ∀ n : Nat, 1 ≤ n → (!(((n : Int) - 1) == -1)) = true := by intro n h; simp; omega
        cases hv : versionCopyOK QRTables.tables (abs m).dim b with
        | some v =>
          rw [hv] at hc
          obtain ⟨rfl, h1, h40, hd⟩ := hc
          have : 17 + 4 * (v.num : Int) = ((abs m).dim : Int) := by omega
          simp [hit v.num h1, idx_versionNumbers v.num h1 h40, gd, this]
        | none =>
          rw [hv] at hc
          rcases hc with h | ⟨n, rfl, h1, h40, hne⟩
          · simp [h]
          · have : ¬ 17 + 4 * (n : Int) = ((abs m).dim : Int) := by omega
            simp [hit n h1, idx_versionNumbers n h1 h40, gd, this]
      obtain ⟨r1, hr1, hc1⟩ := copy b1 (by omega)
      obtain ⟨r2, hr2, hc2⟩ := copy b2 (by omega)
      rw [hr1, hr2]
      simp only [tryR_ok, hc1]
      cases versionCopyOK QRTables.tables (abs m).dim b1 with
      | some v => rfl
      | none =>
        simp only [next_thenR, hc2]
        cases versionCopyOK QRTables.tables (abs m).dim b2 <;> rfl

example : ∀ v, ({ m := ⟨21, fun _ _ => false⟩ } : Parser).ver = some v → 1 ≤ v.num := by intro v h; cases h

end Gzx.Obligations.K01e
