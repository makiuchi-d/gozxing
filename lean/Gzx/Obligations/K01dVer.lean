/-
  K01d (version.go) — `Version_GetVersionForNumber`, `Version_decodeVersionInformation`,
  `Version_GetProvisionalVersionForDimension` regenerated from /repo and proved equal to the model `Model/QRDecoder.lean`
  (the last against the arithmetic written out in its statement: the model has it inlined in `readVersion`).

  A `*Version` of the regenerated code is a ROW HANDLE into the package-level table `VERSIONS` (row `i` is version `i+1`,
  nil is -1; translator/ext_k01dec.go).  `hview` is the handle of a model result: version `v` is row `v.num - 1`
  (`versions_numbered`: the regenerated table numbers its rows 1..40).
-/
import Gzx.Obligations.K01d
namespace Gzx.Obligations.K01d
open Gzx Gzx.GoM Gzx.GoVal Gzx.QRDec

theorem versions_numbered : QRTables.versions.map (·.num) = (List.range 40).map (· + 1) := by decide +kernel

when_kernel Gzx.Gen.K01d.tbl_VERSION_DECODE_INFO in
/-- the regenerated BCH words of the loop are the table the model is instantiated with -/
theorem k_versionWords_eq : Gen.K01d.tbl_VERSION_DECODE_INFO = QRTables.vdi.map Int.ofNat := by decide +kernel

theorem vdi_small : QRTables.vdi.all (· < 2 ^ 64) = true := by decide +kernel

/-- (handle, error) of a model result -/
def hview : Res VersionInfo → Int × Bool
  | .ok v => ((v.num : Int) - 1, false)
  | .error _ => (-1, true)

/-- `Version_GetVersionForNumber` on handles -/
def gvn (n : Int) : Int × Bool := if n < 1 ∨ n > 40 then (-1, true) else (n - 1, false)

when_kernel Gzx.Gen.K01d.getVersionForNumber in
theorem k_getVersionForNumber_gvn (n : Int) : Gen.K01d.getVersionForNumber n = .ok (gvn n) := by
  unfold Gen.K01d.getVersionForNumber gvn rowIdx
  by_cases h : n < 1 ∨ n > 40
  · simp [h]
  · have h1 : 1 ≤ n := by omega
    have h2 : n - 1 < 40 := by omega
    simp [h, h1, h2]

theorem model_gvn (n : Nat) : hview (QRDec.getVersionForNumber QRTables.versions n) = gvn (n : Int) := by
  unfold QRDec.getVersionForNumber gvn
  by_cases h : n < 1 ∨ n > 40
  · rw [if_pos h, if_pos (by omega)]; rfl
  · have hm := congrArg (fun l => l[n - 1]?) versions_numbered
    simp only [List.getElem?_map, List.getElem?_range (by omega : n - 1 < 40)] at hm
    rw [if_neg h, if_neg (by omega)]
    rcases hv : QRTables.versions[n - 1]? with _ | v <;> rw [hv] at hm
    · cases hm
    · have : v.num = n - 1 + 1 := by simpa using hm
      simp only [hview]
      rw [show (v.num : Int) - 1 = (n : Int) - 1 by omega]

when_kernel Gzx.Gen.K01d.getVersionForNumber in
/-- `Version_GetVersionForNumber(n)` = the model's `getVersionForNumber` on the regenerated table (as a row handle) -/
theorem k_getVersionForNumber_eq (n : Nat) :
    Gen.K01d.getVersionForNumber (n : Int) = .ok (hview (QRDec.getVersionForNumber QRTables.versions n)) := by
  rw [k_getVersionForNumber_gvn, model_gvn]

/-! ### Version_decodeVersionInformation -/

theorem idx_drop (xs : List Int) (k : Nat) (x : Int) (rest : List Int) (h : xs.drop k = x :: rest) :
    idx xs (k : Int) = .ok x :=
  (idx_eq_idxA xs k).trans (idxA_drop xs k x rest h)

/-- what the regenerated loop must leave for a result of the model's `verLoop` -/
def expVer : Sum Nat (Nat × Nat) → Ctl (Int × Int) (Int × Bool)
  | .inl n => .ret (gvn (n : Int))
  | .inr (b, v) => .next ((b : Int), (v : Int))

when_kernel Gzx.Gen.K01d.decodeVersionInformation in
/-- the loop of `Version_decodeVersionInformation` = the model's `verLoop`: same exact-hit exit, same best candidate -/
theorem k_decodeVersionInformation_scan (bits : Nat) (hb : bits < 2 ^ 64) :
    ∀ (rest : List Nat) (k best bestV : Nat), QRTables.vdi.drop k = rest →
      loop (Gen.K01d.decodeVersionInformation_body1 (bits : Int)) 1 rest.length (k : Int) ((best : Int), (bestV : Int)) =
        expVer (QRDec.verLoop bits rest k best bestV) := by
  intro rest
  induction rest with
  | nil => intro k best bestV _; rfl
  | cons t rest ih =>
    intro k best bestV h
    have hd : QRTables.vdi.drop (k + 1) = rest := by rw [← List.drop_drop, h]; rfl
    have ht : t < 2 ^ 64 := by
      have hmem : t ∈ QRTables.vdi := List.mem_of_mem_drop (by rw [h]; exact List.mem_cons_self)
      have := List.all_eq_true.mp vdi_small t hmem
      simpa using this
    have hrow : idx (QRTables.vdi.map Int.ofNat) (k : Int) = .ok (t : Int) :=
      idx_drop _ k _ (rest.map Int.ofNat) (by simp [← List.map_drop, h])
    have e : ((k : Int) + 1) = ((k + 1 : Nat) : Int) := by omega
    have e7 : ((k : Int) + 7) = ((k + 7 : Nat) : Int) := by omega
    -- the generated text has the sum in one order or the other, depending on how the Go source spells it
    have e7' : (7 + (k : Int)) = ((k + 7 : Nat) : Int) := by omega
    have w1 : wrap 64 (bits : Int) = (bits : Int) := wrap_of_lt 64 _ (by omega) (by omega)
    have w2 : wrap 64 (t : Int) = (t : Int) := wrap_of_lt 64 _ (by omega) (by omega)
    rw [List.length_cons, loop_succ]
    simp only [Gen.K01d.decodeVersionInformation_body1, k_versionWords_eq, hrow, tryC_ok, w1, w2,
      k_numBitsDiffering_eq, k_getVersionForNumber_gvn, QRDec.verLoop]
    by_cases hc : t = bits
    · subst hc
      first
        | simp only [beq_self_eq_true, if_true, expVer, e7]
        | simp only [beq_self_eq_true, if_true, expVer, e7']
    · have a1 : ¬ ((t : Int) = (bits : Int)) := by omega
      have hb' : ((t : Int) == (bits : Int)) = false := by simp [a1]
      simp only [hb', hc, if_false, Bool.false_eq_true]
      by_cases h1 : QRDec.numBitsDiffering bits t < best
      · simp [h1]
        first
          | (rw [e, e7]; exact ih (k + 1) _ _ hd)
          | (rw [e, e7']; exact ih (k + 1) _ _ hd)
      · simp [h1]; rw [e]; exact ih (k + 1) _ _ hd

when_kernel Gzx.Gen.K01d.decodeVersionInformation in
/-- `Version_decodeVersionInformation(bits)` = the model's `decodeVersionInformation` on the regenerated tables, for every
    18-bit (indeed every 64-bit) word: exact hit, else the closest BCH word within distance 3, else an error -/
theorem k_decodeVersionInformation_eq (bits : Nat) (hb : bits < 2 ^ 64) :
    Gen.K01d.decodeVersionInformation (bits : Int) = .ok (hview (QRDec.decodeVersionInformation QRTables.tables bits)) := by
  have hlen : QRTables.vdi.length = 34 := by decide +kernel
  have hl : len (QRTables.vdi.map Int.ofNat) = 34 := by simp [len, hlen]
  have hs := k_decodeVersionInformation_scan bits hb QRTables.vdi 0 QRDec.maxInt32 0 rfl
  rw [hlen] at hs
  have e0 : ((0 : Nat) : Int) = 0 := rfl
  have e1 : ((QRDec.maxInt32 : Nat) : Int) = 2147483647 := rfl
  rw [e0, e1] at hs
  have ht : tripUp 0 34 1 = 34 := by decide
  simp only [Gen.K01d.decodeVersionInformation, QRDec.decodeVersionInformation, QRTables.tables, k_versionWords_eq, hl, ht, hs]
  cases hr : QRDec.verLoop bits QRTables.vdi 0 QRDec.maxInt32 0 with
  | inl n => simp [expVer, model_gvn]
  | inr bv =>
    obtain ⟨b, v⟩ := bv
    by_cases h3 : b ≤ 3
    · have : ((b : Int) ≤ 3) := by omega
      simp [expVer, h3, this, k_getVersionForNumber_gvn, model_gvn]
    · have : ¬ ((b : Int) ≤ 3) := by omega
      simp [expVer, h3, this, hview]

example : (3 : Nat) < 2 ^ 64 := by decide

/-- `(d - 17) / 4` in Go (`int`, truncated) and in the model (`Nat`) name the same version or both none -/
theorem gvn_tdiv (d : Nat) : gvn (Int.tdiv ((d : Int) - 17) 4) = gvn (((d - 17) / 4 : Nat) : Int) := by
  by_cases h17 : 17 ≤ d
  · rw [Int.tdiv_eq_ediv_of_nonneg (by omega)]; congr 1; omega
  · have h1 : Int.tdiv ((d : Int) - 17) 4 < 1 := by rw [Int.tdiv_eq_ediv, show Int.sign 4 = 1 from rfl]; split <;> omega
    unfold gvn
    rw [if_pos (Or.inl h1), if_pos (Or.inl (by omega))]

when_kernel Gzx.Gen.K01d.getProvisionalVersionForDimension in
/-- `Version_GetProvisionalVersionForDimension(d)`: an error unless `d % 4 = 1`, else version `(d-17)/4` of the table.  The
    right-hand side is the specification itself (`QRDec.readVersion` does this arithmetic inline, and `k_readVersion_eq` ties the
    regenerated `ReadVersion`, which does not call this function, on its own); nothing rests on this theorem -/
theorem k_getProvisionalVersionForDimension_eq (d : Nat) :
    Gen.K01d.getProvisionalVersionForDimension (d : Int) =
      .ok (if d % 4 ≠ 1 then (-1, true) else hview (QRDec.getVersionForNumber QRTables.versions ((d - 17) / 4))) := by
  simp only [Gen.K01d.getProvisionalVersionForDimension, k_getVersionForNumber_gvn, tryR_ok, model_gvn]
  have hm : Int.tmod (d : Int) 4 = ((d % 4 : Nat) : Int) := tmod_natCast d 4
  rw [hm, gvn_tdiv]
  by_cases h : d % 4 = 1
  · rw [h]; rfl
  · have hb : ((((d % 4 : Nat) : Int) != 1)) = true := by simp; omega
    simp only [hb, if_true]
    rw [if_pos h]

end Gzx.Obligations.K01d
