/-
  K01e (decoded_bit_stream_parser.go) — `DecodedBitStreamParser_decodeNumericSegment`, regenerated on every run into
  `Gzx.Gen.K01de` over a BitSource state, proved equal to the BIT-LIST model `QRDec.decodeNumeric` (Model/QRDecoder.lean: the
  function inside C01's round-trip theorems) on the bits from the cursor on, for EVERY stream (well-formed source over bytes),
  every digit count and every accumulated prefix: the same digits appended, the same cursor afterwards, `FormatException` exactly
  when the model fails (a failed read, a group ≥ 1000 / ≥ 100 / ≥ 10).
-/
import Gzx.Obligations.K01eStream
import Gzx.Model.QRDecoder
namespace Gzx.Obligations.K01e
open Gzx Gzx.GoM Gzx.GoVal Gzx.BitSource

/-! ### the model, split like the Go code: a loop of three-digit groups, then the remainder -/

def numThrees : Nat → List Bool → List Nat → Res (List Nat × List Bool)
  | 0, bits, acc => .ok (acc, bits)
  | k + 1, bits, acc =>
    match QRDec.readBitsF 10 bits with
    | .error e => .error e
    | .ok (v, bits) =>
      if v ≥ 1000 then .error .format
      else numThrees k bits (acc ++ [48 + v / 100, 48 + (v / 10) % 10, 48 + v % 10])

theorem decodeNumeric_split : ∀ (k count : Nat) (bits : List Bool) (acc : List Nat), count / 3 = k →
    QRDec.decodeNumeric count bits acc =
      match numThrees k bits acc with
      | .error e => .error e
      | .ok (acc', bits') => QRDec.decodeNumeric (count % 3) bits' acc' := by
  intro k
  induction k with
  | zero =>
    intro count bits acc h
    have : count % 3 = count := by omega
    simp only [numThrees, this]
  | succ k ih =>
    intro count bits acc h
    obtain ⟨n, rfl⟩ : ∃ n, count = n + 3 := ⟨count - 3, by omega⟩
    have hm : (n + 3) % 3 = n % 3 := Nat.add_mod_right n 3
    simp only [QRDec.decodeNumeric, numThrees, bind, Except.bind, hm]
    cases QRDec.readBitsF 10 bits with
    | error e => rfl
    | ok p =>
      obtain ⟨v, bits'⟩ := p
      simp only
      split
      · rfl
      · exact ih n bits' _ (by omega)

theorem bytes_append (a b : List Nat) : bytes (a ++ b) = bytes a ++ bytes b := by simp [bytes]

/-- `byte('0' + d)` of a digit -/
theorem digit_natCast (d : Nat) (h : d < 10) : wrap 8 (48 + (d : Int)) = ((48 + d : Nat) : Int) := by
  rw [show 48 + (d : Int) = ((48 + d : Nat) : Int) from rfl, wrap_natCast, Nat.mod_eq_of_lt (by omega)]

when_kernel Gzx.Gen.K01de.decodeNumericSegment in
/-- the `for count >= 3` loop = `count / 3` groups of the model -/
theorem k_num_loop (fb : Nat) (hfb : 5 ≤ fb) : ∀ (k count : Nat) (s : BitSource) (acc : List Nat) (fl : Nat),
    Stream s → count / 3 = k → k < fl →
    match numThrees k (unread s) acc with
    | .ok (acc', rest) => ∃ s',
        whileLoop (Gen.K01de.decodeNumericSegment_body1 fb (bytes s.bytes)) fl
            ((s.byteOffset : Int), (s.bitOffset : Int), bytes acc, (count : Int)) =
          .brk ((s'.byteOffset : Int), (s'.bitOffset : Int), bytes acc', ((count % 3 : Nat) : Int)) ∧
        unread s' = rest ∧ Stream s' ∧ s'.bytes = s.bytes
    | .error _ => ∃ r a b,
        whileLoop (Gen.K01de.decodeNumericSegment_body1 fb (bytes s.bytes)) fl
            ((s.byteOffset : Int), (s.bitOffset : Int), bytes acc, (count : Int)) = .ret (r, true, a, b, r) := by
  intro k
  induction k with
  | zero =>
    intro count s acc fl hs hk hf
    obtain ⟨fl, rfl⟩ := Nat.exists_eq_add_one_of_ne_zero (Nat.ne_zero_of_lt hf)
    have h3 : ¬ ((count : Int) ≥ 3) := by omega
    have hm : count % 3 = count := by omega
    simp only [numThrees]
    refine ⟨s, ?_, rfl, hs, rfl⟩
    rw [whileLoop_succ]
    simp only [Gen.K01de.decodeNumericSegment_body1, h3, decide_false, Bool.false_eq_true, if_false, hm]
  | succ k ih =>
    intro count s acc fl hs hk hf
    obtain ⟨fl, rfl⟩ := Nat.exists_eq_add_one_of_ne_zero (Nat.ne_zero_of_lt hf)
    have h3 : 3 ≤ count := by omega
    have hk' : (count - 3) / 3 = k := by omega
    have hm : (count - 3) % 3 = count % 3 := by omega
    have h3' : (count : Int) ≥ 3 := Int.ofNat_le.mpr h3
    have hrb := k_readBits_stream s hs 10 10 rfl fb hfb
    simp only [numThrees]
    rw [whileLoop_succ]
    simp only [Gen.K01de.decodeNumericSegment_body1, h3', decide_true, if_true]
    cases hq : QRDec.readBitsF 10 (unread s) with
    | error e =>
      rw [hq] at hrb
      simp only [hrb, tryC_ok]
      exact ⟨_, _, _, rfl⟩
    | ok p =>
      obtain ⟨v, rest⟩ := p
      rw [hq] at hrb
      obtain ⟨s1, hr, hu, hst, hby⟩ := hrb
      have hd : decide ((v : Int) ≥ 1000) = decide (v ≥ 1000) := decide_eq_decide.mpr Int.ofNat_le
      simp only [hr, tryC_ok, hd]
      by_cases hv : v ≥ 1000
      · simp only [hv, if_true, decide_true]
        exact ⟨_, _, _, rfl⟩
      · have d1 : Int.tdiv (v : Int) 100 = ((v / 100 : Nat) : Int) := tdiv_natCast v 100
        have d2 : Int.tdiv (v : Int) 10 = ((v / 10 : Nat) : Int) := tdiv_natCast v 10
        have d3 : Int.tmod ((v / 10 : Nat) : Int) 10 = (((v / 10) % 10 : Nat) : Int) := tmod_natCast (v / 10) 10
        have d4 : Int.tmod (v : Int) 10 = ((v % 10 : Nat) : Int) := tmod_natCast v 10
        have hc : (count : Int) - 3 = ((count - 3 : Nat) : Int) := (Int.natCast_sub h3).symm
        simp only [hv, if_false, decide_false, Bool.false_eq_true, d1, d2, d3, d4,
          digit_natCast (v / 100) (Nat.div_lt_of_lt_mul (Nat.lt_of_not_ge hv)), digit_natCast _ (Nat.mod_lt _ (by decide)), List.append_assoc, hc]
        have ih' := ih (count - 3) s1 (acc ++ [48 + v / 100, 48 + (v / 10) % 10, 48 + v % 10]) fl hst hk' (Nat.lt_of_succ_lt_succ hf)
        rw [hby, hu, hm, bytes_append] at ih'
        exact ih'

when_kernel Gzx.Gen.K01de.decodeNumericSegment in
/-- `DecodedBitStreamParser_decodeNumericSegment(bits, result, count)` = the bit-list model `QRDec.decodeNumeric` on the unread
    bits, for EVERY stream, count and prefix (fuel ≥ 5 and above `count / 3`): the same digits appended to `result`, the cursor
    where the model's remaining bits start, and the error flag exactly when the model fails -/
theorem k_decodeNumericSegment_eq (s : BitSource) (hs : Stream s) (count : Nat) (acc : List Nat) (fuel : Nat)
    (hf5 : 5 ≤ fuel) (hfc : count / 3 < fuel) :
    match QRDec.decodeNumeric count (unread s) acc with
    | .ok (out, rest) => ∃ s',
        Gen.K01de.decodeNumericSegment fuel (bytes s.bytes) (s.byteOffset : Int) (s.bitOffset : Int) (bytes acc) (count : Int) =
          .ok (bytes out, false, (s'.byteOffset : Int), (s'.bitOffset : Int), bytes out) ∧
        unread s' = rest ∧ Stream s' ∧ s'.bytes = s.bytes
    | .error _ => ∃ r a b,
        Gen.K01de.decodeNumericSegment fuel (bytes s.bytes) (s.byteOffset : Int) (s.bitOffset : Int) (bytes acc) (count : Int) =
          .ok (r, true, a, b, r) := by
  have hl := k_num_loop fuel hf5 (count / 3) count s acc fuel hs rfl hfc
  rw [decodeNumeric_split (count / 3) count _ _ rfl]
  generalize numThrees (count / 3) (unread s) acc = res at hl
  match res, hl with
  | .error _, ⟨r, a, b, hw⟩ =>
    simp only [Gen.K01de.decodeNumericSegment, hw, ret_thenR]
    exact ⟨r, a, b, rfl⟩
  | .ok (acc', rest), ⟨s1, hw, hu, hst, hby⟩ =>
    simp only [Gen.K01de.decodeNumericSegment, hw, brk_thenR]
    have hr3 : count % 3 < 3 := Nat.mod_lt _ (by decide)
    generalize count % 3 = r at hr3
    have rb7 := k_readBits_stream s1 hst 7 7 rfl fuel hf5
    have rb4 := k_readBits_stream s1 hst 4 4 rfl fuel hf5
    rw [hby, hu] at rb7 rb4
    match r, hr3 with
    | 0, _ => exact ⟨s1, rfl, hu, hst, hby⟩
    | 1, _ =>
      simp only [QRDec.decodeNumeric, bind, Except.bind, show (((1 : Nat) : Int) == 2) = false from rfl,
        show (((1 : Nat) : Int) == 1) = true from rfl, Bool.false_eq_true, if_false, if_true]
      generalize QRDec.readBitsF 4 rest = q at rb4
      match q, rb4 with
      | .error _, hr =>
        simp only [hr, tryC_ok]
        exact ⟨_, _, _, rfl⟩
      | .ok (v, rest2), ⟨s2, hr, hu2, hst2, hby2⟩ =>
        have hd : decide ((v : Int) ≥ 10) = decide (v ≥ 10) := decide_eq_decide.mpr Int.ofNat_le
        simp only [hr, tryC_ok, hd]
        by_cases hv : v ≥ 10
        · simp only [hv, if_true, decide_true]
          exact ⟨_, _, _, rfl⟩
        · simp only [hv, if_false, decide_false, Bool.false_eq_true, digit_natCast v (Nat.lt_of_not_ge hv), bytes_append]
          exact ⟨s2, rfl, hu2, hst2, hby2⟩
    | 2, _ =>
      simp only [QRDec.decodeNumeric, bind, Except.bind, show (((2 : Nat) : Int) == 2) = true from rfl, if_true]
      generalize QRDec.readBitsF 7 rest = q at rb7
      match q, rb7 with
      | .error _, hr =>
        simp only [hr, tryC_ok]
        exact ⟨_, _, _, rfl⟩
      | .ok (v, rest2), ⟨s2, hr, hu2, hst2, hby2⟩ =>
        have hd : decide ((v : Int) ≥ 100) = decide (v ≥ 100) := decide_eq_decide.mpr Int.ofNat_le
        simp only [hr, tryC_ok, hd]
        by_cases hv : v ≥ 100
        · simp only [hv, if_true, decide_true]
          exact ⟨_, _, _, rfl⟩
        · have d2 : Int.tdiv (v : Int) 10 = ((v / 10 : Nat) : Int) := tdiv_natCast v 10
          have d4 : Int.tmod (v : Int) 10 = ((v % 10 : Nat) : Int) := tmod_natCast v 10
          simp only [hv, if_false, decide_false, Bool.false_eq_true, d2, d4,
            digit_natCast (v / 10) (Nat.div_lt_of_lt_mul (Nat.lt_of_not_ge hv)), digit_natCast _ (Nat.mod_lt _ (by decide)),
            List.append_assoc, bytes_append]
          exact ⟨s2, rfl, hu2, hst2, hby2⟩

/-- non-vacuity: "12345" = groups 123 (10 bits) and 45 (7 bits) -/
example : Stream (BitSource.new [0x1E, 0xD6, 0x80]) := stream_new _ (by decide)
example : Gen.K01de.decodeNumericSegment 5 (bytes [0x1E, 0xD6, 0x80]) 0 0 [] 5 =
    .ok ([49, 50, 51, 52, 53], false, 2, 1, [49, 50, 51, 52, 53]) := by decide

end Gzx.Obligations.K01e
