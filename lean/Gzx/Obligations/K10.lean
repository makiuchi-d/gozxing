/-
  K10 — kernels of property C10 regenerated WITH THEIR LOOPS from /repo/oned on every run
  (`Gzx.Gen.K10`, translator kind `funcm`) and proved equal, for every input, to the hand-written model
  functions the theorems of Properties/C10.lean are about (`Gzx.CheckDigit`).  A source edit in one of
  these Go functions breaks the theorem that names it.
  Proof pattern (see Proofs/GoM.lean): body lemma by unfolding the generated body + normalising;
  loop → fold by a generic lemma; fold ↔ model by lemmas of Proofs/K10.lean that never mention `Gen`.
-/
import Gzx.Gen.K10
import Gzx.KernelGuard
import Gzx.Proofs.K10
namespace Gzx.Obligations.K10
open Gzx Gzx.GoM Gzx.CheckDigit Gzx.K10

theorem bytes_get_lt {s : List Nat} (hs : ∀ b ∈ s, b < 256) (i : Nat) (h : i < (bytes s).length) :
    ∃ v : Nat, v < 256 ∧ (bytes s)[i] = (v : Int) := by
  have h' : i < s.length := by simpa [bytes] using h
  exact ⟨s[i], hs _ (List.getElem_mem h'), bytes_getElem s i h⟩

theorem goCheckOf_eq_tmod (n : Nat) : goCheckOf n = Int.tmod (1000 - (n : Int)) 10 := by
  unfold goCheckOf
  split
  · rename_i h
    rw [Int.tmod_eq_emod_of_nonneg (by omega)]; omega
  · rename_i h
    have e : (1000 - (n : Int)) = -((n : Int) - 1000) := by omega
    rw [e, Int.neg_tmod, Int.tmod_eq_emod_of_nonneg (by omega)]; omega

/-! ## `upceanReader_getStandardUPCEANChecksum` -/

when_kernel Gzx.Gen.K10.getStandardUPCEANChecksum in
theorem k_getStandardUPCEANChecksum_body1 (s : List Nat) (hs : ∀ b ∈ s, b < 256)
    (i : Nat) (h : i < (bytes s).length) (st : Int) :
    Gen.K10.getStandardUPCEANChecksum_body1 (bytes s) (i : Int) st = gDigit (bytes s)[i] st := by
  obtain ⟨v, hv, e⟩ := bytes_get_lt hs i h
  unfold Gen.K10.getStandardUPCEANChecksum_body1
  rw [idx_ofNat _ _ h, e]
  have e8 : ((2 : Int) ^ 8) = 256 := by decide
  simp only [tryC, gDigit, wrap, e8]
  -- shape-robust: decide the model's digit test, then split the GENERATED test and let omega sort the
  -- branches (no dependence on the order / form of the Go comparisons or of the addition)
  by_cases c : (48 : Int) ≤ v ∧ (v : Int) ≤ 57 <;> simp only [c, if_false] <;> split <;> rename_i hc <;>
    (try simp only [Bool.or_eq_true, decide_eq_true_eq] at hc) <;>
    first
    | (exfalso; omega)
    | rfl
    | (congr 1; omega)

when_kernel Gzx.Gen.K10.getStandardUPCEANChecksum in
theorem k_getStandardUPCEANChecksum_body2 (s : List Nat) (hs : ∀ b ∈ s, b < 256)
    (i : Nat) (h : i < (bytes s).length) (st : Int) :
    Gen.K10.getStandardUPCEANChecksum_body2 (bytes s) (i : Int) st = gDigit (bytes s)[i] st := by
  obtain ⟨v, hv, e⟩ := bytes_get_lt hs i h
  unfold Gen.K10.getStandardUPCEANChecksum_body2
  rw [idx_ofNat _ _ h, e]
  have e8 : ((2 : Int) ^ 8) = 256 := by decide
  simp only [tryC, gDigit, wrap, e8]
  -- shape-robust: decide the model's digit test, then split the GENERATED test and let omega sort the
  -- branches (no dependence on the order / form of the Go comparisons or of the addition)
  by_cases c : (48 : Int) ≤ v ∧ (v : Int) ≤ 57 <;> simp only [c, if_false] <;> split <;> rename_i hc <;>
    (try simp only [Bool.or_eq_true, decide_eq_true_eq] at hc) <;>
    first
    | (exfalso; omega)
    | rfl
    | (congr 1; omega)

when_kernel Gzx.Gen.K10.getStandardUPCEANChecksum in
/-- `upceanReader_getStandardUPCEANChecksum(s)` = the model's `eanChecksumB s`, for EVERY byte string:
    FormatException iff some byte is not a digit, otherwise Go's `(1000 - Σ) % 10` of the 3/1-weighted sum -/
theorem k_getStandardUPCEANChecksum_eq (s : List Nat) (hs : ∀ b ∈ s, b < 256) :
    Gen.K10.getStandardUPCEANChecksum (bytes s) =
      .ok (match eanChecksumB s with
           | .ok v => (v, false)
           | .error _ => (0, true)) := by
  simp only [Gen.K10.getStandardUPCEANChecksum, len, bytes_length]
  rw [loop_down2' (bytes s) gDigit s.length (by simp [bytes]) (k_getStandardUPCEANChecksum_body1 s hs)
      (tripDown_two_pred _ _ (by omega)) (by omega)]
  rw [List.take_of_length_le (by simp [bytes]), bytes_reverse, foldC2_gDigit]
  have hall : (ok2 s.reverse && ok2 s.reverse.tail) = allDigits s := by
    rw [← all_eq_ok2, List.all_reverse]; rfl
  by_cases hl : s.length = 0
  · have : s = [] := List.length_eq_zero_iff.mp hl
    subst this; rfl
  have second : ∀ st : Int,
      loop (Gen.K10.getStandardUPCEANChecksum_body2 (bytes s)) (-2) (tripDown ((s.length : Int) - 2) (-1) 2)
        ((s.length : Int) - 2) st =
      if ok2 s.reverse.tail then .next (st + (sumE s.reverse.tail : Nat)) else .ret (0, true) := by
    intro st
    rw [loop_down2' (bytes s) gDigit (s.length - 1) (by simp [bytes]) (k_getStandardUPCEANChecksum_body2 s hs)
        (tripDown_two_pred _ _ (by omega)) (by omega)]
    rw [bytes_take, bytes_reverse, take_pred_reverse, foldC2_gDigit]
  by_cases hd : allDigits s = true
  · obtain ⟨ds, rfl, hlt⟩ := allDigits_exists s hd
    rw [hd, Bool.and_eq_true] at hall
    simp only [hall.1, hall.2, if_true, Ctl.thenR, second]
    rw [eanChecksumB_digitBytes ds hlt, eanCheckDigit, goCheckOf_eq_tmod, eanSum_eq,
      digitBytes_reverse, digitBytes_tail, sumE_digitBytes, sumE_digitBytes]
    simp only [Int.natCast_add, Int.natCast_mul]
    congr 3; omega
  · have hnone : digits? s = none := by
      cases h : digits? s with
      | none => rfl
      | some ds => exact absurd ((digits?_some_iff s).mp ⟨ds, h⟩) hd
    simp only [eanChecksumB, hnone]
    by_cases h1 : ok2 s.reverse = true
    · have h2 : ok2 s.reverse.tail = false := by
        rw [h1, Bool.true_and] at hall
        rw [hall]; simpa using hd
      simp only [h1, h2, if_true, Ctl.thenR, second, Bool.false_eq_true, if_false]
    · simp [h1, Ctl.thenR]

/-! ## `upceanReader_checkStandardUPCEANChecksum` (calls the translated `getStandardUPCEANChecksum`) -/

when_kernel Gzx.Gen.K10.checkStandardUPCEANChecksum in
/-- `checkStandardUPCEANChecksum(s)` = the model's `checkStandardB s` for every byte string: empty → false;
    otherwise the last byte minus '0' (byte arithmetic, no digit test) against the checksum of the rest;
    FormatException iff the rest contains a non-digit -/
theorem k_checkStandardUPCEANChecksum_eq (s : List Nat) (hs : ∀ b ∈ s, b < 256) :
    Gen.K10.checkStandardUPCEANChecksum (bytes s) =
      .ok (match checkStandardB s with
           | .ok b => (b, false)
           | .error _ => (false, true)) := by
  rcases List.eq_nil_or_concat s with rfl | ⟨t, last, rfl⟩
  · rfl
  have hlast : last < 256 := hs last (by simp)
  have ht : ∀ b ∈ t, b < 256 := fun b hb => hs b (by simp [hb])
  have hn : (((t.concat last).length : Nat) : Int) = (t.length : Int) + 1 := by simp
  have e1 : (t.length : Int) + 1 - 1 = t.length := by omega
  have hne : ((t.length : Int) + 1 == 0) = false := by
    rw [beq_eq_false_iff_ne]; omega
  have hidx : idx (bytes (t.concat last)) (t.length : Int) = .ok (last : Int) := by
    rw [idx_ofNat _ _ (by simp [bytes])]
    simp [bytes]
  have hsl : slice (bytes (t.concat last)) 0 (t.length : Int) = .ok (bytes t) := by
    rw [slice_zero _ _ (by omega) (by simp [bytes]; omega)]
    simp [bytes]
  simp only [Gen.K10.checkStandardUPCEANChecksum, len, bytes_length, hn, e1, hne, hidx, hsl, tryR,
    k_getStandardUPCEANChecksum_eq t ht, Bool.false_eq_true, if_false]
  simp only [checkStandardB, List.concat_eq_append, List.getLast?_concat, List.dropLast_concat]
  cases eanChecksumB t with
  | error e => simp
  | ok v =>
    have e8 : ((2 : Int) ^ 8) = 256 := by decide
    simp only [wrap, e8, byteMinus0]
    have : ((last : Int) - 48) % 256 = (((last + 208) % 256 : Nat) : Int) := by omega
    simp [this]

/-! ## Code 93: `code93ComputeChecksumIndex` (writer) and `code93CheckOneChecksum` (reader) -/

/-- alphabet index of a byte, as the Go code computes it (`strings.Index(code93AlphabetString, string(b))`) -/
def code93 (b : Nat) : Nat := (strIndexByte Gen.K10.tbl_code93AlphabetString (b : Int)).toNat

/-- the byte is a Code 93 alphabet character -/
def in93 (b : Nat) : Prop := 0 ≤ strIndexByte Gen.K10.tbl_code93AlphabetString (b : Int)

theorem code93_cast {b : Nat} (h : in93 b) :
    strIndexByte Gen.K10.tbl_code93AlphabetString (b : Int) = (code93 b : Int) := by
  unfold code93 in93 at *; omega

when_kernel Gzx.Gen.K10.code93ComputeChecksumIndex in
theorem k_code93ComputeChecksumIndex_body (s : List Nat) (maxW : Int) (i : Nat) (h : i < (bytes s).length)
    (st : Int × Int) :
    Gen.K10.code93ComputeChecksumIndex_body1 (bytes s) maxW (i : Int) st =
      g93 maxW (strIndexByte Gen.K10.tbl_code93AlphabetString (bytes s)[i]) st := by
  unfold Gen.K10.code93ComputeChecksumIndex_body1
  rw [idx_ofNat _ _ h]
  simp only [tryC, g93]
  by_cases c : st.1 + 1 > maxW <;> simp [c, Int.mul_comm]

when_kernel Gzx.Gen.K10.code93ComputeChecksumIndex in
/-- `code93ComputeChecksumIndex(contents, maxWeight)` = the model's `c93Check maxWeight` of the alphabet
    indices, for every string over the Code 93 alphabet and every `maxWeight` -/
theorem k_code93ComputeChecksumIndex_eq (s : List Nat) (hin : ∀ b ∈ s, in93 b) (maxW : Nat) :
    Gen.K10.code93ComputeChecksumIndex (bytes s) (maxW : Int) =
      .ok ((c93Check maxW (s.map code93) : Nat) : Int) := by
  simp only [Gen.K10.code93ComputeChecksumIndex, len, bytes_length]
  rw [loop_down1' (bytes s) (fun v st => g93 (maxW : Int) (strIndexByte Gen.K10.tbl_code93AlphabetString v) st)
      s.length (by simp [bytes]) (k_code93ComputeChecksumIndex_body s maxW)
      (by rw [tripDown_one]; omega) (by omega)]
  rw [List.take_of_length_le (by simp [bytes]), bytes_reverse]
  obtain ⟨w', hw'⟩ := foldC_g93 (ρ := Int) (strIndexByte Gen.K10.tbl_code93AlphabetString) code93 s.reverse
    (fun b hb => code93_cast (hin b (by simpa using hb))) maxW 1 0
  simp only [Int.natCast_one] at hw'
  rw [hw']
  simp only [Ctl.thenR, c93Check, List.map_reverse, Int.zero_add, tmod_natCast_emod]
  congr 1

when_kernel Gzx.Gen.K10.code93CheckOneChecksum in
theorem k_code93CheckOneChecksum_body (s : List Nat) (maxW : Int) (i : Nat) (h : i < (bytes s).length)
    (st : Int × Int) :
    Gen.K10.code93CheckOneChecksum_body1 (bytes s) maxW (i : Int) st =
      g93 maxW (strIndexByte Gen.K10.tbl_code93AlphabetString (bytes s)[i]) st := by
  unfold Gen.K10.code93CheckOneChecksum_body1
  rw [idx_ofNat _ _ h]
  simp only [tryC, g93]
  by_cases c : st.1 + 1 > maxW <;> simp [c]

when_kernel Gzx.Gen.K10.code93CheckOneChecksum in
/-- `code93CheckOneChecksum(result, p, maxWeight)` fails (ChecksumException) iff the byte at `p` differs
    from the alphabet character of `c93Check maxWeight` over the `p` characters before it -/
theorem k_code93CheckOneChecksum_eq (s : List Nat) (p : Nat) (hp : p < s.length)
    (hin : ∀ b ∈ s.take p, in93 b) (maxW : Nat) :
    Gen.K10.code93CheckOneChecksum (bytes s) (p : Int) (maxW : Int) =
      tryR (idx Gen.K10.tbl_code93Alphabet ((c93Check maxW ((s.take p).map code93) : Nat) : Int))
        (fun t => .ok ((s[p] : Int) != t)) := by
  simp only [Gen.K10.code93CheckOneChecksum]
  rw [loop_down1' (bytes s) (fun v st => g93 (maxW : Int) (strIndexByte Gen.K10.tbl_code93AlphabetString v) st)
      p (by simp [bytes]; omega) (k_code93CheckOneChecksum_body s maxW)
      (by rw [tripDown_one]; omega) (by omega)]
  rw [bytes_take, bytes_reverse]
  obtain ⟨w', hw'⟩ := foldC_g93 (ρ := Bool) (strIndexByte Gen.K10.tbl_code93AlphabetString) code93 (s.take p).reverse
    (fun b hb => code93_cast (hin b (by simpa using hb))) maxW 1 0
  simp only [Int.natCast_one] at hw'
  rw [hw']
  have hi : idx (bytes s) (p : Int) = .ok (s[p] : Int) := by
    rw [idx_ofNat _ _ (by simpa [bytes] using hp)]; simp [bytes]
  simp only [Ctl.thenR, hi, tryR, c93Check, List.map_reverse, Int.zero_add, tmod_natCast_emod]
  have e : ((c93SumRev maxW 1 (List.map code93 (List.take p s)).reverse : Nat) : Int) % 47 =
      ((c93SumRev maxW 1 (List.map code93 (List.take p s)).reverse % 47 : Nat) : Int) := by omega
  rw [e]
  generalize idx Gen.K10.tbl_code93Alphabet _ = r
  cases r with
  | error e => rfl
  | ok t => simp only; split <;> simp_all

/-- the two inlined alphabets are the regenerated `code93AlphabetString` (the table C10's obligations
    show to have 48 distinct characters, '*' last) -/
theorem k_code93_tables :
    Gen.K10.tbl_code93AlphabetString = Gen.K10.tbl_code93Alphabet ∧
    Gen.K10.tbl_code93Alphabet.length = 48 := by decide

/-- every alphabet position is found again by the index function (so `code93` inverts the alphabet) -/
theorem k_code93_index_inverts :
    (List.range 48).all (fun v => (Gen.K10.tbl_code93AlphabetString[v]?).any (fun b =>
      strIndexByte Gen.K10.tbl_code93AlphabetString b == (v : Int))) = true := by decide +kernel

/-! ## EAN-5 add-on: `extensionChecksum`, `determineCheckDigit` -/

theorem digit_get {ds : List Nat} (hd : ∀ d ∈ ds, d < 10) (i : Nat) (h : i < (bytes (digitBytes ds)).length) :
    ∃ v : Nat, v < 10 ∧ (bytes (digitBytes ds))[i] = ((v + 48 : Nat) : Int) := by
  have h' : i < ds.length := by simpa [bytes, digitBytes] using h
  exact ⟨ds[i], hd _ (List.getElem_mem h'), by simp [bytes, digitBytes]⟩

when_kernel Gzx.Gen.K10.extensionChecksum in
theorem k_extensionChecksum_body1 (ds : List Nat) (hd : ∀ d ∈ ds, d < 10)
    (i : Nat) (h : i < (bytes (digitBytes ds)).length) (st : Int) :
    Gen.K10.extensionChecksum_body1 (bytes (digitBytes ds)) (i : Int) st = gPlain (bytes (digitBytes ds))[i] st := by
  obtain ⟨v, hv, e⟩ := digit_get hd i h
  unfold Gen.K10.extensionChecksum_body1
  rw [idx_ofNat _ _ h, e]
  have e8 : ((2 : Int) ^ 8) = 256 := by decide
  simp only [tryC, gPlain]
  try (congr 2; omega)

when_kernel Gzx.Gen.K10.extensionChecksum in
theorem k_extensionChecksum_body2 (ds : List Nat) (hd : ∀ d ∈ ds, d < 10)
    (i : Nat) (h : i < (bytes (digitBytes ds)).length) (st : Int) :
    Gen.K10.extensionChecksum_body2 (bytes (digitBytes ds)) (i : Int) st = gPlain (bytes (digitBytes ds))[i] st := by
  obtain ⟨v, hv, e⟩ := digit_get hd i h
  unfold Gen.K10.extensionChecksum_body2
  rw [idx_ofNat _ _ h, e]
  have e8 : ((2 : Int) ^ 8) = 256 := by decide
  have hw : (((v + 48 : Nat) : Int) - 48) % 256 = ((v + 48 : Nat) : Int) - 48 := by omega
  simp only [tryC, gPlain, wrap, e8, hw]

when_kernel Gzx.Gen.K10.extensionChecksum in
/-- `extensionChecksum(s)` of a digit string = the model's `ext5Checksum` (weights 3, 9, 3, 9 … from the right) -/
theorem k_extensionChecksum_eq (ds : List Nat) (hd : ∀ d ∈ ds, d < 10) :
    Gen.K10.extensionChecksum (bytes (digitBytes ds)) = .ok ((ext5Checksum ds : Nat) : Int) := by
  by_cases hl : ds.length = 0
  · have : ds = [] := List.length_eq_zero_iff.mp hl
    subst this; rfl
  have hlen : (bytes (digitBytes ds)).length = ds.length := by simp [bytes, digitBytes]
  simp only [Gen.K10.extensionChecksum, len, hlen]
  rw [loop_down2' (bytes (digitBytes ds)) gPlain (ds.length - 1) (by omega) (k_extensionChecksum_body1 ds hd)
      (tripDown_two_pred _ _ (by omega)) (by omega)]
  have e1 : ds.length - 1 = (digitBytes ds).length - 1 := by simp [digitBytes]
  rw [bytes_take, bytes_reverse, e1, take_pred_reverse, digitBytes_reverse, digitBytes_tail, foldC2_gPlain_digits]
  simp only [Ctl.thenR]
  rw [loop_down2' (bytes (digitBytes ds)) gPlain ds.length (by omega) (k_extensionChecksum_body2 ds hd)
      (tripDown_two_pred _ _ (by omega)) (by omega)]
  rw [List.take_of_length_le (by omega), bytes_reverse, digitBytes_reverse, foldC2_gPlain_digits]
  simp only [ext5Checksum_eq]
  have e : (((0 : Int) + (evens ds.reverse.tail : Nat)) * 3 + (evens ds.reverse : Nat)) * 3 =
      ((3 * evens ds.reverse + 9 * evens ds.reverse.tail : Nat) : Int) := by omega
  rw [e, tmod_natCast_emod]
  congr 1

def ean5Table : List Nat := Gen.K10.tbl_checkDigitEncodings.map Int.toNat

theorem ean5Table_cast : Gen.K10.tbl_checkDigitEncodings = ean5Table.map Int.ofNat := by decide

when_kernel Gzx.Gen.K10.determineCheckDigit in
theorem k_determineCheckDigit_body (lg : Nat) (i : Nat) (h : i < ean5Table.length) :
    Gen.K10.determineCheckDigit_body1 (lg : Int) (i : Int) () =
      if ean5Table[i] = lg then .ret ((i : Int), false) else .next () := by
  unfold Gen.K10.determineCheckDigit_body1
  rw [ean5Table_cast, idx_ofNat _ _ (by simpa using h)]
  simp only [tryC, List.getElem_map, Int.ofNat_eq_natCast]
  by_cases c : ean5Table[i] = lg
  · simp [c]
  · have : ¬ (lg : Int) = (ean5Table[i] : Int) := by omega
    simp [c, this]

when_kernel Gzx.Gen.K10.determineCheckDigit in
/-- `determineCheckDigit(lgPatternFound)` = the model's table scan over the table the function reads
    (NotFound iff no entry matches); `gen_ean5_parity_is_standard` (Obligations/C10) says which table -/
theorem k_determineCheckDigit_eq (lg : Nat) :
    Gen.K10.determineCheckDigit (lg : Int) =
      .ok (match determineCheckDigit5 ean5Table lg with
           | .ok d => ((d : Int), false)
           | .error _ => (0, true)) := by
  have hl : ean5Table.length = 10 := by decide
  simp only [Gen.K10.determineCheckDigit]
  have := loop_scan ean5Table lg (Gen.K10.determineCheckDigit_body1 (lg : Int)) (k_determineCheckDigit_body lg)
    10 0 (by omega)
  have e0 : (((0 : Nat) : Int)) = 0 := rfl
  have et : tripUp 0 10 1 = 10 := by decide
  rw [e0] at this
  rw [et, this]
  simp only [determineCheckDigit5, scan10, List.drop_zero, hl, Nat.lt_irrefl, if_false]
  cases indexOf? lg (List.take 10 ean5Table) with
  | none => rfl
  | some d => simp [Ctl.thenR]

/-- the table `determineCheckDigit` reads is the regenerated `checkDigitEncodings` of C10 -/
theorem k_ean5_table_is_generated :
    some ean5Table = (Gen.K10.tbl_checkDigitEncodings.mapM (fun n : Int => if n ≥ 0 then some n.toNat else none)) := by
  decide

end Gzx.Obligations.K10
