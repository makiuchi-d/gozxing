/-
  K04b — `ReedSolomonDecoder.runEuclideanAlgorithm` regenerated from /repo on every run and proved equal
  to the model's `runEuclideanAlgorithm`.  Both loops (`for 2*r.GetDegree() >= R`, and inside it the division
  `for r.GetDegree() >= rLast.GetDegree() && !r.IsZero()`) have no syntactic bound: the regenerated definition runs them on
  `fuel`; the theorem holds for every fuel that covers the lengths of the two arguments + 2 (the model runs the outer loop on
  `len b + 1` and each inner division on `len rLast + 1` rounds, remainders only get shorter, and a `for cond` loop spends one
  more unit of fuel on the test that ends it), whenever the model does not
  exhaust its own budgets (`Properties/C04`, `rs_decode_total`: it never does on field elements).
  Conventions: Obligations/K04b.lean.
-/
import Gzx.Obligations.K04bEnc
namespace Gzx.Obligations.K04bEuclid
open Gzx Gzx.GoM Gzx.GoVal Gzx.RS Gzx.K04bTie Gzx.Obligations.K04b Gzx.Obligations.K04bPoly Gzx.Obligations.K04bDiv
  Gzx.Obligations.K04bEnc

/-- how `runEuclideanAlgorithm` renders a model result: (sigma, omega, nil) or (nil, nil, err); a panic is the panic -/
def expED2 : DRes (Poly × Poly) → Res (List Int × List Int × Bool)
  | .ok t => .ok (ints t.1, ints t.2, false)
  | .error e => failD (.ok ([], [], true)) Except.error e

/-- embedding of the outer loop's state (rLast, r, tLast, t) -/
def ints4 (t : Poly × Poly × Poly × Poly) : List Int × List Int × List Int × List Int :=
  (ints t.1, ints t.2.1, ints t.2.2.1, ints t.2.2.2)

/-- invariant of the outer loop -/
def Inv4 (t : Poly × Poly × Poly × Poly) : Prop := t.1 ≠ [] ∧ t.2.1 ≠ [] ∧ t.2.2.1 ≠ [] ∧ t.2.2.2 ≠ []

theorem expED2_eq (m : DRes (Poly × Poly)) : expED2 m = retD ([], [], true) (fun t => (ints t.1, ints t.2, false)) m := by
  cases m <;> rfl

theorem euclidBlk_inv {F : GF.GF} {f : Nat} {t t' : Poly × Poly × Poly × Poly} (ht : Inv4 t) (h : euclidBlk F f t = .ok t') :
    Inv4 t' := by
  obtain ⟨h1, h2, h3, h4⟩ := ht
  obtain ⟨dinv, rq, q2, t2, e3, e4, e5, -, rfl⟩ := euclidBlk_ok h
  exact ⟨h2, (edivX_ne F t.2.1 dinv f _ rq ⟨h1, by simp⟩ e3).1, h4, addOrSubtract_ne (multiply_ne e4) h3 e5⟩

theorem euclidStep_inv {F : GF.GF} {R f : Nat} {D : List Int × List Int × Bool} {t t' : Poly × Poly × Poly × Poly}
    (ht : Inv4 t) (h : euclidStep F R D f t = .next t') : Inv4 t' := by
  unfold euclidStep at h
  split at h
  · exact euclidBlk_inv ht (stepD_next h)
  · cases h

theorem euclidX_inv {F : GF.GF} {R n : Nat} {t t' : Poly × Poly × Poly × Poly} (ht : Inv4 t) (h : euclidX F R n t = .ok t') :
    Inv4 t' :=
  whileX_inv _ _ _ Inv4 (fun _ _ ht h => euclidBlk_inv ht h) n t t' ht h

theorem runEuclid_sigma_ne (F : GF.GF) (a b : Poly) (ha : a ≠ []) (hb : b ≠ []) (R : Nat) (sigma omega : Poly)
    (h : runEuclideanAlgorithm F a b R = .ok (sigma, omega)) : sigma ≠ [] := by
  unfold runEuclideanAlgorithm at h
  -- `key`: the ordered operands
  have key : ∀ a' b' : Poly, a' ≠ [] → b' ≠ [] →
      (do let tr ← euclidLoop F R (b'.length + 1) a' b' [0] [1]
          let sz ← liftD (getCoefficient tr.1 0)
          if sz = 0 then throw DErr.sigmaZero
          let inverse ← liftD (F.inv sz)
          let sg ← liftD (multiplyBy F tr.1 inverse)
          let om ← liftD (multiplyBy F tr.2 inverse)
          (Except.ok (sg, om) : DRes (Poly × Poly))) = .ok (sigma, omega) → sigma ≠ [] := by
    intro a' b' ha' hb' hk
    obtain ⟨tr, hl, hk⟩ := bind_ok hk
    rw [euclidLoop_eq] at hl
    obtain ⟨st, hst, rfl⟩ := map_ok hl
    have hfin : Inv4 st := euclidX_inv ⟨ha', hb', by simp, by simp⟩ hst
    obtain ⟨sz, -, hk⟩ := bind_ok hk
    split at hk
    · cases hk
    · obtain ⟨inverse, -, hk⟩ := bind_ok hk
      obtain ⟨sg, hs1, hk⟩ := bind_ok hk
      obtain ⟨om, -, hk⟩ := bind_ok hk
      cases hk
      exact multiplyBy_ne hfin.2.2.2 (liftD_ok hs1)
  by_cases hsw : degree a < degree b
  · simp only [hsw, if_true] at h; exact key b a hb ha h
  · simp only [hsw, if_false] at h; exact key a b ha hb h

when_kernel Gzx.Gen.K04b.decRunEuclideanAlgorithm in
/-- the operands in the order the algorithm wants them (the first of degree ≥ the second).  `whileLoop_map_inv'` (states related by
    `ints4`, invariant `Inv4`) carries the generated outer loop to the loop of `euclidStep`, which `euclid_run` identifies with
    the model's `euclidLoop`; the body of the outer loop and, inside it, of the division loop (`ints2`, `edivStep`,
    `edivStep_run`) go by one rule per call of the Go source; so does the normalisation by sigmaTilde(0) after the loop. -/
theorem decRunEuclidean_ordered (F : GF.GF) (hF : TablesOK F) (a b : List Nat) (ha : a ≠ []) (hb : b ≠ []) (R : Nat)
    (fuel : Nat) (hfa : a.length + 2 ≤ fuel) (hfb : b.length + 2 ≤ fuel) (hsw : ¬ degree a < degree b)
    (hnf : runEuclideanAlgorithm F a b R ≠ .error (.base .fuel)) :
    Gen.K04b.decRunEuclideanAlgorithm fuel (fieldRec F) (ints a) (ints b) R = expED2 (runEuclideanAlgorithm F a b R) := by
  rw [expED2_eq]
  simp only [Gen.K04b.decRunEuclideanAlgorithm, runEuclideanAlgorithm, k_polyGetDegree_eq, tryR_ok, fieldRec_zero, fieldRec_one] at hnf ⊢
  rw [degree_cast a ha, degree_cast b hb]
  have hd : decide (((degree a : Nat) : Int) < ((degree b : Nat) : Int)) = false := decide_eq_false (by omega)
  simp only [hd, Bool.false_eq_true, if_false, next_thenR, hsw, euclidLoop_eq, map_bind] at hnf ⊢
  have hnfX : euclidX F R (b.length + 1) (a, b, [0], [1]) ≠ .error (.base .fuel) := by
    intro h; rw [h] at hnf; exact hnf rfl
  refine whileRD (R := ints4) ?_ fun st hst => ?_
  · rw [whileLoop_map_inv' ints4 Inv4 (euclidStep F R (([], [], true) : List Int × List Int × Bool) fuel) (a, b, [0], [1])
      (s := (ints a, ints b, ints [0], ints [1])) rfl ⟨ha, hb, by simp, by simp⟩ (fun _ _ => euclidStep_inv),
      euclid_run F R _ fuel (b.length + 1) fuel _ (by omega) (by simp; omega) (by simp; omega) hnfX]
    -- the body of the outer loop on related states is `euclidStep`: its block `euclidBlk` call by call
    intro t ht
    obtain ⟨rLast, r, tLast, tt⟩ := t
    obtain ⟨h1, h2, h3, h4⟩ := ht
    dsimp (config := { instances := true }) only [ints4, euclidStep] at h1 h2 h3 h4 ⊢
    simp only [k_polyGetDegree_eq, tryC_ok]
    rw [degree_cast r h2]
    by_cases hc : 2 * degree r ≥ R
    · rw [if_pos (decide_eq_true hc), if_pos (decide_eq_true (by omega))]
      unfold euclidBlk
      rw [k_polyIsZero_eq _ r h2]
      simp only [tryC_ok]
      by_cases hz : isZero r = true
      · simp only [hz, if_true]; rfl
      simp only [hz, Bool.false_eq_true, if_false]
      refine bindPD (k_polyGetCoefficient_at _ r _ (degree r) rfl) (getCoefficient_panics _ _) fun dlt _ => ?_
      refine bindED (k_gfInverse_eq F hF dlt) rfl fun dinv _ => ?_
      refine whileCD (R' := ints2) ?_ fun rq hrq => ?_
      · rw [whileLoop_map_inv' ints2 (fun t => t.1 ≠ [] ∧ t.2 ≠ []) (edivStep F r dinv (([], [], true) : List Int × List Int × Bool))
          (rLast, [0]) (s := (ints rLast, ints [0])) rfl ⟨h1, by simp⟩ (fun _ _ => edivStep_inv), edivStep_run]
        -- the body of the division loop on related states (r, q) is `edivStep`
        intro t ⟨hr1, hq1⟩
        have hlr : 0 < t.1.length := List.length_pos_iff.mpr hr1
        have hlo : 0 < r.length := List.length_pos_iff.mpr h2
        simp only [ints2, edivStep, edivRound, k_polyGetDegree_eq, tryC_ok, k_polyIsZero_eq _ t.1 hr1]
        refine guardC (R := ints2) (t := t) (andNot_ok (decide (degree t.1 ≥ degree r)) ?_) (fun hc => ?_)
        · exact decide_eq_decide.mpr (by unfold degree; omega)
        have hge : degree t.1 ≥ degree r := by
          rw [Bool.and_eq_true] at hc; exact of_decide_eq_true hc.1
        have e1 : (t.1.length : Int) - 1 - ((degree r : Nat) : Int) = ((degree t.1 - degree r : Nat) : Int) := by
          unfold degree at hge ⊢; omega
        refine bindP (k_polyGetCoefficient_at _ t.1 _ (degree t.1) (by unfold degree; omega)) (getCoefficient_panics _ _) fun lead _ => ?_
        refine bindP (k_gfMultiply_eq F hF lead dinv) (mul_panics _ _ _) fun scale _ => ?_
        refine bindE (k_gfBuildMonomial_at F _ _ _ scale e1 rfl) rfl fun iq hiq => ?_
        refine bindE (k_polyAddOrSubtract_eq F t.2 iq hq1 (buildMonomial_ne hiq)) rfl fun q' _ => ?_
        refine bindE (k_polyMultiplyByMonomial_at F hF r _ _ _ scale e1 rfl) rfl fun term hterm => ?_
        refine bindE (k_polyAddOrSubtract_eq F t.1 term hr1 (multiplyByMonomial_ne hterm)) rfl fun r' _ => ?_
        rfl
      have hne := edivX_ne F r dinv fuel _ rq ⟨h1, by simp⟩ hrq
      refine bindED (k_polyMultiply_eq F hF rq.2 tt hne.2 h4) rfl fun q2 hq2 => ?_
      refine bindED (k_polyAddOrSubtract_eq F q2 tLast (multiply_ne hq2) h3) rfl fun t2 _ => ?_
      simp only [ints2, Bool.false_eq_true, if_false, k_polyGetDegree_eq, tryC_ok]
      rw [degree_cast rq.1 hne.1]
      by_cases hd : degree rq.1 ≥ degree r
      · rw [if_pos hd, if_pos (decide_eq_true (by omega))]
        rfl
      · rw [if_neg hd, if_neg (by rw [decide_eq_true_eq]; omega)]
        rfl
    · rw [if_neg (show ¬ decide (2 * degree r ≥ R) = true by simpa using hc), if_neg (by rw [decide_eq_true_eq]; omega)]
      rfl
  · -- after the loop: the normalisation by sigmaTilde(0)
    have hfin : Inv4 st := euclidX_inv ⟨ha, hb, by simp, by simp⟩ hst
    obtain ⟨rl, r, tl, t⟩ := st
    simp only [ints4]
    refine bindPDR (k_polyGetCoefficient_at _ t 0 0 rfl) (getCoefficient_panics _ _) fun sz _ => ?_
    simp only [Int.ofNat_eq_natCast, natCast_beq_zero]
    by_cases hz : sz = 0
    · subst hz; rfl
    simp only [beq_eq_false_iff_ne.mpr hz, Bool.false_eq_true, if_false, hz]
    refine bindEDR (k_gfInverse_eq F hF sz) rfl fun inverse _ => ?_
    refine bindPDR (k_polyMultiplyBy_eq F hF t hfin.2.2.2 inverse) (multiplyBy_panics F hfin.2.2.2 _) fun sigma _ => ?_
    refine bindPDR (k_polyMultiplyBy_eq F hF r hfin.2.1 inverse) (multiplyBy_panics F hfin.2.1 _) fun omega _ => ?_
    rfl

when_kernel Gzx.Gen.K04b.decRunEuclideanAlgorithm in
/-- `runEuclideanAlgorithm(a, b, R)` = the model's `runEuclideanAlgorithm`: both swap the operands when the first has the
    smaller degree, and continue as on the swapped pair -/
theorem k_decRunEuclideanAlgorithm_eq (F : GF.GF) (hF : TablesOK F) (a b : List Nat) (ha : a ≠ []) (hb : b ≠ []) (R : Nat)
    (fuel : Nat) (hfa : a.length + 2 ≤ fuel) (hfb : b.length + 2 ≤ fuel)
    (hnf : runEuclideanAlgorithm F a b R ≠ .error (.base .fuel)) :
    Gen.K04b.decRunEuclideanAlgorithm fuel (fieldRec F) (ints a) (ints b) R = expED2 (runEuclideanAlgorithm F a b R) := by
  by_cases hsw : degree a < degree b
  · have hd1 : decide (((degree a : Nat) : Int) < ((degree b : Nat) : Int)) = true := decide_eq_true (by omega)
    have hd2 : decide (((degree b : Nat) : Int) < ((degree a : Nat) : Int)) = false := decide_eq_false (by omega)
    have hg : Gen.K04b.decRunEuclideanAlgorithm fuel (fieldRec F) (ints a) (ints b) R =
        Gen.K04b.decRunEuclideanAlgorithm fuel (fieldRec F) (ints b) (ints a) R := by
      simp only [Gen.K04b.decRunEuclideanAlgorithm, k_polyGetDegree_eq, degree_cast a ha, degree_cast b hb, tryR_ok, hd1, hd2,
        if_true, Bool.false_eq_true, if_false]
    have hm : runEuclideanAlgorithm F a b R = runEuclideanAlgorithm F b a R := by
      simp only [runEuclideanAlgorithm, hsw, if_true, show ¬ degree b < degree a by omega, if_false]
    rw [hm] at hnf
    rw [hg, hm]
    exact decRunEuclidean_ordered F hF b a hb ha R fuel hfb hfa (by omega) hnf
  · exact decRunEuclidean_ordered F hF a b ha hb R fuel hfa hfb hsw hnf

end Gzx.Obligations.K04bEuclid
