/-
  K03w — the 1-D WRITERS of /repo/oned regenerated on every run (`Gzx.Gen.K03w`, translator kind `funcm` with the
  extension translator/ext_k03w.go) and proved equal, for EVERY contents (byte lists), to the hand-written model
  functions of `Model/OneD.lean` / `Model/CheckDigit.lean` the theorems of Properties/C03, C10, C12 are about.
  A source edit in one of these Go functions breaks the theorem that names it.

  Representation: a `[]bool` module row is a `List Int` of 0/1 (`b01`), a string a `List Int` of bytes (`bytes`),
  an `error` result a `Bool` (every error the encoders return is a WriterException).
-/
import Gzx.Gen.K03w
import Gzx.GoMExt
import Gzx.GoMK03w
import Gzx.KernelGuard
import Gzx.Proofs.K10
import Gzx.Obligations.K10
import Gzx.Proofs.CheckDigit
import Gzx.Proofs.OneD
import Gzx.Proofs.GoMTie
import Gzx.Proofs.K03w
import Gzx.Proofs.UpceanDraw
import Gzx.Model.OneD
namespace Gzx.Obligations.K03w
open Gzx Gzx.GoM Gzx.CheckDigit Gzx.OneD Gzx.K03w

/-- a module row as the Go `[]bool` contents -/
def b01 (bs : List Bool) : List Int := bs.map b2i

theorem b01_append (a b : List Bool) : b01 (a ++ b) = b01 a ++ b01 b := by simp [b01]
theorem b01_replicate (n : Nat) (c : Bool) : b01 (List.replicate n c) = List.replicate n (b2i c) := by simp [b01]
theorem b01_length (a : List Bool) : (b01 a).length = a.length := by simp [b01]
theorem b01_flatten (L : List (List Bool)) : b01 L.flatten = (L.map b01).flatten := by
  simp only [b01, List.map_flatten]; rfl

/-! ## `onedWriter_appendPattern` -/

theorem setIdx_at (done rs : List Int) (r v : Int) :
    setIdx (done ++ r :: rs) (done.length : Int) v = .ok (done ++ v :: rs) :=
  setIdx_seam done r v rs _ rfl

theorem setIdx_full (done : List Int) (v : Int) : setIdx (done ++ []) (done.length : Int) v = .error oob :=
  setIdx_of_ge _ _ v (by simp)

theorem idx_bytes_at (full : List Nat) (e : Int) (i : Nat) (he : e = (i : Int)) (hi : i < full.length) :
    idx (bytes full) e = .ok ((full[i] : Nat) : Int) :=
  idx_nats_lt full e i he hi

variable {ρ : Type}

when_kernel Gzx.Gen.K03w.appendPattern in
/-- `target[pos] = color; pos++` -/
theorem cell_draws (c : Bool) (j : Int) : Draws (ρ := Int × List Int) (Gen.K03w.appendPattern_body2 c j) [b2i c] := by
  intro done rest
  cases rest with
  | nil => simp only [Gen.K03w.appendPattern_body2, setIdx_full, tryC_error, drawn]; rfl
  | cons r rs =>
    simp only [Gen.K03w.appendPattern_body2, setIdx_at, tryC_ok, drawn]
    simp

when_kernel Gzx.Gen.K03w.appendPattern in
/-- the inner loop `for j := 0; j < len; j++ { target[pos] = color; pos++ }` -/
theorem k_appendPattern_fill (c : Bool) (n : Nat) (done rest : List Int) :
    loop (Gen.K03w.appendPattern_body2 c) 1 n 0 (done ++ rest, (done.length : Int)) =
      (drawn done rest n (List.replicate n (b2i c)) : Ctl _ (Int × List Int)) := by
  rw [Draws.loop_at (Gen.K03w.appendPattern_body2 c) (fun _ => [b2i c]) 1 n 0 1 done rest
    (fun i _ => cell_draws c i) (fun _ _ => rfl) (di := 1) (i0 := 0) rfl rfl rfl rfl,
    Nat.one_mul, List.map_const', List.length_range', List.flatten_replicate_singleton]

def colorAfter : List Nat → Bool → Bool
  | [], c => c
  | _ :: ws, c => colorAfter ws (!c)

when_kernel Gzx.Gen.K03w.appendPattern in
/-- one iteration of the outer loop of `onedWriter_appendPattern`, as a function of the run length read -/
def apStep (len : Int) (st : List Int × Int × Int × Bool) : Ctl (List Int × Int × Int × Bool) (Int × List Int) :=
  (loop (Gen.K03w.appendPattern_body2 st.2.2.2) 1 (tripUp 0 len 1) 0 (st.1, st.2.1)).thenC fun s =>
    .next (s.1, s.2, st.2.2.1 + len, !st.2.2.2)

when_kernel Gzx.Gen.K03w.appendPattern in
theorem k_appendPattern_fold : ∀ (pat : List Nat) (c : Bool) (done rest : List Int) (k : Int),
    foldC apStep (pat.map Int.ofNat) (done ++ rest, (done.length : Int), k, c) =
      if OneD.sumL pat ≤ rest.length then
        .next (done ++ b01 (OneD.appendPattern pat c) ++ rest.drop (OneD.sumL pat), ((done.length + OneD.sumL pat : Nat) : Int),
               k + (OneD.sumL pat : Nat), colorAfter pat c)
      else .panic oob := by
  intro pat
  induction pat with
  | nil => intro c done rest k; simp [foldC, OneD.sumL, OneD.appendPattern, b01, colorAfter]
  | cons w ws ih =>
    intro c done rest k
    have hs : OneD.sumL (w :: ws) = w + OneD.sumL ws := by simp [OneD.sumL]
    simp only [List.map_cons, foldC, apStep]
    have ht : tripUp 0 (Int.ofNat w) 1 = w := by rw [tripUp_one]; simp
    rw [ht, k_appendPattern_fill, drawn]
    by_cases h1 : w ≤ rest.length
    · simp only [h1, if_true, next_thenC]
      have e1 : done ++ List.replicate w (b2i c) ++ rest.drop w = (done ++ List.replicate w (b2i c)) ++ rest.drop w := rfl
      have e2 : ((done.length + w : Nat) : Int) = (((done ++ List.replicate w (b2i c)).length : Nat) : Int) := by simp
      rw [e1, e2, ih]
      simp only [List.length_drop, hs, colorAfter, OneD.appendPattern, b01_append, b01_replicate,
        List.length_append, List.length_replicate, List.drop_drop]
      by_cases h2 : OneD.sumL ws ≤ rest.length - w
      · have h3 : w + OneD.sumL ws ≤ rest.length := by omega
        simp only [h2, h3, if_true]
        have ea : w + OneD.sumL ws = OneD.sumL ws + w := by omega
        have eb : done.length + w + OneD.sumL ws = done.length + (OneD.sumL ws + w) := by omega
        have ec : k + Int.ofNat w + ((OneD.sumL ws : Nat) : Int) = k + ((OneD.sumL ws + w : Nat) : Int) := by
          simp only [Int.ofNat_eq_natCast]; omega
        simp only [List.append_assoc, ea, eb, ec]
      · have h3 : ¬ w + OneD.sumL ws ≤ rest.length := by omega
        simp only [h2, h3, if_false]
    · have h3 : ¬ w + OneD.sumL ws ≤ rest.length := by omega
      simp only [h1, hs, h3, if_false, panic_thenC]

when_kernel Gzx.Gen.K03w.appendPattern in
/-- `onedWriter_appendPattern(target, pos, pattern, startColor)` for every target, every position inside it
    (`target = done ++ rest`, `pos = len(done)`), every pattern and colour: the model's `appendPattern` written
    over the next `Σ pattern` cells and `Σ pattern` returned — or the index panic exactly when the pattern does
    not fit -/
theorem k_appendPattern_eq (done rest : List Int) (pat : List Nat) (c : Bool) :
    Gen.K03w.appendPattern (done ++ rest) (done.length : Int) (pat.map Int.ofNat) c =
      if OneD.sumL pat ≤ rest.length then
        .ok (((OneD.sumL pat : Nat) : Int), done ++ b01 (OneD.appendPattern pat c) ++ rest.drop (OneD.sumL pat))
      else .error oob := by
  simp only [Gen.K03w.appendPattern]
  rw [loop_up1' (pat.map Int.ofNat) apStep 0 pat.length (by simp) (body := Gen.K03w.appendPattern_body1 (pat.map Int.ofNat))
      (fun i h st => by
        unfold Gen.K03w.appendPattern_body1
        rw [idx_ofNat _ _ h]
        rfl)
      (by rw [tripUp_one]; simp [len]) (by simp)]
  rw [List.drop_zero, List.take_of_length_le (by simp), k_appendPattern_fold]
  by_cases h : OneD.sumL pat ≤ rest.length <;> simp [h]

when_kernel Gzx.Gen.K03w.appendPattern in
example : Gen.K03w.appendPattern [0, 0, 0, 0, 0, 0, 0] 1 [1, 2, 1] true = .ok (4, [0, 1, 0, 0, 1, 0, 0]) := by decide
when_kernel Gzx.Gen.K03w.appendPattern in
example : Gen.K03w.appendPattern [0, 0, 0] 1 [1, 2, 1] true = .error oob := by decide

/-! ## `onedWriter_checkNumeric` (`for _, c := range contents`: the runes of the string) -/

theorem decodeRune_ascii (b : Int) (rest : List Int) (h : b < 128) : decodeRune (b :: rest) = (b, 1) := by
  simp [decodeRune, h]

/-- a byte ≥ 0x80 starts a rune ≥ 0x80: every leaf of the decoder is U+FFFD or a multi-byte value whose leading term
    alone is at least 128 -/
theorem decodeRune_high (b : Int) (rest : List Int) (h : 128 ≤ b) : 128 ≤ (decodeRune (b :: rest)).1 := by
  unfold decodeRune
  have h0 : ¬ b < 128 := by omega
  simp only [h0, if_false]
  repeat' split
  all_goals (try simp only [isCont, Bool.and_eq_true, decide_eq_true_eq] at *)
  all_goals (try omega)
  all_goals (split <;> omega)

/-- the digit test of `checkNumeric`, on a rune -/
def cnStep (c : Int) (_ : Unit) : Ctl Unit Bool :=
  if ((decide (c < 48)) || (decide (c > 57))) then .ret true else .next ()

theorem cn_fold : ∀ (s : List Nat) (fuel : Nat), s.length ≤ fuel →
    foldC cnStep (runesF fuel (bytes s)) () = if allDigits s then .next () else .ret true := by
  intro s
  induction s with
  | nil => intro fuel _; cases fuel <;> simp [runesF, bytes, foldC, allDigits]
  | cons b t ih =>
    intro fuel hf
    obtain ⟨f, rfl⟩ : ∃ f, fuel = f + 1 := ⟨fuel - 1, by simp at hf; omega⟩
    have hb : bytes (b :: t) = (b : Int) :: bytes t := by simp [bytes]
    rw [hb]
    simp only [runesF, foldC]
    by_cases h : (b : Int) < 128
    · rw [decodeRune_ascii _ _ h]
      simp only [Nat.sub_self, List.drop_zero]
      by_cases hd : isDigitByte b = true
      · have hd' := hd
        simp only [isDigitByte, Bool.and_eq_true, decide_eq_true_eq] at hd'
        have c1 : ¬ ((b : Int) < 48) := by omega
        have c2 : ¬ ((b : Int) > 57) := by omega
        simp only [cnStep, c1, c2, decide_false, Bool.or_false, Bool.false_eq_true, if_false]
        rw [ih f (by simp at hf; omega)]
        simp [allDigits, hd]
      · have hd' := hd
        simp only [isDigitByte, Bool.and_eq_true, decide_eq_true_eq, Classical.not_and_iff_not_or_not] at hd'
        have c : ((decide ((b : Int) < 48)) || (decide ((b : Int) > 57))) = true := by
          simp only [Bool.or_eq_true, decide_eq_true_eq]; omega
        simp only [cnStep, c, if_true]
        simp [allDigits, hd]
    · have hh := decodeRune_high (b : Int) (bytes t) (by omega)
      have c : ((decide ((decodeRune ((b : Int) :: bytes t)).1 < 48)) || (decide ((decodeRune ((b : Int) :: bytes t)).1 > 57))) = true := by
        simp only [Bool.or_eq_true, decide_eq_true_eq]; omega
      simp only [cnStep, c, if_true]
      have hd : isDigitByte b = false := by
        simp only [isDigitByte, Bool.and_eq_false_iff, decide_eq_false_iff_not]; omega
      simp [allDigits, hd]

when_kernel Gzx.Gen.K03w.checkNumeric in
/-- `onedWriter_checkNumeric(contents)` for EVERY byte string: an error iff some byte is not an ASCII digit
    (a byte ≥ 0x80 decodes to a rune ≥ 0x80 or to U+FFFD, never to a digit) -/
theorem k_checkNumeric_eq (s : List Nat) :
    Gen.K03w.checkNumeric (bytes s) = .ok (!allDigits s) := by
  simp only [Gen.K03w.checkNumeric]
  rw [loop_up1' (runes (bytes s)) cnStep 0 (runes (bytes s)).length (by simp)
      (body := Gen.K03w.checkNumeric_body1 (bytes s))
      (fun i h st => by
        -- once the rune is read, the generated test `c < 48 || c > 57` is literally `cnStep`'s
        unfold Gen.K03w.checkNumeric_body1
        rw [idx_ofNat _ _ h]
        simp only [tryC_ok, cnStep])
      (by rw [tripUp_one]; simp [len]) (by simp)]
  rw [List.drop_zero, List.take_of_length_le (by simp), runes, cn_fold s _ (by simp [bytes])]
  cases allDigits s <;> rfl

when_kernel Gzx.Gen.K03w.checkNumeric in
example : Gen.K03w.checkNumeric (bytes [49, 50, 0xC3, 0xA9]) = .ok true := by decide

/-! ## shared pieces of the UPC/EAN encoders -/

when_kernel Gzx.Gen.K10.getStandardUPCEANChecksum in
when_kernel Gzx.Gen.K03w.getStandardUPCEANChecksum in
theorem k_getStandardUPCEANChecksum_eq (s : List Nat) (hs : ∀ b ∈ s, b < 256) :
    Gen.K03w.getStandardUPCEANChecksum (bytes s) =
      .ok (match eanChecksumB s with
           | .ok v => (v, false)
           | .error _ => (0, true)) :=
  Obligations.K10.k_getStandardUPCEANChecksum_eq s hs

when_kernel Gzx.Gen.K10.checkStandardUPCEANChecksum in
when_kernel Gzx.Gen.K03w.checkStandardUPCEANChecksum in
theorem k_checkStandardUPCEANChecksum_eq (s : List Nat) (hs : ∀ b ∈ s, b < 256) :
    Gen.K03w.checkStandardUPCEANChecksum (bytes s) =
      .ok (match checkStandardB s with
           | .ok b => (b, false)
           | .error _ => (false, true)) :=
  Obligations.K10.k_checkStandardUPCEANChecksum_eq s hs

theorem eanChecksumB_range (s : List Nat) (c : Int) (h : eanChecksumB s = .ok c) : -10 < c ∧ c < 10 := by
  unfold eanChecksumB at h
  split at h
  · injection h with h; subst h
    unfold eanCheckDigit goCheckOf
    split <;> omega
  · cases h

theorem itoa_small (c : Int) (h1 : -10 < c) (h2 : c < 10) : itoa c = bytes (itoaSmall c) := by
  have : c = -9 ∨ c = -8 ∨ c = -7 ∨ c = -6 ∨ c = -5 ∨ c = -4 ∨ c = -3 ∨ c = -2 ∨ c = -1 ∨ c = 0 ∨ c = 1 ∨ c = 2 ∨
      c = 3 ∨ c = 4 ∨ c = 5 ∨ c = 6 ∨ c = 7 ∨ c = 8 ∨ c = 9 := by omega
  rcases this with h | h | h | h | h | h | h | h | h | h | h | h | h | h | h | h | h | h | h <;> subst h <;> decide

theorem bytes_append (a b : List Nat) : bytes (a ++ b) = bytes a ++ bytes b := List.map_append

/-- a model table as the Go `[][]int` -/
def rows (L : List (List Nat)) : List (List Int) := L.map (·.map Int.ofNat)

theorem idxRow_rows (L : List (List Nat)) (i : Nat) (e : Int) (he : e = (i : Int)) (h : i < L.length) :
    idxRow (rows L) e = .ok ((rowAt L i).map Int.ofNat) := by
  subst he
  unfold idxRow rows rowAt
  have h0 : ¬ ((i : Int) < 0) := by omega
  simp [h0, h]

theorem nth_rowAt (L : List (List Nat)) (i : Nat) (h : i < L.length) : nth L i = .ok (rowAt L i) :=
  OneD.nth_rowAt L i h

theorem appendPattern_length (ws : List Nat) (c : Bool) : (OneD.appendPattern ws c).length = OneD.sumL ws := by
  induction ws generalizing c with
  | nil => rfl
  | cons w ws ih => simp [OneD.appendPattern, OneD.sumL, ih]

/-- total width of the patterns `pats a, …, pats (a+k-1)`: the length of `segM pats c a k` -/
def segW (pats : Nat → List Nat) (a k : Nat) : Nat := ((List.range' a k).map (fun i => OneD.sumL (pats i))).sum

when_kernel Gzx.Gen.K03w.appendPattern in
/-- `onedWriter_appendPattern` in the position it has inside an encoder: behind `done`, any position expression -/
theorem ap_at (done rest : List Int) (p : Int) (pat : List Nat) (c : Bool) (hp : p = (done.length : Int)) :
    Gen.K03w.appendPattern (done ++ rest) p (pat.map Int.ofNat) c =
      if OneD.sumL pat ≤ rest.length then
        .ok (((OneD.sumL pat : Nat) : Int), done ++ b01 (OneD.appendPattern pat c) ++ rest.drop (OneD.sumL pat))
      else .error oob := by
  subst hp; exact k_appendPattern_eq done rest pat c

theorem digit_of_all {full : List Nat} (h : allDigits full = true) (i : Nat) (hi : i < full.length) :
    48 ≤ full[i] ∧ full[i] ≤ 57 :=
  OneD.digit_of_all h i hi

theorem lt256_of_all {full : List Nat} (h : allDigits full = true) : ∀ b ∈ full, b < 256 := by
  intro b hb
  have := (List.all_eq_true.mp h) b hb
  simp [isDigitByte] at this; omega

theorem wrap8_digit (v : Nat) (h1 : 48 ≤ v) (h2 : v ≤ 57) : wrap 8 ((v : Int) - 48) = ((v - 48 : Nat) : Int) :=
  wrap_of_eq 8 _ (v - 48) (by omega) (by omega)

/-! ## tables of the UPC/EAN writers: the regenerated literals are the model's reference tables -/

when_kernel Gzx.Gen.K03w.ean8Encode in
theorem tbl_L : Gen.K03w.tbl2_UPCEANReader_L_PATTERNS = rows refTables.lPatterns := by decide +kernel
when_kernel Gzx.Gen.K03w.ean8Encode in
theorem tbl_SE : Gen.K03w.tbl_UPCEANReader_START_END_PATTERN = refTables.startEnd.map Int.ofNat := by decide +kernel
when_kernel Gzx.Gen.K03w.ean8Encode in
theorem tbl_MID : Gen.K03w.tbl_UPCEANReader_MIDDLE_PATTERN = refTables.middle.map Int.ofNat := by decide +kernel

/-! `lPat`, `lgPat`, `parityOf`, `draw8`, `draw13` (and `parityE`, `drawE` for UPC-E) of Proofs/UpceanDraw.lean with the
    tables the regenerated literals are compared with -/
abbrev lPat := OneD.lPat refTables
abbrev lgPat := OneD.lgPat refTables
abbrev parityOf := OneD.parityOf refTables
abbrev draw8 := OneD.draw8 refTables
abbrev draw13 := OneD.draw13 refTables

theorem lRow_sum : ∀ i, i < 10 → OneD.sumL (rowAt refTables.lPatterns i) = 7 := by decide +kernel

theorem lPat_sum (full : List Nat) (h : allDigits full = true) (i : Nat) (hi : i < full.length) :
    OneD.sumL (lPat full i) = 7 := by
  obtain ⟨h1, h2⟩ := digit_of_all h i hi
  unfold lPat OneD.lPat
  rw [List.getElem?_eq_getElem hi]
  exact lRow_sum _ (by simp only [Option.getD_some]; omega)

/-- one iteration `digit := contents[i]-'0'; pos += appendPattern(result, pos, L_PATTERNS[digit], c)` -/
def IsLStep (body : Int → (List Int × Int) → Ctl (List Int × Int) ρ) (full : List Nat) (c : Bool) : Prop :=
  ∀ i, i < full.length → ∀ done rest, body (i : Int) (done ++ rest, (done.length : Int)) =
    drawn done rest (OneD.sumL (lPat full i)) (b01 (OneD.appendPattern (lPat full i) c))

when_kernel Gzx.Gen.K03w.appendPattern in
/-- the shape-independent part of an L-pattern iteration -/
theorem lstep_core (full : List Nat) (h : allDigits full = true) (i : Nat) (hi : i < full.length) (c : Bool)
    (done rest : List Int) (k : Int × List Int → Ctl (List Int × Int) ρ)
    (hk : ∀ t, k t = .next (t.2, (done.length : Int) + t.1)) :
    (tryC (idx (bytes full) (i : Int)) fun t =>
      tryC (idxRow (rows refTables.lPatterns) (wrap 8 (t - 48))) fun row =>
      tryC (Gen.K03w.appendPattern (done ++ rest) (done.length : Int) row c) k) =
    drawn done rest (OneD.sumL (lPat full i)) (b01 (OneD.appendPattern (lPat full i) c)) := by
  obtain ⟨h1, h2⟩ := digit_of_all h i hi
  rw [idx_bytes_at full _ i rfl hi]
  simp only [tryC_ok]
  rw [wrap8_digit _ h1 h2, idxRow_rows _ (full[i] - 48) _ rfl (by show full[i] - 48 < 10; omega)]
  simp only [tryC_ok]
  rw [ap_at done rest _ _ c rfl]
  have e : lPat full i = rowAt refTables.lPatterns (full[i] - 48) := by
    unfold lPat OneD.lPat; rw [List.getElem?_eq_getElem hi]; rfl
  rw [e]
  unfold drawn
  split
  · simp only [tryC_ok, hk, Int.natCast_add]
  · rfl

when_kernel Gzx.Gen.K03w.ean8Encode in
theorem ean8_steps (full : List Nat) (h : allDigits full = true) :
    IsLStep (ρ := List Int × Bool) (Gen.K03w.ean8Encode_body1 (bytes full)) full false ∧
    IsLStep (ρ := List Int × Bool) (Gen.K03w.ean8Encode_body2 (bytes full)) full true := by
  refine ⟨?_, ?_⟩ <;> intro i hi done rest
  · simp only [Gen.K03w.ean8Encode_body1, tbl_L]
    exact lstep_core full h i hi false done rest _ (fun t => rfl)
  · simp only [Gen.K03w.ean8Encode_body2, tbl_L]
    exact lstep_core full h i hi true done rest _ (fun t => rfl)

theorem segM_length (pats : Nat → List Nat) (c : Bool) : ∀ (k a : Nat), (segM pats c a k).length = segW pats a k := by
  intro k
  induction k with
  | zero => intro a; simp [segM, segW]
  | succ k ih =>
    intro a
    have := ih (a + 1)
    simp only [segM, segW] at this ⊢
    rw [List.range'_succ, List.map_cons, List.map_cons, List.flatten_cons, List.length_append, List.sum_cons, this,
      appendPattern_length]

/-- a counted loop each of whose iterations draws one pattern behind what is drawn already; trip count, start index and
    position are side conditions (for `rw` against generated code) -/
theorem draw_at (body : Int → (List Int × Int) → Ctl (List Int × Int) ρ) (pats : Nat → List Nat) (c : Bool)
    (k a : Nat) (done rest : List Int) (n : Nat) (i0 p : Int)
    (hb : ∀ i, a ≤ i → i < a + k → ∀ done rest, body (i : Int) (done ++ rest, (done.length : Int)) =
        drawn done rest (OneD.sumL (pats i)) (b01 (OneD.appendPattern (pats i) c)))
    (hn : n = k) (hi : i0 = (a : Int)) (hp : p = (done.length : Int)) :
    loop body 1 n i0 (done ++ rest, p) = drawn done rest (segW pats a k) (b01 (segM pats c a k)) := by
  subst hn hi hp
  have e : b01 (segM pats c a n) = ((List.range' a n).map fun i => b01 (OneD.appendPattern (pats i) c)).flatten := by
    rw [segM, b01_flatten, List.map_map]; rfl
  rw [← segM_length pats c n a, ← b01_length (segM pats c a n), e]
  exact Draws.loop body _ 1 n a (fun i hi => Draws.of_width _ (by rw [b01_length, appendPattern_length])
    (hb i (List.mem_range'_1.mp hi).1 (List.mem_range'_1.mp hi).2)) done rest

theorem segW_const (pats : Nat → List Nat) (w : Nat) : ∀ (k a : Nat), (∀ i, a ≤ i → i < a + k → OneD.sumL (pats i) = w) →
    segW pats a k = k * w := by
  intro k
  induction k with
  | zero => intro a _; simp [segW]
  | succ k ih =>
    intro a h
    have := ih (a + 1) (fun i h1 h2 => h i (by omega) (by omega))
    simp only [segW] at this ⊢
    rw [List.range'_succ, List.map_cons, List.sum_cons, this, h a (Nat.le_refl a) (by omega), Nat.succ_mul]; omega

/-- what an encoder returns for the model's outcome: modules as 0/1 and no error, or no modules and an error
    (every failure of the model's encoders is a WriterException; a model panic would be a panic of the code) -/
def encRes : Res (List Bool) → Res (List Int × Bool)
  | .ok m => .ok (b01 m, false)
  | .error .writer => .ok ([], true)
  | .error e => .error e

/-! ## the head of the UPC/EAN encoders: check digit computed or verified, digit test, then the drawing part `K` -/

/-! The three kernels the heads call are parameters here (`getStd`, `chkStd`, `chkNum` with their kernel theorems as
    hypotheses), so these lemmas need no kernel guard.  The encoder theorems instantiate them with the kernels of
    `Gen.K03w` under the guard of the encoder alone: the translator regenerates a function only if it regenerates every
    function it calls, so those kernels and their theorems exist whenever the encoder does. -/
section front
variable (getStd : List Int → Res (Int × Bool)) (chkStd : List Int → Res (Bool × Bool)) (chkNum : List Int → Res Bool)
  (hget : ∀ s : List Nat, (∀ b ∈ s, b < 256) → getStd (bytes s) =
    .ok (match eanChecksumB s with
         | .ok v => (v, false)
         | .error _ => (0, true)))
  (hchk : ∀ s : List Nat, (∀ b ∈ s, b < 256) → chkStd (bytes s) =
    .ok (match checkStandardB s with
         | .ok b => (b, false)
         | .error _ => (false, true)))
  (hnum : ∀ s : List Nat, chkNum (bytes s) = .ok (!allDigits s))

include hget hnum in
/-- the branch that COMPUTES the check digit: of `a` (the contents, or for UPC-E their UPC-A expansion), appended to the
    contents `s`; then the digit test; then `K` on the completed string.  `A`, `B` stand for `bytes a`, `bytes s` so that
    `K` can be found by unification against generated code (see `std_front`) -/
theorem front_short (a s : List Nat) (ha : ∀ b ∈ a, b < 256) (A B : List Int) (hA : A = bytes a) (hB : B = bytes s)
    (F : Int × Bool → Res (List Int × Bool)) (K : List Int → Res (List Int × Bool))
    (hF : ∀ t, F t = if (t.2 != false) then .ok ([], true) else
      tryR (chkNum (B ++ itoa t.1)) fun e => if (e != false) then .ok ([], e) else K (B ++ itoa t.1)) :
    tryR (getStd A) F =
      match eanChecksumB a with
      | .error _ => .ok ([], true)
      | .ok c => if allDigits (s ++ itoaSmall c) then K (bytes (s ++ itoaSmall c)) else .ok ([], true) := by
  subst hA hB
  simp only [hget a ha, tryR_ok, hF]
  cases hc : eanChecksumB a with
  | error e => rfl
  | ok c =>
    obtain ⟨r1, r2⟩ := eanChecksumB_range a c hc
    have hb : bytes s ++ itoa c = bytes (s ++ itoaSmall c) := by rw [itoa_small c r1 r2, bytes_append]
    simp only [bne_self_eq_false, Bool.false_eq_true, if_false, hb, hnum, tryR_ok]
    cases allDigits (s ++ itoaSmall c) <;> rfl

include hchk hnum in
/-- the branch that VERIFIES the check digit of `a`; then the digit test of the contents `s`; then `K` -/
theorem front_long (a s : List Nat) (ha : ∀ b ∈ a, b < 256) (A B : List Int) (hA : A = bytes a) (hB : B = bytes s)
    (K : List Int → Res (List Int × Bool)) :
    (tryR (chkStd A) fun t =>
      if (t.2 != false) then .ok ([], true) else if (!t.1) then .ok ([], true) else
        tryR (chkNum B) fun e => if (e != false) then .ok ([], e) else K B) =
      match checkStandardB a with
      | .ok true => if allDigits s then K (bytes s) else .ok ([], true)
      | _ => .ok ([], true) := by
  subst hA hB
  simp only [hchk a ha, tryR_ok]
  cases checkStandardB a with
  | error e => rfl
  | ok ok =>
    cases ok with
    | false => rfl
    | true =>
      simp only [bne_self_eq_false, Bool.false_eq_true, if_false, Bool.not_true, hnum, tryR_ok]
      cases allDigits s <;> rfl

include hget hchk hnum in
/-- `ean8Encoder` / `ean13Encoder.encodeWithHints` up to the point where the complete digit string is known: the length
    switch over the two branches.  Used with `apply Eq.trans (std_front … _ _ ?hF)` on a goal in which `bytes s` has been
    generalised to a variable `B`: `K B` in the second branch is then a pattern from which unification finds the drawing
    part `K`, and `hF` is checked afterwards by `rfl` (`refine` and `rw` elaborate `hF` first and fail) -/
theorem std_front (n : Nat) (s : List Nat) (hs : ∀ b ∈ s, b < 256) (B : List Int) (hB : B = bytes s)
    (a b : Int) (ha : a = (n : Int) - 1) (hb : b = (n : Int))
    (F : Int × Bool → Res (List Int × Bool)) (K : List Int → Res (List Int × Bool))
    (hF : ∀ t, F t = if (t.2 != false) then .ok ([], true) else
      tryR (chkNum (B ++ itoa t.1)) fun e => if (e != false) then .ok ([], e) else K (B ++ itoa t.1)) :
    (if ((s.length : Int) == a) then tryR (getStd B) F
     else if ((s.length : Int) == b) then
       tryR (chkStd B) fun t =>
         if (t.2 != false) then .ok ([], true) else if (!t.1) then .ok ([], true) else
           tryR (chkNum B) fun e => if (e != false) then .ok ([], e) else K B
     else .ok ([], true)) =
      match stdWriterContents n s with
      | .ok full => K (bytes full)
      | .error _ => .ok ([], true) := by
  subst ha hb
  rw [front_short getStd chkNum hget hnum s s hs B B hB hB F K hF, front_long chkStd chkNum hchk hnum s s hs B B hB hB K]
  unfold stdWriterContents
  by_cases h1 : s.length + 1 = n
  · rw [if_pos (by rw [beq_iff_eq]; omega), if_pos h1]
    cases eanChecksumB s with
    | error e => rfl
    | ok c => dsimp only; cases allDigits (s ++ itoaSmall c) <;> rfl
  · rw [if_neg (by rw [beq_iff_eq]; omega), if_neg h1]
    by_cases h2 : s.length = n
    · rw [if_pos (by rw [beq_iff_eq]; omega), if_pos h2]
      cases checkStandardB s with
      | error e => rfl
      | ok ok =>
        cases ok with
        | false => rfl
        | true => cases allDigits s <;> rfl
    · rw [if_neg (by rw [beq_iff_eq]; omega), if_neg h2]

end front

/-! ## EAN-8 -/

theorem mk_zeros (n : Nat) : mk (n : Int) = .ok ([] ++ List.replicate n 0) :=
  mkA_of_eq 0 _ n rfl

theorem se_sum : OneD.sumL refTables.startEnd = 3 := by decide +kernel
theorem mid_sum : OneD.sumL refTables.middle = 5 := by decide +kernel

when_kernel Gzx.Gen.K03w.ean8Encode in
theorem ean8_same : @Gen.K03w.ean8Encode_body3 = @Gen.K03w.ean8Encode_body1 ∧
    @Gen.K03w.ean8Encode_body4 = @Gen.K03w.ean8Encode_body2 := ⟨rfl, rfl⟩

theorem ean8Modules_err (s : List Nat) (h : stdWriterContents 8 s = .error .writer) :
    ean8Modules refTables s = .error .writer := by
  unfold ean8Modules; rw [h]; rfl

when_kernel Gzx.Gen.K03w.ean8Encode in
/-- `ean8Encoder.encodeWithHints(contents)` for EVERY byte string: the model's `ean8Modules` (length switch, check digit
    computed for 7 / verified for 8 characters, digit test, start guard, four L patterns, middle guard, four L patterns
    in the other colour, end guard) as 0/1, or a WriterException -/
theorem k_ean8Encode_eq (s : List Nat) (hs : ∀ b ∈ s, b < 256) :
    Gen.K03w.ean8Encode (bytes s) = encRes (ean8Modules refTables s) := by
  simp only [Gen.K03w.ean8Encode, len, bytes_length, ean8_same.1, ean8_same.2]
  generalize hB : bytes s = B
  apply Eq.trans (std_front _ _ _ k_getStandardUPCEANChecksum_eq k_checkStandardUPCEANChecksum_eq k_checkNumeric_eq
    8 s hs B hB.symm 7 8 rfl rfl _ _ ?hF)
  case hF => intro t; rfl
  cases hc : stdWriterContents 8 s with
  | error e =>
    cases stdWriterContents_err 8 s e hc
    rw [ean8Modules_err s hc]; rfl
  | ok full =>
    obtain ⟨hl, hd⟩ := stdWriterContents_ok 8 s full hc
    rw [OneD.ean8Modules_of_contents refTables rfl s full hc]
    obtain ⟨s1, s2⟩ := ean8_steps full hd
    have w1 : segW (lPat full) 0 4 = 28 := segW_const _ 7 4 0 (fun i _ hi => lPat_sum full hd i (by omega))
    have w2 : segW (lPat full) 4 4 = 28 := segW_const _ 7 4 4 (fun i _ hi => lPat_sum full hd i (by omega))
    have hmk : mk (67 : Int) = .ok ([] ++ List.replicate 67 0) := by decide
    simp only [encRes, hmk, tryR_ok, tbl_SE, tbl_MID]
    rw [ap_at [] _ 0 _ true (by rfl)]
    simp only [se_sum, List.length_replicate, Nat.reduceLeDiff, if_true, tryR_ok]
    rw [draw_at (k := 4) (a := 0) (pats := lPat full) (c := false) (hb := fun i _ hi => s1 i (by omega))]
    rotate_left
    · decide
    · rfl
    · simp [b01_length, appendPattern_length, se_sum]
    simp only [drawn, w1, List.length_drop, List.length_replicate, Nat.reduceSub, Nat.reduceLeDiff, if_true, next_thenR]
    rw [ap_at]
    rotate_left
    · simp [b01_length, appendPattern_length, se_sum, segM_length, w1]
    simp only [mid_sum, List.length_drop, List.length_replicate, Nat.reduceSub, Nat.reduceLeDiff, if_true, tryR_ok]
    rw [draw_at (k := 4) (a := 4) (pats := lPat full) (c := true) (hb := fun i _ hi => s2 i (by omega))]
    rotate_left
    · decide
    · rfl
    · simp [b01_length, appendPattern_length, se_sum, mid_sum, segM_length, w1]
    simp only [drawn, w2, List.length_drop, List.length_replicate, Nat.reduceSub, Nat.reduceLeDiff, if_true, next_thenR]
    rw [ap_at]
    rotate_left
    · simp [b01_length, appendPattern_length, se_sum, mid_sum, segM_length, w1, w2]
    simp only [se_sum, List.length_drop, List.length_replicate, Nat.reduceSub, Nat.reduceLeDiff, if_true, tryR_ok]
    simp [OneD.draw8, b01_append]

when_kernel Gzx.Gen.K03w.ean8Encode in
example : Gen.K03w.ean8Encode (bytes [49, 50, 51, 52, 53, 54, 55]) = encRes (ean8Modules refTables [49, 50, 51, 52, 53, 54, 55]) :=
  k_ean8Encode_eq _ (by decide)

/-! ## EAN-13 (and the left half shared with UPC-E): L / G patterns chosen by a parity word -/

/-- the parity test `(parities >> uint(6-i)) & 1 == 1` of the writers -/
theorem parity_bit (p i : Nat) (hi : i ≤ 6) :
    ((GoVal.iand (GoVal.ishr (p : Int) (wrap 64 (6 - (i : Int)))) 1) == 1) = decide ((p / 2 ^ (6 - i)) % 2 = 1) := by
  have e : wrap 64 (6 - (i : Int)) = ((6 - i : Nat) : Int) := wrap_of_eq 64 _ (6 - i) (by omega) (by omega)
  have one : (1 : Int) = ((1 : Nat) : Int) := rfl
  rw [e, ishr_natCast, one, iand_natCast, Nat.shiftRight_eq_div_pow, Nat.and_one_is_mod]
  by_cases h : p / 2 ^ (6 - i) % 2 = 1
  · simp [h]
  · have : p / 2 ^ (6 - i) % 2 = 0 := by omega
    simp [this]

theorem lgRow_sum : ∀ i, i < 20 → OneD.sumL (rowAt (lAndG refTables.lPatterns) i) = 7 := by decide +kernel

theorem lgPat_sum (full : List Nat) (p : Nat) (h : allDigits full = true) (i : Nat) (hi : i < full.length) :
    OneD.sumL (lgPat full p i) = 7 := by
  obtain ⟨h1, h2⟩ := digit_of_all h i hi
  unfold lgPat OneD.lgPat
  rw [List.getElem?_eq_getElem hi]
  simp only [Option.getD_some]
  split <;> exact lgRow_sum _ (by omega)

/-- the run-time table `UPCEANReader_L_AND_G_PATTERNS` as the model computes it (the harness compares the table
    `init()` fills with this value) -/
def LG : List (List Int) := rows (lAndG refTables.lPatterns)

/-- one iteration of the left-half loop of the EAN-13 / UPC-E writers -/
def IsLGStep (body : Int → (List Int × Int) → Ctl (List Int × Int) ρ) (full : List Nat) (p : Nat) : Prop :=
  ∀ i, i ≤ 6 → i < full.length → ∀ done rest, body (i : Int) (done ++ rest, (done.length : Int)) =
    drawn done rest (OneD.sumL (lgPat full p i)) (b01 (OneD.appendPattern (lgPat full p i) false))

when_kernel Gzx.Gen.K03w.appendPattern in
/-- `lstep_core` with the row chosen by parity bit `i` of `p` -/
theorem lgstep_core (full : List Nat) (p : Nat) (h : allDigits full = true) (i : Nat) (hi6 : i ≤ 6) (hi : i < full.length)
    (done rest : List Int) (k : Int × List Int → Ctl (List Int × Int) ρ)
    (hk : ∀ t, k t = .next (t.2, (done.length : Int) + t.1)) :
    (tryC (idx (bytes full) (i : Int)) fun t =>
      tryC (idxRow LG (if ((GoVal.iand (GoVal.ishr (p : Int) (wrap 64 (6 - (i : Int)))) 1) == 1) then wrap 8 (wrap 8 (t - 48) + 10)
        else wrap 8 (t - 48))) fun row =>
      tryC (Gen.K03w.appendPattern (done ++ rest) (done.length : Int) row false) k) =
    drawn done rest (OneD.sumL (lgPat full p i)) (b01 (OneD.appendPattern (lgPat full p i) false)) := by
  obtain ⟨h1, h2⟩ := digit_of_all h i hi
  rw [idx_bytes_at full _ i rfl hi]
  simp only [tryC_ok]
  rw [wrap8_digit _ h1 h2, parity_bit _ i hi6, wrap_of_eq 8 _ (full[i] - 48 + 10) (by omega) (by omega)]
  have erow : ∀ (b : Bool), idxRow LG (if b = true then ((full[i] - 48 + 10 : Nat) : Int) else ((full[i] - 48 : Nat) : Int)) =
      .ok ((rowAt (lAndG refTables.lPatterns) (if b = true then full[i] - 48 + 10 else full[i] - 48)).map Int.ofNat) := by
    intro b
    cases b
    · exact idxRow_rows _ _ _ rfl (by show full[i] - 48 < 20; omega)
    · exact idxRow_rows _ _ _ rfl (by show full[i] - 48 + 10 < 20; omega)
  rw [erow]
  simp only [tryC_ok]
  rw [ap_at done rest _ _ false rfl]
  have e : lgPat full p i = rowAt (lAndG refTables.lPatterns)
      (if decide (p / 2 ^ (6 - i) % 2 = 1) = true then full[i] - 48 + 10 else full[i] - 48) := by
    unfold lgPat OneD.lgPat; rw [List.getElem?_eq_getElem hi]; simp
  rw [e]
  generalize rowAt (lAndG refTables.lPatterns)
    (if decide (p / 2 ^ (6 - i) % 2 = 1) = true then full[i] - 48 + 10 else full[i] - 48) = pat
  unfold drawn
  by_cases hf : OneD.sumL pat ≤ rest.length
  · simp only [hf, if_true, tryC_ok, hk, Int.natCast_add]
  · simp only [hf, if_false, tryC_error]

/-- `lgstep_tac full, p, h`: the steps of `lgstep_core` as a tactic, for a goal `IsLGStep body full p` whose generated
    `body` has been unfolded; `lgstep_core` states the same as a lemma -/
macro "lgstep_tac " full:term ", " p:term ", " h:term : tactic => `(tactic| (
  intro i hi6 hi done rest
  obtain ⟨h1, h2⟩ := digit_of_all $h i hi
  rw [idx_ofNat _ _ (by simpa [bytes] using hi), bytes_getElem]
  simp only [tryC_ok]
  rw [wrap8_digit _ h1 h2, parity_bit _ i hi6]
  have e10 : wrap 8 ((($full[i] - 48 : Nat) : Int) + 10) = (($full[i] - 48 + 10 : Nat) : Int) := by
    have e8 : ((2 : Int) ^ 8) = 256 := by decide
    simp only [wrap, e8]; omega
  rw [e10]
  have erow : ∀ (b : Bool), idxRow LG (if b = true then (($full[i] - 48 + 10 : Nat) : Int) else (($full[i] - 48 : Nat) : Int)) =
      .ok ((rowAt (lAndG refTables.lPatterns) (if b = true then $full[i] - 48 + 10 else $full[i] - 48)).map Int.ofNat) := by
    intro b
    cases b
    · exact idxRow_rows _ _ _ rfl (by show $full[i] - 48 < 20; omega)
    · exact idxRow_rows _ _ _ rfl (by show $full[i] - 48 + 10 < 20; omega)
  rw [erow]
  simp only [tryC_ok]
  rw [ap_at done rest _ _ false rfl]
  have e : lgPat $full $p i = rowAt (lAndG refTables.lPatterns)
      (if decide ($p / 2 ^ (6 - i) % 2 = 1) = true then $full[i] - 48 + 10 else $full[i] - 48) := by
    unfold lgPat; rw [List.getElem?_eq_getElem hi]; simp
  rw [e]
  generalize rowAt (lAndG refTables.lPatterns)
    (if decide ($p / 2 ^ (6 - i) % 2 = 1) = true then $full[i] - 48 + 10 else $full[i] - 48) = pat
  unfold drawn
  by_cases hf : OneD.sumL pat ≤ rest.length
  · simp only [hf, if_true, tryC_ok, Int.natCast_add]
  · simp only [hf, if_false, tryC_error]))

when_kernel Gzx.Gen.K03w.ean13Encode in
theorem ean13_left (full : List Nat) (p : Nat) (h : allDigits full = true) :
    IsLGStep (ρ := List Int × Bool) (Gen.K03w.ean13Encode_body1 LG (bytes full) (p : Int)) full p := by
  intro i hi6 hi done rest
  simp only [Gen.K03w.ean13Encode_body1]
  exact lgstep_core full p h i hi6 hi done rest _ (fun t => rfl)

when_kernel Gzx.Gen.K03w.ean13Encode in
/-- the tables EAN-13 shares with EAN-8 under its own guard (`tbl_L`, `tbl_SE`, `tbl_MID` stand under EAN-8's, and either
    encoder may leave the translatable subset alone) -/
theorem ean13_tables : Gen.K03w.tbl2_UPCEANReader_L_PATTERNS = rows refTables.lPatterns ∧
    Gen.K03w.tbl_UPCEANReader_START_END_PATTERN = refTables.startEnd.map Int.ofNat ∧
    Gen.K03w.tbl_UPCEANReader_MIDDLE_PATTERN = refTables.middle.map Int.ofNat := by decide +kernel

when_kernel Gzx.Gen.K03w.ean13Encode in
theorem ean13_right (full : List Nat) (h : allDigits full = true) :
    IsLStep (ρ := List Int × Bool) (Gen.K03w.ean13Encode_body2 LG (bytes full)) full true := by
  intro i hi done rest
  simp only [Gen.K03w.ean13Encode_body2, ean13_tables.1]
  exact lstep_core full h i hi true done rest _ (fun t => rfl)

when_kernel Gzx.Gen.K03w.ean13Encode in
theorem ean13_same : @Gen.K03w.ean13Encode_body3 = @Gen.K03w.ean13Encode_body1 ∧
    @Gen.K03w.ean13Encode_body4 = @Gen.K03w.ean13Encode_body2 := ⟨rfl, rfl⟩

when_kernel Gzx.Gen.K03w.ean13Encode in
theorem tbl_FD : Gen.K03w.tbl_ean13Reader_FIRST_DIGIT_ENCODINGS = refTables.firstDigit.map Int.ofNat := by decide +kernel

theorem nth_digitVals (full : List Nat) (i : Nat) (hi : i < full.length) : nth (digitVals full) i = .ok (full[i] - 48) :=
  OneD.nth_digitVals full i hi

theorem leftHalf_eq (full : List Nat) (p : Nat) (hl : 7 ≤ full.length) (hd : allDigits full = true) :
    leftHalf refTables (digitVals full) p = .ok (segM (lgPat full p) false 1 6) :=
  OneD.leftHalf_eq refTables rfl full p hl hd

theorem fd_idx (full : List Nat) (hd : allDigits full = true) (h0 : 0 < full.length) :
    idx (refTables.firstDigit.map Int.ofNat) ((full[0] - 48 : Nat) : Int) = .ok ((parityOf full : Nat) : Int) := by
  obtain ⟨h1, h2⟩ := digit_of_all hd 0 h0
  rw [idx_bytes]
  unfold parityOf OneD.parityOf
  rw [List.getElem?_eq_getElem h0]
  have : full[0] - 48 < refTables.firstDigit.length := by show full[0] - 48 < 10; omega
  simp [this]

theorem ean13Modules_err (s : List Nat) (h : stdWriterContents 13 s = .error .writer) :
    ean13Modules refTables s = .error .writer := by
  unfold ean13Modules; rw [h]; rfl

when_kernel Gzx.Gen.K03w.ean13Encode in
/-- `ean13Encoder.encodeWithHints(contents)` for EVERY byte string, with the run-time table L_AND_G as the model computes
    it: the model's `ean13Modules` (length switch, check digit computed for 12 / verified for 13 characters, digit test,
    parity word of the first digit, start guard, six L/G patterns, middle guard, six L patterns, end guard) as 0/1, or a
    WriterException -/
theorem k_ean13Encode_eq (s : List Nat) (hs : ∀ b ∈ s, b < 256) :
    Gen.K03w.ean13Encode LG (bytes s) = encRes (ean13Modules refTables s) := by
  simp only [Gen.K03w.ean13Encode, len, bytes_length, ean13_same.1, ean13_same.2]
  generalize hB : bytes s = B
  apply Eq.trans (std_front _ _ _ k_getStandardUPCEANChecksum_eq k_checkStandardUPCEANChecksum_eq k_checkNumeric_eq
    13 s hs B hB.symm 12 13 rfl rfl _ _ ?hF)
  case hF => intro t; rfl
  cases hc : stdWriterContents 13 s with
  | error e =>
    cases stdWriterContents_err 13 s e hc
    rw [ean13Modules_err s hc]; rfl
  | ok full =>
    obtain ⟨hl, hd⟩ := stdWriterContents_ok 13 s full hc
    rw [OneD.ean13Modules_of_contents refTables rfl rfl s full hc]
    simp only [encRes]
    have h0 : 0 < full.length := by omega
    obtain ⟨d1, d2⟩ := digit_of_all hd 0 h0
    have s1 := ean13_left full (parityOf full) hd
    have s2 := ean13_right full hd
    have w1 : segW (lgPat full (parityOf full)) 1 6 = 42 :=
      segW_const _ 7 6 1 (fun i _ hi => lgPat_sum full _ hd i (by omega))
    have w2 : segW (lPat full) 7 6 = 42 := segW_const _ 7 6 7 (fun i _ hi => lPat_sum full hd i (by omega))
    have hmk : mk (95 : Int) = .ok ([] ++ List.replicate 95 0) := by decide
    rw [idx_bytes_at full 0 0 rfl h0]
    simp only [tryR_ok]
    rw [wrap8_digit _ d1 d2, tbl_FD, fd_idx full hd h0]
    simp only [hmk, tryR_ok, ean13_tables.2.1, ean13_tables.2.2]
    rw [ap_at [] _ _ _ true (by rfl)]
    simp only [se_sum, List.length_replicate, Nat.reduceLeDiff, if_true, tryR_ok]
    rw [draw_at (k := 6) (a := 1) (pats := lgPat full (parityOf full)) (c := false)
      (hb := fun i _ hi => s1 i (by omega) (by omega))]
    rotate_left
    · decide
    · rfl
    · simp [b01_length, appendPattern_length, se_sum]
    simp only [drawn, w1, List.length_drop, List.length_replicate, Nat.reduceSub, Nat.reduceLeDiff, if_true, next_thenR]
    rw [ap_at]
    rotate_left
    · simp [b01_length, appendPattern_length, se_sum, segM_length, w1]
    simp only [mid_sum, List.length_drop, List.length_replicate, Nat.reduceSub, Nat.reduceLeDiff, if_true, tryR_ok]
    rw [draw_at (k := 6) (a := 7) (pats := lPat full) (c := true) (hb := fun i _ hi => s2 i (by omega))]
    rotate_left
    · decide
    · rfl
    · simp [b01_length, appendPattern_length, se_sum, mid_sum, segM_length, w1]
    simp only [drawn, w2, List.length_drop, List.length_replicate, Nat.reduceSub, Nat.reduceLeDiff, if_true, next_thenR]
    rw [ap_at]
    rotate_left
    · simp [b01_length, appendPattern_length, se_sum, mid_sum, segM_length, w1, w2]
    simp only [se_sum, List.length_drop, List.length_replicate, Nat.reduceSub, Nat.reduceLeDiff, if_true, tryR_ok]
    simp [OneD.draw13, b01_append]

when_kernel Gzx.Gen.K03w.ean13Encode in
example : Gen.K03w.ean13Encode LG (bytes (bytesOf "590123412345")) = encRes (ean13Modules refTables (bytesOf "590123412345")) :=
  k_ean13Encode_eq _ (by decide)

/-! ## UPC-E -/

when_kernel Gzx.Gen.K03w.convertUPCEtoUPCA in
/-- `convertUPCEtoUPCA(upce)` for EVERY byte string: the model's expansion, or the slice panic of `upce[1:7]` when
    the string is shorter than 7 -/
theorem k_convertUPCEtoUPCA_eq (u : List Nat) :
    Gen.K03w.convertUPCEtoUPCA (bytes u) =
      match CheckDigit.convertUPCEtoUPCA u with
      | .ok a => .ok (bytes a)
      | .error _ => .error (.panic "slice bounds out of range") := by
  match u with
  | [] | [_] | [_, _] | [_, _, _] | [_, _, _, _] | [_, _, _, _, _] | [_, _, _, _, _, _] =>
    unfold Gen.K03w.convertUPCEtoUPCA CheckDigit.convertUPCEtoUPCA
    simp [bytes, slice]
  | n :: a :: b :: c :: d :: e :: l :: rest =>
    have hs : slice (bytes (n :: a :: b :: c :: d :: e :: l :: rest)) 1 7 = .ok (bytes [a, b, c, d, e, l]) := by
      simp [slice, bytes]; omega
    have h0 : idx (bytes (n :: a :: b :: c :: d :: e :: l :: rest)) 0 = .ok (n : Int) := by simp [idx, bytes]
    have h5 : idx (bytes [a, b, c, d, e, l]) 5 = .ok (l : Int) := by simp [idx, bytes]
    have h4 : idx (bytes [a, b, c, d, e, l]) 4 = .ok (e : Int) := by simp [idx, bytes]
    have s02 : slice (bytes [a, b, c, d, e, l]) 0 2 = .ok (bytes [a, b]) := by simp [slice, bytes]
    have s25 : slice (bytes [a, b, c, d, e, l]) 2 5 = .ok (bytes [c, d, e]) := by simp [slice, bytes]
    have s03 : slice (bytes [a, b, c, d, e, l]) 0 3 = .ok (bytes [a, b, c]) := by simp [slice, bytes]
    have s35 : slice (bytes [a, b, c, d, e, l]) 3 5 = .ok (bytes [d, e]) := by simp [slice, bytes]
    have s04 : slice (bytes [a, b, c, d, e, l]) 0 4 = .ok (bytes [a, b, c, d]) := by simp [slice, bytes]
    have s05 : slice (bytes [a, b, c, d, e, l]) 0 5 = .ok (bytes [a, b, c, d, e]) := by simp [slice, bytes]
    have c48 : (((l : Int) == 48) : Bool) = (l == 48) := natCast_beq l 48
    have c49 : (((l : Int) == 49) : Bool) = (l == 49) := natCast_beq l 49
    have c50 : (((l : Int) == 50) : Bool) = (l == 50) := natCast_beq l 50
    have c51 : (((l : Int) == 51) : Bool) = (l == 51) := natCast_beq l 51
    have c52 : (((l : Int) == 52) : Bool) = (l == 52) := natCast_beq l 52
    simp only [Gen.K03w.convertUPCEtoUPCA, hs, h0, h5, h4, s02, s25, s03, s35, s04, s05, tryR_ok, c48, c49, c50, c51, c52,
      CheckDigit.convertUPCEtoUPCA]
    cases rest with
    | nil =>
      have hl : ¬ ((len (bytes [n, a, b, c, d, e, l]) : Int) ≥ 8) := by simp [len, bytes]
      simp only [hl, decide_false, Bool.false_eq_true, if_false]
      by_cases k1 : l = 48 ∨ l = 49 ∨ l = 50
      · rcases k1 with k | k | k <;> subst k <;> simp [bytes]
      · by_cases k2 : l = 51
        · subst k2; simp [bytes]
        · by_cases k3 : l = 52
          · subst k3; simp [bytes]
          · have n48 : l ≠ 48 := fun h => k1 (Or.inl h)
            have n49 : l ≠ 49 := fun h => k1 (Or.inr (Or.inl h))
            have n50 : l ≠ 50 := fun h => k1 (Or.inr (Or.inr h))
            simp [bytes, n48, n49, n50, k2, k3]
    | cons r rs =>
      have hl : ((len (bytes (n :: a :: b :: c :: d :: e :: l :: r :: rs)) : Int) ≥ 8) := by simp [len, bytes]; omega
      have h7 : idx (bytes (n :: a :: b :: c :: d :: e :: l :: r :: rs)) 7 = .ok (r : Int) := by simp [idx, bytes]
      simp only [hl, decide_true, if_true, h7, tryR_ok]
      by_cases k1 : l = 48 ∨ l = 49 ∨ l = 50
      · rcases k1 with k | k | k <;> subst k <;> simp [bytes]
      · by_cases k2 : l = 51
        · subst k2; simp [bytes]
        · by_cases k3 : l = 52
          · subst k3; simp [bytes]
          · have n48 : l ≠ 48 := fun h => k1 (Or.inl h)
            have n49 : l ≠ 49 := fun h => k1 (Or.inr (Or.inl h))
            have n50 : l ≠ 50 := fun h => k1 (Or.inr (Or.inr h))
            simp [bytes, n48, n49, n50, k2, k3]

end Gzx.Obligations.K03w
