/-
  K08bDecAll — composition of the whole regenerated `DataBlocks_getDataBlocks` (`Gzx.Gen.K08b.getDataBlocks`) with the
  model: the block-count sum, the construction of the empty `[]DataBlock` (flattened into the two field lists), the reads
  of `len(result[0].codewords)`, the three fill loops (`k_getDataBlocks_part1/2/3` of K08bDec) and the final length check.
  `k_getDataBlocks_eq`: for EVERY version description and EVERY raw codeword vector on which the model does not panic
  (i.e. it returns the blocks or the FormatException) the regenerated function returns the same blocks / the same error.
  (The panic cases are excluded because the fill loops are followed on the model's success path only (`target_step`,
  `loop_fill` of Proofs/DMTieDec.lean); besides, the model's panic messages name the failing expression and the kernel's do not.
  `getDataBlocks_sat`, Proofs/TotalDMDec.lean, proves the model panic-free on every checked table version with
  `totalCodewords` raw codewords, which discharges `hnp` there.)
-/
import Gzx.Obligations.K08bDec
namespace Gzx.Obligations.K08b
open Gzx Gzx.GoM Gzx.GoVal

/-- what the regenerated function must return for a result of the model: the blocks as the two field lists of
    `[]DataBlock`; FormatException returns `nil` -/
def expDB : Res (List (Nat × List Nat)) → Res (List Int × List (List Int) × Bool)
  | .ok blocks => .ok (words (blocks.map Prod.fst), blocks.map (fun b => words b.2), false)
  | .error .format => .ok ([], [], true)
  | .error e => .error e

when_kernel Gzx.Gen.K08b.getDataBlocks in
/-- the kernel on a model version: `*Version -> *ECBlocks -> []ECB` flattened into the version number, the error codeword
    count and the two field lists of the EC-block descriptions -/
def genDB (raw : List Nat) (v : DMDec.Version) : Res (List Int × List (List Int) × Bool) :=
  Gen.K08b.getDataBlocks (words raw) (v.versionNumber : Int) (v.ecCodewords : Int)
    (words (v.ecBlocks.map (·.count))) (words (v.ecBlocks.map (·.dataCodewords)))

/-! ## the block-count sum -/

when_kernel Gzx.Gen.K08b.getDataBlocks in
theorem loopA_eq (cs : List Nat) :
    loop (Gen.K08b.getDataBlocks_body1 (words cs)) 1 (tripUp 0 (len (words cs)) 1) 0 (0 : Int) = .next ((cs.sum : Nat) : Int) := by
  have htrip : tripUp 0 (len (words cs)) 1 = cs.length := by rw [tripUp_one, len_words]; omega
  rw [htrip]
  obtain ⟨st', hloop, hst⟩ := loop_inv_up (Gen.K08b.getDataBlocks_body1 (words cs))
    (fun i st => st = (((cs.take i).sum : Nat) : Int)) 0 cs.length
    (by
      intro i st hi hst
      subst hst
      refine ⟨_, ?_, rfl⟩
      simp only [Gen.K08b.getDataBlocks_body1, Nat.zero_add]
      rw [idx_words_lt cs i hi]
      simp only [tryC_ok]
      have hs : (List.take (i + 1) cs).sum = (List.take i cs).sum + cs[i] := sum_take_succ cs i hi
      have hg : cs.getD i 0 = cs[i] := by simp [List.getD_eq_getElem?_getD, List.getElem?_eq_getElem hi]
      rw [hs, hg]; simp)
    cs.length 0 0 (by omega) rfl
  have e0 : ((0 + 0 : Nat) : Int) = 0 := rfl
  rw [e0] at hloop
  rw [hloop, hst, List.take_length]

/-! ## the empty blocks -/

/-- (numDataCodewords, total length) of the blocks of a list of EC-block descriptions -/
def shapesOf (ec : Nat) (bs : List DMDec.ECB) : List (Nat × Nat) :=
  bs.flatMap (fun b => List.replicate b.count (b.dataCodewords, ec + b.dataCodewords))

theorem shapesOf_length (ec : Nat) (bs : List DMDec.ECB) : (shapesOf ec bs).length = (bs.map (·.count)).sum := by
  induction bs with
  | nil => rfl
  | cons b bs ih => simp [shapesOf, List.flatMap_cons] at ih ⊢

/-- the state of the construction loops after the blocks `pre` have been set up (of `N` in total) -/
def emb (N : Nat) (pre : List (Nat × Nat)) : List Int × List (List Int) × Int :=
  (words (pre.map Prod.fst ++ List.replicate (N - pre.length) 0),
   cwI (pre.map (fun s => List.replicate s.2 0) ++ List.replicate (N - pre.length) []),
   (pre.length : Int))

when_kernel Gzx.Gen.K08b.getDataBlocks in
/-- one round of the inner construction loop sets up the next empty block: `dc` data codewords, `ec + dc` zeros -/
theorem body3_emb (N ec dc : Nat) (q : List (Nat × Nat)) (hq : q.length < N) (i : Int) :
    Gen.K08b.getDataBlocks_body3 (ec : Int) (dc : Int) i (emb N q) = .next (emb N (q ++ [(dc, ec + dc)])) := by
  simp only [Gen.K08b.getDataBlocks_body3, emb]
  have hl1 : q.length < (q.map Prod.fst ++ List.replicate (N - q.length) 0).length := by simp; omega
  rw [setIdx_words_lt _ _ _ q.length dc rfl rfl hl1]
  simp only [tryC_ok]
  have e1 : (ec : Int) + (dc : Int) = ((ec + dc : Nat) : Int) := by omega
  rw [e1, mk_words']
  simp only [tryC_ok]
  have hl2 : q.length < (q.map (fun s : Nat × Nat => List.replicate s.2 0) ++ List.replicate (N - q.length) ([] : List Nat)).length := by
    simp; omega
  rw [setIdxLL_cwI _ _ q.length _ rfl hl2]
  simp only [tryC_ok]
  have a1 := set_append_replicate (q.map Prod.fst) (N - q.length) 0 dc (by omega)
  have a2 := set_append_replicate (q.map (fun s : Nat × Nat => List.replicate s.2 0)) (N - q.length) ([] : List Nat)
    (List.replicate (ec + dc) 0) (by omega)
  simp only [List.length_map] at a1 a2
  rw [a1, a2]
  simp only [List.map_append, List.map_cons, List.map_nil, List.length_append, List.length_singleton]
  have e2 : N - q.length - 1 = N - (q.length + 1) := by omega
  have e3 : (q.length : Int) + 1 = ((q.length + 1 : Nat) : Int) := by omega
  rw [e2, e3]

when_kernel Gzx.Gen.K08b.getDataBlocks in
/-- the inner construction loop: `c` equal blocks for one EC-block description -/
theorem loopB_inner (N ec dc c : Nat) (pre : List (Nat × Nat)) (h : pre.length + c ≤ N) :
    loop (Gen.K08b.getDataBlocks_body3 (ec : Int) (dc : Int)) 1 c 0 (emb N pre) =
      .next (emb N (pre ++ List.replicate c (dc, ec + dc))) := by
  have hinv0 : emb N pre = emb N (pre ++ List.replicate 0 (dc, ec + dc)) := by simp
  obtain ⟨st', hloop, hst⟩ := loop_inv_up (Gen.K08b.getDataBlocks_body3 (ec : Int) (dc : Int))
    (fun m st => st = emb N (pre ++ List.replicate m (dc, ec + dc))) 0 c
    (by
      intro m st hm hst
      subst hst
      refine ⟨_, body3_emb N ec dc _ (by simp; omega) _, ?_⟩
      rw [List.append_assoc, ← List.replicate_succ']
      )
    c 0 (emb N pre) (Nat.zero_add c) hinv0
  have e0 : ((0 + 0 : Nat) : Int) = 0 := rfl
  rw [e0] at hloop
  rw [hloop, hst]

theorem shapesOf_take_succ (ec : Nat) (bs : List DMDec.ECB) (p : Nat) (hp : p < bs.length) :
    shapesOf ec (bs.take (p + 1)) =
      shapesOf ec (bs.take p) ++ List.replicate bs[p].count (bs[p].dataCodewords, ec + bs[p].dataCodewords) := by
  rw [List.take_add_one, List.getElem?_eq_getElem hp]
  unfold shapesOf
  rw [List.flatMap_append]
  simp

theorem shapesOf_take_le (ec : Nat) (bs : List DMDec.ECB) (p : Nat) :
    (shapesOf ec (bs.take p)).length ≤ (shapesOf ec bs).length := by
  have : shapesOf ec bs = shapesOf ec (bs.take p) ++ shapesOf ec (bs.drop p) := by
    unfold shapesOf; rw [← List.flatMap_append, List.take_append_drop]
  rw [this, List.length_append]; omega

when_kernel Gzx.Gen.K08b.getDataBlocks in
/-- the outer construction loop over the EC-block descriptions leaves the empty blocks of `shapesOf` -/
theorem loopB_eq (ec : Nat) (bs : List DMDec.ECB) :
    loop (Gen.K08b.getDataBlocks_body2 (ec : Int) (words (bs.map (·.count))) (words (bs.map (·.dataCodewords)))) 1
        (tripUp 0 (len (words (bs.map (·.count)))) 1) 0 (emb (shapesOf ec bs).length []) =
      .next (emb (shapesOf ec bs).length (shapesOf ec bs)) := by
  have htrip : tripUp 0 (len (words (bs.map (·.count)))) 1 = bs.length := by rw [tripUp_one, len_words]; simp
  rw [htrip]
  obtain ⟨st', hloop, hst⟩ := loop_inv_up
    (Gen.K08b.getDataBlocks_body2 (ec : Int) (words (bs.map (·.count))) (words (bs.map (·.dataCodewords))))
    (fun p st => st = emb (shapesOf ec bs).length (shapesOf ec (bs.take p))) 0 bs.length
    (by
      intro p st hp hst
      subst hst
      refine ⟨_, ?_, rfl⟩
      simp only [Gen.K08b.getDataBlocks_body2, Nat.zero_add]
      rw [idx_words_lt _ p (by simpa using hp)]
      simp only [tryC_ok]
      rw [idx_words_lt _ p (by simpa using hp)]
      simp only [tryC_ok]
      have g1 : (bs.map (·.count)).getD p 0 = bs[p].count := by
        simp [List.getD_eq_getElem?_getD, List.getElem?_eq_getElem hp]
      have g2 : (bs.map (·.dataCodewords)).getD p 0 = bs[p].dataCodewords := by
        simp [List.getD_eq_getElem?_getD, List.getElem?_eq_getElem hp]
      rw [g1, g2]
      have htr : tripUp 0 ((bs[p].count : Nat) : Int) 1 = bs[p].count := by rw [tripUp_one]; omega
      have hle := shapesOf_take_le ec bs (p + 1)
      rw [shapesOf_take_succ ec bs p hp, List.length_append, List.length_replicate] at hle
      rw [htr, loopB_inner _ ec bs[p].dataCodewords bs[p].count _ hle]
      simp only [next_thenC]
      rw [shapesOf_take_succ ec bs p hp])
    bs.length 0 (emb (shapesOf ec bs).length []) (by omega) (by simp [shapesOf])
  have e0 : ((0 + 0 : Nat) : Int) = 0 := rfl
  rw [e0] at hloop
  rw [hloop, hst, List.take_length]

/-! ## the whole function -/

when_kernel Gzx.Gen.K08b.getDataBlocks in
/-- `DataBlocks_getDataBlocks(rawCodewords, version)` = `DMDec.getDataBlocks`, for every version description and every raw
    codeword vector on which the model returns blocks or the FormatException -/
theorem k_getDataBlocks_eq (raw : List Nat) (v : DMDec.Version)
    (hnp : ∀ s, DMDec.getDataBlocks raw v ≠ .error (.panic s)) :
    genDB raw v = expDB (DMDec.getDataBlocks raw v) := by
  have hshapes : DMDec.blockShapes v = shapesOf v.ecCodewords v.ecBlocks := rfl
  unfold genDB
  simp only [Gen.K08b.getDataBlocks]
  rw [loopA_eq]
  simp only [next_thenR]
  rw [← shapesOf_length v.ecCodewords v.ecBlocks, mk_words', mkLL_nat]
  simp only [tryR_ok]
  have hinit : (words (List.replicate (shapesOf v.ecCodewords v.ecBlocks).length 0),
      cwI (List.replicate (shapesOf v.ecCodewords v.ecBlocks).length []), (0 : Int)) =
      emb (shapesOf v.ecCodewords v.ecBlocks).length [] := by simp [emb]
  rw [hinit, loopB_eq]
  simp only [next_thenR, emb, Nat.sub_self, List.replicate_zero, List.append_nil]
  unfold DMDec.getDataBlocks at hnp ⊢
  cases hsh : shapesOf v.ecCodewords v.ecBlocks with
  | nil =>
    exfalso
    have : DMDec.dbTargets v = .error (.panic "index out of range: result[0]") := by
      unfold DMDec.dbTargets; rw [hshapes, hsh]
    rw [this] at hnp
    exact hnp _ rfl
  | cons s0 rest =>
    obtain ⟨d0, L0⟩ := s0
    by_cases hL : L0 < v.ecCodewords + 1
    · exfalso
      have : DMDec.dbTargets v = .error (.panic "negative loop bound / index -1") := by
        unfold DMDec.dbTargets; rw [hshapes, hsh]; simp only [hL, if_true]
      rw [this] at hnp
      exact hnp _ rfl
    · have hts := dbTargets_parts v d0 L0 rest (by rw [hshapes, hsh]) hL
      rw [hts] at hnp ⊢
      simp only [] at hnp ⊢
      rw [hshapes, hsh] at hnp ⊢
      generalize hN : ((d0, L0) :: rest).length = N at hnp ⊢
      generalize hb0 : ((d0, L0) :: rest).map (fun s => List.replicate s.2 0) = blocks0 at hnp ⊢
      generalize hts1 : part1 N (L0 - v.ecCodewords - 1) = ts1 at hnp ⊢
      generalize hts2 : part2 (if (v.versionNumber == 24) = true then 8 else N) (L0 - v.ecCodewords) = ts2 at hnp ⊢
      generalize hts3 : part3 (v.versionNumber == 24) N (L0 - v.ecCodewords) (L0 - (L0 - v.ecCodewords)) = ts3 at hnp ⊢
      -- both outcomes of the model give the three partial fills
      have hfill : ∃ bF, fillFrom raw (ts1 ++ ts2 ++ ts3) 0 blocks0 = some bF ∧
          ((DMDec.fillBlocks (ts1 ++ ts2 ++ ts3) raw blocks0 = .ok bF ∧ raw.length = (ts1 ++ ts2 ++ ts3).length) ∨
           (DMDec.fillBlocks (ts1 ++ ts2 ++ ts3) raw blocks0 = .error .format ∧ (ts1 ++ ts2 ++ ts3).length < raw.length)) := by
        cases hfb : DMDec.fillBlocks (ts1 ++ ts2 ++ ts3) raw blocks0 with
        | ok bF =>
          have := fillBlocks_ok raw (ts1 ++ ts2 ++ ts3) 0 blocks0 bF (by omega) (by simpa using hfb)
          exact ⟨bF, this.1, Or.inl ⟨rfl, by omega⟩⟩
        | error e =>
          rcases fillBlocks_err _ _ _ e hfb with rfl | ⟨s, rfl⟩
          · obtain ⟨bF, h1, h2⟩ := fillBlocks_format raw (ts1 ++ ts2 ++ ts3) 0 blocks0 (by omega) (by simpa using hfb)
            exact ⟨bF, h1, Or.inr ⟨rfl, by omega⟩⟩
          · exfalso; rw [hfb] at hnp; exact hnp s rfl
      obtain ⟨bF, hF, hout⟩ := hfill
      rw [List.append_assoc, fillFrom_append] at hF
      cases h1 : fillFrom raw ts1 0 blocks0 with
      | none => rw [h1] at hF; cases hF
      | some b1 =>
        rw [h1, Option.bind_some, fillFrom_append] at hF
        cases h2 : fillFrom raw ts2 (0 + ts1.length) b1 with
        | none => rw [h2] at hF; cases hF
        | some b2 =>
          rw [h2, Option.bind_some] at hF
          have hrow0 : blocks0[0]? = some (List.replicate L0 0) := by rw [← hb0]; simp
          rw [idxL_cwI blocks0 0 0 _ rfl hrow0]
          simp only [tryR_ok, len_words, List.length_replicate]
          have hS : ((L0 : Int) - (v.ecCodewords : Int) - 1) = ((L0 - v.ecCodewords - 1 : Nat) : Int) := by omega
          have hLl : ((L0 : Int) - (v.ecCodewords : Int)) = ((L0 - v.ecCodewords : Nat) : Int) := by omega
          rw [hS, hLl]
          have htr1 : tripUp 0 ((L0 - v.ecCodewords - 1 : Nat) : Int) 1 = L0 - v.ecCodewords - 1 := by
            rw [tripUp_one]; omega
          rw [htr1]
          have e0 : ((0 : Nat) : Int) = 0 := rfl
          have p1 := k_getDataBlocks_part1 raw blocks0 b1 0 N (L0 - v.ecCodewords - 1) (by rw [hts1]; exact h1)
          rw [hts1, e0] at p1
          rw [p1]
          simp only [next_thenR]
          rw [show (24 : Int) = ((24 : Nat) : Int) from rfl, natCast_beq]
          have hNL : (if (v.versionNumber == 24) = true then (8 : Int) else (N : Int)) =
              (((if (v.versionNumber == 24) = true then 8 else N) : Nat) : Int) := by split <;> rfl
          rw [hNL]
          have htr2 : tripUp 0 (((if (v.versionNumber == 24) = true then 8 else N) : Nat) : Int) 1 =
              (if (v.versionNumber == 24) = true then 8 else N) := by rw [tripUp_one]; omega
          rw [htr2]
          have p2 := k_getDataBlocks_part2 raw b1 b2 (0 + ts1.length) (if (v.versionNumber == 24) = true then 8 else N)
            (L0 - v.ecCodewords) (by omega) (by rw [hts2]; exact h2)
          rw [hts2] at p2
          rw [p2]
          simp only [next_thenR]
          -- block 0 still has L0 cells
          have hshape2 : b2.map List.length = blocks0.map List.length := by
            rw [fillFrom_shape raw ts2 _ b1 b2 h2, fillFrom_shape raw ts1 _ blocks0 b1 h1]
          have hshapeF : bF.map List.length = blocks0.map List.length := by
            rw [fillFrom_shape raw ts3 _ b2 bF hF, hshape2]
          obtain ⟨r, b2', hb2, hrl⟩ : ∃ r b2', b2 = r :: b2' ∧ r.length = L0 := by
            rw [← hb0] at hshape2
            cases b2 with
            | nil => simp at hshape2
            | cons r b2' =>
              simp only [List.map_cons, List.length_replicate] at hshape2
              injection hshape2 with h _
              exact ⟨r, b2', rfl, h⟩
          rw [hb2, idxL_cwI (r :: b2') 0 0 r rfl rfl]
          simp only [tryR_ok, len_words, hrl]
          have htr3 : tripUp ((L0 - v.ecCodewords : Nat) : Int) (L0 : Int) 1 = L0 - (L0 - v.ecCodewords) := by
            rw [tripUp_one]; omega
          rw [htr3]
          have p3 := k_getDataBlocks_part3 raw b2 bF (0 + ts1.length + ts2.length) N (L0 - v.ecCodewords)
            (L0 - (L0 - v.ecCodewords)) (v.versionNumber == 24) (by omega) (by rw [hts3]; exact hF)
          rw [hts3, hb2] at p3
          rw [p3]
          simp only [next_thenR]
          rw [natCast_bne]
          have htot : 0 + ts1.length + ts2.length + ts3.length = (ts1 ++ ts2 ++ ts3).length := by
            simp [List.length_append]; omega
          rw [htot]
          rcases hout with ⟨hfb, hlen⟩ | ⟨hfb, hlen⟩
          · rw [hfb]
            have hb : ((ts1 ++ ts2 ++ ts3).length != raw.length) = false := by simp [hlen]
            simp only [hb, Bool.false_eq_true, if_false, expDB]
            have hlenF : bF.length = ((d0, L0) :: rest).length := by
              have := congrArg List.length hshapeF
              rw [← hb0] at this
              simpa using this
            have hle : (List.map (fun x : Nat × Nat => x.fst) ((d0, L0) :: rest)).length ≤ bF.length := by
              simp only [List.length_map]; omega
            have z1 : (((List.map (fun x => x.fst) ((d0, L0) :: rest)).zip bF).map Prod.fst) =
                List.map Prod.fst ((d0, L0) :: rest) := by
              rw [List.map_fst_zip hle]
            have z2 : (((List.map (fun x => x.fst) ((d0, L0) :: rest)).zip bF).map (fun b => words b.2)) = cwI bF := by
              have hs : (((List.map (fun x => x.fst) ((d0, L0) :: rest)).zip bF).map Prod.snd) = bF :=
                List.map_snd_zip (by simp only [List.length_map]; omega)
              have hm : (((List.map (fun x => x.fst) ((d0, L0) :: rest)).zip bF).map (fun b => words b.2)) =
                  ((((List.map (fun x => x.fst) ((d0, L0) :: rest)).zip bF).map Prod.snd).map words) := by
                rw [List.map_map]; rfl
              rw [hm, hs]
            rw [z1, z2]
          · rw [hfb]
            have hb : ((ts1 ++ ts2 ++ ts3).length != raw.length) = true := by
              apply bne_iff_ne.mpr; omega
            simp only [hb, if_true, expDB]

/-- non-vacuity of the hypothesis: on the 52x52 version (15: two interleaved blocks) with its 288 raw codewords the model
    returns blocks, so it returns no panic (the same holds for every table version; kernel evaluation of the 2178
    codewords of 144x144 is left to the correspondence suite) -/
example : ∃ v ∈ DMDec.versions, v.ecBlocks = [⟨2, 102⟩] ∧
    ∀ s, DMDec.getDataBlocks (List.replicate v.totalCodewords 7) v ≠ .error (.panic s) := by
  refine ⟨DMDec.versions.getD 14 default, by decide +kernel, by decide +kernel, ?_⟩
  have h : (DMDec.getDataBlocks (List.replicate (DMDec.versions.getD 14 default).totalCodewords 7)
      (DMDec.versions.getD 14 default)).isOk = true := by decide +kernel
  intro s hs
  rw [hs] at h
  cases h

end Gzx.Obligations.K08b
