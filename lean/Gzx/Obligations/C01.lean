/-
  C01 — per-run obligations over the tables regenerated from /repo that the QR decoder model embeds
  as constants (mode indicators, character-count widths, alphanumeric alphabet) or takes as
  parameters (VERSIONS): a table edit in /repo breaks one of these deterministically.
-/
import Gzx.Driver.QRTables
import Gzx.Proofs.QRTablesWF
import Gzx.Ref.QRPack
import Gzx.Proofs.QRCompRead
import Gzx.Proofs.QRCompGF
import Gzx.Driver.C01
import Gzx.Obligations.C07
namespace Gzx.Obligations.C01
open Gzx Gzx.QRDec

/-- every `NewMode(counts, bits)` of mode.go equals the model's `Mode.countTable` / `Mode.bits` -/
theorem mode_table_matches :
    QRTables.genModes.all (fun mg => modeOfGoVal mg.2 == some (mg.1.countTable, mg.1.bits)) = true := by
  decide +kernel

/-- the mode indicators are pairwise distinct and `ModeForBits` inverts `Mode.bits` -/
theorem mode_bits_roundtrip :
    QRTables.genModes.all (fun mg => modeForBits mg.1.bits == .ok mg.1) = true := by decide +kernel

/-- the model's count widths are those of ISO 18004 Table 3 (the reference packing's `countWidth`) for
    every version 1..40 — i.e. the class boundaries are 9|10 and 26|27 -/
theorem count_widths_standard :
    (List.range 41).all (fun v =>
      countBits .numeric v == .ok (QRPack.countWidth 0 v) && countBits .alphanumeric v == .ok (QRPack.countWidth 1 v) &&
      countBits .byte v == .ok (QRPack.countWidth 2 v) && countBits .kanji v == .ok (QRPack.countWidth 3 v)) = true := by
  decide +kernel

/-- ALPHANUMERIC_CHARS of the decoder equals the model's alphabet … -/
theorem alphanumeric_chars_match :
    Gen.C01Mode.ALPHANUMERIC_CHARS.asStr?.map (fun s => s.toList.map Char.toNat) = some alnumChars := by
  decide +kernel

/-- … and the encoder's alphanumericTable is its inverse (code c at byte ALPHANUMERIC_CHARS[c], -1 elsewhere) -/
theorem encoder_alphanumeric_table_inverse :
    (Gen.C01Mode.encAlphanumericTable.asIntList?.map (fun t =>
      (List.range 45).all (fun c => match alnumChars[c]? with
        | some ch => t[ch]? == some (Int.ofNat c)
        | none => false) &&
      decide ((t.filter (· ≠ -1)).length = 45))) = some true := by
  decide +kernel

/-- `ErrorCorrectionLevel_ForBits` (translated kernel) agrees with the model: bits ↦ level with those bits -/
theorem ec_for_bits_matches :
    (List.range 6).all (fun b => match ecForBits b with
      | .ok l => Gen.C01Mode.ecForBits (Int.ofNat b) == (Int.ofNat l.bits, false)
      | .error _ => (Gen.C01Mode.ecForBits (Int.ofNat b)).2 == true) = true := by decide +kernel

/-- VERSIONS keeps the structure `interleave_deinterleave` consumes -/
theorem versions_wf : wfVersions QRTables.versions = true := by decide +kernel

/-- the decoder's data masks (translated kernels of data_mask.go) agree with the model's `maskBit` on
    a 12x12 window (two periods of every mask in both directions) — and everywhere:
    `Obligations.C07.dec_mask_formula` holds for all naturals -/
theorem mask_kernels_match :
    (List.range 12).all (fun i => (List.range 12).all (fun j =>
      Gen.QRMask.decMask_0 i j == maskBit 0 i j && Gen.QRMask.decMask_1 i j == maskBit 1 i j &&
      Gen.QRMask.decMask_2 i j == maskBit 2 i j && Gen.QRMask.decMask_3 i j == maskBit 3 i j &&
      Gen.QRMask.decMask_4 i j == maskBit 4 i j && Gen.QRMask.decMask_5 i j == maskBit 5 i j &&
      Gen.QRMask.decMask_6 i j == maskBit 6 i j && Gen.QRMask.decMask_7 i j == maskBit 7 i j)) = true := by
  simp only [List.all_eq_true, Bool.and_eq_true, beq_iff_eq]
  intro i _ j _
  have h : ∀ k, k < 8 → Obligations.C07.decMask k i j = maskBit k i j := fun k hk => by
    rw [Obligations.C07.dec_mask_formula k i j hk, QRComp.maskBit_eq]
  exact ⟨⟨⟨⟨⟨⟨⟨h 0 (by decide), h 1 (by decide)⟩, h 2 (by decide)⟩, h 3 (by decide)⟩, h 4 (by decide)⟩,
    h 5 (by decide)⟩, h 6 (by decide)⟩, h 7 (by decide)⟩

/-- the tables regenerated from /repo (formatInfoDecodeLookup, VERSION_DECODE_INFO, VERSIONS) are those of
    ISO/IEC 18004 as the reference construction computes them — the table hypothesis `TablesConform T` of
    `Properties.C01.qr_roundtrip_*` and `Properties.C05.qr_tolerates_block_errors` -/
theorem tables_conform : QRComp.TablesConform QRTables.tables := by decide +kernel

/-- the executable decoder model that the `c01`/`c05` suites compare with the Go decoder uses exactly the
    tables and the Reed-Solomon decoder the theorems talk about -/
theorem driver_rs_is_rsQR : Gzx.Driver.C01.rs = QRComp.rsQR ∧ Gzx.Driver.C01.T = QRTables.tables := ⟨rfl, rfl⟩

end Gzx.Obligations.C01
