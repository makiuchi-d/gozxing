/-
  C03 — per-run obligations over the tables regenerated from /repo/oned (Gzx.Gen.C03Tables):
  every pattern table, alphabet, guard and threshold the model (`Gzx.OneD.refTables`) uses is what /repo
  holds now; writer and reader copies agree; the well-formedness facts the theorems of Properties/C03.lean
  consume (width sums, pairwise distinct patterns, alphabet sizes) hold for the regenerated data.
-/
import Gzx.Gen.C03Tables
import Gzx.Model.OneD
import Gzx.Proofs.UpceanRead
import Gzx.Proofs.OneDCodabar
namespace Gzx.Obligations.C03
open Gzx Gzx.OneD

def natList (v : GoVal) : List Nat := (v.asNatList?).getD []
def natListList (v : GoVal) : List (List Nat) := (v.asNatListList?).getD []
def bytesOfStr (v : GoVal) : List Nat := ((v.asStr?).getD "").toList.map Char.toNat
def sumN (xs : List Nat) : Nat := xs.foldr (· + ·) 0

/-! ### the regenerated tables are the reference tables the model is instantiated with -/

theorem gen_code128_is_standard :
    Gen.C03Tables.code128Patterns.asNatListList? = some refTables.code128 := by decide +kernel

theorem gen_code39_is_standard :
    Gen.C03Tables.code39Encodings.asNatList? = some refTables.code39Enc ∧
    Gen.C03Tables.code39Asterisk.asNat? = some refTables.code39Asterisk ∧
    bytesOfStr Gen.C03Tables.code39Alphabet = refTables.code39Alphabet := by decide +kernel

theorem gen_code93_is_standard :
    Gen.C03Tables.code93Encodings.asNatList? = some refTables.code93Enc ∧
    bytesOfStr Gen.C03Tables.code93Alphabet = refTables.code93Alphabet := by decide +kernel

/-- ITF: the writer table (wide = 3) is the standard's, and the reader's two copies (wide = 2, wide = 3)
    are the same narrow/wide patterns -/
theorem gen_itf_is_standard :
    Gen.C03Tables.itfWriterPatterns.asNatListList? = some refTables.itfWriter ∧
    Gen.C03Tables.itfReaderPatterns.asNatListList? = some (Ref.OneD.itfPatterns 2 ++ Ref.OneD.itfPatterns 3) ∧
    Gen.C03Tables.itfWriterStart.asNatList? = some refTables.itfStart ∧
    Gen.C03Tables.itfWriterEnd.asNatList? = some refTables.itfEnd ∧
    Gen.C03Tables.itfReaderStart.asNatList? = some refTables.itfStart ∧
    Gen.C03Tables.itfReaderEndReversed.asNatListList? = some [[1, 1, 2], refTables.itfEnd.reverse] ∧
    Gen.C03Tables.itfAllowedLengths.asNatList? = some [6, 8, 10, 12, 14] := by decide +kernel

theorem gen_codabar_is_standard :
    Gen.C03Tables.codabarEncodings.asNatList? = some refTables.codabarEnc ∧
    bytesOfStr Gen.C03Tables.codabarAlphabet = refTables.codabarAlphabet ∧
    Gen.C03Tables.codabarStartEnd.asNatList? = some [65, 66, 67, 68] ∧
    Gen.C03Tables.codabarAltStartEnd.asNatList? = some [84, 78, 42, 69] ∧
    Gen.C03Tables.codabarTenLength.asNatList? = some [47, 58, 43, 46] := by decide +kernel

theorem gen_upcean_is_standard :
    Gen.C03Tables.lPatterns.asNatListList? = some refTables.lPatterns ∧
    Gen.C03Tables.startEndPattern.asNatList? = some refTables.startEnd ∧
    Gen.C03Tables.middlePattern.asNatList? = some refTables.middle ∧
    Gen.C03Tables.endPattern.asNatList? = some refTables.upceEnd ∧
    Gen.C03Tables.upceMiddleEndPattern.asNatList? = some refTables.upceMiddleEnd ∧
    Gen.C03Tables.ean13FirstDigit.asNatList? = some refTables.firstDigit ∧
    Gen.C03Tables.upceParity.asNatListList? = some refTables.upceParity := by decide +kernel

/-- the reader's thresholds are the rationals the model compares with (12/25 and 7/10) -/
theorem gen_thresholds :
    (Gen.C03Tables.maxAvgVariance.asApp? "rat").bind (·.mapM GoVal.asInt?) = some [12, 25] ∧
    (Gen.C03Tables.maxIndividualVariance.asApp? "rat").bind (·.mapM GoVal.asInt?) = some [7, 10] := by decide +kernel

/-! ### well-formedness of the regenerated tables -/

/-- Code 128: 107 patterns, six positive widths summing to 11 (STOP: seven, 13), pairwise distinct -/
theorem gen_code128_wf :
    let T := natListList Gen.C03Tables.code128Patterns
    T.length = 107 ∧ (T.take 106).all (fun p => p.length = 6 ∧ sumN p = 11 ∧ p.all (0 < ·)) = true ∧
    (T.drop 106).all (fun p => p.length = 7 ∧ sumN p = 13 ∧ p.all (0 < ·)) = true ∧ T.Nodup := by
  intro T
  -- the table is the reference table (`gen_code128_is_standard`), whose rows are known to differ
  have e : T = refTables.code128 := by simp only [T, natListList, gen_code128_is_standard, Option.getD_some]
  refine ⟨by decide +kernel, by decide +kernel, by decide +kernel, ?_⟩
  rw [e]
  exact (wf128_rows wf128_ref).2.1

/-- Code 39: 43 encodings + asterisk pairwise distinct, 9-bit words with three wide elements; 43-character alphabet -/
theorem gen_code39_wf :
    let E := natList Gen.C03Tables.code39Encodings
    let star := (Gen.C03Tables.code39Asterisk.asNat?).getD 0
    E.length = 43 ∧ (star :: E).Nodup ∧
    (star :: E).all (fun w => w < 512 ∧ ((bitsMSB 9 w).filter id).length = 3) = true ∧
    (bytesOfStr Gen.C03Tables.code39Alphabet).Nodup ∧ (bytesOfStr Gen.C03Tables.code39Alphabet).length = 43 := by decide +kernel

/-- Code 93: 48 distinct 9-module words that start with a bar and end with a space; 48-character alphabet -/
theorem gen_code93_wf :
    let E := natList Gen.C03Tables.code93Encodings
    E.length = 48 ∧ E.Nodup ∧ E.all (fun w => 256 ≤ w ∧ w < 512 ∧ w % 2 = 0) = true ∧
    (bytesOfStr Gen.C03Tables.code93Alphabet).Nodup ∧ (bytesOfStr Gen.C03Tables.code93Alphabet).length = 48 := by decide +kernel

/-- ITF: ten distinct patterns of five positive widths (9 modules), guards positive -/
theorem gen_itf_wf :
    let W := natListList Gen.C03Tables.itfWriterPatterns
    W.length = 10 ∧ W.Nodup ∧ W.all (fun p => p.length = 5 ∧ sumN p = 9 ∧ p.all (0 < ·)) = true := by decide +kernel

/-- Codabar: twenty distinct 7-bit words, 20-character alphabet -/
theorem gen_codabar_wf :
    let E := natList Gen.C03Tables.codabarEncodings
    E.length = 20 ∧ E.Nodup ∧ E.all (· < 128) = true ∧
    (bytesOfStr Gen.C03Tables.codabarAlphabet).Nodup ∧ (bytesOfStr Gen.C03Tables.codabarAlphabet).length = 20 := by decide +kernel

/-- UPC/EAN: ten L patterns of four positive widths summing to 7; L and G (reversed L) all distinct -/
theorem gen_upcean_wf :
    let L := natListList Gen.C03Tables.lPatterns
    L.length = 10 ∧ L.all (fun p => p.length = 4 ∧ sumN p = 7 ∧ p.all (0 < ·)) = true ∧ (lAndG L).Nodup := by decide +kernel

/-- the UPC/EAN tables exactly as regenerated from /repo (everything else from `refTables`) -/
def genUpcEanTables : Tables :=
  { refTables with
    lPatterns := natListList Gen.C03Tables.lPatterns
    startEnd := natList Gen.C03Tables.startEndPattern
    middle := natList Gen.C03Tables.middlePattern
    upceEnd := natList Gen.C03Tables.endPattern
    upceMiddleEnd := natList Gen.C03Tables.upceMiddleEndPattern
    firstDigit := natList Gen.C03Tables.ean13FirstDigit
    upceParity := natListList Gen.C03Tables.upceParity }

/-- the hypothesis of `upcean_read_write` / `upcean_read_write_rendered` holds for the tables /repo has now:
    L patterns 4 positive widths summing to 7, the twenty L/G patterns pairwise distinct, guards positive with
    odd / odd / even run counts, reader's UPC-E end pattern = writer's, parity words distinct and below 64 -/
theorem gen_upcean_wf_read : WFUpcEan genUpcEanTables = true := by decide +kernel

/-- guard widths the quiet-zone hypotheses are stated with: 3 modules (start, end), 6 (UPC-E end) -/
theorem gen_upcean_guard_widths :
    OneD.sumL genUpcEanTables.startEnd = 3 ∧ OneD.sumL (endGuardOf genUpcEanTables .ean13) = 3 ∧
    OneD.sumL (endGuardOf genUpcEanTables .upce) = 6 := by decide +kernel

/-- the hypotheses of `codabar_read_write` for the table /repo has now (alphabet: `gen_codabar_is_standard`) -/
theorem gen_codabar_wf_read :
    WFCodabar { refTables with codabarEnc := natList Gen.C03Tables.codabarEncodings } = true := by decide +kernel

end Gzx.Obligations.C03
