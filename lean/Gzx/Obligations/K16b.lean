/-
  K16b — whole BitMatrix methods regenerated from /repo's bit_matrix.go on every run (`Gzx.Gen.K16b`, translator kind
  `funcm`: the receiver's fields are threaded through, the written ones are returned) and proved
  equal to the hand-written WORD model of Model/Bits.lean (`WMat.*`), the model whose refinement to the naive bit grid
  Properties/C16.lean proves.  Every theorem is for ALL matrices `m` (no invariant needed unless stated) and all
  natural-number arguments, including the panics of a corrupt matrix and the checked errors.
  Conventions: `words ws` is the Go `[]uint32` of a model word list; a Go `error` result is `true` = failed.
-/
import Gzx.Gen.K16b
import Gzx.KernelGuard
import Gzx.Proofs.BitsTie
namespace Gzx.Obligations.K16b
open Gzx Gzx.GoM Gzx.Bits Gzx.GoVal

when_kernel Gzx.Gen.K16b.matrixSet in
/-- `BitMatrix.Set(x, y)` = `WMat.set`: word `y*rowSize + x/32`, `|= 1 << (x%32)` in 32-bit arithmetic, index panic -/
theorem k_matrixSet_eq (m : WMat) (x y : Nat) :
    Gen.K16b.matrixSet m.rowSize (words m.words) x y = expW (WMat.set m x y) := by
  simp only [Gen.K16b.matrixSet, WMat.set, expW]
  rw [updR m.words (y * m.rowSize + x / 32) (fun w => w ||| 1 <<< (x % 32))]
  · cases updWord m.words (y * m.rowSize + x / 32) _ <;> rfl
  · exact cellWord_natCast ..
  · exact cellWord_natCast ..
  · intro w; rw [bit32_natCast, ior_natCast]

when_kernel Gzx.Gen.K16b.matrixUnset in
/-- `BitMatrix.Unset(x, y)` = `WMat.unset` (`&= ^(1 << (x%32))`) -/
theorem k_matrixUnset_eq (m : WMat) (x y : Nat) :
    Gen.K16b.matrixUnset m.rowSize (words m.words) x y = expW (WMat.unset m x y) := by
  simp only [Gen.K16b.matrixUnset, WMat.unset, expW]
  rw [updR m.words (y * m.rowSize + x / 32) (fun w => w &&& not32 (1 <<< (x % 32)))]
  · cases updWord m.words (y * m.rowSize + x / 32) _ <;> rfl
  · exact cellWord_natCast ..
  · exact cellWord_natCast ..
  · intro w
    rw [bit32_natCast, not32_natCast _ (one_shl_lt _ (Nat.mod_lt _ (by decide))), iand_natCast]

when_kernel Gzx.Gen.K16b.matrixFlip in
/-- `BitMatrix.Flip(x, y)` = `WMat.flip` (`^= 1 << (x%32)`) -/
theorem k_matrixFlip_eq (m : WMat) (x y : Nat) :
    Gen.K16b.matrixFlip m.rowSize (words m.words) x y = expW (WMat.flip m x y) := by
  simp only [Gen.K16b.matrixFlip, WMat.flip, expW]
  rw [updR m.words (y * m.rowSize + x / 32) (fun w => w ^^^ 1 <<< (x % 32))]
  · cases updWord m.words (y * m.rowSize + x / 32) _ <;> rfl
  · exact cellWord_natCast ..
  · exact cellWord_natCast ..
  · intro w; rw [bit32_natCast, ixor_natCast]

when_kernel Gzx.Gen.K16b.matrixSetRegion in
/-- `BitMatrix.SetRegion(left, top, width, height)` = `WMat.setRegion`: the three argument checks (error, matrix unchanged),
    then for every row `y` in `[top, top+height)` the row offset `y*rowSize` and for every `x` in `[left, left+width)`
    `bits[offset + x/32] |= 1 << (x%32)`; an index panic of a corrupt matrix at the same iteration -/
theorem k_matrixSetRegion_eq (m : WMat) (left top width height : Nat) :
    Gen.K16b.matrixSetRegion m.width m.height m.rowSize (words m.words) left top width height =
      expEW m.words (WMat.setRegion m left top width height) := by
  simp only [Gen.K16b.matrixSetRegion, WMat.setRegion]
  by_cases h1 : height < 1 ∨ width < 1
  · resolve_ifs; rfl
  by_cases h2 : top + height > m.height ∨ left + width > m.width
  · resolve_ifs; rfl
  resolve_ifs
  generalize hF : (fun (ws : List Nat) (y : Nat) => (List.range' left width).foldlM
        (fun ws x => updWord ws (y * m.rowSize + x / 32) (fun w => w ||| 1 <<< (x % 32))) ws) = F
  rw [loop_up_fold' words F top height m.words rfl (by rw [tripUp_one]; omega) rfl, ofRes_thenR]
  · cases hf : (List.range' top height).foldlM F m.words with
    | ok ws => rfl
    | error e =>
      refine (expEW_error _ ?_).symm
      subst hF
      exact foldlM_error NotArg _ (fun t a e h => foldlM_error NotArg _ (fun t a e h => updWord_error h) _ _ _ h) _ _ _ hf
  · subst hF
    intro y _ _ ws
    simp only [Gen.K16b.matrixSetRegion_body1]
    rw [loop_up_fold' words (fun ws x => updWord ws (y * m.rowSize + x / 32) (fun w => w ||| 1 <<< (x % 32))) left width ws rfl
          (by rw [tripUp_one]; omega) rfl, ofRes_thenC_next]
    · intro x _ _ ws
      simp only [Gen.K16b.matrixSetRegion_body2]
      rw [updC ws (y * m.rowSize + x / 32) (fun w => w ||| 1 <<< (x % 32))]
      · cases updWord ws (y * m.rowSize + x / 32) _ <;> rfl
      · rw [← Int.natCast_mul]; exact cellWord_natCast ..
      · rw [← Int.natCast_mul]; exact cellWord_natCast ..
      · intro w; rw [bit32_natCast, ior_natCast]

when_kernel Gzx.Gen.K16b.matrixClear in
/-- `BitMatrix.Clear()` = `WMat.clear`: every word becomes 0 (loop over `len(b.bits)`, no panic) -/
theorem k_matrixClear_eq (m : WMat) :
    Gen.K16b.matrixClear (words m.words) = .ok (words (WMat.clear m).words) := by
  simp only [Gen.K16b.matrixClear, WMat.clear]
  rw [loop_up_fold' words (fun ws i => updWord ws i (fun _ => 0)) 0 m.words.length m.words rfl
        (by rw [tripUp_one]; gonorm; omega) (by omega), foldlM_updWord_all]
  · rfl
  · intro i _ _ ws
    simp only [Gen.K16b.matrixClear_body1]
    rw [setC ws i 0 _ (by omega) (by omega), setWord_eq_updWord]
    cases updWord ws i _ <;> rfl

end Gzx.Obligations.K16b
