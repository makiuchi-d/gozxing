/-
  K03w (continued) — `itfEncoder.encodeWithHints` regenerated and proved equal to the model's `itfModules`
  (Model/OneD.lean) for every byte string.
-/
import Gzx.Obligations.K03w
namespace Gzx.Obligations.K03w
open Gzx Gzx.GoM Gzx.CheckDigit Gzx.OneD Gzx.K03w

variable {ρ : Type}

/-! ## the pattern of a digit pair -/

/-- the ten interleaved widths of the digit pair at positions `i`, `i+1` -/
def itfPat (full : List Nat) (i : Nat) : List Nat :=
  interleave (rowAt refTables.itfWriter ((full[i]?.getD 48) - 48)) (rowAt refTables.itfWriter ((full[i + 1]?.getD 48) - 48))

/-- the state of a loop that has not left by `return` / `break` / panic -/
def nextOf {σ : Type} : Ctl σ ρ → Option σ
  | .next s => some s
  | _ => none

theorem nextOf_eq {σ : Type} (c : Ctl σ ρ) (s : σ) (h : nextOf c = some s) : c = .next s := by
  cases c <;> simp [nextOf] at h
  subst h; rfl

when_kernel Gzx.Gen.K03w.itfEncode in
theorem tbl_ITF : Gen.K03w.tbl2_itfWriter_PATTERNS = rows refTables.itfWriter := by decide +kernel
when_kernel Gzx.Gen.K03w.itfEncode in
theorem tbl_ITFS : Gen.K03w.tbl_itfWriter_START_PATTERN = refTables.itfStart.map Int.ofNat := by decide +kernel
when_kernel Gzx.Gen.K03w.itfEncode in
theorem tbl_ITFE : Gen.K03w.tbl_itfWriter_END_PATTERN = refTables.itfEnd.map Int.ofNat := by decide +kernel

when_kernel Gzx.Gen.K03w.itfEncode in
/-- the inner loop `for j := 0; j < 5; j++ { encoding[2*j] = PATTERNS[one][j]; encoding[2*j+1] = PATTERNS[two][j] }`
    for all hundred digit pairs -/
theorem itf_encoding : ∀ a : Nat, a < 10 → ∀ b : Nat, b < 10 →
    nextOf (loop (Gen.K03w.itfEncode_body2 (a : Int) (b : Int)) 1 (tripUp 0 5 1) 0 [0, 0, 0, 0, 0, 0, 0, 0, 0, 0]) =
      some ((interleave (rowAt refTables.itfWriter a) (rowAt refTables.itfWriter b)).map Int.ofNat) := by
  decide +kernel

theorem itfRow_sum : ∀ a : Nat, a < 10 → ∀ b : Nat, b < 10 →
    OneD.sumL (interleave (rowAt refTables.itfWriter a) (rowAt refTables.itfWriter b)) = 18 := by decide +kernel

theorem itfPat_eq (full : List Nat) (i : Nat) (h : i + 1 < full.length) :
    itfPat full i = interleave (rowAt refTables.itfWriter (full[i] - 48)) (rowAt refTables.itfWriter (full[i + 1] - 48)) := by
  unfold itfPat
  rw [List.getElem?_eq_getElem (by omega : i < full.length), List.getElem?_eq_getElem h]
  rfl

theorem itfPat_sum (full : List Nat) (hd : allDigits full = true) (i : Nat) (h : i + 1 < full.length) :
    OneD.sumL (itfPat full i) = 18 := by
  obtain ⟨a1, a2⟩ := digit_of_all hd i (by omega)
  obtain ⟨b1, b2⟩ := digit_of_all hd (i + 1) h
  rw [itfPat_eq full i h]
  exact itfRow_sum _ (by omega) _ (by omega)

when_kernel Gzx.Gen.K03w.itfEncode in
/-- one iteration of the pair loop of the ITF writer -/
theorem itf_step (full : List Nat) (hd : allDigits full = true) (i : Nat) (h : i + 1 < full.length) :
    Draws (ρ := List Int × Bool) (Gen.K03w.itfEncode_body1 (bytes full) (i : Int))
      (b01 (OneD.appendPattern (itfPat full i) true)) := by
  refine Draws.of_width (OneD.sumL (itfPat full i)) (by rw [b01_length, appendPattern_length]) fun done rest => ?_
  obtain ⟨a1, a2⟩ := digit_of_all hd i (by omega)
  obtain ⟨b1, b2⟩ := digit_of_all hd (i + 1) h
  have e1 : (i : Int) + 1 = ((i + 1 : Nat) : Int) := by omega
  have hmk : mk (10 : Int) = .ok [0, 0, 0, 0, 0, 0, 0, 0, 0, 0] := by decide
  simp only [Gen.K03w.itfEncode_body1, e1]
  rw [idx_bytes_at full _ i rfl (by omega), idx_bytes_at full _ (i + 1) rfl h]
  simp only [tryC_ok, hmk]
  rw [wrap8_digit _ a1 a2, wrap8_digit _ b1 b2,
    nextOf_eq _ _ (itf_encoding (full[i] - 48) (by omega) (full[i + 1] - 48) (by omega))]
  simp only [next_thenC]
  rw [ap_at done rest _ _ true rfl, itfPat_eq full i h]
  generalize interleave (rowAt refTables.itfWriter (full[i] - 48)) (rowAt refTables.itfWriter (full[i + 1] - 48)) = pat
  unfold drawn
  by_cases hf : OneD.sumL pat ≤ rest.length
  · simp only [hf, if_true, tryC_ok, Int.natCast_add]
  · simp only [hf, if_false, tryC_error]

theorem map_range'_shift2 {α : Type} (f : Nat → α) : ∀ (k s : Nat),
    (List.range' (s + 2) k 2).map f = (List.range' s k 2).map (fun i => f (i + 2)) := by
  intro k
  induction k with
  | zero => intro s; rfl
  | succ k ih => intro s; simp only [List.range'_succ, List.map_cons]; rw [ih (s + 2)]

theorem itfPat_cons (a b : Nat) (t : List Nat) (i : Nat) : itfPat (a :: b :: t) (i + 2) = itfPat t i := by
  simp [itfPat]

/-- the model's pair list drawn = the patterns at the even positions -/
theorem itfPairs_draw : ∀ (t : List Nat), allDigits t = true → t.length % 2 = 0 →
    (itfPairs (digitVals t)).mapM (itfPairDraw refTables.itfWriter) =
      .ok ((List.range' 0 (t.length / 2) 2).map (fun i => OneD.appendPattern (itfPat t i) true))
  | [], _, _ => rfl
  | [_], _, h => by simp at h
  | a :: b :: t, hd, hl => by
    have hd' : allDigits t = true := by
      simp only [allDigits, List.all_cons, Bool.and_eq_true] at hd ⊢; exact hd.2.2
    have hl' : t.length % 2 = 0 := by simp at hl; omega
    have ha : 48 ≤ a ∧ a ≤ 57 := by
      have := digit_of_all hd 0 (by simp); simpa using this
    have hb : 48 ≤ b ∧ b ≤ 57 := by
      have := digit_of_all hd 1 (by simp); simpa using this
    have ih := itfPairs_draw t hd' hl'
    have e0 : itfPairDraw refTables.itfWriter (a - 48, b - 48) =
        .ok (OneD.appendPattern (itfPat (a :: b :: t) 0) true) := by
      unfold itfPairDraw
      simp only [nth_rowAt refTables.itfWriter (a - 48) (by show a - 48 < 10; omega),
        nth_rowAt refTables.itfWriter (b - 48) (by show b - 48 < 10; omega), bind, Except.bind, pure, Except.pure]
      simp [itfPat]
    have el : (a :: b :: t).length / 2 = t.length / 2 + 1 := by simp; omega
    have edv : digitVals (a :: b :: t) = (a - 48) :: (b - 48) :: digitVals t := by simp [digitVals]
    rw [edv, el, List.range'_succ, List.map_cons]
    simp only [itfPairs, List.mapM_cons, e0, ih, bind, Except.bind, pure, Except.pure]
    have := map_range'_shift2 (fun i => OneD.appendPattern (itfPat (a :: b :: t) i) true) (t.length / 2) 0
    simp only [Nat.zero_add, itfPat_cons] at this
    rw [this]

theorem itf_start_sum : OneD.sumL refTables.itfStart = 4 := by decide +kernel
theorem itf_end_sum : OneD.sumL refTables.itfEnd = 5 := by decide +kernel

theorem itfModules_ok (s : List Nat) (hd : allDigits s = true) (hl : s.length % 2 = 0) (h80 : s.length ≤ 80) :
    itfModules refTables s = .ok (OneD.appendPattern refTables.itfStart true ++
      ((List.range' 0 (s.length / 2) 2).map fun i => OneD.appendPattern (itfPat s i) true).flatten ++
      OneD.appendPattern refTables.itfEnd true) := by
  have h1 : ¬ s.length % 2 ≠ 0 := by omega
  have h2 : ¬ s.length > 80 := by omega
  unfold itfModules itfSymbols itfDraw
  simp only [h1, h2, hd, if_false, Bool.not_true, Bool.false_eq_true, bind, Except.bind, pure, Except.pure,
    itfPairs_draw s hd hl]

theorem itfModules_err (s : List Nat) (h : ¬ (allDigits s = true ∧ s.length % 2 = 0 ∧ s.length ≤ 80)) :
    itfModules refTables s = .error .writer := by
  unfold itfModules itfSymbols
  simp only [bind, Except.bind, pure, Except.pure, throw, throwThe, MonadExceptOf.throw]
  by_cases h1 : s.length % 2 ≠ 0
  · rw [if_pos h1]
  · rw [if_neg h1]
    by_cases h2 : s.length > 80
    · rw [if_pos h2]
    · rw [if_neg h2]
      have hd : allDigits s = false := by
        cases hh : allDigits s with
        | false => rfl
        | true => exact absurd ⟨hh, by omega, by omega⟩ h
      simp [hd]

when_kernel Gzx.Gen.K03w.itfEncode in
/-- `itfEncoder.encodeWithHints(contents)` for EVERY byte string: the model's `itfModules` (even length, at most 80
    characters, digits only; start pattern, one interleaved ten-element pattern per digit pair, end pattern) as 0/1,
    or a WriterException -/
theorem k_itfEncode_eq (s : List Nat) :
    Gen.K03w.itfEncode (bytes s) = encRes (itfModules refTables s) := by
  have et : Int.tmod (s.length : Int) 2 = ((s.length % 2 : Nat) : Int) := tmod_natCast s.length 2
  simp only [Gen.K03w.itfEncode, len, bytes_length, k_checkNumeric_eq, tryR_ok, et]
  by_cases hl : s.length % 2 = 0
  · have c1 : ((((s.length % 2 : Nat) : Int)) != 0) = false := by rw [hl]; rfl
    simp only [c1, Bool.false_eq_true, if_false]
    by_cases h80 : s.length ≤ 80
    · have c2 : decide ((s.length : Int) > 80) = false := by rw [decide_eq_false_iff_not]; omega
      simp only [c2, Bool.false_eq_true, if_false]
      by_cases hd : allDigits s = true
      · rw [itfModules_ok s hd hl h80]
        simp only [hd, Bool.not_true, bne_self_eq_false, Bool.false_eq_true, if_false, encRes]
        obtain ⟨m, hm⟩ : ∃ m, s.length = 2 * m := ⟨s.length / 2, by omega⟩
        have hhalf : s.length / 2 = m := by omega
        have emk : (9 : Int) + 9 * (s.length : Int) = ((9 + 18 * m : Nat) : Int) := by omega
        rw [emk, mk_zeros, hhalf]
        simp only [tryR_ok, tbl_ITFS, tbl_ITFE]
        rw [ap_at [] _ _ _ true (by rfl)]
        have f1 : (4 : Nat) ≤ 9 + 18 * m := by omega
        simp only [itf_start_sum, List.length_replicate, f1, if_true, tryR_ok]
        rw [Draws.loop_at _ (fun i => b01 (OneD.appendPattern (itfPat s i) true)) 2 m 0 18
          (hb := fun i hi => by
            obtain ⟨j, hj, rfl⟩ := List.mem_range'.mp hi
            exact itf_step s hd _ (by omega))
          (hw := fun i hi => by
            obtain ⟨j, hj, rfl⟩ := List.mem_range'.mp hi
            rw [b01_length, appendPattern_length, itfPat_sum s hd _ (by omega)])]
        rotate_left
        · rfl
        · rw [tripUp_two]; omega
        · rfl
        · simp [b01_length, appendPattern_length, itf_start_sum]
        have f2 : 18 * m ≤ 9 + 18 * m - 4 := by omega
        simp only [drawn, List.length_drop, List.length_replicate, f2, if_true, next_thenR]
        rw [ap_at]
        rotate_left
        · have hl := flatten_length_const ((List.range' 0 m 2).map fun i => b01 (OneD.appendPattern (itfPat s i) true)) 18 (by
            intro r hr
            obtain ⟨i, hi, rfl⟩ := List.mem_map.mp hr
            obtain ⟨j, hj, rfl⟩ := List.mem_range'.mp hi
            rw [b01_length, appendPattern_length, itfPat_sum s hd _ (by omega)])
          simp [b01_length, appendPattern_length, itf_start_sum, hl]
        have f3 : 5 ≤ 9 + 18 * m - 4 - 18 * m := by omega
        simp only [itf_end_sum, List.length_drop, List.length_replicate, f3, if_true, tryR_ok]
        have f4 : 9 + 18 * m - 4 - 18 * m - 5 = 0 := by omega
        simp [b01_append, b01_flatten, Function.comp_def, f4]
      · simp only [itfModules_err s (fun h => hd h.1), encRes, hd]
        rfl
    · have c2 : decide ((s.length : Int) > 80) = true := by rw [decide_eq_true_eq]; omega
      simp only [c2, if_true, itfModules_err s (fun h => h80 h.2.2), encRes]
  · have c1 : ((((s.length % 2 : Nat) : Int)) != 0) = true := by
      have : s.length % 2 = 1 := by omega
      rw [this]; rfl
    simp only [c1, if_true, itfModules_err s (fun h => hl h.2.1), encRes]

when_kernel Gzx.Gen.K03w.itfEncode in
example : Gen.K03w.itfEncode (bytes (bytesOf "123456")) = encRes (itfModules refTables (bytesOf "123456")) :=
  k_itfEncode_eq _

end Gzx.Obligations.K03w
