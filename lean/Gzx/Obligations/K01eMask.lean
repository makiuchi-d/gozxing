/-
  K01e (qrcode/decoder/data_mask.go) — `DataMask.UnmaskBitMatrix(bits, dimension)`: the loop behind `Remask()` and the first step
  of `ReadCodewords`, regenerated on every run into `Gzx.Gen.K01de` with the mask predicate `isMasked` as an ABSTRACT function
  (the eight predicates themselves are regenerated and tied to `QRDec.maskBit` by `Obligations/C01`), proved to compute the model's
  `unmask` for every square matrix with a lawful `Flip`: module (x, y) is flipped exactly when `isMasked(y, x)`.
-/
import Gzx.Obligations.K01eMirror
import Gzx.Gen.K01de
namespace Gzx.Obligations.K01e
open Gzx Gzx.GoM Gzx.GoVal Gzx.QRDec Gzx.Obligations.K01d

/-- `for k := 0; k < d; k++` with an invariant indexed by the number of iterations done -/
theorem loop_inv_upto {σ ρ : Type} (body : Int → σ → Ctl σ ρ) (I : Nat → σ → Prop) (d : Nat)
    (hstep : ∀ k st, k < d → I k st → ∃ st', body (k : Int) st = .next st' ∧ I (k + 1) st') (st : σ) (h0 : I 0 st) :
    ∃ st', loop body 1 (tripUp 0 (d : Int) 1) 0 st = .next st' ∧ I d st' := by
  have ht : tripUp 0 (d : Int) 1 = d := by rw [tripUp_one]; omega
  rw [ht]
  exact loop_inv_next body I d 0 (fun k st hk hI => by rw [Nat.zero_add]; exact hstep k st hk hI) d 0 st (Nat.zero_add d) h0

section
variable {M : Type} (ops : MatOps M) (abs : M → Matrix) (flaw : FlipLaw ops abs) (p : Int → Int → Bool)
include flaw

/-- row `i`: the modules `(0..j-1, i)` done -/
def MaskInner (d i : Nat) (m0 : M) (j : Nat) (m1 : M) : Prop :=
  (abs m1).dim = d ∧ ops.width m1 = ops.width m0 ∧ ops.height m1 = ops.height m0 ∧
    ∀ a b, a < d → b < d →
      (abs m1).bit a b = (if b = i ∧ a < j then ((abs m0).bit a b != p (i : Int) (a : Int)) else (abs m0).bit a b)

/-- the rows `0..i-1` done -/
def MaskOuter (d : Nat) (m0 : M) (i : Nat) (m1 : M) : Prop :=
  (abs m1).dim = d ∧ ops.width m1 = ops.width m0 ∧ ops.height m1 = ops.height m0 ∧
    ∀ a b, a < d → b < d →
      (abs m1).bit a b = (if b < i then ((abs m0).bit a b != p (b : Int) (a : Int)) else (abs m0).bit a b)

when_kernel Gzx.Gen.K01de.unmaskBitMatrix in
theorem k_unmask_inner_step (d i : Nat) (hi : i < d) (m0 : M) (j : Nat) (m1 : M) (hj : j < d)
    (hI : MaskInner ops abs p d i m0 j m1) :
    ∃ m2, Gen.K01de.unmaskBitMatrix_body2 ops p (i : Int) (j : Int) m1 = .next m2 ∧ MaskInner ops abs p d i m0 (j + 1) m2 := by
  obtain ⟨hd, hw, hh, hb⟩ := hI
  -- away from module `(j, i)` the two invariants say the same
  have e : ∀ a b, ¬ (a = j ∧ b = i) → ((b = i ∧ a < j + 1) ↔ (b = i ∧ a < j)) := by omega
  simp only [Gen.K01de.unmaskBitMatrix_body2]
  cases hp : p (i : Int) (j : Int) with
  | false =>
    refine ⟨m1, by simp, hd, hw, hh, fun a b ha hb' => ?_⟩
    rw [hb a b ha hb']
    by_cases c0 : a = j ∧ b = i
    · obtain ⟨rfl, rfl⟩ := c0
      simp [hp]
    · simp only [e a b c0]
  | true =>
    obtain ⟨m2, hf, hd2, hw2, hh2, hb2⟩ := flaw m1 j i (hd.symm ▸ hj) (hd.symm ▸ hi)
    refine ⟨m2, by simp [hf], hd2.trans hd, hw2.trans hw, hh2.trans hh, fun a b ha hb' => ?_⟩
    rw [hb2 a b (hd.symm ▸ ha) (hd.symm ▸ hb'), hb a b ha hb']
    by_cases c0 : a = j ∧ b = i
    · obtain ⟨rfl, rfl⟩ := c0
      simp [hp]
    · simp only [if_neg c0, e a b c0]

when_kernel Gzx.Gen.K01de.unmaskBitMatrix in
theorem k_unmask_outer_step (d : Nat) (m0 : M) (i : Nat) (hi : i < d) (m1 : M) (hI : MaskOuter ops abs p d m0 i m1) :
    ∃ m2, Gen.K01de.unmaskBitMatrix_body1 ops p (d : Int) (i : Int) m1 = .next m2 ∧ MaskOuter ops abs p d m0 (i + 1) m2 := by
  obtain ⟨hd, hw, hh, hb⟩ := hI
  have hI0 : MaskInner ops abs p d i m1 0 m1 := ⟨hd, rfl, rfl, fun a b _ _ => (if_neg (by omega)).symm⟩
  obtain ⟨m2, hl, hd2, hw2, hh2, hb2⟩ := loop_inv_upto (ρ := M) _ (MaskInner ops abs p d i m1) d
    (k_unmask_inner_step ops abs flaw p d i hi m1) m1 hI0
  refine ⟨m2, by simp only [Gen.K01de.unmaskBitMatrix_body1, hl, next_thenC], hd2, hw2.trans hw, hh2.trans hh, fun a b ha hb' => ?_⟩
  rw [hb2 a b ha hb', hb a b ha hb']
  by_cases c : b = i
  · subst c
    simp [ha]
  · have e : b < i + 1 ↔ b < i := by omega
    simp only [c, false_and, if_false, e]

when_kernel Gzx.Gen.K01de.unmaskBitMatrix in
/-- `UnmaskBitMatrix(bits, dimension)` = the model's `unmask` for EVERY square matrix with a lawful `Flip` and every mask predicate:
    no panic, the size is kept, module (x, y) afterwards = module (x, y) before XOR `isMasked(y, x)` -/
theorem k_unmaskBitMatrix_eq (m : M) (d : Nat) (hd : (abs m).dim = d) :
    ∃ m', Gen.K01de.unmaskBitMatrix ops p m (d : Int) = .ok m' ∧ (abs m').dim = d ∧
      ops.width m' = ops.width m ∧ ops.height m' = ops.height m ∧
      ∀ a b, a < d → b < d → (abs m').bit a b = ((abs m).bit a b != p (b : Int) (a : Int)) := by
  have hI0 : MaskOuter ops abs p d m 0 m := ⟨hd, rfl, rfl, fun a b _ _ => (if_neg (by omega)).symm⟩
  obtain ⟨m', hl, hd', hw', hh', hb'⟩ := loop_inv_upto (ρ := M) _ (MaskOuter ops abs p d m) d
    (fun i st hi hI => k_unmask_outer_step ops abs flaw p d m i hi st hI) m hI0
  refine ⟨m', by simp only [Gen.K01de.unmaskBitMatrix, hl, next_thenR], hd', hw', hh', fun a b ha hb => ?_⟩
  rw [hb' a b ha hb, if_pos hb]

end

when_kernel Gzx.Gen.K01de.unmaskBitMatrix in
/-- with the `k`-th mask predicate of the model: the result is `QRDec.unmask k` (inside the matrix) -/
theorem k_unmask_model {M : Type} (ops : MatOps M) (abs : M → Matrix) (flaw : FlipLaw ops abs) (k : Nat) (m : M) (d : Nat)
    (hd : (abs m).dim = d) :
    ∃ m', Gen.K01de.unmaskBitMatrix ops (fun i j => maskBit k i.toNat j.toNat) m (d : Int) = .ok m' ∧ (abs m').dim = d ∧
      ∀ a b, a < d → b < d → (abs m').bit a b = (unmask k (abs m)).bit a b := by
  obtain ⟨m', h1, h2, _, _, h5⟩ := k_unmaskBitMatrix_eq ops abs flaw (fun i j => maskBit k i.toNat j.toNat) m d hd
  exact ⟨m', h1, h2, fun a b ha hb => by rw [h5 a b ha hb]; simp [unmask]⟩

end Gzx.Obligations.K01e
