/-
  K01e (version.go) — `Version.buildFunctionPattern` for EVERY lawful matrix implementation.  `K01dMat.lean`
  shows, by kernel evaluation on a symbolic matrix (`regOps`: a matrix is the list of the `SetRegion` calls made on it), that for every row of the regenerated
  VERSIONS the regenerated function issues exactly the model's regions.  Here: the control flow of the regenerated function does
  not depend on the matrix, so two runs on ANY two lawful implementations (`SetRegionLaw`, `NewSquareLaw`) end in related
  matrices (`k_buildFunctionPattern_rel`); with `regOps` as one of them, the run on an arbitrary lawful implementation — in
  particular the word-level `BitMatrix` — yields the model's function pattern for every version of the table
  (`k_buildFunctionPattern_lawful`).
-/
import Gzx.Obligations.K01dMat
namespace Gzx.Obligations.K01e
open Gzx Gzx.GoM Gzx.GoVal Gzx.QRDec Gzx.Obligations.K01d

/-- the arguments `SetRegion` rejects (error, matrix unchanged) on a square matrix of dimension `d` -/
def regionBad (d : Nat) (l t w h : Int) : Prop := t < 0 ∨ l < 0 ∨ h < 1 ∨ w < 1 ∨ t + h > (d : Int) ∨ l + w > (d : Int)

instance (d : Nat) (l t w h : Int) : Decidable (regionBad d l t w h) := by unfold regionBad; exact inferInstance

/-- `SetRegion` on a square matrix: rejected arguments leave it unchanged (error flag), accepted ones set exactly that region -/
def SetRegionLaw {M : Type} (ops : MatOps M) (abs : M → Matrix) : Prop :=
  ∀ (m : M) (l t w h : Int), ops.width m = ((abs m).dim : Int) → ops.height m = ((abs m).dim : Int) →
    (regionBad (abs m).dim l t w h → ops.setRegion m l t w h = .ok (m, true)) ∧
    (¬ regionBad (abs m).dim l t w h → ∃ m', ops.setRegion m l t w h = .ok (m', false) ∧ (abs m').dim = (abs m).dim ∧
      ops.width m' = ops.width m ∧ ops.height m' = ops.height m ∧
      ∀ a b, a < (abs m).dim → b < (abs m).dim →
        (abs m').bit a b = ((abs m).bit a b ||
          (decide (l ≤ (a : Int)) && decide ((a : Int) < l + w) && decide (t ≤ (b : Int)) && decide ((b : Int) < t + h))))

/-- `NewSquareBitMatrix(d)`: an error below 1, otherwise the white `d × d` matrix -/
def NewSquareLaw {M : Type} (ops : MatOps M) (abs : M → Matrix) : Prop :=
  ∀ d : Int, (d < 1 → ∃ m, ops.newSquare d = .ok (m, true)) ∧
    (1 ≤ d → ∃ m, ops.newSquare d = .ok (m, false) ∧ (abs m).dim = d.toNat ∧ ops.width m = d ∧ ops.height m = d ∧
      ∀ a b, a < d.toNat → b < d.toNat → (abs m).bit a b = false)

/-- two square matrices of the same size with the same modules -/
def SameM {M1 M2 : Type} (ops1 : MatOps M1) (abs1 : M1 → Matrix) (ops2 : MatOps M2) (abs2 : M2 → Matrix) (d : Nat)
    (m1 : M1) (m2 : M2) : Prop :=
  (abs1 m1).dim = d ∧ (abs2 m2).dim = d ∧ ops1.width m1 = (d : Int) ∧ ops1.height m1 = (d : Int) ∧
    ops2.width m2 = (d : Int) ∧ ops2.height m2 = (d : Int) ∧
    ∀ a b, a < d → b < d → (abs1 m1).bit a b = (abs2 m2).bit a b

/-- two counted loops whose bodies keep a relation between their states run in lock step -/
theorem loop_rel {σ1 σ2 ρ1 ρ2 : Type} (R : σ1 → σ2 → Prop) (b1 : Int → σ1 → Ctl σ1 ρ1) (b2 : Int → σ2 → Ctl σ2 ρ2) (d : Int)
    (P : Int → Prop)
    (hstep : ∀ i s1 s2, P i → R s1 s2 → ∃ s1' s2', b1 i s1 = .next s1' ∧ b2 i s2 = .next s2' ∧ R s1' s2')
    (hP : ∀ i, P i → P (i + d)) :
    ∀ (n : Nat) (i : Int) (s1 : σ1) (s2 : σ2), P i → R s1 s2 →
      ∃ s1' s2', loop b1 d n i s1 = .next s1' ∧ loop b2 d n i s2 = .next s2' ∧ R s1' s2' := by
  intro n
  induction n with
  | zero => intro i s1 s2 _ h; exact ⟨s1, s2, rfl, rfl, h⟩
  | succ n ih =>
    intro i s1 s2 hp h
    obtain ⟨s1', s2', e1, e2, h'⟩ := hstep i s1 s2 hp h
    obtain ⟨t1, t2, f1, f2, h''⟩ := ih (i + d) s1' s2' (hP i hp) h'
    exact ⟨t1, t2, by rw [loop_succ, e1]; exact f1, by rw [loop_succ, e2]; exact f2, h''⟩

section
variable {M1 M2 : Type} (ops1 : MatOps M1) (abs1 : M1 → Matrix) (ops2 : MatOps M2) (abs2 : M2 → Matrix)
  (sl1 : SetRegionLaw ops1 abs1) (sl2 : SetRegionLaw ops2 abs2)
include sl1 sl2

/-- one `SetRegion` call (error ignored, as `buildFunctionPattern` does) keeps two runs related -/
theorem setRegion_rel (d : Nat) (m1 : M1) (m2 : M2) (l t w h : Int) (hR : SameM ops1 abs1 ops2 abs2 d m1 m2) :
    ∃ r1 r2, ops1.setRegion m1 l t w h = .ok r1 ∧ ops2.setRegion m2 l t w h = .ok r2 ∧
      SameM ops1 abs1 ops2 abs2 d r1.1 r2.1 := by
  obtain ⟨rfl, hd2, hw1, hh1, hw2, hh2, hb⟩ := hR
  have L1 := sl1 m1 l t w h hw1 hh1
  have L2 := sl2 m2 l t w h (hd2 ▸ hw2) (hd2 ▸ hh2)
  rw [hd2] at L2
  by_cases hbad : regionBad (abs1 m1).dim l t w h
  · exact ⟨_, _, L1.1 hbad, L2.1 hbad, rfl, hd2, hw1, hh1, hw2, hh2, hb⟩
  · obtain ⟨m1', e1, d1, w1, h1, b1⟩ := L1.2 hbad
    obtain ⟨m2', e2, d2, w2, h2, b2⟩ := L2.2 hbad
    refine ⟨_, _, e1, e2, d1, d2, w1.trans hw1, h1.trans hh1, w2.trans hw2, h2.trans hh2, fun a b ha hb' => ?_⟩
    show (abs1 m1').bit a b = (abs2 m2').bit a b
    rw [b1 a b ha hb', b2 a b ha hb', hb a b ha hb']

omit sl1 sl2 in
theorem idx_lt (xs : List Int) (k : Nat) (h : k < xs.length) : ∃ v, idx xs (k : Int) = .ok v :=
  ⟨_, idx_ofNat xs k h⟩

when_kernel Gzx.Gen.K01d.buildFunctionPattern in
theorem k_bfp_body2_rel (d : Nat) (centers : List Int) (x i : Int) (y : Nat) (hy : y < centers.length) (m1 : M1) (m2 : M2)
    (hR : SameM ops1 abs1 ops2 abs2 d m1 m2) :
    ∃ r1 r2, Gen.K01d.buildFunctionPattern_body2 ops1 centers (len centers) x i (y : Int) m1 = .next r1 ∧
      Gen.K01d.buildFunctionPattern_body2 ops2 centers (len centers) x i (y : Int) m2 = .next r2 ∧
      SameM ops1 abs1 ops2 abs2 d r1 r2 := by
  simp only [Gen.K01d.buildFunctionPattern_body2]
  split
  · exact ⟨m1, m2, rfl, rfl, hR⟩
  · obtain ⟨v, hv⟩ := idx_lt centers y hy
    obtain ⟨r1, r2, e1, e2, h'⟩ := setRegion_rel ops1 abs1 ops2 abs2 sl1 sl2 d m1 m2 (v - 2) i 5 5 hR
    exact ⟨r1.1, r2.1, by simp [hv, e1], by simp [hv, e2], h'⟩

when_kernel Gzx.Gen.K01d.buildFunctionPattern in
theorem k_bfp_body1_rel (d : Nat) (centers : List Int) (x : Nat) (hx : x < centers.length) (m1 : M1) (m2 : M2)
    (hR : SameM ops1 abs1 ops2 abs2 d m1 m2) :
    ∃ r1 r2, Gen.K01d.buildFunctionPattern_body1 ops1 centers (len centers) (x : Int) m1 = .next r1 ∧
      Gen.K01d.buildFunctionPattern_body1 ops2 centers (len centers) (x : Int) m2 = .next r2 ∧
      SameM ops1 abs1 ops2 abs2 d r1 r2 := by
  obtain ⟨v, hv⟩ := idx_lt centers x hx
  obtain ⟨r1, r2, e1, e2, h'⟩ := loop_rel_len (ρ1 := M1 × Bool) (ρ2 := M2 × Bool) (SameM ops1 abs1 ops2 abs2 d) _ _ centers
    (k_bfp_body2_rel ops1 abs1 ops2 abs2 sl1 sl2 d centers (x : Int) (v - 2)) m1 m2 hR
  exact ⟨r1, r2, by simp only [Gen.K01d.buildFunctionPattern_body1, hv, tryC_ok, e1, next_thenC],
    by simp only [Gen.K01d.buildFunctionPattern_body1, hv, tryC_ok, e2, next_thenC], h'⟩

when_kernel Gzx.Gen.K01d.getDimensionForVersion in
when_kernel Gzx.Gen.K01d.buildFunctionPattern in
/-- two runs of the regenerated `buildFunctionPattern` on ANY two lawful matrix implementations end in the same matrix
    (no error, same size, same modules): its control flow does not look at the matrix -/
theorem k_buildFunctionPattern_rel (nl1 : NewSquareLaw ops1 abs1) (nl2 : NewSquareLaw ops2 abs2) (v : Int) (hv : 1 ≤ 17 + 4 * v)
    (centers : List Int) :
    ∃ m1 m2, Gen.K01d.buildFunctionPattern ops1 v centers = .ok (m1, false) ∧
      Gen.K01d.buildFunctionPattern ops2 v centers = .ok (m2, false) ∧
      SameM ops1 abs1 ops2 abs2 (17 + 4 * v).toNat m1 m2 := by
  obtain ⟨a0, ea, da, wa, ha, ba⟩ := (nl1 (17 + 4 * v)).2 hv
  obtain ⟨b0, eb, db, wb, hb, bb⟩ := (nl2 (17 + 4 * v)).2 hv
  have hcast : 17 + 4 * v = (((17 + 4 * v).toNat : Nat) : Int) := by omega
  have R0 : SameM ops1 abs1 ops2 abs2 (17 + 4 * v).toNat a0 b0 :=
    ⟨da, db, wa.trans hcast, ha.trans hcast, wb.trans hcast, hb.trans hcast, fun a b h1 h2 => by rw [ba a b h1 h2, bb a b h1 h2]⟩
  have step := setRegion_rel ops1 abs1 ops2 abs2 sl1 sl2 (17 + 4 * v).toNat
  obtain ⟨p1, q1, e1, f1, R1⟩ := step a0 b0 0 0 9 9 R0
  obtain ⟨p2, q2, e2, f2, R2⟩ := step p1.1 q1.1 ((17 + 4 * v) - 8) 0 8 9 R1
  obtain ⟨p3, q3, e3, f3, R3⟩ := step p2.1 q2.1 0 ((17 + 4 * v) - 8) 9 8 R2
  obtain ⟨p4, q4, e4, f4, R4⟩ := loop_rel_len (ρ1 := M1 × Bool) (ρ2 := M2 × Bool) (SameM ops1 abs1 ops2 abs2 (17 + 4 * v).toNat) _ _
    centers (k_bfp_body1_rel ops1 abs1 ops2 abs2 sl1 sl2 _ centers) p3.1 q3.1 R3
  obtain ⟨p5, q5, e5, f5, R5⟩ := step p4 q4 6 9 1 ((17 + 4 * v) - 17) R4
  obtain ⟨p6, q6, e6, f6, R6⟩ := step p5.1 q5.1 9 6 ((17 + 4 * v) - 17) 1 R5
  simp only [Gen.K01d.buildFunctionPattern, Gen.K01d.getDimensionForVersion, tryR_ok, ea, eb, bne_self_eq_false, Bool.false_eq_true,
    if_false, e1, f1, e2, f2, e3, f3, e4, f4, next_thenR, e5, f5, e6, f6]
  by_cases h6 : v > 6
  · obtain ⟨p7, q7, e7, f7, R7⟩ := step p6.1 q6.1 ((17 + 4 * v) - 11) 0 3 6 R6
    obtain ⟨p8, q8, e8, f8, R8⟩ := step p7.1 q7.1 0 ((17 + 4 * v) - 11) 6 3 R7
    exact ⟨p8.1, q8.1, by simp [h6, e7, e8], by simp [h6, f7, f8], R8⟩
  · exact ⟨p6.1, q6.1, by simp [h6], by simp [h6], R6⟩

end

/-! ### the symbolic matrix `regOps` is lawful -/

/-- the matrix a list of regions stands for -/
def absReg (m : RegM) : Matrix := ⟨m.1, fun x y => m.2.any (·.has x y)⟩

/-- inside the matrix the membership test of a region, on naturals, is the comparison of the `int` arguments of `SetRegion` -/
theorem region_has_of_ok {d : Nat} {l t w h : Int} (hok : ¬ regionBad d l t w h) (a b : Nat) :
    (⟨l.toNat, t.toNat, w.toNat, h.toNat⟩ : Region).has a b =
      (decide (l ≤ (a : Int)) && decide ((a : Int) < l + w) && decide (t ≤ (b : Int)) && decide ((b : Int) < t + h)) := by
  unfold regionBad at hok
  rw [Bool.eq_iff_iff]
  simp only [Region.has, Bool.and_eq_true, decide_eq_true_eq]
  omega

theorem regOps_setRegionLaw : SetRegionLaw regOps absReg := by
  intro m l t w h _ _
  refine ⟨fun hbad => if_pos hbad, fun hok => ⟨(m.1, m.2 ++ [⟨l.toNat, t.toNat, w.toNat, h.toNat⟩]), by exact if_neg hok, rfl, rfl, rfl, ?_⟩⟩
  intro a b _ _
  show (m.2 ++ [(⟨l.toNat, t.toNat, w.toNat, h.toNat⟩ : Region)]).any (·.has a b) = _
  rw [List.any_append, List.any_cons, List.any_nil, Bool.or_false, region_has_of_ok hok]
  rfl

theorem regOps_newSquareLaw : NewSquareLaw regOps absReg := by
  intro d
  refine ⟨fun h => ⟨(0, []), if_pos h⟩, fun h => ?_⟩
  have hd : ((d.toNat : Nat) : Int) = d := Int.toNat_of_nonneg (by omega)
  exact ⟨(d.toNat, []), if_neg (by omega), rfl, hd, hd, fun _ _ _ _ => rfl⟩

when_kernel Gzx.Gen.K01d.buildFunctionPattern in
/-- `Version.buildFunctionPattern()` on EVERY lawful matrix implementation, for every version of the regenerated table: no error,
    and the resulting matrix is the model's function pattern (same dimension, same modules) -/
theorem k_buildFunctionPattern_lawful {M : Type} (ops : MatOps M) (abs : M → Matrix) (sl : SetRegionLaw ops abs)
    (nl : NewSquareLaw ops abs) (v : VersionInfo) (hv : v ∈ QRTables.versions) :
    ∃ m' F, Gen.K01d.buildFunctionPattern ops (v.num : Int) (v.centers.map Int.ofNat) = .ok (m', false) ∧
      QRDec.buildFunctionPattern v = .ok F ∧ (abs m').dim = F.dim ∧ ops.width m' = (F.dim : Int) ∧ ops.height m' = (F.dim : Int) ∧
      ∀ a b, a < F.dim → b < F.dim → (abs m').bit a b = F.bit a b := by
  have hdim : (17 + 4 * (v.num : Int)).toNat = v.dimension := by unfold VersionInfo.dimension; omega
  have hall := List.all_eq_true.mp k_buildFunctionPattern_regions v hv
  unfold bfpAgrees at hall
  cases hr : modelRegions v with
  | none => rw [hr] at hall; cases hall
  | some regs =>
    rw [hr] at hall
    simp only [Bool.and_eq_true, decide_eq_true_eq] at hall
    obtain ⟨F, hF, hFd, hFb⟩ := model_buildFunctionPattern_regions v regs hr hall.1
    obtain ⟨m1, m2, e1, e2, hd1, _, hw1, hh1, _, _, hb⟩ :=
      k_buildFunctionPattern_rel ops abs regOps absReg sl regOps_setRegionLaw nl regOps_newSquareLaw (v.num : Int) (by omega)
        (v.centers.map Int.ofNat)
    rw [hall.2] at e2
    cases e2
    rw [hdim, ← hFd] at hd1 hw1 hh1 hb
    exact ⟨m1, F, e1, hF, hd1, hw1, hh1, fun a b ha hb' => by rw [hb a b ha hb', hFb]; rfl⟩

end Gzx.Obligations.K01e
