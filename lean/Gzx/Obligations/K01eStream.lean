/-
  K01e — from the regenerated `BitSource.ReadBits` to the BIT-LIST model of the QR decoder (`Model/QRBits.lean`,
  `Model/ECI.lean`, `Model/QRDecoder.lean`: the model under C01's round-trip, C05's tolerance and C15's ECI theorems).

    regenerated ReadBits  =  cursor model `BitSource.readBits`      (Obligations/K01eBits, K01eSeg: k_readBits_wf)
    cursor model          =  bit-list model on `unread s`           (Proofs/K01eStream: readBits_val; here: readBits_refines)
    regenerated ReadBits  =  bit-list model on `unread s`           (here: k_readBits_stream, what the segment files use)

  so the regenerated kernels over a `*BitSource` state compute what the bit-list model computes on the bits from the cursor on.
  `Stream s` = a well-formed source over bytes; it is preserved by every successful read.
-/
import Gzx.Proofs.K01eStream
import Gzx.Obligations.K01eSeg
import Gzx.Model.ECI
namespace Gzx.Obligations.K01e
open Gzx Gzx.GoM Gzx.GoVal Gzx.BitSource

/-- a source the library can construct: well-formed cursor, every element a byte -/
def Stream (s : BitSource) : Prop := WF s ∧ Bytes s

theorem stream_new (bs : List Nat) (h : ∀ b ∈ bs, b < 256) : Stream (BitSource.new bs) :=
  ⟨Properties.C06.new_WF bs, h⟩

theorem unread_new (bs : List Nat) : unread (BitSource.new bs) = QRDec.bytesToBits bs := by
  simp [unread, BitSource.new, position]

theorem avail_eq (s : BitSource) (hs : WF s) : available s = ((unread s).length : Nat) := by
  obtain ⟨h8, hle, hlt⟩ := hs
  rw [unread_length]; unfold available position; omega

/-- the bit-list `ReadBits` fails only with the checked IllegalArgumentException -/
theorem readBits_error {n : Nat} {bits : List Bool} {e : Fault} (h : QRDec.readBits n bits = .error e) : e = .illegalArg := by
  unfold QRDec.readBits at h
  split at h <;> cases h
  rfl

/-- the cursor model of `ReadBits` IS the bit-list model on the unread bits: same value, the rest of the bits, same rejections -/
theorem readBits_refines (s : BitSource) (hs : Stream s) (n : Nat) :
    match QRDec.readBits n (unread s) with
    | .ok (v, rest) => ∃ s', BitSource.readBits s (n : Int) = .ok (v, s') ∧ unread s' = rest ∧ Stream s'
    | .error _ => BitSource.readBits s (n : Int) = .error .illegalArg := by
  have hav := avail_eq s hs.1
  unfold QRDec.readBits
  by_cases h : n < 1 ∨ n > 32 ∨ n > (unread s).length
  · rw [if_pos h]
    exact Properties.C06.readBits_checked s n (by omega)
  · rw [if_neg h]
    obtain ⟨s', hr, hp, hby⟩ := readBits_val s hs.1 hs.2 n (by omega) (by omega) (by omega)
    refine ⟨s', hr, ?_, ?_, ?_⟩
    · unfold unread; rw [hp, hby, ← List.drop_drop]
    · obtain ⟨_, hc⟩ := Properties.C06.bitsource_total s hs.1 n
      rcases hc with ⟨v, s'', h2, _, _, hw⟩ | h2
      · rw [hr] at h2; cases h2; exact hw
      · rw [hr] at h2; cases h2
    · intro b hb; rw [hby] at hb; exact hs.2 b hb

/-- the same for the parser's wrapper (`ReadBits` errors re-thrown as FormatException) -/
theorem readBitsF_refines (s : BitSource) (hs : Stream s) (n : Nat) (ni : Int) (hni : ni = (n : Int)) :
    match QRDec.readBitsF n (unread s) with
    | .ok (v, rest) => ∃ s', BitSource.readBitsF s ni = .ok (v, s') ∧ unread s' = rest ∧ Stream s'
    | .error e => BitSource.readBitsF s ni = .error .format ∧ e = .format := by
  subst hni
  have h := readBits_refines s hs n
  unfold QRDec.readBitsF BitSource.readBitsF
  cases hq : QRDec.readBits n (unread s) with
  | ok p =>
    obtain ⟨v, rest⟩ := p
    rw [hq] at h
    obtain ⟨s', h1, h2, h3⟩ := h
    exact ⟨s', by rw [h1], h2, h3⟩
  | error e =>
    rw [hq] at h
    obtain rfl := readBits_error hq
    exact ⟨by rw [h], rfl⟩

when_kernel Gzx.Gen.K01de.readBits in
/-- the regenerated `ReadBits` on a stream, against the bit-list model: value and cursor after a successful read (the unread
    bits are the model's rest), the error flag with the cursor unchanged otherwise -/
theorem k_readBits_stream (s : BitSource) (hs : Stream s) (n : Nat) (ni : Int) (hni : ni = (n : Int)) (fuel : Nat) (hf : 5 ≤ fuel) :
    match QRDec.readBitsF n (unread s) with
    | .ok (v, rest) => ∃ s', Gen.K01de.readBits fuel (bytes s.bytes) (s.byteOffset : Int) (s.bitOffset : Int) ni =
          .ok ((v : Int), false, (s'.byteOffset : Int), (s'.bitOffset : Int)) ∧ unread s' = rest ∧ Stream s' ∧ s'.bytes = s.bytes
    | .error _ => Gen.K01de.readBits fuel (bytes s.bytes) (s.byteOffset : Int) (s.bitOffset : Int) ni =
          .ok (0, true, (s.byteOffset : Int), (s.bitOffset : Int)) := by
  subst hni
  rw [k_readBits_wf s hs.1 n fuel hf]
  have h := readBits_refines s hs n
  unfold QRDec.readBitsF
  cases hq : QRDec.readBits n (unread s) with
  | ok p =>
    obtain ⟨v, rest⟩ := p
    rw [hq] at h
    obtain ⟨s', hr, hu, hst⟩ := h
    exact ⟨s', by rw [hr]; rfl, hu, hst, readBits_bytes hr⟩
  | error e =>
    rw [hq] at h
    obtain rfl := readBits_error hq
    simp only [h, encRB]

/-- `parseECIValue`: the cursor model (Model/BitSource.lean, tied to the regenerated function by `k_parseECIValue_eq`) is the
    bit-list model of Model/ECI.lean that C15's and C01's theorems are about -/
theorem parseECIValue_refines (s : BitSource) (hs : Stream s) :
    match ECI.parseECIValue (unread s) with
    | .ok (v, rest) => ∃ s', BitSource.parseECIValue s = .ok (v, s') ∧ unread s' = rest ∧ Stream s'
    | .error e => BitSource.parseECIValue s = .error .format ∧ e = .format := by
  unfold ECI.parseECIValue BitSource.parseECIValue
  have h1 := readBitsF_refines s hs 8 8 rfl
  revert h1
  cases QRDec.readBitsF 8 (unread s) with
  | error e => intro h1; simp [bind, Except.bind, h1.1, h1.2]
  | ok p =>
    obtain ⟨f, rest⟩ := p
    rintro ⟨s1, e1, u1, w1⟩
    simp only [bind, Except.bind, e1]
    by_cases c1 : f &&& 0x80 = 0
    · simp only [c1, if_true]; exact ⟨s1, rfl, u1, w1⟩
    · simp only [c1, if_false]
      by_cases c2 : f &&& 0xC0 = 0x80
      · simp only [c2, if_true]
        have h2 := readBitsF_refines s1 w1 8 8 rfl
        rw [u1] at h2
        revert h2
        cases QRDec.readBitsF 8 rest with
        | error e => intro h2; simp [h2.1, h2.2]
        | ok p2 =>
          obtain ⟨g, rest2⟩ := p2
          rintro ⟨s2, e2, u2, w2⟩
          simp only [e2]; exact ⟨s2, rfl, u2, w2⟩
      · simp only [c2, if_false]
        by_cases c3 : f &&& 0xE0 = 0xC0
        · simp only [c3, if_true]
          have h2 := readBitsF_refines s1 w1 16 16 rfl
          rw [u1] at h2
          revert h2
          cases QRDec.readBitsF 16 rest with
          | error e => intro h2; simp [h2.1, h2.2]
          | ok p2 =>
            obtain ⟨g, rest2⟩ := p2
            rintro ⟨s2, e2, u2, w2⟩
            simp only [e2]; exact ⟨s2, rfl, u2, w2⟩
        · simp [c3]

/-- non-vacuity -/
example : Stream (BitSource.new [0x81, 0x02]) := stream_new _ (by decide)

end Gzx.Obligations.K01e
