/-
  C08 — per-run obligations over the data and kernels REGENERATED from /repo (Gzx.Gen.*):
  the tables the library holds now equal the standard's tables, the translated kernels equal the
  standard's formulas.  Rebuilt whenever Gen changes; a table/kernel edit in /repo breaks exactly the
  theorem that names it.
-/
import Gzx.Gen.DMSymbols
import Gzx.Gen.C08DM
import Gzx.Gen.C08K
import Gzx.Ref.DM
import Gzx.Model.DMEncoder
import Gzx.Model.DMDecoder
namespace Gzx.Obligations.C08
open Gzx Gzx.GoVal

/-! ## typed views of the generated tables -/

def natOf (n : Int) : Option Nat := if n ≥ 0 then some n.toNat else none

/-- `NewSymbolInfoRS(rect, cap, err, w, h, regions, rsData, rsErr)` -/
def decodeRS (special : Bool) : List GoVal → Option DMEnc.SymbolInfo
  | [.bool r, .int cap, .int err, .int w, .int h, .int reg, .int rsd, .int rse] => do
    some { rectangular := r, dataCapacity := ← natOf cap, errorCodewords := ← natOf err,
           matrixWidth := ← natOf w, matrixHeight := ← natOf h, dataRegions := ← natOf reg,
           rsBlockData := rsd, rsBlockError := ← natOf rse, special144 := special }
  | _ => none

/-- the value of `NewDataMatrixSymbolInfo144()`: a `NewSymbolInfoRS(..)` whose two block functions are
    replaced by exactly the two 144x144 functions (translated as `Gen.C08K.sym144BlockCount/DataLength`) -/
def decode144 : GoVal → Option DMEnc.SymbolInfo
  | .app "update" [.app "NewSymbolInfoRS" args,
      .list [.list [.str "funcGetInterleavedBlockCount", .app "funcref" [.str "datamatrixSymbolInfo144_getInterleavedBlockCount"]],
             .list [.str "funcGetDataLengthForInterleavedBlock", .app "funcref" [.str "datamatrixSymbolInfo144_getDataLengthForInterleavedBlock"]]]] =>
    decodeRS true args
  | _ => none

def decodeSym (sym144 : GoVal) : GoVal → Option DMEnc.SymbolInfo
  | .app "NewSymbolInfo" [r, .int cap, .int err, w, h, reg] =>
    decodeRS false [r, .int cap, .int err, w, h, reg, .int cap, .int err]
  | .app "NewSymbolInfoRS" args => decodeRS false args
  | .app "NewDataMatrixSymbolInfo144" [] => decode144 sym144
  | _ => none

def decodeSymbols (syms sym144 : GoVal) : Option (List DMEnc.SymbolInfo) :=
  syms.asList?.bind (·.mapM (decodeSym sym144))

def decodeECB : GoVal → Option DMDec.ECB
  | .app "ECB" [.int c, .int d] => do some ⟨← natOf c, ← natOf d⟩
  | _ => none

def decodeVersion : GoVal → Option DMDec.Version
  | .app "NewVersion" [.int n, .int r, .int c, .int rr, .int rc, .app "ECBlocks" [.int ec, .list ecbs]] => do
    some { versionNumber := ← natOf n, symbolSizeRows := ← natOf r, symbolSizeColumns := ← natOf c,
           dataRegionSizeRows := ← natOf rr, dataRegionSizeColumns := ← natOf rc, ecCodewords := ← natOf ec,
           ecBlocks := ← ecbs.mapM decodeECB }
  | _ => none

def decodeVersions (v : GoVal) : Option (List DMDec.Version) := v.asList?.bind (·.mapM decodeVersion)

/-! ## tables -/

/-- encoder `symbols` = the standard's Table 7 in capacity order, entry by entry, IN ORDER
    (rectangular flag, data/error codewords, data region size, number of regions, per-block data/error,
    144x144 special functions) -/
theorem gen_symbols_eq :
    decodeSymbols Gen.DMSymbols.symbols Gen.C08DM.sym144 = some (DMRef.symbols.map DMEnc.ofSym) := by
  decide +kernel

/-- decoder `versions`: entries 1..30 = Table 7 (rows, cols, region size, blocks, data/ec per block) in the
    standard's order with version numbers 1..30; entries 31..48 = the modelled DMRE extension -/
theorem gen_versions_eq : decodeVersions Gen.C08DM.versions = some DMDec.versions := by
  decide +kernel

/-- `factorSets` = the 16 parity lengths -/
theorem gen_factorSets_eq : Gen.C08DM.factorSets.asNatList? = some DMRef.parityLengths := by
  decide +kernel

/-- `factors[k]` = coefficients of `∏_{i=1..n}(x - 2^i)` over GF(256)/0x12D for each of the 16 parity
    lengths, the product being computed here, in the kernel -/
theorem gen_factors_eq : Gen.C08DM.factors.asNatListList? = some DMRef.factorTable := by
  decide +kernel

/-- the field modulus used by `init()` -/
theorem gen_modulo_eq : Gen.C08DM.moduloValue.asNat? = some DMRef.gfPoly := by decide

/-! ## translated kernels -/

/-- `randomize253State` = the 253-state rule, for every position -/
theorem k_randomize253_eq (p : Nat) :
    Gen.C08K.randomize253State p = (DMRef.randomize253 p : Nat) := by
  unfold Gen.C08K.randomize253State DMRef.randomize253 DMRef.pseudo253
  simp only [Int.tmod_eq_emod_of_nonneg (Int.mul_nonneg (by decide : (0 : Int) ≤ 149) (Int.natCast_nonneg p))]
  split <;> simp_all <;> omega

/-- `base256Randomize255State` = the 255-state rule, for every byte and position -/
theorem k_randomize255_eq (b p : Nat) (hb : b < 256) :
    Gen.C08K.base256Randomize255State b p = (DMRef.randomize255 b p : Nat) := by
  unfold Gen.C08K.base256Randomize255State DMRef.randomize255 DMRef.pseudo255
  simp only [Int.tmod_eq_emod_of_nonneg (Int.mul_nonneg (by decide : (0 : Int) ≤ 149) (Int.natCast_nonneg p))]
  split <;> simp_all <;> omega

/-- `unrandomize255State` = the inverse 255-state rule, for every byte and position -/
theorem k_unrandomize255_eq (w p : Nat) (hw : w < 256) :
    Gen.C08K.unrandomize255State w p = (DMRef.unrandomize255 w p : Nat) := by
  unfold Gen.C08K.unrandomize255State DMRef.unrandomize255 DMRef.pseudo255
  simp only [Int.tmod_eq_emod_of_nonneg (Int.mul_nonneg (by decide : (0 : Int) ≤ 149) (Int.natCast_nonneg p))]
  have e : (149 * (p : Int)) % 255 = ((149 * p % 255 : Nat) : Int) := by omega
  have hr : 149 * p % 255 < 255 := Nat.mod_lt _ (by decide)
  rw [e]
  generalize 149 * p % 255 = r at hr ⊢
  split <;> rename_i h <;> simp only [decide_eq_true_eq, ge_iff_le, Int.not_le] at h <;> omega

/-- region-count switches = the modelled switches, for every argument -/
theorem k_hregions_eq (n : Nat) : Gen.C08K.horizontalDataRegions n = (DMEnc.hRegionsOf n : Nat) := by
  -- the two switches test the same conditions: compare them as switches on the natural number
  have hc (k : Nat) : ((n : Int) == (k : Int)) = decide (n = k) := by
    rw [Bool.eq_iff_iff]; simp only [beq_iff_eq, decide_eq_true_eq, Int.natCast_inj]
  unfold Gen.C08K.horizontalDataRegions DMEnc.hRegionsOf
  rw [show (1 : Int) = ((1 : Nat) : Int) from rfl, show (2 : Int) = ((2 : Nat) : Int) from rfl,
    show (4 : Int) = ((4 : Nat) : Int) from rfl, show (16 : Int) = ((16 : Nat) : Int) from rfl,
    show (36 : Int) = ((36 : Nat) : Int) from rfl]
  simp only [hc, Bool.or_eq_true, decide_eq_true_eq, apply_ite (Nat.cast (R := Int))]
  rfl

theorem k_vregions_eq (n : Nat) : Gen.C08K.verticalDataRegions n = (DMEnc.vRegionsOf n : Nat) := by
  -- the two switches test the same conditions: compare them as switches on the natural number
  have hc (k : Nat) : ((n : Int) == (k : Int)) = decide (n = k) := by
    rw [Bool.eq_iff_iff]; simp only [beq_iff_eq, decide_eq_true_eq, Int.natCast_inj]
  unfold Gen.C08K.verticalDataRegions DMEnc.vRegionsOf
  rw [show (1 : Int) = ((1 : Nat) : Int) from rfl, show (2 : Int) = ((2 : Nat) : Int) from rfl,
    show (4 : Int) = ((4 : Nat) : Int) from rfl, show (16 : Int) = ((16 : Nat) : Int) from rfl,
    show (36 : Int) = ((36 : Nat) : Int) from rfl]
  simp only [hc, Bool.or_eq_true, decide_eq_true_eq, apply_ite (Nat.cast (R := Int))]
  rfl

/-- the region switches give the standard's layout for every row of Table 7 -/
theorem k_regions_table7 :
    DMRef.table7.all (fun s => Gen.C08K.horizontalDataRegions s.regions == (s.hRegions : Int) &&
                               Gen.C08K.verticalDataRegions s.regions == (s.vRegions : Int)) = true := by
  decide +kernel

/-- the 144x144 block functions: 10 blocks, blocks 1..8 carry 156 data codewords, 9..10 carry 155 —
    the standard's round-robin deal of 1558 codewords -/
theorem k_sym144 :
    Gen.C08K.sym144BlockCount = 10 ∧
    (List.range 10).all (fun b => Gen.C08K.sym144DataLength ((b : Nat) + 1) ==
        ((DMRef.table7.getD 23 default).dataLen b : Int)) = true := by
  constructor
  · rfl
  · decide +kernel

theorem k_sym144_model (i : Nat) :
    Gen.C08K.sym144DataLength i = (if i ≤ 8 then 156 else 155 : Int) := by
  unfold Gen.C08K.sym144DataLength
  split <;> split <;> simp_all <;> omega

/-- the default block functions: `dataCapacity / rsBlockData` and `rsBlockData` -/
theorem k_default_blocks (cap rs i : Int) :
    Gen.C08K.defaultBlockCount cap rs = Int.tdiv cap rs ∧ Gen.C08K.defaultDataLength rs i = rs :=
  ⟨rfl, rfl⟩

end Gzx.Obligations.C08
