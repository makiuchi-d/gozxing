/-
  K15 — the ECI value range test of `common.GetCharacterSetECIByValue`, regenerated from /repo on every
  run (`Gzx.Gen.K15`; the returned registry entry is an object and not part of the translation) and proved
  equal to the test of the model `ECI.byValue` that Properties/C15.lean is about.
-/
import Gzx.Gen.K15
import Gzx.KernelGuard
import Gzx.Model.ECI
namespace Gzx.Obligations.K15
open Gzx Gzx.ECI

when_kernel Gzx.Gen.K15.eciByValueFails in
/-- `GetCharacterSetECIByValue(v)` fails (FormatException) iff the model's `byValue` fails, for every
    integer and every registry: exactly the values outside 0..899 -/
theorem k_eciByValueFails_eq (reg : Registry) (v : Int) :
    Gen.K15.eciByValueFails v = .ok (match byValue reg v with
                                      | .ok _ => false
                                      | .error _ => true) := by
  simp only [Gen.K15.eciByValueFails, byValue]
  -- does not depend on how the generator nests the test: decide the model's test, split the GENERATED one
  -- whatever its shape, and omega sorts the branches
  by_cases h : v < 0 ∨ v ≥ 900 <;> simp only [h, if_true, if_false] <;> split <;> rename_i hc <;>
    (try simp only [Bool.or_eq_true, decide_eq_true_eq] at hc) <;>
    first
    | rfl
    | (exfalso; omega)

end Gzx.Obligations.K15
