/-
  K08bEnc — `ErrorCorrection_EncodeECC200` regenerated from /repo on every run (`Gzx.Gen.K08b.encodeECC200`: block split,
  per-block `createECCBlock`, interleaved write-back incl. the 144x144 start rule, the `make`/`append`/`sb[:cap(sb)]`
  buffer handling, the two function-valued fields of SymbolInfo as selectors) proved equal to the hand-written model
  `DMEnc.encodeECC200` (which Properties/C08 `encodeECC200_eq_reference` relates to the ISO/IEC 16022 reference) for
  every symbol description that satisfies `EccWF` (all 30 rows of the symbol table do: `symbols_eccWF`) and EVERY byte
  vector of ANY length.
-/
import Gzx.Obligations.K08b
namespace Gzx.Obligations.K08b
open Gzx Gzx.GoM Gzx.GoVal

/-! ## the SymbolInfo accessors and the two function-valued fields -/

when_kernel Gzx.Gen.K08b.getInterleavedBlockCount in
/-- selector value of `funcGetInterleavedBlockCount` for a modelled symbol (the `fsel_*` constants are emitted with the
    dispatching function) -/
def selBC (s : DMEnc.SymbolInfo) : Int :=
  if s.special144 then Gen.K08b.fsel_SymbolInfo_funcGetInterleavedBlockCount_datamatrixSymbolInfo144_getInterleavedBlockCount
  else Gen.K08b.fsel_SymbolInfo_funcGetInterleavedBlockCount_defaultGetInterleavedBlockCount

when_kernel Gzx.Gen.K08b.getDataLengthForInterleavedBlock in
/-- selector value of `funcGetDataLengthForInterleavedBlock` for a modelled symbol -/
def selDL (s : DMEnc.SymbolInfo) : Int :=
  if s.special144 then Gen.K08b.fsel_SymbolInfo_funcGetDataLengthForInterleavedBlock_datamatrixSymbolInfo144_getDataLengthForInterleavedBlock
  else Gen.K08b.fsel_SymbolInfo_funcGetDataLengthForInterleavedBlock_defaultGetDataLengthForInterleavedBlock

when_kernel Gzx.Gen.K08b.getInterleavedBlockCount in
when_kernel Gzx.Gen.K08b.defaultBlockCount in
when_kernel Gzx.Gen.K08b.sym144BlockCount in
/-- `SymbolInfo.GetInterleavedBlockCount()` (dispatch through the function-valued field) = the model, panic included -/
theorem k_getInterleavedBlockCount_eq (s : DMEnc.SymbolInfo) :
    Gen.K08b.getInterleavedBlockCount (s.dataCapacity : Int) s.rsBlockData (selBC s) = s.interleavedBlockCount := by
  unfold Gen.K08b.getInterleavedBlockCount selBC DMEnc.SymbolInfo.interleavedBlockCount
  cases h : s.special144
  · by_cases h0 : s.rsBlockData = 0
    · simp [h0, Gen.K08b.defaultBlockCount, GoM.div, tryR,
        Gen.K08b.fsel_SymbolInfo_funcGetInterleavedBlockCount_datamatrixSymbolInfo144_getInterleavedBlockCount,
        Gen.K08b.fsel_SymbolInfo_funcGetInterleavedBlockCount_defaultGetInterleavedBlockCount]
    · simp [h0, Gen.K08b.defaultBlockCount, GoM.div, tryR,
        Gen.K08b.fsel_SymbolInfo_funcGetInterleavedBlockCount_datamatrixSymbolInfo144_getInterleavedBlockCount,
        Gen.K08b.fsel_SymbolInfo_funcGetInterleavedBlockCount_defaultGetInterleavedBlockCount]
  · simp [Gen.K08b.sym144BlockCount, tryR,
      Gen.K08b.fsel_SymbolInfo_funcGetInterleavedBlockCount_datamatrixSymbolInfo144_getInterleavedBlockCount]

when_kernel Gzx.Gen.K08b.getDataLengthForInterleavedBlock in
when_kernel Gzx.Gen.K08b.defaultDataLength in
when_kernel Gzx.Gen.K08b.sym144DataLength in
/-- `SymbolInfo.GetDataLengthForInterleavedBlock(index)` = the model -/
theorem k_getDataLength_eq (s : DMEnc.SymbolInfo) (index : Nat) :
    Gen.K08b.getDataLengthForInterleavedBlock s.rsBlockData (selDL s) (index : Int) =
      .ok (s.dataLengthForInterleavedBlock index) := by
  unfold Gen.K08b.getDataLengthForInterleavedBlock selDL DMEnc.SymbolInfo.dataLengthForInterleavedBlock
  cases h : s.special144
  · simp [Gen.K08b.defaultDataLength, tryR,
      Gen.K08b.fsel_SymbolInfo_funcGetDataLengthForInterleavedBlock_datamatrixSymbolInfo144_getDataLengthForInterleavedBlock,
      Gen.K08b.fsel_SymbolInfo_funcGetDataLengthForInterleavedBlock_defaultGetDataLengthForInterleavedBlock]
  · by_cases h8 : index ≤ 8
    · have : (index : Int) ≤ 8 := by omega
      simp [Gen.K08b.sym144DataLength, tryR, h8, this,
        Gen.K08b.fsel_SymbolInfo_funcGetDataLengthForInterleavedBlock_datamatrixSymbolInfo144_getDataLengthForInterleavedBlock]
    · have : ¬ (index : Int) ≤ 8 := by omega
      simp [Gen.K08b.sym144DataLength, tryR, h8, this,
        Gen.K08b.fsel_SymbolInfo_funcGetDataLengthForInterleavedBlock_datamatrixSymbolInfo144_getDataLengthForInterleavedBlock]

/-! ## the block extraction loop `for d := block; d < cap; d += blockCount { temp = append(temp, codewords[d]) }` -/

when_kernel Gzx.Gen.K08b.encodeECC200 in
/-- the extraction loop from index `d` on appends to `temp` every `B`-th of the remaining codewords `xs` (`DMRef.everyNth`);
    the kernel's fuel only has to exceed their number -/
theorem temp_sim (cws : List Nat) (B : Nat) (hB : 0 < B) :
    ∀ (fuel : Nat) (xs : List Nat) (d : Nat) (t : List Nat), cws.drop d = xs → xs.length < fuel →
      ∃ d', whileLoop (Gen.K08b.encodeECC200_body3 (words cws) (cws.length : Int) (B : Int)) fuel (words t, (d : Int)) =
        .brk (words (t ++ DMRef.everyNth B xs), d') := by
  intro fuel
  induction fuel with
  | zero => intro xs d t _ h; omega
  | succ fuel ih =>
    intro xs d t hx hf
    rw [whileLoop_succ]
    simp only [Gen.K08b.encodeECC200_body3]
    cases xs with
    | nil =>
      have hd : cws.length ≤ d := by
        have := congrArg List.length hx; simp at this; omega
      have : ¬ ((d : Int) < (cws.length : Int)) := by omega
      simp only [this, decide_false, Bool.false_eq_true, if_false]
      exact ⟨(d : Int), by simp [DMRef.everyNth, DMRef.everyNthAux]⟩
    | cons x xs' =>
      have hd : d < cws.length := by
        have := congrArg List.length hx; simp at this; omega
      have hxd : cws.getD d 0 = x := by
        rw [List.drop_eq_getElem_cons hd] at hx
        injection hx with h1 _
        simp [List.getD_eq_getElem?_getD, List.getElem?_eq_getElem hd, h1]
      have : ((d : Int) < (cws.length : Int)) := by omega
      simp only [this, decide_true, if_true]
      rw [idx_words_lt cws d hd]
      simp only [tryC_ok]
      have e1 : (d : Int) + (B : Int) = ((d + B : Nat) : Int) := by omega
      have e2 : words t ++ [((cws.getD d 0 : Nat) : Int)] = words (t ++ [x]) := by rw [hxd]; simp [words]
      rw [e1, e2]
      have hdrop : cws.drop (d + B) = xs'.drop (B - 1) := by
        rw [← List.drop_drop, hx]
        obtain ⟨b, rfl⟩ : ∃ b, B = b + 1 := ⟨B - 1, by omega⟩
        simp
      obtain ⟨d', hd'⟩ := ih (xs'.drop (B - 1)) (d + B) (t ++ [x]) hdrop (by simp at hf ⊢; omega)
      refine ⟨d', ?_⟩
      rw [hd']
      have : DMRef.everyNth B (x :: xs') = x :: DMRef.everyNth B (xs'.drop (B - 1)) := by
        unfold DMRef.everyNth
        simp only [DMRef.everyNthAux]
        rw [everyNthAux_drop B (B - 1) xs']
      rw [this]; simp

/-! ## the write-back loop `for e := first; e < errorSizes[block]*blockCount; e += blockCount { sb[cap+e] = ecc[pos]; pos++ }` -/

when_kernel Gzx.Gen.K08b.encodeECC200 in
/-- the write-back loop is the model's `DMEnc.putEcc`.  The model runs on its own fuel `fm`, the kernel on `fuel`; `fm` suffices
    when the `fm` strides from `e` reach `limit` (first bound), and the model does not run out of parity bytes when the bytes
    left from `pos` on also reach it (second bound): then both end with the same buffer, of unchanged length -/
theorem putEcc_sim (B limit base : Nat) (ecc es : List Nat) (block : Nat) (hblk : block < es.length)
    (hes : es.getD block 0 * B = limit) (bk : List Int) :
    ∀ (fm : Nat) (sb : List Nat) (e pos fuel : Nat), limit ≤ e + fm * B → limit ≤ e + (ecc.length - pos) * B →
      base + limit ≤ sb.length → fm < fuel →
      ∃ sb' e' pos', DMEnc.putEcc B limit base fm sb (ecc.drop pos) e = .ok sb' ∧ sb'.length = sb.length ∧
        whileLoop (Gen.K08b.encodeECC200_body4 (base : Int) bk (B : Int) (words ecc) (words es) (block : Int)) fuel
          (words sb, (e : Int), (pos : Int)) = .brk (words sb', e', pos') := by
  have hlim : ((es.getD block 0 : Nat) : Int) * (B : Int) = (limit : Int) := by rw [← hes]; simp
  intro fm
  induction fm with
  | zero =>
    intro sb e pos fuel h1 _ _ hf
    obtain ⟨fuel, rfl⟩ : ∃ k, fuel = k + 1 := ⟨fuel - 1, by omega⟩
    refine ⟨sb, (e : Int), (pos : Int), rfl, rfl, ?_⟩
    rw [whileLoop_succ]
    simp only [Gen.K08b.encodeECC200_body4]
    rw [idx_words_lt es block hblk]
    simp only [tryC_ok, hlim]
    have : ¬ ((e : Int) < (limit : Int)) := by omega
    simp only [this, decide_false, Bool.false_eq_true, if_false]
  | succ fm ih =>
    intro sb e pos fuel h1 h2 h3 hf
    obtain ⟨fuel, rfl⟩ : ∃ k, fuel = k + 1 := ⟨fuel - 1, by omega⟩
    rw [whileLoop_succ]
    simp only [Gen.K08b.encodeECC200_body4]
    rw [idx_words_lt es block hblk]
    simp only [tryC_ok, hlim]
    by_cases hel : e < limit
    · have hpos : pos < ecc.length := by
        by_cases hp : pos < ecc.length
        · exact hp
        · have : ecc.length - pos = 0 := by omega
          rw [this] at h2; omega
      have : ((e : Int) < (limit : Int)) := by omega
      simp only [this, decide_true, if_true]
      rw [idx_words_lt ecc pos hpos]
      simp only [tryC_ok]
      rw [setIdx_words_lt sb _ _ (base + e) (ecc.getD pos 0) (by omega) rfl (by omega)]
      simp only [tryC_ok]
      have e1 : (e : Int) + (B : Int) = ((e + B : Nat) : Int) := by omega
      have e2 : (pos : Int) + 1 = ((pos + 1 : Nat) : Int) := by omega
      rw [e1, e2]
      have hmul : (ecc.length - pos) * B = (ecc.length - (pos + 1)) * B + B := by
        have : ecc.length - pos = (ecc.length - (pos + 1)) + 1 := by omega
        rw [this, Nat.add_mul, Nat.one_mul]
      obtain ⟨sb', e', pos', hp, hl, hw⟩ := ih (sb.set (base + e) (ecc.getD pos 0)) (e + B) (pos + 1) fuel
        (by rw [Nat.add_mul, Nat.one_mul] at h1; omega) (by rw [hmul] at h2; omega) (by simp; omega) (by omega)
      refine ⟨sb', e', pos', ?_, by rw [hl]; simp, hw⟩
      rw [List.drop_eq_getElem_cons hpos]
      unfold DMEnc.putEcc
      simp only [hel, if_true, (by omega : base + e < sb.length)]
      have : ecc[pos] = ecc.getD pos 0 := by simp [List.getD_eq_getElem?_getD, List.getElem?_eq_getElem hpos]
      rw [this]; exact hp
    · refine ⟨sb, (e : Int), (pos : Int), ?_, rfl, ?_⟩
      · unfold DMEnc.putEcc; simp [hel]
      · have : ¬ ((e : Int) < (limit : Int)) := by omega
        simp only [this, decide_false, Bool.false_eq_true, if_false]

/-! ## the symbol descriptions the theorem covers -/

/-- what `ErrorCorrection_EncodeECC200` needs of a symbol description to run without a panic: a block count `B ≥ 1`
    (no division by zero), non-negative block data lengths, and — when there is more than one block — a per-block
    parity count that has a generator polynomial and whose `B` blocks fit the error codeword area -/
structure EccWF (s : DMEnc.SymbolInfo) (B : Nat) : Prop where
  count : s.interleavedBlockCount = .ok (B : Int)
  pos : 1 ≤ B
  dl : ∀ i, 0 ≤ s.dataLengthForInterleavedBlock i
  multi : B ≠ 1 → s.rsBlockError ∈ DMRef.parityLengths ∧ s.rsBlockError * B ≤ s.errorCodewords

/-- decidable form of `∃ B, EccWF s B` -/
def eccWFb (s : DMEnc.SymbolInfo) : Bool :=
  match s.interleavedBlockCount with
  | .ok b =>
    decide (1 ≤ b) && (s.special144 || decide (0 ≤ s.rsBlockData)) &&
      (b == 1 || (decide (s.rsBlockError ∈ DMRef.parityLengths) && decide (s.rsBlockError * b.toNat ≤ s.errorCodewords)))
  | .error _ => false

theorem eccWF_of_check (s : DMEnc.SymbolInfo) (h : eccWFb s = true) : ∃ B, EccWF s B := by
  unfold eccWFb at h
  cases hc : s.interleavedBlockCount with
  | error e => rw [hc] at h; cases h
  | ok b =>
    rw [hc] at h
    simp only [Bool.and_eq_true, Bool.or_eq_true, decide_eq_true_eq, beq_iff_eq] at h
    obtain ⟨⟨h1, h2⟩, h3⟩ := h
    refine ⟨b.toNat, ⟨by rw [Int.toNat_of_nonneg (by omega)]; exact hc, by omega, ?_, ?_⟩⟩
    · intro i
      unfold DMEnc.SymbolInfo.dataLengthForInterleavedBlock
      rcases h2 with h2 | h2
      · simp only [h2, if_true]; split <;> omega
      · cases s.special144
        · simpa using h2
        · simp only [if_true]; split <;> omega
    · intro hb
      rcases h3 with h3 | h3
      · exact absurd (by omega) hb
      · exact h3

/-- every row of the symbol table (30 symbols, in the order the library holds them) is covered -/
theorem symbols_eccWF : ∀ s ∈ DMEnc.symbols, ∃ B, EccWF s B := by
  intro s hs
  apply eccWF_of_check
  have : DMEnc.symbols.all eccWFb = true := by decide +kernel
  exact List.all_eq_true.mp this s hs

/-! ## the size arrays `dataSizes[i] = GetDataLengthForInterleavedBlock(i+1)`, `errorSizes[i] = GetErrorLength…(i+1)` -/

when_kernel Gzx.Gen.K08b.getErrorLengthForInterleavedBlock in
when_kernel Gzx.Gen.K08b.encodeECC200 in
/-- the first loop fills the two size arrays: `dN[j]` is the data length of block `j+1`, `eN[j]` the per-block parity count -/
theorem loop1_eq (s : DMEnc.SymbolInfo) (B : Nat) (hdl : ∀ i, 0 ≤ s.dataLengthForInterleavedBlock i) :
    ∃ dN eN : List Nat, dN.length = B ∧ eN.length = B ∧
      (∀ j, j < B → ((dN.getD j 0 : Nat) : Int) = s.dataLengthForInterleavedBlock (j + 1)) ∧
      (∀ j, j < B → eN.getD j 0 = s.rsBlockError) ∧
      loop (Gen.K08b.encodeECC200_body1 s.rsBlockData (s.rsBlockError : Int) (selDL s)) 1 (tripUp 0 (B : Int) 1) 0
        (words (List.replicate B 0), words (List.replicate B 0)) = .next (words dN, words eN) := by
  have htrip : tripUp 0 (B : Int) 1 = B := by rw [tripUp_one]; omega
  rw [htrip]
  obtain ⟨st', hloop, dN, eN, hst, h1, h2, h3, h4⟩ := loop_inv_up
    (Gen.K08b.encodeECC200_body1 s.rsBlockData (s.rsBlockError : Int) (selDL s))
    (fun i st => ∃ dN eN : List Nat, st = (words dN, words eN) ∧ dN.length = B ∧ eN.length = B ∧
      (∀ j, j < i → ((dN.getD j 0 : Nat) : Int) = s.dataLengthForInterleavedBlock (j + 1)) ∧
      (∀ j, j < i → eN.getD j 0 = s.rsBlockError)) 0 B
    (by
      intro i st hi ⟨dN, eN, hst, h1, h2, h3, h4⟩
      subst hst
      have ei : ((0 + i : Nat) : Int) + 1 = ((i + 1 : Nat) : Int) := by omega
      have hv : s.dataLengthForInterleavedBlock (i + 1) = (((s.dataLengthForInterleavedBlock (i + 1)).toNat : Nat) : Int) :=
        (Int.toNat_of_nonneg (hdl _)).symm
      refine ⟨(words (dN.set i (s.dataLengthForInterleavedBlock (i + 1)).toNat), words (eN.set i s.rsBlockError)), ?_,
        _, _, rfl, by simp [h1], by simp [h2], ?_, ?_⟩
      · simp only [Gen.K08b.encodeECC200_body1]
        rw [ei, k_getDataLength_eq s (i + 1)]
        simp only [tryC_ok]
        rw [setIdx_words_lt dN _ _ i _ (by omega) hv (by omega)]
        simp only [tryC_ok, Gen.K08b.getErrorLengthForInterleavedBlock]
        rw [setIdx_words_lt eN _ _ i s.rsBlockError (by omega) rfl (by omega)]
        simp only [tryC_ok]
      · intro j hj
        by_cases hji : j = i
        · subst hji
          rw [List.getD_eq_getElem?_getD, List.getElem?_set_self (by omega)]
          exact hv.symm
        · rw [List.getD_eq_getElem?_getD, List.getElem?_set_ne (Ne.symm hji), ← List.getD_eq_getElem?_getD]
          exact h3 j (by omega)
      · intro j hj
        by_cases hji : j = i
        · subst hji
          rw [List.getD_eq_getElem?_getD, List.getElem?_set_self (by omega)]; rfl
        · rw [List.getD_eq_getElem?_getD, List.getElem?_set_ne (Ne.symm hji), ← List.getD_eq_getElem?_getD]
          exact h4 j (by omega))
    B 0 (words (List.replicate B 0), words (List.replicate B 0)) (by omega)
    ⟨_, _, rfl, by simp, by simp, by intro j hj; omega, by intro j hj; omega⟩
  have e0 : ((0 + 0 : Nat) : Int) = 0 := rfl
  rw [e0] at hloop
  exact ⟨dN, eN, h1, h2, h3, h4, by rw [hloop, hst]⟩

/-! ## one block, all blocks -/

when_kernel Gzx.Gen.K08b.encodeECC200 in
/-- the `for block` loop against `DMEnc.blocksLoop` (which mirrors it with the same stride extraction, per-block
    `createECCBlock` and the write-back `putEcc` starting at `(block + B - cap%B) % B`) -/
theorem blocks_sim (s : DMEnc.SymbolInfo) (B : Nat) (wf : EccWF s B) (hB2 : B ≠ 1) (cws : List Nat) (hcb : Bytes cws)
    (hlen : cws.length = s.dataCapacity) (fuel : Nat) (hf : s.dataCapacity + s.errorCodewords + 3 ≤ fuel)
    (dN eN : List Nat) (hdl : dN.length = B) (hel : eN.length = B)
    (he : ∀ j, j < B → eN.getD j 0 = s.rsBlockError) (bk : List Int) :
    ∀ (k block : Nat) (sb : List Nat), block + k = B → sb.length = s.dataCapacity + s.errorCodewords →
      ∃ sb', DMEnc.blocksLoop DMRef.parityLengths DMRef.factorTable cws s true B k block sb = .ok sb' ∧
        loop (Gen.K08b.encodeECC200_body2 fuel (words DMEnc.log) (words DMEnc.alog) (words cws) (s.dataCapacity : Int) bk (B : Int)
          (words dN) (words eN)) 1 k (block : Int) (words sb) = .next (words sb') := by
  obtain ⟨hpl, hfit⟩ := wf.multi hB2
  have hBpos : 0 < B := wf.pos
  intro k
  induction k with
  | zero => intro block sb _ _; exact ⟨sb, rfl, rfl⟩
  | succ k ih =>
    intro block sb hbk hsb
    have hblk : block < B := by omega
    obtain ⟨ecc, hecc, heccl, _⟩ : ∃ e, DMEnc.createECCBlock DMRef.parityLengths DMRef.factorTable
        (DMEnc.strideFrom B cws block) s.rsBlockError = .ok e ∧ e.length = s.rsBlockError ∧ True := by
      rcases createECCBlock_res (DMEnc.strideFrom B cws block) s.rsBlockError with ⟨e, h1, h2, _⟩ | ⟨_, h2⟩
      · exact ⟨e, h1, h2, trivial⟩
      · exact absurd hpl h2
    have hstart : (block + B - s.dataCapacity % B) % B < B := Nat.mod_lt _ hBpos
    have hmulB : s.rsBlockError * B + 1 ≤ (s.rsBlockError * B + 1) * B := Nat.le_mul_of_pos_right _ hBpos
    obtain ⟨sb1, e', pos', hput, hsb1, hwl⟩ := putEcc_sim B (s.rsBlockError * B) s.dataCapacity ecc eN block
      (by omega) (by rw [he block hblk]) bk (s.rsBlockError * B + 1) sb ((block + B - s.dataCapacity % B) % B) 0 fuel
      (by omega) (by rw [Nat.sub_zero, heccl]; omega) (by omega)
      (by omega)
    obtain ⟨sb', hrec, hloop⟩ := ih (block + 1) sb1 (by omega) (by omega)
    refine ⟨sb', ?_, ?_⟩
    · rw [DMEnc.blocksLoop]
      have h0 : ¬ s.dataLengthForInterleavedBlock (block + 1) < 0 := by have := wf.dl (block + 1); omega
      simp only [hblk, if_true, h0, if_false, DMEnc.SymbolInfo.errorLengthForInterleavedBlock, hecc, List.drop_zero] at hput ⊢
      rw [hput]; exact hrec
    · rw [loop_succ]
      have hbody : Gen.K08b.encodeECC200_body2 fuel (words DMEnc.log) (words DMEnc.alog) (words cws) (s.dataCapacity : Int) bk (B : Int)
          (words dN) (words eN) (block : Int) (words sb) = .next (words sb1) := by
        simp only [Gen.K08b.encodeECC200_body2]
        rw [idx_words_lt dN block (by omega)]
        simp only [tryC_ok]
        have hmk : mk3u 0 ((dN.getD block 0 : Nat) : Int) = .ok (words []) := by
          unfold mk3u
          have : ¬ (((dN.getD block 0 : Nat) : Int) < 0) := by omega
          simp
        rw [hmk]
        simp only [tryC_ok]
        obtain ⟨d', htemp⟩ := temp_sim cws B hBpos fuel (cws.drop block) block [] rfl (by simp; omega)
        rw [hlen] at htemp
        rw [htemp]
        simp only [brk_thenC, List.nil_append]
        rw [idx_words_lt eN block (by omega), he block hblk]
        simp only [tryC_ok]
        have hce := k_createECCBlock_eq (DMEnc.strideFrom B cws block) (strideFrom_bytes B cws block hcb) s.rsBlockError
        unfold DMEnc.strideFrom at hce hecc
        rw [hecc] at hce
        rw [hce]
        simp only [expE, tryC_ok]
        have hm1 : GoM.mod (s.dataCapacity : Int) (B : Int) = .ok ((s.dataCapacity % B : Nat) : Int) := by
          unfold GoM.mod
          have : ¬ ((B : Int) = 0) := by omega
          simp only [this, if_false]
          rw [tmod_natCast]
        rw [hm1]
        simp only [tryC_ok]
        have hm2 : GoM.mod ((block : Int) + (B : Int) - ((s.dataCapacity % B : Nat) : Int)) (B : Int) =
            .ok (((block + B - s.dataCapacity % B) % B : Nat) : Int) := by
          unfold GoM.mod
          have : ¬ ((B : Int) = 0) := by omega
          simp only [this, if_false]
          have hlt : s.dataCapacity % B < B := Nat.mod_lt _ hBpos
          have : (block : Int) + (B : Int) - ((s.dataCapacity % B : Nat) : Int) = ((block + B - s.dataCapacity % B : Nat) : Int) := by omega
          rw [this, tmod_natCast]
        rw [hm2]
        simp only [tryC_ok]
        have e0 : (0 : Int) = ((0 : Nat) : Int) := rfl
        rw [e0, hwl]
        simp only [brk_thenC]
      rw [hbody]
      have e1 : (block : Int) + 1 = ((block + 1 : Nat) : Int) := by omega
      simp only [e1]
      exact hloop

/-! ## `ErrorCorrection_EncodeECC200` -/

/-- what the regenerated function must return for a result of the model: the length check returns `nil` with the
    WriterException, an unknown parity count (single-block branch) returns the copied data codewords with it -/
def expEnc (cws : List Nat) (cap : Nat) : Res (List Nat) → Res (List Int × Bool)
  | .ok e => .ok (words e, false)
  | .error .writer => .ok (if cws.length ≠ cap then [] else words cws, true)
  | .error e => .error e

when_kernel Gzx.Gen.K08b.encodeECC200 in
/-- `ErrorCorrection_EncodeECC200(codewords, symbolInfo)` = `DMEnc.encodeECC200` over the reference tables: for every
    symbol description covered by `EccWF` (all 30 table rows: `symbols_eccWF`), EVERY byte vector of any length and
    every fuel above `dataCapacity + errorCodewords + 3` (the two stride loops have a non-constant step): the length
    check, the buffer `make(0, cap+err)` / `append` / `sb[:cap(sb)]`, the single-block branch, the size arrays, the
    stride extraction of each block, its parity, and the interleaved write-back starting at `(block + B - cap%B) % B`
    (144x144: first error codeword belongs to block 9).  With Properties/C08 `encodeECC200_eq_reference` the regenerated
    function returns the ISO/IEC 16022 codeword sequence. -/
theorem k_encodeECC200_eq (s : DMEnc.SymbolInfo) (B : Nat) (wf : EccWF s B) (cws : List Nat) (hcb : Bytes cws)
    (fuel : Nat) (hf : s.dataCapacity + s.errorCodewords + 3 ≤ fuel) :
    Gen.K08b.encodeECC200 fuel (words DMEnc.log) (words DMEnc.alog) (words cws) (s.dataCapacity : Int) (s.errorCodewords : Int)
        s.rsBlockData (s.rsBlockError : Int) (selBC s) (selDL s) =
      expEnc cws s.dataCapacity (DMEnc.encodeECC200 DMRef.parityLengths DMRef.factorTable cws s) := by
  simp only [Gen.K08b.encodeECC200]
  unfold DMEnc.encodeECC200
  rw [len_words, natCast_bne]
  by_cases hlen : cws.length = s.dataCapacity
  · have h1 : (cws.length != s.dataCapacity) = false := by simp [hlen]
    have h2 : ¬ cws.length ≠ s.dataCapacity := by omega
    simp only [h1, Bool.false_eq_true, if_false, h2]
    have hmk : mk3 0 ((s.dataCapacity : Int) + (s.errorCodewords : Int)) =
        .ok (words [], words (List.replicate (s.dataCapacity + s.errorCodewords) 0)) := by
      unfold mk3
      have a1 : ¬ ((0 : Int) < 0) := by omega
      have a2 : ¬ ((s.dataCapacity : Int) + (s.errorCodewords : Int) < 0) := by omega
      have a3 : ((s.dataCapacity : Int) + (s.errorCodewords : Int)).toNat = s.dataCapacity + s.errorCodewords := by omega
      simp [a2, a3, words]
    rw [hmk]
    simp only [tryR_ok]
    have happ : appendT (words []) (words (List.replicate (s.dataCapacity + s.errorCodewords) 0)) (words cws) =
        .ok (words cws, words (List.replicate s.errorCodewords 0)) := by
      unfold appendT
      have : (words cws).length ≤ (words (List.replicate (s.dataCapacity + s.errorCodewords) 0)).length := by
        simp [words]; omega
      simp only [this, if_true]
      simp [words, hlen]
    rw [happ]
    simp only [tryR_ok]
    rw [k_getInterleavedBlockCount_eq, wf.count]
    simp only [tryR_ok]
    rw [show (((B : Int) == 1) : Bool) = (B == 1) from natCast_beq B 1]
    by_cases hB1 : B = 1
    · subst hB1
      simp only [beq_self_eq_true, if_true]
      rw [k_createECCBlock_eq cws hcb s.errorCodewords]
      rcases createECCBlock_res cws s.errorCodewords with ⟨e, h1, h2, _⟩ | ⟨h1, _⟩
      · rw [h1]
        simp only [expE, tryR_ok, bne_self_eq_false, Bool.false_eq_true, if_false]
        have happ2 : appendT (words cws) (words (List.replicate s.errorCodewords 0)) (words e) =
            .ok (words (cws ++ e), words []) := by
          unfold appendT
          have : (words e).length ≤ (words (List.replicate s.errorCodewords 0)).length := by simp [words]; omega
          simp only [this, if_true]
          simp [words, h2]
        rw [happ2]
        simp [expEnc]
      · rw [h1]
        simp [expE, expEnc, hlen]
    · have hb : (B == 1) = false := by simp [hB1]
      have hne : ¬ ((B : Int) = 1) := by omega
      have hnn : ¬ ((B : Int) < 0) := by omega
      simp only [hb, Bool.false_eq_true, if_false, hne, hnn, Int.toNat_natCast]
      have hres : reslice (words cws) (words (List.replicate s.errorCodewords 0)) 0
          (len (words cws) + len (words (List.replicate s.errorCodewords 0))) =
          .ok (words (cws ++ List.replicate s.errorCodewords 0), words []) := by
        unfold reslice
        simp only [len_words]
        have : (0 : Int) ≤ 0 ∧ (0 : Int) ≤ (cws.length : Int) + ((List.replicate s.errorCodewords 0).length : Int) ∧
            (cws.length : Int) + ((List.replicate s.errorCodewords 0).length : Int) ≤
              (((words cws).length + (words (List.replicate s.errorCodewords 0)).length : Nat) : Int) := by
          refine ⟨by omega, by omega, ?_⟩
          simp [words]
        simp only [this, and_self, if_true]
        have e1 : ((cws.length : Int) + ((List.replicate s.errorCodewords 0).length : Int)).toNat =
            (words cws ++ words (List.replicate s.errorCodewords 0)).length := by
          have : (words cws ++ words (List.replicate s.errorCodewords 0)).length =
              cws.length + (List.replicate s.errorCodewords 0).length := by simp [words]
          rw [this]; omega
        rw [e1, List.take_length, List.drop_length]
        simp [words]
      rw [hres]
      simp only [tryR_ok]
      rw [mk_words' B]
      simp only [tryR_ok]
      obtain ⟨dN, eN, hdl, hel, _, he, hl1⟩ := loop1_eq s B wf.dl
      rw [hl1]
      simp only [next_thenR]
      obtain ⟨sb', hmodel, hloop⟩ := blocks_sim s B wf hB1 cws hcb hlen fuel hf dN eN hdl hel he (words []) B 0
        (cws ++ List.replicate s.errorCodewords 0) (by omega) (by simp [hlen])
      have htrip : tripUp 0 (B : Int) 1 = B := by rw [tripUp_one]; omega
      have e0 : ((0 : Nat) : Int) = 0 := rfl
      rw [e0] at hloop
      rw [htrip, hloop, hmodel]
      simp [expEnc]
  · have h1 : (cws.length != s.dataCapacity) = true := by simp [hlen]
    simp [h1, hlen, expEnc]

/-- non-vacuity: the 144x144 symbol (10 blocks of two lengths) satisfies `EccWF` -/
example : ∃ s ∈ DMEnc.symbols, s.special144 = true ∧ EccWF s 10 := by
  obtain ⟨B, h⟩ := symbols_eccWF (DMEnc.symbols.getLast (by decide)) (List.getLast_mem _)
  refine ⟨_, List.getLast_mem (by decide), by decide +kernel, ?_⟩
  have : B = 10 := by
    have := h.count
    have h10 : (DMEnc.symbols.getLast (by decide)).interleavedBlockCount = .ok 10 := by decide +kernel
    rw [h10] at this
    injection this with this
    omega
  subst this; exact h

end Gzx.Obligations.K08b
