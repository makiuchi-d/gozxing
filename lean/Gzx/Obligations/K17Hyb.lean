/-
  K17 (rectangle scans) — `HybridBinarizer.thresholdBlock` and the final loop of `GlobalHistogramBinarizer.GetBlackMatrix`,
  regenerated from /repo on every run together with the `BitMatrix.Set` they call, proved equal to the pixel-by-pixel mirror
  `K17.rectW` (same checked reads, same `Set` calls on the word slice, same panics) for all arguments, and through
  `K17.rectW_agrees` to `Binarizer.thresholdBlock` / `Binarizer.scanRect`, the models of `Properties/C17.lean`.
-/
import Gzx.Gen.K17
import Gzx.KernelGuard
import Gzx.Proofs.K17
namespace Gzx.Obligations.K17Hyb
open Gzx Gzx.GoM Gzx.Bits Gzx.GoVal Gzx.Binarizer Gzx.K17

variable {σ ρ τ α : Type}

/-- a counted loop that also carries a value determined by the iteration number (`offset += stride`) -/
theorem loop_up_fold_aux (R : τ → σ) (aux : Nat → α) (body : Int → σ × α → Ctl (σ × α) ρ) (f : τ → Nat → Res τ) :
    ∀ (n a : Nat) (t : τ),
      (∀ i, a ≤ i → i < a + n → ∀ t, body (i : Int) (R t, aux i) =
        match f t i with
        | .ok t' => .next (R t', aux (i + 1))
        | .error e => .panic e) →
      loop body 1 n (a : Int) (R t, aux a) =
        match (List.range' a n).foldlM f t with
        | .ok t' => .next (R t', aux (a + n))
        | .error e => .panic e := by
  intro n a t hb
  rw [loop_sim (fun i t => (R t, aux i)) (fun _ _ => True) f 1 (fun k => (k : Int)) (fun _ => Int.natCast_succ _) body n a t
    trivial (fun i t h1 h2 _ => ⟨by rw [hb i h1 h2 t]; cases f t i <;> rfl, fun _ _ => trivial⟩)]
  cases (List.range' a n).foldlM f t <;> rfl

when_kernel Gzx.Gen.K17.matrixSet in
/-- `BitMatrix.Set(x, y)` (the copy of the kernel that the K17 callers use) = `K17.setW` -/
theorem k_matrixSet_eq (rs : Nat) (ws : List Nat) (x y : Nat) :
    Gen.K17.matrixSet rs (words ws) x y = (setW rs ws x y).map words := by
  simp only [Gen.K17.matrixSet, setW]
  rw [updR ws (y * rs + x / 32) (fun w => w ||| 1 <<< (x % 32))]
  · cases updWord ws (y * rs + x / 32) _ <;> rfl
  · gonorm; omega
  · gonorm; omega
  · intro w; gonorm
    rw [bit_natCast _ (x % 32) (by omega) (by omega), ior_natCast]

theorem byte_and (p : Nat) : iand (Int.ofNat p) 255 = ((p % 256 : Nat) : Int) :=
  iand_255 p

when_kernel Gzx.Gen.K17.thresholdBlock in
/-- one pixel of `thresholdBlock` -/
theorem k_thresholdBlock_cell (lum : List Nat) (xo yo thr w rs yy xx : Nat) (ws : List Nat) :
    Gen.K17.thresholdBlock_body2 (bytes lum) xo yo thr rs (((yo * w + xo + yy * w : Nat)) : Int) yy (xx : Int) (words ws) =
      ofRes ((cellW lum w xo yo (fun p => decide (p ≤ thr)) rs yy ws xx).map words) := by
  simp only [Gen.K17.thresholdBlock_body2]
  exact cellW_words lum w xo yo _ (fun q => decide (q ≤ (thr : Int))) rs yy xx ws _ (by rw [Nat.add_mul]; omega) _
    (by rw [← Int.natCast_add, ← Int.natCast_add, k_matrixSet_eq]) (fun _ => decide_eq_decide.mpr Int.ofNat_le)

when_kernel Gzx.Gen.K17.thresholdBlock in
/-- `thresholdBlock(luminances, xoffset, yoffset, threshold, stride, matrix)` = the 8x8 rectangle scan with `pixel <= threshold`
    (offset `yoffset*stride + xoffset`, advanced by `stride` per row) -/
theorem k_thresholdBlock_eq (lum : List Nat) (xo yo thr w rs : Nat) (ws : List Nat) :
    Gen.K17.thresholdBlock (bytes lum) xo yo thr w rs (words ws) =
      (rectW lum w xo yo 8 8 (fun p => decide (p ≤ thr)) rs ws).map words := by
  simp only [Gen.K17.thresholdBlock, rectW]
  have h := loop_up_fold_aux (ρ := List Int) words (fun i => (((yo * w + xo + i * w : Nat)) : Int))
    (Gen.K17.thresholdBlock_body1 (bytes lum) xo yo thr w rs) (rowW lum w xo yo 8 (fun p => decide (p ≤ thr)) rs) 8 0 ws
    (by
      intro yy _ _ t
      simp only [Gen.K17.thresholdBlock_body1, rowW]
      rw [loop_up_fold' words (cellW lum w xo yo (fun p => decide (p ≤ thr)) rs yy) 0 8 t rfl (by rw [tripUp_one]; rfl) (by omega)
            (fun xx _ _ t => k_thresholdBlock_cell lum xo yo thr w rs yy xx t)]
      cases (List.range' 0 8).foldlM (cellW lum w xo yo (fun p => decide (p ≤ thr)) rs yy) t with
      | error e => rfl
      | ok t' =>
        simp only [Except.map, ofRes_ok, next_thenC]
        congr 2
        rw [Nat.add_mul]; omega)
  have e0 : (((yo * w + xo + 0 * w : Nat)) : Int) = (yo : Int) * (w : Int) + (xo : Int) := by simp [Int.natCast_mul]
  rw [e0] at h
  rw [show tripUp 0 8 1 = 8 from rfl, show (0 : Int) = ((0 : Nat) : Int) from rfl, h]
  cases (List.range' 0 8).foldlM (rowW lum w xo yo 8 (fun p => decide (p ≤ thr)) rs) ws <;> rfl

when_kernel Gzx.Gen.K17.thresholdBlock in
/-- **thresholdBlock, Go source to model**: the regenerated function performs exactly the `Set` calls of
    `Binarizer.thresholdBlock` in the same order (or panics when the model reports a failed read) -/
theorem k_thresholdBlock_model (lum : List Nat) (xo yo thr w rs : Nat) (ws : List Nat) :
    ∃ r, Gen.K17.thresholdBlock (bytes lum) xo yo thr w rs (words ws) = r.map words ∧
      ScanAgrees rs ws r (Binarizer.thresholdBlock lum.toArray w xo yo thr) :=
  ⟨_, k_thresholdBlock_eq lum xo yo thr w rs ws, rectW_agrees lum w xo yo 8 8 _ rs ws⟩

when_kernel Gzx.Gen.K17.matrixThreshold in
/-- one pixel of the global `GetBlackMatrix` loop -/
theorem k_matrixThreshold_cell (lum : List Nat) (w bp rs yy xx : Nat) (ws : List Nat) :
    Gen.K17.matrixThreshold_body2 bp rs (bytes lum) yy ((yy : Int) * (w : Int)) (xx : Int) (words ws) =
      ofRes ((cellW lum w 0 0 (fun p => decide (p < bp)) rs yy ws xx).map words) := by
  simp only [Gen.K17.matrixThreshold_body2]
  exact cellW_words lum w 0 0 _ (fun q => decide (q < (bp : Int))) rs yy xx ws _
    (by rw [Nat.zero_add, Nat.add_zero, Int.natCast_add, Int.natCast_mul]) _
    (by rw [Nat.zero_add, Nat.zero_add, k_matrixSet_eq]) (fun _ => decide_eq_decide.mpr Int.ofNat_lt)

when_kernel Gzx.Gen.K17.matrixThreshold in
/-- the final loop of `GlobalHistogramBinarizer.GetBlackMatrix` (`pixel < blackPoint` over the whole `GetMatrix()` array,
    offset `y*width`) = the `width x height` rectangle scan -/
theorem k_matrixThreshold_eq (lum : List Nat) (w h bp rs : Nat) (ws : List Nat) :
    Gen.K17.matrixThreshold w h rs (words ws) bp (bytes lum) =
      (rectW lum w 0 0 w h (fun p => decide (p < bp)) rs ws).map words := by
  simp only [Gen.K17.matrixThreshold, rectW]
  rw [loop_up_fold' words (rowW lum w 0 0 w (fun p => decide (p < bp)) rs) 0 h ws rfl (by rw [tripUp_one]; omega) (by omega)]
  · cases (List.range' 0 h).foldlM (rowW lum w 0 0 w (fun p => decide (p < bp)) rs) ws <;> rfl
  · intro yy _ _ t
    simp only [Gen.K17.matrixThreshold_body1, rowW]
    rw [loop_up_fold' words (cellW lum w 0 0 (fun p => decide (p < bp)) rs yy) 0 w t rfl (by rw [tripUp_one]; omega) (by omega)
          (fun xx _ _ t => k_matrixThreshold_cell lum w bp rs yy xx t)]
    cases (List.range' 0 w).foldlM (cellW lum w 0 0 (fun p => decide (p < bp)) rs yy) t <;> rfl

when_kernel Gzx.Gen.K17.matrixThreshold in
/-- **global threshold loop, Go source to model**: exactly the `Set` calls of `Binarizer.scanRect … (· < blackPoint)` -/
theorem k_matrixThreshold_model (lum : List Nat) (w h bp rs : Nat) (ws : List Nat) :
    ∃ r, Gen.K17.matrixThreshold w h rs (words ws) bp (bytes lum) = r.map words ∧
      ScanAgrees rs ws r (Binarizer.scanRect lum.toArray w 0 0 w h (fun p => decide (p < bp))) :=
  ⟨_, k_matrixThreshold_eq lum w h bp rs ws, rectW_agrees lum w 0 0 w h _ rs ws⟩

-- non-vacuity: a 2x2 image, black point 100: pixels (0,0) and (1,1) are set in a one-word-per-row matrix
when_kernel Gzx.Gen.K17.matrixThreshold in
example : Gen.K17.matrixThreshold 2 2 1 (words [0, 0]) 100 (bytes [10, 200, 150, 99]) = .ok (words [1, 2]) := by decide

end Gzx.Obligations.K17Hyb
