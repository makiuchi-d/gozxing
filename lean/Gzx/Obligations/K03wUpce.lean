/-
  K03w (continued) — `upcEEncoder.encodeWithHints` regenerated and proved equal to the model's `upceModules`
  (Model/OneD.lean, on top of `upceWriterContents` of Model/CheckDigit.lean) for every byte string.
-/
import Gzx.Obligations.K03w
namespace Gzx.Obligations.K03w
open Gzx Gzx.GoM Gzx.CheckDigit Gzx.OneD Gzx.K03w

when_kernel Gzx.Gen.K03w.upceEncode in
theorem tbl_UE : Gen.K03w.tbl2_upce_NUMSYS_AND_CHECK_DIGIT_PATTERNS = rows refTables.upceParity := by decide +kernel
when_kernel Gzx.Gen.K03w.upceEncode in
theorem tbl_END : Gen.K03w.tbl_UPCEANReader_END_PATTERN = refTables.upceEnd.map Int.ofNat := by decide +kernel

when_kernel Gzx.Gen.K03w.upceEncode in
/-- the guard pattern UPC-E shares with the EAN writers, under its own guard -/
theorem tbl_SE_upce : Gen.K03w.tbl_UPCEANReader_START_END_PATTERN = refTables.startEnd.map Int.ofNat := by decide +kernel

theorem end_sum : OneD.sumL refTables.upceEnd = 6 := by decide +kernel

abbrev parityE := OneD.parityE refTables
abbrev drawE := OneD.drawE refTables

theorem upceRow_len : ∀ i, i < 2 → (rowAt refTables.upceParity i).length = 10 := by decide +kernel

theorem upceModules_err (s : List Nat) (e : Fault) (h : upceWriterContents s = .error e) :
    upceModules refTables s = .error e := by
  unfold upceModules; rw [h]; rfl

when_kernel Gzx.Gen.K03w.upceEncode in
theorem upce_left (full : List Nat) (p : Nat) (h : allDigits full = true) :
    IsLGStep (ρ := List Int × Bool) (Gen.K03w.upceEncode_body1 LG (bytes full) (p : Int)) full p := by
  intro i hi6 hi done rest
  simp only [Gen.K03w.upceEncode_body1]
  exact lgstep_core full p h i hi6 hi done rest _ (fun t => rfl)

when_kernel Gzx.Gen.K03w.upceEncode in
theorem upce_same : @Gen.K03w.upceEncode_body2 = @Gen.K03w.upceEncode_body1 := rfl

theorem wrap8_ne (v : Nat) (h1 : 48 ≤ v) (h2 : v ≤ 57) :
    ((wrap 8 ((v : Int) - 48) != 0) && (wrap 8 ((v : Int) - 48) != 1)) = !(decide (v = 48 ∨ v = 49)) := by
  rw [wrap8_digit v h1 h2]
  by_cases h : v = 48 ∨ v = 49
  · rcases h with h | h <;> subst h <;> decide
  · have a : ((v - 48 : Nat) : Int) ≠ 0 := by omega
    have b : ((v - 48 : Nat) : Int) ≠ 1 := by omega
    simp [h, b]; omega

theorem idx_parityE (full : List Nat) (hd : allDigits full = true) (hl : full.length = 8)
    (hf : full[0]'(by omega) = 48 ∨ full[0]'(by omega) = 49) :
    (tryR (idxRow (rows refTables.upceParity) (((full[0]'(by omega)) - 48 : Nat) : Int)) fun t6 =>
      tryR (idx t6 (((full[7]'(by omega)) - 48 : Nat) : Int)) fun t7 => (Except.ok t7 : Res Int)) = .ok ((parityE full : Nat) : Int) := by
  have h0 : 0 < full.length := by omega
  have h7 : 7 < full.length := by omega
  obtain ⟨a1, a2⟩ := digit_of_all hd 7 h7
  rw [idxRow_rows _ (full[0] - 48) _ rfl (by show full[0] - 48 < 2; omega)]
  simp only [tryR_ok]
  rw [idx_bytes]
  unfold parityE OneD.parityE
  rw [List.getElem?_eq_getElem h0, List.getElem?_eq_getElem h7]
  have : full[7] - 48 < (rowAt refTables.upceParity (full[0] - 48)).length := by
    rw [upceRow_len _ (by omega)]; omega
  simp [this]

/-- `upcEEncoder.encodeWithHints` up to the point where the complete string is known (used as `std_front` is, with the
    kernels as parameters in the same way) -/
theorem upce_front (conv : List Int → Res (List Int)) (getStd : List Int → Res (Int × Bool))
    (chkStd : List Int → Res (Bool × Bool)) (chkNum : List Int → Res Bool)
    (hconv : ∀ u : List Nat, conv (bytes u) =
      match CheckDigit.convertUPCEtoUPCA u with
      | .ok a => .ok (bytes a)
      | .error _ => .error (.panic "slice bounds out of range"))
    (hget : ∀ s : List Nat, (∀ b ∈ s, b < 256) → getStd (bytes s) =
      .ok (match eanChecksumB s with
           | .ok v => (v, false)
           | .error _ => (0, true)))
    (hchk : ∀ s : List Nat, (∀ b ∈ s, b < 256) → chkStd (bytes s) =
      .ok (match checkStandardB s with
           | .ok b => (b, false)
           | .error _ => (false, true)))
    (hnum : ∀ s : List Nat, chkNum (bytes s) = .ok (!allDigits s))
    (s : List Nat) (hs : ∀ b ∈ s, b < 256) (B : List Int) (hB : B = bytes s)
    (F : Int × Bool → Res (List Int × Bool)) (K : List Int → Res (List Int × Bool))
    (hF : ∀ t, F t = if (t.2 != false) then .ok ([], true) else
      tryR (chkNum (B ++ itoa t.1)) fun e => if (e != false) then .ok ([], e) else K (B ++ itoa t.1)) :
    (if ((s.length : Int) == 7) then
       tryR (conv B) fun t1 => tryR (getStd t1) F
     else if ((s.length : Int) == 8) then
       tryR (conv B) fun t14 =>
       tryR (chkStd t14) fun t =>
         if (t.2 != false) then .ok ([], true) else if (!t.1) then .ok ([], true) else
           tryR (chkNum B) fun e => if (e != false) then .ok ([], e) else K B
     else .ok ([], true)) =
      match upceChecked s with
      | .ok full => if allDigits full then K (bytes full) else .ok ([], true)
      | .error _ => .ok ([], true) := by
  unfold upceChecked
  by_cases h7 : s.length = 7
  · obtain ⟨a, ha⟩ := conv_ok s (by omega)
    have hcv := hconv s
    rw [ha] at hcv
    rw [if_pos (by rw [beq_iff_eq]; omega), if_pos h7, ha, hB, hcv]
    simp only [tryR_ok]
    rw [front_short getStd chkNum hget hnum a s (conv_lt256 s a ha hs) _ B rfl hB F K hF]
    cases eanChecksumB a <;> rfl
  · rw [if_neg (by rw [beq_iff_eq]; omega), if_neg h7]
    by_cases h8 : s.length = 8
    · obtain ⟨a, ha⟩ := conv_ok s (by omega)
      have hcv := hconv s
      rw [ha] at hcv
      rw [if_pos (by rw [beq_iff_eq]; omega), if_pos h8, ha, hB, hcv]
      simp only [tryR_ok]
      rw [← hB, front_long chkStd chkNum hchk hnum a s (conv_lt256 s a ha hs) _ B rfl hB K]
      cases checkStandardB a with
      | error e => rfl
      | ok ok => cases ok <;> rfl
    · rw [if_neg (by rw [beq_iff_eq]; omega), if_neg h8]

when_kernel Gzx.Gen.K03w.upceEncode in
/-- `upcEEncoder.encodeWithHints(contents)` for EVERY byte string, with the run-time table L_AND_G as the model computes
    it: the model's `upceModules` (length switch, check digit of the EXPANDED number computed for 7 / verified for 8
    characters, digit test, number system 0 or 1, parity word of number system and check digit, start guard, six L/G
    patterns, end guard) as 0/1, or a WriterException -/
theorem k_upceEncode_eq (s : List Nat) (hs : ∀ b ∈ s, b < 256) :
    Gen.K03w.upceEncode LG (bytes s) = encRes (upceModules refTables s) := by
  simp only [Gen.K03w.upceEncode, len, bytes_length, upce_same]
  generalize hB : bytes s = B
  apply Eq.trans (upce_front _ _ _ _ k_convertUPCEtoUPCA_eq k_getStandardUPCEANChecksum_eq k_checkStandardUPCEANChecksum_eq
    k_checkNumeric_eq s hs B hB.symm _ _ ?hF)
  case hF => intro t; rfl
  have hm := upceWriterContents_eq s
  cases hc : upceChecked s with
  | error e =>
    cases upceChecked_err s e hc
    rw [hc] at hm
    rw [upceModules_err s _ hm]; rfl
  | ok full =>
    rw [hc] at hm
    dsimp only at hm ⊢
    by_cases hd : allDigits full = true
    · have hl := upceChecked_ok s full hc hd
      have h0 : 0 < full.length := by omega
      have h7 : 7 < full.length := by omega
      obtain ⟨d1, d2⟩ := digit_of_all hd 0 h0
      obtain ⟨a1, a2⟩ := digit_of_all hd 7 h7
      rw [firstOk_digits full hd h0] at hm
      rw [if_pos hd, idx_bytes_at full 0 0 rfl h0]
      simp only [tryR_ok]
      rw [wrap8_ne _ d1 d2]
      by_cases hf : full[0] = 48 ∨ full[0] = 49
      · simp only [hf, if_true] at hm
        rw [OneD.upceModules_of_contents refTables rfl rfl (by decide) s full hm hl hd hf]
        simp only [hf, decide_true, Bool.not_true, Bool.false_eq_true, if_false, encRes]
        rw [idx_bytes_at full 7 7 rfl h7]
        simp only [tryR_ok]
        rw [wrap8_digit _ d1 d2, wrap8_digit _ a1 a2, tbl_UE]
        have hp := idx_parityE full hd hl hf
        have s1 := upce_left full (parityE full) hd
        have w1 : segW (lgPat full (parityE full)) 1 6 = 42 :=
          segW_const _ 7 6 1 (fun i _ hi => lgPat_sum full _ hd i (by omega))
        have hmk : mk (51 : Int) = .ok ([] ++ List.replicate 51 0) := by decide
        revert hp
        cases hr : idxRow (rows refTables.upceParity) ((full[0] - 48 : Nat) : Int) with
        | error e => intro hp; simp only [tryR_error] at hp; cases hp
        | ok row =>
          intro hp
          simp only [tryR_ok] at hp ⊢
          cases hq : idx row ((full[7] - 48 : Nat) : Int) with
          | error e => rw [hq] at hp; simp only [tryR_error] at hp; cases hp
          | ok pv =>
            rw [hq] at hp
            simp only [tryR_ok] at hp ⊢
            injection hp with hp
            subst hp
            simp only [hmk, tryR_ok, tbl_SE_upce, tbl_END]
            rw [ap_at [] _ _ _ true (by rfl)]
            simp only [se_sum, List.length_replicate, Nat.reduceLeDiff, if_true, tryR_ok]
            rw [draw_at (k := 6) (a := 1) (pats := lgPat full (parityE full)) (c := false)
              (hb := fun i _ hi => s1 i (by omega) (by omega))]
            rotate_left
            · decide
            · rfl
            · simp [b01_length, appendPattern_length, se_sum]
            simp only [drawn, w1, List.length_drop, List.length_replicate, Nat.reduceSub, Nat.reduceLeDiff, if_true, next_thenR]
            rw [ap_at]
            rotate_left
            · simp [b01_length, appendPattern_length, se_sum, segM_length, w1]
            simp only [end_sum, List.length_drop, List.length_replicate, Nat.reduceSub, Nat.reduceLeDiff, if_true, tryR_ok]
            simp [OneD.drawE, b01_append]
      · simp only [hf, if_false] at hm
        simp only [upceModules_err s _ hm, hf, decide_false, Bool.not_false, if_true, encRes]
    · rw [firstOk_nondigits full hd] at hm
      rw [if_neg hd, upceModules_err s _ hm]; rfl

when_kernel Gzx.Gen.K03w.upceEncode in
example : Gen.K03w.upceEncode LG (bytes (bytesOf "0123456")) = encRes (upceModules refTables (bytesOf "0123456")) :=
  k_upceEncode_eq _ (by decide)

end Gzx.Obligations.K03w
