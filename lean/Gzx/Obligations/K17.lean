/-
  K17 — binariser arithmetic of the root package regenerated from /repo on every run (`Gzx.Gen.K17`, translator kinds `funcm` /
  `region`) and proved equal to the hand-written `Model/Binarizer.lean`, the model the C17 theorems
  (`Properties/C17.lean`) are about.  Every theorem is for ALL arguments of the stated types (bucket counts / luminances are
  natural numbers, as a histogram / a byte slice holds them).
-/
import Gzx.Gen.K17
import Gzx.KernelGuard
import Gzx.Proofs.K17
namespace Gzx.Obligations.K17
open Gzx Gzx.GoM Gzx.Bits Gzx.GoVal Gzx.Binarizer Gzx.K17

/-! ## `GlobalHistogramBinarizer.estimateBlackPoint` -/

when_kernel Gzx.Gen.K17.estimateBlackPoint in
/-- loop 1 (tallest peak and `maxBucketCount`, both by the same strict comparison) -/
theorem ebp_loop1 (bs : List Nat) (best : Nat × Int) :
    loop (Gen.K17.estimateBlackPoint_body1 (words bs)) 1 bs.length 0 (best.2, ((best.1 : Nat) : Int), best.2) =
      .next (let r := argmaxStrict best (((List.range' 0 bs.length).zip bs).map (fun (x, c) => (x, (c : Int))))
             (r.2, ((r.1 : Nat) : Int), r.2)) := by
  rw [loop_up_list' (fun (b : Nat × Int) => (b.2, ((b.1 : Nat) : Int), b.2))
    (fun x (c : Nat) best => .next (if (c : Int) > best.2 then (x, (c : Int)) else best)) bs 0 best rfl rfl
    (rfl : (0 : Int) = ((0 : Nat) : Int))
    (fun j hj best => by
      simp only [Gen.K17.estimateBlackPoint_body1, Nat.zero_add, idx_nats_lt bs (j : Int) j rfl hj, tryC_ok]
      by_cases h : (bs[j] : Int) > best.2 <;> simp [h, Ctl.map]),
    foldIdx_argmax (fun _ c => (c : Int))]
  rfl

when_kernel Gzx.Gen.K17.estimateBlackPoint in
/-- loop 2 (second peak: bucket count times squared distance from the first) -/
theorem ebp_loop2 (fp : Nat) (bs : List Nat) (best : Nat × Int) :
    loop (Gen.K17.estimateBlackPoint_body2 (words bs) (fp : Int)) 1 bs.length 0 (((best.1 : Nat) : Int), best.2) =
      .next (let r := argmaxStrict best (((List.range' 0 bs.length).zip bs).map
                (fun (x, c) => (x, ((c * sqDist x fp : Nat) : Int))))
             (((r.1 : Nat) : Int), r.2)) := by
  rw [loop_up_list' (fun (b : Nat × Int) => (((b.1 : Nat) : Int), b.2))
    (fun x c best => .next (if ((c * sqDist x fp : Nat) : Int) > best.2 then (x, ((c * sqDist x fp : Nat) : Int)) else best))
    bs 0 best rfl rfl (rfl : (0 : Int) = ((0 : Nat) : Int))
    (fun j hj best => by
      simp only [Gen.K17.estimateBlackPoint_body2, Nat.zero_add, idx_nats_lt bs (j : Int) j rfl hj, tryC_ok]
      rw [Int.mul_assoc, sq_cast, ← Int.natCast_mul]
      generalize ((bs[j] * sqDist j fp : Nat) : Int) = s
      by_cases h : s > best.2 <;> simp [h, Ctl.map]),
    foldIdx_argmax (fun x c => ((c * sqDist x fp : Nat) : Int))]
  rfl

def valleyScore (fp sp : Nat) (mbc : Int) (p : Nat × Nat) : Nat × Int :=
  (p.1, ((p.1 - fp) * (p.1 - fp) * (sp - p.1) : Nat) * (mbc - (p.2 : Int)))

when_kernel Gzx.Gen.K17.estimateBlackPoint in
/-- loop 3 (the valley, scanning from the second peak down to the first) -/
theorem ebp_loop3 (bs : List Nat) (fp sp : Nat) (mbc : Int) (hsp : sp ≤ bs.length) :
    ∀ (m : Nat) (best : Nat × Int), fp + m + 1 ≤ sp →
      loop (Gen.K17.estimateBlackPoint_body3 (words bs) mbc (fp : Int) (sp : Int)) (-1) m (((fp + m : Nat) : Int))
          (((best.1 : Nat) : Int), best.2) =
        .next (let r := argmaxStrict best ((((indexed bs).drop (fp + 1)).take m).reverse.map (valleyScore fp sp mbc))
               (((r.1 : Nat) : Int), r.2)) := by
  intro m
  induction m with
  | zero => intro best _; rfl
  | succ m ih =>
    intro best hm
    -- the bucket read in this round is there, and it is the last of the `m + 1` candidates
    obtain ⟨c, hc⟩ : ∃ c, bs[fp + 1 + m]? = some c := ⟨_, List.getElem?_eq_getElem (by omega)⟩
    rw [loop_succ, List.take_add_one, List.getElem?_drop, indexed_getElem?, hc]
    simp only [Option.map_some, Option.toList_some, List.reverse_append, List.reverse_cons, List.reverse_nil, List.nil_append,
      List.cons_append, List.map_cons, argmaxStrict, valleyScore, Gen.K17.estimateBlackPoint_body3]
    rw [show ((fp + (m + 1) : Nat) : Int) = ((fp + 1 + m : Nat) : Int) by omega, idx_words bs _ (fp + 1 + m) rfl, wordAt, hc]
    simp only [Except.map, tryC_ok]
    rw [valley_cast _ fp sp c mbc (by omega) (by omega), show ((fp + 1 + m : Nat) : Int) + -1 = ((fp + m : Nat) : Int) by omega]
    generalize (((fp + 1 + m - fp) * (fp + 1 + m - fp) * (sp - (fp + 1 + m)) : Nat) : Int) * (mbc - (c : Int)) = sc
    by_cases h : sc > best.2
    · simp only [h, decide_true, if_true]
      exact ih (fp + 1 + m, sc) (by omega)
    · simp only [h, decide_false, if_false]
      exact ih best (by omega)

/-- what the kernel must return for a result of the model: `(blackPoint, failed)` -/
def expEBP : Res Nat → Res (Int × Bool)
  | .ok v => .ok ((v : Int), false)
  | .error _ => .ok (0, true)

when_kernel Gzx.Gen.K17.estimateBlackPoint in
/-- `estimateBlackPoint(buckets)` = `Binarizer.estimateBlackPoint`: the two peak searches, the swap, the contrast rule
    `secondPeak - firstPeak <= numBuckets/16` (NotFound), the valley search from the right, `bestValley << 3` —
    for every histogram (any number of buckets, any counts). -/
theorem k_estimateBlackPoint_eq (bs : List Nat) :
    Gen.K17.estimateBlackPoint (words bs) = expEBP (Binarizer.estimateBlackPoint bs) := by
  simp only [Gen.K17.estimateBlackPoint, Binarizer.estimateBlackPoint]
  have hidx : (List.range' 0 bs.length).zip bs = indexed bs := (indexed_drop [] bs).symm
  have hpeak : ∀ (g : Nat × Nat → Nat × Int), (∀ p, (g p).1 = p.1) →
      (argmaxStrict (0, 0) ((indexed bs).map g)).1 = 0 ∨ (argmaxStrict (0, 0) ((indexed bs).map g)).1 < bs.length := fun g hg =>
    argmaxStrict_fst _ bs.length (fun p hp => by
      obtain ⟨q, hq, rfl⟩ := List.mem_map.mp hp
      rw [hg]; exact mem_indexed_lt bs q hq) (0, 0)
  rw [len_words, show tripUp 0 ((bs.length : Nat) : Int) 1 = bs.length by rw [tripUp_one]; omega,
    show loop (Gen.K17.estimateBlackPoint_body1 (words bs)) 1 bs.length 0 (0, 0, 0) = _ from ebp_loop1 bs (0, 0)]
  simp only [next_thenR]
  rw [hidx]
  have hf := hpeak (fun (x, c) => (x, (c : Int))) (fun _ => rfl)
  generalize argmaxStrict (0, 0) ((indexed bs).map (fun (x, c) => (x, (c : Int)))) = first at hf ⊢
  rw [show loop (Gen.K17.estimateBlackPoint_body2 (words bs) ((first.1 : Nat) : Int)) 1 bs.length 0 (0, 0) = _
    from ebp_loop2 first.1 bs (0, 0)]
  simp only [next_thenR]
  rw [hidx]
  have hs := hpeak (fun (x, c) => (x, ((c * sqDist x first.1 : Nat) : Int))) (fun _ => rfl)
  generalize argmaxStrict (0, 0) ((indexed bs).map (fun (x, c) => (x, ((c * sqDist x first.1 : Nat) : Int)))) = second at hs ⊢
  -- the swap: the peaks in order are indices of the histogram (or 0)
  simp only [swap_cast]
  have hfs : min first.1 second.1 ≤ max first.1 second.1 := by omega
  have hspn : max first.1 second.1 ≤ bs.length := by omega
  generalize min first.1 second.1 = fp at hfs ⊢
  generalize max first.1 second.1 = sp at hfs hspn ⊢
  clear hf hs hpeak hidx
  rw [contrast_cast]
  by_cases hc : sp - fp ≤ bs.length / 16
  · rw [if_pos (decide_eq_true hc), if_pos hc]; rfl
  · simp only [hc, decide_false, if_false, Bool.false_eq_true]
    have hlt : fp < sp := by omega
    have h3 := ebp_loop3 bs fp sp first.2 hspn (sp - fp - 1) (sp - 1, -1) (by omega)
    rw [show ((fp + (sp - fp - 1) : Nat) : Int) = (sp : Int) - 1 by omega] at h3
    simp only [show ((sp - 1 : Nat) : Int) = (sp : Int) - 1 by omega] at h3
    rw [cands_eq bs fp sp hspn hlt, valley_trip, h3]
    simp only [next_thenR, expEBP]
    rw [show (3 : Int) = ((3 : Nat) : Int) from rfl, ishl_natCast, Nat.shiftLeft_eq]
    rfl

-- non-vacuity: peaks at buckets 2 and 5 of 8 → valley 4 → black point 32; an empty histogram → NotFound
when_kernel Gzx.Gen.K17.estimateBlackPoint in
example : Gen.K17.estimateBlackPoint (words [0, 0, 9, 1, 0, 7, 0, 0]) = .ok (32, false) := by decide +kernel
when_kernel Gzx.Gen.K17.estimateBlackPoint in
example : Gen.K17.estimateBlackPoint (words [0, 0, 0, 0, 0, 0, 0, 0]) = .ok (0, true) := by decide +kernel

/-! ## `GlobalHistogramBinarizer.initArrays` -/

when_kernel Gzx.Gen.K17.initArrays in
/-- `initArrays(luminanceSize)`: a scratch row shorter than the request is replaced by `make([]byte, luminanceSize)`, and ALL 32
    buckets are zeroed (index panic on a histogram with fewer buckets) — the precondition of every histogram the two
    `GetBlack…` methods build. -/
theorem k_initArrays_eq (lum bk : List Int) (n : Nat) :
    Gen.K17.initArrays lum bk (n : Int) =
      if bk.length < 32 then .error oob
      else .ok (if lum.length < n then List.replicate n 0 else lum, List.replicate 32 0 ++ bk.drop 32) := by
  simp only [Gen.K17.initArrays]
  have hfirst : ∀ k : List Int → Res (List Int × List Int),
      ((if decide (len lum < (n : Int)) = true then tryC (mk (n : Int)) fun t1 => Ctl.next t1 else Ctl.next lum :
          Ctl (List Int) (List Int × List Int))).thenR k = k (if lum.length < n then List.replicate n 0 else lum) := by
    intro k
    by_cases h : lum.length < n
    · have : len lum < (n : Int) := by simp [len]; omega
      have hm : mk (n : Int) = .ok (List.replicate n 0) := by
        unfold mk; simp
      simp [h, this, hm]
    · have : ¬ len lum < (n : Int) := by simp [len]; omega
      simp [h, this]
  rw [hfirst]
  -- after `j` rounds the first `j` buckets are zero
  have h := loop_steps (ρ := List Int × List Int) (fun j => List.replicate j 0 ++ bk.drop j) bk.length oob 1 (fun j => (j : Int))
    (fun _ => Int.natCast_succ _) Gen.K17.initArrays_body1 32
    (fun j hj _ => by
      simp only [Gen.K17.initArrays_body1]
      rw [List.drop_eq_getElem_cons hj, setIdx_seam _ _ _ _ _ (by rw [List.length_replicate]), tryC_ok, List.replicate_succ',
        List.append_assoc]
      rfl)
    (fun _ => by
      simp only [Gen.K17.initArrays_body1]
      rw [setIdx_of_ge _ _ _ (by simp)]
      rfl)
  rw [show tripUp 0 32 1 = 32 from rfl, show loop Gen.K17.initArrays_body1 1 32 0 bk = _ from h]
  split <;> rfl

/-! ## the bucket-filling loop of `GetBlackRow` -/

when_kernel Gzx.Gen.K17.rowHistogram in
/-- `for x := 0; x < width; x++ { localBuckets[(localLuminances[x]&0xff)>>LUMINANCE_SHIFT]++ }` on the zeroed histogram that
    `initArrays` leaves = `Binarizer.histogram` of the first `width` luminances (index panic on a shorter row) -/
theorem k_rowHistogram_eq (lum : List Nat) (width : Nat) :
    Gen.K17.rowHistogram (words (histogram [])) width (bytes lum) =
      if lum.length < width then .error oob else .ok (words (histogram (lum.take width))) := by
  simp only [Gen.K17.rowHistogram]
  -- after `k` rounds the buckets are the histogram of the first `k` luminances
  have h := loop_steps (ρ := List Int) (fun k => words (histogram (lum.take k))) lum.length oob 1 (fun k => (k : Int))
    (fun _ => Int.natCast_succ _) (Gen.K17.rowHistogram_body1 (bytes lum)) width
    (fun k hk _ => by
      simp only [Gen.K17.rowHistogram_body1]
      rw [bytes, idx_bytes, List.getElem?_eq_getElem hk, tryC_ok, hist_incr, List.take_succ_eq_append_getElem hk])
    (fun _ => by
      simp only [Gen.K17.rowHistogram_body1]
      rw [bytes, idx_bytes, List.getElem?_eq_none (Nat.le_refl _)]
      rfl)
  rw [show tripUp 0 (width : Int) 1 = width by rw [tripUp_one]; omega,
    show loop (Gen.K17.rowHistogram_body1 (bytes lum)) 1 width 0 (words (histogram [])) = _ from h]
  split <;> rfl

when_kernel Gzx.Gen.K17.rowHistogram in
example : Gen.K17.rowHistogram (words (histogram [])) 3 (bytes [0, 9, 255]) =
    .ok (words ((List.replicate 32 0).set 0 1 |>.set 1 1 |>.set 31 1)) := by decide +kernel

end Gzx.Obligations.K17
