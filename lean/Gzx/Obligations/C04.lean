/-
  Per-run obligations of C04 over the regenerated field parameters (`Gzx.Gen.C04Fields`, emitted by the
  translator from common/reedsolomon/generic_gf.go on every run):
  * conformance: each `NewGenericGF(prim, size, base)` call carries exactly the parameters of the
    standard, i.e. builds the model's field of that name;
  * `ParamsOK`: size is a power of two, prim has that degree and constant term 1, and x has
    multiplicative order size-1 modulo prim; for the standards' parameters, which by conformance are the ones
    the call sites carry, this is computed once in Proofs/GFParams.lean.
  With `Properties/C04.lean` (its theorems assume `FieldOK F`; the correction theorems `rs_corrects*`,
  `rs_decode_encode_corrupted` also `F.base ≤ 1`, which holds for the bases 0 and 1 of `gen_conforms`) this
  yields the field and codec theorems for the six fields the code defines.
-/
import Gzx.Gen.C04Fields
import Gzx.Proofs.GFParams
namespace Gzx.Obligations.C04
open Gzx Gzx.GF Gzx.Proofs.GF

/-- typed view of a `NewGenericGF(prim, size, base)` initialiser -/
def params (v : GoVal) : Option (Nat × Nat × Nat) :=
  match v.asApp? "NewGenericGF" with
  | some [p, s, b] =>
    match p.asNat?, s.asNat?, b.asNat? with
    | some p, some s, some b => some (p, s, b)
    | _, _, _ => none
  | _ => none

/-- the six call sites (and two aliases) carry the parameters of the standards -/
theorem gen_conforms :
    params Gen.C04Fields.AZTEC_DATA_12 = some (0x1069, 4096, 1) ∧
    params Gen.C04Fields.AZTEC_DATA_10 = some (0x409, 1024, 1) ∧
    params Gen.C04Fields.AZTEC_DATA_6 = some (0x43, 64, 1) ∧
    params Gen.C04Fields.AZTEC_PARAM = some (0x13, 16, 1) ∧
    params Gen.C04Fields.QR_CODE_FIELD_256 = some (0x11D, 256, 0) ∧
    params Gen.C04Fields.DATA_MATRIX_FIELD_256 = some (0x12D, 256, 1) ∧
    params Gen.C04Fields.AZTEC_DATA_8 = some (0x12D, 256, 1) ∧
    params Gen.C04Fields.MAXICODE_FIELD_64 = some (0x43, 64, 1) := by decide

/-- well-formedness of whatever parameters the regenerated call sites carry -/
def genOK (v : GoVal) : Bool :=
  match params v with
  | some (p, s, _) => decide (ParamsOK p s)
  | none => false

theorem genOK_of_params {v : GoVal} {p s b : Nat} (hp : params v = some (p, s, b)) (h : ParamsOK p s) :
    genOK v = true := by
  unfold genOK
  rw [hp]
  exact decide_eq_true h

theorem gen_fieldOK_aztec12 : genOK Gen.C04Fields.AZTEC_DATA_12 = true :=
  genOK_of_params gen_conforms.1 paramsOK_1069_4096
theorem gen_fieldOK_aztec10 : genOK Gen.C04Fields.AZTEC_DATA_10 = true :=
  genOK_of_params gen_conforms.2.1 paramsOK_409_1024
theorem gen_fieldOK_aztec6 : genOK Gen.C04Fields.AZTEC_DATA_6 = true :=
  genOK_of_params gen_conforms.2.2.1 paramsOK_43_64
theorem gen_fieldOK_aztecParam : genOK Gen.C04Fields.AZTEC_PARAM = true :=
  genOK_of_params gen_conforms.2.2.2.1 paramsOK_13_16
theorem gen_fieldOK_qr : genOK Gen.C04Fields.QR_CODE_FIELD_256 = true :=
  genOK_of_params gen_conforms.2.2.2.2.1 paramsOK_11D_256
theorem gen_fieldOK_dataMatrix : genOK Gen.C04Fields.DATA_MATRIX_FIELD_256 = true :=
  genOK_of_params gen_conforms.2.2.2.2.2.1 paramsOK_12D_256
theorem gen_fieldOK_aztec8 : genOK Gen.C04Fields.AZTEC_DATA_8 = true :=
  genOK_of_params gen_conforms.2.2.2.2.2.2.1 paramsOK_12D_256
theorem gen_fieldOK_maxicode : genOK Gen.C04Fields.MAXICODE_FIELD_64 = true :=
  genOK_of_params gen_conforms.2.2.2.2.2.2.2 paramsOK_43_64

/-- the model's six field constants satisfy `FieldOK` (that the code builds these very fields is `gen_conforms`) -/
theorem model_fields_ok :
    FieldOK aztecData12 ∧ FieldOK aztecData10 ∧ FieldOK aztecData6 ∧ FieldOK aztecParam ∧
    FieldOK qrCode256 ∧ FieldOK dataMatrix256 :=
  ⟨fieldOK_mk' paramsOK_1069_4096, fieldOK_mk' paramsOK_409_1024, fieldOK_mk' paramsOK_43_64,
    fieldOK_mk' paramsOK_13_16, fieldOK_mk' paramsOK_11D_256, fieldOK_mk' paramsOK_12D_256⟩

end Gzx.Obligations.C04
