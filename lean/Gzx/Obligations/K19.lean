/-
  K19 (property C19) — `common.GridSampler_checkAndNudgePoints` REGENERATED from /repo's grid_sampler.go on every run
  (`Gzx.Gen.K19.checkAndNudge`, translator kind `funcn`: the two `for … && nudged` loops over the interleaved
  `[]float64`, every index read / write checked, float64 as an abstract number type `F` with `ops : NumOps F`) and proved
  equal to the recursion `K19.nudgeSpec` for EVERY number type, every slice (odd lengths included), every image size
  and every fuel above the slice length; hence (Proofs/K19.lean)
    * over exact rationals it IS the hand-written model `GridSampler.checkAndNudge` that the C19 theorems are about,
    * over Lean `Float` (what Go computes) it takes the decisions of the model on the truncated coordinates and writes
      `float64(0)`, `float64(width-1)`, `float64(height-1)`: `Float` enters only through `toInt` / `ofInt`.
  Proof style of Obligations/K16b*.lean: unfold the generated body ONCE to prove the three step equations; the loop
  lemmas never see generated text.  `when_kernel`: a kernel that left the translatable subset is skipped, not broken.
-/
import Gzx.Gen.K19
import Gzx.KernelGuard
import Gzx.Proofs.K19
import Gzx.Proofs.GridSampler
namespace Gzx.Obligations.K19
open Gzx Gzx.GoM Gzx.K19

variable {F : Type}

/-- resolve every `if c then … else …` by `h : c` or `h : ¬ c` WITHOUT rewriting inside `c` (an equation `int(x) = width`
    used as a rewrite rule would turn the earlier test `int(x) = -1` into `width = -1`) -/
local macro "ite_by " h:ident : tactic =>
  `(tactic| first | simp only [eq_true $h, if_true] | simp only [eq_false $h, if_false])

/-- what the regenerated function must return for a result of the specification: `(err != nil, points)` -/
def Agrees (spec : Option (List F)) (gen : Res (Bool × List F)) : Prop :=
  match spec with
  | some r => gen = .ok (false, r)
  | none => ∃ ps, gen = .ok (true, ps)

when_kernel Gzx.Gen.K19.checkAndNudge in
/-- one iteration of the first loop at a visited pair: NotFound test, then the four `if`s in the source's order -/
theorem k_body1_step (ops : NumOps F) (w h mo : Int) (done : List F) (x y : F) (rest : List F)
    (hlt : ((done.length : Nat) : Int) < mo) :
    Gen.K19.checkAndNudge_body1 ops w h mo (done ++ x :: y :: rest, true, ((done.length : Nat) : Int)) =
      if beyondF ops w h x y then .ret (true, done ++ x :: y :: rest)
      else .next (done ++ (nudgeCoordF ops w x).1 :: (nudgeCoordF ops h y).1 :: rest,
                  (nudgeCoordF ops w x).2 || (nudgeCoordF ops h y).2, ((done.length : Nat) : Int) + 2) := by
  simp only [Gen.K19.checkAndNudge_body1, hlt, decide_true, if_true]
  rw [idxA_at done x (y :: rest) _ rfl, tryC_ok, idxA_at1 done x y rest _ rfl, tryC_ok]
  by_cases hb : beyondF ops w h x y = true
  · rw [if_pos hb, if_pos (by simpa [beyondF] using hb)]
  · rw [if_neg hb, if_neg (by simpa [beyondF] using hb)]
    unfold nudgeCoordF
    simp only [beq_iff_eq]
    by_cases hx1 : ops.toInt x = -1 <;> by_cases hx2 : ops.toInt x = w <;>
      by_cases hy1 : ops.toInt y = -1 <;> by_cases hy2 : ops.toInt y = h <;>
      (try ite_by hx1) <;> (try ite_by hx2) <;> (try ite_by hy1) <;> (try ite_by hy2) <;>
      simp [setIdxA_at done _ _ _ _ rfl, setIdxA_at1 done _ _ _ _ _ rfl]

when_kernel Gzx.Gen.K19.checkAndNudge in
/-- the first loop stops when `nudged` is down … -/
theorem k_body1_down (ops : NumOps F) (w h mo : Int) (pts : List F) (off : Int) :
    Gen.K19.checkAndNudge_body1 ops w h mo (pts, false, off) = .brk (pts, false, off) := by
  unfold Gen.K19.checkAndNudge_body1
  dsimp only
  cases decide (off < mo) <;> rfl

when_kernel Gzx.Gen.K19.checkAndNudge in
/-- … or when `offset < maxOffset` fails -/
theorem k_body1_end (ops : NumOps F) (w h mo : Int) (pts : List F) (b : Bool) (off : Int) (hge : ¬ off < mo) :
    Gen.K19.checkAndNudge_body1 ops w h mo (pts, b, off) = .brk (pts, b, off) := by
  simp only [Gen.K19.checkAndNudge_body1, hge, decide_false]
  simp

when_kernel Gzx.Gen.K19.checkAndNudge in
/-- one iteration of the second loop at a visited pair (`offset >= 0`): the same body, `offset -= 2` -/
theorem k_body2_step (ops : NumOps F) (w h : Int) (pre : List F) (x y : F) (tail : List F) :
    Gen.K19.checkAndNudge_body2 ops w h (pre ++ x :: y :: tail, true, ((pre.length : Nat) : Int)) =
      if beyondF ops w h x y then .ret (true, pre ++ x :: y :: tail)
      else .next (pre ++ (nudgeCoordF ops w x).1 :: (nudgeCoordF ops h y).1 :: tail,
                  (nudgeCoordF ops w x).2 || (nudgeCoordF ops h y).2, ((pre.length : Nat) : Int) - 2) := by
  have h0 : ((pre.length : Nat) : Int) ≥ 0 := by omega
  simp only [Gen.K19.checkAndNudge_body2, h0, decide_true, if_true]
  rw [idxA_at pre x (y :: tail) _ rfl, tryC_ok, idxA_at1 pre x y tail _ rfl, tryC_ok]
  by_cases hb : beyondF ops w h x y = true
  · rw [if_pos hb, if_pos (by simpa [beyondF] using hb)]
  · rw [if_neg hb, if_neg (by simpa [beyondF] using hb)]
    unfold nudgeCoordF
    simp only [beq_iff_eq]
    by_cases hx1 : ops.toInt x = -1 <;> by_cases hx2 : ops.toInt x = w <;>
      by_cases hy1 : ops.toInt y = -1 <;> by_cases hy2 : ops.toInt y = h <;>
      (try ite_by hx1) <;> (try ite_by hx2) <;> (try ite_by hy1) <;> (try ite_by hy2) <;>
      simp [setIdxA_at pre _ _ _ _ rfl, setIdxA_at1 pre _ _ _ _ _ rfl]

when_kernel Gzx.Gen.K19.checkAndNudge in
theorem k_body2_down (ops : NumOps F) (w h : Int) (pts : List F) (off : Int) :
    Gen.K19.checkAndNudge_body2 ops w h (pts, false, off) = .brk (pts, false, off) := by
  unfold Gen.K19.checkAndNudge_body2
  dsimp only
  cases decide (off ≥ 0) <;> rfl

when_kernel Gzx.Gen.K19.checkAndNudge in
theorem k_body2_end (ops : NumOps F) (w h : Int) (pts : List F) (b : Bool) (off : Int) (hneg : ¬ off ≥ 0) :
    Gen.K19.checkAndNudge_body2 ops w h (pts, b, off) = .brk (pts, b, off) := by
  simp only [Gen.K19.checkAndNudge_body2, hneg, decide_false]
  simp

when_kernel Gzx.Gen.K19.checkAndNudge in
/-- **`GridSampler_checkAndNudgePoints` = `nudgeSpec`**, for every number type and operations, every image size (also
    `≤ 0`), every slice (odd lengths and the empty slice included) and every fuel above the slice length: the function
    returns `err == nil` and the slice contents of the specification, or an error exactly when the specification says
    NotFound; in particular no index is ever out of range and the fuel is never exhausted. -/
theorem k_checkAndNudge_eq (ops : NumOps F) (fuel : Nat) (w h : Int) (pts : List F) (hf : pts.length < fuel) :
    Agrees (nudgeSpec ops w h pts) (Gen.K19.checkAndNudge ops fuel w h pts) := by
  have f1 := fwd_loop ops w h ((pts.length : Nat) - 1) (Gen.K19.checkAndNudge_body1 ops w h ((pts.length : Nat) - 1))
    (k_body1_step ops w h _) (k_body1_down ops w h _) (k_body1_end ops w h _) pts [] fuel hf (by simp)
  simp only [List.nil_append, List.length_nil] at f1
  unfold Agrees nudgeSpec
  simp only [Gen.K19.checkAndNudge, lenA]
  cases hp : passFwdF ops w h pts with
  | none =>
    obtain ⟨ps, e⟩ := f1.2 hp
    exact ⟨ps, by rw [show ((0 : Nat) : Int) = 0 from rfl] at e; rw [e]; rfl⟩
  | some p1 =>
    obtain ⟨b, off, e⟩ := f1.1 p1 hp
    rw [show ((0 : Nat) : Int) = 0 from rfl] at e
    rw [e]
    simp only [brk_thenR]
    have hl : p1.length = pts.length := passFwdF_length ops w h pts hp
    have f2 := bwd_loop ops w h (Gen.K19.checkAndNudge_body2 ops w h)
      (k_body2_step ops w h) (k_body2_down ops w h) (k_body2_end ops w h) p1.reverse [] fuel (by simp; omega)
    simp only [List.reverse_reverse, List.append_nil, List.length_reverse] at f2
    cases hq : passBwdRevF ops w h p1.reverse with
    | none =>
      obtain ⟨ps, e2⟩ := f2.2 hq
      exact ⟨ps, by rw [e2]; rfl⟩
    | some r =>
      obtain ⟨b2, off2, e2⟩ := f2.1 r hq
      show _ = _
      rw [e2]; rfl

/-- the integers as a number type (`int(x) = x`, `float64(i) = i`): instantiates the hypotheses below, and lets the
    kernel EVALUATE the regenerated definition -/
def intOps : NumOps Int :=
  { add := (· + ·), sub := (· - ·), mul := (· * ·), div := Int.tdiv, neg := fun a => -a, ofInt := id, toInt := id,
    eq := fun a b => decide (a = b), lt := fun a b => decide (a < b), le := fun a b => decide (a ≤ b) }

when_kernel Gzx.Gen.K19.checkAndNudge in
/-- **Regenerated source = hand-written model, over exact rationals.**  On the interleaved slice of the points `ps`
    the regenerated `GridSampler_checkAndNudgePoints` returns `nil` and the slice of `GridSampler.checkAndNudge w h ps`,
    or an error exactly when the model answers NotFound (the model has no other failure).  Every C19 theorem about
    `checkAndNudge` (both passes clamp alike on all four edges, beyond ⇒ NotFound, within ⇒ accepted, inside ⇒
    unchanged) is thereby a theorem about the text of grid_sampler.go as it is in /repo now. -/
theorem k_checkAndNudge_model (fuel : Nat) (w h : Int) (ps : List GridSampler.Pt)
    (hf : 2 * ps.length < fuel) :
    match GridSampler.checkAndNudge w h ps with
    | .ok ps' => Gen.K19.checkAndNudge ratOps fuel w h (GridSampler.fromPairs ps) = .ok (false, GridSampler.fromPairs ps')
    | .error e => e = .notFound ∧ ∃ out, Gen.K19.checkAndNudge ratOps fuel w h (GridSampler.fromPairs ps) = .ok (true, out) := by
  have hk := k_checkAndNudge_eq ratOps fuel w h (GridSampler.fromPairs ps) (by rw [fromPairs_length]; exact hf)
  rw [nudgeSpec_rat_even] at hk
  cases hm : GridSampler.checkAndNudge w h ps with
  | ok ps' => rw [hm] at hk; exact hk
  | error e => rw [hm] at hk; exact ⟨GridSampler.checkAndNudge_error hm, hk⟩

when_kernel Gzx.Gen.K19.checkAndNudge in
/-- the same on EVERY slice of rationals (odd lengths and the empty slice as coded): regenerated source =
    `GridSampler.checkAndNudgePoints`, the model function the differential suite `nudge` drives -/
theorem k_checkAndNudgePoints_model (fuel : Nat) (w h : Int) (pts : List Rat) (hf : pts.length < fuel) :
    match GridSampler.checkAndNudgePoints w h pts with
    | .ok r => Gen.K19.checkAndNudge ratOps fuel w h pts = .ok (false, r)
    | .error _ => ∃ out, Gen.K19.checkAndNudge ratOps fuel w h pts = .ok (true, out) := by
  have hk := k_checkAndNudge_eq ratOps fuel w h pts hf
  rw [nudgeSpec_rat] at hk
  cases hm : GridSampler.checkAndNudgePoints w h pts with
  | ok r => rw [hm] at hk; exact hk
  | error e => rw [hm] at hk; exact hk

example : GridSampler.checkAndNudge 10 10 [(5, 10), (5, 5)] = .ok [(5, 9), (5, 5)] := by decide

when_kernel Gzx.Gen.K19.checkAndNudge in
/-- **Through the truncation, for ANY number type** (Lean `Float` = Go's float64 in particular; it occurs only through
    the abstract `toInt` / `ofInt`): if `int(float64(k)) = k` for the three values the function writes (`0`, `width-1`,
    `height-1` — true of float64 for |k| < 2^53), then on every slice whose pixel indices `int(points[i])` are those of
    the rational points `ps`, the regenerated function fails exactly when the model answers NotFound, and otherwise
    leaves a slice whose pixel indices are those of the model's result. -/
theorem k_checkAndNudge_through_trunc (ops : NumOps F) (fuel : Nat) (w h : Int)
    (h0 : ops.toInt (ops.ofInt 0) = 0) (hw : ops.toInt (ops.ofInt (w - 1)) = w - 1) (hh : ops.toInt (ops.ofInt (h - 1)) = h - 1)
    (pts : List F) (ps : List GridSampler.Pt)
    (hpts : pts.map ops.toInt = (GridSampler.fromPairs ps).map GridSampler.trunc) (hf : pts.length < fuel) :
    match GridSampler.checkAndNudge w h ps with
    | .ok ps' => ∃ out, Gen.K19.checkAndNudge ops fuel w h pts = .ok (false, out) ∧
        out.map ops.toInt = (GridSampler.fromPairs ps').map GridSampler.trunc
    | .error _ => ∃ out, Gen.K19.checkAndNudge ops fuel w h pts = .ok (true, out) := by
  have H : WritesAgree ops ratOps w h :=
    ⟨by rw [h0]; exact (GridSampler.trunc_intCast 0).symm, by rw [hw]; exact (GridSampler.trunc_intCast _).symm,
     by rw [hh]; exact (GridSampler.trunc_intCast _).symm⟩
  have hs := nudgeSpec_sim ops ratOps w h H pts (GridSampler.fromPairs ps) hpts
  rw [nudgeSpec_rat_even] at hs
  have hk := k_checkAndNudge_eq ops fuel w h pts hf
  cases hm : GridSampler.checkAndNudge w h ps with
  | ok ps' =>
    rw [hm] at hs
    cases hn : nudgeSpec ops w h pts with
    | none => rw [hn] at hs; simp [optOf] at hs
    | some r =>
      rw [hn] at hs hk
      refine ⟨r, hk, ?_⟩
      have e : List.map ops.toInt r = List.map ratOps.toInt (GridSampler.fromPairs ps') := by simpa [optOf] using hs
      exact e
  | error e =>
    rw [hm] at hs
    cases hn : nudgeSpec ops w h pts with
    | none => rw [hn] at hk; exact hk
    | some r => rw [hn] at hs; simp [optOf] at hs

/-- non-vacuity of the hypotheses of `k_checkAndNudge_through_trunc` -/
example : intOps.toInt (intOps.ofInt 0) = 0 ∧ intOps.toInt (intOps.ofInt (10 - 1)) = 10 - 1 := ⟨rfl, rfl⟩

when_kernel Gzx.Gen.K19.checkAndNudge in
/-- the regenerated definition evaluated by the kernel: the repository's own unit-test row (all four edges, both ends) … -/
example : Gen.K19.checkAndNudge intOps 20 10 10 [-1, -1, 10, 10, 0, 0, -1, -1, 10, 10]
    = .ok (false, [0, 0, 9, 9, 0, 0, 0, 0, 9, 9]) := by decide

when_kernel Gzx.Gen.K19.checkAndNudge in
/-- … D8 (first loop, `y == height`) as repaired, a NotFound, an odd-length slice (element 0 is never visited by the
    second loop) and the empty slice -/
example : Gen.K19.checkAndNudge intOps 20 10 10 [5, 10, 5, 5] = .ok (false, [5, 9, 5, 5]) := by decide
when_kernel Gzx.Gen.K19.checkAndNudge in
example : (Gen.K19.checkAndNudge intOps 20 10 10 [5, 5, 11, 0]).map (·.1) = .ok true := by decide
when_kernel Gzx.Gen.K19.checkAndNudge in
example : Gen.K19.checkAndNudge intOps 20 10 10 [-1, 5, 10] = .ok (false, [0, 5, 9]) := by decide
when_kernel Gzx.Gen.K19.checkAndNudge in
example : Gen.K19.checkAndNudge intOps 1 10 10 [] = .ok (false, []) := by decide

end Gzx.Obligations.K19
