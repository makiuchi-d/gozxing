/-
  C13 — per-run obligations: the tables regenerated from /repo's working tree satisfy the decidable
  hypotheses of the C13 theorems (well-formedness, monotone capacities, count-indicator guard,
  capacity order of the Data Matrix symbol table) and give the published capacity figures.
-/
import Gzx.Gen.QRVersion
import Gzx.Gen.C07Tables
import Gzx.Gen.DMSymbols
import Gzx.Model.QRTablesView
import Gzx.Ref.DMSizes
import Gzx.Properties.C13
import Gzx.Obligations.C07
namespace Gzx.Obligations.C13
open Gzx Gzx.GoVal Gzx.QRRef Gzx.QRTablesView Gzx.QRVersionChoice Gzx.Properties.C13

/-- the library's `VERSIONS` and the four data modes' `characterCountBitsForVersions`, as regenerated -/
def genTables : QRTables :=
  { versions := (decodeVersions Gen.QRVersion.VERSIONS).getD []
    counts := fun m =>
      ((match m with
        | .numeric => decodeMode Gen.C07Tables.Mode_NUMERIC
        | .alnum => decodeMode Gen.C07Tables.Mode_ALPHANUMERIC
        | .byte => decodeMode Gen.C07Tables.Mode_BYTE
        | .kanji => decodeMode Gen.C07Tables.Mode_KANJI).map (fun (p : List Nat × Nat) => p.1)).getD [] }

/-- the regenerated tables are the standard's (`Obligations.C07`), so what holds of `refTables`
    (Properties/C13.lean) holds of them -/
theorem genTables_eq : genTables = refTables := by
  have hv := Obligations.C07.versions_conform
  obtain ⟨hn, ha, hb, hk, -⟩ := Obligations.C07.mode_tables_conform
  unfold genTables refTables
  rw [hv, hn, ha, hb, hk]
  congr 1
  funext m
  cases m <;> rfl

/-- 40 rows numbered 1..40 with four EC block lists each; three count widths per mode:
    no table access of the version decision can go out of range -/
theorem gen_wf : wfB genTables = true := genTables_eq ▸ ref_wf

/-- capacities strictly increase with the version at every level; count widths grow with the version class, by at
    most 8 bits in total (the two hypotheses of `Gzx.QRVersionChoice.two_pass`) -/
theorem gen_mono : monoB genTables = true := genTables_eq ▸ ref_mono

/-- for every (mode, version, level): `2^width` characters do not fit -/
theorem gen_guard : guardB genTables = true := genTables_eq ▸ ref_guard

/-- the capacities that follow from the library's tables are the published ones (ISO/IEC 18004 Table 7) -/
theorem qr_capacity_figures :
    Mode.all.map (capacity genTables .L · 40) = [7089, 4296, 2953, 1817] ∧
    Mode.all.map (capacity genTables .M · 40) = [5596, 3391, 2331, 1435] ∧
    Mode.all.map (capacity genTables .Q · 40) = [3993, 2420, 1663, 1024] ∧
    Mode.all.map (capacity genTables .H · 40) = [3057, 1852, 1273, 784] ∧
    Mode.all.map (capacity genTables .L · 1) = [41, 25, 17, 10] ∧
    Mode.all.map (capacity genTables .H · 1) = [17, 10, 7, 4] ∧
    Mode.all.map (capacity genTables .M · 10) = [513, 311, 213, 131] ∧
    Mode.all.map (capacity genTables .Q · 27) = [1933, 1172, 805, 496] :=
  genTables_eq ▸ ref_capacity_figures

/-- every one of the 640 capacities equals the one of the standard's tables -/
theorem qr_capacities_all :
    ∀ m ∈ Mode.all, ∀ ec ∈ EC.all, ∀ i ∈ List.range 40,
      capacity genTables ec m (i + 1) = capacity refTables ec m (i + 1) :=
  fun _ _ _ _ _ _ => by rw [genTables_eq]

/-- the property for the tables the code has now: the recommended version is the smallest fitting one -/
theorem gen_recommend_is_min (ec : EC) (m : Mode) (hdr data : Nat) :
    recommendVersion genTables ec m hdr data =
      match minFit genTables ec m hdr data with
      | some v => .ok (rowOf genTables v)
      | none => .error .writer :=
  recommend_is_min genTables gen_wf gen_mono ec m hdr data

/-! ### Data Matrix symbol table -/

def genSymbols : List SymbolInfo := (decodeSymbols Gen.DMSymbols.symbols).getD []

theorem gen_symbols_decoded : (decodeSymbols Gen.DMSymbols.symbols).isSome = true := by decide +kernel

/-- capacities never decrease along the regenerated symbol table, so first fit = smallest fit
    (`Gzx.Properties.C13.dm_order_is_capacity_order`) -/
theorem gen_symbols_sorted : sortedB genSymbols = true := by decide +kernel

/-- no symbol of the regenerated table holds more than 1558 codewords, and 144x144 holds that many
    (`gen_dm_max_1558` below draws the conclusion for the lookup) -/
theorem gen_symbols_max :
    genSymbols.all (fun s => decide (s.dataCapacity ≤ 1558)) = true ∧
    lookupLoop 1558 .none none none genSymbols =
      some { rectangular := false, dataCapacity := 1558, errorCodewords := 620, matrixWidth := 22, matrixHeight := 22,
             dataRegions := 36, rsBlockData := -1, rsBlockError := 62 } := by decide +kernel

/-- the 30 rows are the 30 ECC 200 symbols of ISO/IEC 16022 in capacity order (square first on
    equal capacity): shape, symbol width and height, data and error codewords -/
theorem gen_symbols_conform :
    genSymbols.map (fun s => ({ rectangular := s.rectangular, width := symbolWidth s, height := symbolHeight s,
                                dataCapacity := s.dataCapacity, errorCodewords := s.errorCodewords } : DMSizesRef.Size)) =
      DMSizesRef.byCapacity := by decide +kernel

/-- beyond 1558 codewords every lookup over the current table is empty -/
theorem gen_dm_max_1558 (n : Nat) (hn : 1558 < n) (shape : Shape) (minSize maxSize : Option (Nat × Nat)) :
    lookupLoop n shape minSize maxSize genSymbols = none :=
  dm_max genSymbols 1558 gen_symbols_max.1 n hn shape minSize maxSize

end Gzx.Obligations.C13
