/-
  K04 — the two table-construction loops of `NewGenericGF` (exp table by repeated doubling with reduction,
  log table by inversion), regenerated with their loops and slice writes from /repo on every run
  (`Gzx.Gen.K04.gfTables primitive size`): for every primitive polynomial and every size above 1 the result is
  exactly the pair of tables of the model field (`GF.mk'`) whose arithmetic Properties/C04.lean is about
  (`k_gfTables_eq`, by induction along the two loops); the fields the library defines are instances.
-/
import Gzx.Gen.K04
import Gzx.KernelGuard
import Gzx.Proofs.GF
import Gzx.Proofs.GoMTie
namespace Gzx.Obligations.K04
open Gzx Gzx.GF Gzx.GoM Gzx.GoVal Gzx.Bits

/-- the model's two tables for (primitive, size), as Go integers -/
def modelTables (prim size : Nat) : Res (List Int × List Int) :=
  let F := mk' prim size 0
  .ok (F.exp.toList.map Int.ofNat, F.log.toList.map Int.ofNat)

/-- Go's `x *= 2; if x >= size { x ^= primitive; x &= size - 1 }` on non-negative integers is the model's `step` -/
theorem step_cast (prim size x : Nat) (hs : 0 < size) :
    (if decide ((x : Int) * 2 ≥ (size : Int)) = true then iand (ixor ((x : Int) * 2) prim) ((size : Int) - 1) else (x : Int) * 2) =
      ((step prim size x : Nat) : Int) := by
  have e1 : (x : Int) * 2 = ((x * 2 : Nat) : Int) := by omega
  have e2 : (size : Int) - 1 = ((size - 1 : Nat) : Int) := by omega
  rw [e1, e2, ixor_natCast, iand_natCast]
  simp only [step, decide_eq_true_eq]
  by_cases h : x * 2 ≥ size
  · rw [if_pos h, if_pos (by omega)]
  · rw [if_neg h, if_neg (by omega)]

when_kernel Gzx.Gen.K04.gfTables in
/-- the first loop, started at index `|pre|` on a table whose first `|pre|` entries are written: `k` rounds write the
    next `k` entries of the model's `expList` -/
theorem expLoop_eq (prim : Nat) {size : Nat} (hs : 0 < size) : ∀ (k : Nat) (pre : List Nat) (x : Nat),
    ∃ x' : Int, loop (ρ := List Int × List Int) (Gen.K04.gfTables_body1 prim size) 1 k pre.length (words (pre ++ List.replicate k 0), (x : Int)) =
      .next (words (pre ++ expList prim size k x), x')
  | 0, pre, x => ⟨x, by simp [loop, expList]⟩
  | k + 1, pre, x => by
    obtain ⟨x', h⟩ := expLoop_eq prim hs k (pre ++ [x]) (step prim size x)
    refine ⟨x', ?_⟩
    rw [loop_succ]
    simp only [Gen.K04.gfTables_body1]
    rw [setIdx_words _ _ _ pre.length x rfl rfl, setWord, if_pos (by simp), step_cast prim size x hs]
    simp only [Except.map, tryC_ok, List.replicate_succ, List.set_append_right _ _ (Nat.le_refl _), Nat.sub_self, List.set_cons_zero]
    simpa [expList] using h

when_kernel Gzx.Gen.K04.gfTables in
/-- the second loop over the segment `es` of the exp table that starts at index `|pre|` is the model's `logLoop`, as long
    as every entry is an index of the log table -/
theorem logLoop_eq (suf : List Nat) : ∀ (es pre acc : List Nat), (∀ e ∈ es, e < acc.length) →
    loop (ρ := List Int × List Int) (Gen.K04.gfTables_body2 (words (pre ++ es ++ suf))) 1 es.length pre.length (words acc) =
      .next (words (logLoop es pre.length acc))
  | [], _, _, _ => rfl
  | e :: es, pre, acc, h => by
    rw [List.length_cons, loop_succ]
    simp only [Gen.K04.gfTables_body2]
    rw [idx_words _ _ pre.length rfl, wordAt, List.append_assoc, List.getElem?_append_right (Nat.le_refl _), Nat.sub_self]
    simp only [List.cons_append, List.getElem?_cons_zero, Except.map, tryC_ok]
    rw [setIdx_words acc (Int.ofNat e) _ e pre.length rfl rfl, setWord, if_pos (h e List.mem_cons_self)]
    simp only [Except.map, tryC_ok]
    have ih := logLoop_eq suf es (pre ++ [e]) (acc.set e pre.length)
      (fun e' he' => by rw [List.length_set]; exact h e' (List.mem_cons_of_mem _ he'))
    simpa [logLoop] using ih

when_kernel Gzx.Gen.K04.gfTables in
/-- the two table-construction loops of `NewGenericGF` build the model's tables, for every primitive polynomial and
    every size above 1 -/
theorem k_gfTables_eq (prim size : Nat) (hs : 1 < size) : Gen.K04.gfTables prim size = modelTables prim size := by
  have h0 : 0 < size := by omega
  obtain ⟨x', h1⟩ := expLoop_eq prim h0 size [] 1
  have h2 := logLoop_eq ((expList prim size size 1).drop (size - 1)) ((expList prim size size 1).take (size - 1)) []
    (List.replicate size 0) (fun e he => by
      rw [List.length_replicate]; exact Proofs.GF.expList_lt prim h0 size 1 hs e (List.mem_of_mem_take he))
  rw [List.nil_append, List.take_append_drop, List.length_take, Proofs.GF.expList_length, Nat.min_eq_left (by omega)] at h2
  simp only [List.length_nil, List.nil_append, Int.natCast_zero, Int.natCast_one] at h1 h2
  simp only [Gen.K04.gfTables, mk_nats _ size rfl, tryR_ok, tripUp_one]
  rw [show ((size : Int) - 0).toNat = size by omega, show ((size : Int) - 1 - 0).toNat = size - 1 by omega, h1]
  simp only [next_thenR]
  rw [h2]
  simp [modelTables, mk', words]

when_kernel Gzx.Gen.K04.gfTables in
theorem k_gfTables_qr : Gen.K04.gfTables 0x11D 256 = modelTables 0x11D 256 := k_gfTables_eq 0x11D 256 (by decide)

when_kernel Gzx.Gen.K04.gfTables in
theorem k_gfTables_dataMatrix : Gen.K04.gfTables 0x12D 256 = modelTables 0x12D 256 := k_gfTables_eq 0x12D 256 (by decide)

when_kernel Gzx.Gen.K04.gfTables in
theorem k_gfTables_aztec6 : Gen.K04.gfTables 0x43 64 = modelTables 0x43 64 := k_gfTables_eq 0x43 64 (by decide)

when_kernel Gzx.Gen.K04.gfTables in
theorem k_gfTables_aztecParam : Gen.K04.gfTables 0x13 16 = modelTables 0x13 16 := k_gfTables_eq 0x13 16 (by decide)

end Gzx.Obligations.K04
