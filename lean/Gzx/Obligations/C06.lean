/-
  C06 — per-run obligations over the tables regenerated from /repo, and the QR decoder totality theorem
  instantiated with them:
    * VERSIONS is well-formed (40 entries numbered 1..40, four levels, short/long blocks, equal totals),
      so `Version_GetVersionForNumber` and `DataBlock_GetDataBlocks` stay inside their slices;
    * every version has room for at most `totalCodewords` codewords outside its function patterns
      (`versions_fit`), so `ReadCodewords` stays inside `result`: the regenerated table is the standard's
      (`Obligations.C01.tables_conform`), and the standard's table passes the check `cwFitsB` because the
      decoder reads exactly the reference's data modules (Proofs/TotalQRFitRef.lean).
-/
import Gzx.Driver.QRTables
import Gzx.Proofs.TotalQRFitRef
import Gzx.Obligations.C01
import Gzx.Obligations.C05
import Gzx.Properties.C06
namespace Gzx.Obligations.C06
open Gzx Gzx.QRDec Gzx.Proofs.TotalQRFit Gzx.Proofs.TotalQRDec

/-- the regenerated tables have the expected shape (no fallback to an empty table) -/
theorem tables_decoded :
    QRTables.fmt?.isSome ∧ QRTables.fmtMask?.isSome ∧ QRTables.vdi?.isSome ∧ QRTables.versions?.isSome :=
  Obligations.C05.tables_decoded

theorem versions_wf : wfVersions QRTables.versions = true := Obligations.C01.versions_wf

theorem versions_fit : QRTables.versions.all cwFitsB = true :=
  cwFits_of_conform QRTables.tables Obligations.C01.tables_conform

/-- the hypotheses of `Properties.C06.qr_decode_total` hold for the tables regenerated from /repo -/
theorem tables_ok : wfVersions QRTables.tables.versions = true ∧ CwFits QRTables.tables :=
  ⟨versions_wf, cwFits_of_check QRTables.tables versions_fit⟩

/-- C06 for the QR decoder with the tables regenerated from /repo: every square matrix, every hint, every
    Reed-Solomon block decoder that does not panic — a result, FormatException or ChecksumException -/
theorem qr_decode_total_gen (rs : List Nat → Nat → Res (List Nat)) (hrs : ∀ cw n w, rs cw n ≠ .error (.panic w))
    (hint : ECI.Hint) (m : Matrix) :
    (∃ d, decode QRTables.tables rs hint m = .ok d) ∨ decode QRTables.tables rs hint m = .error .format ∨
      decode QRTables.tables rs hint m = .error .checksum :=
  Gzx.Properties.C06.qr_decode_total QRTables.tables versions_wf versions_fit rs hrs hint m

end Gzx.Obligations.C06
