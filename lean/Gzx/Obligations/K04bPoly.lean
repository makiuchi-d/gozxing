/-
  K04b (GenericGFPoly part) — the polynomial methods of common/reedsolomon/generic_gf_poly.go regenerated from /repo on
  every run (`Gzx.Gen.K04b`) and proved equal to the hand-written model of Model/RS.lean.  Conventions: Obligations/K04b.lean.
-/
import Gzx.Obligations.K04b
namespace Gzx.Obligations.K04bPoly
open Gzx Gzx.GoM Gzx.GoVal Gzx.RS Gzx.K04bTie Gzx.Obligations.K04b

when_kernel Gzx.Gen.K04b.polyGetDegree in
/-- `GetDegree()` = `len(coefficients) - 1` (the model's `degree` for a non-empty list) -/
theorem k_polyGetDegree_eq (gf : Gen.K04b.GenericGF) (p : List Nat) :
    Gen.K04b.polyGetDegree gf (ints p) = .ok ((p.length : Int) - 1) := by
  simp only [Gen.K04b.polyGetDegree, len_words]

theorem degree_cast (p : List Nat) (hp : p ≠ []) : (p.length : Int) - 1 = ((degree p : Nat) : Int) := by
  have : 0 < p.length := List.length_pos_iff.mpr hp
  unfold degree; omega

when_kernel Gzx.Gen.K04b.polyIsZero in
/-- `IsZero()` = the model's `isZero` (first coefficient is 0) -/
theorem k_polyIsZero_eq (gf : Gen.K04b.GenericGF) (p : List Nat) (hp : p ≠ []) :
    Gen.K04b.polyIsZero gf (ints p) = .ok (isZero p) := by
  cases p with
  | nil => exact absurd rfl hp
  | cons c cs =>
    simp only [Gen.K04b.polyIsZero]
    rw [idx_nats _ 0 0 rfl]
    simp only [List.getElem?_cons_zero, tryR_ok, natCast_beq_zero, isZero, List.head?_cons]
    congr 1

when_kernel Gzx.Gen.K04b.polyGetCoefficient in
/-- `GetCoefficient(d)` = the model's `getCoefficient` (index panic for `d > degree` included) -/
theorem k_polyGetCoefficient_eq (gf : Gen.K04b.GenericGF) (p : List Nat) (d : Nat) :
    Gen.K04b.polyGetCoefficient gf (ints p) d = (getCoefficient p d).map Int.ofNat := by
  simp only [Gen.K04b.polyGetCoefficient, getCoefficient, len_words]
  by_cases h : d + 1 > p.length
  · rw [if_pos h, idx_neg _ _ (by omega)]; rfl
  · rw [if_neg h, idx_nats _ _ (p.length - 1 - d) (by omega)]
    cases p[p.length - 1 - d]? <;> rfl


when_kernel Gzx.Gen.K04b.polyGetCoefficient in
/-- the same with the degree as an integer expression (for rewriting inside callers) -/
theorem k_polyGetCoefficient_at (gf : Gen.K04b.GenericGF) (p : List Nat) (e : Int) (d : Nat) (h : e = d) :
    Gen.K04b.polyGetCoefficient gf (ints p) e = (getCoefficient p d).map Int.ofNat := by
  subst h; exact k_polyGetCoefficient_eq gf p d

/-! ### EvaluateAt -/

/-- the `a == 1` loop: xor of all coefficients -/
theorem foldIdx_xor (p : List Nat) : ∀ (i t : Nat),
    foldIdx (ρ := Int) (fun _ x t => Ctl.next (t ^^^ x)) i p t = .next (p.foldl (· ^^^ ·) t) := by
  induction p with
  | nil => intro i t; rfl
  | cons x xs ih => intro i t; simp only [foldIdx, List.foldl_cons]; exact ih (i + 1) (t ^^^ x)

/-- the Horner loop as a list-driven iteration -/
theorem foldIdx_horner (F : GF.GF) (a : Nat) (cs : List Nat) : ∀ (i r : Nat),
    foldIdx (ρ := Int) (fun _ x r => ofRes ((F.mul a r).map (· ^^^ x))) i cs r = ofRes (evalLoop F a cs r) := by
  induction cs with
  | nil => intro i r; rfl
  | cons c cs ih =>
    intro i r
    simp only [foldIdx, evalLoop, bind, Except.bind]
    cases F.mul a r with
    | error e => rfl
    | ok m => simp only [Except.map, ofRes_ok]; exact ih (i + 1) (m ^^^ c)

when_kernel Gzx.Gen.K04b.polyEvaluateAt in
/-- `EvaluateAt(a)` = the model's `evaluateAt`: the x^0 coefficient for `a == 0`, the xor of the coefficients for `a == 1`,
    Horner with the table-driven `Multiply` otherwise (panics of out-of-range symbols included) -/
theorem k_polyEvaluateAt_eq (F : GF.GF) (hF : TablesOK F) (p : List Nat) (a : Nat) :
    Gen.K04b.polyEvaluateAt (fieldRec F) (ints p) a = (evaluateAt F p a).map Int.ofNat := by
  simp only [Gen.K04b.polyEvaluateAt, evaluateAt, natCast_beq_zero]
  by_cases h0 : a = 0
  · subst h0
    simp only [beq_self_eq_true, if_true]
    rw [show (0 : Int) = ((0 : Nat) : Int) from rfl, k_polyGetCoefficient_eq]
    cases getCoefficient p 0 <;> rfl
  have hb0 : (a == 0) = false := beq_eq_false_iff_ne.mpr h0
  simp only [hb0, Bool.false_eq_true, if_false, h0]
  by_cases h1 : a = 1
  · subst h1
    simp only [show (((1 : Nat) : Int) == 1) = true from rfl, if_true]
    rw [forRange_foldIdx' (Nat.cast : Nat → Int) (fun _ x t => Ctl.next (t ^^^ x)) p 0 0]
    · rw [foldIdx_xor]; rfl
    · rfl
    · rfl
    · rfl
    · intro j hj t
      rw [k_gfAddOrSubtract_eq]; rfl
  have hb1 : ((a : Int) == 1) = false := by
    rw [show (1 : Int) = ((1 : Nat) : Int) from rfl, natCast_beq]; exact beq_eq_false_iff_ne.mpr h1
  simp only [hb1, Bool.false_eq_true, if_false, h1]
  cases p with
  | nil => rfl
  | cons c0 cs =>
    rw [idx_nats _ 0 0 rfl]
    simp only [List.getElem?_cons_zero, tryR_ok]
    rw [loop_up_list' (Nat.cast : Nat → Int) (fun _ x r => ofRes ((F.mul a r).map (· ^^^ x))) cs 1 c0]
    · rw [foldIdx_horner]
      cases evalLoop F a cs c0 <;> rfl
    · rfl
    · rw [tripUp_one, len_words]; simp
    · rfl
    · intro j hj t
      rw [k_gfMultiply_eq F hF]
      cases F.mul a t with
      | error e => rfl
      | ok m =>
        simp only [Except.map, tryC_ok]
        rw [idx_nats _ _ (1 + j) rfl]
        have : (c0 :: cs)[1 + j]? = some cs[j] := by
          rw [Nat.add_comm, List.getElem?_cons_succ, List.getElem?_eq_getElem hj]
        rw [this]
        simp only [tryC_ok]
        rw [show Int.ofNat m = (m : Int) from rfl, k_gfAddOrSubtract_eq]
        rfl


/-! ### NewGenericGFPoly -/

/-- number of leading zeros -/
def lz (l : List Nat) : Nat := (l.takeWhile (· == 0)).length

theorem dropWhile_eq_drop_lz (l : List Nat) : l.dropWhile (· == 0) = l.drop (lz l) := by
  induction l with
  | nil => rfl
  | cons x xs ih =>
    unfold lz
    by_cases h : (x == 0) = true
    · rw [List.dropWhile_cons_of_pos (p := (· == 0)) h, List.takeWhile_cons_of_pos (p := (· == 0)) h, List.length_cons, List.drop_succ_cons]; exact ih
    · rw [List.dropWhile_cons_of_neg (p := (· == 0)) h, List.takeWhile_cons_of_neg (p := (· == 0)) h]; rfl

theorem lz_le (l : List Nat) : lz l ≤ l.length := by
  unfold lz; exact (List.takeWhile_sublist _).length_le

/-- the scan for the first non-zero coefficient, on model indices -/
def scanStep (cs : List Nat) (i : Nat) : Ctl Nat (List Int × Bool) :=
  match cs[i]? with
  | some 0 => .next (i + 1)
  | _ => .brk i

theorem scan_run (cs : List Nat) : ∀ (l : List Nat) (i n : Nat), cs.drop i = l → l.length < n →
    whileLoop (scanStep cs) n i = .brk (i + lz l) := by
  intro l
  induction l with
  | nil =>
    intro i n hd hn
    obtain ⟨n, rfl⟩ : ∃ k, n = k + 1 := ⟨n - 1, by simp at hn; omega⟩
    have : cs[i]? = none := by
      rw [List.getElem?_eq_none_iff]; exact List.drop_eq_nil_iff.mp hd
    rw [whileLoop_succ]; simp only [scanStep, this]; rfl
  | cons x xs ih =>
    intro i n hd hn
    obtain ⟨n, rfl⟩ : ∃ k, n = k + 1 := ⟨n - 1, by simp at hn; omega⟩
    have hx : cs[i]? = some x := by
      have := congrArg List.head? hd
      rwa [List.head?_drop] at this
    have hd' : cs.drop (i + 1) = xs := by
      rw [← List.drop_drop, hd]; rfl
    rw [whileLoop_succ]
    simp only [scanStep, hx]
    cases x with
    | zero =>
      simp only []
      rw [ih (i + 1) n hd' (by simp at hn; omega)]
      unfold lz
      rw [List.takeWhile_cons_of_pos (p := (· == 0)) (by rfl), List.length_cons]
      congr 1; omega
    | succ k =>
      simp only []
      unfold lz
      rw [List.takeWhile_cons_of_neg (p := (· == 0)) (by simp)]; rfl

when_kernel Gzx.Gen.K04b.newPoly in
/-- `NewGenericGFPoly(field, coefficients)` = the model's `mkPoly`: error for an empty slice, leading zeros stripped
    (the constant polynomial 0 keeps one coefficient) -/
theorem k_newPoly_eq (gf : Gen.K04b.GenericGF) (cs : List Nat) :
    Gen.K04b.newPoly gf (ints cs) = expE [] ints (mkPoly cs) := by
  simp only [Gen.K04b.newPoly, len_words, mkPoly]
  cases cs with
  | nil => rfl
  | cons c tl =>
    have hne : (((((c :: tl).length : Nat) : Int) == 0) = false) := by
      rw [show (0 : Int) = ((0 : Nat) : Int) from rfl, natCast_beq]; rfl
    simp only [hne, Bool.false_eq_true, if_false, List.isEmpty_cons]
    rw [idx_nats _ 0 0 rfl]
    simp only [List.getElem?_cons_zero, tryR_ok, natCast_beq_zero]
    by_cases h1 : tl = []
    · subst h1
      simp only [List.length_cons, List.length_nil, Nat.zero_add, show decide ((((1 : Nat) : Int)) > 1) = false from rfl,
        Bool.false_eq_true, if_false, tryR_ok, next_thenR, expE_ok]
      unfold normalize
      cases c with
      | zero => rfl
      | succ k => rfl
    have hlen : 1 < (c :: tl).length := by
      have : 0 < tl.length := List.length_pos_iff.mpr h1
      simp; omega
    have hd : decide ((((c :: tl).length : Nat) : Int) > 1) = true := by
      apply decide_eq_true; omega
    simp only [hd, if_true, tryR_ok]
    cases c with
    | succ k =>
      simp only [show (k + 1 == 0) = false from rfl, Bool.false_eq_true, if_false, next_thenR, expE_ok]
      unfold normalize
      rw [List.dropWhile_cons_of_neg (p := (· == 0)) (by simp)]
    | zero =>
      simp only [show ((0 : Nat) == 0) = true from rfl, if_true]
      rw [whileLoop_map_inv' (Nat.cast : Nat → Int) (fun _ => True) (scanStep (0 :: tl)) 1 (ht := trivial)
        (hinv := fun _ _ _ _ => trivial)]
      · rw [scan_run (0 :: tl) tl 1 _ rfl (by rw [tripUp_one]; simp)]
        simp only [Ctl.map_brk, brk_thenC, expE_ok]
        unfold normalize
        rw [List.dropWhile_cons_of_pos (p := (· == 0)) (by rfl), dropWhile_eq_drop_lz]
        have hle := lz_le tl
        by_cases hall : lz tl = tl.length
        · have hb : ((((1 + lz tl : Nat) : Int)) == (((0 :: tl).length : Nat) : Int)) = true := by
            rw [natCast_beq, beq_iff_eq]; simp; omega
          simp only [hb, if_true, next_thenC, next_thenR]
          rw [hall, List.drop_length]
          rfl
        · have hb : ((((1 + lz tl : Nat) : Int)) == (((0 :: tl).length : Nat) : Int)) = false := by
            rw [natCast_beq, beq_eq_false_iff_ne]; simp; omega
          simp only [hb, Bool.false_eq_true, if_false]
          have hs : GoM.slice (ints (0 :: tl)) ((1 + lz tl : Nat) : Int) (((0 :: tl).length : Nat) : Int) = .ok (ints (tl.drop (lz tl))) := by
            unfold GoM.slice
            rw [if_pos (by simp []; omega)]
            congr 1
            rw [Int.toNat_natCast, Int.toNat_natCast, ← nats_length (0 :: tl), List.take_length, Nat.add_comm]
            simp [ints, List.map_drop]
          rw [hs]
          simp only [tryC_ok, next_thenC, next_thenR]
          cases hdrop : tl.drop (lz tl) with
          | nil => exact absurd (List.drop_eq_nil_iff.mp hdrop) (by omega)
          | cons y ys => rfl

      · rfl
      · intro i _
        simp only [scanStep]
        by_cases hi : i < (0 :: tl).length
        · have hd2 : decide ((i : Int) < (((0 :: tl).length : Nat) : Int)) = true := by apply decide_eq_true; omega
          simp only [hd2, if_true]
          rw [idx_nats _ _ i rfl, List.getElem?_eq_getElem hi]
          simp only [tryR_ok, tryC_ok, natCast_beq_zero]
          cases (0 :: tl)[i] with
          | zero => rfl
          | succ k => rfl
        · have hd2 : decide ((i : Int) < (((0 :: tl).length : Nat) : Int)) = false := by apply decide_eq_false; omega
          simp only [hd2, Bool.false_eq_true, if_false, tryC_ok]
          rw [List.getElem?_eq_none (by omega)]
          rfl


/-! ### BuildMonomial, MultiplyByMonomial, MultiplyBy -/

when_kernel Gzx.Gen.K04b.gfBuildMonomial in
/-- `GenericGF.BuildMonomial(degree, coefficient)` = the model's `buildMonomial` (`degree ≥ 0`): the zero polynomial for
    coefficient 0, `coefficient·x^degree` otherwise -/
theorem k_gfBuildMonomial_eq (F : GF.GF) (deg coeff : Nat) :
    Gen.K04b.gfBuildMonomial (fieldRec F) deg coeff = expE [] ints (buildMonomial deg coeff) := by
  simp only [Gen.K04b.gfBuildMonomial, buildMonomial, natCast_beq_zero]
  have hd : decide ((deg : Int) < 0) = false := by apply decide_eq_false; omega
  simp only [hd, Bool.false_eq_true, if_false]
  by_cases hc : coeff = 0
  · subst hc; rfl
  · simp only [beq_eq_false_iff_ne.mpr hc, Bool.false_eq_true, if_false, hc]
    rw [mk_nats _ (deg + 1) (by omega)]
    simp only [tryR_ok]
    rw [setIdx_words _ _ _ 0 coeff (by rfl) (by rfl)]
    have : Bits.setWord (List.replicate (deg + 1) 0) 0 coeff = .ok (coeff :: List.replicate deg 0) := by
      unfold Bits.setWord; simp [List.replicate_succ]
    rw [this]
    simp only [Except.map, tryR_ok]
    rw [k_newPoly_eq]
    cases mkPoly (coeff :: List.replicate deg 0) with
    | ok v => rfl
    | error e => cases e <;> rfl

when_kernel Gzx.Gen.K04b.gfBuildMonomial in
/-- the same with degree and coefficient as integer expressions -/
theorem k_gfBuildMonomial_at (F : GF.GF) (e1 e2 : Int) (deg coeff : Nat) (h1 : e1 = deg) (h2 : e2 = coeff) :
    Gen.K04b.gfBuildMonomial (fieldRec F) e1 e2 = expE [] ints (buildMonomial deg coeff) := by
  subst h1 h2; exact k_gfBuildMonomial_eq F deg coeff

/-- what the fill loop of MultiplyBy / MultiplyByMonomial computes -/
theorem mulFill_loop (F : GF.GF) (p : List Nat) (s tailLen : Nat)
    {body : Int → List Int → Ctl (List Int) ρ} {n : Nat} {i0 : Int} {st : List Int}
    (hst : st = ints (List.replicate (p.length + tailLen) 0)) (hn : n = p.length) (hi : i0 = 0)
    (hb : ∀ j (hj : j < p.length) (t : List Nat), body ((0 + j : Nat) : Int) (ints t) =
      Ctl.map ints (mapStep (fun c => F.mul c s) (0 + j) p[j] t)) :
    loop body 1 n i0 st = Ctl.map ints (ofRes ((p.mapM (fun c => F.mul c s)).map (fun ms => ms ++ List.replicate tailLen 0))) := by
  rw [loop_up_list' ints (mapStep (fun c => F.mul c s)) p 0 (List.replicate (p.length + tailLen) 0) hst hn (by omega) hb]
  have := foldIdx_map (ρ := ρ) (fun c => F.mul c s) tailLen p []
  simp only [List.length_nil, List.nil_append] at this
  rw [this]

when_kernel Gzx.Gen.K04b.polyMultiplyByMonomial in
/-- `MultiplyByMonomial(degree, coefficient)` = the model's `multiplyByMonomial` (`degree ≥ 0`) -/
theorem k_polyMultiplyByMonomial_eq (F : GF.GF) (hF : TablesOK F) (p : List Nat) (deg coeff : Nat) :
    Gen.K04b.polyMultiplyByMonomial (fieldRec F) (ints p) deg coeff = expE [] ints (multiplyByMonomial F p deg coeff) := by
  simp only [Gen.K04b.polyMultiplyByMonomial, multiplyByMonomial, natCast_beq_zero, len_words]
  have hd : decide ((deg : Int) < 0) = false := by apply decide_eq_false; omega
  simp only [hd, Bool.false_eq_true, if_false]
  by_cases hc : coeff = 0
  · subst hc; rfl
  · simp only [beq_eq_false_iff_ne.mpr hc, Bool.false_eq_true, if_false, hc]
    rw [mk_nats _ (p.length + deg) (by omega)]
    simp only [tryR_ok]
    rw [mulFill_loop F p coeff deg rfl (by rw [tripUp_one]; omega) rfl (fun j hj t => by
      rw [idx_nats _ _ (0 + j) rfl, Nat.zero_add, List.getElem?_eq_getElem hj]
      simp only [tryC_ok, mapStep]
      rw [k_gfMultiply_eq F hF]
      cases F.mul p[j] coeff with
      | error e => rfl
      | ok m =>
        simp only [Except.map, tryC_ok, Int.ofNat_eq_natCast]
        rw [setIdx_words _ _ _ j m (by rfl) (by rfl)]
        cases Bits.setWord t j m <;> rfl)]
    simp only [bind, Except.bind]
    cases hm : p.mapM (fun c => F.mul c coeff) with
    | error e =>
      simp only [Except.map, ofRes_error, Ctl.map_panic, panic_thenR]
      exact (expE_of_panic _ _ (Panics.mapM (fun _ => mul_panics _ _ _) _ _ hm)).symm
    | ok ms =>
      simp only [Except.map, ofRes_ok, Ctl.map_next, next_thenR]
      rw [k_newPoly_eq]
      cases mkPoly (ms ++ List.replicate deg 0) with
      | ok v => rfl
      | error e => cases e <;> rfl


when_kernel Gzx.Gen.K04b.polyMultiplyByMonomial in
/-- the same with degree and coefficient as integer expressions -/
theorem k_polyMultiplyByMonomial_at (F : GF.GF) (hF : TablesOK F) (p : List Nat) (e1 e2 : Int) (deg coeff : Nat)
    (h1 : e1 = deg) (h2 : e2 = coeff) :
    Gen.K04b.polyMultiplyByMonomial (fieldRec F) (ints p) e1 e2 = expE [] ints (multiplyByMonomial F p deg coeff) := by
  subst h1 h2; exact k_polyMultiplyByMonomial_eq F hF p deg coeff

when_kernel Gzx.Gen.K04b.polyMultiplyBy in
/-- `MultiplyBy(scalar)` = the model's `multiplyBy` -/
theorem k_polyMultiplyBy_eq (F : GF.GF) (hF : TablesOK F) (p : List Nat) (hp : p ≠ []) (scalar : Nat) :
    Gen.K04b.polyMultiplyBy (fieldRec F) (ints p) scalar = (multiplyBy F p scalar).map ints := by
  simp only [Gen.K04b.polyMultiplyBy, multiplyBy, natCast_beq_zero, len_words]
  by_cases hc : scalar = 0
  · subst hc; rfl
  simp only [beq_eq_false_iff_ne.mpr hc, Bool.false_eq_true, if_false, hc]
  by_cases h1 : scalar = 1
  · subst h1; rfl
  have hb1 : ((scalar : Int) == 1) = false := by
    rw [show (1 : Int) = ((1 : Nat) : Int) from rfl, natCast_beq]; exact beq_eq_false_iff_ne.mpr h1
  simp only [hb1, Bool.false_eq_true, if_false, h1]
  rw [mk_nats _ (p.length + 0) (by omega)]
  simp only [tryR_ok]
  rw [mulFill_loop F p scalar 0 rfl (by rw [tripUp_one]; omega) rfl (fun j hj t => by
    rw [idx_nats _ _ (0 + j) rfl, Nat.zero_add, List.getElem?_eq_getElem hj]
    simp only [tryC_ok, mapStep]
    rw [k_gfMultiply_eq F hF]
    cases F.mul p[j] scalar with
    | error e => rfl
    | ok m =>
      simp only [Except.map, tryC_ok, Int.ofNat_eq_natCast]
      rw [setIdx_words _ _ _ j m (by rfl) (by rfl)]
      cases Bits.setWord t j m <;> rfl)]
  simp only [bind, Except.bind]
  cases hm : p.mapM (fun c => F.mul c scalar) with
  | error e => rfl
  | ok ms =>
    simp only [Except.map, ofRes_ok, Ctl.map_next, next_thenR, List.replicate_zero, List.append_nil]
    rw [k_newPoly_eq]
    have hl : ms ≠ [] := by
      intro h; subst h
      exact hp (List.eq_nil_of_length_eq_zero (mapM_length _ _ hm).symm)
    unfold mkPoly
    cases ms with
    | nil => exact absurd rfl hl
    | cons m ms => rfl

/-! ### AddOrSubtract -/

/-- one step of the sum loop: `sumDiff[i] = x ^ larger[i]` -/
def addStep (larger : List Nat) (i x : Nat) (sd : List Nat) : Ctl (List Nat) ρ :=
  match larger[i]? with
  | some y => ofRes (Bits.setWord sd i (x ^^^ y))
  | none => .panic oob

theorem foldIdx_add (larger : List Nat) : ∀ (s lt pre lpre : List Nat), larger = lpre ++ lt → lpre.length = pre.length →
    s.length = lt.length →
    foldIdx (ρ := ρ) (addStep larger) pre.length s (pre ++ List.replicate s.length 0) =
      .next (pre ++ List.zipWith (· ^^^ ·) s lt) := by
  intro s
  induction s with
  | nil => intro lt pre lpre _ _ _; simp [foldIdx]
  | cons x xs ih =>
    intro lt pre lpre hl hpre hlen
    cases lt with
    | nil => simp at hlen
    | cons y ys =>
      have hy : larger[pre.length]? = some y := by
        rw [hl, ← hpre, List.getElem?_append_right (Nat.le_refl _), Nat.sub_self]; rfl
      rw [List.length_cons, List.replicate_succ]
      simp only [foldIdx, addStep, hy, setWord_mid, ofRes_ok]
      have := ih ys (pre ++ [x ^^^ y]) (lpre ++ [y]) (by rw [hl]; simp) (by simp [hpre]) (by simpa using hlen)
      rw [List.length_append, List.length_singleton] at this
      rw [this]
      simp

when_kernel Gzx.Gen.K04b.polyAddOrSubtract in
/-- `AddOrSubtract` on non-zero operands given with the shorter one first: the coefficient-wise xor aligned at the low end,
    normalised by `NewGenericGFPoly` -/
theorem polyAddOrSubtract_ordered (F : GF.GF) (p q : List Nat) (hp : p ≠ []) (hq : q ≠ []) (hzp : ¬ isZero p = true)
    (hzq : ¬ isZero q = true) (hsl : p.length ≤ q.length) :
    Gen.K04b.polyAddOrSubtract (fieldRec F) (ints p) (ints q) = expE [] ints (addOrSubtract p q) := by
  have hlen : ¬ p.length > q.length := by omega
  have hd : decide ((p.length : Int) > (q.length : Int)) = false := by apply decide_eq_false; omega
  simp only [Gen.K04b.polyAddOrSubtract, addOrSubtract, Bool.false_eq_true, if_false, k_polyIsZero_eq _ p hp,
    k_polyIsZero_eq _ q hq, tryR_ok, hzp, hzq, hd, next_thenR, hlen, len_words]
  rw [mk_nats _ q.length rfl]
  simp only [tryR_ok]
  have hsl' : GoM.slice (ints q) 0 ((q.length : Int) - (p.length : Int)) = .ok (ints (q.take (q.length - p.length))) := by
    unfold GoM.slice
    rw [if_pos (by simp []; omega)]
    congr 1
    rw [show ((q.length : Int) - (p.length : Int)).toNat = q.length - p.length by omega]
    simp [ints, List.map_take]
  rw [hsl']
  simp only [tryR_ok]
  have hcopy : copyL (words (List.replicate q.length 0)) (ints (q.take (q.length - p.length))) =
      ints (q.take (q.length - p.length) ++ List.replicate p.length 0) := by
    unfold copyL
    simp only [words, ints, List.length_map, List.length_replicate, List.length_take, List.map_append, List.map_replicate,
      List.drop_replicate]
    rw [List.take_of_length_le (by simp), show q.length - min (q.length - p.length) q.length = p.length by omega]
  rw [hcopy]
  rw [loop_up_list' ints (addStep q) p (q.length - p.length) (q.take (q.length - p.length) ++ List.replicate p.length 0)
    rfl (by rw [tripUp_one]; omega) (by omega) (fun j hj t => by
      rw [idx_nats _ _ j (by omega), List.getElem?_eq_getElem hj]
      simp only [tryC_ok, addStep]
      rw [idx_nats _ _ (q.length - p.length + j) rfl]
      cases q[q.length - p.length + j]? with
      | none => rfl
      | some y =>
        simp only [tryC_ok]
        rw [k_gfAddOrSubtract_eq]
        simp only [tryC_ok]
        rw [setIdx_words _ _ _ (q.length - p.length + j) (p[j] ^^^ y) (by rfl) (by rfl)]
        cases Bits.setWord t (q.length - p.length + j) (p[j] ^^^ y) <;> rfl)]
  have hit := foldIdx_add (ρ := List Int × Bool) q p (q.drop (q.length - p.length)) (q.take (q.length - p.length))
    (q.take (q.length - p.length)) (List.take_append_drop _ _).symm rfl (by simp; omega)
  rw [List.length_take, Nat.min_eq_left (by omega)] at hit
  rw [hit]
  simp only [Ctl.map_next, next_thenR]
  rw [k_newPoly_eq]
  cases mkPoly (q.take (q.length - p.length) ++ List.zipWith (· ^^^ ·) p (q.drop (q.length - p.length))) with
  | ok v => rfl
  | error e => cases e <;> rfl

when_kernel Gzx.Gen.K04b.polyAddOrSubtract in
/-- `AddOrSubtract(other)` = the model's `addOrSubtract`: the other operand if one is zero, otherwise the coefficient-wise
    xor aligned at the low end, normalised by `NewGenericGFPoly` (both polynomials over the one ambient field); both put the
    shorter operand first and continue as on the ordered pair -/
theorem k_polyAddOrSubtract_eq (F : GF.GF) (p q : List Nat) (hp : p ≠ []) (hq : q ≠ []) :
    Gen.K04b.polyAddOrSubtract (fieldRec F) (ints p) (ints q) = expE [] ints (addOrSubtract p q) := by
  by_cases hzp : isZero p = true
  · simp only [Gen.K04b.polyAddOrSubtract, addOrSubtract, Bool.false_eq_true, if_false, k_polyIsZero_eq _ p hp, tryR_ok, hzp,
      if_true]
    rfl
  by_cases hzq : isZero q = true
  · simp only [Gen.K04b.polyAddOrSubtract, addOrSubtract, Bool.false_eq_true, if_false, k_polyIsZero_eq _ p hp,
      k_polyIsZero_eq _ q hq, tryR_ok, hzp, hzq, if_true]
    rfl
  by_cases hlen : p.length > q.length
  · have hd1 : decide ((p.length : Int) > (q.length : Int)) = true := by apply decide_eq_true; omega
    have hd2 : decide ((q.length : Int) > (p.length : Int)) = false := by apply decide_eq_false; omega
    have hg : Gen.K04b.polyAddOrSubtract (fieldRec F) (ints p) (ints q) =
        Gen.K04b.polyAddOrSubtract (fieldRec F) (ints q) (ints p) := by
      simp only [Gen.K04b.polyAddOrSubtract, Bool.false_eq_true, if_false, k_polyIsZero_eq _ p hp, k_polyIsZero_eq _ q hq,
        tryR_ok, hzp, hzq, len_words, hd1, hd2, if_true, next_thenR]
    have hm : addOrSubtract p q = addOrSubtract q p := by
      simp only [addOrSubtract, hzp, hzq, Bool.false_eq_true, if_false, hlen, if_true, show ¬ q.length > p.length by omega]
    rw [hg, hm]
    exact polyAddOrSubtract_ordered F q p hq hp hzq hzp (by omega)
  · exact polyAddOrSubtract_ordered F p q hp hq hzp hzq (by omega)

/-! non-vacuity: the hypotheses of the theorems above are `TablesOK F` (examples in Obligations/K04b.lean: the library's
    fields) and non-emptiness of the coefficient lists -/
example : ([1, 0, 7] : List Nat) ≠ [] ∧ ([0] : List Nat) ≠ [] := by decide

end Gzx.Obligations.K04bPoly
