/-
  C12 — per-run obligation: the symbol table the theorems of Properties/C12DM.lean are stated over
  (`DMWriterCore.hlSyms` = the standard's table in the library's lookup order, as the high-level encoder sees it) IS
  the library's `encoder.symbols` as regenerated from the current source.
  (The ECC side — `DMEnc.symbols`, `parityLengths`, `factorTable` — is `Obligations.C08.gen_symbols_eq`,
  `gen_factorSets_eq`, `gen_factors_eq`.)
-/
import Gzx.Model.DMWriterCore
import Gzx.Gen.DMSymbols
namespace Gzx.Obligations.C12DM
open Gzx

theorem gen_symbols_hl : DMHighLevel.decodeSymbols Gen.DMSymbols.symbols = some DMWriterCore.hlSyms := by
  decide +kernel

end Gzx.Obligations.C12DM
