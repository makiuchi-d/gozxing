/-
  K04b (consequences) — the property theorems of Properties/C04.lean, which are about the hand-written model, restated for
  the definitions REGENERATED from common/reedsolomon/*.go on every run (`Gzx.Gen.K04b`) through the kernel theorems of
  Obligations/K04b*.lean: the field operations of the source are the arithmetic of GF(2)[x]/(prim), and `Encode` as written
  in the source keeps the data, appends exactly `r` parity symbols and produces a word with zero syndromes.
  `Decode` as written in the source restores every code word corrupted in at most ⌊r/2⌋ positions (`rs_corrects`).
-/
import Gzx.Obligations.K04bDecode
import Gzx.Properties.C04
namespace Gzx.Obligations.K04bProps
open Gzx Gzx.GF Gzx.RS Gzx.Ref.GF Gzx.K04bTie Gzx.Obligations.K04b Gzx.Obligations.K04bEnc Gzx.Obligations.K04bDecode
  Gzx.Properties.C04 Gzx.Proofs.RS

/-- a fresh encoder (`NewReedSolomonEncoder`: cache `[1]`) holds generators only -/
theorem cacheOK_fresh (F : GF) : CacheOK F [[1]] := cacheOK_one F

when_kernel Gzx.Gen.K04b.gfMultiply in
/-- the regenerated `GenericGF.Multiply` is the carry-less product reduced modulo the primitive polynomial, all elements -/
theorem gen_mul_eq_clmul_mod (F : GF) (h : FieldOK F) (a b : Nat) (ha : a < F.size) (hb : b < F.size) :
    Gen.K04b.gfMultiply (fieldRec F) a b = .ok ((pmod F.prim (clmul a b) : Nat) : Int) := by
  rw [k_gfMultiply_eq F (tablesOK_of_fieldOK F h), gf_mul_eq_clmul_mod F h a b ha hb]; rfl

when_kernel Gzx.Gen.K04b.gfInverse in
/-- the regenerated `GenericGF.Inverse` succeeds on every non-zero element and returns its inverse -/
theorem gen_inv (F : GF) (h : FieldOK F) (a : Nat) (h0 : a ≠ 0) (ha : a < F.size) :
    ∃ v : Nat, Gen.K04b.gfInverse (fieldRec F) a = .ok ((v : Int), false) ∧ v < F.size ∧ pmod F.prim (clmul a v) = 1 := by
  obtain ⟨v, h1, h2, _, h4⟩ := gf_inv F h a h0 ha
  exact ⟨v, by rw [k_gfInverse_eq F (tablesOK_of_fieldOK F h), h1]; rfl, h2, h4⟩

when_kernel Gzx.Gen.K04b.encEncode in
/-- the regenerated `ReedSolomonEncoder.Encode`, on an encoder whose cache holds generators (e.g. a fresh one): for every data
    length `k ≥ 1`, parity count `r ≥ 1` the field supports and whatever is in the `r` tail slots, no error, no panic, the
    data symbols unchanged followed by exactly `r` parity symbols, all field elements; the cache holds generators afterwards -/
theorem gen_encode_systematic (F : GF) (h : FieldOK F) (cache : List Poly) (hc : CacheOK F cache) (data tail : List Nat) (r : Nat)
    (hk : data ≠ []) (hr : 0 < r) (htl : tail.length = r) (hd : InField F data) (hb : r + F.base ≤ F.size)
    (fuel : Nat) (hfuel : (data ++ tail).length + 1 ≤ fuel) :
    ∃ par cache', CacheOK F cache' ∧
      Gen.K04b.encEncode fuel (fieldRec F) (polys cache) (ints (data ++ tail)) r = .ok (false, polys cache', ints (data ++ par)) ∧
      par.length = r ∧ InField F par := by
  obtain ⟨par, h1, h2, h3⟩ := rs_encode_systematic F h data tail r hk hr htl hd hb
  have := k_encEncode_eq F (tablesOK_of_fieldOK F h) cache hc (data ++ tail) r fuel hfuel (by rw [h1]; intro h; cases h)
  rw [h1] at this
  obtain ⟨cache', hc', hg⟩ := this
  exact ⟨par, cache', hc', hg, h2, h3⟩

when_kernel Gzx.Gen.K04b.encEncode in
/-- … and the word it writes has zero syndromes `S_0 … S_{r-1}` -/
theorem gen_encode_zero_syndromes (F : GF) (h : FieldOK F) (data : List Nat) (r : Nat)
    (hk : data ≠ []) (hr : 0 < r) (hd : InField F data) (hb : r + F.base ≤ F.size)
    (fuel : Nat) (hfuel : data.length + r + 1 ≤ fuel) :
    ∃ w cache', Gen.K04b.encEncode fuel (fieldRec F) (polys [[1]]) (ints (data ++ List.replicate r 0)) r =
        .ok (false, polys cache', ints w) ∧ w.length = data.length + r ∧ InField F w ∧ ZeroSyndromes F w r := by
  obtain ⟨w, h1, h2, h3, h4⟩ := rs_encode_zero_syndromes F h data r hk hr hd hb
  unfold encodeWord at h1
  have := k_encEncode_eq F (tablesOK_of_fieldOK F h) [[1]] (cacheOK_fresh F) (data ++ List.replicate r 0) r fuel
    (by simp; omega) (by rw [h1]; intro h; cases h)
  rw [h1] at this
  obtain ⟨cache', _, hg⟩ := this
  exact ⟨w, cache', hg, h2, h3, h4⟩

theorem decodeD_of_decode {F : GF} {w c : List Nat} {r : Nat} (h : decode F w r = .ok c) : decodeD F w r = .ok c := by
  unfold decode at h
  cases hd : decodeD F w r with
  | ok v => rw [hd] at h; cases h; rfl
  | error e => rw [hd] at h; cases h

when_kernel Gzx.Gen.K04b.decDecode in
/-- **the regenerated `ReedSolomonDecoder.Decode` corrects up to ⌊r/2⌋ errors**: `c` any code word (zero syndromes) of
    length `n ≤ size-1` over a field with generator base 0 or 1, `e` any error word with at most `⌊r/2⌋` non-zero symbols:
    `Decode(c + e, r)` as written in the source returns `nil` and leaves exactly `c` in the slice -/
theorem gen_corrects (F : GF) (h : FieldOK F) (hb : F.base ≤ 1) (c e : List Nat) (r : Nat)
    (hlen : e.length = c.length) (hn : c.length ≤ F.size - 1) (hc : InField F c) (he : InField F e)
    (hz : ZeroSyndromes F c r) (hne : c ≠ []) (hrb : r + F.base ≤ F.size) (hwt : 2 * Gzx.Proofs.MinDist.weight e ≤ r)
    (fuel : Nat) (hfuel : r + 3 ≤ fuel) :
    Gen.K04b.decDecode fuel (fieldRec F) (ints (List.zipWith (· ^^^ ·) c e)) r = .ok (false, ints c) := by
  have hd := decodeD_of_decode (rs_corrects F h hb c e r hlen hn hc he hz hne hrb hwt)
  have := k_decDecode_eq F (tablesOK_of_fieldOK F h) (List.zipWith (· ^^^ ·) c e) r fuel hfuel (by rw [hd]; intro h; cases h)
  rw [hd] at this
  exact this

when_kernel Gzx.Gen.K04b.decDecode in
/-- … and passes an uncorrupted word through unchanged -/
theorem gen_decode_clean (F : GF) (h : FieldOK F) (w : List Nat) (r : Nat) (hne : w ≠ []) (hw : InField F w)
    (hb : r + F.base ≤ F.size) (hz : ZeroSyndromes F w r) (fuel : Nat) (hfuel : r + 3 ≤ fuel) :
    Gen.K04b.decDecode fuel (fieldRec F) (ints w) r = .ok (false, ints w) := by
  have hd := decodeD_of_decode (rs_decode_clean F h w r hne hw hb hz)
  have := k_decDecode_eq F (tablesOK_of_fieldOK F h) w r fuel hfuel (by rw [hd]; intro h; cases h)
  rw [hd] at this
  exact this

/-! non-vacuity: the hypotheses hold for the QR field and a (10,4) block; for `gen_corrects`: Properties/C04.lean
    (`rs_corrects`: a GF(16) code word with r = 4 and an error word of weight 2) -/
example : FieldOK qrCode256 := fieldOK_mk' (by decide +kernel)
example : InField qrCode256 [32, 91, 11, 120] := by
  intro x hx; simp at hx; rcases hx with h | h | h | h <;> subst h <;> decide
example : 6 + qrCode256.base ≤ qrCode256.size := by decide

end Gzx.Obligations.K04bProps
