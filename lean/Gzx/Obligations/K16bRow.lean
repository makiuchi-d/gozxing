/-
  K16b (GetRow) — `BitMatrix.GetRow(y, row)` regenerated from /repo's bit_matrix.go on every run, with the BitArray pieces it
  calls (`NewBitArray`, `Clear`, `SetBulk`, all regenerated as well), proved equal to the word model `WMat.getRow`.
  The nil-able `row *BitArray` parameter is three values: `row == nil`, `row.bits`, `row.size`; the returned pointer is the two
  fields of the array it points to.  Conventions: Obligations/K16b.lean.
-/
import Gzx.Obligations.K16bArr
namespace Gzx.Obligations.K16bRow
open Gzx Gzx.GoM Gzx.Bits Gzx.GoVal Gzx.Obligations.K16bArr

when_kernel Gzx.Gen.K16b.newBitArray in
/-- `NewBitArray(size)` = `WArr.new`: `makeArray(size)` and the size -/
theorem k_newBitArray_eq (size : Nat) :
    Gen.K16b.newBitArray size = .ok (words (WArr.new size).words, (size : Int)) := by
  simp only [Gen.K16b.newBitArray, WArr.new]
  rw [k_makeArray_eq]
  rfl

/-- the array `GetRow` fills: a fresh one when `row` is `nil` or too small, otherwise `row` cleared -/
def getRow0 (m : WMat) (row : Option WArr) : WArr :=
  match row with
  | some r => if r.size < m.width then WArr.new m.width else r.clear
  | none => WArr.new m.width

when_kernel Gzx.Gen.K16b.matrixGetRow in
/-- `BitMatrix.GetRow(y, row)` = `WMat.getRow`: a `nil` or too small `row` is replaced by `NewBitArray(width)`, otherwise it is
    cleared and reused (it keeps its size); then `row.SetBulk(x*32, bits[y*rowSize+x])` for every word of the row.
    (`bits₀`, `size₀` are whatever the fields of a `nil` row would be: they are not read.) -/
theorem k_matrixGetRow_eq (m : WMat) (y : Nat) (row : Option WArr) (bits₀ : List Nat) (size₀ : Nat) :
    Gen.K16b.matrixGetRow m.width m.rowSize (words m.words) y row.isNone
        (words (match row with | some r => r.words | none => bits₀))
        ((match row with | some r => r.size | none => size₀ : Nat) : Int) =
      expAS (WMat.getRow m y row) := by
  simp only [Gen.K16b.matrixGetRow, expAS]
  -- the array the loop starts from
  have hrow0 : ∀ (k : List Int × Int × Bool → Res (List Int × Int)),
      (((if (row.isNone || decide (((match row with | some r => r.size | none => size₀ : Nat) : Int) < (m.width : Int))) = true then
          tryC (Gen.K16b.newBitArray (m.width : Int)) fun t1 => Ctl.next (t1.1, t1.2, false)
        else
          tryC (Gen.K16b.arrayClear (words (match row with | some r => r.words | none => bits₀))) fun t2 =>
            Ctl.next (t2, ((match row with | some r => r.size | none => size₀ : Nat) : Int), row.isNone) :
          Ctl (List Int × Int × Bool) (List Int × Int))).thenR k) =
        k (words (getRow0 m row).words, ((getRow0 m row).size : Int), false) := by
    intro k
    cases row with
    | none => simp [k_newBitArray_eq, WArr.new, getRow0]
    | some r =>
      by_cases hs : r.size < m.width
      · simp [hs, k_newBitArray_eq, WArr.new, getRow0]
      · simp [hs, k_arrayClear_eq, WArr.clear, getRow0]
  rw [hrow0]
  clear hrow0
  simp only []
  have hmodel : WMat.getRow m y row = (List.range m.rowSize).foldlM (fun (r : WArr) (x : Nat) => do
      let w ← wordAt m.words (y * m.rowSize + x)
      r.setBulk (x * 32) w) (getRow0 m row) := by
    cases row <;> rfl
  rw [hmodel]
  generalize getRow0 m row = row0
  generalize hF : (fun (r : WArr) (x : Nat) => do
      let w ← wordAt m.words (y * m.rowSize + x)
      r.setBulk (x * 32) w) = F
  rw [List.range_eq_range', loop_up_fold' (fun (a : WArr) => words a.words) F 0 m.rowSize row0 rfl (by rw [tripUp_one]; omega) (by omega),
    ofRes_thenR]
  · cases hf : (List.range' 0 m.rowSize).foldlM F row0 with
    | error e => rfl
    | ok a' =>
      have hsz : a'.size = row0.size := by
        subst hF
        refine foldlM_inv (fun a => a.size = row0.size) _ (fun t x t' hp h => ?_) _ _ _ rfl hf
        simp only [bind, Except.bind] at h
        cases hw : wordAt m.words (y * m.rowSize + x) with
        | error e => rw [hw] at h; cases h
        | ok w =>
          rw [hw] at h
          simp only [WArr.setBulk, bind, Except.bind] at h
          cases hs : setWord t.words (x * 32 / 32) w with
          | error e => rw [hs] at h; cases h
          | ok ws => rw [hs] at h; simp only [pure, Except.pure] at h; injection h with h; rw [← h]; exact hp
      simp only [Except.map, hsz]
  · subst hF
    intro x _ _ a
    simp only [Gen.K16b.matrixGetRow_body1]
    rw [idxC m.words (y * m.rowSize + x) _ (by omega)]
    simp only [bind, Except.bind]
    cases wordAt m.words (y * m.rowSize + x) with
    | error e => rfl
    | ok w =>
      simp only []
      rw [show (x : Int) * 32 = ((x * 32 : Nat) : Int) by omega, k_arraySetBulk_eq]
      simp only [expA]
      cases WArr.setBulk a (x * 32) w <;> rfl

end Gzx.Obligations.K16bRow
