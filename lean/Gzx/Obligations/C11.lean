/-
  C11 per-run obligations over the regenerated Go data (Gzx.Gen.C11Aztec):
  the decoder's five code tables, classified exactly as getEncodedData classifies their strings,
  equal the reference tables typed from ISO/IEC 24778; the detector's EXPECTED_CORNER_BITS equal
  the orientation constants implied by the standard's orientation marks.
-/
import Gzx.Gen.C11Aztec
import Gzx.Proofs.AztecLink
namespace Gzx.Obligations.C11
open Gzx Gzx.AztecLink

/-- UPPER/LOWER/MIXED/PUNCT/DIGIT_TABLE of aztec/decoder/decoder.go = the standard's code tables -/
theorem tables_eq_ref :
    tablesOfGen Gen.C11Aztec.UPPER_TABLE Gen.C11Aztec.LOWER_TABLE Gen.C11Aztec.MIXED_TABLE
      Gen.C11Aztec.PUNCT_TABLE Gen.C11Aztec.DIGIT_TABLE = some refTables := by decide +kernel

/-- EXPECTED_CORNER_BITS of aztec/detector/detector.go = orientation marks of the standard in the
    detector's reading order -/
theorem corner_bits_eq_ref :
    Gen.C11Aztec.EXPECTED_CORNER_BITS.asNatList? = some refExpectedCornerBits := by decide +kernel

end Gzx.Obligations.C11
