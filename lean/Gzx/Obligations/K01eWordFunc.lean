/-
  K01e — `SetRegionLaw` and `NewSquareLaw` for the word-level matrix (`wordOps`, Obligations/K01eWord.lean: the regenerated
  `BitMatrix.SetRegion` over `[]uint32`), hence `Version.buildFunctionPattern` on the REAL `BitMatrix`: for every version of the
  regenerated table the regenerated function, running on the regenerated `SetRegion`, yields a well-formed word matrix whose
  modules are the model's function pattern (`k_buildFunctionPattern_word`).  Checked with C16 (it depends on K16b).
-/
import Gzx.Obligations.K01eWord
import Gzx.Obligations.K01eFunc
namespace Gzx.Obligations.K01e
open Gzx Gzx.GoM Gzx.GoVal Gzx.QRDec Gzx.Bits Gzx.Obligations.K01d

theorem setRegion_shape {m m' : WMat} {l t w h : Nat} (hs : WMat.setRegion m l t w h = .ok m') :
    m'.width = m.width ∧ m'.height = m.height ∧ m'.rowSize = m.rowSize := by
  simp only [WMat.setRegion] at hs
  repeat' (split at hs)
  all_goals first | (cases hs; exact ⟨rfl, rfl, rfl⟩) | cases hs

theorem reSq_self (m : SqM) : reSq ({ m.1 with words := unwords (words m.1.words) } : WMat) = .ok m :=
  reSq_words ⟨rfl, rfl, rfl⟩ m.2

when_kernel Gzx.Gen.K16.matrixGet in
when_kernel Gzx.Gen.K16b.matrixFlip in
when_kernel Gzx.Gen.K16b.matrixSetRegion in
theorem wordOps_setRegion_def (m : SqM) (l t w h : Int) :
    wordOps.setRegion m l t w h =
      match Gen.K16b.matrixSetRegion m.1.width m.1.height m.1.rowSize (words m.1.words) l t w h with
      | .ok (e, ws) => (match reSq { m.1 with words := unwords ws } with | .ok m' => .ok (m', e) | .error f => .error f)
      | .error e => .error e := rfl

when_kernel Gzx.Gen.K16.matrixGet in
when_kernel Gzx.Gen.K16b.matrixFlip in
when_kernel Gzx.Gen.K16b.matrixSetRegion in
theorem wordOps_newSquare_def (d : Int) :
    wordOps.newSquare d =
      match WMat.new d.toNat d.toNat with
      | .ok m' => if d < 1 then .error (.panic "unreachable") else
          (match reSq m' with | .ok s => .ok (s, false) | .error f => .error f)
      | .error _ => .ok (unitM, true) := rfl

when_kernel Gzx.Gen.K16.matrixGet in
when_kernel Gzx.Gen.K16b.matrixFlip in
when_kernel Gzx.Gen.K16b.matrixSetRegion in
theorem wordSetRegionLaw : SetRegionLaw wordOps absW := by
  intro m l t w h _ _
  have hsq := m.2.2
  have hdim : (absW m).dim = m.1.height := rfl
  constructor
  · intro hbad
    unfold regionBad at hbad
    have hgen : Gen.K16b.matrixSetRegion m.1.width m.1.height m.1.rowSize (words m.1.words) l t w h = .ok (true, words m.1.words) := by
      simp only [Gen.K16b.matrixSetRegion, Bool.or_eq_true, decide_eq_true_eq]
      split
      · rfl
      split
      · rfl
      exact if_pos (by omega)
    rw [wordOps_setRegion_def, hgen]
    simp only [reSq_self]
  · intro hok
    unfold regionBad at hok
    obtain ⟨ln, rfl⟩ := Int.eq_ofNat_of_zero_le (by omega : 0 ≤ l)
    obtain ⟨tn, rfl⟩ := Int.eq_ofNat_of_zero_le (by omega : 0 ≤ t)
    obtain ⟨wn, rfl⟩ := Int.eq_ofNat_of_zero_le (by omega : 0 ≤ w)
    obtain ⟨hn, rfl⟩ := Int.eq_ofNat_of_zero_le (by omega : 0 ≤ h)
    have href := WMat.setRegion_refines m.1 ln tn wn hn m.2.1
    rw [SMat.setRegion_eq _ (absM_WF m.1) ln tn wn hn
      (by show ¬ _ ∧ ¬ (_ > m.1.height ∨ _ > m.1.width); omega)] at href
    obtain ⟨m', hs, hinv, habs⟩ := href
    obtain ⟨sw, sh, sr⟩ := setRegion_shape hs
    refine ⟨⟨m', hinv, by omega⟩, ?_, sh, congrArg Nat.cast sw, congrArg Nat.cast sh, ?_⟩
    · rw [wordOps_setRegion_def, Obligations.K16b.k_matrixSetRegion_eq, hs]
      simp only [expEW, reSq_words ⟨sw, sh, sr⟩ ⟨hinv, by omega⟩]
    · intro a b ha hb
      show (absM m').get a b = _
      rw [habs, SMat.get_ofFn _ _ _ _ _ (by show a < m.1.width; omega) (by exact hb), ← Bool.and_assoc]
      exact congrArg _ (region_has_of_ok hok a b)

when_kernel Gzx.Gen.K16.matrixGet in
when_kernel Gzx.Gen.K16b.matrixFlip in
when_kernel Gzx.Gen.K16b.matrixSetRegion in
theorem wordNewSquareLaw : NewSquareLaw wordOps absW := by
  intro d
  constructor
  · intro h
    refine ⟨unitM, ?_⟩
    rw [wordOps_newSquare_def, show WMat.new d.toNat d.toNat = .error .illegalArg from if_pos (by omega)]
  · intro h
    obtain ⟨m0, hn, hinv, hw, hh, hbits⟩ := WMat.newMat_props d.toNat d.toNat (by omega) (by omega)
    have hd : ((d.toNat : Nat) : Int) = d := Int.toNat_of_nonneg (by omega)
    have hsq : m0.width = m0.height := hw.trans hh.symm
    refine ⟨⟨m0, hinv, hsq⟩, ?_, hh, (congrArg Nat.cast hw).trans hd, (congrArg Nat.cast hh).trans hd, ?_⟩
    · rw [wordOps_newSquare_def, hn]
      simp only [if_neg (Int.not_lt.mpr h), reSq_ok m0 ⟨hinv, hsq⟩]
    · intro a b ha hb
      show (absM m0).get a b = false
      rw [absM_get m0 a b (hw ▸ ha) (hh ▸ hb)]
      exact hbits a b

when_kernel Gzx.Gen.K16.matrixGet in
when_kernel Gzx.Gen.K16b.matrixFlip in
when_kernel Gzx.Gen.K16b.matrixSetRegion in
when_kernel Gzx.Gen.K01d.buildFunctionPattern in
/-- `Version.buildFunctionPattern()` on the word-level `BitMatrix` (regenerated `SetRegion` over `[]uint32`): for every version of
    the regenerated table, no error, and the matrix is the model's function pattern -/
theorem k_buildFunctionPattern_word (v : VersionInfo) (hv : v ∈ QRTables.versions) :
    ∃ (m' : SqM) (F : Matrix), Gen.K01d.buildFunctionPattern wordOps (v.num : Int) (v.centers.map Int.ofNat) = .ok (m', false) ∧
      QRDec.buildFunctionPattern v = .ok F ∧ m'.1.height = F.dim ∧
      ∀ a b, a < F.dim → b < F.dim → (absW m').bit a b = F.bit a b := by
  obtain ⟨m', F, h1, h2, h3, _, _, h6⟩ := k_buildFunctionPattern_lawful wordOps absW wordSetRegionLaw wordNewSquareLaw v hv
  exact ⟨m', F, h1, h2, h3, h6⟩

end Gzx.Obligations.K01e
