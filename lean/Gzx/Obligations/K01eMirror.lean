/-
  K01e (qrcode/decoder/bit_matrix_parser.go) — `BitMatrixParser.Mirror()`, regenerated on every run into `Gzx.Gen.K01d` (two
  nested `for` loops of Get / Flip calls on the abstract matrix), proved to compute the model's `mirrorMatrix` (transposition) for
  EVERY square matrix whose `Get` reads and whose `Flip` flips the model matrix (`GetLaw`, `FlipLaw`), for every fuel above the
  dimension.  `Obligations/K01eWord.lean` instantiates both laws with the tied word-level `BitMatrix`.
-/
import Gzx.Obligations.K01eParser
namespace Gzx.Obligations.K01e
open Gzx Gzx.GoM Gzx.GoVal Gzx.QRDec Gzx.Obligations.K01d

/-- `ops.flip` inside the matrix succeeds, flips exactly that module of the model matrix and keeps the size -/
def FlipLaw {M : Type} (ops : MatOps M) (abs : M → Matrix) : Prop :=
  ∀ (m : M) (x y : Nat), x < (abs m).dim → y < (abs m).dim →
    ∃ m', ops.flip m (x : Int) (y : Int) = .ok m' ∧ (abs m').dim = (abs m).dim ∧
      ops.width m' = ops.width m ∧ ops.height m' = ops.height m ∧
      ∀ a b, a < (abs m).dim → b < (abs m).dim →
        (abs m').bit a b = (if a = x ∧ b = y then !(abs m).bit a b else (abs m).bit a b)

/-- one step of the inner loop on the bit functions: the modules `(x, y)` and `(y, x)` are exchanged -/
theorem inner_bits (f f0 g : Nat → Nat → Bool) (d x y : Nat) (hx : x < y) (hy : y < d)
    (hI : ∀ a b, a < d → b < d →
      f a b = if (a = x ∧ x < b ∧ b < y) ∨ (b = x ∧ x < a ∧ a < y) then f0 b a else f0 a b)
    (hg : ∀ a b, a < d → b < d → g a b = if a = x ∧ b = y then f y x else if a = y ∧ b = x then f x y else f a b) :
    ∀ a b, a < d → b < d →
      g a b = if (a = x ∧ x < b ∧ b < y + 1) ∨ (b = x ∧ x < a ∧ a < y + 1) then f0 b a else f0 a b := by
  intro a b ha hb
  rw [hg a b ha hb]
  split
  next h =>
    obtain ⟨rfl, rfl⟩ := h
    rw [hI b a hb ha, if_neg (by omega), if_pos (by omega)]
  next h1 =>
    split
    next h =>
      obtain ⟨rfl, rfl⟩ := h
      rw [hI b a hb ha, if_neg (by omega), if_pos (by omega)]
    next h2 =>
      rw [hI a b ha hb]
      exact ite_congr (propext (by omega)) (fun _ => rfl) (fun _ => rfl)

section
variable {M : Type} (ops : MatOps M) (abs : M → Matrix) (law : GetLaw ops abs) (flaw : FlipLaw ops abs)
include law flaw

omit flaw in
theorem get_v (m : M) (x y : Nat) : ops.get m (x : Int) (y : Int) = getV (abs m) x y := by
  have := law m x y
  rw [get_eq] at this
  injection this with h
  exact h.symm

/-- invariant of the inner loop (column `x`, rows `x+1 .. y-1` done) -/
def InnerInv (d x : Nat) (m0 : M) (k : Nat) (st : M × Int) : Prop :=
  st.2 = ((x + 1 + k : Nat) : Int) ∧ (abs st.1).dim = d ∧ ops.width st.1 = (d : Int) ∧ ops.height st.1 = (d : Int) ∧
    ∀ a b, a < d → b < d →
      (abs st.1).bit a b =
        (if (a = x ∧ x < b ∧ b < x + 1 + k) ∨ (b = x ∧ x < a ∧ a < x + 1 + k) then (abs m0).bit b a else (abs m0).bit a b)

/-- invariant of the outer loop (columns `0 .. x-1` done) -/
def OuterInv (d : Nat) (m0 : M) (x : Nat) (st : M × Int) : Prop :=
  st.2 = (x : Int) ∧ (abs st.1).dim = d ∧ ops.width st.1 = (d : Int) ∧ ops.height st.1 = (d : Int) ∧
    ∀ a b, a < d → b < d →
      (abs st.1).bit a b = (if a < x ∨ b < x then (abs m0).bit b a else (abs m0).bit a b)

when_kernel Gzx.Gen.K01d.mirror in
theorem k_mirror_inner_step (d x : Nat) (m0 : M) (k : Nat) (st : M × Int) (hk : x + 1 + k < d)
    (hI : InnerInv ops abs d x m0 k st) :
    ∃ st', Gen.K01d.mirror_body2 ops (x : Int) st = .next st' ∧ InnerInv ops abs d x m0 (k + 1) st' := by
  obtain ⟨m, yy⟩ := st
  obtain ⟨hy, hdim, hw, hh, hbits⟩ := hI
  simp only at hy hdim hw hh hbits
  subst hy
  have hlt : ((x + 1 + k : Nat) : Int) < (d : Int) := by omega
  have gx : ops.get m (x : Int) ((x + 1 + k : Nat) : Int) = (abs m).bit x (x + 1 + k) := by
    rw [get_v ops abs law]; unfold getV; rw [hdim, if_pos ⟨by omega, hk⟩]
  have gy : ops.get m ((x + 1 + k : Nat) : Int) (x : Int) = (abs m).bit (x + 1 + k) x := by
    rw [get_v ops abs law]; unfold getV; rw [hdim, if_pos ⟨hk, by omega⟩]
  have e1 : ((x + 1 + k : Nat) : Int) + 1 = ((x + 1 + (k + 1) : Nat) : Int) := by omega
  simp only [Gen.K01d.mirror_body2, hh, hlt, decide_true, if_true, gx, gy]
  by_cases hne : (abs m).bit x (x + 1 + k) = (abs m).bit (x + 1 + k) x
  · have hb : ((abs m).bit x (x + 1 + k) != (abs m).bit (x + 1 + k) x) = false := bne_eq_false_iff_eq.mpr hne
    simp only [hb, Bool.false_eq_true, if_false, next_thenC, e1]
    refine ⟨_, rfl, rfl, hdim, hw, hh, ?_⟩
    apply inner_bits (abs m).bit (abs m0).bit (abs m).bit d x (x + 1 + k) (by omega) hk hbits
    intro a b ha hb
    by_cases h1 : a = x ∧ b = x + 1 + k
    · obtain ⟨rfl, rfl⟩ := h1; rw [if_pos ⟨rfl, rfl⟩]; exact hne
    · rw [if_neg h1]
      by_cases h2 : a = x + 1 + k ∧ b = x
      · obtain ⟨rfl, rfl⟩ := h2; rw [if_pos ⟨rfl, rfl⟩]; exact hne.symm
      · rw [if_neg h2]
  · have hb : ((abs m).bit x (x + 1 + k) != (abs m).bit (x + 1 + k) x) = true := bne_iff_ne.mpr hne
    have hxd : x < d := by omega
    obtain ⟨m1, hf1, hd1, hw1, hh1, hb1⟩ := flaw m (x + 1 + k) x (hdim ▸ hk) (hdim ▸ hxd)
    rw [hdim] at hd1 hb1
    obtain ⟨m2, hf2, hd2, hw2, hh2, hb2⟩ := flaw m1 x (x + 1 + k) (hd1 ▸ hxd) (hd1 ▸ hk)
    rw [hd1] at hd2 hb2
    simp only [hb, if_true, hf1, hf2, tryC_ok, next_thenC, e1]
    refine ⟨_, rfl, rfl, hd2, hw2.trans (hw1.trans hw), hh2.trans (hh1.trans hh), ?_⟩
    apply inner_bits (abs m).bit (abs m0).bit (abs m2).bit d x (x + 1 + k) (by omega) hk hbits
    intro a b ha hb'
    rw [hb2 a b ha hb', hb1 a b ha hb']
    have hxy : (!(abs m).bit x (x + 1 + k)) = (abs m).bit (x + 1 + k) x := Bool.not_eq.mpr hne
    have hyx : (!(abs m).bit (x + 1 + k) x) = (abs m).bit x (x + 1 + k) := Bool.not_eq.mpr (Ne.symm hne)
    by_cases h1 : a = x ∧ b = x + 1 + k
    · obtain ⟨rfl, rfl⟩ := h1
      have c : ¬ (a = a + 1 + k ∧ a + 1 + k = a) := by omega
      rw [if_pos ⟨rfl, rfl⟩, if_neg c, if_pos ⟨rfl, rfl⟩]; exact hxy
    · rw [if_neg h1, if_neg h1]
      by_cases h2 : a = x + 1 + k ∧ b = x
      · obtain ⟨rfl, rfl⟩ := h2; rw [if_pos ⟨rfl, rfl⟩, if_pos ⟨rfl, rfl⟩]; exact hyx
      · rw [if_neg h2, if_neg h2]

omit law flaw in
when_kernel Gzx.Gen.K01d.mirror in
theorem k_mirror_inner_end (d x : Nat) (m0 : M) (k : Nat) (st : M × Int) (hk : x + 1 + k = d)
    (hI : InnerInv ops abs d x m0 k st) : Gen.K01d.mirror_body2 ops (x : Int) st = .brk st := by
  obtain ⟨m, yy⟩ := st
  obtain ⟨hy, hdim, hw, hh, hbits⟩ := hI
  simp only at hy hh
  subst hy
  have hlt : ¬ (((x + 1 + k : Nat) : Int) < (d : Int)) := by omega
  simp only [Gen.K01d.mirror_body2, hh, hlt, decide_false, Bool.false_eq_true, if_false]

when_kernel Gzx.Gen.K01d.mirror in
theorem k_mirror_outer_step (d : Nat) (m0 : M) (fuel : Nat) (hf : d < fuel) (x : Nat) (st : M × Int) (hx : x < d)
    (hI : OuterInv ops abs d m0 x st) :
    ∃ st', Gen.K01d.mirror_body1 ops fuel st = .next st' ∧ OuterInv ops abs d m0 (x + 1) st' := by
  obtain ⟨mx, xx⟩ := st
  obtain ⟨hxx, hdim, hw, hh, hbits⟩ := hI
  simp only at hxx hdim hw hh hbits
  subst hxx
  obtain ⟨n, hn⟩ : ∃ n, x + 1 + n = d := ⟨d - (x + 1), by omega⟩
  have hlt : (x : Int) < (d : Int) := by omega
  have e1 : (x : Int) + 1 = ((x + 1 + 0 : Nat) : Int) := by omega
  have hI0 : InnerInv ops abs d x mx 0 (mx, ((x + 1 + 0 : Nat) : Int)) :=
    ⟨rfl, hdim, hw, hh, fun a b _ _ => by rw [if_neg (by omega)]⟩
  obtain ⟨st', hloop, hI'⟩ := whileLoop_inv (ρ := M) (Gen.K01d.mirror_body2 ops (x : Int)) (InnerInv ops abs d x mx) n
    (fun k st hk hI => k_mirror_inner_step ops abs law flaw d x mx k st (by omega) hI)
    (fun st hI => k_mirror_inner_end ops abs d x mx n st hn hI)
    n 0 _ fuel (by omega) (by omega) hI0
  obtain ⟨m', yy⟩ := st'
  obtain ⟨_, hdim', hw', hh', hbits'⟩ := hI'
  simp only [hn] at hdim' hw' hh' hbits'
  simp only [Gen.K01d.mirror_body1, hw, hlt, decide_true, if_true, e1, hloop, brk_thenC]
  refine ⟨_, rfl, (by show _ = ((x + 1 : Nat) : Int); omega), hdim', hw', hh', ?_⟩
  clear hloop hI0 hlt e1 hf hn hdim hw hh hdim' hw' hh'
  intro a b ha hb
  show (abs m').bit a b = _
  rw [hbits' a b ha hb]
  by_cases hab : a = b
  · -- a diagonal module is its own transpose
    subst hab
    rw [ite_self, hbits a a ha ha, ite_self, ite_self]
  · by_cases c3 : a < x ∨ b < x
    · rw [if_neg (by omega), hbits a b ha hb, if_pos c3, if_pos (by omega)]
    · by_cases c5 : a < x + 1 ∨ b < x + 1
      · rw [if_pos (by omega), hbits b a hb ha, if_neg (by omega), if_pos c5]
      · rw [if_neg (by omega), hbits a b ha hb, if_neg c3, if_neg c5]

omit law flaw in
when_kernel Gzx.Gen.K01d.mirror in
theorem k_mirror_outer_end (d : Nat) (m0 : M) (fuel : Nat) (st : M × Int)
    (hI : OuterInv ops abs d m0 d st) : Gen.K01d.mirror_body1 ops fuel st = .brk st := by
  obtain ⟨m, xx⟩ := st
  obtain ⟨hxx, hdim, hw, hh, hbits⟩ := hI
  simp only at hxx hw
  subst hxx
  have hlt : ¬ ((d : Int) < (d : Int)) := by omega
  simp only [Gen.K01d.mirror_body1, hw, hlt, decide_false, Bool.false_eq_true, if_false]

when_kernel Gzx.Gen.K01d.mirror in
/-- `Mirror()` = the model's `mirrorMatrix` (transposition) for EVERY square matrix with lawful `Get` / `Flip`, every fuel above
    the dimension: no panic, the size is kept, module `(a, b)` afterwards is module `(b, a)` before -/
theorem k_mirror_eq (m : M) (d : Nat) (hd : (abs m).dim = d) (hw : ops.width m = (d : Int)) (hh : ops.height m = (d : Int))
    (fuel : Nat) (hf : d < fuel) :
    ∃ m', Gen.K01d.mirror ops fuel m = .ok m' ∧ (abs m').dim = d ∧ ops.width m' = (d : Int) ∧ ops.height m' = (d : Int) ∧
      ∀ a b, a < d → b < d → (abs m').bit a b = (mirrorMatrix (abs m)).bit a b := by
  have hI0 : OuterInv ops abs d m 0 (m, ((0 : Nat) : Int)) :=
    ⟨rfl, hd, hw, hh, fun a b _ _ => by
      have c : ¬ (a < 0 ∨ b < 0) := by omega
      rw [if_neg c]⟩
  obtain ⟨st', hloop, hI'⟩ := whileLoop_inv (ρ := M) (Gen.K01d.mirror_body1 ops fuel) (OuterInv ops abs d m) d
    (fun x st hx hI => k_mirror_outer_step ops abs law flaw d m fuel hf x st hx hI)
    (fun st hI => k_mirror_outer_end ops abs d m fuel st hI)
    d 0 _ fuel (by omega) hf hI0
  obtain ⟨m', xx⟩ := st'
  obtain ⟨_, hdim', hw', hh', hbits'⟩ := hI'
  simp only at hdim' hw' hh' hbits'
  have hloop' : whileLoop (Gen.K01d.mirror_body1 ops fuel) fuel (m, (0 : Int)) = .brk (m', xx) := hloop
  refine ⟨m', by simp only [Gen.K01d.mirror, hloop', brk_thenR], hdim', hw', hh', ?_⟩
  intro a b ha hb
  rw [hbits' a b ha hb, if_pos (Or.inl ha)]
  rfl

end

/-- non-vacuity: the laws hold for the function model of a matrix itself -/
example : ∃ (ops : MatOps Matrix) (abs : Matrix → Matrix), GetLaw ops abs ∧ FlipLaw ops abs :=
  ⟨⟨⟨0, fun _ _ => false⟩, fun m => m.dim, fun m => m.dim, fun m x y => getV m x.toNat y.toNat,
     fun m x y => .ok ⟨m.dim, fun a b => if a = x.toNat ∧ b = y.toNat then !m.bit a b else m.bit a b⟩,
     fun m _ _ _ _ => .ok (m, false), fun _ => .ok (⟨0, fun _ _ => false⟩, true)⟩, id,
   fun m x y => by simp [get_eq],
   fun m x y _ _ => ⟨_, rfl, rfl, rfl, rfl, fun a b _ _ => by simp⟩⟩

end Gzx.Obligations.K01e
