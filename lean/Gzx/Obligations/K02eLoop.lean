/-
  K02e — the MODE LOOP of `DecodedBitStreamParser_decode` and `latin1ToUTF8`
  (datamatrix/decoder/decoded_bit_stream_parser.go), regenerated from /repo on every run (`Gzx.Gen.K02e.decode`,
  `Gzx.Gen.K02e.latin1ToUTF8`), proved equal to the model `DMHighLevel.decLoop` / `decodeFull`:

    * `k_latin1ToUTF8_eq`: `latin1ToUTF8(b, from)` re-encodes `b[from:]` as UTF-8 and keeps `b[:from]`;
    * `k_decode_eq`: for EVERY codeword list, `DecodedBitStreamParser_decode` yields the UTF-8 of the model's text
      followed by the macro trailer and the model's symbology modifier; FormatException in exactly the model's cases.
-/
import Gzx.Obligations.K02eEdifact
namespace Gzx.Obligations.K02e
open Gzx Gzx.GoM Gzx.GoVal Gzx.DMHighLevel

/-! ## latin1ToUTF8 -/

theorem latin1Utf8_append (xs ys : List Int) : latin1Utf8 (xs ++ ys) = latin1Utf8 xs ++ latin1Utf8 ys := by
  simp [latin1Utf8]

theorem latin1Utf8_small (xs : List Int) (h : ∀ x ∈ xs, x < 128) : latin1Utf8 xs = xs := by
  induction xs with
  | nil => rfl
  | cons x xs ih =>
    have hx : x < 128 := h x (by simp)
    simp only [latin1Utf8, List.flatMap_cons, utf8Byte, hx, if_true] at ih ⊢
    rw [ih (fun y hy => h y (by simp [hy]))]
    rfl

theorem slice_suffix (xs ys : List Int) : GoM.slice (xs ++ ys) (xs.length : Int) (len (xs ++ ys)) = .ok ys := by
  unfold GoM.slice len
  rw [if_pos (by simp; omega)]
  have e1 : (((xs ++ ys).length : Nat) : Int).toNat = (xs ++ ys).length := Int.toNat_natCast _
  have e2 : ((xs.length : Nat) : Int).toNat = xs.length := Int.toNat_natCast _
  rw [e1, e2, List.take_length]
  simp

theorem slice_prefix (xs ys : List Int) : GoM.slice (xs ++ ys) 0 (xs.length : Int) = .ok xs := by
  unfold GoM.slice
  rw [if_pos (by simp; omega)]
  have e2 : ((xs.length : Nat) : Int).toNat = xs.length := Int.toNat_natCast _
  rw [e2]
  simp

when_kernel Gzx.Gen.K02e.latin1ToUTF8 in
theorem l1_tail_loop (tail : List Int) : ∀ (n a : Nat) (b : List Int), a + n ≤ tail.length →
    GoM.loop (Gen.K02e.latin1ToUTF8_body2 tail) 1 n (a : Int) b
      = (.next (b ++ latin1Utf8 ((tail.drop a).take n)) : Ctl (List Int) (List Int × List Int)) := by
  intro n
  induction n with
  | zero => intro a b _; simp [GoM.loop, latin1Utf8]
  | succ n ih =>
    intro a b h
    have ha : a < tail.length := by omega
    rw [loop_succ]
    have hstep : Gen.K02e.latin1ToUTF8_body2 tail (a : Int) b = .next (b ++ utf8Byte tail[a]) := by
      unfold Gen.K02e.latin1ToUTF8_body2
      rw [idx_ofNat tail a ha]
      rfl
    rw [hstep]
    have e : (a : Int) + 1 = ((a + 1 : Nat) : Int) := by omega
    simp only [e]
    rw [ih (a + 1) _ (by omega), List.drop_eq_getElem_cons ha]
    simp only [latin1Utf8, List.take_succ_cons, List.flatMap_cons, List.append_assoc]

when_kernel Gzx.Gen.K02e.latin1ToUTF8 in
theorem l1_scan (pre : List Int) : ∀ (seg sm : List Int) (f : Nat), seg.length < f → (∀ x ∈ sm, x < 128) →
    ∃ j, whileLoop Gen.K02e.latin1ToUTF8_body1 f (pre ++ sm ++ seg, ((pre ++ sm).length : Int))
      = (.brk (pre ++ sm ++ latin1Utf8 seg, j) : Ctl (List Int × Int) (List Int × List Int)) := by
  intro seg
  induction seg with
  | nil =>
    intro sm f hf hsm
    obtain ⟨f, rfl⟩ : ∃ k, f = k + 1 := ⟨f - 1, by omega⟩
    refine ⟨((pre ++ sm).length : Int), ?_⟩
    rw [whileLoop_succ]
    unfold Gen.K02e.latin1ToUTF8_body1
    have c : decide (((pre ++ sm).length : Int) < len (pre ++ sm ++ [])) = false := by simp [len]
    simp only [c, Bool.false_eq_true, if_false, latin1Utf8, List.flatMap_nil]
  | cons x seg ih =>
    intro sm f hf hsm
    obtain ⟨f, rfl⟩ : ∃ k, f = k + 1 := ⟨f - 1, by omega⟩
    rw [whileLoop_succ]
    have hi : idx (pre ++ sm ++ x :: seg) ((pre ++ sm).length : Int) = .ok x := by
      rw [idx_ofNat _ _ (by simp)]
      simp
    by_cases hx : x ≥ 128
    · refine ⟨((pre ++ sm).length : Int), ?_⟩
      unfold Gen.K02e.latin1ToUTF8_body1
      have c : decide (((pre ++ sm).length : Int) < len (pre ++ sm ++ x :: seg)) = true := by simp [len]; omega
      have c2 : decide (x ≥ 128) = true := by simpa using hx
      simp only [c, if_true, hi, tryC_ok, c2]
      have hs1 := slice_suffix (pre ++ sm) (x :: seg)
      have hs2 := slice_prefix (pre ++ sm) (x :: seg)
      rw [hs1, hs2]
      simp only [tryC_ok, List.nil_append, tripUp_one, len]
      have hn : (((x :: seg).length : Nat) : Int) - 0 = (((x :: seg).length : Nat) : Int) := by omega
      rw [hn, Int.toNat_natCast]
      have := l1_tail_loop (x :: seg) (x :: seg).length 0 (pre ++ sm) (by simp)
      rw [show ((0 : Nat) : Int) = 0 from rfl] at this
      rw [this]
      simp
    · have hx' : x < 128 := by omega
      have hstep : Gen.K02e.latin1ToUTF8_body1 (pre ++ sm ++ x :: seg, ((pre ++ sm).length : Int))
          = .next (pre ++ (sm ++ [x]) ++ seg, ((pre ++ (sm ++ [x])).length : Int)) := by
        unfold Gen.K02e.latin1ToUTF8_body1
        have c : decide (((pre ++ sm).length : Int) < len (pre ++ sm ++ x :: seg)) = true := by simp [len]; omega
        have c2 : decide (x ≥ 128) = false := by simpa using hx'
        simp only [c, if_true, hi, tryC_ok, c2, Bool.false_eq_true, if_false]
        simp
        omega
      rw [hstep]
      simp only []
      obtain ⟨j, hj⟩ := ih (sm ++ [x]) f (by simp at hf; omega) (by
        intro y hy
        rcases List.mem_append.mp hy with h | h
        · exact hsm y h
        · simp at h; omega)
      refine ⟨j, ?_⟩
      rw [hj]
      simp [latin1Utf8, utf8Byte, hx']

when_kernel Gzx.Gen.K02e.latin1ToUTF8 in
/-- `latin1ToUTF8(b, from)` with `from = len(pre)`: the bytes before `from` are kept, the ISO-8859-1 bytes from there on
    are re-encoded as UTF-8 -/
theorem k_latin1ToUTF8_eq (pre seg : List Int) (fuel : Nat) (hf : seg.length < fuel) :
    Gen.K02e.latin1ToUTF8 fuel (pre ++ seg) (pre.length : Int) = .ok (pre ++ latin1Utf8 seg, pre ++ latin1Utf8 seg) := by
  unfold Gen.K02e.latin1ToUTF8
  simp only []
  obtain ⟨j, hj⟩ := l1_scan pre seg [] fuel hf (by simp)
  simp only [List.append_nil] at hj
  rw [hj]
  rfl

/-! ## the Go state against the model's accumulator -/

/-- number of extended characters (two UTF-8 bytes each) -/
def cnt128 (d : List Nat) : Nat := (d.filter (fun c => decide (c ≥ 128))).length

theorem cnt128_append (xs ys : List Nat) : cnt128 (xs ++ ys) = cnt128 xs + cnt128 ys := by simp [cnt128]

theorem latin1Utf8_length (d : List Nat) : (latin1Utf8 (bytesI d)).length = d.length + cnt128 d := by
  induction d with
  | nil => rfl
  | cons c d ih =>
    have hc : cnt128 (c :: d) = (if c ≥ 128 then 1 else 0) + cnt128 d := by
      unfold cnt128; by_cases h : c ≥ 128 <;> simp [h] <;> omega
    simp only [bytesI, List.map_cons, latin1Utf8, List.flatMap_cons, List.length_append] at ih ⊢
    rw [ih, hc]
    by_cases h : c ≥ 128
    · have : ¬ ((c : Int) < 128) := by omega
      simp [utf8Byte, this, h]; omega
    · have : ((c : Int) < 128) := by omega
      simp [utf8Byte, this, h]; omega

theorem latin1Utf8_small_nat (d : List Nat) (h : cnt128 d = 0) : latin1Utf8 (bytesI d) = bytesI d := by
  apply latin1Utf8_small
  intro x hx
  simp only [bytesI, List.mem_map] at hx
  obtain ⟨c, hc, rfl⟩ := hx
  have : ¬ c ≥ 128 := by
    intro hge
    have : c ∈ d.filter (fun c => decide (c ≥ 128)) := by simp [hc, hge]
    unfold cnt128 at h
    have := List.length_pos_of_mem this
    omega
  show ((c : Nat) : Int) < 128
  omega

/-- the Go state `(result, resultTrailer, fnc1Positions, isECIencoded)` at a segment boundary against the model's
    accumulator: `result` is the UTF-8 form of the characters pushed so far, no Latin-1 byte is pending -/
structure Rel (res tr fn : List Int) (eci : Bool) (a : Acc) : Prop where
  hres : res = latin1Utf8 (bytesI a.rev.reverse)
  hulen : a.ulen = res.length
  hpend : a.pend = 0
  htr : tr = bytesI a.trailer
  hfn : fn = bytesI a.fnc1
  heci : eci = a.eci

/-- the Go state inside a (non Base 256) segment that started in `(res0, a0)` and has appended the characters `d` -/
structure SegRel (res0 : List Int) (a0 : Acc) (d : List Nat) (res tr fn : List Int) (a : Acc) : Prop where
  hres : res = res0 ++ bytesI d
  hrev : a.rev = d.reverse ++ a0.rev
  hpend : a.pend = cnt128 d
  hulen : a.ulen = res.length
  htr : tr = bytesI a.trailer
  hfn : fn = bytesI a.fnc1
  heci : a.eci = a0.eci

theorem Rel.seg {res tr fn : List Int} {eci : Bool} {a : Acc} (h : Rel res tr fn eci a) : SegRel res a [] res tr fn a :=
  ⟨by simp [bytesI], by simp, by simp [h.hpend, cnt128], h.hulen, h.htr, h.hfn, rfl⟩

theorem SegRel.push {res0 : List Int} {a0 : Acc} {d : List Nat} {res tr fn : List Int} {a : Acc}
    (h : SegRel res0 a0 d res tr fn a) (c : Nat) : SegRel res0 a0 (d ++ [c]) (res ++ [(c : Int)]) tr fn (a.push c) := by
  refine ⟨?_, ?_, ?_, ?_, h.htr, h.hfn, h.heci⟩
  · simp [h.hres, bytesI]
  · simp [Acc.push, h.hrev]
  · simp only [Acc.push, h.hpend, cnt128_append]
    congr 1
    unfold cnt128; by_cases hc : c ≥ 128 <;> simp [hc]
  · simp [Acc.push, h.hulen]

theorem SegRel.pushAll {res0 : List Int} {a0 : Acc} : ∀ (cs : List Nat) {d : List Nat} {res tr fn : List Int} {a : Acc},
    SegRel res0 a0 d res tr fn a → SegRel res0 a0 (d ++ cs) (res ++ bytesI cs) tr fn (a.pushAll cs)
  | [], d, res, tr, fn, a, h => by simpa [bytesI, Acc.pushAll] using h
  | c :: cs, d, res, tr, fn, a, h => by
    have := SegRel.pushAll cs (h.push c)
    simpa [bytesI, Acc.pushAll, List.append_assoc] using this

theorem SegRel.fnc {res0 : List Int} {a0 : Acc} {d : List Nat} {res tr fn : List Int} {a : Acc}
    (h : SegRel res0 a0 d res tr fn a) : SegRel res0 a0 (d ++ [29]) (res ++ [29]) tr (fn ++ [(res.length : Int)]) a.fnc := by
  have hp := (show SegRel res0 a0 d res tr (fn ++ [(res.length : Int)]) { a with fnc1 := a.fnc1 ++ [a.ulen] } from
    ⟨h.hres, h.hrev, h.hpend, h.hulen, h.htr, by simp [h.hfn, bytesI, h.hulen], h.heci⟩).push 29
  simpa [Acc.fnc] using hp

def emitChars : Emit → List Nat
  | .none => []
  | .char c => [c]
  | .fnc1 => [29]

theorem SegRel.emit {res0 : List Int} {a0 : Acc} {d : List Nat} {res tr fn : List Int} {a : Acc}
    (h : SegRel res0 a0 d res tr fn a) (e : Emit) :
    SegRel res0 a0 (d ++ emitChars e) (emitK (res, fn) e).1 tr (emitK (res, fn) e).2 (a.emit e) := by
  cases e with
  | none => simpa [emitChars, emitK, Acc.emit] using h
  | char c => exact h.push c
  | fnc1 => exact h.fnc

theorem SegRel.emits {res0 : List Int} {a0 : Acc} {tr : List Int} : ∀ (es : List Emit) {d : List Nat} {res fn : List Int} {a : Acc},
    SegRel res0 a0 d res tr fn a →
    SegRel res0 a0 (d ++ es.flatMap emitChars) (emitsK (res, fn) es).1 tr (emitsK (res, fn) es).2 (Acc.emits a es)
  | [], d, res, fn, a, h => by simpa [emitsK, Acc.emits] using h
  | e :: es, d, res, fn, a, h => by
    have h2 := SegRel.emits es (h.emit e)
    simpa [emitsK, Acc.emits, List.append_assoc] using h2

/-- the end of a segment: `latin1ToUTF8` on the Go side, `endSeg` on the model's -/
theorem SegRel.endSeg {res0 : List Int} {a0 : Acc} {d : List Nat} {res tr fn : List Int} {a : Acc} {tr0 fn0 : List Int} {eci : Bool}
    (h0 : Rel res0 tr0 fn0 eci a0) (h : SegRel res0 a0 d res tr fn a) :
    Rel (res0 ++ latin1Utf8 (bytesI d)) tr fn eci a.endSeg := by
  refine ⟨?_, ?_, rfl, h.htr, h.hfn, ?_⟩
  · simp only [Acc.endSeg, h.hrev, List.reverse_append, List.reverse_reverse, bytesI, List.map_append, latin1Utf8_append]
    rw [h0.hres]
  · simp only [Acc.endSeg, h.hulen, h.hpend, h.hres, List.length_append, latin1Utf8_length]
    simp [bytesI]; omega
  · simp [Acc.endSeg, h.heci, h0.heci]

theorem endSeg_of_pend0 (a : Acc) (h : a.pend = 0) : a.endSeg = a := by
  cases a; simp_all [Acc.endSeg]

/-- a segment of characters below 128 needs no conversion -/
theorem SegRel.toRel {res0 : List Int} {a0 : Acc} {d : List Nat} {res tr fn : List Int} {a : Acc} {tr0 fn0 : List Int} {eci : Bool}
    (h0 : Rel res0 tr0 fn0 eci a0) (h : SegRel res0 a0 d res tr fn a) (hs : cnt128 d = 0) : Rel res tr fn eci a := by
  have := h.endSeg h0
  rw [latin1Utf8_small_nat d hs, ← h.hres, endSeg_of_pend0 a (by rw [h.hpend, hs])] at this
  exact this

/-! ### the ASCII segment's events -/

def evChars : AEv → List Nat
  | .chars cs => cs
  | .fnc1 => [29]
  | .macroH n => macroHeader n

theorem SegRel.aev {res0 : List Int} {a0 : Acc} {d : List Nat} {res tr fn : List Int} {a : Acc}
    (h : SegRel res0 a0 d res tr fn a) (e : AEv) :
    SegRel res0 a0 (d ++ evChars e) (aevK (res, tr, fn) e).1 (aevK (res, tr, fn) e).2.1 (aevK (res, tr, fn) e).2.2 (Acc.aev a e) := by
  cases e with
  | chars cs => exact h.pushAll cs
  | fnc1 => exact h.fnc
  | macroH n =>
    have hp := h.pushAll (macroHeader n)
    refine ⟨hp.hres, ?_, ?_, ?_, ?_, ?_, ?_⟩
    · simpa [Acc.aev, evChars] using hp.hrev
    · simpa [Acc.aev, evChars] using hp.hpend
    · simpa [Acc.aev, aevK] using hp.hulen
    · have := hp.htr
      simp [Acc.aev, aevK, bytesI] at this ⊢
      exact this
    · simpa [Acc.aev, aevK] using hp.hfn
    · simpa [Acc.aev] using hp.heci

theorem SegRel.aevs {res0 : List Int} {a0 : Acc} : ∀ (es : List AEv) {d : List Nat} {res tr fn : List Int} {a : Acc},
    SegRel res0 a0 d res tr fn a →
    SegRel res0 a0 (d ++ es.flatMap evChars) (aevsK (res, tr, fn) es).1 (aevsK (res, tr, fn) es).2.1 (aevsK (res, tr, fn) es).2.2
      (Acc.aevs a es)
  | [], d, res, tr, fn, a, h => by simpa [aevsK, Acc.aevs] using h
  | e :: es, d, res, tr, fn, a, h => by
    have h2 := SegRel.aevs es (h.aev e)
    simpa [aevsK, Acc.aevs, List.append_assoc] using h2

/-! ### facts about `asciiOut` -/

theorem cnt128_digitPair (v : Nat) (hv : v < 100) : cnt128 (digitPair v) = 0 := by
  unfold digitPair itoa2 cnt128
  by_cases h : v < 10
  · simp [h]; omega
  · simp [h]; omega

theorem digitPair_length (v : Nat) : (digitPair v).length ≤ 2 := by
  unfold digitPair itoa2; by_cases h : v < 10 <;> simp [h]

/-- what the callers need to know about one codeword: a mode 0..7; at most seven characters; only a return in ASCII mode
    (after a shifted character) can leave an extended character behind -/
def AStep.Good : AStep → Prop
  | .bad => True
  | .stop m es => m ≤ 7 ∧ (es.flatMap evChars).length ≤ 7 ∧ (m ≠ 1 → cnt128 (es.flatMap evChars) = 0)
  | .cont e _ => ∀ e', e = some e' → (evChars e').length ≤ 7 ∧ cnt128 (evChars e') = 0

theorem AStep.good_ite {c : Prop} [Decidable c] {a b : AStep} (ha : c → a.Good) (hb : ¬ c → b.Good) :
    (if c then a else b).Good := by
  split
  · exact ha ‹_›
  · exact hb ‹_›

theorem asciiStep_good (b : Nat) (last up : Bool) : (asciiStep b last up).Good := by
  unfold asciiStep
  repeat' (apply AStep.good_ite <;> intro _)
  all_goals first
    | (simp [AStep.Good, evChars, cnt128, macroHeader]; done)
    | (intro e' he; cases he
       exact ⟨by have := digitPair_length (b - 130); simp only [evChars]; omega, cnt128_digitPair _ (by omega)⟩)

/-- what `asciiOut` answers: only FormatException as error; a mode 0..7; at least one byte consumed from a non-empty
    input; only a return in ASCII mode can leave an extended character behind; and how much it appends (the fuel of
    `latin1ToUTF8`'s scan) and consumes -/
theorem asciiOut_facts : ∀ (bs : List Nat) (up : Bool),
    match asciiOut bs up with
    | .error e => e = .format
    | .ok (m, es, k) => (m ≤ 7 ∧ (bs ≠ [] → 1 ≤ k) ∧ (m ≠ 1 → cnt128 (es.flatMap evChars) = 0)) ∧
        (es.flatMap evChars).length ≤ 7 * k ∧ k ≤ bs.length
  | [], up => by simp [asciiOut]
  | b :: rest, up => by
    rw [asciiOut_cons]
    have hs := asciiStep_good b rest.isEmpty up
    cases hstep : asciiStep b rest.isEmpty up with
    | bad => rfl
    | stop m es =>
      rw [hstep] at hs
      exact ⟨⟨hs.1, fun _ => Nat.le_refl 1, hs.2.2⟩, by simpa using hs.2.1, by simp⟩
    | cont e up' =>
      rw [hstep] at hs
      simp only [AStep.run]
      have ih := asciiOut_facts rest up'
      cases hr : asciiOut rest up' with
      | error f => rw [hr] at ih; simpa [aCons] using ih
      | ok p =>
        obtain ⟨m, es, k⟩ := p
        rw [hr] at ih
        obtain ⟨⟨h1, _, h3⟩, h4, h5⟩ := ih
        cases e with
        | none => exact ⟨⟨h1, fun _ => by omega, h3⟩, by simp only [List.length_cons]; omega⟩
        | some e' =>
          obtain ⟨l7, c0⟩ := hs e' rfl
          refine ⟨⟨h1, fun _ => by omega, fun hm => ?_⟩, ?_⟩
          · simp only [List.flatMap_cons, cnt128_append, c0, h3 hm]
          · simp only [List.flatMap_cons, List.length_append, List.length_cons]; omega

/-! ### how much a segment can append (the fuel of `latin1ToUTF8`'s scan) -/

theorem emitChars_length (e : Emit) : (emitChars e).length ≤ 1 := by cases e <;> simp [emitChars]

theorem cOut_len (T : Tables) (text : Bool) : ∀ (bs : List Nat) (st : CState),
    match cOut T text bs st with
    | .error _ => True
    | .ok (es, n) => (es.flatMap emitChars).length ≤ 2 * n ∧ n ≤ bs.length
  | [], st => by simp [cOut]
  | [_], st => by simp [cOut]
  | b1 :: b2 :: rest, st => by
    unfold cOut
    by_cases h : b1 = 254
    · simp [h]
    · simp only [h, if_false]
      cases cValueCore T text (parseTwoBytes b1 b2).1 st with
      | error e => trivial
      | ok p1 =>
        obtain ⟨st1, e1⟩ := p1
        simp only []
        cases cValueCore T text (parseTwoBytes b1 b2).2.1 st1 with
        | error e => trivial
        | ok p2 =>
          obtain ⟨st2, e2⟩ := p2
          simp only []
          cases cValueCore T text (parseTwoBytes b1 b2).2.2 st2 with
          | error e => trivial
          | ok p3 =>
            obtain ⟨st3, e3⟩ := p3
            simp only []
            have := cOut_len T text rest st3
            cases hr : cOut T text rest st3 with
            | error e => trivial
            | ok p =>
              obtain ⟨es, n⟩ := p
              rw [hr] at this
              have h1 := emitChars_length e1
              have h2 := emitChars_length e2
              have h3 := emitChars_length e3
              simp only [List.flatMap_cons, List.length_append, List.length_cons]
              omega

theorem x12Out_len : ∀ (bs : List Nat),
    match x12Out bs with
    | .error _ => True
    | .ok (d, n) => d.length ≤ 2 * n ∧ n ≤ bs.length
  | [] => by simp [x12Out]
  | [_] => by simp [x12Out]
  | b1 :: b2 :: rest => by
    unfold x12Out
    by_cases h : b1 = 254
    · simp [h]
    · simp only [h, if_false]
      cases x12Value (parseTwoBytes b1 b2).1 with
      | error e => trivial
      | ok x1 =>
        simp only []
        cases x12Value (parseTwoBytes b1 b2).2.1 with
        | error e => trivial
        | ok x2 =>
          simp only []
          cases x12Value (parseTwoBytes b1 b2).2.2 with
          | error e => trivial
          | ok x3 =>
            simp only []
            have := x12Out_len rest
            cases hr : x12Out rest with
            | error e => trivial
            | ok p =>
              obtain ⟨d, n⟩ := p
              rw [hr] at this
              simp only [List.length_cons]
              omega

theorem ediVals_len : ∀ (vs : List Nat) (i : Nat), (ediVals vs i).1.length ≤ vs.length ∧
    (∀ j, (ediVals vs i).2 = some j → (ediVals vs i).1.length + i = j)
  | [], i => by simp [ediVals]
  | v :: vs, i => by
    unfold ediVals
    by_cases h : v = 31
    · simp [h]
    · simp only [h, if_false, List.length_cons]
      have := ediVals_len vs (i + 1)
      refine ⟨by omega, fun j hj => ?_⟩
      have := this.2 j hj
      omega

theorem edifactOut_len : ∀ (bs : List Nat), (edifactOut bs).1.length ≤ 2 * (edifactOut bs).2 ∧ (edifactOut bs).2 ≤ bs.length
  | [] => by simp [edifactOut]
  | [_] => by simp [edifactOut]
  | [_, _] => by simp [edifactOut]
  | b1 :: b2 :: b3 :: rest => by
    rw [edifactOut]
    have hv := ediVals_len (edifactUnpack b1 b2 b3) 0
    have hl : (edifactUnpack b1 b2 b3).length = 4 := rfl
    -- name the pair first (see `edifactSeg_eq_out`)
    obtain ⟨cs, o, h⟩ : ∃ cs o, ediVals (edifactUnpack b1 b2 b3) 0 = (cs, o) := ⟨_, _, (Prod.eta _).symm⟩
    simp only [h] at hv ⊢
    cases o with
    | some i =>
      have := hv.2 i rfl
      simp only [List.length_cons]
      by_cases h0 : i = 0
      · simp [h0]; omega
      · by_cases h1 : i = 1
        · simp [h1]; omega
        · simp [h0, h1]; omega
    | none =>
      have := edifactOut_len rest
      simp only [List.length_append, List.length_cons]
      omega

/-! ### the skip counter of the fused model loop -/

theorem decLoop_skip (T : Tables) : ∀ (bs : List Nat) (n : Nat) (up : Bool) (off : Nat) (a : Acc),
    decLoop T bs n up off a = decLoop T (bs.drop n) 0 up (off + n) a
  | bs, 0, up, off, a => by simp
  | [], n + 1, up, off, a => by simp [decLoop]
  | b :: rest, n + 1, up, off, a => by
    rw [decLoop, decLoop_skip T rest n up (off + 1) a]
    simp [Nat.add_assoc, Nat.add_comm 1 n]

/-! ### Base 256 appends UTF-8 at once -/

theorem Rel.push256All {tr fn : List Int} {eci : Bool} : ∀ (d : List Nat) {res : List Int} {a : Acc}, Rel res tr fn eci a →
    Rel (res ++ latin1Utf8 (bytesI d)) tr fn eci (Acc.push256All a d)
  | [], res, a, h => by simpa [bytesI, latin1Utf8, Acc.push256All] using h
  | c :: d, res, a, h => by
    have h1 : Rel (res ++ latin1Utf8 (bytesI [c])) tr fn eci (a.push256 c) := by
      refine ⟨?_, ?_, h.hpend, h.htr, h.hfn, h.heci⟩
      · simp [Acc.push256, bytesI, latin1Utf8_append, h.hres]
      · have := latin1Utf8_length [c]
        simp only [Acc.push256, h.hulen, List.length_append, this]
        by_cases hc : c ≥ 128 <;> simp [hc, cnt128]
    have := Rel.push256All d h1
    have e : res ++ latin1Utf8 (bytesI (c :: d)) = (res ++ latin1Utf8 (bytesI [c])) ++ latin1Utf8 (bytesI d) := by
      rw [show bytesI (c :: d) = bytesI [c] ++ bytesI d from rfl, latin1Utf8_append, List.append_assoc]
    rw [e]
    exact this

/-! ## the mode loop -/

/-- state of the regenerated mode loop: (byteOffset, bitOffset, result, resultTrailer, byteSegments, mode, fnc1positions,
    isECIencoded) -/
abbrev SD := Int × Int × List Int × List Int × List (List Int) × Int × List Int × Bool
/-- what `decode` returns: (text bytes, byteSegments, symbology modifier, error?), then the BitSource's two offsets -/
abbrev RD := List Int × List (List Int) × Int × Bool × Int × Int

/-- how the regenerated loop ends, for an outcome of the model: it breaks in a state related to the model's
    accumulator, returns the FormatException flag, or panics where the model reports an index fault -/
def LoopOut (c : Ctl SD RD) : Res Acc → Prop
  | .ok a' => ∃ bo res tr segs mode fn eci, c = .brk (bo, 0, res, tr, segs, mode, fn, eci) ∧ Rel res tr fn eci a'
  | .error .format => ∃ bo bi, c = .ret ([], [], 0, true, bo, bi)
  | .error _ => c = .panic oob

theorem afterAscii_one (T : Tables) (rest : List Nat) (off : Nat) (a : Acc) :
    afterAscii T 1 rest off a = decLoop T rest 0 false off a.endSeg := by simp [afterAscii]

theorem afterAscii_nil (T : Tables) (mode off : Nat) (a : Acc) (hp : a.pend = 0) (hm : mode ≤ 7) :
    (afterAscii T mode [] off a).map Acc.endSeg = .ok a := by
  have ha := endSeg_of_pend0 a hp
  unfold afterAscii
  have : mode = 0 ∨ mode = 1 ∨ mode = 2 ∨ mode = 3 ∨ mode = 4 ∨ mode = 5 ∨ mode = 6 ∨ mode = 7 := by omega
  rcases this with h | h | h | h | h | h | h | h <;> subst h <;>
    simp [cSeg, x12Seg, edifactSeg, decLoop, Except.map, ha]

when_kernel Gzx.Gen.K02e.decode in
/-- the loop ends: PAD mode, or no byte left -/
theorem decode_exit (T : Tables) (F : Nat) (bs : List Nat) (mode off : Nat) (hm : mode ≤ 7) (h : mode = 0 ∨ bs.length ≤ off)
    (res tr : List Int) (segs : List (List Int)) (fn : List Int) (eci : Bool) (a : Acc) (hR : Rel res tr fn eci a) (f : Nat) :
    LoopOut (whileLoop (Gen.K02e.decode_body1 F (bytesI bs)) (f + 1) ((off : Int), 0, res, tr, segs, (mode : Int), fn, eci))
      ((afterAscii T mode (bs.drop off) off a).map Acc.endSeg) := by
  rw [whileLoop_succ]
  have hbody : Gen.K02e.decode_body1 F (bytesI bs) ((off : Int), 0, res, tr, segs, (mode : Int), fn, eci)
      = .brk ((off : Int), 0, res, tr, segs, (mode : Int), fn, eci) := by
    unfold Gen.K02e.decode_body1
    simp only [k_available_eq, tryC_ok, bytesI_length]
    by_cases hm0 : mode = 0
    · have c1 : (((mode : Nat) : Int) != 0) = false := by simp [hm0]
      simp only [c1, Bool.false_eq_true, if_false]
    · have c1 : (((mode : Nat) : Int) != 0) = true := by simp; omega
      have c2 : decide (8 * ((bs.length : Int) - (off : Int)) - 0 > 0) = false := by simp; omega
      simp only [c1, c2, if_true, Bool.false_eq_true, if_false]
  rw [hbody]
  have hmodel : (afterAscii T mode (bs.drop off) off a).map Acc.endSeg = .ok a := by
    rcases h with h | h
    · subst h
      simp [afterAscii, Except.map, endSeg_of_pend0 a hR.hpend]
    · rw [List.drop_eq_nil_of_le h]
      exact afterAscii_nil T mode off a hR.hpend hm
  rw [hmodel]
  exact ⟨_, _, _, _, _, _, _, rfl, hR⟩

when_kernel Gzx.Gen.K02e.decode in
/-- the mode loop of `decode` against the model's `afterAscii`, by induction on the measure
    `μ ≥ 2 · (bytes left) + [mode ≠ ASCII]`: an ASCII segment consumes at least one byte, every other mode runs one
    segment (its own kernel theorem `k_decode…Segment_eq`) and falls back to ASCII, which drops the second summand
    even when the segment consumed nothing.  `Rel` is carried from segment boundary to segment boundary; inside a
    segment `SegRel` records the characters appended so far, and the UTF-8 conversion at its end restores `Rel`. -/
theorem decode_loop (T : Tables) (hT : TablesAgree T) (F : Nat) (bs : List Nat) (hb : ∀ b ∈ bs, b < 256) (hF : 7 * bs.length + 2 ≤ F) :
    ∀ (μ mode off : Nat) (res tr : List Int) (segs : List (List Int)) (fn : List Int) (eci : Bool) (a : Acc) (f : Nat),
      mode ≤ 7 → Rel res tr fn eci a → 2 * (bs.length - off) + (if mode = 1 then 0 else 1) ≤ μ → μ < f →
      LoopOut (whileLoop (Gen.K02e.decode_body1 F (bytesI bs)) f ((off : Int), 0, res, tr, segs, (mode : Int), fn, eci))
        ((afterAscii T mode (bs.drop off) off a).map Acc.endSeg) := by
  intro μ
  induction μ with
  | zero =>
    intro mode off res tr segs fn eci a f hm7 hR hμ hf
    obtain ⟨f, rfl⟩ : ∃ k, f = k + 1 := ⟨f - 1, by omega⟩
    exact decode_exit T F bs mode off hm7 (Or.inr (by omega)) res tr segs fn eci a hR f
  | succ μ ih =>
    intro mode off res tr segs fn eci a f hm7 hR hμ hf
    obtain ⟨f, rfl⟩ : ∃ k, f = k + 1 := ⟨f - 1, by omega⟩
    by_cases hex : mode = 0 ∨ bs.length ≤ off
    · exact decode_exit T F bs mode off hm7 hex res tr segs fn eci a hR f
    have hm0 : mode ≠ 0 := fun h => hex (Or.inl h)
    have hlt : off < bs.length := by
      have : ¬ bs.length ≤ off := fun h => hex (Or.inr h)
      omega
    have ihf := fun mode off res tr segs fn eci a h0 h1 h2 => ih mode off res tr segs fn eci a f h0 h1 h2 (by omega)
    rw [whileLoop_succ]
    generalize whileLoop (Gen.K02e.decode_body1 F (bytesI bs)) f = W at ihf ⊢
    unfold Gen.K02e.decode_body1
    simp only [k_available_eq, tryC_ok, bytesI_length]
    have c1 : (((mode : Nat) : Int) != 0) = true := by simp; omega
    have c2 : decide (8 * ((bs.length : Int) - (off : Int)) - 0 > 0) = true := by simp; omega
    simp only [c1, c2, if_true]
    by_cases h1 : mode = 1
    · -- ASCII
      subst h1
      have cm : ((((1 : Nat) : Int)) == 1) = true := by decide
      have cl : ((((1 : Nat) : Int)) != 6) = true := by decide
      simp only [cm, cl, if_true]
      have hA := k_decodeAsciiSegment_eq F bs hb off (by omega) (by omega) res tr fn
      have hM := decLoop_ascii T (bs.drop off) false off a
      have hfacts := asciiOut_facts (bs.drop off) false
      rw [afterAscii_one, endSeg_of_pend0 a hR.hpend, hM]
      cases hout : asciiOut (bs.drop off) false with
      | error e =>
        rw [hout] at hA hfacts
        obtain ⟨r, t, bo, f', hk⟩ := hA
        subst hfacts
        rw [hk]
        simp only [tryC_ok, asciiThen, Except.map, LoopOut]
        exact ⟨_, _, rfl⟩
      | ok p =>
        obtain ⟨m, es, k⟩ := p
        rw [hout] at hA hfacts
        obtain ⟨⟨hm7', hk1, hsmall⟩, hlen1, hlen2⟩ := hfacts
        have hk1 : 1 ≤ k := hk1 (by
          intro h
          have := congrArg List.length h
          simp at this; omega)
        simp only [List.length_drop] at hlen2
        simp only [AAgrees] at hA
        rw [hA]
        simp only [tryC_ok, bne_self_eq_false, Bool.false_eq_true, if_false]
        have hseg := SegRel.aevs es hR.seg
        simp only [List.nil_append] at hseg
        rw [hseg.hres, show len res = ((res.length : Nat) : Int) from rfl,
          k_latin1ToUTF8_eq res _ F (by rw [bytesI_length]; omega)]
        simp only [tryC_ok, asciiThen, List.drop_drop]
        by_cases hm1 : m = 1
        · subst hm1
          have hRel := hseg.endSeg hR
          have := ihf 1 (off + k) _ _ segs _ eci _ (by omega) hRel (by simp; omega)
          rw [afterAscii_one, endSeg_endSeg] at this
          rw [afterAscii_one]
          exact this
        · have hs := hsmall hm1
          have hRel := hseg.toRel hR hs
          rw [latin1Utf8_small_nat _ hs, ← hseg.hres]
          exact ihf m (off + k) _ _ segs _ eci _ hm7' hRel (by simp [hm1]; omega)
    · -- the other modes: one segment, then back to ASCII
      have cm1 : (((mode : Nat) : Int) == 1) = false := by simp; omega
      simp only [cm1, Bool.false_eq_true, if_false]
      -- what happens after a segment that appended the characters `D` and consumed `n'` bytes
      have back : ∀ (D : List Nat) (n' : Nat) (res' fn' : List Int) (a' : Acc),
          SegRel res a D res' tr fn' a' → D.length ≤ 7 * bs.length →
          LoopOut (W (((off + n' : Nat) : Int), 0, res ++ latin1Utf8 (bytesI D), tr, segs, 1, fn', eci))
            ((decLoop T (bs.drop off) n' false off a'.endSeg).map Acc.endSeg) := by
        intro D n' res' fn' a' hseg hD
        have hRel := hseg.endSeg hR
        have := ihf 1 (off + n') _ _ segs _ eci _ (by omega) hRel (by simp [h1] at hμ ⊢; omega)
        rw [afterAscii_one, endSeg_endSeg] at this
        rw [decLoop_skip, List.drop_drop]
        exact this
      have hmodes : mode = 2 ∨ mode = 3 ∨ mode = 4 ∨ mode = 5 ∨ mode = 6 ∨ mode = 7 := by omega
      rcases hmodes with h | h | h | h | h | h
      · -- C40
        subst h
        have hC := k_decodeC40Segment_eq T hT F bs hb off (by omega) (by omega) res fn a 0
        simp only [afterAscii, Nat.reduceEqDiff, Int.cast_ofNat_Int, Int.reduceBEq, Int.reduceBNe, if_true, if_false, Bool.false_eq_true]
        cases hs : cSeg T false (bs.drop off) {} a 0 with
        | error e =>
          rw [hs] at hC
          cases e with
          | format =>
            obtain ⟨r, bo, f', hk⟩ := hC
            rw [hk]
            simp only [tryC_ok, Except.map, LoopOut]
            exact ⟨_, _, rfl⟩
          | _ => simp only at hC; rw [hC]; simp [LoopOut, Except.map]
        | ok p =>
          obtain ⟨a', n'⟩ := p
          rw [hs] at hC
          obtain ⟨es, hco, ha', hk⟩ := hC
          rw [hk]
          simp only [tryC_ok, bne_self_eq_false, Bool.false_eq_true, if_false, Nat.sub_zero]
          have hseg := SegRel.emits es hR.seg
          simp only [List.nil_append] at hseg
          have hl := cOut_len T false (bs.drop off) {}
          rw [hco] at hl
          simp only [Nat.sub_zero, List.length_drop] at hl
          rw [hseg.hres, show len res = ((res.length : Nat) : Int) from rfl,
            k_latin1ToUTF8_eq res _ F (by rw [bytesI_length]; omega)]
          simp only [tryC_ok]
          subst ha'
          exact back _ n' _ _ _ hseg (by omega)
      · -- Text
        subst h
        have hC := k_decodeTextSegment_eq T hT F bs hb off (by omega) (by omega) res fn a 0
        simp only [afterAscii, Nat.reduceEqDiff, Int.cast_ofNat_Int, Int.reduceBEq, Int.reduceBNe, if_true, if_false, Bool.false_eq_true]
        cases hs : cSeg T true (bs.drop off) {} a 0 with
        | error e =>
          rw [hs] at hC
          cases e with
          | format =>
            obtain ⟨r, bo, f', hk⟩ := hC
            rw [hk]
            simp only [tryC_ok, Except.map, LoopOut]
            exact ⟨_, _, rfl⟩
          | _ => simp only at hC; rw [hC]; simp [LoopOut, Except.map]
        | ok p =>
          obtain ⟨a', n'⟩ := p
          rw [hs] at hC
          obtain ⟨es, hco, ha', hk⟩ := hC
          rw [hk]
          simp only [tryC_ok, bne_self_eq_false, Bool.false_eq_true, if_false, Nat.sub_zero]
          have hseg := SegRel.emits es hR.seg
          simp only [List.nil_append] at hseg
          have hl := cOut_len T true (bs.drop off) {}
          rw [hco] at hl
          simp only [Nat.sub_zero, List.length_drop] at hl
          rw [hseg.hres, show len res = ((res.length : Nat) : Int) from rfl,
            k_latin1ToUTF8_eq res _ F (by rw [bytesI_length]; omega)]
          simp only [tryC_ok]
          subst ha'
          exact back _ n' _ _ _ hseg (by omega)
      · -- ANSI X12
        subst h
        have hC := k_decodeAnsiX12Segment_eq F bs hb off (by omega) (by omega) res a 0
        simp only [afterAscii, Nat.reduceEqDiff, Int.cast_ofNat_Int, Int.reduceBEq, Int.reduceBNe, if_true, if_false, Bool.false_eq_true]
        cases hs : x12Seg (bs.drop off) a 0 with
        | error e =>
          rw [hs] at hC
          obtain ⟨rfl, r, bo, hk⟩ := hC
          rw [hk]
          simp only [tryC_ok, Except.map, LoopOut]
          exact ⟨_, _, rfl⟩
        | ok p =>
          obtain ⟨a', n'⟩ := p
          rw [hs] at hC
          obtain ⟨d, hco, ha', hk⟩ := hC
          rw [hk]
          simp only [tryC_ok, bne_self_eq_false, Bool.false_eq_true, if_false, Nat.sub_zero]
          have hseg := SegRel.pushAll d (fn := fn) hR.seg
          simp only [List.nil_append] at hseg
          have hl := x12Out_len (bs.drop off)
          rw [hco] at hl
          simp only [Nat.sub_zero, List.length_drop] at hl
          rw [show len res = ((res.length : Nat) : Int) from rfl,
            k_latin1ToUTF8_eq res _ F (by rw [bytesI_length]; omega)]
          simp only [tryC_ok]
          subst ha'
          exact back _ n' _ _ _ hseg (by omega)
      · -- EDIFACT
        subst h
        obtain ⟨d, k, hco, hs, hk⟩ := k_decodeEdifactSegment_eq F bs hb off (by omega) (by omega) res a 0
        simp only [afterAscii, Nat.reduceEqDiff, Int.cast_ofNat_Int, Int.reduceBEq, Int.reduceBNe, if_true, if_false, Bool.false_eq_true]
        rw [hk, hs]
        simp only [tryC_ok, bne_self_eq_false, Bool.false_eq_true, if_false, Nat.zero_add]
        have hseg := SegRel.pushAll d (fn := fn) hR.seg
        simp only [List.nil_append] at hseg
        have hl := edifactOut_len (bs.drop off)
        rw [hco] at hl
        simp only [List.length_drop] at hl
        rw [show len res = ((res.length : Nat) : Int) from rfl,
          k_latin1ToUTF8_eq res _ F (by rw [bytesI_length]; omega)]
        simp only [tryC_ok]
        exact back _ k _ _ _ hseg (by omega)
      · -- Base 256: UTF-8 is appended at once, no conversion afterwards
        subst h
        have hC := k_decodeBase256Segment_eq F (by omega) bs hb off hlt res segs a
        have hne : (bs.drop off).isEmpty = false := by
          cases hd : bs.drop off with
          | nil => have := congrArg List.length hd; simp at this; omega
          | cons _ _ => rfl
        simp only [afterAscii, Nat.reduceEqDiff, Int.cast_ofNat_Int, Int.reduceBEq, Int.reduceBNe, if_true, if_false, hne, Bool.false_eq_true]
        cases hs : b256Seg (bs.drop off) off a with
        | error e =>
          rw [hs] at hC
          obtain ⟨rfl, bo, hk⟩ := hC
          rw [hk]
          simp only [tryC_ok, Except.map, LoopOut]
          exact ⟨_, _, rfl⟩
        | ok p =>
          obtain ⟨a', n'⟩ := p
          rw [hs] at hC
          obtain ⟨d, ha', hk⟩ := hC
          rw [hk]
          simp only [tryC_ok, bne_self_eq_false, Bool.false_eq_true, if_false]
          subst ha'
          have hRel := Rel.push256All d hR
          have := ihf 1 (off + n') _ _ (segs ++ [bytesI d]) _ eci _ (by omega) hRel (by simp [h1] at hμ ⊢; omega)
          rw [afterAscii_one, endSeg_of_pend0 _ hRel.hpend] at this
          rw [decLoop_skip, List.drop_drop]
          exact this
      · -- ECI: detection only
        subst h
        have hne : (bs.drop off).isEmpty = false := by
          cases hd : bs.drop off with
          | nil => have := congrArg List.length hd; simp at this; omega
          | cons _ _ => rfl
        simp only [afterAscii, Nat.reduceEqDiff, Int.cast_ofNat_Int, Int.reduceBEq, Int.reduceBNe, if_true, if_false, hne, Bool.false_eq_true]
        have hl1 := k_latin1ToUTF8_eq res [] F (by simp; omega)
        simp only [List.append_nil] at hl1
        rw [show len res = ((res.length : Nat) : Int) from rfl, hl1]
        simp only [tryC_ok, latin1Utf8, List.flatMap_nil, List.append_nil]
        have hRel : Rel res tr fn true { a with eci := true } := ⟨hR.hres, hR.hulen, hR.hpend, hR.htr, hR.hfn, rfl⟩
        have := ihf 1 off _ _ segs _ true _ (by omega) hRel (by simp [h1] at hμ ⊢; omega)
        rw [afterAscii_one, endSeg_of_pend0 _ hRel.hpend] at this
        exact this

/-! ## DecodedBitStreamParser_decode -/

theorem setContains_bytesI (l : List Nat) (p : Nat) : setContains (bytesI l) (p : Int) = l.contains p := by
  unfold setContains
  induction l with
  | nil => rfl
  | cons x l ih =>
    simp only [bytesI, List.map_cons, List.contains_cons] at ih ⊢
    rw [ih]
    congr 1
    by_cases h : p = x
    · simp [h]
    · have : ¬ ((p : Int) = (x : Int)) := by omega
      have e1 : ((p : Int) == (x : Int)) = false := by simpa using this
      have e2 : (p == x) = false := by simpa using h
      rw [e2]
      exact e1

/-- the symbology modifier as the regenerated code computes it (nested `if`s that assign, then the continuation) is the
    model's `modifier`: `ec` = ECI seen, `p0 … p5` = FNC1 at position 0, 4, 1, 5 -/
theorem modK (ec p0 p4 p1 p5 : Bool) (K : Int → Res RD) :
    ((if ec = true then (if (p0 || p4) = true then Ctl.next 5 else Ctl.next (if (p1 || p5) = true then 6 else 4))
      else (if (p0 || p4) = true then Ctl.next 2 else Ctl.next (if (p1 || p5) = true then 3 else 1)) : Ctl Int RD)).thenR K
      = K (((if ec = true then (if (p0 || p4) = true then 5 else if (p1 || p5) = true then 6 else 4)
          else (if (p0 || p4) = true then 2 else if (p1 || p5) = true then 3 else 1) : Nat)) : Int) := by
  cases ec <;> cases p0 <;> cases p4 <;> cases p1 <;> cases p5 <;> rfl

when_kernel Gzx.Gen.K02e.decode in
/-- `DecodedBitStreamParser_decode(bytes)` (the regenerated mode loop with every segment decoder, `latin1ToUTF8`, the macro
    trailer and the symbology modifier; the BitSource is `{bytes, 0, 0}` as `NewBitSource` builds it) = the model's
    `decLoop` on the codewords, FOR EVERY CODEWORD LIST: the result is the UTF-8 encoding of the model's text followed by
    the macro trailer, with the model's symbology modifier; FormatException in exactly the model's cases; an index panic
    of the model is one of the kernel.  `xs` is the `bytes` argument, which the loop itself never reads. -/
theorem k_decode_eq (T : Tables) (hT : TablesAgree T) (bs : List Nat) (hb : ∀ b ∈ bs, b < 256) (fuel : Nat)
    (hf : 7 * bs.length + 2 ≤ fuel) (xs : List Int) :
    match decLoop T bs 0 false 0 {} with
    | .ok a => ∃ segs bo, Gen.K02e.decode fuel (bytesI bs) 0 0 xs
        = .ok (latin1Utf8 (bytesI a.rev.reverse) ++ bytesI a.trailer, segs, ((modifier a : Nat) : Int), false, bo, 0)
    | .error .format => ∃ bo bi, Gen.K02e.decode fuel (bytesI bs) 0 0 xs = .ok ([], [], 0, true, bo, bi)
    | .error _ => Gen.K02e.decode fuel (bytesI bs) 0 0 xs = .error oob := by
  have hR0 : Rel [] [] [] false ({} : Acc) := ⟨rfl, rfl, rfl, rfl, rfl, rfl⟩
  have hloop := decode_loop T hT fuel bs hb hf (2 * bs.length) 1 0 [] [] [] [] false {} fuel (by omega) hR0 (by simp) (by omega)
  rw [afterAscii_one, endSeg_of_pend0 _ rfl] at hloop
  simp only [List.drop_zero] at hloop
  unfold Gen.K02e.decode
  have hmk : mk3n 0 100 = .ok [] := rfl
  have hmk2 : mk 0 = .ok [] := rfl
  simp only [hmk, hmk2, tryR_ok]
  have h0 : ((0 : Nat) : Int) = 0 := rfl
  have h1 : ((1 : Nat) : Int) = 1 := rfl
  rw [h0, h1] at hloop
  cases hm : decLoop T bs 0 false 0 {} with
  | error e =>
    rw [hm] at hloop
    cases e with
    | format =>
      obtain ⟨bo, bi, hk⟩ := hloop
      rw [hk]
      exact ⟨bo, bi, rfl⟩
    | _ => simp only [Except.map, LoopOut] at hloop; rw [hloop]; rfl
  | ok a =>
    rw [hm] at hloop
    obtain ⟨bo, res, tr, segs, mode, fn, eci, hk, hRel⟩ := hloop
    rw [hk]
    simp only [brk_thenR]
    have hres : res = latin1Utf8 (bytesI a.rev.reverse) := by simpa [Acc.endSeg] using hRel.hres
    have htr : tr = bytesI a.trailer := by simpa [Acc.endSeg] using hRel.htr
    have hfn : fn = bytesI a.fnc1 := by simpa [Acc.endSeg] using hRel.hfn
    have heci : eci = a.eci := by simpa [Acc.endSeg] using hRel.heci
    subst hres htr hfn heci
    refine ⟨if (Int.ofNat segs.length == 0) = true then [] else segs, bo, ?_⟩
    have c0 : setContains (bytesI a.fnc1) 0 = a.fnc1.contains 0 := setContains_bytesI a.fnc1 0
    have c1 : setContains (bytesI a.fnc1) 1 = a.fnc1.contains 1 := setContains_bytesI a.fnc1 1
    have c4 : setContains (bytesI a.fnc1) 4 = a.fnc1.contains 4 := setContains_bytesI a.fnc1 4
    have c5 : setContains (bytesI a.fnc1) 5 = a.fnc1.contains 5 := setContains_bytesI a.fnc1 5
    simp only [c0, c1, c4, c5, modifier]
    have htr : (if decide (len (bytesI a.trailer) > 0) = true then (Ctl.next (latin1Utf8 (bytesI a.rev.reverse) ++ bytesI a.trailer) : Ctl (List Int) RD)
        else Ctl.next (latin1Utf8 (bytesI a.rev.reverse))) = Ctl.next (latin1Utf8 (bytesI a.rev.reverse) ++ bytesI a.trailer) := by
      cases a.trailer <;> simp [bytesI, len]
    rw [htr]
    simp only [next_thenR]
    by_cases hs : (Int.ofNat segs.length == 0) = true
    · simp only [hs, if_true, next_thenR]
      rw [modK]
    · simp only [hs, Bool.false_eq_true, if_false, next_thenR]
      rw [modK]

theorem decodeFull_eq (T : Tables) (cw : List Nat) :
    decodeFull T cw = (decLoop T cw 0 false 0 {}).map (fun a => (a.rev.reverse ++ a.trailer, modifier a)) := rfl

when_kernel Gzx.Gen.K02e.decode in
/-- non-vacuity: "A" in ASCII, "1A " in X12 with unlatch, an extended character by upper shift, macro 05 -/
example : Gen.K02e.decode 60 (bytesI [66, 238, 0x21, 0x74, 254, 235, 100, 236]) 0 0 []
    = .ok ([65, 49, 65, 32, 195, 163, 91, 41, 62, 30, 48, 53, 29, 30, 4], [], 1, false, 8, 0) := by decide

end Gzx.Obligations.K02e
