/-
  K16b (BitArray part) — whole BitArray methods regenerated from /repo's bit_array.go on every run (`Gzx.Gen.K16b`) and
  proved equal to the hand-written WORD model of Model/Bits.lean (`WArr.*`).  See Obligations/K16b.lean for conventions.
  Every theorem is for ALL arrays `a` (no invariant unless stated) and all natural-number arguments.
-/
import Gzx.Gen.K16b
import Gzx.KernelGuard
import Gzx.Proofs.BitsTie
namespace Gzx.Obligations.K16bArr
open Gzx Gzx.GoM Gzx.Bits Gzx.GoVal

/-- what a regenerated void method that only writes `b.bits` must return for a model result -/
def expA (r : Res WArr) : Res (List Int) := r.map (fun a' => words a'.words)

/-- … a void method that writes `b.bits` and `b.size` -/
def expAS (r : Res WArr) : Res (List Int × Int) := r.map (fun a' => (words a'.words, (a'.size : Int)))

/-- … a method with an `error` result that only writes `b.bits` -/
def expEA (orig : List Nat) : Res WArr → Res (Bool × List Int)
  | .ok a' => .ok (false, words a'.words)
  | .error .illegalArg => .ok (true, words orig)
  | .error e => .error e

theorem expEA_error (o : List Nat) {e : Fault} (h : NotArg e) : expEA o (.error e) = .error e := by
  cases e <;> first | rfl | exact absurd rfl h

when_kernel Gzx.Gen.K16b.arrayGet in
/-- `BitArray.Get(i)` = `WArr.get` (the copy of the kernel that the K16b callers use) -/
theorem k_arrayGet_eq (a : WArr) (i : Nat) : Gen.K16b.arrayGet (words a.words) i = WArr.get a i := by
  simp only [Gen.K16b.arrayGet, WArr.get]
  rw [idxR a.words (i / 32) _ (tdiv32_natCast i)]
  simp only [bind, Except.bind]
  cases wordAt a.words (i / 32) with
  | error e => rfl
  | ok w =>
    simp only [pure, Except.pure]
    rw [bit32_natCast, iand_natCast]
    congr 1
    cases hb : ((w &&& 1 <<< (i % 32)) != 0) <;> simp_all

when_kernel Gzx.Gen.K16b.arraySet in
/-- `BitArray.Set(i)` = `WArr.set` -/
theorem k_arraySet_eq (a : WArr) (i : Nat) : Gen.K16b.arraySet (words a.words) i = expA (WArr.set a i) := by
  simp only [Gen.K16b.arraySet, WArr.set, expA]
  rw [updR a.words (i / 32) (fun w => w ||| 1 <<< (i % 32))]
  · cases updWord a.words (i / 32) _ <;> rfl
  · exact tdiv32_natCast i
  · exact tdiv32_natCast i
  · intro w; rw [bit32_natCast, ior_natCast]

when_kernel Gzx.Gen.K16b.arrayFlip in
/-- `BitArray.Flip(i)` = `WArr.flip` -/
theorem k_arrayFlip_eq (a : WArr) (i : Nat) : Gen.K16b.arrayFlip (words a.words) i = expA (WArr.flip a i) := by
  simp only [Gen.K16b.arrayFlip, WArr.flip, expA]
  rw [updR a.words (i / 32) (fun w => w ^^^ 1 <<< (i % 32))]
  · cases updWord a.words (i / 32) _ <;> rfl
  · exact tdiv32_natCast i
  · exact tdiv32_natCast i
  · intro w; rw [bit32_natCast, ixor_natCast]

when_kernel Gzx.Gen.K16b.arraySetBulk in
/-- `BitArray.SetBulk(i, newBits)` = `WArr.setBulk` -/
theorem k_arraySetBulk_eq (a : WArr) (i newBits : Nat) :
    Gen.K16b.arraySetBulk (words a.words) i newBits = expA (WArr.setBulk a i newBits) := by
  simp only [Gen.K16b.arraySetBulk, WArr.setBulk, expA]
  rw [setR a.words (i / 32) newBits _ (tdiv32_natCast i) rfl]
  cases setWord a.words (i / 32) newBits <;> rfl

when_kernel Gzx.Gen.K16b.arrayClear in
/-- `BitArray.Clear()` = `WArr.clear` (`for i := range b.bits`) -/
theorem k_arrayClear_eq (a : WArr) : Gen.K16b.arrayClear (words a.words) = .ok (words (WArr.clear a).words) := by
  simp only [Gen.K16b.arrayClear, WArr.clear]
  rw [loop_up_fold' words (fun ws i => updWord ws i (fun _ => 0)) 0 a.words.length a.words rfl
        (by rw [tripUp_one]; gonorm; omega) (by omega), foldlM_updWord_all]
  · rfl
  · intro i _ _ ws
    simp only [Gen.K16b.arrayClear_body1]
    rw [setC ws i 0 _ (by omega) (by omega), setWord_eq_updWord]
    cases updWord ws i _ <;> rfl

when_kernel Gzx.Gen.K16b.makeArray in
/-- `makeArray(size)` = the model's `makeArray`: `(size+31)/32` zero words -/
theorem k_makeArray_eq (size : Nat) : Gen.K16b.makeArray size = .ok (words (Bits.makeArray size)) := by
  simp only [Gen.K16b.makeArray, Bits.makeArray]
  rw [mk_nats _ ((size + 31) / 32) (by gonorm; omega)]
  rfl

when_kernel Gzx.Gen.K16b.arrayEnsureCapacity in
/-- `ensureCapacity(size)` = `WArr.ensureCapacity`: grows exactly when `size > 32*len(bits)`, to EXACTLY
    `makeArray(size)` words (no geometric growth), old words copied -/
theorem k_arrayEnsureCapacity_eq (a : WArr) (size : Nat) :
    Gen.K16b.arrayEnsureCapacity (words a.words) size = .ok (words (WArr.ensureCapacity a size).words) := by
  simp only [Gen.K16b.arrayEnsureCapacity, WArr.ensureCapacity, len_words]
  by_cases h : size > a.words.length * 32
  · resolve_ifs
    rw [k_makeArray_eq]
    simp only [tryR_ok, copyL_words]
  · resolve_ifs

theorem ensureCapacity_size (a : WArr) (n : Nat) : (WArr.ensureCapacity a n).size = a.size := by
  unfold WArr.ensureCapacity; split <;> rfl

when_kernel Gzx.Gen.K16b.arrayAppendBit in
/-- `BitArray.AppendBit(bit)` = `WArr.appendBit`: ensureCapacity(size+1), set bit `size` if `bit`, `size++` -/
theorem k_arrayAppendBit_eq (a : WArr) (bit : Bool) :
    Gen.K16b.arrayAppendBit (words a.words) a.size bit = expAS (WArr.appendBit a bit) := by
  simp only [Gen.K16b.arrayAppendBit, WArr.appendBit, expAS]
  rw [show (a.size : Int) + 1 = ((a.size + 1 : Nat) : Int) by omega, k_arrayEnsureCapacity_eq]
  simp only [tryR_ok]
  have hs := ensureCapacity_size a (a.size + 1)
  cases bit with
  | false => simp [hs, Except.map]
  | true =>
    simp only [if_true, hs]
    rw [updC (WArr.ensureCapacity a (a.size + 1)).words (a.size / 32) (fun w => w ||| 1 <<< (a.size % 32))]
    · cases updWord (WArr.ensureCapacity a (a.size + 1)).words (a.size / 32) _ <;> simp [Except.map]
    · exact tdiv32_natCast a.size
    · exact tdiv32_natCast a.size
    · intro w; rw [bit32_natCast, ior_natCast]

when_kernel Gzx.Gen.K16b.arrayXor in
/-- `BitArray.Xor(other)` = `WArr.xor`: size check (error, unchanged), then the `(size+31)/32` words that hold bits -/
theorem k_arrayXor_eq (a other : WArr) :
    Gen.K16b.arrayXor (words a.words) a.size (words other.words) other.size = expEA a.words (WArr.xor a other) := by
  simp only [Gen.K16b.arrayXor, WArr.xor]
  by_cases h1 : a.size ≠ other.size
  · resolve_ifs; rfl
  resolve_ifs
  generalize hF : (fun (ws : List Nat) (i : Nat) => do
          let o ← wordAt other.words i
          updWord ws i (fun w => w ^^^ o)) = F
  rw [List.range_eq_range', loop_up_fold' words F 0 ((a.size + 31) / 32) a.words rfl (by rw [tripUp_one]; gonorm; omega) (by omega),
    ofRes_thenR]
  · cases hf : (List.range' 0 ((a.size + 31) / 32)).foldlM F a.words with
    | ok ws => rfl
    | error e =>
      refine (expEA_error _ ?_).symm
      subst hF
      refine foldlM_error NotArg _ (fun _ i _ h => ?_) _ _ _ hf
      simp only [bind, Except.bind] at h
      cases hw : wordAt other.words i with
      | error e' => rw [hw] at h; injection h with h; subst h; exact wordAt_error hw
      | ok o => rw [hw] at h; exact updWord_error h
  · subst hF
    intro i _ _ ws
    simp only [Gen.K16b.arrayXor_body1]
    rw [idxC other.words i _ rfl]
    simp only [bind, Except.bind]
    cases wordAt other.words i with
    | error e => rfl
    | ok o =>
      simp only []
      rw [updC ws i (fun w => w ^^^ o) _ rfl rfl (fun w => ixor_natCast w o)]
      cases updWord ws i _ <;> rfl

when_kernel Gzx.Gen.K16b.arraySetRange in
/-- `BitArray.SetRange(start, end)` = `WArr.setRange`: argument check (error, unchanged), empty range, then for every word
    `i` in `[start/32, (end-1)/32]` the mask `(2 << lastBit) - (1 << firstBit)` truncated to 32 bits is OR-ed in -/
theorem k_arraySetRange_eq (a : WArr) (start end_ : Nat) :
    Gen.K16b.arraySetRange (words a.words) a.size start end_ = expEA a.words (WArr.setRange a start end_) := by
  simp only [Gen.K16b.arraySetRange, WArr.setRange]
  by_cases h1 : end_ < start ∨ end_ > a.size
  · resolve_ifs; rfl
  by_cases h2 : end_ = start
  · resolve_ifs; rfl
  resolve_ifs
  have he : (end_ : Int) - 1 = ((end_ - 1 : Nat) : Int) := by omega
  generalize hF : (fun (ws : List Nat) (i : Nat) =>
      updWord ws i (fun w => w ||| WArr.rangeMask start (end_ - 1) (start / 32) ((end_ - 1) / 32) i)) = F
  rw [he, loop_up_fold' words F (start / 32) ((end_ - 1) / 32 + 1 - start / 32) a.words rfl
        (by rw [tripUp_one]; gonorm; omega) (by gonorm; omega), ofRes_thenR]
  · cases hf : (List.range' (start / 32) ((end_ - 1) / 32 + 1 - start / 32)).foldlM F a.words with
    | ok ws => rfl
    | error e =>
      refine (expEA_error _ ?_).symm
      subst hF
      exact foldlM_error NotArg _ (fun _ _ _ h => updWord_error h) _ _ _ hf
  · subst hF
    intro i hi1 hi2 ws
    simp only [Gen.K16b.arraySetRange_body1]
    have hfi : ((i : Int) == Int.tdiv (start : Int) 32) = decide (i = start / 32) := by
      rw [tdiv32_natCast, Bool.eq_iff_iff, beq_iff_eq, decide_eq_true_eq, Int.natCast_inj]
    have hli : ((i : Int) == Int.tdiv ((end_ - 1 : Nat) : Int) 32) = decide (i = (end_ - 1) / 32) := by
      rw [tdiv32_natCast, Bool.eq_iff_iff, beq_iff_eq, decide_eq_true_eq, Int.natCast_inj]
    rw [hfi, hli]
    rw [updC ws i (fun w => w ||| WArr.rangeMask start (end_ - 1) (start / 32) ((end_ - 1) / 32) i) _ rfl rfl]
    · cases updWord ws i _ <;> rfl
    · intro w
      rw [← ior_natCast, rangeMask_natCast (by omega)]

/-- what the regenerated `IsRange` must return: `(result, failed)` -/
def expIsRange : Res Bool → Res (Bool × Bool)
  | .ok r => .ok (r, false)
  | .error .illegalArg => .ok (false, true)
  | .error e => .error e

theorem isRangeLoop_error (ws : List Nat) (start e fi li : Nat) (value : Bool) :
    ∀ (is : List Nat) (er : Fault), WArr.isRangeLoop ws start e fi li value is = .error er → NotArg er := by
  intro is
  induction is with
  | nil => intro er h; simp [WArr.isRangeLoop] at h
  | cons i is ih =>
    intro er h
    unfold WArr.isRangeLoop at h
    cases hw : ws[i]? with
    | none => rw [hw] at h; injection h with h; subst h; intro h'; cases h'
    | some w =>
      rw [hw] at h
      by_cases hc : (w &&& WArr.rangeMask start e fi li i) ≠ (if value then WArr.rangeMask start e fi li i else 0)
      · simp only [if_pos hc] at h; cases h
      · simp only [if_neg hc] at h; exact ih er h

/-- the loop of `IsRange` (early `return false`) is the model's recursion over the word indices -/
theorem isRange_loop (ws : List Nat) (start e : Nat) (value : Bool) (body : Int → Unit → Ctl Unit (Bool × Bool)) :
    ∀ (n a : Nat),
      (∀ i, a ≤ i → i < a + n → body (i : Int) () =
        match ws[i]? with
        | none => .panic oob
        | some w =>
          if (w &&& WArr.rangeMask start e (start / 32) (e / 32) i) ≠
              (if value then WArr.rangeMask start e (start / 32) (e / 32) i else 0) then .ret (false, false)
          else .next ()) →
      loop body 1 n (a : Int) () =
        match WArr.isRangeLoop ws start e (start / 32) (e / 32) value (List.range' a n) with
        | .ok true => .next ()
        | .ok false => .ret (false, false)
        | .error er => .panic er := by
  intro n
  induction n with
  | zero => intro a _; simp [loop, List.range', WArr.isRangeLoop]
  | succ n ih =>
    intro a hb
    rw [loop_succ, hb a (Nat.le_refl a) (by omega)]
    simp only [List.range', WArr.isRangeLoop]
    cases hw : ws[a]? with
    | none => rfl
    | some w =>
      by_cases hc : (w &&& WArr.rangeMask start e (start / 32) (e / 32) a) ≠
          (if value then WArr.rangeMask start e (start / 32) (e / 32) a else 0)
      · simp only [if_pos hc]
      · simp only [if_neg hc]
        have e1 : (a : Int) + 1 = ((a + 1 : Nat) : Int) := by omega
        rw [e1]
        exact ih (a + 1) (fun i h1 h2 => hb i (by omega) (by omega))

when_kernel Gzx.Gen.K16b.arrayIsRange in
/-- `BitArray.IsRange(start, end, value)` = `WArr.isRange`: argument check, empty range, then word by word the masked
    bits against `mask` / 0 with `return false` at the first difference -/
theorem k_arrayIsRange_eq (a : WArr) (start end_ : Nat) (value : Bool) :
    Gen.K16b.arrayIsRange (words a.words) a.size start end_ value = expIsRange (WArr.isRange a start end_ value) := by
  simp only [Gen.K16b.arrayIsRange, WArr.isRange]
  by_cases h1 : end_ < start ∨ end_ > a.size
  · resolve_ifs; rfl
  by_cases h2 : end_ = start
  · resolve_ifs; rfl
  resolve_ifs
  have he : (end_ : Int) - 1 = ((end_ - 1 : Nat) : Int) := by omega
  have hi0 := tdiv32_natCast start
  have hn : tripUp (Int.tdiv (start : Int) 32) (Int.tdiv ((end_ - 1 : Nat) : Int) 32 + 1) 1 = (end_ - 1) / 32 + 1 - start / 32 := by
    rw [tripUp_one]; gonorm; omega
  rw [he, hn, hi0, isRange_loop a.words start (end_ - 1) value _ ((end_ - 1) / 32 + 1 - start / 32) (start / 32)]
  · cases hr : WArr.isRangeLoop a.words start (end_ - 1) (start / 32) ((end_ - 1) / 32) value
        (List.range' (start / 32) ((end_ - 1) / 32 + 1 - start / 32)) with
    | ok r => cases r <;> rfl
    | error er =>
      have := isRangeLoop_error _ _ _ _ _ _ _ _ hr
      cases er <;> first | rfl | exact absurd rfl this
  · intro i hi1 hi2
    simp only [Gen.K16b.arrayIsRange_body1]
    have hfi : ((i : Int) == ((start / 32 : Nat) : Int)) = decide (i = start / 32) := by
      rw [Bool.eq_iff_iff]; simp only [beq_iff_eq, decide_eq_true_eq]; omega
    have hli : ((i : Int) == Int.tdiv ((end_ - 1 : Nat) : Int) 32) = decide (i = (end_ - 1) / 32) := by
      rw [tdiv32_natCast, Bool.eq_iff_iff, beq_iff_eq, decide_eq_true_eq, Int.natCast_inj]
    rw [hfi, hli]
    have hm : wrap 32 (wrap 32 (ishl 2 (wrap 64 (if decide (i = (end_ - 1) / 32) = true then Int.tmod ((end_ - 1 : Nat) : Int) 32 else 31))) -
        wrap 32 (ishl 1 (wrap 64 (if decide (i = start / 32) = true then Int.tmod (start : Int) 32 else 0)))) =
        ((WArr.rangeMask start (end_ - 1) (start / 32) ((end_ - 1) / 32) i : Nat) : Int) := by
      exact rangeMask32_natCast (by omega)
    rw [hm, idxC a.words i _ rfl]
    unfold wordAt
    cases hw : a.words[i]? with
    | none => rfl
    | some w =>
      simp only [iand_natCast]
      cases value <;> simp [Int.natCast_inj]

/-- what the regenerated `AppendBits` must return: `(failed, bits, size)` -/
def expAppendBits (orig : WArr) : Res WArr → Res (Bool × List Int × Int)
  | .ok a' => .ok (false, words a'.words, (a'.size : Int))
  | .error .illegalArg => .ok (true, words orig.words, (orig.size : Int))
  | .error e => .error e

when_kernel Gzx.Gen.K16b.arrayAppendBits in
/-- `BitArray.AppendBits(value, numBits)` = `WArr.appendBits`: range check of `numBits`, ensureCapacity(size+numBits), then for
    `numBitsLeft = numBits-1 … 0` bit `nextSize` is set when bit `numBitsLeft` of `value` is, `nextSize++`; `size = nextSize` -/
theorem k_arrayAppendBits_eq (a : WArr) (value numBits : Nat) :
    Gen.K16b.arrayAppendBits (words a.words) a.size value numBits = expAppendBits a (WArr.appendBits a value numBits) := by
  simp only [Gen.K16b.arrayAppendBits, WArr.appendBits]
  by_cases h1 : numBits > 32
  · resolve_ifs; rfl
  resolve_ifs
  rw [show (a.size : Int) + (numBits : Int) = ((a.size + numBits : Nat) : Int) by omega, k_arrayEnsureCapacity_eq]
  simp only [tryR_ok]
  rw [loop_down_fold' (fun (p : List Nat × Nat) => (words p.1, (p.2 : Int))) (WArr.appendBitsStep value) numBits
        ((WArr.ensureCapacity a (a.size + numBits)).words, (WArr.ensureCapacity a (a.size + numBits)).size)
        (by rw [ensureCapacity_size]) (by rw [tripDown_one]; omega) rfl, ofRes_thenR]
  · cases hf : (List.range numBits).reverse.foldlM (WArr.appendBitsStep value)
        ((WArr.ensureCapacity a (a.size + numBits)).words, (WArr.ensureCapacity a (a.size + numBits)).size) with
    | ok p => rfl
    | error e =>
      have hn : NotArg e := by
        refine foldlM_error NotArg _ (fun t k e h => ?_) _ _ _ hf
        unfold WArr.appendBitsStep at h
        split at h
        · cases hu : updWord t.1 (t.2 / 32) (fun w => w ||| 1 <<< (t.2 % 32)) with
          | ok ws => rw [hu] at h; cases h
          | error e' => rw [hu] at h; injection h with h; subst h; exact updWord_error hu
        · cases h
      cases e <;> first | rfl | exact absurd rfl hn
  · intro k hk p
    obtain ⟨ws, n⟩ := p
    simp only [Gen.K16b.arrayAppendBits_body1, WArr.appendBitsStep]
    rw [shl_of_nonneg _ _ (by omega)]
    simp only [tryC_ok]
    rw [ishl_one, iand_natCast, natCast_bne_zero]
    cases hb : (value &&& 1 <<< k != 0) with
    | false => simp [Except.map]
    | true =>
      simp only [if_true]
      rw [shl_of_nonneg _ _ (by gonorm; omega)]
      simp only [tryC_ok]
      rw [updC ws (n / 32) (fun w => w ||| 1 <<< (n % 32))]
      · cases updWord ws (n / 32) _ <;> simp [Except.map]
      · exact tdiv32_natCast n
      · exact tdiv32_natCast n
      · intro w; rw [bit32_iand31_natCast, ior_natCast]

when_kernel Gzx.Gen.K16b.arrayAppendBitArray in
/-- `BitArray.AppendBitArray(other)` = `WArr.appendBitArray`: ensureCapacity(size+other.size), then `AppendBit(other.Get(i))`
    for every `i < other.size` (through the regenerated `Get` and `AppendBit`) -/
theorem k_arrayAppendBitArray_eq (a other : WArr) :
    Gen.K16b.arrayAppendBitArray (words a.words) a.size (words other.words) other.size =
      expAS (WArr.appendBitArray a other) := by
  simp only [Gen.K16b.arrayAppendBitArray, WArr.appendBitArray, expAS]
  rw [show (a.size : Int) + (other.size : Int) = ((a.size + other.size : Nat) : Int) by omega, k_arrayEnsureCapacity_eq]
  simp only [tryR_ok]
  generalize hF : (fun (b : WArr) (i : Nat) => do let bit ← other.get i; b.appendBit bit) = F
  rw [List.range_eq_range', loop_up_fold' (fun (b : WArr) => (words b.words, (b.size : Int)))
        F 0 other.size (WArr.ensureCapacity a (a.size + other.size))
        (by rw [ensureCapacity_size]) (by rw [tripUp_one]; omega) (by omega), ofRes_thenR]
  · cases (List.range' 0 other.size).foldlM F (WArr.ensureCapacity a (a.size + other.size)) <;> rfl
  · subst hF
    intro i _ _ b
    simp only [Gen.K16b.arrayAppendBitArray_body1]
    rw [k_arrayGet_eq]
    simp only [bind, Except.bind]
    cases other.get i with
    | error e => rfl
    | ok bit =>
      simp only [tryC_ok]
      rw [k_arrayAppendBit_eq]
      cases b.appendBit bit <;> rfl

/-- the scan loop of `GetNextSet` / `GetNextUnset` (`for currentBits == 0 { bitsOffset++; if bitsOffset == len { return size }; … }`)
    is the model's `scanNonzero` over the following words -/
theorem scan_while (ws : List Nat) (inv : Bool) (size : Int) (body : Int × Int → Ctl (Int × Int) Int)
    (hb0 : ∀ off cur : Nat, cur ≠ 0 → body ((off : Int), (cur : Int)) = .brk ((off : Int), (cur : Int)))
    (hb1 : ∀ off : Nat, off + 1 ≤ ws.length → body ((off : Int), 0) =
      if off + 1 = ws.length then .ret size
      else match ws[off + 1]? with
        | some w => .next (((off + 1 : Nat) : Int), ((if inv then not32 w else w : Nat) : Int))
        | none => .panic oob) :
    ∀ (k off cur fuel : Nat), off + 1 + k = ws.length → k < fuel →
      whileLoop body fuel ((off : Int), (cur : Int)) =
        match WArr.scanNonzero inv cur (ws.drop (off + 1)) off with
        | none => .ret size
        | some (o, c) => .brk ((o : Int), (c : Int)) := by
  intro k
  induction k with
  | zero =>
    intro off cur fuel hk hf
    obtain ⟨fuel, rfl⟩ : ∃ n, fuel = n + 1 := ⟨fuel - 1, by omega⟩
    rw [whileLoop_succ]
    unfold WArr.scanNonzero
    by_cases hc : cur = 0
    · subst hc
      have hd : ws.drop (off + 1) = [] := List.drop_eq_nil_of_le (by omega)
      rw [show ((0 : Nat) : Int) = 0 from rfl, hb1 off (by omega), if_pos (by omega), hd]
      simp
    · rw [hb0 off cur hc]; simp [hc]
  | succ k ih =>
    intro off cur fuel hk hf
    obtain ⟨fuel, rfl⟩ : ∃ n, fuel = n + 1 := ⟨fuel - 1, by omega⟩
    rw [whileLoop_succ]
    unfold WArr.scanNonzero
    by_cases hc : cur = 0
    · subst hc
      have hlt : off + 1 < ws.length := by omega
      have hd : ws.drop (off + 1) = ws[off + 1] :: ws.drop (off + 1 + 1) := List.drop_eq_getElem_cons hlt
      rw [show ((0 : Nat) : Int) = 0 from rfl, hb1 off (by omega), if_neg (by omega), hd, List.getElem?_eq_getElem hlt]
      simp only [ne_eq, not_true_eq_false, if_false]
      exact ih (off + 1) _ fuel (by omega) (by omega)
    · rw [hb0 off cur hc]; simp [hc]

/-- `GetNextSet` / `GetNextUnset` from the first word on (`w0`, read and masked): the scan and the answer.  The two
    bodies differ in what they make of a word they read (`pre`: nothing, or `^w` in 32 bits) -/
theorem next_from_word (a : WArr) (inv : Bool) (pre : Int → Int)
    (hpre : ∀ w ∈ a.words, pre (w : Int) = ((if inv then not32 w else w : Nat) : Int))
    (body : Int × Int → Ctl (Int × Int) Int)
    (hbody : ∀ off cur : Int, body (off, cur) =
      if (cur == 0) = true then
        if (off + 1 == len (words a.words)) = true then .ret (a.size : Int)
        else tryC (idx (words a.words) (off + 1)) fun t => .next (off + 1, pre t)
      else .brk (off, cur))
    (frm fuel w0 : Nat) (h1 : ¬ frm ≥ a.size) (hw : a.words[frm / 32]? = some w0) (hf : a.words.length < fuel) :
    ((whileLoop body fuel (((frm / 32 : Nat) : Int),
          (((if inv then not32 w0 else w0) &&& neg32 (1 <<< (frm % 32)) : Nat) : Int))).thenR fun st =>
        if st.1 * 32 + tz32 st.2 > (a.size : Int) then Except.ok (a.size : Int)
        else .ok (st.1 * 32 + tz32 st.2)) =
      (WArr.nextGeneric inv a frm).map Int.ofNat := by
  have hlt : frm / 32 < a.words.length := (List.getElem?_eq_some_iff.mp hw).1
  simp only [WArr.nextGeneric, if_neg h1, hw]
  rw [scan_while a.words inv (a.size : Int) _ ?_ ?_ (a.words.length - (frm / 32 + 1)) (frm / 32) _ fuel (by omega) (by omega)]
  · cases WArr.scanNonzero inv ((if inv then not32 w0 else w0) &&& neg32 (1 <<< (frm % 32)))
        (a.words.drop (frm / 32 + 1)) (frm / 32) with
    | none => rfl
    | some p =>
      obtain ⟨o, c⟩ := p
      simp only [brk_thenR, tz32_natCast, Except.map]
      by_cases hr : o * 32 + Bits.tz32 c > a.size
      · resolve_ifs; rfl
      · resolve_ifs; congr 1
  · intro off cur hc
    have : ((cur : Int) == 0) = false := by simp; omega
    rw [hbody, this]; rfl
  · intro off hoff
    rw [hbody, len_words]
    by_cases he : off + 1 = a.words.length
    · have : ((off : Int) + 1 == (a.words.length : Int)) = true := by simp; omega
      simp [this, he]
    · have : ((off : Int) + 1 == (a.words.length : Int)) = false := by simp; omega
      simp only [beq_self_eq_true, if_true, this, Bool.false_eq_true, if_false, he]
      rw [idxC a.words (off + 1) _ (by omega)]
      unfold wordAt
      have hl : off + 1 < a.words.length := by omega
      rw [List.getElem?_eq_getElem hl]
      simp only []
      rw [hpre _ (List.getElem_mem hl)]
      rfl

when_kernel Gzx.Gen.K16b.arrayGetNextSet in
/-- `BitArray.GetNextSet(from)` = `WArr.getNextSet` for every fuel above `len(bits)`: `from >= size`, the first word masked with
    `-(1 << (from&31))`, the scan over the following words with the early `return size` at the end of the slice,
    `bitsOffset*32 + TrailingZeros32`, capped at `size` -/
theorem k_arrayGetNextSet_eq (a : WArr) (frm fuel : Nat) (hf : a.words.length < fuel) :
    Gen.K16b.arrayGetNextSet fuel (words a.words) a.size frm = (WArr.getNextSet a frm).map Int.ofNat := by
  simp only [Gen.K16b.arrayGetNextSet, WArr.getNextSet]
  by_cases h1 : frm ≥ a.size
  · simp only [WArr.nextGeneric]; resolve_ifs; rfl
  resolve_ifs
  rw [idxR a.words (frm / 32) _ (tdiv32_natCast frm)]
  cases hw : a.words[frm / 32]? with
  | none => simp only [WArr.nextGeneric, wordAt, hw, if_neg h1]; rfl
  | some w0 =>
    simp only [wordAt, hw]
    have hcur : iand (w0 : Int) (wrap 32 (-(wrap 32 (ishl 1 (wrap 64 (iand (frm : Int) 31)))))) =
        (((if false then not32 w0 else w0) &&& neg32 (1 <<< (frm % 32)) : Nat) : Int) := by
      rw [wrap64_iand31_natCast, bit_natCast _ (frm % 32) rfl (Nat.mod_lt _ (by decide)), neg32_natCast, iand_natCast]; rfl
    rw [hcur, tdiv32_natCast]
    exact next_from_word a false id (fun _ _ => rfl) (Gen.K16b.arrayGetNextSet_body1 (words a.words) a.size) (fun _ _ => rfl)
      frm fuel w0 h1 hw hf

when_kernel Gzx.Gen.K16b.arrayGetNextUnset in
/-- `BitArray.GetNextUnset(from)` = `WArr.getNextUnset` on an array whose words are below 2^32 (part of the representation
    invariant), for every fuel above `len(bits)`: as `GetNextSet` on the complemented words (`^b.bits[i]` in 32 bits) -/
theorem k_arrayGetNextUnset_eq (a : WArr) (h32 : ∀ w ∈ a.words, w < W32) (frm fuel : Nat) (hf : a.words.length < fuel) :
    Gen.K16b.arrayGetNextUnset fuel (words a.words) a.size frm = (WArr.getNextUnset a frm).map Int.ofNat := by
  simp only [Gen.K16b.arrayGetNextUnset, WArr.getNextUnset]
  by_cases h1 : frm ≥ a.size
  · simp only [WArr.nextGeneric]; resolve_ifs; rfl
  resolve_ifs
  rw [idxR a.words (frm / 32) _ (tdiv32_natCast frm)]
  cases hw : a.words[frm / 32]? with
  | none => simp only [WArr.nextGeneric, wordAt, hw, if_neg h1]; rfl
  | some w0 =>
    simp only [wordAt, hw]
    have hw0 : w0 < W32 := by
      have := (List.getElem?_eq_some_iff.mp hw).2
      rw [← this]; exact h32 _ (List.getElem_mem _)
    have hcur : iand (wrap 32 (inot (w0 : Int))) (wrap 32 (-(wrap 32 (ishl 1 (wrap 64 (iand (frm : Int) 31)))))) =
        (((if true then not32 w0 else w0) &&& neg32 (1 <<< (frm % 32)) : Nat) : Int) := by
      rw [wrap64_iand31_natCast, bit_natCast _ (frm % 32) rfl (Nat.mod_lt _ (by decide)), neg32_natCast,
        not32_natCast _ hw0, iand_natCast]; rfl
    rw [hcur, tdiv32_natCast]
    exact next_from_word a true (fun t => wrap 32 (inot t)) (fun w hw => not32_natCast w (h32 w hw))
      (Gen.K16b.arrayGetNextUnset_body1 (words a.words) a.size) (fun _ _ => rfl) frm fuel w0 h1 hw hf

/-- non-vacuity of `k_arrayGetNextSet_eq`: fuel 3 for a two-word array -/
example : ∃ (a : WArr) (fuel : Nat), a.words.length < fuel ∧ WArr.getNextSet a 3 = .ok 34 := ⟨⟨[5, 4], 40⟩, 3, by decide, by decide⟩

/-- non-vacuity of `k_arrayGetNextUnset_eq` -/
example : ∃ a : WArr, (∀ w ∈ a.words, w < W32) ∧ a.words.length < 3 := ⟨⟨[5, 4294967295], 40⟩, by decide, by decide⟩

/-! ### ToBytes -/

/-- one step of the inner loop of `ToBytes` with the running bit offset in the state -/
def toBytesBitStep (a : WArr) (p : Nat × Nat) (j : Nat) : Res (Nat × Nat) := do
  let bit ← a.get p.1
  pure (p.1 + 1, if bit then p.2 ||| (1 <<< (7 - j)) else p.2)

theorem toBytesBit_fold (a : WArr) (bo : Nat) : ∀ (n j0 tb : Nat),
    (List.range' j0 n).foldlM (toBytesBitStep a) (bo + j0, tb) =
      ((List.range' j0 n).foldlM (fun theByte j => do
        let bit ← a.get (bo + j)
        pure (if bit then theByte ||| (1 <<< (7 - j)) else theByte)) tb).map (fun tb' => (bo + (j0 + n), tb')) := by
  intro n
  induction n with
  | zero => intro j0 tb; simp [pure, Except.pure, Except.map]
  | succ n ih =>
    intro j0 tb
    simp only [List.range', List.foldlM, toBytesBitStep, bind, Except.bind]
    cases a.get (bo + j0) with
    | error e => rfl
    | ok bit =>
      simp only [pure, Except.pure]
      have := ih (j0 + 1) (if bit then tb ||| (1 <<< (7 - j0)) else tb)
      rw [show bo + (j0 + 1) = bo + j0 + 1 by omega] at this
      rw [this]
      congr 2; funext tb'; congr 1; omega

/-- one step of the outer loop of `ToBytes` with the running bit offset in the state -/
def toBytesByteStep (a : WArr) (offset : Nat) (p : Nat × List Nat) (i : Nat) : Res (Nat × List Nat) := do
  let theByte ← WArr.toBytesByte a p.1
  if offset + i < p.2.length then pure (p.1 + 8, p.2.set (offset + i) theByte)
  else .error (.panic "index out of range")

theorem toBytesByte_fold (a : WArr) (bo offset : Nat) : ∀ (n i0 : Nat) (arr : List Nat),
    (List.range' i0 n).foldlM (toBytesByteStep a offset) (bo + 8 * i0, arr) =
      ((List.range' i0 n).foldlM (fun (arr : List Nat) i => do
        let theByte ← WArr.toBytesByte a (bo + 8 * i)
        if offset + i < arr.length then pure (arr.set (offset + i) theByte)
        else .error (.panic "index out of range")) arr).map (fun arr' => (bo + 8 * (i0 + n), arr')) := by
  intro n
  induction n with
  | zero => intro i0 arr; simp [pure, Except.pure, Except.map]
  | succ n ih =>
    intro i0 arr
    simp only [List.range', List.foldlM, toBytesByteStep, bind, Except.bind]
    cases WArr.toBytesByte a (bo + 8 * i0) with
    | error e => rfl
    | ok tb =>
      simp only []
      by_cases hl : offset + i0 < arr.length
      · simp only [hl, if_true, pure, Except.pure]
        have := ih (i0 + 1) (arr.set (offset + i0) tb)
        rw [show bo + 8 * (i0 + 1) = bo + 8 * i0 + 8 by omega] at this
        rw [this]
        congr 2; funext arr'; congr 1; omega
      · simp only [hl, if_false]; rfl

when_kernel Gzx.Gen.K16b.arrayToBytes in
/-- `BitArray.ToBytes(bitOffset, array, offset, numBytes)` = `WArr.toBytes`: for every output byte eight `Get(bitOffset)` with
    `bitOffset++`, bit `7-j` of a `byte`, stored at `array[offset+i]` (index panics of `Get` and of the store) -/
theorem k_arrayToBytes_eq (a : WArr) (bitOffset : Nat) (array : List Nat) (offset numBytes : Nat) :
    Gen.K16b.arrayToBytes (words a.words) bitOffset (words array) offset numBytes =
      (WArr.toBytes a bitOffset array offset numBytes).map words := by
  simp only [Gen.K16b.arrayToBytes]
  have hm : (List.range' 0 numBytes).foldlM (toBytesByteStep a offset) (bitOffset, array) =
      (WArr.toBytes a bitOffset array offset numBytes).map (fun arr' => (bitOffset + 8 * numBytes, arr')) := by
    have := toBytesByte_fold a bitOffset offset numBytes 0 array
    rw [show bitOffset + 8 * 0 = bitOffset by omega, Nat.zero_add] at this
    rw [this, WArr.toBytes, List.range_eq_range']
  have hm2 : ∀ bo, (List.range' 0 8).foldlM (toBytesBitStep a) (bo, 0) =
      (WArr.toBytesByte a bo).map (fun tb => (bo + 8, tb)) := by
    intro bo
    have := toBytesBit_fold a bo 8 0 0
    rw [show bo + 0 = bo by omega, Nat.zero_add] at this
    rw [this, WArr.toBytesByte, List.range_eq_range']
  rw [loop_up_fold' (fun (p : Nat × List Nat) => ((p.1 : Int), words p.2)) (toBytesByteStep a offset) 0 numBytes (bitOffset, array)
        rfl (by rw [tripUp_one]; omega) (by omega), ofRes_thenR, hm]
  · cases WArr.toBytes a bitOffset array offset numBytes <;> rfl
  · intro i _ _ p
    obtain ⟨bo, arr⟩ := p
    simp only [Gen.K16b.arrayToBytes_body1]
    rw [show (0 : Int) = ((0 : Nat) : Int) from rfl,
      loop_up_fold' (fun (p : Nat × Nat) => ((p.1 : Int), (p.2 : Int))) (toBytesBitStep a) 0 8 (bo, 0) rfl
        (by rw [tripUp_one]; omega) rfl, ofRes_thenC, hm2]
    · simp only [toBytesByteStep, bind, Except.bind]
      cases WArr.toBytesByte a bo with
      | error e => rfl
      | ok tb =>
        simp only [Except.map]
        rw [setC arr (offset + i) tb _ (by omega) rfl]
        unfold setWord
        by_cases hl : offset + i < arr.length
        · simp [hl, pure, Except.pure]
        · simp [hl]
    · intro j _ hj q
      obtain ⟨bo', tb⟩ := q
      simp only [Gen.K16b.arrayToBytes_body2, toBytesBitStep]
      rw [k_arrayGet_eq]
      simp only [bind, Except.bind]
      cases a.get bo' with
      | error e => rfl
      | ok bit =>
        simp only [tryC_ok, pure, Except.pure, Except.map, ofRes_ok]
        cases bit with
        | false => simp
        | true =>
          have hb : wrap 8 (ishl 1 (wrap 64 (7 - (j : Int)))) = ((1 <<< (7 - j) : Nat) : Int) := by
            rw [show wrap 64 (7 - (j : Int)) = ((7 - j : Nat) : Int) by gonorm; omega, ishl_one, wrap_natCast]
            congr 1
            apply Nat.mod_eq_of_lt
            rw [Nat.one_shiftLeft]
            exact Nat.pow_lt_pow_right (by decide) (by omega)
          simp only [if_true, next_thenC]
          rw [hb, ior_natCast]
          simp

/-! ### Reverse -/

/-- the realignment loop of `Reverse` (`nextInt := newBits[i]; currentInt |= nextInt << (32-leftOffset); newBits[i-1] = currentInt;
    currentInt = nextInt >> leftOffset`, then `newBits[oldBitsLen-1] = currentInt`) is the model's `shiftLoop` over the words -/
theorem reverse_shift_loop {σ : Type} (lo : Nat) (body : Int → List Int × Int → Ctl (List Int × Int) (List Int))
    (hb : ∀ (i : Nat) (ws : List Nat) (cur : Nat), 1 ≤ i → body (i : Int) (words ws, (cur : Int)) =
      match ws[i]? with
      | none => .panic oob
      | some r =>
        match setWord ws (i - 1) (cur ||| shl32 r (32 - lo)) with
        | .ok ws' => .next (words ws', ((r >>> lo : Nat) : Int))
        | .error e => .panic e)
    (e : Int) (k : List Int → Ctl σ (List Int)) :
    ∀ (rest out : List Nat) (x cur : Nat) (T : List Nat), e = ((out.length + rest.length : Nat) : Int) →
      (loop body 1 rest.length ((out.length + 1 : Nat) : Int) (words (out ++ x :: rest ++ T), (cur : Int))).thenC
          (fun st => tryC (setIdx st.1 e st.2) k) =
        k (words (out ++ WArr.shiftLoop lo rest cur ++ T)) := by
  intro rest
  induction rest with
  | nil =>
    intro out x cur T he
    simp only [List.length_nil, loop_zero, next_thenC, WArr.shiftLoop, Nat.add_zero] at *
    rw [setC (out ++ x :: [] ++ T) out.length cur k he rfl]
    simp [setWord]
  | cons r rest ih =>
    intro out x cur T he
    rw [List.length_cons, loop_succ, hb (out.length + 1) _ cur (by omega)]
    have h1 : (out ++ x :: (r :: rest) ++ T)[out.length + 1]? = some r := by simp
    rw [h1]
    simp only [Nat.add_sub_cancel]
    have h2 : setWord (out ++ x :: (r :: rest) ++ T) out.length (cur ||| shl32 r (32 - lo)) =
        .ok ((out ++ [cur ||| shl32 r (32 - lo)]) ++ r :: rest ++ T) := by
      simp [setWord]
    rw [h2]
    simp only []
    have h3 : ((out.length + 1 : Nat) : Int) + 1 = (((out ++ [cur ||| shl32 r (32 - lo)]).length + 1 : Nat) : Int) := by
      simp
    rw [h3, ih (out ++ [cur ||| shl32 r (32 - lo)]) r (r >>> lo) T (by rw [he]; simp; omega)]
    simp [WArr.shiftLoop]

when_kernel Gzx.Gen.K16b.arrayReverse in
/-- `BitArray.Reverse()` = `WArr.reverse` on an array with enough words (`size ≤ 32*len(bits)`, part of the invariant): a new slice,
    `newBits[len-i] = Reverse32(bits[i])` for the words that hold bits, and — when `size` is not a multiple of 32 — the
    realignment by `leftOffset = oldBitsLen*32 - size` bits -/
theorem k_arrayReverse_eq (a : WArr) (hcap : a.size ≤ a.words.length * 32) :
    Gen.K16b.arrayReverse (words a.words) a.size = expA (WArr.reverse a) := by
  simp only [Gen.K16b.arrayReverse, WArr.reverse, expA]
  by_cases h0 : a.size = 0
  · resolve_ifs; rfl
  rw [if_neg (by simpa using h0), if_neg h0]
  have hlen : Int.tdiv ((a.size : Int) - 1) 32 = (((a.size - 1) / 32 : Nat) : Int) := by
    rw [show (a.size : Int) - 1 = ((a.size - 1 : Nat) : Int) by omega]; exact tdiv32_natCast _
  rw [mk_nats _ a.words.length (len_words _), hlen]
  simp only [tryR_ok]
  -- from here on only the two bounds on the index `lw` of the last word are used, not the division
  generalize hlw : (a.size - 1) / 32 = lw
  have hlw1 : lw * 32 < a.size := by omega
  have hlw2 : a.size ≤ lw * 32 + 32 := by omega
  clear hlw hlen
  generalize hF : (fun (nb : List Nat) (i : Nat) => do
        let w ← wordAt a.words i
        setWord nb (lw - i) (rev32 w)) = F
  rw [List.range_eq_range', loop_up_fold' words F 0 (lw + 1) (List.replicate a.words.length 0) rfl
        (by rw [tripUp_one]; omega) (by omega), ofRes_thenR]
  · cases hf : (List.range' 0 (lw + 1)).foldlM F (List.replicate a.words.length 0) with
    | error e => rfl
    | ok nb1 =>
      have hl1 : nb1.length = a.words.length := by
        refine foldlM_inv (·.length = a.words.length) F (fun ws i ws' hp h => ?_) _ _ _ List.length_replicate hf
        subst hF
        simp only [bind, Except.bind] at h
        cases hw : wordAt a.words i with
        | error e => rw [hw] at h; cases h
        | ok w => rw [hw] at h; rw [setWord_length h, hp]
      simp only [Except.map]
      by_cases hs : a.size = (lw + 1) * 32
      · resolve_ifs
        rfl
      · resolve_ifs
        have hlo : wrap 64 ((((lw : Nat) : Int) + 1) * 32 - (a.size : Int)) =
            (((lw + 1) * 32 - a.size : Nat) : Int) := by gonorm; omega
        rw [hlo]
        have hn : lw + 1 ≤ nb1.length := by omega
        obtain ⟨w0, rest, T, hnb, hrl⟩ : ∃ w0 rest T, nb1 = w0 :: rest ++ T ∧ rest.length = lw ∧ True := by
          cases nb1 with
          | nil => simp at hn
          | cons w0 tl =>
            refine ⟨w0, tl.take (lw), tl.drop (lw), by simp, ?_, trivial⟩
            simp only [List.length_cons] at hn
            rw [List.length_take]; omega
        obtain ⟨hrl, _⟩ := hrl
        subst hnb
        rw [idxC (w0 :: rest ++ T) 0 _ (by omega)]
        simp only [wordAt, List.cons_append, List.getElem?_cons_zero, ishr_natCast]
        have key := reverse_shift_loop ((lw + 1) * 32 - a.size)
          (Gen.K16b.arrayReverse_body2 ((((lw + 1) * 32 - a.size : Nat)) : Int)) ?_
          (((lw : Nat) : Int) + 1 - 1) (fun t7 => (Ctl.next t7 : Ctl (List Int) (List Int))) rest [] w0
          (w0 >>> ((lw + 1) * 32 - a.size)) T (by simp; omega)
        · simp only [List.nil_append, List.length_nil, Nat.zero_add] at key
          rw [show ((1 : Nat) : Int) = 1 from rfl] at key
          rw [show tripUp 1 (((lw : Nat) : Int) + 1) 1 = rest.length by rw [tripUp_one]; omega]
          rw [show (w0 :: (rest ++ T)) = (w0 :: rest ++ T) from rfl, key]
          simp only [next_thenR]
          have ht : (w0 :: rest ++ T).take (lw + 1) = w0 :: rest := by
            simp [hrl]
          have hd : (w0 :: rest ++ T).drop (lw + 1) = T := by
            simp [hrl]
          rw [ht, hd]
        · intro i ws cur hi
          simp only [Gen.K16b.arrayReverse_body2]
          rw [idxC ws i _ rfl]
          unfold wordAt
          cases ws[i]? with
          | none => rfl
          | some r =>
            simp only []
            have hsh : ior (cur : Int) (wrap 32 (ishl (r : Int) (wrap 64 (32 -
                (((lw + 1) * 32 - a.size : Nat) : Int))))) =
                ((cur ||| shl32 r (32 - ((lw + 1) * 32 - a.size)) : Nat) : Int) := by
              rw [show wrap 64 (32 - (((lw + 1) * 32 - a.size : Nat) : Int)) =
                  ((32 - ((lw + 1) * 32 - a.size) : Nat) : Int) by gonorm; omega,
                ishl_natCast, wrap_natCast, ior_natCast]
              rfl
            rw [hsh, setC ws (i - 1) _ _ (by omega) rfl, ishr_natCast]
            cases setWord ws (i - 1) _ <;> rfl
  · subst hF
    intro i _ hi nb
    simp only [Gen.K16b.arrayReverse_body1]
    rw [idxC a.words i _ rfl]
    simp only [bind, Except.bind]
    cases wordAt a.words i with
    | error e => rfl
    | ok w =>
      simp only []
      rw [setC nb (lw - i) (rev32 w) _ (by omega) (rev32_natCast w)]
      cases setWord nb _ _ <;> rfl

/-- non-vacuity of `k_arrayReverse_eq`: 40 bits in two words -/
example : ∃ a : WArr, a.size ≤ a.words.length * 32 ∧ a.size % 32 ≠ 0 ∧ (WArr.reverse a).isOk :=
  ⟨⟨[5, 128], 40⟩, by decide, by decide, by decide⟩

end Gzx.Obligations.K16bArr
