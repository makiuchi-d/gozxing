/-
  K19c — the regenerated `SampleGridWithTransform` (`Gen.K19b.sampleGridWT`) with its environment
  instantiated by the REGENERATED AND TIED callees (`Gen.K19.transformPoints`, `Gen.K19.checkAndNudge`, both over exact rationals)
  equals the hand-written model `GridSampler.sampleGridWithTransform` (Model/GridSampler.lean) that the C19 theorems are about:
  `k_sampleGrid_model`.  The result matrix is represented by the list of its `Set(x, y)` calls (`setsFrom`: the dark cells of the
  model's rows in reading order).  Hypotheses: the image answers `Get` inside its bounds (`hget`; BitMatrix.Get does), and no
  sampled point has a vanishing denominator (`hden`: there the model answers NotFound for Go's ±Inf / NaN, exact rationals have
  no such values).
-/
import Gzx.Obligations.K19b
import Gzx.Obligations.K19
import Gzx.Obligations.K19P
import Gzx.Proofs.GridSampler
namespace Gzx.Obligations.K19c
open Gzx Gzx.GoM Gzx.GridSampler Gzx.Perspective Gzx.K19 Gzx.Obligations.K19b

when_kernel Gzx.Gen.K19.transformPoints in
when_kernel Gzx.Gen.K19.checkAndNudge in
/-- the environment of the sampler built from the regenerated callees (exact rationals; `S` = the list of `Set` calls).  The
    callees are `Res`-valued and the environment's fields are not: an `.error` is mapped to "slice unchanged" / "NotFound".  Both
    branches are dead — `k_transformPoints_eq` and `k_checkAndNudge_eq` show the callees never fail — which is what
    `env_transform` and `env_nudge` below say. -/
def envOf (img : Image) (t : PT Rat) (g : Int → Int → Bool) (fuel : Nat) : Gen.K19b.sampleGridWT_Env Rat (List (Int × Int)) where
  NewBitMatrix := fun _ _ => []
  PerspectiveTransform_TransformPoints := fun pts =>
    match Gen.K19.transformPoints ratOps t.a11 t.a21 t.a31 t.a12 t.a22 t.a32 t.a13 t.a23 t.a33 pts with
    | .ok r => r
    | .error _ => pts
  GridSampler_checkAndNudgePoints := fun pts =>
    match Gen.K19.checkAndNudge ratOps fuel img.w img.h pts with
    | .ok r => r
    | .error _ => (true, pts)
  BitMatrix_GetWidth := img.w
  BitMatrix_GetHeight := img.h
  BitMatrix_Get := g
  BitMatrix_Set := fun b x y => b ++ [(x, y)]

/-- the `Set(x, y)` calls of one row of the model's result, columns numbered from `k` -/
def setsRow (row : List Bool) (k : Nat) (y : Int) : List (Int × Int) :=
  (row.zipIdx k).filterMap (fun p => if p.1 then some (((p.2 : Nat) : Int), y) else none)

/-- … of the rows, numbered from `k` -/
def setsFrom (rows : List (List Bool)) (k : Nat) : List (Int × Int) :=
  (rows.zipIdx k).flatMap (fun p => setsRow p.1 0 ((p.2 : Nat) : Int))

/-! ## the callees on a row -/

theorem half_rat : half ratOps = (1 / 2 : Rat) := rfl

/-- the fill loop's points are the model's cell centres, interleaved -/
theorem centres_rat (y : Nat) : ∀ n : Nat, centres ratOps n ((y : Nat) : Int) = fromPairs (rowCentres n y)
  | 0 => rfl
  | n + 1 => by
    have ih := centres_rat y n
    unfold centres rowCentres at ih ⊢
    rw [show 2 * (n + 1) = 2 * n + 1 + 1 by omega, List.range_succ, List.range_succ, List.map_append, List.map_append, ih,
      List.range_succ, List.map_append]
    simp only [List.map_cons, List.map_nil]
    rw [fromPairs_snoc]
    simp only [List.append_assoc, List.cons_append, List.nil_append]
    congr 2
    · unfold centreAt
      have e1 : (2 * n) % 2 = 0 := by omega
      have e2 : 2 * n / 2 = n := by omega
      simp only [e1, e2, if_true]
      rfl
    · congr 1
      unfold centreAt
      have e1 : ¬ ((2 * n + 1) % 2 = 0) := by omega
      simp only [e1, if_false]
      rfl

when_kernel Gzx.Gen.K19.transformPoints in
when_kernel Gzx.Gen.K19.checkAndNudge in
/-- the environment's `TransformPoints` is the model's (the `.error` branch of `envOf` is never taken) -/
theorem env_transform (img : Image) (t : PT Rat) (g : Int → Int → Bool) (fuel : Nat) (pts : List Rat) :
    (envOf img t g fuel).PerspectiveTransform_TransformPoints pts = t.transformPoints pts := by
  show (match Gen.K19.transformPoints ratOps t.a11 t.a21 t.a31 t.a12 t.a22 t.a32 t.a13 t.a23 t.a33 pts with
    | .ok r => r | .error _ => pts) = _
  rw [Obligations.K19P.k_transformPoints_eq ratOps ratOps_fieldLike t pts]

when_kernel Gzx.Gen.K19.transformPoints in
when_kernel Gzx.Gen.K19.checkAndNudge in
/-- the environment's `checkAndNudgePoints` on the points of a row is the model's `checkAndNudge`, its error flag up exactly
    for NotFound (the `.error` branch of `envOf` is never taken) -/
theorem env_nudge (img : Image) (t : PT Rat) (g : Int → Int → Bool) (fuel : Nat) (ps : List Pt) (hf : 2 * ps.length < fuel) :
    match checkAndNudge img.w img.h ps with
    | .ok ps' => (envOf img t g fuel).GridSampler_checkAndNudgePoints (fromPairs ps) = (false, fromPairs ps')
    | .error _ => ((envOf img t g fuel).GridSampler_checkAndNudgePoints (fromPairs ps)).1 = true := by
  have hk := Obligations.K19.k_checkAndNudge_model fuel img.w img.h ps hf
  cases hm : checkAndNudge img.w img.h ps with
  | ok ps' =>
    rw [hm] at hk
    show (match Gen.K19.checkAndNudge ratOps fuel img.w img.h (fromPairs ps) with | .ok r => r | .error _ => (true, fromPairs ps)) = _
    rw [hk]
  | error e =>
    rw [hm] at hk
    obtain ⟨_, out, ho⟩ := hk
    show (match Gen.K19.checkAndNudge ratOps fuel img.w img.h (fromPairs ps) with | .ok r => r | .error _ => (true, fromPairs ps)).1 = true
    rw [ho]

/-! ## the reading loop on the model's points -/

theorem setsRow_cons (b : Bool) (row : List Bool) (k : Nat) (y : Int) :
    setsRow (b :: row) k y = (if b then [(((k : Nat) : Int), y)] else []) ++ setsRow row (k + 1) y := by
  unfold setsRow
  cases b <;> simp [List.zipIdx_cons]

when_kernel Gzx.Gen.K19.transformPoints in
when_kernel Gzx.Gen.K19.checkAndNudge in
/-- the reading recursion of the closed form on the interleaved points `ps` (behind `2·k` elements already read) is the
    model's `readPoint` over `ps`: the `Set` calls of the dark cells of the row, or NotFound -/
theorem read_pairs (img : Image) (t : PT Rat) (g : Int → Int → Bool) (fuel : Nat) (y : Int)
    (hget : ∀ x y, 0 ≤ x → x < img.w → 0 ≤ y → y < img.h → img.get x y = .ok (g x y)) :
    ∀ (ps : List Pt) (pre : List Rat) (k : Nat) (bits : List (Int × Int)), pre.length = 2 * k →
      readFrom ratOps (envOf img t g fuel) (pre ++ fromPairs ps) y ps.length k bits =
        match mapRes (readPoint img) ps with
        | .ok row => some (bits ++ setsRow row k y)
        | .error _ => none := by
  intro ps
  induction ps with
  | nil => intro pre k bits _; simp [readFrom, mapRes, setsRow]
  | cons p ps ih =>
    intro pre k bits hpre
    have h0 : (pre ++ fromPairs (p :: ps))[2 * k]? = some p.1 := by
      rw [List.getElem?_append_right (by omega), hpre, Nat.sub_self]; rfl
    have h1 : (pre ++ fromPairs (p :: ps))[2 * k + 1]? = some p.2 := by
      rw [List.getElem?_append_right (by omega), hpre, show 2 * k + 1 - 2 * k = 1 by omega]; rfl
    simp only [List.length_cons, readFrom, h0, h1, mapRes, readPoint, readPointG]
    simp only [ratOps_toInt]
    by_cases hc : trunc p.1 < 0 ∨ trunc p.2 < 0 ∨ trunc p.1 ≥ (envOf img t g fuel).BitMatrix_GetWidth ∨
        trunc p.2 ≥ (envOf img t g fuel).BitMatrix_GetHeight
    · have hb : ((true && (decide (trunc p.1 < 0) || decide (trunc p.2 < 0))) || decide (trunc p.1 ≥ img.w) || decide (trunc p.2 ≥ img.h)) = true := by
        have hc' : trunc p.1 < 0 ∨ trunc p.2 < 0 ∨ trunc p.1 ≥ img.w ∨ trunc p.2 ≥ img.h := hc
        simp only [Bool.true_and, Bool.or_eq_true, decide_eq_true_eq]; omega
      simp only [hc, hb, if_true]
    · have hc' : ¬ (trunc p.1 < 0 ∨ trunc p.2 < 0 ∨ trunc p.1 ≥ img.w ∨ trunc p.2 ≥ img.h) := hc
      have hb : ((true && (decide (trunc p.1 < 0) || decide (trunc p.2 < 0))) || decide (trunc p.1 ≥ img.w) || decide (trunc p.2 ≥ img.h)) = false := by
        simp only [Bool.true_and, Bool.or_eq_false_iff, decide_eq_false_iff_not]; omega
      simp only [hc, hb, Bool.false_eq_true, if_false]
      rw [hget _ _ (by omega) (by omega) (by omega) (by omega)]
      have e : pre ++ fromPairs (p :: ps) = (pre ++ [p.1, p.2]) ++ fromPairs ps := by simp [fromPairs]
      rw [e, ih (pre ++ [p.1, p.2]) (k + 1) _ (by simp; omega)]
      simp only []
      cases mapRes (readPoint img) ps with
      | error e => rfl
      | ok row =>
        simp only [setsRow_cons]
        show some ((if g (trunc p.1) (trunc p.2) = true then bits ++ [(((k : Nat) : Int), y)] else bits) ++ setsRow row (k + 1) y) = _
        cases g (trunc p.1) (trunc p.2) <;> simp

/-! ## rows and the whole grid -/

theorem setsFrom_cons (row : List Bool) (rows : List (List Bool)) (k : Nat) :
    setsFrom (row :: rows) k = setsRow row 0 ((k : Nat) : Int) ++ setsFrom rows (k + 1) := by
  unfold setsFrom
  simp [List.zipIdx_cons]

when_kernel Gzx.Gen.K19b.sampleGridWT in
when_kernel Gzx.Gen.K19.transformPoints in
when_kernel Gzx.Gen.K19.checkAndNudge in
/-- one row of the closed form with the tied callees is the model's `sampleRow`: centres, transform, nudge, read -/
theorem row_model (img : Image) (t : PT Rat) (g : Int → Int → Bool) (fuel n : Nat) (hf : 2 * n < fuel)
    (hget : ∀ x y, 0 ≤ x → x < img.w → 0 ≤ y → y < img.h → img.get x y = .ok (g x y))
    (y : Nat) (hden : transformRow t (rowCentres n y) ≠ none) (bits : List (Int × Int)) :
    (rowSpec ratOps (envOf img t g fuel) n ((y : Nat) : Int) bits).2 =
      match sampleRow img t n y with
      | .ok row => some (bits ++ setsRow row 0 ((y : Nat) : Int))
      | .error _ => none := by
  unfold rowSpec sampleRow
  simp only []
  cases htr : transformRow t (rowCentres n y) with
  | none => exact absurd htr hden
  | some qs =>
    simp only []
    rw [centres_rat, env_transform, transformPoints_row t _ qs htr]
    have hql : qs.length = n := by
      have := (transformRow_some htr).length_eq
      simp [rowCentres] at this; omega
    have hn := env_nudge img t g fuel qs (by omega)
    cases hc : checkAndNudge img.w img.h qs with
    | error e =>
      rw [hc] at hn
      simp only [] at hn
      simp only [hn, if_true]
    | ok ps' =>
      rw [hc] at hn
      simp only [] at hn
      rw [hn]
      simp only [Bool.false_eq_true, if_false]
      have hpl : ps'.length = n := by rw [checkAndNudge_length hc, hql]
      have := read_pairs img t g fuel ((y : Nat) : Int) hget ps' [] 0 bits rfl
      rw [hpl] at this
      simp only [List.nil_append] at this
      rw [this]

when_kernel Gzx.Gen.K19b.sampleGridWT in
when_kernel Gzx.Gen.K19.transformPoints in
when_kernel Gzx.Gen.K19.checkAndNudge in
/-- the rows `k … k+m-1` of the closed form are the model's sampled rows, as the `Set` calls of their dark cells -/
theorem rows_model (img : Image) (t : PT Rat) (g : Int → Int → Bool) (fuel n : Nat) (hf : 2 * n < fuel)
    (hget : ∀ x y, 0 ≤ x → x < img.w → 0 ≤ y → y < img.h → img.get x y = .ok (g x y)) :
    ∀ (m k : Nat) (bits : List (Int × Int)), (∀ y, k ≤ y → y < k + m → transformRow t (rowCentres n y) ≠ none) →
      rowsSpec ratOps (envOf img t g fuel) n m ((k : Nat) : Int) bits =
        match mapRes (sampleRow img t n) (List.range' k m) with
        | .ok rows => some (bits ++ setsFrom rows k)
        | .error _ => none := by
  intro m
  induction m with
  | zero => intro k bits _; simp [rowsSpec, mapRes, setsFrom]
  | succ m ih =>
    intro k bits hden
    simp only [rowsSpec, List.range'_succ, mapRes]
    rw [row_model img t g fuel n hf hget k (hden k (Nat.le_refl k) (by omega)) bits]
    cases sampleRow img t n k with
    | error e => rfl
    | ok row =>
      simp only []
      rw [show ((k : Nat) : Int) + 1 = ((k + 1 : Nat) : Int) by omega, ih (k + 1) _ (fun y h1 h2 => hden y (by omega) (by omega))]
      cases mapRes (sampleRow img t n) (List.range' (k + 1) m) with
      | error e => rfl
      | ok rows => simp [setsFrom_cons]

when_kernel Gzx.Gen.K19b.sampleGridWT in
when_kernel Gzx.Gen.K19.transformPoints in
when_kernel Gzx.Gen.K19.checkAndNudge in
/-- **SampleGridWithTransform, Go source to model**: the regenerated sampler running the regenerated `TransformPoints` and
    `checkAndNudgePoints` (exact rationals) performs exactly the `Set` calls of the dark cells of
    `GridSampler.sampleGridWithTransform` in reading order, and answers NotFound exactly when the model does -/
theorem k_sampleGrid_model (img : Image) (t : PT Rat) (g : Int → Int → Bool) (fuel : Nat) (dimX dimY : Int)
    (hget : ∀ x y, 0 ≤ x → x < img.w → 0 ≤ y → y < img.h → img.get x y = .ok (g x y))
    (hden : ∀ y : Nat, y < dimY.toNat → transformRow t (rowCentres dimX.toNat y) ≠ none)
    (hf : 2 * dimX.toNat < fuel) :
    Gen.K19b.sampleGridWT ratOps (envOf img t g fuel) dimX dimY =
      .ok (match sampleGridWithTransform img dimX dimY t with
        | .ok rows => some (setsFrom rows 0)
        | .error _ => none) := by
  rw [k_sampleGridWT_eq_rows]
  · unfold sampleSpec sampleGridWithTransform
    by_cases hd : dimX ≤ 0 ∨ dimY ≤ 0
    · simp only [hd, if_true]
    · simp only [hd, if_false]
      have := rows_model img t g fuel dimX.toNat hf hget dimY.toNat 0 [] (fun y _ h2 => hden y (by omega))
      rw [show (((0 : Nat)) : Int) = 0 from rfl] at this
      rw [show (envOf img t g fuel).NewBitMatrix dimX dimY = [] from rfl, this, List.range_eq_range']
      cases mapRes (sampleRow img t dimX.toNat) (List.range' 0 dimY.toNat) with
      | error e => rfl
      | ok rows => simp
  · -- the nudged slice of a row that passes the test has the row's length
    intro y hy
    rw [env_transform] at hy ⊢
    have hl : (t.transformPoints (centres ratOps dimX.toNat y)).length = 2 * dimX.toNat := by
      rw [transformPoints_length t _, centres_length]
    obtain ⟨hfp, _⟩ := toPairs_even _ (by rw [hl]; omega)
    have hpl : (toPairs (t.transformPoints (centres ratOps dimX.toNat y))).1.length = dimX.toNat := by
      have := congrArg List.length hfp
      rw [hl, fromPairs_length] at this; omega
    have hn := env_nudge img t g fuel (toPairs (t.transformPoints (centres ratOps dimX.toNat y))).1 (by omega)
    rw [← hfp] at hn
    cases hc : checkAndNudge img.w img.h (toPairs (t.transformPoints (centres ratOps dimX.toNat y))).1 with
    | error e => rw [hc] at hn; simp only [] at hn; rw [hn] at hy; cases hy
    | ok ps' =>
      rw [hc] at hn
      simp only [] at hn
      rw [hn, fromPairs_length, checkAndNudge_length hc, hpl]

-- non-vacuity of the hypotheses: the identity transform on a 2x1 image given by rows (`Image.ofRows` answers inside its bounds,
-- no denominator vanishes); the model samples the dark left pixel
def idT : PT Rat := ⟨1, 0, 0, 0, 1, 0, 0, 0, 1⟩
example : ∀ y : Nat, y < (1 : Int).toNat → transformRow idT (rowCentres (2 : Int).toNat y) ≠ none := by decide +kernel
example : ∀ x y : Int, 0 ≤ x → x < (Image.ofRows 2 1 [[true, false]]).w → 0 ≤ y → y < (Image.ofRows 2 1 [[true, false]]).h →
    (Image.ofRows 2 1 [[true, false]]).get x y = .ok (([[true, false]].getD y.toNat []).getD x.toNat false) := by
  intro x y h0 h1 h2 h3
  have hw : (Image.ofRows 2 1 [[true, false]]).w = 2 := rfl
  have hh : (Image.ofRows 2 1 [[true, false]]).h = 1 := rfl
  rw [hw] at h1; rw [hh] at h3
  show (if x < 0 ∨ y < 0 ∨ x ≥ ((2 : Nat) : Int) ∨ y ≥ ((1 : Nat) : Int) then _ else _) = _
  have : ¬ (x < 0 ∨ y < 0 ∨ x ≥ ((2 : Nat) : Int) ∨ y ≥ ((1 : Nat) : Int)) := by omega
  rw [if_neg this]
example : sampleGridWithTransform (Image.ofRows 2 1 [[true, false]]) 2 1 idT = .ok [[true, false]] := by decide +kernel

end Gzx.Obligations.K19c
