/-
  C15 — per-run obligations over the ECI registry regenerated from common/character_set_eci.go.
-/
import Gzx.Driver.QRTables
import Gzx.Properties.C15
namespace Gzx.Obligations.C15
open Gzx Gzx.ECI

/-- every `newCharsetECI(...)` call still has the shape the typed view expects -/
theorem registry_decoded : QRTables.registry?.isSome = true := by decide +kernel

/-- `registry_consistent` of Properties/C15 for the registry the code has now: every value, name, alias
    and IANA name resolves to its own entry; primary values < 128; every charset has an IANA name -/
theorem registry_consistent : consistent QRTables.registry = true := by decide +kernel

/-- values and names of different entries are pairwise disjoint, in the structural reading: it follows from
    consistency, no entry being listed twice -/
theorem registry_disjoint : disjointPairs QRTables.registry = true :=
  Properties.C15.disjointPairs_of_consistent _ registry_consistent (by decide +kernel)

/-- 22 entries (a removed or added registration changes this number and must be reviewed) -/
theorem registry_size : QRTables.registry.length = 22 := by decide +kernel

end Gzx.Obligations.C15
