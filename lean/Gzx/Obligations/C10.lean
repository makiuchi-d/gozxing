/-
  C10 — per-run obligations over the tables regenerated from /repo/oned (Gzx.Gen.C10Tables):
  the parity tables the theorems of Properties/C10.lean are parametric in are well-formed (pairwise
  distinct, right shape) and equal to the standards' tables typed independently in Gzx.Ref.UPCEAN.
-/
import Gzx.Gen.C10Tables
import Gzx.Ref.UPCEAN
import Gzx.Properties.C10
namespace Gzx.Obligations.C10
open Gzx Gzx.CheckDigit Gzx.Properties.C10

def natList (v : GoVal) : List Nat := (v.asNatList?).getD []
def natListList (v : GoVal) : List (List Nat) := (v.asNatListList?).getD []
def strOf (v : GoVal) : String := (v.asStr?).getD ""

/-- `upce_NUMSYS_AND_CHECK_DIGIT_PATTERNS` is the standard's table (E=1; number system 1 = complement) -/
theorem gen_upce_parity_is_standard :
    Gen.C10Tables.upceParity.asNatListList? = some Ref.UPCEAN.upceParity := by decide +kernel

/-- … and satisfies the hypothesis of `upce_parity_bijective`: 2×10 entries, all twenty distinct -/
theorem gen_upce_parity_wf : WFParity2 (natListList Gen.C10Tables.upceParity) = true := by decide +kernel

/-- `ean13Reader_FIRST_DIGIT_ENCODINGS` is the standard's table -/
theorem gen_ean13_parity_is_standard :
    Gen.C10Tables.ean13FirstDigit.asNatList? = some Ref.UPCEAN.ean13FirstDigit := by decide +kernel

theorem gen_ean13_parity_wf : WFParity (natList Gen.C10Tables.ean13FirstDigit) = true := by decide +kernel

/-- `checkDigitEncodings` (EAN-5 add-on) is the standard's table -/
theorem gen_ean5_parity_is_standard :
    Gen.C10Tables.ean5CheckDigit.asNatList? = some Ref.UPCEAN.ean5CheckDigit := by decide +kernel

theorem gen_ean5_parity_wf : WFParity (natList Gen.C10Tables.ean5CheckDigit) = true := by decide +kernel

/-- `UPCEANReader_L_PATTERNS` are the run widths of number set A of ISO/IEC 15420 -/
theorem gen_l_patterns_are_standard :
    Gen.C10Tables.lPatterns.asNatListList? = some Ref.UPCEAN.lPatterns := by decide +kernel

/-- the 20 L and G patterns (G = reversed L, built by `init()`) are pairwise distinct: a digit and its
    parity can be told apart -/
theorem gen_l_and_g_distinct :
    let l := natListList Gen.C10Tables.lPatterns
    (l ++ l.map List.reverse).Nodup ∧ l.length = 10 := by decide +kernel

/-- the Code 93 alphabet (check characters are compared as characters): 48 distinct characters, '*' last -/
theorem gen_code93_alphabet :
    (strOf Gen.C10Tables.code93Alphabet).toList.Nodup ∧ (strOf Gen.C10Tables.code93Alphabet).length = 48 ∧
    (strOf Gen.C10Tables.code93Alphabet).toList.getLast? = some '*' := by decide +kernel

/-- the Code 39 alphabet: 43 distinct characters (mod-43 check character) -/
theorem gen_code39_alphabet :
    (strOf Gen.C10Tables.code39Alphabet).toList.Nodup ∧ (strOf Gen.C10Tables.code39Alphabet).length = 43 := by decide +kernel

end Gzx.Obligations.C10
