/-
  K13 — QR capacity / version-choice arithmetic regenerated from /repo on every run (`Gzx.Gen.K13`):
  `willFit`'s comparison, `getAlphanumericCode` with its table, `Version.GetDimensionForVersion`,
  `Mode.GetCharacterCountBits` — proved equal, for all arguments, to the definitions that the theorems of
  Properties/C13.lean (smallest adequate version, capacity figures) and C07 use.
-/
import Gzx.Gen.K13
import Gzx.KernelGuard
import Gzx.Proofs.GoM
import Gzx.Model.QRVersionChoice
namespace Gzx.Obligations.K13
open Gzx Gzx.GoM Gzx.QRRef Gzx.QRVersionChoice

when_kernel Gzx.Gen.K13.willFit in
/-- the arithmetic of `willFit` after its three getter calls: data bytes = total - EC, input bytes =
    ⌈bits/8⌉, fits iff data bytes ≥ input bytes — exactly the tail of the model's `willFit` -/
theorem k_willFit_eq (numInputBits : Nat) (v : VersionInfo) (ec : EC) :
    willFit numInputBits v ec =
      (match ecBlocksForLevel v ec with
       | .error e => .error e
       | .ok b => Gen.K13.willFit numInputBits v.total (totalECCodewords b)) := by
  simp only [willFit, numDataBytes, Gen.K13.willFit, bind, Except.bind, pure, Except.pure]
  cases ecBlocksForLevel v ec with
  | error e => rfl
  | ok b =>
    -- does not depend on how the generator nests the test: Go's truncated division of a non-negative term
    -- becomes `/`, and omega compares the two sides
    have key : ∀ a : Int, 0 ≤ a → Int.tdiv a 8 = a / 8 := fun a h => Int.tdiv_eq_ediv_of_nonneg h
    simp only [Except.ok.injEq, decide_eq_decide]
    rw [key _ (by omega)]
    omega

when_kernel Gzx.Gen.K13.getAlphanumericCode in
/-- `getAlphanumericCode(c)` = the standard's Table 5 (`QRRef.alnumCode`), -1 for "not encodable", for every byte -/
theorem k_getAlphanumericCode_eq :
    (List.range 256).all (fun c =>
      Gen.K13.getAlphanumericCode (c : Int) ==
        .ok (match alnumCode c with
             | some v => (v : Int)
             | none => -1)) = true := by
  decide +kernel

when_kernel Gzx.Gen.K13.dimensionForVersion in
/-- `Version.GetDimensionForVersion()` = 17 + 4·version -/
theorem k_dimensionForVersion_eq (v : Nat) : Gen.K13.dimensionForVersion v = (dimension v : Nat) := by
  simp [Gen.K13.dimensionForVersion, dimension]

when_kernel Gzx.Gen.K13.characterCountBits in
/-- `Mode.GetCharacterCountBits(version)` = the model's `characterCountBits`: class 0 for versions ≤ 9, 1 for
    ≤ 26, else 2, then a CHECKED read of the mode's three-entry array -/
theorem k_characterCountBits_eq (T : QRTables) (m : Mode) (v : VersionInfo) :
    Gen.K13.characterCountBits ((T.counts m).map Int.ofNat) v.number =
      (match characterCountBits T m v with
       | .ok c => .ok (c : Int)
       | .error _ => .error oob) := by
  simp only [Gen.K13.characterCountBits, characterCountBits]
  -- the generated offset is the model's; then both sides are the same checked read
  have off : (if decide ((v.number : Int) ≤ 9) then (0 : Int) else if decide ((v.number : Int) ≤ 26) then 1 else 2) =
      ((if v.number ≤ 9 then 0 else if v.number ≤ 26 then 1 else 2 : Nat) : Int) := by
    have h9 : (v.number : Int) ≤ 9 ↔ v.number ≤ 9 := by omega
    have h26 : (v.number : Int) ≤ 26 ↔ v.number ≤ 26 := by omega
    simp only [decide_eq_true_eq, h9, h26, apply_ite (Nat.cast : Nat → Int)]
    rfl
  rw [off, idx_bytes]
  cases (T.counts m)[if v.number ≤ 9 then 0 else if v.number ≤ 26 then 1 else 2]? <;> rfl

end Gzx.Obligations.K13
