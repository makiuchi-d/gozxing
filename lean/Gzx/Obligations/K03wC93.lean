/-
  K03w (continued) — Code 93 writer: `code93ConvertToExtended`, `code93ComputeChecksumIndex` and `code93AppendPattern`
  regenerated and proved equal to the model (`code93Escape`, `c93Check`, `bitsMSB 9`) for every input.
-/
import Gzx.Obligations.K03w
namespace Gzx.Obligations.K03w
open Gzx Gzx.GoM Gzx.CheckDigit Gzx.OneD Gzx.K03w

when_kernel Gzx.Gen.K03w.code93ConvertToExtended in
theorem esc93_lift (c : Int) (acc : List Int) :
    Gen.K03w.code93ConvertToExtended_body1 [c] 0 acc =
      liftAcc acc (Gen.K03w.code93ConvertToExtended_body1 [c] 0 []) := by
  have hidx : idx [c] 0 = .ok c := rfl
  unfold Gen.K03w.code93ConvertToExtended_body1
  simp only [hidx, tryC_ok]
  simp only [apply_ite (liftAcc acc)]
  simp only [liftAcc, List.nil_append, List.append_assoc, List.append_nil]

when_kernel Gzx.Gen.K03w.code93ConvertToExtended in
theorem esc93_nil : ∀ c : Nat, c < 256 →
    Gen.K03w.code93ConvertToExtended_body1 [(c : Int)] 0 [] = escStep code93Escape1 c [] := by decide +kernel

/-- the escapes of the bytes before the first one that cannot be encoded -/
def escPrefix93 : List Nat → List Nat
  | [] => []
  | c :: cs =>
    match code93Escape1 c with
    | .ok e => e ++ escPrefix93 cs
    | .error _ => []

when_kernel Gzx.Gen.K03w.code93ConvertToExtended in
theorem esc93_loc (s : List Int) (i : Nat) (h : i < s.length) (acc : List Int) :
    Gen.K03w.code93ConvertToExtended_body1 s (i : Int) acc = Gen.K03w.code93ConvertToExtended_body1 [s[i]] 0 acc := by
  have hidx : idx [s[i]] 0 = .ok s[i] := rfl
  unfold Gen.K03w.code93ConvertToExtended_body1
  rw [idx_ofNat _ _ h, hidx]

when_kernel Gzx.Gen.K03w.code93ConvertToExtended in
/-- `code93ConvertToExtended(contents)` for EVERY byte string: the model's `code93Escape` (shift pairs `aA`…`dZ`,
    plain characters unchanged), or — for a byte above 127 — the error together with what had been converted -/
theorem k_code93Escape_eq (s : List Nat) (hs : ∀ b ∈ s, b < 256) :
    Gen.K03w.code93ConvertToExtended (bytes s) =
      .ok (match code93Escape s with
           | .ok e => (bytes e, false)
           | .error _ => (bytes (escPrefix93 s), true)) := by
  have hmk : mk ((s.length : Int) * 2) = .ok (List.replicate (s.length * 2) 0) := by
    have : (s.length : Int) * 2 = ((s.length * 2 : Nat) : Int) := by omega
    rw [this, mk_zeros]; rfl
  simp only [Gen.K03w.code93ConvertToExtended, len, bytes_length, hmk, tryR_ok]
  exact esc_loop code93Escape1 code93Escape escPrefix93 rfl (fun _ _ => rfl) (fun _ _ => rfl)
    _ esc93_loc esc93_lift esc93_nil s hs (by rw [tripUp_one]; simp)

when_kernel Gzx.Gen.K10.code93ComputeChecksumIndex in
when_kernel Gzx.Gen.K03w.code93ComputeChecksumIndex in
/-- the writer's checksum loop is the kernel K10 proves equal to the model's `c93Check` (Obligations/K10.lean):
    the two regenerated copies are the same function -/
theorem k_code93ComputeChecksumIndex_same :
    @Gen.K03w.code93ComputeChecksumIndex = @Gen.K10.code93ComputeChecksumIndex := rfl

/-! ## `code93AppendPattern` -/

/-- the module the Code 93 writer stores for bit `i` of the encoding word `a` -/
def v93 (a i : Nat) : Int := b2i ((bitsMSB 9 a)[i]?.getD false)

theorem v93_bit (a i : Nat) (hi : i < 9) :
    b2i ((GoVal.iand (a : Int) (GoVal.ishl 1 (wrap 64 (8 - (i : Int))))) != 0) = v93 a i := by
  -- `a & (1 << (8-i))` reads binary digit `8 - i`, which is entry `i` of `bitsMSB 9 a`
  have hw : wrap 64 (8 - (i : Int)) = ((8 - i : Nat) : Int) := wrap_of_eq 64 _ (8 - i) (by omega) (by omega)
  have hb : (bitsMSB 9 a)[i]?.getD false = decide ((a / 2 ^ (8 - i)) % 2 = 1) := by
    simp [bitsMSB, hi]
  rw [v93, hw, hb, bne, iand_one_shl_eq_zero, Bool.not_not]

theorem v93_all (a : Nat) : (List.range' 0 9).map (v93 a) = b01 (bitsMSB 9 a) := by
  have hl : (bitsMSB 9 a).length = 9 := by simp [bitsMSB]
  apply List.ext_getElem
  · simp [b01, hl]
  · intro i h1 h2
    have hi : i < 9 := by simpa using h1
    simp [v93, b01, hl, hi]

when_kernel Gzx.Gen.K03w.code93AppendPattern in
/-- `code93AppendPattern(target, pos, a)` for EVERY word, every target and every position inside it: the nine modules
    `bitsMSB 9 a` written behind `done` and 9 returned, or the index panic when fewer than nine cells are left -/
theorem k_code93AppendPattern_eq (a : Nat) (done rest : List Int) :
    Gen.K03w.code93AppendPattern (done ++ rest) (done.length : Int) (a : Int) =
      if 9 ≤ rest.length then .ok (9, done ++ b01 (bitsMSB 9 a) ++ rest.drop 9) else .error oob := by
  have h := fill_off (ρ := Int × List Int) (Gen.K03w.code93AppendPattern_body1 (done.length : Int) (a : Int)) (v93 a) 9 done.length
    (fun i hi xs => by
      simp only [Gen.K03w.code93AppendPattern_body1]
      rw [v93_bit a i hi]) 9 0 done rest rfl (Nat.le_refl _)
  have e9 : tripUp 0 9 1 = 9 := by decide
  rw [v93_all] at h
  simp only [Gen.K03w.code93AppendPattern, e9]
  rw [show ((0 : Int) = ((0 : Nat) : Int)) from rfl, h]
  split <;> rfl

when_kernel Gzx.Gen.K03w.code93AppendPattern in
/-- `code93AppendPattern(target, pos, a)` for every word of the Code 93 table, every target and every position inside it:
    the nine modules `bitsMSB 9 a` written behind `done` and 9 returned, when at least nine cells are left.
    The table plays no part: `k_code93AppendPattern_eq` is the statement for every word, with the overflow case. -/
theorem k_code93AppendPattern_partial (a : Nat) (ha : a ∈ refTables.code93Enc) (done rest : List Int) (hr : 9 ≤ rest.length) :
    Gen.K03w.code93AppendPattern (done ++ rest) (done.length : Int) (a : Int) =
      .ok (9, done ++ b01 (bitsMSB 9 a) ++ rest.drop 9) := by
  rw [k_code93AppendPattern_eq, if_pos hr]

when_kernel Gzx.Gen.K03w.code93AppendPattern in
example : Gen.K03w.code93AppendPattern [0, 0, 0, 0, 0, 0, 0, 0, 0, 0, 0] 1 350 = .ok (9, [0, 1, 0, 1, 0, 1, 1, 1, 1, 0, 0]) := by
  decide

end Gzx.Obligations.K03w
