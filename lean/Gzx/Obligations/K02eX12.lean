/-
  K02e — `decodeAnsiX12Segment` of datamatrix/decoder/decoded_bit_stream_parser.go, regenerated from /repo on
  every run (`Gzx.Gen.K02e.decodeAnsiX12Segment`: the `for bits.Available() > 0` loop over the threaded BitSource state,
  the one-byte-left exit, the unlatch exit, `parseTwoBytes`, the three-value loop with its `switch`), proved equal to the
  model `DMHighLevel.x12Seg` for EVERY byte-aligned bit source (`k_decodeAnsiX12Segment_eq`):

    * the bytes appended to `result` are exactly the characters the model pushes, the source advances by exactly the
      number of bytes the model consumes;
    * the FormatException cases coincide (a value ≥ 40).

  Also here, because K02eC40.lean imports this file: `pairBody`, the body of that `for` loop as `decodeAnsiX12Segment`,
  `decodeC40Segment` and `decodeTextSegment` share it, with its three facts `pairBody_end/_one/_two`.
-/
import Gzx.Obligations.K02eBits
import Gzx.Model.DMHighLevel
namespace Gzx.Obligations.K02e
open Gzx Gzx.GoM Gzx.GoVal Gzx.DMHighLevel

/-! ## model side: what a segment appends, without the accumulator -/

/-- the characters `x12Seg` pushes and the number of bytes it consumes -/
def x12Out : List Nat → Res (List Nat × Nat)
  | [] => .ok ([], 0)
  | [_] => .ok ([], 0)
  | b1 :: b2 :: rest =>
    if b1 = 254 then .ok ([], 1)
    else
      match x12Value (parseTwoBytes b1 b2).1 with
      | .error e => .error e
      | .ok x1 =>
        match x12Value (parseTwoBytes b1 b2).2.1 with
        | .error e => .error e
        | .ok x2 =>
          match x12Value (parseTwoBytes b1 b2).2.2 with
          | .error e => .error e
          | .ok x3 =>
            match x12Out rest with
            | .error e => .error e
            | .ok (d, k) => .ok (x1 :: x2 :: x3 :: d, k + 2)

theorem pushAll_cons (a : Acc) (c : Nat) (cs : List Nat) : a.pushAll (c :: cs) = (a.push c).pushAll cs := rfl

theorem x12Seg_eq_out : ∀ (bs : List Nat) (a : Acc) (n : Nat),
    x12Seg bs a n = (x12Out bs).map (fun p => (a.pushAll p.1, n + p.2))
  | [], a, n => by simp [x12Seg, x12Out, Except.map, Acc.pushAll]
  | [_], a, n => by simp [x12Seg, x12Out, Except.map, Acc.pushAll]
  | b1 :: b2 :: rest, a, n => by
    unfold x12Seg x12Out
    by_cases h : b1 = 254
    · simp [h, Except.map, Acc.pushAll]
    · simp only [h, if_false]
      cases h1 : x12Value (parseTwoBytes b1 b2).1 with
      | error e => simp [Except.map]
      | ok x1 =>
        cases h2 : x12Value (parseTwoBytes b1 b2).2.1 with
        | error e => simp [Except.map]
        | ok x2 =>
          cases h3 : x12Value (parseTwoBytes b1 b2).2.2 with
          | error e => simp [Except.map]
          | ok x3 =>
            simp only []
            rw [x12Seg_eq_out rest]
            cases x12Out rest with
            | error e => simp [Except.map]
            | ok p => simp [Except.map, pushAll_cons]; omega

theorem x12Value_error (v : Int) (e : Fault) (h : x12Value v = .error e) : e = .format := by
  unfold x12Value at h
  repeat (split at h; · cases h)
  cases h; rfl

theorem x12Out_error : ∀ (bs : List Nat) (e : Fault), x12Out bs = .error e → e = .format
  | [], e, h => by simp [x12Out] at h
  | [_], e, h => by simp [x12Out] at h
  | b1 :: b2 :: rest, e, h => by
    unfold x12Out at h
    split at h
    · cases h
    · split at h
      · cases h; exact x12Value_error _ _ ‹_›
      · split at h
        · cases h; exact x12Value_error _ _ ‹_›
        · split at h
          · cases h; exact x12Value_error _ _ ‹_›
          · split at h
            · cases h; exact x12Out_error rest _ ‹_›
            · cases h

/-! ## kernel side -/

when_kernel Gzx.Gen.K02e.parseTwoBytes in
/-- `parseTwoBytes(firstByte, secondByte, result)` writes the model's three values into `result[0..2]` (the same
    statement as `k_parseTwoBytes_eq` of Obligations/K02d.lean, about the kernel of the other regeneration) -/
theorem k_parseTwoBytes_eq (b1 b2 : Nat) (r0 r1 r2 : Int) (rest : List Int) :
    Gen.K02e.parseTwoBytes b1 b2 (r0 :: r1 :: r2 :: rest) =
      .ok ((parseTwoBytes b1 b2).1 :: (parseTwoBytes b1 b2).2.1 :: (parseTwoBytes b1 b2).2.2 :: rest) := by
  have e : GoVal.ishl (b1 : Int) 8 = (b1 : Int) * 256 := by
    rw [show (8 : Int) = ((8 : Nat) : Int) from rfl, ishl_natCast, Nat.shiftLeft_eq]; simp
  simp [Gen.K02e.parseTwoBytes, parseTwoBytes, setIdx, e]

theorem toByte_cast (x : Int) : ((toByte x : Nat) : Int) = wrap 8 x := by
  unfold toByte wrap
  have : (0 : Int) ≤ x % 256 := Int.emod_nonneg _ (by decide)
  rw [Int.toNat_of_nonneg this]; rfl

when_kernel Gzx.Gen.K02e.decodeAnsiX12Segment in
/-- one value of the three-value loop -/
theorem x12_body2 (bo bi : Int) (cv : List Int) (i : Nat) (ii : Int) (hii : ii = (i : Int)) (hi : i < cv.length) (res : List Int) :
    Gen.K02e.decodeAnsiX12Segment_body2 bo bi cv ii res =
      match x12Value cv[i] with
      | .ok x => .next (res ++ [(x : Int)])
      | .error _ => .ret (res, true, bo, bi, res) := by
  subst hii
  unfold Gen.K02e.decodeAnsiX12Segment_body2
  rw [idx_ofNat cv i hi]
  simp only [tryC_ok]
  generalize cv[i] = v
  unfold x12Value
  by_cases h0 : v = 0
  · simp [h0]
  · by_cases h1 : v = 1
    · simp [h1]
    · by_cases h2 : v = 2
      · simp [h2]
      · by_cases h3 : v = 3
        · simp [h3]
        · by_cases h14 : v < 14
          · simp [h0, h1, h2, h3, h14, toByte_cast]
          · by_cases h40 : v < 40
            · simp [h0, h1, h2, h3, h14, h40, toByte_cast]
            · simp [h0, h1, h2, h3, h14, h40]

/-- what the kernel must answer for a model outcome: the appended bytes and the advanced source, or the error flag -/
def X12Agrees (k : Res (List Int × Bool × Int × Int × List Int)) (result : List Int) (off : Nat) :
    Res (List Nat × Nat) → Prop
  | .ok (d, n) => k = .ok (result ++ bytesI d, false, ((off + n : Nat) : Int), 0, result ++ bytesI d)
  | .error _ => ∃ r bo, k = .ok (r, true, bo, 0, r)

when_kernel Gzx.Gen.K02e.available in
when_kernel Gzx.Gen.K02e.readBits in
when_kernel Gzx.Gen.K02e.parseTwoBytes in
/-- The body of the `for bits.Available() > 0` loop that `decodeAnsiX12Segment`, `decodeC40Segment` and
    `decodeTextSegment` share: stop when no bit is left, return when one byte is left or the first byte is the unlatch 254,
    else `parseTwoBytes` and the three-value loop `B2` on the rest `τ` of the state.  `get` / `put` place byte offset, bit
    offset, `cValues` and that rest in a function's loop state, `ret` is its return value for a source position. -/
def pairBody {σ τ ρ : Type} (F : Nat) (bytes : List Int) (B2 : Int → Int → List Int → Int → τ → Ctl τ ρ)
    (get : σ → Int × Int × List Int × τ) (put : Int → Int → List Int → τ → σ) (ret : τ → Int → Int → ρ) (st : σ) :
    Ctl σ ρ :=
  tryC (Gen.K02e.available bytes (get st).1 (get st).2.1) fun t2 =>
  if decide (t2 > 0) then
    tryC (Gen.K02e.available bytes (get st).1 (get st).2.1) fun t3 =>
    if t3 == 8 then .ret (ret (get st).2.2.2 (get st).1 (get st).2.1)
    else
      tryC (Gen.K02e.readBits F bytes (get st).1 (get st).2.1 8) fun t4 =>
      if t4.1 == 254 then .ret (ret (get st).2.2.2 t4.2.2.1 t4.2.2.2)
      else
        tryC (Gen.K02e.readBits F bytes t4.2.2.1 t4.2.2.2 8) fun t5 =>
        tryC (Gen.K02e.parseTwoBytes t4.1 t5.1 (get st).2.2.1) fun t6 =>
        (GoM.loop (B2 t5.2.2.1 t5.2.2.2 t6) 1 (GoM.tripUp 0 3 1) 0 (get st).2.2.2).thenC fun t =>
        .next (put t5.2.2.1 t5.2.2.2 t6 t)
  else .brk (put (get st).1 (get st).2.1 (get st).2.2.1 (get st).2.2.2)

section pairBody
variable {σ τ ρ : Type} (F : Nat) (bs : List Nat) (B2 : Int → Int → List Int → Int → τ → Ctl τ ρ)
  (get : σ → Int × Int × List Int × τ) (put : Int → Int → List Int → τ → σ) (ret : τ → Int → Int → ρ)

when_kernel Gzx.Gen.K02e.available in
when_kernel Gzx.Gen.K02e.readBits in
when_kernel Gzx.Gen.K02e.parseTwoBytes in
theorem pairBody_end (st : σ) (off : Nat) (cv : List Int) (t : τ) (hst : get st = ((off : Int), 0, cv, t))
    (h : bs.length ≤ off) : pairBody F (bytesI bs) B2 get put ret st = .brk (put (off : Int) 0 cv t) := by
  unfold pairBody
  simp only [hst, k_available_eq, tryC_ok, bytesI_length]
  have c : decide (8 * ((bs.length : Int) - (off : Int)) - 0 > 0) = false := by simp; omega
  simp only [c, Bool.false_eq_true, if_false]

when_kernel Gzx.Gen.K02e.available in
when_kernel Gzx.Gen.K02e.readBits in
when_kernel Gzx.Gen.K02e.parseTwoBytes in
/-- exactly one byte left: return ("it will be encoded as ASCII") -/
theorem pairBody_one (st : σ) (off : Nat) (cv : List Int) (t : τ) (hst : get st = ((off : Int), 0, cv, t))
    (h : off + 1 = bs.length) : pairBody F (bytesI bs) B2 get put ret st = .ret (ret t (off : Int) 0) := by
  unfold pairBody
  simp only [hst, k_available_eq, tryC_ok, bytesI_length]
  have c : decide (8 * ((bs.length : Int) - (off : Int)) - 0 > 0) = true := by simp; omega
  have c8 : (8 * ((bs.length : Int) - (off : Int)) - 0 == 8) = true := by simp; omega
  simp only [c, c8, if_true]

when_kernel Gzx.Gen.K02e.available in
when_kernel Gzx.Gen.K02e.readBits in
when_kernel Gzx.Gen.K02e.parseTwoBytes in
theorem pairBody_two (hF : 2 ≤ F) (hb : ∀ b ∈ bs, b < 256) (st : σ) (off : Nat) (r0 r1 r2 : Int) (t : τ)
    (hst : get st = ((off : Int), 0, [r0, r1, r2], t)) (h : off + 1 < bs.length) :
    pairBody F (bytesI bs) B2 get put ret st =
      if bs[off] = 254 then .ret (ret t ((off + 1 : Nat) : Int) 0)
      else
        (GoM.loop (B2 ((off + 2 : Nat) : Int) 0
            [(parseTwoBytes bs[off] bs[off + 1]).1, (parseTwoBytes bs[off] bs[off + 1]).2.1, (parseTwoBytes bs[off] bs[off + 1]).2.2])
          1 3 0 t).thenC fun t' =>
        .next (put ((off + 2 : Nat) : Int) 0
          [(parseTwoBytes bs[off] bs[off + 1]).1, (parseTwoBytes bs[off] bs[off + 1]).2.1, (parseTwoBytes bs[off] bs[off + 1]).2.2] t') := by
  unfold pairBody
  simp only [hst, k_available_eq, tryC_ok, bytesI_length]
  have c : decide (8 * ((bs.length : Int) - (off : Int)) - 0 > 0) = true := by simp; omega
  have c8 : (8 * ((bs.length : Int) - (off : Int)) - 0 == 8) = false := by simp; omega
  simp only [c, c8, if_true, Bool.false_eq_true, if_false]
  rw [k_readBits8 F hF bs hb off (by omega)]
  simp only [tryC_ok]
  have e1 : (off : Int) + 1 = ((off + 1 : Nat) : Int) := by omega
  have e2 : ((off + 1 : Nat) : Int) + 1 = ((off + 2 : Nat) : Int) := by omega
  by_cases h254 : bs[off] = 254
  · have c254 : (((bs[off] : Nat) : Int) == 254) = true := by simp [h254]
    simp only [c254, if_true]
    rw [if_pos h254, e1]
  · have c254 : (((bs[off] : Nat) : Int) == 254) = false := by simp; omega
    simp only [c254, Bool.false_eq_true, if_false]
    rw [if_neg h254, e1, k_readBits8 F hF bs hb (off + 1) h]
    simp only [tryC_ok]
    rw [k_parseTwoBytes_eq]
    simp only [tryC_ok, tripUp_one, e2]
    rfl

end pairBody

/-- where byte offset, bit offset, `cValues` and `result` sit in the loop state of `decodeAnsiX12Segment`, and what it
    returns for a source position -/
def getX (st : Int × Int × List Int × List Int) : Int × Int × List Int × List Int := (st.1, st.2.1, st.2.2.2, st.2.2.1)
def putX (bo bi : Int) (cv res : List Int) : Int × Int × List Int × List Int := (bo, bi, res, cv)
def retX (res : List Int) (bo bi : Int) : List Int × Bool × Int × Int × List Int := (res, false, bo, bi, res)

when_kernel Gzx.Gen.K02e.decodeAnsiX12Segment in
theorem x12_body1_eq (F : Nat) (bytes : List Int) :
    Gen.K02e.decodeAnsiX12Segment_body1 F bytes = pairBody F bytes Gen.K02e.decodeAnsiX12Segment_body2 getX putX retX := rfl

when_kernel Gzx.Gen.K02e.decodeAnsiX12Segment in
/-- `K` stands for what follows the loop (the function's final `return`), `m` bounds the bytes left and is the measure of
    the induction -/
theorem x12_loop (F : Nat) (hF : 2 ≤ F) (bs : List Nat) (hb : ∀ b ∈ bs, b < 256)
    (K : Int × Int × List Int × List Int → Res (List Int × Bool × Int × Int × List Int))
    (hK : ∀ bo bi res cv, K (bo, bi, res, cv) = .ok (res, false, bo, bi, res)) :
    ∀ (m off : Nat) (result cv : List Int) (f : Nat), cv.length = 3 → bs.length - off ≤ m → off ≤ bs.length → m < f →
      X12Agrees ((whileLoop (Gen.K02e.decodeAnsiX12Segment_body1 F (bytesI bs)) f ((off : Int), 0, result, cv)).thenR K)
        result off (x12Out (bs.drop off)) := by
  intro m off result cv f hcv hm hoff hf
  refine whileLoop_ind (body := Gen.K02e.decodeAnsiX12Segment_body1 F (bytesI bs))
    (fun m s c => ∀ (off : Nat) result cv, s = ((off : Int), 0, result, cv) → cv.length = 3 → bs.length - off ≤ m →
      off ≤ bs.length → X12Agrees (c.thenR K) result off (x12Out (bs.drop off)))
    (fun m s W ih off result cv hs hcv hm hoff => ?_) f m _ hf off result cv rfl hcv hm hoff
  subst hs
  rw [x12_body1_eq]
  by_cases h0 : off = bs.length
  · rw [List.drop_eq_nil_of_le (by omega), pairBody_end F bs _ getX putX retX _ off cv result rfl (by omega)]
    simp only [putX, brk_thenR, hK, x12Out, X12Agrees]
    simp [bytesI]
  by_cases h1 : off + 1 = bs.length
  · have hd : bs.drop off = [bs[off]'(by omega)] := by
      rw [List.drop_eq_getElem_cons (by omega), List.drop_eq_nil_of_le (by omega)]
    rw [hd, pairBody_one F bs _ getX putX retX _ off cv result rfl h1]
    simp only [retX, ret_thenR, x12Out, X12Agrees]
    simp [bytesI]
  have hlt : off + 1 < bs.length := by omega
  obtain ⟨r0, r1, r2, rfl⟩ : ∃ r0 r1 r2, cv = [r0, r1, r2] := by
    match cv, hcv with
    | [r0, r1, r2], _ => exact ⟨r0, r1, r2, rfl⟩
  have hd : bs.drop off = bs[off]'(by omega) :: bs[off + 1]'hlt :: bs.drop (off + 2) := by
    rw [List.drop_eq_getElem_cons (by omega), List.drop_eq_getElem_cons hlt]
  rw [hd, pairBody_two F bs _ getX putX retX hF hb _ off r0 r1 r2 result rfl hlt]
  generalize bs[off]'(by omega) = b1
  generalize bs[off + 1]'hlt = b2
  unfold x12Out
  by_cases h254 : b1 = 254
  · simp only [h254, if_true, retX, ret_thenR, X12Agrees]
    simp [bytesI]
  simp only [h254, if_false]
  rw [loop_succ, x12_body2 _ _ _ 0 0 rfl (by simp)]
  simp only [List.getElem_cons_zero]
  cases hx1 : x12Value (parseTwoBytes b1 b2).1 with
  | error e => exact ⟨_, _, rfl⟩
  | ok x1 =>
    simp only []
    rw [loop_succ, x12_body2 _ _ _ 1 (0 + 1) (by decide) (by simp)]
    simp only [List.getElem_cons_succ, List.getElem_cons_zero]
    cases hx2 : x12Value (parseTwoBytes b1 b2).2.1 with
    | error e => exact ⟨_, _, rfl⟩
    | ok x2 =>
      simp only []
      rw [loop_succ, x12_body2 _ _ _ 2 (0 + 1 + 1) (by decide) (by simp)]
      simp only [List.getElem_cons_succ, List.getElem_cons_zero]
      cases hx3 : x12Value (parseTwoBytes b1 b2).2.2 with
      | error e => exact ⟨_, _, rfl⟩
      | ok x3 =>
        simp only [loop_zero, next_thenC, putX]
        have := ih (m - 1) _ (by omega) (off + 2) (result ++ [(x1 : Int)] ++ [(x2 : Int)] ++ [(x3 : Int)])
          [(parseTwoBytes b1 b2).1, (parseTwoBytes b1 b2).2.1, (parseTwoBytes b1 b2).2.2] rfl rfl (by omega) (by omega)
        cases hrest : x12Out (bs.drop (off + 2)) with
        | error e =>
          rw [hrest] at this
          exact this
        | ok p =>
          rw [hrest] at this
          simp only [X12Agrees] at this ⊢
          rw [this]
          simp [bytesI]
          omega

when_kernel Gzx.Gen.K02e.decodeAnsiX12Segment in
/-- `decodeAnsiX12Segment(bits, result)` on a byte-aligned source at byte `off` of `bs` = the model's `x12Seg` on the
    remaining bytes, for every accumulator: the appended bytes are the characters the model pushes, the source advances by
    the bytes the model consumes; a FormatException of the model is the kernel's error flag -/
theorem k_decodeAnsiX12Segment_eq (fuel : Nat) (bs : List Nat) (hb : ∀ b ∈ bs, b < 256) (off : Nat) (hoff : off ≤ bs.length)
    (hf : bs.length + 2 ≤ fuel) (result : List Int) (a : Acc) (n : Nat) :
    match x12Seg (bs.drop off) a n with
    | .ok (a', n') => ∃ d, x12Out (bs.drop off) = .ok (d, n' - n) ∧ a' = a.pushAll d ∧
        Gen.K02e.decodeAnsiX12Segment fuel (bytesI bs) (off : Int) 0 result
          = .ok (result ++ bytesI d, false, ((off + (n' - n) : Nat) : Int), 0, result ++ bytesI d)
    | .error e => e = .format ∧ ∃ r bo, Gen.K02e.decodeAnsiX12Segment fuel (bytesI bs) (off : Int) 0 result = .ok (r, true, bo, 0, r) := by
  rw [x12Seg_eq_out]
  have hk : Gen.K02e.decodeAnsiX12Segment fuel (bytesI bs) (off : Int) 0 result
      = (whileLoop (Gen.K02e.decodeAnsiX12Segment_body1 fuel (bytesI bs)) fuel ((off : Int), 0, result, [0, 0, 0])).thenR
          (fun st => .ok (st.2.2.1, false, st.1, st.2.1, st.2.2.1)) := by
    unfold Gen.K02e.decodeAnsiX12Segment
    rfl
  have := x12_loop fuel (by omega) bs hb (fun st => .ok (st.2.2.1, false, st.1, st.2.1, st.2.2.1)) (fun _ _ _ _ => rfl) (bs.length - off) off result [0, 0, 0] fuel rfl
    (Nat.le_refl _) hoff (by omega)
  rw [← hk] at this
  cases hx : x12Out (bs.drop off) with
  | error e =>
    rw [hx] at this
    exact ⟨x12Out_error _ _ hx, this⟩
  | ok p =>
    rw [hx] at this
    simp only [Except.map]
    refine ⟨p.1, by simp, rfl, ?_⟩
    simp only [X12Agrees] at this
    rw [this]
    simp

when_kernel Gzx.Gen.K02e.decodeAnsiX12Segment in
/-- non-vacuity: "1A " + unlatch, and a value ≥ 40 -/
example : Gen.K02e.decodeAnsiX12Segment 10 (bytesI [0x21, 0x74, 254, 7]) 0 0 [9] = .ok ([9, 49, 65, 32], false, 3, 0, [9, 49, 65, 32]) := by
  decide
when_kernel Gzx.Gen.K02e.decodeAnsiX12Segment in
example : Gen.K02e.decodeAnsiX12Segment 10 (bytesI [255, 255]) 0 0 [9] = .ok ([9], true, 2, 0, [9]) := by decide

end Gzx.Obligations.K02e
