/-
  Model of aztec/decoder/decoder.go `extractBits` (part of the decoder model Gzx.AztecDecoder; a
  separate file so that the layout proof only depends on it).
-/
import Gzx.Util
namespace Gzx.AztecDecoder

/-! ## §2 extractBits -/

abbrev Matrix := List (List Bool)   -- rows; `m[y][x]`

/-- `matrix.Get(x, y)`; the model is only specified for in-range coordinates -/
def getBit (m : Matrix) (x y : Nat) : Res Bool :=
  match m[y]? with
  | none => .error (.panic "matrix.Get: y out of range")
  | some row =>
    match row[x]? with
    | none => .error (.panic "matrix.Get: x out of range")
    | some b => .ok b

def baseMatrixSize (layers : Nat) (compact : Bool) : Nat :=
  layers * 4 + (if compact then 11 else 14)

/-- Go: `matrixSize := baseMatrixSize + 1 + 2*((baseMatrixSize/2-1)/15)` (full-range only) -/
def matrixSize (layers : Nat) (compact : Bool) : Nat :=
  let b := baseMatrixSize layers compact
  if compact then b else b + 1 + 2 * ((b / 2 - 1) / 15)

/-- `alignmentMap[idx]` as the closed form of the two assignments in the Go loop
      alignmentMap[origCenter-i-1] = center - (i + i/15) - 1
      alignmentMap[origCenter+i]   = center + (i + i/15) + 1        (0 ≤ i < origCenter) -/
def alignmentMap (layers : Nat) (compact : Bool) (idx : Nat) : Nat :=
  if compact then idx
  else
    let b := baseMatrixSize layers compact
    let origCenter := b / 2
    let center := matrixSize layers compact / 2
    if idx < origCenter then
      let i := origCenter - 1 - idx
      center - (i + i / 15) - 1
    else
      let i := idx - origCenter
      center + (i + i / 15) + 1

/-- read coordinates (x, y) of one layer, in the order of the rawbits indices it fills:
    four sides of `rowSize` dominoes, each domino k = 0,1 -/
def layerPositions (layers : Nat) (compact : Bool) (i : Nat) : List (Nat × Nat) :=
  let am := alignmentMap layers compact
  let rowSize := (layers - i) * 4 + (if compact then 9 else 12)
  let low := i * 2
  let high := baseMatrixSize layers compact - 1 - low
  let jk := (List.range rowSize).flatMap (fun j => [(j, 0), (j, 1)])
  jk.map (fun (j, k) => (am (low + k), am (low + j)))          -- left column
  ++ jk.map (fun (j, k) => (am (low + j), am (high - k)))      -- bottom row
  ++ jk.map (fun (j, k) => (am (high - k), am (high - j)))     -- right column
  ++ jk.map (fun (j, k) => (am (high - j), am (low + k)))      -- top row

/-- all read coordinates in rawbits order -/
def readPositions (layers : Nat) (compact : Bool) : List (Nat × Nat) :=
  (List.range layers).flatMap (layerPositions layers compact)

/-- read the modules at the given coordinates, in order; the first out-of-range read fails -/
def readAll (m : Matrix) : List (Nat × Nat) → Res (List Bool)
  | [] => .ok []
  | p :: ps =>
    match getBit m p.1 p.2 with
    | .error e => .error e
    | .ok b =>
      match readAll m ps with
      | .error e => .error e
      | .ok bs => .ok (b :: bs)

/-- Go `extractBits` -/
def extractBits (m : Matrix) (layers : Nat) (compact : Bool) : Res (List Bool) :=
  readAll m (readPositions layers compact)

end Gzx.AztecDecoder
