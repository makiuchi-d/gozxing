/-
  Property C19, per-run obligations over `Gen` that need Mathlib's field tactics — the REGENERATED perspective kernels (`Gzx.Gen.K19.*`, translator kind `funcn`: the
  same generated syntax that runs on Go's float64 when instantiated with `floatOps`) instantiated with AN ARBITRARY
  FIELD (`fieldOps`, which is `FieldLike`: Obligations/K19P.lean then gives `Gen.K19.f fieldOps = Model.f`), so that the
  algebra theorems of `GzxM/Perspective.lean` become statements about the source text of
  common/perspective_transform.go as it is in /repo now.
  Mathlib only for `Field` and the imported theorems; `when_kernel`-guarded like the obligation files.
-/
import GzxM.Perspective
import Gzx.Obligations.K19P
namespace GzxM.K19
open Gzx Gzx.GoM Gzx.K19 Gzx.Perspective GzxM.Perspective Gzx.Obligations.K19P

variable {K : Type} [Field K] [DecidableEq K]

/-- the float64 operations of a regenerated kernel, read in a field (`int(x)` and the order tests are not used by the
    perspective kernels) -/
def fieldOps : NumOps K where
  add := (· + ·)
  sub := (· - ·)
  mul := (· * ·)
  div := (· / ·)
  neg := fun a => -a
  ofInt := fun i => (i : K)
  toInt := fun _ => 0
  eq := fun a b => decide (a = b)
  lt := fun _ _ => false
  le := fun _ _ => false

theorem fieldOps_fieldLike : FieldLike (fieldOps (K := K)) :=
  ⟨fun _ _ => rfl, fun _ _ => rfl, fun _ _ => rfl, fun _ _ => rfl, Int.cast_zero, Int.cast_one, fun _ _ => rfl⟩

when_kernel Gzx.Gen.K19.squareToQuad in
when_kernel Gzx.Gen.K19.transformPoints in
/-- regenerated `SquareToQuadrilateral`, then regenerated `TransformPoints` on the unit-square corners: the four given
    points (non-degeneracy hypotheses of `squareToQuad_corners`) -/
theorem gen_squareToQuad_maps_corners (x0 y0 x1 y1 x2 y2 x3 y3 : K)
    (hdeg : sqDegenerate x0 y0 x1 y1 x2 y2 x3 y3 = false)
    (h10 : (squareToQuadrilateral x0 y0 x1 y1 x2 y2 x3 y3).denom 1 0 ≠ 0)
    (h11 : (squareToQuadrilateral x0 y0 x1 y1 x2 y2 x3 y3).denom 1 1 ≠ 0)
    (h01 : (squareToQuadrilateral x0 y0 x1 y1 x2 y2 x3 y3).denom 0 1 ≠ 0) :
    ∃ p : PT K, Gen.K19.squareToQuad fieldOps x0 y0 x1 y1 x2 y2 x3 y3 = .ok (tup p) ∧
      Gen.K19.transformPoints fieldOps p.a11 p.a21 p.a31 p.a12 p.a22 p.a32 p.a13 p.a23 p.a33 [0, 0, 1, 0, 1, 1, 0, 1]
        = .ok [x0, y0, x1, y1, x2, y2, x3, y3] := by
  refine ⟨squareToQuadrilateral x0 y0 x1 y1 x2 y2 x3 y3, k_squareToQuad_eq _ fieldOps_fieldLike .., ?_⟩
  rw [k_transformPoints_eq _ fieldOps_fieldLike]
  obtain ⟨c0, c1, c2, c3⟩ := squareToQuad_corners x0 y0 x1 y1 x2 y2 x3 y3 hdeg h10 h11 h01
  simp only [PT.transformPoints, c0, c1, c2, c3]

when_kernel Gzx.Gen.K19.buildAdjoint in
when_kernel Gzx.Gen.K19.times in
/-- regenerated `times` of a transform with its regenerated `buildAdjoint` is `det • I`, in both orders -/
theorem gen_adjoint_is_projective_inverse (p : PT K) :
    ∃ q : PT K, Gen.K19.buildAdjoint fieldOps p.a11 p.a21 p.a31 p.a12 p.a22 p.a32 p.a13 p.a23 p.a33 = .ok (tup q) ∧
      Gen.K19.times fieldOps p.a11 p.a21 p.a31 p.a12 p.a22 p.a32 p.a13 p.a23 p.a33
        q.a11 q.a21 q.a31 q.a12 q.a22 q.a32 q.a13 q.a23 q.a33 = .ok (tup ⟨p.det, 0, 0, 0, p.det, 0, 0, 0, p.det⟩) ∧
      Gen.K19.times fieldOps q.a11 q.a21 q.a31 q.a12 q.a22 q.a32 q.a13 q.a23 q.a33
        p.a11 p.a21 p.a31 p.a12 p.a22 p.a32 p.a13 p.a23 p.a33 = .ok (tup ⟨p.det, 0, 0, 0, p.det, 0, 0, 0, p.det⟩) := by
  refine ⟨p.buildAdjoint, k_buildAdjoint_eq _ fieldOps_fieldLike p, ?_, ?_⟩
  · rw [k_times_eq _ fieldOps_fieldLike, (adjoint_is_projective_inverse p).1]
  · rw [k_times_eq _ fieldOps_fieldLike, (adjoint_is_projective_inverse p).2]

when_kernel Gzx.Gen.K19.times in
when_kernel Gzx.Gen.K19.transformPoints in
/-- regenerated `TransformPoints` with the regenerated product `a.times(b)` = `b` first, then `a`, on one point with a
    finite intermediate image -/
theorem gen_times_is_composition (a b : PT K) (x y : K) (hb : b.denom x y ≠ 0) :
    ∃ c : PT K, Gen.K19.times fieldOps a.a11 a.a21 a.a31 a.a12 a.a22 a.a32 a.a13 a.a23 a.a33
        b.a11 b.a21 b.a31 b.a12 b.a22 b.a32 b.a13 b.a23 b.a33 = .ok (tup c) ∧
      Gen.K19.transformPoints fieldOps c.a11 c.a21 c.a31 c.a12 c.a22 c.a32 c.a13 c.a23 c.a33 [x, y] =
        (Gen.K19.transformPoints fieldOps b.a11 b.a21 b.a31 b.a12 b.a22 b.a32 b.a13 b.a23 b.a33 [x, y]).bind
          (Gen.K19.transformPoints fieldOps a.a11 a.a21 a.a31 a.a12 a.a22 a.a32 a.a13 a.a23 a.a33) := by
  refine ⟨a.times b, k_times_eq _ fieldOps_fieldLike a b, ?_⟩
  rw [k_transformPoints_eq _ fieldOps_fieldLike, k_transformPoints_eq _ fieldOps_fieldLike]
  simp only [Except.bind]
  rw [k_transformPoints_eq _ fieldOps_fieldLike]
  simp only [PT.transformPoints, times_is_composition a b x y hb]

/-- non-vacuity of the hypothesis `sqDegenerate … = false`: the unit square itself, in every field -/
example : sqDegenerate (0 : K) 0 1 0 1 1 0 1 = false := by simp [sqDegenerate]

end GzxM.K19
