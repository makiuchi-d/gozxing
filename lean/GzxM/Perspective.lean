/-
  C19 — algebra of common/perspective_transform.go over an arbitrary field (in particular ℚ, the
  carrier the executable model and the driver use).  Needs Mathlib's `ring` / `field_simp`, hence this
  separate library; the driver never imports it.

  Model: Gzx/Model/Perspective.lean — the Go formulas verbatim, generic in the carrier.
  Go computes in float64; these theorems are about the exact formulas (GzxM/K19.lean states them of the regenerated source
  text; the float64 values are tied by tolerance only).
-/
import Mathlib.Tactic.Ring
import Mathlib.Tactic.FieldSimp
import Mathlib.Tactic.LinearCombination
import Mathlib.Tactic.NormNum
import Gzx.Model.Perspective

namespace GzxM.Perspective
open Gzx.Perspective

variable {K : Type} [Field K] [DecidableEq K]
set_option linter.unusedSectionVars false

/-! ## composition -/

/-- homogeneous form of the denominator of a product -/
theorem times_denom (a b : PT K) (x y : K) (hb : b.denom x y ≠ 0) :
    (a.times b).denom x y = a.denom (b.apply x y).1 (b.apply x y).2 * b.denom x y := by
  simp only [PT.times, PT.denom, PT.apply] at *
  field_simp
  ring

theorem frac_comp (p q r X Y D : K) (hD : D ≠ 0) :
    p * (X / D) + q * (Y / D) + r = (p * X + q * Y + r * D) / D := by
  field_simp

/-- `a.times(b)` is "first `b`, then `a`": TransformPoints of the product equals TransformPoints of `a`
    applied to TransformPoints of `b`, wherever `b`'s denominator does not vanish.
    (`QuadrilateralToQuadrilateral` is `sToQ.times(qToS)`: first quadrilateral→square, then square→quadrilateral.) -/
theorem times_is_composition (a b : PT K) (x y : K) (hb : b.denom x y ≠ 0) :
    (a.times b).apply x y = a.apply (b.apply x y).1 (b.apply x y).2 := by
  have hb' : b.a13 * x + b.a23 * y + b.a33 ≠ 0 := hb
  simp only [PT.apply, PT.times, PT.denom]
  rw [frac_comp _ _ _ _ _ _ hb', frac_comp _ _ _ _ _ _ hb', frac_comp _ _ _ _ _ _ hb',
    div_div_div_cancel_right₀ hb', div_div_div_cancel_right₀ hb']
  refine Prod.ext ?_ ?_ <;> simp only <;> congr 1 <;> ring

/-- the same for whole interleaved slices, as `TransformPoints` processes them -/
theorem times_is_composition_points (a b : PT K) : ∀ (pts pts1 : List K),
    b.transformPoints? pts = some pts1 → (a.times b).transformPoints pts = a.transformPoints pts1
  | [], pts1, hb => by
    simp only [PT.transformPoints?] at hb; cases hb; simp [PT.transformPoints]
  | [x], pts1, hb => by
    simp only [PT.transformPoints?] at hb; cases hb; simp [PT.transformPoints]
  | x :: y :: rest, pts1, hb => by
    simp only [PT.transformPoints?] at hb
    cases h1 : b.apply? x y with
    | none => simp [h1] at hb
    | some q =>
      cases h2 : b.transformPoints? rest with
      | none => simp [h1, h2] at hb
      | some r =>
        simp only [h1, h2] at hb
        cases hb
        have hd : b.denom x y ≠ 0 := by
          intro h0; simp [PT.apply?, h0] at h1
        have hq : q = b.apply x y := by
          simp only [PT.apply?, hd, if_false] at h1; exact (Option.some.inj h1).symm
        subst hq
        simp only [PT.transformPoints, times_is_composition a b x y hd,
          times_is_composition_points a b rest r h2]

/-! ## the adjoint as projective inverse -/

/-- `A · adj A = det A • I` and `adj A · A = det A • I`, entry by entry -/
theorem adjoint_is_projective_inverse (p : PT K) :
    p.times p.buildAdjoint = ⟨p.det, 0, 0, 0, p.det, 0, 0, 0, p.det⟩ ∧
    p.buildAdjoint.times p = ⟨p.det, 0, 0, 0, p.det, 0, 0, 0, p.det⟩ := by
  constructor <;>
  · simp only [PT.times, PT.buildAdjoint, PT.det, PT.mk.injEq]
    refine ⟨?_, ?_, ?_, ?_, ?_, ?_, ?_, ?_, ?_⟩ <;> ring

theorem adjoint_denom (p : PT K) (x y : K) (hd : p.denom x y ≠ 0) :
    p.buildAdjoint.denom (p.apply x y).1 (p.apply x y).2 = p.det / p.denom x y := by
  rw [eq_div_iff hd, ← times_denom _ _ _ _ hd, (adjoint_is_projective_inverse p).2]
  simp [PT.denom]

/-- hence `buildAdjoint` undoes the transform on points (this is why QuadrilateralToSquare may use it
    "as the inverse"): for an invertible coefficient matrix and a finite image point -/
theorem adjoint_inverts (p : PT K) (x y : K) (hdet : p.det ≠ 0) (hd : p.denom x y ≠ 0) :
    p.buildAdjoint.apply (p.apply x y).1 (p.apply x y).2 = (x, y) := by
  rw [← times_is_composition _ _ _ _ hd, (adjoint_is_projective_inverse p).2]
  simp only [PT.apply, PT.denom, zero_mul, add_zero, zero_add]
  exact Prod.ext (mul_div_cancel_left₀ x hdet) (mul_div_cancel_left₀ y hdet)

/-! ## square → quadrilateral -/

/-- the non-affine branch, with the two solved coefficients abstracted by the equations they satisfy -/
theorem persp_corners (x0 y0 x1 y1 x2 y2 x3 y3 g h : K)
    (e1 : g * (x1 - x2) + h * (x3 - x2) = x0 - x1 + x2 - x3)
    (e2 : g * (y1 - y2) + h * (y3 - y2) = y0 - y1 + y2 - y3)
    (S : PT K)
    (hS : S = ⟨x1 - x0 + g * x1, x3 - x0 + h * x3, x0, y1 - y0 + g * y1, y3 - y0 + h * y3, y0, g, h, 1⟩)
    (h10 : S.denom 1 0 ≠ 0) (h11 : S.denom 1 1 ≠ 0) (h01 : S.denom 0 1 ≠ 0) :
    S.apply 0 0 = (x0, y0) ∧ S.apply 1 0 = (x1, y1) ∧ S.apply 1 1 = (x2, y2) ∧ S.apply 0 1 = (x3, y3) := by
  subst hS
  simp only [PT.denom, PT.apply] at *
  refine ⟨?_, ?_, ?_, ?_⟩
  · refine Prod.ext ?_ ?_ <;> simp
  · refine Prod.ext ?_ ?_ <;> simp only <;> rw [div_eq_iff h10] <;> ring
  · refine Prod.ext ?_ ?_ <;> simp only <;> rw [div_eq_iff h11]
    · linear_combination e1
    · linear_combination e2
  · refine Prod.ext ?_ ?_ <;> simp only <;> rw [div_eq_iff h01] <;> ring

/-- Cramer's rule for the two coefficients `a13`, `a23` the non-affine branch solves for -/
theorem cramer (dx1 dx2 dy1 dy2 dx3 dy3 D : K) (hdef : D = dx1 * dy2 - dx2 * dy1) (hD : D ≠ 0) :
    (dx3 * dy2 - dx2 * dy3) / D * dx1 + (dx1 * dy3 - dx3 * dy1) / D * dx2 = dx3 ∧
    (dx3 * dy2 - dx2 * dy3) / D * dy1 + (dx1 * dy3 - dx3 * dy1) / D * dy2 = dy3 := by
  constructor
  · rw [div_mul_eq_mul_div, div_mul_eq_mul_div, ← add_div, div_eq_iff hD, hdef]; ring
  · rw [div_mul_eq_mul_div, div_mul_eq_mul_div, ← add_div, div_eq_iff hD, hdef]; ring

/-- `SquareToQuadrilateral(x0,y0,…,x3,y3)` maps (0,0),(1,0),(1,1),(0,1) onto the four given points,
    provided no division by zero happens: `sqDegenerate = false` (the non-affine branch does not divide
    by zero) and the denominators at the three other corners do not vanish (at (0,0) it is 1). -/
theorem squareToQuad_corners (x0 y0 x1 y1 x2 y2 x3 y3 : K)
    (hdeg : sqDegenerate x0 y0 x1 y1 x2 y2 x3 y3 = false)
    (h10 : (squareToQuadrilateral x0 y0 x1 y1 x2 y2 x3 y3).denom 1 0 ≠ 0)
    (h11 : (squareToQuadrilateral x0 y0 x1 y1 x2 y2 x3 y3).denom 1 1 ≠ 0)
    (h01 : (squareToQuadrilateral x0 y0 x1 y1 x2 y2 x3 y3).denom 0 1 ≠ 0) :
    (squareToQuadrilateral x0 y0 x1 y1 x2 y2 x3 y3).apply 0 0 = (x0, y0) ∧
    (squareToQuadrilateral x0 y0 x1 y1 x2 y2 x3 y3).apply 1 0 = (x1, y1) ∧
    (squareToQuadrilateral x0 y0 x1 y1 x2 y2 x3 y3).apply 1 1 = (x2, y2) ∧
    (squareToQuadrilateral x0 y0 x1 y1 x2 y2 x3 y3).apply 0 1 = (x3, y3) := by
  by_cases haff : x0 - x1 + x2 - x3 = 0 ∧ y0 - y1 + y2 - y3 = 0
  · have hx : x3 = x0 - x1 + x2 := by linear_combination (-1 : K) * haff.1
    have hy : y3 = y0 - y1 + y2 := by linear_combination (-1 : K) * haff.2
    simp only [squareToQuadrilateral, haff, and_self, if_true, PT.apply, PT.denom]
    refine ⟨?_, ?_, ?_, ?_⟩ <;> refine Prod.ext ?_ ?_ <;> simp [hx, hy] <;> ring
  · have hden : sqDenominator x1 y1 x2 y2 x3 y3 ≠ 0 := by
      simpa [sqDegenerate, haff] using hdeg
    have hden' : (x1 - x2) * (y3 - y2) - (x3 - x2) * (y1 - y2) ≠ 0 := hden
    refine persp_corners x0 y0 x1 y1 x2 y2 x3 y3
      (((x0 - x1 + x2 - x3) * (y3 - y2) - (x3 - x2) * (y0 - y1 + y2 - y3)) / ((x1 - x2) * (y3 - y2) - (x3 - x2) * (y1 - y2)))
      (((x1 - x2) * (y0 - y1 + y2 - y3) - (x0 - x1 + x2 - x3) * (y1 - y2)) / ((x1 - x2) * (y3 - y2) - (x3 - x2) * (y1 - y2)))
      ?_ ?_ _ ?_ h10 h11 h01
    · exact (cramer (x1 - x2) (x3 - x2) (y1 - y2) (y3 - y2) (x0 - x1 + x2 - x3) (y0 - y1 + y2 - y3) _ rfl hden').1
    · exact (cramer (x1 - x2) (x3 - x2) (y1 - y2) (y3 - y2) (x0 - x1 + x2 - x3) (y0 - y1 + y2 - y3) _ rfl hden').2
    · simp only [squareToQuadrilateral, haff, if_false]

/-- non-degeneracy of a quadrilateral as far as `SquareToQuadrilateral` is concerned: no division by
    zero in the construction and finite images of the four corners of the unit square -/
structure Nondeg (x0 y0 x1 y1 x2 y2 x3 y3 : K) : Prop where
  hdeg : sqDegenerate x0 y0 x1 y1 x2 y2 x3 y3 = false
  h10 : (squareToQuadrilateral x0 y0 x1 y1 x2 y2 x3 y3).denom 1 0 ≠ 0
  h11 : (squareToQuadrilateral x0 y0 x1 y1 x2 y2 x3 y3).denom 1 1 ≠ 0
  h01 : (squareToQuadrilateral x0 y0 x1 y1 x2 y2 x3 y3).denom 0 1 ≠ 0

theorem squareToQuad_denom00 (x0 y0 x1 y1 x2 y2 x3 y3 : K) :
    (squareToQuadrilateral x0 y0 x1 y1 x2 y2 x3 y3).denom 0 0 = 1 := by
  simp only [squareToQuadrilateral, PT.denom]
  split <;> simp

/-! ## quadrilateral → square, quadrilateral → quadrilateral -/

/-- one corner through `S'.times(S.buildAdjoint)` -/
theorem q2q_corner (S S' : PT K) (cx cy : K) (p p' : K × K) (hdet : S.det ≠ 0)
    (hd : S.denom cx cy ≠ 0) (hp : S.apply cx cy = p) (hp' : S'.apply cx cy = p') :
    (S'.times S.buildAdjoint).apply p.1 p.2 = p' ∧
    (S'.times S.buildAdjoint).denom p.1 p.2 = S'.denom cx cy * (S.det / S.denom cx cy) := by
  subst hp hp'
  have hq : S.buildAdjoint.denom (S.apply cx cy).1 (S.apply cx cy).2 ≠ 0 := by
    rw [adjoint_denom S cx cy hd]; exact div_ne_zero hdet hd
  constructor
  · rw [times_is_composition _ _ _ _ hq, adjoint_inverts S cx cy hdet hd]
  · rw [times_denom _ _ _ _ hq, adjoint_inverts S cx cy hdet hd, adjoint_denom S cx cy hd]

/-- `QuadrilateralToSquare` maps the four given points onto (0,0),(1,0),(1,1),(0,1) — "the adjoint
    serves as the inverse" — for a non-degenerate quadrilateral whose coefficient matrix is invertible. -/
theorem quadToSquare_corners (x0 y0 x1 y1 x2 y2 x3 y3 : K) (hn : Nondeg x0 y0 x1 y1 x2 y2 x3 y3)
    (hdet : (squareToQuadrilateral x0 y0 x1 y1 x2 y2 x3 y3).det ≠ 0) :
    (quadrilateralToSquare x0 y0 x1 y1 x2 y2 x3 y3).apply x0 y0 = (0, 0) ∧
    (quadrilateralToSquare x0 y0 x1 y1 x2 y2 x3 y3).apply x1 y1 = (1, 0) ∧
    (quadrilateralToSquare x0 y0 x1 y1 x2 y2 x3 y3).apply x2 y2 = (1, 1) ∧
    (quadrilateralToSquare x0 y0 x1 y1 x2 y2 x3 y3).apply x3 y3 = (0, 1) := by
  obtain ⟨c00, c10, c11, c01⟩ := squareToQuad_corners x0 y0 x1 y1 x2 y2 x3 y3 hn.hdeg hn.h10 hn.h11 hn.h01
  have h00 : (squareToQuadrilateral x0 y0 x1 y1 x2 y2 x3 y3).denom 0 0 ≠ 0 := by
    rw [squareToQuad_denom00]; exact one_ne_zero
  unfold quadrilateralToSquare
  refine ⟨?_, ?_, ?_, ?_⟩
  · have := adjoint_inverts _ 0 0 hdet h00; rwa [c00] at this
  · have := adjoint_inverts _ 1 0 hdet hn.h10; rwa [c10] at this
  · have := adjoint_inverts _ 1 1 hdet hn.h11; rwa [c11] at this
  · have := adjoint_inverts _ 0 1 hdet hn.h01; rwa [c01] at this

/-- "The transform built from four source and four destination points maps each source point onto its
    destination": `QuadrilateralToQuadrilateral(src…, dst…)` sends (xi,yi) to (xi',yi'), i = 0..3, for
    non-degenerate quadrilaterals (source matrix invertible). -/
theorem quadToQuad_maps_corners (x0 y0 x1 y1 x2 y2 x3 y3 x0p y0p x1p y1p x2p y2p x3p y3p : K)
    (hs : Nondeg x0 y0 x1 y1 x2 y2 x3 y3)
    (hdet : (squareToQuadrilateral x0 y0 x1 y1 x2 y2 x3 y3).det ≠ 0)
    (hd : Nondeg x0p y0p x1p y1p x2p y2p x3p y3p) :
    let T := quadrilateralToQuadrilateral x0 y0 x1 y1 x2 y2 x3 y3 x0p y0p x1p y1p x2p y2p x3p y3p
    T.apply x0 y0 = (x0p, y0p) ∧ T.apply x1 y1 = (x1p, y1p) ∧
    T.apply x2 y2 = (x2p, y2p) ∧ T.apply x3 y3 = (x3p, y3p) := by
  obtain ⟨c00, c10, c11, c01⟩ := squareToQuad_corners x0 y0 x1 y1 x2 y2 x3 y3 hs.hdeg hs.h10 hs.h11 hs.h01
  obtain ⟨d00, d10, d11, d01⟩ := squareToQuad_corners x0p y0p x1p y1p x2p y2p x3p y3p hd.hdeg hd.h10 hd.h11 hd.h01
  have h00 : (squareToQuadrilateral x0 y0 x1 y1 x2 y2 x3 y3).denom 0 0 ≠ 0 := by
    rw [squareToQuad_denom00]; exact one_ne_zero
  simp only [quadrilateralToQuadrilateral, quadrilateralToSquare]
  exact ⟨(q2q_corner _ _ 0 0 _ _ hdet h00 c00 d00).1, (q2q_corner _ _ 1 0 _ _ hdet hs.h10 c10 d10).1,
    (q2q_corner _ _ 1 1 _ _ hdet hs.h11 c11 d11).1, (q2q_corner _ _ 0 1 _ _ hdet hs.h01 c01 d01).1⟩

/-! ## uniqueness -/

def scale (c : K) (p : PT K) : PT K :=
  ⟨c * p.a11, c * p.a21, c * p.a31, c * p.a12, c * p.a22, c * p.a32, c * p.a13, c * p.a23, c * p.a33⟩

/-- proportional coefficient matrices are the same map -/
theorem scale_apply (c : K) (hc : c ≠ 0) (p : PT K) (x y : K) : (scale c p).apply x y = p.apply x y := by
  simp only [scale, PT.apply, PT.denom]
  have h1 : c * p.a11 * x + c * p.a21 * y + c * p.a31 = c * (p.a11 * x + p.a21 * y + p.a31) := by ring
  have h2 : c * p.a12 * x + c * p.a22 * y + c * p.a32 = c * (p.a12 * x + p.a22 * y + p.a32) := by ring
  have h3 : c * p.a13 * x + c * p.a23 * y + c * p.a33 = c * (p.a13 * x + p.a23 * y + p.a33) := by ring
  rw [h1, h2, h3, mul_div_mul_left _ _ hc, mul_div_mul_left _ _ hc]

theorem times_assoc (a b c : PT K) : (a.times b).times c = a.times (b.times c) := by
  simp only [PT.times, PT.mk.injEq]
  refine ⟨?_, ?_, ?_, ?_, ?_, ?_, ?_, ?_, ?_⟩ <;> ring

theorem diag_times (d : K) (p : PT K) : (⟨d, 0, 0, 0, d, 0, 0, 0, d⟩ : PT K).times p = scale d p := by
  simp only [PT.times, scale, PT.mk.injEq]
  refine ⟨?_, ?_, ?_, ?_, ?_, ?_, ?_, ?_, ?_⟩ <;> ring

theorem times_diag (d : K) (p : PT K) : p.times (⟨d, 0, 0, 0, d, 0, 0, 0, d⟩ : PT K) = scale d p := by
  simp only [PT.times, scale, PT.mk.injEq]
  refine ⟨?_, ?_, ?_, ?_, ?_, ?_, ?_, ?_, ?_⟩ <;> ring

theorem times_scale (d : K) (a b : PT K) : a.times (scale d b) = scale d (a.times b) := by
  simp only [PT.times, scale, PT.mk.injEq]
  refine ⟨?_, ?_, ?_, ?_, ?_, ?_, ?_, ?_, ?_⟩ <;> ring

theorem scale_scale (c d : K) (p : PT K) : scale c (scale d p) = scale (c * d) p := by
  simp only [scale, PT.mk.injEq]
  refine ⟨?_, ?_, ?_, ?_, ?_, ?_, ?_, ?_, ?_⟩ <;> ring

/-- a transform that fixes the four corners of the unit square (finite images) is a multiple of the identity -/
theorem unit_square_fixed (N : PT K)
    (h00 : N.denom 0 0 ≠ 0) (h10 : N.denom 1 0 ≠ 0) (h11 : N.denom 1 1 ≠ 0) (h01 : N.denom 0 1 ≠ 0)
    (f00 : N.apply 0 0 = (0, 0)) (f10 : N.apply 1 0 = (1, 0)) (f11 : N.apply 1 1 = (1, 1))
    (f01 : N.apply 0 1 = (0, 1)) :
    N = ⟨N.a33, 0, 0, 0, N.a33, 0, 0, 0, N.a33⟩ ∧ N.a33 ≠ 0 := by
  simp only [PT.apply, Prod.mk.injEq] at f00 f10 f11 f01
  rw [div_eq_iff h00, div_eq_iff h00] at f00
  rw [div_eq_iff h10, div_eq_iff h10] at f10
  rw [div_eq_iff h11, div_eq_iff h11] at f11
  rw [div_eq_iff h01, div_eq_iff h01] at f01
  simp only [PT.denom] at *
  obtain ⟨a1, a2⟩ := f00
  obtain ⟨b1, b2⟩ := f10
  obtain ⟨c1, c2⟩ := f11
  obtain ⟨d1, d2⟩ := f01
  have e31 : N.a31 = 0 := by linear_combination a1
  have e32 : N.a32 = 0 := by linear_combination a2
  have e12 : N.a12 = 0 := by linear_combination b2 - a2
  have e21 : N.a21 = 0 := by linear_combination d1 - a1
  have e23 : N.a23 = 0 := by linear_combination b1 + d1 - a1 - c1
  have e13 : N.a13 = 0 := by linear_combination d2 + b2 - a2 - c2
  have e11 : N.a11 = N.a33 := by linear_combination b1 - a1 + e13
  have e22 : N.a22 = N.a33 := by linear_combination d2 - a2 + e23
  refine ⟨?_, ?_⟩
  · cases N
    simp only [PT.mk.injEq] at *
    exact ⟨e11, e21, e31, e12, e22, e32, e13, e23, trivial⟩
  · intro h0
    apply h00
    rw [h0]; ring

/-- "…and agrees everywhere with the unique projective map through them": ANY coefficient matrix `M`
    whose transform sends the four source points onto the four destination points (finite images) is a
    non-zero multiple of the matrix `QuadrilateralToQuadrilateral` builds, hence computes the same
    point for every (x, y). -/
theorem quadToQuad_unique (x0 y0 x1 y1 x2 y2 x3 y3 x0p y0p x1p y1p x2p y2p x3p y3p : K)
    (hs : Nondeg x0 y0 x1 y1 x2 y2 x3 y3)
    (hdet : (squareToQuadrilateral x0 y0 x1 y1 x2 y2 x3 y3).det ≠ 0)
    (hd : Nondeg x0p y0p x1p y1p x2p y2p x3p y3p)
    (hdetp : (squareToQuadrilateral x0p y0p x1p y1p x2p y2p x3p y3p).det ≠ 0)
    (M : PT K)
    (m0 : M.denom x0 y0 ≠ 0) (m1 : M.denom x1 y1 ≠ 0) (m2 : M.denom x2 y2 ≠ 0) (m3 : M.denom x3 y3 ≠ 0)
    (g0 : M.apply x0 y0 = (x0p, y0p)) (g1 : M.apply x1 y1 = (x1p, y1p))
    (g2 : M.apply x2 y2 = (x2p, y2p)) (g3 : M.apply x3 y3 = (x3p, y3p)) :
    let T := quadrilateralToQuadrilateral x0 y0 x1 y1 x2 y2 x3 y3 x0p y0p x1p y1p x2p y2p x3p y3p
    (∃ c : K, c ≠ 0 ∧ M = scale c T) ∧ ∀ x y : K, M.apply x y = T.apply x y := by
  intro T
  -- S, S' : the two square→quadrilateral matrices
  generalize hS : squareToQuadrilateral x0 y0 x1 y1 x2 y2 x3 y3 = S at *
  generalize hS' : squareToQuadrilateral x0p y0p x1p y1p x2p y2p x3p y3p = S' at *
  have hT : T = S'.times S.buildAdjoint := by
    simp only [T, quadrilateralToQuadrilateral, quadrilateralToSquare, hS, hS']
  obtain ⟨c00, c10, c11, c01⟩ := by
    have := squareToQuad_corners x0 y0 x1 y1 x2 y2 x3 y3 hs.hdeg hs.h10 hs.h11 hs.h01
    rwa [hS] at this
  obtain ⟨d00, d10, d11, d01⟩ := by
    have := squareToQuad_corners x0p y0p x1p y1p x2p y2p x3p y3p hd.hdeg hd.h10 hd.h11 hd.h01
    rwa [hS'] at this
  have s00 : S.denom 0 0 ≠ 0 := by rw [← hS, squareToQuad_denom00]; exact one_ne_zero
  have s00' : S'.denom 0 0 ≠ 0 := by rw [← hS', squareToQuad_denom00]; exact one_ne_zero
  have s10 := hs.h10; have s11 := hs.h11; have s01 := hs.h01
  have s10' := hd.h10; have s11' := hd.h11; have s01' := hd.h01
  rw [hS] at s10 s11 s01
  rw [hS'] at s10' s11' s01'
  -- N := adj S' · M · S fixes the unit square
  have corner : ∀ (cx cy : K) (p p' : K × K), S.denom cx cy ≠ 0 → S'.denom cx cy ≠ 0 →
      S.apply cx cy = p → S'.apply cx cy = p' → M.denom p.1 p.2 ≠ 0 → M.apply p.1 p.2 = p' →
      (S'.buildAdjoint.times (M.times S)).denom cx cy ≠ 0 ∧
      (S'.buildAdjoint.times (M.times S)).apply cx cy = (cx, cy) := by
    intro cx cy p p' hsd hsd' hp hp' hm hmp
    subst hp
    have e1 : (M.times S).denom cx cy ≠ 0 := by
      rw [times_denom _ _ _ _ hsd]; exact mul_ne_zero hm hsd
    have e2 : (M.times S).apply cx cy = p' := by
      rw [times_is_composition _ _ _ _ hsd]; exact hmp
    have e3 : S'.buildAdjoint.denom p'.1 p'.2 ≠ 0 := by
      rw [← hp', adjoint_denom S' cx cy hsd']; exact div_ne_zero hdetp hsd'
    constructor
    · rw [times_denom _ _ _ _ e1, e2]; exact mul_ne_zero e3 e1
    · rw [times_is_composition _ _ _ _ e1, e2, ← hp', adjoint_inverts S' cx cy hdetp hsd']
  obtain ⟨n00, f00⟩ := corner 0 0 _ _ s00 s00' c00 d00 m0 g0
  obtain ⟨n10, f10⟩ := corner 1 0 _ _ s10 s10' c10 d10 m1 g1
  obtain ⟨n11, f11⟩ := corner 1 1 _ _ s11 s11' c11 d11 m2 g2
  obtain ⟨n01, f01⟩ := corner 0 1 _ _ s01 s01' c01 d01 m3 g3
  obtain ⟨hN, hk⟩ := unit_square_fixed _ n00 n10 n11 n01 f00 f10 f11 f01
  generalize (S'.buildAdjoint.times (M.times S)).a33 = k at hN hk
  -- S' · N · adj S  computed in two ways
  have key : scale (S'.det * S.det) M = scale k T := by
    have lhs : S'.times ((S'.buildAdjoint.times (M.times S)).times S.buildAdjoint) = scale (S'.det * S.det) M := by
      rw [times_assoc, times_assoc, (adjoint_is_projective_inverse S).1, times_diag, times_scale,
        times_scale, ← times_assoc, (adjoint_is_projective_inverse S').1, diag_times, scale_scale, mul_comm]
    rw [← lhs, hN, diag_times, times_scale, hT]
  have hdd : S'.det * S.det ≠ 0 := mul_ne_zero hdetp hdet
  have hM : M = scale (k / (S'.det * S.det)) T := by
    have : scale (S'.det * S.det)⁻¹ (scale (S'.det * S.det) M) = scale (S'.det * S.det)⁻¹ (scale k T) := by
      rw [key]
    rw [scale_scale, scale_scale, inv_mul_cancel₀ hdd] at this
    have one : scale 1 M = M := by
      cases M; simp [scale]
    rw [one] at this
    rw [this]; congr 1; rw [div_eq_inv_mul]
  have hc : k / (S'.det * S.det) ≠ 0 := div_ne_zero hk hdd
  refine ⟨⟨_, hc, hM⟩, ?_⟩
  intro x y
  rw [hM, scale_apply _ hc]

/-! ## non-vacuity over ℚ -/

/-- a perspective quadrilateral (0,0),(4,0),(3,3),(0,2): not a parallelogram, all hypotheses hold -/
example : Nondeg (0 : ℚ) 0 4 0 3 3 0 2 ∧ (squareToQuadrilateral (0 : ℚ) 0 4 0 3 3 0 2).det ≠ 0 := by
  refine ⟨⟨?_, ?_, ?_, ?_⟩, ?_⟩ <;> simp [sqDegenerate, sqDenominator, squareToQuadrilateral, PT.denom, PT.det] <;> norm_num

/-- an affine one (parallelogram) -/
example : Nondeg (1 : ℚ) 1 5 2 6 5 2 4 ∧ (squareToQuadrilateral (1 : ℚ) 1 5 2 6 5 2 4).det ≠ 0 := by
  refine ⟨⟨?_, ?_, ?_, ?_⟩, ?_⟩ <;> simp [sqDegenerate, sqDenominator, squareToQuadrilateral, PT.denom, PT.det] <;> norm_num

end GzxM.Perspective
